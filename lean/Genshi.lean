import Genshi.Gen.AstGen
import Genshi.Gen.Astgrammar
import Genshi.Gen.Directives
import Genshi.Gen.Entities
import Genshi.Gen.Exec
import Genshi.Gen.ExecShape
import Genshi.Gen.Heap
import Genshi.Gen.I18n
import Genshi.Gen.Incl
import Genshi.Gen.Loader
import Genshi.Gen.MarkupRe
import Genshi.Gen.MatchHints
import Genshi.Gen.Output
import Genshi.Gen.OutputExtra
import Genshi.Gen.Parse
import Genshi.Gen.Path
import Genshi.Gen.SanClass
import Genshi.Gen.Sanitizer
import Genshi.Gen.Subst
import Genshi.Gen.TextScan
import Genshi.Gen.Xml
import Genshi.Lemmas.Conc
import Genshi.Lemmas.ConcInv
import Genshi.Lemmas.ConcLoad
import Genshi.Lemmas.ConcNested
import Genshi.Lemmas.ConcSerial
import Genshi.Lemmas.Core
import Genshi.Lemmas.Escape
import Genshi.Lemmas.Exec
import Genshi.Lemmas.ExecGraph
import Genshi.Lemmas.ExecLru
import Genshi.Lemmas.ExecMemo
import Genshi.Lemmas.ExecParse
import Genshi.Lemmas.ExecRaise
import Genshi.Lemmas.ExecRender
import Genshi.Lemmas.ExecRoot
import Genshi.Lemmas.ExecShape
import Genshi.Lemmas.Heap
import Genshi.Lemmas.HeapWorld
import Genshi.Lemmas.I18n
import Genshi.Lemmas.I18nAppend
import Genshi.Lemmas.I18nBuf
import Genshi.Lemmas.I18nChoose
import Genshi.Lemmas.I18nChooseIdentity
import Genshi.Lemmas.I18nChooseLookup
import Genshi.Lemmas.I18nCode
import Genshi.Lemmas.I18nForest
import Genshi.Lemmas.I18nIdentity
import Genshi.Lemmas.I18nLookups
import Genshi.Lemmas.I18nLookups3
import Genshi.Lemmas.I18nMsg
import Genshi.Lemmas.I18nMsgLookup
import Genshi.Lemmas.I18nParse
import Genshi.Lemmas.I18nPassEq
import Genshi.Lemmas.I18nPassReorder
import Genshi.Lemmas.I18nPassSkip
import Genshi.Lemmas.I18nPyExpr
import Genshi.Lemmas.I18nPyStream
import Genshi.Lemmas.I18nRun
import Genshi.Lemmas.I18nRunSub
import Genshi.Lemmas.I18nStarts
import Genshi.Lemmas.I18nTree
import Genshi.Lemmas.I18nTrim
import Genshi.Lemmas.I18nYield
import Genshi.Lemmas.Incl
import Genshi.Lemmas.InclBase
import Genshi.Lemmas.InclErase
import Genshi.Lemmas.InclFuel
import Genshi.Lemmas.InclGrow
import Genshi.Lemmas.InclGuard
import Genshi.Lemmas.InclIll
import Genshi.Lemmas.InclPrep
import Genshi.Lemmas.InclPrepCases
import Genshi.Lemmas.InclSeq
import Genshi.Lemmas.InclSpec
import Genshi.Lemmas.InclSpecZ
import Genshi.Lemmas.ListBasics
import Genshi.Lemmas.Loader
import Genshi.Lemmas.LoaderInv
import Genshi.Lemmas.LoaderLru
import Genshi.Lemmas.LoaderPath
import Genshi.Lemmas.LoaderRace
import Genshi.Lemmas.LockOrder
import Genshi.Lemmas.Lru
import Genshi.Lemmas.LruAbs
import Genshi.Lemmas.LruCheck
import Genshi.Lemmas.LruTime
import Genshi.Lemmas.MarkupFmt
import Genshi.Lemmas.MarkupOps
import Genshi.Lemmas.Match
import Genshi.Lemmas.MatchAuto
import Genshi.Lemmas.MatchChain
import Genshi.Lemmas.MatchChainOnce
import Genshi.Lemmas.MatchEquiv
import Genshi.Lemmas.MatchIdentity
import Genshi.Lemmas.MatchIns
import Genshi.Lemmas.MatchLate
import Genshi.Lemmas.MatchLateHints
import Genshi.Lemmas.MatchMarks
import Genshi.Lemmas.MatchNest
import Genshi.Lemmas.MatchOnce
import Genshi.Lemmas.MatchOnceTree
import Genshi.Lemmas.MatchOnceXp
import Genshi.Lemmas.MatchPath
import Genshi.Lemmas.MatchPipe
import Genshi.Lemmas.MatchPipeline
import Genshi.Lemmas.MatchPipeline2
import Genshi.Lemmas.MatchPoint
import Genshi.Lemmas.MatchReal
import Genshi.Lemmas.MatchRealOnce
import Genshi.Lemmas.MatchRealSpec
import Genshi.Lemmas.MatchRun
import Genshi.Lemmas.MatchSelect
import Genshi.Lemmas.MatchSelectTree
import Genshi.Lemmas.MatchSim
import Genshi.Lemmas.MatchSpec
import Genshi.Lemmas.MatchSplice
import Genshi.Lemmas.MatchSplit
import Genshi.Lemmas.MatchSync
import Genshi.Lemmas.MatchTotal
import Genshi.Lemmas.MatchXp
import Genshi.Lemmas.MatchXpInst
import Genshi.Lemmas.Output
import Genshi.Lemmas.OutputFlatPipeline
import Genshi.Lemmas.OutputFlatten
import Genshi.Lemmas.OutputFlattenCacheA
import Genshi.Lemmas.OutputFlattenCacheB
import Genshi.Lemmas.OutputFlattenCacheC
import Genshi.Lemmas.OutputFlattenLiteFull
import Genshi.Lemmas.OutputFlattenStep
import Genshi.Lemmas.OutputForest
import Genshi.Lemmas.OutputMarkupAttr
import Genshi.Lemmas.OutputMarkupForest
import Genshi.Lemmas.OutputNoCR
import Genshi.Lemmas.OutputSafeText
import Genshi.Lemmas.OutputTree
import Genshi.Lemmas.OutputWs
import Genshi.Lemmas.OutputWsDoctype
import Genshi.Lemmas.OutputWsForest
import Genshi.Lemmas.OutputWsGlobal
import Genshi.Lemmas.OutputWsNorm
import Genshi.Lemmas.OutputWsRender
import Genshi.Lemmas.OutputWsSpec
import Genshi.Lemmas.Parse
import Genshi.Lemmas.ParseContent
import Genshi.Lemmas.ParseEnv
import Genshi.Lemmas.ParseHtml
import Genshi.Lemmas.ParsePi
import Genshi.Lemmas.ParsePos
import Genshi.Lemmas.ParseSplit
import Genshi.Lemmas.ParseTree
import Genshi.Lemmas.ParseXml
import Genshi.Lemmas.PathAbstract
import Genshi.Lemmas.PathAgree
import Genshi.Lemmas.PathAttr
import Genshi.Lemmas.PathCall
import Genshi.Lemmas.PathChain
import Genshi.Lemmas.PathChildPath
import Genshi.Lemmas.PathEval
import Genshi.Lemmas.PathFilter
import Genshi.Lemmas.PathFrags
import Genshi.Lemmas.PathFragsAttr
import Genshi.Lemmas.PathFragsPath
import Genshi.Lemmas.PathFragsRef
import Genshi.Lemmas.PathFragsSelf
import Genshi.Lemmas.PathGeneric
import Genshi.Lemmas.PathKmp
import Genshi.Lemmas.PathKmpRun
import Genshi.Lemmas.PathKmpStep
import Genshi.Lemmas.PathNonPos
import Genshi.Lemmas.PathParseChain
import Genshi.Lemmas.PathParseSteps
import Genshi.Lemmas.PathPrintAbbr
import Genshi.Lemmas.PathPrintCore
import Genshi.Lemmas.PathPrintExpr
import Genshi.Lemmas.PathPrintNumeral
import Genshi.Lemmas.PathPrintPath
import Genshi.Lemmas.PathPrintPrim
import Genshi.Lemmas.PathPrintTok
import Genshi.Lemmas.PathReach
import Genshi.Lemmas.PathSelect
import Genshi.Lemmas.PathSimple
import Genshi.Lemmas.PathSimpleAttr
import Genshi.Lemmas.PathSingle
import Genshi.Lemmas.PathSingleXp
import Genshi.Lemmas.PathSpelling
import Genshi.Lemmas.PathStream
import Genshi.Lemmas.PathTokFast
import Genshi.Lemmas.PathTokStep
import Genshi.Lemmas.PathTreeRun
import Genshi.Lemmas.PathUnion
import Genshi.Lemmas.PathXp
import Genshi.Lemmas.PyEval
import Genshi.Lemmas.PyEvalC
import Genshi.Lemmas.PyGen
import Genshi.Lemmas.PyGenOk
import Genshi.Lemmas.PyLayout
import Genshi.Lemmas.PyLayoutAgree
import Genshi.Lemmas.PyLayoutLines
import Genshi.Lemmas.PyLayoutText
import Genshi.Lemmas.PyLeaves
import Genshi.Lemmas.PyLeavesWF
import Genshi.Lemmas.PyLex
import Genshi.Lemmas.PyParseComp
import Genshi.Lemmas.PyParseLambda
import Genshi.Lemmas.PyParseLoops
import Genshi.Lemmas.PyParseMain
import Genshi.Lemmas.PyParseNodes
import Genshi.Lemmas.PyParseS2
import Genshi.Lemmas.PyParseS3
import Genshi.Lemmas.PyParseS5
import Genshi.Lemmas.PyParseSeq
import Genshi.Lemmas.PyParseWF
import Genshi.Lemmas.PyStmtDecide
import Genshi.Lemmas.PyStmtSim
import Genshi.Lemmas.PyStmtSpec
import Genshi.Lemmas.PyStmtUnxf
import Genshi.Lemmas.PyStmtWF
import Genshi.Lemmas.PySupported
import Genshi.Lemmas.PyUnxf
import Genshi.Lemmas.PyXform
import Genshi.Lemmas.PyXformLam
import Genshi.Lemmas.PyXformUnxf
import Genshi.Lemmas.PyXformWF
import Genshi.Lemmas.Reader
import Genshi.Lemmas.ReaderDoc
import Genshi.Lemmas.ReaderDocTop
import Genshi.Lemmas.ReaderDocView
import Genshi.Lemmas.ReaderHtml
import Genshi.Lemmas.ReaderLiterals
import Genshi.Lemmas.ReaderProlog
import Genshi.Lemmas.ReaderPrologSim
import Genshi.Lemmas.ReaderTree
import Genshi.Lemmas.ReaderTreeMixed
import Genshi.Lemmas.ReaderTreeNs
import Genshi.Lemmas.ReaderXhtml
import Genshi.Lemmas.ReaderXhtmlCdata
import Genshi.Lemmas.ReaderXmlView
import Genshi.Lemmas.ReaderXmlViewMixed
import Genshi.Lemmas.SanCssComments
import Genshi.Lemmas.SanCssSafe
import Genshi.Lemmas.SanCssStable
import Genshi.Lemmas.SanCssUrl
import Genshi.Lemmas.SanFilter
import Genshi.Lemmas.SanFuel
import Genshi.Lemmas.SanLayer
import Genshi.Lemmas.SanReaderDoctype
import Genshi.Lemmas.SanReparse
import Genshi.Lemmas.SanReparseProlog
import Genshi.Lemmas.SanReparsePrologX
import Genshi.Lemmas.SanRoundtrip
import Genshi.Lemmas.SanRules
import Genshi.Lemmas.SanTotal
import Genshi.Lemmas.SanTree
import Genshi.Lemmas.SanUri
import Genshi.Lemmas.StrStrip
import Genshi.Lemmas.Subst
import Genshi.Lemmas.SubstAttrs
import Genshi.Lemmas.SubstCache
import Genshi.Lemmas.SubstFmt
import Genshi.Lemmas.SubstMod
import Genshi.Lemmas.SubstNest
import Genshi.Lemmas.SubstNonInt
import Genshi.Lemmas.SubstRaw
import Genshi.Lemmas.SubstRead
import Genshi.Lemmas.SubstSer
import Genshi.Lemmas.SubstSkel
import Genshi.Lemmas.SubstSplice
import Genshi.Lemmas.SubstSpliceWs
import Genshi.Lemmas.SubstStrip
import Genshi.Lemmas.SubstTmpl
import Genshi.Lemmas.SubstTree
import Genshi.Lemmas.SubstWs
import Genshi.Lemmas.Tf
import Genshi.Lemmas.TfBuf
import Genshi.Lemmas.TfBufBal
import Genshi.Lemmas.TfChains
import Genshi.Lemmas.TfCut
import Genshi.Lemmas.TfDerive
import Genshi.Lemmas.TfDirty
import Genshi.Lemmas.TfFill
import Genshi.Lemmas.TfFillSpec
import Genshi.Lemmas.TfFilter
import Genshi.Lemmas.TfGood
import Genshi.Lemmas.TfLazy
import Genshi.Lemmas.TfLazyAgree
import Genshi.Lemmas.TfLazyFp
import Genshi.Lemmas.TfLazyOps
import Genshi.Lemmas.TfLazyPipe
import Genshi.Lemmas.TfLink
import Genshi.Lemmas.TfOps
import Genshi.Lemmas.TfOther
import Genshi.Lemmas.TfRunL
import Genshi.Lemmas.TfSegs
import Genshi.Lemmas.TfSegs2
import Genshi.Lemmas.TfSelect
import Genshi.Lemmas.TfSerial
import Genshi.Lemmas.TfSerialNs
import Genshi.Lemmas.TfTrace
import Genshi.Lemmas.TfTraceDefs
import Genshi.Lemmas.TfTraceGen
import Genshi.Lemmas.TfTraceInj
import Genshi.Lemmas.TfTraceInv
import Genshi.Lemmas.TfTraceW
import Genshi.Lemmas.TfVary
import Genshi.Lemmas.TfVaryDefs
import Genshi.Lemmas.TfVaryDirty
import Genshi.Lemmas.Tmpl
import Genshi.Lemmas.TmplDocRules
import Genshi.Lemmas.TmplEquiv
import Genshi.Lemmas.TmplExtract
import Genshi.Lemmas.TmplInv
import Genshi.Lemmas.TmplInvOld
import Genshi.Lemmas.TmplLim
import Genshi.Lemmas.TmplMono
import Genshi.Lemmas.TmplOrder
import Genshi.Lemmas.TmplParam
import Genshi.Lemmas.TmplPrintChars
import Genshi.Lemmas.TmplRawLoop
import Genshi.Lemmas.TmplReadLex
import Genshi.Lemmas.TmplReadToks
import Genshi.Lemmas.TmplResRel
import Genshi.Lemmas.TmplRules
import Genshi.Lemmas.TmplScan
import Genshi.Lemmas.TmplScanD
import Genshi.Lemmas.TmplScanDPrint
import Genshi.Lemmas.TmplScanOld
import Genshi.Lemmas.TmplScanOldRT
import Genshi.Lemmas.TmplScanPrint
import Genshi.Lemmas.TmplScanText
import Genshi.Lemmas.TmplSeg
import Genshi.Lemmas.TmplSim
import Genshi.Lemmas.TmplSimMain
import Genshi.Lemmas.TmplSimRev
import Genshi.Lemmas.TmplText
import Genshi.Lemmas.XmlCheck
import Genshi.Lemmas.XmlEmptyTag
import Genshi.Lemmas.XmlEncode
import Genshi.Lemmas.XmlFlatA
import Genshi.Lemmas.XmlFlatB
import Genshi.Lemmas.XmlFlatC
import Genshi.Lemmas.XmlFlatD
import Genshi.Lemmas.XmlIdem
import Genshi.Lemmas.XmlIdemB
import Genshi.Lemmas.XmlIdemC
import Genshi.Lemmas.XmlIdemD
import Genshi.Lemmas.XmlIdemE
import Genshi.Lemmas.XmlList
import Genshi.Lemmas.XmlMerge
import Genshi.Lemmas.XmlNum
import Genshi.Lemmas.XmlParser
import Genshi.Lemmas.XmlRefs
import Genshi.Lemmas.XmlScope
import Genshi.Lemmas.XmlSource
import Genshi.Lemmas.XmlTokA
import Genshi.Lemmas.XmlTokB
import Genshi.Lemmas.XmlTokC
import Genshi.Lemmas.XmlTokD
import Genshi.Lemmas.XmlTokE
import Genshi.Lemmas.XmlTxtA
import Genshi.Lemmas.XmlTxtB
import Genshi.Model.Conc
import Genshi.Model.ConcLru
import Genshi.Model.ConcNested
import Genshi.Model.Core
import Genshi.Model.Escape
import Genshi.Model.Exec
import Genshi.Model.ExecBase
import Genshi.Model.ExecGraph
import Genshi.Model.ExecLru
import Genshi.Model.ExecMemo
import Genshi.Model.ExecParse
import Genshi.Model.ExecShape
import Genshi.Model.ExecShapeBase
import Genshi.Model.Heap
import Genshi.Model.HeapStep
import Genshi.Model.HeapWorld
import Genshi.Model.I18nChoose
import Genshi.Model.I18nCore
import Genshi.Model.I18nExtract
import Genshi.Model.I18nMsgBuf
import Genshi.Model.I18nPyExpr
import Genshi.Model.I18nPyStream
import Genshi.Model.I18nTranslate
import Genshi.Model.Incl
import Genshi.Model.Loader
import Genshi.Model.LoaderPath
import Genshi.Model.LoaderRace
import Genshi.Model.LockOrder
import Genshi.Model.Lru
import Genshi.Model.MarkupOps
import Genshi.Model.Match
import Genshi.Model.MatchLazy
import Genshi.Model.MatchOnceXp
import Genshi.Model.MatchPath
import Genshi.Model.MatchReal
import Genshi.Model.MatchSpec
import Genshi.Model.Output
import Genshi.Model.OutputFlatPipeline
import Genshi.Model.OutputFlattenCache
import Genshi.Model.OutputFlattenLite
import Genshi.Model.OutputMarkupAttr
import Genshi.Model.OutputPipeline
import Genshi.Model.OutputPipelineFull
import Genshi.Model.OutputWs
import Genshi.Model.OutputWsForest
import Genshi.Model.Parse
import Genshi.Model.ParseEnv
import Genshi.Model.ParseHtml
import Genshi.Model.ParseXml
import Genshi.Model.Path
import Genshi.Model.PathFrags
import Genshi.Model.PathParse
import Genshi.Model.PathPrint
import Genshi.Model.PathRef
import Genshi.Model.PathStrategy
import Genshi.Model.PyAst
import Genshi.Model.PyEval
import Genshi.Model.PyEvalC
import Genshi.Model.PyGen
import Genshi.Model.PyLayout
import Genshi.Model.PyLeaves
import Genshi.Model.PyLex
import Genshi.Model.PyLookupObj
import Genshi.Model.PyParse
import Genshi.Model.PyParseS
import Genshi.Model.PyScope
import Genshi.Model.PyStmtX
import Genshi.Model.PyUnxf
import Genshi.Model.PyXform
import Genshi.Model.Reader
import Genshi.Model.San
import Genshi.Model.SanChars
import Genshi.Model.SanSpec
import Genshi.Model.SanText
import Genshi.Model.Str
import Genshi.Model.Subst
import Genshi.Model.SubstDomain
import Genshi.Model.SubstEmit
import Genshi.Model.SubstFmt
import Genshi.Model.SubstRaw
import Genshi.Model.SubstRead
import Genshi.Model.SubstSpec
import Genshi.Model.Tf
import Genshi.Model.TfFill
import Genshi.Model.TfFillSpec
import Genshi.Model.TfLazy
import Genshi.Model.TfTrace
import Genshi.Model.Tmpl
import Genshi.Model.TmplDoc
import Genshi.Model.TmplExtract
import Genshi.Model.TmplImpl
import Genshi.Model.TmplPrint
import Genshi.Model.TmplRaw
import Genshi.Model.TmplScan
import Genshi.Model.TmplScanD
import Genshi.Model.TmplText
import Genshi.Model.XmlCore
import Genshi.Model.XmlFlatten
import Genshi.Model.XmlParser
import Genshi.Model.XmlReader
import Genshi.Model.XmlSer
import Genshi.Model.XmlSpec
import Genshi.Props.C01
import Genshi.Props.C02
import Genshi.Props.C03
import Genshi.Props.C04
import Genshi.Props.C05
import Genshi.Props.C06
import Genshi.Props.C07
import Genshi.Props.C08
import Genshi.Props.C09
import Genshi.Props.C10
import Genshi.Props.C11
import Genshi.Props.C12
import Genshi.Props.C13
import Genshi.Props.C14
import Genshi.Props.C15
import Genshi.Props.C16
import Genshi.Props.C17
import Genshi.Props.C18
import Genshi.Props.C19
import Genshi.Props.C20
import Genshi.Wire
import Genshi.WireCore
