/-
  C16 — the interleaving model (`Genshi/Model/Conc.lean`): what a step of the critical section can do (`CsKind`) and
  what a step of a thread can be (`StepKind`); along these, the lock invariant `GInv` (mutual exclusion, progress)
  and the linearization invariant `LInv`.  The loader state and its moves are those of `Lemmas/Loader.lean`.
-/
import Genshi.Model.Conc
import Genshi.Lemmas.Loader
namespace Genshi.Conc
open Genshi.Lru Genshi.Loader

theorem searchProbe_found {fs : FS} {fault : Fault} {key : Key} {entries : List Entry} {loc : Loc}
    {f : File} {u : Utd} (h : searchProbe fs fault key entries = some (.found loc f u)) :
    fs loc = some f ∧ (u = .never ∨ u = .mtime loc f.mtime) := by
  induction entries with
  | nil => simp [searchProbe] at h
  | cons e rest ih =>
    unfold searchProbe at h
    cases hp : probe fs fault e key with
    | skip => simp only [hp] at h; exact ih h
    | raise => simp [hp] at h
    | found l f' u' =>
      simp only [hp, Option.some.injEq, Probe.found.injEq] at h
      obtain ⟨rfl, rfl, rfl⟩ := h
      exact ⟨(probe_found hp).2.1, (probe_found hp).2.2 ▸ utdOf_cases e l f'⟩

/-- the decision when the cache does not answer: the walk over the search path -/
def searched (c : CCfg) (q : CReq) : PC :=
  match searchPath c.cfg q.r q.key with
  | none => .done (.err .noSearchPath)
  | some (entries, isabs) =>
    match searchProbe c.fs q.r.fault q.key entries with
    | none => .done (.err .notFound)
    | some .skip => .done (.err .notFound)
    | some .raise => .done (.err .loadFunc)
    | some (.found loc f u) => .found loc f u isabs

theorem decide_eq (c : CCfg) (ls : LState) (q : CReq) (hit : Option Tmpl) :
    decide c ls q hit =
      match served c.cfg c.fs ls q.key hit with
      | some t => .done (.ok t)
      | none => searched c q := rfl

theorem searched_cases (c : CCfg) (q : CReq) :
    (∃ e, searched c q = .done (.err e)) ∨
    (∃ loc f u isabs, searched c q = .found loc f u isabs ∧ c.fs loc = some f ∧
      (u = .never ∨ u = .mtime loc f.mtime)) := by
  unfold searched
  cases searchPath c.cfg q.r q.key with
  | none => exact Or.inl ⟨_, rfl⟩
  | some p =>
    obtain ⟨entries, isabs⟩ := p
    simp only
    cases hpr : searchProbe c.fs q.r.fault q.key entries with
    | none => exact Or.inl ⟨_, rfl⟩
    | some pr =>
      cases pr with
      | skip => exact Or.inl ⟨_, rfl⟩
      | raise => exact Or.inl ⟨_, rfl⟩
      | found loc f u => exact Or.inr ⟨loc, f, u, isabs, rfl, searchProbe_found hpr⟩

theorem decide_cases (c : CCfg) (ls : LState) (q : CReq) (hit : Option Tmpl) :
    (∃ t, hit = some t ∧ (c.cfg.autoReload = false ∨ stillCurrent c.fs ls q.key = true) ∧
      decide c ls q hit = .done (.ok t)) ∨
    (∃ e, decide c ls q hit = .done (.err e)) ∨
    (∃ loc f u isabs, decide c ls q hit = .found loc f u isabs ∧ c.fs loc = some f ∧
      (u = .never ∨ u = .mtime loc f.mtime)) := by
  rw [decide_eq]
  cases hs : served c.cfg c.fs ls q.key hit with
  | some t => exact Or.inl ⟨t, (served_eq_some.mp hs).1, (served_eq_some.mp hs).2, rfl⟩
  | none => exact Or.inr (searched_cases c q)

theorem decide_inCS (c : CCfg) (ls : LState) (q : CReq) (hit : Option Tmpl) :
    (decide c ls q hit).inCS = true := by
  rcases decide_cases c ls q hit with ⟨_, _, _, h⟩ | ⟨_, h⟩ | ⟨_, _, _, _, h, _⟩ <;> rw [h] <;> rfl

/-! `frameMeasure`, whose sum over the stack is the fuel of `finish`: the program counters are numbered downwards in the
order a load passes them, 9 at `start` to 2 at `released`, and every nested load still to be made counts 10.  So pushing
one takes 10 off the caller's frame and adds a frame of 9 plus its own nested loads; popping takes a whole frame off. -/

theorem frameMeasure_pos (f : Frame) : 2 ≤ frameMeasure f := by
  obtain ⟨q, pc⟩ := f
  cases pc <;> first | exact Nat.le_add_right_of_le (Nat.le_of_ble_eq_true rfl) | exact Nat.le_of_ble_eq_true rfl

theorem decide_measure (c : CCfg) (ls : LState) (q : CReq) (hit : Option Tmpl) :
    frameMeasure ⟨q, decide c ls q hit⟩ < 7 + 10 * sizeList q.children := by
  rcases decide_cases c ls q hit with ⟨_, _, _, h⟩ | ⟨_, h⟩ | ⟨_, _, _, _, h, _⟩ <;> rw [h] <;>
    simp only [frameMeasure] <;> omega

/-- A step of the section does nothing (empty stack, or a top-level load that has returned);
    or moves the top frame on — never back to `start`, lowering its measure, the lock depth
    following whether the frame holds the lock, the identity counter not going down, the cache
    changed by one container operation at most; or pushes a nested load; or returns from one
    into the callback of the caller. -/
inductive CsKind : CS → CS → Prop
  | idle (x : CS) : CsKind x x
  | goto {ls ls' : LState} {q : CReq} {pc pc' : PC} {rest : List Frame} {comp comp' : List (Tid × Req × Res)}
      (hne : pc' ≠ .start) (hm : frameMeasure ⟨q, pc'⟩ < frameMeasure ⟨q, pc⟩)
      (hlock : ∀ n, ls.lock = (if pc.inCS then 1 else 0) + n → ls'.lock = (if pc'.inCS then 1 else 0) + n)
      (hobj : ls.nextObj ≤ ls'.nextObj) (hcache : ls'.cache = ls.cache ∨ ∃ op, ls'.cache = (astep ls.cache op).1) :
      CsKind ⟨ls, ⟨q, pc⟩ :: rest, comp⟩ ⟨ls', ⟨q, pc'⟩ :: rest, comp'⟩
  | push (ls : LState) (q : CReq) (t : Tmpl) (u : Utd) (ch : CReq) (todo : List CReq) (rest : List Frame)
      (comp : List (Tid × Req × Res)) :
      CsKind ⟨ls, ⟨q, .calling t u (ch :: todo)⟩ :: rest, comp⟩
        ⟨ls, ⟨ch, .start⟩ :: ⟨q, .calling t u todo⟩ :: rest, comp⟩
  | pop (ls : LState) (q : CReq) (res : Res) (p : CReq) {ppc ppc' : PC} (rest : List Frame)
      (comp : List (Tid × Req × Res)) (h : ppc' = ppc ∨ ppc' = .done (.err .callback)) :
      CsKind ⟨ls, ⟨q, .released res⟩ :: ⟨p, ppc⟩ :: rest, comp⟩ ⟨ls, ⟨p, ppc'⟩ :: rest, comp⟩

theorem csStep_kind (c : CCfg) (tid : Tid) (x : CS) : CsKind x (csStep c tid x) := by
  obtain ⟨ls, stack, comp⟩ := x
  -- a frame that holds the lock before and after, the loader state's lock depth untouched
  have inside : ∀ {pc pc' : PC} {l l' : Nat}, pc.inCS = true → pc'.inCS = true → l' = l →
      ∀ n, l = (if pc.inCS then 1 else 0) + n → l' = (if pc'.inCS then 1 else 0) + n :=
    fun h h' e n hn => by rw [e, hn, h, h']
  cases stack with
  | nil => exact .idle _
  | cons f rest =>
    obtain ⟨q, pc⟩ := f
    cases pc with
    | start =>
      refine .goto (by simp) (Nat.add_lt_add_right (Nat.lt_succ_self 8) _) (fun n h => ?_) (Nat.le_refl _) (Or.inl rfl)
      simp only [PC.inCS, Bool.false_eq_true, if_false, if_true] at h ⊢
      omega
    | acquired =>
      -- the lookup is the state move `touched`
      show CsKind _ ⟨touched ls q.key, ⟨q, .looked (alookup q.key ls.cache.items)⟩ :: rest, comp⟩
      obtain ⟨_, hn, _, _, hl⟩ := touched_fields ls q.key
      exact .goto (by simp) (Nat.add_lt_add_right (Nat.lt_succ_self 7) _) (inside rfl rfl hl) (Nat.le_of_eq hn.symm)
        (Or.inr ⟨_, touched_cache ls q.key⟩)
    | looked hit =>
      refine .goto (fun e => ?_) (decide_measure c ls q hit) (inside rfl (decide_inCS c ls q hit) rfl)
        (Nat.le_refl _) (Or.inl rfl)
      have := decide_inCS c ls q hit
      rw [e] at this
      cases this
    | found loc f u isabs =>
      simp only [csStep]
      cases f.bad with
      | true =>
        exact .goto (by simp) (Nat.lt_add_right _ (show 3 < 6 by decide)) (inside rfl rfl rfl) (Nat.le_refl _) (Or.inl rfl)
      | false =>
        cases c.cfg.hasCallback with
        | true =>
          exact .goto (by simp) (Nat.add_lt_add_right (Nat.lt_succ_self 5) _) (inside rfl rfl rfl)
            (Nat.le_succ _) (Or.inl rfl)
        | false =>
          exact .goto (by simp) (Nat.lt_add_right _ (show 5 + 10 * sizeList [] < 6 by decide)) (inside rfl rfl rfl)
            (Nat.le_succ _) (Or.inl rfl)
    | calling t u todo =>
      cases todo with
      | nil =>
        simp only [csStep]
        cases (c.cfg.hasCallback && q.r.cbRaise) with
        | true =>
          exact .goto (by simp) (show 3 < 5 + 10 * sizeList [] by decide) (inside rfl rfl rfl) (Nat.le_refl _) (Or.inl rfl)
        | false =>
          exact .goto (by simp) (show 4 < 5 + 10 * sizeList [] by decide) (inside rfl rfl rfl) (Nat.le_refl _) (Or.inl rfl)
      | cons ch todo => exact .push ..
    | called t u =>
      exact .goto (by simp) (Nat.lt_succ_self 3) (inside rfl rfl rfl) (Nat.le_refl _) (Or.inr ⟨_, rfl⟩)
    | done res =>
      refine .goto (by simp) (Nat.lt_succ_self 2) (fun n h => ?_) (Nat.le_refl _) (Or.inl rfl)
      simp only [PC.inCS, Bool.false_eq_true, if_false, if_true] at h ⊢
      show ls.lock - 1 = 0 + n
      omega
    | released res =>
      cases rest with
      | nil => exact .idle _
      | cons p rest' =>
        obtain ⟨pq, ppc⟩ := p
        cases res with
        | ok t => exact .pop _ _ _ _ _ _ (Or.inl rfl)
        | err e => exact .pop _ _ _ _ _ _ (Or.inr rfl)

theorem CsKind.measure {x x' : CS} (h : CsKind x x') :
    x' = x ∨ stackMeasure x'.stack < stackMeasure x.stack := by
  cases h with
  | idle => exact Or.inl rfl
  | goto _ hm => exact Or.inr (Nat.add_lt_add_right hm _)
  | push ls q t u ch todo rest comp =>
    obtain ⟨r, k, cs⟩ := ch
    refine Or.inr ?_
    simp only [stackMeasure, frameMeasure, sizeList, CReq.size, CReq.children]
    omega
  | pop ls q res p rest comp hp =>
    refine Or.inr ?_
    rename_i ppc ppc'
    have := frameMeasure_pos ⟨p, ppc⟩
    rcases hp with rfl | rfl <;> simp only [stackMeasure, frameMeasure] at this ⊢ <;> omega

theorem csStep_measure (c : CCfg) (tid : Tid) (x : CS) :
    csStep c tid x = x ∨ stackMeasure (csStep c tid x).stack < stackMeasure x.stack :=
  (csStep_kind c tid x).measure

theorem CsKind.nextObj {x x' : CS} (h : CsKind x x') : x.ls.nextObj ≤ x'.ls.nextObj := by
  cases h with
  | goto _ _ _ hobj => exact hobj
  | _ => exact Nat.le_refl _

theorem iter_fixed {α : Type} (f : α → α) (x : α) (h : f x = x) (n : Nat) : iter f n x = x := by
  induction n with
  | zero => rfl
  | succ n ih => simp [iter, h, ih]

theorem iter_add {α : Type} (f : α → α) (a b : Nat) (x : α) : iter f (a + b) x = iter f b (iter f a x) := by
  induction a generalizing x with
  | zero => rw [Nat.zero_add]; rfl
  | succ a ih => rw [Nat.add_right_comm]; exact ih (f x)

theorem csStep_iter_fixed (c : CCfg) (tid : Tid) (n : Nat) (x : CS) (h : stackMeasure x.stack ≤ n) :
    csStep c tid (iter (csStep c tid) n x) = iter (csStep c tid) n x := by
  induction n generalizing x with
  | zero => exact (csStep_measure c tid x).resolve_right (by omega)
  | succ n ih =>
    rcases csStep_measure c tid x with hx | hx
    · rw [iter_fixed _ _ hx, hx]
    · exact ih (csStep c tid x) (by omega)

theorem finish_csStep (c : CCfg) (tid : Tid) (x : CS) : finish c tid (csStep c tid x) = finish c tid x := by
  unfold finish
  rcases csStep_measure c tid x with h | h
  · rw [h]
  · -- one step, then as many as the new measure allows, then steps that change nothing
    obtain ⟨k, hk⟩ : ∃ k, stackMeasure x.stack = 1 + (stackMeasure (csStep c tid x).stack + k) :=
      ⟨stackMeasure x.stack - 1 - stackMeasure (csStep c tid x).stack, by omega⟩
    rw [hk, iter_add, iter_add]
    exact (iter_fixed _ _ (csStep_iter_fixed c tid _ _ (Nat.le_refl _)) k).symm


def isCalling : PC → Bool
  | .calling _ _ _ => true
  | _ => false

def csCount (s : List Frame) : Nat := (s.filter fun f => f.pc.inCS).length

/-- all frames below the top are loads waiting inside their callback, and `lock` counts the
    frames that hold the lock -/
def Shape (s : List Frame) (lock : Nat) : Prop :=
  (∀ f ∈ s.tail, isCalling f.pc = true) ∧ lock = csCount s

/-- the thread holds no part of a load inside the critical section: no load in progress, or one that has not acquired the
    lock yet, or one that has released it -/
def Outside (s : List Frame) : Prop :=
  s = [] ∨ (∃ q, s = [⟨q, .start⟩]) ∨ (∃ q res, s = [⟨q, .released res⟩])

theorem not_inCS {pc : PC} (h : pc.inCS = false) : pc = .start ∨ ∃ res, pc = .released res := by
  cases pc <;> first | exact Or.inl rfl | exact Or.inr ⟨_, rfl⟩ | cases h

theorem isCalling_inCS {pc : PC} (h : isCalling pc = true) : pc.inCS = true := by
  cases pc <;> simp_all [isCalling, PC.inCS]

theorem csCount_cons (f : Frame) (s : List Frame) :
    csCount (f :: s) = (if f.pc.inCS then 1 else 0) + csCount s := by
  simp only [csCount, List.filter_cons]; split <;> simp <;> omega

theorem outside_of_shape0 {s : List Frame} (h : Shape s 0) : Outside s := by
  obtain ⟨ht, hc⟩ := h
  cases s with
  | nil => exact Or.inl rfl
  | cons f rest =>
    rw [csCount_cons] at hc
    cases rest with
    | cons p rest' =>
      rw [csCount_cons, isCalling_inCS (ht p (List.mem_cons_self ..)), if_pos rfl] at hc
      omega
    | nil =>
      obtain ⟨q, pc⟩ := f
      have hout : pc.inCS = false := by
        cases hin : pc.inCS with
        | false => rfl
        | true => rw [show (Frame.mk q pc).pc = pc from rfl, hin, if_pos rfl] at hc; omega
      rcases not_inCS hout with rfl | ⟨res, rfl⟩
      · exact Or.inr (Or.inl ⟨q, rfl⟩)
      · exact Or.inr (Or.inr ⟨q, res, rfl⟩)

theorem shape0_of_outside {s : List Frame} (h : Outside s) : Shape s 0 := by
  rcases h with rfl | ⟨q, rfl⟩ | ⟨q, res, rfl⟩ <;> simp [Shape, csCount, PC.inCS]

theorem CsKind.shape {x x' : CS} (h : CsKind x x') (hs : Shape x.stack x.ls.lock) :
    Shape x'.stack x'.ls.lock := by
  obtain ⟨ht, hc⟩ := hs
  cases h with
  | idle => exact ⟨ht, hc⟩
  | goto _ _ hlock =>
    rw [csCount_cons] at hc
    exact ⟨ht, by rw [csCount_cons]; exact hlock _ hc⟩
  | push ls q t u ch todo rest comp =>
    refine ⟨fun f hf => ?_, by simpa [csCount_cons, PC.inCS] using hc⟩
    rcases List.mem_cons.mp hf with rfl | hf
    · rfl
    · exact ht f hf
  | @pop ls q res p ppc ppc' rest comp hp =>
    -- the caller was waiting inside its callback, so it holds the lock before and after
    have hin : ppc.inCS = true := isCalling_inCS (ht ⟨p, ppc⟩ (List.mem_cons_self ..))
    have hin' : ppc'.inCS = true := by
      rcases hp with rfl | rfl
      · exact hin
      · rfl
    have hrel : (PC.released res).inCS = false := rfl
    refine ⟨fun f hf => ht f (List.mem_cons_of_mem _ hf), ?_⟩
    simpa only [csCount_cons, hin, hin', hrel, if_true, Bool.false_eq_true, if_false, Nat.zero_add] using hc

theorem csStep_shape (c : CCfg) (tid : Tid) (x : CS) (h : Shape x.stack x.ls.lock) :
    Shape (csStep c tid x).stack (csStep c tid x).ls.lock :=
  (csStep_kind c tid x).shape h

/-- the top-level request a thread has called but not yet acquired the lock for -/
def headWait : List Frame → List CReq
  | [⟨q, .start⟩] => [q]
  | _ => []

theorem headWait_two (f f' : Frame) (r : List Frame) : headWait (f :: f' :: r) = [] := by
  obtain ⟨q, pc⟩ := f
  cases pc <;> rfl

theorem headWait_not_start (q : CReq) (pc : PC) (h : pc ≠ .start) : headWait [⟨q, pc⟩] = [] := by
  cases pc <;> first | rfl | exact absurd rfl h

theorem headWait_of_not_outside {s : List Frame} (h : ¬ Outside s) : headWait s = [] := by
  cases s with
  | nil => rfl
  | cons f r =>
    cases r with
    | cons f' r' => exact headWait_two f f' r'
    | nil =>
      obtain ⟨q, pc⟩ := f
      apply headWait_not_start
      intro e; subst e
      exact h (Or.inr (Or.inl ⟨q, rfl⟩))

theorem CsKind.not_lone_start {x x' : CS} (h : CsKind x x') (hs : Shape x.stack x.ls.lock)
    (hno : ¬ Outside x.stack) : headWait x'.stack = [] := by
  have lone : ∀ (q : CReq) (pc : PC) (rest : List Frame), pc ≠ .start → headWait (⟨q, pc⟩ :: rest) = [] :=
    fun q pc rest hne => by
      cases rest with
      | nil => exact headWait_not_start q pc hne
      | cons f' r' => exact headWait_two _ _ _
  cases h with
  | idle => exact headWait_of_not_outside hno
  | goto hne => exact lone _ _ _ hne
  | push => exact headWait_two _ _ _
  | @pop ls q res p ppc ppc' rest comp hp =>
    have hcall : isCalling ppc = true := hs.1 ⟨p, ppc⟩ (List.mem_cons_self ..)
    refine lone _ _ _ ?_
    rcases hp with rfl | rfl
    · intro e; rw [e] at hcall; cases hcall
    · simp

/-- the state after thread `t` takes a step of its section -/
def afterCs (c : CCfg) (g : G) (t : Tid) : CS := csStep c t ⟨g.ls, (g.threads t).stack, g.completed⟩

/-- the four kinds of step a thread takes: call, return, acquire, a step inside its section.
    Every invariant over `step` is proved along this case analysis (`step_kind`). -/
inductive StepKind (c : CCfg) (g : G) (t : Tid) (g' : G) : Prop where
  | call (q : CReq) (more : List CReq) (hs : (g.threads t).stack = []) (ht : (g.threads t).todo = q :: more)
      (hg : g' = { g with threads := setThread g.threads t ⟨[⟨q, .start⟩], more⟩ })
  | ret (q : CReq) (res : Res) (hs : (g.threads t).stack = [⟨q, .released res⟩])
      (hg : g' = { g with threads := setThread g.threads t ⟨[], (g.threads t).todo⟩ })
  | acq (q : CReq) (rest : List Frame) (hs : (g.threads t).stack = ⟨q, .start⟩ :: rest)
      (hcan : canAcquire c g t = true)
      (hg : g' = { g with ls := (afterCs c g t).ls, owner := some t,
                          threads := setThread g.threads t ⟨(afterCs c g t).stack, (g.threads t).todo⟩,
                          acqLog := if rest.isEmpty then g.acqLog ++ [(t, q)] else g.acqLog })
  | cs (hs : ¬ Outside (g.threads t).stack)
      (hg : g' = { g with ls := (afterCs c g t).ls,
                          owner := if (afterCs c g t).ls.lock = 0 then none else g.owner,
                          threads := setThread g.threads t ⟨(afterCs c g t).stack, (g.threads t).todo⟩,
                          completed := (afterCs c g t).completed })

theorem step_kind {c : CCfg} {g g' : G} {t : Tid} (h : step c g t = some g') : StepKind c g t g' := by
  simp only [step] at h
  split at h
  next hs =>
    split at h
    next => cases h
    next q more ht => exact .call q more hs ht (Option.some.inj h).symm
  next q res hs => exact .ret q res hs (Option.some.inj h).symm
  next q rest hs =>
    split at h
    next hcan => exact .acq q rest hs hcan (Option.some.inj h).symm
    next => cases h
  next hnil hrel hstart =>
    refine .cs ?_ (Option.some.inj h).symm
    rintro (ho | ⟨q, ho⟩ | ⟨q, res, ho⟩)
    · exact hnil ho
    · exact hstart q [] ho
    · exact hrel q res ho

/-- the lock invariant of the whole system `G`: one holder, everybody else outside -/
structure GInv (g : G) : Prop where
  free : g.owner = none → g.ls.lock = 0
  held : ∀ h, g.owner = some h → 1 ≤ g.ls.lock ∧ h < g.n
  shape : ∀ t, Shape (g.threads t).stack (if g.owner = some t then g.ls.lock else 0)
  beyond : ∀ t, g.n ≤ t → (g.threads t).stack = [] ∧ (g.threads t).todo = []

theorem GInv.outside {g : G} (hi : GInv g) {t : Tid} (h : g.owner ≠ some t) :
    Outside (g.threads t).stack := by
  have := hi.shape t
  rw [if_neg h] at this
  exact outside_of_shape0 this

theorem GInv.owner_shape {g : G} (hi : GInv g) {t : Tid} (h : g.owner = some t) :
    Shape (g.threads t).stack g.ls.lock := by
  have := hi.shape t
  rwa [if_pos h] at this

theorem GInv.owner_of_inside {g : G} (hi : GInv g) {t : Tid} (h : ¬ Outside (g.threads t).stack) :
    g.owner = some t :=
  Decidable.byContradiction fun ho => h (hi.outside ho)

theorem GInv.holder_inside {g : G} (hi : GInv g) {t : Tid} (h : g.owner = some t) :
    ¬ Outside (g.threads t).stack := by
  intro ho
  have h1 := hi.owner_shape h
  have h0 := shape0_of_outside ho
  have := (hi.held t h).1
  rw [h1.2, ← h0.2] at this
  omega

theorem GInv.free_of_finished {g : G} (hi : GInv g) (hdone : ∀ t, (g.threads t).finished = true) :
    g.owner = none := by
  cases ho : g.owner with
  | none => rfl
  | some h =>
    have := hdone h
    simp only [Thread.finished, Bool.and_eq_true, List.isEmpty_iff] at this
    exact absurd (Or.inl this.1) (hi.holder_inside ho)

theorem ginv_init (ls : LState) (hl : ls.lock = 0) (progs : List (List CReq)) : GInv (G.init ls progs) := by
  refine ⟨fun _ => hl, fun h hh => by simp [G.init] at hh, ?_, ?_⟩
  · intro t; simp [G.init, Shape, csCount]
  · intro t ht
    have ht' : progs.length ≤ t := ht
    exact ⟨rfl, by simp [G.init, List.getD, List.getElem?_eq_none ht']⟩

theorem setThread_same (f : Tid → Thread) (t : Tid) (th : Thread) : setThread f t th t = th := by
  simp [setThread]
theorem setThread_ne (f : Tid → Thread) {t u : Tid} (th : Thread) (h : u ≠ t) : setThread f t th u = f u := by
  simp [setThread, h]

theorem StepKind.others {c : CCfg} {g g' : G} {t u : Tid} (h : StepKind c g t g') (hu : u ≠ t) :
    g'.threads u = g.threads u := by
  cases h with
  | call _ _ _ _ hg => subst hg; exact setThread_ne _ _ hu
  | ret _ _ _ hg => subst hg; exact setThread_ne _ _ hu
  | acq _ _ _ _ hg => subst hg; exact setThread_ne _ _ hu
  | cs _ hg => subst hg; exact setThread_ne _ _ hu

theorem exec_induction {c : CCfg} {P : G → Prop} (hstep : ∀ {g g' : G} {t : Tid}, P g → step c g t = some g' → P g')
    {g : G} (h : P g) (sched : List Tid) : P (exec c g sched) := by
  induction sched generalizing g with
  | nil => exact h
  | cons t ts ih =>
    simp only [exec]
    cases hs : step c g t with
    | none => exact ih h
    | some g' => exact ih (hstep h hs)

theorem canAcquire_owner {c : CCfg} {g : G} {t : Tid} (h : canAcquire c g t = true) :
    g.owner = none ∨ g.owner = some t := by
  unfold canAcquire at h
  cases ho : g.owner with
  | none => exact Or.inl rfl
  | some o =>
    rw [ho] at h
    simp only [Bool.and_eq_true, beq_iff_eq] at h
    exact Or.inr (by rw [h.1])

theorem canAcquire_others {c : CCfg} {g : G} {t u : Tid} (h : canAcquire c g t = true) (hu : u ≠ t) :
    g.owner ≠ some u := fun ho => by
  rcases canAcquire_owner h with h | h <;> rw [ho] at h <;> cases h
  exact hu rfl

/-- the state after a thread took a step of its section (acquiring included): nobody else held the
    lock, its stack has the shape of the new depth, and it owns the lock unless the depth is 0 -/
theorem GInv.section_step {g g' : G} {t : Tid} (hi : GInv g) (hbt : t < g'.n)
    (hbeyond : ∀ u, g'.n ≤ u → (g'.threads u).stack = [] ∧ (g'.threads u).todo = [])
    (hthreads : ∀ u, u ≠ t → g'.threads u = g.threads u) (hothers : ∀ u, u ≠ t → g.owner ≠ some u)
    (hsh : Shape (g'.threads t).stack g'.ls.lock)
    (hown : g'.owner = if g'.ls.lock = 0 then none else some t) : GInv g' := by
  have hrest : ∀ u, u ≠ t → Shape (g'.threads u).stack 0 := fun u hu => by
    have := hi.shape u
    rwa [if_neg (hothers u hu), ← hthreads u hu] at this
  by_cases h0 : g'.ls.lock = 0
  · -- the lock is released: nobody holds it, everybody is outside
    rw [if_pos h0] at hown
    refine ⟨fun _ => h0, fun h hh => (by rw [hown] at hh; cases hh), fun u => ?_, hbeyond⟩
    rw [hown, if_neg nofun]
    by_cases hu : u = t
    · subst hu; exact h0 ▸ hsh
    · exact hrest u hu
  · rw [if_neg h0] at hown
    refine ⟨fun hnone => (by rw [hown] at hnone; cases hnone), fun h hh => ?_, fun u => ?_, hbeyond⟩
    · rw [hown] at hh
      cases hh
      exact ⟨Nat.pos_of_ne_zero h0, hbt⟩
    · rw [hown]
      by_cases hu : u = t
      · subst hu; rw [if_pos rfl]; exact hsh
      · rw [if_neg fun e => hu (Option.some.inj e).symm]; exact hrest u hu

theorem ginv_step {c : CCfg} {g g' : G} {t : Tid} (hi : GInv g) (h : step c g t = some g') : GInv g' := by
  have hk := step_kind h
  have hbt : t < g.n := by
    refine Nat.lt_of_not_le fun hge => ?_
    obtain ⟨h1, h2⟩ := hi.beyond t hge
    unfold step at h
    simp [h1, h2] at h
  have hbeyond : ∀ u, g.n ≤ u → (g'.threads u).stack = [] ∧ (g'.threads u).todo = [] := fun u hu => by
    rw [hk.others (u := u) (fun e => absurd (e ▸ hu) (Nat.not_le_of_lt hbt))]
    exact hi.beyond u hu
  -- call and return: from outside the section to outside the section, nothing shared changes
  have houtside : ∀ th : Thread, Outside (g.threads t).stack → Outside th.stack →
      ∀ u, Shape (setThread g.threads t th u).stack (if g.owner = some u then g.ls.lock else 0) := by
    intro th hold hnew u
    by_cases hu : u = t
    · subst hu
      rw [setThread_same, if_neg fun ho => hi.holder_inside ho hold]
      exact shape0_of_outside hnew
    · rw [setThread_ne _ _ hu]; exact hi.shape u
  cases hk with
  | call q more hs ht hg =>
    subst hg
    exact ⟨hi.free, hi.held, houtside _ (by rw [hs]; exact Or.inl rfl) (Or.inr (Or.inl ⟨q, rfl⟩)), hbeyond⟩
  | ret q res hs hg =>
    subst hg
    exact ⟨hi.free, hi.held, houtside _ (by rw [hs]; exact Or.inr (Or.inr ⟨q, res, rfl⟩)) (Or.inl rfl), hbeyond⟩
  | acq q rest hs hcan hg =>
    -- before the step the lock depth seen by `t` is the global one
    have hlock : (if g.owner = some t then g.ls.lock else 0) = g.ls.lock := by
      rcases canAcquire_owner hcan with ho | ho
      · simp [ho, hi.free ho]
      · simp [ho]
    have hsh := hi.shape t
    rw [hlock] at hsh
    have hlk : (afterCs c g t).ls.lock = g.ls.lock + 1 := by simp [afterCs, hs, csStep]
    subst hg
    refine hi.section_step hbt hbeyond (fun u hu => setThread_ne _ _ hu) (fun u hu => canAcquire_others hcan hu)
      ?_ (if_neg (by rw [hlk]; exact Nat.succ_ne_zero _)).symm
    simp only [setThread_same]
    exact csStep_shape c t _ hsh
  | cs hs hg =>
    have ho : g.owner = some t := hi.owner_of_inside hs
    have hsh := hi.owner_shape ho
    subst hg
    refine hi.section_step hbt hbeyond (fun u hu => setThread_ne _ _ hu)
      (fun u hu e => hu (Option.some.inj (ho.symm.trans e)).symm) ?_ (by rw [ho])
    simp only [setThread_same]
    exact csStep_shape c t _ hsh

theorem ginv_exec {c : CCfg} {g : G} (hi : GInv g) (sched : List Tid) : GInv (exec c g sched) :=
  exec_induction ginv_step hi sched

/-- `exec_induction` for what the steps keep from the states that satisfy the lock invariant -/
theorem GInv.exec_induction {c : CCfg} {P : G → Prop}
    (hstep : ∀ {g g' : G} {t : Tid}, GInv g → P g → step c g t = some g' → P g')
    {g : G} (hi : GInv g) (h : P g) (sched : List Tid) : P (exec c g sched) :=
  (Conc.exec_induction (P := fun g => GInv g ∧ P g)
    (fun h hs => ⟨ginv_step h.1 hs, hstep h.1 h.2 hs⟩) ⟨hi, h⟩ sched).2

/-! In every reachable state the cache is one that container operations build from the empty cache
    (`Loader.CacheReach`): a step of the section applies one operation at most. -/

theorem CsKind.reach {x x' : CS} (hk : CsKind x x') {cap : Nat} (h : CacheReach cap x.ls.cache) :
    CacheReach cap x'.ls.cache := by
  cases hk with
  | goto _ _ _ _ hcache =>
    rcases hcache with hc | ⟨op, hc⟩
    · exact hc ▸ h
    · exact hc ▸ h.step op
  | _ => exact h

theorem step_reach {c : CCfg} {g g' : G} {t : Tid} {cap : Nat} (h : CacheReach cap g.ls.cache)
    (hs : step c g t = some g') : CacheReach cap g'.ls.cache := by
  cases step_kind hs with
  | call q more _ _ hg => subst hg; exact h
  | ret q res _ hg => subst hg; exact h
  | acq q rest _ _ hg => subst hg; exact (csStep_kind c t _).reach h
  | cs _ hg => subst hg; exact (csStep_kind c t _).reach h

theorem exec_reach {c : CCfg} {g : G} {cap : Nat} (h : CacheReach cap g.ls.cache) (sched : List Tid) :
    CacheReach cap (exec c g sched).ls.cache :=
  exec_induction (P := fun g => CacheReach cap g.ls.cache) step_reach h sched

def inCSThread (g : G) (t : Tid) : Prop := ∃ f ∈ (g.threads t).stack, f.pc.inCS = true

theorem outside_not_inCS {s : List Frame} (h : Outside s) : ¬ ∃ f ∈ s, f.pc.inCS = true := by
  rintro ⟨f, hf, hcs⟩
  rcases h with rfl | ⟨q, rfl⟩ | ⟨q, res, rfl⟩
  · simp at hf
  · simp at hf; subst hf; simp [PC.inCS] at hcs
  · simp at hf; subst hf; simp [PC.inCS] at hcs

theorem GInv.mutex {g : G} (hi : GInv g) {t u : Tid} (ht : inCSThread g t) (hu : inCSThread g u) : t = u := by
  have h1 := hi.owner_of_inside fun ho => outside_not_inCS ho ht
  have h2 := hi.owner_of_inside fun ho => outside_not_inCS ho hu
  exact Option.some.inj (h1.symm.trans h2)

theorem step_none_iff (c : CCfg) (g : G) (t : Tid) :
    step c g t = none ↔
      ((g.threads t).stack = [] ∧ (g.threads t).todo = []) ∨
      (∃ q rest, (g.threads t).stack = ⟨q, .start⟩ :: rest ∧ canAcquire c g t = false) := by
  simp only [step]
  split
  next hs => split <;> simp [*]
  next q res hs => simp [hs]
  next q rest hs => split <;> simp [*]
  next hnil hrel hstart =>
    simp only [reduceCtorEq, false_iff]
    rintro (⟨ho, _⟩ | ⟨q, rest, ho, _⟩)
    · exact hnil ho
    · exact hstart q rest ho
theorem GInv.progress {c : CCfg} {g : G} (hi : GInv g) (hre : c.reentrant = true) {t : Tid}
    (ht : t < g.n) (hunf : (g.threads t).finished = false) : ∃ u, u < g.n ∧ (step c g u).isSome = true := by
  cases ho : g.owner with
  | some h =>
    refine ⟨h, (hi.held h ho).2, ?_⟩
    rw [Option.isSome_iff_ne_none]
    intro hnone
    rcases (step_none_iff c g h).mp hnone with ⟨hs, _⟩ | ⟨q, rest, hs, hcan⟩
    · exact hi.holder_inside ho (by rw [hs]; left; rfl)
    · simp [canAcquire, ho, hre] at hcan
  | none =>
    refine ⟨t, ht, ?_⟩
    rw [Option.isSome_iff_ne_none]
    intro hnone
    rcases (step_none_iff c g t).mp hnone with ⟨hs, htd⟩ | ⟨q, rest, hs, hcan⟩
    · simp [Thread.finished, hs, htd] at hunf
    · simp [canAcquire, ho] at hcan

/-- the shared state once the current holder (if any) has finished its section -/
def absG (c : CCfg) (g : G) : LState × List (Tid × Req × Res) :=
  match g.owner with
  | none => (g.ls, g.completed)
  | some h =>
    let x := finish c h ⟨g.ls, (g.threads h).stack, g.completed⟩
    (x.ls, x.completed)

theorem serial_append (c : CCfg) (ls : LState) (comp : List (Tid × Req × Res)) (l : List (Tid × CReq))
    (t : Tid) (q : CReq) :
    serial c ls comp (l ++ [(t, q)]) =
      atomicLoad c t (serial c ls comp l).1 (serial c ls comp l).2 q := by
  induction l generalizing ls comp with
  | nil => simp [serial]
  | cons p l ih =>
    obtain ⟨t', q'⟩ := p
    simp only [List.cons_append, serial]
    exact ih _ _

theorem csStep_start_completed (c : CCfg) (tid : Tid) (ls : LState) (q : CReq) (rest : List Frame)
    (comp : List (Tid × Req × Res)) : (csStep c tid ⟨ls, ⟨q, .start⟩ :: rest, comp⟩).completed = comp := rfl

/-- outside the section, and not about to enter it, a thread has no step of the section to take -/
theorem csStep_outside (c : CCfg) (tid : Tid) {x : CS} (hout : Outside x.stack) (hw : headWait x.stack = []) :
    csStep c tid x = x := by
  obtain ⟨ls, stack, completed⟩ := x
  rcases hout with rfl | ⟨q, rfl⟩ | ⟨q, res, rfl⟩
  · rfl
  · cases hw
  · rfl

/-- the linearization invariant (`LockOrder.LInv` is another one: the lock-order discipline of
    the model with several locks): the state "after the holder finishes" is the serial
    execution of the top-level loads in the order in which they took the lock -/
def LInv (c : CCfg) (ls0 : LState) (g : G) : Prop := absG c g = serial c ls0 [] g.acqLog

/-- with the lock free, the invariant speaks of the shared state itself -/
theorem LInv.free {c : CCfg} {ls0 : LState} {g : G} (hl : LInv c ls0 g) (hfree : g.owner = none) :
    (g.ls, g.completed) = serial c ls0 [] g.acqLog := by
  unfold LInv absG at hl
  rwa [hfree] at hl

theorem linv_step {c : CCfg} {ls0 : LState} {g g' : G} {t : Tid} (hi : GInv g) (hl : LInv c ls0 g)
    (h : step c g t = some g') : LInv c ls0 g' := by
  unfold LInv at *
  -- a thread that is outside the section and only changes its own record is not the holder
  have houtside : ∀ th, Outside (g.threads t).stack →
      absG c { g with threads := setThread g.threads t th } = absG c g := by
    intro th hout
    unfold absG
    cases ho : g.owner with
    | none => rfl
    | some o =>
      have : o ≠ t := fun e => hi.holder_inside (e ▸ ho) hout
      simp only [setThread_ne _ _ this]
  cases step_kind h with
  | call q more hs ht hg =>
    subst hg
    rw [← hl]
    exact houtside _ (by rw [hs]; exact Or.inl rfl)
  | ret q res hs hg =>
    subst hg
    rw [← hl]
    exact houtside _ (by rw [hs]; exact Or.inr (Or.inr ⟨q, res, rfl⟩))
  | acq q rest hs hcan hg =>
    have hx : afterCs c g t = csStep c t ⟨g.ls, ⟨q, .start⟩ :: rest, g.completed⟩ := by
      simp [afterCs, hs]
    have hcomp : (afterCs c g t).completed = g.completed := by rw [hx]; rfl
    have habs' : absG c g' = ((finish c t ⟨g.ls, ⟨q, .start⟩ :: rest, g.completed⟩).ls,
                               (finish c t ⟨g.ls, ⟨q, .start⟩ :: rest, g.completed⟩).completed) := by
      subst hg
      simp only [absG, setThread_same]
      have : (⟨(afterCs c g t).ls, (afterCs c g t).stack, g.completed⟩ : CS) = afterCs c g t := by
        rw [← hcomp]
      rw [this, hx, finish_csStep]
    cases rest with
    | nil =>
      have hnone : g.owner = none := (canAcquire_owner hcan).resolve_right fun ho =>
        hi.holder_inside ho (by rw [hs]; exact Or.inr (Or.inl ⟨q, rfl⟩))
      have hl' := LInv.free hl hnone
      rw [habs']
      subst hg
      simp only [List.isEmpty_nil, if_true, serial_append, ← hl']
      rfl
    | cons p rest' =>
      have hown : g.owner = some t :=
        hi.owner_of_inside (by rw [hs]; rintro (h1 | ⟨_, h1⟩ | ⟨_, _, h1⟩) <;> cases h1)
      rw [habs']
      subst hg
      simp only [List.isEmpty_cons, Bool.false_eq_true, if_false, ← hl]
      simp [absG, hown, hs]
  | cs hs hg =>
    have hown : g.owner = some t := hi.owner_of_inside hs
    have hsh := hi.owner_shape hown
    have hsh' := csStep_shape c t ⟨g.ls, (g.threads t).stack, g.completed⟩ hsh
    have hbefore : absG c g = ((finish c t (afterCs c g t)).ls, (finish c t (afterCs c g t)).completed) := by
      simp only [absG, hown, afterCs, finish_csStep]
    subst hg
    rw [← hl, hbefore]
    by_cases h0 : (afterCs c g t).ls.lock = 0
    · -- the section is over: the holder is outside, not about to enter, and `finish` has nothing to do
      have hout : Outside (afterCs c g t).stack := outside_of_shape0 (h0 ▸ hsh')
      have hfix : finish c t (afterCs c g t) = afterCs c g t :=
        iter_fixed _ _ (csStep_outside c t hout
          ((csStep_kind c t ⟨g.ls, (g.threads t).stack, g.completed⟩).not_lone_start hsh hs)) _
      simp only [absG, if_pos h0, hfix]
    · simp only [absG, if_neg h0, hown, setThread_same]

theorem linv_exec {c : CCfg} {ls0 : LState} {g : G} (hi : GInv g) (hl : LInv c ls0 g) (sched : List Tid) :
    LInv c ls0 (exec c g sched) ∧ GInv (exec c g sched) :=
  ⟨hi.exec_induction linv_step hl sched, ginv_exec hi sched⟩

end Genshi.Conc
