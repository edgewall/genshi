/-
  C16 — C15's history invariant (bounded cache of distinct keys, cached templates coherent with
  their files, fresh identities) holds in every reachable state of the interleaving model, for
  programs with nested loads as well.
-/
import Genshi.Lemmas.Conc
import Genshi.Lemmas.LoaderInv
namespace Genshi.Conc
open Genshi.Lru Genshi.Loader

/-- a returned template is current (stated for automatic reloading; the files are fixed while
    the threads run) -/
def ResOK (c : CCfg) : Res → Prop
  | .ok t => c.cfg.autoReload = true → ∃ f, c.fs t.loc = some f ∧ f.content = t.content
  | .err _ => True

/-- what the local variables held in a frame's program counter satisfy against the shared state: a template the lookup
    found is in the cache; a file the search found is that file of the file system, with its up-to-date check; an
    instantiated template has an identity below the counter and is current; so is a result -/
def FrameOK (c : CCfg) (ls : LState) (f : Frame) : Prop :=
  match f.pc with
  | .looked (some t) => (f.req.key, t) ∈ ls.cache.items
  | .found loc file u _ => c.fs loc = some file ∧ (u = .never ∨ u = .mtime loc file.mtime)
  | .calling t u _ => t.obj < ls.nextObj ∧ UtdOK c.fs t u ∧ ResOK c (.ok t)
  | .called t u => t.obj < ls.nextObj ∧ UtdOK c.fs t u ∧ ResOK c (.ok t)
  | .done res => ResOK c res
  | .released res => ResOK c res
  | _ => True

theorem FrameOK.mono {c : CCfg} {ls ls' : LState} {f : Frame} (h : FrameOK c ls f)
    (hn : ls.nextObj ≤ ls'.nextObj) (hnl : ∀ t, f.pc ≠ .looked (some t)) : FrameOK c ls' f := by
  obtain ⟨q, pc⟩ := f
  cases pc with
  | looked hit =>
    cases hit with
    | none => trivial
    | some t => exact absurd rfl (hnl t)
  | calling t u todo => exact ⟨Nat.lt_of_lt_of_le h.1 hn, h.2⟩
  | called t u => exact ⟨Nat.lt_of_lt_of_le h.1 hn, h.2⟩
  | start => trivial
  | acquired => trivial
  | found loc file u isabs => exact h
  | done res => exact h
  | released res => exact h

theorem isCalling_not_looked {pc : PC} (h : isCalling pc = true) : ∀ t, pc ≠ .looked (some t) := by
  intro t e; subst e; simp [isCalling] at h

/-- the invariant of the section: the loader state is consistent, and so is everything the
    active loads of this thread carry and everything that was returned -/
structure CInv (c : CCfg) (clock : Nat) (x : CS) : Prop where
  inv : InvL c.fs clock x.ls
  frames : ∀ f ∈ x.stack, FrameOK c x.ls f
  log : ∀ e ∈ x.completed, ResOK c e.2.2

theorem csStep_cinv (c : CCfg) (tid : Tid) (clock : Nat) (x : CS) (h : CInv c clock x)
    (htail : ∀ f ∈ x.stack.tail, isCalling f.pc = true) :
    CInv c clock (csStep c tid x) := by
  obtain ⟨ls, stack, completed⟩ := x
  obtain ⟨hi, hf, hlog⟩ := h
  cases stack with
  | nil => exact ⟨hi, hf, hlog⟩
  | cons f rest =>
    obtain ⟨q, pc⟩ := f
    obtain ⟨htop, hrest⟩ := List.forall_mem_cons.mp hf
    -- the frames below wait in their callbacks: they stay consistent while identities only grow
    have hrest' : ∀ ls' : LState, ls.nextObj ≤ ls'.nextObj → ∀ f ∈ rest, FrameOK c ls' f :=
      fun ls' hn f hm => (hrest f hm).mono hn (isCalling_not_looked (htail f hm))
    cases pc with
    | start =>
      simp only [csStep]
      exact ⟨⟨hi.mtimes, hi.coherent, hi.awf, hi.objs, hi.parsedOld⟩,
        List.forall_mem_cons.mpr ⟨trivial, hrest' _ (Nat.le_refl _)⟩, hlog⟩
    | acquired =>
      -- the lookup is the state move `touched`
      refine ⟨touched_invL q.key hi, List.forall_mem_cons.mpr
        ⟨?_, hrest' _ (Nat.le_of_eq (touched_fields ls q.key).2.1.symm)⟩, hlog⟩
      show FrameOK c (touched ls q.key) ⟨q, .looked (alookup q.key ls.cache.items)⟩
      cases hl : alookup q.key ls.cache.items with
      | none => trivial
      | some t => exact alookup_mem ((alookup_touched ls q.key q.key).trans hl)
    | looked hit =>
      simp only [csStep]
      refine ⟨hi, List.forall_mem_cons.mpr ⟨?_, hrest⟩, hlog⟩
      show FrameOK c ls ⟨q, decide c ls q hit⟩
      rcases decide_cases c ls q hit with ⟨t, rfl, hc, hd⟩ | ⟨e, hd⟩ | ⟨loc, f, u, isabs, hd, h1, h2⟩ <;> rw [hd]
      · intro har
        rcases hc with hc | hc
        · rw [har] at hc; cases hc
        · exact hi.current htop hc
      · trivial
      · exact ⟨h1, h2⟩
    | found loc file u isabs =>
      obtain ⟨hfs, hu⟩ : c.fs loc = some file ∧ (u = .never ∨ u = .mtime loc file.mtime) := htop
      simp only [csStep]
      cases hb : file.bad with
      | true => exact ⟨hi, List.forall_mem_cons.mpr ⟨trivial, hrest⟩, hlog⟩
      | false =>
        have hlt : ls.nextObj < (parsedSt c.cfg ls).nextObj := by
          rw [(parsedSt_fields c.cfg ls).2.2.2.1]; exact Nat.lt_succ_self _
        have hutd : UtdOK c.fs ⟨ls.nextObj, loc, file.content, q.r.cls, q.r.enc, isabs⟩ u :=
          .of_found hfs hu rfl rfl
        have hres : ResOK c (.ok ⟨ls.nextObj, loc, file.content, q.r.cls, q.r.enc, isabs⟩) :=
          fun _ => ⟨file, hfs, rfl⟩
        exact ⟨parsed_invL c.cfg hi,
          List.forall_mem_cons.mpr ⟨⟨hlt, hutd, hres⟩, hrest' _ (Nat.le_of_lt hlt)⟩, hlog⟩
    | calling t u todo =>
      cases todo with
      | nil =>
        simp only [csStep]
        cases (c.cfg.hasCallback && q.r.cbRaise) with
        | true => exact ⟨hi, List.forall_mem_cons.mpr ⟨trivial, hrest⟩, hlog⟩
        | false => exact ⟨hi, List.forall_mem_cons.mpr ⟨htop, hrest⟩, hlog⟩
      | cons ch todo =>
        simp only [csStep]
        exact ⟨hi, List.forall_mem_cons.mpr ⟨trivial, List.forall_mem_cons.mpr ⟨htop, hrest⟩⟩, hlog⟩
    | called t u =>
      obtain ⟨hobj, hutd, hres⟩ : t.obj < ls.nextObj ∧ UtdOK c.fs t u ∧ ResOK c (.ok t) := htop
      simp only [csStep]
      exact ⟨stored_invL hi hobj hutd, List.forall_mem_cons.mpr ⟨hres, hrest' _ (Nat.le_refl _)⟩, hlog⟩
    | done res =>
      simp only [csStep]
      refine ⟨⟨hi.mtimes, hi.coherent, hi.awf, hi.objs, hi.parsedOld⟩,
        List.forall_mem_cons.mpr ⟨htop, hrest' _ (Nat.le_refl _)⟩, ?_⟩
      intro e he
      cases rest with
      | nil =>
        rcases List.mem_append.mp he with he | he
        · exact hlog e he
        · cases List.mem_singleton.mp he; exact htop
      | cons _ _ => exact hlog e he
    | released res =>
      cases rest with
      | nil => exact ⟨hi, hf, hlog⟩
      | cons p rest' =>
        obtain ⟨hp, hrest''⟩ := List.forall_mem_cons.mp hrest
        cases res with
        | ok t => exact ⟨hi, hrest, hlog⟩
        | err e => exact ⟨hi, List.forall_mem_cons.mpr ⟨trivial, hrest''⟩, hlog⟩

theorem outside_not_looked {s : List Frame} (h : Outside s) : ∀ f ∈ s, ∀ t, f.pc ≠ .looked (some t) := by
  intro f hf t e
  rcases h with rfl | ⟨q, rfl⟩ | ⟨q, res, rfl⟩
  · simp at hf
  · simp at hf; subst hf; cases e
  · simp at hf; subst hf; cases e

/-- `CInv` for the stacks of all threads -/
structure GCInv (c : CCfg) (clock : Nat) (g : G) : Prop where
  inv : InvL c.fs clock g.ls
  frames : ∀ t, ∀ f ∈ (g.threads t).stack, FrameOK c g.ls f
  log : ∀ e ∈ g.completed, ResOK c e.2.2

theorem gcinv_init (c : CCfg) (clock : Nat) (ls : LState) (h : InvL c.fs clock ls) (progs : List (List CReq)) :
    GCInv c clock (G.init ls progs) :=
  ⟨h, fun t f hf => by simp [G.init] at hf, fun e he => by simp [G.init] at he⟩

theorem gcinv_step {c : CCfg} {clock : Nat} {g g' : G} {t : Tid} (hg0 : GInv g) (h : GCInv c clock g)
    (hs : step c g t = some g') : GCInv c clock g' := by
  have hcs : CInv c clock ⟨g.ls, (g.threads t).stack, g.completed⟩ := ⟨h.inv, h.frames t, h.log⟩
  have hafter := csStep_cinv c t clock _ hcs (hg0.shape t).1
  have hmono := (csStep_kind c t ⟨g.ls, (g.threads t).stack, g.completed⟩).nextObj
  -- a step of the section: the stepping thread's frames are those of `csStep_cinv`; the others are outside
  -- and carry nothing that a change of the cache could invalidate
  have hframes : (∀ u, u ≠ t → g.owner ≠ some u) → ∀ u, ∀ f ∈
      (setThread g.threads t ⟨(afterCs c g t).stack, (g.threads t).todo⟩ u).stack, FrameOK c (afterCs c g t).ls f := by
    intro hothers u f hf
    by_cases hu : u = t
    · subst hu; rw [setThread_same] at hf; exact hafter.frames f hf
    · rw [setThread_ne _ _ hu] at hf
      exact (h.frames u f hf).mono hmono (outside_not_looked (hg0.outside (hothers u hu)) f hf)
  cases step_kind hs with
  | call q more hs' ht hg =>
    subst hg
    refine ⟨h.inv, ?_, h.log⟩
    intro u f hf
    by_cases hu : u = t
    · subst hu; simp only [setThread_same, List.mem_singleton] at hf; subst hf; trivial
    · simp only [setThread_ne _ _ hu] at hf; exact h.frames u f hf
  | ret q res hs' hg =>
    subst hg
    refine ⟨h.inv, ?_, h.log⟩
    intro u f hf
    by_cases hu : u = t
    · subst hu; simp [setThread_same] at hf
    · simp only [setThread_ne _ _ hu] at hf; exact h.frames u f hf
  | acq q rest hs' hcan hg =>
    subst hg
    exact ⟨hafter.inv, hframes fun u hu => canAcquire_others hcan hu, h.log⟩
  | cs hs' hg =>
    have hown : g.owner = some t := hg0.owner_of_inside hs'
    subst hg
    exact ⟨hafter.inv, hframes fun u hu e => hu (Option.some.inj (hown.symm.trans e)).symm, hafter.log⟩

theorem gcinv_exec {c : CCfg} {clock : Nat} {g : G} (hg0 : GInv g) (h : GCInv c clock g) (sched : List Tid) :
    GCInv c clock (exec c g sched) :=
  hg0.exec_induction gcinv_step h sched

end Genshi.Conc
