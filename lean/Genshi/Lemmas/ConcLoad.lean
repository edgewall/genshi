/-
  C16 — for a request whose callback performs no nested loads, `loadN` — and with it the atomic
  load of the interleaving model — is C15's `load`.
-/
import Genshi.Lemmas.ConcNested
namespace Genshi.Conc
open Genshi.Lru Genshi.Loader

theorem search_eq_probe (cfg : Cfg) (fs : FS) (s : LState) (r : Req) (key : Key) (isabs : Bool)
    (entries : List Entry) :
    search cfg fs s r key isabs entries =
      match searchProbe fs r.fault key entries with
      | none => (s, .err .notFound)
      | some .skip => (s, .err .notFound)
      | some .raise => (s, .err .loadFunc)
      | some (.found loc f u) => instantiate cfg s r key isabs loc f u := by
  induction entries with
  | nil => rfl
  | cons e rest ih =>
    unfold search searchProbe
    cases hp : probe fs r.fault e key with
    | skip => simp only [ih]
    | raise => rfl
    | found loc f u => rfl

/-- what C15's `loadBody` does once the interleaving model has reached its decision -/
def afterDecision (cfg : Cfg) (s1 : LState) (r : Req) (key : Key) : PC → LState × Res
  | .found loc f u isabs => instantiate cfg s1 r key isabs loc f u
  | .done res => (s1, res)
  | _ => (s1, .err .notFound)

theorem afterDecision_searched (c : CCfg) (s1 : LState) (r : Req) (key : Key) (cs : List CReq) :
    afterDecision c.cfg s1 r key (searched c (.mk r key cs)) = walk c.cfg c.fs s1 r key := by
  unfold searched walk
  simp only [CReq.r, CReq.key, search_eq_probe]
  cases searchPath c.cfg r key with
  | none => rfl
  | some p =>
    obtain ⟨entries, isabs⟩ := p
    simp only
    cases searchProbe c.fs r.fault key entries with
    | none => rfl
    | some pr => cases pr <;> rfl

/-- `loadBody` and `decide` walk through the same cases: served from the cache, or the walk
    over the search path -/
theorem loadBody_eq_decide (c : CCfg) (ls : LState) (r : Req) (key : Key) (cs : List CReq) :
    loadBody c.cfg c.fs { ls with lock := ls.lock + 1 } r key =
      afterDecision c.cfg (lookedUp ls key) r key
        (decide c (lookedUp ls key) (.mk r key cs) (alookup key ls.cache.items)) := by
  have hu : ({ ls with lock := ls.lock + 1 } : LState).utd = (lookedUp ls key).utd :=
    lookedUp_eq ls key ▸ (touched_fields _ key).1.symm
  rw [loadBody_eq, decide_eq, served_congr hu]
  dsimp only [CReq.key]
  cases served c.cfg c.fs (lookedUp ls key) key (alookup key ls.cache.items) with
  | some t => rfl
  | none => exact (afterDecision_searched c _ r key cs).symm

theorem finishLoad_flat (c : CCfg) (s1 : LState) (r : Req) (key : Key) (pc : PC) :
    finishLoad c s1 r key pc (fun s => (s, true)) =
      ({ (afterDecision c.cfg s1 r key pc).1 with lock := (afterDecision c.cfg s1 r key pc).1.lock - 1 },
        (afterDecision c.cfg s1 r key pc).2) := by
  cases pc with
  | found loc f u isabs =>
    rw [finishLoad_found, afterDecision, instantiate_eq]
    cases f.bad with
    | true => rfl
    | false => cases c.cfg.hasCallback <;> cases r.cbRaise <;> rfl
  | _ => rfl

theorem loadN_flat (c : CCfg) (ls ls' : LState) (r : Req) (key : Key) (res : Res)
    (hk : resolve c.cfg.path.isEmpty r = some key)
    (h : Loader.load c.cfg c.fs ls r = some (ls', res)) : loadN c ls (.mk r key []) = (ls', res) := by
  unfold Loader.load at h
  simp only [hk, Option.some.injEq] at h
  have hcb : (fun s => callbackN c s []) = fun s => (s, true) := funext fun s => by rw [callbackN]
  rw [← h, loadN, hcb, finishLoad_flat, ← loadBody_eq_decide]

theorem atomicLoad_eq_load (c : CCfg) (tid : Tid) (ls ls' : LState) (comp : List (Tid × Req × Res))
    (r : Req) (key : Key) (res : Res)
    (hk : resolve c.cfg.path.isEmpty r = some key)
    (h : Loader.load c.cfg c.fs ls r = some (ls', res)) :
    atomicLoad c tid ls comp (.mk r key []) = (ls', comp ++ [(tid, r, res)]) := by
  rw [atomicLoad_eq_loadN, loadN_flat c ls ls' r key res hk h]
  rfl

end Genshi.Conc
