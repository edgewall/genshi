/-
  C16 — the atomic load of the interleaving model, nested loads included, is the sequential
  `loadN` (`Genshi/Model/ConcNested.lean`).
-/
import Genshi.Lemmas.Conc
import Genshi.Model.ConcNested
namespace Genshi.Conc
open Genshi.Lru Genshi.Loader

theorem finish_step (c : CCfg) (tid : Tid) (x y : CS) (h : csStep c tid x = y) :
    finish c tid x = finish c tid y := by rw [← h, finish_csStep]

theorem finish_released (c : CCfg) (tid : Tid) (ls : LState) (q : CReq) (res : Res)
    (comp : List (Tid × Req × Res)) :
    finish c tid ⟨ls, [⟨q, .released res⟩], comp⟩ = ⟨ls, [⟨q, .released res⟩], comp⟩ := by
  unfold finish
  exact iter_fixed _ _ rfl _

/-- acquiring, then the lookup: the state move `touched` of C15's `loadBody` -/
theorem lookedUp_eq (ls : LState) (key : Key) : lookedUp ls key = touched { ls with lock := ls.lock + 1 } key := rfl

/-- `self._lock.release()` -/
def unlocked (s : LState) : LState := { s with lock := s.lock - 1 }

/-- `finishLoad` from a file found, over the moves of the loader state: the parse, the callback `cb` (if one is
    configured), the store; the lock released on every exit -/
theorem finishLoad_found (c : CCfg) (s1 : LState) (r : Req) (key : Key) (loc : Loc) (f : File) (u : Utd)
    (isabs : Bool) (cb : LState → LState × Bool) :
    finishLoad c s1 r key (.found loc f u isabs) cb =
      if f.bad then (unlocked s1, .err .syntaxError) else
      let out := if c.cfg.hasCallback then cb (parsedSt c.cfg s1) else (parsedSt c.cfg s1, true)
      if !out.2 then (unlocked out.1, .err .callback)
      else if c.cfg.hasCallback && r.cbRaise then (unlocked out.1, .err .callback)
      else (unlocked (storedSt out.1 key ⟨s1.nextObj, loc, f.content, r.cls, r.enc, isabs⟩ u),
            .ok ⟨s1.nextObj, loc, f.content, r.cls, r.enc, isabs⟩) := by
  unfold finishLoad parsedSt
  cases c.cfg.hasCallback <;> rfl

/-- the log after a frame released the lock: only a top-level load is logged -/
def logged (tid : Tid) (rest : List Frame) (comp : List (Tid × Req × Res)) (q : CReq) (res : Res) :
    List (Tid × Req × Res) :=
  if rest.isEmpty then comp ++ [(tid, q.r, res)] else comp

/-- statement for one request: from `start` to `released`, whatever is below on the stack -/
def StepsTo (c : CCfg) (tid : Tid) (q : CReq) : Prop :=
  ∀ (ls : LState) (rest : List Frame) (comp : List (Tid × Req × Res)),
    finish c tid ⟨ls, ⟨q, .start⟩ :: rest, comp⟩ =
      finish c tid ⟨(loadN c ls q).1, ⟨q, .released (loadN c ls q).2⟩ :: rest,
        logged tid rest comp q (loadN c ls q).2⟩

theorem callback_steps (c : CCfg) (tid : Tid) (p : CReq) (t : Tmpl) (u : Utd) (rest : List Frame) :
    ∀ (cs : List CReq), (∀ ch ∈ cs, StepsTo c tid ch) → ∀ (ls : LState) (comp : List (Tid × Req × Res)),
    finish c tid ⟨ls, ⟨p, .calling t u cs⟩ :: rest, comp⟩ =
      if (callbackN c ls cs).2 then finish c tid ⟨(callbackN c ls cs).1, ⟨p, .calling t u []⟩ :: rest, comp⟩
      else finish c tid ⟨(callbackN c ls cs).1, ⟨p, .done (.err .callback)⟩ :: rest, comp⟩ := by
  intro cs
  induction cs with
  | nil => intro _ ls comp; simp [callbackN]
  | cons ch todo ih =>
    intro hall ls comp
    have hch := hall ch (by simp)
    have htodo : ∀ x ∈ todo, StepsTo c tid x := fun x hx => hall x (List.mem_cons_of_mem _ hx)
    rw [finish_step c tid _ _ rfl]
    simp only [csStep]
    rw [hch ls (⟨p, .calling t u todo⟩ :: rest) comp]
    simp only [logged, List.isEmpty_cons, Bool.false_eq_true, if_false]
    rw [finish_step c tid _ _ rfl]
    simp only [csStep]
    rw [callbackN]
    cases hres : (loadN c ls ch).2 with
    | ok t' =>
      have : loadN c ls ch = ((loadN c ls ch).1, .ok t') := by rw [← hres]
      rw [this]
      simp only
      exact ih htodo _ comp
    | err e =>
      have : loadN c ls ch = ((loadN c ls ch).1, .err e) := by rw [← hres]
      rw [this]
      simp

theorem size_le_sizeList {ch : CReq} {cs : List CReq} (h : ch ∈ cs) : ch.size ≤ sizeList cs := by
  induction cs with
  | nil => cases h
  | cons x xs ih =>
    simp only [sizeList]
    rcases List.mem_cons.mp h with rfl | h
    · omega
    · have := ih h; omega

theorem finish_to_decision (c : CCfg) (tid : Tid) (ls : LState) (q : CReq) (rest : List Frame)
    (comp : List (Tid × Req × Res)) :
    finish c tid ⟨ls, ⟨q, .start⟩ :: rest, comp⟩ =
      finish c tid ⟨lookedUp ls q.key,
        ⟨q, decide c (lookedUp ls q.key) q (alookup q.key ls.cache.items)⟩ :: rest, comp⟩ := by
  rw [finish_step c tid _ _ rfl]
  simp only [csStep]
  rw [finish_step c tid _ _ rfl]
  simp only [csStep]
  rw [finish_step c tid _ _ rfl]
  simp only [csStep]
  rfl

theorem finish_done (c : CCfg) (tid : Tid) (ls : LState) (q : CReq) (res : Res) (rest : List Frame)
    (comp : List (Tid × Req × Res)) :
    finish c tid ⟨ls, ⟨q, .done res⟩ :: rest, comp⟩ =
      finish c tid ⟨{ ls with lock := ls.lock - 1 }, ⟨q, .released res⟩ :: rest, logged tid rest comp q res⟩ :=
  finish_step c tid _ _ rfl

theorem finish_called (c : CCfg) (tid : Tid) (ls : LState) (q : CReq) (t : Tmpl) (u : Utd) (rest : List Frame)
    (comp : List (Tid × Req × Res)) :
    finish c tid ⟨ls, ⟨q, .called t u⟩ :: rest, comp⟩ =
      finish c tid ⟨unlocked (storedSt ls q.key t u), ⟨q, .released (.ok t)⟩ :: rest, logged tid rest comp q (.ok t)⟩ := by
  rw [finish_step c tid _ _ rfl]
  exact finish_done ..

theorem finish_from_decision (c : CCfg) (tid : Tid) (r : Req) (key : Key) (children : List CReq)
    (hkids : ∀ ch ∈ children, StepsTo c tid ch) (s1 : LState) (pc : PC)
    (hpc : (∃ res, pc = .done res) ∨ (∃ loc f u isabs, pc = .found loc f u isabs))
    (rest : List Frame) (comp : List (Tid × Req × Res)) :
    finish c tid ⟨s1, ⟨.mk r key children, pc⟩ :: rest, comp⟩ =
      finish c tid ⟨(finishLoad c s1 r key pc (fun s => callbackN c s children)).1,
        ⟨.mk r key children, .released (finishLoad c s1 r key pc (fun s => callbackN c s children)).2⟩ :: rest,
        logged tid rest comp (.mk r key children) (finishLoad c s1 r key pc (fun s => callbackN c s children)).2⟩ := by
  rcases hpc with ⟨res, rfl⟩ | ⟨loc, f, u, isabs, rfl⟩
  · exact finish_done ..
  · rw [finish_step c tid _ _ rfl, finishLoad_found]
    simp only [csStep, parsedSt]
    cases f.bad with
    | true => exact finish_done ..
    | false =>
      simp only [Bool.false_eq_true, if_false, CReq.children, CReq.r]
      cases hcb : c.cfg.hasCallback with
      | false =>
        simp only [Bool.false_eq_true, if_false, Bool.not_true, Bool.false_and]
        rw [finish_step c tid _ _ rfl]
        simp only [csStep, hcb, Bool.false_and, Bool.false_eq_true, if_false]
        exact finish_called ..
      | true =>
        simp only [if_true, Bool.true_and]
        rw [callback_steps c tid _ _ _ rest children hkids]
        cases (callbackN c _ children).2 with
        | false => exact finish_done ..
        | true =>
          simp only [if_true, Bool.not_true, Bool.false_eq_true, if_false]
          rw [finish_step c tid _ _ rfl]
          simp only [csStep, hcb, Bool.true_and, CReq.r]
          cases r.cbRaise with
          | true => exact finish_done ..
          | false => exact finish_called ..

theorem stepsTo (c : CCfg) (tid : Tid) : ∀ (n : Nat) (q : CReq), q.size ≤ n → StepsTo c tid q := by
  intro n
  induction n with
  | zero =>
    intro q hq
    obtain ⟨r, key, cs⟩ := q
    have : 1 ≤ (CReq.mk r key cs).size := by simp [CReq.size]
    omega
  | succ n ih =>
    intro q hq
    obtain ⟨r, key, children⟩ := q
    have hkids : ∀ ch ∈ children, StepsTo c tid ch := by
      intro ch hch
      apply ih
      have := size_le_sizeList hch
      simp only [CReq.size] at hq
      omega
    intro ls rest comp
    rw [finish_to_decision, loadN]
    refine finish_from_decision c tid r key children hkids _ _ ?_ rest comp
    rcases decide_cases c (lookedUp ls key) (.mk r key children) (alookup key ls.cache.items) with
      ⟨_, _, _, h⟩ | ⟨_, h⟩ | ⟨_, _, _, _, h, _⟩
    · exact Or.inl ⟨_, h⟩
    · exact Or.inl ⟨_, h⟩
    · exact Or.inr ⟨_, _, _, _, h⟩

theorem atomicLoad_eq_loadN (c : CCfg) (tid : Tid) (ls : LState) (comp : List (Tid × Req × Res)) (q : CReq) :
    atomicLoad c tid ls comp q = ((loadN c ls q).1, comp ++ [(tid, q.r, (loadN c ls q).2)]) := by
  unfold atomicLoad
  simp only
  rw [stepsTo c tid q.size q (Nat.le_refl _) ls [] comp, finish_released]
  simp [logged]

theorem serial_eq_seqLoadsN (c : CCfg) (ls : LState) (comp : List (Tid × Req × Res)) (l : List (Tid × CReq)) :
    serial c ls comp l = seqLoadsN c ls comp l := by
  induction l generalizing ls comp with
  | nil => rfl
  | cons p more ih =>
    obtain ⟨t, q⟩ := p
    simp only [serial, seqLoadsN, atomicLoad_eq_loadN]
    exact ih _ _

theorem loadN_result (c : CCfg) (ls : LState) (r : Req) (key : Key) (children : List CReq) :
    (loadN c ls (.mk r key children)).2 = (loadN c ls (.mk r key [])).2 ∨
    (loadN c ls (.mk r key children)).2 = .err .callback := by
  rw [loadN, loadN]
  have hd : decide c (lookedUp ls key) (.mk r key children) (alookup key ls.cache.items) =
      decide c (lookedUp ls key) (.mk r key []) (alookup key ls.cache.items) := rfl
  rw [hd]
  generalize decide c (lookedUp ls key) (.mk r key []) (alookup key ls.cache.items) = pc
  generalize lookedUp ls key = s1
  cases pc with
  | found loc f u isabs =>
    rw [finishLoad_found, finishLoad_found]
    cases f.bad with
    | true => exact Or.inl rfl
    | false =>
      cases c.cfg.hasCallback with
      | false => exact Or.inl rfl
      | true =>
        simp only [Bool.false_eq_true, if_false, if_true, callbackN]
        cases (callbackN c _ children).2 with
        | false => exact Or.inr rfl
        | true => cases r.cbRaise <;> exact Or.inl rfl
  | _ => exact Or.inl rfl

end Genshi.Conc
