/-
  C16 — the serial execution in terms of C15's `load`, and C15's history invariant at
  quiescence.  Then the two invariants that tie the acquisition log of the interleaving model to the
  threads' programs: the logged requests are requests of the programs (`MInv`), each thread's in
  program order (`PInv`).
-/
import Genshi.Lemmas.ConcLoad
import Genshi.Lemmas.LoaderInv
namespace Genshi.Conc
open Genshi.Lru Genshi.Loader

/-- C15's `load`, one call after the other (requests outside the path algebra are skipped) -/
def seqLoads (cfg : Cfg) (fs : FS) (ls : LState) (comp : List (Tid × Req × Res)) :
    List (Tid × CReq) → LState × List (Tid × Req × Res)
  | [] => (ls, comp)
  | (t, q) :: more =>
    match Loader.load cfg fs ls q.r with
    | none => seqLoads cfg fs ls comp more
    | some (ls', res) => seqLoads cfg fs ls' (comp ++ [(t, q.r, res)]) more

/-- a request whose callback loads nothing and whose key is the one `load` computes -/
def Flat (c : CCfg) (q : CReq) : Prop := q.children = [] ∧ resolve c.cfg.path.isEmpty q.r = some q.key

theorem serial_flat (c : CCfg) (ls : LState) (comp : List (Tid × Req × Res)) (l : List (Tid × CReq))
    (hflat : ∀ p ∈ l, Flat c p.2) : serial c ls comp l = seqLoads c.cfg c.fs ls comp l := by
  induction l generalizing ls comp with
  | nil => rfl
  | cons p more ih =>
    obtain ⟨t, q⟩ := p
    obtain ⟨hch, hres⟩ := hflat (t, q) (by simp)
    obtain ⟨r, key, children⟩ := q
    simp only [CReq.children] at hch
    subst hch
    simp only [CReq.r, CReq.key] at hres
    obtain ⟨⟨ls', res⟩, hl⟩ : ∃ p, Loader.load c.cfg c.fs ls r = some p := ⟨_, by rw [load_eq, hres]; rfl⟩
    simp only [serial, seqLoads, CReq.r, hl]
    rw [atomicLoad_eq_load c t ls ls' comp r key res hres hl]
    exact ih _ _ fun p hp => hflat p (List.mem_cons_of_mem _ hp)

theorem seqLoads_inv (cfg : Cfg) (fs : FS) (clock : Nat) (ls : LState) (comp : List (Tid × Req × Res))
    (l : List (Tid × CReq)) (hi : Inv ⟨fs, clock, ls⟩) :
    Inv ⟨fs, clock, (seqLoads cfg fs ls comp l).1⟩ := by
  induction l generalizing ls comp with
  | nil => exact hi
  | cons p more ih =>
    obtain ⟨t, q⟩ := p
    simp only [seqLoads]
    cases hl : Loader.load cfg fs ls q.r with
    | none => exact ih ls comp hi
    | some p =>
      obtain ⟨ls', res⟩ := p
      exact ih ls' _ (inv_load (w := ⟨fs, clock, ls⟩) hi hl)

/-- everything a thread still has to do, is doing at top level, or has logged, is one of the
    requests of its program -/
structure MInv (progs : List (List CReq)) (g : G) : Prop where
  todo : ∀ t q, q ∈ (g.threads t).todo → q ∈ progs.getD t []
  bottom : ∀ t f, (g.threads t).stack.getLast? = some f → f.req ∈ progs.getD t []
  log : ∀ p ∈ g.acqLog, p.2 ∈ progs.getD p.1 []

theorem getLast?_cons_req (f f' : Frame) (rest : List Frame) (h : f'.req = f.req) :
    ((f' :: rest).getLast?).map (·.req) = ((f :: rest).getLast?).map (·.req) := by
  cases rest with
  | nil => simp [h]
  | cons p r => simp [List.getLast?_cons_cons]

theorem CsKind.last_req {x x' : CS} (h : CsKind x x') :
    (x'.stack.getLast?).map (·.req) = (x.stack.getLast?).map (·.req) := by
  cases h with
  | idle => rfl
  | goto => exact getLast?_cons_req _ _ _ rfl
  | push => simp only [List.getLast?_cons_cons]; exact getLast?_cons_req _ _ _ rfl
  | pop => simp only [List.getLast?_cons_cons]; exact getLast?_cons_req _ _ _ rfl

theorem minv_init (ls : LState) (progs : List (List CReq)) : MInv progs (G.init ls progs) :=
  ⟨fun t q h => by simpa [G.init] using h, fun t f h => by simp [G.init] at h, fun p h => by simp [G.init] at h⟩

theorem minv_step {c : CCfg} {progs : List (List CReq)} {g g' : G} {t : Tid} (hm : MInv progs g)
    (h : step c g t = some g') : MInv progs g' := by
  have hk := step_kind h
  have hlast : ∀ f, (afterCs c g t).stack.getLast? = some f → f.req ∈ progs.getD t [] := by
    intro f hf
    have h1 := (csStep_kind c t ⟨g.ls, (g.threads t).stack, g.completed⟩).last_req
    have hf' : (csStep c t ⟨g.ls, (g.threads t).stack, g.completed⟩).stack.getLast? = some f := hf
    rw [hf'] at h1
    cases hl : (g.threads t).stack.getLast? with
    | none => rw [hl] at h1; cases h1
    | some f0 =>
      rw [hl] at h1
      have h2 : f.req = f0.req := Option.some.inj h1
      rw [h2]; exact hm.bottom t f0 hl
  -- the thread that steps: what it has to call shrinks, the bottom of its stack stays in its program
  obtain ⟨htodo, hbottom, hlog⟩ : (∀ q, q ∈ (g'.threads t).todo → q ∈ (g.threads t).todo) ∧
      (∀ f, (g'.threads t).stack.getLast? = some f → f.req ∈ progs.getD t []) ∧
      (∀ p ∈ g'.acqLog, p.2 ∈ progs.getD p.1 []) := by
    cases hk with
    | call q more hs ht hg =>
      subst hg
      simp only [setThread_same, ht]
      refine ⟨fun q' hq' => List.mem_cons_of_mem _ hq', fun f hf => ?_, hm.log⟩
      cases hf
      exact hm.todo t q (by rw [ht]; exact List.mem_cons_self ..)
    | ret q res hs hg =>
      subst hg
      simp only [setThread_same]
      exact ⟨fun _ hq' => hq', fun f hf => (nomatch hf), hm.log⟩
    | acq q rest hs hcan hg =>
      subst hg
      simp only [setThread_same]
      refine ⟨fun _ hq' => hq', hlast, fun p hp => ?_⟩
      split at hp
      · rcases List.mem_append.mp hp with hp | hp
        · exact hm.log p hp
        · cases List.mem_singleton.mp hp
          have : rest = [] := List.isEmpty_iff.mp ‹_›
          exact hm.bottom t ⟨q, .start⟩ (by rw [hs, this]; rfl)
      · exact hm.log p hp
    | cs hs hg =>
      subst hg
      simp only [setThread_same]
      exact ⟨fun _ hq' => hq', hlast, hm.log⟩
  refine ⟨fun u q hq => ?_, fun u f hf => ?_, hlog⟩
  · by_cases hu : u = t
    · subst hu; exact hm.todo u q (htodo q hq)
    · rw [hk.others hu] at hq; exact hm.todo u q hq
  · by_cases hu : u = t
    · subst hu; exact hbottom f hf
    · rw [hk.others hu] at hf; exact hm.bottom u f hf

theorem minv_exec {c : CCfg} {progs : List (List CReq)} {g : G} (hm : MInv progs g) (sched : List Tid) :
    MInv progs (exec c g sched) :=
  exec_induction minv_step hm sched

def logOf (t : Tid) (log : List (Tid × CReq)) : List CReq := (log.filter fun p => p.1 == t).map (·.2)

/-- what thread `t` has logged, then what it is waiting to acquire for, then what it still has to
    call, is its program -/
def PInv (progs : List (List CReq)) (g : G) : Prop :=
  ∀ t, logOf t g.acqLog ++ headWait (g.threads t).stack ++ (g.threads t).todo = progs.getD t []

theorem logOf_append_other {t u : Tid} (log : List (Tid × CReq)) (q : CReq) (h : u ≠ t) :
    logOf u (log ++ [(t, q)]) = logOf u log := by
  have : ((t, q).1 == u) = false := by simpa using fun e : t = u => h e.symm
  simp [logOf, List.filter_append, this]

theorem logOf_append_self (t : Tid) (log : List (Tid × CReq)) (q : CReq) :
    logOf t (log ++ [(t, q)]) = logOf t log ++ [q] := by
  simp [logOf, List.filter_append]

theorem pinv_init (ls : LState) (progs : List (List CReq)) : PInv progs (G.init ls progs) := by
  intro t; simp [G.init, logOf, headWait]

theorem pinv_step {c : CCfg} {progs : List (List CReq)} {g g' : G} {t : Tid} (hi : GInv g)
    (hp : PInv progs g) (h : step c g t = some g') : PInv progs g' := by
  have hk := step_kind h
  intro u
  by_cases hu : u = t
  · subst hu
    have := hp u
    cases hk with
    | call q more hs ht hg =>
      subst hg
      rw [hs, ht] at this
      simpa [setThread_same, headWait] using this
    | ret q res hs hg =>
      subst hg
      rw [hs] at this
      simpa [setThread_same, headWait] using this
    | acq q rest hs hcan hg =>
      subst hg
      have hst : (afterCs c g u).stack = ⟨q, .acquired⟩ :: rest := by simp [afterCs, hs, csStep]
      rw [hs] at this
      cases rest with
      | nil =>
        simp only [List.isEmpty_nil, if_true, setThread_same, hst, logOf_append_self]
        simpa [headWait] using this
      | cons f r =>
        rw [headWait_two] at this
        simpa [setThread_same, hst, headWait_two] using this
    | cs hs hg =>
      have hsh := hi.owner_shape (hi.owner_of_inside hs)
      have hafter : headWait (afterCs c g u).stack = [] :=
        (csStep_kind c u ⟨g.ls, (g.threads u).stack, g.completed⟩).not_lone_start hsh hs
      subst hg
      rw [headWait_of_not_outside hs] at this
      simpa [setThread_same, hafter] using this
  · rw [hk.others hu]
    have hlog : logOf u g'.acqLog = logOf u g.acqLog := by
      cases hk with
      | acq q rest hs hcan hg =>
        subst hg
        show logOf u (if rest.isEmpty then g.acqLog ++ [(t, q)] else g.acqLog) = _
        split
        · exact logOf_append_other _ _ hu
        · rfl
      | call _ _ _ _ hg => subst hg; rfl
      | ret _ _ _ hg => subst hg; rfl
      | cs _ hg => subst hg; rfl
    rw [hlog]
    exact hp u

theorem pinv_exec {c : CCfg} {progs : List (List CReq)} {g : G} (hi : GInv g) (hp : PInv progs g)
    (sched : List Tid) : PInv progs (exec c g sched) :=
  hi.exec_induction pinv_step hp sched

end Genshi.Conc
