/-
  `balance` / `WellNested`, shared by the stream properties: under `++`, over events that are neither START nor
  END, at a START and at an END; and the forest view: a well-nested stream is the flattening of a forest whose
  leaves are no START or END events (`okList`, `balance_flattenList`, `wellNested_flatten_forest`).
-/
import Genshi.Model.Core
namespace Genshi

theorem balance_append (st : List QName) (a b : Stream) :
    balance st (a ++ b) = (balance st a).bind (fun st' => balance st' b) := by
  fun_induction balance st a
  case case1 | case5 => rfl
  case case2 ih => exact ih
  case case3 ih => simp only [List.cons_append, balance, ↓reduceIte]; exact ih
  case case4 h => simp only [List.cons_append, balance, h, ↓reduceIte]; rfl
  case case6 h1 h2 h3 ih => rw [List.cons_append, balance.eq_5 _ _ _ h1 h2 h3]; exact ih

theorem balance_prefix (st : List QName) (a b : Stream) (x : List QName)
    (h : balance st (a ++ b) = some x) : ∃ y, balance st a = some y := by
  rw [balance_append] at h
  cases hb : balance st a with
  | none => simp [hb] at h
  | some y => exact ⟨y, rfl⟩

theorem balance_cons_congr (e : Event) {a b : Stream} (h : ∀ st, balance st a = balance st b) (st : List QName) :
    balance st (e :: a) = balance st (e :: b) := by
  rw [← List.singleton_append (l := a), ← List.singleton_append (l := b), balance_append, balance_append]
  exact congrArg _ (funext h)

theorem wellNested_append {a b : Stream} (ha : WellNested a) (hb : WellNested b) :
    WellNested (a ++ b) := by
  unfold WellNested at *; rw [balance_append, ha]; exact hb

/-- streams that `balance` cannot tell apart are well nested together -/
theorem wellNested_congr {a b : Stream} (h : balance [] a = balance [] b) : WellNested a ↔ WellNested b := by
  unfold WellNested; rw [h]

/-- a stream that `balance` reads through as if it were not there is well nested -/
theorem wellNested_of_balance_append {s : Stream} (h : ∀ rest, balance [] (s ++ rest) = balance [] rest) :
    WellNested s := by
  have := h []
  rwa [List.append_nil] at this

theorem balance_frame (a : Stream) : ∀ st st' ext, balance st a = some st' →
    balance (st ++ ext) a = some (st' ++ ext) := by
  intro st st' ext
  fun_induction balance st a
  case case1 => intro h; rw [Option.some.inj h]; rfl
  case case2 ih => exact ih
  case case3 ih => intro h; simp only [List.cons_append, balance, ↓reduceIte]; exact ih h
  case case4 | case5 => nofun
  case case6 st e es h1 h2 h3 ih =>
    have hne (t : QName) (he : e = .end_ t) : False := by
      cases st with
      | nil => exact h3 t rfl he
      | cons t' st0 => exact h2 t' st0 t rfl he
    rw [balance.eq_5 _ _ _ h1 (fun _ _ t _ => hne t) (fun t _ => hne t)]
    exact ih

theorem wellNested_wrap {a : Stream} (t : QName) (at_ : AttrList) (ha : WellNested a) :
    WellNested (.start t at_ :: (a ++ [.end_ t])) := by
  show balance [t] (a ++ [.end_ t]) = some []
  rw [balance_append, show balance [t] a = some [t] from balance_frame a [] [] [t] ha]
  show (if t = t then some [] else none) = some []
  rw [if_pos rfl]

mutual
  /-- a well-formed forest: no leaf is a START or END event (those come from `elem` nodes only) -/
  def Node.ok : Node → Bool
    | .elem _ _ ks => okList ks
    | .leaf e => !e.isStartEnd
  def okList : List Node → Bool
    | [] => true
    | n :: ns => n.ok && okList ns
end

theorem balance_skip (e : Event) (h : e.isStartEnd = false) (st : List QName) (es : Stream) :
    balance st (e :: es) = balance st es :=
  balance.eq_5 st e es (fun _ _ he => by rw [he] at h; cases h) (fun _ _ _ _ he => by rw [he] at h; cases h)
    (fun _ _ he => by rw [he] at h; cases h)

theorem balance_start (st : List QName) (t : QName) (a : AttrList) (es : Stream) :
    balance st (.start t a :: es) = balance (t :: st) es :=
  rfl

theorem balance_end_same (st : List QName) (t : QName) (es : Stream) :
    balance (t :: st) (.end_ t :: es) = balance st es :=
  if_pos rfl

/-- an EMPTY (START immediately followed by its END) does not affect nesting -/
theorem balance_empty (st : List QName) (t : QName) (a : AttrList) (es : Stream) :
    balance st (.start t a :: .end_ t :: es) = balance st es :=
  balance_end_same st t es

/-- an END is read against the innermost open element -/
theorem balance_end_some {st : List QName} {t : QName} {es : Stream} {r : List QName}
    (h : balance st (.end_ t :: es) = some r) : ∃ st', st = t :: st' ∧ balance st' es = some r := by
  cases st with
  | nil => simp [balance] at h
  | cons t' st' =>
    by_cases ht : t = t'
    · exact ⟨st', by rw [ht], by simpa [balance, ht] using h⟩
    · simp [balance, ht] at h

theorem node_induction {P : Node → Prop} {Q : List Node → Prop}
    (elem : ∀ t a ks, Q ks → P (.elem t a ks)) (leaf : ∀ e, P (.leaf e))
    (nil : Q []) (cons : ∀ n ns, P n → Q ns → Q (n :: ns)) : (∀ n, P n) ∧ ∀ ns, Q ns :=
  ⟨fun n => Node.rec (motive_1 := P) (motive_2 := Q) elem leaf nil cons n,
   fun ns => Node.rec_1 (motive_1 := P) (motive_2 := Q) elem leaf nil cons ns⟩

theorem flattenList_append (a b : List Node) : flattenList (a ++ b) = flattenList a ++ flattenList b := by
  induction a with
  | nil => rfl
  | cons n ns ih => rw [List.cons_append, flattenList, flattenList, ih, List.append_assoc]

theorem okList_append (a b : List Node) : okList (a ++ b) = (okList a && okList b) := by
  induction a with
  | nil => rfl
  | cons n ns ih => rw [List.cons_append, okList, okList, ih, Bool.and_assoc]

theorem balance_flatten_both :
    (∀ (n : Node) (st : List QName) (rest : Stream), n.ok = true →
      balance st (n.flatten ++ rest) = balance st rest) ∧
    ∀ (ns : List Node) (st : List QName) (rest : Stream), okList ns = true →
      balance st (flattenList ns ++ rest) = balance st rest := by
  refine node_induction (fun t a ks ih st rest h => ?_) (fun e st rest h => ?_) (fun _ _ _ => rfl)
    (fun n ns ihn ihns st rest h => ?_)
  · show balance (t :: st) ((flattenList ks ++ [.end_ t]) ++ rest) = _
    rw [List.append_assoc, ih (t :: st) _ h]
    show (if t = t then balance st rest else none) = _
    rw [if_pos rfl]
  · exact balance_skip e (by simpa [Node.ok] using h) st rest
  · simp only [okList, Bool.and_eq_true] at h
    show balance st ((n.flatten ++ flattenList ns) ++ rest) = _
    rw [List.append_assoc, ihn st _ h.1, ihns st rest h.2]

theorem balance_flatten : ∀ (n : Node) (st : List QName) (rest : Stream), n.ok = true →
    balance st (n.flatten ++ rest) = balance st rest :=
  balance_flatten_both.1

theorem balance_flattenList : ∀ (ns : List Node) (st : List QName) (rest : Stream), okList ns = true →
    balance st (flattenList ns ++ rest) = balance st rest :=
  balance_flatten_both.2

theorem wellNested_flattenList (ns : List Node) (h : okList ns = true) : WellNested (flattenList ns) := by
  unfold WellNested
  have := balance_flattenList ns [] [] h
  simpa [balance] using this

theorem Event.startEnd_cases (e : Event) :
    (∃ t a, e = .start t a) ∨ (∃ t, e = .end_ t) ∨ e.isStartEnd = false := by
  cases e
  case start t a => exact .inl ⟨t, a, rfl⟩
  case end_ t => exact .inr (.inl ⟨t, rfl⟩)
  all_goals exact .inr (.inr rfl)

theorem balance_forest : ∀ (n : Nat) (s : Stream), s.length ≤ n → ∀ (st st' : List QName),
    balance st s = some st' → st'.length ≤ st.length →
    ∃ ns, okList ns = true ∧ ((s = flattenList ns ∧ st' = st) ∨
      ∃ t st0 rest, st = t :: st0 ∧ s = flattenList ns ++ .end_ t :: rest ∧ balance st0 rest = some st') := by
  intro n
  induction n with
  | zero =>
    intro s hl st st' hb _
    obtain rfl : s = [] := List.length_eq_zero_iff.mp (Nat.le_zero.mp hl)
    exact ⟨[], rfl, .inl ⟨rfl, (Option.some.inj hb).symm⟩⟩
  | succ n ih =>
    intro s hl st st' hb hlen
    cases s with
    | nil => exact ⟨[], rfl, .inl ⟨rfl, (Option.some.inj hb).symm⟩⟩
    | cons e r =>
      have hlr : r.length ≤ n := Nat.le_of_succ_le_succ hl
      rcases e.startEnd_cases with ⟨u, a, rfl⟩ | ⟨u, rfl⟩ | he
      · -- the element `u` is closed in `r` (the stack ends no deeper than `st`); go on after it
        obtain ⟨ns1, hok1, ⟨_, h⟩ | ⟨_, _, rest1, hst, hr, hb1⟩⟩ := ih r hlr (u :: st) st' hb (Nat.le_succ_of_le hlen)
        · rw [h] at hlen; exact absurd hlen (Nat.not_succ_le_self _)
        · obtain ⟨rfl, rfl⟩ := List.cons.inj hst
          have hl1 : rest1.length ≤ n := by
            have := congrArg List.length hr
            simp only [List.length_append, List.length_cons] at this; omega
          obtain ⟨ns2, hok2, h2⟩ := ih rest1 hl1 _ st' hb1 hlen
          have hfl : ∀ tl, Event.start u a :: r = flattenList (.elem u a ns1 :: ns2) ++ tl ↔
              rest1 = flattenList ns2 ++ tl := by
            intro tl; simp [flattenList, Node.flatten, hr]
          refine ⟨.elem u a ns1 :: ns2, by simp [okList, Node.ok, hok1, hok2], ?_⟩
          rcases h2 with ⟨h2, hst'⟩ | ⟨t, st0, rest2, hst2, h2, hb2⟩
          · exact .inl ⟨by simpa using (hfl []).mpr (by simpa using h2), hst'⟩
          · exact .inr ⟨t, st0, rest2, hst2, (hfl _).mpr h2, hb2⟩
      · obtain ⟨st0, rfl, hb'⟩ := balance_end_some hb
        exact ⟨[], rfl, .inr ⟨u, st0, r, rfl, rfl, hb'⟩⟩
      · rw [balance_skip e he] at hb
        obtain ⟨ns, hok, h⟩ := ih r hlr st st' hb hlen
        refine ⟨.leaf e :: ns, by simp [okList, Node.ok, he, hok], ?_⟩
        rcases h with ⟨h, hst'⟩ | ⟨t, st0, rest, hst, h, hb'⟩
        · exact .inl ⟨by simp [flattenList, Node.flatten, h], hst'⟩
        · exact .inr ⟨t, st0, rest, hst, by simp [flattenList, Node.flatten, h], hb'⟩

theorem wellNested_flatten_forest {s : Stream} (h : WellNested s) :
    ∃ ns, okList ns = true ∧ s = flattenList ns := by
  obtain ⟨ns, hok, ⟨hs, _⟩ | ⟨_, _, _, hst, _⟩⟩ := balance_forest s.length s (Nat.le_refl _) [] [] h (Nat.le_refl _)
  · exact ⟨ns, hok, hs⟩
  · cases hst

/-- in a forest every END event has the START event of its element -/
theorem end_mem_flatten_both :
    (∀ (n : Node) t, n.ok = true → Event.end_ t ∈ n.flatten → ∃ a, Event.start t a ∈ n.flatten) ∧
    ∀ (ns : List Node) t, okList ns = true → Event.end_ t ∈ flattenList ns → ∃ a, Event.start t a ∈ flattenList ns := by
  refine node_induction (fun u a ks ih t hok h => ?_) (fun e t hok h => ?_) (fun t _ h => nomatch h)
    (fun n ns ihn ihns t hok h => ?_)
  · simp only [Node.flatten, List.mem_cons, List.mem_append, reduceCtorEq, false_or] at h ⊢
    rcases h with h | h | h
    · obtain ⟨a', h'⟩ := ih t hok h; exact ⟨a', .inr (.inl h')⟩
    · cases h; exact ⟨a, .inl rfl⟩
    · cases h
  · cases List.mem_singleton.mp h; cases hok
  · simp only [okList, Bool.and_eq_true] at hok
    simp only [flattenList, List.mem_append] at h ⊢
    rcases h with h | h
    · obtain ⟨a, h'⟩ := ihn t hok.1 h; exact ⟨a, .inl h'⟩
    · obtain ⟨a, h'⟩ := ihns t hok.2 h; exact ⟨a, .inr h'⟩

theorem wellNested_end_start {s : Stream} (h : WellNested s) {t : QName} (hm : Event.end_ t ∈ s) :
    ∃ a, Event.start t a ∈ s := by
  obtain ⟨ns, hok, rfl⟩ := wellNested_flatten_forest h
  exact end_mem_flatten_both.2 ns t hok hm

end Genshi
