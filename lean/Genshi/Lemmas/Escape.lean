/-
  Helper lemmas for C18 (and for every property that reasons about escaped
  text): `str.replace` on block-structured strings, the C byte scan, UTF-8.
-/
import Genshi.Model.Escape
namespace Genshi.Escape
open Genshi.Str

theorem replaceGo_skip (pat new : List Char) (xs rest : List Char) :
    replaceGo pat new xs.length (xs ++ rest) = replaceGo pat new 0 rest := by
  induction xs with
  | nil => rfl
  | cons x xs ih => exact ih

theorem replaceGo_nil (pat new : List Char) (k : Nat) : replaceGo pat new k [] = [] := by
  cases k <;> rfl

theorem replaceGo_pass (x : Char) (p new b rest : List Char) (hb : x ∉ b) :
    replaceGo (x :: p) new 0 (b ++ rest) = b ++ replaceGo (x :: p) new 0 rest := by
  induction b with
  | nil => rfl
  | cons c cs ih =>
    have hc : (x == c) = false := by simpa using fun h : x = c => hb (h ▸ List.mem_cons_self)
    simp only [List.cons_append, replaceGo, List.isPrefixOf, hc, Bool.false_and, Bool.false_eq_true, ↓reduceIte,
      ih fun h => hb (List.mem_cons_of_mem _ h)]

theorem replaceGo_absent (x : Char) (p new s : List Char) (h : x ∉ s) : replaceGo (x :: p) new 0 s = s := by
  have := replaceGo_pass x p new s [] h
  rwa [List.append_nil, replaceGo_nil, List.append_nil] at this

theorem replace_absent (x : Char) (p new s : List Char) (h : x ∉ s) : replace (x :: p) new s = s :=
  replaceGo_absent x p new s h

theorem replaceGo_hit (x : Char) (p new rest : List Char) :
    replaceGo (x :: p) new 0 (x :: p ++ rest) = new ++ replaceGo (x :: p) new 0 rest := by
  have hp : (x :: p).isPrefixOf (x :: (p ++ rest)) = true := by simp
  simp only [List.cons_append, replaceGo, hp, ↓reduceIte, List.length_cons, Nat.add_sub_cancel, replaceGo_skip]

theorem replaceGo_miss (a x y : Char) (p new b rest : List Char) (hxy : (x == y) = false) (hb : a ∉ y :: b) :
    replaceGo (a :: x :: p) new 0 (a :: y :: b ++ rest) = a :: y :: b ++ replaceGo (a :: x :: p) new 0 rest := by
  simp only [List.cons_append, replaceGo, List.isPrefixOf, hxy, Bool.false_and, Bool.and_false, Bool.false_eq_true,
    ↓reduceIte]
  exact congrArg _ (replaceGo_pass a _ _ (y :: b) rest hb)

/-- `replace` works block by block on a text cut into blocks none of which a match straddles -/
theorem replaceGo_flatMap {α : Type} (pat new : List Char) (f g : α → List Char) : ∀ (s : List α),
    (∀ a ∈ s, ∀ rest, replaceGo pat new 0 (f a ++ rest) = g a ++ replaceGo pat new 0 rest) →
    replaceGo pat new 0 (s.flatMap f) = s.flatMap g
  | [], _ => rfl
  | a :: s, h => by
    rw [List.flatMap_cons, List.flatMap_cons, h a List.mem_cons_self,
      replaceGo_flatMap pat new f g s fun x hx => h x (List.mem_cons_of_mem _ hx)]

theorem replace_single (c : Char) (new s : List Char) :
    replace [c] new s = s.flatMap (fun x => if x = c then new else [x]) := by
  show replaceGo [c] new 0 s = _
  rw [← replaceGo_flatMap [c] new (fun x => [x]) _ s, List.flatMap_singleton']
  intro x _ rest
  by_cases hx : x = c
  · rw [if_pos hx, hx]; exact replaceGo_hit c [] new rest
  · rw [if_neg hx]; exact replaceGo_pass c [] new [x] rest fun h => hx (List.mem_singleton.mp h).symm

theorem special_or_plain (c : Char) :
    c = '"' ∨ c = '>' ∨ c = '<' ∨ c = '&' ∨ (c ≠ '"' ∧ c ≠ '>' ∧ c ≠ '<' ∧ c ≠ '&') := by
  by_cases h1 : c = '"'; · exact .inl h1
  by_cases h2 : c = '>'; · exact .inr (.inl h2)
  by_cases h3 : c = '<'; · exact .inr (.inr (.inl h3))
  by_cases h4 : c = '&'; · exact .inr (.inr (.inr (.inl h4)))
  exact .inr (.inr (.inr (.inr ⟨h1, h2, h3, h4⟩)))

theorem escC_plain (q : Bool) {c : Char} (h : c ≠ '"' ∧ c ≠ '>' ∧ c ≠ '<' ∧ c ≠ '&') : escC q c = [c] := by
  simp only [escC, h.1, h.2.1, h.2.2.1, h.2.2.2, ↓reduceIte]

theorem escC_ne_nil (q : Bool) (c : Char) : escC q c ≠ [] := by
  rcases special_or_plain c with rfl | rfl | rfl | rfl | h
  · cases q <;> exact List.cons_ne_nil _ _
  · exact List.cons_ne_nil _ _
  · exact List.cons_ne_nil _ _
  · exact List.cons_ne_nil _ _
  · rw [escC_plain q h]; exact List.cons_ne_nil _ _

theorem escapeSpec_cons (q : Bool) (c : Char) (s : List Char) : escapeSpec q (c :: s) = escC q c ++ escapeSpec q s :=
  List.flatMap_cons

theorem escapeSpec_append (q : Bool) (a b : List Char) : escapeSpec q (a ++ b) = escapeSpec q a ++ escapeSpec q b :=
  List.flatMap_append

theorem escC_cases (q : Bool) (c : Char) :
    escC q c = amp ∧ c = '&' ∨ escC q c = lt ∧ c = '<' ∨ escC q c = gt ∧ c = '>' ∨
    escC q c = qt ∧ c = '"' ∧ q = true ∨
    escC q c = [c] ∧ c ≠ '&' ∧ c ≠ '<' ∧ c ≠ '>' ∧ (q = true → c ≠ '"') := by
  rcases special_or_plain c with rfl | rfl | rfl | rfl | h
  · cases q
    · exact .inr (.inr (.inr (.inr ⟨rfl, by decide, by decide, by decide, nofun⟩)))
    · exact .inr (.inr (.inr (.inl ⟨rfl, rfl, rfl⟩)))
  · exact .inr (.inr (.inl ⟨rfl, rfl⟩))
  · exact .inr (.inl ⟨rfl, rfl⟩)
  · exact .inl ⟨rfl, rfl⟩
  · exact .inr (.inr (.inr (.inr ⟨escC_plain q h, h.2.2.2, h.2.2.1, h.2.1, fun _ => h.1⟩)))

/-- the characters of the four references `escape` writes -/
def entityChars : List Char := ['&', 'a', 'm', 'p', ';', 'l', 't', 'g', '#', '3', '4']

/-- a character of escaped text belongs to a reference, or is the source character, which then is
    not one that `escape` replaces -/
theorem mem_escC (q : Bool) (c x : Char) (h : x ∈ escC q c) :
    x ∈ entityChars ∨ (x = c ∧ c ≠ '&' ∧ c ≠ '<' ∧ c ≠ '>' ∧ (q = true → c ≠ '"')) := by
  rcases escC_cases q c with ⟨e, _⟩ | ⟨e, _⟩ | ⟨e, _⟩ | ⟨e, _⟩ | ⟨e, h1, h2, h3, h4⟩ <;> rw [e] at h
  · exact .inl ((by decide : ∀ y ∈ amp, y ∈ entityChars) x h)
  · exact .inl ((by decide : ∀ y ∈ lt, y ∈ entityChars) x h)
  · exact .inl ((by decide : ∀ y ∈ gt, y ∈ entityChars) x h)
  · exact .inl ((by decide : ∀ y ∈ qt, y ∈ entityChars) x h)
  · exact .inr ⟨List.mem_singleton.mp h, h1, h2, h3, h4⟩

theorem forall_mem_escC (q : Bool) {P : Char → Prop} (c : Char) (hc : P c) (href : ∀ x ∈ entityChars, P x) :
    ∀ x ∈ escC q c, P x := fun x hx =>
  (mem_escC q c x hx).elim (href x) fun h => h.1 ▸ hc

theorem forall_mem_escapeSpec (q : Bool) {P : Char → Prop} (s : List Char) (hs : ∀ c ∈ s, P c)
    (href : ∀ x ∈ entityChars, P x) : ∀ x ∈ escapeSpec q s, P x := fun x hx =>
  let ⟨c, hc, hxc⟩ := List.mem_flatMap.mp hx
  forall_mem_escC q c (hs c hc) href x hxc

/-- the names of the references, by the character each stands for -/
def entityNames (q : Bool) : List (Char × List Char) :=
  [('&', ['a', 'm', 'p']), ('<', ['l', 't']), ('>', ['g', 't'])] ++ if q then [('"', ['#', '3', '4'])] else []

/-- an escaped character is itself or `&name;` for its entry of the table: what a decoder needs to know -/
theorem escC_entity (q : Bool) (c : Char) :
    (escC q c = [c] ∧ c ≠ '&' ∧ c ≠ '<' ∧ c ≠ '>' ∧ (q = true → c ≠ '"')) ∨
      ∃ name, (c, name) ∈ entityNames q ∧ escC q c = '&' :: name ++ [';'] := by
  rcases escC_cases q c with ⟨e, rfl⟩ | ⟨e, rfl⟩ | ⟨e, rfl⟩ | ⟨e, rfl, rfl⟩ | h
  · exact .inr ⟨['a', 'm', 'p'], by cases q <;> decide, e⟩
  · exact .inr ⟨['l', 't'], by cases q <;> decide, e⟩
  · exact .inr ⟨['g', 't'], by cases q <;> decide, e⟩
  · exact .inr ⟨['#', '3', '4'], by decide, e⟩
  · exact .inl h

theorem escapeSpec_no_raw (q : Bool) (s : List Char) :
    '<' ∉ escapeSpec q s ∧ '>' ∉ escapeSpec q s ∧ (q = true → '"' ∉ escapeSpec q s) := by
  -- a character outside the references can only be a source character that was not replaced
  have k (x : Char) (hx : x ∉ entityChars)
      (hne : ∀ c, x = c → c ≠ '&' ∧ c ≠ '<' ∧ c ≠ '>' ∧ (q = true → c ≠ '"') → False) : x ∉ escapeSpec q s := fun hm =>
    let ⟨c, _, hc⟩ := List.mem_flatMap.mp hm
    (mem_escC q c x hc).elim hx fun h => hne c h.1 h.2
  exact ⟨k _ (by decide) fun _ e h => h.2.1 e.symm, k _ (by decide) fun _ e h => h.2.2.1 e.symm,
    fun hq => k _ (by decide) fun _ e h => h.2.2.2 hq e.symm⟩

theorem escapePy_eq_spec (q : Bool) (s : List Char) : escapePy q s = escapeSpec q s := by
  -- each `replace` is a `flatMap`; their composition sends `c` to `escC q c`
  have h (c : Char) : ((((if c = '&' then amp else [c]).flatMap fun x => if x = '<' then lt else [x]).flatMap
      fun x => if x = '>' then gt else [x]).flatMap fun x => if q = true ∧ x = '"' then qt else [x]) = escC q c := by
    rcases special_or_plain c with rfl | rfl | rfl | rfl | h
    · cases q <;> rfl
    · cases q <;> rfl
    · cases q <;> rfl
    · cases q <;> rfl
    · simp [escC_plain q h, h.1, h.2.1, h.2.2.1, h.2.2.2]
  unfold escapePy escapeSpec
  rw [← funext h]
  cases q <;> simp [replace_single, List.flatMap_assoc]

theorem escapePy_nil (q : Bool) : escapePy q [] = [] := by rw [escapePy_eq_spec]; rfl

theorem escapePy_append (q : Bool) (a b : List Char) : escapePy q (a ++ b) = escapePy q a ++ escapePy q b := by
  simp only [escapePy_eq_spec, escapeSpec_append]

/-- the text after `k` of the four `replace` calls of `unescape`, per source character -/
def stage (q : Bool) (k : Nat) (c : Char) : List Char :=
  if c = '"' then (if q && k == 0 then qt else [c])
  else if c = '>' then (if k ≤ 1 then gt else [c])
  else if c = '<' then (if k ≤ 2 then lt else [c])
  else if c = '&' then (if k ≤ 3 then amp else [c])
  else [c]

theorem stage_plain (q : Bool) (k : Nat) {c : Char} (h : c ≠ '"' ∧ c ≠ '>' ∧ c ≠ '<' ∧ c ≠ '&') :
    stage q k c = [c] := by
  simp only [stage, h.1, h.2.1, h.2.2.1, h.2.2.2, ↓reduceIte]

theorem stage_zero (q : Bool) (c : Char) : stage q 0 c = escC q c := by
  rcases special_or_plain c with rfl | rfl | rfl | rfl | h
  · cases q <;> rfl
  · rfl
  · rfl
  · rfl
  · rw [stage_plain q 0 h, escC_plain q h]

theorem stage_four (q : Bool) (c : Char) : stage q 4 c = [c] := by
  rcases special_or_plain c with rfl | rfl | rfl | rfl | h
  · cases q <;> rfl
  · rfl
  · rfl
  · rfl
  · exact stage_plain q 4 h

/-- the four `replace` calls of `unescape` on the block of one source character: each decodes its own
    reference and leaves the others, and plain characters, alone -/
theorem stage_steps (q : Bool) (c : Char) (rest : List Char) :
    (replaceGo qt ['"'] 0 (stage q 0 c ++ rest) = stage q 1 c ++ replaceGo qt ['"'] 0 rest) ∧
    (replaceGo gt ['>'] 0 (stage q 1 c ++ rest) = stage q 2 c ++ replaceGo gt ['>'] 0 rest) ∧
    (replaceGo lt ['<'] 0 (stage q 2 c ++ rest) = stage q 3 c ++ replaceGo lt ['<'] 0 rest) ∧
    (replaceGo amp ['&'] 0 (stage q 3 c ++ rest) = stage q 4 c ++ replaceGo amp ['&'] 0 rest) := by
  rcases special_or_plain c with rfl | rfl | rfl | rfl | h
  · cases q
    · exact ⟨replaceGo_pass _ _ _ ['"'] rest (by decide), replaceGo_pass _ _ _ ['"'] rest (by decide),
        replaceGo_pass _ _ _ ['"'] rest (by decide), replaceGo_pass _ _ _ ['"'] rest (by decide)⟩
    · exact ⟨replaceGo_hit _ _ _ rest, replaceGo_pass _ _ _ ['"'] rest (by decide),
        replaceGo_pass _ _ _ ['"'] rest (by decide), replaceGo_pass _ _ _ ['"'] rest (by decide)⟩
  · exact ⟨replaceGo_miss _ _ _ _ _ ['t', ';'] rest rfl (by decide), replaceGo_hit _ _ _ rest,
      replaceGo_pass _ _ _ ['>'] rest (by decide), replaceGo_pass _ _ _ ['>'] rest (by decide)⟩
  · exact ⟨replaceGo_miss _ _ _ _ _ ['t', ';'] rest rfl (by decide),
      replaceGo_miss _ _ _ _ _ ['t', ';'] rest rfl (by decide),
      replaceGo_hit _ _ _ rest, replaceGo_pass _ _ _ ['<'] rest (by decide)⟩
  · exact ⟨replaceGo_miss _ _ _ _ _ ['m', 'p', ';'] rest rfl (by decide),
      replaceGo_miss _ _ _ _ _ ['m', 'p', ';'] rest rfl (by decide),
      replaceGo_miss _ _ _ _ _ ['m', 'p', ';'] rest rfl (by decide), replaceGo_hit _ _ _ rest⟩
  · have hc : '&' ∉ [c] := fun hm => h.2.2.2 (List.mem_singleton.mp hm).symm
    simp only [stage_plain q _ h]
    exact ⟨replaceGo_pass _ _ _ [c] rest hc, replaceGo_pass _ _ _ [c] rest hc, replaceGo_pass _ _ _ [c] rest hc,
      replaceGo_pass _ _ _ [c] rest hc⟩

/-- `unescape` inverts escaping whatever `quotes` setting each character was escaped under -/
theorem unescape_flatMap_escC {α : Type} (q : α → Bool) (ch : α → Char) (xs : List α) :
    unescape (xs.flatMap fun a => escC (q a) (ch a)) = xs.map ch := by
  have h0 : (xs.flatMap fun a => escC (q a) (ch a)) = xs.flatMap fun a => stage (q a) 0 (ch a) := by
    simp only [stage_zero]
  have h4 : (xs.flatMap fun a => stage (q a) 4 (ch a)) = xs.map ch := by
    simp only [stage_four]; exact List.map_eq_flatMap.symm
  show replaceGo amp ['&'] 0 (replaceGo lt ['<'] 0 (replaceGo gt ['>'] 0 (replaceGo qt ['"'] 0 _))) = _
  rw [h0, replaceGo_flatMap qt _ _ (fun a => stage (q a) 1 (ch a)) xs fun a _ rest => (stage_steps (q a) (ch a) rest).1,
    replaceGo_flatMap gt _ _ (fun a => stage (q a) 2 (ch a)) xs fun a _ rest => (stage_steps (q a) (ch a) rest).2.1,
    replaceGo_flatMap lt _ _ (fun a => stage (q a) 3 (ch a)) xs fun a _ rest => (stage_steps (q a) (ch a) rest).2.2.1,
    replaceGo_flatMap amp _ _ (fun a => stage (q a) 4 (ch a)) xs fun a _ rest => (stage_steps (q a) (ch a) rest).2.2.2, h4]

theorem unescape_escapeSpec (q : Bool) (s : List Char) : unescape (escapeSpec q s) = s :=
  (unescape_flatMap_escC (fun _ => q) id s).trans (List.map_id s)

theorem escB_id (q : Bool) (b : Nat) (h : b ≠ 38 ∧ b ≠ 60 ∧ b ≠ 62 ∧ b ≠ 34) : escB q b = [b] := by
  simp only [escB, h.1, h.2.1, h.2.2.1, h.2.2.2, ↓reduceIte]

theorem byte_cases (b : Nat) : b = 38 ∨ b = 34 ∨ b = 60 ∨ b = 62 ∨ (b ≠ 38 ∧ b ≠ 60 ∧ b ≠ 62 ∧ b ≠ 34) := by
  by_cases h1 : b = 38; · exact .inl h1
  by_cases h2 : b = 34; · exact .inr (.inl h2)
  by_cases h3 : b = 60; · exact .inr (.inr (.inl h3))
  by_cases h4 : b = 62; · exact .inr (.inr (.inr (.inl h4)))
  exact .inr (.inr (.inr (.inr ⟨h1, h3, h4, h2⟩)))

theorem cCount_cons (q : Bool) (b : Nat) (bs : List Nat) :
    cCount q (b :: bs) =
      ((cCount q bs).1 + (escB q b).length, (cCount q bs).2 + if escB q b = [b] then 0 else 1) := by
  rw [cCount]
  rcases cCount q bs with ⟨len, inn⟩
  rcases byte_cases b with rfl | rfl | rfl | rfl | h
  · rfl
  · cases q <;> rfl
  · rfl
  · rfl
  · simp [escB_id q b h, h.1, h.2.1, h.2.2.1, h.2.2.2]

theorem cLoop_cons (q : Bool) (inn outn b : Nat) (bs : List Nat) (h : outn ≠ inn) :
    cLoop q inn outn (b :: bs) = escB q b ++ cLoop q inn (outn + if escB q b = [b] then 0 else 1) bs := by
  show (if outn = inn then _ else _) = _
  rw [if_neg h]
  rcases byte_cases b with rfl | rfl | rfl | rfl | h
  · rfl
  · cases q <;> rfl
  · rfl
  · rfl
  · simp [escB_id q b h, h.1, h.2.1, h.2.2.1, h.2.2.2]

theorem cCount_fst (q : Bool) (bs : List Nat) : (cCount q bs).1 = (bs.flatMap (escB q)).length := by
  induction bs with
  | nil => rfl
  | cons b bs ih => rw [cCount_cons, List.flatMap_cons, List.length_append, ih, Nat.add_comm]

theorem flatMap_escB_of_count_zero (q : Bool) (bs : List Nat) (h : (cCount q bs).2 = 0) :
    bs.flatMap (escB q) = bs := by
  induction bs with
  | nil => rfl
  | cons b bs ih =>
    rw [cCount_cons] at h
    have hb : escB q b = [b] := Decidable.by_contra fun hb => by rw [if_neg hb] at h; omega
    rw [List.flatMap_cons, hb, ih (Nat.eq_zero_of_add_eq_zero_right h)]; rfl

/-- `outn` counts the replacements made so far; once all `inn` are made the rest is copied -/
theorem cLoop_spec (q : Bool) (inn : Nat) (bs : List Nat) :
    ∀ outn, outn + (cCount q bs).2 = inn → cLoop q inn outn bs = bs.flatMap (escB q) := by
  induction bs with
  | nil => intro outn _; rfl
  | cons b bs ih =>
    intro outn h
    by_cases h0 : outn = inn
    · rw [flatMap_escB_of_count_zero q (b :: bs) (by omega)]
      show (if outn = inn then _ else _) = _
      rw [if_pos h0]
    · rw [cCount_cons] at h
      rw [cLoop_cons q inn outn b bs h0, List.flatMap_cons, ih _ (by omega)]

theorem escapeCBytes_spec (q : Bool) (bs : List Nat) :
    escapeCBytes q bs = (bs.flatMap (escB q), (bs.flatMap (escB q)).length) := by
  unfold escapeCBytes
  have h1 := cCount_fst q bs
  have h2 := cLoop_spec q (cCount q bs).2 bs 0 (Nat.zero_add _)
  have h3 := flatMap_escB_of_count_zero q bs
  generalize cCount q bs = p at h1 h2 h3
  obtain ⟨len, inn⟩ := p
  dsimp only at h1 h2 h3 ⊢
  by_cases h : inn = 0
  · rw [if_pos h, h3 h]
  · rw [if_neg h, h2, h1]

theorem flatMap_eq_self {α : Type} (f : α → List α) (l : List α) (h : ∀ x ∈ l, f x = [x]) :
    l.flatMap f = l := by
  induction l with
  | nil => rfl
  | cons x l ih =>
    rw [List.flatMap_cons, h x (List.mem_cons_self ..), ih fun y hy => h y (List.mem_cons_of_mem _ hy)]; rfl

theorem utf8Char_byte (c : Char) : ∀ b ∈ utf8Char c, b = c.toNat ∨ 128 ≤ b := by
  intro b hb
  unfold utf8Char at hb
  dsimp only at hb
  have hi {k x : Nat} (hk : 128 ≤ k) : b = k + x → 128 ≤ b := fun e => e ▸ Nat.le_add_right_of_le hk
  have d : 128 ≤ 128 := Nat.le_refl _
  by_cases h1 : c.toNat < 0x80
  · rw [if_pos h1] at hb; exact .inl (List.mem_singleton.mp hb)
  refine .inr ?_
  rw [if_neg h1] at hb
  by_cases h2 : c.toNat < 0x800
  · rw [if_pos h2] at hb
    simp only [List.mem_cons, List.not_mem_nil, or_false] at hb
    exact hb.elim (hi (by decide)) (hi d)
  rw [if_neg h2] at hb
  by_cases h3 : c.toNat < 0x10000
  · rw [if_pos h3] at hb
    simp only [List.mem_cons, List.not_mem_nil, or_false] at hb
    exact hb.elim (hi (by decide)) fun hb => hb.elim (hi d) (hi d)
  · rw [if_neg h3] at hb
    simp only [List.mem_cons, List.not_mem_nil, or_false] at hb
    exact hb.elim (hi (by decide)) fun hb => hb.elim (hi d) fun hb => hb.elim (hi d) (hi d)

theorem utf8Char_escB (q : Bool) (c : Char) :
    (utf8Char c).flatMap (escB q) = utf8 (escC q c) := by
  rcases special_or_plain c with rfl | rfl | rfl | rfl | h
  · cases q <;> decide
  · cases q <;> decide
  · cases q <;> decide
  · cases q <;> decide
  · -- no byte of another character is one of the four ASCII codes
    rw [escC_plain q h, utf8, List.flatMap_singleton]
    refine flatMap_eq_self _ _ fun b hb => escB_id q b ?_
    rcases utf8Char_byte c b hb with rfl | h128
    · exact ⟨fun e => h.2.2.2 (Char.toNat_inj.mp e), fun e => h.2.2.1 (Char.toNat_inj.mp e),
        fun e => h.2.1 (Char.toNat_inj.mp e), fun e => h.1 (Char.toNat_inj.mp e)⟩
    · omega

theorem utf8_escapeSpec (q : Bool) (s : List Char) :
    utf8 (escapeSpec q s) = (utf8 s).flatMap (escB q) := by
  induction s with
  | nil => rfl
  | cons c cs ih =>
    simp only [escapeSpec, utf8, List.flatMap_cons, List.flatMap_append] at ih ⊢
    rw [ih, utf8Char_escB]; rfl

end Genshi.Escape
