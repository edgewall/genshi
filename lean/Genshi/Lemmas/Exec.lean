/-
  Helper lemmas for the reachability model of C14 (`Genshi/Model/Exec.lean`): the generated
  forwarding tables of `Genshi/Gen/Exec.lean` characterised exactly (each a finite check, re-run
  whenever a table changes), the option-spelling lemmas, the flags that govern a root, and the
  invariant carried along include chains.  (`childCls`, the class an include resolves to, which
  `incl_table` speaks of, is defined with the include-graph model, `Genshi/Model/ExecGraph.lean`.)
-/
import Genshi.Model.ExecGraph
import Genshi.Lemmas.ListBasics

namespace Genshi.Props.C14
open Genshi.Exec Genshi.Gen.Exec

/-- the flag a keyword argument asks for: absent = the default = on -/
def want (q : Req) : Bool := q != .off

/-- fate of a code block in a template of class `c` whose flag is `b`: old-style text templates
    have no code blocks (`#python` is a bad directive), the others run it iff the flag is on -/
def fate (c : Cls) (b : Bool) : Verdict :=
  if c = .oldtext then .reject else if b then .exec else .reject

/-- the flag the root template itself is instantiated with -/
def rootFlag (cfg : Config) : Root → Option Bool
  | .direct _ _ _ => some (want cfg.tmpl)
  | .load _ _ => some (want cfg.loader)
  | .pluginFile _ | .pluginString _ =>
      match parseOpt cfg.opt with
      | .allow => some true
      | .deny => some false
      | _ => none

/-- the flag of the loader the root holds — the flag everything below the root is instantiated
    with -/
def heldFlag (cfg : Config) : Root → Option Bool
  | .direct _ _ true => some (want cfg.tmpl)
  | .direct _ _ false => some (want cfg.loader)
  | r => rootFlag cfg r

/-- the flag that decides the fate of a code block at a reach point: the root's own flag in the root template, the flag
    of the loader the root holds in everything included below it -/
def governing (cfg : Config) : Reach → Option Bool
  | .root r => rootFlag cfg r
  | .incl parent _ => heldFlag cfg parent.rootOf

end Genshi.Props.C14

namespace Genshi.Exec
open Genshi.Gen.Exec Genshi.Props.C14

/-- which (class, source kind) pairs exist: a parsed stream is a markup-only source -/
def srcOk (c : Cls) (s : Src) : Bool :=
  match c, s with
  | .newtext, .stream => false
  | .oldtext, .stream => false
  | _, _ => true

/-- a type all of whose elements are listed (the enumerations of `ExecBase.lean` are).  With the
    scoped instance below a decidable statement quantified over such types is decided by running
    through the lists: this is how the facts about the generated tables, which are functions on
    these types, are checked. -/
class Listed (α : Type) where
  all : List α
  complete : ∀ a, a ∈ all

namespace Listed

scoped instance {α : Type} [Listed α] {p : α → Prop} [DecidablePred p] : Decidable (∀ a, p a) :=
  decidable_of_iff (∀ a ∈ all, p a) ⟨fun h a => h a (complete a), fun h a _ => h a⟩

instance : Listed Bool := ⟨[false, true], by decide⟩
instance : Listed Cls := ⟨[.markup, .newtext, .oldtext], fun a => by cases a <;> decide⟩
instance : Listed Src := ⟨[.str, .bytes, .file, .stream], fun a => by cases a <;> decide⟩
instance : Listed Req := ⟨[.dflt, .off, .on], fun a => by cases a <;> decide⟩
instance : Listed Parse := ⟨[.same, .xml, .text], fun a => by cases a <;> decide⟩
instance : Listed Plugin := ⟨[.markup, .text, .newtext], fun a => by cases a <;> decide⟩
instance {α : Type} [Listed α] : Listed (Option α) :=
  ⟨none :: (all (α := α)).map some, fun a => by
    cases a with
    | none => exact List.mem_cons_self
    | some a => exact List.mem_cons_of_mem _ (List.mem_map.mpr ⟨a, complete a, rfl⟩)⟩

end Listed

theorem direct_table (c : Cls) (s : Src) (q : Req) (ld : Option Req) :
    directFlag c s q ld = (if srcOk c s then some (want q) else none) ∧
    directLoaderFlag c s q ld = (if srcOk c s then some (want (ld.getD q)) else none) ∧
    (srcOk c s = true → directVerdict c s q ld = fate c (want q)) := by
  revert c s q ld
  open Listed in decide +kernel

theorem loader_table (c : Cls) (d : Bool) (q : Req) :
    loaderFlag c d q = some (want q) ∧ loadFlag c d q = some (want q) ∧
    loadLoaderFlag c d q = some (want q) ∧ loadVerdict c d q = fate c (want q) := by
  revert c d q
  open Listed in decide +kernel

theorem incl_table (c : Cls) (p : Parse) (lf ar : Bool) :
    inclStep c p lf ar =
      if c = .markup ∨ p = .same then some (childCls c p, fate (childCls c p) lf, lf) else none := by
  revert c p lf ar
  open Listed in decide +kernel

theorem plugin_table (p : Plugin) :
    ∃ c, pluginCls p = some c ∧ ∀ b, pluginByFlag p b =
      some ⟨if b then .allow else .deny, fate c b, some b, some b, fate c b, some b, some b⟩ := by
  cases p <;> exact ⟨_, rfl, by decide +kernel⟩

theorem lookup_isSome_congr {α β γ : Type} [BEq α] (k : α) :
    ∀ (l : List (α × β)) (l' : List (α × γ)), l.map (·.1) = l'.map (·.1) →
      (l.lookup k).isSome = (l'.lookup k).isSome
  | [], [], _ => rfl
  | (a, _) :: l, (a', _) :: l', h => by
      simp only [List.map_cons, List.cons.injEq] at h
      obtain ⟨rfl, h⟩ := h
      simp only [List.lookup_cons]
      cases k == a
      · exact lookup_isSome_congr k l l' h
      · rfl

theorem lookup_str_isSome {β : Type} (s : List Char) : ∀ (l : List (Opt × β)),
    (l.lookup (.str s)).isSome = l.any fun e => match e.1 with | .str t => s == t | _ => false
  | [] => rfl
  | (k, _) :: l => by
      rw [List.lookup_cons, List.any_cons, ← lookup_str_isSome s l]
      cases k <;> simp <;> split <;> simp_all

theorem pluginRows_keys (p : Plugin) : (pluginRows p).map (·.1) = pluginRows_markup.map (·.1) := by
  revert p
  open Listed in decide +kernel

theorem fate_off (c : Cls) : fate c false = .reject := by
  cases c <;> rfl

theorem fate_exec_iff (c : Cls) (b : Bool) : fate c b = .exec ↔ c ≠ .oldtext ∧ b = true := by
  cases c <;> cases b <;> decide

/-- a reached template is *safe*: a code block in it is rejected with a syntax error, and the
    loader it holds (which instantiates whatever it includes) has execution switched off -/
def Safe (n : Node) : Prop := n.verdict = .reject ∧ n.loaderFlag = false

theorem inclStep_off (c : Cls) (p : Parse) (ar : Bool) (c' : Cls) (v : Verdict) (lf : Bool)
    (h : inclStep c p false ar = some (c', v, lf)) : v = .reject ∧ lf = false := by
  rw [incl_table] at h
  split at h
  · cases h; exact ⟨fate_off _, rfl⟩
  · cases h

theorem mem_variants_lower (s : List Char) : s ∈ variants (lower s) := by
  induction s with
  | nil => simp [lower, variants]
  | cons c cs ih =>
      have ih' : cs ∈ variants (List.map lowerC cs) := ih
      simp only [lower, List.map_cons, variants]
      by_cases hup : 65 ≤ c.toNat ∧ c.toNat ≤ 90
      · have hl : lowerC c = Char.ofNat (c.toNat + 32) := by simp [lowerC, hup]
        have hn : (Char.ofNat (c.toNat + 32)).toNat = c.toNat + 32 :=
          char_toNat_ofNat (.inl (by omega))
        rw [hl, hn]
        have hr : 97 ≤ c.toNat + 32 ∧ c.toNat + 32 ≤ 122 := by omega
        rw [if_pos hr]
        have hb : Char.ofNat (c.toNat + 32 - 32) = c := by
          rw [Nat.add_sub_cancel]; exact Char.ofNat_toNat c
        rw [hb]
        exact List.mem_append_right _ (List.mem_map.mpr ⟨cs, ih', rfl⟩)
      · have hl : lowerC c = c := by simp [lowerC, hup]
        rw [hl]
        by_cases hlo : 97 ≤ c.toNat ∧ c.toNat ≤ 122
        · rw [if_pos hlo]
          exact List.mem_append_left _ (List.mem_map.mpr ⟨cs, ih', rfl⟩)
        · rw [if_neg hlo]
          exact List.mem_map.mpr ⟨cs, ih', rfl⟩

theorem mem_offSpellings {s : List Char} (h : lower s ∈ wordsOff) : s ∈ offSpellings :=
  List.mem_flatMap.mpr ⟨lower s, h, mem_variants_lower s⟩

theorem spellings_parse :
    (∀ s ∈ offSpellings, parseOpt (.str s) = .deny) ∧ (∀ s ∈ onSpellings, parseOpt (.str s) = .allow) := by
  decide +kernel

theorem documented_off_denied_lem (o : Opt) (h : documented o = some false) : parseOpt o = .deny := by
  cases o with
  | absent => simp [documented] at h
  | bool b => cases b <;> simp_all [documented, parseOpt]
  | int n => simp [documented] at h
  | none => simp [documented] at h
  | str s =>
      simp only [documented] at h
      by_cases h1 : s ∈ offSpellings
      · exact spellings_parse.1 s h1
      · rw [if_neg h1] at h
        by_cases h2 : s ∈ onSpellings
        · rw [if_pos h2] at h; cases h
        · rw [if_neg h2] at h; cases h

theorem rootNode_flags (cfg : Config) (r : Root) (n : Node) (h : rootNode cfg r = some n) :
    heldFlag cfg r = some n.loaderFlag ∧ ∃ g, rootFlag cfg r = some g ∧ n.verdict = fate n.cls g := by
  cases r with
  | direct c s own =>
      obtain ⟨_, hl, hv⟩ := direct_table c s cfg.tmpl (if own then none else some cfg.loader)
      simp only [rootNode, hl] at h
      cases hs : srcOk c s with
      | false => simp [hs] at h
      | true =>
          simp only [hs, if_true] at h
          cases h
          exact ⟨by cases own <;> rfl, _, rfl, hv hs⟩
  | load c d =>
      obtain ⟨_, _, hl, hv⟩ := loader_table c d cfg.loader
      simp only [rootNode, hl] at h
      cases h
      exact ⟨rfl, _, rfl, hv⟩
  | pluginFile p | pluginString p =>
      obtain ⟨c, hc, hrow⟩ := plugin_table p
      cases hp : parseOpt cfg.opt <;>
        simp only [rootNode, hp, hc, hrow, Option.bind_some, Option.map_some, reduceCtorEq] at h <;>
        cases h <;> exact ⟨by simp only [heldFlag, rootFlag, hp], _, by simp only [rootFlag, hp], rfl⟩

theorem disabled_flags (cfg : Config) (r : Root) (hd : r.disabled cfg) :
    rootFlag cfg r = some false ∧ heldFlag cfg r = some false := by
  cases r with
  | direct c s own =>
      cases own with
      | true => have ht : cfg.tmpl = .off := hd; simp only [rootFlag, heldFlag, ht]; exact ⟨rfl, rfl⟩
      | false =>
          obtain ⟨ht, hl⟩ : cfg.tmpl = .off ∧ cfg.loader = .off := hd
          simp only [rootFlag, heldFlag, ht, hl]; exact ⟨rfl, rfl⟩
  | load c d => have hl : cfg.loader = .off := hd; simp only [rootFlag, heldFlag, hl]; exact ⟨rfl, rfl⟩
  | pluginFile p | pluginString p =>
      have hp : parseOpt cfg.opt = .deny := documented_off_denied_lem _ hd
      exact ⟨by simp only [rootFlag, hp], by simp only [heldFlag, rootFlag, hp]⟩

theorem node_flags (cfg : Config) (r : Reach) (n : Node) (h : node cfg r = some n) :
    heldFlag cfg r.rootOf = some n.loaderFlag ∧
    ∃ g, governing cfg r = some g ∧ n.verdict = fate n.cls g := by
  induction r generalizing n with
  | root r0 => exact rootNode_flags cfg r0 n h
  | incl parent p ih =>
      simp only [node] at h
      cases hp : node cfg parent with
      | none => rw [hp] at h; cases h
      | some m =>
          obtain ⟨hheld, _⟩ := ih m hp
          simp only [hp, Option.bind_some, step, incl_table] at h
          by_cases hcp : m.cls = .markup ∨ p = .same
          · simp only [if_pos hcp] at h
            cases h
            exact ⟨hheld, m.loaderFlag, hheld, rfl⟩
          · simp [if_neg hcp] at h

/-- below an include the governing flag no longer changes: it is the flag of the loader the root holds -/
theorem governing_below (cfg : Config) (chain : List Parse) : ∀ (r : Reach) (q : Parse),
    governing cfg (chain.foldl Reach.incl (r.incl q)) = heldFlag cfg r.rootOf := by
  induction chain with
  | nil => intro r q; rfl
  | cons q' qs ih => intro r q; exact ih (r.incl q) q'

theorem governing_disabled (cfg : Config) (r : Reach) (hd : r.rootOf.disabled cfg) :
    governing cfg r = some false := by
  cases r with
  | root r0 => exact (disabled_flags cfg r0 hd).1
  | incl parent p => exact (disabled_flags cfg _ hd).2

theorem node_safe (cfg : Config) (r : Reach) (n : Node) (hd : r.rootOf.disabled cfg)
    (hn : node cfg r = some n) : Safe n := by
  obtain ⟨hh, g, hg, hv⟩ := node_flags cfg r n hn
  rw [governing_disabled cfg r hd] at hg
  rw [(disabled_flags cfg _ hd).2] at hh
  cases hg
  exact ⟨hv.trans (fate_off _), (Option.some.inj hh).symm⟩

theorem rootNode_safe (cfg : Config) (r : Root) (n : Node) (hd : r.disabled cfg)
    (hn : rootNode cfg r = some n) : Safe n :=
  node_safe cfg (.root r) n hd hn

end Genshi.Exec
