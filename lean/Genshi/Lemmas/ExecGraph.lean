/-
  Helper lemmas for the include-graph model of C14 (`Genshi/Model/ExecGraph.lean`):
  the invariant "the loader's flag is off and no cached template holds a code item" is
  preserved by `load`, `preload`, `gen` and the history, and the sentinel does not move.
  Rendering is reasoned about in the form `genL (@load fs)` of `Genshi/Lemmas/ExecRender.lean`.
  Also here: what `parseFile` returns; the loaders as one program (`loadG`); the cache stays the
  parse of the files and only grows (`Faithful`, `Mono`), so a `gen` that completes has loaded what
  it reaches (`gen_closure`); over a code-free file system the flag does not matter (`gen_flag`).
-/
import Genshi.Lemmas.ExecRender
import Genshi.Lemmas.ListBasics
namespace Genshi.Exec

/-- the flag is off and no template that `lookup` can return from the cache holds a code item (an entry shadowed by an
earlier one under the same key is not looked at; `MClean` is the form for caches that drop entries) -/
def StClean (st : St) : Prop :=
  st.flag = false ∧ ∀ k t, st.cache.lookup k = some t → noCode t.items = true

theorem noCode_mem {items : List Item} (h : noCode items = true) {it : Item} (hit : it ∈ items) :
    it.isCode = false := by
  unfold noCode at h
  have := List.all_eq_true.mp h it hit
  simpa using this

theorem noCode_code {items : List Item} (h : noCode items = true) {i m : Nat}
    (hit : Item.code i m ∈ items) : False := by
  simpa [Item.isCode] using noCode_mem h hit

/-- `parseFile` succeeds only on a file written for the class asked for, whose code blocks — if it has any — the
    flag allows; the template is then the file's items under that class -/
theorem parseFile_ok {c : Cls} {flag : Bool} {name : Nat} {f : File} {t : Tmpl}
    (h : parseFile c flag name f = .ok t) :
    f.syn = c ∧ (noCode f.items = true ∨ flag = true) ∧ t = ⟨name, c, f.items, false⟩ := by
  unfold parseFile at h
  by_cases h1 : f.syn = c
  · rw [if_neg (not_not_intro h1)] at h
    by_cases h2 : noCode f.items = true
    · rw [if_pos h2] at h; cases h; exact ⟨h1, .inl h2, rfl⟩
    · rw [if_neg h2] at h
      cases c <;> cases flag <;> cases h <;> exact ⟨h1, .inr rfl, rfl⟩
  · rw [if_pos h1] at h; split at h <;> cases h

theorem parseFile_error {c : Cls} {flag : Bool} {name : Nat} {f : File} {e : Err}
    (h : parseFile c flag name f = .error e) (hc : f.syn = c ∨ c = .markup) : e = .syntax name := by
  unfold parseFile at h
  by_cases h1 : f.syn = c
  · rw [if_neg (not_not_intro h1)] at h
    by_cases h2 : noCode f.items = true
    · rw [if_pos h2] at h; cases h
    · rw [if_neg h2] at h
      cases c <;> cases flag <;> cases h <;> rfl
  · rw [if_pos h1, if_pos (hc.resolve_left h1)] at h; cases h; rfl

theorem parse_off_clean (c : Cls) (name : Nat) (f : File) (t : Tmpl)
    (h : parseFile c false name f = .ok t) : noCode t.items = true := by
  obtain ⟨_, h2 | h2, rfl⟩ := parseFile_ok h
  · exact h2
  · cases h2

theorem parse_items (c : Cls) (flag : Bool) (name : Nat) (f : File) (t : Tmpl)
    (h : parseFile c flag name f = .ok t) : t.items = f.items ∧ t.name = name ∧ t.cls = f.syn := by
  obtain ⟨h1, _, rfl⟩ := parseFile_ok h
  exact ⟨rfl, rfl, h1.symm⟩

theorem parse_off_code (c : Cls) (name : Nat) (f : File) (hcode : noCode f.items = false) :
    ∃ e, parseFile c false name f = .error e ∧ (f.syn = c → e = .syntax name) := by
  cases hp : parseFile c false name f with
  | ok t => obtain ⟨_, h2 | h2, _⟩ := parseFile_ok hp <;> simp [hcode] at h2
  | error e => exact ⟨e, rfl, fun hsyn => parseFile_error hp (.inl hsyn)⟩

theorem lookup_cons_some {α β : Type} [BEq α] [LawfulBEq α] (k k' : α) (v v' : β) (l : List (α × β))
    (h : ((k', v') :: l).lookup k = some v) : (k = k' ∧ v = v') ∨ l.lookup k = some v := by
  simp only [List.lookup] at h
  by_cases hk : k == k'
  · simp [hk] at h
    exact Or.inl ⟨by simpa using hk, h.symm⟩
  · simp [hk] at h
    exact Or.inr h

/-- the loaders `load` (`load_eq`), `loadB` (`loadB_eq`, `Lemmas/ExecLru.lean`) and `loadM` (`loadM_eq`,
    `Lemmas/ExecMemo.lean`) are one program: a hit
    returns the cached value `v` (the state becomes `hit v`); a miss parses the file under the loader's flag and
    stores the template.  What a load can have done is read off `loadG_ok` / `loadG_error`. -/
def loadG {σ τ : Type} (look : Option τ) (hit : τ → σ) (file : Option File) (c : Cls) (flag : Bool) (name : Nat)
    (store : Tmpl → σ × τ) : Except Err (σ × τ) :=
  match look with
  | some v => .ok (hit v, v)
  | none =>
      match file with
      | none => .error (.notFound name)
      | some f =>
          match parseFile c flag name f with
          | .error e => .error e
          | .ok t => .ok (store t)

section loadG
variable {σ τ : Type} {look : Option τ} {hit : τ → σ} {file : Option File} {c : Cls} {flag : Bool} {name : Nat}
  {store : Tmpl → σ × τ}

theorem loadG_ok {r : σ × τ} (h : loadG look hit file c flag name store = .ok r) :
    (∃ v, look = some v ∧ r = (hit v, v)) ∨
    look = none ∧ ∃ f, file = some f ∧ f.syn = c ∧ (noCode f.items = true ∨ flag = true) ∧
      r = store ⟨name, c, f.items, false⟩ := by
  unfold loadG at h
  split at h
  · cases h; exact .inl ⟨_, rfl, rfl⟩
  · split at h
    · cases h
    · split at h
      · cases h
      · cases h
        obtain ⟨h1, h2, rfl⟩ := parseFile_ok ‹_›
        exact .inr ⟨rfl, _, rfl, h1, h2, rfl⟩

theorem loadG_error {e : Err} (h : loadG look hit file c flag name store = .error e) :
    look = none ∧ (file = none ∧ e = .notFound name ∨ ∃ f, file = some f ∧ parseFile c flag name f = .error e) := by
  unfold loadG at h
  split at h
  · cases h
  · split at h
    · cases h; exact ⟨rfl, .inl ⟨rfl, rfl⟩⟩
    · split at h
      · cases h; exact ⟨rfl, .inr ⟨_, rfl, ‹_›⟩⟩
      · cases h

theorem loadG_code_fails {f : File} (hl : look = none) (hf : file = some f) (hcode : noCode f.items = false) :
    ∃ e, loadG look hit file c false name store = .error e ∧ (f.syn = c → e = .syntax name) := by
  subst hl hf
  obtain ⟨e, he, hs⟩ := parse_off_code c name f hcode
  exact ⟨e, by simp only [loadG, he], hs⟩

end loadG

theorem load_eq (fs : FS) (st : St) (name : Nat) (c : Cls) (abs : Bool) :
    load fs st name c abs = loadG (st.cache.lookup (name, abs)) (fun _ => st) (fs.lookup name) c st.flag name
      fun t => ({ st with cache := ((name, abs), t) :: st.cache }, t) := by
  unfold load loadG
  cases st.cache.lookup (name, abs) <;> cases fs.lookup name <;> rfl

theorem load_clean (fs : FS) (st st' : St) (name : Nat) (c : Cls) (abs : Bool) (t : Tmpl)
    (hc : StClean st) (h : load fs st name c abs = .ok (st', t)) :
    StClean st' ∧ noCode t.items = true ∧ st'.sentinel = st.sentinel ∧ st'.out = st.out
      ∧ st'.autoReload = st.autoReload := by
  rw [load_eq] at h
  rcases loadG_ok h with ⟨t0, hl, e⟩ | ⟨_, f, _, _, hcode, e⟩ <;> cases e
  · exact ⟨hc, hc.2 _ _ hl, rfl, rfl, rfl⟩
  · have ht : noCode f.items = true := hcode.resolve_right (ne_true_of_eq_false hc.1)
    refine ⟨⟨hc.1, fun k t2 hk => ?_⟩, ht, rfl, rfl, rfl⟩
    rcases lookup_cons_some k (name, abs) t2 _ st.cache hk with ⟨_, rfl⟩ | h2
    · exact ht
    · exact hc.2 _ _ h2

def Keeps (s0 : List Nat) (ar : Bool) (r : Res) : Prop :=
  StClean r.1 ∧ r.1.sentinel = s0 ∧ r.1.autoReload = ar

theorem keeps_inv (fs : FS) (s0 : List Nat) (ar : Bool) :
    RenderInv (@load fs) (fun s => Keeps s0 ar (s, none)) (fun t => noCode t.items = true) where
  load st st' n c abs t h hl := by
    obtain ⟨h1, h2, h3, _, h5⟩ := load_clean fs st st' n c abs t h.1 hl
    exact ⟨⟨h1, h3.trans h.2.1, h5.trans h.2.2⟩, h2⟩
  out _ _ h := h
  code _ _ _ _ _ ht hit := (noCode_code ht hit).elim

/-- **no code runs**: generating a code-free template object through a loader whose flag is off
    and whose cache is code-free leaves the sentinel as it was — for every file system (cyclic
    include graphs included), fuel, reload mode, host class and inlining stack -/
theorem gen_clean (fuel : Nat) (pf : Nat) (fs : FS) :
    ∀ (prep : Bool) (host : Cls) (stack : List Nat) (t : Tmpl) (st : St), StClean st →
      noCode t.items = true → Keeps st.sentinel st.autoReload (gen fuel pf fs prep host stack t st) := by
  intro prep host stack t st hc ht
  rw [gen_eq]
  exact genL_inv (keeps_inv fs _ _) fuel pf prep stack t st ⟨hc, rfl, rfl⟩ ht

theorem histStep_inv {fs : FS} {P : St → Prop} {Q : Tmpl → Prop} (h : RenderInv (@load fs) P Q)
    (fuel pf : Nat) (st : St) (name : Nat) (hst : P st) : P (histStep fuel pf fs st name).1 := by
  unfold histStep
  cases fs.lookup name with
  | none => exact hst
  | some f =>
      dsimp only
      cases hl : load fs st name f.syn with
      | error e => exact hst
      | ok pr =>
          obtain ⟨h', ht⟩ := h.load _ _ _ _ _ _ hst hl
          dsimp only
          rw [gen_eq]
          exact h.out _ _ (genL_inv h fuel pf _ _ _ _ (h.out _ _ h') ht)

theorem runHistory_inv {fs : FS} {P : St → Prop} {Q : Tmpl → Prop} (h : RenderInv (@load fs) P Q)
    (fuel pf : Nat) (hist : List Nat) : ∀ st, P st → P (runHistory fuel pf fs st hist).1 := by
  induction hist with
  | nil => intro st hst; exact hst
  | cons n ns ih => intro st hst; exact ih _ (histStep_inv h fuel pf st n hst)

theorem afterHistory_inv {fs : FS} {P : St → Prop} {Q : Tmpl → Prop} (h : RenderInv (@load fs) P Q)
    (fuel pf : Nat) (root : Root) (st : St) (hist : List Nat) (hst : P st) :
    P (afterHistory fuel pf fs root st hist).1 := by
  unfold afterHistory
  split
  · exact runHistory_inv h fuel pf hist st hst
  · exact hst

def St.setFlag (b : Bool) (st : St) : St := { st with flag := b }

def Res.setFlag (b : Bool) (r : Res) : Res := (r.1.setFlag b, r.2)

def FsNoCode (fs : FS) : Prop := ∀ n f, fs.lookup n = some f → noCode f.items = true

theorem FsNoCode.of_all {fs : FS} (h : fs.all (fun e => noCode e.2.items) = true) : FsNoCode fs :=
  fun _ _ hl => List.all_eq_true.mp h _ (lookup_mem hl)

theorem parse_noCode_flag (c : Cls) (name : Nat) (f : File) (h : noCode f.items = true) (b b' : Bool) :
    parseFile c b name f = parseFile c b' name f := by
  unfold parseFile
  by_cases h1 : f.syn ≠ c
  · simp [h1]
  · simp [h1, h]

theorem load_flag (fs : FS) (hfs : FsNoCode fs) (st : St) (name : Nat) (c : Cls) (abs b : Bool) :
    load fs (st.setFlag b) name c abs =
      match load fs st name c abs with
      | .error e => .error e
      | .ok (st', t) => .ok (st'.setFlag b, t) := by
  unfold load
  simp only [St.setFlag]
  cases hl : st.cache.lookup (name, abs) with
  | some t0 => rfl
  | none =>
      cases hf : fs.lookup name with
      | none => rfl
      | some f =>
          simp only
          rw [parse_noCode_flag c name f (hfs name f hf) b st.flag]
          cases parseFile c st.flag name f with
          | error e => rfl
          | ok t => rfl

theorem foldRes_flag {α : Type} (b : Bool) (f : St → α → Res) (l : List α) (x : Res)
    (hstep : ∀ st it, f (st.setFlag b) it = (f st it).setFlag b) :
    foldRes f l (x.setFlag b) = (foldRes f l x).setFlag b := by
  refine foldl_rel (fun (x y : Res) => x = y.setFlag b) _ _ l _ _ rfl ?_
  rintro _ ⟨st, _ | e⟩ it _ rfl
  · exact hstep st it
  · rfl

theorem preloadL_flag (fuel : Nat) (fs : FS) (hfs : FsNoCode fs) (b : Bool) :
    ∀ (stack : List Nat) (t : Tmpl) (st : St),
      preloadL (@load fs) fuel stack t (st.setFlag b) = (preloadL (@load fs) fuel stack t st).setFlag b := by
  induction fuel with
  | zero => intro stack t st; rfl
  | succ fuel ih =>
      intro stack t st
      refine foldRes_flag b _ _ (st, none) fun sa it => ?_
      cases it with
      | incl n p dyn =>
          cases dyn with
          | true => rfl
          | false =>
              dsimp only
              rw [load_flag fs hfs]
              cases load fs sa n (childCls t.cls p) t.absHrefs with
              | error e => rfl
              | ok pr =>
                  dsimp only
                  split
                  · rfl
                  · exact ih _ _ _
      | _ => rfl

theorem genL_flag (fuel pf : Nat) (fs : FS) (hfs : FsNoCode fs) (b : Bool) :
    ∀ (prep : Bool) (stack : List Nat) (t : Tmpl) (st : St),
      genL (@load fs) fuel pf prep stack t (st.setFlag b) =
        (genL (@load fs) fuel pf prep stack t st).setFlag b := by
  induction fuel with
  | zero => intro prep stack t st; rfl
  | succ fuel ih =>
      intro prep stack t st
      have hstart : (if prep && !st.autoReload then preloadL (@load fs) pf stack t (st.setFlag b)
          else (st.setFlag b, none)) =
          (if prep && !st.autoReload then preloadL (@load fs) pf stack t st else (st, none)).setFlag b := by
        split
        · exact preloadL_flag pf fs hfs b stack t st
        · rfl
      refine (congrArg (foldRes _ t.items) hstart).trans (foldRes_flag b _ _ _ fun sa it => ?_)
      cases it with
      | incl n p dyn =>
          dsimp only
          rw [load_flag fs hfs]
          cases load fs sa n (childCls t.cls p) t.absHrefs with
          | error e => rfl
          | ok pr =>
              show (if (!sa.autoReload && !dyn && !stack.contains n) = true then _ else _) = _
              split
              · exact ih _ _ _ _
              · exact ih _ _ _ _
      | _ => rfl


/-- **the flag only affects code blocks**: over a file system without code blocks, generating
    with the loader's flag set to `b` is generating with the flag as it was — same error, same
    sentinel, same output, same cache contents — for every graph, fuel, mode and history -/
theorem gen_flag (fuel pf : Nat) (fs : FS) (hfs : FsNoCode fs) (b : Bool) :
    ∀ (prep : Bool) (host : Cls) (stack : List Nat) (t : Tmpl) (st : St),
      gen fuel pf fs prep host stack t (st.setFlag b) = (gen fuel pf fs prep host stack t st).setFlag b := by
  intro prep host stack t st
  rw [gen_eq, gen_eq]
  exact genL_flag fuel pf fs hfs b prep stack t st

theorem histStep_flag (fuel pf : Nat) (fs : FS) (hfs : FsNoCode fs) (b : Bool) (st : St) (name : Nat) :
    histStep fuel pf fs (st.setFlag b) name = Res.setFlag b (histStep fuel pf fs st name) := by
  unfold histStep
  cases hf : fs.lookup name with
  | none => rfl
  | some f =>
      simp only
      rw [load_flag fs hfs st name f.syn false b]
      cases load fs st name f.syn with
      | error e => rfl
      | ok pr =>
          obtain ⟨st', t⟩ := pr
          simp only
          have := gen_flag fuel pf fs hfs b true t.cls [name] t { st' with out := [] }
          have h2 : ({ st'.setFlag b with out := [] } : St) = ({ st' with out := [] } : St).setFlag b := rfl
          rw [h2, this]
          rfl

theorem runHistory_flag (fuel pf : Nat) (fs : FS) (hfs : FsNoCode fs) (b : Bool) (hist : List Nat) :
    ∀ st, runHistory fuel pf fs (st.setFlag b) hist =
      ((runHistory fuel pf fs st hist).1.setFlag b, (runHistory fuel pf fs st hist).2) := by
  induction hist with
  | nil => intro st; rfl
  | cons n ns ih =>
      intro st
      simp only [runHistory]
      rw [histStep_flag fuel pf fs hfs b st n]
      simp only [Res.setFlag]
      rw [ih]

theorem afterHistory_flag (fuel pf : Nat) (fs : FS) (hfs : FsNoCode fs) (b : Bool) (root : Root) (st : St)
    (hist : List Nat) :
    afterHistory fuel pf fs root (st.setFlag b) hist =
      ((afterHistory fuel pf fs root st hist).1.setFlag b, (afterHistory fuel pf fs root st hist).2) := by
  unfold afterHistory
  cases root.usesLoader with
  | true => exact runHistory_flag fuel pf fs hfs b hist st
  | false => rfl

/-- `a` includes `b` -/
def Inc (fs : FS) (a b : Nat) : Prop :=
  ∃ f p dyn, fs.lookup a = some f ∧ Item.incl b p dyn ∈ f.items

inductive Reaches (fs : FS) : Nat → Nat → Prop
  | refl (a : Nat) : Reaches fs a a
  | step (a b c : Nat) : Inc fs a b → Reaches fs b c → Reaches fs a c

/-- `t` is what parsing the file of its name gives: that file's items, under the class of its syntax -/
def TF (fs : FS) (t : Tmpl) : Prop := ∃ f, fs.lookup t.name = some f ∧ t.items = f.items ∧ t.cls = f.syn

def Faithful (fs : FS) (st : St) : Prop :=
  ∀ k t, st.cache.lookup k = some t → t.name = k.1 ∧ TF fs t

def Mono (a b : St) : Prop := ∀ k t, a.cache.lookup k = some t → b.cache.lookup k = some t

def Loaded (st : St) (n : Nat) : Prop := ∃ abs t, st.cache.lookup (n, abs) = some t

theorem Mono.refl (a : St) : Mono a a := fun _ _ h => h
theorem Mono.trans {a b c : St} (h1 : Mono a b) (h2 : Mono b c) : Mono a c :=
  fun k t h => h2 k t (h1 k t h)
theorem Loaded.mono {a b : St} {n : Nat} (h : Loaded a n) (hm : Mono a b) : Loaded b n := by
  obtain ⟨abs, t, ht⟩ := h; exact ⟨abs, t, hm _ _ ht⟩

theorem load_faithful (fs : FS) (st st' : St) (name : Nat) (c : Cls) (abs : Bool) (t : Tmpl)
    (hf : Faithful fs st) (h : load fs st name c abs = .ok (st', t)) :
    Faithful fs st' ∧ Mono st st' ∧ t.name = name ∧ TF fs t ∧ Loaded st' name := by
  rw [load_eq] at h
  rcases loadG_ok h with ⟨t0, hl, e⟩ | ⟨hl, f, hfile, hsyn, _, e⟩ <;> cases e
  · have := hf _ _ hl
    exact ⟨hf, Mono.refl _, this.1, this.2, ⟨abs, t, hl⟩⟩
  · have htf : TF fs ⟨name, c, f.items, false⟩ := ⟨f, hfile, rfl, hsyn.symm⟩
    refine ⟨?_, ?_, rfl, htf, ⟨abs, ⟨name, c, f.items, false⟩, by simp [List.lookup]⟩⟩
    · intro k t2 hk
      rcases lookup_cons_some k (name, abs) t2 _ st.cache hk with ⟨rfl, rfl⟩ | h2
      · exact ⟨rfl, htf⟩
      · exact hf _ _ h2
    · intro k t2 hk
      have hne : (k == (name, abs)) = false := by
        cases hkk : (k == (name, abs)) with
        | false => rfl
        | true =>
            have : k = (name, abs) := by simpa using hkk
            rw [this, hl] at hk; cases hk
      simp [List.lookup, hne, hk]

def Grows (fs : FS) (st : St) (r : Res) : Prop := Faithful fs r.1 ∧ Mono st r.1

theorem load_grows (fs : FS) (st0 st st' : St) (n : Nat) (c : Cls) (abs : Bool) (t : Tmpl)
    (h : Grows fs st0 (st, none)) (hl : load fs st n c abs = .ok (st', t)) : Grows fs st0 (st', none) := by
  obtain ⟨hf', hm', _⟩ := load_faithful fs st st' n c abs t h.1 hl
  exact ⟨hf', h.2.trans hm'⟩

theorem grows_inv (fs : FS) (st0 : St) :
    RenderInv (@load fs) (fun s => Grows fs st0 (s, none)) (fun _ => True) where
  load _ _ _ _ _ _ h hl := ⟨load_grows fs st0 _ _ _ _ _ _ h hl, trivial⟩
  out _ _ h := h
  code _ _ _ _ h _ _ := h

theorem gen_grows (fuel pf : Nat) (fs : FS) (prep : Bool) (host : Cls) (stack : List Nat) (t : Tmpl)
    (st : St) (hf : Faithful fs st) : Grows fs st (gen fuel pf fs prep host stack t st) := by
  rw [gen_eq]
  exact genL_inv (grows_inv fs st) fuel pf prep stack t st ⟨hf, Mono.refl _⟩ trivial


theorem genL_closure (fuel pf : Nat) (fs : FS) :
    ∀ (prep : Bool) (stack : List Nat) (t : Tmpl) (st st' : St), Faithful fs st → TF fs t →
      genL (@load fs) fuel pf prep stack t st = (st', none) →
      ∀ n p dyn, Item.incl n p dyn ∈ t.items → ∀ b, Reaches fs n b → Loaded st' b := by
  induction fuel with
  | zero => intro _ _ _ _ _ _ _ h; cases h
  | succ fuel ih =>
      intro prep stack t st st' hf htf h n p dyn hmem b hb
      have hstart : Grows fs st (if prep && !st.autoReload then preloadL (@load fs) pf stack t st else (st, none)) := by
        split
        · exact preloadL_inv (grows_inv fs st) pf stack t st ⟨hf, Mono.refl _⟩
        · exact ⟨hf, Mono.refl _⟩
      -- the include was rendered, from some state `a` to `a'` without error, and the cache only grew afterwards
      obtain ⟨_, hall⟩ := foldRes_ok _ (Faithful fs) Mono Mono.refl (fun _ _ _ => Mono.trans) t.items
        (fun a it a' _ ha hs => by
          have : Grows fs a (a', none) := by
            rw [← hs]
            cases it with
            | incl n p dyn =>
                dsimp only
                cases hl : load fs a n (childCls t.cls p) t.absHrefs with
                | error e => exact ⟨ha, Mono.refl _⟩
                | ok pr =>
                    obtain ⟨hf1, hm1, _⟩ := load_faithful fs a pr.1 n _ _ pr.2 ha hl
                    dsimp only
                    split <;>
                      exact (genL_inv (grows_inv fs a) fuel pf _ _ _ _ ⟨hf1, hm1⟩ trivial)
            | _ => exact ⟨ha, Mono.refl _⟩
          exact this) _ st' hstart.1 h
      obtain ⟨a, a', ha, hs, hm⟩ := hall _ hmem
      dsimp only at hs
      cases hl : load fs a n (childCls t.cls p) t.absHrefs with
      | error e => rw [hl] at hs; cases hs
      | ok pr =>
          obtain ⟨s1, t1⟩ := pr
          rw [hl] at hs
          obtain ⟨hf1, _, hname, htf1, hloaded⟩ := load_faithful fs a s1 n _ _ t1 ha hl
          -- whichever way the include is generated (inlined or at run time)
          obtain ⟨pr', k', hg⟩ : ∃ pr' k', genL (@load fs) fuel pf pr' k' t1 s1 = (a', none) := by
            dsimp only at hs
            split at hs
            · exact ⟨_, _, hs⟩
            · exact ⟨_, _, hs⟩
          have hgrow := genL_inv (grows_inv fs s1) fuel pf pr' k' t1 s1 ⟨hf1, Mono.refl _⟩ trivial
          rw [hg] at hgrow
          cases hb with
          | refl => exact (hloaded.mono hgrow.2).mono hm
          | step _ m _ hinc hmb =>
              obtain ⟨f, p', dyn', hfl, hmem'⟩ := hinc
              obtain ⟨f1, hf1l, hitems, _⟩ := id htf1
              rw [hname, hfl] at hf1l
              cases hf1l
              rw [← hitems] at hmem'
              exact (ih pr' k' t1 s1 a' hf1 htf1 hg m p' dyn' hmem' b hmb).mono hm

/-- **a generate() that completes without error has loaded every template reachable from its
    includes** (induction over the fuel, i.e. the include depth actually unfolded; a cyclic graph
    never completes) -/
theorem gen_closure (fuel pf : Nat) (fs : FS) :
    ∀ (prep : Bool) (host : Cls) (stack : List Nat) (t : Tmpl) (st st' : St), Faithful fs st → TF fs t →
      gen fuel pf fs prep host stack t st = (st', none) →
      ∀ n p dyn, Item.incl n p dyn ∈ t.items → ∀ b, Reaches fs n b → Loaded st' b := by
  intro prep host stack t st st' hf htf h
  rw [gen_eq] at h
  exact genL_closure fuel pf fs prep stack t st st' hf htf h

/-- a `gen` that completes from a code-free, faithful loader state has met code-free files only: it leaves every
    template reachable from the includes in the cache (`gen_closure`), what is in the cache is free of code
    (`gen_clean`) and has the items of its file (`gen_grows`) -/
theorem gen_ok_noCode (fuel pf : Nat) (fs : FS) (prep : Bool) (host : Cls) (stack : List Nat) (t : Tmpl) (st s2 : St)
    (hc : StClean st) (ht : noCode t.items = true) (hf : Faithful fs st) (htf : TF fs t)
    (hg : gen fuel pf fs prep host stack t st = (s2, none)) :
    ∀ b, Reaches fs t.name b → ∃ f, fs.lookup b = some f ∧ noCode f.items = true := by
  have hclean := gen_clean fuel pf fs prep host stack t st hc ht
  have hgrow := gen_grows fuel pf fs prep host stack t st hf
  rw [hg] at hclean hgrow
  have hclosure := gen_closure fuel pf fs prep host stack t st s2 hf htf hg
  obtain ⟨f, hfl, hitems, _⟩ := htf
  intro b hb
  cases hb with
  | refl => exact ⟨f, hfl, hitems ▸ ht⟩
  | step _ n _ hinc hnb =>
      obtain ⟨f', p, dyn, hfl', hmem⟩ := hinc
      cases hfl.symm.trans hfl'
      obtain ⟨abs, t2, hlk⟩ := hclosure n p dyn (hitems ▸ hmem) b hnb
      obtain ⟨hn2, f2, hf2, hi2, _⟩ := hgrow.1 _ _ hlk
      exact ⟨f2, (show t2.name = b from hn2) ▸ hf2, hi2 ▸ hclean.1.2 _ _ hlk⟩

def codeIds : List Item → List Nat
  | [] => []
  | .code i _ :: rest => i :: codeIds rest
  | _ :: rest => codeIds rest

theorem mem_codeIds {items : List Item} {i m : Nat} (h : Item.code i m ∈ items) : i ∈ codeIds items := by
  induction items with
  | nil => cases h
  | cons x xs ih =>
      cases h with
      | head => simp [codeIds]
      | tail _ h' => cases x <;> simp [codeIds, ih h']

/-- generating *any* template object (its own flag may be on: it may hold EXEC events) through a
    loader whose flag is off and whose cache is code-free: whatever is added to the sentinel comes
    from that template's own code blocks — nothing it includes, at any depth, runs -/
theorem gen_own_only (fuel pf : Nat) (fs : FS) (prep : Bool) (host : Cls) (stack : List Nat) (t : Tmpl)
    (st : St) (hc : StClean st) :
    StClean (gen fuel pf fs prep host stack t st).1 ∧
      ∀ i ∈ (gen fuel pf fs prep host stack t st).1.sentinel, i ∈ st.sentinel ∨ i ∈ codeIds t.items := by
  rw [gen_eq]
  refine genL_inv (P := fun s => StClean s ∧ ∀ i ∈ s.sentinel, i ∈ st.sentinel ∨ i ∈ codeIds t.items)
    (Q := fun t' => noCode t'.items = true ∨ t' = t) ⟨?_, fun _ _ h => h, ?_⟩ fuel pf prep stack t st
    ⟨hc, fun i hi => Or.inl hi⟩ (Or.inr rfl)
  · intro sa st' n c abs t' h hl
    obtain ⟨h1, h2, h3, _⟩ := load_clean fs sa st' n c abs t' h.1 hl
    exact ⟨⟨h1, by rw [h3]; exact h.2⟩, Or.inl h2⟩
  · intro sa t' i m h ht' hit
    refine ⟨⟨h.1.1, h.1.2⟩, fun j hj => ?_⟩
    simp only [List.mem_append, List.mem_replicate] at hj
    rcases hj with hj | ⟨_, rfl⟩
    · exact h.2 j hj
    · rcases ht' with ht' | rfl
      · exact (noCode_code ht' hit).elim
      · exact Or.inr (mem_codeIds hit)

end Genshi.Exec
