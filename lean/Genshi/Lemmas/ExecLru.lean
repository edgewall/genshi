/-
  C14 — the bounded-cache include-graph model (`Genshi/Model/ExecLru.lean`): whatever the
  bound, whatever was evicted and parsed again, a loader whose flag is off never holds or
  returns a template with a code block, and nothing it renders moves the sentinel.
-/
import Genshi.Model.ExecLru
import Genshi.Lemmas.ExecGraph
namespace Genshi.Exec
open Genshi.Gen.Exec

/-- the flag is off and every template *in* the cache (not only the visible ones) is free of
    code blocks: stable under every replacement policy that only drops entries -/
def MClean (fs : FS) (st : St) : Prop :=
  st.flag = false ∧ ∀ p ∈ st.cache, noCode p.2.items = true ∧
    ∃ f, fs.lookup p.1.1 = some f ∧ p.2.items = f.items

theorem MClean.toStClean {fs : FS} {st : St} (h : MClean fs st) : StClean st :=
  ⟨h.1, fun _ _ hl => (h.2 _ (lookup_mem hl)).1⟩

theorem st0_mclean (fs : FS) (ar : Bool) : MClean fs (st0 false ar) :=
  ⟨rfl, fun p hp => by simp [st0] at hp⟩

theorem mclean_touch {fs : FS} {st : St} (h : MClean fs st) (k : Nat × Bool) (t : Tmpl)
    (ht : noCode t.items = true ∧ ∃ f, fs.lookup k.1 = some f ∧ t.items = f.items) :
    MClean fs { st with cache := lruTouch k t st.cache } := by
  refine ⟨h.1, ?_⟩
  intro p hp
  simp only [lruTouch, List.mem_cons, List.mem_filter] at hp
  rcases hp with rfl | ⟨hp, _⟩
  · exact ht
  · exact h.2 p hp

theorem mclean_store {fs : FS} {st : St} (h : MClean fs st) (cap : Nat) (k : Nat × Bool) (t : Tmpl)
    (ht : noCode t.items = true ∧ ∃ f, fs.lookup k.1 = some f ∧ t.items = f.items) :
    MClean fs { st with cache := lruStore cap k t st.cache } := by
  refine ⟨h.1, ?_⟩
  intro p hp
  have hp' := List.mem_of_mem_take hp
  simp only [List.mem_cons, List.mem_filter] at hp'
  rcases hp' with rfl | ⟨hp', _⟩
  · exact ht
  · exact h.2 p hp'

theorem loadB_eq (cap : Nat) (fs : FS) (st : St) (name : Nat) (c : Cls) (abs : Bool) :
    loadB cap fs st name c abs = loadG (st.cache.lookup (name, abs))
      (fun t => { st with cache := lruTouch (name, abs) t st.cache }) (fs.lookup name) c st.flag name
      fun t => ({ st with cache := lruStore cap (name, abs) t st.cache }, t) := by
  unfold loadB loadG
  cases st.cache.lookup (name, abs) <;> cases fs.lookup name <;> rfl

theorem loadB_clean (cap : Nat) (fs : FS) (st st' : St) (name : Nat) (c : Cls) (abs : Bool) (t : Tmpl)
    (hc : MClean fs st) (h : loadB cap fs st name c abs = .ok (st', t)) :
    MClean fs st' ∧ noCode t.items = true ∧ (∃ f, fs.lookup name = some f ∧ t.items = f.items) ∧
      st'.sentinel = st.sentinel ∧ st'.out = st.out ∧ st'.autoReload = st.autoReload := by
  rw [loadB_eq] at h
  rcases loadG_ok h with ⟨t0, hl, e⟩ | ⟨_, f, hf, _, hcode, e⟩ <;> cases e
  · have ht := hc.2 _ (lookup_mem hl)
    exact ⟨mclean_touch hc _ _ ht, ht.1, ht.2, rfl, rfl, rfl⟩
  · have ht : noCode f.items = true := hcode.resolve_right (ne_true_of_eq_false hc.1)
    exact ⟨mclean_store hc cap (name, abs) _ ⟨ht, f, hf, rfl⟩, ht, ⟨f, hf, rfl⟩, rfl, rfl, rfl⟩

/-- **a later load rejects code**: with the flag off and the invariant (which every history
    leaves behind, `runHistoryB_clean`), loading a file that contains a code block — whether it
    was never loaded, or loaded, evicted and asked for again, under any bound — fails; asked for
    in the language it is written in, with the syntax error of that file -/
theorem loadB_code_fails (cap : Nat) (fs : FS) (st : St) (name : Nat) (c : Cls) (abs : Bool) (f : File)
    (hc : MClean fs st) (hf : fs.lookup name = some f) (hcode : noCode f.items = false) :
    ∃ e, loadB cap fs st name c abs = .error e ∧ (f.syn = c → e = .syntax name) := by
  rw [loadB_eq, hc.1]
  refine loadG_code_fails ?_ hf hcode
  cases hl : st.cache.lookup (name, abs) with
  | none => rfl
  | some t0 =>
      -- a cached template of that name would be code-free and have the file's items
      obtain ⟨ht, f', hf', hi⟩ := hc.2 _ (lookup_mem hl)
      rw [show fs.lookup name = some f' from hf', Option.some.injEq] at hf
      rw [hi, hf, hcode] at ht
      cases ht

def KeepsB (fs : FS) (s0 : List Nat) (ar : Bool) (r : Res) : Prop :=
  MClean fs r.1 ∧ r.1.sentinel = s0 ∧ r.1.autoReload = ar

theorem keepsB_inv (cap : Nat) (fs : FS) (s0 : List Nat) (ar : Bool) :
    RenderInv (@loadB cap fs) (fun s => KeepsB fs s0 ar (s, none)) (fun t => noCode t.items = true) where
  load st st' n c abs t h hl := by
    obtain ⟨hc', ht', _, hs', _, har'⟩ := loadB_clean cap fs st st' n c abs t h.1 hl
    exact ⟨⟨hc', hs'.trans h.2.1, har'.trans h.2.2⟩, ht'⟩
  out _ _ h := h
  code _ _ _ _ _ ht hit := (noCode_code ht hit).elim

theorem preloadB_clean (cap : Nat) (fuel : Nat) (fs : FS) :
    ∀ (stack : List Nat) (t : Tmpl) (st : St), MClean fs st →
      KeepsB fs st.sentinel st.autoReload (preloadB cap fuel fs stack t st) := by
  intro stack t st hc
  rw [preloadB_eq]
  exact preloadL_inv (keepsB_inv cap fs _ _) fuel stack t st ⟨hc, rfl, rfl⟩

/-- **no code runs, whatever the cache bound**: generating a code-free template object through a
    loader whose flag is off leaves the sentinel as it was — for every bound (0 and 1 included),
    every file system (cyclic include graphs included), fuel, reload mode, host class and
    inlining stack; templates evicted on the way are parsed again under the same flag -/
theorem genB_clean (cap : Nat) (fuel : Nat) (pf : Nat) (fs : FS) :
    ∀ (prep : Bool) (host : Cls) (stack : List Nat) (t : Tmpl) (st : St), MClean fs st →
      noCode t.items = true → KeepsB fs st.sentinel st.autoReload (genB cap fuel pf fs prep host stack t st) := by
  intro prep host stack t st hc ht
  rw [genB_eq]
  exact genL_inv (keepsB_inv cap fs _ _) fuel pf prep stack t st ⟨hc, rfl, rfl⟩ ht

theorem histStepB_clean (cap fuel pf : Nat) (fs : FS) (st : St) (name : Nat) (c : Cls) (hc : MClean fs st) :
    MClean fs (histStepB cap fuel pf fs st name c).1 ∧
      (histStepB cap fuel pf fs st name c).1.sentinel = st.sentinel := by
  unfold histStepB
  cases hl : loadB cap fs st name c with
  | error e => exact ⟨hc, rfl⟩
  | ok pr =>
      obtain ⟨st', t⟩ := pr
      obtain ⟨hc', ht, _, hs', _, _⟩ := loadB_clean cap fs st st' name _ _ t hc hl
      have hc'' : MClean fs { st' with out := [] } := ⟨hc'.1, hc'.2⟩
      have := genB_clean cap fuel pf fs true t.cls [name] t { st' with out := [] } hc'' ht
      exact ⟨⟨this.1.1, this.1.2⟩, this.2.1.trans hs'⟩

theorem runHistoryB_clean (cap fuel pf : Nat) (fs : FS) (hist : List (Nat × Cls)) :
    ∀ st, MClean fs st → MClean fs (runHistoryB cap fuel pf fs st hist).1 ∧
      (runHistoryB cap fuel pf fs st hist).1.sentinel = st.sentinel := by
  induction hist with
  | nil => intro st hc; exact ⟨hc, rfl⟩
  | cons p ns ih =>
      intro st hc
      obtain ⟨n, c⟩ := p
      simp only [runHistoryB]
      have h1 := histStepB_clean cap fuel pf fs st n c hc
      have h2 := ih _ h1.1
      exact ⟨h2.1, h2.2.trans h1.2⟩

end Genshi.Exec
