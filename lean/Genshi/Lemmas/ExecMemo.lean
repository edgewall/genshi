/-
  C14 — the bounded-cache model with `_prepared` memoisation (`Genshi/Model/ExecMemo.lean`):
  whatever the bound, whatever was evicted, re-parsed, prepared as part of another template and
  kept, a loader whose flag is off never holds an object with a code block — neither in its parsed
  items nor in its memoised prepared stream — and nothing it renders moves the sentinel.
-/
import Genshi.Model.ExecMemo
import Genshi.Lemmas.ExecLru
namespace Genshi.Exec

def PItem.isCode : PItem → Bool
  | .code _ _ => true
  | _ => false

def pNoCode (ps : List PItem) : Bool := ps.all fun it => !it.isCode

def OClean (o : MT) : Prop := noCode o.t.items = true ∧ ∀ ps, o.prep = some ps → pNoCode ps = true

def FaithE (fs : FS) (e : (Nat × Bool) × MT) : Prop :=
  ∃ f, fs.lookup e.1.1 = some f ∧ e.2.t.items = f.items

def MCleanM (fs : FS) (st : MSt) : Prop := st.flag = false ∧ ∀ e ∈ st.cache, OClean e.2 ∧ FaithE fs e

theorem pNoCode_append (a b : List PItem) : pNoCode (a ++ b) = (pNoCode a && pNoCode b) := by
  simp [pNoCode, List.all_append]

theorem pNoCode_snoc (ps : List PItem) (it : PItem) (h : pNoCode ps = true) (hi : it.isCode = false) :
    pNoCode (ps ++ [it]) = true := by
  rw [pNoCode_append, h]
  simp [pNoCode, hi]

theorem loadM_eq (cap : Nat) (fs : FS) (st : MSt) (name : Nat) (c : Cls) (abs : Bool) :
    loadM cap fs st name c abs = loadG (st.cache.lookup (name, abs))
      (fun o => { st with cache := ((name, abs), o) :: st.cache.filter (fun p => p.1 != (name, abs)) })
      (fs.lookup name) c st.flag name
      fun t => ({ st with next := st.next + 1, cache := (((name, abs), (⟨st.next, t, none⟩ : MT)) ::
        st.cache.filter (fun p => p.1 != (name, abs))).take cap }, ⟨st.next, t, none⟩) := by
  unfold loadM loadG
  cases st.cache.lookup (name, abs) <;> cases fs.lookup name <;> rfl

theorem loadM_clean (cap : Nat) (fs : FS) (st st' : MSt) (name : Nat) (c : Cls) (abs : Bool) (o : MT)
    (hc : MCleanM fs st) (h : loadM cap fs st name c abs = .ok (st', o)) :
    MCleanM fs st' ∧ OClean o ∧ st'.sentinel = st.sentinel := by
  rw [loadM_eq] at h
  rcases loadG_ok h with ⟨o0, hl, e⟩ | ⟨_, f, hf, _, hcode, e⟩ <;> cases e
  · have ho := hc.2 _ (lookup_mem hl)
    refine ⟨⟨hc.1, fun e he => ?_⟩, ho.1, rfl⟩
    rcases List.mem_cons.mp he with rfl | he
    · exact ho
    · exact hc.2 e (List.mem_filter.mp he).1
  · have ho : OClean ⟨st.next, ⟨name, c, f.items, false⟩, none⟩ :=
      ⟨hcode.resolve_right (ne_true_of_eq_false hc.1), fun ps hps => nomatch hps⟩
    refine ⟨⟨hc.1, fun e he => ?_⟩, ho, rfl⟩
    rcases List.mem_cons.mp (List.mem_of_mem_take he) with rfl | he
    · exact ⟨ho, f, hf, rfl⟩
    · exact hc.2 e (List.mem_filter.mp he).1

theorem writeBack_clean (fs : FS) (st : MSt) (o : MT) (hc : MCleanM fs st) (ho : OClean o) :
    MCleanM fs (writeBack st o) ∧ (writeBack st o).sentinel = st.sentinel := by
  refine ⟨⟨hc.1, ?_⟩, rfl⟩
  intro e he
  simp only [writeBack, List.mem_map] at he
  obtain ⟨e0, he0, rfl⟩ := he
  obtain ⟨h0, hf0⟩ := hc.2 e0 he0
  by_cases hid : (e0.2.oid == o.oid) = true
  · rw [if_pos hid]
    exact ⟨⟨h0.1, fun ps h => ho.2 ps h⟩, hf0⟩
  · rw [if_neg hid]; exact ⟨h0, hf0⟩

def KeepsP (fs : FS) (s0 : List Nat) (r : PRes) : Prop :=
  MCleanM fs r.1 ∧ r.1.sentinel = s0 ∧ ∀ ps, r.2 = .ok ps → pNoCode ps = true

theorem KeepsP.ok {fs : FS} {st : MSt} {s0 : List Nat} {ps : List PItem} (hc : MCleanM fs st) (hs : st.sentinel = s0)
    (hp : pNoCode ps = true) : KeepsP fs s0 (st, .ok ps) := ⟨hc, hs, fun _ h => by cases h; exact hp⟩

theorem KeepsP.err {fs : FS} {st : MSt} {s0 : List Nat} {e : Err} (hc : MCleanM fs st) (hs : st.sentinel = s0) :
    KeepsP fs s0 (st, .error e) := ⟨hc, hs, fun _ h => by cases h⟩

theorem prepM_clean (cap : Nat) (fuel : Nat) (fs : FS) :
    ∀ (stack : List Nat) (o : MT) (st : MSt), MCleanM fs st → OClean o →
      KeepsP fs st.sentinel (prepM cap fuel fs stack o st) := by
  induction fuel with
  | zero => intro stack o st hc _; exact .err hc rfl
  | succ fuel ih =>
      intro stack o st hc ho
      unfold prepM
      cases hp : o.prep with
      | some ps => exact .ok hc rfl (ho.2 ps hp)
      | none =>
          simp only
          -- what is done with the result of the fold, for any result that keeps the invariant
          suffices finish : ∀ r : PRes, KeepsP fs st.sentinel r → KeepsP fs st.sentinel
              (match r with
              | (st', .error e) => (st', .error e)
              | (st', .ok ps) => (writeBack st' { o with prep := some ps }, .ok ps)) by
            apply finish
            apply foldl_inv (KeepsP fs st.sentinel)
            · exact .ok hc rfl rfl
            · intro acc it hit hacc
              obtain ⟨sa, ea⟩ := acc
              cases ea with
              | error e => exact hacc
              | ok ps =>
                  obtain ⟨hca, hsa, hpa⟩ := hacc
                  have hps : pNoCode ps = true := hpa ps rfl
                  have hitc : it.isCode = false := noCode_mem ho.1 hit
                  cases it with
                  | text i => exact .ok hca hsa (pNoCode_snoc _ _ hps rfl)
                  | expr i => exact .ok hca hsa (pNoCode_snoc _ _ hps rfl)
                  | code i m => simp [Item.isCode] at hitc
                  | incl n p dyn =>
                      simp only
                      have hrt : pNoCode (ps ++ [.rt n (childCls o.t.cls p) o.t.absHrefs]) = true :=
                        pNoCode_snoc _ _ hps rfl
                      by_cases hd : (dyn || sa.autoReload) = true
                      · rw [if_pos hd]; exact .ok hca hsa hrt
                      · rw [if_neg hd]
                        cases hl : loadM cap fs sa n (childCls o.t.cls p) o.t.absHrefs with
                        | error e =>
                            cases e <;> first
                              | exact .ok hca hsa hrt
                              | exact .err hca hsa
                        | ok pr =>
                            obtain ⟨st', o'⟩ := pr
                            obtain ⟨hc', ho', hs'⟩ := loadM_clean cap fs sa st' n _ _ o' hca hl
                            simp only
                            by_cases hk : stack.contains o'.t.name = true
                            · rw [if_pos hk]
                              exact .ok hc' (hs'.trans hsa) hrt
                            · rw [if_neg hk]
                              obtain ⟨hc'', hs'', hp''⟩ := ih (o'.t.name :: stack) o' st' hc' ho'
                              cases hr : prepM cap fuel fs (o'.t.name :: stack) o' st' with
                              | mk st'' res =>
                                  rw [hr] at hc'' hs'' hp''
                                  cases res with
                                  | error e => exact .err hc'' (hs''.trans (hs'.trans hsa))
                                  | ok sub =>
                                      exact .ok hc'' (hs''.trans (hs'.trans hsa))
                                        (by rw [pNoCode_append, hps, hp'' sub rfl]; rfl)
          rintro ⟨st', res⟩ ⟨hc', hs', hp'⟩
          cases res with
          | error e => exact .err hc' hs'
          | ok ps =>
              have hps := hp' ps rfl
              have ho2 : OClean { o with prep := some ps } := ⟨ho.1, fun ps' h => by cases h; exact hps⟩
              obtain ⟨hw, hws⟩ := writeBack_clean fs st' _ hc' ho2
              exact .ok hw (hws.trans hs') hps

def KeepsM (fs : FS) (s0 : List Nat) (r : MRes) : Prop := MCleanM fs r.1 ∧ r.1.sentinel = s0

theorem genM_clean (cap : Nat) (fuel pf : Nat) (fs : FS) :
    ∀ (o : MT) (st : MSt), MCleanM fs st → OClean o → KeepsM fs st.sentinel (genM cap fuel pf fs o st) := by
  induction fuel with
  | zero => intro o st hc _; exact ⟨hc, rfl⟩
  | succ fuel ih =>
      intro o st hc ho
      unfold genM
      obtain ⟨hc1, hs1, hp1⟩ := prepM_clean cap pf fs [o.t.name] o st hc ho
      cases hr : prepM cap pf fs [o.t.name] o st with
      | mk st1 res =>
          rw [hr] at hc1 hs1 hp1
          cases res with
          | error e => exact ⟨hc1, hs1⟩
          | ok ps =>
              have hps := hp1 ps rfl
              simp only
              apply foldl_inv (KeepsM fs st.sentinel)
              · exact ⟨hc1, hs1⟩
              · intro acc it hit hacc
                obtain ⟨sa, ea⟩ := acc
                cases ea with
                | some e => exact hacc
                | none =>
                    obtain ⟨hca, hsa⟩ := hacc
                    have hitc : it.isCode = false := by
                      have := hps
                      simp only [pNoCode, List.all_eq_true] at this
                      simpa using this it hit
                    cases it with
                    | text i => exact ⟨⟨hca.1, hca.2⟩, hsa⟩
                    | expr i => exact ⟨⟨hca.1, hca.2⟩, hsa⟩
                    | code i m => simp [PItem.isCode] at hitc
                    | rt n c abs =>
                        simp only
                        cases hl : loadM cap fs sa n c abs with
                        | error e => exact ⟨hca, hsa⟩
                        | ok pr =>
                            obtain ⟨st', o'⟩ := pr
                            obtain ⟨hc', ho', hs'⟩ := loadM_clean cap fs sa st' n c abs o' hca hl
                            obtain ⟨hc'', hs''⟩ := ih o' st' hc' ho'
                            exact ⟨hc'', hs''.trans (hs'.trans hsa)⟩

theorem histStepM_clean (cap fuel pf : Nat) (fs : FS) (st : MSt) (name : Nat) (c : Cls) (hc : MCleanM fs st) :
    MCleanM fs (histStepM cap fuel pf fs st name c).1 ∧
      (histStepM cap fuel pf fs st name c).1.sentinel = st.sentinel := by
  unfold histStepM
  cases hl : loadM cap fs st name c false with
  | error e => exact ⟨hc, rfl⟩
  | ok pr =>
      obtain ⟨st', o⟩ := pr
      obtain ⟨hc', ho', hs'⟩ := loadM_clean cap fs st st' name c false o hc hl
      have hc2 : MCleanM fs { st' with out := [] } := ⟨hc'.1, hc'.2⟩
      obtain ⟨h1, h2⟩ := genM_clean cap fuel pf fs o { st' with out := [] } hc2 ho'
      exact ⟨h1, h2.trans hs'⟩

/-- a history of load-and-render calls through one loader (any names, asked for in any class) -/
def runHistoryM (cap fuel pf : Nat) (fs : FS) (st : MSt) (hist : List (Nat × Cls)) : MSt :=
  hist.foldl (fun st nc => (histStepM cap fuel pf fs st nc.1 nc.2).1) st

theorem runHistoryM_clean (cap fuel pf : Nat) (fs : FS) (hist : List (Nat × Cls)) (st : MSt) (hc : MCleanM fs st) :
    MCleanM fs (runHistoryM cap fuel pf fs st hist) ∧ (runHistoryM cap fuel pf fs st hist).sentinel = st.sentinel := by
  refine foldl_inv (fun s => MCleanM fs s ∧ s.sentinel = st.sentinel) hist st ⟨hc, rfl⟩ fun s nc _ hs => ?_
  obtain ⟨h1, h2⟩ := histStepM_clean cap fuel pf fs s nc.1 nc.2 hs.1
  exact ⟨h1, h2.trans hs.2⟩

theorem mst0_clean (fs : FS) (ar : Bool) : MCleanM fs (mst0 false ar) := ⟨rfl, fun e he => by cases he⟩

/-- with the invariant, loading a file that holds a code block fails — never a cached object —
    and asked for in the language it is written in, with that file's syntax error -/
theorem loadM_code_fails (cap : Nat) (fs : FS) (st : MSt) (name : Nat) (c : Cls) (abs : Bool) (f : File)
    (hc : MCleanM fs st) (hf : fs.lookup name = some f) (hcode : noCode f.items = false) :
    ∃ e, loadM cap fs st name c abs = .error e ∧ (f.syn = c → e = .syntax name) := by
  rw [loadM_eq, hc.1]
  refine loadG_code_fails ?_ hf hcode
  cases hl : st.cache.lookup (name, abs) with
  | none => rfl
  | some o0 =>
      obtain ⟨ho, f', hf', hi⟩ := hc.2 _ (lookup_mem hl)
      rw [show fs.lookup name = some f' from hf', Option.some.injEq] at hf
      have := ho.1
      rw [hi, hf, hcode] at this
      cases this

end Genshi.Exec
