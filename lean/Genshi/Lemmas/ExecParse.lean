/-
  C14, parse level: the loops `parseMarkup` / `parseText` of `Genshi/Model/ExecParse.lean` read the flag only at a code
  block.  Every proof follows the loop's own branches (`fun_induction`; the cases are numbered in the order of the
  definition's branches, the three branches under `python` being 4–6 for markup and 7–9 for text).
-/
import Genshi.Model.ExecParse
namespace Genshi.Exec.Parse

theorem hasExecList_append (a b : List TEv) : hasExecList (a ++ b) = (hasExecList a || hasExecList b) := by
  induction a with
  | nil => simp [hasExecList]
  | cons x xs ih => simp [hasExecList, ih, Bool.or_assoc]

theorem hasExecList_take_drop (l : List TEv) (n : Nat) (d v : List Char) :
    hasExecList (l.take n ++ [.sub d v (l.drop n)]) = hasExecList l := by
  rw [hasExecList_append]
  simp only [hasExecList, TEv.hasExec, Bool.or_false]
  rw [← hasExecList_append, List.take_append_drop]

/-- `interpolate` produces text and expressions, never code blocks -/
def InterpPure (env : Env) : Prop := ∀ s evs, env.interp s = .ok evs → hasExecList evs = false

theorem parseMarkup_flag (env : Env) (src : List XEv) (hsrc : ∀ ev ∈ src, ev.isCode = false) :
    ∀ acc, parseMarkup env true src acc = parseMarkup env false src acc := by
  intro acc
  fun_induction parseMarkup env true src acc
  case case4 | case5 | case6 =>
    have := hsrc _ List.mem_cons_self
    simp [XEv.isCode] at this
  all_goals simp only [parseMarkup, *, if_false]
  all_goals
    rename_i ih
    exact ih fun e he => hsrc e (List.mem_cons_of_mem _ he)

theorem parseMarkup_off_no_exec (env : Env) (hp : InterpPure env) (src : List XEv) :
    ∀ acc out, hasExecList acc = false → parseMarkup env false src acc = .ok out → hasExecList out = false := by
  intro acc out hacc h
  fun_induction parseMarkup env false src acc
  case case3 hi ih => exact ih (by rw [hasExecList_append, hacc, hp _ _ hi]; rfl) h
  all_goals simp_all [hasExecList_append, hasExecList, TEv.hasExec]

theorem parseMarkup_off_rejects (env : Env) (src : List XEv) (hcode : ∃ ev ∈ src, ev.isCode = true) :
    ∀ acc out, parseMarkup env false src acc ≠ .ok out := by
  intro acc out h
  fun_induction parseMarkup env false src acc
  case case1 => obtain ⟨_, h', _⟩ := hcode; cases h'
  case case2 | case4 | case6 => cases h
  case case5 => simp at *
  all_goals
    rename_i ih
    obtain ⟨e, he, hc⟩ := hcode
    cases he with
    | head => simp_all only [XEv.isCode, decide_eq_true_eq, reduceCtorEq]
    | tail _ h' => exact ih ⟨e, h', hc⟩ h

/-- with the flag off the only errors are "code blocks not allowed" and those of `interpolate`:
    the guard comes before the compilation of the block, `Suite(...)` is never reached -/
theorem parseMarkup_off_error_kind (env : Env) (src : List XEv) :
    ∀ acc e, parseMarkup env false src acc = .error e → e = .notAllowed ∨ ∃ s, env.interp s = .error e := by
  intro acc e h
  fun_induction parseMarkup env false src acc
  case case2 hi => cases h; exact .inr ⟨_, hi⟩
  all_goals simp_all

theorem parseText_flag (env : Env) (src : List Seg) (hsrc : ∀ sg ∈ src, sg.isCode = false) :
    ∀ stream dm depth, parseText env true src stream dm depth = parseText env false src stream dm depth := by
  intro stream dm depth
  fun_induction parseText env true src stream dm depth
  case case7 | case8 | case9 =>
    have := hsrc _ List.mem_cons_self
    simp [Seg.isCode] at this
  all_goals simp +zetaDelta only [parseText, *, if_false, if_true, Bool.false_eq_true]
  all_goals
    rename_i ih
    exact ih fun e he => hsrc e (List.mem_cons_of_mem _ he)

theorem parseText_off_no_exec (env : Env) (hp : InterpPure env) (src : List Seg) :
    ∀ stream dm depth out, hasExecList stream = false →
      parseText env false src stream dm depth = .ok out → hasExecList out = false := by
  intro stream dm depth out hs h
  fun_induction parseText env false src stream dm depth
  case case3 hi ih => exact ih (by rw [hasExecList_append, hs, hp _ _ hi]; rfl) h
  -- `{% end %}` of an open directive: the events since it was opened are folded into one `sub` event
  case case10 ih => exact ih (by rw [hasExecList_take_drop]; exact hs) h
  all_goals simp_all +zetaDelta [hasExecList_append, hasExecList, TEv.hasExec]

theorem parseText_off_rejects (env : Env) (src : List Seg) (hcode : ∃ sg ∈ src, sg.isCode = true) :
    ∀ stream dm depth out, parseText env false src stream dm depth ≠ .ok out := by
  intro stream dm depth out h
  fun_induction parseText env false src stream dm depth
  case case1 => obtain ⟨_, h', _⟩ := hcode; cases h'
  case case2 | case5 | case7 | case9 | case13 => cases h
  case case8 => simp at *
  all_goals
    rename_i ih
    obtain ⟨e, he, hc⟩ := hcode
    cases he with
    | head => simp_all only [Seg.isCode, decide_eq_true_eq, reduceCtorEq, (by decide : kwInclude ≠ python)]
    | tail _ h' => exact ih ⟨e, h', hc⟩ h

end Genshi.Exec.Parse
