/-
  C14 — which error ends a run over a well-formed include graph: when every include target
  exists, is written in the template language its include asks for, and the graph is acyclic
  (a rank decreases along includes), and the fuel exceeds the rank of the root, then `load` /
  `preload` / `gen` never end in "not found", "recursion without end" or the model's
  "unmodelled": the only error left is the parsers' `syntax` (TemplateSyntaxError).
-/
import Genshi.Lemmas.ExecRoot
namespace Genshi.Exec
open Genshi.Gen.Exec Genshi.Props.C14

def Err.isSyntax : Err → Bool
  | .syntax _ => true
  | _ => false

theorem Err.eq_syntax {e : Err} (h : e.isSyntax = true) : ∃ n, e = .syntax n := by
  cases e with
  | «syntax» n => exact ⟨n, rfl⟩
  | _ => cases h

structure WellFormed (fs : FS) (rank : Nat → Nat) : Prop where
  targets : ∀ a f n p dyn, fs.lookup a = some f → Item.incl n p dyn ∈ f.items → (fs.lookup n).isSome = true
  acyclic : ∀ a b, Inc fs a b → rank b < rank a
  /-- the included file is written in the language the include asks for (`parse="text"` names a
      new-style text template, a text template includes templates of its own kind) -/
  classes : ∀ a f n p dyn g, fs.lookup a = some f → Item.incl n p dyn ∈ f.items →
    fs.lookup n = some g → g.syn = childCls f.syn p

theorem childCls_text (c : Cls) (p : Parse) (h : c ≠ .markup) : childCls c p = c := by
  cases c <;> cases p <;> simp_all [childCls]

theorem parse_err_syntax (c : Cls) (flag : Bool) (name : Nat) (f : File) (e : Err)
    (hc : c = f.syn ∨ c = .markup) (h : parseFile c flag name f = .error e) : e.isSyntax = true := by
  rw [parseFile_error h (hc.imp_left Eq.symm)]; rfl

theorem load_err_syntax (fs : FS) (st : St) (name : Nat) (c : Cls) (abs : Bool) (e : Err) (g : File)
    (hex : fs.lookup name = some g) (hc : c = g.syn ∨ c = .markup)
    (h : load fs st name c abs = .error e) : e.isSyntax = true := by
  rw [load_eq, hex] at h
  obtain ⟨_, ⟨hn, _⟩ | ⟨f, hf, hp⟩⟩ := loadG_error h
  · cases hn
  · cases hf; exact parse_err_syntax c st.flag name g e hc hp

def Tame (fs : FS) (r : Res) : Prop := Faithful fs r.1 ∧ ∀ e, r.2 = some e → e.isSyntax = true

theorem Tame.ok {fs : FS} {st : St} (hf : Faithful fs st) : Tame fs (st, none) := ⟨hf, fun _ h => nomatch h⟩

theorem Tame.err {fs : FS} {st : St} {e : Err} (hf : Faithful fs st) (he : e.isSyntax = true) :
    Tame fs (st, some e) := ⟨hf, fun _ h => Option.some.inj h ▸ he⟩

/-- the load of an include of a well-formed graph: it fails with a syntax error only, and what it
    returns is the file of that name, of smaller rank than the including template -/
theorem load_tame (fs : FS) (rank : Nat → Nat) (hwf : WellFormed fs rank) (t : Tmpl) (st : St) (n : Nat)
    (p : Parse) (dyn : Bool) (hf : Faithful fs st) (htf : TF fs t) (hit : Item.incl n p dyn ∈ t.items) :
    (∀ e, load fs st n (childCls t.cls p) t.absHrefs = .error e → e.isSyntax = true) ∧
    ∀ st' t', load fs st n (childCls t.cls p) t.absHrefs = .ok (st', t') →
      Faithful fs st' ∧ TF fs t' ∧ rank t'.name < rank t.name := by
  obtain ⟨f, hfl, hitems, hcls⟩ := htf
  have hmem : Item.incl n p dyn ∈ f.items := hitems ▸ hit
  have hex := hwf.targets t.name f n p dyn hfl hmem
  cases hg : fs.lookup n with
  | none => rw [hg] at hex; cases hex
  | some g =>
      have hgs := hwf.classes t.name f n p dyn g hfl hmem hg
      refine ⟨fun e hl => load_err_syntax fs st n _ _ e g hg (Or.inl (by rw [hcls, hgs])) hl, fun st' t' hl => ?_⟩
      obtain ⟨hf', _, hname, htf', _⟩ := load_faithful fs st st' n _ _ t' hf hl
      exact ⟨hf', htf', by rw [hname]; exact hwf.acyclic t.name n ⟨f, p, dyn, hfl, hmem⟩⟩

theorem preloadL_tame (fs : FS) (rank : Nat → Nat) (hwf : WellFormed fs rank) (fuel : Nat) :
    ∀ (stack : List Nat) (t : Tmpl) (st : St), Faithful fs st → TF fs t → rank t.name < fuel →
      Tame fs (preloadL (@load fs) fuel stack t st) := by
  induction fuel with
  | zero => intro stack t st _ _ h; cases h
  | succ fuel ih =>
      intro stack t st hf htf hr
      refine foldRes_inv (Tame fs) _ _ _ (Tame.ok hf) fun sa it hit hsa => ?_
      cases it with
      | incl n p dyn =>
          cases dyn with
          | true => exact Tame.ok hsa.1
          | false =>
              obtain ⟨herr, hok⟩ := load_tame fs rank hwf t sa n p false hsa.1 htf hit
              dsimp only
              cases hl : load fs sa n (childCls t.cls p) t.absHrefs with
              | error e => exact Tame.err hsa.1 (herr e hl)
              | ok pr =>
                  obtain ⟨hf', htf', hlt⟩ := hok _ _ hl
                  dsimp only
                  split
                  · exact Tame.ok hf'
                  · exact ih _ _ _ hf' htf' (Nat.lt_of_lt_of_le hlt (Nat.le_of_lt_succ hr))
      | _ => exact Tame.ok hsa.1

theorem genL_tame (fs : FS) (rank : Nat → Nat) (hwf : WellFormed fs rank) (pf : Nat) (fuel : Nat) :
    ∀ (prep : Bool) (stack : List Nat) (t : Tmpl) (st : St), Faithful fs st → TF fs t →
      rank t.name < fuel → rank t.name < pf → Tame fs (genL (@load fs) fuel pf prep stack t st) := by
  induction fuel with
  | zero => intro prep stack t st _ _ h; cases h
  | succ fuel ih =>
      intro prep stack t st hf htf hr hpf
      refine foldRes_inv (Tame fs) _ _ _ ?_ fun sa it hit hsa => ?_
      · split
        · exact preloadL_tame fs rank hwf pf stack t st hf htf hpf
        · exact Tame.ok hf
      · cases it with
        | incl n p dyn =>
            obtain ⟨herr, hok⟩ := load_tame fs rank hwf t sa n p dyn hsa.1 htf hit
            dsimp only
            cases hl : load fs sa n (childCls t.cls p) t.absHrefs with
            | error e => exact Tame.err hsa.1 (herr e hl)
            | ok pr =>
                obtain ⟨hf', htf', hlt⟩ := hok _ _ hl
                dsimp only
                split
                · exact ih _ _ _ _ hf' htf' (Nat.lt_of_lt_of_le hlt (Nat.le_of_lt_succ hr)) (Nat.lt_trans hlt hpf)
                · exact ih _ _ _ _ hf' htf' (Nat.lt_of_lt_of_le hlt (Nat.le_of_lt_succ hr)) (Nat.lt_trans hlt hpf)
        | _ => exact Tame.ok hsa.1

theorem gen_tame (fs : FS) (rank : Nat → Nat) (hwf : WellFormed fs rank) (pf : Nat) (fuel : Nat) :
    ∀ (prep : Bool) (host : Cls) (stack : List Nat) (t : Tmpl) (st : St), Faithful fs st → TF fs t →
      (host = t.cls ∨ host = .markup) →
      rank t.name < fuel → rank t.name < pf → Tame fs (gen fuel pf fs prep host stack t st) := by
  intro prep host stack t st hf htf _ hr hpf
  rw [gen_eq]
  exact genL_tame fs rank hwf pf fuel prep stack t st hf htf hr hpf

/-- the root makes sense: its file exists and is written for the class it is built with, and
    the source kind exists for that class (a parsed stream is a markup-only source) -/
structure RootOk (root : Root) (fs : FS) (rn : Nat) : Prop where
  file : ∃ f, fs.lookup rn = some f ∧ root.cls = some f.syn
  src : ∀ c s own, root = .direct c s own → srcOk c s = true

theorem mkLoader_ok_disabled (cfg : Config) (root : Root) (fs : FS) (rn : Nat) (hd : root.disabled cfg)
    (hok : RootOk root fs rn) : ∃ st, mkLoader cfg root = .ok st := by
  cases root with
  | direct c s own =>
      simp only [mkLoader, (direct_table c s cfg.tmpl _).2.1, hok.src c s own rfl, if_true]
      exact ⟨_, rfl⟩
  | load c d =>
      simp only [mkLoader, (loader_table c d cfg.loader).1]
      exact ⟨_, rfl⟩
  | pluginFile p | pluginString p =>
      have hp : parseOpt cfg.opt = .deny := documented_off_denied_lem _ hd
      exact ⟨st0 false cfg.autoReload, by simp only [mkLoader, hp]⟩

theorem mkRoot_err_syntax (cfg : Config) (fs : FS) (rn : Nat) (st : St) (root : Root) (e : Err)
    (hok : RootOk root fs rn) (h : mkRoot cfg fs rn st root = .error e) : e.isSyntax = true := by
  obtain ⟨f, hfl, hcls⟩ := hok.file
  obtain ⟨c, hc, heq⟩ := mkRoot_eq cfg fs rn st root
  cases Option.some.inj (hc.symm.trans hcls)
  rw [heq] at h
  have parsed : ∀ b (g : Tmpl → St × Tmpl × List Nat), (parseRoot fs rn f.syn b).map g = .error e →
      e.isSyntax = true := fun b g h => by
    simp only [parseRoot, hfl] at h
    cases hp : parseFile f.syn b rn f with
    | error e' => rw [hp] at h; cases h; exact parse_err_syntax _ b rn f e (Or.inl rfl) hp
    | ok t1 => rw [hp] at h; cases h
  have loaded : ((load fs st rn f.syn).map fun r => (r.1, r.2, [rn])) = .error e → e.isSyntax = true := fun h => by
    cases hl : load fs st rn f.syn with
    | error e' => rw [hl] at h; cases h; exact load_err_syntax fs st rn _ false e f hfl (Or.inl rfl) hl
    | ok pr => rw [hl] at h; cases h
  cases root with
  | direct c s own =>
      dsimp only at h
      have hs : srcOk f.syn s = true := (Option.some.inj hcls : c = f.syn) ▸ hok.src c s own rfl
      rw [hs, if_pos rfl] at h
      exact parsed _ _ h
  | pluginString _ => exact parsed _ _ h
  | load _ _ => exact loaded h
  | pluginFile _ => exact loaded h

theorem run_err_syntax (fuel pf : Nat) (cfg : Config) (root : Root) (fs : FS) (rn : Nat) (hist : List Nat)
    (rank : Nat → Nat) (hd : root.disabled cfg) (hwf : WellFormed fs rank) (hok : RootOk root fs rn)
    (hfuel : rank rn < fuel) (hpf : rank rn < pf) (e : Err)
    (h : (run fuel pf cfg root fs rn hist).err = some e) : e.isSyntax = true := by
  obtain ⟨s0, hl0⟩ := mkLoader_ok_disabled cfg root fs rn hd hok
  rcases run_cases fuel pf cfg root fs rn hist with ⟨e', he, _⟩ | ⟨st, hh, hl, rfl, hrun⟩
  · rw [hl0] at he; cases he
  · have hfh := afterHistory_faithful fuel pf fs root st hist (mkLoader_faithful cfg fs root st hl)
    rcases hrun with ⟨e', hm, hr⟩ | ⟨st', t, stack, hm, hr⟩
    · rw [hr] at h
      cases h
      exact mkRoot_err_syntax cfg fs rn _ root e hok hm
    · rw [hr] at h
      obtain ⟨hf', hname, htf⟩ := mkRoot_faithful cfg fs rn _ st' root t stack hfh hm
      exact (gen_tame fs rank hwf pf fuel true t.cls stack t st' hf' htf (Or.inl rfl)
        (by rw [hname]; exact hfuel) (by rw [hname]; exact hpf)).2 e h

end Genshi.Exec
