/-
  C14 — the renderer of the include-graph models, once.  `gen` (`Genshi/Model/ExecGraph.lean`) and
  `genB` (`Genshi/Model/ExecLru.lean`) are the same program over two loaders; `genL` is that program
  over an abstract loader, and what rendering keeps invariant is proved about it (`RenderInv`).
-/
import Genshi.Model.ExecLru
import Genshi.Lemmas.ListBasics
namespace Genshi.Exec

theorem foldl_rel {α β γ : Type} (R : β → γ → Prop) (f : β → α → β) (g : γ → α → γ) (l : List α)
    (b : β) (c : γ) (h0 : R b c) (hstep : ∀ x y it, it ∈ l → R x y → R (f x it) (g y it)) :
    R (l.foldl f b) (l.foldl g c) := by
  induction l generalizing b c with
  | nil => exact h0
  | cons x xs ih =>
      simp only [List.foldl_cons]
      apply ih
      · exact hstep b c x (List.mem_cons_self) h0
      · intro x' y' it hit hr
        exact hstep x' y' it (List.mem_cons_of_mem _ hit) hr

/-- `TemplateLoader.load` as the renderer uses it: loader state, file name, class asked for,
    "the name is an absolute path" -/
abbrev Loader := St → Nat → Cls → Bool → Except Err (St × Tmpl)

/-- the loop of the renderers: `f` over the items, until the first error (which is kept, with the
    state it occurred in) -/
def foldRes {α : Type} (f : St → α → Res) (l : List α) (start : Res) : Res :=
  l.foldl (fun acc it =>
    match acc with
    | (st, some e) => (st, some e)
    | (st, none) => f st it) start

theorem foldRes_inv {α : Type} (P : Res → Prop) (f : St → α → Res) (l : List α) (start : Res)
    (h0 : P start) (hstep : ∀ st it, it ∈ l → P (st, none) → P (f st it)) : P (foldRes f l start) := by
  refine foldl_inv P l start h0 ?_
  rintro ⟨st, _ | e⟩ it hit hacc
  · exact hstep st it hit hacc
  · exact hacc

theorem foldRes_err {α : Type} (f : St → α → Res) (l : List α) (st : St) (e : Err) :
    foldRes f l (st, some e) = (st, some e) := by
  induction l with
  | nil => rfl
  | cons x xs ih => exact ih

/-- a loop that ends without error: every step was taken without error, from a state reached from
    the start (`T`, a preorder that the steps respect under the invariant `P`) to one from which the
    end is reached -/
theorem foldRes_ok {α : Type} (f : St → α → Res) (P : St → Prop) (T : St → St → Prop) (hrefl : ∀ a, T a a)
    (htrans : ∀ a b c, T a b → T b c → T a c) (l : List α)
    (hstep : ∀ a it a', it ∈ l → P a → f a it = (a', none) → P a' ∧ T a a') :
    ∀ (acc : Res) (s' : St), P acc.1 → foldRes f l acc = (s', none) →
      T acc.1 s' ∧ ∀ it ∈ l, ∃ a a', P a ∧ f a it = (a', none) ∧ T a' s' := by
  induction l with
  | nil => rintro _ s' _ rfl; exact ⟨hrefl _, fun _ h => nomatch h⟩
  | cons x xs ih =>
      rintro ⟨a, _ | e⟩ s' ha h
      · rcases hx : f a x with ⟨a', _ | e⟩
        · obtain ⟨hpa', hta⟩ := hstep a x a' List.mem_cons_self ha hx
          obtain ⟨ht, hall⟩ := ih (fun a it a' hit => hstep a it a' (List.mem_cons_of_mem _ hit)) (a', none) s' hpa'
            (by rw [← hx]; exact h)
          refine ⟨htrans _ _ _ hta ht, fun it hit => ?_⟩
          cases hit with
          | head => exact ⟨a, a', ha, hx, ht⟩
          | tail _ hit => exact hall it hit
        · have : foldRes f xs (f a x) = (s', none) := h
          rw [hx, foldRes_err] at this
          cases this
      · rw [foldRes_err] at h
        cases h

/-- `preload` / `preloadB` over the loader `ld` -/
def preloadL (ld : Loader) : Nat → List Nat → Tmpl → St → Res
  | 0, _, _, st => (st, some .diverge)
  | fuel + 1, stack, t, st =>
      foldRes (fun st it =>
        match it with
        | .incl n p false =>
            match ld st n (childCls t.cls p) t.absHrefs with
            | .error e => (st, some e)
            | .ok (st', t') =>
                if stack.contains t'.name then (st', none) else preloadL ld fuel (t'.name :: stack) t' st'
        | _ => (st, none)) t.items (st, none)

/-- `gen` / `genB` over the loader `ld`, without the host class: `gen` hands it down and reads it in
    `inclCls` only, which ignores it.  So an include is one case: both ways of including (inlined / at run
    time) load the class `childCls t.cls p` and differ only in how the included template is then generated. -/
def genL (ld : Loader) : Nat → Nat → Bool → List Nat → Tmpl → St → Res
  | 0, _, _, _, _, st => (st, some .diverge)
  | fuel + 1, pf, prep, stack, t, st =>
      foldRes (fun st it =>
        match it with
        | .text i => ({ st with out := st.out ++ [i] }, none)
        | .expr i => ({ st with out := st.out ++ [i] }, none)
        | .code i m => ({ st with sentinel := st.sentinel ++ List.replicate m i }, none)
        | .incl n p dyn =>
            match ld st n (childCls t.cls p) t.absHrefs with
            | .error e => (st, some e)
            | .ok (st', t') =>
                if !st.autoReload && !dyn && !stack.contains n then genL ld fuel pf false (n :: stack) t' st'
                else genL ld fuel pf true [t'.name] t' st')
        t.items (if prep && !st.autoReload then preloadL ld pf stack t st else (st, none))

theorem preload_eq (fs : FS) (fuel : Nat) : preload fuel fs = preloadL (@load fs) fuel := by
  induction fuel with
  | zero => rfl
  | succ fuel ih =>
      funext stack t st
      unfold preload preloadL foldRes
      rw [ih]
      rfl

theorem preloadB_eq (cap : Nat) (fs : FS) (fuel : Nat) : preloadB cap fuel fs = preloadL (@loadB cap fs) fuel := by
  induction fuel with
  | zero => rfl
  | succ fuel ih =>
      funext stack t st
      unfold preloadB preloadL foldRes
      rw [ih]
      rfl

theorem gen_eq (fs : FS) (fuel pf : Nat) : ∀ (prep : Bool) (host : Cls) (stack : List Nat) (t : Tmpl) (st : St),
    gen fuel pf fs prep host stack t st = genL (@load fs) fuel pf prep stack t st := by
  induction fuel with
  | zero => intros; rfl
  | succ fuel ih =>
      intro prep host stack t st
      unfold gen genL foldRes inclCls
      rw [preload_eq]
      refine congrArg (fun f => List.foldl f _ t.items) (funext fun acc => funext fun it => ?_)
      rcases acc with ⟨sa, _ | e⟩
      · cases it with
        | incl n p dyn =>
            dsimp only
            cases load fs sa n (childCls t.cls p) t.absHrefs with
            | error e => exact ite_self _
            | ok pr => dsimp only; rw [ih, ih]
        | _ => rfl
      · rfl

theorem genB_eq (cap : Nat) (fs : FS) (fuel pf : Nat) :
    ∀ (prep : Bool) (host : Cls) (stack : List Nat) (t : Tmpl) (st : St),
      genB cap fuel pf fs prep host stack t st = genL (@loadB cap fs) fuel pf prep stack t st := by
  induction fuel with
  | zero => intros; rfl
  | succ fuel ih =>
      intro prep host stack t st
      unfold genB genL foldRes inclCls
      rw [preloadB_eq]
      refine congrArg (fun f => List.foldl f _ t.items) (funext fun acc => funext fun it => ?_)
      rcases acc with ⟨sa, _ | e⟩
      · cases it with
        | incl n p dyn =>
            dsimp only
            cases loadB cap fs sa n (childCls t.cls p) t.absHrefs with
            | error e => exact ite_self _
            | ok pr => dsimp only; rw [ih, ih]
        | _ => rfl
      · rfl

/-- `P` is an invariant of the loader state under rendering through `ld`: a load keeps it and
    returns a template satisfying `Q`, writing output keeps it, and so does running a code block of
    a template satisfying `Q` -/
structure RenderInv (ld : Loader) (P : St → Prop) (Q : Tmpl → Prop) : Prop where
  load : ∀ st st' n c abs t, P st → ld st n c abs = .ok (st', t) → P st' ∧ Q t
  out : ∀ st o, P st → P { st with out := o }
  code : ∀ st t i m, P st → Q t → Item.code i m ∈ t.items →
    P { st with sentinel := st.sentinel ++ List.replicate m i }

variable {ld : Loader} {P : St → Prop} {Q : Tmpl → Prop} (h : RenderInv ld P Q)
include h

theorem preloadL_inv (fuel : Nat) : ∀ (stack : List Nat) (t : Tmpl) (st : St), P st →
    P (preloadL ld fuel stack t st).1 := by
  induction fuel with
  | zero => intro _ _ st hst; exact hst
  | succ fuel ih =>
      intro stack t st hst
      refine foldRes_inv (fun r => P r.1) _ _ _ hst fun sa it _ hsa => ?_
      cases it with
      | incl n p dyn =>
          cases dyn with
          | true => exact hsa
          | false =>
              dsimp only
              cases hl : ld sa n (childCls t.cls p) t.absHrefs with
              | error e => exact hsa
              | ok pr =>
                  have h' := (h.load _ _ _ _ _ _ hsa hl).1
                  dsimp only
                  split
                  · exact h'
                  · exact ih _ _ _ h'
      | _ => exact hsa

theorem genL_inv (fuel pf : Nat) : ∀ (prep : Bool) (stack : List Nat) (t : Tmpl) (st : St),
    P st → Q t → P (genL ld fuel pf prep stack t st).1 := by
  induction fuel with
  | zero => intro _ _ _ st hst _; exact hst
  | succ fuel ih =>
      intro prep stack t st hst ht
      refine foldRes_inv (fun r => P r.1) _ _ _ ?_ fun sa it hit hsa => ?_
      · split
        · exact preloadL_inv h pf stack t st hst
        · exact hst
      · cases it with
        | text i => exact h.out _ _ hsa
        | expr i => exact h.out _ _ hsa
        | code i m => exact h.code _ _ _ _ hsa ht hit
        | incl n p dyn =>
            dsimp only
            cases hl : ld sa n (childCls t.cls p) t.absHrefs with
            | error e => exact hsa
            | ok pr =>
                obtain ⟨h', ht'⟩ := h.load _ _ _ _ _ _ hsa hl
                dsimp only
                split
                · exact ih _ _ _ _ h' ht'
                · exact ih _ _ _ _ h' ht'

end Genshi.Exec
