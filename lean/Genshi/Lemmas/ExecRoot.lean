/-
  Helper lemmas tying the roots of C14 (how the root template comes to exist: `mkLoader`,
  `mkRoot` of `Genshi/Model/ExecGraph.lean`, defined from the generated tables) to the invariants
  of `Genshi/Lemmas/ExecGraph.lean`.
-/
import Genshi.Lemmas.Exec
import Genshi.Lemmas.ExecGraph
namespace Genshi.Exec
open Genshi.Gen.Exec Genshi.Props.C14

theorem st0_clean (ar : Bool) : StClean (st0 false ar) := ⟨rfl, by intro k t h; simp [st0] at h⟩

/-- reload mode of the loader a root works with -/
def rootAR (root : Root) (ar : Bool) : Bool :=
  match root with
  | .direct _ _ true => false
  | _ => ar

theorem mkLoader_flags (cfg : Config) (root : Root) (st : St) (h : mkLoader cfg root = .ok st) :
    ∃ b, heldFlag cfg root = some b ∧ st = st0 b (rootAR root cfg.autoReload) := by
  cases root with
  | direct c s own =>
      simp only [mkLoader, (direct_table c s cfg.tmpl _).2.1] at h
      cases hs : srcOk c s with
      | false => simp [hs] at h
      | true =>
          simp only [hs, if_true] at h
          cases h
          cases own <;> exact ⟨_, rfl, rfl⟩
  | load c d =>
      simp only [mkLoader, (loader_table c d cfg.loader).1] at h
      cases h
      exact ⟨_, rfl, rfl⟩
  | pluginFile p | pluginString p =>
      cases hp : parseOpt cfg.opt <;> simp only [mkLoader, hp, reduceCtorEq] at h <;> cases h <;>
        exact ⟨_, by simp only [heldFlag, rootFlag, hp], rfl⟩

theorem mkLoader_disabled (cfg : Config) (root : Root) (st : St) (hd : root.disabled cfg)
    (h : mkLoader cfg root = .ok st) : StClean st ∧ st.sentinel = [] := by
  obtain ⟨b, hb, rfl⟩ := mkLoader_flags cfg root st h
  rw [(disabled_flags cfg root hd).2] at hb
  cases hb
  exact ⟨st0_clean _, rfl⟩

/-- the root template parsed on its own — not through the loader — under the flag `b` -/
def parseRoot (fs : FS) (rn : Nat) (c : Cls) (b : Bool) : Except Err Tmpl :=
  match fs.lookup rn with
  | some f => parseFile c b rn f
  | none => .error .unmodelled

theorem parseRoot_ok {fs : FS} {rn : Nat} {c : Cls} {b : Bool} {t : Tmpl} (h : parseRoot fs rn c b = .ok t) :
    ∃ f, fs.lookup rn = some f ∧ parseFile c b rn f = .ok t := by
  unfold parseRoot at h
  cases hf : fs.lookup rn with
  | none => rw [hf] at h; cases h
  | some f => rw [hf] at h; exact ⟨f, rfl, h⟩

theorem map_ok {ε α β : Type} {f : α → β} {x : Except ε α} {y : β} (h : x.map f = .ok y) :
    ∃ a, x = .ok a ∧ y = f a := by
  cases x with
  | error e => cases h
  | ok a => cases h; exact ⟨a, rfl, rfl⟩

def Root.cls : Root → Option Cls
  | .direct c _ _ => some c
  | .load c _ => some c
  | .pluginFile p => pluginCls p
  | .pluginString p => pluginCls p

/-- `mkRoot` with the tables read: a directly constructed root is parsed under the flag asked for,
    the string template of a plugin under the flag of the plugin's loader (and gets a fresh loader),
    every other root is loaded -/
theorem mkRoot_eq (cfg : Config) (fs : FS) (rn : Nat) (st : St) (root : Root) :
    ∃ c, root.cls = some c ∧ mkRoot cfg fs rn st root =
      match root with
      | .direct _ s _ =>
          if srcOk c s then (parseRoot fs rn c (want cfg.tmpl)).map fun t => (st, t, [rn])
          else .error .unmodelled
      | .pluginString _ =>
          (parseRoot fs rn c st.flag).map fun t =>
            ({ st0 st.flag false with sentinel := st.sentinel }, { t with absHrefs := true }, [])
      | _ => (load fs st rn c).map fun r => (r.1, r.2, [rn]) := by
  cases root with
  | direct c s own =>
      refine ⟨c, rfl, ?_⟩
      simp only [mkRoot, (direct_table c s cfg.tmpl _).1, parseRoot]
      cases srcOk c s with
      | false => rfl
      | true =>
          cases fs.lookup rn with
          | none => rfl
          | some f => simp only [if_true]; cases parseFile c (want cfg.tmpl) rn f <;> rfl
  | load c d =>
      refine ⟨c, rfl, ?_⟩
      simp only [mkRoot]
      cases load fs st rn c <;> rfl
  | pluginFile p =>
      obtain ⟨c, hpc, _⟩ := plugin_table p
      refine ⟨c, hpc, ?_⟩
      simp only [mkRoot, hpc]
      cases load fs st rn c <;> rfl
  | pluginString p =>
      obtain ⟨c, hpc, hrow⟩ := plugin_table p
      refine ⟨c, hpc, ?_⟩
      simp only [mkRoot, hpc, hrow, parseRoot]
      cases fs.lookup rn with
      | none => rfl
      | some f => dsimp only; cases parseFile c st.flag rn f <;> rfl

/-- how a root template comes to exist: a directly constructed one is parsed on its own under the flag asked for
    (the loader stays as it is); the string template of a plugin is parsed under the flag of the plugin's loader and gets
    a fresh loader; every other root is loaded -/
theorem mkRoot_ok {cfg : Config} {fs : FS} {rn : Nat} {st st' : St} {root : Root} {t : Tmpl} {stack : List Nat}
    (h : mkRoot cfg fs rn st root = .ok (st', t, stack)) :
    ∃ c, root.cls = some c ∧
      ((∃ s own, root = .direct c s own ∧ parseRoot fs rn c (want cfg.tmpl) = .ok t ∧ st' = st ∧ stack = [rn]) ∨
       (∃ t1, parseRoot fs rn c st.flag = .ok t1 ∧ t = { t1 with absHrefs := true } ∧
          st' = { st0 st.flag false with sentinel := st.sentinel }) ∨
       (load fs st rn c = .ok (st', t) ∧ stack = [rn])) := by
  obtain ⟨c, hc, heq⟩ := mkRoot_eq cfg fs rn st root
  rw [heq] at h
  refine ⟨c, hc, ?_⟩
  have loaded : ((load fs st rn c).map fun r => (r.1, r.2, [rn])) = .ok (st', t, stack) →
      load fs st rn c = .ok (st', t) ∧ stack = [rn] := fun h => by
    obtain ⟨r, hl, hr⟩ := map_ok h
    cases hr; exact ⟨hl, rfl⟩
  cases root with
  | direct c' s own =>
      cases hc
      dsimp only at h
      split at h
      · obtain ⟨t1, hp, hr⟩ := map_ok h
        cases hr; exact .inl ⟨s, own, rfl, hp, rfl, rfl⟩
      · cases h
  | pluginString _ =>
      obtain ⟨t1, hp, hr⟩ := map_ok h
      cases hr; exact .inr (.inl ⟨t1, hp, rfl, rfl⟩)
  | load _ _ => exact .inr (.inr (loaded h))
  | pluginFile _ => exact .inr (.inr (loaded h))

theorem mkRoot_direct (cfg : Config) (fs : FS) (rn : Nat) (st st' : St) (c : Cls) (s : Src) (own : Bool)
    (t : Tmpl) (stack : List Nat) (h : mkRoot cfg fs rn st (.direct c s own) = .ok (st', t, stack)) :
    st' = st ∧ stack = [rn] ∧ ∃ f, fs.lookup rn = some f ∧ parseFile c (want cfg.tmpl) rn f = .ok t := by
  obtain ⟨_, hc, heq⟩ := mkRoot_eq cfg fs rn st (.direct c s own)
  cases hc
  rw [heq] at h
  dsimp only at h
  split at h
  · obtain ⟨t1, hp, hr⟩ := map_ok h
    cases hr
    exact ⟨rfl, rfl, parseRoot_ok hp⟩
  · cases h

theorem mkRoot_disabled (cfg : Config) (fs : FS) (rn : Nat) (st st' : St) (root : Root) (t : Tmpl)
    (stack : List Nat) (hd : root.disabled cfg) (hc : StClean st)
    (h : mkRoot cfg fs rn st root = .ok (st', t, stack)) :
    StClean st' ∧ noCode t.items = true ∧ st'.sentinel = st.sentinel := by
  have parsed : ∀ c t1, parseRoot fs rn c false = .ok t1 → noCode t1.items = true := fun c t1 hp => by
    obtain ⟨f, _, hp⟩ := parseRoot_ok hp
    exact parse_off_clean c rn f t1 hp
  obtain ⟨c, _, ⟨s, own, rfl, hp, rfl, _⟩ | ⟨t1, hp, rfl, rfl⟩ | ⟨hl, _⟩⟩ := mkRoot_ok h
  · have ht : cfg.tmpl = .off := by
      cases own with
      | false => exact hd.1
      | true => exact hd
    rw [ht] at hp
    exact ⟨hc, parsed _ _ hp, rfl⟩
  · rw [hc.1] at hp
    exact ⟨⟨hc.1, (st0_clean false).2⟩, parsed _ t1 hp, rfl⟩
  · obtain ⟨h1, h2, h3, _⟩ := load_clean fs st _ rn c false _ hc hl
    exact ⟨h1, h2, h3⟩

theorem mkLoader_shape (cfg : Config) (root : Root) (st : St) (h : mkLoader cfg root = .ok st) :
    st = st0 st.flag (rootAR root cfg.autoReload) := by
  obtain ⟨b, _, rfl⟩ := mkLoader_flags cfg root st h
  rfl

theorem parseRoot_flag (fs : FS) (hfs : FsNoCode fs) (rn : Nat) (c : Cls) (b b' : Bool) :
    parseRoot fs rn c b = parseRoot fs rn c b' := by
  unfold parseRoot
  cases hf : fs.lookup rn with
  | none => rfl
  | some f => exact parse_noCode_flag c rn f (hfs rn f hf) b b'

theorem mkRoot_flag (cfg cfg' : Config) (fs : FS) (hfs : FsNoCode fs) (rn : Nat) (st : St) (b : Bool)
    (root : Root) :
    mkRoot cfg' fs rn (st.setFlag b) root =
      match mkRoot cfg fs rn st root with
      | .error e => .error e
      | .ok (s, t, k) => .ok (s.setFlag b, t, k) := by
  obtain ⟨c, hc, heq⟩ := mkRoot_eq cfg fs rn st root
  obtain ⟨c', hc', heq'⟩ := mkRoot_eq cfg' fs rn (st.setFlag b) root
  cases hc.symm.trans hc'
  rw [heq, heq']
  have loaded : ((load fs (st.setFlag b) rn c).map fun r => (r.1, r.2, [rn])) =
      match ((load fs st rn c).map fun r => (r.1, r.2, [rn])) with
      | .error e => .error e
      | .ok (s, t, k) => .ok (s.setFlag b, t, k) := by
    rw [load_flag fs hfs st rn c false b]
    cases load fs st rn c <;> rfl
  cases root with
  | direct _ s own =>
      dsimp only
      rw [parseRoot_flag fs hfs rn c (want cfg'.tmpl) (want cfg.tmpl)]
      split
      · cases parseRoot fs rn c (want cfg.tmpl) <;> rfl
      · rfl
  | pluginString _ =>
      dsimp only
      rw [parseRoot_flag fs hfs rn c (st.setFlag b).flag st.flag]
      cases parseRoot fs rn c st.flag <;> rfl
  | load _ _ => exact loaded
  | pluginFile _ => exact loaded

theorem finish_flag (fuel pf : Nat) (cfg cfg' : Config) (root : Root) (fs : FS) (hfs : FsNoCode fs) (rn : Nat)
    (b : Bool) (h : St × List (Option Err)) :
    finish fuel pf cfg' root fs rn (h.1.setFlag b, h.2) = finish fuel pf cfg root fs rn h := by
  unfold finish
  simp only
  rw [mkRoot_flag cfg cfg' fs hfs rn h.1 b root]
  cases mkRoot cfg fs rn h.1 root with
  | error e => rfl
  | ok pr =>
      obtain ⟨s, t, k⟩ := pr
      simp only
      rw [gen_flag fuel pf fs hfs b true t.cls k t s]
      rfl

theorem st0_faithful (fs : FS) (b ar : Bool) : Faithful fs (st0 b ar) := by
  intro k t h; simp [st0] at h

theorem mkLoader_faithful (cfg : Config) (fs : FS) (root : Root) (st : St) (h : mkLoader cfg root = .ok st) :
    Faithful fs st := by
  rw [mkLoader_shape cfg root st h]; exact st0_faithful fs _ _

theorem afterHistory_clean (fuel pf : Nat) (fs : FS) (root : Root) (st : St) (hist : List Nat)
    (hc : StClean st) : StClean (afterHistory fuel pf fs root st hist).1 ∧
      (afterHistory fuel pf fs root st hist).1.sentinel = st.sentinel := by
  obtain ⟨h1, h2, _⟩ := afterHistory_inv (keeps_inv fs st.sentinel st.autoReload) fuel pf root st hist ⟨hc, rfl, rfl⟩
  exact ⟨h1, h2⟩

theorem afterHistory_faithful (fuel pf : Nat) (fs : FS) (root : Root) (st : St) (hist : List Nat)
    (hf : Faithful fs st) : Faithful fs (afterHistory fuel pf fs root st hist).1 :=
  (afterHistory_inv (grows_inv fs st) fuel pf root st hist ⟨hf, Mono.refl _⟩).1

theorem mkRoot_faithful (cfg : Config) (fs : FS) (rn : Nat) (st st' : St) (root : Root) (t : Tmpl)
    (stack : List Nat) (hf : Faithful fs st) (h : mkRoot cfg fs rn st root = .ok (st', t, stack)) :
    Faithful fs st' ∧ t.name = rn ∧ TF fs t := by
  have parsed : ∀ c b t1, parseRoot fs rn c b = .ok t1 → t1.name = rn ∧ TF fs t1 := fun c b t1 hp => by
    obtain ⟨f, hfl, hp⟩ := parseRoot_ok hp
    obtain ⟨hi, hn, hcls⟩ := parse_items c b rn f t1 hp
    exact ⟨hn, ⟨f, by rw [hn]; exact hfl, hi, hcls⟩⟩
  obtain ⟨c, _, ⟨s, own, rfl, hp, rfl, _⟩ | ⟨t1, hp, rfl, rfl⟩ | ⟨hl, _⟩⟩ := mkRoot_ok h
  · exact ⟨hf, parsed _ _ _ hp⟩
  · exact ⟨st0_faithful fs st.flag false, parsed _ _ t1 hp⟩
  · obtain ⟨h1, _, h3, h4, _⟩ := load_faithful fs st _ rn c false _ hf hl
    exact ⟨h1, h3, h4⟩

/-- the three ways a run ends: no loader, no root template, or the rendering of the root -/
theorem run_cases (fuel pf : Nat) (cfg : Config) (root : Root) (fs : FS) (rn : Nat) (hist : List Nat) :
    (∃ e, mkLoader cfg root = .error e ∧ run fuel pf cfg root fs rn hist = ⟨some e, [], [], []⟩) ∨
    ∃ st h, mkLoader cfg root = .ok st ∧ h = afterHistory fuel pf fs root st hist ∧
      ((∃ e, mkRoot cfg fs rn h.1 root = .error e ∧
          run fuel pf cfg root fs rn hist = ⟨some e, h.1.sentinel, [], h.2⟩) ∨
       ∃ st' t stack, mkRoot cfg fs rn h.1 root = .ok (st', t, stack) ∧
          run fuel pf cfg root fs rn hist =
            ⟨(gen fuel pf fs true t.cls stack t st').2, (gen fuel pf fs true t.cls stack t st').1.sentinel,
             (gen fuel pf fs true t.cls stack t st').1.out, h.2⟩) := by
  unfold run
  cases hl : mkLoader cfg root with
  | error e => exact .inl ⟨e, rfl, rfl⟩
  | ok st =>
      refine .inr ⟨st, _, rfl, rfl, ?_⟩
      unfold finish
      cases hm : mkRoot cfg fs rn (afterHistory fuel pf fs root st hist).1 root with
      | error e => exact .inl ⟨e, rfl, by simp only [hm]⟩
      | ok pr =>
          obtain ⟨st', t, stack⟩ := pr
          exact .inr ⟨st', t, stack, rfl, by simp only [hm]⟩

end Genshi.Exec
