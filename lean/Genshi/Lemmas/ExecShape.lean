/-
  C14 — facts about the generated shape table (`Genshi/Gen/ExecShape.lean`), each a finite
  check re-run whenever the table changes, and the selection lemmas that carry them to every reach
  path of the reachability model.
-/
import Genshi.Lemmas.Exec
import Genshi.Model.ExecShape
namespace Genshi.Exec
open Genshi.Gen.Exec Genshi.Gen.ExecShape

/-- what a probe under a switched-off flag must look like: no template object with a code block
    at any depth, the block did not run, a template syntax error was raised, and nothing in the
    object graph holds a compiled suite -/
def ShapeRow.offOk (r : ShapeRow) : Bool :=
  r.execFree && !r.ran && decide (r.err = .syntax) && !r.deepSuite

theorem ShapeRow.offOk_spec {r : ShapeRow} (h : r.offOk = true) :
    (∀ s ∈ r.objects, hasExecL s = false) ∧ r.ran = false ∧ r.err = .syntax ∧ r.deepSuite = false := by
  simp only [ShapeRow.offOk, ShapeRow.execFree, Bool.and_eq_true, List.all_eq_true, Bool.not_eq_true',
    decide_eq_true_eq] at h
  exact ⟨h.1.1.1, h.1.1.2, h.1.2, h.2⟩

/-- what a probe under a switched-on flag looks like (the probe is meaningful: the shape does
    execute its block, and the skeleton finds it) — old-style text templates have no code blocks -/
def ShapeRow.onOk (r : ShapeRow) : Bool :=
  if r.cls = .oldtext then r.execFree && !r.ran && decide (r.err = .syntax) && !r.deepSuite
  else r.execExists && r.ran && decide (r.err = .none) && r.deepSuite

/-- what a probe must look like: as its flag says, and the skeleton finds a code block exactly
    when a generic walk of the object graph met a compiled `Suite` -/
def ShapeRow.sound (r : ShapeRow) : Bool :=
  (if r.flag then r.onOk else r.offOk) && (r.execExists == r.deepSuite)

theorem shapeRows_sound : shapeRows.all ShapeRow.sound = true := by
  -- chunk by chunk: evaluating the append of the chunks is slower than the check itself
  simp only [shapeRows, List.all_append]
  decide +kernel

theorem ShapeRow.sound_of_mem (r : ShapeRow) (h : r ∈ shapeRows) :
    (if r.flag then r.onOk else r.offOk) = true ∧ r.execExists = r.deepSuite := by
  simpa [ShapeRow.sound] using List.all_eq_true.mp shapeRows_sound r h

theorem shapeRows_off_check : shapeRows.all (fun r => r.flag || r.offOk) = true := by
  refine List.all_eq_true.mpr fun r hr => ?_
  have := (r.sound_of_mem hr).1
  cases hf : r.flag
  · simpa [hf] using this
  · rfl

/-- the probes come in pairs: the same class, way and shape with the flag off, then on -/
def pairedRows : List ShapeRow → Bool
  | a :: b :: l => (decide (a.cls = b.cls) && (a.way.code == b.way.code) && (a.shape == b.shape) &&
      !a.flag && b.flag) && pairedRows l
  | [] => true
  | [_] => false

theorem shapeRows_paired : pairedRows shapeRows = true := by
  decide +kernel

theorem filter_paired (c : Cls) (k : Nat) : ∀ (l : List ShapeRow), pairedRows l = true →
    (l.filter fun r => decide (r.cls = c) && (r.way.code == k) && (r.flag == true)).map (·.shape) =
      (l.filter fun r => decide (r.cls = c) && (r.way.code == k) && (r.flag == false)).map (·.shape)
  | a :: b :: l, h => by
      simp only [pairedRows, Bool.and_eq_true, decide_eq_true_eq, beq_iff_eq, Bool.not_eq_true'] at h
      obtain ⟨⟨⟨⟨⟨hc, hw⟩, hs⟩, ha⟩, hb⟩, hl⟩ := h
      have ih := filter_paired c k l hl
      by_cases hm : b.cls = c ∧ b.way.code = k <;>
        simpa [List.filter_cons, hc, hw, hs, ha, hb, hm] using ih
  | [], _ => rfl
  | [_], h => by cases h

def everyWay : List Way :=
  [.ctor .str false, .ctor .str true, .ctor .bytes false, .ctor .bytes true, .ctor .file false,
   .ctor .file true, .ctor .stream false, .ctor .stream true, .load false, .load true, .instantiate,
   .incl .same false, .incl .same true, .incl .xml false, .incl .xml true, .incl .text false,
   .incl .text true, .inclDyn .same, .inclDyn .xml, .inclDyn .text, .inclDeep false, .inclDeep true,
   .inclFallback false, .inclFallback true, .inclOwn, .pluginFile, .pluginString, .pickled,
   .pickledHost, .pickledLoader]

def Way.ofCode (n : Nat) : Option Way := everyWay.find? fun v => v.code == n

theorem Way.ofCode_code (w : Way) : Way.ofCode w.code = some w := by
  cases w with
  | ctor s own => revert s own; open Listed in decide +kernel
  | load d => revert d; open Listed in decide +kernel
  | incl p ar => revert p ar; open Listed in decide +kernel
  | inclDyn p => revert p; open Listed in decide +kernel
  | inclDeep ar => revert ar; open Listed in decide +kernel
  | inclFallback ar => revert ar; open Listed in decide +kernel
  | _ => rfl

theorem Way.code_inj (a b : Way) (h : a.code = b.code) : a = b := by
  have ha := Way.ofCode_code a
  rw [h, Way.ofCode_code b] at ha
  exact (Option.some.inj ha).symm

theorem findRow_mem (c : Cls) (w : Way) (b : Bool) (k : Nat) (row : ShapeRow)
    (h : findRow c w b k = some row) : row ∈ shapeRows ∧ row.flag = b ∧ row.cls = c ∧ row.way = w ∧ row.shape = k := by
  unfold findRow at h
  have hm := List.mem_of_find?_eq_some h
  have hp := List.find?_some h
  simp only [ShapeRow.keyIs, Bool.and_eq_true, decide_eq_true_eq, beq_iff_eq] at hp
  obtain ⟨⟨⟨h1, h2⟩, h3⟩, h4⟩ := hp
  exact ⟨hm, h3, h1, Way.code_inj _ _ h2, h4⟩

theorem findRow_off (c : Cls) (w : Way) (k : Nat) (row : ShapeRow)
    (h : findRow c w false k = some row) : row.offOk = true := by
  obtain ⟨hm, hf, _⟩ := findRow_mem c w false k row h
  have := List.all_eq_true.mp shapeRows_off_check row hm
  simpa [hf] using this

theorem rootShapeFlag_disabled (cfg : Config) (r : Root) (b : Bool) (hd : r.disabled cfg)
    (h : rootShapeFlag cfg r = some b) : b = false := by
  have : rootShapeFlag cfg r = Props.C14.rootFlag cfg r := by cases r <;> rfl
  rw [this, (disabled_flags cfg r hd).1] at h
  exact (Option.some.inj h).symm

/-- every probe that describes a template reachable from a disabled root was made with the flag
    off — at the root because every flag given is off, below it because the loader held by every
    reached template has its flag off (`node_safe`, induction over include depth) -/
theorem reachRow_disabled_offOk (cfg : Config) (r : Reach) (k : Nat) (row : ShapeRow)
    (hd : r.rootOf.disabled cfg) (h : reachRow cfg r k = some row) : row.offOk = true := by
  cases r with
  | root r0 =>
      simp only [reachRow] at h
      cases hn : rootNode cfg r0 with
      | none => simp [hn] at h
      | some n =>
          cases hb : rootShapeFlag cfg r0 with
          | none => simp [hn, hb] at h
          | some b =>
              simp only [hn, hb] at h
              have : b = false := rootShapeFlag_disabled cfg r0 b hd hb
              subst this
              exact findRow_off _ _ _ _ h
  | incl parent p =>
      simp only [reachRow] at h
      cases hm : node cfg parent with
      | none => simp [hm] at h
      | some m =>
          simp only [hm, Option.bind_some] at h
          cases hs : step m p with
          | none => simp [hs] at h
          | some n =>
              simp only [hs, Option.bind_some] at h
              have hsafe : Safe m := node_safe cfg parent m hd hm
              rw [hsafe.2] at h
              exact findRow_off _ _ _ _ h

end Genshi.Exec
