/-
  C10 — helper lemmas about the heap machine: which transitions leave the template's heap
  alone (`*_heap`), and the reordering loop of `Translator.__call__` one list-method call at a time.
-/
import Genshi.Model.HeapWorld
import Genshi.Lemmas.ListBasics
namespace Genshi.Heap
open Genshi

theorem transSub_heap (v : Variant) (hv : v.callCopies = true)
    (nested : Heap → St → List TEv → TRes) (hn : ∀ h st evs, (nested h st evs).h = h)
    (h : Heap) (st : St) (d b : Ref) : (transSub v nested h st d b).h = h := by
  unfold transSub
  split
  · simp only [hv, if_true]
    exact hn _ _ _
  · rfl

theorem transEvs_heap (v : Variant) (hv : v.callCopies = true) :
    ∀ (fuel : Nat) (h : Heap) (st : St) (evs : List TEv), (transEvs v fuel h st evs).h = h := by
  intro fuel
  induction fuel with
  | zero => intro h st evs; simp [transEvs]
  | succ n ih =>
    intro h st evs
    cases evs with
    | nil => simp [transEvs]
    | cons t ts =>
      cases t with
      | sub d b =>
        simp only [transEvs]
        have hs : (transSub v (transEvs v n) h st d b).h = h := transSub_heap v hv _ (ih) h st d b
        split
        · exact hs
        · simp only []
          rw [ih, hs]
      | _ => simp only [transEvs]; rw [ih]

theorem pullSource_heap (v : Variant) (hv : v.callCopies = true) (fuel : Nat) (h : Heap) (st : St)
    (src : Src) : (pullSource v fuel h st src).h = h := by
  fun_cases pullSource v fuel h st src <;>
    first
    | rfl
    | exact transSub_heap v hv _ (transEvs_heap v hv fuel) h _ _ _

/- The `match` below is the first `let` of `flat`: what it pulls, from the stack or from the source. -/
theorem flat_pull_heap (v : Variant) (hv : v.callCopies = true) (n : Nat) (h : Heap) (st : St) (src : Src)
    (stack : List It) :
    (match stack with
      | [] => (pullSource v n h st src, [])
      | it :: rest => (⟨h, (pull h n st it).st, src, (pull h n st it).out⟩, (pull h n st it).it :: rest)
      : SrcRes × List It).1.h = h := by
  cases stack with
  | nil => exact pullSource_heap v hv n h st src
  | cons it rest => rfl

theorem flat_heap (v : Variant) (hv : v.callCopies = true) :
    ∀ (fuel : Nat) (h : Heap) (st : St) (src : Src) (stack : List It),
      (flat v fuel h st src stack).h = h := by
  intro fuel h st src stack
  -- every branch returns the heap of the first pull, directly or through a recursive call
  fun_induction flat v fuel h st src stack <;>
    first
    | rfl
    | exact flat_pull_heap v hv _ _ _ _ _
    | exact Eq.trans (by assumption) (flat_pull_heap v hv _ _ _ _ _)

theorem consume_runBody_heap (v : Variant) (hv : v.callCopies = true) :
    ∀ (fuel : Nat),
      (∀ (h : Heap) (st : St) (src : Src) (stack : List It) (start preEnd depth : Nat),
        (consume v fuel h st src stack start preEnd depth).h = h) ∧
      (∀ (h : Heap) (st : St) (stack : List It) (start : Nat) (end_ : Option Nat),
        (runBody v fuel h st stack start end_).h = h) := by
  intro fuel
  induction fuel with
  | zero => exact ⟨by intros; simp [consume], by intros; simp [runBody]⟩
  | succ n ih =>
    obtain ⟨ihc, ihb⟩ := ih
    constructor
    · intro h st src stack start preEnd depth
      have hf := flat_heap v hv n h st src stack
      -- every branch returns the heap of this `flat` call, or that of a recursive call started on it
      simp only [consume]
      repeat' split
      all_goals first | rfl | exact hf | (simp only [ihc, ihb]; exact hf)
    · intro h st stack start end_
      have hf := flat_heap v hv n h st .none stack
      simp only [runBody]
      repeat' split
      all_goals first | rfl | exact hf | (simp only [ihc, ihb]; exact hf)

theorem mpull_heap (v : Variant) (hv : v.callCopies = true) (fuel : Nat) (h : Heap) (st : St) (src : Src)
    (stack : List It) (start : Nat) : (mpull v fuel h st src stack start).h = h := by
  fun_cases mpull v fuel h st src stack start <;>
    first
    | exact flat_heap v hv _ _ _ _ _
    | exact ((consume_runBody_heap v hv _).1 ..).trans (flat_heap v hv _ _ _ _ _)

theorem pipe_heap (v : Variant) (hv : v.callCopies = true) (tr : Bool) (roots : List Nat) :
    ∀ (fuel : Nat) (h : Heap) (st : St) (frames : List PFrame) (touched : List Nat),
      (pipe v tr roots fuel h st frames touched).h = h := by
  intro fuel h st frames touched
  fun_induction pipe v tr roots fuel h st frames touched <;>
    first
    | rfl
    | exact mpull_heap v hv _ _ _ _ _ _
    | exact Eq.trans (by assumption) (mpull_heap v hv _ _ _ _ _ _)

theorem stepR_heap (v : Variant) (hv : v.callCopies = true) (tr : Bool) (roots : List Nat) (fuel : Nat)
    (h : Heap) (r : Render) : (stepR v tr roots fuel h r).h = h := by
  unfold stepR
  split
  · exact pipe_heap v hv tr roots fuel h _ _ _
  · rfl

/-- the last list of a call-by-call trace, `d` if no call was made -/
def lastOr (d : List Dir) (l : List (List Dir)) : List Dir := l.getLast?.getD d

theorem lastOr_cons2 (d a b : List Dir) (rest : List (List Dir)) :
    lastOr d (a :: b :: rest) = lastOr b rest := by
  unfold lastOr
  rw [List.getLast?_cons_cons]
  cases rest with
  | nil => simp
  | cons c cs =>
    simp only [List.getLast?_cons_cons]
    cases h : (c :: cs).getLast? with
    | none => simp at h
    | some x => rfl

theorem reorderMicro_last : ∀ (n i : Nat) (s : Reorder),
    lastOr s.ds (reorderMicro n i s.ds (strTruthy s.dom)) = (reorderLoop n i s).ds := by
  intro n i s
  fun_induction reorderLoop n i s
  case case1 => rfl
  case case2 hd => simp only [reorderMicro, hd]; rfl
  case case3 hd dm hk ih => simp only [reorderMicro, hd, hk]; rw [lastOr_cons2]; exact ih
  case case4 s d hd c hk pos ih =>
    have hpos : (if strTruthy s.dom = true then 1 else 0) = pos := by
      cases h : s.dom with
      | none => simp only [pos, h]; rfl
      | some dm => by_cases hb : dm.isEmpty = true <;> simp [pos, h, strTruthy, hb]
    simp only [reorderMicro, hd, hk]; rw [lastOr_cons2, hpos]; exact ih
  case case5 hd _ _ ih => simp only [reorderMicro, hd]; exact ih

theorem extractEvs_heap (v : Variant) (hv : v.extractCopies = true) :
    ∀ (fuel : Nat) (h : Heap) (evs : List TEv), (extractEvs v fuel h evs).h = h := by
  intro fuel h evs
  fun_induction extractEvs v fuel h evs
  -- the SUB case: `s` … `rest` are the `let`s of `extractEvs` under their names, `ih2` is for the calls on the
  -- body, `ih1` for the rest of the stream.  The copying variant does not write the reordered directives
  -- back: `h1` is `h`; every later heap is that of a recursive call on the one before.
  case case3 h _ _ _ _ _ _ _ s h1 recurse r1 r2 r3 rest ih2 ih1 =>
    have e0 : h1 = h := if_pos hv
    have e1 : r1.h = h := by dsimp only [r1]; split; exact (ih2 h1).trans e0; exact e0
    have e2 : r2.h = h := by dsimp only [r2]; split; exact (ih2 _).trans e1; exact e1
    have e3 : r3.h = h :=
      foldl_inv (fun acc : XRes => acc.h = h) _ _ e2 fun acc d _ ha => by
        dsimp only; split; exact ha; exact (ih2 _).trans ha
    exact ih1.trans e3
  all_goals first | rfl | assumption

end Genshi.Heap
