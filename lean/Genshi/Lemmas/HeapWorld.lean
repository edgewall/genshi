/-
  C10 — world-level lemmas: every API action leaves the template value alone (`SameTmpl`),
  actions other than `step j` leave render `j` alone, and the schedule induction
  (`run_outputs`).  At the end the line model of `_prepare_self`: `raceStep` as the thread that
  steps sees it (`raceStep_view`), and what holds in every reachable state (`RaceInv`).
-/
import Genshi.Lemmas.Heap
namespace Genshi.Heap

/-- no thread is between the two assignments of `_prepare_self` -/
def TState.ok (x : TState) : Bool := x.prepared || !x.streamPrepared

/-- every template of the loader is either unprepared or completely prepared -/
def World.Consistent (w : World) : Prop := w.tmpls.all TState.ok = true

instance (w : World) : Decidable w.Consistent := by unfold World.Consistent; infer_instance

/- The goals of `fun_cases accessT`, in the order of its branches: 1 no such template; 2 prepared;
   3 `_stream` prepared and `_prepared` not set (reachable only through the race); 4 prepared by this call. -/
theorem accessT_spec (ts : List TState) (t : Nat) (hc : ts.all TState.ok = true) :
    (accessT ts t).2 = true ∧ (accessT ts t).1.all TState.ok = true ∧
    (accessT ts t).1.map (·.root) = ts.map (·.root) := by
  fun_cases accessT ts t
  case case3 x hx hp hsp =>
    have hxok := (List.all_eq_true.mp hc) x (List.mem_of_getElem? hx)
    rw [TState.ok, (Bool.not_eq_true _).mp hp, hsp] at hxok
    cases hxok
  case case4 x hx hp hsp =>
    refine ⟨rfl, List.all_eq_true.mpr fun y hy => ?_, List.ext_getElem? fun i => ?_⟩
    · rcases List.mem_or_eq_of_mem_set hy with h | h
      · exact (List.all_eq_true.mp hc) y h
      · rw [h]; rfl
    · show ((ts.set t _).map _)[i]? = _
      rw [List.getElem?_map, List.getElem?_map]
      by_cases hit : i = t
      · subst hit; rw [List.getElem?_set_self (List.getElem?_eq_some_iff.mp hx).1, hx]; rfl
      · rw [List.getElem?_set_ne (Ne.symm hit)]
  all_goals exact ⟨rfl, hc, rfl⟩

theorem markPrepared_spec : ∀ (touched : List Nat) (ts : List TState), ts.all TState.ok = true →
    (markPrepared ts touched).all TState.ok = true ∧
    (markPrepared ts touched).map (·.root) = ts.map (·.root) := by
  intro touched
  induction touched with
  | nil => intro ts hc; exact ⟨hc, rfl⟩
  | cons t rest ih =>
    intro ts hc
    obtain ⟨_, h2, h3⟩ := accessT_spec ts t hc
    obtain ⟨i1, i2⟩ := ih _ h2
    exact ⟨i1, i2.trans h3⟩

theorem access_ok (w : World) (hc : w.Consistent) : w.access.2 = true := by
  unfold World.access
  exact (accessT_spec w.tmpls 0 hc).1

/-- on a consistent object `.stream` succeeds, and all it changes is a flag pair -/
theorem access_eq (w : World) (hc : w.Consistent) :
    w.access = ({ w with tmpls := (accessT w.tmpls 0).1 }, true) :=
  Prod.ext rfl (access_ok w hc)

/-- `w'` is the same template value as `w`: every list a render reads, the filters, and the loader's
    templates agree; the `_stream`/`_prepared` flags may differ, and are consistent in `w'` -/
structure SameTmpl (w w' : World) : Prop where
  heap : w'.heap = w.heap
  translator : w'.translator = w.translator
  roots : w'.roots = w.roots
  cons : w'.Consistent

theorem SameTmpl.refl (w : World) (hc : w.Consistent) : SameTmpl w w := ⟨rfl, rfl, rfl, hc⟩

theorem SameTmpl.trans {a b c : World} (h1 : SameTmpl a b) (h2 : SameTmpl b c) : SameTmpl a c :=
  ⟨h2.heap.trans h1.heap, h2.translator.trans h1.translator, h2.roots.trans h1.roots, h2.cons⟩

theorem sameTmpl_access (w : World) (hc : w.Consistent) : SameTmpl w w.access.1 := by
  obtain ⟨_, h2, h3⟩ := accessT_spec w.tmpls 0 hc
  unfold World.access
  exact ⟨rfl, rfl, h3, h2⟩

theorem access_renders (w : World) : w.access.1.renders = w.renders := rfl

theorem sameTmpl_of_fields (w w' : World) (hc : w.Consistent)
    (h1 : w'.heap = w.heap) (h2 : w'.tmpls = w.tmpls) (h3 : w'.translator = w.translator) :
    SameTmpl w w' := by
  refine ⟨h1, h3, ?_, ?_⟩
  · simp [World.roots, h2]
  · simp only [World.Consistent, h2]; exact hc

theorem SameTmpl.solo {w w' : World} (h : SameTmpl w w') (v : Variant) (fuel : Nat) (d : Frame) (n : Nat) :
    solo v fuel w' d n = solo v fuel w d n := by
  unfold Heap.solo
  rw [h.heap, h.translator, h.roots]

/-! `exec`, action by action (`pickle` and `register` reduce by themselves).  `access`, `open` and `extract`
    read `.stream` first; `w.access.1` is `w` with other flag pairs. -/

theorem exec_access (v : Variant) (fuel : Nat) (w : World) :
    exec v fuel w .access = (w.access.1, if w.access.2 then .unit else .raised .typeError) := rfl

theorem exec_open_eq (v : Variant) (fuel : Nat) (w : World) (d : Frame) :
    exec v fuel w (.open d) =
      if w.access.2 then
        ({ w.access.1 with renders := w.renders ++ [Render.new w.translator (w.access.1.roots.headD 0) d] },
         .opened w.renders.length)
      else (w.access.1, .raised .typeError) := rfl

theorem exec_extract_eq (v : Variant) (fuel : Nat) (w : World) :
    exec v fuel w .extract =
      if w.access.2 then
        match readEvs w.heap [] (.tmpl (w.access.1.roots.headD 0)) with
        | none => (w.access.1, .extracted [] (some .unmodelled))
        | some root =>
          ({ w.access.1 with heap := (extractEvs v fuel w.heap root).h },
           .extracted (w.access.1.roots.headD 0 :: (extractEvs v fuel w.heap root).trace)
             (extractEvs v fuel w.heap root).err)
      else (w.access.1, .raised .typeError) := rfl

theorem exec_step_some (v : Variant) (fuel : Nat) (w : World) (i : Nat) (r : Render) (hr : w.renders[i]? = some r) :
    exec v fuel w (.step i) =
      ({ w with heap := (stepR v w.translator w.roots fuel w.heap r).h,
                renders := w.renders.set i (stepR v w.translator w.roots fuel w.heap r).r,
                tmpls := markPrepared w.tmpls (stepR v w.translator w.roots fuel w.heap r).touched },
       .out i (stepR v w.translator w.roots fuel w.heap r).out) := by
  simp only [exec, hr]

theorem exec_step_none (v : Variant) (fuel : Nat) (w : World) (i : Nat) (hr : w.renders[i]? = none) :
    exec v fuel w (.step i) = (w, .out i .stopped) := by
  simp only [exec, hr]

theorem exec_open (v : Variant) (fuel : Nat) (w : World) (hc : w.Consistent) (d : Frame) :
    exec v fuel w (.open d) =
      ({ w with tmpls := (accessT w.tmpls 0).1,
                renders := w.renders ++ [Render.new w.translator (w.roots.headD 0) d] },
       .opened w.renders.length) := by
  rw [exec_open_eq, if_pos (access_ok w hc), (sameTmpl_access w hc).roots]
  rfl

theorem SameTmpl.extract {w w' : World} (h : SameTmpl w w') (hc : w.Consistent) (v : Variant) (fuel : Nat) :
    (exec v fuel w' .extract).2 = (exec v fuel w .extract).2 := by
  rw [exec_extract_eq, exec_extract_eq, if_pos (access_ok w' h.cons), if_pos (access_ok w hc),
    (sameTmpl_access w' h.cons).roots, (sameTmpl_access w hc).roots, h.heap, h.roots]
  cases readEvs w.heap [] (.tmpl (w.roots.headD 0)) <;> rfl

theorem exec_sameTmpl (v : Variant) (hv1 : v.callCopies = true) (hv2 : v.extractCopies = true)
    (fuel : Nat) (w : World) (hc : w.Consistent) (a : Act) : SameTmpl w (exec v fuel w a).1 := by
  have ha := sameTmpl_access w hc
  cases a with
  | access => exact ha
  | «open» d =>
    rw [exec_open_eq, if_pos (access_ok w hc)]
    exact ha.trans (sameTmpl_of_fields _ _ ha.cons rfl rfl rfl)
  | step i =>
    cases hr : w.renders[i]? with
    | none => rw [exec_step_none v fuel w i hr]; exact .refl w hc
    | some r =>
      rw [exec_step_some v fuel w i r hr]
      obtain ⟨m1, m2⟩ := markPrepared_spec (stepR v w.translator w.roots fuel w.heap r).touched w.tmpls hc
      exact ⟨stepR_heap v hv1 w.translator w.roots fuel w.heap r, rfl, m2, m1⟩
  | extract =>
    rw [exec_extract_eq, if_pos (access_ok w hc)]
    split
    · exact ha
    · exact ha.trans (sameTmpl_of_fields _ _ ha.cons (extractEvs_heap v hv2 fuel w.heap _) rfl rfl)
  | pickle => exact .refl w hc
  | register => exact sameTmpl_of_fields w _ hc rfl rfl rfl

theorem exec_renders_other (v : Variant) (fuel : Nat) (w : World) (a : Act) (j : Nat) (r : Render)
    (ha : a ≠ .step j) (hr : w.renders[j]? = some r) : (exec v fuel w a).1.renders[j]? = some r := by
  cases a with
  | «open» d =>
    rw [exec_open_eq]
    split
    · exact (List.getElem?_append_left (List.getElem?_eq_some_iff.mp hr).1).trans hr
    · exact hr
  | step i =>
    cases hi : w.renders[i]? with
    | none => rw [exec_step_none v fuel w i hi]; exact hr
    | some r' =>
      rw [exec_step_some v fuel w i r' hi]
      exact (List.getElem?_set_ne fun e => ha (congrArg Act.step e)).trans hr
  | extract =>
    rw [exec_extract_eq]
    split
    · split <;> exact hr
    · exact hr
  | access | pickle | register => exact hr

theorem outputsOf_exec_other (v : Variant) (fuel : Nat) (w : World) (a : Act) (i : Nat) (rest : List Obs)
    (ha : a ≠ .step i) : outputsOf i ((exec v fuel w a).2 :: rest) = outputsOf i rest := by
  cases a with
  | access => rw [exec_access]; cases w.access.2 <;> rfl
  | «open» d => rw [exec_open_eq]; split <;> rfl
  | step j =>
    have hne (o : StepOut) : outputsOf i (.out j o :: rest) = outputsOf i rest :=
      if_neg fun (e : j = i) => ha (e ▸ rfl)
    cases hj : w.renders[j]? with
    | none => rw [exec_step_none v fuel w j hj]; exact hne _
    | some r => rw [exec_step_some v fuel w j r hj]; exact hne _
  | extract =>
    rw [exec_extract_eq]
    split
    · split <;> rfl
    · rfl
  | pickle | register => rfl

theorem countSteps_other (i : Nat) (a : Act) (as : List Act) (ha : a ≠ .step i) :
    countSteps i (a :: as) = countSteps i as := by
  cases a with
  | step j => exact (congrArg (· + _) (if_neg fun (e : j = i) => ha (e ▸ rfl))).trans (Nat.zero_add _)
  | _ => rfl

theorem countSteps_filter (i : Nat) (p : Act → Bool) (hp : p (.step i) = true) (s : List Act) :
    countSteps i (s.filter p) = countSteps i s := by
  induction s with
  | nil => rfl
  | cons a as ih =>
    rw [List.filter_cons]
    by_cases hpa : p a = true
    · rw [if_pos hpa]; cases a <;> simp only [countSteps, ih]
    · rw [if_neg hpa, ih, countSteps_other i a as fun e => hpa (e ▸ hp)]

theorem countSteps_replicate (k n : Nat) : countSteps k (List.replicate n (.step k)) = n := by
  induction n with
  | zero => rfl
  | succ n ih => simp [List.replicate, countSteps, ih]; omega

theorem run_cons (v : Variant) (fuel : Nat) (w : World) (a : Act) (as : List Act) :
    run v fuel w (a :: as) =
      ((run v fuel (exec v fuel w a).1 as).1, (exec v fuel w a).2 :: (run v fuel (exec v fuel w a).1 as).2) := by
  simp [run]

theorem run_sameTmpl (v : Variant) (hv1 : v.callCopies = true) (hv2 : v.extractCopies = true) (fuel : Nat) :
    ∀ (s : List Act) (w : World), w.Consistent → SameTmpl w (run v fuel w s).1 := by
  intro s
  induction s with
  | nil => intro w hc; exact SameTmpl.refl w hc
  | cons a as ih =>
    intro w hc
    rw [run_cons]
    have h1 := exec_sameTmpl v hv1 hv2 fuel w hc a
    exact h1.trans (ih _ h1.cons)

theorem run_outputs (v : Variant) (hv1 : v.callCopies = true) (hv2 : v.extractCopies = true) (fuel : Nat) :
    ∀ (s : List Act) (w : World) (i : Nat) (r : Render),
      w.Consistent → w.renders[i]? = some r →
      outputsOf i (run v fuel w s).2 = soloSteps v w.translator w.roots fuel w.heap (countSteps i s) r := by
  intro s
  induction s with
  | nil => intro w i r _ _; rfl
  | cons a as ih =>
    intro w i r hc hr
    rw [run_cons]
    have hsame := exec_sameTmpl v hv1 hv2 fuel w hc a
    have rest (r' : Render) (hr1 : (exec v fuel w a).1.renders[i]? = some r') :
        outputsOf i (run v fuel (exec v fuel w a).1 as).2 =
          soloSteps v w.translator w.roots fuel w.heap (countSteps i as) r' := by
      have := ih _ i r' hsame.cons hr1
      rwa [hsame.heap, hsame.translator, hsame.roots] at this
    by_cases ha : a = .step i
    · -- render `i` itself advances: one solo step, then the rest from the state it left
      subst ha
      have := rest _ (by
        rw [exec_step_some v fuel w i r hr]; exact List.getElem?_set_self (List.getElem?_eq_some_iff.mp hr).1)
      rw [exec_step_some v fuel w i r hr] at this ⊢
      simp only [countSteps, outputsOf, ↓reduceIte, Nat.add_comm 1, soloSteps, this]
    · rw [outputsOf_exec_other v fuel w a i _ ha, countSteps_other i a as ha]
      exact rest r (exec_renders_other v fuel w a i r ha hr)

/-- what a step does to the two shared flags and to the pc of the thread that takes it: `raceStep` as the
    stepping thread sees it (`raceStep_view`), so that the facts about the race are case splits on a `Pc` -/
def pcStep : Bool × Bool × Pc → Bool × Bool × Pc
  | (sp, p, .l455) => (sp, p, if p then .finished else .l474)
  | (sp, p, .l474) => (sp, p, if p then .finished else .l475)
  | (sp, p, .l475) => (sp, p, .l475run sp)
  | (sp, p, .l475run saw) => if saw then (sp, p, .raised) else (true, p, .l476)
  | (sp, _, .l476) => (sp, true, .finished)
  | (sp, p, .finished) => (sp, p, .finished)
  | (sp, p, .raised) => (sp, p, .raised)

/-- the state as thread `t` sees it: the two flags and its own pc -/
def View (s : RaceSt) (t : Nat) (x : Bool × Bool × Pc) : Prop :=
  s.streamPrepared = x.1 ∧ s.prepared = x.2.1 ∧ s.pcs[t]? = some x.2.2

theorem raceStep_view (s : RaceSt) (t : Nat) (x : Bool × Bool × Pc) (h : View s t x) :
    View (raceStep s t) t (pcStep x) ∧ ∀ u, u ≠ t → (raceStep s t).pcs[u]? = s.pcs[u]? := by
  obtain ⟨sp, p, pc⟩ := x
  obtain ⟨rfl, rfl, h⟩ := h
  have hset (y : Pc) : (s.pcs.set t y)[t]? = some y :=
    List.getElem?_set_self (List.getElem?_eq_some_iff.mp h).1
  have hne (y : Pc) (u : Nat) (hu : u ≠ t) : (s.pcs.set t y)[u]? = s.pcs[u]? :=
    List.getElem?_set_ne (Ne.symm hu)
  unfold raceStep
  rw [h]
  cases pc with
  | l475run saw => cases saw <;> exact ⟨⟨rfl, rfl, hset _⟩, hne _⟩
  | finished => exact ⟨⟨rfl, rfl, h⟩, fun _ _ => rfl⟩
  | raised => exact ⟨⟨rfl, rfl, h⟩, fun _ _ => rfl⟩
  | _ => exact ⟨⟨rfl, rfl, hset _⟩, hne _⟩

theorem raceRun_append (s : RaceSt) (a b : List Nat) : raceRun s (a ++ b) = raceRun (raceRun s a) b := by
  induction a generalizing s with
  | nil => rfl
  | cons x xs ih => exact ih _

/-- what holds in every reachable state of the line model, whatever the schedule -/
def RaceInv (s : RaceSt) : Prop :=
  (s.prepared = true → s.streamPrepared = true) ∧
  ∀ t : Nat, (s.pcs[t]? = some Pc.l476 ∨ s.pcs[t]? = some Pc.finished) → s.streamPrepared = true

theorem raceInv_init (n : Nat) : RaceInv (RaceSt.init n) := by
  refine ⟨by simp [RaceSt.init], ?_⟩
  intro t h
  simp [RaceSt.init, List.getElem?_replicate] at h

theorem pcStep_inv (sp p : Bool) (pc : Pc) : (p = true → sp = true) → (pc = .l476 ∨ pc = .finished → sp = true) →
    (sp = true → (pcStep (sp, p, pc)).1 = true) ∧ ((pcStep (sp, p, pc)).2.1 = true → (pcStep (sp, p, pc)).1 = true) ∧
    ((pcStep (sp, p, pc)).2.2 = .l476 ∨ (pcStep (sp, p, pc)).2.2 = .finished → (pcStep (sp, p, pc)).1 = true) := by
  intro h1 h2
  have no (a b c : Pc) (hab : a ≠ b) (hac : a ≠ c) : a = b ∨ a = c → sp = true := fun h => (h.elim hab hac).elim
  cases pc with
  | l455 => exact ⟨id, h1, by cases p; exact no _ _ _ nofun nofun; exact fun _ => h1 rfl⟩
  | l474 => exact ⟨id, h1, by cases p; exact no _ _ _ nofun nofun; exact fun _ => h1 rfl⟩
  | l475 => exact ⟨id, h1, no _ _ _ nofun nofun⟩
  | l475run saw => cases saw; exact ⟨fun _ => rfl, fun _ => rfl, fun _ => rfl⟩; exact ⟨id, h1, no _ _ _ nofun nofun⟩
  | l476 => exact ⟨id, fun _ => h2 (.inl rfl), fun _ => h2 (.inl rfl)⟩
  | finished => exact ⟨id, h1, fun _ => h2 (.inr rfl)⟩
  | raised => exact ⟨id, h1, no _ _ _ nofun nofun⟩

theorem raceInv_step (s : RaceSt) (t : Nat) (hi : RaceInv s) : RaceInv (raceStep s t) := by
  obtain ⟨h1, h2⟩ := hi
  cases hpc : s.pcs[t]? with
  | none => simp only [raceStep, hpc]; exact ⟨h1, h2⟩
  | some pc =>
    obtain ⟨⟨e1, e2, e3⟩, ho⟩ := raceStep_view s t (s.streamPrepared, s.prepared, pc) ⟨rfl, rfl, hpc⟩
    have key := pcStep_inv s.streamPrepared s.prepared pc h1 fun h =>
      h2 t (h.imp (fun (e : pc = .l476) => e ▸ hpc) fun (e : pc = .finished) => e ▸ hpc)
    rw [← e1, ← e2] at key
    refine ⟨key.2.1, fun u hu => ?_⟩
    by_cases hut : u = t
    · subst hut
      rw [e3] at hu
      exact key.2.2 (hu.imp (fun e => Option.some.inj e) fun e => Option.some.inj e)
    · rw [ho u hut] at hu; exact key.1 (h2 u hu)

theorem raceInv_run (sched : List Nat) : ∀ (s : RaceSt), RaceInv s → RaceInv (raceRun s sched) := by
  induction sched with
  | nil => intro s h; exact h
  | cons t ts ih => intro s h; exact ih _ (raceInv_step s t h)

end Genshi.Heap
