/-
  Helper lemmas for C19: `str.replace` with the pattern itself; the depth counter of the
  translation pass with the pass and its look-ups as per-event functions along it (`skipNext`,
  `trEv`, `lkEv`); the pass under the identity catalogue.
-/
import Genshi.Lemmas.Escape
import Genshi.Model.I18nTranslate
namespace Genshi.I18n
open Genshi Genshi.Str

theorem replaceGo_self (p : Char) (ps : List Char) :
    ∀ (n : Nat) (s : List Char), s.length ≤ n → replaceGo (p :: ps) (p :: ps) 0 s = s := by
  intro n
  induction n with
  | zero => intro s h; cases s <;> simp_all [replaceGo]
  | succ n ih =>
    intro s h
    cases s with
    | nil => simp [replaceGo]
    | cons c cs =>
      simp only [replaceGo]
      by_cases hp : (p :: ps).isPrefixOf (c :: cs) = true
      · simp only [hp, ↓reduceIte]
        obtain ⟨t, ht⟩ := List.isPrefixOf_iff_prefix.mp hp
        have hc : c = p ∧ cs = ps ++ t := by
          simp only [List.cons_append, List.cons.injEq] at ht
          exact ⟨ht.1.symm, ht.2.symm⟩
        obtain ⟨rfl, rfl⟩ := hc
        simp only [List.length_cons, Nat.add_sub_cancel]
        rw [Genshi.Escape.replaceGo_skip]
        rw [ih t (by simp at h; omega)]
        simp
      · simp only [hp, Bool.false_eq_true, ↓reduceIte, List.cons.injEq, true_and]
        exact ih cs (by simp at h; omega)

theorem replace_self (pat s : List Char) : Str.replace pat pat s = s := by
  unfold Str.replace
  cases pat with
  | nil => simp
  | cons p ps => simp; exact replaceGo_self p ps s.length s (Nat.le_refl _)

theorem gettextOf_id (ctx : Ctx) : gettextOf Catalog.id ctx = fun s => s := by
  funext s; simp [gettextOf, Catalog.id]

theorem trText_id (s : Str) : trText (fun x => x) s = s := by
  unfold trText; split <;> simp [replace_self]

/-- an attribute the identity catalogue leaves alone: interpolated, not included, blank, or
    without white space at its edges (else: finding C19-attr-space) -/
def attrStripped (cfg : Cfg) (p : QName × AVal) : Bool :=
  match p.2 with
  | .str v => !cfg.includeAttrs.contains p.1.text || (strip v).isEmpty || strip v == v
  | .parts _ => true

theorem trAttr_id (cfg : Cfg) (ta : Bool) (p : QName × AVal) (h : attrStripped cfg p = true) :
    trAttr cfg (fun x => x) ta p = p := by
  obtain ⟨n, v⟩ := p
  cases v with
  | parts ps => simp [trAttr]
  | str v =>
    simp only [trAttr]
    split
    · rename_i hc
      simp only [attrStripped, Bool.or_eq_true, Bool.not_eq_true', beq_iff_eq] at h
      simp only [Bool.and_eq_true, Bool.not_eq_true'] at hc
      rcases h with (h | h) | h
      · simp_all
      · simp_all
      · rw [h]
    · rfl

theorem trAttrs_id (cfg : Cfg) (ta : Bool) (a : TAttrs) (h : a.all (attrStripped cfg) = true) :
    trAttrs cfg (fun x => x) ta a = a := by
  unfold trAttrs
  induction a with
  | nil => rfl
  | cons p ps ih =>
    simp only [List.all_cons, Bool.and_eq_true] at h
    simp [List.map_cons, trAttr_id cfg ta p h.1, ih h.2]

theorem listInsert_perm {α} (l : List α) (i : Nat) (x : α) : (listInsert l i x).Perm (x :: l) := by
  unfold listInsert
  have h : (x :: l).Perm (x :: (l.take i ++ l.drop i)) := by simp
  refine List.Perm.trans ?_ h.symm
  exact List.perm_middle

theorem eraseIdx_perm {α} (l : List α) (i : Nat) (x : α) (h : l[i]? = some x) :
    (x :: l.eraseIdx i).Perm l := by
  induction l generalizing i with
  | nil => simp at h
  | cons y ys ih =>
    cases i with
    | zero => simp at h; subst h; simp
    | succ i =>
      simp only [List.getElem?_cons_succ] at h
      simp only [List.eraseIdx_cons_succ]
      exact (List.Perm.swap y x _).trans ((ih i h).cons y)

theorem reorderGo_perm (fuel idx : Nat) (r : Reorder) :
    (reorderGo fuel idx r).dirs.Perm r.dirs := by
  induction fuel generalizing idx r with
  | zero => simp [reorderGo]
  | succ fuel ih =>
    simp only [reorderGo]
    cases hget : r.dirs[idx]? with
    | none => simp
    | some dir =>
      simp only
      refine (ih _ _).trans ?_
      cases dir with
      | domain d => simpa using eraseIdx_perm r.dirs idx _ hget
      | ctxt c =>
          simp only
          exact (listInsert_perm _ _ _).trans (eraseIdx_perm r.dirs idx _ hget)
      | _ => simp

theorem reorder_perm (ds : List Dir) : (reorder ds).dirs.Perm ds := reorderGo_perm _ _ _

/-- no directive the pass moves to the front -/
def noCtxDirs (ds : List Dir) : Bool :=
  ds.all fun d => match d with
    | .domain _ => false
    | .ctxt _ => false
    | _ => true

theorem reorderGo_stable (fuel idx : Nat) (r : Reorder) (h : noCtxDirs r.dirs = true) :
    reorderGo fuel idx r = r := by
  induction fuel generalizing idx with
  | zero => simp [reorderGo]
  | succ fuel ih =>
    simp only [reorderGo]
    cases hget : r.dirs[idx]? with
    | none => rfl
    | some dir =>
      have hmem : dir ∈ r.dirs := List.mem_of_getElem? hget
      have hd := (List.all_eq_true.mp h) dir hmem
      cases dir with
      | domain d => simp at hd
      | ctxt c => simp at hd
      | _ => exact ih (idx + 1)

/-- without `i18n:domain` / `i18n:ctxt` the loop that "organises" the directives moves nothing -/
theorem reorder_stable (ds : List Dir) (h : noCtxDirs ds = true) : reorder ds = ⟨ds, none, none, []⟩ :=
  reorderGo_stable _ _ _ h

/-- induction over SUB events: `P ds b` from `P` of every SUB event directly inside `b` — for a fact about one SUB
    event (`SubOK` of the look-up induction); for a fact about streams use `stream_induction` -/
theorem TEvent.sub_induction {P : List Dir → List TEvent → Prop}
    (step : ∀ ds b, (∀ ds' b', TEvent.sub ds' b' ∈ b → P ds' b') → P ds b) (ds : List Dir) (b : List TEvent) : P ds b :=
  TEvent.rec (motive_1 := fun e => ∀ ds b, e = .sub ds b → P ds b)
    (motive_2 := fun l => ∀ ds b, TEvent.sub ds b ∈ l → P ds b)
    (fun _ _ _ _ h => nomatch h) (fun _ _ _ h => nomatch h) (fun _ _ _ h => nomatch h) (fun _ _ _ _ h => nomatch h)
    (fun _ _ _ h => nomatch h) (fun _ _ ih _ _ h => by cases h; exact step _ _ ih) (fun _ _ _ h => nomatch h)
    (fun _ _ h => nomatch h)
    (fun e es ihe ihes ds b h => (List.mem_cons.mp h).elim (fun h => ihe ds b h.symm) (ihes ds b))
    (.sub ds b) ds b rfl

/-- induction along a stream, with the hypothesis for the sub-stream at a SUB event -/
theorem stream_induction {P : List TEvent → Prop} (nil : P [])
    (cons : ∀ e es, (∀ d b, e = .sub d b → P b) → P es → P (e :: es)) (s : List TEvent) : P s :=
  TEvent.rec_1 (motive_1 := fun e => ∀ d b, e = .sub d b → P b) (motive_2 := P)
    (fun _ _ _ _ h => nomatch h) (fun _ _ _ h => nomatch h) (fun _ _ _ h => nomatch h) (fun _ _ _ _ h => nomatch h)
    (fun _ _ _ h => nomatch h) (fun _ _ ih _ _ h => by cases h; exact ih) (fun _ _ _ h => nomatch h)
    nil (fun e es ihe ihes => cons e es ihe ihes) s

/-- The depth counter that `Translator.__call__`, the look-ups it makes and `Translator.extract`
    share: 0 outside excluded sub-trees, else the nesting depth inside one.  Each of the three is
    a fold of a per-event function (`trEv`, `lkEv`, `exEv`) along this one automaton; the lemmas
    about streams go through the per-event functions. -/
def skipNext (cfg : Cfg) : Nat → TEvent → Nat
  | 0, .start t a => if excluded cfg t a then 1 else 0
  | 0, _ => 0
  | k + 1, e => skipStep (k + 1) e

/-- what the pass makes of one event met at depth `k` -/
def trEv (cfg : Cfg) (cat : Catalog) (ctx : Ctx) (tt ta : Bool) : Nat → TEvent → TEvent
  | 0, .start t a => if excluded cfg t a then .start t a else .start t (trAttrs cfg (gettextOf cat ctx) ta a)
  | 0, .text s => if tt then .text (trText (gettextOf cat ctx) s) else .text s
  | 0, .sub d b => trSub cfg cat ctx ta (.sub d b)
  | _, e => e

theorem trList_cons (cfg : Cfg) (cat : Catalog) (ctx : Ctx) (tt ta : Bool) (k : Nat) (e : TEvent) (es : List TEvent) :
    trList cfg cat ctx tt ta k (e :: es) = trEv cfg cat ctx tt ta k e :: trList cfg cat ctx tt ta (skipNext cfg k e) es := by
  cases k with
  | succ k => simp only [trList, trEv, skipNext]
  | zero =>
    cases e with
    | start t a => by_cases hx : excluded cfg t a = true <;> simp [trList, trEv, skipNext, hx]
    | _ => simp only [trList, trEv, skipNext]

/-- the look-ups the pass makes for one event met at depth `k` -/
def lkEv (cfg : Cfg) (ctx : Ctx) (tt ta : Bool) : Nat → TEvent → List Lookup
  | 0, .start t a => if excluded cfg t a then [] else lkAttrs cfg ctx ta a
  | 0, .text s => if tt && !(strip s).isEmpty then [⟨(boundKey ctx).1, (boundKey ctx).2, strip s⟩] else []
  | 0, .sub d b => lkSub cfg ctx ta (.sub d b)
  | _, _ => []

theorem lkList_cons (cfg : Cfg) (ctx : Ctx) (tt ta : Bool) (k : Nat) (e : TEvent) (es : List TEvent) :
    lkList cfg ctx tt ta k (e :: es) = lkEv cfg ctx tt ta k e ++ lkList cfg ctx tt ta (skipNext cfg k e) es := by
  cases k with
  | succ k => simp only [lkList, lkEv, skipNext, List.nil_append]
  | zero =>
    cases e with
    | start t a => by_cases hx : excluded cfg t a = true <;> simp [lkList, lkEv, skipNext, hx]
    | _ => simp only [lkList, lkEv, skipNext, List.nil_append]

mutual
  /-- equal up to the order of the directive lists of SUB events, at every depth: the relation in which transparency
      of the pass is stated (`translate_identity`; the pass moves `i18n:domain` / `i18n:ctxt` to the front) -/
  def sameEv : TEvent → TEvent → Bool
    | .sub d b, .sub d' b' => d.isPerm d' && sameList b b'
    | .sub _ _, _ => false
    | e, e' => e = e'
  def sameList : List TEvent → List TEvent → Bool
    | [], [] => true
    | e :: es, e' :: es' => sameEv e e' && sameList es es'
    | _, _ => false
end

theorem sameList_refl : ∀ s : List TEvent, sameList s s = true := by
  intro s
  induction s using stream_induction with
  | nil => simp [sameList]
  | cons e es ihe ih =>
    simp only [sameList, ih, Bool.and_true]
    cases e with
    | sub d b => simp only [sameEv, Bool.and_eq_true]; exact ⟨List.isPerm_iff.mpr (List.Perm.refl d), ihe d b rfl⟩
    | _ => simp [sameEv]

theorem sameEv_refl (e : TEvent) : sameEv e e = true := by
  have := sameList_refl [e]
  simpa [sameList] using this

mutual
  /-- every included plain attribute value of the stream is free of edge white space -/
  def cleanEv (cfg : Cfg) : TEvent → Bool
    | .start _ a => a.all (attrStripped cfg)
    | .sub _ b => cleanList cfg b
    | _ => true
  def cleanList (cfg : Cfg) : List TEvent → Bool
    | [] => true
    | e :: es => cleanEv cfg e && cleanList cfg es
end

/-- under the identity catalogue the pass changes SUB events only -/
theorem trEv_id (cfg : Cfg) (ctx : Ctx) (tt ta : Bool) (k : Nat) (e : TEvent) (h : cleanEv cfg e = true) :
    trEv cfg Catalog.id ctx tt ta k e = e ∨ k = 0 ∧ ∃ d b, e = .sub d b := by
  cases k with
  | succ k => exact Or.inl rfl
  | zero =>
    cases e with
    | sub d b => exact Or.inr ⟨rfl, d, b, rfl⟩
    | start t a =>
      left
      by_cases hx : excluded cfg t a = true
      · simp only [trEv, hx, ↓reduceIte]
      · simp only [trEv, hx, Bool.false_eq_true, ↓reduceIte, gettextOf_id, trAttrs_id cfg ta a h]
    | text s => left; simp only [trEv, gettextOf_id, trText_id, ite_self]
    | _ => exact Or.inl rfl

theorem trList_id_same (cfg : Cfg) (ctx : Ctx) (tt ta : Bool) :
    ∀ (skip : Nat) (s : List TEvent), cleanList cfg s = true →
      sameList s (trList cfg Catalog.id ctx tt ta skip s) = true := by
  intro skip s
  induction s using stream_induction generalizing ctx tt ta skip with
  | nil => intro _; simp [trList, sameList]
  | cons e es ihe ih =>
    intro h
    simp only [cleanList, Bool.and_eq_true] at h
    simp only [trList_cons, sameList, ih ctx tt ta _ h.2, Bool.and_true]
    rcases trEv_id cfg ctx tt ta skip e h.1 with he | ⟨rfl, d, b, rfl⟩
    · rw [he]; exact sameEv_refl e
    · simp only [trEv, trSub, sameEv, Bool.and_eq_true]
      exact ⟨List.isPerm_iff.mpr (reorder_perm d).symm, ihe d b rfl _ _ _ 0 (by simpa [cleanEv] using h.1)⟩

theorem trSub_id_same (cfg : Cfg) (ctx : Ctx) (ta : Bool) :
      ∀ e : TEvent, cleanEv cfg e = true → sameEv e (trSub cfg Catalog.id ctx ta e) = true := by
  intro e h
  cases e with
  | sub d b =>
    simp only [trSub, sameEv, Bool.and_eq_true]
    exact ⟨List.isPerm_iff.mpr (reorder_perm d).symm, trList_id_same cfg _ _ _ 0 b (by simpa [cleanEv] using h)⟩
  | _ => simp [trSub, sameEv]

theorem trAttrs_off (cfg : Cfg) (gt : Str → Str) (a : TAttrs) : trAttrs cfg gt false a = a := by
  unfold trAttrs
  induction a with
  | nil => rfl
  | cons p ps ih =>
    obtain ⟨n, v⟩ := p
    cases v <;> simp [trAttr, ih]

theorem trEv_off (cfg : Cfg) (cat : Catalog) (ctx : Ctx) (k : Nat) (e : TEvent) :
    trEv cfg cat ctx false false k e = e ∨ k = 0 ∧ ∃ d b, e = .sub d b := by
  cases k with
  | succ k => exact Or.inl rfl
  | zero =>
    cases e with
    | sub d b => exact Or.inr ⟨rfl, d, b, rfl⟩
    | start t a => left; simp only [trEv, trAttrs_off, ite_self]
    | _ => exact Or.inl rfl

theorem trList_off_same (cfg : Cfg) (cat : Catalog) (ctx : Ctx) (hx : cfg.extractText = false) :
    ∀ (skip : Nat) (s : List TEvent), sameList s (trList cfg cat ctx false false skip s) = true := by
  intro skip s
  induction s using stream_induction generalizing ctx skip with
  | nil => simp [trList, sameList]
  | cons e es ihe ih =>
    simp only [trList_cons, sameList, ih ctx _, Bool.and_true]
    rcases trEv_off cfg cat ctx skip e with he | ⟨rfl, d, b, rfl⟩
    · rw [he]; exact sameEv_refl e
    · simp only [trEv, trSub, sameEv, Bool.and_eq_true, hx, Bool.false_and]
      exact ⟨List.isPerm_iff.mpr (reorder_perm d).symm, ihe d b rfl _ 0⟩

theorem trSub_off_same (cfg : Cfg) (cat : Catalog) (ctx : Ctx) (hx : cfg.extractText = false) (ta : Bool) :
      ∀ e : TEvent, sameEv e (trSub cfg cat ctx ta e) = true := by
  intro e
  cases e with
  | sub d b =>
    simp only [trSub, sameEv, Bool.and_eq_true, hx, Bool.false_and]
    exact ⟨List.isPerm_iff.mpr (reorder_perm d).symm, trList_off_same cfg cat _ hx 0 b⟩
  | _ => simp [trSub, sameEv]

end Genshi.I18n
