/-
  C19 — runs of `MessageBuffer.append` (`mbAppendList`) over a concatenation, the fields `_add_event` leaves alone,
  and the buffer of `MsgDirective.__call__` (`msgBuffer`) as one such run over `msgBody`.  The base that the
  message algebra (`I18nBuf.lean` …) and the extraction side (`I18nMsgLookup.lean` …) share.
-/
import Genshi.Model.I18nMsgBuf
namespace Genshi.I18n
open Genshi

@[simp] theorem add_stack (b : MB) (k : Nat) (e : MEv) : (b.add k e).stack = b.stack := by
  unfold MB.add; split <;> rfl
@[simp] theorem add_order (b : MB) (k : Nat) (e : MEv) : (b.add k e).order = b.order := by
  unfold MB.add; split <;> rfl
@[simp] theorem add_depth (b : MB) (k : Nat) (e : MEv) : (b.add k e).depth = b.depth := by
  unfold MB.add; split <;> rfl
@[simp] theorem add_str (b : MB) (k : Nat) (e : MEv) : (b.add k e).str = b.str := by
  unfold MB.add; split <;> rfl
@[simp] theorem add_params (b : MB) (k : Nat) (e : MEv) : (b.add k e).params = b.params := by
  unfold MB.add; split <;> rfl
@[simp] theorem add_values (b : MB) (k : Nat) (e : MEv) : (b.add k e).values = b.values := by
  unfold MB.add; split <;> rfl
@[simp] theorem add_subdirs (b : MB) (k : Nat) (e : MEv) : (b.add k e).subdirs = b.subdirs := by
  unfold MB.add; split <;> rfl

theorem dropLast_append_last {α} (rest : List α) (last : α) (h : rest.getLast? = some last) :
    rest = rest.dropLast ++ [last] := by
  obtain ⟨ys, rfl⟩ := List.getLast?_eq_some_iff.mp h
  rw [List.dropLast_concat]

theorem mbAppendList_append (b : MB) : ∀ (x y : List TEvent),
    mbAppendList b (x ++ y) = (mbAppendList b x).bind (fun b' => mbAppendList b' y)
  | [], y => by simp [mbAppendList, Except.bind, pure, Except.pure]
  | e :: x, y => by
      simp only [List.cons_append, mbAppendList, bind]
      cases h : mbAppend b e with
      | error err => simp [Except.bind]
      | ok b1 => simp only [Except.bind]; exact mbAppendList_append b1 x y

theorem mbAppendList_single (b : MB) (e : TEvent) : mbAppendList b [e] = mbAppend b e := by
  simp only [mbAppendList, bind]
  cases mbAppend b e <;> simp [Except.bind, pure, Except.pure]

/-- the events `MsgDirective.__call__` puts into its buffer: the stream without a leading
    START and without a trailing END (the latter only when there are at least two events) -/
def msgBody : List TEvent → List TEvent
  | [] => []
  | first :: rest =>
      (if first.isStart then [] else [first]) ++
      (match rest.getLast? with
       | none => []
       | some last => rest.dropLast ++ (if last.isEnd then [] else [last]))

/-- the events it passes on before and after the translated content: that START, that END -/
def msgEnds : List TEvent → List TEvent × List TEvent
  | [] => ([], [])
  | first :: rest =>
      (if first.isStart then [first] else [],
       match rest.getLast? with
       | some last => if last.isEnd then [last] else []
       | none => [])

theorem msgBuffer_rest (b0 : MB) (head rest : List TEvent) :
    (match rest.getLast? with
      | none => pure (b0, head, [])
      | some last => do
          let b1 ← mbAppendList b0 rest.dropLast
          let b2 ← if last.isEnd then pure b1 else mbAppend b1 last
          pure (b2, head, if last.isEnd then [last] else []) : Except Err (MB × List TEvent × List TEvent)) =
      (mbAppendList b0 (match rest.getLast? with
        | none => []
        | some last => rest.dropLast ++ (if last.isEnd then [] else [last]))).map fun b =>
          (b, head, match rest.getLast? with
            | some last => if last.isEnd then [last] else []
            | none => []) := by
  cases rest.getLast? with
  | none => rfl
  | some last =>
    simp only [mbAppendList_append, bind]
    cases mbAppendList b0 rest.dropLast with
    | error err => rfl
    | ok b1 =>
      by_cases hle : last.isEnd = true
      · simp [hle, Except.bind, Except.map, mbAppendList, pure, Except.pure]
      · simp only [hle, Bool.false_eq_true, ↓reduceIte, Except.bind, mbAppendList_single]
        cases mbAppend b1 last <;> rfl

/-- `msgBuffer` is one run of `append` over `msgBody`; every fact about the buffer of a message
    directive (`msgId`, `msgGenerate`, `branchCall`) goes through this equation -/
theorem msgBuffer_eq (ps : List Str) (s : List TEvent) :
    msgBuffer ps s = (mbAppendList (MB.new ps) (msgBody s)).map fun b => (b, msgEnds s) := by
  cases s with
  | nil => rfl
  | cons first rest =>
    simp only [msgBuffer, msgBody, msgEnds, bind]
    by_cases hf : first.isStart = true
    · simp only [hf, ↓reduceIte, List.nil_append, pure, Except.pure, Except.bind]
      exact msgBuffer_rest (MB.new ps) [first] rest
    · simp only [hf, Bool.false_eq_true, ↓reduceIte, List.cons_append, List.nil_append, mbAppendList, bind]
      cases mbAppend (MB.new ps) first with
      | error err => rfl
      | ok b0 => exact msgBuffer_rest b0 [] rest

theorem msgBody_attr (t : QName) (a : TAttrs) (mid : List TEvent) (last : TEvent) (h : last.isEnd = true) :
    msgBody (.start t a :: (mid ++ [last])) = mid ∧
      msgEnds (.start t a :: (mid ++ [last])) = ([.start t a], [last]) := by
  simp [msgBody, msgEnds, TEvent.isStart, h]

theorem msgBody_plain (first : TEvent) (rest : List TEvent) (h1 : first.isStart = false)
    (h2 : (first :: rest).getLast?.map TEvent.isEnd = some false) :
    msgBody (first :: rest) = first :: rest ∧ msgEnds (first :: rest) = ([], []) := by
  cases hl : rest.getLast? with
  | none => simp [msgBody, msgEnds, h1, List.getLast?_eq_none_iff.mp hl]
  | some last =>
    have hlast : last.isEnd = false := by
      rw [List.getLast?_cons, hl] at h2; simpa using h2
    simp [msgBody, msgEnds, h1, hl, hlast, ← dropLast_append_last rest last hl]

end Genshi.I18n
