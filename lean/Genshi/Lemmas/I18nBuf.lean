/-
  C19 — what `MessageBuffer.append` files for the content of a message (a forest, `I18nForest.lean`):
  the groups of events of every element (`elemGroups`), the proof that they are "good"
  in the sense of `Genshi/Lemmas/I18nRun.lean` when no two child elements are adjacent, and what a run of
  `append` over the forest leaves in the buffer (`Post`, `append_nodes`).
-/
import Genshi.Lemmas.I18nRunSub
import Genshi.Lemmas.I18nAppend
import Genshi.Lemmas.I18nForest
namespace Genshi.I18n
open Genshi

/-- the groups `MessageBuffer` files under ONE order while the children of that element go by: the closed groups and
    the one still open.  Text and expressions go into the open group, a child element closes it (`pvFeed`; the
    child's own events go under its own number).  `Rel` ties the view to the buffer. -/
structure PV where
  closed : List (List MEv)
  cur : Option (List MEv)

def PV.groups (p : PV) : List (List MEv) := p.closed ++ p.cur.toList

def PV.addEv (p : PV) (e : MEv) : PV :=
  match p.cur with
  | some g => { p with cur := some (g ++ [e]) }
  | none => { p with cur := some [e] }

def PV.close (p : PV) : PV :=
  match p.cur with
  | some g => ⟨p.closed ++ [g], none⟩
  | none => p

theorem PV.addEv_eq (p : PV) (e : MEv) : p.addEv e = ⟨p.closed, some (p.cur.getD [] ++ [e])⟩ := by
  obtain ⟨closed, cur⟩ := p
  cases cur <;> rfl

def pvFeed (p : PV) : List MNode → PV
  | [] => p
  | .text s :: ns => pvFeed (p.addEv (.ev (.text (escBrackets s)))) ns
  | .expr _ i cm :: ns => pvFeed (p.addEv (.ev (.expr i cm))) ns
  | .elem _ _ _ _ :: ns => pvFeed p.close ns

/-- the groups `MessageBuffer` files for an element with children `ks` -/
def elemGroups (t : QName) (a : TAttrs) (ks : List MNode) : List (List MEv) :=
  ((pvFeed ⟨[], some [.ev (.start t a)]⟩ ks).addEv (.ev (.end_ t))).groups

def MEv.textual : MEv → Bool
  | .ev (.text _) => true
  | .ev (.expr _ _) => true
  | _ => false

def textualG (g : List MEv) : Bool := g.all MEv.textual

theorem textual_simple (x : MEv) (h : x.textual = true) : x.simple = true := by
  cases x with
  | ev e => cases e <;> simp_all [MEv.textual, MEv.simple]
  | _ => simp [MEv.textual] at h

theorem textualG_simple (g : List MEv) (h : textualG g = true) : simpleG g = true := by
  simp only [textualG, simpleG, List.all_eq_true] at *
  exact fun x hx => textual_simple x (h x hx)

theorem PV.close_groups (p : PV) : p.close.groups = p.groups := by
  cases p with
  | mk closed cur =>
    cases cur with
    | none => rfl
    | some g => simp [PV.close, PV.groups]

theorem PV.close_cur (p : PV) : p.close.cur = none := by
  cases p with
  | mk closed cur =>
    cases cur with
    | none => rfl
    | some g => rfl

/-- every group of the view consists of events satisfying `q` -/
def PV.All (q : MEv → Bool) (p : PV) : Prop := ∀ g ∈ p.groups, g.all q = true

theorem PV.All.addEv {q : MEv → Bool} {p : PV} {x : MEv} (h : p.All q) (hx : q x = true) : (p.addEv x).All q := by
  intro g hg
  rw [PV.addEv_eq] at hg
  simp only [PV.groups, Option.toList_some, List.mem_append, List.mem_singleton] at hg
  rcases hg with hg | rfl
  · exact h g (by simp [PV.groups, hg])
  · cases hc : p.cur with
    | none => simp [hx]
    | some g0 => simp [List.all_append, hx, h g0 (by simp [PV.groups, hc])]

theorem PV.All.close {q : MEv → Bool} {p : PV} (h : p.All q) : p.close.All q := by
  rwa [PV.All, PV.close_groups]

/-- what `pvFeed` adds is text and expressions -/
theorem pvFeed_all {q : MEv → Bool} (hq : ∀ x : MEv, x.textual = true → q x = true) :
    ∀ (ks : List MNode) (p : PV), p.All q → (pvFeed p ks).All q
  | [], _, h => h
  | .text _ :: ns, _, h => pvFeed_all hq ns _ (h.addEv (hq _ rfl))
  | .expr _ _ _ :: ns, _, h => pvFeed_all hq ns _ (h.addEv (hq _ rfl))
  | .elem _ _ _ _ :: ns, _, h => pvFeed_all hq ns _ h.close

theorem textualG_induction {P : (g : List MEv) → textualG g = true → Prop} (nil : P [] rfl)
    (text : ∀ s g hg hg', P g hg → P (.ev (.text s) :: g) hg')
    (expr : ∀ i m g hg hg', P g hg → P (.ev (.expr i m) :: g) hg') : ∀ g hg, P g hg
  | [], _ => nil
  | x :: g, h => by
      have hxg : x.textual = true ∧ textualG g = true := by
        simpa only [textualG, List.all_cons, Bool.and_eq_true] using h
      have ih := textualG_induction nil text expr g hxg.2
      cases x with
      | ev e =>
        cases e with
        | text s => exact text s g _ h ih
        | expr i m => exact expr i m g _ h ih
        | _ => exact absurd hxg.1 (by simp [MEv.textual])
      | _ => exact absurd hxg.1 (by simp [MEv.textual])

theorem tags_textual_append (g : List MEv) (hg : textualG g = true) (g' : List MEv) : tags (g ++ g') = tags g' := by
  induction g, hg using textualG_induction with
  | nil => rfl
  | text s g _ _ ih => simpa only [List.cons_append, tags] using ih
  | expr i m g _ _ ih => simpa only [List.cons_append, tags] using ih

theorem tags_textual (g : List MEv) (hg : textualG g = true) : tags g = [] := by
  simpa [tags] using tags_textual_append g hg []

theorem groupOut_textual_append (e : List TEvent) (g : List MEv) (hg : textualG g = true) (g' : List MEv)
    (h' : groupOut e g' = e ++ tags g') : groupOut e (g ++ g') = e ++ tags g' := by
  induction g, hg using textualG_induction with
  | nil => exact h'
  | text s g hg _ _ => simp only [List.cons_append, groupOut, tags_textual_append g hg]
  | expr i m g _ _ ih => simpa only [List.cons_append, groupOut] using ih

theorem groupOut_textual (e : List TEvent) (g : List MEv) (hg : textualG g = true) : groupOut e g = e := by
  simpa [tags, groupOut] using groupOut_textual_append e g hg [] (by simp [groupOut, tags])

theorem groupOut_textual_end (e : List TEvent) (t : QName) (g : List MEv) (hg : textualG g = true) :
    groupOut e (g ++ [.ev (.end_ t)]) = e ++ [.end_ t] :=
  groupOut_textual_append e g hg _ rfl

/-- the outputs of the `m + 1` groups of an element, as a list -/
def expectedList (t : QName) (a : TAttrs) (m : Nat) (e : List TEvent) : List (List TEvent) :=
  match m with
  | 0 => [.start t a :: (e ++ [.end_ t])]
  | m + 1 => (.start t a :: e) :: (List.replicate m e ++ [e ++ [.end_ t]])

theorem expectedList_length (t : QName) (a : TAttrs) (m : Nat) (e : List TEvent) :
    (expectedList t a m e).length = m + 1 := by
  cases m <;> simp [expectedList]

theorem expectedList_getElem (t : QName) (a : TAttrs) (m : Nat) (e : List TEvent) (i : Nat)
    (h : i < (expectedList t a m e).length) : (expectedList t a m e)[i] = expectedOut t a m i e := by
  cases m with
  | zero =>
    simp only [expectedList, List.length_cons, List.length_nil] at h
    have : i = 0 := by omega
    subst this
    simp [expectedList, expectedOut]
  | succ m =>
    simp only [expectedList_length] at h
    cases i with
    | zero => simp [expectedList, expectedOut]
    | succ i =>
      simp only [expectedList, List.getElem_cons_succ]
      by_cases hi : i < m
      · rw [List.getElem_append_left (by simpa using hi)]
        have h1 : i ≠ m := by omega
        simp [expectedOut, h1]
      · have him : i = m := by omega
        subst him
        rw [List.getElem_append_right (by simp)]
        simp [expectedOut]

/-- `j` child elements seen: the groups closed so far emit what the first `j` gaps of the element must, and the open
    group, if there is one, holds text and expressions (behind the START event while `j = 0`) -/
def FeedOK (t : QName) (a : TAttrs) (j : Nat) (p : PV) : Prop :=
  match j with
  | 0 => p.closed = [] ∧ ∃ tx, p.cur = some (.ev (.start t a) :: tx) ∧ textualG tx = true
  | j + 1 => (∀ e, p.closed.map (groupOut e) = (.start t a :: e) :: List.replicate j e) ∧
      textualG (p.cur.getD []) = true

theorem textualG_snoc (g : List MEv) (x : MEv) (hg : textualG g = true) (hx : x.textual = true) :
    textualG (g ++ [x]) = true := by
  simp only [textualG, List.all_append, List.all_cons, List.all_nil, Bool.and_true, Bool.and_eq_true] at *
  exact ⟨hg, hx⟩

theorem feedOK_textual (t : QName) (a : TAttrs) (j : Nat) (p : PV) (x : MEv)
    (hx : x.textual = true) (h : FeedOK t a j p) : FeedOK t a j (p.addEv x) := by
  rw [PV.addEv_eq]
  cases j with
  | zero =>
    obtain ⟨hc, tx, hcur, htx⟩ := h
    exact ⟨hc, tx ++ [x], by simp [hcur], textualG_snoc tx x htx hx⟩
  | succ j => exact ⟨h.1, textualG_snoc _ x h.2 hx⟩

/-- a child element closes the open group (there is one: no two elements are adjacent) -/
theorem feedOK_elem (t : QName) (a : TAttrs) (j : Nat) (p : PV) (h : FeedOK t a j p) (ho : p.cur.isNone = false) :
    FeedOK t a (j + 1) p.close := by
  obtain ⟨closed, cur⟩ := p
  cases cur with
  | none => cases ho
  | some tx =>
    cases j with
    | zero =>
      obtain ⟨hc, tx', hcur, htx⟩ := h
      cases hcur
      exact ⟨fun e => by simp [PV.close, show closed = [] from hc, groupOut, tags_textual tx' htx], rfl⟩
    | succ j =>
      refine ⟨fun e => ?_, rfl⟩
      simp only [PV.close, List.map_append, List.map_cons, List.map_nil, h.1 e, groupOut_textual e tx h.2]
      rw [List.replicate_succ' (n := j)]
      simp

theorem feedOK_feed (t : QName) (a : TAttrs) : ∀ (ks : List MNode) (j : Nat) (p : PV),
    FeedOK t a j p → noAdjF p.cur.isNone ks = true → FeedOK t a (j + countE ks) (pvFeed p ks)
  | [], _, _, h, _ => h
  | .text s :: ns, j, p, h, hn => by
      simp only [countE, pvFeed]
      exact feedOK_feed t a ns j _ (feedOK_textual t a j p _ rfl h) (by rw [PV.addEv_eq]; simpa [noAdjF] using hn)
  | .expr _ i cm :: ns, j, p, h, hn => by
      simp only [countE, pvFeed]
      exact feedOK_feed t a ns j _ (feedOK_textual t a j p _ rfl h) (by rw [PV.addEv_eq]; simpa [noAdjF] using hn)
  | .elem _ _ _ _ :: ns, j, p, h, hn => by
      simp only [noAdjF, Bool.and_eq_true, Bool.not_eq_true'] at hn
      simp only [countE, pvFeed]
      have := feedOK_feed t a ns (j + 1) _ (feedOK_elem t a j p h hn.1) (by rw [PV.close_cur]; exact hn.2)
      rwa [Nat.add_right_comm] at this

theorem feedOK_final (t : QName) (a : TAttrs) (j : Nat) (p : PV) (h : FeedOK t a j p) (e : List TEvent) :
    (p.addEv (.ev (.end_ t))).groups.map (groupOut e) = expectedList t a j e := by
  rw [PV.addEv_eq]
  cases j with
  | zero =>
    obtain ⟨hc, tx, hcur, htx⟩ := h
    simp [hcur, PV.groups, hc, expectedList, groupOut, tags_textual_append tx htx, tags]
  | succ j => simp [PV.groups, expectedList, h.1 e, groupOut_textual_end e t _ h.2]

theorem elemGroups_good (t : QName) (a : TAttrs) (ks : List MNode) (h : noAdjF false ks = true) :
    GoodElem (elemGroups t a ks) t a (countE ks) := by
  have h1 := feedOK_feed t a ks 0 ⟨[], some [.ev (.start t a)]⟩ ⟨rfl, [], rfl, rfl⟩ h
  simp only [Nat.zero_add] at h1
  have hm := feedOK_final t a _ _ h1
  have hlen : (elemGroups t a ks).length = countE ks + 1 := by
    have := congrArg List.length (hm [])
    simpa [expectedList_length, elemGroups] using this
  have hs : (PV.addEv (pvFeed ⟨[], some [.ev (.start t a)]⟩ ks) (.ev (.end_ t))).All MEv.simple :=
    (pvFeed_all textual_simple ks _ (by intro g hg; simp [PV.groups] at hg; subst hg; rfl)).addEv rfl
  refine ⟨hlen, hs, ?_⟩
  intro i hi e
  have h2 := hm e
  have hi' : i < ((elemGroups t a ks).map (groupOut e)).length := by simpa using hi
  have h3 : ((elemGroups t a ks).map (groupOut e))[i] = groupOut e (elemGroups t a ks)[i] := by simp
  rw [← h3]
  have h4 : i < (expectedList t a (countE ks) e).length := by rw [expectedList_length]; omega
  rw [← expectedList_getElem t a (countE ks) e i h4]
  simp only [elemGroups] at h2 ⊢
  simp [h2]

theorem appendLast_snoc {α} (l : List (List α)) (g : List α) (x : α) :
    appendLast (l ++ [g]) x = l ++ [g ++ [x]] := by
  induction l with
  | nil => simp [appendLast]
  | cons h t ih =>
    cases t with
    | nil => simp [appendLast]
    | cons h' t' =>
      simp only [List.cons_append] at ih ⊢
      rw [appendLast]
      · rw [ih]
      · simp

theorem add_events_same (b : MB) (k : Nat) (e : MEv) (h : b.prevOrder = some k) :
    (b.add k e).events k = some (appendLast ((b.events k).getD []) e) ∧ (b.add k e).prevOrder = some k := by
  simp [MB.add, h, setGroups]

theorem add_events_new (b : MB) (k : Nat) (e : MEv) (h : b.prevOrder ≠ some k) :
    (b.add k e).events k = some ((b.events k).getD [] ++ [[e]]) ∧ (b.add k e).prevOrder = some k := by
  simp [MB.add, h, setGroups]

theorem add_events_other (b : MB) (k j : Nat) (e : MEv) (h : j ≠ k) : (b.add k e).events j = b.events j := by
  unfold MB.add; split <;> simp [setGroups, h]

theorem add_prev (b : MB) (k : Nat) (e : MEv) : (b.add k e).prevOrder = some k := by
  unfold MB.add; split <;> simp_all

/-- the buffer agrees with the parent's view `p` of the groups of order `top` -/
structure Rel (b : MB) (top : Nat) (p : PV) : Prop where
  groups : (b.events top).getD [] = p.groups
  openIff : b.prevOrder = some top ↔ p.cur.isSome = true

theorem Rel.add_top {b : MB} {top : Nat} {p : PV} (h : Rel b top p) (e : MEv) : Rel (b.add top e) top (p.addEv e) := by
  cases hc : p.cur with
  | some g =>
    have hp : b.prevOrder = some top := h.openIff.mpr (by simp [hc])
    obtain ⟨h1, h2⟩ := add_events_same b top e hp
    refine ⟨?_, ?_⟩
    · rw [h1, h.groups]; simp [PV.groups, PV.addEv, hc, appendLast_snoc]
    · simp [h2, PV.addEv, hc]
  | none =>
    have hp : b.prevOrder ≠ some top := fun hp => by have := h.openIff.mp hp; simp [hc] at this
    obtain ⟨h1, h2⟩ := add_events_new b top e hp
    refine ⟨?_, ?_⟩
    · rw [h1, h.groups]; simp [PV.groups, PV.addEv, hc]
    · simp [h2, PV.addEv, hc]

theorem Rel.add_other {b : MB} {top : Nat} {p : PV} (h : Rel b top p) (k : Nat) (hk : k ≠ top) (e : MEv) :
    Rel (b.add k e) top p.close := by
  refine ⟨?_, ?_⟩
  · rw [add_events_other b k top e (Ne.symm hk), h.groups, PV.close_groups]
  · rw [add_prev, PV.close_cur]
    simp [hk]

theorem Rel.congr {b b' : MB} {top : Nat} {p : PV} (h : Rel b top p) (he : b'.events = b.events)
    (hp : b'.prevOrder = b.prevOrder) : Rel b' top p :=
  ⟨by rw [he]; exact h.groups, by rw [hp]; exact h.openIff⟩

/-- what every run of `append` keeps true of the buffer: nothing is filed yet under an order still to be handed out
    (`≥ b.order`), so the groups of a new element start empty; `_prev_order` is an order already handed out -/
structure Inv (b : MB) : Prop where
  fresh : ∀ k, b.order ≤ k → b.events k = none
  freshSub : ∀ k, b.order ≤ k → assocGet b.subdirs k = none
  prevLt : ∀ k, b.prevOrder = some k → k < b.order
  depthPos : 0 < b.depth

/-- what appending the forest `ns` under the open element `top` does to the buffer -/
structure Post (b b' : MB) (top : Nat) (p : PV) (ns : List MNode) (rest : List Str) : Prop where
  stack : b'.stack = b.stack
  order : b'.order = b.order + sizeM ns
  depth : b'.depth = b.depth
  str : b'.str = b.str ++ fmtM b.order ns
  params : b'.params = rest
  subKeep : ∀ k, k < b.order → assocGet b'.subdirs k = assocGet b.subdirs k
  values : b'.values = (valsM ns).reverse ++ b.values
  rel : Rel b' top (pvFeed p ns)
  inv : Inv b'
  below : ∀ k, k ≠ top → k < b.order → b'.events k = b.events k
  elems : ∀ k t a c kd, infoM b.order ns k = some (t, a, c, kd) →
    ∃ gs, b'.events k = some gs ∧ GoodElemK gs kd t a c ∧ ∀ ds, kd = some ds → assocGet b'.subdirs k = some ds
  prev : b'.prevOrder = b.prevOrder ∨ b'.prevOrder = some top ∨ ∃ k, b.order ≤ k ∧ b'.prevOrder = some k

theorem pvFeed_append (p : PV) : ∀ (x y : List MNode), pvFeed p (x ++ y) = pvFeed (pvFeed p x) y
  | [], y => rfl
  | .text s :: x, y => by simp only [List.cons_append, pvFeed]; exact pvFeed_append _ x y
  | .expr _ _ _ :: x, y => by simp only [List.cons_append, pvFeed]; exact pvFeed_append _ x y
  | .elem _ _ _ _ :: x, y => by simp only [List.cons_append, pvFeed]; exact pvFeed_append _ x y

theorem add_events_is_some (b : MB) (k : Nat) (e : MEv) :
    (b.add k e).events k = some (((b.add k e).events k).getD []) := by
  unfold MB.add; split <;> simp [setGroups]

theorem assocGet_nil {β} (j : Nat) : assocGet ([] : List (Nat × β)) j = none := rfl

theorem assocGet_cons {β} (q : Nat × β) (qs : List (Nat × β)) (j : Nat) :
    assocGet (q :: qs) j = if q.1 = j then some q.2 else assocGet qs j := by
  unfold assocGet
  by_cases h : q.1 = j <;> simp [List.find?, h]

theorem assocGet_map_other (ds : List Dir) (k j : Nat) (h : j ≠ k) : ∀ (m : List (Nat × List Dir)),
    assocGet (m.map (fun p => if p.1 = k then (p.1, p.2 ++ ds) else p)) j = assocGet m j
  | [] => rfl
  | q :: qs => by
      simp only [List.map_cons, assocGet_cons]
      by_cases hq : q.1 = k
      · simp [hq, Ne.symm h, assocGet_map_other ds k j h qs]
      · by_cases hqj : q.1 = j
        · have hjk : ¬ j = k := h
          simp [hqj, hjk]
        · simp [hq, hqj, assocGet_map_other ds k j h qs]

theorem assocGet_append_single {β} (k j : Nat) (v : β) : ∀ (m : List (Nat × β)),
    assocGet (m ++ [(k, v)]) j = match assocGet m j with | some x => some x | none => if k = j then some v else none
  | [] => by simp [assocGet_cons, assocGet_nil]
  | q :: qs => by
      simp only [List.cons_append, assocGet_cons]
      by_cases hq : q.1 = j
      · simp [hq]
      · simp [hq, assocGet_append_single k j v qs]

theorem assocGet_any_false {β} (k : Nat) : ∀ (m : List (Nat × β)), assocGet m k = none →
    m.any (fun p => decide (p.1 = k)) = false
  | [], _ => rfl
  | q :: qs, h => by
      rw [assocGet_cons] at h
      by_cases hq : q.1 = k
      · simp [hq] at h
      · simp only [hq, ↓reduceIte] at h
        simp [hq, assocGet_any_false k qs h]

theorem assocGet_extend_same (m : List (Nat × List Dir)) (k : Nat) (ds : List Dir) (h : assocGet m k = none) :
    assocGet (extendAssoc m k ds) k = some ds := by
  unfold extendAssoc
  simp only [assocGet_any_false k m h, Bool.false_eq_true, ↓reduceIte]
  rw [assocGet_append_single, h]
  simp

theorem assocGet_extend_other (m : List (Nat × List Dir)) (k j : Nat) (ds : List Dir) (h : j ≠ k) :
    assocGet (extendAssoc m k ds) j = assocGet m j := by
  unfold extendAssoc
  split
  · exact assocGet_map_other ds k j h m
  · rw [assocGet_append_single]
    cases assocGet m j with
    | some x => rfl
    | none => simp [Ne.symm h]

/-- the groups of a directive-carrying element -/
def subGroups (t : QName) (a : TAttrs) (ks : List MNode) : List (List MEv) :=
  (((pvFeed ⟨[], some [.subStart, .ev (.start t a)]⟩ ks).addEv (.ev (.end_ t))).addEv .subEnd).groups

/-- put `x` in front of the first group -/
def PV.prefixFirst (x : MEv) (p : PV) : PV :=
  match p.closed with
  | [] => ⟨[], p.cur.map (x :: ·)⟩
  | g :: gs => ⟨(x :: g) :: gs, p.cur⟩

theorem PV.prefixFirst_addEv (x e : MEv) (p : PV) (h : p.closed ≠ [] ∨ p.cur.isSome = true) :
    (p.prefixFirst x).addEv e = (p.addEv e).prefixFirst x := by
  obtain ⟨closed, cur⟩ := p
  cases closed with
  | nil =>
    cases cur with
    | none => simp at h
    | some g => simp [PV.prefixFirst, PV.addEv]
  | cons g gs => cases cur <;> simp [PV.prefixFirst, PV.addEv]

theorem PV.prefixFirst_close (x : MEv) (p : PV) (h : p.closed ≠ [] ∨ p.cur.isSome = true) :
    (p.prefixFirst x).close = p.close.prefixFirst x := by
  obtain ⟨closed, cur⟩ := p
  cases closed with
  | nil =>
    cases cur with
    | none => simp at h
    | some g => simp [PV.prefixFirst, PV.close]
  | cons g gs => cases cur <;> simp [PV.prefixFirst, PV.close]

theorem PV.nonempty_addEv (p : PV) (e : MEv) : (p.addEv e).closed ≠ [] ∨ (p.addEv e).cur.isSome = true := by
  rw [PV.addEv_eq]; exact Or.inr rfl

theorem PV.nonempty_close (p : PV) (h : p.closed ≠ [] ∨ p.cur.isSome = true) :
    p.close.closed ≠ [] ∨ p.close.cur.isSome = true := by
  obtain ⟨closed, cur⟩ := p
  cases cur with
  | none => simpa [PV.close] using h
  | some g => left; simp [PV.close]

theorem pvFeed_prefixFirst (x : MEv) : ∀ (ks : List MNode) (p : PV), (p.closed ≠ [] ∨ p.cur.isSome = true) →
    pvFeed (p.prefixFirst x) ks = (pvFeed p ks).prefixFirst x ∧
    ((pvFeed p ks).closed ≠ [] ∨ (pvFeed p ks).cur.isSome = true)
  | [], p, h => ⟨rfl, h⟩
  | .text s :: ns, p, h => by
      simp only [pvFeed]; rw [PV.prefixFirst_addEv x _ p h]
      exact pvFeed_prefixFirst x ns _ (PV.nonempty_addEv p _)
  | .expr _ i cm :: ns, p, h => by
      simp only [pvFeed]; rw [PV.prefixFirst_addEv x _ p h]
      exact pvFeed_prefixFirst x ns _ (PV.nonempty_addEv p _)
  | .elem _ _ _ _ :: ns, p, h => by
      simp only [pvFeed]; rw [PV.prefixFirst_close x p h]
      exact pvFeed_prefixFirst x ns _ (PV.nonempty_close p h)

theorem PV.prefixFirst_groups (x : MEv) (p : PV) (h : p.closed ≠ [] ∨ p.cur.isSome = true) :
    (p.prefixFirst x).groups = mapFirst (x :: ·) p.groups := by
  obtain ⟨closed, cur⟩ := p
  cases closed with
  | nil =>
    cases cur with
    | none => simp at h
    | some g => simp [PV.prefixFirst, PV.groups, mapFirst]
  | cons g gs => cases cur <;> simp [PV.prefixFirst, PV.groups, mapFirst]

theorem mapLast_snoc {α} (f : α → α) : ∀ (l : List α) (x : α), mapLast f (l ++ [x]) = l ++ [f x]
  | [], x => rfl
  | [y], x => by simp [mapLast]
  | y :: z :: l, x => by
      have := mapLast_snoc f (z :: l) x
      simp only [List.cons_append] at this ⊢
      simp [mapLast, this]

theorem PV.addEv_groups_last (p : PV) (e1 e2 : MEv) :
    ((p.addEv e1).addEv e2).groups = mapLast (· ++ [e2]) (p.addEv e1).groups := by
  rw [PV.addEv_eq (p.addEv e1), PV.addEv_eq p]
  simp [PV.groups, mapLast_snoc]

theorem subGroups_eq (ds : List Dir) (t : QName) (a : TAttrs) (ks : List MNode) :
    subGroups t a ks = wrapK (some ds) (elemGroups t a ks) := by
  have h0 : (⟨[], some [.subStart, .ev (.start t a)]⟩ : PV) = (⟨[], some [.ev (.start t a)]⟩ : PV).prefixFirst .subStart := by
    simp [PV.prefixFirst]
  obtain ⟨hfeed, hne⟩ := pvFeed_prefixFirst .subStart ks ⟨[], some [.ev (.start t a)]⟩ (Or.inr rfl)
  unfold subGroups elemGroups wrapK
  rw [h0, hfeed, PV.addEv_groups_last, PV.prefixFirst_addEv _ _ _ hne,
    PV.prefixFirst_groups _ _ (PV.nonempty_addEv _ _)]
  -- mapLast and mapFirst commute
  generalize ((pvFeed ⟨[], some [.ev (.start t a)]⟩ ks).addEv (.ev (.end_ t))).groups = gs
  cases gs with
  | nil => rfl
  | cons g rest =>
    cases rest with
    | nil => simp [mapFirst, mapLast]
    | cons g2 rest2 => simp [mapFirst, mapLast]

theorem Post.cons {b b1 b2 : MB} {top : Nat} {p : PV} {n : MNode} {ns : List MNode} {rest : List Str}
    (hlt : top < b.order) (post1 : Post b b1 top p [n] (namesM ns ++ rest))
    (post2 : Post b1 b2 top (pvFeed p [n]) ns rest) : Post b b2 top p (n :: ns) rest := by
  have ho1 : b1.order = b.order + n.size := by rw [post1.order]; simp [sizeM]
  refine { stack := by rw [post2.stack, post1.stack], order := ?_, depth := by rw [post2.depth, post1.depth],
           str := ?_, params := post2.params, subKeep := ?_,
           values := ?_, rel := ?_, inv := post2.inv, below := ?_, elems := ?_, prev := ?_ }
  · rw [post2.order, ho1]; simp [sizeM]; omega
  · rw [post2.str, post1.str, ho1]; simp [fmtM, List.append_assoc]
  · intro k hk
    rw [post2.subKeep k (by rw [ho1]; omega), post1.subKeep k hk]
  · rw [post2.values, post1.values]; simp [valsM, List.append_assoc]
  · have := post2.rel
    rwa [← pvFeed_append p [n] ns] at this
  · intro k hk hko
    rw [post2.below k hk (by rw [ho1]; omega), post1.below k hk hko]
  · intro k t a c kd h
    simp only [infoM] at h
    cases hn : n.info b.order k with
    | some x =>
      simp only [hn] at h
      cases h
      have hr := MNode.info_range b.order n k _ hn
      obtain ⟨gs, hgs, hgood, hsd⟩ := post1.elems k t a c kd (by simp [infoM, hn])
      refine ⟨gs, ?_, hgood, fun ds hds => ?_⟩
      · rw [post2.below k (by omega) (by rw [ho1]; omega)]; exact hgs
      · rw [post2.subKeep k (by rw [ho1]; omega)]; exact hsd ds hds
    | none =>
      simp only [hn] at h
      exact post2.elems k t a c kd (by rw [ho1]; exact h)
  · rcases post2.prev with h2 | h2 | ⟨k, hk, h2⟩
    · rcases post1.prev with h1 | h1 | ⟨k, hk, h1⟩
      · left; rw [h2, h1]
      · right; left; rw [h2, h1]
      · right; right; exact ⟨k, hk, by rw [h2, h1]⟩
    · right; left; exact h2
    · right; right; exact ⟨k, by rw [ho1] at hk; omega, h2⟩

theorem append_text (s : Str) (b : MB) (top : Nat) (st : List Nat) (p : PV) (rest : List Str)
    (hst : b.stack = top :: st) (hlt : top < b.order) (hpar : b.params = rest) (hrel : Rel b top p) (hinv : Inv b) :
    ∃ b', mbAppendList b (MNode.text s).flatten = .ok b' ∧ Post b b' top p [.text s] rest := by
  let b0 : MB := { b with str := b.str ++ escBrackets s }
  have hrel0 : Rel b0 top p := hrel.congr rfl rfl
  refine ⟨b0.add top (.ev (.text (escBrackets s))), ?_, ?_⟩
  · simp [MNode.flatten, mbAppendList_single, mbAppend, hst, b0, pure, Except.pure]
  · refine { stack := by simp [b0], order := by simp [b0, sizeM, MNode.size], depth := by simp [b0],
             str := by simp [b0, fmtM, MNode.fmt], params := by simpa [b0, MNode.names] using hpar,
             subKeep := fun k _ => by simp [b0], values := by simp [b0, valsM, MNode.vals],
             rel := by simpa [pvFeed] using hrel0.add_top _, inv := ?_, below := ?_, elems := ?_, prev := ?_ }
    · refine ⟨fun k hk => ?_, fun k hk => ?_, fun k hk => ?_, by simpa [b0] using hinv.depthPos⟩
      · have hkt : k ≠ top := by simp only [add_order, b0] at hk; omega
        rw [add_events_other _ _ _ _ hkt]; exact hinv.fresh k (by simpa [b0] using hk)
      · simp only [add_subdirs, b0]; exact hinv.freshSub k (by simpa [b0] using hk)
      · rw [add_prev] at hk; cases hk; simpa [b0] using hlt
    · intro k hk _; rw [add_events_other _ _ _ _ hk]
    · intro k t a c kd h; simp [infoM, MNode.info] at h
    · right; left; exact add_prev _ _ _

theorem append_expr (name : Str) (i : Nat) (cm : List CodeMsg) (b : MB) (top : Nat) (st : List Nat) (p : PV)
    (rest : List Str) (hst : b.stack = top :: st) (hlt : top < b.order) (hpar : b.params = name :: rest)
    (hrel : Rel b top p) (hinv : Inv b) :
    ∃ b', mbAppendList b (MNode.expr name i cm).flatten = .ok b' ∧ Post b b' top p [.expr name i cm] rest := by
  let b0 : MB := { b with params := rest, str := b.str ++ ('%' :: '(' :: name ++ [')', 's']),
                          values := (name, .expr i cm) :: b.values }
  have hrel0 : Rel b0 top p := hrel.congr rfl rfl
  refine ⟨b0.add top (.ev (.expr i cm)), ?_, ?_⟩
  · simp [MNode.flatten, mbAppendList_single, mbAppend, hst, hpar, b0, pure, Except.pure]
  · refine { stack := by simp [b0], order := by simp [b0, sizeM, MNode.size], depth := by simp [b0],
             str := by simp [b0, fmtM, MNode.fmt], params := by simp [b0],
             subKeep := fun k _ => by simp [b0], values := by simp [b0, valsM, MNode.vals],
             rel := by simpa [pvFeed] using hrel0.add_top _, inv := ?_, below := ?_, elems := ?_, prev := ?_ }
    · refine ⟨fun k hk => ?_, fun k hk => ?_, fun k hk => ?_, by simpa [b0] using hinv.depthPos⟩
      · have hkt : k ≠ top := by simp only [add_order, b0] at hk; omega
        rw [add_events_other _ _ _ _ hkt]; exact hinv.fresh k (by simpa [b0] using hk)
      · simp only [add_subdirs, b0]; exact hinv.freshSub k (by simpa [b0] using hk)
      · rw [add_prev] at hk; cases hk; simpa [b0] using hlt
    · intro k hk _; rw [add_events_other _ _ _ _ hk]
    · intro k t a c kd h; simp [infoM, MNode.info] at h
    · right; left; exact add_prev _ _ _

theorem append_elem (sd : Option (List Dir)) (t : QName) (a : TAttrs) (ks : List MNode) (b : MB) (top : Nat)
    (st : List Nat) (p : PV) (rest : List Str)
    (hst : b.stack = top :: st) (hlt : top < b.order) (hpar : b.params = namesM ks ++ rest) (hrel : Rel b top p)
    (hinv : Inv b) (hna : noAdjF false ks = true)
    (ih : ∀ (b1 : MB) (top1 : Nat) (st1 : List Nat) (p1 : PV) (rest1 : List Str), b1.stack = top1 :: st1 →
      top1 < b1.order → b1.params = namesM ks ++ rest1 → Rel b1 top1 p1 → Inv b1 →
      ∃ b2, mbAppendList b1 (flattenM ks) = .ok b2 ∧ Post b1 b2 top1 p1 ks rest1) :
    ∃ b', mbAppendList b (MNode.elem sd t a ks).flatten = .ok b' ∧ Post b b' top p [.elem sd t a ks] rest := by
  let o := b.order
  -- what comes in front of START: nothing, or SUB_START (the directives go to `subdirs`, under the element's number)
  let pre : List MEv := match sd with | none => [] | some _ => [.subStart]
  let bs : MB := match sd with
    | none => b
    | some ds => ({ b with subdirs := extendAssoc b.subdirs o ds } : MB).add o .subStart
  have hbs_fields : bs.stack = b.stack ∧ bs.order = b.order ∧ bs.depth = b.depth ∧ bs.str = b.str ∧
      bs.params = b.params ∧ bs.values = b.values := by
    cases sd <;> simp [bs]
  have hbs_ev : ∀ k, k ≠ o → bs.events k = b.events k := fun k hk => by
    cases sd with
    | none => rfl
    | some ds => simp only [bs]; rw [add_events_other _ _ _ _ hk]
  have hnp : b.prevOrder ≠ some o := fun h => Nat.lt_irrefl _ (hinv.prevLt o h)
  have hrels : Rel bs o ⟨[], match sd with | none => none | some _ => some [.subStart]⟩ := by
    cases sd with
    | none => exact ⟨by simp [bs, hinv.fresh o (Nat.le_refl _), PV.groups], by simpa [bs] using hnp⟩
    | some ds =>
      obtain ⟨h1, h2⟩ := add_events_new ({ b with subdirs := extendAssoc b.subdirs o ds } : MB) o .subStart hnp
      exact ⟨by simp only [bs]; rw [h1]; simp [hinv.fresh o (Nat.le_refl _), PV.groups], by simp [bs, h2]⟩
  have hbs_sub : ∀ k, assocGet bs.subdirs k = match sd with
      | none => assocGet b.subdirs k
      | some ds => if k = o then some ds else assocGet b.subdirs k := fun k => by
    cases sd with
    | none => rfl
    | some ds =>
      simp only [bs, add_subdirs]
      by_cases hk : k = o
      · subst hk
        simp only [↓reduceIte]
        exact assocGet_extend_same _ _ _ (hinv.freshSub _ (Nat.le_refl _))
      · simp [hk, assocGet_extend_other _ _ _ _ hk]
  let b0 : MB := { bs with str := bs.str ++ ('[' :: natStr o ++ [':']), stack := o :: bs.stack,
                           depth := bs.depth + 1, order := o + 1 }
  let b1 : MB := b0.add o (.ev (.start t a))
  have hstart : mbAppend bs (.start t a) = .ok b1 := by
    simp [mbAppend, b1, b0, o, hbs_fields.2.1, pure, Except.pure]
  have hrel1 : Rel b1 o ⟨[], some (pre ++ [.ev (.start t a)])⟩ := by
    have := (hrels.congr (b' := b0) rfl rfl).add_top (.ev (.start t a))
    cases sd <;> exact this
  have hinv1 : Inv b1 := by
    refine ⟨fun k hk => ?_, fun k hk => ?_, fun k hk => ?_, ?_⟩
    · have hko : k ≠ o := by simp only [b1, add_order, b0] at hk; omega
      simp only [b1]; rw [add_events_other _ _ _ _ hko]
      simp only [b0]; rw [hbs_ev k hko]
      exact hinv.fresh k (by simp only [b1, add_order, b0] at hk; omega)
    · simp only [b1, add_subdirs, b0]
      rw [hbs_sub k]
      have hko : k ≠ o := by simp only [b1, add_order, b0] at hk; omega
      have hfr := hinv.freshSub k (by simp only [b1, add_order, b0] at hk; omega)
      cases sd <;> simp [hko, hfr]
    · simp only [b1, add_prev] at hk; cases hk; simp [b1, b0]
    · have := hinv.depthPos; simp only [b1, add_depth, b0, hbs_fields.2.2.1]; omega
  obtain ⟨b2, hrun2, post2⟩ := ih b1 o (top :: st) ⟨[], some (pre ++ [.ev (.start t a)])⟩ rest
    (by simp [b1, b0, hbs_fields.1, hst]) (by simp [b1, b0]) (by simpa [b1, b0, hbs_fields.2.2.2.2.1] using hpar)
    hrel1 hinv1
  have hd2 : b2.depth = b.depth + 1 := by rw [post2.depth]; simp [b1, b0, hbs_fields.2.2.1]
  have hst2 : b2.stack = o :: top :: st := by rw [post2.stack]; simp [b1, b0, hbs_fields.1, hst]
  let b2' : MB := { b2 with depth := b2.depth - 1, str := b2.str ++ [']'], stack := top :: st }
  let b3 : MB := b2'.add o (.ev (.end_ t))
  have hend : mbAppend b2 (.end_ t) = .ok b3 := by
    have hne : ¬ (b2.depth - 1 = 0) := by have := hinv.depthPos; omega
    simp [mbAppend, hne, hst2, b3, b2', pure, Except.pure]
  have hrel3 : Rel b3 o ((pvFeed ⟨[], some (pre ++ [.ev (.start t a)])⟩ ks).addEv (.ev (.end_ t))) :=
    (post2.rel.congr (b' := b2') rfl rfl).add_top _
  let b4 : MB := match sd with | none => b3 | some _ => b3.add o .subEnd
  have hb4_fields : b4.stack = b3.stack ∧ b4.order = b3.order ∧ b4.depth = b3.depth ∧ b4.str = b3.str ∧
      b4.params = b3.params ∧ b4.values = b3.values ∧ b4.subdirs = b3.subdirs ∧ b4.prevOrder = some o := by
    cases sd <;> simp [b4, b3, add_prev]
  have hb4_ev : ∀ k, k ≠ o → b4.events k = b2.events k := fun k hk => by
    cases sd with
    | none => simp only [b4, b3]; rw [add_events_other _ _ _ _ hk]
    | some ds => simp only [b4, b3]; rw [add_events_other _ _ _ _ hk, add_events_other _ _ _ _ hk]
  have hev4 : b4.events o = some (wrapK sd (elemGroups t a ks)) := by
    cases sd with
    | none =>
      have := add_events_is_some b2' o (.ev (.end_ t))
      simp only [b4, b3]
      rw [this]
      have hg := hrel3.groups
      simp only [b3] at hg
      rw [hg]; rfl
    | some ds =>
      have hrel4 := hrel3.add_top .subEnd
      have := add_events_is_some b3 o .subEnd
      simp only [b4]
      rw [this, hrel4.groups]
      have := subGroups_eq ds t a ks
      simp only [subGroups] at this
      simp only [pre, List.cons_append, List.nil_append]
      rw [this]
  have hoth1 : ∀ k, k ≠ o → b1.events k = b.events k := fun k hk => by
    simp only [b1]; rw [add_events_other _ _ _ _ hk]; simp only [b0]; exact hbs_ev k hk
  have hto : top ≠ o := by simp only [o]; omega
  have hrun : mbAppendList b (MNode.elem sd t a ks).flatten = .ok b4 := by
    have hcore : mbAppendList bs (.start t a :: (flattenM ks ++ [.end_ t])) = .ok b3 := by
      rw [show (TEvent.start t a :: (flattenM ks ++ [.end_ t])) = [.start t a] ++ (flattenM ks ++ [.end_ t]) from rfl]
      rw [mbAppendList_append, mbAppendList_single, hstart]
      simp only [Except.bind]
      rw [mbAppendList_append, hrun2]
      simp only [Except.bind]
      rw [mbAppendList_single, hend]
    cases sd with
    | none => simpa [MNode.flatten, bs, b4] using hcore
    | some ds =>
      simp only [MNode.flatten, mbAppendList_single, mbAppend, bind, Except.bind]
      simp only [bs] at hcore
      rw [hcore]
      simp only [b4, pure, Except.pure]
      rfl
  refine ⟨b4, hrun, ?_⟩
  refine { stack := by rw [hb4_fields.1]; simp [b3, b2', hst], order := ?_, depth := ?_, str := ?_, params := ?_,
           subKeep := ?_, values := ?_, rel := ?_, inv := ?_, below := ?_, elems := ?_, prev := ?_ }
  · rw [hb4_fields.2.1]; simp only [b3, add_order, b2']; rw [post2.order]; simp [b1, b0, o, sizeM, MNode.size]; omega
  · rw [hb4_fields.2.2.1]; simp only [b3, add_depth, b2']; rw [hd2]; omega
  · rw [hb4_fields.2.2.2.1]; simp only [b3, add_str, b2']; rw [post2.str]
    simp [b1, b0, o, hbs_fields.2.2.2.1, fmtM, MNode.fmt, List.append_assoc]
  · rw [hb4_fields.2.2.2.2.1]; simp only [b3, add_params, b2']; exact post2.params
  · intro k hk
    rw [hb4_fields.2.2.2.2.2.2.1]
    simp only [b3, add_subdirs, b2']
    rw [post2.subKeep k (by simp [b1, b0, o]; omega)]
    simp only [b1, add_subdirs, b0]
    rw [hbs_sub k]
    have hko : k ≠ o := by simp only [o]; omega
    cases sd <;> simp [hko]
  · rw [hb4_fields.2.2.2.2.2.1]; simp only [b3, add_values, b2']; rw [post2.values]
    simp [b1, b0, hbs_fields.2.2.2.2.2, valsM, MNode.vals]
  · refine ⟨?_, ?_⟩
    · rw [hb4_ev top hto, post2.below top hto (by simp [b1, b0, o]; omega), hoth1 top hto, hrel.groups]
      simp [pvFeed, PV.close_groups]
    · rw [hb4_fields.2.2.2.2.2.2.2]
      simp only [pvFeed, PV.close_cur]
      simp [Ne.symm hto]
  · refine ⟨fun k hk => ?_, fun k hk => ?_, fun k hk => ?_, ?_⟩
    · have hk' : b2.order ≤ k := by rw [hb4_fields.2.1] at hk; simpa [b3, b2'] using hk
      have hko : k ≠ o := by rw [post2.order] at hk'; simp [b1, b0] at hk'; omega
      rw [hb4_ev k hko]; exact post2.inv.fresh k hk'
    · have hk' : b2.order ≤ k := by rw [hb4_fields.2.1] at hk; simpa [b3, b2'] using hk
      rw [hb4_fields.2.2.2.2.2.2.1]; simp only [b3, add_subdirs, b2']
      exact post2.inv.freshSub k hk'
    · rw [hb4_fields.2.2.2.2.2.2.2] at hk; cases hk
      rw [hb4_fields.2.1]; simp only [b3, add_order, b2']; rw [post2.order]; simp [b1, b0, o]; omega
    · rw [hb4_fields.2.2.1]; simp only [b3, add_depth, b2']; rw [hd2]; have := hinv.depthPos; omega
  · intro k hk hko
    have hko' : k ≠ o := by simp only [o]; omega
    rw [hb4_ev k hko', post2.below k hko' (by simp [b1, b0, o]; omega), hoth1 k hko']
  · intro k t' a' c kd h
    simp only [infoM, MNode.info] at h
    by_cases hk : k = b.order
    · simp only [hk, ↓reduceIte] at h
      cases h
      refine ⟨wrapK sd (elemGroups t a ks), by rw [hk]; exact hev4,
        ⟨elemGroups t a ks, elemGroups_good t a ks hna, rfl⟩, fun ds hds => ?_⟩
      subst hds
      rw [hb4_fields.2.2.2.2.2.2.1]; simp only [b3, add_subdirs, b2']
      rw [hk, post2.subKeep b.order (by simp [b1, b0, o])]
      simp only [b1, add_subdirs, b0]
      rw [hbs_sub b.order]
      simp [o]
    · simp only [hk, ↓reduceIte] at h
      have hinfo : infoM (b.order + 1) ks k = some (t', a', c, kd) := by
        cases hi : infoM (b.order + 1) ks k with
        | some x => simpa [hi] using h
        | none => simp [hi] at h
      have hr := infoM_range (b.order + 1) ks k _ hinfo
      obtain ⟨gs, hgs, hgood, hsd⟩ := post2.elems k t' a' c kd (by simpa [b1, b0, o] using hinfo)
      refine ⟨gs, by rw [hb4_ev k (by simp only [o]; omega)]; exact hgs, hgood, fun ds hds => ?_⟩
      rw [hb4_fields.2.2.2.2.2.2.1]; simp only [b3, add_subdirs, b2']
      exact hsd ds hds
  · right; right; exact ⟨o, Nat.le_refl _, hb4_fields.2.2.2.2.2.2.2⟩

theorem append_cons (n : MNode) (ns : List MNode) (b : MB) (top : Nat) (st : List Nat) (p : PV) (rest : List Str)
    (hst : b.stack = top :: st) (hlt : top < b.order)
    (h1 : ∃ b1, mbAppendList b n.flatten = .ok b1 ∧ Post b b1 top p [n] (namesM ns ++ rest))
    (ih : ∀ (b1 : MB) (p1 : PV), b1.stack = top :: st → top < b1.order → b1.params = namesM ns ++ rest →
      Rel b1 top p1 → Inv b1 → ∃ b2, mbAppendList b1 (flattenM ns) = .ok b2 ∧ Post b1 b2 top p1 ns rest) :
    ∃ b2, mbAppendList b (flattenM (n :: ns)) = .ok b2 ∧ Post b b2 top p (n :: ns) rest := by
  obtain ⟨b1, hrun1, post1⟩ := h1
  have ho1 : b1.order = b.order + n.size := by rw [post1.order]; simp [sizeM]
  obtain ⟨b2, hrun2, post2⟩ := ih b1 (pvFeed p [n]) (by rw [post1.stack, hst]) (by rw [ho1]; omega) post1.params
    post1.rel post1.inv
  refine ⟨b2, ?_, Post.cons hlt post1 post2⟩
  simp only [flattenM]; rw [mbAppendList_append, hrun1]; simp only [Except.bind]; exact hrun2

theorem append_nodes : ∀ (ns : List MNode) (b : MB) (top : Nat) (st : List Nat) (p : PV) (rest : List Str),
      b.stack = top :: st → top < b.order → b.params = namesM ns ++ rest → Rel b top p → Inv b →
      deepNoAdjM ns = true →
      ∃ b', mbAppendList b (flattenM ns) = .ok b' ∧ Post b b' top p ns rest := by
  intro ns
  induction ns using forest_induction with
  | nil =>
    intro b top st p rest _ _ hpar hrel hinv _
    refine ⟨b, by simp [flattenM, mbAppendList, pure, Except.pure], ?_⟩
    exact { stack := rfl, order := by simp [sizeM], depth := rfl, str := by simp [fmtM],
            params := by simpa [namesM] using hpar, subKeep := fun _ _ => rfl, values := by simp [valsM],
            rel := by simpa [pvFeed] using hrel, inv := hinv, below := fun _ _ _ => rfl,
            elems := fun k t a c kd h => by simp [infoM] at h, prev := Or.inl rfl }
  | text s ns ih =>
    intro b top st p rest hst hlt hpar hrel hinv hna
    exact append_cons _ ns b top st p rest hst hlt
      (append_text s b top st p _ hst hlt (by simpa [namesM, MNode.names] using hpar) hrel hinv)
      fun b1 p1 h1 h2 h3 h4 h5 => ih b1 top st p1 rest h1 h2 h3 h4 h5 (by simpa [deepNoAdjM, MNode.deepNoAdj] using hna)
  | expr name i cm ns ih =>
    intro b top st p rest hst hlt hpar hrel hinv hna
    exact append_cons _ ns b top st p rest hst hlt
      (append_expr name i cm b top st p _ hst hlt (by simpa [namesM, MNode.names] using hpar) hrel hinv)
      fun b1 p1 h1 h2 h3 h4 h5 => ih b1 top st p1 rest h1 h2 h3 h4 h5 (by simpa [deepNoAdjM, MNode.deepNoAdj] using hna)
  | elem sd t a ks ns ihk ih =>
    intro b top st p rest hst hlt hpar hrel hinv hna
    simp only [deepNoAdjM, MNode.deepNoAdj, Bool.and_eq_true] at hna
    exact append_cons _ ns b top st p rest hst hlt
      (append_elem sd t a ks b top st p _ hst hlt (by simpa [namesM, MNode.names, List.append_assoc] using hpar) hrel hinv
        hna.1.1 fun b1 top1 st1 p1 rest1 h1 h2 h3 h4 h5 => ihk b1 top1 st1 p1 rest1 h1 h2 h3 h4 h5 hna.1.2)
      fun b1 p1 h1 h2 h3 h4 h5 => ih b1 top st p1 rest h1 h2 h3 h4 h5 hna.2

theorem append_node : ∀ (n : MNode) (b : MB) (top : Nat) (st : List Nat) (p : PV) (rest : List Str),
      b.stack = top :: st → top < b.order → b.params = n.names ++ rest → Rel b top p → Inv b →
      n.deepNoAdj = true →
      ∃ b', mbAppendList b n.flatten = .ok b' ∧ Post b b' top p [n] rest := by
  intro n b top st p rest hst hlt hpar hrel hinv hna
  simpa [flattenM] using append_nodes [n] b top st p rest hst hlt (by simpa [namesM] using hpar) hrel hinv
    (by simpa [deepNoAdjM] using hna)

end Genshi.I18n
