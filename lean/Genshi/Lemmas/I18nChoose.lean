/-
  C19 — the render side of `i18n:choose` (`ChooseDirective.__call__`) on
  `pre <singular branch> mid <plural branch> post`: what its two loops and `ChooseBranchDirective.__call__` do.
-/
import Genshi.Lemmas.I18nAppend
import Genshi.Model.I18nChoose
namespace Genshi.I18n
open Genshi

theorem choosePass1_cons (params : List Str) (pl : Bool) (e : TEvent) (es : List TEvent) (st : ChooseState)
    (he : isBranchSub e = false) :
    choosePass1 params pl (e :: es) st = choosePass1 params pl es { st with newStream := st.newStream ++ [some e] } := by
  cases e with
  | sub dirs body => simp only [isBranchSub] at he; simp only [choosePass1, he, Bool.false_eq_true, ↓reduceIte]
  | _ => simp only [choosePass1]

theorem choosePass1_plain (params : List Str) (pl : Bool) : ∀ (evs rest : List TEvent) (st : ChooseState),
    (∀ e ∈ evs, isBranchSub e = false) →
    choosePass1 params pl (evs ++ rest) st =
      choosePass1 params pl rest { st with newStream := st.newStream ++ evs.map some }
  | [], rest, st, _ => by simp
  | e :: evs, rest, st, h => by
      rw [List.cons_append, choosePass1_cons params pl e _ st (h e (by simp)),
        choosePass1_plain params pl evs rest _ fun x hx => h x (by simp [hx])]
      simp [List.append_assoc]

theorem choosePass2_plain (c : Except Err (List TEvent)) : ∀ (evs : List TEvent) (rest : List (Option TEvent)),
    choosePass2 c (evs.map some ++ rest) = (choosePass2 c rest).map (evs ++ ·)
  | [], rest => by cases h : choosePass2 c rest <;> simp [Except.map, h]
  | e :: evs, rest => by
      simp only [List.map_cons, List.cons_append, choosePass2, bind, Except.bind]
      rw [choosePass2_plain c evs rest]
      cases h : choosePass2 c rest <;> simp [Except.map, pure, Except.pure]

theorem branchCall_elem (params : List Str) (t t' : QName) (a : TAttrs) (evs : List TEvent) (b : MB)
    (h : mbAppendList (MB.new params) evs = .ok b) :
    ∃ bevs, branchCall params (.start t a :: (evs ++ [.end_ t'])) = .ok (bevs, b) ∧
      ∀ tr, emitChoice tr bevs = tr.map (fun x => .start t a :: (x ++ [.end_ t'])) := by
  refine ⟨[.ev (.start t a), .msgbuf, .ev (.end_ t')], ?_, ?_⟩
  · obtain ⟨hb, he⟩ := msgBody_attr t a evs (.end_ t') rfl
    simp [branchCall, msgBuffer_eq, hb, he, h, bind, Except.bind, Except.map, pure, Except.pure]
  · intro tr
    cases tr <;> simp [emitChoice, bind, Except.bind, pure, Except.pure, Except.map]

/-- the first loop of `ChooseDirective.__call__` over `pre <singular branch> mid <plural branch> post` -/
theorem choosePass1_shape (params : List Str) (pl : Bool) (pre mid post bodyS bodyP : List TEvent) (st : ChooseState)
    (rS rP : List BEvent × MB)
    (hpre : ∀ e ∈ pre, isBranchSub e = false) (hmid : ∀ e ∈ mid, isBranchSub e = false)
    (hpost : ∀ e ∈ post, isBranchSub e = false)
    (hS : branchCall params bodyS = .ok rS) (hP : branchCall params bodyP = .ok rP) :
    choosePass1 params pl (pre ++ .sub [.singular] bodyS :: (mid ++ .sub [.plural] bodyP :: post)) st =
      some (.ok ⟨st.newStream ++ (pre.map some ++ none :: (mid ++ post).map some), some rS,
        if pl then some rP else st.plur⟩) := by
  rw [choosePass1_plain params pl pre _ _ hpre]
  simp only [choosePass1, List.any_cons, Dir.isBranch, List.any_nil, Bool.or_false, ↓reduceIte, hS]
  rw [choosePass1_plain params pl mid _ _ hmid]
  have hp := fun st' => choosePass1_plain params pl post [] st' hpost
  simp only [List.append_nil] at hp
  cases pl <;>
    simp [choosePass1, Dir.isBranch, hP, hp, pure, Except.pure, List.append_assoc]

theorem choosePass2_shape (c : Except Err (List TEvent)) (pre post : List TEvent) :
    choosePass2 c (pre.map some ++ none :: post.map some) = c.map fun x => pre ++ (x ++ post) := by
  have h := choosePass2_plain c post []
  rw [List.append_nil] at h
  rw [choosePass2_plain]
  cases c <;> simp [choosePass2, h, bind, Except.bind, Except.map, pure, Except.pure]

/-- **`ChooseDirective.__call__` over `pre <ts i18n:singular>cS</ts> mid <tp i18n:plural>cP</tp> post`**, given the
    buffers of the two branch contents: the buffer of the selected branch translates what `ngettext` answers for the two
    message strings (the empty string stands for the plural one when the singular form is selected), and that branch
    takes the place of the singular one; everything else passes -/
theorem chooseCall_shape (params : List Str) (pl : Bool) (ngt : Str → Str → Str) (pre mid post cS cP : List TEvent)
    (ts ts' tp tp' : QName) (as ap : TAttrs)
    (hpre : ∀ e ∈ pre, isBranchSub e = false) (hmid : ∀ e ∈ mid, isBranchSub e = false)
    (hpost : ∀ e ∈ post, isBranchSub e = false)
    (C D : MB) (hC : mbAppendList (MB.new params) cS = .ok C) (hD : mbAppendList (MB.new params) cP = .ok D) :
    chooseCall params pl ngt (pre ++ .sub [.singular] (.start ts as :: (cS ++ [.end_ ts'])) ::
        (mid ++ .sub [.plural] (.start tp ap :: (cP ++ [.end_ tp'])) :: post)) =
      some ((if pl then (D.translate (ngt C.format D.format)).map fun x => .start tp ap :: (x ++ [.end_ tp'])
             else (C.translate (ngt C.format (MB.new params).format)).map fun x => .start ts as :: (x ++ [.end_ ts'])).map
        fun x => pre ++ (x ++ (mid ++ post))) := by
  obtain ⟨evS, hcallS, hemS⟩ := branchCall_elem params ts ts' as cS C hC
  obtain ⟨evP, hcallP, hemP⟩ := branchCall_elem params tp tp' ap cP D hD
  unfold chooseCall
  rw [choosePass1_shape params pl pre mid post _ _ _ _ _ hpre hmid hpost hcallS hcallP]
  cases pl <;> simp only [List.nil_append, Bool.false_eq_true, ↓reduceIte, hemS, hemP, choosePass2_shape]

end Genshi.I18n
