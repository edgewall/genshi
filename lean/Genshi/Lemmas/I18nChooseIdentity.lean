/-
  C19 — `i18n:choose` under a catalogue that answers with the selected form unchanged: the
  chosen branch comes out with its content unchanged up to the white space at its edges.
-/
import Genshi.Lemmas.I18nTrim
import Genshi.Lemmas.I18nChoose
namespace Genshi.I18n
open Genshi

/-- **identity_transparent for i18n:choose.**  `ChooseDirective.__call__` over
    `pre  <ts i18n:singular>Fs</ts>  mid  <tp i18n:plural>Fp</tp>  post` with a catalogue that
    answers with the selected message unchanged: the chosen branch takes the place of the
    singular one, its content unchanged up to the white space at its edges; everything else
    passes. -/
theorem chooseCall_identity (pre mid post : List TEvent) (ts tp : QName) (as ap : TAttrs)
    (Fs Fp : List MNode) (es ep : List Str) (params : List Str) (isPlural : Bool)
    (hpre : ∀ e ∈ pre, isBranchSub e = false) (hmid : ∀ e ∈ mid, isBranchSub e = false)
    (hpost : ∀ e ∈ post, isBranchSub e = false)
    (hps : params = namesM Fs ++ es) (hpp : params = namesM Fp ++ ep)
    (hcs : cleanM Fs = true) (hnas : deepNoAdjM Fs = true) (hnds : (namesM Fs).Nodup)
    (hcp : cleanM Fp = true) (hnap : deepNoAdjM Fp = true) (hndp : (namesM Fp).Nodup)
    (hsos : subsOKM false Fs = true) (hsop : subsOKM false Fp = true) :
    chooseCall params isPlural (fun s p => if isPlural then p else s)
        (pre ++ .sub [.singular] (.start ts as :: (flattenM Fs ++ [.end_ ts])) ::
          (mid ++ .sub [.plural] (.start tp ap :: (flattenM Fp ++ [.end_ tp])) :: post)) =
      some (.ok (pre ++ ((if isPlural then .start tp ap :: (coalesce (flattenM (trimF Fp)) ++ [.end_ tp])
                          else .start ts as :: (coalesce (flattenM (trimF Fs)) ++ [.end_ ts])) ++ (mid ++ post)))) := by
  obtain ⟨bS, hbS, htrS⟩ := translate_format_self Fs es hcs hnas hnds hsos
  obtain ⟨bP, hbP, htrP⟩ := translate_format_self Fp ep hcp hnap hndp hsop
  rw [← hps] at hbS
  rw [← hpp] at hbP
  rw [chooseCall_shape params isPlural _ pre mid post _ _ ts ts tp tp as ap hpre hmid hpost bS bP hbS hbP]
  cases isPlural <;> simp only [Bool.false_eq_true, ↓reduceIte, htrS, htrP, Except.map]

end Genshi.I18n
