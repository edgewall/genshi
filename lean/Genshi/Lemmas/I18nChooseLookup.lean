/-
  C19 — the pair of message ids `ChooseDirective.__call__` hands to `ngettext` is the pair
  `ChooseDirective.extract` reports, for a choose element whose content outside the two
  branches is white space (else: finding C19-choose-outer-text).

  `extract` files the outer events and the branch content into one buffer per form;
  `__call__` gives every branch a buffer of its own.  The two agree up to a white-space prefix
  and suffix of the message string, which `format()` strips.
-/
import Genshi.Lemmas.I18nChoose
import Genshi.Lemmas.I18nMsgLookup
import Genshi.Lemmas.I18nYield
import Genshi.Lemmas.StrStrip
namespace Genshi.I18n
open Genshi Genshi.Str

/-- white-space text, comments / processing instructions, code blocks -/
def outerEv : TEvent → Bool
  | .text s => s.all isSpace
  | .other _ => true
  | .exec _ => true
  | _ => false

theorem ctl_stack {b c : MB} (h : c.ctl = b.ctl) : c.stack = b.stack := by
  simp only [MB.ctl, Prod.mk.injEq] at h; exact h.2.2.2

/-- an event outside the branches appends white space at most, and raises only on an empty stack -/
theorem mbAppend_outer (b : MB) (e : TEvent) (he : outerEv e = true) :
    (b.stack ≠ [] → ∃ c, mbAppend b e = .ok c) ∧
    ∀ c, mbAppend b e = .ok c → c.ctl = b.ctl ∧ ∃ w : Str, w.all isSpace = true ∧ c.str = b.str ++ w := by
  cases e with
  | text s =>
    simp only [outerEv] at he
    simp only [mbAppend]
    cases hst : b.stack with
    | nil => exact ⟨fun h => absurd rfl h, fun c h => nomatch h⟩
    | cons top rest =>
      refine ⟨fun _ => ⟨_, rfl⟩, fun c h => ?_⟩
      obtain rfl := Except.ok.inj h
      rw [add_ctl, add_str]
      exact ⟨by simp [MB.ctl, hst], s, he, by simp [escBrackets_space s he]⟩
  | other _ | exec _ =>
    refine ⟨fun _ => ⟨b, rfl⟩, fun c h => ?_⟩
    obtain rfl := Except.ok.inj h
    exact ⟨rfl, [], rfl, by simp⟩
  | start _ _ | end_ _ | expr _ _ | sub _ _ => simp [outerEv] at he

theorem mbAppendList_outer : ∀ (evs : List TEvent) (b : MB), (∀ e ∈ evs, outerEv e = true) →
    (b.stack ≠ [] → ∃ c, mbAppendList b evs = .ok c) ∧
    ∀ c, mbAppendList b evs = .ok c → c.ctl = b.ctl ∧ ∃ w : Str, w.all isSpace = true ∧ c.str = b.str ++ w
  | [], b, _ => ⟨fun _ => ⟨b, rfl⟩, fun c h => by obtain rfl := Except.ok.inj h; exact ⟨rfl, [], rfl, by simp⟩⟩
  | e :: es, b, ho => by
      obtain ⟨hok, hinfo⟩ := mbAppend_outer b e (ho e (List.mem_cons_self ..))
      have ih := fun b1 => mbAppendList_outer es b1 fun x hx => ho x (List.mem_cons_of_mem _ hx)
      simp only [mbAppendList, bind]
      refine ⟨fun hs => ?_, fun c h => ?_⟩
      · obtain ⟨b1, h1⟩ := hok hs
        rw [h1]
        exact (ih b1).1 (by rw [ctl_stack (hinfo b1 h1).1]; exact hs)
      · cases h1 : mbAppend b e with
        | error err => rw [h1] at h; cases h
        | ok b1 =>
          rw [h1] at h
          obtain ⟨hc1, w1, hw1, hs1⟩ := hinfo b1 h1
          obtain ⟨hc2, w2, hw2, hs2⟩ := (ih b1).2 c h
          exact ⟨hc2.trans hc1, w1 ++ w2, by simp [hw1, hw2], by simp [hs2, hs1, List.append_assoc]⟩

theorem strip_pad (w1 s w2 : Str) (h1 : w1.all isSpace = true) (h2 : w2.all isSpace = true) :
    strip (w1 ++ (s ++ w2)) = strip s := by
  unfold strip Str.stripBy
  rw [lstripBy_append, if_pos h1]
  by_cases hs : s.all isSpace = true
  · rw [lstripBy_append, if_pos hs, lstripBy_all _ _ h2, lstripBy_all _ _ hs]
  · rw [lstripBy_append, if_neg hs, rstripBy_append, if_pos h2]

/-- `ChooseBranchDirective.extract` on `<t i18n:singular="">c</t>`: the content goes into the
    given buffer -/
theorem branchExtract_elem (cfg : Cfg) (st : Bool) (b : MB) (t t' : QName) (a : TAttrs) (c : List TEvent) :
    branchExtract cfg st b (.start t a :: (c ++ [.end_ t'])) =
      (mbAppendList b c).map fun b' => (extractAttrs cfg st a ++ c.flatMap (evMessages cfg st), b') := by
  simp only [branchExtract, TEvent.isStart, ↓reduceIte, List.getLast?_append, List.getLast?_singleton, Option.some_or,
    List.dropLast_concat, TEvent.isEnd, appendAll_eq, bind]
  cases mbAppendList b c <;> simp [Except.map, Except.bind, pure, Except.pure, startAttrs, exprCode]

theorem chooseStep_outer (cfg : Cfg) (st : Bool) (sb pb : MB) (e : TEvent) (he : outerEv e = true) :
    chooseStep cfg st sb pb e = (mbAppend sb e).bind fun sb' => (mbAppend pb e).bind fun pb' => .ok ([], sb', pb') := by
  cases e with
  | text _ | other _ | exec _ => rfl
  | start _ _ | end_ _ | expr _ _ | sub _ _ => simp [outerEv] at he

/-- a branch `<t i18n:singular="">c</t>` / `<t i18n:plural="">c</t>` feeds the buffer of its form only -/
theorem chooseStep_branch (cfg : Cfg) (st : Bool) (sb pb : MB) (d : Dir) (hd : d = .singular ∨ d = .plural)
    (t t' : QName) (a : TAttrs) (c : List TEvent) :
    chooseStep cfg st sb pb (.sub [d] (.start t a :: (c ++ [.end_ t']))) =
      (mbAppendList (if d = .singular then sb else pb) c).map fun b' =>
        (extractAttrs cfg st a ++ c.flatMap (evMessages cfg st),
          if d = .singular then b' else sb, if d = .singular then pb else b') := by
  rcases hd with rfl | rfl <;>
    simp only [chooseStep, chooseStep.loop, branchExtract_elem, bind, ↓reduceIte, reduceCtorEq] <;>
    cases mbAppendList _ c <;> simp [Except.map, Except.bind, pure, Except.pure]

/-- an event between the tags of a choose element: outside the branches, or a branch -/
def ChooseInner (e : TEvent) : Prop :=
  outerEv e = true ∨ ∃ (d : Dir) (t t' : QName) (a : TAttrs) (c : List TEvent), (d = .singular ∨ d = .plural) ∧
    e = .sub [d] (.start t a :: (c ++ [.end_ t']))

/-- what the buffer of the form `d` receives from such an event: the content of its own branch,
    nothing of the other branch, everything else -/
def seenEv (d : Dir) : TEvent → List TEvent
  | .sub [d'] (_ :: rest) => if d' = d then rest.dropLast else []
  | e => [e]

/-- what `ChooseDirective.extract` reports for such an event besides the plural message -/
def chooseEvMsgs (cfg : Cfg) (st : Bool) : TEvent → List Message
  | .sub _ (.start _ a :: rest) => extractAttrs cfg st a ++ rest.dropLast.flatMap (evMessages cfg st)
  | _ => []

theorem seenEv_outer (d : Dir) (e : TEvent) (he : outerEv e = true) : seenEv d e = [e] := by
  cases e <;> first | rfl | simp [outerEv] at he

theorem flatMap_seenEv_outer (d : Dir) : ∀ (evs : List TEvent), (∀ e ∈ evs, outerEv e = true) → evs.flatMap (seenEv d) = evs
  | [], _ => rfl
  | e :: es, h => by
      rw [List.flatMap_cons, seenEv_outer d e (h e (List.mem_cons_self ..)),
        flatMap_seenEv_outer d es fun x hx => h x (List.mem_cons_of_mem _ hx)]; rfl

theorem toOption_bind {ε α β} (x : Except ε α) (f : α → Except ε β) :
    (x.bind f).toOption = x.toOption.bind fun a => (f a).toOption := by cases x <;> rfl

theorem toOption_ok {ε α} (a : α) : (Except.ok a : Except ε α).toOption = some a := rfl

theorem toOption_error {ε α} (e : ε) : (Except.error e : Except ε α).toOption = none := rfl

/-- **the loop of `ChooseDirective.extract` is two independent buffer runs**: the singular and
    the plural buffer each receive the events outside the branches and the content of their own
    branch (`seenEv`); the loop returns iff both runs do (which of two errors comes out aside). -/
theorem chooseLoop_seen (cfg : Cfg) (st : Bool) : ∀ (evs : List TEvent) (sb pb : MB), (∀ e ∈ evs, ChooseInner e) →
    (chooseLoop cfg st sb pb evs).toOption =
      (mbAppendList sb (evs.flatMap (seenEv .singular))).toOption.bind fun sb' =>
        (mbAppendList pb (evs.flatMap (seenEv .plural))).toOption.bind fun pb' =>
          some (evs.flatMap (chooseEvMsgs cfg st), sb', pb')
  | [], sb, pb, _ => rfl
  | e :: es, sb, pb, h => by
      have ih := fun sb' pb' => chooseLoop_seen cfg st es sb' pb' fun x hx => h x (List.mem_cons_of_mem _ hx)
      simp only [chooseLoop, bind, List.flatMap_cons, mbAppendList_append, toOption_bind, ih]
      rcases h e (List.mem_cons_self ..) with he | ⟨d, t, t', a, c, hd, rfl⟩
      · -- outside the branches both buffers receive `e`; in `Option` it does not matter which fails first
        have hm : chooseEvMsgs cfg st e = [] := by cases e <;> first | rfl | simp [outerEv] at he
        rw [chooseStep_outer cfg st sb pb e he, seenEv_outer _ e he, seenEv_outer _ e he, hm]
        simp only [mbAppendList_single, toOption_bind]
        cases mbAppend sb e <;> cases mbAppend pb e <;> simp [toOption_ok, toOption_error, pure, Except.pure, Option.bind_assoc]
      · -- a branch: the buffer of its form runs over the content, the other one is not touched
        rw [chooseStep_branch cfg st sb pb d hd]
        rcases hd with rfl | rfl <;>
          simp only [seenEv, chooseEvMsgs, ↓reduceIte, reduceCtorEq, List.dropLast_concat] <;>
          cases mbAppendList _ c <;>
          simp [Except.map, toOption_ok, toOption_error, mbAppendList, pure, Except.pure, Option.bind_assoc]

theorem contextedGet_ngettext : (contextedGet (some ngettextName)).isSome = true := by decide +kernel

/-- the plural message `contextify` makes of two ids (it never raises on a pair) -/
def ctxMsgN (s p : Str) (cs xs : List Str) : Message :=
  (contextify (some ngettextName) (.many [some s, some p]) cs xs).getD default

theorem contextify_ngettext (s p : Str) (cs xs : List Str) :
    contextify (some ngettextName) (.many [some s, some p]) cs xs = some (ctxMsgN s p cs xs) ∧
      s ∈ msgIds (ctxMsgN s p cs xs) ∧ p ∈ msgIds (ctxMsgN s p cs xs) := by
  obtain ⟨f, hf⟩ := Option.isSome_iff_exists.mp contextedGet_ngettext
  cases xs <;> simp [ctxMsgN, contextify, hf, msgIds]

/-- `ChooseDirective.extract`, attribute form -/
theorem chooseExtract_attr (cfg : Cfg) (ps : List Str) (st : Bool) (cs xs : List Str) (t t' : QName) (a : TAttrs)
    (inner : List TEvent) :
    chooseExtract cfg ps st cs xs (.start t a :: (inner ++ [.end_ t'])) =
      (chooseLoop cfg st (MB.new ps) (MB.new ps) inner).map fun r =>
        extractAttrs cfg st a ++ r.1 ++ [ctxMsgN r.2.1.format r.2.2.format (lastSlice cs) (lastSlice xs)] := by
  cases hi : inner ++ [TEvent.end_ t'] with
  | nil => simp at hi
  | cons x y =>
    simp only [chooseExtract, TEvent.isStart, ↓reduceIte, bind]
    rw [← hi, List.dropLast_concat]
    cases chooseLoop cfg st (MB.new ps) (MB.new ps) inner <;>
      simp [Except.map, Except.bind, (contextify_ngettext _ _ _ _).1, pure, Except.pure, startAttrs]

/-- white space, comments and code blocks around the content leave `format()` as it is; given a
    non-empty stack after the content they cannot make `append` raise -/
theorem mbAppendList_padded (ps : List Str) (o1 c o2 : List TEvent) (h1 : ∀ e ∈ o1, outerEv e = true)
    (h2 : ∀ e ∈ o2, outerEv e = true) :
    (∀ E, mbAppendList (MB.new ps) (o1 ++ (c ++ o2)) = .ok E →
      ∃ C, mbAppendList (MB.new ps) c = .ok C ∧ E.format = C.format) ∧
    (∀ C, mbAppendList (MB.new ps) c = .ok C → C.stack ≠ [] → ∃ E, mbAppendList (MB.new ps) (o1 ++ (c ++ o2)) = .ok E) := by
  obtain ⟨b1, hb1⟩ := (mbAppendList_outer o1 (MB.new ps) h1).1 (by simp [MB.new])
  obtain ⟨hc1, w1, hw1, hs1⟩ := (mbAppendList_outer o1 _ h1).2 b1 hb1
  have hpref := mbAppendList_pref w1 c _ _ (show PrefRel w1 (MB.new ps) b1 from ⟨hc1, by simp [hs1, MB.new]⟩)
  simp only [mbAppendList_append, hb1, Except.bind]
  cases hC : mbAppendList (MB.new ps) c with
  | error err =>
    rw [hC] at hpref
    cases hb2 : mbAppendList b1 c with
    | error _ => exact ⟨fun E h => (nomatch h), fun C h => (nomatch h)⟩
    | ok _ => rw [hb2] at hpref; exact hpref.elim
  | ok C =>
    rw [hC] at hpref
    cases hb2 : mbAppendList b1 c with
    | error _ => rw [hb2] at hpref; exact hpref.elim
    | ok b2 =>
      rw [hb2] at hpref
      obtain ⟨hc2, hs2⟩ := hpref
      refine ⟨fun E hE => ⟨C, rfl, ?_⟩, fun C' hC' hst => ?_⟩
      · obtain ⟨_, w2, hw2, hsE⟩ := (mbAppendList_outer o2 _ h2).2 E hE
        simp only [MB.format, hsE, hs2, List.append_assoc]
        exact strip_pad w1 C.str w2 hw1 hw2
      · cases hC'
        exact (mbAppendList_outer o2 b2 h2).1 (by rw [ctl_stack hc2]; exact hst)

theorem toOption_eq_some {ε α} {x : Except ε α} {a : α} : x.toOption = some a ↔ x = .ok a := by
  cases x <;> simp [Except.toOption]

theorem map_eq_ok {ε α β} {x : Except ε α} {f : α → β} {b : β} (h : x.map f = .ok b) : ∃ a, x = .ok a ∧ f a = b := by
  cases x with
  | error e => cases h
  | ok a => exact ⟨a, rfl, Except.ok.inj h⟩

theorem outer_append {x y : List TEvent} (hx : ∀ e ∈ x, outerEv e = true) (hy : ∀ e ∈ y, outerEv e = true) :
    ∀ e ∈ x ++ y, outerEv e = true :=
  fun e he => (List.mem_append.mp he).elim (hx e) (hy e)

/-- the loop over `pre <ts i18n:singular>cS</ts> mid <tp i18n:plural>cP</tp> post`: the singular buffer
    receives `pre cS mid post`, the plural buffer `pre mid cP post` -/
theorem chooseLoop_shape (cfg : Cfg) (st : Bool) (sb pb : MB) (ts ts' tp tp' : QName) (as ap : TAttrs)
    (pre mid post cS cP : List TEvent)
    (hpre : ∀ e ∈ pre, outerEv e = true) (hmid : ∀ e ∈ mid, outerEv e = true) (hpost : ∀ e ∈ post, outerEv e = true) :
    ∃ ms, (chooseLoop cfg st sb pb (pre ++ .sub [.singular] (.start ts as :: (cS ++ [.end_ ts'])) ::
        (mid ++ .sub [.plural] (.start tp ap :: (cP ++ [.end_ tp'])) :: post))).toOption =
      (mbAppendList sb (pre ++ (cS ++ (mid ++ post)))).toOption.bind fun sb' =>
        (mbAppendList pb ((pre ++ mid) ++ (cP ++ post))).toOption.bind fun pb' => some (ms, sb', pb') := by
  refine ⟨?_, (chooseLoop_seen cfg st _ sb pb ?_).trans ?_⟩
  rotate_left
  · intro e he
    simp only [List.mem_append, List.mem_cons] at he
    rcases he with he | rfl | he | rfl | he
    · exact Or.inl (hpre e he)
    · exact Or.inr ⟨.singular, ts, ts', as, cS, Or.inl rfl, rfl⟩
    · exact Or.inl (hmid e he)
    · exact Or.inr ⟨.plural, tp, tp', ap, cP, Or.inr rfl, rfl⟩
    · exact Or.inl (hpost e he)
  · simp only [List.flatMap_append, List.flatMap_cons, flatMap_seenEv_outer _ _ hpre, flatMap_seenEv_outer _ _ hmid,
      flatMap_seenEv_outer _ _ hpost, seenEv, ↓reduceIte, reduceCtorEq, List.dropLast_concat, List.nil_append,
      List.append_assoc]
    rfl

/-- what `ChooseDirective.extract` files for
    `<t i18n:choose> pre <ts i18n:singular>cS</ts> mid <tp i18n:plural>cP</tp> post </t>`:
    relative to buffers holding only the branch contents, the two extracted ids -/
theorem chooseExtract_ids (cfg : Cfg) (params : List Str) (st : Bool) (cs xs : List Str)
    (t t' ts ts' tp tp' : QName) (a as ap : TAttrs) (pre mid post cS cP : List TEvent)
    (hpre : ∀ e ∈ pre, outerEv e = true) (hmid : ∀ e ∈ mid, outerEv e = true) (hpost : ∀ e ∈ post, outerEv e = true)
    (ms : List Message)
    (hex : chooseExtract cfg params st cs xs
      (.start t a :: ((pre ++ .sub [.singular] (.start ts as :: (cS ++ [.end_ ts'])) ::
        (mid ++ .sub [.plural] (.start tp ap :: (cP ++ [.end_ tp'])) :: post)) ++ [.end_ t'])) = .ok ms) :
    ∃ C D, mbAppendList (MB.new params) cS = .ok C ∧ mbAppendList (MB.new params) cP = .ok D ∧
      C.format ∈ idsOf ms ∧ D.format ∈ idsOf ms := by
  rw [chooseExtract_attr] at hex
  obtain ⟨r, hloop, rfl⟩ := map_eq_ok hex
  obtain ⟨msL, hseen⟩ := chooseLoop_shape cfg st (MB.new params) (MB.new params) ts ts' tp tp' as ap pre mid post cS cP
    hpre hmid hpost
  simp only [hloop, toOption_ok, eq_comm (a := some r), Option.bind_eq_some_iff, toOption_eq_some] at hseen
  obtain ⟨sbE, hS, pbE, hP, hr⟩ := hseen
  obtain rfl := Option.some.inj hr
  obtain ⟨C, hC, hfS⟩ := (mbAppendList_padded params pre cS (mid ++ post) hpre (outer_append hmid hpost)).1 sbE hS
  obtain ⟨D, hD, hfP⟩ := (mbAppendList_padded params (pre ++ mid) cP post (outer_append hpre hmid) hpost).1 pbE hP
  have hid := (contextify_ngettext sbE.format pbE.format (lastSlice cs) (lastSlice xs)).2
  exact ⟨C, D, hC, hD, by simp [idsOf, ← hfS, hid.1], by simp [idsOf, ← hfP, hid.2]⟩

theorem outer_not_branch (e : TEvent) (h : outerEv e = true) : isBranchSub e = false := by
  cases e <;> simp_all [outerEv, isBranchSub]

theorem new_format (params : List Str) : (MB.new params).format = [] := by
  simp [MB.format, MB.new, strip, Str.stripBy, Str.rstripBy, Str.lstripBy]

/-- **the ids `ChooseDirective.__call__` looks up are the ids `ChooseDirective.extract`
    reports.**  For `<t i18n:choose="…"> pre <ts i18n:singular="">cS</ts> mid
    <tp i18n:plural="">cP</tp> post </t>` whose `pre`, `mid`, `post` are white space, comments
    or code blocks (other text there: finding C19-choose-outer-text) and arbitrary branch
    contents — nested directives included —: if extraction returns `ms`, then `ms` holds two
    ids `idS`, `idP` such that rendering consults the catalogue at `ngettext(idS, idP, n)` only
    (`idP` is replaced by the empty string when the singular form is selected: the plural
    branch is not even looked at then).  Whatever the catalogue answers elsewhere does not
    change the output. -/
theorem chooseCall_lookup_extracted (cfg : Cfg) (params : List Str) (st : Bool) (cs xs : List Str) (pl : Bool)
    (t t' ts ts' tp tp' : QName) (a as ap : TAttrs) (pre mid post cS cP : List TEvent)
    (hpre : ∀ e ∈ pre, outerEv e = true) (hmid : ∀ e ∈ mid, outerEv e = true) (hpost : ∀ e ∈ post, outerEv e = true)
    (ms : List Message)
    (hex : chooseExtract cfg params st cs xs
      (.start t a :: ((pre ++ .sub [.singular] (.start ts as :: (cS ++ [.end_ ts'])) ::
        (mid ++ .sub [.plural] (.start tp ap :: (cP ++ [.end_ tp'])) :: post)) ++ [.end_ t'])) = .ok ms) :
    ∃ idS idP, idS ∈ idsOf ms ∧ idP ∈ idsOf ms ∧
      ∀ (ngt ngt' : Str → Str → Str),
        ngt idS (if pl then idP else []) = ngt' idS (if pl then idP else []) →
        chooseCall params pl ngt
          (.start t a :: ((pre ++ .sub [.singular] (.start ts as :: (cS ++ [.end_ ts'])) ::
            (mid ++ .sub [.plural] (.start tp ap :: (cP ++ [.end_ tp'])) :: post)) ++ [.end_ t'])) =
        chooseCall params pl ngt'
          (.start t a :: ((pre ++ .sub [.singular] (.start ts as :: (cS ++ [.end_ ts'])) ::
            (mid ++ .sub [.plural] (.start tp ap :: (cP ++ [.end_ tp'])) :: post)) ++ [.end_ t'])) := by
  obtain ⟨C, D, hC, hD, hidS, hidP⟩ := chooseExtract_ids cfg params st cs xs t t' ts ts' tp tp' a as ap
    pre mid post cS cP hpre hmid hpost ms hex
  refine ⟨C.format, D.format, hidS, hidP, fun ngt ngt' heq => ?_⟩
  have hb : ∀ (l : List TEvent), (∀ e ∈ l, outerEv e = true) → ∀ e ∈ l, isBranchSub e = false :=
    fun l h e he => outer_not_branch e (h e he)
  -- the tags of the choose element are part of what passes
  have hsh := fun ngt => chooseCall_shape params pl ngt (.start t a :: pre) mid (post ++ [.end_ t']) cS cP ts ts' tp tp' as ap
    (fun e he => (List.mem_cons.mp he).elim (fun h => h ▸ rfl) (hb pre hpre e)) (hb mid hmid)
    (fun e he => (List.mem_append.mp he).elim (hb post hpost e) fun h => by simp at h; exact h ▸ rfl) C D hC hD
  simp only [List.cons_append, List.append_assoc, new_format] at hsh ⊢
  rw [hsh, hsh]
  cases pl <;> simp only [Bool.false_eq_true, ↓reduceIte] at heq ⊢ <;> rw [heq]

/-- **`ChooseDirective.extract` succeeds** on
    `<t i18n:choose> pre <ts i18n:singular>cS</ts> mid <tp i18n:plural>cP</tp> post </t>` whenever
    the two branch buffers can be built (as many parameters as expressions) and the branch
    contents leave the buffer's stack non-empty (balanced content does) -/
theorem chooseExtract_ok (cfg : Cfg) (params : List Str) (st : Bool) (cs xs : List Str)
    (t t' ts ts' tp tp' : QName) (a as ap : TAttrs) (pre mid post cS cP : List TEvent)
    (hpre : ∀ e ∈ pre, outerEv e = true) (hmid : ∀ e ∈ mid, outerEv e = true) (hpost : ∀ e ∈ post, outerEv e = true)
    (C D : MB) (hC : mbAppendList (MB.new params) cS = .ok C) (hD : mbAppendList (MB.new params) cP = .ok D)
    (hCs : C.stack ≠ []) (hDs : D.stack ≠ []) :
    ∃ ms, chooseExtract cfg params st cs xs
      (.start t a :: ((pre ++ .sub [.singular] (.start ts as :: (cS ++ [.end_ ts'])) ::
        (mid ++ .sub [.plural] (.start tp ap :: (cP ++ [.end_ tp'])) :: post)) ++ [.end_ t'])) = .ok ms := by
  obtain ⟨sbE, hS⟩ := (mbAppendList_padded params pre cS (mid ++ post) hpre (outer_append hmid hpost)).2 C hC hCs
  obtain ⟨pbE, hP⟩ := (mbAppendList_padded params (pre ++ mid) cP post (outer_append hpre hmid) hpost).2 D hD hDs
  obtain ⟨msL, hseen⟩ := chooseLoop_shape cfg st (MB.new params) (MB.new params) ts ts' tp tp' as ap pre mid post cS cP
    hpre hmid hpost
  rw [hS, hP] at hseen
  rw [chooseExtract_attr, toOption_eq_some.mp hseen]
  exact ⟨_, rfl⟩

end Genshi.I18n
