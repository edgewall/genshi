/-
  C19 — the gettext calls a template's code carries (`codeList`: EXPR / EXEC events, interpolated attribute
  values, the content of a plain message directive) and what it means for extracted messages to hold them
  (`HasCode`); what `_extract_attrs` and the loops of the directive `extract` methods report holds the calls of
  the code they pass over.  The simultaneous induction of `I18nLookups.lean` carries `HasCode` along; `code_calls_extracted`
  (end of `I18nLookups3.lean`) is its projection.
-/
import Genshi.Model.I18nExtract
import Genshi.Model.I18nTranslate
namespace Genshi.I18n
open Genshi

def partsCode : List APart → List CodeMsg
  | [] => []
  | .text _ :: ps => partsCode ps
  | .expr ms :: ps => ms ++ partsCode ps

/-- the gettext calls in the interpolated values of an attribute list -/
def attrsCode : TAttrs → List CodeMsg
  | [] => []
  | (_, .str _) :: rest => attrsCode rest
  | (_, .parts ps) :: rest => partsCode ps ++ attrsCode rest

/-- what the content of a message directive contributes, event by event -/
def evCode : TEvent → List CodeMsg
  | .start _ a => attrsCode a
  | .expr _ cm => cm
  | _ => []

mutual
  /-- the gettext calls of the template code: all EXPR / EXEC events and the interpolated
      attributes of all START events, excluded elements included; for a plain message directive
      the attributes and expressions of its content -/
  def codeSub (cfg : Cfg) : TEvent → List CodeMsg
    | .sub ds body =>
        if hasExtractable ds then
          match ds, body with
          | [.msg _], .start _ a :: rest => attrsCode a ++ rest.dropLast.flatMap evCode
          | [.msg _], first :: rest => (first :: rest).flatMap evCode      -- element form
          | _, _ => []
        else codeList cfg body
    | _ => []
  def codeList (cfg : Cfg) : List TEvent → List CodeMsg
    | [] => []
    | .start _ attrs :: es => attrsCode attrs ++ codeList cfg es
    | .expr _ cm :: es => cm ++ codeList cfg es
    | .exec cm :: es => cm ++ codeList cfg es
    | .sub ds body :: es => codeSub cfg (.sub ds body) ++ codeList cfg es
    | _ :: es => codeList cfg es
end

def codeMessage (c : CodeMsg) : Message := ⟨some c.func, c.val, []⟩

/-- all these calls are among the extracted messages -/
def HasCode (ms : List Message) (cs : List CodeMsg) : Prop := ∀ c ∈ cs, codeMessage c ∈ ms

theorem HasCode.nil (ms : List Message) : HasCode ms [] := fun _ h => by simp at h

theorem HasCode.mono {a b : List Message} {cs : List CodeMsg} (ha : HasCode a cs) (hab : ∀ x ∈ a, x ∈ b) : HasCode b cs :=
  fun c hc => hab _ (ha c hc)

theorem HasCode.append {a b : List Message} {ca cb : List CodeMsg} (ha : HasCode a ca) (hb : HasCode b cb) :
    HasCode (a ++ b) (ca ++ cb) := fun c hc =>
  (List.mem_append.mp hc).elim (ha.mono (fun _ => List.mem_append_left _) c) (hb.mono (fun _ => List.mem_append_right _) c)

theorem HasCode.right {a b : List Message} {cs : List CodeMsg} (hb : HasCode b cs) : HasCode (a ++ b) cs := by
  have := HasCode.append (HasCode.nil a) hb; simpa using this

theorem HasCode.left {a b : List Message} {cs : List CodeMsg} (ha : HasCode a cs) : HasCode (a ++ b) cs := by
  have := HasCode.append ha (HasCode.nil b); simpa using this

theorem hasCode_codeMessages (cm : List CodeMsg) : HasCode (codeMessages cm) cm := by
  intro c hc
  simp only [codeMessages, List.mem_map]
  exact ⟨c, hc, rfl⟩

theorem hasCode_parts : ∀ (ps : List APart), HasCode (partsMessages ps) (partsCode ps)
  | [] => HasCode.nil _
  | .text _ :: ps => by simpa [partsMessages, partsCode] using hasCode_parts ps
  | .expr ms :: ps => by
      simp only [partsMessages, partsCode]
      exact HasCode.append (hasCode_codeMessages ms) (hasCode_parts ps)

theorem hasCode_attrs (cfg : Cfg) (st : Bool) : ∀ (a : TAttrs), HasCode (extractAttrs cfg st a) (attrsCode a)
  | [] => HasCode.nil _
  | (n, .str v) :: rest => by
      simp only [extractAttrs, attrsCode]
      exact HasCode.right (hasCode_attrs cfg st rest)
  | (n, .parts ps) :: rest => by
      simp only [extractAttrs, attrsCode]
      exact HasCode.append (hasCode_parts ps) (hasCode_attrs cfg st rest)

theorem hasCode_evMessages (cfg : Cfg) (st : Bool) (e : TEvent) : HasCode (evMessages cfg st e) (evCode e) := by
  cases e with
  | start t a => exact hasCode_attrs cfg st a
  | expr i cm => exact hasCode_codeMessages cm
  | _ => exact HasCode.nil _

theorem hasCode_flatMap (cfg : Cfg) (st : Bool) : ∀ (evs : List TEvent),
    HasCode (evs.flatMap (evMessages cfg st)) (evs.flatMap evCode)
  | [] => HasCode.nil _
  | e :: es => by
      simp only [List.flatMap_cons]
      exact HasCode.append (hasCode_evMessages cfg st e) (hasCode_flatMap cfg st es)

/-- the calls one event contributes to `codeList` -/
def codeEv (cfg : Cfg) : TEvent → List CodeMsg
  | .start _ a => attrsCode a
  | .expr _ cm => cm
  | .exec cm => cm
  | .sub d b => codeSub cfg (.sub d b)
  | _ => []

theorem codeList_cons (cfg : Cfg) (e : TEvent) (es : List TEvent) : codeList cfg (e :: es) = codeEv cfg e ++ codeList cfg es := by
  cases e <;> simp [codeList, codeEv]

end Genshi.I18n
