/-
  C19 — message forests: the content of a message directive as a forest (`MNode`, `flattenM`), its numbering
  (`sizeM`, `infoM`), message string (`fmtM`), parameters (`namesM`, `valsM`), and the predicates the identity
  theorems ask of it (`deepNoAdjM`, `subsOKM`, `cleanB`, `cleanM`).  Definitions and the lemmas about the numbering;
  no `MessageBuffer` here.
-/
import Genshi.Lemmas.I18nYield
namespace Genshi.I18n
open Genshi

/-- content of a message directive: text, expressions (with the parameter name they are
    bound to), elements — plain, or carrying directives (`sd = some dirs`: the element is a SUB
    event of the template stream); no comments or processing instructions -/
inductive MNode where
  | text (s : Str)
  | expr (name : Str) (id : Nat) (cm : List CodeMsg)
  | elem (sd : Option (List Dir)) (tag : QName) (attrs : TAttrs) (kids : List MNode)
  deriving Inhabited

mutual
  def MNode.flatten : MNode → TStream
    | .text s => [.text s]
    | .expr _ i cm => [.expr i cm]
    | .elem none t a ks => .start t a :: (flattenM ks ++ [.end_ t])
    | .elem (some ds) t a ks => [.sub ds (.start t a :: (flattenM ks ++ [.end_ t]))]
  def flattenM : List MNode → TStream
    | [] => []
    | n :: ns => n.flatten ++ flattenM ns
end

/-- Induction on forests, children included (in place of recursion with patterns `.elem sd t a ks :: ns`
    through the nested `List MNode`). -/
theorem forest_induction {P : List MNode → Prop} (nil : P [])
    (text : ∀ s ns, P ns → P (.text s :: ns))
    (expr : ∀ n i cm ns, P ns → P (.expr n i cm :: ns))
    (elem : ∀ sd t a ks ns, P ks → P ns → P (.elem sd t a ks :: ns)) (ns : List MNode) : P ns :=
  MNode.rec_1 (motive_1 := fun n => ∀ ns, P ns → P (n :: ns)) (motive_2 := P)
    text expr (fun sd t a ks ihk ns h => elem sd t a ks ns ihk h) nil (fun _ ns ihn ihns => ihn ns ihns) ns

mutual
  /-- number of elements -/
  def MNode.size : MNode → Nat
    | .elem _ _ _ ks => sizeM ks + 1
    | _ => 0
  def sizeM : List MNode → Nat
    | [] => 0
    | n :: ns => n.size + sizeM ns
end

/-- number of child elements at this level -/
def countE : List MNode → Nat
  | [] => 0
  | .elem _ _ _ _ :: ns => countE ns + 1
  | _ :: ns => countE ns

/-- no two elements next to each other at this level; `prevE`: the previous node is an element (finding C19-adjacent:
    no group is filed for the gap between two adjacent child elements, and the parent's END comes out early) -/
def noAdjF : Bool → List MNode → Bool
  | _, [] => true
  | prevE, .elem _ _ _ _ :: ns => !prevE && noAdjF true ns
  | _, _ :: ns => noAdjF false ns

mutual
  /-- parameter names of the expressions, in document order -/
  def MNode.names : MNode → List Str
    | .expr n _ _ => [n]
    | .elem _ _ _ ks => namesM ks
    | .text _ => []
  def namesM : List MNode → List Str
    | [] => []
    | n :: ns => n.names ++ namesM ns
end

mutual
  /-- the bindings `MessageBuffer.values` receives, in document order -/
  def MNode.vals : MNode → List (Str × TEvent)
    | .expr n i cm => [(n, .expr i cm)]
    | .elem _ _ _ ks => valsM ks
    | .text _ => []
  def valsM : List MNode → List (Str × TEvent)
    | [] => []
    | n :: ns => n.vals ++ valsM ns
end

mutual
  /-- the message string of the content, the first element being numbered `o` -/
  def MNode.fmt (o : Nat) : MNode → Str
    | .text s => escBrackets s
    | .expr n _ _ => '%' :: '(' :: n ++ [')', 's']
    | .elem _ _ _ ks => '[' :: natStr o ++ [':'] ++ (fmtM (o + 1) ks ++ [']'])
  def fmtM (o : Nat) : List MNode → Str
    | [] => []
    | n :: ns => n.fmt o ++ fmtM (o + n.size) ns
end

mutual
  /-- element number `k` (first element = `o`, document order): tag, attributes, number of child
      elements, directives of a directive-carrying element -/
  def MNode.info (o : Nat) : MNode → Nat → Option (QName × TAttrs × Nat × Option (List Dir))
    | .elem sd t a ks, k => if k = o then some (t, a, countE ks, sd) else infoM (o + 1) ks k
    | _, _ => none
  def infoM (o : Nat) : List MNode → Nat → Option (QName × TAttrs × Nat × Option (List Dir))
    | [], _ => none
    | n :: ns, k =>
        match n.info o k with
        | some x => some x
        | none => infoM (o + n.size) ns k
end

mutual
  /-- no two adjacent elements among the children of any element -/
  def MNode.deepNoAdj : MNode → Bool
    | .elem _ _ _ ks => noAdjF false ks && deepNoAdjM ks
    | _ => true
  def deepNoAdjM : List MNode → Bool
    | [] => true
    | n :: ns => n.deepNoAdj && deepNoAdjM ns
end

mutual
  theorem MNode.info_range (o : Nat) : ∀ (n : MNode) (k : Nat) x, n.info o k = some x → o ≤ k ∧ k < o + n.size
    | .elem sd t a ks, k, x, h => by
        simp only [MNode.info] at h
        by_cases hk : k = o
        · subst hk; simp [MNode.size]
        · simp only [hk, ↓reduceIte] at h
          have := infoM_range (o + 1) ks k x h
          simp only [MNode.size]; omega
    | .text _, _, _, h => by simp [MNode.info] at h
    | .expr _ _ _, _, _, h => by simp [MNode.info] at h
  theorem infoM_range (o : Nat) : ∀ (ns : List MNode) (k : Nat) x, infoM o ns k = some x → o ≤ k ∧ k < o + sizeM ns
    | [], _, _, h => by simp [infoM] at h
    | n :: ns, k, x, h => by
        simp only [infoM] at h
        cases hn : n.info o k with
        | some y =>
          have := MNode.info_range o n k y hn
          simp only [sizeM]; omega
        | none =>
          simp only [hn] at h
          have := infoM_range (o + n.size) ns k x h
          simp only [sizeM]; omega
end

theorem info_none_of_lt (o : Nat) (n : MNode) (k : Nat) (h : o + n.size ≤ k) : n.info o k = none := by
  cases hi : n.info o k with
  | none => rfl
  | some x => have := MNode.info_range o n k x hi; omega

theorem infoM_here (o : Nat) (sd : Option (List Dir)) (t : QName) (a : TAttrs) (ks ns : List MNode) :
    infoM o (.elem sd t a ks :: ns) o = some (t, a, countE ks, sd) := by
  simp [infoM, MNode.info]

theorem infoM_kids {o k : Nat} {sd : Option (List Dir)} {t : QName} {a : TAttrs} {ks ns : List MNode}
    {x : QName × TAttrs × Nat × Option (List Dir)} (h : infoM (o + 1) ks k = some x) :
    infoM o (.elem sd t a ks :: ns) k = some x := by
  have hne : k ≠ o := by have := (infoM_range (o + 1) ks k x h).1; omega
  simp [infoM, MNode.info, hne, h]

theorem infoM_tail {o k : Nat} {n : MNode} {ns : List MNode} {x : QName × TAttrs × Nat × Option (List Dir)}
    (h : infoM (o + n.size) ns k = some x) : infoM o (n :: ns) k = some x := by
  simp [infoM, info_none_of_lt o n k (infoM_range _ ns k x h).1, h]

mutual
  /-- no directive-carrying element inside another one -/
  def MNode.subsOK : Bool → MNode → Bool
    | inSub, .elem sd _ _ ks => !(sd.isSome && inSub) && subsOKM (inSub || sd.isSome) ks
    | _, _ => true
  def subsOKM : Bool → List MNode → Bool
    | _, [] => true
    | inSub, n :: ns => n.subsOK inSub && subsOKM inSub ns
end

mutual
  /-- clean text, well-formed parameter names -/
  def MNode.cleanB : MNode → Bool
    | .text s => cleanTextB s
    | .expr n _ _ => wordName n
    | .elem _ _ _ ks => cleanB ks
  def cleanB : List MNode → Bool
    | [] => true
    | n :: ns => n.cleanB && cleanB ns
end

/-- text the message format does not touch: no bracket, no backslash, no percent sign -/
def cleanText (s : Str) : Bool := s.all fun c => c != '[' && c != ']' && c != '\\' && c != '%'

mutual
  /-- clean text without brackets, well-formed parameter names -/
  def MNode.clean : MNode → Bool
    | .text s => cleanText s
    | .expr n _ _ => wordName n
    | .elem _ _ _ ks => cleanM ks
  def cleanM : List MNode → Bool
    | [] => true
    | n :: ns => n.clean && cleanM ns
end

end Genshi.I18n
