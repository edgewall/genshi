/-
  C19 — the identity translation: the translation tree of a message itself, its
  linearisation, compatibility, numbering; what it renders to (the content with adjacent
  text merged).
-/
import Genshi.Lemmas.I18nMsg
import Genshi.Lemmas.I18nYield
namespace Genshi.I18n
open Genshi Genshi.Str

/-- the leading text and expressions of a forest -/
def firstSeg : List MNode → List Piece
  | .text s :: ns => .text s :: firstSeg ns
  | .expr n i cm :: ns => .expr n i cm :: firstSeg ns
  | _ => []

mutual
  /-- the placeholder of an element numbered `o` -/
  def xNodeOf (o : Nat) : MNode → Option XNode
    | .elem _ _ _ ks => some (.ph o (segStr (firstSeg ks)) (xRestOf (o + 1) ks))
    | _ => none
  /-- the translation tree of the forest itself (after its first segment) -/
  def xRestOf (o : Nat) : List MNode → XRest
    | [] => .nil
    | n :: ns =>
        match xNodeOf o n with
        | some x => .cons x (segStr (firstSeg ns)) (xRestOf (o + n.size) ns)
        | none => xRestOf (o + n.size) ns
end

theorem xRestOf_text (o : Nat) (s : Str) (ns : List MNode) : xRestOf o (.text s :: ns) = xRestOf o ns := by
  simp [xRestOf, xNodeOf, MNode.size]

theorem xRestOf_expr (o : Nat) (n : Str) (i : Nat) (cm : List CodeMsg) (ns : List MNode) :
    xRestOf o (.expr n i cm :: ns) = xRestOf o ns := by
  simp [xRestOf, xNodeOf, MNode.size]

theorem xRestOf_elem (o : Nat) (t : QName) (a : TAttrs) (ks ns : List MNode) :
    xRestOf o (.elem sd t a ks :: ns) =
      .cons (.ph o (segStr (firstSeg ks)) (xRestOf (o + 1) ks)) (segStr (firstSeg ns)) (xRestOf (o + (sizeM ks + 1)) ns) := by
  simp [xRestOf, xNodeOf, MNode.size]

theorem fmt_xRest (o : Nat) (ns : List MNode) : segStr (firstSeg ns) ++ (xRestOf o ns).fmt = fmtM o ns := by
  induction ns using forest_induction generalizing o with
  | nil => simp [firstSeg, segStr, xRestOf, XRest.fmt, fmtM]
  | text s ns ih =>
      rw [xRestOf_text]
      simp only [firstSeg, segStr, Piece.str, fmtM, MNode.fmt, MNode.size, Nat.add_zero, List.append_assoc]
      rw [ih o]
  | expr n i cm ns ih =>
      rw [xRestOf_expr]
      simp only [firstSeg, segStr, Piece.str, fmtM, MNode.fmt, MNode.size, Nat.add_zero, List.append_assoc, paramStr]
      rw [← ih o]
  | elem sd t a ks ns ihk ih =>
      rw [xRestOf_elem]
      simp only [firstSeg, segStr, List.nil_append, XRest.fmt, XNode.fmt, fmtM, MNode.fmt, MNode.size]
      rw [← ihk (o + 1), ← ih (o + (sizeM ks + 1))]
      simp [List.append_assoc]

theorem fmt_xNode (o : Nat) : ∀ (n : MNode), n.cleanB = true →
      ∀ x, xNodeOf o n = some x → x.fmt = n.fmt o
  | .elem sd t a ks, _, x, hx => by
      simp only [xNodeOf, Option.some.injEq] at hx
      subst hx
      simp [XNode.fmt, MNode.fmt, ← fmt_xRest (o + 1) ks, List.append_assoc]
  | .text _, _, x, hx => by simp [xNodeOf] at hx
  | .expr _ _ _, _, x, hx => by simp [xNodeOf] at hx

theorem nums_xRest (ns : List MNode) (o : Nat) : (xRestOf o ns).nums = List.range' o (sizeM ns) := by
  induction ns using forest_induction generalizing o with
  | nil => simp [xRestOf, XRest.nums, sizeM]
  | text s ns ih => rw [xRestOf_text]; simpa [sizeM, MNode.size] using ih o
  | expr n i cm ns ih => rw [xRestOf_expr]; simpa [sizeM, MNode.size] using ih o
  | elem sd t a ks ns ihk ih =>
      rw [xRestOf_elem]
      simp only [XRest.nums, XNode.nums, sizeM, MNode.size]
      rw [ihk (o + 1), ih (o + (sizeM ks + 1))]
      have h1 : sizeM ks + 1 + sizeM ns = (sizeM ks + 1) + sizeM ns := rfl
      rw [h1, ← List.range'_append_1]
      simp [List.range'_succ]

theorem length_xRest : ∀ (ns : List MNode) (o : Nat), (xRestOf o ns).length = countE ns
  | [], o => by simp [xRestOf, XRest.length, countE]
  | .text s :: ns, o => by rw [xRestOf_text]; simpa [countE] using length_xRest ns o
  | .expr n i cm :: ns, o => by rw [xRestOf_expr]; simpa [countE] using length_xRest ns o
  | .elem sd t a ks :: ns, o => by
      rw [xRestOf_elem]; simp only [XRest.length, countE]; rw [length_xRest ns]

theorem compat_elem (I : Info) (sd : Option (List Dir)) (t : QName) (a : TAttrs) (ks : List MNode) (o : Nat)
    (inSub : Bool) (hio : I o = some (t, a, countE ks, sd)) (hs : (MNode.elem sd t a ks).subsOK inSub = true)
    (hk : subsOKM (inSub || sd.isSome) ks = true → XRest.compat I (inSub || sd.isSome) (xRestOf (o + 1) ks)) :
    XNode.compat I inSub (.ph o (segStr (firstSeg ks)) (xRestOf (o + 1) ks)) := by
  simp only [MNode.subsOK, Bool.and_eq_true, Bool.not_eq_true'] at hs
  have hsub := isSubAt_of_info hio
  refine ⟨⟨t, a, sd, ?_⟩, ?_, ?_⟩
  · rw [length_xRest]; exact hio
  · intro hsb
    rw [hsub] at hsb
    simpa [hsb] using hs.1
  · rw [hsub]; exact hk hs.2

theorem compat_xRest (I : Info) (ns : List MNode) (o : Nat) (inSub : Bool)
    (h : ∀ k x, infoM o ns k = some x → I k = some x) (hs : subsOKM inSub ns = true) :
    XRest.compat I inSub (xRestOf o ns) := by
  induction ns using forest_induction generalizing o inSub with
  | nil => simp [xRestOf, XRest.compat]
  | text s ns ih =>
      rw [xRestOf_text]
      exact ih o inSub (fun k x hk => h k x (by simpa [infoM, MNode.info, MNode.size] using hk))
        (by simpa [subsOKM, MNode.subsOK] using hs)
  | expr n i cm ns ih =>
      rw [xRestOf_expr]
      exact ih o inSub (fun k x hk => h k x (by simpa [infoM, MNode.info, MNode.size] using hk))
        (by simpa [subsOKM, MNode.subsOK] using hs)
  | elem sd t a ks ns ihk ih =>
      simp only [subsOKM, Bool.and_eq_true] at hs
      rw [xRestOf_elem]
      exact ⟨compat_elem I sd t a ks o inSub (h o _ (infoM_here o sd t a ks ns)) hs.1
          (ihk (o + 1) _ (fun k x hk => h k x (infoM_kids hk))),
        ih _ inSub (fun k x hk => h k x (infoM_tail (n := .elem sd t a ks) hk)) hs.2⟩

theorem compat_xNode (I : Info) : ∀ (n : MNode) (o : Nat) (inSub : Bool),
      (∀ k x, n.info o k = some x → I k = some x) → n.subsOK inSub = true →
      ∀ x, xNodeOf o n = some x → XNode.compat I inSub x
  | .elem sd t a ks, o, inSub, h, hs, x, hx => by
      simp only [xNodeOf, Option.some.injEq] at hx
      subst hx
      refine compat_elem I sd t a ks o inSub (h o _ (by simp [MNode.info])) hs fun hsk => ?_
      refine compat_xRest I ks (o + 1) _ (fun k y hk => h k y ?_) hsk
      have hne : k ≠ o := by have := (infoM_range (o + 1) ks k y hk).1; omega
      simp [MNode.info, hne, hk]
  | .text _, _, _, _, _, x, hx => by simp [xNodeOf] at hx
  | .expr _ _ _, _, _, _, _, x, hx => by simp [xNodeOf] at hx

theorem isWord_lbracket : isWord '[' = false := by decide +kernel
theorem isWord_rbracket : isWord ']' = false := by decide +kernel
theorem isWord_backslash : isWord '\\' = false := by decide +kernel

theorem Piece.ok_firstSeg : ∀ (ns : List MNode), cleanB ns = true → (firstSeg ns).all Piece.ok = true
  | [], _ => rfl
  | .text s :: ns, h => by
      simp only [cleanB, MNode.cleanB, Bool.and_eq_true] at h
      simp [firstSeg, Piece.ok, h.1, Piece.ok_firstSeg ns h.2]
  | .expr n i cm :: ns, h => by
      simp only [cleanB, MNode.cleanB, Bool.and_eq_true] at h
      simp [firstSeg, Piece.ok, h.1, Piece.ok_firstSeg ns h.2]
  | .elem _ _ _ _ :: _, _ => rfl

theorem cleanB_tail_of (n : MNode) (ns : List MNode) (h : cleanB (n :: ns) = true) : cleanB ns = true := by
  simp only [cleanB, Bool.and_eq_true] at h; exact h.2

/-- every segment of the message string of the forest is one `parse_msg` leaves alone: the
    brackets of the text are escaped and no escaped opening bracket is followed by digits and a
    colon (finding C19-placeholder-text).  A condition on the whole `format()` string: the
    digits and the colon may come from different text events. -/
def segsOK (F : List MNode) : Bool := plainSeg (segStr (firstSeg F)) && (xRestOf 1 F).plain

/-- `yield_parts` as a function (the empty list where it raises) -/
def Yv (vs : List (Str × TEvent)) (s : Str) : List TEvent :=
  match yieldParts vs s with
  | .ok e => e
  | .error _ => []

theorem Yv_ok (vs : List (Str × TEvent)) (s : Str) (e : List TEvent) (h : yieldParts vs s = .ok e) :
    yieldParts vs s = .ok (Yv vs s) := by simp [Yv, h]

/-- every parameter of the forest is bound in `vs` to its expression -/
def Bound (vs : List (Str × TEvent)) (ns : List MNode) : Prop :=
  ∀ p ∈ valsM ns, lookupValue vs p.1 = some p.2

theorem Bound.tail {vs : List (Str × TEvent)} {n : MNode} {ns : List MNode} (h : Bound vs (n :: ns)) : Bound vs ns :=
  fun p hp => h p (by simp [valsM, hp])

theorem Bound.kids {vs : List (Str × TEvent)} {t : QName} {a : TAttrs} {ks ns : List MNode}
    (h : Bound vs (.elem sd t a ks :: ns)) : Bound vs ks :=
  fun p hp => h p (by simp [valsM, MNode.vals, hp])

theorem bound_firstSeg (vs : List (Str × TEvent)) : ∀ (ns : List MNode), Bound vs ns →
    ∀ p ∈ firstSeg ns, p.bound vs
  | [], _, p, hp => by simp [firstSeg] at hp
  | .text s :: ns, h, p, hp => by
      simp only [firstSeg, List.mem_cons] at hp
      rcases hp with rfl | hp
      · trivial
      · exact bound_firstSeg vs ns h.tail p hp
  | .expr n i cm :: ns, h, p, hp => by
      simp only [firstSeg, List.mem_cons] at hp
      rcases hp with rfl | hp
      · exact h (n, .expr i cm) (by simp [valsM, MNode.vals])
      · exact bound_firstSeg vs ns h.tail p hp
  | .elem _ _ _ _ :: _, _, p, hp => by simp [firstSeg] at hp

theorem Yv_firstSeg (vs : List (Str × TEvent)) (ns : List MNode) (hc : cleanB ns = true) (hb : Bound vs ns) :
    yieldParts vs (segStr (firstSeg ns)) = .ok (segEvents (firstSeg ns)) ∧
    Yv vs (segStr (firstSeg ns)) = segEvents (firstSeg ns) := by
  have := yieldParts_segStr vs (firstSeg ns) (Piece.ok_firstSeg ns hc) (bound_firstSeg vs ns hb)
  exact ⟨this, by simp [Yv, this]⟩

theorem cleanB_cons (n : MNode) (ns : List MNode) : cleanB (n :: ns) = (n.cleanB && cleanB ns) := rfl

theorem cleanB_kids_of {sd : Option (List Dir)} {t : QName} {a : TAttrs} {ks ns : List MNode}
    (h : cleanB (.elem sd t a ks :: ns) = true) : cleanB ks = true := by
  simp only [cleanB, MNode.cleanB, Bool.and_eq_true] at h; exact h.1

theorem segs_xRest (vs : List (Str × TEvent)) (ns : List MNode) (o : Nat) (hc : cleanB ns = true) (hb : Bound vs ns) :
    ∀ s ∈ (xRestOf o ns).segs, yieldParts vs s = .ok (Yv vs s) := by
  induction ns using forest_induction generalizing o with
  | nil => intro s hs; simp [xRestOf, XRest.segs] at hs
  | text t ns ih => rw [xRestOf_text]; exact ih o (cleanB_tail_of _ _ hc) hb.tail
  | expr n i cm ns ih => rw [xRestOf_expr]; exact ih o (cleanB_tail_of _ _ hc) hb.tail
  | elem sd t a ks ns ihk ih =>
      have hck := cleanB_kids_of hc
      have hcn := cleanB_tail_of _ _ hc
      intro s hs
      rw [xRestOf_elem] at hs
      simp only [XRest.segs, XNode.segs, List.mem_append, List.mem_cons] at hs
      rcases hs with (rfl | hs) | rfl | hs
      · exact Yv_ok vs _ _ (Yv_firstSeg vs ks hck hb.kids).1
      · exact ihk (o + 1) hck hb.kids s hs
      · exact Yv_ok vs _ _ (Yv_firstSeg vs ns hcn hb.tail).1
      · exact ih _ hcn hb.tail s hs

def flushText (cur : Str) : List TEvent := if cur.isEmpty then [] else [.text cur]

mutual
  /-- merge adjacent TEXT events, drop empty ones — also inside the sub-streams of SUB events -/
  def coalEv : TEvent → TEvent
    | .sub d b => .sub d (coalGo [] b)
    | e => e
  def coalGo (cur : Str) : List TEvent → List TEvent
    | [] => flushText cur
    | .text s :: es => coalGo (cur ++ s) es
    | .start t a :: es => flushText cur ++ (.start t a :: coalGo [] es)
    | .end_ t :: es => flushText cur ++ (.end_ t :: coalGo [] es)
    | .expr i m :: es => flushText cur ++ (.expr i m :: coalGo [] es)
    | .exec m :: es => flushText cur ++ (.exec m :: coalGo [] es)
    | .other l :: es => flushText cur ++ (.other l :: coalGo [] es)
    | .sub d b :: es => flushText cur ++ (coalEv (.sub d b) :: coalGo [] es)
end

def coalesce (es : List TEvent) : List TEvent := coalGo [] es

def TEvent.isText : TEvent → Bool
  | .text _ => true
  | _ => false

/-- a continuation of the stream that does not start with text -/
def tailOK : List TEvent → Bool
  | [] => true
  | e :: _ => !e.isText

theorem coalGo_tail (cur : Str) (tail : List TEvent) (h : tailOK tail = true) :
    coalGo cur tail = flushText cur ++ coalGo [] tail := by
  cases tail with
  | nil => simp [coalGo, flushText]
  | cons e es =>
    cases e with
    | text s => simp [tailOK, TEvent.isText] at h
    | _ => simp [coalGo, coalEv, flushText]

theorem segEventsGo_nil (cur : Str) : segEventsGo cur [] = flushText cur := rfl

theorem coal_forest (vs : List (Str × TEvent)) (W : WorldK) (ns : List MNode) (o : Nat) (cur : Str) (tail : List TEvent)
    (hc : cleanB ns = true) (hb : Bound vs ns)
    (hw : ∀ k t a c kd, infoM o ns k = some (t, a, c, kd) → W k = some (t, a, kd)) (ht : tailOK tail = true) :
    coalGo cur (flattenM ns ++ tail) =
      segEventsGo cur (firstSeg ns) ++ ((xRestOf o ns).renderK W (Yv vs) ++ coalGo [] tail) := by
  induction ns using forest_induction generalizing o cur tail with
  | nil => simp [flattenM, firstSeg, xRestOf, XRest.renderK, segEventsGo_nil, coalGo_tail cur tail ht]
  | text s ns ih =>
      rw [xRestOf_text]
      simp only [flattenM, MNode.flatten, List.cons_append, List.nil_append, coalGo, firstSeg, segEventsGo]
      exact ih o (cur ++ s) tail (cleanB_tail_of _ _ hc) hb.tail
        (fun k t a c kd h => hw k t a c kd (by simpa [infoM, MNode.info, MNode.size] using h)) ht
  | expr n i cm ns ih =>
      rw [xRestOf_expr]
      simp only [flattenM, MNode.flatten, List.cons_append, List.nil_append, coalGo, firstSeg, segEventsGo]
      rw [ih o [] tail (cleanB_tail_of _ _ hc) hb.tail
        (fun k t a c kd h => hw k t a c kd (by simpa [infoM, MNode.info, MNode.size] using h)) ht]
      simp [flushText, List.append_assoc]
  | elem sd t a ks ns ihk ih =>
      have hck := cleanB_kids_of hc
      have hcn := cleanB_tail_of _ _ hc
      have hwo : W o = some (t, a, sd) := hw o t a (countE ks) sd (infoM_here o sd t a ks ns)
      rw [xRestOf_elem]
      have hkids := fun tl => ihk (o + 1) [] tl hck hb.kids (fun k t' a' c kd h => hw k t' a' c kd (infoM_kids h))
      have hrest := ih (o + (sizeM ks + 1)) [] tail hcn hb.tail
        (fun k t' a' c kd h => hw k t' a' c kd (infoM_tail (n := .elem sd t a ks) h)) ht
      cases sd with
      | none =>
        simp only [flattenM, MNode.flatten, List.cons_append, List.append_assoc, List.nil_append, coalGo, firstSeg,
          segEventsGo_nil, XRest.renderK, XNode.renderK, hwo]
        rw [hkids (.end_ t :: (flattenM ns ++ tail)) rfl]
        simp only [coalGo, flushText, List.isEmpty_nil, ↓reduceIte, List.nil_append]
        rw [hrest, (Yv_firstSeg vs ks hck hb.kids).2, (Yv_firstSeg vs ns hcn hb.tail).2]
        simp [segEvents]
      | some ds =>
        simp only [flattenM, MNode.flatten, List.cons_append, List.append_assoc, List.nil_append, coalGo, coalEv,
          firstSeg, segEventsGo_nil, XRest.renderK, XNode.renderK, hwo]
        have hin := hkids [.end_ t] rfl
        simp only [coalGo, flushText, List.isEmpty_nil, ↓reduceIte, List.nil_append] at hin
        rw [hin, hrest, (Yv_firstSeg vs ks hck hb.kids).2, (Yv_firstSeg vs ns hcn hb.tail).2]
        simp [segEvents, flushText]

theorem lookupValue_mem (l : List (Str × TEvent)) (p : Str × TEvent) (hnd : (l.map Prod.fst).Nodup) (hp : p ∈ l) :
    lookupValue l p.1 = some p.2 := by
  induction l with
  | nil => simp at hp
  | cons q qs ih =>
    simp only [List.map_cons, List.nodup_cons, List.mem_map, not_exists, not_and] at hnd
    simp only [List.mem_cons] at hp
    unfold lookupValue
    rcases hp with rfl | hp
    · simp
    · have hne : q.1 ≠ p.1 := fun h => hnd.1 p hp h.symm
      have := ih hnd.2 hp
      unfold lookupValue at this
      simp [List.find?, hne, this]

mutual
  theorem MNode.vals_keys : ∀ (n : MNode), n.vals.map Prod.fst = n.names
    | .text _ => rfl
    | .expr _ _ _ => rfl
    | .elem _ _ _ ks => by simp [MNode.vals, MNode.names, valsM_keys ks]
  theorem valsM_keys : ∀ (ns : List MNode), (valsM ns).map Prod.fst = namesM ns
    | [] => rfl
    | n :: ns => by simp [valsM, namesM, MNode.vals_keys n, valsM_keys ns]
end

theorem bound_self (F : List MNode) (h : (namesM F).Nodup) : Bound (valsM F).reverse F := by
  intro p hp
  apply lookupValue_mem
  · rw [List.map_reverse, valsM_keys]; exact (List.reverse_perm _).nodup_iff.mpr h
  · simpa using hp

theorem topSegs_noTop : ∀ (ns : List MNode) (o : Nat), hasTopText ns = false →
    segStr (firstSeg ns) = [] ∧ ∀ s ∈ (xRestOf o ns).topSegs, s = []
  | [], o, _ => by simp [firstSeg, segStr, xRestOf, XRest.topSegs]
  | .text _ :: _, _, h => by simp [hasTopText] at h
  | .expr _ _ _ :: _, _, h => by simp [hasTopText] at h
  | .elem sd t a ks :: ns, o, h => by
      have := topSegs_noTop ns (o + (sizeM ks + 1)) (by simpa [hasTopText] using h)
      rw [xRestOf_elem]
      refine ⟨by simp [firstSeg, segStr], ?_⟩
      intro s hs
      simp only [XRest.topSegs, List.mem_cons] at hs
      rcases hs with rfl | hs
      · exact this.1
      · exact this.2 s hs

/-- The buffer of the content `F`, asked to translate the message string of a forest `G` with
    the same elements and the same parameters, renders `G`, adjacent text merged. -/
theorem translate_fmt_forest (F G : List MNode) (extra : List Str)
    (hc : cleanB G = true) (hsg : segsOK G = true)
    (hna : deepNoAdjM F = true) (hnd : (namesM F).Nodup) (hso : subsOKM false G = true)
    (hinfo : ∀ k, infoM 1 G k = infoM 1 F k) (hvals : valsM G = valsM F)
    (hnoTop : hasTopText F = false → hasTopText G = false) :
    ∃ b, mbAppendList (MB.new (namesM F ++ extra)) (flattenM F) = .ok b ∧
      b.format = strip (fmtM 1 F) ∧
      b.translate (fmtM 1 G) = .ok (coalesce (flattenM G)) := by
  have hb : Bound (valsM F).reverse G := fun p hp => bound_self F hnd p (hvals ▸ hp)
  have hseg : ∀ s ∈ segStr (firstSeg G) :: (xRestOf 1 G).segs,
      yieldParts (valsM F).reverse s = .ok (Yv (valsM F).reverse s) := by
    intro s hs
    rcases List.mem_cons.mp hs with rfl | hs
    · exact Yv_ok _ _ _ (Yv_firstSeg _ G hc hb).1
    · exact segs_xRest _ G 1 hc hb s hs
  have htop : (∀ s ∈ segStr (firstSeg G) :: (xRestOf 1 G).topSegs, s = []) ∨ hasTopText F = true := by
    cases h : hasTopText F with
    | true => exact Or.inr rfl
    | false =>
      have := topSegs_noTop G 1 (hnoTop h)
      exact Or.inl fun s hs => (List.mem_cons.mp hs).elim (fun e => e ▸ this.1) (this.2 s)
  simp only [segsOK, Bool.and_eq_true] at hsg
  obtain ⟨b, hrun, hfmt, htr⟩ := translate_message F extra (Yv (valsM F).reverse) (segStr (firstSeg G)) (xRestOf 1 G)
    hna (compat_xRest (infoM 1 F) G 1 false (fun k x h => hinfo k ▸ h) hso)
    (by rw [nums_xRest]; exact List.nodup_range') hsg.1 hsg.2 hseg htop
  refine ⟨b, hrun, hfmt, ?_⟩
  rw [fmt_xRest 1 G] at htr
  rw [htr]
  have := coal_forest (valsM F).reverse (worldOf F) G 1 [] [] hc hb
    (fun k t a c kd h => by rw [hinfo] at h; simp [worldOf, h]) rfl
  simp only [List.append_nil] at this
  rw [coalesce, this, (Yv_firstSeg _ G hc hb).2]
  simp [segEvents, coalGo, flushText]

/-- **translate ∘ format, without the edge white space**: translating the message with its
    own message string gives back the content, adjacent text merged. -/
theorem translate_fmt_self (F : List MNode) (extra : List Str)
    (hc : cleanB F = true) (hsg : segsOK F = true)
    (hna : deepNoAdjM F = true) (hnd : (namesM F).Nodup) (hso : subsOKM false F = true) :
    ∃ b, mbAppendList (MB.new (namesM F ++ extra)) (flattenM F) = .ok b ∧
      b.format = strip (fmtM 1 F) ∧
      b.translate (fmtM 1 F) = .ok (coalesce (flattenM F)) :=
  translate_fmt_forest F F extra hc hsg hna hnd hso (fun _ => rfl) rfl id

end Genshi.I18n
