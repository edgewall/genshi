/-
  C19 — look-ups ⊆ extraction for the text / attribute traversal: a simultaneous induction over
  `Translator.__call__` (look-ups) and `Translator.extract`, with the skip counter shared; that the
  gettext calls of the template's code are extracted (`HasCode`, `I18nCode.lean`) rides along.
-/
import Genshi.Model.I18nExtract
import Genshi.Model.I18nTranslate
import Genshi.Lemmas.I18n
import Genshi.Lemmas.ListBasics
import Genshi.Lemmas.I18nCode
namespace Genshi.I18n
open Genshi

mutual
  /-- no SUB event, at any depth, carries a message directive (msg / choose) -/
  def noMsgEv : TEvent → Bool
    | .sub ds b => !hasExtractable ds && noMsgList b
    | _ => true
  def noMsgList : List TEvent → Bool
    | [] => true
    | e :: es => noMsgEv e && noMsgList es
end

/-- the message ids of an extracted message (a context, where present, is listed as well) -/
def msgIds (m : Message) : List Str :=
  match m.val with
  | .one (some s) => [s]
  | .one none => []
  | .many ss => ss.filterMap id

def idsOf (ms : List Message) : List Str := ms.flatMap msgIds

theorem idsOf_append (a b : List Message) : idsOf (a ++ b) = idsOf a ++ idsOf b := by
  simp [idsOf]

def Total (ex : List Str → List Str → Except Err (List Message)) : Prop := ∀ cs xs, ∃ m, ex cs xs = .ok m

/-- `out` contains the result of some call of `ex` -/
def Covers (ex : List Str → List Str → Except Err (List Message)) (out : List Message) : Prop :=
  ∃ cs xs m, ex cs xs = .ok m ∧ ∀ x ∈ m, x ∈ out

/-- what one directive contributes in the second loop -/
def dirExtract (cfg : Cfg) (st : Bool) (cs xs : List Str) (body : List TEvent)
    (ex : List Str → List Str → Except Err (List Message)) (d : Dir) : Except Err (List Message) :=
  match d with
  | .msg params => msgExtract cfg params st cs xs body
  | .choose params => chooseExtract cfg params st cs xs body
  | _ => ex cs xs

theorem subLoop2_cons (cfg : Cfg) (st : Bool) (cs xs : List Str) (body : List TEvent)
    (ex : List Str → List Str → Except Err (List Message)) (d : Dir) (ds : List Dir) :
    subLoop2 cfg st cs xs body ex (d :: ds) =
      (dirExtract cfg st cs xs body ex d).bind (fun ms =>
        (subLoop2 cfg st cs xs body ex ds).bind (fun ms' => .ok (ms ++ ms'))) := by
  cases d <;> rfl

theorem subLoop2_all (cfg : Cfg) (st : Bool) (cs xs : List Str) (body : List TEvent)
    (ex : List Str → List Str → Except Err (List Message)) :
    ∀ (l : List Dir), (∀ x ∈ l, ∃ m, dirExtract cfg st cs xs body ex x = .ok m) →
      ∃ out, subLoop2 cfg st cs xs body ex l = .ok out ∧
        ∀ x ∈ l, ∀ m, dirExtract cfg st cs xs body ex x = .ok m → ∀ y ∈ m, y ∈ out
  | [], _ => ⟨[], rfl, fun _ h => by simp at h⟩
  | d :: ds, h => by
      obtain ⟨m, hm⟩ := h d (by simp)
      obtain ⟨out', hout', hall⟩ := subLoop2_all cfg st cs xs body ex ds (fun x hx => h x (by simp [hx]))
      refine ⟨m ++ out', by rw [subLoop2_cons, hm, hout']; rfl, ?_⟩
      intro x hx m' hm' y hy
      simp only [List.mem_cons] at hx
      rcases hx with hx | hx
      · subst hx
        rw [hm] at hm'
        cases hm'
        exact List.mem_append_left _ hy
      · exact List.mem_append_right _ (hall x hx m' hm' y hy)

theorem dirExtract_other (cfg : Cfg) (st : Bool) (cs xs : List Str) (body : List TEvent)
    (ex : List Str → List Str → Except Err (List Message)) (d : Dir) (h : d.isExtractable = false) :
    dirExtract cfg st cs xs body ex d = ex cs xs := by
  cases d <;> simp_all [dirExtract, Dir.isExtractable]

theorem mem_eraseIdx_of_ne {α} (l : List α) (i : Nat) (d e : α) (hd : d ∈ l) (hg : l[i]? = some e) (hne : d ≠ e) :
    d ∈ l.eraseIdx i := by
  obtain ⟨j, hj⟩ := List.getElem?_of_mem hd
  exact List.mem_eraseIdx_iff_getElem?.mpr ⟨j, fun hji => hne (Option.some.inj ((hji ▸ hj).symm.trans hg)), hj⟩

/-- what a run of the first loop (`for idx, directive in enumerate(directives)` with `directives.pop(idx)` under the
    iterator) that returns has done: it only erases directives, none of them a message directive, and keeps what was
    already put out; it leaves a directive when it is at index 0 with two or more, or at a later index with one or more
    (after the erasure at `idx` the step to `idx + 1` passes over the directive that moved into place `idx`); and when
    it leaves none it has either called `ex` or met no comment / context directive -/
theorem subLoop1_spec (ex : List Str → List Str → Except Err (List Message)) :
    ∀ (fuel idx : Nat) (r r' : SubLoop), subLoop1 ex fuel idx r = .ok r' →
      (∀ d ∈ r'.dirs, d ∈ r.dirs) ∧ (∀ x ∈ r.out, x ∈ r'.out) ∧
      (∀ d ∈ r.dirs, d.isExtractable = true → d ∈ r'.dirs) ∧
      (((idx = 0 ∧ 2 ≤ r.dirs.length) ∨ (1 ≤ idx ∧ 1 ≤ r.dirs.length)) → r'.dirs ≠ []) ∧
      (r'.dirs = [] → Covers ex r'.out ∨ (r'.inComment = r.inComment ∧ r'.inContext = r.inContext))
  | 0, idx, r, r', h => by
      obtain rfl : r = r' := by simpa [subLoop1, pure, Except.pure] using h
      exact ⟨fun _ h => h, fun _ h => h, fun _ h _ => h, fun h => by
        rcases h with h | h <;> (intro hn; simp [hn] at h), fun _ => Or.inr ⟨rfl, rfl⟩⟩
  | fuel + 1, idx, r, r', h => by
      simp only [subLoop1] at h
      cases hget : r.dirs[idx]? with
      | none =>
        obtain rfl : r = r' := by simpa [hget, pure, Except.pure] using h
        exact ⟨fun _ h => h, fun _ h => h, fun _ h _ => h, fun h => by
          rcases h with h | h <;> (intro hn; simp [hn] at h), fun _ => Or.inr ⟨rfl, rfl⟩⟩
      | some d =>
        simp only [hget] at h
        have hidx : idx < r.dirs.length := by
          rcases Nat.lt_or_ge idx r.dirs.length with h | h
          · exact h
          · rw [List.getElem?_eq_none h] at hget; cases hget
        have hlen_erase : (r.dirs.eraseIdx idx).length = r.dirs.length - 1 := by
          rw [List.length_eraseIdx]; simp [hidx]
        have ih := subLoop1_spec ex fuel (idx + 1)
        -- a step that erases `d` and goes on from `r1`
        have herase : ∀ r1 : SubLoop, subLoop1 ex fuel (idx + 1) r1 = .ok r' → r1.dirs = r.dirs.eraseIdx idx →
            (∀ x ∈ r.out, x ∈ r1.out) → d.isExtractable = false →
            (∀ d ∈ r'.dirs, d ∈ r.dirs) ∧ (∀ x ∈ r.out, x ∈ r'.out) ∧
            (∀ x ∈ r.dirs, x.isExtractable = true → x ∈ r'.dirs) ∧ (r.dirs.length ≠ 1 → r'.dirs ≠ []) := by
          intro r1 h1 hd1 ho1 hde
          obtain ⟨a1, a2, a3, a4, _⟩ := ih r1 r' h1
          rw [hd1] at a1 a3 a4
          exact ⟨fun x hx => List.mem_of_mem_eraseIdx (a1 x hx), fun x hx => a2 x (ho1 x hx),
            fun x hx hxe => a3 x (mem_eraseIdx_of_ne r.dirs idx x d hx hget (by rintro rfl; rw [hxe] at hde; cases hde)) hxe,
            fun hne => a4 (Or.inr ⟨by omega, by rw [hlen_erase]; omega⟩)⟩
        cases d with
        | comment c | ctxt c =>
          -- `ex` is called (with the extended stack) when the directive is the only one left
          dsimp only at h
          by_cases h1 : r.dirs.length = 1
          · rw [if_pos h1] at h
            obtain ⟨out, hout, h⟩ := bind_ok.mp h
            obtain ⟨m, hx, hm⟩ := bind_ok.mp hout
            cases hm
            obtain ⟨a1, a2, a3, _⟩ := herase _ h rfl (fun x hx => by simp [hx]) rfl
            exact ⟨a1, a2, a3, fun hq => by rcases hq with hq | hq <;> omega,
              fun _ => Or.inl ⟨_, _, m, hx, fun x hx' => (ih _ _ h).2.1 x (by simp [hx'])⟩⟩
          · rw [if_neg h1] at h
            obtain ⟨a1, a2, a3, a4⟩ := herase _ h rfl (fun _ h => h) rfl
            exact ⟨a1, a2, a3, fun _ => a4 h1, fun he => absurd he (a4 h1)⟩
        | domain _ | msg _ | choose _ | singular | plural =>
          simp only [Dir.isI18n, ↓reduceIte] at h
          obtain ⟨a1, a2, a3, a4, a5⟩ := ih r r' h
          exact ⟨a1, a2, a3, fun _ => a4 (Or.inr ⟨by omega, by omega⟩), a5⟩
        | strip | other _ =>
          simp only [Dir.isI18n, Bool.false_eq_true, ↓reduceIte] at h
          obtain ⟨a1, a2, a3, a4⟩ := herase _ h rfl (fun _ h => h) rfl
          exact ⟨a1, a2, a3, fun hq => a4 (by rcases hq with hq | hq <;> omega), (ih _ _ h).2.2.2.2⟩

/-- the first loop never raises when `ex` does not -/
theorem subLoop1_ok (ex : List Str → List Str → Except Err (List Message)) (hex : Total ex) :
    ∀ (fuel idx : Nat) (r : SubLoop), ∃ r', subLoop1 ex fuel idx r = .ok r'
  | 0, _, r => ⟨r, rfl⟩
  | fuel + 1, idx, r => by
      simp only [subLoop1]
      cases r.dirs[idx]? with
      | none => exact ⟨r, rfl⟩
      | some d =>
        cases d with
        | comment c | ctxt c =>
          dsimp only
          by_cases h1 : r.dirs.length = 1
          · obtain ⟨m, hm⟩ := hex _ _
            rw [if_pos h1, hm]
            exact subLoop1_ok ex hex fuel _ _
          · rw [if_neg h1]
            exact subLoop1_ok ex hex fuel _ _
        | domain _ | msg _ | choose _ | singular | plural =>
          simp only [Dir.isI18n, ↓reduceIte]; exact subLoop1_ok ex hex fuel _ _
        | strip | other _ =>
          simp only [Dir.isI18n, Bool.false_eq_true, ↓reduceIte]; exact subLoop1_ok ex hex fuel _ _

theorem covers_mono {ex : List Str → List Str → Except Err (List Message)} {a b : List Message}
    (h : Covers ex a) (hab : ∀ x ∈ a, x ∈ b) : Covers ex b := by
  obtain ⟨cs, xs, m, hm, hsub⟩ := h
  exact ⟨cs, xs, m, hm, fun x hx => hab x (hsub x hx)⟩

/-- the SUB branch of `Translator.extract`, given that the recursive call and every directive of the element
    return: it returns; its result holds what every directive the first loop leaves (`r'.dirs`) reports for the
    stacks that loop built, and the result of a recursive call when no directive is left -/
theorem exSub_run (cfg : Cfg) (st : Bool) (cs xs : List Str) (dirs : List Dir) (body : List TEvent)
    (hex : Total (fun cs' xs' => exList cfg (cfg.extractText && st) cs' xs' 0 body))
    (hE : ∀ d ∈ dirs, ∀ cs' xs', ∃ m, dirExtract cfg st cs' xs' body
      (fun cs' xs' => exList cfg (cfg.extractText && st) cs' xs' 0 body) d = .ok m) :
    ∃ out r', exSub cfg st cs xs (.sub dirs body) = .ok out ∧
      subLoop1 (fun cs' xs' => exList cfg (cfg.extractText && st) cs' xs' 0 body) dirs.length 0
        ⟨dirs, false, false, cs, xs, []⟩ = .ok r' ∧
      (∀ d ∈ r'.dirs, d ∈ dirs ∧ ∀ m, dirExtract cfg st r'.cs r'.xs body
        (fun cs' xs' => exList cfg (cfg.extractText && st) cs' xs' 0 body) d = .ok m → ∀ y ∈ m, y ∈ out) ∧
      (r'.dirs = [] → Covers (fun cs' xs' => exList cfg (cfg.extractText && st) cs' xs' 0 body) out) := by
  obtain ⟨r', hr'⟩ := subLoop1_ok _ hex dirs.length 0 ⟨dirs, false, false, cs, xs, []⟩
  obtain ⟨hd', _, _, _, he'⟩ := subLoop1_spec _ _ _ _ _ hr'
  obtain ⟨out2, hout2, hcov2⟩ := subLoop2_all cfg st r'.cs r'.xs body _ r'.dirs fun x hx => hE x (hd' x hx) _ _
  obtain ⟨m, hm⟩ := hex [] []
  -- with no directive left the recursive call has been made by the first loop, or is made now
  obtain ⟨out1, ho1, hcov1⟩ : ∃ out1, exSub cfg st cs xs (.sub dirs body) = .ok (out1 ++ out2) ∧
      (r'.dirs = [] → Covers (fun cs' xs' => exList cfg (cfg.extractText && st) cs' xs' 0 body) out1) := by
    by_cases hcond : (r'.dirs.isEmpty && !r'.inComment && !r'.inContext) = true
    · refine ⟨r'.out ++ m, ?_, fun _ => ⟨[], [], m, hm, fun x hx => List.mem_append_right _ hx⟩⟩
      simp only [exSub, hr', bind, Except.bind, hcond, ↓reduceIte, hm, pure, Except.pure, hout2]
    · refine ⟨r'.out, ?_, fun hemp => (he' hemp).resolve_right fun h => hcond (by simp [hemp, h.1, h.2])⟩
      simp only [exSub, hr', bind, Except.bind, hcond, Bool.false_eq_true, ↓reduceIte, pure, Except.pure, hout2]
  exact ⟨out1 ++ out2, r', ho1, hr', fun d hd => ⟨hd' d hd, fun m hm y hy => List.mem_append_right _ (hcov2 d hd m hm y hy)⟩,
    fun hemp => covers_mono (hcov1 hemp) fun x hx => List.mem_append_left _ hx⟩

/-- the SUB branch of `Translator.extract` for a SUB event without message directive: it
    never raises when the recursive call does not, and its result contains the result of
    one recursive call on the sub-stream (whatever the directives are and however the loop
    that edits the directive list under its own iterator skips some of them) -/
theorem exSub_cover (cfg : Cfg) (st : Bool) (cs xs : List Str) (dirs : List Dir) (body : List TEvent)
    (hne : hasExtractable dirs = false)
    (hex : Total (fun cs' xs' => exList cfg (cfg.extractText && st) cs' xs' 0 body)) :
    ∃ out, exSub cfg st cs xs (.sub dirs body) = .ok out ∧
      Covers (fun cs' xs' => exList cfg (cfg.extractText && st) cs' xs' 0 body) out := by
  have hoth : ∀ d ∈ dirs, ∀ cs' xs', dirExtract cfg st cs' xs' body
      (fun cs' xs' => exList cfg (cfg.extractText && st) cs' xs' 0 body) d = exList cfg (cfg.extractText && st) cs' xs' 0 body :=
    fun d hd _ _ => dirExtract_other _ _ _ _ _ _ d (by simpa using List.any_eq_false.mp hne d hd)
  obtain ⟨out, r', hout, hr', hall, hemp⟩ := exSub_run cfg st cs xs dirs body hex fun d hd cs' xs' => by
    rw [hoth d hd]; exact hex cs' xs'
  refine ⟨out, hout, ?_⟩
  cases hds : r'.dirs with
  | nil => exact hemp hds
  | cons d ds =>
    -- a directive is left: it extracts the sub-stream
    obtain ⟨hd, hin⟩ := hall d (by simp [hds])
    obtain ⟨m, hm⟩ := hex r'.cs r'.xs
    exact ⟨r'.cs, r'.xs, m, hm, hin m (by rw [hoth d hd]; exact hm)⟩

/-- every look-up is an extracted message id, or has no letter -/
def Incl (ms : List Message) (ls : List Lookup) : Prop :=
  ∀ l ∈ ls, l.msgid ∈ idsOf ms ∨ hasLetter l.msgid = false

theorem Incl.nil (ms : List Message) : Incl ms [] := fun _ h => by simp at h

theorem idsOf_mono {a b : List Message} (hab : ∀ x ∈ a, x ∈ b) {id : Str} (h : id ∈ idsOf a) : id ∈ idsOf b := by
  obtain ⟨m, hm, hid⟩ := List.mem_flatMap.mp h
  exact List.mem_flatMap.mpr ⟨m, hab m hm, hid⟩

theorem Incl.mono {a b : List Message} {ls : List Lookup} (ha : Incl a ls) (hab : ∀ x ∈ a, x ∈ b) : Incl b ls :=
  fun l hl => (ha l hl).imp (idsOf_mono hab) id

theorem Incl.append {a b : List Message} {la lb : List Lookup} (ha : Incl a la) (hb : Incl b lb) :
    Incl (a ++ b) (la ++ lb) := fun l hl =>
  (List.mem_append.mp hl).elim (ha.mono (fun _ => List.mem_append_left _) l) (hb.mono (fun _ => List.mem_append_right _) l)

theorem Incl.right {a b : List Message} {ls : List Lookup} (hb : Incl b ls) : Incl (a ++ b) ls := by
  have := Incl.append (Incl.nil a) hb; simpa using this

theorem Incl.cons {m : Message} {b : List Message} {ls : List Lookup} (hb : Incl b ls) : Incl (m :: b) ls :=
  Incl.right (a := [m]) hb

/-- the message `contextify` makes of a plain string (it never raises on one) -/
def ctxMsg (s : Str) (cs xs : List Str) : Message :=
  match xs with
  | [] => ⟨none, .one (some s), cs⟩
  | c :: _ => ⟨some pgettextName, .many [some c, some s], cs⟩

theorem contextify_none (s : Str) (cs xs : List Str) :
    contextify none (.one (some s)) cs xs = some (ctxMsg s cs xs) := by
  cases xs with
  | nil => rfl
  | cons c rest =>
    have : contextedGet none = some pgettextName := by decide
    simp [contextify, this, ctxMsg]

theorem ctxMsg_ids (s : Str) (cs xs : List Str) : s ∈ msgIds (ctxMsg s cs xs) := by
  cases xs <;> simp [ctxMsg, msgIds]

/-- what `Translator.extract` reports for one event met at depth `k` (`skipNext`) -/
def exEv (cfg : Cfg) (st : Bool) (cs xs : List Str) (k : Nat) : TEvent → Except Err (List Message)
  | .start t a => .ok (extractAttrs cfg (st && k == 0 && !excluded cfg t a) a)
  | .text s => .ok (if (st && k == 0 && !(strip s).isEmpty && hasLetter (strip s)) = true
      then [ctxMsg (strip s) (lastSlice cs) (lastSlice xs)] else [])
  | .expr _ cm => .ok (codeMessages cm)
  | .exec cm => .ok (codeMessages cm)
  | .sub d b => exSub cfg (st && k == 0) cs xs (.sub d b)
  | _ => .ok []

theorem bind_ok_id {ε α} (x : Except ε α) : (x.bind fun b => .ok b) = x := by cases x <;> rfl

theorem exList_cons (cfg : Cfg) (st : Bool) (cs xs : List Str) (k : Nat) (e : TEvent) (es : List TEvent) :
    exList cfg st cs xs k (e :: es) =
      (exEv cfg st cs xs k e).bind fun a => (exList cfg st cs xs (skipNext cfg k e) es).bind fun b => .ok (a ++ b) := by
  cases k with
  | succ k =>
    cases e with
    | start t a | sub d b => simp [exList, exEv, skipNext, skipStep, bind, Except.bind, pure, Except.pure]
    | expr i cm | exec cm => simp only [exList, exEv, skipNext, skipStep, bind, pure, Except.pure]; rfl
    | text s => simp [exList, exEv, skipNext, skipStep, bind, pure, Except.pure]; rfl
    | end_ t | other l => simp only [exList, exEv, skipNext, skipStep, Nat.add_one_ne_zero, ↓reduceIte]; exact (bind_ok_id _).symm
  | zero =>
    cases e with
    | start t a =>
      by_cases hx : excluded cfg t a = true <;>
        simp [exList, exEv, skipNext, hx, bind, Except.bind, pure, Except.pure]
    | text s =>
      -- the model extracts the rest first and may raise afterwards; `contextify_none`: it does not
      simp only [exList, exEv, skipNext, bind, pure, Except.pure, contextify_none]
      by_cases hc : (st && !(strip s).isEmpty && hasLetter (strip s)) = true
      · have hc' := hc
        simp only [Bool.and_eq_true] at hc'
        simp [hc'.1.1, hc'.1.2, hc'.2, Except.bind]
      · simp [hc]; rfl
    | sub d b => simp [exList, exEv, skipNext, bind, pure, Except.pure]
    | expr i cm | exec cm => simp only [exList, exEv, skipNext, bind, pure, Except.pure]; rfl
    | end_ t | other l => simp only [exList, exEv, skipNext, ↓reduceIte]; exact (bind_ok_id _).symm

theorem incl_attrs (cfg : Cfg) (ctx : Ctx) (ta st : Bool) (hta : ta = true → st = true) :
    ∀ (a : TAttrs), Incl (extractAttrs cfg st a) (lkAttrs cfg ctx ta a)
  | [] => by simp [lkAttrs, Incl.nil]
  | (n, .str v) :: rest => by
      have ih := incl_attrs cfg ctx ta st hta rest
      simp only [lkAttrs, List.flatMap_cons, lkAttr, extractAttrs] at ih ⊢
      refine Incl.append ?_ ih
      by_cases hc : (ta && cfg.includeAttrs.contains n.text && !(strip v).isEmpty) = true
      · have hta' : ta = true := by simp only [Bool.and_eq_true] at hc; exact hc.1.1
        have hst := hta hta'
        have hc' : (st && cfg.includeAttrs.contains n.text && !(strip v).isEmpty) = true := by
          simp only [Bool.and_eq_true] at hc ⊢; exact ⟨⟨hst, hc.1.2⟩, hc.2⟩
        simp only [hc, hc', ↓reduceIte]
        intro l hl
        simp only [List.mem_singleton] at hl
        subst hl
        left; simp [idsOf, msgIds]
      · simp only [hc, Bool.false_eq_true, ↓reduceIte]
        exact Incl.nil _
  | (n, .parts ps) :: rest => by
      have ih := incl_attrs cfg ctx ta st hta rest
      simp only [lkAttrs, List.flatMap_cons, lkAttr, extractAttrs, List.nil_append] at ih ⊢
      exact Incl.right ih

theorem hasExtractable_perm {a b : List Dir} (h : a.Perm b) : hasExtractable a = hasExtractable b := by
  simp only [hasExtractable]
  cases ha : a.any Dir.isExtractable <;> cases hb : b.any Dir.isExtractable <;> try rfl
  · simp only [List.any_eq_false, List.any_eq_true] at ha hb
    obtain ⟨d, hd, hde⟩ := hb
    exact absurd hde (by simpa using ha d (h.symm.subset hd))
  · simp only [List.any_eq_false, List.any_eq_true] at ha hb
    obtain ⟨d, hd, hde⟩ := ha
    exact absurd hde (by simpa using hb d (h.subset hd))

/-- `ms` covers the look-ups `lk ctx tt ta` of the pass, for every context and all flags that are on only under
    `extract_text=True`, given that extraction searched text iff the instance extracts it (`st = cfg.extractText`) -/
def Joint (cfg : Cfg) (st : Bool) (ms : List Message) (lk : Ctx → Bool → Bool → List Lookup) : Prop :=
  st = cfg.extractText → ∀ (ctx : Ctx) (tt ta : Bool), (tt = true → cfg.extractText = true) →
    (ta = true → cfg.extractText = true) → Incl ms (lk ctx tt ta)

def Has (ms : List Message) (ids : List Str) : Prop := ∀ id ∈ ids, id ∈ idsOf ms

theorem Has.nil (ms : List Message) : Has ms [] := fun _ h => by simp at h

theorem Has.mono {a b : List Message} {ids : List Str} (ha : Has a ids) (hab : ∀ x ∈ a, x ∈ b) : Has b ids :=
  fun id hid => idsOf_mono hab (ha id hid)

theorem Has.append {a b : List Message} {ia ib : List Str} (ha : Has a ia) (hb : Has b ib) : Has (a ++ b) (ia ++ ib) :=
  fun id hid =>
  (List.mem_append.mp hid).elim (ha.mono (fun _ => List.mem_append_left _) id) (hb.mono (fun _ => List.mem_append_right _) id)

def subIds (ids : List Dir → List TEvent → List Str) : List TEvent → List Str
  | [] => []
  | .sub ds b :: es => ids ds b ++ subIds ids es
  | _ :: es => subIds ids es

/-- the SUB branch of `Translator.extract` returns on `.sub ds b` for all its arguments, covers the look-ups of the
    pass inside it, holds the ids `ids` and the gettext calls of the code inside it.  `ex_lk_events` takes this for every SUB event of a stream as hypothesis,
    with `ids` saying what each one must contribute (`subIds`): nothing for `lookups_subset_extract_noMsg`,
    `msgIdsWEv` for the wide form -/
def SubOK (cfg : Cfg) (ds : List Dir) (b : List TEvent) (ids : List Str) : Prop :=
  ∀ (st : Bool) (cs xs : List Str), ∃ ms, exSub cfg st cs xs (.sub ds b) = .ok ms ∧
    ((cfg.extractText && st) = cfg.extractText → ∀ (ctx : Ctx) (ta : Bool), (ta = true → cfg.extractText = true) →
      Incl ms (lkSub cfg ctx ta (.sub ds b))) ∧ Has ms ids ∧ HasCode ms (codeSub cfg (.sub ds b))

theorem Joint.append {cfg : Cfg} {st : Bool} {a b : List Message} {la lb : Ctx → Bool → Bool → List Lookup}
    (ha : Joint cfg st a la) (hb : Joint cfg st b lb) : Joint cfg st (a ++ b) (fun ctx tt ta => la ctx tt ta ++ lb ctx tt ta) :=
  fun hst ctx tt ta htt hta => (ha hst ctx tt ta htt hta).append (hb hst ctx tt ta htt hta)

theorem Joint.nil (cfg : Cfg) (st : Bool) (ms : List Message) : Joint cfg st ms (fun _ _ _ => []) :=
  fun _ _ _ _ _ _ => Incl.nil ms

theorem subIds_cons (ids : List Dir → List TEvent → List Str) (e : TEvent) (es : List TEvent) :
    subIds ids (e :: es) = subIds ids [e] ++ subIds ids es := by
  cases e <;> simp [subIds]

/-- one event: what extraction reports for it contains the look-ups the pass makes for it at
    the same depth, the ids of a SUB event, and the gettext calls of its code -/
theorem exEv_lk (cfg : Cfg) (ids : List Dir → List TEvent → List Str) (e : TEvent)
    (h : ∀ ds b, e = .sub ds b → SubOK cfg ds b (ids ds b)) (k : Nat) (st : Bool) (cs xs : List Str) :
    ∃ ms, exEv cfg st cs xs k e = .ok ms ∧ Joint cfg st ms (fun ctx tt ta => lkEv cfg ctx tt ta k e) ∧
      Has ms (subIds ids [e]) ∧ HasCode ms (codeEv cfg e) := by
  cases e with
  | sub d b =>
    obtain ⟨ms, hms, hj, hh, hc⟩ := h d b rfl (st && k == 0) cs xs
    refine ⟨ms, hms, ?_, by simpa [subIds] using hh, hc⟩
    cases k with
    | succ k => exact Joint.nil _ _ _
    | zero => exact fun hst ctx _ ta _ hta => hj (by simp [hst]) ctx ta hta
  | start t a =>
    refine ⟨_, rfl, ?_, Has.nil _, hasCode_attrs cfg _ a⟩
    cases k with
    | succ k => exact Joint.nil _ _ _
    | zero =>
      intro hst ctx tt ta htt hta
      by_cases hx : excluded cfg t a = true
      · simp only [lkEv, hx, ↓reduceIte]; exact Incl.nil _
      · simp only [lkEv, hx, Bool.false_eq_true, ↓reduceIte, Bool.not_false, Bool.and_true, beq_self_eq_true]
        exact incl_attrs cfg ctx ta st (fun h' => by rw [hst]; exact hta h') a
  | text t =>
    refine ⟨_, rfl, ?_, Has.nil _, HasCode.nil _⟩
    cases k with
    | succ k => exact Joint.nil _ _ _
    | zero =>
      intro hst ctx tt ta htt hta l hl
      simp only [lkEv] at hl
      by_cases hlk : (tt && !(strip t).isEmpty) = true
      · simp only [hlk, ↓reduceIte, List.mem_singleton] at hl
        subst hl
        simp only [Bool.and_eq_true] at hlk
        by_cases hlet : hasLetter (strip t) = true
        · left
          have hst' : st = true := by rw [hst]; exact htt hlk.1
          simp [hst', hlk.2, hlet, idsOf, ctxMsg_ids]
        · exact Or.inr (by simpa using hlet)
      · simp [hlk] at hl
  | expr i cm | exec cm => exact ⟨_, rfl, by cases k <;> exact Joint.nil _ _ _, Has.nil _, hasCode_codeMessages cm⟩
  | end_ t | other l => exact ⟨_, rfl, by cases k <;> exact Joint.nil _ _ _, Has.nil _, HasCode.nil _⟩

/-- The simultaneous induction over `Translator.extract` and `Translator.__call__` along a
    stream, given its SUB events: extraction succeeds and contains the look-ups of the pass
    (the skip counter is shared) and the ids of the SUB events. -/
theorem ex_lk_events (cfg : Cfg) (ids : List Dir → List TEvent → List Str) : ∀ (s : List TEvent),
    (∀ ds b, TEvent.sub ds b ∈ s → SubOK cfg ds b (ids ds b)) → ∀ (skip : Nat) (st : Bool) (cs xs : List Str),
    ∃ ms, exList cfg st cs xs skip s = .ok ms ∧
      Joint cfg st ms (fun ctx tt ta => lkList cfg ctx tt ta skip s) ∧ Has ms (subIds ids s) ∧ HasCode ms (codeList cfg s)
  | [], _, skip, st, cs, xs => ⟨[], rfl, by cases skip <;> exact Joint.nil _ _ _, Has.nil _, HasCode.nil _⟩
  | e :: es, h, skip, st, cs, xs => by
      obtain ⟨m0, hm0, hj0, hh0, hc0⟩ := exEv_lk cfg ids e (fun ds b he => h ds b (he ▸ List.mem_cons_self ..)) skip st cs xs
      obtain ⟨ms, hms, hj, hh, hc⟩ := ex_lk_events cfg ids es (fun ds b hm => h ds b (List.mem_cons_of_mem _ hm))
        (skipNext cfg skip e) st cs xs
      refine ⟨m0 ++ ms, by rw [exList_cons, hm0, hms]; rfl, ?_, by rw [subIds_cons]; exact hh0.append hh,
        by rw [codeList_cons]; exact hc0.append hc⟩
      simp only [lkList_cons]
      exact Joint.append hj0 hj

theorem subOK_noext (cfg : Cfg) (ids : List Dir → List TEvent → List Str) (dirs : List Dir) (body : List TEvent)
    (hne : hasExtractable dirs = false) (ih : ∀ ds b, TEvent.sub ds b ∈ body → SubOK cfg ds b (ids ds b)) :
    SubOK cfg dirs body (subIds ids body) := by
  intro st cs xs
  have ihl := ex_lk_events cfg ids body ih
  have hex : Total (fun cs' xs' => exList cfg (cfg.extractText && st) cs' xs' 0 body) := fun cs' xs' => by
    obtain ⟨m, hm, _⟩ := ihl 0 (cfg.extractText && st) cs' xs'; exact ⟨m, hm⟩
  obtain ⟨out, hout, cs', xs', m, hm, hsub⟩ := exSub_cover cfg st cs xs dirs body hne hex
  obtain ⟨m', hm', hincl, hhas, hcode⟩ := ihl 0 (cfg.extractText && st) cs' xs'
  have hmm : m' = m := Except.ok.inj (hm'.symm.trans hm)
  subst hmm
  refine ⟨out, hout, fun hst ctx ta hta => ?_, Has.mono hhas hsub, ?_⟩
  · simp only [lkSub]
    refine Incl.mono (hincl hst _ _ _ ?_ ?_) hsub
    · intro ht; simp only [Bool.and_eq_true] at ht; exact ht.1
    · intro ht; simp only [Bool.and_eq_true] at ht; exact ht.1
  · simp only [codeSub, hne, Bool.false_eq_true, ↓reduceIte]
    exact HasCode.mono hcode hsub

theorem noMsgList_iff : ∀ (l : List TEvent), noMsgList l = true ↔ ∀ e ∈ l, noMsgEv e = true
  | [] => by simp [noMsgList]
  | e :: es => by simp [noMsgList, noMsgList_iff es]

theorem noMsg_subOK (cfg : Cfg) (ds : List Dir) (b : List TEvent) (h : noMsgEv (.sub ds b) = true) :
    SubOK cfg ds b [] := by
  induction ds, b using TEvent.sub_induction with
  | step ds b ih =>
    simp only [noMsgEv, Bool.and_eq_true, Bool.not_eq_true'] at h
    have := subOK_noext cfg (fun _ _ => []) ds b h.1 fun ds' b' hm => ih ds' b' hm ((noMsgList_iff b).mp h.2 _ hm)
    intro st cs xs
    obtain ⟨ms, hms, hincl, _, hc⟩ := this st cs xs
    exact ⟨ms, hms, hincl, Has.nil ms, hc⟩

theorem ex_lk_list (cfg : Cfg) (s : List TEvent) (h : noMsgList s = true) (skip : Nat) (st : Bool) (cs xs : List Str) :
    ∃ ms, exList cfg st cs xs skip s = .ok ms ∧ Joint cfg st ms (fun ctx tt ta => lkList cfg ctx tt ta skip s) := by
  obtain ⟨ms, hms, hj, _⟩ := ex_lk_events cfg (fun _ _ => []) s
    (fun ds b hm => noMsg_subOK cfg ds b ((noMsgList_iff s).mp h _ hm)) skip st cs xs
  exact ⟨ms, hms, hj⟩

/-- look-ups ⊆ extraction on streams none of whose SUB events carries a message directive (`noMsgList`) -/
theorem lookups_subset_extract_noMsg (cfg : Cfg) (ctx : Ctx) (s : TStream) (h : noMsgList s = true) :
    ∃ ms, extract cfg s = .ok ms ∧
      ∀ l ∈ lookups cfg ctx true true s, hasLetter l.msgid = true → l.msgid ∈ idsOf ms := by
  obtain ⟨ms, hms, hj⟩ := ex_lk_list cfg s h 0 cfg.extractText [] []
  refine ⟨ms, hms, fun l hl hlet => ?_⟩
  have := hj rfl ctx (cfg.extractText && true) (cfg.extractText && true) (by simp) (by simp) l (by simpa [lookups] using hl)
  rcases this with h1 | h1
  · exact h1
  · rw [hlet] at h1; cases h1

end Genshi.I18n
