/-
  C19 — look-ups ⊆ extraction, wide form: message directives whose content holds
  directive-carrying elements (SUB events), message directives that share their element with
  other directives (`i18n:comment`, `i18n:ctxt`, `i18n:domain`, `py:if` …), and `i18n:choose`
  inside the simultaneous induction.  At the end its projections: `lookups_subset_extract_*`, `code_calls_extracted`.

  What the pass looks up inside a directive-carrying element of a message / inside a branch of
  a plural choice is not extracted (findings C19-fragments, C19-sub-attrs); the theorem is
  about streams where those look-ups hold no letter (`quietEv`).
-/
import Genshi.Lemmas.I18nChooseLookup
namespace Genshi.I18n
open Genshi

theorem forall_mem_bracket {α} {P : α → Prop} {a z : α} {c : List α} (ha : P a) (hc : ∀ e ∈ c, P e) (hz : P z) :
    ∀ e ∈ a :: (c ++ [z]), P e := by
  intro e he
  simp only [List.mem_cons, List.mem_append, List.not_mem_nil, or_false] at he
  rcases he with rfl | he | rfl
  · exact ha
  · exact hc e he
  · exact hz

theorem evMessages_not_start (cfg : Cfg) (st : Bool) (e : TEvent) (h : e.isStart = false) :
    evMessages cfg st e = exprCode e := by
  cases e <;> simp_all [evMessages, exprCode, TEvent.isStart]

/-- no included plain attribute value with a letter -/
def quietAttrs (cfg : Cfg) (a : TAttrs) : Bool :=
  a.all fun p => match p.2 with
    | .str v => !cfg.includeAttrs.contains p.1.text || !hasLetter (strip v)
    | .parts _ => true

mutual
  /-- text without letter, no included attribute value with a letter, at any depth -/
  def quietEv (cfg : Cfg) : TEvent → Bool
    | .text s => !hasLetter (strip s)
    | .start _ a => quietAttrs cfg a
    | .sub _ b => quietList cfg b
    | _ => true
  def quietList (cfg : Cfg) : List TEvent → Bool
    | [] => true
    | e :: es => quietEv cfg e && quietList cfg es
end

theorem quiet_attrs (cfg : Cfg) (ctx : Ctx) (ta : Bool) (a : TAttrs) (h : quietAttrs cfg a = true) :
    ∀ l ∈ lkAttrs cfg ctx ta a, hasLetter l.msgid = false := by
  intro l hl
  obtain ⟨⟨n, v⟩, hp, hl⟩ := List.mem_flatMap.mp hl
  have hq := List.all_eq_true.mp h _ hp
  cases v with
  | parts ps => simp [lkAttr] at hl
  | str v =>
    by_cases hc : (ta && cfg.includeAttrs.contains n.text && !(strip v).isEmpty) = true
    · simp only [lkAttr, hc, ↓reduceIte, List.mem_singleton] at hl
      subst hl
      simp only [Bool.and_eq_true] at hc
      have hin := hc.1.2
      simp only [List.contains_eq_mem, decide_eq_true_eq] at hin
      simpa [hin] using hq
    · simp only [lkAttr, hc, Bool.false_eq_true, ↓reduceIte, List.not_mem_nil] at hl

theorem quiet_list (cfg : Cfg) (s : List TEvent) : quietList cfg s = true → ∀ (ctx : Ctx) (tt ta : Bool) (skip : Nat),
    ∀ l ∈ lkList cfg ctx tt ta skip s, hasLetter l.msgid = false := by
  induction s using stream_induction with
  | nil => intro _ _ _ _ skip l hl; cases skip <;> simp [lkList] at hl
  | cons e es ihe ih =>
    intro h ctx tt ta skip l hl
    simp only [quietList, Bool.and_eq_true] at h
    rw [lkList_cons, List.mem_append] at hl
    refine hl.elim (fun hl => ?_) (ih h.2 ctx tt ta _ l)
    cases skip with
    | succ k => simp [lkEv] at hl
    | zero =>
      cases e with
      | start t a =>
        by_cases hx : excluded cfg t a = true
        · simp [lkEv, hx] at hl
        · exact quiet_attrs cfg ctx ta a h.1 l (by simpa [lkEv, hx] using hl)
      | text s =>
        by_cases hc : (tt && !(strip s).isEmpty) = true
        · simp only [lkEv, hc, ↓reduceIte, List.mem_singleton] at hl
          subst hl; simpa [quietEv] using h.1
        · simp [lkEv, hc] at hl
      | sub d b => exact ihe d b rfl h.1 _ _ _ 0 l hl
      | _ => simp [lkEv] at hl

theorem Incl.letterless {ms : List Message} {ls : List Lookup} (h : ∀ l ∈ ls, hasLetter l.msgid = false) : Incl ms ls :=
  fun l hl => Or.inr (h l hl)

/-- an event of the content of a message (`tt = false`) or of a branch of a plural choice
    (`tt = true`): text that is looked up has no letter; a directive-carrying element is quiet
    and holds no message directive (findings C19-fragments, C19-sub-attrs) -/
def evOK (cfg : Cfg) (tt : Bool) : TEvent → Bool
  | .text s => !tt || !hasLetter (strip s)
  | .sub ds b => quietList cfg b && noMsgEv (.sub ds b)
  | _ => true

theorem evOK_mono (cfg : Cfg) (tt : Bool) (e : TEvent) (h : evOK cfg true e = true) : evOK cfg tt e = true := by
  cases e <;> simp_all [evOK]

/-- the look-ups of the pass in such a list are covered by what the loops of the directive
    `extract` methods report for it (attributes of its START events) -/
theorem incl_evs (cfg : Cfg) (ctx : Ctx) (tt ta st : Bool) (hta : ta = true → st = true) :
    ∀ (evs : List TEvent) (skip : Nat), (∀ e ∈ evs, evOK cfg tt e = true) →
      Incl (evs.flatMap (evMessages cfg st)) (lkList cfg ctx tt ta skip evs)
  | [], skip, _ => by cases skip <;> exact Incl.nil _
  | e :: es, skip, h => by
      rw [lkList_cons, List.flatMap_cons]
      refine Incl.append ?_ (incl_evs cfg ctx tt ta st hta es _ fun x hx => h x (List.mem_cons_of_mem _ hx))
      have he := h e (List.mem_cons_self ..)
      cases skip with
      | succ k => exact Incl.nil _
      | zero =>
        cases e with
        | start t a =>
          by_cases hx : excluded cfg t a = true
          · simp only [lkEv, hx, ↓reduceIte]; exact Incl.nil _
          · simp only [lkEv, hx, Bool.false_eq_true, ↓reduceIte]; exact incl_attrs cfg ctx ta st hta a
        | sub d b =>
          simp only [evOK, Bool.and_eq_true] at he
          exact Incl.letterless (quiet_list cfg b he.1 _ _ _ 0)
        | text s =>
          refine Incl.letterless fun l hl => ?_
          by_cases hc : (tt && !(strip s).isEmpty) = true
          · simp only [lkEv, hc, ↓reduceIte, List.mem_singleton] at hl
            subst hl
            simp only [Bool.and_eq_true] at hc
            simpa [evOK, hc.1] using he
          · simp [lkEv, hc] at hl
        | _ => exact Incl.nil _

theorem evOK_noMsg (cfg : Cfg) (tt : Bool) (e : TEvent) (h : evOK cfg tt e = true) : noMsgEv e = true := by
  cases e with
  | sub d b => simp only [evOK, Bool.and_eq_true] at h; exact h.2
  | _ => simp [noMsgEv]

theorem subLoop1_keeps (ex : List Str → List Str → Except Err (List Message)) :
    ∀ (fuel idx : Nat) (r r' : SubLoop), subLoop1 ex fuel idx r = .ok r' →
      ∀ d ∈ r.dirs, d.isExtractable = true → d ∈ r'.dirs :=
  fun fuel idx r r' h => (subLoop1_spec ex fuel idx r r' h).2.2.1

/-- **the SUB branch of `Translator.extract` for an element with one message directive** `d`
    (and any other directives around it): if the sub-stream can be extracted as a plain stream
    and by the directive, the result holds what the directive reports for some comment /
    context stack. -/
theorem exSub_one (cfg : Cfg) (st : Bool) (cs xs : List Str) (ds : List Dir) (body : List TEvent) (d : Dir)
    (hd : d.isExtractable = true) (hmem : d ∈ ds) (hone : ∀ x ∈ ds, x.isExtractable = true → x = d)
    (hex : Total (fun cs' xs' => exList cfg (cfg.extractText && st) cs' xs' 0 body))
    (hE : ∀ cs' xs', ∃ m, dirExtract cfg st cs' xs' body
      (fun cs' xs' => exList cfg (cfg.extractText && st) cs' xs' 0 body) d = .ok m) :
    ∃ out cs' xs' m, exSub cfg st cs xs (.sub ds body) = .ok out ∧
      dirExtract cfg st cs' xs' body (fun cs' xs' => exList cfg (cfg.extractText && st) cs' xs' 0 body) d = .ok m ∧
      ∀ y ∈ m, y ∈ out := by
  obtain ⟨out, r', hout, hr', hall, _⟩ := exSub_run cfg st cs xs ds body hex fun x hx cs' xs' => by
    by_cases hxe : x.isExtractable = true
    · rw [hone x hx hxe]; exact hE _ _
    · rw [dirExtract_other _ _ _ _ _ _ x (by simpa using hxe)]; exact hex _ _
  obtain ⟨m, hm⟩ := hE r'.cs r'.xs
  exact ⟨out, r'.cs, r'.xs, m, hout, hm, (hall d (subLoop1_keeps _ _ _ _ _ hr' d hmem hd)).2 m hm⟩

/-- `<t i18n:msg="ps">content</t>` (first disjunct) or `<i18n:msg params="ps">content</i18n:msg>`
    whose content neither starts nor ends with an element (finding C19-msg-element-first-child):
    the content is any event list whose directive-carrying elements are quiet (findings
    C19-fragments, C19-sub-attrs) and whose buffer can be built (as many parameters as
    expressions) -/
def GoodMsg (cfg : Cfg) (ps : List Str) (body : List TEvent) : Prop :=
  (∃ t a rest last B, body = .start t a :: rest ∧ rest.getLast? = some last ∧ last.isEnd = true ∧
      (∀ e ∈ rest.dropLast, evOK cfg false e = true) ∧ mbAppendList (MB.new ps) rest.dropLast = .ok B) ∨
  (∃ first rest B, body = first :: rest ∧ first.isStart = false ∧ (rest.getLast?.getD first).isEnd = false ∧
      (rest.getLast?.getD first).isStart = false ∧ (∀ e ∈ first :: rest, evOK cfg false e = true) ∧
      mbAppendList (MB.new ps) (first :: rest) = .ok B)

theorem isEnd_evOK (cfg : Cfg) (tt : Bool) (e : TEvent) (h : e.isEnd = true) : evOK cfg tt e = true := by
  cases e <;> simp_all [TEvent.isEnd, evOK]

theorem isEnd_evMessages (cfg : Cfg) (st : Bool) (e : TEvent) (h : e.isEnd = true) : evMessages cfg st e = [] := by
  cases e <;> simp_all [TEvent.isEnd, evMessages]

theorem goodMsg_noMsg (cfg : Cfg) (ps : List Str) (body : List TEvent) (hg : GoodMsg cfg ps body) :
    noMsgList body = true := by
  rw [noMsgList_iff]
  rcases hg with ⟨t, a, rest, last, B, rfl, hl, hend, hok, _⟩ | ⟨first, rest, B, rfl, _, _, _, hok, _⟩
  · rw [dropLast_append_last rest last hl]
    exact forall_mem_bracket rfl (fun e he => evOK_noMsg cfg false e (hok e he))
      (evOK_noMsg cfg false _ (isEnd_evOK cfg false _ hend))
  · exact fun e he => evOK_noMsg cfg false e (hok e he)

/-- the events of a message directive that go through the loop of `MsgDirective.extract`: all
    but the closing END of the attribute form -/
def msgContent : List TEvent → List TEvent
  | .start t a :: rest => .start t a :: rest.dropLast
  | body => body

theorem codeSub_msg (cfg : Cfg) (ps : List Str) (first : TEvent) (rest : List TEvent) :
    codeSub cfg (.sub [.msg ps] (first :: rest)) = (msgContent (first :: rest)).flatMap evCode := by
  cases first <;> simp [codeSub, hasExtractable, Dir.isExtractable, msgContent, evCode]

/-- what `MsgDirective.extract` reports for such an element, the id `MsgDirective.__call__`
    looks up for it, and the look-ups of the pass inside it -/
theorem goodMsg_extract (cfg : Cfg) (ps : List Str) (body : List TEvent) (hg : GoodMsg cfg ps body)
    (st : Bool) (cs xs : List Str) :
    ∃ ms id, msgExtract cfg ps st cs xs body = .ok ms ∧ msgId ps body = .ok (some id) ∧ id ∈ idsOf ms ∧
      (∀ (ctx : Ctx) (ta : Bool), (ta = true → st = true) → Incl ms (lkList cfg ctx false ta 0 body)) ∧
      ∃ m, ms = (msgContent body).flatMap (evMessages cfg st) ++ [m] := by
  rcases hg with ⟨t, a, rest, last, B, rfl, hl, hend, hok, hb⟩ | ⟨first, rest, B, rfl, hf, hle, hls, hok, hB⟩
  · -- attribute form
    obtain ⟨init, rfl⟩ : ∃ init, rest = init ++ [last] := ⟨_, dropLast_append_last rest last hl⟩
    simp only [List.dropLast_concat] at hok hb
    have hflat : (TEvent.start t a :: (init ++ [last])).flatMap (evMessages cfg st) =
        extractAttrs cfg st a ++ init.flatMap (evMessages cfg st) := by
      simp only [List.flatMap_cons, List.flatMap_append, List.flatMap_nil, isEnd_evMessages cfg st last hend,
        List.append_nil]
      rfl
    refine ⟨_, B.format, by rw [msgExtract_attr _ _ _ _ _ _ _ _ (by simp), List.dropLast_concat, hb]; rfl, ?_,
      by simp [idsOf, ctxMsg_ids], fun ctx ta hta => ?_, ctxMsg B.format (lastSlice cs) (lastSlice xs),
      by simp [msgContent, evMessages]⟩
    · rw [msgId_eq ps _ (by simp), (msgBody_attr t a init last hend).1, hb]; rfl
    · exact Incl.mono (incl_evs cfg ctx false ta st hta (.start t a :: (init ++ [last])) 0
        (forall_mem_bracket rfl hok (isEnd_evOK cfg false _ hend))) fun x hx => List.mem_append_left _ (hflat ▸ hx)
  · -- element form
    have hbody := (msgBody_plain first rest hf (by rw [List.getLast?_cons, Option.map_some, hle])).1
    have hcont : msgContent (first :: rest) = first :: rest := by
      cases first <;> first | rfl | simp [TEvent.isStart] at hf
    have hid : msgId ps (first :: rest) = .ok (some B.format) := by rw [msgId_eq ps _ (by simp), hbody, hB]; rfl
    obtain ⟨s, hs⟩ : ∃ s, first :: rest = s ++ [rest.getLast?.getD first] :=
      ⟨_, dropLast_append_last _ _ List.getLast?_cons⟩
    generalize rest.getLast?.getD first = last at hs hle hls
    have hhead : (s ++ [last]).head?.map TEvent.isStart = some false := by rw [← hs]; simp [hf]
    rw [hcont]
    rw [hs] at hok hB hid ⊢
    refine ⟨_, B.format, by rw [msgExtract_elem _ _ _ _ _ _ _ hhead, hB]; rfl, hid, by simp [idsOf, ctxMsg_ids],
      fun ctx ta hta => Incl.mono (incl_evs cfg ctx false ta st hta _ 0 hok) fun x hx => ?_,
      ctxMsg B.format (lastSlice cs) (lastSlice xs), by simp [evMessages_not_start cfg st _ hls]⟩
    exact List.mem_append_left _ (by simpa [evMessages_not_start cfg st _ hls] using hx)

/-- `<t i18n:choose="n; ps"> pre <ts i18n:singular="">cS</ts> mid <tp i18n:plural="">cP</tp> post </t>`:
    white space, comments and code blocks outside the branches (finding C19-choose-outer-text);
    in the branches text without letter outside expressions and quiet directive-carrying
    elements (findings C19-fragments, C19-sub-attrs); both buffers can be built -/
def GoodChoose (cfg : Cfg) (ps : List Str) (body : List TEvent) : Prop :=
  ∃ (t t' ts ts' tp tp' : QName) (a as ap : TAttrs) (pre mid post cS cP : List TEvent) (C D : MB),
    body = .start t a :: ((pre ++ .sub [.singular] (.start ts as :: (cS ++ [.end_ ts'])) ::
        (mid ++ .sub [.plural] (.start tp ap :: (cP ++ [.end_ tp'])) :: post)) ++ [.end_ t']) ∧
    (∀ e ∈ pre, outerEv e = true) ∧ (∀ e ∈ mid, outerEv e = true) ∧ (∀ e ∈ post, outerEv e = true) ∧
    (∀ e ∈ cS, evOK cfg true e = true) ∧ (∀ e ∈ cP, evOK cfg true e = true) ∧
    mbAppendList (MB.new ps) cS = .ok C ∧ mbAppendList (MB.new ps) cP = .ok D ∧ C.stack ≠ [] ∧ D.stack ≠ []

/-- an event between the tags of the choose element -/
def InnerEv (cfg : Cfg) (e : TEvent) : Prop :=
  outerEv e = true ∨ ∃ (d : Dir) (t t' : QName) (a : TAttrs) (c : List TEvent), (d = .singular ∨ d = .plural) ∧
    e = .sub [d] (.start t a :: (c ++ [.end_ t'])) ∧ ∀ x ∈ c, evOK cfg true x = true

theorem outer_noMsg (e : TEvent) (h : outerEv e = true) : noMsgEv e = true := by
  cases e <;> simp_all [outerEv, noMsgEv]

theorem inner_noMsg (cfg : Cfg) (e : TEvent) (h : InnerEv cfg e) : noMsgEv e = true := by
  rcases h with h | ⟨d, t, t', a, c, hd, rfl, hc⟩
  · exact outer_noMsg e h
  · have hB : noMsgList (.start t a :: (c ++ [.end_ t'])) = true :=
      (noMsgList_iff _).mpr (forall_mem_bracket rfl (fun e he => evOK_noMsg cfg true e (hc e he)) rfl)
    rcases hd with rfl | rfl <;> simp [noMsgEv, hasExtractable, Dir.isExtractable, hB]

theorem lkList_outer (cfg : Cfg) (ctx : Ctx) (ta : Bool) (e : TEvent) (he : outerEv e = true) (skip : Nat) (tl : List TEvent) :
    lkList cfg ctx false ta skip (e :: tl) = lkList cfg ctx false ta skip tl := by
  cases skip with
  | succ k => cases e <;> simp_all [outerEv, lkList, skipStep]
  | zero => cases e <;> simp_all [outerEv, lkList]

theorem chooseMsgs_incl (cfg : Cfg) (ctx : Ctx) (st ta : Bool) (hta : ta = true → st = true) (t' : QName) :
    ∀ (inner : List TEvent), (∀ e ∈ inner, InnerEv cfg e) → ∀ skip,
      Incl (inner.flatMap (chooseEvMsgs cfg st)) (lkList cfg ctx false ta skip (inner ++ [.end_ t']))
  | [], _, skip => by cases skip <;> simp [lkList, Incl.nil]
  | e :: es, hin, skip => by
      have ih := chooseMsgs_incl cfg ctx st ta hta t' es fun x hx => hin x (List.mem_cons_of_mem _ hx)
      simp only [List.flatMap_cons, List.cons_append]
      rcases hin e (List.mem_cons_self ..) with ho | ⟨d, t, tE, a, c, hd, rfl, hc⟩
      · rw [lkList_outer cfg ctx ta e ho]; exact Incl.right (ih skip)
      · rw [lkList_cons]
        cases skip with
        | succ k => exact Incl.right (ih _)
        | zero =>
          refine Incl.append ?_ (ih 0)
          simp only [lkEv, lkSub, reorder_stable [d] (by rcases hd with rfl | rfl <;> rfl), List.nil_append, chooseEvMsgs,
            List.dropLast_concat]
          have hokall : ∀ e ∈ TEvent.start t a :: (c ++ [.end_ tE]),
              evOK cfg (cfg.extractText && !hasExtractable [d]) e = true :=
            forall_mem_bracket rfl (fun e he => evOK_mono cfg _ e (hc e he)) rfl
          have := incl_evs cfg ctx (cfg.extractText && !hasExtractable [d]) (cfg.extractText && ta) st
            (fun h' => hta (by simp only [Bool.and_eq_true] at h'; exact h'.2)) _ 0 hokall
          simpa [evMessages] using this

/-- the look-ups of the pass between the tags of a choose element are covered by what the loop
    of `ChooseDirective.extract` reports -/
theorem chooseLoop_incl (cfg : Cfg) (ctx : Ctx) (st ta : Bool) (hta : ta = true → st = true) (t' : QName) :
    ∀ (inner : List TEvent) (sb pb : MB) (r : List Message × MB × MB), (∀ e ∈ inner, InnerEv cfg e) →
      chooseLoop cfg st sb pb inner = .ok r →
      ∀ skip, Incl r.1 (lkList cfg ctx false ta skip (inner ++ [.end_ t'])) := by
  intro inner sb pb r hin h
  have hseen := chooseLoop_seen cfg st inner sb pb fun e he =>
    (hin e he).imp id fun ⟨d, t, tE, a, c, hd, he, _⟩ => ⟨d, t, tE, a, c, hd, he⟩
  simp only [h, toOption_ok, eq_comm (a := some r), Option.bind_eq_some_iff] at hseen
  obtain ⟨_, _, _, _, hr⟩ := hseen
  rw [← Option.some.inj hr]
  exact chooseMsgs_incl cfg ctx st ta hta t' inner hin

theorem goodChoose_inner (cfg : Cfg) (ts ts' tp tp' : QName) (as ap : TAttrs) (pre mid post cS cP : List TEvent)
    (hpre : ∀ e ∈ pre, outerEv e = true) (hmid : ∀ e ∈ mid, outerEv e = true) (hpost : ∀ e ∈ post, outerEv e = true)
    (hcS : ∀ e ∈ cS, evOK cfg true e = true) (hcP : ∀ e ∈ cP, evOK cfg true e = true) :
    ∀ e ∈ pre ++ .sub [.singular] (.start ts as :: (cS ++ [.end_ ts'])) ::
        (mid ++ .sub [.plural] (.start tp ap :: (cP ++ [.end_ tp'])) :: post), InnerEv cfg e := by
  intro e he
  simp only [List.mem_append, List.mem_cons] at he
  rcases he with he | rfl | he | rfl | he
  · exact Or.inl (hpre e he)
  · exact Or.inr ⟨.singular, ts, ts', as, cS, Or.inl rfl, rfl, hcS⟩
  · exact Or.inl (hmid e he)
  · exact Or.inr ⟨.plural, tp, tp', ap, cP, Or.inr rfl, rfl, hcP⟩
  · exact Or.inl (hpost e he)

theorem goodChoose_noMsg (cfg : Cfg) (ps : List Str) (body : List TEvent) (hg : GoodChoose cfg ps body) :
    noMsgList body = true := by
  obtain ⟨t, t', ts, ts', tp, tp', a, as, ap, pre, mid, post, cS, cP, C, D, rfl, hpre, hmid, hpost, hcS, hcP, _⟩ := hg
  have hin := goodChoose_inner cfg ts ts' tp tp' as ap pre mid post cS cP hpre hmid hpost hcS hcP
  exact (noMsgList_iff _).mpr (forall_mem_bracket rfl (fun e he => inner_noMsg cfg e (hin e he)) rfl)

/-- `ChooseDirective.extract` on such an element: it returns, and what it reports covers the
    look-ups of the pass inside the element -/
theorem goodChoose_extract (cfg : Cfg) (ps : List Str) (body : List TEvent) (hg : GoodChoose cfg ps body)
    (st : Bool) (cs xs : List Str) :
    ∃ ms, chooseExtract cfg ps st cs xs body = .ok ms ∧
      ∀ (ctx : Ctx) (ta : Bool), (ta = true → st = true) → Incl ms (lkList cfg ctx false ta 0 body) := by
  obtain ⟨t, t', ts, ts', tp, tp', a, as, ap, pre, mid, post, cS, cP, C, D, rfl, hpre, hmid, hpost, hcS, hcP, hC, hD, hCs, hDs⟩ := hg
  obtain ⟨ms, hex⟩ := chooseExtract_ok cfg ps st cs xs t t' ts ts' tp tp' a as ap pre mid post cS cP hpre hmid hpost C D hC hD hCs hDs
  refine ⟨ms, hex, fun ctx ta hta => ?_⟩
  rw [chooseExtract_attr] at hex
  obtain ⟨r, hloop, rfl⟩ := map_eq_ok hex
  have hL := chooseLoop_incl cfg ctx st ta hta t' _ _ _ _
    (goodChoose_inner cfg ts ts' tp tp' as ap pre mid post cS cP hpre hmid hpost hcS hcP) hloop
  rw [lkList_cons]
  by_cases hx : excluded cfg t a = true
  · simp only [lkEv, skipNext, hx, ↓reduceIte, List.nil_append]
    exact Incl.mono (Incl.right (hL 1)) fun x hx => List.mem_append_left _ hx
  · simp only [lkEv, skipNext, hx, Bool.false_eq_true, ↓reduceIte]
    exact Incl.mono (Incl.append (incl_attrs cfg ctx ta st hta a) (hL 0)) fun x hx => List.mem_append_left _ hx

/-- `d` is the one message directive among `ds` -/
def OneDir (ds : List Dir) (d : Dir) : Prop := d ∈ ds ∧ ∀ x ∈ ds, x.isExtractable = true → x = d

mutual
  /-- every SUB event either carries no message directive, or exactly one — an `i18n:msg` with
      content as in `GoodMsg`, or an `i18n:choose` as in `GoodChoose` — next to any other
      directives (`i18n:comment`, `i18n:ctxt`, `i18n:domain`, `py:if` …) -/
  def WideEv (cfg : Cfg) : TEvent → Prop
    | .sub ds b =>
        (∃ ps, OneDir ds (.msg ps) ∧ GoodMsg cfg ps b) ∨ (∃ ps, OneDir ds (.choose ps) ∧ GoodChoose cfg ps b) ∨
        (hasExtractable ds = false ∧ WideList cfg b)
    | _ => True
  def WideList (cfg : Cfg) : List TEvent → Prop
    | [] => True
    | e :: es => WideEv cfg e ∧ WideList cfg es
end

/-- the parameters of the first `i18n:msg` among the directives -/
def msgDirOf : List Dir → Option (List Str)
  | [] => none
  | .msg ps :: _ => some ps
  | _ :: ds => msgDirOf ds

mutual
  /-- the message ids of the `i18n:msg` directives of the stream, computed on the template's own stream (for
      SUB-free content the stream a directive sees after the pass gives the same id: `msgId_trList`) -/
  def msgIdsWEv : TEvent → List Str
    | .sub ds b =>
        (match msgDirOf ds with
         | some ps => (match msgId ps b with | .ok (some id) => [id] | _ => [])
         | none => []) ++ (if hasExtractable ds then [] else msgIdsW b)
    | _ => []
  def msgIdsW : List TEvent → List Str
    | [] => []
    | e :: es => msgIdsWEv e ++ msgIdsW es
end

theorem msgDirOf_one : ∀ (ds : List Dir) (ps : List Str), OneDir ds (.msg ps) → msgDirOf ds = some ps
  | [], ps, h => by simp [OneDir] at h
  | d :: ds, ps, h => by
      obtain ⟨hm, hone⟩ := h
      cases d with
      | msg ps' =>
        have := hone (.msg ps') (by simp) rfl
        simp only [Dir.msg.injEq] at this
        simp [msgDirOf, this]
      | domain _ | comment _ | ctxt _ | choose _ | singular | plural | strip | other _ =>
        simp only [msgDirOf]
        refine msgDirOf_one ds ps ⟨?_, fun x hx => hone x (by simp [hx])⟩
        simpa using hm

theorem msgDirOf_none : ∀ (ds : List Dir), (∀ x ∈ ds, ∀ ps, x ≠ .msg ps) → msgDirOf ds = none
  | [], _ => rfl
  | d :: ds, h => by
      cases d with
      | msg ps' => exact absurd rfl (h (.msg ps') (by simp) ps')
      | domain _ | comment _ | ctxt _ | choose _ | singular | plural | strip | other _ =>
        simp only [msgDirOf]
        exact msgDirOf_none ds (fun x hx => h x (by simp [hx]))

theorem hasExtractable_of_mem (ds : List Dir) (d : Dir) (hm : d ∈ ds) (hd : d.isExtractable = true) :
    hasExtractable ds = true := by
  simp only [hasExtractable, List.any_eq_true]
  exact ⟨d, hm, hd⟩

theorem msgIdsWEv_noext (dirs : List Dir) (body : List TEvent) (h : hasExtractable dirs = false) :
    msgIdsWEv (.sub dirs body) = msgIdsW body := by
  have hn : msgDirOf dirs = none := by
    apply msgDirOf_none
    intro x hx ps hxe
    subst hxe
    have := hasExtractable_of_mem dirs _ hx rfl
    rw [h] at this; cases this
  simp [msgIdsWEv, hn, h]

/-- the look-ups of the pass inside an element with a message directive: text is not looked up -/
theorem lkSub_ext (cfg : Cfg) (ctx : Ctx) (ta : Bool) (ds : List Dir) (body : List TEvent)
    (h : hasExtractable ds = true) :
    lkSub cfg ctx ta (.sub ds body) = lkList cfg ((reorder ds).pushed ++ ctx) false (cfg.extractText && ta) 0 body := by
  have hp : hasExtractable (reorder ds).dirs = true := by rw [hasExtractable_perm (reorder_perm ds)]; exact h
  simp [lkSub, hp]

theorem wideList_iff (cfg : Cfg) : ∀ (l : List TEvent), WideList cfg l ↔ ∀ e ∈ l, WideEv cfg e
  | [] => by simp [WideList]
  | e :: es => by simp [WideList, wideList_iff cfg es]

theorem msgIdsW_eq : ∀ (s : List TEvent), msgIdsW s = subIds (fun ds b => msgIdsWEv (.sub ds b)) s
  | [] => rfl
  | e :: es => by
      have ih := congrArg (msgIdsWEv e ++ ·) (msgIdsW_eq es)
      cases e <;> exact ih

/-- with a message directive among the directives the calls of the code are those of a lone `i18n:msg`, or none -/
theorem codeSub_ext (cfg : Cfg) (ds : List Dir) (b : List TEvent) (h : hasExtractable ds = true) :
    (∃ ps, ds = [.msg ps]) ∨ codeSub cfg (.sub ds b) = [] := by
  match ds, h with
  | [.msg ps], _ => exact Or.inl ⟨ps, rfl⟩
  | [], h => simp [hasExtractable] at h
  | .msg p :: _ :: _, h | .domain _ :: _, h | .comment _ :: _, h | .ctxt _ :: _, h | .choose _ :: _, h
  | .singular :: _, h | .plural :: _, h | .strip :: _, h | .other _ :: _, h => exact Or.inr (by simp [codeSub, h])

/-- the SUB branch for an element whose one message directive `d` extracts its content: what
    the directive reports covers the look-ups inside the element and holds `ids` and the calls of the code -/
theorem subOK_one (cfg : Cfg) (dirs : List Dir) (body : List TEvent) (d : Dir) (hd : d.isExtractable = true)
    (hone : OneDir dirs d) (hnm : noMsgList body = true) (ids : List Str)
    (hE : ∀ st cs xs, ∃ ms, dirExtract cfg st cs xs body
        (fun cs' xs' => exList cfg (cfg.extractText && st) cs' xs' 0 body) d = .ok ms ∧
      (∀ (ctx : Ctx) (ta : Bool), (ta = true → st = true) → Incl ms (lkList cfg ctx false ta 0 body)) ∧ Has ms ids ∧
      HasCode ms (codeSub cfg (.sub dirs body))) :
    SubOK cfg dirs body ids := by
  intro st cs xs
  have hex : Total (fun cs' xs' => exList cfg (cfg.extractText && st) cs' xs' 0 body) := fun cs' xs' => by
    obtain ⟨m, hm, _⟩ := ex_lk_list cfg body hnm 0 (cfg.extractText && st) cs' xs'; exact ⟨m, hm⟩
  obtain ⟨out, cs', xs', m, hout, hm, hsub⟩ := exSub_one cfg st cs xs dirs body d hd hone.1 hone.2 hex
    fun cs' xs' => (hE st cs' xs').imp fun _ h => h.1
  obtain ⟨ms, h1, h4, h5, h6⟩ := hE st cs' xs'
  obtain rfl : m = ms := Except.ok.inj (hm.symm.trans h1)
  refine ⟨out, hout, fun hst ctx ta hta => ?_, Has.mono h5 hsub, HasCode.mono h6 hsub⟩
  rw [lkSub_ext cfg ctx ta dirs body (hasExtractable_of_mem dirs _ hone.1 hd)]
  refine Incl.mono (h4 _ _ fun hta' => ?_) hsub
  simp only [Bool.and_eq_true] at hta'
  have he := hta hta'.2
  rw [he] at hst
  simpa using hst

theorem wide_subOK (cfg : Cfg) (ds : List Dir) (b : List TEvent) (h : WideEv cfg (.sub ds b)) :
    SubOK cfg ds b (msgIdsWEv (.sub ds b)) := by
  induction ds, b using TEvent.sub_induction with
  | step dirs body ih =>
    simp only [WideEv] at h
    rcases h with ⟨ps, hone, hg⟩ | ⟨ps, hone, hg⟩ | h
    · -- an `i18n:msg`
      refine subOK_one cfg dirs body (.msg ps) rfl hone (goodMsg_noMsg cfg ps body hg) _ fun st cs xs => ?_
      obtain ⟨ms, id, h1, h2, h3, h4, m, hshape⟩ := goodMsg_extract cfg ps body hg st cs xs
      refine ⟨ms, h1, h4, fun i hi => ?_, ?_⟩
      · simp only [msgIdsWEv, msgDirOf_one dirs ps hone, h2, hasExtractable_of_mem dirs _ hone.1 rfl, ↓reduceIte,
          List.append_nil, List.mem_singleton] at hi
        exact hi ▸ h3
      · rcases codeSub_ext cfg dirs body (hasExtractable_of_mem dirs _ hone.1 rfl) with ⟨ps', rfl⟩ | hnil
        · cases body with
          | nil => simp [msgExtract] at h1
          | cons first rest => rw [codeSub_msg, hshape]; exact HasCode.left (hasCode_flatMap cfg st _)
        · rw [hnil]; exact HasCode.nil _
    · -- an `i18n:choose`
      have hnone : msgDirOf dirs = none := msgDirOf_none dirs fun x hx ps' hxe => by
        subst hxe; cases hone.2 _ hx rfl
      refine subOK_one cfg dirs body (.choose ps) rfl hone (goodChoose_noMsg cfg ps body hg) _ fun st cs xs => ?_
      obtain ⟨ms, h1, h4⟩ := goodChoose_extract cfg ps body hg st cs xs
      refine ⟨ms, h1, h4, by simp [msgIdsWEv, hnone, hasExtractable_of_mem dirs _ hone.1 rfl, Has.nil], ?_⟩
      rcases codeSub_ext cfg dirs body (hasExtractable_of_mem dirs _ hone.1 rfl) with ⟨ps', rfl⟩ | hnil
      · simp [OneDir] at hone
      · rw [hnil]; exact HasCode.nil _
    · rw [msgIdsWEv_noext dirs body h.1, msgIdsW_eq]
      exact subOK_noext cfg _ dirs body h.1 fun ds' b' hm => ih ds' b' hm ((wideList_iff cfg body).mp h.2 _ hm)

theorem ex_lk3_list (cfg : Cfg) (s : List TEvent) (h : WideList cfg s) (skip : Nat) (st : Bool) (cs xs : List Str) :
    ∃ ms, exList cfg st cs xs skip s = .ok ms ∧
      Joint cfg st ms (fun ctx tt ta => lkList cfg ctx tt ta skip s) ∧ Has ms (msgIdsW s) ∧ HasCode ms (codeList cfg s) := by
  rw [msgIdsW_eq]
  exact ex_lk_events cfg _ s (fun ds b hm => wide_subOK cfg ds b ((wideList_iff cfg s).mp h _ hm)) skip st cs xs

theorem extractWith_default (cfg : Cfg) (s : TStream) : extractWith cfg true [] [] s = extract cfg s := by
  simp [extractWith, extract]

/-- **lookups ⊆ extraction, every argument of both entry points quantified**: the
    `translate_text` / `translate_attrs` arguments of `Translator.__call__`, the template context,
    and the `search_text` / `comment_stack` / `context_stack` arguments of `Translator.extract`
    (`search_text=False` only together with `extract_text=False`: otherwise text is looked up
    that extraction was told not to search) -/
theorem lookups_subset_extract_args (cfg : Cfg) (ctx : Ctx) (s : TStream) (h : WideList cfg s)
    (tt ta st : Bool) (cs xs : List Str) (hst : st = true ∨ cfg.extractText = false) :
    ∃ ms, extractWith cfg st cs xs s = .ok ms ∧
      (∀ l ∈ lookups cfg ctx tt ta s, hasLetter l.msgid = true → l.msgid ∈ idsOf ms) ∧
      (∀ id ∈ msgIdsW s, id ∈ idsOf ms) := by
  obtain ⟨ms, hms, hj, hh, _⟩ := ex_lk3_list cfg s h 0 (cfg.extractText && st) cs xs
  refine ⟨ms, hms, fun l hl hlet => ?_, hh⟩
  have hst' : (cfg.extractText && st) = cfg.extractText := by
    rcases hst with h1 | h1 <;> simp [h1]
  have := hj hst' ctx (cfg.extractText && tt) (cfg.extractText && ta) (by simp; intro a _; exact a)
    (by simp; intro a _; exact a) l (by simpa [lookups] using hl)
  rcases this with h1 | h1
  · exact h1
  · rw [hlet] at h1; cases h1

/-- `lookups_subset_extract_args` at the defaults of both entry points -/
theorem lookups_subset_extract_wide (cfg : Cfg) (ctx : Ctx) (s : TStream) (h : WideList cfg s) :
    ∃ ms, extract cfg s = .ok ms ∧
      (∀ l ∈ lookups cfg ctx true true s, hasLetter l.msgid = true → l.msgid ∈ idsOf ms) ∧
      (∀ id ∈ msgIdsW s, id ∈ idsOf ms) := by
  have := lookups_subset_extract_args cfg ctx s h true true true [] [] (Or.inl rfl)
  rwa [extractWith_default] at this

/-- `START … END` with SUB-free content whose message buffer can be built -/
def goodMsgBody (ps : List Str) : List TEvent → Bool
  | .start _ _ :: rest =>
      match rest.getLast? with
      | some last => last.isEnd && noSubList rest.dropLast &&
          (match mbAppendList (MB.new ps) rest.dropLast with | .ok _ => true | .error _ => false)
      | none => false
  | _ => false

/-- the element form `<i18n:msg params="…">content</i18n:msg>`: SUB-free content that neither
    starts with a START nor ends with a START / END event (finding C19-msg-element-first-child)
    and whose message buffer can be built -/
def goodElemBody (ps : List Str) : List TEvent → Bool
  | [] => false
  | first :: rest =>
      !first.isStart && !(rest.getLast?.getD first).isEnd && !(rest.getLast?.getD first).isStart &&
        noSubList (first :: rest) &&
        (match mbAppendList (MB.new ps) (first :: rest) with | .ok _ => true | .error _ => false)

mutual
  /-- every SUB event either carries no message directive, or is a plain `i18n:msg` (attribute
      or element form) -/
  def okMsgEv : TEvent → Bool
    | .sub ds b =>
        (match ds with
         | [.msg ps] => goodMsgBody ps b || goodElemBody ps b
         | _ => false) || (!hasExtractable ds && okMsgList b)
    | _ => true
  def okMsgList : List TEvent → Bool
    | [] => true
    | e :: es => okMsgEv e && okMsgList es
end

mutual
  /-- `msgIdsWEv` for streams whose message directives stand alone (`[.msg ps]`, as `okMsgList` asks):
      `msgIdsList_eq_W` -/
  def msgIdsEv : TEvent → List Str
    | .sub ds b =>
        (match ds with
         | [.msg ps] => (match msgId ps b with | .ok (some id) => [id] | _ => [])
         | _ => []) ++ (if hasExtractable ds then [] else msgIdsList b)
    | _ => []
  def msgIdsList : List TEvent → List Str
    | [] => []
    | e :: es => msgIdsEv e ++ msgIdsList es
end

theorem ok_of_isOk {x : Except Err MB} (h : (match x with | .ok _ => true | .error _ => false) = true) :
    ∃ B, x = .ok B := by
  cases x with
  | ok B => exact ⟨B, rfl⟩
  | error e => simp at h

theorem ok_stack_of_isOk {x : Except Err MB}
    (h : (match x with | .ok b => !b.stack.isEmpty | .error _ => false) = true) : ∃ B, x = .ok B ∧ B.stack ≠ [] := by
  cases x with
  | ok B =>
    refine ⟨B, rfl, ?_⟩
    intro hs
    simp [hs] at h
  | error e => simp at h

theorem noSub_evOK (cfg : Cfg) (tt : Bool) (l : List TEvent) (h : noSubList l = true)
    (ht : tt = false) : ∀ e ∈ l, evOK cfg tt e = true := by
  intro e he
  have := List.all_eq_true.mp h e he
  subst ht
  cases e with
  | sub d b => exact absurd this (by simp)
  | _ => rfl

theorem goodMsgBody_good (cfg : Cfg) (ps : List Str) (b : List TEvent) (h : goodMsgBody ps b = true) : GoodMsg cfg ps b := by
  cases b with
  | nil => simp [goodMsgBody] at h
  | cons first rest =>
    cases first with
    | start t a =>
      simp only [goodMsgBody] at h
      cases hl : rest.getLast? with
      | none => simp [hl] at h
      | some last =>
        simp only [hl, Bool.and_eq_true] at h
        obtain ⟨⟨hend, hns⟩, hok⟩ := h
        obtain ⟨B, hB⟩ := ok_of_isOk hok
        exact Or.inl ⟨t, a, rest, last, B, rfl, hl, hend, noSub_evOK cfg false _ hns rfl, hB⟩
    | _ => simp [goodMsgBody] at h

theorem goodElemBody_good (cfg : Cfg) (ps : List Str) (b : List TEvent) (h : goodElemBody ps b = true) : GoodMsg cfg ps b := by
  cases b with
  | nil => simp [goodElemBody] at h
  | cons first rest =>
    simp only [goodElemBody, Bool.and_eq_true, Bool.not_eq_true'] at h
    obtain ⟨⟨⟨⟨hf, hle⟩, hls⟩, hns⟩, hok⟩ := h
    obtain ⟨B, hB⟩ := ok_of_isOk hok
    exact Or.inr ⟨first, rest, B, rfl, hf, hle, hls, noSub_evOK cfg false _ hns rfl, hB⟩

mutual
  theorem wide_of_okMsgEv (cfg : Cfg) : ∀ (e : TEvent), okMsgEv e = true → WideEv cfg e
    | .sub ds b, h => by
        simp only [okMsgEv, Bool.or_eq_true, Bool.and_eq_true, Bool.not_eq_true'] at h
        simp only [WideEv]
        rcases h with h | h
        · match ds, h with
          | [.msg ps], h =>
            refine Or.inl ⟨ps, ⟨by simp, fun x hx _ => by simpa using hx⟩, ?_⟩
            simp only [Bool.or_eq_true] at h
            rcases h with h | h
            · exact goodMsgBody_good cfg ps b h
            · exact goodElemBody_good cfg ps b h
        · exact Or.inr (Or.inr ⟨h.1, wide_of_okMsgList cfg b h.2⟩)
    | .start _ _, _ => trivial
    | .end_ _, _ => trivial
    | .text _, _ => trivial
    | .expr _ _, _ => trivial
    | .exec _, _ => trivial
    | .other _, _ => trivial
  theorem wide_of_okMsgList (cfg : Cfg) : ∀ (s : List TEvent), okMsgList s = true → WideList cfg s
    | [], _ => trivial
    | e :: es, h => by
        simp only [okMsgList, Bool.and_eq_true] at h
        exact ⟨wide_of_okMsgEv cfg e h.1, wide_of_okMsgList cfg es h.2⟩
end

theorem msgIdsEv_noext (dirs : List Dir) (body : List TEvent) (h : hasExtractable dirs = false) :
    msgIdsEv (.sub dirs body) = msgIdsList body := by
  simp only [msgIdsEv, h, Bool.false_eq_true, ↓reduceIte]
  match dirs, h with
  | [], _ => simp
  | [.msg ps], h => simp [hasExtractable, Dir.isExtractable] at h
  | [.domain _], _ | [.comment _], _ | [.ctxt _], _ | [.choose _], _ | [.singular], _ | [.plural], _
  | [.strip], _ | [.other _], _ => simp
  | _ :: _ :: _, _ => simp

theorem msgIdsList_eq_W (s : List TEvent) : okMsgList s = true → msgIdsList s = msgIdsW s := by
  induction s using stream_induction with
  | nil => intro _; rfl
  | cons e es ihe ih =>
    intro h
    simp only [okMsgList, Bool.and_eq_true] at h
    rw [msgIdsList, msgIdsW, ih h.2]
    congr 1
    cases e with
    | sub ds b =>
      have he := h.1
      simp only [okMsgEv, Bool.or_eq_true, Bool.and_eq_true, Bool.not_eq_true'] at he
      rcases he with he | he
      · match ds, he with
        | [.msg ps], _ => simp [msgIdsEv, msgIdsWEv, msgDirOf, hasExtractable, Dir.isExtractable]
      · rw [msgIdsEv_noext ds b he.1, msgIdsWEv_noext ds b he.1, ihe ds b rfl he.2]
    | _ => rfl

/-- `lookups_subset_extract_wide` on streams whose message directives are plain `i18n:msg` (`okMsgList`, decidable),
    the ids in the form `msgIdsList` -/
theorem lookups_subset_extract_msgs (cfg : Cfg) (ctx : Ctx) (s : TStream) (h : okMsgList s = true) :
    ∃ ms, extract cfg s = .ok ms ∧
      (∀ l ∈ lookups cfg ctx true true s, hasLetter l.msgid = true → l.msgid ∈ idsOf ms) ∧
      (∀ id ∈ msgIdsList s, id ∈ idsOf ms) := by
  rw [msgIdsList_eq_W s h]
  exact lookups_subset_extract_wide cfg ctx s (wide_of_okMsgList cfg s h)

/-- **the gettext calls made by template code are extracted**: `Translator.extract` reports what `extract_from_code`
    finds in every EXPR / EXEC event, also inside the content of a message directive, and in the interpolated attributes
    of every element, excluded ones included — on streams whose message directives are plain `i18n:msg` (`okMsgList`),
    under any nesting of the other directives: every call the template code carries (`codeList`) is among the extracted messages -/
theorem code_calls_extracted (cfg : Cfg) (s : TStream) (h : okMsgList s = true) :
    ∃ ms, extract cfg s = .ok ms ∧ ∀ c ∈ codeList cfg s, codeMessage c ∈ ms :=
  (ex_lk3_list cfg s (wide_of_okMsgList cfg s h) 0 cfg.extractText [] []).imp fun _ h => ⟨h.1, h.2.2.2⟩

end Genshi.I18n
