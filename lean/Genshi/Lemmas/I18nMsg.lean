/-
  C19 — the message algebra: buffer a message forest, translate any compatible translation
  tree (`translate_message`; the identity translation: `I18nIdentity.lean`).
-/
import Genshi.Lemmas.I18nBuf
namespace Genshi.I18n
open Genshi

/-- the elements of the message `F` (numbered from 1 in document order) -/
def worldOf (F : List MNode) : WorldK := fun k =>
  match infoM 1 F k with
  | some (t, a, _, kd) => some (t, a, kd)
  | none => none

/-- element number ↦ tag, attributes, number of child elements, directives -/
abbrev Info := Nat → Option (QName × TAttrs × Nat × Option (List Dir))

def isSubAt (I : Info) (n : Nat) : Bool :=
  match I n with
  | some (_, _, _, some _) => true
  | _ => false

theorem isSubAt_of_info {I : Info} {n c : Nat} {t : QName} {a : TAttrs} {kd : Option (List Dir)}
    (h : I n = some (t, a, c, kd)) : isSubAt I n = kd.isSome := by
  simp only [isSubAt, h]; cases kd <;> rfl

mutual
  /-- every placeholder names an element of the message and has as many child placeholders
      as that element has child elements; a directive-carrying element does not lie inside
      another one (`inSub`; finding C19-nested-directives) -/
  def XNode.compat (I : Info) : Bool → XNode → Prop
    | inSub, .ph n _ r => (∃ t a kd, I n = some (t, a, r.length, kd)) ∧ (isSubAt I n = true → inSub = false) ∧
        r.compat I (inSub || isSubAt I n)
  def XRest.compat (I : Info) : Bool → XRest → Prop
    | _, .nil => True
    | inSub, .cons x _ r => x.compat I inSub ∧ r.compat I inSub
end

/-- the message has text or an expression outside its elements -/
def hasTopText : List MNode → Bool
  | [] => false
  | .elem _ _ _ _ :: ns => hasTopText ns
  | _ :: _ => true

theorem new_rel (ps : List Str) : Rel (MB.new ps) 0 ⟨[], none⟩ :=
  ⟨by simp [MB.new, PV.groups], by simp [MB.new]⟩

theorem new_inv (ps : List Str) : Inv (MB.new ps) :=
  ⟨fun _ _ => rfl, fun _ _ => rfl, fun k h => by simp [MB.new] at h, by simp [MB.new]⟩

theorem pvFeed_groups_ne_nil : ∀ (ns : List MNode) (p : PV), (hasTopText ns = true ∨ p.groups ≠ []) →
    (pvFeed p ns).groups ≠ []
  | [], p, h => by simpa [hasTopText, pvFeed] using h
  | .text s :: ns, p, _ => by
      simp only [pvFeed]
      exact pvFeed_groups_ne_nil ns _ (Or.inr (by simp [PV.addEv_eq, PV.groups]))
  | .expr _ _ _ :: ns, p, _ => by
      simp only [pvFeed]
      exact pvFeed_groups_ne_nil ns _ (Or.inr (by simp [PV.addEv_eq, PV.groups]))
  | .elem _ _ _ _ :: ns, p, h => by
      simp only [pvFeed]
      refine pvFeed_groups_ne_nil ns _ ?_
      rcases h with h | h
      · left; simpa [hasTopText] using h
      · right; rw [PV.close_groups]; exact h

mutual
  theorem XNode.goodK_of_compat (F : List MNode) (sd : Nat → Option (List Dir)) (ev : Groups)
      (hev : ∀ k t a c kd, infoM 1 F k = some (t, a, c, kd) →
        ∃ gs, ev k = some gs ∧ GoodElemK gs kd t a c ∧ ∀ ds, kd = some ds → sd k = some ds) :
      ∀ (x : XNode) (inSub : Bool), x.compat (infoM 1 F) inSub → x.goodK (worldOf F) sd ev inSub
    | .ph n s0 r, inSub, h => by
        simp only [XNode.compat] at h
        obtain ⟨⟨t, a, kd, hi⟩, hsub, hr⟩ := h
        obtain ⟨gs, hgs, hgood, hsd⟩ := hev n t a _ kd hi
        have hn : n ≠ 0 := by have := (infoM_range 1 F n _ hi).1; omega
        have hkd := isSubAt_of_info hi
        refine ⟨hn, t, a, kd, gs, by simp [worldOf, hi], hgs, hgood, fun ds hds => ?_, ?_⟩
        · subst hds
          exact ⟨hsub (by rw [hkd]; rfl), hsd ds rfl⟩
        · rw [← hkd]; exact XRest.goodK_of_compat F sd ev hev r _ hr
  theorem XRest.goodK_of_compat (F : List MNode) (sd : Nat → Option (List Dir)) (ev : Groups)
      (hev : ∀ k t a c kd, infoM 1 F k = some (t, a, c, kd) →
        ∃ gs, ev k = some gs ∧ GoodElemK gs kd t a c ∧ ∀ ds, kd = some ds → sd k = some ds) :
      ∀ (r : XRest) (inSub : Bool), r.compat (infoM 1 F) inSub → r.goodK (worldOf F) sd ev inSub
    | .nil, _, _ => trivial
    | .cons x s r, inSub, h => by
        simp only [XRest.compat] at h
        exact ⟨XNode.goodK_of_compat F sd ev hev x inSub h.1, XRest.goodK_of_compat F sd ev hev r inSub h.2⟩
end

/-- **the message algebra.**  Buffer the content `F` of a message (no two adjacent child
    elements inside an element); then for *every* translation `s0 child₁ seg₁ …` whose
    placeholders name distinct elements of `F` with the right number of children, whose
    segments hold brackets only escaped (`plainSeg`) and are accepted by `yield_parts`,
    `MessageBuffer.translate` returns the translation with every placeholder replaced by the
    original element, each exactly once, in the order of the translation; a directive-carrying
    element comes out as one SUB event with its directives.  `htop`: a non-empty top-level segment of the
    translation is a part of order 0 (an empty one is no part at all), and groups are filed under 0
    only for a message with text or an expression at top level; without them `self.events[0]` raises. -/
theorem translate_message (F : List MNode) (extra : List Str) (Y : Str → List TEvent) (s0 : Str) (r : XRest)
    (hna : deepNoAdjM F = true) (hc : r.compat (infoM 1 F) false) (hnd : r.nums.Nodup)
    (hp0 : plainSeg s0 = true) (hp : r.plain = true)
    (hseg : ∀ s ∈ s0 :: r.segs, yieldParts (valsM F).reverse s = .ok (Y s))
    (htop : (∀ s ∈ s0 :: r.topSegs, s = []) ∨ hasTopText F = true) :
    ∃ b, mbAppendList (MB.new (namesM F ++ extra)) (flattenM F) = .ok b ∧
      b.format = strip (fmtM 1 F) ∧
      b.translate (s0 ++ r.fmt) = .ok (Y s0 ++ r.renderK (worldOf F) Y) := by
  obtain ⟨b, hrun, post⟩ := append_nodes F (MB.new (namesM F ++ extra)) 0 [] ⟨[], none⟩ extra
    (by simp [MB.new]) (by simp [MB.new]) (by simp [MB.new]) (new_rel _) (new_inv _) hna
  refine ⟨b, hrun, ?_, ?_⟩
  · simp [MB.format, post.str, MB.new]
  · have hvals : b.values = (valsM F).reverse := by rw [post.values]; simp [MB.new]
    have hgood : r.goodK (worldOf F) (assocGet b.subdirs) b.events false :=
      XRest.goodK_of_compat F _ b.events (fun k t a c kd h => post.elems k t a c kd (by simpa [MB.new] using h)) r false hc
    refine translate_treeK b (worldOf F) Y s0 r hp0 hp hgood hnd (by rw [hvals]; exact hseg) ?_
    rcases htop with h | h
    · exact Or.inl h
    · right
      have htx : (pvFeed ⟨[], none⟩ F).All MEv.textual :=
        pvFeed_all (fun _ h => h) F _ fun g hg => by simp [PV.groups] at hg
      have hne := pvFeed_groups_ne_nil F ⟨[], none⟩ (Or.inl h)
      have hg := post.rel.groups
      cases hev : b.events 0 with
      | none => rw [hev] at hg; simp at hg; exact absurd hg.symm hne.symm
      | some gs =>
        rw [hev] at hg; simp only [Option.getD_some] at hg
        refine ⟨gs, hev, fun g hgm => ?_⟩
        have : textualG g = true := htx g (hg ▸ hgm)
        exact ⟨textualG_simple g this, fun e => groupOut_textual e g this⟩

end Genshi.I18n
