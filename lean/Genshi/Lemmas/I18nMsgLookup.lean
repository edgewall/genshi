/-
  C19 — the message id `MsgDirective.__call__` looks up while rendering is the id
  `MsgDirective.extract` reports: the translation pass (with `translate_text=False`) changes only
  attributes inside the message content (`eraseAttrs`), and both directives fill the same buffer.
-/
import Genshi.Lemmas.I18nLookups
import Genshi.Lemmas.I18nAppend
namespace Genshi.I18n
open Genshi

def noSubList (s : List TEvent) : Bool := s.all fun e => match e with | .sub _ _ => false | _ => true

/-- what decides how a further `append` extends the message string and whether it raises -/
def MB.ctl (b : MB) : List Str × Int × Nat × List Nat := (b.params, b.depth, b.order, b.stack)

theorem add_ctl (b : MB) (k : Nat) (e : MEv) : (b.add k e).ctl = b.ctl := by
  unfold MB.add MB.ctl; split <;> rfl

/-- `b'` is `b` with `p` in front of the message string (events, values, … may differ) -/
def PrefRel (p : Str) (b b' : MB) : Prop := b'.ctl = b.ctl ∧ b'.str = p ++ b.str

def PrefRes (p : Str) : Except Err MB → Except Err MB → Prop
  | .ok c, .ok c' => PrefRel p c c'
  | .error x, .error y => x = y
  | _, _ => False

theorem PrefRel.fields {p : Str} {b b' : MB} (h : PrefRel p b b') :
    b'.params = b.params ∧ b'.depth = b.depth ∧ b'.order = b.order ∧ b'.stack = b.stack ∧ b'.str = p ++ b.str := by
  obtain ⟨hc, hs⟩ := h
  simp only [MB.ctl, Prod.mk.injEq] at hc
  exact ⟨hc.1, hc.2.1, hc.2.2.1, hc.2.2.2, hs⟩

theorem PrefRel.add (p : Str) (b b' : MB) (k k' : Nat) (e e' : MEv) (h : PrefRel p b b') :
    PrefRel p (b.add k e) (b'.add k' e') := by
  unfold PrefRel at *
  rw [add_ctl, add_ctl, add_str, add_str]; exact h

theorem PrefRes.bind {p : Str} {x x' : Except Err MB} {f f' : MB → Except Err MB} (h : PrefRes p x x')
    (hf : ∀ c c', PrefRel p c c' → PrefRes p (f c) (f' c')) : PrefRes p (x.bind f) (x'.bind f') := by
  cases x <;> cases x' <;> first | exact h | exact h.elim | exact hf _ _ h

theorem mbAppend_pref_start (p : Str) (t : QName) (a a' : TAttrs) (b b' : MB) (h : PrefRel p b b') :
    PrefRes p (mbAppend b (.start t a)) (mbAppend b' (.start t a')) := by
  obtain ⟨hp, hd, ho, hst, hs⟩ := h.fields
  simp only [mbAppend, PrefRes, pure, Except.pure]
  apply PrefRel.add
  exact ⟨by simp [MB.ctl, hp, hd, ho, hst], by simp [hs, ho, List.append_assoc]⟩

mutual
  theorem mbAppend_pref (p : Str) : ∀ (e : TEvent) (b b' : MB), PrefRel p b b' →
      PrefRes p (mbAppend b e) (mbAppend b' e)
    | .sub dirs body, b, b', h =>
        PrefRes.bind (mbAppendList_pref p body _ _ (PrefRel.add p _ _ _ _ _ _ h)) fun _ _ hc => PrefRel.add p _ _ _ _ _ _ hc
    | .text s, b, b', h => by
        obtain ⟨hp, hd, ho, hst, hs⟩ := h.fields
        simp only [mbAppend, hst]
        cases b.stack with
        | nil => simp [PrefRes]
        | cons top rest =>
          simp only [PrefRes, pure, Except.pure]
          apply PrefRel.add
          exact ⟨by simp [MB.ctl, hp, hd, ho], by simp [hs, List.append_assoc]⟩
    | .expr i m, b, b', h => by
        obtain ⟨hp, hd, ho, hst, hs⟩ := h.fields
        simp only [mbAppend, hst, hp]
        cases b.params with
        | nil => simp [PrefRes]
        | cons q qs =>
          cases b.stack with
          | nil => simp [PrefRes]
          | cons top rest =>
            simp only [PrefRes, pure, Except.pure]
            apply PrefRel.add
            exact ⟨by simp [MB.ctl, hd, ho], by simp [hs, List.append_assoc]⟩
    | .start t a, b, b', h => mbAppend_pref_start p t a a b b' h
    | .end_ t, b, b', h => by
        obtain ⟨hp, hd, ho, hst, hs⟩ := h.fields
        simp only [mbAppend, hd, hst]
        split
        · simp only [PrefRes, pure, Except.pure]
          exact ⟨by simp [MB.ctl, hp, ho], by simp [hs]⟩
        · cases b.stack with
          | nil => simp [PrefRes]
          | cons top rest =>
            simp only [PrefRes, pure, Except.pure]
            apply PrefRel.add
            exact ⟨by simp [MB.ctl, hp, ho], by simp [hs, List.append_assoc]⟩
    | .exec _, b, b', h => by simpa [mbAppend, PrefRes, pure, Except.pure] using h
    | .other _, b, b', h => by simpa [mbAppend, PrefRes, pure, Except.pure] using h
  theorem mbAppendList_pref (p : Str) : ∀ (es : List TEvent) (b b' : MB), PrefRel p b b' →
      PrefRes p (mbAppendList b es) (mbAppendList b' es)
    | [], _, _, h => h
    | e :: es, b, b', h => PrefRes.bind (mbAppend_pref p e b b' h) fun c c' hc => mbAppendList_pref p es c c' hc
end

/-- the loop of the directive `extract` methods is `append` for the buffer, `evMessages` for
    the report -/
theorem appendAll_eq (cfg : Cfg) (st : Bool) : ∀ (evs : List TEvent) (b : MB),
    appendAll cfg st b evs = (mbAppendList b evs).map fun b' => (evs.flatMap (evMessages cfg st), b')
  | [], b => rfl
  | e :: es, b => by
      simp only [appendAll, mbAppendList, bind]
      cases mbAppend b e with
      | error err => rfl
      | ok b1 =>
        simp only [Except.bind, appendAll_eq cfg st es b1]
        cases mbAppendList b1 es <;> rfl

/-- `MsgDirective.extract`, attribute form: the buffer holds the content without the closing END -/
theorem msgExtract_attr (cfg : Cfg) (ps : List Str) (st : Bool) (cs xs : List Str) (t : QName) (a : TAttrs)
    (rest : List TEvent) (h : rest ≠ []) :
    msgExtract cfg ps st cs xs (.start t a :: rest) = (mbAppendList (MB.new ps) rest.dropLast).map fun b =>
      extractAttrs cfg st a ++ rest.dropLast.flatMap (evMessages cfg st) ++ [ctxMsg b.format (lastSlice cs) (lastSlice xs)] := by
  cases rest with
  | nil => exact absurd rfl h
  | cons x y =>
    simp only [msgExtract, TEvent.isStart, ↓reduceIte, appendAll_eq, bind]
    cases mbAppendList (MB.new ps) (x :: y).dropLast <;>
      simp [Except.map, Except.bind, contextify_none, pure, Except.pure, startAttrs]

/-- `MsgDirective.extract`, element form: the buffer holds all events -/
theorem msgExtract_elem (cfg : Cfg) (ps : List Str) (st : Bool) (cs xs : List Str) (s : List TEvent) (last : TEvent)
    (h : (s ++ [last]).head?.map TEvent.isStart = some false) :
    msgExtract cfg ps st cs xs (s ++ [last]) = (mbAppendList (MB.new ps) (s ++ [last])).map fun b =>
      s.flatMap (evMessages cfg st) ++ exprCode last ++ [ctxMsg b.format (lastSlice cs) (lastSlice xs)] := by
  cases hs : s ++ [last] with
  | nil => simp at hs
  | cons first rest =>
    rw [hs] at h
    have hf : first.isStart = false := by simpa using h
    simp only [msgExtract, hf, Bool.false_eq_true, ↓reduceIte, ← hs, List.dropLast_concat, List.getLast?_concat,
      Option.getD_some, appendAll_eq, bind, mbAppendList_append, mbAppendList_single]
    cases mbAppendList (MB.new ps) s with
    | error err => rfl
    | ok b => cases mbAppend b last <;> simp [Except.map, Except.bind, contextify_none, pure, Except.pure]

theorem msgId_eq (ps : List Str) (s : List TEvent) (hs : s ≠ []) :
    msgId ps s = (mbAppendList (MB.new ps) (msgBody s)).map (fun b => some b.format) := by
  cases s with
  | nil => exact absurd rfl hs
  | cons first rest =>
    simp only [msgId, msgBuffer_eq, bind]
    cases mbAppendList (MB.new ps) (msgBody (first :: rest)) <;> rfl

/-- the event with the attributes of a START event forgotten: all that `MessageBuffer.append`
    looks at for the message string, and all the pass can change in SUB-free message content -/
def eraseAttrs : TEvent → TEvent
  | .start t _ => .start t []
  | e => e

theorem trList_erase (cfg : Cfg) (cat : Catalog) (ctx : Ctx) (ta : Bool) : ∀ (s : List TEvent) (k : Nat),
    noSubList s = true → (trList cfg cat ctx false ta k s).map eraseAttrs = s.map eraseAttrs
  | [], k, _ => by cases k <;> rfl
  | e :: es, k, h => by
      simp only [noSubList, List.all_cons, Bool.and_eq_true] at h
      rw [trList_cons, List.map_cons, List.map_cons, trList_erase cfg cat ctx ta es _ (by simpa [noSubList] using h.2)]
      congr 1
      cases k with
      | succ k => rfl
      | zero =>
        cases e with
        | start t a => by_cases hx : excluded cfg t a = true <;> simp [trEv, hx, eraseAttrs]
        | sub d b => simp at h
        | _ => rfl

theorem mbAppendList_erase (p : Str) : ∀ (s : List TEvent) (b b' : MB), PrefRel p b b' →
    PrefRes p (mbAppendList b s) (mbAppendList b' (s.map eraseAttrs))
  | [], b, b', h => h
  | e :: es, b, b', h => by
      refine PrefRes.bind (f' := fun c' => mbAppendList c' (es.map eraseAttrs)) ?_ fun c c' hc => mbAppendList_erase p es c c' hc
      cases e with
      | start t a => exact mbAppend_pref_start p t a [] b b' h
      | _ => exact mbAppend_pref p _ b b' h

theorem isStart_erase (e : TEvent) : (eraseAttrs e).isStart = e.isStart := by cases e <;> rfl

theorem isEnd_erase (e : TEvent) : (eraseAttrs e).isEnd = e.isEnd := by cases e <;> rfl

theorem msgBody_erase (s : List TEvent) : msgBody (s.map eraseAttrs) = (msgBody s).map eraseAttrs := by
  cases s with
  | nil => rfl
  | cons first rest =>
    simp only [List.map_cons, msgBody, isStart_erase, List.getLast?_map, List.map_append]
    cases rest.getLast? with
    | none => by_cases hf : first.isStart = true <;> simp [hf]
    | some last =>
      by_cases hf : first.isStart = true <;> by_cases hl : last.isEnd = true <;>
        simp [hf, hl, isEnd_erase, List.map_dropLast]

/-- the message id does not depend on the attributes inside the message -/
theorem msgId_erase (ps : List Str) (s : List TEvent) : msgId ps (s.map eraseAttrs) = msgId ps s := by
  cases s with
  | nil => rfl
  | cons first rest =>
    rw [msgId_eq ps _ (by simp), msgId_eq ps _ (by simp), msgBody_erase]
    have hc := mbAppendList_erase [] (msgBody (first :: rest)) (MB.new ps) (MB.new ps) ⟨rfl, rfl⟩
    revert hc
    cases mbAppendList (MB.new ps) (msgBody (first :: rest)) <;>
      cases mbAppendList (MB.new ps) ((msgBody (first :: rest)).map eraseAttrs) <;> simp only [PrefRes, Except.map] <;>
      intro hh
    · rw [hh]
    · exact hh.elim
    · exact hh.elim
    · simp [MB.format, hh.2]

/-- the pass (with `translate_text=False`) does not change the message id of SUB-free content -/
theorem msgId_trList (cfg : Cfg) (cat : Catalog) (ctx : Ctx) (ta : Bool) (k : Nat) (ps : List Str) (s : List TEvent)
    (h : noSubList s = true) : msgId ps (trList cfg cat ctx false ta k s) = msgId ps s := by
  rw [← msgId_erase, trList_erase cfg cat ctx ta s k h, msgId_erase]

/-- both directives fill the same buffer: the id `__call__` reads off it is in what `extract` reports -/
theorem extracted_of_buffer {x : Except Err MB} {id : Str} (h : x.map (fun b => some b.format) = .ok (some id))
    (f : MB → List Message) (cs xs : List Str) :
    ∃ ms, x.map (fun b => f b ++ [ctxMsg b.format cs xs]) = .ok ms ∧ id ∈ idsOf ms := by
  cases x with
  | error err => cases h
  | ok b =>
    obtain rfl : b.format = id := by simpa [Except.map] using h
    exact ⟨_, rfl, by simp [idsOf, ctxMsg_ids]⟩

/-- **the message id looked up while rendering is extracted.**  For a message directive in
    attribute form whose content holds no nested directive, whatever the catalogue did to the
    attributes inside: the id `MsgDirective.__call__` looks up for the stream the translation
    pass hands on (with `translate_text=False`) is among the ids `MsgDirective.extract`
    reports for the template's stream. -/
theorem msg_lookup_extracted (cfg : Cfg) (cat : Catalog) (ctx : Ctx) (ta : Bool) (skip : Nat)
    (ps : List Str) (st : Bool) (cs xs : List Str) (t t' : QName) (a : TAttrs) (mid : List TEvent)
    (hmid : noSubList mid = true) (id : Str)
    (h : msgId ps (trList cfg cat ctx false ta skip (.start t a :: (mid ++ [.end_ t']))) = .ok (some id)) :
    ∃ ms, msgExtract cfg ps st cs xs (.start t a :: (mid ++ [.end_ t'])) = .ok ms ∧ id ∈ idsOf ms := by
  have hns : noSubList (.start t a :: (mid ++ [.end_ t'])) = true := by
    simp only [noSubList, List.all_cons, List.all_append, Bool.and_eq_true] at hmid ⊢
    simpa using hmid
  rw [msgId_trList cfg cat ctx ta skip ps _ hns, msgId_eq ps _ (by simp)] at h
  rw [(msgBody_attr t a mid _ rfl).1] at h
  rw [msgExtract_attr _ _ _ _ _ _ _ _ (by simp), List.dropLast_concat]
  exact extracted_of_buffer h _ _ _

/-- element form `<i18n:msg params="…">first mid last</i18n:msg>`, the content neither starting
    with a START nor ending with an END event (finding C19-msg-element-first-child) -/
theorem msg_lookup_extracted_elem (cfg : Cfg) (cat : Catalog) (ctx : Ctx) (ta : Bool) (skip : Nat)
    (ps : List Str) (st : Bool) (cs xs : List Str) (first last : TEvent) (mid : List TEvent)
    (hf : first.isStart = false) (hl : last.isEnd = false)
    (hns : noSubList (first :: (mid ++ [last])) = true) (id : Str)
    (h : msgId ps (trList cfg cat ctx false ta skip (first :: (mid ++ [last]))) = .ok (some id)) :
    ∃ ms, msgExtract cfg ps st cs xs (first :: (mid ++ [last])) = .ok ms ∧ id ∈ idsOf ms := by
  rw [msgId_trList cfg cat ctx ta skip ps _ hns, msgId_eq ps _ (by simp)] at h
  rw [(msgBody_plain first (mid ++ [last]) hf (by simp [List.getLast?_cons_of_ne_nil, hl])).1] at h
  rw [show first :: (mid ++ [last]) = (first :: mid) ++ [last] from rfl, msgExtract_elem _ _ _ _ _ _ _ (by simp [hf])]
  exact extracted_of_buffer h _ _ _

end Genshi.I18n
