/-
  C19 — the translation pass under the identity catalogue returns the stream *unchanged*
  (not only up to the order of directives) when no SUB event carries an `i18n:domain` or
  `i18n:ctxt` directive: the loop that "organises" the directives then moves nothing.
  At the end: message content without directive-carrying elements (`plainM`) has no SUB event.
-/
import Genshi.Lemmas.I18nForest
import Genshi.Lemmas.I18n
namespace Genshi.I18n
open Genshi

mutual
  /-- no SUB event, at any depth, carries `i18n:domain` or `i18n:ctxt`: the pass leaves every directive list in place -/
  def stableEv : TEvent → Bool
    | .sub d b => noCtxDirs d && stableList b
    | _ => true
  def stableList : List TEvent → Bool
    | [] => true
    | e :: es => stableEv e && stableList es
end

theorem stableList_append : ∀ (x y : List TEvent), stableList (x ++ y) = (stableList x && stableList y)
  | [], y => by simp [stableList]
  | e :: x, y => by simp [stableList, stableList_append x y, Bool.and_assoc]

theorem stableList_of_noSub : ∀ (s : List TEvent), (s.all fun e => match e with | .sub _ _ => false | _ => true) = true →
    stableList s = true
  | [], _ => rfl
  | e :: es, h => by
      simp only [List.all_cons, Bool.and_eq_true] at h
      cases e with
      | sub d b => simp at h
      | _ => simpa [stableList, stableEv] using stableList_of_noSub es h.2

theorem trList_id_eq (cfg : Cfg) (ctx : Ctx) (tt ta : Bool) :
      ∀ (skip : Nat) (s : List TEvent), cleanList cfg s = true → stableList s = true →
        trList cfg Catalog.id ctx tt ta skip s = s := by
  intro skip s
  induction s using stream_induction generalizing ctx tt ta skip with
  | nil => intros; simp [trList]
  | cons e es ihe ih =>
    intro h hs
    simp only [cleanList, Bool.and_eq_true] at h
    simp only [stableList, Bool.and_eq_true] at hs
    rw [trList_cons, ih ctx tt ta _ h.2 hs.2]
    rcases trEv_id cfg ctx tt ta skip e h.1 with he | ⟨rfl, d, b, rfl⟩
    · rw [he]
    · simp only [stableEv, Bool.and_eq_true] at hs
      simp only [trEv, trSub, reorder_stable d hs.1.1, List.nil_append]
      rw [ihe d b rfl _ _ _ 0 (by simpa [cleanEv] using h.1) hs.1.2]

theorem trSub_id_eq (cfg : Cfg) (ctx : Ctx) (ta : Bool) :
      ∀ e : TEvent, cleanEv cfg e = true → stableEv e = true → trSub cfg Catalog.id ctx ta e = e := by
  intro e h hs
  cases e with
  | sub d b =>
    simp only [stableEv, Bool.and_eq_true] at hs
    simp only [trSub, reorder_stable d hs.1, List.nil_append]
    rw [trList_id_eq cfg ctx _ _ 0 b (by simpa [cleanEv] using h) hs.2]
  | _ => rfl

mutual
  /-- no element of the message carries a directive -/
  def MNode.plainN : MNode → Bool
    | .elem sd _ _ ks => sd.isNone && plainM ks
    | _ => true
  def plainM : List MNode → Bool
    | [] => true
    | n :: ns => n.plainN && plainM ns
end

mutual
  theorem MNode.subsOK_of_plain : ∀ (n : MNode) (i : Bool), n.plainN = true → n.subsOK i = true
    | .text _, _, _ => rfl
    | .expr _ _ _, _, _ => rfl
    | .elem sd _ _ ks, i, h => by
        simp only [MNode.plainN, Bool.and_eq_true, Option.isNone_iff_eq_none] at h
        obtain ⟨rfl, hk⟩ := h
        simp [MNode.subsOK, subsOKM_of_plain ks i hk]
  theorem subsOKM_of_plain : ∀ (ns : List MNode) (i : Bool), plainM ns = true → subsOKM i ns = true
    | [], _, _ => rfl
    | n :: ns, i, h => by
        simp only [plainM, Bool.and_eq_true] at h
        simp [subsOKM, MNode.subsOK_of_plain n i h.1, subsOKM_of_plain ns i h.2]
end

mutual
  theorem MNode.flatten_noSub : ∀ (n : MNode), n.plainN = true →
      (n.flatten.all fun e => match e with | .sub _ _ => false | _ => true) = true
    | .text _, _ => rfl
    | .expr _ _ _, _ => rfl
    | .elem sd _ _ ks, h => by
        simp only [MNode.plainN, Bool.and_eq_true, Option.isNone_iff_eq_none] at h
        obtain ⟨rfl, hk⟩ := h
        simp only [MNode.flatten, List.all_cons, List.all_append, List.all_nil, Bool.and_true, Bool.true_and]
        exact flattenM_noSub ks hk
  theorem flattenM_noSub : ∀ (ns : List MNode), plainM ns = true →
      ((flattenM ns).all fun e => match e with | .sub _ _ => false | _ => true) = true
    | [], _ => rfl
    | n :: ns, h => by
        simp only [plainM, Bool.and_eq_true] at h
        simp only [flattenM, List.all_append, Bool.and_eq_true]
        exact ⟨MNode.flatten_noSub n h.1, flattenM_noSub ns h.2⟩
end

end Genshi.I18n
