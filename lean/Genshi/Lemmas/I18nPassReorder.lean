/-
  C19 — the translation pass under the identity catalogue, exactly: it returns the stream with
  the directive list of every SUB event re-ordered (`reorder`: `i18n:domain` first, `i18n:ctxt`
  next) and nothing else changed.  On the content of a message this is the content of the
  forest whose directive-carrying elements have their lists re-ordered (`reordM`), and every
  hypothesis of the identity theorem for `MsgDirective.__call__` (`msgGenerate_identity_attr`) is
  blind to that order (`*_reord`).  Pass and directive are composed in `I18nPassSkip.lean`, which
  also admits excluded elements.
-/
import Genshi.Lemmas.I18nPassEq
namespace Genshi.I18n
open Genshi

mutual
  /-- the directive lists of all SUB events re-ordered as the pass does -/
  def reorderEv : TEvent → TEvent
    | .sub d b => .sub (reorder d).dirs (reorderList b)
    | e => e
  def reorderList : List TEvent → List TEvent
    | [] => []
    | e :: es => reorderEv e :: reorderList es
end

theorem reorderList_append : ∀ (x y : List TEvent), reorderList (x ++ y) = reorderList x ++ reorderList y
  | [], y => by simp [reorderList]
  | e :: x, y => by simp [reorderList, reorderList_append x y]

mutual
  /-- no START event, at any depth, opens an excluded sub-tree (`ignore_tags`, literal `xml:lang`) -/
  def noExclEv (cfg : Cfg) : TEvent → Bool
    | .start t a => !excluded cfg t a
    | .sub _ b => noExclList cfg b
    | _ => true
  def noExclList (cfg : Cfg) : List TEvent → Bool
    | [] => true
    | e :: es => noExclEv cfg e && noExclList cfg es
end

theorem noExclList_append (cfg : Cfg) : ∀ (x y : List TEvent), noExclList cfg (x ++ y) = (noExclList cfg x && noExclList cfg y)
  | [], y => by simp [noExclList]
  | e :: x, y => by simp [noExclList, noExclList_append cfg x y, Bool.and_assoc]

/-- **the pass under the identity catalogue re-orders the directive lists and changes nothing
    else** (streams without excluded elements; inside those the pass does not even re-order) -/
theorem trList_id_reorder (cfg : Cfg) (ctx : Ctx) (tt ta : Bool) :
      ∀ (s : List TEvent), cleanList cfg s = true → noExclList cfg s = true →
        trList cfg Catalog.id ctx tt ta 0 s = reorderList s := by
  intro s
  induction s using stream_induction generalizing ctx tt ta with
  | nil => intros; simp [trList, reorderList]
  | cons e es ihe ih =>
    intro h hx
    simp only [cleanList, Bool.and_eq_true] at h
    simp only [noExclList, Bool.and_eq_true] at hx
    have hk : skipNext cfg 0 e = 0 := by
      cases e with
      | start t a => simpa [skipNext, noExclEv] using hx.1
      | _ => rfl
    rw [trList_cons, hk, ih ctx tt ta h.2 hx.2, reorderList]
    cases e with
    | sub d b =>
      simp only [trEv, trSub, reorderEv]
      rw [ihe d b rfl _ _ _ (by simpa [cleanEv] using h.1) (by simpa [noExclEv] using hx.1)]
    | _ => rw [(trEv_id cfg ctx tt ta 0 _ h.1).resolve_right (by rintro ⟨_, d, b, h⟩; cases h)]; rfl

theorem trSub_id_reorder (cfg : Cfg) (ctx : Ctx) (ta : Bool) :
      ∀ e : TEvent, cleanEv cfg e = true → noExclEv cfg e = true → trSub cfg Catalog.id ctx ta e = reorderEv e := by
  intro e h hx
  cases e with
  | sub d b =>
    simp only [trSub, reorderEv]
    rw [trList_id_reorder cfg _ _ _ b (by simpa [cleanEv] using h) (by simpa [noExclEv] using hx)]
  | _ => rfl

mutual
  def MNode.reord : MNode → MNode
    | .elem sd t a ks => .elem (sd.map fun d => (reorder d).dirs) t a (reordM ks)
    | n => n
  def reordM : List MNode → List MNode
    | [] => []
    | n :: ns => n.reord :: reordM ns
end

mutual
  theorem MNode.flatten_reord : ∀ (n : MNode), n.reord.flatten = reorderList n.flatten
    | .text _ => rfl
    | .expr _ _ _ => rfl
    | .elem none t a ks => by
        simp only [MNode.reord, Option.map_none, MNode.flatten, reorderList, reorderEv, reorderList_append,
          flattenM_reord ks]
    | .elem (some ds) t a ks => by
        simp only [MNode.reord, Option.map_some, MNode.flatten, reorderList, reorderEv, reorderList_append,
          flattenM_reord ks]
  theorem flattenM_reord : ∀ (F : List MNode), flattenM (reordM F) = reorderList (flattenM F)
    | [] => rfl
    | n :: ns => by simp only [reordM, flattenM, reorderList_append, MNode.flatten_reord n, flattenM_reord ns]
end

mutual
  theorem MNode.clean_reord : ∀ (n : MNode), n.reord.clean = n.clean
    | .text _ => rfl
    | .expr _ _ _ => rfl
    | .elem sd t a ks => by simp only [MNode.reord, MNode.clean, cleanM_reord ks]
  theorem cleanM_reord : ∀ (F : List MNode), cleanM (reordM F) = cleanM F
    | [] => rfl
    | n :: ns => by simp only [reordM, cleanM, MNode.clean_reord n, cleanM_reord ns]
end

theorem noAdjF_reord : ∀ (p : Bool) (F : List MNode), noAdjF p (reordM F) = noAdjF p F
  | _, [] => rfl
  | p, .elem sd t a ks :: ns => by simp only [reordM, MNode.reord, noAdjF, noAdjF_reord true ns]
  | p, .text s :: ns => by simp only [reordM, MNode.reord, noAdjF, noAdjF_reord false ns]
  | p, .expr n i c :: ns => by simp only [reordM, MNode.reord, noAdjF, noAdjF_reord false ns]

mutual
  theorem MNode.deepNoAdj_reord : ∀ (n : MNode), n.reord.deepNoAdj = n.deepNoAdj
    | .text _ => rfl
    | .expr _ _ _ => rfl
    | .elem sd t a ks => by simp only [MNode.reord, MNode.deepNoAdj, noAdjF_reord, deepNoAdjM_reord ks]
  theorem deepNoAdjM_reord : ∀ (F : List MNode), deepNoAdjM (reordM F) = deepNoAdjM F
    | [] => rfl
    | n :: ns => by simp only [reordM, deepNoAdjM, MNode.deepNoAdj_reord n, deepNoAdjM_reord ns]
end

mutual
  theorem MNode.names_reord : ∀ (n : MNode), n.reord.names = n.names
    | .text _ => rfl
    | .expr _ _ _ => rfl
    | .elem sd t a ks => by simp only [MNode.reord, MNode.names, namesM_reord ks]
  theorem namesM_reord : ∀ (F : List MNode), namesM (reordM F) = namesM F
    | [] => rfl
    | n :: ns => by simp only [reordM, namesM, MNode.names_reord n, namesM_reord ns]
end

mutual
  theorem MNode.subsOK_reord : ∀ (n : MNode) (i : Bool), n.reord.subsOK i = n.subsOK i
    | .text _, _ => rfl
    | .expr _ _ _, _ => rfl
    | .elem sd t a ks, i => by
        simp only [MNode.reord, MNode.subsOK, Option.isSome_map, subsOKM_reord ks]
  theorem subsOKM_reord : ∀ (F : List MNode) (i : Bool), subsOKM i (reordM F) = subsOKM i F
    | [], _ => rfl
    | n :: ns, i => by simp only [reordM, subsOKM, MNode.subsOK_reord n, subsOKM_reord ns]
end

end Genshi.I18n
