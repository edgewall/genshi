/-
  C19 — the translation pass under the identity catalogue on the content of a message, with
  excluded elements (`ignore_tags`, literal `xml:lang`) anywhere: a tree-level reading of the
  skip counter.  Inside an excluded element the pass hands every event on untouched (SUB events
  with their directive lists included); everywhere else it re-orders the directive lists
  (`reorder`) and changes nothing.  On the forest of a message this is `reordXM`; every
  hypothesis of the identity theorem for `MsgDirective.__call__` (`msgGenerate_identity_attr`) is
  invariant under it (`*_reordX`), so pass and directive compose: `pass_then_msg_identity_skip`.
  Props' `identity_transparent_msg`, `…_msg_sub` (no domain / ctxt: nothing is re-ordered,
  `reordXM_stable`) and `…_msg_reorder` (no excluded element: `reordXM_eq_reordM`) are instances.
-/
import Genshi.Lemmas.I18nPassReorder
import Genshi.Lemmas.I18nTrim
namespace Genshi.I18n
open Genshi

theorem cleanList_append (cfg : Cfg) : ∀ (x y : List TEvent), cleanList cfg (x ++ y) = (cleanList cfg x && cleanList cfg y)
  | [], y => by simp [cleanList]
  | e :: x, y => by simp [cleanList, cleanList_append cfg x y, Bool.and_assoc]

mutual
  /-- what the pass under the identity catalogue makes of a node of a message forest with clean attributes (skip
      counter 0 on entry: `MNode.trList_idX`) -/
  def MNode.reordX (cfg : Cfg) : MNode → MNode
    | .elem sd t a ks =>
        .elem (sd.map fun d => (reorder d).dirs) t a (if excluded cfg t a then ks else reordXM cfg ks)
    | n => n
  def reordXM (cfg : Cfg) : List MNode → List MNode
    | [] => []
    | n :: ns => n.reordX cfg :: reordXM cfg ns
end

mutual
  theorem MNode.trList_skip (cfg : Cfg) (cat : Catalog) (ctx : Ctx) (tt ta : Bool) :
      ∀ (n : MNode) (k : Nat) (rest : List TEvent),
        trList cfg cat ctx tt ta (k + 1) (n.flatten ++ rest) = n.flatten ++ trList cfg cat ctx tt ta (k + 1) rest
    | .text s, k, rest => by simp [MNode.flatten, trList, skipStep]
    | .expr _ i cm, k, rest => by simp [MNode.flatten, trList, skipStep]
    | .elem (some ds) t a ks, k, rest => by simp [MNode.flatten, trList, skipStep]
    | .elem none t a ks, k, rest => by
        simp only [MNode.flatten, List.cons_append, List.append_assoc, trList, skipStep]
        rw [trListM_skip cfg cat ctx tt ta ks (k + 1)]
        simp [trList, skipStep]
  theorem trListM_skip (cfg : Cfg) (cat : Catalog) (ctx : Ctx) (tt ta : Bool) :
      ∀ (F : List MNode) (k : Nat) (rest : List TEvent),
        trList cfg cat ctx tt ta (k + 1) (flattenM F ++ rest) = flattenM F ++ trList cfg cat ctx tt ta (k + 1) rest
    | [], k, rest => by simp [flattenM]
    | n :: ns, k, rest => by
        simp only [flattenM, List.append_assoc]
        rw [MNode.trList_skip cfg cat ctx tt ta n k, trListM_skip cfg cat ctx tt ta ns k]
end

mutual
  theorem MNode.trList_idX (cfg : Cfg) :
      ∀ (n : MNode), cleanList cfg n.flatten = true → ∀ (ctx : Ctx) (tt ta : Bool) (rest : List TEvent),
        trList cfg Catalog.id ctx tt ta 0 (n.flatten ++ rest) =
          (n.reordX cfg).flatten ++ trList cfg Catalog.id ctx tt ta 0 rest
    | .text s, _, ctx, tt, ta, rest => by
        simp [MNode.flatten, MNode.reordX, trList, gettextOf_id, trText_id]
    | .expr _ i cm, _, ctx, tt, ta, rest => by simp [MNode.flatten, MNode.reordX, trList]
    | .elem none t a ks, h, ctx, tt, ta, rest => by
        simp only [MNode.flatten, cleanList, cleanEv, cleanList_append, Bool.and_eq_true] at h
        by_cases hx : excluded cfg t a = true
        · simp only [MNode.flatten, MNode.reordX, Option.map_none, hx, ↓reduceIte, List.cons_append,
            List.append_assoc, trList]
          rw [trListM_skip cfg Catalog.id ctx tt ta ks 0]
          simp [trList, skipStep]
        · simp only [MNode.flatten, MNode.reordX, Option.map_none, hx, Bool.false_eq_true, ↓reduceIte,
            List.cons_append, List.append_assoc, trList]
          rw [gettextOf_id, trAttrs_id cfg ta a h.1, trListM_idX cfg ks h.2.1 ctx tt ta]
          simp [trList]
    | .elem (some ds) t a ks, h, ctx, tt, ta, rest => by
        simp only [MNode.flatten, cleanList, cleanEv, cleanList_append, Bool.and_eq_true] at h
        by_cases hx : excluded cfg t a = true
        · simp only [MNode.flatten, MNode.reordX, Option.map_some, hx, ↓reduceIte, List.cons_append,
            List.nil_append, trList, trSub]
          rw [trListM_skip cfg Catalog.id _ _ _ ks 0]
          simp [trList]
        · simp only [MNode.flatten, MNode.reordX, Option.map_some, hx, Bool.false_eq_true, ↓reduceIte,
            List.cons_append, List.nil_append, trList, trSub]
          rw [gettextOf_id, trAttrs_id cfg _ a h.1.1, trListM_idX cfg ks h.1.2.1]
          simp [trList]
  theorem trListM_idX (cfg : Cfg) :
      ∀ (F : List MNode), cleanList cfg (flattenM F) = true → ∀ (ctx : Ctx) (tt ta : Bool) (rest : List TEvent),
        trList cfg Catalog.id ctx tt ta 0 (flattenM F ++ rest) =
          flattenM (reordXM cfg F) ++ trList cfg Catalog.id ctx tt ta 0 rest
    | [], _, ctx, tt, ta, rest => by simp [flattenM, reordXM]
    | n :: ns, h, ctx, tt, ta, rest => by
        simp only [flattenM, cleanList_append, Bool.and_eq_true] at h
        simp only [flattenM, reordXM, List.append_assoc]
        rw [MNode.trList_idX cfg n h.1, trListM_idX cfg ns h.2]
end

mutual
  theorem MNode.clean_reordX (cfg : Cfg) : ∀ (n : MNode), (n.reordX cfg).clean = n.clean
    | .text _ => rfl
    | .expr _ _ _ => rfl
    | .elem sd t a ks => by
        by_cases hx : excluded cfg t a = true <;> simp [MNode.reordX, MNode.clean, hx, cleanM_reordX cfg ks]
  theorem cleanM_reordX (cfg : Cfg) : ∀ (F : List MNode), cleanM (reordXM cfg F) = cleanM F
    | [] => rfl
    | n :: ns => by simp only [reordXM, cleanM, MNode.clean_reordX cfg n, cleanM_reordX cfg ns]
end

theorem noAdjF_reordX (cfg : Cfg) : ∀ (p : Bool) (F : List MNode), noAdjF p (reordXM cfg F) = noAdjF p F
  | _, [] => rfl
  | p, .elem sd t a ks :: ns => by simp only [reordXM, MNode.reordX, noAdjF, noAdjF_reordX cfg true ns]
  | p, .text s :: ns => by simp only [reordXM, MNode.reordX, noAdjF, noAdjF_reordX cfg false ns]
  | p, .expr n i c :: ns => by simp only [reordXM, MNode.reordX, noAdjF, noAdjF_reordX cfg false ns]

mutual
  theorem MNode.deepNoAdj_reordX (cfg : Cfg) : ∀ (n : MNode), (n.reordX cfg).deepNoAdj = n.deepNoAdj
    | .text _ => rfl
    | .expr _ _ _ => rfl
    | .elem sd t a ks => by
        by_cases hx : excluded cfg t a = true <;>
          simp [MNode.reordX, MNode.deepNoAdj, hx, noAdjF_reordX, deepNoAdjM_reordX cfg ks]
  theorem deepNoAdjM_reordX (cfg : Cfg) : ∀ (F : List MNode), deepNoAdjM (reordXM cfg F) = deepNoAdjM F
    | [] => rfl
    | n :: ns => by simp only [reordXM, deepNoAdjM, MNode.deepNoAdj_reordX cfg n, deepNoAdjM_reordX cfg ns]
end

mutual
  theorem MNode.names_reordX (cfg : Cfg) : ∀ (n : MNode), (n.reordX cfg).names = n.names
    | .text _ => rfl
    | .expr _ _ _ => rfl
    | .elem sd t a ks => by
        by_cases hx : excluded cfg t a = true <;> simp [MNode.reordX, MNode.names, hx, namesM_reordX cfg ks]
  theorem namesM_reordX (cfg : Cfg) : ∀ (F : List MNode), namesM (reordXM cfg F) = namesM F
    | [] => rfl
    | n :: ns => by simp only [reordXM, namesM, MNode.names_reordX cfg n, namesM_reordX cfg ns]
end

mutual
  theorem MNode.subsOK_reordX (cfg : Cfg) : ∀ (n : MNode) (i : Bool), (n.reordX cfg).subsOK i = n.subsOK i
    | .text _, _ => rfl
    | .expr _ _ _, _ => rfl
    | .elem sd t a ks, i => by
        by_cases hx : excluded cfg t a = true <;>
          simp [MNode.reordX, MNode.subsOK, hx, Option.isSome_map, subsOKM_reordX cfg ks]
  theorem subsOKM_reordX (cfg : Cfg) : ∀ (F : List MNode) (i : Bool), subsOKM i (reordXM cfg F) = subsOKM i F
    | [], _ => rfl
    | n :: ns, i => by simp only [reordXM, subsOKM, MNode.subsOK_reordX cfg n, subsOKM_reordX cfg ns]
end

theorem reordXM_eq_reordM (cfg : Cfg) : ∀ (F : List MNode), noExclList cfg (flattenM F) = true →
    reordXM cfg F = reordM F := by
  intro F
  induction F using forest_induction with
  | nil => intro _; rfl
  | text s ns ih =>
      intro h
      simp only [flattenM, MNode.flatten, List.cons_append, List.nil_append, noExclList, noExclEv, Bool.true_and] at h
      simp [reordXM, reordM, MNode.reordX, MNode.reord, ih h]
  | expr n i c ns ih =>
      intro h
      simp only [flattenM, MNode.flatten, List.cons_append, List.nil_append, noExclList, noExclEv, Bool.true_and] at h
      simp [reordXM, reordM, MNode.reordX, MNode.reord, ih h]
  | elem sd t a ks ns ihk ih =>
      intro h
      cases sd with
      | none =>
        simp only [flattenM, MNode.flatten, List.cons_append, List.append_assoc, noExclList, noExclEv,
          noExclList_append, Bool.and_eq_true, Bool.not_eq_true'] at h
        simp [reordXM, reordM, MNode.reordX, MNode.reord, h.1, ihk h.2.1, ih h.2.2.2.2]
      | some ds =>
        simp only [flattenM, MNode.flatten, List.cons_append, List.nil_append, noExclList, noExclEv,
          noExclList_append, Bool.and_eq_true, Bool.not_eq_true'] at h
        simp [reordXM, reordM, MNode.reordX, MNode.reord, h.1.1, ihk h.1.2.1, ih h.2]

/-- without `i18n:domain` / `i18n:ctxt` on the directive-carrying elements nothing is re-ordered -/
theorem reordXM_stable (cfg : Cfg) : ∀ (F : List MNode), stableList (flattenM F) = true → reordXM cfg F = F := by
  intro F
  induction F using forest_induction with
  | nil => intro _; rfl
  | text s ns ih =>
      intro h
      simp only [flattenM, MNode.flatten, List.cons_append, List.nil_append, stableList, stableEv, Bool.true_and] at h
      simp [reordXM, MNode.reordX, ih h]
  | expr n i c ns ih =>
      intro h
      simp only [flattenM, MNode.flatten, List.cons_append, List.nil_append, stableList, stableEv, Bool.true_and] at h
      simp [reordXM, MNode.reordX, ih h]
  | elem sd t a ks ns ihk ih =>
      intro h
      cases sd with
      | none =>
        simp only [flattenM, MNode.flatten, List.cons_append, List.append_assoc, stableList, stableEv,
          stableList_append, Bool.and_eq_true, Bool.true_and] at h
        simp [reordXM, MNode.reordX, ihk h.1, ih h.2]
      | some ds =>
        simp only [flattenM, MNode.flatten, List.cons_append, List.nil_append, stableList, stableEv,
          stableList_append, Bool.and_eq_true, Bool.true_and] at h
        simp [reordXM, MNode.reordX, reorder_stable ds h.1.1, ihk h.1.2.1, ih h.2]

mutual
  theorem MNode.cleanB_reordX (cfg : Cfg) : ∀ (n : MNode), (n.reordX cfg).cleanB = n.cleanB
    | .text _ => rfl
    | .expr _ _ _ => rfl
    | .elem sd t a ks => by
        by_cases hx : excluded cfg t a = true <;> simp [MNode.reordX, MNode.cleanB, hx, cleanB_reordX cfg ks]
  theorem cleanB_reordX (cfg : Cfg) : ∀ (F : List MNode), cleanB (reordXM cfg F) = cleanB F
    | [] => rfl
    | n :: ns => by simp only [reordXM, cleanB, MNode.cleanB_reordX cfg n, cleanB_reordX cfg ns]
end

/-- **identity_transparent, pass and directive together, one statement**: content with
    directive-carrying elements that may carry `i18n:domain` / `i18n:ctxt`, and with excluded
    elements (`ignore_tags`, literal `xml:lang`) anywhere: the pass re-orders the directive lists
    outside excluded elements and leaves everything inside them alone (`reordXM`), the message
    directive returns that content unchanged up to the white space at the edges of the message
    and the chunking of text.  Text with brackets (`cleanB`), `segsOK` asked of what the pass hands on. -/
theorem pass_then_msg_identity_skipB (cfg : Cfg) (ctx : Ctx) (tt ta : Bool) (t : QName) (a : TAttrs) (F : List MNode)
    (extra : List Str) (hc : cleanB F = true)
    (hsg : segsOK (trimF (if excluded cfg t a then F else reordXM cfg F)) = true)
    (hna : deepNoAdjM F = true) (hnd : (namesM F).Nodup) (hso : subsOKM false F = true)
    (hattr : cleanList cfg (.start t a :: (flattenM F ++ [.end_ t])) = true) :
    msgGenerate (namesM F ++ extra) (fun s => s)
        (trList cfg Catalog.id ctx tt ta 0 (.start t a :: (flattenM F ++ [.end_ t]))) =
      .ok (.start t a :: (coalesce (flattenM (trimF (if excluded cfg t a then F else reordXM cfg F))) ++ [.end_ t])) := by
  have hpass : trList cfg Catalog.id ctx tt ta 0 (.start t a :: (flattenM F ++ [.end_ t])) =
      .start t a :: (flattenM (if excluded cfg t a then F else reordXM cfg F) ++ [.end_ t]) := by
    -- the whole `<t>F</t>` is the one node `.elem none t a F`; its `if excluded cfg t a` is the one of the statement
    have h := MNode.trList_idX cfg (.elem none t a F) (by simpa [MNode.flatten] using hattr) ctx tt ta []
    simpa [MNode.flatten, MNode.reordX, trList] using h
  rw [hpass]
  by_cases hx : excluded cfg t a = true
  · simp only [hx, ↓reduceIte] at hsg ⊢
    exact msgGenerate_identity_attrB t a F extra hc hsg hna hnd hso
  · simp only [hx, Bool.false_eq_true, ↓reduceIte] at hsg ⊢
    have := msgGenerate_identity_attrB t a (reordXM cfg F) extra (by rw [cleanB_reordX]; exact hc) hsg
      (by rw [deepNoAdjM_reordX]; exact hna) (by rw [namesM_reordX]; exact hnd) (by rw [subsOKM_reordX]; exact hso)
    rw [namesM_reordX] at this
    exact this

/-- bracket-free text (`cleanM`): `segsOK` holds of itself -/
theorem pass_then_msg_identity_skip (cfg : Cfg) (ctx : Ctx) (tt ta : Bool) (t : QName) (a : TAttrs) (F : List MNode)
    (extra : List Str) (hc : cleanM F = true) (hna : deepNoAdjM F = true) (hnd : (namesM F).Nodup)
    (hso : subsOKM false F = true)
    (hattr : cleanList cfg (.start t a :: (flattenM F ++ [.end_ t])) = true) :
    msgGenerate (namesM F ++ extra) (fun s => s)
        (trList cfg Catalog.id ctx tt ta 0 (.start t a :: (flattenM F ++ [.end_ t]))) =
      .ok (.start t a :: (coalesce (flattenM (trimF (if excluded cfg t a then F else reordXM cfg F))) ++ [.end_ t])) :=
  pass_then_msg_identity_skipB cfg ctx tt ta t a F extra (cleanB_of_cleanM F hc)
    (segsOK_of_cleanM _ (cleanM_trimF _ (by split <;> simp [cleanM_reordX, hc]))) hna hnd hso hattr

end Genshi.I18n
