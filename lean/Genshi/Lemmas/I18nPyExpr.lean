/-
  C19 — `extract_from_code` (model: `Genshi/Model/I18nPyExpr.lean`) reports exactly the calls
  of the gettext functions that occur in the syntax tree, at any depth (also inside the
  arguments of another gettext call: fix fbd47f1), each with its literal arguments.
-/
import Genshi.Model.I18nPyExpr
namespace Genshi.I18n
open Genshi

theorem walkList_of_mem {gf : List Str} {m : CodeMsg} :
    ∀ {l : List PyExpr} {a : PyExpr}, a ∈ l → m ∈ walk gf a → m ∈ walkList gf l
  | [], _, h, _ => by cases h
  | b :: l, a, h, hm => by
      simp only [walkList, List.mem_append]
      rcases List.mem_cons.1 h with rfl | h
      · exact Or.inl hm
      · exact Or.inr (walkList_of_mem h hm)

theorem walk_of_subExpr {gf : List Str} {m : CodeMsg} {s e : PyExpr} (h : SubExpr s e) :
    m ∈ walk gf s → m ∈ walk gf e := by
  induction h with
  | refl => exact id
  | func args kws _ ih =>
      intro hm; simp only [walk, List.mem_append]; exact Or.inr (Or.inl (ih hm))
  | arg f kws ha _ ih =>
      intro hm; simp only [walk, List.mem_append]
      exact Or.inr (Or.inr (Or.inl (walkList_of_mem ha (ih hm))))
  | kw f args hk _ ih =>
      intro hm; simp only [walk, List.mem_append]
      exact Or.inr (Or.inr (Or.inr (walkList_of_mem hk (ih hm))))
  | child hc _ ih =>
      intro hm; simp only [walk]; exact walkList_of_mem hc (ih hm)

theorem callMsg_self {gf : List Str} {f : Str} (args kws : List PyExpr) (hf : f ∈ gf) :
    callMsg gf (.call (.name f) args kws) = [⟨f, argVal args⟩] := by
  simp [callMsg, hf]

/-- **every gettext call is reported**: a call `f(args…, kw=…)` of a name `f` among the
    gettext functions, occurring anywhere in the expression / code block, is reported with
    one entry per positional argument (the text of a string / bytes literal, `None` for
    anything else). -/
theorem code_call_reported (gf : List Str) (e : PyExpr) (f : Str) (args kws : List PyExpr)
    (hs : SubExpr (.call (.name f) args kws) e) (hf : f ∈ gf) :
    ⟨f, argVal args⟩ ∈ extractFromCode gf e := by
  refine walk_of_subExpr hs ?_
  simp [walk, callMsg_self args kws hf]

theorem argVal_literalArgs_one (s : Str) : argVal (literalArgs [s]) = .one (some s) := rfl

theorem map_litVal_literalArgs (ss : List Str) : (literalArgs ss).map litVal = ss.map some := by
  induction ss with
  | nil => rfl
  | cons s ss ih => simp [literalArgs, litVal]

theorem argVal_literalArgs_many (ss : List Str) (h : ss.length ≠ 1) :
    argVal (literalArgs ss) = .many (ss.map some) := by
  unfold argVal
  rw [map_litVal_literalArgs]
  match ss, h with
  | [], _ => rfl
  | [_], h => exact absurd rfl h
  | _ :: _ :: _, _ => rfl

/-- when all positional arguments are string literals the reported value holds exactly those
    strings, in order -/
theorem code_literal_call_reported (gf : List Str) (e : PyExpr) (f : Str) (ss : List Str)
    (kws : List PyExpr) (hs : SubExpr (.call (.name f) (literalArgs ss) kws) e) (hf : f ∈ gf) :
    ⟨f, match ss with | [s] => .one (some s) | _ => .many (ss.map some)⟩ ∈ extractFromCode gf e := by
  have h := code_call_reported gf e f (literalArgs ss) kws hs hf
  match ss, h with
  | [], h => simpa [argVal_literalArgs_many [] (by decide)] using h
  | [s], h => simpa [argVal_literalArgs_one] using h
  | a :: b :: r, h => simpa [argVal_literalArgs_many (a :: b :: r) (by simp)] using h

/-- `m` is the report of a gettext call occurring in `e` -/
def FromCall (gf : List Str) (m : CodeMsg) (e : PyExpr) : Prop :=
  ∃ args kws, SubExpr (.call (.name m.func) args kws) e ∧ m.func ∈ gf ∧ m.val = argVal args

theorem callMsg_sound {gf : List Str} {e : PyExpr} {m : CodeMsg} (h : m ∈ callMsg gf e) :
    FromCall gf m e := by
  match e, h with
  | .call (.name id) args kws, h =>
      by_cases hc : id ∈ gf
      · simp [callMsg, hc] at h
        subst h
        exact ⟨args, kws, SubExpr.refl _, hc, rfl⟩
      · simp [callMsg, hc] at h
  | .call (.str _) _ _, h | .call (.bytes _) _ _, h | .call (.call ..) _ _, h
  | .call (.node _) _ _, h | .str _, h | .bytes _, h | .name _, h | .node _, h =>
      simp [callMsg] at h

mutual
  theorem walk_sound (gf : List Str) : ∀ (e : PyExpr) (m : CodeMsg), m ∈ walk gf e → FromCall gf m e
    | .call f args kws, m, h => by
        simp only [walk, List.mem_append] at h
        rcases h with h | h | h | h
        · exact callMsg_sound h
        · obtain ⟨a, k, hs, r⟩ := walk_sound gf f m h
          exact ⟨a, k, SubExpr.func _ _ hs, r⟩
        · obtain ⟨x, hx, a, k, hs, r⟩ := walkList_sound gf args m h
          exact ⟨a, k, SubExpr.arg _ _ hx hs, r⟩
        · obtain ⟨x, hx, a, k, hs, r⟩ := walkList_sound gf kws m h
          exact ⟨a, k, SubExpr.kw _ _ hx hs, r⟩
    | .node cs, m, h => by
        simp only [walk] at h
        obtain ⟨x, hx, a, k, hs, r⟩ := walkList_sound gf cs m h
        exact ⟨a, k, SubExpr.child hx hs, r⟩
    | .str _, m, h | .bytes _, m, h | .name _, m, h => by simp [walk] at h
  theorem walkList_sound (gf : List Str) :
      ∀ (l : List PyExpr) (m : CodeMsg), m ∈ walkList gf l → ∃ x ∈ l, FromCall gf m x
    | [], m, h => by simp [walkList] at h
    | e :: es, m, h => by
        simp only [walkList, List.mem_append] at h
        rcases h with h | h
        · exact ⟨e, List.mem_cons_self, walk_sound gf e m h⟩
        · obtain ⟨x, hx, r⟩ := walkList_sound gf es m h
          exact ⟨x, List.mem_cons_of_mem _ hx, r⟩
end

/-- **nothing else is reported**: every reported pair is the report of a call of one of the
    gettext functions occurring in the expression -/
theorem code_reported_is_call (gf : List Str) (e : PyExpr) (m : CodeMsg)
    (h : m ∈ extractFromCode gf e) :
    ∃ args kws, SubExpr (.call (.name m.func) args kws) e ∧ m.func ∈ gf ∧ m.val = argVal args :=
  walk_sound gf e m h

def callReport (c : Str × List PyExpr) : CodeMsg := ⟨c.1, argVal c.2⟩

theorem callMsg_eq (gf : List Str) (f : PyExpr) (args kws : List PyExpr) :
    callMsg gf (.call f args kws) =
      ((headCall f args).filter fun c => gf.contains c.1).map callReport := by
  cases f with
  | name id => by_cases hc : id ∈ gf <;> simp [callMsg, headCall, hc, callReport]
  | _ => simp [callMsg, headCall]

mutual
  theorem walk_eq (gf : List Str) : ∀ e : PyExpr,
      walk gf e = ((nameCalls e).filter fun c => gf.contains c.1).map callReport
    | .call f args kws => by
        simp only [walk, nameCalls, List.filter_append, List.map_append, callMsg_eq,
          walk_eq gf f, walkList_eq gf args, walkList_eq gf kws]
    | .node cs => by simp only [walk, nameCalls, walkList_eq gf cs]
    | .str _ | .bytes _ | .name _ => by simp [walk, nameCalls]
  theorem walkList_eq (gf : List Str) : ∀ l : List PyExpr,
      walkList gf l = ((nameCallsList l).filter fun c => gf.contains c.1).map callReport
    | [] => by simp [walkList, nameCallsList]
    | e :: es => by
        simp only [walkList, nameCallsList, List.filter_append, List.map_append, walk_eq gf e,
          walkList_eq gf es]
end

/-- `extract_from_code` answers with the calls of the gettext functions in source order
    (a call before the calls inside it), one report per call -/
theorem extractFromCode_eq_gettextCalls (gf : List Str) (e : PyExpr) :
    extractFromCode gf e = (gettextCalls gf e).map callReport := walk_eq gf e

/-- `ngettext('one', 'many', len(_('Unknown')))` -/
def nestedExample : PyExpr :=
  .call (.name ['n','g','e','t','t','e','x','t'])
    [.str ['o','n','e'], .str ['m','a','n','y'],
     .call (.name ['l','e','n']) [.call (.name ['_']) [.str ['U','n','k','n','o','w','n']] []] []] []

/-- a walk that stops at a gettext call (`extractFromCodeOld`: the code before fix fbd47f1) misses `_('Unknown')`
    inside the arguments of `ngettext(...)`, although it is looked up when the expression is evaluated; the walk of
    the code reports it -/
theorem nested_call_was_missed :
    (⟨['_'], .one (some ['U','n','k','n','o','w','n'])⟩ : CodeMsg) ∉
        extractFromCodeOld Gen.I18n.gettextFunctions nestedExample ∧
    SubExpr (.call (.name ['_']) [.str ['U','n','k','n','o','w','n']] []) nestedExample ∧
    extractFromCode Gen.I18n.gettextFunctions nestedExample =
      [⟨['n','g','e','t','t','e','x','t'], .many [some ['o','n','e'], some ['m','a','n','y'], none]⟩,
       ⟨['_'], .one (some ['U','n','k','n','o','w','n'])⟩] := by
  refine ⟨by decide, ?_, by decide⟩
  exact SubExpr.arg _ _ (a := .call (.name ['l','e','n']) [.call (.name ['_']) [.str ['U','n','k','n','o','w','n']] []] [])
    (by simp) (SubExpr.arg _ _ (List.mem_singleton.2 rfl) (SubExpr.refl _))

/-- `_('Hello')` -/
example : extractFromCode Gen.I18n.gettextFunctions (.call (.name ['_']) [.str ['H','e','l','l','o']] []) =
    [⟨['_'], .one (some ['H','e','l','l','o'])⟩] := by decide

/-- `ngettext('a', 'b', n)` -/
example : extractFromCode Gen.I18n.gettextFunctions
    (.call (.name ['n','g','e','t','t','e','x','t']) [.str ['a'], .str ['b'], .name ['n']] []) =
    [⟨['n','g','e','t','t','e','x','t'], .many [some ['a'], some ['b'], none]⟩] := by decide

/-- `_()` reports the empty tuple; `_(b'x', k=_('y'))` decodes the bytes literal and finds the
    call in the keyword argument; `x._('no')` and `len('no')` are no gettext calls -/
example : extractFromCode Gen.I18n.gettextFunctions
    (.node [.call (.name ['_']) [] [],
            .call (.name ['_']) [.bytes ['x']] [.call (.name ['_']) [.str ['y']] []],
            .call (.node [.name ['x']]) [.str ['n','o']] [],
            .call (.name ['l','e','n']) [.str ['n','o']] []]) =
    [⟨['_'], .many []⟩, ⟨['_'], .one (some ['x'])⟩, ⟨['_'], .one (some ['y'])⟩] := by decide

end Genshi.I18n
