/-
  C19 — the gettext CALL SITES of template code are extracted: composition of
  `code_calls_extracted` (the stream model reports the list every piece of code carries) with
  `extractFromCode_eq_gettextCalls` (that list is the report of every call of a gettext function
  in the syntax tree), over streams whose code is a syntax tree (`Model/I18nPyStream.lean`) and
  for an arbitrary `gettext_functions` argument.
-/
import Genshi.Lemmas.I18nLookups3
import Genshi.Lemmas.I18nPyExpr
import Genshi.Model.I18nPyStream
namespace Genshi.I18n
open Genshi

def partsExprs : List PPart → List PyExpr
  | [] => []
  | .text _ :: ps => partsExprs ps
  | .expr e :: ps => e :: partsExprs ps

/-- the expressions in the interpolated values of an attribute list -/
def attrsExprs : PAttrs → List PyExpr
  | [] => []
  | (_, .str _) :: rest => attrsExprs rest
  | (_, .parts ps) :: rest => partsExprs ps ++ attrsExprs rest

def evExprs : PEvent → List PyExpr
  | .start _ a => attrsExprs a
  | .expr _ e => [e]
  | _ => []

/-- the code inside a plain message directive: the interpolated attributes of its own element
    and of the elements in its content, and the expressions of its content -/
def msgExprs (ds : List Dir) (body : List PEvent) : List PyExpr :=
  match ds, body with
  | [.msg _], .start _ a :: rest => attrsExprs a ++ rest.dropLast.flatMap evExprs
  | [.msg _], first :: rest => (first :: rest).flatMap evExprs
  | _, _ => []

mutual
  def codeExprsEv : PEvent → List PyExpr
    | .start _ a => attrsExprs a
    | .expr _ e => [e]
    | .exec e => [e]
    | .sub ds body => if hasExtractable ds then msgExprs ds body else codeExprs body
    | _ => []
  /-- every piece of code of the template (the P-level reading of `codeList`): all EXPR / EXEC
      events and the interpolated attributes of all START events at any depth of directive
      nesting, excluded elements included; for a plain message directive the attributes and
      expressions of its content -/
  def codeExprs : List PEvent → List PyExpr
    | [] => []
    | e :: es => codeExprsEv e ++ codeExprs es
end

theorem lowerList_eq_map (gf : List Str) : ∀ l : List PEvent, lowerList gf l = l.map (lowerEv gf)
  | [] => by simp [lowerList]
  | e :: es => by simp [lowerList, lowerList_eq_map gf es]

theorem lowerList_dropLast (gf : List Str) (l : List PEvent) :
    (lowerList gf l).dropLast = lowerList gf l.dropLast := by
  simp [lowerList_eq_map, List.map_dropLast]

theorem partsCode_lower (gf : List Str) : ∀ ps : List PPart,
    partsCode (ps.map (lowerPart gf)) = (partsExprs ps).flatMap (extractFromCode gf)
  | [] => by simp [partsCode, partsExprs]
  | .text _ :: ps => by simpa [partsCode, partsExprs, lowerPart] using partsCode_lower gf ps
  | .expr e :: ps => by simp [partsCode, partsExprs, lowerPart, partsCode_lower gf ps]

theorem attrsCode_lower (gf : List Str) : ∀ a : PAttrs,
    attrsCode (lowerAttrs gf a) = (attrsExprs a).flatMap (extractFromCode gf)
  | [] => by simp [attrsCode, attrsExprs, lowerAttrs]
  | (n, .str v) :: rest => by
      simp [attrsCode, attrsExprs, lowerAttrs, lowerVal, attrsCode_lower gf rest]
  | (n, .parts ps) :: rest => by
      simp [attrsCode, attrsExprs, lowerAttrs, lowerVal, attrsCode_lower gf rest, partsCode_lower]

theorem evCode_lower (gf : List Str) (e : PEvent) :
    evCode (lowerEv gf e) = (evExprs e).flatMap (extractFromCode gf) := by
  cases e <;> simp [lowerEv, evCode, evExprs, attrsCode_lower]

theorem flatMap_evCode_lower (gf : List Str) : ∀ l : List PEvent,
    (lowerList gf l).flatMap evCode = (l.flatMap evExprs).flatMap (extractFromCode gf)
  | [] => by simp [lowerList]
  | e :: es => by
      simp [lowerList, evCode_lower, flatMap_evCode_lower gf es, List.flatMap_append]

theorem msgExprs_msg (gf : List Str) (p : List Str) (first : PEvent) (rest : List PEvent) :
    msgExprs [.msg p] (first :: rest) =
      (if (lowerEv gf first).isStart then first :: rest.dropLast else first :: rest).flatMap evExprs := by
  cases first <;> simp [msgExprs, lowerEv, TEvent.isStart, evExprs]

theorem codeSub_msg_lower (cfg : Cfg) (gf : List Str) (ds : List Dir) (body : List PEvent)
    (h : hasExtractable ds = true) :
    codeSub cfg (.sub ds (lowerList gf body)) = (msgExprs ds body).flatMap (extractFromCode gf) := by
  match ds, body with
  | [.msg p], first :: rest =>
      rw [msgExprs_msg gf, lowerList, codeSub_msg]
      by_cases hs : (lowerEv gf first).isStart = true
      · have hc : msgContent (lowerEv gf first :: lowerList gf rest) = lowerList gf (first :: rest.dropLast) := by
          cases hf : lowerEv gf first <;> simp_all [TEvent.isStart, msgContent, lowerList, lowerList_dropLast]
        rw [hc, if_pos hs]; exact flatMap_evCode_lower gf _
      · have hc : msgContent (lowerEv gf first :: lowerList gf rest) = lowerList gf (first :: rest) := by
          cases hf : lowerEv gf first <;> simp_all [TEvent.isStart, msgContent, lowerList]
        rw [hc, if_neg hs]; exact flatMap_evCode_lower gf _
  | [.msg p], [] => simp [codeSub, h, lowerList, msgExprs]
  | [], _ => simp [hasExtractable] at h
  | .msg p :: _ :: _, _ | .domain _ :: _, _ | .comment _ :: _, _ | .ctxt _ :: _, _ | .choose _ :: _, _
  | .singular :: _, _ | .plural :: _, _ | .strip :: _, _ | .other _ :: _, _ => simp [codeSub, h, msgExprs]

mutual
  /-- one event: what `codeList` reads off its lowering is what `extract_from_code` reports for its pieces of code -/
  theorem codeEv_lower (cfg : Cfg) (gf : List Str) : ∀ e : PEvent,
      codeEv cfg (lowerEv gf e) = (codeExprsEv e).flatMap (extractFromCode gf)
    | .sub ds body => by
        by_cases h : hasExtractable ds = true
        · simp only [lowerEv, codeEv, codeExprsEv, h, ↓reduceIte]
          exact codeSub_msg_lower cfg gf ds body h
        · simp only [lowerEv, codeEv, codeExprsEv, h, Bool.false_eq_true, ↓reduceIte, codeSub]
          exact codeList_lower cfg gf body
    | .start _ a => attrsCode_lower gf a
    | .expr _ _ | .exec _ => by simp [lowerEv, codeEv, codeExprsEv]
    | .end_ _ | .text _ | .other _ => rfl
  /-- the list `codeList` reads off the lowered stream is what `extract_from_code` reports for
      the pieces of code of the template, in order -/
  theorem codeList_lower (cfg : Cfg) (gf : List Str) : ∀ s : List PEvent,
      codeList cfg (lowerList gf s) = (codeExprs s).flatMap (extractFromCode gf)
    | [] => rfl
    | e :: es => by
        rw [lowerList, codeList_cons, codeExprs, List.flatMap_append, codeEv_lower cfg gf e, codeList_lower cfg gf es]
end

theorem codeSub_lower (cfg : Cfg) (gf : List Str) : ∀ e : PEvent,
    codeSub cfg (lowerEv gf e) = (match e with | .sub _ _ => codeExprsEv e | _ => []).flatMap (extractFromCode gf)
  | .sub ds body => codeEv_lower cfg gf (.sub ds body)
  | .start _ _ | .end_ _ | .text _ | .expr _ _ | .exec _ | .other _ => rfl

/-- **call sites**: extraction with `gettext_functions = gf` returns, and for every piece of code
    `e` of the template and every call `f(args…)` of a plain name `f ∈ gf` occurring anywhere in
    `e`, the message `(f, strings of args, [])` is among the extracted ones -/
theorem code_call_sites_extracted (cfg : Cfg) (gf : List Str) (s : PStream)
    (h : okMsgList (lowerList gf s) = true) :
    ∃ ms, extractP cfg gf s = .ok ms ∧
      ∀ e ∈ codeExprs s, ∀ (f : Str) (args kws : List PyExpr),
        SubExpr (.call (.name f) args kws) e → f ∈ gf → (⟨some f, argVal args, []⟩ : Message) ∈ ms := by
  obtain ⟨ms, hms, hc⟩ := code_calls_extracted cfg (lowerList gf s) h
  refine ⟨ms, hms, ?_⟩
  intro e he f args kws hsub hf
  have hm : (⟨f, argVal args⟩ : CodeMsg) ∈ codeList cfg (lowerList gf s) := by
    rw [codeList_lower]
    exact List.mem_flatMap.2 ⟨e, he, code_call_reported gf e f args kws hsub hf⟩
  exact hc _ hm

/-- … and the code contributes nothing else: every extracted message that `codeList` accounts for
    is the report of a call site (`extractFromCode_eq_gettextCalls`) -/
theorem codeList_lower_calls (cfg : Cfg) (gf : List Str) (s : PStream) :
    codeList cfg (lowerList gf s) = (codeExprs s).flatMap fun e => (gettextCalls gf e).map callReport := by
  rw [codeList_lower]
  congr 1
  funext e
  exact extractFromCode_eq_gettextCalls gf e

end Genshi.I18n
