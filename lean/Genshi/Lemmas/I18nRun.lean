/-
  C19 — `MessageBuffer.translate`: what one group of buffered events emits for a part of the
  translated message (`groupOut`), inside a sub-stream or outside; one part (`runPart`); the
  vocabulary of translation trees against the buffered groups.
-/
import Genshi.Lemmas.I18nParse
namespace Genshi.I18n
open Genshi

/-- events a message buffer files for message content without nested directives -/
def MEv.simple : MEv → Bool
  | .ev (.text _) => true
  | .ev (.expr _ _) => true
  | .ev (.start _ _) => true
  | .ev (.end_ _) => true
  | _ => false

def simpleG (g : List MEv) : Bool := g.all MEv.simple

/-- the START/END events of a group, in order -/
def tags : List MEv → List TEvent
  | [] => []
  | .ev (.start t a) :: g => .start t a :: tags g
  | .ev (.end_ t) :: g => .end_ t :: tags g
  | _ :: g => tags g

/-- what a group emits for a part whose string yields the events `e`: the string goes out at
    the first TEXT event, after the first START or before the first END, whichever comes
    first (expressions are passed over), or at the end -/
def groupOut (e : List TEvent) : List MEv → List TEvent
  | [] => e
  | .ev (.expr _ _) :: g => groupOut e g
  | .ev (.text _) :: g => e ++ tags g
  | .ev (.start t a) :: g => .start t a :: (e ++ tags g)
  | .ev (.end_ t) :: g => e ++ (.end_ t :: tags g)
  | _ :: g => groupOut e g

theorem simpleG_induction {P : (g : List MEv) → simpleG g = true → Prop} (nil : P [] rfl)
    (expr : ∀ i m g hg hg', P g hg → P (.ev (.expr i m) :: g) hg')
    (text : ∀ s g hg hg', P g hg → P (.ev (.text s) :: g) hg')
    (start : ∀ t a g hg hg', P g hg → P (.ev (.start t a) :: g) hg')
    (end_ : ∀ t g hg hg', P g hg → P (.ev (.end_ t) :: g) hg') : ∀ g hg, P g hg
  | [], _ => nil
  | x :: g, h => by
      have hxg : x.simple = true ∧ simpleG g = true := by
        simpa only [simpleG, List.all_cons, Bool.and_eq_true] using h
      have ih := simpleG_induction nil expr text start end_ g hxg.2
      cases x with
      | ev e =>
        cases e with
        | expr i m => exact expr i m g _ h ih
        | text s => exact text s g _ h ih
        | start t a => exact start t a g _ h ih
        | end_ t => exact end_ t g _ h ih
        | _ => exact absurd hxg.1 (by simp [MEv.simple])
      | _ => exact absurd hxg.1 (by simp [MEv.simple])

/-- the state after emitting `es` outside a sub-stream -/
def TrState.push (st : TrState) (es : List TEvent) : TrState := { st with out := st.out ++ es }

theorem emit_eq_push (st : TrState) (es : List TEvent) (h : st.sub = none) : st.emit es = st.push es := by
  simp [TrState.emit, TrState.push, h]

@[simp] theorem push_sub (st : TrState) (es : List TEvent) : (st.push es).sub = st.sub := rfl
@[simp] theorem push_rem (st : TrState) (es : List TEvent) : (st.push es).rem = st.rem := rfl
@[simp] theorem push_out (st : TrState) (es : List TEvent) : (st.push es).out = st.out ++ es := rfl
@[simp] theorem push_bad (st : TrState) (es : List TEvent) : (st.push es).badSub = st.badSub := rfl

theorem emit_emit (st : TrState) (a b : List TEvent) : (st.emit a).emit b = st.emit (a ++ b) := by
  unfold TrState.emit
  cases st.sub <;> simp [List.append_assoc]

theorem emit_nil (st : TrState) : st.emit [] = st := by
  unfold TrState.emit
  cases h : st.sub <;> simp
  · cases st; simp_all
  · cases st; simp_all

@[simp] theorem emit_rem (st : TrState) (es : List TEvent) : (st.emit es).rem = st.rem := by
  unfold TrState.emit; cases st.sub <;> rfl
@[simp] theorem emit_bad (st : TrState) (es : List TEvent) : (st.emit es).badSub = st.badSub := by
  unfold TrState.emit; cases st.sub <;> rfl

/-- the pending string has been emitted (or is empty) -/
def quiet : Option Str → Bool
  | none => true
  | some s => s.isEmpty

theorem flush_quiet (vs : List (Str × TEvent)) (st : TrState) (p : Option Str) (h : quiet p = true) :
    flushPending vs st p = .ok (st, p) := by
  cases p with
  | none => rfl
  | some s => simp [quiet] at h; simp [flushPending, h, pure, Except.pure]

theorem yieldParts_nil (vs : List (Str × TEvent)) : yieldParts vs [] = .ok [] := by
  simp [yieldParts, splitParams, splitGo, List.foldlM, pure, Except.pure, bind, Except.bind]

/-- flushing the pending string `s` emits what `yield_parts` makes of it (the empty string stays pending and
    yields nothing) and leaves a quiet pending string -/
theorem flush_pending (vs : List (Str × TEvent)) (st : TrState) (s : Str) (e : List TEvent)
    (hy : yieldParts vs s = .ok e) : ∃ p, flushPending vs st (some s) = .ok (st.emit e, p) ∧ quiet p = true := by
  cases s with
  | nil =>
    obtain rfl : [] = e := Except.ok.inj ((yieldParts_nil vs).symm.trans hy)
    exact ⟨some [], by rw [emit_nil]; rfl, rfl⟩
  | cons c cs => exact ⟨none, by simp [flushPending, hy, bind, Except.bind, pure, Except.pure], rfl⟩

theorem runGroup_quiet (b : MB) (k : Nat) (g : List MEv) (hg : simpleG g = true) (st : TrState) (p : Option Str)
    (hq : quiet p = true) : runGroup b k g st p = .ok (st.emit (tags g), p) := by
  induction g, hg using simpleG_induction generalizing st with
  | nil => simp [runGroup, tags, emit_nil, pure, Except.pure]
  | expr i m g _ _ ih => simp only [runGroup, tags]; exact ih st
  | text s g _ _ ih => simp only [runGroup, tags, flush_quiet _ st p hq, bind, Except.bind]; exact ih st
  | start t a g _ _ ih =>
      simp only [runGroup, tags, flush_quiet _ _ p hq, bind, Except.bind]
      rw [ih, emit_emit]; rfl
  | end_ t g _ _ ih =>
      simp only [runGroup, tags, flush_quiet _ st p hq, bind, Except.bind]
      rw [ih, emit_emit]; rfl

/-- a group with an event that makes `translate` emit the string -/
def flushing (g : List MEv) : Bool := g.any fun x => match x with | .ev (.expr _ _) => false | _ => true

/-- a group with an event that makes `translate` emit the string: it emits `groupOut` and leaves a quiet pending string -/
theorem runGroup_flush (b : MB) (k : Nat) (s : Str) (e : List TEvent)
    (hy : yieldParts b.values s = .ok e) (g : List MEv) (hg : simpleG g = true) (hf : flushing g = true)
    (st : TrState) : ∃ p, runGroup b k g st (some s) = .ok (st.emit (groupOut e g), p) ∧ quiet p = true := by
  induction g, hg using simpleG_induction generalizing st with
  | nil => simp [flushing] at hf
  | expr i m g _ _ ih => simp only [runGroup, groupOut]; exact ih (by simpa [flushing] using hf) st
  | text s' g hg _ _ =>
      obtain ⟨p, hp, hq⟩ := flush_pending b.values st s e hy
      refine ⟨p, ?_, hq⟩
      simp only [runGroup, groupOut, hp, bind, Except.bind]
      rw [runGroup_quiet b k g hg _ p hq, emit_emit]
  | start t a g hg _ _ =>
      obtain ⟨p, hp, hq⟩ := flush_pending b.values (st.emit [.start t a]) s e hy
      refine ⟨p, ?_, hq⟩
      simp only [runGroup, groupOut, hp, bind, Except.bind]
      rw [runGroup_quiet b k g hg _ p hq, emit_emit, emit_emit]
      rfl
  | end_ t g hg _ _ =>
      obtain ⟨p, hp, hq⟩ := flush_pending b.values st s e hy
      refine ⟨p, ?_, hq⟩
      simp only [runGroup, groupOut, hp, bind, Except.bind]
      rw [runGroup_quiet b k g hg _ p hq, emit_emit, emit_emit]
      simp

theorem runGroup_nonflushing (b : MB) (k : Nat) (e : List TEvent) : ∀ (g : List MEv) (st : TrState) (p : Option Str),
    flushing g = false → runGroup b k g st p = .ok (st, p) ∧ groupOut e g = e
  | [], st, p, _ => ⟨rfl, rfl⟩
  | x :: g, st, p, h => by
      simp only [flushing, List.any_cons, Bool.or_eq_false_iff] at h
      obtain ⟨hx, hg⟩ := h
      cases x with
      | ev ev =>
        cases ev with
        | expr i m => simp only [runGroup, groupOut]; exact runGroup_nonflushing b k e g st p hg
        | _ => cases hx
      | _ => cases hx

theorem runGroup_out (b : MB) (k : Nat) (s : Str) (e : List TEvent)
    (hy : yieldParts b.values s = .ok e) (g : List MEv) (st : TrState) (hg : simpleG g = true) :
    (do let r ← runGroup b k g st (some s); let r2 ← flushPending b.values r.1 r.2; pure r2.1) =
      .ok (st.emit (groupOut e g)) := by
  cases hf : flushing g with
  | true =>
    obtain ⟨p, hrun, hq⟩ := runGroup_flush b k s e hy g hg hf st
    simp [hrun, bind, Except.bind, flush_quiet _ _ p hq, pure, Except.pure]
  | false =>
    obtain ⟨hrun, hout⟩ := runGroup_nonflushing b k e g st (some s) hf
    obtain ⟨p, hp, _⟩ := flush_pending b.values st s e hy
    simp [hrun, hout, hp, bind, Except.bind, pure, Except.pure]

theorem runParts_append (b : MB) : ∀ (p1 p2 : List (Nat × Str)) (st : TrState),
    runParts b (p1 ++ p2) st = (runParts b p1 st).bind (runParts b p2)
  | [], p2, st => by simp [runParts, Except.bind, pure, Except.pure]
  | (k, s) :: p1, p2, st => by
      simp only [List.cons_append, runParts, bind]
      cases h : runPart b k s st with
      | error e => simp [Except.bind]
      | ok st' => simp only [Except.bind]; exact runParts_append b p1 p2 st'

theorem runPart_unfold (b : MB) (k : Nat) (s : Str) (st : TrState) (g : List MEv) (more : List (List MEv))
    (hrem : st.rem k = some (g :: more)) :
    runPart b k s st =
      (do let r ← runGroup b k g { st with rem := setGroups st.rem k more } (some s)
          let r2 ← flushPending b.values r.1 r.2
          pure r2.1) := by
  unfold runPart
  simp only [hrem, bind, Except.bind, pure, Except.pure]

theorem runPart_group (b : MB) (k : Nat) (s : Str) (e : List TEvent) (hy : yieldParts b.values s = .ok e)
    (st : TrState) (g : List MEv) (more : List (List MEv)) (hrem : st.rem k = some (g :: more))
    (hg : simpleG g = true) :
    runPart b k s st = .ok (({ st with rem := setGroups st.rem k more } : TrState).emit (groupOut e g)) := by
  rw [runPart_unfold b k s st g more hrem]
  exact runGroup_out b k s e hy g _ hg

/-- no group left under the number: the part is run against one empty TEXT event -/
theorem runPart_dummy (b : MB) (k : Nat) (s : Str) (e : List TEvent) (hy : yieldParts b.values s = .ok e)
    (st : TrState) (hrem : st.rem k = some []) : runPart b k s st = .ok (st.emit e) := by
  have := runGroup_out b k s e hy [.ev (.text [])] st rfl
  unfold runPart
  simpa [hrem, groupOut, tags] using this

/-- what the `i`-th of the `m + 1` groups of an element must emit for the events `e` -/
def expectedOut (t : QName) (a : TAttrs) (m i : Nat) (e : List TEvent) : List TEvent :=
  (if i = 0 then [.start t a] else []) ++ e ++ (if i = m then [.end_ t] else [])

/-- the groups filed for an element with `m` child elements: one per gap, the first opening
    and the last closing the element -/
structure GoodElem (gs : List (List MEv)) (t : QName) (a : TAttrs) (m : Nat) : Prop where
  len : gs.length = m + 1
  simple : ∀ g ∈ gs, simpleG g = true
  out : ∀ (i : Nat) (h : i < gs.length) (e : List TEvent), groupOut e gs[i] = expectedOut t a m i e

mutual
  def XNode.nums : XNode → List Nat
    | .ph n _ r => n :: r.nums
  def XRest.nums : XRest → List Nat
    | .nil => []
    | .cons x _ r => x.nums ++ r.nums
end

mutual
  def XNode.segs : XNode → List Str
    | .ph _ s0 r => s0 :: r.segs
  def XRest.segs : XRest → List Str
    | .nil => []
    | .cons x s r => x.segs ++ s :: r.segs
end

def XRest.length : XRest → Nat
  | .nil => 0
  | .cons _ _ r => r.length + 1

/-- element numbers of the message: tag and attributes of the START event -/
abbrev World := Nat → Option (QName × TAttrs)

mutual
  /-- every placeholder of the tree names an element of the message whose groups are intact
      and which has as many child elements as the placeholder has child placeholders -/
  def XNode.good (W : World) (rem : Groups) : XNode → Prop
    | .ph n _ r => n ≠ 0 ∧ ∃ t a gs, W n = some (t, a) ∧ rem n = some gs ∧ GoodElem gs t a r.length ∧ r.good W rem
  def XRest.good (W : World) (rem : Groups) : XRest → Prop
    | .nil => True
    | .cons x _ r => x.good W rem ∧ r.good W rem
end

mutual
  /-- the translated message: every placeholder replaced by its original element -/
  def XNode.render (W : World) (Y : Str → List TEvent) : XNode → List TEvent
    | .ph n s0 r =>
        match W n with
        | some (t, a) => .start t a :: (Y s0 ++ (r.render W Y ++ [.end_ t]))
        | none => []
  def XRest.render (W : World) (Y : Str → List TEvent) : XRest → List TEvent
    | .nil => []
    | .cons x s r => x.render W Y ++ (Y s ++ r.render W Y)
end

theorem partOf_ne_zero (n : Nat) (s : Str) (h : n ≠ 0) : partOf n s = [(n, s)] := by
  simp [partOf, h]

theorem setGroups_same (ev : Groups) (k : Nat) (gs : List (List MEv)) : setGroups ev k gs k = some gs := by
  simp [setGroups]

theorem setGroups_other (ev : Groups) (k j : Nat) (gs : List (List MEv)) (h : j ≠ k) : setGroups ev k gs j = ev j := by
  simp [setGroups, h]

/-- the groups of order 0 hold text and expressions only: each emits just the string -/
def Textual0 (rem : Groups) : Prop :=
  ∃ gs, rem 0 = some gs ∧ ∀ g ∈ gs, simpleG g = true ∧ ∀ e, groupOut e g = e

def XRest.topSegs : XRest → List Str
  | .nil => []
  | .cons _ s r => s :: r.topSegs

theorem run_top_seg (b : MB) (Y : Str → List TEvent) (s0 : Str) (st : TrState)
    (hy : yieldParts b.values s0 = .ok (Y s0)) (hsub : st.sub = none)
    (htop : s0 = [] ∨ Textual0 st.rem) :
    ∃ st', runParts b (partOf 0 s0) st = .ok st' ∧ st'.out = st.out ++ Y s0 ∧ st'.sub = none ∧
      st'.badSub = st.badSub ∧ (∀ k, k ≠ 0 → st'.rem k = st.rem k) ∧ (Textual0 st.rem → Textual0 st'.rem) := by
  by_cases hs : s0 = []
  · subst hs
    have : Y [] = [] := by rw [yieldParts_nil] at hy; exact (Except.ok.inj hy).symm
    exact ⟨st, by simp [partOf, runParts, pure, Except.pure], by simp [this], hsub, rfl, fun _ _ => rfl, id⟩
  · have ht : Textual0 st.rem := htop.resolve_left hs
    obtain ⟨gs, hrem, hgs⟩ := ht
    have hp : partOf 0 s0 = [(0, s0)] := by
      have : s0.isEmpty = false := by cases s0 <;> simp_all
      simp [partOf, this]
    cases gs with
    | nil =>
      refine ⟨st.push (Y s0), ?_, by simp, by simpa using hsub, by simp, fun _ _ => by simp, fun _ => ⟨[], by simpa using hrem, by simp⟩⟩
      simp [hp, runParts, runPart_dummy b 0 s0 (Y s0) hy st hrem, emit_eq_push _ _ hsub, bind, Except.bind, pure, Except.pure]
    | cons g more =>
      have hg := hgs g (by simp)
      have := runPart_group b 0 s0 (Y s0) hy st g more hrem hg.1
      rw [hg.2, emit_eq_push _ _ (by simpa using hsub)] at this
      refine ⟨({ st with rem := setGroups st.rem 0 more } : TrState).push (Y s0), ?_, ?_, ?_, ?_, ?_, ?_⟩
      · simp only [hp, runParts, this, bind, Except.bind, pure, Except.pure]
      · simp
      · simpa using hsub
      · simp
      · intro k hk; simp [setGroups_other _ _ _ _ hk]
      · intro _; exact ⟨more, by simp [setGroups_same], fun g' hg' => hgs g' (by simp [hg'])⟩

end Genshi.I18n
