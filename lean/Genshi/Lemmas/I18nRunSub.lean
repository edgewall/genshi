/-
  C19 — `MessageBuffer.translate` with directive-carrying elements in the message: the groups
  of such an element start with `SUB_START` and end with `SUB_END`; its events are collected in
  a sub-stream and come out as one SUB event.  Effects of groups on the pair (out, sub).
-/
import Genshi.Lemmas.I18nRun
namespace Genshi.I18n
open Genshi

/-- the two places `translate` writes to: the output and the open sub-stream -/
abbrev IOs := List TEvent × Option (List TEvent)

def TrState.io (st : TrState) : IOs := (st.out, st.sub)

def ioEmit (x : IOs) (es : List TEvent) : IOs :=
  match x.2 with
  | some s => (x.1, some (s ++ es))
  | none => (x.1 ++ es, none)

theorem io_emit (st : TrState) (es : List TEvent) : (st.emit es).io = ioEmit st.io es := by
  unfold TrState.emit TrState.io ioEmit
  cases st.sub <;> simp

theorem ioEmit_ioEmit (x : IOs) (a b : List TEvent) : ioEmit (ioEmit x a) b = ioEmit x (a ++ b) := by
  obtain ⟨o, s⟩ := x
  cases s <;> simp [ioEmit, List.append_assoc]

theorem ioEmit_nil (x : IOs) : ioEmit x [] = x := by
  obtain ⟨o, s⟩ := x
  cases s <;> simp [ioEmit]

theorem runGroup_append (b : MB) (k : Nat) : ∀ (g1 g2 : List MEv) (st : TrState) (p : Option Str),
    runGroup b k (g1 ++ g2) st p = (runGroup b k g1 st p).bind (fun r => runGroup b k g2 r.1 r.2)
  | [], g2, st, p => by simp [runGroup, Except.bind, pure, Except.pure]
  | x :: g1, g2, st, p => by
      cases x with
      | subStart => simp only [List.cons_append, runGroup]; exact runGroup_append b k g1 g2 _ p
      | subEnd =>
        simp only [List.cons_append, runGroup]
        split
        · exact runGroup_append b k g1 g2 _ p
        · exact runGroup_append b k g1 g2 _ p
        · simp [Except.bind]
      | ev e =>
        cases e with
        | expr i m => simp only [List.cons_append, runGroup]; exact runGroup_append b k g1 g2 st p
        | start t a =>
          simp only [List.cons_append, runGroup, bind]
          cases flushPending b.values (st.emit [.start t a]) p with
          | error err => simp [Except.bind]
          | ok r => simp only [Except.bind]; exact runGroup_append b k g1 g2 _ _
        | text _ | end_ _ | exec _ | sub _ _ | other _ =>
          simp only [List.cons_append, runGroup, bind]
          cases flushPending b.values st p with
          | error err => simp [Except.bind]
          | ok r => simp only [Except.bind]; exact runGroup_append b k g1 g2 _ _

/-- the result of one part, as its effect on (out, sub) -/
structure PartEff (b : MB) (k : Nat) (s : Str) (st : TrState) (more : List (List MEv)) (x : IOs) : Prop where
  run : ∃ st', runPart b k s st = .ok st' ∧ st'.io = x ∧ st'.rem = setGroups st.rem k more ∧ st'.badSub = st.badSub

/-- `SUB_START` opens a sub-stream -/
def ioOpen (o : Bool) (x : IOs) : IOs := if o then (x.1, some []) else x

/-- `SUB_END` closes the sub-stream into one SUB event -/
def ioClose (c : Option (List Dir)) (x : IOs) : IOs :=
  match c with
  | some ds => (x.1 ++ [.sub ds (x.2.getD [])], none)
  | none => x

theorem runGroup_subEnd (b : MB) (k : Nat) (st : TrState) (p : Option Str) (ds : List Dir) (acc : List TEvent)
    (hd : assocGet b.subdirs k = some ds) (hs : st.sub = some acc) :
    runGroup b k [.subEnd] st p = .ok ({ st with out := st.out ++ [.sub ds acc], sub := none }, p) := by
  simp [runGroup, hd, hs, pure, Except.pure]

/-- one part against a simple group `g` that may start with `SUB_START` (`o`) and end with
    `SUB_END` (`c`): open, emit what `g` emits, close -/
theorem partEff_wrap (b : MB) (k : Nat) (s : Str) (e : List TEvent) (hy : yieldParts b.values s = .ok e)
    (st : TrState) (g : List MEv) (more : List (List MEv)) (o c : Bool) (ds : List Dir)
    (hrem : st.rem k = some (((if o then [MEv.subStart] else []) ++ (g ++ if c then [MEv.subEnd] else [])) :: more))
    (hg : simpleG g = true)
    (hc : c = true → flushing g = true ∧ assocGet b.subdirs k = some ds ∧ (o = false → st.sub.isSome = true)) :
    PartEff b k s st more (ioClose (if c then some ds else none) (ioEmit (ioOpen o st.io) (groupOut e g))) := by
  let st1 : TrState := if o then { st with rem := setGroups st.rem k more, sub := some [] }
    else { st with rem := setGroups st.rem k more }
  have h1 : ∀ p, runGroup b k (if o then [MEv.subStart] else []) { st with rem := setGroups st.rem k more } p = .ok (st1, p) := by
    intro p; cases o <;> rfl
  have hio1 : st1.io = ioOpen o st.io ∧ st1.rem = setGroups st.rem k more ∧ st1.badSub = st.badSub := by
    cases o <;> exact ⟨rfl, rfl, rfl⟩
  rw [← hio1.1]
  constructor
  rw [runPart_unfold b k s st _ more hrem, runGroup_append, h1]
  simp only [Except.bind]
  cases c with
  | false =>
    have := runGroup_out b k s e hy g st1 hg
    simp only [Bool.false_eq_true, ↓reduceIte, List.append_nil, ioClose]
    exact ⟨_, this, by rw [io_emit], by simp [hio1.2.1], by simp [hio1.2.2]⟩
  | true =>
    obtain ⟨hf, hd, hsub⟩ := hc rfl
    obtain ⟨p, hrun, hq⟩ := runGroup_flush b k s e hy g hg hf st1
    obtain ⟨acc, hacc⟩ : ∃ acc, st1.sub = some acc := by
      cases o with
      | true => exact ⟨[], rfl⟩
      | false => exact Option.isSome_iff_exists.mp (hsub rfl)
    have hsub' : (st1.emit (groupOut e g)).sub = some (acc ++ groupOut e g) := by simp [TrState.emit, hacc]
    refine ⟨{ st1.emit (groupOut e g) with
      out := (st1.emit (groupOut e g)).out ++ [.sub ds (acc ++ groupOut e g)], sub := none }, ?_, ?_, ?_, ?_⟩
    · simp only [↓reduceIte, runGroup_append, hrun, Except.bind, runGroup_subEnd b k _ p ds _ hd hsub', bind,
        flush_quiet _ _ p hq, pure, Except.pure]
    · simp [TrState.io, TrState.emit, hacc, ioEmit, ioClose]
    · simp [TrState.emit, hacc, hio1.2.1]
    · simp [TrState.emit, hacc, hio1.2.2]

def mapFirst {α} (f : α → α) : List α → List α
  | [] => []
  | x :: xs => f x :: xs

def mapLast {α} (f : α → α) : List α → List α
  | [] => []
  | [x] => [f x]
  | x :: y :: xs => x :: mapLast f (y :: xs)

/-- `SUB_START` in front of the first group, `SUB_END` behind the last -/
def wrapK : Option (List Dir) → List (List MEv) → List (List MEv)
  | none, gs => gs
  | some _, gs => mapFirst (MEv.subStart :: ·) (mapLast (· ++ [MEv.subEnd]) gs)

theorem mapLast_length {α} (f : α → α) : ∀ (l : List α), (mapLast f l).length = l.length
  | [] => rfl
  | [_] => rfl
  | x :: y :: xs => by simp [mapLast, mapLast_length f (y :: xs)]

theorem mapFirst_length {α} (f : α → α) (l : List α) : (mapFirst f l).length = l.length := by
  cases l <;> simp [mapFirst]

theorem wrapK_length (kd : Option (List Dir)) (gs : List (List MEv)) : (wrapK kd gs).length = gs.length := by
  cases kd <;> simp [wrapK, mapFirst_length, mapLast_length]

theorem mapLast_getElem? {α} (f : α → α) : ∀ (l : List α) (i : Nat) (x : α), l[i]? = some x →
    (mapLast f l)[i]? = some (if i + 1 = l.length then f x else x)
  | [], i, x, h => by simp at h
  | [y], i, x, h => by
      cases i with
      | zero => simp at h; subst h; simp [mapLast]
      | succ i => simp at h
  | y :: z :: xs, 0, x, h => by simp at h; subst h; simp [mapLast]
  | y :: z :: xs, i + 1, x, h => by
      have := mapLast_getElem? f (z :: xs) i x (by simpa using h)
      simp only [mapLast, List.getElem?_cons_succ, List.length_cons] at this ⊢
      rw [this]
      by_cases hc : i + 1 = xs.length + 1 <;> simp [hc]

theorem mapFirst_getElem? {α} (f : α → α) (l : List α) (i : Nat) (x : α) (h : l[i]? = some x) :
    (mapFirst f l)[i]? = some (if i = 0 then f x else x) := by
  cases l with
  | nil => simp at h
  | cons y ys =>
    cases i with
    | zero => simp at h; subst h; simp [mapFirst]
    | succ i => simpa [mapFirst] using h

theorem wrapK_getElem? (ds : List Dir) (gs : List (List MEv)) (i : Nat) (g : List MEv) (h : gs[i]? = some g) :
    (wrapK (some ds) gs)[i]? =
      some ((if i = 0 then [MEv.subStart] else []) ++ g ++ (if i + 1 = gs.length then [MEv.subEnd] else [])) := by
  simp only [wrapK]
  have h1 := mapLast_getElem? (· ++ [MEv.subEnd]) gs i g h
  have h2 := mapFirst_getElem? (MEv.subStart :: ·) _ i _ h1
  rw [h2]
  by_cases hi : i = 0 <;> by_cases hl : i + 1 = gs.length <;> simp_all

theorem drop_of_getElem? {α} (l : List α) (i : Nat) (x : α) (h : l[i]? = some x) : l.drop i = x :: l.drop (i + 1) := by
  obtain ⟨hi, rfl⟩ := List.getElem?_eq_some_iff.mp h
  exact List.drop_eq_getElem_cons hi

theorem GoodElem.at {gs : List (List MEv)} {t : QName} {a : TAttrs} {m : Nat} (h : GoodElem gs t a m)
    (i : Nat) (g : List MEv) (hg : gs[i]? = some g) :
    simpleG g = true ∧ ∀ e, groupOut e g = expectedOut t a m i e := by
  have hlt : i < gs.length := by
    rcases Nat.lt_or_ge i gs.length with hl | hl
    · exact hl
    · rw [List.getElem?_eq_none hl] at hg; cases hg
  have hgi : g = gs[i] := by rw [List.getElem?_eq_getElem hlt] at hg; exact (Option.some.inj hg).symm
  subst hgi
  exact ⟨h.simple _ (List.getElem_mem hlt), fun e => h.out i hlt e⟩

theorem flushing_of_groupOut (g : List MEv) (h : groupOut [] g ≠ []) : flushing g = true := by
  cases hf : flushing g with
  | true => rfl
  | false =>
    have := (runGroup_nonflushing (MB.new []) 0 [] g { rem := fun _ => none, sub := none, out := [] } none hf).2
    exact absurd this h

/-- element numbers: tag, attributes and the kind of the element (`none`: plain, `some dirs`:
    directive-carrying); the suffix `K` marks the notions that carry kinds -/
abbrev WorldK := Nat → Option (QName × TAttrs × Option (List Dir))

/-- effect of the gap `j` of an element with `m` child elements on (out, sub): a
    directive-carrying element opens a sub-stream at its first gap and closes it at its last -/
def gapEff (kd : Option (List Dir)) (t : QName) (a : TAttrs) (m j : Nat) (e : List TEvent) (x : IOs) : IOs :=
  ioClose (if j = m then kd else none) (ioEmit (ioOpen (kd.isSome && j = 0) x) (expectedOut t a m j e))

/-- the condition on the mode in front of the gap `j` of an element of kind `kd`: once the gap has opened the
    sub-stream of a directive-carrying element (`ioOpen` in `gapEff`), a sub-stream is open iff `inSub'` -/
def ModeOK (sd : Nat → Option (List Dir)) (n : Nat) (kd : Option (List Dir)) (j : Nat) (sub : Option (List TEvent))
    (inSub' : Bool) : Prop :=
  (sub.isSome || (kd.isSome && decide (j = 0))) = inSub' ∧
    ∀ ds, kd = some ds → sd n = some ds ∧ inSub' = true ∧ (j = 0 → sub = none)

theorem gap_part (b : MB) (n : Nat) (s : Str) (e : List TEvent) (hy : yieldParts b.values s = .ok e)
    (st : TrState) (kd : Option (List Dir)) (t : QName) (a : TAttrs) (gs' : List (List MEv)) (m j : Nat)
    (hge : GoodElem gs' t a m) (hj : j ≤ m)
    (hrem : st.rem n = some ((wrapK kd gs').drop j))
    {inSub' : Bool} (hmode : ModeOK (assocGet b.subdirs) n kd j st.sub inSub') :
    PartEff b n s st ((wrapK kd gs').drop (j + 1)) (gapEff kd t a m j e st.io) := by
  have hlt : j < gs'.length := by rw [hge.len]; omega
  obtain ⟨g, hg?⟩ : ∃ g, gs'[j]? = some g := ⟨gs'[j], List.getElem?_eq_getElem hlt⟩
  obtain ⟨hsimple, hout⟩ := hge.at j g hg?
  rw [gapEff, ← hout e]
  cases kd with
  | none =>
    have hdrop := drop_of_getElem? (wrapK none gs') j g (by simpa [wrapK] using hg?)
    have := partEff_wrap b n s e hy st g ((wrapK none gs').drop (j + 1)) false false [] (by simpa [hdrop] using hrem) hsimple
      (fun h => nomatch h)
    simpa using this
  | some ds =>
    obtain ⟨hsd, hin, _⟩ := hmode.2 ds rfl
    have hget := wrapK_getElem? ds gs' j g hg?
    rw [hge.len] at hget
    have hdrop := drop_of_getElem? (wrapK (some ds) gs') j _ hget
    have := partEff_wrap b n s e hy st g ((wrapK (some ds) gs').drop (j + 1)) (decide (j = 0)) (decide (j = m)) ds
      (by rw [hrem, hdrop]; simp [List.append_assoc]) hsimple fun hc => by
        have hjm : j = m := by simpa using hc
        exact ⟨flushing_of_groupOut _ (by rw [hout [], hjm]; simp [expectedOut]), hsd,
          fun h0 => by simpa [hin, h0] using hmode.1⟩
    simpa using this

/-- the groups of an element of kind `kd` with `m` child elements -/
def GoodElemK (gs : List (List MEv)) (kd : Option (List Dir)) (t : QName) (a : TAttrs) (m : Nat) : Prop :=
  ∃ gs', GoodElem gs' t a m ∧ gs = wrapK kd gs'

mutual
  /-- as `XNode.good`, with kinds: a directive-carrying element must not lie inside another
      one (`inSub`), and its directives are filed under its number (`sd`) -/
  def XNode.goodK (W : WorldK) (sd : Nat → Option (List Dir)) (rem : Groups) : Bool → XNode → Prop
    | inSub, .ph n _ r => n ≠ 0 ∧ ∃ t a kd gs, W n = some (t, a, kd) ∧ rem n = some gs ∧
        GoodElemK gs kd t a r.length ∧ (∀ ds, kd = some ds → inSub = false ∧ sd n = some ds) ∧
        r.goodK W sd rem (inSub || kd.isSome)
  def XRest.goodK (W : WorldK) (sd : Nat → Option (List Dir)) (rem : Groups) : Bool → XRest → Prop
    | _, .nil => True
    | inSub, .cons x _ r => x.goodK W sd rem inSub ∧ r.goodK W sd rem inSub
end

mutual
  /-- the translated message; a directive-carrying element comes out as one SUB event -/
  def XNode.renderK (W : WorldK) (Y : Str → List TEvent) : XNode → List TEvent
    | .ph n s0 r =>
        match W n with
        | some (t, a, none) => .start t a :: (Y s0 ++ (r.renderK W Y ++ [.end_ t]))
        | some (t, a, some ds) => [.sub ds (.start t a :: (Y s0 ++ (r.renderK W Y ++ [.end_ t])))]
        | none => []
  def XRest.renderK (W : WorldK) (Y : Str → List TEvent) : XRest → List TEvent
    | .nil => []
    | .cons x s r => x.renderK W Y ++ (Y s ++ r.renderK W Y)
end

/-- effect of the gaps `j, j+1, …` of an element and of the child placeholders between them, together: open (at the
    first gap of a directive-carrying element), emit everything, close -/
def restIO (W : WorldK) (Y : Str → List TEvent) (kd : Option (List Dir)) (t : QName) (a : TAttrs)
    (j : Nat) (s0 : Str) (r : XRest) (x : IOs) : IOs :=
  ioClose kd (ioEmit (ioOpen (kd.isSome && j = 0) x)
    ((if j = 0 then [.start t a] else []) ++ (Y s0 ++ (r.renderK W Y ++ [.end_ t]))))

/-- running `parts` from `st` brings (out, sub) to `x` and touches only the groups of `nums` -/
def RanK (b : MB) (parts more : List (Nat × Str)) (st : TrState) (x : IOs) (nums : List Nat) : Prop :=
  ∃ st', runParts b (parts ++ more) st = runParts b more st' ∧ st'.io = x ∧
    st'.badSub = st.badSub ∧ ∀ k, k ∉ nums → st'.rem k = st.rem k

theorem ioEmit_isSome (x : IOs) (es : List TEvent) : (ioEmit x es).2.isSome = x.2.isSome := by
  obtain ⟨o, sb⟩ := x
  cases sb <;> simp [ioEmit]

theorem io_sub (st : TrState) : st.io.2 = st.sub := rfl

theorem ioOpen_isSome (o : Bool) (x : IOs) : (ioOpen o x).2.isSome = (x.2.isSome || o) := by
  cases o <;> simp [ioOpen]

theorem gapEff_isSome (kd : Option (List Dir)) (t : QName) (a : TAttrs) (m j : Nat) (e : List TEvent) (x : IOs)
    (hjm : j < m) : (gapEff kd t a m j e x).2.isSome = (x.2.isSome || (kd.isSome && decide (j = 0))) := by
  simp only [gapEff, Nat.ne_of_lt hjm, ↓reduceIte, ioClose, ioEmit_isSome, ioOpen_isSome]

mutual
  /-- goodness is stated about the groups `rem0` the buffer started with; the state agrees with them on the
      numbers of the placeholders still to run -/
  theorem run_nodeK (b : MB) (W : WorldK) (Y : Str → List TEvent) (rem0 : Groups) : ∀ (x : XNode) (st : TrState)
      (more : List (Nat × Str)) (inSub : Bool), x.goodK W (assocGet b.subdirs) rem0 inSub →
      (∀ k ∈ x.nums, st.rem k = rem0 k) → x.nums.Nodup → st.sub.isSome = inSub →
      (∀ s ∈ x.segs, yieldParts b.values s = .ok (Y s)) →
      RanK b x.parts more st (ioEmit st.io (x.renderK W Y)) x.nums
    | .ph n s0 r, st, more, inSub, hg, hag, hnd, hmode, hseg => by
        simp only [XNode.goodK] at hg
        obtain ⟨hn, t, a, kd, gs, hw, hrem, ⟨gs', hge, hgs⟩, hk, hrest⟩ := hg
        subst hgs
        have hm : ModeOK (assocGet b.subdirs) n kd 0 st.sub (inSub || kd.isSome) := by
          refine ⟨by simp [hmode], fun ds hds => ?_⟩
          obtain ⟨hi, hsd⟩ := hk ds hds
          exact ⟨hsd, by simp [hds], fun _ => by simpa [hi] using hmode⟩
        have := run_restK b W Y rem0 r n t a kd gs' r.length 0 s0 st more (inSub || kd.isSome) hn
          (by rw [hag n (by simp [XNode.nums])]; simpa using hrem) hge (by simp) hrest
          (fun k hk => hag k (by simp [XNode.nums, hk])) (by simpa [XNode.nums] using hnd) hm (by simpa [XNode.segs] using hseg)
        simp only [XNode.parts, XNode.renderK, hw, XNode.nums]
        cases kd with
        | none => simpa [restIO, ioOpen, ioClose] using this
        | some ds =>
          have hio : st.io = (st.out, none) := by simp [TrState.io, (hm.2 ds rfl).2.2 rfl]
          simpa [restIO, hio, ioOpen, ioEmit, ioClose] using this
  theorem run_restK (b : MB) (W : WorldK) (Y : Str → List TEvent) (rem0 : Groups) : ∀ (r : XRest) (n : Nat) (t : QName)
      (a : TAttrs) (kd : Option (List Dir)) (gs' : List (List MEv)) (m j : Nat) (s0 : Str) (st : TrState)
      (more : List (Nat × Str)) (inSub' : Bool),
      n ≠ 0 → st.rem n = some ((wrapK kd gs').drop j) → GoodElem gs' t a m → j + r.length = m →
      r.goodK W (assocGet b.subdirs) rem0 inSub' → (∀ k ∈ r.nums, st.rem k = rem0 k) → (n :: r.nums).Nodup →
      ModeOK (assocGet b.subdirs) n kd j st.sub inSub' →
      (∀ s ∈ s0 :: r.segs, yieldParts b.values s = .ok (Y s)) →
      RanK b (XRest.parts n s0 r) more st (restIO W Y kd t a j s0 r st.io) (n :: r.nums)
    | .nil, n, t, a, kd, gs', m, j, s0, st, more, inSub', hn, hrem, hge, hj, _, _, _, hmode, hseg => by
        simp only [XRest.length, Nat.add_zero] at hj
        subst hj
        have hgp := gap_part b n s0 (Y s0) (hseg s0 (by simp)) st kd t a gs' j j hge (Nat.le_refl _) hrem hmode
        obtain ⟨st', hrun, hio, hrem', hbad⟩ := hgp.run
        refine ⟨st', ?_, ?_, hbad, ?_⟩
        · simp only [XRest.parts, partOf_ne_zero n s0 hn, List.cons_append, List.nil_append, runParts, hrun,
            bind, Except.bind]
        · simpa [restIO, gapEff, expectedOut, XRest.renderK] using hio
        · intro k hk
          simp only [XRest.nums, List.mem_cons, List.not_mem_nil, or_false] at hk
          rw [hrem']; exact setGroups_other _ _ _ _ hk
    | .cons x s r, n, t, a, kd, gs', m, j, s0, st, more, inSub', hn, hrem, hge, hj, hgood, hag, hnd, hmode, hseg => by
        simp only [XRest.length] at hj
        simp only [XRest.goodK] at hgood
        simp only [XRest.nums, List.nodup_cons, List.mem_append, not_or, List.nodup_append] at hnd
        obtain ⟨⟨hnx, hnr⟩, hxnd, hrnd, hdisj⟩ := hnd
        rw [XRest.segs, List.forall_mem_cons, List.forall_mem_append] at hseg
        obtain ⟨hs0, hxs, hrs⟩ := hseg
        have hjm : j < m := by omega
        have hgp := gap_part b n s0 (Y s0) hs0 st kd t a gs' m j hge (by omega) hrem hmode
        obtain ⟨st1, hrun1, hio1, hrem1', hbad1⟩ := hgp.run
        have hrem1 : ∀ k, k ≠ n → st1.rem k = st.rem k := fun k hk => by rw [hrem1']; exact setGroups_other _ _ _ _ hk
        have hmode1 : st1.sub.isSome = inSub' := by
          rw [← io_sub st1, hio1, gapEff_isSome kd t a m j (Y s0) st.io hjm]; exact hmode.1
        obtain ⟨st2, hrun2, hio2, hbad2, hrem2⟩ :=
          run_nodeK b W Y rem0 x st1 (XRest.parts n s r ++ more) inSub' hgood.1
            (fun k hk => (hrem1 k (fun h => hnx (h ▸ hk))).trans (hag k (by simp [XRest.nums, hk]))) hxnd hmode1 hxs
        have hremn : st2.rem n = some ((wrapK kd gs').drop (j + 1)) := by
          rw [hrem2 n hnx, hrem1']; exact setGroups_same _ _ _
        have hag2 : ∀ k ∈ r.nums, st2.rem k = rem0 k := fun k hk => by
          rw [hrem2 k (fun h => hdisj k h k hk rfl), hrem1 k (fun h => hnr (h ▸ hk)), hag k (by simp [XRest.nums, hk])]
        have hsome2 : st2.sub.isSome = st1.sub.isSome := by
          rw [show st2.sub = st2.io.2 from rfl, hio2, ioEmit_isSome]; rfl
        have hmode2 : ModeOK (assocGet b.subdirs) n kd (j + 1) st2.sub inSub' :=
          ⟨by simp [hsome2, hmode1], fun ds hds =>
            ⟨(hmode.2 ds hds).1, (hmode.2 ds hds).2.1, fun h => absurd h (Nat.succ_ne_zero j)⟩⟩
        obtain ⟨st3, hrun3, hio3, hbad3, hrem3⟩ :=
          run_restK b W Y rem0 r n t a kd gs' m (j + 1) s st2 more inSub' hn hremn hge (by omega) hgood.2 hag2
            (by simp [List.nodup_cons, hnr, hrnd]) hmode2 hrs
        refine ⟨st3, ?_, ?_, ?_, ?_⟩
        · simp only [XRest.parts, partOf_ne_zero n s0 hn, List.cons_append, List.nil_append, List.append_assoc,
            runParts, hrun1, bind, Except.bind]
          rw [hrun2, hrun3]
        · rw [hio3, hio2, hio1]
          simp [restIO, gapEff, ioOpen, ioClose, expectedOut, XRest.renderK, Nat.ne_of_lt hjm, ioEmit_ioEmit, List.append_assoc]
        · rw [hbad3, hbad2, hbad1]
        · intro k hk
          simp only [XRest.nums, List.mem_cons, List.mem_append, not_or] at hk
          rw [hrem3 k (by simp [hk.1, hk.2.2]), hrem2 k hk.2.1, hrem1 k hk.1]
end

mutual
  theorem XNode.goodK_nums_ne_zero (W : WorldK) (sd : Nat → Option (List Dir)) (rem : Groups) :
      ∀ (x : XNode) (inSub : Bool), x.goodK W sd rem inSub → 0 ∉ x.nums
    | .ph n s0 r, inSub, h => by
        simp only [XNode.goodK] at h
        obtain ⟨hn, t, a, kd, gs, _, _, _, _, hr⟩ := h
        simp only [XNode.nums, List.mem_cons, not_or]
        exact ⟨fun h0 => hn h0.symm, XRest.goodK_nums_ne_zero W sd rem r _ hr⟩
  theorem XRest.goodK_nums_ne_zero (W : WorldK) (sd : Nat → Option (List Dir)) (rem : Groups) :
      ∀ (r : XRest) (inSub : Bool), r.goodK W sd rem inSub → 0 ∉ r.nums
    | .nil, _, _ => by simp [XRest.nums]
    | .cons x s r, inSub, h => by
        simp only [XRest.goodK] at h
        simp only [XRest.nums, List.mem_append, not_or]
        exact ⟨XNode.goodK_nums_ne_zero W sd rem x inSub h.1, XRest.goodK_nums_ne_zero W sd rem r inSub h.2⟩
end

theorem run_topK (b : MB) (W : WorldK) (Y : Str → List TEvent) (rem0 : Groups) : ∀ (r : XRest) (s0 : Str) (st : TrState),
    r.goodK W (assocGet b.subdirs) rem0 false → (∀ k ∈ r.nums, st.rem k = rem0 k) → r.nums.Nodup → st.sub = none →
    (∀ s ∈ s0 :: r.segs, yieldParts b.values s = .ok (Y s)) →
    ((∀ s ∈ s0 :: r.topSegs, s = []) ∨ Textual0 st.rem) →
    ∃ st', runParts b (XRest.parts 0 s0 r) st = .ok st' ∧ st'.out = st.out ++ (Y s0 ++ r.renderK W Y) ∧
      st'.sub = none ∧ st'.badSub = st.badSub
  | .nil, s0, st, _, _, _, hsub, hseg, htop => by
      obtain ⟨st', h1, h2, h3, h4, _, _⟩ := run_top_seg b Y s0 st (hseg s0 (by simp)) hsub
        (htop.imp (fun h => h s0 (by simp)) id)
      exact ⟨st', by simpa [XRest.parts] using h1, by simpa [XRest.renderK] using h2, h3, h4⟩
  | .cons x s r, s0, st, hgood, hag, hnd, hsub, hseg, htop => by
      simp only [XRest.goodK] at hgood
      simp only [XRest.nums, List.nodup_append] at hnd
      obtain ⟨hxnd, hrnd, hdisj⟩ := hnd
      rw [XRest.segs, List.forall_mem_cons, List.forall_mem_append] at hseg
      obtain ⟨hs0, hxs, hrs⟩ := hseg
      obtain ⟨st1, h1, hout1, hsub1, hbad1, hrem1, htex1⟩ := run_top_seg b Y s0 st hs0 hsub
        (htop.imp (fun h => h s0 (by simp)) id)
      have hx0 : 0 ∉ x.nums := XNode.goodK_nums_ne_zero W _ rem0 x false hgood.1
      have hr0 : 0 ∉ r.nums := XRest.goodK_nums_ne_zero W _ rem0 r false hgood.2
      obtain ⟨st2, hrun2, hio2, hbad2, hrem2⟩ :=
        run_nodeK b W Y rem0 x st1 (XRest.parts 0 s r) false hgood.1
          (fun k hk => (hrem1 k (fun h => hx0 (h ▸ hk))).trans (hag k (by simp [XRest.nums, hk]))) hxnd (by simp [hsub1]) hxs
      have hio2' : st2.out = st1.out ++ x.renderK W Y ∧ st2.sub = none := by
        have : st2.io = (st1.out ++ x.renderK W Y, none) := by
          rw [hio2]; simp [TrState.io, hsub1, ioEmit]
        simp only [TrState.io, Prod.mk.injEq] at this
        exact this
      have hag2 : ∀ k ∈ r.nums, st2.rem k = rem0 k := fun k hk => by
        rw [hrem2 k (fun h => hdisj k h k hk rfl), hrem1 k (fun h => hr0 (h ▸ hk)), hag k (by simp [XRest.nums, hk])]
      have htop2 : (∀ s' ∈ s :: r.topSegs, s' = []) ∨ Textual0 st2.rem :=
        htop.imp (fun h s' hs' => h s' (List.mem_cons_of_mem _ hs')) fun h => by
          obtain ⟨gs, hg0, hgs⟩ := htex1 h
          exact ⟨gs, by rw [hrem2 0 hx0]; exact hg0, hgs⟩
      obtain ⟨st3, hrun3, hout3, hsub3, hbad3⟩ :=
        run_topK b W Y rem0 r s st2 hgood.2 hag2 hrnd hio2'.2 hrs htop2
      refine ⟨st3, ?_, ?_, hsub3, ?_⟩
      · simp only [XRest.parts]
        rw [runParts_append, h1]
        simp only [Except.bind]
        rw [hrun2, hrun3]
      · rw [hout3, hio2'.1, hout1]; simp [XRest.renderK, List.append_assoc]
      · rw [hbad3, hbad2, hbad1]

/-- **MessageBuffer.translate on a linearised translation tree**, directive-carrying elements
    included: such an element comes out as one SUB event holding its directives, its START
    event, the translated content and its END event. -/
theorem translate_treeK (b : MB) (W : WorldK) (Y : Str → List TEvent) (s0 : Str) (r : XRest)
    (hp0 : plainSeg s0 = true) (hp : r.plain = true)
    (hgood : r.goodK W (assocGet b.subdirs) b.events false) (hnd : r.nums.Nodup)
    (hseg : ∀ s ∈ s0 :: r.segs, yieldParts b.values s = .ok (Y s))
    (htop : (∀ s ∈ s0 :: r.topSegs, s = []) ∨ Textual0 b.events) :
    b.translate (s0 ++ r.fmt) = .ok (Y s0 ++ r.renderK W Y) := by
  unfold MB.translate
  rw [parseMsg_fmt s0 r hp0 hp]
  obtain ⟨st', hrun, hout, _, hbad⟩ :=
    run_topK b W Y b.events r s0 { rem := b.events, sub := none, out := [] } hgood (fun _ _ => rfl) hnd rfl hseg htop
  simp only [bind, Except.bind, hrun]
  simp at hbad hout
  simp [hbad, hout, pure, Except.pure]

def plainK (W : World) : WorldK := fun n => (W n).map fun p => (p.1, p.2, none)

mutual
  theorem XNode.goodK_of_good (W : World) (sd : Nat → Option (List Dir)) (rem : Groups) :
      ∀ (x : XNode) (inSub : Bool), x.good W rem → x.goodK (plainK W) sd rem inSub
    | .ph n s0 r, inSub, h => by
        simp only [XNode.good] at h
        obtain ⟨hn, t, a, gs, hw, hrem, hge, hr⟩ := h
        exact ⟨hn, t, a, none, gs, by simp [plainK, hw], hrem, ⟨gs, hge, rfl⟩, (fun _ hds => nomatch hds),
          by simpa using XRest.goodK_of_good W sd rem r inSub hr⟩
  theorem XRest.goodK_of_good (W : World) (sd : Nat → Option (List Dir)) (rem : Groups) :
      ∀ (r : XRest) (inSub : Bool), r.good W rem → r.goodK (plainK W) sd rem inSub
    | .nil, _, _ => trivial
    | .cons x _ r, inSub, h =>
        ⟨XNode.goodK_of_good W sd rem x inSub h.1, XRest.goodK_of_good W sd rem r inSub h.2⟩
end

mutual
  theorem XNode.renderK_plain (W : World) (Y : Str → List TEvent) : ∀ (x : XNode), x.renderK (plainK W) Y = x.render W Y
    | .ph n s0 r => by
        simp only [XNode.renderK, XNode.render, plainK]
        cases W n with
        | none => rfl
        | some p => simp [XRest.renderK_plain W Y r]
  theorem XRest.renderK_plain (W : World) (Y : Str → List TEvent) : ∀ (r : XRest), r.renderK (plainK W) Y = r.render W Y
    | .nil => rfl
    | .cons x s r => by simp [XRest.renderK, XRest.render, XNode.renderK_plain W Y x, XRest.renderK_plain W Y r]
end

/-- **MessageBuffer.translate on a linearised translation tree**: every placeholder is
    replaced by the element it names, the text segments by what `yield_parts` makes of them,
    in the order of the translation. -/
theorem translate_tree (b : MB) (W : World) (Y : Str → List TEvent) (s0 : Str) (r : XRest)
    (hp0 : plainSeg s0 = true) (hp : r.plain = true)
    (hgood : r.good W b.events) (hnd : r.nums.Nodup)
    (hseg : ∀ s ∈ s0 :: r.segs, yieldParts b.values s = .ok (Y s))
    (htop : (∀ s ∈ s0 :: r.topSegs, s = []) ∨ Textual0 b.events) :
    b.translate (s0 ++ r.fmt) = .ok (Y s0 ++ r.render W Y) := by
  have := translate_treeK b (plainK W) Y s0 r hp0 hp (XRest.goodK_of_good W _ _ r false hgood) hnd hseg htop
  rwa [XRest.renderK_plain] at this

end Genshi.I18n
