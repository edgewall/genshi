/-
  C19 — the START events of a translated message: one per placeholder, in the order of
  the translation.
-/
import Genshi.Lemmas.I18nMsg
import Genshi.Lemmas.I18nYield
namespace Genshi.I18n
open Genshi

mutual
  /-- tag and attributes of the START events of an event, also inside a SUB event -/
  def startsEv : TEvent → List (QName × TAttrs)
    | .start t a => [(t, a)]
    | .sub _ b => startsOf b
    | _ => []
  /-- tag and attributes of the START events of a stream, in order (SUB events are looked into) -/
  def startsOf : List TEvent → List (QName × TAttrs)
    | [] => []
    | e :: es => startsEv e ++ startsOf es
end

theorem startsOf_append : ∀ (a b : List TEvent), startsOf (a ++ b) = startsOf a ++ startsOf b
  | [], b => by simp [startsOf]
  | e :: a, b => by simp [startsOf, startsOf_append a b, List.append_assoc]

theorem startsOf_single (e : TEvent) : startsOf [e] = startsEv e := by simp [startsOf]

theorem ypStep_noStart (vs : List (Str × TEvent)) (hv : ∀ p ∈ vs, startsOf [p.2] = [])
    (acc : List TEvent) (p : Str ⊕ Str) (acc' : List TEvent) (ha : startsOf acc = [])
    (h : ypStep vs acc p = .ok acc') : startsOf acc' = [] := by
  cases p with
  | inl t =>
    simp only [ypStep, pure, Except.pure, Except.ok.injEq] at h
    subst h
    split
    · exact ha
    · simp [startsOf_append, ha, startsOf, startsEv]
  | inr n =>
    simp only [ypStep] at h
    cases hl : lookupValue vs n with
    | none => simp [hl] at h
    | some e =>
      simp only [hl, pure, Except.pure, Except.ok.injEq] at h
      subst h
      have hmem : ∃ p ∈ vs, p.2 = e := by
        unfold lookupValue at hl
        cases hf : vs.find? (fun p => p.1 = n) with
        | none => simp [hf] at hl
        | some q =>
          simp only [hf, Option.some.injEq] at hl
          exact ⟨q, List.mem_of_find?_eq_some hf, hl⟩
      obtain ⟨q, hq, hqe⟩ := hmem
      have := hv q hq
      rw [hqe] at this
      simp [startsOf_append, ha, this]

theorem foldlM_noStart (vs : List (Str × TEvent)) (hv : ∀ p ∈ vs, startsOf [p.2] = []) :
    ∀ (l : List (Str ⊕ Str)) (acc out : List TEvent), startsOf acc = [] →
      l.foldlM (ypStep vs) acc = .ok out → startsOf out = []
  | [], acc, out, ha, h => by
      simp only [List.foldlM, pure, Except.pure, Except.ok.injEq] at h; subst h; exact ha
  | p :: l, acc, out, ha, h => by
      simp only [List.foldlM, bind, Except.bind] at h
      cases hs : ypStep vs acc p with
      | error e => simp [hs] at h
      | ok acc' =>
        simp only [hs] at h
        exact foldlM_noStart vs hv l acc' out (ypStep_noStart vs hv acc p acc' ha hs) h

theorem yieldParts_noStart (vs : List (Str × TEvent)) (hv : ∀ p ∈ vs, startsOf [p.2] = []) (s : Str)
    (e : List TEvent) (h : yieldParts vs s = .ok e) : startsOf e = [] :=
  foldlM_noStart vs hv _ [] e rfl (by rw [yieldParts_eq] at h; exact h)

theorem length_filterMap_isSome {α β} (f : α → Option β) : ∀ (l : List α), (∀ x ∈ l, (f x).isSome = true) →
    (l.filterMap f).length = l.length
  | [], _ => rfl
  | x :: xs, h => by
      have hx := h x (by simp)
      cases hf : f x with
      | none => simp [hf] at hx
      | some y =>
        simp only [List.filterMap_cons, hf, List.length_cons]
        rw [length_filterMap_isSome f xs (fun z hz => h z (by simp [hz]))]

/-- tag and attributes of element `n` -/
def tagOf (W : WorldK) (n : Nat) : Option (QName × TAttrs) := (W n).map fun x => (x.1, x.2.1)

mutual
  theorem XNode.render_starts (W : WorldK) (Y : Str → List TEvent) : ∀ (x : XNode),
      (∀ s ∈ x.segs, startsOf (Y s) = []) → (∀ n ∈ x.nums, (W n).isSome = true) →
      startsOf (x.renderK W Y) = x.nums.filterMap (tagOf W)
    | .ph n s0 r, h, hw => by
        have hn := hw n (by simp [XNode.nums])
        cases hwn : W n with
        | none => simp [hwn] at hn
        | some ta =>
          obtain ⟨t, a, kd⟩ := ta
          have hr := XRest.render_starts W Y r (fun s hs => h s (by simp [XNode.segs, hs]))
            (fun k hk => hw k (by simp [XNode.nums, hk]))
          cases kd <;>
          simp [XNode.renderK, hwn, XNode.nums, startsOf, startsEv, startsOf_append, hr,
            h s0 (by simp [XNode.segs]), tagOf]
  theorem XRest.render_starts (W : WorldK) (Y : Str → List TEvent) : ∀ (r : XRest),
      (∀ s ∈ r.segs, startsOf (Y s) = []) → (∀ n ∈ r.nums, (W n).isSome = true) →
      startsOf (r.renderK W Y) = r.nums.filterMap (tagOf W)
    | .nil, _, _ => by simp [XRest.renderK, XRest.nums, startsOf]
    | .cons x s r, h, hw => by
        have hx := XNode.render_starts W Y x (fun s' hs => h s' (by simp [XRest.segs, hs]))
          (fun k hk => hw k (by simp [XRest.nums, hk]))
        have hr := XRest.render_starts W Y r (fun s' hs => h s' (by simp [XRest.segs, hs]))
          (fun k hk => hw k (by simp [XRest.nums, hk]))
        simp [XRest.renderK, XRest.nums, startsOf_append, hx, hr, h s (by simp [XRest.segs]), List.filterMap_append]
end

mutual
  theorem XNode.compat_isSome (F : List MNode) : ∀ (x : XNode) (i : Bool), XNode.compat (infoM 1 F) i x →
      ∀ n ∈ x.nums, (worldOf F n).isSome = true
    | .ph n s0 r, i, h, k, hk => by
        simp only [XNode.compat] at h
        simp only [XNode.nums, List.mem_cons] at hk
        rcases hk with rfl | hk
        · obtain ⟨⟨t, a, kd, hi⟩, _⟩ := h; simp [worldOf, hi]
        · exact XRest.compat_isSome F r _ h.2.2 k hk
  theorem XRest.compat_isSome (F : List MNode) : ∀ (r : XRest) (i : Bool), XRest.compat (infoM 1 F) i r →
      ∀ n ∈ r.nums, (worldOf F n).isSome = true
    | .nil, _, _, k, hk => by simp [XRest.nums] at hk
    | .cons x s r, i, h, k, hk => by
        simp only [XRest.compat] at h
        simp only [XRest.nums, List.mem_append] at hk
        rcases hk with hk | hk
        · exact XNode.compat_isSome F x i h.1 k hk
        · exact XRest.compat_isSome F r i h.2 k hk
end

mutual
  theorem MNode.vals_noStart : ∀ (n : MNode), ∀ p ∈ n.vals, startsOf [p.2] = []
    | .text _, p, hp => by simp [MNode.vals] at hp
    | .expr _ _ _, p, hp => by simp only [MNode.vals, List.mem_singleton] at hp; subst hp; rfl
    | .elem _ _ _ ks, p, hp => valsM_noStart ks p (by simpa [MNode.vals] using hp)
  theorem valsM_noStart : ∀ (ns : List MNode), ∀ p ∈ valsM ns, startsOf [p.2] = []
    | [], p, hp => by simp [valsM] at hp
    | n :: ns, p, hp => by
        simp only [valsM, List.mem_append] at hp
        rcases hp with hp | hp
        · exact MNode.vals_noStart n p hp
        · exact valsM_noStart ns p hp
end

/-- **the START events of a translated message**: for a translation compatible with the message `F`
    whose segments `yield_parts` accepts, the output has one START event per placeholder — tag and
    attributes of the element it names — in the order of the translation -/
theorem starts_of_compat (F : List MNode) (Y : Str → List TEvent) (s0 : Str) (r : XRest)
    (hc : XRest.compat (infoM 1 F) false r)
    (hseg : ∀ s ∈ s0 :: r.segs, yieldParts (valsM F).reverse s = .ok (Y s)) :
    startsOf (Y s0 ++ r.renderK (worldOf F) Y) = r.nums.filterMap (tagOf (worldOf F)) ∧
      (r.nums.filterMap (tagOf (worldOf F))).length = r.nums.length := by
  have hsome := XRest.compat_isSome F r false hc
  have hvals : ∀ p ∈ (valsM F).reverse, startsOf [p.2] = [] := fun p hp => valsM_noStart F p (by simpa using hp)
  refine ⟨?_, length_filterMap_isSome _ _ fun n hn => by simpa [tagOf] using hsome n hn⟩
  rw [startsOf_append, yieldParts_noStart _ hvals s0 (Y s0) (hseg s0 (by simp))]
  exact XRest.render_starts (worldOf F) Y r
    (fun s hs => yieldParts_noStart _ hvals s (Y s) (hseg s (by simp [hs]))) hsome

end Genshi.I18n
