/-
  C19 — the translation pass as a tree homomorphism: on the flattening of a forest it
  translates node by node and is the identity on every excluded sub-tree, for any
  catalogue.  The skip counter is the induction invariant.
-/
import Genshi.Lemmas.I18n
namespace Genshi.I18n
open Genshi

/-- template forests: START/END only as element brackets -/
inductive TNode where
  | elem (tag : QName) (attrs : TAttrs) (kids : List TNode)
  | leaf (e : TEvent)
  deriving Inhabited

def TEvent.isBracket : TEvent → Bool
  | .start _ _ => true
  | .end_ _ => true
  | _ => false

mutual
  def TNode.flatten : TNode → TStream
    | .elem t a ks => .start t a :: (flattenNodes ks ++ [.end_ t])
    | .leaf e => [e]
  def flattenNodes : List TNode → TStream
    | [] => []
    | n :: ns => n.flatten ++ flattenNodes ns
end

mutual
  def TNode.ok : TNode → Bool
    | .elem _ _ ks => okNodes ks
    | .leaf e => !e.isBracket
  def okNodes : List TNode → Bool
    | [] => true
    | n :: ns => n.ok && okNodes ns
end

/-- the pass on one leaf event (outside excluded sub-trees) -/
def trLeaf (cfg : Cfg) (cat : Catalog) (ctx : Ctx) (tt ta : Bool) : TEvent → TEvent
  | .text s => if tt then .text (trText (gettextOf cat ctx) s) else .text s
  | .sub d b => trSub cfg cat ctx ta (.sub d b)
  | e => e

mutual
  /-- node-wise translation: excluded elements are returned as they are -/
  def trNode (cfg : Cfg) (cat : Catalog) (ctx : Ctx) (tt ta : Bool) : TNode → TNode
    | .elem t a ks =>
        if excluded cfg t a then .elem t a ks
        else .elem t (trAttrs cfg (gettextOf cat ctx) ta a) (trNodes cfg cat ctx tt ta ks)
    | .leaf e => .leaf (trLeaf cfg cat ctx tt ta e)
  def trNodes (cfg : Cfg) (cat : Catalog) (ctx : Ctx) (tt ta : Bool) : List TNode → List TNode
    | [] => []
    | n :: ns => trNode cfg cat ctx tt ta n :: trNodes cfg cat ctx tt ta ns
end

theorem trList_skip_leaf (cfg : Cfg) (cat : Catalog) (ctx : Ctx) (tt ta : Bool) (k : Nat) (e : TEvent)
    (he : e.isBracket = false) (rest : TStream) :
    trList cfg cat ctx tt ta (k + 1) (e :: rest) = e :: trList cfg cat ctx tt ta (k + 1) rest := by
  cases e <;> simp_all [trList, skipStep, TEvent.isBracket]

mutual
  theorem trList_skip_node (cfg : Cfg) (cat : Catalog) (ctx : Ctx) (tt ta : Bool) :
      ∀ (n : TNode) (k : Nat) (rest : TStream), n.ok = true →
        trList cfg cat ctx tt ta (k + 1) (n.flatten ++ rest) =
          n.flatten ++ trList cfg cat ctx tt ta (k + 1) rest
    | .elem t a ks, k, rest, h => by
        simp only [TNode.flatten, List.cons_append, List.append_assoc, trList, skipStep]
        rw [trList_skip_nodes cfg cat ctx tt ta ks (k + 1) _ (by simpa [TNode.ok] using h)]
        simp [trList, skipStep]
    | .leaf e, k, rest, h => by
        simp only [TNode.flatten, List.cons_append, List.nil_append]
        exact trList_skip_leaf cfg cat ctx tt ta k e (by simpa [TNode.ok] using h) rest
  theorem trList_skip_nodes (cfg : Cfg) (cat : Catalog) (ctx : Ctx) (tt ta : Bool) :
      ∀ (ns : List TNode) (k : Nat) (rest : TStream), okNodes ns = true →
        trList cfg cat ctx tt ta (k + 1) (flattenNodes ns ++ rest) =
          flattenNodes ns ++ trList cfg cat ctx tt ta (k + 1) rest
    | [], k, rest, _ => by simp [flattenNodes]
    | n :: ns, k, rest, h => by
        simp only [okNodes, Bool.and_eq_true] at h
        simp only [flattenNodes, List.append_assoc]
        rw [trList_skip_node cfg cat ctx tt ta n k _ h.1, trList_skip_nodes cfg cat ctx tt ta ns k rest h.2]
end

theorem trList_leaf (cfg : Cfg) (cat : Catalog) (ctx : Ctx) (tt ta : Bool) (e : TEvent)
    (he : e.isBracket = false) (rest : TStream) :
    trList cfg cat ctx tt ta 0 (e :: rest) =
      trLeaf cfg cat ctx tt ta e :: trList cfg cat ctx tt ta 0 rest := by
  cases e <;> simp_all [trList, trLeaf, TEvent.isBracket]

mutual
  theorem trList_node (cfg : Cfg) (cat : Catalog) (ctx : Ctx) (tt ta : Bool) :
      ∀ (n : TNode) (rest : TStream), n.ok = true →
        trList cfg cat ctx tt ta 0 (n.flatten ++ rest) =
          (trNode cfg cat ctx tt ta n).flatten ++ trList cfg cat ctx tt ta 0 rest
    | .elem t a ks, rest, h => by
        have hk : okNodes ks = true := by simpa [TNode.ok] using h
        simp only [TNode.flatten, List.cons_append, List.append_assoc, trList, trNode]
        by_cases hx : excluded cfg t a = true
        · simp only [hx, ↓reduceIte, TNode.flatten, List.cons_append, List.append_assoc, List.cons.injEq,
            true_and]
          rw [trList_skip_nodes cfg cat ctx tt ta ks 0 _ hk]
          simp [trList, skipStep]
        · simp only [hx, Bool.false_eq_true, ↓reduceIte, TNode.flatten, List.cons_append,
            List.append_assoc, List.cons.injEq, true_and]
          rw [trList_nodes cfg cat ctx tt ta ks _ hk]
          simp [trList]
    | .leaf e, rest, h => by
        simp only [TNode.flatten, List.cons_append, List.nil_append, trNode]
        exact trList_leaf cfg cat ctx tt ta e (by simpa [TNode.ok] using h) rest
  theorem trList_nodes (cfg : Cfg) (cat : Catalog) (ctx : Ctx) (tt ta : Bool) :
      ∀ (ns : List TNode) (rest : TStream), okNodes ns = true →
        trList cfg cat ctx tt ta 0 (flattenNodes ns ++ rest) =
          flattenNodes (trNodes cfg cat ctx tt ta ns) ++ trList cfg cat ctx tt ta 0 rest
    | [], rest, _ => by simp [flattenNodes, trNodes]
    | n :: ns, rest, h => by
        simp only [okNodes, Bool.and_eq_true] at h
        simp only [flattenNodes, trNodes, List.append_assoc]
        rw [trList_node cfg cat ctx tt ta n _ h.1, trList_nodes cfg cat ctx tt ta ns rest h.2]
end

end Genshi.I18n
