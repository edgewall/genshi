/-
  C19 — white space at the edges of a message: `format()` strips the message string, which
  is the message string of the content with its edge white space removed (`trimF`).  With that, on
  `translate_fmt_forest` of `I18nIdentity.lean`: the identity theorems for `translate ∘ format` and for
  `MsgDirective.__call__` (`translate_format_selfB`, `msgGenerate_identity_attrB` / `_elemB`), then their
  bracket-free corollaries.
-/
import Genshi.Lemmas.I18nIdentity
import Genshi.Lemmas.StrStrip
namespace Genshi.I18n
open Genshi Genshi.Str

theorem escChar_space (c : Char) (h : isSpace c = true) : escChar c = [c] := by
  simp [escChar, isSpace_not_bracket c h]

theorem escChar_all_space (c : Char) : (escChar c).all isSpace = isSpace c := by
  rcases escChar_cases c with ⟨rfl, h⟩ | ⟨rfl, h⟩ | ⟨_, _, h⟩ <;>
    simp [h, isSpace_backslash, isSpace_lbracket, isSpace_rbracket]

theorem esc_all_space : ∀ (s : Str), (escBrackets s).all isSpace = s.all isSpace
  | [] => by simp [escBrackets_nil]
  | c :: cs => by
      have ih := esc_all_space cs
      rw [escBrackets_flatMap] at ih ⊢
      simp only [List.flatMap_cons, List.all_append, List.all_cons, escChar_all_space, ih]

theorem escChar_head (c : Char) (h : isSpace c = false) : ∃ x xs, escChar c = x :: xs ∧ isSpace x = false := by
  rcases escChar_cases c with ⟨_, hc⟩ | ⟨_, hc⟩ | ⟨_, _, hc⟩
  · exact ⟨_, _, hc, isSpace_backslash⟩
  · exact ⟨_, _, hc, isSpace_backslash⟩
  · exact ⟨_, _, hc, h⟩

theorem escChar_last (c : Char) (h : isSpace c = false) : ∃ xs x, escChar c = xs ++ [x] ∧ isSpace x = false := by
  rcases escChar_cases c with ⟨_, hc⟩ | ⟨_, hc⟩ | ⟨_, _, hc⟩
  · exact ⟨['\\'], _, hc, isSpace_lbracket⟩
  · exact ⟨['\\'], _, hc, isSpace_rbracket⟩
  · exact ⟨[], _, hc, h⟩

theorem lstrip_esc : ∀ (s : Str), lstripBy isSpace (escBrackets s) = escBrackets (lstripBy isSpace s)
  | [] => by simp [escBrackets_nil, lstripBy]
  | c :: cs => by
      have ih := lstrip_esc cs
      rw [escBrackets_flatMap] at ih ⊢
      simp only [List.flatMap_cons]
      by_cases hc : isSpace c = true
      · rw [escChar_space c hc]
        simp only [List.cons_append, List.nil_append, lstripBy, hc, ↓reduceIte]
        rw [ih, escBrackets_flatMap]
      · have hc' : isSpace c = false := by simpa using hc
        obtain ⟨x, xs, hx, hsp⟩ := escChar_head c hc'
        rw [hx]
        simp only [List.cons_append, lstripBy, hsp, hc', Bool.false_eq_true, ↓reduceIte]
        rw [escBrackets_flatMap, List.flatMap_cons, hx]
        rfl

theorem rstrip_esc : ∀ (s : Str), rstripBy isSpace (escBrackets s) = escBrackets (rstripBy isSpace s)
  | [] => by simp [escBrackets_nil, rstripBy, lstripBy]
  | c :: cs => by
      have ih := rstrip_esc cs
      have hall := esc_all_space cs
      rw [show c :: cs = [c] ++ cs from rfl, escBrackets_append, rstripBy_append, rstripBy_append, hall]
      by_cases hs : cs.all isSpace = true
      · simp only [hs, ↓reduceIte]
        by_cases hc : isSpace c = true
        · rw [rstripBy_all _ [c] (by simp [hc]), escBrackets_nil]
          exact rstripBy_all _ _ (by rw [esc_all_space]; simp [hc])
        · have hc' : isSpace c = false := by simpa using hc
          have h1 : rstripBy isSpace [c] = [c] := rstripBy_snoc_of_neg [] hc'
          rw [h1]
          have hesc : escBrackets [c] = escChar c := by simp [escBrackets_flatMap]
          rw [hesc]
          obtain ⟨xs, x, hx, hsp⟩ := escChar_last c hc'
          rw [hx]
          exact rstripBy_snoc_of_neg xs hsp
      · simp only [hs, Bool.false_eq_true, ↓reduceIte]
        rw [ih, escBrackets_append]

theorem cleanTextB_of_subset (s t : Str) (h : cleanTextB s = true) (hsub : ∀ c ∈ t, c ∈ s) : cleanTextB t = true := by
  simp only [cleanTextB, List.all_eq_true] at *
  exact fun c hc => h c (hsub c hc)

def allSpace (s : Str) : Bool := s.all isSpace

/-- remove the white space at the start of the content -/
def ltrimN : List MNode → List MNode
  | .text s :: ns => if allSpace s then ltrimN ns else .text (lstripBy isSpace s) :: ns
  | ns => ns

def allSpaceN : List MNode → Bool
  | [] => true
  | .text s :: ns => allSpace s && allSpaceN ns
  | _ => false

def rtrimLast : MNode → List MNode
  | .text s => if allSpace s then [] else [.text (rstripBy isSpace s)]
  | n => [n]

/-- remove the white space at the end of the content -/
def rtrimN : List MNode → List MNode
  | [] => []
  | n :: ns => if allSpaceN ns then rtrimLast n else n :: rtrimN ns

/-- the content without the white space at its two edges -/
def trimF (F : List MNode) : List MNode := rtrimN (ltrimN F)

theorem isSpace_percent : isSpace '%' = false := by decide
theorem isSpace_s : isSpace 's' = false := by decide

theorem fmtM_single (o : Nat) (n : MNode) : fmtM o [n] = n.fmt o := by simp [fmtM]

theorem lstrip_fmtM (o : Nat) : ∀ (F : List MNode), lstripBy isSpace (fmtM o F) = fmtM o (ltrimN F)
  | [] => by simp [fmtM, ltrimN, lstripBy]
  | .text s :: ns => by
      simp only [fmtM, MNode.fmt, MNode.size, Nat.add_zero, ltrimN, allSpace]
      rw [lstripBy_append, esc_all_space]
      by_cases hs : s.all isSpace = true
      · simp only [hs, ↓reduceIte]; exact lstrip_fmtM o ns
      · simp only [hs, Bool.false_eq_true, ↓reduceIte, fmtM, MNode.fmt, MNode.size, Nat.add_zero]
        rw [lstrip_esc]
  | .expr n i cm :: ns => by
      simp only [fmtM, MNode.fmt, ltrimN, List.cons_append]
      exact lstripBy_cons_of_neg _ isSpace_percent
  | .elem sd t a ks :: ns => by
      simp only [fmtM, MNode.fmt, ltrimN, List.cons_append]
      exact lstripBy_cons_of_neg _ isSpace_lbracket

theorem allSpace_fmtM (o : Nat) : ∀ (F : List MNode), (fmtM o F).all isSpace = allSpaceN F
  | [] => rfl
  | .text s :: ns => by
      simp only [fmtM, MNode.fmt, MNode.size, Nat.add_zero, List.all_append, allSpaceN, allSpace, esc_all_space]
      rw [allSpace_fmtM o ns]
  | .expr n i cm :: ns => by
      simp [fmtM, MNode.fmt, allSpaceN, isSpace_percent]
  | .elem sd t a ks :: ns => by
      simp [fmtM, MNode.fmt, allSpaceN, isSpace_lbracket]

theorem rstrip_node (o : Nat) : ∀ (n : MNode), rstripBy isSpace (n.fmt o) = fmtM o (rtrimLast n)
  | .text s => by
      simp only [MNode.fmt, rtrimLast, allSpace]
      rw [rstrip_esc]
      by_cases hs : s.all isSpace = true
      · simp [hs, rstripBy_all _ s hs, fmtM, escBrackets_nil]
      · simp [hs, fmtM, MNode.fmt]
  | .expr n i cm => by
      simp only [MNode.fmt, rtrimLast, fmtM_single]
      have : ('%' :: '(' :: n ++ [')', 's']) = ('%' :: '(' :: n ++ [')']) ++ ['s'] := by simp
      rw [this, rstripBy_snoc_of_neg _ isSpace_s]
  | .elem sd t a ks => by
      simp only [MNode.fmt, rtrimLast, fmtM_single]
      have : ('[' :: natStr o ++ [':'] ++ (fmtM (o + 1) ks ++ [']'])) = ('[' :: natStr o ++ [':'] ++ fmtM (o + 1) ks) ++ [']'] := by simp
      rw [this, rstripBy_snoc_of_neg _ isSpace_rbracket]

theorem rtrimLast_size : ∀ (n : MNode), sizeM (rtrimLast n) = n.size
  | .text s => by simp only [rtrimLast]; split <;> simp [sizeM, MNode.size]
  | .expr _ _ _ => by simp [rtrimLast, sizeM, MNode.size]
  | .elem _ _ _ _ => by simp [rtrimLast, sizeM]

theorem rstrip_fmtM : ∀ (F : List MNode) (o : Nat), rstripBy isSpace (fmtM o F) = fmtM o (rtrimN F)
  | [], o => by simp [fmtM, rtrimN, rstripBy, lstripBy]
  | n :: ns, o => by
      simp only [fmtM, rtrimN]
      rw [rstripBy_append, allSpace_fmtM _ ns]
      by_cases hs : allSpaceN ns = true
      · simp only [hs, ↓reduceIte]; exact rstrip_node o n
      · simp only [hs, Bool.false_eq_true, ↓reduceIte, fmtM]
        rw [rstrip_fmtM ns _]

/-- `G` is `F` with some of its top-level text nodes dropped and others replaced by text made of their own characters:
    what trimming does to a content, and all that the facts below need to know about it -/
inductive Shrunk : List MNode → List MNode → Prop
  | nil : Shrunk [] []
  | drop (s) {ns ms} : Shrunk ns ms → Shrunk (.text s :: ns) ms
  | text (s s') {ns ms} : (∀ c ∈ s', c ∈ s) → Shrunk ns ms → Shrunk (.text s :: ns) (.text s' :: ms)
  | keep (n) {ns ms} : Shrunk ns ms → Shrunk (n :: ns) (n :: ms)

theorem Shrunk.refl : ∀ (F : List MNode), Shrunk F F
  | [] => .nil
  | n :: ns => .keep n (Shrunk.refl ns)

theorem Shrunk.trans {a b c : List MNode} (h1 : Shrunk a b) (h2 : Shrunk b c) : Shrunk a c := by
  induction h1 generalizing c with
  | nil => exact h2
  | drop s _ ih => exact .drop s (ih h2)
  | text s s' hs _ ih =>
    cases h2 with
    | drop _ h => exact .drop s (ih h)
    | text _ s'' hs' h => exact .text s s'' (fun c hc => hs c (hs' c hc)) (ih h)
    | keep _ h => exact .text s s' hs (ih h)
  | keep n _ ih =>
    cases h2 with
    | drop s h => exact .drop s (ih h)
    | text s s' hs h => exact .text s s' hs (ih h)
    | keep _ h => exact .keep n (ih h)

theorem Shrunk.append {a b c d : List MNode} (h1 : Shrunk a b) (h2 : Shrunk c d) : Shrunk (a ++ c) (b ++ d) := by
  induction h1 with
  | nil => exact h2
  | drop s _ ih => exact .drop s ih
  | text s s' hs _ ih => exact .text s s' hs ih
  | keep n _ ih => exact .keep n ih

theorem shrunk_ltrimN : ∀ (F : List MNode), Shrunk F (ltrimN F)
  | [] => .nil
  | .text s :: ns => by
      rw [ltrimN]; split
      · exact .drop s (shrunk_ltrimN ns)
      · exact .text s _ (lstripBy_mem _ s) (Shrunk.refl ns)
  | .expr _ _ _ :: ns => Shrunk.refl _
  | .elem _ _ _ _ :: ns => Shrunk.refl _

theorem shrunk_allSpaceN : ∀ (F : List MNode), allSpaceN F = true → Shrunk F []
  | [], _ => .nil
  | .text s :: ns, h => .drop s (shrunk_allSpaceN ns (by rw [allSpaceN, Bool.and_eq_true] at h; exact h.2))
  | .expr _ _ _ :: _, h => by cases h
  | .elem _ _ _ _ :: _, h => by cases h

theorem shrunk_rtrimLast : ∀ (n : MNode), Shrunk [n] (rtrimLast n)
  | .text s => by
      rw [rtrimLast]; split
      · exact .drop s .nil
      · exact .text s _ (rstripBy_mem _ s) .nil
  | .expr _ _ _ => Shrunk.refl _
  | .elem _ _ _ _ => Shrunk.refl _

theorem shrunk_rtrimN : ∀ (F : List MNode), Shrunk F (rtrimN F)
  | [] => .nil
  | n :: ns => by
      rw [rtrimN]; split
      · rename_i h
        -- `[n]` shrinks to `rtrimLast n`, the white space behind it to nothing
        have := (shrunk_rtrimLast n).append (shrunk_allSpaceN ns h)
        rwa [List.append_nil] at this
      · exact .keep n (shrunk_rtrimN ns)

theorem shrunk_trimF (F : List MNode) : Shrunk F (trimF F) := (shrunk_ltrimN F).trans (shrunk_rtrimN _)

section preserved
variable {F G : List MNode} (h : Shrunk F G)
include h

theorem Shrunk.cleanB (hc : cleanB F = true) : cleanB G = true := by
  induction h with
  | nil => rfl
  | drop s _ ih => rw [I18n.cleanB, Bool.and_eq_true] at hc; exact ih hc.2
  | text s s' hs _ ih =>
    rw [I18n.cleanB, Bool.and_eq_true] at hc ⊢
    exact ⟨cleanTextB_of_subset s s' hc.1 hs, ih hc.2⟩
  | keep n _ ih => rw [I18n.cleanB, Bool.and_eq_true] at hc ⊢; exact ⟨hc.1, ih hc.2⟩

theorem Shrunk.subsOKM (i : Bool) (hs : subsOKM i F = true) : subsOKM i G = true := by
  induction h with
  | nil => rfl
  | drop s _ ih => rw [I18n.subsOKM, Bool.and_eq_true] at hs; exact ih hs.2
  | text s s' _ _ ih | keep n _ ih => rw [I18n.subsOKM, Bool.and_eq_true] at hs ⊢; exact ⟨hs.1, ih hs.2⟩

theorem Shrunk.valsM : valsM G = valsM F := by
  induction h with
  | nil => rfl
  | drop s _ ih => exact ih
  | text s s' _ _ ih => exact ih
  | keep n _ ih => rw [I18n.valsM, I18n.valsM, ih]

theorem Shrunk.infoM (o k : Nat) : infoM o G k = infoM o F k := by
  induction h generalizing o with
  | nil => rfl
  | drop s _ ih => exact ih o
  | text s s' _ _ ih => exact ih o
  | keep n _ ih => rw [I18n.infoM, I18n.infoM, ih]

theorem Shrunk.noTop (ht : hasTopText F = false) : G = F := by
  induction h with
  | nil => rfl
  | drop s _ ih => cases ht
  | text s s' _ _ ih => cases ht
  | keep n _ ih =>
    cases n with
    | elem sd t a ks => rw [ih ht]
    | _ => cases ht

end preserved

theorem cleanB_trimF (F : List MNode) (h : cleanB F = true) : cleanB (trimF F) = true := (shrunk_trimF F).cleanB h

theorem subsOKM_trimF (i : Bool) (F : List MNode) (h : subsOKM i F = true) : subsOKM i (trimF F) = true :=
  (shrunk_trimF F).subsOKM i h

theorem valsM_trimF (F : List MNode) : valsM (trimF F) = valsM F := (shrunk_trimF F).valsM

theorem infoM_trimF (F : List MNode) (o k : Nat) : infoM o (trimF F) k = infoM o F k := (shrunk_trimF F).infoM o k

theorem trimF_noTop (F : List MNode) (h : hasTopText F = false) : trimF F = F := (shrunk_trimF F).noTop h

/-- **format() strips the message**: the stripped message string of the content is the
    message string of the trimmed content -/
theorem strip_fmtM (F : List MNode) (o : Nat) : strip (fmtM o F) = fmtM o (trimF F) := by
  unfold strip stripBy trimF
  rw [lstrip_fmtM o F, rstrip_fmtM _ o]

/-- **translate ∘ format under the identity catalogue** (Props `translate_format_id_brackets`): the buffer
    of a message, asked to translate its own `format()`, returns the content without its
    edge white space, adjacent text merged. -/
theorem translate_format_selfB (F : List MNode) (extra : List Str)
    (hc : cleanB F = true) (hsg : segsOK (trimF F) = true)
    (hna : deepNoAdjM F = true) (hnd : (namesM F).Nodup) (hso : subsOKM false F = true) :
    ∃ b, mbAppendList (MB.new (namesM F ++ extra)) (flattenM F) = .ok b ∧
      b.translate b.format = .ok (coalesce (flattenM (trimF F))) := by
  obtain ⟨b, hrun, hfmt, htr⟩ := translate_fmt_forest F (trimF F) extra (cleanB_trimF F hc) hsg hna hnd
    (subsOKM_trimF false F hso) (infoM_trimF F 1) (valsM_trimF F) (fun h => by rw [trimF_noTop F h]; exact h)
  exact ⟨b, hrun, by rw [hfmt, strip_fmtM F 1]; exact htr⟩

/-- attribute form: `<p i18n:msg="…">content</p>` -/
theorem msgGenerate_identity_attrB (t : QName) (a : TAttrs) (F : List MNode) (extra : List Str)
    (hc : cleanB F = true) (hsg : segsOK (trimF F) = true)
    (hna : deepNoAdjM F = true) (hnd : (namesM F).Nodup) (hso : subsOKM false F = true) :
    msgGenerate (namesM F ++ extra) (fun s => s) (.start t a :: (flattenM F ++ [.end_ t])) =
      .ok (.start t a :: (coalesce (flattenM (trimF F)) ++ [.end_ t])) := by
  obtain ⟨b, hrun, htr⟩ := translate_format_selfB F extra hc hsg hna hnd hso
  obtain ⟨hb, he⟩ := msgBody_attr t a (flattenM F) (.end_ t) rfl
  simp [msgGenerate, msgBuffer_eq, hb, he, hrun, htr, bind, Except.bind, Except.map, pure, Except.pure]

def MNode.isElem : MNode → Bool
  | .elem _ _ _ _ => true
  | _ => false

theorem flattenM_append : ∀ (xs ys : List MNode), flattenM (xs ++ ys) = flattenM xs ++ flattenM ys
  | [], _ => rfl
  | x :: xs, ys => by simp [flattenM, flattenM_append xs ys]

theorem flatten_head_not_start : ∀ (n : MNode), n.isElem = false → ∃ e, n.flatten = [e] ∧ e.isStart = false ∧ e.isEnd = false
  | .text s, _ => ⟨.text s, rfl, rfl, rfl⟩
  | .expr _ i cm, _ => ⟨.expr i cm, rfl, rfl, rfl⟩
  | .elem _ _ _ _, h => by simp [MNode.isElem] at h

/-- element form: `<i18n:msg params="…">content</i18n:msg>`, the content neither starting nor
    ending with an element (else: finding C19-msg-element-first-child); one node, or none, will do -/
theorem msgGenerate_identity_elemB (F : List MNode) (extra : List Str)
    (hn : ∀ n, F.head? = some n → n.isElem = false) (hl : ∀ l, F.getLast? = some l → l.isElem = false)
    (hc : cleanB F = true) (hsg : segsOK (trimF F) = true) (hna : deepNoAdjM F = true)
    (hnd : (namesM F).Nodup) (hso : subsOKM false F = true) :
    msgGenerate (namesM F ++ extra) (fun s => s) (flattenM F) = .ok (coalesce (flattenM (trimF F))) := by
  obtain ⟨b, hrun, htr⟩ := translate_format_selfB F extra hc hsg hna hnd hso
  cases F with
  | nil => rfl
  | cons n ns =>
    obtain ⟨e1, he1, hs1, hend1⟩ := flatten_head_not_start n (hn n rfl)
    have hlast : (e1 :: flattenM ns).getLast?.map TEvent.isEnd = some false := by
      cases hg : ns.getLast? with
      | none => simp [List.getLast?_eq_none_iff.mp hg, flattenM, hend1]
      | some l =>
        obtain ⟨e2, he2, _, hend2⟩ := flatten_head_not_start l (hl l (by rw [List.getLast?_cons, hg]; rfl))
        rw [dropLast_append_last ns l hg, flattenM_append]
        simp [flattenM, he2, List.getLast?_cons_of_ne_nil, hend2]
    have hflat : flattenM (n :: ns) = e1 :: flattenM ns := by simp [flattenM, he1]
    rw [hflat] at hrun ⊢
    obtain ⟨hb, he⟩ := msgBody_plain e1 (flattenM ns) hs1 hlast
    simp [msgGenerate, msgBuffer_eq, hb, he, hrun, htr, bind, Except.bind, Except.map, pure, Except.pure]

theorem cleanTextB_of_cleanText (s : Str) (h : cleanText s = true) : cleanTextB s = true := by
  simp only [cleanText, cleanTextB, List.all_eq_true, Bool.and_eq_true, bne_iff_ne, ne_eq] at *
  exact fun c hc => ⟨(h c hc).1.2, (h c hc).2⟩

mutual
  theorem MNode.cleanB_of_clean : ∀ (n : MNode), n.clean = true → n.cleanB = true
    | .text s, h => cleanTextB_of_cleanText s h
    | .expr _ _ _, h => h
    | .elem _ _ _ ks, h => cleanB_of_cleanM ks h
  theorem cleanB_of_cleanM : ∀ (F : List MNode), cleanM F = true → cleanB F = true
    | [], _ => rfl
    | n :: ns, h => by
        simp only [cleanM, Bool.and_eq_true] at h
        simp only [cleanB, Bool.and_eq_true]
        exact ⟨MNode.cleanB_of_clean n h.1, cleanB_of_cleanM ns h.2⟩
end

theorem escBrackets_clean (s : Str) (h : cleanText s = true) : escBrackets s = s :=
  escBrackets_of_noBracket s fun c hc => by
    simp only [cleanText, List.all_eq_true, Bool.and_eq_true, bne_iff_ne, ne_eq] at h
    exact (h c hc).1.1

mutual
  def XNode.bare : XNode → Bool
    | .ph _ s0 r => bareSeg s0 && r.bare
  def XRest.bare : XRest → Bool
    | .nil => true
    | .cons x s r => x.bare && bareSeg s && r.bare
end

mutual
  theorem XNode.plain_of_bare : ∀ (x : XNode), x.bare = true → x.plain = true
    | .ph _ s0 r, h => by
        simp only [XNode.bare, Bool.and_eq_true] at h
        simp only [XNode.plain, Bool.and_eq_true]
        exact ⟨plainSeg_of_bare s0 h.1, XRest.plain_of_bare r h.2⟩
  theorem XRest.plain_of_bare : ∀ (r : XRest), r.bare = true → r.plain = true
    | .nil, _ => rfl
    | .cons x s r, h => by
        simp only [XRest.bare, Bool.and_eq_true] at h
        simp only [XRest.plain, Bool.and_eq_true]
        exact ⟨⟨XNode.plain_of_bare x h.1.1, plainSeg_of_bare s h.1.2⟩, XRest.plain_of_bare r h.2⟩
end

theorem bareSeg_append (a b : Str) : bareSeg (a ++ b) = (bareSeg a && bareSeg b) := by
  simp [bareSeg, List.all_append]

theorem bareSeg_clean (s : Str) (h : cleanText s = true) : bareSeg s = true := by
  simp only [cleanText, bareSeg, List.all_eq_true, Bool.and_eq_true, bne_iff_ne, ne_eq] at *
  exact fun c hc => (h c hc).1

theorem bareSeg_param (n : Str) (h : wordName n = true) : bareSeg (paramStr n) = true := by
  simp only [wordName, Bool.and_eq_true, List.all_eq_true] at h
  have hn : bareSeg n = true := by
    simp only [bareSeg, List.all_eq_true, Bool.and_eq_true, bne_iff_ne, ne_eq]
    intro c hc
    have hw := h.2 c hc
    refine ⟨⟨?_, ?_⟩, ?_⟩ <;> intro he <;> subst he
    · rw [isWord_lbracket] at hw; cases hw
    · rw [isWord_rbracket] at hw; cases hw
    · rw [isWord_backslash] at hw; cases hw
  have : paramStr n = ['%', '('] ++ (n ++ [')', 's']) := by simp [paramStr]
  rw [this, bareSeg_append, bareSeg_append, hn]
  decide

theorem bareSeg_firstSeg : ∀ (ns : List MNode), cleanM ns = true → bareSeg (segStr (firstSeg ns)) = true
  | [], _ => rfl
  | .text s :: ns, h => by
      simp only [cleanM, MNode.clean, Bool.and_eq_true] at h
      simp [firstSeg, segStr, Piece.str, bareSeg_append, escBrackets_clean s h.1, bareSeg_clean s h.1,
        bareSeg_firstSeg ns h.2]
  | .expr n i cm :: ns, h => by
      simp only [cleanM, MNode.clean, Bool.and_eq_true] at h
      simp [firstSeg, segStr, Piece.str, bareSeg_append, bareSeg_param n h.1, bareSeg_firstSeg ns h.2]
  | .elem _ _ _ _ :: _, _ => rfl

mutual
  theorem bare_xNode (o : Nat) : ∀ (n : MNode), n.clean = true → ∀ x, xNodeOf o n = some x → x.bare = true
    | .elem sd t a ks, h, x, hx => by
        simp only [xNodeOf, Option.some.injEq] at hx
        subst hx
        have hk : cleanM ks = true := by simpa [MNode.clean] using h
        simp [XNode.bare, bareSeg_firstSeg ks hk, bare_xRest (o + 1) ks hk]
    | .text _, _, x, hx => by simp [xNodeOf] at hx
    | .expr _ _ _, _, x, hx => by simp [xNodeOf] at hx
  theorem bare_xRest (o : Nat) : ∀ (ns : List MNode), cleanM ns = true → (xRestOf o ns).bare = true
    | [], _ => by simp [xRestOf, XRest.bare]
    | n :: ns, h => by
        simp only [cleanM, Bool.and_eq_true] at h
        simp only [xRestOf]
        cases hx : xNodeOf o n with
        | none => simpa [hx] using bare_xRest (o + n.size) ns h.2
        | some x =>
          simp [XRest.bare, bare_xNode o n h.1 x hx, bareSeg_firstSeg ns h.2,
            bare_xRest (o + n.size) ns h.2]
end

theorem segsOK_of_cleanM (F : List MNode) (h : cleanM F = true) : segsOK F = true := by
  simp only [segsOK, Bool.and_eq_true]
  exact ⟨plainSeg_of_bare _ (bareSeg_firstSeg F h), XRest.plain_of_bare _ (bare_xRest 1 F h)⟩

theorem Shrunk.cleanM {F G : List MNode} (h : Shrunk F G) (hc : cleanM F = true) : cleanM G = true := by
  induction h with
  | nil => rfl
  | drop s _ ih => rw [I18n.cleanM, Bool.and_eq_true] at hc; exact ih hc.2
  | text s s' hs _ ih =>
    rw [I18n.cleanM, Bool.and_eq_true] at hc ⊢
    exact ⟨List.all_eq_true.2 fun c hc' => List.all_eq_true.1 hc.1 c (hs c hc'), ih hc.2⟩
  | keep n _ ih => rw [I18n.cleanM, Bool.and_eq_true] at hc ⊢; exact ⟨hc.1, ih hc.2⟩

theorem cleanM_trimF (F : List MNode) (h : cleanM F = true) : cleanM (trimF F) = true :=
  (shrunk_trimF F).cleanM h

/-- **translate ∘ format under the identity catalogue**, bracket-free text -/
theorem translate_format_self (F : List MNode) (extra : List Str)
    (hc : cleanM F = true) (hna : deepNoAdjM F = true) (hnd : (namesM F).Nodup) (hso : subsOKM false F = true) :
    ∃ b, mbAppendList (MB.new (namesM F ++ extra)) (flattenM F) = .ok b ∧
      b.translate b.format = .ok (coalesce (flattenM (trimF F))) :=
  translate_format_selfB F extra (cleanB_of_cleanM F hc) (segsOK_of_cleanM _ (cleanM_trimF F hc)) hna hnd hso

theorem msgGenerate_identity_attr (t : QName) (a : TAttrs) (F : List MNode) (extra : List Str)
    (hc : cleanM F = true) (hna : deepNoAdjM F = true) (hnd : (namesM F).Nodup) (hso : subsOKM false F = true) :
    msgGenerate (namesM F ++ extra) (fun s => s) (.start t a :: (flattenM F ++ [.end_ t])) =
      .ok (.start t a :: (coalesce (flattenM (trimF F)) ++ [.end_ t])) :=
  msgGenerate_identity_attrB t a F extra (cleanB_of_cleanM F hc) (segsOK_of_cleanM _ (cleanM_trimF F hc)) hna hnd hso

end Genshi.I18n
