/-
  C19 — `yield_parts` (the `%(name)s` splitter of `MessageBuffer.translate`) on strings built
  from clean text and parameter references.
-/
import Genshi.Model.I18nMsgBuf
import Genshi.Lemmas.Escape
namespace Genshi.I18n
open Genshi Genshi.Str

/-- a piece of a text segment of a message -/
inductive Piece where
  | text (s : Str)
  | expr (name : Str) (id : Nat) (cm : List CodeMsg)

def paramStr (n : Str) : Str := '%' :: '(' :: n ++ [')', 's']

def Piece.str : Piece → Str
  | .text s => escBrackets s
  | .expr n _ _ => paramStr n

def segStr : List Piece → Str
  | [] => []
  | p :: ps => p.str ++ segStr ps

/-- text the message format can carry: no backslash, no percent sign (brackets are escaped by
    `append` and unescaped by `yield_parts`) -/
def cleanTextB (s : Str) : Bool := s.all fun c => c != '\\' && c != '%'

/-- a parameter name `\w+` -/
def wordName (n : Str) : Bool := !n.isEmpty && n.all isWord

/-- the events of a segment: adjacent text merged, empty text dropped -/
def segEventsGo (cur : Str) : List Piece → List TEvent
  | [] => if cur.isEmpty then [] else [.text cur]
  | .text s :: ps => segEventsGo (cur ++ s) ps
  | .expr _ i cm :: ps => (if cur.isEmpty then [] else [.text cur]) ++ (.expr i cm :: segEventsGo [] ps)

def segEvents (ps : List Piece) : List TEvent := segEventsGo [] ps

/-- what `escBrackets` does to one character -/
def escChar (c : Char) : Str := if c = '[' then ['\\', '['] else if c = ']' then ['\\', ']'] else [c]

theorem escChar_cases (c : Char) :
    c = '[' ∧ escChar c = ['\\', '['] ∨ c = ']' ∧ escChar c = ['\\', ']'] ∨ c ≠ '[' ∧ c ≠ ']' ∧ escChar c = [c] := by
  by_cases h1 : c = '[' <;> by_cases h2 : c = ']' <;> simp [escChar, h1, h2]

theorem escBrackets_flatMap (s : Str) : escBrackets s = s.flatMap escChar := by
  unfold escBrackets
  rw [Genshi.Escape.replace_single, Genshi.Escape.replace_single, List.flatMap_assoc]
  congr 1; funext c
  rcases escChar_cases c with ⟨rfl, h⟩ | ⟨rfl, h⟩ | ⟨h1, h2, h⟩
  · simp [h]
  · simp [h]
  · simp [h, h1, h2]

theorem escBrackets_append (a b : Str) : escBrackets (a ++ b) = escBrackets a ++ escBrackets b := by
  simp [escBrackets_flatMap]

theorem escBrackets_nil : escBrackets [] = [] := by simp [escBrackets_flatMap]

theorem escBrackets_of_noBracket (s : Str) (h : ∀ c ∈ s, c ≠ '[' ∧ c ≠ ']') : escBrackets s = s := by
  rw [escBrackets_flatMap]
  exact Escape.flatMap_eq_self _ s fun c hc => by simp [escChar, h c hc]

theorem isSpace_backslash : isSpace '\\' = false := by decide
theorem isSpace_lbracket : isSpace '[' = false := by decide
theorem isSpace_rbracket : isSpace ']' = false := by decide

theorem isSpace_not_bracket (c : Char) (h : isSpace c = true) : c ≠ '[' ∧ c ≠ ']' :=
  ⟨fun hc => by rw [hc, isSpace_lbracket] at h; exact Bool.noConfusion h,
   fun hc => by rw [hc, isSpace_rbracket] at h; exact Bool.noConfusion h⟩

theorem escBrackets_space (s : Str) (h : s.all isSpace = true) : escBrackets s = s :=
  escBrackets_of_noBracket s fun c hc => isSpace_not_bracket c (List.all_eq_true.mp h c hc)

theorem escBrackets_isEmpty (s : Str) : (escBrackets s).isEmpty = s.isEmpty := by
  cases s with
  | nil => simp [escBrackets_nil]
  | cons c cs =>
    rw [escBrackets_flatMap, List.flatMap_cons]
    rcases escChar_cases c with ⟨_, h⟩ | ⟨_, h⟩ | ⟨_, _, h⟩ <;> simp [h]

theorem escBrackets_mem (s : Str) (c : Char) (h : c ∈ escBrackets s) : c ∈ s ∨ c = '\\' := by
  rw [escBrackets_flatMap] at h
  obtain ⟨x, hx, hc⟩ := List.mem_flatMap.mp h
  rcases escChar_cases x with ⟨rfl, hx'⟩ | ⟨rfl, hx'⟩ | ⟨_, _, hx'⟩ <;> rw [hx'] at hc <;> simp at hc
  · exact hc.elim Or.inr fun e => Or.inl (e ▸ hx)
  · exact hc.elim Or.inr fun e => Or.inl (e ▸ hx)
  · exact Or.inl (hc ▸ hx)

/-- the first pass of `unescBrackets` over an escaped string -/
def escClose (c : Char) : Str := if c = ']' then ['\\', ']'] else [c]

/-- the two `replace` calls of `unescBrackets` on the block of one source character (no backslash of its own) -/
theorem unesc_steps (c : Char) (hc : c ≠ '\\') (rest : Str) :
    replaceGo ['\\', '['] ['['] 0 (escChar c ++ rest) = escClose c ++ replaceGo ['\\', '['] ['['] 0 rest ∧
    replaceGo ['\\', ']'] [']'] 0 (escClose c ++ rest) = [c] ++ replaceGo ['\\', ']'] [']'] 0 rest := by
  have hp : '\\' ∉ [c] := fun h => hc (List.mem_singleton.mp h).symm
  rcases escChar_cases c with ⟨rfl, _⟩ | ⟨rfl, _⟩ | ⟨_, h2, h⟩
  · exact ⟨Escape.replaceGo_hit _ _ _ rest, Escape.replaceGo_pass _ _ _ ['['] rest hp⟩
  · exact ⟨Escape.replaceGo_miss _ _ _ _ _ [] rest rfl (by decide), Escape.replaceGo_hit _ _ _ rest⟩
  · rw [h, show escClose c = [c] by simp [escClose, h2]]
    exact ⟨Escape.replaceGo_pass _ _ _ [c] rest hp, Escape.replaceGo_pass _ _ _ [c] rest hp⟩

theorem unesc_esc (s : Str) (h : ∀ c ∈ s, c ≠ '\\') : unescBrackets (escBrackets s) = s := by
  rw [escBrackets_flatMap]
  show replaceGo ['\\', ']'] [']'] 0 (replaceGo ['\\', '['] ['['] 0 (s.flatMap escChar)) = s
  rw [Escape.replaceGo_flatMap _ _ escChar escClose s fun c hc rest => (unesc_steps c (h c hc) rest).1,
    Escape.replaceGo_flatMap _ _ escClose (fun c => [c]) s fun c hc rest => (unesc_steps c (h c hc) rest).2,
    List.flatMap_singleton']

theorem cleanTextB_noBackslash (s : Str) (h : cleanTextB s = true) : ∀ c ∈ s, c ≠ '\\' := by
  intro c hc
  simp only [cleanTextB, List.all_eq_true, Bool.and_eq_true, bne_iff_ne, ne_eq] at h
  exact (h c hc).1

theorem cleanTextB_noPercent (s : Str) (h : cleanTextB s = true) : ∀ c ∈ s, c ≠ '%' := by
  intro c hc
  simp only [cleanTextB, List.all_eq_true, Bool.and_eq_true, bne_iff_ne, ne_eq] at h
  exact (h c hc).2

theorem esc_noPercent (s : Str) (h : cleanTextB s = true) : ∀ c ∈ escBrackets s, c ≠ '%' := by
  intro c hc
  rcases escBrackets_mem s c hc with h1 | h1
  · exact cleanTextB_noPercent s h c h1
  · subst h1; decide

theorem isWord_rparen : isWord ')' = false := by decide +kernel

theorem readWord_word : ∀ (n tail acc : Str) (k : Nat), n.all isWord = true →
    readWord (n ++ tail) acc k = readWord tail (n.reverse ++ acc) (k + n.length)
  | [], tail, acc, k, _ => by simp
  | c :: cs, tail, acc, k, h => by
      simp only [List.all_cons, Bool.and_eq_true] at h
      simp only [List.cons_append, readWord, h.1, ↓reduceIte]
      rw [readWord_word cs tail (c :: acc) (k + 1) h.2]
      simp [Nat.add_assoc, Nat.add_comm 1]

theorem readParam_paramStr (n rest : Str) (h : wordName n = true) :
    readParam (paramStr n ++ rest) = some (n, n.length + 4) := by
  simp only [wordName, Bool.and_eq_true, Bool.not_eq_true'] at h
  simp only [paramStr, List.cons_append, readParam, List.append_assoc]
  rw [readWord_word n _ [] 2 h.2]
  have hne : (n.reverse ++ ([] : Str)).isEmpty = false := by
    cases n with
    | nil => simp at h
    | cons c cs => simp
  simp only [List.nil_append, readWord, isWord_rparen, Bool.false_eq_true, ↓reduceIte, hne]
  simp
  omega

theorem splitGo_skip (cur : Str) : ∀ (xs rest : Str), splitGo xs.length cur (xs ++ rest) = splitGo 0 cur rest
  | [], rest => by simp
  | x :: xs, rest => by
      simp only [List.length_cons, List.cons_append]
      rw [splitGo.eq_def]
      simp only
      exact splitGo_skip cur xs rest

theorem readParam_clean (c : Char) (cs : Str) (h : c ≠ '%') : readParam (c :: cs) = none := by
  unfold readParam
  split
  · rename_i heq; simp at heq; exact absurd heq.1 h
  · rfl

theorem splitGo_clean : ∀ (s cur rest : Str), (∀ c ∈ s, c ≠ '%') →
    splitGo 0 cur (s ++ rest) = splitGo 0 (s.reverse ++ cur) rest
  | [], cur, rest, _ => by simp
  | c :: cs, cur, rest, h => by
      simp only [List.cons_append]
      rw [splitGo.eq_def]
      simp only [readParam_clean c _ (h c (by simp))]
      have := splitGo_clean cs (c :: cur) rest (fun x hx => h x (by simp [hx]))
      simpa using this

theorem splitGo_param (n rest cur : Str) (h : wordName n = true) :
    splitGo 0 cur (paramStr n ++ rest) = .inl cur.reverse :: .inr n :: splitGo 0 [] rest := by
  have hp := readParam_paramStr n rest h
  have hshape : paramStr n ++ rest = '%' :: (('(' :: n ++ [')', 's']) ++ rest) := by simp [paramStr]
  rw [hshape, splitGo.eq_def]
  simp only
  rw [← hshape, hp]
  simp only [List.cons.injEq, true_and]
  have hlen : ('(' :: n ++ [')', 's']).length = n.length + 3 := by simp
  have := splitGo_skip [] ('(' :: n ++ [')', 's']) rest
  rw [hlen] at this
  simpa using this

def Piece.ok : Piece → Bool
  | .text s => cleanTextB s
  | .expr n _ _ => wordName n

def ypStep (vs : List (Str × TEvent)) (acc : List TEvent) (p : Str ⊕ Str) : Except Err (List TEvent) :=
  match p with
  | .inl t => pure (if t.isEmpty then acc else acc ++ [.text (unescBrackets t)])
  | .inr n =>
    match lookupValue vs n with
    | some e => pure (acc ++ [e])
    | none => .error .keyError

theorem yieldParts_eq (vs : List (Str × TEvent)) (s : Str) :
    yieldParts vs s = (splitParams s).foldlM (ypStep vs) [] := rfl

def Piece.bound (vs : List (Str × TEvent)) : Piece → Prop
  | .text _ => True
  | .expr n i cm => lookupValue vs n = some (.expr i cm)

/-- the splitter and the fold of `yield_parts` along a segment; `raw` is the text read since the last reference -/
theorem foldl_splitGo_segStr (vs : List (Str × TEvent)) : ∀ (ps : List Piece) (raw : Str) (acc : List TEvent),
    ps.all Piece.ok = true → (∀ p ∈ ps, p.bound vs) → cleanTextB raw = true →
    (splitGo 0 (escBrackets raw).reverse (segStr ps)).foldlM (ypStep vs) acc = .ok (acc ++ segEventsGo raw ps)
  | [], raw, acc, _, _, hc => by
      simp only [segStr, splitGo, List.foldlM, ypStep, bind, Except.bind, pure, Except.pure, segEventsGo, List.reverse_reverse,
        escBrackets_isEmpty, unesc_esc raw (cleanTextB_noBackslash raw hc)]
      by_cases h : raw.isEmpty = true
      · simp [h]
      · simp [h]
  | .text s :: ps, raw, acc, h, hb, hc => by
      simp only [List.all_cons, Bool.and_eq_true, Piece.ok] at h
      simp only [segStr, Piece.str, segEventsGo]
      rw [splitGo_clean (escBrackets s) _ _ (esc_noPercent s h.1), ← List.reverse_append, ← escBrackets_append]
      exact foldl_splitGo_segStr vs ps (raw ++ s) acc h.2 (fun p hp => hb p (by simp [hp]))
        (by simp only [cleanTextB, List.all_append, Bool.and_eq_true] at hc h ⊢; exact ⟨hc, h.1⟩)
  | .expr n i cm :: ps, raw, acc, h, hb, hc => by
      simp only [List.all_cons, Bool.and_eq_true, Piece.ok] at h
      have hv : lookupValue vs n = some (.expr i cm) := hb (.expr n i cm) (by simp)
      have := foldl_splitGo_segStr vs ps [] ((if raw.isEmpty = true then acc else acc ++ [.text raw]) ++ [.expr i cm])
        h.2 (fun p hp => hb p (by simp [hp])) rfl
      rw [escBrackets_nil, List.reverse_nil] at this
      simp only [segStr, Piece.str, splitGo_param n _ _ h.1, List.foldlM, ypStep, bind, Except.bind, pure, Except.pure, hv,
        segEventsGo, List.reverse_reverse, escBrackets_isEmpty, unesc_esc raw (cleanTextB_noBackslash raw hc), this]
      by_cases he : raw.isEmpty = true
      · simp [he]
      · simp [he, List.append_assoc]

/-- **yield_parts on a segment**: clean text comes back as (merged) TEXT events, every
    parameter reference as the expression bound to it -/
theorem yieldParts_segStr (vs : List (Str × TEvent)) (ps : List Piece) (h : ps.all Piece.ok = true)
    (hb : ∀ p ∈ ps, p.bound vs) : yieldParts vs (segStr ps) = .ok (segEvents ps) := by
  have := foldl_splitGo_segStr vs ps [] [] h hb rfl
  rw [escBrackets_nil] at this
  simpa [yieldParts_eq, splitParams, segEvents] using this

end Genshi.I18n
