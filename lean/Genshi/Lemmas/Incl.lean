/-
  C11: run-time mode simulated by inline mode.  The relation "prepared stream of a raw stream" (`PrepL`),
  the relations on contexts and results (`StRel`, `RRel`), the loader fact the simulation takes (`LoadOut`, outcome
  predicate `PrepOut`), the simulation (`simL`, `sim`); the match windows of the two runs are coupled by `CoupS`
  (`InclBase`).
-/
import Genshi.Lemmas.InclBase
namespace Genshi.Incl

/-! ## "`p` is a prepared form of the raw stream `r`"

`zone = true` inside an element that a match template may rewrite (tag in `T`) and inside match
template bodies: there the match window is restricted and a run-time include restarts it.  A
statically named include may have been replaced by the (prepared, marked) stream of its target,
or by its prepared fallback when the target does not exist; inside a zone only when what was
inlined does not depend on the window (`winfreeL`). -/
inductive PrepL (T : List Name) (files : Files) : Bool → List Node → List Node → Prop
  | nil {z} : PrepL T files z [] []
  | text {z s r r'} : PrepL T files z r r' → PrepL T files z (.text s :: r) (.text s :: r')
  | var {z x r r'} : PrepL T files z r r' → PrepL T files z (.var x :: r) (.var x :: r')
  | call {m r r'} : PrepL T files false r r' → PrepL T files false (.call m :: r) (.call m :: r')
  | select {z r r'} : PrepL T files z r r' → PrepL T files z (.select :: r) (.select :: r')
  | elem {z t b b' r r'} : PrepL T files (z || decide (t ∈ T)) b b' → PrepL T files z r r' →
      PrepL T files z (.elem t b :: r) (.elem t b' :: r')
  | cond {z c b b' r r'} : PrepL T files z b b' → PrepL T files z r r' →
      PrepL T files z (.cond c b :: r) (.cond c b' :: r')
  | loop {z x xs b b' r r'} : PrepL T files z b b' → PrepL T files z r r' →
      PrepL T files z (.loop x xs b :: r) (.loop x xs b' :: r')
  | defn {z m b b' r r'} : PrepL T files false b b' → PrepL T files z r r' →
      PrepL T files z (.defn m b :: r) (.defn m b' :: r')
  | matchT {z t b b' r r'} : t ∈ T → PrepL T files true b b' → PrepL T files z r r' →
      PrepL T files z (.matchT t b :: r) (.matchT t b' :: r')
  | inlined {z b b' r r'} : PrepL T files z b b' → PrepL T files z r r' →
      PrepL T files z (.inlined b :: r) (.inlined b' :: r')
  | keep {z h c hf fb fb' p r r'} : PrepL T files false fb fb' → PrepL T files z r r' →
      PrepL T files z (.include h c hf fb p :: r) (.include h c hf fb' p :: r')
  | inlineFound {z h c hf fb p name body body' r r'} :
      resolve p h = some name → files.find name = some ⟨c, some body⟩ →
      (z = true → winfreeL T body = true) →
      PrepL T files false body body' → PrepL T files z r r' →
      PrepL T files z (.include (.static h) c hf fb p :: r) (.inlined body' :: r')
  | inlineMissing {z h c fb fb' p name r r'} :
      resolve p h = some name → files.find name = none →
      (z = true → winfreeL T fb = true) →
      PrepL T files false fb fb' → PrepL T files z r r' →
      PrepL T files z (.include (.static h) c true fb p :: r) (fb' ++ r')

theorem PrepL.append {T files z a a' b b'} (ha : PrepL T files z a a') (hb : PrepL T files z b b') :
    PrepL T files z (a ++ b) (a' ++ b') := by
  induction ha with
  | nil => simpa using hb
  | text _ ih => exact .text (ih hb)
  | var _ ih => exact .var (ih hb)
  | call _ ih => exact .call (ih hb)
  | select _ ih => exact .select (ih hb)
  | elem h1 _ _ ih => exact .elem h1 (ih hb)
  | cond h1 _ _ ih => exact .cond h1 (ih hb)
  | loop h1 _ _ ih => exact .loop h1 (ih hb)
  | defn h1 _ _ ih => exact .defn h1 (ih hb)
  | matchT ht h1 _ _ ih => exact .matchT ht h1 (ih hb)
  | inlined h1 _ _ ih => exact .inlined h1 (ih hb)
  | keep h1 _ _ ih => exact .keep h1 (ih hb)
  | inlineFound hr hf hw h1 _ _ ih => exact .inlineFound hr hf hw h1 (ih hb)
  | inlineMissing hr hf hw h1 _ _ ih =>
    rw [List.cons_append, List.append_assoc]
    exact .inlineMissing hr hf hw h1 (ih hb)

theorem prepL_of_plain {T : List Name} {files : Files} :
    (∀ n, plainN n = true → ∀ (z : Bool) (r : List Node), PrepL T files z r r → PrepL T files z (n :: r) (n :: r)) ∧
    ∀ ns, plainL ns = true → ∀ z : Bool, PrepL T files z ns ns :=
  plain_induction (fun _ _ _ hr => .text hr) (fun _ _ ih _ _ hr => .elem (ih _) hr) (fun _ => .nil)
    (fun _ _ ihn ihl z => ihn z _ (ihl z))

theorem prepL_of_plainN {T : List Name} {files : Files} : ∀ (n : Node) (z : Bool) (r : List Node),
    plainN n = true → PrepL T files z r r → PrepL T files z (n :: r) (n :: r) :=
  fun n z r h => prepL_of_plain.1 n h z r

/-- pointwise relation of two lists (core has no `Forall₂`) -/
inductive All2 {α β : Type} (P : α → β → Prop) : List α → List β → Prop
  | nil : All2 P [] []
  | cons {a b as bs} : P a b → All2 P as bs → All2 P (a :: as) (b :: bs)

theorem All2.snoc {α β : Type} {P : α → β → Prop} {as bs a b} (h : All2 P as bs) (hab : P a b) :
    All2 P (as ++ [a]) (bs ++ [b]) := by
  induction h with
  | nil => exact .cons hab .nil
  | cons h1 _ ih => exact .cons h1 ih

theorem All2.imp {α β : Type} {P P' : α → β → Prop} (hP : ∀ a b, P a b → P' a b) {l l'} (h : All2 P l l') : All2 P' l l' := by
  induction h with
  | nil => exact .nil
  | cons h1 _ ih => exact .cons (hP _ _ h1) ih

theorem All2.eq {α : Type} {P : α → α → Prop} (hP : ∀ a b, P a b → a = b) {l l'} (h : All2 P l l') : l = l' := by
  induction h with
  | nil => rfl
  | cons h1 _ ih => rw [hP _ _ h1, ih]

theorem All2.left {α β : Type} {P : α → β → Prop} {Q : α → Prop} (hP : ∀ a b, P a b → Q a) {l l'} (h : All2 P l l') :
    ∀ a ∈ l, Q a := by
  induction h with
  | nil => exact fun _ h => nomatch h
  | cons h1 _ ih => exact List.forall_mem_cons.2 ⟨hP _ _ h1, ih⟩

theorem All2.right {α β : Type} {P : α → β → Prop} {Q : β → Prop} (hP : ∀ a b, P a b → Q b) {l l'} (h : All2 P l l') :
    ∀ b ∈ l', Q b := by
  induction h with
  | nil => exact fun _ h => nomatch h
  | cons h1 _ ih => exact List.forall_mem_cons.2 ⟨hP _ _ h1, ih⟩

/-- the inline-mode loader's cache holds, under each name, a prepared form of the template that file contains -/
def CacheInv (T : List Name) (files : Files) (c : Cache) : Prop :=
  ∀ name b', (name, b') ∈ c → ∃ k body, files.find name = some ⟨k, some body⟩ ∧ PrepL T files false body b'

/-- a fresh loader -/
theorem CacheInv.nil {T : List Name} {files : Files} : CacheInv T files [] := fun _ _ h => nomatch h

/-- run-time-mode context vs inline-mode context: the same data; macros and match templates
registered so far have raw vs prepared bodies -/
structure StRel (T : List Name) (files : Files) (s s' : St) : Prop where
  frames : s.frames = s'.frames
  data : s.data = s'.data
  macros : All2 (fun a b => a.1 = b.1 ∧ PrepL T files false a.2 b.2) s.macros s'.macros
  mts : All2 (fun a b => a.1 = b.1 ∧ a.1 ∈ T ∧ PrepL T files true a.2 b.2) s.mts s'.mts
  cache : CacheInv T files s'.cache
  sel : s.sel = s'.sel

/-- the results of the run-time run `x` and of the inline run `x'`: both out of fuel, the same error, or the
same events in related contexts.  Where the file set may contain ill-formed templates (`ill`) there is one more
outcome: the inline run raised the syntax error, while preparing a template it loaded (finding
C11-eager-syntax) -/
def RRel (ill : Prop) (T : List Name) (files : Files) (x x' : R) : Prop :=
  (ill ∧ x' = .err .syntaxErr) ∨
    match x with
    | .fuel => x' = .fuel
    | .err e => x' = .err e
    | .ok r => ∃ r', x' = .ok r' ∧ r.1 = r'.1 ∧ StRel T files r.2 r'.2

section
variable {ill : Prop} {T : List Name} {files : Files}

theorem RRel.fuel : RRel ill T files .fuel .fuel := .inr rfl
theorem RRel.err (e : Err) : RRel ill T files (.err e) (.err e) := .inr rfl
theorem RRel.ok {o : List Ev} {s s' : St} (h : StRel T files s s') : RRel ill T files (.ok (o, s)) (.ok (o, s')) :=
  .inr ⟨_, rfl, rfl, h⟩

theorem RRel.bind {x x' : R} {k k' : List Ev × St → R} (hx : RRel ill T files x x')
    (hk : ∀ r r', r.1 = r'.1 → StRel T files r.2 r'.2 → RRel ill T files (k r) (k' r')) :
    RRel ill T files (x.bind k) (x'.bind k') := by
  rcases hx with ⟨hill, rfl⟩ | hx
  · exact .inl ⟨hill, rfl⟩
  · cases x with
    | fuel => rw [hx]; exact .fuel
    | err e => rw [hx]; exact .err e
    | ok r =>
      obtain ⟨r', rfl, ho, hs⟩ := hx
      exact hk r r' ho hs

end

theorem StRel.lookup {T files s s'} (h : StRel T files s s') (x : Name) : s.lookup x = s'.lookup x := by
  simp [St.lookup, h.frames, h.data]

theorem firstMatchFrom_rel {T files rng tag} {ms ms' : List (Name × List Node)}
    (h : All2 (fun a b => a.1 = b.1 ∧ a.1 ∈ T ∧ PrepL T files true a.2 b.2) ms ms') (i : Nat) :
    (firstMatchFrom rng tag ms i = none ∧ firstMatchFrom rng tag ms' i = none) ∨
    ∃ idx mb mb', firstMatchFrom rng tag ms i = some (idx, mb) ∧ firstMatchFrom rng tag ms' i = some (idx, mb') ∧
      tag ∈ T ∧ PrepL T files true mb mb' := by
  induction h generalizing i with
  | nil => exact .inl ⟨rfl, rfl⟩
  | @cons a b as bs hab _ ih =>
    obtain ⟨t, mb⟩ := a
    obtain ⟨t', mb'⟩ := b
    obtain ⟨ht, hT, hp⟩ := hab
    simp only at ht hT hp
    subst ht
    simp only [firstMatchFrom]
    by_cases hc : (rng.contains i && decide (t = tag)) = true
    · simp only [hc, ↓reduceIte]
      simp only [Bool.and_eq_true, decide_eq_true_eq] at hc
      exact .inr ⟨i, mb, mb', rfl, rfl, hc.2 ▸ hT, hp⟩
    · simp only [hc]
      exact ih (i + 1)

theorem lookup_rel {T files} {ms ms' : List (Name × List Node)}
    (h : All2 (fun a b => a.1 = b.1 ∧ PrepL T files false a.2 b.2) ms ms') (m : Name) :
    (ms.lookup m = none ∧ ms'.lookup m = none) ∨
    ∃ b b', ms.lookup m = some b ∧ ms'.lookup m = some b' ∧ PrepL T files false b b' := by
  induction h with
  | nil => exact .inl ⟨rfl, rfl⟩
  | @cons a b as bs hab _ ih =>
    obtain ⟨t, mb⟩ := a
    obtain ⟨t', mb'⟩ := b
    obtain ⟨ht, hp⟩ := hab
    simp only at ht hp
    subst ht
    simp only [List.lookup]
    cases hm : (m == t) with
    | true => exact .inr ⟨mb, mb', rfl, rfl, hp⟩
    | false => exact ih

theorem seq_rel {ill T files} {x x' : R} {k k' : St → R}
    (hx : RRel ill T files x x') (hk : ∀ s s', StRel T files s s' → RRel ill T files (k s) (k' s')) :
    RRel ill T files (x.bind fun r1 => (k r1.2).bind fun r2 => .ok (r1.1 ++ r2.1, r2.2))
      (x'.bind fun r1 => (k' r1.2).bind fun r2 => .ok (r1.1 ++ r2.1, r2.2)) :=
  hx.bind fun _ _ ho hs => (hk _ _ hs).bind fun _ _ ho2 hs2 => ho ▸ ho2 ▸ .ok hs2

theorem loopItems_rel {ill T files} {k k' : St → R} (x : Name)
    (hk : ∀ s s', StRel T files s s' → RRel ill T files (k s) (k' s')) :
    ∀ (vs : List Value) s s', StRel T files s s' → RRel ill T files (loopItems k x vs s) (loopItems k' x vs s')
  | [], _, _, h => .ok h
  | _ :: vs, _, _, h =>
    seq_rel (k := fun s => loopItems k x vs { s with frames := s.frames.tail })
      (k' := fun s => loopItems k' x vs { s with frames := s.frames.tail })
      (hk _ _ { h with frames := by rw [h.frames] })
      fun _ _ hs => loopItems_rel x hk vs _ _ { hs with frames := by rw [hs.frames] }

/-- outcome of a preparation together with the cache it leaves when it fails (`cf`): a prepared form and a
sound cache; or, only where ill-formed templates are admitted (`ill`), the syntax error and a sound cache -/
def PrepOut (ill : Prop) (T : List Name) (files : Files) (z : Bool) (raw : List Node) (x : Res (List Node × Cache))
    (cf : Cache) : Prop :=
  match x with
  | .ok r => PrepL T files z raw r.1 ∧ CacheInv T files r.2
  | .err e => ill ∧ e = .syntaxErr ∧ CacheInv T files cf
  | .fuel => False

theorem PrepOut.cases {ill T files z raw} {x : Res (List Node × Cache)} {cf : Cache} (h : PrepOut ill T files z raw x cf) :
    (ill ∧ x = .err .syntaxErr ∧ CacheInv T files cf) ∨
      ∃ r, x = .ok r ∧ PrepL T files z raw r.1 ∧ CacheInv T files r.2 := by
  cases x with
  | fuel => exact h.elim
  | err e => obtain ⟨hill, rfl, hc⟩ := h; exact .inl ⟨hill, rfl, hc⟩
  | ok r => exact .inr ⟨r, rfl, h⟩

/-- the loader fact (`loadOut`): loading in inline mode yields a prepared form of what run-time mode loads, or (`ill`) the
syntax error, raised while preparing; in both cases the loader's cache stays a cache of prepared forms -/
def LoadOut (ill : Prop) (T : List Name) (files : Files) : Prop :=
  ∀ name cls c, CacheInv T files c →
    match loadRaw files name cls with
    | .ok body => PrepOut ill T files false body (loadInl files name cls c) (loadInlC files name cls c)
    | .err e => loadInl files name cls c = .err e ∧ loadInlC files name cls c = c
    | .fuel => False

theorem winfree_of_textual (T : List Name) :
    (∀ n, textualN n = true → winfreeN T n = true) ∧ ∀ ns, textualL ns = true → winfreeL T ns = true :=
  textual_induction (fun _ => rfl) (fun _ => rfl) (fun _ _ ih => ih) (fun _ _ _ ih => ih) (fun _ _ _ => rfl)
    (fun h _ _ _ ih => by cases h <;> simp [winfreeN, ih]) (fun _ ih => ih) rfl
    (fun _ _ ihn ihl => by simp [winfreeL, ihn, ihl])

theorem winfreeN_of_textual (T : List Name) : ∀ n : Node, textualN n = true → winfreeN T n = true :=
  (winfree_of_textual T).1

/-- the restriction on text templates (`textualN`: what the text syntax cannot express, and no macro call), of every text
file of the set -/
def TextOK (files : Files) : Prop :=
  ∀ name body, files.find name = some ⟨.text, some body⟩ → textualL body = true

/-- what `simL` assumes of the renderers its nodes call back into (`render` at the fuel below, in `sim`): the statement
of the simulation itself -/
def JRel (ill : Prop) (T : List Name) (files : Files) (J J' : RJ) : Prop :=
  ∀ z rngR rngI raw prep s s', PrepL T files z raw prep → CoupS z rngR rngI (winfreeL T raw) → StRel T files s s' →
    RRel ill T files (J rngR raw s) (J' rngI prep s')

theorem loadRaw_text {files : Files} (htx : TextOK files) {name : Name} {cls : Kind} {body : List Node}
    (h : loadRaw files name cls = .ok body) : cls = .text → textualL body = true :=
  fun hc => htx name body (hc ▸ loadRaw_ok_find h)

/-- the inline run of `prep` simulates the run-time run of `raw`, whatever coupled windows and related contexts they
start from -/
def SimL (ill : Prop) (T : List Name) (files : Files) (J J' : RJ) (z : Bool) (raw prep : List Node) : Prop :=
  ∀ rR rI s s', CoupS z rR rI (winfreeL T raw) → StRel T files s s' →
    RRel ill T files (renderL .runtime files J rR raw s) (renderL .inlineM files J' rI prep s')

section
variable {ill : Prop} {T : List Name} {files : Files} {J J' : RJ} {z : Bool} {n : Node} {r r' : List Node}

/-- One step of the simulation: the run-time run renders the head node `n`, the inline run what preparation put in its
place (`pre`), with related results; the tails go on from there under the same windows. -/
theorem sim_app {pre : List Node} (ih : SimL ill T files J J' z r r')
    (hn : ∀ rR rI s s', CoupS z rR rI (winfreeN T n) → StRel T files s s' →
      RRel ill T files (renderN .runtime files J rR n s) (renderL .inlineM files J' rI pre s')) :
    SimL ill T files J J' z (n :: r) (pre ++ r') := by
  intro rR rI s s' hc h
  rw [renderL_cons, renderL_append]
  exact seq_rel (hn rR rI s s' hc.head h) fun s1 s1' h1 => ih rR rI s1 s1' hc.tail h1

/-- the usual case: one node in place of the head node -/
theorem sim_cons {n' : Node} (ih : SimL ill T files J J' z r r')
    (hn : ∀ rR rI s s', CoupS z rR rI (winfreeN T n) → StRel T files s s' →
      RRel ill T files (renderN .runtime files J rR n s) (renderN .inlineM files J' rI n' s')) :
    SimL ill T files J J' z (n :: r) (n' :: r') :=
  sim_app (pre := [n']) ih fun rR rI s s' hc h => by rw [renderL_singleton]; exact hn rR rI s s' hc h

end

/-- The simulation, by induction on `PrepL`: every case relates what the two runs make of the head nodes (`sim_cons`;
the tail is the induction hypothesis).  The window coupling `CoupS` is consulted only where the window is: `call`,
`select` and an element with a tag in `T` need the runs under the same window (`CoupS.same`: such a node is not
window-free); nodes with a body pass the coupling down (`CoupS.mono`), a fallback runs under the fresh windows
(`CoupS.fresh`); a target loaded at run time is entered from `CoupS.ofKind`, content inlined in place of an include
(`inlineFound`, `inlineMissing`) from `CoupS.inPlace`. -/
theorem simL {ill T files} (hload : LoadOut ill T files) (htx : TextOK files) {J J' : RJ} (hJ : JRel ill T files J J') :
    ∀ {z raw prep}, PrepL T files z raw prep → SimL ill T files J J' z raw prep := by
  intro z raw prep hp
  induction hp with
  | nil => exact fun _ _ _ _ _ h => .ok h
  | text _ ih =>
    exact sim_cons ih fun rR rI s s' _ h => by rw [renderN_text, renderN_text]; exact .ok h
  | @var z x r r' _ ih =>
    refine sim_cons ih fun rR rI s s' _ h => ?_
    rw [renderN_var, renderN_var, ← h.lookup]
    cases s.lookup x with
    | none => exact .err _
    | some v =>
      dsimp only
      cases v.text? with
      | none => exact .err _
      | some t => exact .ok h
  | @call m r r' _ ih =>
    refine sim_cons ih fun rR rI s s' hc h => ?_
    obtain ⟨he, hn, hf⟩ := hc.same rfl
    subst he
    rw [renderN_call, renderN_call]
    rcases lookup_rel h.macros m with ⟨h1, h2⟩ | ⟨b, b', h1, h2, hb⟩
    · rw [h1, h2, ← h.lookup]
      cases s.lookup m <;> exact .err _
    · rw [h1, h2]
      exact hJ false rR rR b b' s s' hb (.inl ⟨rfl, hn, hf⟩) h
  | @select z r r' _ ih =>
    refine sim_cons ih fun rR rI s s' hc h => ?_
    obtain ⟨he, hn, hf⟩ := hc.same rfl
    subst he
    rw [renderN_select, renderN_select, ← h.sel]
    cases s.sel with
    | nil => exact .err _
    | cons c _ =>
      exact hJ z rR rR _ _ s s' (prepL_of_plain.2 _ (evsToNodes_plain c) z) (.inl ⟨rfl, hn, hf⟩) h
  | @elem z t b b' r r' _ _ ihb ih =>
    refine sim_cons ih fun rR rI s s' hc h => ?_
    rw [renderN_elem, renderN_elem]
    by_cases htT : t ∈ T
    · -- a matchable element: both runs are under the same window
      obtain ⟨he, hn, hf⟩ := hc.same (by simp [winfreeN, htT])
      subst he
      rcases firstMatchFrom_rel (rng := rR) (tag := t) h.mts 0 with ⟨h1, h2⟩ | ⟨idx, mb, mb', h1, h2, hT, hmb⟩
      · simp only [firstMatch, h1, h2]
        apply RRel.bind
        · apply ihb rR rR s s' _ h
          exact .inl ⟨rfl, hn, fun hzz => by simp [htT] at hzz⟩
        · intro r1 r1' ho hs
          exact ho ▸ .ok hs
      · simp only [firstMatch, h1, h2]
        apply RRel.bind
        · apply ihb _ _ s s' _ h
          exact .inl ⟨rfl, rfl, fun hzz => by simp [hT] at hzz⟩
        · intro r1 r1' ho hs
          apply RRel.bind
          · exact hJ true _ _ mb mb' _ _ hmb (.inl ⟨rfl, rfl, fun hzz => by cases hzz⟩)
              { hs with sel := by simp [ho, hs.sel] }
          · intro r2 r2' ho2 hs2
            exact ho2 ▸ .ok { hs2 with sel := by rw [hs2.sel] }
    · -- no match template is written for this tag: the windows are not consulted
      have h1 := firstMatchFrom_none_notin (rng := rR) htT s.mts 0 (h.mts.left fun _ _ hab => hab.2.1)
      have h2 := firstMatchFrom_none_notin (rng := rI) htT s'.mts 0 (h.mts.right fun _ _ hab => hab.1 ▸ hab.2.1)
      simp only [firstMatch, h1, h2]
      apply RRel.bind
      · apply ihb rR rI s s' _ h
        exact hc.mono (by intro hz; simpa [htT] using hz) (by intro hw; simp only [winfreeN, Bool.and_eq_true] at hw; exact hw.2)
      · intro r1 r1' ho hs
        exact ho ▸ .ok hs
  | @cond z c b b' r r' _ _ ihb ih =>
    refine sim_cons ih fun rR rI s s' hc h => ?_
    rw [renderN_cond, renderN_cond, ← evalCond_congr h.lookup]
    cases evalCond s c with
    | fuel => exact .fuel
    | err e => exact .err e
    | ok bb =>
      cases bb with
      | true => exact ihb rR rI s s' hc h
      | false => exact .ok h
  | @loop z x xs b b' r r' _ _ ihb ih =>
    refine sim_cons ih fun rR rI s s' hc h => ?_
    rw [renderN_loop, renderN_loop, ← h.lookup]
    cases s.lookup xs with
    | none => exact .err _
    | some v => exact loopItems_rel x (fun s1 s1' h1 => ihb rR rI s1 s1' hc h1) _ s s' h
  | @defn z m b b' r r' hb _ _ ih =>
    refine sim_cons ih fun rR rI s s' _ h => ?_
    rw [renderN_defn, renderN_defn]
    exact .ok { h with macros := .cons ⟨rfl, hb⟩ h.macros }
  | @matchT z t b b' r r' hT hb _ _ ih =>
    refine sim_cons ih fun rR rI s s' _ h => ?_
    rw [renderN_matchT, renderN_matchT]
    exact .ok { h with mts := h.mts.snoc ⟨rfl, hT, hb⟩ }
  | @inlined z b b' r r' hb _ _ ih =>
    refine sim_cons ih fun rR rI s s' hc h => ?_
    rw [renderN_inlined, renderN_inlined]
    exact hJ z rR rI b b' s s' hb hc h
  | @keep z hr c hf fb fb' p r r' _ _ ihfb ih =>
    refine sim_cons ih fun rR rI s s' hc h => ?_
    rw [renderN_include, renderN_include, ← evalHref_congr h.lookup]
    cases evalHref s hr with
    | fuel => exact .fuel
    | err e => exact .err e
    | ok hh =>
      simp only [Res.bind_ok]
      cases resolve p hh with
      | none => exact .err _
      | some name =>
        simp only [loadT]
        have hl := hload name c s'.cache h.cache
        cases hraw : loadRaw files name c with
        | fuel => rw [hraw] at hl; exact hl.elim
        | err e =>
          simp only [hraw] at hl
          simp only [hl.1, Res.map_err]
          cases e with
          | notFound =>
            cases hf with
            | true =>
              refine ihfb _ _ s s' (hc.fresh ?_) h
              intro hw
              cases hr <;> simp only [winfreeN, Bool.and_eq_true] at hw
              · exact hw.2
              · exact hw
            | false => exact .err _
          | syntaxErr => exact .err _
          | undefined => exact .err _
          | unmodelled => exact .err _
        | ok body =>
          simp only [hraw] at hl
          rcases hl.cases with ⟨hill, hli, _⟩ | ⟨r, hli, hpb, hc'⟩
          · simp only [hli, Res.map_err]
            exact .inl ⟨hill, rfl⟩
          · simp only [hli, Res.map_ok]
            exact hJ false _ _ body r.1 _ _ hpb (.ofKind fun hk => (winfree_of_textual T).2 _ (loadRaw_text htx hraw hk))
              { h with cache := hc' }
  | @inlineFound z hh c hf fb p name body body' r r' hres hfind hw hb _ _ ih =>
    refine sim_cons ih fun rR rI s s' hc h => ?_
    rw [renderN_static_found hres hfind, renderN_inlined]
    refine hJ false _ _ body body' s s' hb ?_ h
    cases c with
    | text => exact .inr ((winfree_of_textual T).2 _ (htx name body hfind))
    | markup => exact hc.inPlace (fun _ => rfl) hw fun ht => by simp [winfreeN] at ht
  | @inlineMissing z hh c fb fb' p name r r' hres hfind hw _ _ ihfb ih =>
    refine sim_app ih fun rR rI s s' hc h => ?_
    rw [renderN_static_missing hres hfind, if_pos rfl]
    refine ihfb _ _ s s' (hc.inPlace Rng.fresh_of_nomt hw fun ht => ?_) h
    simp only [winfreeN, Bool.and_eq_true] at ht
    exact ht.2

theorem sim {ill T files} (hload : LoadOut ill T files) (htx : TextOK files) :
    ∀ f : Nat, JRel ill T files (render .runtime files f) (render .inlineM files f)
  | 0 => fun _ _ _ _ _ _ _ _ _ _ => .fuel
  | f + 1 => fun _ rR rI _ _ s s' hp hz h => simL hload htx (sim hload htx f) hp rR rI s s' hz h

end Genshi.Incl
