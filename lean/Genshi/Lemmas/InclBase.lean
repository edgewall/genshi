/-
  C11: what every lemma file about the evaluators rests on.  `Res` and the result relation `Post`; induction over
  nodes and node lists at once (`node_induction`, and over plain and textual streams); `renderN` / `renderL` clause by
  clause; the file lookup shared by the loaders (`load_cases`); how the match windows of two runs over one stream are
  coupled (`CoupS`).
-/
import Genshi.Model.Incl
import Genshi.Lemmas.ListBasics
namespace Genshi.Incl

@[simp] theorem Res.bind_fuel {α β : Type} (k : α → Res β) : (Res.fuel : Res α).bind k = .fuel := rfl
@[simp] theorem Res.bind_err {α β : Type} (e : Err) (k : α → Res β) : (Res.err e : Res α).bind k = .err e := rfl
@[simp] theorem Res.bind_ok {α β : Type} (a : α) (k : α → Res β) : (Res.ok a).bind k = k a := rfl
@[simp] theorem Res.map_fuel {α β : Type} (f : α → β) : (Res.fuel : Res α).map f = .fuel := rfl
@[simp] theorem Res.map_err {α β : Type} (e : Err) (f : α → β) : (Res.err e : Res α).map f = .err e := rfl
@[simp] theorem Res.map_ok {α β : Type} (a : α) (f : α → β) : (Res.ok a).map f = .ok (f a) := rfl

theorem Res.bind_assoc {α β γ : Type} (x : Res α) (k : α → Res β) (h : β → Res γ) :
    (x.bind k).bind h = x.bind fun a => (k a).bind h := by
  cases x <;> rfl

theorem Res.bind_ne_fuel {α β : Type} {x : Res α} {k : α → Res β} (hx : x ≠ .fuel) (hk : ∀ a, k a ≠ .fuel) :
    x.bind k ≠ .fuel := by
  cases x with
  | fuel => exact absurd rfl hx
  | err e => simp
  | ok a => exact hk a

theorem Res.bind_eq_ok {α β : Type} {x : Res α} {k : α → Res β} {b : β} (h : x.bind k = .ok b) :
    ∃ a, x = .ok a ∧ k a = .ok b := by
  cases x with
  | fuel => simp at h
  | err e => simp at h
  | ok a => exact ⟨a, rfl, h⟩

/-- two runs with the same outcome, whose final context — where there is one — satisfies `I`.  "Run-time mode =
specification" (`SR` in `InclSpec`, `SRZ` in `InclSpecZ`) is this relation at the invariants `OkSt`, `OkStZ T files`,
written out there; their proofs use the lemmas below through that definitional equality.  "Run-time mode leaves the cache
alone" (`KC` in `InclSeq`) is the second clause alone, and is proved as `Post I x x`, one run against itself. -/
def Post (I : St → Prop) (x y : Res (List Ev × St)) : Prop := x = y ∧ ∀ r, x = .ok r → I r.2

namespace Post
variable {I : St → Prop}

theorem fuel : Post I .fuel .fuel := ⟨rfl, fun _ h => nomatch h⟩
theorem err (e : Err) : Post I (.err e) (.err e) := ⟨rfl, fun _ h => nomatch h⟩
theorem ok {o : List Ev} {s : St} (h : I s) : Post I (.ok (o, s)) (.ok (o, s)) :=
  ⟨rfl, fun _ hr => by cases hr; exact h⟩

theorem bind {x y : Res (List Ev × St)} {k k' : List Ev × St → Res (List Ev × St)} (hx : Post I x y)
    (hk : ∀ r, I r.2 → Post I (k r) (k' r)) : Post I (x.bind k) (y.bind k') := by
  obtain ⟨rfl, hok⟩ := hx
  cases x with
  | fuel => exact fuel
  | err e => exact err e
  | ok a => exact hk a (hok a rfl)

theorem loopItems {k k' : St → R} (x : Name) (hI : ∀ s f, I s → I { s with frames := f })
    (hk : ∀ s, I s → Post I (k s) (k' s)) :
    ∀ (vs : List Value) (s : St), I s → Post I (loopItems k x vs s) (loopItems k' x vs s)
  | [], _, hs => ok hs
  | _ :: vs, _, hs =>
    bind (hk _ (hI _ _ hs)) fun _ h1 => bind (loopItems x hI hk vs _ (hI _ _ h1)) fun _ h2 => ok h2

end Post

theorem node_induction {P : Node → Prop} {Q : List Node → Prop}
    (text : ∀ s, P (.text s)) (var : ∀ x, P (.var x)) (elem : ∀ t b, Q b → P (.elem t b))
    (cond : ∀ c b, Q b → P (.cond c b)) (loop : ∀ x xs b, Q b → P (.loop x xs b)) (defn : ∀ m b, Q b → P (.defn m b))
    (call : ∀ m, P (.call m)) (matchT : ∀ t b, Q b → P (.matchT t b)) (select : P .select)
    (incl : ∀ h c hf fb p, Q fb → P (.include h c hf fb p)) (inlined : ∀ b, Q b → P (.inlined b))
    (nil : Q []) (cons : ∀ n ns, P n → Q ns → Q (n :: ns)) : (∀ n, P n) ∧ ∀ ns, Q ns :=
  ⟨Node.rec text var elem cond loop defn call matchT select incl inlined nil cons,
   Node.rec_1 text var elem cond loop defn call matchT select incl inlined nil cons⟩

section unfold
variable (inl : Mode) (files : Files) (J : RJ) (rng : Rng) (st : St)

theorem renderL_nil : renderL inl files J rng [] st = .ok ([], st) := rfl

theorem renderL_cons (n : Node) (ns : List Node) :
    renderL inl files J rng (n :: ns) st =
      (renderN inl files J rng n st).bind fun r1 =>
        (renderL inl files J rng ns r1.2).bind fun r2 => .ok (r1.1 ++ r2.1, r2.2) := rfl

theorem renderN_text (s : List Char) : renderN inl files J rng (.text s) st = .ok ([.text s], st) := rfl

theorem renderN_var (x : Name) :
    renderN inl files J rng (.var x) st =
      match st.lookup x with
      | none => .err .undefined
      | some v => match v.text? with
        | none => .err .unmodelled
        | some s => .ok ([.text s], st) := rfl

theorem renderN_elem (tag : Name) (body : List Node) :
    renderN inl files J rng (.elem tag body) st =
      match firstMatch st.mts rng tag with
      | none =>
        (renderL inl files J rng body st).bind fun r => .ok (.start tag :: r.1 ++ [.stop tag], r.2)
      | some (idx, mb) =>
        (renderL inl files J ⟨rng.lo, some (idx + 1), false⟩ body st).bind fun r =>
          (J ⟨idx + 1, rng.hi, false⟩ mb { r.2 with sel := r.1 :: r.2.sel }).bind fun r' =>
            .ok (r'.1, { r'.2 with sel := r'.2.sel.tail }) := rfl

theorem renderN_select :
    renderN inl files J rng .select st =
      match st.sel with
      | [] => .err .undefined
      | c :: _ => J rng (evsToNodes c) st := rfl

theorem renderN_cond (c : Cond) (body : List Node) :
    renderN inl files J rng (.cond c body) st =
      (evalCond st c).bind fun b => if b then renderL inl files J rng body st else .ok ([], st) := rfl

theorem renderN_loop (x xs : Name) (body : List Node) :
    renderN inl files J rng (.loop x xs body) st =
      match st.lookup xs with
      | none => .err .undefined
      | some v => loopItems (fun st' => renderL inl files J rng body st') x v.items st := rfl

theorem renderN_defn (m : Name) (body : List Node) :
    renderN inl files J rng (.defn m body) st = .ok ([], { st with macros := (m, body) :: st.macros }) := rfl

theorem renderN_call (m : Name) :
    renderN inl files J rng (.call m) st =
      match st.macros.lookup m with
      | some body => J rng body st
      | none => match st.lookup m with
        | none => .err .undefined
        | some _ => .err .unmodelled := rfl

theorem renderN_matchT (tag : Name) (body : List Node) :
    renderN inl files J rng (.matchT tag body) st = .ok ([], { st with mts := st.mts ++ [(tag, body)] }) := rfl

theorem renderN_include (href : Href) (cls : Kind) (hasFb : Bool) (fb : List Node) (pos : Name) :
    renderN inl files J rng (.include href cls hasFb fb pos) st =
      (evalHref st href).bind fun h =>
        match resolve pos h with
        | none => .err .unmodelled
        | some name =>
          match loadT inl files name cls st with
          | .ok (body, st1) => J (.ofKind cls) body st1
          | .err .notFound => if hasFb then renderL inl files J rng.fresh fb st else .err .notFound
          | .err e => .err e
          | .fuel => .fuel := rfl

theorem renderN_inlined (body : List Node) :
    renderN inl files J rng (.inlined body) st = J rng body st := rfl

theorem renderL_append (a b : List Node) :
    renderL inl files J rng (a ++ b) st =
      (renderL inl files J rng a st).bind fun r1 =>
        (renderL inl files J rng b r1.2).bind fun r2 => .ok (r1.1 ++ r2.1, r2.2) := by
  induction a generalizing st with
  | nil =>
    simp only [List.nil_append, renderL_nil, Res.bind_ok]
    cases renderL inl files J rng b st <;> rfl
  | cons n ns ih =>
    simp only [List.cons_append, renderL_cons, ih, Res.bind_assoc, Res.bind_ok, List.append_assoc]

end unfold

section static
variable {files : Files} {J : RJ} {rng : Rng} {st : St} {h : List Char} {cls : Kind} {hasFb : Bool} {fb : List Node}
  {pos name : Name} (hres : resolve pos h = some name)
include hres

/-- what run-time mode makes of a statically named include: the target is entered, where the file is a template of the
class asked for -/
theorem renderN_static_found {body : List Node} (hfind : files.find name = some ⟨cls, some body⟩) :
    renderN .runtime files J rng (.include (.static h) cls hasFb fb pos) st = J (.ofKind cls) body st := by
  rw [renderN_include]
  simp only [evalHref, Res.bind_ok, hres, loadT, loadRaw, hfind, ne_eq, not_true_eq_false, ↓reduceIte, Res.map_ok]

/-- … and the fallback is rendered, if there is one, where there is no such file -/
theorem renderN_static_missing (hfind : files.find name = none) :
    renderN .runtime files J rng (.include (.static h) cls hasFb fb pos) st =
      if hasFb then renderL .runtime files J rng.fresh fb st else .err .notFound := by
  rw [renderN_include]
  simp only [evalHref, Res.bind_ok, hres, loadT, loadRaw, hfind, Res.map_err]

end static

theorem renderL_singleton (m : Mode) (files : Files) (J : RJ) (rng : Rng) (n : Node) (st : St) :
    renderL m files J rng [n] st = renderN m files J rng n st := by
  rw [renderL_cons]
  cases renderN m files J rng n st with
  | fuel => rfl
  | err e => rfl
  | ok r => simp [renderL_nil]

theorem render_zero (inl : Mode) (files : Files) (rng : Rng) (ns : List Node) (st : St) :
    render inl files 0 rng ns st = .fuel := rfl

theorem render_succ (inl : Mode) (files : Files) (f : Nat) (rng : Rng) (ns : List Node) (st : St) :
    render inl files (f + 1) rng ns st = renderL inl files (render inl files f) rng ns st := rfl

mutual
def plainN : Node → Bool
  | .text _ => true
  | .elem _ b => plainL b
  | _ => false
termination_by structural n => n
def plainL : List Node → Bool
  | [] => true
  | n :: ns => plainN n && plainL ns
termination_by structural l => l
end

theorem plainL_append {a b : List Node} (ha : plainL a = true) (hb : plainL b = true) : plainL (a ++ b) = true := by
  induction a with
  | nil => exact hb
  | cons n ns ih =>
    simp only [plainL, Bool.and_eq_true] at ha
    simp only [List.cons_append, plainL, Bool.and_eq_true]
    exact ⟨ha.1, ih ha.2⟩

theorem plainL_reverse {a : List Node} (ha : plainL a = true) : plainL a.reverse = true := by
  induction a with
  | nil => rfl
  | cons n ns ih =>
    simp only [plainL, Bool.and_eq_true] at ha
    rw [List.reverse_cons]
    exact plainL_append (ih ha.2) (by simp [plainL, ha.1])

theorem evsToNodesAux_plain : ∀ (es : List Ev) (acc : List Node) (st : List (List Node)),
    plainL acc = true → (∀ l ∈ st, plainL l = true) → plainL (evsToNodesAux es acc st) = true
  | [], acc, _, ha, _ => plainL_reverse ha
  | .text s :: es, acc, st, ha, hs => evsToNodesAux_plain es _ st (by simp [plainL, plainN, ha]) hs
  | .start _ :: es, acc, st, ha, hs =>
    evsToNodesAux_plain es [] (acc :: st) rfl (by intro l hl; rcases List.mem_cons.mp hl with rfl | h; exact ha; exact hs l h)
  | .stop t :: es, acc, parent :: st, ha, hs =>
    evsToNodesAux_plain es _ st
      (by simp only [plainL, plainN, Bool.and_eq_true]; exact ⟨plainL_reverse ha, hs parent (by simp)⟩)
      (fun l hl => hs l (List.mem_cons_of_mem _ hl))
  | .stop _ :: es, acc, [], ha, hs => evsToNodesAux_plain es acc [] ha hs

theorem evsToNodes_plain (es : List Ev) : plainL (evsToNodes es) = true :=
  evsToNodesAux_plain es [] [] rfl (by intro l hl; simp at hl)

theorem plain_induction {P : Node → Prop} {Q : List Node → Prop} (text : ∀ s, P (.text s))
    (elem : ∀ t b, Q b → P (.elem t b)) (nil : Q []) (cons : ∀ n ns, P n → Q ns → Q (n :: ns)) :
    (∀ n, plainN n = true → P n) ∧ ∀ ns, plainL ns = true → Q ns := by
  apply node_induction
  case text => exact fun s _ => text s
  case var => exact fun _ h => nomatch h
  case elem => exact fun t b ih h => elem t b (ih h)
  case cond => exact fun _ _ _ h => nomatch h
  case loop => exact fun _ _ _ _ h => nomatch h
  case defn => exact fun _ _ _ h => nomatch h
  case call => exact fun _ h => nomatch h
  case matchT => exact fun _ _ _ h => nomatch h
  case select => exact fun h => nomatch h
  case incl => exact fun _ _ _ _ _ _ h => nomatch h
  case inlined => exact fun _ _ h => nomatch h
  case nil => exact fun _ => nil
  case cons =>
    intro n ns ihn ihl h
    simp only [plainL, Bool.and_eq_true] at h
    exact cons n ns (ihn h.1) (ihl h.2)

theorem find_mem : ∀ {files : Files} {n : Name} {f : File}, files.find n = some f → ∃ d ∈ files, (n, f) ∈ d
  | [], _, _, h => by simp [Files.find] at h
  | d :: ds, n, f, h => by
    simp only [Files.find] at h
    cases hl : d.lookup n with
    | some g =>
      simp only [hl] at h
      cases h
      exact ⟨d, by simp, lookup_mem hl⟩
    | none =>
      simp only [hl] at h
      obtain ⟨d', hd', hm⟩ := find_mem h
      exact ⟨d', List.mem_cons_of_mem _ hd', hm⟩

/-- a check that runs over every file of the set (`inH`, `inHW`, `inHS`, `noMtFiles`) holds of a file found by name -/
theorem all_find {p : File → Bool} {files : Files} (h : (files.all fun d => d.all fun e => p e.2) = true) {n : Name}
    {f : File} (hf : files.find n = some f) : p f = true := by
  obtain ⟨d, hd, hm⟩ := find_mem hf
  simp only [List.all_eq_true] at h
  exact h d hd (n, f) hm

/-- conditions and hrefs read the context through `lookup` only -/
theorem evalCond_congr {s s' : St} (h : ∀ x, s.lookup x = s'.lookup x) (c : Cond) : evalCond s c = evalCond s' c := by
  cases c <;> simp [evalCond, h]

theorem evalParts_congr {s s' : St} (h : ∀ x, s.lookup x = s'.lookup x) (ps : List Part) :
    evalParts s ps = evalParts s' ps := by
  induction ps with
  | nil => rfl
  | cons p ps ih => cases p <;> simp [evalParts, h, ih]

theorem evalHref_congr {s s' : St} (h : ∀ x, s.lookup x = s'.lookup x) (hr : Href) : evalHref s hr = evalHref s' hr := by
  cases hr <;> simp [evalHref, evalParts_congr h]

/-- how the match windows of two runs over one stream are coupled: of the run-time run (`rR`) and the inline run
(`simL`), or the specification (`zspec_both`).  Either both runs are in the same markup pipeline with the same window,
which is the full one outside zones; or the stream does not depend on the window (`w`: `winfreeL` / `winfreeSL` of it,
e.g. a text template, or a fragment without matchable elements): then the run-time run may be in the included
template's own pipeline while the other run still is under the includer's window -/
def CoupS (z : Bool) (rR rS : Rng) (w : Bool) : Prop :=
  (rR = rS ∧ rR.nomt = false ∧ (z = false → rR = .full)) ∨ w = true

theorem CoupS.full {w : Bool} : CoupS false .full .full w := .inl ⟨rfl, rfl, fun _ => rfl⟩

theorem CoupS.mono {z z' : Bool} {rR rS : Rng} {w w' : Bool} (h : CoupS z rR rS w) (hz : z' = false → z = false)
    (hw : w = true → w' = true) : CoupS z' rR rS w' :=
  h.imp (fun ⟨he, hn, hf⟩ => ⟨he, hn, fun h' => hf (hz h')⟩) hw

theorem CoupS.head {z : Bool} {rR rS : Rng} {a b : Bool} (h : CoupS z rR rS (a && b)) : CoupS z rR rS a :=
  h.mono id fun h => (Bool.and_eq_true_iff.mp h).1

theorem CoupS.tail {z : Bool} {rR rS : Rng} {a b : Bool} (h : CoupS z rR rS (a && b)) : CoupS z rR rS b :=
  h.mono id fun h => (Bool.and_eq_true_iff.mp h).2

/-- a stream that does depend on the window: the runs are under the same one -/
theorem CoupS.same {z : Bool} {rR rS : Rng} {w : Bool} (h : CoupS z rR rS w) (hw : w = false) :
    rR = rS ∧ rR.nomt = false ∧ (z = false → rR = .full) :=
  h.resolve_right (by simp [hw])

theorem Rng.fresh_of_nomt {r : Rng} (h : r.nomt = false) : r.fresh = .full := by
  simp [Rng.fresh, Rng.full, h]

/-- a fallback runs under the windows afresh -/
theorem CoupS.fresh {z : Bool} {rR rS : Rng} {w w' : Bool} (h : CoupS z rR rS w) (hw : w = true → w' = true) :
    CoupS false rR.fresh rS.fresh w' := by
  rcases h with ⟨he, hn, _⟩ | h
  · subst he
    rw [Rng.fresh_of_nomt hn]; exact .full
  · exact .inr (hw h)

/-- content rendered in place of an include — the inlined target or fallback, what the specification puts there — runs
under the includer's window `rS` in one run, while the run-time run starts a window `r0` for it (the target's own
pipeline, the includer's afresh for a fallback).  Inside a zone that is sound only for content that does not depend on
the window; outside, `rS` is the full window, unless the include itself sat in window-free content. -/
theorem CoupS.inPlace {z : Bool} {rR rS r0 : Rng} {w w' : Bool} (h : CoupS z rR rS w) (h0 : rR.nomt = false → r0 = .full)
    (hz : z = true → w' = true) (hw : w = true → w' = true) : CoupS false r0 rS w' := by
  cases z with
  | true => exact .inr (hz rfl)
  | false =>
    rcases h with ⟨he, hn, hf⟩ | h
    · rw [h0 hn, ← he, hf rfl]; exact .full
    · exact .inr (hw h)

/-- a loaded template of class `cls` is entered in its own pipeline, in both runs -/
theorem CoupS.ofKind {z : Bool} {cls : Kind} {w : Bool} (ht : cls = .text → w = true) :
    CoupS z (.ofKind cls) (.ofKind cls) w := by
  cases cls with
  | markup => exact .inl ⟨rfl, rfl, fun _ => rfl⟩
  | text => exact .inr (ht rfl)

/-- induction over what a text template may contain (`textualN`) -/
theorem textual_induction {P : Node → Prop} {Q : List Node → Prop} (text : ∀ s, P (.text s)) (var : ∀ x, P (.var x))
    (cond : ∀ c b, Q b → P (.cond c b)) (loop : ∀ x xs b, Q b → P (.loop x xs b)) (defn : ∀ m b, Q b → P (.defn m b))
    (incl : ∀ h hf fb p, Q fb → P (.include h .text hf fb p)) (inlined : ∀ b, Q b → P (.inlined b))
    (nil : Q []) (cons : ∀ n ns, P n → Q ns → Q (n :: ns)) :
    (∀ n, textualN n = true → P n) ∧ ∀ ns, textualL ns = true → Q ns := by
  apply node_induction
  case text => exact fun s _ => text s
  case var => exact fun x _ => var x
  case elem => exact fun _ _ _ h => nomatch h
  case cond => exact fun c b ih h => cond c b (ih h)
  case loop => exact fun x xs b ih h => loop x xs b (ih h)
  case defn => exact fun m b ih h => defn m b (ih h)
  case call => exact fun _ h => nomatch h
  case matchT => exact fun _ _ _ h => nomatch h
  case select => exact fun h => nomatch h
  case incl =>
    intro h cls hf fb p ih ht
    simp only [textualN, Bool.and_eq_true, decide_eq_true_eq] at ht
    exact ht.1 ▸ incl h hf fb p (ih ht.2)
  case inlined => exact fun b ih h => inlined b (ih h)
  case nil => exact fun _ => nil
  case cons =>
    intro n ns ihn ihl h
    simp only [textualL, Bool.and_eq_true] at h
    exact cons n ns (ihn h.1) (ihl h.2)

/-- the file lookup shared by the loaders: a load fails in both modes alike — only a missing file gives the not-found
error — and leaves the cache alone, or the file is a template of the class asked for and loading it in inline mode is
preparing it -/
theorem load_cases (files : Files) (name : Name) (cls : Kind) (c : Cache) :
    (∃ e, loadRaw files name cls = .err e ∧ loadInl files name cls c = .err e ∧ loadInlC files name cls c = c ∧
      (e = .notFound → files.find name = none)) ∨
    ∃ body, files.find name = some ⟨cls, some body⟩ ∧ loadRaw files name cls = .ok body ∧
      loadInl files name cls c = prepT files (prepFuel files) [name] name c ∧
      loadInlC files name cls c = pcT files (prepFuel files) [name] name c := by
  simp only [loadRaw, loadInl, loadInlC]
  cases hfind : files.find name with
  | none => exact .inl ⟨_, rfl, rfl, rfl, fun _ => rfl⟩
  | some f =>
    obtain ⟨fk, fb⟩ := f
    by_cases hk : fk = cls
    · subst hk
      cases fb with
      | none => exact .inl ⟨.syntaxErr, by simp, by simp, by simp, fun h => nomatch h⟩
      | some b => exact .inr ⟨b, rfl, by simp, by simp, by simp⟩
    · exact .inl ⟨.unmodelled, by simp [hk], by simp [hk], by simp [hk], fun h => nomatch h⟩

theorem loadRaw_ok_find {files : Files} {name : Name} {cls : Kind} {body : List Node}
    (h : loadRaw files name cls = .ok body) : files.find name = some ⟨cls, some body⟩ := by
  rcases load_cases files name cls [] with ⟨_, hr, _⟩ | ⟨b, hf, hr, _⟩ <;> rw [hr] at h <;> cases h
  exact hf

theorem loadRaw_notFound_find {files : Files} {name : Name} {cls : Kind}
    (h : loadRaw files name cls = .err .notFound) : files.find name = none := by
  rcases load_cases files name cls [] with ⟨_, hr, _, _, hf⟩ | ⟨_, _, hr, _⟩ <;> rw [hr] at h <;> cases h
  exact hf rfl

theorem firstMatchFrom_none_notin {T : List Name} {rng : Rng} {tag : Name} (ht : tag ∉ T) :
    ∀ (ms : List (Name × List Node)) (i : Nat), (∀ p ∈ ms, p.1 ∈ T) → firstMatchFrom rng tag ms i = none
  | [], _, _ => rfl
  | (t, b) :: rest, i, h => by
    have hne : t ≠ tag := fun he => ht (he ▸ h (t, b) List.mem_cons_self)
    simp only [firstMatchFrom, hne, decide_false, Bool.and_false, Bool.false_eq_true, ↓reduceIte]
    exact firstMatchFrom_none_notin ht rest (i + 1) (fun p hp => h p (List.mem_cons_of_mem _ hp))

end Genshi.Incl
