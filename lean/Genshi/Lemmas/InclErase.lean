/-
  C11: the cost markers are only a fuel-accounting device.  Rendering the marker-free prepared
  streams (`Mode.inlineU`, what the code does) and rendering the marked ones (`Mode.inlineM`)
  reach the same results; the marked variant just needs more fuel.
-/
import Genshi.Lemmas.InclFuel
namespace Genshi.Incl

def eraseBodies (l : List (Name × List Node)) : List (Name × List Node) := l.map fun p => (p.1, eraseL p.2)

def eraseSt (st : St) : St := { st with macros := eraseBodies st.macros, mts := eraseBodies st.mts }

def mapE (r : R) : R := r.map fun p => (p.1, eraseSt p.2)

@[simp] theorem mapE_fuel : mapE .fuel = .fuel := rfl
@[simp] theorem mapE_err (e : Err) : mapE (.err e) = .err e := rfl
@[simp] theorem mapE_ok (o : List Ev) (s : St) : mapE (.ok (o, s)) = .ok (o, eraseSt s) := rfl

theorem eraseSt_lookup (st : St) (x : Name) : (eraseSt st).lookup x = st.lookup x := rfl

theorem eraseBodies_lookup (l : List (Name × List Node)) (m : Name) :
    (eraseBodies l).lookup m = (l.lookup m).map eraseL := by
  induction l with
  | nil => rfl
  | cons p l ih =>
    obtain ⟨k, b⟩ := p
    simp only [eraseBodies, List.map_cons, List.lookup] at ih ⊢
    cases (m == k) with
    | true => rfl
    | false => exact ih

theorem firstMatchFrom_erase (rng : Rng) (tag : Name) (l : List (Name × List Node)) (i : Nat) :
    firstMatchFrom rng tag (eraseBodies l) i = (firstMatchFrom rng tag l i).map fun p => (p.1, eraseL p.2) := by
  induction l generalizing i with
  | nil => rfl
  | cons p l ih =>
    obtain ⟨k, b⟩ := p
    simp only [eraseBodies, List.map_cons, firstMatchFrom] at ih ⊢
    cases (rng.contains i && decide (k = tag)) with
    | true => rfl
    | false => exact ih (i + 1)

theorem loadT_erase (files : Files) (name : Name) (cls : Kind) (st : St) :
    loadT .inlineU files name cls (eraseSt st) =
      (loadT .inlineM files name cls st).map fun r => (eraseL r.1, eraseSt r.2) := by
  simp only [loadT]
  show (loadInl files name cls st.cache).map _ = _
  cases loadInl files name cls st.cache <;> rfl

theorem eraseL_cons (n : Node) (ns : List Node) : eraseL (n :: ns) = eraseN n ++ eraseL ns := rfl

theorem erase_plain : (∀ n, plainN n = true → eraseN n = [n]) ∧ ∀ ns, plainL ns = true → eraseL ns = ns :=
  plain_induction (fun _ => rfl) (fun t _ ih => by simp only [eraseN]; rw [ih]) rfl
    (fun n ns ihn ihl => by rw [eraseL_cons, ihn, ihl]; rfl)

theorem eraseN_plain : ∀ (n : Node), plainN n = true → eraseN n = [n] := erase_plain.1

theorem eraseL_evsToNodes (c : List Ev) : eraseL (evsToNodes c) = evsToNodes c :=
  erase_plain.2 _ (evsToNodes_plain c)

/-- What the two directions of marker erasure have in common: a relation between a marker-free outcome `x` and the
marked outcomes `F g`, one for every fuel `g`, that holds of a step that enters no stream (`pure`) and of steps in
sequence (`bind`).  It then holds of rendering the erasure of a prepared stream against rendering the stream
(`render_erase`). -/
structure EraseRel (Rel : R → (Nat → R) → Prop) : Prop where
  pure : ∀ {x y : R}, mapE y = x → Rel x fun _ => y
  bind : ∀ {x : R} {F : Nat → R} {k' : List Ev × St → R} {K : Nat → List Ev × St → R}, Rel x F →
    (∀ o s, Rel (k' (o, eraseSt s)) fun g => K g (o, s)) → Rel (x.bind k') fun g => (F g).bind (K g)

theorem EraseRel.loopItems {Rel : R → (Nat → R) → Prop} (hR : EraseRel Rel) {k' : St → R} {K : Nat → St → R} (x : Name)
    (hk : ∀ s, Rel (k' (eraseSt s)) fun g => K g s) :
    ∀ (vs : List Value) (s : St), Rel (loopItems k' x vs (eraseSt s)) fun g => loopItems (K g) x vs s
  | [], _ => hR.pure rfl
  | v :: vs, s =>
    hR.bind (hk { s with frames := (x, v) :: s.frames }) fun _ s1 =>
      hR.bind (hR.loopItems x hk vs { s1 with frames := s1.frames.tail }) fun _ _ => hR.pure rfl

/-- `J g`: entering a stream in the marked run with fuel `g`, `J'`: in the marker-free run.  `hI` is the `inlined` marker:
the marked run enters the body through `J`, the marker-free run renders it in place. -/
theorem render_erase {Rel : R → (Nat → R) → Prop} (hR : EraseRel Rel) (files : Files) {J' : RJ} {J : Nat → RJ}
    (hJ : ∀ rng p st, Rel (J' rng (eraseL p) (eraseSt st)) fun g => J g rng p st)
    (hI : ∀ rng p st,
      Rel (renderL .inlineU files J' rng (eraseL p) (eraseSt st)) (fun g => renderL .inlineM files (J g) rng p st) →
      Rel (renderL .inlineU files J' rng (eraseL p) (eraseSt st)) fun g => J g rng p st) :
    (∀ (n : Node) (rng : Rng) (st : St),
      Rel (renderL .inlineU files J' rng (eraseN n) (eraseSt st)) fun g => renderN .inlineM files (J g) rng n st) ∧
    ∀ (ns : List Node) (rng : Rng) (st : St),
      Rel (renderL .inlineU files J' rng (eraseL ns) (eraseSt st)) fun g => renderL .inlineM files (J g) rng ns st := by
  apply node_induction
  case text =>
    intro s rng st
    simp only [eraseN, renderL_singleton]; exact hR.pure rfl
  case var =>
    intro x rng st
    simp only [eraseN, renderL_singleton, renderN_var, eraseSt_lookup]
    cases st.lookup x with
    | none => exact hR.pure rfl
    | some v =>
      dsimp only
      cases v.text? <;> exact hR.pure rfl
  case elem =>
    intro tag body ih rng st
    simp only [eraseN, renderL_singleton, renderN_elem]
    have hfm : firstMatch (eraseSt st).mts rng tag = (firstMatch st.mts rng tag).map fun p => (p.1, eraseL p.2) :=
      firstMatchFrom_erase rng tag st.mts 0
    rw [hfm]
    cases firstMatch st.mts rng tag with
    | none => exact hR.bind (ih rng st) fun _ _ => hR.pure rfl
    | some p =>
      exact hR.bind (ih _ st) fun o s => hR.bind (hJ _ p.2 { s with sel := o :: s.sel }) fun _ _ => hR.pure rfl
  case cond =>
    intro c body ih rng st
    simp only [eraseN, renderL_singleton, renderN_cond, evalCond_congr (eraseSt_lookup st)]
    cases evalCond st c with
    | fuel => exact hR.pure rfl
    | err e => exact hR.pure rfl
    | ok b =>
      cases b with
      | true => exact ih rng st
      | false => exact hR.pure rfl
  case loop =>
    intro x xs body ih rng st
    simp only [eraseN, renderL_singleton, renderN_loop, eraseSt_lookup]
    cases st.lookup xs with
    | none => exact hR.pure rfl
    | some v => exact hR.loopItems x (fun s => ih rng s) _ st
  case defn =>
    intro m body ih rng st
    simp only [eraseN, renderL_singleton]; exact hR.pure rfl
  case call =>
    intro m rng st
    simp only [eraseN, renderL_singleton, renderN_call, eraseSt_lookup]
    have hl : (eraseSt st).macros.lookup m = (st.macros.lookup m).map eraseL := eraseBodies_lookup st.macros m
    rw [hl]
    cases st.macros.lookup m with
    | some body => exact hJ rng body st
    | none => cases st.lookup m <;> exact hR.pure rfl
  case matchT =>
    intro tag body ih rng st
    simp only [eraseN, renderL_singleton, renderN_matchT]
    exact hR.pure (by simp [mapE, eraseSt, eraseBodies])
  case select =>
    intro rng st
    simp only [eraseN, renderL_singleton, renderN_select]
    show Rel (match st.sel with | [] => .err .undefined | c :: _ => J' rng (evsToNodes c) (eraseSt st))
      (fun g => match st.sel with | [] => .err .undefined | c :: _ => J g rng (evsToNodes c) st)
    cases st.sel with
    | nil => exact hR.pure rfl
    | cons c _ =>
      have := hJ rng (evsToNodes c) st
      rw [eraseL_evsToNodes] at this
      exact this
  case incl =>
    intro href cls hasFb fb pos ih rng st
    simp only [eraseN, renderL_singleton, renderN_include, evalHref_congr (eraseSt_lookup st)]
    cases evalHref st href with
    | fuel => exact hR.pure rfl
    | err e => exact hR.pure rfl
    | ok h =>
      simp only [Res.bind_ok]
      cases resolve pos h with
      | none => exact hR.pure rfl
      | some name =>
        simp only [loadT_erase]
        cases loadT .inlineM files name cls st with
        | fuel => exact hR.pure rfl
        | ok p => exact hJ _ p.1 p.2
        | err e =>
          cases e with
          | notFound =>
            cases hasFb with
            | true => exact ih rng.fresh st
            | false => exact hR.pure rfl
          | syntaxErr | undefined | unmodelled => exact hR.pure rfl
  case inlined =>
    intro body ih rng st
    simp only [eraseN, renderN_inlined]
    exact hI rng body st (ih rng st)
  case nil =>
    intro rng st
    exact hR.pure rfl
  case cons =>
    intro n ns ihn ihl rng st
    rw [eraseL_cons, renderL_append]
    simp only [renderL_cons]
    exact hR.bind (ihn rng st) fun _ s1 => hR.bind (ihl rng s1) fun _ _ => hR.pure rfl

theorem Le.bindE {x : R} {y : R} {k k' : List Ev × St → R} (hx : Le (mapE x) y)
    (hk : ∀ o s, Le (mapE (k (o, s))) (k' (o, eraseSt s))) : Le (mapE (x.bind k)) (y.bind k') := by
  cases x with
  | fuel => exact .inl rfl
  | err e =>
    rcases hx with h | h
    · simp at h
    · simp only [mapE_err] at h; subst h; exact .inr rfl
  | ok r =>
    obtain ⟨o, s⟩ := r
    rcases hx with h | h
    · simp at h
    · simp only [mapE_ok] at h; subst h; exact hk o s

/-- first direction: every marked outcome, erased, is out of fuel or is the marker-free outcome -/
theorem eraseRel_le : EraseRel fun x F => ∀ g, Le (mapE (F g)) x :=
  ⟨fun h _ => .inr h, fun hx hk g => Le.bindE (hx g) fun o s => hk o s g⟩

theorem eraseN_le (files : Files) {J J' : RJ}
    (hJ : ∀ rng p st, Le (mapE (J rng p st)) (J' rng (eraseL p) (eraseSt st)))
    (hJ2 : ∀ rng p st, Le (mapE (J rng p st)) (renderL .inlineU files J' rng (eraseL p) (eraseSt st))) :
    ∀ (n : Node) (rng : Rng) (st : St),
    Le (mapE (renderN .inlineM files J rng n st)) (renderL .inlineU files J' rng (eraseN n) (eraseSt st)) :=
  fun n rng st => (render_erase eraseRel_le files (J := fun _ => J) (fun rng p st _ => hJ rng p st)
    fun rng p st _ _ => hJ2 rng p st).1 n rng st 0

/-- marked rendering at fuel `f` is refined by marker-free rendering at the same fuel -/
theorem erase_down (files : Files) : ∀ (f : Nat) (rng : Rng) (p : List Node) (st : St),
    Le (mapE (render .inlineM files f rng p st)) (render .inlineU files f rng (eraseL p) (eraseSt st))
  | 0, _, _, _ => .inl rfl
  | f + 1, rng, p, st =>
    (render_erase eraseRel_le files (J := fun _ => render .inlineM files f) (fun rng p st _ => erase_down files f rng p st)
      -- under a marker the marked run enters the body at fuel `f`; the marker-free run renders it in place, at `f + 1`
      fun rng p st _ _ =>
        (erase_down files f rng p st).trans (render_le .inlineU files (Nat.le_succ f) rng (eraseL p) (eraseSt st))).2
      p rng st 0

/-- the marker-free result `x` is out of fuel, or the marked computation `F` (indexed by fuel) is
eventually constant with a result whose erasure is `x` -/
def Up (x : R) (F : Nat → R) : Prop :=
  x = .fuel ∨ ∃ g0 y, (∀ g, g0 ≤ g → F g = y) ∧ mapE y = x

theorem Up.const {x y : R} (h : mapE y = x) : Up x (fun _ => y) := .inr ⟨0, y, fun _ _ => rfl, h⟩

theorem Up.shift {x : R} {F F' : Nat → R} (hF : ∀ g, F' (g + 1) = F g) (h : Up x F) : Up x F' := by
  rcases h with h | ⟨g0, y, hy, hm⟩
  · exact .inl h
  · refine .inr ⟨g0 + 1, y, fun g hg => ?_, hm⟩
    match g, hg with
    | g' + 1, hg => rw [hF]; exact hy g' (Nat.le_of_succ_le_succ hg)

theorem Up.bind {x : R} {F : Nat → R} {k' : List Ev × St → R} {K : Nat → List Ev × St → R}
    (hx : Up x F) (hk : ∀ o s, Up (k' (o, eraseSt s)) (fun g => K g (o, s))) :
    Up (x.bind k') (fun g => (F g).bind (K g)) := by
  rcases hx with h | ⟨g0, y, hy, hm⟩
  · subst h; exact .inl rfl
  · cases y with
    | fuel => simp at hm; subst hm; exact .inl rfl
    | err e =>
      simp only [mapE_err] at hm; subst hm
      exact .inr ⟨g0, .err e, fun g hg => by show (F g).bind (K g) = _; rw [hy g hg]; rfl, rfl⟩
    | ok r =>
      obtain ⟨o, s⟩ := r
      simp only [mapE_ok] at hm; subst hm
      rcases hk o s with h | ⟨g1, z, hz, hmz⟩
      · exact .inl h
      · refine .inr ⟨max g0 g1, z, fun g hg => ?_, hmz⟩
        show (F g).bind (K g) = z
        rw [hy g (Nat.le_trans (Nat.le_max_left _ _) hg)]
        exact hz g (Nat.le_trans (Nat.le_max_right _ _) hg)

theorem eraseRel_up : EraseRel Up := ⟨Up.const, Up.bind⟩

theorem eraseN_up (files : Files) {J' : RJ}
    (hJ : ∀ rng p st, Up (J' rng (eraseL p) (eraseSt st)) (fun g => render .inlineM files g rng p st)) :
    ∀ (n : Node) (rng : Rng) (st : St),
      Up (renderL .inlineU files J' rng (eraseN n) (eraseSt st))
        (fun g => renderN .inlineM files (render .inlineM files g) rng n st) :=
  (render_erase eraseRel_up files hJ fun rng p st => Up.shift fun g => render_succ .inlineM files g rng p st).1

theorem eraseL_up (files : Files) {J' : RJ}
    (hJ : ∀ rng p st, Up (J' rng (eraseL p) (eraseSt st)) (fun g => render .inlineM files g rng p st)) :
    ∀ (ns : List Node) (rng : Rng) (st : St),
      Up (renderL .inlineU files J' rng (eraseL ns) (eraseSt st))
        (fun g => renderL .inlineM files (render .inlineM files g) rng ns st) :=
  (render_erase eraseRel_up files hJ fun rng p st => Up.shift fun g => render_succ .inlineM files g rng p st).2

/-- marker-free rendering at fuel `f` either runs out of fuel or the marked rendering reaches the
same result (up to erasure of the final context) with enough fuel -/
theorem erase_up (files : Files) : ∀ (f : Nat) (rng : Rng) (p : List Node) (st : St),
    Up (render .inlineU files f rng (eraseL p) (eraseSt st)) (fun g => render .inlineM files g rng p st)
  | 0, _, _, _ => .inl rfl
  | f + 1, rng, p, st =>
    Up.shift (fun g => render_succ .inlineM files g rng p st) (eraseL_up files (erase_up files f) p rng st)

end Genshi.Incl
