/-
  C11: what more fuel does to a rendering — to its outcome and to the loads it performs (`logN/logL/logR`) at once.
  A run either hits the limit, having performed a first part of the loads, or outcome and loads are those of any
  larger fuel (`FuelLe`, `fuelLe_both`, `render_fuelLe`).  Fuel monotonicity of the outcome (`Le`), equality of the
  loads of a run that does not hit the limit (`LRel`) and the prefix property (`Pre`) are its three projections.
-/
import Genshi.Lemmas.InclBase
namespace Genshi.Incl

/-- `x'` refines `x`: `x` ran out of fuel or they agree -/
def Le {α : Type} (x x' : Res α) : Prop := x = .fuel ∨ x = x'

theorem Le.refl {α : Type} (x : Res α) : Le x x := .inr rfl

theorem Le.trans {α : Type} {x y z : Res α} (h1 : Le x y) (h2 : Le y z) : Le x z := by
  rcases h1 with h | h
  · exact .inl h
  · subst h; exact h2

theorem Le.eq_of_ne {α : Type} {x x' : Res α} (h : Le x x') (hx : x ≠ .fuel) : x = x' := by
  rcases h with h | h
  · exact absurd h hx
  · exact h

theorem Le.bind {α β : Type} {x x' : Res α} {k k' : α → Res β} (hx : Le x x') (hk : ∀ a, Le (k a) (k' a)) :
    Le (x.bind k) (x'.bind k') := by
  rcases hx with h | h
  · subst h; exact .inl rfl
  · subst h
    cases x with
    | fuel => exact .inl rfl
    | err e => exact .inr rfl
    | ok a => exact hk a

def JLe (J J' : RJ) : Prop := ∀ rng ns st, Le (J rng ns st) (J' rng ns st)

/-- the loads `l` are a first part of the loads `l'` -/
def Pre (l l' : List Load) : Prop := ∃ t, l' = l ++ t

theorem Pre.refl (l : List Load) : Pre l l := ⟨[], by simp⟩
theorem Pre.nil (l : List Load) : Pre [] l := ⟨l, rfl⟩
theorem Pre.cons (a : Load) {l l' : List Load} (h : Pre l l') : Pre (a :: l) (a :: l') := by
  obtain ⟨t, ht⟩ := h; exact ⟨t, by rw [ht]; rfl⟩
theorem Pre.of_eq {l l' : List Load} (h : l = l') : Pre l l' := h ▸ Pre.refl l

def LRel (J : RJ) (L L' : LJ) : Prop :=
  ∀ rng ns st, J rng ns st ≠ .fuel → L rng ns st = L' rng ns st

def LPre (L L' : LJ) : Prop := ∀ rng ns st, Pre (L rng ns st) (L' rng ns st)

/-- the loads after a step with outcome `x`: those of what follows (`B`), if the step succeeded -/
def thenLog (x : R) (B : List Ev × St → List Load) : List Load :=
  match x with
  | .ok r => B r
  | _ => []

section unfoldLog
variable (m : Mode) (files : Files) (J : RJ) (L : LJ) (rng : Rng) (st : St)
theorem logL_nil : logL m files J L rng [] st = [] := rfl
theorem logL_cons (n : Node) (ns : List Node) :
    logL m files J L rng (n :: ns) st =
      logN m files J L rng n st ++ thenLog (renderN m files J rng n st) fun r => logL m files J L rng ns r.2 := rfl
theorem logN_elem (tag : Name) (body : List Node) :
    logN m files J L rng (.elem tag body) st =
      (match firstMatch st.mts rng tag with
       | none => logL m files J L rng body st
       | some (idx, mb) =>
         logL m files J L ⟨rng.lo, some (idx + 1), false⟩ body st ++
           thenLog (renderL m files J ⟨rng.lo, some (idx + 1), false⟩ body st) fun r =>
             L ⟨idx + 1, rng.hi, false⟩ mb { r.2 with sel := r.1 :: r.2.sel }) := rfl
theorem logN_cond (c : Cond) (body : List Node) :
    logN m files J L rng (.cond c body) st =
      (match evalCond st c with
       | .ok true => logL m files J L rng body st
       | _ => []) := rfl
theorem logN_loop (x xs : Name) (body : List Node) :
    logN m files J L rng (.loop x xs body) st =
      (match st.lookup xs with
       | none => []
       | some v => logItems (fun st' => renderL m files J rng body st') (fun st' => logL m files J L rng body st') x v.items st) := rfl
theorem logN_call (mn : Name) :
    logN m files J L rng (.call mn) st =
      (match st.macros.lookup mn with
       | some body => L rng body st
       | none => []) := rfl
theorem logN_select :
    logN m files J L rng .select st =
      (match st.sel with
       | [] => []
       | c :: _ => L rng (evsToNodes c) st) := rfl
theorem logN_include (href : Href) (cls : Kind) (hasFb : Bool) (fb : List Node) (pos : Name) :
    logN m files J L rng (.include href cls hasFb fb pos) st =
      (match evalHref st href with
       | .ok h =>
         (match resolve pos h with
          | none => []
          | some name =>
            match loadT m files name cls st with
            | .ok (body, st1) => (name, cls) :: L (.ofKind cls) body st1
            | .err .notFound => if hasFb then logL m files J L rng.fresh fb st else []
            | _ => [(name, cls)])
       | _ => []) := rfl
theorem logN_inlined (body : List Node) : logN m files J L rng (.inlined body) st = L rng body st := rfl
theorem logItems_cons (k : St → R) (lk : St → List Load) (x : Name) (v : Value) (vs : List Value) :
    logItems k lk x (v :: vs) st =
      lk { st with frames := (x, v) :: st.frames } ++
        thenLog (k { st with frames := (x, v) :: st.frames }) fun r1 =>
          logItems k lk x vs { r1.2 with frames := r1.2.frames.tail } := rfl
end unfoldLog

/-- A run with outcome `x` and loads `l` against the same run with more fuel (`x'`, `l'`): either it ran out of fuel,
having performed a first part of the loads, or outcome and loads are the same.  The prefix clause is under a switch `p`,
so that the one traversal `fuelLe_both` serves twice: at `p := False` it asks nothing about the loads of a called
renderer that ran out of fuel (`logN_eq`, `logL_eq`), at `p := True` it carries the prefixes along (`render_fuelLe`). -/
def FuelLe (p : Prop) (x : R) (l : List Load) (x' : R) (l' : List Load) : Prop :=
  (x = .fuel ∧ (p → Pre l l')) ∨ (x = x' ∧ l = l')

namespace FuelLe
variable {p : Prop} {x x' : R} {l l' : List Load}

theorem refl (x : R) (l : List Load) : FuelLe p x l x l := .inr ⟨rfl, rfl⟩

theorem of (hx : Le x x') (he : x ≠ .fuel → l = l') (hp : p → Pre l l') : FuelLe p x l x' l' := by
  rcases hx with h | h
  · exact .inl ⟨h, hp⟩
  · by_cases hf : x = .fuel
    · exact .inl ⟨hf, hp⟩
    · exact .inr ⟨h, he hf⟩

theorem le (h : FuelLe p x l x' l') : Le x x' := h.elim (fun h => .inl h.1) (fun h => .inr h.1)

theorem eq (h : FuelLe p x l x' l') (hx : x ≠ .fuel) : l = l' := h.elim (fun h => absurd h.1 hx) (·.2)

theorem pre (h : FuelLe p x l x' l') (hp : p) : Pre l l' := h.elim (fun h => h.2 hp) (fun h => .of_eq h.2)

theorem cons (a : Load) (h : FuelLe p x l x' l') : FuelLe p x (a :: l) x' (a :: l') :=
  h.elim (fun h => .inl ⟨h.1, fun hp => (h.2 hp).cons a⟩) (fun h => .inr ⟨h.1, by rw [h.2]⟩)

/-- a step followed by something that loads nothing -/
theorem map (h : FuelLe p x l x' l') (k : List Ev × St → R) : FuelLe p (x.bind k) l (x'.bind k) l' := by
  rcases h with ⟨rfl, hp⟩ | ⟨rfl, rfl⟩
  · exact .inl ⟨rfl, hp⟩
  · exact refl _ _

/-- two steps in sequence.  If the first hits the limit nothing follows it, and with more fuel its loads only get
longer; otherwise it is the same step, and the second decides. -/
theorem bind {k k' : List Ev × St → R} {B B' : List Ev × St → List Load} (h : FuelLe p x l x' l')
    (hk : ∀ r, FuelLe p (k r) (B r) (k' r) (B' r)) :
    FuelLe p (x.bind k) (l ++ thenLog x B) (x'.bind k') (l' ++ thenLog x' B') := by
  rcases h with ⟨rfl, hp⟩ | ⟨rfl, rfl⟩
  · refine .inl ⟨rfl, fun h => ?_⟩
    obtain ⟨t, ht⟩ := hp h
    exact ⟨t ++ thenLog x' B', by rw [ht]; simp [thenLog]⟩
  · cases x with
    | fuel => exact refl _ _
    | err e => exact refl _ _
    | ok r =>
      rcases hk r with ⟨hf, hp⟩ | ⟨he, hl⟩
      · refine .inl ⟨hf, fun h => ?_⟩
        obtain ⟨t, ht⟩ := hp h
        exact ⟨t, by simp only [thenLog]; rw [ht, List.append_assoc]⟩
      · exact .inr ⟨he, by simp only [thenLog]; rw [hl]⟩

end FuelLe

theorem loopItems_fuelLe {p : Prop} {k k' : St → R} {lk lk' : St → List Load} (x : Name)
    (hk : ∀ s, FuelLe p (k s) (lk s) (k' s) (lk' s)) :
    ∀ (vs : List Value) (s : St),
      FuelLe p (loopItems k x vs s) (logItems k lk x vs s) (loopItems k' x vs s) (logItems k' lk' x vs s)
  | [], _ => .refl _ _
  | v :: vs, s => by
    simp only [loopItems, logItems_cons]
    exact (hk _).bind fun r1 => (loopItems_fuelLe x hk vs _).map _

def JFuelLe (p : Prop) (J : RJ) (L : LJ) (J' : RJ) (L' : LJ) : Prop :=
  ∀ rng ns st, FuelLe p (J rng ns st) (L rng ns st) (J' rng ns st) (L' rng ns st)

theorem fuelLe_both {p : Prop} (m : Mode) (files : Files) {J J' : RJ} {L L' : LJ} (hJ : JFuelLe p J L J' L') :
    (∀ (n : Node) (rng : Rng) (st : St),
      FuelLe p (renderN m files J rng n st) (logN m files J L rng n st)
        (renderN m files J' rng n st) (logN m files J' L' rng n st)) ∧
    ∀ (ns : List Node) (rng : Rng) (st : St),
      FuelLe p (renderL m files J rng ns st) (logL m files J L rng ns st)
        (renderL m files J' rng ns st) (logL m files J' L' rng ns st) := by
  apply node_induction
  case text => exact fun _ _ _ => .refl _ _
  case var => exact fun _ _ _ => .refl _ _
  case elem =>
    intro tag body ih rng st
    rw [renderN_elem, renderN_elem, logN_elem, logN_elem]
    cases firstMatch st.mts rng tag with
    | none => exact (ih rng st).map _
    | some p => exact (ih _ st).bind fun r => (hJ _ _ _).map _
  case cond =>
    intro c body ih rng st
    rw [renderN_cond, renderN_cond, logN_cond, logN_cond]
    cases evalCond st c with
    | fuel => exact .refl _ _
    | err e => exact .refl _ _
    | ok b =>
      cases b with
      | true => exact ih rng st
      | false => exact .refl _ _
  case loop =>
    intro x xs body ih rng st
    rw [renderN_loop, renderN_loop, logN_loop, logN_loop]
    cases st.lookup xs with
    | none => exact .refl _ _
    | some v => exact loopItems_fuelLe x (fun s => ih rng s) _ st
  case defn => exact fun _ _ _ _ _ => .refl _ _
  case call =>
    intro mn rng st
    rw [renderN_call, renderN_call, logN_call, logN_call]
    cases st.macros.lookup mn with
    | some body => exact hJ _ _ _
    | none => exact .refl _ _
  case matchT => exact fun _ _ _ _ _ => .refl _ _
  case select =>
    intro rng st
    rw [renderN_select, renderN_select, logN_select, logN_select]
    cases st.sel with
    | nil => exact .refl _ _
    | cons c _ => exact hJ _ _ _
  case incl =>
    intro href cls hasFb fb pos ih rng st
    rw [renderN_include, renderN_include, logN_include, logN_include]
    cases evalHref st href with
    | fuel => exact .refl _ _
    | err e => exact .refl _ _
    | ok h =>
      simp only [Res.bind_ok]
      cases resolve pos h with
      | none => exact .refl _ _
      | some name =>
        simp only
        cases loadT m files name cls st with
        | fuel => exact .refl _ _
        | ok q => exact (hJ _ _ _).cons _
        | err e =>
          cases e with
          | notFound =>
            cases hasFb with
            | true => exact ih rng.fresh st
            | false => exact .refl _ _
          | syntaxErr | undefined | unmodelled => exact .refl _ _
  case inlined =>
    intro body _ rng st
    rw [renderN_inlined, renderN_inlined, logN_inlined, logN_inlined]
    exact hJ _ _ _
  case nil => exact fun _ _ => .refl _ _
  case cons =>
    intro n ns ihn ihl rng st
    rw [renderL_cons, renderL_cons, logL_cons, logL_cons]
    exact (ihn rng st).bind fun r1 => (ihl rng r1.2).map _

theorem render_fuelLe (m : Mode) (files : Files) : ∀ {f g : Nat}, f ≤ g →
    JFuelLe True (render m files f) (logR m files f) (render m files g) (logR m files g)
  | 0, _, _ => fun _ _ _ => .inl ⟨rfl, fun _ => Pre.nil _⟩
  | _ + 1, 0, h => absurd h (Nat.not_succ_le_zero _)
  | _ + 1, _ + 1, h => fun rng ns st =>
    (fuelLe_both m files (render_fuelLe m files (Nat.le_of_succ_le_succ h))).2 ns rng st

/-- the form in which requests use it: a template's stream entered at fuel `f` against `g ≥ f` -/
theorem renderL_fuelLe (m : Mode) (files : Files) {f g : Nat} (h : f ≤ g) (ns : List Node) (rng : Rng) (st : St) :
    FuelLe True (renderL m files (render m files f) rng ns st) (logL m files (render m files f) (logR m files f) rng ns st)
      (renderL m files (render m files g) rng ns st) (logL m files (render m files g) (logR m files g) rng ns st) :=
  (fuelLe_both m files (render_fuelLe m files h)).2 ns rng st

/-- from the three relations the statements about `logN` / `logL` assume of the streams entered -/
theorem JFuelLe.of {p : Prop} {J J' : RJ} {L L' : LJ} (hJ : JLe J J') (hL : LRel J L L') (hP : p → LPre L L') :
    JFuelLe p J L J' L' :=
  fun rng ns st => .of (hJ rng ns st) (hL rng ns st) fun hp => hP hp rng ns st

theorem JLe.fuelLe {J J' : RJ} (hJ : JLe J J') : JFuelLe True J (fun _ _ _ => []) J' (fun _ _ _ => []) :=
  .of hJ (fun _ _ _ _ => rfl) fun _ _ _ _ => Pre.refl _

theorem renderN_le (inl : Mode) (files : Files) {J J' : RJ} (hJ : JLe J J') :
    ∀ (n : Node) (rng : Rng) (st : St), Le (renderN inl files J rng n st) (renderN inl files J' rng n st) :=
  fun n rng st => ((fuelLe_both inl files hJ.fuelLe).1 n rng st).le

theorem renderL_le (inl : Mode) (files : Files) {J J' : RJ} (hJ : JLe J J') :
    ∀ (ns : List Node) (rng : Rng) (st : St), Le (renderL inl files J rng ns st) (renderL inl files J' rng ns st) :=
  fun ns rng st => ((fuelLe_both inl files hJ.fuelLe).2 ns rng st).le

theorem render_le (inl : Mode) (files : Files) {f g : Nat} (h : f ≤ g) : JLe (render inl files f) (render inl files g) :=
  fun rng ns st => (render_fuelLe inl files h rng ns st).le

theorem logN_eq (m : Mode) (files : Files) {J J' : RJ} {L L' : LJ} (hJ : JLe J J') (hL : LRel J L L') :
    ∀ (n : Node) (rng : Rng) (st : St), renderN m files J rng n st ≠ .fuel →
      logN m files J L rng n st = logN m files J' L' rng n st :=
  fun n rng st =>
    ((fuelLe_both m files (.of hJ hL False.elim)).1 n rng st).eq

theorem logL_eq (m : Mode) (files : Files) {J J' : RJ} {L L' : LJ} (hJ : JLe J J') (hL : LRel J L L') :
    ∀ (ns : List Node) (rng : Rng) (st : St), renderL m files J rng ns st ≠ .fuel →
      logL m files J L rng ns st = logL m files J' L' rng ns st :=
  fun ns rng st =>
    ((fuelLe_both m files (.of hJ hL False.elim)).2 ns rng st).eq

theorem logR_eq (m : Mode) (files : Files) : ∀ {f g : Nat}, f ≤ g → LRel (render m files f) (logR m files f) (logR m files g) :=
  fun h rng ns st => (render_fuelLe m files h rng ns st).eq

theorem logN_pre (m : Mode) (files : Files) {J J' : RJ} {L L' : LJ} (hJ : JLe J J') (hL : LRel J L L') (hP : LPre L L') :
    ∀ (n : Node) (rng : Rng) (st : St), Pre (logN m files J L rng n st) (logN m files J' L' rng n st) :=
  fun n rng st =>
    ((fuelLe_both m files (.of hJ hL fun _ => hP)).1 n rng st).pre trivial

theorem logL_pre (m : Mode) (files : Files) {J J' : RJ} {L L' : LJ} (hJ : JLe J J') (hL : LRel J L L') (hP : LPre L L') :
    ∀ (ns : List Node) (rng : Rng) (st : St), Pre (logL m files J L rng ns st) (logL m files J' L' rng ns st) :=
  fun ns rng st =>
    ((fuelLe_both m files (.of hJ hL fun _ => hP)).2 ns rng st).pre trivial

theorem logR_pre (m : Mode) (files : Files) : ∀ {f g : Nat}, f ≤ g → LPre (logR m files f) (logR m files g) :=
  fun h rng ns st => (render_fuelLe m files h rng ns st).pre trivial

end Genshi.Incl
