/-
  C11: the loader's cache of prepared templates across preparations and loads, for any file set.  Where a preparation
  succeeds `pcN/pcL/pcT` return its cache (`pcT_agree`), so the cache after a load is `loadInlC` in every case, and what
  every load respects (`LoadStep`) holds across replayed loads and failed requests.  What every step of a preparation
  does to the cache — a preparation (successful or failed part-way), a load — for any relation between the cache before
  and after that is reflexive, transitive and holds when a template of the file set is added (`CacheRel`).  First
  instance: the cache only grows (`Sub`).  Second: the prepared templates in it are files of the set (`In`), so a family
  of caches that grows with the fuel is eventually constant.
-/
import Genshi.Lemmas.InclPrepCases
namespace Genshi.Incl

def PCAgree (J : PJ) (JC : PCJ) : Prop :=
  ∀ inl name c r, J inl name c = .ok r → JC inl name c = r.2

/-- what holds of the cache a successful preparation returns still holds when the prepared body is put back under its
node -/
theorem ok_wrap {x : Res (List Node × Cache)} {P : Cache → Prop} (g : List Node → List Node)
    (hx : ∀ r, x = .ok r → P r.2) : ∀ r, (x.bind fun r => .ok (g r.1, r.2)) = .ok r → P r.2 := by
  cases x with
  | fuel => exact fun _ h => nomatch h
  | err e => exact fun _ h => nomatch h
  | ok r0 => intro r h; cases h; exact hx r0 rfl

theorem prep_agree (files : Files) {J : PJ} {JC : PCJ} (hJ : PCAgree J JC) (inl : List Name) :
    (∀ (n : Node) (c : Cache) (r : List Node × Cache), prepN files J inl n c = .ok r → pcN files J JC inl n c = r.2) ∧
    ∀ (ns : List Node) (c : Cache) (r : List Node × Cache), prepL files J inl ns c = .ok r → pcL files J JC inl ns c = r.2 := by
  apply prep_induction
  case leaf =>
    intro n hn c r h
    rw [prepN_leaf _ _ _ _ hn] at h
    cases h
    exact pcN_leaf _ _ _ _ _ hn
  case wrap =>
    intro mk b hw ih c
    rw [prepN_wrap _ _ _ _ hw, pcN_wrap _ _ _ _ _ hw]
    exact ok_wrap (fun b' => [mk b']) (ih c)
  case static =>
    intro hh cls hasFb fb pos ih c
    refine static_cases (motive := fun x cf => ∀ r, x = .ok r → cf = r.2) files J JC inl hh cls hasFb fb pos c ?err ?fallback ?keep ?inline
    case err => exact fun _ _ _ h => nomatch h
    case fallback => exact fun _ _ _ _ => ih c
    case keep => exact fun _ _ _ => ok_wrap (fun b' => [.include (.static hh) cls hasFb b' pos]) (ih c)
    case inline => exact fun _ _ _ _ _ => ok_wrap (fun b' => [.inlined b']) (hJ _ _ _)
  case nil =>
    intro c r h
    cases h; rfl
  case cons =>
    intro n ns ihn ihl c
    rw [prepL_cons, pcL_cons]
    cases prepN files J inl n c with
    | fuel => exact fun _ h => nomatch h
    | err e => exact fun _ h => nomatch h
    | ok r1 => exact ok_wrap (fun b' => r1.1 ++ b') (ihl r1.2)

theorem pcL_agree (files : Files) {J : PJ} {JC : PCJ} (hJ : PCAgree J JC) (inl : List Name) :
    ∀ (ns : List Node) (c : Cache) (r : List Node × Cache), prepL files J inl ns c = .ok r → pcL files J JC inl ns c = r.2 :=
  (prep_agree files hJ inl).2

theorem pcN_agree (files : Files) {J : PJ} {JC : PCJ} (hJ : PCAgree J JC) (inl : List Name) :
    ∀ (n : Node) (c : Cache) (r : List Node × Cache), prepN files J inl n c = .ok r → pcN files J JC inl n c = r.2 :=
  (prep_agree files hJ inl).1

theorem pcT_agree (files : Files) : ∀ f : Nat, PCAgree (prepT files f) (pcT files f)
  | 0 => fun _ _ _ _ h => nomatch h
  | f + 1 => fun inl name c => by
    refine prepT_cases (motive := fun x cf => ∀ r, x = .ok r → cf = r.2) files f inl name c ?hit ?other ?go
    case hit => intro _ _ r h; cases h; rfl
    case other => exact fun _ _ h => nomatch h
    case go =>
      intro _ body _ _ r h
      cases hx : prepL files (prepT files f) inl body c with
      | fuel => simp [hx] at h
      | err e => simp [hx] at h
      | ok r0 => simp only [hx, Res.bind_ok, Res.ok.injEq] at h; rw [← h]

theorem loadInlC_agree (files : Files) (name : Name) (cls : Kind) (c : Cache) (r : List Node × Cache)
    (h : loadInl files name cls c = .ok r) : loadInlC files name cls c = r.2 := by
  rcases load_cases files name cls c with ⟨_, _, hi, _⟩ | ⟨_, _, _, hi, hcf⟩ <;> rw [hi] at h
  · cases h
  · rw [hcf]; exact pcT_agree files _ _ _ _ _ h

/-- After a load the loader's cache is `loadInlC`, whether the load returned or raised (`loadInlC_agree`): replaying
loads is applying `loadInlC` load by load. -/
theorem replayLoads_cons (files : Files) (l : Load) (ls : List Load) (c : Cache) :
    replayLoads files c (l :: ls) = replayLoads files (loadInlC files l.1 l.2 c) ls := by
  simp only [replayLoads]
  cases hx : loadInl files l.1 l.2 c with
  | fuel | err _ => rfl
  | ok r => rw [loadInlC_agree files l.1 l.2 c r hx]

theorem replayLoads_append (files : Files) : ∀ (l t : List Load) (c : Cache),
    replayLoads files c (l ++ t) = replayLoads files (replayLoads files c l) t
  | [], _, _ => rfl
  | a :: l, t, c => by
    rw [List.cons_append, replayLoads_cons, replayLoads_cons]; exact replayLoads_append files l t _

/-- A relation between the loader's cache before and after that every load respects.  It then holds across a replay of
loads, and so across a failed request (`LoadStep.afterFail`). -/
structure LoadStep (files : Files) (Q : Cache → Cache → Prop) : Prop where
  refl : ∀ c, Q c c
  trans : ∀ {a b c}, Q a b → Q b c → Q a c
  load : ∀ name cls c, Q c (loadInlC files name cls c)

theorem LoadStep.replay {files : Files} {Q : Cache → Cache → Prop} (hQ : LoadStep files Q) :
    ∀ (ls : List Load) (c : Cache), Q c (replayLoads files c ls)
  | [], c => hQ.refl c
  | l :: ls, c => by rw [replayLoads_cons]; exact hQ.trans (hQ.load l.1 l.2 c) (hQ.replay ls _)

structure CacheRel (files : Files) (Q : Cache → Cache → Prop) : Prop where
  refl : ∀ c, Q c c
  trans : ∀ {a b c}, Q a b → Q b c → Q a c
  cons : ∀ c {name : Name} (b : List Node), name ∈ files.names → Q c ((name, b) :: c)

def PJRel (Q : Cache → Cache → Prop) (J : PJ) : Prop := ∀ inl name c r, J inl name c = .ok r → Q c r.2
def PCJRel (Q : Cache → Cache → Prop) (JC : PCJ) : Prop := ∀ inl name c, Q c (JC inl name c)

section
variable {files : Files} {Q : Cache → Cache → Prop} (hQ : CacheRel files Q)
include hQ

/-- `pcN` / `pcL` together with the cache a successful `prepN` / `prepL` returns: a node list is prepared node by node, so
what the preparation of a node leaves behind is what the next one starts from. -/
theorem pc_rel {J : PJ} {JC : PCJ} (hJ : PJRel Q J) (hJC : PCJRel Q JC) (inl : List Name) :
    (∀ (n : Node) (c : Cache), Q c (pcN files J JC inl n c) ∧ ∀ r, prepN files J inl n c = .ok r → Q c r.2) ∧
    ∀ (ns : List Node) (c : Cache), Q c (pcL files J JC inl ns c) ∧ ∀ r, prepL files J inl ns c = .ok r → Q c r.2 := by
  apply prep_induction
  case leaf =>
    intro n hn c
    rw [pcN_leaf _ _ _ _ _ hn, prepN_leaf _ _ _ _ hn]
    exact ⟨hQ.refl c, fun r h => by cases h; exact hQ.refl c⟩
  case wrap =>
    intro mk b hw ih c
    rw [pcN_wrap _ _ _ _ _ hw, prepN_wrap _ _ _ _ hw]
    exact ⟨(ih c).1, ok_wrap (fun b' => [mk b']) (ih c).2⟩
  case static =>
    intro hh cls hasFb fb pos ih c
    refine static_cases (motive := fun x cf => Q c cf ∧ ∀ r, x = .ok r → Q c r.2) files J JC inl hh cls hasFb fb pos c ?err ?fallback ?keep ?inline
    case err => exact fun _ _ => ⟨hQ.refl c, fun _ h => nomatch h⟩
    case fallback => exact fun _ _ _ _ => ih c
    case keep => exact fun _ _ _ => ⟨(ih c).1, ok_wrap (fun b' => [.include (.static hh) cls hasFb b' pos]) (ih c).2⟩
    case inline => exact fun _ _ _ _ _ => ⟨hJC _ _ _, ok_wrap (fun b' => [.inlined b']) (hJ _ _ _)⟩
  case nil => exact fun c => ⟨hQ.refl c, fun r h => by cases h; exact hQ.refl c⟩
  case cons =>
    intro n ns ihn ihl c
    rw [pcL_cons, prepL_cons]
    cases hn : prepN files J inl n c with
    | fuel => exact ⟨(ihn c).1, fun _ h => nomatch h⟩
    | err e => exact ⟨(ihn c).1, fun _ h => nomatch h⟩
    | ok r1 =>
      have h1 := (ihn c).2 r1 hn
      exact ⟨hQ.trans h1 (ihl r1.2).1, ok_wrap (fun b' => r1.1 ++ b') fun r h => hQ.trans h1 ((ihl r1.2).2 r h)⟩

theorem pcT_rel : ∀ f : Nat, PCJRel Q (pcT files f) ∧ PJRel Q (prepT files f)
  | 0 => ⟨fun _ _ c => hQ.refl c, fun _ _ _ _ h => nomatch h⟩
  | f + 1 => by
    have key : ∀ inl name c, Q c (pcT files (f + 1) inl name c) ∧ ∀ r, prepT files (f + 1) inl name c = .ok r → Q c r.2 := by
      intro inl name c
      refine prepT_cases (motive := fun x cf => Q c cf ∧ ∀ r, x = .ok r → Q c r.2) files f inl name c ?hit ?other ?go
      case hit => exact fun _ _ => ⟨hQ.refl c, fun r h => by cases h; exact hQ.refl c⟩
      case other => exact fun _ => ⟨hQ.refl c, fun _ h => nomatch h⟩
      case go =>
        intro k body _ hfind
        have ih := (pc_rel hQ (pcT_rel f).2 (pcT_rel f).1 inl).2 body c
        cases hx : prepL files (prepT files f) inl body c with
        | fuel => exact ⟨ih.1, fun _ h => nomatch h⟩
        | err e => exact ⟨ih.1, fun _ h => nomatch h⟩
        | ok r0 =>
          have := hQ.trans (ih.2 r0 hx) (hQ.cons r0.2 r0.1 (find_mem_names hfind))
          exact ⟨this, fun r h => by cases h; exact this⟩
    exact ⟨fun inl name c => (key inl name c).1, fun inl name c => (key inl name c).2⟩

/-- what preparations respect, loads respect -/
theorem CacheRel.loadStep : LoadStep files Q :=
  ⟨hQ.refl, hQ.trans, fun name cls c => by
    rcases load_cases files name cls c with ⟨_, _, _, hcf, _⟩ | ⟨_, _, _, _, hcf⟩ <;> rw [hcf]
    · exact hQ.refl c
    · exact (pcT_rel hQ _).1 _ _ _⟩

end

/-- every template the cache `c` holds, by name, `c'` holds too -/
def Sub (c c' : Cache) : Prop := ∀ n, n ∈ c.map (·.1) → n ∈ c'.map (·.1)

theorem Sub.refl (c : Cache) : Sub c c := fun _ h => h
theorem Sub.trans {a b c : Cache} (h1 : Sub a b) (h2 : Sub b c) : Sub a c := fun n h => h2 n (h1 n h)
theorem Sub.cons (c : Cache) (e : Name × List Node) : Sub c (e :: c) := fun n h => by
  simp only [List.map_cons, List.mem_cons]; exact .inr h

theorem Sub.cacheRel (files : Files) : CacheRel files Sub := ⟨Sub.refl, Sub.trans, fun c _ _ _ => Sub.cons c _⟩

def PJGrows (J : PJ) : Prop := ∀ inl name c r, J inl name c = .ok r → Sub c r.2

theorem prepN_grows (files : Files) {J : PJ} (hJ : PJGrows J) (inl : List Name) :
    ∀ (n : Node) (c : Cache) (r : List Node × Cache), prepN files J inl n c = .ok r → Sub c r.2 :=
  fun n c => ((pc_rel (Sub.cacheRel files) hJ (JC := fun _ _ c => c) (fun _ _ c => Sub.refl c) inl).1 n c).2

def PCJGrows (JC : PCJ) : Prop := ∀ inl name c, Sub c (JC inl name c)

theorem pcN_grows (files : Files) {J : PJ} {JC : PCJ} (hJ : PJGrows J) (hJC : PCJGrows JC) (inl : List Name) :
    ∀ (n : Node) (c : Cache), Sub c (pcN files J JC inl n c) :=
  fun n c => ((pc_rel (Sub.cacheRel files) hJ hJC inl).1 n c).1

theorem pcT_grows (files : Files) : ∀ f : Nat, PCJGrows (pcT files f) :=
  fun f => (pcT_rel (Sub.cacheRel files) f).1

theorem replayLoads_grows (files : Files) : ∀ (t : List Load) (c : Cache), Sub c (replayLoads files c t) :=
  (Sub.cacheRel files).loadStep.replay

/-- the templates the cache holds are, by name, files of the set -/
def In (files : Files) (c : Cache) : Prop := ∀ n, n ∈ c.map (·.1) → n ∈ files.names

theorem In.cons {files : Files} {c : Cache} (h : In files c) {name : Name} (b : List Node) (hn : name ∈ files.names) :
    In files ((name, b) :: c) := by
  intro n hm
  simp only [List.map_cons, List.mem_cons] at hm
  rcases hm with rfl | hm
  · exact hn
  · exact h n hm

/-- "stays a cache of files of the set", as a relation between the cache before and after -/
theorem In.cacheRel (files : Files) : CacheRel files fun c c' => In files c → In files c' :=
  ⟨fun _ h => h, fun h1 h2 h => h2 (h1 h), fun _ _ b hn h => h.cons b hn⟩

def PJIn (files : Files) (J : PJ) : Prop := ∀ inl name c r, In files c → J inl name c = .ok r → In files r.2

def PCJIn (files : Files) (JC : PCJ) : Prop := ∀ inl name c, In files c → In files (JC inl name c)

theorem pcN_in (files : Files) {J : PJ} {JC : PCJ} (hJ : PJIn files J) (hJC : PCJIn files JC) (inl : List Name) :
    ∀ (n : Node) (c : Cache), In files c → In files (pcN files J JC inl n c) :=
  fun n c => ((pc_rel (In.cacheRel files) (fun inl name c r h hc => hJ inl name c r hc h) hJC inl).1 n c).1

theorem antitone_const : ∀ (k : Nat) (μ : Nat → Nat), μ 0 ≤ k → (∀ f g, f ≤ g → μ g ≤ μ f) →
    ∃ f0, ∀ g, f0 ≤ g → μ g = μ f0
  | 0, μ, h0, hm => ⟨0, fun g _ => Nat.le_antisymm (hm 0 g (Nat.zero_le _)) (Nat.le_trans h0 (Nat.zero_le _))⟩
  | k + 1, μ, h0, hm => by
    by_cases hc : ∀ g, μ g = μ 0
    · exact ⟨0, fun g _ => hc g⟩
    · obtain ⟨g1, hg1⟩ := Classical.not_forall.mp hc
      have hk : μ g1 ≤ k :=
        Nat.le_of_lt_succ (Nat.lt_of_lt_of_le (Nat.lt_of_le_of_ne (hm 0 g1 (Nat.zero_le _)) hg1) h0)
      obtain ⟨f0, hf0⟩ := antitone_const k (fun f => μ (g1 + f)) hk (fun f g hfg => hm _ _ (Nat.add_le_add_left hfg _))
      refine ⟨g1 + f0, fun g hg => ?_⟩
      have hle : g1 ≤ g := Nat.le_trans (Nat.le_add_right _ _) hg
      have h2 : μ (g1 + (g - g1)) = μ (g1 + f0) := hf0 (g - g1) (Nat.le_sub_of_add_le' hg)
      rwa [Nat.add_sub_cancel' hle] at h2

theorem growing_caches_const (files : Files) (S : Nat → Cache) (hin : ∀ f, In files (S f))
    (hmono : ∀ f g, f ≤ g → Sub (S f) (S g)) : ∃ f0, ∀ g, f0 ≤ g → Sub (S g) (S f0) := by
  -- the number of files not cached at fuel `f` (`rem`) falls as the caches grow, so it is constant from some `f0` on
  -- (`antitone_const`); a name cached only later would make it fall once more
  let μ : Nat → Nat := fun f => rem files ((S f).map (·.1))
  obtain ⟨f0, hf0⟩ := antitone_const (μ 0) μ (Nat.le_refl _) fun f g hfg => rem_anti (hmono f g hfg)
  refine ⟨f0, fun g hg n hn => Classical.byContradiction fun hnot => ?_⟩
  exact absurd (hf0 g hg) (Nat.ne_of_lt (rem_lt_of (hmono f0 g hg) hnot hn (hin g n hn)))

end Genshi.Incl
