/-
  C11: the recursion guard of `Template._prepare` (the `inlined` set), for any file set.  (a) With it
  preparation never runs out of fuel, cyclic includes or not.  (b) What it leaves behind: after inline
  preparation every statically named include still present in a prepared stream (at any depth, also inside
  inlined templates, macro / match template bodies and fallbacks) names a file that does not
  exist or one that lies on a cycle of the static include graph.
-/
import Genshi.Lemmas.InclPrepCases
namespace Genshi.Incl

def PJNoFuel (files : Files) (J : PJ) (inl : List Name) : Prop :=
  ∀ name k body c, name ∉ inl → files.find name = some ⟨k, some body⟩ → J (name :: inl) name c ≠ .fuel

theorem prep_nofuel {files : Files} {J : PJ} {inl : List Name} (hJ : PJNoFuel files J inl) :
    (∀ (n : Node) (c : Cache), prepN files J inl n c ≠ .fuel) ∧ ∀ (ns : List Node) (c : Cache), prepL files J inl ns c ≠ .fuel := by
  apply prep_induction
  case leaf =>
    intro n hn c
    rw [prepN_leaf _ _ _ _ hn]; exact fun h => nomatch h
  case wrap =>
    intro mk b hw ih c
    rw [prepN_wrap _ _ _ _ hw]; exact Res.bind_ne_fuel (ih c) fun _ h => nomatch h
  case static =>
    intro h cls hasFb fb pos ih c
    refine static_cases (motive := fun x _ => x ≠ .fuel) files J (fun _ _ c => c) inl h cls hasFb fb pos c ?err ?fallback ?keep ?inline
    case err => exact fun _ _ h => nomatch h
    case fallback => exact fun _ _ _ _ => ih c
    case keep => exact fun _ _ _ => Res.bind_ne_fuel (ih c) fun _ h => nomatch h
    case inline => exact fun name body _ hfind hin => Res.bind_ne_fuel (hJ name cls body c hin hfind) fun _ h => nomatch h
  case nil => exact fun _ h => nomatch h
  case cons =>
    intro n ns ihn ihl c
    rw [prepL_cons]
    exact Res.bind_ne_fuel (ihn c) fun r1 => Res.bind_ne_fuel (ihl r1.2) fun _ h => nomatch h

theorem prepN_nofuel {files : Files} {J : PJ} {inl : List Name} (hJ : PJNoFuel files J inl) :
    ∀ (n : Node) (c : Cache), prepN files J inl n c ≠ .fuel :=
  (prep_nofuel hJ).1

theorem prepT_nofuel (files : Files) :
    ∀ (f : Nat) (inl : List Name) (name : Name) (c : Cache), rem files inl < f → prepT files f inl name c ≠ .fuel
  | 0, _, _, _, h => absurd h (Nat.not_lt_zero _)
  | f + 1, inl, name, c, hf => by
    refine prepT_cases (motive := fun x _ => x ≠ .fuel) files f inl name c ?hit ?other ?go
    case hit => exact fun _ _ h => nomatch h
    case other => exact fun _ h => nomatch h
    case go =>
      intro _ body _ _
      refine Res.bind_ne_fuel ((prep_nofuel fun name' k' body' c' hn' hfind' => ?_).2 body c) fun _ h => nomatch h
      exact prepT_nofuel files f (name' :: inl) name' c' (rem_step hn' hfind' hf)

theorem targetsL_append (a b : List Node) : targetsL (a ++ b) = targetsL a ++ targetsL b := by
  induction a with
  | nil => rfl
  | cons n ns ih => simp [targetsL, ih, List.append_assoc]

theorem targetsL_singleton (n : Node) : targetsL [n] = targetsN n := by simp [targetsL]

/-- the static include graph: the template in file `a` names `b` in a statically named include, at any depth -/
def Edge (files : Files) (a b : Name) : Prop :=
  ∃ k body, files.find a = some ⟨k, some body⟩ ∧ b ∈ targetsL body

inductive Reach (files : Files) : Name → Name → Prop
  | refl (a : Name) : Reach files a a
  | tail {a b c : Name} : Reach files a b → Edge files b c → Reach files a c

def Cyc (files : Files) (t : Name) : Prop := ∃ u, Reach files t u ∧ Edge files u t

/-- what a statically named include that preparation left in place may name: no file, or a file on a cycle of the graph -/
def Good (files : Files) (t : Name) : Prop := files.find t = none ∨ Cyc files t

def AllGood (files : Files) (ns : List Node) : Prop := ∀ t ∈ targetsL ns, Good files t

def CacheGood (files : Files) (c : Cache) : Prop := ∀ n b, (n, b) ∈ c → AllGood files b

def PJGood (files : Files) (J : PJ) (inl : List Name) (cur : Name) : Prop :=
  ∀ name c b' c', name ∉ inl → Edge files cur name → CacheGood files c →
    J (name :: inl) name c = .ok (b', c') → AllGood files b' ∧ CacheGood files c'

theorem targetsN_leaf {n : Node} (h : Leaf n) : targetsN n = [] := by cases h <;> rfl
theorem targetsN_wrap {mk : List Node → Node} (h : Wrap mk) (b : List Node) : targetsN (mk b) = targetsL b := by
  cases h <;> rfl

/-- The guard stack is a path of the include graph: every name on it reaches the template being prepared (`hg`).  So
an include that is kept because its target is on the stack (case `keep`) closes a cycle through that target. -/
theorem prep_good {files : Files} {J : PJ} {inl : List Name} {cur : Name}
    (hJ : PJGood files J inl cur) (hg : ∀ g ∈ inl, Reach files g cur) :
    (∀ (n : Node) (c : Cache) (ns' : List Node) (c' : Cache),
      (∀ t ∈ targetsN n, Edge files cur t) → CacheGood files c →
      prepN files J inl n c = .ok (ns', c') → AllGood files ns' ∧ CacheGood files c') ∧
    ∀ (ns : List Node) (c : Cache) (ns' : List Node) (c' : Cache),
      (∀ t ∈ targetsL ns, Edge files cur t) → CacheGood files c →
      prepL files J inl ns c = .ok (ns', c') → AllGood files ns' ∧ CacheGood files c' := by
  apply prep_induction
  case leaf =>
    intro n hn c ns' c' _ hc he
    rw [prepN_leaf _ _ _ _ hn] at he
    cases he
    exact ⟨fun t ht => (by rw [targetsL_singleton, targetsN_leaf hn] at ht; cases ht), hc⟩
  case wrap =>
    intro mk b hw ih c ns' c' hs hc he
    rw [prepN_wrap _ _ _ _ hw] at he
    obtain ⟨r, hr, hk⟩ := Res.bind_eq_ok he
    cases hk
    obtain ⟨h1, h2⟩ := ih c r.1 r.2 (fun t ht => hs t (by rw [targetsN_wrap hw]; exact ht)) hc (by rw [hr])
    exact ⟨fun t ht => h1 t (by rwa [targetsL_singleton, targetsN_wrap hw] at ht), h2⟩
  case static =>
    intro h cls hasFb fb pos ih c ns' c' hs hc
    have ihfb : ∀ b' c'', prepL files J inl fb c = .ok (b', c'') → AllGood files b' ∧ CacheGood files c'' :=
      fun b' c'' h' => ih c b' c'' (fun t ht => hs t (by simp [targetsN, ht])) hc h'
    refine static_cases (motive := fun x _ => ∀ ns' c', x = .ok (ns', c') → AllGood files ns' ∧ CacheGood files c')
      files J (fun _ _ c => c) inl h cls hasFb fb pos c ?err ?fallback ?keep ?inline ns' c'
    case err => exact fun _ _ _ _ he => nomatch he
    case fallback => exact fun _ _ _ _ => ihfb
    case keep =>
      intro name hres hwhy ns' c' he
      obtain ⟨r, hr, hk⟩ := Res.bind_eq_ok he
      cases hk
      obtain ⟨h1, h2⟩ := ihfb r.1 r.2 (by rw [hr])
      refine ⟨fun t ht => ?_, h2⟩
      simp only [targetsL_singleton, targetsN, hres, List.cons_append, List.nil_append, List.mem_cons] at ht
      rcases ht with rfl | ht
      · rcases hwhy with ⟨hfind, _⟩ | ⟨hin, _⟩
        · exact .inl hfind
        · exact .inr ⟨cur, hg _ hin, hs t (by simp [targetsN, hres])⟩
      · exact h1 t ht
    case inline =>
      intro name body hres hfind hin ns' c' he
      obtain ⟨r, hr, hk⟩ := Res.bind_eq_ok he
      cases hk
      obtain ⟨h1, h2⟩ := hJ name c r.1 r.2 hin (hs name (by simp [targetsN, hres])) hc (by rw [hr])
      refine ⟨fun t ht => h1 t ?_, h2⟩
      simpa [targetsL_singleton, targetsN] using ht
  case nil =>
    intro c ns' c' _ hc he
    cases he; exact ⟨fun t ht => by simp [targetsL] at ht, hc⟩
  case cons =>
    intro n ns ihn ihl c ns' c' hs hc he
    rw [prepL_cons] at he
    obtain ⟨r1, hr1, hk1⟩ := Res.bind_eq_ok he
    obtain ⟨r2, hr2, hk2⟩ := Res.bind_eq_ok hk1
    cases hk2
    obtain ⟨h1, hc1⟩ := ihn c r1.1 r1.2 (fun t ht => hs t (by simp [targetsL, ht])) hc (by rw [hr1])
    obtain ⟨h2, hc2⟩ := ihl r1.2 r2.1 r2.2 (fun t ht => hs t (by simp [targetsL, ht])) hc1 (by rw [hr2])
    refine ⟨fun t ht => ?_, hc2⟩
    rw [targetsL_append] at ht
    rcases List.mem_append.mp ht with ht | ht
    · exact h1 t ht
    · exact h2 t ht

theorem prepN_good {files : Files} {J : PJ} {inl : List Name} {cur : Name}
    (hJ : PJGood files J inl cur) (hg : ∀ g ∈ inl, Reach files g cur) :
    ∀ (n : Node) (c : Cache) (ns' : List Node) (c' : Cache),
      (∀ t ∈ targetsN n, Edge files cur t) → CacheGood files c →
      prepN files J inl n c = .ok (ns', c') → AllGood files ns' ∧ CacheGood files c' :=
  (prep_good hJ hg).1

theorem prepT_good (files : Files) :
    ∀ (f : Nat) (inl : List Name) (name : Name) (c : Cache) (b' : List Node) (c' : Cache),
      (∀ g ∈ inl, Reach files g name) → CacheGood files c →
      prepT files f inl name c = .ok (b', c') → AllGood files b' ∧ CacheGood files c'
  | 0, _, _, _, _, _, _, _, he => by simp [prepT] at he
  | f + 1, inl, name, c, b', c', hg, hc, he => by
    refine prepT_cases (motive := fun x _ => ∀ b' c', x = .ok (b', c') → AllGood files b' ∧ CacheGood files c')
      files f inl name c ?hit ?other ?go b' c' he
    case hit =>
      intro b hl b' c' he
      cases he
      exact ⟨hc name b (lookup_mem hl), hc⟩
    case other => exact fun _ _ _ he => nomatch he
    case go =>
      intro fk body _ hfind b' c' he
      obtain ⟨r, hr, hk⟩ := Res.bind_eq_ok he
      cases hk
      have hJ : PJGood files (prepT files f) inl name := by
        intro name' c1 b1 c1' hn' hedge hc1 he1
        refine prepT_good files f (name' :: inl) name' c1 b1 c1' ?_ hc1 he1
        intro g hgm
        rcases List.mem_cons.mp hgm with rfl | hgm
        · exact .refl _
        · exact .tail (hg g hgm) hedge
      obtain ⟨h1, h2⟩ := (prep_good hJ hg).2 body c r.1 r.2 (fun t ht => ⟨fk, body, hfind, ht⟩) hc (by rw [hr])
      refine ⟨h1, fun n b hm => ?_⟩
      rcases List.mem_cons.mp hm with heq | hm
      · cases heq; exact h1
      · exact h2 n b hm

end Genshi.Incl
