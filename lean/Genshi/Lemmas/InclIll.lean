/-
  C11: file sets that may contain ill-formed templates (`inHW`).  There the only error a preparation raises is the syntax
  error, and `pcN/pcL/pcT` (the loader's cache after a preparation, success or failure) keep the cache a cache of
  prepared forms: `prep_out` / `prepT_out` at `ill := True`, in the wording of `POut`.  So the cache after a load,
  returned or raised, is sound (`loadInlC_inv`), and (`loadStep_inv`, a `LoadStep`) it stays so across replayed loads
  and failed requests.
-/
import Genshi.Lemmas.InclPrep
import Genshi.Lemmas.InclGrow
namespace Genshi.Incl

/-- outcome of a preparation together with the cache it leaves when it fails: a prepared form and a sound
cache, or the syntax error and a sound cache -/
def POut (T : List Name) (files : Files) (z : Bool) (raw : List Node) (x : Res (List Node × Cache)) (cf : Cache) : Prop :=
  match x with
  | .ok r => PrepL T files z raw r.1 ∧ CacheInv T files r.2
  | .err e => e = .syntaxErr ∧ CacheInv T files cf
  | .fuel => False

def PJSpecW (T : List Name) (files : Files) (J : PJ) (JC : PCJ) (inl : List Name) : Prop :=
  ∀ name c k body, name ∉ inl → files.find name = some ⟨k, some body⟩ → CacheInv T files c →
    POut T files false body (J (name :: inl) name c) (JC (name :: inl) name c)

theorem filesOk_of_inHW {T : List Name} {files : Files} (hH : inHW T files = true) : FilesOk True T files :=
  fun _ _ hfind => ⟨all_find (p := fileOkW T files) hH hfind, fun _ => trivial⟩

theorem PrepOut.pout {T files z raw} {x : Res (List Node × Cache)} {cf : Cache} (h : PrepOut True T files z raw x cf) :
    POut T files z raw x cf := by
  cases x with
  | fuel => exact h
  | err e => exact h.2
  | ok r => exact h

theorem PJSpecW.out {T files J JC inl} (hJ : PJSpecW T files J JC inl) : PJOut True T files J JC inl := by
  intro name c k body hn hfind hc
  have h := hJ name c k body hn hfind hc
  cases hx : J (name :: inl) name c with
  | fuel => rw [hx] at h; exact h
  | err e => rw [hx] at h; exact ⟨trivial, h⟩
  | ok r => rw [hx] at h; exact h

theorem prepN_okW {T : List Name} {files : Files} (hH : inHW T files = true) {J : PJ} {JC : PCJ} {inl : List Name}
    (hJ : PJSpecW T files J JC inl) : ∀ (n : Node) (z : Bool) (c : Cache),
    tagsOkN T n = true → zoneFreeN files T z n = true → clsOkN files n = true → CacheInv T files c →
    POut T files z [n] (prepN files J inl n c) (pcN files J JC inl n c) :=
  fun n z c ht hz hk hc => ((prep_out (filesOk_of_inHW hH) hJ.out).1 n z c ht hz hk hc).pout

theorem prepL_okW {T : List Name} {files : Files} (hH : inHW T files = true) {J : PJ} {JC : PCJ} {inl : List Name}
    (hJ : PJSpecW T files J JC inl) : ∀ (ns : List Node) (z : Bool) (c : Cache),
    tagsOkL T ns = true → zoneFreeL files T z ns = true → clsOkL files ns = true → CacheInv T files c →
    POut T files z ns (prepL files J inl ns c) (pcL files J JC inl ns c) :=
  fun ns z c ht hz hk hc => ((prep_out (filesOk_of_inHW hH) hJ.out).2 ns z c ht hz hk hc).pout

theorem prepT_okW {T : List Name} {files : Files} (hH : inHW T files = true) :
    ∀ (f : Nat) (inl : List Name) (name : Name) (c : Cache) (k : Kind) (body : List Node),
      rem files inl < f → files.find name = some ⟨k, some body⟩ → CacheInv T files c →
      POut T files false body (prepT files f inl name c) (pcT files f inl name c) :=
  fun f inl name c k body hf hfind hc => (prepT_out (filesOk_of_inHW hH) f inl name c k body hf hfind hc).pout

theorem loadInlC_inv {ill T files} (hF : FilesOk ill T files) (name : Name) (cls : Kind) (c : Cache)
    (hc : CacheInv T files c) : CacheInv T files (loadInlC files name cls c) := by
  have hl := loadOut hF name cls c hc
  cases hraw : loadRaw files name cls with
  | fuel => rw [hraw] at hl; exact hl.elim
  | err e => rw [hraw] at hl; rw [hl.2]; exact hc
  | ok body =>
    rw [hraw] at hl
    rcases hl.cases with ⟨_, _, h⟩ | ⟨r, hx, _, h⟩
    · exact h
    · rw [loadInlC_agree files name cls c r hx]; exact h

/-- "stays a cache of prepared forms", as a relation between the cache before and after -/
theorem loadStep_inv {ill T files} (hF : FilesOk ill T files) :
    LoadStep files fun c c' => CacheInv T files c → CacheInv T files c' :=
  ⟨fun _ h => h, fun h1 h2 h => h2 (h1 h), loadInlC_inv hF⟩

end Genshi.Incl
