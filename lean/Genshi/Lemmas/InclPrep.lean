/-
  C11: inline preparation (`prepN` / `prepL` / `prepT`, the model of `Template._prepare` with the
  `inlined` guard set) produces a prepared form (`PrepL`) of the raw stream, or — for file sets that
  may contain ill-formed templates — raises the syntax error; in both cases the loader's cache (`pcN` /
  `pcL` / `pcT` after a failure) stays a cache of prepared forms.  Hence the loader fact the simulation
  needs.  Under `inH` the error does not occur.
-/
import Genshi.Lemmas.Incl
import Genshi.Lemmas.InclPrepCases
namespace Genshi.Incl

theorem PrepOut.wrap {ill T files z z' raw raw'} {x : Res (List Node × Cache)} {cf : Cache} (g : List Node → List Node)
    (h : PrepOut ill T files z' raw x cf) (hg : ∀ b', PrepL T files z' raw b' → PrepL T files z raw' (g b')) :
    PrepOut ill T files z raw' (x.bind fun r => .ok (g r.1, r.2)) cf := by
  cases x with
  | fuel => exact h
  | err e => exact h
  | ok r => exact ⟨hg _ h.1, h.2⟩

theorem PrepOut.mono {ill T files z z' raw raw'} {x : Res (List Node × Cache)} {cf : Cache}
    (h : PrepOut ill T files z' raw x cf) (hg : ∀ b', PrepL T files z' raw b' → PrepL T files z raw' b') :
    PrepOut ill T files z raw' x cf := by
  cases x with
  | fuel => exact h
  | err e => exact h
  | ok r => exact ⟨hg _ h.1, h.2⟩

/-- the file set as the theorems use it: every file satisfies the hypothesis (`fileOkW`), and is well-formed
unless `ill` -/
def FilesOk (ill : Prop) (T : List Name) (files : Files) : Prop :=
  ∀ n f, files.find n = some f → fileOkW T files f = true ∧ (f.body = none → ill)

theorem FilesOk.textOK {ill T files} (hF : FilesOk ill T files) : TextOK files := by
  intro name body hfind
  have hok := (hF _ _ hfind).1
  simp only [fileOkW, Bool.and_eq_true] at hok
  exact hok.2

/-- what `prep_out` assumes of "prepare another template" (`J`; `JC` is the cache it leaves on failure) under the guard
stack `inl`: the outcome `PrepOut` on every file not on the stack.  `prepT_out` closes the recursion. -/
def PJOut (ill : Prop) (T : List Name) (files : Files) (J : PJ) (JC : PCJ) (inl : List Name) : Prop :=
  ∀ name c k body, name ∉ inl → files.find name = some ⟨k, some body⟩ → CacheInv T files c →
    PrepOut ill T files false body (J (name :: inl) name c) (JC (name :: inl) name c)

theorem prep_out {ill : Prop} {T : List Name} {files : Files} (hF : FilesOk ill T files) {J : PJ} {JC : PCJ}
    {inl : List Name} (hJ : PJOut ill T files J JC inl) :
    (∀ (n : Node) (z : Bool) (c : Cache),
      tagsOkN T n = true → zoneFreeN files T z n = true → clsOkN files n = true → CacheInv T files c →
      PrepOut ill T files z [n] (prepN files J inl n c) (pcN files J JC inl n c)) ∧
    ∀ (ns : List Node) (z : Bool) (c : Cache),
      tagsOkL T ns = true → zoneFreeL files T z ns = true → clsOkL files ns = true → CacheInv T files c →
      PrepOut ill T files z ns (prepL files J inl ns c) (pcL files J JC inl ns c) := by
  apply prep_induction
  case leaf =>
    intro n hn z c _ hz _ hc
    rw [prepN_leaf _ _ _ _ hn, pcN_leaf _ _ _ _ _ hn]
    cases hn with
    | text s => exact ⟨.text .nil, hc⟩
    | var x => exact ⟨.var .nil, hc⟩
    | select => exact ⟨.select .nil, hc⟩
    | call m =>
      simp only [zoneFreeN, Bool.not_eq_true'] at hz
      subst hz
      exact ⟨.call .nil, hc⟩
  case wrap =>
    intro mk b hw ih z c ht hz hk hc
    rw [prepN_wrap _ _ _ _ hw, pcN_wrap _ _ _ _ _ hw]
    cases hw with
    | elem t => exact (ih _ c ht hz hk hc).wrap (fun b' => [.elem t b']) fun _ hp => .elem hp .nil
    | cond cd => exact (ih _ c ht hz hk hc).wrap (fun b' => [.cond cd b']) fun _ hp => .cond hp .nil
    | loop x xs => exact (ih _ c ht hz hk hc).wrap (fun b' => [.loop x xs b']) fun _ hp => .loop hp .nil
    | defn m => exact (ih _ c ht hz hk hc).wrap (fun b' => [.defn m b']) fun _ hp => .defn hp .nil
    | matchT t =>
      simp only [tagsOkN, Bool.and_eq_true, decide_eq_true_eq] at ht
      exact (ih _ c ht.2 hz hk hc).wrap (fun b' => [.matchT t b']) fun _ hp => .matchT ht.1 hp .nil
    | inlined => exact (ih _ c ht hz hk hc).wrap (fun b' => [.inlined b']) fun _ hp => .inlined hp .nil
    | dyn ps cls hasFb pos =>
      exact (ih _ c ht hz hk hc).wrap (fun b' => [.include (.dyn ps) cls hasFb b' pos]) fun _ hp => .keep hp .nil
  case static =>
    intro h cls hasFb fb pos ih z c ht hz hk hc
    simp only [tagsOkN] at ht
    simp only [zoneFreeN, Bool.and_eq_true, Bool.or_eq_true, Bool.not_eq_true'] at hz
    simp only [clsOkN, Bool.and_eq_true] at hk
    obtain ⟨hz0, hzfb⟩ := hz
    obtain ⟨hcls, hkfb⟩ := hk
    have ihfb := ih false c ht hzfb hkfb hc
    -- inside a zone what is inlined does not depend on the window
    have hw : z = true → ∀ name, resolve pos h = some name →
        (∀ k body, files.find name = some ⟨k, some body⟩ → winfreeL T body = true) ∧
        (files.find name = none → hasFb = true → winfreeL T fb = true) := by
      intro hzt name hres
      rcases hz0 with hz0 | hz0
      · rw [hzt] at hz0; cases hz0
      · exact ⟨fun k body hfind => by simpa [zoneTargetOk, hres, hfind] using hz0,
          fun hfind hfb => by simpa [zoneTargetOk, hres, hfind, hfb] using hz0⟩
    refine static_cases (motive := PrepOut ill T files z [.include (.static h) cls hasFb fb pos]) files J JC inl
      h cls hasFb fb pos c ?err ?fallback ?keep ?inline
    case err =>
      rintro e (⟨_, hno | ⟨name, f, hres, hfind, hk⟩⟩ | ⟨rfl, name, _, hfind⟩)
      · simp [hno] at hcls
      · simp [hres, hfind, hk] at hcls
      · exact ⟨(hF _ _ hfind).2 rfl, rfl, hc⟩
    case fallback =>
      intro name hres hfind hfb
      subst hfb
      refine ihfb.mono fun fb' hp => ?_
      have := PrepL.inlineMissing (c := cls) hres hfind (fun hzt => (hw hzt name hres).2 hfind rfl) hp
        (.nil (T := T) (files := files) (z := z))
      simpa using this
    case keep => exact fun _ _ _ => ihfb.wrap (fun b' => [.include (.static h) cls hasFb b' pos]) fun _ hp => .keep hp .nil
    case inline =>
      intro name body hres hfind hin
      exact (hJ name c cls body hin hfind hc).wrap (fun b' => [.inlined b'])
        fun _ hpb => .inlineFound hres hfind (fun hzt => (hw hzt name hres).1 cls body hfind) hpb .nil
  case nil =>
    intro z c _ _ _ hc
    exact ⟨.nil, hc⟩
  case cons =>
    intro n ns ihn ihl z c ht hz hk hc
    simp only [tagsOkL, Bool.and_eq_true] at ht
    simp only [zoneFreeL, Bool.and_eq_true] at hz
    simp only [clsOkL, Bool.and_eq_true] at hk
    have h1 := ihn z c ht.1 hz.1 hk.1 hc
    rw [prepL_cons, pcL_cons]
    cases hn : prepN files J inl n c with
    | fuel => rw [hn] at h1; exact h1
    | err e => rw [hn] at h1; exact h1
    | ok r1 =>
      rw [hn] at h1
      have h2 := ihl z r1.2 ht.2 hz.2 hk.2 h1.2
      simp only [Res.bind_ok]
      refine h2.wrap (fun b' => r1.1 ++ b') (fun b' hp2 => ?_)
      have := PrepL.append h1.1 hp2
      simpa using this

theorem prepT_out {ill : Prop} {T : List Name} {files : Files} (hF : FilesOk ill T files) :
    ∀ (f : Nat) (inl : List Name) (name : Name) (c : Cache) (k : Kind) (body : List Node),
      rem files inl < f → files.find name = some ⟨k, some body⟩ → CacheInv T files c →
      PrepOut ill T files false body (prepT files f inl name c) (pcT files f inl name c)
  | 0, _, _, _, _, _, h, _, _ => absurd h (Nat.not_lt_zero _)
  | f + 1, inl, name, c, k, body, hf, hfind, hc => by
    refine prepT_cases (motive := PrepOut ill T files false body) files f inl name c ?hit ?other ?go
    case hit =>
      intro b hl
      obtain ⟨k0, body0, hfind0, hp0⟩ := hc name b (lookup_mem hl)
      rw [hfind] at hfind0
      cases hfind0
      exact ⟨hp0, hc⟩
    case other => exact fun hno => absurd hfind (hno k body)
    case go =>
      intro k' body' _ hfind'
      rw [hfind] at hfind'
      cases hfind'
      have hok := (hF _ _ hfind).1
      simp only [fileOkW, Bool.and_eq_true] at hok
      have hJ : PJOut ill T files (prepT files f) (pcT files f) inl := fun name' c1 k' body' hn' hfind' hc1 =>
        prepT_out hF f (name' :: inl) name' c1 k' body' (rem_step hn' hfind' hf) hfind' hc1
      have h := (prep_out hF hJ).2 body false c hok.1.1.1 hok.1.1.2 hok.1.2 hc
      cases hx : prepL files (prepT files f) inl body c with
      | fuel => rw [hx] at h; exact h
      | err e => rw [hx] at h; exact h
      | ok r =>
        rw [hx] at h
        refine ⟨h.1, fun n bb hm => ?_⟩
        rcases List.mem_cons.mp hm with heq | hm'
        · cases heq
          exact ⟨k, body, hfind, h.1⟩
        · exact h.2 n bb hm'

theorem loadOut {ill : Prop} {T : List Name} {files : Files} (hF : FilesOk ill T files) : LoadOut ill T files := by
  intro name cls c hc
  rcases load_cases files name cls c with ⟨_, hr, hi, hcf, _⟩ | ⟨body, hf, hr, hi, hcf⟩ <;> rw [hr, hi, hcf]
  · exact ⟨rfl, rfl⟩
  · exact prepT_out hF (prepFuel files) [name] name c cls body (rem_lt_prepFuel files [name]) hf hc

theorem filesOk_of_inH {T : List Name} {files : Files} (hH : inH T files = true) : FilesOk False T files := by
  intro n f hfind
  have hok : fileOk T files f = true := all_find hH hfind
  unfold fileOk at hok
  unfold fileOkW
  cases hb : f.body with
  | none => simp [hb] at hok
  | some b => exact ⟨by simpa [hb] using hok, fun h => nomatch h⟩

theorem PrepOut.ok {T files z raw} {x : Res (List Node × Cache)} {cf : Cache} (h : PrepOut False T files z raw x cf) :
    ∃ b' c', x = .ok (b', c') ∧ PrepL T files z raw b' ∧ CacheInv T files c' :=
  (h.cases.resolve_left (·.1)).elim fun r hr => ⟨r.1, r.2, hr⟩

/-- what preparing a node list needs from "prepare another template" under guard set `inl` -/
def PJSpec (T : List Name) (files : Files) (J : PJ) (inl : List Name) : Prop :=
  ∀ name c k body, name ∉ inl → files.find name = some ⟨k, some body⟩ → CacheInv T files c →
    ∃ b' c', J (name :: inl) name c = .ok (b', c') ∧ PrepL T files false body b' ∧ CacheInv T files c'

theorem PJSpec.out {T files J inl} (hJ : PJSpec T files J inl) (JC : PCJ) : PJOut False T files J JC inl := by
  intro name c k body hn hfind hc
  obtain ⟨b', c', he, hp, hc'⟩ := hJ name c k body hn hfind hc
  rw [he]; exact ⟨hp, hc'⟩

theorem prepN_ok {T : List Name} {files : Files} (hH : inH T files = true) {J : PJ} {inl : List Name}
    (hJ : PJSpec T files J inl) : ∀ (n : Node) (z : Bool) (c : Cache),
    tagsOkN T n = true → zoneFreeN files T z n = true → clsOkN files n = true → CacheInv T files c →
    ∃ ns' c', prepN files J inl n c = .ok (ns', c') ∧ PrepL T files z [n] ns' ∧ CacheInv T files c' :=
  fun n z c ht hz hk hc => ((prep_out (filesOk_of_inH hH) (hJ.out fun _ _ c => c)).1 n z c ht hz hk hc).ok

theorem prepL_ok {T : List Name} {files : Files} (hH : inH T files = true) {J : PJ} {inl : List Name}
    (hJ : PJSpec T files J inl) : ∀ (ns : List Node) (z : Bool) (c : Cache),
    tagsOkL T ns = true → zoneFreeL files T z ns = true → clsOkL files ns = true → CacheInv T files c →
    ∃ ns' c', prepL files J inl ns c = .ok (ns', c') ∧ PrepL T files z ns ns' ∧ CacheInv T files c' :=
  fun ns z c ht hz hk hc => ((prep_out (filesOk_of_inH hH) (hJ.out fun _ _ c => c)).2 ns z c ht hz hk hc).ok

theorem prepT_ok {T : List Name} {files : Files} (hH : inH T files = true) :
    ∀ (f : Nat) (inl : List Name) (name : Name) (c : Cache) (k : Kind) (body : List Node),
      rem files inl < f → files.find name = some ⟨k, some body⟩ → CacheInv T files c →
      ∃ b' c', prepT files f inl name c = .ok (b', c') ∧ PrepL T files false body b' ∧ CacheInv T files c' :=
  fun f inl name c k body hf hfind hc => (prepT_out (filesOk_of_inH hH) f inl name c k body hf hfind hc).ok

def LoadOK (T : List Name) (files : Files) : Prop :=
  ∀ name cls c, CacheInv T files c →
    match loadRaw files name cls with
    | .ok body => ∃ body' c', loadInl files name cls c = .ok (body', c') ∧
        PrepL T files false body body' ∧ CacheInv T files c'
    | .err e => loadInl files name cls c = .err e
    | .fuel => False

/-- under the hypothesis, loading in inline mode yields a prepared form of what loading in
run-time mode yields (or the same error) -/
theorem loadOK_of_inH {T : List Name} {files : Files} (hH : inH T files = true) : LoadOK T files := by
  intro name cls c hc
  have hl := loadOut (filesOk_of_inH hH) name cls c hc
  cases hraw : loadRaw files name cls with
  | fuel => rw [hraw] at hl; exact hl
  | err e => rw [hraw] at hl; exact hl.1
  | ok body => rw [hraw] at hl; exact hl.ok

end Genshi.Incl
