/-
  C11: how inline preparation goes through a stream, for any file set.  The guard measure `rem`; the nodes sorted by what
  `prepN` / `pcN` do with them (`Leaf`, `Wrap`, a statically named include: `prep_induction`, `static_cases`); one step of
  `prepT` / `pcT` (`prepT_cases`).  The facts about preparation are proved along these.
-/
import Genshi.Lemmas.InclBase
namespace Genshi.Incl

theorem find_mem_names {files : Files} {n : Name} {f : File} (h : files.find n = some f) : n ∈ files.names := by
  obtain ⟨d, hd, hm⟩ := find_mem h
  simp only [Files.names, List.mem_flatten, List.mem_map]
  exact ⟨d.map (·.1), ⟨d, hd, rfl⟩, by simp only [List.mem_map]; exact ⟨(n, f), hm, rfl⟩⟩

/-- the files not on the guard stack `inl`, counted: every template `prepT` enters is a file put on the stack, so this
falls with each nested preparation and `prepFuel` is never used up (`prepT_out`, `prepT_nofuel`) -/
def rem (files : Files) (inl : List Name) : Nat :=
  (files.names.filter fun n => decide (n ∉ inl)).length

theorem filter_of_imp {α : Type} (p q : α → Bool) (hpq : ∀ x, q x = true → p x = true) (l : List α) :
    l.filter q = (l.filter p).filter q := by
  rw [List.filter_filter]
  exact List.filter_congr fun x _ => by cases hq : q x <;> simp [hpq x, hq]

/-- the files a longer stack leaves are among those a shorter one leaves -/
theorem rem_filter {files : Files} {inl inl' : List Name} (h : ∀ n ∈ inl, n ∈ inl') :
    (files.names.filter fun n => decide (n ∉ inl')) =
      (files.names.filter fun n => decide (n ∉ inl)).filter fun n => decide (n ∉ inl') :=
  filter_of_imp (fun n => decide (n ∉ inl)) (fun n => decide (n ∉ inl'))
    (fun x hx => decide_eq_true fun hm => of_decide_eq_true hx (h x hm)) _

theorem rem_anti {files : Files} {inl inl' : List Name} (h : ∀ n ∈ inl, n ∈ inl') : rem files inl' ≤ rem files inl := by
  unfold rem
  rw [rem_filter h]; exact List.length_filter_le _ _

theorem rem_lt_of {files : Files} {inl inl' : List Name} (h : ∀ n ∈ inl, n ∈ inl') {n : Name} (hn : n ∉ inl) (hn' : n ∈ inl')
    (hf : n ∈ files.names) : rem files inl' < rem files inl := by
  unfold rem
  rw [rem_filter h]
  exact List.length_filter_lt_length_iff_exists.2 ⟨n, List.mem_filter.2 ⟨hf, decide_eq_true hn⟩, by simpa using hn'⟩

/-- the step of the recursions on `prepT`: a file put on the stack leaves the fuel above what remains -/
theorem rem_step {files : Files} {inl : List Name} {n : Name} {x : File} {f : Nat} (hn : n ∉ inl)
    (hfind : files.find n = some x) (hf : rem files inl < f + 1) : rem files (n :: inl) < f :=
  Nat.lt_of_lt_of_le (rem_lt_of (fun _ => List.mem_cons_of_mem _) hn List.mem_cons_self (find_mem_names hfind))
    (Nat.le_of_lt_succ hf)

theorem rem_lt_prepFuel (files : Files) (inl : List Name) : rem files inl < prepFuel files :=
  Nat.lt_succ_of_le (List.length_filter_le _ _)

/-! How `prepN` goes through a node: four kinds of node stay as they are (`Leaf`); seven are prepared by
preparing the body and putting the result back under the constructor (`Wrap`); a statically named include is
where the work is.  Facts about `prepN` / `pcN` are proved along this division (`prep_induction`). -/

inductive Leaf : Node → Prop
  | text (s : List Char) : Leaf (.text s)
  | var (x : Name) : Leaf (.var x)
  | call (m : Name) : Leaf (.call m)
  | select : Leaf .select

inductive Wrap : (List Node → Node) → Prop
  | elem (t : Name) : Wrap (.elem t)
  | cond (c : Cond) : Wrap (.cond c)
  | loop (x xs : Name) : Wrap (.loop x xs)
  | defn (m : Name) : Wrap (.defn m)
  | matchT (t : Name) : Wrap (.matchT t)
  | inlined : Wrap .inlined
  | dyn (ps : List Part) (cls : Kind) (hasFb : Bool) (pos : Name) : Wrap fun b => .include (.dyn ps) cls hasFb b pos

theorem prep_induction {P : Node → Prop} {Q : List Node → Prop}
    (leaf : ∀ {n}, Leaf n → P n) (wrap : ∀ {mk} b, Wrap mk → Q b → P (mk b))
    (static : ∀ h cls hasFb fb pos, Q fb → P (.include (.static h) cls hasFb fb pos))
    (nil : Q []) (cons : ∀ n ns, P n → Q ns → Q (n :: ns)) : (∀ n, P n) ∧ ∀ ns, Q ns :=
  node_induction (fun s => leaf (.text s)) (fun x => leaf (.var x)) (fun t b => wrap b (.elem t))
    (fun c b => wrap b (.cond c)) (fun x xs b => wrap b (.loop x xs)) (fun m b => wrap b (.defn m))
    (fun m => leaf (.call m)) (fun t b => wrap b (.matchT t)) (leaf .select)
    (fun h c hf fb p ih => match h with
      | .static h => static h c hf fb p ih
      | .dyn ps => wrap fb (.dyn ps c hf p) ih)
    (fun b => wrap b .inlined) nil cons

section unfoldP
variable (files : Files) (J : PJ) (JC : PCJ) (inl : List Name) (c : Cache)

theorem prepL_nil : prepL files J inl [] c = .ok ([], c) := rfl
theorem prepL_cons (n : Node) (ns : List Node) :
    prepL files J inl (n :: ns) c =
      (prepN files J inl n c).bind fun r1 =>
        (prepL files J inl ns r1.2).bind fun r2 => .ok (r1.1 ++ r2.1, r2.2) := rfl
theorem prepN_leaf {n : Node} (h : Leaf n) : prepN files J inl n c = .ok ([n], c) := by cases h <;> rfl
theorem prepN_wrap {mk : List Node → Node} (h : Wrap mk) (b : List Node) :
    prepN files J inl (mk b) c = (prepL files J inl b c).bind fun r => .ok ([mk r.1], r.2) := by cases h <;> rfl
theorem prepN_static (h : List Char) (cls : Kind) (hasFb : Bool) (fb : List Node) (pos : Name) :
    prepN files J inl (.include (.static h) cls hasFb fb pos) c =
      match resolve pos h with
      | none => .err .unmodelled
      | some name =>
        match files.find name with
        | none =>
          if hasFb then prepL files J inl fb c
          else (prepL files J inl fb c).bind fun r => .ok ([.include (.static h) cls hasFb r.1 pos], r.2)
        | some f =>
          if f.kind ≠ cls then .err .unmodelled
          else match f.body with
            | none => .err .syntaxErr
            | some _ =>
              if name ∈ inl then
                (prepL files J inl fb c).bind fun r => .ok ([.include (.static h) cls hasFb r.1 pos], r.2)
              else
                (J (name :: inl) name c).bind fun r => .ok ([.inlined r.1], r.2) := rfl

theorem pcL_nil : pcL files J JC inl [] c = c := rfl
theorem pcL_cons (n : Node) (ns : List Node) :
    pcL files J JC inl (n :: ns) c =
      match prepN files J inl n c with
      | .ok r => pcL files J JC inl ns r.2
      | _ => pcN files J JC inl n c := rfl
theorem pcN_leaf {n : Node} (h : Leaf n) : pcN files J JC inl n c = c := by cases h <;> rfl
theorem pcN_wrap {mk : List Node → Node} (h : Wrap mk) (b : List Node) :
    pcN files J JC inl (mk b) c = pcL files J JC inl b c := by cases h <;> rfl
theorem pcN_static (h : List Char) (cls : Kind) (hasFb : Bool) (fb : List Node) (pos : Name) :
    pcN files J JC inl (.include (.static h) cls hasFb fb pos) c =
      match resolve pos h with
      | none => c
      | some name =>
        match files.find name with
        | none => pcL files J JC inl fb c
        | some f =>
          if f.kind ≠ cls then c
          else match f.body with
            | none => c
            | some _ => if name ∈ inl then pcL files J JC inl fb c else JC (name :: inl) name c := rfl
end unfoldP

/-- What preparation does with a statically named include, for `prepN` and `pcN` at once: it fails and leaves the cache
alone (target outside the model or of the other class; target ill-formed); replaces a missing target by the prepared
fallback; keeps the include, fallback prepared (missing target without fallback, or target on the guard stack); or
inlines the prepared target. -/
theorem static_cases {motive : Res (List Node × Cache) → Cache → Prop} (files : Files) (J : PJ) (JC : PCJ) (inl : List Name)
    (h : List Char) (cls : Kind) (hasFb : Bool) (fb : List Node) (pos : Name) (c : Cache)
    (err : ∀ e,
      (e = .unmodelled ∧ (resolve pos h = none ∨
        ∃ name f, resolve pos h = some name ∧ files.find name = some f ∧ f.kind ≠ cls)) ∨
      (e = .syntaxErr ∧ ∃ name, resolve pos h = some name ∧ files.find name = some ⟨cls, none⟩) → motive (.err e) c)
    (fallback : ∀ name, resolve pos h = some name → files.find name = none → hasFb = true →
      motive (prepL files J inl fb c) (pcL files J JC inl fb c))
    (keep : ∀ name, resolve pos h = some name →
      (files.find name = none ∧ hasFb = false) ∨ (name ∈ inl ∧ ∃ body, files.find name = some ⟨cls, some body⟩) →
      motive ((prepL files J inl fb c).bind fun r => .ok ([.include (.static h) cls hasFb r.1 pos], r.2))
        (pcL files J JC inl fb c))
    (inline : ∀ name body, resolve pos h = some name → files.find name = some ⟨cls, some body⟩ → name ∉ inl →
      motive ((J (name :: inl) name c).bind fun r => .ok ([.inlined r.1], r.2)) (JC (name :: inl) name c)) :
    motive (prepN files J inl (.include (.static h) cls hasFb fb pos) c)
      (pcN files J JC inl (.include (.static h) cls hasFb fb pos) c) := by
  rw [prepN_static, pcN_static]
  cases hres : resolve pos h with
  | none => exact err _ (.inl ⟨rfl, .inl hres⟩)
  | some name =>
    dsimp only
    cases hfind : files.find name with
    | none =>
      dsimp only
      cases hasFb with
      | true => exact fallback name hres hfind rfl
      | false => exact keep name hres (.inl ⟨hfind, rfl⟩)
    | some f =>
      obtain ⟨fk, fbody⟩ := f
      dsimp only
      by_cases hk : fk = cls
      · subst hk
        simp only [ne_eq, not_true_eq_false, ↓reduceIte]
        cases fbody with
        | none => exact err _ (.inr ⟨rfl, name, hres, hfind⟩)
        | some body =>
          dsimp only
          by_cases hin : name ∈ inl
          · simp only [hin, ↓reduceIte]; exact keep name hres (.inr ⟨hin, body, hfind⟩)
          · simp only [hin, ↓reduceIte]; exact inline name body hres hfind hin
      · simp only [ne_eq, hk, not_false_eq_true, ↓reduceIte]
        exact err _ (.inl ⟨rfl, .inr ⟨name, _, hres, hfind, hk⟩⟩)

/-- one step of `prepT` / `pcT`: the stream the cache holds; or the body of the file prepared under the guard set and
remembered (the templates prepared inside it stay when that fails) -/
theorem prepT_cases {motive : Res (List Node × Cache) → Cache → Prop} (files : Files) (f : Nat) (inl : List Name)
    (name : Name) (c : Cache)
    (hit : ∀ b, c.lookup name = some b → motive (.ok (b, c)) c)
    (other : (∀ k body, files.find name ≠ some ⟨k, some body⟩) → motive (.err .unmodelled) c)
    (go : ∀ k body, c.lookup name = none → files.find name = some ⟨k, some body⟩ →
      motive ((prepL files (prepT files f) inl body c).bind fun r => .ok (r.1, (name, r.1) :: r.2))
        (match prepL files (prepT files f) inl body c with
         | .ok r => (name, r.1) :: r.2
         | _ => pcL files (prepT files f) (pcT files f) inl body c)) :
    motive (prepT files (f + 1) inl name c) (pcT files (f + 1) inl name c) := by
  simp only [prepT, pcT]
  cases hl : c.lookup name with
  | some b => exact hit b hl
  | none =>
    cases hfind : files.find name with
    | none => exact other fun _ _ h => by rw [hfind] at h; cases h
    | some ff =>
      obtain ⟨k, fb⟩ := ff
      cases fb with
      | none => exact other fun _ _ h => by rw [hfind] at h; cases h
      | some body => exact go k body hl hfind

end Genshi.Incl
