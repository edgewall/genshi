/-
  C11: one request on a loader with an arbitrary cache, marker-free inline mode (`Mode.inlineU`, the code as
  it is) against the marked one (`Mode.inlineM`, the mode of the simulation): same results, the marker-free
  mode needing no more fuel; a request against the same request with more fuel (`runOn_fuelLe`: outcome, and the loads
  `reqLog` whose replay is the cache a failed request leaves), hence every mode is monotone in the fuel and the loader's
  state after a request that does not run out of it is that of any larger fuel; run-time mode never touches the cache of
  prepared templates (`KC`).  Then sequences of requests, the loader's state carried along: the invariant of the cache
  (`renderOnF_inv`), the simulation (`renderOn_rel_mode`, `seqF_rel`), more fuel (`renderSeqF_fuel_indep`).
-/
import Genshi.Lemmas.InclErase
import Genshi.Lemmas.InclIll
namespace Genshi.Incl

/-- the body of `renderOn` -/
def runOn (m : Mode) (files : Files) (fuel : Nat) (c : Cache) (q : Req) : R :=
  (loadT m files q.1 q.2.1 { St.init q.2.2 with cache := c }).bind fun r =>
    renderL m files (render m files fuel) (.ofKind q.2.1) r.1 r.2

/-- what `renderOn` makes of the outcome `x` of a request on a loader with cache `c` -/
def outOn (c : Cache) (x : R) : Res (List Ev) × Cache :=
  match x with
  | .ok r => (.ok r.1, r.2.cache)
  | .err e => (.err e, c)
  | .fuel => (.fuel, c)

theorem renderOn_def (m : Mode) (files : Files) (fuel : Nat) (c : Cache) (q : Req) :
    renderOn m files fuel c q = outOn c (runOn m files fuel c q) := rfl

theorem outOn_mapE (c : Cache) (x : R) : outOn c (mapE x) = outOn c x := by cases x <;> rfl

theorem renderOn_fst (m : Mode) (files : Files) (fuel : Nat) (c : Cache) (q : Req) :
    (renderOn m files fuel c q).1 = (runOn m files fuel c q).map (·.1) := by
  rw [renderOn_def]
  cases runOn m files fuel c q <;> rfl

theorem renderOn_fst_nil (m : Mode) (files : Files) (fuel : Nat) (entry : Name) (kind : Kind) (data : List (Name × Value)) :
    (renderOn m files fuel [] (entry, kind, data)).1 =
      (loadT m files entry kind (St.init data)).bind fun r =>
        (renderL m files (render m files fuel) (.ofKind kind) r.1 r.2).map (·.1) := by
  rw [renderOn_fst]
  show ((loadT m files entry kind (St.init data)).bind _).map _ = _
  cases loadT m files entry kind (St.init data) <;> rfl

/-- the simulation for a whole request: run-time mode, on any loader, against inline mode on a loader whose cache is a
cache of prepared forms -/
theorem runOn_rel {ill : Prop} {T : List Name} {files : Files} (hF : FilesOk ill T files) (fuel : Nat) (c0 c : Cache)
    (hc : CacheInv T files c) (q : Req) :
    RRel ill T files (runOn .runtime files fuel c0 q) (runOn .inlineM files fuel c q) := by
  have hload := loadOut hF
  have hl := hload q.1 q.2.1 c hc
  simp only [runOn, loadT]
  cases hraw : loadRaw files q.1 q.2.1 with
  | fuel => rw [hraw] at hl; exact hl.elim
  | err e => rw [hraw] at hl; rw [hl.1]; exact .err e
  | ok body =>
    rw [hraw] at hl
    rcases hl.cases with ⟨hill, hli, _⟩ | ⟨r, hli, hp, hc'⟩
    · rw [hli]; exact .inl ⟨hill, rfl⟩
    · simp only [hli, Res.map_ok, Res.bind_ok]
      exact simL hload hF.textOK (sim hload hF.textOK fuel) hp _ _ _ _
        (.ofKind fun hk => (winfree_of_textual T).2 _ (loadRaw_text hF.textOK hraw hk))
        ⟨rfl, rfl, .nil, .nil, hc', rfl⟩

/-- what related runs make `renderOn` return: the same answer, or (`ill`) the syntax error from the inline run, whose
loader keeps a cache of prepared forms -/
theorem RRel.outOn {ill : Prop} {T : List Name} {files : Files} {x x' : R} (h : RRel ill T files x x') (c0 : Cache)
    {c : Cache} (hc : CacheInv T files c) :
    ((ill ∧ (outOn c x').1 = .err .syntaxErr) ∨ (outOn c x').1 = (outOn c0 x).1) ∧ CacheInv T files (outOn c x').2 := by
  rcases h with ⟨hill, rfl⟩ | h
  · exact ⟨.inl ⟨hill, rfl⟩, hc⟩
  · cases x with
    | fuel => rw [show x' = .fuel from h]; exact ⟨.inr rfl, hc⟩
    | err e => rw [show x' = .err e from h]; exact ⟨.inr rfl, hc⟩
    | ok a =>
      obtain ⟨a', rfl, ho, hs⟩ := h
      exact ⟨.inr (congrArg Res.ok ho.symm), hs.cache⟩

-- `ill`: ill-formed templates are admitted (`FilesOk ill`); only then may the inline run answer with the syntax error
theorem renderOn_rel {ill : Prop} {T : List Name} {files : Files} (hF : FilesOk ill T files)
    (fuel : Nat) (c : Cache) (hc : CacheInv T files c) (q : Req) :
    ((ill ∧ (renderOn .inlineM files fuel c q).1 = .err .syntaxErr) ∨
      (renderOn .inlineM files fuel c q).1 = (renderOn .runtime files fuel [] q).1) ∧
    CacheInv T files (renderOn .inlineM files fuel c q).2 :=
  (runOn_rel hF fuel [] c hc q).outOn [] hc

/-- marker erasure for a whole request, in either direction (`EraseRel`): the entry is loaded alike with and without
markers; `h` is the fact about its stream, the marked run having fuel `G g` -/
theorem runOn_erase {Rel : R → (Nat → R) → Prop} (hR : EraseRel Rel) (files : Files) (fuel : Nat) (G : Nat → Nat)
    (c : Cache) (q : Req)
    (h : ∀ p st, Rel (renderL .inlineU files (render .inlineU files fuel) (.ofKind q.2.1) (eraseL p) (eraseSt st))
      fun g => renderL .inlineM files (render .inlineM files (G g)) (.ofKind q.2.1) p st) :
    Rel (runOn .inlineU files fuel c q) fun g => runOn .inlineM files (G g) c q := by
  have hload := loadT_erase files q.1 q.2.1 { St.init q.2.2 with cache := c }
  have hinit : eraseSt { St.init q.2.2 with cache := c } = { St.init q.2.2 with cache := c } := rfl
  rw [hinit] at hload
  simp only [runOn, hload]
  cases loadT .inlineM files q.1 q.2.1 { St.init q.2.2 with cache := c } with
  | fuel => exact hR.pure rfl
  | err e => exact hR.pure rfl
  | ok p => exact h p.1 p.2

theorem runOn_down (files : Files) (fuel : Nat) (c : Cache) (q : Req) :
    Le (mapE (runOn .inlineM files fuel c q)) (runOn .inlineU files fuel c q) :=
  runOn_erase eraseRel_le files fuel (fun _ => fuel) c q (fun p st _ => erase_down files (fuel + 1) _ p st) 0

/-- a result of the marked mode is the result of the marker-free mode with the same fuel — outcome and cache -/
theorem renderOn_U_of_M (files : Files) (fuel : Nat) (c : Cache) (q : Req)
    (h : (renderOn .inlineM files fuel c q).1 ≠ .fuel) :
    renderOn .inlineU files fuel c q = renderOn .inlineM files fuel c q := by
  have hne : mapE (runOn .inlineM files fuel c q) ≠ .fuel :=
    fun hx => h (by rw [renderOn_def, ← outOn_mapE, hx]; rfl)
  rw [renderOn_def, renderOn_def, ← (runOn_down files fuel c q).eq_of_ne hne, outOn_mapE]

theorem runOn_up (files : Files) (fuel : Nat) (c : Cache) (q : Req) :
    Up (runOn .inlineU files fuel c q) (fun g => runOn .inlineM files g c q) :=
  runOn_erase eraseRel_up files fuel id c q fun p st => eraseL_up files (erase_up files fuel) p _ st

/-- a result of the marker-free mode is the result of the marked mode with enough fuel — outcome and cache -/
theorem renderOn_M_of_U (files : Files) (fuel : Nat) (c : Cache) (q : Req)
    (h : (renderOn .inlineU files fuel c q).1 ≠ .fuel) :
    ∃ g0, ∀ g, g0 ≤ g → renderOn .inlineM files g c q = renderOn .inlineU files fuel c q := by
  rcases runOn_up files fuel c q with hu | ⟨g0, y, hy, hm⟩
  · exact absurd (by rw [renderOn_def, hu]; rfl) h
  · refine ⟨g0, fun g hg => ?_⟩
    have h2 : runOn .inlineM files g c q = y := hy g hg
    rw [renderOn_def, renderOn_def, h2, ← hm, outOn_mapE]

/-- the loads of a request that the loader's cache of prepared templates sees: none in run-time mode; else the entry,
then the loads logged while its stream is rendered -/
def reqLog (m : Mode) (files : Files) (fuel : Nat) (c : Cache) (q : Req) : List Load :=
  match m with
  | .runtime => []
  | _ => (q.1, q.2.1) ::
    match loadT m files q.1 q.2.1 { St.init q.2.2 with cache := c } with
    | .ok (body, st1) => logL m files (render m files fuel) (logR m files fuel) (.ofKind q.2.1) body st1
    | _ => []

/-- the cache a failed request leaves is a replay of its loads -/
theorem cacheAfterFail_eq (m : Mode) (files : Files) (fuel : Nat) (c : Cache) (q : Req) :
    cacheAfterFail m files fuel c q = replayLoads files c (reqLog m files fuel c q) := by
  cases m with
  | runtime => rfl
  | inlineM | inlineU =>
    simp only [cacheAfterFail, reqLog, replayLoads_cons, loadT]
    cases hx : loadInl files q.1 q.2.1 c with
    | fuel | err _ => rfl
    | ok r => simp only [Res.map_ok]; rw [loadInlC_agree files q.1 q.2.1 c r hx]

theorem LoadStep.afterFail {files : Files} {Q : Cache → Cache → Prop} (hQ : LoadStep files Q) (m : Mode) (fuel : Nat)
    (c : Cache) (q : Req) : Q c (cacheAfterFail m files fuel c q) := by
  rw [cacheAfterFail_eq]; exact hQ.replay _ c

theorem cacheAfterFail_in (m : Mode) (files : Files) (fuel : Nat) (c : Cache) (q : Req) (hc : In files c) :
    In files (cacheAfterFail m files fuel c q) :=
  (In.cacheRel files).loadStep.afterFail m fuel c q hc

/-- a request against the same request with more fuel: outcome and loads (`FuelLe`) -/
theorem runOn_fuelLe (m : Mode) (files : Files) {f g : Nat} (hfg : f ≤ g) (c : Cache) (q : Req) :
    FuelLe True (runOn m files f c q) (reqLog m files f c q) (runOn m files g c q) (reqLog m files g c q) := by
  unfold runOn reqLog
  cases loadT m files q.1 q.2.1 { St.init q.2.2 with cache := c } with
  | fuel | err _ => cases m <;> exact .refl _ _
  | ok p =>
    have key := renderL_fuelLe m files hfg p.1 (.ofKind q.2.1) p.2
    cases m with
    | runtime => exact .of key.le (fun _ => rfl) fun _ => Pre.refl _
    | inlineM | inlineU => exact key.cons _

theorem runOn_le (m : Mode) (files : Files) {f g : Nat} (hfg : f ≤ g) (c : Cache) (q : Req) :
    Le (runOn m files f c q) (runOn m files g c q) :=
  (runOn_fuelLe m files hfg c q).le

/-- fuel is only a bound, for a request on any loader state -/
theorem renderOn_mono (m : Mode) (files : Files) {f g : Nat} (hfg : f ≤ g) (c : Cache) (q : Req) (x : Res (List Ev))
    (h : (renderOn m files f c q).1 = x) (hx : x ≠ .fuel) : (renderOn m files g c q).1 = x := by
  rw [renderOn_fst] at h ⊢
  rcases runOn_le m files hfg c q with hl | hl
  · rw [hl] at h; exact absurd h.symm hx
  · rw [← hl]; exact h

theorem renderOnF_fst (m : Mode) (files : Files) (fuel : Nat) (c : Cache) (q : Req) :
    (renderOnF m files fuel c q).1 = (renderOn m files fuel c q).1 := by
  unfold renderOnF
  cases hx : (renderOn m files fuel c q).1 <;> rfl

/-- a request that does not run out of fuel leaves the loader in a state that does not depend on the fuel:
outcome and prepared templates afterwards are those of any larger fuel — failed renders included -/
theorem renderOnF_fuel_indep (m : Mode) (files : Files) {f g : Nat} (hfg : f ≤ g) (c : Cache) (q : Req)
    (h : (renderOn m files f c q).1 ≠ .fuel) : renderOnF m files g c q = renderOnF m files f c q := by
  have hle := runOn_fuelLe m files hfg c q
  have hne : runOn m files f c q ≠ .fuel := by
    intro hx; apply h; rw [renderOn_fst, hx]; rfl
  have hon : renderOn m files g c q = renderOn m files f c q := by
    rw [renderOn_def, renderOn_def, hle.le.eq_of_ne hne]
  -- the caches after a failure: the same loads are replayed
  unfold renderOnF
  rw [hon, cacheAfterFail_eq, cacheAfterFail_eq, hle.eq hne]

/-- the same for a sequence of requests, on any loader state -/
theorem renderSeqF_fuel_indep (m : Mode) (files : Files) {f g : Nat} (hfg : f ≤ g) :
    ∀ (qs : List Req) (c : Cache), (∀ x ∈ renderSeqF m files f c qs, x.1 ≠ .fuel) →
      renderSeqF m files g c qs = renderSeqF m files f c qs := by
  intro qs
  induction qs with
  | nil => intro c _; rfl
  | cons q qs ih =>
    intro c hno
    simp only [renderSeqF, List.mem_cons, forall_eq_or_imp] at hno
    have h1 := renderOnF_fuel_indep m files hfg c q (by rw [← renderOnF_fst]; exact hno.1)
    simp only [renderSeqF]
    rw [h1, ih _ hno.2]

def KC (x : R) (c : Cache) : Prop := ∀ r, x = .ok r → r.2.cache = c

theorem render_kc_both (files : Files) {J : RJ} (hJ : ∀ rng ns st, KC (J rng ns st) st.cache) :
    (∀ (n : Node) (rng : Rng) (st : St),
      Post (·.cache = st.cache) (renderN .runtime files J rng n st) (renderN .runtime files J rng n st)) ∧
    ∀ (ns : List Node) (rng : Rng) (st : St),
      Post (·.cache = st.cache) (renderL .runtime files J rng ns st) (renderL .runtime files J rng ns st) := by
  have hJ' : ∀ rng ns st, Post (·.cache = st.cache) (J rng ns st) (J rng ns st) := fun rng ns st => ⟨rfl, hJ rng ns st⟩
  apply node_induction
  case text =>
    intro _ _ _
    exact Post.ok rfl
  case var =>
    intro x rng st
    rw [renderN_var]
    cases st.lookup x with
    | none => exact Post.err _
    | some v =>
      dsimp only
      cases v.text? with
      | none => exact Post.err _
      | some s => exact Post.ok rfl
  case elem =>
    intro tag body ih rng st
    rw [renderN_elem]
    cases firstMatch st.mts rng tag with
    | none => exact Post.bind (ih rng st) fun r hr => Post.ok hr
    | some p =>
      obtain ⟨idx, mb⟩ := p
      refine Post.bind (ih _ st) fun r hr => ?_
      refine Post.bind (hr ▸ hJ' _ mb { r.2 with sel := r.1 :: r.2.sel }) fun r' hr' => ?_
      exact Post.ok hr'
  case cond =>
    intro c body ih rng st
    rw [renderN_cond]
    cases evalCond st c with
    | fuel => exact Post.fuel
    | err e => exact Post.err _
    | ok b =>
      cases b with
      | true => exact ih rng st
      | false => exact Post.ok rfl
  case loop =>
    intro x xs body ih rng st
    rw [renderN_loop]
    cases st.lookup xs with
    | none => exact Post.err _
    | some v => exact Post.loopItems x (fun _ _ h => h) (fun s hs => hs ▸ ih rng s) _ st rfl
  case defn =>
    intro _ _ ih _ _
    exact Post.ok rfl
  case call =>
    intro m rng st
    rw [renderN_call]
    cases st.macros.lookup m with
    | some body => exact hJ' _ _ _
    | none => cases st.lookup m <;> exact Post.err _
  case matchT =>
    intro _ _ ih _ _
    exact Post.ok rfl
  case select =>
    intro rng st
    rw [renderN_select]
    cases st.sel with
    | nil => exact Post.err _
    | cons c _ => exact hJ' _ _ _
  case incl =>
    intro href cls hasFb fb pos ih rng st
    rw [renderN_include]
    cases evalHref st href with
    | fuel => exact Post.fuel
    | err e => exact Post.err _
    | ok h =>
      simp only [Res.bind_ok]
      cases resolve pos h with
      | none => exact Post.err _
      | some name =>
        simp only [loadT]
        cases loadRaw files name cls with
        | fuel => exact Post.fuel
        | ok body => exact hJ' _ _ _
        | err e =>
          cases e with
          | notFound =>
            cases hasFb with
            | true => exact ih rng.fresh st
            | false => exact Post.err _
          | syntaxErr => exact Post.err _
          | undefined => exact Post.err _
          | unmodelled => exact Post.err _
  case inlined =>
    intro body ih rng st
    rw [renderN_inlined]; exact hJ' _ _ _
  case nil =>
    intro _ _
    exact Post.ok rfl
  case cons =>
    intro n ns ihn ihl rng st
    rw [renderL_cons]
    refine Post.bind (ihn rng st) fun r1 h1 => ?_
    refine Post.bind (h1 ▸ ihl rng r1.2) fun r2 h2 => ?_
    exact Post.ok h2

theorem renderN_kc (files : Files) {J : RJ} (hJ : ∀ rng ns st, KC (J rng ns st) st.cache) :
    ∀ (n : Node) (rng : Rng) (st : St), KC (renderN .runtime files J rng n st) st.cache :=
  fun n rng st => ((render_kc_both files hJ).1 n rng st).2

theorem renderL_kc (files : Files) {J : RJ} (hJ : ∀ rng ns st, KC (J rng ns st) st.cache) :
    ∀ (ns : List Node) (rng : Rng) (st : St), KC (renderL .runtime files J rng ns st) st.cache :=
  fun ns rng st => ((render_kc_both files hJ).2 ns rng st).2

theorem render_kc (files : Files) : ∀ (f : Nat) (rng : Rng) (ns : List Node) (st : St),
    KC (render .runtime files f rng ns st) st.cache
  | 0, _, _, _ => fun _ h => nomatch h
  | f + 1, rng, ns, st => by rw [render_succ]; exact renderL_kc files (render_kc files f) ns rng st

/-- run-time mode leaves the loader's cache of prepared templates as it is: empty, on a fresh loader -/
theorem renderOn_runtime_cache (files : Files) (fuel : Nat) (c : Cache) (q : Req) : (renderOn .runtime files fuel c q).2 = c := by
  obtain ⟨entry, kind, data⟩ := q
  simp only [renderOn, loadT]
  cases hraw : loadRaw files entry kind with
  | fuel => rfl
  | err e => rfl
  | ok body =>
    simp only [Res.map_ok, Res.bind_ok]
    cases hx : renderL .runtime files (render .runtime files fuel) (Rng.ofKind kind) body { St.init data with cache := c } with
    | fuel | err _ => rfl
    | ok r => exact renderL_kc files (render_kc files fuel) body _ _ r hx

/-- whatever the mode, the fuel and the outcome, a request leaves the loader with a cache of prepared forms -/
theorem renderOnF_inv {ill : Prop} {T : List Name} {files : Files} (hF : FilesOk ill T files) (m : Mode) (fuel : Nat)
    (c : Cache) (hc : CacheInv T files c) (q : Req) : CacheInv T files (renderOnF m files fuel c q).2 := by
  unfold renderOnF
  cases hx : (renderOn m files fuel c q).1 with
  | ok evs =>
    simp only
    cases m with
    | runtime => rw [renderOn_runtime_cache]; exact hc
    | inlineM => exact (renderOn_rel hF fuel c hc q).2
    | inlineU =>
      -- the marked mode reaches this result, cache included, with enough fuel
      obtain ⟨g, hg⟩ := renderOn_M_of_U files fuel c q (by rw [hx]; exact fun h => nomatch h)
      rw [← hg g (Nat.le_refl _)]; exact (renderOn_rel hF g c hc q).2
  | err _ | fuel => exact (loadStep_inv hF).afterFail m fuel c q hc

/-- `renderOn_rel` in the marked inline mode and also in the code's own marker-free mode (`hm`): there for requests on
which run-time mode does not run out of fuel, so that the marker-free run is the marked one (`renderOn_U_of_M`).
`seqF_rel` is the same for sequences, the loader keeping what a failed request had loaded (`renderOnF`). -/
theorem renderOn_rel_mode {ill : Prop} {T : List Name} {files : Files} (hF : FilesOk ill T files) (m : Mode) (fuel : Nat)
    (c : Cache) (hc : CacheInv T files c) (q : Req)
    (hm : m = .inlineM ∨ (m = .inlineU ∧ (renderOn .runtime files fuel [] q).1 ≠ .fuel)) :
    (ill ∧ (renderOn m files fuel c q).1 = .err .syntaxErr) ∨
      (renderOn m files fuel c q).1 = (renderOn .runtime files fuel [] q).1 := by
  have h := (renderOn_rel hF fuel c hc q).1
  rcases hm with rfl | ⟨rfl, hno⟩
  · exact h
  · rw [renderOn_U_of_M files fuel c q ?_]
    · exact h
    · rcases h with ⟨_, h1⟩ | h1 <;> rw [h1]
      · exact fun h => nomatch h
      · exact hno

theorem seqF_rel {ill : Prop} {T : List Name} {files : Files} (hF : FilesOk ill T files) (m : Mode) (fuel : Nat) :
    ∀ (qs : List Req) (c : Cache), CacheInv T files c →
      (m = .inlineM ∨ (m = .inlineU ∧ ∀ r ∈ renderSeq .runtime files fuel [] qs, r ≠ .fuel)) →
      All2 (fun a b => (ill ∧ a = .err .syntaxErr) ∨ a = b)
        ((renderSeqF m files fuel c qs).map (·.1)) (renderSeq .runtime files fuel [] qs)
  | [], _, _, _ => .nil
  | q :: qs, c, hc, hm => by
    simp only [renderSeq, renderOn_runtime_cache, List.mem_cons, forall_eq_or_imp] at hm
    have h := renderOn_rel_mode hF m fuel c hc q (hm.imp_right fun h => ⟨h.1, h.2.1⟩)
    simp only [renderSeqF, renderSeq, List.map_cons, renderOn_runtime_cache, renderOnF_fst]
    exact .cons h (seqF_rel hF m fuel qs _ (renderOnF_inv hF m fuel c hc q) (hm.imp_right fun h => ⟨h.1, h.2.2⟩))

end Genshi.Incl
