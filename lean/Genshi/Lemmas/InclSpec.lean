/-
  C11: the run-time semantics against the specification evaluator (`specN/specL/spec`: an include is
  rendered as the node list of its target in place).  Where no match template is ever defined the window
  of match templates is irrelevant, and that window is the only thing in which the two differ.
-/
import Genshi.Lemmas.InclBase
namespace Genshi.Incl

section unfold
variable (files : Files) (J : RJ) (rng : Rng) (st : St)

theorem specL_nil : specL files J rng [] st = .ok ([], st) := rfl

theorem specL_cons (n : Node) (ns : List Node) :
    specL files J rng (n :: ns) st =
      (specN files J rng n st).bind fun r1 =>
        (specL files J rng ns r1.2).bind fun r2 => .ok (r1.1 ++ r2.1, r2.2) := rfl

theorem specN_var (x : Name) :
    specN files J rng (.var x) st =
      match st.lookup x with
      | none => .err .undefined
      | some v => match v.text? with
        | none => .err .unmodelled
        | some s => .ok ([.text s], st) := rfl

theorem specN_elem (tag : Name) (body : List Node) :
    specN files J rng (.elem tag body) st =
      match firstMatch st.mts rng tag with
      | none =>
        (specL files J rng body st).bind fun r => .ok (.start tag :: r.1 ++ [.stop tag], r.2)
      | some (idx, mb) =>
        (specL files J ⟨rng.lo, some (idx + 1), false⟩ body st).bind fun r =>
          (J ⟨idx + 1, rng.hi, false⟩ mb { r.2 with sel := r.1 :: r.2.sel }).bind fun r' =>
            .ok (r'.1, { r'.2 with sel := r'.2.sel.tail }) := rfl

theorem specN_select :
    specN files J rng .select st =
      match st.sel with
      | [] => .err .undefined
      | c :: _ => J rng (evsToNodes c) st := rfl

theorem specN_cond (c : Cond) (body : List Node) :
    specN files J rng (.cond c body) st =
      (evalCond st c).bind fun b => if b then specL files J rng body st else .ok ([], st) := rfl

theorem specN_loop (x xs : Name) (body : List Node) :
    specN files J rng (.loop x xs body) st =
      match st.lookup xs with
      | none => .err .undefined
      | some v => loopItems (fun st' => specL files J rng body st') x v.items st := rfl

theorem specN_call (m : Name) :
    specN files J rng (.call m) st =
      match st.macros.lookup m with
      | some body => J rng body st
      | none => match st.lookup m with
        | none => .err .undefined
        | some _ => .err .unmodelled := rfl

theorem specN_include (href : Href) (cls : Kind) (hasFb : Bool) (fb : List Node) (pos : Name) :
    specN files J rng (.include href cls hasFb fb pos) st =
      (evalHref st href).bind fun h =>
        match resolve pos h with
        | none => .err .unmodelled
        | some name =>
          match loadRaw files name cls with
          | .ok body => J rng body st
          | .err .notFound => if hasFb then specL files J rng fb st else .err .notFound
          | .err e => .err e
          | .fuel => .fuel := rfl

theorem specN_inlined (body : List Node) :
    specN files J rng (.inlined body) st = J rng body st := rfl

end unfold

theorem spec_succ (files : Files) (f : Nat) (rng : Rng) (ns : List Node) (st : St) :
    spec files (f + 1) rng ns st = specL files (spec files f) rng ns st := rfl

structure OkSt (st : St) : Prop where
  mts : st.mts = []
  sel : st.sel = []
  macros : ∀ p, p ∈ st.macros → noMtL p.2 = true

/-- `Post OkSt` (`InclBase`), written out: the `Post` lemmas apply to it by unfolding -/
def SR (x y : R) : Prop := x = y ∧ ∀ r, x = .ok r → OkSt r.2

theorem firstMatch_nil (rng : Rng) (tag : Name) : firstMatch [] rng tag = none := rfl

theorem loadRaw_noMt {files : Files} (hF : noMtFiles files = true) {name : Name} {cls : Kind} {body : List Node}
    (h : loadRaw files name cls = .ok body) : noMtL body = true :=
  all_find (p := fun f => match f.body with | none => true | some b => noMtL b) hF (loadRaw_ok_find h)

theorem spec_sr_both {files : Files} (hF : noMtFiles files = true) {J J' : RJ}
    (hJ : ∀ rng rng' ns st, noMtL ns = true → OkSt st → SR (J rng ns st) (J' rng' ns st)) :
    (∀ (n : Node) (rng rng' : Rng) (st : St), noMtN n = true → OkSt st →
      SR (renderN .runtime files J rng n st) (specN files J' rng' n st)) ∧
    ∀ (ns : List Node) (rng rng' : Rng) (st : St), noMtL ns = true → OkSt st →
      SR (renderL .runtime files J rng ns st) (specL files J' rng' ns st) := by
  apply node_induction
  case text =>
    intro _ _ _ _ _ hs
    exact Post.ok hs
  case var =>
    intro x rng rng' st _ hs
    rw [renderN_var, specN_var]
    cases st.lookup x with
    | none => exact Post.err _
    | some v =>
      dsimp only
      cases v.text? with
      | none => exact Post.err _
      | some s => exact Post.ok hs
  case elem =>
    intro tag body ih rng rng' st hn hs
    rw [renderN_elem, specN_elem, hs.mts, firstMatch_nil, firstMatch_nil]
    have hb : noMtL body = true := by simpa [noMtN] using hn
    have := ih rng rng' st hb hs
    dsimp only
    exact Post.bind this fun r hr => Post.ok hr
  case cond =>
    intro c body ih rng rng' st hn hs
    rw [renderN_cond, specN_cond]
    have hb : noMtL body = true := by simpa [noMtN] using hn
    cases evalCond st c with
    | fuel => exact Post.fuel
    | err e => exact Post.err e
    | ok b =>
      cases b with
      | true => exact ih rng rng' st hb hs
      | false => exact Post.ok hs
  case loop =>
    intro x xs body ih rng rng' st hn hs
    rw [renderN_loop, specN_loop]
    have hb : noMtL body = true := by simpa [noMtN] using hn
    cases st.lookup xs with
    | none => exact Post.err _
    | some v => exact Post.loopItems x (fun _ _ h => ⟨h.mts, h.sel, h.macros⟩) (fun s h => ih rng rng' s hb h) _ st hs
  case defn =>
    intro m body ih _ _ st hn hs
    have hb : noMtL body = true := by simpa [noMtN] using hn
    rw [renderN_defn]
    show SR _ (Res.ok ([], { st with macros := (m, body) :: st.macros }))
    refine Post.ok ⟨hs.mts, hs.sel, ?_⟩
    intro p hp
    cases hp with
    | head => exact hb
    | tail _ h => exact hs.macros p h
  case call =>
    intro m rng rng' st _ hs
    rw [renderN_call, specN_call]
    cases hm : st.macros.lookup m with
    | some body => exact hJ _ _ _ _ (hs.macros (m, body) (lookup_mem hm)) hs
    | none => cases st.lookup m <;> exact Post.err _
  case matchT =>
    intro _ _ ih _ _ _ hn _
    simp [noMtN] at hn
  case select =>
    intro rng rng' st _ hs
    rw [renderN_select, specN_select, hs.sel]
    exact Post.err _
  case incl =>
    intro href cls hasFb fb pos ih rng rng' st hn hs
    rw [renderN_include, specN_include]
    have hb : noMtL fb = true := by simpa [noMtN] using hn
    cases evalHref st href with
    | fuel => exact Post.fuel
    | err e => exact Post.err e
    | ok h =>
      simp only [Res.bind_ok]
      cases resolve pos h with
      | none => exact Post.err _
      | some name =>
        simp only [loadT]
        cases hl : loadRaw files name cls with
        | fuel => exact Post.fuel
        | ok body => exact hJ _ _ _ _ (loadRaw_noMt hF hl) hs
        | err e =>
          cases e with
          | notFound =>
            cases hasFb with
            | true => exact ih rng.fresh rng' st hb hs
            | false => exact Post.err _
          | syntaxErr => exact Post.err _
          | undefined => exact Post.err _
          | unmodelled => exact Post.err _
  case inlined =>
    intro body ih rng rng' st hn hs
    rw [renderN_inlined, specN_inlined]
    exact hJ _ _ _ _ (by simpa [noMtN] using hn) hs
  case nil =>
    intro _ _ _ _ hs
    exact Post.ok hs
  case cons =>
    intro n ns ihn ihl rng rng' st hn hs
    rw [renderL_cons, specL_cons]
    have h2 : noMtN n = true ∧ noMtL ns = true := by simpa [noMtL] using hn
    refine Post.bind (ihn rng rng' st h2.1 hs) fun r1 h1 => ?_
    refine Post.bind (ihl rng rng' r1.2 h2.2 h1) fun r2 h2' => ?_
    exact Post.ok h2'

theorem specN_sr {files : Files} (hF : noMtFiles files = true) {J J' : RJ}
    (hJ : ∀ rng rng' ns st, noMtL ns = true → OkSt st → SR (J rng ns st) (J' rng' ns st)) :
    ∀ (n : Node) (rng rng' : Rng) (st : St), noMtN n = true → OkSt st →
      SR (renderN .runtime files J rng n st) (specN files J' rng' n st) :=
  (spec_sr_both hF hJ).1

theorem specL_sr {files : Files} (hF : noMtFiles files = true) {J J' : RJ}
    (hJ : ∀ rng rng' ns st, noMtL ns = true → OkSt st → SR (J rng ns st) (J' rng' ns st)) :
    ∀ (ns : List Node) (rng rng' : Rng) (st : St), noMtL ns = true → OkSt st →
      SR (renderL .runtime files J rng ns st) (specL files J' rng' ns st) :=
  (spec_sr_both hF hJ).2

theorem spec_sr {files : Files} (hF : noMtFiles files = true) :
    ∀ (f : Nat) (rng rng' : Rng) (ns : List Node) (st : St), noMtL ns = true → OkSt st →
      SR (render .runtime files f rng ns st) (spec files f rng' ns st)
  | 0, _, _, _, _, _, _ => Post.fuel
  | f + 1, rng, rng', ns, st, hn, hs => by
    rw [render_succ, spec_succ]
    exact specL_sr hF (spec_sr hF f) ns rng rng' st hn hs

end Genshi.Incl
