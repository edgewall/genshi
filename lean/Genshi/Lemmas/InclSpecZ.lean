/-
  C11: run-time semantics = specification for file sets WITH match templates, under the hypothesis `inHS`:
  inside a zone (an element a match template may rewrite, a match template body) every include is of
  window-independent content.  Simulation on the same raw stream and the same context; the two evaluators
  differ only in the window of match templates they render an include's target (or fallback) under.
-/
import Genshi.Lemmas.InclSpec
namespace Genshi.Incl

theorem winfreeS_of_textual (T : List Name) :
    (∀ n, textualN n = true → winfreeSN T n = true) ∧ ∀ ns, textualL ns = true → winfreeSL T ns = true :=
  textual_induction (fun _ => rfl) (fun _ => rfl) (fun _ _ ih => ih) (fun _ _ _ ih => ih) (fun _ _ _ => rfl)
    (fun _ _ _ _ ih => by simp [winfreeSN, ih]) (fun _ ih => ih) rfl
    (fun _ _ ihn ihl => by simp [winfreeSL, ihn, ihl])

theorem winfreeSN_of_textual (T : List Name) : ∀ n : Node, textualN n = true → winfreeSN T n = true :=
  (winfreeS_of_textual T).1

theorem winfreeSL_of_textual (T : List Name) : ∀ ns : List Node, textualL ns = true → winfreeSL T ns = true :=
  (winfreeS_of_textual T).2

theorem plain_ok (T : List Name) (files : Files) :
    (∀ n, plainN n = true → ∀ z : Bool, tagsOkN T n = true ∧ zoneFreeSN files T z n = true) ∧
    ∀ ns, plainL ns = true → ∀ z : Bool, tagsOkL T ns = true ∧ zoneFreeSL files T z ns = true :=
  plain_induction (fun _ _ => ⟨rfl, rfl⟩) (fun _ _ ih _ => ih _) (fun _ => ⟨rfl, rfl⟩)
    (fun _ _ ihn ihl z => ⟨by simp only [tagsOkL, Bool.and_eq_true]; exact ⟨(ihn z).1, (ihl z).1⟩,
      by simp only [zoneFreeSL, Bool.and_eq_true]; exact ⟨(ihn z).2, (ihl z).2⟩⟩)

theorem plainN_ok (T : List Name) (files : Files) : ∀ (n : Node) (z : Bool), plainN n = true →
    tagsOkN T n = true ∧ zoneFreeSN files T z n = true :=
  fun n z h => (plain_ok T files).1 n h z

theorem firstMatchFrom_mem {rng : Rng} {tag : Name} : ∀ {ms : List (Name × List Node)} {i idx : Nat} {mb : List Node},
    firstMatchFrom rng tag ms i = some (idx, mb) → (tag, mb) ∈ ms
  | [], _, _, _, h => by simp [firstMatchFrom] at h
  | (t, b) :: rest, i, idx, mb, h => by
    simp only [firstMatchFrom] at h
    by_cases hc : (rng.contains i && decide (t = tag)) = true
    · simp only [hc, ↓reduceIte, Option.some.injEq, Prod.mk.injEq] at h
      simp only [Bool.and_eq_true, decide_eq_true_eq] at hc
      rw [← hc.2, ← h.2]; exact List.mem_cons_self
    · simp only [hc] at h
      exact List.mem_cons_of_mem _ (firstMatchFrom_mem h)

structure OkStZ (T : List Name) (files : Files) (st : St) : Prop where
  macros : ∀ p, p ∈ st.macros → tagsOkL T p.2 = true ∧ zoneFreeSL files T false p.2 = true
  mts : ∀ p, p ∈ st.mts → p.1 ∈ T ∧ tagsOkL T p.2 = true ∧ zoneFreeSL files T true p.2 = true

/-- `Post (OkStZ T files)` (`InclBase`), written out -/
def SRZ (T : List Name) (files : Files) (x y : R) : Prop := x = y ∧ ∀ r, x = .ok r → OkStZ T files r.2

def JZ (T : List Name) (files : Files) (J J' : RJ) : Prop :=
  ∀ z rR rS ns st, tagsOkL T ns = true → zoneFreeSL files T z ns = true → CoupS z rR rS (winfreeSL T ns) →
    OkStZ T files st → SRZ T files (J rR ns st) (J' rS ns st)

theorem zspec_both {T : List Name} {files : Files} (hS : inHS T files = true) {J J' : RJ} (hJ : JZ T files J J') :
    (∀ (n : Node) (z : Bool) (rR rS : Rng) (st : St), tagsOkN T n = true → zoneFreeSN files T z n = true →
      CoupS z rR rS (winfreeSN T n) → OkStZ T files st →
      SRZ T files (renderN .runtime files J rR n st) (specN files J' rS n st)) ∧
    ∀ (ns : List Node) (z : Bool) (rR rS : Rng) (st : St), tagsOkL T ns = true → zoneFreeSL files T z ns = true →
      CoupS z rR rS (winfreeSL T ns) → OkStZ T files st →
      SRZ T files (renderL .runtime files J rR ns st) (specL files J' rS ns st) := by
  apply node_induction
  case text =>
    intro _ _ _ _ _ _ _ _ hs
    exact Post.ok hs
  case var =>
    intro x z rR rS st _ _ _ hs
    rw [renderN_var, specN_var]
    cases st.lookup x with
    | none => exact Post.err _
    | some v =>
      dsimp only
      cases v.text? with
      | none => exact Post.err _
      | some s => exact Post.ok hs
  case elem =>
    intro tag body ih z rR rS st ht hz hc hs
    rw [renderN_elem, specN_elem]
    simp only [tagsOkN] at ht
    simp only [zoneFreeSN] at hz
    by_cases htT : tag ∈ T
    · -- a matchable element: the windows are the same
      obtain ⟨he, hn, _⟩ := hc.same (by simp [winfreeSN, htT])
      subst he
      simp only [htT, decide_true, Bool.or_true] at hz
      cases hfm : firstMatch st.mts rR tag with
      | none =>
        dsimp only
        refine Post.bind (ih true rR rR st ht hz (.inl ⟨rfl, hn, fun h => by cases h⟩) hs) fun r hr => ?_
        exact Post.ok hr
      | some p =>
        obtain ⟨idx, mb⟩ := p
        dsimp only
        have hmem := hs.mts (tag, mb) (firstMatchFrom_mem hfm)
        refine Post.bind (ih true _ _ st ht hz (.inl ⟨rfl, rfl, fun h => by cases h⟩) hs) fun r hr => ?_
        refine Post.bind (hJ true _ _ mb _ hmem.2.1 hmem.2.2 (.inl ⟨rfl, rfl, fun h => by cases h⟩)
          ⟨hr.macros, hr.mts⟩) fun r' hr' => ?_
        exact Post.ok ⟨hr'.macros, hr'.mts⟩
    · -- no match template is written for this tag: the windows are not consulted
      have h1 : firstMatch st.mts rR tag = none := firstMatchFrom_none_notin htT st.mts 0 (fun p hp => (hs.mts p hp).1)
      have h2 : firstMatch st.mts rS tag = none := firstMatchFrom_none_notin htT st.mts 0 (fun p hp => (hs.mts p hp).1)
      rw [h1, h2]
      dsimp only
      simp only [htT, decide_false, Bool.or_false] at hz
      refine Post.bind (ih z rR rS st ht hz hc.tail hs) fun r hr => ?_
      exact Post.ok hr
  case cond =>
    intro c body ih z rR rS st ht hz hc hs
    rw [renderN_cond, specN_cond]
    simp only [tagsOkN] at ht
    simp only [zoneFreeSN] at hz
    cases evalCond st c with
    | fuel => exact Post.fuel
    | err e => exact Post.err e
    | ok b =>
      cases b with
      | true => exact ih z rR rS st ht hz hc hs
      | false => exact Post.ok hs
  case loop =>
    intro x xs body ih z rR rS st ht hz hc hs
    rw [renderN_loop, specN_loop]
    simp only [tagsOkN] at ht
    simp only [zoneFreeSN] at hz
    cases st.lookup xs with
    | none => exact Post.err _
    | some v =>
      exact Post.loopItems x (fun _ _ h => ⟨h.macros, h.mts⟩) (fun s h => ih z rR rS s ht hz hc h) _ st hs
  case defn =>
    intro m body ih z _ _ st ht hz _ hs
    simp only [tagsOkN] at ht
    simp only [zoneFreeSN] at hz
    rw [renderN_defn]
    show SRZ T files _ (Res.ok ([], { st with macros := (m, body) :: st.macros }))
    refine Post.ok ⟨?_, hs.mts⟩
    intro p hp
    cases hp with
    | head => exact ⟨ht, hz⟩
    | tail _ h => exact hs.macros p h
  case call =>
    intro m z rR rS st _ hz hc hs
    rw [renderN_call, specN_call]
    simp only [zoneFreeSN, Bool.not_eq_true'] at hz
    subst hz
    obtain ⟨he, hn, hf⟩ := hc.same rfl
    subst he
    cases hm : st.macros.lookup m with
    | some body =>
      have hb := hs.macros (m, body) (lookup_mem hm)
      exact hJ false rR rR body st hb.1 hb.2 (.inl ⟨rfl, hn, hf⟩) hs
    | none => cases st.lookup m <;> exact Post.err _
  case matchT =>
    intro tag body ih z _ _ st ht hz _ hs
    simp only [tagsOkN, Bool.and_eq_true, decide_eq_true_eq] at ht
    simp only [zoneFreeSN] at hz
    rw [renderN_matchT]
    show SRZ T files _ (Res.ok ([], { st with mts := st.mts ++ [(tag, body)] }))
    refine Post.ok ⟨hs.macros, ?_⟩
    intro p hp
    rcases List.mem_append.mp hp with h | h
    · exact hs.mts p h
    · simp only [List.mem_singleton] at h
      subst h
      exact ⟨ht.1, ht.2, hz⟩
  case select =>
    intro z rR rS st _ _ hc hs
    rw [renderN_select, specN_select]
    obtain ⟨he, hn, hf⟩ := hc.same rfl
    subst he
    cases st.sel with
    | nil => exact Post.err _
    | cons c _ =>
      have hp := (plain_ok T files).2 (evsToNodes c) (evsToNodes_plain c) z
      exact hJ z rR rR _ st hp.1 hp.2 (.inl ⟨rfl, hn, hf⟩) hs
  case incl =>
    intro href cls hasFb fb pos ih z rR rS st ht hz hc hs
    rw [renderN_include, specN_include]
    simp only [tagsOkN] at ht
    -- in a zone: the target (or the fallback of a missing one) is window-independent, or a text template
    have hzone : z = true → ∀ h name, evalHref st href = .ok h → resolve pos h = some name →
        (∀ body, files.find name = some ⟨cls, some body⟩ → cls = .text ∨ winfreeSL T body = true) ∧
        (files.find name = none → hasFb = true → winfreeSL T fb = true) := by
      intro hzt h name he hres
      subst hzt
      cases href with
      | static h0 =>
        simp only [zoneFreeSN, Bool.not_true, Bool.false_or, Bool.and_eq_true] at hz
        simp only [evalHref, Res.ok.injEq] at he
        subst he
        exact ⟨fun body hf => .inr (by simpa [zoneTargetOkS, hres, hf] using hz.1),
          fun hf hfb => by simpa [zoneTargetOkS, hres, hf, hfb] using hz.1⟩
      | dyn ps =>
        simp only [zoneFreeSN, Bool.not_true, Bool.false_or, Bool.and_eq_true, decide_eq_true_eq] at hz
        exact ⟨fun _ _ => .inl hz.1.1, fun _ _ => hz.1.2⟩
    have hzfb : zoneFreeSL files T false fb = true := by
      cases href <;> simp only [zoneFreeSN, Bool.and_eq_true] at hz <;> exact hz.2
    -- inside window-independent content: the include is of a text template
    have hwin : winfreeSN T (.include href cls hasFb fb pos) = true → cls = .text ∧ winfreeSL T fb = true := by
      intro hw; simpa [winfreeSN] using hw
    cases he : evalHref st href with
    | fuel => exact Post.fuel
    | err e => exact Post.err e
    | ok h =>
      simp only [Res.bind_ok]
      cases hres : resolve pos h with
      | none => exact Post.err _
      | some name =>
        simp only [loadT]
        cases hl : loadRaw files name cls with
        | fuel => exact Post.fuel
        | ok body =>
          simp only [Res.map_ok]
          have hfind := loadRaw_ok_find hl
          have hok : fileOkS T files _ = true := all_find hS hfind
          simp only [fileOkS, Bool.and_eq_true] at hok
          refine hJ false _ _ body st hok.1.1 hok.1.2 ?_ hs
          cases cls with
          | text => exact .inr (winfreeSL_of_textual T body hok.2)
          | markup =>
            exact hc.inPlace (fun _ => rfl)
              (fun hz => ((hzone hz h name he hres).1 body hfind).resolve_left fun h => nomatch h)
              fun hw => absurd (hwin hw).1 fun h => nomatch h
        | err e =>
          simp only [Res.map_err]
          cases e with
          | notFound =>
            cases hasFb with
            | true =>
              simp only [↓reduceIte]
              exact ih false _ _ st ht hzfb (hc.inPlace Rng.fresh_of_nomt
                (fun hz => (hzone hz h name he hres).2 (loadRaw_notFound_find hl) rfl) fun hw => (hwin hw).2) hs
            | false => exact Post.err _
          | syntaxErr | undefined | unmodelled => exact Post.err _
  case inlined =>
    intro body ih z rR rS st ht hz hc hs
    rw [renderN_inlined, specN_inlined]
    simp only [tagsOkN] at ht
    simp only [zoneFreeSN] at hz
    exact hJ z rR rS body st ht hz hc hs
  case nil =>
    intro _ _ _ _ _ _ _ hs
    exact Post.ok hs
  case cons =>
    intro n ns ihn ihl z rR rS st ht hz hc hs
    rw [renderL_cons, specL_cons]
    simp only [tagsOkL, Bool.and_eq_true] at ht
    simp only [zoneFreeSL, Bool.and_eq_true] at hz
    refine Post.bind (ihn z rR rS st ht.1 hz.1 hc.head hs) fun r1 h1 => ?_
    refine Post.bind (ihl z rR rS r1.2 ht.2 hz.2 hc.tail h1) fun r2 h2 => ?_
    exact Post.ok h2

theorem zspecN {T : List Name} {files : Files} (hS : inHS T files = true) {J J' : RJ} (hJ : JZ T files J J') :
    ∀ (n : Node) (z : Bool) (rR rS : Rng) (st : St), tagsOkN T n = true → zoneFreeSN files T z n = true →
      CoupS z rR rS (winfreeSN T n) → OkStZ T files st →
      SRZ T files (renderN .runtime files J rR n st) (specN files J' rS n st) :=
  (zspec_both hS hJ).1

theorem zspecL {T : List Name} {files : Files} (hS : inHS T files = true) {J J' : RJ} (hJ : JZ T files J J') :
    ∀ (ns : List Node) (z : Bool) (rR rS : Rng) (st : St), tagsOkL T ns = true → zoneFreeSL files T z ns = true →
      CoupS z rR rS (winfreeSL T ns) → OkStZ T files st →
      SRZ T files (renderL .runtime files J rR ns st) (specL files J' rS ns st) :=
  (zspec_both hS hJ).2

theorem zspec {T : List Name} {files : Files} (hS : inHS T files = true) :
    ∀ f : Nat, JZ T files (render .runtime files f) (spec files f)
  | 0 => fun _ _ _ _ _ _ _ _ _ => Post.fuel
  | f + 1 => fun z rR rS ns st ht hz hc hs => by
    rw [render_succ, spec_succ]
    exact zspecL hS (zspec hS f) ns z rR rS st ht hz hc hs

end Genshi.Incl
