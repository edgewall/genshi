/-
  C15 — what one `load` of the loader model (`Genshi/Model/Loader.lean`) does: the relation
  `Outcome` lists every way a call can end, with the state it leaves — the state before, changed
  by the lookup (`touched`), a parse (`parsedSt`) and a store (`storedSt`) at most; the theorems
  about a single call are case analyses of it.
-/
import Genshi.Model.Loader
import Genshi.Lemmas.LruAbs
namespace Genshi.Loader
open Genshi.Lru

/-- a template was instantiated: a new identity, the callback (if configured) called with it -/
def parsedSt (cfg : Cfg) (s : LState) : LState :=
  let s1 : LState := { s with nextObj := s.nextObj + 1, parsed := s.nextObj :: s.parsed }
  if cfg.hasCallback then { s1 with cbLog := s.nextObj :: s1.cbLog } else s1

/-- the template was stored under the key, with its up-to-date check -/
def storedSt (s : LState) (key : Key) (t : Tmpl) (u : Utd) : LState :=
  { s with cache := (astep s.cache (.set key t)).1, utd := utdSet s.utd key u }

theorem parsedSt_fields (cfg : Cfg) (s : LState) :
    (parsedSt cfg s).cache = s.cache ∧ (parsedSt cfg s).utd = s.utd ∧ (parsedSt cfg s).lock = s.lock ∧
    (parsedSt cfg s).nextObj = s.nextObj + 1 ∧ (parsedSt cfg s).parsed = s.nextObj :: s.parsed ∧
    (parsedSt cfg s).cbLog = if cfg.hasCallback then s.nextObj :: s.cbLog else s.cbLog := by
  unfold parsedSt
  cases cfg.hasCallback <;> exact ⟨rfl, rfl, rfl, rfl, rfl, rfl⟩

theorem instantiate_eq (cfg : Cfg) (s : LState) (r : Req) (key : Key) (isabs : Bool) (loc : Loc) (f : File)
    (u : Utd) :
    instantiate cfg s r key isabs loc f u =
      if f.bad then (s, .err .syntaxError)
      else if cfg.hasCallback && r.cbRaise then (parsedSt cfg s, .err .callback)
      else (storedSt (parsedSt cfg s) key ⟨s.nextObj, loc, f.content, r.cls, r.enc, isabs⟩ u,
            .ok ⟨s.nextObj, loc, f.content, r.cls, r.enc, isabs⟩) := rfl

theorem instantiate_cases (cfg : Cfg) (s : LState) (r : Req) (key : Key) (isabs : Bool)
    (loc : Loc) (f : File) (u : Utd) :
    let t : Tmpl := ⟨s.nextObj, loc, f.content, r.cls, r.enc, isabs⟩
    let s1 : LState := { s with nextObj := s.nextObj + 1, parsed := s.nextObj :: s.parsed }
    let s2 : LState := if cfg.hasCallback then { s1 with cbLog := s.nextObj :: s1.cbLog } else s1
    (f.bad = true ∧ instantiate cfg s r key isabs loc f u = (s, .err .syntaxError)) ∨
    (f.bad = false ∧ cfg.hasCallback = true ∧ r.cbRaise = true ∧
      instantiate cfg s r key isabs loc f u = (s2, .err .callback)) ∨
    (f.bad = false ∧ (cfg.hasCallback && r.cbRaise) = false ∧
      instantiate cfg s r key isabs loc f u =
        ({ s2 with cache := (astep s2.cache (.set key t)).1, utd := utdSet s2.utd key u }, .ok t)) := by
  intro t s1 s2
  rw [instantiate_eq]
  cases hb : f.bad with
  | true => exact Or.inl ⟨rfl, rfl⟩
  | false =>
    cases hc : (cfg.hasCallback && r.cbRaise) with
    | true => exact Or.inr (Or.inl ⟨rfl, (Bool.and_eq_true_iff.mp hc).1, (Bool.and_eq_true_iff.mp hc).2, rfl⟩)
    | false => exact Or.inr (Or.inr ⟨rfl, rfl, rfl⟩)

theorem search_cases (cfg : Cfg) (fs : FS) (s : LState) (r : Req) (key : Key) (isabs : Bool)
    (entries : List Entry) :
    search cfg fs s r key isabs entries = (s, .err .notFound) ∨
    search cfg fs s r key isabs entries = (s, .err .loadFunc) ∨
    ∃ e ∈ entries, ∃ loc f u, probe fs r.fault e key = .found loc f u ∧
      search cfg fs s r key isabs entries = instantiate cfg s r key isabs loc f u := by
  induction entries with
  | nil => left; rfl
  | cons e rest ih =>
    unfold search
    cases hp : probe fs r.fault e key with
    | skip =>
      simp only
      rcases ih with h | h | ⟨e', he', loc, f, u, hp', h⟩
      · left; exact h
      · right; left; exact h
      · right; right; exact ⟨e', List.mem_cons_of_mem _ he', loc, f, u, hp', h⟩
    | raise => right; left; rfl
    | found loc f u => right; right; exact ⟨e, by simp, loc, f, u, hp, rfl⟩

/-- the up-to-date check a path item hands out with a file -/
def utdOf : Entry → Loc → File → Utd
  | .dir _ _, loc, f => .mtime loc f.mtime
  | .fn _ checks, loc, f => if checks then .mtime loc f.mtime else .never

/-- what a path item delivers when its load function does not raise -/
def deliver (fs : FS) (e : Entry) (key : Key) : Probe :=
  match locate e key with
  | none => .skip
  | some loc => match fs loc with
    | none => .skip
    | some f => .found loc f (utdOf e loc f)

theorem probe_eq (fs : FS) (fault : Fault) (e : Entry) (key : Key) :
    probe fs fault e key =
      match e, fault with
      | .fn _ _, .io => .skip
      | .fn _ _, .other => .raise
      | _, _ => deliver fs e key := by
  cases e <;> cases fault <;> rfl

theorem deliver_cases (fs : FS) (e : Entry) (key : Key) :
    (∃ loc f, locate e key = some loc ∧ fs loc = some f ∧ deliver fs e key = .found loc f (utdOf e loc f)) ∨
    ((locate e key = none ∨ ∃ loc, locate e key = some loc ∧ fs loc = none) ∧ deliver fs e key = .skip) := by
  unfold deliver
  cases hl : locate e key with
  | none => exact Or.inr ⟨Or.inl rfl, rfl⟩
  | some l =>
    cases hf : fs l with
    | none => exact Or.inr ⟨Or.inr ⟨l, rfl, hf⟩, by simp only [hf]⟩
    | some f => exact Or.inl ⟨l, f, rfl, hf, by simp only [hf]⟩

theorem probe_found {fs : FS} {fault : Fault} {e : Entry} {key : Key} {loc : Loc} {f : File} {u : Utd}
    (h : probe fs fault e key = .found loc f u) :
    locate e key = some loc ∧ fs loc = some f ∧ u = utdOf e loc f := by
  have hd : deliver fs e key = .found loc f u := by
    rw [probe_eq] at h
    split at h
    · cases h
    · cases h
    · exact h
  rcases deliver_cases fs e key with ⟨l, f', hl, hf, hd'⟩ | ⟨_, hd'⟩
  · rw [hd'] at hd
    cases hd
    exact ⟨hl, hf, rfl⟩
  · rw [hd'] at hd
    cases hd

theorem utdOf_cases (e : Entry) (loc : Loc) (f : File) :
    utdOf e loc f = .never ∨ utdOf e loc f = .mtime loc f.mtime := by
  cases e with
  | dir d b => exact Or.inr rfl
  | fn d c =>
    cases c
    · exact Or.inl rfl
    · exact Or.inr rfl


/-- the specification walks the probes, forgetting the up-to-date check -/
theorem firstOnPathF_cons (fs : FS) (fault : Fault) (key : Key) (e : Entry) (rest : List Entry) :
    firstOnPathF fs fault key (e :: rest) =
      match probe fs fault e key with
      | .skip => firstOnPathF fs fault key rest
      | .raise => .raised
      | .found loc f _ => .file loc f := by
  have here : (match locate e key with
      | none => firstOnPathF fs fault key rest
      | some loc => match fs loc with
        | none => firstOnPathF fs fault key rest
        | some f => .file loc f) =
      match deliver fs e key with
      | .skip => firstOnPathF fs fault key rest
      | .raise => .raised
      | .found loc f _ => .file loc f := by
    unfold deliver
    cases locate e key with
    | none => rfl
    | some loc => dsimp only; cases fs loc <;> rfl
  cases e <;> cases fault <;> first | rfl | exact here

/-- the loop ends as the specification says, whatever the state it carries along; where a file is
    found, it is there, and the check handed out is none or the comparison with its time -/
theorem search_found (cfg : Cfg) (fs : FS) (r : Req) (key : Key) (isabs : Bool) (entries : List Entry) :
    match firstOnPathF fs r.fault key entries with
    | .nothing => ∀ s, search cfg fs s r key isabs entries = (s, .err .notFound)
    | .raised => ∀ s, search cfg fs s r key isabs entries = (s, .err .loadFunc)
    | .file loc f => fs loc = some f ∧ ∃ u, (u = .never ∨ u = .mtime loc f.mtime) ∧
        ∀ s, search cfg fs s r key isabs entries = instantiate cfg s r key isabs loc f u := by
  induction entries with
  | nil => exact fun _ => rfl
  | cons e rest ih =>
    simp only [search, firstOnPathF_cons]
    cases hp : probe fs r.fault e key with
    | skip => exact ih
    | raise => exact fun _ => rfl
    | found loc f u =>
      obtain ⟨_, hfs, hu⟩ := probe_found hp
      exact ⟨hfs, u, hu ▸ utdOf_cases e loc f, fun _ => rfl⟩

theorem search_firstF (cfg : Cfg) (fs : FS) (s : LState) (r : Req) (key : Key) (isabs : Bool)
    (entries : List Entry) :
    match firstOnPathF fs r.fault key entries with
    | .nothing => search cfg fs s r key isabs entries = (s, .err .notFound)
    | .raised => search cfg fs s r key isabs entries = (s, .err .loadFunc)
    | .file loc f => ∃ u, search cfg fs s r key isabs entries = instantiate cfg s r key isabs loc f u := by
  have h := search_found cfg fs r key isabs entries
  split at h
  · exact h s
  · exact h s
  · obtain ⟨_, u, _, hu⟩ := h
    exact ⟨u, hu s⟩


/-- the state after the cache lookup: a hit is a use -/
def touched (s : LState) (key : Key) : LState :=
  match alookup key s.cache.items with
  | some _ => { s with cache := (astep s.cache (.get key)).1 }
  | none => s

theorem touched_fields (s : LState) (key : Key) :
    (touched s key).utd = s.utd ∧ (touched s key).nextObj = s.nextObj ∧
    (touched s key).cbLog = s.cbLog ∧ (touched s key).parsed = s.parsed ∧
    (touched s key).lock = s.lock := by
  unfold touched; split <;> simp

/-- the lookup is the container's `__getitem__` (which leaves the cache alone when it misses) -/
theorem touched_cache (s : LState) (key : Key) : (touched s key).cache = (astep s.cache (.get key)).1 := by
  unfold touched
  cases hl : alookup key s.cache.items <;> simp only [astep, hl]

theorem mem_touched {s : LState} {key : Key} {p : Key × Tmpl} (h : p ∈ (touched s key).cache.items) :
    p ∈ s.cache.items :=
  mem_aget (touched_cache s key ▸ h)

theorem touched_awf {s : LState} (key : Key) (h : AWf s.cache) : AWf (touched s key).cache :=
  touched_cache s key ▸ astep_awf h (.get key)

theorem touched_cap (s : LState) (key : Key) : (touched s key).cache.cap = s.cache.cap :=
  touched_cache s key ▸ astep_cap _ _

theorem alookup_touched (s : LState) (key k : Key) :
    alookup k (touched s key).cache.items = alookup k s.cache.items :=
  touched_cache s key ▸ alookup_get ..

/-- the rest of `loadBody` when the cache does not answer -/
def walk (cfg : Cfg) (fs : FS) (s1 : LState) (r : Req) (key : Key) : LState × Res :=
  match searchPath cfg r key with
  | none => (s1, .err .noSearchPath)
  | some (entries, isabs) => search cfg fs s1 r key isabs entries


/-- does the cache answer?  `hit` is what the lookup gave; it is served unless automatic
    reloading finds it stale -/
def served (cfg : Cfg) (fs : FS) (s : LState) (key : Key) (hit : Option Tmpl) : Option Tmpl :=
  match hit with
  | some t => if !cfg.autoReload then some t else if stillCurrent fs s key then some t else none
  | none => none

theorem served_eq_some {cfg : Cfg} {fs : FS} {s : LState} {key : Key} {hit : Option Tmpl} {t : Tmpl} :
    served cfg fs s key hit = some t ↔
      hit = some t ∧ (cfg.autoReload = false ∨ stillCurrent fs s key = true) := by
  unfold served
  cases hit with
  | none => simp
  | some t' => cases cfg.autoReload <;> cases stillCurrent fs s key <;> simp

theorem served_eq_none {cfg : Cfg} {fs : FS} {s : LState} {key : Key} {hit : Option Tmpl} :
    served cfg fs s key hit = none ↔
      hit = none ∨ (cfg.autoReload = true ∧ stillCurrent fs s key = false) := by
  unfold served
  cases hit with
  | none => simp
  | some t' => cases cfg.autoReload <;> cases stillCurrent fs s key <;> simp

/-- the up-to-date check reads `_uptodate` only -/
theorem served_congr {cfg : Cfg} {fs : FS} {s s' : LState} {key : Key} {hit : Option Tmpl} (h : s.utd = s'.utd) :
    served cfg fs s key hit = served cfg fs s' key hit := by
  unfold served stillCurrent
  rw [h]

theorem loadBody_eq (cfg : Cfg) (fs : FS) (s : LState) (r : Req) (key : Key) :
    loadBody cfg fs s r key =
      match served cfg fs s key (alookup key s.cache.items) with
      | some t => (touched s key, .ok t)
      | none => walk cfg fs (touched s key) r key := by
  rw [← served_congr (touched_fields s key).1]
  rfl

theorem loadBody_cases (cfg : Cfg) (fs : FS) (s : LState) (r : Req) (key : Key) :
    (∃ t, alookup key s.cache.items = some t ∧
        (cfg.autoReload = false ∨ stillCurrent fs s key = true) ∧
        loadBody cfg fs s r key = (touched s key, .ok t)) ∨
    ((alookup key s.cache.items = none ∨ (cfg.autoReload = true ∧ stillCurrent fs s key = false)) ∧
      ((searchPath cfg r key = none ∧ loadBody cfg fs s r key = (touched s key, .err .noSearchPath)) ∨
       ∃ entries isabs, searchPath cfg r key = some (entries, isabs) ∧
         loadBody cfg fs s r key = search cfg fs (touched s key) r key isabs entries)) := by
  rw [loadBody_eq]
  cases hs : served cfg fs s key (alookup key s.cache.items) with
  | some t => exact Or.inl ⟨t, (served_eq_some.mp hs).1, (served_eq_some.mp hs).2, rfl⟩
  | none =>
    refine Or.inr ⟨served_eq_none.mp hs, ?_⟩
    unfold walk
    cases searchPath cfg r key with
    | none => exact Or.inl ⟨rfl, rfl⟩
    | some p => exact Or.inr ⟨p.1, p.2, rfl, rfl⟩

/-- summary of one `loadBody`: the possible effects, by outcome -/
structure Effect (cfg : Cfg) (s s' : LState) (key : Key) (res : Res) : Prop where
  lock : s'.lock = s.lock
  /-- nothing parsed: counters and logs unchanged; or exactly one template parsed, the
      callback (if configured) called with it once -/
  counters :
    (s'.nextObj = s.nextObj ∧ s'.parsed = s.parsed ∧ s'.cbLog = s.cbLog) ∨
    (s'.nextObj = s.nextObj + 1 ∧ s'.parsed = s.nextObj :: s.parsed ∧
      s'.cbLog = if cfg.hasCallback then s.nextObj :: s.cbLog else s.cbLog)
  /-- a failed load: cache (apart from the use mark of the lookup) and `_uptodate` unchanged -/
  failed : ∀ e, res = .err e → s'.cache = (touched s key).cache ∧ s'.utd = s.utd
  /-- a served or stored template: either served from the cache, nothing parsed, nothing
      stored; or parsed now and stored under the key -/
  ok : ∀ t, res = .ok t →
    (alookup key s.cache.items = some t ∧ s'.cache = (touched s key).cache ∧ s'.utd = s.utd ∧
      s'.nextObj = s.nextObj) ∨
    (t.obj = s.nextObj ∧ s'.nextObj = s.nextObj + 1 ∧
      s'.cache = (astep (touched s key).cache (.set key t)).1 ∧ ∃ u, s'.utd = utdSet s.utd key u)

/-- everything a `loadBody` does, with the state it leaves: the cache answers; or the walk over the
    search path fails, in one of four ways, and only the use mark of the lookup remains; or the
    callback raises after the parse; or the template is parsed and stored -/
inductive Outcome (cfg : Cfg) (fs : FS) (s : LState) (r : Req) (key : Key) : LState → Res → Prop
  | served {t : Tmpl} (hs : served cfg fs s key (alookup key s.cache.items) = some t) :
      Outcome cfg fs s r key (touched s key) (.ok t)
  | noPath (hs : served cfg fs s key (alookup key s.cache.items) = none) (hsp : searchPath cfg r key = none) :
      Outcome cfg fs s r key (touched s key) (.err .noSearchPath)
  | notFound {entries : List Entry} {isabs : Bool}
      (hs : served cfg fs s key (alookup key s.cache.items) = none)
      (hsp : searchPath cfg r key = some (entries, isabs))
      (hw : firstOnPathF fs r.fault key entries = .nothing) :
      Outcome cfg fs s r key (touched s key) (.err .notFound)
  | loadFunc {entries : List Entry} {isabs : Bool}
      (hs : served cfg fs s key (alookup key s.cache.items) = none)
      (hsp : searchPath cfg r key = some (entries, isabs))
      (hw : firstOnPathF fs r.fault key entries = .raised) :
      Outcome cfg fs s r key (touched s key) (.err .loadFunc)
  | syntaxError {entries : List Entry} {isabs : Bool} {loc : Loc} {f : File}
      (hs : served cfg fs s key (alookup key s.cache.items) = none)
      (hsp : searchPath cfg r key = some (entries, isabs))
      (hw : firstOnPathF fs r.fault key entries = .file loc f) (hb : f.bad = true) :
      Outcome cfg fs s r key (touched s key) (.err .syntaxError)
  | callback {entries : List Entry} {isabs : Bool} {loc : Loc} {f : File}
      (hs : served cfg fs s key (alookup key s.cache.items) = none)
      (hsp : searchPath cfg r key = some (entries, isabs))
      (hw : firstOnPathF fs r.fault key entries = .file loc f) (hb : f.bad = false)
      (hcb : cfg.hasCallback = true) (hr : r.cbRaise = true) :
      Outcome cfg fs s r key (parsedSt cfg (touched s key)) (.err .callback)
  | parsed {entries : List Entry} {isabs : Bool} {loc : Loc} {f : File} {u : Utd}
      (hs : served cfg fs s key (alookup key s.cache.items) = none)
      (hsp : searchPath cfg r key = some (entries, isabs))
      (hw : firstOnPathF fs r.fault key entries = .file loc f) (hfs : fs loc = some f) (hb : f.bad = false)
      (hnr : (cfg.hasCallback && r.cbRaise) = false) (hu : u = .never ∨ u = .mtime loc f.mtime) :
      Outcome cfg fs s r key
        (storedSt (parsedSt cfg (touched s key)) key ⟨s.nextObj, loc, f.content, r.cls, r.enc, isabs⟩ u)
        (.ok ⟨s.nextObj, loc, f.content, r.cls, r.enc, isabs⟩)

theorem loadBody_outcome (cfg : Cfg) (fs : FS) (s : LState) (r : Req) (key : Key) :
    Outcome cfg fs s r key (loadBody cfg fs s r key).1 (loadBody cfg fs s r key).2 := by
  rw [loadBody_eq]
  cases hs : served cfg fs s key (alookup key s.cache.items) with
  | some t => exact .served hs
  | none =>
    simp only [walk]
    cases hsp : searchPath cfg r key with
    | none => exact .noPath hs hsp
    | some p =>
      obtain ⟨entries, isabs⟩ := p
      have hsf := search_found cfg fs r key isabs entries
      cases hw : firstOnPathF fs r.fault key entries with
      | nothing => rw [hw] at hsf; simp only [hsf]; exact .notFound hs hsp hw
      | raised => rw [hw] at hsf; simp only [hsf]; exact .loadFunc hs hsp hw
      | file loc f =>
        rw [hw] at hsf
        obtain ⟨hfs, u, hu, hsf⟩ := hsf
        simp only [hsf, instantiate_eq, (touched_fields s key).2.1]
        cases hb : f.bad with
        | true => exact .syntaxError hs hsp hw hb
        | false =>
          cases hc : (cfg.hasCallback && r.cbRaise) with
          | true => exact .callback hs hsp hw hb (Bool.and_eq_true_iff.mp hc).1 (Bool.and_eq_true_iff.mp hc).2
          | false => exact .parsed hs hsp hw hfs hb hc hu

theorem Outcome.effect {cfg : Cfg} {fs : FS} {s s' : LState} {r : Req} {key : Key} {res : Res}
    (h : Outcome cfg fs s r key s' res) : Effect cfg s s' key res := by
  obtain ⟨hu, hn, hc, hp, hl⟩ := touched_fields s key
  obtain ⟨pc, pu, pl, pn, pp, pcb⟩ := parsedSt_fields cfg (touched s key)
  rw [hn] at pn pp pcb
  rw [hp] at pp
  rw [hc] at pcb
  -- the lookup only marks the use
  have quiet : ∀ res, (∀ t, res = .ok t → alookup key s.cache.items = some t) →
      Effect cfg s (touched s key) key res := fun res hres =>
    ⟨hl, Or.inl ⟨hn, hp, hc⟩, fun _ _ => ⟨rfl, hu⟩, fun t ht => Or.inl ⟨hres t ht, rfl, hu, hn⟩⟩
  cases h with
  | served hs => exact quiet _ fun t ht => by cases ht; exact (served_eq_some.mp hs).1
  | noPath => exact quiet _ nofun
  | notFound => exact quiet _ nofun
  | loadFunc => exact quiet _ nofun
  | syntaxError => exact quiet _ nofun
  | callback => exact ⟨pl.trans hl, Or.inr ⟨pn, pp, pcb⟩, fun _ _ => ⟨pc, pu.trans hu⟩, nofun⟩
  | parsed =>
    refine ⟨pl.trans hl, Or.inr ⟨pn, pp, pcb⟩, nofun, fun t ht => ?_⟩
    cases ht
    exact Or.inr ⟨rfl, pn, by rw [← pc]; rfl, _, by rw [← hu, ← pu]; rfl⟩

/-! `load` brackets the body with acquire / release, and the body neither reads nor writes the
    lock depth: a load inside the path algebra is its body. -/

theorem instantiate_lock (cfg : Cfg) (s : LState) (r : Req) (key : Key) (isabs : Bool) (loc : Loc) (f : File)
    (u : Utd) (l : Nat) :
    instantiate cfg { s with lock := l } r key isabs loc f u =
      ({ (instantiate cfg s r key isabs loc f u).1 with lock := l }, (instantiate cfg s r key isabs loc f u).2) := by
  unfold instantiate
  cases f.bad <;> cases cfg.hasCallback <;> cases r.cbRaise <;> rfl

theorem search_lock (cfg : Cfg) (fs : FS) (s : LState) (r : Req) (key : Key) (isabs : Bool) (l : Nat)
    (entries : List Entry) :
    search cfg fs { s with lock := l } r key isabs entries =
      ({ (search cfg fs s r key isabs entries).1 with lock := l }, (search cfg fs s r key isabs entries).2) := by
  have h := search_found cfg fs r key isabs entries
  split at h
  · rw [h, h]
  · rw [h, h]
  · obtain ⟨_, u, _, hu⟩ := h
    rw [hu, hu]
    exact instantiate_lock ..

theorem touched_lock (s : LState) (key : Key) (l : Nat) :
    touched { s with lock := l } key = { touched s key with lock := l } := by
  cases hh : alookup key s.cache.items <;> simp [touched, hh]

theorem loadBody_lock (cfg : Cfg) (fs : FS) (s : LState) (r : Req) (key : Key) (l : Nat) :
    loadBody cfg fs { s with lock := l } r key =
      ({ (loadBody cfg fs s r key).1 with lock := l }, (loadBody cfg fs s r key).2) := by
  have hw : walk cfg fs { touched s key with lock := l } r key =
      ({ (walk cfg fs (touched s key) r key).1 with lock := l }, (walk cfg fs (touched s key) r key).2) := by
    unfold walk
    cases searchPath cfg r key with
    | none => rfl
    | some p => exact search_lock ..
  rw [loadBody_eq, loadBody_eq, touched_lock]
  show (match served cfg fs s key (alookup key s.cache.items) with
    | some t => _
    | none => _) = _
  cases served cfg fs s key (alookup key s.cache.items) with
  | some t => rfl
  | none => exact hw

theorem load_eq (cfg : Cfg) (fs : FS) (s : LState) (r : Req) :
    load cfg fs s r = (resolve cfg.path.isEmpty r).map (loadBody cfg fs s r) := by
  unfold load
  cases resolve cfg.path.isEmpty r with
  | none => rfl
  | some key =>
    have hl := (loadBody_outcome cfg fs s r key).effect.lock
    simp only [loadBody_lock, Option.map_some, Nat.add_sub_cancel, ← hl]

theorem load_outcome {cfg : Cfg} {fs : FS} {s s' : LState} {r : Req} {res : Res}
    (h : load cfg fs s r = some (s', res)) :
    ∃ key, resolve cfg.path.isEmpty r = some key ∧ Outcome cfg fs s r key s' res := by
  rw [load_eq] at h
  cases hk : resolve cfg.path.isEmpty r with
  | none => rw [hk] at h; cases h
  | some key =>
    rw [hk] at h
    have := loadBody_outcome cfg fs s r key
    rw [Option.some.inj h] at this
    exact ⟨key, rfl, this⟩

theorem load_effect {cfg : Cfg} {fs : FS} {s s' : LState} {r : Req} {res : Res}
    (h : load cfg fs s r = some (s', res)) :
    ∃ key, resolve cfg.path.isEmpty r = some key ∧ Effect cfg s s' key res := by
  obtain ⟨key, hk, ho⟩ := load_outcome h
  exact ⟨key, hk, ho.effect⟩

theorem load_served {cfg : Cfg} {fs : FS} {s : LState} {r : Req} {key : Key} {t : Tmpl}
    (hk : resolve cfg.path.isEmpty r = some key)
    (hl : alookup key s.cache.items = some t)
    (hc : cfg.autoReload = false ∨ stillCurrent fs s key = true) :
    load cfg fs s r = some (touched s key, .ok t) := by
  rw [load_eq, hk, Option.map_some, loadBody_eq, served_eq_some.mpr ⟨hl, hc⟩]

theorem load_by_firstF {cfg : Cfg} {fs : FS} {s s' : LState} {r : Req} {res : Res} {key : Key}
    (hk : resolve cfg.path.isEmpty r = some key)
    (hno : alookup key s.cache.items = none ∨ (cfg.autoReload = true ∧ stillCurrent fs s key = false))
    (h : load cfg fs s r = some (s', res)) :
    (searchPath cfg r key = none ∧ res = .err .noSearchPath) ∨
    ∃ entries isabs, searchPath cfg r key = some (entries, isabs) ∧
      match firstOnPathF fs r.fault key entries with
      | .nothing => res = .err .notFound
      | .raised => res = .err .loadFunc
      | .file loc f =>
        (f.bad = true ∧ res = .err .syntaxError) ∨
        (f.bad = false ∧ cfg.hasCallback = true ∧ r.cbRaise = true ∧ res = .err .callback) ∨
        (f.bad = false ∧ res = .ok ⟨s.nextObj, loc, f.content, r.cls, r.enc, isabs⟩) := by
  obtain ⟨key', hk', ho⟩ := load_outcome h
  cases hk.symm.trans hk'
  cases ho with
  | served hs => rw [served_eq_none.mpr hno] at hs; cases hs
  | noPath _ hsp => exact Or.inl ⟨hsp, rfl⟩
  | notFound _ hsp hw => exact Or.inr ⟨_, _, hsp, by rw [hw]⟩
  | loadFunc _ hsp hw => exact Or.inr ⟨_, _, hsp, by rw [hw]⟩
  | syntaxError _ hsp hw hb => exact Or.inr ⟨_, _, hsp, by rw [hw]; exact Or.inl ⟨hb, rfl⟩⟩
  | callback _ hsp hw hb hcb hr => exact Or.inr ⟨_, _, hsp, by rw [hw]; exact Or.inr (Or.inl ⟨hb, hcb, hr, rfl⟩)⟩
  | parsed _ hsp hw _ hb => exact Or.inr ⟨_, _, hsp, by rw [hw]; exact Or.inr (Or.inr ⟨hb, rfl⟩)⟩

theorem load_ok {cfg : Cfg} {fs : FS} {s s' : LState} {r : Req} {t : Tmpl}
    (h : load cfg fs s r = some (s', .ok t)) :
    ∃ key, resolve cfg.path.isEmpty r = some key ∧
    ((alookup key s.cache.items = some t ∧ (cfg.autoReload = false ∨ stillCurrent fs s key = true) ∧
      s' = touched s key) ∨
    (∃ loc f u, fs loc = some f ∧ f.bad = false ∧ (u = .never ∨ u = .mtime loc f.mtime) ∧
      t.obj = s.nextObj ∧ t.loc = loc ∧ t.content = f.content ∧
      s'.cache = (astep (touched s key).cache (.set key t)).1 ∧ s'.utd = utdSet s.utd key u ∧
      s'.nextObj = s.nextObj + 1)) := by
  obtain ⟨key, hk, ho⟩ := load_outcome h
  refine ⟨key, hk, ?_⟩
  cases ho with
  | served hs => exact Or.inl ⟨(served_eq_some.mp hs).1, (served_eq_some.mp hs).2, rfl⟩
  | parsed _ _ _ hfs hb _ hu =>
    obtain ⟨pc, pu, _, pn, _⟩ := parsedSt_fields cfg (touched s key)
    rw [(touched_fields s key).2.1] at pn
    exact Or.inr ⟨_, _, _, hfs, hb, hu, rfl, rfl, rfl, by rw [← pc]; rfl,
      by rw [← (touched_fields s key).1, ← pu]; rfl, pn⟩

theorem firstOnPathF_none (fs : FS) (key : Key) (entries : List Entry) :
    firstOnPathF fs .none key entries =
      match firstOnPath fs key entries with
      | none => .nothing
      | some (loc, f) => .file loc f := by
  induction entries with
  | nil => rfl
  | cons e rest ih =>
    have he : firstOnPathF fs .none key (e :: rest) =
        match locate e key with
        | none => firstOnPathF fs .none key rest
        | some loc => match fs loc with
          | none => firstOnPathF fs .none key rest
          | some f => .file loc f := by cases e <;> rfl
    rw [he, firstOnPath]
    cases locate e key with
    | none => exact ih
    | some loc =>
      dsimp only
      cases fs loc with
      | none => exact ih
      | some f => rfl

theorem firstOnPath_of_found {fs : FS} {key : Key} {entries : List Entry} {loc : Loc} {f : File}
    (h : firstOnPathF fs .none key entries = .file loc f) : firstOnPath fs key entries = some (loc, f) := by
  rw [firstOnPathF_none] at h
  cases hfp : firstOnPath fs key entries with
  | none => rw [hfp] at h; cases h
  | some p => rw [hfp] at h; cases h; rfl

theorem stillCurrent_iff {fs : FS} {s : LState} {key : Key} :
    stillCurrent fs s key = true ↔ ∃ loc f, s.utd key = some (.mtime loc f.mtime) ∧ fs loc = some f := by
  unfold stillCurrent
  constructor
  · intro h
    cases hu : s.utd key with
    | none => rw [hu] at h; cases h
    | some u =>
      cases u with
      | never => rw [hu] at h; cases h
      | mtime loc m =>
        simp only [hu] at h
        cases hf : fs loc with
        | none => rw [hf] at h; cases h
        | some f =>
          simp only [hf, beq_iff_eq] at h
          exact ⟨loc, f, by rw [h], hf⟩
  · rintro ⟨loc, f, hu, hf⟩
    simp only [hu, hf, beq_self_eq_true]

/-- `load` acts on its cache only through `__getitem__` and `__setitem__` of its own key -/
theorem Effect.cache_induction {cfg : Cfg} {s s' : LState} {key : Key} {res : Res} {P : ALru Key Tmpl → Prop}
    (he : Effect cfg s s' key res)
    (hP : ∀ a op, (op = .get key ∨ ∃ t, op = .set key t) → P a → P (astep a op).1) (h : P s.cache) :
    P s'.cache := by
  have ht : P (touched s key).cache := touched_cache s key ▸ hP _ _ (Or.inl rfl) h
  cases res with
  | err e => rw [(he.failed e rfl).1]; exact ht
  | ok t =>
    rcases he.ok t rfl with ⟨_, hc, _⟩ | ⟨_, _, hc, _⟩ <;> rw [hc]
    · exact ht
    · exact hP _ _ (Or.inr ⟨t, rfl⟩) ht

theorem load_cap {cfg : Cfg} {fs : FS} {s s' : LState} {r : Req} {res : Res}
    (h : load cfg fs s r = some (s', res)) : s'.cache.cap = s.cache.cap := by
  obtain ⟨key, _, he⟩ := load_effect h
  exact he.cache_induction (P := fun a => a.cap = s.cache.cap) (fun a op _ h => (astep_cap a op).trans h) rfl

/-- a history changes the loader state only through `load` -/
theorem hrun_ls_induction {cfg : Cfg} {P : LState → Prop}
    (hload : ∀ {fs : FS} {s s' : LState} {r : Req} {res : Res}, P s → load cfg fs s r = some (s', res) → P s')
    {w : World} (h : P w.ls) (ops : List HOp) : P (hrun cfg w ops).1.ls := by
  induction ops generalizing w with
  | nil => exact h
  | cons op ops ih =>
    simp only [hrun]
    apply ih
    cases op with
    | write _ _ _ => exact h
    | touch loc => simp only [hstep]; split <;> exact h
    | delete _ => exact h
    | load r =>
      simp only [hstep]
      cases hl : load cfg w.fs w.ls r with
      | none => exact h
      | some p => exact hload h hl

theorem hrun_cap (cfg : Cfg) (w : World) (ops : List HOp) : (hrun cfg w ops).1.ls.cache.cap = w.ls.cache.cap :=
  hrun_ls_induction (P := fun s => s.cache.cap = w.ls.cache.cap) (fun h hl => (load_cap hl).trans h) rfl ops

/-- the cache is what some sequence of container operations produces from the empty cache -/
def CacheReach (cap : Nat) (a : ALru Key Tmpl) : Prop := ∃ ops, a = (arun (aempty cap) ops).1

theorem CacheReach.step {cap : Nat} {a : ALru Key Tmpl} (h : CacheReach cap a) (op : Op Key Tmpl) :
    CacheReach cap (astep a op).1 := by
  obtain ⟨ops, rfl⟩ := h
  exact ⟨ops ++ [op], (arun_append _ ops op).symm⟩

theorem load_reach {cfg : Cfg} {fs : FS} {s s' : LState} {r : Req} {res : Res} {cap : Nat}
    (hr : CacheReach cap s.cache) (h : load cfg fs s r = some (s', res)) : CacheReach cap s'.cache := by
  obtain ⟨key, _, he⟩ := load_effect h
  exact he.cache_induction (fun a op _ h => h.step op) hr

theorem hrun_reach (cfg : Cfg) (w : World) (cap : Nat) (hr : CacheReach cap w.ls.cache) (ops : List HOp) :
    CacheReach cap (hrun cfg w ops).1.ls.cache :=
  hrun_ls_induction (P := fun s => CacheReach cap s.cache) load_reach hr ops

end Genshi.Loader
