/-
  C15 / C16 — the history invariant of the loader (every cached template whose up-to-date check
  compares modification times was parsed from what its file held at that time), along the moves
  of the loader state, a whole `load`, and histories.
-/
import Genshi.Lemmas.Loader
namespace Genshi.Conc
open Genshi.Lru Genshi.Loader

/-- the history invariant of C15 (`Loader.Inv`) without its clause `lock = 0`, which does not hold
    while a load is under way (C16 needs it inside the section); `InvL.of_inv` and `InvL.to_inv`
    convert -/
structure InvL (fs : FS) (clock : Nat) (ls : LState) : Prop where
  mtimes : ∀ loc f, fs loc = some f → f.mtime < clock
  coherent : ∀ k t, (k, t) ∈ ls.cache.items → ∀ loc m, ls.utd k = some (.mtime loc m) →
      loc = t.loc ∧ m < clock ∧ ∀ f, fs loc = some f → f.mtime = m → f.content = t.content
  awf : AWf ls.cache
  objs : ∀ k t, (k, t) ∈ ls.cache.items → t.obj < ls.nextObj
  parsedOld : ∀ o ∈ ls.parsed, o < ls.nextObj

/-- what a suspended or running load carries is consistent with the files -/
def UtdOK (fs : FS) (t : Tmpl) (u : Utd) : Prop :=
  ∀ loc m, u = .mtime loc m → loc = t.loc ∧ ∃ f, fs loc = some f ∧ f.mtime = m ∧ f.content = t.content

/-- the check a path item hands out with a file that is there fits the template made from it -/
theorem UtdOK.of_found {fs : FS} {loc : Loc} {f : File} {u : Utd} {t : Tmpl} (hfs : fs loc = some f)
    (hu : u = .never ∨ u = .mtime loc f.mtime) (hl : loc = t.loc) (hc : f.content = t.content) :
    UtdOK fs t u := by
  intro l m hum
  rcases hu with rfl | rfl
  · cases hum
  · cases hum; exact ⟨hl, f, hfs, rfl, hc⟩

theorem touched_invL {fs : FS} {clock : Nat} {ls : LState} (key : Key) (h : InvL fs clock ls) :
    InvL fs clock (touched ls key) := by
  obtain ⟨hu, hn, _, hp, _⟩ := touched_fields ls key
  refine ⟨h.mtimes, ?_, touched_awf key h.awf, ?_, by rw [hp, hn]; exact h.parsedOld⟩
  · intro k t hm loc m hutd
    rw [hu] at hutd
    exact h.coherent k t (mem_touched hm) loc m hutd
  · intro k t hm
    rw [hn]; exact h.objs k t (mem_touched hm)

theorem parsed_invL {fs : FS} {clock : Nat} {ls : LState} (cfg : Cfg) (h : InvL fs clock ls) :
    InvL fs clock (parsedSt cfg ls) := by
  obtain ⟨pc, pu, _, pn, pp, _⟩ := parsedSt_fields cfg ls
  refine ⟨h.mtimes, by rw [pc, pu]; exact h.coherent, by rw [pc]; exact h.awf, ?_, ?_⟩
  · rw [pc, pn]; exact fun k t hm => Nat.lt_succ_of_lt (h.objs k t hm)
  · rw [pn, pp]
    intro o ho
    rcases List.mem_cons.mp ho with rfl | ho
    · exact Nat.lt_succ_self _
    · exact Nat.lt_succ_of_lt (h.parsedOld o ho)

theorem stored_invL {fs : FS} {clock : Nat} {ls : LState} {key : Key} {t : Tmpl} {u : Utd}
    (h : InvL fs clock ls) (hobj : t.obj < ls.nextObj) (hutd : UtdOK fs t u) :
    InvL fs clock (storedSt ls key t u) := by
  refine ⟨h.mtimes, ?_, astep_awf h.awf _, ?_, h.parsedOld⟩
  · intro k t' hm l m hu'
    rcases mem_aset hm with heq | ⟨hm', hne⟩
    · cases heq
      simp only [storedSt, utdSet, if_true, Option.some.injEq] at hu'
      obtain ⟨h1, f, h2, h3, h4⟩ := hutd l m hu'
      refine ⟨h1, by rw [← h3]; exact h.mtimes l f h2, ?_⟩
      intro f' hf' _
      rw [h2] at hf'; cases hf'; exact h4
    · have hne' : k ≠ key := hne
      simp only [storedSt, utdSet, hne', if_false] at hu'
      exact h.coherent k t' hm' l m hu'
  · intro k t' hm
    rcases mem_aset hm with heq | ⟨hm', _⟩
    · cases heq; exact hobj
    · exact h.objs k t' hm'

/-- a cached template whose up-to-date check passes has the content its file has now -/
theorem InvL.current {fs : FS} {clock : Nat} {ls : LState} {key : Key} {t : Tmpl} (hi : InvL fs clock ls)
    (hm : (key, t) ∈ ls.cache.items) (hcur : stillCurrent fs ls key = true) :
    ∃ f, fs t.loc = some f ∧ f.content = t.content := by
  obtain ⟨loc, f, hu, hf⟩ := stillCurrent_iff.mp hcur
  obtain ⟨h1, _, h3⟩ := hi.coherent key t hm loc _ hu
  exact ⟨f, h1 ▸ hf, h3 f hf rfl⟩

theorem _root_.Genshi.Loader.Outcome.invL {cfg : Cfg} {fs : FS} {s s' : LState} {r : Req} {key : Key}
    {res : Res} {clock : Nat} (ho : Outcome cfg fs s r key s' res) (h : InvL fs clock s) :
    InvL fs clock s' := by
  have ht := touched_invL key h
  cases ho with
  | callback => exact parsed_invL cfg ht
  | parsed _ _ _ hfs _ _ hu =>
    refine stored_invL (parsed_invL cfg ht) ?_ (.of_found hfs hu rfl rfl)
    rw [(parsedSt_fields cfg _).2.2.2.1, (touched_fields s key).2.1]
    exact Nat.lt_succ_self _
  | _ => exact ht

end Genshi.Conc

namespace Genshi.Loader
open Genshi.Lru Genshi.Conc

/-- every modification gets a new mtime (logical clock); every cached template whose
    up-to-date check is an mtime comparison was parsed from the content its file had at that
    mtime; the cache is a bounded LRU map of distinct keys; object identities are fresh; the
    lock is free between calls -/
structure Inv (w : World) : Prop where
  mtimes : ∀ loc f, w.fs loc = some f → f.mtime < w.clock
  coherent : ∀ k t, (k, t) ∈ w.ls.cache.items → ∀ loc m, w.ls.utd k = some (.mtime loc m) →
      loc = t.loc ∧ m < w.clock ∧ ∀ f, w.fs loc = some f → f.mtime = m → f.content = t.content
  awf : AWf w.ls.cache
  objs : ∀ k t, (k, t) ∈ w.ls.cache.items → t.obj < w.ls.nextObj
  parsedOld : ∀ o ∈ w.ls.parsed, o < w.ls.nextObj
  lock : w.ls.lock = 0

theorem inv_init (cap : Nat) : Inv (World.init cap) :=
  ⟨by simp [World.init], by simp [World.init, LState.init, aempty], aempty_awf cap,
   by simp [World.init, LState.init, aempty], by simp [World.init, LState.init], rfl⟩

theorem _root_.Genshi.Conc.InvL.of_inv {fs : FS} {clock : Nat} {ls : LState} (h : Inv ⟨fs, clock, ls⟩) :
    InvL fs clock ls :=
  ⟨h.mtimes, h.coherent, h.awf, h.objs, h.parsedOld⟩

theorem _root_.Genshi.Conc.InvL.to_inv {fs : FS} {clock : Nat} {ls : LState} (h : InvL fs clock ls)
    (hl : ls.lock = 0) : Inv ⟨fs, clock, ls⟩ :=
  ⟨h.mtimes, h.coherent, h.awf, h.objs, h.parsedOld, hl⟩

theorem inv_load {cfg : Cfg} {w : World} {r : Req} {ls' : LState} {res : Res}
    (hi : Inv w) (h : load cfg w.fs w.ls r = some (ls', res)) : Inv { w with ls := ls' } := by
  obtain ⟨key, _, ho⟩ := load_outcome h
  exact (ho.invL (InvL.of_inv hi)).to_inv (by rw [ho.effect.lock, hi.lock])

theorem inv_fsSet {w : World} (hi : Inv w) (loc : Loc) (v : Option File) (clock' : Nat) (hc : w.clock ≤ clock')
    (hv : ∀ f, v = some f → f.mtime < clock' ∧
      ∀ k t m, (k, t) ∈ w.ls.cache.items → w.ls.utd k = some (.mtime loc m) → m ≠ f.mtime) :
    Inv { w with fs := fsSet w.fs loc v, clock := clock' } := by
  refine ⟨?_, ?_, hi.awf, hi.objs, hi.parsedOld, hi.lock⟩
  · intro l f hf
    simp only [fsSet] at hf
    split at hf
    · exact (hv f hf).1
    · exact Nat.lt_of_lt_of_le (hi.mtimes l f hf) hc
  · intro k t hm l m hutd
    obtain ⟨h1, h2, h3⟩ := hi.coherent k t hm l m hutd
    refine ⟨h1, Nat.lt_of_lt_of_le h2 hc, fun f hf hfm => ?_⟩
    simp only [fsSet] at hf
    split at hf
    · rename_i e
      subst e
      exact absurd hfm.symm ((hv f hf).2 k t m hm hutd)
    · exact h3 f hf hfm

theorem inv_hstep {cfg : Cfg} {w : World} (hi : Inv w) (op : HOp) : Inv (hstep cfg w op).1 := by
  -- `write` and `touch` stamp the file with the clock, which every remembered time is below
  have stamp : ∀ loc c b, Inv { w with fs := fsSet w.fs loc (some ⟨c, b, w.clock⟩), clock := w.clock + 1 } :=
    fun loc c b => inv_fsSet hi loc _ _ (Nat.le_succ _) fun f hf => by
      cases hf
      exact ⟨Nat.lt_succ_self _, fun k t m hm hu => Nat.ne_of_lt (hi.coherent k t hm loc m hu).2.1⟩
  cases op with
  | write loc c b => exact stamp loc c b
  | touch loc =>
    simp only [hstep]
    cases w.fs loc with
    | none => exact hi
    | some f0 => exact stamp loc _ _
  | delete loc => exact inv_fsSet hi loc none _ (Nat.le_refl _) fun f hf => nomatch hf
  | load r =>
    simp only [hstep]
    cases hl : load cfg w.fs w.ls r with
    | none => exact hi
    | some p => exact inv_load hi hl

theorem inv_hrun {cfg : Cfg} {w : World} (hi : Inv w) (ops : List HOp) : Inv (hrun cfg w ops).1 := by
  induction ops generalizing w with
  | nil => exact hi
  | cons op ops ih => simp only [hrun]; exact ih (inv_hstep hi op)

theorem load_current {cfg : Cfg} {w : World} {r : Req} {ls' : LState} {t : Tmpl}
    (hi : Inv w) (har : cfg.autoReload = true) (h : load cfg w.fs w.ls r = some (ls', .ok t)) :
    ∃ f, w.fs t.loc = some f ∧ f.content = t.content := by
  obtain ⟨key, _, ho⟩ := load_outcome h
  cases ho with
  | served hs =>
    obtain ⟨hl, hc⟩ := served_eq_some.mp hs
    exact (InvL.of_inv hi).current (alookup_mem hl) (hc.resolve_left (by rw [har]; nofun))
  | parsed _ _ _ hfs => exact ⟨_, hfs, rfl⟩

theorem firstOnPath_some {fs : FS} {key : Key} {entries : List Entry} {loc : Loc} {f : File}
    (h : firstOnPath fs key entries = some (loc, f)) : fs loc = some f := by
  induction entries with
  | nil => simp [firstOnPath] at h
  | cons e rest ih =>
    unfold firstOnPath at h
    cases hl : locate e key with
    | none => simp only [hl] at h; exact ih h
    | some l =>
      simp only [hl] at h
      cases hf : fs l with
      | none => simp only [hf] at h; exact ih h
      | some f' =>
        simp only [hf, Option.some.injEq, Prod.mk.injEq] at h
        obtain ⟨rfl, rfl⟩ := h
        exact hf

/-- the hypothesis that excludes finding C15-shadow: whenever this request would be served from
    the cache, the cached template's file is the one found first on the search path now -/
def NoShadow (cfg : Cfg) (w : World) (r : Req) : Prop :=
  ∀ key t0, resolve cfg.path.isEmpty r = some key → alookup key w.ls.cache.items = some t0 →
    stillCurrent w.fs w.ls key = true →
    ∃ entries isabs f, searchPath cfg r key = some (entries, isabs) ∧
      firstOnPath w.fs key entries = some (t0.loc, f)

theorem load_current_first {cfg : Cfg} {w : World} {r : Req} {ls' : LState} {t : Tmpl}
    (hi : Inv w) (har : cfg.autoReload = true) (hf : r.fault = .none) (hns : NoShadow cfg w r)
    (h : load cfg w.fs w.ls r = some (ls', .ok t)) :
    ∃ key entries isabs f, resolve cfg.path.isEmpty r = some key ∧
      searchPath cfg r key = some (entries, isabs) ∧
      firstOnPath w.fs key entries = some (t.loc, f) ∧ f.content = t.content := by
  obtain ⟨key, hk, ho⟩ := load_outcome h
  cases ho with
  | served hs =>
    obtain ⟨hl, hc⟩ := served_eq_some.mp hs
    have hcur : stillCurrent w.fs w.ls key = true := hc.resolve_left (by rw [har]; nofun)
    obtain ⟨entries, isabs, f, hsp, hfp⟩ := hns key t hk hl hcur
    obtain ⟨f', hf', hcont⟩ := (InvL.of_inv hi).current (alookup_mem hl) hcur
    cases hf'.symm.trans (firstOnPath_some hfp)
    exact ⟨key, entries, isabs, f, hk, hsp, hfp, hcont⟩
  | parsed _ hsp hw => exact ⟨key, _, _, _, hk, hsp, firstOnPath_of_found (hf ▸ hw), rfl⟩

/-- callbacks and parses go together -/
structure CbInv (cfg : Cfg) (s : LState) : Prop where
  same : cfg.hasCallback = true → s.cbLog = s.parsed
  nodup : s.parsed.Nodup
  old : ∀ o ∈ s.parsed, o < s.nextObj

theorem cbInv_load {cfg : Cfg} {fs : FS} {s s' : LState} {r : Req} {res : Res}
    (hi : CbInv cfg s) (h : load cfg fs s r = some (s', res)) : CbInv cfg s' := by
  obtain ⟨key, _, he⟩ := load_effect h
  rcases he.counters with ⟨h1, h2, h3⟩ | ⟨h1, h2, h3⟩
  · exact ⟨fun hc => by rw [h2, h3]; exact hi.same hc, by rw [h2]; exact hi.nodup, by rw [h1, h2]; exact hi.old⟩
  · refine ⟨fun hc => by rw [h2, h3, hc, hi.same hc]; rfl, ?_, ?_⟩
    · rw [h2]
      exact List.nodup_cons.mpr ⟨fun hm => Nat.lt_irrefl _ (hi.old _ hm), hi.nodup⟩
    · rw [h1, h2]
      intro o ho
      rcases List.mem_cons.mp ho with rfl | ho
      · exact Nat.lt_succ_self _
      · exact Nat.lt_succ_of_lt (hi.old o ho)

theorem cbInv_hrun {cfg : Cfg} {w : World} (hi : CbInv cfg w.ls) (ops : List HOp) :
    CbInv cfg (hrun cfg w ops).1.ls :=
  hrun_ls_induction cbInv_load hi ops

end Genshi.Loader
