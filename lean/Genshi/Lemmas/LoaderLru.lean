/-
  C15 — closing the chain: the cache of the loader model is the abstract LRU map reached by a
  sequence of `get`/`set` operations (`CacheReach`, `Lemmas/Loader.lean`), so (by `crun_empty`) the
  concrete linked structure driven by the same operations is well-formed and represents exactly
  that cache.
-/
import Genshi.Lemmas.Loader
import Genshi.Lemmas.Lru
namespace Genshi.Loader
open Genshi.Lru

theorem CacheReach.concrete {cap : Nat} {a : ALru Key Tmpl} (h : CacheReach cap a) (d : Node Key Tmpl) :
    ∃ (cops : List (Op Key Tmpl)) (cc : CLru Key Tmpl) (outs : List (Out Key Tmpl)),
      crun (empty cap d) cops = some (cc, outs) ∧ Wf cc ∧ abs cc = some a ∧ len cc ≤ cap := by
  obtain ⟨cops, hc⟩ := h
  obtain ⟨cc, ids, hrun', hrepr, habs, hlen⟩ := crun_empty cap d cops
  exact ⟨cops, cc, _, hrun', ⟨ids, hrepr⟩, by rw [hrepr.abs, habs, hc], hlen⟩

end Genshi.Loader
