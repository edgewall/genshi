/-
  C15 — the loader over string-level path names (`Genshi/Model/LoaderPath.lean`, namespace `LoaderP`: a model of
  its own, so `load`, `Effect`, `touched` here are not those of `Lemmas/Loader.lean`).  The branches of `instantiate`,
  `search` and `loadBody` (`*_cases`) are summed up in `Effect`; the search is the specification walk `firstOnPathF`
  (`load_by_firstF`); a load leaves the other keys alone; a file rewritten in place is noticed (`inplace_noticed`).
-/
import Genshi.Model.LoaderPath
import Genshi.Lemmas.LruAbs
namespace Genshi.LoaderP
open Genshi.Lru
open Genshi.Loader (File Fault Err)

theorem instantiate_cases (cfg : Cfg) (s : LState) (r : Req) (key : Key) (isabs : Bool)
    (fp name : Str) (f : File) (u : Utd) :
    let t : Tmpl := ⟨s.nextObj, fp, if isabs then fp else name, f.content, r.cls, r.enc⟩
    let s1 : LState := { s with nextObj := s.nextObj + 1, parsed := s.nextObj :: s.parsed }
    let s2 : LState := if cfg.hasCallback then { s1 with cbLog := s.nextObj :: s1.cbLog } else s1
    (f.bad = true ∧ instantiate cfg s r key isabs fp name f u = (s, .err .syntaxError)) ∨
    (f.bad = false ∧ cfg.hasCallback = true ∧ r.cbRaise = true ∧
      instantiate cfg s r key isabs fp name f u = (s2, .err .callback)) ∨
    (f.bad = false ∧ (cfg.hasCallback && r.cbRaise) = false ∧
      instantiate cfg s r key isabs fp name f u =
        ({ s2 with cache := (astep s2.cache (.set key t)).1, utd := utdSet s2.utd key u }, .ok t)) := by
  intro t s1 s2
  unfold instantiate
  by_cases hb : f.bad = true
  · left; simp [hb]
  · have hb' : f.bad = false := by simpa using hb
    by_cases hc : (cfg.hasCallback && r.cbRaise) = true
    · right; left
      simp only [Bool.and_eq_true] at hc
      refine ⟨hb', hc.1, hc.2, ?_⟩
      simp [hb', hc.1, hc.2, s2, s1]
    · right; right
      have hc' : (cfg.hasCallback && r.cbRaise) = false := by simpa using hc
      refine ⟨hb', hc', ?_⟩
      simp only [hb', Bool.false_eq_true, ↓reduceIte, hc']
      rfl

theorem search_cases (cfg : Cfg) (fs : FS) (s : LState) (r : Req) (key : Key) (isabs : Bool)
    (entries : List Entry) :
    search cfg fs s r key isabs entries = (s, .err .notFound) ∨
    search cfg fs s r key isabs entries = (s, .err .loadFunc) ∨
    ∃ e ∈ entries, ∃ fp name f u, probe fs r.fault e key = .found fp name f u ∧
      search cfg fs s r key isabs entries = instantiate cfg s r key isabs fp name f u := by
  induction entries with
  | nil => left; rfl
  | cons e rest ih =>
    unfold search
    cases hp : probe fs r.fault e key with
    | skip =>
      simp only
      rcases ih with h | h | ⟨e', he', fp, name, f, u, hp', h⟩
      · left; exact h
      · right; left; exact h
      · right; right; exact ⟨e', List.mem_cons_of_mem _ he', fp, name, f, u, hp', h⟩
    | raise => right; left; rfl
    | found fp name f u => right; right; exact ⟨e, by simp, fp, name, f, u, hp, rfl⟩

/-- the state after the cache lookup: a hit is a use -/
def touched (s : LState) (key : Key) : LState :=
  match alookup key s.cache.items with
  | some _ => { s with cache := (astep s.cache (.get key)).1 }
  | none => s

theorem loadBody_cases (cfg : Cfg) (fs : FS) (s : LState) (r : Req) (key : Key) :
    (∃ t, alookup key s.cache.items = some t ∧
        (cfg.autoReload = false ∨ stillCurrent fs s key = true) ∧
        loadBody cfg fs s r key = (touched s key, .ok t)) ∨
    ((alookup key s.cache.items = none ∨ (cfg.autoReload = true ∧ stillCurrent fs s key = false)) ∧
      ((searchPath cfg r key = none ∧ loadBody cfg fs s r key = (touched s key, .err .noSearchPath)) ∨
       ∃ entries isabs, searchPath cfg r key = some (entries, isabs) ∧
         loadBody cfg fs s r key = search cfg fs (touched s key) r key isabs entries)) := by
  have hsc : ∀ c, stillCurrent fs { s with cache := c } key = stillCurrent fs s key := fun _ => rfl
  unfold loadBody touched
  cases hl : alookup key s.cache.items with
  | none =>
    right
    refine ⟨Or.inl rfl, ?_⟩
    cases hsp : searchPath cfg r key with
    | none => left; simp
    | some p => right; exact ⟨p.1, p.2, rfl, by simp⟩
  | some t =>
    by_cases har : cfg.autoReload = true
    · by_cases hcur : stillCurrent fs s key = true
      · left; refine ⟨t, rfl, Or.inr hcur, ?_⟩
        simp [har, hsc, hcur]
      · have hcur' : stillCurrent fs s key = false := by simpa using hcur
        right
        refine ⟨Or.inr ⟨har, hcur'⟩, ?_⟩
        cases hsp : searchPath cfg r key with
        | none => left; simp [har, hsc, hcur']
        | some p => right; exact ⟨p.1, p.2, rfl, by simp [har, hsc, hcur']⟩
    · have har' : cfg.autoReload = false := by simpa using har
      left; refine ⟨t, rfl, Or.inl har', ?_⟩
      simp [har']

theorem touched_fields (s : LState) (key : Key) :
    (touched s key).utd = s.utd ∧ (touched s key).nextObj = s.nextObj ∧
    (touched s key).cbLog = s.cbLog ∧ (touched s key).parsed = s.parsed ∧
    (touched s key).lock = s.lock := by
  unfold touched; split <;> simp

/-- summary of one `loadBody`: the possible effects, by outcome -/
structure Effect (cfg : Cfg) (s s' : LState) (key : Key) (res : Res) : Prop where
  lock : s'.lock = s.lock
  counters :
    (s'.nextObj = s.nextObj ∧ s'.parsed = s.parsed ∧ s'.cbLog = s.cbLog) ∨
    (s'.nextObj = s.nextObj + 1 ∧ s'.parsed = s.nextObj :: s.parsed ∧
      s'.cbLog = if cfg.hasCallback then s.nextObj :: s.cbLog else s.cbLog)
  failed : ∀ e, res = .err e → s'.cache = (touched s key).cache ∧ s'.utd = s.utd
  ok : ∀ t, res = .ok t →
    (alookup key s.cache.items = some t ∧ s'.cache = (touched s key).cache ∧ s'.utd = s.utd ∧
      s'.nextObj = s.nextObj) ∨
    (t.obj = s.nextObj ∧ s'.nextObj = s.nextObj + 1 ∧
      s'.cache = (astep (touched s key).cache (.set key t)).1 ∧ ∃ u, s'.utd = utdSet s.utd key u)

theorem loadBody_effect (cfg : Cfg) (fs : FS) (s : LState) (r : Req) (key : Key) :
    Effect cfg s (loadBody cfg fs s r key).1 key (loadBody cfg fs s r key).2 := by
  obtain ⟨hu, hn, hc, hp, hl⟩ := touched_fields s key
  -- the lookup only marks the use
  have quiet : ∀ res, (∀ t, res = .ok t → alookup key s.cache.items = some t) →
      Effect cfg s (touched s key) key res := fun res hres =>
    ⟨hl, Or.inl ⟨hn, hp, hc⟩, fun _ _ => ⟨rfl, hu⟩, fun t ht => Or.inl ⟨hres t ht, rfl, hu, hn⟩⟩
  rcases loadBody_cases cfg fs s r key with ⟨t, hlook, _, h⟩ | ⟨_, ⟨_, h⟩ | ⟨entries, isabs, _, h⟩⟩ <;> rw [h]
  · exact quiet _ fun t' ht' => by cases ht'; exact hlook
  · exact quiet _ nofun
  · rcases search_cases cfg fs (touched s key) r key isabs entries with h | h | ⟨_, _, fp, name, f, u, _, h⟩ <;>
      rw [h]
    · exact quiet _ nofun
    · exact quiet _ nofun
    · rcases instantiate_cases cfg (touched s key) r key isabs fp name f u with
        ⟨_, h⟩ | ⟨_, hcb, _, h⟩ | ⟨_, _, h⟩ <;> rw [h]
      · exact quiet _ nofun
      · exact ⟨by simp [hcb, hl], Or.inr ⟨by simp [hcb, hn], by simp [hcb, hn, hp], by simp [hcb, hn, hc]⟩,
          fun _ _ => ⟨by simp [hcb], by simp [hcb, hu]⟩, nofun⟩
      · cases hcb : cfg.hasCallback <;>
          exact ⟨by simp [hl], Or.inr ⟨by simp [hn], by simp [hn, hp], by simp [hcb, hn, hc]⟩, nofun, fun t ht => by
            cases ht; exact Or.inr ⟨hn, by simp [hn], by simp, u, by simp [hu]⟩⟩

theorem load_def (cfg : Cfg) (fs : FS) (s : LState) (r : Req) : load cfg fs s r =
    ({ (loadBody cfg fs { s with lock := s.lock + 1 } r (resolve cfg.path.isEmpty r)).1 with
        lock := (loadBody cfg fs { s with lock := s.lock + 1 } r (resolve cfg.path.isEmpty r)).1.lock - 1 },
      (loadBody cfg fs { s with lock := s.lock + 1 } r (resolve cfg.path.isEmpty r)).2) := rfl

theorem load_effect (cfg : Cfg) (fs : FS) (s : LState) (r : Req) :
    Effect cfg s (load cfg fs s r).1 (resolve cfg.path.isEmpty r) (load cfg fs s r).2 := by
  obtain ⟨el, ec, ef, eo⟩ := loadBody_effect cfg fs { s with lock := s.lock + 1 } r (resolve cfg.path.isEmpty r)
  have ht : touched { s with lock := s.lock + 1 } (resolve cfg.path.isEmpty r) =
      { touched s (resolve cfg.path.isEmpty r) with lock := s.lock + 1 } := by
    cases hh : alookup (resolve cfg.path.isEmpty r) s.cache.items <;> simp [touched, hh]
  rw [ht] at ef eo
  rw [load_def]
  exact ⟨(congrArg (· - 1) el).trans (Nat.add_sub_cancel ..), ec, ef, eo⟩

theorem search_firstF (cfg : Cfg) (fs : FS) (s : LState) (r : Req) (key : Key) (isabs : Bool)
    (entries : List Entry) :
    match firstOnPathF fs r.fault key entries with
    | .nothing => search cfg fs s r key isabs entries = (s, .err .notFound)
    | .raised => search cfg fs s r key isabs entries = (s, .err .loadFunc)
    | .file fp name f => ∃ checks : Bool, search cfg fs s r key isabs entries =
        instantiate cfg s r key isabs fp name f (if checks then .mtime fp f.mtime else .never) := by
  induction entries with
  | nil => simp [firstOnPathF, search]
  | cons e rest ih =>
    unfold firstOnPathF search probe
    cases hs : serve r.fault e key with
    | skip => simpa using ih
    | raise => simp
    | «at» fp name checks =>
      simp only
      cases hf : fs (normpath fp) with
      | none => simpa using ih
      | some f => exact ⟨checks, rfl⟩

theorem loadBody_walk (cfg : Cfg) (fs : FS) (s : LState) (r : Req) (key : Key)
    (hno : alookup key s.cache.items = none ∨ (cfg.autoReload = true ∧ stillCurrent fs s key = false)) :
    (searchPath cfg r key = none ∧ loadBody cfg fs s r key = (touched s key, .err .noSearchPath)) ∨
    ∃ entries isabs, searchPath cfg r key = some (entries, isabs) ∧
      match firstOnPathF fs r.fault key entries with
      | .nothing => loadBody cfg fs s r key = (touched s key, .err .notFound)
      | .raised => loadBody cfg fs s r key = (touched s key, .err .loadFunc)
      | .file fp name f => ∃ checks : Bool, loadBody cfg fs s r key =
          instantiate cfg (touched s key) r key isabs fp name f (if checks then .mtime fp f.mtime else .never) := by
  rcases loadBody_cases cfg fs s r key with ⟨t', hl, hc, _⟩ | ⟨_, h | ⟨entries, isabs, hsp, hb⟩⟩
  · exfalso
    rcases hno with hno | ⟨har, hcur⟩
    · rw [hno] at hl; cases hl
    · rcases hc with hc | hc
      · rw [har] at hc; cases hc
      · rw [hcur] at hc; cases hc
  · exact Or.inl h
  · refine Or.inr ⟨entries, isabs, hsp, ?_⟩
    rw [hb]
    exact search_firstF cfg fs (touched s key) r key isabs entries

theorem load_by_firstF (cfg : Cfg) (fs : FS) (s : LState) (r : Req)
    (hno : alookup (resolve cfg.path.isEmpty r) s.cache.items = none ∨
      (cfg.autoReload = true ∧ stillCurrent fs s (resolve cfg.path.isEmpty r) = false)) :
    let key := resolve cfg.path.isEmpty r
    let res := (load cfg fs s r).2
    (searchPath cfg r key = none ∧ res = .err .noSearchPath) ∨
    ∃ entries isabs, searchPath cfg r key = some (entries, isabs) ∧
      match firstOnPathF fs r.fault key entries with
      | .nothing => res = .err .notFound
      | .raised => res = .err .loadFunc
      | .file fp name f =>
        (f.bad = true ∧ res = .err .syntaxError) ∨
        (f.bad = false ∧ cfg.hasCallback = true ∧ r.cbRaise = true ∧ res = .err .callback) ∨
        (f.bad = false ∧ res = .ok ⟨s.nextObj, fp, if isabs then fp else name, f.content, r.cls, r.enc⟩) := by
  intro key res
  have hno' : alookup key ({ s with lock := s.lock + 1 } : LState).cache.items = none ∨
      (cfg.autoReload = true ∧ stillCurrent fs { s with lock := s.lock + 1 } key = false) := hno
  have h2 : res = (loadBody cfg fs { s with lock := s.lock + 1 } r key).2 := by
    show (load cfg fs s r).2 = _
    rw [load_def]
  have hn0 : (touched { s with lock := s.lock + 1 } key).nextObj = s.nextObj := (touched_fields _ key).2.1
  rcases loadBody_walk cfg fs _ r key hno' with ⟨hsp, hb⟩ | ⟨entries, isabs, hsp, hm⟩
  · exact Or.inl ⟨hsp, by rw [h2, hb]⟩
  · refine Or.inr ⟨entries, isabs, hsp, ?_⟩
    cases hfp : firstOnPathF fs r.fault key entries with
    | nothing => rw [hfp] at hm; simp only at hm ⊢; rw [h2, hm]
    | raised => rw [hfp] at hm; simp only at hm ⊢; rw [h2, hm]
    | file fp name f =>
      rw [hfp] at hm
      simp only at hm ⊢
      obtain ⟨checks, hm⟩ := hm
      rw [h2, hm]
      rcases instantiate_cases cfg (touched { s with lock := s.lock + 1 } key) r key isabs fp name f _ with
        ⟨hbad, hi⟩ | ⟨hbad, hcb, hr, hi⟩ | ⟨hbad, _, hi⟩ <;> rw [hi]
      · exact Or.inl ⟨hbad, rfl⟩
      · exact Or.inr (Or.inl ⟨hbad, hcb, hr, rfl⟩)
      · exact Or.inr (Or.inr ⟨hbad, by rw [hn0]⟩)

theorem touched_cache (s : LState) (key : Key) : (touched s key).cache = (astep s.cache (.get key)).1 := by
  unfold touched
  cases hl : alookup key s.cache.items <;> simp only [astep, hl]

theorem touched_awf {s : LState} (key : Key) (h : AWf s.cache) : AWf (touched s key).cache :=
  touched_cache s key ▸ astep_awf h (.get key)

/-- `load` acts on its cache only through `__getitem__` and `__setitem__` of its own key -/
theorem Effect.cache_induction {cfg : Cfg} {s s' : LState} {key : Key} {res : Res} {P : ALru Key Tmpl → Prop}
    (he : Effect cfg s s' key res)
    (hP : ∀ a op, (op = .get key ∨ ∃ t, op = .set key t) → P a → P (astep a op).1) (h : P s.cache) :
    P s'.cache := by
  have ht : P (touched s key).cache := touched_cache s key ▸ hP _ _ (Or.inl rfl) h
  cases res with
  | err e => rw [(he.failed e rfl).1]; exact ht
  | ok t =>
    rcases he.ok t rfl with ⟨_, hc, _⟩ | ⟨_, _, hc, _⟩ <;> rw [hc]
    · exact ht
    · exact hP _ _ (Or.inr ⟨t, rfl⟩) ht

theorem load_awf (cfg : Cfg) (fs : FS) (s : LState) (r : Req) (h : AWf s.cache) :
    AWf (load cfg fs s r).1.cache :=
  (load_effect cfg fs s r).cache_induction (fun _ op _ h => astep_awf h op) h

theorem hstep_awf (cfg : Cfg) (w : World) (op : HOp) (h : AWf w.ls.cache) :
    AWf (hstep cfg w op).1.ls.cache := by
  cases op with
  | write p c b => exact h
  | touch p =>
    simp only [hstep]
    cases w.fs p with
    | none => exact h
    | some f => exact h
  | delete p => exact h
  | load r => exact load_awf cfg w.fs w.ls r h

theorem hrun_awf (cfg : Cfg) (w : World) (ops : List HOp) (h : AWf w.ls.cache) :
    AWf (hrun cfg w ops).1.ls.cache := by
  induction ops generalizing w with
  | nil => exact h
  | cons op ops ih => exact ih (hstep cfg w op).1 (hstep_awf cfg w op h)

theorem alookup_touched (s : LState) (key k : Key) :
    alookup k (touched s key).cache.items = alookup k s.cache.items :=
  touched_cache s key ▸ alookup_get ..

theorem load_other_key (cfg : Cfg) (fs : FS) (s : LState) (r : Req) (k : Key) (t : Tmpl)
    (hk : k ≠ resolve cfg.path.isEmpty r)
    (h : alookup k (load cfg fs s r).1.cache.items = some t) : alookup k s.cache.items = some t :=
  (load_effect cfg fs s r).cache_induction
    (P := fun a => alookup k a.items = some t → alookup k s.cache.items = some t)
    (fun a op hop ih h' => by
      rcases hop with rfl | ⟨t', rfl⟩
      · exact ih (alookup_get a _ k ▸ h')
      · exact ih (alookup_set_ne hk h')) id h

theorem load_parsed_utd (cfg : Cfg) (fs : FS) (s : LState) (r : Req) (t : Tmpl)
    (hno : alookup (resolve cfg.path.isEmpty r) s.cache.items = none ∨
      (cfg.autoReload = true ∧ stillCurrent fs s (resolve cfg.path.isEmpty r) = false))
    (hres : (load cfg fs s r).2 = .ok t) :
    ∃ entries isabs fp name f, searchPath cfg r (resolve cfg.path.isEmpty r) = some (entries, isabs) ∧
      firstOnPathF fs r.fault (resolve cfg.path.isEmpty r) entries = .file fp name f ∧
      t.content = f.content ∧
      ((load cfg fs s r).1.utd (resolve cfg.path.isEmpty r) = some .never ∨
       (load cfg fs s r).1.utd (resolve cfg.path.isEmpty r) = some (.mtime fp f.mtime)) := by
  have hno' : alookup (resolve cfg.path.isEmpty r) ({ s with lock := s.lock + 1 } : LState).cache.items = none ∨
      (cfg.autoReload = true ∧
        stillCurrent fs { s with lock := s.lock + 1 } (resolve cfg.path.isEmpty r) = false) := hno
  rw [load_def] at hres ⊢
  simp only at hres ⊢
  rcases loadBody_walk cfg fs _ r _ hno' with ⟨_, hb⟩ | ⟨entries, isabs, hsp, hm⟩
  · rw [hb] at hres; cases hres
  · cases hfp : firstOnPathF fs r.fault (resolve cfg.path.isEmpty r) entries with
    | nothing => rw [hfp] at hm; simp only at hm; rw [hm] at hres; cases hres
    | raised => rw [hfp] at hm; simp only at hm; rw [hm] at hres; cases hres
    | file fp name f =>
      rw [hfp] at hm
      obtain ⟨checks, hm⟩ := hm
      rw [hm] at hres ⊢
      rcases instantiate_cases cfg _ r (resolve cfg.path.isEmpty r) isabs fp name f
          (if checks then .mtime fp f.mtime else .never) with ⟨_, hi⟩ | ⟨_, _, _, hi⟩ | ⟨_, _, hi⟩ <;>
        rw [hi] at hres ⊢
      · cases hres
      · cases hres
      · cases hres
        refine ⟨entries, isabs, fp, name, f, hsp, hfp, rfl, ?_⟩
        cases checks with
        | false => left; simp [utdSet]
        | true => right; simp [utdSet]

theorem firstOnPathF_doctored (fs : FS) (fault : Fault) (key : Key) (entries : List Entry)
    (fp name : Str) (f f' : File) (h : firstOnPathF fs fault key entries = .file fp name f) :
    fs (normpath fp) = some f ∧
    firstOnPathF (fsSet fs (normpath fp) (some f')) fault key entries = .file fp name f' := by
  induction entries with
  | nil => simp [firstOnPathF] at h
  | cons e rest ih =>
    unfold firstOnPathF at h ⊢
    cases hs : serve fault e key with
    | skip => rw [hs] at h; simp only at h ⊢; exact ih h
    | raise => rw [hs] at h; simp at h
    | «at» fp' name' checks =>
      rw [hs] at h
      simp only at h ⊢
      cases hf : fs (normpath fp') with
      | none =>
        rw [hf] at h
        simp only at h
        obtain ⟨hfs, hrest⟩ := ih h
        have hne : normpath fp' ≠ normpath fp := by
          intro e; rw [e, hfs] at hf; cases hf
        refine ⟨hfs, ?_⟩
        simp only [fsSet, hne, ↓reduceIte, hf]
        exact hrest
      | some f0 =>
        rw [hf] at h
        simp only [Found.file.injEq] at h
        obtain ⟨rfl, rfl, rfl⟩ := h
        exact ⟨hf, by simp [fsSet]⟩

theorem stillCurrent_doctored (fs : FS) (s : LState) (key : Key) (p : Str) (f : File) (c : Nat) (b : Bool)
    (hf : fs p = some f) :
    stillCurrent (fsSet fs p (some ⟨c, b, f.mtime⟩)) s key = stillCurrent fs s key := by
  unfold stillCurrent
  cases s.utd key with
  | none => rfl
  | some u =>
    cases u with
    | never => rfl
    | mtime fp m =>
      simp only
      by_cases hp : normpath fp = p
      · simp [fsSet, hp, hf]
      · simp [fsSet, hp]

theorem wouldOpen_some {cfg : Cfg} {fs : FS} {s : LState} {r : Req} {p : Str}
    (h : wouldOpen cfg fs s r = some p) :
    (alookup (resolve cfg.path.isEmpty r) s.cache.items = none ∨
      (cfg.autoReload = true ∧ stillCurrent fs s (resolve cfg.path.isEmpty r) = false)) ∧
    ∃ entries isabs fp name f, searchPath cfg r (resolve cfg.path.isEmpty r) = some (entries, isabs) ∧
      firstOnPathF fs r.fault (resolve cfg.path.isEmpty r) entries = .file fp name f ∧ p = normpath fp := by
  unfold wouldOpen at h
  simp only at h
  split at h
  · cases h
  · rename_i hserved
    refine ⟨?_, ?_⟩
    · cases hl : alookup (resolve cfg.path.isEmpty r) s.cache.items with
      | none => left; rfl
      | some v =>
        right
        simp only [hl, Option.isSome_some, Bool.true_and, Bool.or_eq_true, Bool.not_eq_true', not_or,
          Bool.not_eq_false, Bool.not_eq_true] at hserved
        exact ⟨hserved.1, hserved.2⟩
    · cases hsp : searchPath cfg r (resolve cfg.path.isEmpty r) with
      | none => simp [hsp] at h
      | some pr =>
        obtain ⟨entries, isabs⟩ := pr
        simp only [hsp] at h
        cases hfp : firstOnPathF fs r.fault (resolve cfg.path.isEmpty r) entries with
        | nothing => simp [hfp] at h
        | raised => simp [hfp] at h
        | file fp name f =>
          simp only [hfp, Option.some.injEq] at h
          exact ⟨entries, isabs, fp, name, f, rfl, hfp, h.symm⟩

theorem inplace_noticed (cfg : Cfg) (w : World) (r : Req) (c : Nat) (b : Bool) (p : Str) (f : File)
    (t : Tmpl) (hopen : wouldOpen cfg w.fs w.ls r = some p) (hf : w.fs p = some f)
    (hfresh : f.mtime < w.clock)
    (hres : (hstepW cfg w (.loadRewrite r c b)).2 = some (.ok t)) :
    t.content = c ∧ (hstepW cfg w (.loadRewrite r c b)).1.fs p = some ⟨c, b, w.clock⟩ ∧
    stillCurrent (hstepW cfg w (.loadRewrite r c b)).1.fs (hstepW cfg w (.loadRewrite r c b)).1.ls
      (resolve cfg.path.isEmpty r) = false := by
  obtain ⟨hno, entries, isabs, fp, name, f0, hsp, hfp, hp⟩ := wouldOpen_some hopen
  -- what the load reads (the "doctored" file system): the new content under the time taken before the rewrite
  let fsD : FS := fsSet w.fs p (some ⟨c, b, f.mtime⟩)
  have hstep : hstepW cfg w (.loadRewrite r c b) =
      ({ fs := fsSet w.fs p (some ⟨c, b, w.clock⟩), clock := w.clock + 1, ls := (load cfg fsD w.ls r).1 },
        some (load cfg fsD w.ls r).2) := by
    simp only [hstepW, hopen, hf]
    rfl
  rw [hstep] at hres ⊢
  simp only [Option.some.injEq] at hres
  obtain ⟨hfs0, hfpD⟩ := firstOnPathF_doctored w.fs r.fault _ entries fp name f0 ⟨c, b, f.mtime⟩ hfp
  rw [← hp] at hfs0 hfpD
  have hff : f0 = f := by rw [hf] at hfs0; exact (Option.some.inj hfs0).symm
  have hnoD : alookup (resolve cfg.path.isEmpty r) w.ls.cache.items = none ∨
      (cfg.autoReload = true ∧ stillCurrent fsD w.ls (resolve cfg.path.isEmpty r) = false) := by
    rcases hno with h | ⟨h1, h2⟩
    · exact Or.inl h
    · exact Or.inr ⟨h1, by rw [stillCurrent_doctored w.fs w.ls _ p f c b hf]; exact h2⟩
  obtain ⟨entries', isabs', fp', name', f', hsp', hfp', hcont, hutd⟩ := load_parsed_utd cfg fsD w.ls r t hnoD hres
  rw [hsp] at hsp'
  simp only [Option.some.injEq, Prod.mk.injEq] at hsp'
  obtain ⟨rfl, rfl⟩ := hsp'
  rw [hfpD] at hfp'
  simp only [Found.file.injEq] at hfp'
  obtain ⟨rfl, rfl, rfl⟩ := hfp'
  refine ⟨hcont, by simp [fsSet], ?_⟩
  unfold stillCurrent
  rcases hutd with hu | hu
  · simp only [hu]
  · simp only [hu, ← hp, fsSet, ↓reduceIte]
    have : w.clock ≠ f.mtime := by omega
    simpa using this

end Genshi.LoaderP
