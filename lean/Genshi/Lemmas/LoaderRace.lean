/-
  C15 / C16 — a replacement of the file a load is opening (`Genshi/Model/LoaderRace.lean`):
  with the modification time taken from the opened file, the racing load is the plain load over
  the file system it saw (`seenFs`) — so histories with racing replacements are plain histories
  and every theorem about those applies.
-/
import Genshi.Model.LoaderRace
import Genshi.Lemmas.LoaderInv
namespace Genshi.Loader
open Genshi.Lru

theorem searchRace_fired {fstat : Bool} {cfg : Cfg} {fs : FS} {clock : Nat} {s : LState} {r : Req}
    {key : Key} {isabs : Bool} {rw : RaceW} {entries : List Entry} {loc : Loc}
    (h : (searchRace fstat cfg fs clock s r key isabs rw entries).2 = some loc) : ∃ f, fs loc = some f := by
  induction entries with
  | nil => simp [searchRace] at h
  | cons e rest ih =>
    unfold searchRace at h
    cases hp : probe fs r.fault e key with
    | skip => simp only [hp] at h; exact ih h
    | raise => simp [hp] at h
    | found l f u =>
      simp only [hp] at h
      cases e with
      | fn d c => simp at h
      | dir d b =>
        obtain ⟨_, hfs, _⟩ := probe_found hp
        by_cases hb : rw.before = true
        · simp only [hb, ↓reduceIte, Option.some.injEq] at h; subst h; exact ⟨f, hfs⟩
        · simp only [hb, Bool.false_eq_true, ↓reduceIte, Option.some.injEq] at h; subst h; exact ⟨f, hfs⟩

/-- an entry that was passed over is passed over after the replacement too: it has no place for
    the name, or no file there, and then that place is not `loc` -/
theorem deliver_skip_fsSet {fs : FS} {e : Entry} {key : Key} {loc : Loc} {f : File}
    (v : Option File) (hd : deliver fs e key = .skip) (hf : fs loc = some f) :
    deliver (fsSet fs loc v) e key = .skip := by
  rcases deliver_cases fs e key with ⟨_, _, _, _, hd'⟩ | ⟨hno, _⟩
  · rw [hd'] at hd; cases hd
  · unfold deliver
    rcases hno with hl | ⟨l, hl, hfl⟩
    · rw [hl]
    · have : fsSet fs loc v l = none := by
        unfold fsSet
        split
        next e => rw [e, hf] at hfl; cases hfl
        next => exact hfl
      rw [hl]; simp only [this]

theorem probe_skip_fsSet {fs : FS} {fault : Fault} {e : Entry} {key : Key} {loc : Loc} {f : File}
    (v : Option File) (hp : probe fs fault e key = .skip) (hf : fs loc = some f) :
    probe (fsSet fs loc v) fault e key = .skip := by
  rw [probe_eq] at hp ⊢
  cases e with
  | dir d b => cases fault <;> exact deliver_skip_fsSet v hp hf
  | fn d c =>
    cases fault with
    | none => exact deliver_skip_fsSet v hp hf
    | io => rfl
    | other => cases hp

/-- the file system the racing load saw: with the replacement in place if it landed before `open` -/
def seenFs (fs : FS) (clock : Nat) (rw : RaceW) : Option Loc → FS
  | some loc => if rw.before then fsSet fs loc (some ⟨rw.content, rw.bad, clock⟩) else fs
  | none => fs

theorem searchRace_eq (cfg : Cfg) (fs : FS) (clock : Nat) (s : LState) (r : Req) (key : Key)
    (isabs : Bool) (rw : RaceW) (entries : List Entry) :
    (searchRace true cfg fs clock s r key isabs rw entries).1 =
      search cfg (seenFs fs clock rw (searchRace true cfg fs clock s r key isabs rw entries).2) s r key isabs
        entries := by
  induction entries with
  | nil => rfl
  | cons e rest ih =>
    cases hp : probe fs r.fault e key with
    | skip =>
      have hsr : searchRace true cfg fs clock s r key isabs rw (e :: rest) =
          searchRace true cfg fs clock s r key isabs rw rest := by rw [searchRace, hp]
      rw [hsr, ih, search]
      -- the item passed over is passed over in the file system seen as well
      have : probe (seenFs fs clock rw (searchRace true cfg fs clock s r key isabs rw rest).2) r.fault e key =
          .skip := by
        cases hf : (searchRace true cfg fs clock s r key isabs rw rest).2 with
        | none => exact hp
        | some loc =>
          obtain ⟨f0, hf0⟩ := searchRace_fired hf
          cases hb : rw.before with
          | true => simp only [seenFs, hb, if_true]; exact probe_skip_fsSet _ hp hf0
          | false => simp only [seenFs, hb, Bool.false_eq_true, if_false]; exact hp
      rw [this]
    | raise => rw [searchRace, search, hp]; simp only [seenFs]; rw [hp]
    | found loc f u =>
      obtain ⟨hl, _, hu⟩ := probe_found hp
      cases e with
      | fn d c => rw [searchRace, search, hp]; simp only [seenFs]; rw [hp]
      | dir d b =>
        rw [searchRace, search, hp]
        by_cases hb : rw.before = true
        · -- the new file is what `open` finds
          have hp' : probe (fsSet fs loc (some ⟨rw.content, rw.bad, clock⟩)) r.fault (.dir d b) key =
              .found loc ⟨rw.content, rw.bad, clock⟩ (.mtime loc clock) := by
            unfold probe; simp [hl, fsSet]
          simp only [hb, if_true, seenFs, hp']
        · simp only [hb, if_false, seenFs, hp, Bool.false_eq_true]
          rw [hu]; rfl

/-- the rest of `loadBodyRace` when the cache does not answer (`walk`, with where the replacement landed) -/
def walkRace (fstat : Bool) (cfg : Cfg) (fs : FS) (clock : Nat) (s1 : LState) (r : Req) (key : Key) (rw : RaceW) :
    (LState × Res) × Option Loc :=
  match searchPath cfg r key with
  | none => ((s1, .err .noSearchPath), none)
  | some (entries, isabs) => searchRace fstat cfg fs clock s1 r key isabs rw entries

theorem loadBodyRace_eq (fstat : Bool) (cfg : Cfg) (fs : FS) (clock : Nat) (s : LState) (r : Req) (key : Key)
    (rw : RaceW) :
    loadBodyRace fstat cfg fs clock s r key rw =
      match served cfg fs s key (alookup key s.cache.items) with
      | some t => ((touched s key, .ok t), none)
      | none => walkRace fstat cfg fs clock (touched s key) r key rw := by
  rw [← served_congr (touched_fields s key).1]
  rfl

/-- a stale entry stays stale when a file gets a time that no remembered time has reached -/
theorem stillCurrent_fsSet {fs : FS} {s : LState} {key : Key} {loc : Loc} {c : Nat} {b : Bool}
    {clock : Nat} (hold : ∀ l m, s.utd key = some (.mtime l m) → m < clock)
    (h : stillCurrent fs s key = false) :
    stillCurrent (fsSet fs loc (some ⟨c, b, clock⟩)) s key = false := by
  rw [Bool.eq_false_iff] at h ⊢
  intro h'
  obtain ⟨l, f, hu, hf⟩ := stillCurrent_iff.mp h'
  unfold fsSet at hf
  split at hf
  · cases hf; exact Nat.lt_irrefl _ (hold l clock hu)
  · exact h (stillCurrent_iff.mpr ⟨l, f, hu, hf⟩)

theorem loadBodyRace_seen (cfg : Cfg) (fs : FS) (clock : Nat) (s : LState) (r : Req) (key : Key) (rw : RaceW)
    (hold : ∀ t, alookup key s.cache.items = some t → ∀ l m, s.utd key = some (.mtime l m) → m < clock) :
    (loadBodyRace true cfg fs clock s r key rw).1 =
      loadBody cfg (seenFs fs clock rw (loadBodyRace true cfg fs clock s r key rw).2) s r key := by
  rw [loadBodyRace_eq, loadBody_eq]
  cases hs : served cfg fs s key (alookup key s.cache.items) with
  | some t => simp only [seenFs, hs]
  | none =>
    simp only
    unfold walkRace
    cases hsp : searchPath cfg r key with
    | none => simp only [seenFs, hs, walk, hsp]
    | some p =>
      simp only
      -- the cache does not answer in the file system seen either
      have hs' : served cfg (seenFs fs clock rw (searchRace true cfg fs clock (touched s key) r key p.2 rw p.1).2) s key
          (alookup key s.cache.items) = none := by
        cases hf : (searchRace true cfg fs clock (touched s key) r key p.2 rw p.1).2 with
        | none => exact hs
        | some loc =>
          cases hb : rw.before with
          | true =>
            simp only [seenFs, hb, if_true]
            rw [served_eq_none] at hs ⊢
            cases hl : alookup key s.cache.items with
            | none => exact Or.inl rfl
            | some t =>
              have hst := hs.resolve_left (by simp [hl])
              exact Or.inr ⟨hst.1, stillCurrent_fsSet (hold t hl) hst.2⟩
          | false => simp only [seenFs, hb, Bool.false_eq_true, if_false]; exact hs
      rw [hs', searchRace_eq]
      simp only [walk, hsp]

theorem loadRace_none {fstat : Bool} {cfg : Cfg} {fs : FS} {clock : Nat} {s : LState} {r : Req} {rw : RaceW} :
    loadRace fstat cfg fs clock s r rw = none ↔ load cfg fs s r = none := by
  unfold loadRace load
  cases resolve cfg.path.isEmpty r <;> simp


theorem loadRace_some {cfg : Cfg} {fs : FS} {clock : Nat} {s : LState} {r : Req} {rw : RaceW}
    {p : LState × Res} {fired : Option Loc}
    (hold : ∀ key t, alookup key s.cache.items = some t → ∀ l m, s.utd key = some (.mtime l m) → m < clock)
    (h : loadRace true cfg fs clock s r rw = some (p, fired)) :
    load cfg (seenFs fs clock rw fired) s r = some p := by
  cases hk : resolve cfg.path.isEmpty r with
  | none => rw [loadRace, hk] at h; cases h
  | some key =>
    rw [loadRace, hk] at h
    cases h
    rw [load, hk]
    simp only
    rw [← loadBodyRace_seen cfg fs clock { s with lock := s.lock + 1 } r key rw (hold key)]

/-- the plain history a racing load amounts to, given where the replacement landed -/
def linearise (r : Req) (rw : RaceW) : Option Loc → List HOp
  | none => [.load r]
  | some loc =>
    if rw.before then [.write loc rw.content rw.bad, .load r] else [.load r, .write loc rw.content rw.bad]

/-- where the replacement lands for this request in this world -/
def firedAt (cfg : Cfg) (w : World) (r : Req) (rw : RaceW) : Option Loc :=
  match loadRace true cfg w.fs w.clock w.ls r rw with
  | some (_, l) => l
  | none => none

theorem hrun_append (cfg : Cfg) (w : World) (a b : List HOp) :
    hrun cfg w (a ++ b) =
      ((hrun cfg (hrun cfg w a).1 b).1, (hrun cfg w a).2 ++ (hrun cfg (hrun cfg w a).1 b).2) := by
  induction a generalizing w with
  | nil => rfl
  | cons op a ih => simp only [List.cons_append, hrun, ih]

theorem hstepR_linear {cfg : Cfg} {w : World} (hi : Inv w) (r : Req) (rw : RaceW) :
    (hrun cfg w (linearise r rw (firedAt cfg w r rw))).1 = (hstepR true cfg w (.loadRace r rw)).1 ∧
    (hrun cfg w (linearise r rw (firedAt cfg w r rw))).2.filterMap id =
      [(hstepR true cfg w (.loadRace r rw)).2].filterMap id := by
  unfold firedAt hstepR
  cases hlr : loadRace true cfg w.fs w.clock w.ls r rw with
  | none =>
    have hl := loadRace_none.mp hlr
    simp [linearise, hrun, hstep, hl, hlr]
  | some q =>
    obtain ⟨⟨ls', res⟩, fired⟩ := q
    have hl := loadRace_some (fun key t ht l m hu => (hi.coherent key t (alookup_mem ht) l m hu).2.1) hlr
    cases fired with
    | none => simp [linearise, hrun, hstep, show load cfg w.fs w.ls r = _ from hl, hlr]
    | some loc =>
      cases hb : rw.before with
      | true =>
        simp [linearise, hb, hrun, hstep, show load cfg (fsSet w.fs loc _) w.ls r = _ from by simpa [seenFs, hb] using hl, hlr]
      | false =>
        simp [linearise, hb, hrun, hstep, show load cfg w.fs w.ls r = _ from by simpa [seenFs, hb] using hl, hlr]

/-- the time a modification sets differs from every time the loader remembers for that file
    (in particular from the file's current time while its cached template is current).  A
    different content under a remembered time is the known limit of reloading by modification
    time (`mtime_reuse_serves_stale` in `Props/C15.lean`). -/
def FreshTime (w : World) (loc : Loc) (m : Nat) : Prop :=
  ∀ k t m', (k, t) ∈ w.ls.cache.items → w.ls.utd k = some (.mtime loc m') → m' ≠ m

/-- a check over the cached entries: none of them remembers this time for this file -/
theorem freshTime_iff {w : World} {loc : Loc} {m : Nat} :
    FreshTime w loc m ↔ ∀ p ∈ w.ls.cache.items, w.ls.utd p.1 ≠ some (.mtime loc m) :=
  ⟨fun h p hp e => h p.1 p.2 m hp e rfl, fun h k t _ hm hu e => h (k, t) hm (e ▸ hu)⟩

theorem inv_hstepR {cfg : Cfg} {w : World} (hi : Inv w) (op : HOpR)
    (hv : match op with
      | .writeAt loc _ _ m => FreshTime w loc m
      | _ => True) : Inv (hstepR true cfg w op).1 := by
  cases op with
  | plain p => exact inv_hstep hi p
  | loadRace r rw =>
    rw [← (hstepR_linear (cfg := cfg) hi r rw).1]; exact inv_hrun hi _
  | writeAt loc c b m =>
    exact inv_fsSet hi loc _ _ (Nat.le_max_left ..) fun f hf => by
      cases hf
      exact ⟨Nat.lt_of_lt_of_le (Nat.lt_succ_self m) (Nat.le_max_right ..), hv⟩

def HOpR.isWriteAt : HOpR → Bool
  | .writeAt _ _ _ _ => true
  | _ => false

theorem hrunR_plain (cfg : Cfg) (ops : List HOpR) (hno : ∀ op ∈ ops, op.isWriteAt = false) :
    ∀ (w : World), Inv w →
    ∃ ops' : List HOp, (hrun cfg w ops').1 = (hrunR true cfg w ops).1 ∧
      (hrun cfg w ops').2.filterMap id = (hrunR true cfg w ops).2.filterMap id := by
  induction ops with
  | nil => intro w _; exact ⟨[], rfl, rfl⟩
  | cons op rest ih =>
    intro w hi
    have hno' : ∀ op ∈ rest, op.isWriteAt = false := fun o ho => hno o (List.mem_cons_of_mem _ ho)
    cases op with
    | plain p =>
      obtain ⟨rest', h1, h2⟩ := ih hno' (hstep cfg w p).1 (inv_hstep hi p)
      refine ⟨p :: rest', ?_, ?_⟩
      · simp only [hrun, hrunR, hstepR]; exact h1
      · simp only [hrun, hrunR, hstepR]
        cases (hstep cfg w p).2 <;> simp [h2]
    | loadRace r rw =>
      obtain ⟨hw, hres⟩ := hstepR_linear (cfg := cfg) hi r rw
      obtain ⟨rest', h1, h2⟩ := ih hno' _ (inv_hstepR hi (.loadRace r rw) trivial)
      refine ⟨linearise r rw (firedAt cfg w r rw) ++ rest', ?_, ?_⟩
      · rw [hrun_append]; simp only [hrunR]; rw [hw]; exact h1
      · rw [hrun_append]; simp only [hrunR, List.filterMap_append]
        rw [hres, hw, h2]
        cases (hstepR true cfg w (.loadRace r rw)).2 <;> simp
    | writeAt loc c b m =>
      have := hno (.writeAt loc c b m) (by simp)
      simp [HOpR.isWriteAt] at this

/-- every `writeAt` of the history sets a fresh time, judged in the world it happens in -/
def ValidR (cfg : Cfg) : World → List HOpR → Prop
  | _, [] => True
  | w, op :: ops =>
    (match op with
      | .writeAt loc _ _ m => FreshTime w loc m
      | _ => True) ∧ ValidR cfg (hstepR true cfg w op).1 ops

theorem validR_of_noWriteAt (cfg : Cfg) (ops : List HOpR) (hno : ∀ op ∈ ops, op.isWriteAt = false) :
    ∀ w, ValidR cfg w ops := by
  induction ops with
  | nil => intro _; trivial
  | cons op rest ih =>
    intro w
    refine ⟨?_, ih (fun o ho => hno o (List.mem_cons_of_mem _ ho)) _⟩
    cases op with
    | writeAt loc c b m =>
      have := hno (.writeAt loc c b m) (by simp)
      simp [HOpR.isWriteAt] at this
    | _ => trivial

theorem inv_hrunR {cfg : Cfg} (ops : List HOpR) : ∀ {w : World}, Inv w → ValidR cfg w ops →
    Inv (hrunR true cfg w ops).1 := by
  induction ops with
  | nil => intro w hi _; exact hi
  | cons op rest ih =>
    intro w hi hv
    simp only [hrunR]
    exact ih (inv_hstepR hi op hv.1) hv.2

end Genshi.Loader
