/-
  C16 — lemmas about the model with several re-entrant locks (`Genshi/Model/LockOrder.lean`):
  the invariant (every thread keeps the discipline `ok`, no lock has two holders) and progress.
-/
import Genshi.Model.LockOrder
namespace Genshi.LockOrder

theorem freeFor_iff (g : G) (t : Tid) (l : Lock) :
    freeFor g t l = true ↔ ∀ u, u < g.n → u ≠ t → l ∉ (g.threads u).held := by
  unfold freeFor
  rw [List.all_eq_true]
  constructor
  · intro h u hu hne hmem
    have := h u (List.mem_range.mpr hu)
    simp only [Bool.or_eq_true, beq_iff_eq, Bool.not_eq_true', List.contains_eq_mem, decide_eq_false_iff_not] at this
    rcases this with h1 | h1
    · exact hne h1
    · exact h1 hmem
  · intro h u hu
    have hu' := List.mem_range.mp hu
    by_cases hut : u = t
    · simp [hut]
    · have := h u hu' hut
      simp [this]

/-- the lock-order invariant (`Conc.LInv` is another one: the linearization invariant of the
    one-lock model): every thread keeps the lock discipline from where it is, and no lock has
    two holders -/
structure LInv (lt : Lock → Lock → Bool) (g : G) : Prop where
  okAll : ∀ t, t < g.n → ok lt (g.threads t).held (g.threads t).prog = true
  excl : ∀ t u l, t < g.n → u < g.n → l ∈ (g.threads t).held → l ∈ (g.threads u).held → t = u

theorem linv_init (lt : Lock → Lock → Bool) (progs : List (List Act))
    (h : ∀ p ∈ progs, ok lt [] p = true) : LInv lt (G.init progs) := by
  refine ⟨?_, ?_⟩
  · intro t ht
    have ht' : t < progs.length := ht
    simp only [G.init]
    have e : progs.getD t [] = progs[t] := by simp [List.getD, ht']
    rw [e]
    exact h _ (List.getElem_mem ht')
  · intro t u l _ _ hl _
    simp [G.init] at hl

theorem step_n {g g' : G} {t : Tid} (hs : step g t = some g') : g'.n = g.n := by
  unfold step at hs
  split at hs
  · split at hs
    · cases hs
    · split at hs
      · cases hs; rfl
      · cases hs
    · cases hs; rfl
  · cases hs

theorem linv_step {lt : Lock → Lock → Bool} {g g' : G} {t : Tid} (h : LInv lt g)
    (hs : step g t = some g') : LInv lt g' := by
  unfold step at hs
  by_cases ht : t < g.n
  · rw [if_pos ht] at hs
    cases hp : (g.threads t).prog with
    | nil => rw [hp] at hs; cases hs
    | cons a rest =>
      have hok := h.okAll t ht
      rw [hp] at hs hok
      -- the thread goes on with `rest` from a new stack of held locks, keeping the discipline; a lock
      -- in it was held before, or has just been acquired, and then no other thread held it
      obtain ⟨held', rfl, hok', hnew⟩ : ∃ held', g' = { g with threads := setThread g.threads t ⟨held', rest⟩ } ∧
          ok lt held' rest = true ∧ ∀ l' ∈ held', l' ∈ (g.threads t).held ∨
            ∀ v, v < g.n → v ≠ t → l' ∉ (g.threads v).held := by
        cases a with
        | acq l =>
          simp only [ok, Bool.and_eq_true] at hok
          dsimp only at hs
          by_cases hfree : freeFor g t l = true
          · rw [if_pos hfree] at hs
            refine ⟨_, (Option.some.inj hs).symm, hok.2, fun l' hl' => ?_⟩
            rcases List.mem_cons.mp hl' with rfl | hl'
            · exact Or.inr ((freeFor_iff g t l').mp hfree)
            · exact Or.inl hl'
          · rw [if_neg hfree] at hs; cases hs
        | rel l =>
          simp only [ok, Bool.and_eq_true] at hok
          exact ⟨_, (Option.some.inj hs).symm, hok.2, fun l' hl' => Or.inl (List.mem_of_mem_erase hl')⟩
      have hmem : ∀ u l', l' ∈ (setThread g.threads t ⟨held', rest⟩ u).held →
          l' ∈ (g.threads u).held ∨ (u = t ∧ ∀ v, v < g.n → v ≠ t → l' ∉ (g.threads v).held) := by
        intro u l' hl'
        by_cases hu : u = t
        · subst hu
          simp only [setThread, if_true] at hl'
          exact (hnew l' hl').imp_right fun hf => ⟨rfl, hf⟩
        · simp only [setThread, hu, if_false] at hl'
          exact Or.inl hl'
      refine ⟨fun u hu => ?_, fun a b l' ha hb hla hlb => ?_⟩
      · by_cases hut : u = t
        · subst hut; simp only [setThread, if_true]; exact hok'
        · simp only [setThread, hut, if_false]; exact h.okAll u hu
      · rcases hmem a l' hla with ha' | ⟨rfl, hfa⟩ <;> rcases hmem b l' hlb with hb' | ⟨rfl, hfb⟩
        · exact h.excl a b l' ha hb ha' hb'
        · exact Decidable.byContradiction fun hne => hfb a ha hne ha'
        · exact Decidable.byContradiction fun hne => hfa b hb (fun e => hne e.symm) hb'
        · rfl
  · rw [if_neg ht] at hs; cases hs

theorem exec_induction {P : G → Prop} (hstep : ∀ {g g' : G} {t : Tid}, P g → step g t = some g' → P g')
    {g : G} (h : P g) (sched : List Tid) : P (exec g sched) := by
  induction sched generalizing g with
  | nil => exact h
  | cons t ts ih =>
    unfold exec
    cases hs : step g t with
    | none => exact ih h
    | some g' => exact ih (hstep h hs)

theorem exec_n (g : G) (sched : List Tid) : (exec g sched).n = g.n :=
  exec_induction (P := fun g' => g'.n = g.n) (fun h hs => (step_n hs).trans h) rfl sched

theorem linv_exec {lt : Lock → Lock → Bool} {g : G} (h : LInv lt g) (sched : List Tid) :
    LInv lt (exec g sched) :=
  exec_induction linv_step h sched

theorem exists_maximal (lt : Lock → Lock → Bool) (irr : ∀ a, lt a a = false)
    (tr : ∀ a b c, lt a b = true → lt b c = true → lt a c = true) :
    ∀ (l : List Lock), l ≠ [] → ∃ a ∈ l, ∀ b ∈ l, lt a b = false
  | [], h => absurd rfl h
  | [x], _ => ⟨x, by simp, by intro b hb; simp at hb; subst hb; exact irr _⟩
  | x :: y :: rest, _ => by
    obtain ⟨a, ha, hmax⟩ := exists_maximal lt irr tr (y :: rest) (by simp)
    by_cases hax : lt a x = true
    · refine ⟨x, by simp, ?_⟩
      intro b hb
      rcases List.mem_cons.mp hb with rfl | hb
      · exact irr _
      · cases hxb : lt x b with
        | false => rfl
        | true => have := tr a x b hax hxb; rw [hmax b hb] at this; cases this
    · refine ⟨a, List.mem_cons_of_mem _ ha, ?_⟩
      intro b hb
      rcases List.mem_cons.mp hb with rfl | hb
      · simpa using hax
      · exact hmax b hb

/-- the locks the unfinished threads are about to acquire -/
def wanted (g : G) : List Lock :=
  (List.range g.n).filterMap fun u =>
    match (g.threads u).prog with
    | .acq l :: _ => some l
    | _ => none

theorem mem_wanted {g : G} {l : Lock} :
    l ∈ wanted g ↔ ∃ u, u < g.n ∧ ∃ rest, (g.threads u).prog = .acq l :: rest := by
  unfold wanted
  rw [List.mem_filterMap]
  constructor
  · rintro ⟨u, hu, h⟩
    refine ⟨u, List.mem_range.mp hu, ?_⟩
    split at h
    · rename_i l' rest heq
      simp only [Option.some.injEq] at h
      subst h
      exact ⟨rest, heq⟩
    · cases h
  · rintro ⟨u, hu, rest, h⟩
    exact ⟨u, List.mem_range.mpr hu, by rw [h]⟩

theorem step_none {g : G} {u : Tid} (hu : u < g.n) (h : step g u = none) :
    (g.threads u).prog = [] ∨
    ∃ l rest, (g.threads u).prog = .acq l :: rest ∧
      ∃ v, v < g.n ∧ v ≠ u ∧ l ∈ (g.threads v).held := by
  unfold step at h
  simp only [hu, ↓reduceIte] at h
  cases hp : (g.threads u).prog with
  | nil => left; rfl
  | cons a rest =>
    right
    cases a with
    | rel l => simp [hp] at h
    | acq l =>
      simp only [hp] at h
      by_cases hfree : freeFor g u l = true
      · simp [hfree] at h
      · refine ⟨l, rest, rfl, ?_⟩
        rw [freeFor_iff] at hfree
        apply Classical.byContradiction
        intro hno
        apply hfree
        intro v hv hne hmem
        exact hno ⟨v, hv, hne, hmem⟩

theorem LInv.progress {lt : Lock → Lock → Bool} {g : G} (h : LInv lt g)
    (irr : ∀ a, lt a a = false) (tr : ∀ a b c, lt a b = true → lt b c = true → lt a c = true)
    {t : Tid} (ht : t < g.n) (hunf : (g.threads t).finished = false) :
    ∃ u, u < g.n ∧ (step g u).isSome = true := by
  by_cases hex : ∃ u, u < g.n ∧ (step g u).isSome = true
  · exact hex
  · exfalso
    have hnone : ∀ u, u < g.n → step g u = none := by
      intro u hu
      cases hs : step g u with
      | none => rfl
      | some g' => exact absurd ⟨u, hu, by rw [hs]; rfl⟩ hex
    -- thread t wants a lock
    have hw : wanted g ≠ [] := by
      rcases step_none ht (hnone t ht) with hp | ⟨l, rest, hp, _⟩
      · simp [Thread.finished, hp] at hunf
      · intro he
        have : l ∈ wanted g := mem_wanted.mpr ⟨t, ht, rest, hp⟩
        rw [he] at this; cases this
    obtain ⟨a, ha, hmax⟩ := exists_maximal lt irr tr (wanted g) hw
    obtain ⟨u, hu, rest, hpu⟩ := mem_wanted.mp ha
    rcases step_none hu (hnone u hu) with hp | ⟨l, rest', hp, v, hv, hvu, hlv⟩
    · rw [hpu] at hp; cases hp
    · rw [hpu] at hp
      simp only [List.cons.injEq, Act.acq.injEq] at hp
      obtain ⟨rfl, _⟩ := hp
      -- v holds `a`, so it is not finished; it is blocked too, on some `b`
      have hokv := h.okAll v hv
      rcases step_none hv (hnone v hv) with hpv | ⟨b, restv, hpv, x, hx, hxv, hbx⟩
      · rw [hpv] at hokv
        simp only [ok, List.isEmpty_iff] at hokv
        rw [hokv] at hlv; cases hlv
      · rw [hpv] at hokv
        simp only [ok, Bool.and_eq_true, Bool.or_eq_true, List.contains_eq_mem, decide_eq_true_eq,
          List.all_eq_true] at hokv
        rcases hokv.1 with hbv | hall
        · exact hxv (h.excl x v b hx hv hbx hbv)
        · have h1 := hall a hlv
          have h2 := hmax b (mem_wanted.mpr ⟨v, hv, restv, hpv⟩)
          rw [h1] at h2; cases h2

theorem byRank_irrefl (rank : Lock → Nat) (a : Lock) : byRank rank a a = false := by
  simp [byRank]

theorem byRank_trans (rank : Lock → Nat) (a b c : Lock) (h1 : byRank rank a b = true)
    (h2 : byRank rank b c = true) : byRank rank a c = true := by
  simp only [byRank, decide_eq_true_eq] at *
  omega

theorem stuck_false_of_progress {g : G}
    (h : ∀ t, t < g.n → (g.threads t).finished = false → ∃ u, u < g.n ∧ (step g u).isSome = true) :
    stuck g = false := by
  unfold stuck
  cases hany : (List.range g.n).any (fun t => !(g.threads t).finished) with
  | false => rfl
  | true =>
    rw [List.any_eq_true] at hany
    obtain ⟨t, ht, hf⟩ := hany
    obtain ⟨u, hu, hs⟩ := h t (List.mem_range.mp ht) (by simpa using hf)
    simp only [Bool.true_and]
    rw [Bool.eq_false_iff]
    intro hall
    rw [List.all_eq_true] at hall
    have := hall u (List.mem_range.mpr hu)
    cases hsu : step g u with
    | none => rw [hsu] at hs; cases hs
    | some g' => rw [hsu] at this; cases this

/-- a deadlock is for ever: in a stuck state no thread has a step, so no schedule leaves it -/
theorem exec_stuck {g : G} (h : stuck g = true) (sched : List Tid) : exec g sched = g := by
  have hnone : ∀ t, step g t = none := fun t => by
    by_cases ht : t < g.n
    · unfold stuck at h
      rw [Bool.and_eq_true, List.all_eq_true] at h
      exact Option.isNone_iff_eq_none.mp (h.2 t (List.mem_range.mpr ht))
    · unfold step
      rw [if_neg ht]
  exact exec_induction (P := fun g' => g' = g) (fun e hs => by rw [e, hnone] at hs; cases hs) rfl sched

/-- with one lock the order does not matter: a balanced program over a single lock keeps the
    discipline for the empty order -/
theorem ok_single (l0 : Lock) (lt : Lock → Lock → Bool) :
    ∀ (prog : List Act) (held : List Lock), (∀ h ∈ held, h = l0) →
      (∀ a ∈ prog, a = .acq l0 ∨ a = .rel l0) → ok lt held prog = true →
      ok (fun _ _ => false) held prog = true
  | [], _, _, _, h => h
  | .acq l :: rest, held, hh, hp, h => by
    have hl : l = l0 := by
      rcases hp (.acq l) (by simp) with h1 | h1
      · cases h1; rfl
      · cases h1
    subst hl
    simp only [ok, Bool.and_eq_true] at h ⊢
    refine ⟨?_, ok_single l lt rest (l :: held) ?_ ?_ h.2⟩
    · cases held with
      | nil => simp
      | cons x xs => have := hh x (by simp); subst this; simp
    · intro x hx
      rcases List.mem_cons.mp hx with rfl | hx
      · rfl
      · exact hh x hx
    · intro a ha; exact hp a (List.mem_cons_of_mem _ ha)
  | .rel l :: rest, held, hh, hp, h => by
    simp only [ok, Bool.and_eq_true] at h ⊢
    refine ⟨h.1, ok_single l0 lt rest (held.erase l) ?_ ?_ h.2⟩
    · intro x hx; exact hh x (List.mem_of_mem_erase hx)
    · intro a ha; exact hp a (List.mem_cons_of_mem _ ha)

end Genshi.LockOrder
