/-
  C15 — the refinement proof of `LRUCache`: the concrete linked structure
  (`Genshi/Model/Lru.lean`) represents a recency list, and every operation of the class
  acts on it like the abstract bounded LRU map.
-/
import Genshi.Lemmas.LruAbs
import Genshi.Lemmas.ListBasics
namespace Genshi.Lru
-- `[DecidableEq K]` is a variable of the whole file, as in the model: the lemmas about heap writes
-- and segments carry it without using it
set_option linter.unusedSectionVars false
variable {K V : Type} [DecidableEq K]

@[simp] theorem setPrv_same (h : Id → Node K V) (i : Id) (p : Option Id) :
    setPrv h i p i = { h i with prv := p } := by simp [setPrv]
@[simp] theorem setPrv_ne (h : Id → Node K V) {i j : Id} (p : Option Id) (hne : j ≠ i) :
    setPrv h i p j = h j := by simp [setPrv, hne]
@[simp] theorem setNxt_same (h : Id → Node K V) (i : Id) (p : Option Id) :
    setNxt h i p i = { h i with nxt := p } := by simp [setNxt]
@[simp] theorem setNxt_ne (h : Id → Node K V) {i j : Id} (p : Option Id) (hne : j ≠ i) :
    setNxt h i p j = h j := by simp [setNxt, hne]

@[simp] theorem setPrv_key (h : Id → Node K V) (i j : Id) (p : Option Id) :
    (setPrv h i p j).key = (h j).key := by
  by_cases hj : j = i <;> simp [setPrv, hj]
@[simp] theorem setPrv_val (h : Id → Node K V) (i j : Id) (p : Option Id) :
    (setPrv h i p j).val = (h j).val := by
  by_cases hj : j = i <;> simp [setPrv, hj]
@[simp] theorem setPrv_nxt (h : Id → Node K V) (i j : Id) (p : Option Id) :
    (setPrv h i p j).nxt = (h j).nxt := by
  by_cases hj : j = i <;> simp [setPrv, hj]
@[simp] theorem setNxt_key (h : Id → Node K V) (i j : Id) (p : Option Id) :
    (setNxt h i p j).key = (h j).key := by
  by_cases hj : j = i <;> simp [setNxt, hj]
@[simp] theorem setNxt_val (h : Id → Node K V) (i j : Id) (p : Option Id) :
    (setNxt h i p j).val = (h j).val := by
  by_cases hj : j = i <;> simp [setNxt, hj]
@[simp] theorem setNxt_prv (h : Id → Node K V) (i j : Id) (p : Option Id) :
    (setNxt h i p j).prv = (h j).prv := by
  by_cases hj : j = i <;> simp [setNxt, hj]
@[simp] theorem setVal_key (h : Id → Node K V) (i j : Id) (v : V) :
    (setVal h i v j).key = (h j).key := by
  by_cases hj : j = i <;> simp [setVal, hj]
@[simp] theorem setVal_prv (h : Id → Node K V) (i j : Id) (v : V) :
    (setVal h i v j).prv = (h j).prv := by
  by_cases hj : j = i <;> simp [setVal, hj]
@[simp] theorem setVal_nxt (h : Id → Node K V) (i j : Id) (v : V) :
    (setVal h i v j).nxt = (h j).nxt := by
  by_cases hj : j = i <;> simp [setVal, hj]
@[simp] theorem setVal_same (h : Id → Node K V) (i : Id) (v : V) :
    (setVal h i v i).val = v := by simp [setVal]
@[simp] theorem setVal_ne (h : Id → Node K V) {i j : Id} (v : V) (hne : j ≠ i) :
    setVal h i v j = h j := by simp [setVal, hne]
@[simp] theorem setNode_same (h : Id → Node K V) (i : Id) (n : Node K V) :
    setNode h i n i = n := by simp [setNode]
@[simp] theorem setNode_ne (h : Id → Node K V) {i j : Id} (n : Node K V) (hne : j ≠ i) :
    setNode h i n j = h j := by simp [setNode, hne]

/-- the nodes `ids` form a doubly linked segment: the first one's `prv` is `p`, each one's
    `nxt` is its successor and the last one's is `q`, each one's `prv` its predecessor -/
def Seg (h : Id → Node K V) : Option Id → List Id → Option Id → Prop
  | _, [], _ => True
  | p, i :: rest, q => (h i).prv = p ∧ (h i).nxt = rest.head?.or q ∧ Seg h (some i) rest q

theorem Seg.frame {h h' : Id → Node K V} {ids : List Id} {p q : Option Id}
    (hs : Seg h p ids q) (heq : ∀ i ∈ ids, (h' i).prv = (h i).prv ∧ (h' i).nxt = (h i).nxt) :
    Seg h' p ids q := by
  induction ids generalizing p with
  | nil => trivial
  | cons i rest ih =>
    obtain ⟨h1, h2, h3⟩ := hs
    have := heq i (by simp)
    exact ⟨by rw [this.1, h1], by rw [this.2, h2],
           ih h3 (fun j hj => heq j (List.mem_cons_of_mem _ hj))⟩

theorem Seg.setPrv_other {h : Id → Node K V} {ids : List Id} {p q : Option Id} (hs : Seg h p ids q)
    {i : Id} (hi : i ∉ ids) (v : Option Id) : Seg (setPrv h i v) p ids q :=
  hs.frame fun x hx => by have : x ≠ i := fun e => hi (e ▸ hx); simp [this]

theorem Seg.setNxt_other {h : Id → Node K V} {ids : List Id} {p q : Option Id} (hs : Seg h p ids q)
    {i : Id} (hi : i ∉ ids) (v : Option Id) : Seg (setNxt h i v) p ids q :=
  hs.frame fun x hx => by have : x ≠ i := fun e => hi (e ▸ hx); simp [this]

theorem getLast?_cons_or (i : Id) (r : List Id) (p : Option Id) :
    (i :: r).getLast?.or p = r.getLast?.or (some i) := by
  cases r with
  | nil => simp
  | cons j r' => simp [List.getLast?_cons]

theorem Seg.append {h : Id → Node K V} {xs ys : List Id} {p q : Option Id} :
    Seg h p (xs ++ ys) q ↔ Seg h p xs (ys.head?.or q) ∧ Seg h (xs.getLast?.or p) ys q := by
  induction xs generalizing p with
  | nil => simp [Seg]
  | cons i r ih =>
    simp only [List.cons_append, Seg, ih, List.head?_append, Option.or_assoc, getLast?_cons_or]
    constructor
    · rintro ⟨a, b, c, d⟩; exact ⟨⟨a, b, c⟩, d⟩
    · rintro ⟨⟨a, b, c⟩, d⟩; exact ⟨a, b, c, d⟩

theorem Seg.setLastNxt {h : Id → Node K V} {xs : List Id} {p q : Option Id} {a : Id}
    (hs : Seg h p xs q) (hnd : xs.Nodup) (hl : xs.getLast? = some a) (q' : Option Id) :
    Seg (setNxt h a q') p xs q' := by
  induction xs generalizing p with
  | nil => trivial
  | cons i r ih =>
    obtain ⟨h1, h2, h3⟩ := hs
    cases r with
    | nil =>
      simp at hl; subst hl
      exact ⟨by simp [h1], by simp, trivial⟩
    | cons j r' =>
      have hl' : (j :: r').getLast? = some a := by simpa [List.getLast?_cons_cons] using hl
      have hmem : a ∈ j :: r' := List.mem_of_getLast? hl'
      have hia : i ≠ a := by
        intro e; subst e; exact (List.nodup_cons.mp hnd).1 hmem
      refine ⟨by simp [hia, h1], ?_, ih h3 (List.nodup_cons.mp hnd).2 hl'⟩
      simpa [hia] using h2

theorem Seg.setFirstPrv {h : Id → Node K V} {j : Id} {r : List Id} {p q : Option Id}
    (hs : Seg h p (j :: r) q) (hj : j ∉ r) (p' : Option Id) :
    Seg (setPrv h j p') p' (j :: r) q := by
  obtain ⟨_, h2, h3⟩ := hs
  refine ⟨by simp, by simpa using h2, h3.frame ?_⟩
  intro i hi
  have : i ≠ j := fun e => hj (e ▸ hi)
  simp [this]


/-- `head … tail` is the doubly linked list of the nodes `ids`, each once -/
structure ListOK (c : CLru K V) (ids : List Id) : Prop where
  seg : Seg c.heap none ids none
  head : c.head = ids.head?
  tail : c.tail = ids.getLast?
  nodup : ids.Nodup

/-- `_dict` maps exactly the keys of the listed nodes to them; `len(_dict)` is their number -/
structure DictOK (c : CLru K V) (ids : List Id) : Prop where
  fwd : ∀ i ∈ ids, c.dict (c.heap i).key = some i
  bwd : ∀ k i, c.dict k = some i → i ∈ ids ∧ (c.heap i).key = k
  size : c.size = ids.length

/-- the representation invariant of the container: list and dictionary describe the same nodes `ids`, and every
identity in use lies below the next one to be handed out -/
structure Repr (c : CLru K V) (ids : List Id) : Prop where
  list : ListOK c ids
  dict : DictOK c ids
  fresh : ∀ i ∈ ids, i < c.fresh

/-- what an operation on the links leaves alone -/
def SameData (c c' : CLru K V) : Prop :=
  (∀ j, (c'.heap j).key = (c.heap j).key ∧ (c'.heap j).val = (c.heap j).val) ∧
  c'.dict = c.dict ∧ c'.size = c.size ∧ c'.cap = c.cap ∧ c'.fresh = c.fresh

theorem SameData.refl (c : CLru K V) : SameData c c := ⟨fun _ => ⟨rfl, rfl⟩, rfl, rfl, rfl, rfl⟩

theorem linkFront_ok {c : CLru K V} {ids : List Id} {i : Id}
    (hl : ListOK c ids) (hi : i ∉ ids) :
    ListOK (linkFront c i) (i :: ids) ∧ SameData c (linkFront c i) := by
  obtain ⟨hseg, hhead, htail, hnd⟩ := hl
  cases ids with
  | nil =>
    simp at hhead htail
    refine ⟨⟨?_, ?_, ?_, by simp⟩, ?_⟩
    · simp [linkFront, hhead, Seg]
    · simp [linkFront, hhead]
    · simp [linkFront, hhead]
    · simp [linkFront, hhead, SameData]
  | cons j r =>
    simp at hhead
    have hij : i ≠ j := fun e => hi (by simp [e])
    have hji : j ≠ i := fun e => hij e.symm
    have hjr : j ∉ r := (List.nodup_cons.mp hnd).1
    refine ⟨⟨?_, ?_, ?_, List.nodup_cons.mpr ⟨hi, hnd⟩⟩, ?_⟩
    · simp only [linkFront, hhead, Seg]
      refine ⟨by simp [hij], by simp [hij], ?_⟩
      exact ((hseg.setPrv_other hi none).setNxt_other hi (some j)).setFirstPrv hjr (some i)
    · simp [linkFront, hhead]
    · simp [linkFront, hhead, htail, List.getLast?_cons_cons]
    · simp [linkFront, hhead, SameData]


theorem SameData.trans {c c' c'' : CLru K V} (h1 : SameData c c') (h2 : SameData c' c'') : SameData c c'' :=
  ⟨fun j => ⟨(h2.1 j).1.trans (h1.1 j).1, (h2.1 j).2.trans (h1.1 j).2⟩, h2.2.1.trans h1.2.1,
    h2.2.2.1.trans h1.2.2.1, h2.2.2.2.1.trans h1.2.2.2.1, h2.2.2.2.2.trans h1.2.2.2.2⟩

/-- the first half of `_update_item`, down to `else: self.tail = prv`: the node `i`, whose
    predecessor is `p`, is taken out of the list -/
def unlink (c : CLru K V) (i p : Id) : CLru K V :=
  match (c.heap i).nxt with
  | some n => { c with heap := setPrv (setNxt c.heap p (some n)) n (some p) }
  | none => { c with heap := setNxt c.heap p none, tail := some p }

/-- `_update_item` of a node that is not the head takes it out and links it in at the front, as
    `_insert_item` does before it looks at the size -/
theorem updateItem_eq {c : CLru K V} {i p hd : Id} (hh : c.head = some hd) (hne : hd ≠ i)
    (hp : (c.heap i).prv = some p) : updateItem c i = some (linkFront (unlink c i p) i) := by
  -- also when `p = i`: then `prv.nxt = item.nxt` writes what is there
  have hnx : (setNxt c.heap p (c.heap i).nxt i).nxt = (c.heap i).nxt := by
    by_cases e : i = p
    · rw [e, setNxt_same]
    · rw [setNxt_ne _ _ e]
  have hhne : c.head ≠ some i := by rw [hh]; exact fun e => hne (Option.some.inj e)
  unfold updateItem
  rw [if_neg hhne, hp]
  simp only [hnx]
  unfold unlink linkFront
  cases (c.heap i).nxt <;> simp only [hh]

theorem unlink_ok {c : CLru K V} {pre post : List Id} {i a : Id}
    (hl : ListOK c (pre ++ i :: post)) (ha : pre.getLast? = some a) :
    (c.heap i).prv = some a ∧ ListOK (unlink c i a) (pre ++ post) ∧ SameData c (unlink c i a) := by
  obtain ⟨hseg, hhead, htail, hnd⟩ := hl
  obtain ⟨hndpre, hndip, hdisj⟩ := List.nodup_append.mp hnd
  have hapre : a ∈ pre := List.mem_of_getLast? ha
  have hprepost : ∀ x ∈ pre, x ∉ post := fun x hx hp => hdisj x hx x (List.mem_cons_of_mem _ hp) rfl
  rw [Seg.append] at hseg
  obtain ⟨hsegpre, hiprv, hinxt, hsegpost⟩ := hseg
  rw [ha, Option.some_or] at hiprv
  simp only [List.head?_cons, Option.or_none] at hsegpre hinxt
  -- `prv.nxt = item.nxt`
  have s1 : Seg (setNxt c.heap a post.head?) none pre post.head? := hsegpre.setLastNxt hndpre ha _
  have hhead' : c.head = (pre ++ post).head? := by
    rw [hhead]
    cases pre with
    | nil => cases ha
    | cons x xs => rfl
  refine ⟨hiprv, ?_⟩
  unfold unlink
  cases post with
  | nil =>
    rw [hinxt, List.append_nil] at *
    exact ⟨⟨s1, hhead', ha.symm, hndpre⟩, fun j => ⟨setNxt_key .., setNxt_val ..⟩, rfl, rfl, rfl, rfl⟩
  | cons n r =>
    have hnpre : n ∉ pre := fun hm => hprepost n hm (List.mem_cons_self ..)
    have hnr : n ∉ r := (List.nodup_cons.mp (List.nodup_cons.mp hndip).2).1
    rw [hinxt]
    refine ⟨⟨?_, hhead', ?_, ?_⟩, fun j => ⟨by simp, by simp⟩, rfl, rfl, rfl, rfl⟩
    · -- `item.nxt.prv = prv`
      rw [Seg.append, ha]
      exact ⟨s1.setPrv_other hnpre (some a),
        (hsegpost.setNxt_other (hprepost a hapre) (some n)).setFirstPrv hnr (some a)⟩
    · show c.tail = _
      rw [htail, getLast?_append_ne (List.cons_ne_nil _ _), getLast?_append_ne (List.cons_ne_nil _ _),
        List.getLast?_cons_cons]
    · exact List.nodup_append.mpr ⟨hndpre, (List.nodup_cons.mp hndip).2,
        fun x hx y hy => hdisj x hx y (List.mem_cons_of_mem _ hy)⟩

theorem updateItem_ok {c : CLru K V} {pre post : List Id} {i : Id}
    (hl : ListOK c (pre ++ i :: post)) :
    ∃ c', updateItem c i = some c' ∧ ListOK c' (i :: (pre ++ post)) ∧ SameData c c' := by
  cases hpre : pre.getLast? with
  | none =>
    rw [List.getLast?_eq_none_iff.mp hpre] at hl ⊢
    exact ⟨c, by simp [updateItem, hl.head], hl, SameData.refl c⟩
  | some a =>
    obtain ⟨hd, hhd⟩ : ∃ hd, pre.head? = some hd := by
      cases pre with
      | nil => cases hpre
      | cons x xs => exact ⟨x, rfl⟩
    obtain ⟨hndpre, hndip, hdisj⟩ := List.nodup_append.mp hl.nodup
    have hipp : i ∉ pre ++ post := fun hm => (List.mem_append.mp hm).elim
      (fun h => hdisj i h i (List.mem_cons_self ..) rfl) (List.nodup_cons.mp hndip).1
    have hhead : c.head = some hd := by rw [hl.head, List.head?_append, hhd, Option.some_or]
    have hne : hd ≠ i := fun e => hipp (List.mem_append_left _ (e ▸ List.mem_of_head? hhd))
    obtain ⟨hp, hl1, hsd1⟩ := unlink_ok hl hpre
    obtain ⟨hl2, hsd2⟩ := linkFront_ok hl1 hipp
    exact ⟨_, updateItem_eq hhead hne hp, hl2, hsd1.trans hsd2⟩


/-- keys and values of all nodes, the capacity and the identity counter are untouched -/
def SameKV (c c' : CLru K V) : Prop :=
  (∀ j, (c'.heap j).key = (c.heap j).key ∧ (c'.heap j).val = (c.heap j).val) ∧
  c'.cap = c.cap ∧ c'.fresh = c.fresh

theorem SameKV.refl (c : CLru K V) : SameKV c c := ⟨fun _ => ⟨rfl, rfl⟩, rfl, rfl⟩
theorem SameKV.trans {c c' c'' : CLru K V} (h1 : SameKV c c') (h2 : SameKV c' c'') : SameKV c c'' :=
  ⟨fun j => ⟨(h2.1 j).1.trans (h1.1 j).1, (h2.1 j).2.trans (h1.1 j).2⟩,
   h2.2.1.trans h1.2.1, h2.2.2.trans h1.2.2⟩
theorem SameData.kv {c c' : CLru K V} (h : SameData c c') : SameKV c c' :=
  ⟨h.1, h.2.2.2.1, h.2.2.2.2⟩

theorem Repr.key_inj {c : CLru K V} {ids : List Id} (hr : Repr c ids) {i j : Id}
    (hi : i ∈ ids) (hj : j ∈ ids) (hk : (c.heap i).key = (c.heap j).key) : i = j := by
  have h1 := hr.dict.fwd i hi
  have h2 := hr.dict.fwd j hj
  rw [hk, h2] at h1
  exact (Option.some.inj h1).symm

theorem evictOne_ok {c : CLru K V} {pre : List Id} {t : Id} (hr : Repr c (pre ++ [t])) :
    ∃ c', evictOne c = some c' ∧ Repr c' pre ∧ SameKV c c' := by
  obtain ⟨⟨hseg, hhead, htail, hnd⟩, ⟨hfwd, hbwd, hsize⟩, hfresh⟩ := hr
  have htail' : c.tail = some t := by rw [htail]; simp
  have hdt : c.dict (c.heap t).key = some t := hfwd t (by simp)
  have htpre : t ∉ pre := by
    rw [List.nodup_append] at hnd
    intro hm; exact hnd.2.2 t hm t (by simp) rfl
  have hndpre : pre.Nodup := (List.nodup_append.mp hnd).1
  have hkeyne : ∀ i ∈ pre, (c.heap i).key ≠ (c.heap t).key := by
    intro i hi hk
    have h1 := hfwd i (by simp [hi])
    rw [hk, hdt] at h1
    exact htpre ((Option.some.inj h1) ▸ hi)
  have hfresh' : ∀ i ∈ pre, i < c.fresh := fun i hi => hfresh i (List.mem_append_left _ hi)
  -- the dictionary without the tail's key, whatever happens to the links
  have hdict : ∀ c' : CLru K V, c'.dict = dictDel c.dict (c.heap t).key → c'.size = c.size - 1 →
      (∀ j, (c'.heap j).key = (c.heap j).key) → DictOK c' pre := by
    intro c' hd hs hk
    refine ⟨fun i hi => ?_, fun k i hki => ?_, ?_⟩
    · rw [hd, hk]
      simp only [dictDel, hkeyne i hi, ↓reduceIte]
      exact hfwd i (List.mem_append_left _ hi)
    · rw [hd] at hki
      simp only [dictDel] at hki
      split at hki
      · cases hki
      · rename_i hne
        obtain ⟨hm, hkey⟩ := hbwd k i hki
        rw [hk]
        refine ⟨?_, hkey⟩
        rcases List.mem_append.mp hm with hm | hm
        · exact hm
        · cases List.mem_singleton.mp hm; exact absurd hkey.symm hne
    · rw [hs, hsize]; simp
  cases pre with
  | nil =>
    have hhead' : c.head = some t := by simpa using hhead
    exact ⟨{ c with dict := dictDel c.dict (c.heap t).key, size := c.size - 1, head := none, tail := none },
      by simp [evictOne, htail', hdt, hhead'],
      ⟨⟨trivial, rfl, rfl, List.nodup_nil⟩, hdict _ rfl rfl fun _ => rfl, hfresh'⟩,
      ⟨fun _ => ⟨rfl, rfl⟩, rfl, rfl⟩⟩
  | cons hd pre' =>
    have hhead' : c.head = some hd := by simpa using hhead
    have hhdt : hd ≠ t := fun e => htpre (by simp [e])
    obtain ⟨a, ha⟩ : ∃ a, (hd :: pre').getLast? = some a := ⟨_, List.getLast?_cons⟩
    rw [Seg.append] at hseg
    obtain ⟨hsegpre, hsegt⟩ := hseg
    simp only [List.head?_cons, Option.some_or, ha] at hsegpre hsegt
    obtain ⟨htprv, _, _⟩ := hsegt
    exact ⟨{ c with dict := dictDel c.dict (c.heap t).key, size := c.size - 1, tail := some a,
                    heap := setNxt c.heap a none },
      by simp [evictOne, htail', hdt, hhead', hhdt.symm, htprv],
      ⟨⟨hsegpre.setLastNxt hndpre ha none, by simp [hhead'], by simp [ha], hndpre⟩,
        hdict _ rfl rfl fun j => setNxt_key .., hfresh'⟩,
      ⟨fun j => ⟨by simp, by simp⟩, rfl, rfl⟩⟩

theorem manageSizeLoop_ok (fuel : Nat) : ∀ {c : CLru K V} {ids : List Id}, Repr c ids →
    ids.length - c.cap ≤ fuel →
    ∃ c', manageSizeLoop fuel c = some c' ∧ Repr c' (ids.take c.cap) ∧ SameKV c c' := by
  -- within the bound the loop stops at once, whatever the fuel
  have stop : ∀ (n : Nat) {c : CLru K V} {ids : List Id}, Repr c ids → ids.length ≤ c.cap →
      ∃ c', manageSizeLoop n c = some c' ∧ Repr c' (ids.take c.cap) ∧ SameKV c c' := by
    intro n c ids hr hle
    have hsz : ¬ c.size > c.cap := by rw [hr.dict.size]; exact Nat.not_lt.mpr hle
    refine ⟨c, ?_, by rw [List.take_of_length_le hle]; exact hr, SameKV.refl c⟩
    cases n <;> simp only [manageSizeLoop, if_neg hsz]
  induction fuel with
  | zero => exact fun hr hf => stop 0 hr (Nat.le_of_sub_eq_zero (Nat.le_zero.mp hf))
  | succ n ih =>
    intro c ids hr hf
    by_cases hle : ids.length ≤ c.cap
    · exact stop _ hr hle
    · have hgt : c.size > c.cap := by rw [hr.dict.size]; exact Nat.lt_of_not_le hle
      have hne : ids ≠ [] := fun e => hle (e ▸ Nat.zero_le _)
      obtain ⟨pre, t, rfl⟩ : ∃ pre t, ids = pre ++ [t] :=
        ⟨ids.dropLast, ids.getLast hne, (List.dropLast_concat_getLast hne).symm⟩
      obtain ⟨c1, he, hr1, hkv1⟩ := evictOne_ok hr
      have hcap : c1.cap = c.cap := hkv1.2.1
      rw [List.length_append, List.length_singleton] at hf hle
      obtain ⟨c', hm, hr', hkv'⟩ := ih hr1 (by rw [hcap]; omega)
      refine ⟨c', ?_, ?_, hkv1.trans hkv'⟩
      · simp only [manageSizeLoop, if_pos hgt, he, Option.bind_some, hm]
      · rw [hcap] at hr'
        rw [List.take_append_of_le_length (by omega)]
        exact hr'

theorem manageSize_ok {c : CLru K V} {ids : List Id} (hr : Repr c ids) :
    ∃ c', manageSize c = some c' ∧ Repr c' (ids.take c.cap) ∧ SameKV c c' :=
  manageSizeLoop_ok c.size hr (by rw [hr.dict.size]; omega)


def kvOf (c : CLru K V) (ids : List Id) : List (K × V) :=
  ids.map fun i => ((c.heap i).key, (c.heap i).val)

/-- the abstract map that `Repr c ids` stands for (`Repr.abs`): the refinement lemmas speak of it, not of the walk `abs` -/
def absOf (c : CLru K V) (ids : List Id) : ALru K V := ⟨c.cap, kvOf c ids⟩

theorem kvOf_congr {c c' : CLru K V} {ids : List Id}
    (h : ∀ i ∈ ids, (c'.heap i).key = (c.heap i).key ∧ (c'.heap i).val = (c.heap i).val) :
    kvOf c' ids = kvOf c ids := by
  unfold kvOf
  apply List.map_congr_left
  intro i hi
  rw [(h i hi).1, (h i hi).2]

theorem kvOf_sameKV {c c' : CLru K V} (h : SameKV c c') (ids : List Id) : kvOf c' ids = kvOf c ids :=
  kvOf_congr fun i _ => h.1 i

theorem manageSize_abs {c : CLru K V} {ids : List Id} (hr : Repr c ids) :
    ∃ c', manageSize c = some c' ∧ Repr c' (ids.take c.cap) ∧
      absOf c' (ids.take c.cap) = ⟨c.cap, (kvOf c ids).take c.cap⟩ := by
  obtain ⟨c', hm, hr', hkv⟩ := manageSize_ok hr
  refine ⟨c', hm, hr', ?_⟩
  rw [absOf, hkv.2.1, kvOf_sameKV hkv, kvOf, kvOf, List.map_take]

theorem walkNxt_seg {h : Id → Node K V} {ids : List Id} {p : Option Id} (fuel : Nat)
    (hs : Seg h p ids none) (hf : ids.length ≤ fuel) : walkNxt h fuel ids.head? = some ids := by
  induction ids generalizing p fuel with
  | nil => cases fuel <;> simp [walkNxt]
  | cons i r ih =>
    cases fuel with
    | zero => simp at hf
    | succ n =>
      obtain ⟨_, h2, h3⟩ := hs
      simp only [Option.or_none] at h2
      simp only [List.head?_cons, walkNxt, h2]
      rw [ih n h3 (by simpa using hf)]
      rfl

theorem walkPrv_rev {h : Id → Node K V} {xs : List Id} {q : Option Id} (fuel : Nat)
    (hs : Seg h none xs.reverse q) (hf : xs.length ≤ fuel) :
    walkPrv h fuel xs.head? = some xs := by
  induction xs generalizing q fuel with
  | nil => cases fuel <;> simp [walkPrv]
  | cons i r ih =>
    cases fuel with
    | zero => simp at hf
    | succ n =>
      rw [List.reverse_cons, Seg.append] at hs
      obtain ⟨h1, h2, _, _⟩ := hs
      simp only [Option.or_none, List.getLast?_reverse] at h2
      simp only [List.head?_cons, walkPrv, h2]
      rw [ih n h1 (by simpa using hf)]
      rfl

theorem walkPrv_seg {h : Id → Node K V} {ids : List Id} {q : Option Id} (fuel : Nat)
    (hs : Seg h none ids q) (hf : ids.length ≤ fuel) :
    walkPrv h fuel ids.getLast? = some ids.reverse := by
  have := walkPrv_rev (xs := ids.reverse) (q := q) fuel (by simpa using hs) (by simpa using hf)
  simpa using this

theorem Repr.toIds {c : CLru K V} {ids : List Id} (hr : Repr c ids) : toIds c = some ids := by
  unfold Lru.toIds
  rw [hr.list.head]
  exact walkNxt_seg _ hr.list.seg (by rw [hr.dict.size]; omega)

theorem Repr.abs {c : CLru K V} {ids : List Id} (hr : Repr c ids) : abs c = some (absOf c ids) := by
  simp [Lru.abs, hr.toIds, absOf, kvOf]

theorem kvOf_append (c : CLru K V) (xs ys : List Id) : kvOf c (xs ++ ys) = kvOf c xs ++ kvOf c ys := by
  simp [kvOf]

theorem kvOf_cons (c : CLru K V) (i : Id) (xs : List Id) :
    kvOf c (i :: xs) = ((c.heap i).key, (c.heap i).val) :: kvOf c xs := rfl

theorem kvOf_keys_ne {c : CLru K V} {xs : List Id} {k : K} (h : ∀ j ∈ xs, (c.heap j).key ≠ k) :
    ∀ p ∈ kvOf c xs, p.1 ≠ k := by
  intro p hp
  simp only [kvOf, List.mem_map] at hp
  obtain ⟨j, hj, rfl⟩ := hp
  exact h j hj

theorem DictOK.transfer {c c' : CLru K V} {ids ids' : List Id} (hd : DictOK c ids)
    (hdict : c'.dict = c.dict) (hkey : ∀ j, (c'.heap j).key = (c.heap j).key)
    (hsize : c'.size = c.size) (hp : ids'.Perm ids) : DictOK c' ids' := by
  refine ⟨?_, ?_, ?_⟩
  · intro i hi; rw [hdict, hkey]; exact hd.fwd i (hp.mem_iff.mp hi)
  · intro k i hk; rw [hdict] at hk
    obtain ⟨h1, h2⟩ := hd.bwd k i hk
    exact ⟨hp.mem_iff.mpr h1, by rw [hkey]; exact h2⟩
  · rw [hsize, hp.length_eq]; exact hd.size

theorem Repr.moveFront {c c' : CLru K V} {pre post : List Id} {i : Id}
    (hr : Repr c (pre ++ i :: post)) (hl : ListOK c' (i :: (pre ++ post)))
    (hdict : c'.dict = c.dict) (hkey : ∀ j, (c'.heap j).key = (c.heap j).key)
    (hsize : c'.size = c.size) (hfresh : c'.fresh = c.fresh) : Repr c' (i :: (pre ++ post)) := by
  have hp : (i :: (pre ++ post)).Perm (pre ++ i :: post) := List.perm_middle.symm
  refine ⟨hl, hr.dict.transfer hdict hkey hsize hp, ?_⟩
  intro j hj; rw [hfresh]; exact hr.fresh j (hp.mem_iff.mp hj)

theorem Repr.keys_ne {c : CLru K V} {pre post : List Id} {i : Id} (hr : Repr c (pre ++ i :: post)) :
    (∀ j ∈ pre, (c.heap j).key ≠ (c.heap i).key) ∧ (∀ j ∈ post, (c.heap j).key ≠ (c.heap i).key) := by
  have hnd := hr.list.nodup
  rw [List.nodup_append] at hnd
  obtain ⟨_, hip, hdisj⟩ := hnd
  constructor
  · intro j hj hk
    have := hr.key_inj (i := j) (j := i) (by simp [hj]) (by simp) hk
    exact hdisj j hj i (by simp) this
  · intro j hj hk
    have := hr.key_inj (i := j) (j := i) (by simp [hj]) (by simp) hk
    subst this
    exact (List.nodup_cons.mp hip).1 hj

theorem Repr.lookup_none {c : CLru K V} {ids : List Id} (hr : Repr c ids) {k : K}
    (hk : c.dict k = none) : ∀ j ∈ ids, (c.heap j).key ≠ k := by
  intro j hj he
  have := hr.dict.fwd j hj
  rw [he, hk] at this
  exact absurd this (by simp)

/-- the node `i` of key `k` in the recency list: the abstract lookup finds its value, erasing the key takes out exactly
    this node, and it occurs nowhere else -/
theorem Repr.at_key {c : CLru K V} {pre post : List Id} {i : Id} {k : K} (hr : Repr c (pre ++ i :: post))
    (hk : (c.heap i).key = k) :
    alookup k (kvOf c (pre ++ i :: post)) = some (c.heap i).val ∧
    aerase k (kvOf c (pre ++ i :: post)) = kvOf c (pre ++ post) ∧ i ∉ pre ++ post := by
  obtain ⟨hne1, hne2⟩ := hr.keys_ne
  rw [hk] at hne1 hne2
  refine ⟨?_, ?_, ?_⟩
  · rw [kvOf_append, kvOf_cons, hk]
    exact alookup_mid (kvOf_keys_ne hne1)
  · rw [kvOf_append, kvOf_cons, hk, kvOf_append]
    exact aerase_mid (kvOf_keys_ne hne1) (kvOf_keys_ne hne2)
  · have hnd := hr.list.nodup
    rw [List.nodup_append] at hnd
    simp only [List.mem_append, not_or]
    exact ⟨fun h => hnd.2.2 i h i (by simp) rfl, (List.nodup_cons.mp hnd.2.1).1⟩

theorem getItem_refines {c : CLru K V} {ids : List Id} (hr : Repr c ids) (k : K) :
    ∃ c' ids', cstep c (.get k) = some (c', (astep (absOf c ids) (.get k)).2) ∧ Repr c' ids' ∧
      absOf c' ids' = (astep (absOf c ids) (.get k)).1 := by
  cases hk : c.dict k with
  | none =>
    have hno := alookup_eq_none.mpr (kvOf_keys_ne (hr.lookup_none hk))
    refine ⟨c, ids, ?_, hr, ?_⟩
    · simp [cstep, getItem, hk, astep, absOf, hno]
    · simp [astep, absOf, hno]
  | some i =>
    obtain ⟨himem, hikey⟩ := hr.dict.bwd k i hk
    obtain ⟨pre, post, rfl⟩ := List.append_of_mem himem
    obtain ⟨c', hupd, hl', hsd⟩ := updateItem_ok hr.list
    obtain ⟨hlook, herase, _⟩ := hr.at_key hikey
    refine ⟨c', i :: (pre ++ post), ?_, hr.moveFront hl' hsd.2.1 (fun j => (hsd.1 j).1) hsd.2.2.1 hsd.2.2.2.2, ?_⟩
    · simp [cstep, getItem, hk, hupd, astep, absOf, hlook, (hsd.1 i).2]
    · simp only [astep, absOf, hlook, herase, hsd.2.2.2.1]
      rw [kvOf_sameKV hsd.kv, kvOf_cons, hikey]


theorem setItem_refines {c : CLru K V} {ids : List Id} (hr : Repr c ids) (k : K) (v : V) :
    ∃ c' ids', cstep c (.set k v) = some (c', (astep (absOf c ids) (.set k v)).2) ∧ Repr c' ids' ∧
      absOf c' ids' = (astep (absOf c ids) (.set k v)).1 := by
  cases hk : c.dict k with
  | none =>
    -- a new item
    have hkeys := hr.lookup_none hk
    have hfr : c.fresh ∉ ids := fun hm => Nat.lt_irrefl _ (hr.fresh _ hm)
    let c1 : CLru K V := { c with heap := setNode c.heap c.fresh ⟨none, none, k, v⟩, fresh := c.fresh + 1,
                                  dict := dictSet c.dict k c.fresh, size := c.size + 1 }
    have hl1 : ListOK c1 ids := by
      refine ⟨hr.list.seg.frame ?_, hr.list.head, hr.list.tail, hr.list.nodup⟩
      intro i hi
      have : i ≠ c.fresh := fun e => hfr (e ▸ hi)
      simp [c1, this]
    obtain ⟨hl2, hsd2⟩ := linkFront_ok hl1 hfr
    have hkey2 : ∀ j, (linkFront c1 c.fresh |>.heap j).key = (c1.heap j).key := fun j => (hsd2.1 j).1
    have hr2 : Repr (linkFront c1 c.fresh) (c.fresh :: ids) := by
      refine ⟨hl2, ⟨?_, ?_, ?_⟩, ?_⟩
      · intro i hi
        rw [hsd2.2.1, hkey2]
        simp only [List.mem_cons] at hi
        rcases hi with rfl | hi
        · simp [c1, dictSet]
        · have hne : i ≠ c.fresh := fun e => hfr (e ▸ hi)
          simp only [c1, setNode_ne _ _ hne, dictSet, hkeys i hi, ↓reduceIte]
          exact hr.dict.fwd i hi
      · intro k' i hk'
        rw [hsd2.2.1] at hk'
        rw [hkey2]
        simp only [c1, dictSet] at hk'
        split at hk'
        · rename_i e
          simp at hk'; subst hk'; subst e
          simp [c1]
        · obtain ⟨h1, h2⟩ := hr.dict.bwd k' i hk'
          have hne : i ≠ c.fresh := fun e => hfr (e ▸ h1)
          exact ⟨List.mem_cons_of_mem _ h1, by simp [c1, setNode_ne _ _ hne, h2]⟩
      · rw [hsd2.2.2.1]; simp [c1, hr.dict.size]
      · intro i hi
        rw [hsd2.2.2.2.2]
        simp only [List.mem_cons] at hi
        rcases hi with rfl | hi
        · simp [c1]
        · have := hr.fresh i hi
          exact Nat.lt_succ_of_lt this
    have hkv2 : kvOf (linkFront c1 c.fresh) (c.fresh :: ids) = (k, v) :: kvOf c ids := by
      rw [kvOf_sameKV hsd2.kv, kvOf_cons]
      simp only [c1, setNode_same]
      congr 1
      exact kvOf_congr fun i hi => by
        have hne : i ≠ c.fresh := fun e => hfr (e ▸ hi)
        simp [setNode_ne _ _ hne]
    obtain ⟨c3, hm, hr3, ha3⟩ := manageSize_abs hr2
    rw [hsd2.2.2.2.1] at hr3 ha3
    refine ⟨c3, (c.fresh :: ids).take c.cap, ?_, hr3, ?_⟩
    · simp only [cstep, setItem, hk, insertItem, c1, hm, Option.map_some, astep]
    · rw [ha3, hkv2]
      simp only [astep, absOf, aerase_of_not_mem (kvOf_keys_ne hkeys), c1]
  | some i =>
    obtain ⟨himem, hikey⟩ := hr.dict.bwd k i hk
    obtain ⟨pre, post, rfl⟩ := List.append_of_mem himem
    let c1 : CLru K V := { c with heap := setVal c.heap i v }
    have hl1 : ListOK c1 (pre ++ i :: post) :=
      ⟨hr.list.seg.frame (fun j _ => by simp [c1]), hr.list.head, hr.list.tail, hr.list.nodup⟩
    have hr1 : Repr c1 (pre ++ i :: post) :=
      ⟨hl1, hr.dict.transfer rfl (fun j => by simp [c1]) rfl (.refl _), hr.fresh⟩
    obtain ⟨c2, hupd, hl2, hsd2⟩ := updateItem_ok hl1
    have hr2 : Repr c2 (i :: (pre ++ post)) :=
      hr1.moveFront hl2 hsd2.2.1 (fun j => (hsd2.1 j).1) hsd2.2.2.1 hsd2.2.2.2.2
    obtain ⟨_, herase, hipp⟩ := hr.at_key hikey
    have hkv2 : kvOf c2 (i :: (pre ++ post)) = (k, v) :: kvOf c (pre ++ post) := by
      rw [kvOf_sameKV hsd2.kv, kvOf_cons]
      simp only [c1, setVal_key, setVal_same, hikey]
      congr 1
      exact kvOf_congr fun j hj => by
        have hne : j ≠ i := fun e => hipp (e ▸ hj)
        simp [setVal_ne _ _ hne]
    obtain ⟨c3, hm, hr3, ha3⟩ := manageSize_abs hr2
    rw [hsd2.2.2.2.1] at hr3 ha3
    refine ⟨c3, (i :: (pre ++ post)).take c.cap, ?_, hr3, ?_⟩
    · simp only [cstep, setItem, hk, c1, hupd, Option.bind_some, hm, Option.map_some, astep]
    · rw [ha3, hkv2]
      simp only [astep, absOf, herase, c1]


theorem Repr.lookup {c : CLru K V} {ids : List Id} (hr : Repr c ids) (k : K) :
    (c.dict k).isSome = (alookup k (kvOf c ids)).isSome := by
  cases hk : c.dict k with
  | none => simp [alookup_eq_none.mpr (kvOf_keys_ne (hr.lookup_none hk))]
  | some i =>
    obtain ⟨himem, hikey⟩ := hr.dict.bwd k i hk
    obtain ⟨pre, post, rfl⟩ := List.append_of_mem himem
    rw [(hr.at_key hikey).1]
    rfl

theorem cstep_refines {c : CLru K V} {ids : List Id} (hr : Repr c ids) (op : Op K V) :
    ∃ c' ids', cstep c op = some (c', (astep (absOf c ids) op).2) ∧ Repr c' ids' ∧
      absOf c' ids' = (astep (absOf c ids) op).1 := by
  cases op with
  | get k => exact getItem_refines hr k
  | set k v => exact setItem_refines hr k v
  | contains k =>
    exact ⟨c, ids, by simp [cstep, astep, contains, absOf, hr.lookup k], hr, rfl⟩
  | len =>
    exact ⟨c, ids, by simp [cstep, astep, len, absOf, kvOf, hr.dict.size], hr, rfl⟩
  | iter =>
    exact ⟨c, ids, by simp [cstep, astep, iter, hr.toIds, absOf, kvOf], hr, rfl⟩

theorem crun_refines {c : CLru K V} {ids : List Id} (hr : Repr c ids) (ops : List (Op K V)) :
    ∃ c' ids', crun c ops = some (c', (arun (absOf c ids) ops).2) ∧ Repr c' ids' ∧
      absOf c' ids' = (arun (absOf c ids) ops).1 := by
  induction ops generalizing c ids with
  | nil => exact ⟨c, ids, rfl, hr, rfl⟩
  | cons op ops ih =>
    obtain ⟨c1, ids1, hs, hr1, ha1⟩ := cstep_refines hr op
    obtain ⟨c2, ids2, hs2, hr2, ha2⟩ := ih hr1
    refine ⟨c2, ids2, ?_, hr2, ?_⟩
    · simp only [crun, hs, hs2, arun, ha1, Option.map_some]
    · simp only [arun, ← ha1, ha2]

theorem empty_repr (cap : Nat) (d : Node K V) : Repr (empty cap d) [] :=
  ⟨⟨trivial, rfl, rfl, List.nodup_nil⟩, ⟨by simp, by simp [empty], rfl⟩, by simp⟩

/-- `crun_refines` from the empty cache: every operation sequence runs, with the outputs of the abstract map, to a
    structure that represents the abstract map's recency list — and so holds at most `cap` nodes -/
theorem crun_empty (cap : Nat) (d : Node K V) (ops : List (Op K V)) :
    ∃ c' ids, crun (empty cap d) ops = some (c', (arun (aempty cap) ops).2) ∧ Repr c' ids ∧
      absOf c' ids = (arun (aempty cap) ops).1 ∧ len c' ≤ cap := by
  obtain ⟨c', ids, hs, hr, ha⟩ := crun_refines (empty_repr cap d) ops
  refine ⟨c', ids, hs, hr, ha, ?_⟩
  have hlen : (absOf c' ids).items.length ≤ cap := by
    rw [ha]
    exact Nat.le_trans (arun_awf (aempty_awf cap) ops).1 (Nat.le_of_eq (arun_cap (aempty cap) ops))
  simpa [len, absOf, kvOf, hr.dict.size] using hlen

/-- well-formedness of the concrete structure: it represents some list of nodes -/
def Wf (c : CLru K V) : Prop := ∃ ids, Repr c ids

theorem Repr.meaning {c : CLru K V} {ids : List Id} (hr : Repr c ids) :
    walkNxt c.heap (c.size + 1) c.head = some ids ∧
    walkPrv c.heap (c.size + 1) c.tail = some ids.reverse ∧
    ids.Nodup ∧ (ids.map fun i => (c.heap i).key).Nodup ∧ c.size = ids.length ∧
    (∀ i ∈ ids, c.dict (c.heap i).key = some i) ∧
    (∀ k i, c.dict k = some i → i ∈ ids ∧ (c.heap i).key = k) := by
  refine ⟨hr.toIds, ?_, hr.list.nodup, ?_, hr.dict.size, hr.dict.fwd, hr.dict.bwd⟩
  · rw [hr.list.tail]
    exact walkPrv_seg _ hr.list.seg (by rw [hr.dict.size]; omega)
  · exact List.pairwise_map.mpr (hr.list.nodup.imp_of_mem fun hi hj hne he => hne (hr.key_inj hi hj he))

theorem Repr.wfCheck {c : CLru K V} {ids : List Id} (hr : Repr c ids) (keys : List K) :
    wfCheck c keys = true := by
  obtain ⟨h1, h2, h3, _, h5, h6, h7⟩ := hr.meaning
  unfold Lru.wfCheck
  rw [h1, h2]
  simp only [List.reverse_reverse, beq_self_eq_true, Bool.true_and, Bool.and_eq_true,
    List.all_eq_true, beq_iff_eq, decide_eq_true_eq]
  refine ⟨⟨⟨⟨h5.symm, h3⟩, fun i hi => hr.fresh i hi⟩, fun i hi => h6 i hi⟩, ?_⟩
  intro k _
  cases hk : c.dict k with
  | none => rfl
  | some i =>
    obtain ⟨hm, hkey⟩ := h7 k i hk
    simp [hm, hkey]

end Genshi.Lru
