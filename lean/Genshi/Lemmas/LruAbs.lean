/-
  C15 — facts about the abstract bounded LRU map (capacity + recency list).
-/
import Genshi.Model.Lru
namespace Genshi.Lru
set_option linter.unusedSectionVars false
variable {K V : Type} [DecidableEq K]

def akeys (l : List (K × V)) : List K := l.map (·.1)

/-- invariant of the abstract map: within the bound, no key twice -/
def AWf (a : ALru K V) : Prop := a.items.length ≤ a.cap ∧ (akeys a.items).Nodup

theorem alookup_eq_find (k : K) (l : List (K × V)) : alookup k l = (l.find? (·.1 == k)).map (·.2) := by
  induction l with
  | nil => rfl
  | cons p r ih =>
    obtain ⟨k', v⟩ := p
    by_cases h : k' = k <;> simp [alookup, h, ih]

theorem alookup_eq_none {l : List (K × V)} {k : K} : alookup k l = none ↔ ∀ p ∈ l, p.1 ≠ k := by
  simp [alookup_eq_find]

theorem alookup_isSome {l : List (K × V)} {k : K} : (alookup k l).isSome ↔ k ∈ akeys l := by
  simp [alookup_eq_find, akeys]

theorem alookup_mem {l : List (K × V)} {k : K} {v : V} (h : alookup k l = some v) : (k, v) ∈ l := by
  rw [alookup_eq_find, Option.map_eq_some_iff] at h
  obtain ⟨⟨k', v'⟩, hf, rfl⟩ := h
  have := List.find?_some hf
  simp only [beq_iff_eq] at this
  exact this ▸ List.mem_of_find?_eq_some hf

theorem akeys_aerase (k : K) (l : List (K × V)) : akeys (aerase k l) = (akeys l).filter (· ≠ k) := by
  unfold akeys aerase
  rw [List.filter_map]
  rfl

theorem mem_aerase {k : K} {l : List (K × V)} {p : K × V} : p ∈ aerase k l ↔ p ∈ l ∧ p.1 ≠ k := by
  simp [aerase]

theorem aerase_cons (k : K) (p : K × V) (l : List (K × V)) :
    aerase k (p :: l) = if p.1 = k then aerase k l else p :: aerase k l := by
  by_cases h : p.1 = k <;> simp [aerase, h]

theorem aerase_of_not_mem {l : List (K × V)} {k : K} (h : ∀ p ∈ l, p.1 ≠ k) : aerase k l = l :=
  List.filter_eq_self.mpr fun p hp => by simpa using h p hp

theorem length_le_aerase_succ (k : K) {l : List (K × V)} (hd : l.Pairwise (fun p q => p.1 ≠ q.1)) :
    l.length ≤ (aerase k l).length + 1 := by
  induction l with
  | nil => exact Nat.zero_le _
  | cons p r ih =>
    obtain ⟨h1, h2⟩ := List.pairwise_cons.mp hd
    rw [aerase_cons]
    split
    next hk => rw [aerase_of_not_mem fun q hq e => h1 q hq (hk.trans e.symm)]; exact Nat.le_refl _
    next => exact Nat.succ_le_succ (ih h2)

theorem aerase_length_lt {k : K} {l : List (K × V)} {v : V} (h : alookup k l = some v) :
    (aerase k l).length < l.length :=
  List.length_filter_lt_length_iff_exists.mpr ⟨_, alookup_mem h, by simp⟩

theorem akeys_nodup_step {l : List (K × V)} (k : K) (v : V) (h : (akeys l).Nodup) :
    (akeys ((k, v) :: aerase k l)).Nodup := by
  show (k :: akeys (aerase k l)).Nodup
  rw [akeys_aerase]
  refine List.nodup_cons.mpr ⟨by simp, h.sublist List.filter_sublist⟩

theorem akeys_take (n : Nat) (l : List (K × V)) : akeys (l.take n) = (akeys l).take n := by
  simp [akeys, List.map_take]

theorem astep_cap (a : ALru K V) (op : Op K V) : (astep a op).1.cap = a.cap := by
  cases op <;> simp only [astep]
  split <;> rfl

theorem astep_awf {a : ALru K V} (h : AWf a) (op : Op K V) : AWf (astep a op).1 := by
  obtain ⟨hb, hn⟩ := h
  cases op with
  | get k =>
    simp only [astep]
    cases hl : alookup k a.items with
    | none => exact ⟨hb, hn⟩
    | some v =>
      refine ⟨?_, akeys_nodup_step k v hn⟩
      have := aerase_length_lt hl
      simp only [List.length_cons]; omega
  | set k v =>
    refine ⟨?_, ?_⟩
    · simp only [astep, List.length_take]; omega
    · simp only [astep]
      rw [akeys_take]
      exact (akeys_nodup_step k v hn).sublist (List.take_sublist _ _)
  | contains k => exact ⟨hb, hn⟩
  | len => exact ⟨hb, hn⟩
  | iter => exact ⟨hb, hn⟩

theorem arun_cap (a : ALru K V) (ops : List (Op K V)) : (arun a ops).1.cap = a.cap := by
  induction ops generalizing a with
  | nil => rfl
  | cons op ops ih => simp only [arun]; exact (ih _).trans (astep_cap a op)

theorem arun_awf {a : ALru K V} (h : AWf a) (ops : List (Op K V)) : AWf (arun a ops).1 := by
  induction ops generalizing a with
  | nil => exact h
  | cons op ops ih => simp only [arun]; exact ih (astep_awf h op)

theorem arun_append (a : ALru K V) (ops : List (Op K V)) (op : Op K V) :
    (arun a (ops ++ [op])).1 = (astep (arun a ops).1 op).1 := by
  induction ops generalizing a with
  | nil => simp [arun]
  | cons o os ih => simp only [List.cons_append, arun]; exact ih _

theorem mem_aget {a : ALru K V} {k : K} {p : K × V} (h : p ∈ (astep a (.get k)).1.items) : p ∈ a.items := by
  simp only [astep] at h
  cases hl : alookup k a.items with
  | none => rw [hl] at h; exact h
  | some v =>
    rw [hl] at h
    rcases List.mem_cons.mp h with rfl | h
    · exact alookup_mem hl
    · exact (mem_aerase.mp h).1

theorem mem_aset {a : ALru K V} {k : K} {v : V} {p : K × V} (h : p ∈ (astep a (.set k v)).1.items) :
    p = (k, v) ∨ (p ∈ a.items ∧ p.1 ≠ k) := by
  simp only [astep] at h
  rcases List.mem_cons.mp (List.mem_of_mem_take h) with rfl | h
  · exact Or.inl rfl
  · exact Or.inr (mem_aerase.mp h)

theorem alookup_aerase_ne {l : List (K × V)} {k k' : K} (h : k' ≠ k) :
    alookup k' (aerase k l) = alookup k' l := by
  rw [alookup_eq_find, alookup_eq_find, aerase, List.find?_filter]
  congr 2
  funext p
  by_cases e : p.1 = k' <;> simp [e, h]

theorem alookup_mid {pre post : List (K × V)} {k : K} {v : V} (h : ∀ p ∈ pre, p.1 ≠ k) :
    alookup k (pre ++ (k, v) :: post) = some v := by
  rw [alookup_eq_find, List.find?_append, List.find?_eq_none.mpr fun p hp e => h p hp (beq_iff_eq.mp e),
    List.find?_cons_of_pos (by exact beq_self_eq_true k)]
  rfl

theorem aerase_mid {pre post : List (K × V)} {k : K} {v : V}
    (h1 : ∀ p ∈ pre, p.1 ≠ k) (h2 : ∀ p ∈ post, p.1 ≠ k) :
    aerase k (pre ++ (k, v) :: post) = pre ++ post := by
  have h := aerase_cons k (k, v) post
  rw [if_pos rfl, aerase_of_not_mem h2] at h
  rw [aerase, List.filter_append, ← aerase, ← aerase, aerase_of_not_mem h1, h]

theorem alookup_get (a : ALru K V) (key k : K) :
    alookup k (astep a (.get key)).1.items = alookup k a.items := by
  simp only [astep]
  cases hl : alookup key a.items with
  | none => rfl
  | some v =>
    by_cases hk : key = k
    · subst hk; simp [alookup, hl]
    · simp only [alookup, hk, ↓reduceIte]
      exact alookup_aerase_ne (fun e => hk e.symm)

theorem alookup_take {l : List (K × V)} {k : K} {v : V} (n : Nat) (h : alookup k (l.take n) = some v) :
    alookup k l = some v := by
  rw [alookup_eq_find, Option.map_eq_some_iff] at h ⊢
  obtain ⟨p, hf, hp⟩ := h
  refine ⟨p, ?_, hp⟩
  rw [← List.take_append_drop n l, List.find?_append, hf]
  rfl

theorem alookup_set_self (a : ALru K V) (k : K) (v : V) :
    alookup k (astep a (.set k v)).1.items = if a.cap = 0 then none else some v := by
  simp only [astep]
  cases a.cap with
  | zero => rfl
  | succ n => simp only [List.take_succ_cons, alookup, if_true, Nat.succ_ne_zero, if_false]

/-- what is found under another key after a store was there before (it may have been evicted) -/
theorem alookup_set_ne {a : ALru K V} {key k : K} {t v : V} (hk : k ≠ key)
    (h : alookup k (astep a (.set key t)).1.items = some v) : alookup k a.items = some v := by
  simp only [astep] at h
  have h1 := alookup_take _ h
  have : key ≠ k := fun e => hk e.symm
  simp only [alookup, this, ↓reduceIte] at h1
  rwa [alookup_aerase_ne hk] at h1

theorem aempty_awf (cap : Nat) : AWf (aempty cap : ALru K V) := ⟨Nat.zero_le _, List.nodup_nil⟩

theorem aiter_keys (a : ALru K V) : astep a .iter = (a, .keys (akeys a.items)) := rfl

theorem aread_noop (a : ALru K V) (op : Op K V)
    (h : (∃ k, op = .contains k) ∨ op = .len ∨ op = .iter) : (astep a op).1 = a := by
  rcases h with ⟨k, rfl⟩ | rfl | rfl <;> rfl

end Genshi.Lru
