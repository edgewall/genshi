/-
  C15 — soundness of the executable well-formedness check: what the walks over the real
  fields establish is exactly `Wf`.
-/
import Genshi.Lemmas.Lru
namespace Genshi.Lru
set_option linter.unusedSectionVars false
variable {K V : Type} [DecidableEq K]

/-- the `nxt` half of a segment -/
def FwdOK (h : Id → Node K V) : List Id → Option Id → Prop
  | [], _ => True
  | i :: rest, q => (h i).nxt = rest.head?.or q ∧ FwdOK h rest q

/-- the `prv` half of a segment -/
def BwdOK (h : Id → Node K V) : Option Id → List Id → Prop
  | _, [] => True
  | p, i :: rest => (h i).prv = p ∧ BwdOK h (some i) rest

theorem seg_iff (h : Id → Node K V) (p : Option Id) (ids : List Id) (q : Option Id) :
    Seg h p ids q ↔ FwdOK h ids q ∧ BwdOK h p ids := by
  induction ids generalizing p with
  | nil => simp [Seg, FwdOK, BwdOK]
  | cons i r ih =>
    simp only [Seg, FwdOK, BwdOK, ih]
    constructor
    · rintro ⟨a, b, c, d⟩; exact ⟨⟨b, c⟩, a, d⟩
    · rintro ⟨⟨b, c⟩, a, d⟩; exact ⟨a, b, c, d⟩

theorem walkNxt_fwd {h : Id → Node K V} {n : Nat} {start : Option Id} {f : List Id}
    (hw : walkNxt h n start = some f) : start = f.head? ∧ FwdOK h f none := by
  induction n generalizing start f with
  | zero =>
    cases start with
    | none => simp [walkNxt] at hw; subst hw; exact ⟨rfl, trivial⟩
    | some i => simp [walkNxt] at hw
  | succ n ih =>
    cases start with
    | none => simp [walkNxt] at hw; subst hw; exact ⟨rfl, trivial⟩
    | some i =>
      simp only [walkNxt, Option.map_eq_some_iff] at hw
      obtain ⟨r, hr, rfl⟩ := hw
      obtain ⟨h1, h2⟩ := ih hr
      exact ⟨rfl, by simp only [FwdOK, Option.or_none]; exact ⟨h1, h2⟩⟩

theorem bwdOK_append (h : Id → Node K V) (p : Option Id) (xs : List Id) (i : Id) :
    BwdOK h p (xs ++ [i]) ↔ BwdOK h p xs ∧ (h i).prv = xs.getLast?.or p := by
  induction xs generalizing p with
  | nil => simp [BwdOK]
  | cons x r ih =>
    simp only [List.cons_append, BwdOK, ih, getLast?_cons_or]
    constructor
    · rintro ⟨a, b, c⟩; exact ⟨⟨a, b⟩, c⟩
    · rintro ⟨⟨a, b⟩, c⟩; exact ⟨a, b, c⟩

/-- the backward walk, read from its end, is the `prv` half of a segment -/
theorem walkPrv_bwd {h : Id → Node K V} {n : Nat} {start : Option Id} {b : List Id}
    (hw : walkPrv h n start = some b) : start = b.head? ∧ BwdOK h none b.reverse := by
  induction n generalizing start b with
  | zero =>
    cases start with
    | none => simp [walkPrv] at hw; subst hw; exact ⟨rfl, trivial⟩
    | some i => simp [walkPrv] at hw
  | succ n ih =>
    cases start with
    | none => simp [walkPrv] at hw; subst hw; exact ⟨rfl, trivial⟩
    | some i =>
      simp only [walkPrv, Option.map_eq_some_iff] at hw
      obtain ⟨r, hr, rfl⟩ := hw
      obtain ⟨h1, h2⟩ := ih hr
      rw [List.reverse_cons, bwdOK_append, List.getLast?_reverse, Option.or_none]
      exact ⟨rfl, h2, h1⟩


theorem wfCheck_sound {c : CLru K V} {keys : List K} (h : wfCheck c keys = true)
    (hcov : ∀ k i, c.dict k = some i → k ∈ keys) : Wf c := by
  unfold wfCheck at h
  cases hf : walkNxt c.heap (c.size + 1) c.head with
  | none => simp [hf] at h
  | some f =>
    cases hb : walkPrv c.heap (c.size + 1) c.tail with
    | none => simp [hf, hb] at h
    | some b =>
      simp only [hf, hb, Bool.and_eq_true, beq_iff_eq, List.all_eq_true, decide_eq_true_eq] at h
      obtain ⟨⟨⟨⟨⟨hrev, hlen⟩, hnd⟩, hfresh⟩, hdict⟩, hkeys⟩ := h
      obtain ⟨hhead, hfwd⟩ := walkNxt_fwd hf
      obtain ⟨htail, hbwd⟩ := walkPrv_bwd hb
      rw [← hrev] at hbwd
      refine ⟨f, ⟨(seg_iff _ _ _ _).mpr ⟨hfwd, hbwd⟩, hhead, ?_, hnd⟩, ⟨hdict, ?_, hlen.symm⟩, hfresh⟩
      · rw [htail, hrev, List.getLast?_reverse]
      · intro k i hk
        have := hkeys k (hcov k i hk)
        simp only [hk, Bool.and_eq_true, List.contains_iff_mem, decide_eq_true_eq] at this
        exact this

end Genshi.Lru
