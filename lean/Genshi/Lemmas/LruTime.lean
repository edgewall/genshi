/-
  C15 — "least recently used" in terms of the operation history: give every operation a
  time; the recency list of the abstract LRU map is strictly ordered by the time of last
  use of its keys, so the entry dropped by an eviction is the one used longest ago.
-/
import Genshi.Lemmas.LruAbs
namespace Genshi.Lru
set_option linter.unusedSectionVars false
variable {K V : Type} [DecidableEq K]

/-- the abstract map together with the time of the last use of every key (0 = never) and
    the number of operations so far -/
structure Timed (K V : Type) where
  a : ALru K V
  last : K → Nat
  now : Nat

/-- does this operation use a key (a hit or a store)? -/
def usedKey (a : ALru K V) : Op K V → Option K
  | .get k => if (alookup k a.items).isSome then some k else none
  | .set k _ => some k
  | _ => none

def tstep (s : Timed K V) (op : Op K V) : Timed K V :=
  { a := (astep s.a op).1,
    last := match usedKey s.a op with
      | some k => fun k' => if k' = k then s.now + 1 else s.last k'
      | none => s.last,
    now := s.now + 1 }

def trun (s : Timed K V) : List (Op K V) → Timed K V
  | [] => s
  | op :: ops => trun (tstep s op) ops

def tinit (cap : Nat) : Timed K V := ⟨aempty cap, fun _ => 0, 0⟩

/-- most recently used first, strictly; every cached key has been used, not in the future -/
def TimeOrdered (s : Timed K V) : Prop :=
  s.a.items.Pairwise (fun p q => s.last q.1 < s.last p.1) ∧ ∀ p ∈ s.a.items, 0 < s.last p.1 ∧ s.last p.1 ≤ s.now

theorem TimeOrdered.distinct {s : Timed K V} (h : TimeOrdered s) :
    s.a.items.Pairwise (fun p q => p.1 ≠ q.1) :=
  h.1.imp fun {p q} hlt e => by rw [e] at hlt; exact Nat.lt_irrefl _ hlt

theorem last_is_least_recent {s : Timed K V} (h : TimeOrdered s) (pre : List (K × V)) (p : K × V)
    (hitems : s.a.items = pre ++ [p]) : ∀ q ∈ pre, s.last p.1 < s.last q.1 := by
  intro q hq
  have := h.1
  rw [hitems, List.pairwise_append] at this
  exact this.2.2 q hq p (by simp)

/-- a used key is missing only from a full cache, and was then last used before every cached key -/
def TopRecent (s : Timed K V) : Prop :=
  ∀ k, 0 < s.last k → k ∉ akeys s.a.items →
    s.a.cap ≤ s.a.items.length ∧ ∀ p ∈ s.a.items, s.last k < s.last p.1

/-- the invariant of the timed run (the bound on the length is `AWf`'s) -/
def LruSpec (s : Timed K V) : Prop :=
  TimeOrdered s ∧ TopRecent s ∧ ∀ k, s.last k ≤ s.now

/-! Every operation is built from three moves: the clock ticks; a key moves to the front, used
    now; the list is cut at the capacity. -/

def tick (s : Timed K V) : Timed K V := { s with now := s.now + 1 }

def touch (s : Timed K V) (k : K) (v : V) : Timed K V :=
  { a := { s.a with items := (k, v) :: aerase k s.a.items },
    last := fun k' => if k' = k then s.now + 1 else s.last k',
    now := s.now + 1 }

def cut (s : Timed K V) : Timed K V := { s with a := { s.a with items := s.a.items.take s.a.cap } }

theorem tstep_get_miss {s : Timed K V} {k : K} (h : alookup k s.a.items = none) :
    tstep s (.get k) = tick s := by
  simp [tstep, usedKey, astep, h, tick]

theorem tstep_get_hit {s : Timed K V} {k : K} {v : V} (h : alookup k s.a.items = some v) :
    tstep s (.get k) = touch s k v := by
  simp [tstep, usedKey, astep, h, touch]

theorem tick_spec {s : Timed K V} (h : LruSpec s) : LruSpec (tick s) :=
  ⟨⟨h.1.1, fun p hp => ⟨(h.1.2 p hp).1, Nat.le_succ_of_le (h.1.2 p hp).2⟩⟩, h.2.1,
    fun k => Nat.le_succ_of_le (h.2.2 k)⟩

theorem touch_spec {s : Timed K V} (k : K) (v : V) (h : LruSpec s) : LruSpec (touch s k v) := by
  obtain ⟨⟨hp, hb⟩, ht, hnow⟩ := h
  have hdist := TimeOrdered.distinct ⟨hp, hb⟩
  -- what the time of last use is after the move
  have hk : (touch s k v).last k = s.now + 1 := if_pos rfl
  have hother : ∀ {k'}, k' ≠ k → (touch s k v).last k' = s.last k' := fun h => if_neg h
  have hrest : ∀ p ∈ aerase k s.a.items, p ∈ s.a.items ∧ (touch s k v).last p.1 = s.last p.1 :=
    fun p hp' => ⟨(mem_aerase.mp hp').1, hother (mem_aerase.mp hp').2⟩
  refine ⟨⟨List.pairwise_cons.mpr ⟨?_, ?_⟩, ?_⟩, ?_, ?_⟩
  · intro q hq
    obtain ⟨hq1, hq2⟩ := hrest q hq
    have := (hb q hq1).2
    show (touch s k v).last q.1 < (touch s k v).last k
    omega
  · refine ((hp.sublist List.filter_sublist).imp_of_mem ?_)
    intro p q hp' hq' hlt
    rw [(hrest p hp').2, (hrest q hq').2]
    exact hlt
  · intro p hp'
    rcases List.mem_cons.mp hp' with rfl | hp'
    · show 0 < (touch s k v).last k ∧ (touch s k v).last k ≤ s.now + 1
      omega
    · obtain ⟨h1, h2⟩ := hrest p hp'
      have := hb p h1
      show 0 < (touch s k v).last p.1 ∧ (touch s k v).last p.1 ≤ s.now + 1
      omega
  · -- a key that is missing now is not `k` and was missing before
    intro k0 hpos hnot
    have hnot' : k0 ≠ k ∧ k0 ∉ akeys s.a.items := by
      have : k0 ∉ k :: (akeys s.a.items).filter (· ≠ k) := by rw [← akeys_aerase]; exact hnot
      simp only [List.mem_cons, List.mem_filter, decide_eq_true_eq] at this
      exact ⟨fun e => this (Or.inl e), fun hm => this (if e : k0 = k then Or.inl e else Or.inr ⟨hm, e⟩)⟩
    rw [hother hnot'.1] at hpos ⊢
    obtain ⟨hfull, hold⟩ := ht k0 hpos hnot'.2
    refine ⟨?_, fun p hp' => ?_⟩
    · have := length_le_aerase_succ k hdist
      show s.a.cap ≤ (aerase k s.a.items).length + 1
      omega
    · rcases List.mem_cons.mp hp' with rfl | hp'
      · have := hnow k0
        show s.last k0 < (touch s k v).last k
        omega
      · rw [(hrest p hp').2]
        exact hold p (hrest p hp').1
  · intro k0
    show (if k0 = k then s.now + 1 else s.last k0) ≤ s.now + 1
    split
    · exact Nat.le_refl _
    · exact Nat.le_succ_of_le (hnow k0)

/-- cutting drops the entries used longest ago, so a key dropped now is older than all that stay -/
theorem cut_spec {s : Timed K V} (h : LruSpec s) : LruSpec (cut s) := by
  obtain ⟨⟨hp, hb⟩, ht, hnow⟩ := h
  refine ⟨⟨hp.sublist (List.take_sublist _ _), fun p hp' => hb p (List.mem_of_mem_take hp')⟩, ?_, hnow⟩
  intro k0 hpos hnot
  show s.a.cap ≤ (s.a.items.take s.a.cap).length ∧ ∀ p ∈ s.a.items.take s.a.cap, s.last k0 < s.last p.1
  by_cases hin : k0 ∈ akeys s.a.items
  · obtain ⟨q, hq, rfl⟩ := List.mem_map.mp hin
    rw [← List.take_append_drop s.a.cap s.a.items] at hq hp
    have hqd : q ∈ s.a.items.drop s.a.cap :=
      (List.mem_append.mp hq).resolve_left fun hq' => hnot (List.mem_map.mpr ⟨q, hq', rfl⟩)
    have : s.a.cap < s.a.items.length := by
      have := List.length_pos_of_mem hqd
      rw [List.length_drop] at this
      omega
    exact ⟨by rw [List.length_take]; omega, fun p hp' => (List.pairwise_append.mp hp).2.2 p hp' q hqd⟩
  · obtain ⟨hfull, hold⟩ := ht k0 hpos hin
    exact ⟨by rw [List.length_take]; omega, fun p hp' => hold p (List.mem_of_mem_take hp')⟩

theorem tstep_spec (s : Timed K V) (op : Op K V) (h : LruSpec s) : LruSpec (tstep s op) := by
  cases op with
  | get k =>
    cases hl : alookup k s.a.items with
    | none => rw [tstep_get_miss hl]; exact tick_spec h
    | some v => rw [tstep_get_hit hl]; exact touch_spec k v h
  | set k v => exact cut_spec (touch_spec k v h)
  | contains k => exact tick_spec h
  | len => exact tick_spec h
  | iter => exact tick_spec h

theorem trun_spec (s : Timed K V) (ops : List (Op K V)) (h : LruSpec s) : LruSpec (trun s ops) := by
  induction ops generalizing s with
  | nil => exact h
  | cons op ops ih => exact ih _ (tstep_spec s op h)

/-- the invariant read for a map within its bound: a key that was used and is missing was last used
    before every cached key, and keys are missing from a full map only -/
theorem LruSpec.most_recent {s : Timed K V} (h : LruSpec s) (hb : s.a.items.length ≤ s.a.cap) :
    (∀ k p, 0 < s.last k → k ∉ akeys s.a.items → p ∈ s.a.items → s.last k < s.last p.1) ∧
    (s.a.items.length = s.a.cap ∨ ∀ k, 0 < s.last k → k ∈ akeys s.a.items) := by
  refine ⟨fun k p h1 h2 h3 => (h.2.1 k h1 h2).2 p h3,
    Decidable.or_iff_not_imp_left.mpr fun hlen k hk => Decidable.byContradiction fun hn => ?_⟩
  exact hlen (Nat.le_antisymm hb (h.2.1 k hk hn).1)

theorem tinit_spec (cap : Nat) : LruSpec (tinit cap : Timed K V) :=
  ⟨⟨List.Pairwise.nil, fun _ hp => nomatch hp⟩, fun _ hpos => absurd hpos (Nat.lt_irrefl 0),
    fun _ => Nat.le_refl 0⟩

theorem trun_a (s : Timed K V) (ops : List (Op K V)) : (trun s ops).a = (arun s.a ops).1 := by
  induction ops generalizing s with
  | nil => rfl
  | cons op ops ih => simp only [trun, arun]; rw [ih]; rfl

end Genshi.Lru
