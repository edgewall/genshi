/-
  C18 — `Markup.__mod__` on concrete format strings `l0 %s l1 %s … ln` and
  `l0 %(k1)s l1 … %(kn)s ln`: the parser of the model reads them as the literals interleaved
  with the conversions, and formatting fills in the operands in order, resp. the values of the keys.
-/
import Genshi.Lemmas.MarkupOps
set_option linter.unusedSimpArgs false
namespace Genshi.MarkupOps
open Genshi.Str Genshi.Escape

/-- the format string `l0 %s l1 %s … ln` -/
def fmtOf : List Str → Str
  | [] => []
  | [l] => l
  | l :: l' :: ls => l ++ '%' :: 's' :: fmtOf (l' :: ls)

/-- the literals with the operands filled in, in order -/
def interleave : List Str → List Str → Str
  | [], _ => []
  | [l], _ => l
  | l :: l' :: ls, [] => l
  | l :: l' :: ls, a :: as => l ++ a ++ interleave (l' :: ls) as

/-- what the parser emits for the literal text it has accumulated: no piece if there is none -/
def litP (l : Str) : List Piece := if l.isEmpty then [] else [Piece.lit l]

/-- the pieces of `fmtOf lits` when the parser has already accumulated `pre` -/
def piecesOf (pre : Str) : List Str → List Piece
  | [] => litP pre
  | [l] => litP (pre ++ l)
  | l :: l' :: ls => litP (pre ++ l) ++ Piece.arg Conv.s :: piecesOf [] (l' :: ls)

theorem parseFmt_nil (f : Nat) (acc : Str) : parseFmt (f + 1) [] acc = some (litP acc.reverse) := by
  simp [parseFmt, litP]

theorem parseFmt_lit_char (f : Nat) (c : Char) (rest acc : Str) (hc : c ≠ '%') :
    parseFmt (f + 1) (c :: rest) acc = parseFmt f rest (c :: acc) := by
  cases rest <;> simp [parseFmt, hc]

theorem parseFmt_lit : ∀ (l : Str) (f : Nat) (rest acc : Str), '%' ∉ l →
    parseFmt (f + l.length) (l ++ rest) acc = parseFmt f rest (l.reverse ++ acc) := by
  intro l
  induction l with
  | nil => intro f rest acc _; simp
  | cons c cs ih =>
    intro f rest acc h
    have hc : c ≠ '%' := fun e => h (by simp [e])
    have hcs : '%' ∉ cs := fun hm => h (by simp [hm])
    have : f + (c :: cs).length = (f + cs.length) + 1 := by simp; omega
    rw [this, List.cons_append, parseFmt_lit_char _ _ _ _ hc, ih f rest (c :: acc) hcs]
    simp

theorem parseFmt_pct_s (f : Nat) (r acc : Str) :
    parseFmt (f + 1) ('%' :: 's' :: r) acc =
      (parseFmt f r []).map (litP acc.reverse ++ [Piece.arg Conv.s] ++ ·) := by
  simp [parseFmt, conv?, litP]

/-- One round of the parser on `l ++ t`, a literal and then a conversion `t` with `rest` behind it, for
    both forms of conversion: `hs` says that with any fuel the conversion is read as the piece `pc` and
    parsing goes on with `rest`, `ih` what `rest` parses to. -/
theorem parseFmt_step (l t rest acc : Str) (pc : Piece) (f : Nat) (hl : '%' ∉ l)
    (hs : ∀ k, parseFmt (k + 1) t (l.reverse ++ acc) =
      (parseFmt k rest []).map (litP (l.reverse ++ acc).reverse ++ [pc] ++ ·))
    (ht : rest.length < t.length) (hf : (l ++ t).length < f) (ps : List Piece)
    (ih : ∀ k, rest.length < k → parseFmt k rest [] = some ps) :
    parseFmt f (l ++ t) acc = some (litP (acc.reverse ++ l) ++ pc :: ps) := by
  rw [List.length_append] at hf
  obtain ⟨k, rfl⟩ : ∃ k, f = (k + 1) + l.length := ⟨f - l.length - 1, by omega⟩
  rw [parseFmt_lit l (k + 1) _ acc hl, hs, ih k (by omega), List.reverse_append, List.reverse_reverse]
  simp only [Option.map_some, List.append_assoc, List.singleton_append]

theorem parseFmt_last (l acc : Str) (f : Nat) (hl : '%' ∉ l) (hf : l.length < f) :
    parseFmt f l acc = some (litP (acc.reverse ++ l)) := by
  obtain ⟨k, rfl⟩ : ∃ k, f = (k + 1) + l.length := ⟨f - l.length - 1, by omega⟩
  have := parseFmt_lit l (k + 1) [] acc hl
  rw [List.append_nil] at this
  rw [this, parseFmt_nil, List.reverse_append, List.reverse_reverse]

theorem parseFmt_fmtOf : ∀ (lits : List Str) (f : Nat) (acc : Str), (∀ l ∈ lits, '%' ∉ l) →
    (fmtOf lits).length < f → parseFmt f (fmtOf lits) acc = some (piecesOf acc.reverse lits) := by
  intro lits
  induction lits with
  | nil =>
    intro f acc _ hf
    cases f with
    | zero => exact absurd hf (Nat.not_lt_zero _)
    | succ f => exact parseFmt_nil f acc
  | cons l ls ih =>
    intro f acc h hf
    have hl : '%' ∉ l := h l List.mem_cons_self
    cases ls with
    | nil => exact parseFmt_last l acc f hl hf
    | cons l' ls' =>
      exact parseFmt_step l _ _ acc _ f hl (fun k => parseFmt_pct_s k _ _)
        (Nat.lt_succ_of_lt (Nat.lt_succ_self _)) hf _
        fun k hk => ih k [] (fun x hx => h x (List.mem_cons_of_mem _ hx)) hk

theorem fmtPos_litP (l : Str) (ps : List Piece) (as : List Str) :
    fmtPos (litP l ++ ps) as = (fmtPos ps as).map (l ++ ·) := by
  unfold litP
  cases l with
  | nil => cases h : fmtPos ps as <;> simp [Except.map, h]
  | cons c cs => simp [fmtPos]

theorem fmtPos_piecesOf : ∀ (lits : List Str) (pre : Str) (as : List Str), lits.length = as.length + 1 →
    fmtPos (piecesOf pre lits) as = .ok (pre ++ interleave lits as) := by
  intro lits
  induction lits with
  | nil => intro pre as h; cases h
  | cons l ls ih =>
    intro pre as h
    cases ls with
    | nil =>
      cases as with
      | nil =>
        have := fmtPos_litP (pre ++ l) [] []
        rw [List.append_nil] at this
        exact this.trans (congrArg Except.ok (List.append_nil _))
      | cons a as => cases h
    | cons l' ls' =>
      cases as with
      | nil => cases h
      | cons a as =>
        have e : fmtPos (Piece.arg Conv.s :: piecesOf [] (l' :: ls')) (a :: as) = .ok (a ++ interleave (l' :: ls') as) := by
          show (convert Conv.s a >>= fun x => fmtPos (piecesOf [] (l' :: ls')) as >>= fun r => pure (x ++ r)) = _
          rw [ih [] as (Nat.succ.inj h)]; rfl
        show fmtPos (litP (pre ++ l) ++ _) _ = .ok (pre ++ (l ++ a ++ _))
        rw [fmtPos_litP, e]
        simp only [Except.map, List.append_assoc]

/-- the format string `l0 %(k1)s l1 … %(kn)s ln` -/
def fmtOfK : List Str → List Str → Str
  | [], _ => []
  | [l], _ => l
  | l :: _ :: _, [] => l
  | l :: l' :: ls, k :: ks => l ++ ('%' :: '(' :: (k ++ ')' :: 's' :: fmtOfK (l' :: ls) ks))

/-- the pieces of `fmtOfK lits ks` when the parser has already accumulated `pre` -/
def piecesOfK (pre : Str) : List Str → List Str → List Piece
  | [], _ => litP pre
  | [l], _ => litP (pre ++ l)
  | l :: _ :: _, [] => litP (pre ++ l)
  | l :: l' :: ls, k :: ks => litP (pre ++ l) ++ Piece.key k Conv.s :: piecesOfK [] (l' :: ls) ks

theorem takeKey_step (c : Char) (rest acc : Str) (hr : rest ≠ []) (hc1 : c ≠ '(') (hc2 : c ≠ ')') :
    takeKey (c :: rest) acc = takeKey rest (c :: acc) := by
  rw [takeKey.eq_4 _ _ _ hr (fun _ _ h => absurd h hc2), if_neg hc1]

theorem takeKey_key : ∀ (k rest acc : Str), '(' ∉ k → ')' ∉ k →
    takeKey (k ++ ')' :: 's' :: rest) acc = some (acc.reverse ++ k, Conv.s, rest) := by
  intro k
  induction k with
  | nil => intro rest acc _ _; rw [List.append_nil]; rfl
  | cons c cs ih =>
    intro rest acc h1 h2
    rw [List.cons_append, takeKey_step c _ acc (List.append_ne_nil_of_right_ne_nil _ (List.cons_ne_nil _ _))
        (fun e => h1 (e ▸ List.mem_cons_self ..)) (fun e => h2 (e ▸ List.mem_cons_self ..)),
      ih rest (c :: acc) (fun hm => h1 (List.mem_cons_of_mem _ hm)) (fun hm => h2 (List.mem_cons_of_mem _ hm)),
      List.reverse_cons, List.append_assoc]
    rfl

theorem parseFmt_pct_key (f : Nat) (k r acc : Str) (h1 : '(' ∉ k) (h2 : ')' ∉ k) :
    parseFmt (f + 1) ('%' :: '(' :: (k ++ ')' :: 's' :: r)) acc =
      (parseFmt f r []).map (litP acc.reverse ++ [Piece.key k Conv.s] ++ ·) := by
  simp [parseFmt, takeKey_key k r [] h1 h2, litP]

theorem parseFmt_fmtOfK : ∀ (lits ks : List Str) (f : Nat) (acc : Str), (∀ l ∈ lits, '%' ∉ l) →
    (∀ k ∈ ks, '(' ∉ k ∧ ')' ∉ k) → lits.length = ks.length + 1 →
    (fmtOfK lits ks).length < f → parseFmt f (fmtOfK lits ks) acc = some (piecesOfK acc.reverse lits ks) := by
  intro lits
  induction lits with
  | nil => intro ks f acc _ _ hlen; cases hlen
  | cons l ls ih =>
    intro ks f acc h hk hlen hf
    have hl : '%' ∉ l := h l List.mem_cons_self
    cases ls with
    | nil => exact parseFmt_last l acc f hl hf
    | cons l' ls' =>
      cases ks with
      | nil => cases hlen
      | cons k ks' =>
        have hk' := hk k List.mem_cons_self
        refine parseFmt_step l _ _ acc _ f hl (fun j => parseFmt_pct_key j k _ _ hk'.1 hk'.2) ?_ hf _
          fun j hj => ih ks' j [] (fun x hx => h x (List.mem_cons_of_mem _ hx))
            (fun x hx => hk x (List.mem_cons_of_mem _ hx)) (Nat.succ.inj hlen) hj
        simp only [List.length_cons, List.length_append]; omega

theorem fmtMap_litP (l : Str) (ps : List Piece) (m : List (Str × Str)) :
    fmtMap (litP l ++ ps) m = (fmtMap ps m).map (l ++ ·) := by
  unfold litP
  cases l with
  | nil => cases h : fmtMap ps m <;> simp [Except.map, h]
  | cons c cs => simp [fmtMap]

theorem fmtMap_piecesOfK (m : List (Str × Str)) : ∀ (lits : List Str) (pre : Str) (ks : List Str),
    lits.length = ks.length + 1 → (∀ k ∈ ks, (lookupKey k m).isSome) →
    fmtMap (piecesOfK pre lits ks) m =
      .ok (pre ++ interleave lits (ks.map fun k => (lookupKey k m).getD [])) := by
  intro lits
  induction lits with
  | nil => intro pre ks h; cases h
  | cons l ls ih =>
    intro pre ks h hk
    cases ls with
    | nil =>
      have := fmtMap_litP (pre ++ l) [] m
      rw [List.append_nil] at this
      exact this.trans (congrArg Except.ok (List.append_nil _))
    | cons l' ls' =>
      cases ks with
      | nil => cases h
      | cons k ks' =>
        obtain ⟨v, hv⟩ := Option.isSome_iff_exists.mp (hk k List.mem_cons_self)
        have e : fmtMap (Piece.key k Conv.s :: piecesOfK [] (l' :: ls') ks') m =
            .ok (v ++ interleave (l' :: ls') (ks'.map fun k => (lookupKey k m).getD [])) := by
          rw [fmtMap, hv]
          show (convert Conv.s v >>= fun x => fmtMap (piecesOfK [] (l' :: ls') ks') m >>= fun r => pure (x ++ r)) = _
          rw [ih [] ks' (Nat.succ.inj h) fun x hx => hk x (List.mem_cons_of_mem _ hx)]; rfl
        show fmtMap (litP (pre ++ l) ++ _) _ = .ok (pre ++ (l ++ (lookupKey k m).getD [] ++ _))
        rw [fmtMap_litP, e, hv]
        simp only [Except.map, List.append_assoc, Option.getD_some]

end Genshi.MarkupOps
