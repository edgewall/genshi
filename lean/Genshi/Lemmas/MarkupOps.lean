/-
  C18 — lemmas about `Genshi.MarkupOps`: UTF-8 decoding inverts `utf8`, hence the C
  `escape()` end to end equals the character-wise specification; what `escape` and the operators make of a
  string operand (`once2`); `striptags` / `stripentities` on escaped text; Attrs accessors; QName.
-/
import Genshi.Lemmas.Escape
import Genshi.Lemmas.ListBasics
import Genshi.Lemmas.SanRoundtrip
import Genshi.Lemmas.StrStrip
import Genshi.Lemmas.SubstAttrs
import Genshi.Model.MarkupOps
set_option linter.unusedSimpArgs false
namespace Genshi.MarkupOps
open Genshi.Str Genshi.Escape

theorem utf8Decode_one (f b0 : Nat) (r : List Nat) (h : b0 < 0x80) :
    utf8Decode (f + 1) (b0 :: r) = Char.ofNat b0 :: utf8Decode f r := by
  show (if b0 < 0x80 then _ else _) = _
  rw [if_pos h]

theorem utf8Decode_two (f b0 b1 : Nat) (r : List Nat) (h1 : 0x80 ≤ b0) (h2 : b0 < 0xE0) :
    utf8Decode (f + 1) (b0 :: b1 :: r) = Char.ofNat ((b0 - 0xC0) * 64 + (b1 - 0x80)) :: utf8Decode f r := by
  show (if b0 < 0x80 then _ else if b0 < 0xE0 then _ else _) = _
  rw [if_neg (Nat.not_lt.mpr h1), if_pos h2]

theorem utf8Decode_three (f b0 b1 b2 : Nat) (r : List Nat) (h1 : 0xE0 ≤ b0) (h2 : b0 < 0xF0) :
    utf8Decode (f + 1) (b0 :: b1 :: b2 :: r) =
      Char.ofNat ((b0 - 0xE0) * 4096 + (b1 - 0x80) * 64 + (b2 - 0x80)) :: utf8Decode f r := by
  show (if b0 < 0x80 then _ else if b0 < 0xE0 then _ else if b0 < 0xF0 then _ else _) = _
  rw [if_neg (Nat.not_lt.mpr (Nat.le_trans (by decide) h1)), if_neg (Nat.not_lt.mpr h1), if_pos h2]

theorem utf8Decode_four (f b0 b1 b2 b3 : Nat) (r : List Nat) (h1 : 0xF0 ≤ b0) :
    utf8Decode (f + 1) (b0 :: b1 :: b2 :: b3 :: r) =
      Char.ofNat ((b0 - 0xF0) * 262144 + (b1 - 0x80) * 4096 + (b2 - 0x80) * 64 + (b3 - 0x80)) ::
        utf8Decode f r := by
  show (if b0 < 0x80 then _ else if b0 < 0xE0 then _ else if b0 < 0xF0 then _ else _) = _
  rw [if_neg (Nat.not_lt.mpr (Nat.le_trans (by decide) h1)),
    if_neg (Nat.not_lt.mpr (Nat.le_trans (by decide) h1)), if_neg (Nat.not_lt.mpr h1)]

theorem digit64 (v a : Nat) : v / (a * 64) * (a * 64) + v / a % 64 * a + v % a = v := by
  rw [Nat.add_assoc, Nat.mul_comm (v / a % 64), Nat.add_comm (a * _), ← Nat.mod_mul, Nat.div_add_mod']

theorem utf8Decode_char (c : Char) (f : Nat) (rest : List Nat) :
    utf8Decode (f + 1) (utf8Char c ++ rest) = c :: utf8Decode f rest := by
  have hc := Char.ofNat_toNat c
  unfold utf8Char
  generalize c.toNat = v at hc ⊢
  subst hc
  dsimp only
  -- the payload bits of the bytes are the base-64 digits of `v`
  by_cases h1 : v < 0x80
  · rw [if_pos h1]; exact utf8Decode_one _ _ _ h1
  rw [if_neg h1]
  by_cases h2 : v < 0x800
  · rw [if_pos h2]
    refine (utf8Decode_two f _ _ _ (Nat.le_add_right_of_le (by decide))
      (Nat.add_lt_add_left (Nat.div_lt_of_lt_mul h2 : v / 64 < 32) 0xC0)).trans ?_
    rw [Nat.add_sub_cancel_left, Nat.add_sub_cancel_left, Nat.div_add_mod']; rfl
  rw [if_neg h2]
  by_cases h3 : v < 0x10000
  · rw [if_pos h3]
    refine (utf8Decode_three f _ _ _ _ (Nat.le_add_right ..)
      (Nat.add_lt_add_left (Nat.div_lt_of_lt_mul h3 : v / 4096 < 16) 0xE0)).trans ?_
    rw [Nat.add_sub_cancel_left, Nat.add_sub_cancel_left, Nat.add_sub_cancel_left, digit64 v 64]; rfl
  · rw [if_neg h3]
    refine (utf8Decode_four f _ _ _ _ _ (Nat.le_add_right ..)).trans ?_
    rw [Nat.add_sub_cancel_left, Nat.add_sub_cancel_left, Nat.add_sub_cancel_left, Nat.add_sub_cancel_left,
      Nat.add_assoc, Nat.mul_comm (v / 64 % 64), Nat.add_comm (64 * _), ← Nat.mod_mul (a := 64) (b := 64),
      digit64 v 4096]; rfl

theorem utf8Char_ne_nil (c : Char) : utf8Char c ≠ [] := fun h => by
  -- were the encoding of `c` empty, decoding nothing would yield `c`
  have := utf8Decode_char c 0 []
  rw [h] at this
  exact absurd this (List.cons_ne_nil _ _).symm

theorem utf8Decode_utf8_fuel : ∀ (s : List Char) (f : Nat), (utf8 s).length ≤ f → utf8Decode f (utf8 s) = s := by
  intro s
  induction s with
  | nil => intro f _; cases f <;> rfl
  | cons c cs ih =>
    intro f hf
    have hs : utf8 (c :: cs) = utf8Char c ++ utf8 cs := List.flatMap_cons
    rw [hs] at hf ⊢
    have := List.length_pos_iff.mpr (utf8Char_ne_nil c)
    rw [List.length_append] at hf
    cases f with
    | zero => omega
    | succ f =>
      rw [utf8Decode_char, ih f (by omega)]

/-- `PyUnicode_FromStringAndSize` reads back what `PyUnicode_AsUTF8AndSize` wrote -/
theorem utf8Decode_utf8 (s : List Char) : utf8Decode (utf8 s).length (utf8 s) = s :=
  utf8Decode_utf8_fuel s _ (Nat.le_refl _)

theorem escapeC_eq_spec (q : Bool) (s : List Char) : escapeC q s = escapeSpec q s := by
  unfold escapeC
  simp only [escapeCBytes_spec, ← utf8_escapeSpec]
  exact utf8Decode_utf8 _

theorem escOf_eq_spec (i : Impl) (q : Bool) (s : List Char) : escOf i q s = escapeSpec q s := by
  cases i
  · exact escapeC_eq_spec q s
  · exact escapePy_eq_spec q s

theorem escOf_fun (i : Impl) : escOf i = escapeSpec := by
  funext q s; exact escOf_eq_spec i q s

/-- string operands: `str` (and str subclasses), `Markup`, Markup subclasses, `__html__` objects -/
def Arg.stringy : Arg → Bool
  | .str _ => true
  | .markup _ => true
  | .msub _ => true
  | .html _ => true
  | _ => false

/-- what the algebra says an operand contributes: escaped once iff it is not safe.  On `none` and
    `int` the two implementations differ (`escapeCls`, `escapeOp`); the values here are those of the C
    classmethod and no theorem rests on them: each asks `stringy`. -/
def once2 (q : Bool) : Arg → Str
  | .str s => escapeSpec q s
  | .markup s => s
  | .msub s => s
  | .html s => s
  | .none => []
  | .int n => intRepr n

/-- a `Markup` goes through the classmethod as it is, empty or not, in both implementations -/
theorem escapeCls_markup (i : Impl) (esc : Bool → Str → Str) (q : Bool) (t : Str) :
    escapeCls i esc q (.markup t) = .ok (.markup, t) := by
  cases t <;> cases i <;> rfl

theorem escapeCls_string (i : Impl) (q : Bool) (a : Arg) (h : a.stringy = true) :
    ∃ t, escapeCls i (escOf i) q a = .ok (t, once2 q a) ∧ t ≠ .str := by
  cases a with
  | none => cases h
  | int n => cases h
  | str s =>
    refine ⟨.markup, ?_, nofun⟩
    rw [show once2 q (.str s) = escOf i q s from (escOf_eq_spec i q s).symm]
    cases s with
    | nil => cases i <;> cases q <;> rfl
    | cons c cs => cases i <;> rfl
  | markup s => exact ⟨.markup, escapeCls_markup i _ q s, nofun⟩
  | msub s =>
    cases s with
    | nil => exact ⟨.markup, by cases i <;> rfl, nofun⟩
    | cons c cs => cases i <;> exact ⟨_, rfl, nofun⟩
  | html s => exact ⟨.markup, by cases i <;> rfl, nofun⟩

theorem escapeOp_string (i : Impl) (q : Bool) (a : Arg) (h : a.stringy = true) :
    escapeOp i (escOf i) q a = .ok (once2 q a) := by
  cases i
  · cases a <;> simp [Arg.stringy] at h <;> simp [escapeOp, once2, escOf_eq_spec]
  · obtain ⟨t, ht, _⟩ := escapeCls_string .py q a h
    simp [escapeOp, ht, Except.map]

theorem escapeOp_markup (i : Impl) (esc : Bool → Str → Str) (q : Bool) (t : Str) :
    escapeOp i esc q (.markup t) = .ok t := by
  cases i
  · rfl
  · exact congrArg (Except.map (·.2)) (escapeCls_markup .py esc q t)

theorem mapM_ok {α β ε : Type} (f : α → Except ε β) (g : α → β) :
    ∀ (xs : List α), (∀ x ∈ xs, f x = .ok (g x)) → xs.mapM f = .ok (xs.map g) := by
  intro xs
  induction xs with
  | nil => intro _; rfl
  | cons x xs ih =>
    intro h
    rw [List.mapM_cons, h x (by simp), ih (fun y hy => h y (by simp [hy]))]
    rfl


theorem mapM_escapeOp (i : Impl) (q : Bool) (os : List Arg) (h : ∀ x ∈ os, x.stringy = true) :
    os.mapM (escapeOp i (escOf i) q) = .ok (os.map (once2 q)) :=
  mapM_ok _ _ os (fun x hx => escapeOp_string i q x (h x hx))

theorem mapM_escapeOp_pre (i : Impl) (q : Bool) (os : List Arg) :
    (os.map fun o => Arg.markup (once2 q o)).mapM (escapeOp i (fun _ s => s) q) = .ok (os.map (once2 q)) := by
  induction os with
  | nil => rfl
  | cons o os ih =>
    rw [List.map_cons, List.mapM_cons, escapeOp_markup, ih]; rfl

theorem mapM_escapeKV (i : Impl) (kvs : List (Str × Arg)) (h : ∀ p ∈ kvs, p.2.stringy = true) :
    kvs.mapM (escapeKV i (escOf i)) = .ok (kvs.map fun p => (p.1, once2 true p.2)) :=
  mapM_ok _ _ kvs (fun p hp => by simp [escapeKV, escapeOp_string i true p.2 (h p hp), Except.map])

theorem mapM_escapeKV_pre (i : Impl) (kvs : List (Str × Arg)) :
    (kvs.map fun p => (p.1, Arg.markup (once2 true p.2))).mapM (escapeKV i (fun _ s => s)) =
      .ok (kvs.map fun p => (p.1, once2 true p.2)) := by
  induction kvs with
  | nil => rfl
  | cons o os ih =>
    rw [List.map_cons, List.mapM_cons, ih]
    simp [escapeKV, escapeOp_markup, Except.map]


/-- `Markup % x` for a single operand is `Markup % (x,)` -/
theorem mod_one (i : Impl) (esc : Bool → Str → Str) (fmt : Str) (o : Arg) :
    mod i esc fmt (.one o) = mod i esc fmt (.tup [o]) := by
  unfold mod
  split
  · rfl
  · cases h : escapeOp i esc true o <;> simp [List.mapM_cons, h, liftErr, bind, Except.bind, pure, Except.pure]

theorem replaceGo_no_head (p : Char) (ps new : Str) : ∀ (s : Str), p ∉ s → replaceGo (p :: ps) new 0 s = s :=
  replaceGo_absent p ps new

theorem unescape_no_amp (s : Str) (h : '&' ∉ s) : unescape s = s := by
  unfold unescape
  simp only [qt, gt, lt, amp]
  rw [replace_absent _ _ _ _ h, replace_absent _ _ _ _ h, replace_absent _ _ _ _ h, replace_absent _ _ _ _ h]

theorem stripTagsGo_cons_ne (f : Nat) (c : Char) (cs : Str) (h : c ≠ '<') :
    stripTagsGo (f + 1) (c :: cs) = c :: stripTagsGo f cs := by
  simp only [stripTagsGo, h, ↓reduceIte]

theorem stripTagsGo_tag (f : Nat) (cs rest : Str) (h : matchTag cs = some rest) :
    stripTagsGo (f + 1) ('<' :: cs) = stripTagsGo f rest := by
  simp only [stripTagsGo, ↓reduceIte, h]

theorem stripTagsGo_no_tag (f : Nat) (cs : Str) (h : matchTag cs = none) :
    stripTagsGo (f + 1) ('<' :: cs) = '<' :: stripTagsGo f cs := by
  simp only [stripTagsGo, ↓reduceIte, h]

/- The cases of `fun_induction stripTagsGo`, in the order of its branches: 1 no fuel; 2 end of the text; 3 a `<` that
   opens a match (`rest` = the text after the match); 4 a `<` that opens none; 5 any other character. -/
theorem stripTagsGo_no_lt : ∀ (f : Nat) (s : Str), '<' ∉ s → stripTagsGo f s = s := by
  intro f s
  fun_induction stripTagsGo f s with
  | case1 | case2 => exact fun _ => rfl
  | case3 | case4 => exact fun hs => absurd List.mem_cons_self hs
  | case5 f c cs hc ih => exact fun hs => congrArg (c :: ·) (ih fun h => hs (List.mem_cons_of_mem _ h))

theorem striptags_escapeSpec (q : Bool) (s : Str) : striptags (escapeSpec q s) = escapeSpec q s :=
  stripTagsGo_no_lt _ _ (escapeSpec_no_raw q s).1


theorem afterGt_none : ∀ (s : Str), afterGt s = none → '>' ∉ s := by
  intro s
  fun_induction afterGt s with
  | case1 => exact fun _ => List.not_mem_nil
  | case2 cs => exact nofun
  | case3 c cs hc ih => exact fun h hm => (List.mem_cons.mp hm).elim (fun e => hc e.symm) (ih h)

/-- what the tag scanners return of `s`: no longer than `s`, and made of its characters -/
def Within (r s : Str) : Prop := r.length ≤ s.length ∧ ∀ x ∈ r, x ∈ s

theorem within_cons {r s : Str} (c : Char) (h : Within r s) : Within r (c :: s) :=
  ⟨Nat.le_succ_of_le h.1, fun x hx => List.mem_cons_of_mem _ (h.2 x hx)⟩

theorem within_drop (n : Nat) (s : Str) : Within (s.drop n) s :=
  ⟨by rw [List.length_drop]; exact Nat.sub_le .., fun _ hx => List.mem_of_mem_drop hx⟩

theorem Within.trans {r s t : Str} (h1 : Within r s) (h2 : Within s t) : Within r t :=
  ⟨Nat.le_trans h1.1 h2.1, fun x hx => h2.2 x (h1.2 x hx)⟩

theorem afterGt_within : ∀ (s r : Str), afterGt s = some r → Within r s := by
  intro s r
  fun_induction afterGt s with
  | case1 => exact nofun
  | case2 cs => exact fun h => Option.some.inj h ▸ within_cons _ (within_drop 0 cs)
  | case3 c cs hc ih => exact fun h => within_cons c (ih h)

theorem afterCommentEnd_within : ∀ (s r : Str), afterCommentEnd s = some r → Within r s := by
  intro s r
  fun_induction afterCommentEnd s with
  | case1 | case3 => exact nofun
  | case2 c cs hp => exact fun h => Option.some.inj h ▸ within_cons c (within_drop 2 cs)
  | case4 c cs hp hc ih => exact fun h => within_cons c (ih h)

theorem matchTag_within (s r : Str) (h : matchTag s = some r) : Within r s := by
  unfold matchTag at h
  split at h
  · rename_i r' hr
    simp only [Option.some.injEq] at h
    subst h
    split at hr
    · exact (afterCommentEnd_within _ _ hr).trans (within_drop 3 s)
    · simp at hr
  · exact afterGt_within s r h

theorem matchTag_none (s : Str) (h : matchTag s = none) : '>' ∉ s := by
  unfold matchTag at h
  split at h
  · simp at h
  · exact afterGt_none s h

theorem stripTagsGo_subset : ∀ (f : Nat) (s : Str), s.length < f → ∀ x ∈ stripTagsGo f s, x ∈ s := by
  intro f s
  fun_induction stripTagsGo f s with
  | case1 => exact fun h => absurd h (Nat.not_lt_zero _)
  | case2 => exact fun _ _ hx => hx
  | case3 f cs rest hm ih =>
    intro hs x hx
    have hw := matchTag_within cs rest hm
    exact List.mem_cons_of_mem _ (hw.2 x (ih (Nat.lt_of_le_of_lt hw.1 (Nat.lt_of_succ_lt_succ hs)) x hx))
  | case4 f cs hm ih => exact fun hs => List.cons_subset_cons _ (ih (Nat.lt_of_succ_lt_succ hs))
  | case5 f c cs hc ih => exact fun hs => List.cons_subset_cons _ (ih (Nat.lt_of_succ_lt_succ hs))

/-- no `<` of the text is followed, anywhere later, by a `>`: no tag is left -/
def NoTag (t : Str) : Prop := ∀ pre post, t = pre ++ '<' :: post → '>' ∉ post

theorem noTag_of_no_gt (t : Str) (h : '>' ∉ t) : NoTag t := by
  intro pre post he hm
  exact h (by rw [he]; simp [hm])

theorem noTag_cons {c : Char} {t : Str} (hc : c ≠ '<') (h : NoTag t) : NoTag (c :: t) := by
  intro pre post he
  cases pre with
  | nil => exact absurd (List.cons.inj he).1 hc
  | cons p pre' => exact h pre' post (List.cons.inj he).2

theorem stripTagsGo_noTag : ∀ (f : Nat) (s : Str), s.length < f → NoTag (stripTagsGo f s) := by
  intro f s
  fun_induction stripTagsGo f s with
  | case1 => exact fun h => absurd h (Nat.not_lt_zero _)
  | case2 => exact fun _ => noTag_of_no_gt _ List.not_mem_nil
  | case3 f cs rest hm ih =>
    exact fun hs => ih (Nat.lt_of_le_of_lt (matchTag_within cs rest hm).1 (Nat.lt_of_succ_lt_succ hs))
  | case4 f cs hm ih =>
    -- an unmatched `<` has no `>` after it in the source, hence none in what is kept of it
    refine fun hs => noTag_of_no_gt _ fun hgt => ?_
    rcases List.mem_cons.mp hgt with h1 | h1
    · exact absurd h1 (by decide)
    · exact matchTag_none cs hm (stripTagsGo_subset f cs (Nat.lt_of_succ_lt_succ hs) _ h1)
  | case5 f c cs hc ih => exact fun hs => noTag_cons hc (ih (Nat.lt_of_succ_lt_succ hs))

theorem striptags_noTag (s : Str) : NoTag (striptags s) :=
  stripTagsGo_noTag _ s (Nat.lt_succ_self _)


theorem stripTagsGo_fuel : ∀ (f g : Nat) (s : Str), s.length < f → s.length < g →
    stripTagsGo f s = stripTagsGo g s := by
  intro f
  induction f with
  | zero => intro g s h; simp at h
  | succ f ih =>
    intro g s hf hg
    cases g with
    | zero => simp at hg
    | succ g =>
      cases s with
      | nil => rfl
      | cons c cs =>
        have hf' := Nat.lt_of_succ_lt_succ hf
        have hg' := Nat.lt_of_succ_lt_succ hg
        by_cases hc : c = '<'
        · subst hc
          cases hm : matchTag cs with
          | none => rw [stripTagsGo_no_tag f cs hm, stripTagsGo_no_tag g cs hm, ih g cs hf' hg']
          | some rest =>
            have hw := (matchTag_within cs rest hm).1
            rw [stripTagsGo_tag f cs rest hm, stripTagsGo_tag g cs rest hm]
            exact ih g rest (Nat.lt_of_le_of_lt hw hf') (Nat.lt_of_le_of_lt hw hg')
        · rw [stripTagsGo_cons_ne f c cs hc, stripTagsGo_cons_ne g c cs hc, ih g cs hf' hg']

theorem striptags_plain_prefix (a b : Str) (h : '<' ∉ a) : striptags (a ++ b) = a ++ striptags b := by
  induction a with
  | nil => rfl
  | cons c cs ih =>
    exact (stripTagsGo_cons_ne _ c (cs ++ b) fun e => h (e ▸ List.mem_cons_self ..)).trans
      (congrArg (c :: ·) (ih fun hm => h (List.mem_cons_of_mem _ hm)))

theorem afterGt_append (t rest : Str) (h : '>' ∉ t) : afterGt (t ++ '>' :: rest) = some rest := by
  induction t with
  | nil => simp [afterGt]
  | cons c cs ih =>
    have hc : c ≠ '>' := fun e => h (by simp [e])
    have hcs : '>' ∉ cs := fun hm => h (by simp [hm])
    simp [afterGt, hc, ih hcs]

theorem striptags_simple_tag (t rest : Str) (h1 : '>' ∉ t) (h2 : t.head? ≠ some '!') :
    striptags ('<' :: t ++ '>' :: rest) = striptags rest := by
  have hp : ['!', '-', '-'].isPrefixOf (t ++ '>' :: rest) = false := by
    cases t with
    | nil => rfl
    | cons c cs =>
      have : c ≠ '!' := fun e => h2 (by simp [e])
      simp [List.isPrefixOf, Ne.symm this]
  have hm : matchTag (t ++ '>' :: rest) = some rest := by
    unfold matchTag
    simp only [hp, Bool.false_eq_true, ↓reduceIte]
    exact afterGt_append t rest h1
  refine (stripTagsGo_tag _ _ rest hm).trans (stripTagsGo_fuel _ _ rest ?_ (Nat.lt_succ_self _))
  simp only [List.length_append, List.length_cons]; omega

theorem matchRefK_word (c : Char) (w rest : Str) (hc : c ≠ '#') (hw : ∀ x ∈ c :: w, San.isReWord x = true) :
    matchRefK (c :: w ++ ';' :: rest) = some (namedRefK (c :: w), rest) := by
  rw [matchRefK, List.cons_append, San.matchNumeric_none hc, ← List.cons_append, matchNamedK,
    takeWhile_append_stop hw (San.semi_stop rest), dropWhile_append_stop hw (San.semi_stop rest)]
  rfl

theorem matchRefK_amp (rest : Str) : matchRefK ('a' :: 'm' :: 'p' :: ';' :: rest) = some (.ok amp, rest) := by
  obtain ⟨ha, hm, hp, _⟩ := San.word_facts
  exact matchRefK_word 'a' ['m', 'p'] rest (by decide) (by simp [ha, hm, hp])

theorem matchRefK_lt (rest : Str) : matchRefK ('l' :: 't' :: ';' :: rest) = some (.ok lt, rest) := by
  obtain ⟨_, _, _, hl, ht, _⟩ := San.word_facts
  exact matchRefK_word 'l' ['t'] rest (by decide) (by simp [hl, ht])

theorem matchRefK_gt (rest : Str) : matchRefK ('g' :: 't' :: ';' :: rest) = some (.ok gt, rest) := by
  obtain ⟨_, _, _, _, ht, hg, _⟩ := San.word_facts
  exact matchRefK_word 'g' ['t'] rest (by decide) (by simp [hg, ht])

theorem matchRefK_qt (rest : Str) : matchRefK ('#' :: '3' :: '4' :: ';' :: rest) = some (.ok ['"'], rest) := by
  rw [matchRefK, San.matchNumeric_qt]

theorem stripEntGoK_ref (f : Nat) (cs repl rest : Str) (h : matchRefK cs = some (.ok repl, rest)) :
    stripEntGoK (f + 1) ('&' :: cs) = (stripEntGoK f rest).map (repl ++ ·) := by
  simp only [stripEntGoK, ↓reduceIte, h]; rfl

theorem stripEntGoK_ne_amp (f : Nat) (c : Char) (cs : Str) (h : c ≠ '&') :
    stripEntGoK (f + 1) (c :: cs) = (stripEntGoK f cs).map (c :: ·) := by
  simp only [stripEntGoK, h, ↓reduceIte]; rfl

/-- one unit of fuel takes the scan over what one source character became: an entity, kept as it
    is unless it is `&#34;`, or the character itself -/
theorem stripEntGoK_escC (q : Bool) (c : Char) (rest t : Str) (f : Nat) (h : stripEntGoK f rest = .ok t) :
    stripEntGoK (f + 1) (escC q c ++ rest) = .ok (escC false c ++ t) := by
  rcases special_or_plain c with rfl | rfl | rfl | rfl | hp
  · cases q
    · exact (stripEntGoK_ne_amp f '"' rest (by decide)).trans (by rw [h]; rfl)
    · exact (stripEntGoK_ref f _ _ rest (matchRefK_qt rest)).trans (by rw [h]; rfl)
  · exact (stripEntGoK_ref f _ _ rest (matchRefK_gt rest)).trans (by rw [h]; rfl)
  · exact (stripEntGoK_ref f _ _ rest (matchRefK_lt rest)).trans (by rw [h]; rfl)
  · exact (stripEntGoK_ref f _ _ rest (matchRefK_amp rest)).trans (by rw [h]; rfl)
  · rw [escC_plain q hp, escC_plain false hp]
    exact (stripEntGoK_ne_amp f c rest hp.2.2.2).trans (by rw [h]; rfl)

theorem stripEntGoK_escape (q : Bool) : ∀ (v : Str) (f : Nat), (escapeSpec q v).length < f →
    stripEntGoK f (escapeSpec q v) = .ok (escapeSpec false v) := by
  intro v
  induction v with
  | nil =>
    intro f hf
    cases f with
    | zero => simp at hf
    | succ f => rfl
  | cons c v' ih =>
    intro f hf
    rw [escapeSpec_cons, List.length_append] at hf
    cases f with
    | zero => simp at hf
    | succ f =>
      have := San.escC_length_pos q c
      exact stripEntGoK_escC q c _ _ f (ih f (by omega))

theorem stripentitiesK_escape (q : Bool) (v : Str) :
    stripentities true (escapeSpec q v) = .ok (escapeSpec false v) := by
  simp only [stripentities, ↓reduceIte]
  exact stripEntGoK_escape q v _ (Nat.lt_succ_self _)

theorem has_eq_get_isSome (a : Attrs) (n : Name) : Attrs.has a n = (Attrs.get a n).isSome := by
  induction a with
  | nil => rfl
  | cons p ps ih =>
    obtain ⟨k, v⟩ := p
    by_cases h : k = n
    · simp [Attrs.has, Attrs.get, h]
    · have : (k == n) = false := by simpa using h
      simp only [Attrs.has, List.any_cons, this, Bool.false_or, Attrs.get, h, ↓reduceIte]
      exact ih

theorem attrsSlice_sublist (a : Attrs) (i j : Option Int) : (attrsSlice a i j).Sublist a :=
  (List.take_sublist _ _).trans (List.drop_sublist _ _)

theorem attrsSlice_all (a : Attrs) : attrsSlice a none none = a := by
  simp [attrsSlice, sliceBound]

theorem sub_sublist (a : Attrs) (names : List Name) : (Attrs.sub a names).Sublist a := by
  unfold Attrs.sub; exact List.filter_sublist

theorem has_sub (a : Attrs) {names : List Name} {n : Name} (hn : n ∈ names) : (Attrs.sub a names).has n = false := by
  simp only [Attrs.has, List.any_eq_false, Attrs.sub, List.mem_filter]
  intro p hp hpn
  simp at hpn hp
  exact hp.2 (hpn ▸ hn)

/-- the pairs of the right operand whose value is not `None` -/
def somes (b : List (Name × Option Str)) : List (Name × Str) := b.filterMap fun p => p.2.map fun v => (p.1, v)

theorem somes_cons_none (k : Name) (b : List (Name × Option Str)) : somes ((k, none) :: b) = somes b := by
  simp [somes]

theorem somes_cons_some (k : Name) (v : Str) (b : List (Name × Option Str)) :
    somes ((k, some v) :: b) = (k, v) :: somes b := by
  simp [somes]

theorem orRepl_cons_none (self : Attrs) (k : Name) (b : List (Name × Option Str)) :
    orRepl self ((k, none) :: b) = orRepl self b := by
  simp [orRepl]

theorem orRepl_cons_some (self : Attrs) (k : Name) (v : Str) (b : List (Name × Option Str)) :
    orRepl self ((k, some v) :: b) = if self.has k then (k, v) :: orRepl self b else orRepl self b := by
  by_cases h : self.has k = true <;> simp [orRepl, h]

theorem get_append (x y : Attrs) (n : Name) :
    Attrs.get (x ++ y) n = match Attrs.get x n with | some v => some v | none => Attrs.get y n := by
  induction x with
  | nil => rfl
  | cons p ps ih =>
    obtain ⟨k, v⟩ := p
    by_cases h : k = n
    · simp [Attrs.get, h]
    · simp only [List.cons_append, Attrs.get, h, ↓reduceIte]; exact ih

theorem get_upsert (k : Name) (v : Str) (acc : Attrs) (n : Name) :
    Attrs.get (upsert k v acc) n = if k = n then some v else Attrs.get acc n := by
  induction acc with
  | nil => simp [upsert, Attrs.get]
  | cons p ps ih =>
    obtain ⟨k', w⟩ := p
    by_cases h : k' = k
    · subst h
      by_cases h2 : k' = n <;> simp [upsert, Attrs.get, h2]
    · by_cases h2 : k' = n
      · subst h2
        have : k ≠ k' := fun e => h e.symm
        simp [upsert, Attrs.get, h, this]
      · simp [upsert, Attrs.get, h, h2, ih]

theorem get_orNew_fold (self : Attrs) (remove : List Name) (n : Name)
    (hs : self.has n = false) (hr : remove.contains n = false) :
    ∀ (ps : List (Name × Option Str)) (acc : Attrs),
      Attrs.get (ps.foldl (orNewStep self remove) acc) n =
        match lastVal n (somes ps) with | some v => some v | none => Attrs.get acc n := by
  intro ps
  induction ps with
  | nil => intro acc; rfl
  | cons p ps ih =>
    intro acc
    obtain ⟨k, ov⟩ := p
    simp only [List.foldl_cons]
    rw [ih]
    cases ov with
    | none => rw [somes_cons_none]; simp [orNewStep]
    | some v =>
      rw [somes_cons_some]
      simp only [lastVal]
      cases hl : lastVal n (somes ps) with
      | some w => simp
      | none =>
        simp only [orNewStep]
        have hr2 : n ∉ remove := by simpa using hr
        by_cases hk : k = n
        · subst hk; simp [hs, hr2, get_upsert]
        · by_cases hc : (self.has k = true ∨ k ∈ remove)
          · simp [hc, hk]
          · simp [hc, hk, get_upsert]

theorem get_kept (l : Attrs) (remove : List Name) (R : List (Name × Str)) (n : Name)
    (hr : remove.contains n = false) :
    Attrs.get (l.filterMap fun p => if remove.contains p.1 then none else some (p.1, (lastVal p.1 R).getD p.2)) n
      = (Attrs.get l n).map fun sv => (lastVal n R).getD sv := by
  induction l with
  | nil => rfl
  | cons p ps ih =>
    obtain ⟨k, v⟩ := p
    by_cases hc : remove.contains k = true
    · have hk : k ≠ n := fun e => by rw [e, hr] at hc; cases hc
      simp only [List.filterMap_cons, hc, ↓reduceIte]
      exact ih.trans (by show _ = Option.map _ (if k = n then some v else Attrs.get ps n); rw [if_neg hk])
    · simp only [List.filterMap_cons, hc, ↓reduceIte]
      show (if k = n then some _ else Attrs.get (ps.filterMap _) n) =
        Option.map _ (if k = n then some v else Attrs.get ps n)
      by_cases hk : k = n
      · subst hk; rw [if_pos rfl, if_pos rfl]; rfl
      · rw [if_neg hk, if_neg hk]; exact ih

theorem get_orKept (a : Attrs) (b : List (Name × Option Str)) (n : Name) (hr : (orRemove b).contains n = false) :
    Attrs.get (orKept a b) n = (Attrs.get a n).map fun sv => (lastVal n (orRepl a b)).getD sv := by
  unfold orKept; exact get_kept a (orRemove b) (orRepl a b) n hr

theorem get_kept_removed (l : Attrs) (remove : List Name) (R : List (Name × Str)) (n : Name)
    (hr : remove.contains n = true) :
    Attrs.get (l.filterMap fun p => if remove.contains p.1 then none else some (p.1, (lastVal p.1 R).getD p.2)) n = none := by
  induction l with
  | nil => rfl
  | cons p ps ih =>
    rw [List.filterMap_cons]
    by_cases hc : remove.contains p.1 = true
    · rw [if_pos hc]; exact ih
    · rw [if_neg hc]; exact (if_neg fun (e : p.1 = n) => hc (e ▸ hr)).trans ih

/-- the `new` loop never takes a name that is present on the left or given `None` on the right -/
theorem get_orNew_fold_blocked (self : Attrs) (remove : List Name) (n : Name)
    (hb : (self.has n || remove.contains n) = true) :
    ∀ (ps : List (Name × Option Str)) (acc : Attrs),
      Attrs.get (ps.foldl (orNewStep self remove) acc) n = Attrs.get acc n := fun ps acc =>
  foldl_inv (fun a => Attrs.get a n = Attrs.get acc n) ps acc rfl fun a ⟨k, ov⟩ _ ha => by
    cases ov with
    | none => exact ha
    | some v =>
      show Attrs.get (if _ then a else upsert k v a) n = _
      split
      · exact ha
      · rename_i hk; rw [get_upsert, if_neg fun (e : k = n) => hk (e ▸ hb)]; exact ha

theorem lastVal_orRepl (self : Attrs) (b : List (Name × Option Str)) (n : Name) (h : self.has n = true) :
    lastVal n (orRepl self b) = lastVal n (somes b) := by
  induction b with
  | nil => rfl
  | cons p ps ih =>
    obtain ⟨k, ov⟩ := p
    cases ov with
    | none => rw [orRepl_cons_none, somes_cons_none]; exact ih
    | some v =>
      rw [orRepl_cons_some, somes_cons_some]
      by_cases hh : self.has k = true
      · simp only [hh, ↓reduceIte, lastVal, ih]
      · have hk : k ≠ n := by intro e; subst e; exact hh h
        simp only [hh, Bool.false_eq_true, ↓reduceIte, lastVal, hk, ih]
        cases lastVal n (somes ps) <;> rfl

/-- the names `|` keeps from the left operand are those of `self - remove`, in their order -/
theorem orKept_names (self : Attrs) (b : List (Name × Option Str)) :
    (orKept self b).map (·.1) = (Attrs.sub self (orRemove b)).map (·.1) := by
  unfold orKept Attrs.sub
  generalize orRepl self b = R
  induction self with
  | nil => rfl
  | cons p ps ih =>
    rw [List.filterMap_cons, List.filter_cons]
    cases hc : (orRemove b).contains p.1
    · simp only [hc, Bool.false_eq_true, ↓reduceIte, Bool.not_false, List.map_cons, ih]
    · simp only [hc, ↓reduceIte, Bool.not_true, Bool.false_eq_true, ih]

theorem mem_has {a : Attrs} {x : Name × Str} (h : x ∈ a) : a.has x.1 = true :=
  List.any_eq_true.mpr ⟨x, h, beq_self_eq_true _⟩

/-- what the `new` loop collects: names not on the left, not removed, given a value on the right -/
theorem mem_orNew {a : Attrs} {b : List (Name × Option Str)} {x : Name × Str} (hx : x ∈ orNew a b) :
    a.has x.1 = false ∧ (orRemove b).contains x.1 = false ∧ x.1 ∈ b.map (·.1) := by
  rw [Subst.orNew_eq_gNew] at hx
  rcases Subst.mem_gNew a _ b [] x hx with h | ⟨hm, hc⟩
  · cases h
  · exact ⟨(Bool.or_eq_false_iff.mp hc).1, (Bool.or_eq_false_iff.mp hc).2, List.mem_map_of_mem (f := (·.1)) hm⟩

theorem upsert_names (n : Name) (v : List Char) (acc : Attrs) :
    (upsert n v acc).map (·.1) = if acc.has n then acc.map (·.1) else acc.map (·.1) ++ [n] := by
  induction acc with
  | nil => simp [upsert, Attrs.has]
  | cons x xs ih =>
    obtain ⟨k, w⟩ := x
    by_cases h : k = n
    · subst h; simp [upsert, Attrs.has]
    · simp only [upsert, h, ↓reduceIte, List.map_cons, ih, Attrs.has, List.any_cons]
      have : (k == n) = false := by simpa using h
      simp only [this, Bool.false_or]
      by_cases hx : (xs.any fun p => p.fst == n) = true <;> simp [hx]

theorem nodup_orNew_fold (self : Attrs) (remove : List Name) :
    ∀ (ps : List (Name × Option Str)) (acc : Attrs), (acc.map (·.1)).Nodup →
      ((ps.foldl (orNewStep self remove) acc).map (·.1)).Nodup := fun ps acc h0 =>
  foldl_inv (fun acc : Attrs => (acc.map (·.1)).Nodup) ps acc h0 fun acc ⟨k, ov⟩ _ h => by
    cases ov with
    | none => exact h
    | some v =>
      show (List.map (fun x : Name × Str => x.1) (if _ then acc else upsert k v acc)).Nodup
      split
      · exact h
      · rw [upsert_names]
        split
        · exact h
        · rename_i hn
          refine List.nodup_append.mpr ⟨h, List.nodup_cons.mpr ⟨List.not_mem_nil, List.nodup_nil⟩, fun a ha b hb e => hn ?_⟩
          rw [← List.mem_singleton.mp hb, ← e]
          exact List.any_eq_true.mpr ((List.mem_map.mp ha).imp fun y hy => ⟨hy.1, beq_iff_eq.mpr hy.2⟩)

theorem lstripBrace_idem (s : Str) : lstripBrace (lstripBrace s) = lstripBrace s :=
  lstripBy_idem _ s

/-- `QName.__new__` sees its argument only behind the leading braces -/
theorem qnameNew_lstrip (s : Str) : qnameNew (lstripBrace s) = qnameNew s := by
  simp only [qnameNew, lstripBrace_idem]

/-- `__getnewargs__` hands back the text without its leading brace -/
theorem qnameNewArgs_new (s : Str) : qnameNewArgs (qnameNew s) = lstripBrace s := by
  unfold qnameNew qnameNewArgs
  dsimp only
  split
  · exact (lstripBy_cons_of_pos _ (by decide)).trans (lstripBrace_idem s)
  · exact lstripBrace_idem s

theorem lstripBrace_of_head (s : Str) (h : s.head? ≠ some '{') : lstripBrace s = s :=
  lstripBy_id _ s fun _ hc => decide_eq_false fun e => h (e ▸ hc)

theorem lstripBrace_head (s : Str) : (lstripBrace s).head? ≠ some '{' := fun h =>
  absurd (lstripBy_head _ s '{' h) (by decide)

theorem splitBrace_append (ns loc : Str) (h : '}' ∉ ns) : splitBrace (ns ++ '}' :: loc) = some (ns, loc) := by
  induction ns with
  | nil => simp [splitBrace]
  | cons c cs ih =>
    have hc : c ≠ '}' := fun hc => h (by simp [hc])
    have hcs : '}' ∉ cs := fun hm => h (by simp [hm])
    simp [splitBrace, hc, ih hcs]

theorem qnameNew_split (s ns loc : Str) (h1 : '}' ∉ ns) (h : lstripBrace s = ns ++ '}' :: loc) :
    qnameNew s = ⟨'{' :: ns ++ '}' :: loc, some ns, loc⟩ := by
  simp only [qnameNew, h, splitBrace_append ns loc h1]; rfl

end Genshi.MarkupOps
