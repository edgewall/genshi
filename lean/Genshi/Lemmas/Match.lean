/-
  First notions about the eager model of `_match` (Genshi/Model/Match.lean): the events of an item list (`evs`) and what it
  registers (`NoReg`, `regs_tail`), what the filter cannot change in a template (`Shape`, `Static`), the laws asked of a
  matcher (`NeverFires`, `Lawful`, `FlagFree`, `LeafFree`).
-/
import Genshi.Model.Match
import Genshi.Lemmas.Core
namespace Genshi.Match
open Genshi

variable {σ : Type}

/-- the events of an item list (registrations dropped): what `_flatten` yields -/
def evs : List (Item σ) → List Event
  | [] => []
  | .ev e :: r => e :: evs r
  | .reg _ :: r => evs r

@[simp] theorem evs_nil : evs ([] : List (Item σ)) = [] := rfl
@[simp] theorem evs_ev (e : Event) (r : List (Item σ)) : evs (.ev e :: r) = e :: evs r := rfl
@[simp] theorem evs_reg (t : MT σ) (r : List (Item σ)) : evs (.reg t :: r) = evs r := rfl

theorem evs_append (a b : List (Item σ)) : evs (a ++ b) = evs a ++ evs b := by
  induction a with
  | nil => rfl
  | cons x xs ih => cases x <;> simp [ih]

@[simp] theorem evs_evItems (es : List Event) : evs (evItems es : List (Item σ)) = es := by
  induction es with
  | nil => rfl
  | cons e es ih => simp [evItems] at ih ⊢; exact ih

theorem evItems_append (a b : List Event) : (evItems (a ++ b) : List (Item σ)) = evItems a ++ evItems b := by
  simp [evItems]

theorem evItems_cons (e : Event) (b : List Event) : (evItems (e :: b) : List (Item σ)) = .ev e :: evItems b := by
  simp [evItems]

def NoReg (items : List (Item σ)) : Prop := ∀ t, Item.reg t ∉ items

theorem noReg_evItems (es : List Event) : NoReg (evItems es : List (Item σ)) := by
  intro x hx; simp [evItems] at hx

theorem regs_of_noReg {items : List (Item σ)} (h : NoReg items) (P : MT σ → Prop) : ∀ t, Item.reg t ∈ items → P t :=
  fun t ht => absurd ht (h t)

/-- what holds of the templates a stream registers holds of those its tail registers; "registers none" (`NoReg`) is
    the case `P := fun _ => False` -/
theorem regs_tail {P : MT σ → Prop} {it : Item σ} {rest : List (Item σ)} (h : ∀ t, Item.reg t ∈ it :: rest → P t) :
    ∀ t, Item.reg t ∈ rest → P t := fun t ht => h t (List.mem_cons_of_mem _ ht)

/-- the template list after a registration -/
theorem forall_snoc_reg {P : MT σ → Prop} {m : List (MT σ)} {t : MT σ} {rest : List (Item σ)} (hm : ∀ x ∈ m, P x)
    (h : ∀ x, Item.reg x ∈ Item.reg t :: rest → P x) : ∀ x ∈ m ++ [t], P x := fun x hx =>
  (List.mem_append.mp hx).elim (hm x) fun hx => List.mem_singleton.mp hx ▸ h t List.mem_cons_self

def NeverFires (t : MT σ) : Prop := ∀ st e u, (t.step st e u).2 = false

@[simp] theorem test_step (t : MT σ) (e : Event) (u : Bool) : (t.test e u).1.step = t.step := by
  unfold MT.test; split <;> rfl

theorem test_hits (t : MT σ) (e : Event) (u : Bool) : (t.test e u).1.hits = t.hits := by
  unfold MT.test; split <;> rfl

theorem test_retired {t : MT σ} (h : t.retired = true) (e : Event) (u : Bool) : t.test e u = (t, false) := by
  unfold MT.test; simp [h]

theorem test_live {t : MT σ} (h : t.retired = false) (e : Event) (u : Bool) :
    (t.test e u).1.st = (t.step t.st e u).1 ∧ (t.test e u).2 = (t.step t.st e u).2 ∧ (t.test e u).1.retired = false := by
  unfold MT.test; simp [h]

theorem test_neverFires {t : MT σ} (h : NeverFires t) (e : Event) (u : Bool) :
    (t.test e u).2 = false ∧ NeverFires (t.test e u).1 := by
  constructor
  · unfold MT.test; split
    · rfl
    · exact h _ _ _
  · intro st e' u'; rw [test_step]; exact h st e' u'

theorem scan_cons_fire {e : Event} {s : Nat} {en : Option Nat} {k : Nat} {t : MT σ} (ts : List (MT σ))
    (hw : inWindow s en k = true) (hf : (t.test e false).2 = true) :
    scan e s en k (t :: ts) = ({ (t.test e false).1 with hits := (t.test e false).1.hits + 1 } :: ts, some k) := by
  simp [scan, hw, hf]

theorem scan_cons_pass {e : Event} {s : Nat} {en : Option Nat} {k : Nat} {t : MT σ} (ts : List (MT σ))
    (h : ¬ (inWindow s en k = true ∧ (t.test e false).2 = true)) :
    scan e s en k (t :: ts) = ((if inWindow s en k then (t.test e false).1 else t) :: (scan e s en (k + 1) ts).1,
      (scan e s en (k + 1) ts).2) := by
  by_cases hw : inWindow s en k = true
  · have hf : (t.test e false).2 = false := by simpa [hw] using h
    simp [scan, hw, hf]
  · simp [scan, hw]

theorem emit_some {e : Event} {r : Option (List (MT σ) × List Event)} {q : List (MT σ) × List Event}
    (h : emit e r = some q) : ∃ p, r = some p ∧ q = (p.1, e :: p.2) := by
  cases r with
  | none => simp [emit] at h
  | some p => simp [emit] at h; exact ⟨p, rfl, h.symm⟩

/-- `t'` is `t` up to what the filter changes in a template: the matcher state, the ghost counter, the retired flag -/
def Shape (t t' : MT σ) : Prop :=
  t'.step = t.step ∧ t'.body = t.body ∧ t'.once = t.once ∧ t'.recursive = t.recursive ∧ t'.buffered = t.buffered

theorem Shape.refl (t : MT σ) : Shape t t := ⟨rfl, rfl, rfl, rfl, rfl⟩

theorem Shape.trans {a b c : MT σ} (h1 : Shape a b) (h2 : Shape b c) : Shape a c := by
  obtain ⟨a1, a2, a3, a4, a5⟩ := h1
  obtain ⟨b1, b2, b3, b4, b5⟩ := h2
  exact ⟨b1.trans a1, b2.trans a2, b3.trans a3, b4.trans a4, b5.trans a5⟩

theorem test_shape (t : MT σ) (e : Event) (u : Bool) : Shape t (t.test e u).1 := by
  unfold MT.test; split
  · exact Shape.refl t
  · exact ⟨rfl, rfl, rfl, rfl, rfl⟩

theorem retire_shape (t : MT σ) : Shape t t.retire := ⟨rfl, rfl, rfl, rfl, rfl⟩

/-- a property of templates that the filter cannot change: it depends on the `Shape` only -/
def Static (P : MT σ → Prop) : Prop := ∀ t t', Shape t t' → P t → P t'

theorem static_neverFires : Static (NeverFires (σ := σ)) := by
  intro t t' hs h st e u; rw [hs.1]; exact h st e u

theorem static_and {P Q : MT σ → Prop} (hP : Static P) (hQ : Static Q) : Static fun t => P t ∧ Q t :=
  fun t t' hs h => ⟨hP t t' hs h.1, hQ t t' hs h.2⟩

/-! The laws asked of a matcher where stated (besides `NeverFires`). -/

/-- the law of the matcher interface the `updateonly` calls rely on: the END of an element
    undoes what its START did to the state (push/pop of the path strategies) -/
def Lawful (t : MT σ) : Prop :=
  ∀ st tg at_ u u', (t.step (t.step st (.start tg at_) u).1 (.end_ tg) u').1 = st

theorem static_lawful : Static (Lawful (σ := σ)) := by
  intro t t' hs h st tg at_ u u'; rw [hs.1]; exact h st tg at_ u u'

/-- a matcher that does not look at `updateonly` (none of the path strategies does) -/
def FlagFree (t : MT σ) : Prop := ∀ st e u u', t.step st e u = t.step st e u'

theorem static_flagFree : Static (FlagFree (σ := σ)) := by
  intro t t' hs h st e u u'; rw [hs.1]; exact h st e u u'

theorem test_flagFree {t : MT σ} (h : FlagFree t) (e : Event) (u u' : Bool) : t.test e u = t.test e u' := by
  unfold MT.test; split
  · rfl
  · rw [h t.st e u u']

/-- events that are neither START nor END leave the matcher's state alone -/
def LeafFree (t : MT σ) : Prop :=
  ∀ st e u, isStart e = false → isEnd e = false → (t.step st e u).1 = st

end Genshi.Match
