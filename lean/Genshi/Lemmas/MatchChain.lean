/-
  The whole filter as a chain of tree rewrites, one per template in declaration order: a stage is `specList`
  (replace every match) for a template without the `once` hint and `onceList` (replace the first match in
  document order) for a template with it.
-/
import Genshi.Lemmas.MatchOnceTree
import Genshi.Lemmas.MatchPipeline2
namespace Genshi.Match
open Genshi
variable {σ : Type}

theorem forest_of_neutral : ∀ (n : Nat) (es : List Event), es.length ≤ n → Neutral es →
    ∃ ns, okList ns = true ∧ flattenList ns = es := fun _ es _ hn => by
  obtain ⟨ns, hok, hs⟩ := wellNested_flatten_forest ((wellNested_iff_track es).mpr (hn []))
  exact ⟨ns, hok, hs.symm⟩

def StageOK (t : MT σ) : Prop :=
  t.once = false ∧ t.retired = false ∧ Lawful t ∧ FlagFree t ∧ BodyOK t.body

/-- `Chain M s k ns out`: rewriting the forest `ns` by the templates of the slots `s, s+1, …, s+k-1`
    of `M`, one whole-document tree rewrite (`specList`) after the other, gives the events `out`.  A relation, not a
    function: what one stage hands to the next is a list of events, and the next rewrite works on any forest `ns'`
    that flattens to it -/
inductive Chain (M : List (MT σ)) : Nat → Nat → List Node → List Event → Prop
  | done (s : Nat) (ns : List Node) : Chain M s 0 ns (flattenList ns)
  | step {s k : Nat} {ns ns' : List Node} {out : List Event} {t : MT σ} :
      M[s]? = some t → okList ns' = true → flattenList ns' = specList t t.st [] ns →
      Chain M (s + 1) k ns' out → Chain M s (k + 1) ns out

/-- the tree rewrite one template stands for -/
def stageOut (t : MT σ) (ns : List Node) : List Event :=
  if t.once then (onceList t t.st [] ns).1 else specList t t.st [] ns

def StageOKO (t : MT σ) : Prop :=
  t.retired = false ∧ Lawful t ∧ FlagFree t ∧ BodyOK t.body

/-- `ChainO M s k ns out`: rewriting the forest `ns` by the templates of the slots `s … s+k-1` of `M`, one
    whole-document tree rewrite (`stageOut`) after the other, gives the events `out` -/
inductive ChainO (M : List (MT σ)) : Nat → Nat → List Node → List Event → Prop
  | done (s : Nat) (ns : List Node) : ChainO M s 0 ns (flattenList ns)
  | step {s k : Nat} {ns ns' : List Node} {out : List Event} {t : MT σ} :
      M[s]? = some t → okList ns' = true → flattenList ns' = stageOut t ns →
      ChainO M (s + 1) k ns' out → ChainO M s (k + 1) ns out

theorem chainO_congr {M M' : List (MT σ)} : ∀ {s k : Nat} {ns : List Node} {out : List Event},
    (∀ j, s ≤ j → M'[j]? = M[j]?) → ChainO M s k ns out → ChainO M' s k ns out := by
  intro s k ns out h hc
  induction hc with
  | done s ns => exact ChainO.done s ns
  | @step s k ns ns' out t ht hok hfl _ ih =>
    exact ChainO.step (by rw [h s (Nat.le_refl s)]; exact ht) hok hfl (ih (fun j hj => h j (by omega)))

/-- **The filter is the chain of tree rewrites, `once` templates included.**  Induction on `k`: `pipeline_seq` at
    `m = s + 1` peels off the stage of slot `s`; its output is `stageOut` (`stage_is_spec`, `once_stage_is_onceList`)
    and, being neutral, the flattening of some forest `ns'` (`forest_of_neutral`).  That stage leaves the slots from
    `s + 1` on as they were (`run_outside`), so the chain for the list it leaves is a chain for `M` (`chainO_congr`). -/
theorem run_is_chainO : ∀ (k s f : Nat) (ns : List Node) (M : List (MT σ)) (r : List (MT σ) × List Event),
    okList ns = true → (∀ j t, s ≤ j → j < s + k → M[j]? = some t → StageOKO t) → s + k ≤ M.length →
    (∀ t ∈ M, OKt t) →
    run f s (some (s + k)) (evItems (flattenList ns)) M = some r → ChainO M s k ns r.2 := by
  intro k
  induction k with
  | zero =>
    intro s f ns M r _ _ _ _ h
    have := run_empty_window f s (some (s + 0)) _ M r (by intro j; simpa using inWindow_empty s j) (noReg_evItems _) h
    rw [this]
    simp only [evs_evItems]
    exact ChainO.done s ns
  | succ k ih =>
    intro s f ns M r hns hst hlen hok h
    have hneu : Neutral (evs (evItems (flattenList ns) : List (Item σ))) := by
      simp only [evs_evItems]; exact neutral_flattenList ns hns
    obtain ⟨f', out1, L, hL, hH⟩ := pipeline_seq f s (some (s + (k + 1))) _ M r.1 r.2 (s + 1) (noReg_evItems _) hneu hok
      (by omega) (by intro n hn; cases hn; omega) h
    obtain ⟨t, ht⟩ : ∃ t, M[s]? = some t := ⟨M[s]'(by omega), List.getElem?_eq_getElem (by omega)⟩
    obtain ⟨hr, hl, _, _⟩ := hst s t (Nat.le_refl s) (by omega) ht
    have hslot : SlotAt s t t.st [] M := ⟨t, ht, Shape.refl t, hr, rfl⟩
    have hout1 : out1 = stageOut t ns := by
      unfold stageOut
      by_cases ho : t.once = true
      · have := (once_stage_is_onceList t t.st s hl ho f' ns [] M (L, out1) hns hslot hL).1
        simpa [ho] using this
      · have ho' : t.once = false := by simpa using ho
        have := (stage_is_spec t t.st s hl ho' f' ns [] M (L, out1) hns hslot hL).1
        simpa [ho'] using this
    have hn1 : Neutral out1 := run_neutral (noReg_evItems _) (fun y hy => (hok y hy).1) hneu hL
    obtain ⟨ns', hns', hfl⟩ := forest_of_neutral out1.length out1 (Nat.le_refl _) hn1
    have hLout := run_outside (noReg_evItems _) hL
    have hLlen := run_len (noReg_evItems _) hL
    have hokL := run_forall_noReg static_okt (noReg_evItems _) hok hL
    have hLget : ∀ j, s + 1 ≤ j → L[j]? = M[j]? := fun j hj => hLout j (inWindow_beyond hj)
    rw [← hfl, show s + (k + 1) = (s + 1) + k by omega] at hH
    have hc := ih (s + 1) f' ns' L r hns'
      (by intro j t' h1 h2 h3; rw [hLget j h1] at h3; exact hst j t' (by omega) (by omega) h3)
      (by rw [hLlen]; omega) hokL hH
    refine ChainO.step ht hns' (by rw [hfl, hout1]) (chainO_congr (fun j hj => (hLget j hj).symm) hc)

theorem ChainO.chain {M : List (MT σ)} : ∀ {s k : Nat} {ns : List Node} {out : List Event}, ChainO M s k ns out →
    (∀ j t, s ≤ j → j < s + k → M[j]? = some t → t.once = false) → Chain M s k ns out := by
  intro s k ns out hc
  induction hc with
  | done s ns => intro _; exact Chain.done s ns
  | @step s k ns ns' out t ht hok hfl _ ih =>
    intro h
    have ho := h s t (Nat.le_refl s) (by omega) ht
    exact Chain.step ht hok (by simpa [stageOut, ho] using hfl) (ih fun j t h1 h2 => h j t (by omega) (by omega))

/-- **The filter is the chain of tree rewrites**, one per template in declaration order:
    for the templates of the window `[s, s+k)` and every forest. -/
theorem run_is_chain : ∀ (k s f : Nat) (ns : List Node) (M : List (MT σ)) (r : List (MT σ) × List Event),
    okList ns = true → (∀ j t, s ≤ j → j < s + k → M[j]? = some t → StageOK t) → s + k ≤ M.length →
    (∀ t ∈ M, OKt t) →
    run f s (some (s + k)) (evItems (flattenList ns)) M = some r → Chain M s k ns r.2 := by
  intro k s f ns M r hns hst hlen hok h
  exact (run_is_chainO k s f ns M r hns (fun j t h1 h2 h3 => (hst j t h1 h2 h3).2) hlen hok h).chain
    fun j t h1 h2 h3 => (hst j t h1 h2 h3).1

end Genshi.Match
