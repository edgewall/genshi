/-
  C12 — the chain of tree rewrites with `once` templates (`run_is_chainO`, Lemmas/MatchChain.lean) for real
  `<py:match>` declarations, through the simulation.
-/
import Genshi.Lemmas.MatchChain
import Genshi.Lemmas.MatchRealOnce
namespace Genshi.Match
open Genshi
variable {σ : Type}

section
variable {τ : Type}

theorem stageOut_trel {a : MT σ} {b : MT τ} (h : TRel a b) (ns : List Node) : stageOut a ns = stageOut b ns := by
  have ho : a.once = b.once := by
    obtain ⟨_, _, _, _, ho, _⟩ := h
    exact ho
  unfold stageOut
  rw [ho, onceList_trel h ns, specList_trel h ns]

theorem chain_sim {A : List (MT σ)} {B : List (MT τ)} (h : LRel A B) : ∀ {s k : Nat} {ns : List Node} {out : List Event},
    Chain B s k ns out → Chain A s k ns out := by
  intro s k ns out hc
  induction hc with
  | done s ns => exact Chain.done s ns
  | @step s k ns ns' out t ht hok hfl _ ih =>
    obtain ⟨ta, g1, hab⟩ := (lrel_iff_pw.mp h).right ht
    exact Chain.step g1 hok (by rw [hfl, specList_trel hab]) ih

theorem chainO_sim {A : List (MT σ)} {B : List (MT τ)} (h : LRel A B) : ∀ {s k : Nat} {ns : List Node} {out : List Event},
    ChainO B s k ns out → ChainO A s k ns out := by
  intro s k ns out hc
  induction hc with
  | done s ns => exact ChainO.done s ns
  | @step s k ns ns' out t ht hok hfl _ ih =>
    obtain ⟨ta, g1, hab⟩ := (lrel_iff_pw.mp h).right ht
    exact ChainO.step g1 hok (by rw [hfl, stageOut_trel hab]) ih

end

open Genshi.Path in
/-- **The filter over real match templates is a chain of tree rewrites, `once` declarations included.**
    `run_is_chainO` for the list of lawful abstractions (`real_run_abs`), carried back by `chainO_sim`. -/
theorem real_run_is_chainO (ns : NsMap) (vs : Vars) (ds : List Decl) (hok : ∀ d ∈ ds, d.ok ns vs)
    (hb : ∀ d ∈ ds, BodyOK d.body)
    (k s f : Nat) (forest : List Node) (r : List (MT RSt) × List Event) (hns : okList forest = true)
    (hlen : s + k ≤ ds.length)
    (h : run f s (some (s + k)) (evItems (flattenList forest)) (ds.map (Decl.real ns vs)) = some r) :
    ChainO (ds.map (Decl.real ns vs)) s k forest r.2 := by
  have hL := decls_lrel ns vs ds hok
  obtain ⟨B, h2⟩ := real_run_abs ns vs ds hok h
  refine chainO_sim hL (run_is_chainO k s f forest (ds.map (Decl.abs ns vs)) _ hns ?_ (by simpa using hlen) ?_ h2)
  · intro j t hj1 hj2 ht
    rw [List.getElem?_map] at ht
    cases hd : ds[j]? with
    | none => rw [hd] at ht; cases ht
    | some d =>
      rw [hd] at ht
      cases ht
      have hmem : d ∈ ds := List.mem_of_getElem? hd
      exact ⟨rfl, (Decl.abs_ok ns vs (hok d hmem)).2.1, abs_flagFree ns vs _ _ _ _, hb d hmem⟩
  · intro t ht
    obtain ⟨d, hd, rfl⟩ := List.mem_map.mp ht
    exact ⟨hb d hd, abs_flagFree ns vs _ _ _ _⟩

section
variable (ns : Path.NsMap) (vs : Path.Vars)
open Genshi.Path

/-- **The filter over real match templates is a chain of tree rewrites.** -/
theorem real_run_is_chain (ds : List Decl) (hok : ∀ d ∈ ds, d.ok ns vs) (hb : ∀ d ∈ ds, BodyOK d.body)
    (k s f : Nat) (forest : List Node) (r : List (MT RSt) × List Event) (hns : okList forest = true)
    (hst : ∀ j d, s ≤ j → j < s + k → ds[j]? = some d → d.hints.matchOnce = false) (hlen : s + k ≤ ds.length)
    (h : run f s (some (s + k)) (evItems (flattenList forest)) (ds.map (Decl.real ns vs)) = some r) :
    Chain (ds.map (Decl.real ns vs)) s k forest r.2 := by
  refine (real_run_is_chainO ns vs ds hok hb k s f forest r hns hlen h).chain fun j t h1 h2 ht => ?_
  rw [List.getElem?_map] at ht
  cases hd : ds[j]? with
  | none => rw [hd] at ht; cases ht
  | some d => rw [hd] at ht; cases ht; exact hst j d h1 h2 hd

end

end Genshi.Match
