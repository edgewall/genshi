/-
  The automaton model and the eager model agree: feeding a closed, registration-free segment to
  an idle `_match` generator yields what the eager filter yields, whatever the `buffer` hints say
  (bodies of unbuffered templates calling select() at most once).  Hence `buffer_hint_irrelevant`.
-/
import Genshi.Lemmas.MatchAuto
import Genshi.Lemmas.MatchSim
namespace Genshi.Match
open Genshi
variable {σ : Type}

theorem foldFeed_append {step : Auto → Event → List (MT σ) → Fed σ} : ∀ (xs ys : List Event) (a : Auto) (m : List (MT σ)),
    foldFeed step a (xs ++ ys) m =
      Fed.andThen (foldFeed step a xs m) fun a1 o1 m1 =>
        Fed.andThen (foldFeed step a1 ys m1) fun a2 o2 m2 => some (a2, m2, o1 ++ o2)
  | [], ys, a, m => by
    rw [List.nil_append, foldFeed, Fed.andThen_some]
    cases foldFeed step a ys m <;> rfl
  | x :: xs, ys, a, m => by
    rw [List.cons_append, foldFeed_cons, foldFeed_cons]
    cases step a x m with
    | none => rfl
    | some q1 =>
      obtain ⟨a1, m1, o1⟩ := q1
      simp only [Fed.andThen_some]
      rw [foldFeed_append xs ys a1 m1]
      cases foldFeed step a1 xs m1 with
      | none => rfl
      | some q2 =>
        obtain ⟨a2, m2, o2⟩ := q2
        simp only [Fed.andThen_some]
        cases foldFeed step a2 ys m2 with
        | none => rfl
        | some q3 => obtain ⟨a3, m3, o3⟩ := q3; simp only [Fed.andThen_some, List.append_assoc]

theorem foldFeed_append_some {step : Auto → Event → List (MT σ) → Fed σ} {xs ys : List Event} {a a1 a2 : Auto}
    {m m1 m2 : List (MT σ)} {o1 o2 : List Event} (h1 : foldFeed step a xs m = some (a1, m1, o1))
    (h2 : foldFeed step a1 ys m1 = some (a2, m2, o2)) : foldFeed step a (xs ++ ys) m = some (a2, m2, o1 ++ o2) := by
  rw [foldFeed_append, h1, Fed.andThen_some, h2]; rfl

theorem foldFeed_append_inv {step : Auto → Event → List (MT σ) → Fed σ} {xs ys : List Event} {a a2 : Auto}
    {m m2 : List (MT σ)} {o : List Event} (h : foldFeed step a (xs ++ ys) m = some (a2, m2, o)) :
    ∃ a1 m1 o1 o2, foldFeed step a xs m = some (a1, m1, o1) ∧ foldFeed step a1 ys m1 = some (a2, m2, o2) ∧ o = o1 ++ o2 := by
  rw [foldFeed_append] at h
  obtain ⟨a1, m1, o1, h1, h⟩ := Fed.andThen_eq_some.1 h
  obtain ⟨b2, n2, o2, h2, h⟩ := Fed.andThen_eq_some.1 h
  cases h
  exact ⟨a1, m1, o1, o2, h1, h2, rfl⟩

theorem foldFeed_cons_some {step : Auto → Event → List (MT σ) → Fed σ} {x : Event} {xs : List Event} {a a1 a2 : Auto}
    {m m1 m2 : List (MT σ)} {o1 o2 : List Event} (h1 : step a x m = some (a1, m1, o1))
    (h2 : foldFeed step a1 xs m1 = some (a2, m2, o2)) : foldFeed step a (x :: xs) m = some (a2, m2, o1 ++ o2) := by
  rw [foldFeed_cons, h1, Fed.andThen_some, h2]; rfl

theorem foldFeed_cons_inv {step : Auto → Event → List (MT σ) → Fed σ} {x : Event} {xs : List Event} {a a2 : Auto}
    {m m2 : List (MT σ)} {o : List Event} (h : foldFeed step a (x :: xs) m = some (a2, m2, o)) :
    ∃ a1 m1 o1 o2, step a x m = some (a1, m1, o1) ∧ foldFeed step a1 xs m1 = some (a2, m2, o2) ∧ o = o1 ++ o2 := by
  rw [foldFeed_cons] at h
  obtain ⟨a1, m1, o1, h1, h⟩ := Fed.andThen_eq_some.1 h
  obtain ⟨b2, n2, o2, h2, h⟩ := Fed.andThen_eq_some.1 h
  cases h
  exact ⟨a1, m1, o1, o2, h1, h2, rfl⟩

theorem selFeed_none (es : List Event) : selFeed none es = (none, []) := by
  cases es <;> rfl

theorem selFeed_append : ∀ (xs ys : List Event) (st : SelSt),
    selFeed st (xs ++ ys) = ((selFeed (selFeed st xs).1 ys).1, (selFeed st xs).2 ++ (selFeed (selFeed st xs).1 ys).2) := by
  intro xs
  induction xs with
  | nil =>
    intro ys st
    cases st with
    | none => simp [selFeed]
    | some q => obtain ⟨s, d, c⟩ := q; simp [selFeed]
  | cons x xs ih =>
    intro ys st
    cases st with
    | none => simp [selFeed]
    | some q =>
      obtain ⟨s, d, c⟩ := q
      simp only [List.cons_append, selFeed]
      rw [ih ys]
      simp

theorem selFeed_selM (s : Sel) : ∀ (es : List Event) (d c : Nat), (selFeed (some (s, d, c)) es).2 = selM s d c es := by
  intro es
  induction es with
  | nil => intro d c; cases c <;> rfl
  | cons e es ih => intro d c; rw [selFeed, selM_cons, ← ih]

theorem selFeed_some_state (s : Sel) : ∀ (es : List Event) (d c : Nat),
    ∃ d' c', (selFeed (some (s, d, c)) es).1 = some (s, d', c') := by
  intro es
  induction es with
  | nil => intro d c; exact ⟨d, c, by simp [selFeed]⟩
  | cons e es ih => intro d c; simp only [selFeed]; exact ih _ _

def NoSel : List BItem → Prop
  | [] => True
  | .ev _ :: bs => NoSel bs
  | .sel _ :: _ => False

/-- a body that calls select() at most once (what the documentation requires of `buffer="false"`) -/
def OneSel (body : List BItem) : Prop := NoSel (splitBody body).2.2

theorem instantiate_noSel : ∀ (bs : List BItem) (content : List Event), NoSel bs → instantiate bs content = postEvents bs
  | [], _, _ => rfl
  | .ev e :: bs, content, h => by rw [instantiate_ev, postEvents, instantiate_noSel bs content h]
  | .sel _ :: _, _, h => h.elim

/-- a body with at most one select(): its literal head, what the select machine makes of the content, its literal tail -/
theorem instantiate_split : ∀ (body : List BItem) (content : List Event), OneSel body →
    instantiate body content =
      (splitBody body).1 ++ ((selFeed (selInit body) content).2 ++ postEvents (splitBody body).2.2)
  | [], content, _ => by rw [selInit, splitBody, Option.map_none, selFeed_none]; rfl
  | .ev e :: bs, content, h => by rw [instantiate_ev, instantiate_split bs content h]; rfl
  | .sel s :: bs, content, h => by
      rw [instantiate_sel, instantiate_noSel bs content h, selInit, splitBody, Option.map_some, selFeed_selM]; rfl

theorem selFeed_wrap (st : SelSt) (a : Event) (xs : List Event) (z : Event) :
    (selFeed st (a :: xs ++ [z])).2 =
      (selFeed st [a]).2 ++ ((selFeed (selFeed st [a]).1 xs).2 ++ (selFeed (selFeed (selFeed st [a]).1 xs).1 [z]).2) := by
  rw [show a :: xs ++ [z] = [a] ++ (xs ++ [z]) from rfl, selFeed_append, selFeed_append]

theorem stripDepth_lvl {j k : Nat} {ev : Event} {rest : List Event} (h : lvl j (ev :: rest) = some k) :
    ∃ j', stripDepth (j + 1) ev = j' + 1 ∧ lvl j' rest = some k := by
  rw [lvl_cons] at h
  cases hd : stripDepth (j + 1) ev with
  | zero => rw [hd] at h; cases h
  | succ j' => rw [hd] at h; exact ⟨j', rfl, h⟩

/-- a buffering frame hands the events of its element to the content matcher and collects what it yields -/
theorem buf_dist (F s : Nat) (en : Option Nat) (idx pe : Nat) (e : Event) (body : List BItem) :
    ∀ (evs : List Event) (j k : Nat) (A : Auto) (acc : List Event) (m : List (MT σ)) (A' : Auto)
      (m' : List (MT σ)) (oA : List Event),
    lvl j evs = some k → foldFeed (feed F s (some pe)) A evs m = some (A', m', oA) →
    foldFeed (feed (F + 1) s en) (.buf idx pe e body (j + 1) A acc) evs m =
      some (.buf idx pe e body (k + 1) A' (acc ++ oA), m', []) := by
  intro evs
  induction evs with
  | nil =>
    intro j k A acc m A' m' oA hl h
    simp [lvl] at hl; subst hl
    simp only [foldFeed, Option.some.injEq, Prod.mk.injEq] at h ⊢
    obtain ⟨rfl, rfl, rfl⟩ := h
    simp
  | cons ev rest ih =>
    intro j k A acc m A' m' oA hl h
    obtain ⟨j', hd, hl'⟩ := stripDepth_lvl hl
    obtain ⟨A1, m1, o1, o2, h1, h2, rfl⟩ := foldFeed_cons_inv h
    have hstep : feed (F + 1) s en (.buf idx pe e body (j + 1) A acc) ev m =
        some (.buf idx pe e body (j' + 1) A1 (acc ++ o1), m1, []) := by
      rw [feed_buf_step (by rw [hd]; exact Nat.succ_ne_zero _), h1, Fed.andThen_some, hd]
    rw [foldFeed_cons_some hstep (ih j' k A1 (acc ++ o1) m1 A' m' o2 hl' h2)]
    simp

/-- a lazy frame: the content matcher works on its slots, the body matcher on its own; fed event by
    event in turn they end where each alone ends on its share of the template list -/
theorem lzy_dist (F s : Nat) (en : Option Nat) (idx pe : Nat) (post : List BItem) (hpe : pe ≤ idx + 1) :
    ∀ (evs : List Event) (j k : Nat) (A B : Auto) (sel : SelSt) (x y : List (MT σ)) (A' B' : Auto)
      (x' y' : List (MT σ)) (oA o : List Event),
    WF s (some pe) A → WF (idx + 1) en B → x.length = y.length →
    lvl j evs = some k → foldFeed (feed F s (some pe)) A evs y = some (A', y', oA) →
    foldFeed (feed F (idx + 1) en) B (selFeed sel oA).2 x = some (B', x', o) →
    foldFeed (feed (F + 1) s en) (.lzy idx pe (j + 1) A sel B post) evs (splice (win (idx + 1) en) x y) =
      some (.lzy idx pe (k + 1) A' (selFeed sel oA).1 B' post, splice (win (idx + 1) en) x' y', o) := by
  intro evs
  induction evs with
  | nil =>
    intro j k A B sel x y A' B' x' y' oA o _ _ _ hl h hb
    simp [lvl] at hl; subst hl
    simp only [foldFeed, Option.some.injEq, Prod.mk.injEq] at h
    obtain ⟨rfl, rfl, rfl⟩ := h
    have : selFeed sel ([] : List Event) = (sel, []) := by
      cases sel with
      | none => rfl
      | some q => obtain ⟨a, b, c⟩ := q; rfl
    rw [this] at hb ⊢
    simp only [foldFeed, Option.some.injEq, Prod.mk.injEq] at hb
    obtain ⟨rfl, rfl, rfl⟩ := hb
    simp [foldFeed]
  | cons ev rest ih =>
    intro j k A B sel x y A' B' x' y' oA o hwa hwb hxy hl h hb
    obtain ⟨j', hd, hl'⟩ := stripDepth_lvl hl
    obtain ⟨A1, y1, o1, o2, h1, h2, rfl⟩ := foldFeed_cons_inv h
    rw [selFeed_append] at hb ⊢
    obtain ⟨B1, x1, ob1, ob2, hb1, hb2, rfl⟩ := foldFeed_append_inv hb
    -- the content matcher's window ends where the body matcher's begins
    have hdisj : ∀ p, win s (some pe) p = true → win (idx + 1) en p = false := fun p hp =>
      inWindow_below (by have := inWindow_lt hp; omega)
    obtain ⟨hwa1, hly1, -⟩ := feed_ok F s (some pe) A ev hwa y y A1 y1 o1 rfl h1
    have hA1 := (feed_frames F s (some pe) A ev hwa).disj hdisj hxy h1
    obtain ⟨hwb1, hlx1, hB1⟩ :=
      foldFeed_ok F (idx + 1) en (selFeed sel o1).2 hwb x y1 B1 x1 ob1 (by rw [hly1]; exact hxy.symm) hb1
    have hstep : feed (F + 1) s en (.lzy idx pe (j + 1) A sel B post) ev (splice (win (idx + 1) en) x y) =
        some (.lzy idx pe (j' + 1) A1 (selFeed sel o1).1 B1 post, splice (win (idx + 1) en) x1 y1, ob1) := by
      rw [feed_lzy_step (by rw [hd]; exact Nat.succ_ne_zero _), hA1, Fed.andThen_some, hB1, Fed.andThen_some, hd]
    rw [foldFeed_cons_some hstep
      (ih j' k A1 B1 (selFeed sel o1).1 x1 y1 A' B' x' y' o2 ob2 hwa1 hwb1 (by rw [hlx1, hly1]; exact hxy) hl' h2 hb2)]

/-- what the equivalence needs of a template: a well-nested body, and at most one select() when it is
    not buffered (the documented requirement of `buffer="false"`) -/
def LazyOK (t : MT σ) : Prop := BodyOK t.body ∧ (t.buffered = false → OneSel t.body)

theorem static_lazyOK : Static (LazyOK (σ := σ)) := by
  intro t t' hs h
  unfold LazyOK at *
  rw [hs.2.1, hs.2.2.2.2]
  exact h

theorem stripDepth_one_end {ev : Event} (he : isEnd ev = true) : stripDepth 1 ev = 0 := by
  simp [stripDepth, isStart_false_of_isEnd he, he]

/-- the equivalence by induction on the run, over any tracked stream: an idle generator stays idle on an unmatched
    START, an END and any other event; only a matched START needs its element (`track_elem`) -/
theorem auto_ran {f s : Nat} {en : Option Nat} {items : List (Item σ)} {mts : List (MT σ)}
    {r : List (MT σ) × List Event} (h : Ran f s en items mts r) : NoReg items → (∀ t ∈ mts, LazyOK t) →
    ∀ stk stk', track stk (evs items) = some stk' →
    ∀ F, f ≤ F → foldFeed (feed F s en) .idle (evs items) mts = some (.idle, r.1, r.2) := by
  induction h with
  | nil => intro _ _ _ _ _ F _; rfl
  | @reg _ _ _ t => intro hnr; exact absurd (by simp) (hnr t)
  | pass hS hsc _ ih =>
    intro hnr hok stk stk' htr F hF
    obtain ⟨G, rfl⟩ : ∃ G, F = G + 1 := ⟨F - 1, by omega⟩
    obtain ⟨tg, at_, rfl⟩ := isStart_eq_start hS
    exact foldFeed_cons_some (feed_idle_pass rfl hsc) (ih (regs_tail hnr)
      (scan_forall_eq static_lazyOK hsc hok) _ _ (by simpa [track] using htr) (G + 1) (by omega))
  | @close _ s en e _ mts _ hE _ ih =>
    intro hnr hok stk stk' htr F hF
    obtain ⟨G, rfl⟩ : ∃ G, F = G + 1 := ⟨F - 1, by omega⟩
    obtain ⟨tg, rfl⟩ := isEnd_eq_end hE
    obtain ⟨_, stk1, _, htr1⟩ := track_end htr
    exact foldFeed_cons_some (feed_idle_end rfl _) (ih (regs_tail hnr)
      (scanEnd_forall static_lazyOK _ s en 0 mts hok) _ _ htr1 (G + 1) (by omega))
  | @other _ _ _ e _ _ _ hS hE _ ih =>
    intro hnr hok stk stk' htr F hF
    obtain ⟨G, rfl⟩ : ∃ G, F = G + 1 := ⟨F - 1, by omega⟩
    rw [evs_ev, track_other e hS hE] at htr
    exact foldFeed_cons_some (feed_idle_other hS hE _) (ih (regs_tail hnr) hok _ _ htr (G + 1) (by omega))
  | @fire f s en e rest mts mts1 idx t inner tail a'' mts3 innerOut mts4 out p hS hsc ht hst h3 h4 h5 ih3 ih4 ih5 =>
    intro hnr hok stk stk' htr F hF
    obtain ⟨G, rfl⟩ : ∃ G, F = G + 1 := ⟨F - 1, by omega⟩
    have hG : f ≤ G := by omega
    obtain ⟨tg, at_, rfl⟩ := isStart_eq_start hS
    obtain ⟨hnoin, hnore⟩ := regs_strip hst (regs_tail hnr)
    obtain ⟨hok1, hok2, hok3, hok4, hok5⟩ := fire_forall static_lazyOK (regs_of_noReg hnoin _) hok hsc h3 h4
    obtain ⟨hrest, rfl, hnin, htr'⟩ := track_elem hst htr
    obtain ⟨hwi, _, _⟩ := scan_first (Event.start tg at_) s en mts idx (by rw [hsc])
    have hpe := preEnd_le t idx
    have htok : LazyOK t := hok1 t (List.mem_of_getElem? ht)
    have hbody : Neutral (instantiate t.body (Event.start tg at_ :: innerOut ++ [Event.end_ tg])) :=
      instantiate_neutral htok.1 (neutral_wrap tg at_ (run_neutral hnoin (fun x hx => (hok2 x hx).1) hnin (ran_iff.mpr h3)))
    have eIn := ih3 hnoin hok2 [] [] (hnin []) G hG
    have eBody := ih4 (noReg_evItems _) hok3 [] [] (by simpa using hbody []) G hG
    simp only [evs_evItems] at eBody
    have eRest := ih5 hnore hok5 _ _ htr' (G + 1) (by omega)
    rw [evs_ev, hrest, evs_append, evs_ev]
    by_cases hb : t.buffered = true
    · -- buffered: collect, then run the body
      have hstart : feed (G + 1) s en .idle (Event.start tg at_) mts =
          some (.buf idx (preEnd t idx) (Event.start tg at_) t.body 1 .idle [], fired t idx mts1, []) := by
        rw [feed_idle_fire rfl hsc ht, fireStage_buf hb]
      have hmid := buf_dist G s en idx (preEnd t idx) (Event.start tg at_) t.body (evs inner) 0 0 .idle []
        (fired t idx mts1) .idle mts3 innerOut (closed_of_neutral hnin) eIn
      have htl : feed (G + 1) s en (.buf idx (preEnd t idx) (Event.start tg at_) t.body 1 .idle ([] ++ innerOut))
          (Event.end_ tg) mts3 = some (.idle, updRange (Event.end_ tg) s (idx + 1) 0 mts4, out) := by
        rw [feed_buf_close (stripDepth_one_end rfl), List.nil_append, eBody]; rfl
      have := foldFeed_cons_some hstart (foldFeed_append_some hmid (foldFeed_cons_some htl eRest))
      rw [this]; simp
    · -- not buffered: the body's matcher runs interleaved with the content's
      have hb' : t.buffered = false := by simpa using hb
      have hW2sub : ∀ q, win (idx + 1) en q = true → win s (some (preEnd t idx)) q = false := fun q hq =>
        inWindow_beyond (by have := inWindow_ge hq; omega)
      -- the content matcher does not touch the body's slots
      have hfIn := foldFeed_ok (σ := σ) G s (some (preEnd t idx)) (evs inner) (a := .idle) trivial
      have hl3 : mts3.length = (fired t idx mts1).length := (hfIn _ _ _ _ _ rfl eIn).2.1
      have h23 : splice (win (idx + 1) en) mts3 (fired t idx mts1) = fired t idx mts1 :=
        splice_eq_right hl3.symm (fun q hq => hfIn.outside eIn q (hW2sub q hq))
      have hfB := fun (es : List Event) (a : Auto) (ha : WF (idx + 1) en a) => foldFeed_ok (σ := σ) G (idx + 1) en es ha
      -- nor the body matcher, over its whole run, those of the content
      have h43 : splice (win (idx + 1) en) mts4 mts3 = mts4 :=
        splice_eq_left (hfB _ .idle trivial mts3 mts3 _ _ _ rfl eBody).2.1.symm ((hfB _ .idle trivial).outside eBody)
      -- the body is: literal head · what select makes of START, content, END · literal tail; cut its run there
      rw [instantiate_split t.body _ (htok.2 hb'), selFeed_wrap] at eBody
      generalize hq1 : selFeed (selInit t.body) [Event.start tg at_] = q1 at eBody
      obtain ⟨b1, x1, o1, o1', hB1, hrest1, rfl⟩ := foldFeed_append_inv eBody
      rw [List.append_assoc] at hrest1
      obtain ⟨b2, x2, o2, o2', hB2, hrest2, rfl⟩ := foldFeed_append_inv hrest1
      rw [List.append_assoc] at hrest2
      obtain ⟨b3, x3, o3, o3', hB3, hrest3, rfl⟩ := foldFeed_append_inv hrest2
      obtain ⟨b4, x4, o4, o5, hB4, hB5, rfl⟩ := foldFeed_append_inv hrest3
      obtain ⟨hwb1, hlx1, hS1⟩ := hfB _ .idle trivial mts3 (fired t idx mts1) b1 x1 o1 hl3.symm hB1
      rw [h23] at hS1
      obtain ⟨hwb2, hlx2, hS2⟩ := hfB _ b1 hwb1 x1 (fired t idx mts1) b2 x2 o2 (by rw [hlx1, hl3]) hB2
      obtain ⟨hwb3, hlx3, -⟩ := hfB _ b2 hwb2 x2 x2 b3 x3 o3 rfl hB3
      obtain ⟨hwb4, hlx4, hS4⟩ := hfB _ b3 hwb3 x3 mts3 b4 x4 o4 (by rw [hlx3, hlx2, hlx1]) hB4
      obtain ⟨-, -, hS5⟩ := hfB _ b4 hwb4 x4 mts3 .idle mts4 o5 (by rw [hlx4, hlx3, hlx2, hlx1]) hB5
      have hstart : feed (G + 1) s en .idle (Event.start tg at_) mts =
          some (.lzy idx (preEnd t idx) 1 .idle q1.1 b2 (splitBody t.body).2.2,
            splice (win (idx + 1) en) x2 (fired t idx mts1), o1 ++ o2) := by
        rw [feed_idle_fire rfl hsc ht, fireStage_lzy hb', hS1, Fed.andThen_some, hq1, hS2]; rfl
      have hmid := lzy_dist G s en idx (preEnd t idx) (splitBody t.body).2.2 hpe.2 (evs inner) 0 0 .idle b2 q1.1
        x2 (fired t idx mts1) .idle b3 x3 mts3 innerOut o3 trivial hwb2
        (by rw [hlx2, hlx1, hl3]) (closed_of_neutral hnin) eIn hB3
      have htl : feed (G + 1) s en (.lzy idx (preEnd t idx) 1 .idle (selFeed q1.1 innerOut).1 b3 (splitBody t.body).2.2)
          (Event.end_ tg) (splice (win (idx + 1) en) x3 mts3) =
          some (.idle, updRange (Event.end_ tg) s (idx + 1) 0 mts4, o4 ++ o5) := by
        rw [feed_lzy_close (stripDepth_one_end rfl), hS4, Fed.andThen_some, hS5, Fed.andThen_some, h43]
      have := foldFeed_cons_some hstart (foldFeed_append_some hmid (foldFeed_cons_some htl eRest))
      rw [this]; simp

/-- **The automaton and the eager filter agree** on every well-nested, registration-free stream:
    an idle `_match(start, end)` generator fed the stream ends idle, has yielded the eager output and
    left the template list as the eager filter leaves it — whatever the `buffer` hints say. -/
theorem auto_eq_run : ∀ (f s : Nat) (en : Option Nat) (items : List (Item σ)) (mts : List (MT σ))
    (r : List (MT σ) × List Event),
    NoReg items → Neutral (evs items) → (∀ t ∈ mts, LazyOK t) → run f s en items mts = some r →
    ∀ F, f ≤ F → foldFeed (feed F s en) .idle (evs items) mts = some (.idle, r.1, r.2) :=
  fun _ _ _ _ _ _ hnr hneu hok h => auto_ran (ran_iff.mp h) hnr hok [] [] (hneu [])

def bufOn (t : MT σ) : MT σ := { t with buffered := true }

theorem test_bufOn (t : MT σ) (e : Event) (u : Bool) : (bufOn t).test e u = (bufOn (t.test e u).1, (t.test e u).2) := by
  unfold MT.test bufOn
  by_cases h : t.retired = true <;> simp [h]

/-- the eager filter does not read the `buffer` hints: switch them all on, in the list and in what the stream registers
    (`Y` is `X` with every registered template buffered), and the filter does the same -/
theorem run_bufOn_rel (f s : Nat) (en : Option Nat) {X Y : List (Item σ)} (mts : List (MT σ))
    (hXY : IRelG (fun a b => b = bufOn a) X Y) :
    run f s en Y (mts.map bufOn) = (run f s en X mts).map fun r => (r.1.map bufOn, r.2) := by
  rcases run_pw (R := fun _ a b => b = bufOn a) (Q := fun a b => b = bufOn a) (fun _ => true)
      (fun _ a b e u _ _ h => by subst h; rw [test_bufOn]; exact ⟨rfl, rfl⟩)
      (fun _ _ _ _ h => by subst h; rfl) (fun _ _ _ _ h => by subst h; rfl)
      (fun _ _ _ _ h => by subst h; exact ⟨rfl, rfl, rfl⟩) (fun _ _ h _ => h)
      f s en (A := mts) (fun _ _ => rfl) hXY (pw_map_iff.mpr rfl) with ⟨h1, h2⟩ | ⟨A', B', o, h1, h2, h3⟩
  · rw [h1, h2]; rfl
  · rw [h1, h2, pw_map_iff.mp h3]; rfl

theorem run_bufOn : ∀ (f s : Nat) (en : Option Nat) (items : List (Item σ)) (mts : List (MT σ)), NoReg items →
    run f s en items (mts.map bufOn) = (run f s en items mts).map fun r => (r.1.map bufOn, r.2) :=
  fun f s en _ mts hnr => run_bufOn_rel f s en mts (IRelG.refl _ hnr)

theorem runL_noReg (F : Nat) : ∀ (items : List (Item σ)) (a : Auto) (m : List (MT σ)), NoReg items →
    runL F a items m = foldFeed (feed F 0 none) a (evs items) m := by
  intro items
  induction items with
  | nil => intro a m _; rfl
  | cons it rest ih =>
    intro a m hnr
    cases it with
    | reg t => exact absurd (by simp) (hnr t)
    | ev e =>
      have hnr' : NoReg rest := regs_tail hnr
      simp only [runL, evs_ev, foldFeed]
      cases feed F 0 none a e m with
      | none => rfl
      | some q =>
        obtain ⟨a1, m1, o1⟩ := q
        simp only
        rw [ih a1 m1 hnr']
        cases foldFeed (feed F 0 none) a1 (evs rest) m1 with
        | none => rfl
        | some q2 => rfl

/-- `auto_eq_run` for the whole filter as `generate()` drives it -/
theorem runL_eq_run {f : Nat} {items : List (Item σ)} {mts : List (MT σ)} {r : List (MT σ) × List Event}
    (hnr : NoReg items) (hn : Neutral (evs items)) (hok : ∀ t ∈ mts, LazyOK t) (h : run f 0 none items mts = some r)
    {F : Nat} (hF : f ≤ F) : runL F .idle items mts = some (.idle, r.1, r.2) := by
  rw [runL_noReg F items .idle mts hnr]
  exact auto_eq_run f 0 none items mts r hnr hn hok h F hF

end Genshi.Match
