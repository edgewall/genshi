/-
  Inserting a template whose body is ${select('.')} anywhere in the template list leaves the output unchanged
  (`run_identity_insert`, behind `identity_body_is_identity` of Props/C12.lean).  From the pipeline theorem: cut both
  runs at the inserted slot `k`, so that the identity template is a stage of its own.
-/
import Genshi.Lemmas.MatchPipeline2
import Genshi.Lemmas.MatchIns
import Genshi.Lemmas.MatchPipe
namespace Genshi.Match
open Genshi
variable {σ : Type}

/-- a template that never fires, built from any template (for its state type) -/
def dummyOf (t : MT σ) : MT σ := { t with step := fun st _ _ => (st, false), body := [] }

theorem dummy_neverFires (t : MT σ) : NeverFires (dummyOf t) := fun _ _ _ => rfl

theorem dummy_okt (t : MT σ) : OKt (dummyOf t) := ⟨fun _ => rfl, fun _ _ _ _ => rfl⟩

theorem ins_forall {P : MT σ → Prop} {tn : MT σ} (hn : P tn) {k : Nat} {mts : List (MT σ)} (hk : k ≤ mts.length)
    (h : ∀ t ∈ mts, P t) : ∀ t ∈ ins tn k mts, P t := by
  intro t ht
  rw [ins_eq_insertIdx tn hk, List.mem_insertIdx hk] at ht
  rcases ht with rfl | ht
  · exact hn
  · exact h t ht

theorem ins_agree (ta tb : MT σ) (k : Nat) (mts : List (MT σ)) (hk : k ≤ mts.length) (w : Nat → Bool) (hw : w k = false) :
    AgreeOn w (ins ta k mts) (ins tb k mts) := by
  refine ⟨by rw [ins_length, ins_length], fun j hj => ?_⟩
  rcases sh_cases k j with rfl | ⟨i, rfl⟩
  · rw [hw] at hj; cases hj
  · rw [ins_get ta k mts i hk, ins_get tb k mts i hk]

/-- `run_identity` asks of the slots of the window only: the filter reads no others, so exchange them for placeholders -/
theorem run_identity_win {f s : Nat} {en : Option Nat} {items : List (Item σ)} {m : List (MT σ)}
    {r : List (MT σ) × List Event} (hnr : NoReg items)
    (hw : ∀ j t, win s en j = true → m[j]? = some t → NeverFires t ∨ IdentityBody t)
    (h : run f s en items m = some r) : r.2 = evs items := by
  have hl : (m.map dummyOf).length = m.length := List.length_map _
  obtain ⟨Y', hY', _, _⟩ := run_agree (X' := r.1) (o := r.2) hnr (agreeOn_splice (win s en) m (m.map dummyOf) hl) h
  refine run_identity _ _ _ _ _ (Y', r.2) (fun t ht => ?_) (regs_of_noReg hnr _) hY'
  obtain ⟨j, hj⟩ := List.getElem?_of_mem ht
  rw [splice_get _ _ _ j hl] at hj
  split at hj
  · exact hw j t ‹_› hj
  · obtain ⟨x, _, rfl⟩ := List.mem_map.mp (List.mem_of_getElem? hj)
    exact Or.inl (dummy_neverFires x)

/-- a template inserted at a slot outside the window is not looked at, whatever it is (`run_ins` for a placeholder,
    exchanged by `run_splice`) -/
theorem run_ins_out {f s s' k : Nat} {en en' : Option Nat} {items : List (Item σ)} {m : List (MT σ)}
    {r : List (MT σ) × List Event} (tn : MT σ) (hnr : NoReg items) (hk : k ≤ m.length) (hs : SRel k s s')
    (he : ERel k en en') (hout : win s' en' k = false) (h : run f s en items m = some r) :
    run f s' en' items (ins tn k m) = some (ins tn k r.1, r.2) := by
  obtain ⟨d, _, hd⟩ := run_ins f s en items m r k (dummyOf tn) s' en' (dummy_neverFires tn) hk hs he h
  have hl : r.1.length = m.length := run_len hnr h
  have hk' : k ≤ r.1.length := hl ▸ hk
  obtain ⟨_, e⟩ := run_splice hnr (y := ins tn k m) (by rw [ins_length, ins_length]) hd
  rw [(ins_agree (dummyOf tn) tn k m hk _ hout).splice_eq] at e
  rw [e]
  congr 2
  apply List.ext_getElem?; intro j
  rw [splice_get _ _ _ j (by rw [ins_length, ins_length, hl])]
  rcases sh_cases k j with rfl | ⟨i, rfl⟩
  · rw [hout, ins_get_at tn j r.1 hk']; exact ins_get_at tn j m hk
  · rw [ins_get d k r.1 i hk', ins_get tn k m i hk, ins_get tn k r.1 i hk', show win s' en' (sh k i) = win s en i from inWindow_rel hs he i]
    split
    · rfl
    · exact (run_outside hnr h i (Bool.eq_false_iff.mpr ‹_›)).symm

/-- **Identity bodies.**  Insert at any position `k` of the template list a template
    whose body is `${select('.')}` — any path, any matcher, any hints.  On a well-nested stream, if
    both filters terminate (they do when given enough fuel), they yield the same output.
    The run with `tid` is cut into the passes `[0, k)`, `[k, k+1)`, `[k+1, ∞)`, the run without it into `[0, k)`, `[k, ∞)`.
    Slot `k` lies outside the windows of the first and the last pass, which are therefore those of the run without `tid`
    (`run_ins_out`).  The middle pass asks `tid` alone and is the identity (`run_identity_win`). -/
theorem run_identity_insert (f f' : Nat) (items : List (Item σ)) (L0 : List (MT σ)) (tid : MT σ) (k : Nat)
    (r r' : List (MT σ) × List Event) (hnr : NoReg items) (hneu : Neutral (evs items))
    (hok : ∀ t ∈ L0, OKt t) (hid : IdentityBody tid) (hff : FlagFree tid) (hk : k ≤ L0.length)
    (h : run f 0 none items L0 = some r) (h' : run f' 0 none items (ins tid k L0) = some r') : r'.2 = r.2 := by
  have hok' : ∀ t ∈ ins tid k L0, OKt t := ins_forall ⟨hid.bodyOK, hff⟩ hk hok
  obtain ⟨f1, oA, LA, hA, hB⟩ := pipeline_seq f 0 none items L0 r.1 r.2 k hnr hneu hok (Nat.zero_le k) (by intro n hn; cases hn) h
  obtain ⟨f2, oA', LA', hA', hB'⟩ := pipeline_seq f' 0 none items (ins tid k L0) r'.1 r'.2 k hnr hneu hok' (Nat.zero_le k)
    (by intro n hn; cases hn) h'
  -- pass A with and without the template
  obtain ⟨rfl, rfl⟩ := Prod.mk.inj (run_det (run_ins_out tid hnr hk (by intro p; simp)
    (Or.inr ⟨k, k, rfl, rfl, fun p => by unfold sh; split <;> omega⟩) (inWindow_beyond (Nat.le_refl k)) hA) hA')
  have hkA : k ≤ LA.length := by rw [run_len hnr hA]; exact hk
  obtain ⟨f3, oB1, LB1, hB1, hB2⟩ := pipeline_seq f2 k none (evItems oA) _ r'.1 r'.2 (k + 1) (noReg_evItems _)
    (by simpa using run_neutral hnr (fun y hy => (hok y hy).1) hneu hA) (run_forall_noReg static_okt hnr hok' hA')
    (by omega) (by intro n hn; cases hn) hB'
  -- pass B1: only the identity template is asked; it changes nothing
  obtain rfl : oB1 = oA := by
    have := run_identity_win (noReg_evItems _) (fun j t hj ht => by
      rw [(inWindow_single k j).mp hj, ins_get_at tid k LA hkA] at ht; cases ht; exact Or.inr hid) hB1
    simpa using this
  -- pass B2 against the second pass of the run without the template
  have hBins := run_ins_out tid (noReg_evItems _) hkA (by intro p; unfold sh; split <;> omega) (Or.inl ⟨rfl, rfl⟩)
    (inWindow_below (Nat.lt_succ_self k)) hB
  obtain ⟨Z, hZ, _, _⟩ := run_agree (noReg_evItems _) (X := ins tid k LA) (Y := LB1)
    ⟨run_len (noReg_evItems _) hB1, fun j hj => (run_outside (noReg_evItems _) hB1 j (inWindow_beyond (inWindow_ge hj))).symm⟩ hBins
  exact (Prod.mk.inj (run_det hZ hB2)).2.symm

end Genshi.Match
