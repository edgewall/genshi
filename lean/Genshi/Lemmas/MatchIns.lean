/-
  Inserting a template that never fires anywhere into the template list changes nothing:
  the simulation behind `nonmatching_template_irrelevant`.
-/
import Genshi.Lemmas.MatchRun
namespace Genshi.Match
open Genshi
variable {σ : Type}

/-- insert `tn` before position `k` -/
def ins (tn : MT σ) : Nat → List (MT σ) → List (MT σ)
  | 0, mts => tn :: mts
  | _ + 1, [] => [tn]
  | k + 1, t :: ts => t :: ins tn k ts

/-- where slot `i` of the old list sits in the new one -/
def sh (k i : Nat) : Nat := if i < k then i else i + 1

theorem sh_succ (k i : Nat) : sh (k + 1) (i + 1) = sh k i + 1 := by
  unfold sh; split <;> split <;> omega

theorem sh_zero (i : Nat) : sh 0 i = i + 1 := by simp [sh]

theorem sh_lt_iff (k a b : Nat) : sh k a < sh k b ↔ a < b := by
  unfold sh; split <;> split <;> omega

theorem sh_ne (k i : Nat) : sh k i ≠ k := by unfold sh; split <;> omega

theorem ins_length (tn : MT σ) : ∀ (k : Nat) (mts : List (MT σ)), (ins tn k mts).length = mts.length + 1 := by
  intro k mts
  induction mts generalizing k with
  | nil => cases k <;> rfl
  | cons t ts ih => cases k <;> simp [ins, ih]

/-- within the list, `ins` is the library's `List.insertIdx` -/
theorem ins_eq_insertIdx (tn : MT σ) : ∀ {k : Nat} {mts : List (MT σ)}, k ≤ mts.length → ins tn k mts = mts.insertIdx k tn
  | 0, _, _ => List.insertIdx_zero.symm
  | k + 1, [], h => by cases h
  | k + 1, t :: ts, h => by rw [ins, ins_eq_insertIdx tn (Nat.le_of_succ_le_succ h), List.insertIdx_succ_cons]

theorem ins_get (tn : MT σ) (k : Nat) (mts : List (MT σ)) (i : Nat) (hk : k ≤ mts.length) :
    (ins tn k mts)[sh k i]? = mts[i]? := by
  rw [ins_eq_insertIdx tn hk]
  unfold sh
  split
  · exact List.getElem?_insertIdx_of_lt ‹_›
  · rw [List.getElem?_insertIdx_of_gt (by omega)]; rfl

theorem ins_append (tn t : MT σ) : ∀ (k : Nat) (mts : List (MT σ)), k ≤ mts.length →
    ins tn k mts ++ [t] = ins tn k (mts ++ [t]) := by
  intro k mts
  induction mts generalizing k with
  | nil => intro hk; simp at hk; subst hk; rfl
  | cons x xs ih =>
    intro hk
    cases k with
    | zero => rfl
    | succ k => simp [ins, ih k (by simpa using hk)]

theorem ins_get_at (tn : MT σ) (k : Nat) (mts : List (MT σ)) (hk : k ≤ mts.length) : (ins tn k mts)[k]? = some tn := by
  rw [ins_eq_insertIdx tn hk, List.getElem?_insertIdx_self, if_pos hk]

/-- every position of the longer list is `k` or the new place of a position of the shorter one -/
theorem sh_cases (k j : Nat) : j = k ∨ ∃ i, j = sh k i := by
  rcases Nat.lt_trichotomy j k with h | h | h
  · exact Or.inr ⟨j, by simp [sh, h]⟩
  · exact Or.inl h
  · exact Or.inr ⟨j - 1, by unfold sh; split <;> omega⟩

theorem sh_inj {k a b : Nat} (h : sh k a = sh k b) : a = b := by
  have h1 := sh_lt_iff k a b; have h2 := sh_lt_iff k b a; omega

/-- operations that act slot by slot, in the same way on a slot and on its new place, commute with the insertion -/
theorem ins_of_get {tn : MT σ} {k : Nat} {A A' B' : List (MT σ)} {g g' : Nat → MT σ → MT σ} (hk : k ≤ A.length)
    (hA : ∀ i, A'[i]? = (A[i]?).map (g i)) (hB : ∀ j, B'[j]? = ((ins tn k A)[j]?).map (g' j))
    (hg : ∀ i t, g' (sh k i) t = g i t) : B' = ins (g' k tn) k A' := by
  have hk' : k ≤ A'.length := by rw [length_of_get hA]; exact hk
  apply List.ext_getElem?; intro j
  rcases sh_cases k j with rfl | ⟨i, rfl⟩
  · rw [hB, ins_get_at tn j A hk, ins_get_at _ j A' hk']; rfl
  · rw [hB, ins_get tn k A i hk, ins_get _ k A' i hk', hA i]
    cases A[i]? with
    | none => rfl
    | some t => simp only [Option.map_some, hg]

/-- lower window bounds that denote the same old slots -/
def SRel (k s s' : Nat) : Prop := ∀ p, s ≤ p ↔ s' ≤ sh k p

/-- upper window bounds that denote the same old slots -/
def ERel (k : Nat) (en en' : Option Nat) : Prop :=
  (en = none ∧ en' = none) ∨ ∃ n n', en = some n ∧ en' = some n' ∧ ∀ p, p < n ↔ sh k p < n'

theorem inWindow_rel {k s s' : Nat} {en en' : Option Nat} (hs : SRel k s s') (he : ERel k en en') (p : Nat) :
    inWindow s' en' (sh k p) = inWindow s en p := by
  rcases he with ⟨rfl, rfl⟩ | ⟨n, n', rfl, rfl, hn⟩
  · simp only [inWindow, Bool.and_true]
    exact decide_eq_decide.mpr (hs p).symm
  · simp only [inWindow]
    rw [decide_eq_decide.mpr (hs p).symm, decide_eq_decide.mpr (hn p).symm]

theorem erel_preEnd (k : Nat) (t : MT σ) (idx : Nat) :
    ERel k (some (preEnd t idx)) (some (preEnd t (sh k idx))) := by
  right
  refine ⟨_, _, rfl, rfl, ?_⟩
  intro p
  have := sh_lt_iff k p idx
  have h2 := sh_lt_iff k idx p
  unfold preEnd
  split <;> omega

theorem srel_succ (k idx : Nat) : SRel k (idx + 1) (sh k idx + 1) := by
  intro p
  have := sh_lt_iff k idx p
  omega

/-- scanning the list with a never-firing template inserted: the same template fires (at its new place), the
    other slots end up the same, the inserted one may have been asked -/
theorem scan_ins {e : Event} {tn : MT σ} (hn : NeverFires tn) {k : Nat} {A : List (MT σ)} (hk : k ≤ A.length)
    {s s' : Nat} {en en' : Option Nat} (hw : ∀ p, inWindow s' en' (sh k p) = inWindow s en p) :
    ∃ tn', Shape tn tn' ∧
      scan e s' en' 0 (ins tn k A) = (ins tn' k (scan e s en 0 A).1, (scan e s en 0 A).2.map (sh k)) := by
  have hdec := fun u => (test_neverFires hn e u).1
  -- a slot of the longer list is the inserted one, which declines, or an old one in the same window
  have hold : ∀ {j y}, (ins tn k A)[j]? = some y → (y.test e false).2 = true → ∃ i, j = sh k i ∧ A[i]? = some y := by
    intro j y hy hf
    rcases sh_cases k j with rfl | ⟨i, rfl⟩
    · rw [ins_get_at tn j A hk] at hy; cases hy; rw [hdec] at hf; cases hf
    · exact ⟨i, rfl, by rw [← ins_get tn k A i hk]; exact hy⟩
  have hhit : (scan e s' en' 0 (ins tn k A)).2 = (scan e s en 0 A).2.map (sh k) := by
    cases hA : (scan e s en 0 A).2 with
    | none =>
      refine scan_none_iff.mpr fun j y hy hwj => ?_
      cases hf : (y.test e false).2 with
      | false => rfl
      | true =>
        obtain ⟨i, rfl, hi⟩ := hold hy hf
        rw [← hf]; exact scan_none_iff.mp hA i y hi (by rw [← hw]; exact hwj)
    | some idx =>
      obtain ⟨⟨t, ht, hwi, hf⟩, hlt⟩ := scan_hit_iff.mp hA
      refine scan_hit_iff.mpr ⟨⟨t, by rw [ins_get tn k A idx hk]; exact ht, by rw [hw]; exact hwi, hf⟩, fun j y hj hy hwj => ?_⟩
      cases hfy : (y.test e false).2 with
      | false => rfl
      | true =>
        obtain ⟨i, rfl, hi⟩ := hold hy hfy
        rw [← hfy]; exact hlt i y ((sh_lt_iff k i idx).mp hj) hi (by rw [← hw]; exact hwj)
  refine ⟨scanAt e s' en' (scan e s' en' 0 (ins tn k A)).2 k tn, scanAt_shape .., Prod.ext ?_ hhit⟩
  refine ins_of_get hk (scan_get e s en A) (scan_get e s' en' _) fun i t => ?_
  rw [hhit]
  unfold scanAt
  rw [hw]
  cases (scan e s en 0 A).2 with
  | none => simp
  | some idx =>
    have h1 := sh_lt_iff k idx i
    have h2 : sh k idx = sh k i ↔ idx = i := ⟨sh_inj, fun h => by rw [h]⟩
    simp only [Option.map_some, Option.some.injEq, forall_eq', h2, show sh k i ≤ sh k idx ↔ i ≤ idx by omega]

/-- **A template that never fires is irrelevant**, wherever it is inserted in the list:
    the output is the same and the other templates end in the same states. -/
theorem run_ins : ∀ (f s : Nat) (en : Option Nat) (items : List (Item σ)) (mts : List (MT σ))
    (r : List (MT σ) × List Event) (k : Nat) (tn : MT σ) (s' : Nat) (en' : Option Nat),
    NeverFires tn → k ≤ mts.length → SRel k s s' → ERel k en en' →
    run f s en items mts = some r →
    ∃ tn', Shape tn tn' ∧ run f s' en' items (ins tn k mts) = some (ins tn' k r.1, r.2) := by
  intro f s en items mts r k tn s' en' hn hk hs he h
  replace h := ran_iff.mp h
  induction h generalizing k tn s' en' with
  | nil => exact ⟨tn, Shape.refl tn, rfl⟩
  | @reg _ _ _ t _ m _ _ ih =>
    simp only [run]
    rw [ins_append tn t k m hk]
    exact ih k tn s' en' hn (by simp; omega) hs he
  | @pass _ _ _ e _ _ _ _ hS hsc _ ih =>
    obtain ⟨tn1, hsh1, hscan'⟩ := scan_ins (e := e) hn hk (inWindow_rel hs he)
    rw [hsc] at hscan'
    obtain ⟨tn', hsh', hrun⟩ := ih k tn1 s' en' (static_neverFires tn tn1 hsh1 hn) (by rw [scan_length_eq hsc]; exact hk) hs he
    exact ⟨tn', Shape.trans hsh1 hsh', run_pass hS hscan' hrun⟩
  | @fire _ s en e _ _ mts1 idx t _ tail _ mts3 _ mts4 _ _ hS hsc ht hst h3 h4 _ ih3 ih4 ih5 =>
    obtain ⟨tn1, hsh1, hscan'⟩ := scan_ins (e := e) hn hk (inWindow_rel hs he)
    rw [hsc] at hscan'
    have hn1 : NeverFires tn1 := static_neverFires tn tn1 hsh1 hn
    have hk1 : k ≤ mts1.length := by rw [scan_length_eq hsc]; exact hk
    have hget : (ins tn1 k mts1)[sh k idx]? = some t := by rw [ins_get tn1 k mts1 idx hk1]; exact ht
    -- retiring slot `idx` at its new place leaves the inserted template alone
    have hfired : fired t (sh k idx) (ins tn1 k mts1) = ins tn1 k (fired t idx mts1) := by
      have := ins_of_get (tn := tn1) hk1 (fired_get t idx mts1) (fired_get t (sh k idx) _) fun i x => by
        simp only [show sh k i = sh k idx ↔ i = idx from ⟨sh_inj, fun h => by rw [h]⟩]
      rwa [if_neg fun hc => sh_ne k idx hc.1.symm] at this
    obtain ⟨tn3, hsh3, hrun3⟩ := ih3 k tn1 s' (some (preEnd t (sh k idx))) hn1 (by rw [fired_length]; exact hk1) hs
      (erel_preEnd k t idx)
    have hn3 : NeverFires tn3 := static_neverFires tn1 tn3 hsh3 hn1
    have hk3 : k ≤ mts3.length := Nat.le_trans hk1 (by
      have := run_length _ _ _ _ _ _ (ran_iff.mpr h3); rwa [fired_length] at this)
    obtain ⟨tn4, hsh4, hrun4⟩ := ih4 k tn3 (sh k idx + 1) en' hn3 hk3 (srel_succ k idx) he
    have hn4 : NeverFires tn4 := static_neverFires tn3 tn4 hsh4 hn3
    have hk4 : k ≤ mts4.length := Nat.le_trans hk3 (run_length _ _ _ _ _ _ (ran_iff.mpr h4))
    have hupd := ins_of_get (tn := tn4) hk4 (updRange_get tail s (idx + 1) 0 mts4)
      (updRange_get tail s' (sh k idx + 1) 0 _) fun i x => by
        have h1 := hs i
        have h2 := sh_lt_iff k i idx
        have h3 := sh_lt_iff k idx i
        simp only [Nat.zero_add, decide_eq_decide.mpr h1.symm,
          show sh k i < sh k idx + 1 ↔ i < idx + 1 by omega]
    have hsh5 := shape_ite (c := (decide (s' ≤ 0 + k) && decide (0 + k < sh k idx + 1)) = true)
      (test_shape tn4 tail true) (Shape.refl tn4)
    obtain ⟨tn6, hsh6, hrun6⟩ := ih5 k _ s' en' (static_neverFires _ _ hsh5 hn4) (by rw [updRange_length]; exact hk4) hs he
    exact ⟨tn6, Shape.trans hsh1 (Shape.trans hsh3 (Shape.trans hsh4 (Shape.trans hsh5 hsh6))),
      run_fired hS hscan' hget hst (hfired ▸ hrun3) hrun4 (hupd ▸ hrun6)⟩
  | @close _ s en e _ m _ hE _ ih =>
    have hend := ins_of_get (tn := tn) hk (scanEnd_get e s en 0 m) (scanEnd_get e s' en' 0 _) fun i x => by
      simp only [Nat.zero_add, inWindow_rel hs he]
    have hsh1 := shape_ite (c := inWindow s' en' (0 + k) = true) (test_shape tn e false) (Shape.refl tn)
    obtain ⟨tn', hsh', hrun⟩ := ih k _ s' en' (static_neverFires _ _ hsh1 hn) (by rw [scanEnd_length]; exact hk) hs he
    exact ⟨tn', Shape.trans hsh1 hsh', run_close hE (hend ▸ hrun)⟩
  | other hS hE _ ih =>
    obtain ⟨tn', hsh', hrun⟩ := ih k tn s' en' hn hk hs he
    exact ⟨tn', hsh', run_skip hS hE hrun⟩

end Genshi.Match
