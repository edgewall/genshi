/-
  C12 — registrations inside the stream.  A `py:match` directive that appears later in the template
  registers its template at that point of the stream: the part of the stream before it (a closed
  segment) is filtered with the templates registered so far, the part after it with the extended list.
  So a stream with registrations between closed segments is a sequence of registration-free segments,
  and the theorems about registration-free streams apply segment by segment; `lazy_eq_eager` is carried
  over to such streams here.
-/
import Genshi.Lemmas.MatchSplit
import Genshi.Lemmas.MatchEquiv
namespace Genshi.Match
open Genshi
variable {σ : Type}

/-- **A registration splits the stream.**  For a closed segment `A` (any items, registrations
    included), a registration `t` and any rest `B`: the filter over `A · reg t · B` is the filter over
    `A` with the list as it is — its output and the list it leaves do not depend on `t` or `B` —
    followed by the filter over `B` with `t` appended to that list. -/
theorem run_reg_split (f s : Nat) (en : Option Nat) (A : List (Item σ)) (t : MT σ) (B : List (Item σ))
    (M : List (MT σ)) (r : List (MT σ) × List Event) (hcl : Closed (evs A))
    (h : run f s en (A ++ .reg t :: B) M = some r) :
    ∃ r1 r2, run f s en A M = some r1 ∧ run f s en B (r1.1 ++ [t]) = some r2 ∧ r = (r2.1, r1.2 ++ r2.2) := by
  obtain ⟨r1, r2, h1, h2, h3⟩ := run_append f s en A (.reg t :: B) 0 M r hcl h
  refine ⟨r1, r2, h1, ?_, h3⟩
  obtain ⟨f0, rfl⟩ : ∃ f0, f = f0 + 1 := ⟨f - 1, by have := run_fuel_pos h2; omega⟩
  simp only [run] at h2
  exact run_mono _ _ _ _ _ _ h2

/-- streams whose registrations sit between closed, well-nested, registration-free segments
    (`py:match` declarations that are children of the template's root, before or between the content) -/
inductive Segmented : List (Item σ) → Prop
  | last (A : List (Item σ)) : NoReg A → Neutral (evs A) → Segmented A
  | cons (A : List (Item σ)) (t : MT σ) (rest : List (Item σ)) :
      NoReg A → Neutral (evs A) → Closed (evs A) → Segmented rest → Segmented (A ++ .reg t :: rest)

theorem runL_append (F : Nat) : ∀ (A B : List (Item σ)) (a : Auto) (m : List (MT σ)),
    runL F a (A ++ B) m = (runL F a A m).bind fun q => (runL F q.1 B q.2.1).map fun p => (p.1, p.2.1, q.2.2 ++ p.2.2) := by
  intro A
  induction A with
  | nil =>
    intro B a m
    simp only [List.nil_append, runL, Option.bind_some, List.nil_append]
    cases runL F a B m <;> simp
  | cons it rest ih =>
    intro B a m
    cases it with
    | reg t => simp only [List.cons_append, runL]; exact ih B a (m ++ [t])
    | ev e =>
      simp only [List.cons_append, runL]
      cases hf : feed F 0 none a e m with
      | none => simp
      | some q =>
        obtain ⟨a1, m1, o1⟩ := q
        simp only [ih B a1 m1]
        cases hr : runL F a1 rest m1 with
        | none => simp
        | some p =>
          obtain ⟨a2, m2, o2⟩ := p
          simp only [Option.bind_some]
          cases runL F a2 B m2 <;> simp [List.append_assoc]

/-- **lazy_eq_eager with registrations inside the stream.**  On every stream whose registrations sit
    between closed well-nested segments, the automaton (which honours `buffer="false"`) yields what the
    eager filter yields and leaves the same template list — for the templates registered before the
    stream and those registered inside it alike (bodies well nested, at most one `select()` when unbuffered). -/
theorem lazy_eq_eager_segmented : ∀ (items : List (Item σ)), Segmented items → ∀ (f : Nat) (mts : List (MT σ))
    (r : List (MT σ) × List Event), (∀ t ∈ mts, LazyOK t) → (∀ t, Item.reg t ∈ items → LazyOK t) →
    run f 0 none items mts = some r → ∀ F, f ≤ F → runL F .idle items mts = some (.idle, r.1, r.2) := by
  intro items hseg
  induction hseg with
  | last A hnr hneu =>
    intro f mts r hok _ h F hF
    exact runL_eq_run hnr hneu hok h hF
  | cons A t rest hnr hneu hcl _ ih =>
    intro f mts r hok hreg h F hF
    obtain ⟨r1, r2, h1, h2, rfl⟩ := run_reg_split f 0 none A t rest mts r hcl h
    have hA := runL_eq_run hnr hneu hok h1 hF
    have hok1 : ∀ x ∈ r1.1 ++ [t], LazyOK x := by
      intro x hx
      rcases List.mem_append.mp hx with hx | hx
      · exact run_forall_noReg static_lazyOK hnr hok h1 x hx
      · simp only [List.mem_singleton] at hx
        subst hx
        exact hreg _ (by simp)
    have hrest := ih f (r1.1 ++ [t]) r2 hok1 (fun y hy => hreg y (by simp [hy])) h2 F hF
    rw [runL_append, hA]
    simp only [Option.bind_some, runL, hrest, Option.map_some]

end Genshi.Match
