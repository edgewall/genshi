/-
  C12 — `buffer_hint_irrelevant` on streams with registrations inside (`Segmented`: `py:match`
  declarations between closed segments).  Two streams that differ only in the `buffer` hints of the
  templates they register, filtered with template lists that differ only in their `buffer` hints:
  the automaton honouring the hints yields what the eager filter (everything buffered) yields.
  The eager filter reads no `buffer` hint on any stream (`run_bufOn_same`, from `run_pw` with the registrations
  related); the segments are needed for `lazy_eq_eager_segmented` only.
-/
import Genshi.Lemmas.MatchLate
namespace Genshi.Match
open Genshi
variable {σ : Type}

/-- an item with the `buffer` hint of a registered template switched on -/
def Item.bufOn : Item σ → Item σ
  | .ev e => .ev e
  | .reg t => .reg (Genshi.Match.bufOn t)

theorem noReg_of_bufOn_eq : ∀ (A items' : List (Item σ)), NoReg A →
    items'.map Item.bufOn = A.map Item.bufOn → items' = A
  | [], items', _, h => by simpa using h
  | it :: A, [], _, h => by simp at h
  | it :: A, it' :: items', hnr, h => by
      simp only [List.map_cons, List.cons.injEq] at h
      have hnr' : NoReg A := fun t ht => hnr t (List.mem_cons_of_mem _ ht)
      have ih := noReg_of_bufOn_eq A items' hnr' h.2
      cases it with
      | reg t => exact absurd List.mem_cons_self (hnr t)
      | ev e =>
        cases it' with
        | reg t' => simp [Item.bufOn] at h
        | ev e' =>
          have : e' = e := by simpa [Item.bufOn] using h.1
          rw [this, ih]

theorem split_of_bufOn_eq (t : MT σ) (rest : List (Item σ)) : ∀ (A items' : List (Item σ)), NoReg A →
    items'.map Item.bufOn = (A ++ .reg t :: rest).map Item.bufOn →
    ∃ t' rest', items' = A ++ .reg t' :: rest' ∧ bufOn t' = bufOn t ∧ rest'.map Item.bufOn = rest.map Item.bufOn
  | [], [], _, h => by simp at h
  | [], it' :: items', _, h => by
      simp only [List.nil_append, List.map_cons, List.cons.injEq] at h
      cases it' with
      | ev e' => simp [Item.bufOn] at h
      | reg t' =>
        refine ⟨t', items', rfl, ?_, h.2⟩
        simpa [Item.bufOn] using h.1
  | it :: A, [], _, h => by simp at h
  | it :: A, it' :: items', hnr, h => by
      simp only [List.cons_append, List.map_cons, List.cons.injEq] at h
      have hnr' : NoReg A := fun t ht => hnr t (List.mem_cons_of_mem _ ht)
      obtain ⟨t', rest', h1, h2, h3⟩ := split_of_bufOn_eq t rest A items' hnr' h.2
      cases it with
      | reg t0 => exact absurd List.mem_cons_self (hnr t0)
      | ev e =>
        cases it' with
        | reg t' => simp [Item.bufOn] at h
        | ev e' =>
          have : e' = e := by simpa [Item.bufOn] using h.1
          exact ⟨t', rest', by rw [this, h1]; rfl, h2, h3⟩

theorem segmented_of_bufOn_eq : ∀ (items : List (Item σ)), Segmented items → ∀ (items' : List (Item σ)),
    items'.map Item.bufOn = items.map Item.bufOn → Segmented items' := by
  intro items hseg
  induction hseg with
  | last A hnr hneu =>
    intro items' h
    rw [noReg_of_bufOn_eq A items' hnr h]
    exact .last A hnr hneu
  | cons A t rest hnr hneu hcl _ ih =>
    intro items' h
    obtain ⟨t', rest', rfl, _, h3⟩ := split_of_bufOn_eq t rest A items' hnr h
    exact .cons A t' rest' hnr hneu hcl (ih rest' h3)

theorem irelG_bufOn : ∀ (items : List (Item σ)), IRelG (fun a b => b = bufOn a) items (items.map Item.bufOn)
  | [] => .nil
  | .ev e :: items => .ev e (irelG_bufOn items)
  | .reg _ :: items => .reg rfl (irelG_bufOn items)

/-- streams and lists that differ in the `buffer` hints only are treated alike by the eager filter: any stream,
    registrations wherever they are, the same fuel -/
theorem run_bufOn_same {f s : Nat} {en : Option Nat} {items items' : List (Item σ)} {mts mts' : List (MT σ)}
    {r : List (MT σ) × List Event} (hitems : items'.map Item.bufOn = items.map Item.bufOn)
    (hsame : mts'.map bufOn = mts.map bufOn) (h : run f s en items mts = some r) :
    ∃ r', run f s en items' mts' = some r' ∧ r'.1.map bufOn = r.1.map bufOn ∧ r'.2 = r.2 := by
  have h2 := run_bufOn_rel f s en mts' (irelG_bufOn items')
  rw [hitems, hsame, run_bufOn_rel f s en mts (irelG_bufOn items), h] at h2
  cases h' : run f s en items' mts' with
  | none => rw [h'] at h2; cases h2
  | some r' =>
    rw [h'] at h2
    simp only [Option.map_some, Option.some.injEq, Prod.mk.injEq] at h2
    exact ⟨r', rfl, h2.1.symm, h2.2.symm⟩

/-- one registration-free segment: lists that differ in the `buffer` hints only are treated alike by the eager filter -/
theorem run_bufOn_pair (f s : Nat) (en : Option Nat) (A : List (Item σ)) (mts mts' : List (MT σ))
    (r : List (MT σ) × List Event) (hnr : NoReg A) (hsame : mts'.map bufOn = mts.map bufOn)
    (h : run f s en A mts = some r) :
    ∃ r', run f s en A mts' = some r' ∧ r'.1.map bufOn = r.1.map bufOn ∧ r'.2 = r.2 :=
  run_bufOn_same rfl hsame h

/-- the eager filter over a segmented stream does not read the `buffer` hints — neither of the
    templates it starts with nor of those registered on the way -/
theorem run_bufOn_segmented : ∀ (items : List (Item σ)), Segmented items →
    ∀ (items' : List (Item σ)) (f : Nat) (mts mts' : List (MT σ)) (r : List (MT σ) × List Event),
    items'.map Item.bufOn = items.map Item.bufOn → mts'.map bufOn = mts.map bufOn →
    run f 0 none items mts = some r →
    ∃ f' r', run f' 0 none items' mts' = some r' ∧ r'.1.map bufOn = r.1.map bufOn ∧ r'.2 = r.2 :=
  fun _ _ _ f _ _ _ hi hm h => ⟨f, run_bufOn_same hi hm h⟩

/-- the `buffer` hints do not change the output on a stream with registrations between closed segments: the eager
    filter reads no hint (`run_bufOn_segmented`), and on the hinted stream, which is segmented like the other
    (`segmented_of_bufOn_eq`), the automaton yields what the eager filter yields (`lazy_eq_eager_segmented`) -/
theorem buffer_hint_irrelevant_seg (items items' : List (Item σ)) (hseg : Segmented items)
    (hitems : items'.map Item.bufOn = items.map Item.bufOn) (f : Nat) (mts mts' : List (MT σ))
    (r : List (MT σ) × List Event) (hsame : mts'.map bufOn = mts.map bufOn)
    (hok : ∀ t ∈ mts', LazyOK t) (hreg : ∀ t, Item.reg t ∈ items' → LazyOK t)
    (h : run f 0 none items mts = some r) :
    ∃ F0 m', m'.map bufOn = r.1.map bufOn ∧ ∀ F, F0 ≤ F → runL F .idle items' mts' = some (.idle, m', r.2) := by
  obtain ⟨f', r', h', hm, ho⟩ := run_bufOn_segmented items hseg items' f mts mts' r hitems hsame h
  have hseg' := segmented_of_bufOn_eq items hseg items' hitems
  refine ⟨f', r'.1, hm, fun F hF => ?_⟩
  rw [← ho]
  exact lazy_eq_eager_segmented items' hseg' f' mts' r' hok hreg h' F hF

end Genshi.Match
