/-
  C12 — the tree specification read off the marks of a matcher run over the whole document.

  `specNode`/`specList` (Model/MatchSpec.lean) ask the matcher in the state reached along the
  ancestors of an element.  For a matcher that obeys the law (an END undoes its START) and that is
  not moved by other events, this is the verdict the matcher gives at the element's START event when
  it is run over *every* event of the document (`marksOf`): closed subtrees leave no trace.
  `mkNode`/`mkKids` (Model/MatchReal.lean) rewrite a forest from such a list of marks.
-/
import Genshi.Lemmas.MatchNest
import Genshi.Model.MatchReal
namespace Genshi.Match
open Genshi

variable {σ : Type}

theorem marksOf_append (step : σ → Event → Bool → σ × Bool) : ∀ (a b : List Event) (s : σ),
    marksOf step s (a ++ b) =
      ((marksOf step s a).1 ++ (marksOf step (marksOf step s a).2 b).1, (marksOf step (marksOf step s a).2 b).2) := by
  intro a
  induction a with
  | nil => intro b s; rfl
  | cons e es ih => intro b s; simp [marksOf, ih]

theorem marksOf_length (step : σ → Event → Bool → σ × Bool) : ∀ (a : List Event) (s : σ),
    (marksOf step s a).1.length = a.length := by
  intro a
  induction a with
  | nil => intro s; rfl
  | cons e es ih => intro s; simp [marksOf, ih]

mutual
  /-- over the events of a tree the matcher returns to the state it had, and the tree rewrite of the
      specification is the rewrite by the marks -/
  theorem spec_marks_node (t : MT σ) (hl : Lawful t) (hf : LeafFree t) (b : σ) :
      ∀ (n : Node) (anc : List Open), n.ok = true →
        (marksOf t.step (openSt t.step b anc) n.flatten).2 = openSt t.step b anc ∧
        ∀ rest, mkNode t.body t.recursive n ((marksOf t.step (openSt t.step b anc) n.flatten).1 ++ rest)
          = (specNode t b anc n, rest)
    | .leaf e, anc, hok => by
        obtain ⟨h1, h2⟩ := leaf_ok.mp hok
        refine ⟨?_, fun rest => ?_⟩
        · simp [Node.flatten, marksOf, hf _ e false h1 h2]
        · simp [Node.flatten, marksOf, mkNode, specNode]
    | .elem tg at_ kids, anc, hok => by
        simp only [Node.ok] at hok
        have ih := spec_marks_list t hl hf b kids ((tg, at_) :: anc) hok
        have hs1 : (t.step (openSt t.step b anc) (.start tg at_) false).1 = openSt t.step b ((tg, at_) :: anc) := rfl
        have hend : (t.step (openSt t.step b ((tg, at_) :: anc)) (.end_ tg) false).1 = openSt t.step b anc := by
          rw [← hs1]; exact hl _ tg at_ false false
        refine ⟨?_, fun rest => ?_⟩
        · simp only [Node.flatten, marksOf, hs1, marksOf_append, ih.1, hend]
        · simp only [Node.flatten, marksOf, hs1, marksOf_append, ih.1, mkNode, List.cons_append, List.tail_cons,
            List.headD_cons, List.append_assoc, ih.2, specNode, List.nil_append]
  theorem spec_marks_list (t : MT σ) (hl : Lawful t) (hf : LeafFree t) (b : σ) :
      ∀ (ns : List Node) (anc : List Open), okList ns = true →
        (marksOf t.step (openSt t.step b anc) (flattenList ns)).2 = openSt t.step b anc ∧
        ∀ rest, mkKids t.body t.recursive ns ((marksOf t.step (openSt t.step b anc) (flattenList ns)).1 ++ rest)
          = (specList t b anc ns, rest)
    | [], anc, _ => by
        refine ⟨rfl, fun rest => ?_⟩
        simp [flattenList, marksOf, mkKids, specList]
    | n :: ns, anc, hok => by
        simp only [okList, Bool.and_eq_true] at hok
        have h1 := spec_marks_node t hl hf b n anc hok.1
        have h2 := spec_marks_list t hl hf b ns anc hok.2
        refine ⟨?_, fun rest => ?_⟩
        · simp only [flattenList, marksOf_append, h1.1, h2.1]
        · simp only [flattenList, marksOf_append, h1.1, mkKids, List.append_assoc, h1.2, h2.2, specList]
end

/-- the marks of a forest are the marks of its trees, each run from the same state -/
theorem marks_forest (t : MT σ) (hl : Lawful t) (hf : LeafFree t) (b : σ) : ∀ (ns : List Node), okList ns = true →
    (marksOf t.step b (flattenList ns)).1 = ns.flatMap fun n => (marksOf t.step b n.flatten).1 := by
  intro ns
  induction ns with
  | nil => intro _; rfl
  | cons n ns ih =>
    intro hok
    simp only [okList, Bool.and_eq_true] at hok
    have h1 := (spec_marks_node t hl hf b n [] hok.1).1
    simp only [openSt] at h1
    simp only [flattenList, marksOf_append, h1, List.flatMap_cons, ih hok.2]

end Genshi.Match
