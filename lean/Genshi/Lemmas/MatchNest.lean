/-
  Nesting lemmas for the match model: the stack of open START events (`track`), depth-closed
  segments (`lvl`), what `_strip` returns, and that `select` / body instantiation keep nesting.
-/
import Genshi.Lemmas.Match
import Genshi.Model.MatchSpec
import Genshi.Model.MatchLazy
namespace Genshi.Match
open Genshi

variable {σ : Type}

/-- the stack of open START events after a list of events; `none` on an END that closes nothing
    or the wrong tag -/
def track : List Open → List Event → Option (List Open)
  | st, [] => some st
  | st, e :: es =>
    match e with
    | .start t a => track ((t, a) :: st) es
    | .end_ t =>
      match st with
      | [] => none
      | o :: st' => if t = o.1 then track st' es else none
    | _ => track st es

/-- a segment that leaves every stack as it found it -/
def Neutral (l : List Event) : Prop := ∀ st, track st l = some st

theorem track_other (e : Event) (hs : isStart e = false) (he : isEnd e = false) (st : List Open) (es : List Event) :
    track st (e :: es) = track st es := by
  cases e <;> simp_all [isStart, isEnd, track]

theorem track_end_cons (t : QName) (a : AttrList) (st : List Open) (es : List Event) :
    track ((t, a) :: st) (.end_ t :: es) = track st es := by
  simp only [track, ↓reduceIte]

/-- a tracked END closes the innermost open element, which has its tag -/
theorem track_end {t : QName} {st st' : List Open} {es : List Event} (h : track st (.end_ t :: es) = some st') :
    ∃ a st1, st = (t, a) :: st1 ∧ track st1 es = some st' := by
  cases st with
  | nil => cases h
  | cons o st1 =>
    obtain ⟨t', a⟩ := o
    simp only [track] at h
    by_cases ht : t = t'
    · subst ht; exact ⟨a, st1, rfl, by simpa only [↓reduceIte] using h⟩
    · rw [if_neg ht] at h; cases h

theorem isStart_eq_start {e : Event} (h : isStart e = true) : ∃ tg at_, e = .start tg at_ := by
  cases e <;> simp [isStart] at h; exact ⟨_, _, rfl⟩

theorem isEnd_eq_end {e : Event} (h : isEnd e = true) : ∃ tg, e = .end_ tg := by
  cases e <;> simp [isEnd] at h; exact ⟨_, rfl⟩

theorem isStart_false_of_isEnd {e : Event} (h : isEnd e = true) : isStart e = false := by
  cases e <;> simp_all [isStart, isEnd]

/-- `track`, `lvl`, `strip` and `selM` tell three kinds of event apart: a START, an END, anything else -/
theorem Event.se_cases (e : Event) :
    (∃ t a, e = .start t a) ∨ (∃ t, e = .end_ t) ∨ (isStart e = false ∧ isEnd e = false) := by
  cases e <;> simp [isStart, isEnd]

theorem track_append (st : List Open) (a b : List Event) :
    track st (a ++ b) = (track st a).bind fun s => track s b := by
  induction a generalizing st with
  | nil => rfl
  | cons e es ih =>
    rcases Event.se_cases e with ⟨t, a, rfl⟩ | ⟨t, rfl⟩ | ⟨hs, he⟩
    · exact ih _
    · cases st with
      | nil => rfl
      | cons o st =>
        simp only [List.cons_append, track]
        split
        · exact ih st
        · rfl
    · rw [List.cons_append, track_other e hs he, track_other e hs he]; exact ih st

theorem neutral_nil : Neutral [] := fun _ => rfl

theorem neutral_append {a b : List Event} (ha : Neutral a) (hb : Neutral b) : Neutral (a ++ b) := by
  intro st; rw [track_append, ha st]; exact hb st

theorem neutral_wrap {mid : List Event} (t : QName) (a : AttrList) (h : Neutral mid) :
    Neutral (.start t a :: (mid ++ [.end_ t])) := by
  intro st
  simp only [track]
  rw [track_append, h]
  simp [track]

theorem neutral_single (e : Event) (hs : isStart e = false) (he : isEnd e = false) : Neutral [e] := by
  intro st; rw [track_other e hs he]; rfl

theorem isStartEnd_eq (e : Event) : e.isStartEnd = (isStart e || isEnd e) := by cases e <;> rfl

/-- `track` and Core's `balance` agree (the latter forgets the attributes) -/
theorem balance_of_track : ∀ (l : List Event) (st : List Open),
    balance (st.map (·.1)) l = (track st l).map (·.map (·.1)) := by
  intro l
  induction l with
  | nil => intro st; simp [balance, track]
  | cons e es ih =>
    intro st
    rcases Event.se_cases e with ⟨t, a, rfl⟩ | ⟨t, rfl⟩ | ⟨hs, he⟩
    · simp only [balance, track]; exact ih ((t, a) :: st)
    · cases st with
      | nil => simp [balance, track]
      | cons o st =>
        simp only [List.map_cons, balance, track]
        by_cases h : t = o.1
        · simp only [h, ↓reduceIte]; exact ih st
        · simp [h]
    · rw [balance_skip _ (by rw [isStartEnd_eq, hs, he]; rfl), track_other e hs he]; exact ih st

theorem wellNested_iff_track (l : List Event) : WellNested l ↔ track [] l = some [] := by
  unfold WellNested
  have := balance_of_track l []
  simp only [List.map_nil] at this
  rw [this]
  cases track [] l with
  | none => simp
  | some s => cases s <;> simp

/-- nesting depth after the events, starting from `d`; `none` if it would drop below zero -/
def lvl : Nat → List Event → Option Nat
  | d, [] => some d
  | d, e :: es =>
    if isStart e then lvl (d + 1) es
    else if isEnd e then (match d with | 0 => none | d' + 1 => lvl d' es)
    else lvl d es

/-- a segment in which every END closes a START of the segment -/
def Closed (l : List Event) : Prop := lvl 0 l = some 0

theorem leaf_ok {e : Event} : (Node.leaf e).ok = true ↔ isStart e = false ∧ isEnd e = false := by
  simp [Node.ok, isStartEnd_eq]

/-! `lvl`, `_strip` and the select machine move a depth counter the way `stripDepth` does: up on a START, down on an
    END.  One step equation each (`lvl_cons`, `strip_ev`, `selM_cons` with `selStep_copy`/`selStep_miss`); the proofs about
    them case on the value of the step, not on the kind of event. -/

theorem stripDepth_cases (e : Event) :
    (isStart e = true ∧ ∀ d, stripDepth d e = d + 1) ∨ (isStart e = false ∧ isEnd e = true ∧ ∀ d, stripDepth d e = d - 1) ∨
      (isStart e = false ∧ isEnd e = false ∧ ∀ d, stripDepth d e = d) := by
  unfold stripDepth
  cases hs : isStart e
  · cases he : isEnd e
    · exact Or.inr (Or.inr ⟨rfl, rfl, fun _ => rfl⟩)
    · exact Or.inr (Or.inl ⟨rfl, rfl, fun _ => rfl⟩)
  · exact Or.inl ⟨rfl, fun _ => rfl⟩

theorem stripDepth_add (d m : Nat) (e : Event) : stripDepth (d + 1 + m) e = stripDepth (d + 1) e + m := by
  rcases stripDepth_cases e with ⟨_, h⟩ | ⟨_, _, h⟩ | ⟨_, _, h⟩ <;> simp only [h]
  · exact Nat.add_right_comm (d + 1) m 1
  · exact congrArg Nat.pred (Nat.add_right_comm d 1 m)

theorem stripDepth_eq_zero {d : Nat} {e : Event} (h : stripDepth (d + 1) e = 0) : isEnd e = true ∧ d = 0 := by
  rcases stripDepth_cases e with ⟨_, h'⟩ | ⟨_, he, h'⟩ | ⟨_, _, h'⟩ <;> rw [h'] at h
  · cases h
  · exact ⟨he, h⟩
  · cases h

theorem stripDepth_shift {j j1 : Nat} {e : Event} (h : stripDepth (j + 1) e = j1 + 1) (x : Nat) :
    stripDepth (x + j) e = x + j1 := by
  rcases stripDepth_cases e with ⟨_, h'⟩ | ⟨_, _, h'⟩ | ⟨_, _, h'⟩ <;> rw [h'] at h ⊢
  · cases h; rfl
  · obtain rfl : j = j1 + 1 := h; rfl
  · cases h; rfl

theorem lvl_cons (d : Nat) (e : Event) (es : List Event) :
    lvl d (e :: es) = match stripDepth (d + 1) e with
      | 0 => none
      | d' + 1 => lvl d' es := by
  rcases stripDepth_cases e with ⟨hs, h⟩ | ⟨hs, he, h⟩ | ⟨hs, he, h⟩
  · simp only [lvl, hs, h, ↓reduceIte]
  · simp only [lvl, hs, he, h, ↓reduceIte, Bool.false_eq_true]; cases d <;> rfl
  · simp only [lvl, hs, he, h, ↓reduceIte, Bool.false_eq_true]

theorem lvl_append (d : Nat) (a b : List Event) : lvl d (a ++ b) = (lvl d a).bind fun k => lvl k b := by
  induction a generalizing d with
  | nil => rfl
  | cons e es ih =>
    rw [List.cons_append, lvl_cons, lvl_cons]
    cases stripDepth (d + 1) e with
    | zero => rfl
    | succ d' => exact ih d'

theorem lvl_mono : ∀ (l : List Event) (d k m : Nat), lvl d l = some k → lvl (d + m) l = some (k + m) := by
  intro l
  induction l with
  | nil => intro d k m h; cases h; rfl
  | cons e es ih =>
    intro d k m h
    rw [lvl_cons] at h ⊢
    rw [show d + m + 1 = d + 1 + m by omega, stripDepth_add]
    cases hd : stripDepth (d + 1) e with
    | zero => rw [hd] at h; cases h
    | succ d' => rw [hd] at h; rw [show d' + 1 + m = d' + m + 1 by omega]; exact ih d' k m h

/-- a tracked segment that starts at depth `|cur|` never looks below `cur`: the rest of the
    stack can be exchanged -/
theorem track_lvl : ∀ (l : List Event) (cur st : List Open) (k : Nat) (st' : List Open),
    lvl cur.length l = some k → track (cur ++ st) l = some st' →
    ∃ pre, pre.length = k ∧ st' = pre ++ st ∧ ∀ st2, track (cur ++ st2) l = some (pre ++ st2) := by
  intro l
  induction l with
  | nil =>
    intro cur st k st' hl ht
    simp [lvl] at hl; simp [track] at ht
    exact ⟨cur, hl, ht.symm, fun _ => rfl⟩
  | cons e es ih =>
    intro cur st k st' hl ht
    rcases Event.se_cases e with ⟨t, a, rfl⟩ | ⟨t, rfl⟩ | ⟨hs, he⟩
    · simp only [lvl, isStart, ↓reduceIte] at hl
      exact ih ((t, a) :: cur) st k st' hl ht
    · simp only [lvl, isStart, isEnd, ↓reduceIte] at hl
      cases cur with
      | nil => simp at hl
      | cons o cur =>
        simp only [List.cons_append, track] at ht ⊢
        by_cases h : t = o.1
        · simp only [h, ↓reduceIte] at ht ⊢
          exact ih cur st k st' hl ht
        · simp [h] at ht
    · simp only [lvl, hs, he, Bool.false_eq_true, ↓reduceIte] at hl
      rw [track_other e hs he] at ht
      obtain ⟨pre, h1, h2, h3⟩ := ih cur st k st' hl ht
      exact ⟨pre, h1, h2, fun st2 => by rw [track_other e hs he]; exact h3 st2⟩

theorem neutral_of_closed {l : List Event} {st st' : List Open} (hc : Closed l)
    (ht : track st l = some st') : st' = st ∧ Neutral l := by
  obtain ⟨pre, h1, h2, h3⟩ := track_lvl l [] st 0 st' hc (by simpa using ht)
  have : pre = [] := List.length_eq_zero_iff.mp h1
  subst this
  exact ⟨by simpa using h2, fun st2 => by simpa using h3 st2⟩

theorem track_some_lvl : ∀ (l : List Event) (st st' : List Open), track st l = some st' →
    ∃ k, lvl st.length l = some k ∧ st'.length = k := by
  intro l
  induction l with
  | nil => intro st st' h; cases h; exact ⟨_, rfl, rfl⟩
  | cons e es ih =>
    intro st st' h
    rcases Event.se_cases e with ⟨t, a, rfl⟩ | ⟨t, rfl⟩ | ⟨hs, he⟩
    · exact ih _ _ h
    · obtain ⟨a, st1, rfl, h1⟩ := track_end h
      exact ih _ _ h1
    · rw [track_other e hs he] at h
      obtain ⟨k, h1, h2⟩ := ih _ _ h
      exact ⟨k, by simp only [lvl, hs, he, Bool.false_eq_true, ↓reduceIte]; exact h1, h2⟩

theorem closed_of_neutral {l : List Event} (h : Neutral l) : Closed l := by
  obtain ⟨k, h1, h2⟩ := track_some_lvl l [] [] (h [])
  simp at h2; subst h2; exact h1

/-- Core's well-nestedness (`balance`, tags only) in the terms of this file -/
theorem neutral_of_wellNested {l : List Event} (h : WellNested l) : Neutral l := by
  have ht := (wellNested_iff_track l).mp h
  obtain ⟨k, h1, h2⟩ := track_some_lvl l [] [] ht
  cases h2
  exact (neutral_of_closed h1 ht).2

theorem neutral_flattenList (ns : List Node) (h : okList ns = true) : Neutral (flattenList ns) :=
  neutral_of_wellNested (wellNested_flattenList ns h)

theorem closed_flattenList (ns : List Node) (h : okList ns = true) : Closed (flattenList ns) :=
  closed_of_neutral (neutral_flattenList ns h)

/-- a closed segment does not move the depth -/
theorem lvl_closed_append {a : List Event} (h : Closed a) (d : Nat) (rest : List Event) : lvl d (a ++ rest) = lvl d rest := by
  have := lvl_mono a 0 0 d h
  rw [Nat.zero_add] at this
  rw [lvl_append, this]; rfl

theorem strip_ev (d : Nat) (e : Event) (rest : List (Item σ)) :
    strip (d + 1) (.ev e :: rest) = match stripDepth (d + 1) e with
      | 0 => some ([], e, rest)
      | d' + 1 => (strip (d' + 1) rest).map fun (a, x, b) => (.ev e :: a, x, b) := by
  rcases stripDepth_cases e with ⟨hs, h⟩ | ⟨hs, he, h⟩ | ⟨hs, he, h⟩
  · simp only [strip, hs, h, ↓reduceIte]
  · simp only [strip, hs, he, h, ↓reduceIte, Bool.false_eq_true]; cases d <;> rfl
  · simp only [strip, hs, he, h, ↓reduceIte, Bool.false_eq_true]

/-- what `_strip` returns: the items split at the END that closes the element, the part before it
    being closed relative to the `d` elements opened above the stripped one -/
theorem strip_spec : ∀ (items : List (Item σ)) (d : Nat) (inner : List (Item σ)) (tail : Event)
    (rest' : List (Item σ)), strip (d + 1) items = some (inner, tail, rest') →
    items = inner ++ .ev tail :: rest' ∧ isEnd tail = true ∧ lvl d (evs inner) = some 0 := by
  intro items
  induction items with
  | nil => intro d inner tail rest' h; cases h
  | cons it rest ih =>
    intro d inner tail rest' h
    cases it with
    | reg t =>
      obtain ⟨⟨a, x, b⟩, h1, h2⟩ := Option.map_eq_some_iff.mp h
      cases h2
      obtain ⟨e1, e2, e3⟩ := ih d a _ _ h1
      exact ⟨by rw [e1]; rfl, e2, e3⟩
    | ev e =>
      rw [strip_ev] at h
      cases hd : stripDepth (d + 1) e with
      | zero =>
        rw [hd] at h; cases h
        obtain ⟨he, rfl⟩ := stripDepth_eq_zero hd
        exact ⟨rfl, he, rfl⟩
      | succ d' =>
        rw [hd] at h
        obtain ⟨⟨a, x, b⟩, h1, h2⟩ := Option.map_eq_some_iff.mp h
        cases h2
        obtain ⟨e1, e2, e3⟩ := ih d' a _ _ h1
        exact ⟨by rw [e1]; rfl, e2, by rw [evs_ev, lvl_cons, hd]; exact e3⟩

theorem regs_strip {P : MT σ → Prop} {d : Nat} {rest inner rest' : List (Item σ)} {tail : Event}
    (hst : strip (d + 1) rest = some (inner, tail, rest')) (h : ∀ t, Item.reg t ∈ rest → P t) :
    (∀ t, Item.reg t ∈ inner → P t) ∧ ∀ t, Item.reg t ∈ rest' → P t := by
  obtain ⟨rfl, _, _⟩ := strip_spec rest d inner tail rest' hst
  exact ⟨fun t ht => h t (List.mem_append_left _ ht),
    fun t ht => h t (List.mem_append_right _ (List.mem_cons_of_mem _ ht))⟩

/-- a tracked stream that starts with a START: `_strip` cuts it into a neutral content, the END of the same tag, and
    a rest tracked from the stack as it was before the START -/
theorem track_elem {tg : QName} {at_ : AttrList} {rest inner rest' : List (Item σ)} {tail : Event} {stk stk' : List Open}
    (hst : strip 1 rest = some (inner, tail, rest')) (htr : track stk (.start tg at_ :: evs rest) = some stk') :
    rest = inner ++ .ev tail :: rest' ∧ tail = .end_ tg ∧ Neutral (evs inner) ∧ track stk (evs rest') = some stk' := by
  obtain ⟨hrest, htail, hcl⟩ := strip_spec rest 0 inner tail rest' hst
  simp only [track] at htr
  rw [hrest, evs_append, evs_ev, track_append] at htr
  cases hti : track ((tg, at_) :: stk) (evs inner) with
  | none => simp [hti] at htr
  | some s1 =>
    obtain ⟨rfl, hneu⟩ := neutral_of_closed hcl hti
    simp only [hti, Option.bind_some] at htr
    obtain ⟨tt, rfl⟩ := isEnd_eq_end htail
    obtain ⟨_, _, hst, htr1⟩ := track_end htr
    cases hst
    exact ⟨hrest, rfl, hneu, htr1⟩

theorem strip_of_closed : ∀ (inner : List (Item σ)) (d : Nat) (tail : Event) (rest' : List (Item σ)),
    lvl d (evs inner) = some 0 → isStart tail = false → isEnd tail = true →
    strip (d + 1) (inner ++ .ev tail :: rest') = some (inner, tail, rest') := by
  intro inner
  induction inner with
  | nil =>
    intro d tail rest' h hs he
    cases h
    rw [List.nil_append, strip_ev, stripDepth, hs, he]; rfl
  | cons it rest ih =>
    intro d tail rest' h hs he
    cases it with
    | reg t => rw [List.cons_append, strip, ih d tail rest' h hs he]; rfl
    | ev e =>
      rw [evs_ev, lvl_cons] at h
      rw [List.cons_append, strip_ev]
      cases hd : stripDepth (d + 1) e with
      | zero => rw [hd] at h; cases h
      | succ d' => rw [hd] at h; simp only []; rw [ih d' tail rest' h hs he]; rfl

/-- `selM` is the select machine `selStep` run over the events -/
theorem selM_cons (s : Sel) (d c : Nat) (e : Event) (es : List Event) :
    selM s d c (e :: es) = (selStep s d c e).2.toList ++ selM s (selStep s d c e).1.1 (selStep s d c e).1.2 es := by
  cases c with
  | zero =>
    rw [selM]; unfold selStep
    by_cases hs : isStart e = true
    · simp only [hs, ↓reduceIte]; split <;> rfl
    · simp only [hs, Bool.false_eq_true, ↓reduceIte]
      by_cases he : isEnd e = true
      · simp only [he, ↓reduceIte]; rfl
      · simp only [he, Bool.false_eq_true, ↓reduceIte]; split <;> rfl
  | succ c =>
    rw [selM]; unfold selStep
    by_cases hs : isStart e = true
    · simp only [hs, ↓reduceIte]; rfl
    · simp only [hs, Bool.false_eq_true, ↓reduceIte]
      by_cases he : isEnd e = true
      · simp only [he, ↓reduceIte]; rfl
      · simp only [he, Bool.false_eq_true, ↓reduceIte]; rfl

/-- inside a selected subtree every event is copied; both counters move with the nesting -/
theorem selStep_copy (s : Sel) (d c : Nat) (e : Event) :
    selStep s d (c + 1) e = ((stripDepth d e, stripDepth (c + 1) e), some e) := by
  rcases stripDepth_cases e with ⟨hs, h⟩ | ⟨hs, he, h⟩ | ⟨hs, he, h⟩
  · simp only [selStep, hs, h, ↓reduceIte]
  · simp only [selStep, hs, he, h, ↓reduceIte, Bool.false_eq_true]; rfl
  · simp only [selStep, hs, he, h, ↓reduceIte, Bool.false_eq_true]

/-- away from the depth the step looks at nothing is selected -/
theorem selStep_miss {s : Sel} {d : Nat} (hd : d ≠ s.depth) (e : Event) : selStep s d 0 e = ((stripDepth d e, 0), none) := by
  have hq : ¬ (d = s.depth ∧ s.nodeTest e = true) := fun h => hd h.1
  rcases stripDepth_cases e with ⟨hs, h⟩ | ⟨hs, he, h⟩ | ⟨hs, he, h⟩
  · simp only [selStep, hs, h, ↓reduceIte, if_neg hq]
  · simp only [selStep, hs, he, h, ↓reduceIte, Bool.false_eq_true]
  · simp only [selStep, hs, he, h, ↓reduceIte, Bool.false_eq_true, if_neg hq]

theorem selM_other {s : Sel} {e : Event} (hs : isStart e = false) (he : isEnd e = false) (d c : Nat) (es : List Event) :
    selM s d c (e :: es) =
      if c = 0 ∧ ¬ (d = s.depth ∧ s.nodeTest e = true) then selM s d c es else e :: selM s d c es := by
  cases c with
  | zero => simp only [selM, hs, he, Bool.false_eq_true, ↓reduceIte, true_and]; split <;> simp_all
  | succ c => simp [selM, hs, he]

/-- the output of the select machine is tracked by the copy part of the input's stack -/
theorem selM_track (s : Sel) : ∀ (es : List Event) (d c : Nat) (cop rin sin' : List Open),
    cop.length = c → track (cop ++ rin) es = some sin' →
    ∃ cop' rin', sin' = cop' ++ rin' ∧ ∀ rout, track (cop ++ rout) (selM s d c es) = some (cop' ++ rout) := by
  intro es
  induction es with
  | nil =>
    intro d c cop rin sin' _ h
    simp [track] at h
    exact ⟨cop, rin, h.symm, fun rout => by simp [selM, track]⟩
  | cons e es ih =>
    intro d c cop rin sin' hc h
    rcases Event.se_cases e with ⟨t, a, rfl⟩ | ⟨t, rfl⟩ | ⟨hs, he⟩
    · simp only [track] at h
      cases c with
      | zero =>
        obtain rfl : cop = [] := List.length_eq_zero_iff.mp hc
        simp only [selM, isStart, ↓reduceIte]
        by_cases hsel : d = s.depth ∧ s.nodeTest (.start t a) = true
        · rw [if_pos hsel]
          -- a selected START: the copy loop begins
          obtain ⟨cop', rin', h1, h2⟩ := ih (d + 1) 1 [(t, a)] rin sin' rfl h
          exact ⟨cop', rin', h1, fun rout => by simp only [track]; exact h2 rout⟩
        · rw [if_neg hsel]
          exact ih (d + 1) 0 [] ((t, a) :: rin) sin' rfl h
      | succ c =>
        simp only [selM, isStart, ↓reduceIte]
        obtain ⟨cop', rin', h1, h2⟩ := ih (d + 1) (c + 2) ((t, a) :: cop) rin sin' (by simp [hc]) h
        exact ⟨cop', rin', h1, fun rout => by simp only [track]; exact h2 rout⟩
    · cases c with
      | zero =>
        obtain rfl : cop = [] := List.length_eq_zero_iff.mp hc
        cases rin with
        | nil => simp [track] at h
        | cons o rin =>
          simp only [List.nil_append, track] at h
          by_cases ht : t = o.1
          · simp only [ht, ↓reduceIte] at h
            simp only [selM, isStart, isEnd, Bool.false_eq_true, ↓reduceIte]
            exact ih (d - 1) 0 [] rin sin' rfl h
          · simp [ht] at h
      | succ c =>
        cases cop with
        | nil => simp at hc
        | cons o cop =>
          simp only [List.cons_append, track] at h
          by_cases ht : t = o.1
          · simp only [ht, ↓reduceIte] at h
            simp only [selM, isStart, isEnd, Bool.false_eq_true, ↓reduceIte]
            obtain ⟨cop', rin', h1, h2⟩ := ih (d - 1) c cop rin sin' (by simpa using hc) h
            exact ⟨cop', rin', h1, fun rout => by simp only [List.cons_append, track, ht, ↓reduceIte]; exact h2 rout⟩
          · simp [ht] at h
    · rw [track_other e hs he] at h
      obtain ⟨cop', rin', h1, h2⟩ := ih d c cop rin sin' hc h
      refine ⟨cop', rin', h1, fun rout => ?_⟩
      rw [selM_other hs he]
      split
      · exact h2 rout
      · rw [track_other e hs he]; exact h2 rout

/-- **select keeps nesting**: whatever `select(p)` extracts from a neutral content is neutral -/
theorem select_neutral (s : Sel) {content : List Event} (h : Neutral content) : Neutral (select s content) := by
  obtain ⟨cop', rin', h1, h2⟩ := selM_track s content 0 0 [] [] [] rfl (by simpa using h [])
  have : cop' = [] := by
    have := congrArg List.length h1
    simp at this
    exact List.length_eq_zero_iff.mp (by omega)
  subst this
  intro st
  simpa [select] using h2 st

/-- nesting of a body with every `${select(…)}` counted as neutral -/
def trackB : List Open → List BItem → Option (List Open)
  | st, [] => some st
  | st, .sel _ :: bs => trackB st bs
  | st, .ev e :: bs => (track st [e]).bind fun s => trackB s bs

/-- a body that is well nested on its own (it comes out of the XML parser) -/
def BodyOK (body : List BItem) : Prop := ∀ st, trackB st body = some st

theorem instantiate_ev (e : Event) (bs : List BItem) (content : List Event) :
    instantiate (.ev e :: bs) content = e :: instantiate bs content := rfl

theorem instantiate_sel (s : Sel) (bs : List BItem) (content : List Event) :
    instantiate (.sel s :: bs) content = select s content ++ instantiate bs content := rfl

theorem instantiate_track {content : List Event} (hc : Neutral content) :
    ∀ (body : List BItem) (st st' : List Open), trackB st body = some st' →
      track st (instantiate body content) = some st' := by
  intro body
  induction body with
  | nil => intro st st' h; exact h
  | cons b bs ih =>
    intro st st' h
    cases b with
    | sel s => rw [instantiate_sel, track_append, select_neutral s hc st]; exact ih st st' h
    | ev e =>
      rw [instantiate_ev, ← List.singleton_append, track_append]
      rw [trackB] at h
      cases h1 : track st [e] with
      | none => rw [h1] at h; cases h
      | some s1 => rw [h1] at h; exact ih s1 st' h

theorem instantiate_neutral {body : List BItem} {content : List Event} (hb : BodyOK body)
    (hc : Neutral content) : Neutral (instantiate body content) :=
  fun st => instantiate_track hc body st st (hb st)

end Genshi.Match
