/-
  Setting once="true" on a template that fires at most once does not change the output: a simulation between
  the run without the hint and the run with it (`run_once_pw`, behind `once_hint_irrelevant` of Props/C12.lean).
-/
import Genshi.Lemmas.MatchRun
namespace Genshi.Match
open Genshi
variable {σ : Type}

def onceAt (t : MT σ) : MT σ := { t with once := true }

/-- the ghost counter of slot `i`: how often its template has fired -/
def hitsAt (i : Nat) (m : List (MT σ)) : Nat :=
  match m[i]? with
  | some t => t.hits
  | none => 0

/-- slot-wise relation between the template list of the run without the hint (left) and with it
    (right): equal off slot `i`; at slot `i` the left template is live and without the hint, the right
    one is the same with the hint (`b = false`: has not fired yet) or retired (`b = true`: has fired) -/
def Q (i : Nat) (b : Bool) (j : Nat) (t t' : MT σ) : Prop :=
  if j = i then
    t.once = false ∧ t.retired = false ∧ (if b then t'.retired = true else t' = onceAt t)
  else t' = t

/-- `R (k + p)` relates the slots `p` of the two lists: `Pw` as an inductive relation, positions counted from `k`
    (`prel_iff_pw`) -/
inductive PRel (R : Nat → MT σ → MT σ → Prop) : Nat → List (MT σ) → List (MT σ) → Prop
  | nil (k : Nat) : PRel R k [] []
  | cons {k : Nat} {t t' : MT σ} {ts ts' : List (MT σ)} : R k t t' → PRel R (k + 1) ts ts' → PRel R k (t :: ts) (t' :: ts')

theorem PRel.length {R : Nat → MT σ → MT σ → Prop} {k : Nat} {a b : List (MT σ)} (h : PRel R k a b) :
    b.length = a.length := by
  induction h with
  | nil => rfl
  | cons _ _ ih => simp [ih]

theorem PRel.append {R : Nat → MT σ → MT σ → Prop} {k : Nat} {a b : List (MT σ)} (h : PRel R k a b)
    {c d : List (MT σ)} (h2 : PRel R (k + a.length) c d) : PRel R k (a ++ c) (b ++ d) := by
  induction h with
  | nil => simpa using h2
  | @cons k x x' xs xs' hr _ ih =>
    simp only [List.cons_append]
    refine PRel.cons hr (ih ?_)
    simp only [List.length_cons] at h2
    rw [show k + 1 + xs.length = k + (xs.length + 1) by omega]; exact h2

theorem test_onceAt (t : MT σ) (e : Event) (u : Bool) :
    (onceAt t).test e u = (onceAt (t.test e u).1, (t.test e u).2) := by
  unfold MT.test onceAt
  by_cases h : t.retired = true <;> simp [h]

theorem test_once_flags (t : MT σ) (e : Event) (u : Bool) :
    (t.test e u).1.once = t.once ∧ (t.test e u).1.retired = t.retired := by
  unfold MT.test; split <;> simp_all

theorem q_test (i : Nat) (b : Bool) (j : Nat) (t t' : MT σ) (e : Event) (u : Bool) (h : Q i b j t t') :
    Q i b j (t.test e u).1 (t'.test e u).1 := by
  unfold Q at *
  by_cases hj : j = i
  · simp only [hj, ↓reduceIte] at h ⊢
    obtain ⟨h1, h2, h3⟩ := h
    have hf := test_once_flags t e u
    refine ⟨by rw [hf.1, h1], by rw [hf.2, h2], ?_⟩
    cases b with
    | true =>
      simp only [↓reduceIte] at h3 ⊢
      rw [test_retired h3]; exact h3
    | false =>
      simp only [Bool.false_eq_true, ↓reduceIte] at h3 ⊢
      rw [h3, test_onceAt]
  · simp only [hj, ↓reduceIte] at h ⊢
    rw [h]

theorem q_test_left (i : Nat) (t t' : MT σ) (e : Event) (u : Bool) (h : Q i true i t t') :
    Q i true i (t.test e u).1 t' := by
  unfold Q at *
  simp only [↓reduceIte] at h ⊢
  have hf := test_once_flags t e u
  exact ⟨by rw [hf.1, h.1], by rw [hf.2, h.2.1], h.2.2⟩

theorem q_fire_eq (i : Nat) (j : Nat) (t t' : MT σ) (e : Event) (h : Q i false j t t') :
    (t'.test e false).2 = (t.test e false).2 := by
  unfold Q at h
  by_cases hj : j = i
  · simp only [hj, ↓reduceIte, Bool.false_eq_true] at h
    rw [h.2.2, test_onceAt]
  · simp only [hj, ↓reduceIte] at h; rw [h]

theorem q_hits (i : Nat) (b : Bool) (j : Nat) (t t' : MT σ) (h : Q i b j t t') :
    Q i b j { t with hits := t.hits + 1 } { t' with hits := t'.hits + 1 } := by
  unfold Q at *
  by_cases hj : j = i
  · simp only [hj, ↓reduceIte] at h ⊢
    refine ⟨h.1, h.2.1, ?_⟩
    cases b with
    | true => simpa using h.2.2
    | false =>
      simp only [Bool.false_eq_true, ↓reduceIte] at h ⊢
      rw [h.2.2]; rfl
  · simp only [hj, ↓reduceIte] at h ⊢
    rw [h]

/-- the right slot of a fired template is retired: its tests change nothing and decline -/
theorem q_retired {i : Nat} {t t' : MT σ} (h : Q i true i t t') (e : Event) (u : Bool) : t'.test e u = (t', false) := by
  unfold Q at h; simp only [↓reduceIte] at h; exact test_retired h.2.2 e u

theorem q_off {i j : Nat} {b : Bool} {t t' : MT σ} (hj : j ≠ i) : Q i b j t t' ↔ t' = t := by
  unfold Q; rw [if_neg hj]

/-- the one slot where the two runs may differ: that of the hinted template, once it has fired -/
theorem at_fired {b : Bool} {i j : Nat} (hk : ¬ (b = false ∨ j ≠ i)) : b = true ∧ j = i := by
  cases b
  · exact absurd (Or.inl rfl) hk
  · exact ⟨rfl, Decidable.of_not_not fun h => hk (Or.inr h)⟩

/-- testing the slots picked by `c` on the left and `c'` on the right, which agree except perhaps at the slot of
    the fired template -/
theorem q_test_if {i j : Nat} {b : Bool} {t t' : MT σ} (h : Q i b j t t') (e : Event) (u : Bool) {c c' : Prop}
    [Decidable c] [Decidable c'] (hc : b = false ∨ j ≠ i → (c' ↔ c)) :
    Q i b j (if c then (t.test e u).1 else t) (if c' then (t'.test e u).1 else t') := by
  by_cases hk : b = false ∨ j ≠ i
  · by_cases h0 : c
    · rw [if_pos h0, if_pos ((hc hk).mpr h0)]; exact q_test i b j t t' e u h
    · rw [if_neg h0, if_neg fun h1 => h0 ((hc hk).mp h1)]; exact h
  · obtain ⟨rfl, rfl⟩ := at_fired hk
    have : (if c' then (t'.test e u).1 else t') = t' := by split <;> simp [q_retired h]
    rw [this]
    split
    · exact q_test_left j t t' e u h
    · exact h

theorem prel_iff_pw {R : Nat → MT σ → MT σ → Prop} {k : Nat} {a b : List (MT σ)} :
    PRel R k a b ↔ Pw (fun p => R (k + p)) a b := by
  constructor
  · intro h
    induction h with
    | nil => exact pw_nil
    | cons hr _ ih => exact pw_cons_iff.mpr ⟨hr, by simpa only [Nat.add_assoc, Nat.add_comm 1] using ih⟩
  · intro h
    induction a generalizing k b with
    | nil =>
      cases b with
      | nil => exact .nil k
      | cons y b => exact nomatch h.1
    | cons x a ih =>
      cases b with
      | nil => exact nomatch h.1
      | cons y b =>
        exact .cons (pw_cons_iff.mp h).1 (ih (by simpa only [Nat.add_assoc, Nat.add_comm 1] using (pw_cons_iff.mp h).2))

theorem hitsAt_of_get {i : Nat} {m m' : List (MT σ)} {g : MT σ → MT σ} (hg : m'[i]? = (m[i]?).map g)
    (hh : ∀ t, (g t).hits = t.hits) : hitsAt i m' = hitsAt i m := by
  unfold hitsAt
  rw [hg]
  cases m[i]? with
  | none => rfl
  | some t => exact hh t

theorem hits_ite {t a b : MT σ} {c : Prop} [Decidable c] (ha : a.hits = t.hits) (hb : b.hits = t.hits) :
    (if c then a else b).hits = t.hits := by
  split <;> assumption

theorem hitsAt_scanEnd (i : Nat) (e : Event) (s : Nat) (en : Option Nat) (m : List (MT σ)) :
    hitsAt i (scanEnd e s en 0 m) = hitsAt i m :=
  hitsAt_of_get (scanEnd_get e s en 0 m i) fun t => hits_ite (test_hits t e false) rfl

theorem hitsAt_updRange (i : Nat) (e : Event) (lo hi : Nat) (m : List (MT σ)) :
    hitsAt i (updRange e lo hi 0 m) = hitsAt i m :=
  hitsAt_of_get (updRange_get e lo hi 0 m i) fun t => hits_ite (test_hits t e true) rfl

theorem hitsAt_fired (i : Nat) (t : MT σ) (idx : Nat) (m : List (MT σ)) :
    hitsAt i (fired t idx m) = hitsAt i m :=
  hitsAt_of_get (fired_get t idx m i) fun _ => hits_ite rfl rfl

theorem hitsAt_append (i : Nat) (m : List (MT σ)) (t : MT σ) (h : i < m.length) :
    hitsAt i (m ++ [t]) = hitsAt i m := by
  unfold hitsAt
  rw [List.getElem?_append_left h]

theorem hitsAt_scan_none (i : Nat) (e : Event) (s : Nat) (en : Option Nat) (m m1 : List (MT σ))
    (h : scan e s en 0 m = (m1, none)) : hitsAt i m1 = hitsAt i m :=
  hitsAt_of_get (g := fun t => if inWindow s en i then (t.test e false).1 else t)
    (by rw [scan_get_eq h i]; congr 1; funext t; exact scanAt_none e s en i t) fun t => hits_ite (test_hits t e false) rfl

theorem hitsAt_scan_some (i : Nat) (e : Event) (s : Nat) (en : Option Nat) (m m1 : List (MT σ)) (idx : Nat)
    (h : scan e s en 0 m = (m1, some idx)) (hi : i < m.length) :
    hitsAt i m1 = hitsAt i m + (if idx = i then 1 else 0) := by
  have hw := (scan_first e s en m idx (by rw [h])).1
  have := scan_get_eq h i
  rw [List.getElem?_eq_getElem hi, Option.map_some, scanAt_some] at this
  unfold hitsAt
  rw [this, List.getElem?_eq_getElem hi]
  by_cases hidx : idx = i
  · subst hidx; simp [hw, test_hits]
  · have hne : ¬ i = idx := fun h' => hidx h'.symm
    simp only [hidx, hne, ↓reduceIte, Nat.add_zero]
    split <;> simp [test_hits]

theorem run_hits_mono (i : Nat) : ∀ (f start : Nat) (end_ : Option Nat) (items : List (Item σ))
    (mts : List (MT σ)) (r : List (MT σ) × List Event), i < mts.length →
    run f start end_ items mts = some r → hitsAt i mts ≤ hitsAt i r.1 := by
  intro f s en items m r hi h
  replace h := ran_iff.mp h
  induction h with
  | nil => exact Nat.le_refl _
  | reg _ ih => rw [← hitsAt_append i _ _ hi]; exact ih (by simp; omega)
  | pass _ hsc _ ih => rw [← hitsAt_scan_none i _ _ _ _ _ hsc]; exact ih (scan_length_eq hsc ▸ hi)
  | fire _ hsc _ _ h3 h4 _ ih3 ih4 ih5 =>
    have I1 : i < _ := scan_length_eq hsc ▸ hi
    have l3 := run_length _ _ _ _ _ _ (ran_iff.mpr h3)
    have l4 := run_length _ _ _ _ _ _ (ran_iff.mpr h4)
    rw [fired_length] at l3
    have e1 := hitsAt_scan_some i _ _ _ _ _ _ hsc hi
    have e3 := ih3 (by rw [fired_length]; exact I1)
    have e4 := ih4 (Nat.lt_of_lt_of_le I1 l3)
    have e5 := ih5 (by rw [updRange_length]; exact Nat.lt_of_lt_of_le I1 (Nat.le_trans l3 l4))
    rw [hitsAt_fired] at e3
    rw [hitsAt_updRange] at e5
    exact Nat.le_trans (by omega) (Nat.le_trans e3 (Nat.le_trans e4 e5))
  | close _ _ ih => rw [← hitsAt_scanEnd i]; exact ih (by rw [scanEnd_length]; exact hi)
  | other _ _ _ ih => exact ih hi

/-- the two scans of the simulation: the windows agree except perhaps at the slot of the fired template, where the
    right side is retired and the left side must not fire again -/
theorem scan_rel (i : Nat) (b : Bool) (e : Event) (s : Nat) (en en' : Option Nat) (a c : List (MT σ))
    (h : Pw (Q i b) a c) (hw : ∀ j, (b = false ∨ j ≠ i) → inWindow s en' j = inWindow s en j)
    (hne : b = true → (scan e s en 0 a).2 ≠ some i) :
    (scan e s en' 0 c).2 = (scan e s en 0 a).2 ∧ Pw (Q i b) (scan e s en 0 a).1 (scan e s en' 0 c).1 := by
  have hhit : (scan e s en' 0 c).2 = (scan e s en 0 a).2 := scan_hit_congr h.1 fun j x y hx hy hle => by
    have hq := h.2 j x y hx hy
    by_cases hk : b = false ∨ j ≠ i
    · rw [hw j hk]
      rcases hk with rfl | hj
      · rw [q_fire_eq i j x y e hq]
      · rw [(q_off hj).mp hq]
    · obtain ⟨rfl, rfl⟩ := at_fired hk
      rw [q_retired hq, Bool.and_false]
      -- were the left slot to accept, the scan would stop at it
      cases hv : (inWindow s en j && (x.test e false).2) with
      | false => rfl
      | true =>
        simp only [Bool.and_eq_true] at hv
        obtain ⟨idx, hidx, hle'⟩ := scan_hit_le hx hv.1 hv.2
        exact absurd (by rw [hidx, Nat.le_antisymm hle' (hle idx hidx)]) (hne rfl)
  refine ⟨hhit, h.scan hhit fun j x y hq => ?_⟩
  by_cases hk : b = false ∨ j ≠ i
  · unfold scanAt
    rw [hw j hk]
    split
    · split
      · exact q_hits i b j _ _ (q_test i b j x y e false hq)
      · exact q_test i b j x y e false hq
    · exact hq
  · obtain ⟨rfl, rfl⟩ := at_fired hk
    have hy : scanAt e s en' (scan e s en 0 a).2 j y = y := by
      unfold scanAt; rw [if_neg (hne rfl), q_retired hq]; split <;> rfl
    rw [hy]
    unfold scanAt
    rw [if_neg (hne rfl)]
    split
    · exact q_test_left j x y e false hq
    · exact hq

/-- how the pair (has the hinted template fired, its ghost counter) moves along a run in which the template
    fires at most once more: not at all, or from "not yet" to "fired" with one more hit -/
def Adv (b b' : Bool) (x x' : Nat) : Prop := (b' = b ∧ x' = x) ∨ (b = false ∧ b' = true ∧ x' = x + 1)

theorem Adv.trans {b b' b'' : Bool} {x x' x'' : Nat} (h1 : Adv b b' x x') (h2 : Adv b' b'' x' x'') : Adv b b'' x x'' := by
  rcases h1 with ⟨rfl, rfl⟩ | ⟨rfl, rfl, rfl⟩
  · exact h2
  · rcases h2 with ⟨rfl, rfl⟩ | ⟨h, _⟩
    · exact Or.inr ⟨rfl, rfl, rfl⟩
    · cases h

theorem Adv.budget {b b' : Bool} {x x' y : Nat} (h : Adv b b' x x') (hy : y ≤ x + (if b then 0 else 1)) :
    y ≤ x' + (if b' then 0 else 1) := by
  rcases h with ⟨rfl, rfl⟩ | ⟨rfl, rfl, rfl⟩
  · exact hy
  · simpa using hy

theorem Adv.unfired {b b' : Bool} {x x' : Nat} (h : Adv b b' x x') (hb : b' = false) : b = false := by
  rcases h with ⟨rfl, _⟩ | ⟨h, _⟩
  · exact hb
  · exact h

theorem Adv.fired {b' : Bool} {x x' : Nat} (h : Adv true b' x x') : b' = true ∧ x' = x := by
  rcases h with h | ⟨h, _⟩
  · exact h
  · cases h

theorem prel_zero_iff {R : Nat → MT σ → MT σ → Prop} {a b : List (MT σ)} : PRel R 0 a b ↔ Pw R a b := by
  simpa only [Nat.zero_add] using prel_iff_pw (R := R) (k := 0) (a := a) (b := b)

/-- **The simulation** between the run without `once` on slot `i` (left) and with it (right).
    `b` says whether the hinted template has already fired (then the right slot is retired and the
    left one must not fire again; the windows may differ at slot `i`). -/
theorem run_once_pw (i : Nat) : ∀ (f s : Nat) (en en' : Option Nat) (items : List (Item σ)) (a c : List (MT σ))
    (r : List (MT σ) × List Event) (b : Bool),
    Pw (Q i b) a c → i < a.length →
    (∀ j, (b = false ∨ j ≠ i) → inWindow s en' j = inWindow s en j) →
    run f s en items a = some r →
    hitsAt i r.1 ≤ hitsAt i a + (if b then 0 else 1) →
    ∃ c' b', run f s en' items c = some (c', r.2) ∧ Pw (Q i b') r.1 c' ∧ Adv b b' (hitsAt i a) (hitsAt i r.1) := by
  intro f s en en' items a c r b hrel hi hw h hbud
  replace h := ran_iff.mp h
  induction h generalizing c b en' with
  | nil => exact ⟨c, b, rfl, hrel, Or.inl ⟨rfl, rfl⟩⟩
  | @reg _ _ _ t _ a _ _ ih =>
    simp only [run]
    rw [← hitsAt_append i a t hi] at hbud ⊢
    exact ih en' (c ++ [t]) b (hrel.snoc ((q_off (Nat.ne_of_gt hi)).mpr rfl)) (by simp; omega) hw hbud
  | @pass _ s en e _ a a1 _ hS hsc _ ih =>
    have hh1 := hitsAt_scan_none i e s en a a1 hsc
    obtain ⟨hs1, hs2⟩ := scan_rel i b e s en en' a c hrel hw (by intro _; rw [hsc]; simp)
    rcases hsc' : scan e s en' 0 c with ⟨c1, hit'⟩
    rw [hsc, hsc'] at hs1 hs2
    simp only at hs1 hs2
    subst hs1
    rw [← hh1] at hbud ⊢
    obtain ⟨c', b', hr1, hr2, hr3⟩ := ih en' c1 b hs2 (scan_length_eq hsc ▸ hi) hw hbud
    exact ⟨c', b', run_pass hS hsc' hr1, hr2, hr3⟩
  | @fire _ s en e _ a a1 idx t inner tail rest' a3 innerOut a4 out p hS hsc ht hst h3 h4 h5 ih3 ih4 ih5 =>
    replace h3 := ran_iff.mpr h3
    replace h4 := ran_iff.mpr h4
    replace h5 := ran_iff.mpr h5
    have hh1 := hitsAt_scan_some i e s en a a1 idx hsc hi
    have I1 : i < a1.length := by rw [scan_length_eq hsc]; exact hi
    have I2 : i < (fired t idx a1).length := by rw [fired_length]; exact I1
    have I3 : i < a3.length := Nat.lt_of_lt_of_le I2 (run_length _ _ _ _ _ _ h3)
    have I4 : i < a4.length := Nat.lt_of_lt_of_le I3 (run_length _ _ _ _ _ _ h4)
    have I5 : i < (updRange tail s (idx + 1) 0 a4).length := by rw [updRange_length]; exact I4
    -- the counter of slot `i` along the three parts of the run, and its bound
    have m4 := run_hits_mono i _ _ _ _ _ _ I3 h4
    have m5 := run_hits_mono i _ _ _ _ _ _ I5 h5
    rw [hitsAt_updRange] at m5
    have hbud4 : hitsAt i a4 ≤ hitsAt i a + (if b then 0 else 1) := Nat.le_trans m5 hbud
    have hbud3 : hitsAt i a3 ≤ hitsAt i a + (if b then 0 else 1) := Nat.le_trans m4 hbud4
    obtain ⟨hwin_idx, _, _⟩ := scan_first e s en a idx (by rw [hsc])
    have hs_le : s ≤ idx := inWindow_ge hwin_idx
    have hne : b = true → (scan e s en 0 a).2 ≠ some i := by
      rintro rfl
      rw [hsc]; simp only [ne_eq, Option.some.injEq]
      intro hidx
      have m3 := run_hits_mono i _ _ _ _ _ _ I2 h3
      rw [hitsAt_fired] at m3
      simp only [hidx, ↓reduceIte, Nat.add_zero] at hbud3 hh1 m3
      exact absurd (Nat.le_trans m3 hbud3) (by rw [hh1]; exact Nat.not_succ_le_self _)
    obtain ⟨hs1, hs2⟩ := scan_rel i b e s en en' a c hrel hw hne
    rcases hsc' : scan e s en' 0 c with ⟨c1, hit'⟩
    rw [hsc, hsc'] at hs1 hs2
    simp only at hs1 hs2
    subst hs1
    obtain ⟨t', ht', hq⟩ := hs2.left ht
    -- the `updateonly` END: the same slots on both sides
    have hupd : ∀ {b' : Bool} {x y : List (MT σ)}, Pw (Q i b') x y →
        Pw (Q i b') (updRange tail s (idx + 1) 0 x) (updRange tail s (idx + 1) 0 y) :=
      fun h => h.updRange tail s s (idx + 1) (idx + 1) fun j _ _ hq => q_test_if hq tail true fun _ => Iff.rfl
    -- what the firing does to the pair (has the hinted template fired, its counter), to the relation and to the
    -- window of the content; the three parts of the run then go the same way in both cases
    obtain ⟨b1, hbody, hd1, hrel2, hwin3⟩ : ∃ b1, t'.body = t.body ∧ Adv b b1 (hitsAt i a) (hitsAt i a1) ∧
        Pw (Q i b1) (fired t idx a1) (fired t' idx c1) ∧
        ∀ j, (b1 = false ∨ j ≠ i) → inWindow s (some (preEnd t' idx)) j = inWindow s (some (preEnd t idx)) j := by
      by_cases hidx : idx = i
      · -- the hinted template itself fires: `b` must be false; from here on the right slot is retired
        subst hidx
        obtain rfl : b = false := by
          cases b with
          | false => rfl
          | true => exact absurd (by rw [hsc]) (hne rfl)
        simp only [Q, ↓reduceIte, Bool.false_eq_true] at hq
        obtain ⟨hto, htr, rfl⟩ := hq
        refine ⟨true, rfl, Or.inr ⟨rfl, rfl, by simpa using hh1⟩, ?_, ?_⟩
        · exact hs2.fired t (onceAt t) idx idx fun j x y hq => by
            by_cases hj : j = idx
            · subst hj
              simp only [hto, Bool.false_eq_true, and_false, ↓reduceIte, onceAt, and_self]
              simp only [Q, ↓reduceIte, Bool.false_eq_true] at hq ⊢
              exact ⟨hq.1, hq.2.1, rfl⟩
            · simp only [hj, false_and, ↓reduceIte]
              exact (q_off hj).mpr ((q_off hj).mp hq)
        · -- the windows of the content differ at most at slot `idx`
          have hpe' : preEnd (onceAt t) idx = idx + 1 := by simp [preEnd, onceAt]
          have hpe := preEnd_le t idx
          rintro j (hj | hj)
          · cases hj
          · rw [hpe']; unfold inWindow
            congr 1
            apply decide_eq_decide.mpr
            omega
      · obtain rfl : t = t' := ((q_off hidx).mp hq).symm
        refine ⟨b, rfl, Or.inl ⟨rfl, by simpa [hidx] using hh1⟩, ?_, fun _ _ => rfl⟩
        exact hs2.fired t t idx idx fun j x y hq => by
          by_cases hc : j = idx ∧ t.once = true
          · rw [if_pos hc, if_pos hc]
            have hj : j ≠ i := fun h => hidx (hc.1.symm.trans h)
            exact (q_off hj).mpr (by rw [(q_off hj).mp hq])
          · rw [if_neg hc, if_neg hc]; exact hq
    obtain ⟨c3, b3, hr3, hrel3, hd3⟩ := ih3 (some (preEnd t' idx)) _ b1 hrel2 I2 hwin3
      (by rw [hitsAt_fired]; exact hd1.budget hbud3)
    rw [hitsAt_fired] at hd3
    replace hd3 := hd1.trans hd3
    obtain ⟨c4, b4, hr4, hrel4, hd4⟩ := ih4 en' c3 b3 hrel3 I3
      (fun j hj => inWindow_succ_of hs_le (hw j (hj.imp_left hd3.unfired))) (hd3.budget hbud4)
    replace hd4 := hd3.trans hd4
    obtain ⟨c6, b6, hr6, hrel6, hd6⟩ := ih5 en' _ b4 (hupd hrel4) I5
      (fun j hj => hw j (hj.imp_left hd4.unfired)) (by rw [hitsAt_updRange]; exact hd4.budget hbud)
    rw [hitsAt_updRange] at hd6
    exact ⟨c6, b6, run_fired hS hsc' ht' hst hr3 (hbody ▸ hr4) hr6, hrel6, hd4.trans hd6⟩
  | @close _ s en e _ a _ hE _ ih =>
    have hrel1 : Pw (Q i b) (scanEnd e s en 0 a) (scanEnd e s en' 0 c) :=
      hrel.scanEnd e s s en en' fun j _ _ hq => q_test_if hq e false fun hk => by rw [hw j hk]
    rw [← hitsAt_scanEnd i e s en a] at hbud ⊢
    obtain ⟨c', b', hr1, hr2, hr3⟩ := ih en' _ b hrel1 (by rw [scanEnd_length]; exact hi) hw hbud
    exact ⟨c', b', run_close hE hr1, hr2, hr3⟩
  | other hS hE _ ih =>
    obtain ⟨c', b', hr1, hr2, hr3⟩ := ih en' c b hrel hi hw hbud
    exact ⟨c', b', run_skip hS hE hr1, hr2, hr3⟩

/-- `run_once_pw` with `PRel` and `Adv` written out -/
theorem run_once (i : Nat) : ∀ (f s : Nat) (en en' : Option Nat) (items : List (Item σ)) (a c : List (MT σ))
    (r : List (MT σ) × List Event) (b : Bool),
    PRel (Q i b) 0 a c → i < a.length →
    (∀ j, (b = false ∨ j ≠ i) → inWindow s en' j = inWindow s en j) →
    run f s en items a = some r →
    hitsAt i r.1 ≤ hitsAt i a + (if b then 0 else 1) →
    ∃ c' b', run f s en' items c = some (c', r.2) ∧ PRel (Q i b') 0 r.1 c' ∧
      ((b' = b ∧ hitsAt i r.1 = hitsAt i a) ∨ (b = false ∧ b' = true ∧ hitsAt i r.1 = hitsAt i a + 1)) := by
  intro f s en en' items a c r b hrel hi hw h hbud
  obtain ⟨c', b', h1, h2, h3⟩ := run_once_pw i f s en en' items a c r b (prel_zero_iff.mp hrel) hi hw h hbud
  exact ⟨c', b', h1, prel_zero_iff.mpr h2, h3⟩

theorem pw_set_once {m : List (MT σ)} {i : Nat} {t : MT σ} (h : m[i]? = some t) (ho : t.once = false)
    (hr : t.retired = false) : Pw (Q i false) m (m.set i (onceAt t)) := by
  refine ⟨by simp, fun p x y hx hy => ?_⟩
  rw [List.getElem?_set] at hy
  by_cases hp : i = p
  · subst hp
    rw [if_pos rfl, if_pos (List.getElem?_eq_some_iff.mp h).1] at hy
    rw [h] at hx
    cases hx; cases hy
    simp [Q, ho, hr]
  · rw [if_neg hp, hx] at hy
    cases hy
    exact (q_off fun h' => hp h'.symm).mpr rfl

/-- setting the hint on the live, unhinted template of slot `i`, for any window: if the template replaces at most one
    element in the run (its counter rises by at most one), the run with the hint yields the same output -/
theorem run_once_set {f s : Nat} {en : Option Nat} {items : List (Item σ)} {m : List (MT σ)} {r : List (MT σ) × List Event}
    {i : Nat} {t : MT σ} (ht : m[i]? = some t) (ho : t.once = false) (hr : t.retired = false)
    (h : run f s en items m = some r) (hfew : hitsAt i r.1 ≤ hitsAt i m + 1) :
    ∃ c', run f s en items (m.set i (onceAt t)) = some (c', r.2) := by
  obtain ⟨c', _, h1, _⟩ := run_once_pw i f s en en items m _ r false (pw_set_once ht ho hr)
    (List.getElem?_eq_some_iff.mp ht).1 (fun _ _ => rfl) h hfew
  exact ⟨c', h1⟩

end Genshi.Match
