/-
  C12 — `once="true"` as a tree rewrite of its own, for any number of matching elements: the stage of
  a lawful template with the hint replaces the first element in document order at which its matcher
  fires (`onceList`, Model/MatchSpec.lean) and passes everything else; afterwards the slot is retired
  (if it fired) or back in the state it had (`once_stage_is_onceList`).  `once_stage_is_spec` is the clause
  "the hint does not change the output when at most one element matches" on trees: `stage_is_spec_hits` counts
  the replacements as the tree specification counts the matches (`countList`); then `run_once_set`.
-/
import Genshi.Lemmas.MatchSpec
import Genshi.Lemmas.MatchOnce
namespace Genshi.Match
open Genshi
variable {σ : Type}

/-- **`once` on trees.**  The stage of a lawful template on a forest in which its matcher fires at
    most once (counted on the tree: `countList ≤ 1`): with `once="true"` set on the template the
    stage yields the same tree rewrite. -/
theorem once_stage_is_spec (t : MT σ) (i : Nat) (hl : Lawful t) (ho : t.once = false) (hr : t.retired = false)
    (f : Nat) (ns : List Node) (M : List (MT σ)) (r : List (MT σ) × List Event) (hns : okList ns = true)
    (ht : M[i]? = some t) (h : run f i (some (i + 1)) (evItems (flattenList ns)) M = some r)
    (hfew : countList t t.st [] ns ≤ 1) :
    ∃ c', run f i (some (i + 1)) (evItems (flattenList ns)) (M.set i (onceAt t)) = some (c', specList t t.st [] ns) := by
  obtain ⟨hout, t', ht', _, _, _, hh⟩ :=
    stage_is_spec_hits t t.st i hl ho f ns [] M r t.hits hns ⟨t, ht, Shape.refl t, hr, rfl, rfl⟩ h
  rw [← hout]
  exact run_once_set ht ho hr h (by simp only [hitsAt, ht', ht, hh]; omega)

/-- slot `i` holds a retired template: a `once` template after its match -/
def RetAt (i : Nat) (M : List (MT σ)) : Prop := ∃ t', M[i]? = some t' ∧ t'.retired = true

theorem run_retired_stage (i : Nat) : ∀ (f : Nat) (items : List (Item σ)) (M : List (MT σ))
    (r : List (MT σ) × List Event), RetAt i M → NoReg items →
    run f i (some (i + 1)) items M = some r → r = (M, evs items) := by
  intro f items M r ⟨t', ht', hr⟩ hnr h
  refine run_inert f i _ items M r (fun p t hp ht => ?_) hnr h
  obtain rfl := (inWindow_single i p).mp hp
  rw [ht'] at ht; cases ht; exact hr

theorem evs_evItems' (es : List Event) : evs (evItems es : List (Item σ)) = es := evs_evItems es

theorem RetAt.scanEnd {i : Nat} {M : List (MT σ)} (h : RetAt i M) (e : Event) (s : Nat) (en : Option Nat) :
    RetAt i (scanEnd e s en 0 M) := by
  obtain ⟨t', ht', hr⟩ := h
  exact ⟨t', by rw [scanEnd_get, ht']; simp [test_retired hr], hr⟩

theorem RetAt.updRange {i : Nat} {M : List (MT σ)} (h : RetAt i M) (e : Event) (lo hi : Nat) :
    RetAt i (updRange e lo hi 0 M) := by
  obtain ⟨t', ht', hr⟩ := h
  exact ⟨t', by rw [updRange_get, ht']; simp [test_retired hr], hr⟩

/-- **`once` is "replace the first match in document order".**  Induction on the fuel, following the forest, with the invariant:
    slot `i` is live and in sync with the open ancestors (`SlotAt`) as long as no element has been replaced, and retired
    (`RetAt`) from then on; a stage whose only template is retired passes everything (`run_retired_stage`). -/
theorem once_stage_is_onceList (t : MT σ) (b : σ) (i : Nat) (hl : Lawful t) (ho : t.once = true) :
    ∀ (f : Nat) (ns : List Node) (anc : List Open) (M : List (MT σ)) (r : List (MT σ) × List Event),
    okList ns = true → SlotAt i t b anc M →
    run f i (some (i + 1)) (evItems (flattenList ns)) M = some r →
    r.2 = (onceList t b anc ns).1 ∧
      (if (onceList t b anc ns).2 then RetAt i r.1 else SlotAt i t b anc r.1) := by
  intro f
  induction f with
  | zero => intro ns anc M r _ _ h; simp [run] at h
  | succ f ih =>
    intro ns anc M r hokl hslot h
    cases ns with
    | nil =>
      simp [flattenList, evItems, run] at h; subst h
      exact ⟨by simp [onceList], by simpa [onceList] using hslot⟩
    | cons n rest =>
      simp only [okList, Bool.and_eq_true] at hokl
      obtain ⟨hn, hrestok⟩ := hokl
      cases n with
      | leaf e =>
        obtain ⟨h1, h2⟩ := leaf_ok.mp hn
        rw [evItems_leaf, run_other h1 h2] at h
        obtain ⟨q, hq, rfl⟩ := emit_some h
        obtain ⟨e1, e2⟩ := ih rest anc M q hrestok hslot hq
        exact ⟨by simp [onceList, onceNode, e1], by simpa [onceList, onceNode] using e2⟩
      | elem tg at_ kids =>
        have hkids : okList kids = true := by simpa [Node.ok] using hn
        rw [evItems_elem] at h
        obtain ⟨k, hslotk⟩ := hslot.counted
        rcases stage_start hslotk hkids h with ⟨hspec, M1, p, hslot1, hp, rfl⟩ |
          ⟨hspec, M1, tf, M3, innerOut, p, hslot1, htf, hshf, h3, h5, rfl⟩
        · obtain ⟨r1, q, hr1, hq, rfl⟩ := run_kids_end hkids hp
          obtain ⟨ek1, ek2⟩ := ih kids _ M1 r1 hkids hslot1.slotAt hr1
          by_cases hfl : (onceList t b ((tg, at_) :: anc) kids).2 = true
          · -- fired inside: the slot is retired, the END and the rest pass
            simp only [hfl, ↓reduceIte] at ek2
            have hretE := ek2.scanEnd (.end_ tg) i (some (i + 1))
            obtain rfl := run_retired_stage i _ _ _ q hretE (noReg_evItems _) hq
            exact ⟨by simp [onceList, onceNode, hspec, hfl, ek1], by simpa [onceList, onceNode, hspec, hfl] using hretE⟩
          · -- the END undoes the START
            simp only [hfl] at ek2
            obtain ⟨k', hk'⟩ := ek2.counted
            obtain ⟨er1, er2⟩ := ih rest anc _ q hrestok (hk'.close hl).1.slotAt hq
            exact ⟨by simp [onceList, onceNode, hspec, hfl, ek1, er1], by simpa [onceList, onceNode, hspec, hfl] using er2⟩
        · -- the matcher fires: the template is retired before its content is matched, so content and rest pass
          have honce : tf.once = true := by rw [hshf.2.2.1]; exact ho
          rw [show fired tf i M1 = retireAt i M1 by simp [fired, honce],
            show preEnd tf i = i + 1 by simp [preEnd, honce]] at h3
          have hret1 : RetAt i (retireAt i M1) := ⟨tf.retire, by rw [retireAt_get, htf]; simp, rfl⟩
          obtain ⟨rfl, rfl⟩ := Prod.mk.inj (run_retired_stage i _ _ _ _ hret1 (noReg_evItems _) h3)
          have hret5 := hret1.updRange (.end_ tg) i (i + 1)
          obtain rfl := run_retired_stage i _ _ _ p hret5 (noReg_evItems _) h5
          exact ⟨by simp [onceList, onceNode, hspec], by simpa [onceList, onceNode, hspec] using hret5⟩

end Genshi.Match
