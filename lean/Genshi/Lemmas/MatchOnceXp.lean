/-
  C12 — `once` replaces the first XPath match in document order.
  `onceList` (matcher asked along the ancestors) = `mkOnceKids` by the marks of a run over every event
  (lawful, leaf-free matcher: `spec_once_node/list`), = `xpOnceForest` by the relation on locations the
  marks stand for (`mkOnceNode_markB`), which for real templates is `patternSel` (`patternMarks_eq_markB`).
-/
import Genshi.Model.MatchOnceXp
import Genshi.Lemmas.MatchMarks
import Genshi.Lemmas.MatchXpInst
import Genshi.Lemmas.MatchRealOnce
namespace Genshi.Match
open Genshi Genshi.Path Genshi.Path.Ref

/-! ### the mark form (a proof device: one Boolean per event, as `mkKids` in Model/MatchReal.lean) -/

mutual
  /-- output, the marks left (`[]` once an element was replaced), whether an element was replaced -/
  def mkOnceNode (body : List BItem) : Node → List Bool → List Event × List Bool × Bool
    | .leaf e, ms => ([e], ms.tail, false)
    | .elem tg at_ kids, ms =>
      if ms.headD false then (instantiate body (.start tg at_ :: (flattenList kids ++ [.end_ tg])), [], true)
      else
        let r := mkOnceKids body kids ms.tail
        (.start tg at_ :: (r.1 ++ [.end_ tg]), r.2.1.tail, r.2.2)
  def mkOnceKids (body : List BItem) : List Node → List Bool → List Event × List Bool × Bool
    | [], ms => ([], ms, false)
    | n :: ns, ms =>
      let a := mkOnceNode body n ms
      if a.2.2 then (a.1 ++ flattenList ns, [], true)
      else
        let b := mkOnceKids body ns a.2.1
        (a.1 ++ b.1, b.2.1, b.2.2)
end

section
variable {σ : Type}

mutual
  theorem spec_once_node (t : MT σ) (hl : Lawful t) (hf : LeafFree t) (b : σ) :
      ∀ (n : Node) (anc : List Open), n.ok = true →
        ∀ rest, mkOnceNode t.body n ((marksOf t.step (openSt t.step b anc) n.flatten).1 ++ rest)
          = ((onceNode t b anc n).1, (if (onceNode t b anc n).2 then [] else rest), (onceNode t b anc n).2)
    | .leaf e, anc, hok => by
        intro rest
        simp [Node.flatten, marksOf, mkOnceNode, onceNode]
    | .elem tg at_ kids, anc, hok => by
        intro rest
        simp only [Node.ok] at hok
        have ih := spec_once_list t hl hf b kids ((tg, at_) :: anc) hok
        have hs1 : (t.step (openSt t.step b anc) (.start tg at_) false).1 = openSt t.step b ((tg, at_) :: anc) := rfl
        simp only [Node.flatten, marksOf, hs1, marksOf_append, mkOnceNode, List.cons_append, List.tail_cons,
          List.headD_cons, List.append_assoc, ih, onceNode, List.nil_append]
        by_cases hv : (t.step (openSt t.step b anc) (.start tg at_) false).2 = true
        · simp [hv]
        · have hv' : (t.step (openSt t.step b anc) (.start tg at_) false).2 = false := by simpa using hv
          simp only [hv', Bool.false_eq_true, ↓reduceIte]
          by_cases hfl : (onceList t b ((tg, at_) :: anc) kids).2 = true
          · simp [hfl]
          · have hfl' : (onceList t b ((tg, at_) :: anc) kids).2 = false := by simpa using hfl
            simp [hfl']
  theorem spec_once_list (t : MT σ) (hl : Lawful t) (hf : LeafFree t) (b : σ) :
      ∀ (ns : List Node) (anc : List Open), okList ns = true →
        ∀ rest, mkOnceKids t.body ns ((marksOf t.step (openSt t.step b anc) (flattenList ns)).1 ++ rest)
          = ((onceList t b anc ns).1, (if (onceList t b anc ns).2 then [] else rest), (onceList t b anc ns).2)
    | [], anc, _ => by
        intro rest
        simp [flattenList, marksOf, mkOnceKids, onceList]
    | n :: ns, anc, hok => by
        intro rest
        simp only [okList, Bool.and_eq_true] at hok
        have h1 := spec_once_node t hl hf b n anc hok.1
        have hst := (spec_marks_node t hl hf b n anc hok.1).1
        have h2 := spec_once_list t hl hf b ns anc hok.2
        simp only [flattenList, marksOf_append, hst, mkOnceKids, List.append_assoc, h1, onceList]
        by_cases hfl : (onceNode t b anc n).2 = true
        · simp [hfl]
        · have hfl' : (onceNode t b anc n).2 = false := by simpa using hfl
          simp only [hfl', Bool.false_eq_true, ↓reduceIte, h2]
end

end

mutual
  theorem mkOnceNode_markB (sel : List Nat → Bool) (body : List BItem) :
      ∀ (n : Node) (loc : List Nat) (tl : List Bool),
        mkOnceNode body n (markB sel (eventLocs n loc) ++ tl)
          = ((xpOnceNode sel body loc n).1, (if (xpOnceNode sel body loc n).2 then [] else tl), (xpOnceNode sel body loc n).2)
    | .leaf e, loc, tl => by simp [mkOnceNode, xpOnceNode, eventLocs, markB]
    | .elem tg at_ kids, loc, tl => by
        have hk := mkOnceKids_markB sel body kids loc 0 ([false] ++ tl)
        have hm : markB sel (eventLocs (.elem tg at_ kids) loc) ++ tl
            = sel loc :: (markB sel (eventLocsList kids loc 0) ++ ([false] ++ tl)) := by
          simp [eventLocs, markB]
        rw [hm]
        simp only [mkOnceNode, List.tail_cons, List.headD_cons, hk, xpOnceNode]
        cases sel loc
        · simp only [Bool.false_eq_true, ↓reduceIte]
          cases (xpOnceKids sel body loc 0 kids).2 <;> simp
        · simp
  theorem mkOnceKids_markB (sel : List Nat → Bool) (body : List BItem) :
      ∀ (ks : List Node) (loc : List Nat) (i : Nat) (tl : List Bool),
        mkOnceKids body ks (markB sel (eventLocsList ks loc i) ++ tl)
          = ((xpOnceKids sel body loc i ks).1, (if (xpOnceKids sel body loc i ks).2 then [] else tl),
             (xpOnceKids sel body loc i ks).2)
    | [], loc, i, tl => by simp [mkOnceKids, xpOnceKids, eventLocsList, markB]
    | k :: ks, loc, i, tl => by
        have h1 := mkOnceNode_markB sel body k (loc ++ [i]) (markB sel (eventLocsList ks loc (i + 1)) ++ tl)
        have h2 := mkOnceKids_markB sel body ks loc (i + 1) tl
        simp only [eventLocsList, markB_append, List.append_assoc, mkOnceKids, h1, xpOnceKids]
        cases (xpOnceNode sel body (loc ++ [i]) k).2
        · simp only [Bool.false_eq_true, ↓reduceIte, h2]
        · simp
end

/-- a whole forest, the marks of the trees laid end to end -/
theorem mkOnceKids_forest (sel : Node → List Nat → Bool) (mk : Node → List Bool) (body : List BItem) :
    ∀ (forest : List Node),
      (∀ top ∈ forest, ∀ tl, mkOnceNode body top (mk top ++ tl)
          = ((xpOnceNode (sel top) body [] top).1, (if (xpOnceNode (sel top) body [] top).2 then [] else tl),
             (xpOnceNode (sel top) body [] top).2)) →
      ∀ tl, mkOnceKids body forest (forest.flatMap mk ++ tl)
          = ((xpOnceForest sel body forest).1, (if (xpOnceForest sel body forest).2 then [] else tl),
             (xpOnceForest sel body forest).2)
  | [], _, tl => by simp [mkOnceKids, xpOnceForest]
  | n :: ns, h, tl => by
      have h1 := h n List.mem_cons_self (ns.flatMap mk ++ tl)
      have h2 := mkOnceKids_forest sel mk body ns (fun t ht => h t (List.mem_cons_of_mem _ ht)) tl
      simp only [List.flatMap_cons, List.append_assoc, mkOnceKids, h1, xpOnceForest]
      cases (xpOnceNode (sel n) body [] n).2
      · simp only [Bool.false_eq_true, ↓reduceIte, h2]
      · simp

theorem xpOnceForest_eq_mkOnceKids (ns : NsMap) (vs : Vars) (force : Option Strategy) (paths : List LocPath)
    (body : List BItem) (forest : List Node) (h : ∀ top ∈ forest, TopOk ns vs force paths top) :
    (mkOnceKids body forest (forest.flatMap (patternMarks paths ns vs force))).1
      = (xpOnceForest (patternSel paths ns (toXVars vs)) body forest).1 := by
  have := mkOnceKids_forest (patternSel paths ns (toXVars vs)) (patternMarks paths ns vs force) body forest
    (fun top ht tl => by
      rcases h top ht with ⟨e, rfl⟩ | hop
      · simp [patternMarks, Node.flatten, runTest, mkOnceNode, xpOnceNode]
      · rw [patternMarks_eq_markB ns vs force top paths hop]
        exact mkOnceNode_markB _ body top [] tl) []
  rw [List.append_nil] at this
  rw [this]

/-- **`once` replaces the first XPath match in document order** (real templates). -/
theorem real_once_stage_is_xpOnce (ns : NsMap) (vs : Vars) (ds : List Decl) (hok : ∀ d ∈ ds, d.ok ns vs)
    (i : Nat) (d : Decl) (hd : ds[i]? = some d) (ho : d.hints.matchOnce = true)
    (hp : ∀ p ∈ d.paths, PatternXp ns vs d.force p)
    (f : Nat) (forest : List Node) (r : List (MT RSt) × List Event) (hns : okList forest = true)
    (ht : ∀ top ∈ forest, TreeFor ns vs d.paths top)
    (h : run f i (some (i + 1)) (evItems (flattenList forest)) (ds.map (Decl.real ns vs)) = some r) :
    r.2 = (xpOnceForest (patternSel d.paths ns (toXVars vs)) d.body forest).1 := by
  have hdok := hok d (List.mem_of_getElem? hd)
  obtain ⟨htr, hl, hlf⟩ := Decl.abs_ok ns vs hdok
  rw [real_once_stage_is_onceList ns vs ds hok i d hd ho f forest r hns h, onceList_trel htr forest]
  have hm := spec_once_list (d.abs ns vs) hl hlf (d.abs ns vs).st forest [] hns []
  simp only [List.append_nil, openSt] at hm
  rw [abs_marks_forest ns vs d hdok forest hns] at hm
  rw [← show (mkOnceKids d.body forest _).1 = _ from congrArg Prod.fst hm]
  exact xpOnceForest_eq_mkOnceKids ns vs d.force d.paths d.body forest
    (fun top hm => topOk_of_static ns vs d.force d.paths hp top (ht top hm))

end Genshi.Match
