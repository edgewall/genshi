/-
  The concrete matchers of the C12 driver against the matcher law.
-/
import Genshi.Model.MatchPath
namespace Genshi.Match
open Genshi

/-- SimplePathStrategy pushes exactly one entry per START -/
theorem simpleStart_tail (frags : List (List Str)) (stack : List (Nat × Nat)) (name : Str) :
    (simpleStart frags stack name).1.tail = stack := by
  unfold simpleStart
  simp only []
  (repeat' split) <;> rfl

/-- with the root entry gone nothing is pushed, and popping the empty stack leaves it empty: the tail is the stack in
    every case -/
theorem genStart_tail_eq (steps : List (GAxis × GTest)) (gstack : List (List Nat)) (name : Str) :
    (genStart steps gstack name).1.tail = gstack := by
  unfold genStart
  cases gstack <;> rfl

/-- GenericStrategy pushes exactly one entry per START (none when its root entry is gone) -/
theorem genStart_tail (steps : List (GAxis × GTest)) (gstack : List (List Nat)) (name : Str) :
    (genStart steps gstack name).1.tail = gstack.tail ∨ (genStart steps gstack name).1.tail = gstack :=
  Or.inr (genStart_tail_eq steps gstack name)

end Genshi.Match
