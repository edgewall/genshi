/-
  Identity bodies: a filter whose templates never fire or have the body `${select('.')}` returns the stream
  unchanged (`run_identity`).
-/
import Genshi.Lemmas.MatchRun
import Genshi.Lemmas.MatchSelectTree
namespace Genshi.Match
open Genshi
variable {σ : Type}

def IdentityBody (t : MT σ) : Prop := t.body = [.sel .self]

theorem IdentityBody.bodyOK {t : MT σ} (h : IdentityBody t) : BodyOK t.body := fun _ => by rw [h]; rfl

theorem static_idOrNever : Static (fun t : MT σ => NeverFires t ∨ IdentityBody t) := by
  intro t t' hs h
  rcases h with h | h
  · exact Or.inl (static_neverFires t t' hs h)
  · exact Or.inr (by unfold IdentityBody at *; rw [hs.2.1]; exact h)

/-- **Identity bodies are identities** (no other template firing): the filter returns the
    stream unchanged whatever the paths, hints and matcher states of the identity templates. -/
theorem run_identity : ∀ (f start : Nat) (end_ : Option Nat) (items : List (Item σ)) (mts : List (MT σ))
    (r : List (MT σ) × List Event),
    (∀ t ∈ mts, NeverFires t ∨ IdentityBody t) → (∀ t, Item.reg t ∈ items → NeverFires t ∨ IdentityBody t) →
    run f start end_ items mts = some r → r.2 = evs items := by
  intro f s en items m r hm hi h
  have hP := static_idOrNever (σ := σ)
  replace h := ran_iff.mp h
  induction h with
  | nil => rfl
  | reg _ ih => exact ih (forall_snoc_reg hm hi) (regs_tail hi)
  | pass _ hsc _ ih => simp [ih (scan_forall_eq hP hsc hm) (regs_tail hi)]
  | @fire _ _ _ e _ _ m1 idx t inner tail rest' _ io _ _ _ hS hsc ht hst h3 h4 _ ih3 ih4 ih5 =>
    obtain ⟨hrest, htail, hcl⟩ := strip_spec _ 0 inner tail rest' hst
    obtain ⟨hin, hre⟩ := regs_strip hst (regs_tail hi)
    obtain ⟨h1, h2, h3', _, h5'⟩ := fire_forall hP hin hm hsc h3 h4
    -- the template that fired is not a never-firing one, so its body is `${select('.')}`
    have hid : IdentityBody t := by
      obtain ⟨t0, _, hf, _, rfl⟩ := scan_fired hsc ht
      refine (h1 _ (List.mem_of_getElem? ht)).resolve_left fun hnf => ?_
      have : NeverFires t0 := fun st e' u => by
        have := hnf st e' u; rwa [show _ = t0.step from test_step t0 e false] at this
      rw [(test_neverFires this e false).1] at hf; cases hf
    obtain rfl : io = evs inner := ih3 h2 hin
    have hbody : instantiate t.body (e :: evs inner ++ [tail]) = e :: evs inner ++ [tail] := by
      rw [hid, instantiate_sel, select_self hS htail hcl]; exact List.append_nil _
    rw [hbody] at ih4
    have e4 := ih4 h3' (regs_of_noReg (noReg_evItems _) _)
    have e5 := ih5 h5' hre
    simp only [evs_evItems] at e4
    simp [e4, e5, hrest, evs_append]
  | close _ _ ih => simp [ih (scanEnd_forall hP _ _ _ 0 _ hm) (regs_tail hi)]
  | other _ _ _ ih => simp [ih hm (regs_tail hi)]

/-- **Pass-through**: when no template ever fires, `_match` yields the stream unchanged. -/
theorem run_neverFires (f start : Nat) (end_ : Option Nat) (items : List (Item σ)) (mts : List (MT σ))
    (r : List (MT σ) × List Event) (hm : ∀ t ∈ mts, NeverFires t) (hi : ∀ t, Item.reg t ∈ items → NeverFires t)
    (h : run f start end_ items mts = some r) : r.2 = evs items ∧ ∀ t ∈ r.1, NeverFires t :=
  ⟨run_identity f start end_ items mts r (fun t ht => Or.inl (hm t ht)) (fun t ht => Or.inl (hi t ht)) h,
    run_forall static_neverFires f start end_ items mts r hm hi h⟩

end Genshi.Match
