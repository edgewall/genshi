/-
  The pipeline theorem: one pass over the window [s, e) = a pass over [s, m) followed by a pass
  over [m, e) on its output.
-/
import Genshi.Lemmas.MatchPipeline
namespace Genshi.Match
open Genshi
variable {σ : Type}

/-- the pipeline theorem by induction on the run, over any tracked stream (so that the parts of an element are
    streams of the same kind) and for agreement on any slots `wl` below `m` and `wh` from `m` on that contain the halves -/
theorem pipeline_ran {m : Nat} {wl wh : Nat → Bool} (hlm : ∀ j, wl j = true → j < m) (hhm : ∀ j, wh j = true → m ≤ j)
    {f s : Nat} {e : Option Nat} {items : List (Item σ)} {M : List (MT σ)} {r : List (MT σ) × List Event}
    (h : Ran f s e items M r) : NoReg items → (∀ t ∈ M, OKt t) → s ≤ m → (∀ n, e = some n → m ≤ n) →
    (∀ j, win s (some m) j = true → wl j = true) → (∀ j, win m e j = true → wh j = true) →
    ∀ stk stk', track stk (evs items) = some stk' →
    ∀ P T, (∀ t ∈ P, OKt t) → (∀ t ∈ T, OKt t) → AgreeOn wl M P → AgreeOn wh M T →
    ∃ f' out1 L H, run f' s (some m) items P = some (L, out1) ∧ run f' m e (evItems out1) T = some (H, r.2) ∧
      AgreeOn wl r.1 L ∧ AgreeOn wh r.1 H := by
  induction h with
  | nil => intro _ _ _ _ _ _ _ _ _ P T _ _ haP haT; exact ⟨1, [], P, T, rfl, rfl, haP, haT⟩
  | @reg _ _ _ t => intro hnr; exact absurd (by simp) (hnr t)
  | @other _ s e x _ _ _ hS hE _ ih =>
    intro hnr hok hsm hme hl hh stk stk' htr P T hokP hokT haP haT
    rw [evs_ev, track_other x hS hE] at htr
    obtain ⟨f1, o1, L, H, hL, hH, haL, haH⟩ := ih (regs_tail hnr) hok hsm hme hl hh _ _ htr P T hokP hokT haP haT
    exact ⟨f1 + 1, x :: o1, L, H, run_skip hS hE hL, by rw [evItems_cons]; exact run_skip hS hE hH, haL, haH⟩
  | @close _ s e x rest M _ hE _ ih =>
    intro hnr hok hsm hme hl hh stk stk' htr P T hokP hokT haP haT
    obtain ⟨tg, rfl⟩ := isEnd_eq_end hE
    obtain ⟨_, stk1, _, htr1⟩ := track_end htr
    -- the low half is shown the END by the first pass, the high half by the second
    obtain ⟨f1, o1, L, H, hL, hH, haL, haH⟩ := ih (regs_tail hnr)
      (scanEnd_forall static_okt _ _ _ 0 _ hok) hsm hme hl hh _ _ htr1 _ _
      (scanEnd_forall static_okt (.end_ tg) s (some m) 0 P hokP) (scanEnd_forall static_okt (.end_ tg) m e 0 T hokT)
      (agreeOn_get haP (scanEnd_get _ s e 0 M) (scanEnd_get _ s (some m) 0 P) fun i t hw _ => by
        rw [Nat.zero_add, inWindow_lo_eq hme (hlm i hw)])
      (agreeOn_get haT (scanEnd_get _ s e 0 M) (scanEnd_get _ m e 0 T) fun i t hw _ => by
        rw [Nat.zero_add, inWindow_hi_eq hsm (hhm i hw)])
    exact ⟨f1 + 1, .end_ tg :: o1, L, H, run_close rfl hL, by rw [evItems_cons]; exact run_close rfl hH, haL, haH⟩
  | @pass _ s e x _ M Ms _ hS hsc _ ih =>
    intro hnr hok hsm hme hl hh stk stk' htr P T hokP hokT haP haT
    obtain ⟨tg, at_, rfl⟩ := isStart_eq_start hS
    obtain ⟨P1, T1, hscP, hscT, haP1, haT1⟩ := scan_high hsm hme hsc (fun _ h => by cases h) hl hh hlm hhm haP haT
    obtain ⟨f1, o1, L, H, hL, hH, haL, haH⟩ := ih (regs_tail hnr) (scan_forall_eq static_okt hsc hok)
      hsm hme hl hh _ _ (by simpa [track] using htr) P1 T1 (scan_forall_eq static_okt hscP hokP)
      (scan_forall_eq static_okt hscT hokT) haP1 haT1
    exact ⟨f1 + 1, .start tg at_ :: o1, L, H, run_pass rfl hscP hL, by rw [evItems_cons]; exact run_pass rfl hscT hH, haL, haH⟩
  | @fire f s e x rest M Ms idx t inner tail rest' M3 io M4 outb p hS hsc ht hst h3 h4 h5 ih3 ih4 ih5 =>
    intro hnr hok hsm hme hl hh stk stk' htr P T hokP hokT haP haT
    obtain ⟨tg, at_, rfl⟩ := isStart_eq_start hS
    obtain ⟨hnin, hnre⟩ := regs_strip hst (regs_tail hnr)
    obtain ⟨hokMs, hokM2, hokM3, hokM4, hokM5⟩ := fire_forall static_okt (regs_of_noReg hnin _) hok hsc h3 h4
    obtain ⟨hrest, rfl, hneu, htr'⟩ := track_elem hst htr
    obtain ⟨hwi, _, _⟩ := scan_first (.start tg at_) s e M idx (by rw [hsc])
    have hsidx : s ≤ idx := inWindow_ge hwi
    have hidxe : ∀ n, e = some n → idx < n := ((inWindow_iff _ _ _).mp hwi).2
    have hpe := preEnd_le t idx
    have h3r := ran_iff.mpr h3
    have h4r := ran_iff.mpr h4
    have hbody : Neutral (instantiate t.body (.start tg at_ :: io ++ [.end_ tg])) :=
      instantiate_neutral (hokMs t (List.mem_of_getElem? ht)).1
        (neutral_wrap tg at_ (run_neutral hnin (fun y hy => (hokM2 y hy).1) hneu h3r))
    by_cases hlow : idx < m
    · -- a template of the low half: START, content and END belong to the first pass; the body is cut at `m`
      obtain ⟨P1, hscP, haP1, haT1⟩ := scan_low hme hsc hlow hl hlm hhm haP haT
      have hokP1 := scan_forall_eq static_okt hscP hokP
      have htP : P1[idx]? = some t := by
        rw [← haP1.2 idx (hl idx ((inWindow_iff _ _ _).mpr ⟨hsidx, fun n hn => by cases hn; exact hlow⟩))]; exact ht
      have haP2 : AgreeOn wl (fired t idx Ms) (fired t idx P1) :=
        agreeOn_get haP1 (fired_get t idx Ms) (fired_get t idx P1) fun _ _ _ _ => rfl
      have haT2 : AgreeOn wh (fired t idx Ms) T := agreeOn_get_left haT1 (fired_get t idx Ms) fun i y hw =>
        if_neg fun hc => by have := hhm i hw; omega
      obtain ⟨P3, hP3, haP3⟩ := run_agree_on hnin
        (fun j hj => hl j (inWindow_sub_of (Nat.le_refl s) (fun n hn => ⟨_, rfl, by cases hn; omega⟩) hj)) haP2 h3r
      have haT3 : AgreeOn wh M3 T := run_keep hnin (fun j hj => inWindow_beyond (by have := hhm j hj; omega)) haT2 h3r
      have hokP3 := run_forall_noReg static_okt hnin (fired_forall static_okt hokP1) hP3
      obtain ⟨fb, ob1, Lb, Hb, hLb, hHb, haLb, haHb⟩ := ih4 (noReg_evItems _) hokM3 (by omega) hme
        (fun j hj => hl j (inWindow_sub_of (by omega) (fun n hn => ⟨m, rfl, by cases hn; omega⟩) hj))
        (fun j hj => hh j hj) stk stk (by simpa using hbody stk) P3 T hokP3 hokT haP3 haT3
      have hokLb := run_forall_noReg static_okt (noReg_evItems _) hokP3 hLb
      have hokHb := run_forall_noReg static_okt (noReg_evItems _) hokT hHb
      -- the END, shown to the low half only
      have haP5 : AgreeOn wl (updRange (.end_ tg) s (idx + 1) 0 M4) (updRange (.end_ tg) s (idx + 1) 0 Lb) :=
        agreeOn_get haLb (updRange_get _ _ _ 0 M4) (updRange_get _ _ _ 0 Lb) fun _ _ _ _ => rfl
      have haT5 : AgreeOn wh (updRange (.end_ tg) s (idx + 1) 0 M4) Hb :=
        agreeOn_get_left haHb (updRange_get _ _ _ 0 M4) fun i y hw => if_neg fun hc => by
          simp only [Nat.zero_add, Bool.and_eq_true, decide_eq_true_eq] at hc; have := hhm i hw; omega
      obtain ⟨fa, oa1, La, Ha, hLa, hHa, haLa, haHa⟩ := ih5 hnre hokM5 hsm hme hl hh _ _ htr' _ Hb
        (updRange_forall static_okt _ _ _ 0 Lb hokLb) hokHb haP5 haT5
      have hob1 : Neutral ob1 :=
        run_neutral (noReg_evItems _) (fun y hy => (hokP3 y hy).1) (by simpa using hbody) hLb
      refine ⟨f + fb + fa + 1, ob1 ++ oa1, La, Ha, ?_, ?_, haLa, haHa⟩
      · exact run_fired rfl hscP htP hst (run_mono_le hP3 (show f ≤ f + fb + fa by omega))
          (run_mono_le hLb (show fb ≤ f + fb + fa by omega)) (run_mono_le hLa (show fa ≤ f + fb + fa by omega))
      · rw [evItems_append]
        exact run_mono_le (run_append_join fb fa m e (evItems ob1) (evItems oa1) 0 T _ _
          (by simp only [evs_evItems]; exact closed_of_neutral hob1) hHb hHa) (by omega)
    · -- a template of the high half: the first pass passes the element (content cut at `m`), the second matches it
      have hhigh : m ≤ idx := Nat.le_of_not_lt hlow
      obtain ⟨P1, T1, hscP, hscT, haP1, haT1⟩ := scan_high hsm hme hsc (fun _ h => by cases h; exact hhigh) hl hh hlm hhm haP haT
      have hokP1 := scan_forall_eq static_okt hscP hokP
      have hokT1 := scan_forall_eq static_okt hscT hokT
      have htT : T1[idx]? = some t := by
        rw [← haT1.2 idx (hh idx ((inWindow_iff _ _ _).mpr ⟨hhigh, hidxe⟩))]; exact ht
      have haT2 : AgreeOn wh (fired t idx Ms) (fired t idx T1) :=
        agreeOn_get haT1 (fired_get t idx Ms) (fired_get t idx T1) fun _ _ _ _ => rfl
      have haP2 : AgreeOn wl (fired t idx Ms) P1 := agreeOn_get_left haP1 (fired_get t idx Ms) fun i y hw =>
        if_neg fun hc => by have := hlm i hw; omega
      obtain ⟨fi, oi1, Li, Hi, hLi, hHi, haLi, haHi⟩ := ih3 hnin hokM2 hsm (by intro n hn; cases hn; omega) hl
        (fun j hj => hh j (inWindow_sub_of (Nat.le_refl m) (fun n hn => ⟨_, rfl, by have := hidxe n hn; omega⟩) hj))
        [] [] (hneu []) P1 (fired t idx T1) hokP1 (fired_forall static_okt hokT1) haP2 haT2
      have hokLi := run_forall_noReg static_okt hnin hokP1 hLi
      have hokHi := run_forall_noReg static_okt (noReg_evItems _) (fired_forall static_okt hokT1) hHi
      have hoi1 : Neutral oi1 := run_neutral hnin (fun y hy => (hokP1 y hy).1) hneu hLi
      -- the body: entirely a matter of the high half
      obtain ⟨T4, hT4, haT4⟩ := run_agree_on (noReg_evItems _)
        (fun j hj => hh j (inWindow_sub_of (by omega) (fun n hn => ⟨n, hn, Nat.le_refl n⟩) hj)) haHi h4r
      have haLi4 : AgreeOn wl M4 Li := run_keep (noReg_evItems _)
        (fun j hj => inWindow_below (by have := hlm j hj; omega)) haLi h4r
      have hokT4 := run_forall_noReg static_okt (noReg_evItems _) hokHi hT4
      -- the END: the low half by the first pass (as an unmatched END), the high half by the second
      have haP5 : AgreeOn wl (updRange (.end_ tg) s (idx + 1) 0 M4) (scanEnd (.end_ tg) s (some m) 0 Li) :=
        agreeOn_get haLi4 (updRange_get _ _ _ 0 M4) (scanEnd_get _ _ _ 0 Li) fun i y hw hy => by
          have him := hlm i hw
          rw [test_flagFree (hokM4 y (List.mem_of_getElem? hy)).2 _ true false]
          simp only [Nat.zero_add, inWindow, show i < idx + 1 by omega, him]
      have haT5 : AgreeOn wh (updRange (.end_ tg) s (idx + 1) 0 M4) (updRange (.end_ tg) m (idx + 1) 0 T4) :=
        agreeOn_get haT4 (updRange_get _ _ _ 0 M4) (updRange_get _ _ _ 0 T4) fun i y hw _ => by
          have him := hhm i hw
          simp only [Nat.zero_add, show s ≤ i by omega, him]
      obtain ⟨fa, oa1, La, Ha, hLa, hHa, haLa, haHa⟩ := ih5 hnre hokM5 hsm hme hl hh _ _ htr' _ _
        (scanEnd_forall static_okt _ _ _ 0 Li hokLi) (updRange_forall static_okt _ _ _ 0 T4 hokT4) haP5 haT5
      refine ⟨(fi + (fa + 1)) + f + 1, .start tg at_ :: oi1 ++ .end_ tg :: oa1, La, Ha, ?_, ?_, haLa, haHa⟩
      · rw [hrest]
        exact run_mono_le (run_pass_elem hscP (closed_of_neutral hneu) hLi hLa) (by omega)
      · have hstrip : strip 1 (evItems oi1 ++ .ev (.end_ tg) :: evItems oa1 : List (Item σ)) =
            some (evItems oi1, .end_ tg, evItems oa1) :=
          strip_of_closed (evItems oi1) 0 (.end_ tg) (evItems oa1) (by simp only [evs_evItems]; exact closed_of_neutral hoi1) rfl rfl
        rw [List.cons_append, evItems_cons, evItems_append, evItems_cons]
        exact run_fired rfl hscT htT hstrip (run_mono_le hHi (show fi ≤ (fi + (fa + 1)) + f by omega))
          (run_mono_le hT4 (show f ≤ (fi + (fa + 1)) + f by omega)) (run_mono_le hHa (show fa ≤ (fi + (fa + 1)) + f by omega))

/-- **The pipeline theorem.**  Over a well-nested, registration-free stream the filter with window
    `[s, e)` equals the filter with window `[s, m)` followed by the filter with window `[m, e)` applied
    to its output — the same final output, and the same final template states (low slots from the
    first pass, high slots from the second).  `P`, `T`: the lists the two passes start from need to
    agree with `M` only on their own halves. -/
theorem pipeline_split : ∀ (f s : Nat) (e : Option Nat) (items : List (Item σ)) (M M' : List (MT σ))
    (out : List Event) (m : Nat),
    NoReg items → Neutral (evs items) → (∀ t ∈ M, OKt t) → s ≤ m → (∀ n, e = some n → m ≤ n) →
    run f s e items M = some (M', out) →
    ∀ P T, (∀ t ∈ P, OKt t) → (∀ t ∈ T, OKt t) → AgreeOn (win s (some m)) M P → AgreeOn (win m e) M T →
    ∃ f' out1 L H, run f' s (some m) items P = some (L, out1) ∧ run f' m e (evItems out1) T = some (H, out) ∧
      AgreeOn (win s (some m)) M' L ∧ AgreeOn (win m e) M' H := by
  intro f s e items M M' out m hnr hneu hok hsm hme h
  exact pipeline_ran (fun _ hj => inWindow_lt hj) (fun _ hj => inWindow_ge hj) (ran_iff.mp h) hnr hok hsm hme
    (fun _ h => h) (fun _ h => h) [] [] (hneu [])

/-- **The pipeline, sequentially**: the filter with window `[s, e)` is the filter with window `[s, m)`
    followed, on its output and from the template list it leaves, by the filter with window `[m, e)`:
    same output, same final template list. -/
theorem pipeline_seq (f s : Nat) (e : Option Nat) (items : List (Item σ)) (M M' : List (MT σ)) (out : List Event)
    (m : Nat) (hnr : NoReg items) (hneu : Neutral (evs items)) (hok : ∀ t ∈ M, OKt t) (hsm : s ≤ m)
    (hme : ∀ n, e = some n → m ≤ n) (h : run f s e items M = some (M', out)) :
    ∃ f' out1 L, run f' s (some m) items M = some (L, out1) ∧ run f' m e (evItems out1) L = some (M', out) := by
  -- the halves taken as large as they can be: all slots below `m`, all slots from `m` on
  obtain ⟨f', out1, L, H, hL, hH, haL, haH⟩ := pipeline_ran (wl := fun j => decide (j < m)) (wh := fun j => decide (m ≤ j))
    (fun _ hj => of_decide_eq_true hj) (fun _ hj => of_decide_eq_true hj) (ran_iff.mp h) hnr hok hsm hme
    (fun _ hj => decide_eq_true (inWindow_lt hj)) (fun _ hj => decide_eq_true (inWindow_ge hj)) [] [] (hneu []) M M hok hok
    (AgreeOn.refl _ M) (AgreeOn.refl _ M)
  -- the first pass leaves the slots from `m` on alone
  have haML : AgreeOn (fun j => decide (m ≤ j)) M L :=
    ⟨run_len hnr hL, fun j hj => (run_outside hnr hL j (inWindow_beyond (of_decide_eq_true hj))).symm⟩
  obtain ⟨H', hH', haH'⟩ := run_agree_on (noReg_evItems _) (fun _ hj => decide_eq_true (inWindow_ge hj)) haML hH
  refine ⟨f', out1, L, hL, ?_⟩
  have : H' = M' := by
    apply List.ext_getElem?; intro j
    by_cases hj : m ≤ j
    · rw [← haH'.2 j (decide_eq_true hj)]; exact (haH.2 j (decide_eq_true hj)).symm
    · have hlt := Nat.lt_of_not_le hj
      rw [run_outside (noReg_evItems _) hH' j (inWindow_below hlt)]; exact (haL.2 j (decide_eq_true hlt)).symm
  rw [← this]; exact hH'

end Genshi.Match
