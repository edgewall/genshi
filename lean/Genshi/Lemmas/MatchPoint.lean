/-
  Slot by slot: what the list operations of the match model do to slot `i` of the template list, and relations
  between template lists that hold slot by slot.
-/
import Genshi.Lemmas.Match
namespace Genshi.Match
open Genshi
variable {σ : Type}

theorem length_of_get {α β : Type} {A : List α} {A' : List β} {f : Nat → α → β}
    (h : ∀ i, A'[i]? = (A[i]?).map (f i)) : A'.length = A.length := by
  apply Nat.le_antisymm
  · apply Nat.le_of_not_lt; intro hlt
    have := h A.length
    rw [List.getElem?_eq_getElem hlt, List.getElem?_eq_none (Nat.le_refl _)] at this; cases this
  · apply Nat.le_of_not_lt; intro hlt
    have := h A'.length
    rw [List.getElem?_eq_none (Nat.le_refl _), List.getElem?_eq_getElem hlt] at this; cases this

/-- apply `g` to the slots whose position satisfies `w` -/
def mapW (w : Nat → Bool) (g : MT σ → MT σ) : List (MT σ) → List (MT σ)
  | [] => []
  | t :: ts => (if w 0 then g t else t) :: mapW (fun p => w (p + 1)) g ts

theorem mapW_get (g : MT σ → MT σ) : ∀ (M : List (MT σ)) (w : Nat → Bool) (j : Nat),
    (mapW w g M)[j]? = (M[j]?).map fun t => if w j then g t else t := by
  intro M
  induction M with
  | nil => intro w j; simp [mapW]
  | cons t ts ih =>
    intro w j
    cases j with
    | zero => simp [mapW]
    | succ j => simp only [mapW, List.getElem?_cons_succ]; exact ih (fun p => w (p + 1)) j

theorem mapW_length (g : MT σ → MT σ) (M : List (MT σ)) (w : Nat → Bool) : (mapW w g M).length = M.length :=
  length_of_get (mapW_get g M w)

/-! The two loops of the model over the whole list, `scanEnd` and `updRange`, are `mapW`; `retireAt` is the library's
    `List.modify`. -/

theorem scanEnd_eq_mapW (e : Event) (s : Nat) (en : Option Nat) (j : Nat) (mts : List (MT σ)) :
    scanEnd e s en j mts = mapW (fun p => inWindow s en (j + p)) (fun t => (t.test e false).1) mts := by
  induction mts generalizing j with
  | nil => rfl
  | cons t ts ih => rw [scanEnd, mapW, ih (j + 1)]; simp only [Nat.add_zero, Nat.add_assoc, Nat.add_comm 1]

theorem updRange_eq_mapW (e : Event) (lo hi : Nat) (j : Nat) (mts : List (MT σ)) :
    updRange e lo hi j mts =
      mapW (fun p => decide (lo ≤ j + p) && decide (j + p < hi)) (fun t => (t.test e true).1) mts := by
  induction mts generalizing j with
  | nil => rfl
  | cons t ts ih => rw [updRange, mapW, ih (j + 1)]; simp only [Nat.add_zero, Nat.add_assoc, Nat.add_comm 1]

theorem retireAt_eq_modify : ∀ (j : Nat) (mts : List (MT σ)), retireAt j mts = mts.modify j MT.retire
  | _, [] => by cases ‹Nat› <;> rfl
  | 0, _ :: _ => rfl
  | j + 1, t :: ts => by rw [retireAt, retireAt_eq_modify j ts]; rfl

theorem scanEnd_get (e : Event) (s : Nat) (en : Option Nat) (k : Nat) (mts : List (MT σ)) (i : Nat) :
    (scanEnd e s en k mts)[i]? =
      (mts[i]?).map fun t => if inWindow s en (k + i) then (t.test e false).1 else t := by
  rw [scanEnd_eq_mapW, mapW_get]

theorem updRange_get (e : Event) (lo hi : Nat) (k : Nat) (mts : List (MT σ)) (i : Nat) :
    (updRange e lo hi k mts)[i]? =
      (mts[i]?).map fun t => if decide (lo ≤ k + i) && decide (k + i < hi) then (t.test e true).1 else t := by
  rw [updRange_eq_mapW, mapW_get]

theorem retireAt_get (j : Nat) (mts : List (MT σ)) (i : Nat) :
    (retireAt j mts)[i]? = (mts[i]?).map fun t => if i = j then t.retire else t := by
  rw [retireAt_eq_modify, List.getElem?_modify]
  simp only [eq_comm (a := j)]
  rfl

theorem fired_get (t : MT σ) (idx : Nat) (m : List (MT σ)) (i : Nat) :
    (fired t idx m)[i]? = (m[i]?).map fun x => if i = idx ∧ t.once = true then x.retire else x := by
  unfold fired
  by_cases ho : t.once = true
  · simp only [ho, ↓reduceIte, and_true]; exact retireAt_get idx m i
  · simp [ho]

/-- what `scan`, with verdict `hit`, does to slot `i`: the slots of the window up to the one that accepted are
    tested, that one is counted, the others are not touched -/
def scanAt (e : Event) (s : Nat) (en : Option Nat) (hit : Option Nat) (i : Nat) (t : MT σ) : MT σ :=
  if inWindow s en i = true ∧ ∀ idx, hit = some idx → i ≤ idx then
    (if hit = some i then { (t.test e false).1 with hits := (t.test e false).1.hits + 1 } else (t.test e false).1)
  else t

/-- the scan's verdict is the library's `findIdx?` over the slots paired with their positions: the first slot of the
    window whose test accepts -/
theorem scan_hit_eq (e : Event) (s : Nat) (en : Option Nat) : ∀ (k : Nat) (m : List (MT σ)),
    (scan e s en k m).2 = ((m.zipIdx k).findIdx? fun p => inWindow s en p.2 && (p.1.test e false).2).map (k + ·) := by
  intro k m
  induction m generalizing k with
  | nil => rfl
  | cons t ts ih =>
    rw [List.zipIdx_cons, List.findIdx?_cons]
    by_cases hf : inWindow s en k = true ∧ (t.test e false).2 = true
    · rw [scan_cons_fire ts hf.1 hf.2, hf.1, hf.2]; rfl
    · rw [scan_cons_pass ts hf, if_neg fun h => hf (Bool.and_eq_true_iff.mp h), ih (k + 1), Option.map_map]
      congr 1; funext i; exact Nat.add_right_comm k 1 i

theorem scan_hit_ge {e : Event} {s : Nat} {en : Option Nat} {k : Nat} {m : List (MT σ)} {idx : Nat}
    (h : (scan e s en k m).2 = some idx) : k ≤ idx := by
  rw [scan_hit_eq] at h
  obtain ⟨j, _, rfl⟩ := Option.map_eq_some_iff.mp h
  exact Nat.le_add_right k j

theorem scan_get_from (e : Event) (s : Nat) (en : Option Nat) : ∀ (k : Nat) (m : List (MT σ)) (i : Nat),
    (scan e s en k m).1[i]? = (m[i]?).map (scanAt e s en (scan e s en k m).2 (k + i)) := by
  intro k m
  induction m generalizing k with
  | nil => intro i; simp [scan]
  | cons t ts ih =>
    intro i
    by_cases hf : inWindow s en k = true ∧ (t.test e false).2 = true
    · rw [scan_cons_fire ts hf.1 hf.2]
      cases i with
      | zero => simp [scanAt, hf.1]
      | succ i =>
        simp only [List.getElem?_cons_succ]
        cases ts[i]? with
        | none => rfl
        | some x => simp [scanAt, show ¬ k + (i + 1) ≤ k by omega]
    · rw [scan_cons_pass ts hf]
      have hge : ∀ idx, (scan e s en (k + 1) ts).2 = some idx → k + 1 ≤ idx := fun idx h => scan_hit_ge h
      cases i with
      | zero =>
        have hne : (scan e s en (k + 1) ts).2 ≠ some k := fun h => by have := hge k h; omega
        by_cases hw : inWindow s en k = true
        · have hall : ∀ idx, (scan e s en (k + 1) ts).2 = some idx → k ≤ idx := fun idx h => Nat.le_of_succ_le (hge idx h)
          simp only [List.getElem?_cons_zero, Option.map_some, scanAt, hw, true_and, Nat.add_zero, ↓reduceIte]
          rw [if_pos hall, if_neg hne]
        · simp [scanAt, hw]
      | succ i =>
        simp only [List.getElem?_cons_succ]
        rw [ih (k + 1) i, show k + 1 + i = k + (i + 1) by omega]

theorem scan_get (e : Event) (s : Nat) (en : Option Nat) (m : List (MT σ)) (i : Nat) :
    (scan e s en 0 m).1[i]? = (m[i]?).map (scanAt e s en (scan e s en 0 m).2 i) := by
  rw [scan_get_from, Nat.zero_add]

theorem scanEnd_length (e : Event) (s : Nat) (en : Option Nat) (k : Nat) (mts : List (MT σ)) :
    (scanEnd e s en k mts).length = mts.length := length_of_get (scanEnd_get e s en k mts)

theorem updRange_length (e : Event) (lo hi : Nat) (k : Nat) (mts : List (MT σ)) :
    (updRange e lo hi k mts).length = mts.length := length_of_get (updRange_get e lo hi k mts)

theorem retireAt_length (j : Nat) (mts : List (MT σ)) : (retireAt j mts).length = mts.length :=
  length_of_get (retireAt_get j mts)

theorem fired_length (t : MT σ) (idx : Nat) (m : List (MT σ)) : (fired t idx m).length = m.length :=
  length_of_get (fired_get t idx m)

theorem scan_get_eq {e : Event} {s : Nat} {en : Option Nat} {m m1 : List (MT σ)} {hit : Option Nat}
    (h : scan e s en 0 m = (m1, hit)) (i : Nat) : m1[i]? = (m[i]?).map (scanAt e s en hit i) := by
  have := scan_get e s en m i; rwa [h] at this

theorem scan_length (e : Event) (s : Nat) (en : Option Nat) (k : Nat) (mts : List (MT σ)) :
    (scan e s en k mts).1.length = mts.length := length_of_get (scan_get_from e s en k mts)

theorem scan_length_eq {e : Event} {s k : Nat} {en : Option Nat} {mts m1 : List (MT σ)} {hit : Option Nat}
    (h : scan e s en k mts = (m1, hit)) : m1.length = mts.length := by
  have := scan_length e s en k mts; rwa [h] at this

/-- the scan's verdict: the first slot of the window whose test accepts -/
theorem scan_hit_iff {e : Event} {s : Nat} {en : Option Nat} {m : List (MT σ)} {idx : Nat} :
    (scan e s en 0 m).2 = some idx ↔
      (∃ t, m[idx]? = some t ∧ inWindow s en idx = true ∧ (t.test e false).2 = true) ∧
      ∀ i x, i < idx → m[i]? = some x → inWindow s en i = true → (x.test e false).2 = false := by
  rw [scan_hit_eq, show (fun x => 0 + x) = id from funext Nat.zero_add, Option.map_id, id,
    List.findIdx?_eq_some_iff_getElem]
  simp only [List.length_zipIdx, List.getElem_zipIdx, Nat.zero_add, Bool.and_eq_true]
  constructor
  · rintro ⟨h, hp, hlt⟩
    refine ⟨⟨m[idx], List.getElem?_eq_getElem h, hp⟩, fun i x hi hx hw => ?_⟩
    obtain ⟨_, rfl⟩ := List.getElem?_eq_some_iff.mp hx
    exact Bool.eq_false_iff.mpr fun hf => hlt i hi ⟨hw, hf⟩
  · rintro ⟨⟨t, ht, hp⟩, hlt⟩
    obtain ⟨h, rfl⟩ := List.getElem?_eq_some_iff.mp ht
    exact ⟨h, hp, fun j hj hc => Bool.eq_false_iff.mp (hlt j _ hj (List.getElem?_eq_getElem (Nat.lt_trans hj h)) hc.1) hc.2⟩

theorem scan_none_iff {e : Event} {s : Nat} {en : Option Nat} {m : List (MT σ)} :
    (scan e s en 0 m).2 = none ↔ ∀ i x, m[i]? = some x → inWindow s en i = true → (x.test e false).2 = false := by
  rw [scan_hit_eq, Option.map_eq_none_iff, List.findIdx?_eq_none_iff]
  simp only [List.mem_zipIdx_iff_getElem?, Bool.and_eq_false_imp, Prod.forall]
  exact ⟨fun h i x => h x i, fun h x i => h i x⟩

/-- **Declaration order**: the template that fires is the first one of the window, in list
    (= declaration) order, whose test accepts the event; the earlier ones were asked and declined. -/
theorem scan_first (e : Event) (s : Nat) (en : Option Nat) (mts : List (MT σ)) (idx : Nat)
    (h : (scan e s en 0 mts).2 = some idx) :
    inWindow s en idx = true ∧ (∃ t, mts[idx]? = some t ∧ (t.test e false).2 = true) ∧
    ∀ i x, i < idx → mts[i]? = some x → inWindow s en i = true → (x.test e false).2 = false := by
  obtain ⟨⟨t, ht, hw, hf⟩, hlt⟩ := scan_hit_iff.mp h
  exact ⟨hw, ⟨t, ht, hf⟩, hlt⟩

/-- a slot of the window that accepts: the scan stops there or earlier -/
theorem scan_hit_le {e : Event} {s : Nat} {en : Option Nat} {m : List (MT σ)} {j : Nat} {x : MT σ}
    (hx : m[j]? = some x) (hw : inWindow s en j = true) (hf : (x.test e false).2 = true) :
    ∃ idx, (scan e s en 0 m).2 = some idx ∧ idx ≤ j := by
  cases hh : (scan e s en 0 m).2 with
  | none => rw [scan_none_iff.mp hh j x hx hw] at hf; cases hf
  | some idx =>
    refine ⟨idx, rfl, Nat.le_of_not_lt fun hlt => ?_⟩
    rw [(scan_hit_iff.mp hh).2 j x hlt hx hw] at hf; cases hf

theorem scanAt_none (e : Event) (s : Nat) (en : Option Nat) (i : Nat) (t : MT σ) :
    scanAt e s en none i t = if inWindow s en i then (t.test e false).1 else t := by
  simp [scanAt]

theorem scanAt_some (e : Event) (s : Nat) (en : Option Nat) (idx i : Nat) (t : MT σ) :
    scanAt e s en (some idx) i t =
      if inWindow s en i = true ∧ i ≤ idx then
        (if i = idx then { (t.test e false).1 with hits := (t.test e false).1.hits + 1 } else (t.test e false).1)
      else t := by
  unfold scanAt
  simp only [Option.some.injEq, forall_eq']
  by_cases h : i = idx
  · subst h; simp
  · simp only [h, show ¬ idx = i from fun h' => h h'.symm, ↓reduceIte]

/-- the template a scan reports: it was in the window, accepted, and has been counted -/
theorem scan_fired {e : Event} {s : Nat} {en : Option Nat} {m m1 : List (MT σ)} {idx : Nat} {t : MT σ}
    (hsc : scan e s en 0 m = (m1, some idx)) (ht : m1[idx]? = some t) :
    ∃ t0, m[idx]? = some t0 ∧ (t0.test e false).2 = true ∧ inWindow s en idx = true ∧
      t = { (t0.test e false).1 with hits := (t0.test e false).1.hits + 1 } := by
  obtain ⟨hw, ⟨t0, ht0, hf⟩, _⟩ := scan_first e s en m idx (by rw [hsc])
  have := scan_get e s en m idx
  rw [hsc, ht, ht0, Option.map_some, scanAt_some, if_pos ⟨hw, Nat.le_refl _⟩, if_pos rfl] at this
  exact ⟨t0, ht0, hf, hw, Option.some.inj this⟩

/-- a property of the templates that the operations cannot change holds after an operation that acts slot by slot -/
theorem forall_of_get {P : MT σ → Prop} (hP : Static P) {m m' : List (MT σ)} {g : Nat → MT σ → MT σ}
    (hg : ∀ i, m'[i]? = (m[i]?).map (g i)) (hs : ∀ i t, Shape t (g i t)) (hm : ∀ t ∈ m, P t) : ∀ t ∈ m', P t := by
  intro t' ht'
  obtain ⟨i, hi⟩ := List.getElem?_of_mem ht'
  rw [hg i] at hi
  obtain ⟨t, ht, rfl⟩ := Option.map_eq_some_iff.mp hi
  exact hP t _ (hs i t) (hm t (List.mem_of_getElem? ht))

theorem shape_ite {x a b : MT σ} {c : Prop} [Decidable c] (ha : Shape x a) (hb : Shape x b) :
    Shape x (if c then a else b) := by
  split <;> assumption

theorem scanAt_shape (e : Event) (s : Nat) (en : Option Nat) (hit : Option Nat) (i : Nat) (t : MT σ) :
    Shape t (scanAt e s en hit i t) :=
  shape_ite (shape_ite ((test_shape t e false).trans ⟨rfl, rfl, rfl, rfl, rfl⟩) (test_shape t e false)) (Shape.refl t)

theorem scan_forall_eq {P : MT σ → Prop} (hP : Static P) {e : Event} {start k : Nat} {end_ : Option Nat}
    {mts m1 : List (MT σ)} {hit : Option Nat} (h : scan e start end_ k mts = (m1, hit)) (hm : ∀ t ∈ mts, P t) :
    ∀ t ∈ m1, P t :=
  forall_of_get hP (g := fun i => scanAt e start end_ hit (k + i))
    (fun i => by have := scan_get_from e start end_ k mts i; rwa [h] at this) (fun _ _ => scanAt_shape ..) hm

theorem scanEnd_forall {P : MT σ → Prop} (hP : Static P) (e : Event) (start : Nat) (end_ : Option Nat) (k : Nat)
    (mts : List (MT σ)) (hm : ∀ t ∈ mts, P t) : ∀ t ∈ scanEnd e start end_ k mts, P t :=
  forall_of_get hP (scanEnd_get e start end_ k mts) (fun _ t => shape_ite (test_shape t e false) (Shape.refl t)) hm

theorem updRange_forall {P : MT σ → Prop} (hP : Static P) (e : Event) (lo hi : Nat) (k : Nat) (mts : List (MT σ))
    (hm : ∀ t ∈ mts, P t) : ∀ t ∈ updRange e lo hi k mts, P t :=
  forall_of_get hP (updRange_get e lo hi k mts) (fun _ t => shape_ite (test_shape t e true) (Shape.refl t)) hm

theorem fired_forall {P : MT σ → Prop} (hP : Static P) {t : MT σ} {idx : Nat} {mts : List (MT σ)}
    (hm : ∀ x ∈ mts, P x) : ∀ x ∈ fired t idx mts, P x :=
  forall_of_get hP (fired_get t idx mts) (fun _ x => shape_ite (retire_shape x) (Shape.refl x)) hm

theorem inWindow_iff (s : Nat) (en : Option Nat) (i : Nat) :
    inWindow s en i = true ↔ s ≤ i ∧ ∀ n, en = some n → i < n := by
  cases en with
  | none => simp [inWindow]
  | some n => simp [inWindow]

theorem inWindow_ge {s j : Nat} {en : Option Nat} (h : inWindow s en j = true) : s ≤ j :=
  ((inWindow_iff s en j).mp h).1

theorem inWindow_lt {s n j : Nat} (h : inWindow s (some n) j = true) : j < n :=
  ((inWindow_iff s (some n) j).mp h).2 n rfl

theorem inWindow_below {s j : Nat} {en : Option Nat} (h : j < s) : inWindow s en j = false := by
  cases hw : inWindow s en j with
  | false => rfl
  | true => have := inWindow_ge hw; omega

theorem inWindow_beyond {s n j : Nat} (h : n ≤ j) : inWindow s (some n) j = false := by
  cases hw : inWindow s (some n) j with
  | false => rfl
  | true => have := inWindow_lt hw; omega

theorem inWindow_single (i j : Nat) : inWindow i (some (i + 1)) j = true ↔ j = i :=
  ⟨fun h => by have := inWindow_ge h; have := inWindow_lt h; omega,
    fun h => (inWindow_iff _ _ _).mpr ⟨by omega, fun n hn => by cases hn; omega⟩⟩

theorem inWindow_empty (i j : Nat) : inWindow i (some i) j = false :=
  (Nat.lt_or_ge j i).elim inWindow_below inWindow_beyond

/-- below `m` the window `[s, m)` is the window `[s, e)` (for `m ≤ e`); from `m` on the window `[m, e)` is (for `s ≤ m`) -/
theorem inWindow_lo_eq {s m p : Nat} {e : Option Nat} (hme : ∀ n, e = some n → m ≤ n) (hp : p < m) :
    inWindow s (some m) p = inWindow s e p := by
  cases e with
  | none => simp [inWindow, hp]
  | some n => have := hme n rfl; simp [inWindow, hp, show p < n by omega]

theorem inWindow_hi_eq {s m p : Nat} {e : Option Nat} (hsm : s ≤ m) (hp : m ≤ p) : inWindow m e p = inWindow s e p := by
  cases e <;> simp [inWindow, hp, show s ≤ p by omega]

theorem inWindow_sub_of {a a' : Nat} {e e' : Option Nat} (ha : a ≤ a') (he : ∀ n, e = some n → ∃ n', e' = some n' ∧ n' ≤ n)
    {j : Nat} (hj : inWindow a' e' j = true) : inWindow a e j = true := by
  rw [inWindow_iff] at *
  refine ⟨by omega, fun n hn => ?_⟩
  obtain ⟨n', h1, h2⟩ := he n hn
  have := hj.2 n' h1
  omega

theorem inWindow_succ_of {s idx j : Nat} {en en' : Option Nat} (hs : s ≤ idx)
    (h : inWindow s en' j = inWindow s en j) : inWindow (idx + 1) en' j = inWindow (idx + 1) en j := by
  unfold inWindow at *
  by_cases hj : idx + 1 ≤ j
  · have : s ≤ j := by omega
    simp only [this, decide_true, Bool.true_and] at h
    simp only [hj, decide_true, Bool.true_and]
    exact h
  · simp [hj]

theorem preEnd_le (t : MT σ) (idx : Nat) : idx ≤ preEnd t idx ∧ preEnd t idx ≤ idx + 1 := by
  unfold preEnd; split <;> omega

/-- the windows of the three parts of a match (content, body, `updateonly` range) lie in the window of the match -/
theorem inWindow_inner {s : Nat} {en : Option Nat} {idx pe : Nat} (hidx : inWindow s en idx = true) (hpe : pe ≤ idx + 1)
    {j : Nat} (hj : inWindow s (some pe) j = true) : inWindow s en j = true := by
  rw [inWindow_iff] at *
  exact ⟨hj.1, fun n hn => by have h1 := hj.2 pe rfl; have h2 := hidx.2 n hn; omega⟩

theorem inWindow_body {s : Nat} {en : Option Nat} {idx : Nat} (hidx : inWindow s en idx = true)
    {j : Nat} (hj : inWindow (idx + 1) en j = true) : inWindow s en j = true := by
  rw [inWindow_iff] at *
  exact ⟨by omega, hj.2⟩

theorem inWindow_upd {s : Nat} {en : Option Nat} {idx : Nat} (hidx : inWindow s en idx = true)
    {j : Nat} (hj : (decide (s ≤ j) && decide (j < idx + 1)) = true) : inWindow s en j = true := by
  simp only [Bool.and_eq_true, decide_eq_true_eq] at hj
  rw [inWindow_iff] at *
  exact ⟨hj.1, fun n hn => by have := hidx.2 n hn; omega⟩

/-! Slot-wise relations between template lists.  Every operation on the template list acts slot by slot; `scan`
    alone looks across slots, and only for the first slot of the window whose test accepts.  `Pw R A B`: the lists
    have the same length and `R i` relates their slots `i`.  One lemma per operation carries such a relation
    across it (`Pw.scan`, `Pw.scanEnd`, `Pw.updRange`, `Pw.fired`), and `run_pw` (Lemmas/MatchSim.lean) across a whole
    run.  `LRel` (`lrel_iff_pw`), `PRel` (`prel_iff_pw`), "is `map f` of" (`pw_map_iff`) and "is `splice` of"
    (`pw_splice_iff`) are instances. -/

def Pw {α β : Type} (R : Nat → α → β → Prop) (A : List α) (B : List β) : Prop :=
  A.length = B.length ∧ ∀ i a b, A[i]? = some a → B[i]? = some b → R i a b

section
variable {α β : Type} {R : Nat → α → β → Prop} {A : List α} {B : List β}

theorem Pw.left (h : Pw R A B) {i : Nat} {a : α} (ha : A[i]? = some a) : ∃ b, B[i]? = some b ∧ R i a b := by
  have hi : i < B.length := h.1 ▸ (List.getElem?_eq_some_iff.mp ha).1
  exact ⟨B[i], List.getElem?_eq_getElem hi, h.2 i a _ ha (List.getElem?_eq_getElem hi)⟩

theorem Pw.right (h : Pw R A B) {i : Nat} {b : β} (hb : B[i]? = some b) : ∃ a, A[i]? = some a ∧ R i a b := by
  have hi : i < A.length := h.1 ▸ (List.getElem?_eq_some_iff.mp hb).1
  exact ⟨A[i], List.getElem?_eq_getElem hi, h.2 i _ b (List.getElem?_eq_getElem hi) hb⟩

/-- lists obtained slot by slot (`f i`, `g i`) from related lists are related -/
theorem Pw.map {α' β' : Type} {R' : Nat → α' → β' → Prop} {A' : List α'} {B' : List β'} (h : Pw R A B)
    {f : Nat → α → α'} {g : Nat → β → β'}
    (hA : ∀ i, A'[i]? = (A[i]?).map (f i)) (hB : ∀ i, B'[i]? = (B[i]?).map (g i))
    (hR : ∀ i a b, R i a b → R' i (f i a) (g i b)) : Pw R' A' B' := by
  refine ⟨by rw [length_of_get hA, length_of_get hB, h.1], fun i a' b' ha' hb' => ?_⟩
  rw [hA i] at ha'; rw [hB i] at hb'
  obtain ⟨a, ha, rfl⟩ := Option.map_eq_some_iff.mp ha'
  obtain ⟨b, hb, rfl⟩ := Option.map_eq_some_iff.mp hb'
  exact hR i a b (h.2 i a b ha hb)

theorem Pw.snoc (h : Pw R A B) {a : α} {b : β} (hab : R A.length a b) : Pw R (A ++ [a]) (B ++ [b]) := by
  refine ⟨by simp [h.1], fun i x y hx hy => ?_⟩
  by_cases hi : i < A.length
  · rw [List.getElem?_append_left hi] at hx
    rw [List.getElem?_append_left (h.1 ▸ hi)] at hy
    exact h.2 i x y hx hy
  · have hia : i = A.length := by
      have := (List.getElem?_eq_some_iff.mp hx).1
      simp only [List.length_append, List.length_cons, List.length_nil] at this
      omega
    subst hia
    rw [List.getElem?_concat_length] at hx
    rw [h.1, List.getElem?_concat_length] at hy
    cases hx; cases hy; exact hab

theorem pw_nil : Pw R ([] : List α) ([] : List β) := ⟨rfl, fun _ _ _ ha => nomatch ha⟩

/-- `Pw` along `cons`: how the inductive slot-wise relations (`LRel`, `PRel`) are read as `Pw` -/
theorem pw_cons_iff {a : α} {b : β} : Pw R (a :: A) (b :: B) ↔ R 0 a b ∧ Pw (fun i => R (i + 1)) A B := by
  constructor
  · intro h
    exact ⟨h.2 0 a b rfl rfl, Nat.succ.inj h.1, fun i x y hx hy => h.2 (i + 1) x y hx hy⟩
  · rintro ⟨h0, h⟩
    refine ⟨congrArg (· + 1) h.1, fun i x y hx hy => ?_⟩
    cases i with
    | zero => cases hx; cases hy; exact h0
    | succ i => exact h.2 i x y hx hy

theorem pw_map_iff {f : α → β} : Pw (fun _ a b => b = f a) A B ↔ B = A.map f := by
  constructor
  · intro h
    apply List.ext_getElem?; intro i
    rw [List.getElem?_map]
    cases hb : B[i]? with
    | none =>
      rw [List.getElem?_eq_none_iff] at hb; rw [← h.1] at hb
      rw [List.getElem?_eq_none_iff.mpr hb]; rfl
    | some b => obtain ⟨a, ha, rfl⟩ := h.right hb; rw [ha]; rfl
  · rintro rfl
    exact ⟨by simp, fun i a b ha hb => by rw [List.getElem?_map, ha] at hb; exact (Option.some.inj hb).symm⟩

end

variable {τ : Type} {R R' : Nat → MT σ → MT τ → Prop} {A : List (MT σ)} {B : List (MT τ)}

/-- two scans (lists, windows and matcher state types may differ) give the same verdict when, slot by slot up to
    the slot the first one stops at, "in the window and accepts" is the same on both sides -/
theorem scan_hit_congr {e : Event} {s s' : Nat} {en en' : Option Nat} (hl : A.length = B.length)
    (hv : ∀ i a b, A[i]? = some a → B[i]? = some b → (∀ idx, (scan e s en 0 A).2 = some idx → i ≤ idx) →
      (inWindow s en i && (a.test e false).2) = (inWindow s' en' i && (b.test e false).2)) :
    (scan e s' en' 0 B).2 = (scan e s en 0 A).2 := by
  have hP : Pw (fun _ _ _ => True) A B := ⟨hl, fun _ _ _ _ _ => trivial⟩
  -- a slot of the right window where the left side, in its window, declines
  have key : ∀ i x z, A[i]? = some x → B[i]? = some z → (∀ idx, (scan e s en 0 A).2 = some idx → i ≤ idx) →
      (inWindow s en i = true → (x.test e false).2 = false) → inWindow s' en' i = true → (z.test e false).2 = false := by
    intro i x z hx hz hle hdec hwz
    have := hv i x z hx hz hle
    rw [hwz, Bool.true_and] at this
    rw [← this]
    cases hwA : inWindow s en i with
    | false => rfl
    | true => rw [Bool.true_and]; exact hdec hwA
  cases hA : (scan e s en 0 A).2 with
  | none =>
    rw [scan_none_iff] at hA ⊢
    intro i z hz hw
    obtain ⟨x, hx, _⟩ := hP.right hz
    exact key i x z hx hz (fun idx h => by rw [scan_none_iff.mpr hA] at h; cases h) (hA i x hx) hw
  | some idx =>
    have hA' := hA
    rw [scan_hit_iff] at hA ⊢
    obtain ⟨⟨t, ht, hw, hf⟩, hlt⟩ := hA
    obtain ⟨y, hy, _⟩ := hP.left ht
    have h0 := (hv idx t y ht hy (fun j h => by rw [hA'] at h; cases h; exact Nat.le_refl _)).symm
    rw [hw, hf] at h0
    simp only [Bool.and_self, Bool.and_eq_true] at h0
    refine ⟨⟨y, hy, h0.1, h0.2⟩, fun i z hi hz hwz => ?_⟩
    obtain ⟨x, hx, _⟩ := hP.right hz
    exact key i x z hx hz (fun j h => by rw [hA'] at h; cases h; exact Nat.le_of_lt hi) (hlt i x hi hx) hwz

/-- a slot-wise relation across two scans with the same verdict -/
theorem Pw.scan (h : Pw R A B) {e : Event} {s s' : Nat} {en en' : Option Nat}
    (hhit : (scan e s' en' 0 B).2 = (scan e s en 0 A).2)
    (hR : ∀ i a b, R i a b → R' i (scanAt e s en (scan e s en 0 A).2 i a) (scanAt e s' en' (scan e s en 0 A).2 i b)) :
    Pw R' (scan e s en 0 A).1 (scan e s' en' 0 B).1 :=
  h.map (scan_get e s en A) (fun i => by rw [scan_get, hhit]) hR

theorem Pw.scanEnd (h : Pw R A B) (e : Event) (s s' : Nat) (en en' : Option Nat)
    (hR : ∀ i a b, R i a b → R' i (if inWindow s en i then (a.test e false).1 else a)
      (if inWindow s' en' i then (b.test e false).1 else b)) :
    Pw R' (scanEnd e s en 0 A) (scanEnd e s' en' 0 B) :=
  h.map (fun i => by rw [scanEnd_get, Nat.zero_add]) (fun i => by rw [scanEnd_get, Nat.zero_add]) hR

theorem Pw.updRange (h : Pw R A B) (e : Event) (lo lo' hi hi' : Nat)
    (hR : ∀ i a b, R i a b → R' i (if decide (lo ≤ i) && decide (i < hi) then (a.test e true).1 else a)
      (if decide (lo' ≤ i) && decide (i < hi') then (b.test e true).1 else b)) :
    Pw R' (updRange e lo hi 0 A) (updRange e lo' hi' 0 B) :=
  h.map (fun i => by rw [updRange_get, Nat.zero_add]) (fun i => by rw [updRange_get, Nat.zero_add]) hR

theorem Pw.fired (h : Pw R A B) (t : MT σ) (t' : MT τ) (idx idx' : Nat)
    (hR : ∀ i a b, R i a b → R' i (if i = idx ∧ t.once = true then a.retire else a)
      (if i = idx' ∧ t'.once = true then b.retire else b)) :
    Pw R' (Genshi.Match.fired t idx A) (Genshi.Match.fired t' idx' B) :=
  h.map (fired_get t idx A) (fired_get t' idx' B) hR

end Genshi.Match
