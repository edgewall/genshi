/-
  C12 — the real matcher (`Path.test(ignore_context=True)` of the C05/C17 path model) against the
  matcher laws of the C12 theorems.

  * `FlagFree`: literally (no strategy reads `updateonly`).
  * `Lawful` (an END undoes its START): not literally — GenericStrategy's store of counter lists only
    grows — but the closure is *simulated* (`TRel`, Lemmas/MatchSim.lean) by a machine that is lawful
    for every state: per location path
      - GenericStrategy without position tests → the position machine `aStep` of C05
        (`gStep_abstract`), whose state is the stack of candidate positions only;
      - SingleStepStrategy (pattern mode keeps no depth) without position tests → itself: its
        counters never move;
      - SimplePathStrategy → itself: one stack entry pushed per START, one popped per END;
    and the union dispatcher `_multi` component by component.
  * With a position test the law fails: `real_positional_not_lawful` (Props/C12.lean).
-/
import Genshi.Lemmas.MatchSim
import Genshi.Lemmas.PathGeneric
import Genshi.Lemmas.PathKmpStep
import Genshi.Lemmas.PathUnion
import Genshi.Model.MatchReal
namespace Genshi.Match
open Genshi Genshi.Path

/-- state of the simulating machine for one location path -/
inductive AM where
  | g (a : AState)
  | s (s : SState)
  | p (s : PState)

theorem isStart_eq (e : Event) : e.isStart = isStart e := by cases e <;> rfl
theorem isEnd_eq (e : Event) : e.isEnd = isEnd e := by cases e <;> rfl

section
variable (ns : NsMap) (vs : Vars)

def aMatcherStep (m : Matcher) (st : AM) (e : Event) : AM × Val :=
  match m, st with
  | .generic S, .g a =>
      (.g (aStep ns vs (S.take (realLen S)) S.length a e).1, (aStep ns vs (S.take (realLen S)) S.length a e).2)
  | .single steps ic, .s s => (.s (sStep steps ic ns vs s e).1, (sStep steps ic ns vs s e).2)
  | .simple frags ic, .p s => (.p (pStep frags ic ns s e).1, (pStep frags ic ns s e).2)
  | _, st => (st, .none)

/-- the static conditions under which the matcher of one location path is simulated by a lawful
    machine: no position tests; GenericStrategy's path does not end in an attribute step; SingleStepStrategy and
    SimplePathStrategy in pattern mode (`ic = true`, what `ignore_context=True` builds) -/
def MatcherOk : Matcher → Prop
  | .generic S => realLen (S.take (realLen S)) = realLen S ∧ NoPositional ns vs (S.take (realLen S)) ∧
      0 < realLen S ∧ ∀ e, lastResult S e ns = .bool true
  | .single steps ic => ic = true ∧ ∀ s0, steps.head? = some s0 → ∀ p ∈ s0.preds, ∀ e, (p.eval e ns vs).isNum = false
  | .simple _ ic => ic = true

def MRel : Matcher → MState → AM → Prop
  | .generic S, .g g, .g a => StRel (realLen S) g a
  | .single _ _, .s s, .s s' => s = s'
  | .simple _ _, .p s, .p s' => s = s'
  | _, _, _ => False

theorem matcher_sim (m : Matcher) (hm : MatcherOk ns vs m) (s : MState) (a : AM) (h : MRel m s a) (e : Event) :
    MRel m (m.step ns vs s e).1 (aMatcherStep ns vs m a e).1 ∧ (m.step ns vs s e).2 = (aMatcherStep ns vs m a e).2 := by
  cases m with
  | generic S =>
    cases s <;> cases a <;> simp only [MRel] at h
    rename_i g a
    obtain ⟨hrl, hnp, _, hlast⟩ := hm
    obtain ⟨h1, h2⟩ := gStep_abstract ns vs S hrl hnp g a h e
    refine ⟨h1, ?_⟩
    show (gStep S ns vs g e).2 = _
    rw [h2, hlast e]
    exact gate_true _ (aStep_out ns vs _ _ a e)
  | single steps ic =>
    cases s <;> cases a <;> simp only [MRel] at h
    subst h
    exact ⟨rfl, rfl⟩
  | simple frags ic =>
    cases s <;> cases a <;> simp only [MRel] at h
    subst h
    exact ⟨rfl, rfl⟩

theorem sPreds_nonpos (e : Event) (preds : List Expr) (h : ∀ p ∈ preds, (p.eval e ns vs).isNum = false) :
    ∀ (cnum : Nat) (counters : List Nat),
      sPreds e ns vs preds cnum counters = (preds.all (fun p => (p.eval e ns vs).truthy), counters) := by
  induction preds with
  | nil => intro cnum counters; rfl
  | cons p ps ih =>
    intro cnum counters
    rw [sPreds_cons_other ns vs e p ps cnum counters (h p List.mem_cons_self), ih fun q hq => h q (List.mem_cons_of_mem _ hq),
      List.all_cons]
    cases (p.eval e ns vs).truthy <;> rfl

/-- SingleStepStrategy in pattern mode without position tests never changes its state -/
theorem sStep_fixed (steps : List Step)
    (h : ∀ s0, steps.head? = some s0 → ∀ p ∈ s0.preds, ∀ e, (p.eval e ns vs).isNum = false)
    (st : SState) (e : Event) : (sStep steps true ns vs st e).1 = st := by
  by_cases he : e.isEnd = true
  · obtain ⟨tag, rfl⟩ : ∃ tag, e = .end_ tag := by cases e <;> simp [Event.isEnd] at he; exact ⟨_, rfl⟩
    rw [sStep_end]; rfl
  · by_cases hm : e.isNsOrCdata = true
    · rw [sStep_marker _ _ _ _ _ _ (by simpa using he) hm]
    · cases hh : steps.head? with
      | none => simp [sStep, he, hm, hh]
      | some s0 =>
        cases hl : steps.getLast? with
        | none => simp [sStep, he, hm, hh, hl]
        | some sl =>
          -- in pattern mode nothing is outside and the depth does not move; the counters only move on position tests
          rw [sStep_run steps s0 sl hh hl true ns vs st e (by simpa using he) (by simpa using hm),
            sPreds_nonpos ns vs e s0.preds (fun p hp => h s0 hh p hp e)]
          simp only [sOutside, sBump, Bool.not_true, Bool.false_and, Bool.false_eq_true, if_false]
          (repeat' split) <;> rfl

/-- SimplePathStrategy keeps a stack: a START pushes one entry, any other event that is not an END leaves the stack
    alone; with the context kept, the very first event can also push (it is outside the context) -/
theorem pStep_stack (frags : List Frag) (ic : Bool) (st : PState) (e : Event) (hE : e.isEnd = false) :
    ∃ x, (pStep (some frags) ic ns st e).1 = (if e.isStart then x :: st else st) ∨
      (ic = false ∧ (pStep (some frags) ic ns st e).1 = x :: st) := by
  unfold pStep
  simp -zeta only [hE, Bool.false_eq_true, if_false]
  by_cases hm : e.isNsOrCdata = true
  · have : e.isStart = false := by cases e <;> simp_all [Event.isNsOrCdata, Event.isStart]
    exact ⟨default, Or.inl (by simp [hm, this])⟩
  · simp -zeta only [hm, Bool.false_eq_true, if_false]
    extract_lets fl sk ic0 sb0 start
    rcases hst : start with _ | ⟨fp, ic'⟩
    · refine ⟨_, Or.inr ⟨?_, rfl⟩⟩
      cases st with
      | nil => simp only [start] at hst; split at hst <;> simp_all
      | cons top tl => simp [start] at hst
    · clear_value start
      cases fp with
      | none => exact ⟨_, Or.inl rfl⟩
      | some q =>
        obtain ⟨fid, p⟩ := q
        simp -zeta only []
        extract_lets bound
        clear_value bound
        rcases bound with _ | ⟨_ | ⟨fid', p'⟩, ic'', fl', at'⟩
        · exact ⟨_, Or.inl rfl⟩
        · exact ⟨_, Or.inl rfl⟩
        · simp -zeta only []
          extract_lets st'
          obtain ⟨x, hx⟩ : ∃ x, st' = if e.isStart then x :: st else st := ⟨_, rfl⟩
          refine ⟨x, Or.inl ?_⟩
          rw [← hx]
          (repeat' split) <;> rfl

/-- SimplePathStrategy pushes exactly one stack entry per START -/
theorem pStep_start (frags : List Frag) (ic : Bool) (st : PState) (tg : QName) (at_ : AttrList) :
    ((pStep (some frags) ic ns st (.start tg at_)).1).drop 1 = st := by
  obtain ⟨x, h | ⟨_, h⟩⟩ := pStep_stack ns frags ic st (.start tg at_) rfl <;> rw [h] <;> rfl

/-- SimplePathStrategy leaves its stack alone on events that are neither START nor END -/
theorem pStep_leaf (frags : Option (List Frag)) (st : PState) (e : Event)
    (h1 : e.isStart = false) (h2 : e.isEnd = false) : (pStep frags true ns st e).1 = st := by
  cases frags with
  | none => rfl
  | some fr =>
    obtain ⟨x, h | ⟨h, _⟩⟩ := pStep_stack ns fr true st e h2
    · rw [h, h1]; rfl
    · cases h

theorem matcher_lawful (m : Matcher) (hm : MatcherOk ns vs m) (a : AM) (tg : QName) (at_ : AttrList) :
    (aMatcherStep ns vs m (aMatcherStep ns vs m a (.start tg at_)).1 (.end_ tg)).1 = a := by
  cases m with
  | generic S =>
    cases a with
    -- `aStep`: a START pushes one list of positions onto the stack, an END drops the top one
    | g a => simp [aMatcherStep, aStep, Event.isEnd, Event.isNsOrCdata, Event.isStart]
    | s _ => rfl
    | p _ => rfl
  | single steps ic =>
    cases a with
    | s s =>
      obtain ⟨rfl, h⟩ := hm
      simp only [aMatcherStep, sStep_fixed ns vs steps h]
    | g _ => rfl
    | p _ => rfl
  | simple frags ic =>
    cases a with
    | p s =>
      simp only [aMatcherStep]
      cases frags with
      | none => rfl
      | some fr => rw [pStep_end, pStep_start]
    | g _ => rfl
    | s _ => rfl

theorem matcher_leafFree (m : Matcher) (hm : MatcherOk ns vs m) (a : AM) (e : Event)
    (h1 : e.isStart = false) (h2 : e.isEnd = false) : (aMatcherStep ns vs m a e).1 = a := by
  cases m with
  | generic S =>
    cases a with
    | g a =>
      simp only [aMatcherStep, aStep, h1, h2, Bool.false_eq_true, if_false]
      split <;> rfl
    | s _ => rfl
    | p _ => rfl
  | single steps ic =>
    cases a with
    | s s =>
      obtain ⟨rfl, h⟩ := hm
      simp only [aMatcherStep, sStep_fixed ns vs steps h]
    | g _ => rfl
    | p _ => rfl
  | simple frags ic =>
    cases a with
    | p s =>
      have hic : ic = true := hm
      subst hic
      simp only [aMatcherStep, pStep_leaf ns frags s e h1 h2]
    | g _ => rfl
    | s _ => rfl

/-- `_multi` over the simulating machines (as `multiStep`): every component steps, the answer is the first that is not `None` -/
def aMulti : List Matcher → List AM → Event → List AM × Val
  | m :: ms, s :: ss, e =>
    ((aMatcherStep ns vs m s e).1 :: (aMulti ms ss e).1,
     if (aMatcherStep ns vs m s e).2.isNone then (aMulti ms ss e).2 else (aMatcherStep ns vs m s e).2)
  | [], ss, _ => (ss, .none)
  | _ :: _, [], _ => ([], .none)

/-- the simulating closure: `_multi` over the component machines, verdict `result is True` -/
def absStep (ms : List Matcher) (st : List AM) (e : Event) (_u : Bool) : List AM × Bool :=
  ((aMulti ns vs ms st e).1, (aMulti ns vs ms st e).2 == Val.bool true)

inductive LMRel : List Matcher → List MState → List AM → Prop
  | nil : LMRel [] [] []
  | cons {m s a ms ss as} : MRel m s a → LMRel ms ss as → LMRel (m :: ms) (s :: ss) (a :: as)

theorem multiStep_cons (m : Matcher) (ms : List Matcher) (s : MState) (ss : List MState) (e : Event) :
    multiStep (m :: ms) ns vs (s :: ss) e =
      ((m.step ns vs s e).1 :: (multiStep ms ns vs ss e).1,
       if (m.step ns vs s e).2.isNone then (multiStep ms ns vs ss e).2 else (m.step ns vs s e).2) := by
  simp only [multiStep, List.zip_cons_cons, List.map_cons]
  rw [foldl_first_cons]

theorem multi_sim : ∀ {ms : List Matcher} {ss : List MState} {as : List AM}, (∀ m ∈ ms, MatcherOk ns vs m) →
    LMRel ms ss as → ∀ e, LMRel ms (multiStep ms ns vs ss e).1 (aMulti ns vs ms as e).1 ∧
      (multiStep ms ns vs ss e).2 = (aMulti ns vs ms as e).2 := by
  intro ms ss as hok h
  induction h with
  | nil => intro e; exact ⟨.nil, rfl⟩
  | @cons m s a ms ss as hm hrest ih =>
    intro e
    obtain ⟨h1, h2⟩ := matcher_sim ns vs m (hok m List.mem_cons_self) s a hm e
    obtain ⟨i1, i2⟩ := ih (fun x hx => hok x (List.mem_cons_of_mem _ hx)) e
    rw [multiStep_cons]
    simp only [aMulti]
    exact ⟨.cons h1 i1, by rw [h2, i2]⟩

theorem multi_lawful : ∀ (ms : List Matcher), (∀ m ∈ ms, MatcherOk ns vs m) → ∀ (st : List AM) (tg : QName) (at_ : AttrList),
    (aMulti ns vs ms (aMulti ns vs ms st (.start tg at_)).1 (.end_ tg)).1 = st := by
  intro ms
  induction ms with
  | nil => intro _ st tg at_; rfl
  | cons m ms ih =>
    intro hok st tg at_
    cases st with
    | nil => rfl
    | cons s ss =>
      simp only [aMulti]
      rw [matcher_lawful ns vs m (hok m List.mem_cons_self), ih (fun x hx => hok x (List.mem_cons_of_mem _ hx))]

theorem multi_leafFree : ∀ (ms : List Matcher), (∀ m ∈ ms, MatcherOk ns vs m) → ∀ (st : List AM) (e : Event),
    e.isStart = false → e.isEnd = false → (aMulti ns vs ms st e).1 = st := by
  intro ms
  induction ms with
  | nil => intro _ st e _ _; rfl
  | cons m ms ih =>
    intro hok st e h1 h2
    cases st with
    | nil => rfl
    | cons s ss =>
      simp only [aMulti]
      rw [matcher_leafFree ns vs m (hok m List.mem_cons_self) s e h1 h2,
        ih (fun x hx => hok x (List.mem_cons_of_mem _ hx)) ss e h1 h2]

/-- the state of the simulating machine that corresponds to a matcher's initial state (`mk_rel`) -/
def initA : Matcher → AM
  | .generic _ => .g [[0]]
  | .single _ _ => .s ⟨[], 0⟩
  | .simple _ _ => .p []

/-- the simulating template of `mkReal` -/
def mkAbs (paths : List LocPath) (body : List BItem) (h : Hints) (force : Option Strategy := none) : MT (List AM) :=
  MT.ofHints (absStep ns vs (pathTest paths true force).1) ((pathTest paths true force).1.map initA) body h

/-- every location path of the union is in the lawful (non-positional) subset -/
def PathsOk (paths : List LocPath) (force : Option Strategy := none) : Prop :=
  ∀ m ∈ (pathTest paths true force).1, MatcherOk ns vs m

theorem mk_rel (st : Strategy) (p : LocPath) (hm : MatcherOk ns vs (mkMatcher st p true).1) :
    MRel (mkMatcher st p true).1 (mkMatcher st p true).2 (initA (mkMatcher st p true).1) := by
  cases st with
  | generic =>
    simp only [mkMatcher, initA, MRel, MatcherOk] at hm ⊢
    exact ⟨rfl, by simp [gInit], by simp [gInit, hm.2.2.1]⟩
  | single => simp [mkMatcher, initA, MRel]
  | simple => simp [mkMatcher, initA, MRel]

theorem init_rel (paths : List LocPath) (force : Option Strategy) (hok : PathsOk ns vs paths force) :
    LMRel (pathTest paths true force).1 (pathTest paths true force).2 ((pathTest paths true force).1.map initA) := by
  unfold PathsOk at hok
  simp only [pathTest, List.map_map] at hok ⊢
  induction paths with
  | nil => exact .nil
  | cons p ps ih =>
    simp only [List.map_cons]
    refine .cons ?_ (ih (fun m hm => hok m (by simp only [List.map_cons]; exact List.mem_cons_of_mem _ hm)))
    have hm := hok _ (by simp only [List.map_cons]; exact List.mem_cons_self)
    exact mk_rel ns vs _ p hm

def RealRel (ms : List Matcher) (s : RSt) (a : List AM) : Prop := LMRel ms s a

theorem real_step_sim (ms : List Matcher) (hok : ∀ m ∈ ms, MatcherOk ns vs m) (s : RSt) (a : List AM) (e : Event) (u : Bool)
    (h : RealRel ms s a) :
    RealRel ms (realStep ms ns vs s e u).1 (absStep ns vs ms a e u).1 ∧
      (realStep ms ns vs s e u).2 = (absStep ns vs ms a e u).2 := by
  obtain ⟨h1, h2⟩ := multi_sim ns vs hok h e
  exact ⟨h1, by simp only [realStep, absStep, h2]⟩

/-- **the real matcher is simulated by its abstraction** -/
theorem real_trel (paths : List LocPath) (body : List BItem) (h : Hints) (force : Option Strategy)
    (hok : PathsOk ns vs paths force) : TRel (mkReal paths ns vs body h force) (mkAbs ns vs paths body h force) :=
  ⟨RealRel (pathTest paths true force).1,
   fun s t e u _ hr => real_step_sim ns vs _ hok s t e u hr,
   init_rel ns vs paths force hok, rfl, rfl, rfl, rfl, rfl, rfl⟩

theorem abs_lawful (paths : List LocPath) (body : List BItem) (h : Hints) (force : Option Strategy)
    (hok : PathsOk ns vs paths force) : Lawful (mkAbs ns vs paths body h force) := by
  intro st tg at_ u u'
  exact multi_lawful ns vs _ hok st tg at_

theorem abs_leafFree (paths : List LocPath) (body : List BItem) (h : Hints) (force : Option Strategy)
    (hok : PathsOk ns vs paths force) : LeafFree (mkAbs ns vs paths body h force) := by
  intro st e u h1 h2
  exact multi_leafFree ns vs _ hok st e (by rw [isStart_eq]; exact h1) (by rw [isEnd_eq]; exact h2)

theorem abs_flagFree (paths : List LocPath) (body : List BItem) (h : Hints) (force : Option Strategy) :
    FlagFree (mkAbs ns vs paths body h force) := fun _ _ _ _ => rfl

/-- **FlagFree, literally**: the closure of the path model does not read `updateonly` -/
theorem real_flagFree (paths : List LocPath) (body : List BItem) (h : Hints) (force : Option Strategy) :
    FlagFree (mkReal paths ns vs body h force) := fun _ _ _ _ => rfl

/-- the marks of the real matcher over any event list are the verdicts of `runTest` (C05/C17) -/
theorem real_marks (ms : List Matcher) : ∀ (es : List Event) (st : RSt),
    (marksOf (realStep ms ns vs) st es).1 = (runTest ms ns vs st es).map (· == Val.bool true) := by
  intro es
  induction es with
  | nil => intro st; rfl
  | cons e es ih => intro st; simp [marksOf, runTest, realStep, ih]

/-- related states give the same marks, over every kind of event -/
theorem marks_sim (ms : List Matcher) (hok : ∀ m ∈ ms, MatcherOk ns vs m) : ∀ (es : List Event) (s : RSt) (a : List AM),
    RealRel ms s a → (marksOf (realStep ms ns vs) s es).1 = (marksOf (absStep ns vs ms) a es).1 := by
  intro es
  induction es with
  | nil => intro s a _; rfl
  | cons e es ih =>
    intro s a h
    obtain ⟨h1, h2⟩ := real_step_sim ns vs ms hok s a e false h
    simp only [marksOf, h2, ih _ _ h1]

/-- a step list with the static hypotheses of C05 (`StepsOk`: no attribute step, well-formed tests,
    typed predicates, none of them a position test) is in the lawful subset under GenericStrategy -/
theorem matcherOk_generic (S : List Step) (h : StepsOk ns vs S) : MatcherOk ns vs (.generic S) := by
  have hrl := h.realLen ns vs
  have htake : S.take (realLen S) = S := by rw [hrl]; exact List.take_length
  refine ⟨by rw [htake], ?_, by rw [hrl]; exact h.ne, fun e => h.lastResult ns vs e⟩
  rw [htake]
  exact h.noPositional ns vs

/-- a single step without position tests is in the lawful subset under SingleStepStrategy (pattern mode) -/
theorem matcherOk_single (steps : List Step) (h : ∀ s0, steps.head? = some s0 → ∀ q ∈ s0.preds, q.numTyped vs = false) :
    MatcherOk ns vs (.single steps true) :=
  ⟨rfl, fun s0 hs q hq e => by rw [isNum_eval, h s0 hs q hq]⟩

end

end Genshi.Match
