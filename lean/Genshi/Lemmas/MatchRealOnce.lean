/-
  C12 — `once` on trees for the real matcher: `once_stage_is_spec` and `once_stage_is_onceList`
  ("replace the first match in document order") carried through the simulation by the lawful abstraction.
-/
import Genshi.Lemmas.MatchRealSpec
import Genshi.Lemmas.MatchOnceTree
namespace Genshi.Match
open Genshi Genshi.Path

section
variable {σ τ : Type}

mutual
  theorem countNode_sim {a : MT σ} {b : MT τ} (R : σ → τ → Prop)
      (hstep : ∀ s t e u, SE e → R s t → R (a.step s e u).1 (b.step t e u).1 ∧ (a.step s e u).2 = (b.step t e u).2)
      (hrec : a.recursive = b.recursive) {s0 : σ} {t0 : τ} (h0 : R s0 t0) :
      ∀ (n : Node) (anc : List Open), countNode a s0 anc n = countNode b t0 anc n
    | .leaf e, anc => rfl
    | .elem tg at_ kids, anc => by
        have hk := countList_sim R hstep hrec h0 kids ((tg, at_) :: anc)
        have hv := (hstep _ _ (.start tg at_) false (Or.inl rfl) (openSt_rel (a := a) (b := b) R hstep h0 anc)).2
        simp only [countNode, hv, hk, hrec]
  theorem countList_sim {a : MT σ} {b : MT τ} (R : σ → τ → Prop)
      (hstep : ∀ s t e u, SE e → R s t → R (a.step s e u).1 (b.step t e u).1 ∧ (a.step s e u).2 = (b.step t e u).2)
      (hrec : a.recursive = b.recursive) {s0 : σ} {t0 : τ} (h0 : R s0 t0) :
      ∀ (ns : List Node) (anc : List Open), countList a s0 anc ns = countList b t0 anc ns
    | [], anc => rfl
    | n :: ns, anc => by
        simp only [countList, countNode_sim R hstep hrec h0 n anc, countList_sim R hstep hrec h0 ns anc]
end

theorem countList_trel {a : MT σ} {b : MT τ} (h : TRel a b) (ns : List Node) :
    countList a a.st [] ns = countList b b.st [] ns := by
  obtain ⟨R, hstep, hst, _, _, hr, _⟩ := h
  exact countList_sim R hstep hr hst ns []

theorem trel_onceAt {a : MT σ} {b : MT τ} (h : TRel a b) : TRel (onceAt a) (onceAt b) := by
  obtain ⟨R, hstep, hst, hb, _, hr, hbu, hre, hh⟩ := h
  exact ⟨R, hstep, hst, hb, rfl, hr, hbu, hre, hh⟩

theorem lrel_set : ∀ {A : List (MT σ)} {B : List (MT τ)}, LRel A B → ∀ (i : Nat) {a : MT σ} {b : MT τ}, TRel a b →
    LRel (A.set i a) (B.set i b) := by
  intro A B h
  induction h with
  | nil => intro i a b _; exact .nil
  | @cons x y A B hxy hAB ih =>
    intro i a b hab
    cases i with
    | zero => exact .cons hab hAB
    | succ i => exact .cons hxy (ih i hab)

end

/-- **`once` on trees, real matcher.**  Declarations without position tests; the declaration `d` of slot
    `i` does not carry the hint; on a forest in which its (real) matcher fires at most once, the stage
    of slot `i` with `once="true"` set on it yields the tree rewrite `specList` of the unhinted template. -/
theorem real_once_stage_is_spec (ns : NsMap) (vs : Vars) (ds : List Decl) (hok : ∀ d ∈ ds, d.ok ns vs)
    (i : Nat) (d : Decl) (hd : ds[i]? = some d) (ho : d.hints.matchOnce = false)
    (f : Nat) (forest : List Node) (r : List (MT RSt) × List Event) (hns : okList forest = true)
    (h : run f i (some (i + 1)) (evItems (flattenList forest)) (ds.map (Decl.real ns vs)) = some r)
    (hfew : countList (d.real ns vs) (d.real ns vs).st [] forest ≤ 1) :
    ∃ c', run f i (some (i + 1)) (evItems (flattenList forest)) ((ds.map (Decl.real ns vs)).set i (onceAt (d.real ns vs)))
      = some (c', specList (d.real ns vs) (d.real ns vs).st [] forest) := by
  have hL := decls_lrel ns vs ds hok
  have hdok := hok d (List.mem_of_getElem? hd)
  obtain ⟨htr, hl, _⟩ := Decl.abs_ok ns vs hdok
  obtain ⟨B, h2⟩ := real_run_abs ns vs ds hok h
  have hget : (ds.map (Decl.abs ns vs))[i]? = some (d.abs ns vs) := by rw [List.getElem?_map, hd]; rfl
  have hfew' : countList (d.abs ns vs) (d.abs ns vs).st [] forest ≤ 1 := by
    rw [← countList_trel htr forest]; exact hfew
  obtain ⟨c', hc⟩ := once_stage_is_spec (d.abs ns vs) i hl ho rfl f forest _ _ hns hget h2 hfew'
  have hL' := lrel_set hL i (trel_onceAt htr)
  rcases run_rel f i (some (i + 1)) (irel_evItems (σ := RSt) (τ := List AM) (flattenList forest)) hL' with
    ⟨_, g2⟩ | ⟨A', B', o', g1, g2, _⟩
  · change run f i (some (i + 1)) _ ((ds.map (Decl.abs ns vs)).set i (onceAt (d.abs ns vs))) = none at g2
    rw [hc] at g2; cases g2
  · change run f i (some (i + 1)) _ ((ds.map (Decl.abs ns vs)).set i (onceAt (d.abs ns vs))) = some (B', o') at g2
    rw [hc] at g2
    cases g2
    exact ⟨A', by
      change run f i (some (i + 1)) _ ((ds.map (Decl.real ns vs)).set i (onceAt (d.real ns vs))) = _
      rw [g1, specList_trel htr forest]⟩

section
variable {σ τ : Type}

mutual
  theorem onceNode_sim {a : MT σ} {b : MT τ} (R : σ → τ → Prop)
      (hstep : ∀ s t e u, SE e → R s t → R (a.step s e u).1 (b.step t e u).1 ∧ (a.step s e u).2 = (b.step t e u).2)
      (hbody : a.body = b.body) {s0 : σ} {t0 : τ} (h0 : R s0 t0) :
      ∀ (n : Node) (anc : List Open), onceNode a s0 anc n = onceNode b t0 anc n
    | .leaf e, anc => rfl
    | .elem tg at_ kids, anc => by
        have hk := onceList_sim R hstep hbody h0 kids ((tg, at_) :: anc)
        have hv := (hstep _ _ (.start tg at_) false (Or.inl rfl) (openSt_rel (a := a) (b := b) R hstep h0 anc)).2
        simp only [onceNode, hv, hk, hbody]
  theorem onceList_sim {a : MT σ} {b : MT τ} (R : σ → τ → Prop)
      (hstep : ∀ s t e u, SE e → R s t → R (a.step s e u).1 (b.step t e u).1 ∧ (a.step s e u).2 = (b.step t e u).2)
      (hbody : a.body = b.body) {s0 : σ} {t0 : τ} (h0 : R s0 t0) :
      ∀ (ns : List Node) (anc : List Open), onceList a s0 anc ns = onceList b t0 anc ns
    | [], anc => rfl
    | n :: ns, anc => by
        simp only [onceList, onceNode_sim R hstep hbody h0 n anc, onceList_sim R hstep hbody h0 ns anc]
end

theorem onceList_trel {a : MT σ} {b : MT τ} (h : TRel a b) (ns : List Node) :
    onceList a a.st [] ns = onceList b b.st [] ns := by
  obtain ⟨R, hstep, hst, hb, _⟩ := h
  exact onceList_sim R hstep hb hst ns []

end

/-- **`once` = replace the first match, real matcher.**  Declarations without position tests, the
    declaration `d` of slot `i` with `once="true"`: on every forest the stage of slot `i` yields the
    forest in which the first element (document order) at which the real closure answers `True` — in the
    state reached along the element's ancestors — is replaced by the body, and nothing else. -/
theorem real_once_stage_is_onceList (ns : NsMap) (vs : Vars) (ds : List Decl) (hok : ∀ d ∈ ds, d.ok ns vs)
    (i : Nat) (d : Decl) (hd : ds[i]? = some d) (ho : d.hints.matchOnce = true)
    (f : Nat) (forest : List Node) (r : List (MT RSt) × List Event) (hns : okList forest = true)
    (h : run f i (some (i + 1)) (evItems (flattenList forest)) (ds.map (Decl.real ns vs)) = some r) :
    r.2 = (onceList (d.real ns vs) (d.real ns vs).st [] forest).1 := by
  have hdok := hok d (List.mem_of_getElem? hd)
  obtain ⟨htr, hl, _⟩ := Decl.abs_ok ns vs hdok
  obtain ⟨B, h2⟩ := real_run_abs ns vs ds hok h
  rw [(once_stage_is_onceList (d.abs ns vs) (d.abs ns vs).st i hl ho f forest [] _ _ hns (abs_slotAt ns vs hd) h2).1,
    onceList_trel htr forest]

end Genshi.Match
