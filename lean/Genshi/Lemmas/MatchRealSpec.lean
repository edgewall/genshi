/-
  C12 — the tree-rewrite theorems transported to the real matcher (the path model of C05/C17):
  a template list built from `<py:match path=…>` declarations, each simulated by its lawful
  abstraction (Lemmas/MatchReal.lean), run through the simulation lemma (Lemmas/MatchSim.lean).
-/
import Genshi.Lemmas.MatchReal
import Genshi.Lemmas.MatchMarks
import Genshi.Lemmas.MatchSpec
import Genshi.Lemmas.PathNonPos
namespace Genshi.Match
open Genshi Genshi.Path

section
variable {σ τ : Type}

mutual
  /-- the tree specification asks the matcher along the ancestors of an element only (`openSt`): templates whose
      matchers are related by a simulation `R`, with the same body and `recursive`, have the same specification -/
  theorem specNode_sim {a : MT σ} {b : MT τ} (R : σ → τ → Prop)
      (hstep : ∀ s t e u, SE e → R s t → R (a.step s e u).1 (b.step t e u).1 ∧ (a.step s e u).2 = (b.step t e u).2)
      (hbody : a.body = b.body) (hrec : a.recursive = b.recursive) {s0 : σ} {t0 : τ} (h0 : R s0 t0) :
      ∀ (n : Node) (anc : List Open), specNode a s0 anc n = specNode b t0 anc n
    | .leaf e, anc => rfl
    | .elem tg at_ kids, anc => by
        have hk := specList_sim R hstep hbody hrec h0 kids ((tg, at_) :: anc)
        have hv := (hstep _ _ (.start tg at_) false (Or.inl rfl) (openSt_rel (a := a) (b := b) R hstep h0 anc)).2
        simp only [specNode, hv, hk, hbody, hrec]
  theorem specList_sim {a : MT σ} {b : MT τ} (R : σ → τ → Prop)
      (hstep : ∀ s t e u, SE e → R s t → R (a.step s e u).1 (b.step t e u).1 ∧ (a.step s e u).2 = (b.step t e u).2)
      (hbody : a.body = b.body) (hrec : a.recursive = b.recursive) {s0 : σ} {t0 : τ} (h0 : R s0 t0) :
      ∀ (ns : List Node) (anc : List Open), specList a s0 anc ns = specList b t0 anc ns
    | [], anc => rfl
    | n :: ns, anc => by
        simp only [specList, specNode_sim R hstep hbody hrec h0 n anc, specList_sim R hstep hbody hrec h0 ns anc]
end

theorem specList_trel {a : MT σ} {b : MT τ} (h : TRel a b) (ns : List Node) :
    specList a a.st [] ns = specList b b.st [] ns := by
  obtain ⟨R, hstep, hst, hb, _, hr, _⟩ := h
  exact specList_sim R hstep hb hr hst ns []

end

/-- one `<py:match path=… buffer=… once=… recursive=…>` declaration: the parsed path (a union of
    location paths), the body, the hints; `force` pins the strategy (`none`: `Path.__init__`'s choice) -/
structure Decl where
  paths : List LocPath
  body : List BItem
  hints : Hints
  force : Option Strategy := none

section
variable (ns : NsMap) (vs : Vars)

def Decl.real (d : Decl) : MT RSt := mkReal d.paths ns vs d.body d.hints d.force
def Decl.abs (d : Decl) : MT (List AM) := mkAbs ns vs d.paths d.body d.hints d.force

/-- the declaration is in the subset the theorems cover: no position tests (`PathsOk`) -/
def Decl.ok (d : Decl) : Prop := PathsOk ns vs d.paths d.force

/-- a declaration without position tests is simulated by its abstraction, which is lawful and not moved by leaves -/
theorem Decl.abs_ok {d : Decl} (h : d.ok ns vs) :
    TRel (d.real ns vs) (d.abs ns vs) ∧ Lawful (d.abs ns vs) ∧ LeafFree (d.abs ns vs) :=
  ⟨real_trel ns vs d.paths d.body d.hints d.force h, abs_lawful ns vs d.paths d.body d.hints d.force h,
    abs_leafFree ns vs d.paths d.body d.hints d.force h⟩

theorem decls_lrel : ∀ (ds : List Decl), (∀ d ∈ ds, d.ok ns vs) → LRel (ds.map (Decl.real ns vs)) (ds.map (Decl.abs ns vs)) := by
  intro ds
  induction ds with
  | nil => intro _; exact .nil
  | cons d ds ih =>
    intro h
    exact .cons (Decl.abs_ok ns vs (h d List.mem_cons_self)).1
      (ih (fun x hx => h x (List.mem_cons_of_mem _ hx)))

theorem real_run_abs (ds : List Decl) (hok : ∀ d ∈ ds, d.ok ns vs) {f s : Nat} {en : Option Nat} {es : List Event}
    {r : List (MT RSt) × List Event} (h : run f s en (evItems es) (ds.map (Decl.real ns vs)) = some r) :
    ∃ B, run f s en (evItems es) (ds.map (Decl.abs ns vs)) = some (B, r.2) := by
  rcases run_rel f s en (irel_evItems (σ := RSt) (τ := List AM) es) (decls_lrel ns vs ds hok) with
    ⟨h1, _⟩ | ⟨A, B, o, h1, h2, _⟩
  · rw [h1] at h; cases h
  · rw [h1] at h; cases h; exact ⟨B, h2⟩

theorem abs_slotAt {ds : List Decl} {i : Nat} {d : Decl} (hd : ds[i]? = some d) :
    SlotAt i (d.abs ns vs) (d.abs ns vs).st [] (ds.map (Decl.abs ns vs)) :=
  ⟨d.abs ns vs, by rw [List.getElem?_map, hd]; rfl, Shape.refl _, rfl, rfl⟩

/-- what the lawful abstraction of a declaration reports over a forest, every event shown: the marks of the pattern
    matcher of the path model, tree by tree -/
theorem abs_marks_forest (d : Decl) (hdok : d.ok ns vs) (forest : List Node) (hns : okList forest = true) :
    (marksOf (d.abs ns vs).step (d.abs ns vs).st (flattenList forest)).1 =
      forest.flatMap (patternMarks d.paths ns vs d.force) := by
  obtain ⟨_, hl, hlf⟩ := Decl.abs_ok ns vs hdok
  rw [marks_forest (d.abs ns vs) hl hlf _ forest hns]
  congr 1; funext top
  have := marks_sim ns vs (pathTest d.paths true d.force).1 hdok top.flatten (pathTest d.paths true d.force).2
    ((pathTest d.paths true d.force).1.map initA) (init_rel ns vs d.paths d.force hdok)
  rw [real_marks] at this
  exact this.symm

/-- **Exactly the elements the pattern matcher marks.**  The stage that owns the declaration `d` (slot
    `i`, no `once`) rewrites the forest by the marks of the pattern matcher of the path model
    (`patternMarks`: `Path.test(ignore_context=True)` run over each top-level tree from its initial
    state, every event shown). -/
theorem real_stage_is_marks (ds : List Decl) (hok : ∀ d ∈ ds, d.ok ns vs) (i : Nat) (d : Decl) (hd : ds[i]? = some d)
    (ho : d.hints.matchOnce = false)
    (f : Nat) (forest : List Node) (r : List (MT RSt) × List Event) (hns : okList forest = true)
    (h : run f i (some (i + 1)) (evItems (flattenList forest)) (ds.map (Decl.real ns vs)) = some r) :
    r.2 = specList (d.real ns vs) (d.real ns vs).st [] forest ∧
    r.2 = (mkKids d.body (!d.hints.notRecursive) forest (forest.flatMap (patternMarks d.paths ns vs d.force))).1 := by
  have hdok := hok d (List.mem_of_getElem? hd)
  obtain ⟨htr, hl, hlf⟩ := Decl.abs_ok ns vs hdok
  obtain ⟨B, h2⟩ := real_run_abs ns vs ds hok h
  have hspec : r.2 = _ := (stage_is_spec (d.abs ns vs) (d.abs ns vs).st i hl ho f forest [] _ _ hns (abs_slotAt ns vs hd) h2).1
  refine ⟨by rw [hspec]; exact (specList_trel htr forest).symm, ?_⟩
  have hm := (spec_marks_list (d.abs ns vs) hl hlf (d.abs ns vs).st forest [] hns).2 []
  simp only [List.append_nil, openSt] at hm
  rw [abs_marks_forest ns vs d hdok forest hns] at hm
  rw [show d.body = (d.abs ns vs).body from rfl, show (!d.hints.notRecursive) = (d.abs ns vs).recursive from rfl, hm, hspec]

end

section
variable (ns : NsMap) (vs : Vars)

/-- no position tests, in static terms (`Expr.numTyped`): under GenericStrategy the hypotheses of C05
    (`StepsOk`) on the step list the matcher works with, under SingleStepStrategy no numeric predicate
    on the step, under SimplePathStrategy nothing (it supports no predicates at all) -/
def PatternOkS (st : Strategy) (p : LocPath) : Prop :=
  match st with
  | .generic => StepsOk ns vs (gSteps p true)
  | .single => ∀ s0, (sSteps p).head? = some s0 → ∀ q ∈ s0.preds, q.numTyped vs = false
  | .simple => True

/-- the strategy that serves a location path: the forced one, or `Path.__init__`'s choice -/
def stratOf (force : Option Strategy) (p : LocPath) : Strategy :=
  match force with
  | some s => s
  | none => (chooseStrategy p).getD .generic

def PatternOk (force : Option Strategy) (p : LocPath) : Prop := PatternOkS ns vs (stratOf force p) p

theorem matcherOk_mk (st : Strategy) (p : LocPath) (h : PatternOkS ns vs st p) :
    MatcherOk ns vs (mkMatcher st p true).1 := by
  cases st with
  | generic => exact matcherOk_generic ns vs _ h
  | single => exact matcherOk_single ns vs _ h
  | simple => exact rfl

theorem pathsOk_of_patternOk (paths : List LocPath) (force : Option Strategy)
    (h : ∀ p ∈ paths, PatternOk ns vs force p) : PathsOk ns vs paths force := by
  intro m hm
  simp only [pathTest, List.map_map, List.mem_map, Function.comp] at hm
  obtain ⟨p, hp, rfl⟩ := hm
  exact matcherOk_mk ns vs (stratOf force p) p (h p hp)

/-- the step list GenericStrategy builds in pattern mode for `s0/rest` (no leading `.`): the first
    step moves to the descendant-or-self axis; the static hypotheses carry over -/
theorem stepsOk_pattern (s0 : Step) (rest : LocPath) (hp : StepsOk ns vs (s0 :: rest))
    (hnd : stripDot (s0 :: rest) = s0 :: rest) :
    gSteps (s0 :: rest) true = ⟨.descendantOrSelf, s0.test, s0.preds⟩ :: rest ∧
    StepsOk ns vs (⟨.descendantOrSelf, s0.test, s0.preds⟩ :: rest) :=
  ⟨gSteps_patOf s0 rest (hp.na s0 List.mem_cons_self) hnd, hp.patOf⟩

/-- under GenericStrategy without position tests every verdict is `None` or `True` -/
theorem generic_vals (S : List Step) (hm : MatcherOk ns vs (.generic S)) : ∀ (es : List Event) (g : GState) (a : AState),
    StRel (realLen S) g a → ∀ v ∈ (runOne (gStep S ns vs) g es).1, v = .none ∨ v = .bool true := by
  intro es
  induction es with
  | nil => intro g a _ v hv; simp [runOne] at hv
  | cons e es ih =>
    intro g a h v hv
    obtain ⟨hrl, hnp, _, hlast⟩ := hm
    obtain ⟨h1, h2⟩ := gStep_abstract ns vs S hrl hnp g a h e
    simp only [runOne, List.mem_cons] at hv
    rcases hv with rfl | hv
    · rw [h2, hlast e, gate_true _ (aStep_out ns vs _ _ a e)]
      exact aStep_out ns vs _ _ a e
    · exact ih _ _ h1 v hv

/-- for such a path `result is True` and "the result is truthy" (what C05's `matched`/`selB` read) agree -/
theorem patternMarks_truthy (p : LocPath) (hok : StepsOk ns vs (gSteps p true)) (top : Node) :
    patternMarks [p] ns vs (some .generic) top =
      (runTest (pathTest [p] true (some .generic)).1 ns vs (pathTest [p] true (some .generic)).2 top.flatten).map
        Val.truthy := by
  have hm := matcherOk_generic ns vs _ hok
  unfold patternMarks
  apply List.map_congr_left
  intro v hv
  simp only [pathTest, List.map_cons, List.map_nil, mkMatcher] at hv
  rw [runTest_genericL] at hv
  have h0 : StRel (realLen (gSteps p true)) gInit [[0]] := ⟨rfl, by simp [gInit], by simp [gInit, hm.2.2.1]⟩
  rcases generic_vals ns vs _ hm _ _ _ h0 v hv with rfl | rfl <;> rfl

end

end Genshi.Match
