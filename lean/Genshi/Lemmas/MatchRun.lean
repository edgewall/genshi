/-
  `run` clause by clause, and its successful runs as derivations (`Ran`: the vehicle of the inductions over a run).
  First consequences: static properties of the templates are preserved (`run_forall`), the output has the nesting
  effect of the input (`run_track`), a registration-free run keeps the length of the list (`run_len`).
-/
import Genshi.Lemmas.MatchNest
import Genshi.Lemmas.MatchPoint
namespace Genshi.Match
open Genshi
variable {σ : Type}

theorem run_end {f start : Nat} {end_ : Option Nat} {e : Event} {rest : List (Item σ)} {mts : List (MT σ)}
    (hE : isEnd e = true) :
    run (f + 1) start end_ (.ev e :: rest) mts = emit e (run f start end_ rest (scanEnd e start end_ 0 mts)) := by
  simp only [run, isStart_false_of_isEnd hE, hE, Bool.false_eq_true, ↓reduceIte]

theorem run_other {f start : Nat} {end_ : Option Nat} {e : Event} {rest : List (Item σ)} {mts : List (MT σ)}
    (hS : isStart e = false) (hE : isEnd e = false) :
    run (f + 1) start end_ (.ev e :: rest) mts = emit e (run f start end_ rest mts) := by
  simp only [run, hS, hE, Bool.false_eq_true, ↓reduceIte]

theorem run_declined {f s : Nat} {en : Option Nat} {e : Event} {rest : List (Item σ)} {m m1 : List (MT σ)}
    (hS : isStart e = true) (hsc : scan e s en 0 m = (m1, none)) :
    run (f + 1) s en (.ev e :: rest) m = emit e (run f s en rest m1) := by
  simp only [run, hS, ↓reduceIte, hsc]

/-- the clause of a matched START as one equation: its stages composed with `Option.bind` -/
theorem run_matched {f s : Nat} {en : Option Nat} {e : Event} {rest : List (Item σ)} {m m1 : List (MT σ)} {idx : Nat}
    (hS : isStart e = true) (hsc : scan e s en 0 m = (m1, some idx)) :
    run (f + 1) s en (.ev e :: rest) m =
      (m1[idx]?).bind fun t => (strip 1 rest).bind fun x =>
      (run f s (some (preEnd t idx)) x.1 (fired t idx m1)).bind fun q3 =>
      (run f (idx + 1) en (evItems (instantiate t.body (e :: q3.2 ++ [x.2.1]))) q3.1).bind fun q4 =>
      (run f s en x.2.2 (updRange x.2.1 s (idx + 1) 0 q4.1)).map fun p => (p.1, q4.2 ++ p.2) := by
  simp only [run, hS, ↓reduceIte, hsc]
  cases m1[idx]? with
  | none => rfl
  | some t =>
    rcases strip 1 rest with _ | ⟨inner, tail, rest'⟩
    · rfl
    · dsimp only [Option.bind_some]
      rcases run f s (some (preEnd t idx)) inner (fired t idx m1) with _ | ⟨m3, io⟩
      · rfl
      · dsimp only [Option.bind_some]
        cases run f (idx + 1) en (evItems (instantiate t.body (e :: io ++ [tail]))) m3 <;> rfl

/-! The four event clauses of `run`, read from the results of their parts. -/

theorem run_close {f s : Nat} {en : Option Nat} {e : Event} {rest : List (Item σ)} {m : List (MT σ)}
    {q : List (MT σ) × List Event} (hE : isEnd e = true) (h : run f s en rest (scanEnd e s en 0 m) = some q) :
    run (f + 1) s en (.ev e :: rest) m = some (q.1, e :: q.2) := by
  rw [run_end hE, h]; rfl

theorem run_skip {f s : Nat} {en : Option Nat} {e : Event} {rest : List (Item σ)} {m : List (MT σ)}
    {q : List (MT σ) × List Event} (hS : isStart e = false) (hE : isEnd e = false) (h : run f s en rest m = some q) :
    run (f + 1) s en (.ev e :: rest) m = some (q.1, e :: q.2) := by
  rw [run_other hS hE, h]; rfl

theorem run_pass {f s : Nat} {en : Option Nat} {e : Event} {rest : List (Item σ)} {m m1 : List (MT σ)}
    {p : List (MT σ) × List Event} (hS : isStart e = true) (hsc : scan e s en 0 m = (m1, none))
    (h : run f s en rest m1 = some p) : run (f + 1) s en (.ev e :: rest) m = some (p.1, e :: p.2) := by
  rw [run_declined hS hsc, h]; rfl

theorem run_fired {f s : Nat} {en : Option Nat} {e tail : Event} {rest inner rest' : List (Item σ)}
    {m m1 m3 m4 : List (MT σ)} {idx : Nat} {t : MT σ} {io out : List Event} {p : List (MT σ) × List Event}
    (hS : isStart e = true) (hsc : scan e s en 0 m = (m1, some idx)) (ht : m1[idx]? = some t)
    (hst : strip 1 rest = some (inner, tail, rest'))
    (h3 : run f s (some (preEnd t idx)) inner (fired t idx m1) = some (m3, io))
    (h4 : run f (idx + 1) en (evItems (instantiate t.body (e :: io ++ [tail]))) m3 = some (m4, out))
    (h5 : run f s en rest' (updRange tail s (idx + 1) 0 m4) = some p) :
    run (f + 1) s en (.ev e :: rest) m = some (p.1, out ++ p.2) := by
  rw [run_matched hS hsc]
  simp only [ht, hst, h3, h4, h5, Option.bind_some, Option.map_some]

/-- the START clause read backwards -/
theorem run_start_cases {f start : Nat} {end_ : Option Nat} {e : Event} {rest : List (Item σ)}
    {mts : List (MT σ)} {r : List (MT σ) × List Event} (hS : isStart e = true)
    (h : run (f + 1) start end_ (.ev e :: rest) mts = some r) :
    (∃ mts1 p, scan e start end_ 0 mts = (mts1, none) ∧ run f start end_ rest mts1 = some p ∧ r = (p.1, e :: p.2)) ∨
    (∃ mts1 idx t inner tail rest' mts3 innerOut mts4 out p,
      scan e start end_ 0 mts = (mts1, some idx) ∧ mts1[idx]? = some t ∧
      strip 1 rest = some (inner, tail, rest') ∧
      run f start (some (preEnd t idx)) inner (fired t idx mts1) = some (mts3, innerOut) ∧
      run f (idx + 1) end_ (evItems (instantiate t.body (e :: innerOut ++ [tail]))) mts3 = some (mts4, out) ∧
      run f start end_ rest' (updRange tail start (idx + 1) 0 mts4) = some p ∧
      r = (p.1, out ++ p.2)) := by
  rcases hsc : scan e start end_ 0 mts with ⟨mts1, _ | idx⟩
  · rw [run_declined hS hsc] at h
    obtain ⟨p, hp, rfl⟩ := emit_some h
    exact Or.inl ⟨mts1, p, rfl, hp, rfl⟩
  · rw [run_matched hS hsc] at h
    simp only [Option.bind_eq_some_iff, Option.map_eq_some_iff] at h
    obtain ⟨t, ht, ⟨inner, tail, rest'⟩, hst, ⟨mts3, io⟩, h3, ⟨mts4, out⟩, h4, p, h5, rfl⟩ := h
    exact Or.inr ⟨mts1, idx, t, inner, tail, rest', mts3, io, mts4, out, p, rfl, ht, hst, h3, h4, h5, rfl⟩

/-- `run f s en items m = some r` as a derivation: one rule per clause of `_match` -/
inductive Ran : Nat → Nat → Option Nat → List (Item σ) → List (MT σ) → List (MT σ) × List Event → Prop
  | nil {f s en m} : Ran (f + 1) s en [] m (m, [])
  | reg {f s en t rest m r} : Ran f s en rest (m ++ [t]) r → Ran (f + 1) s en (.reg t :: rest) m r
  | pass {f s en e rest m m1 p} : isStart e = true → scan e s en 0 m = (m1, none) → Ran f s en rest m1 p →
      Ran (f + 1) s en (.ev e :: rest) m (p.1, e :: p.2)
  | fire {f s en e rest m m1 idx t inner tail rest' m3 io m4 out p} : isStart e = true →
      scan e s en 0 m = (m1, some idx) → m1[idx]? = some t → strip 1 rest = some (inner, tail, rest') →
      Ran f s (some (preEnd t idx)) inner (fired t idx m1) (m3, io) →
      Ran f (idx + 1) en (evItems (instantiate t.body (e :: io ++ [tail]))) m3 (m4, out) →
      Ran f s en rest' (updRange tail s (idx + 1) 0 m4) p → Ran (f + 1) s en (.ev e :: rest) m (p.1, out ++ p.2)
  | close {f s en e rest m q} : isEnd e = true → Ran f s en rest (scanEnd e s en 0 m) q →
      Ran (f + 1) s en (.ev e :: rest) m (q.1, e :: q.2)
  | other {f s en e rest m q} : isStart e = false → isEnd e = false → Ran f s en rest m q →
      Ran (f + 1) s en (.ev e :: rest) m (q.1, e :: q.2)

theorem ran_iff {f s : Nat} {en : Option Nat} {items : List (Item σ)} {m : List (MT σ)} {r : List (MT σ) × List Event} :
    run f s en items m = some r ↔ Ran f s en items m r := by
  constructor
  · induction f generalizing s en items m r with
    | zero => intro h; simp [run] at h
    | succ f ih =>
      intro h
      cases items with
      | nil => simp [run] at h; subst h; exact .nil
      | cons it rest =>
        cases it with
        | reg t => exact .reg (ih h)
        | ev e =>
          by_cases hS : isStart e = true
          · rcases run_start_cases hS h with ⟨m1, p, hsc, hp, rfl⟩ |
              ⟨m1, idx, t, inner, tail, rest', m3, io, m4, out, p, hsc, ht, hst, h3, h4, h5, rfl⟩
            · exact .pass hS hsc (ih hp)
            · exact .fire hS hsc ht hst (ih h3) (ih h4) (ih h5)
          · have hS' : isStart e = false := by simpa using hS
            by_cases hE : isEnd e = true
            · rw [run_end hE] at h
              obtain ⟨q, hr, rfl⟩ := emit_some h
              exact .close hE (ih hr)
            · have hE' : isEnd e = false := by simpa using hE
              rw [run_other hS' hE'] at h
              obtain ⟨q, hr, rfl⟩ := emit_some h
              exact .other hS' hE' (ih hr)
  · intro h
    induction h with
    | nil => rfl
    | reg _ ih => exact ih
    | pass hS hsc _ ih => exact run_pass hS hsc ih
    | fire hS hsc ht hst _ _ _ ih3 ih4 ih5 => exact run_fired hS hsc ht hst ih3 ih4 ih5
    | close hE _ ih => exact run_close hE ih
    | other hS hE _ ih => exact run_skip hS hE ih

theorem run_forall {P : MT σ → Prop} (hP : Static P) : ∀ (f start : Nat) (end_ : Option Nat)
    (items : List (Item σ)) (mts : List (MT σ)) (r : List (MT σ) × List Event),
    (∀ t ∈ mts, P t) → (∀ t, Item.reg t ∈ items → P t) →
    run f start end_ items mts = some r → ∀ t ∈ r.1, P t := by
  intro f s en items m r hm hi h
  replace h := ran_iff.mp h
  induction h with
  | nil => exact hm
  | reg _ ih => exact ih (forall_snoc_reg hm hi) (regs_tail hi)
  | pass _ hsc _ ih => exact ih (scan_forall_eq hP hsc hm) (regs_tail hi)
  | fire _ hsc _ hst _ _ _ ih3 ih4 ih5 =>
    obtain ⟨hin, hre⟩ := regs_strip hst (regs_tail hi)
    have h4' := ih4 (ih3 (fired_forall hP (scan_forall_eq hP hsc hm)) hin) (regs_of_noReg (noReg_evItems _) P)
    exact ih5 (updRange_forall hP _ _ _ 0 _ h4') hre
  | close _ _ ih => exact ih (scanEnd_forall hP _ _ _ 0 _ hm) (regs_tail hi)
  | other _ _ _ ih => exact ih hm (regs_tail hi)

/-- a property of the templates that the filter cannot change, along the parts of a matched element -/
theorem fire_forall {P : MT σ → Prop} (hP : Static P) {f s : Nat} {en : Option Nat} {e tail : Event}
    {inner : List (Item σ)} {m m1 m3 m4 : List (MT σ)} {idx : Nat} {t : MT σ} {io out : List Event}
    (hin : ∀ x, Item.reg x ∈ inner → P x) (hm : ∀ x ∈ m, P x) (hsc : scan e s en 0 m = (m1, some idx))
    (h3 : Ran f s (some (preEnd t idx)) inner (fired t idx m1) (m3, io))
    (h4 : Ran f (idx + 1) en (evItems (instantiate t.body (e :: io ++ [tail]))) m3 (m4, out)) :
    (∀ x ∈ m1, P x) ∧ (∀ x ∈ fired t idx m1, P x) ∧ (∀ x ∈ m3, P x) ∧ (∀ x ∈ m4, P x) ∧
      ∀ x ∈ updRange tail s (idx + 1) 0 m4, P x := by
  have h1 := scan_forall_eq hP hsc hm
  have h2 : ∀ x ∈ fired t idx m1, P x := fired_forall hP h1
  have h3' := run_forall hP _ _ _ _ _ _ h2 hin (ran_iff.mpr h3)
  have h4' := run_forall hP _ _ _ _ _ _ h3' (regs_of_noReg (noReg_evItems _) P) (ran_iff.mpr h4)
  exact ⟨h1, h2, h3', h4', updRange_forall hP _ _ _ 0 _ h4'⟩

theorem static_bodyOK : Static (fun t : MT σ => BodyOK t.body) := by
  intro t t' hs hb; rw [hs.2.1]; exact hb

/-- **The output keeps the nesting of the input**: whatever stack of open elements the
    flattened template leaves, the filtered stream leaves the same, provided the bodies of the
    match templates are well nested. -/
theorem run_track : ∀ (f start : Nat) (end_ : Option Nat) (items : List (Item σ)) (mts : List (MT σ))
    (r : List (MT σ) × List Event),
    (∀ t ∈ mts, BodyOK t.body) → (∀ t, Item.reg t ∈ items → BodyOK t.body) →
    run f start end_ items mts = some r →
    ∀ st st', track st (evs items) = some st' → track st r.2 = some st' := by
  intro f s en items m r hm hi h
  have hPs := static_bodyOK (σ := σ)
  replace h := ran_iff.mp h
  induction h with
  | nil => intro st st' htr; simpa using htr
  | reg _ ih => exact ih (forall_snoc_reg hm hi) (regs_tail hi)
  | pass hS hsc _ ih =>
    intro st st' htr
    obtain ⟨tg, at_, rfl⟩ := isStart_eq_start hS
    simp only [evs_ev, track] at htr ⊢
    exact ih (scan_forall_eq hPs hsc hm) (regs_tail hi) _ _ htr
  | @fire _ _ _ e _ _ m1 idx t inner tail rest' _ io _ _ _ hS hsc ht hst h3 h4 _ ih3 ih4 ih5 =>
    intro st st' htr
    obtain ⟨tg, at_, rfl⟩ := isStart_eq_start hS
    obtain ⟨_, rfl, hneu, htr'⟩ := track_elem hst htr
    obtain ⟨hin, hre⟩ := regs_strip hst (regs_tail hi)
    obtain ⟨h1, h2, h3', _, h5'⟩ := fire_forall hPs hin hm hsc h3 h4
    -- the buffered content is a neutral element, so the instantiated body is neutral
    have hbody := instantiate_neutral (h1 t (List.mem_of_getElem? ht)) (neutral_wrap tg at_ fun s2 => ih3 h2 hin s2 s2 (hneu s2))
    rw [track_append, ih4 h3' (regs_of_noReg (noReg_evItems _) _) st st (by simpa using hbody st)]
    exact ih5 h5' hre st st' htr'
  | @close _ _ _ e _ _ _ hE _ ih =>
    intro st st' htr
    obtain ⟨tg, rfl⟩ := isEnd_eq_end hE
    obtain ⟨at_, st1, rfl, htr1⟩ := track_end htr
    rw [track_end_cons]
    exact ih (scanEnd_forall hPs _ _ _ 0 _ hm) (regs_tail hi) _ _ htr1
  | @other _ _ _ e _ _ _ hS hE _ ih =>
    intro st st' htr
    simp only [evs_ev] at htr ⊢
    rw [track_other e hS hE] at htr ⊢
    exact ih hm (regs_tail hi) _ _ htr

theorem run_forall_noReg {P : MT σ → Prop} (hP : Static P) {f s : Nat} {en : Option Nat} {items : List (Item σ)}
    {m : List (MT σ)} {r : List (MT σ) × List Event} (hnr : NoReg items) (hm : ∀ t ∈ m, P t)
    (h : run f s en items m = some r) : ∀ t ∈ r.1, P t :=
  run_forall hP f s en items m r hm (regs_of_noReg hnr P) h

/-- over a registration-free stream the filter keeps neutrality -/
theorem run_neutral {f s : Nat} {en : Option Nat} {items : List (Item σ)} {m : List (MT σ)}
    {r : List (MT σ) × List Event} (hnr : NoReg items) (hb : ∀ t ∈ m, BodyOK t.body) (hneu : Neutral (evs items))
    (h : run f s en items m = some r) : Neutral r.2 :=
  fun st => run_track f s en items m r hb (regs_of_noReg hnr _) h st st (hneu st)

theorem run_length : ∀ (f start : Nat) (end_ : Option Nat) (items : List (Item σ)) (mts : List (MT σ))
    (r : List (MT σ) × List Event), run f start end_ items mts = some r → mts.length ≤ r.1.length := by
  intro f s en items m r h
  replace h := ran_iff.mp h
  induction h with
  | nil => exact Nat.le_refl _
  | reg _ ih => simp at ih; omega
  | pass _ hsc _ ih => rw [← scan_length_eq hsc]; exact ih
  | fire _ hsc _ _ _ _ _ ih3 ih4 ih5 =>
    rw [fired_length, scan_length_eq hsc] at ih3
    rw [updRange_length] at ih5
    exact Nat.le_trans ih3 (Nat.le_trans ih4 ih5)
  | close _ _ ih => rwa [scanEnd_length] at ih
  | other _ _ _ ih => exact ih

theorem run_len {f s : Nat} {en : Option Nat} {items : List (Item σ)} (hnr : NoReg items) {m m' : List (MT σ)}
    {o : List Event} (h : run f s en items m = some (m', o)) : m'.length = m.length := by
  replace h := ran_iff.mp h
  generalize hr : (m', o) = r at h
  induction h generalizing m' o with
  | nil => cases hr; rfl
  | @reg _ _ _ t => exact absurd (by simp) (hnr t)
  | pass _ hsc _ ih => cases hr; rw [ih (regs_tail hnr) rfl, scan_length_eq hsc]
  | fire _ hsc _ hst _ _ _ ih3 ih4 ih5 =>
    cases hr
    obtain ⟨hnin, hnre⟩ := regs_strip hst (regs_tail hnr)
    rw [ih5 hnre rfl, updRange_length, ih4 (noReg_evItems _) rfl, ih3 hnin rfl, fired_length, scan_length_eq hsc]
  | close _ _ ih => cases hr; rw [ih (regs_tail hnr) rfl, scanEnd_length]
  | other _ _ _ ih => cases hr; exact ih (regs_tail hnr) rfl

end Genshi.Match
