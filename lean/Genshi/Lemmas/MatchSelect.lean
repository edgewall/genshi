/-
  C12 — `select()` inside a match-template body: the one-pass machine `selM` of the C12 model
  (Model/Match.lean) yields what `Path.select` of the C05/C17 path model yields for the six body paths
  (`Sel.paths`), on every stream of START/END/TEXT events that never closes more than it opened.
  With C05 `select_eq_xp_step` / `select_eq_xp_union` the selection is the XPath node set.
-/
import Genshi.Lemmas.MatchNest
import Genshi.Model.MatchReal
namespace Genshi.Match
open Genshi Genshi.Path

/-- the matchers `Path(p).select` works with for a body path: one SingleStepStrategy per location path -/
def Sel.ms (s : Sel) : List Matcher := s.paths.map fun p => .single p false

/-- their states at nesting depth `d` (no predicates: the counters stay empty) -/
def Sel.sts (s : Sel) (d : Int) : List MState := s.paths.map fun _ => .s ⟨[], d⟩

theorem sel_pathTest (s : Sel) : pathTest s.paths false = (s.ms, s.sts 0) := by
  -- `Path.__init__` picks SingleStepStrategy for every one-step path
  have hch : ∀ st : Step, chooseStrategy [st] = some .single := fun st => by
    have : strategyOrder = [.single, .simple, .generic] := by decide
    simp [chooseStrategy, this, Strategy.supports, singleSupports]
  cases s <;> simp [pathTest, Sel.paths, Sel.ms, Sel.sts, hch, mkMatcher, sSteps, childStep]

/-- SingleStepStrategy on a one-step path without predicates, context kept (`ax` looks at depth `k`):
    END pops the depth, START pushes it; a START or TEXT at depth `k` that passes the node test is reported -/
theorem sStep_plain (ax : Axis) (k : Nat) (hax : ax = .self ∧ k = 0 ∨ ax = .child ∧ k = 1) (t : NodeTest) (d : Nat)
    (e : Event) (he : isSET e = true) (hd : isEnd e = true → 0 < d) :
    sStep [⟨ax, t, []⟩] false [] [] ⟨[], d⟩ e =
      (⟨[], if isStart e then ((d + 1 : Nat) : Int) else if isEnd e then ((d - 1 : Nat) : Int) else (d : Int)⟩,
       if isEnd e = false ∧ d = k ∧ t.matches e [] = true then .bool true else .none) := by
  have h1 : ((d : Int) = 1) ↔ d = 1 := by omega
  cases e with
  | end_ tg => have := hd rfl; simp [sStep, Event.isEnd, isStart, isEnd]; omega
  | start tg a =>
    by_cases hk : d = k <;> cases hm : t.matches (.start tg a) [] <;> rcases hax with ⟨rfl, rfl⟩ | ⟨rfl, rfl⟩ <;>
      simp [sStep, sPreds, Event.isEnd, Event.isNsOrCdata, Event.isStart, isStart, isEnd, h1, hk, hm]
  | text x sf =>
    by_cases hk : d = k <;> cases hm : t.matches (.text x sf) [] <;> rcases hax with ⟨rfl, rfl⟩ | ⟨rfl, rfl⟩ <;>
      simp [sStep, sPreds, Event.isEnd, Event.isNsOrCdata, Event.isStart, isStart, isEnd, h1, hk, hm]
  | _ => simp [isSET] at he

/-- one call of the closure of a body path on a START/END/TEXT event at depth `d`: the new depth, and the
    verdict, which is `True` or `None` -/
theorem sel_multiStep (s : Sel) (d : Nat) (e : Event) (he : isSET e = true) (hd : isEnd e = true → 0 < d) :
    multiStep s.ms [] [] (s.sts d) e =
      (s.sts (if isStart e then ((d + 1 : Nat) : Int) else if isEnd e then ((d - 1 : Nat) : Int) else (d : Int)),
       if isEnd e = false ∧ d = s.depth ∧ s.nodeTest e = true then .bool true else .none) := by
  cases s <;>
    simp only [Sel.ms, Sel.sts, Sel.paths, childStep, List.map, multiStep, List.zip_cons_cons, List.zip_nil_right, Matcher.step,
      sStep_plain _ _ (.inl ⟨rfl, rfl⟩) _ _ _ he hd, sStep_plain _ _ (.inr ⟨rfl, rfl⟩) _ _ _ he hd, List.foldl] <;>
    cases e <;> simp [isSET] at he <;>
    simp [isStart, isEnd, Val.isNone, Sel.depth, Sel.nodeTest, NodeTest.matches, NodeTest.apply, Val.truthy]
  -- left over: `*|text()` on a START, where `_multi` returns the answer of `*`
  by_cases h : d = 1 <;> simp [h]

/-- one call of the closure on a START/END/TEXT event at depth `d`: the new depth, and whether the
    event is selected (and then as itself) -/
theorem sel_step (s : Sel) (d : Nat) (e : Event) (he : isSET e = true) (hd : isEnd e = true → 0 < d) :
    ∃ v, multiStep s.ms [] [] (s.sts d) e =
        (s.sts (if isStart e then ((d + 1 : Nat) : Int) else if isEnd e then ((d - 1 : Nat) : Int) else (d : Int)), v) ∧
      (isEnd e = true → v = .none) ∧
      (isEnd e = false → ((v == Val.bool true) = true ∨ (v.truthy = true ∧ itemOf v e = .ev e)) ∧
          (decide (d = s.depth) && s.nodeTest e) = true ∨
        (v == Val.bool true) = false ∧ v.truthy = false ∧ (decide (d = s.depth) && s.nodeTest e) = false) ∧
      (isStart e = true → v.truthy = true → v = .bool true) := by
  refine ⟨_, sel_multiStep s d e he hd, ?_⟩
  by_cases hE : isEnd e = true
  · simp [hE, Val.truthy]
  · by_cases hm : d = s.depth ∧ s.nodeTest e = true
    · simp [hE, hm]
    · have : (decide (d = s.depth) && s.nodeTest e) = false := by simpa using hm
      simp [hE, hm, this, Val.truthy]

theorem selectGo_cons (ms : List Matcher) (sts : List MState) (depth : Nat) (e : Event) (es : List Event) :
    selectGo ms [] [] sts depth (e :: es) =
      (if depth > 0 then
        Path.Item.ev e :: selectGo ms [] [] (multiStep ms [] [] sts e).1
          (if e.isStart then depth + 1 else if e.isEnd then depth - 1 else depth) es
      else if (multiStep ms [] [] sts e).2 == Val.bool true then
        Path.Item.ev e :: selectGo ms [] [] (multiStep ms [] [] sts e).1 (if e.isStart then 1 else 0) es
      else if (multiStep ms [] [] sts e).2.truthy then
        itemOf (multiStep ms [] [] sts e).2 e :: selectGo ms [] [] (multiStep ms [] [] sts e).1 0 es
      else selectGo ms [] [] (multiStep ms [] [] sts e).1 0 es) := by
  rw [selectGo]

/-- **The select machine of the C12 model is `Path.select` of the path model.** -/
theorem selM_eq_selectGo (s : Sel) : ∀ (es : List Event) (d c k : Nat), (∀ e ∈ es, isSET e = true) → lvl d es = some k →
    (selM s d c es).map Path.Item.ev = selectGo s.ms [] [] (s.sts d) c es := by
  intro es
  induction es with
  | nil => intro d c k _ _; cases c <;> simp [selM, selectGo]
  | cons e es ih =>
    intro d c k hset hl
    have he := hset e List.mem_cons_self
    have ih' := fun d' c' h => ih d' c' k (fun x hx => hset x (List.mem_cons_of_mem _ hx)) h
    rw [selectGo_cons]
    cases e with
    | start t a =>
      have hl' : lvl (d + 1) es = some k := by simpa [lvl, isStart] using hl
      rw [sel_multiStep s d _ he (by simp [isEnd])]
      cases c with
      | succ c => simp [selM, isStart, Event.isStart, ih' _ _ hl']
      | zero =>
        by_cases hm : d = s.depth ∧ s.nodeTest (.start t a) = true
        · obtain ⟨rfl, hn⟩ := hm
          simp [selM, isStart, isEnd, Event.isStart, hn, ih' _ _ hl']
        · simp [selM, isStart, isEnd, hm, ih' _ _ hl', Val.truthy]
    | end_ t =>
      obtain ⟨d', rfl⟩ : ∃ d', d = d' + 1 := by cases d <;> simp [lvl, isStart, isEnd] at hl ⊢
      have hl' : lvl d' es = some k := by simpa [lvl, isStart, isEnd] using hl
      rw [sel_multiStep s _ _ he (by simp)]
      cases c <;> simp [selM, isStart, isEnd, Event.isStart, Event.isEnd, ih' _ _ hl', Val.truthy]
    | text x sf =>
      have hl' : lvl d es = some k := by simpa [lvl, isStart, isEnd] using hl
      rw [sel_multiStep s d _ he (by simp [isEnd])]
      cases c with
      | succ c => simp [selM, isStart, isEnd, Event.isStart, Event.isEnd, ih' _ _ hl']
      | zero =>
        by_cases hm : d = s.depth ∧ s.nodeTest (.text x sf) = true
        · obtain ⟨rfl, hn⟩ := hm
          simp [selM, isStart, isEnd, Event.isStart, hn, ih' _ _ hl']
        · simp [selM, isStart, isEnd, hm, ih' _ _ hl', Val.truthy]
    | _ => simp [isSET] at he

/-- `select(p)` of the C12 model = `Path(p).select(content)` of the path model, for the six body paths,
    on every START/END/TEXT stream that closes no more than it opened (in particular on the content
    `START · … · END` of a matched element) -/
theorem select_eq_path_select (s : Sel) (es : List Event) (k : Nat) (hset : ∀ e ∈ es, isSET e = true)
    (hl : lvl 0 es = some k) :
    (select s es).map Path.Item.ev = Path.select s.paths [] [] es := by
  unfold select Path.select
  rw [sel_pathTest]
  exact selM_eq_selectGo s es 0 0 k hset hl

end Genshi.Match
