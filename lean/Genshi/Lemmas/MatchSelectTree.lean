/-
  `select()` on the content of a matched element: inside a selected subtree the machine copies (`selM_copy`), below an
  unselected child it skips (`selM_skip`); so `select('.')` is the element (`select_self`) and a child path yields the
  children its node test accepts (`select_on_tree`).
-/
import Genshi.Lemmas.MatchNest
namespace Genshi.Match
open Genshi

theorem selM_copy (s : Sel) : ∀ (mid : List Event) (j j' d c : Nat) (rest : List Event),
    lvl j mid = some j' →
    selM s (d + j) (c + 1 + j) (mid ++ rest) = mid ++ selM s (d + j') (c + 1 + j') rest := by
  intro mid
  induction mid with
  | nil => intro j j' d c rest h; cases h; rfl
  | cons e es ih =>
    intro j j' d c rest h
    rw [lvl_cons] at h
    cases hd : stripDepth (j + 1) e with
    | zero => rw [hd] at h; cases h
    | succ j1 =>
      rw [hd] at h
      rw [List.cons_append, selM_cons, show c + 1 + j = c + j + 1 by omega, selStep_copy, stripDepth_shift hd d,
        show c + j + 1 = c + 1 + j by omega, stripDepth_shift hd (c + 1)]
      exact congrArg (e :: ·) (ih j1 j' d c rest h)

theorem selM_skip (s : Sel) : ∀ (mid : List Event) (j j' d : Nat) (rest : List Event),
    s.depth < d → lvl j mid = some j' → selM s (d + j) 0 (mid ++ rest) = selM s (d + j') 0 rest := by
  intro mid
  induction mid with
  | nil => intro j j' d rest _ h; cases h; rfl
  | cons e es ih =>
    intro j j' d rest hd h
    rw [lvl_cons] at h
    cases hj : stripDepth (j + 1) e with
    | zero => rw [hj] at h; cases h
    | succ j1 =>
      rw [hj] at h
      rw [List.cons_append, selM_cons, selStep_miss (by omega), stripDepth_shift hj d]
      exact ih j1 j' d rest hd h

/-- an element met outside a copy, at or below the depth the step looks at: copied with its subtree if the step
    selects its START, skipped with its subtree if not -/
theorem selM_elem (s : Sel) {d : Nat} (hd : s.depth ≤ d) {e tail : Event} (hS : isStart e = true) (hE : isEnd tail = true)
    {mid : List Event} (hcl : Closed mid) (rest : List Event) :
    selM s d 0 (e :: (mid ++ tail :: rest)) =
      if d = s.depth ∧ s.nodeTest e = true then e :: (mid ++ tail :: selM s d 0 rest) else selM s d 0 rest := by
  have hT : ¬ isStart tail = true := by rw [isStart_false_of_isEnd hE]; exact Bool.false_ne_true
  rw [selM, if_pos hS]
  split
  · rw [selM_copy s mid 0 0 (d + 1) 0 _ hcl, selM, if_neg hT, if_pos hE]; rfl
  · rw [selM_skip s mid 0 0 (d + 1) _ (by omega) hcl, selM, if_neg hT, if_pos hE]; rfl

theorem select_self {e tail : Event} {mid : List Event} (hS : isStart e = true) (hE : isEnd tail = true)
    (hcl : Closed mid) : select .self (e :: mid ++ [tail]) = e :: mid ++ [tail] := by
  have hn : Sel.self.nodeTest e = true := by cases e <;> simp_all [isStart, Sel.nodeTest]
  exact (selM_elem .self (Nat.le_refl 0) hS hE hcl []).trans (if_pos ⟨rfl, hn⟩)

/-- does the single step of the select path accept this child? -/
def Sel.keeps (s : Sel) : Node → Bool
  | .leaf e => s.nodeTest e
  | .elem t a _ => s.nodeTest (.start t a)

theorem selM_children (s : Sel) (hs1 : s.depth = 1) : ∀ (kids : List Node) (rest : List Event), okList kids = true →
    selM s 1 0 (flattenList kids ++ rest) = flattenList (kids.filter s.keeps) ++ selM s 1 0 rest := by
  intro kids
  induction kids with
  | nil => intro rest _; simp [flattenList]
  | cons k ks ih =>
    intro rest hok
    simp only [okList, Bool.and_eq_true] at hok
    obtain ⟨hk, hks⟩ := hok
    cases k with
    | leaf e =>
      obtain ⟨h1, h2⟩ := leaf_ok.mp hk
      simp only [flattenList, Node.flatten, List.cons_append, List.nil_append, selM, h1, h2, Bool.false_eq_true, ↓reduceIte,
        List.filter_cons, Sel.keeps]
      by_cases hn : s.nodeTest e = true
      · simp [hn, hs1, ih rest hks, flattenList, Node.flatten]
      · simp [hn, hs1, ih rest hks]
    | elem tg at_ gk =>
      have hcl := closed_flattenList gk (by simpa [Node.ok] using hk)
      simp only [flattenList, Node.flatten, List.cons_append, List.append_assoc, List.nil_append, List.filter_cons, Sel.keeps]
      rw [selM_elem s (Nat.le_of_eq hs1) rfl rfl hcl, ih rest hks]
      by_cases hn : s.nodeTest (Event.start tg at_) = true
      · simp [hn, hs1, flattenList, Node.flatten]
      · simp [hn]

/-- **select() on a tree.**  On the content of a matched element `<tg …>kids</tg>`:
    `select('.')` is the element, and each of the child paths (`node()`, `*`, `text()`, `*|text()`,
    `name`) is the flattening of exactly the children its node test accepts, in document order. -/
theorem select_on_tree (s : Sel) (tg : QName) (at_ : AttrList) (kids : List Node) (hk : okList kids = true) :
    select s (Event.start tg at_ :: flattenList kids ++ [Event.end_ tg]) =
      if s.depth = 0 then Event.start tg at_ :: flattenList kids ++ [Event.end_ tg]
      else flattenList (kids.filter s.keeps) := by
  by_cases h0 : s.depth = 0
  · simp only [h0, ↓reduceIte]
    have : s = Sel.self := by cases s <;> simp_all [Sel.depth]
    subst this
    exact select_self rfl rfl (closed_flattenList kids hk)
  · simp only [h0, ↓reduceIte]
    have h1 : s.depth = 1 := by cases s <;> simp_all [Sel.depth]
    have hne : ¬ (0 = s.depth ∧ s.nodeTest (Event.start tg at_) = true) := by omega
    simp only [select, List.cons_append, selM, isStart, ↓reduceIte]
    rw [if_neg hne, selM_children s h1 kids [Event.end_ tg] hk]
    simp [selM, isStart, isEnd]

end Genshi.Match
