/-
  C12 — the filter does not look inside a matcher: two template lists whose matchers simulate each
  other (state types may differ) give the same output.  This is how a concrete matcher (the path
  model of C05/C17, whose states carry counters and a store) inherits the theorems proved for
  matchers that obey the law "an END undoes its START" literally: it is simulated by one.
-/
import Genshi.Lemmas.MatchRun
namespace Genshi.Match
open Genshi

variable {σ τ : Type}

/-- the events `_match` shows to a test closure -/
def SE (e : Event) : Prop := isStart e = true ∨ isEnd e = true

/-- template `b` simulates template `a`: some relation between their matcher states holds now, is
    kept by every step on a START or END event, and related states give the same verdict; everything
    the filter reads besides the matcher is equal -/
def TRel (a : MT σ) (b : MT τ) : Prop :=
  ∃ R : σ → τ → Prop,
    (∀ s t e u, SE e → R s t → R (a.step s e u).1 (b.step t e u).1 ∧ (a.step s e u).2 = (b.step t e u).2) ∧
    R a.st b.st ∧ a.body = b.body ∧ a.once = b.once ∧ a.recursive = b.recursive ∧ a.buffered = b.buffered ∧
    a.retired = b.retired ∧ a.hits = b.hits

inductive LRel : List (MT σ) → List (MT τ) → Prop
  | nil : LRel [] []
  | cons {a b A B} : TRel a b → LRel A B → LRel (a :: A) (b :: B)

inductive IRel : List (Item σ) → List (Item τ) → Prop
  | nil : IRel [] []
  | ev {X Y} (e : Event) : IRel X Y → IRel (.ev e :: X) (.ev e :: Y)
  | reg {a b X Y} : TRel a b → IRel X Y → IRel (.reg a :: X) (.reg b :: Y)

theorem test_rel {a : MT σ} {b : MT τ} (h : TRel a b) (e : Event) (he : SE e) (u : Bool) :
    TRel (a.test e u).1 (b.test e u).1 ∧ (a.test e u).2 = (b.test e u).2 := by
  obtain ⟨R, hstep, hst, hb, ho, hr, hbu, hre, hh⟩ := h
  unfold MT.test
  by_cases hret : a.retired = true
  · have hret' : b.retired = true := by rw [← hre]; exact hret
    rw [if_pos hret, if_pos hret']
    exact ⟨⟨R, hstep, hst, hb, ho, hr, hbu, hre, hh⟩, rfl⟩
  · have hret' : ¬ b.retired = true := by rw [← hre]; exact hret
    rw [if_neg hret, if_neg hret']
    obtain ⟨h1, h2⟩ := hstep a.st b.st e u he hst
    exact ⟨⟨R, hstep, h1, hb, ho, hr, hbu, hre, hh⟩, h2⟩

theorem trel_hit {a : MT σ} {b : MT τ} (h : TRel a b) :
    TRel { a with hits := a.hits + 1 } { b with hits := b.hits + 1 } := by
  obtain ⟨R, hstep, hst, hb, ho, hr, hbu, hre, hh⟩ := h
  exact ⟨R, hstep, hst, hb, ho, hr, hbu, hre, by simp [hh]⟩

theorem trel_retire {a : MT σ} {b : MT τ} (h : TRel a b) : TRel a.retire b.retire := by
  obtain ⟨R, hstep, hst, hb, ho, hr, hbu, hre, hh⟩ := h
  exact ⟨R, hstep, hst, hb, ho, hr, hbu, rfl, hh⟩

theorem lrel_length : ∀ {A : List (MT σ)} {B : List (MT τ)}, LRel A B → A.length = B.length := by
  intro A B h
  induction h with
  | nil => rfl
  | cons _ _ ih => simp [ih]

theorem irel_evs : ∀ {X : List (Item σ)} {Y : List (Item τ)}, IRel X Y → evs X = evs Y := by
  intro X Y h
  induction h with
  | nil => rfl
  | ev e _ ih => simp [ih]
  | reg _ _ ih => simp [ih]

/-- related results of the filter: both fail, or both succeed with related lists and the same output -/
def ResRel (x : Option (List (MT σ) × List Event)) (y : Option (List (MT τ) × List Event)) : Prop :=
  (x = none ∧ y = none) ∨ ∃ A B o, x = some (A, o) ∧ y = some (B, o) ∧ LRel A B

/-- item streams with the same events whose registrations are related by `Q` -/
inductive IRelG (Q : MT σ → MT τ → Prop) : List (Item σ) → List (Item τ) → Prop
  | nil : IRelG Q [] []
  | ev {X Y} (e : Event) : IRelG Q X Y → IRelG Q (.ev e :: X) (.ev e :: Y)
  | reg {a b X Y} : Q a b → IRelG Q X Y → IRelG Q (.reg a :: X) (.reg b :: Y)

theorem IRelG.evItems (Q : MT σ → MT τ → Prop) (es : List Event) : IRelG Q (evItems es) (evItems es) := by
  induction es with
  | nil => exact .nil
  | cons e es ih => exact .ev e ih

/-- a registration-free stream is related to itself -/
theorem IRelG.refl (Q : MT σ → MT σ → Prop) {X : List (Item σ)} (hnr : ∀ t, Item.reg t ∉ X) : IRelG Q X X := by
  induction X with
  | nil => exact .nil
  | cons it X ih =>
    have hnr' : ∀ t, Item.reg t ∉ X := fun t ht => hnr t (List.mem_cons_of_mem _ ht)
    cases it with
    | ev e => exact .ev e (ih hnr')
    | reg t => exact absurd List.mem_cons_self (hnr t)

/-- `_strip` on related streams: where the left one finds the END, so does the right one, and the parts are related -/
theorem strip_rel {Q : MT σ → MT τ → Prop} : ∀ {X : List (Item σ)} {Y : List (Item τ)}, IRelG Q X Y →
    ∀ {d : Nat} {a b : List (Item σ)} {e : Event}, strip (d + 1) X = some (a, e, b) →
    ∃ a' b', strip (d + 1) Y = some (a', e, b') ∧ IRelG Q a a' ∧ IRelG Q b b' := by
  intro X Y h
  induction h with
  | nil => intro d a b e hs; cases hs
  | @ev X Y e0 hXY ih =>
    intro d a b e hs
    rw [strip_ev] at hs ⊢
    cases hd : stripDepth (d + 1) e0 with
    | zero => rw [hd] at hs; cases hs; exact ⟨[], Y, rfl, .nil, hXY⟩
    | succ d' =>
      rw [hd] at hs
      obtain ⟨⟨a0, x, b0⟩, h1, h2⟩ := Option.map_eq_some_iff.mp hs
      cases h2
      obtain ⟨a', b', h3, h4, h5⟩ := ih h1
      exact ⟨.ev e0 :: a', b', by simp only [h3]; rfl, .ev e0 h4, h5⟩
  | @reg x y X Y hxy hXY ih =>
    intro d a b e hs
    rw [strip] at hs ⊢
    obtain ⟨⟨a0, x0, b0⟩, h1, h2⟩ := Option.map_eq_some_iff.mp hs
    cases h2
    obtain ⟨a', b', h3, h4, h5⟩ := ih h1
    exact ⟨.reg y :: a', b', by rw [h3]; rfl, .reg hxy h4, h5⟩

theorem IRelG.symm {Q : MT σ → MT τ → Prop} {X : List (Item σ)} {Y : List (Item τ)} (h : IRelG Q X Y) :
    IRelG (fun b a => Q a b) Y X := by
  induction h with
  | nil => exact .nil
  | ev e _ ih => exact .ev e ih
  | reg hab _ ih => exact .reg hab ih

/-- both filters fail, or both succeed with the same output and lists related slot by slot -/
def ResPw (R : Nat → MT σ → MT τ → Prop) (x : Option (List (MT σ) × List Event))
    (y : Option (List (MT τ) × List Event)) : Prop :=
  (x = none ∧ y = none) ∨ ∃ A B o, x = some (A, o) ∧ y = some (B, o) ∧ Pw R A B

/-- what the filter reads of a template besides calling its test -/
def SameRead (a : MT σ) (b : MT τ) : Prop := a.body = b.body ∧ a.once = b.once ∧ a.recursive = b.recursive

section
variable {R : Nat → MT σ → MT τ → Prop} {Q : MT σ → MT τ → Prop} (w : Nat → Bool)
  (htest : ∀ i a b e u, w i = true → SE e → R i a b →
    R i (a.test e u).1 (b.test e u).1 ∧ (a.test e u).2 = (b.test e u).2)
  (hhit : ∀ i a b, w i = true → R i a b → R i { a with hits := a.hits + 1 } { b with hits := b.hits + 1 })
  (hret : ∀ i a b, w i = true → R i a b → R i a.retire b.retire)
  (hread : ∀ i a b, w i = true → R i a b → SameRead a b) (hQ : ∀ a b, Q a b → ∀ i, R i a b)
include htest hhit hret hread hQ

/-- `run_pw` for a run that succeeds, by induction on it -/
theorem run_pw_some
    {f s : Nat} {en : Option Nat} {X : List (Item σ)} {A : List (MT σ)} {r : List (MT σ) × List Event}
    (h : Ran f s en X A r) : ∀ {Y : List (Item τ)} {B : List (MT τ)},
    (∀ i, inWindow s en i = true → w i = true) → IRelG Q X Y → Pw R A B →
    ∃ B', run f s en Y B = some (B', r.2) ∧ Pw R r.1 B' := by
  -- testing the slots picked by `c` (all of them in `w`) on both sides
  have hstep : ∀ (e : Event) (u : Bool), SE e → ∀ (c : Nat → Prop) [DecidablePred c], (∀ i, c i → w i = true) →
      ∀ i a b, R i a b → R i (if c i then (a.test e u).1 else a) (if c i then (b.test e u).1 else b) := by
    intro e u he c _ hc i a b hab
    by_cases hi : c i
    · rw [if_pos hi, if_pos hi]; exact (htest i a b e u (hc i hi) he hab).1
    · rw [if_neg hi, if_neg hi]; exact hab
  -- the scans of a START: the same verdict, related lists
  have hscan : ∀ {e : Event} {s : Nat} {en : Option Nat} {A A1 : List (MT σ)} {B : List (MT τ)} {hit : Option Nat},
      isStart e = true → (∀ i, inWindow s en i = true → w i = true) → Pw R A B → scan e s en 0 A = (A1, hit) →
      ∃ B1, scan e s en 0 B = (B1, hit) ∧ Pw R A1 B1 := by
    intro e s en A A1 B hit hS hw hAB hsc
    have hh : (scan e s en 0 B).2 = (scan e s en 0 A).2 := scan_hit_congr hAB.1 fun i a b ha hb _ => by
      cases hwi : inWindow s en i with
      | false => rfl
      | true => rw [(htest i a b e false (hw i hwi) (Or.inl hS) (hAB.2 i a b ha hb)).2]
    have h1 : Pw R (scan e s en 0 A).1 (scan e s en 0 B).1 := hAB.scan hh fun i a b hab => by
      unfold scanAt
      split
      · rename_i hc
        have := htest i a b e false (hw i hc.1) (Or.inl hS) hab
        split
        · exact hhit i _ _ (hw i hc.1) this.1
        · exact this.1
      · exact hab
    rw [hsc] at hh h1
    exact ⟨_, Prod.ext rfl hh, h1⟩
  induction h with
  | nil => intro Y B _ hXY hAB; cases hXY; exact ⟨B, rfl, hAB⟩
  | reg _ ih => intro Y B hw hXY hAB; cases hXY with | reg hab hXY => exact ih hw hXY (hAB.snoc (hQ _ _ hab _))
  | pass hS hsc _ ih =>
    intro Y B hw hXY hAB
    cases hXY with | ev _ hXY =>
    obtain ⟨B1, hscB, h1⟩ := hscan hS hw hAB hsc
    obtain ⟨B', hr, hp⟩ := ih hw hXY h1
    exact ⟨B', run_pass hS hscB hr, hp⟩
  | @fire f s en e rest A A1 idx t inner tail rest' A3 io A4 out p hS hsc ht hst _ _ _ ih3 ih4 ih5 =>
    intro Y B hw hXY hAB
    cases hXY with | ev _ hXY =>
    obtain ⟨B1, hscB, h1⟩ := hscan hS hw hAB hsc
    have hwi : inWindow s en idx = true := (scan_first e s en A idx (by rw [hsc])).1
    obtain ⟨tb, g2, hab⟩ := h1.left ht
    obtain ⟨hbody, honce, hrec⟩ := hread idx t tb (hw idx hwi) hab
    have hpe : preEnd t idx = preEnd tb idx := by simp [preEnd, honce, hrec]
    obtain ⟨inn', rst', hstB, hin, hrst⟩ := strip_rel hXY hst
    have h2 : Pw R (fired t idx A1) (fired tb idx B1) := h1.fired t tb idx idx fun i a b hab => by
      rw [honce]
      split
      · rename_i hc; rw [hc.1]; exact hret idx a b (hw idx hwi) (hc.1 ▸ hab)
      · exact hab
    obtain ⟨B3, r3, h3⟩ := ih3 (fun i hi => hw i (inWindow_inner hwi (preEnd_le t idx).2 hi)) hin h2
    obtain ⟨B4, r4, h4⟩ := ih4 (fun i hi => hw i (inWindow_body hwi hi)) (IRelG.evItems Q _) h3
    obtain ⟨B5, r5, h5⟩ := ih5 hw hrst (h4.updRange tail s s (idx + 1) (idx + 1)
      (hstep tail true (Or.inr (strip_spec _ 0 _ _ _ hst).2.1) (fun i => (decide (s ≤ i) && decide (i < idx + 1)) = true)
        (fun i hi => hw i (inWindow_upd hwi hi))))
    rw [hpe] at r3; rw [hbody] at r4
    exact ⟨B5, run_fired hS hscB g2 hstB r3 r4 r5, h5⟩
  | @close _ s en e _ _ _ hE _ ih =>
    intro Y B hw hXY hAB
    cases hXY with | ev _ hXY =>
    obtain ⟨B', hr, hp⟩ := ih hw hXY (hAB.scanEnd e s s en en (hstep e false (Or.inr hE) _ hw))
    exact ⟨B', run_close hE hr, hp⟩
  | other hS hE _ ih =>
    intro Y B hw hXY hAB
    cases hXY with | ev _ hXY =>
    obtain ⟨B', hr, hp⟩ := ih hw hXY hAB
    exact ⟨B', run_skip hS hE hr, hp⟩

/-- **The filter is parametric in the slots.**  `R` relates the slots of two template lists.  On the slots `w`
    (they contain the window) the tests keep `R` and answer alike, retiring and counting keep it, and related
    templates have the same body and hints.  Then both filters fail, or both succeed with the same output and
    related lists.  (`run_rel`: `R` is `TRel`; `run_bufOn_rel`: "the same but buffered"; `run_frames`: "equal on the
    window, slot of a fixed list elsewhere".) -/
theorem run_pw
    (f s : Nat) (en : Option Nat) {X : List (Item σ)} {Y : List (Item τ)} {A : List (MT σ)} {B : List (MT τ)}
    (hw : ∀ i, inWindow s en i = true → w i = true) (hXY : IRelG Q X Y) (hAB : Pw R A B) :
    ResPw R (run f s en X A) (run f s en Y B) := by
  cases hx : run f s en X A with
  | some r =>
    obtain ⟨B', h1, h2⟩ := run_pw_some w htest hhit hret hread hQ (ran_iff.mp hx) hw hXY hAB
    exact Or.inr ⟨r.1, B', r.2, rfl, h1, h2⟩
  | none =>
    cases hy : run f s en Y B with
    | none => exact Or.inl ⟨rfl, rfl⟩
    | some r' =>
      -- the hypotheses are symmetric: were the right run to succeed, so would the left one
      obtain ⟨A', h1, _⟩ := run_pw_some (R := fun i b a => R i a b) (Q := fun b a => Q a b) w
        (fun i b a e u hi he h => ⟨(htest i a b e u hi he h).1, (htest i a b e u hi he h).2.symm⟩)
        (fun i b a => hhit i a b) (fun i b a => hret i a b)
        (fun i b a hi h => let ⟨x, y, z⟩ := hread i a b hi h; ⟨x.symm, y.symm, z.symm⟩)
        (fun b a h => hQ a b h) (ran_iff.mp hy) hw hXY.symm ⟨hAB.1.symm, fun i b a hb ha => hAB.2 i a b ha hb⟩
      rw [hx] at h1; cases h1

end

theorem lrel_iff_pw {A : List (MT σ)} {B : List (MT τ)} : LRel A B ↔ Pw (fun _ => TRel) A B := by
  constructor
  · intro h
    induction h with
    | nil => exact pw_nil
    | cons hab _ ih => exact pw_cons_iff.mpr ⟨hab, ih⟩
  · intro h
    induction A generalizing B with
    | nil =>
      cases B with
      | nil => exact .nil
      | cons b B => exact nomatch h.1
    | cons a A ih =>
      cases B with
      | nil => exact nomatch h.1
      | cons b B => exact .cons (pw_cons_iff.mp h).1 (ih (pw_cons_iff.mp h).2)

theorem irel_iff {X : List (Item σ)} {Y : List (Item τ)} : IRel X Y ↔ IRelG TRel X Y := by
  constructor <;> intro h <;> induction h with
  | nil => exact .nil
  | ev e _ ih => exact .ev e ih
  | reg hab _ ih => exact .reg hab ih

theorem irel_evItems (es : List Event) : IRel (evItems es : List (Item σ)) (evItems es : List (Item τ)) :=
  irel_iff.mpr (IRelG.evItems TRel es)

/-- **Simulation.**  The filter over related item lists and related template lists: both runs fail, or
    both succeed with the same output and related template lists. -/
theorem run_rel : ∀ (f s : Nat) (en : Option Nat) {X : List (Item σ)} {Y : List (Item τ)} {A : List (MT σ)}
    {B : List (MT τ)}, IRel X Y → LRel A B → ResRel (run f s en X A) (run f s en Y B) := by
  intro f s en X Y A B hXY hAB
  rcases run_pw (R := fun _ => TRel) (Q := TRel) (fun _ => true) (fun _ a b e u _ he h => test_rel h e he u)
      (fun _ _ _ _ => trel_hit) (fun _ _ _ _ => trel_retire)
      (fun _ a b _ h => by obtain ⟨_, _, _, hb, ho, hr, _⟩ := h; exact ⟨hb, ho, hr⟩) (fun _ _ h _ => h)
      f s en (fun _ _ => rfl) (irel_iff.mp hXY) (lrel_iff_pw.mp hAB) with h | ⟨A', B', o, h1, h2, h3⟩
  · exact Or.inl h
  · exact Or.inr ⟨A', B', o, h1, h2, lrel_iff_pw.mpr h3⟩

/-- the firing condition of the tree specification is the same for a matcher and its simulation -/
theorem openSt_rel {a : MT σ} {b : MT τ} (R : σ → τ → Prop)
    (hstep : ∀ s t e u, SE e → R s t → R (a.step s e u).1 (b.step t e u).1 ∧ (a.step s e u).2 = (b.step t e u).2)
    {s0 : σ} {t0 : τ} (h0 : R s0 t0) : ∀ anc : List Open, R (openSt a.step s0 anc) (openSt b.step t0 anc) := by
  intro anc
  induction anc with
  | nil => exact h0
  | cons o anc ih => exact (hstep _ _ (.start o.1 o.2) false (Or.inl rfl) ih).1

end Genshi.Match
