/-
  One match template as a tree rewrite.  The specification side: replace every element at which
  the template's matcher fires (in the state it reaches along the element's ancestors) by the body
  instantiated with the element's content; leave everything else alone.  The stage of the filter
  that owns one template computes exactly this.
-/
import Genshi.Lemmas.MatchSplit
namespace Genshi.Match
open Genshi
variable {σ : Type}

/-- the scan with positions relative to the head of the list -/
def scanP (w : Nat → Bool) (e : Event) : List (MT σ) → List (MT σ) × Option Nat
  | [] => ([], none)
  | t :: ts =>
    if w 0 then
      let r := t.test e false
      if r.2 then ({ r.1 with hits := r.1.hits + 1 } :: ts, some 0)
      else
        let q := scanP (fun p => w (p + 1)) e ts
        (r.1 :: q.1, q.2.map (· + 1))
    else
      let q := scanP (fun p => w (p + 1)) e ts
      (t :: q.1, q.2.map (· + 1))

theorem scan_eq_scanP (e : Event) (s : Nat) (en : Option Nat) : ∀ (j : Nat) (mts : List (MT σ)),
    scan e s en j mts =
      ((scanP (fun p => inWindow s en (j + p)) e mts).1, (scanP (fun p => inWindow s en (j + p)) e mts).2.map (j + ·)) := by
  intro j mts
  induction mts generalizing j with
  | nil => simp [scan, scanP]
  | cons t ts ih =>
    unfold scan scanP
    have hfun : (fun p => inWindow s en (j + (p + 1))) = (fun p => inWindow s en (j + 1 + p)) := by
      funext p; rw [show j + (p + 1) = j + 1 + p by omega]
    by_cases hw : inWindow s en j = true
    · simp only [Nat.add_zero, hw, ↓reduceIte]
      by_cases hf : (t.test e false).2 = true
      · simp [hf]
      · simp only [hf, Bool.false_eq_true, ↓reduceIte]
        rw [ih (j + 1), hfun]
        simp only [Option.map_map]
        congr 2
        funext x; simp; omega
    · simp only [Nat.add_zero, hw, Bool.false_eq_true, ↓reduceIte]
      rw [ih (j + 1), hfun]
      simp only [Option.map_map]
      congr 2
      funext x; simp; omega

theorem scanP_retired (e : Event) : ∀ (N : List (MT σ)) (v : Nat → Bool),
    (∀ p t, v p = true → N[p]? = some t → t.retired = true) → scanP v e N = (N, none) := by
  intro N
  induction N with
  | nil => intro v _; rfl
  | cons x xs ih =>
    intro v hv
    have hrec := ih (fun p => v (p + 1)) (fun p t hp ht => hv (p + 1) t hp (by simpa using ht))
    unfold scanP
    by_cases h0 : v 0 = true
    · have hx : x.retired = true := hv 0 x h0 rfl
      simp only [h0, ↓reduceIte, test_retired hx, Bool.false_eq_true, hrec]
      simp
    · simp only [h0, Bool.false_eq_true, ↓reduceIte, hrec]
      simp

theorem mapW_retired (e : Event) (u : Bool) : ∀ (N : List (MT σ)) (v : Nat → Bool),
    (∀ p t, v p = true → N[p]? = some t → t.retired = true) → mapW v (fun t => (t.test e u).1) N = N := by
  intro N
  induction N with
  | nil => intro v _; rfl
  | cons x xs ih =>
    intro v hv
    have hrec := ih (fun p => v (p + 1)) (fun p t hp ht => hv (p + 1) t hp (by simpa using ht))
    by_cases h0 : v 0 = true
    · have hx : x.retired = true := hv 0 x h0 rfl
      simp [mapW, h0, test_retired hx, hrec]
    · simp [mapW, h0, hrec]

/-- a filter in whose window every template is retired passes everything and touches nothing -/
theorem run_inert : ∀ (f s : Nat) (en : Option Nat) (items : List (Item σ)) (M : List (MT σ))
    (r : List (MT σ) × List Event), (∀ p t, inWindow s en p = true → M[p]? = some t → t.retired = true) → NoReg items →
    run f s en items M = some r → r = (M, evs items) := by
  intro f s en items M r hret hnr h
  replace h := ran_iff.mp h
  induction h with
  | nil => rfl
  | @reg _ _ _ t => exact absurd (by simp) (hnr t)
  | pass _ hsc _ ih =>
    rw [scan_eq_scanP, scanP_retired _ _ _ (by simpa using hret)] at hsc
    obtain ⟨rfl, _⟩ := Prod.mk.inj hsc
    rw [ih hret (regs_tail hnr)]; rfl
  | fire _ hsc =>
    rw [scan_eq_scanP, scanP_retired _ _ _ (by simpa using hret)] at hsc
    cases (Prod.mk.inj hsc).2
  | close _ _ ih =>
    rw [scanEnd_eq_mapW, mapW_retired _ false _ _ (by simpa using hret)] at ih
    rw [ih hret (regs_tail hnr)]; rfl
  | other _ _ _ ih => rw [ih hret (regs_tail hnr)]; rfl

theorem run_empty_window (f s : Nat) (en : Option Nat) (items : List (Item σ)) (M : List (MT σ))
    (r : List (MT σ) × List Event) (hw : ∀ j, inWindow s en j = false) (hnr : NoReg items)
    (h : run f s en items M = some r) : r = (M, evs items) :=
  run_inert f s en items M r (fun p _ hp => by rw [hw p] at hp; cases hp) hnr h

theorem lvl_flatten : ∀ (n : Node) (d : Nat) (rest : List Event), n.ok = true →
      lvl d (n.flatten ++ rest) = lvl d rest := fun n d rest h =>
  have hw : WellNested n.flatten := wellNested_of_balance_append fun r => balance_flatten n [] r h
  lvl_closed_append (closed_of_neutral (neutral_of_wellNested hw)) d rest

/-- slot `i` holds the live template `t` (up to state, counter) in sync with the open ancestors `anc` -/
def SlotAt (i : Nat) (t : MT σ) (b : σ) (anc : List Open) (M : List (MT σ)) : Prop :=
  ∃ t', M[i]? = some t' ∧ Shape t t' ∧ t'.retired = false ∧ t'.st = openSt t.step b anc

mutual
  /-- the number of elements the tree rewrite of template `t` replaces in a node (the elements at which
      the matcher fires; below a replaced element only when the template is recursive) -/
  def countNode (t : MT σ) (b : σ) (anc : List Open) : Node → Nat
    | .leaf _ => 0
    | .elem tg at_ kids =>
      if (t.step (openSt t.step b anc) (.start tg at_) false).2 then
        1 + (if t.recursive then countList t b ((tg, at_) :: anc) kids else 0)
      else countList t b ((tg, at_) :: anc) kids
  def countList (t : MT σ) (b : σ) (anc : List Open) : List Node → Nat
    | [] => 0
    | n :: ns => countNode t b anc n + countList t b anc ns
end

/-- `SlotAt` with the ghost counter: slot `i` holds the live template in sync with the ancestors, having
    replaced `k` elements so far -/
def SlotAtH (i : Nat) (t : MT σ) (b : σ) (anc : List Open) (k : Nat) (M : List (MT σ)) : Prop :=
  ∃ t', M[i]? = some t' ∧ Shape t t' ∧ t'.retired = false ∧ t'.st = openSt t.step b anc ∧ t'.hits = k

theorem SlotAtH.slotAt {i k : Nat} {t : MT σ} {b : σ} {anc : List Open} {M : List (MT σ)}
    (h : SlotAtH i t b anc k M) : SlotAt i t b anc M := by
  obtain ⟨t', h1, h2, h3, h4, _⟩ := h; exact ⟨t', h1, h2, h3, h4⟩

theorem SlotAt.counted {i : Nat} {t : MT σ} {b : σ} {anc : List Open} {M : List (MT σ)}
    (h : SlotAt i t b anc M) : ∃ k, SlotAtH i t b anc k M := by
  obtain ⟨t', h1, h2, h3, h4⟩ := h; exact ⟨_, t', h1, h2, h3, h4, rfl⟩

/-- in a lawful matcher the END of the innermost open element undoes its START, whether the stage sees it
    as an event of the stream or as the `updateonly` notification after a replacement -/
theorem SlotAtH.close {i k : Nat} {t : MT σ} {b : σ} {anc : List Open} {M : List (MT σ)} {tg : QName} {at_ : AttrList}
    (h : SlotAtH i t b ((tg, at_) :: anc) k M) (hl : Lawful t) :
    SlotAtH i t b anc k (scanEnd (.end_ tg) i (some (i + 1)) 0 M) ∧
      SlotAtH i t b anc k (updRange (.end_ tg) i (i + 1) 0 M) := by
  obtain ⟨t1, ht1, hsh1, hret1, hst1, hh1⟩ := h
  have key : ∀ u, Shape t (t1.test (.end_ tg) u).1 ∧ (t1.test (.end_ tg) u).1.retired = false ∧
      (t1.test (.end_ tg) u).1.st = openSt t.step b anc ∧ (t1.test (.end_ tg) u).1.hits = k := fun u =>
    ⟨hsh1.trans (test_shape t1 _ _), (test_live hret1 _ u).2.2,
      by rw [(test_live hret1 _ u).1, hst1, hsh1.1]; exact hl _ _ _ _ _, by rw [test_hits]; exact hh1⟩
  exact ⟨⟨_, by rw [scanEnd_get, ht1]; simp [(inWindow_single i i).mpr rfl], key false⟩,
    ⟨_, by rw [updRange_get, ht1]; simp, key true⟩⟩

theorem evItems_leaf (e : Event) (rest : List Node) :
    (evItems (flattenList (.leaf e :: rest)) : List (Item σ)) = .ev e :: evItems (flattenList rest) := by
  simp [flattenList, Node.flatten, evItems]

theorem evItems_elem (tg : QName) (at_ : AttrList) (kids rest : List Node) :
    (evItems (flattenList (.elem tg at_ kids :: rest)) : List (Item σ)) =
      .ev (.start tg at_) :: (evItems (flattenList kids) ++ .ev (.end_ tg) :: evItems (flattenList rest)) := by
  simp [flattenList, Node.flatten, evItems]

theorem run_kids_end {f s : Nat} {en : Option Nat} {kids : List Node} {tg : QName} {rest : List (Item σ)}
    {M : List (MT σ)} {p : List (MT σ) × List Event} (hk : okList kids = true)
    (h : run f s en (evItems (flattenList kids) ++ .ev (.end_ tg) :: rest) M = some p) :
    ∃ r1 q, run f s en (evItems (flattenList kids)) M = some r1 ∧
      run f s en rest (scanEnd (.end_ tg) s en 0 r1.1) = some q ∧ p = (q.1, r1.2 ++ .end_ tg :: q.2) := by
  obtain ⟨r1, r2, hr1, hr2, rfl⟩ := run_append f s en _ _ 0 M p
    (by rw [evs_evItems]; exact closed_flattenList kids hk) h
  obtain ⟨f0, rfl⟩ : ∃ f0, f = f0 + 1 := ⟨f - 1, by have := run_fuel_pos hr2; omega⟩
  rw [run_end rfl] at hr2
  obtain ⟨q, hq, rfl⟩ := emit_some hr2
  exact ⟨r1, q, hr1, run_mono _ _ _ _ _ _ hq, rfl⟩

/-- the stage of slot `i` at the START of an element: either the matcher, in the state reached along the
    ancestors, declines, the START passes and the stage goes on into the content; or it fires, the content is
    matched on its own, the body passes the (empty) rest of the stage, and the stage goes on behind the END -/
theorem stage_start {t : MT σ} {b : σ} {i k : Nat} {anc : List Open} {M : List (MT σ)} (hslot : SlotAtH i t b anc k M)
    {f : Nat} {tg : QName} {at_ : AttrList} {kids : List Node} (hkids : okList kids = true) {rest : List (Item σ)}
    {r : List (MT σ) × List Event}
    (h : run (f + 1) i (some (i + 1)) (.ev (.start tg at_) :: (evItems (flattenList kids) ++ .ev (.end_ tg) :: rest)) M =
      some r) :
    ((t.step (openSt t.step b anc) (.start tg at_) false).2 = false ∧
      ∃ M1 p, SlotAtH i t b ((tg, at_) :: anc) k M1 ∧
        run f i (some (i + 1)) (evItems (flattenList kids) ++ .ev (.end_ tg) :: rest) M1 = some p ∧
        r = (p.1, .start tg at_ :: p.2)) ∨
    ((t.step (openSt t.step b anc) (.start tg at_) false).2 = true ∧
      ∃ M1 tf M3 innerOut p, SlotAtH i t b ((tg, at_) :: anc) (k + 1) M1 ∧ M1[i]? = some tf ∧ Shape t tf ∧
        run f i (some (preEnd tf i)) (evItems (flattenList kids)) (fired tf i M1) = some (M3, innerOut) ∧
        run f i (some (i + 1)) rest (updRange (.end_ tg) i (i + 1) 0 M3) = some p ∧
        r = (p.1, instantiate t.body (.start tg at_ :: innerOut ++ [.end_ tg]) ++ p.2)) := by
  obtain ⟨t', ht', hsh, hret, hst, hhits⟩ := hslot
  have hlive := test_live hret (.start tg at_) false
  have hans : (t'.test (.start tg at_) false).2 = (t.step (openSt t.step b anc) (.start tg at_) false).2 := by
    rw [hlive.2.1, hst, hsh.1]
  have hst1 : (t'.test (.start tg at_) false).1.st = openSt t.step b ((tg, at_) :: anc) := by
    rw [hlive.1, hst, hsh.1]; rfl
  have hwi := (inWindow_single i i).mpr rfl
  rcases run_start_cases rfl h with ⟨M1, p, hsc, hp, rfl⟩ |
    ⟨M1, idx, tf, inner, tail, rest', M3, innerOut, M4, outb, p, hsc, htf, hst', h3, h4, h5, rfl⟩
  · left
    have hM1 := scan_get (.start tg at_) i (some (i + 1)) M i
    rw [hsc, ht', Option.map_some, scanAt_none, hwi, if_pos rfl] at hM1
    refine ⟨?_, M1, p, ⟨_, hM1, hsh.trans (test_shape t' _ _), hlive.2.2, hst1, by rw [test_hits]; exact hhits⟩, hp, rfl⟩
    rw [← hans]
    exact scan_none_iff.mp (by rw [hsc]) i t' ht' hwi
  · right
    have hclk : Closed (evs (evItems (flattenList kids) : List (Item σ))) := by
      rw [evs_evItems]; exact closed_flattenList kids hkids
    rw [strip_of_closed _ 0 (.end_ tg) rest hclk rfl rfl] at hst'
    simp only [Option.some.injEq, Prod.mk.injEq] at hst'
    obtain ⟨rfl, rfl, rfl⟩ := hst'
    -- only slot `i` is in the window, so it is the one that fired
    obtain ⟨t0, ht0, hfire, hw, heq⟩ := scan_fired hsc htf
    obtain rfl : idx = i := (inWindow_single i idx).mp hw
    rw [ht'] at ht0; cases ht0
    have hshf : Shape t tf := by rw [heq]; exact hsh.trans (test_shape t' _ false)
    obtain ⟨rfl, rfl⟩ := Prod.mk.inj (run_empty_window _ _ _ _ _ _ (inWindow_empty (idx + 1)) (noReg_evItems _) h4)
    refine ⟨by rw [← hans]; exact hfire, M1, tf, _, innerOut, p,
      ⟨tf, htf, hshf, by rw [heq]; exact hlive.2.2, by rw [heq]; exact hst1, by rw [heq]; simp [test_hits, hhits]⟩,
      htf, hshf, h3, h5, ?_⟩
    rw [evs_evItems, hshf.2.1]

/-- `stage_is_spec` with the ghost counter: the stage replaces exactly `countList` elements -/
theorem stage_is_spec_hits (t : MT σ) (b : σ) (i : Nat) (hl : Lawful t) (ho : t.once = false) :
    ∀ (f : Nat) (ns : List Node) (anc : List Open) (M : List (MT σ)) (r : List (MT σ) × List Event) (k : Nat),
    okList ns = true → SlotAtH i t b anc k M →
    run f i (some (i + 1)) (evItems (flattenList ns)) M = some r →
    r.2 = specList t b anc ns ∧ SlotAtH i t b anc (k + countList t b anc ns) r.1 := by
  intro f
  induction f with
  | zero => intro ns anc M r k _ _ h; simp [run] at h
  | succ f ih =>
    intro ns anc M r k hokl hslot h
    cases ns with
    | nil =>
      simp [flattenList, evItems, run] at h; subst h
      exact ⟨by simp [specList], by simpa [countList] using hslot⟩
    | cons n rest =>
      simp only [okList, Bool.and_eq_true] at hokl
      obtain ⟨hn, hrestok⟩ := hokl
      cases n with
      | leaf e =>
        obtain ⟨h1, h2⟩ := leaf_ok.mp hn
        rw [evItems_leaf, run_other h1 h2] at h
        obtain ⟨q, hq, rfl⟩ := emit_some h
        obtain ⟨e1, e2⟩ := ih rest anc M q k hrestok hslot hq
        exact ⟨by simp [specList, specNode, e1], by simpa [countList, countNode] using e2⟩
      | elem tg at_ kids =>
        have hkids : okList kids = true := by simpa [Node.ok] using hn
        rw [evItems_elem] at h
        rcases stage_start hslot hkids h with ⟨hspec, M1, p, hslot1, hp, rfl⟩ |
          ⟨hspec, M1, tf, M3, innerOut, p, hslot1, htf, hshf, h3, h5, rfl⟩
        · obtain ⟨r1, q, hr1, hq, rfl⟩ := run_kids_end hkids hp
          obtain ⟨ek1, ek2⟩ := ih kids _ M1 r1 k hkids hslot1 hr1
          obtain ⟨er1, er2⟩ := ih rest anc _ q _ hrestok (ek2.close hl).1 hq
          exact ⟨by simp [specList, specNode, hspec, ek1, er1],
            by simpa [countList, countNode, hspec, Nat.add_assoc] using er2⟩
        · have honce : tf.once = false := by rw [hshf.2.2.1]; exact ho
          rw [show fired tf i M1 = M1 by simp [fired, honce]] at h3
          -- the content: rewritten by this stage if the template is recursive, shown to no template if not
          have hinner : innerOut = (if t.recursive then specList t b ((tg, at_) :: anc) kids else flattenList kids) ∧
              SlotAtH i t b ((tg, at_) :: anc)
                (k + 1 + (if t.recursive then countList t b ((tg, at_) :: anc) kids else 0)) M3 := by
            by_cases hrec : t.recursive = true
            · rw [show preEnd tf i = i + 1 by simp [preEnd, hshf.2.2.2.1, hrec]] at h3
              obtain ⟨e1, e2⟩ := ih kids _ M1 _ (k + 1) hkids hslot1 h3
              exact ⟨by simpa [hrec] using e1, by simpa [hrec] using e2⟩
            · have hrec' : t.recursive = false := by simpa using hrec
              rw [show preEnd tf i = i by simp [preEnd, hshf.2.2.2.1, hrec', honce]] at h3
              obtain ⟨rfl, rfl⟩ := Prod.mk.inj (run_empty_window _ _ _ _ _ _ (inWindow_empty i) (noReg_evItems _) h3)
              exact ⟨by simp [hrec'], by simpa [hrec'] using hslot1⟩
          obtain ⟨hio, hslot3⟩ := hinner
          obtain ⟨er1, er2⟩ := ih rest anc _ p _ hrestok (hslot3.close hl).2 h5
          exact ⟨by simp [specList, specNode, hspec, er1, hio],
            by simpa [countList, countNode, hspec, Nat.add_assoc] using er2⟩

/-- **One template, one tree rewrite.**  The stage of the filter that owns the template of slot `i`
    (window `[i, i+1)`, the template live, without `once`, its matcher lawful) maps the flattening of
    a forest to its specification: every element at which the matcher fires — in the state it reaches
    by testing the STARTs of the element's ancestors — is replaced by the body instantiated with
    START, the rewritten content (the plain content when `recursive="false"`), END; everything else
    passes.  Afterwards the matcher is back in the state it had. -/
theorem stage_is_spec (t : MT σ) (b : σ) (i : Nat) (hl : Lawful t) (ho : t.once = false) :
    ∀ (f : Nat) (ns : List Node) (anc : List Open) (M : List (MT σ)) (r : List (MT σ) × List Event),
    okList ns = true → SlotAt i t b anc M →
    run f i (some (i + 1)) (evItems (flattenList ns)) M = some r →
    r.2 = specList t b anc ns ∧ SlotAt i t b anc r.1 := by
  intro f ns anc M r hok hslot h
  obtain ⟨k, hk⟩ := hslot.counted
  obtain ⟨h1, h2⟩ := stage_is_spec_hits t b i hl ho f ns anc M r k hok hk h
  exact ⟨h1, h2.slotAt⟩

end Genshi.Match
