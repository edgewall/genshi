/-
  The window footprint, as a vocabulary: `splice w x y` takes slot `j` from `x` where `w j` and from `y` elsewhere;
  a stage `g` neither reads nor writes the slots outside `w` when it commutes with `splice w · y` for every `y`
  (`Frames`).  The windows as sets of slots (`win`); the four list operations of the model commute with `splice` on
  their window (`splice_slotwise`: they act slot by slot and leave the other slots alone).
-/
import Genshi.Lemmas.MatchPoint
import Genshi.Model.MatchLazy
namespace Genshi.Match
open Genshi
variable {σ : Type}

/-- slot `j` from `x` where `w j`, from `y` elsewhere (lists of equal length) -/
def splice (w : Nat → Bool) : List (MT σ) → List (MT σ) → List (MT σ)
  | [], _ => []
  | x :: xs, [] => x :: xs
  | x :: xs, y :: ys => (if w 0 then x else y) :: splice (fun p => w (p + 1)) xs ys

theorem splice_length (w : Nat → Bool) : ∀ (x y : List (MT σ)), (splice w x y).length = x.length := by
  intro x
  induction x generalizing w with
  | nil => intro y; rfl
  | cons a xs ih => intro y; cases y <;> simp [splice, ih]

theorem splice_get (w : Nat → Bool) : ∀ (x y : List (MT σ)) (j : Nat), y.length = x.length →
    (splice w x y)[j]? = if w j then x[j]? else y[j]? := by
  intro x
  induction x generalizing w with
  | nil => intro y j h; simp at h; subst h; simp [splice]
  | cons a xs ih =>
    intro y j h
    cases y with
    | nil => simp at h
    | cons b ys =>
      cases j with
      | zero => simp only [splice, List.getElem?_cons_zero]; split <;> rfl
      | succ j =>
        simp only [splice, List.getElem?_cons_succ]
        exact ih (fun p => w (p + 1)) ys j (by simpa using h)

theorem splice_eq_left {w : Nat → Bool} {x y : List (MT σ)} (hl : y.length = x.length)
    (h : ∀ p, w p = false → x[p]? = y[p]?) : splice w x y = x := by
  apply List.ext_getElem?; intro p
  rw [splice_get w x y p hl]
  by_cases hp : w p = true
  · simp [hp]
  · simp only [hp, Bool.false_eq_true, ↓reduceIte]; exact (h p (by simpa using hp)).symm

theorem splice_eq_right {w : Nat → Bool} {x y : List (MT σ)} (hl : y.length = x.length)
    (h : ∀ p, w p = true → x[p]? = y[p]?) : splice w x y = y := by
  apply List.ext_getElem?; intro p
  rw [splice_get w x y p hl]
  by_cases hp : w p = true
  · simp only [hp, ↓reduceIte]; exact h p hp
  · simp [hp]

theorem splice_self (w : Nat → Bool) (x : List (MT σ)) : splice w x x = x :=
  splice_eq_right rfl fun _ _ => rfl

theorem splice_get_in {w : Nat → Bool} {m y : List (MT σ)} {j : Nat} (h : y.length = m.length) (hw : w j = true) :
    (splice w m y)[j]? = m[j]? := by
  rw [splice_get w m y j h]; simp [hw]

/-- a stage that neither reads nor writes the slots outside `w` -/
def Frames (w : Nat → Bool) (g : List (MT σ) → Fed σ) : Prop :=
  ∀ m y A' m' o, y.length = m.length → g m = some (A', m', o) →
    m'.length = m.length ∧ g (splice w m y) = some (A', splice w m' y, o)

theorem Frames.outside {w : Nat → Bool} {g : List (MT σ) → Fed σ} (hg : Frames w g)
    {m : List (MT σ)} {A' : Auto} {m' : List (MT σ)} {o : List Event} (h : g m = some (A', m', o)) :
    ∀ j, w j = false → m'[j]? = m[j]? := by
  intro j hj
  obtain ⟨hl, h2⟩ := hg m m A' m' o rfl h
  rw [splice_self, h] at h2
  simp only [Option.some.injEq, Prod.mk.injEq, true_and, and_true] at h2
  have := congrArg (fun l : List (MT σ) => l[j]?) h2
  rw [splice_get w m' m j hl.symm] at this
  simp only [hj, Bool.false_eq_true, ↓reduceIte] at this
  exact this

/-- a framed stage answers alike on every list that agrees with `m` on `w`: the slots of `w` as for `m`, the others untouched -/
theorem Frames.agree {w : Nat → Bool} {g : List (MT σ) → Fed σ} (hg : Frames w g) {m m' z : List (MT σ)} {A' : Auto}
    {o : List Event} (h : g m = some (A', m', o)) (hz : z.length = m.length) (hag : ∀ j, w j = true → z[j]? = m[j]?) :
    g z = some (A', splice w m' z, o) := by
  have h2 := (hg m z A' m' o hz h).2
  rwa [splice_eq_right hz fun j hj => (hag j hj).symm] at h2

theorem Frames.widen {w2 w : Nat → Bool} {g : List (MT σ) → Fed σ} (hg : Frames w2 g)
    (hsub : ∀ j, w2 j = true → w j = true) : Frames w g := by
  intro m y A' m' o hy h
  obtain ⟨hl, _⟩ := hg m y A' m' o hy h
  refine ⟨hl, ?_⟩
  have hy2 : (splice w m y).length = m.length := splice_length w m y
  rw [hg.agree h hy2 fun j hj => splice_get_in hy (hsub j hj)]
  congr 2; congr 1
  apply List.ext_getElem?; intro j
  rw [splice_get w2 m' _ j (by rw [hy2, hl]), splice_get w m y j hy, splice_get w m' y j (by rw [hy, hl])]
  cases h2 : w2 j with
  | true => rw [hsub j h2]; rfl
  | false =>
    cases w j with
    | true => exact (hg.outside h j h2).symm
    | false => rfl

/-- a stage framed by `w1` does not see what `splice w2` puts into the list when `w1` and `w2` are disjoint -/
theorem Frames.disj {w1 w2 : Nat → Bool} {g : List (MT σ) → Fed σ} (hg : Frames w1 g)
    (hd : ∀ p, w1 p = true → w2 p = false) {x y y' : List (MT σ)} {A' : Auto} {o : List Event}
    (hxy : x.length = y.length) (h : g y = some (A', y', o)) :
    g (splice w2 x y) = some (A', splice w2 x y', o) := by
  have hl : (splice w2 x y).length = y.length := by rw [splice_length, hxy]
  have hly := (hg y y A' y' o rfl h).1
  rw [hg.agree h hl fun j hj => by rw [splice_get _ x y j hxy.symm, hd j hj]; rfl]
  congr 2; congr 1
  apply List.ext_getElem?; intro p
  rw [splice_get _ y' _ p (by rw [hl, hly]), splice_get _ x y p hxy.symm, splice_get _ x y' p (by rw [hly, hxy])]
  cases hp : w1 p with
  | true => rw [hd p hp]; rfl
  | false =>
    cases w2 p with
    | true => rfl
    | false => exact (hg.outside h p hp).symm

/-- an operation that acts slot by slot (`f j` on slot `j`) and leaves the slots outside `w` alone commutes with `splice` -/
theorem splice_slotwise {w : Nat → Bool} {f : Nat → MT σ → MT σ} (hf : ∀ j t, w j = false → f j t = t)
    {m m' y sm' : List (MT σ)} (hy : y.length = m.length) (hm : ∀ j, m'[j]? = (m[j]?).map (f j))
    (hs : ∀ j, sm'[j]? = ((splice w m y)[j]?).map (f j)) : sm' = splice w m' y := by
  apply List.ext_getElem?; intro j
  rw [hs, splice_get w m y j hy, splice_get w m' y j (by rw [hy, length_of_get hm]), hm]
  cases hw : w j with
  | true => rfl
  | false =>
    simp only [Bool.false_eq_true, ↓reduceIte]
    cases y[j]? with
    | none => rfl
    | some t => rw [Option.map_some, hf j t hw]

def win (s : Nat) (en : Option Nat) : Nat → Bool := fun j => inWindow s en j

theorem scan_splice (e : Event) (s : Nat) (en : Option Nat) (m y : List (MT σ)) (h : y.length = m.length) :
    scan e s en 0 (splice (win s en) m y) = (splice (win s en) (scan e s en 0 m).1 y, (scan e s en 0 m).2) := by
  have hhit : (scan e s en 0 (splice (win s en) m y)).2 = (scan e s en 0 m).2 :=
    scan_hit_congr (splice_length _ m y).symm fun i a b ha hb _ => by
      cases hw : inWindow s en i with
      | false => rfl
      | true => rw [splice_get_in h (show win s en i = true from hw), ha] at hb; cases hb; rfl
  refine Prod.ext ?_ hhit
  refine splice_slotwise (f := scanAt e s en (scan e s en 0 m).2) (fun j t hw => ?_) h (scan_get e s en m) fun j => ?_
  · unfold scanAt; rw [if_neg (fun hh => by rw [show inWindow s en j = false from hw] at hh; exact Bool.false_ne_true hh.1)]
  · rw [scan_get, hhit]

theorem scanEnd_splice (e : Event) (s : Nat) (en : Option Nat) (m y : List (MT σ)) (h : y.length = m.length) :
    scanEnd e s en 0 (splice (win s en) m y) = splice (win s en) (scanEnd e s en 0 m) y :=
  splice_slotwise (f := fun j t => if inWindow s en (0 + j) then (t.test e false).1 else t)
    (fun j t hw => by rw [Nat.zero_add, show inWindow s en j = false from hw]; rfl) h (scanEnd_get e s en 0 m) (scanEnd_get e s en 0 _)

theorem updRange_splice (e : Event) (s : Nat) (en : Option Nat) (idx : Nat) (m y : List (MT σ))
    (h : y.length = m.length) (hidx : inWindow s en idx = true) :
    updRange e s (idx + 1) 0 (splice (win s en) m y) = splice (win s en) (updRange e s (idx + 1) 0 m) y :=
  splice_slotwise (f := fun j t => if decide (s ≤ 0 + j) && decide (0 + j < idx + 1) then (t.test e true).1 else t)
    (fun j t hw => by
      rw [Nat.zero_add, if_neg]
      intro hj
      cases hw.symm.trans (show win s en j = true from inWindow_upd hidx hj))
    h (updRange_get e s (idx + 1) 0 m) (updRange_get e s (idx + 1) 0 _)

theorem fired_splice (t : MT σ) (s : Nat) (en : Option Nat) (idx : Nat) (m y : List (MT σ))
    (h : y.length = m.length) (hidx : inWindow s en idx = true) :
    fired t idx (splice (win s en) m y) = splice (win s en) (fired t idx m) y :=
  splice_slotwise (f := fun j x => if j = idx ∧ t.once = true then x.retire else x)
    (fun j x hw => by
      rw [if_neg]
      rintro ⟨rfl, _⟩
      cases hw.symm.trans (show win s en j = true from hidx))
    h (fired_get t idx m) (fired_get t idx _)

theorem win_sub_inner {s : Nat} {en : Option Nat} {idx pe : Nat} (hidx : inWindow s en idx = true) (hpe : pe ≤ idx + 1) :
    ∀ j, win s (some pe) j = true → win s en j = true := fun _ hj => inWindow_inner hidx hpe hj

theorem win_sub_body {s : Nat} {en : Option Nat} {idx : Nat} (hidx : inWindow s en idx = true) :
    ∀ j, win (idx + 1) en j = true → win s en j = true := fun _ hj => inWindow_body hidx hj

end Genshi.Match
