/-
  More fuel never changes a result (`run_mono`, `run_det`), and the eager filter processes a closed prefix of the
  stream independently of what follows: the run over `a ++ b` is cut into the run over `a` and the run over `b`
  (`run_append`), and the two make up the run over both (`run_append_join`).
-/
import Genshi.Lemmas.MatchRun
namespace Genshi.Match
open Genshi
variable {σ : Type}

theorem Ran.mono {f s : Nat} {en : Option Nat} {items : List (Item σ)} {m : List (MT σ)} {r : List (MT σ) × List Event}
    (h : Ran f s en items m r) : Ran (f + 1) s en items m r := by
  induction h with
  | nil => exact .nil
  | reg _ ih => exact .reg ih
  | pass hS hsc _ ih => exact .pass hS hsc ih
  | fire hS hsc ht hst _ _ _ ih3 ih4 ih5 => exact .fire hS hsc ht hst ih3 ih4 ih5
  | close hE _ ih => exact .close hE ih
  | other hS hE _ ih => exact .other hS hE ih

theorem run_mono : ∀ (f s : Nat) (en : Option Nat) (items : List (Item σ)) (mts : List (MT σ))
    (r : List (MT σ) × List Event), run f s en items mts = some r → run (f + 1) s en items mts = some r := by
  intro f s en items mts r h
  exact ran_iff.mpr (ran_iff.mp h).mono

theorem run_mono_le {f f' s : Nat} {en : Option Nat} {items : List (Item σ)} {mts : List (MT σ)}
    {r : List (MT σ) × List Event} (h : run f s en items mts = some r) (hle : f ≤ f') :
    run f' s en items mts = some r := by
  induction hle with
  | refl => exact h
  | step _ ih => exact run_mono _ _ _ _ _ _ ih

theorem run_det {f g s : Nat} {en : Option Nat} {items : List (Item σ)} {m : List (MT σ)}
    {r r' : List (MT σ) × List Event} (h : run f s en items m = some r) (h' : run g s en items m = some r') : r = r' := by
  have a := run_mono_le h (Nat.le_max_left f g)
  have b := run_mono_le h' (Nat.le_max_right f g)
  rw [a] at b
  exact Option.some.inj b

theorem run_fuel_pos {f s : Nat} {en : Option Nat} {items : List (Item σ)} {mts : List (MT σ)}
    {r : List (MT σ) × List Event} (h : run f s en items mts = some r) : 0 < f := by
  cases f with
  | zero => simp [run] at h
  | succ f => omega

theorem strip_append : ∀ (a : List (Item σ)) (d k : Nat) (b : List (Item σ)),
    lvl (k + d + 1) (evs a) = some 0 →
    ∃ inner tail a'', strip (d + 1) a = some (inner, tail, a'') ∧
      strip (d + 1) (a ++ b) = some (inner, tail, a'' ++ b) ∧ lvl k (evs a'') = some 0 := by
  intro a
  induction a with
  | nil => intro d k b h; cases h
  | cons it rest ih =>
    intro d k b h
    cases it with
    | reg t =>
      obtain ⟨inner, tail, a'', h1, h2, h3⟩ := ih d k b h
      exact ⟨.reg t :: inner, tail, a'', by rw [strip, h1]; rfl, by rw [List.cons_append, strip, h2]; rfl, h3⟩
    | ev e =>
      rw [evs_ev, lvl_cons, show k + d + 1 + 1 = d + 1 + (k + 1) by omega, stripDepth_add] at h
      rw [List.cons_append, strip_ev, strip_ev]
      cases hd : stripDepth (d + 1) e with
      | zero => rw [hd] at h; exact ⟨[], e, rest, rfl, rfl, by simpa using h⟩
      | succ d' =>
        rw [hd, show d' + 1 + (k + 1) = k + d' + 1 + 1 by omega] at h
        obtain ⟨inner, tail, a'', h1, h2, h3⟩ := ih d' k b h
        exact ⟨.ev e :: inner, tail, a'', by simp only [h1]; rfl, by simp only [h2]; rfl, h3⟩

/-- **Closed segments are processed independently**: the run over `a ++ b`, where `a` closes every
    element it opens (and the `d` elements open before it), is the run over `a` followed by the run
    over `b`. -/
theorem run_append : ∀ (f s : Nat) (en : Option Nat) (a b : List (Item σ)) (d : Nat) (mts : List (MT σ))
    (r : List (MT σ) × List Event), lvl d (evs a) = some 0 → run f s en (a ++ b) mts = some r →
    ∃ r1 r2, run f s en a mts = some r1 ∧ run f s en b r1.1 = some r2 ∧ r = (r2.1, r1.2 ++ r2.2) := by
  intro f
  induction f with
  | zero => intro s en a b d mts r _ h; simp [run] at h
  | succ f ih =>
    intro s en a b d mts r hl h
    cases a with
    | nil =>
      simp only [List.nil_append] at h
      exact ⟨(mts, []), r, by simp [run], h, by simp⟩
    | cons it rest =>
      cases it with
      | reg t =>
        simp only [List.cons_append, run] at h ⊢
        obtain ⟨r1, r2, h1, h2, h3⟩ := ih s en rest b d (mts ++ [t]) r (by simpa using hl) h
        exact ⟨r1, r2, h1, run_mono _ _ _ _ _ _ h2, h3⟩
      | ev e =>
        simp only [evs_ev, lvl] at hl
        simp only [List.cons_append] at h
        by_cases hS : isStart e = true
        · simp only [hS, ↓reduceIte] at hl
          rcases run_start_cases hS h with ⟨mts1, p, hsc, hp, rfl⟩ |
            ⟨mts1, idx, t, inner, tail, rest', mts3, innerOut, mts4, out, p, hsc, ht, hst, h3, h4, h5, rfl⟩
          · obtain ⟨r1, r2, h1, h2, h3⟩ := ih s en rest b (d + 1) mts1 p hl hp
            exact ⟨(r1.1, e :: r1.2), r2, run_pass hS hsc h1, run_mono _ _ _ _ _ _ h2, by simp [h3]⟩
          · obtain ⟨inner', tail', a'', hs1, hs2, hs3⟩ := strip_append rest 0 d b (by simpa using hl)
            rw [hs2] at hst
            simp only [Option.some.injEq, Prod.mk.injEq] at hst
            obtain ⟨rfl, rfl, rfl⟩ := hst
            obtain ⟨r1, r2, h1, h2, h3'⟩ := ih s en a'' b d _ p hs3 h5
            exact ⟨(r1.1, out ++ r1.2), r2, run_fired hS hsc ht hs1 h3 h4 h1, run_mono _ _ _ _ _ _ h2, by simp [h3']⟩
        · simp only [hS, Bool.false_eq_true, ↓reduceIte] at hl
          simp only [run, hS, Bool.false_eq_true, ↓reduceIte] at h ⊢
          by_cases hE : isEnd e = true
          · simp only [hE, ↓reduceIte] at hl h ⊢
            cases d with
            | zero => simp at hl
            | succ d =>
              simp only at hl
              obtain ⟨q, hr, rfl⟩ := emit_some h
              obtain ⟨r1, r2, h1, h2, h3⟩ := ih s en rest b d _ q hl hr
              exact ⟨(r1.1, e :: r1.2), r2, by rw [h1]; simp [emit], run_mono _ _ _ _ _ _ h2, by simp [h3]⟩
          · simp only [hE, Bool.false_eq_true, ↓reduceIte] at hl h ⊢
            obtain ⟨q, hr, rfl⟩ := emit_some h
            obtain ⟨r1, r2, h1, h2, h3⟩ := ih s en rest b d mts q hl hr
            exact ⟨(r1.1, e :: r1.2), r2, by rw [h1]; simp [emit], run_mono _ _ _ _ _ _ h2, by simp [h3]⟩

/-- the converse of `run_append`: a run over `a`, which closes every element it opens and the
    `d` elements open before it, and a run over `b` from the list it leaves make up the run over `a ++ b`, fuels added -/
theorem run_append_join : ∀ (f g s : Nat) (en : Option Nat) (a b : List (Item σ)) (d : Nat) (M : List (MT σ))
    (r1 r2 : List (MT σ) × List Event), lvl d (evs a) = some 0 →
    run f s en a M = some r1 → run g s en b r1.1 = some r2 →
    run (f + g) s en (a ++ b) M = some (r2.1, r1.2 ++ r2.2) := by
  intro f g s en a b d M r1 r2 hl h1 h2
  replace h1 := ran_iff.mp h1
  induction h1 generalizing d with
  | nil => exact run_mono_le h2 (by omega)
  | @reg f _ _ _ _ _ _ _ ih =>
    rw [show f + 1 + g = f + g + 1 by omega]
    exact ih d (by simpa using hl) h2
  | @pass f _ _ _ _ _ _ _ hS hsc _ ih =>
    rw [show f + 1 + g = f + g + 1 by omega]
    exact run_pass hS hsc (ih (d + 1) (by simpa [lvl, hS] using hl) h2)
  | @fire f _ _ _ rest _ _ _ _ _ _ _ _ _ _ out p hS hsc ht hst h3 h4 _ _ _ ih5 =>
    obtain ⟨inner', tail', a'', hs1, hs2, hs3⟩ := strip_append rest 0 d b (by simpa [lvl, hS] using hl)
    rw [hs1] at hst
    obtain ⟨rfl, rfl, rfl⟩ : _ ∧ _ ∧ _ := by simpa using hst
    rw [show f + 1 + g = f + g + 1 by omega, List.append_assoc]
    exact run_fired hS hsc ht hs2 (run_mono_le (ran_iff.mpr h3) (by omega)) (run_mono_le (ran_iff.mpr h4) (by omega))
      (ih5 d hs3 h2)
  | @close f _ _ e _ _ _ hE _ ih =>
    have hS := isStart_false_of_isEnd hE
    cases d with
    | zero => simp [lvl, hS, hE] at hl
    | succ d =>
      rw [show f + 1 + g = f + g + 1 by omega, List.cons_append, run_end hE, ih d (by simpa [lvl, hS, hE] using hl) h2]; rfl
  | @other f _ _ _ _ _ _ hS hE _ ih =>
    rw [show f + 1 + g = f + g + 1 by omega, List.cons_append, run_other hS hE, ih d (by simpa [lvl, hS, hE] using hl) h2]; rfl

theorem run_pass_elem {fi fa s : Nat} {en : Option Nat} {tg : QName} {at_ : AttrList} {inner rest : List (Item σ)}
    {M M1 : List (MT σ)} {r1 q : List (MT σ) × List Event} (hsc : scan (.start tg at_) s en 0 M = (M1, none))
    (hcl : Closed (evs inner)) (h1 : run fi s en inner M1 = some r1)
    (h2 : run fa s en rest (scanEnd (.end_ tg) s en 0 r1.1) = some q) :
    run (fi + (fa + 1) + 1) s en (.ev (.start tg at_) :: (inner ++ .ev (.end_ tg) :: rest)) M =
      some (q.1, .start tg at_ :: (r1.2 ++ .end_ tg :: q.2)) := by
  exact run_pass rfl hsc (run_append_join fi (fa + 1) s en inner _ 0 M1 _ _ hcl h1 (run_close rfl h2))

end Genshi.Match
