/-
  Over a well-nested stream every matcher sees a well-nested sequence of START/END events, so a matcher in
  which an END undoes its START is, after the stream, in the state it would have reached by testing the
  still-open STARTs alone (`run_sync`, behind `matcher_state_in_sync` of Props/C12.lean).
-/
import Genshi.Lemmas.MatchRun
namespace Genshi.Match
open Genshi
variable {σ : Type}

/-- slot `t` is in sync with the open elements `stk` (relative to base state `b`), or retired -/
def View (b : σ) (stk : List Open) (t : MT σ) : Prop :=
  t.retired = true ∨ t.st = openSt t.step b stk

theorem view_congr {b : σ} {stk : List Open} {t t' : MT σ} (hs : t'.step = t.step) (h1 : t'.st = t.st)
    (h2 : t'.retired = t.retired) (h : View b stk t) : View b stk t' := by
  unfold View at *; rw [hs, h1, h2]; exact h

theorem view_test_start {b : σ} {stk : List Open} {t : MT σ} (tg : QName) (at_ : AttrList)
    (h : View b stk t) : View b ((tg, at_) :: stk) (t.test (.start tg at_) false).1 := by
  unfold View at *
  unfold MT.test
  by_cases hr : t.retired = true
  · simp [hr]
  · simp only [hr, Bool.false_eq_true, ↓reduceIte]
    rcases h with h | h
    · exact absurd h hr
    · right; simp only [openSt]; rw [h]

theorem view_test_end {b : σ} {stk : List Open} {t : MT σ} (hl : Lawful t) (tg : QName) (at_ : AttrList) (u : Bool)
    (h : View b ((tg, at_) :: stk) t) : View b stk (t.test (.end_ tg) u).1 := by
  unfold View at *
  unfold MT.test
  by_cases hr : t.retired = true
  · simp [hr]
  · simp only [hr, Bool.false_eq_true, ↓reduceIte]
    rcases h with h | h
    · exact absurd h hr
    · right; simp only [openSt] at h; rw [h]; exact hl _ _ _ _ _

/-- what a run does to one slot -/
def SlotOK (start : Nat) (end_ : Option Nat) (stk stk' : List Open) (i : Nat) (t t' : MT σ) : Prop :=
  Shape t t' ∧
  (inWindow start end_ i = false → t'.st = t.st ∧ t'.retired = t.retired) ∧
  (inWindow start end_ i = true → ∀ b, View b stk t → View b stk' t')

def RunOK (start : Nat) (end_ : Option Nat) (stk stk' : List Open) (mts mts' : List (MT σ)) : Prop :=
  mts'.length = mts.length ∧
  ∀ i t, mts[i]? = some t → ∃ t', mts'[i]? = some t' ∧ SlotOK start end_ stk stk' i t t'

theorem SlotOK.refl (s : Nat) (en : Option Nat) (stk : List Open) (i : Nat) (t : MT σ) : SlotOK s en stk stk i t t :=
  ⟨Shape.refl t, fun _ => ⟨rfl, rfl⟩, fun _ _ h => h⟩

theorem runOK_refl (start : Nat) (end_ : Option Nat) (stk : List Open) (mts : List (MT σ)) :
    RunOK start end_ stk stk mts mts :=
  ⟨rfl, fun i t ht => ⟨t, ht, SlotOK.refl start end_ stk i t⟩⟩

theorem SlotOK.trans {s : Nat} {en : Option Nat} {a b c : List Open} {i : Nat} {t t' t'' : MT σ}
    (h1 : SlotOK s en a b i t t') (h2 : SlotOK s en b c i t' t'') : SlotOK s en a c i t t'' :=
  ⟨h1.1.trans h2.1, fun hw => ⟨(h2.2.1 hw).1.trans (h1.2.1 hw).1, (h2.2.1 hw).2.trans (h1.2.1 hw).2⟩,
    fun hw b0 hv => h2.2.2 hw b0 (h1.2.2 hw b0 hv)⟩

/-- between two points with no element open, a slot is retired or in the state it had -/
theorem SlotOK.sync {s : Nat} {en : Option Nat} {i : Nat} {t t' : MT σ} (h : SlotOK s en [] [] i t t') :
    t'.retired = true ∨ t'.st = t.st := by
  cases hw : inWindow s en i with
  | false => exact Or.inr (h.2.1 hw).1
  | true => exact h.2.2 hw t.st (Or.inr rfl)

/-- a slot outside the window of a run is left as it was, whatever the stacks -/
theorem SlotOK.outside {s s' : Nat} {en en' : Option Nat} {a b : List Open} {i : Nat} {t t' : MT σ}
    (h : SlotOK s' en' a b i t t') (hw : inWindow s' en' i = false) (c : List Open) : SlotOK s en c c i t t' :=
  ⟨h.1, fun _ => h.2.1 hw, fun _ _ hv => view_congr h.1.1 (h.2.1 hw).1 (h.2.1 hw).2 hv⟩

/-- a run over a sub-window that leaves the stack as it found it -/
theorem SlotOK.sub {s s' : Nat} {en en' : Option Nat} {a : List Open} {i : Nat} {t t' : MT σ}
    (h : SlotOK s' en' a a i t t') (hsub : inWindow s' en' i = true → inWindow s en i = true) :
    SlotOK s en a a i t t' := by
  cases hw : inWindow s' en' i with
  | false => exact h.outside hw a
  | true => exact ⟨h.1, fun hn => Bool.noConfusion ((hsub hw).symm.trans hn), fun _ => h.2.2 hw⟩

theorem slotOK_start {s : Nat} {en : Option Nat} {i : Nat} (hw : inWindow s en i = true) (stk : List Open) (tg : QName)
    (at_ : AttrList) (t : MT σ) (count : Prop) [Decidable count] :
    SlotOK s en stk ((tg, at_) :: stk) i t
      (if count then { (t.test (.start tg at_) false).1 with hits := (t.test (.start tg at_) false).1.hits + 1 }
       else (t.test (.start tg at_) false).1) := by
  refine ⟨shape_ite ((test_shape t _ _).trans ⟨rfl, rfl, rfl, rfl, rfl⟩) (test_shape t _ _),
    fun hn => Bool.noConfusion (hw.symm.trans hn), fun _ b h => ?_⟩
  have hv := view_test_start tg at_ h
  split
  · exact view_congr rfl rfl rfl hv
  · exact hv

theorem slotOK_end {s : Nat} {en : Option Nat} {i : Nat} (hw : inWindow s en i = true) (stk : List Open) (tg : QName)
    (at_ : AttrList) {t : MT σ} (hl : Lawful t) (u : Bool) :
    SlotOK s en ((tg, at_) :: stk) stk i t (t.test (.end_ tg) u).1 :=
  ⟨test_shape t _ _, fun hn => Bool.noConfusion (hw.symm.trans hn), fun _ _ h => view_test_end hl tg at_ u h⟩

theorem slotOK_retire {s : Nat} {en : Option Nat} {i : Nat} (hw : inWindow s en i = true) (stk : List Open) (t : MT σ)
    (c : Prop) [Decidable c] : SlotOK s en stk stk i t (if c then t.retire else t) := by
  split
  · exact ⟨retire_shape t, fun hn => Bool.noConfusion (hw.symm.trans hn), fun _ _ _ => Or.inl rfl⟩
  · exact SlotOK.refl s en stk i t

/-- a slot that is tested if it lies in the window (what `scanEnd`, and `scan` when nothing fires, do) -/
theorem slotOK_test {s : Nat} {en : Option Nat} {a b : List Open} {i : Nat} {t : MT σ} {e : Event}
    (h : inWindow s en i = true → SlotOK s en a b i t (t.test e false).1) :
    SlotOK s en a b i t (if inWindow s en i then (t.test e false).1 else t) := by
  cases hw : inWindow s en i with
  | true => exact h hw
  | false => exact ⟨Shape.refl t, fun _ => ⟨rfl, rfl⟩, fun hn => Bool.noConfusion (hw.symm.trans hn)⟩

/-- the invariant behind the `updateonly` calls -/
theorem run_sync : ∀ (f start : Nat) (end_ : Option Nat) (items : List (Item σ)) (mts : List (MT σ))
    (r : List (MT σ) × List Event),
    NoReg items → (∀ t ∈ mts, Lawful t) → (∀ t ∈ mts, BodyOK t.body) →
    run f start end_ items mts = some r →
    ∀ stk stk', track stk (evs items) = some stk' → RunOK start end_ stk stk' mts r.1 := by
  intro f s en items m r hnr hl hb h
  have hlb : ∀ t ∈ m, Lawful t ∧ BodyOK t.body := fun t ht => ⟨hl t ht, hb t ht⟩
  clear hl hb
  have hP := static_and (static_lawful (σ := σ)) static_bodyOK
  replace h := ran_iff.mp h
  induction h with
  | nil => intro stk stk' htr; obtain rfl : stk = stk' := by simpa [track] using htr
           exact runOK_refl _ _ _ _
  | @reg _ _ _ t => exact absurd (by simp) (hnr t)
  | @pass _ s en e _ m m1 _ hS hsc _ ih =>
    intro stk stk' htr
    obtain ⟨tg, at_, rfl⟩ := isStart_eq_start hS
    have h1 := scan_forall_eq hP hsc hlb
    obtain ⟨hlen, hslots⟩ := ih (regs_tail hnr) h1 _ _ htr
    refine ⟨by rw [hlen, scan_length_eq hsc], fun i x hx => ?_⟩
    have hx1 := scan_get (.start tg at_) s en m i
    rw [hsc, hx, Option.map_some, scanAt_none] at hx1
    obtain ⟨x', hx', hs⟩ := hslots i _ hx1
    exact ⟨x', hx', (slotOK_test fun hw => slotOK_start hw stk tg at_ x False).trans hs⟩
  | @fire _ s en e rest m m1 idx t inner tail rest' m3 io m4 _ _ hS hsc ht hst h3 h4 _ ih3 ih4 ih5 =>
    intro stk stk' htr
    obtain ⟨tg, at_, rfl⟩ := isStart_eq_start hS
    obtain ⟨hnin, hnre⟩ := regs_strip hst (regs_tail hnr)
    obtain ⟨h1, h2, h3', h4', h5'⟩ := fire_forall hP (regs_of_noReg hnin _) hlb hsc h3 h4
    obtain ⟨hrest, rfl, hneu, htr⟩ := track_elem hst htr
    have hbody := instantiate_neutral (h1 t (List.mem_of_getElem? ht)).2
      (neutral_wrap tg at_ (run_neutral hnin (fun x hx => (h2 x hx).2) hneu (ran_iff.mpr h3)))
    obtain ⟨hlen3, hs3⟩ := ih3 hnin h2 _ _ (hneu _)
    obtain ⟨hlen4, hs4⟩ := ih4 (noReg_evItems _) h3' stk stk (by simpa using hbody stk)
    obtain ⟨hlen6, hs6⟩ := ih5 hnre h5' _ _ htr
    obtain ⟨hwi, _, _⟩ := scan_first (.start tg at_) s en m idx (by rw [hsc])
    have hpe := preEnd_le t idx
    refine ⟨by rw [hlen6, updRange_length, hlen4, hlen3, fired_length, scan_length_eq hsc], fun i x hx => ?_⟩
    -- slot `i` through the six steps
    have hx1 := scan_get (.start tg at_) s en m i
    rw [hsc, hx, Option.map_some, scanAt_some] at hx1
    have hx2 := fired_get t idx m1 i
    rw [hx1, Option.map_some] at hx2
    obtain ⟨x3, hx3, S3⟩ := hs3 i _ hx2
    obtain ⟨x4, hx4, S4⟩ := hs4 i _ hx3
    have hx5 := updRange_get (.end_ tg) s (idx + 1) 0 m4 i
    rw [hx4, Option.map_some, Nat.zero_add] at hx5
    obtain ⟨x', hx', S6⟩ := hs6 i _ hx5
    refine ⟨x', hx', ?_⟩
    by_cases hc : inWindow s en i = true ∧ i ≤ idx
    · -- a slot of the window up to the one that fired: sees the START, the content if it is in the content's
      -- window, not the body, and is told about the END
      rw [if_pos hc] at S3
      have hw2 : inWindow (idx + 1) en i = false := inWindow_below (by omega)
      have hr5 : (decide (s ≤ i) && decide (i < idx + 1)) = true := by
        simp only [Bool.and_eq_true, decide_eq_true_eq]; exact ⟨inWindow_ge hc.1, by omega⟩
      rw [hr5, if_pos rfl] at S6
      exact (slotOK_start hc.1 stk tg at_ x (i = idx)).trans ((slotOK_retire hc.1 _ _ _).trans ((S3.sub (inWindow_inner hwi hpe.2)).trans
        (((S4.outside hw2 _).trans (slotOK_end hc.1 stk tg at_ (h4' x4 (List.mem_of_getElem? hx4)).1 true)).trans S6)))
    · -- any other slot: does not see the element, only (if it is a later slot of the window) the body
      rw [if_neg hc] at S3
      have hne : ¬ (i = idx ∧ t.once = true) := fun hh => hc ⟨hh.1 ▸ hwi, Nat.le_of_eq hh.1⟩
      rw [if_neg hne] at S3
      have hw1 : inWindow s (some (preEnd t idx)) i = false := by
        cases hh : inWindow s (some (preEnd t idx)) i with
        | false => rfl
        | true => exact absurd ⟨inWindow_inner hwi hpe.2 hh, by have := inWindow_lt hh; omega⟩ hc
      have hr5 : ¬ (decide (s ≤ i) && decide (i < idx + 1)) = true := fun hh =>
        hc ⟨inWindow_upd hwi hh, by simp only [Bool.and_eq_true, decide_eq_true_eq] at hh; omega⟩
      rw [if_neg hr5] at S6
      exact (S3.outside hw1 stk).trans ((S4.sub (inWindow_body hwi)).trans S6)
  | @close _ s en e _ m _ hE _ ih =>
    intro stk stk' htr
    obtain ⟨tg, rfl⟩ := isEnd_eq_end hE
    obtain ⟨at_, stk, rfl, htr1⟩ := track_end htr
    obtain ⟨hlen, hslots⟩ := ih (regs_tail hnr) (scanEnd_forall hP _ s en 0 m hlb) _ _ htr1
    refine ⟨by rw [hlen, scanEnd_length], fun i x hx => ?_⟩
    have hx1 := scanEnd_get (.end_ tg) s en 0 m i
    rw [hx, Option.map_some, Nat.zero_add] at hx1
    obtain ⟨x', hx', hs⟩ := hslots i _ hx1
    exact ⟨x', hx', (slotOK_test fun hw => slotOK_end hw stk tg at_ (hlb x (List.mem_of_getElem? hx)).1 false).trans hs⟩
  | @other _ _ _ e _ _ _ hS hE _ ih =>
    intro stk stk' htr
    rw [evs_ev, track_other e hS hE] at htr
    exact ih (regs_tail hnr) hlb _ _ htr

end Genshi.Match
