/-
  The eager filter terminates on every well-nested, registration-free stream: the body of a match
  is matched against strictly later templates only.  With it, a whole render of a template whose declarations
  come first (`render_declarations_first`).
-/
import Genshi.Lemmas.MatchSplit
namespace Genshi.Match
open Genshi
variable {σ : Type}

theorem neutral_start_split {tg : QName} {at_ : AttrList} {rest inner a'' : List (Item σ)} {tail : Event}
    (hn : Neutral (Event.start tg at_ :: evs rest)) (hst : strip 1 rest = some (inner, tail, a'')) :
    rest = inner ++ .ev tail :: a'' ∧ Neutral (evs inner) ∧ tail = Event.end_ tg ∧ Neutral (evs a'') := by
  obtain ⟨hrest, htail, hnin, _⟩ := track_elem hst (hn [])
  exact ⟨hrest, hnin, htail, fun st => (track_elem hst (hn st)).2.2.2⟩

/-- a neutral stream begins with an event that opens and closes nothing, or with an element: START, neutral
    content, the END that `_strip` finds, and a neutral rest -/
theorem neutral_cons_cases {e : Event} {rest : List (Item σ)} (hn : Neutral (e :: evs rest)) :
    (isStart e = false ∧ isEnd e = false ∧ Neutral (evs rest)) ∨
    ∃ tg at_ inner a'', e = .start tg at_ ∧ strip 1 rest = some (inner, .end_ tg, a'') ∧
      rest = inner ++ .ev (.end_ tg) :: a'' ∧ Neutral (evs inner) ∧ Neutral (evs a'') := by
  cases e with
  | start tg at_ =>
    have hl1 : lvl 1 (evs rest) = some 0 := by simpa [Closed, lvl, isStart] using closed_of_neutral hn
    obtain ⟨inner, tail, a'', hst, _, _⟩ := strip_append rest 0 0 ([] : List (Item σ)) (by simpa using hl1)
    obtain ⟨hrest, hnin, rfl, hnre⟩ := neutral_start_split hn hst
    exact Or.inr ⟨tg, at_, inner, a'', rfl, hst, hrest, hnin, hnre⟩
  | end_ tg => have := hn []; simp [track] at this
  | _ => exact Or.inl ⟨rfl, rfl, fun st => by have := hn st; rwa [track_other _ rfl rfl] at this⟩

/-- termination by a two-level measure: the number `k` of templates from the lower window bound `s` on, then the
    length `n` of the stream.  Content and rest of an element are shorter streams for the same `s`; the instantiated
    body may be longer than the element, but it is matched from `idx + 1 > s` -/
theorem run_total : ∀ (k : Nat) (n : Nat) (s : Nat) (e : Option Nat) (M : List (MT σ)) (items : List (Item σ)),
    M.length - s ≤ k → items.length ≤ n → NoReg items → Neutral (evs items) → (∀ t ∈ M, BodyOK t.body) →
    ∃ f r, run f s e items M = some r := by
  intro k
  induction k using Nat.strongRecOn with
  | _ k ihk =>
    intro n
    induction n with
    | zero =>
      intro s e M items _ hn _ _ _
      have : items = [] := List.length_eq_zero_iff.mp (by omega)
      subst this
      exact ⟨1, (M, []), by simp [run]⟩
    | succ n ihn =>
      intro s e M items hk hn hnr hneu hok
      cases items with
      | nil => exact ⟨1, (M, []), by simp [run]⟩
      | cons it rest =>
        cases it with
        | reg t => exact absurd (by simp) (hnr t)
        | ev x =>
          have hnr' : NoReg rest := regs_tail hnr
          simp only [evs_ev] at hneu
          simp only [List.length_cons] at hn
          rcases neutral_cons_cases hneu with ⟨hS, hE, hneu'⟩ | ⟨tg, at_, inner, a'', rfl, hst, hrest, hnin, hnre⟩
          · obtain ⟨f1, r1, h1⟩ := ihn s e M rest hk (by omega) hnr' hneu' hok
            exact ⟨f1 + 1, _, run_skip hS hE h1⟩
          · obtain ⟨hnoin, hnore⟩ : NoReg inner ∧ NoReg a'' := regs_strip hst hnr'
            have hlen : inner.length + a''.length + 1 = rest.length := by rw [hrest]; simp; omega
            generalize hsc : scan (Event.start tg at_) s e 0 M = sc
            obtain ⟨M1, hit⟩ := sc
            have hl1 : M1.length = M.length := scan_length_eq hsc
            have hok1 : ∀ t ∈ M1, BodyOK t.body := scan_forall_eq static_bodyOK hsc hok
            cases hit with
            | none =>
              obtain ⟨f1, r1, h1⟩ := ihn s e M1 inner (by omega) (by omega) hnoin hnin hok1
              have hok2 := run_forall_noReg static_bodyOK hnoin hok1 h1
              have hl2 := run_len hnoin h1
              have hok3 := scanEnd_forall static_bodyOK (Event.end_ tg) s e 0 r1.1 hok2
              obtain ⟨f2, r2, h2⟩ := ihn s e (scanEnd (Event.end_ tg) s e 0 r1.1) a''
                (by rw [scanEnd_length, hl2, hl1]; exact hk) (by omega) hnore hnre hok3
              exact ⟨_, _, hrest ▸ run_pass_elem hsc (closed_of_neutral hnin) h1 h2⟩
            | some idx =>
              obtain ⟨hwi, ⟨t0, ht0, _⟩, _⟩ := scan_first (Event.start tg at_) s e M idx (by rw [hsc])
              have hsidx := inWindow_ge hwi
              have hidxl := (List.getElem?_eq_some_iff.mp ht0).1
              obtain ⟨t, ht⟩ : ∃ t, M1[idx]? = some t := ⟨M1[idx]'(by omega), List.getElem?_eq_getElem (by omega)⟩
              have htb : BodyOK t.body := hok1 t (List.mem_of_getElem? ht)
              have hok2 : ∀ y ∈ fired t idx M1, BodyOK y.body := fired_forall static_bodyOK hok1
              have hlf := fired_length t idx M1
              obtain ⟨f3, r3, h3⟩ := ihn s (some (preEnd t idx)) (fired t idx M1) inner (by omega) (by omega) hnoin hnin hok2
              obtain ⟨M3, innerOut⟩ := r3
              have hok3 := run_forall_noReg static_bodyOK hnoin hok2 h3
              have hl3 := run_len hnoin h3
              have hbody : Neutral (instantiate t.body (Event.start tg at_ :: innerOut ++ [Event.end_ tg])) :=
                instantiate_neutral htb (neutral_wrap tg at_ (run_neutral hnoin hok2 hnin h3))
              -- the body is matched against strictly later templates
              obtain ⟨f4, r4, h4⟩ := ihk (M3.length - (idx + 1)) (by omega) _ (idx + 1) e M3
                (evItems (instantiate t.body (Event.start tg at_ :: innerOut ++ [Event.end_ tg])))
                (Nat.le_refl _) (Nat.le_refl _) (noReg_evItems _) (by simpa using hbody) hok3
              obtain ⟨M4, outb⟩ := r4
              have hok4 := run_forall_noReg static_bodyOK (noReg_evItems _) hok3 h4
              have hl4 := run_len (noReg_evItems _) h4
              have hok5 := updRange_forall static_bodyOK (Event.end_ tg) s (idx + 1) 0 M4 hok4
              obtain ⟨f5, r5, h5⟩ := ihn s e (updRange (Event.end_ tg) s (idx + 1) 0 M4) a''
                (by rw [updRange_length]; omega) (by omega) hnore hnre hok5
              exact ⟨f3 + f4 + f5 + 1, (r5.1, outb ++ r5.2), run_fired rfl hsc ht hst
                (run_mono_le h3 (show f3 ≤ f3 + f4 + f5 by omega)) (run_mono_le h4 (show f4 ≤ f3 + f4 + f5 by omega))
                (run_mono_le h5 (show f5 ≤ f3 + f4 + f5 by omega))⟩

/-- **Termination**: on every well-nested, registration-free stream the eager filter yields a result
    when given enough fuel. -/
theorem run_terminates (s : Nat) (e : Option Nat) (M : List (MT σ)) (items : List (Item σ)) (hnr : NoReg items)
    (hneu : Neutral (evs items)) (hok : ∀ t ∈ M, BodyOK t.body) : ∃ f r, run f s e items M = some r :=
  run_total (M.length - s) items.length s e M items (Nat.le_refl _) (Nat.le_refl _) hnr hneu hok

theorem run_regs : ∀ (regs : List (MT σ)) (f s : Nat) (e : Option Nat) (rest : List (Item σ)) (M : List (MT σ)),
    run (f + regs.length) s e (regs.map Item.reg ++ rest) M = run f s e rest (M ++ regs) := by
  intro regs
  induction regs with
  | nil => intro f s e rest M; simp
  | cons t ts ih =>
    intro f s e rest M
    simp only [List.map_cons, List.cons_append, List.length_cons]
    rw [show f + (ts.length + 1) = (f + ts.length) + 1 by omega]
    simp only [run]
    rw [ih]; simp

/-- **A whole render** of a template whose `py:match` declarations are the first children of the root:
    the root START passes untested (no template is registered yet), the declarations register, the
    content is filtered with the registered list, and the root END passes (the matchers are told). -/
theorem render_declarations_first (f : Nat) (tg : QName) (at_ : AttrList) (regs : List (MT σ)) (content : List (Item σ))
    (hnr : NoReg content) (hcl : Closed (evs content)) (M' : List (MT σ)) (out : List Event)
    (h : run f 0 none content regs = some (M', out)) :
    render (f + regs.length + 3) (.ev (.start tg at_) :: (regs.map Item.reg ++ (content ++ [.ev (.end_ tg)]))) =
      some (.start tg at_ :: (out ++ [.end_ tg])) := by
  have hf := run_fuel_pos h
  obtain ⟨f0, rfl⟩ : ∃ f0, f = f0 + 1 := ⟨f - 1, by omega⟩
  have hend : run 2 0 none [Item.ev (Event.end_ tg)] M' = some (scanEnd (Event.end_ tg) 0 none 0 M', [Event.end_ tg]) := by
    simp [run, isStart, isEnd, emit]
  have hj := run_append_join (f0 + 1) 2 0 none content [.ev (Event.end_ tg)] 0 regs _ _ hcl h hend
  unfold render
  rw [show f0 + 1 + regs.length + 3 = (f0 + 1 + 2 + regs.length) + 1 by omega]
  simp only [run, isStart, ↓reduceIte, scan]
  have h1 := run_regs regs (f0 + 1 + 2) 0 none (content ++ [.ev (Event.end_ tg)]) []
  rw [h1, List.nil_append, hj]; simp [emit]

end Genshi.Match
