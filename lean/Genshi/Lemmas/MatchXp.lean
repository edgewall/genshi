/-
  C12 — the two forms of the tree specification of one match template are the same function:

  * `xpForest sel` (Model/MatchReal.lean): an element is replaced iff the relation `sel` holds of its
    LOCATION (child indexes inside its top-level tree) — instantiated with the XPath reference
    semantics `Ref.reach` by `patternSel`;
  * `mkKids … marks`: an element is replaced iff its START event is MARKED, one Boolean per event —
    instantiated with the verdicts of the real matcher by `patternMarks`.

  The bridge is `markB sel (eventLocs n loc)`: the marks that say of every event whether `sel` holds of
  the node the event stands for (`mkNode_markB`).  That the matcher's verdicts ARE such marks is what
  C05 `Operand` states (None / True, True exactly at the nodes the pattern path reaches, locations of a
  tree being pairwise distinct: `vals_of_marks`), for every operand of a union (`operands_run`).
-/
import Genshi.Lemmas.MatchRealSpec
import Genshi.Lemmas.PathReach
import Genshi.Lemmas.PathUnion
namespace Genshi.Match
open Genshi Genshi.Path Genshi.Path.Ref

/-- the marks of a relation on locations: one Boolean per event (`false` at END events) -/
def markB (sel : List Nat → Bool) (locs : List (Option LNode)) : List Bool :=
  locs.map fun l => match l with
    | some m => sel m.loc
    | none => false

theorem markB_append (sel : List Nat → Bool) (a b : List (Option LNode)) :
    markB sel (a ++ b) = markB sel a ++ markB sel b := by simp [markB]

theorem markB_length (sel : List Nat → Bool) (a : List (Option LNode)) : (markB sel a).length = a.length := by
  simp [markB]

mutual
  /-- the rewrite by marks, fed the marks of a relation on locations, is the rewrite by that relation;
      the marks of the node's events — and only those — are consumed -/
  theorem mkNode_markB (sel : List Nat → Bool) (body : List BItem) (recursive : Bool) :
      ∀ (n : Node) (loc : List Nat) (tl : List Bool),
        mkNode body recursive n (markB sel (eventLocs n loc) ++ tl) = (xpNode sel body recursive loc n, tl)
    | .leaf e, loc, tl => by simp [mkNode, xpNode, eventLocs, markB]
    | .elem tg at_ kids, loc, tl => by
        have hk := mkKids_markB sel body recursive kids loc 0 ([false] ++ tl)
        have hm : markB sel (eventLocs (.elem tg at_ kids) loc) ++ tl
            = sel loc :: (markB sel (eventLocsList kids loc 0) ++ ([false] ++ tl)) := by
          simp [eventLocs, markB]
        rw [hm]
        simp only [mkNode, List.tail_cons, List.headD_cons, hk, xpNode]
        cases sel loc <;> simp
  theorem mkKids_markB (sel : List Nat → Bool) (body : List BItem) (recursive : Bool) :
      ∀ (ks : List Node) (loc : List Nat) (i : Nat) (tl : List Bool),
        mkKids body recursive ks (markB sel (eventLocsList ks loc i) ++ tl) = (xpKids sel body recursive loc i ks, tl)
    | [], loc, i, tl => by simp [mkKids, xpKids, eventLocsList, markB]
    | k :: ks, loc, i, tl => by
        have h1 := mkNode_markB sel body recursive k (loc ++ [i]) (markB sel (eventLocsList ks loc (i + 1)) ++ tl)
        have h2 := mkKids_markB sel body recursive ks loc (i + 1) tl
        simp only [eventLocsList, markB_append, List.append_assoc, mkKids, h1, h2, xpKids]
end

/-- a whole forest: every top-level tree rewritten by its own relation, the marks of the trees laid end
    to end (`mk top` may be any marks that make `mkNode` agree with `xpNode` on `top`) -/
theorem mkKids_forest (sel : Node → List Nat → Bool) (mk : Node → List Bool) (body : List BItem) (recursive : Bool) :
    ∀ (forest : List Node),
      (∀ top ∈ forest, ∀ tl, mkNode body recursive top (mk top ++ tl) = (xpNode (sel top) body recursive [] top, tl)) →
      ∀ tl, mkKids body recursive forest (forest.flatMap mk ++ tl) = (xpForest sel body recursive forest, tl)
  | [], _, tl => by simp [mkKids, xpForest]
  | n :: ns, h, tl => by
      have h1 := h n List.mem_cons_self (ns.flatMap mk ++ tl)
      have h2 := mkKids_forest sel mk body recursive ns (fun t ht => h t (List.mem_cons_of_mem _ ht)) tl
      simp only [List.flatMap_cons, List.append_assoc, mkKids, h1, h2, xpForest]

/-- `Ref.reach` reads only the location of its target; this is why `patternSel` (Model/MatchReal.lean) may ask it about a
    placeholder leaf at `loc` instead of the node that stands there -/
theorem reach_target_loc (ns : NsMap) (xvs : XVars) : ∀ (p : LocPath) (c t t' : LNode), t.loc = t'.loc →
    reach ns xvs p c t = reach ns xvs p c t' :=
  reach_loc ns xvs

/-- results that are None / True: "is it True" are the marks of the marked locations -/
theorem isTrue_markVals (mk : List Nat → Bool) (locs : List (Option LNode)) :
    (markVals mk locs).map (· == Val.bool true) = markB mk locs := by
  simp only [markVals, markB, List.map_map]
  apply List.map_congr_left
  intro l _
  cases l with
  | none => rfl
  | some m => simp only [Function.comp]; cases mk m.loc <;> rfl

/-- the pattern a match path stands for: its first step taken on the descendant-or-self axis
    (`GenericStrategy.test(ignore_context=True)`: `gSteps p true` for a path without a leading `.`
    or attribute step; SimplePathStrategy: `Frags.patPath`) -/
def patOf : LocPath → LocPath
  | [] => []
  | s0 :: rest => ⟨.descendantOrSelf, s0.test, s0.preds⟩ :: rest

/-- what the XPath side needs to know of one location path of a match path, on one tree: the matcher
    `Path.__init__` (or the forced strategy) builds for it in pattern mode reports None / True, and True
    exactly at the nodes its pattern reaches from the top of the tree -/
def PatOperand (ns : NsMap) (vs : Vars) (force : Option Strategy) (top : Node) (p : LocPath) : Prop :=
  p ≠ [] ∧ Operand ns vs (toXVars vs) top (patOf p) (mkMatcher (stratOf force p) p true).1 (mkMatcher (stratOf force p) p true).2

theorem patOperands (ns : NsMap) (vs : Vars) (force : Option Strategy) (top : Node) :
    ∀ (paths : List LocPath), (∀ p ∈ paths, PatOperand ns vs force top p) →
      Operands ns vs (toXVars vs) top (paths.map patOf) (pathTest paths true force).1 (pathTest paths true force).2 := by
  intro paths h
  have := Operands.of_forall patOf (fun p => mkMatcher (stratOf force p) p true) paths fun p hp => (h p hp).2
  cases force <;> simp only [pathTest, List.map_map] <;> exact this

theorem patternSel_eq_nodeSelected (ns : NsMap) (xvs : XVars) (top : Node) (x : LNode) :
    ∀ (paths : List LocPath), (∀ p ∈ paths, p ≠ []) →
      (∀ p ∈ paths, ∃ last, (patOf p).getLast? = some last ∧ last.axis ≠ .attribute) →
      patternSel paths ns xvs top x.loc = nodeSelected (paths.map patOf) ns xvs ⟨[], top⟩ x
  | [], _, _ => by simp [patternSel, nodeSelected]
  | p :: ps, hne, hna => by
      have ih := patternSel_eq_nodeSelected ns xvs top x ps (fun q hq => hne q (List.mem_cons_of_mem _ hq))
        (fun q hq => hna q (List.mem_cons_of_mem _ hq))
      obtain ⟨last, hl, hax⟩ := hna p List.mem_cons_self
      have hax' : (last.axis != Axis.attribute) = true := by simpa using hax
      simp only [patternSel, nodeSelected, List.map_cons, List.any_cons] at ih ⊢
      rw [ih, hl]
      cases p with
      | nil => exact absurd rfl (hne [] List.mem_cons_self)
      | cons s0 rest =>
        simp only [patOf, hax', Bool.true_and]
        rw [reach_target_loc ns xvs _ ⟨[], top⟩ ⟨x.loc, .leaf (.text [] false)⟩ x rfl]

/-- **marks = locations, per tree.**  If every location path of the match path is an operand on the tree
    `top`, the verdicts of the real matcher over the tree's events are the marks of the XPath pattern
    relation `patternSel`. -/
theorem patternMarks_eq_markB (ns : NsMap) (vs : Vars) (force : Option Strategy) (top : Node) (paths : List LocPath)
    (h : ∀ p ∈ paths, PatOperand ns vs force top p) :
    patternMarks paths ns vs force top = markB (patternSel paths ns (toXVars vs) top) (eventLocs top []) := by
  have hops := patOperands ns vs force top paths h
  obtain ⟨hok, hsel⟩ := operands_run ns vs (toXVars vs) top _ _ _ hops
  have hna := operands_nonAttr ns vs (toXVars vs) top _ _ _ hops
  unfold patternMarks
  rw [vals_of_marks _ _ hok (eventLocs_nodup top []), isTrue_markVals]
  congr 1
  funext x
  have := hsel ⟨x, top⟩
  simp only at this
  rw [this]
  symm
  exact patternSel_eq_nodeSelected ns (toXVars vs) top ⟨x, top⟩ paths (fun p hp => (h p hp).1)
    (fun p hp => hna (patOf p) (List.mem_map_of_mem hp))

/-- a top-level tree on which the location form and the mark form of the specification agree: a leaf
    (text between the elements: passes whatever the marks), or a tree that makes every location path of
    the match path an operand -/
def TopOk (ns : NsMap) (vs : Vars) (force : Option Strategy) (paths : List LocPath) (top : Node) : Prop :=
  (∃ e, top = .leaf e) ∨ ∀ p ∈ paths, PatOperand ns vs force top p

/-- **`xpForest ∘ patternSel` = `mkKids ∘ patternMarks`** on every forest whose element trees make every
    location path of the match path an operand. -/
theorem xpForest_eq_mkKids (ns : NsMap) (vs : Vars) (force : Option Strategy) (paths : List LocPath)
    (body : List BItem) (recursive : Bool) (forest : List Node)
    (h : ∀ top ∈ forest, TopOk ns vs force paths top) :
    (mkKids body recursive forest (forest.flatMap (patternMarks paths ns vs force))).1
      = xpForest (patternSel paths ns (toXVars vs)) body recursive forest := by
  have := mkKids_forest (patternSel paths ns (toXVars vs)) (patternMarks paths ns vs force) body recursive forest
    (fun top ht tl => by
      rcases h top ht with ⟨e, rfl⟩ | hop
      · simp [patternMarks, Node.flatten, runTest, mkNode, xpNode]
      · rw [patternMarks_eq_markB ns vs force top paths hop]
        exact mkNode_markB _ body recursive top [] tl) []
  rw [List.append_nil] at this
  rw [this]

end Genshi.Match
