/-
  C12 — every strategy `Path.__init__` can pick for a location path of a match path designates, in
  pattern mode, the node set of the XPath pattern `descendant-or-self::s0/rest` (`PatOperand`,
  Lemmas/MatchXp.lean), on every clean element tree:

  * GenericStrategy — `operand_generic_pattern` (Lemmas/PathNonPos.lean; its selection half is C05
    `pattern_matches_eq_xp`);
  * SimplePathStrategy — `Frags.operand_simple_spelling` in pattern mode (the KMP matcher over fragments;
    C17 `simple_eq_generic_fragments_pattern` is the same fact as an equality of the two matchers);
  * SingleStepStrategy — `single_eq_generic_run` (C17 `single_eq_generic`, pattern mode) and the
    GenericStrategy case.

  `PatternXp` is the static, per-path criterion; it implies `PatternOk` (no position tests) of
  Lemmas/MatchRealSpec.lean.
-/
import Genshi.Lemmas.MatchXp
import Genshi.Lemmas.PathFragsSelf
import Genshi.Lemmas.PathNonPos
import Genshi.Lemmas.PathSingle
namespace Genshi.Match
open Genshi Genshi.Path Genshi.Path.Ref

theorem patOf_eq : patOf = Frags.patOf := by
  funext p; cases p <;> rfl

/-- GenericStrategy (forced, or chosen for the path) -/
theorem patOperand_generic (ns : NsMap) (vs : Vars) (s0 : Step) (rest : LocPath)
    (hp : StepsOk ns vs (s0 :: rest)) (hnd : stripDot (s0 :: rest) = s0 :: rest)
    (force : Option Strategy) (hst : stratOf force (s0 :: rest) = .generic)
    (tag : QName) (attrs : AttrList) (kids : List Node)
    (hcl : (Node.elem tag attrs kids).clean = true)
    (hnodes : AllNodes (NodeFor (s0 :: rest) ns vs) (.elem tag attrs kids)) :
    PatOperand ns vs force (.elem tag attrs kids) (s0 :: rest) := by
  refine ⟨by simp, ?_⟩
  rw [hst, patOf_eq]
  exact operand_generic_pattern s0 rest ns vs hp hnd tag attrs kids hcl hnodes

/-- SingleStepStrategy: one step, any element axis, non-positional predicates -/
theorem patOperand_single (ns : NsMap) (vs : Vars) (s : Step) (hp : StepsOk ns vs [s])
    (force : Option Strategy) (hst : stratOf force [s] = .single)
    (tag : QName) (attrs : AttrList) (kids : List Node)
    (hcl : (Node.elem tag attrs kids).clean = true)
    (hnodes : AllNodes (NodeFor [s] ns vs) (.elem tag attrs kids)) :
    PatOperand ns vs force (.elem tag attrs kids) [s] := by
  have hg := patOperand_generic ns vs s [] hp (by simp [stripDot]) (some .generic) rfl tag attrs kids hcl hnodes
  refine ⟨by simp, ?_⟩
  rw [hst]
  have hgo := hg.2
  simp only [stratOf, mkMatcher] at hgo
  have hna := hp.na s List.mem_cons_self
  have hok : okList kids = true := by
    have := ok_of_clean _ hcl
    simpa [Node.ok] using this
  have hrun : runTest [.single (sSteps [s]) true] ns vs [.s ⟨[], 0⟩] (Node.elem tag attrs kids).flatten
      = runTest [.generic (gSteps [s] true)] ns vs [.g gInit] (Node.elem tag attrs kids).flatten := by
    rw [runTest_single, runTest_genericL]
    exact (single_eq_generic_run s true ns vs tag attrs kids hok (fun h => absurd h hna)).symm
  refine ⟨?_, ?_, hgo.nonAttr⟩
  · simp only [mkMatcher]; rw [hrun]; exact hgo.ok
  · intro x; simp only [mkMatcher]; rw [hrun]; exact hgo.sel x

/-- SimplePathStrategy: the path of a fragment list -/
theorem patOperand_simple (ns : NsMap) (vs : Vars) (frags : List Frag) (hok : Frags.FragsOk frags)
    (hnd : stripDot (Frags.normPath frags) = Frags.normPath frags)
    (force : Option Strategy) (hst : stratOf force (Frags.normPath frags) = .simple)
    (tag : QName) (attrs : AttrList) (kids : List Node)
    (hcl : (Node.elem tag attrs kids).clean = true) :
    PatOperand ns vs force (.elem tag attrs kids) (Frags.normPath frags) := by
  have hne : Frags.normPath frags ≠ [] := List.length_pos_iff.mp (Frags.normPath_ne frags hok)
  refine ⟨hne, ?_⟩
  rw [hst, patOf_eq]
  exact Frags.operand_simple_spelling ns vs true _ (Frags.sstep_normPath frags hok) hne tag attrs kids
    (by simpa [Node.clean] using hcl)

/-- a location path of a match path whose matcher — the one `Path.__init__` picks, or the forced one —
    is tied to the XPath reference semantics: no position tests, no attribute axis, no leading `.`;
    typed predicates and well-formed tests (C05 `StepsOk`) for Generic/SingleStep, every fragment path
    for SimplePathStrategy -/
def PatternXp (ns : NsMap) (vs : Vars) (force : Option Strategy) (p : LocPath) : Prop :=
  match stratOf force p with
  | .generic => StepsOk ns vs p ∧ stripDot p = p
  | .single => ∃ s, p = [s] ∧ StepsOk ns vs [s]
  | .simple => ∃ frags, Frags.FragsOk frags ∧ p = Frags.normPath frags ∧ stripDot p = p

/-- what is asked of a top-level element tree: no marker leaves, and the nodes are ones the predicates of
    the paths can be evaluated on (C05 `NodeFor`) -/
def TreeFor (ns : NsMap) (vs : Vars) (paths : List LocPath) (top : Node) : Prop :=
  top.clean = true ∧ ∀ p ∈ paths, AllNodes (NodeFor p ns vs) top

theorem patOperand_of_static (ns : NsMap) (vs : Vars) (force : Option Strategy) (p : LocPath)
    (hp : PatternXp ns vs force p) (tag : QName) (attrs : AttrList) (kids : List Node)
    (hcl : (Node.elem tag attrs kids).clean = true) (hnodes : AllNodes (NodeFor p ns vs) (.elem tag attrs kids)) :
    PatOperand ns vs force (.elem tag attrs kids) p := by
  unfold PatternXp at hp
  cases hst : stratOf force p with
  | generic =>
    rw [hst] at hp
    obtain ⟨hS, hnd⟩ := hp
    cases p with
    | nil => have := hS.ne; simp at this
    | cons s0 rest => exact patOperand_generic ns vs s0 rest hS hnd force hst tag attrs kids hcl hnodes
  | single =>
    rw [hst] at hp
    obtain ⟨s, rfl, hS⟩ := hp
    exact patOperand_single ns vs s hS force hst tag attrs kids hcl hnodes
  | simple =>
    rw [hst] at hp
    obtain ⟨frags, hok, rfl, hnd⟩ := hp
    exact patOperand_simple ns vs frags hok hnd force hst tag attrs kids hcl

theorem topOk_of_static (ns : NsMap) (vs : Vars) (force : Option Strategy) (paths : List LocPath)
    (hp : ∀ p ∈ paths, PatternXp ns vs force p) (top : Node) (ht : TreeFor ns vs paths top) :
    TopOk ns vs force paths top := by
  cases top with
  | leaf e => exact Or.inl ⟨e, rfl⟩
  | elem tag attrs kids =>
    exact Or.inr fun p hpm => patOperand_of_static ns vs force p (hp p hpm) tag attrs kids ht.1 (ht.2 p hpm)

/-- the criterion is inside the position-test-free subset of the tree-rewrite theorems -/
theorem patternOk_of_patternXp (ns : NsMap) (vs : Vars) (force : Option Strategy) (p : LocPath)
    (hp : PatternXp ns vs force p) : PatternOk ns vs force p := by
  unfold PatternXp at hp
  unfold PatternOk
  cases hst : stratOf force p with
  | generic =>
    rw [hst] at hp
    obtain ⟨hS, hnd⟩ := hp
    cases p with
    | nil => have := hS.ne; simp at this
    | cons s0 rest =>
      have := stepsOk_pattern ns vs s0 rest hS hnd
      show StepsOk ns vs (gSteps (s0 :: rest) true)
      rw [this.1]; exact this.2
  | single =>
    rw [hst] at hp
    obtain ⟨s, rfl, hS⟩ := hp
    have hna : (s.axis == Axis.attribute) = false := by simpa using hS.na s List.mem_cons_self
    intro s0 hs q hq
    simp only [sSteps, hna, Bool.false_eq_true, if_false, List.head?_cons, Option.some.injEq] at hs
    subst hs
    exact hS.nonpos s List.mem_cons_self q hq
  | simple => trivial

end Genshi.Match
