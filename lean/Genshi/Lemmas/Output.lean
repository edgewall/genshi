/-
  Helper lemmas for C09: `EmptyTagFilter` one event at a time; the serializer main loop against
  the context-free `emit`, with and without the cache.
-/
import Genshi.Model.Output
import Genshi.Lemmas.Escape
namespace Genshi.Output
open Genshi Genshi.Escape

/-- what `EmptyTagFilter` holds back after the event: a START -/
def heldAfter : Event → Option (QName × AttrList)
  | .start t a => some (t, a)
  | _ => none

/-- what `EmptyTagFilter` passes on when it meets `e` holding `p`: the held START (as EMPTY when `e`
    is the END that closes it), then `e` itself unless it is held back or was that END -/
def passOn : Option (QName × AttrList) → Event → List QEv
  | some (t, a), .end_ _ => [.empty t a]
  | some (t, a), .start _ _ => [.start t a]
  | some (t, a), e => [.start t a, ofEvent e]
  | none, .start _ _ => []
  | none, e => [ofEvent e]

theorem emptyTag_cons (p : Option (QName × AttrList)) (e : Event) (es : Stream) :
    emptyTag p (e :: es) = passOn p e ++ emptyTag (heldAfter e) es := by
  cases p <;> cases e <;> rfl

/-- a START the filter passes on is a START of the stream, or the one it held -/
theorem mem_emptyTag_start (t : QName) (a : AttrList) (s : Stream) :
    ∀ p : Option (QName × AttrList), XEv.start t a ∈ emptyTag p s → Event.start t a ∈ s ∨ p = some (t, a) := by
  induction s with
  | nil => intro p h; cases p <;> simp [emptyTag] at h
  | cons e es ih =>
    intro p h
    rw [emptyTag_cons, List.mem_append] at h
    rcases h with h | h
    · cases p with
      | none => cases e <;> simp [passOn, ofEvent] at h
      | some q => cases e <;> simp [passOn, ofEvent] at h <;> exact Or.inr (by rw [h.1, h.2])
    · rcases ih _ h with h1 | h1
      · exact Or.inl (List.mem_cons_of_mem _ h1)
      · cases e <;> simp [heldAfter] at h1
        exact Or.inl (by simp [h1.1, h1.2])

/-- the markup context a loop state stands for -/
def ctxOf (st : LoopSt) : Ctx := ⟨st.raw, st.haveDecl, st.haveDoctype⟩

/-- kinds of event the loops ever store -/
def cacheable : FEv → Bool
  | .start _ _ => true
  | .empty _ _ => true
  | .end_ _ => true
  | .text _ false => true
  | .comment _ => true
  | .pi _ _ => true
  | _ => false

/-- contexts in which the loop looks the event up in the cache -/
def lookedUp (c : Ctx) : FEv → Bool
  | .text _ true => false
  | .text _ false => !c.raw
  | _ => true

/-- the invariant of the main loop's cache: every entry is the context-free `emit` of its key in every
    context in which that key can be looked up -/
def CacheOk (m : Method) (o : Opts) (cache : List (FEv × Str)) : Prop :=
  ∀ ev out, lookup cache ev = some out →
    cacheable ev = true ∧ ∀ c : Ctx, lookedUp c ev = true → emit m o c ev = [out]

theorem cacheOk_nil (m : Method) (o : Opts) : CacheOk m o [] := by
  intro ev out h; simp [lookup] at h

theorem cacheOk_cons {m : Method} {o : Opts} {cache : List (FEv × Str)} (h : CacheOk m o cache)
    (k : FEv) (v : Str) (hk : cacheable k = true)
    (hv : ∀ c : Ctx, lookedUp c k = true → emit m o c k = [v]) :
    CacheOk m o ((k, v) :: cache) := by
  intro ev out hl
  replace hl : (if k = ev then some v else lookup cache ev) = some out := hl
  by_cases hkev : k = ev
  · subst hkev; simp at hl; subst hl; exact ⟨hk, hv⟩
  · simp [hkev] at hl; exact h ev out hl

def outOf (m : Method) : FEv → Str
  | .start t a => startOut m false t a
  | .empty t a => startOut m true t a
  | .end_ t => endTag t
  | .text s _ => escapePy false s
  | .comment s => commentOut s
  | .pi t d => piOut t d
  | _ => []

theorem emit_cacheable (m : Method) (o : Opts) (ev : FEv) (hk : cacheable ev = true) (c : Ctx)
    (hc : lookedUp c ev = true) : emit m o c ev = [outOf m ev] := by
  cases ev with
  | text s f =>
    cases f with
    | true => cases hk
    | false =>
      have : c.raw = false := by simpa [lookedUp] using hc
      simp [emit, outOf, this, escapePy_eq_spec]
  | start t a => rfl
  | empty t a => rfl
  | end_ t => rfl
  | comment s => rfl
  | pi t d => rfl
  | _ => cases hk

theorem store_fields (c : Bool) (st : LoopSt) (ev : FEv) (out : Str) :
    (store c st ev out).raw = st.raw ∧ (store c st ev out).haveDecl = st.haveDecl ∧
    (store c st ev out).haveDoctype = st.haveDoctype ∧
    (store c st ev out).cache = if c then (ev, out) :: st.cache else st.cache := by
  cases c <;> exact ⟨rfl, rfl, rfl, rfl⟩

/-- text that goes past cache and `elif` chain: Markup, or inside raw context -/
def bypasses (st : LoopSt) : FEv → Bool
  | .text _ f => f || st.raw
  | _ => false

theorem miss_spec (m : Method) (o : Opts) (c : Bool) (st : LoopSt) (ev : FEv) (hb : bypasses st ev = false) :
    (miss m o c st ev).2 = emit m o (ctxOf st) ev ∧
    ctxOf (miss m o c st ev).1 = ctxAfter m o (ctxOf st) ev ∧
    (miss m o c st ev).1.cache = if c && cacheable ev then (ev, outOf m ev) :: st.cache else st.cache := by
  have hs := fun out => store_fields c st ev out
  cases ev with
  | start t a =>
    by_cases h : (m = .html && inTable (noescapeElems .html) t) = true <;>
      simp [miss, emit, ctxAfter, ctxOf, cacheable, outOf, h, hs]
  | empty t a => simp [miss, emit, ctxAfter, ctxOf, cacheable, outOf, hs]
  | end_ t => by_cases h : m = .html <;> simp [miss, emit, ctxAfter, ctxOf, cacheable, outOf, h, hs]
  | text s f =>
    obtain ⟨rfl, hr⟩ : f = false ∧ st.raw = false := by simpa [bypasses] using hb
    simp [miss, emit, ctxAfter, ctxOf, cacheable, outOf, hr, hs, escapePy_eq_spec]
  | comment s => simp [miss, emit, ctxAfter, ctxOf, cacheable, outOf, hs]
  | pi t d => simp [miss, emit, ctxAfter, ctxOf, cacheable, outOf, hs]
  | doctype n p s => by_cases hd : st.haveDoctype = true <;> simp [miss, emit, ctxAfter, ctxOf, cacheable, hd]
  | xmlDecl v e s =>
    cases m
    · by_cases hd : st.haveDecl = true <;> simp [miss, emit, ctxAfter, ctxOf, cacheable, hd]
    · by_cases hd : st.haveDecl = true <;> cases hx : o.dropXmlDecl <;>
        simp [miss, emit, ctxAfter, ctxOf, cacheable, hd, hx]
    · simp [miss, emit, ctxAfter, ctxOf, cacheable]
  | startNs p u => simp [miss, emit, ctxAfter, ctxOf, cacheable]
  | endNs p => simp [miss, emit, ctxAfter, ctxOf, cacheable]
  | startCdata => cases m <;> simp [miss, emit, ctxAfter, ctxOf, cacheable]
  | endCdata => cases m <;> simp [miss, emit, ctxAfter, ctxOf, cacheable]

theorem step_bypass (m : Method) (o : Opts) (c : Bool) (st : LoopSt) (ev : FEv) (hb : bypasses st ev = true) :
    ∃ s, step m o c st ev = (st, [s]) ∧ emit m o (ctxOf st) ev = [s] ∧ ctxAfter m o (ctxOf st) ev = ctxOf st := by
  cases ev with
  | text s f =>
    cases f with
    | true => exact ⟨s, rfl, rfl, rfl⟩
    | false =>
      have hr : st.raw = true := by simpa [bypasses] using hb
      exact ⟨s, by simp [step, hr], by simp [emit, ctxOf, hr], rfl⟩
  | _ => cases hb

theorem step_lookup (m : Method) (o : Opts) (c : Bool) (st : LoopSt) (ev : FEv) (hb : bypasses st ev = false) :
    step m o c st ev =
      match (if c then lookup st.cache ev else none) with
      | some out => (hitUpdate m st ev, [out])
      | none => miss m o c st ev := by
  cases ev with
  | text s f =>
    obtain ⟨rfl, hr⟩ : f = false ∧ st.raw = false := by simpa [bypasses] using hb
    simp only [step, hr, Bool.false_eq_true, if_false]
    rfl
  | _ => rfl

theorem step_nocache (m : Method) (o : Opts) (st : LoopSt) (ev : FEv) :
    (step m o false st ev).2 = emit m o (ctxOf st) ev ∧
    ctxOf (step m o false st ev).1 = ctxAfter m o (ctxOf st) ev ∧
    (step m o false st ev).1.cache = st.cache := by
  cases hb : bypasses st ev with
  | false =>
    rw [step_lookup m o false st ev hb]
    exact miss_spec m o false st ev hb
  | true =>
    obtain ⟨s, h1, h2, h3⟩ := step_bypass m o false st ev hb
    rw [h1, h2, h3]; exact ⟨rfl, rfl, rfl⟩

theorem hitUpdate_spec (m : Method) (o : Opts) (st : LoopSt) (ev : FEv) (hk : cacheable ev = true) :
    ctxOf (hitUpdate m st ev) = ctxAfter m o (ctxOf st) ev ∧ (hitUpdate m st ev).cache = st.cache := by
  cases ev with
  | start t a =>
    cases m <;> simp [hitUpdate, isNoescapeStart, ctxAfter, ctxOf]
    split <;> simp_all
  | end_ t => cases m <;> simp [hitUpdate, isNoescapeStart, ctxAfter, ctxOf]
  | empty t a => cases m <;> simp [hitUpdate, isNoescapeStart, ctxAfter, ctxOf]
  | text s f => cases m <;> simp [hitUpdate, isNoescapeStart, ctxAfter, ctxOf]
  | comment s => cases m <;> simp [hitUpdate, isNoescapeStart, ctxAfter, ctxOf]
  | pi t d => cases m <;> simp [hitUpdate, isNoescapeStart, ctxAfter, ctxOf]
  | _ => cases hk

theorem step_cache (m : Method) (o : Opts) (st : LoopSt) (ev : FEv) (h : CacheOk m o st.cache) :
    (step m o true st ev).2 = emit m o (ctxOf st) ev ∧
    ctxOf (step m o true st ev).1 = ctxAfter m o (ctxOf st) ev ∧
    CacheOk m o (step m o true st ev).1.cache := by
  cases hb : bypasses st ev with
  | false =>
    rw [step_lookup m o true st ev hb]
    simp only [if_true]
    cases hl : lookup st.cache ev with
    | some out =>
      -- a hit: by the invariant the entry is `emit` in the present context
      obtain ⟨hk, hv⟩ := h ev out hl
      have hlk : lookedUp (ctxOf st) ev = true := by
        cases ev with
        | text s f =>
          obtain ⟨rfl, hr⟩ : f = false ∧ st.raw = false := by simpa [bypasses] using hb
          simp [lookedUp, ctxOf, hr]
        | _ => rfl
      obtain ⟨h1, h2⟩ := hitUpdate_spec m o st ev hk
      exact ⟨(hv _ hlk).symm, h1, h2 ▸ h⟩
    | none =>
      obtain ⟨h1, h2, h3⟩ := miss_spec m o true st ev hb
      refine ⟨h1, h2, ?_⟩
      rw [h3]
      cases hk : cacheable ev with
      | false => exact h
      | true => exact cacheOk_cons h _ _ hk (emit_cacheable m o ev hk)
  | true =>
    obtain ⟨s, h1, h2, h3⟩ := step_bypass m o true st ev hb
    rw [h1, h2, h3]; exact ⟨rfl, rfl, h⟩

theorem loop_nocache_eq_spec (m : Method) (o : Opts) (evs : List FEv) :
    ∀ st : LoopSt, loop m o false st evs = serSpec m o (ctxOf st) evs := by
  induction evs with
  | nil => intro st; rfl
  | cons ev rest ih =>
    intro st
    have hs := step_nocache m o st ev
    simp only [loop, serSpec]
    rw [hs.1, ih, hs.2.1]

theorem loop_cache_eq_spec (m : Method) (o : Opts) (evs : List FEv) :
    ∀ st : LoopSt, CacheOk m o st.cache → loop m o true st evs = serSpec m o (ctxOf st) evs := by
  induction evs with
  | nil => intro st _; rfl
  | cons ev rest ih =>
    intro st h
    have hs := step_cache m o st ev h
    simp only [loop, serSpec]
    rw [hs.1, ih _ hs.2.2, hs.2.1]

theorem loop_append (m : Method) (o : Opts) (c : Bool) (a b : List FEv) :
    ∀ st : LoopSt, loop m o c st (a ++ b) =
      loop m o c st a ++ loop m o c (a.foldl (fun s e => (step m o c s e).1) st) b := by
  induction a with
  | nil => intro st; simp [loop]
  | cons e es ih => intro st; simp [loop, ih]

/-- both cache settings, from the initial state -/
theorem loop_eq_spec (m : Method) (o : Opts) (c : Bool) (evs : List FEv) :
    loop m o c {} evs = serSpec m o {} evs := by
  cases c
  · exact loop_nocache_eq_spec m o evs {}
  · exact loop_cache_eq_spec m o evs {} (cacheOk_nil m o)

def wsCtxEnd (m : Method) (o : Opts) (c : Ctx) (evs : List FEv) : Ctx := evs.foldl (ctxAfter m o) c

theorem wsf_serSpec_append (m : Method) (o : Opts) (a b : List FEv) : ∀ c : Ctx,
    serSpec m o c (a ++ b) = serSpec m o c a ++ serSpec m o (wsCtxEnd m o c a) b := by
  induction a with
  | nil => intro c; rfl
  | cons e es ih => intro c; simp [serSpec, wsCtxEnd, ih]

theorem wsf_ctxEnd_append (m : Method) (o : Opts) (a b : List FEv) (c : Ctx) :
    wsCtxEnd m o c (a ++ b) = wsCtxEnd m o (wsCtxEnd m o c a) b := by
  simp [wsCtxEnd, List.foldl_append]

end Genshi.Output
