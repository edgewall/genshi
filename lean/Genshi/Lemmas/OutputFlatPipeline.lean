/-
  C09 — the pipelines with the full flattener on events whose values are all plain strings, through
  C02's `Xml.flatten`: the typed pipeline `serT` (flattener with cache + typed main loop) is
  `Xml.flatten` followed by `loop` (`serT_plain`); the filters of `renderFull` (`filteredFull_eq`).
-/
import Genshi.Lemmas.OutputFlattenCacheC
import Genshi.Lemmas.OutputMarkupAttr
import Genshi.Model.OutputPipelineFull
namespace Genshi.Output
open Genshi

theorem plainAttrs_typedOfF (a : List (Str × Str)) : plainAttrs (Xml.typedOfF a) = a := by
  simp [plainAttrs, Xml.typedOfF, Function.comp_def]

theorem toTEv_ofF_noMarkup (x : Xml.FEv) : (toTEv (Xml.TFEv.ofF x)).hasMarkup = false := by
  cases x <;> simp [toTEv, Xml.TFEv.ofF, TEv.hasMarkup, Xml.typedOfF]

theorem toTEv_ofF_key (x : Xml.FEv) : (toTEv (Xml.TFEv.ofF x)).key = ofXF x := by
  cases x <;> simp [toTEv, Xml.TFEv.ofF, TEv.key, ofXF, plainAttrs_typedOfF]

theorem serT_plain (m : Method) (o : Opts) (pref : List (Str × Str)) (c : Bool) (xs : List Xml.XEv) :
    serT m o pref c (xs.map Xml.TXEv.ofX) = (loop m o c {} ((Xml.flatten pref xs).map ofXF)).flatten := by
  simp only [serT, Xml.cflatten_ofX, List.map_map]
  rw [loopT_noMarkup]
  · simp only [List.map_map]
    have : (TEv.key ∘ (toTEv ∘ Xml.TFEv.ofF)) = ofXF := by funext x; exact toTEv_ofF_key x
    rw [this]
  · intro e he
    obtain ⟨x, _, rfl⟩ := List.mem_map.1 he
    exact toTEv_ofF_noMarkup x

theorem ofTF_ofF (x : Xml.FEv) : ofTF (Xml.TFEv.ofF x) = ofXF x := by
  cases x <;> simp [ofTF, Xml.TFEv.ofF, ofXF, Xml.typedOfF, Function.comp_def]

/-- the filters of `renderFull` through C02's `Xml.flatten`, for either cache flag -/
theorem filteredFull_eq (m : Method) (cfg : Cfg) (s : Stream) :
    filteredFull m cfg s =
      withDoctype cfg.doctype ((Xml.flatten (prefOf m) ((preFlat m cfg.strip s).map toX)).map ofXF) := by
  have hc := Xml.cflatten_ofX (prefOf m) cfg.cache ((preFlat m cfg.strip s).map toX)
  rw [List.map_map] at hc
  rw [filteredFull, show (fun e => Xml.TXEv.ofX (toX e)) = Xml.TXEv.ofX ∘ toX from rfl, hc, List.map_map,
    show ofTF ∘ Xml.TFEv.ofF = ofXF from funext ofTF_ofF]

end Genshi.Output
