/-
  Helper lemmas for C09: the lite `NamespaceFlattener` with its START/EMPTY cache
  produces the same events as without it.
-/
import Genshi.Model.OutputPipeline
import Genshi.Lemmas.Output
import Genshi.Lemmas.OutputFlattenStep
namespace Genshi.Output
open Genshi

/-- the state with its cache emptied: the run without cache is compared with the run with cache
    through this projection -/
def FlatSt.nc (st : FlatSt) : FlatSt := { st with cache := [] }

/-- invariant of the lite flattener's cache: every entry is what the miss path computes for its key
    under the bindings now in scope, with nothing pending, and it carries no declaration -/
def FlatCacheOk (st : FlatSt) : Prop :=
  ∀ k o, flatLookup st.cache k = some o →
    ∃ ie t a tn fa, k = tagEv ie t a ∧ o = tagEv ie tn fa ∧ flatStartCore st.bindings none t a = some ([], tn, fa)

theorem flatCacheOk_nil (st : FlatSt) (h : st.cache = []) : FlatCacheOk st := by
  intro k o hl; rw [h] at hl; cases hl

theorem flatCacheOk_congr {st st' : FlatSt} (hb : st'.bindings = st.bindings) (hc : st'.cache = st.cache)
    (h : FlatCacheOk st) : FlatCacheOk st' := by
  intro k o hl; rw [hc] at hl; rw [hb]; exact h k o hl

theorem flatLookup_cons (k : QEv) (v : FEv) (c : List (QEv × FEv)) (ev : QEv) :
    flatLookup ((k, v) :: c) ev = if k = ev then some v else flatLookup c ev := rfl

/-- a tag that declares nothing did not look at `pending` -/
theorem flatStartCore_pending_irrelevant (b : List (Str × Bool)) (p : Option Str) (t : QName)
    (a : AttrList) (tn : Str) (fa : FAttrs)
    (h : flatStartCore b p t a = some ([], tn, fa)) : flatStartCore b none t a = some ([], tn, fa) := by
  obtain ⟨d1, d2, na, _, h2, h3, hx⟩ := flatStartCore_eq_some.1 h
  obtain ⟨rfl, rfl⟩ := List.append_eq_nil_iff.1 (congrArg Prod.fst hx).symm
  exact flatStartCore_eq_some.2 ⟨[], [], na, rfl, h2, h3, hx⟩

/-- START / EMPTY: under the invariant a hit is what the miss path computes, and the invariant is kept -/
theorem flatStep_cache_tag (ie : Bool) (st : FlatSt) (t : QName) (a : AttrList) (h : FlatCacheOk st) :
    (flatStep true st (tagEv ie t a)).map (fun r => (r.1.nc, r.2)) = flatStep false st.nc (tagEv ie t a) ∧
    ∀ r, flatStep true st (tagEv ie t a) = some r → FlatCacheOk r.1 := by
  rw [flatStep_tagEv, flatStep_tag]
  simp only [FlatSt.nc, Bool.true_and, ↓reduceIte]
  cases hL : (if st.pending.isNone then flatLookup st.cache (tagEv ie t a) else none) with
  | some o =>
    have hp : st.pending = none := by
      cases hpp : st.pending with
      | none => rfl
      | some u => rw [hpp] at hL; cases hL
    rw [hp] at hL
    obtain ⟨ie', t', a', tn, fa, hk, ho, hc⟩ := h _ _ hL
    obtain ⟨rfl, rfl, rfl⟩ := tagEv_inj hk
    subst ho
    refine ⟨?_, fun r hr => ?_⟩
    · cases ie <;>
        simp only [tagEv, hp, hc, Option.map_some, List.reverse_nil, List.nil_append, List.length_nil, Bool.false_eq_true,
          ↓reduceIte, ite_self]
    · cases hr
      cases ie <;> exact flatCacheOk_congr rfl rfl h
  | none =>
    cases hc : flatStartCore st.bindings st.pending t a with
    | none => exact ⟨rfl, fun r hr => by cases hr⟩
    | some x =>
      obtain ⟨d, tn, fa⟩ := x
      refine ⟨?_, fun r hr => ?_⟩
      · simp only [Option.map_some, ite_self]
      · cases hr
        cases d with
        | nil =>
          -- nothing declared: the bindings are as before and the new entry is what was just computed
          intro k o hk
          simp only [List.isEmpty_nil, ↓reduceIte, List.reverse_nil, List.nil_append, ite_self, flatLookup_cons] at hk ⊢
          by_cases hkk : tagEv ie t a = k
          · rw [if_pos hkk] at hk
            cases hk
            exact ⟨ie, t, a, tn, fa, hkk.symm, rfl, flatStartCore_pending_irrelevant _ _ _ _ _ _ hc⟩
          · rw [if_neg hkk] at hk; exact h k o hk
        | cons x d' =>
          cases ie
          · exact flatCacheOk_nil _ rfl
          · exact flatCacheOk_congr rfl rfl h

theorem flatStep_cache (st : FlatSt) (ev : QEv) (h : FlatCacheOk st) :
    (flatStep true st ev).map (fun r => (r.1.nc, r.2)) = flatStep false st.nc ev ∧
    ∀ r, flatStep true st ev = some r → FlatCacheOk r.1 := by
  cases ev with
  | start t a => exact flatStep_cache_tag false st t a h
  | empty t a => exact flatStep_cache_tag true st t a h
  | end_ t =>
    cases he : st.elems with
    | nil =>
      simp only [flatStep, FlatSt.nc, he]
      by_cases hx : t.ns = xmlNs
      · rw [if_pos hx, if_pos hx]; exact ⟨rfl, fun r hr => by cases hr⟩
      · rw [if_neg hx, if_neg hx]; exact ⟨by rw [Option.map_some, he], fun r hr => by cases hr; exact h⟩
    | cons x rest =>
      simp only [flatStep, FlatSt.nc, he]
      refine ⟨by simp only [Option.map_some, ite_self], fun r hr => ?_⟩
      cases hr
      -- an END that takes declarations out of scope clears the cache
      by_cases hc : x.2 = 0
      · exact flatCacheOk_congr (by simp only [hc, List.drop_zero]) (if_pos hc) h
      · exact flatCacheOk_nil _ (if_neg hc)
  | startNs p u =>
    simp only [flatStep, FlatSt.nc]
    split
    · exact ⟨rfl, fun r hr => by cases hr; exact h⟩
    · exact ⟨rfl, fun r hr => by cases hr⟩
  | endNs p =>
    simp only [flatStep, FlatSt.nc]
    split <;> exact ⟨rfl, fun r hr => by cases hr; exact h⟩
  | _ => exact ⟨rfl, fun r hr => by cases hr; exact h⟩

theorem flatten_cache_eq (evs : List QEv) :
    ∀ st : FlatSt, FlatCacheOk st → flatten true st evs = flatten false st.nc evs := by
  induction evs with
  | nil => intro st _; rfl
  | cons ev rest ih =>
    intro st h
    obtain ⟨hs, hinv⟩ := flatStep_cache st ev h
    rw [flatten_cons, flatten_cons, ← hs]
    cases hr : flatStep true st ev with
    | none => rfl
    | some r => simp only [Option.map_some, Option.bind_some, ih r.1 (hinv r hr)]

theorem flatten_init_cache (m : Method) (c : Bool) (evs : List QEv) :
    flatten c (flatInit m) evs = flatten false (flatInit m) evs := by
  cases c
  · rfl
  · exact flatten_cache_eq evs (flatInit m) (flatCacheOk_nil _ rfl)

/-- `render` ignores its cache flag: neither the flattener's cache nor the main loop's is observable -/
theorem render_cache (m : Method) (strip cache : Bool) (dt : Option DocTypeT) (dropd : Bool) (s : Stream) :
    render m { strip := strip, cache := cache, doctype := dt, dropXmlDecl := dropd } s =
    render m { strip := strip, cache := false, doctype := dt, dropXmlDecl := dropd } s := by
  simp only [render, chunks, filtered, flatten_init_cache m cache, Option.map_map]
  congr 1
  funext fs
  simp only [Function.comp, loop_eq_spec]

/-- `render` with either cache setting, once the filters (without cache) are known: the main loop's
    specification over what they deliver -/
theorem render_of_filtered (m : Method) (strip cache : Bool) (dt : Option DocTypeT) (dropd : Bool) (s : Stream)
    (fs : List FEv)
    (hf : filtered m { strip := strip, cache := false, doctype := dt, dropXmlDecl := dropd } s = some fs) :
    render m { strip := strip, cache := cache, doctype := dt, dropXmlDecl := dropd } s =
      some (serSpec m ⟨dropd⟩ {} fs).flatten := by
  rw [render_cache m strip cache, render, chunks, hf, Option.map_some, Option.map_some, loop_eq_spec]

end Genshi.Output
