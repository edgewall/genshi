/-
  C09 — helper lemmas, part A: each stage of the start-tag computation (`takePending`, `flatTag`,
  `flatAttrsT`) either writes a declaration or is inert: it leaves the tag state as it found it
  and computes the same for every value of the prefix generator's counter.  So a start tag that
  writes no declaration (`declared = []`) is computed from `bindings` alone — not from `pending`,
  not from the counter, not from `elems` (`flatStartT_nodecl`).
-/
import Genshi.Model.OutputFlattenCache
namespace Genshi.Xml
open Genshi

theorem takePending_inert (ps : List (Str × Str)) :
    ∀ t : TagSt, takePending t ps = t ∨ t.declared.length < (takePending t ps).declared.length := by
  induction ps with
  | nil => intro t; exact Or.inl rfl
  | cons pu rest ih =>
    intro t
    obtain ⟨p, u⟩ := pu
    simp only [takePending]
    split
    · refine Or.inr ?_
      rcases ih { t with bindings := (p, u, false) :: t.bindings, declared := t.declared ++ [(p, u)] } with h | h
      · rw [h]; simp
      · simp only [List.length_append, List.length_cons, List.length_nil] at h; omega
    · exact ih t

theorem takePending_len (ps : List (Str × Str)) :
    ∀ t : TagSt, t.declared.length ≤ (takePending t ps).declared.length :=
  fun t => (takePending_inert ps t).elim (fun h => by rw [h]; exact Nat.le_refl _) Nat.le_of_lt

theorem declare_len (pref : List (Str × Str)) (t : TagSt) (uri : Str) (pfx : Option Str) :
    (declare pref t uri pfx).2.declared.length = t.declared.length + 1 := by
  simp [declare]

/-- `t` with the prefix generator's counter set to `c`: a stage that declares nothing computes the
    same from `t.wc c` for every `c` (`flatTag_inert`, `flatAttrsT_inert`) -/
def TagSt.wc (t : TagSt) (c : Nat) : TagSt := { t with counter := c }

@[simp] theorem TagSt.wc_bindings (t : TagSt) (c : Nat) : (t.wc c).bindings = t.bindings := rfl
@[simp] theorem TagSt.wc_declared (t : TagSt) (c : Nat) : (t.wc c).declared = t.declared := rfl
@[simp] theorem TagSt.wc_counter (t : TagSt) (c : Nat) : (t.wc c).counter = c := rfl
theorem TagSt.wc_self (t : TagSt) : t.wc t.counter = t := rfl

theorem flatTag_inert (pref : List (Str × Str)) (t : TagSt) (tag : QName) :
    ((flatTag pref t tag).2 = t ∧ ∀ c, flatTag pref (t.wc c) tag = ((flatTag pref t tag).1, t.wc c)) ∨
      t.declared.length < (flatTag pref t tag).2.declared.length := by
  have decl : ∀ uri, t.declared.length < (declare pref t uri (some [])).2.declared.length :=
    fun uri => by rw [declare_len]; exact Nat.lt_succ_self _
  obtain ⟨bs, d, c0⟩ := t
  unfold flatTag TagSt.wc
  simp only
  split
  · split
    · split
      · exact Or.inr (decl _)
      · exact Or.inl ⟨rfl, fun c => rfl⟩
    · exact Or.inl ⟨rfl, fun c => rfl⟩
  · split
    · exact Or.inl ⟨rfl, fun c => rfl⟩
    · exact Or.inr (decl _)

theorem flatTag_len (pref : List (Str × Str)) (t : TagSt) (tag : QName) :
    t.declared.length ≤ (flatTag pref t tag).2.declared.length :=
  (flatTag_inert pref t tag).elim (fun h => by rw [h.1]; exact Nat.le_refl _) Nat.le_of_lt

theorem flatAttrsT_cons_plain (pref : List (Str × Str)) (t : TagSt) (n : QName) (v : TVal) (rest : TAttrs)
    (hn : n.ns.isEmpty = true) :
    flatAttrsT pref t ((n, v) :: rest) =
      ((n.loc, v) :: (flatAttrsT pref t rest).1, (flatAttrsT pref t rest).2) := by
  simp [flatAttrsT, hn]

theorem flatAttrsT_cons_found (pref : List (Str × Str)) (t : TagSt) (n : QName) (v : TVal) (rest : TAttrs)
    (p : Str) (hn : ¬ n.ns.isEmpty = true) (hp : findPrefix t.bindings n.ns true = some p) :
    flatAttrsT pref t ((n, v) :: rest) =
      ((p ++ ':' :: n.loc, v) :: (flatAttrsT pref t rest).1, (flatAttrsT pref t rest).2) := by
  simp [flatAttrsT, hn, hp]

theorem flatAttrsT_cons_decl (pref : List (Str × Str)) (t : TagSt) (n : QName) (v : TVal) (rest : TAttrs)
    (hn : ¬ n.ns.isEmpty = true) (hp : findPrefix t.bindings n.ns true = none) :
    (flatAttrsT pref t ((n, v) :: rest)).2 = (flatAttrsT pref (declare pref t n.ns none).2 rest).2 := by
  simp [flatAttrsT, hn, hp]

theorem flatAttrsT_inert (pref : List (Str × Str)) (a : TAttrs) :
    ∀ t : TagSt,
      ((flatAttrsT pref t a).2 = t ∧ ∀ c, flatAttrsT pref (t.wc c) a = ((flatAttrsT pref t a).1, t.wc c)) ∨
        t.declared.length < (flatAttrsT pref t a).2.declared.length := by
  induction a with
  | nil => intro t; exact Or.inl ⟨rfl, fun c => rfl⟩
  | cons av rest ih =>
    intro t
    obtain ⟨n, v⟩ := av
    -- an attribute that needs no declaration: the rest decides
    have pass : ∀ x : Str, (∀ t' : TagSt, t'.bindings = t.bindings → flatAttrsT pref t' ((n, v) :: rest) =
          ((x, v) :: (flatAttrsT pref t' rest).1, (flatAttrsT pref t' rest).2)) →
        ((flatAttrsT pref t ((n, v) :: rest)).2 = t ∧ ∀ c, flatAttrsT pref (t.wc c) ((n, v) :: rest) =
            ((flatAttrsT pref t ((n, v) :: rest)).1, t.wc c)) ∨
          t.declared.length < (flatAttrsT pref t ((n, v) :: rest)).2.declared.length := fun x e =>
      (ih t).imp (fun h => ⟨by rw [e t rfl]; exact h.1, fun c => by rw [e (t.wc c) rfl, e t rfl, h.2 c]⟩)
        (fun h => by rw [e t rfl]; exact h)
    by_cases hn : n.ns.isEmpty = true
    · exact pass _ fun t' _ => flatAttrsT_cons_plain pref t' n v rest hn
    · cases hp : findPrefix t.bindings n.ns true with
      | some p => exact pass _ fun t' hb => flatAttrsT_cons_found pref t' n v rest p hn (hb ▸ hp)
      | none =>
        refine Or.inr ?_
        rw [flatAttrsT_cons_decl pref t n v rest hn hp]
        rcases ih (declare pref t n.ns none).2 with h | h
        · rw [h.1, declare_len]; exact Nat.lt_succ_self _
        · rw [declare_len] at h; omega

theorem flatAttrsT_len (pref : List (Str × Str)) (a : TAttrs) :
    ∀ t : TagSt, t.declared.length ≤ (flatAttrsT pref t a).2.declared.length :=
  fun t => (flatAttrsT_inert pref a t).elim (fun h => by rw [h.1]; exact Nat.le_refl _) Nat.le_of_lt

theorem flatStartT_eq (pref : List (Str × Str)) (st : FSt) (tag : QName) (a : TAttrs) :
    flatStartT pref st tag a =
      let t0 := takePending { bindings := st.bindings, declared := [], counter := st.counter } st.pending
      let r1 := flatTag pref t0 tag
      let r2 := flatAttrsT pref r1.2 a
      (r1.1, r2.2.declared.map (fun d => (nsAttrName d.1, (d.2, false))) ++ r2.1, r2.2) := rfl

theorem flatStartT_nodecl (pref : List (Str × Str)) (st : FSt) (tag : QName) (a : TAttrs)
    (h : (flatStartT pref st tag a).2.2.declared = []) :
    (flatStartT pref st tag a).2.2 = ⟨st.bindings, [], st.counter⟩ ∧
    ∀ st' : FSt, st'.bindings = st.bindings → st'.pending = [] →
      flatStartT pref st' tag a =
        ((flatStartT pref st tag a).1, (flatStartT pref st tag a).2.1, ⟨st.bindings, [], st'.counter⟩) := by
  rw [flatStartT_eq] at h ⊢
  simp only at h ⊢
  generalize hT0 : ({ bindings := st.bindings, declared := [], counter := st.counter } : TagSt) = T0 at h ⊢
  -- nothing is declared at the end, so no stage declared: from the last stage back to the first
  have no : ∀ {t t' : TagSt}, t'.declared = [] → ¬ t.declared.length < t'.declared.length :=
    fun e l => by rw [e] at l; exact Nat.not_lt_zero _ l
  obtain ⟨e2, e2c⟩ := (flatAttrsT_inert pref a _).resolve_right (no h)
  rw [e2] at h ⊢
  obtain ⟨e1, e1c⟩ := (flatTag_inert pref _ tag).resolve_right (no h)
  rw [e1] at h e2c ⊢
  have e0 := (takePending_inert st.pending T0).resolve_right (no h)
  rw [e0] at h e1c e2c ⊢
  refine ⟨rfl, ?_⟩
  intro st' hb hp
  rw [flatStartT_eq]
  simp only [hp, hb, takePending]
  have eT : ({ bindings := st.bindings, declared := [], counter := st'.counter } : TagSt) = T0.wc st'.counter := by
    rw [← hT0]; rfl
  rw [eT, e1c, e2c]
  simp only [h, TagSt.wc, List.map_nil, List.nil_append]

end Genshi.Xml
