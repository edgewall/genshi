/-
  C09 — helper lemmas, part B: the invariant of the flattener's cache and the
  simulation "with cache = without cache" on the full namespace model.
-/
import Genshi.Lemmas.OutputFlattenCacheA
namespace Genshi.Xml
open Genshi

/-- the invariant of the full flattener's cache: every entry is what the miss path computes for its
    key under the bindings now in scope (with nothing pending, for every counter value and every
    stack of open elements), and that computation writes no declaration and leaves the bindings
    alone. -/
def CacheOk (pref : List (Str × Str)) (bs : List Binding) (cache : Cache) : Prop :=
  ∀ k o, (k, o) ∈ cache → ∀ st : FSt, st.bindings = bs → st.pending = [] →
    flatStartT pref st k.tag (typedOf k.attrs) = (o.1, o.2, ⟨bs, [], st.counter⟩)

theorem cacheOk_nil (pref : List (Str × Str)) (bs : List Binding) : CacheOk pref bs [] := by
  intro k o h; cases h

theorem cacheOk_cons (pref : List (Str × Str)) (bs : List Binding) (cache : Cache) (k : CKey) (o : COut)
    (h : CacheOk pref bs cache)
    (hk : ∀ st : FSt, st.bindings = bs → st.pending = [] →
      flatStartT pref st k.tag (typedOf k.attrs) = (o.1, o.2, ⟨bs, [], st.counter⟩)) :
    CacheOk pref bs ((k, o) :: cache) := by
  intro k' o' hm
  rcases List.mem_cons.1 hm with e | hm
  · cases e; exact hk
  · exact h k' o' hm

theorem clookup_mem (cache : Cache) (k : CKey) (o : COut) (h : clookup cache k = some o) : (k, o) ∈ cache := by
  induction cache with
  | nil => simp [clookup] at h
  | cons x rest ih =>
    obtain ⟨k', o'⟩ := x
    simp only [clookup] at h
    by_cases e : k' = k
    · simp only [e, ↓reduceIte, Option.some.injEq] at h
      subst e; subst h; exact List.mem_cons_self
    · simp only [e, ↓reduceIte] at h
      exact List.mem_cons_of_mem _ (ih h)

theorem cacheable_typed (a : TAttrs) (h : cacheable a = true) : typedOf (plainOf a) = a := by
  induction a with
  | nil => rfl
  | cons x rest ih =>
    obtain ⟨n, v, f⟩ := x
    simp only [cacheable, List.any_cons, Bool.not_or, Bool.and_eq_true, Bool.not_eq_eq_eq_not,
      Bool.not_true] at h
    have ih' := ih (by simp only [cacheable, Bool.not_eq_eq_eq_not, Bool.not_true]; exact h.2)
    simp only [typedOf, plainOf, List.map_cons, List.map_map] at ih' ⊢
    rw [ih', h.1]

theorem chit_false (c : CSt) (ie : Bool) (tag : QName) (a : TAttrs) : chit false c ie tag a = none := by
  simp [chit]

theorem chit_some (c : CSt) (ie : Bool) (tag : QName) (a : TAttrs) (o : COut)
    (h : chit true c ie tag a = some o) :
    c.st.pending = [] ∧ cacheable a = true ∧ (keyOf ie tag a, o) ∈ c.cache := by
  unfold chit at h
  by_cases hc : (true && c.st.pending.isEmpty && cacheable a) = true
  · rw [if_pos hc] at h
    simp only [Bool.true_and, Bool.and_eq_true, List.isEmpty_iff] at hc
    exact ⟨hc.1, hc.2, clookup_mem _ _ _ h⟩
  · rw [if_neg hc] at h; cases h

theorem cmiss_bindings (pref : List (Str × Str)) (u : Bool) (c : CSt) (ie : Bool) (tag : QName) (a : TAttrs) :
    (cmiss pref u c ie tag a).1.st.bindings =
      if ie then c.st.bindings else (flatStartT pref c.st tag a).2.2.bindings := by
  cases ie <;> rfl

/-- the miss path keeps the invariant: a tag that declares nothing leaves the bindings alone, and
    what it stores is what was just computed; a START that declares clears the cache, an EMPTY that
    declares restores the bindings -/
theorem cmiss_cacheOk (pref : List (Str × Str)) (st : FSt) (cache : Cache) (ie : Bool) (tag : QName)
    (a : TAttrs) (h : CacheOk pref st.bindings cache) :
    CacheOk pref (cmiss pref true ⟨st, cache⟩ ie tag a).1.st.bindings
      (cmiss pref true ⟨st, cache⟩ ie tag a).1.cache := by
  rw [cmiss_bindings]
  simp only [cmiss, Bool.true_and]
  by_cases hd : (flatStartT pref st tag a).2.2.declared = []
  · obtain ⟨ht, hall⟩ := flatStartT_nodecl pref st tag a hd
    rw [hd, ht, ite_self, List.isEmpty_nil, if_pos rfl]
    by_cases hca : cacheable a = true
    · rw [if_pos hca]
      refine cacheOk_cons _ _ _ _ _ h fun st' hb' hp' => ?_
      simp only [keyOf, cacheable_typed a hca]
      exact hall st' hb' hp'
    · rw [if_neg hca]; exact h
  · have hne : (flatStartT pref st tag a).2.2.declared.isEmpty = false := by simpa using hd
    rw [hne]
    cases ie
    · exact cacheOk_nil _ _
    · exact h

theorem cstepTag_cache (pref : List (Str × Str)) (st : FSt) (cache cache2 : Cache) (ie : Bool) (tag : QName)
    (a : TAttrs) (h : CacheOk pref st.bindings cache) :
    (cstepTag pref true ⟨st, cache⟩ ie tag a).2 = (cstepTag pref false ⟨st, cache2⟩ ie tag a).2 ∧
    (cstepTag pref true ⟨st, cache⟩ ie tag a).1.st = (cstepTag pref false ⟨st, cache2⟩ ie tag a).1.st ∧
    CacheOk pref (cstepTag pref true ⟨st, cache⟩ ie tag a).1.st.bindings
      (cstepTag pref true ⟨st, cache⟩ ie tag a).1.cache := by
  have hmiss : cstepTag pref false ⟨st, cache2⟩ ie tag a = cmiss pref false ⟨st, cache2⟩ ie tag a := by
    simp only [cstepTag, chit_false]
  rw [hmiss]
  cases hh : chit true ⟨st, cache⟩ ie tag a with
  | some o =>
    obtain ⟨hp, hca, hmem⟩ := chit_some _ _ _ _ _ hh
    simp only at hp hmem
    have hk := h _ _ hmem st rfl hp
    simp only [keyOf, cacheable_typed a hca] at hk
    have e1 : cstepTag pref true ⟨st, cache⟩ ie tag a =
        ({ st := if ie then st else { st with elems := (o.1, 0) :: st.elems }, cache := cache },
         [.tag ie o.1 o.2]) := by
      simp only [cstepTag, hh]
    rw [e1]
    simp only [cmiss, hk]
    obtain ⟨b, p, e, c⟩ := st
    subst hp
    exact ⟨trivial, by cases ie <;> rfl, by cases ie <;> exact h⟩
  | none =>
    have e1 : cstepTag pref true ⟨st, cache⟩ ie tag a = cmiss pref true ⟨st, cache⟩ ie tag a := by
      simp only [cstepTag, hh]
    rw [e1]
    exact ⟨rfl, by simp only [cmiss], cmiss_cacheOk pref st cache ie tag a h⟩

end Genshi.Xml
