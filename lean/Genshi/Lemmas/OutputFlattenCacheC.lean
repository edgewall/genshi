/-
  C09 — helper lemmas, part C: every event, whole streams, and the typed cache
  layer as a conservative extension of C02's flattener model (`Xml.flatStep`).
-/
import Genshi.Lemmas.ListBasics
import Genshi.Lemmas.OutputFlattenCacheB
namespace Genshi.Xml
open Genshi

theorem cstep_end_cache (pref : List (Str × Str)) (st : FSt) (cache cache2 : Cache) (tag : QName)
    (h : CacheOk pref st.bindings cache) :
    (cstep pref true ⟨st, cache⟩ (.ev (.end_ tag))).2 = (cstep pref false ⟨st, cache2⟩ (.ev (.end_ tag))).2 ∧
    (cstep pref true ⟨st, cache⟩ (.ev (.end_ tag))).1.st = (cstep pref false ⟨st, cache2⟩ (.ev (.end_ tag))).1.st ∧
    CacheOk pref (cstep pref true ⟨st, cache⟩ (.ev (.end_ tag))).1.st.bindings
      (cstep pref true ⟨st, cache⟩ (.ev (.end_ tag))).1.cache := by
  refine ⟨rfl, rfl, ?_⟩
  cases he : st.elems with
  | nil => simp only [cstep, flatStep, he, Bool.false_eq_true, ↓reduceIte]; exact h
  | cons x rest =>
    obtain ⟨name, n⟩ := x
    cases n with
    | zero =>
      simp only [cstep, flatStep, he, List.drop_zero, bne_self_eq_false, Bool.false_eq_true, ↓reduceIte]
      exact h
    | succ k =>
      have : (k + 1 != 0) = true := by simp
      simp only [cstep, flatStep, he, this, ↓reduceIte]
      exact cacheOk_nil _ _

theorem cstep_cache (pref : List (Str × Str)) (st : FSt) (cache cache2 : Cache) (e : TXEv)
    (h : CacheOk pref st.bindings cache) :
    (cstep pref true ⟨st, cache⟩ e).2 = (cstep pref false ⟨st, cache2⟩ e).2 ∧
    (cstep pref true ⟨st, cache⟩ e).1.st = (cstep pref false ⟨st, cache2⟩ e).1.st ∧
    CacheOk pref (cstep pref true ⟨st, cache⟩ e).1.st.bindings (cstep pref true ⟨st, cache⟩ e).1.cache := by
  cases e with
  | tag ie tag a => exact cstepTag_cache pref st cache cache2 ie tag a h
  | ev ev =>
    cases ev with
    | start tag a => exact cstepTag_cache pref st cache cache2 false tag (typedOf a) h
    | end_ tag => exact cstep_end_cache pref st cache cache2 tag h
    | startNs p u => exact ⟨rfl, rfl, h⟩
    | endNs p => exact ⟨rfl, rfl, h⟩
    | text s f => exact ⟨rfl, rfl, h⟩
    | comment s => exact ⟨rfl, rfl, h⟩
    | pi t d => exact ⟨rfl, rfl, h⟩
    | doctype n p s => exact ⟨rfl, rfl, h⟩
    | xmlDecl v e s => exact ⟨rfl, rfl, h⟩
    | startCdata => exact ⟨rfl, rfl, h⟩
    | endCdata => exact ⟨rfl, rfl, h⟩

theorem crun_cache (pref : List (Str × Str)) (evs : List TXEv) :
    ∀ (st : FSt) (cache cache2 : Cache), CacheOk pref st.bindings cache →
      crun pref true ⟨st, cache⟩ evs = crun pref false ⟨st, cache2⟩ evs := by
  induction evs with
  | nil => intro _ _ _ _; rfl
  | cons e rest ih =>
    intro st cache cache2 h
    obtain ⟨h1, h2, h3⟩ := cstep_cache pref st cache cache2 e h
    simp only [crun]
    rw [h1]
    congr 1
    have := ih (cstep pref true ⟨st, cache⟩ e).1.st (cstep pref true ⟨st, cache⟩ e).1.cache
      (cstep pref false ⟨st, cache2⟩ e).1.cache h3
    have eR : (cstep pref false ⟨st, cache2⟩ e).1 =
        ⟨(cstep pref true ⟨st, cache⟩ e).1.st, (cstep pref false ⟨st, cache2⟩ e).1.cache⟩ := by rw [h2]
    rw [eR]; exact this

theorem crun_inv (pref : List (Str × Str)) (evs : List TXEv) :
    ∀ (st : FSt) (cache : Cache), CacheOk pref st.bindings cache →
      CacheOk pref (evs.foldl (fun c e => (cstep pref true c e).1) ⟨st, cache⟩).st.bindings
        (evs.foldl (fun c e => (cstep pref true c e).1) ⟨st, cache⟩).cache :=
  fun st cache h => foldl_inv (fun c : CSt => CacheOk pref c.st.bindings c.cache) evs ⟨st, cache⟩ h
    fun c e _ hc => (cstep_cache pref c.st c.cache [] e hc).2.2

theorem flatAttrsT_typed (pref : List (Str × Str)) (a : AttrList) :
    ∀ t : TagSt, flatAttrsT pref t (typedOf a) = (typedOfF (flatAttrs pref t a).1, (flatAttrs pref t a).2) := by
  induction a with
  | nil => intro t; rfl
  | cons x rest ih =>
    intro t
    obtain ⟨n, v⟩ := x
    simp only [typedOf, List.map_cons] at ih ⊢
    simp only [flatAttrsT, flatAttrs]
    by_cases hn : n.ns.isEmpty = true
    · simp only [hn, ↓reduceIte, ih t]; rfl
    · simp only [hn, Bool.false_eq_true, ↓reduceIte]
      cases hp : findPrefix t.bindings n.ns true with
      | some p => simp only [ih t]; rfl
      | none => simp only [ih]; rfl

theorem flatStartT_typed (pref : List (Str × Str)) (st : FSt) (tag : QName) (a : AttrList) :
    flatStartT pref st tag (typedOf a) =
      ((flatStart pref st tag a).1, typedOfF (flatStart pref st tag a).2.1, (flatStart pref st tag a).2.2) := by
  simp only [flatStartT, flatStart, flatAttrsT_typed, typedOfF, List.map_append, List.map_map]
  rfl

theorem cmiss_typed (pref : List (Str × Str)) (st : FSt) (cache : Cache) (ie : Bool) (tag : QName)
    (a : AttrList) :
    (cstepTag pref false ⟨st, cache⟩ ie tag (typedOf a)).1.st =
      (if ie then (flatStep pref st (.empty tag a)).1 else (flatStep pref st (.ev (.start tag a))).1) ∧
    (cstepTag pref false ⟨st, cache⟩ ie tag (typedOf a)).2 =
      (if ie then (flatStep pref st (.empty tag a)).2 else (flatStep pref st (.ev (.start tag a))).2).map TFEv.ofF := by
  simp only [cstepTag, chit_false, cmiss, flatStartT_typed]
  cases ie
  · simp only [Bool.false_eq_true, ↓reduceIte, flatStep, List.map_cons, List.map_nil, TFEv.ofF]
    refine ⟨?_, ?_⟩ <;> first | trivial | rfl
  · simp only [↓reduceIte, flatStep, List.map_cons, List.map_nil, TFEv.ofF]
    refine ⟨?_, ?_⟩ <;> first | trivial | rfl

theorem cstep_false_ofX (pref : List (Str × Str)) (st : FSt) (cache : Cache) (e : XEv) :
    (cstep pref false ⟨st, cache⟩ (.ofX e)).1.st = (flatStep pref st e).1 ∧
    (cstep pref false ⟨st, cache⟩ (.ofX e)).2 = (flatStep pref st e).2.map TFEv.ofF := by
  cases e with
  | empty t a => exact cmiss_typed pref st cache true t a
  | ev ev =>
    cases ev with
    | start t a => exact cmiss_typed pref st cache false t a
    | end_ t => exact ⟨rfl, rfl⟩
    | startNs p u => exact ⟨rfl, rfl⟩
    | endNs p => exact ⟨rfl, rfl⟩
    | text s f => exact ⟨rfl, rfl⟩
    | comment s => exact ⟨rfl, rfl⟩
    | pi t d => exact ⟨rfl, rfl⟩
    | doctype n p s => exact ⟨rfl, rfl⟩
    | xmlDecl v e s => exact ⟨rfl, rfl⟩
    | startCdata => exact ⟨rfl, rfl⟩
    | endCdata => exact ⟨rfl, rfl⟩

theorem crun_false_ofX (pref : List (Str × Str)) (evs : List XEv) :
    ∀ (st : FSt) (cache : Cache),
      crun pref false ⟨st, cache⟩ (evs.map TXEv.ofX) = (flatRun pref st evs).map TFEv.ofF := by
  induction evs with
  | nil => intro _ _; rfl
  | cons e rest ih =>
    intro st cache
    obtain ⟨h1, h2⟩ := cstep_false_ofX pref st cache e
    simp only [List.map_cons, crun, flatRun, List.map_append]
    rw [h2]
    congr 1
    have := ih (cstep pref false ⟨st, cache⟩ (.ofX e)).1.st (cstep pref false ⟨st, cache⟩ (.ofX e)).1.cache
    have eR : (cstep pref false ⟨st, cache⟩ (.ofX e)).1 =
        ⟨(cstep pref false ⟨st, cache⟩ (.ofX e)).1.st, (cstep pref false ⟨st, cache⟩ (.ofX e)).1.cache⟩ := rfl
    rw [eR, this, h1]

/-- either cache flag, from the initial state -/
theorem cflatten_cache (pref : List (Str × Str)) (c : Bool) (evs : List TXEv) :
    cflatten pref c evs = cflatten pref false evs := by
  cases c
  · rfl
  · exact crun_cache pref evs FSt.init [] [] (cacheOk_nil _ _)

/-- on events with plain values the filter, with or without its cache, is C02's `flatten` -/
theorem cflatten_ofX (pref : List (Str × Str)) (c : Bool) (xs : List XEv) :
    cflatten pref c (xs.map TXEv.ofX) = (flatten pref xs).map TFEv.ofF :=
  (cflatten_cache pref c _).trans (crun_false_ofX pref xs FSt.init [])

end Genshi.Xml
