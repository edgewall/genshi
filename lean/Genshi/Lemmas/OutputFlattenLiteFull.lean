/-
  C09 — the lite flattener (`Model/OutputFlattenLite.lean`, the one inside `render`) is the
  full flattener of property C02 (`Model/XmlFlatten.lean`) restricted to its domain:
  whenever the lite model answers `some`, its events are those of `Xml.flatten` through the
  adapters below, for every preferred-prefix mapping.

  Hypothesis `tagOk`: no element namespace is the reserved string U+0000, which C02's
  model reads as Python's `None` (`Xml.noneUri`; a QName never has the namespace `None`).
-/
import Genshi.Model.OutputFlattenLite
import Genshi.Model.OutputFlatPipeline
import Genshi.Lemmas.OutputFlattenStep
namespace Genshi.Output
open Genshi

def tagOk : QEv → Bool
  | .start t _ => t.ns != Xml.noneUri
  | .empty t _ => t.ns != Xml.noneUri
  | _ => true

/-- lite bindings (default-namespace declarations, innermost first) as full bindings: on top of
    the built-in `xml` binding -/
def liftB (b : List (Str × Bool)) : List Xml.Binding :=
  b.map (fun p => (([] : Str), p.1, p.2)) ++ [(Xml.xmlPrefix, Xml.xmlNs, false)]

/-- the lite model's pending default-namespace request as C02's list of pending `(prefix, uri)` -/
def liftP : Option Str → List (Str × Str)
  | none => []
  | some u => [([], u)]

/-- The lite flattener's state `l` and the full flattener's state `f` stand for the same scope;
    `flatStep_lift` shows that a step on which the lite model answers keeps the two related and
    yields the same events.  The last two fields speak of `l` alone. -/
structure Rel (l : FlatSt) (f : Xml.FSt) : Prop where
  bindings : f.bindings = liftB l.bindings
  pending : f.pending = liftP l.pending
  elems : f.elems = l.elems
  /-- the declarations in scope are exactly those of the open elements -/
  count : (l.elems.map Prod.snd).sum = l.bindings.length
  /-- a made-up default namespace is an element's namespace: never the reserved string -/
  auto : ∀ p ∈ l.bindings, p.2 = true → p.1 ≠ Xml.noneUri

theorem xmlNs_eq : xmlNs = Xml.xmlNs := by decide

theorem uriOf_lift_default (b : List (Str × Bool)) : Xml.uriOf (liftB b) [] = some (defaultNs b).1 := by
  cases b with
  | nil => simp [liftB, Xml.uriOf, defaultNs, Xml.xmlPrefix]
  | cons x rest => simp [liftB, Xml.uriOf, defaultNs]

theorem autoOf_lift_default (b : List (Str × Bool)) : Xml.autoOf (liftB b) [] = (defaultNs b).2 := by
  cases b with
  | nil => simp [liftB, Xml.autoOf, defaultNs, Xml.xmlPrefix]
  | cons x rest => simp [liftB, Xml.autoOf, defaultNs]

theorem uriOf_lift_xml (b : List (Str × Bool)) : Xml.uriOf (liftB b) Xml.xmlPrefix = some Xml.xmlNs := by
  induction b with
  | nil => simp [liftB, Xml.uriOf]
  | cons x rest ih =>
    have : liftB (x :: rest) = ([], x.1, x.2) :: liftB rest := rfl
    rw [this]
    simp only [Xml.uriOf]
    rw [if_neg (by simp [Xml.xmlPrefix])]
    exact ih

/-- the loop of `_find_prefix` over lifted bindings finds nothing but `xml`, once the default
    namespace has been ruled out -/
theorem findGo_lift (full : List Xml.Binding) (uri : Str) (forAttr : Bool)
    (hx : Xml.uriOf full Xml.xmlPrefix = some Xml.xmlNs)
    (hd : forAttr = false → Xml.uriOf full [] ≠ some uri) (b : List (Str × Bool)) :
    Xml.findGo full uri forAttr (liftB b) = if uri = Xml.xmlNs then some Xml.xmlPrefix else none := by
  induction b with
  | nil =>
    simp only [liftB, List.map_nil, List.nil_append, Xml.findGo]
    by_cases hu : uri = Xml.xmlNs
    · subst hu; simp [Xml.xmlPrefix]; exact hx
    · have : ¬ Xml.xmlNs = uri := fun h => hu h.symm
      simp [hu, this]
  | cons x rest ih =>
    have : liftB (x :: rest) = ([], x.1, x.2) :: liftB rest := rfl
    rw [this]
    simp only [Xml.findGo]
    rw [if_neg]
    · exact ih
    · intro ⟨_, h2, h3⟩
      rcases h2 with h2 | h2
      · exact h2 rfl
      · exact hd h2 h3

theorem findPrefix_lift_elem (b : List (Str × Bool)) (uri : Str) :
    Xml.findPrefix (liftB b) uri false =
      if (defaultNs b).1 = uri then some [] else if uri = Xml.xmlNs then some Xml.xmlPrefix else none := by
  unfold Xml.findPrefix
  rw [uriOf_lift_default]
  by_cases h : (defaultNs b).1 = uri
  · simp [h]
  · have h' : ¬ (false = false ∧ some (defaultNs b).1 = some uri) := by simp [h]
    rw [if_neg h', if_neg h]
    exact findGo_lift _ _ _ (uriOf_lift_xml b) (fun _ => by rw [uriOf_lift_default]; simp [h]) b

theorem findPrefix_lift_attr (b : List (Str × Bool)) (uri : Str) :
    Xml.findPrefix (liftB b) uri true = if uri = Xml.xmlNs then some Xml.xmlPrefix else none := by
  unfold Xml.findPrefix
  rw [if_neg (by simp)]
  exact findGo_lift _ _ _ (uriOf_lift_xml b) (fun h => by cases h) b

/-- lite declarations as C02's `declared` list -/
def declOf (d : List (Str × Bool)) : List (Str × Str) := d.map fun x => (([] : Str), x.1)

theorem liftB_cons (x : Str × Bool) (b : List (Str × Bool)) : liftB (x :: b) = ([], x.1, x.2) :: liftB b := rfl

theorem takePending_lift (b : List (Str × Bool)) (p : Option Str) (c : Nat) (d1 : List (Str × Bool))
    (h : flatD1 b p = some d1) :
    Xml.takePending ⟨liftB b, [], c⟩ (liftP p) = ⟨liftB (d1 ++ b), declOf d1, c⟩ ∧
    d1.length ≤ 1 ∧ (∀ x ∈ d1, x.2 = false) := by
  cases p with
  | none =>
    simp only [flatD1, Option.some.injEq] at h
    subst h
    exact ⟨rfl, by simp, by simp⟩
  | some u =>
    simp only [flatD1] at h
    by_cases hx : u = xmlNs
    · simp [hx] at h
    · rw [if_neg hx] at h
      have hx' : ¬ u = Xml.xmlNs := by rw [← xmlNs_eq]; exact hx
      by_cases hd : (defaultNs b).1 ≠ u
      · rw [if_pos hd] at h
        simp only [Option.some.injEq] at h
        subst h
        refine ⟨?_, by simp, by simp⟩
        simp only [liftP, Xml.takePending, uriOf_lift_default, findPrefix_lift_elem]
        have hd' : ¬ (defaultNs b).1 = u := hd
        rw [if_pos]
        · rfl
        · refine ⟨by simp [hd'], Or.inr (Or.inr ?_)⟩
          simp [hd', hx']
      · rw [if_neg hd] at h
        simp only [Option.some.injEq] at h
        subst h
        refine ⟨?_, by simp, by simp⟩
        simp only [liftP, Xml.takePending, uriOf_lift_default]
        have hd' : (defaultNs b).1 = u := by simpa using hd
        rw [if_neg]
        · rfl
        · simp [hd']

/-- the full flattener undeclares the default namespace (`¬ falsyUri u ∧ auto`) exactly when the
    lite one does: a made-up binding is never the reserved string -/
theorem undeclare_lift (b1 : List (Str × Bool)) (hauto : ∀ p ∈ b1, p.2 = true → p.1 ≠ Xml.noneUri) :
    (¬ Xml.falsyUri (defaultNs b1).1 = true ∧ (defaultNs b1).2 = true) ↔
      (!(defaultNs b1).1.isEmpty && (defaultNs b1).2) = true := by
  have hauto' : (defaultNs b1).2 = true → (defaultNs b1).1 ≠ Xml.noneUri := by
    cases b1 with
    | nil => simp [defaultNs]
    | cons x rest => intro h2; exact hauto x List.mem_cons_self h2
  simp only [Xml.falsyUri, Bool.or_eq_true, List.isEmpty_iff, decide_eq_true_eq, not_or, Bool.and_eq_true,
    Bool.not_eq_eq_eq_not, Bool.not_true, List.isEmpty_eq_false_iff]
  exact ⟨fun h => ⟨h.1.1, h.2⟩, fun h => ⟨⟨h.1, hauto' h.2⟩, h.2⟩⟩

/-- The element name: lite `flatD2` against `Xml.flatTag`, after `flatD1` has put `d1` (taken from
    `pending`) on top of the bindings.  On the lite domain each of the two stages yields at most one
    declaration, so the `reverse` in `flatStart_lift` changes nothing.  `htop`: what came from
    `pending` is not a made-up binding, so the tag does not undeclare it.  `hauto`, `ht`: made-up
    bindings are element namespaces, hence not `Xml.noneUri`, which is what `Xml.falsyUri` asks of the
    default namespace; `ht` keeps that true of the binding made up here. -/
theorem flatTag_lift (pref : List (Str × Str)) (b1 d1 : List (Str × Bool)) (c : Nat)
    (t : QName) (d2 : List (Str × Bool))
    (htop : d1 ≠ [] → (defaultNs b1).2 = false)
    (hauto : ∀ p ∈ b1, p.2 = true → p.1 ≠ Xml.noneUri) (ht : t.ns ≠ Xml.noneUri)
    (h : flatD2 b1 d1 t = some d2) :
    Xml.flatTag pref ⟨liftB b1, declOf d1, c⟩ t = (t.loc, ⟨liftB (d2 ++ b1), declOf d1 ++ declOf d2, c⟩) ∧
    d2.length ≤ 1 ∧ (∀ p ∈ d2, p.2 = true → p.1 ≠ Xml.noneUri) := by
  simp only [flatD2] at h
  by_cases hx : t.ns = xmlNs
  · simp [hx] at h
  · rw [if_neg hx] at h
    have hx' : ¬ t.ns = Xml.xmlNs := by rw [← xmlNs_eq]; exact hx
    by_cases hn : t.ns.isEmpty = true
    · simp only [hn, Bool.not_true, Bool.false_eq_true, ↓reduceIte] at h
      simp only [Xml.flatTag, hn, ↓reduceIte, uriOf_lift_default, autoOf_lift_default, undeclare_lift b1 hauto]
      by_cases hc : (!(defaultNs b1).1.isEmpty && (defaultNs b1).2) = true
      · rw [if_pos hc] at h ⊢
        cases h
        have hd1e : d1 = [] := by
          by_cases he : d1 = []
          · exact he
          · rw [htop he] at hc; simp at hc
        subst hd1e
        exact ⟨by simp [Xml.declare, declOf, liftB_cons], by simp,
          by intro p hp _; simp at hp; subst hp; simp [Xml.noneUri]⟩
      · rw [if_neg hc] at h ⊢
        cases h
        exact ⟨by simp [declOf], by simp, by simp⟩
    · simp only [hn, Bool.not_false, ↓reduceIte] at h
      simp only [Xml.flatTag, hn, Bool.false_eq_true, ↓reduceIte, findPrefix_lift_elem]
      by_cases hdf : (defaultNs b1).1 = t.ns
      · rw [if_pos hdf] at h
        simp only [Option.some.injEq] at h
        subst h
        rw [if_pos hdf]
        exact ⟨by simp [Xml.qualify, declOf], by simp, by simp⟩
      · rw [if_neg hdf] at h
        rw [if_neg hdf, if_neg hx']
        by_cases he : d1.isEmpty = true
        · rw [if_pos he] at h
          simp only [Option.some.injEq] at h
          subst h
          have hd1e : d1 = [] := by simpa using he
          subst hd1e
          refine ⟨?_, by simp, ?_⟩
          · simp [Xml.declare, declOf, Xml.qualify, liftB_cons]
          · intro p hp _; simp at hp; subst hp; exact ht
        · rw [if_neg he] at h; cases h

theorem flatAttrs_lift (pref : List (Str × Str)) (a : AttrList) :
    ∀ (na : FAttrs) (T : Xml.TagSt) (b : List (Str × Bool)), T.bindings = liftB b → flatAttrs a = some na →
      Xml.flatAttrs pref T a = (na, T) := by
  induction a with
  | nil => intro na T b _ h; simp only [flatAttrs, Option.some.injEq] at h; subst h; rfl
  | cons x rest ih =>
    intro na T b hb h
    obtain ⟨n, v⟩ := x
    simp only [flatAttrs, bind, Option.bind] at h
    cases h1 : flatAttr (n, v) with
    | none => simp [h1] at h
    | some y =>
      cases h2 : flatAttrs rest with
      | none => simp [h1, h2] at h
      | some ys =>
        simp only [h1, h2, pure, Option.some.injEq] at h
        subst h
        have ihr := ih ys T b hb h2
        simp only [flatAttr] at h1
        by_cases hn : n.ns.isEmpty = true
        · simp only [hn, ↓reduceIte, Option.some.injEq] at h1
          subst h1
          simp [Xml.flatAttrs, hn, ihr]
        · simp only [hn, Bool.false_eq_true, ↓reduceIte] at h1
          by_cases hx : n.ns = xmlNs
          · simp only [hx, ↓reduceIte, Option.some.injEq] at h1
            subst h1
            have hx' : n.ns = Xml.xmlNs := by rw [← xmlNs_eq]; exact hx
            simp only [Xml.flatAttrs, ↓reduceIte, hb, findPrefix_lift_attr, hx']
            have hne : List.isEmpty Xml.xmlNs = false := by decide
            rw [ihr]
            simp [hne, Xml.xmlPrefix]
          · simp [hx] at h1

theorem reverse_short {α : Type} (l : List α) (h : l.length ≤ 1) : l.reverse = l := by
  match l, h with
  | [], _ => rfl
  | [_], _ => rfl

theorem xmlns_eq : xmlns = Xml.xmlnsName := by decide

/-- the three stages of the miss path together (`flatStartCore_eq_some`): `declared` lists the
    declarations in the order made, the bindings innermost first -/
theorem flatStart_lift (pref : List (Str × Str)) (f : Xml.FSt) (b : List (Str × Bool)) (pending : Option Str)
    (t : QName) (a : AttrList) (declared : List (Str × Bool)) (tn : Str) (fa : FAttrs)
    (hb : f.bindings = liftB b) (hp : f.pending = liftP pending)
    (hauto : ∀ p ∈ b, p.2 = true → p.1 ≠ Xml.noneUri) (ht : t.ns ≠ Xml.noneUri)
    (h : flatStartCore b pending t a = some (declared, tn, fa)) :
    Xml.flatStart pref f t a = (tn, fa, ⟨liftB (declared.reverse ++ b), declOf declared, f.counter⟩) ∧
    (∀ p ∈ declared, p.2 = true → p.1 ≠ Xml.noneUri) := by
  obtain ⟨d1, d2, na, h1, h2, h3, hx⟩ := flatStartCore_eq_some.1 h
  cases hx
  obtain ⟨e1, l1, f1⟩ := takePending_lift b pending f.counter d1 h1
  have htop : d1 ≠ [] → (defaultNs (d1 ++ b)).2 = false := by
    intro hne
    match d1, l1, f1, hne with
    | [x], _, f1, _ => exact f1 x List.mem_cons_self
  have hauto1 : ∀ p ∈ d1 ++ b, p.2 = true → p.1 ≠ Xml.noneUri := by
    intro p hp hpt
    rcases List.mem_append.1 hp with hp | hp
    · rw [f1 p hp] at hpt; cases hpt
    · exact hauto p hp hpt
  obtain ⟨e2, l2, f2⟩ := flatTag_lift pref (d1 ++ b) d1 f.counter t d2 htop hauto1 ht h2
  have e3 := flatAttrs_lift pref a na
    ⟨liftB (d2 ++ (d1 ++ b)), declOf d1 ++ declOf d2, f.counter⟩ (d2 ++ (d1 ++ b)) rfl h3
  have hrev : (d1 ++ d2).reverse ++ b = d2 ++ (d1 ++ b) := by
    rw [List.reverse_append, reverse_short d1 l1, reverse_short d2 l2, List.append_assoc]
  have hdo : declOf (d1 ++ d2) = declOf d1 ++ declOf d2 := by simp [declOf]
  refine ⟨?_, ?_⟩
  · simp only [Xml.flatStart, hb, hp, e1, e2, e3]
    rw [hrev, hdo]
    have hm : ∀ d : List (Str × Bool),
        (declOf d).map (fun x => (Xml.nsAttrName x.1, x.2)) = d.map (fun x => (xmlns, x.1)) := by
      intro d; simp [declOf, Xml.nsAttrName, xmlns_eq, Function.comp_def]
    simp only [List.map_append, hm, List.append_assoc]
  · intro p hp hpt
    rcases List.mem_append.1 hp with hp | hp
    · rw [f1 p hp] at hpt; cases hpt
    · exact f2 p hp hpt

theorem liftB_drop (b : List (Str × Bool)) (n : Nat) (h : n ≤ b.length) :
    (liftB b).drop n = liftB (b.drop n) := by
  simp only [liftB]
  rw [List.drop_append_of_le_length (by simpa using h), List.map_drop]

theorem liftP_filter_same (p : Option Str) : (liftP p).filter (fun d => d.1 ≠ ([] : Str)) = [] := by
  cases p <;> simp [liftP]

theorem liftP_filter_other (p : Option Str) (q : Str) (hq : q ≠ []) :
    (liftP p).filter (fun d => d.1 ≠ q) = liftP p := by
  cases p with
  | none => simp [liftP]
  | some u => simp [liftP, Ne.symm hq]

/-- a step that touches nothing but `pending` -/
theorem Rel.withPending {l : FlatSt} {f : Xml.FSt} (h : Rel l f) (q : Option Str) {P : List (Str × Str)}
    (hP : P = liftP q) : Rel { l with pending := q } { f with pending := P } :=
  ⟨h.bindings, hP, h.elems, h.count, h.auto⟩

/-- START / EMPTY: the declarations of `flatStart_lift` come into scope for a START only -/
theorem flatStep_lift_tag (pref : List (Str × Str)) (ie : Bool) (l : FlatSt) (f : Xml.FSt) (t : QName) (a : AttrList)
    (r : FlatSt × List FEv) (hR : Rel l f) (ht : t.ns ≠ Xml.noneUri) (h : flatStep false l (tagEv ie t a) = some r) :
    (Xml.flatStep pref f (toX (tagEv ie t a))).2.map ofXF = r.2 ∧ Rel r.1 (Xml.flatStep pref f (toX (tagEv ie t a))).1 := by
  obtain ⟨hb, hp, he, hc, ha⟩ := hR
  rw [flatStep_tag] at h
  cases hs : flatStartCore l.bindings l.pending t a with
  | none => rw [hs] at h; cases h
  | some x =>
    obtain ⟨declared, tn, fa⟩ := x
    rw [hs] at h
    cases h
    obtain ⟨e, fnew⟩ := flatStart_lift pref f l.bindings l.pending t a declared tn fa hb hp ha ht hs
    cases ie
    · simp only [tagEv, Bool.false_eq_true, ↓reduceIte, toX, Xml.flatStep, e, List.map_cons, List.map_nil, ofXF]
      refine ⟨trivial, ⟨rfl, rfl, ?_, ?_, ?_⟩⟩
      · simp [declOf, he]
      · simp only [List.map_cons, List.sum_cons, List.length_append, List.length_reverse]; omega
      · intro p hp' hpt
        rcases List.mem_append.1 hp' with hp' | hp'
        · exact fnew p (List.mem_reverse.1 hp') hpt
        · exact ha p hp' hpt
    · simp only [tagEv, ↓reduceIte, toX, Xml.flatStep, e, List.map_cons, List.map_nil, ofXF]
      exact ⟨trivial, ⟨hb, rfl, he, hc, ha⟩⟩

theorem flatStep_lift (pref : List (Str × Str)) (l : FlatSt) (f : Xml.FSt) (ev : QEv) (r : FlatSt × List FEv)
    (hR : Rel l f) (hok : tagOk ev = true) (h : flatStep false l ev = some r) :
    (Xml.flatStep pref f (toX ev)).2.map ofXF = r.2 ∧ Rel r.1 (Xml.flatStep pref f (toX ev)).1 := by
  have ⟨hb, hp, he, hc, ha⟩ := hR
  cases ev with
  | start t a => exact flatStep_lift_tag pref false l f t a r hR (by simpa [tagOk] using hok) h
  | empty t a => exact flatStep_lift_tag pref true l f t a r hR (by simpa [tagOk] using hok) h
  | end_ t =>
    simp only [flatStep] at h
    cases hel : l.elems with
    | nil =>
      simp only [hel] at h
      by_cases hx : t.ns = xmlNs
      · simp [hx] at h
      · rw [if_neg hx] at h
        simp only [Option.some.injEq] at h
        subst h
        have hx' : ¬ t.ns = Xml.xmlNs := by rw [← xmlNs_eq]; exact hx
        have hfe : f.elems = [] := by rw [he, hel]
        simp only [toX, Xml.flatStep, hfe, hb, findPrefix_lift_elem]
        refine ⟨?_, hR⟩
        by_cases hn : t.ns.isEmpty = true
        · simp [hn, ofXF]
        · by_cases hd : (defaultNs l.bindings).1 = t.ns
          · simp [hn, hd, ofXF, Xml.qualify]
          · simp [hn, hd, hx', ofXF]
    | cons x rest =>
      obtain ⟨tn, count⟩ := x
      simp only [hel, Option.some.injEq] at h
      subst h
      have hfe : f.elems = (tn, count) :: rest := by rw [he, hel]
      simp only [toX, Xml.flatStep, hfe, List.map_cons, List.map_nil, ofXF]
      have hle : count ≤ l.bindings.length := by
        rw [hel] at hc; simp only [List.map_cons, List.sum_cons] at hc; omega
      refine ⟨trivial, ⟨?_, hp, rfl, ?_, ?_⟩⟩
      · simp only [hb]; exact liftB_drop _ _ hle
      · rw [hel] at hc; simp only [List.map_cons, List.sum_cons] at hc
        simp only [List.length_drop]; omega
      · intro p hp' hpt; exact ha p (List.mem_of_mem_drop hp') hpt
  | startNs p u =>
    cases p with
    | nil =>
      cases h
      exact ⟨rfl, hR.withPending (some u) (by rw [hp, liftP_filter_same]; rfl)⟩
    | cons c cs => cases h
  | endNs p =>
    cases p with
    | nil =>
      cases h
      exact ⟨rfl, hR.withPending none (by rw [hp, liftP_filter_same]; rfl)⟩
    | cons c cs =>
      cases h
      exact ⟨rfl, hR.withPending l.pending (by rw [hp, liftP_filter_other _ _ (List.cons_ne_nil c cs)])⟩
  | _ => cases h; exact ⟨rfl, hR⟩

theorem flatten_lift (pref : List (Str × Str)) (evs : List QEv) :
    ∀ (l : FlatSt) (f : Xml.FSt) (out : List FEv), Rel l f → (∀ e ∈ evs, tagOk e = true) →
      flatten false l evs = some out → (Xml.flatRun pref f (evs.map toX)).map ofXF = out := by
  induction evs with
  | nil => intro l f out _ _ h; cases h; rfl
  | cons e rest ih =>
    intro l f out hR hok h
    rw [flatten_cons] at h
    obtain ⟨r, hs, h⟩ := Option.bind_eq_some_iff.1 h
    obtain ⟨o2, hr, rfl⟩ := Option.map_eq_some_iff.1 h
    obtain ⟨h1, h2⟩ := flatStep_lift pref l f e r hR (hok e List.mem_cons_self) hs
    simp only [List.map_cons, Xml.flatRun, List.map_append, h1]
    congr 1
    exact ih r.1 _ o2 h2 (fun e' he' => hok e' (List.mem_cons_of_mem _ he')) hr

theorem rel_init (m : Method) : Rel (flatInit m) Xml.FSt.init :=
  ⟨rfl, rfl, rfl, rfl, by intro p hp; cases hp⟩

end Genshi.Output
