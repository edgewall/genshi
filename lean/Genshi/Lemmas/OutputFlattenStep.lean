/-
  The lite `NamespaceFlattener` (`Model/OutputFlattenLite.lean`) one event at a time: START and EMPTY
  are one step with a flag (`tagEv ie`), as in the full model (`Xml.cstepTag`); its miss path as
  three stages (`flatStartCore_eq_some`); what it does without the cache and with it; what it hands
  on for each kind of event (`flatStep_shape`); `flatten` on a non-empty stream.
-/
import Genshi.Model.OutputFlattenLite
namespace Genshi.Output
open Genshi

/-- START (`ie = false`) or EMPTY (`ie = true`) -/
def tagEv {ν : Type} (ie : Bool) (t : ν) (a : List (ν × Str)) : XEv ν := if ie then .empty t a else .start t a

theorem tagEv_inj {ν : Type} {ie ie' : Bool} {t t' : ν} {a a' : List (ν × Str)} (h : tagEv ie t a = tagEv ie' t' a') :
    ie = ie' ∧ t = t' ∧ a = a' := by
  cases ie <;> cases ie' <;> cases h <;> exact ⟨rfl, rfl, rfl⟩

/-- the three stages of the miss path: declarations requested by `START_NS`, the declaration the
    element name needs, the attributes -/
theorem flatStartCore_eq_some {b : List (Str × Bool)} {p : Option Str} {t : QName} {a : AttrList}
    {x : List (Str × Bool) × Str × FAttrs} :
    flatStartCore b p t a = some x ↔
      ∃ d1 d2 na, flatD1 b p = some d1 ∧ flatD2 (d1 ++ b) d1 t = some d2 ∧ flatAttrs a = some na ∧
        x = (d1 ++ d2, t.loc, ((d1 ++ d2).map fun d => (xmlns, d.1)) ++ na) := by
  unfold flatStartCore
  constructor
  · intro h
    split at h
    · cases h
    · split at h
      · cases h
      · split at h <;> cases h
        exact ⟨_, _, _, ‹_›, ‹_›, ‹_›, rfl⟩
  · rintro ⟨d1, d2, na, h1, h2, h3, rfl⟩
    simp only [h1, h2, h3]

/-- START / EMPTY: looked up when the cache is on and nothing is pending (a START served from the
    cache declares nothing); otherwise the declarations `r.1` come into scope for a START, the tag is
    written with its flattened name `r.2.1` and attributes `r.2.2`, the output is stored iff the tag
    declared nothing, and a START that declared something clears the cache -/
theorem flatStep_tagEv (c ie : Bool) (st : FlatSt) (t : QName) (a : AttrList) :
    flatStep c st (tagEv ie t a) =
      match (if c && st.pending.isNone then flatLookup st.cache (tagEv ie t a) else none) with
      | some o =>
          some (match ie, o with
                | false, .start t' _ => { st with elems := (t', 0) :: st.elems }
                | _, _ => st, [o])
      | none =>
        (flatStartCore st.bindings st.pending t a).map fun r =>
          ({ bindings := if ie then st.bindings else r.1.reverse ++ st.bindings, pending := none,
             elems := if ie then st.elems else (r.2.1, r.1.length) :: st.elems,
             cache := if r.1.isEmpty then (if c then (tagEv ie t a, tagEv ie r.2.1 r.2.2) :: st.cache else st.cache)
                      else if ie then st.cache else [] }, [tagEv ie r.2.1 r.2.2]) := by
  cases ie
  · simp only [tagEv, flatStep, Bool.false_eq_true, ↓reduceIte, flatStartMiss]
    cases (if (c && st.pending.isNone) = true then flatLookup st.cache (XEv.start t a) else none) with
    | some o => cases o <;> rfl
    | none => cases flatStartCore st.bindings st.pending t a <;> rfl
  · simp only [tagEv, flatStep, ↓reduceIte, flatEmptyMiss]
    cases (if (c && st.pending.isNone) = true then flatLookup st.cache (XEv.empty t a) else none) with
    | some o => rfl
    | none =>
      cases flatStartCore st.bindings st.pending t a with
      | none => rfl
      | some r => cases h : r.1.isEmpty <;> cases c <;> simp only [Option.map_some, h] <;> rfl

/-- without the cache -/
theorem flatStep_tag (ie : Bool) (st : FlatSt) (t : QName) (a : AttrList) :
    flatStep false st (tagEv ie t a) =
      (flatStartCore st.bindings st.pending t a).map fun r =>
        ({ bindings := if ie then st.bindings else r.1.reverse ++ st.bindings, pending := none,
           elems := if ie then st.elems else (r.2.1, r.1.length) :: st.elems,
           cache := if ie || r.1.isEmpty then st.cache else [] }, [tagEv ie r.2.1 r.2.2]) := by
  rw [flatStep_tagEv]
  refine congrArg (Option.map · _) (funext fun r => ?_)
  cases ie <;> cases r.1.isEmpty <;> rfl

theorem flatStartCore_name {b : List (Str × Bool)} {p : Option Str} {t : QName} {a : AttrList}
    {x : List (Str × Bool) × Str × FAttrs} (h : flatStartCore b p t a = some x) : x.2.1 = t.loc := by
  obtain ⟨_, _, _, _, _, _, rfl⟩ := flatStartCore_eq_some.1 h
  rfl

theorem flatStep_tag_out (ie : Bool) (fst : FlatSt) (t : QName) (a : AttrList) (r : FlatSt × List FEv)
    (h : flatStep false fst (tagEv ie t a) = some r) : ∃ fa, r.2 = [tagEv ie t.loc fa] := by
  rw [flatStep_tag] at h
  cases hc : flatStartCore fst.bindings fst.pending t a with
  | none => rw [hc] at h; cases h
  | some x => rw [hc] at h; cases h; exact ⟨x.2.2, congrArg (fun n => [tagEv ie n x.2.2]) (flatStartCore_name hc)⟩

theorem flatStep_shape (fst : FlatSt) (ev : QEv) (r : FlatSt × List FEv) (h : flatStep false fst ev = some r) :
    match ev with
    | .start t _ => ∃ fa, r.2 = [.start t.loc fa]
    | .empty t _ => ∃ fa, r.2 = [.empty t.loc fa]
    | .end_ _ => ∃ x, r.2 = [.end_ x]
    | .text s f => r.2 = [.text s f]
    | .comment s => r.2 = [.comment s]
    | .pi t d => r.2 = [.pi t d]
    | .doctype n p q => r.2 = [.doctype n p q]
    | .xmlDecl v e q => r.2 = [.xmlDecl v e q]
    | .startNs _ _ => r.2 = []
    | .endNs _ => r.2 = []
    | .startCdata => r.2 = [.startCdata]
    | .endCdata => r.2 = [.endCdata] := by
  cases ev with
  | start t a => exact flatStep_tag_out false fst t a r h
  | empty t a => exact flatStep_tag_out true fst t a r h
  | end_ t =>
    simp only [flatStep] at h
    split at h
    · cases h; exact ⟨_, rfl⟩
    · split at h <;> cases h
      exact ⟨_, rfl⟩
  | startNs p u =>
    simp only [flatStep] at h
    split at h <;> cases h
    rfl
  | endNs p =>
    simp only [flatStep] at h
    split at h <;> cases h <;> rfl
  | _ => cases h; rfl

theorem flatten_cons (c : Bool) (st : FlatSt) (ev : QEv) (rest : List QEv) :
    flatten c st (ev :: rest) = (flatStep c st ev).bind fun r => (flatten c r.1 rest).map (r.2 ++ ·) := by
  simp only [flatten]
  cases flatStep c st ev with
  | none => rfl
  | some r => simp only [Option.bind_some]; cases flatten c r.1 rest <;> rfl

end Genshi.Output
