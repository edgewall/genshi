/-
  Forests as the serializers see them (C08): the domains as node-wise predicates (`Nodewise`:
  `okList`, `forestNsFree`, `forestUniformNs u`, `forestMixedOk`), what reaches the main loop for a
  forest as an explicit function of the forest (`forestFm cur`: elements in arbitrary namespaces below
  default namespace `cur`; `forestFu u s`: one namespace; `forestF`: none), `Rend`: the flattenings as
  far as the proofs about a forest's output need them, and whole documents (`docNodes`).  Definitions
  and their algebra only; that the filter chain computes these functions is Lemmas/OutputTree.
-/
import Genshi.Model.OutputPipeline
import Genshi.Lemmas.Core
namespace Genshi.Output
open Genshi

/-
  Node-wise predicates on forests: every element passes a test on its tag and attributes, every leaf
  a test on its event, and every text leaf passes.  The domains of C08 (`Node.ok`, `nsFree`,
  `uniformNs u`, `mixedOk`) are of this form (`Nodewise`), and the forest transformations of the
  serializer (whitespace filter, normalisation, Markup leaves made plain) keep elements and non-text
  leaves as they are and make only text leaves: each keeps every such predicate, which is proved once
  per transformation, where it is defined.
-/
section Nodewise

/-- `f` (on nodes) and `g` (on forests) are the node-wise predicate with element test `p` and leaf
    test `l` -/
structure Nodewise (p : QName → AttrList → Bool) (l : Event → Bool) (f : Node → Bool) (g : List Node → Bool) :
    Prop where
  elem : ∀ t a ks, f (.elem t a ks) = (p t a && g ks)
  leaf : ∀ e, f (.leaf e) = l e
  nil : g [] = true
  cons : ∀ n ns, g (n :: ns) = (f n && g ns)
  text : ∀ s x, l (.text s x) = true

variable {p p' : QName → AttrList → Bool} {l l' : Event → Bool} {f f' : Node → Bool} {g g' : List Node → Bool}

theorem Nodewise.append (h : Nodewise p l f g) (a b : List Node) : g (a ++ b) = (g a && g b) := by
  induction a with
  | nil => rw [List.nil_append, h.nil, Bool.true_and]
  | cons n ns ih => rw [List.cons_append, h.cons, h.cons, ih, Bool.and_assoc]

theorem Nodewise.mono (h : Nodewise p l f g) (h' : Nodewise p' l' f' g')
    (hp : ∀ t a, p t a = true → p' t a = true) (hl : ∀ e, l e = true → l' e = true) :
    (∀ n, f n = true → f' n = true) ∧ ∀ ns, g ns = true → g' ns = true := by
  refine node_induction ?_ ?_ ?_ ?_
  · intro t a ks ih hn
    rw [h.elem, Bool.and_eq_true] at hn
    rw [h'.elem, hp t a hn.1, ih hn.2]; rfl
  · intro e hn
    rw [h.leaf] at hn
    rw [h'.leaf]; exact hl e hn
  · intro _; exact h'.nil
  · intro n ns ihn ihs hn
    rw [h.cons, Bool.and_eq_true] at hn
    rw [h'.cons, ihn hn.1, ihs hn.2]; rfl

theorem ok_nodewise : Nodewise (fun _ _ => true) (fun e => !e.isStartEnd) Node.ok okList :=
  ⟨fun _ _ ks => (Bool.true_and (okList ks)).symm, fun _ => rfl, rfl, fun _ _ => rfl, fun _ _ => rfl⟩

end Nodewise

/-- flattened attribute name on the lite domain -/
def fName (q : QName) : Str := if q.ns.isEmpty then q.loc else ['x', 'm', 'l', ':'] ++ q.loc

def fAttrs (a : AttrList) : FAttrs := a.map fun p => (fName p.1, p.2)

def attrNsOk (a : AttrList) : Bool := a.all fun p => p.1.ns.isEmpty || p.1.ns == xmlNs

/-- leaves the filters pass on one-to-one -/
def leafF : Event → Option FEv
  | .text s f => some (.text s f)
  | .comment s => some (.comment s)
  | .pi t d => some (.pi t d)
  | .doctype n p q => some (.doctype n p q)
  | .xmlDecl v e q => some (.xmlDecl v e q)
  | .startCdata => some .startCdata
  | .endCdata => some .endCdata
  | _ => none

mutual
  /-- no element namespace, attribute namespaces none or XML, no namespace events -/
  def nsFree : Node → Bool
    | .elem t a ks => t.ns.isEmpty && attrNsOk a && forestNsFree ks
    | .leaf e => (leafF e).isSome
  def forestNsFree : List Node → Bool
    | [] => true
    | n :: ns => nsFree n && forestNsFree ns
end

def nsOkLeaf (e : Event) : Bool := (leafF e).isSome

theorem nsFree_nodewise : Nodewise (fun t a => t.ns.isEmpty && attrNsOk a) nsOkLeaf nsFree forestNsFree :=
  ⟨fun _ _ _ => rfl, fun _ => rfl, rfl, fun _ _ => rfl, fun _ _ => rfl⟩

mutual
  /-- what reaches the main loop for a tree -/
  def treeF : Node → List FEv
    | .elem t a ks =>
        if ks.isEmpty then [.empty t.loc (fAttrs a)]
        else .start t.loc (fAttrs a) :: (forestF ks ++ [.end_ t.loc])
    | .leaf e => (leafF e).toList
  def forestF : List Node → List FEv
    | [] => []
    | n :: ns => treeF n ++ forestF ns
end

mutual
  /-- every element in namespace `u`, attributes without namespace or in the XML namespace,
      no namespace events -/
  def uniformNs (u : Str) : Node → Bool
    | .elem t a ks => (t.ns == u) && attrNsOk a && forestUniformNs u ks
    | .leaf e => (leafF e).isSome
  def forestUniformNs (u : Str) : List Node → Bool
    | [] => true
    | n :: ns => uniformNs u n && forestUniformNs u ns
end

theorem uniformNs_nodewise (u : Str) :
    Nodewise (fun t a => t.ns == u && attrNsOk a) nsOkLeaf (uniformNs u) (forestUniformNs u) :=
  ⟨fun _ _ _ => rfl, fun _ => rfl, rfl, fun _ _ => rfl, fun _ _ => rfl⟩

/-- the `xmlns` attribute an element outside any declared scope receives -/
def declAttr (u : Str) (inScope : Bool) : FAttrs := if u.isEmpty || inScope then [] else [(xmlns, u)]

mutual
  /-- what reaches the main loop for a tree in namespace `u` -/
  def treeFu (u : Str) (inScope : Bool) : Node → List FEv
    | .elem t a ks =>
        if ks.isEmpty then [.empty t.loc (declAttr u inScope ++ fAttrs a)]
        else .start t.loc (declAttr u inScope ++ fAttrs a) :: (forestFu u true ks ++ [.end_ t.loc])
    | .leaf e => (leafF e).toList
  def forestFu (u : Str) (inScope : Bool) : List Node → List FEv
    | [] => []
    | n :: ns => treeFu u inScope n ++ forestFu u inScope ns
end

/-- the `xmlns` attribute an element of namespace `v` gets below default namespace `cur` -/
def declM (cur v : Str) : FAttrs := if v = cur then [] else [(xmlns, v)]

/-- one namespace is the mixed case at a scope: `u` itself inside a declared scope, none outside -/
theorem declAttr_eq_declM (u : Str) (s : Bool) : declAttr u s = declM (if s then u else []) u := by
  cases s <;> simp [declAttr, declM]

mutual
  /-- no element in the XML namespace, attributes without namespace or in the XML namespace,
      no namespace events -/
  def mixedOk : Node → Bool
    | .elem t a ks => (t.ns != xmlNs) && attrNsOk a && forestMixedOk ks
    | .leaf e => (leafF e).isSome
  def forestMixedOk : List Node → Bool
    | [] => true
    | n :: ns => mixedOk n && forestMixedOk ns
end

theorem mixedOk_nodewise : Nodewise (fun t a => t.ns != xmlNs && attrNsOk a) nsOkLeaf mixedOk forestMixedOk :=
  ⟨fun _ _ _ => rfl, fun _ => rfl, rfl, fun _ _ => rfl, fun _ _ => rfl⟩

mutual
  /-- what reaches the main loop for a tree below default namespace `cur` -/
  def treeFm (cur : Str) : Node → List FEv
    | .elem t a ks =>
        if ks.isEmpty then [.empty t.loc (declM cur t.ns ++ fAttrs a)]
        else .start t.loc (declM cur t.ns ++ fAttrs a) :: (forestFm t.ns ks ++ [.end_ t.loc])
    | .leaf e => (leafF e).toList
  def forestFm (cur : Str) : List Node → List FEv
    | [] => []
    | n :: ns => treeFm cur n ++ forestFm cur ns
end

theorem uniform_mixed (u : Str) (hu : u ≠ xmlNs) :
    (∀ n : Node, uniformNs u n = true → mixedOk n = true) ∧
    ∀ ns : List Node, forestUniformNs u ns = true → forestMixedOk ns = true := by
  refine (uniformNs_nodewise u).mono mixedOk_nodewise (fun t a h => ?_) fun _ h => h
  rw [Bool.and_eq_true, beq_iff_eq] at h
  rw [Bool.and_eq_true, bne_iff_ne, h.1]; exact ⟨hu, h.2⟩

theorem mixedOk_of_uniform (u : Str) (hu : u ≠ xmlNs) : ∀ n : Node, uniformNs u n = true → mixedOk n = true :=
  (uniform_mixed u hu).1

theorem forestMixedOk_of_uniform (u : Str) (hu : u ≠ xmlNs) : ∀ ns : List Node,
    forestUniformNs u ns = true → forestMixedOk ns = true :=
  (uniform_mixed u hu).2

theorem treeFm_uniform (u : Str) :
    (∀ n, uniformNs u n = true → ∀ cur s, declM cur u = declAttr u s → treeFm cur n = treeFu u s n) ∧
    ∀ ns, forestUniformNs u ns = true → ∀ cur s, declM cur u = declAttr u s → forestFm cur ns = forestFu u s ns := by
  have hin : declM u u = declAttr u true := by simp [declM, declAttr]
  refine node_induction ?_ ?_ ?_ ?_
  · intro t a ks ih h cur s hd
    simp only [uniformNs, Bool.and_eq_true, beq_iff_eq] at h
    simp only [treeFm, treeFu, h.1.1, hd, ih h.2 u true hin]
  · intro e _ cur s _; rfl
  · intro _ cur s _; rfl
  · intro n ns ihn ihs h cur s hd
    simp only [forestUniformNs, Bool.and_eq_true] at h
    simp only [forestFm, forestFu, ihn h.1 cur s hd, ihs h.2 cur s hd]

theorem forestFu_append (u : Str) (s : Bool) (a b : List Node) :
    forestFu u s (a ++ b) = forestFu u s a ++ forestFu u s b := by
  induction a with
  | nil => simp [forestFu]
  | cons n ns ih => simp [forestFu, ih]

theorem forestUniformNs_append (u : Str) (a b : List Node) :
    forestUniformNs u (a ++ b) = (forestUniformNs u a && forestUniformNs u b) :=
  (uniformNs_nodewise u).append a b

theorem forestMixedOk_app_dup (a b : List Node) :
    forestMixedOk (a ++ b) = (forestMixedOk a && forestMixedOk b) :=
  mixedOk_nodewise.append a b

theorem forestFm_append (cur : Str) (a b : List Node) : forestFm cur (a ++ b) = forestFm cur a ++ forestFm cur b := by
  induction a with
  | nil => simp [forestFm]
  | cons n ns ih => simp [forestFm, ih]

/-! ### how a forest reaches the main loop

  The two flattenings (`forestFu u s`: one namespace; `forestFm cur`: mixed namespaces) enter the
  proofs about what is written for a forest and what is read back only through these equations;
  `p` is what an element hands down to its children. -/

structure Rend (P : Type) where
  F : P → List Node → List FEv
  child : P → QName → P
  attrs : P → QName → AttrList → FAttrs
  nil : ∀ p, F p [] = []
  app : ∀ p a b, F p (a ++ b) = F p a ++ F p b
  leaf : ∀ p e, F p [.leaf e] = (leafF e).toList
  empty : ∀ p t a, F p [.elem t a []] = [.empty t.loc (attrs p t a)]
  elem : ∀ p t a X, X.isEmpty = false →
    F p [.elem t a X] = [.start t.loc (attrs p t a)] ++ (F (child p t) X ++ [.end_ t.loc])

def rendU : Rend (Str × Bool) where
  F p := forestFu p.1 p.2
  child p _ := (p.1, true)
  attrs p _ a := declAttr p.1 p.2 ++ fAttrs a
  nil _ := rfl
  app p := forestFu_append p.1 p.2
  leaf p e := by simp [forestFu, treeFu]
  empty p t a := by simp [forestFu, treeFu]
  elem p t a X hX := by simp [forestFu, treeFu, hX]

/-- the parameter is the default namespace in scope -/
def rendM : Rend Str where
  F := forestFm
  child _ t := t.ns
  attrs cur t a := declM cur t.ns ++ fAttrs a
  nil _ := rfl
  app := forestFm_append
  leaf cur e := by simp [forestFm, treeFm]
  empty cur t a := by simp [forestFm, treeFm]
  elem cur t a X hX := by simp [forestFm, treeFm, hX]

theorem rendU_tree (u : Str) (s : Bool) (n : Node) : rendU.F (u, s) [n] = treeFu u s n := List.append_nil _

theorem rendM_tree (cur : Str) (n : Node) : rendM.F cur [n] = treeFm cur n := List.append_nil _

theorem Rend.cons {P : Type} (R : Rend P) (p : P) (n : Node) (X : List Node) : R.F p (n :: X) = R.F p [n] ++ R.F p X :=
  R.app p [n] X

theorem Rend.elem_eq {P : Type} (R : Rend P) (p : P) (t : QName) (a : AttrList) (ks : List Node) :
    R.F p [.elem t a ks] = if ks.isEmpty then [.empty t.loc (R.attrs p t a)]
      else .start t.loc (R.attrs p t a) :: (R.F (R.child p t) ks ++ [.end_ t.loc]) := by
  cases ks with
  | nil => exact R.empty p t a
  | cons k ks' => exact R.elem p t a _ rfl

/-- the renderer writes an element's own attributes, with at most an `xmlns` declaration in front -/
def Rend.Decl {P : Type} (R : Rend P) : Prop :=
  ∀ p t a, R.attrs p t a = fAttrs a ∨ ∃ v, R.attrs p t a = (xmlns, v) :: fAttrs a

theorem rendM_decl : rendM.Decl := fun cur t a => by
  show declM cur t.ns ++ fAttrs a = _ ∨ ∃ v, declM cur t.ns ++ fAttrs a = _
  unfold declM
  split
  · exact .inl rfl
  · exact .inr ⟨_, rfl⟩

theorem rendU_decl : rendU.Decl := fun p _ a => by
  show declAttr p.1 p.2 ++ fAttrs a = _ ∨ ∃ v, declAttr p.1 p.2 ++ fAttrs a = _
  rw [declAttr_eq_declM]; exact rendM_decl _ ⟨p.1, []⟩ a

theorem treeFu_nil : (∀ n s, treeFu [] s n = treeF n) ∧ ∀ ns s, forestFu [] s ns = forestF ns := by
  refine node_induction ?_ ?_ ?_ ?_
  · intro t a ks ih s
    simp only [treeFu, treeF, ih true, show declAttr [] s = [] from rfl, List.nil_append]
  · intro e s; rfl
  · intro s; rfl
  · intro n ns ihn ihs s; simp only [forestFu, forestF, ihn s, ihs s]

theorem uniformNs_nil : (∀ n, nsFree n = true → uniformNs [] n = true) ∧
    ∀ ns, forestNsFree ns = true → forestUniformNs [] ns = true := by
  refine nsFree_nodewise.mono (uniformNs_nodewise []) (fun t a h => ?_) fun _ h => h
  rw [Bool.and_eq_true, List.isEmpty_iff] at h
  rw [h.1, h.2]; rfl

/-! ### documents

  A whole document = prolog (optional XML declaration, optional DOCTYPE) + body forest, serialised
  with or without a doctype option: what the filter chain hands to the main loop. -/

abbrev DeclT := Str × Option Str × Int

def declF : Option DeclT → List FEv
  | some x => [.xmlDecl x.1 x.2.1 x.2.2]
  | none => []

def dtF : Option DocTypeT → List FEv
  | some x => [.doctype x.1 x.2.1 x.2.2]
  | none => []

def declN : Option DeclT → List Node
  | some x => [.leaf (.xmlDecl x.1 x.2.1 x.2.2)]
  | none => []

def dtN : Option DocTypeT → List Node
  | some x => [.leaf (.doctype x.1 x.2.1 x.2.2)]
  | none => []

/-- a document: XML declaration, DOCTYPE, body -/
def docNodes (decl : Option DeclT) (dt : Option DocTypeT) (body : List Node) : List Node :=
  declN decl ++ (dtN dt ++ body)

/-- the DOCTYPE that is written: the option if given, else the one of the stream -/
def winDt (dopt dt : Option DocTypeT) : Option DocTypeT :=
  match dopt with
  | some x => some x
  | none => dt

/-- every renderer passes the prolog leaves on as events -/
theorem Rend.doc {P : Type} (R : Rend P) (p : P) (decl : Option DeclT) (dt : Option DocTypeT) (body : List Node) :
    R.F p (docNodes decl dt body) = declF decl ++ (dtF dt ++ R.F p body) := by
  rw [docNodes, R.app, R.app]
  cases decl <;> cases dt <;> simp [declN, dtN, declF, dtF, R.nil, R.leaf, leafF]

theorem forestFu_doc (u : Str) (s : Bool) (decl : Option DeclT) (dt : Option DocTypeT) (body : List Node) :
    forestFu u s (docNodes decl dt body) = declF decl ++ (dtF dt ++ forestFu u s body) :=
  rendU.doc (u, s) decl dt body

theorem okList_doc (decl : Option DeclT) (dt : Option DocTypeT) (body : List Node) (h : okList body = true) :
    okList (docNodes decl dt body) = true := by
  simp only [docNodes, okList_append, h, Bool.and_true]
  cases decl <;> cases dt <;> simp [declN, dtN, okList, Node.ok, Event.isStartEnd]

theorem uniformNs_doc (u : Str) (decl : Option DeclT) (dt : Option DocTypeT) (body : List Node)
    (h : forestUniformNs u body = true) : forestUniformNs u (docNodes decl dt body) = true := by
  simp only [docNodes, forestUniformNs_append, h, Bool.and_true]
  cases decl <;> cases dt <;> simp [declN, dtN, forestUniformNs, uniformNs, leafF]

def notXdHead : List FEv → Bool
  | .xmlDecl _ _ _ :: _ => false
  | _ => true

theorem docTypeInsert_notXd (d : DocTypeT) (fs : List FEv) (h : notXdHead fs = true) :
    docTypeInsert d fs = .doctype d.1 d.2.1 d.2.2 :: fs := by
  cases fs with
  | nil => rfl
  | cons ev rest => cases ev <;> simp_all [docTypeInsert, notXdHead]

/-- `DocTypeInserter` on a document: the option's DOCTYPE goes behind the XML declaration and in
    front of the stream's own DOCTYPE -/
theorem withDoctype_doc (dopt dt : Option DocTypeT) (decl : Option DeclT) (B : List FEv) (hB : notXdHead B = true) :
    withDoctype dopt (declF decl ++ (dtF dt ++ B)) = declF decl ++ (dtF dopt ++ (dtF dt ++ B)) := by
  cases dopt with
  | none => simp [withDoctype, dtF]
  | some x =>
    cases decl with
    | some y => simp [withDoctype, declF, dtF, docTypeInsert]
    | none =>
      cases dt with
      | some z => simp [withDoctype, declF, dtF, docTypeInsert]
      | none => simp [withDoctype, declF, dtF, docTypeInsert_notXd x B hB]

end Genshi.Output
