/-
  Helper lemmas for C09: the repaired main loops on events whose attribute values
  may be Markup instances (`Model/OutputMarkupAttr.lean`): the cache invariant is
  kept (a start tag holding a Markup value never touches the cache), so the output
  is the concatenation of a context-free `emitT` for both cache settings.
-/
import Genshi.Model.OutputMarkupAttr
import Genshi.Lemmas.Output
namespace Genshi.Output
open Genshi Genshi.Escape

/-- the context-free meaning of a typed event -/
def emitT (m : Method) (o : Opts) (c : Ctx) (e : TEv) : List Str :=
  if e.hasMarkup then e.fresh m (emit m o c e.key) else emit m o c e.key

def serSpecT (m : Method) (o : Opts) : Ctx → List TEv → List Str
  | _, [] => []
  | c, e :: rest => emitT m o c e ++ serSpecT m o (ctxAfter m o c e.key) rest

theorem stepT_spec (m : Method) (o : Opts) (b : Bool) (st : LoopSt) (e : TEv) (h : CacheOk m o st.cache) :
    (stepT m o b st e).2 = emitT m o (ctxOf st) e ∧
    ctxOf (stepT m o b st e).1 = ctxAfter m o (ctxOf st) e.key ∧
    CacheOk m o (stepT m o b st e).1.cache := by
  have hn := step_nocache m o st e.key
  by_cases hm : e.hasMarkup = true
  · simp only [stepT, hm, ↓reduceIte, emitT]
    refine ⟨by rw [hn.1], hn.2.1, by rw [hn.2.2]; exact h⟩
  · have hm' : e.hasMarkup = false := by simpa using hm
    simp only [stepT, hm', Bool.false_eq_true, ↓reduceIte, emitT]
    cases b with
    | false => exact ⟨hn.1, hn.2.1, by rw [hn.2.2]; exact h⟩
    | true => exact step_cache m o st e.key h

theorem loopT_eq_spec (m : Method) (o : Opts) (b : Bool) (evs : List TEv) :
    ∀ st : LoopSt, CacheOk m o st.cache → loopT m o b st evs = serSpecT m o (ctxOf st) evs := by
  induction evs with
  | nil => intro st _; rfl
  | cons e rest ih =>
    intro st h
    have hs := stepT_spec m o b st e h
    simp only [loopT, serSpecT]
    rw [hs.1, ih _ hs.2.2, hs.2.1]

theorem escAttr_plain (v : Str) : escAttr v false = escapePy true v := if_neg Bool.false_ne_true

theorem flatMap_plainAttrs (f : Str × Str × Bool → Str) (g : Str × Str → Str)
    (hfg : ∀ n v, f (n, v, false) = g (n, v)) (l : MAttrs) (hl : ∀ p ∈ l, p.2.2 = false) :
    l.flatMap f = (plainAttrs l).flatMap g := by
  induction l with
  | nil => rfl
  | cons p ps ih =>
    obtain ⟨n, v, b⟩ := p
    have hb : b = false := hl (n, v, b) (by simp)
    subst hb
    simp only [plainAttrs, List.map_cons, List.flatMap_cons, hfg]
    rw [ih fun q hq => hl q (by simp [hq])]; rfl

theorem attrOutM_plain (n v : Str) : attrOutM n v false = attrOut n v := by
  rw [attrOutM, escAttr_plain, attrOut]

theorem startOutM_plain (m : Method) (ie : Bool) (t : Str) (a : MAttrs) (h : ∀ p ∈ a, p.2.2 = false) :
    startOutM m ie t a = startOut m ie t (plainAttrs a) := by
  cases m
  · simp only [startOutM, startOut, xmlAttrsM, xmlAttrs]
    rw [flatMap_plainAttrs _ (fun p => attrOut p.1 p.2) attrOutM_plain a h]
  · simp only [startOutM, startOut, xhtmlAttrsM, xhtmlAttrs]
    rw [flatMap_plainAttrs _ (xhtmlAttr (plainAttrs a))
      (fun _ _ => by simp only [xhtmlAttrM, xhtmlAttr, attrOutM_plain]) a h]
  · simp only [startOutM, startOut, htmlAttrsM, htmlAttrs]
    rw [flatMap_plainAttrs _ (htmlAttr (plainAttrs a))
      (fun _ _ => by simp only [htmlAttrM, htmlAttr, attrOutM_plain]) a h]

theorem loopT_noMarkup (m : Method) (o : Opts) (b : Bool) (evs : List TEv) :
    ∀ st : LoopSt, (∀ e ∈ evs, e.hasMarkup = false) →
      loopT m o b st evs = loop m o b st (evs.map TEv.key) := by
  induction evs with
  | nil => intro st _; rfl
  | cons e rest ih =>
    intro st h
    have he := h e List.mem_cons_self
    simp only [List.map_cons, loopT, loop, stepT, he, Bool.false_eq_true, ↓reduceIte]
    rw [ih _ (fun e' he' => h e' (List.mem_cons_of_mem _ he'))]

theorem loopT_ev (m : Method) (o : Opts) (b : Bool) (evs : List FEv) (st : LoopSt) :
    loopT m o b st (evs.map TEv.ev) = loop m o b st evs := by
  rw [loopT_noMarkup m o b _ st fun e he => by obtain ⟨x, _, rfl⟩ := List.mem_map.1 he; rfl, List.map_map,
    show TEv.key ∘ TEv.ev = id from rfl, List.map_id]

end Genshi.Output
