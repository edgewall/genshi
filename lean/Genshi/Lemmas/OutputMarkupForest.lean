/-
  Helper lemmas for C08: Markup (pre-escaped) text LEAVES of a forest.  `plainF m raw ns` replaces
  every Markup text leaf by the plain text leaf that is written the same way (its `unescape`; inside
  script / style under html the text itself); on the domain `mkDom` (a Markup leaf outside raw
  context is the escape of some string: `ProperEsc`; script / style hold only text; no CDATA
  markers) the serializers write the same for both forests (`mkR`, for any flattening `Rend`), with
  or without a doctype option.  Forest-level counterpart of `serSpec_desafe` (Lemmas/OutputSafeText);
  the whitespace filter's forest is of this kind (Lemmas/OutputWsRender).
-/
import Genshi.Lemmas.OutputWsSpec
namespace Genshi.Output
open Genshi Genshi.Escape

mutual
  def plainT (m : Method) (raw : Bool) : Node → Node
    | .elem t a ks => .elem t a (plainF m (rawOf m t) ks)
    | .leaf e =>
        match e with
        | .text s f => .leaf (.text (if f && !raw then unescape s else s) false)
        | e => .leaf e
  def plainF (m : Method) (raw : Bool) : List Node → List Node
    | [] => []
    | n :: ns => plainT m raw n :: plainF m raw ns
end

mutual
  def mkDomT (m : Method) (rawP : Bool) : Node → Bool
    | .elem t _ ks => !rawP && mkDomF m (rawOf m t) ks
    | .leaf e =>
        match e with
        | .text s f => if f && !rawP then decide (ProperEsc s) else true
        | .comment _ => !rawP
        | .pi _ _ => !rawP
        | .doctype _ _ _ => !rawP
        | .xmlDecl _ _ _ => !rawP
        | _ => false
  def mkDomF (m : Method) (rawP : Bool) : List Node → Bool
    | [] => true
    | n :: ns => mkDomT m rawP n && mkDomF m rawP ns
end

/-- the forests with Markup text leaves the theorems are about -/
def mkDom (m : Method) (ns : List Node) : Bool := mkDomF m false ns

theorem plainF_doc (m : Method) (decl : Option DeclT) (dt : Option DocTypeT) (body : List Node) :
    plainF m false (docNodes decl dt body) = docNodes decl dt (plainF m false body) := by
  cases decl <;> cases dt <;> simp [docNodes, declN, dtN, plainF, plainT]

theorem mkDom_doc (m : Method) (decl : Option DeclT) (dt : Option DocTypeT) (body : List Node)
    (h : mkDom m body = true) : mkDom m (docNodes decl dt body) = true := by
  cases decl <;> cases dt <;> simpa [docNodes, declN, dtN, mkDom, mkDomF, mkDomT] using h

/-- written alike from every context with the right raw flag, and the flag is the same afterwards -/
structure MkOut (m : Method) (o : Opts) (u : Str) (s : Bool) (c : Ctx) (rawP : Bool) (X Y : List Node) : Prop where
  out : OutEq m o u s c X Y
  raw : (wsCtxEnd m o c (forestFu u s X)).raw = rawP

theorem plainF_isEmpty (m : Method) (raw : Bool) (ns : List Node) : (plainF m raw ns).isEmpty = ns.isEmpty := by
  cases ns <;> simp [plainF]

theorem plainF_append (m : Method) (r : Bool) (a b : List Node) :
    plainF m r (a ++ b) = plainF m r a ++ plainF m r b := by
  induction a with
  | nil => rfl
  | cons n ns ih => rw [List.cons_append, plainF, plainF, ih, List.cons_append]

/-- a Markup text leaf that is a proper escape is written like the plain leaf of its `unescape`
    (inside script / style: of the text itself); everything else is the same on both sides -/
theorem mkR {P : Type} (m : Method) (o : Opts) (R : Rend P) :
    (∀ (n : Node) (rawP : Bool) (c : Ctx) (p : P), c.raw = rawP → mkDomT m rawP n = true →
      OutEqR m o R p c [n] [plainT m rawP n] ∧ (wsCtxEnd m o c (R.F p [n])).raw = rawP) ∧
    ∀ (ns : List Node) (rawP : Bool) (c : Ctx) (p : P), c.raw = rawP → mkDomF m rawP ns = true →
      OutEqR m o R p c ns (plainF m rawP ns) ∧ (wsCtxEnd m o c (R.F p ns)).raw = rawP := by
  refine node_induction ?_ ?_ ?_ ?_
  · intro t a ks ih rawP c p hc hd
    simp only [mkDomT, Bool.and_eq_true, Bool.not_eq_true'] at hd
    obtain ⟨hr, hk⟩ := hd
    subst hr
    cases ks with
    | nil => exact ⟨⟨rfl, rfl⟩, by rw [R.empty]; exact hc⟩
    | cons k ks' =>
      have hc1 : (ctxAfter m o c (.start t.loc (R.attrs p t a))).raw = rawOf m t := by
        simp only [ctxAfter, rawOf]
        cases decide (m = .html) && inTable (noescapeElems .html) t.loc with
        | true => rfl
        | false => exact hc
      have h := ih (rawOf m t) _ (R.child p t) hc1 hk
      exact outEqR_elem m o R p c t a (k :: ks') (plainF m (rawOf m t) (k :: ks')) rfl rfl h.1 h.2
  · intro e rawP c p hc hd
    cases e with
    | text x f =>
      have hpl : plainT m rawP (.leaf (.text x f)) = .leaf (.text (if f && !rawP then unescape x else x) false) := rfl
      rw [hpl]
      refine ⟨⟨?_, by rw [R.leaf, R.leaf]; rfl⟩, by rw [R.leaf]; exact hc⟩
      rw [R.leaf, R.leaf]
      cases f with
      | false => rfl
      | true =>
        cases rawP with
        | true => simp only [leafF, Option.toList_some, serSpec, emit, hc, Bool.not_true, Bool.and_false,
            Bool.false_eq_true, ↓reduceIte]
        | false =>
          have hp : ProperEsc x := by simpa [mkDomT] using hd
          simp only [Bool.true_and, Bool.not_false, ↓reduceIte, leafF, Option.toList_some, serSpec, emit, hc,
            Bool.false_eq_true]
          rw [hp]
    | xmlDecl v e s =>
      refine ⟨⟨rfl, rfl⟩, ?_⟩
      rw [R.leaf]
      simp only [leafF, Option.toList_some, wsCtxEnd, List.foldl_cons, List.foldl_nil, ctxAfter]
      split <;> exact hc
    | comment x => exact ⟨⟨rfl, rfl⟩, by rw [R.leaf]; exact hc⟩
    | pi x y => exact ⟨⟨rfl, rfl⟩, by rw [R.leaf]; exact hc⟩
    | doctype x y z => exact ⟨⟨rfl, rfl⟩, by rw [R.leaf]; exact hc⟩
    | _ => cases hd
  · intro rawP c p hc _; exact ⟨⟨rfl, rfl⟩, by rw [R.nil]; exact hc⟩
  · intro n ns ihn ihs rawP c p hc hd
    simp only [mkDomF, Bool.and_eq_true] at hd
    have h1 := ihn rawP c p hc hd.1
    have h2 := ihs rawP _ p h1.2 hd.2
    exact ⟨OutEqR.append (X := [n]) (Y := [plainT m rawP n]) h1.1 h2.1,
      by rw [R.cons, wsf_ctxEnd_append]; exact h2.2⟩


theorem mkDomF_append (m : Method) (r : Bool) (a b : List Node) :
    mkDomF m r (a ++ b) = (mkDomF m r a && mkDomF m r b) := by
  induction a with
  | nil => rfl
  | cons n ns ih => rw [List.cons_append, mkDomF, mkDomF, ih, Bool.and_assoc]

theorem mk_tree (m : Method) (o : Opts) (u : Str) : ∀ (n : Node) (rawP : Bool) (c : Ctx) (s : Bool),
    c.raw = rawP → mkDomT m rawP n = true → MkOut m o u s c rawP [n] [plainT m rawP n] :=
  fun n rawP c s hc hd => have x := (mkR m o rendU).1 n rawP c (u, s) hc hd; ⟨x.1, x.2⟩

theorem mk_forest (m : Method) (o : Opts) (u : Str) : ∀ (ns : List Node) (rawP : Bool) (c : Ctx) (s : Bool),
    c.raw = rawP → mkDomF m rawP ns = true → MkOut m o u s c rawP ns (plainF m rawP ns) :=
  fun ns rawP c s hc hd => have x := (mkR m o rendU).2 ns rawP c (u, s) hc hd; ⟨x.1, x.2⟩

/-- Markup leaves made plain: the same forest up to its text leaves -/
theorem Nodewise.plain {p : QName → AttrList → Bool} {l : Event → Bool} {f : Node → Bool} {g : List Node → Bool}
    (h : Nodewise p l f g) (m : Method) :
    (∀ n r, f (plainT m r n) = f n) ∧ ∀ ns r, g (plainF m r ns) = g ns := by
  refine node_induction ?_ ?_ ?_ ?_
  · intro t a ks ih r; rw [plainT, h.elem, h.elem, ih]
  · intro e r
    cases e with
    | text s x => rw [plainT, h.leaf, h.leaf, h.text, h.text]
    | _ => rfl
  · intro r; rfl
  · intro n ns ihn ihs r; rw [plainF, h.cons, h.cons, ihn, ihs]

theorem ok_plainT (m : Method) : ∀ (n : Node) (r : Bool), (plainT m r n).ok = n.ok := (ok_nodewise.plain m).1

theorem okList_plainF (m : Method) : ∀ (ns : List Node) (r : Bool), okList (plainF m r ns) = okList ns :=
  (ok_nodewise.plain m).2

theorem uniformNs_plainT (u : Str) (m : Method) : ∀ (n : Node) (r : Bool),
    uniformNs u (plainT m r n) = uniformNs u n :=
  ((uniformNs_nodewise u).plain m).1

theorem uniformNs_plainF (u : Str) (m : Method) : ∀ (ns : List Node) (r : Bool),
    forestUniformNs u (plainF m r ns) = forestUniformNs u ns :=
  ((uniformNs_nodewise u).plain m).2

/-- the first node is an element or a text / comment / PI / DOCTYPE leaf (or there is none) -/
def goodHead : List Node → Bool
  | [] => true
  | .elem _ _ _ :: _ => true
  | .leaf (.text _ _) :: _ => true
  | .leaf (.comment _) :: _ => true
  | .leaf (.pi _ _) :: _ => true
  | .leaf (.doctype _ _ _) :: _ => true
  | _ => false

theorem notXdHeadR_goodHead {P : Type} (R : Rend P) (p : P) (X : List Node) (h : goodHead X = true) :
    notXdHead (R.F p X) = true := by
  cases X with
  | nil => rw [R.nil]; rfl
  | cons n rest =>
    rw [R.cons]
    cases n with
    | elem t a ks =>
      cases ks with
      | nil => rw [R.empty]; rfl
      | cons k ks' => rw [R.elem p t a _ rfl]; rfl
    | leaf e => rw [R.leaf]; cases e <;> first | rfl | cases h

theorem goodHead_mkDom (m : Method) (n : Node) (rest rest' : List Node) (hd : mkDomT m false n = true)
    (hx : ∀ v e s, n ≠ .leaf (.xmlDecl v e s)) :
    goodHead (n :: rest) = true ∧ goodHead (plainT m false n :: rest') = true := by
  cases n with
  | elem t a ks => simp [goodHead, plainT]
  | leaf e =>
    cases e <;> first
      | exact absurd rfl (hx _ _ _)
      | (simp [mkDomT] at hd; done)
      | simp [goodHead, plainT]

/-- with a doctype option: `DocTypeInserter` looks at the first event only, and that is the same kind
    on both sides -/
theorem serSpecR_mk_dt_eq {P : Type} (m : Method) (o : Opts) (R : Rend P) (p : P) (dopt : Option DocTypeT)
    (ns : List Node) (hd : mkDom m ns = true) :
    serSpec m o {} (withDoctype dopt (R.F p ns)) = serSpec m o {} (withDoctype dopt (R.F p (plainF m false ns))) := by
  cases dopt with
  | none => exact ((mkR m o R).2 ns false {} p rfl hd).1.1
  | some d =>
    simp only [withDoctype]
    cases ns with
    | nil => rfl
    | cons n rest =>
      have hd2 : mkDomT m false n = true ∧ mkDomF m false rest = true := by
        simpa [mkDom, mkDomF] using hd
      have hpl : plainF m false (n :: rest) = plainT m false n :: plainF m false rest := rfl
      by_cases hx : ∃ v e s, n = .leaf (.xmlDecl v e s)
      · obtain ⟨v, e, s, rfl⟩ := hx
        rw [hpl, show plainT m false (.leaf (.xmlDecl v e s)) = .leaf (.xmlDecl v e s) from rfl, R.cons,
          R.cons p _ (plainF m false rest), R.leaf]
        simp only [leafF, Option.toList_some, List.singleton_append, docTypeInsert, serSpec]
        rw [((mkR m o R).2 rest false _ p (by simp only [ctxAfter]; split <;> rfl) hd2.2).1.1]
      · have hx' : ∀ v e s, n ≠ .leaf (.xmlDecl v e s) := fun v e s h => hx ⟨v, e, s, h⟩
        have hg := goodHead_mkDom m n rest (plainF m false rest) hd2.1 hx'
        rw [docTypeInsert_notXd d _ (notXdHeadR_goodHead R p _ hg.1), hpl,
          docTypeInsert_notXd d _ (notXdHeadR_goodHead R p _ hg.2)]
        simp only [serSpec]
        rw [← hpl, ((mkR m o R).2 (n :: rest) false _ p rfl hd).1.1]

theorem serSpec_mk_dt_eq (m : Method) (o : Opts) (u : Str) (dopt : Option DocTypeT) (ns : List Node)
    (hd : mkDom m ns = true) :
    serSpec m o {} (withDoctype dopt (forestFu u false ns)) =
      serSpec m o {} (withDoctype dopt (forestFu u false (plainF m false ns))) :=
  serSpecR_mk_dt_eq m o rendU (u, false) dopt ns hd

end Genshi.Output
