/-
  Helper lemmas for C08: the serializers write no carriage return unless the
  stream holds one (so expat's line-end normalisation is the identity on the
  output: `readXml ∘ render` is `xmlView ∘ tokens ∘ render`).
-/
import Genshi.Lemmas.Escape
import Genshi.Lemmas.OutputForest
namespace Genshi.Output
open Genshi Genshi.Escape

def ncr (s : Str) : Bool := s.all (· != '\r')

def oncr : Option Str → Bool
  | some s => ncr s
  | none => true

theorem ncr_append (a b : Str) : ncr (a ++ b) = (ncr a && ncr b) := by simp [ncr, List.all_append]

theorem ncr_cons (c : Char) (s : Str) : ncr (c :: s) = ((c != '\r') && ncr s) := by simp [ncr]

theorem ncr_flatMap {α : Type} (l : List α) (f : α → Str) (h : ∀ x ∈ l, ncr (f x) = true) : ncr (l.flatMap f) = true := by
  induction l with
  | nil => rfl
  | cons x xs ih =>
    simp only [List.flatMap_cons, ncr_append, Bool.and_eq_true]
    exact ⟨h x (by simp), ih (fun y hy => h y (by simp [hy]))⟩

theorem ncr_escape (q : Bool) (s : Str) (h : ncr s = true) : ncr (escapePy q s) = true := by
  rw [escapePy_eq_spec]
  exact List.all_eq_true.mpr (forall_mem_escapeSpec q s (List.all_eq_true.mp h) (by decide))

theorem ncr_attrOut (n v : Str) (hn : ncr n = true) (hv : ncr v = true) : ncr (attrOut n v) = true := by
  simp only [attrOut, ncr_append, ncr_cons, hn, ncr_escape true v hv, Bool.and_eq_true]
  decide

def attrsNcr (a : FAttrs) : Bool := a.all fun p => ncr p.1 && ncr p.2

theorem ncr_lang : ncr lang = true := by decide

theorem ncr_ite {c : Prop} [Decidable c] {a b : Str} (ha : ncr a = true) (hb : ncr b = true) :
    ncr (if c then a else b) = true := by
  split <;> assumption

theorem ncr_startOut (m : Method) (ie : Bool) (t : Str) (a : FAttrs) (ht : ncr t = true) (ha : attrsNcr a = true) :
    ncr (startOut m ie t a) = true := by
  have hp : ∀ p ∈ a, ncr p.1 = true ∧ ncr p.2 = true := by
    intro p hp
    simpa using List.all_eq_true.mp ha p hp
  have hend : ncr (endTag t) = true := by
    simp only [endTag, ncr_append, ht, Bool.and_eq_true]; decide
  have hattr : ∀ p ∈ a, ncr (attrOut p.1 p.2) = true := fun p h => ncr_attrOut _ _ (hp p h).1 (hp p h).2
  cases m
  · have hx : ncr (xmlAttrs a) = true := ncr_flatMap _ _ hattr
    have h2 : ncr (if ie then ['/', '>'] else ['>']) = true := ncr_ite rfl rfl
    simp only [startOut, ncr_cons, ncr_append, ht, hx, h2, Bool.and_true]; rfl
  · have hxh : ncr (xhtmlAttrs a) = true := by
      refine ncr_flatMap _ _ fun p h => ?_
      unfold xhtmlAttr
      refine ncr_ite (ncr_attrOut _ _ (hp p h).1 (hp p h).1) (ncr_ite ?_ (ncr_ite rfl (hattr p h)))
      rw [ncr_append, ncr_attrOut _ _ ncr_lang (hp p h).2, hattr p h]; rfl
    have h2 : ncr (if ie then (if inTable (emptyElems .xhtml) t then [' ', '/', '>'] else '>' :: endTag t)
        else ['>']) = true := ncr_ite (ncr_ite rfl (by rw [ncr_cons, hend]; rfl)) rfl
    simp only [startOut, ncr_cons, ncr_append, ht, hxh, h2, Bool.and_true]; rfl
  · have hh : ncr (htmlAttrs a) = true := by
      refine ncr_flatMap _ _ fun p h => ?_
      unfold htmlAttr
      exact ncr_ite (ncr_ite rfl (by rw [ncr_cons, (hp p h).1]; rfl))
        (ncr_ite (ncr_ite (ncr_attrOut _ _ ncr_lang (hp p h).2) rfl) (ncr_ite (hattr p h) rfl))
    have h2 : ncr (if ie && !inTable (emptyElems .html) t then endTag t else []) = true := ncr_ite hend rfl
    simp only [startOut, ncr_cons, ncr_append, ht, hh, h2, Bool.and_true]
    decide

/-- no carriage return in any string of the event -/
def evNcr : FEv → Bool
  | .start t a => ncr t && attrsNcr a
  | .empty t a => ncr t && attrsNcr a
  | .end_ t => ncr t
  | .text s _ => ncr s
  | .comment s => ncr s
  | .pi t d => ncr t && ncr d
  | .doctype n p s => ncr n && oncr p && oncr s
  | .xmlDecl v e _ => ncr v && oncr e
  | _ => true

theorem ncr_getD (x : Option Str) (h : oncr x = true) : ncr (x.getD []) = true := by
  cases x with
  | none => rfl
  | some s => exact h

theorem ncr_doctypeOut (n : Str) (p s : Option Str) (hn : ncr n = true) (hp : oncr p = true) (hs : oncr s = true) :
    ncr (doctypeOut n p s) = true := by
  have h1 := ncr_getD p hp
  have h2 := ncr_getD s hs
  simp only [doctypeOut, ncr_append, hn, Bool.and_eq_true]
  refine ⟨⟨⟨⟨by decide, trivial⟩, ncr_ite ?_ (ncr_ite rfl rfl)⟩, ncr_ite (ncr_ite ?_ ?_) rfl⟩, by decide⟩
  · rw [ncr_append, ncr_append, h1]; rfl
  · rw [ncr_append, ncr_append, h2]; rfl
  · rw [ncr_append, ncr_append, h2]; rfl

theorem ncr_xmlDeclOut (v : Str) (e : Option Str) (s : Int) (hv : ncr v = true) (he : oncr e = true) :
    ncr (xmlDeclOut v e s) = true := by
  have h1 := ncr_getD e he
  simp only [xmlDeclOut, ncr_append, hv, Bool.and_eq_true]
  refine ⟨⟨⟨⟨⟨by decide, trivial⟩, by decide⟩, ncr_ite ?_ rfl⟩, ncr_ite ?_ rfl⟩, by decide⟩
  · rw [ncr_append, ncr_append, h1]; rfl
  · rw [ncr_append, ncr_append, ncr_ite (c := (s != 0) = true) rfl rfl]; rfl

theorem emit_ncr (m : Method) (o : Opts) (c : Ctx) (ev : FEv) (h : evNcr ev = true) :
    ncr (emit m o c ev).flatten = true := by
  have one : ∀ x : Str, ncr x = true → ncr [x].flatten = true := fun x hx => by
    rw [List.flatten_cons, List.flatten_nil, List.append_nil]; exact hx
  have pick : ∀ (p : Prop) [Decidable p] (a b : List Str), ncr a.flatten = true → ncr b.flatten = true →
      ncr (if p then a else b).flatten = true := fun p _ a b ha hb => by split <;> assumption
  cases ev with
  | start t a => rw [evNcr, Bool.and_eq_true] at h; exact one _ (ncr_startOut m false t a h.1 h.2)
  | empty t a => rw [evNcr, Bool.and_eq_true] at h; exact one _ (ncr_startOut m true t a h.1 h.2)
  | end_ t => exact one _ (by simp only [endTag, ncr_append, show ncr t = true from h, Bool.and_eq_true]; decide)
  | text x f =>
    cases f with
    | true => exact one _ h
    | false => exact pick _ _ _ (one _ h) (one _ (by rw [← escapePy_eq_spec]; exact ncr_escape false x h))
  | comment x => exact one _ (by simp only [commentOut, ncr_append, show ncr x = true from h, Bool.and_eq_true]; decide)
  | pi t d =>
    rw [evNcr, Bool.and_eq_true] at h
    exact one _ (by simp only [piOut, ncr_append, ncr_cons, h.1, h.2, Bool.and_eq_true]; decide)
  | doctype n p q =>
    simp only [evNcr, Bool.and_eq_true] at h
    exact pick _ _ _ rfl (one _ (ncr_doctypeOut n p q h.1.1 h.1.2 h.2))
  | xmlDecl v e q => rw [evNcr, Bool.and_eq_true] at h; exact pick _ _ _ rfl (one _ (ncr_xmlDeclOut v e q h.1 h.2))
  | startCdata => exact pick _ _ _ rfl (by decide)
  | endCdata => exact pick _ _ _ rfl (by decide)
  | startNs p u => rfl
  | endNs p => rfl

theorem serSpec_ncr (m : Method) (o : Opts) (evs : List FEv) : ∀ c : Ctx, (∀ ev ∈ evs, evNcr ev = true) →
    ncr (serSpec m o c evs).flatten = true := by
  induction evs with
  | nil => intro _ _; rfl
  | cons ev rest ih =>
    intro c h
    simp only [serSpec, List.flatten_append, ncr_append, Bool.and_eq_true]
    exact ⟨emit_ncr m o c ev (h ev (by simp)), ih _ (fun e he => h e (by simp [he]))⟩

theorem not_mem_cr_of_ncr (s : Str) (h : ncr s = true) : '\r' ∉ s := fun hmem => by
  have := List.all_eq_true.mp h '\r' hmem
  simp at this

/-- the membership form of `serSpec_ncr` -/
theorem serSpec_no_cr (m : Method) (o : Opts) (evs : List FEv) (c : Ctx) (h : ∀ ev ∈ evs, evNcr ev = true) :
    '\r' ∉ (serSpec m o c evs).flatten :=
  not_mem_cr_of_ncr _ (serSpec_ncr m o evs c h)

def leafNcr : Event → Bool
  | .text s _ => ncr s
  | .comment s => ncr s
  | .pi t d => ncr t && ncr d
  | .doctype n p s => ncr n && oncr p && oncr s
  | .xmlDecl v e _ => ncr v && oncr e
  | _ => true

mutual
  def nodeNcr : Node → Bool
    | .elem t a ks => ncr t.loc && attrsNcr (fAttrs a) && forestNcr ks
    | .leaf e => leafNcr e
  def forestNcr : List Node → Bool
    | [] => true
    | n :: ns => nodeNcr n && forestNcr ns
end

theorem declAttr_ncr (u : Str) (s : Bool) (hu : ncr u = true) : attrsNcr (declAttr u s) = true := by
  unfold declAttr
  split
  · rfl
  · simp [attrsNcr, hu]; decide

theorem attrsNcr_append (a b : FAttrs) : attrsNcr (a ++ b) = (attrsNcr a && attrsNcr b) := by
  simp [attrsNcr, List.all_append]

mutual
  theorem ncr_treeFu (u : Str) (hu : ncr u = true) : ∀ (s : Bool) (n : Node), nodeNcr n = true →
      ∀ ev ∈ treeFu u s n, evNcr ev = true
    | s, .elem t a ks, h => by
        simp only [nodeNcr, Bool.and_eq_true] at h
        obtain ⟨⟨ht, ha⟩, hk⟩ := h
        have hA : attrsNcr (declAttr u s ++ fAttrs a) = true := by
          rw [attrsNcr_append, declAttr_ncr u s hu, ha]; rfl
        intro ev hev
        cases ks with
        | nil =>
          simp only [treeFu, List.isEmpty_nil, ↓reduceIte, List.mem_singleton] at hev
          subst hev; simp [evNcr, ht, hA]
        | cons k ks' =>
          simp only [treeFu, List.isEmpty_cons, Bool.false_eq_true, ↓reduceIte, List.mem_cons, List.mem_append,
            List.not_mem_nil, or_false] at hev
          rcases hev with h1 | h1 | h1
          · subst h1; simp [evNcr, ht, hA]
          · exact ncr_forestFu u hu true (k :: ks') hk ev h1
          · subst h1; simpa [evNcr] using ht
    | s, .leaf e, h => by
        intro ev hev
        cases e <;> simp [treeFu, leafF] at hev <;> subst hev <;> simp_all [nodeNcr, leafNcr, evNcr]
  theorem ncr_forestFu (u : Str) (hu : ncr u = true) : ∀ (s : Bool) (ns : List Node), forestNcr ns = true →
      ∀ ev ∈ forestFu u s ns, evNcr ev = true
    | s, [], _ => by simp [forestFu]
    | s, n :: ns, h => by
        simp only [forestNcr, Bool.and_eq_true] at h
        intro ev hev
        simp only [forestFu, List.mem_append] at hev
        rcases hev with h1 | h1
        · exact ncr_treeFu u hu s n h.1 ev h1
        · exact ncr_forestFu u hu s ns h.2 ev h1
end

end Genshi.Output
