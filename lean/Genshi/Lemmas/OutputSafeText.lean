/-
  Helper lemmas for C08 / C09: Markup (pre-escaped) text.
  * a Markup TEXT event that is the escape of some string is written exactly like
    the plain TEXT event of that string (outside CDATA / script / style), and like
    the plain event of the same string inside;
  * escaping commutes with the white-space normal form, so what `WhitespaceFilter`
    hands on for escaped text is again the escape of some string.
-/
import Genshi.Lemmas.Output
import Genshi.Lemmas.OutputWsNorm
import Genshi.Lemmas.Escape
namespace Genshi.Output
open Genshi Genshi.Escape

/-- the text is the escape of what `unescape` makes of it -/
def ProperEsc (s : Str) : Prop := escapeSpec false (unescape s) = s

instance (s : Str) : Decidable (ProperEsc s) := by unfold ProperEsc; infer_instance

theorem properEsc_escape (x : Str) : ProperEsc (escapeSpec false x) := by
  unfold ProperEsc; rw [unescape_escapeSpec]

/-- the plain event that is written the same way in this context -/
def desafeEv (c : Ctx) : FEv → FEv
  | .text s true => if c.raw then .text s false else .text (unescape s) false
  | ev => ev

/-- the stream with every Markup text replaced by the plain text that is written the same way -/
def desafe (m : Method) (o : Opts) : Ctx → List FEv → List FEv
  | _, [] => []
  | c, ev :: rest => desafeEv c ev :: desafe m o (ctxAfter m o c ev) rest

/-- every Markup text outside raw contexts is the escape of some string -/
def SafeProper (m : Method) (o : Opts) : Ctx → List FEv → Prop
  | _, [] => True
  | c, ev :: rest =>
      (match ev with
       | .text s true => c.raw = false → ProperEsc s
       | _ => True) ∧ SafeProper m o (ctxAfter m o c ev) rest

theorem ctxAfter_desafeEv (m : Method) (o : Opts) (c : Ctx) (ev : FEv) :
    ctxAfter m o c (desafeEv c ev) = ctxAfter m o c ev := by
  cases ev with
  | text s f =>
    cases f
    · rfl
    · simp only [desafeEv]; split <;> simp [ctxAfter]
  | _ => rfl

theorem emit_desafeEv (m : Method) (o : Opts) (c : Ctx) (ev : FEv)
    (h : match ev with
         | .text s true => c.raw = false → ProperEsc s
         | _ => True) :
    emit m o c (desafeEv c ev) = emit m o c ev := by
  cases ev with
  | text s f =>
    cases f with
    | false => rfl
    | true =>
      by_cases hr : c.raw = true
      · simp [desafeEv, hr, emit]
      · have hr' : c.raw = false := by simpa using hr
        have hp : ProperEsc s := h hr'
        simp only [desafeEv, hr', Bool.false_eq_true, ↓reduceIte, emit]
        rw [hp]
  | _ => rfl

theorem serSpec_desafe (m : Method) (o : Opts) (evs : List FEv) :
    ∀ c : Ctx, SafeProper m o c evs → serSpec m o c evs = serSpec m o c (desafe m o c evs) := by
  induction evs with
  | nil => intro c _; rfl
  | cons ev rest ih =>
    intro c h
    simp only [serSpec, desafe]
    rw [emit_desafeEv m o c ev h.1, ctxAfter_desafeEv, ← ih _ h.2]

theorem escC_ws (c : Char) (h : isBlank c = true ∨ c = '\n') : escC false c = [c] := by
  rcases h with h | h
  · simp only [isBlank, Bool.or_eq_true, beq_iff_eq] at h
    rcases h with h | h <;> subst h <;> decide
  · subst h; decide

theorem escC_nonws (c : Char) (hb : isBlank c = false) (hn : (c == '\n') = false) :
    escC false c ≠ [] ∧ (∀ d ∈ escC false c, isBlank d = false ∧ (d == '\n') = false) :=
  ⟨escC_ne_nil _ _, forall_mem_escC false c ⟨hb, hn⟩ (by decide)⟩

theorem escape_blanks (p : Str) (hp : p.all isBlank = true) : escapeSpec false p = p := by
  induction p with
  | nil => rfl
  | cons c cs ih =>
    simp only [List.all_cons, Bool.and_eq_true] at hp
    rw [escapeSpec_cons, escC_ws c (Or.inl hp.1), ih hp.2]; rfl

theorem trimGo_escape (x : Str) : ∀ p : Str, p.all isBlank = true →
    trimGo p (escapeSpec false x) = escapeSpec false (trimGo p x) := by
  induction x with
  | nil => intro p hp; simp [escapeSpec, trimGo]; exact (escape_blanks p hp).symm
  | cons c cs ih =>
    intro p hp
    by_cases hb : isBlank c = true
    · rw [escapeSpec_cons, escC_ws c (Or.inl hb)]
      simp only [List.singleton_append, trimGo, hb, ↓reduceIte]
      exact ih (p ++ [c]) (by simp [hp, hb])
    · have hb' : isBlank c = false := by simpa using hb
      by_cases hn : (c == '\n') = true
      · have hc : c = '\n' := by simpa using hn
        subst hc
        rw [escapeSpec_cons, escC_ws '\n' (Or.inr rfl)]
        simp only [List.singleton_append, trimGo, hb', Bool.false_eq_true, ↓reduceIte, BEq.rfl]
        rw [ih [] (by simp), escapeSpec_cons, escC_ws '\n' (Or.inr rfl)]; rfl
      · have hn' : (c == '\n') = false := by simpa using hn
        obtain ⟨hne, hw⟩ := escC_nonws c hb' hn'
        rw [escapeSpec_cons, trimGo_nonws _ hne hw, ih [] (by simp)]
        simp only [trimGo, hb', hn', Bool.false_eq_true, ↓reduceIte]
        rw [escapeSpec_append, escapeSpec_cons, escape_blanks p hp, List.append_assoc]

theorem collapseGo_escape (x : Str) : ∀ b : Bool,
    collapseGo b (escapeSpec false x) = escapeSpec false (collapseGo b x) := by
  induction x with
  | nil => intro b; simp [escapeSpec, collapseGo]
  | cons c cs ih =>
    intro b
    by_cases hn : (c == '\n') = true
    · have hc : c = '\n' := by simpa using hn
      subst hc
      rw [escapeSpec_cons, escC_ws '\n' (Or.inr rfl)]
      cases b
      · simp only [List.singleton_append, collapseGo, BEq.rfl, ↓reduceIte, Bool.false_eq_true]
        rw [ih true, escapeSpec_cons, escC_ws '\n' (Or.inr rfl)]; rfl
      · simp only [List.singleton_append, collapseGo, BEq.rfl, ↓reduceIte]
        exact ih true
    · have hn' : (c == '\n') = false := by simpa using hn
      have hw : ∀ d ∈ escC false c, (d == '\n') = false := forall_mem_escC false c hn' (by decide)
      rw [escapeSpec_cons, collapseGo_nonws _ (escC_ne_nil _ _) hw, ih false]
      simp [collapseGo, hn', escapeSpec]

theorem wsNorm_escape (x : Str) : wsNorm (escapeSpec false x) = escapeSpec false (wsNorm x) := by
  simp only [wsNorm, trim, collapse]
  rw [trimGo_escape x [] (by simp), collapseGo_escape]

theorem wsf_stdNorm_escape (p : Bool) (x : Str) : stdNorm p (escapeSpec false x) = escapeSpec false (stdNorm p x) := by
  cases p
  · simp [stdNorm, wsNorm_escape]
  · simp [stdNorm]

theorem properEsc_stdNorm (p : Bool) (x : Str) : ProperEsc (stdNorm p (escapeSpec false x)) := by
  rw [wsf_stdNorm_escape]; exact properEsc_escape _

end Genshi.Output
