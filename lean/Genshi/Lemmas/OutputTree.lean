/-
  Helper lemmas for C08: what the filter chain (EmptyTagFilter, lite NamespaceFlattener, no
  whitespace filter) delivers for the flattening of a forest is the explicit function of the forest
  of Lemmas/OutputForest.  Proved for elements in arbitrary namespaces (`flatten_treeM`: the flattener
  keeps a stack of automatic default-namespace declarations and declares an element's namespace iff it
  differs from the default namespace in scope, the parameter `cur` of `treeFm cur`); one namespace `u`
  (`treeFu u`) and no namespace (`treeF`) are derived.
-/
import Genshi.Lemmas.OutputForest
import Genshi.Lemmas.Output
import Genshi.Lemmas.OutputFlattenStep
import Genshi.Lemmas.OutputFlatten
namespace Genshi.Output
open Genshi

mutual
  /-- the events of a tree with childless elements merged into EMPTY -/
  def treeQ : Node → List QEv
    | .elem t a ks => if ks.isEmpty then [.empty t a] else .start t a :: (forestQ ks ++ [.end_ t])
    | .leaf e => [ofEvent e]
  def forestQ : List Node → List QEv
    | [] => []
    | n :: ns => treeQ n ++ forestQ ns
end

theorem emptyTag_none_nonstart (e : Event) (es : Stream) (h : e.isStartEnd = false) :
    emptyTag none (e :: es) = ofEvent e :: emptyTag none es := by
  rw [emptyTag_cons]; cases e <;> first | rfl | cases h

theorem emptyTag_some_nonend (t : QName) (a : AttrList) (e : Event) (es : Stream)
    (h : ∀ t', e ≠ .end_ t') :
    emptyTag (some (t, a)) (e :: es) = .start t a :: emptyTag none (e :: es) := by
  rw [emptyTag_cons, emptyTag_cons]; cases e <;> first | rfl | exact absurd rfl (h _)

theorem flattenList_head (n : Node) (ns : List Node) (h : n.ok = true) :
    ∃ e es, flattenList (n :: ns) = e :: es ∧ ∀ t', e ≠ .end_ t' := by
  cases n with
  | elem t a ks =>
    exact ⟨.start t a, (flattenList ks ++ [.end_ t]) ++ flattenList ns, by simp [flattenList, Node.flatten],
      by intro t' h; cases h⟩
  | leaf e =>
    refine ⟨e, flattenList ns, by simp [flattenList, Node.flatten], ?_⟩
    intro t' he
    subst he
    simp [Node.ok, Event.isStartEnd] at h

mutual
  theorem emptyTag_tree : ∀ (n : Node) (rest : Stream), n.ok = true →
      emptyTag none (n.flatten ++ rest) = treeQ n ++ emptyTag none rest
    | .elem t a ks, rest, h => by
        have hk : okList ks = true := by simpa [Node.ok] using h
        cases ks with
        | nil => simp [Node.flatten, flattenList, treeQ, emptyTag]
        | cons k ks' =>
          have hk1 : k.ok = true := by simp only [okList, Bool.and_eq_true] at hk; exact hk.1
          obtain ⟨e, es, he, hne⟩ := flattenList_head k ks' hk1
          have ih := emptyTag_forest (k :: ks') (.end_ t :: rest) hk
          simp only [Node.flatten, List.cons_append, List.append_assoc, treeQ, List.isEmpty_cons,
            Bool.false_eq_true, ↓reduceIte, List.nil_append]
          have step1 : emptyTag none (.start t a :: (flattenList (k :: ks') ++ (.end_ t :: rest))) =
              .start t a :: emptyTag none (flattenList (k :: ks') ++ (.end_ t :: rest)) := by
            rw [he, emptyTag_cons]
            exact emptyTag_some_nonend t a e _ hne
          rw [step1, ih]
          simp [emptyTag, ofEvent]
    | .leaf e, rest, h => by
        have he : e.isStartEnd = false := by simpa [Node.ok] using h
        simp only [Node.flatten, List.singleton_append, treeQ]
        exact emptyTag_none_nonstart e rest he
  theorem emptyTag_forest : ∀ (ns : List Node) (rest : Stream), okList ns = true →
      emptyTag none (flattenList ns ++ rest) = forestQ ns ++ emptyTag none rest
    | [], rest, _ => by simp [flattenList, forestQ]
    | n :: ns, rest, h => by
        simp only [okList, Bool.and_eq_true] at h
        simp only [flattenList, List.append_assoc, forestQ]
        rw [emptyTag_tree n _ h.1, emptyTag_forest ns rest h.2]
end

theorem emptyTag_flattenList (ns : List Node) (h : okList ns = true) :
    emptyTag none (flattenList ns) = forestQ ns := by
  have := emptyTag_forest ns [] h
  simpa [emptyTag] using this

theorem flatAttrs_nsOk (a : AttrList) (h : attrNsOk a = true) : flatAttrs a = some (fAttrs a) := by
  induction a with
  | nil => rfl
  | cons p ps ih =>
    simp only [attrNsOk, List.all_cons, Bool.and_eq_true] at h
    have ih' := ih (by simpa [attrNsOk] using h.2)
    have hp : flatAttr p = some (fName p.1, p.2) := by
      unfold flatAttr fName
      by_cases h1 : p.1.ns.isEmpty = true
      · simp [h1]
      · have h2 : p.1.ns = xmlNs := by simpa [h1] using h.1
        have hx : ¬ xmlNs = [] := by decide
        simp [h2, hx]
    simp [flatAttrs, hp, ih', fAttrs]

/-- the flattener state between the events of a namespace-free forest: nothing bound, nothing
    pending, nothing cached; only the stack of open element names varies -/
def cleanSt (elems : List (Str × Nat)) : FlatSt := ⟨[], none, elems, []⟩

theorem flatten_cons_some (c : Bool) (st : FlatSt) (ev : QEv) (rest : List QEv) (r : FlatSt × List FEv)
    (h : flatStep c st ev = some r) :
    flatten c st (ev :: rest) = (flatten c r.1 rest).map (r.2 ++ ·) := by
  rw [flatten_cons, h]; rfl

/-- default-namespace declarations in scope -/
def scopeB (u : Str) (inScope : Bool) : List (Str × Bool) := if !u.isEmpty && inScope then [(u, true)] else []

def nsSt (u : Str) (inScope : Bool) (E : List (Str × Nat)) : FlatSt := ⟨scopeB u inScope, none, E, []⟩

/-- flattener state on this domain: automatic declarations only, nothing pending, no cache -/
def mSt (B : List (Str × Bool)) (E : List (Str × Nat)) : FlatSt := ⟨B, none, E, []⟩

def allAuto (B : List (Str × Bool)) : Bool := B.all fun p => p.2

/-- the declaration (as a binding) the element needs -/
def bindM (cur v : Str) : List (Str × Bool) := if v = cur then [] else [(v, true)]

theorem flatStartCore_mixed (B : List (Str × Bool)) (hB : allAuto B = true) (t : QName) (a : AttrList)
    (ht : t.ns ≠ xmlNs) (ha : attrNsOk a = true) :
    flatStartCore B none t a =
      some (bindM (defaultNs B).1 t.ns, t.loc, declM (defaultNs B).1 t.ns ++ fAttrs a) := by
  have hx : ¬ (([] : Str) = xmlNs) := by decide
  by_cases he : t.ns = []
  · cases B with
    | nil => simp [flatStartCore, flatD1, flatD2, he, hx, defaultNs, declM, bindM, flatAttrs_nsOk a ha]
    | cons b B' =>
      have hb : b.2 = true := by simp [allAuto] at hB; exact hB.1
      by_cases hc : b.1 = []
      · simp [flatStartCore, flatD1, flatD2, he, hx, defaultNs, declM, bindM, flatAttrs_nsOk a ha, hc]
      · have hc' : ¬ ([] = b.1) := fun e => hc e.symm
        simp [flatStartCore, flatD1, flatD2, he, hx, defaultNs, declM, bindM, flatAttrs_nsOk a ha, hc, hc', hb]
  · by_cases hc : (defaultNs B).1 = t.ns
    · simp [flatStartCore, flatD1, flatD2, he, ht, declM, bindM, flatAttrs_nsOk a ha, hc]
    · have hc' : ¬ (t.ns = (defaultNs B).1) := fun e => hc e.symm
      simp [flatStartCore, flatD1, flatD2, he, ht, declM, bindM, flatAttrs_nsOk a ha, hc, hc']

theorem defaultNs_bindM (B : List (Str × Bool)) (v : Str) :
    (defaultNs ((bindM (defaultNs B).1 v).reverse ++ B)).1 = v := by
  by_cases h : v = (defaultNs B).1
  · simp only [bindM, h, ↓reduceIte, List.reverse_nil, List.nil_append]
  · generalize (defaultNs B).1 = cur at h ⊢
    simp only [bindM, h, ↓reduceIte, List.reverse_cons, List.reverse_nil, List.nil_append, List.singleton_append]
    rfl

theorem allAuto_bindM (B : List (Str × Bool)) (hB : allAuto B = true) (v : Str) :
    allAuto ((bindM (defaultNs B).1 v).reverse ++ B) = true := by
  by_cases h : v = (defaultNs B).1
  · simp only [bindM, h, ↓reduceIte, List.reverse_nil, List.nil_append]; exact hB
  · simp only [bindM, h, ↓reduceIte, List.reverse_cons, List.reverse_nil, List.nil_append, List.singleton_append]
    simpa [allAuto] using hB

theorem drop_bindM (B : List (Str × Bool)) (cur v : Str) :
    ((bindM cur v).reverse ++ B).drop (bindM cur v).length = B := by
  unfold bindM
  by_cases h : v = cur <;> simp [h]

theorem flatten_mixed :
    (∀ (n : Node) (rest : List QEv) (B : List (Str × Bool)) (E : List (Str × Nat)),
      mixedOk n = true → allAuto B = true →
      flatten false (mSt B E) (treeQ n ++ rest) =
        (flatten false (mSt B E) rest).map (treeFm (defaultNs B).1 n ++ ·)) ∧
    ∀ (ns : List Node) (rest : List QEv) (B : List (Str × Bool)) (E : List (Str × Nat)),
      forestMixedOk ns = true → allAuto B = true →
      flatten false (mSt B E) (forestQ ns ++ rest) =
        (flatten false (mSt B E) rest).map (forestFm (defaultNs B).1 ns ++ ·) := by
  refine node_induction ?_ ?_ ?_ ?_
  · intro t a ks ih rest B E h hB
    simp only [mixedOk, Bool.and_eq_true, bne_iff_ne, ne_eq] at h
    obtain ⟨⟨ht, ha⟩, hk⟩ := h
    have hcore := flatStartCore_mixed B hB t a ht ha
    cases ks with
    | nil =>
      have hs : flatStep false (mSt B E) (.empty t a) =
          some (mSt B E, [.empty t.loc (declM (defaultNs B).1 t.ns ++ fAttrs a)]) := by
        simp [flatStep, flatEmptyMiss, mSt, hcore]
      simp only [treeQ, List.isEmpty_nil, ↓reduceIte, List.singleton_append, treeFm]
      rw [flatten_cons_some false _ _ _ _ hs]
      cases flatten false (mSt B E) rest <;> simp
    | cons k ks' =>
      have hs : flatStep false (mSt B E) (.start t a) =
          some (mSt ((bindM (defaultNs B).1 t.ns).reverse ++ B) ((t.loc, (bindM (defaultNs B).1 t.ns).length) :: E),
                [.start t.loc (declM (defaultNs B).1 t.ns ++ fAttrs a)]) := by
        simp only [flatStep, Bool.false_and, Bool.false_eq_true, ↓reduceIte, flatStartMiss, mSt, hcore]
        by_cases hd : (bindM (defaultNs B).1 t.ns).isEmpty = true <;> simp [hd]
      have he : flatStep false
          (mSt ((bindM (defaultNs B).1 t.ns).reverse ++ B) ((t.loc, (bindM (defaultNs B).1 t.ns).length) :: E))
          (.end_ t) = some (mSt B E, [.end_ t.loc]) := by
        simp only [flatStep, mSt, drop_bindM]
        by_cases hd : (bindM (defaultNs B).1 t.ns).length = 0 <;> simp [hd]
      simp only [treeQ, List.isEmpty_cons, Bool.false_eq_true, ↓reduceIte, List.cons_append, List.append_assoc,
        treeFm]
      rw [flatten_cons_some false _ _ _ _ hs,
        ih _ _ _ hk (allAuto_bindM B hB t.ns), defaultNs_bindM,
        flatten_cons_some false _ _ _ _ he]
      cases hf : flatten false (mSt B E) rest <;> simp [hf]
  · intro e rest B E h _
    cases e <;> simp [mixedOk, leafF] at h <;>
      simp [treeQ, treeFm, leafF, ofEvent, flatten, flatStep, mSt] <;>
      cases flatten false ⟨B, none, E, []⟩ rest <;> simp
  · intro rest B E _ _; simp [forestQ, forestFm]
  · intro n ns ihn ihs rest B E h hB
    simp only [forestMixedOk, Bool.and_eq_true] at h
    simp only [forestQ, forestFm, List.append_assoc]
    rw [ihn _ B E h.1 hB, ihs rest B E h.2 hB]
    cases flatten false (mSt B E) rest <;> simp

theorem flatten_treeM : ∀ (n : Node) (rest : List QEv) (B : List (Str × Bool)) (E : List (Str × Nat)),
    mixedOk n = true → allAuto B = true →
    flatten false (mSt B E) (treeQ n ++ rest) =
      (flatten false (mSt B E) rest).map (treeFm (defaultNs B).1 n ++ ·) := flatten_mixed.1

theorem flatten_forestM : ∀ (ns : List Node) (rest : List QEv) (B : List (Str × Bool)) (E : List (Str × Nat)),
    forestMixedOk ns = true → allAuto B = true →
    flatten false (mSt B E) (forestQ ns ++ rest) =
      (flatten false (mSt B E) rest).map (forestFm (defaultNs B).1 ns ++ ·) := flatten_mixed.2

theorem declM_scopeB (u : Str) (s : Bool) : declM (defaultNs (scopeB u s)).1 u = declAttr u s := by
  cases s <;> by_cases hu : u.isEmpty = true <;> simp [scopeB, defaultNs, declM, declAttr, hu]
  · simpa using hu
  · simpa using hu
  · simpa using hu

theorem flatten_treeU (u : Str) (hu : u ≠ xmlNs) : ∀ (n : Node) (rest : List QEv) (s : Bool) (E : List (Str × Nat)),
    uniformNs u n = true →
    flatten false (nsSt u s E) (treeQ n ++ rest) = (flatten false (nsSt u s E) rest).map (treeFu u s n ++ ·) := by
  intro n rest s E h
  rw [← (treeFm_uniform u).1 n h _ s (declM_scopeB u s)]
  exact flatten_treeM n rest (scopeB u s) E (mixedOk_of_uniform u hu n h) (by cases s <;> simp [scopeB, allAuto])

theorem flatten_forestU (u : Str) (hu : u ≠ xmlNs) : ∀ (ns : List Node) (rest : List QEv) (s : Bool)
    (E : List (Str × Nat)), forestUniformNs u ns = true →
    flatten false (nsSt u s E) (forestQ ns ++ rest) = (flatten false (nsSt u s E) rest).map (forestFu u s ns ++ ·) := by
  intro ns rest s E h
  rw [← (treeFm_uniform u).2 ns h _ s (declM_scopeB u s)]
  exact flatten_forestM ns rest (scopeB u s) E (forestMixedOk_of_uniform u hu ns h) (by cases s <;> simp [scopeB, allAuto])

theorem flatten_tree : ∀ (n : Node) (rest : List QEv) (E : List (Str × Nat)), nsFree n = true →
    flatten false (cleanSt E) (treeQ n ++ rest) = (flatten false (cleanSt E) rest).map (treeF n ++ ·) := by
  intro n rest E h
  rw [← treeFu_nil.1 n false]
  exact flatten_treeU [] (by decide) n rest false E (uniformNs_nil.1 n h)

theorem flatten_forest : ∀ (ns : List Node) (rest : List QEv) (E : List (Str × Nat)), forestNsFree ns = true →
    flatten false (cleanSt E) (forestQ ns ++ rest) = (flatten false (cleanSt E) rest).map (forestF ns ++ ·) := by
  intro ns rest E h
  rw [← treeFu_nil.2 ns false]
  exact flatten_forestU [] (by decide) ns rest false E (uniformNs_nil.2 ns h)

theorem flatten_init_forest (m : Method) (X : List Node) (hns : forestMixedOk X = true) :
    flatten false (flatInit m) (forestQ X) = some (forestFm [] X) := by
  have := flatten_forestM X [] [] [] hns rfl
  rwa [List.append_nil, show flatten false (mSt [] []) [] = some [] from rfl, Option.map_some, List.append_nil] at this

/-- the filter chain in front of the main loop (no whitespace filter) on the flattening of a forest -/
theorem filtered_forestM (m : Method) (dropd : Bool) (dopt : Option DocTypeT) (ns : List Node)
    (hok : okList ns = true) (hns : forestMixedOk ns = true) :
    filtered m { strip := false, cache := false, doctype := dopt, dropXmlDecl := dropd } (flattenList ns) =
      some (withDoctype dopt (forestFm [] ns)) := by
  rw [filtered, preFlat, if_neg Bool.false_ne_true, emptyTag_flattenList ns hok, flatten_init_forest m ns hns]; rfl

theorem filtered_forestU_dt (m : Method) (dropd : Bool) (u : Str) (hu : u ≠ xmlNs) (dopt : Option DocTypeT)
    (ns : List Node) (hok : okList ns = true) (hns : forestUniformNs u ns = true) :
    filtered m { strip := false, cache := false, doctype := dopt, dropXmlDecl := dropd } (flattenList ns) =
      some (withDoctype dopt (forestFu u false ns)) := by
  rw [← (treeFm_uniform u).2 ns hns [] false (declAttr_eq_declM u false).symm]
  exact filtered_forestM m dropd dopt ns hok (forestMixedOk_of_uniform u hu ns hns)

theorem filtered_forestU (m : Method) (dropd : Bool) (u : Str) (hu : u ≠ xmlNs) (ns : List Node)
    (hok : okList ns = true) (hns : forestUniformNs u ns = true) :
    filtered m { strip := false, cache := false, doctype := none, dropXmlDecl := dropd } (flattenList ns) =
      some (forestFu u false ns) :=
  filtered_forestU_dt m dropd u hu none ns hok hns

theorem filtered_forest (m : Method) (cache dropd : Bool) (ns : List Node)
    (hok : okList ns = true) (hns : forestNsFree ns = true) :
    filtered m { strip := false, cache := false, doctype := none, dropXmlDecl := dropd } (flattenList ns) =
      some (forestF ns) := by
  rw [← treeFu_nil.2 ns false]
  exact filtered_forestU m dropd [] (by decide) ns hok (uniformNs_nil.2 ns hns)

/-- `render` on the flattening of a namespace-free forest, as the chunks of the main loop over `forestF p` (the form
    in which the events-level round trips are stated) -/
theorem render_forest (m : Method) (cache dropd : Bool) {p : List Node} (h1 : okList p = true)
    (h2 : forestNsFree p = true) :
    render m { strip := false, cache := cache, doctype := none, dropXmlDecl := dropd } (flattenList p) =
      some (loop m { dropXmlDecl := dropd } false {} (forestF p)).flatten := by
  rw [render_of_filtered _ _ _ _ _ _ _ (filtered_forest m false dropd p h1 h2), loop_eq_spec]

end Genshi.Output
