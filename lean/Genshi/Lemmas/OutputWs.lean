/-
  Helper lemmas for C09: what `WhitespaceFilter` does apart from normalising
  white space (merging adjacent text, pre-escaping it, wrapping it in Markup,
  marking script/CDATA text raw) is unobservable in the serializer's output
  (`wsMerge_tailOut`).
-/
import Genshi.Model.OutputPipeline
import Genshi.Lemmas.Output
import Genshi.Lemmas.OutputFlattenStep
namespace Genshi.Output
open Genshi Genshi.Escape

/-- the filter that only merges: no white-space normalisation at all -/
def idNorm (_ : Bool) (x : Str) : Str := x

/-- what a buffered piece of text will be written as -/
def pieceOut (p : Str × Bool) : Str := if p.2 then p.1 else escapePy false p.1

def bufOut (tb : List (Str × Bool)) : Str := tb.flatMap pieceOut

/-- flattener (no cache) then main loop (no cache) then `''.join` -/
def tailOut (m : Method) (o : Opts) (fst : FlatSt) (lst : LoopSt) (es : List QEv) : Option Str :=
  (flatten false fst es).map fun fs => (loop m o false lst fs).flatten

/-- the filter and the main loop agree on whether text is written raw -/
structure WsInv (m : Method) (wst : WsSt) (lst : LoopSt) : Prop where
  raw_eq : lst.raw = (wst.noescape || wst.inCdata)
  html_cd : m = .html → wst.inCdata = false
  xml_ne : m ≠ .html → wst.noescape = false

/-- hypothesis for html: the filter decides "script/style" on the qualified name, the main loop
    on the flattened one; they agree on the HTML vocabulary (no namespace, or XHTML) -/
def NoescapeAgree (m : Method) (ev : QEv) : Prop :=
  match ev with
  | .start t _ => m = .html → qInTable (noescapeElems .html) t = inTable (noescapeElems .html) t.loc
  | _ => True

/-- it is enough that the STARTs of the stream in front of `EmptyTagFilter` agree -/
theorem noescapeAgree_emptyTag (m : Method) (s : Stream)
    (h : ∀ t a, Event.start t a ∈ s → m = .html →
      qInTable (noescapeElems .html) t = inTable (noescapeElems .html) t.loc) :
    ∀ ev ∈ emptyTag none s, NoescapeAgree m ev := by
  intro ev hev
  cases ev with
  | start t a =>
    intro hm
    rcases mem_emptyTag_start t a s none hev with h' | h'
    · exact h t a h' hm
    · cases h'
  | _ => trivial

theorem wsFilterG_cons (norm : Bool → Str → Str) (cfg : WsCfg) (st : WsSt) (ev : QEv) (rest : List QEv)
    (h : ∀ s f, ev ≠ .text s f) :
    wsFilterG norm cfg st (ev :: rest) =
      wsFlushG norm st ++ ev :: wsFilterG norm cfg (wsUpdate cfg { st with textbuf := [] } ev) rest := by
  cases ev with
  | text s f => exact absurd rfl (h s f)
  | _ => rfl

theorem tailOut_nil (m : Method) (o : Opts) (fst : FlatSt) (lst : LoopSt) :
    tailOut m o fst lst [] = some [] := by simp [tailOut, flatten, loop]

theorem tailOut_text (m : Method) (o : Opts) (fst : FlatSt) (lst : LoopSt) (s : Str) (safe : Bool)
    (rest : List QEv) :
    tailOut m o fst lst (.text s safe :: rest) =
      (tailOut m o fst lst rest).map
        ((if safe then s else if lst.raw then s else escapePy false s) ++ ·) := by
  simp only [tailOut, flatten, flatStep]
  cases hf : flatten false fst rest with
  | none => simp
  | some fs =>
    simp only [Option.map_some, List.singleton_append, loop]
    cases safe
    · by_cases hr : lst.raw = true
      · simp [step, hr]
      · simp [step, hr, miss, store]
    · simp [step]

/-- the state of the main loop after the events the flattener passes on for one event -/
def loopAfter (m : Method) (o : Opts) (lst : LoopSt) (fs : List FEv) : LoopSt :=
  fs.foldl (fun s e => (step m o false s e).1) lst

theorem tailOut_cons (m : Method) (o : Opts) (fst : FlatSt) (lst : LoopSt) (ev : QEv) (rest : List QEv) :
    tailOut m o fst lst (ev :: rest) =
      match flatStep false fst ev with
      | none => none
      | some r =>
          (tailOut m o r.1 (loopAfter m o lst r.2) rest).map ((loop m o false lst r.2).flatten ++ ·) := by
  simp only [tailOut, flatten]
  cases hs : flatStep false fst ev with
  | none => simp
  | some r =>
    simp only
    cases hf : flatten false r.1 rest with
    | none => simp
    | some fs => simp [loop_append, loopAfter]

theorem loopAfter_single_raw (m : Method) (o : Opts) (lst : LoopSt) (e : FEv) :
    (loopAfter m o lst [e]).raw = (ctxAfter m o (ctxOf lst) e).raw :=
  congrArg Ctx.raw (step_nocache m o lst e).2.1

theorem wsCfg_facts (m : Method) :
    (m ≠ .html → (wsCfg m).noescape = [] ∧ (wsCfg m).cdata = true) ∧
    ((wsCfg .html).noescape = noescapeElems .html ∧ (wsCfg .html).cdata = false) := by
  refine ⟨fun h => ?_, rfl, rfl⟩
  cases m <;> simp_all [wsCfg]

/-- START: the preserve depth grows inside preserved space or on a trigger; the table sets the
    noescape flag -/
theorem wsUpdate_start (cfg : WsCfg) (st : WsSt) (t : QName) (a : AttrList) :
    wsUpdate cfg st (.start t a) =
      { st with
        preserve := if st.preserve != 0 || qInTable cfg.preserve t || attrGet a xmlSpaceQ == some preserveLit
                    then st.preserve + 1 else st.preserve
        noescape := st.noescape || qInTable cfg.noescape t } := by
  obtain ⟨pr, ne, cd, tb⟩ := st
  simp only [wsUpdate]
  split <;> cases ne <;> cases qInTable cfg.noescape t <;> rfl

theorem wsUpdate_start_flags (cfg : WsCfg) (wst : WsSt) (t : QName) (a : AttrList) :
    (wsUpdate cfg wst (.start t a)).noescape = (wst.noescape || qInTable cfg.noescape t) ∧
    (wsUpdate cfg wst (.start t a)).inCdata = wst.inCdata := by
  rw [wsUpdate_start]; exact ⟨rfl, rfl⟩

theorem wsInv_step (m : Method) (o : Opts) (wst : WsSt) (fst : FlatSt) (lst : LoopSt) (ev : QEv)
    (r : FlatSt × List FEv) (hinv : WsInv m wst lst) (hag : NoescapeAgree m ev)
    (hr : flatStep false fst ev = some r) :
    WsInv m (wsUpdate (wsCfg m) { wst with textbuf := [] } ev) (loopAfter m o lst r.2) := by
  have hshape := flatStep_shape fst ev r hr
  obtain ⟨hraw, hcd, hne⟩ := hinv
  -- events that leave the flags of filter and loop alone
  have inert : (wsUpdate (wsCfg m) { wst with textbuf := [] } ev).noescape = wst.noescape →
      (wsUpdate (wsCfg m) { wst with textbuf := [] } ev).inCdata = wst.inCdata →
      (loopAfter m o lst r.2).raw = lst.raw →
      WsInv m (wsUpdate (wsCfg m) { wst with textbuf := [] } ev) (loopAfter m o lst r.2) :=
    fun h1 h2 h3 => ⟨by rw [h3, h1, h2]; exact hraw, fun h => by rw [h2]; exact hcd h, fun h => by rw [h1]; exact hne h⟩
  -- the others: html knows raw-text elements and no CDATA sections, xml and xhtml the reverse
  have hcfg := wsCfg_facts m
  cases ev with
  | start t a =>
    obtain ⟨fa, hfa⟩ := hshape
    obtain ⟨h1, h2⟩ := wsUpdate_start_flags (wsCfg m) { wst with textbuf := [] } t a
    rw [hfa]
    by_cases hm : m = .html
    · subst hm
      have hicd := hcd rfl
      refine ⟨?_, fun _ => h2.trans hicd, fun h => absurd rfl h⟩
      rw [loopAfter_single_raw, h1, h2, hcfg.2.1, hag rfl]
      cases hq : inTable (noescapeElems .html) t.loc <;> simp [ctxAfter, ctxOf, hq, hraw, hicd]
    · have hn0 := hne hm
      have hq : qInTable (wsCfg m).noescape t = false := by rw [(hcfg.1 hm).1]; rfl
      refine ⟨?_, fun h => absurd h hm, fun _ => by rw [h1, hq, hn0]; rfl⟩
      rw [loopAfter_single_raw, h1, h2, hq]
      simp [ctxAfter, ctxOf, hm, hraw]
  | end_ t =>
    obtain ⟨x, hx⟩ := hshape
    rw [hx]
    refine ⟨?_, hcd, fun _ => rfl⟩
    rw [loopAfter_single_raw]
    by_cases hm : m = .html
    · simp [ctxAfter, ctxOf, wsUpdate, hm, hcd hm]
    · simp [ctxAfter, ctxOf, wsUpdate, hm, hraw, hne hm]
  | startCdata =>
    by_cases hm : m = .html
    · subst hm; exact inert rfl (hcd rfl).symm (by rw [hshape, loopAfter_single_raw]; rfl)
    · refine ⟨?_, fun h => absurd h hm, hne⟩
      rw [hshape, loopAfter_single_raw]
      simp [ctxAfter, ctxOf, wsUpdate, hm, (hcfg.1 hm).2]
  | endCdata =>
    by_cases hm : m = .html
    · subst hm; exact inert rfl (hcd rfl).symm (by rw [hshape, loopAfter_single_raw]; rfl)
    · refine ⟨?_, fun _ => rfl, hne⟩
      rw [hshape, loopAfter_single_raw]
      simp [ctxAfter, ctxOf, wsUpdate, hm, hne hm]
  | empty t a =>
    obtain ⟨fa, hfa⟩ := hshape
    exact inert rfl rfl (by rw [hfa, loopAfter_single_raw]; rfl)
  | xmlDecl v e q =>
    refine inert rfl rfl ?_
    rw [hshape, loopAfter_single_raw]
    simp only [ctxAfter]
    split <;> rfl
  | startNs p u => exact inert rfl rfl (by rw [hshape]; rfl)
  | endNs p => exact inert rfl rfl (by rw [hshape]; rfl)
  | _ => exact inert rfl rfl (by rw [hshape, loopAfter_single_raw]; rfl)

theorem wsUpdate_textbuf (cfg : WsCfg) (st : WsSt) (ev : QEv) :
    (wsUpdate cfg st ev).textbuf = st.textbuf := by
  cases ev with
  | start t a => rw [wsUpdate_start]
  | _ => rfl

theorem tailOut_flush (m : Method) (o : Opts) (fst : FlatSt) (lst : LoopSt) (wst : WsSt) (X : List QEv) :
    tailOut m o fst lst (wsFlushG idNorm wst ++ X) =
      (tailOut m o fst lst X).map (bufOut wst.textbuf ++ ·) := by
  unfold wsFlushG
  by_cases he : wst.textbuf.isEmpty = true
  · have : wst.textbuf = [] := by simpa using he
    simp [this, bufOut]
  · simp only [he, Bool.false_eq_true, ↓reduceIte, idNorm, List.singleton_append, tailOut_text]
    rfl

/-- With the merge-only filter in front, the rest of the serializer writes what it
    writes without it (the pending buffer stands for text the unfiltered side has already written) -/
theorem wsMerge_tailOut (m : Method) (o : Opts) (es : List QEv) :
    ∀ (wst : WsSt) (fst : FlatSt) (lst : LoopSt), WsInv m wst lst → (∀ ev ∈ es, NoescapeAgree m ev) →
      tailOut m o fst lst (wsFilterG idNorm (wsCfg m) wst es) =
        (tailOut m o fst lst es).map (bufOut wst.textbuf ++ ·) := by
  induction es with
  | nil =>
    intro wst fst lst _ _
    have := tailOut_flush m o fst lst wst []
    simpa [wsFilterG] using this
  | cons ev rest ih =>
    intro wst fst lst hinv hag
    have hag_rest : ∀ e ∈ rest, NoescapeAgree m e := fun e he => hag e (by simp [he])
    by_cases ht : ∃ s safe, ev = .text s safe
    · obtain ⟨s, safe, rfl⟩ := ht
      -- the unfiltered side writes the text now, the filtered side keeps it in the buffer
      simp only [wsFilterG]
      rw [ih { wst with textbuf := wst.textbuf ++ [(s, safe || wst.noescape || wst.inCdata)] } fst lst
        ⟨hinv.raw_eq, hinv.html_cd, hinv.xml_ne⟩ hag_rest, tailOut_text]
      simp only [Option.map_map]
      congr 1
      funext x
      simp only [Function.comp, bufOut, List.flatMap_append, List.flatMap_cons, List.flatMap_nil, List.append_nil,
        pieceOut, List.append_assoc]
      congr 1
      rw [hinv.raw_eq]
      cases safe <;> cases wst.noescape <;> cases wst.inCdata <;> simp
    · rw [wsFilterG_cons _ _ _ _ _ (fun s f h => ht ⟨s, f, h⟩), tailOut_flush, tailOut_cons, tailOut_cons]
      cases hs : flatStep false fst ev with
      | none => simp
      | some r =>
        simp only
        have hinv' := wsInv_step m o wst fst lst ev r hinv (hag ev (by simp)) hs
        rw [ih _ r.1 _ hinv' hag_rest, wsUpdate_textbuf]
        simp [bufOut, Option.map_map]

end Genshi.Output
