/-
  Helper lemmas for C09: the merge-only whitespace filter stays unobservable when
  a doctype option is given.  `DocTypeInserter` is moved in front of the flattener and of the
  filter (`insQ`; it commutes with both), and then `wsMerge_tailOut` applies to the stream with
  the DOCTYPE event already in it.
-/
import Genshi.Lemmas.OutputWs
namespace Genshi.Output
open Genshi Genshi.Escape

def isNs : QEv → Bool
  | .startNs _ _ => true
  | .endNs _ => true
  | _ => false

def isDecl {ν : Type} : XEv ν → Bool
  | .xmlDecl _ _ _ => true
  | _ => false

/-- `DocTypeInserter` on the stream in front of the flattener: namespace events hand nothing on,
    so "the first event" is the first that is not one of them -/
def insQ (d : DocTypeT) : List QEv → List QEv
  | [] => [.doctype d.1 d.2.1 d.2.2]
  | ev :: es =>
      if isNs ev then ev :: insQ d es
      else if isDecl ev then ev :: .doctype d.1 d.2.1 d.2.2 :: es
      else .doctype d.1 d.2.1 d.2.2 :: ev :: es

theorem docTypeInsert_cons (d : DocTypeT) (e : FEv) (Y : List FEv) (h : isDecl e = false) :
    docTypeInsert d (e :: Y) = .doctype d.1 d.2.1 d.2.2 :: e :: Y := by
  cases e with
  | xmlDecl v e q => cases h
  | _ => rfl

theorem flatStep_out (fst : FlatSt) (ev : QEv) (r : FlatSt × List FEv) (h : flatStep false fst ev = some r) :
    if isNs ev then r.2 = [] else ∃ e', r.2 = [e'] ∧ isDecl e' = isDecl ev := by
  have hs := flatStep_shape fst ev r h
  cases ev with
  | start t a => obtain ⟨fa, hfa⟩ := hs; exact ⟨_, hfa, rfl⟩
  | empty t a => obtain ⟨fa, hfa⟩ := hs; exact ⟨_, hfa, rfl⟩
  | end_ t => obtain ⟨x, hx⟩ := hs; exact ⟨_, hx, rfl⟩
  | startNs p u => exact hs
  | endNs p => exact hs
  | _ => exact ⟨_, hs, rfl⟩

theorem mem_insQ (d : DocTypeT) (x : QEv) :
    ∀ es, x ∈ insQ d es → x = .doctype d.1 d.2.1 d.2.2 ∨ x ∈ es := by
  intro es
  induction es with
  | nil => intro h; exact Or.inl (by simpa [insQ] using h)
  | cons ev rest ih =>
    intro h
    simp only [insQ] at h
    split at h
    · rcases List.mem_cons.mp h with h | h
      · exact Or.inr (h ▸ List.mem_cons_self)
      · exact (ih h).imp id (List.mem_cons_of_mem _)
    · split at h <;> simp only [List.mem_cons] at h ⊢ <;> rcases h with h | h | h <;> simp [h]

theorem flatten_insQ (d : DocTypeT) (es : List QEv) :
    ∀ fst, flatten false fst (insQ d es) = (flatten false fst es).map (docTypeInsert d) := by
  induction es with
  | nil => intro fst; rfl
  | cons ev rest ih =>
    intro fst
    have hdq : ∀ Z, flatten false fst (.doctype d.1 d.2.1 d.2.2 :: Z) =
        (flatten false fst Z).map (XEv.doctype d.1 d.2.1 d.2.2 :: ·) := fun Z => by
      rw [flatten_cons]; rfl
    cases hn : isNs ev with
    | true =>
      simp only [insQ, hn, ↓reduceIte, flatten_cons]
      cases hst : flatStep false fst ev with
      | none => rfl
      | some r =>
        have hr : r.2 = [] := by simpa [hn] using flatStep_out fst ev r hst
        simp only [Option.bind_some, ih, hr, List.nil_append, Option.map_map]
        rfl
    | false =>
      cases hd : isDecl ev with
      | true =>
        cases ev with
        | xmlDecl v e q =>
          simp only [insQ, hn, hd, Bool.false_eq_true, ↓reduceIte]
          rw [flatten_cons, flatten_cons]
          simp only [flatStep, Option.bind_some, hdq, Option.map_map]
          rfl
        | _ => cases hd
      | false =>
        simp only [insQ, hn, hd, Bool.false_eq_true, ↓reduceIte]
        rw [hdq, flatten_cons]
        cases hst : flatStep false fst ev with
        | none => rfl
        | some r =>
          obtain ⟨e', hr, he'⟩ : ∃ e', r.2 = [e'] ∧ isDecl e' = isDecl ev := by
            simpa [hn] using flatStep_out fst ev r hst
          simp only [Option.bind_some, hr, Option.map_map]
          congr 1
          funext Y
          exact (docTypeInsert_cons d e' Y (he'.trans hd)).symm

theorem tailOut_insQ (m : Method) (o : Opts) (d : DocTypeT) (es : List QEv) (fst : FlatSt) :
    tailOut m o fst {} (insQ d es) =
      (flatten false fst es).map fun fs => (loop m o false {} (docTypeInsert d fs)).flatten := by
  rw [tailOut, flatten_insQ, Option.map_map]; rfl

theorem wsFilterG_head (norm : Bool → Str → Str) (cfg : WsCfg) (es : List QEv) :
    ∀ wst : WsSt, wst.textbuf ≠ [] → ∃ t Z, wsFilterG norm cfg wst es = .text t true :: Z := by
  have flush : ∀ wst : WsSt, wst.textbuf ≠ [] → ∃ t, wsFlushG norm wst = [.text t true] := by
    intro wst h
    rw [wsFlushG, if_neg (by simpa using h)]
    exact ⟨_, rfl⟩
  induction es with
  | nil => intro wst h; obtain ⟨t, ht⟩ := flush wst h; exact ⟨t, [], ht⟩
  | cons ev rest ih =>
    intro wst h
    by_cases ht : ∃ s f, ev = .text s f
    · obtain ⟨s, f, rfl⟩ := ht
      exact ih _ (by simp)
    · obtain ⟨t, ht'⟩ := flush wst h
      rw [wsFilterG_cons norm cfg wst ev rest (fun s f he => ht ⟨s, f, he⟩), ht']
      exact ⟨t, _, rfl⟩

theorem wsFlushG_empty (norm : Bool → Str → Str) : wsFlushG norm {} = [] := rfl

theorem wsFilterG_insQ (norm : Bool → Str → Str) (cfg : WsCfg) (d : DocTypeT) (es : List QEv) :
    wsFilterG norm cfg {} (insQ d es) = insQ d (wsFilterG norm cfg {} es) := by
  induction es with
  | nil => rfl
  | cons ev rest ih =>
    cases ev with
    | startNs p u => show _ :: wsFilterG norm cfg {} (insQ d rest) = _; rw [ih]; rfl
    | endNs p => show _ :: wsFilterG norm cfg {} (insQ d rest) = _; rw [ih]; rfl
    | text s f =>
      -- the DOCTYPE goes in front of the pending text on both sides
      have h1 : wsFilterG norm cfg {} (insQ d (.text s f :: rest)) =
          .doctype d.1 d.2.1 d.2.2 :: wsFilterG norm cfg { textbuf := [(s, f || false || false)] } rest := rfl
      have h2 : wsFilterG norm cfg {} (.text s f :: rest) =
          wsFilterG norm cfg { textbuf := [(s, f || false || false)] } rest := rfl
      obtain ⟨t, Z, hZ⟩ := wsFilterG_head norm cfg rest { textbuf := [(s, f || false || false)] } (by simp)
      rw [h1, h2, hZ]; rfl
    | _ => rfl

/-- with or without a doctype option -/
theorem wsMerge_withDoctype (m : Method) (o : Opts) (dt : Option DocTypeT) (es : List QEv) (fst : FlatSt)
    (hag : ∀ ev ∈ es, NoescapeAgree m ev) :
    (flatten false fst (wsFilterG idNorm (wsCfg m) {} es)).map (fun fs => (loop m o false {} (withDoctype dt fs)).flatten) =
      (flatten false fst es).map fun fs => (loop m o false {} (withDoctype dt fs)).flatten := by
  have merge : ∀ X, (∀ ev ∈ X, NoescapeAgree m ev) →
      tailOut m o fst {} (wsFilterG idNorm (wsCfg m) {} X) = tailOut m o fst {} X := fun X hX => by
    rw [wsMerge_tailOut m o X {} fst {} ⟨rfl, fun _ => rfl, fun _ => rfl⟩ hX]
    cases tailOut m o fst {} X <;> rfl
  cases dt with
  | none => exact merge es hag
  | some d =>
    have := merge (insQ d es) fun ev hev => (mem_insQ d ev es hev).elim (fun h => h ▸ trivial) (hag ev)
    rw [wsFilterG_insQ, tailOut_insQ, tailOut_insQ] at this
    exact this

end Genshi.Output
