/-
  Helper lemmas for C08: the forest-level `WhitespaceFilter` (`wsForestG`, Model/OutputWsForest)
  equals the event-level filter (`wsFilterG`) on the events of a forest (`forestQ`: the forest
  behind `EmptyTagFilter`), for every state, every normalisation function and every rest of the
  stream.
-/
import Genshi.Model.OutputWsForest
import Genshi.Lemmas.OutputTree
import Genshi.Lemmas.OutputWs
namespace Genshi.Output
open Genshi Genshi.Escape

theorem wsf_forestQ_append (a b : List Node) : forestQ (a ++ b) = forestQ a ++ forestQ b := by
  induction a with
  | nil => simp [forestQ]
  | cons n ns ih => simp [forestQ, ih]

theorem forestQ_flushN (norm : Bool → Str → Str) (st : WsSt) : forestQ (wsFlushN norm st) = wsFlushG norm st := by
  unfold wsFlushN wsFlushG
  by_cases h : st.textbuf.isEmpty = true
  · simp [h, forestQ]
  · simp [h, forestQ, treeQ, ofEvent]

theorem wsFlushN_eq_nil (norm : Bool → Str → Str) (st : WsSt) : wsFlushN norm st = [] ↔ st.textbuf = [] := by
  unfold wsFlushN
  by_cases h : st.textbuf.isEmpty = true
  · simp [h]; simpa using h
  · simp [h]; simpa using h

/-- complete nodes or pending text -/
def wsLive (r : List Node × WsSt) : Prop := r.1 ≠ [] ∨ r.2.textbuf ≠ []

theorem wsTreeG_live (norm : Bool → Str → Str) (cfg : WsCfg) (st : WsSt) (n : Node) :
    wsLive (wsTreeG norm cfg st n) := by
  cases n with
  | elem t a ks =>
    by_cases hk : ks.isEmpty = true
    · left; simp [wsTreeG, hk]
    · left; simp [wsTreeG, hk]
  | leaf e =>
    cases e <;> first | (left; simp [wsTreeG]; done) | (right; simp [wsTreeG])

theorem wsForestG_live (norm : Bool → Str → Str) (cfg : WsCfg) (ns : List Node) : ∀ st : WsSt,
    (ns ≠ [] ∨ st.textbuf ≠ []) → wsLive (wsForestG norm cfg st ns) := by
  induction ns with
  | nil => intro st h; right; simpa [wsForestG] using h
  | cons n ns ih =>
    intro st _
    simp only [wsForestG]
    rcases wsTreeG_live norm cfg st n with h1 | h1
    · left; simp [h1]
    · rcases ih _ (Or.inr h1) with h2 | h2
      · left; simp [h2]
      · right; exact h2

theorem wsLive_isEmpty (norm : Bool → Str → Str) {r : List Node × WsSt} (h : wsLive r) :
    (r.1 ++ wsFlushN norm r.2).isEmpty = false := by
  have : r.1 ++ wsFlushN norm r.2 ≠ [] := by
    intro he
    rw [List.append_eq_nil_iff, wsFlushN_eq_nil] at he
    exact h.elim (fun h1 => h1 he.1) (fun h1 => h1 he.2)
  simpa using this

mutual
  theorem wsFilterG_tree (norm : Bool → Str → Str) (cfg : WsCfg) : ∀ (n : Node) (st : WsSt) (rest : List QEv),
      n.ok = true →
      wsFilterG norm cfg st (treeQ n ++ rest) =
        forestQ (wsTreeG norm cfg st n).1 ++ wsFilterG norm cfg (wsTreeG norm cfg st n).2 rest
    | .elem t a ks, st, rest, h => by
        cases ks with
        | nil =>
          simp only [treeQ, List.isEmpty_nil, ↓reduceIte, List.singleton_append, wsTreeG]
          rw [wsFilterG_cons norm cfg st _ _ (by intro s f hh; cases hh), wsf_forestQ_append, forestQ_flushN]
          simp [forestQ, treeQ, wsUpdate]
        | cons k ks' =>
          have hk : okList (k :: ks') = true := by simpa [Node.ok] using h
          simp only [treeQ, List.isEmpty_cons, Bool.false_eq_true, ↓reduceIte, List.cons_append, List.append_assoc,
            wsTreeG]
          rw [wsFilterG_cons norm cfg st _ _ (by intro s f hh; cases hh),
            wsFilterG_forest norm cfg (k :: ks') _ _ hk]
          simp only [List.nil_append]
          rw [wsFilterG_cons norm cfg _ (.end_ t) rest (by intro s f hh; cases hh)]
          have hemp := wsLive_isEmpty norm (wsForestG_live norm cfg (k :: ks')
            (wsUpdate cfg { st with textbuf := [] } (.start t a)) (Or.inl (by simp)))
          rw [wsf_forestQ_append, forestQ_flushN]
          simp only [forestQ, treeQ, hemp, Bool.false_eq_true, ↓reduceIte, wsf_forestQ_append, forestQ_flushN,
            List.append_nil, List.append_assoc, List.cons_append, List.nil_append]
    | .leaf e, st, rest, h => by
        cases e with
        | text s f => simp [treeQ, ofEvent, wsFilterG, wsTreeG, forestQ]
        | start t a => simp [Node.ok, Event.isStartEnd] at h
        | end_ t => simp [Node.ok, Event.isStartEnd] at h
        | _ =>
          simp only [treeQ, ofEvent, List.singleton_append, wsTreeG]
          rw [wsFilterG_cons norm cfg st _ _ (by intro s f hh; cases hh), wsf_forestQ_append, forestQ_flushN]
          simp [forestQ, treeQ, ofEvent]
  theorem wsFilterG_forest (norm : Bool → Str → Str) (cfg : WsCfg) : ∀ (ns : List Node) (st : WsSt) (rest : List QEv),
      okList ns = true →
      wsFilterG norm cfg st (forestQ ns ++ rest) =
        forestQ (wsForestG norm cfg st ns).1 ++ wsFilterG norm cfg (wsForestG norm cfg st ns).2 rest
    | [], st, rest, _ => by simp [forestQ, wsForestG]
    | n :: ns, st, rest, h => by
        simp only [okList, Bool.and_eq_true] at h
        simp only [forestQ, List.append_assoc, wsForestG]
        rw [wsFilterG_tree norm cfg n st _ h.1, wsFilterG_forest norm cfg ns _ rest h.2, wsf_forestQ_append]
        simp
end

theorem wsFilter_forestQ (cfg : WsCfg) (ns : List Node) (h : okList ns = true) :
    wsFilter cfg {} (forestQ ns) = forestQ (wsForest cfg ns) := by
  have := wsFilterG_forest stdNorm cfg ns {} [] h
  simp only [List.append_nil] at this
  simp only [wsFilter, wsForest, this, wsf_forestQ_append, forestQ_flushN, wsFilterG]

theorem preFlat_wsForest (m : Method) (ns : List Node) (hok : okList ns = true) :
    preFlat m true (flattenList ns) = forestQ (wsForest (wsCfg m) ns) := by
  rw [preFlat, if_pos rfl, emptyTag_flattenList ns hok]
  exact wsFilter_forestQ _ ns hok

variable {p : QName → AttrList → Bool} {l : Event → Bool} {f : Node → Bool} {g : List Node → Bool}

theorem Nodewise.flushN (h : Nodewise p l f g) (norm : Bool → Str → Str) (st : WsSt) : g (wsFlushN norm st) = true := by
  unfold wsFlushN
  split
  · exact h.nil
  · rw [h.cons, h.leaf, h.text, h.nil]; rfl

/-- the filter keeps elements and non-text leaves and makes only text leaves -/
theorem Nodewise.wsG (h : Nodewise p l f g) (norm : Bool → Str → Str) (cfg : WsCfg) :
    (∀ n st, f n = true → g (wsTreeG norm cfg st n).1 = true) ∧
    ∀ ns st, g ns = true → g (wsForestG norm cfg st ns).1 = true := by
  refine node_induction ?_ ?_ ?_ ?_
  · intro t a ks ih st hn
    rw [h.elem, Bool.and_eq_true] at hn
    rw [wsTreeG]
    split <;> simp only [h.append, h.flushN, h.cons, h.nil, h.elem, hn.1, ih _ hn.2, Bool.and_self]
  · intro e st hn
    cases e with
    | text s x => exact h.nil
    | _ => simp only [wsTreeG, h.append, h.flushN, h.cons, h.nil, hn, Bool.and_self]
  · intro st _; exact h.nil
  · intro n ns ihn ihs st hn
    rw [h.cons, Bool.and_eq_true] at hn
    rw [wsForestG, h.append, ihn st hn.1, ihs _ hn.2]; rfl

theorem Nodewise.wsForest (h : Nodewise p l f g) (cfg : WsCfg) (ns : List Node) (hn : g ns = true) :
    g (wsForest cfg ns) = true := by
  rw [Output.wsForest, h.append, (h.wsG stdNorm cfg).2 ns {} hn, h.flushN]; rfl

theorem uniformNs_wsTreeG (u : Str) (norm : Bool → Str → Str) (cfg : WsCfg) : ∀ (n : Node) (st : WsSt),
    uniformNs u n = true → forestUniformNs u (wsTreeG norm cfg st n).1 = true :=
  ((uniformNs_nodewise u).wsG norm cfg).1

theorem uniformNs_wsForest (u : Str) (cfg : WsCfg) (ns : List Node) (h : forestUniformNs u ns = true) :
    forestUniformNs u (wsForest cfg ns) = true :=
  (uniformNs_nodewise u).wsForest cfg ns h

theorem mixedOk_wsTreeG (norm : Bool → Str → Str) (cfg : WsCfg) : ∀ (n : Node) (st : WsSt),
    mixedOk n = true → forestMixedOk (wsTreeG norm cfg st n).1 = true :=
  (mixedOk_nodewise.wsG norm cfg).1

theorem mixedOk_wsForest (cfg : WsCfg) (ns : List Node) (h : forestMixedOk ns = true) :
    forestMixedOk (wsForest cfg ns) = true :=
  mixedOk_nodewise.wsForest cfg ns h

end Genshi.Output
