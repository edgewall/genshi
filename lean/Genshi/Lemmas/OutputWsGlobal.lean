/-
  Helper lemmas for C09: two whitespace filters whose normalisations agree up to
  the white-space normal form give outputs that agree up to the normal form —
  in every context, with or without a doctype option.
-/
import Genshi.Lemmas.OutputWsNorm
import Genshi.Lemmas.OutputWsDoctype
namespace Genshi.Output
open Genshi Genshi.Escape

/-- equal in every context, up to the white-space normal form -/
def WsEq (a b : Str) : Prop := ∀ A B : Str, wsNorm (A ++ (a ++ B)) = wsNorm (A ++ (b ++ B))

theorem WsEq.rfl' (a : Str) : WsEq a a := fun _ _ => rfl

theorem WsEq.append {a a' b b' : Str} (h1 : WsEq a a') (h2 : WsEq b b') : WsEq (a ++ b) (a' ++ b') := by
  intro A B
  have e1 := h1 A (b ++ B)
  have e2 := h2 (A ++ a') B
  simp only [List.append_assoc] at e1 e2 ⊢
  rw [e1, e2]

theorem wsEq_wsNorm (x : Str) : WsEq (wsNorm x) x := fun A B => wsNorm_absorb A x B

theorem wsEq_stdNorm (p : Bool) (x : Str) : WsEq (stdNorm p x) (idNorm p x) := by
  unfold stdNorm idNorm
  cases p
  · simpa using wsEq_wsNorm x
  · exact WsEq.rfl' x

/-- two events are the same, or both are Markup text with contents equal up to the normal form -/
def EvRel {ν : Type} (e1 e2 : XEv ν) : Prop :=
  e1 = e2 ∨ ∃ s1 s2, e1 = .text s1 true ∧ e2 = .text s2 true ∧ WsEq s1 s2

inductive ListRel {ν : Type} : List (XEv ν) → List (XEv ν) → Prop where
  | nil : ListRel [] []
  | cons {e1 e2 : XEv ν} {l1 l2 : List (XEv ν)} : EvRel e1 e2 → ListRel l1 l2 → ListRel (e1 :: l1) (e2 :: l2)

theorem ListRel.refl {ν : Type} (l : List (XEv ν)) : ListRel l l := by
  induction l with
  | nil => exact .nil
  | cons e es ih => exact .cons (Or.inl rfl) ih

theorem ListRel.append {ν : Type} {a a' b b' : List (XEv ν)} (h1 : ListRel a a') (h2 : ListRel b b') :
    ListRel (a ++ b) (a' ++ b') := by
  induction h1 with
  | nil => simpa using h2
  | cons he _ ih => exact .cons he ih

theorem wsFilterG_rel (n1 n2 : Bool → Str → Str) (h : ∀ p x, WsEq (n1 p x) (n2 p x)) (cfg : WsCfg)
    (es : List QEv) : ∀ wst : WsSt, ListRel (wsFilterG n1 cfg wst es) (wsFilterG n2 cfg wst es) := by
  have hflush : ∀ wst : WsSt, ListRel (wsFlushG n1 wst) (wsFlushG n2 wst) := by
    intro wst
    unfold wsFlushG
    by_cases he : wst.textbuf.isEmpty = true
    · simp only [he, ↓reduceIte]; exact .nil
    · simp only [he, Bool.false_eq_true, ↓reduceIte]
      exact .cons (Or.inr ⟨_, _, rfl, rfl, h _ _⟩) .nil
  induction es with
  | nil => intro wst; simpa [wsFilterG] using hflush wst
  | cons ev rest ih =>
    intro wst
    by_cases ht : ∃ s safe, ev = .text s safe
    · obtain ⟨s, safe, rfl⟩ := ht
      simp only [wsFilterG]; exact ih _
    · have hnt : ∀ s f, ev ≠ .text s f := fun s f h => ht ⟨s, f, h⟩
      rw [wsFilterG_cons n1 cfg wst ev rest hnt, wsFilterG_cons n2 cfg wst ev rest hnt]
      exact (hflush wst).append (.cons (Or.inl rfl) (ih _))

/-- `none` together, or related results -/
def OptRel {α : Type} (R : α → α → Prop) : Option α → Option α → Prop
  | none, none => True
  | some a, some b => R a b
  | _, _ => False

theorem OptRel.map {α β : Type} {R : α → α → Prop} {S : β → β → Prop} {f g : α → β} {a b : Option α}
    (h : OptRel R a b) (hfg : ∀ x y, R x y → S (f x) (g y)) : OptRel S (a.map f) (b.map g) := by
  cases a <;> cases b <;> first | exact hfg _ _ h | exact h

theorem OptRel.mono {α : Type} {R S : α → α → Prop} {a b : Option α} (h : OptRel R a b)
    (hRS : ∀ x y, R x y → S x y) : OptRel S a b := by
  cases a <;> cases b <;> first | exact hRS _ _ h | exact h

/-- where one side answers, both do -/
theorem OptRel.of_isSome {α : Type} {R : α → α → Prop} {a b : Option α} (h : OptRel R a b) (hb : b.isSome) :
    ∃ x y, a = some x ∧ b = some y ∧ R x y := by
  cases b with
  | none => cases hb
  | some y =>
    cases a with
    | none => cases h
    | some x => exact ⟨x, y, rfl, rfl, h⟩

theorem flatten_rel {X Y : List QEv} (h : ListRel X Y) :
    ∀ fst : FlatSt, OptRel ListRel (flatten false fst X) (flatten false fst Y) := by
  induction h with
  | nil => intro fst; exact ListRel.nil
  | @cons e1 e2 l1 l2 he _ ih =>
    intro fst
    rw [flatten_cons, flatten_cons]
    rcases he with heq | ⟨s1, s2, h1, h2, hw⟩
    · subst heq
      cases flatStep false fst e1 with
      | none => trivial
      | some r => exact (ih r.1).map fun _ _ h => (ListRel.refl r.2).append h
    · subst h1; subst h2
      exact (ih fst).map fun _ _ h => .cons (Or.inr ⟨_, _, rfl, rfl, hw⟩) h

theorem docTypeInsert_rel (d : DocTypeT) {F G : List FEv} (h : ListRel F G) :
    ListRel (docTypeInsert d F) (docTypeInsert d G) := by
  cases h with
  | nil => exact ListRel.refl _
  | @cons e1 e2 l1 l2 he hl =>
    rcases he with heq | ⟨s1, s2, h1, h2, hw⟩
    · subst heq
      cases hd : isDecl e1 with
      | false =>
        rw [docTypeInsert_cons d e1 _ hd, docTypeInsert_cons d e1 _ hd]
        exact .cons (Or.inl rfl) (.cons (Or.inl rfl) hl)
      | true =>
        cases e1 with
        | xmlDecl v e q => exact .cons (Or.inl rfl) (.cons (Or.inl rfl) hl)
        | _ => cases hd
    · subst h1; subst h2
      exact .cons (Or.inl rfl) (.cons (Or.inr ⟨_, _, rfl, rfl, hw⟩) hl)

theorem loop_rel (m : Method) (o : Opts) {F G : List FEv} (h : ListRel F G) :
    ∀ lst : LoopSt, WsEq (loop m o false lst F).flatten (loop m o false lst G).flatten := by
  induction h with
  | nil => intro lst; exact WsEq.rfl' _
  | @cons e1 e2 l1 l2 he _ ih =>
    intro lst
    rcases he with heq | ⟨s1, s2, h1, h2, hw⟩
    · subst heq
      simp only [loop, List.flatten_append]
      exact (WsEq.rfl' _).append (ih _)
    · subst h1; subst h2
      simp only [loop, step, List.flatten_append, List.flatten_cons, List.flatten_nil, List.append_nil]
      exact hw.append (ih _)

end Genshi.Output
