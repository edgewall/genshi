/-
  Helper lemmas for C09: the white-space normal form `wsNorm` by itself.  It deletes nothing but
  blanks, tabs and line feeds (`DelWs`, `wsNorm_deletes_only_ws`), and the normal form of a whole
  text absorbs the normal form of any part of it (`wsNorm_absorb`):
      wsNorm (A ++ wsNorm R ++ B) = wsNorm (A ++ R ++ B).
-/
import Genshi.Model.OutputWs
namespace Genshi.Output
open Genshi

def wsChar (c : Char) : Bool := c == ' ' || c == '\t' || c == '\n'

/-- `a` is `b` with some white-space characters deleted -/
inductive DelWs : Str → Str → Prop
  | nil : DelWs [] []
  | keep (c : Char) {a b : Str} : DelWs a b → DelWs (c :: a) (c :: b)
  | drop {c : Char} {a b : Str} : wsChar c = true → DelWs a b → DelWs a (c :: b)

theorem DelWs.trans {a b c : Str} (h1 : DelWs a b) (h2 : DelWs b c) : DelWs a c := by
  induction h2 generalizing a with
  | nil => exact h1
  | keep d _ ih =>
    cases h1 with
    | keep _ h => exact .keep d (ih h)
    | drop hw h => exact .drop hw (ih h)
  | drop hw _ ih => exact .drop hw (ih h1)

theorem DelWs.sublist {a b : Str} (h : DelWs a b) : a.Sublist b := by
  induction h with
  | nil => exact .slnil
  | keep c _ ih => exact ih.cons_cons c
  | drop _ _ ih => exact ih.cons _

theorem DelWs.filter {a b : Str} (h : DelWs a b) :
    a.filter (fun c => !wsChar c) = b.filter (fun c => !wsChar c) := by
  induction h with
  | nil => rfl
  | keep c _ ih => rw [List.filter_cons, List.filter_cons, ih]
  | drop hw _ ih => rw [List.filter_cons, hw, ih]; rfl

/-- in front of both sides: `p` kept / white space `p` deleted -/
theorem DelWs.prepend {a b : Str} (h : DelWs a b) (p : Str) :
    DelWs (p ++ a) (p ++ b) ∧ (p.all isBlank = true → DelWs a (p ++ b)) := by
  induction p with
  | nil => exact ⟨h, fun _ => h⟩
  | cons c cs ih =>
    refine ⟨.keep c ih.1, fun hp => ?_⟩
    rw [List.all_cons, Bool.and_eq_true] at hp
    refine .drop ?_ (ih.2 hp.2)
    have := hp.1
    simp only [isBlank, Bool.or_eq_true] at this
    rcases this with e | e <;> simp [wsChar, e]

theorem trimGo_delWs (s : Str) : ∀ pend : Str, pend.all isBlank = true → DelWs (trimGo pend s) (pend ++ s) := by
  induction s with
  | nil =>
    intro pend _
    have := (DelWs.nil.prepend pend).1
    rw [List.append_nil] at this
    rwa [trimGo, List.append_nil]
  | cons c cs ih =>
    intro pend hp
    rw [trimGo]
    by_cases hb : isBlank c = true
    · rw [if_pos hb]
      have := ih (pend ++ [c]) (by rw [List.all_append, hp, List.all_cons, hb]; rfl)
      rwa [List.append_assoc] at this
    · rw [if_neg hb]
      have hcs : DelWs (trimGo [] cs) cs := ih [] rfl
      by_cases hn : (c == '\n') = true
      · rw [if_pos hn]
        have hc : c = '\n' := eq_of_beq hn
        subst hc
        exact ((DelWs.keep _ hcs).prepend pend).2 hp
      · rw [if_neg hn]; exact ((DelWs.keep c hcs).prepend pend).1

theorem collapseGo_delWs (s : Str) : ∀ b : Bool, DelWs (collapseGo b s) s := by
  induction s with
  | nil => intro b; exact .nil
  | cons c cs ih =>
    intro b
    rw [collapseGo]
    by_cases hn : (c == '\n') = true
    · rw [if_pos hn]
      cases b
      · have hc : c = '\n' := eq_of_beq hn
        subst hc
        exact .keep _ (ih true)
      · exact .drop (by rw [eq_of_beq hn]; rfl) (ih true)
    · rw [if_neg hn]; exact .keep c (ih false)

theorem wsNorm_deletes_only_ws (x : Str) :
    (wsNorm x).Sublist x ∧ (wsNorm x).filter (fun c => !wsChar c) = x.filter (fun c => !wsChar c) :=
  have h : DelWs (wsNorm x) x := (collapseGo_delWs _ false).trans (trimGo_delWs x [] rfl)
  ⟨h.sublist, h.filter⟩

theorem trimGo_blanks (q : Str) (hq : q.all isBlank = true) : ∀ (p Y : Str), trimGo p (q ++ Y) = trimGo (p ++ q) Y := by
  induction q with
  | nil => intro p Y; simp
  | cons c cs ih =>
    intro p Y
    simp only [List.all_cons, Bool.and_eq_true] at hq
    simp only [List.cons_append, trimGo, hq.1, ↓reduceIte]
    rw [ih hq.2]; simp

theorem trimGo_nonws (w : Str) (hne : w ≠ []) (hw : ∀ d ∈ w, isBlank d = false ∧ (d == '\n') = false) :
    ∀ (p Y : Str), trimGo p (w ++ Y) = p ++ w ++ trimGo [] Y := by
  induction w with
  | nil => exact absurd rfl hne
  | cons c cs ih =>
    intro p Y
    have hc := hw c (by simp)
    simp only [List.cons_append, trimGo, hc.1, hc.2, Bool.false_eq_true, ↓reduceIte]
    by_cases hcs : cs = []
    · subst hcs; simp
    · rw [ih hcs (fun d hd => hw d (by simp [hd])) [] Y]; simp

theorem trimGo_inner (R : Str) : ∀ (p q B : Str), q.all isBlank = true →
    trimGo p (trimGo q R ++ B) = trimGo (p ++ q) (R ++ B) := by
  induction R with
  | nil => intro p q B hq; simp only [trimGo, List.nil_append]; exact trimGo_blanks q hq p B
  | cons c cs ih =>
    intro p q B hq
    by_cases hb : isBlank c = true
    · simp only [trimGo, hb, ↓reduceIte, List.cons_append]
      rw [ih p (q ++ [c]) B (by simp [hq, hb])]; simp
    · by_cases hn : (c == '\n') = true
      · have hc : c = '\n' := by simpa using hn
        subst hc
        have hbn : isBlank '\n' = false := by decide
        simp only [trimGo, hbn, Bool.false_eq_true, ↓reduceIte, BEq.rfl, List.cons_append]
        rw [ih [] [] B (by simp)]; simp
      · simp only [trimGo, hb, hn, Bool.false_eq_true, ↓reduceIte, List.cons_append, List.append_assoc]
        rw [trimGo_blanks q hq]
        simp only [trimGo, hb, hn, Bool.false_eq_true, ↓reduceIte]
        rw [ih [] [] B (by simp)]; simp

theorem trimGo_absorb (A : Str) : ∀ (p R B : Str), trimGo p (A ++ (trimGo [] R ++ B)) = trimGo p (A ++ (R ++ B)) := by
  induction A with
  | nil => intro p R B; simpa using trimGo_inner R p [] B (by simp)
  | cons c cs ih =>
    intro p R B
    simp only [List.cons_append, trimGo]
    split
    · exact ih _ R B
    · split
      · rw [ih [] R B]
      · rw [ih [] R B]

/-- up to a line feed, trimming does not look at what follows it -/
theorem trimGo_nl (X : Str) : ∀ p : Str, ∃ U, ∀ Z, trimGo p (X ++ '\n' :: Z) = U ++ '\n' :: trimGo [] Z := by
  induction X with
  | nil => intro p; exact ⟨[], fun Z => by simp [trimGo, isBlank]⟩
  | cons c cs ih =>
    intro p
    simp only [List.cons_append, trimGo]
    split
    · exact ih _
    · obtain ⟨U, h⟩ := ih []
      split
      · exact ⟨'\n' :: U, fun Z => by rw [h]; rfl⟩
      · exact ⟨p ++ c :: U, fun Z => by rw [h]; simp⟩

theorem collapseGo_nonws (w : Str) (hne : w ≠ []) (hw : ∀ d ∈ w, (d == '\n') = false) :
    ∀ (b : Bool) (Y : Str), collapseGo b (w ++ Y) = w ++ collapseGo false Y := by
  induction w with
  | nil => exact absurd rfl hne
  | cons c cs ih =>
    intro b Y
    have hc := hw c (by simp)
    simp only [List.cons_append, collapseGo, hc, Bool.false_eq_true, ↓reduceIte]
    by_cases hcs : cs = []
    · subst hcs; simp
    · rw [ih hcs (fun d hd => hw d (by simp [hd])) false Y]

theorem collapseGo_dup (U : Str) : ∀ (b : Bool) (V : Str),
    collapseGo b (U ++ '\n' :: '\n' :: V) = collapseGo b (U ++ '\n' :: V) := by
  induction U with
  | nil => intro b V; cases b <;> simp [collapseGo]
  | cons c cs ih =>
    intro b V
    simp only [List.cons_append, collapseGo]
    split
    · split <;> rw [ih]
    · rw [ih]

theorem wsNorm_dup (X Y : Str) : wsNorm (X ++ '\n' :: '\n' :: Y) = wsNorm (X ++ '\n' :: Y) := by
  obtain ⟨U, h⟩ := trimGo_nl X []
  simp only [wsNorm, trim, collapse]
  rw [h, h, show trimGo [] ('\n' :: Y) = '\n' :: trimGo [] Y by simp [trimGo, isBlank]]
  exact collapseGo_dup _ false _

theorem wsNorm_collapse_inner (S : Str) : ∀ (b : Bool) (A B : Str), (b = true → ∃ A', A = A' ++ ['\n']) →
    wsNorm (A ++ (collapseGo b S ++ B)) = wsNorm (A ++ (S ++ B)) := by
  induction S with
  | nil => intro b A B _; simp [collapseGo]
  | cons c cs ih =>
    intro b A B hb
    by_cases hn : (c == '\n') = true
    · have hc : c = '\n' := by simpa using hn
      subst hc
      cases b with
      | true =>
        obtain ⟨A', hA⟩ := hb rfl
        simp only [collapseGo, BEq.rfl, ↓reduceIte]
        rw [ih true A B (fun _ => ⟨A', hA⟩)]
        subst hA
        simp only [List.append_assoc, List.cons_append]
        exact (wsNorm_dup A' (cs ++ B)).symm
      | false =>
        simp only [collapseGo, BEq.rfl, ↓reduceIte, Bool.false_eq_true, List.cons_append]
        have := ih true (A ++ ['\n']) B (fun _ => ⟨A, rfl⟩)
        simpa using this
    · simp only [collapseGo, hn, Bool.false_eq_true, ↓reduceIte, List.cons_append]
      have := ih false (A ++ [c]) B (by intro h; cases h)
      simpa using this

theorem wsNorm_absorb (A R B : Str) : wsNorm (A ++ (wsNorm R ++ B)) = wsNorm (A ++ (R ++ B)) := by
  have h1 : wsNorm (A ++ (wsNorm R ++ B)) = wsNorm (A ++ (trim R ++ B)) := by
    simp only [wsNorm]
    exact wsNorm_collapse_inner (trim R) false A B (by intro h; cases h)
  rw [h1]
  simp only [wsNorm, trim]
  rw [trimGo_absorb A [] R B]

end Genshi.Output
