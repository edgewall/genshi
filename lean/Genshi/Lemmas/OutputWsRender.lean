/-
  Helper lemmas for C08: `strip_whitespace=True` on a forest reduces to `strip_whitespace=False` on
  the normalised forest.
  * The filter's forest is the normalised forest with its text leaves pre-escaped and marked Markup:
    `plainF m false (wsForest (wsCfg m) ns) = normForest m ns` (`wsPlain`, `plainF_wsForest`: a walk of
    both functions with the states in step, `WsSim`; no serializer context is involved).
  * Pre-escaped leaves are written like plain ones (`mkR`, Lemmas/OutputMarkupForest); hence the main
    loop writes the same for the filter's forest and the normalised forest (`wsSim_forest`,
    `serSpec_ws_eq`; with a doctype option `serSpec_ws_dt_eq`).
  * The filter chain with `WhitespaceFilter` on a forest (`filtered_strip_forestM`, one namespace:
    `filtered_strip_forestU`); the normalised forest is again a forest of the same kind
    (`okList_normForest`, `uniformNs_normForest`, `mixedOk_normForest`), so every statement about
    `strip_whitespace=False` applies to it.
  Each statement comes for forests in one namespace (`rendU`) and, marked `M`, for forests that mix
  namespaces (`rendM`).
-/
import Genshi.Lemmas.OutputMarkupForest
namespace Genshi.Output
open Genshi Genshi.Escape

variable {p : QName → AttrList → Bool} {l : Event → Bool} {f : Node → Bool} {g : List Node → Bool}

theorem Nodewise.flushS (h : Nodewise p l f g) (pres : Bool) (b : Option Str) : g (flushS pres b) = true := by
  cases b with
  | none => exact h.nil
  | some s => rw [Output.flushS, h.cons, h.leaf, h.text, h.nil]; rfl

/-- the normalisation keeps elements and non-text leaves and makes only text leaves -/
theorem Nodewise.normA (h : Nodewise p l f g) (m : Method) :
    (∀ n pres b, f n = true → g (normTreeA m pres b n).1 = true) ∧
    ∀ ns pres b, g ns = true → g (normForestA m pres b ns).1 = true := by
  refine node_induction ?_ ?_ ?_ ?_
  · intro t a ks ih pres b hn
    rw [h.elem, Bool.and_eq_true] at hn
    rw [normTreeA]
    split <;> simp only [h.append, h.flushS, h.cons, h.nil, h.elem, hn.1, ih _ _ hn.2, Bool.and_self]
  · intro e pres b hn
    cases e with
    | text s x => exact h.nil
    | _ => simp only [normTreeA, h.append, h.flushS, h.cons, h.nil, hn, Bool.and_self]
  · intro pres b _; exact h.nil
  · intro n ns ihn ihs pres b hn
    rw [h.cons, Bool.and_eq_true] at hn
    rw [normForestA, h.append, ihn pres b hn.1, ihs _ _ hn.2]; rfl

theorem Nodewise.normForest (h : Nodewise p l f g) (m : Method) (ns : List Node) (hn : g ns = true) :
    g (normForest m ns) = true := by
  rw [Output.normForest, h.append, (h.normA m).2 ns false none hn, h.flushS]; rfl

theorem okList_normTreeA (m : Method) : ∀ (n : Node) (p : Bool) (b : Option Str),
    n.ok = true → okList (normTreeA m p b n).1 = true :=
  (ok_nodewise.normA m).1

theorem okList_normForest (m : Method) (ns : List Node) (h : okList ns = true) : okList (normForest m ns) = true :=
  ok_nodewise.normForest m ns h

theorem uniformNs_normTreeA (u : Str) (m : Method) : ∀ (n : Node) (p : Bool) (b : Option Str),
    uniformNs u n = true → forestUniformNs u (normTreeA m p b n).1 = true :=
  ((uniformNs_nodewise u).normA m).1

theorem uniformNs_normForest (u : Str) (m : Method) (ns : List Node) (h : forestUniformNs u ns = true) :
    forestUniformNs u (normForest m ns) = true :=
  (uniformNs_nodewise u).normForest m ns h

theorem mixedOk_normTreeA (m : Method) : ∀ (n : Node) (p : Bool) (b : Option Str),
    mixedOk n = true → forestMixedOk (normTreeA m p b n).1 = true :=
  (mixedOk_nodewise.normA m).1

theorem mixedOk_normForest (m : Method) (ns : List Node) (h : forestMixedOk ns = true) :
    forestMixedOk (normForest m ns) = true :=
  mixedOk_nodewise.normForest m ns h

theorem wsSim_init : WsSim {} none 0 false := ⟨rfl, rfl, rfl, rfl, rfl, by intro p hp; cases hp⟩

/-- the filter's forest `r.1` is, up to its pre-escaped (Markup) text leaves, the normalised forest
    `r'.1`, and it is inside the domain of `mkR`; the states are in step -/
structure WsPlain (m : Method) (pn : Nat) (rawP : Bool) (r : List Node × WsSt) (r' : List Node × Option Str) : Prop where
  sim : WsSim r.2 r'.2 pn rawP
  plain : plainF m rawP r.1 = r'.1
  dom : mkDomF m rawP r.1 = true

/-- the pending text, written out: pre-escaped piecewise and normalised by the filter, joined and
    normalised by the specification; escaping commutes with the normal form -/
theorem wsPlain_flush (m : Method) (st : WsSt) (buf : Option Str) (pn : Nat) (rawP : Bool) (h : WsSim st buf pn rawP) :
    plainF m rawP (wsFlushN stdNorm st) = flushS (pn != 0) buf ∧ mkDomF m rawP (wsFlushN stdNorm st) = true := by
  obtain ⟨hp, _, _, he, ht, hf⟩ := h
  cases buf with
  | none =>
    have : st.textbuf.isEmpty = true := by simpa using he
    simp only [wsFlushN, this, ↓reduceIte]; exact ⟨rfl, rfl⟩
  | some b =>
    have hne : st.textbuf.isEmpty = false := by simpa using he
    have hb : st.textbuf.flatMap (fun p => p.1) = b := by simpa using ht
    simp only [wsFlushN, hne, Bool.false_eq_true, ↓reduceIte, plainF, plainT, mkDomF, mkDomT, flushS, hp, Bool.true_and,
      Bool.and_true]
    cases rawP with
    | true => rw [wsf_bufOut_raw _ hf, hb]; exact ⟨rfl, rfl⟩
    | false =>
      rw [wsf_bufOut_plain _ hf, hb, wsf_stdNorm_escape]
      simp only [Bool.not_false, ↓reduceIte, unescape_escapeSpec, decide_eq_true (properEsc_escape _), and_self]

theorem wsPlain_node (m : Method) (pn : Nat) (st st' : WsSt) (buf : Option Str) (x y : Node)
    (h : WsSim st buf pn false) (h' : WsSim st' none pn false) (hxy : plainT m false x = y)
    (hd : mkDomT m false x = true) :
    WsPlain m pn false (wsFlushN stdNorm st ++ [x], st') (flushS (pn != 0) buf ++ [y], none) := by
  obtain ⟨h1, h2⟩ := wsPlain_flush m st buf pn false h
  exact ⟨h', by rw [plainF_append, h1, plainF, plainF, hxy], by rw [mkDomF_append, h2, mkDomF, mkDomF, hd]; rfl⟩

theorem wsPlain (m : Method) :
    (∀ (n : Node) (st : WsSt) (buf : Option Str) (pn : Nat) (rawP : Bool), WsSim st buf pn rawP →
      wsDomT m rawP n = true →
      WsPlain m pn rawP (wsTreeG stdNorm (wsCfg m) st n) (normTreeA m (pn != 0) buf n)) ∧
    ∀ (ns : List Node) (st : WsSt) (buf : Option Str) (pn : Nat) (rawP : Bool), WsSim st buf pn rawP →
      wsDomF m rawP ns = true →
      WsPlain m pn rawP (wsForestG stdNorm (wsCfg m) st ns) (normForestA m (pn != 0) buf ns) := by
  refine node_induction ?_ ?_ ?_ ?_
  · intro t a ks ih st buf pn rawP h hd
    simp only [wsDomT, Bool.and_eq_true, Bool.not_eq_true', beq_iff_eq] at hd
    obtain ⟨⟨hr, hag⟩, hk⟩ := hd
    subst hr
    have hcl := wsSim_cleared { st with textbuf := [] } pn false rfl h.pres h.noesc h.cd
    cases ks with
    | nil => exact wsPlain_node m pn st _ buf _ _ h hcl rfl rfl
    | cons k ks' =>
      simp only [wsTreeG, normTreeA, List.isEmpty_cons, Bool.false_eq_true, ↓reduceIte]
      have hsim1 : WsSim (wsUpdate (wsCfg m) { st with textbuf := [] } (.start t a)) none
          (if pn != 0 || presTrig m t a then pn + 1 else pn) (rawOf m t) := by
        rw [wsUpdate_start]
        refine wsSim_cleared _ _ _ rfl ?_ ?_ h.cd
        · simp only [h.pres, presTrig, wsCfg_preserve, Bool.or_assoc]; congr
        · show (st.noescape || qInTable (wsCfg m).noescape t) = rawOf m t; rw [hag, h.noesc]; rfl
      have ihk := ih _ none _ (rawOf m t) hsim1 hk
      rw [presDepth_ne] at ihk
      revert ihk
      generalize wsForestG stdNorm (wsCfg m) (wsUpdate (wsCfg m) { st with textbuf := [] } (.start t a)) (k :: ks') = r
      generalize normForestA m (pn != 0 || presTrig m t a) none (k :: ks') = r'
      intro ihk
      have hflK := wsPlain_flush m r.2 r'.2 _ (rawOf m t) ihk.sim
      rw [presDepth_ne] at hflK
      have hsimE : WsSim (wsUpdate (wsCfg m) { r.2 with textbuf := [] } (.end_ t)) none pn false := by
        refine wsSim_cleared _ _ _ rfl ?_ rfl ihk.sim.cd
        show (if r.2.preserve != 0 then r.2.preserve - 1 else 0) = pn
        rw [ihk.sim.pres]; exact presDepth_pop pn (presTrig m t a)
      refine wsPlain_node m pn st _ buf _ _ h hsimE ?_ ?_
      · rw [plainT, plainF_append, ihk.plain, hflK.1]
      · rw [mkDomT, mkDomF_append, ihk.dom, hflK.2]; rfl
  · intro e st buf pn rawP h hd
    cases e with
    | text x f =>
      have hf : f = false := by simpa [wsDomT] using hd
      subst hf
      simp only [wsTreeG, normTreeA]
      refine ⟨⟨h.pres, h.noesc, h.cd, by simp, ?_, ?_⟩, rfl, rfl⟩
      · simp [List.flatMap_append, h.txt]
      · intro q hq
        simp only [List.mem_append, List.mem_singleton] at hq
        rcases hq with hq | hq
        · exact h.flags q hq
        · subst hq; simp [h.noesc, h.cd]
    | start t a => cases hd
    | end_ t => cases hd
    | startNs p u => cases hd
    | endNs p => cases hd
    | startCdata => cases hd
    | endCdata => cases hd
    | _ =>
      have hr : rawP = false := by simpa [wsDomT] using hd
      subst hr
      exact wsPlain_node m pn st _ buf _ _ h (wsSim_cleared { st with textbuf := [] } pn false rfl h.pres h.noesc h.cd)
        rfl rfl
  · intro st buf pn rawP h _; exact ⟨h, rfl, rfl⟩
  · intro n ns ihn ihs st buf pn rawP h hd
    simp only [wsDomF, Bool.and_eq_true] at hd
    have h1 := ihn st buf pn rawP h hd.1
    have h2 := ihs _ _ pn rawP h1.sim hd.2
    exact ⟨h2.sim, by rw [wsForestG, normForestA, plainF_append, h1.plain, h2.plain],
      by rw [wsForestG, mkDomF_append, h1.dom, h2.dom]; rfl⟩

/-- what the walk gives for a flattening `R`: states in step, written alike from `c`, the raw flag
    kept -/
theorem WsPlain.out {P : Type} {m : Method} {pn : Nat} {rawP : Bool} {r : List Node × WsSt}
    {r' : List Node × Option Str} (h : WsPlain m pn rawP r r') (o : Opts) (R : Rend P) (p : P) (c : Ctx)
    (hc : c.raw = rawP) :
    WsSim r.2 r'.2 pn rawP ∧ r.1.isEmpty = r'.1.isEmpty ∧ OutEqR m o R p c r.1 r'.1 ∧
      (wsCtxEnd m o c (R.F p r.1)).raw = rawP := by
  have x := (mkR m o R).2 r.1 rawP c p hc h.dom
  rw [h.plain] at x
  exact ⟨h.sim, by rw [← h.plain, plainF_isEmpty], x.1, x.2⟩

theorem wsSim_tree (m : Method) (o : Opts) (u : Str) : ∀ (n : Node) (st : WsSt) (buf : Option Str) (pn : Nat)
    (rawP : Bool) (c : Ctx) (s : Bool), WsSim st buf pn rawP → c.raw = rawP → wsDomT m rawP n = true →
    SimOut m o u s c pn rawP (wsTreeG stdNorm (wsCfg m) st n) (normTreeA m (pn != 0) buf n) :=
  fun n st buf pn rawP c s h hc hd =>
    have x := ((wsPlain m).1 n st buf pn rawP h hd).out o rendU (u, s) c hc
    ⟨x.1, x.2.1, x.2.2.1, x.2.2.2⟩

theorem wsSim_forest (m : Method) (o : Opts) (u : Str) : ∀ (ns : List Node) (st : WsSt) (buf : Option Str) (pn : Nat)
    (rawP : Bool) (c : Ctx) (s : Bool), WsSim st buf pn rawP → c.raw = rawP → wsDomF m rawP ns = true →
    SimOut m o u s c pn rawP (wsForestG stdNorm (wsCfg m) st ns) (normForestA m (pn != 0) buf ns) :=
  fun ns st buf pn rawP c s h hc hd =>
    have x := ((wsPlain m).2 ns st buf pn rawP h hd).out o rendU (u, s) c hc
    ⟨x.1, x.2.1, x.2.2.1, x.2.2.2⟩

theorem wsSim_treeM (m : Method) (o : Opts) : ∀ (n : Node) (st : WsSt) (buf : Option Str) (pn : Nat)
    (rawP : Bool) (c : Ctx) (cur : Str), WsSim st buf pn rawP → c.raw = rawP → wsDomT m rawP n = true →
    SimOutM m o cur c pn rawP (wsTreeG stdNorm (wsCfg m) st n) (normTreeA m (pn != 0) buf n) :=
  fun n st buf pn rawP c cur h hc hd =>
    have x := ((wsPlain m).1 n st buf pn rawP h hd).out o rendM cur c hc
    ⟨x.1, x.2.1, x.2.2.1, x.2.2.2⟩

theorem wsSim_forestM (m : Method) (o : Opts) : ∀ (ns : List Node) (st : WsSt) (buf : Option Str) (pn : Nat)
    (rawP : Bool) (c : Ctx) (cur : Str), WsSim st buf pn rawP → c.raw = rawP → wsDomF m rawP ns = true →
    SimOutM m o cur c pn rawP (wsForestG stdNorm (wsCfg m) st ns) (normForestA m (pn != 0) buf ns) :=
  fun ns st buf pn rawP c cur h hc hd =>
    have x := ((wsPlain m).2 ns st buf pn rawP h hd).out o rendM cur c hc
    ⟨x.1, x.2.1, x.2.2.1, x.2.2.2⟩

/-- the whole filter (final flush included) against the specification -/
theorem plainF_wsForest (m : Method) (ns : List Node) (hd : wsDom m ns = true) :
    plainF m false (wsForest (wsCfg m) ns) = normForest m ns ∧ mkDom m (wsForest (wsCfg m) ns) = true := by
  have h := (wsPlain m).2 ns {} none 0 false wsSim_init hd
  have hf := wsPlain_flush m _ _ 0 false h.sim
  exact ⟨by rw [wsForest, normForest, plainF_append, h.plain, hf.1]; rfl,
    by rw [mkDom, wsForest, mkDomF_append, h.dom, hf.2]; rfl⟩

theorem serSpecR_ws_eq {P : Type} (m : Method) (o : Opts) (R : Rend P) (p : P) (c : Ctx) (hc : c.raw = false)
    (ns : List Node) (hd : wsDom m ns = true) :
    serSpec m o c (R.F p (wsForest (wsCfg m) ns)) = serSpec m o c (R.F p (normForest m ns)) := by
  obtain ⟨hp, hdom⟩ := plainF_wsForest m ns hd
  rw [← hp]; exact ((mkR m o R).2 _ false c p hc hdom).1.1

theorem serSpec_ws_eq (m : Method) (o : Opts) (u : Str) (c : Ctx) (hc : c.raw = false) (ns : List Node)
    (hd : wsDom m ns = true) :
    serSpec m o c (forestFu u false (wsForest (wsCfg m) ns)) = serSpec m o c (forestFu u false (normForest m ns)) :=
  serSpecR_ws_eq m o rendU (u, false) c hc ns hd

theorem filtered_strip_forestM (m : Method) (dropd : Bool) (dopt : Option DocTypeT)
    (ns : List Node) (hok : okList ns = true) (hns : forestMixedOk ns = true) :
    filtered m { strip := true, cache := false, doctype := dopt, dropXmlDecl := dropd } (flattenList ns) =
      some (withDoctype dopt (forestFm [] (wsForest (wsCfg m) ns))) := by
  rw [filtered, preFlat_wsForest m ns hok, flatten_init_forest m _ (mixedOk_wsForest (wsCfg m) ns hns)]; rfl

theorem filtered_strip_forestU (m : Method) (dropd : Bool) (u : Str) (hu : u ≠ xmlNs) (dopt : Option DocTypeT)
    (ns : List Node) (hok : okList ns = true) (hns : forestUniformNs u ns = true) :
    filtered m { strip := true, cache := false, doctype := dopt, dropXmlDecl := dropd } (flattenList ns) =
      some (withDoctype dopt (forestFu u false (wsForest (wsCfg m) ns))) := by
  rw [← (treeFm_uniform u).2 _ (uniformNs_wsForest u (wsCfg m) ns hns) [] false (declAttr_eq_declM u false).symm]
  exact filtered_strip_forestM m dropd dopt ns hok (forestMixedOk_of_uniform u hu ns hns)

theorem wsFlushN_pending (norm : Bool → Str → Str) (st : WsSt) (h : st.textbuf ≠ []) :
    ∃ x, wsFlushN norm st = [.leaf (.text x true)] := by
  unfold wsFlushN
  have : st.textbuf.isEmpty = false := by simpa using h
  simp [this]

/-- at the head of a forest `y` counts for `goodHead` as `n` does (a non-text node goes through the
    filter and through `normTreeA` as a node of the same kind) -/
def sameHead (y n : Node) : Prop := ∀ r r', goodHead (y :: r) = goodHead (n :: r')

theorem sameHead_refl (n : Node) : sameHead n n := fun _ _ => by
  cases n with
  | elem t a ks => rfl
  | leaf e => cases e <;> rfl

theorem wsTreeG_nontext (norm : Bool → Str → Str) (cfg : WsCfg) (st : WsSt) (n : Node)
    (h : ∀ s f, n ≠ .leaf (.text s f)) :
    ∃ y, (wsTreeG norm cfg st n).1 = wsFlushN norm st ++ [y] ∧ sameHead y n := by
  cases n with
  | elem t a ks => cases ks <;> exact ⟨_, by simp only [wsTreeG]; rfl, fun _ _ => rfl⟩
  | leaf e =>
    refine ⟨.leaf e, ?_, sameHead_refl _⟩
    cases e <;> first | exact absurd rfl (h _ _) | simp only [wsTreeG]

theorem wsForestG_pending_first (norm : Bool → Str → Str) (cfg : WsCfg) : ∀ (ns : List Node) (st : WsSt),
    st.textbuf ≠ [] →
    ∃ x rest, (wsForestG norm cfg st ns).1 ++ wsFlushN norm (wsForestG norm cfg st ns).2 = .leaf (.text x true) :: rest
  | [], st, h => by
      obtain ⟨x, hx⟩ := wsFlushN_pending norm st h
      exact ⟨x, [], by simp [wsForestG, hx]⟩
  | n :: ns, st, h => by
      simp only [wsForestG]
      by_cases ht : ∃ s f, n = .leaf (.text s f)
      · obtain ⟨s, f, rfl⟩ := ht
        have := wsForestG_pending_first norm cfg ns
          { st with textbuf := st.textbuf ++ [(s, f || st.noescape || st.inCdata)] } (by simp)
        simpa [wsTreeG] using this
      · have hn : ∀ s f, n ≠ .leaf (.text s f) := fun s f e => ht ⟨s, f, e⟩
        obtain ⟨y, hy, _⟩ := wsTreeG_nontext norm cfg st n hn
        obtain ⟨x, hx⟩ := wsFlushN_pending norm st h
        rw [hy, hx]
        exact ⟨x, _, rfl⟩

theorem normTreeA_nontext (m : Method) (p : Bool) (b : Option Str) (n : Node)
    (h : ∀ s f, n ≠ .leaf (.text s f)) :
    ∃ y, (normTreeA m p b n).1 = flushS p b ++ [y] ∧ sameHead y n := by
  cases n with
  | elem t a ks => cases ks <;> exact ⟨_, by simp only [normTreeA]; rfl, fun _ _ => rfl⟩
  | leaf e =>
    refine ⟨.leaf e, ?_, sameHead_refl _⟩
    cases e <;> first | exact absurd rfl (h _ _) | simp only [normTreeA]

theorem normForestA_pending_first (m : Method) (p : Bool) : ∀ (ns : List Node) (b : Str),
    ∃ x rest, (normForestA m p (some b) ns).1 ++ flushS p (normForestA m p (some b) ns).2 = .leaf (.text x false) :: rest
  | [], b => ⟨_, [], rfl⟩
  | n :: ns, b => by
      simp only [normForestA]
      by_cases ht : ∃ s f, n = .leaf (.text s f)
      · obtain ⟨s, f, rfl⟩ := ht
        have := normForestA_pending_first m p ns (b ++ s)
        simpa [normTreeA] using this
      · have hn : ∀ s f, n ≠ .leaf (.text s f) := fun s f e => ht ⟨s, f, e⟩
        obtain ⟨y, hy, _⟩ := normTreeA_nontext m p (some b) n hn
        rw [hy]
        exact ⟨_, _, rfl⟩

theorem goodHead_dom (m : Method) (n : Node) (rest : List Node) (hd : wsDomT m false n = true)
    (hx : ∀ v e s, n ≠ .leaf (.xmlDecl v e s)) : goodHead (n :: rest) = true := by
  cases n with
  | elem t a ks => rfl
  | leaf e => cases e <;> first | rfl | exact absurd rfl (hx _ _ _) | cases hd

theorem goodHead_wsForest (m : Method) (n : Node) (rest : List Node) (hd : wsDom m (n :: rest) = true)
    (hx : ∀ v e s, n ≠ .leaf (.xmlDecl v e s)) : goodHead (wsForest (wsCfg m) (n :: rest)) = true := by
  simp only [wsDom, wsDomF, Bool.and_eq_true] at hd
  by_cases ht : ∃ s f, n = .leaf (.text s f)
  · obtain ⟨s, f, rfl⟩ := ht
    obtain ⟨x, r, hxr⟩ := wsForestG_pending_first stdNorm (wsCfg m) rest
      { ({} : WsSt) with textbuf := ([] : List (Str × Bool)) ++ [(s, f || false || false)] } (by simp)
    have : wsForest (wsCfg m) (.leaf (.text s f) :: rest) = .leaf (.text x true) :: r := by
      simpa [wsForest, wsForestG, wsTreeG] using hxr
    rw [this]; rfl
  · obtain ⟨y, hy, hs⟩ := wsTreeG_nontext stdNorm (wsCfg m) {} n fun s f e => ht ⟨s, f, e⟩
    simp only [wsForest, wsForestG, hy]
    exact (hs _ rest).trans (goodHead_dom m n rest hd.1 hx)

theorem goodHead_plainF (m : Method) (r : Bool) (X : List Node) : goodHead (plainF m r X) = goodHead X := by
  cases X with
  | nil => rfl
  | cons n rest =>
    cases n with
    | elem t a ks => rfl
    | leaf e => cases e <;> rfl

theorem goodHead_normForest (m : Method) (n : Node) (rest : List Node) (hd : wsDom m (n :: rest) = true)
    (hx : ∀ v e s, n ≠ .leaf (.xmlDecl v e s)) : goodHead (normForest m (n :: rest)) = true := by
  rw [← (plainF_wsForest m _ hd).1, goodHead_plainF]
  exact goodHead_wsForest m n rest hd hx

theorem wsForest_xmlDecl (cfg : WsCfg) (v : Str) (e : Option Str) (s : Int) (rest : List Node) :
    wsForest cfg (.leaf (.xmlDecl v e s) :: rest) = .leaf (.xmlDecl v e s) :: wsForest cfg rest := by
  simp [wsForest, wsForestG, wsTreeG, wsFlushN, ofEvent, wsUpdate]

theorem normForest_xmlDecl (m : Method) (v : Str) (e : Option Str) (s : Int) (rest : List Node) :
    normForest m (.leaf (.xmlDecl v e s) :: rest) = .leaf (.xmlDecl v e s) :: normForest m rest := by
  simp [normForest, normForestA, normTreeA, flushS]

theorem serSpecR_ws_dt_eq {P : Type} (m : Method) (o : Opts) (R : Rend P) (p : P) (dopt : Option DocTypeT)
    (ns : List Node) (hd : wsDom m ns = true) :
    serSpec m o {} (withDoctype dopt (R.F p (wsForest (wsCfg m) ns))) =
      serSpec m o {} (withDoctype dopt (R.F p (normForest m ns))) := by
  obtain ⟨hp, hdom⟩ := plainF_wsForest m ns hd
  rw [← hp]; exact serSpecR_mk_dt_eq m o R p dopt _ hdom

theorem serSpec_ws_dt_eq (m : Method) (o : Opts) (u : Str) (dopt : Option DocTypeT) (ns : List Node)
    (hd : wsDom m ns = true) :
    serSpec m o {} (withDoctype dopt (forestFu u false (wsForest (wsCfg m) ns))) =
      serSpec m o {} (withDoctype dopt (forestFu u false (normForest m ns))) :=
  serSpecR_ws_dt_eq m o rendU (u, false) dopt ns hd

theorem serSpec_ws_dt_eqM (m : Method) (o : Opts) (dopt : Option DocTypeT) (ns : List Node)
    (hd : wsDom m ns = true) :
    serSpec m o {} (withDoctype dopt (forestFm [] (wsForest (wsCfg m) ns))) =
      serSpec m o {} (withDoctype dopt (forestFm [] (normForest m ns))) :=
  serSpecR_ws_dt_eq m o rendM [] dopt ns hd

end Genshi.Output
