/-
  C08 — specification side of `strip_whitespace=True` over forests, and what the proof that the
  serializers write the same for (the filter's Markup forest) and (the normalised forest) is made of.

  * `normForest m ns` (SPECIFICATION, not a model of genshi code): the forest with every run of
    adjacent text leaves merged into one plain text leaf whose data is the concatenation of the
    run, trimmed and collapsed (`wsNorm`: blanks in front of a line feed deleted, runs of line feeds
    collapsed) unless the run stands inside preserved space — below an element of the serializer's
    `_PRESERVE_SPACE` table or one that carries `xml:space="preserve"`.
  * `wsDom m`: the forests on which the theorem is stated — text leaves are plain (not Markup), no
    CDATA markers, an element of the filter's `noescape` table (html: script / style) holds only
    text and is one the serializer writes raw as well (`rawOf`), nothing but text stands inside it.
  * `OutEqR`: "written alike from a context, leaving the same context", for any flattening `Rend`
    (Lemmas/OutputForest); `WsSim`: filter state and the specification's pending
    text in step.  The walk of both functions (`wsPlain`) and what follows from it for the output
    (`wsSim_forest`, `serSpec_ws_eq`) are in `Lemmas/OutputWsRender.lean`.
  Mathlib-free (the driver computes `normForest` and `wsDom` for the `expect` correspondence).
-/
import Genshi.Lemmas.OutputWsForest
import Genshi.Lemmas.OutputSafeText
import Genshi.Lemmas.OutputWs
namespace Genshi.Output
open Genshi Genshi.Escape

/-- white space is preserved below this element -/
def presTrig (m : Method) (t : QName) (a : AttrList) : Bool :=
  qInTable (preserveElems m) t || attrGet a xmlSpaceQ == some preserveLit

/-- the pending run of text as one plain text leaf -/
def flushS (pres : Bool) : Option Str → List Node
  | none => []
  | some s => [.leaf (.text (stdNorm pres s) false)]

mutual
  /-- one tree: the nodes complete after it and the pending run of text -/
  def normTreeA (m : Method) (pres : Bool) (buf : Option Str) : Node → List Node × Option Str
    | .elem t a ks =>
        if ks.isEmpty then (flushS pres buf ++ [.elem t a []], none)
        else
          let r := normForestA m (pres || presTrig m t a) none ks
          (flushS pres buf ++ [.elem t a (r.1 ++ flushS (pres || presTrig m t a) r.2)], none)
    | .leaf e =>
        match e with
        | .text s _ => ([], some (buf.getD [] ++ s))
        | e => (flushS pres buf ++ [.leaf e], none)
  def normForestA (m : Method) (pres : Bool) (buf : Option Str) : List Node → List Node × Option Str
    | [] => ([], buf)
    | n :: ns =>
        let r := normTreeA m pres buf n
        let r2 := normForestA m pres r.2 ns
        (r.1 ++ r2.1, r2.2)
end

/-- text runs merged; white space normalised outside preserved space -/
def normForest (m : Method) (ns : List Node) : List Node :=
  let r := normForestA m false none ns
  r.1 ++ flushS false r.2

/-- the serializer writes the text children of this element raw -/
def rawOf (m : Method) (t : QName) : Bool := decide (m = .html) && inTable (noescapeElems .html) t.loc

mutual
  /-- `rawP`: directly below a raw-text element.  An element has to be raw for the filter (qualified
      name in its `noescape` table) exactly when it is raw for the main loop (flattened name,
      `rawOf`): the two look the name up differently (`NoescapeAgree`, Lemmas/OutputWs). -/
  def wsDomT (m : Method) (rawP : Bool) : Node → Bool
    | .elem t _ ks =>
        !rawP && (qInTable (wsCfg m).noescape t == rawOf m t) && wsDomF m (rawOf m t) ks
    | .leaf e =>
        match e with
        | .text _ f => !f
        | .comment _ => !rawP
        | .pi _ _ => !rawP
        | .doctype _ _ _ => !rawP
        | .xmlDecl _ _ _ => !rawP
        | _ => false
  def wsDomF (m : Method) (rawP : Bool) : List Node → Bool
    | [] => true
    | n :: ns => wsDomT m rawP n && wsDomF m rawP ns
end

/-- the forests the strip theorems are about -/
def wsDom (m : Method) (ns : List Node) : Bool := wsDomF m false ns

theorem normForest_doc (m : Method) (decl : Option DeclT) (dt : Option DocTypeT) (body : List Node) :
    normForest m (docNodes decl dt body) = docNodes decl dt (normForest m body) := by
  cases decl <;> cases dt <;> simp [docNodes, declN, dtN, normForest, normForestA, normTreeA, flushS]

theorem wsDom_doc (m : Method) (decl : Option DeclT) (dt : Option DocTypeT) (body : List Node)
    (h : wsDom m body = true) : wsDom m (docNodes decl dt body) = true := by
  cases decl <;> cases dt <;> simpa [docNodes, declN, dtN, wsDom, wsDomF, wsDomT] using h

/-- both forests, flattened by `R` at `p`, are written alike from context `c` and leave the same context -/
def OutEqR {P : Type} (m : Method) (o : Opts) (R : Rend P) (p : P) (c : Ctx) (X Y : List Node) : Prop :=
  serSpec m o c (R.F p X) = serSpec m o c (R.F p Y) ∧ wsCtxEnd m o c (R.F p X) = wsCtxEnd m o c (R.F p Y)

theorem OutEqR.append {P : Type} {m : Method} {o : Opts} {R : Rend P} {p : P} {c : Ctx} {X Y X2 Y2 : List Node}
    (h1 : OutEqR m o R p c X Y) (h2 : OutEqR m o R p (wsCtxEnd m o c (R.F p X)) X2 Y2) :
    OutEqR m o R p c (X ++ X2) (Y ++ Y2) := by
  obtain ⟨a1, b1⟩ := h1
  obtain ⟨a2, b2⟩ := h2
  refine ⟨?_, ?_⟩
  · rw [R.app, R.app, wsf_serSpec_append, wsf_serSpec_append, a1, ← b1, a2]
  · rw [R.app, R.app, wsf_ctxEnd_append, wsf_ctxEnd_append, ← b1, b2]

/-- both forests are written alike from context `c` and leave the same context -/
def OutEq (m : Method) (o : Opts) (u : Str) (s : Bool) (c : Ctx) (X Y : List Node) : Prop :=
  serSpec m o c (forestFu u s X) = serSpec m o c (forestFu u s Y) ∧
  wsCtxEnd m o c (forestFu u s X) = wsCtxEnd m o c (forestFu u s Y)

theorem OutEq.append {m : Method} {o : Opts} {u : Str} {s : Bool} {c : Ctx} {X Y X2 Y2 : List Node}
    (h1 : OutEq m o u s c X Y) (h2 : OutEq m o u s (wsCtxEnd m o c (forestFu u s X)) X2 Y2) :
    OutEq m o u s c (X ++ X2) (Y ++ Y2) :=
  OutEqR.append (R := rendU) (p := (u, s)) h1 h2

/-- the same for forests that mix namespaces -/
def OutEqM (m : Method) (o : Opts) (cur : Str) (c : Ctx) (X Y : List Node) : Prop :=
  serSpec m o c (forestFm cur X) = serSpec m o c (forestFm cur Y) ∧
  wsCtxEnd m o c (forestFm cur X) = wsCtxEnd m o c (forestFm cur Y)

theorem OutEqM.append {m : Method} {o : Opts} {cur : Str} {c : Ctx} {X Y X2 Y2 : List Node}
    (h1 : OutEqM m o cur c X Y) (h2 : OutEqM m o cur (wsCtxEnd m o c (forestFm cur X)) X2 Y2) :
    OutEqM m o cur c (X ++ X2) (Y ++ Y2) :=
  OutEqR.append (R := rendM) (p := cur) h1 h2

/-- The filter's state `st` against the specification's pending run of text `buf`.  `pn` is the
    filter's preserve depth, of which the specification knows only `pn != 0`; `rawP` says whether
    the enclosing element is raw text, which is also the flag on every buffered piece. -/
structure WsSim (st : WsSt) (buf : Option Str) (pn : Nat) (rawP : Bool) : Prop where
  pres : st.preserve = pn
  noesc : st.noescape = rawP
  cd : st.inCdata = false
  emp : st.textbuf.isEmpty = buf.isNone
  txt : st.textbuf.flatMap (fun p => p.1) = buf.getD []
  flags : ∀ p ∈ st.textbuf, p.2 = rawP

theorem wsf_bufOut_raw (tb : List (Str × Bool)) (h : ∀ p ∈ tb, p.2 = true) :
    tb.flatMap (fun p => if p.2 then p.1 else escapePy false p.1) = tb.flatMap (fun p => p.1) := by
  induction tb with
  | nil => rfl
  | cons p ps ih =>
    have hp := h p (by simp)
    simp only [List.flatMap_cons, hp, ↓reduceIte]
    rw [ih (fun q hq => h q (by simp [hq]))]

theorem wsf_bufOut_plain (tb : List (Str × Bool)) (h : ∀ p ∈ tb, p.2 = false) :
    tb.flatMap (fun p => if p.2 then p.1 else escapePy false p.1) = escapeSpec false (tb.flatMap (fun p => p.1)) := by
  induction tb with
  | nil => rfl
  | cons p ps ih =>
    have hp := h p (by simp)
    simp only [List.flatMap_cons, hp, Bool.false_eq_true, ↓reduceIte]
    rw [ih (fun q hq => h q (by simp [hq])), escapePy_eq_spec, escapeSpec_append]

theorem flushS_isEmpty (pres : Bool) (buf : Option Str) : (flushS pres buf).isEmpty = buf.isNone := by
  cases buf <;> rfl

/-- what the simulation delivers for a piece of the forest (one namespace `u`) -/
structure SimOut (m : Method) (o : Opts) (u : Str) (s : Bool) (c : Ctx) (pn : Nat) (rawP : Bool)
    (r : List Node × WsSt) (r' : List Node × Option Str) : Prop where
  sim : WsSim r.2 r'.2 pn rawP
  emp : r.1.isEmpty = r'.1.isEmpty
  out : OutEq m o u s c r.1 r'.1
  raw : (wsCtxEnd m o c (forestFu u s r.1)).raw = rawP

/-- the same for forests that mix namespaces -/
structure SimOutM (m : Method) (o : Opts) (cur : Str) (c : Ctx) (pn : Nat) (rawP : Bool)
    (r : List Node × WsSt) (r' : List Node × Option Str) : Prop where
  sim : WsSim r.2 r'.2 pn rawP
  emp : r.1.isEmpty = r'.1.isEmpty
  out : OutEqM m o cur c r.1 r'.1
  raw : (wsCtxEnd m o c (forestFm cur r.1)).raw = rawP

theorem wsSim_cleared (st : WsSt) (pn : Nat) (rawP : Bool) (ht : st.textbuf = []) (hp : st.preserve = pn)
    (hn : st.noescape = rawP) (hc : st.inCdata = false) : WsSim st none pn rawP :=
  ⟨hp, hn, hc, by rw [ht]; rfl, by rw [ht]; rfl, by rw [ht]; intro p hp; cases hp⟩

theorem wsCfg_preserve (m : Method) : (wsCfg m).preserve = preserveElems m := by cases m <;> rfl

theorem wsf_ctxAfter_end_raw (m : Method) (o : Opts) (c : Ctx) (t : Str) :
    (ctxAfter m o c (.end_ t)).raw = (if m = .html then false else c.raw) := by
  simp only [ctxAfter]; split <;> rfl

theorem presDepth_ne (pn : Nat) (b : Bool) :
    ((if pn != 0 || b then pn + 1 else pn) != 0) = (pn != 0 || b) := by
  cases b <;> by_cases h : pn = 0 <;> simp [h]

theorem presDepth_pop (pn : Nat) (b : Bool) :
    (if (if pn != 0 || b then pn + 1 else pn) != 0 then (if pn != 0 || b then pn + 1 else pn) - 1 else 0) = pn := by
  cases b <;> by_cases h : pn = 0 <;> simp [h]

theorem outEqR_elem {P : Type} (m : Method) (o : Opts) (R : Rend P) (p : P) (c : Ctx) (t : QName) (a : AttrList)
    (X Y : List Node) (hX : X.isEmpty = false) (hY : Y.isEmpty = false)
    (h : OutEqR m o R (R.child p t) (ctxAfter m o c (.start t.loc (R.attrs p t a))) X Y)
    (hraw : (wsCtxEnd m o (ctxAfter m o c (.start t.loc (R.attrs p t a))) (R.F (R.child p t) X)).raw = rawOf m t) :
    OutEqR m o R p c [.elem t a X] [.elem t a Y] ∧ (wsCtxEnd m o c (R.F p [.elem t a X])).raw = false := by
  obtain ⟨h1, h2⟩ := h
  have eX := R.elem p t a X hX
  have eY := R.elem p t a Y hY
  have hs : ∀ l, wsCtxEnd m o c ([XEv.start t.loc (R.attrs p t a)] ++ l) =
      wsCtxEnd m o (ctxAfter m o c (.start t.loc (R.attrs p t a))) l := fun l => rfl
  have hs1 : wsCtxEnd m o c [XEv.start t.loc (R.attrs p t a)] =
      ctxAfter m o c (.start t.loc (R.attrs p t a)) := rfl
  refine ⟨⟨?_, ?_⟩, ?_⟩
  · rw [eX, eY, wsf_serSpec_append, wsf_serSpec_append, wsf_serSpec_append m o _ (R.F (R.child p t) Y ++ _),
      wsf_serSpec_append m o (R.F (R.child p t) Y), hs1, h1, h2]
  · rw [eX, eY, hs, hs, wsf_ctxEnd_append, wsf_ctxEnd_append, h2]
  · rw [eX, hs, wsf_ctxEnd_append]
    show (ctxAfter m o (wsCtxEnd m o _ (R.F (R.child p t) X)) (.end_ t.loc)).raw = false
    rw [wsf_ctxAfter_end_raw, hraw]
    by_cases hm : m = .html <;> simp [hm, rawOf]

theorem outEq_elem (m : Method) (o : Opts) (u : Str) (s : Bool) (c : Ctx) (t : QName) (a : AttrList)
    (X Y : List Node) (hX : X.isEmpty = false) (hY : Y.isEmpty = false)
    (h : OutEq m o u true (ctxAfter m o c (.start t.loc (declAttr u s ++ fAttrs a))) X Y)
    (hraw : (wsCtxEnd m o (ctxAfter m o c (.start t.loc (declAttr u s ++ fAttrs a))) (forestFu u true X)).raw = rawOf m t) :
    OutEq m o u s c [.elem t a X] [.elem t a Y] ∧ (wsCtxEnd m o c (forestFu u s [.elem t a X])).raw = false :=
  outEqR_elem m o rendU (u, s) c t a X Y hX hY h hraw

end Genshi.Output
