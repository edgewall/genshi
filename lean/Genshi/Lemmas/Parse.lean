/-
  C07 — lemmas about the shared part of the parser model: `mkQName`, `_coalesce`,
  and the `_generate` loop (batches never matter).
-/
import Genshi.Model.Parse
import Genshi.Lemmas.Core
namespace Genshi.Parse
open Genshi

theorem balance_flushBuf (buf : Option Str) (st : List QName) (rest : Stream) :
    balance st (flushBuf buf ++ rest) = balance st rest := by
  cases buf with
  | none => rfl
  | some b => exact balance_skip _ rfl _ _

@[simp] theorem isText_text (s : Str) (b : Bool) : isText (.text s b) = true := rfl

theorem coalesceGo_nontext (f : Bool) (buf : Option Str) (e : Event) (es : Stream)
    (h : isText e = false) :
    coalesceGo f buf (e :: es) = flushBuf buf ++ e :: coalesceGo f none es :=
  coalesceGo.eq_3 f buf e es fun s b he => by rw [he] at h; cases h

theorem balance_coalesceGo (f : Bool) (s : Stream) (buf : Option Str) (st : List QName) :
    balance st (coalesceGo f buf s) = balance st s := by
  fun_induction coalesceGo f buf s generalizing st with
  | case1 buf => simpa using balance_flushBuf buf st []
  | case2 => rfl
  | case3 buf es s b ih => rw [ih, balance_skip _ rfl]
  | case4 buf es e he ih => rw [balance_flushBuf]; exact balance_cons_congr e ih st

theorem wellNested_coalesce (s : Stream) : WellNested (coalesce s) ↔ WellNested s :=
  wellNested_congr (balance_coalesceGo true s none [])

theorem noAdjText_flushBuf (buf : Option Str) (e : Event) (es : Stream) (h : isText e = false) :
    noAdjText (flushBuf buf ++ e :: es) = noAdjText es := by
  cases buf <;> simp [flushBuf, noAdjText, headIsText, h]

theorem noAdjText_coalesceGo (f : Bool) (s : Stream) (buf : Option Str) :
    noAdjText (coalesceGo f buf s) = true := by
  fun_induction coalesceGo f buf s with
  | case1 buf => cases buf <;> rfl
  | case2 => rfl
  | case3 buf es s b ih => exact ih
  | case4 buf es e he ih => rw [noAdjText_flushBuf buf e _ (isText.eq_2 _ he)]; exact ih

theorem headIsEnd_iff (t : QName) (s : Stream) : headIsEnd t s = true ↔ ∃ es, s = .end_ t :: es := by
  fun_cases headIsEnd t s with
  | case1 t' es => simp
  | case2 s h => simp only [Bool.false_eq_true, false_iff]; rintro ⟨es, rfl⟩; exact h t es rfl

theorem headIsEnd_append (t : QName) (a b : Stream) (h : headIsEnd t a = true) : headIsEnd t (a ++ b) = true := by
  obtain ⟨es, rfl⟩ := (headIsEnd_iff t a).1 h
  exact (headIsEnd_iff t _).2 ⟨_, rfl⟩

theorem headIsEnd_coalesceGo (f : Bool) (t : QName) (s : Stream) (h : headIsEnd t s = true) :
    headIsEnd t (coalesceGo f none s) = true := by
  obtain ⟨es, rfl⟩ := (headIsEnd_iff t s).1 h
  exact (headIsEnd_iff t _).2 ⟨_, rfl⟩

theorem voidClosed_flushBuf (v : List Str) (buf : Option Str) (s : Stream) :
    voidClosed v (flushBuf buf ++ s) = voidClosed v s := by
  cases buf <;> rfl

theorem voidClosed_coalesceGo (v : List Str) (f : Bool) (s : Stream) (buf : Option Str)
    (h : voidClosed v s = true) : voidClosed v (coalesceGo f buf s) = true := by
  fun_induction coalesceGo f buf s with
  | case1 buf => cases buf <;> rfl
  | case2 => rfl
  | case3 buf es s b ih => exact ih h
  | case4 buf es e he ih =>
    rw [voidClosed_flushBuf]
    cases e with
    | start t at_ =>
      simp only [voidClosed, Bool.and_eq_true, Bool.or_eq_true] at h ⊢
      exact ⟨h.1.imp_right (headIsEnd_coalesceGo f t es), ih h.2⟩
    | text s b => exact (he s b rfl).elim
    | _ => exact ih h

/-- what `_coalesce` has yielded when its source fails is the beginning of what it yields when
    the source goes on -/
theorem coalesceGo_prefix (f : Bool) (a b : Stream) (buf : Option Str) :
    coalesceGo false buf a <+: coalesceGo f buf (a ++ b) := by
  fun_induction coalesceGo false buf a with
  | case1 buf h => cases h
  | case2 => exact List.nil_prefix
  | case3 buf es s b' ih => exact ih
  | case4 buf es e he ih =>
    rw [List.cons_append, coalesceGo.eq_3 f buf e _ he, List.prefix_append_right_inj, List.cons_prefix_cons]
    exact ⟨rfl, ih⟩

theorem filter_nontext_coalesceGo (s : Stream) (buf : Option Str) :
    (coalesceGo true buf s).filter (fun e => !isText e) = s.filter (fun e => !isText e) := by
  fun_induction coalesceGo true buf s with
  | case1 buf => cases buf <;> rfl
  | case2 _ h => exact (h rfl).elim
  | case3 buf es s b ih => rw [ih]; rfl
  | case4 buf es e he ih =>
    rw [List.filter_append, List.filter_cons, List.filter_cons, ih]
    cases buf <;> rfl

def textOf : Stream → Str
  | [] => []
  | .text s _ :: es => s ++ textOf es
  | _ :: es => textOf es

theorem textOf_nontext (e : Event) (es : Stream) (h : isText e = false) : textOf (e :: es) = textOf es := by
  cases e <;> first | rfl | cases h

theorem textOf_coalesceGo (s : Stream) (buf : Option Str) :
    textOf (coalesceGo true buf s) = buf.getD [] ++ textOf s := by
  fun_induction coalesceGo true buf s with
  | case1 buf => cases buf <;> simp [flushBuf, textOf]
  | case2 _ h => exact (h rfl).elim
  | case3 buf es s b ih => rw [ih]; simp only [textOf, Option.getD_some, List.append_assoc]
  | case4 buf es e he ih =>
    rw [textOf_nontext e es (isText.eq_2 _ he)]
    cases buf <;> simp [flushBuf, textOf, textOf_nontext e _ (isText.eq_2 _ he), ih]

theorem coalesceGo_fixed' (s : Stream) (buf : Option Str) (h : noAdjText (flushBuf buf ++ s) = true)
    (hp : ∀ t b, Event.text t b ∈ s → b = false) : coalesceGo true buf s = flushBuf buf ++ s := by
  fun_induction coalesceGo true buf s with
  | case1 buf => exact (List.append_nil _).symm
  | case2 _ hf => exact (hf rfl).elim
  | case3 buf es s b ih =>
    cases hp s b List.mem_cons_self
    cases buf with
    | some x => simp [flushBuf, noAdjText, headIsText] at h
    | none => exact ih h fun t b hm => hp t b (List.mem_cons_of_mem _ hm)
  | case4 buf es e he ih =>
    rw [noAdjText_flushBuf buf e es (isText.eq_2 _ he)] at h
    rw [ih h fun t b hm => hp t b (List.mem_cons_of_mem _ hm)]; rfl

theorem coalesceGo_fixed (s : Stream) (h : noAdjText s = true)
    (hp : ∀ t b, Event.text t b ∈ s → b = false) : coalesceGo true none s = s :=
  coalesceGo_fixed' s none h hp

/-- what `_coalesce` yields: a merged TEXT event (plain `str` data), or a non-TEXT event of its source -/
theorem mem_coalesceGo (f : Bool) (s : Stream) (buf : Option Str) (e : Event) (h : e ∈ coalesceGo f buf s) :
    (∃ t, e = .text t false) ∨ (isText e = false ∧ e ∈ s) := by
  have hbuf : ∀ buf : Option Str, e ∈ flushBuf buf → ∃ t, e = .text t false := by
    intro buf h; cases buf with
    | none => cases h
    | some b => exact ⟨b, List.mem_singleton.1 h⟩
  fun_induction coalesceGo f buf s with
  | case1 buf => exact .inl (hbuf buf h)
  | case2 => cases h
  | case3 buf es s b ih => exact (ih h).imp_right (.imp_right (List.mem_cons_of_mem _))
  | case4 buf es x hx ih =>
    rcases List.mem_append.1 h with h | h
    · exact .inl (hbuf buf h)
    · rcases List.mem_cons.1 h with rfl | h
      · exact .inr ⟨isText.eq_2 _ hx, List.mem_cons_self⟩
      · exact (ih h).imp_right (.imp_right (List.mem_cons_of_mem _))

theorem coalesceGo_allPlain (f : Bool) (s : Stream) (buf : Option Str) (t : Str) (b : Bool)
    (h : Event.text t b ∈ coalesceGo f buf s) : b = false := by
  rcases mem_coalesceGo f s buf _ h with ⟨_, ht⟩ | ⟨hn, _⟩
  · cases ht; rfl
  · cases hn

theorem coalesce_idem (s : Stream) : coalesce (coalesce s) = coalesce s :=
  coalesceGo_fixed _ (noAdjText_coalesceGo true s none) (coalesceGo_allPlain true s none)

/-- One batch without the queue: the new state and the events of the batch. The proofs compare the model's two ways
    of playing callbacks through it: `feed` is `run` with the events appended to the queue (`feed_eq_run`), and
    `eager` (everything in one go, then `finish`) passes over any beginning on which `run` succeeds and goes on
    from the state reached (`eager_append_ok`; `eager_append_error`, `eager_none_run_ok` for the other outcomes). -/
def run {κ cb ε : Type} (L : LayerG κ cb ε) : κ → List (Item cb) → Except PyExc (κ × List ε)
  | k, [] => .ok (k, [])
  | _, .raise e :: _ => .error e
  | k, .cb c :: rest =>
    match L.step k c with
    | .error e => .error e
    | .ok (k', evs) =>
      match run L k' rest with
      | .error e => .error e
      | .ok (k'', q) => .ok (k'', evs ++ q)

theorem feed_eq_run {κ cb ε : Type} (L : LayerG κ cb ε) (items : List (Item cb)) (k : κ) (q : List ε) :
    feed L k q items = (match run L k items with
      | .error e => .error e
      | .ok (k', q') => .ok (k', q ++ q')) := by
  fun_induction feed L k q items with
  | case1 k q => simp only [run, List.append_nil]
  | case2 => rfl
  | case3 k q c rest e hs => simp only [run, hs]
  | case4 k q c rest k' evs hs ih =>
    rw [ih]; simp only [run, hs]
    cases run L k' rest <;> simp only [List.append_assoc]

theorem feed_nil_eq_run {κ cb ε : Type} (L : LayerG κ cb ε) (items : List (Item cb)) (k : κ) :
    feed L k [] items = run L k items := by
  rw [feed_eq_run]
  cases run L k items <;> simp only [List.nil_append]

theorem eager_append_ok {κ cb ε : Type} (L : LayerG κ cb ε) (a b : List (Item cb)) (k k' : κ) (q : List ε)
    (h : run L k a = .ok (k', q)) :
    eager L k (a ++ b) = (q ++ (eager L k' b).1, (eager L k' b).2) := by
  fun_induction run L k a generalizing k' q with
  | case1 k => cases h; rfl
  | case2 | case3 | case4 => cases h
  | case5 k c rest k1 evs hs k2 q2 hr ih =>
    cases h
    simp only [List.cons_append, eager, hs, ih _ _ hr, List.append_assoc]

theorem eager_append_error {κ cb ε : Type} (L : LayerG κ cb ε) (a b : List (Item cb)) (k : κ) (e : PyExc)
    (h : run L k a = .error e) : (eager L k (a ++ b)).2 = some e := by
  fun_induction run L k a with
  | case1 | case5 => cases h
  | case2 => cases h; rfl
  | case3 k c rest e' hs => cases h; simp only [List.cons_append, eager, hs]
  | case4 k c rest k1 evs hs e' hr ih => cases h; simp only [List.cons_append, eager, hs, ih hr]

theorem eager_none_run_ok {κ cb ε : Type} (L : LayerG κ cb ε) (items : List (Item cb)) (k : κ)
    (h : (eager L k items).2 = none) :
    ∃ k' q, run L k items = .ok (k', q) ∧ eager L k items = (q ++ L.finish k', none) := by
  cases hr : run L k items with
  | error e =>
    have := eager_append_error L items [] k e hr
    rw [List.append_nil, h] at this; cases this
  | ok r =>
    have := eager_append_ok L items [] k r.1 r.2 hr
    rw [List.append_nil] at this
    exact ⟨r.1, r.2, rfl, this⟩

/-- **batches never matter**: `_generate` ends with the exception the queue-free run of the
    concatenated batches ends with; it has yielded a beginning of that run's events, and all of
    them when nothing was raised -/
theorem generate_vs_eager {κ cb ε : Type} (L : LayerG κ cb ε) (reads : List (Read cb)) (k : κ)
    (close : List (Item cb)) :
    (generate L k reads close).2 = (eager L k (reads.flatMap Read.toItems ++ close)).2 ∧
    (generate L k reads close).1 <+: (eager L k (reads.flatMap Read.toItems ++ close)).1 ∧
    ((generate L k reads close).2 = none →
      (generate L k reads close).1 = (eager L k (reads.flatMap Read.toItems ++ close)).1) := by
  fun_induction generate L k reads close with
  | case1 k close e hf =>
    rw [feed_nil_eq_run] at hf
    have := eager_append_error L close [] k e hf
    rw [List.append_nil] at this
    exact ⟨this.symm, List.nil_prefix, nofun⟩
  | case2 k close k' q hf =>
    rw [feed_nil_eq_run] at hf
    have := eager_append_ok L close [] k k' q hf
    rw [List.append_nil] at this
    rw [List.flatMap_nil, List.nil_append, this]
    exact ⟨rfl, List.prefix_refl _, fun _ => rfl⟩
  | case3 => exact ⟨rfl, List.nil_prefix, nofun⟩
  | case4 k l rs close e hf =>
    rw [feed_nil_eq_run] at hf
    rw [List.flatMap_cons, Read.toItems, List.append_assoc]
    exact ⟨(eager_append_error L l _ k e hf).symm, List.nil_prefix, nofun⟩
  | case5 k l rs close k' q hf r ih =>
    rw [feed_nil_eq_run] at hf
    simp only [List.flatMap_cons, Read.toItems, List.append_assoc, eager_append_ok L l _ k k' q hf]
    exact ⟨ih.1, (List.prefix_append_right_inj _).2 ih.2.1, fun hn => by rw [ih.2.2 hn]⟩

/-- the same one level up, for what the consumer of `parse()` sees -/
theorem parse_vs_eager {κ cb : Type} (L : Layer κ cb) (handler : PyExc → Raised) (k : κ)
    (reads : List (Read cb)) (close : List (Item cb)) :
    let e := eager L k (reads.flatMap Read.toItems ++ close)
    let p := parse L handler k reads close
    p.2 = e.2.map handler ∧ p.1 <+: coalesce e.1 ∧ (p.2 = none → e.2 = none ∧ p.1 = coalesce e.1) := by
  intro e p
  obtain ⟨h1, ⟨t, ht⟩, h3⟩ := generate_vs_eager L reads k close
  simp only [p, parse, e]
  cases hg : generate L k reads close with
  | mk evs err =>
    rw [hg] at h1 ht h3
    cases err with
    | none => exact ⟨by rw [← h1]; rfl, by rw [← h3 rfl]; exact List.prefix_refl _, fun _ => ⟨h1.symm, by rw [← h3 rfl]; rfl⟩⟩
    | some x => exact ⟨by rw [← h1]; rfl, by rw [← ht]; exact coalesceGo_prefix true evs t none, nofun⟩

/-- a parse that finishes: the queue-free run did not fail, and the stream is its events, coalesced -/
theorem parse_finished {κ cb : Type} {L : Layer κ cb} {handler : PyExc → Raised} {k : κ}
    {reads : List (Read cb)} {close : List (Item cb)} {s : Stream} (h : parse L handler k reads close = (s, none)) :
    (eager L k (reads.flatMap Read.toItems ++ close)).2 = none ∧
    s = coalesce (eager L k (reads.flatMap Read.toItems ++ close)).1 := by
  have h3 := (parse_vs_eager L handler k reads close).2.2
  rw [h] at h3
  exact h3 rfl

/-- whatever `parse` delivers, its TEXT events carry plain `str` data (never `Markup`) -/
theorem parse_text_plain {κ cb : Type} (L : Layer κ cb) (handler : PyExc → Raised) (k : κ)
    (reads : List (Read cb)) (close : List (Item cb)) (t : Str) (b : Bool)
    (h : Event.text t b ∈ (parse L handler k reads close).1) : b = false := by
  unfold parse at h
  split at h
  · exact coalesceGo_allPlain true _ none t b h
  · exact coalesceGo_allPlain false _ none t b h

theorem parse_noAdjText {κ cb : Type} (L : Layer κ cb) (handler : PyExc → Raised) (k : κ)
    (reads : List (Read cb)) (close : List (Item cb)) : noAdjText (parse L handler k reads close).1 = true := by
  unfold parse
  split
  · exact noAdjText_coalesceGo true _ none
  · exact noAdjText_coalesceGo false _ none

theorem lstripBrace_of_head (s : Str) (h : s.head? ≠ some '{') : lstripBrace s = s := by
  fun_cases lstripBrace s with
  | case1 cs => exact absurd rfl h
  | case2 => rfl

theorem lstripBrace_head (s : Str) : (lstripBrace s).head? ≠ some '{' := by
  fun_induction lstripBrace s with
  | case1 cs ih => exact ih
  | case2 s h => intro hh; cases s with
    | nil => cases hh
    | cons c cs => cases hh; exact h cs rfl

theorem lstripBrace_eq_self_iff (s : Str) : lstripBrace s = s ↔ s.head? ≠ some '{' :=
  ⟨fun h => h ▸ lstripBrace_head s, lstripBrace_of_head s⟩

theorem lstripBrace_append_sep (uri loc : Str) :
    lstripBrace (uri ++ '}' :: loc) = lstripBrace uri ++ '}' :: loc := by
  fun_induction lstripBrace uri with
  | case1 cs ih => exact ih
  | case2 s h =>
    cases s with
    | nil => rfl
    | cons c cs => exact lstripBrace.eq_2 _ (fun cs' hh => by cases hh; exact h cs rfl)

theorem lstripBrace_subset (s : Str) (x : Char) (h : x ∈ lstripBrace s) : x ∈ s := by
  fun_induction lstripBrace s with
  | case1 cs ih => exact List.mem_cons_of_mem _ (ih h)
  | case2 => exact h

theorem splitBrace_append (uri loc : Str) (h : '}' ∉ uri) :
    splitBrace (uri ++ '}' :: loc) = some (uri, loc) := by
  induction uri with
  | nil => simp [splitBrace]
  | cons c cs ih =>
    simp only [List.mem_cons, not_or] at h
    have hc : c ≠ '}' := fun e => h.1 e.symm
    simp [splitBrace, hc, ih h.2]

theorem splitBrace_none (s : Str) (h : '}' ∉ s) : splitBrace s = none := by
  induction s with
  | nil => rfl
  | cons c cs ih =>
    simp only [List.mem_cons, not_or] at h
    have hc : c ≠ '}' := fun e => h.1 e.symm
    simp [splitBrace, hc, ih h.2]

/-- `splitBrace` is `str.partition('}')` when the separator occurs -/
theorem splitBrace_some (s a b : Str) (h : splitBrace s = some (a, b)) : s = a ++ '}' :: b ∧ '}' ∉ a := by
  induction s generalizing a b with
  | nil => simp [splitBrace] at h
  | cons c cs ih =>
    by_cases hc : c = '}'
    · subst hc
      simp only [splitBrace, ↓reduceIte, Option.some.injEq, Prod.mk.injEq] at h
      obtain ⟨rfl, rfl⟩ := h
      simp
    · simp only [splitBrace, hc, ↓reduceIte] at h
      cases hs : splitBrace cs with
      | none => simp [hs] at h
      | some p =>
        obtain ⟨a', b'⟩ := p
        simp only [hs, Option.some.injEq, Prod.mk.injEq] at h
        obtain ⟨rfl, rfl⟩ := h
        obtain ⟨h1, h2⟩ := ih a' b' hs
        refine ⟨by rw [h1]; rfl, ?_⟩
        simp only [List.mem_cons, not_or]
        exact ⟨fun e => hc e.symm, h2⟩

/-- **`QName('uri}local')`, exactly** — for every URI without the separator (Expat refuses the others) and
    every local part (it may contain `}`: only the first one separates): the namespace is the URI without
    its leading `{`s -/
theorem mkQName_expat_name_exact (uri loc : Str) (h1 : '}' ∉ uri) :
    mkQName (uri ++ '}' :: loc) = ⟨lstripBrace uri, loc⟩ := by
  unfold mkQName
  rw [lstripBrace_append_sep, splitBrace_append (lstripBrace uri) loc (fun h => h1 (lstripBrace_subset uri _ h))]

theorem mkQName_plain_name_exact (s : Str) (h1 : '}' ∉ s) : mkQName s = ⟨[], lstripBrace s⟩ := by
  unfold mkQName
  rw [splitBrace_none (lstripBrace s) (fun h => h1 (lstripBrace_subset s _ h))]

/-- Expat reports a namespaced name as `uri}local` (it refuses URIs containing the separator).
    `QName` recovers `(uri, local)` from it — provided the URI does not begin with `{` -/
theorem mkQName_expat_name (uri loc : Str) (h1 : '}' ∉ uri) (h2 : uri.head? ≠ some '{') (h3 : uri ≠ []) :
    mkQName (uri ++ '}' :: loc) = ⟨uri, loc⟩ := by
  rw [mkQName_expat_name_exact uri loc h1, lstripBrace_of_head uri h2]

/-- a name without namespace (no separator in it, as XML names never contain braces) stays as it is -/
theorem mkQName_plain_name (s : Str) (h1 : '}' ∉ s) (h2 : s.head? ≠ some '{') : mkQName s = ⟨[], s⟩ := by
  rw [mkQName_plain_name_exact s h1, lstripBrace_of_head s h2]

theorem mkQName_loc_of_tagOk (s : Str) (h : tagOk s = true) (hn : (mkQName s).ns = []) :
    (mkQName s).loc = s := by
  have hh : s.head? ≠ some '{' := by
    cases s with
    | nil => nofun
    | cons c cs => simp only [tagOk, Bool.and_eq_true, bne_iff_ne, ne_eq] at h; simpa using h.1
  unfold mkQName at hn ⊢
  rw [lstripBrace_of_head s hh] at hn ⊢
  cases hs : splitBrace s with
  | none => rfl
  | some r =>
    -- an empty namespace part would mean that the tag begins with `}`
    rw [hs] at hn
    obtain ⟨rfl, _⟩ := splitBrace_some s r.1 r.2 hs
    rw [show r.1 = [] from hn] at h
    simp [tagOk] at h

end Genshi.Parse
