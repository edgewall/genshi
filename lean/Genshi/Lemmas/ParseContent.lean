/-
  C07 — nothing is lost, duplicated or reordered by the layer: the character data and the
  START / COMMENT / PI events of the delivered stream are exactly those of the callbacks.
-/
import Genshi.Lemmas.ParseHtml
namespace Genshi.Parse
open Genshi

def isEnd : Event → Bool
  | .end_ _ => true
  | _ => false

/-- the events that are neither character data nor an END (for HTML: START, COMMENT, PI) -/
def mainEvents (s : Stream) : Stream := s.filter fun e => !isText e && !isEnd e

/-- the character data a callback contributes -/
def cbText : HtmlCb → Str
  | .data s => s
  | .charref n => match charrefText n with
    | .ok t => t
    | .error _ => []
  | .entityref n => entityrefText n
  | _ => []

/-- the START / COMMENT / PI a callback contributes -/
def cbMain (env : Env) : HtmlCb → Stream
  | .starttag tag attrs => match fixAttrs env attrs with
    | .ok f => [.start (mkQName tag) f]
    | .error _ => []
  | .startendtag tag attrs => match fixAttrs env attrs with
    | .ok f => [.start (mkQName tag) f]
    | .error _ => []
  | .comment s => [.comment s]
  | .pi s => [piEvent s]
  | _ => []

def itemText : Item HtmlCb → Str
  | .cb c => cbText c
  | .raise _ => []

def itemMain (env : Env) : Item HtmlCb → Stream
  | .cb c => cbMain env c
  | .raise _ => []

theorem textOf_append (a b : Stream) : textOf (a ++ b) = textOf a ++ textOf b := by
  fun_induction textOf a with
  | case1 => rfl
  | case2 s _ es ih => rw [List.cons_append, textOf, ih, List.append_assoc]
  | case3 e es he ih => rw [List.cons_append, textOf.eq_3 _ _ he, ih]

theorem mainEvents_append (a b : Stream) : mainEvents (a ++ b) = mainEvents a ++ mainEvents b :=
  List.filter_append ..

theorem textOf_closers : ∀ (l : List Str), textOf (closers l) = []
  | [] => rfl
  | _ :: l => textOf_closers l

theorem mainEvents_closers : ∀ (l : List Str), mainEvents (closers l) = []
  | [] => rfl
  | _ :: l => mainEvents_closers l

theorem htmlStep_content (env : Env) (o o' : List Str) (c : HtmlCb) (evs : Stream)
    (h : htmlStep env o c = .ok (o', evs)) :
    textOf evs = cbText c ∧ mainEvents evs = cbMain env c := by
  cases htmlStep_ok h with
  | void tag attrs f hf | push tag attrs f hf | selfClosing tag attrs f hf =>
    exact ⟨rfl, by simp only [cbMain, hf]; rfl⟩
  | endtag tag pre => exact ⟨textOf_closers pre, mainEvents_closers pre⟩
  | charref name t hc => exact ⟨by simp only [cbText, hc]; exact List.append_nil t, rfl⟩
  | pi s t d hpi => exact ⟨rfl, by simp only [cbMain, hpi]; rfl⟩
  | data s | entityref name => exact ⟨List.append_nil _, rfl⟩
  | comment | decl => exact ⟨rfl, rfl⟩

theorem eager_html_content (env : Env) (items : List (Item HtmlCb)) (o : List Str)
    (h : (eager (htmlLayer env) o items).2 = none) :
    textOf (eager (htmlLayer env) o items).1 = items.flatMap itemText ∧
    mainEvents (eager (htmlLayer env) o items).1 = items.flatMap (itemMain env) := by
  fun_induction eager (htmlLayer env) o items with
  | case1 o => exact ⟨textOf_closers o, mainEvents_closers o⟩
  | case2 | case3 => cases h
  | case4 o c rest o' evs hs r ih =>
    obtain ⟨s1, s2⟩ := htmlStep_content env o o' c evs hs
    rw [textOf_append, mainEvents_append, (ih h).1, (ih h).2, s1, s2]
    exact ⟨rfl, rfl⟩

theorem mainEvents_coalesce (s : Stream) : mainEvents (coalesce s) = mainEvents s := by
  have h := filter_nontext_coalesceGo s none
  have e : ∀ l : Stream, mainEvents l = (l.filter fun e => !isText e).filter fun e => !isEnd e := by
    intro l; simp [mainEvents, List.filter_filter, Bool.and_comm]
  rw [e, e, coalesce, h]

theorem textOf_coalesce (s : Stream) : textOf (coalesce s) = textOf s := by
  have := textOf_coalesceGo s none
  simpa [coalesce] using this

end Genshi.Parse
