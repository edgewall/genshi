/-
  C07 — facts about the real environment `realEnv` (`Genshi/Model/ParseEnv.lean`): `stripentities`
  (work package `san`'s model and its totality theorem, imported read-only) never raises, hence the
  hypothesis about `strip` in the layer theorems is discharged. Also the criterion by which a generated
  association list is seen to resolve every key to its own row: the generator writes the rows sorted.
-/
import Genshi.Model.ParseEnv
import Genshi.Lemmas.SanTotal
import Genshi.Lemmas.ParseHtml
namespace Genshi.Parse
open Genshi

/-- `stripentities` never raises (san: `stripentities_ok`) -/
theorem stripReal_total (v : Str) : ∃ r, stripReal v = .ok r := by
  obtain ⟨r, hr⟩ := Genshi.San.stripentities_ok v
  exact ⟨r, by simp [stripReal, hr]⟩

theorem stripReal_noBase (v : Str) (e : PyExc) (h : stripReal v = .error e) : e.isBase = false := by
  obtain ⟨r, hr⟩ := stripReal_total v
  rw [hr] at h
  cases h

theorem fixAttrs_real_ok : ∀ (attrs : List (Str × Option Str)), ∃ r, fixAttrs realEnv attrs = .ok r
  | [] => ⟨[], rfl⟩
  | (n, v) :: rest => by
    obtain ⟨r, hr⟩ := stripReal_total (v.getD n)
    obtain ⟨rs, hrs⟩ := fixAttrs_real_ok rest
    refine ⟨(mkQName n, r) :: rs, ?_⟩
    simp only [fixAttrs, realEnv] at hrs ⊢
    simp only [hr, hrs]

/-- the keys of an association list are strictly ascending (adjacent rows compared) -/
def keysAscending {β : Type} : List (Str × β) → Bool
  | a :: b :: l => decide (a.1 < b.1) && keysAscending (b :: l)
  | _ => true

theorem keysAscending_head_lt {β : Type} (a : Str × β) :
    ∀ (l : List (Str × β)), keysAscending (a :: l) = true → ∀ p ∈ l, a.1 < p.1
  | [], _, p, hp => by cases hp
  | b :: l, h, p, hp => by
    simp only [keysAscending, Bool.and_eq_true, decide_eq_true_eq] at h
    rcases List.mem_cons.1 hp with rfl | hp
    · exact h.1
    · exact List.lt_trans h.1 (keysAscending_head_lt b l h.2 p hp)

theorem find?_key_of_ascending {β : Type} :
    ∀ (l : List (Str × β)), keysAscending l = true → ∀ p ∈ l, l.find? (fun q => q.1 = p.1) = some p
  | a :: l, h, p, hp => by
    rcases List.mem_cons.1 hp with rfl | hp
    · simp only [List.find?_cons, decide_true]
    · have hlt := keysAscending_head_lt a l h p hp
      have hne : a.1 ≠ p.1 := fun e => List.lt_irrefl p.1 (e ▸ hlt)
      have htl : keysAscending l = true := by
        cases l with
        | nil => rfl
        | cons b l => simp only [keysAscending, Bool.and_eq_true] at h; exact h.2
      simp only [List.find?_cons, hne, decide_false]
      exact find?_key_of_ascending l htl p hp

end Genshi.Parse
