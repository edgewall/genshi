/-
  C07 — lemmas about the HTML layer: the `_open_tags` stack is exactly the stack of
  `balance`, void STARTs are followed by their END; after any batch `_open_tags` is the nesting stack
  of what has been enqueued so far and never holds a void element; the kinds of events the HTML
  parser can deliver; `handle_decl` / `unknown_decl` callbacks change nothing.
-/
import Genshi.Model.ParseHtml
import Genshi.Lemmas.Parse
namespace Genshi.Parse
open Genshi

/-- the nesting stack that corresponds to `_open_tags` -/
def stackOf (openTags : List Str) : List QName := openTags.map mkQName

theorem piEvent_isPi (s : Str) : ∃ t d, piEvent s = .pi t d := by
  unfold piEvent
  dsimp only
  split <;> exact ⟨_, _, rfl⟩

/-- a self-closing tag leaves `_open_tags` as it was: the END is that of the element just opened (a name
    equals itself ignoring case, so `popTo` stops at once), or the element is void -/
theorem htmlStep_startendtag (env : Env) (o : List Str) (tag : Str) (attrs : List (Str × Option Str)) :
    htmlStep env o (.startendtag tag attrs) =
      match fixAttrs env attrs with
      | .error e => .error e
      | .ok f => .ok (o, [.start (mkQName tag) f, .end_ (mkQName tag)]) := by
  simp only [htmlStep, handleStarttag]
  cases fixAttrs env attrs with
  | error e => rfl
  | ok f =>
    cases hv : env.void.contains tag <;>
      simp only [hv, handleEndtag, popTo, if_true, if_false, Bool.false_eq_true, List.append_nil, List.cons_append,
        List.nil_append]

theorem popTo_split (env : Env) (tag : Str) : ∀ (o : List Str),
    ∃ pre, o = pre ++ (popTo env tag o).1 ∧ (popTo env tag o).2 = closers pre
  | [] => ⟨[], rfl, rfl⟩
  | t :: o => by
      simp only [popTo]
      split
      · exact ⟨[t], rfl, rfl⟩
      · obtain ⟨pre, h1, h2⟩ := popTo_split env tag o
        exact ⟨t :: pre, by rw [List.cons_append, ← h1], by rw [h2]; rfl⟩

theorem handleEndtag_split (env : Env) (o : List Str) (tag : Str) :
    ∃ pre, o = pre ++ (handleEndtag env o tag).1 ∧ (handleEndtag env o tag).2 = closers pre := by
  unfold handleEndtag
  split
  · exact ⟨[], rfl, rfl⟩
  · exact popTo_split env tag o

/-- the outcomes of a callback that does not raise: the new `_open_tags` and the events enqueued -/
inductive StepOk (env : Env) (o : List Str) : HtmlCb → List Str → Stream → Prop
  | void (tag attrs f) : fixAttrs env attrs = .ok f → env.void.contains tag = true →
      StepOk env o (.starttag tag attrs) o [.start (mkQName tag) f, .end_ (mkQName tag)]
  | push (tag attrs f) : fixAttrs env attrs = .ok f → env.void.contains tag = false →
      StepOk env o (.starttag tag attrs) (tag :: o) [.start (mkQName tag) f]
  | selfClosing (tag attrs f) : fixAttrs env attrs = .ok f →
      StepOk env o (.startendtag tag attrs) o [.start (mkQName tag) f, .end_ (mkQName tag)]
  | endtag (tag pre post) : o = pre ++ post → StepOk env o (.endtag tag) post (closers pre)
  | data (s) : StepOk env o (.data s) o [.text s false]
  | charref (name t) : charrefText name = .ok t → StepOk env o (.charref name) o [.text t false]
  | entityref (name) : StepOk env o (.entityref name) o [.text (entityrefText name) false]
  | comment (s) : StepOk env o (.comment s) o [.comment s]
  | pi (s t d) : piEvent s = .pi t d → StepOk env o (.pi s) o [.pi t d]
  | decl (s) : StepOk env o (.decl s) o []

theorem htmlStep_ok {env : Env} {o o' : List Str} {c : HtmlCb} {evs : Stream}
    (h : htmlStep env o c = .ok (o', evs)) : StepOk env o c o' evs := by
  cases c with
  | starttag tag attrs =>
    simp only [htmlStep, handleStarttag] at h
    cases hf : fixAttrs env attrs with
    | error e => rw [hf] at h; cases h
    | ok f =>
      rw [hf] at h
      cases hv : env.void.contains tag <;> (simp only [hv, Bool.false_eq_true, if_false, if_true] at h; cases h)
      · exact .push tag attrs f hf hv
      · exact .void tag attrs f hf hv
  | startendtag tag attrs =>
    rw [htmlStep_startendtag] at h
    cases hf : fixAttrs env attrs with
    | error e => rw [hf] at h; cases h
    | ok f => rw [hf] at h; cases h; exact .selfClosing tag attrs f hf
  | endtag tag =>
    obtain ⟨pre, h1, h2⟩ := handleEndtag_split env o tag
    have e := Except.ok.inj h
    rw [congrArg Prod.fst e] at h1; rw [congrArg Prod.snd e] at h2
    cases (h2 : evs = closers pre); exact .endtag tag pre o' h1
  | data s => cases h; exact .data s
  | comment s => cases h; exact .comment s
  | pi s => cases h; obtain ⟨t, d, hpi⟩ := piEvent_isPi s; rw [hpi]; exact .pi s t d hpi
  | charref name =>
    simp only [htmlStep] at h
    cases hc : charrefText name with
    | error e => rw [hc] at h; cases h
    | ok t => rw [hc] at h; cases h; exact .charref name t hc
  | entityref name => cases h; exact .entityref name
  | decl s => cases h; exact .decl s

theorem balance_closers : ∀ (pre : List Str) (st : List QName), balance (stackOf pre ++ st) (closers pre) = some st
  | [], _ => rfl
  | t :: pre, st => by
      simp only [stackOf, closers, List.map_cons, List.cons_append, balance_end_same]
      exact balance_closers pre st

/-- one callback moves the nesting stack exactly as it moves `_open_tags` -/
theorem balance_htmlStep (env : Env) (o o' : List Str) (c : HtmlCb) (evs : Stream)
    (h : htmlStep env o c = .ok (o', evs)) :
    balance (stackOf o) evs = some (stackOf o') := by
  cases htmlStep_ok h with
  | void | selfClosing => exact balance_empty _ _ _ []
  | push => rfl
  | endtag tag pre post ho => rw [ho, stackOf, List.map_append]; exact balance_closers pre _
  | data | charref | entityref | comment | pi | decl => cases o <;> rfl

theorem eager_html_balance (env : Env) (items : List (Item HtmlCb)) (o : List Str) :
    ∃ st, balance (stackOf o) (eager (htmlLayer env) o items).1 = some st ∧
      ((eager (htmlLayer env) o items).2 = none → st = []) := by
  fun_induction eager (htmlLayer env) o items with
  | case1 o => exact ⟨[], List.append_nil (stackOf o) ▸ balance_closers o [], fun _ => rfl⟩
  | case2 o | case3 o => exact ⟨stackOf o, rfl, nofun⟩
  | case4 o c rest o' evs hs r ih =>
    obtain ⟨st, h1, h2⟩ := ih
    refine ⟨st, ?_, h2⟩
    rw [balance_append, balance_htmlStep env o o' c evs hs]
    exact h1

theorem popTo_match (env : Env) (tag : Str) : ∀ (pre : List Str) (t : Str) (post : List Str),
    (∀ x ∈ pre, env.lower x ≠ env.lower tag) → env.lower t = env.lower tag →
    popTo env tag (pre ++ t :: post) = (post, (pre ++ [t]).map fun x => Event.end_ (mkQName x))
  | [], t, post, _, ht => by simp [popTo, ht]
  | p :: pre, t, post, hpre, ht => by
      have hp : env.lower p ≠ env.lower tag := hpre p (by simp)
      simp only [List.cons_append, popTo, hp, ↓reduceIte]
      rw [popTo_match env tag pre t post (fun x hx => hpre x (by simp [hx])) ht]
      simp

theorem popTo_nomatch (env : Env) (tag : Str) : ∀ (o : List Str),
    (∀ x ∈ o, env.lower x ≠ env.lower tag) →
    popTo env tag o = ([], o.map fun x => Event.end_ (mkQName x))
  | [], _ => rfl
  | p :: o, h => by
      have hp : env.lower p ≠ env.lower tag := h p (by simp)
      simp only [popTo, hp, ↓reduceIte]
      rw [popTo_nomatch env tag o (fun x hx => h x (by simp [hx]))]
      simp

theorem voidClosed_append (v : List Str) (a b : Stream)
    (ha : voidClosed v a = true) (hb : voidClosed v b = true) : voidClosed v (a ++ b) = true := by
  fun_induction voidClosed v a with
  | case1 => exact hb
  | case2 t at_ rest ih =>
    simp only [List.cons_append, voidClosed, Bool.and_eq_true, Bool.or_eq_true] at ha ⊢
    exact ⟨ha.1.imp_right (headIsEnd_append t rest b), ih ha.2⟩
  | case3 e rest he ih => rw [List.cons_append, voidClosed.eq_3 v _ _ he]; exact ih ha

theorem voidClosed_closers (v : List Str) : ∀ (l : List Str), voidClosed v (closers l) = true
  | [] => rfl
  | _ :: l => voidClosed_closers v l

/-- the void names carry no brace: `QName(name)` is the plain name -/
def plainNames (v : List Str) : Prop := ∀ t ∈ v, mkQName t = ⟨[], t⟩

def cbTagOk : HtmlCb → Bool
  | .starttag tag _ => tagOk tag
  | .startendtag tag _ => tagOk tag
  | _ => true

def itemTagOk : Item HtmlCb → Bool
  | .cb c => cbTagOk c
  | .raise _ => true

theorem voidClosed_htmlStep (env : Env) (o o' : List Str) (c : HtmlCb) (evs : Stream)
    (hok : cbTagOk c = true) (h : htmlStep env o c = .ok (o', evs)) :
    voidClosed env.void evs = true := by
  cases htmlStep_ok h with
  | void | selfClosing => simp [voidClosed, headIsEnd]
  | push tag attrs f hf hv =>
    -- the only START left open: its tag is not void, and (no brace) its QName is the tag itself
    simp only [voidClosed, headIsEnd, Bool.or_false, Bool.and_true, Bool.not_eq_true', isVoidName,
      Bool.and_eq_false_iff]
    by_cases hn : (mkQName tag).ns = []
    · exact .inr (by rw [mkQName_loc_of_tagOk tag hok hn]; exact hv)
    · exact .inl (by simpa using hn)
  | endtag tag pre => exact voidClosed_closers _ pre
  | data | charref | entityref | comment | pi | decl => rfl

theorem eager_html_voidClosed (env : Env) (items : List (Item HtmlCb)) (o : List Str)
    (h : items.all itemTagOk = true) : voidClosed env.void (eager (htmlLayer env) o items).1 = true := by
  fun_induction eager (htmlLayer env) o items with
  | case1 o => exact voidClosed_closers _ o
  | case2 | case3 => rfl
  | case4 o c rest o' evs hs r ih =>
    simp only [List.all_cons, Bool.and_eq_true, itemTagOk] at h
    exact voidClosed_append _ _ _ (voidClosed_htmlStep env o o' c evs h.1 hs) (ih h.2)

def PyExc.isBase : PyExc → Bool
  | .base _ => true
  | _ => false

def itemNoBase : Item HtmlCb → Bool
  | .raise e => !e.isBase
  | .cb _ => true

theorem charrefText_noBase (name : Str) (e : PyExc) (h : charrefText name = .error e) : e.isBase = false := by
  unfold charrefText at h
  split at h
  · unfold pyChr at h
    split at h
    · cases h
    · split at h <;> (cases h; rfl)
  · cases h; rfl

theorem fixAttrs_noBase (env : Env) (hstrip : ∀ v e, env.strip v = .error e → e.isBase = false)
    (attrs : List (Str × Option Str)) (e : PyExc) (h : fixAttrs env attrs = .error e) : e.isBase = false := by
  fun_induction fixAttrs env attrs with
  | case1 => cases h
  | case2 n v rest e' hs => cases h; exact hstrip _ _ hs
  | case3 n v rest v' hs e' hr ih => cases h; exact ih hr
  | case4 => cases h

theorem htmlStep_noBase (env : Env) (hstrip : ∀ v e, env.strip v = .error e → e.isBase = false)
    (o : List Str) (c : HtmlCb) (e : PyExc) (h : htmlStep env o c = .error e) : e.isBase = false := by
  -- the layer's own failures: `stripentities` on an attribute value, `unichr`/`int` on a character reference
  cases c with
  | starttag tag attrs =>
    simp only [htmlStep, handleStarttag] at h
    cases hf : fixAttrs env attrs with
    | error e' => rw [hf] at h; cases h; exact fixAttrs_noBase env hstrip attrs _ hf
    | ok f => simp only [hf] at h; split at h <;> cases h
  | startendtag tag attrs =>
    rw [htmlStep_startendtag] at h
    cases hf : fixAttrs env attrs with
    | error e' => rw [hf] at h; cases h; exact fixAttrs_noBase env hstrip attrs _ hf
    | ok f => rw [hf] at h; cases h
  | charref name =>
    simp only [htmlStep] at h
    cases hc : charrefText name with
    | error e' => rw [hc] at h; cases h; exact charrefText_noBase name _ hc
    | ok t => rw [hc] at h; cases h
  | _ => cases h

theorem eager_html_noBase (env : Env) (hstrip : ∀ v e, env.strip v = .error e → e.isBase = false)
    (items : List (Item HtmlCb)) (o : List Str) (e : PyExc) (hi : items.all itemNoBase = true)
    (h : (eager (htmlLayer env) o items).2 = some e) : e.isBase = false := by
  fun_induction eager (htmlLayer env) o items with
  | case1 => cases h
  | case2 o e' rest =>
    cases h
    simp only [List.all_cons, Bool.and_eq_true, itemNoBase, Bool.not_eq_true'] at hi
    exact hi.1
  | case3 o c rest e' hs => cases h; exact htmlStep_noBase env hstrip o c _ hs
  | case4 o c rest o' evs hs r ih =>
    simp only [List.all_cons, Bool.and_eq_true] at hi
    exact ih hi.2 h

/-- after any batch that completes, `_open_tags` is exactly the stack of elements the enqueued events
    have opened and not closed -/
theorem run_html_balance (env : Env) (items : List (Item HtmlCb)) (o o' : List Str) (q : Stream)
    (h : run (htmlLayer env) o items = .ok (o', q)) : balance (stackOf o) q = some (stackOf o') := by
  fun_induction run (htmlLayer env) o items generalizing o' q with
  | case1 => cases h; rfl
  | case2 | case3 | case4 => cases h
  | case5 o c rest o1 evs hs o2 q2 hr ih =>
    cases h
    rw [balance_append, balance_htmlStep env o o1 c evs hs]
    exact ih _ _ hr

def noVoid (env : Env) (o : List Str) : Bool := o.all fun t => !env.void.contains t

/-- only a start tag pushes, and only when its element is not void -/
theorem noVoid_htmlStep (env : Env) (o o' : List Str) (c : HtmlCb) (evs : Stream)
    (h : htmlStep env o c = .ok (o', evs)) (hn : noVoid env o = true) : noVoid env o' = true := by
  cases htmlStep_ok h with
  | push tag attrs f hf hv => simp only [noVoid, List.all_cons, hv, Bool.not_false, Bool.true_and]; exact hn
  | endtag tag pre post ho => rw [ho, noVoid, List.all_append, Bool.and_eq_true] at hn; exact hn.2
  | void | selfClosing | data | charref | entityref | comment | pi | decl => exact hn

theorem run_html_noVoid (env : Env) (items : List (Item HtmlCb)) (o o' : List Str) (q : Stream)
    (h : run (htmlLayer env) o items = .ok (o', q)) (hn : noVoid env o = true) : noVoid env o' = true := by
  fun_induction run (htmlLayer env) o items generalizing o' q with
  | case1 => cases h; exact hn
  | case2 | case3 | case4 => cases h
  | case5 o c rest o1 evs hs o2 q2 hr ih =>
    cases h
    exact ih _ _ hr (noVoid_htmlStep env o o1 c evs hs hn)

/-- START, END, TEXT, COMMENT, PI: the kinds `HTMLParser` documents -/
def htmlKind : Event → Bool
  | .start _ _ => true
  | .end_ _ => true
  | .text _ _ => true
  | .comment _ => true
  | .pi _ _ => true
  | _ => false

theorem htmlStep_kinds (env : Env) (o o' : List Str) (c : HtmlCb) (evs : Stream)
    (h : htmlStep env o c = .ok (o', evs)) (e : Event) (he : e ∈ evs) : htmlKind e = true := by
  cases htmlStep_ok h with
  | endtag tag pre => obtain ⟨t, _, rfl⟩ := List.mem_map.1 he; rfl
  | void | selfClosing =>
    simp only [List.mem_cons, List.not_mem_nil, or_false] at he
    rcases he with rfl | rfl <;> rfl
  | push | data | charref | entityref | comment | pi => rw [List.mem_singleton.1 he]; rfl
  | decl => cases he

theorem eager_html_kinds (env : Env) (items : List (Item HtmlCb)) (o : List Str) (e : Event)
    (h : e ∈ (eager (htmlLayer env) o items).1) : htmlKind e = true := by
  fun_induction eager (htmlLayer env) o items with
  | case1 o => obtain ⟨t, _, rfl⟩ := List.mem_map.1 h; rfl
  | case2 | case3 => cases h
  | case4 o c rest o' evs hs r ih =>
    rcases List.mem_append.1 h with h | h
    · exact htmlStep_kinds env o o' c evs hs e h
    · exact ih h

/-
  `handle_decl` / `unknown_decl` (DOCTYPE declarations, marked sections `<![CDATA[…]]>`, `<![if …]>`):
  genshi's `HTMLParser` does not override them, `html.parser`'s own do nothing. Such callbacks can be
  taken out of the callback sequence without changing anything: neither the events, nor the exception, nor
  what a lazy consumer has received before a failure (the statement is about `generate`, batch by batch).
-/
def notDecl : Item HtmlCb → Bool
  | .cb (.decl _) => false
  | _ => true

/-- the same reads without the `handle_decl` / `unknown_decl` callbacks -/
def dropDecl : HtmlRead → HtmlRead
  | .text l => .text (l.filter notDecl)
  | .bytes => .bytes
  | .fail e => .fail e

theorem notDecl_cases (c : HtmlCb) : (∃ s, c = .decl s) ∨ notDecl (.cb c) = true := by
  cases c <;> first | exact .inr rfl | exact .inl ⟨_, rfl⟩

theorem feed_dropDecl (env : Env) : ∀ (l : List (Item HtmlCb)) (k : List Str) (q : Stream),
    feed (htmlLayer env) k q (l.filter notDecl) = feed (htmlLayer env) k q l := by
  intro l k q
  fun_induction feed (htmlLayer env) k q l with
  | case1 | case2 => rfl
  | case3 k q c rest e hs =>
    rcases notDecl_cases c with ⟨s, rfl⟩ | hc
    · cases hs
    · rw [List.filter_cons_of_pos hc, feed, hs]
  | case4 k q c rest k' evs hs ih =>
    rcases notDecl_cases c with ⟨s, rfl⟩ | hc
    · cases hs; rw [List.filter_cons_of_neg (by simp [notDecl]), List.append_nil] at *; exact ih
    · rw [List.filter_cons_of_pos hc, feed, hs]; exact ih

theorem generate_dropDecl (env : Env) : ∀ (reads : List HtmlRead) (k : List Str) (close : List (Item HtmlCb)),
    generate (htmlLayer env) k ((reads.map dropDecl).map HtmlReadG.toRead) (close.filter notDecl) =
      generate (htmlLayer env) k (reads.map HtmlReadG.toRead) close
  | [], k, close => by
      simp only [List.map_nil, generate, feed_dropDecl]
  | r :: rs, k, close => by
      cases r with
      | bytes | fail e => rfl
      | text l =>
        simp only [List.map_cons, dropDecl, HtmlReadG.toRead, generate, feed_dropDecl]
        cases feed (htmlLayer env) k [] l with
        | error e => rfl
        | ok r => simp only [generate_dropDecl env rs r.1 close]

end Genshi.Parse
