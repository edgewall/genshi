/-
  C07 — `HTMLParser.handle_pi`: what `piEvent` computes, for every string the tokenizer may hand over.

      if data.endswith('?'): data = data[:-1]
      try: target, data = data.split(None, 1)
      except ValueError: target = data; data = ''
      self._enqueue(PI, (target.strip(), data.strip()))

  * the target never contains white space, the data never begins or ends with white space (all inputs);
  * `ws t ws+ d ws [?]` gives `(t, d)`, `ws t ws [?]` gives `(t, '')`;
  * all of it from one closed form (`piOf_eq`): the target is the first word, the data what follows the white space
    behind it, without trailing white space.
-/
import Genshi.Model.ParseHtml
import Genshi.Lemmas.StrStrip
import Genshi.Lemmas.ListBasics
namespace Genshi.Parse
open Genshi Genshi.Str

/-- no character of `t` is white space (`str.isspace`) -/
def NoSp (t : Str) : Prop := t.all (fun c => !isPySpace c) = true
/-- every character of `w` is white space -/
def AllSp (w : Str) : Prop := w.all isPySpace = true

instance (t : Str) : Decidable (NoSp t) := by unfold NoSp; infer_instance
instance (w : Str) : Decidable (AllSp w) := by unfold AllSp; infer_instance

theorem NoSp.head {t : Str} (h : NoSp t) (c : Char) (hc : t.head? = some c) : isPySpace c = false := by
  simpa using List.all_eq_true.mp h c (List.mem_of_mem_head? hc)

theorem NoSp.lstrip {t : Str} (h : NoSp t) : lstripBy isPySpace t = t :=
  lstripBy_id _ _ h.head

theorem NoSp.reverse {t : Str} (h : NoSp t) : NoSp t.reverse := by
  simpa only [NoSp, List.all_reverse] using h

theorem NoSp.rstrip {t : Str} (h : NoSp t) : rstripBy isPySpace t = t := by
  unfold rstripBy
  rw [h.reverse.lstrip, List.reverse_reverse]

theorem NoSp.strip {t : Str} (h : NoSp t) : stripBy isPySpace t = t := by
  unfold stripBy
  rw [h.lstrip, h.rstrip]

/-- `data.split(None, 1)[0]` and what follows it: the longest white-space-free beginning, as `List.span` reads it -/
theorem spanNonSpace_eq_span (s : Str) : spanNonSpace s = s.span fun c => !isPySpace c := by
  rw [span_eq]
  induction s with
  | nil => rfl
  | cons c cs ih => cases hc : isPySpace c <;> simp [spanNonSpace, hc, ih]

theorem spanNonSpace_spec (s : Str) :
    NoSp (spanNonSpace s).1 ∧ (spanNonSpace s).1 ++ (spanNonSpace s).2 = s := by
  rw [spanNonSpace_eq_span, span_eq]
  exact ⟨List.all_takeWhile, List.takeWhile_append_dropWhile⟩

/-- the first field ends where white space begins -/
theorem spanNonSpace_append (t r : Str) (ht : NoSp t) (hr : ∀ c, r.head? = some c → isPySpace c = true) :
    spanNonSpace (t ++ r) = (t, r) := by
  rw [spanNonSpace_eq_span]
  exact span_append_stop (List.all_eq_true.mp ht) fun c hc => by rw [hr c hc]; rfl

/-- `handle_pi` after the `endswith('?')` clause -/
def piOf (d : Str) : Event :=
  let sp := spanNonSpace (Str.lstripBy isPySpace d)
  let rest := Str.lstripBy isPySpace sp.2
  if rest.isEmpty then .pi (Str.stripBy isPySpace d) []
  else .pi (Str.stripBy isPySpace sp.1) (Str.stripBy isPySpace rest)

theorem piEvent_eq (s : Str) : piEvent s = piOf (dropLastQ s) := rfl

theorem dropLastQ_snoc (x : Str) : dropLastQ (x ++ ['?']) = x := by
  simp [dropLastQ]

theorem dropLastQ_id (x : Str) (h : x.getLast? ≠ some '?') : dropLastQ x = x := by
  simp [dropLastQ, h]

/-- a statement about `piOf` is one about `handle_pi`, with the closing `?` of the XML form or without it -/
theorem piEvent_of_piOf {x : Str} {r : Event} (h : piOf x = r) :
    piEvent (x ++ ['?']) = r ∧ (x.getLast? ≠ some '?' → piEvent x = r) :=
  ⟨by rw [piEvent_eq, dropLastQ_snoc, h], fun hq => by rw [piEvent_eq, dropLastQ_id _ hq, h]⟩

/-- at most one character is taken off (which one: `dropLastQ_snoc`, `dropLastQ_id`) -/
theorem dropLastQ_length (x : Str) : (dropLastQ x).length = x.length ∨ (dropLastQ x).length + 1 = x.length := by
  unfold dropLastQ
  split
  · right
    cases x with
    | nil => simp at *
    | cons c cs => simp
  · exact .inl rfl

/-- **`handle_pi` in closed form**, for every string: the target is the first word, the data is what follows the
    white space behind it, without trailing white space (the two `strip()`s and the `except ValueError` branch do no more) -/
theorem piOf_eq (d : Str) :
    piOf d = .pi (spanNonSpace (lstripBy isPySpace d)).1
      (rstripBy isPySpace (lstripBy isPySpace (spanNonSpace (lstripBy isPySpace d)).2)) := by
  obtain ⟨ht, hsp⟩ := spanNonSpace_spec (lstripBy isPySpace d)
  unfold piOf
  dsimp only
  cases hr : lstripBy isPySpace (spanNonSpace (lstripBy isPySpace d)).2 with
  | nil =>
    -- one field: `lstrip d` is the target followed by white space only
    rw [List.isEmpty_nil, if_pos rfl, stripBy, ← hsp, rstripBy_append, if_pos (lstripBy_eq_nil _ _ hr), hsp, ht.rstrip]
    rfl
  | cons c cs =>
    rw [List.isEmpty_cons, if_neg nofun, ht.strip, stripBy, ← hr, lstripBy_idem]

/-- **for every string**: the target has no white space, the data is stripped -/
theorem piOf_shape (d0 t d : Str) (h : piOf d0 = .pi t d) : NoSp t ∧ stripBy isPySpace d = d := by
  rw [piOf_eq] at h
  cases h
  exact ⟨(spanNonSpace_spec _).1, by rw [stripBy, lstripBy_rstripBy _ _ (lstripBy_idem _ _), rstripBy_idem]⟩

theorem head?_append_of_ne_nil {a : Str} (h : a ≠ []) (b : Str) : (a ++ b).head? = a.head? := by
  cases a with
  | nil => exact absurd rfl h
  | cons => rfl

theorem AllSp.head {w : Str} (h : AllSp w) (c : Char) (hc : w.head? = some c) : isPySpace c = true :=
  List.all_eq_true.mp h c (List.mem_of_mem_head? hc)

/-- `ws target ws+ data ws` → `(target, data)` -/
theorem piOf_two_fields (w0 t w1 d w2 : Str) (h0 : AllSp w0) (ht : NoSp t) (hne : t ≠ []) (h1 : AllSp w1)
    (h1ne : w1 ≠ []) (hd : stripBy isPySpace d = d) (hdne : d ≠ []) (h2 : AllSp w2) :
    piOf (w0 ++ (t ++ (w1 ++ (d ++ w2)))) = .pi t d := by
  have hdl : lstripBy isPySpace d = d := by rw [← hd]; exact stripBy_lstrip _ _
  have hdr : rstripBy isPySpace d = d := by rw [← hd]; exact stripBy_rstrip _ _
  rw [piOf_eq, lstripBy_prefix _ w0 _ h0 (by rw [head?_append_of_ne_nil hne]; exact ht.head),
    spanNonSpace_append t _ ht (by rw [head?_append_of_ne_nil h1ne]; exact h1.head)]
  dsimp only
  rw [lstripBy_prefix _ w1 _ h1 (by rw [head?_append_of_ne_nil hdne, ← hdl]; exact lstripBy_head _ d),
    rstripBy_append, if_pos (show w2.all isPySpace = true from h2), hdr]

/-- `ws target ws` → `(target, '')` (also the empty target) -/
theorem piOf_one_field (w0 t w2 : Str) (h0 : AllSp w0) (ht : NoSp t) (h2 : AllSp w2) :
    piOf (w0 ++ (t ++ w2)) = .pi t [] := by
  -- after the leading white space comes `t`, then white space only
  obtain ⟨w', hL, hw'⟩ : ∃ w', lstripBy isPySpace (w0 ++ (t ++ w2)) = t ++ w' ∧ AllSp w' := by
    by_cases hte : t = []
    · exact ⟨[], by rw [hte, lstripBy_all _ _ (by simpa [AllSp] using And.intro h0 h2)]; rfl, rfl⟩
    · exact ⟨w2, lstripBy_prefix _ w0 _ h0 (by rw [head?_append_of_ne_nil hte]; exact ht.head), h2⟩
  rw [piOf_eq, hL, spanNonSpace_append t w' ht hw'.head]
  dsimp only
  rw [lstripBy_all _ _ hw']; rfl

end Genshi.Parse
