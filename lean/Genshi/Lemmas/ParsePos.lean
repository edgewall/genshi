/-
  C07 — the positioned models (what the driver runs and the correspondence compares) project onto
  the position-free models (what the theorems are stated for): forgetting the positions commutes
  with `_coalesce`, with the `_generate` loop and with both layers.
-/
import Genshi.Lemmas.Parse
import Genshi.Model.ParseHtml
import Genshi.Model.ParseXml
namespace Genshi.Parse
open Genshi

theorem erase_flushBufP (buf : Option (Str × Pos)) : erase (flushBufP buf) = flushBuf (buf.map (·.1)) := by
  cases buf <;> rfl

theorem erase_coalesceGoP (f : Bool) (s : PStream) (buf : Option (Str × Pos)) :
    erase (coalesceGoP f buf s) = coalesceGo f (buf.map (·.1)) (erase s) := by
  fun_induction coalesceGoP f buf s with
  | case1 buf h => rw [erase_flushBufP]; simp only [erase, List.map_nil, coalesceGo, h, if_true]
  | case2 buf h => simp only [erase, List.map_nil, coalesceGo, h]; rfl
  | case3 buf e es s b he ih =>
    rw [ih]; obtain ⟨ev, p⟩ := e; cases he
    rw [show erase ((Event.text s b, p) :: es) = .text s b :: erase es from rfl, coalesceGo.eq_2]; cases buf <;> rfl
  | case4 buf e es he ih =>
    obtain ⟨ev, p⟩ := e
    rw [erase, List.map_append, ← erase, ← erase, erase_flushBufP, show erase ((ev, p) :: es) = ev :: erase es from rfl,
      coalesceGo.eq_3 _ _ _ _ he]
    exact congrArg (fun x => _ ++ ev :: x) ih

section sim
variable {κ κ' cb cb' ε ε' : Type} (L : LayerG κ cb ε) (L' : LayerG κ' cb' ε')
  (π : κ → κ') (g : cb → cb') (fe : ε → ε')

/-- `L` (with positions) is simulated by `L'` (without) -/
def Simulates : Prop :=
  (∀ k c, L'.step (π k) (g c) = (match L.step k c with
      | .error e => .error e
      | .ok r => .ok (π r.1, r.2.map fe))) ∧
  (∀ k, L'.finish (π k) = (L.finish k).map fe)

theorem feed_sim (h : Simulates L L' π g fe) (items : List (Item cb)) (k : κ) (q : List ε) :
    feed L' (π k) (q.map fe) (items.map (Item.map g)) = (match feed L k q items with
      | .error e => .error e
      | .ok r => .ok (π r.1, r.2.map fe)) := by
  fun_induction feed L k q items with
  | case1 | case2 => rfl
  | case3 k q c rest e hs => simp only [List.map_cons, Item.map, feed, h.1 k c, hs]
  | case4 k q c rest k1 evs hs ih =>
    simp only [List.map_cons, Item.map, feed, h.1 k c, hs]
    rw [← List.map_append, ih]

theorem generate_sim (h : Simulates L L' π g fe) (reads : List (Read cb)) (k : κ) (close : List (Item cb)) :
    generate L' (π k) (reads.map (Read.map g)) (close.map (Item.map g)) =
      ((generate L k reads close).1.map fe, (generate L k reads close).2) := by
  have hfeed : ∀ items k, feed L' (π k) [] (items.map (Item.map g)) = (match feed L k [] items with
      | .error e => .error e
      | .ok r => .ok (π r.1, r.2.map fe)) := fun items k => feed_sim L L' π g fe h items k []
  fun_induction generate L k reads close with
  | case1 k close e hf => simp only [List.map_nil, generate, hfeed, hf]
  | case2 k close k1 q hf => simp only [List.map_nil, generate, hfeed, hf, h.2 k1, List.map_append]
  | case3 => rfl
  | case4 k l rs close e hf => simp only [List.map_cons, Read.map, generate, hfeed, hf, List.map_nil]
  | case5 k l rs close k1 q hf r ih =>
    simp only [List.map_cons, Read.map, generate, hfeed, hf, ih, List.map_append]; rfl
end sim

theorem parseP_erase {κ κ' cb cb' : Type} (L : LayerG κ cb PEvent) (L' : Layer κ' cb')
    (π : κ → κ') (g : cb → cb') (h : Simulates L L' π g (·.1)) (handler : PyExc → Raised) (k : κ)
    (reads : List (Read cb)) (close : List (Item cb)) :
    parse L' handler (π k) (reads.map (Read.map g)) (close.map (Item.map g)) =
      (erase (parseP L handler k reads close).1, (parseP L handler k reads close).2) := by
  unfold parse parseP
  rw [generate_sim L L' π g (·.1) h reads k close]
  cases hg : generate L k reads close with
  | mk evs err =>
    cases err with
    | none =>
      simp only
      have := erase_coalesceGoP true evs none
      simp only [erase, Option.map_none] at this ⊢
      rw [this]
    | some e =>
      simp only
      have := erase_coalesceGoP false evs none
      simp only [erase, Option.map_none] at this ⊢
      rw [this]

theorem html_simulates (env : Env) :
    Simulates (htmlLayerP env) (htmlLayer env) HStP.openTags Prod.fst (·.1) := by
  refine ⟨?_, ?_⟩
  · intro k c
    simp only [htmlLayerP, htmlLayer, htmlStepP]
    cases htmlStep env k.openTags c.1 with
    | error e => rfl
    | ok r => obtain ⟨o, evs⟩ := r; simp [Function.comp_def]
  · intro k
    simp [htmlLayerP, htmlLayer, closersP, closers, Function.comp_def]

theorem xml_simulates : Simulates xmlLayerP xmlLayer (fun _ => ()) Prod.fst (·.1) := by
  refine ⟨?_, ?_⟩
  · intro k c
    simp only [xmlLayerP, xmlLayer, xmlStepP]
    cases xmlStep () c.1 with
    | error e => rfl
    | ok r =>
      obtain ⟨u, evs⟩ := r
      simp only [List.map_map]
      have : (fun e => (stampXml c.2 e).1) = id := by
        funext e; cases e <;> simp [stampXml]
      simp [Function.comp_def, this]
  · intro k; simp [xmlLayerP, xmlLayer]

theorem htmlReads_map (reads : List HtmlReadP) :
    (reads.map (HtmlReadG.map Prod.fst)).map HtmlReadG.toRead = (reads.map HtmlReadG.toRead).map (Read.map Prod.fst) := by
  induction reads with
  | nil => rfl
  | cons r rs ih => cases r <;> simp [HtmlReadG.map, HtmlReadG.toRead, Read.map, ih]

theorem xmlReads_map (reads : List XmlReadP) :
    (reads.map (XmlReadG.map Prod.fst)).map XmlReadG.toRead = (reads.map XmlReadG.toRead).map (Read.map Prod.fst) := by
  induction reads with
  | nil => rfl
  | cons r rs ih => cases r <;> simp [XmlReadG.map, XmlReadG.toRead, Read.map, ih]

/-- what the driver computes, with the positions forgotten, is the position-free HTML model -/
theorem htmlParseP_erase (env : Env) (reads : List HtmlReadP) (close : List (Item (HtmlCb × Pos))) :
    htmlParse env (reads.map (HtmlReadG.map Prod.fst)) (close.map (Item.map Prod.fst)) =
      (erase (htmlParseP env reads close).1, (htmlParseP env reads close).2) := by
  unfold htmlParse htmlParseP
  rw [htmlReads_map]
  exact parseP_erase (htmlLayerP env) (htmlLayer env) HStP.openTags Prod.fst (html_simulates env) htmlHandler
    ⟨[], none⟩ _ close

theorem xmlParseP_erase (reads : List XmlReadP) (close : List (Item (XmlCb × Pos))) :
    xmlParse (reads.map (XmlReadG.map Prod.fst)) (close.map (Item.map Prod.fst)) =
      (erase (xmlParseP reads close).1, (xmlParseP reads close).2) := by
  unfold xmlParse xmlParseP
  rw [xmlReads_map]
  exact parseP_erase xmlLayerP xmlLayer (fun _ => ()) Prod.fst xml_simulates xmlHandler () _ close

/-- `_coalesce` invents no position: every delivered position is the position of an incoming event -/
theorem coalesceGoP_positions (f : Bool) (s : PStream) (buf : Option (Str × Pos)) (x : PEvent)
    (h : x ∈ coalesceGoP f buf s) : (∃ y ∈ s, y.2 = x.2) ∨ (∃ b, buf = some b ∧ b.2 = x.2) := by
  have hbuf : ∀ buf : Option (Str × Pos), x ∈ flushBufP buf → ∃ b, buf = some b ∧ b.2 = x.2 := by
    intro buf h
    cases buf with
    | none => cases h
    | some b => exact ⟨b, rfl, by rw [List.mem_singleton.1 h]⟩
  have lift : ∀ {e : PEvent} {es : PStream}, (∃ y ∈ es, y.2 = x.2) → ∃ y ∈ e :: es, y.2 = x.2 :=
    fun ⟨y, hy, hp⟩ => ⟨y, List.mem_cons_of_mem _ hy, hp⟩
  fun_induction coalesceGoP f buf s with
  | case1 buf => exact .inr (hbuf buf h)
  | case2 => cases h
  | case3 buf e es s b he ih =>
    -- the buffer keeps the position it had, or takes the one of `e`
    rcases ih h with hy | ⟨b', hb, hp⟩
    · exact .inl (lift hy)
    · cases buf <;> cases hb
      · exact .inl ⟨e, List.mem_cons_self, hp⟩
      · exact .inr ⟨_, rfl, hp⟩
  | case4 buf e es he ih =>
    rcases List.mem_append.1 h with h | h
    · exact .inr (hbuf buf h)
    · rcases List.mem_cons.1 h with rfl | h
      · exact .inl ⟨_, List.mem_cons_self, rfl⟩
      · rcases ih h with hy | ⟨b', hb, _⟩
        · exact .inl (lift hy)
        · cases hb

/-- `pos` of `_generate` after the events `q` when it was `p` before: the position of the last of them, or still `p` -/
def lastPos (q : PStream) (p : Option Pos) : Option Pos := (q.getLast?.map (·.2)).or p

theorem lastPos_append (a b : PStream) (p : Option Pos) : lastPos (a ++ b) p = lastPos b (lastPos a p) := by
  simp only [lastPos, List.getLast?_append, Option.map_or, Option.or_assoc]

theorem htmlStepP_last (env : Env) (k k' : HStP) (c : HtmlCb × Pos) (evs : PStream)
    (h : htmlStepP env k c = .ok (k', evs)) : k'.last = lastPos evs k.last := by
  unfold htmlStepP at h
  cases hh : htmlStep env k.openTags c.1 with
  | error e => rw [hh] at h; cases h
  | ok r =>
    rw [hh] at h; cases h
    cases r.2 with
    | nil => rfl
    | cons e es => simp only [lastPos, List.getLast?_map, List.getLast?_eq_some_getLast (List.cons_ne_nil e es)]; rfl

/-- the position a state remembers after a batch is the position of the last event of the batch -/
theorem run_html_last (env : Env) (items : List (Item (HtmlCb × Pos))) (k k' : HStP) (q : PStream)
    (h : run (htmlLayerP env) k items = .ok (k', q)) : k'.last = lastPos q k.last := by
  fun_induction run (htmlLayerP env) k items generalizing k' q with
  | case1 => cases h; rfl
  | case2 | case3 | case4 => cases h
  | case5 k c rest k1 evs1 hs k2 q2 hr ih =>
    cases h
    rw [ih _ _ hr, lastPos_append, htmlStepP_last env k k1 c evs1 hs]

/-- a run that does not fail ends with the closers of what is still open, stamped with the position of the last event
    before them -/
theorem eager_html_closers (env : Env) (items : List (Item (HtmlCb × Pos)))
    (h : (eager (htmlLayerP env) ⟨[], none⟩ items).2 = none) :
    ∃ k' q, run (htmlLayerP env) ⟨[], none⟩ items = .ok (k', q) ∧
      (eager (htmlLayerP env) ⟨[], none⟩ items).1 = q ++ closersP k' ∧ k'.last = lastPos q none := by
  obtain ⟨k', q, hr, he⟩ := eager_none_run_ok (htmlLayerP env) items ⟨[], none⟩ h
  exact ⟨k', q, hr, congrArg Prod.fst he, run_html_last env items _ k' q hr⟩

end Genshi.Parse
