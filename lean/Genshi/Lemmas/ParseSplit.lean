/-
  C07 — how the tokenizer cuts character data into callbacks does not matter: the outcome
  depends only on the callback sequence with adjacent character-data callbacks merged.
  (`html.parser` and Expat cut text where the chunks end; this, with "batches never matter",
  is the layer's whole contribution to chunking invariance.)
-/
import Genshi.Lemmas.Parse
import Genshi.Model.ParseXml
namespace Genshi.Parse
open Genshi

/-- a layer with a character-data callback `mkT s` that enqueues one TEXT event and changes nothing -/
structure TextCb {κ cb : Type} (L : Layer κ cb) where
  mkT : Str → cb
  txt : cb → Option Str
  txt_mk : ∀ s, txt (mkT s) = some s
  of_txt : ∀ c s, txt c = some s → c = mkT s
  step_mk : ∀ k s, L.step k (mkT s) = .ok (k, [.text s false])

section split
variable {κ cb : Type} {L : Layer κ cb} (T : TextCb L)

def flushD (buf : Option Str) : List (Item cb) :=
  match buf with
  | some b => [.cb (T.mkT b)]
  | none => []

/-- the callback sequence with adjacent character-data callbacks merged -/
def mergeDataGo : Option Str → List (Item cb) → List (Item cb)
  | buf, [] => flushD T buf
  | buf, i :: rest =>
    match i with
    | .cb c =>
      match T.txt c with
      | some s => mergeDataGo (some (buf.getD [] ++ s)) rest
      | none => flushD T buf ++ .cb c :: mergeDataGo none rest
    | .raise e => flushD T buf ++ .raise e :: mergeDataGo none rest

def mergeData (items : List (Item cb)) : List (Item cb) := mergeDataGo T none items

/-- same exception, and the same events once `_coalesce` has run — from any buffer, since the events of a
    step may follow text that is still buffered -/
def SimC (r r' : Stream × Option PyExc) : Prop :=
  r.2 = r'.2 ∧ ∀ f b, coalesceGo f b r.1 = coalesceGo f b r'.1

theorem SimC.refl (r : Stream × Option PyExc) : SimC r r := ⟨rfl, fun _ _ => rfl⟩

theorem SimC.trans {a b c : Stream × Option PyExc} (h1 : SimC a b) (h2 : SimC b c) : SimC a c :=
  ⟨h1.1.trans h2.1, fun f x => (h1.2 f x).trans (h2.2 f x)⟩

theorem SimC.symm {a b : Stream × Option PyExc} (h : SimC a b) : SimC b a :=
  ⟨h.1.symm, fun f x => (h.2 f x).symm⟩

theorem coalesceGo_append_congr (f : Bool) (a r1 r2 : Stream) (b : Option Str)
    (h : ∀ b', coalesceGo f b' r1 = coalesceGo f b' r2) : coalesceGo f b (a ++ r1) = coalesceGo f b (a ++ r2) := by
  induction a generalizing b with
  | nil => exact h b
  | cons e es ih =>
    by_cases he : ∃ s x, e = .text s x
    · obtain ⟨s, x, rfl⟩ := he; exact ih _
    · have he' : ∀ s x, e = .text s x → False := fun s x hh => he ⟨s, x, hh⟩
      rw [List.cons_append, List.cons_append, coalesceGo.eq_3 _ _ _ _ he', coalesceGo.eq_3 _ _ _ _ he', ih]

theorem simC_prepend (evs : Stream) {r r' : Stream × Option PyExc} (h : SimC r r') :
    SimC (evs ++ r.1, r.2) (evs ++ r'.1, r'.2) :=
  ⟨h.1, fun f b => coalesceGo_append_congr f evs r.1 r'.1 b (h.2 f)⟩

theorem eager_prefix_congr (pre a b : List (Item cb))
    (h : ∀ k, SimC (eager L k a) (eager L k b)) (k : κ) : SimC (eager L k (pre ++ a)) (eager L k (pre ++ b)) := by
  fun_induction eager L k pre with
  | case1 k => exact h k
  | case2 => exact SimC.refl _
  | case3 k c rest e hs => simp only [List.cons_append, eager, hs]; exact SimC.refl _
  | case4 k c rest k' evs hs r ih => simp only [List.cons_append, eager, hs]; exact simC_prepend evs ih

theorem eager_mk (k : κ) (s : Str) (rest : List (Item cb)) :
    eager L k (.cb (T.mkT s) :: rest) = (.text s false :: (eager L k rest).1, (eager L k rest).2) := by
  simp [eager, T.step_mk]

/-- two character-data callbacks in a row are as good as one with the concatenated text -/
theorem eager_two_texts (k : κ) (x y : Str) (rest : List (Item cb)) :
    SimC (eager L k (.cb (T.mkT x) :: .cb (T.mkT y) :: rest)) (eager L k (.cb (T.mkT (x ++ y)) :: rest)) := by
  rw [eager_mk, eager_mk, eager_mk]
  refine ⟨rfl, fun f b => ?_⟩
  simp only [coalesceGo.eq_2]
  cases b <;> simp [List.append_assoc]

theorem eager_mergeDataGo (items : List (Item cb)) (buf : Option Str) (k : κ) :
    SimC (eager L k (flushD T buf ++ items)) (eager L k (mergeDataGo T buf items)) := by
  fun_induction mergeDataGo T buf items generalizing k with
  | case1 buf => rw [List.append_nil]; exact SimC.refl _
  | case2 buf rest c s ht ih =>
    cases T.of_txt c s ht
    refine SimC.trans ?_ (ih k)
    cases buf with
    | none => exact SimC.refl _
    | some b => exact eager_two_texts T k b s rest
  | case3 buf rest c ht ih =>
    refine eager_prefix_congr (flushD T buf) _ _ (fun k' => ?_) k
    simp only [eager]
    cases L.step k' c with
    | error e => exact SimC.refl _
    | ok r => exact simC_prepend r.2 (ih r.1)
  | case4 buf rest e ih =>
    exact eager_prefix_congr (flushD T buf) (.raise e :: rest) (.raise e :: mergeDataGo T none rest)
      (fun k' => ⟨rfl, fun _ _ => rfl⟩) k
/-- **the cutting of character data never matters**: callback sequences that agree once adjacent
    character-data callbacks are merged give the same exception and the same coalesced events -/
theorem eager_mergeData_congr (a b : List (Item cb)) (h : mergeData T a = mergeData T b) (k : κ) :
    SimC (eager L k a) (eager L k b) := by
  have ha := eager_mergeDataGo T a none k
  have hb := eager_mergeDataGo T b none k
  simp only [flushD, List.nil_append] at ha hb
  unfold mergeData at h
  rw [h] at ha
  exact SimC.trans ha (SimC.symm hb)

/-- the same for what `parse` delivers (with any batching on either side) -/
theorem parse_mergeData_congr (handler : PyExc → Raised) (k : κ) (reads reads' : List (Read cb))
    (close close' : List (Item cb))
    (h : mergeData T (reads.flatMap Read.toItems ++ close) = mergeData T (reads'.flatMap Read.toItems ++ close')) :
    (parse L handler k reads close).2 = (parse L handler k reads' close').2 ∧
    ((parse L handler k reads close).2 = none → (parse L handler k reads close).1 = (parse L handler k reads' close').1) := by
  obtain ⟨a1, _, a3⟩ := parse_vs_eager L handler k reads close
  obtain ⟨b1, _, b3⟩ := parse_vs_eager L handler k reads' close'
  obtain ⟨e1, e2⟩ := eager_mergeData_congr T _ _ h k
  have h2 : (parse L handler k reads close).2 = (parse L handler k reads' close').2 := by rw [a1, b1, e1]
  refine ⟨h2, fun hn => ?_⟩
  rw [(a3 hn).2, (b3 (h2 ▸ hn)).2]
  exact e2 true none

end split

def htmlData (env : Env) : TextCb (htmlLayer env) where
  mkT := HtmlCb.data
  txt := fun c => match c with
    | .data s => some s
    | _ => none
  txt_mk := fun _ => rfl
  of_txt := by
    intro c s h
    cases c <;> simp_all
  step_mk := fun _ _ => rfl

def xmlData : TextCb xmlLayer where
  mkT := XmlCb.characterData
  txt := fun c => match c with
    | .characterData s => some s
    | _ => none
  txt_mk := fun _ => rfl
  of_txt := by
    intro c s h
    cases c <;> simp_all
  step_mk := fun _ _ => rfl

end Genshi.Parse
