/-
  C07 — `_coalesce` seen on trees: coalescing the flattening of a forest is flattening the
  forest in which every maximal run of adjacent text leaves has become one text leaf, and
  that forest has no two adjacent text leaves at any depth. Also: a well-formed forest is
  determined by its flattening, so a well-nested stream is the flattening of exactly one.
-/
import Genshi.Lemmas.Parse
namespace Genshi.Parse
open Genshi

def flushLeaf : Option Str → List Node
  | some b => [.leaf (.text b false)]
  | none => []

mutual
  /-- merge runs of text leaves of one node; `buf` is text collected to the left of the node;
      returns the finished nodes and the text still open at the right end -/
  def mergeNodeK : Option Str → Node → List Node × Option Str
    | buf, .leaf e =>
      match e with
      | .text s _ => ([], some (buf.getD [] ++ s))
      | e => (flushLeaf buf ++ [.leaf e], none)
    | buf, .elem t a ks =>
      let k := mergeK none ks
      (flushLeaf buf ++ [.elem t a (k.1 ++ flushLeaf k.2)], none)
  def mergeK : Option Str → List Node → List Node × Option Str
    | buf, [] => ([], buf)
    | buf, n :: ns =>
      let r := mergeNodeK buf n
      let r' := mergeK r.2 ns
      (r.1 ++ r'.1, r'.2)
end

/-- the forest with adjacent character data merged, at every level -/
def mergeForest (ns : List Node) : List Node :=
  let r := mergeK none ns
  r.1 ++ flushLeaf r.2

theorem flattenList_flushLeaf (buf : Option Str) : flattenList (flushLeaf buf) = flushBuf buf := by
  cases buf <;> simp [flushLeaf, flushBuf, flattenList, Node.flatten]

theorem coalesceGo_flatten_both :
    (∀ (n : Node) (buf : Option Str) (rest : Stream),
      coalesceGo true buf (n.flatten ++ rest) =
        flattenList (mergeNodeK buf n).1 ++ coalesceGo true (mergeNodeK buf n).2 rest) ∧
    (∀ (ns : List Node) (buf : Option Str) (rest : Stream),
      coalesceGo true buf (flattenList ns ++ rest) =
        flattenList (mergeK buf ns).1 ++ coalesceGo true (mergeK buf ns).2 rest) := by
  refine node_induction ?_ ?_ ?_ ?_
  · intro t a ks ih buf rest
    simp only [Node.flatten, mergeNodeK, List.cons_append, List.append_assoc]
    rw [coalesceGo_nontext true buf _ _ rfl]
    simp only [List.nil_append]
    rw [ih none (.end_ t :: rest)]
    rw [coalesceGo_nontext true _ (.end_ t) rest rfl]
    simp only [flattenList_append, flattenList_flushLeaf, flattenList, Node.flatten, List.append_assoc,
      List.cons_append, List.nil_append, List.append_nil]
  · intro e buf rest
    by_cases ht : ∃ s b, e = .text s b
    · obtain ⟨s, b, rfl⟩ := ht
      rw [mergeNodeK.eq_1]; exact coalesceGo.eq_2 true buf rest s b
    · have he : ∀ s b, e = .text s b → False := fun s b h => ht ⟨s, b, h⟩
      rw [mergeNodeK.eq_2 _ _ he, Node.flatten, List.singleton_append, coalesceGo.eq_3 _ _ _ _ he,
        flattenList_append, flattenList_flushLeaf, List.append_assoc]
      rfl
  · intro buf rest; rfl
  · intro n ns ihn ihns buf rest
    simp only [flattenList, mergeK, List.append_assoc]
    rw [ihn buf (flattenList ns ++ rest), ihns _ rest, flattenList_append, List.append_assoc]

theorem coalesceGo_flatten_node : ∀ (n : Node) (buf : Option Str) (rest : Stream),
    coalesceGo true buf (n.flatten ++ rest) =
      flattenList (mergeNodeK buf n).1 ++ coalesceGo true (mergeNodeK buf n).2 rest :=
  coalesceGo_flatten_both.1

theorem coalesce_flattenList (ns : List Node) : coalesce (flattenList ns) = flattenList (mergeForest ns) := by
  have := coalesceGo_flatten_both.2 ns none []
  simp only [List.append_nil, coalesceGo, if_true] at this
  unfold coalesce mergeForest
  rw [this, flattenList_append, flattenList_flushLeaf]

theorem flatten_head_not_end (n : Node) (h : n.ok = true) (rest : Stream) (t : QName) (r : Stream) :
    n.flatten ++ rest ≠ .end_ t :: r := by
  intro heq
  cases n with
  | elem t' a ks => cases heq
  | leaf e => cases heq; cases h

theorem flatten_inj_both :
    (∀ (n m : Node) (r1 r2 : Stream), n.ok = true → m.ok = true →
      n.flatten ++ r1 = m.flatten ++ r2 → n = m ∧ r1 = r2) ∧
    (∀ (ks ks' : List Node) (t t' : QName) (r1 r2 : Stream), okList ks = true → okList ks' = true →
      flattenList ks ++ .end_ t :: r1 = flattenList ks' ++ .end_ t' :: r2 → ks = ks' ∧ t = t' ∧ r1 = r2) := by
  refine node_induction ?_ ?_ ?_ ?_
  · intro t a ks ih m r1 r2 hn hm h
    cases m with
    | leaf e => cases h; cases hm
    | elem t' a' ks' =>
      simp only [Node.flatten, List.cons_append, List.append_assoc, List.cons.injEq, Event.start.injEq] at h
      obtain ⟨⟨rfl, rfl⟩, h2⟩ := h
      obtain ⟨rfl, _, hr⟩ := ih ks' t t r1 r2 hn hm h2
      exact ⟨rfl, hr⟩
  · intro e m r1 r2 hn _ h
    cases m with
    | leaf e' => cases h; exact ⟨rfl, rfl⟩
    | elem t a ks => cases h; cases hn
  · intro ks' t t' r1 r2 _ hk' h
    cases ks' with
    | nil => cases h; exact ⟨rfl, rfl, rfl⟩
    | cons k' ks' =>
      simp only [okList, Bool.and_eq_true] at hk'
      simp only [flattenList, List.nil_append, List.append_assoc] at h
      exact absurd h.symm (flatten_head_not_end k' hk'.1 _ t r1)
  · intro k ks ihk ihks ks' t t' r1 r2 hk hk' h
    simp only [okList, Bool.and_eq_true] at hk
    cases ks' with
    | nil =>
      simp only [flattenList, List.nil_append, List.append_assoc] at h
      exact absurd h (flatten_head_not_end k hk.1 _ t' r2)
    | cons k' ks' =>
      simp only [okList, Bool.and_eq_true] at hk'
      simp only [flattenList, List.append_assoc] at h
      obtain ⟨rfl, e2⟩ := ihk k' _ _ hk.1 hk'.1 h
      obtain ⟨rfl, e4, e5⟩ := ihks ks' t t' r1 r2 hk.2 hk'.2 e2
      exact ⟨rfl, e4, e5⟩

theorem flatten_inj_node : ∀ (n m : Node) (r1 r2 : Stream), n.ok = true → m.ok = true →
    n.flatten ++ r1 = m.flatten ++ r2 → n = m ∧ r1 = r2 :=
  flatten_inj_both.1

theorem flattenList_inj : ∀ (a b : List Node), okList a = true → okList b = true →
    flattenList a = flattenList b → a = b := by
  intro a b ha hb h
  -- the same END after both sides brings this under the list half of `flatten_inj_both`
  have q : QName := ⟨[], []⟩
  have := flatten_inj_both.2 a b q q [] [] ha hb (by rw [h])
  exact this.1

def isTextLeaf : Node → Bool
  | .leaf e => isText e
  | _ => false

def headIsTextLeaf : List Node → Bool
  | n :: _ => isTextLeaf n
  | [] => false

mutual
  def noAdjLeavesNode : Node → Bool
    | .elem _ _ ks => noAdjLeavesList ks
    | .leaf _ => true
  def noAdjLeavesList : List Node → Bool
    | [] => true
    | n :: ns => !(isTextLeaf n && headIsTextLeaf ns) && noAdjLeavesNode n && noAdjLeavesList ns
end

/-- the list is empty or its last node is not a text leaf -/
def endsNonText : List Node → Bool
  | [] => true
  | [n] => !isTextLeaf n
  | _ :: n :: rest => endsNonText (n :: rest)

theorem noAdjLeavesList_append (a b : List Node) (ha : noAdjLeavesList a = true) (hb : noAdjLeavesList b = true)
    (he : endsNonText a = true) : noAdjLeavesList (a ++ b) = true := by
  fun_induction endsNonText a with
  | case1 => exact hb
  | case2 n =>
    simp only [noAdjLeavesList, Bool.and_eq_true] at ha
    simp only [Bool.not_eq_true'] at he
    simp only [List.cons_append, List.nil_append, noAdjLeavesList, he, Bool.false_and, Bool.not_false, Bool.true_and,
      Bool.and_eq_true]
    exact ⟨ha.1.2, hb⟩
  | case3 n n' rest ih =>
    rw [noAdjLeavesList, Bool.and_eq_true] at ha
    rw [List.cons_append, noAdjLeavesList, Bool.and_eq_true]
    exact ⟨ha.1, ih ha.2 he⟩

theorem endsNonText_append (a b : List Node) (ha : endsNonText a = true) (hb : endsNonText b = true) :
    endsNonText (a ++ b) = true := by
  fun_induction endsNonText a with
  | case1 => exact hb
  | case2 n => cases b with
    | nil => exact ha
    | cons m b => exact hb
  | case3 n n' rest ih => exact ih ha

theorem noAdj_flushLeaf (buf : Option Str) : noAdjLeavesList (flushLeaf buf) = true := by
  cases buf <;> simp [flushLeaf, noAdjLeavesList, headIsTextLeaf, noAdjLeavesNode]

theorem flush_then_nontext (buf : Option Str) (n : Node) (hn : isTextLeaf n = false)
    (hok : noAdjLeavesNode n = true) :
    noAdjLeavesList (flushLeaf buf ++ [n]) = true ∧ endsNonText (flushLeaf buf ++ [n]) = true := by
  cases buf <;>
    simp [flushLeaf, noAdjLeavesList, headIsTextLeaf, noAdjLeavesNode, endsNonText, hn, hok]

theorem mergeK_normal_both :
    (∀ (n : Node) (buf : Option Str),
      noAdjLeavesList (mergeNodeK buf n).1 = true ∧ endsNonText (mergeNodeK buf n).1 = true) ∧
    (∀ (ns : List Node) (buf : Option Str),
      noAdjLeavesList (mergeK buf ns).1 = true ∧ endsNonText (mergeK buf ns).1 = true) := by
  refine node_induction ?_ ?_ ?_ ?_
  · intro t a ks ih buf
    rw [mergeNodeK]
    obtain ⟨h1, h2⟩ := ih none
    exact flush_then_nontext buf _ rfl (noAdjLeavesList_append _ _ h1 (noAdj_flushLeaf _) h2)
  · intro e buf
    by_cases ht : ∃ s b, e = .text s b
    · obtain ⟨s, b, rfl⟩ := ht
      exact ⟨rfl, rfl⟩
    · have he : ∀ s b, e = .text s b → False := fun s b h => ht ⟨s, b, h⟩
      rw [mergeNodeK.eq_2 _ _ he]
      exact flush_then_nontext buf (.leaf e) (isText.eq_2 _ he) rfl
  · intro buf; exact ⟨rfl, rfl⟩
  · intro n ns ihn ihns buf
    rw [mergeK]
    obtain ⟨a1, a2⟩ := ihn buf
    obtain ⟨b1, b2⟩ := ihns (mergeNodeK buf n).2
    exact ⟨noAdjLeavesList_append _ _ a1 b1 a2, endsNonText_append _ _ a2 b2⟩

theorem mergeNodeK_normal : ∀ (n : Node) (buf : Option Str),
    noAdjLeavesList (mergeNodeK buf n).1 = true ∧ endsNonText (mergeNodeK buf n).1 = true :=
  mergeK_normal_both.1

theorem mergeForest_normal (ns : List Node) : noAdjLeavesList (mergeForest ns) = true := by
  obtain ⟨h1, h2⟩ := mergeK_normal_both.2 ns none
  unfold mergeForest
  exact noAdjLeavesList_append _ _ h1 (noAdj_flushLeaf _) h2

theorem wellNested_unique_forest (s : Stream) (h : WellNested s) :
    ∃ ns, (okList ns = true ∧ flattenList ns = s) ∧
      ∀ ms, okList ms = true → flattenList ms = s → ms = ns := by
  obtain ⟨ns, h1, h2⟩ := wellNested_flatten_forest h
  exact ⟨ns, ⟨h1, h2.symm⟩, fun ms hm hf => flattenList_inj ms ns hm h1 (hf.trans h2)⟩

end Genshi.Parse
