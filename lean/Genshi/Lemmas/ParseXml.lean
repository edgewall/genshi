/-
  C07 — lemmas about the XML layer. For callbacks that are the traversal of a forest: no handler raises and
  the events are the flattening of the forest. For any callbacks: the layer has no state, so a run is
  decided item by item (`firstFailure` for the exception, `xItemEvents` for the events; `eager_xml`).
-/
import Genshi.Model.ParseXml
import Genshi.Lemmas.Parse
namespace Genshi.Parse
open Genshi

/-- the events a handler call enqueues (nothing when it raises) -/
def evOf (c : XmlCb) : Stream :=
  match xmlStep () c with
  | .ok r => r.2
  | .error _ => []

/-- the handler call does not raise -/
def cbOk (c : XmlCb) : Bool :=
  match xmlStep () c with
  | .ok _ => true
  | .error _ => false

theorem handleOther_ignorable (s : Str) (l c : Int) (h : (s.head? != some '&') = true) :
    handleOther s l c = .ok [] := by
  unfold handleOther
  cases s with
  | nil => rfl
  | cons ch cs =>
    by_cases hc : ch = '&'
    · subst hc; simp at h
    · split
      · rename_i heq; simp only [List.cons.injEq] at heq; exact absurd heq.1 hc
      · rfl

theorem okList_leaves {α : Type} (f : α → Event) (hf : ∀ x, (f x).isStartEnd = false) : ∀ (l : List α),
    okList (l.map fun x => Node.leaf (f x)) = true
  | [] => rfl
  | x :: l => by simp [okList, Node.ok, hf, okList_leaves f hf l]

theorem all_append_map {α : Type} (p : XmlCb → Bool) (f : α → XmlCb) (hf : ∀ x, p (f x) = true) (l : List α) :
    (l.map f).all p = true := by
  simp [List.all_map, hf]

theorem xnode_induction {P : XNode → Prop} {Q : List XNode → Prop}
    (elem : ∀ name attrs decls kids, Q kids → P (.elem name attrs decls kids))
    (chars : ∀ ps, P (.chars ps)) (cdata : ∀ ps, P (.cdata ps)) (comment : ∀ s, P (.comment s))
    (pi : ∀ t d, P (.pi t d)) (decl : ∀ v e s, P (.decl v e s)) (doctype : ∀ n sy pb h, P (.doctype n sy pb h))
    (ignorable : ∀ s l c, P (.ignorable s l c))
    (nil : Q []) (cons : ∀ t ts, P t → Q ts → Q (t :: ts)) : (∀ t, P t) ∧ ∀ ts, Q ts :=
  ⟨XNode.rec elem chars cdata comment pi decl doctype ignorable nil cons,
   XNode.rec_1 elem chars cdata comment pi decl doctype ignorable nil cons⟩

theorem callbacks_allOk_both :
    (∀ (t : XNode), t.wf = true → t.callbacks.all cbOk = true) ∧
    (∀ (ts : List XNode), wfList ts = true → (callbacksList ts).all cbOk = true) := by
  refine xnode_induction ?_ ?_ ?_ ?_ ?_ ?_ ?_ ?_ ?_ ?_
  · intro name attrs decls kids ih h
    simp only [XNode.callbacks, List.all_append, List.all_cons, Bool.and_eq_true]
    exact ⟨all_append_map _ _ (fun _ => rfl) _, rfl, ih h, rfl, all_append_map _ _ (fun _ => rfl) _⟩
  · exact fun ps _ => all_append_map _ _ (fun _ => rfl) _
  · intro ps _
    simp only [XNode.callbacks, List.all_append, List.all_cons, Bool.and_eq_true]
    exact ⟨rfl, all_append_map _ _ (fun _ => rfl) _, rfl, rfl⟩
  · exact fun _ _ => rfl
  · exact fun _ _ _ => rfl
  · exact fun _ _ _ _ => rfl
  · exact fun _ _ _ _ _ => rfl
  · intro s l c h
    simp [XNode.callbacks, cbOk, xmlStep, handleOther_ignorable s l c h]
  · exact fun _ => rfl
  · intro t ts iht ihts h
    simp only [wfList, Bool.and_eq_true] at h
    simp only [callbacksList, List.all_append, Bool.and_eq_true]
    exact ⟨iht h.1, ihts h.2⟩

theorem callbacks_allOk : ∀ (t : XNode), t.wf = true → t.callbacks.all cbOk = true :=
  callbacks_allOk_both.1

theorem flatMap_evOf_leaves {α : Type} (f : α → XmlCb) (g : α → Event) (h : ∀ x, evOf (f x) = [g x]) :
    ∀ (l : List α), (l.map f).flatMap evOf = flattenList (l.map fun x => Node.leaf (g x))
  | [] => rfl
  | x :: l => by
      rw [List.map_cons, List.flatMap_cons, h, flatMap_evOf_leaves f g h l]; rfl

theorem callbacks_events_both :
    (∀ (t : XNode), t.wf = true → t.callbacks.flatMap evOf = flattenList t.toNodes) ∧
    (∀ (ts : List XNode), wfList ts = true → (callbacksList ts).flatMap evOf = flattenList (toNodesList ts)) := by
  refine xnode_induction ?_ ?_ ?_ ?_ ?_ ?_ ?_ ?_ ?_ ?_
  · intro name attrs decls kids ih h
    simp only [XNode.callbacks, XNode.toNodes, List.flatMap_append, List.flatMap_cons, flattenList_append,
      flattenList, Node.flatten]
    rw [flatMap_evOf_leaves _ (fun d : Option Str × Option Str => Event.startNs (d.1.getD []) (d.2.getD []))
          (fun _ => rfl),
        flatMap_evOf_leaves _ (fun d : Option Str × Option Str => Event.endNs (d.1.getD [])) (fun _ => rfl),
        ih h]
    simp only [evOf, xmlStep, List.append_assoc, List.cons_append, List.nil_append]
  · exact fun ps _ => flatMap_evOf_leaves _ (fun s => Event.text s false) (fun _ => rfl) ps
  · intro ps _
    simp only [XNode.callbacks, XNode.toNodes, List.flatMap_cons, List.flatMap_append, flattenList,
      flattenList_append]
    rw [flatMap_evOf_leaves _ (fun s => Event.text s false) (fun _ => rfl)]
    rfl
  · exact fun _ _ => rfl
  · exact fun _ _ _ => rfl
  · exact fun _ _ _ _ => rfl
  · exact fun _ _ _ _ _ => rfl
  · intro s l c h
    simp only [XNode.callbacks, XNode.toNodes, List.flatMap_cons, List.flatMap_nil, evOf, xmlStep,
      handleOther_ignorable s l c h]
    rfl
  · exact fun _ => rfl
  · intro t ts iht ihts h
    simp only [wfList, Bool.and_eq_true] at h
    simp only [callbacksList, toNodesList, List.flatMap_append, flattenList_append]
    rw [iht h.1, ihts h.2]

theorem callbacks_events : ∀ (t : XNode), t.wf = true → t.callbacks.flatMap evOf = flattenList t.toNodes :=
  callbacks_events_both.1

theorem toNodes_ok_both : (∀ (t : XNode), okList t.toNodes = true) ∧ ∀ (ts : List XNode), okList (toNodesList ts) = true := by
  refine xnode_induction ?_ ?_ ?_ ?_ ?_ ?_ ?_ ?_ ?_ ?_
  · intro name attrs decls kids ih
    simp only [XNode.toNodes, okList_append, okList, Node.ok, Bool.and_eq_true]
    exact ⟨okList_leaves _ (fun _ => rfl) _, ih, okList_leaves _ (fun _ => rfl) _⟩
  · exact fun ps => okList_leaves _ (fun _ => rfl) _
  · intro ps
    simp only [XNode.toNodes, okList, okList_append, Node.ok, Bool.and_eq_true]
    exact ⟨rfl, okList_leaves _ (fun _ => rfl) _, rfl, trivial⟩
  · exact fun _ => rfl
  · exact fun _ _ => rfl
  · exact fun _ _ _ => rfl
  · exact fun _ _ _ _ => rfl
  · exact fun _ _ _ => rfl
  · rfl
  · intro t ts iht ihts
    simp only [toNodesList, okList_append, Bool.and_eq_true]
    exact ⟨iht, ihts⟩

theorem toNodes_ok : ∀ (t : XNode), okList t.toNodes = true := toNodes_ok_both.1

theorem xmlReads_items (reads : List (List (Item XmlCb))) :
    ((reads.map XmlReadG.chunk).map XmlReadG.toRead).flatMap Read.toItems = reads.flatten := by
  induction reads with
  | nil => rfl
  | cons r rs ih =>
    simp only [List.map_cons, List.flatMap_cons, XmlReadG.toRead, Read.toItems, List.flatten_cons]
    rw [ih]

/-- the exception the first failing item ends a run with: a `raise` item, or a handler call that raises -/
def firstFailure : List (Item XmlCb) → Option PyExc
  | [] => none
  | .raise e :: _ => some e
  | .cb (.default_ s l c) :: rest =>
    match handleOther s l c with
    | .error e => some e
    | .ok _ => firstFailure rest
  | .cb _ :: rest => firstFailure rest

/-- the same for any handler call: only `_handle_other` can raise, but proofs need not know which handler it is -/
theorem firstFailure_cb (c : XmlCb) (rest : List (Item XmlCb)) :
    firstFailure (.cb c :: rest) = match xmlStep () c with
      | .error e => some e
      | .ok _ => firstFailure rest := by
  cases c with
  | default_ s l c => simp only [firstFailure, xmlStep]; cases handleOther s l c <;> rfl
  | _ => rfl

theorem firstFailure_append (pre l : List (Item XmlCb)) (h : firstFailure pre = none) :
    firstFailure (pre ++ l) = firstFailure l := by
  fun_induction firstFailure pre with
  | case1 => rfl
  | case2 => cases h
  | case3 s l' c rest e ho => cases h
  | case4 s l' c rest evs ho ih => simp only [List.cons_append, firstFailure, ho]; exact ih h
  | case5 c rest hc ih => rw [List.cons_append, firstFailure.eq_4 _ _ hc]; exact ih h

theorem firstFailure_of_allOk (cbs : List XmlCb) (h : cbs.all cbOk = true) : firstFailure (cbs.map Item.cb) = none := by
  induction cbs with
  | nil => rfl
  | cons c cs ih =>
    rw [List.all_cons, Bool.and_eq_true, cbOk] at h
    rw [List.map_cons, firstFailure_cb]
    cases hs : xmlStep () c with
    | error e => rw [hs] at h; cases h.1
    | ok r => exact ih h.2

def xItemEvents : Item XmlCb → Stream
  | .cb c => evOf c
  | .raise _ => []

/-- the XML layer has no state: a run ends with its first failure, and without one it has enqueued what each handler
    call enqueues -/
theorem eager_xml (items : List (Item XmlCb)) :
    (eager xmlLayer () items).2 = firstFailure items ∧
    (firstFailure items = none → (eager xmlLayer () items).1 = items.flatMap xItemEvents) := by
  induction items with
  | nil => exact ⟨rfl, fun _ => rfl⟩
  | cons i rest ih =>
    cases i with
    | raise e => exact ⟨rfl, nofun⟩
    | cb c =>
      rw [firstFailure_cb]
      cases hs : xmlStep () c with
      | error e => exact ⟨by simp only [eager, xmlLayer, hs], nofun⟩
      | ok r =>
        simp only [eager, xmlLayer, hs, List.flatMap_cons, xItemEvents, evOf]
        exact ⟨ih.1, fun h => congrArg (r.2 ++ ·) (ih.2 h)⟩

/-- where a first failure comes from: a raise item of the batches, or `_handle_other`'s own `ExpatError` -/
theorem firstFailure_some (items : List (Item XmlCb)) (e : PyExc) (h : firstFailure items = some e) :
    Item.raise e ∈ items ∨ ∃ l c, e = .expat l c := by
  fun_induction firstFailure items with
  | case1 => cases h
  | case2 e' rest => cases h; exact .inl List.mem_cons_self
  | case3 s l c rest e' ho =>
    cases h
    right
    unfold handleOther at ho
    split at ho
    · split at ho
      · cases ho
      · cases ho; exact ⟨l, c, rfl⟩
    · cases ho
  | case4 s l c rest evs ho ih => exact (ih h).imp_left (List.mem_cons_of_mem _)
  | case5 c rest hc ih => exact (ih h).imp_left (List.mem_cons_of_mem _)

end Genshi.Parse
