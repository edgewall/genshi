/-
  GenericStrategy without positional predicates: the counters never influence
  what is reported, the matcher is a machine over lists of candidate positions
  (`aStep`): `gStep_abstract`, `generic_eq_abstract`.
-/
import Genshi.Lemmas.PathStream
import Genshi.Lemmas.ListBasics
namespace Genshi.Path
open Genshi

section
variable (ns : NsMap) (vs : Vars)

/-- queue entries of the abstract machine: position, "came from the parent's list" -/
abbrev AEntry := Nat × Bool

def pushDescA (N : List Nat) (x : Nat) : List Nat :=
  match N.getLast? with
  | some l => if l == x then N else N ++ [x]
  | none => [x]

def pushSelfA (q : List AEntry) (x1 : Nat) : List AEntry :=
  match q with
  | [] => [(x1, false)]
  | (x', fp) :: q' => if x' > x1 then (x1, false) :: q else (x', fp) :: q'

structure AAcc where
  nextPos : List Nat
  matched : Bool

/-- node test and predicates of a step at an event (no predicate is a position test) -/
def hitE (st : Step) (e : Event) : Bool :=
  st.test.matches e ns && st.preds.all fun p => (p.eval e ns vs).truthy

def aLoop (S : List Step) (rlen : Nat) (e : Event) : Nat → List AEntry → AAcc → AAcc
  | 0, _, acc => acc
  | _, [], acc => acc
  | fuel + 1, (x, fp) :: q, acc =>
    match S[x]? with
    | none => acc
    | some st =>
      let N := if isDescLike st.axis && fp then pushDescA acc.nextPos x else acc.nextPos
      if !hitE ns vs st e then aLoop S rlen e fuel q ⟨N, acc.matched⟩
      else if x + 1 == rlen then aLoop S rlen e fuel q ⟨N, true⟩
      else
        let nextAxis := (S[x + 1]?.map Step.axis).getD .child
        let q := if nextAxis == .descendantOrSelf || nextAxis == .self then pushSelfA q (x + 1) else q
        let N := if nextAxis != .self then N ++ [x + 1] else N
        aLoop S rlen e fuel q ⟨N, acc.matched⟩

abbrev AState := List (List Nat)

/-- one call of the position machine on the real steps `S`.  `F` is the length of the step list
    GenericStrategy itself holds (`S` is that list without a final attribute step), so that the
    loop gets the fuel `gStep` gives its own. -/
def aStep (S : List Step) (F : Nat) (st : AState) (e : Event) : AState × Val :=
  if e.isEnd then (st.drop 1, .none)
  else if e.isNsOrCdata then (st, .none)
  else
    let q : List AEntry := (st.headD []).map fun x => (x, true)
    let acc := aLoop ns vs S (realLen S) e (2 * F + q.length + 2) q ⟨[], false⟩
    (if e.isStart then acc.nextPos :: st else st, if acc.matched then .bool true else .none)

/-- no predicate of any step is a position test (in the model's terms) -/
def NoPositional (S : List Step) : Prop :=
  ∀ s ∈ S, ∀ p ∈ s.preds, ∀ e : Event, (p.eval e ns vs).isNum = false

theorem gPreds_nonpos (e : Event) (cous : List Nat) (preds : List Expr)
    (h : ∀ p ∈ preds, (p.eval e ns vs).isNum = false) :
    ∀ (cnum : Nat) (missed : List Nat) (store : Store),
      gPreds e ns vs cous preds cnum missed store = (preds.all (fun p => (p.eval e ns vs).truthy), store) := by
  induction preds with
  | nil => intro cnum missed store; rfl
  | cons p ps ih =>
    intro cnum missed store
    have hp := h p List.mem_cons_self
    have ih := ih (fun q hq => h q (List.mem_cons_of_mem _ hq))
    simp only [gPreds, List.all_cons]
    cases hv : p.eval e ns vs with
    | num x => rw [hv] at hp; simp [Val.isNum] at hp
    | _ => simp only [ih] <;> split <;> simp_all

/-- `pushDescA` appends the position unless the list ends in it already -/
theorem pushDescA_cases (N : List Nat) (x : Nat) :
    pushDescA N x = N ++ [x] ∨ ∃ ini, N = ini ++ [x] ∧ pushDescA N x = N := by
  rcases List.eq_nil_or_snoc N with rfl | ⟨ini, l, rfl⟩
  · exact Or.inl rfl
  · simp only [pushDescA, List.getLast?_concat]
    by_cases h : (l == x) = true
    · rw [if_pos h]; exact Or.inr ⟨ini, by rw [beq_iff_eq.mp h], rfl⟩
    · rw [if_neg h]; exact Or.inl rfl

theorem pushDesc_map (np : List GPos) (x : Nat) (pc : List Nat) :
    (pushDesc np x pc).map GPos.x = pushDescA (np.map GPos.x) x := by
  rcases pushDesc_cases np x pc with h | ⟨ini, cs, rfl, h⟩ <;> rw [h]
  · rcases List.eq_nil_or_snoc np with rfl | ⟨ini, last, rfl⟩
    · rfl
    · have hne : (last.x == x) = false := by
        cases hx : last.x == x with
        | false => rfl
        | true =>
          have := congrArg List.length h
          simp [pushDesc, hx] at this
      simp [pushDescA, hne]
  · simp [pushDescA]

theorem pushDesc_mem (np : List GPos) (x : Nat) (pc : List Nat) (p : GPos) (hp : p ∈ pushDesc np x pc) :
    p ∈ np ∨ (p.x = x ∧ ∃ cs, p.cous = cs ++ pc) := by
  rcases pushDesc_cases np x pc with h1 | ⟨ini, cs, rfl, h1⟩ <;> rw [h1] at hp <;>
    rcases List.mem_append.mp hp with h2 | h2
  · exact Or.inl h2
  · rw [List.mem_singleton.mp h2]; exact Or.inr ⟨rfl, [], rfl⟩
  · exact Or.inl (List.mem_append_left _ h2)
  · rw [List.mem_singleton.mp h2]; exact Or.inr ⟨rfl, cs, rfl⟩

def qAbs (t : QEntry) : AEntry := (t.1, !t.2.1.isEmpty)

theorem pushSelf_map (q : List QEntry) (x1 cc : Nat) :
    (pushSelf q x1 cc).map qAbs = pushSelfA (q.map qAbs) x1 := by
  cases q with
  | nil => simp [pushSelf, pushSelfA, qAbs]
  | cons t q' =>
    obtain ⟨x', p', m'⟩ := t
    simp only [pushSelf, pushSelfA, List.map_cons, qAbs]
    split <;> simp [qAbs]

theorem pushDescA_mem (N : List Nat) (x y : Nat) : y ∈ pushDescA N x ↔ (y ∈ N ∨ y = x) := by
  rcases pushDescA_cases N x with h | ⟨ini, rfl, h⟩ <;> rw [h] <;> simp

/-- what GenericStrategy returns where the position machine says "matched": `True`, or the
    value of the final attribute step when there is one and it is not empty -/
def gate (m v : Val) : Val :=
  match v with
  | .bool true => if m.truthy then m else .none
  | _ => .none

/-- accumulators of the two loops: same positions, each below `rlen` and carrying a counter, and
    the result is the gated `matched` flag -/
structure AccRel (rlen : Nat) (m : Val) (g : GAcc) (a : AAcc) : Prop where
  pos : g.nextPos.map GPos.x = a.nextPos
  ok : ∀ p ∈ g.nextPos, p.cous ≠ [] ∧ p.x < rlen
  ret : g.retval = if a.matched && m.truthy then m else .none

/-- the loop of GenericStrategy on steps without position tests runs like the loop of the
    position machine on the real steps (`steps[:rlen]`: without a final attribute step) -/
theorem gLoop_abstract (S : List Step) (rlen : Nat) (e : Event)
    (hnp : NoPositional ns vs (S.take rlen)) :
    ∀ (fuel : Nat) (Qg : List QEntry) (g : GAcc) (a : AAcc), (∀ t ∈ Qg, t.1 < rlen) →
      AccRel rlen (lastResult S e ns) g a →
      AccRel rlen (lastResult S e ns) (gLoop S rlen e ns vs fuel Qg g)
        (aLoop ns vs (S.take rlen) rlen e fuel (Qg.map qAbs) a) := by
  intro fuel
  induction fuel with
  | zero => intro Qg g a _ h; simpa [gLoop, aLoop] using h
  | succ fuel ih =>
    intro Qg g a hQ h
    cases Qg with
    | nil => simpa [gLoop, aLoop] using h
    | cons t q =>
      obtain ⟨x, pcou, mcou⟩ := t
      have hx : x < rlen := hQ (x, pcou, mcou) List.mem_cons_self
      have hq' : ∀ t ∈ q, t.1 < rlen := fun t ht => hQ t (List.mem_cons_of_mem _ ht)
      have htk : (S.take rlen)[x]? = S[x]? := List.getElem?_take_of_lt hx
      cases hst : S[x]? with
      | none => simpa [gLoop, aLoop, qAbs, hst, htk] using h
      | some st =>
        have hmem : st ∈ S.take rlen := List.mem_of_getElem? (htk.trans hst)
        have hpre := gPreds_nonpos ns vs e (pcou ++ mcou) st.preds (fun p hp => hnp st hmem p hp e)
        simp only [gLoop, aLoop, List.map_cons, qAbs, htk, hst, hpre, hitE]
        have hN : AccRel rlen (lastResult S e ns)
            ⟨(if isDescLike st.axis && !pcou.isEmpty then pushDesc g.nextPos x pcou else g.nextPos), g.store, g.retval⟩
            ⟨(if isDescLike st.axis && !pcou.isEmpty then pushDescA a.nextPos x else a.nextPos), a.matched⟩ := by
          refine ⟨?_, ?_, h.ret⟩
          · split
            · rw [pushDesc_map, h.pos]
            · exact h.pos
          · split
            · rename_i hc
              intro p hp
              rcases pushDesc_mem _ _ _ p hp with h1 | ⟨h1, cs, h2⟩
              · exact h.ok p h1
              · exact ⟨by rw [h2]; intro h0; simp [List.append_eq_nil_iff.mp h0] at hc, by omega⟩
            · exact h.ok
        by_cases ht : st.test.matches e ns = true
        · simp only [ht, Bool.not_true, Bool.false_eq_true, if_false, Bool.true_and]
          by_cases hp : (st.preds.all fun p => (p.eval e ns vs).truthy) = true
          · simp only [hp, Bool.not_true, Bool.false_eq_true, if_false]
            by_cases hl : (x + 1 == rlen) = true
            · simp only [hl, if_true]
              refine ih q _ _ hq' ⟨hN.pos, hN.ok, ?_⟩
              have hr := hN.ret
              simp only at hr ⊢
              cases hm : (lastResult S e ns).truthy with
              | true => simp
              | false => simp [hr, hm]
            · simp only [hl, Bool.false_eq_true, if_false]
              have hx1 : x + 1 < rlen := by
                have : x + 1 ≠ rlen := by simpa using hl
                omega
              rw [List.getElem?_take_of_lt hx1, ← pushSelf_map, ← apply_ite (List.map qAbs)]
              refine ih _ _ _ ?_ ⟨?_, ?_, hN.ret⟩
              · intro t ht'
                split at ht'
                · rcases pushSelf_fst q (x + 1) _ t ht' with h1 | ⟨t', ht1, ht2⟩
                  · omega
                  · rw [← ht2]; exact hq' t' ht1
                · exact hq' t ht'
              · split
                · rw [List.map_append, hN.pos]; rfl
                · exact hN.pos
              · split
                · exact List.forall_mem_append.mpr ⟨hN.ok, List.forall_mem_singleton.mpr ⟨by simp, hx1⟩⟩
                · exact hN.ok
          · simp only [hp, Bool.not_false, if_true]
            exact ih q _ _ hq' hN
        · simp only [ht, Bool.not_false, if_true, Bool.false_and]
          exact ih q _ _ hq' hN

/-- states of GenericStrategy and of the position machine: same positions (all below `rlen`),
    and every position carries at least one counter (which is what the code uses as "came
    from the parent") -/
structure StRel (rlen : Nat) (g : GState) (a : AState) : Prop where
  pos : g.stack.map (fun l => l.map GPos.x) = a
  cous : ∀ l ∈ g.stack, ∀ p ∈ l, p.cous ≠ []
  bound : ∀ l ∈ g.stack, ∀ p ∈ l, p.x < rlen

theorem gStep_abstract (S : List Step) (hrl : realLen (S.take (realLen S)) = realLen S)
    (hnp : NoPositional ns vs (S.take (realLen S)))
    (g : GState) (a : AState) (h : StRel (realLen S) g a) (e : Event) :
    StRel (realLen S) (gStep S ns vs g e).1 (aStep ns vs (S.take (realLen S)) S.length a e).1 ∧
    (gStep S ns vs g e).2 = gate (lastResult S e ns) (aStep ns vs (S.take (realLen S)) S.length a e).2 := by
  obtain ⟨hpos, hcous, hbound⟩ := h
  subst hpos
  unfold gStep aStep
  by_cases he : e.isEnd = true
  · simp only [he, if_true]
    refine ⟨⟨by simp, ?_, ?_⟩, rfl⟩
    · intro l hl
      exact hcous l (List.mem_of_mem_drop hl)
    · intro l hl
      exact hbound l (List.mem_of_mem_drop hl)
  · simp only [he, Bool.false_eq_true, if_false]
    by_cases hm : e.isNsOrCdata = true
    · simp only [hm, if_true]
      exact ⟨⟨rfl, hcous, hbound⟩, rfl⟩
    · simp only [hm, Bool.false_eq_true, if_false]
      have htop : ∀ p ∈ g.stack.headD [], p.cous ≠ [] ∧ p.x < realLen S := fun p hp => by
        obtain ⟨l, hl, hpl⟩ := mem_headD_nil hp
        exact ⟨hcous l hl p hpl, hbound l hl p hpl⟩
      have h1 : (g.stack.map fun l => l.map GPos.x).headD [] = (g.stack.headD []).map GPos.x := by
        cases g.stack <;> simp
      rw [h1, hrl]
      generalize g.stack.headD [] = top at htop ⊢
      have hq : (top.map fun p => ((p.x, p.cous, []) : QEntry)).map qAbs
          = (top.map GPos.x).map fun x => ((x, true) : AEntry) := by
        rw [List.map_map, List.map_map]
        apply List.map_congr_left
        intro p hp
        have := (htop p hp).1
        simp [qAbs, Function.comp, this]
      have hacc := gLoop_abstract ns vs S (realLen S) e hnp
        (2 * S.length + (top.map fun p => ((p.x, p.cous, []) : QEntry)).length + 2)
        (top.map fun p => ((p.x, p.cous, []) : QEntry)) ⟨[], g.store, .none⟩ ⟨[], false⟩
        (by intro t ht; simp only [List.mem_map] at ht; obtain ⟨p, hp, rfl⟩ := ht; exact (htop p hp).2)
        ⟨rfl, by simp, by simp⟩
      rw [hq] at hacc
      simp only [List.length_map] at hacc ⊢
      refine ⟨⟨?_, ?_, ?_⟩, ?_⟩
      · simp only
        split
        · rw [List.map_cons, hacc.pos]
        · rfl
      · simp only
        split
        · exact List.forall_mem_cons.mpr ⟨fun p hp => (hacc.ok p hp).1, hcous⟩
        · exact hcous
      · simp only
        split
        · exact List.forall_mem_cons.mpr ⟨fun p hp => (hacc.ok p hp).2, hbound⟩
        · exact hbound
      · rw [hacc.ret]
        cases (aLoop ns vs (S.take (realLen S)) (realLen S) e (2 * S.length + top.length + 2)
            (List.map (fun x => (x, true)) (List.map GPos.x top)) ⟨[], false⟩).matched <;> simp [gate]

/-- without position tests GenericStrategy reports what the position machine reports on the
    steps before a final attribute step, gated by the value of that step -/
theorem generic_eq_abstract (S : List Step) (hrl : realLen (S.take (realLen S)) = realLen S)
    (hnp : NoPositional ns vs (S.take (realLen S))) (h0 : 0 < realLen S) (es : List Event) :
    (runOne (gStep S ns vs) gInit es).1
      = List.zipWith (fun e v => gate (lastResult S e ns) v) es
          (runOne (aStep ns vs (S.take (realLen S)) S.length) [[0]] es).1 :=
  runOne_rel _ _ (StRel (realLen S)) _ (fun s t e hr => gStep_abstract ns vs S hrl hnp s t hr e) es gInit [[0]]
    ⟨rfl, by simp [gInit], by simp [gInit, h0]⟩

/-- the position machine reports `None` or `True`, and `True` never at an END -/
theorem aStep_out2 (S : List Step) (F : Nat) (st : AState) (e : Event) :
    (aStep ns vs S F st e).2 = .none ∨ ((aStep ns vs S F st e).2 = .bool true ∧ e.isEnd = false) := by
  unfold aStep
  by_cases he : e.isEnd = true
  · simp [he]
  · have he' : e.isEnd = false := by simpa using he
    simp only [↓reduceIte, he', Bool.false_eq_true]
    split
    · exact Or.inl rfl
    · simp only
      split
      · exact Or.inr ⟨rfl, trivial⟩
      · exact Or.inl rfl

theorem aStep_out (S : List Step) (F : Nat) (st : AState) (e : Event) :
    (aStep ns vs S F st e).2 = .none ∨ (aStep ns vs S F st e).2 = .bool true :=
  (aStep_out2 ns vs S F st e).imp id And.left

/-- gating by the value `True` of a last step that is no attribute step changes nothing -/
theorem gate_true (v : Val) (h : v = .none ∨ v = .bool true) : gate (.bool true) v = v := by
  rcases h with rfl | rfl <;> simp [gate, Val.truthy]

theorem zipWith_gate_true (S : List Step) (F : Nat) : ∀ (es : List Event) (st : AState),
    List.zipWith (fun (_ : Event) v => gate (.bool true) v) es (runOne (aStep ns vs S F) st es).1
      = (runOne (aStep ns vs S F) st es).1 := by
  intro es
  induction es with
  | nil => intro st; rfl
  | cons e es ih =>
    intro st
    simp only [runOne, List.zipWith_cons_cons, ih, gate_true _ (aStep_out ns vs S F st e)]

end
end Genshi.Path
