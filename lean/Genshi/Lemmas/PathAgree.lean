/-
  Per-event results that are `None` / `True` are determined by the set of marked nodes (the
  locations of the events of a tree are pairwise different): they are the marks of that set
  (`vals_of_marks`), so matchers that designate the same node set report the same at every
  event, and `Path.select` emits the outermost marked subtrees (`emitV_pick`).  `Operand` /
  `Operands` package this as what has to be known of a path's matcher for the `select_eq_xp`
  theorems; `operands_agree` is the form C17 uses.
-/
import Genshi.Lemmas.PathSelect
namespace Genshi.Path
open Genshi Genshi.Path.Ref

/-- is the location `x` among the marked nodes -/
def selB (vals : List Val) (locs : List (Option LNode)) (x : List Nat) : Bool :=
  (matched vals locs).any fun n => n.loc == x

/-- membership of a location among the matched nodes -/
def selOf (vals : List Val) (locs : List (Option LNode)) (m : LNode) : Bool :=
  ((matched vals locs).map (·.loc)).contains m.loc

theorem selOf_eq_selB (vals : List Val) (locs : List (Option LNode)) (m : LNode) :
    selOf vals locs m = selB vals locs m.loc := by
  simp only [selOf, selB, List.contains_eq_any_beq, List.any_map, Function.comp_def, BEq.comm (a := m.loc)]

theorem selB_cons (v : Val) (vs : List Val) (l : Option LNode) (ls : List (Option LNode)) (x : List Nat) :
    selB (v :: vs) (l :: ls) x = ((v.truthy && (match l with | some n => n.loc == x | none => false)) || selB vs ls x) := by
  simp only [selB, matched, List.any_append]
  cases hv : v.truthy <;> cases l <;> simp [Option.toList]

theorem selB_append (v1 v2 : List Val) (l1 l2 : List (Option LNode)) (h : v1.length = l1.length) (x : List Nat) :
    selB (v1 ++ v2) (l1 ++ l2) x = (selB v1 l1 x || selB v2 l2 x) := by
  simp only [selB, matched_append v1 v2 l1 l2 h, List.any_append]

theorem selB_none (vs : List Val) (x : List Nat) : selB vs [none] x = false := by
  cases vs with
  | nil => simp [selB, matched]
  | cons v vs => cases vs <;> simp [selB, matched]

theorem okVals_replicate : ∀ (locs : List (Option LNode)),
    okVals (List.replicate locs.length Val.none) locs ∧
      ∀ x : List Nat, selB (List.replicate locs.length Val.none) locs x = false
  | [] => by simp [okVals, selB, matched]
  | l :: ls => by
      obtain ⟨h1, h2⟩ := okVals_replicate ls
      refine ⟨⟨Or.inl rfl, h1⟩, fun x => ?_⟩
      simp [List.replicate_succ, selB_cons, h2 x, Val.truthy]

/-- the locations of the events that stand for a node -/
def locsOf (ls : List (Option LNode)) : List (List Nat) := ls.filterMap fun l => l.map (·.loc)

theorem locsOf_append (a b : List (Option LNode)) : locsOf (a ++ b) = locsOf a ++ locsOf b := by
  simp [locsOf, List.filterMap_append]

theorem locsOf_elem (m : LNode) (ls : List (Option LNode)) :
    locsOf (some m :: (ls ++ [none])) = m.loc :: locsOf ls := by
  simp [locsOf, List.filterMap_append]

mutual
  /-- the locations in a subtree begin with the location of its root, -/
  theorem eventLocs_under : ∀ (n : Node) (loc x : List Nat), x ∈ locsOf (eventLocs n loc) → loc <+: x
    | .elem t a ks, loc, x, h => by
        rw [eventLocs, locsOf_elem] at h
        rcases List.mem_cons.mp h with rfl | h
        · exact List.prefix_refl _
        · obtain ⟨j, _, hj⟩ := eventLocsList_under ks loc 0 x h
          exact (List.prefix_append loc [j]).trans hj
    | .leaf e, loc, x, h => by
        obtain rfl : x = loc := by simpa [eventLocs, locsOf] using h
        exact List.prefix_refl _
  /-- those below the `j`-th child with `loc ++ [j]` -/
  theorem eventLocsList_under : ∀ (ks : List Node) (loc : List Nat) (i : Nat) (x : List Nat),
      x ∈ locsOf (eventLocsList ks loc i) → ∃ j, i ≤ j ∧ loc ++ [j] <+: x
    | [], _, _, _, h => by simp [eventLocsList, locsOf] at h
    | k :: ks, loc, i, x, h => by
        rw [eventLocsList, locsOf_append] at h
        rcases List.mem_append.mp h with h | h
        · exact ⟨i, Nat.le_refl _, eventLocs_under k (loc ++ [i]) x h⟩
        · obtain ⟨j, hj, h⟩ := eventLocsList_under ks loc (i + 1) x h
          exact ⟨j, by omega, h⟩
end

mutual
  theorem eventLocs_nodup : ∀ (n : Node) (loc : List Nat), (locsOf (eventLocs n loc)).Nodup
    | .elem t a ks, loc => by
        rw [eventLocs, locsOf_elem, List.nodup_cons]
        refine ⟨fun hmem => ?_, eventLocsList_nodup ks loc 0⟩
        obtain ⟨j, _, hj⟩ := eventLocsList_under ks loc 0 loc hmem
        have := hj.length_le
        simp at this
        omega
    | .leaf e, loc => by simp [eventLocs, locsOf]
  theorem eventLocsList_nodup : ∀ (ks : List Node) (loc : List Nat) (i : Nat), (locsOf (eventLocsList ks loc i)).Nodup
    | [], _, _ => by simp [eventLocsList, locsOf]
    | k :: ks, loc, i => by
        rw [eventLocsList, locsOf_append, List.nodup_append]
        refine ⟨eventLocs_nodup k (loc ++ [i]), eventLocsList_nodup ks loc (i + 1), ?_⟩
        intro a ha b hb hab
        -- `a` would begin with `loc ++ [i]` and with `loc ++ [j]` for a later child `j`
        obtain ⟨j, hj, hb⟩ := eventLocsList_under ks loc (i + 1) b hb
        have ha := eventLocs_under k (loc ++ [i]) a ha
        rw [hab] at ha
        have := (List.prefix_of_prefix_length_le ha hb (by simp)).eq_of_length (by simp)
        simp at this
        omega
end

theorem selB_mem : ∀ (vals : List Val) (locs : List (Option LNode)) (x : List Nat), selB vals locs x = true →
    x ∈ locsOf locs
  | [], _, _, h | _ :: _, [], _, h => by simp [selB, matched] at h
  | v :: vs, l :: ls, x, h => by
      rw [selB_cons, Bool.or_eq_true] at h
      rcases h with h | h
      · cases l with
        | none => simp at h
        | some n =>
          simp only [Bool.and_eq_true, beq_iff_eq] at h
          exact List.mem_filterMap.mpr ⟨some n, List.mem_cons_self, by simp [h.2]⟩
      · obtain ⟨a, ha, hx⟩ := List.mem_filterMap.mp (selB_mem vs ls x h)
        exact List.mem_filterMap.mpr ⟨a, List.mem_cons_of_mem _ ha, hx⟩

/-- `True` at the events of the marked locations -/
def markVals (mk : List Nat → Bool) (locs : List (Option LNode)) : List Val :=
  locs.map fun l => match l with
    | some m => if mk m.loc then Val.bool true else Val.none
    | none => Val.none

theorem markVals_congr (mk mk' : List Nat → Bool) (h : ∀ x, mk x = mk' x) (locs : List (Option LNode)) :
    markVals mk locs = markVals mk' locs := by
  have : mk = mk' := funext h
  rw [this]

theorem markVals_congr_mem (mk mk' : List Nat → Bool) : ∀ (locs : List (Option LNode)),
    (∀ x ∈ locsOf locs, mk x = mk' x) → markVals mk locs = markVals mk' locs
  | [], _ => rfl
  | none :: ls, h => congrArg (Val.none :: ·) (markVals_congr_mem mk mk' ls h)
  | some m :: ls, h => by
      have hl : locsOf (some m :: ls) = m.loc :: locsOf ls := rfl
      rw [hl] at h
      have := markVals_congr_mem mk mk' ls fun x hx => h x (List.mem_cons_of_mem _ hx)
      simp only [markVals, List.map_cons, h m.loc List.mem_cons_self] at this ⊢
      rw [this]

/-- results that are `None` / `True` are the marks of the set of marked locations -/
theorem vals_of_marks (locs : List (Option LNode)) (vals : List Val) (h : okVals vals locs)
    (hnd : (locsOf locs).Nodup) : vals = markVals (selB vals locs) locs := by
  induction locs generalizing vals with
  | nil => cases vals with
    | nil => rfl
    | cons _ _ => exact h.elim
  | cons l ls ih =>
    cases vals with
    | nil => exact h.elim
    | cons v vs =>
      cases l with
      | none =>
        have hv : v = .none := by rcases h.1 with h1 | h1; exact h1; simp at h1
        show v :: vs = Val.none :: markVals (selB (v :: vs) (none :: ls)) ls
        rw [hv, markVals_congr _ (selB vs ls) (fun x => by simp [selB_cons, Val.truthy]),
          ← ih vs h.2 (by simpa [locsOf] using hnd)]
      | some n =>
        obtain ⟨hn, hnd'⟩ : n.loc ∉ locsOf ls ∧ (locsOf ls).Nodup := by
          simpa [locsOf, List.nodup_cons] using hnd
        -- no later event stands for the same location
        have hno : selB vs ls n.loc = false := by
          cases hs : selB vs ls n.loc with
          | false => rfl
          | true => exact absurd (selB_mem _ _ _ hs) hn
        have htl : markVals (selB (v :: vs) (some n :: ls)) ls = markVals (selB vs ls) ls :=
          markVals_congr_mem _ _ ls fun x hx => by
            have : (n.loc == x) = false := by
              simpa using fun he : n.loc = x => hn (he ▸ hx)
            simp [selB_cons, this]
        show v :: vs = (if selB (v :: vs) (some n :: ls) n.loc then Val.bool true else Val.none) ::
          markVals (selB (v :: vs) (some n :: ls)) ls
        rw [htl, ← ih vs h.2 hnd']
        rcases h.1 with hv | ⟨hv, _⟩ <;> simp [hv, selB_cons, hno, Val.truthy]

/-- the per-event results are determined by the marked locations -/
theorem vals_eq_of_marks : ∀ (locs : List (Option LNode)) (v1 v2 : List Val), okVals v1 locs → okVals v2 locs →
    (locsOf locs).Nodup → (∀ x, selB v1 locs x = selB v2 locs x) → v1 = v2 := fun locs v1 v2 h1 h2 hnd hsel => by
  rw [vals_of_marks locs v1 h1 hnd, vals_of_marks locs v2 h2 hnd, markVals_congr _ _ hsel]

theorem markVals_eq (mk : List Nat → Bool) (locs : List (Option LNode)) :
    markVals mk locs = valsOf (fun m => if mk m.loc then Val.bool true else Val.none) locs := rfl

theorem shaped_marks (mk : List Nat → Bool) : Shaped fun m => if mk m.loc then Val.bool true else Val.none := by
  intro m
  dsimp only
  cases mk m.loc
  · exact Or.inl rfl
  · exact Or.inr (Or.inl rfl)

theorem marks_sel (vals : List Val) (locs : List (Option LNode)) :
    (fun m : LNode => (if selB vals locs m.loc then Val.bool true else Val.none) == .bool true) = selOf vals locs := by
  funext m; rw [← selOf_eq_selB]; cases selOf vals locs m <;> rfl

theorem marks_asel (mk : List Nat → Bool) :
    (fun m : LNode => attrsOf (if mk m.loc then Val.bool true else Val.none)) = fun _ => [] := by
  funext m; cases mk m.loc <;> rfl

/-- for results that are `None` / `True`, `Path.select` emits the outermost marked nodes with
    their subtrees -/
theorem emitV_pick : ∀ (n : Node), n.ok = true → ∀ (loc : List Nat) (vals : List Val),
    okVals vals (eventLocs n loc) →
    emitV 0 n.flatten vals = pick (selOf vals (eventLocs n loc)) (fun _ => []) n loc := by
  intro n hok loc vals hv
  conv => lhs; rw [vals_of_marks _ _ hv (eventLocs_nodup n loc), markVals_eq]
  rw [(emitV_valsOf _ (shaped_marks _)).1 n hok loc, marks_sel, marks_asel]

theorem emitV_pickList : ∀ (ks : List Node), okList ks = true → ∀ (loc : List Nat) (i : Nat) (vals : List Val),
    okVals vals (eventLocsList ks loc i) →
    emitV 0 (flattenList ks) vals = pickList (selOf vals (eventLocsList ks loc i)) (fun _ => []) ks loc i := by
  intro ks hok loc i vals hv
  conv => lhs; rw [vals_of_marks _ _ hv (eventLocsList_nodup ks loc i), markVals_eq]
  rw [(emitV_valsOf _ (shaped_marks _)).2 ks hok loc i, marks_sel, marks_asel]

/-- what has to be known of one operand of a union: its matcher reports `None` / `True`, and
    `True` exactly at the nodes of the operand's XPath node set -/
structure Operand (ns : NsMap) (vs : Vars) (xvs : XVars) (root : Node) (p : LocPath) (m : Matcher) (st : MState) :
    Prop where
  ok : okVals (runTest [m] ns vs [st] root.flatten) (eventLocs root [])
  sel : ∀ x : LNode, selB (runTest [m] ns vs [st] root.flatten) (eventLocs root []) x.loc
          = reach ns xvs p ⟨[], root⟩ x
  nonAttr : ∃ last, p.getLast? = some last ∧ last.axis ≠ .attribute

theorem last_nonAttr {p : LocPath} (hne : p ≠ []) (h : ∀ s ∈ p, s.axis ≠ .attribute) :
    ∃ last, p.getLast? = some last ∧ last.axis ≠ .attribute :=
  ⟨p.getLast hne, List.getLast?_eq_some_getLast hne, h _ (List.getLast_mem hne)⟩

inductive Operands (ns : NsMap) (vs : Vars) (xvs : XVars) (root : Node) :
    List LocPath → List Matcher → List MState → Prop
  | nil : Operands ns vs xvs root [] [] []
  | cons {p ps m ms st sts} : Operand ns vs xvs root p m st → Operands ns vs xvs root ps ms sts →
      Operands ns vs xvs root (p :: ps) (m :: ms) (st :: sts)

/-- operands given one by one: path `f i` run by the matcher `g i` -/
theorem Operands.of_forall {ns : NsMap} {vs : Vars} {xvs : XVars} {root : Node} {ι : Type} (f : ι → LocPath)
    (g : ι → Matcher × MState) : ∀ (l : List ι), (∀ i ∈ l, Operand ns vs xvs root (f i) (g i).1 (g i).2) →
      Operands ns vs xvs root (l.map f) (l.map fun i => (g i).1) (l.map fun i => (g i).2)
  | [], _ => .nil
  | i :: l, h => .cons (h i List.mem_cons_self) (Operands.of_forall f g l fun j hj => h j (List.mem_cons_of_mem _ hj))

/-- two matchers that designate the node sets of paths with the same XPath meaning report
    the same result at every event -/
theorem operands_agree (ns : NsMap) (vs : Vars) (xvs : XVars) (root : Node) (p1 p2 : LocPath)
    (m1 m2 : Matcher) (st1 st2 : MState)
    (h1 : Operand ns vs xvs root p1 m1 st1) (h2 : Operand ns vs xvs root p2 m2 st2)
    (hr : ∀ x : LNode, reach ns xvs p1 ⟨[], root⟩ x = reach ns xvs p2 ⟨[], root⟩ x) :
    runTest [m1] ns vs [st1] root.flatten = runTest [m2] ns vs [st2] root.flatten := by
  apply vals_eq_of_marks (eventLocs root []) _ _ h1.ok h2.ok (eventLocs_nodup root [])
  intro x
  have e1 := h1.sel ⟨x, root⟩
  have e2 := h2.sel ⟨x, root⟩
  have := hr ⟨x, root⟩
  simp only at e1 e2
  rw [e1, e2, this]

end Genshi.Path
