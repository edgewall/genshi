/-
  Paths that end in an attribute step (`a/@x`, `.//@x`, `*[@k]/@*`) under GenericStrategy:
  the matcher reports the attribute selection at the elements reached by the steps before,
  and `Path.select` yields those selections in document order.
-/
import Genshi.Lemmas.PathNonPos
namespace Genshi.Path
open Genshi Genshi.Path.Ref

def emitFlat : List Event → List Val → List Item
  | e :: es, v :: vs => (if v.truthy then [itemOf v e] else []) ++ emitFlat es vs
  | _, _ => []

theorem emitV_flat : ∀ (es : List Event) (vals : List Val), (∀ v ∈ vals, (v == Val.bool true) = false) →
    emitV 0 es vals = emitFlat es vals
  | [], _, _ => by simp [emitV, emitFlat]
  | _ :: _, [], _ => by simp [emitV, emitFlat]
  | e :: es, v :: vs, h => by
      have hv := h v List.mem_cons_self
      have ih := emitV_flat es vs (fun w hw => h w (List.mem_cons_of_mem _ hw))
      simp only [↓reduceIte, emitV, emitFlat, Nat.lt_irrefl, hv, Bool.false_eq_true]
      split <;> simp [ih]

/-- the result of an attribute test is an attribute list or `None` -/
def AttrShaped (t : NodeTest) (ns : NsMap) : Prop :=
  (∀ e, t.apply e ns = Val.none ∨ ∃ a, t.apply e ns = Val.attrs a) ∧
  (∀ e, e.isStart = false → (t.apply e ns).truthy = false)

section
variable (t : NodeTest) (ns : NsMap) (mk : List Nat → Bool)

/-- the attribute selection the matcher reports at a marked node -/
def aselM (m : LNode) : AttrList :=
  if mk m.loc && (t.apply (nodeEvent m.node) ns).truthy then attrsOf (t.apply (nodeEvent m.node) ns) else []

theorem gate_ne_true (hs : AttrShaped t ns) (e : Event) (v : Val) : (gate (t.apply e ns) v == Val.bool true) = false := by
  rcases hs.1 e with h | ⟨a, h⟩ <;> rw [h] <;> unfold gate <;> (repeat' split) <;> simp

theorem zipWith_gate_ne_true (hs : AttrShaped t ns) : ∀ (es : List Event) (vals : List Val),
    ∀ v ∈ List.zipWith (fun e v => gate (t.apply e ns) v) es vals, (v == Val.bool true) = false
  | [], _, v, hv => by simp at hv
  | _ :: _, [], v, hv => by simp at hv
  | e :: es, w :: ws, v, hv => by
      simp only [List.zipWith_cons_cons, List.mem_cons] at hv
      rcases hv with h | h
      · rw [h]; exact gate_ne_true t ns hs e w
      · exact zipWith_gate_ne_true hs es ws v h

/-- the events of a tree paired with per-node results: the event of node `m` is `nodeEvent m.node` -/
theorem zipWith_valsOf (f : Event → Val → Val) (hf : ∀ t, f (.end_ t) .none = .none) (rep : LNode → Val) :
    (∀ (n : Node) (loc : List Nat), List.zipWith f n.flatten (valsOf rep (eventLocs n loc))
        = valsOf (fun m => f (nodeEvent m.node) (rep m)) (eventLocs n loc)) ∧
    (∀ (ks : List Node) (loc : List Nat) (i : Nat), List.zipWith f (flattenList ks) (valsOf rep (eventLocsList ks loc i))
        = valsOf (fun m => f (nodeEvent m.node) (rep m)) (eventLocsList ks loc i)) := by
  apply node_induction
  · intro t a ks ih loc
    rw [valsOf_elem, valsOf_elem, Node.flatten, List.zipWith_cons_cons,
      List.zipWith_append (by rw [valsOf_length, eventLocsList_length]), ih loc 0]
    simp [hf, nodeEvent]
  · intro e loc
    simp [Node.flatten, eventLocs, valsOf, nodeEvent]
  · intro loc i
    rfl
  · intro k ks ihk ihks loc i
    rw [Genshi.flattenList, valsOf_kids, valsOf_kids,
      List.zipWith_append (by rw [valsOf_length, eventLocs_length]), ihk, ihks]

/-- the gated value at a node, as `Path.select` reads it: never a match, and the attribute
    selection where the node is marked -/
theorem gate_shaped (hs : AttrShaped t ns) :
    Shaped (fun m => gate (t.apply (nodeEvent m.node) ns) (if mk m.loc then Val.bool true else Val.none)) ∧
    (fun m : LNode => gate (t.apply (nodeEvent m.node) ns) (if mk m.loc then Val.bool true else Val.none) == .bool true)
      = (fun _ => false) ∧
    (fun m : LNode => attrsOf (gate (t.apply (nodeEvent m.node) ns) (if mk m.loc then Val.bool true else Val.none)))
      = aselM t ns mk := by
  refine ⟨fun m => ?_, funext fun m => gate_ne_true t ns hs _ _, funext fun m => ?_⟩
  · dsimp only
    cases hst : (nodeEvent m.node).isStart
    · have := hs.2 _ hst
      cases mk m.loc <;> simp [gate, this]
    · rcases hs.1 (nodeEvent m.node) with h | ⟨a, h⟩ <;> rw [h] <;> cases mk m.loc <;> simp [gate, Val.truthy]
      cases a <;> simp
  · unfold aselM
    rcases hs.1 (nodeEvent m.node) with h | ⟨a, h⟩ <;> rw [h] <;> cases mk m.loc <;> simp [gate, Val.truthy, attrsOf]
    cases a <;> simp

/-- `Path.select` on the gated marks: the attribute selections of the marked nodes -/
theorem emitV_gate (hs : AttrShaped t ns) :
    (∀ (n : Node), n.ok = true → ∀ (loc : List Nat),
      emitV 0 n.flatten (List.zipWith (fun e v => gate (t.apply e ns) v) n.flatten (markVals mk (eventLocs n loc)))
        = pick (fun _ => false) (aselM t ns mk) n loc) ∧
    (∀ (ks : List Node), okList ks = true → ∀ (loc : List Nat) (i : Nat),
      emitV 0 (flattenList ks)
          (List.zipWith (fun e v => gate (t.apply e ns) v) (flattenList ks) (markVals mk (eventLocsList ks loc i)))
        = pickList (fun _ => false) (aselM t ns mk) ks loc i) := by
  obtain ⟨h1, h2, h3⟩ := gate_shaped t ns mk hs
  have hz := zipWith_valsOf (fun e v => gate (t.apply e ns) v) (fun _ => by simp [gate])
    (fun m => if mk m.loc then Val.bool true else Val.none)
  have hG := emitV_valsOf _ h1
  rw [h2, h3] at hG
  exact ⟨fun n hok loc => by rw [markVals_eq, hz.1 n loc, hG.1 n hok loc],
    fun ks hok loc i => by rw [markVals_eq, hz.2 ks loc i, hG.2 ks hok loc i]⟩

theorem emitAttr (hs : AttrShaped t ns) : ∀ (n : Node), n.ok = true → ∀ (loc : List Nat),
    emitFlat n.flatten (List.zipWith (fun e v => gate (t.apply e ns) v) n.flatten (markVals mk (eventLocs n loc)))
      = pick (fun _ => false) (aselM t ns mk) n loc := fun n hok loc =>
  (emitV_flat _ _ (zipWith_gate_ne_true t ns hs _ _)).symm.trans ((emitV_gate t ns mk hs).1 n hok loc)

theorem emitAttrList (hs : AttrShaped t ns) : ∀ (ks : List Node), okList ks = true → ∀ (loc : List Nat) (i : Nat),
    emitFlat (flattenList ks)
        (List.zipWith (fun e v => gate (t.apply e ns) v) (flattenList ks) (markVals mk (eventLocsList ks loc i)))
      = pickList (fun _ => false) (aselM t ns mk) ks loc i := fun ks hok loc i =>
  (emitV_flat _ _ (zipWith_gate_ne_true t ns hs _ _)).symm.trans ((emitV_gate t ns mk hs).2 ks hok loc i)

end

theorem attrShaped_of_isAttrName (t : NodeTest) (ns : NsMap) (h : t.isAttrName = true) : AttrShaped t ns :=
  ⟨fun e => (attrApply_form t (t.attrFlag_eq_isAttrName.trans h) e ns).imp id fun ⟨a, _, ha⟩ => ⟨a, ha⟩,
   fun e he => by rw [apply_attrName_nonstart ns h (by rintro tag a rfl; cases he)]; rfl⟩

section
variable (ns : NsMap) (vs : Vars)

theorem realLen_snoc_attr (S' : List Step) (a : Step) (ha : a.axis = .attribute) :
    realLen (S' ++ [a]) = S'.length := by
  simp [realLen, ha]

theorem lastResult_snoc_attr (S' : List Step) (a : Step) (ha : a.axis = .attribute) (e : Event) :
    lastResult (S' ++ [a]) e ns = a.test.apply e ns := by
  simp [lastResult, ha]

/-- GenericStrategy on steps `S'` followed by an attribute step: at every event the result
    is the attribute selection, where the node is reached through `S'` (what is used of the
    nodes is `HitOk`: each step is hit by a node's event exactly when it holds of the node) -/
theorem attr_run_hit (S' : List Step) (a : Step) (hS' : StepsOk ns vs S') (ha : a.axis = .attribute)
    (root : Node) (hcl : root.clean = true) (hhit : AllNodes (HitOk ns vs S') root) :
    (runOne (gStep (S' ++ [a]) ns vs) gInit root.flatten).1
      = List.zipWith (fun e v => gate (a.test.apply e ns) v) root.flatten
          (markVals (fun x => RR ns (toXVars vs) S' 0 ⟨[], root⟩ ⟨x, root⟩) (eventLocs root [])) := by
  rw [generic_eq_aStep ns vs S' hS' (S' ++ [a]) (realLen_snoc_attr S' a ha) (by simp),
    show (fun e v => gate (lastResult (S' ++ [a]) e ns) v) = fun e v => gate (a.test.apply e ns) v from
      funext fun e => by rw [lastResult_snoc_attr ns S' a ha e],
    vals_of_marks _ _ (okVals_run _ (aStep_out2 ns vs S' _) root [] _) (eventLocs_nodup root [])]
  congr 1
  exact markVals_congr _ _ (fun x => aStep_marks ns vs S' hS' _ (by simp) root hcl hhit ⟨x, root⟩) _

theorem attr_run (S' : List Step) (a : Step) (hS' : StepsOk ns vs S') (ha : a.axis = .attribute)
    (root : Node) (hcl : root.clean = true) (hnodes : AllNodes (NodeFor S' ns vs) root) :
    (runOne (gStep (S' ++ [a]) ns vs) gInit root.flatten).1
      = List.zipWith (fun e v => gate (a.test.apply e ns) v) root.flatten
          (markVals (fun x => RR ns (toXVars vs) S' 0 ⟨[], root⟩ ⟨x, root⟩) (eventLocs root [])) :=
  attr_run_hit ns vs S' a hS' ha root hcl (AllNodes.imp (fun n hn => hS'.hitOk ns vs n hn) root hnodes)

end

mutual
  theorem pick_congr_asel (P : Node → Prop) (sel : LNode → Bool) (asel asel' : LNode → AttrList)
      (h : ∀ m : LNode, P m.node → asel m = asel' m) :
      ∀ (n : Node) (loc : List Nat), AllNodes P n → pick sel asel n loc = pick sel asel' n loc
    | .elem t a ks, loc, hn => by
        simp only [pick, h ⟨loc, .elem t a ks⟩ hn.1]
        rw [pickList_congr_asel P sel asel asel' h ks loc 0 hn.2]
    | .leaf e, loc, _ => by simp only [pick]
  theorem pickList_congr_asel (P : Node → Prop) (sel : LNode → Bool) (asel asel' : LNode → AttrList)
      (h : ∀ m : LNode, P m.node → asel m = asel' m) :
      ∀ (ks : List Node) (loc : List Nat) (i : Nat), AllList P ks →
        pickList sel asel ks loc i = pickList sel asel' ks loc i
    | [], _, _, _ => by simp [pickList]
    | k :: ks, loc, i, hk => by
        simp only [pickList]
        rw [pick_congr_asel P sel asel asel' h k (loc ++ [i]) hk.1,
            pickList_congr_asel P sel asel asel' h ks loc (i + 1) hk.2]
end

theorem filter_contains_filter {α : Type} [BEq α] [LawfulBEq α] (l : List α) (f : α → Bool) :
    l.filter (fun a => (l.filter f).contains a) = l.filter f := by
  apply List.filter_congr
  intro a ha
  cases hf : f a with
  | true =>
    have : a ∈ l.filter f := List.mem_filter.mpr ⟨ha, hf⟩
    simpa using this
  | false =>
    have : a ∉ l.filter f := fun h => by simp [List.mem_filter, hf] at h
    simpa using this

theorem filter_contains_self {α : Type} [BEq α] [LawfulBEq α] (l : List α) :
    l.filter (fun a => l.contains a) = l := by
  apply List.filter_eq_self.mpr
  intro a ha
  simpa using ha

/-- among the attributes of an element, those in the node set of the attribute test are that
    node set -/
theorem filter_attrNodes (t : NodeTest) (ns : NsMap) (tg : QName) (ats : AttrList) (ks : List Node) :
    ats.filter (fun a => (attrNodes t (.elem tg ats ks) ns).contains a) = attrNodes t (.elem tg ats ks) ns := by
  cases t <;> simp only [attrNodes] <;>
    first | exact filter_contains_self ats | exact filter_contains_filter ats _ | simp

section
variable (ns : NsMap) (vs : Vars)

theorem gSteps_snoc_attr (q : LocPath) (hne : q ≠ []) (a : Step) : gSteps (q ++ [a]) false = gSteps q false ++ [a] := by
  obtain ⟨s0, rest, rfl⟩ := List.exists_cons_of_ne_nil hne
  simp only [gSteps, List.cons_append, Bool.false_eq_true, if_false]
  split <;> rfl

/-- GenericStrategy on `q/@a` in relative mode, `q` empty or without position tests: the attribute
    selection at the nodes `q` reaches from the root.  The steps it works with before `@a` are `self::*` alone
    for `@a`, and `gSteps q false` otherwise. -/
theorem generic_attr_marks (q : LocPath) (a : Step) (ha : a.axis = .attribute) (hq : q = [] ∨ StepsOk ns vs q)
    (tag : QName) (attrs : AttrList) (kids : List Node) (hcl : (Node.elem tag attrs kids).clean = true)
    (hn : AllNodes (NodeFor q ns vs) (.elem tag attrs kids)) :
    (runOne (gStep (gSteps (q ++ [a]) false) ns vs) gInit (Node.elem tag attrs kids).flatten).1
      = List.zipWith (fun e v => gate (a.test.apply e ns) v) (Node.elem tag attrs kids).flatten
          (markVals (fun x => reach ns (toXVars vs) q ⟨[], .elem tag attrs kids⟩ ⟨x, .elem tag attrs kids⟩)
            (eventLocs (.elem tag attrs kids) [])) := by
  obtain ⟨S, hg, hS, hN, hRR⟩ : ∃ S : List Step, gSteps (q ++ [a]) false = S ++ [a] ∧ StepsOk ns vs S ∧
      AllNodes (NodeFor S ns vs) (.elem tag attrs kids) ∧ ∀ t, RR ns (toXVars vs) S 0 ⟨[], .elem tag attrs kids⟩ t
        = reach ns (toXVars vs) q ⟨[], .elem tag attrs kids⟩ t := by
    rcases hq with rfl | hq
    · refine ⟨[dotSlash], by simp [gSteps, ha],
        ⟨by simp, by simp [dotSlash], by simp [dotSlash, NodeTest.elemWf], by simp [dotSlash], by simp [dotSlash]⟩,
        nodeFor_weaken ns vs (by simp [dotSlash]) _ hn, fun t => ?_⟩
      simp only [RR, pathAt, List.drop_zero, convAxis, dotSlash, withAxis]
      rw [reach_self ns (toXVars vs) _ _ (by intro q hq; simp at hq) rfl]
      simp [hitR, testNode]
    · have ⟨hS, _, hRR⟩ := gSteps_relative ns vs q hq
      exact ⟨_, gSteps_snoc_attr q (List.length_pos_iff.mp hq.ne) a, hS,
        AllNodes.imp (fun n h => nodeFor_gSteps ns vs q hq n h) _ hn, hRR tag attrs kids⟩
  rw [hg, attr_run ns vs S a hS ha _ hcl hN]
  congr 1
  exact markVals_congr _ _ (fun x => hRR _) _

end

/-- the attribute selection reported at a marked node is XPath's node set of the test -/
theorem aselM_eq (t : NodeTest) (ns : NsMap) (mk : List Nat → Bool) (m : LNode) (hok : nodeOk m.node)
    (hat : t.isAttrName = true) (hawf : t.wf ns = true) :
    aselM t ns mk m = if mk m.loc then attrNodes t m.node ns else [] := by
  have hv := attrTest_toX t ns m.node hok hat hawf
  unfold aselM
  generalize t.apply (nodeEvent m.node) ns = v at hv
  cases v <;> simp [Val.toX] at hv
  · rw [← hv]; simp [Val.truthy]
  · rw [← hv]
    rename_i a
    cases mk m.loc <;> cases a <;> simp [Val.truthy, attrsOf]

/-- what XPath selects of the attributes of node `m` with the single path `q/@t` -/
theorem attrsSelected_single (ns : NsMap) (xvs : XVars) (q : LocPath) (a : Step) (ha : a.axis = .attribute)
    (root m : LNode) :
    attrsSelected [q ++ [a]] ns xvs root m
      = if reach ns xvs q root m then attrNodes a.test m.node ns else [] := by
  unfold attrsSelected
  obtain ⟨loc, node⟩ := m
  cases node with
  | leaf e => simp [attrNodes]
  | elem tg ats ks =>
    simp only [List.any_cons, List.any_nil, Bool.or_false, List.getLast?_append, List.getLast?_singleton,
      Option.some_or, ha, beq_self_eq_true, Bool.true_and, List.dropLast_concat]
    cases hr : reach ns xvs q root ⟨loc, .elem tg ats ks⟩ with
    | false => simp
    | true => simpa using filter_attrNodes a.test ns tg ats ks

/-- from "the matcher marks the nodes reached through `q` and reports the value of the
    attribute test there" to `Path.select` = `Ref.xpSelect` for `q/@t` -/
theorem xpSelect_attr_of_marks (ns : NsMap) (xvs : XVars) (q : LocPath) (a : Step)
    (ha : a.axis = .attribute) (hat : a.test.isAttrName = true) (hawf : a.test.wf ns = true)
    (tag : QName) (attrs : AttrList) (kids : List Node)
    (hrok : (Node.elem tag attrs kids).ok = true) (hnok : AllNodes (fun n => nodeOk n) (.elem tag attrs kids))
    (mk : List Nat → Bool)
    (hmk : ∀ x, mk x = reach ns xvs q ⟨[], .elem tag attrs kids⟩ ⟨x, .elem tag attrs kids⟩) :
    emitV 0 (Node.elem tag attrs kids).flatten
        (List.zipWith (fun e v => gate (a.test.apply e ns) v) (Node.elem tag attrs kids).flatten
          (markVals mk (eventLocs (.elem tag attrs kids) [])))
      = xpSelect [q ++ [a]] ns xvs (.elem tag attrs kids) := by
  have hshape := attrShaped_of_isAttrName a.test ns hat
  rw [(emitV_gate a.test ns _ hshape).1 _ hrok []]
  unfold xpSelect
  have hsel : nodeSelected [q ++ [a]] ns xvs ⟨[], .elem tag attrs kids⟩ = fun _ => false := by
    funext n
    simp [nodeSelected, ha]
  rw [hsel]
  apply pick_congr_asel (fun n => nodeOk n) _ _ _ _ _ _ hnok
  intro m hm
  rw [aselM_eq a.test ns _ m hm hat hawf, attrsSelected_single ns xvs q a ha, hmk,
    reach_loc ns xvs q _ ⟨m.loc, .elem tag attrs kids⟩ m rfl]

end Genshi.Path
