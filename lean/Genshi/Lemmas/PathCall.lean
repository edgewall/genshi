/-
  One call of a matcher where the single strategies meet: GenericStrategy with one counter list steps that
  list as SingleStepStrategy steps its own (`gPreds_single`); its call on an empty top (`gStep_empty`) and at
  the context node under `self::*` (`gStep_root`, `gStep_root_cp`); one call of SingleStepStrategy
  (`sStep_run`, `sStep_end`, `sStep_marker`); what a name test of the attribute axis returns
  (`attrApply_form`).
-/
import Genshi.Lemmas.PathStream
namespace Genshi.Path
open Genshi

theorem Store.get_set_self (s : Store) (i : Nat) (v : List Nat) (h : i < s.length) :
    Store.get (s.set i v) i = v := by
  simp [Store.get, List.getD, h]

theorem Store.get_set_ne (s : Store) (i j : Nat) (v : List Nat) (h : j ≠ i) :
    Store.get (s.set i v) j = Store.get s j := by
  simp [Store.get, List.getD, Ne.symm h]

theorem Store.get_append_left (s t : Store) (j : Nat) (h : j < s.length) :
    Store.get (s ++ t) j = Store.get s j := by
  simp [Store.get, List.getD, List.getElem?_append_left h]

theorem Store.get_append_new (s : Store) : Store.get (s ++ [[]]) s.length = [] := by
  simp [Store.get, List.getD]

theorem Store.set_get_self (s : Store) (i : Nat) (h : i < s.length) :
    s.set i (Store.get s i) = s := by
  apply List.ext_getElem (by simp)
  intro j h1 h2
  by_cases hij : i = j
  · subst hij; simp [Store.get, List.getD, h]
  · simp [hij]

theorem gPreds_single (e : Event) (ns : NsMap) (vs : Vars) (cid : Nat) (preds : List Expr) :
    ∀ (cnum : Nat) (store : Store), cid < store.length →
      gPreds e ns vs [cid] preds cnum [] store =
        ((sPreds e ns vs preds cnum (Store.get store cid)).1,
         store.set cid (sPreds e ns vs preds cnum (Store.get store cid)).2) := by
  induction preds with
  | nil => intro cnum store h; simp [gPreds, sPreds, Store.set_get_self store cid h]
  | cons p ps ih =>
    intro cnum store h
    simp only [gPreds, sPreds]
    cases hv : p.eval e ns vs with
    | num x =>
      simp only [countLoop, List.contains_nil, Bool.false_eq_true, if_false, List.getD_eq_getElem?_getD]
      by_cases heq : XNum.eqNat x ((bump cnum (Store.get store cid))[cnum]?.getD 0) = true
      · simp only [heq, if_true, List.length_nil, List.length_cons]
        by_cases ht : (Val.num x).truthy = true
        · simp only [ht, Bool.not_true, Bool.false_eq_true, if_false]
          have := ih (cnum + 1) (store.set cid (bump cnum (Store.get store cid))) (by simpa using h)
          simp only [Store.get_set_self store cid _ h, List.set_set] at this
          simpa using this
        · simp [ht]
      · simp [heq]
    | _ =>
      by_cases ht : (p.eval e ns vs).truthy = true
      · simp only [hv] at ht ⊢
        simp only [ht, Bool.not_true, Bool.false_eq_true, if_false]
        exact ih cnum store h
      · simp only [hv] at ht ⊢
        simp [ht, Store.set_get_self store cid h]

theorem gStep_empty (steps : List Step) (ns : NsMap) (vs : Vars) (st : GState) (e : Event)
    (rest : List (List GPos)) (hstack : st.stack = [] :: rest) (he : e.isEnd = false)
    (hm : e.isNsOrCdata = false) :
    gStep steps ns vs st e = (⟨if e.isStart then [] :: st.stack else st.stack, st.store⟩, .none) := by
  unfold gStep
  simp [he, hm, hstack, gLoop_nil]

/-- the context node under `_DOTSLASH`: a START event at position 0 opens a fresh counter for
    the next step on its children (next axis child / descendant) -/
theorem gStep_root (s : Step) (more : List Step) (ns : NsMap) (vs : Vars) (st : GState) (tag : QName) (attrs : AttrList)
    (rest : List (List GPos)) (hstack : st.stack = [⟨0, [0]⟩] :: rest) (hrl : realLen (dotSlash :: s :: more) ≠ 1)
    (hax : s.axis = .child ∨ s.axis = .descendant) :
    gStep (dotSlash :: s :: more) ns vs st (.start tag attrs) =
      (⟨[⟨1, [st.store.length]⟩] :: st.stack, st.store ++ [[]]⟩, .none) := by
  have hnx : (((dotSlash :: s :: more)[0 + 1]?.map Step.axis).getD .child == .descendantOrSelf ||
      ((dotSlash :: s :: more)[0 + 1]?.map Step.axis).getD .child == .self) = false := by
    rcases hax with h | h <;> simp [h]
  have hrl' : (0 + 1 == realLen (dotSlash :: s :: more)) = false := beq_false_of_ne (Ne.symm hrl)
  rw [gStep_top1 ns vs _ st _ 0 [0] dotSlash rest hstack rfl rfl rfl (Or.inr hnx)]
  simp only [gRound, hrl', Bool.false_eq_true, if_false]
  rcases hax with h | h <;>
    simp [dotSlash, isDescLike, NodeTest.matches, NodeTest.apply, Val.truthy, gPreds, h, Event.isStart]

theorem gStep_root_cp (p : LocPath) (hp : ChildPath p) (hne : p ≠ []) (ns : NsMap) (vs : Vars) (st : GState)
    (tag : QName) (attrs : AttrList) (rest : List (List GPos)) (hstack : st.stack = [⟨0, [0]⟩] :: rest) :
    gStep (dotSlash :: p) ns vs st (.start tag attrs) =
      (⟨[⟨1, [st.store.length]⟩] :: st.stack, st.store ++ [[]]⟩, .none) := by
  have hrl := realLen_childPath p hp
  obtain ⟨s0, rest', rfl⟩ := List.exists_cons_of_ne_nil hne
  exact gStep_root s0 rest' ns vs st tag attrs rest hstack (by rw [hrl]; simp) (Or.inl (hp s0 List.mem_cons_self))

/-- the state after the depth bookkeeping of a non-END event -/
def sBump (ic : Bool) (e : Event) (t : SState) : SState :=
  if !ic && e.isStart then { t with depth := t.depth + 1 } else t

def sOutside (ic : Bool) (s0 : Step) (dep : Int) : Bool :=
  !ic && ((s0.axis == .self && dep != 0) || (s0.axis == .child && dep != 1)
          || (s0.axis == .descendant && decide (dep < 1)))

theorem sStep_run (steps : List Step) (s0 sl : Step) (hh : steps.head? = some s0)
    (hl : steps.getLast? = some sl) (ic : Bool) (ns : NsMap) (vs : Vars) (t : SState) (e : Event)
    (he : e.isEnd = false) (hm : e.isNsOrCdata = false) :
    sStep steps ic ns vs t e =
      (if sOutside ic s0 t.depth then (sBump ic e t, .none)
       else if !s0.test.matches e ns then (sBump ic e t, .none)
       else
         let r := sPreds e ns vs s0.preds 0 t.counters
         if !r.1 then ({ sBump ic e t with counters := r.2 }, .none)
         else ({ sBump ic e t with counters := r.2 },
               if sl.axis == .attribute then attrResult sl.test e ns else .bool true)) := by
  simp only [sStep, he, hm, Bool.false_eq_true, if_false, hh, hl, sOutside, sBump]
  cases (!ic && e.isStart) <;> cases (sl.axis == Axis.attribute) <;> rfl

theorem sStep_end (steps : List Step) (ic : Bool) (ns : NsMap) (vs : Vars) (t : SState) (tag : QName) :
    sStep steps ic ns vs t (.end_ tag) = ((if ic then t else { t with depth := t.depth - 1 }), .none) := by
  simp [sStep, Event.isEnd]

theorem sStep_marker (steps : List Step) (ic : Bool) (ns : NsMap) (vs : Vars) (t : SState) (e : Event)
    (he : e.isEnd = false) (hm : e.isNsOrCdata = true) : sStep steps ic ns vs t e = (t, .none) := by
  simp [sStep, he, hm]

@[simp] theorem Axis.beq_eq_decide (a b : Axis) : (a == b) = decide (a = b) := rfl

/-- node tests the parser builds for the attribute axis (`principal_type is ATTRIBUTE`) -/
def NodeTest.attrFlag : NodeTest → Bool
  | .principal a | .qprincipal a _ | .localName a _ | .qname a _ _ => a
  | _ => false

theorem attrApply_form (t : NodeTest) (h : t.attrFlag = true) (e : Event) (ns : NsMap) :
    t.apply e ns = .none ∨ ∃ a, a ≠ [] ∧ t.apply e ns = .attrs a := by
  cases t with
  | principal f =>
    simp [NodeTest.attrFlag] at h; subst h
    cases e <;> simp [NodeTest.apply]
    rename_i tag a
    cases a <;> simp
  | qprincipal f pfx =>
    simp [NodeTest.attrFlag] at h; subst h
    cases e with
    | start tag a =>
      simp only [NodeTest.apply, if_true]
      split
      · exact Or.inl rfl
      · rename_i hne
        exact Or.inr ⟨_, by intro h; simp [h] at hne, rfl⟩
    | _ => simp [NodeTest.apply]
  | localName f name =>
    simp [NodeTest.attrFlag] at h; subst h
    cases e <;> simp [NodeTest.apply]
    rename_i tag a
    cases attrGetText name a <;> simp
  | qname f pfx name =>
    simp [NodeTest.attrFlag] at h; subst h
    cases e <;> simp [NodeTest.apply]
    rename_i tag a
    cases attrGetQ ⟨nsOf ns pfx, name⟩ a <;> simp
  | _ => simp [NodeTest.attrFlag] at h

theorem attrApply_none_or_truthy (t : NodeTest) (h : t.attrFlag = true) (e : Event) (ns : NsMap) :
    (if (t.apply e ns).truthy then t.apply e ns else .none) = t.apply e ns := by
  rcases attrApply_form t h e ns with h1 | ⟨a, ha, h1⟩
  · simp [h1, Val.truthy]
  · cases a with
    | nil => exact absurd rfl ha
    | cons p r => simp [h1, Val.truthy]

end Genshi.Path
