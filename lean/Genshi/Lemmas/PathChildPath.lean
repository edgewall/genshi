/-
  C05 stages 2+3 for child-axis paths with arbitrary predicates under
  GenericStrategy: `s1/s2/…/sn` (every step on the child axis, any node tests,
  any predicates — positional ones counted per context node) selects the XPath
  node set.
-/
import Genshi.Lemmas.PathXp
namespace Genshi.Path
open Genshi Genshi.Path.Ref

section
variable (ns : NsMap) (vs : Vars)

theorem childPath_getElem {p : LocPath} (h : ChildPath p) {d : Nat} {s : Step} (hs : p[d]? = some s) :
    s.axis = .child := h s (List.mem_of_getElem? hs)

def kidsL (loc : List Nat) (i : Nat) (ks : List Node) : List LNode :=
  (ks.zipIdx i).map fun (k, j) => (⟨loc ++ [j], k⟩ : LNode)

theorem kidsL_cons (loc : List Nat) (i : Nat) (k : Node) (ks : List Node) :
    kidsL loc i (k :: ks) = ⟨loc ++ [i], k⟩ :: kidsL loc (i + 1) ks := by
  simp [kidsL, List.zipIdx_cons]

theorem childrenOf_elem (loc : List Nat) (t : QName) (a : AttrList) (ks : List Node) :
    childrenOf ⟨loc, .elem t a ks⟩ = kidsL loc 0 ks := rfl

/-- the children of `c` selected by the step `s`, by the matchers' one-pass counting -/
def stepNodesM (s : Step) (c : LNode) : List LNode :=
  (sfilter ns vs evOf s.preds [] ((childrenOf c).filter (mtest s ns))).1

def chainAtP : LocPath → LNode → List LNode
  | [], c => [c]
  | s :: rest, c => (stepNodesM ns vs s c).flatMap (chainAtP rest)

/-- candidates `L` of step `s` under one context node whose counters stand at `cs` -/
def kidsRes (s : Step) (rest : LocPath) (cs : List Nat) (L : List LNode) : List LNode :=
  (sfilter ns vs evOf s.preds cs (L.filter (mtest s ns))).1.flatMap (chainAtP ns vs rest)

/-- where the context's counters stand after that pass -/
def kidsCs (s : Step) (cs : List Nat) (L : List LNode) : List Nat :=
  (sfilter ns vs evOf s.preds cs (L.filter (mtest s ns))).2

theorem kidsRes_cons (s : Step) (rest : LocPath) (cs : List Nat) (k : LNode) (L : List LNode) :
    kidsRes ns vs s rest cs (k :: L) =
      kidsRes ns vs s rest cs [k] ++ kidsRes ns vs s rest (kidsCs ns vs s cs [k]) L := by
  unfold kidsRes kidsCs
  rw [← List.singleton_append, List.filter_append, sfilter_append, List.flatMap_append]

theorem kidsCs_cons (s : Step) (cs : List Nat) (k : LNode) (L : List LNode) :
    kidsCs ns vs s cs (k :: L) = kidsCs ns vs s (kidsCs ns vs s cs [k]) L := by
  unfold kidsCs
  rw [← List.singleton_append, List.filter_append, sfilter_append]

/-- an empty position list is dead -/
theorem gStep_deadFrame (steps : List Step) : DeadFrame (gStep steps ns vs) (fun s => ∃ r, s.stack = [] :: r) where
  start := by
    rintro ⟨_, sto⟩ t a ⟨r, rfl⟩
    rw [gStep_empty steps ns vs _ (.start t a) r rfl rfl rfl]
    exact ⟨rfl, ⟨_, rfl⟩, fun t' => rfl⟩
  leaf := by
    rintro ⟨_, sto⟩ e ⟨r, rfl⟩ he hs hm
    rw [gStep_empty steps ns vs _ e r rfl he hm, hs]; rfl

theorem generic_dead (steps : List Step) :
    ∀ (n : Node), n.clean = true → ∀ (stk : List (List GPos)) (store : Store) (loc : List Nat),
      matched (runOne (gStep steps ns vs) ⟨[] :: stk, store⟩ n.flatten).1 (eventLocs n loc) = [] ∧
      (runOne (gStep steps ns vs) ⟨[] :: stk, store⟩ n.flatten).2 = ⟨[] :: stk, store⟩ :=
  fun _ hcl stk _ loc => (gStep_deadFrame ns vs steps).node hcl ⟨stk, rfl⟩ loc

/-- what a subtree leaves behind: the stack as it was, the context's counter advanced to
    `cs'`, older counters untouched, possibly new counters allocated -/
structure Post (st : GState) (cc : Nat) (cs' : List Nat) (st' : GState) : Prop where
  stack : st'.stack = st.stack
  len : st.store.length ≤ st'.store.length
  cur : Store.get st'.store cc = cs'
  frame : ∀ j, j < st.store.length → j ≠ cc → Store.get st'.store j = Store.get st.store j

theorem Post.trans {st st' st'' : GState} {cc : Nat} {cs' cs'' : List Nat}
    (h1 : Post st cc cs' st') (h2 : Post st' cc cs'' st'') : Post st cc cs'' st'' :=
  ⟨h2.stack.trans h1.stack, Nat.le_trans h1.len h2.len, h2.cur,
   fun j hj hne => (h2.frame j (Nat.lt_of_lt_of_le hj h1.len) hne).trans (h1.frame j hj hne)⟩

/-- the outcome of the step's predicates for candidate `k` when the context's counters stand at `cs` -/
def hitOf (s : Step) (cs : List Nat) (k : LNode) : Bool × List Nat := sPreds (evOf k) ns vs s.preds 0 cs

theorem kidsRes_miss (s : Step) (rest : LocPath) (cs : List Nat) (k : LNode) (h : mtest s ns k = false) :
    kidsRes ns vs s rest cs [k] = [] ∧ kidsCs ns vs s cs [k] = cs := by
  simp [kidsRes, kidsCs, h, sfilter]

theorem kidsRes_test (s : Step) (rest : LocPath) (cs : List Nat) (k : LNode) (h : mtest s ns k = true) :
    kidsRes ns vs s rest cs [k] = (if (hitOf ns vs s cs k).1 then chainAtP ns vs rest k else []) ∧
    kidsCs ns vs s cs [k] = (hitOf ns vs s cs k).2 := by
  simp only [↓reduceIte, kidsRes, kidsCs, List.filter_cons, h, List.filter_nil, sfilter, hitOf]
  split <;> simp_all

/-- the four outcomes of GenericStrategy at the single candidate position `d + 1` of a child
    path, for the event of node `k` -/
theorem gStep_cp (p : LocPath) (hp : ChildPath p) (k : LNode) (d cc : Nat) (s : Step)
    (stk : List (List GPos)) (store : Store) (hs : p[d]? = some s) (hcc : cc < store.length)
    (he : (evOf k).isEnd = false) (hm : (evOf k).isNsOrCdata = false) :
    gStep (dotSlash :: p) ns vs ⟨[⟨d + 1, [cc]⟩] :: stk, store⟩ (evOf k) =
      (if mtest s ns k = false then
         (⟨if (evOf k).isStart then [] :: [⟨d + 1, [cc]⟩] :: stk else [⟨d + 1, [cc]⟩] :: stk, store⟩, .none)
       else if (hitOf ns vs s (Store.get store cc) k).1 = false then
         (⟨if (evOf k).isStart then [] :: [⟨d + 1, [cc]⟩] :: stk else [⟨d + 1, [cc]⟩] :: stk,
           store.set cc (hitOf ns vs s (Store.get store cc) k).2⟩, .none)
       else if d + 1 == p.length then
         (⟨if (evOf k).isStart then [] :: [⟨d + 1, [cc]⟩] :: stk else [⟨d + 1, [cc]⟩] :: stk,
           store.set cc (hitOf ns vs s (Store.get store cc) k).2⟩, .bool true)
       else
         (⟨if (evOf k).isStart then [⟨d + 2, [store.length]⟩] :: [⟨d + 1, [cc]⟩] :: stk else [⟨d + 1, [cc]⟩] :: stk,
           store.set cc (hitOf ns vs s (Store.get store cc) k).2 ++ [[]]⟩, .none)) := by
  have hax := childPath_getElem hp hs
  have hnext : ((dotSlash :: p)[d + 1 + 1]?.map Step.axis).getD .child = .child := by
    simp only [List.getElem?_cons_succ]
    cases hn : p[d + 1]? with
    | none => rfl
    | some s' => simp [childPath_getElem hp hn]
  rw [gStep_top1 ns vs _ _ (evOf k) (d + 1) [cc] s stk rfl (by simpa using hs) he hm (Or.inr (by rw [hnext]; rfl))]
  have hl : (d + 1 + 1 == p.length + 1) = (d + 1 == p.length) := by
    cases h : (d + 1 == p.length) <;> simp at h ⊢ <;> omega
  simp only [gRound, hnext, lastResult_childPath ns p hp, realLen_childPath p hp, hax, isDescLike, hl,
    List.append_nil, gPreds_single (evOf k) ns vs cc s.preds 0 store hcc, Val.truthy, mtest, hitOf, evOf]
  by_cases h1 : s.test.matches (nodeEvent k.node) ns = true
  · by_cases h2 : (sPreds (nodeEvent k.node) ns vs s.preds 0 (Store.get store cc)).1 = true
    · by_cases h3 : d + 1 = p.length <;> by_cases h4 : (nodeEvent k.node).isStart = true <;> simp_all
    · simp [h1, h2]
  · simp [h1]

theorem post_set (stk : List (List GPos)) (top : List GPos) (store : Store) (cc : Nat) (v : List Nat)
    (hcc : cc < store.length) : Post ⟨top :: stk, store⟩ cc v ⟨top :: stk, store.set cc v⟩ :=
  ⟨rfl, by simp, by simp [Store.get_set_self store cc _ hcc], fun j _ hj => Store.get_set_ne store cc j _ hj⟩

theorem post_set_new (stk : List (List GPos)) (top : List GPos) (store : Store) (cc : Nat) (v : List Nat)
    (hcc : cc < store.length) : Post ⟨top :: stk, store⟩ cc v ⟨top :: stk, store.set cc v ++ [[]]⟩ :=
  ⟨rfl, by simp, by
      simp only
      rw [Store.get_append_left _ _ _ (by simpa using hcc), Store.get_set_self store cc _ hcc],
    fun j hj hne => by
      simp only at hj ⊢
      rw [Store.get_append_left _ _ _ (by simpa using hj), Store.get_set_ne store cc j _ hne]⟩

/-- The event of a candidate `k` of step `p[d]`: the counters of the context advance as in one
    pass over `[k]`.  Either `k` leaves an empty position list to its children and is itself
    what the pass selects, or the step is passed and is not the last one: then `k` reports
    nothing and the next step starts below it with a fresh counter. -/
theorem gVisit (p : LocPath) (hp : ChildPath p) (k : LNode) (d cc : Nat) (s : Step) (srest : LocPath)
    (stk : List (List GPos)) (store : Store) (hdrop : p.drop d = s :: srest) (hcc : cc < store.length)
    (he : (evOf k).isEnd = false) (hm : (evOf k).isNsOrCdata = false) :
    ∃ top sto v,
      gStep (dotSlash :: p) ns vs ⟨[⟨d + 1, [cc]⟩] :: stk, store⟩ (evOf k)
        = (⟨if (evOf k).isStart then top :: [⟨d + 1, [cc]⟩] :: stk else [⟨d + 1, [cc]⟩] :: stk, sto⟩, v) ∧
      Post ⟨[⟨d + 1, [cc]⟩] :: stk, store⟩ cc (kidsCs ns vs s (Store.get store cc) [k]) ⟨[⟨d + 1, [cc]⟩] :: stk, sto⟩ ∧
      ((top = [] ∧ (if v.truthy then [k] else []) = kidsRes ns vs s srest (Store.get store cc) [k]) ∨
       (∃ s' r', srest = s' :: r' ∧ top = [⟨d + 2, [store.length]⟩] ∧ v = .none ∧ sto.length = store.length + 1 ∧
          Store.get sto store.length = [] ∧
          kidsRes ns vs s srest (Store.get store cc) [k] = kidsRes ns vs s' r' [] (childrenOf k))) := by
  obtain ⟨hget, _, hlast⟩ := drop_cons_info hdrop
  rw [gStep_cp ns vs p hp k d cc s stk store hget hcc he hm]
  by_cases hmt : mtest s ns k = true
  · obtain ⟨hres, hcs⟩ := kidsRes_test ns vs s srest (Store.get store cc) k hmt
    rw [hres, hcs]
    simp only [↓reduceIte, hmt, Bool.true_eq_false]
    by_cases hr : (hitOf ns vs s (Store.get store cc) k).1 = true
    · simp only [↓reduceIte, hr, Bool.true_eq_false, hlast]
      cases srest with
      | nil => exact ⟨[], _, _, rfl, post_set stk _ store cc _ hcc, Or.inl ⟨rfl, by simp [Val.truthy, chainAtP]⟩⟩
      | cons s' r' =>
        refine ⟨_, _, _, rfl, post_set_new stk _ store cc _ hcc, Or.inr ⟨s', r', rfl, rfl, rfl, by simp, ?_, ?_⟩⟩
        · simpa using Store.get_append_new (store.set cc (hitOf ns vs s (Store.get store cc) k).2)
        · simp [chainAtP, stepNodesM, kidsRes]
    · have hr' : (hitOf ns vs s (Store.get store cc) k).1 = false := by simpa using hr
      simp only [↓reduceIte, hr']
      exact ⟨[], _, _, rfl, post_set stk _ store cc _ hcc, Or.inl ⟨rfl, by simp [Val.truthy]⟩⟩
  · have hmt' : mtest s ns k = false := by simpa using hmt
    obtain ⟨hres, hcs⟩ := kidsRes_miss ns vs s srest (Store.get store cc) k hmt'
    rw [hres, hcs]
    simp only [↓reduceIte, hmt']
    exact ⟨[], _, _, rfl, ⟨rfl, Nat.le_refl _, rfl, fun j _ _ => rfl⟩, Or.inl ⟨rfl, by simp [Val.truthy]⟩⟩

mutual
  /-- a node that is a candidate of step `p[d]` under a context node whose counter is `cc` -/
  theorem generic_live (p : LocPath) (hp : ChildPath p) (hne : p ≠ []) :
      ∀ (n : Node), n.clean = true → ∀ (d : Nat) (s : Step) (srest : LocPath), p.drop d = s :: srest →
        ∀ (cc : Nat) (stk : List (List GPos)) (store : Store), cc < store.length → ∀ (loc : List Nat),
        matched (runOne (gStep (dotSlash :: p) ns vs) ⟨[⟨d + 1, [cc]⟩] :: stk, store⟩ n.flatten).1 (eventLocs n loc)
          = kidsRes ns vs s srest (Store.get store cc) [⟨loc, n⟩] ∧
        Post ⟨[⟨d + 1, [cc]⟩] :: stk, store⟩ cc (kidsCs ns vs s (Store.get store cc) [⟨loc, n⟩])
          (runOne (gStep (dotSlash :: p) ns vs) ⟨[⟨d + 1, [cc]⟩] :: stk, store⟩ n.flatten).2
    | .elem tag a ks, hcl, d, s, srest, hdrop, cc, stk, store, hcc, loc => by
        have hkcl : cleanList ks = true := by simpa [Node.clean] using hcl
        obtain ⟨top, sto, v, hstep, hpost, hcase⟩ :=
          gVisit ns vs p hp ⟨loc, .elem tag a ks⟩ d cc s srest stk store hdrop hcc rfl rfl
        simp only [↓reduceIte, evOf, nodeEvent, Event.isStart] at hstep
        rw [matched_elem, after_elem, hstep]
        rcases hcase with ⟨rfl, hres⟩ | ⟨s', r', rfl, rfl, rfl, hlen1, hnew, hres⟩
        · obtain ⟨h1, h2⟩ := (gStep_deadFrame ns vs (dotSlash :: p)).kids hkcl
            (s := ⟨[] :: [⟨d + 1, [cc]⟩] :: stk, sto⟩) ⟨_, rfl⟩ loc 0
          rw [h1, h2, gStep_end, List.append_nil]
          exact ⟨hres, hpost⟩
        · have hk := generic_liveList p hp hne ks hkcl (d + 1) s' r' (drop_cons_info hdrop).2.1 store.length
            ([⟨d + 1, [cc]⟩] :: stk) sto (by omega) loc 0
          rw [hk.1, hnew, hres, gStep_end]
          refine ⟨rfl, ?_⟩
          -- the children touched the new counter only
          obtain ⟨hst, hlen, _, hframe⟩ := hk.2
          exact ⟨by simp [hst], Nat.le_trans hpost.len hlen,
            (hframe cc (Nat.lt_of_lt_of_le hcc hpost.len) (Nat.ne_of_lt hcc)).trans hpost.cur,
            fun j hj hjne => (hframe j (Nat.lt_of_lt_of_le hj hpost.len) (Nat.ne_of_lt hj)).trans (hpost.frame j hj hjne)⟩
    | .leaf e, hcl, d, s, srest, hdrop, cc, stk, store, hcc, loc => by
        simp only [Node.clean, Bool.and_eq_true, Bool.not_eq_true'] at hcl
        obtain ⟨hend, hstart⟩ := isEnd_of_not_startEnd hcl.1
        obtain ⟨top, sto, v, hstep, hpost, hcase⟩ :=
          gVisit ns vs p hp ⟨loc, .leaf e⟩ d cc s srest stk store hdrop hcc hend hcl.2
        simp only [↓reduceIte, evOf, nodeEvent, hstart, Bool.false_eq_true] at hstep
        rw [matched_leaf, after_leaf, hstep]
        refine ⟨?_, hpost⟩
        rcases hcase with ⟨_, hres⟩ | ⟨s', r', rfl, _, rfl, _, _, hres⟩
        · exact hres
        · rw [hres]; rfl
  theorem generic_liveList (p : LocPath) (hp : ChildPath p) (hne : p ≠ []) :
      ∀ (ks : List Node), cleanList ks = true → ∀ (d : Nat) (s : Step) (srest : LocPath), p.drop d = s :: srest →
        ∀ (cc : Nat) (stk : List (List GPos)) (store : Store), cc < store.length → ∀ (loc : List Nat) (i : Nat),
        matched (runOne (gStep (dotSlash :: p) ns vs) ⟨[⟨d + 1, [cc]⟩] :: stk, store⟩ (flattenList ks)).1
            (eventLocsList ks loc i)
          = kidsRes ns vs s srest (Store.get store cc) (kidsL loc i ks) ∧
        Post ⟨[⟨d + 1, [cc]⟩] :: stk, store⟩ cc (kidsCs ns vs s (Store.get store cc) (kidsL loc i ks))
          (runOne (gStep (dotSlash :: p) ns vs) ⟨[⟨d + 1, [cc]⟩] :: stk, store⟩ (flattenList ks)).2
    | [], _, d, s, srest, _, cc, stk, store, _, loc, i => by
        exact ⟨rfl, rfl, Nat.le_refl _, rfl, fun j _ _ => rfl⟩
    | k :: ks, hcl, d, s, srest, hdrop, cc, stk, store, hcc, loc, i => by
        simp only [cleanList, Bool.and_eq_true] at hcl
        have h1 := generic_live p hp hne k hcl.1 d s srest hdrop cc stk store hcc (loc ++ [i])
        cases hst1 : (runOne (gStep (dotSlash :: p) ns vs) ⟨[⟨d + 1, [cc]⟩] :: stk, store⟩ k.flatten).2 with
        | mk stk1 store1 =>
          rw [hst1] at h1
          have hstk1 : stk1 = [⟨d + 1, [cc]⟩] :: stk := h1.2.stack
          subst hstk1
          have hcc1 : cc < store1.length := Nat.lt_of_lt_of_le hcc h1.2.len
          have h2 := generic_liveList p hp hne ks hcl.2 d s srest hdrop cc stk store1 hcc1 loc (i + 1)
          rw [matched_kids, after_kids, kidsL_cons, h1.1, hst1, h2.1]
          have hcur : Store.get store1 cc = kidsCs ns vs s (Store.get store cc) [⟨loc ++ [i], k⟩] := h1.2.cur
          refine ⟨?_, ?_⟩
          · rw [kidsRes_cons ns vs s srest (Store.get store cc) ⟨loc ++ [i], k⟩ (kidsL loc (i + 1) ks), hcur]
          · have := Post.trans h1.2 h2.2
            rw [kidsCs_cons ns vs s (Store.get store cc) ⟨loc ++ [i], k⟩ (kidsL loc (i + 1) ks), ← hcur]
            exact this
end

/-- GenericStrategy's matches on a child path are `chainAtP` -/
theorem generic_childpath_matches (p : LocPath) (hp : ChildPath p) (hne : p ≠ [])
    (tag : QName) (attrs : AttrList) (kids : List Node) (hcl : cleanList kids = true) :
    matched (runOne (gStep (dotSlash :: p) ns vs) gInit (Node.elem tag attrs kids).flatten).1
        (eventLocs (.elem tag attrs kids) [])
      = chainAtP ns vs p ⟨[], .elem tag attrs kids⟩ := by
  obtain ⟨s0, rest', rfl⟩ : ∃ s0 rest', p = s0 :: rest' := by
    cases p with
    | nil => exact absurd rfl hne
    | cons a b => exact ⟨a, b, rfl⟩
  have hk := generic_liveList ns vs (s0 :: rest') hp hne kids hcl 0 s0 rest' rfl gInit.store.length gInit.stack
    (gInit.store ++ [[]]) (by simp) [] 0
  have hg : Store.get (gInit.store ++ [[]]) gInit.store.length = [] := Store.get_append_new gInit.store
  rw [matched_elem, gStep_root_cp (s0 :: rest') hp hne ns vs gInit tag attrs [] rfl, hk.1, hg]
  simp [Val.truthy, chainAtP, stepNodesM, childrenOf_elem, kidsRes]

end

theorem stepNodesM_eq (ns : NsMap) (vs : Vars) (p : LocPath) (s : Step) (hs : s ∈ p) (hax : s.axis = .child)
    (hwf : s.test.elemWf ns) (htyped : ∀ q ∈ s.preds, q.typed ns vs = true)
    (c : LNode) (hc : ∀ k ∈ childrenOf c, NodeFor p ns vs k.node) :
    stepNodesM ns vs s c = stepNodes s ns (toXVars vs) c := by
  unfold stepNodesM stepNodes
  rw [hax]
  exact step_pass s ns vs hwf htyped _ fun k hk =>
    have ⟨hok, htag, _, hab⟩ := hc k hk
    ⟨hok, htag, hab s hs⟩

theorem chainAtP_reach (ns : NsMap) (vs : Vars) (p0 : LocPath) :
    ∀ (p : LocPath), (∀ s ∈ p, s ∈ p0) → ChildPath p → (∀ s ∈ p, s.test.elemWf ns) →
      (∀ s ∈ p, ∀ q ∈ s.preds, q.typed ns vs = true) →
      ∀ (c : LNode), AllNodes (NodeFor p0 ns vs) c.node → ∀ (m : LNode),
        (chainAtP ns vs p c).any (fun x => x.loc == m.loc) = reach ns (toXVars vs) p c m := by
  intro p
  induction p with
  | nil => intro _ _ _ _ c _ m; simp [chainAtP, reach]
  | cons s rest ih =>
    intro hsub hp hwf htyped c hc m
    have hkids := AllNodes.children c hc
    have hsn := stepNodesM_eq ns vs p0 s (hsub s List.mem_cons_self) (hp s List.mem_cons_self)
      (hwf s List.mem_cons_self) (htyped s List.mem_cons_self) c (fun k hk => (hkids k hk).here)
    simp only [chainAtP, reach, List.any_flatMap, hsn]
    apply any_congr_mem
    intro k hk
    have hkc : k ∈ childrenOf c := by
      have : k ∈ stepNodes s ns (toXVars vs) c := hk
      unfold stepNodes at this
      rw [hp s List.mem_cons_self] at this
      simp only [axisNodes] at this
      have hsubf : ∀ (ps : List Expr) (L : List LNode), ∀ n ∈ filterPreds ps ns (toXVars vs) L, n ∈ L := by
        intro ps
        induction ps with
        | nil => intro L n hn; simpa [filterPreds] using hn
        | cons q qs ihq =>
          intro L n hn
          simp only [filterPreds, List.foldl_cons] at hn
          exact filterPred_mem ns (toXVars vs) q L n (ihq _ n hn)
      exact (List.mem_filter.mp (hsubf _ _ k this)).1
    exact ih (fun s' hs' => hsub s' (List.mem_cons_of_mem _ hs')) (fun s' hs' => hp s' (List.mem_cons_of_mem _ hs'))
      (fun s' hs' => hwf s' (List.mem_cons_of_mem _ hs')) (fun s' hs' => htyped s' (List.mem_cons_of_mem _ hs'))
      k (hkids k hkc) m

end Genshi.Path
