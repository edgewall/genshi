/-
  Lemmas for C05 `pred_eval_sound`: the model's predicate evaluation
  (`Expr.eval`, the coercions `as_*`, `_compare`, the functions) computes the
  XPath 1.0 value of the reference (`Ref.xEval`) on the typed fragment.
-/
import Genshi.Model.Path
import Genshi.Model.PathRef
import Genshi.Lemmas.StrStrip
namespace Genshi.Path
open Genshi Genshi.Path.Ref

/-- the XPath value a model value stands for (`None` is the empty node set) -/
def Val.toX : Val → Option XVal
  | .none => some (.nodes [])
  | .bool b => some (.bool b)
  | .num x => some (.num x)
  | .str s => some (.str s)
  | .attrs a => some (.nodes a)
  | .event _ => Option.none

theorem asBool_toX {v : Val} {x : XVal} (h : v.toX = some x) : v.asBool = xBoolean x := by
  cases v <;> simp [Val.toX] at h <;> subst h <;> simp [Val.asBool, xBoolean, Val.truthy]

theorem asFloat_toX {v : Val} {x : XVal} (h : v.toX = some x) : v.asFloat = xNumber x := by
  cases v with
  | attrs a => simp [Val.toX] at h; subst h; cases a with
    | nil => simp [Val.asFloat, Val.asScalar, xNumber, XNum.parse]
    | cons p r => obtain ⟨q, s⟩ := p; simp [Val.asFloat, Val.asScalar, xNumber]
  | _ => simp [Val.toX] at h <;> subst h <;> simp [Val.asFloat, Val.asScalar, xNumber]

theorem asString_toX {v : Val} {x : XVal} (h : v.toX = some x) : v.asString = xString x := by
  cases v with
  | attrs a => simp [Val.toX] at h; subst h; cases a with
    | nil => simp [Val.asString, Val.asScalar, xString]
    | cons p r => obtain ⟨q, s⟩ := p; simp [Val.asString, Val.asScalar, xString]
  | bool b => simp [Val.toX] at h; subst h; cases b <;> simp [Val.asString, Val.asScalar, xString]
  | _ => simp [Val.toX] at h <;> subst h <;> simp [Val.asString, Val.asScalar, xString]

theorem numOp_eq_xNumCmp (op : CmpOp) (a b : XNum) : numOp op a b = xNumCmp op a b := by
  cases a <;> cases b <;> cases op <;> simp [numOp, xNumCmp, XNum.cmp]

/-- the side condition of the pinned behaviour (finding C05-ne-absent-attribute): the
    comparison does not hit the "absent attribute" branch of `_compare` with a true result -/
def absentOk (op : CmpOp) (l r : Val) : Bool :=
  l.isBool || r.isBool || !(l.isNone || r.isNone) || op.relational || !(eqOp op (l.isNone && r.isNone))

theorem any_values_attrs (a : AttrList) (f : Val → Bool) :
    (Val.attrs a).values.any f = a.any fun p => f (.str p.2) := by
  simp [Val.values, List.any_map, Function.comp_def]

theorem isRel_eq (op : CmpOp) : isRel op = op.relational := by cases op <;> rfl

theorem eqOp_xEq {α : Type} [BEq α] (op : CmpOp) (a b : α) : eqOp op (a == b) = xEq op a b := by
  cases op <;> rfl

theorem compare_eq_xCompare (op : CmpOp) {l r : Val} {x y : XVal}
    (hl : l.toX = some x) (hr : r.toX = some y) (hok : absentOk op l r = true) :
    compare op l r = xCompare op x y := by
  unfold compare absentOk at *
  cases l <;> simp only [Val.toX, Option.some.injEq, reduceCtorEq] at hl <;> subst hl <;>
  cases r <;> simp only [Val.toX, Option.some.injEq, reduceCtorEq] at hr <;> subst hr <;>
  -- first the branch of `_compare` the pair takes, so that the other two are not worked on
  simp only [↓reduceIte, Val.isBool, Val.isNone, Bool.or_false, Bool.or_true, Bool.false_or, Bool.true_or,
    Bool.false_eq_true] at hok ⊢ <;>
  simp only [↓reduceIte, xCompare, Val.isNum, Val.asBool, Val.truthy, Val.values, Val.asFloat, Val.asString, Val.asScalar,
    xNumber, xString, xBoolean, relOperand, ← isRel_eq, numOp_eq_xNumCmp, eqOp_xEq, List.any_map, Function.comp_def,
    List.any_cons, List.any_nil, Bool.or_false, Bool.or_true, Bool.false_eq_true, ite_self, List.isEmpty_nil,
    Bool.not_true] at hok ⊢
  -- left: the pairs with an absent attribute, where `hok` says that `=` / `!=` does not answer `True`
  all_goals (revert hok; cases isRel op <;> simp +contextual)

/-- a local name does not look like an expanded name -/
def nameOk (s : Str) : Bool := s.head? != some '{'

/-- attribute lists as the XML parser delivers them: pairwise distinct names, local names that
    do not start with `{`, namespace URIs without `}` -/
def attrsOk (a : AttrList) : Prop :=
  (a.map Prod.fst).Nodup ∧ ∀ p ∈ a, nameOk p.1.loc = true ∧ '}' ∉ p.1.ns

theorem text_eq_plain {q : QName} {name : Str} (hn : nameOk name = true) :
    q.text = name ↔ (q.ns.isEmpty = true ∧ q.loc = name) := by
  unfold QName.text
  by_cases h : q.ns.isEmpty = true
  · simp [h]
  · rw [if_neg h]
    constructor
    · intro he
      simp [nameOk, ← he] at hn
    · intro ⟨h', _⟩; exact absurd h' h

theorem append_cons_inj {α : Type} (c : α) : ∀ (a a' b b' : List α), c ∉ a → c ∉ a' →
    a ++ c :: b = a' ++ c :: b' → a = a' ∧ b = b' := by
  intro a
  induction a with
  | nil =>
    intro a' b b' _ ha' h
    cases a' with
    | nil => simpa using h
    | cons x xs =>
      simp at h
      exact absurd (h.1 ▸ List.mem_cons_self) ha'
  | cons x xs ih =>
    intro a' b b' ha ha' h
    cases a' with
    | nil =>
      simp at h
      exact absurd (h.1 ▸ List.mem_cons_self) ha
    | cons y ys =>
      simp at h
      have := ih ys b b' (fun hm => ha (List.mem_cons_of_mem _ hm)) (fun hm => ha' (List.mem_cons_of_mem _ hm)) h.2
      exact ⟨by rw [h.1, this.1], this.2⟩

def qnOk (q : QName) : Prop := nameOk q.loc = true ∧ '}' ∉ q.ns

theorem text_inj {q r : QName} (hq : qnOk q) (hr : qnOk r) : q.text = r.text ↔ q = r := by
  constructor
  · intro h
    obtain ⟨qn, ql⟩ := q
    obtain ⟨rn, rl⟩ := r
    simp only [QName.text] at h
    by_cases h1 : qn.isEmpty = true <;> by_cases h2 : rn.isEmpty = true
    · simp only [h1, h2, if_true] at h
      simp [List.isEmpty_iff] at h1 h2
      simp [h1, h2, h]
    · simp only [h1, h2, if_true] at h
      have := hq.1; simp [nameOk, h] at this
    · simp only [h1, h2, if_true] at h
      have := hr.1; simp [nameOk, ← h] at this
    · simp only [h1, h2] at h
      simp at h
      have := append_cons_inj '}' qn rn ql rl hq.2 hr.2 h
      simp [this.1, this.2]
  · intro h; rw [h]

theorem attrGetQ_eq (q0 : QName) (a : AttrList) : attrGetQ q0 a = attrGetText q0.text a := by
  induction a with
  | nil => rfl
  | cons p r ih => simp only [attrGetQ, attrGetText, ih]

/-- In a list with pairwise distinct names, the attributes a test `pred` selects are what the lookup by
    string value `text` finds, as soon as both single out the same name `q0`. -/
theorem attr_filter (text : Str) (q0 : QName) (pred : QName → Bool) (a : AttrList)
    (hnd : (a.map Prod.fst).Nodup) (h : ∀ p ∈ a, (pred p.1 = true ↔ p.1 = q0) ∧ (p.1.text = text ↔ p.1 = q0)) :
    a.filter (fun p => pred p.1) =
      (match attrGetText text a with
       | some v => [(q0, v)]
       | Option.none => []) := by
  induction a with
  | nil => rfl
  | cons p r ih =>
    obtain ⟨q, v⟩ := p
    obtain ⟨hnot, hnd'⟩ : q ∉ r.map Prod.fst ∧ (r.map Prod.fst).Nodup := List.nodup_cons.mp hnd
    have hr := fun x hx => h x (List.mem_cons_of_mem _ hx)
    obtain ⟨h1, h2⟩ := h (q, v) List.mem_cons_self
    by_cases hq : q = q0
    · -- the one attribute with that name: nothing further down has it
      subst hq
      have hnil : r.filter (fun p => pred p.1) = [] :=
        List.filter_eq_nil_iff.2 fun x hx hp => hnot (List.mem_map.2 ⟨x, hx, (hr x hx).1.1 hp⟩)
      simp only [List.filter_cons, h1.2 rfl, attrGetText, h2.2 rfl, if_true, hnil]
    · have hp : pred q = false := by simpa using fun hp => hq (h1.1 hp)
      have ht : ¬ q.text = text := fun ht => hq (h2.1 ht)
      simp only [List.filter_cons, hp, attrGetText, ht, if_false, Bool.false_eq_true]
      exact ih hnd' hr

theorem localName_attr (name : Str) (hn : nameOk name = true) (a : AttrList) (ha : attrsOk a) :
    a.filter (fun p => p.1.ns.isEmpty && p.1.loc == name) =
      (match attrGetText name a with
       | some v => [(QName.plain name, v)]
       | Option.none => []) := by
  apply attr_filter name (QName.plain name) (fun q => q.ns.isEmpty && q.loc == name) a ha.1
  intro p hp
  have key : (p.1.ns.isEmpty = true ∧ p.1.loc = name) ↔ p.1 = QName.plain name := by
    obtain ⟨⟨ns, loc⟩, v⟩ := p
    simp [QName.plain, List.isEmpty_iff]
  exact ⟨by simpa using key, (text_eq_plain hn).trans key⟩

theorem qname_attr (u name : Str) (hq : qnOk ⟨u, name⟩) (a : AttrList) (ha : attrsOk a) :
    a.filter (fun p => p.1.ns == u && p.1.loc == name) =
      (match attrGetQ ⟨u, name⟩ a with
       | some v => [((⟨u, name⟩ : QName), v)]
       | Option.none => []) := by
  rw [attrGetQ_eq]
  apply attr_filter _ ⟨u, name⟩ (fun q => q.ns == u && q.loc == name) a ha.1
  intro p hp
  refine ⟨?_, text_inj (ha.2 p hp) hq⟩
  obtain ⟨⟨ns, loc⟩, v⟩ := p
  simp

theorem indexOf_eq (c : Char) (fr : Str) (k : Nat) :
    indexOf c fr k = (fr.idxOf? c).map (· + k) := by
  induction fr generalizing k with
  | nil => simp [indexOf]
  | cons d r ih =>
    simp only [indexOf, List.idxOf?_cons]
    by_cases h : d = c
    · simp [h]
    · have h' : (d == c) = false := by simp [h]
      simp [h, h', ih, Option.map_map, Function.comp_def]
      cases r.idxOf? c <;> simp; omega
theorem translate_eq (s fr to : Str) : translate s fr to = xTranslate s fr to := by
  unfold translate xTranslate
  congr 1; funext c
  rw [indexOf_eq]; simp
  cases fr.idxOf? c <;> rfl

abbrev ws := XNum.isXmlSpace

/-- does not end in a whitespace character -/
def endsNonWs (t : Str) : Prop := ∀ c, t.getLast? = some c → ws c = false

theorem endsNonWs_tail {c : Char} {cs : Str} (h : endsNonWs (c :: cs)) : endsNonWs cs :=
  fun d hd => h d (by rw [List.getLast?_cons, hd]; rfl)

theorem endsNonWs_single {c : Char} (h : endsNonWs [c]) : ws c = false := h c rfl

theorem wordsGo_ne_nil_of_cur (s : Str) (cur : Str) (h : cur ≠ []) : wordsGo s cur ≠ [] := by
  induction s generalizing cur with
  | nil => simp [wordsGo, h]
  | cons c cs ih =>
    simp only [wordsGo]
    by_cases hc : ws c = true
    · simp [hc, h]
    · simp only [hc]; exact ih (c :: cur) (by simp)

theorem wordsGo_ne_nil (s : Str) (hs : s ≠ []) (he : endsNonWs s) : wordsGo s [] ≠ [] := by
  induction s with
  | nil => exact absurd rfl hs
  | cons c cs ih =>
    simp only [wordsGo]
    by_cases hc : ws c = true
    · simp only [hc, if_true, List.isEmpty_nil]
      by_cases hcs : cs = []
      · subst hcs; have := endsNonWs_single he; simp [hc] at this
      · exact ih hcs (endsNonWs_tail he)
    · simp only [hc]; exact wordsGo_ne_nil_of_cur cs [c] (by simp)

/-- the collapsing loop against the word splitter, in its two states: inside a word (flag `false`;
    the splitter holds the word so far, reversed, in `cur`) and inside a run of whitespace (flag
    `true`, no word open).  `endsNonWs`: no blank is emitted that no word follows. -/
theorem collapse_words (s : Str) (he : endsNonWs s) :
    (∀ cur, cur ≠ [] → cur.reverse ++ collapseGo false s = Str.join [' '] (wordsGo s cur)) ∧
    collapseGo true s = Str.join [' '] (wordsGo s []) := by
  induction s with
  | nil =>
    refine ⟨fun cur hcur => ?_, by simp [collapseGo, wordsGo, Str.join]⟩
    have hne : cur.isEmpty = false := by cases cur <;> simp_all
    simp [collapseGo, wordsGo, Str.join, hne]
  | cons c cs ih =>
    have ih := ih (endsNonWs_tail he)
    by_cases hc : ws c = true
    · have hcs : cs ≠ [] := by
        intro h; subst h; have := endsNonWs_single he; simp [hc] at this
      constructor
      · intro cur hcur
        have hne : cur.isEmpty = false := by cases cur <;> simp_all
        simp only [collapseGo, wordsGo, hc, if_true, hne, Bool.false_eq_true, if_false]
        rw [Str.join_cons_of_ne_nil _ _ (wordsGo_ne_nil cs hcs (endsNonWs_tail he)), ih.2, List.append_assoc]
        rfl
      · simp only [collapseGo, wordsGo, hc, if_true, List.isEmpty_nil]
        exact ih.2
    · constructor
      · intro cur hcur
        simp only [collapseGo, wordsGo, hc]
        have := ih.1 (c :: cur) (by simp)
        simpa using this
      · simp only [collapseGo, wordsGo, hc]
        have := ih.1 [c] (by simp)
        simpa using this

theorem wordsGo_allWs (w : Str) (hw : ∀ c ∈ w, ws c = true) (cur : Str) :
    wordsGo w cur = if cur.isEmpty then [] else [cur.reverse] := by
  induction w generalizing cur with
  | nil => simp [wordsGo]
  | cons c cs ih =>
    have hc := hw c List.mem_cons_self
    have ih := fun cur => ih (fun d hd => hw d (List.mem_cons_of_mem _ hd)) cur
    simp only [wordsGo, hc, if_true]
    cases cur with
    | nil => simp [ih]
    | cons d ds => simp [ih]

theorem wordsGo_append_ws (t w : Str) (hw : ∀ c ∈ w, ws c = true) (cur : Str) :
    wordsGo (t ++ w) cur = wordsGo t cur := by
  induction t generalizing cur with
  | nil => simp [wordsGo, wordsGo_allWs w hw]
  | cons c cs ih =>
    simp only [List.cons_append, wordsGo, ih]

theorem wordsGo_dropWhile (s : Str) : wordsGo (s.dropWhile ws) [] = wordsGo s [] := by
  induction s with
  | nil => rfl
  | cons c cs ih =>
    by_cases hc : ws c = true
    · simp [hc, wordsGo, ih]
    · simp [hc]

/-- on text without leading whitespace: cutting the trailing whitespace off leaves the words as
    they are and gives `collapse_words` its `endsNonWs` -/
theorem strip_core (s' : Str) (hlead : ∀ c cs, s' = c :: cs → ws c = false) :
    collapseGo false (s'.reverse.dropWhile ws).reverse = Str.join [' '] (wordsGo s' []) := by
  obtain ⟨t, ht⟩ : ∃ t, t = (s'.reverse.dropWhile ws).reverse := ⟨_, rfl⟩
  obtain ⟨w, hw⟩ : ∃ w, w = (s'.reverse.takeWhile ws).reverse := ⟨_, rfl⟩
  have hsplit : s' = t ++ w := by
    rw [ht, hw, ← List.reverse_append, List.takeWhile_append_dropWhile, List.reverse_reverse]
  have hwall : ∀ c ∈ w, ws c = true := by
    intro c hc
    rw [hw, List.mem_reverse] at hc
    have := List.all_takeWhile (p := ws) (l := s'.reverse)
    rw [List.all_eq_true] at this
    exact this c hc
  have hte : endsNonWs t := by
    intro c hc
    rw [ht, List.getLast?_reverse] at hc
    have := List.head?_dropWhile_not ws s'.reverse
    rw [hc] at this
    exact this
  rw [← ht]
  have hwords : wordsGo s' [] = wordsGo t [] := by
    rw [hsplit, wordsGo_append_ws _ _ hwall]
  rw [hwords]
  cases htl : t with
  | nil => simp [collapseGo, wordsGo, Str.join]
  | cons c cs =>
    have hcne : ws c = false := hlead c (cs ++ w) (by rw [hsplit, htl]; rfl)
    have := (collapse_words cs (endsNonWs_tail (htl ▸ hte))).1 [c] (by simp)
    simp only [collapseGo, wordsGo, hcne, Bool.false_eq_true, if_false]
    simpa using this

/-- `str.strip` of XML whitespace, then one space per run = the words joined by one space -/
theorem normalizeSpace_eq (s : Str) : normalizeSpace s = xNormalize s := by
  unfold normalizeSpace xNormalize stripXml collapseXml
  rw [strip_core (s.dropWhile ws), wordsGo_dropWhile]
  intro c cs h
  have := List.head_dropWhile_not ws (l := s) (by rw [h]; simp)
  simpa [h] using this

/-- the event the matchers see for a node -/
def nodeEvent : Node → Event
  | .elem t a _ => .start t a
  | .leaf e => e

/-- trees as the parser delivers them: a leaf is never a START / END event, attribute lists are
    hygienic -/
def nodeOk : Node → Prop
  | .elem _ a _ => attrsOk a
  | .leaf e => e.isStartEnd = false

def NodeTest.isAttrName : NodeTest → Bool
  | .principal true | .qprincipal true _ | .localName true _ | .qname true _ _ => true
  | _ => false

/-- prefixes are bound, names are plain -/
def NodeTest.wf (ns : NsMap) : NodeTest → Bool
  | .qprincipal _ pfx => (lookup pfx ns).isSome
  | .localName _ name => nameOk name
  | .qname _ pfx name => (match lookup pfx ns with
      | some u => !(List.elem '}' u)
      | Option.none => false) && nameOk name
  | _ => true

/-- the typed fragment of predicate expressions (static part): attribute lookups, literals,
    bound variables of type string / number / boolean, the functions and operators of the
    documented subset except `substring` (finding C05-substring) and the non-XPath `matches` -/
def Expr.typed (ns : NsMap) (vs : Vars) : Expr → Bool
  | .test t => t.isAttrName && t.wf ns
  | .str _ | .num _ | .fn0 _ => true
  | .var n => (match lookup n vs with
      | some (.bool _) | some (.num _) | some (.str _) => true
      | _ => false)
  | .fn1 _ a => a.typed ns vs
  | .fn2 f a b => f != .substring && f != .matches && a.typed ns vs && b.typed ns vs
  | .fn3 f a b c => f == .translate && a.typed ns vs && b.typed ns vs && c.typed ns vs
  | .concat1 a => a.typed ns vs
  | .concat a r => a.typed ns vs && r.typed ns vs
  | .and_ a b | .or_ a b | .cmp _ a b => a.typed ns vs && b.typed ns vs

/-- dynamic part: no `=` / `!=` evaluation hits the pinned treatment of an absent attribute -/
def Expr.absentFree (e : Event) (ns : NsMap) (vs : Vars) : Expr → Bool
  | .fn1 _ a | .concat1 a => a.absentFree e ns vs
  | .fn2 _ a b | .concat a b | .and_ a b | .or_ a b => a.absentFree e ns vs && b.absentFree e ns vs
  | .fn3 _ a b c => a.absentFree e ns vs && b.absentFree e ns vs && c.absentFree e ns vs
  | .cmp op a b => a.absentFree e ns vs && b.absentFree e ns vs && absentOk op (a.eval e ns vs) (b.eval e ns vs)
  | _ => true

def toXVars (vs : Vars) : XVars :=
  vs.filterMap fun p => p.2.toX.map fun x => (p.1, x)

theorem lookup_toXVars (n : Str) (vs : Vars) (v : Val) (x : XVal) (h : lookup n vs = some v)
    (hx : v.toX = some x) : lookup n (toXVars vs) = some x := by
  induction vs with
  | nil => simp [lookup] at h
  | cons p r ih =>
    obtain ⟨k, w⟩ := p
    simp only [lookup] at h
    by_cases hk : k = n
    · simp only [hk, if_true] at h
      cases h
      simp [toXVars, hx, lookup, hk]
    · simp only [hk, if_false] at h
      have := ih h
      cases hw : w.toX with
      | none => simpa [toXVars, List.filterMap_cons, hw] using this
      | some y => simpa [toXVars, List.filterMap_cons, hw, lookup, hk] using this

theorem apply_attrName_nonstart {t : NodeTest} (ns : NsMap) (ht : t.isAttrName = true) {e : Event}
    (he : ∀ tag a, e ≠ .start tag a) : t.apply e ns = .none := by
  cases t <;> first | cases ht | (cases e <;> first | rfl | exact absurd rfl (he _ _))

theorem attrTest_toX (t : NodeTest) (ns : NsMap) (n : Node) (hn : nodeOk n)
    (ht : t.isAttrName = true) (hwf : t.wf ns = true) :
    (t.apply (nodeEvent n) ns).toX = some (.nodes (attrNodes t n ns)) := by
  cases n with
  | leaf e =>
    rw [nodeEvent, apply_attrName_nonstart ns ht (by rintro tag a rfl; cases hn)]; rfl
  | elem tag a ks =>
    simp only [nodeOk] at hn
    cases t with
    | principal attr =>
      cases attr <;> simp [NodeTest.isAttrName] at ht
      cases a <;> simp [nodeEvent, NodeTest.apply, Val.toX, attrNodes]
    | qprincipal attr pfx =>
      cases attr <;> simp [NodeTest.isAttrName] at ht
      simp only [NodeTest.wf] at hwf
      obtain ⟨u, hu⟩ := Option.isSome_iff_exists.mp hwf
      simp only [nodeEvent, NodeTest.apply, nsOf, hu, Option.getD_some, attrNodes, if_true]
      have hf : (a.filter fun p => p.1.ns == u) = a.filter fun p => some p.1.ns == some u := by
        congr 1
      rw [hf]
      cases hs : (a.filter fun p => some p.1.ns == some u) <;> simp [Val.toX]
    | localName attr name =>
      cases attr <;> simp [NodeTest.isAttrName] at ht
      simp only [NodeTest.wf] at hwf
      simp only [nodeEvent, NodeTest.apply, attrNodes, if_true]
      rw [localName_attr name hwf a hn]
      cases attrGetText name a <;> simp [Val.toX]
    | qname attr pfx name =>
      cases attr <;> simp [NodeTest.isAttrName] at ht
      simp only [NodeTest.wf, Bool.and_eq_true] at hwf
      obtain ⟨hw1, hw2⟩ := hwf
      cases hu : lookup pfx ns with
      | none => simp [hu] at hw1
      | some u =>
        simp only [hu, Bool.not_eq_true', List.elem_eq_mem, decide_eq_false_iff_not] at hw1
        simp only [nodeEvent, NodeTest.apply, nsOf, hu, Option.getD_some, attrNodes, if_true]
        have hf : (a.filter fun p => some p.1.ns == some u && p.1.loc == name)
            = a.filter fun p => p.1.ns == u && p.1.loc == name := by
          congr 1
        rw [hf, qname_attr u name ⟨hw2, hw1⟩ a hn]
        cases attrGetQ ⟨u, name⟩ a <;> simp [Val.toX]
    | _ => simp [NodeTest.isAttrName] at ht

theorem fn0_toX (f : Fn0) (n : Node) (hn : nodeOk n) :
    (applyFn0 f (nodeEvent n)).toX = some (xFn0 f n) := by
  cases n with
  | elem t a ks => cases f <;> rfl
  | leaf e => cases f <;> cases e <;> first | rfl | cases hn

/-- C05 `pred_eval_sound`: on the typed fragment the model value of a predicate
    expression *is* the XPath value (a swapped operator or a wrong coercion breaks this) -/
theorem eval_toX (n : Node) (hn : nodeOk n) (ns : NsMap) (vs : Vars) (e : Expr)
    (ht : e.typed ns vs = true) (hab : e.absentFree (nodeEvent n) ns vs = true) :
    (e.eval (nodeEvent n) ns vs).toX = some (xEval n ns (toXVars vs) e) := by
  induction e with
  | test t =>
    simp only [Expr.typed, Bool.and_eq_true] at ht
    simpa [Expr.eval, xEval] using attrTest_toX t ns n hn ht.1 ht.2
  | str s => simp [Expr.eval, xEval, Val.toX]
  | num x => simp [Expr.eval, xEval, Val.toX]
  | var v =>
    simp only [Expr.typed] at ht
    cases hl : lookup v vs with
    | none => simp [hl] at ht
    | some w =>
      cases w with
      | bool b => simp [Expr.eval, xEval, hl, Val.toX, lookup_toXVars v vs _ (.bool b) hl rfl]
      | num x => simp [Expr.eval, xEval, hl, Val.toX, lookup_toXVars v vs _ (.num x) hl rfl]
      | str s => simp [Expr.eval, xEval, hl, Val.toX, lookup_toXVars v vs _ (.str s) hl rfl]
      | _ => simp [hl] at ht
  | fn0 f => simpa [Expr.eval, xEval] using fn0_toX f n hn
  | fn1 f a iha =>
    simp only [Expr.typed] at ht
    simp only [Expr.absentFree] at hab
    have ha := iha ht hab
    cases f <;> simp only [Expr.eval, xEval, applyFn1, Val.toX, asBool_toX ha, asFloat_toX ha, asString_toX ha,
      normalizeSpace_eq]
  | fn2 f a b iha ihb =>
    simp only [Expr.typed, Bool.and_eq_true, bne_iff_ne, ne_eq] at ht
    simp only [Expr.absentFree, Bool.and_eq_true] at hab
    have ha := iha ht.1.2 hab.1
    have hb := ihb ht.2 hab.2
    cases f <;> simp only [Expr.eval, xEval, applyFn2, Val.toX, asString_toX ha, asString_toX hb]
    · rfl
    · rfl
    · exact absurd rfl ht.1.1.1
    · exact absurd rfl ht.1.1.2
  | fn3 f a b c iha ihb ihc =>
    simp only [Expr.typed, Bool.and_eq_true, beq_iff_eq] at ht
    simp only [Expr.absentFree, Bool.and_eq_true] at hab
    have ha := iha ht.1.1.2 hab.1.1
    have hb := ihb ht.1.2 hab.1.2
    have hc := ihc ht.2 hab.2
    rw [ht.1.1.1]
    simp [Expr.eval, xEval, applyFn3, Val.toX, asString_toX ha, asString_toX hb, asString_toX hc, translate_eq]
  | concat1 a iha =>
    simp only [Expr.typed] at ht
    simp only [Expr.absentFree] at hab
    simp [Expr.eval, xEval, Val.toX, asString_toX (iha ht hab)]
  | concat a r iha ihr =>
    simp only [Expr.typed, Bool.and_eq_true] at ht
    simp only [Expr.absentFree, Bool.and_eq_true] at hab
    simp [Expr.eval, xEval, Val.toX, asString_toX (iha ht.1 hab.1), asString_toX (ihr ht.2 hab.2)]
  | and_ a b iha ihb =>
    simp only [Expr.typed, Bool.and_eq_true] at ht
    simp only [Expr.absentFree, Bool.and_eq_true] at hab
    simp [Expr.eval, xEval, Val.toX, asBool_toX (iha ht.1 hab.1), asBool_toX (ihb ht.2 hab.2)]
  | or_ a b iha ihb =>
    simp only [Expr.typed, Bool.and_eq_true] at ht
    simp only [Expr.absentFree, Bool.and_eq_true] at hab
    simp [Expr.eval, xEval, Val.toX, asBool_toX (iha ht.1 hab.1), asBool_toX (ihb ht.2 hab.2)]
  | cmp op a b iha ihb =>
    simp only [Expr.typed, Bool.and_eq_true] at ht
    simp only [Expr.absentFree, Bool.and_eq_true] at hab
    simp [Expr.eval, xEval, Val.toX,
      compare_eq_xCompare op (iha ht.1 hab.1.1) (ihb ht.2 hab.1.2) hab.2]

end Genshi.Path
