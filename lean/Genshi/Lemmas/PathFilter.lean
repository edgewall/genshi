/-
  Positional predicates: the matchers count candidates in one pass (a counter per
  positional predicate, bumped for every candidate that reaches it); XPath
  filters the candidate list predicate by predicate, renumbering the survivors.
  `sfilter_eq_fpreds`: the two agree, for any number of predicates and any
  candidate list.
-/
import Genshi.Model.PathStrategy
import Genshi.Lemmas.PathReach
namespace Genshi.Path
open Genshi Genshi.Path.Ref

/-- does predicate `p` hold for a candidate whose event is `e` at position `pos` (model terms) -/
def predHoldsM (ns : NsMap) (vs : Vars) (p : Expr) (e : Event) (pos : Nat) : Bool :=
  match p.eval e ns vs with
  | .num x => x.eqNat pos
  | v => v.truthy

section
variable (ns : NsMap) (vs : Vars) (ev : LNode → Event)

/-- one XPath filtering pass with positions starting at `off + 1` -/
def fpred (p : Expr) (off : Nat) : List LNode → List LNode
  | [] => []
  | n :: L => if predHoldsM ns vs p (ev n) (off + 1) then n :: fpred p (off + 1) L else fpred p (off + 1) L

/-- successive filtering; `isPos p` says (statically) whether `p` is a position test; the
    `cnum`-th positional predicate starts counting at `off cnum`.  The offsets are the matchers'
    counters: `sPreds` bumps counter `cnum` for exactly the candidates that passed every
    predicate before it (it stops at the first that fails), and those are the candidates XPath
    hands to the `cnum`-th positional filter. -/
def fpreds (isPos : Expr → Bool) : List Expr → Nat → (Nat → Nat) → List LNode → List LNode
  | [], _, _, L => L
  | p :: ps, cnum, off, L =>
      if isPos p then fpreds isPos ps (cnum + 1) off (fpred ns vs ev p (off cnum) L)
      else fpreds isPos ps cnum off (L.filter fun n => predHoldsM ns vs p (ev n) 0)

/-- the one-pass filter of SingleStepStrategy over a candidate list -/
def sfilter (preds : List Expr) : List Nat → List LNode → List LNode × List Nat
  | cs, [] => ([], cs)
  | cs, n :: L =>
      let r := sPreds (ev n) ns vs preds 0 cs
      let rest := sfilter preds r.2 L
      (if r.1 then n :: rest.1 else rest.1, rest.2)

theorem fpreds_nil (isPos : Expr → Bool) (ps : List Expr) (cnum : Nat) (off : Nat → Nat) :
    fpreds ns vs ev isPos ps cnum off [] = [] := by
  induction ps generalizing cnum with
  | nil => rfl
  | cons p ps ih => simp [fpreds, fpred, ih]

theorem bump_getD (cnum : Nat) (cs : List Nat) (h : cnum ≤ cs.length) (k : Nat) :
    (bump cnum cs).getD k 0 = if k = cnum then cs.getD k 0 + 1 else cs.getD k 0 := by
  unfold bump
  by_cases hl : cs.length < cnum + 1
  · have hlen : cs.length = cnum := by omega
    simp only [↓reduceIte, hl]
    by_cases hk : k = cnum
    · subst hk
      simp [List.getD_eq_getElem?_getD, hlen]
    · simp only [↓reduceIte, hk, List.getD_eq_getElem?_getD, List.getElem?_mapIdx]
      by_cases hk2 : k < cs.length
      · simp [List.getElem?_append_left hk2, hk]
      · have : k ≥ (cs ++ [0]).length := by simp; omega
        simp [List.getElem?_eq_none_iff.mpr this, List.getElem?_eq_none_iff.mpr (by omega : cs.length ≤ k)]
  · simp only [↓reduceIte, hl]
    by_cases hk : k = cnum
    · subst hk
      have hk2 : k < cs.length := by omega
      simp [List.getD_eq_getElem?_getD, hk2]
    · simp only [↓reduceIte, hk, List.getD_eq_getElem?_getD, List.getElem?_mapIdx]
      cases h' : cs[k]? <;> simp [hk]

theorem bump_length (cnum : Nat) (cs : List Nat) (h : cnum ≤ cs.length) : cnum + 1 ≤ (bump cnum cs).length := by
  unfold bump
  by_cases hl : cs.length < cnum + 1 <;> simp [hl] <;> omega

theorem fpreds_congr (isPos : Expr → Bool) (ps : List Expr) (cnum : Nat) (off off' : Nat → Nat)
    (h : ∀ k, cnum ≤ k → off k = off' k) (L : List LNode) :
    fpreds ns vs ev isPos ps cnum off L = fpreds ns vs ev isPos ps cnum off' L := by
  induction ps generalizing cnum L with
  | nil => rfl
  | cons p ps ih =>
    simp only [fpreds]
    by_cases hp : isPos p = true
    · simp only [↓reduceIte, hp, h cnum (Nat.le_refl _)]
      exact ih (cnum + 1) (fun k hk => h k (by omega)) _
    · simp only [↓reduceIte, hp, Bool.false_eq_true]
      exact ih cnum h _

theorem isNum_iff (v : Val) : v.isNum = true ↔ ∃ x, v = .num x := by
  cases v <;> simp [Val.isNum]

theorem sPreds_cons_num (e : Event) (p : Expr) (ps : List Expr) (cnum : Nat) (cs : List Nat) (x : XNum)
    (h : p.eval e ns vs = .num x) :
    sPreds e ns vs (p :: ps) cnum cs =
      if x.eqNat ((bump cnum cs).getD cnum 0) = true ∧ (Val.num x).truthy = true
      then sPreds e ns vs ps (cnum + 1) (bump cnum cs) else (false, bump cnum cs) := by
  simp only [sPreds, h, List.getD_eq_getElem?_getD]
  by_cases h1 : x.eqNat ((bump cnum cs)[cnum]?.getD 0) = true <;>
    by_cases h2 : (Val.num x).truthy = true <;> simp [h1, h2]

theorem sPreds_cons_other (e : Event) (p : Expr) (ps : List Expr) (cnum : Nat) (cs : List Nat)
    (h : (p.eval e ns vs).isNum = false) :
    sPreds e ns vs (p :: ps) cnum cs =
      if (p.eval e ns vs).truthy = true then sPreds e ns vs ps cnum cs else (false, cs) := by
  simp only [sPreds]
  cases hv : p.eval e ns vs with
  | num x => rw [hv] at h; cases h
  | _ => cases hb : Val.truthy _ <;> simp [hb]

theorem predHoldsM_num (p : Expr) (e : Event) (pos : Nat) (x : XNum) (h : p.eval e ns vs = .num x) :
    predHoldsM ns vs p e pos = x.eqNat pos := by simp [predHoldsM, h]

theorem predHoldsM_other (p : Expr) (e : Event) (pos : Nat) (h : (p.eval e ns vs).isNum = false) :
    predHoldsM ns vs p e pos = (p.eval e ns vs).truthy := by
  unfold predHoldsM
  cases hv : p.eval e ns vs <;> simp_all [Val.isNum]

theorem sPreds_getD_lt (e : Event) (ps : List Expr) (cnum : Nat) (cs : List Nat) (hlen : cnum ≤ cs.length)
    (k : Nat) (hk : k < cnum) : (sPreds e ns vs ps cnum cs).2.getD k 0 = cs.getD k 0 := by
  induction ps generalizing cnum cs with
  | nil => rfl
  | cons p ps ih =>
    have hb : (bump cnum cs).getD k 0 = cs.getD k 0 := by
      rw [bump_getD cnum cs hlen k]; simp [Nat.ne_of_lt hk]
    by_cases hn : (p.eval e ns vs).isNum = true
    · obtain ⟨x, hx⟩ := (isNum_iff _).mp hn
      rw [sPreds_cons_num ns vs e p ps cnum cs x hx]
      split
      · rw [ih (cnum + 1) (bump cnum cs) (bump_length cnum cs hlen) (by omega)]; exact hb
      · exact hb
    · rw [sPreds_cons_other ns vs e p ps cnum cs (by simpa using hn)]
      split
      · exact ih cnum cs hlen hk
      · rfl

theorem eqNat_succ_truthy (x : XNum) (k : Nat) (h : x.eqNat (k + 1) = true) : (Val.num x).truthy = true := by
  cases x with
  | nan => simp [XNum.eqNat] at h
  | dec neg m e =>
    simp only [XNum.eqNat, Bool.and_eq_true, beq_iff_eq] at h
    simp only [Val.truthy, XNum.isZero, Bool.not_eq_true', beq_eq_false_iff_ne]
    intro hm
    rw [hm] at h
    have : (k + 1) * 10 ^ e > 0 := Nat.mul_pos (by omega) (Nat.pow_pos (by omega))
    omega

/-- the candidate at the head of the list: one pass of `sPreds` decides it and leaves the
    counters where XPath's successive filtering continues for the rest -/
theorem fpreds_cons (isPos : Expr → Bool) (n : LNode) (ps : List Expr)
    (hstatic : ∀ p ∈ ps, (p.eval (ev n) ns vs).isNum = isPos p) :
    ∀ (cnum : Nat) (cs : List Nat), cnum ≤ cs.length → ∀ (L : List LNode),
      fpreds ns vs ev isPos ps cnum (fun k => cs.getD k 0) (n :: L) =
        (if (sPreds (ev n) ns vs ps cnum cs).1 then [n] else []) ++
          fpreds ns vs ev isPos ps cnum (fun k => (sPreds (ev n) ns vs ps cnum cs).2.getD k 0) L := by
  induction ps with
  | nil => intro cnum cs _ L; simp [fpreds, sPreds]
  | cons p ps ih =>
    intro cnum cs hlen L
    have hst := hstatic p List.mem_cons_self
    have ih := ih (fun q hq => hstatic q (List.mem_cons_of_mem _ hq))
    have hbg : (bump cnum cs).getD cnum 0 = cs.getD cnum 0 + 1 := by
      rw [bump_getD cnum cs hlen cnum]; simp
    by_cases hn : (p.eval (ev n) ns vs).isNum = true
    · obtain ⟨x, hx⟩ := (isNum_iff _).mp hn
      have hpos : isPos p = true := by rw [← hst, hn]
      rw [sPreds_cons_num ns vs (ev n) p ps cnum cs x hx]
      simp only [↓reduceIte, fpreds, hpos, fpred, predHoldsM_num ns vs p (ev n) _ x hx, hbg]
      by_cases hh : x.eqNat (cs.getD cnum 0 + 1) = true
      · have htr := eqNat_succ_truthy x _ hh
        simp only [↓reduceIte, hh, htr, and_self]
        rw [fpreds_congr ns vs ev isPos ps (cnum + 1) (fun k => cs.getD k 0) (fun k => (bump cnum cs).getD k 0)
              (fun k hk => by rw [bump_getD cnum cs hlen k]; simp [show k ≠ cnum by omega]),
            ih (cnum + 1) (bump cnum cs) (bump_length cnum cs hlen)]
        congr 2
        rw [sPreds_getD_lt ns vs (ev n) ps (cnum + 1) (bump cnum cs) (bump_length cnum cs hlen) cnum (by omega), hbg]
      · simp only [↓reduceIte, hh, Bool.false_eq_true, false_and, List.nil_append, hbg]
        exact fpreds_congr ns vs ev isPos ps (cnum + 1) _ _
          (fun k hk => by rw [bump_getD cnum cs hlen k]; simp [show k ≠ cnum by omega]) _
    · have hn' : (p.eval (ev n) ns vs).isNum = false := by simpa using hn
      have hpos : isPos p = false := by rw [← hst, hn']
      rw [sPreds_cons_other ns vs (ev n) p ps cnum cs hn']
      simp only [↓reduceIte, fpreds, hpos, Bool.false_eq_true, List.filter_cons, predHoldsM_other ns vs p (ev n) 0 hn']
      by_cases ht : (p.eval (ev n) ns vs).truthy = true
      · simp only [↓reduceIte, ht]
        exact ih cnum cs hlen _
      · simp only [↓reduceIte, ht, Bool.false_eq_true, List.nil_append]

/-- **one pass = successive filtering**: SingleStepStrategy's counters select exactly the
    candidates XPath's predicate-by-predicate filtering (with renumbering) keeps -/
theorem sfilter_eq_fpreds (isPos : Expr → Bool) (ps : List Expr) (L : List LNode)
    (hstatic : ∀ n ∈ L, ∀ p ∈ ps, (p.eval (ev n) ns vs).isNum = isPos p) (cs : List Nat) :
    (sfilter ns vs ev ps cs L).1 = fpreds ns vs ev isPos ps 0 (fun k => cs.getD k 0) L := by
  induction L generalizing cs with
  | nil => simp [sfilter, fpreds_nil]
  | cons n L ih =>
    have h1 := fpreds_cons ns vs ev isPos n ps (hstatic n List.mem_cons_self) 0 cs (Nat.zero_le _) L
    have h2 := ih (fun m hm => hstatic m (List.mem_cons_of_mem _ hm)) (sPreds (ev n) ns vs ps 0 cs).2
    rw [h1, ← h2]
    simp only [sfilter]
    split <;> simp

theorem sfilter_append (ps : List Expr) (cs : List Nat) (L1 L2 : List LNode) :
    sfilter ns vs ev ps cs (L1 ++ L2) =
      ((sfilter ns vs ev ps cs L1).1 ++ (sfilter ns vs ev ps (sfilter ns vs ev ps cs L1).2 L2).1,
       (sfilter ns vs ev ps (sfilter ns vs ev ps cs L1).2 L2).2) := by
  induction L1 generalizing cs with
  | nil => simp [sfilter]
  | cons n L ih =>
    simp only [List.cons_append, sfilter, ih]
    split <;> simp

theorem fpred_mem (p : Expr) (off : Nat) (L : List LNode) : ∀ n ∈ fpred ns vs ev p off L, n ∈ L := by
  induction L generalizing off with
  | nil => simp [fpred]
  | cons m L ih =>
    intro n hn
    simp only [fpred] at hn
    split at hn
    · rcases List.mem_cons.mp hn with h | h
      · exact h ▸ List.mem_cons_self
      · exact List.mem_cons_of_mem _ (ih (off + 1) n h)
    · exact List.mem_cons_of_mem _ (ih (off + 1) n hn)

end

section
variable (ns : NsMap) (xvs : XVars)

theorem filterPred_eq_go (p : Expr) (L : List LNode) (off : Nat) :
    ((L.zipIdx off).filter fun (c, i) => predHolds p c.node (i + 1) ns xvs).map Prod.fst =
      (match L with
       | [] => []
       | n :: L' =>
          (if predHolds p n.node (off + 1) ns xvs then [n] else []) ++
          ((L'.zipIdx (off + 1)).filter fun (c, i) => predHolds p c.node (i + 1) ns xvs).map Prod.fst) := by
  cases L with
  | nil => rfl
  | cons n L' =>
    simp only [List.zipIdx_cons, List.filter_cons]
    split <;> simp

/-- the reference's `filterPred`, unrolled with an explicit position offset -/
theorem fpred_eq_filterPred (vs : Vars) (ev : LNode → Event) (p : Expr) (L : List LNode) (off : Nat)
    (hag : ∀ n ∈ L, ∀ pos, predHoldsM ns vs p (ev n) pos = predHolds p n.node pos ns xvs) :
    fpred ns vs ev p off L =
      ((L.zipIdx off).filter fun (c, i) => predHolds p c.node (i + 1) ns xvs).map Prod.fst := by
  induction L generalizing off with
  | nil => rfl
  | cons n L ih =>
    rw [filterPred_eq_go]
    simp only [fpred, hag n List.mem_cons_self]
    rw [ih (off + 1) (fun m hm => hag m (List.mem_cons_of_mem _ hm))]
    split <;> simp

theorem filterPred_mem (p : Expr) (L : List LNode) : ∀ n ∈ filterPred p ns xvs L, n ∈ L := by
  intro n hn
  simp only [filterPred, List.mem_map, List.mem_filter] at hn
  obtain ⟨⟨c, i⟩, ⟨hm, _⟩, rfl⟩ := hn
  have := List.mem_zipIdx' hm
  exact this.2 ▸ List.getElem_mem _

/-- with agreeing predicate outcomes and static positional flags, the counters-from-zero pass
    is the reference's `filterPreds` -/
theorem fpreds_eq_filterPreds (vs : Vars) (ev : LNode → Event) (isPos : Expr → Bool) (ps : List Expr) :
    ∀ (cnum : Nat) (L : List LNode),
      (∀ n ∈ L, ∀ p ∈ ps, ∀ pos, predHoldsM ns vs p (ev n) pos = predHolds p n.node pos ns xvs) →
      (∀ n ∈ L, ∀ p ∈ ps, (p.eval (ev n) ns vs).isNum = isPos p) →
      fpreds ns vs ev isPos ps cnum (fun _ => 0) L = filterPreds ps ns xvs L := by
  induction ps with
  | nil => intro cnum L _ _; rfl
  | cons p ps ih =>
    intro cnum L hag hst
    have hagp := fun n hn => hag n hn p List.mem_cons_self
    have hsub : ∀ n ∈ filterPred p ns xvs L, n ∈ L := filterPred_mem ns xvs p L
    -- either way the remaining predicates go on with what `p` keeps
    have hrest := fun c => ih c (filterPred p ns xvs L)
      (fun n hn q hq => hag n (hsub n hn) q (List.mem_cons_of_mem _ hq))
      (fun n hn q hq => hst n (hsub n hn) q (List.mem_cons_of_mem _ hq))
    simp only [fpreds, filterPreds, List.foldl_cons]
    by_cases hp : isPos p = true
    · simp only [↓reduceIte, hp]
      rw [fpred_eq_filterPred ns xvs vs ev p L 0 hagp]
      exact hrest (cnum + 1)
    · simp only [↓reduceIte, hp, Bool.false_eq_true]
      have hfil : L.filter (fun n => predHoldsM ns vs p (ev n) 0) = filterPred p ns xvs L := by
        rw [filterPred, ← zipIdx_filter_fst (fun n => predHoldsM ns vs p (ev n) 0) L 0]
        congr 1
        apply List.filter_congr
        intro ⟨c, i⟩ hm
        have hc : c ∈ L := by
          have := List.mem_zipIdx' hm
          exact this.2 ▸ List.getElem_mem _
        have hnn : (p.eval (ev c) ns vs).isNum = false := by
          rw [hst c hc p List.mem_cons_self]; simpa using hp
        simp only
        rw [← hagp c hc (i + 1), predHoldsM_other ns vs p (ev c) 0 hnn, predHoldsM_other ns vs p (ev c) (i + 1) hnn]
      rw [hfil]
      exact hrest cnum

end
end Genshi.Path
