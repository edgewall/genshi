/-
  SimplePathStrategy on paths with several fragments: the nodes it reports are the XPath
  node set of the path (`simple_marks`).

  The entry `(fid, p, ic)` on the matcher's stack is read through the reference semantics
  (`ESem`): a context-bound entry stands for "the rest of fragment 0 from test `p` on, then the
  rest of the path"; a context-ignoring entry for `SemIc` — the current fragment may start
  anywhere below, or a matched prefix (`p` is the longest, the shorter ones are its borders:
  `Lemmas/PathKmp*.lean`) is continued.  One event keeps the reading (`visit`); when a
  fragment is completed the matcher moves to the next one and forgets the other candidates
  of the completed fragment — sound by the domination lemma `semIc_dom`.

  After `simple_marks`: the same in pattern mode (`patPath`, `simple_marks_pattern`); the steps
  SimplePathStrategy supports (`SStep`) and what follows from them for GenericStrategy (`stepsOk_of_sstep`,
  `hitOk_sstep`, `gSteps_sstep_pattern`); `__init__` gives back the fragment list its path `normPath frags` was
  built from (`fragments_normPath`); `FragsOk` as a computation (`fragsOkB`) and its agreement with the driver's
  copy in `Model/PathFrags.lean` (`inScope_sound`).
-/
import Genshi.Lemmas.PathFragsRef
import Genshi.Lemmas.PathGeneric
import Genshi.Model.PathFrags
namespace Genshi.Path.Frags
open Genshi Genshi.Path Genshi.Path.Ref Genshi.Path.Kmp

section Tree
variable {α X : Type}

mutual
  /-- a stack machine over the events of a tree.  If one call on a valid top entry `E` pushes a
      valid entry `E'` for the children, and `E` designates (`Sem`) the node itself exactly when a
      match is reported plus what `E'` designates below the children (`hvisit`), then over the whole
      tree the stack is restored and the marked nodes are those `E` designates. -/
  theorem stackTree (step : List α → Event → List α × Val) (Ok : α → X → Prop) (Sem : α → X → LNode → LNode → Prop)
      (hend : ∀ st tg, step st (.end_ tg) = (st.drop 1, .none))
      (hvisit : ∀ (E : α) (x : X), Ok E x → ∀ (c : LNode), c.node.clean = true → ∀ rest : List α,
        ∃ (E' : α) (x' : X) (m : Bool), Ok E' x' ∧
          step (E :: rest) (nodeEvent c.node)
            = ((if (nodeEvent c.node).isStart then E' :: E :: rest else E :: rest), if m then .bool true else .none) ∧
          ∀ t : LNode, Sem E x c t ↔ ((m = true ∧ (c.loc == t.loc) = true) ∨ ∃ k ∈ childrenOf c, Sem E' x' k t)) :
      ∀ (n : Node), n.clean = true → ∀ (loc : List Nat) (E : α) (x : X) (rest : List α), Ok E x →
        (runOne step (E :: rest) n.flatten).2 = E :: rest ∧
        okVals (runOne step (E :: rest) n.flatten).1 (eventLocs n loc) ∧
        ∀ t : LNode, selB (runOne step (E :: rest) n.flatten).1 (eventLocs n loc) t.loc = true ↔ Sem E x ⟨loc, n⟩ t
    | .elem tg ats ks, hcl, loc, E, x, rest, hE => by
        obtain ⟨E', x', m, hE', hs, hsem⟩ := hvisit E x hE ⟨loc, .elem tg ats ks⟩ hcl rest
        simp only [nodeEvent, Event.isStart, if_true] at hs
        have hk := stackTreeList step Ok Sem hend hvisit ks (by simpa [Node.clean] using hcl) loc 0 E' x' (E :: rest) hE'
        simp only [Node.flatten, eventLocs, runOne_cons, runOne_append]
        rw [hs]
        simp only []
        rw [hk.1]
        refine ⟨by simp [runOne, hend], ?_, fun t => ?_⟩
        · simp only [okVals]
          refine ⟨by cases m <;> simp, ?_⟩
          rw [okVals_append _ _ _ _ (by rw [runOne_length, eventLocsList_length])]
          exact ⟨hk.2.1, by simp [runOne, hend, okVals]⟩
        rw [selB_cons, selB_append _ _ _ _ (by rw [runOne_length, eventLocsList_length]), hsem t]
        simp only [Bool.or_eq_true, Bool.and_eq_true, hk.2.2 t, selB_none, Bool.false_eq_true, or_false]
        have hkids : childrenOf ⟨loc, .elem tg ats ks⟩ = kidsAt ks loc 0 := rfl
        rw [hkids]
        cases m <;> simp [Val.truthy]
    | .leaf e, hcl, loc, E, x, rest, hE => by
        obtain ⟨E', x', m, hE', hs, hsem⟩ := hvisit E x hE ⟨loc, .leaf e⟩ hcl rest
        simp only [Node.clean, Bool.and_eq_true, Bool.not_eq_true'] at hcl
        obtain ⟨hend', hstart⟩ := isEnd_of_not_startEnd hcl.1
        simp only [nodeEvent, hstart, Bool.false_eq_true, if_false] at hs
        simp only [Node.flatten, eventLocs, runOne, hs]
        refine ⟨trivial, by cases m <;> simp [okVals], fun t => ?_⟩
        rw [hsem t]
        have hkids : childrenOf ⟨loc, .leaf e⟩ = [] := rfl
        rw [hkids]
        cases m <;> simp [selB, matched, Val.truthy]
  theorem stackTreeList (step : List α → Event → List α × Val) (Ok : α → X → Prop) (Sem : α → X → LNode → LNode → Prop)
      (hend : ∀ st tg, step st (.end_ tg) = (st.drop 1, .none))
      (hvisit : ∀ (E : α) (x : X), Ok E x → ∀ (c : LNode), c.node.clean = true → ∀ rest : List α,
        ∃ (E' : α) (x' : X) (m : Bool), Ok E' x' ∧
          step (E :: rest) (nodeEvent c.node)
            = ((if (nodeEvent c.node).isStart then E' :: E :: rest else E :: rest), if m then .bool true else .none) ∧
          ∀ t : LNode, Sem E x c t ↔ ((m = true ∧ (c.loc == t.loc) = true) ∨ ∃ k ∈ childrenOf c, Sem E' x' k t)) :
      ∀ (ks : List Node), cleanList ks = true → ∀ (loc : List Nat) (i : Nat) (E : α) (x : X) (rest : List α), Ok E x →
        (runOne step (E :: rest) (flattenList ks)).2 = E :: rest ∧
        okVals (runOne step (E :: rest) (flattenList ks)).1 (eventLocsList ks loc i) ∧
        ∀ t : LNode, selB (runOne step (E :: rest) (flattenList ks)).1 (eventLocsList ks loc i) t.loc = true ↔
          ∃ k ∈ kidsAt ks loc i, Sem E x k t
    | [], _, loc, i, E, x, rest, _ => by simp [Genshi.flattenList, eventLocsList, runOne, selB, matched, kidsAt, okVals]
    | k :: ks, hcl, loc, i, E, x, rest, hE => by
        simp only [cleanList, Bool.and_eq_true] at hcl
        have h1 := stackTree step Ok Sem hend hvisit k hcl.1 (loc ++ [i]) E x rest hE
        have h2 := stackTreeList step Ok Sem hend hvisit ks hcl.2 loc (i + 1) E x rest hE
        simp only [Genshi.flattenList, eventLocsList, runOne_append]
        rw [h1.1]
        refine ⟨h2.1, ?_, fun t => ?_⟩
        · rw [okVals_append _ _ _ _ (by rw [runOne_length, eventLocs_length])]
          exact ⟨h1.2.1, h2.2.1⟩
        rw [selB_append _ _ _ _ (by rw [runOne_length, eventLocs_length])]
        simp only [Bool.or_eq_true, h1.2.2 t, h2.2.2 t, kidsAt, List.zipIdx_cons, List.map_cons, List.mem_cons,
          exists_eq_or_imp]
end

end Tree

/-- the steps a fragment after the first stands for -/
def fragSteps (f : Frag) : LocPath :=
  fragPath (if f.selfBeginning then .descendantOrSelf else .descendant) f.tests

/-- the path a list of fragments after the first stands for -/
def tailPath : List Frag → LocPath
  | [] => []
  | f :: fs => fragSteps f ++ tailPath fs

/-- the path after the fragments before index `i` -/
def restPath (frags : List Frag) (i : Nat) : LocPath := tailPath (frags.drop i)

theorem restPath_get (frags : List Frag) (i : Nat) (f : Frag) (h : frags[i]? = some f) :
    restPath frags i = fragSteps f ++ restPath frags (i + 1) := by
  obtain ⟨hlt, hs⟩ := List.getElem?_eq_some_iff.mp h
  simp only [restPath]
  rw [List.drop_eq_getElem_cons hlt, hs]
  rfl

theorem restPath_end (frags : List Frag) (i : Nat) (h : frags.length ≤ i) : restPath frags i = [] := by
  simp only [restPath, List.drop_eq_nil_of_le h, tailPath]

/-- what `SimplePathStrategy.__init__` builds for a supported path (without a final attribute
    step): failure tables computed by `calculate_pi`, supported tests, no empty fragment except
    a leading one (path starting with `descendant::` / `descendant-or-self::`) -/
structure FragsOk (frags : List Frag) : Prop where
  pi : ∀ f ∈ frags, f.pi = calculatePi f.tests
  attr : ∀ f ∈ frags, f.attr = none
  simple : ∀ f ∈ frags, ∀ t ∈ f.tests, simpleT t = true
  tail : ∀ i f, frags[i + 1]? = some f → f.tests ≠ []
  head : ∃ f0, frags[0]? = some f0 ∧ (f0.tests = [] → f0.selfBeginning = false ∧ 2 ≤ frags.length)

theorem FragsOk.cons_eq {frags : List Frag} (hok : FragsOk frags) :
    ∃ f0 fs, frags = f0 :: fs ∧ (f0.tests = [] → f0.selfBeginning = false ∧ 2 ≤ frags.length) := by
  obtain ⟨f0, h0, hhead⟩ := hok.head
  cases frags with
  | nil => cases h0
  | cons a fs => cases h0; exact ⟨_, _, rfl, hhead⟩

section
variable (ns : NsMap)

theorem simple_matches (g : NodeTest) (hg : simpleT g = true) (n : Node) (hn : n.clean = true) :
    g.matches (nodeEvent n) ns = testNode g n ns := by
  rcases simpleT_cases g hg with ⟨a, rfl⟩ | rfl | rfl <;> cases n with
  | elem tg ats ks => simp [nodeEvent, NodeTest.matches, NodeTest.apply, testNode, Val.truthy]
  | leaf e =>
    cases e <;> simp_all [Node.clean, Event.isStartEnd, nodeEvent, NodeTest.matches, NodeTest.apply, testNode,
      Val.truthy]

end

section
variable (ns : NsMap) (xvs : XVars)

/-- where fragment `i` ends the path goes on with fragment `i + 1`, entered afresh at the node itself
    (`selfBeginning`: after `descendant-or-self::`) or at its children (after `descendant::`); either way the rest is
    monotone along the tree -/
theorem restPath_enter (frags : List Frag) (hok : FragsOk frags) (j : Nat) (hj : 0 < j) (nxt : Frag)
    (hnxt : frags[j]? = some nxt) (c t : LNode) :
    (reach ns xvs (restPath frags j) c t = true ↔
      if nxt.selfBeginning then SemIc ns xvs nxt.tests (restPath frags (j + 1)) [] c t
      else ∃ k ∈ childrenOf c, SemIc ns xvs nxt.tests (restPath frags (j + 1)) [] k t) ∧
    Mono ns xvs (restPath frags j) t := by
  obtain ⟨i, rfl⟩ : ∃ i, j = i + 1 := ⟨j - 1, by omega⟩
  obtain ⟨g, G, hgG⟩ := List.exists_cons_of_ne_nil (hok.tail i nxt hnxt)
  rw [restPath_get frags (i + 1) nxt hnxt, fragSteps, hgG]
  simp only [semIc_nil]
  cases nxt.selfBeginning with
  | true => exact ⟨Iff.rfl, mono_dos ns xvs g G _ t⟩
  | false => exact ⟨by simp only [Bool.false_eq_true, if_false, reach_descFrag, List.any_eq_true], mono_desc ns xvs g G _ t⟩

/-- **the context-ignoring loop at one node.**  From a valid entry `(fid, p)` (`p` the longest
    matched prefix of fragment `fid` on the chain `rw`) the loop ends in a valid entry
    `(fid', p')` for the children, reports a match iff the last fragment is completed, and the
    node set still designated is unchanged.  `L`, the loop's third output, is the length of the fragment
    just completed, not of `frag'`: after a hand-over `p' = 0 ≠ L`, so nothing is reported there (`hm0`). -/
theorem icLoop_spec (frags : List Frag) (hok : FragsOk frags) (c : LNode) (hcl : c.node.clean = true) :
    ∀ (fuel fid p : Nat) (rw : List Event) (frag : Frag), frags[fid]? = some frag → frag.tests ≠ [] →
      frags.length - fid < fuel →
      IsMax (Fof frag.tests) frag.tests.length (textOf ns rw) rw.length p →
      ∃ (fid' p' L : Nat) (rw' : List Event) (frag' : Frag),
        icLoop frags (nodeEvent c.node) ns fuel fid p = (fid', p', L, none) ∧
        frags[fid']? = some frag' ∧ frag'.tests ≠ [] ∧
        IsMax (Fof frag'.tests) frag'.tests.length (textOf ns rw') rw'.length p' ∧
        ∀ t : LNode, SemIc ns xvs frag.tests (restPath frags (fid + 1)) rw c t ↔
          (((fid' + 1 == frags.length && p' == L) = true ∧ (c.loc == t.loc) = true) ∨
           ∃ k ∈ childrenOf c, SemIc ns xvs frag'.tests (restPath frags (fid' + 1)) rw' k t) := by
  intro fuel
  induction fuel with
  | zero => intro fid p rw frag _ _ h; omega
  | succ fuel ih =>
    intro fid p rw frag hfrag hne hfuel hmax
    have h1 := hne
    have hmem : frag ∈ frags := List.mem_of_getElem? hfrag
    have hflt : fid < frags.length := (List.getElem?_eq_some_iff.mp hfrag).1
    have hn : 0 < frag.tests.length := List.length_pos_iff.mpr hne
    have hs : Simple (Fof frag.tests) frag.tests.length := simple_of_mem _ (hok.simple frag hmem)
    have hmax' := kmpStep_max ns frag hne hs (hok.pi frag hmem) rw p hmax (nodeEvent c.node)
    have hmt : ∀ i, i < frag.tests.length →
        (Fof frag.tests i).matches (nodeEvent c.node) ns = testNode (Fof frag.tests i) c.node ns :=
      fun i hi => simple_matches ns _ (hs i hi) c.node hcl
    have hstep := fun t => semIc_step ns xvs frag.tests hne (restPath frags (fid + 1)) rw c t (nodeEvent c.node) hmt
    rw [icLoop_succ ns frags _ fuel fid p frag hfrag, hok.attr frag hmem]
    by_cases hp : (kmpStep ns frag p (nodeEvent c.node) == frag.tests.length) = true
    · simp only [hp, if_true]
      have hpe : kmpStep ns frag p (nodeEvent c.node) = frag.tests.length := by simpa using hp
      have hsufF : Suf (Fof frag.tests) frag.tests.length (textOf ns (nodeEvent c.node :: rw)) (rw.length + 1)
          frag.tests.length := by
        have := hmax'.1; rwa [hpe] at this
      by_cases hlast : (fid + 1 == frags.length) = true
      · simp only [hlast, if_true]
        refine ⟨fid, _, _, nodeEvent c.node :: rw, frag, rfl, hfrag, h1, hmax', fun t => ?_⟩
        rw [hstep t, restPath_end frags (fid + 1) (by simp at hlast; omega)]
        simp only [hsufF, reach, beq_iff_eq, true_and, hlast, hp, Bool.and_self]
      · simp only [hlast, Bool.false_eq_true, if_false]
        have hlt : fid + 1 < frags.length := by simp at hlast; omega
        obtain ⟨nxt, hnxt⟩ : ∃ nxt, frags[fid + 1]? = some nxt := ⟨frags[fid + 1], List.getElem?_eq_getElem hlt⟩
        simp only [hnxt]
        have hnne : nxt.tests ≠ [] := hok.tail fid nxt hnxt
        have henter := fun t => restPath_enter ns xvs frags hok (fid + 1) (Nat.succ_pos _) nxt hnxt c t
        have hdom : ∀ t, SemIc ns xvs frag.tests (restPath frags (fid + 1)) rw c t ↔
            reach ns xvs (restPath frags (fid + 1)) c t = true := fun t =>
          ⟨semIc_dom ns xvs _ hne _ rw t (henter t).2 c, fun h => (hstep t).mpr (Or.inl ⟨hsufF, h⟩)⟩
        by_cases hsb : nxt.selfBeginning = true
        · simp only [hsb, Bool.not_true, Bool.false_eq_true, if_false]
          obtain ⟨fid', p', L, rw', frag', e1, e2, e3, e4, e5⟩ :=
            ih (fid + 1) 0 [] nxt hnxt hnne (by omega) (isMax_nil ns nxt.tests)
          refine ⟨fid', p', L, rw', frag', e1, e2, e3, e4, fun t => ?_⟩
          rw [hdom t, ← e5 t, (henter t).1, if_pos hsb]
        · have hsb' : nxt.selfBeginning = false := by simpa using hsb
          simp only [hsb', Bool.not_false, if_true]
          refine ⟨fid + 1, 0, _, [], nxt, rfl, hnxt, hnne, isMax_nil ns nxt.tests, fun t => ?_⟩
          have hm0 : (fid + 1 + 1 == frags.length && 0 == frag.tests.length) = false := by
            have : (0 == frag.tests.length) = false := by simp; omega
            simp [this]
          rw [hdom t, (henter t).1, if_neg hsb]
          simp only [hm0, Bool.false_eq_true, false_and, false_or]
    · simp only [hp, Bool.false_eq_true, if_false]
      refine ⟨fid, _, _, nodeEvent c.node :: rw, frag, rfl, hfrag, h1, hmax', fun t => ?_⟩
      rw [hstep t]
      have hpne : kmpStep ns frag p (nodeEvent c.node) ≠ frag.tests.length := by simpa using hp
      have hns : ¬ Suf (Fof frag.tests) frag.tests.length (textOf ns (nodeEvent c.node :: rw)) (rw.length + 1)
          frag.tests.length := by
        intro h
        have h1 := hmax'.2 _ h
        have h2 := hmax'.1.1
        omega
      simp only [hns, false_and, false_or, hp, Bool.and_false, Bool.false_eq_true, beq_iff_eq]

end

section
variable (ns : NsMap) (xvs : XVars) (frags : List Frag)

/-- valid stack entries (`rw`: the events since the current fragment was entered) -/
def EOk (E : PEntry) (rw : List Event) : Prop :=
  match E with
  | ⟨none, ic⟩ => ic = false
  | ⟨some (fid, p), false⟩ => fid = 0 ∧ ∃ f0, frags[0]? = some f0 ∧ p < f0.tests.length
  | ⟨some (fid, p), true⟩ =>
      ∃ frag, frags[fid]? = some frag ∧ frag.tests ≠ [] ∧
        IsMax (Fof frag.tests) frag.tests.length (textOf ns rw) rw.length p

/-- the nodes at or below `c` that an entry still designates -/
def ESem (E : PEntry) (rw : List Event) (c t : LNode) : Prop :=
  match E with
  | ⟨none, _⟩ => False
  | ⟨some (_, p), false⟩ =>
      ∃ f0, frags[0]? = some f0 ∧
        reach ns xvs (fragPath .self (f0.tests.drop p) ++ restPath frags 1) c t = true
  | ⟨some (fid, p), true⟩ =>
      ∃ frag, frags[fid]? = some frag ∧ SemIc ns xvs frag.tests (restPath frags (fid + 1)) rw c t

theorem nodeEvent_ok (n : Node) (hcl : n.clean = true) :
    (nodeEvent n).isEnd = false ∧ (nodeEvent n).isNsOrCdata = false := by
  cases n with
  | elem tg ats ks => exact ⟨rfl, rfl⟩
  | leaf e =>
    simp only [Node.clean, Bool.and_eq_true, Bool.not_eq_true'] at hcl
    exact ⟨(isEnd_of_not_startEnd hcl.1).1, hcl.2⟩

theorem icOut_sem (hok : FragsOk frags) (c : LNode) (hcl : c.node.clean = true) (fid p : Nat) (rw : List Event)
    (frag : Frag) (hfrag : frags[fid]? = some frag) (h1 : frag.tests ≠ [])
    (hmax : IsMax (Fof frag.tests) frag.tests.length (textOf ns rw) rw.length p) :
    ∃ (rw' : List Event) (m : Bool), EOk ns frags (icOut ns frags (nodeEvent c.node) fid p).1 rw' ∧
      (icOut ns frags (nodeEvent c.node) fid p).2 = (if m then .bool true else .none) ∧
      ∀ t : LNode, SemIc ns xvs frag.tests (restPath frags (fid + 1)) rw c t ↔
        ((m = true ∧ (c.loc == t.loc) = true) ∨
         ∃ k ∈ childrenOf c, ESem ns xvs frags (icOut ns frags (nodeEvent c.node) fid p).1 rw' k t) := by
  obtain ⟨fid', p', L, rw', frag', e1, e2, e3, e4, e5⟩ :=
    icLoop_spec ns xvs frags hok c hcl (frags.length + 1) fid p rw frag hfrag h1 (by omega) hmax
  refine ⟨rw', (fid' + 1 == frags.length && p' == L), ?_, ?_, fun t => ?_⟩
  · simp only [icOut, e1, EOk]
    exact ⟨frag', e2, e3, e4⟩
  · simp only [icOut, e1, icResult]
  · rw [e5 t]
    simp only [icOut, e1, ESem]
    constructor
    · rintro (h | ⟨k, hk, h⟩)
      · exact Or.inl h
      · exact Or.inr ⟨k, hk, frag', e2, h⟩
    · rintro (h | ⟨k, hk, f, hf, h⟩)
      · exact Or.inl h
      · rw [e2] at hf; cases hf
        exact Or.inr ⟨k, hk, h⟩

theorem boundOut_sem (hok : FragsOk frags) (c : LNode) (hcl : c.node.clean = true) (f0 : Frag)
    (h0 : frags[0]? = some f0) (p : Nat) (hp : p < f0.tests.length) :
    ∃ (rw' : List Event) (m : Bool), EOk ns frags (boundOut ns frags (nodeEvent c.node) f0 p).1 rw' ∧
      (boundOut ns frags (nodeEvent c.node) f0 p).2 = (if m then .bool true else .none) ∧
      ∀ t : LNode, reach ns xvs (fragPath .self (f0.tests.drop p) ++ restPath frags 1) c t = true ↔
        ((m = true ∧ (c.loc == t.loc) = true) ∨
         ∃ k ∈ childrenOf c, ESem ns xvs frags (boundOut ns frags (nodeEvent c.node) f0 p).1 rw' k t) := by
  have hmem : f0 ∈ frags := List.mem_of_getElem? h0
  have hs : Simple (Fof f0.tests) f0.tests.length := simple_of_mem _ (hok.simple f0 hmem)
  have hft : fragTest f0 p (nodeEvent c.node) ns = testNode (Fof f0.tests p) c.node ns := by
    rw [fragTest_eq, simple_matches ns _ (hs p hp) c.node hcl]; simp [hp]
  have hflpos : 0 < frags.length := (List.getElem?_eq_some_iff.mp h0).1
  have hunf := fun t => reach_self_drop ns xvs f0.tests (restPath frags 1) p hp c t
  unfold boundOut
  by_cases ht : testNode (Fof f0.tests p) c.node ns = true
  · rw [hft, ht]
    simp only [Bool.not_true, Bool.false_eq_true, if_false]
    by_cases hp1 : (p + 1 == f0.tests.length) = true
    · have hp1' : p + 1 = f0.tests.length := by simpa using hp1
      simp only [hp1, if_true]
      by_cases hfl : (frags.length == 1) = true
      · simp only [hfl, if_true, hok.attr f0 hmem]
        refine ⟨[], true, rfl, rfl, fun t => ?_⟩
        rw [hunf t, restPath_end frags 1 (by simp at hfl; omega)]
        simp [ht, hp1', reach, ESem]
      · simp only [hfl, Bool.false_eq_true, if_false]
        have hlt : 1 < frags.length := by simp at hfl; omega
        obtain ⟨nxt, hnxt⟩ : ∃ nxt, frags[1]? = some nxt := ⟨frags[1], List.getElem?_eq_getElem hlt⟩
        have hnne : nxt.tests ≠ [] := hok.tail 0 nxt hnxt
        have henter := fun t => (restPath_enter ns xvs frags hok 1 Nat.one_pos nxt hnxt c t).1
        by_cases hsb : nxt.selfBeginning = true
        · simp only [hnxt, Option.map_some, Option.getD_some, hsb, Bool.not_true, Bool.false_eq_true, if_false]
          obtain ⟨rw', m, o1, o2, o3⟩ := icOut_sem ns xvs frags hok c hcl 1 0 [] nxt hnxt hnne (isMax_nil ns nxt.tests)
          refine ⟨rw', m, o1, o2, fun t => ?_⟩
          rw [← o3 t, hunf t, henter t, if_pos hsb]
          simp [ht, hp1']
        · have hsb' : nxt.selfBeginning = false := by simpa using hsb
          simp only [hnxt, Option.map_some, Option.getD_some, hsb', Bool.not_false, if_true]
          refine ⟨[], false, ⟨nxt, hnxt, hnne, isMax_nil ns nxt.tests⟩, rfl, fun t => ?_⟩
          rw [hunf t, henter t, if_neg hsb]
          simp only [ht, hp1', true_and, Nat.lt_irrefl, false_and, or_false, ESem, hnxt, Option.some.injEq, exists_eq_left',
            Bool.false_eq_true, false_or]
    · have hp1' : p + 1 ≠ f0.tests.length := by simpa using hp1
      simp only [hp1, Bool.false_eq_true, if_false]
      refine ⟨[], false, ⟨rfl, f0, h0, by omega⟩, rfl, fun t => ?_⟩
      rw [hunf t]
      simp only [ht, hp1', true_and, false_and, false_or, ESem, Bool.false_eq_true]
      constructor
      · rintro ⟨_, k, hk, h⟩; exact ⟨k, hk, f0, h0, h⟩
      · rintro ⟨k, hk, f, hf, h⟩
        rw [h0] at hf; cases hf
        exact ⟨by omega, k, hk, h⟩
  · have ht' : testNode (Fof f0.tests p) c.node ns = false := by simpa using ht
    rw [hft, ht']
    simp only [Bool.not_false, if_true]
    refine ⟨[], false, rfl, rfl, fun t => ?_⟩
    rw [hunf t]
    simp [ht', ESem]

/-- **one event**: the matcher's step from a valid entry `E` gives a valid entry for the children,
    and `E` designates: this node iff a match is reported, plus whatever the new entry
    designates below the children.  `E` is the entry the call starts from (`pStart`): the top of the
    stack or, on the first event, the entry the matcher behaves as if it held. -/
theorem visit (hok : FragsOk frags) (ig : Bool) (st : PState) (E : PEntry) (hst : pStart frags ig st = some (E.fp, E.ic))
    (rw : List Event) (hE : EOk ns frags E rw) (c : LNode) (hcl : c.node.clean = true) :
    ∃ (E' : PEntry) (rw' : List Event) (m : Bool), EOk ns frags E' rw' ∧
      pStep (some frags) ig ns st (nodeEvent c.node)
        = ((if (nodeEvent c.node).isStart then E' :: st else st), if m then .bool true else .none) ∧
      ∀ t : LNode, ESem ns xvs frags E rw c t ↔
        ((m = true ∧ (c.loc == t.loc) = true) ∨ ∃ k ∈ childrenOf c, ESem ns xvs frags E' rw' k t) := by
  obtain ⟨he, hm⟩ := nodeEvent_ok c.node hcl
  obtain ⟨fp, ic⟩ := E
  cases fp with
  | none =>
    simp only [EOk] at hE
    subst hE
    exact ⟨⟨none, false⟩, [], false, rfl, pStep_none_entry ns frags ig st _ he hm hst, fun t => by simp [ESem]⟩
  | some fpv =>
    obtain ⟨fid, p⟩ := fpv
    cases ic with
    | false =>
      obtain ⟨rfl, f0, h0, hp⟩ := hE
      obtain ⟨rw', m, o1, o2, o3⟩ := boundOut_sem ns xvs frags hok c hcl f0 h0 p hp
      refine ⟨_, rw', m, o1, ?_, fun t => ?_⟩
      · rw [pStep_bound ns frags ig st f0 h0 p hp _ he hm hst, o2]
      · rw [← o3 t]
        simp only [ESem, h0, Option.some.injEq, exists_eq_left']
    | true =>
      obtain ⟨frag, hfrag, h1, hmax⟩ := hE
      obtain ⟨rw', m, o1, o2, o3⟩ := icOut_sem ns xvs frags hok c hcl fid p rw frag hfrag h1 hmax
      refine ⟨_, rw', m, o1, ?_, fun t => ?_⟩
      · rw [pStep_ic ns frags ig st fid p _ he hm hst, o2]
      · rw [← o3 t]
        simp only [ESem, hfrag, Option.some.injEq, exists_eq_left']

/-- the whole element tree, once the first event is dealt with -/
theorem rootRun (hok : FragsOk frags) (ig : Bool) (tag : QName) (attrs : AttrList) (kids : List Node)
    (hcl : cleanList kids = true)
    (E' : PEntry) (rw' : List Event) (m : Bool) (hE' : EOk ns frags E' rw')
    (hroot : pStep (some frags) ig ns [] (.start tag attrs) = ([E'], if m then .bool true else .none)) :
    okVals (runOne (pStep (some frags) ig ns) [] (Node.elem tag attrs kids).flatten).1
        (eventLocs (.elem tag attrs kids) []) ∧
    ∀ t : LNode, selB (runOne (pStep (some frags) ig ns) [] (Node.elem tag attrs kids).flatten).1
        (eventLocs (.elem tag attrs kids) []) t.loc = true ↔
      ((m = true ∧ (([] : List Nat) == t.loc) = true) ∨ ∃ k ∈ kidsAt kids [] 0, ESem ns xvs frags E' rw' k t) := by
  have hk := stackTreeList (pStep (some frags) ig ns) (EOk ns frags) (ESem ns xvs frags)
    (fun st tg => pStep_end ns frags ig st tg)
    (fun E x hE c hc rest => visit ns xvs frags hok ig (E :: rest) E rfl x hE c hc) kids hcl [] 0 E' rw' [] hE'
  simp only [Node.flatten, eventLocs, runOne_cons, runOne_append]
  rw [hroot]
  simp only []
  rw [hk.1]
  refine ⟨?_, fun t => ?_⟩
  · simp only [okVals]
    refine ⟨by cases m <;> simp, ?_⟩
    rw [okVals_append _ _ _ _ (by rw [runOne_length, eventLocsList_length])]
    exact ⟨hk.2.1, by simp [runOne, pStep_end, okVals]⟩
  · rw [selB_cons, selB_append _ _ _ _ (by rw [runOne_length, eventLocsList_length])]
    simp only [Bool.or_eq_true, Bool.and_eq_true, hk.2.2 t, selB_none, Bool.false_eq_true, or_false]
    cases m <;> simp [Val.truthy]

/-- the whole element tree when the first call starts from an entry (`pStart`): the marked nodes are
    those that entry designates at the root -/
theorem rootEntry (hok : FragsOk frags) (ig : Bool) (E0 : PEntry) (hst : pStart frags ig [] = some (E0.fp, E0.ic))
    (hE : EOk ns frags E0 []) (tag : QName) (attrs : AttrList) (kids : List Node) (hcl : cleanList kids = true) :
    okVals (runOne (pStep (some frags) ig ns) [] (Node.elem tag attrs kids).flatten).1
        (eventLocs (.elem tag attrs kids) []) ∧
    ∀ t : LNode, selB (runOne (pStep (some frags) ig ns) [] (Node.elem tag attrs kids).flatten).1
        (eventLocs (.elem tag attrs kids) []) t.loc = true ↔ ESem ns xvs frags E0 [] ⟨[], .elem tag attrs kids⟩ t := by
  obtain ⟨E', rw', m, hE', hs, hsem⟩ := visit ns xvs frags hok ig [] E0 hst [] hE ⟨[], .elem tag attrs kids⟩
    (by simpa [Node.clean] using hcl)
  obtain ⟨r1, r2⟩ := rootRun ns xvs frags hok ig tag attrs kids hcl E' rw' m hE' hs
  exact ⟨r1, fun t => by rw [r2 t, hsem t]; rfl⟩

/-- the steps of the first fragment: nothing (the path starts with `descendant::` /
    `descendant-or-self::`), `self::t1/child::t2…`, or `child::t1/child::t2…` -/
def headPath (f0 : Frag) : LocPath :=
  if f0.selfBeginning then fragPath .self f0.tests else childChain f0.tests

/-- the location path with these fragments -/
def normPath : List Frag → LocPath
  | [] => []
  | f0 :: fs => headPath f0 ++ tailPath fs

theorem skipEmpty_val (hok : FragsOk frags) (f0 : Frag) (h0 : frags[0]? = some f0) :
    skipEmpty frags (frags.length + 1) 0 = if f0.tests = [] then 1 else 0 := by
  by_cases hemp : f0.tests = []
  · obtain ⟨f0', h0', hh⟩ := hok.head
    rw [h0] at h0'; cases h0'
    obtain ⟨_, h2⟩ := hh hemp
    obtain ⟨f1, hf1⟩ : ∃ f1, frags[1]? = some f1 := ⟨frags[1], List.getElem?_eq_getElem (by omega)⟩
    have hne1 := hok.tail 0 f1 hf1
    obtain ⟨n, hn⟩ : ∃ n, frags.length = n + 1 := ⟨frags.length - 1, by omega⟩
    have hi1 : f1.tests.isEmpty = false := by rw [List.isEmpty_eq_false_iff]; exact hne1
    simp only [hn, skipEmpty, h0, hemp, List.isEmpty_nil, if_true, hf1, hi1, Bool.false_eq_true, if_false, Nat.zero_add]
  · have hi : f0.tests.isEmpty = false := by rw [List.isEmpty_eq_false_iff]; exact hemp
    simp [skipEmpty, h0, hemp, hi]

/-- **SimplePathStrategy designates the XPath node set.**  For every fragment list as
    `SimplePathStrategy.__init__` builds it (any number of fragments), relative mode and every
    element tree: the matcher reports `None` / `True`, and `True` exactly at the nodes the
    reference semantics reaches from the root through the path the fragments stand for. -/
theorem simple_marks (hok : FragsOk frags) (tag : QName) (attrs : AttrList) (kids : List Node)
    (hcl : cleanList kids = true) :
    okVals (runOne (pStep (some frags) false ns) [] (Node.elem tag attrs kids).flatten).1
        (eventLocs (.elem tag attrs kids) []) ∧
    ∀ t : LNode, selB (runOne (pStep (some frags) false ns) [] (Node.elem tag attrs kids).flatten).1
        (eventLocs (.elem tag attrs kids) []) t.loc = true ↔
      reach ns xvs (normPath frags) ⟨[], .elem tag attrs kids⟩ t = true := by
  obtain ⟨f0, h0, hhead⟩ := hok.head
  have hsk := skipEmpty_val frags hok f0 h0
  have hkids : childrenOf ⟨[], .elem tag attrs kids⟩ = kidsAt kids [] 0 := rfl
  have hnorm : normPath frags = headPath f0 ++ restPath frags 1 := by
    cases frags with
    | nil => simp at h0
    | cons a fs => simp at h0; subst h0; rfl
  rw [hnorm]
  by_cases hemp : f0.tests = []
  · obtain ⟨hsb0, h2⟩ := hhead hemp
    rw [if_pos hemp] at hsk
    obtain ⟨f1, hf1⟩ : ∃ f1, frags[1]? = some f1 := ⟨frags[1], List.getElem?_eq_getElem (by omega)⟩
    have hne1 := hok.tail 0 f1 hf1
    have henter := fun t => (restPath_enter ns xvs frags hok 1 Nat.one_pos f1 hf1 ⟨[], .elem tag attrs kids⟩ t).1
    have hhp : headPath f0 = [] := by simp [headPath, hsb0, hemp, childChain]
    rw [hhp, List.nil_append]
    by_cases hsb : f1.selfBeginning = true
    · obtain ⟨r1, r2⟩ := rootEntry ns xvs frags hok false ⟨some (1, 0), true⟩ (by simp [pStart, hsk, hf1, hsb])
        ⟨f1, hf1, hne1, isMax_nil ns f1.tests⟩ tag attrs kids hcl
      refine ⟨r1, fun t => ?_⟩
      rw [r2 t, henter t, if_pos hsb]
      simp only [ESem, hf1, Option.some.injEq, exists_eq_left']
    · have hsb' : f1.selfBeginning = false := by simpa using hsb
      have hroot := pStep_skip_root ns frags false (.start tag attrs) rfl rfl (by simp [pStart, hsk, hf1, hsb'])
      rw [hsk] at hroot
      obtain ⟨r1, r2⟩ := rootRun ns xvs frags hok false tag attrs kids hcl ⟨some (1, 0), true⟩ [] false
        ⟨f1, hf1, hne1, isMax_nil ns f1.tests⟩ hroot
      refine ⟨r1, fun t => ?_⟩
      rw [r2 t, henter t, if_neg hsb, hkids]
      simp only [ESem, hf1, Option.some.injEq, exists_eq_left', Bool.false_eq_true, false_and, false_or]
  · rw [if_neg hemp] at hsk
    have hpos : 0 < f0.tests.length := List.length_pos_iff.mpr hemp
    obtain ⟨g, G, hgG⟩ := List.exists_cons_of_ne_nil hemp
    by_cases hsb0 : f0.selfBeginning = true
    · obtain ⟨r1, r2⟩ := rootEntry ns xvs frags hok false ⟨some (0, 0), false⟩ (by simp [pStart, hsk, h0, hsb0])
        ⟨rfl, f0, h0, hpos⟩ tag attrs kids hcl
      refine ⟨r1, fun t => ?_⟩
      rw [r2 t]
      simp only [ESem, h0, Option.some.injEq, exists_eq_left', headPath, hsb0, if_true, List.drop_zero]
    · have hsb0' : f0.selfBeginning = false := by simpa using hsb0
      have hroot := pStep_skip_root ns frags false (.start tag attrs) rfl rfl (by simp [pStart, hsk, h0, hsb0'])
      rw [hsk] at hroot
      obtain ⟨r1, r2⟩ := rootRun ns xvs frags hok false tag attrs kids hcl ⟨some (0, 0), false⟩ [] false
        ⟨rfl, f0, h0, hpos⟩ hroot
      refine ⟨r1, fun t => ?_⟩
      rw [r2 t]
      simp only [headPath, hsb0', Bool.false_eq_true, if_false, hgG, false_and, false_or, ESem]
      rw [reach_chain_cons, hkids]
      simp only [List.any_eq_true, h0, Option.some.injEq, exists_eq_left', hgG, List.drop_zero]

/-- the path a fragment list matches as a PATTERN: its first step taken on the
    descendant-or-self axis from the root -/
def patPath : List Frag → LocPath
  | [] => []
  | f0 :: fs =>
      if f0.tests = [] then
        (match fs with
         | [] => []
         | f1 :: fs' => fragPath .descendantOrSelf f1.tests ++ tailPath fs')
      else fragPath .descendantOrSelf f0.tests ++ tailPath fs

/-- the fragment a run starts in — the first non-empty one — and the pattern path from there -/
theorem firstFrag (hok : FragsOk frags) :
    ∃ fid fr, skipEmpty frags (frags.length + 1) 0 = fid ∧ frags[fid]? = some fr ∧ fr.tests ≠ [] ∧
      patPath frags = fragPath .descendantOrSelf fr.tests ++ restPath frags (fid + 1) := by
  obtain ⟨f0, fs, rfl, hhead⟩ := hok.cons_eq
  have hsk := skipEmpty_val _ hok f0 rfl
  by_cases hemp : f0.tests = []
  · obtain ⟨_, h2⟩ := hhead hemp
    cases fs with
    | nil => simp at h2
    | cons f1 fs' =>
      exact ⟨1, f1, by rw [hsk, if_pos hemp], rfl, hok.tail 0 f1 rfl, by simp [patPath, hemp, restPath]⟩
  · exact ⟨0, f0, by rw [hsk, if_neg hemp], rfl, hemp, by simp [patPath, hemp, restPath]⟩

/-- **SimplePathStrategy as a pattern** (`ignore_context = True`, match templates): `True`
    exactly at the nodes `descendant-or-self::first/rest` selects from the root -/
theorem simple_marks_pattern (hok : FragsOk frags) (tag : QName) (attrs : AttrList) (kids : List Node)
    (hcl : cleanList kids = true) :
    okVals (runOne (pStep (some frags) true ns) [] (Node.elem tag attrs kids).flatten).1
        (eventLocs (.elem tag attrs kids) []) ∧
    ∀ t : LNode, selB (runOne (pStep (some frags) true ns) [] (Node.elem tag attrs kids).flatten).1
        (eventLocs (.elem tag attrs kids) []) t.loc = true ↔
      reach ns xvs (patPath frags) ⟨[], .elem tag attrs kids⟩ t = true := by
  obtain ⟨fid, fr, hsk, hfr, hne, hpat⟩ := firstFrag frags hok
  obtain ⟨r1, r2⟩ := rootEntry ns xvs frags hok true ⟨some (fid, 0), true⟩ (by simp [pStart, hsk])
    ⟨fr, hfr, hne, isMax_nil ns fr.tests⟩ tag attrs kids hcl
  refine ⟨r1, fun t => ?_⟩
  rw [r2 t, hpat]
  simp only [ESem, hfr, Option.some.injEq, exists_eq_left', semIc_nil]

/-- in pattern mode only a bare `.` in front is dropped -/
theorem stripDot_id (s0 : Step) (rest : LocPath) (h : ¬(s0.axis = .self ∧ s0.preds = [] ∧ s0.test = .node)) :
    stripDot (s0 :: rest) = s0 :: rest := by
  cases rest with
  | nil => rfl
  | cons x xs =>
    rw [stripDot, if_neg]
    simpa [and_assoc] using h

end

/-- the fragments after the first: non-empty, tables by `calculate_pi`, no attribute -/
def TailOk (fs : List Frag) : Prop :=
  ∀ f ∈ fs, f.tests ≠ [] ∧ f.pi = calculatePi f.tests ∧ f.attr = none

theorem fragLoop_tail : ∀ (fs : List Frag), TailOk fs → ∀ (frs : List Frag) (acc : List NodeTest) (sb : Bool),
    fragLoop (tailPath fs) frs acc sb = some (frs ++ ⟨acc, calculatePi acc, none, sb⟩ :: fs)
  | [], _, frs, acc, sb => by simp [tailPath, fragLoop]
  | f :: fs, hok, frs, acc, sb => by
      obtain ⟨hne, hpi, hattr⟩ := hok f List.mem_cons_self
      obtain ⟨g, G, hgG⟩ := List.exists_cons_of_ne_nil hne
      have ih := fragLoop_tail fs (fun f' hf' => hok f' (List.mem_cons_of_mem _ hf'))
      have hf : f = ⟨g :: G, calculatePi (g :: G), none, f.selfBeginning⟩ := by
        cases f; simp_all
      simp only [tailPath, fragSteps, hgG, fragPath, List.cons_append]
      by_cases hsb : f.selfBeginning = true
      · simp only [hsb, if_true, fragLoop]
        rw [fragLoop_chain_app, ih]
        rw [hf]; simp [hsb]
      · have hsb' : f.selfBeginning = false := by simpa using hsb
        simp only [hsb', Bool.false_eq_true, if_false, fragLoop]
        rw [fragLoop_chain_app, ih]
        rw [hf]; simp [hsb']

theorem tailOk_of_fragsOk (f0 : Frag) (fs : List Frag) (hok : FragsOk (f0 :: fs)) : TailOk fs := by
  intro f hf
  obtain ⟨i, hi⟩ := List.getElem?_of_mem hf
  exact ⟨hok.tail i f (by simpa using hi), hok.pi f (List.mem_cons_of_mem _ hf), hok.attr f (List.mem_cons_of_mem _ hf)⟩

/-- `__init__` gives back the fragment list the path was built from -/
theorem fragments_normPath (frags : List Frag) (hok : FragsOk frags) : fragments (normPath frags) = some frags := by
  obtain ⟨a, fs, rfl, hhead⟩ := hok.cons_eq
  have htail := tailOk_of_fragsOk a fs hok
  have hpi := hok.pi a List.mem_cons_self
  have hattr := hok.attr a List.mem_cons_self
  simp only [fragments, normPath, headPath]
  by_cases hsb : a.selfBeginning = true
  · simp only [hsb, if_true]
    cases hts : a.tests with
    | nil => have := (hhead hts).1; rw [hsb] at this; cases this
    | cons g G =>
      simp only [fragPath, List.cons_append, fragLoop, List.getLast?_nil]
      rw [fragLoop_chain_app, fragLoop_tail fs htail]
      cases a; simp_all
  · have hsb' : a.selfBeginning = false := by simpa using hsb
    simp only [hsb', Bool.false_eq_true, if_false]
    rw [fragLoop_chain_app, fragLoop_tail fs htail]
    cases a; simp_all

theorem normPath_ne (frags : List Frag) (hok : FragsOk frags) : 0 < (normPath frags).length := by
  refine List.length_pos_iff.mpr fun h => ?_
  have hf := fragments_normPath frags hok
  rw [h] at hf
  obtain ⟨f0, h0, hh⟩ := hok.head
  cases hf
  cases h0
  exact absurd (hh rfl).2 (by decide)

/-- a step SimplePathStrategy supports, other than a final attribute step -/
def SStep (s : Step) : Prop := s.preds = [] ∧ simpleT s.test = true ∧ s.axis ≠ .attribute

theorem stepsOk_of_sstep (ns : NsMap) (vs : Vars) (p : LocPath) (hp : ∀ s ∈ p, SStep s) (hne : p ≠ []) :
    StepsOk ns vs p := by
  refine ⟨List.length_pos_iff.mpr hne, fun s hs => (hp s hs).2.2, ?_, ?_, ?_⟩
  · intro s hs
    rcases simpleT_cases s.test (hp s hs).2.1 with ⟨n, h⟩ | h | h <;> rw [h] <;> simp [NodeTest.elemWf]
  · intro s hs q hq
    rw [(hp s hs).1] at hq; simp at hq
  · intro s hs q hq
    rw [(hp s hs).1] at hq; simp at hq

theorem simpleSupports_of_sstep (p : LocPath) (hp : ∀ s ∈ p, SStep s) (hne : p ≠ []) : simpleSupports p = true := by
  obtain ⟨s0, rest, rfl⟩ := List.exists_cons_of_ne_nil hne
  simp only [simpleSupports, Bool.and_eq_true, List.all_eq_true, bne_iff_ne, ne_eq]
  refine ⟨⟨(hp s0 List.mem_cons_self).2.2, fun s hs => ?_⟩, fun s hs => (hp s (List.dropLast_subset _ hs)).2.2⟩
  obtain ⟨h2, h3, _⟩ := hp s hs
  rcases simpleT_cases s.test h3 with ⟨n, h⟩ | h | h <;> simp [h2, h]

/-- the parser's typing of name tests holds of supported steps: none is built for the attribute axis -/
theorem attrFlag_of_sstep (p : LocPath) (hp : ∀ s ∈ p, SStep s) :
    ∀ s ∈ p, s.axis ≠ .attribute → s.test.attrFlag = false := by
  intro s hs _
  rcases simpleT_cases s.test (hp s hs).2.1 with ⟨n, h⟩ | h | h <;> rw [h] <;> rfl

/-- on a clean tree a supported step (or GenericStrategy's `self::*`) is hit by a node's event exactly
    when its test holds of the node -/
theorem hitOk_sstep (ns : NsMap) (vs : Vars) (S : List Step) (hS : ∀ s ∈ S, SStep s ∨ s = dotSlash) (n : Node)
    (hn : n.clean = true) : HitOk ns vs S n := by
  intro s hs loc
  rcases hS s hs with ⟨hp, ht, _⟩ | rfl
  · simp only [hitE, hitR, hp, List.all_nil, Bool.and_true, simple_matches ns _ ht n hn]
  · cases n with
    | elem tg ats ks => rfl
    | leaf e =>
      simp only [Node.clean, Bool.and_eq_true, Bool.not_eq_true'] at hn
      cases e <;> first | rfl | cases hn.1

theorem sstep_fragPath (ax : Axis) (hax : ax ≠ .attribute) (ts : List NodeTest) (h : ∀ t ∈ ts, simpleT t = true) :
    ∀ s ∈ fragPath ax ts, SStep s := by
  intro s hs
  cases ts with
  | nil => cases hs
  | cons t0 ts =>
    simp only [fragPath, childChain, List.mem_cons, List.mem_map] at hs
    rcases hs with rfl | ⟨t, ht, rfl⟩
    · exact ⟨rfl, h _ List.mem_cons_self, hax⟩
    · exact ⟨rfl, h _ (List.mem_cons_of_mem _ ht), by simp⟩

theorem sstep_tailPath : ∀ (fs : List Frag), (∀ f ∈ fs, ∀ t ∈ f.tests, simpleT t = true) → ∀ s ∈ tailPath fs, SStep s
  | [], _, s, hs => nomatch hs
  | f :: fs, h, s, hs => by
      rcases List.mem_append.mp hs with h1 | h1
      · exact sstep_fragPath _ (by unfold fragSteps at h1; split <;> simp) _ (h f List.mem_cons_self) s h1
      · exact sstep_tailPath fs (fun f' hf' => h f' (List.mem_cons_of_mem _ hf')) s h1

theorem sstep_normPath (frags : List Frag) (hok : FragsOk frags) : ∀ s ∈ normPath frags, SStep s := by
  obtain ⟨f0, fs, rfl, _⟩ := hok.cons_eq
  intro s hs
  rcases List.mem_append.mp hs with h1 | h1
  · unfold headPath at h1
    split at h1
    · exact sstep_fragPath _ (by simp) _ (hok.simple f0 List.mem_cons_self) s h1
    · obtain ⟨t, ht, rfl⟩ := List.mem_map.mp h1
      exact ⟨rfl, hok.simple f0 List.mem_cons_self t ht, by simp⟩
  · exact sstep_tailPath fs (fun f hf => hok.simple f (List.mem_cons_of_mem _ hf)) s h1

theorem stepsOk_normPath (ns : NsMap) (vs : Vars) (frags : List Frag) (hok : FragsOk frags) :
    StepsOk ns vs (normPath frags) :=
  stepsOk_of_sstep ns vs _ (sstep_normPath frags hok) (List.length_pos_iff.mp (normPath_ne frags hok))

/-- a supported first step is never `self::node()`, so nothing is stripped in pattern mode -/
theorem gSteps_cons_pattern (s0 : Step) (h0 : SStep s0) (q : LocPath) : gSteps (s0 :: q) true = patOf (s0 :: q) :=
  gSteps_patOf s0 q h0.2.2 (stripDot_id s0 q fun h => by have := h0.2.1; rw [h.2.2] at this; cases this)

theorem gSteps_sstep_pattern (p : LocPath) (hp : ∀ s ∈ p, SStep s) : gSteps p true = patOf p := by
  cases p with
  | nil => rfl
  | cons s0 q => exact gSteps_cons_pattern s0 (hp s0 List.mem_cons_self) q

theorem sstep_patOf (p : LocPath) (hp : ∀ s ∈ p, SStep s) : ∀ s ∈ patOf p, SStep s := by
  cases p with
  | nil => intro s hs; simp [patOf] at hs
  | cons s0 q =>
    intro s hs
    simp only [patOf, List.mem_cons] at hs
    rcases hs with rfl | hs
    · obtain ⟨h1, h2, _⟩ := hp s0 List.mem_cons_self
      exact ⟨h1, h2, by simp⟩
    · exact hp s (List.mem_cons_of_mem _ hs)

/-- the pattern path of a fragment list is the pattern reading of its path -/
theorem patPath_eq (frags : List Frag) (hok : FragsOk frags) : patPath frags = patOf (normPath frags) := by
  obtain ⟨f0, fs, rfl, hhead⟩ := hok.cons_eq
  by_cases hemp : f0.tests = []
  · obtain ⟨hsb0, h2⟩ := hhead hemp
    cases fs with
    | nil => simp at h2
    | cons f1 fs' =>
      obtain ⟨g, G, hgG⟩ := List.exists_cons_of_ne_nil (hok.tail 0 f1 rfl)
      simp [patPath, normPath, headPath, hemp, hsb0, childChain, tailPath, fragSteps, hgG, fragPath, patOf]
  · obtain ⟨g, G, hgG⟩ := List.exists_cons_of_ne_nil hemp
    cases hsb : f0.selfBeginning <;>
      simp [patPath, normPath, headPath, hgG, hsb, fragPath, childChain, patOf]

variable (frags : List Frag) in
theorem gSteps_pattern (hok : FragsOk frags) : gSteps (normPath frags) true = patPath frags := by
  rw [patPath_eq frags hok, gSteps_sstep_pattern _ (sstep_normPath frags hok)]

theorem sstep_patPath (frags : List Frag) (hok : FragsOk frags) : ∀ s ∈ patPath frags, SStep s := by
  rw [patPath_eq frags hok]
  exact sstep_patOf _ (sstep_normPath frags hok)

theorem patPath_head (frags : List Frag) (hok : FragsOk frags) :
    ∃ g r, patPath frags = ⟨.descendantOrSelf, g, []⟩ :: r := by
  rw [patPath_eq frags hok]
  obtain ⟨s, q, h⟩ := List.exists_cons_of_ne_nil (List.length_pos_iff.mp (normPath_ne frags hok))
  have := (sstep_normPath frags hok s (by rw [h]; exact List.mem_cons_self)).1
  rw [h]
  exact ⟨s.test, q, by simp [patOf, this]⟩

theorem stepsOk_patPath (ns : NsMap) (vs : Vars) (frags : List Frag) (hok : FragsOk frags) :
    StepsOk ns vs (patPath frags) := by
  obtain ⟨g, r, hgr⟩ := patPath_head frags hok
  exact stepsOk_of_sstep ns vs _ (sstep_patPath frags hok) (by rw [hgr]; exact List.cons_ne_nil _ _)

/-- `FragsOk` as a computation -/
def fragsOkB (frags : List Frag) : Bool :=
  frags.all (fun f => f.pi == calculatePi f.tests && f.attr.isNone && f.tests.all simpleT) &&
  (frags.drop 1).all (fun f => !f.tests.isEmpty) &&
  (match frags with
   | [] => false
   | f0 :: fs => !f0.tests.isEmpty || (!f0.selfBeginning && !fs.isEmpty))

theorem fragsOk_of_B (frags : List Frag) (h : fragsOkB frags = true) : FragsOk frags := by
  simp only [fragsOkB, Bool.and_eq_true, List.all_eq_true] at h
  obtain ⟨⟨h1, h2⟩, h3⟩ := h
  refine ⟨?_, ?_, ?_, ?_, ?_⟩
  · intro f hf; obtain ⟨⟨a, _⟩, _⟩ := h1 f hf; simpa using a
  · intro f hf; obtain ⟨⟨_, b⟩, _⟩ := h1 f hf; simpa using b
  · intro f hf t ht; obtain ⟨_, c⟩ := h1 f hf
    first | exact c t ht | (simp only [List.all_eq_true] at c; exact c t ht)
  · intro i f hf
    have hmem : f ∈ frags.drop 1 := by
      have : (frags.drop 1)[i]? = some f := by rw [List.getElem?_drop]; simpa [Nat.add_comm] using hf
      exact List.mem_of_getElem? this
    have := h2 f hmem
    intro he; simp [he] at this
  · cases frags with
    | nil => simp at h3
    | cons f0 fs =>
      refine ⟨f0, rfl, fun he => ?_⟩
      simp [he] at h3
      exact ⟨h3.1, by cases fs <;> simp_all⟩

/-- `Path.__init__` hands the path of a fragment list with two or more steps to
    SimplePathStrategy -/
theorem chooses_simple (frags : List Frag) (hok : FragsOk frags) (h2 : 2 ≤ (normPath frags).length) :
    chooseStrategy (normPath frags) = some .simple :=
  chooses_simple_of_supports _
    (simpleSupports_of_sstep _ (sstep_normPath frags hok) (List.length_pos_iff.mp (normPath_ne frags hok))) h2

theorem fragPathM_eq (ax : Axis) (ts : List NodeTest) : FragsM.fragPathM ax ts = fragPath ax ts := by
  cases ts <;> rfl

theorem tailPathM_eq : ∀ fs : List Frag, FragsM.tailPathM fs = tailPath fs
  | [] => rfl
  | f :: fs => by simp only [FragsM.tailPathM, tailPath, fragSteps, fragPathM_eq, tailPathM_eq fs]

theorem normPathM_eq (frags : List Frag) : FragsM.normPathM frags = normPath frags := by
  cases frags with
  | nil => rfl
  | cons f0 fs =>
    simp only [FragsM.normPathM, normPath, headPath, fragPathM_eq, tailPathM_eq]
    rfl

theorem simpleTM_eq : FragsM.simpleTM = simpleT := by
  funext t; cases t <;> rfl

theorem fragsOkM_eq (frags : List Frag) : FragsM.fragsOkM frags = fragsOkB frags := by
  simp only [FragsM.fragsOkM, fragsOkB, simpleTM_eq]
  cases frags <;> rfl

/-- a path the driver reports as in scope (`C17 inscope` answers `(T T)`) satisfies the
    hypotheses of the fragment theorems -/
theorem inScope_sound (p : LocPath) (h : FragsM.inScope p = some (true, true)) :
    ∃ frags, fragments p = some frags ∧ FragsOk frags ∧ normPath frags = p := by
  unfold FragsM.inScope at h
  cases hf : fragments p with
  | none => simp [hf] at h
  | some frags =>
    simp only [hf, Option.some.injEq, Prod.mk.injEq, decide_eq_true_eq] at h
    exact ⟨frags, rfl, fragsOk_of_B frags (by rw [← fragsOkM_eq]; exact h.1), by rw [← normPathM_eq]; exact h.2⟩

end Genshi.Path.Frags
