/-
  SimplePathStrategy on `q/@a` for every supported spelling `q`: `__init__` builds the fragment
  list of `q` with the attribute test stored in the last fragment (`fragLoop_snoc_attr`), and
  the matcher runs exactly as on `q`, reporting the (non-empty) value of the attribute test
  where it reports `True` on `q` (`simple_attr_trace`) — whatever the number of fragments,
  KMP fragments included, in both modes.  GenericStrategy's run on `q/@a` is its run on `q` gated
  the same way (`generic_attr_gate`), so the two agree on `q/@a` as they do on `q`
  (`simple_eq_generic_attr_run`).
-/
import Genshi.Lemmas.PathFragsSelf
import Genshi.Lemmas.PathAttr
import Genshi.Lemmas.PathSimpleAttr
namespace Genshi.Path.Frags
open Genshi Genshi.Path Genshi.Path.Ref Genshi.Path.Kmp

/-- the fragment list of `q/@a` from that of `q`: the test goes into the last fragment -/
def setAttr (a : NodeTest) : List Frag → List Frag
  | [] => []
  | [f] => [{ f with attr := some a }]
  | f :: g :: fs => f :: setAttr a (g :: fs)

/-- the fragment at an index of `setAttr a frags`, by whether the index is the last (`setAttr_get`) -/
def withAttr (a : NodeTest) (last : Bool) (f : Frag) : Frag := if last then { f with attr := some a } else f

@[simp] theorem withAttr_tests (a : NodeTest) (b : Bool) (f : Frag) : (withAttr a b f).tests = f.tests := by
  cases b <;> rfl
@[simp] theorem withAttr_pi (a : NodeTest) (b : Bool) (f : Frag) : (withAttr a b f).pi = f.pi := by
  cases b <;> rfl
@[simp] theorem withAttr_sb (a : NodeTest) (b : Bool) (f : Frag) :
    (withAttr a b f).selfBeginning = f.selfBeginning := by
  cases b <;> rfl
theorem withAttr_attr (a : NodeTest) (b : Bool) (f : Frag) :
    (withAttr a b f).attr = if b then some a else f.attr := by
  cases b <;> rfl

@[simp] theorem setAttr_length (a : NodeTest) : ∀ frags : List Frag, (setAttr a frags).length = frags.length
  | [] => rfl
  | [_] => rfl
  | f :: g :: fs => by simp [setAttr, setAttr_length a (g :: fs)]

theorem setAttr_get (a : NodeTest) : ∀ (frags : List Frag) (i : Nat),
    (setAttr a frags)[i]? = (frags[i]?).map (withAttr a (i + 1 == frags.length))
  | [], i => by simp [setAttr]
  | [f], 0 => by simp [setAttr, withAttr]
  | [f], i + 1 => by simp [setAttr]
  | f :: g :: fs, 0 => by simp [setAttr, withAttr]
  | f :: g :: fs, i + 1 => by
      have := setAttr_get a (g :: fs) i
      simp only [setAttr, List.getElem?_cons_succ, List.length_cons] at this ⊢
      rw [this]
      congr 2
      simp

theorem setAttr_snoc (a : NodeTest) (f : Frag) : ∀ frs : List Frag,
    setAttr a (frs ++ [f]) = frs ++ [{ f with attr := some a }]
  | [] => rfl
  | [g] => by simp [setAttr]
  | g :: h :: frs => by
      have := setAttr_snoc a f (h :: frs)
      simp only [List.cons_append] at this ⊢
      simp only [setAttr, this]

section
variable (ns : NsMap)

theorem fragTest_withAttr (a : NodeTest) (b : Bool) (f : Frag) (p : Nat) (e : Event) :
    fragTest (withAttr a b f) p e ns = fragTest f p e ns := by
  simp [fragTest]

theorem kmpBack_withAttr (a : NodeTest) (b : Bool) (f : Frag) (e : Event) : ∀ (fuel p : Nat),
    kmpBack (withAttr a b f) e ns fuel p = kmpBack f e ns fuel p := by
  intro fuel
  induction fuel with
  | zero => intro p; rfl
  | succ fuel ih => intro p; simp only [kmpBack, ih, fragTest_withAttr, withAttr_tests, withAttr_pi]

theorem kmpStep_withAttr (a : NodeTest) (b : Bool) (f : Frag) (p : Nat) (e : Event) :
    kmpStep ns (withAttr a b f) p e = kmpStep ns f p e := by
  simp only [kmpStep, kmpBack_withAttr, fragTest_withAttr]

theorem skipEmpty_setAttr (a : NodeTest) (frags : List Frag) : ∀ (fuel fid : Nat),
    skipEmpty (setAttr a frags) fuel fid = skipEmpty frags fuel fid := by
  intro fuel
  induction fuel with
  | zero => intro fid; rfl
  | succ fuel ih =>
    intro fid
    simp only [skipEmpty, setAttr_get]
    cases frags[fid]? with
    | none => rfl
    | some f => simp only [Option.map_some, withAttr_tests, ih]

/-- **the context-ignoring loop does not look at the attribute test**: same fragment, same
    position, and where a match is reported the attribute returned is that of the path.  As in `icLoop_spec`, `L` is
    the length of the fragment just completed: after a hand-over `p' = 0 ≠ L`, no match, and nothing is asked of `x` -/
theorem icLoop_setAttr (a : NodeTest) (frags : List Frag) (hok : FragsOk frags) (e : Event) :
    ∀ (fuel fid p : Nat) (frag : Frag), frags[fid]? = some frag → frag.tests ≠ [] → frags.length - fid < fuel →
      ∃ (fid' p' L : Nat) (x : Option NodeTest) (frag' : Frag),
        icLoop frags e ns fuel fid p = (fid', p', L, none) ∧
        icLoop (setAttr a frags) e ns fuel fid p = (fid', p', L, x) ∧
        ((fid' + 1 == frags.length && p' == L) = true → x = some a) ∧
        frags[fid']? = some frag' ∧ frag'.tests ≠ [] := by
  intro fuel
  induction fuel with
  | zero => intro fid p frag _ _ h; omega
  | succ fuel ih =>
    intro fid p frag hfrag hne hfuel
    have hmem : frag ∈ frags := List.mem_of_getElem? hfrag
    have hflt : fid < frags.length := (List.getElem?_eq_some_iff.mp hfrag).1
    have hn : 0 < frag.tests.length := List.length_pos_iff.mpr hne
    have hfrag' : (setAttr a frags)[fid]? = some (withAttr a (fid + 1 == frags.length) frag) := by
      rw [setAttr_get, hfrag]; rfl
    rw [icLoop_succ ns frags _ fuel fid p frag hfrag, icLoop_succ ns _ _ fuel fid p _ hfrag', hok.attr frag hmem]
    simp only [kmpStep_withAttr, withAttr_tests, setAttr_length, withAttr_attr, hok.attr frag hmem]
    by_cases hp : (kmpStep ns frag p e == frag.tests.length) = true
    · simp only [hp, if_true]
      by_cases hlast : (fid + 1 == frags.length) = true
      · simp only [hlast, if_true]
        exact ⟨fid, _, _, _, frag, rfl, rfl, fun _ => rfl, hfrag, hne⟩
      · simp only [hlast, Bool.false_eq_true, if_false]
        have hlt : fid + 1 < frags.length := by simp at hlast; omega
        obtain ⟨nxt, hnxt⟩ : ∃ nxt, frags[fid + 1]? = some nxt := ⟨frags[fid + 1], List.getElem?_eq_getElem hlt⟩
        have hnne : nxt.tests ≠ [] := hok.tail fid nxt hnxt
        simp only [setAttr_get, hnxt, Option.map_some, withAttr_sb]
        by_cases hsb : nxt.selfBeginning = true
        · simp only [hsb, Bool.not_true, Bool.false_eq_true, if_false]
          exact ih (fid + 1) 0 nxt hnxt hnne (by omega)
        · have hsb' : nxt.selfBeginning = false := by simpa using hsb
          simp only [hsb', Bool.not_false, if_true]
          refine ⟨fid + 1, 0, _, _, nxt, rfl, rfl, fun h => ?_, hnxt, hnne⟩
          have : (0 == frag.tests.length) = false := by simp; omega
          simp [this] at h
    · simp only [hp, Bool.false_eq_true, if_false]
      refine ⟨fid, _, _, _, frag, rfl, rfl, fun h => ?_, hfrag, hne⟩
      simp [hp] at h

/-- the syntactic part of `EOk`: what the stack entries of a run look like -/
def EOkS (frags : List Frag) (E : PEntry) : Prop :=
  match E with
  | ⟨none, ic⟩ => ic = false
  | ⟨some (fid, p), false⟩ => fid = 0 ∧ ∃ f0, frags[0]? = some f0 ∧ p < f0.tests.length
  | ⟨some (fid, _), true⟩ => ∃ frag, frags[fid]? = some frag ∧ frag.tests ≠ []

theorem icOut_setAttr (a : NodeTest) (frags : List Frag) (hok : FragsOk frags) (e : Event) (fid p : Nat)
    (frag : Frag) (hfrag : frags[fid]? = some frag) (hne : frag.tests ≠ []) :
    icOut ns (setAttr a frags) e fid p = ((icOut ns frags e fid p).1, gateS ns a e (icOut ns frags e fid p).2) ∧
    EOkS frags (icOut ns frags e fid p).1 := by
  obtain ⟨fid', p', L, x, frag', e1, e2, e3, e4, e5⟩ :=
    icLoop_setAttr ns a frags hok e (frags.length + 1) fid p frag hfrag hne (by omega)
  simp only [icOut, setAttr_length, e1, e2, icResult]
  refine ⟨?_, frag', e4, e5⟩
  by_cases hc : (fid' + 1 == frags.length && p' == L) = true
  · rw [e3 hc]; simp [hc, gateS]
  · simp [hc, gateS]

theorem boundOut_setAttr (a : NodeTest) (frags : List Frag) (hok : FragsOk frags) (e : Event) (f0 : Frag)
    (h0 : frags[0]? = some f0) (p : Nat) (hp : p < f0.tests.length) :
    boundOut ns (setAttr a frags) e (withAttr a (0 + 1 == frags.length) f0) p
      = ((boundOut ns frags e f0 p).1, gateS ns a e (boundOut ns frags e f0 p).2) ∧
    EOkS frags (boundOut ns frags e f0 p).1 := by
  have hmem : f0 ∈ frags := List.mem_of_getElem? h0
  have hflpos : 0 < frags.length := (List.getElem?_eq_some_iff.mp h0).1
  unfold boundOut
  simp only [fragTest_withAttr, withAttr_tests, setAttr_length, withAttr_attr, hok.attr f0 hmem, setAttr_get]
  by_cases hft : fragTest f0 p e ns = true
  · simp only [hft, Bool.not_true, Bool.false_eq_true, if_false]
    by_cases hp1 : (p + 1 == f0.tests.length) = true
    · simp only [hp1, if_true]
      by_cases hfl : (frags.length == 1) = true
      · have hfl' : (0 + 1 == frags.length) = true := by simp at hfl ⊢; omega
        simp only [hfl, hfl', if_true]
        exact ⟨by simp [gateS], rfl⟩
      · simp only [hfl, Bool.false_eq_true, if_false]
        have hlt : 1 < frags.length := by simp at hfl; omega
        obtain ⟨nxt, hnxt⟩ : ∃ nxt, frags[1]? = some nxt := ⟨frags[1], List.getElem?_eq_getElem hlt⟩
        have hnne : nxt.tests ≠ [] := hok.tail 0 nxt hnxt
        simp only [hnxt, Option.map_some, withAttr_sb, Option.getD_some]
        by_cases hsb : nxt.selfBeginning = true
        · simp only [hsb, Bool.not_true, Bool.false_eq_true, if_false]
          exact icOut_setAttr ns a frags hok e 1 0 nxt hnxt hnne
        · have hsb' : nxt.selfBeginning = false := by simpa using hsb
          simp only [hsb', Bool.not_false, if_true]
          exact ⟨by simp [gateS], nxt, hnxt, hnne⟩
    · simp only [hp1, Bool.false_eq_true, if_false]
      have hp1' : p + 1 ≠ f0.tests.length := by simpa using hp1
      exact ⟨by simp [gateS], rfl, f0, h0, by omega⟩
  · have hft' : fragTest f0 p e ns = false := by simpa using hft
    simp only [hft', Bool.not_false, if_true]
    exact ⟨by simp [gateS], rfl⟩

theorem pStart_setAttr (a : NodeTest) (frags : List Frag) (ig : Bool) (st : PState) :
    pStart (setAttr a frags) ig st = pStart frags ig st := by
  cases st with
  | nil =>
    simp only [pStart, setAttr_length, skipEmpty_setAttr, setAttr_get]
    cases frags[skipEmpty frags (frags.length + 1) 0]? <;> simp
  | cons E rest => rfl

theorem eOkS_first (frags : List Frag) (fid : Nat) (fr : Frag) (hfr : frags[fid]? = some fr) (hne : fr.tests ≠ [])
    (b : Bool) (hb : b = false → fid = 0) : EOkS frags ⟨some (fid, 0), b⟩ := by
  cases b with
  | true => exact ⟨fr, hfr, hne⟩
  | false =>
    cases hb rfl
    exact ⟨rfl, fr, hfr, List.length_pos_iff.mpr hne⟩

theorem pStart_ok (frags : List Frag) (hok : FragsOk frags) (ig : Bool) (st : PState) (hst : ∀ E ∈ st, EOkS frags E)
    (fp : Option (Nat × Nat)) (ic : Bool) (h : pStart frags ig st = some (fp, ic)) : EOkS frags ⟨fp, ic⟩ := by
  cases st with
  | cons E rest => cases h; exact hst E List.mem_cons_self
  | nil =>
    obtain ⟨fid, fr, hfid, hfr, hne, _⟩ := firstFrag frags hok
    simp only [pStart, hfid] at h
    split at h
    · cases h
    · cases h
      exact eOkS_first frags fid fr hfr hne _ (by cases ig <;> simp <;> omega)

/-- **one call of the matcher on `q/@a`** is the call on `q`, with the result gated by the
    attribute test -/
theorem pStep_setAttr (a : NodeTest) (frags : List Frag) (hok : FragsOk frags) (ig : Bool) (st : PState)
    (hst : ∀ E ∈ st, EOkS frags E) (e : Event) :
    pStep (some (setAttr a frags)) ig ns st e
      = ((pStep (some frags) ig ns st e).1, gateS ns a e (pStep (some frags) ig ns st e).2) ∧
    ∀ E ∈ (pStep (some frags) ig ns st e).1, EOkS frags E := by
  by_cases he : e.isEnd = true
  · simp only [pStep, he, if_true, gateS]
    exact ⟨trivial, fun E hE => hst E (List.mem_of_mem_drop hE)⟩
  by_cases hm : e.isNsOrCdata = true
  · simp only [pStep, he, hm, if_true, Bool.false_eq_true, if_false, gateS]
    exact ⟨trivial, hst⟩
  have he' : e.isEnd = false := by simpa using he
  have hm' : e.isNsOrCdata = false := by simpa using hm
  have hpush : ∀ (E' : PEntry), EOkS frags E' → ∀ X ∈ (if e.isStart then E' :: st else st), EOkS frags X := by
    intro E' h1 X hX
    split at hX
    · rcases List.mem_cons.mp hX with h | h
      · rw [h]; exact h1
      · exact hst X h
    · exact hst X hX
  have hsa := pStart_setAttr a frags ig st
  cases hs : pStart frags ig st with
  | none =>
    -- the first event, the first fragment can only begin below the context node
    rw [hs] at hsa
    cases st with
    | cons E rest => cases hs
    | nil =>
      obtain ⟨fid, fr, hfid, hfr, hne, _⟩ := firstFrag frags hok
      rw [pStep_skip_root ns _ ig e he' hm' hsa, pStep_skip_root ns frags ig e he' hm' hs, setAttr_length,
        skipEmpty_setAttr, hfid]
      refine ⟨by simp [gateS], fun X hX => ?_⟩
      rw [List.mem_singleton.mp hX]
      exact eOkS_first frags fid fr hfr hne _ (by cases ig <;> simp <;> omega)
  | some x =>
    obtain ⟨fp, ic⟩ := x
    rw [hs] at hsa
    have hE := pStart_ok frags hok ig st hst fp ic hs
    cases fp with
    | none =>
      simp only [EOkS] at hE
      subst hE
      rw [pStep_none_entry ns _ ig st e he' hm' hsa, pStep_none_entry ns frags ig st e he' hm' hs]
      exact ⟨by simp [gateS], hpush _ rfl⟩
    | some fpv =>
      obtain ⟨fid, p⟩ := fpv
      cases ic with
      | false =>
        obtain ⟨rfl, f0, h0, hp⟩ := hE
        have h0' : (setAttr a frags)[0]? = some (withAttr a (0 + 1 == frags.length) f0) := by
          rw [setAttr_get, h0]; rfl
        rw [pStep_bound ns _ ig st _ h0' p (by simpa using hp) e he' hm' hsa,
          pStep_bound ns frags ig st f0 h0 p hp e he' hm' hs]
        obtain ⟨o1, o2⟩ := boundOut_setAttr ns a frags hok e f0 h0 p hp
        rw [o1]
        exact ⟨rfl, hpush _ o2⟩
      | true =>
        obtain ⟨frag, hfrag, hne⟩ := hE
        rw [pStep_ic ns _ ig st fid p e he' hm' hsa, pStep_ic ns frags ig st fid p e he' hm' hs]
        obtain ⟨o1, o2⟩ := icOut_setAttr ns a frags hok e fid p frag hfrag hne
        rw [o1]
        exact ⟨rfl, hpush _ o2⟩

theorem simple_setAttr_run (a : NodeTest) (frags : List Frag) (hok : FragsOk frags) (ig : Bool) (es : List Event) :
    (runOne (pStep (some (setAttr a frags)) ig ns) [] es).1
      = List.zipWith (gateS ns a) es (runOne (pStep (some frags) ig ns) [] es).1 :=
  runOne_rel _ _ (fun s t => s = t ∧ ∀ E ∈ t, EOkS frags E) (gateS ns a)
    (fun s t e hr => by
      obtain ⟨rfl, hsh⟩ := hr
      obtain ⟨h1, h2⟩ := pStep_setAttr ns a frags hok ig s hsh e
      rw [h1]
      exact ⟨⟨rfl, h2⟩, rfl⟩)
    es [] [] ⟨rfl, fun E hE => by simp at hE⟩

end

theorem fragLoop_snoc_attr (a : Step) (ha : a.axis = .attribute) : ∀ (q : LocPath), (∀ s ∈ q, s.axis ≠ .attribute) →
    ∀ (frs : List Frag) (acc : List NodeTest) (sb : Bool),
      fragLoop (q ++ [a]) frs acc sb = (fragLoop q frs acc sb).map (setAttr a.test)
  | [], _, frs, acc, sb => by
      obtain ⟨ax, t, preds⟩ := a
      simp only at ha
      subst ha
      simp [fragLoop, setAttr_snoc]
  | s :: q, hq, frs, acc, sb => by
      have ih := fragLoop_snoc_attr a ha q (fun s' hs' => hq s' (List.mem_cons_of_mem _ hs'))
      have hs := hq s List.mem_cons_self
      obtain ⟨ax, t, preds⟩ := s
      simp only at hs
      cases ax with
      | «attribute» => exact absurd rfl hs
      | child => simp only [List.cons_append, fragLoop, ih]
      | descendant => simp only [List.cons_append, fragLoop, ih]
      | descendantOrSelf => simp only [List.cons_append, fragLoop, ih]
      | self =>
        simp only [List.cons_append, fragLoop]
        cases acc.getLast? with
        | none => simp only [ih]
        | some last =>
          simp only
          split
          · rfl
          · exact ih _ _ _

theorem fragments_snoc_attr (q : LocPath) (hq : ∀ s ∈ q, SStep s) (a : Step) (ha : a.axis = .attribute) :
    fragments (q ++ [a]) = (fragments q).map (setAttr a.test) :=
  fragLoop_snoc_attr a ha q (fun s hs => (hq s hs).2.2) [] [] false

theorem zipWith_gateS_none (ns : NsMap) (a : NodeTest) : ∀ (es : List Event),
    List.zipWith (gateS ns a) es (List.replicate es.length Val.none) = List.replicate es.length Val.none
  | [] => rfl
  | e :: es => by
      simp only [List.length_cons, List.replicate_succ, List.zipWith_cons_cons, zipWith_gateS_none ns a es]
      rfl

/-- **SimplePathStrategy on `q/@a`**, `q` any supported spelling, both modes: the run on `q`,
    with the value of the attribute test where `q` matches -/
theorem simple_attr_trace (ns : NsMap) (xvs : XVars) (q : LocPath) (hq : ∀ s ∈ q, SStep s) (hne : q ≠ [])
    (a : Step) (ha : a.axis = .attribute) (ig : Bool) (es : List Event) :
    (runOne (pStep (fragments (q ++ [a])) ig ns) [] es).1
      = List.zipWith (gateS ns a.test) es (runOne (pStep (fragments q) ig ns) [] es).1 := by
  rw [fragments_snoc_attr q hq a ha]
  have h := fragments_sem ns xvs q hq hne
  cases hf : fragments q with
  | none =>
    simp only [Option.map_none]
    rw [run_none, zipWith_gateS_none]
  | some out =>
    rw [hf] at h
    simp only [Option.map_some]
    exact simple_setAttr_run ns a.test out h.1 ig es

/-- GenericStrategy on `S/@a`, `S` without position tests: the run on `S`, with the value of the attribute test
    where `S` matches — the twin of `simple_attr_trace` -/
theorem generic_attr_gate (ns : NsMap) (vs : Vars) (S : List Step) (a : Step) (hS : StepsOk ns vs S)
    (ha : a.axis = .attribute) (root : Node) (hcl : root.clean = true) (hhit : AllNodes (HitOk ns vs S) root) :
    (runOne (gStep (S ++ [a]) ns vs) gInit root.flatten).1
      = List.zipWith (gateS ns a.test) root.flatten (runOne (gStep S ns vs) gInit root.flatten).1 := by
  rw [attr_run_hit ns vs S a hS ha root hcl hhit, gateS_fun,
    vals_of_marks _ (runOne (gStep S ns vs) gInit root.flatten).1
      (okVals_run _ (gStep_out _ ns vs (fun e => hS.lastResult ns vs e)) _ [] _) (eventLocs_nodup root [])]
  congr 1
  exact markVals_congr _ _ (fun x => (generic_marks_hit ns vs S hS root hcl hhit ⟨x, root⟩).symm) _

theorem gSteps_snoc_attr_spelling (ic : Bool) (q : LocPath) (hq : ∀ s ∈ q, SStep s) (hne : q ≠ []) (a : Step) :
    gSteps (q ++ [a]) ic = gSteps q ic ++ [a] := by
  cases ic with
  | false => exact gSteps_snoc_attr q hne a
  | true =>
    obtain ⟨s0, q', rfl⟩ := List.exists_cons_of_ne_nil hne
    have h0 := hq s0 List.mem_cons_self
    rw [List.cons_append, gSteps_cons_pattern s0 h0, gSteps_cons_pattern s0 h0]
    rfl

/-- **SimplePathStrategy ≡ GenericStrategy on `q/@a`**, `q` any supported spelling, both modes, every element tree:
    each run is the run on `q` with the value of the attribute test where `q` matches, and on `q` the two agree -/
theorem simple_eq_generic_attr_run (ns : NsMap) (vs : Vars) (ic : Bool) (q : LocPath) (hq : ∀ s ∈ q, SStep s)
    (hne : q ≠ []) (a : Step) (ha : a.axis = .attribute) (tag : QName) (attrs : AttrList) (kids : List Node)
    (hcl : cleanList kids = true) :
    (runOne (pStep (fragments (q ++ [a])) ic ns) [] (Node.elem tag attrs kids).flatten).1
      = (runOne (gStep (gSteps (q ++ [a]) ic) ns vs) gInit (Node.elem tag attrs kids).flatten).1 := by
  obtain ⟨h1, h2, _⟩ := gSteps_spelling ns vs ic q hq hne
  rw [simple_attr_trace ns (toXVars vs) q hq hne a ha ic, gSteps_snoc_attr_spelling ic q hq hne a,
    generic_attr_gate ns vs _ a h2 ha (.elem tag attrs kids) hcl (h1 _ hcl),
    simple_eq_generic_run ns vs ic q hq hne tag attrs kids hcl]

theorem attrFlagM_eq : FragsM.attrFlagM = NodeTest.attrFlag := by
  funext t; cases t <;> rfl

/-- a path the driver reports as in the scope of `C17.simple_eq_generic` (`C17 fullscope`
    answers `T`) satisfies its hypotheses -/
theorem fullScope_sound (p : LocPath) (h : FragsM.fullScopeM p = true) :
    simpleSupports p = true ∧ ∀ s ∈ p, s.axis ≠ .attribute → s.test.attrFlag = false := by
  simp only [FragsM.fullScopeM, Bool.and_eq_true, List.all_eq_true, Bool.or_eq_true, beq_iff_eq,
    Bool.not_eq_true'] at h
  refine ⟨h.1, fun s hs hax => ?_⟩
  rcases h.2 s hs with h1 | h1
  · exact absurd h1 hax
  · rw [← attrFlagM_eq]; exact h1

end Genshi.Path.Frags
