/-
  The location paths that make one fragment of SimplePathStrategy — a chain of child steps (`childChain`), and
  the same behind a first step on another axis (`fragPath`) — and what `__init__`'s loop makes of them.
-/
import Genshi.Lemmas.PathKmp
namespace Genshi.Path
open Genshi

/-- a path of child-axis steps without predicates -/
def childChain (tests : List NodeTest) : LocPath := tests.map fun t => ⟨.child, t, []⟩

theorem fragLoop_chain_app (ts : List NodeTest) (rest : LocPath) (frs : List Frag) (acc : List NodeTest) (sb : Bool) :
    fragLoop (childChain ts ++ rest) frs acc sb = fragLoop rest frs (acc ++ ts) sb := by
  induction ts generalizing acc with
  | nil => simp [childChain]
  | cons t ts ih =>
    simp only [childChain, List.map_cons, List.cons_append, fragLoop]
    have := ih (acc ++ [t])
    simp only [childChain] at this
    rw [this]
    simp

theorem fragLoop_chain' (ts : List NodeTest) (frags : List Frag) (acc : List NodeTest) (sb : Bool) :
    fragLoop (childChain ts) frags acc sb = some (frags ++ [⟨acc ++ ts, calculatePi (acc ++ ts), none, sb⟩]) := by
  rw [← List.append_nil (childChain ts), fragLoop_chain_app]; rfl

theorem fragments_chain (tests : List NodeTest) :
    fragments (childChain tests) = some [⟨tests, calculatePi tests, none, false⟩] :=
  fragLoop_chain' tests [] [] false

end Genshi.Path

namespace Genshi.Path.Kmp
open Genshi Genshi.Path

/-- `ax0::t1/child::t2/…/child::tn` -/
def fragPath (ax0 : Axis) (tests : List NodeTest) : LocPath :=
  match tests with
  | [] => []
  | t0 :: ts => ⟨ax0, t0, []⟩ :: childChain ts

theorem length_fragPath (ax : Axis) (tests : List NodeTest) : (fragPath ax tests).length = tests.length := by
  cases tests <;> simp [fragPath, childChain]

theorem getElem?_fragPath (ax : Axis) (tests : List NodeTest) (i : Nat) (hi : i < tests.length) :
    (fragPath ax tests)[i]? = some ⟨if i = 0 then ax else .child, Fof tests i, []⟩ := by
  obtain ⟨t0, ts, rfl⟩ := List.exists_cons_of_ne_nil (List.length_pos_iff.mp (Nat.zero_lt_of_lt hi))
  cases i with
  | zero => rfl
  | succ j =>
    have hj : j < ts.length := Nat.lt_of_succ_lt_succ hi
    simp only [fragPath, childChain, List.getElem?_cons_succ, List.getElem?_map, Fof_cons_succ, getElem?_Fof ts j hj]
    rfl

end Genshi.Path.Kmp
