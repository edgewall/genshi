/-
  Reference-level facts about the paths SimplePathStrategy supports, seen as a list of
  fragments: `first/descendant::F1…/descendant-or-self::F2…/…`.

  * unfolding `Ref.reach` one tree level for a fragment (`reach_selfFrag`, `reach_dosFrag`, …);
  * the DOMINATION lemma (`semIc_dom`): once a fragment is completed at a node `c`, whatever
    other ways there are to match that fragment at or below `c` select nothing that the
    rest of the path does not already select from `c` — because the rest starts with a
    descendant / descendant-or-self step (`Mono`);
  * `semIc_step`: the set "the start of the fragment anywhere below, or any matched prefix
    continued here" (`SemIc`) pushed one tree level down.
-/
import Genshi.Lemmas.PathReach
import Genshi.Lemmas.PathKmpStep
import Genshi.Lemmas.PathFragsPath
namespace Genshi.Path.Frags
open Genshi Genshi.Path Genshi.Path.Ref Genshi.Path.Kmp

mutual
  /-- induction over located nodes along `childrenOf`: what holds of a node whenever it holds of its children
      holds of every node -/
  theorem lnInd (P : LNode → Prop) (h : ∀ c, (∀ k ∈ childrenOf c, P k) → P c) :
      ∀ (n : Node) (loc : List Nat), P ⟨loc, n⟩
    | .elem tg a ks, loc => h _ (by
        intro k hk
        exact lnIndList P h ks loc 0 k hk)
    | .leaf e, loc => h _ (by intro k hk; simp [childrenOf] at hk)
  theorem lnIndList (P : LNode → Prop) (h : ∀ c, (∀ k ∈ childrenOf c, P k) → P c) :
      ∀ (ks : List Node) (loc : List Nat) (i : Nat), ∀ k ∈ kidsAt ks loc i, P k
    | [], _, _ => by intro k hk; simp [kidsAt] at hk
    | x :: ks, loc, i => by
        intro k hk
        simp only [kidsAt, List.zipIdx_cons, List.map_cons, List.mem_cons] at hk
        rcases hk with rfl | hk
        · exact lnInd P h x (loc ++ [i])
        · exact lnIndList P h ks loc (i + 1) k hk
end

section
variable (ns : NsMap) (xvs : XVars)

theorem nonpos_nopreds (ax : Axis) (g : NodeTest) : NonPositional ns xvs ⟨ax, g, []⟩ := by
  intro p hp; simp at hp

theorem hitR_nopreds (ax : Axis) (g : NodeTest) (c : LNode) :
    hitR ns xvs ⟨ax, g, []⟩ c = testNode g c.node ns := by
  simp [hitR]

/-- `self::g/child::G…/R` -/
theorem reach_selfFrag (g : NodeTest) (G : List NodeTest) (R : LocPath) (c t : LNode) :
    reach ns xvs (fragPath .self (g :: G) ++ R) c t
      = (testNode g c.node ns && reach ns xvs (childChain G ++ R) c t) := by
  simp only [fragPath, List.cons_append]
  rw [reach_self ns xvs _ _ (nonpos_nopreds ns xvs _ _) rfl, hitR_nopreds]

/-- `child::g/child::G…/R` -/
theorem reach_chain_cons (g : NodeTest) (G : List NodeTest) (R : LocPath) (c t : LNode) :
    reach ns xvs (childChain (g :: G) ++ R) c t
      = (childrenOf c).any fun k => reach ns xvs (fragPath .self (g :: G) ++ R) k t := by
  simp only [childChain, List.map_cons, List.cons_append, fragPath]
  rw [reach_child ns xvs _ _ (nonpos_nopreds ns xvs _ _) rfl]
  rfl

/-- `descendant-or-self::g/child::G…/R` -/
theorem reach_dosFrag (g : NodeTest) (G : List NodeTest) (R : LocPath) (c t : LNode) :
    reach ns xvs (fragPath .descendantOrSelf (g :: G) ++ R) c t
      = ((testNode g c.node ns && reach ns xvs (childChain G ++ R) c t) ||
         (childrenOf c).any fun k => reach ns xvs (fragPath .descendantOrSelf (g :: G) ++ R) k t) := by
  simp only [fragPath, List.cons_append]
  rw [reach_dos ns xvs _ _ (nonpos_nopreds ns xvs _ _) rfl, hitR_nopreds]

/-- `descendant::g/child::G…/R` -/
theorem reach_descFrag (g : NodeTest) (G : List NodeTest) (R : LocPath) (c t : LNode) :
    reach ns xvs (fragPath .descendant (g :: G) ++ R) c t
      = (childrenOf c).any fun k => reach ns xvs (fragPath .descendantOrSelf (g :: G) ++ R) k t := by
  simp only [fragPath, List.cons_append]
  rw [reach_desc ns xvs _ _ (nonpos_nopreds ns xvs _ _) rfl]
  rfl

/-- what the path `R` selects (here: the node `t`) from a child it selects from the parent; so it is for a
    path that starts with a fragment on the descendant / descendant-or-self axis (`mono_desc`, `mono_dos`) -/
def Mono (R : LocPath) (t : LNode) : Prop :=
  ∀ c : LNode, ∀ k ∈ childrenOf c, reach ns xvs R k t = true → reach ns xvs R c t = true

theorem mono_dos (g : NodeTest) (G : List NodeTest) (R : LocPath) (t : LNode) :
    Mono ns xvs (fragPath .descendantOrSelf (g :: G) ++ R) t := by
  intro c k hk h
  rw [reach_dosFrag]
  simp only [Bool.or_eq_true, List.any_eq_true]
  exact Or.inr ⟨k, hk, h⟩

theorem mono_desc (g : NodeTest) (G : List NodeTest) (R : LocPath) (t : LNode) :
    Mono ns xvs (fragPath .descendant (g :: G) ++ R) t := by
  intro c k hk h
  rw [reach_descFrag] at h ⊢
  simp only [List.any_eq_true] at h ⊢
  obtain ⟨k', hk', h'⟩ := h
  refine ⟨k, hk, ?_⟩
  rw [reach_dosFrag]
  simp only [Bool.or_eq_true, List.any_eq_true]
  exact Or.inr ⟨k', hk', h'⟩

/-- child steps in front of a monotone path add nothing -/
theorem chain_dom (R : LocPath) (t : LNode) (hm : Mono ns xvs R t) :
    ∀ (G : List NodeTest) (c : LNode), reach ns xvs (childChain G ++ R) c t = true → reach ns xvs R c t = true := by
  intro G
  induction G with
  | nil => intro c h; simpa [childChain] using h
  | cons g G ih =>
    intro c h
    rw [reach_chain_cons] at h
    simp only [List.any_eq_true] at h
    obtain ⟨k, hk, h⟩ := h
    rw [reach_selfFrag] at h
    simp only [Bool.and_eq_true] at h
    exact hm c k hk (ih k h.2)

/-- a descendant-or-self step in front of a path dominated by a monotone path -/
theorem dos_dom (g : NodeTest) (Y R : LocPath) (t : LNode) (hm : Mono ns xvs R t)
    (hY : ∀ c, reach ns xvs Y c t = true → reach ns xvs R c t = true) :
    ∀ c : LNode, reach ns xvs (⟨.descendantOrSelf, g, []⟩ :: Y) c t = true → reach ns xvs R c t = true := by
  intro c
  obtain ⟨loc, n⟩ := c
  refine lnInd (fun c => reach ns xvs (⟨.descendantOrSelf, g, []⟩ :: Y) c t = true → reach ns xvs R c t = true)
    ?_ n loc
  intro c ih h
  rw [reach_dos ns xvs _ _ (nonpos_nopreds ns xvs _ _) rfl] at h
  simp only [Bool.or_eq_true, Bool.and_eq_true, List.any_eq_true] at h
  rcases h with ⟨_, h⟩ | ⟨k, hk, h⟩
  · exact hY c h
  · exact hm c k hk (ih k hk h)

/-- What a KMP fragment `F` (followed by the rest `R` of the path) still selects at or below a
    node `c`, when `rw` is the chain of events since the fragment became current: the fragment
    may start at `c` or anywhere below, or a prefix that matches the end of the chain is
    continued at `c`. -/
def SemIc (F : List NodeTest) (R : LocPath) (rw : List Event) (c t : LNode) : Prop :=
  reach ns xvs (fragPath .descendantOrSelf F ++ R) c t = true ∨
  ∃ b, 0 < b ∧ b < F.length ∧ Suf (Fof F) F.length (textOf ns rw) rw.length b ∧
       reach ns xvs (fragPath .self (F.drop b) ++ R) c t = true

theorem drop_Fof (F : List NodeTest) (b : Nat) (hb : b < F.length) : F.drop b = Fof F b :: F.drop (b + 1) := by
  rw [List.drop_eq_getElem_cons hb]
  congr 1
  have := getElem?_Fof F b hb
  rw [List.getElem?_eq_getElem hb] at this
  exact Option.some.inj this

/-- **domination**: whatever is still possible inside a fragment selects nothing that the rest
    of the path does not select from the same node -/
theorem semIc_dom (F : List NodeTest) (hF : F ≠ []) (R : LocPath) (rw : List Event) (t : LNode)
    (hm : Mono ns xvs R t) (c : LNode) (h : SemIc ns xvs F R rw c t) : reach ns xvs R c t = true := by
  rcases h with h | ⟨b, _, hb, _, h⟩
  · cases F with
    | nil => exact absurd rfl hF
    | cons g G =>
      simp only [fragPath, List.cons_append] at h
      exact dos_dom ns xvs g _ R t hm (chain_dom ns xvs R t hm G) c h
  · rw [drop_Fof F b hb, reach_selfFrag] at h
    simp only [Bool.and_eq_true] at h
    exact chain_dom ns xvs R t hm _ c h.2

/-- `self::F[b]/child::F[b+1]…/R` one level down -/
theorem reach_self_drop (F : List NodeTest) (R : LocPath) (b : Nat) (hb : b < F.length) (c t : LNode) :
    reach ns xvs (fragPath .self (F.drop b) ++ R) c t = true ↔
      testNode (Fof F b) c.node ns = true ∧
        ((b + 1 = F.length ∧ reach ns xvs R c t = true) ∨
         (b + 1 < F.length ∧ ∃ k ∈ childrenOf c, reach ns xvs (fragPath .self (F.drop (b + 1)) ++ R) k t = true)) := by
  rw [drop_Fof F b hb, reach_selfFrag]
  simp only [Bool.and_eq_true]
  by_cases hb1 : b + 1 < F.length
  · rw [drop_Fof F (b + 1) hb1, reach_chain_cons]
    simp only [List.any_eq_true]
    constructor
    · rintro ⟨h1, h2⟩; exact ⟨h1, Or.inr ⟨hb1, h2⟩⟩
    · rintro ⟨h1, ⟨h2, _⟩ | ⟨_, h2⟩⟩
      · omega
      · exact ⟨h1, h2⟩
  · have hnil : F.drop (b + 1) = [] := List.drop_eq_nil_of_le (by omega)
    rw [hnil]
    simp only [childChain, List.map_nil, List.nil_append]
    constructor
    · rintro ⟨h1, h2⟩; exact ⟨h1, Or.inl ⟨by omega, h2⟩⟩
    · rintro ⟨h1, ⟨_, h2⟩ | ⟨h2, _⟩⟩
      · exact ⟨h1, h2⟩
      · omega

/-- `SemIc` by place: a matched prefix is continued at `c` — the empty prefix included, which is the fragment
    starting at `c` itself — or the fragment starts below `c` -/
theorem semIc_iff (F : List NodeTest) (hF : F ≠ []) (R : LocPath) (rw : List Event) (c t : LNode) :
    SemIc ns xvs F R rw c t ↔
      ((∃ b, b < F.length ∧ Suf (Fof F) F.length (textOf ns rw) rw.length b ∧
          reach ns xvs (fragPath .self (F.drop b) ++ R) c t = true) ∨
       ∃ k ∈ childrenOf c, reach ns xvs (fragPath .descendantOrSelf F ++ R) k t = true) := by
  have hn : 0 < F.length := List.length_pos_iff.mpr hF
  have hdos : reach ns xvs (fragPath .descendantOrSelf F ++ R) c t = true ↔
      (reach ns xvs (fragPath .self (F.drop 0) ++ R) c t = true ∨
       ∃ k ∈ childrenOf c, reach ns xvs (fragPath .descendantOrSelf F ++ R) k t = true) := by
    cases F with
    | nil => exact absurd rfl hF
    | cons g G =>
      rw [reach_dosFrag, List.drop_zero, reach_selfFrag]
      simp only [Bool.or_eq_true, List.any_eq_true]
  constructor
  · rintro (h | ⟨b, _, hb, hsuf, h⟩)
    · exact (hdos.mp h).imp_left fun h => ⟨0, hn, Suf.zero _ _ _ _, h⟩
    · exact Or.inl ⟨b, hb, hsuf, h⟩
  · rintro (⟨b, hb, hsuf, h⟩ | h)
    · by_cases hb0 : b = 0
      · subst hb0; exact Or.inl (hdos.mpr (Or.inl h))
      · exact Or.inr ⟨b, by omega, hb, hsuf, h⟩
    · exact Or.inl (hdos.mpr (Or.inr h))

/-- the candidate set pushed one tree level down: either the fragment is completed at `c`
    (then the rest of the path takes over from `c`), or a candidate lives on in a child.  `e` stands for
    `c`'s own event: all that is used of it is `hmt`, the tests of the fragment read the same off `e` as off
    the node (`simple_matches` on a clean node) -/
theorem semIc_step (F : List NodeTest) (hF : F ≠ []) (R : LocPath) (rw : List Event) (c t : LNode) (e : Event)
    (hmt : ∀ i, i < F.length → (Fof F i).matches e ns = testNode (Fof F i) c.node ns) :
    SemIc ns xvs F R rw c t ↔
      ((Suf (Fof F) F.length (textOf ns (e :: rw)) (rw.length + 1) F.length ∧ reach ns xvs R c t = true) ∨
       ∃ k ∈ childrenOf c, SemIc ns xvs F R (e :: rw) k t) := by
  have hpush : ∀ b, Suf (Fof F) F.length (textOf ns (e :: rw)) (rw.length + 1) (b + 1) ↔
      (b < F.length ∧ testNode (Fof F b) c.node ns = true ∧ Suf (Fof F) F.length (textOf ns rw) rw.length b) := by
    intro b
    rw [textOf_cons, Suf_push]
    constructor
    · rintro ⟨h1, h2, h3⟩; exact ⟨h1, by rw [← hmt b h1]; exact h2, h3⟩
    · rintro ⟨h1, h2, h3⟩; exact ⟨h1, by rw [hmt b h1]; exact h2, h3⟩
  rw [semIc_iff ns xvs F hF R rw c t]
  constructor
  · rintro (⟨b, hb, hsuf, h⟩ | ⟨k, hk, h⟩)
    · obtain ⟨h1, h2⟩ := (reach_self_drop ns xvs F R b hb c t).mp h
      have hs1 : Suf (Fof F) F.length (textOf ns (e :: rw)) (rw.length + 1) (b + 1) :=
        (hpush b).mpr ⟨hb, h1, hsuf⟩
      rcases h2 with ⟨hl, h2⟩ | ⟨hl, k, hk, h2⟩
      · left; rw [hl] at hs1; exact ⟨hs1, h2⟩
      · right; exact ⟨k, hk, Or.inr ⟨b + 1, by omega, hl, hs1, h2⟩⟩
    · right; exact ⟨k, hk, Or.inl h⟩
  · rintro (⟨hsuf, h⟩ | ⟨k, hk, h | ⟨b', hb0, hb, hsuf, h⟩⟩)
    · obtain ⟨b, hb⟩ : ∃ b, F.length = b + 1 := ⟨F.length - 1, by have := List.length_pos_iff.mpr hF; omega⟩
      have hsuf' : Suf (Fof F) F.length (textOf ns (e :: rw)) (rw.length + 1) (b + 1) := by
        rw [← hb]; exact hsuf
      obtain ⟨g1, g2, g3⟩ := (hpush b).mp hsuf'
      exact Or.inl ⟨b, g1, g3, (reach_self_drop ns xvs F R b g1 c t).mpr ⟨g2, Or.inl ⟨by omega, h⟩⟩⟩
    · exact Or.inr ⟨k, hk, h⟩
    · obtain ⟨b, rfl⟩ : ∃ b, b' = b + 1 := ⟨b' - 1, by omega⟩
      obtain ⟨g1, g2, g3⟩ := (hpush b).mp hsuf
      exact Or.inl ⟨b, g1, g3, (reach_self_drop ns xvs F R b g1 c t).mpr ⟨g2, Or.inr ⟨hb, k, hk, h⟩⟩⟩

/-- at the start of a fragment (empty chain) only the first alternative is there -/
theorem semIc_nil (F : List NodeTest) (R : LocPath) (c t : LNode) :
    SemIc ns xvs F R [] c t ↔ reach ns xvs (fragPath .descendantOrSelf F ++ R) c t = true := by
  constructor
  · rintro (h | ⟨b, hb0, _, hsuf, _⟩)
    · exact h
    · have := hsuf.2.1; simp at this; omega
  · exact Or.inl

end
end Genshi.Path.Frags
