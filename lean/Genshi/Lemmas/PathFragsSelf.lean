/-
  Every location path SimplePathStrategy supports (no attribute step), whatever its spelling:
  `SimplePathStrategy.__init__` (`fragLoop`) either finds the path impossible — then XPath
  selects nothing — or builds a fragment list whose path selects the same nodes: a
  `self::t` step after a step with the same test is redundant, after a step with another
  test it makes the path empty.  The same in pattern mode (`ignore_context = True`): `__init__`'s
  loop read with the first step taken on the descendant-or-self axis (`fragLoop_sem` with
  `pre = [descendant-or-self::first]`).  Hence SimplePathStrategy and GenericStrategy mark the same
  nodes and report the same at every event (`simple_eq_generic_run`).
-/
import Genshi.Lemmas.PathFrags
import Genshi.Lemmas.PathNonPos
namespace Genshi.Path.Frags
open Genshi Genshi.Path Genshi.Path.Ref Genshi.Path.Kmp

theorem test_clash (ns : NsMap) (t u : NodeTest) (ht : simpleT t = true) (hu : simpleT u = true)
    (h : nodesEqual t u = false) (n : Node) : (testNode t n ns && testNode u n ns) = false := by
  rcases simpleT_cases t ht with ⟨a, rfl⟩ | rfl | rfl <;> rcases simpleT_cases u hu with ⟨b, rfl⟩ | rfl | rfl <;>
    cases n with
    | elem tg ats ks =>
      simp_all [nodesEqual, testNode]
      try (intro h1 h2; exact h (h1.symm.trans h2))
    | leaf e => cases e <;> simp_all [nodesEqual, testNode]

section
variable (ns : NsMap) (xvs : XVars)

theorem reach_false_prefix (X : LocPath) (t : LNode) (h : ∀ c, reach ns xvs X c t = false) :
    ∀ (pre : LocPath) (c : LNode), reach ns xvs (pre ++ X) c t = false := by
  intro pre
  induction pre with
  | nil => exact h
  | cons s pre ih =>
    intro c
    simp only [List.cons_append, reach]
    rw [List.any_eq_false]
    intro m _
    simp [ih m]

theorem reach_congr_prefix (q1 q2 : LocPath) (t : LNode) (h : ∀ c, reach ns xvs q1 c t = reach ns xvs q2 c t) :
    ∀ (pre : LocPath) (c : LNode), reach ns xvs (pre ++ q1) c t = reach ns xvs (pre ++ q2) c t := by
  intro pre
  induction pre with
  | nil => exact h
  | cons s pre ih =>
    intro c
    simp only [List.cons_append, reach]
    apply List.any_congr rfl
    intro m
    exact ih m

/-- `…/s/self::s.test/…` ≡ `…/s/…` -/
theorem self_merge (ax : Axis) (g : NodeTest) (q : LocPath) (c t : LNode) :
    reach ns xvs (⟨ax, g, []⟩ :: ⟨.self, g, []⟩ :: q) c t = reach ns xvs (⟨ax, g, []⟩ :: q) c t := by
  rw [reach_cons ns xvs _ _ (nonpos_nopreds ns xvs _ _), reach_cons ns xvs _ _ (nonpos_nopreds ns xvs _ _)]
  apply List.any_congr rfl
  intro m
  rw [reach_self ns xvs _ _ (nonpos_nopreds ns xvs _ _) rfl, hitR_nopreds, hitR_nopreds]
  cases testNode g m.node ns <;> simp

/-- `…/s/self::u/…` with another test `u` selects nothing -/
theorem self_clash (ax : Axis) (g u : NodeTest) (hg : simpleT g = true) (hu : simpleT u = true)
    (h : nodesEqual u g = false) (q : LocPath) (c t : LNode) :
    reach ns xvs (⟨ax, g, []⟩ :: ⟨.self, u, []⟩ :: q) c t = false := by
  rw [reach_cons ns xvs _ _ (nonpos_nopreds ns xvs _ _), List.any_eq_false]
  intro m _
  rw [reach_self ns xvs _ _ (nonpos_nopreds ns xvs _ _) rfl, hitR_nopreds, hitR_nopreds]
  have := test_clash ns u g hu hg h m.node
  cases h1 : testNode g m.node ns <;> cases h2 : testNode u m.node ns <;> simp_all

/-- a descendant-like step closes the fragment read so far and begins the next one -/
theorem fragLoop_descLike (ax : Axis) (hax : isDescLike ax = true) (g : NodeTest) (preds : List Expr) (q : LocPath)
    (frs : List Frag) (acc : List NodeTest) (sb : Bool) :
    fragLoop (⟨ax, g, preds⟩ :: q) frs acc sb
      = fragLoop q (frs ++ [⟨acc, calculatePi acc, none, sb⟩]) [g] (ax == .descendantOrSelf) := by
  cases ax <;> first | rfl | cases hax

theorem descLike_ite (ax : Axis) (hax : isDescLike ax = true) :
    (if ax = Axis.descendantOrSelf then Axis.descendantOrSelf else Axis.descendant) = ax := by
  cases ax <;> first | rfl | cases hax

/-- what `fragLoop` returns for the rest `q` of a path whose part `pre` has been read -/
def LoopSem (q : LocPath) (frs : List Frag) (acc : List NodeTest) (sb : Bool) (pre : LocPath) : Prop :=
  match fragLoop q frs acc sb with
  | none => ∀ c t, reach ns xvs (pre ++ q) c t = false
  | some out =>
      ∃ ts more, out = frs ++ ⟨acc ++ ts, calculatePi (acc ++ ts), none, sb⟩ :: more ∧ TailOk more ∧
        (∀ t ∈ ts, simpleT t = true) ∧ (∀ f ∈ more, ∀ t ∈ f.tests, simpleT t = true) ∧
        (acc ++ ts = [] → more = [] → q = []) ∧
        ∀ c t, reach ns xvs (pre ++ q) c t = reach ns xvs (pre ++ (childChain ts ++ tailPath more)) c t

/-- `LoopSem` by the two results of the loop -/
theorem LoopSem.cases {q : LocPath} {frs : List Frag} {acc : List NodeTest} {sb : Bool} {pre : LocPath}
    (h : LoopSem ns xvs q frs acc sb pre) :
    (fragLoop q frs acc sb = none ∧ ∀ c t, reach ns xvs (pre ++ q) c t = false) ∨
    ∃ ts more, fragLoop q frs acc sb = some (frs ++ ⟨acc ++ ts, calculatePi (acc ++ ts), none, sb⟩ :: more) ∧
      TailOk more ∧ (∀ t ∈ ts, simpleT t = true) ∧ (∀ f ∈ more, ∀ t ∈ f.tests, simpleT t = true) ∧
      (acc ++ ts = [] → more = [] → q = []) ∧
      ∀ c t, reach ns xvs (pre ++ q) c t = reach ns xvs (pre ++ (childChain ts ++ tailPath more)) c t := by
  unfold LoopSem at h
  cases hf : fragLoop q frs acc sb with
  | none => rw [hf] at h; exact Or.inl ⟨rfl, h⟩
  | some out =>
    rw [hf] at h
    obtain ⟨ts, more, rfl, rest⟩ := h
    exact Or.inr ⟨ts, more, rfl, rest⟩

/-- induction along `__init__`'s loop.  `hlast`: the last accumulated test is the test of the step just read (the
    last of `pre`), which is what the code compares a following `self::u` with (`self_merge`, `self_clash`).
    `hself`: with nothing accumulated the next step is not `self::`; inside the loop every step leaves its test in
    `acc`, so this concerns the start of the path only, where the callers (`fragments_sem`, `fragments_sem_pattern`)
    read a leading `self::` step themselves.  The fifth clause of `LoopSem` (a fragment in work without tests and
    without successor only where the path has ended) is what gives `FragsOk.head` of the result. -/
theorem fragLoop_sem : ∀ (q : LocPath), (∀ s ∈ q, SStep s) → ∀ (frs : List Frag) (acc : List NodeTest) (sb : Bool)
    (pre : LocPath),
    (acc ≠ [] → ∃ pre0 ax g, pre = pre0 ++ [⟨ax, g, []⟩] ∧ acc.getLast? = some g ∧ simpleT g = true) →
    (acc = [] → ∀ s, q.head? = some s → s.axis ≠ .self) →
    LoopSem ns xvs q frs acc sb pre
  | [], _, frs, acc, sb, pre, _, _ => by
      simp only [LoopSem, fragLoop]
      exact ⟨[], [], by simp, fun f hf => by simp at hf, by simp, by simp, by simp, fun c t => by simp [childChain, tailPath]⟩
  | s :: q', hq, frs, acc, sb, pre, hlast, hself => by
      obtain ⟨hp, hsim, hna⟩ := hq s List.mem_cons_self
      have hq' : ∀ s' ∈ q', SStep s' := fun s' hs' => hq s' (List.mem_cons_of_mem _ hs')
      obtain ⟨ax, g, preds⟩ := s
      simp only at hp hsim hna
      subst hp
      have happ : ∀ (X : LocPath), pre ++ ⟨ax, g, []⟩ :: X = (pre ++ [⟨ax, g, []⟩]) ++ X := by intro X; simp
      by_cases hd : isDescLike ax = true
      · -- `descendant::g` / `descendant-or-self::g`: the fragment read so far is closed, a new one begins with `g`
        have ih := fragLoop_sem q' hq' (frs ++ [⟨acc, calculatePi acc, none, sb⟩]) [g] (ax == .descendantOrSelf)
          (pre ++ [⟨ax, g, []⟩]) (fun _ => ⟨pre, ax, g, rfl, by simp, hsim⟩) (fun h => by simp at h)
        simp only [LoopSem, fragLoop_descLike ax hd]
        rcases LoopSem.cases ns xvs ih with ⟨hf, h⟩ | ⟨ts', more, hf, e2, e3, e4, e5, e6⟩ <;> rw [hf]
        · exact fun c t => by rw [happ]; exact h c t
        · refine ⟨[], ⟨[g] ++ ts', calculatePi ([g] ++ ts'), none, ax == .descendantOrSelf⟩ :: more, by simp, ?_,
            by simp, ?_, by simp, fun c t => ?_⟩
          · intro f hf'
            rcases List.mem_cons.mp hf' with h | h
            · rw [h]; exact ⟨by simp, rfl, rfl⟩
            · exact e2 f h
          · intro f hf' t ht
            rcases List.mem_cons.mp hf' with h | h
            · rw [h] at ht; simp only [List.singleton_append, List.mem_cons] at ht
              rcases ht with h' | h'
              · rw [h']; exact hsim
              · exact e3 t h'
            · exact e4 f h t ht
          · rw [happ, e6 c t]; simp [childChain, tailPath, fragSteps, descLike_ite ax hd, fragPath]
      · cases ax with
      | «attribute» => exact absurd rfl hna
      | child =>
        have ih := fragLoop_sem q' hq' frs (acc ++ [g]) sb (pre ++ [⟨.child, g, []⟩])
          (fun _ => ⟨pre, .child, g, rfl, by simp, hsim⟩) (fun h => by simp at h)
        simp only [LoopSem, fragLoop]
        rcases LoopSem.cases ns xvs ih with ⟨hf, h⟩ | ⟨ts', more, hf, e2, e3, e4, e5, e6⟩ <;> rw [hf]
        · exact fun c t => by rw [happ]; exact h c t
        · refine ⟨g :: ts', more, by simp, e2, ?_, e4, by simp, fun c t => ?_⟩
          · intro t ht; rcases List.mem_cons.mp ht with h | h
            · rw [h]; exact hsim
            · exact e3 t h
          · rw [happ, e6 c t]; simp [childChain]
      | descendant | descendantOrSelf => exact absurd rfl hd
      | self =>
        by_cases hacc : acc = []
        · exact absurd rfl (hself hacc _ rfl)
        · obtain ⟨pre0, ax0, g0, rfl, hl, hg0⟩ := hlast hacc
          simp only [LoopSem, fragLoop, hl]
          by_cases hne : nodesEqual g g0 = true
          · have hgg : g = g0 := nodesEqual_eq g g0 hsim hg0 hne
            subst hgg
            have ih := fragLoop_sem q' hq' frs acc sb (pre0 ++ [⟨ax0, g, []⟩])
              (fun _ => ⟨pre0, ax0, g, rfl, hl, hsim⟩) (fun h => absurd h hacc)
            have hmerge : ∀ c t, reach ns xvs ((pre0 ++ [⟨ax0, g, []⟩]) ++ ⟨.self, g, []⟩ :: q') c t
                = reach ns xvs ((pre0 ++ [⟨ax0, g, []⟩]) ++ q') c t := by
              intro c t
              have := reach_congr_prefix ns xvs (⟨ax0, g, []⟩ :: ⟨.self, g, []⟩ :: q') (⟨ax0, g, []⟩ :: q') t
                (fun c' => self_merge ns xvs ax0 g q' c' t) pre0 c
              simpa using this
            simp only [hne, Bool.not_true, Bool.false_eq_true, if_false]
            rcases LoopSem.cases ns xvs ih with ⟨hf, h⟩ | ⟨ts', more, hf, e2, e3, e4, e5, e6⟩ <;> rw [hf]
            · exact fun c t => by rw [hmerge c t]; exact h c t
            · refine ⟨ts', more, rfl, e2, e3, e4, ?_, fun c t => ?_⟩
              · intro h1 _
                have : acc = [] := by
                  cases acc with
                  | nil => rfl
                  | cons a l => simp at h1
                exact absurd this hacc
              · rw [hmerge c t]; exact e6 c t
          · have hne' : nodesEqual g g0 = false := by simpa using hne
            simp only [hne', Bool.not_false, if_true]
            intro c t
            have := reach_false_prefix ns xvs (⟨ax0, g0, []⟩ :: ⟨.self, g, []⟩ :: q') t
              (fun c' => self_clash ns xvs ax0 g0 g hg0 hsim hne' q' c' t) pre0 c
            simpa using this

theorem fragsOk_mk (ts0 : List NodeTest) (sb : Bool) (more : List Frag) (hs0 : ∀ t ∈ ts0, simpleT t = true)
    (hmore : TailOk more) (hsm : ∀ f ∈ more, ∀ t ∈ f.tests, simpleT t = true)
    (hhead : ts0 = [] → sb = false ∧ more ≠ []) :
    FragsOk (⟨ts0, calculatePi ts0, none, sb⟩ :: more) := by
  refine ⟨?_, ?_, ?_, ?_, ?_⟩
  · intro f hf
    rcases List.mem_cons.mp hf with h | h
    · rw [h]
    · exact (hmore f h).2.1
  · intro f hf
    rcases List.mem_cons.mp hf with h | h
    · rw [h]
    · exact (hmore f h).2.2
  · intro f hf t ht
    rcases List.mem_cons.mp hf with h | h
    · rw [h] at ht; exact hs0 t ht
    · exact hsm f h t ht
  · intro i f hf
    have : more[i]? = some f := by simpa using hf
    exact (hmore f (List.mem_of_getElem? this)).1
  · refine ⟨_, rfl, fun h => ?_⟩
    obtain ⟨h1, h2⟩ := hhead h
    refine ⟨h1, ?_⟩
    cases more with
    | nil => exact absurd rfl h2
    | cons a l => simp

/-- **`SimplePathStrategy.__init__` is sound for every supported spelling**: either the path
    is found impossible and selects nothing in XPath, or the fragment list built is well formed
    and its path selects the same nodes -/
theorem fragments_sem (p : LocPath) (hp : ∀ s ∈ p, SStep s) (hne : p ≠ []) :
    match fragments p with
    | none => ∀ c t, reach ns xvs p c t = false
    | some out => FragsOk out ∧ ∀ c t, reach ns xvs p c t = reach ns xvs (normPath out) c t := by
  cases p with
  | nil => exact absurd rfl hne
  | cons s0 q =>
    obtain ⟨hp0, hsim, hna⟩ := hp s0 List.mem_cons_self
    have hq : ∀ s ∈ q, SStep s := fun s hs => hp s (List.mem_cons_of_mem _ hs)
    obtain ⟨ax, g, preds⟩ := s0
    simp only at hp0 hsim hna
    subst hp0
    by_cases hax : ax = .self
    · subst hax
      have h := fragLoop_sem ns xvs q hq [] [g] true [⟨.self, g, []⟩]
        (fun _ => ⟨[], .self, g, rfl, rfl, hsim⟩) (fun h => by simp at h)
      simp only [fragments, fragLoop, List.getLast?_nil]
      rcases LoopSem.cases ns xvs h with ⟨hf, h⟩ | ⟨ts, more, hf, e2, e3, e4, e5, e6⟩ <;> rw [hf]
      · exact h
      · refine ⟨fragsOk_mk _ true more ?_ e2 e4 (fun h => by simp at h), fun c t => ?_⟩
        · intro t ht
          simp only [List.singleton_append, List.mem_cons] at ht
          rcases ht with h' | h'
          · rw [h']; exact hsim
          · exact e3 t h'
        · have := e6 c t
          simp only [List.cons_append, List.nil_append] at this
          rw [this]
          simp [normPath, headPath, fragPath]
    · have h := fragLoop_sem ns xvs (⟨ax, g, []⟩ :: q) hp [] [] false []
        (fun h => absurd rfl h) (fun _ s hs => by simp at hs; subst hs; exact hax)
      simp only [fragments]
      rcases LoopSem.cases ns xvs h with ⟨hf, h⟩ | ⟨ts, more, hf, e2, e3, e4, e5, e6⟩ <;> rw [hf]
      · exact h
      · refine ⟨fragsOk_mk _ false more e3 e2 e4 (fun h => ⟨rfl, fun hm => ?_⟩), fun c t => ?_⟩
        · have := e5 h hm; simp at this
        · have := e6 c t
          simp only [List.nil_append] at this
          rw [this]
          simp [normPath, headPath]

theorem run_none (ig : Bool) : ∀ (es : List Event) (st : PState),
    (runOne (pStep none ig ns) st es).1 = List.replicate es.length .none
  | [], _ => rfl
  | e :: es, st => by
      simp only [runOne, pStep, List.length_cons, List.replicate_succ]
      rw [run_none ig es st]

end

section
variable (ns : NsMap) (xvs : XVars)

/-- **`SimplePathStrategy.__init__` is sound for every supported spelling, read as a pattern**:
    either the path is found impossible and `descendant-or-self::first/rest` selects nothing,
    or the pattern path of the fragment list built selects the same nodes -/
theorem fragments_sem_pattern (p : LocPath) (hp : ∀ s ∈ p, SStep s) (hne : p ≠ []) :
    match fragments p with
    | none => ∀ c t, reach ns xvs (patOf p) c t = false
    | some out => ∀ c t, reach ns xvs (patOf p) c t = reach ns xvs (patPath out) c t := by
  cases p with
  | nil => exact absurd rfl hne
  | cons s0 q =>
    obtain ⟨hp0, hsim, hna⟩ := hp s0 List.mem_cons_self
    have hq : ∀ s ∈ q, SStep s := fun s hs => hp s (List.mem_cons_of_mem _ hs)
    obtain ⟨ax, g, preds⟩ := s0
    simp only at hp0 hsim hna
    subst hp0
    -- the loop after the first step, whatever lies in front of it
    have key : ∀ (frs : List Frag) (sb : Bool),
        (frs = [] ∨ frs = [⟨[], calculatePi [], none, false⟩]) →
        match fragLoop q frs [g] sb with
        | none => ∀ c t, reach ns xvs (⟨.descendantOrSelf, g, []⟩ :: q) c t = false
        | some out => ∀ c t, reach ns xvs (⟨.descendantOrSelf, g, []⟩ :: q) c t = reach ns xvs (patPath out) c t := by
      intro frs sb hfrs
      have h := fragLoop_sem ns xvs q hq frs [g] sb [⟨.descendantOrSelf, g, []⟩]
        (fun _ => ⟨[], .descendantOrSelf, g, rfl, rfl, hsim⟩) (fun h => by simp at h)
      rcases LoopSem.cases ns xvs h with ⟨hf, h⟩ | ⟨ts, more, hf, -, -, -, -, e6⟩ <;> rw [hf]
      · exact h
      · intro c t
        have := e6 c t
        simp only [List.cons_append, List.nil_append] at this
        rw [this]
        rcases hfrs with rfl | rfl <;> simp [patPath, fragPath]
    cases ax with
    | «attribute» => exact absurd rfl hna
    | self =>
      have := key [] true (Or.inl rfl)
      simpa only [fragments, fragLoop, List.getLast?_nil, patOf] using this
    | child =>
      have := key [] false (Or.inl rfl)
      simpa only [fragments, fragLoop, List.nil_append, patOf] using this
    | descendant =>
      have := key [⟨[], calculatePi [], none, false⟩] false (Or.inr rfl)
      simpa only [fragments, fragLoop, List.nil_append, patOf] using this
    | descendantOrSelf =>
      have := key [⟨[], calculatePi [], none, false⟩] true (Or.inr rfl)
      simpa only [fragments, fragLoop, List.nil_append, patOf] using this

end

/-- the path a matcher designates from the root in the given mode -/
def modePath (ic : Bool) (p : LocPath) : LocPath := if ic then patOf p else p

/-- **SimplePathStrategy designates the XPath node set of every supported spelling, in both
    modes**: `None` / `True` results, `True` exactly at the nodes `p` (relative mode) or
    `descendant-or-self::first/rest` (pattern mode) selects from the root -/
theorem simple_spelling_marks (ns : NsMap) (xvs : XVars) (ic : Bool) (p : LocPath) (hp : ∀ s ∈ p, SStep s)
    (hne : p ≠ []) (tag : QName) (attrs : AttrList) (kids : List Node) (hcl : cleanList kids = true) :
    okVals (runOne (pStep (fragments p) ic ns) [] (Node.elem tag attrs kids).flatten).1
        (eventLocs (.elem tag attrs kids) []) ∧
    ∀ x : List Nat, selB (runOne (pStep (fragments p) ic ns) [] (Node.elem tag attrs kids).flatten).1
        (eventLocs (.elem tag attrs kids) []) x
      = reach ns xvs (modePath ic p) ⟨[], .elem tag attrs kids⟩ ⟨x, .elem tag attrs kids⟩ := by
  have h0 := fragments_sem ns xvs p hp hne
  have h1 := fragments_sem_pattern ns xvs p hp hne
  cases hf : fragments p with
  | none =>
    rw [hf] at h0 h1
    simp only at h0 h1
    obtain ⟨o1, o2⟩ := okVals_replicate (eventLocs (.elem tag attrs kids) [])
    rw [eventLocs_length] at o1 o2
    rw [run_none]
    refine ⟨o1, fun x => ?_⟩
    rw [o2 x]
    cases ic <;> simp [modePath, h0, h1]
  | some out =>
    rw [hf] at h0 h1
    simp only at h0 h1
    cases ic with
    | false =>
      obtain ⟨s1, s2⟩ := simple_marks ns xvs out h0.1 tag attrs kids hcl
      refine ⟨s1, fun x => ?_⟩
      apply Bool.eq_iff_iff.mpr
      rw [s2 ⟨x, .elem tag attrs kids⟩]
      simp [modePath, h0.2]
    | true =>
      obtain ⟨s1, s2⟩ := simple_marks_pattern ns xvs out h0.1 tag attrs kids hcl
      refine ⟨s1, fun x => ?_⟩
      apply Bool.eq_iff_iff.mpr
      rw [s2 ⟨x, .elem tag attrs kids⟩]
      simp [modePath, h1]

theorem sstep_modePath (ic : Bool) (p : LocPath) (hp : ∀ s ∈ p, SStep s) (hne : p ≠ []) :
    (∀ s ∈ modePath ic p, SStep s) ∧ modePath ic p ≠ [] := by
  cases ic with
  | false => exact ⟨hp, hne⟩
  | true => exact ⟨sstep_patOf p hp, by cases p <;> simp_all [modePath, patOf]⟩

/-- SimplePathStrategy as an operand in both modes: `simple_spelling_marks` in the form unions and
    `operands_agree` take -/
theorem operand_simple_spelling (ns : NsMap) (vs : Vars) (ic : Bool) (p : LocPath) (hp : ∀ s ∈ p, SStep s) (hne : p ≠ [])
    (tag : QName) (attrs : AttrList) (kids : List Node) (hcl : cleanList kids = true) :
    Operand ns vs (toXVars vs) (.elem tag attrs kids) (modePath ic p) (.simple (fragments p) ic) (.p []) := by
  obtain ⟨s1, s2⟩ := simple_spelling_marks ns (toXVars vs) ic p hp hne tag attrs kids hcl
  obtain ⟨m1, m2⟩ := sstep_modePath ic p hp hne
  refine ⟨by rw [runTest_simpleL]; exact s1, fun x => ?_, last_nonAttr m2 fun s hs => (m1 s hs).2.2⟩
  rw [runTest_simpleL, s2 x.loc]
  exact reach_loc ns _ _ _ _ _ rfl

/-- **SimplePathStrategy designates the XPath node set of every path it supports** (no
    attribute step), whatever the spelling: interior `self::` steps included -/
theorem operand_simple_supported (ns : NsMap) (vs : Vars) (p : LocPath) (hp : ∀ s ∈ p, SStep s) (hne : p ≠ [])
    (tag : QName) (attrs : AttrList) (kids : List Node) (hcl : cleanList kids = true) :
    Operand ns vs (toXVars vs) (.elem tag attrs kids) p (.simple (fragments p) false) (.p []) :=
  operand_simple_spelling ns vs false p hp hne tag attrs kids hcl

/-- SimplePathStrategy on the path of any fragment list, as an operand: it designates the
    XPath node set of that path -/
theorem operand_simple_frags (ns : NsMap) (vs : Vars) (frags : List Frag) (hok : FragsOk frags)
    (tag : QName) (attrs : AttrList) (kids : List Node) (hcl : cleanList kids = true) :
    Operand ns vs (toXVars vs) (.elem tag attrs kids) (normPath frags)
      (.simple (fragments (normPath frags)) false) (.p []) :=
  operand_simple_supported ns vs _ (sstep_normPath frags hok) (List.length_pos_iff.mp (normPath_ne frags hok))
    tag attrs kids hcl

/-- GenericStrategy's step list for a supported spelling, in either mode: supported steps behind at most a `self::*`
    (so every node of a clean tree has `HitOk`), and position 0 stands at the root for the path the mode designates -/
theorem gSteps_spelling (ns : NsMap) (vs : Vars) (ic : Bool) (p : LocPath) (hp : ∀ s ∈ p, SStep s) (hne : p ≠ []) :
    (∀ root : Node, root.clean = true → AllNodes (HitOk ns vs (gSteps p ic)) root) ∧ StepsOk ns vs (gSteps p ic) ∧
    ∀ (tag : QName) (attrs : AttrList) (kids : List Node) (t : LNode),
      RR ns (toXVars vs) (gSteps p ic) 0 ⟨[], .elem tag attrs kids⟩ t
        = reach ns (toXVars vs) (modePath ic p) ⟨[], .elem tag attrs kids⟩ t := by
  have hS := stepsOk_of_sstep ns vs p hp hne
  cases ic with
  | false =>
    have ⟨h1, h2, h3⟩ := gSteps_relative ns vs p hS
    exact ⟨AllNodes.of_clean (hitOk_sstep ns vs _ fun s hs => (h2 s hs).imp_left (hp s)), h1, h3⟩
  | true =>
    obtain ⟨m1, m2⟩ := sstep_modePath true p hp hne
    rw [gSteps_sstep_pattern p hp]
    exact ⟨AllNodes.of_clean (hitOk_sstep ns vs _ fun s hs => Or.inl (m1 s hs)), stepsOk_of_sstep ns vs _ m1 m2,
      fun _ _ _ t => RR_patOf ns _ p _ t⟩

/-- GenericStrategy designates the same node set: the twin of `operand_simple_spelling`.  No hypothesis on the
    nodes beyond `clean`: supported tests look at nothing the event does not carry (`hitOk_sstep`). -/
theorem operand_generic_spelling (ns : NsMap) (vs : Vars) (ic : Bool) (p : LocPath) (hp : ∀ s ∈ p, SStep s)
    (hne : p ≠ []) (tag : QName) (attrs : AttrList) (kids : List Node) (hcl : cleanList kids = true) :
    Operand ns vs (toXVars vs) (.elem tag attrs kids) (modePath ic p) (.generic (gSteps p ic)) (.g gInit) := by
  obtain ⟨h1, h2, h3⟩ := gSteps_spelling ns vs ic p hp hne
  obtain ⟨m1, m2⟩ := sstep_modePath ic p hp hne
  exact operand_generic_hit ns vs _ h2 (.elem tag attrs kids) hcl (h1 _ hcl) _ (h3 tag attrs kids)
    (last_nonAttr m2 fun s hs => (m1 s hs).2.2)

/-- **SimplePathStrategy ≡ GenericStrategy on every supported spelling without an attribute step**, both
    modes, every element tree: two operands for the same path -/
theorem simple_eq_generic_run (ns : NsMap) (vs : Vars) (ic : Bool) (p : LocPath) (hp : ∀ s ∈ p, SStep s)
    (hne : p ≠ []) (tag : QName) (attrs : AttrList) (kids : List Node) (hcl : cleanList kids = true) :
    (runOne (pStep (fragments p) ic ns) [] (Node.elem tag attrs kids).flatten).1
      = (runOne (gStep (gSteps p ic) ns vs) gInit (Node.elem tag attrs kids).flatten).1 := by
  have := operands_agree ns vs _ _ _ _ _ _ _ _ (operand_simple_spelling ns vs ic p hp hne tag attrs kids hcl)
    (operand_generic_spelling ns vs ic p hp hne tag attrs kids hcl) fun _ => rfl
  rwa [runTest_simpleL, runTest_genericL] at this

/-- a path the driver reports as in the scope of the spelling theorems satisfies their hypotheses -/
theorem allSStepM_sound (p : LocPath) (h : FragsM.allSStepM p = true) : (∀ s ∈ p, SStep s) ∧ p ≠ [] := by
  simp only [FragsM.allSStepM, Bool.and_eq_true, Bool.not_eq_true', List.all_eq_true] at h
  refine ⟨fun s hs => ?_, by intro hp; rw [hp] at h; simp at h⟩
  have := h.2 s hs
  simp only [FragsM.sstepM, Bool.and_eq_true, bne_iff_ne, ne_eq, List.isEmpty_iff] at this
  exact ⟨this.1.1, by rw [← simpleTM_eq]; exact this.1.2, this.2⟩

end Genshi.Path.Frags

namespace Genshi.Path.Kmp
open Genshi Genshi.Path Genshi.Path.Frags

variable (ns : NsMap) (vs : Vars) in
/-- **SimplePathStrategy ≡ GenericStrategy on the KMP fragment.**  For `descendant::t1/…/tn`
    and `descendant-or-self::t1/…/tn` (= a leading `//t1/…/tn`), name / `text()` / `comment()`
    tests, relative mode, every element tree: the two strategies report the same result at
    every event. -/
theorem kmp_runs (ax0 : Axis) (hax : ax0 = .descendant ∨ ax0 = .descendantOrSelf)
    (tests : List NodeTest) (hne : tests ≠ []) (hs : Simple (Fof tests) tests.length)
    (tag : QName) (attrs : AttrList) (kids : List Node) (hcl : cleanList kids = true) :
    (runOne (pStep (fragments (fragPath ax0 tests)) false ns) [] (Node.elem tag attrs kids).flatten).1
      = (runOne (gStep (gSteps (fragPath ax0 tests) false) ns vs) gInit (Node.elem tag attrs kids).flatten).1 :=
  simple_eq_generic_run ns vs false _
    (sstep_fragPath ax0 (by rcases hax with rfl | rfl <;> simp) tests (mem_of_simple tests hs))
    (by obtain ⟨t0, ts, rfl⟩ := List.exists_cons_of_ne_nil hne; simp [fragPath]) tag attrs kids hcl

end Genshi.Path.Kmp
