/-
  GenericStrategy on paths with descendant / descendant-or-self / self steps whose
  predicates are not position tests: what it reports is `Ref.reach`.
-/
import Genshi.Lemmas.PathAbstract
import Genshi.Lemmas.PathReach
import Genshi.Lemmas.PathXp
import Genshi.Lemmas.PathAgree
namespace Genshi.Path
open Genshi Genshi.Path.Ref

section
variable (ns : NsMap) (vs : Vars)

def XVal.isNum : XVal → Bool
  | .num _ => true
  | _ => false

theorem xEval_isNum (p : Expr) (ht : p.typed ns vs = true) (n : Node) :
    XVal.isNum (xEval n ns (toXVars vs) p) = p.numTyped vs := by
  cases p with
  | var v =>
    simp only [Expr.typed] at ht
    cases hl : lookup v vs with
    | none => simp [hl] at ht
    | some w =>
      cases w with
      | bool b => simp [xEval, Expr.numTyped, hl, lookup_toXVars v vs _ (.bool b) hl rfl, XVal.isNum]
      | num x => simp [xEval, Expr.numTyped, hl, lookup_toXVars v vs _ (.num x) hl rfl, XVal.isNum]
      | str s => simp [xEval, Expr.numTyped, hl, lookup_toXVars v vs _ (.str s) hl rfl, XVal.isNum]
      | _ => simp [hl] at ht
  | fn0 f =>
    cases n with
    | elem t a k => cases f <;> rfl
    | leaf e => cases f <;> cases e <;> rfl
  | fn1 f a => cases f <;> rfl
  | fn2 f a b => cases f <;> rfl
  | fn3 f a b c => cases f <;> rfl
  | _ => rfl

theorem nonpositional_of_numTyped (s : Step) (htyped : ∀ q ∈ s.preds, q.typed ns vs = true)
    (hnn : ∀ q ∈ s.preds, q.numTyped vs = false) : NonPositional ns (toXVars vs) s := by
  intro q hq n pos
  have h := xEval_isNum ns vs q (htyped q hq) n
  rw [hnn q hq] at h
  unfold predHolds
  cases hv : xEval n ns (toXVars vs) q <;> simp_all [XVal.isNum]

theorem hitE_eq_hitR (s : Step) (hwf : s.test.elemWf ns) (htyped : ∀ q ∈ s.preds, q.typed ns vs = true)
    (hnn : ∀ q ∈ s.preds, q.numTyped vs = false) (c : LNode)
    (hok : nodeOk c.node) (htag : tagsOk c.node)
    (hleaf : match c.node with | .leaf e => e.isStartEnd = false | _ => True)
    (hab : ∀ q ∈ s.preds, q.absentFree (nodeEvent c.node) ns vs = true) :
    hitE ns vs s (nodeEvent c.node) = hitR ns (toXVars vs) s c := by
  unfold hitE hitR
  have h1 := mtest_eq_testNode s ns hwf c hleaf htag
  unfold mtest at h1
  rw [h1]
  congr 1
  apply all_congr_mem
  intro q hq
  rw [← predHoldsM_other ns vs q _ 0 (by rw [isNum_eval, hnn q hq]),
    predHoldsM_eq c.node hok ns vs q (htyped q hq) (hab q hq)]

theorem pushDescA_any (N : List Nat) (x : Nat) (f : Nat → Bool) :
    (pushDescA N x).any f = (N.any f || f x) := by
  rcases pushDescA_cases N x with h | ⟨ini, rfl, h⟩ <;> rw [h] <;> simp

section
variable (S : List Step) (c t : LNode)

/-- some child is reached from position `x` -/
def CH (x : Nat) : Bool := (childrenOf c).any fun k => RR ns (toXVars vs) S x k t

/-- some child is reached from one of the positions handed down -/
def CHN (N : List Nat) : Bool := (childrenOf c).any fun k => N.any fun y => RR ns (toXVars vs) S y k t

theorem CHN_append_one (N : List Nat) (y : Nat) : CHN ns vs S c t (N ++ [y]) = (CHN ns vs S c t N || CH ns vs S c t y) := by
  unfold CHN CH
  rw [← any_or]
  apply List.any_congr rfl
  intro k
  simp [List.any_append]

theorem CHN_pushDesc (N : List Nat) (x : Nat) :
    CHN ns vs S c t (pushDescA N x) = (CHN ns vs S c t N || CH ns vs S c t x) := by
  unfold CHN CH
  rw [← any_or]
  apply List.any_congr rfl
  intro k
  exact pushDescA_any N x _

/-- what a queue entry still stands for at node `c` -/
def Vq (en : AEntry) : Bool :=
  match S[en.1]? with
  | none => false
  | some s => (hitR ns (toXVars vs) s c && reach ns (toXVars vs) (S.drop (en.1 + 1)) c t) ||
      (en.2 && isDescLike s.axis && CH ns vs S c t en.1)

/-- the nodes designated by a loop state: by the queue, by `matched`, by `next_pos` -/
def Phi (Q : List AEntry) (a : AAcc) : Bool :=
  Q.any (Vq ns vs S c t) || (a.matched && c.loc == t.loc) || CHN ns vs S c t a.nextPos

theorem Vq_some (x : Nat) (fp : Bool) (s : Step) (hs : S[x]? = some s) :
    Vq ns vs S c t (x, fp) =
      ((hitR ns (toXVars vs) s c && reach ns (toXVars vs) (S.drop (x + 1)) c t) ||
        (fp && isDescLike s.axis && CH ns vs S c t x)) := by
  simp [Vq, hs]

theorem pushSelfA_any (q : List AEntry) (x1 : Nat)
    (hq : ∀ en ∈ q, x1 ≤ en.1) :
    (pushSelfA q x1).any (Vq ns vs S c t) = (Vq ns vs S c t (x1, false) || q.any (Vq ns vs S c t)) := by
  cases q with
  | nil => simp [pushSelfA]
  | cons en q' =>
    obtain ⟨x', fp⟩ := en
    simp only [pushSelfA]
    by_cases h : x' > x1
    · simp [h]
    · have hx : x' = x1 := by
        have := hq (x', fp) List.mem_cons_self
        simp only at this; omega
      subst hx
      simp only [h, if_false, List.any_cons]
      cases hs : S[x']? with
      | none => simp [Vq, hs]
      | some s =>
        rw [Vq_some ns vs S c t x' fp s hs, Vq_some ns vs S c t x' false s hs]
        generalize (hitR ns (toXVars vs) s c && reach ns (toXVars vs) (S.drop (x' + 1)) c t) = A
        generalize (isDescLike s.axis && CH ns vs S c t x') = B
        generalize List.any q' (Vq ns vs S c t) = C
        cases A <;> cases fp <;> cases B <;> cases C <;> rfl

/-- the loop invariant that is not about meaning: queue and `next_pos` are strictly
    ascending, inside the step list, `next_pos` stays below the queue, the fuel suffices -/
structure LInv (fuel : Nat) (Q : List AEntry) (N : List Nat) : Prop where
  qs : Q.Pairwise (fun a b => a.1 < b.1)
  qb : ∀ en ∈ Q, en.1 < S.length
  qf : ∀ en ∈ Q, S.length < fuel + en.1
  nsrt : N.Pairwise (· < ·)
  nb : ∀ y ∈ N, y < S.length
  nq : ∀ y ∈ N, ∀ en ∈ Q, y ≤ en.1

def NOut (N : List Nat) : Prop := N.Pairwise (· < ·) ∧ ∀ y ∈ N, y < S.length

end

theorem pushDescA_sorted (N : List Nat) (x : Nat) (hs : N.Pairwise (· < ·)) (hle : ∀ y ∈ N, y ≤ x) :
    (pushDescA N x).Pairwise (· < ·) := by
  rcases pushDescA_cases N x with h | ⟨ini, rfl, h⟩ <;> rw [h]
  · rcases List.eq_nil_or_snoc N with rfl | ⟨ini, l, rfl⟩
    · simp
    · have hlx : l ≠ x := by
        intro hl; subst hl
        have := congrArg List.length h
        simp [pushDescA] at this
      rw [List.pairwise_append]
      refine ⟨hs, by simp, fun y hy z hz => ?_⟩
      rw [List.mem_singleton.mp hz]
      have hlz := hle l (by simp)
      rcases List.mem_append.mp hy with h1 | h1
      · have := (List.pairwise_append.mp hs).2.2 y h1 l (by simp); omega
      · rw [List.mem_singleton.mp h1]; omega
  · exact hs

theorem pushSelfA_mem (q : List AEntry) (x1 : Nat) (en : AEntry) (h : en ∈ pushSelfA q x1) :
    en ∈ q ∨ en = (x1, false) := by
  cases q with
  | nil => simp [pushSelfA] at h; exact Or.inr h
  | cons e0 q' =>
    obtain ⟨x', fp⟩ := e0
    simp only [pushSelfA] at h
    split at h
    · rcases List.mem_cons.mp h with h1 | h1
      · exact Or.inr h1
      · exact Or.inl h1
    · exact Or.inl h

theorem pushSelfA_sorted (q : List AEntry) (x1 : Nat) (hs : q.Pairwise (fun a b => a.1 < b.1)) :
    (pushSelfA q x1).Pairwise (fun a b => a.1 < b.1) := by
  cases q with
  | nil => simp [pushSelfA]
  | cons e0 q' =>
    obtain ⟨x', fp⟩ := e0
    simp only [pushSelfA]
    split
    · rename_i hgt
      rw [List.pairwise_cons]
      refine ⟨?_, hs⟩
      intro en hen
      rcases List.mem_cons.mp hen with h1 | h1
      · subst h1; exact hgt
      · have := (List.pairwise_cons.mp hs).1 en h1
        simp only at this ⊢; omega
    · exact hs

section
variable (S : List Step) (c t : LNode)

theorem N1_props (N : List Nat) (x : Nat) (b : Bool) (hx : x < S.length)
    (hs : N.Pairwise (· < ·)) (hle : ∀ y ∈ N, y ≤ x) (hb : ∀ y ∈ N, y < S.length) :
    (if b = true then pushDescA N x else N).Pairwise (· < ·) ∧
    (∀ y ∈ (if b = true then pushDescA N x else N), y ≤ x) ∧
    (∀ y ∈ (if b = true then pushDescA N x else N), y < S.length) ∧
    CHN ns vs S c t (if b = true then pushDescA N x else N) = (CHN ns vs S c t N || (b && CH ns vs S c t x)) := by
  cases b with
  | false => simp only [Bool.false_eq_true, if_false]; exact ⟨hs, hle, hb, by simp⟩
  | true =>
    simp only [if_true]
    refine ⟨pushDescA_sorted N x hs hle, ?_, ?_, by simp [CHN_pushDesc]⟩
    · intro y hy
      rcases (pushDescA_mem N x y).mp hy with h1 | h1
      · exact hle y h1
      · omega
    · intro y hy
      rcases (pushDescA_mem N x y).mp hy with h1 | h1
      · exact hb y h1
      · omega

theorem LInv_next (fuel : Nat) (q : List AEntry) (N1 : List Nat) (x : Nat) (b1 b2 : Bool)
    (hx1 : x + 1 < S.length) (hf : S.length < fuel + 1 + x)
    (hqs : q.Pairwise (fun a b => a.1 < b.1)) (hqgt : ∀ en ∈ q, x < en.1) (hqb : ∀ en ∈ q, en.1 < S.length)
    (hN1s : N1.Pairwise (· < ·)) (hN1le : ∀ y ∈ N1, y ≤ x) (hN1b : ∀ y ∈ N1, y < S.length) :
    LInv S fuel (if b1 = true then pushSelfA q (x + 1) else q) (if b2 = true then N1 ++ [x + 1] else N1) := by
  have hQmem : ∀ en ∈ (if b1 = true then pushSelfA q (x + 1) else q), en ∈ q ∨ en = (x + 1, false) := by
    intro en hen
    cases b1 with
    | false => exact Or.inl (by simpa using hen)
    | true => exact pushSelfA_mem q (x + 1) en (by simpa using hen)
  have hNmem : ∀ y ∈ (if b2 = true then N1 ++ [x + 1] else N1), y ∈ N1 ∨ y = x + 1 := by
    intro y hy
    cases b2 with
    | false => exact Or.inl (by simpa using hy)
    | true => simpa using hy
  refine ⟨?_, ?_, ?_, ?_, ?_, ?_⟩
  · cases b1 with
    | false => simpa using hqs
    | true =>
      simp only [if_true]
      exact pushSelfA_sorted q (x + 1) hqs
  · intro en hen
    rcases hQmem en hen with h1 | h1
    · exact hqb en h1
    · subst h1; exact hx1
  · intro en hen
    rcases hQmem en hen with h1 | h1
    · have := hqgt en h1; omega
    · subst h1; simp only; omega
  · cases b2 with
    | false => simpa using hN1s
    | true =>
      simp only [if_true]
      rw [List.pairwise_append]
      refine ⟨hN1s, by simp, ?_⟩
      intro y hy z hz
      simp at hz; subst hz
      have := hN1le y hy; omega
  · intro y hy
    rcases hNmem y hy with h1 | h1
    · exact hN1b y h1
    · omega
  · intro y hy en hen
    have hy' : y ≤ x + 1 := by
      rcases hNmem y hy with h1 | h1
      · have := hN1le y h1; omega
      · omega
    rcases hQmem en hen with h1 | h1
    · have := hqgt en h1; omega
    · subst h1; exact hy'

end

section
variable (S : List Step) (c t : LNode)

/-- the remaining steps, seen from a node that passed step `x`: the next step is taken at the
    node itself (`self`, `descendant-or-self`) or by its children (every axis but `self`) -/
theorem reach_advance (x : Nat) (s' : Step) (hs' : S[x + 1]? = some s')
    (hna : s'.axis ≠ .attribute) (hnp : NonPositional ns (toXVars vs) s') :
    reach ns (toXVars vs) (S.drop (x + 1)) c t =
      (((s'.axis == .descendantOrSelf || s'.axis == .self) &&
          (hitR ns (toXVars vs) s' c && reach ns (toXVars vs) (S.drop (x + 1 + 1)) c t)) ||
       ((s'.axis != .self) && CH ns vs S c t (x + 1))) := by
  rw [reach_drop ns (toXVars vs) S (x + 1) s' hs' hnp hna c t,
    RR_unfold ns (toXVars vs) S (x + 1) s' hs' hnp hna c t]
  unfold CH
  generalize (hitR ns (toXVars vs) s' c && reach ns (toXVars vs) (S.drop (x + 1 + 1)) c t) = G
  generalize ((childrenOf c).any fun k => RR ns (toXVars vs) S (x + 1) k t) = H
  cases hax : s'.axis with
  | «attribute» => exact absurd hax hna
  | _ => cases G <;> cases H <;> rfl

theorem any_pushSelfA_ite (b : Bool) (q : List AEntry) (x1 : Nat) (hq : ∀ en ∈ q, x1 ≤ en.1) :
    (if b = true then pushSelfA q x1 else q).any (Vq ns vs S c t)
      = ((b && Vq ns vs S c t (x1, false)) || q.any (Vq ns vs S c t)) := by
  cases b with
  | false => rfl
  | true => exact pushSelfA_any ns vs S c t q x1 hq

theorem CHN_append_ite (b : Bool) (N : List Nat) (y : Nat) :
    CHN ns vs S c t (if b = true then N ++ [y] else N) = (CHN ns vs S c t N || (b && CH ns vs S c t y)) := by
  cases b with
  | false => simp
  | true => exact CHN_append_one ns vs S c t N y

theorem Phi_advance (q : List AEntry) (N N1 : List Nat) (m fp : Bool) (x : Nat) (s s' : Step)
    (hs : S[x]? = some s) (hs' : S[x + 1]? = some s')
    (hna : s'.axis ≠ .attribute) (hnp : NonPositional ns (toXVars vs) s')
    (hh : hitR ns (toXVars vs) s c = true)
    (hqgt : ∀ en ∈ q, x < en.1)
    (hN1 : CHN ns vs S c t N1 = (CHN ns vs S c t N || ((isDescLike s.axis && fp) && CH ns vs S c t x))) :
    Phi ns vs S c t ((x, fp) :: q) ⟨N, m⟩ =
      Phi ns vs S c t
        (if (s'.axis == .descendantOrSelf || s'.axis == .self) = true then pushSelfA q (x + 1) else q)
        ⟨if (s'.axis != .self) = true then N1 ++ [x + 1] else N1, m⟩ := by
  unfold Phi
  rw [List.any_cons, Vq_some ns vs S c t x fp s hs, hh, reach_advance ns vs S c t x s' hs' hna hnp,
    any_pushSelfA_ite ns vs S c t _ q (x + 1) (fun en hen => hqgt en hen), CHN_append_ite, hN1,
    Vq_some ns vs S c t (x + 1) false s' hs']
  simp only [Bool.true_and, Bool.false_and, Bool.or_false]
  ac_rfl

/-- the `while pos_queue` loop keeps designating the same nodes (`Phi`), and hands a sorted
    `next_pos` to the children -/
theorem aLoop_sem (e : Event)
    (hna : ∀ s ∈ S, s.axis ≠ .attribute)
    (hnp : ∀ s ∈ S, NonPositional ns (toXVars vs) s)
    (hhit : ∀ s ∈ S, hitE ns vs s e = hitR ns (toXVars vs) s c) :
    ∀ (fuel : Nat) (Q : List AEntry) (a : AAcc), LInv S fuel Q a.nextPos →
      Phi ns vs S c t Q a = Phi ns vs S c t [] (aLoop ns vs S S.length e fuel Q a) ∧
      NOut S (aLoop ns vs S S.length e fuel Q a).nextPos := by
  intro fuel
  induction fuel with
  | zero =>
    intro Q a h
    cases Q with
    | nil => exact ⟨by simp [aLoop], h.nsrt, h.nb⟩
    | cons en q =>
      have h1 := h.qb en List.mem_cons_self
      have h2 := h.qf en List.mem_cons_self
      omega
  | succ fuel ih =>
    intro Q a h
    cases Q with
    | nil => exact ⟨by simp [aLoop], h.nsrt, h.nb⟩
    | cons en q =>
      obtain ⟨x, fp⟩ := en
      obtain ⟨N, m⟩ := a
      have hx : x < S.length := h.qb (x, fp) List.mem_cons_self
      have hfx : S.length < fuel + 1 + x := h.qf (x, fp) List.mem_cons_self
      obtain ⟨s, hs⟩ : ∃ s, S[x]? = some s := ⟨S[x], List.getElem?_eq_getElem hx⟩
      have hmem : s ∈ S := List.mem_of_getElem? hs
      have hqgt : ∀ en ∈ q, x < en.1 := fun en hen => (List.pairwise_cons.mp h.qs).1 en hen
      have hqs : q.Pairwise (fun a b => a.1 < b.1) := (List.pairwise_cons.mp h.qs).2
      have hqb : ∀ en ∈ q, en.1 < S.length := fun en hen => h.qb en (List.mem_cons_of_mem _ hen)
      obtain ⟨hN1s, hN1le, hN1b, hN1c⟩ := N1_props ns vs S c t N x (isDescLike s.axis && fp) hx h.nsrt
        (fun y hy => h.nq y hy (x, fp) List.mem_cons_self) h.nb
      have hinv1 : LInv S fuel q (if (isDescLike s.axis && fp) = true then pushDescA N x else N) :=
        ⟨hqs, hqb, fun en hen => by have := hqgt en hen; omega, hN1s, hN1b,
          fun y hy en hen => by have := hN1le y hy; have := hqgt en hen; omega⟩
      simp only [aLoop, hs, hhit s hmem]
      generalize (if (isDescLike s.axis && fp) = true then pushDescA N x else N) = N1 at *
      cases hh : hitR ns (toXVars vs) s c with
      | false =>
        simp only [Bool.not_false, if_true]
        obtain ⟨e1, e2⟩ := ih q ⟨N1, m⟩ hinv1
        refine ⟨?_, e2⟩
        rw [← e1]
        unfold Phi
        simp only [List.any_cons]
        rw [Vq_some ns vs S c t x fp s hs, hh, hN1c]
        simp only [Bool.false_and, Bool.false_or]
        ac_rfl
      | true =>
        simp only [Bool.not_true, Bool.false_eq_true, if_false]
        by_cases hl : (x + 1 == S.length) = true
        · simp only [hl, if_true]
          obtain ⟨e1, e2⟩ := ih q ⟨N1, true⟩ hinv1
          refine ⟨?_, e2⟩
          rw [← e1]
          have hend : S[x + 1]? = none := by
            have : x + 1 = S.length := by simpa using hl
            simp [this]
          unfold Phi
          simp only [List.any_cons]
          rw [Vq_some ns vs S c t x fp s hs, hh, hN1c, reach_drop_end ns (toXVars vs) S (x + 1) hend]
          -- `matched` becomes true; where it was true already, `c.loc == t.loc` occurs twice
          generalize (c.loc == t.loc) = C
          cases m <;> cases C <;>
            simp only [Bool.true_and, Bool.false_and, Bool.and_false, Bool.true_or, Bool.or_true, Bool.false_or,
              Bool.or_false] <;> ac_rfl
        · simp only [hl, Bool.false_eq_true, if_false]
          have hx1 : x + 1 < S.length := by
            have : x + 1 ≠ S.length := by simpa using hl
            omega
          obtain ⟨s', hs'⟩ : ∃ s', S[x + 1]? = some s' := ⟨S[x + 1], List.getElem?_eq_getElem hx1⟩
          have hmem' : s' ∈ S := List.mem_of_getElem? hs'
          simp only [hs', Option.map_some, Option.getD_some]
          have hinv2 := LInv_next S fuel q N1 x (s'.axis == .descendantOrSelf || s'.axis == .self) (s'.axis != .self)
            hx1 hfx hqs hqgt hqb hN1s hN1le hN1b
          obtain ⟨e1, e2⟩ := ih _ ⟨if (s'.axis != .self) = true then N1 ++ [x + 1] else N1, m⟩ hinv2
          refine ⟨?_, e2⟩
          rw [← e1]
          exact Phi_advance ns vs S c t q N N1 m fp x s s' hs hs' (hna s' hmem') (hnp s' hmem') hh hqgt hN1c

end

/-- a node property that depends on the node only, for all steps of `S` -/
def HitOk (S : List Step) (n : Node) : Prop :=
  ∀ s ∈ S, ∀ loc : List Nat, hitE ns vs s (nodeEvent n) = hitR ns (toXVars vs) s ⟨loc, n⟩

section
variable (S : List Step)

/-- the loop at the event of node `c`, started from the positions handed down by the parent -/
theorem aVisit (hna : ∀ s ∈ S, s.axis ≠ .attribute) (hnp : ∀ s ∈ S, NonPositional ns (toXVars vs) s)
    (c : LNode) (hhit : HitOk ns vs S c.node) (P : List Nat) (hP : NOut S P) (fuel : Nat) (hfuel : S.length < fuel) :
    NOut S (aLoop ns vs S S.length (nodeEvent c.node) fuel (P.map fun x => (x, true)) ⟨[], false⟩).nextPos ∧
    ∀ t : LNode, P.any (fun x => RR ns (toXVars vs) S x c t) =
      (((aLoop ns vs S S.length (nodeEvent c.node) fuel (P.map fun x => (x, true)) ⟨[], false⟩).matched && c.loc == t.loc) ||
        CHN ns vs S c t (aLoop ns vs S S.length (nodeEvent c.node) fuel (P.map fun x => (x, true)) ⟨[], false⟩).nextPos) := by
  have hinv : LInv S fuel (P.map fun x => ((x, true) : AEntry)) [] := by
    refine ⟨?_, ?_, ?_, by simp, by simp, by simp⟩
    · rw [List.pairwise_map]; exact hP.1
    · intro en hen
      simp only [List.mem_map] at hen
      obtain ⟨x, hx, rfl⟩ := hen
      exact hP.2 x hx
    · intro en hen; omega
  have hh : ∀ s ∈ S, hitE ns vs s (nodeEvent c.node) = hitR ns (toXVars vs) s c := fun s hs => hhit s hs c.loc
  refine ⟨(aLoop_sem ns vs S c c (nodeEvent c.node) hna hnp hh fuel _ ⟨[], false⟩ hinv).2, fun t => ?_⟩
  have h1 := (aLoop_sem ns vs S c t (nodeEvent c.node) hna hnp hh fuel _ ⟨[], false⟩ hinv).1
  have hstart : Phi ns vs S c t (P.map fun x => ((x, true) : AEntry)) ⟨[], false⟩
      = P.any (fun x => RR ns (toXVars vs) S x c t) := by
    unfold Phi CHN
    simp only [List.any_map, List.any_nil, Bool.false_and, Bool.or_false]
    have : ((childrenOf c).any fun _ => false) = false := by
      induction childrenOf c with
      | nil => rfl
      | cons _ _ ih => simp [ih]
    rw [this, Bool.or_false]
    apply any_congr_mem
    intro x hx
    have hxl := hP.2 x hx
    obtain ⟨s, hs⟩ : ∃ s, S[x]? = some s := ⟨S[x], List.getElem?_eq_getElem hxl⟩
    have hmem : s ∈ S := List.mem_of_getElem? hs
    simp only [Function.comp]
    rw [Vq_some ns vs S c t x true s hs, RR_unfold ns (toXVars vs) S x s hs (hnp s hmem) (hna s hmem) c t]
    simp [isDescLike, CH]
  rw [← hstart, h1]
  simp [Phi]

theorem aStep_run (F : Nat) (P : List Nat) (A : AState) (e : Event) (he : e.isEnd = false) (hm : e.isNsOrCdata = false) :
    aStep ns vs S F (P :: A) e =
      let acc := aLoop ns vs S (realLen S) e (2 * F + (P.map fun x => ((x, true) : AEntry)).length + 2)
        (P.map fun x => (x, true)) ⟨[], false⟩
      (if e.isStart then acc.nextPos :: P :: A else P :: A, if acc.matched then .bool true else .none) := by
  simp [aStep, he, hm]

theorem aStep_end (F : Nat) (st : AState) (tg : QName) : aStep ns vs S F st (.end_ tg) = (st.drop 1, .none) := by
  simp [aStep, Event.isEnd]

end

mutual
  /-- the abstract matcher over the events of a tree, started with the positions `P` for its
      root: the stack is restored, and the marked nodes are those reached from `P` -/
  theorem aTree (ns : NsMap) (vs : Vars) (S : List Step) (F : Nat) (hF : S.length ≤ F) (hrl : realLen S = S.length) (hna : ∀ s ∈ S, s.axis ≠ .attribute)
      (hnp : ∀ s ∈ S, NonPositional ns (toXVars vs) s) :
      ∀ (n : Node), n.clean = true → AllNodes (HitOk ns vs S) n → ∀ (loc : List Nat) (P : List Nat) (A : AState),
        NOut S P →
        (runOne (aStep ns vs S F) (P :: A) n.flatten).2 = P :: A ∧
        ∀ t : LNode, selB (runOne (aStep ns vs S F) (P :: A) n.flatten).1 (eventLocs n loc) t.loc
          = P.any fun x => RR ns (toXVars vs) S x ⟨loc, n⟩ t
    | .elem tg ats ks, hcl, hall, loc, P, A, hP => by
        have hv := aVisit ns vs S hna hnp ⟨loc, .elem tg ats ks⟩ hall.1 P hP
          (2 * F + (P.map fun x => ((x, true) : AEntry)).length + 2) (by omega)
        have hrun := aStep_run ns vs S F P A (.start tg ats) rfl rfl
        rw [hrl] at hrun
        simp only [Event.isStart, if_true] at hrun
        simp only [nodeEvent] at hv
        have hk := aTreeList ns vs S F hF hrl hna hnp ks (by simpa [Node.clean] using hcl) hall.2 loc 0 _ (P :: A) hv.1
        simp only [Node.flatten, eventLocs, runOne_cons, runOne_append]
        rw [hrun]
        simp only []
        rw [hk.1]
        refine ⟨by simp [runOne, aStep_end], fun t => ?_⟩
        rw [selB_cons, selB_append _ _ _ _ (by rw [runOne_length, eventLocsList_length]), hk.2 t, hv.2 t]
        simp [runOne, aStep_end, selB, matched, CHN, childrenOf, Val.truthy]
        cases (aLoop ns vs S S.length (Event.start tg ats) (2 * F + P.length + 2)
          (List.map (fun x => (x, true)) P) ⟨[], false⟩).matched <;> simp
    | .leaf e, hcl, hall, loc, P, A, hP => by
        simp only [Node.clean, Bool.and_eq_true, Bool.not_eq_true'] at hcl
        obtain ⟨hend, hstart⟩ := isEnd_of_not_startEnd hcl.1
        have hv := aVisit ns vs S hna hnp ⟨loc, .leaf e⟩ hall P hP
          (2 * F + (P.map fun x => ((x, true) : AEntry)).length + 2) (by omega)
        have hrun := aStep_run ns vs S F P A e hend hcl.2
        rw [hrl] at hrun
        simp only [hstart, Bool.false_eq_true, if_false] at hrun
        simp only [nodeEvent] at hv
        simp only [Node.flatten, eventLocs, runOne_cons, hrun]
        refine ⟨by simp [runOne], fun t => ?_⟩
        rw [hv.2 t]
        simp [runOne, selB, matched, CHN, childrenOf]
        cases (aLoop ns vs S S.length e (2 * F + P.length + 2)
          (List.map (fun x => (x, true)) P) ⟨[], false⟩).matched <;> simp [Val.truthy]
  theorem aTreeList (ns : NsMap) (vs : Vars) (S : List Step) (F : Nat) (hF : S.length ≤ F) (hrl : realLen S = S.length) (hna : ∀ s ∈ S, s.axis ≠ .attribute)
      (hnp : ∀ s ∈ S, NonPositional ns (toXVars vs) s) :
      ∀ (ks : List Node), cleanList ks = true → AllList (HitOk ns vs S) ks → ∀ (loc : List Nat) (i : Nat)
        (N : List Nat) (A : AState), NOut S N →
        (runOne (aStep ns vs S F) (N :: A) (flattenList ks)).2 = N :: A ∧
        ∀ t : LNode, selB (runOne (aStep ns vs S F) (N :: A) (flattenList ks)).1 (eventLocsList ks loc i) t.loc
          = ((ks.zipIdx i).map fun (k, j) => (⟨loc ++ [j], k⟩ : LNode)).any
              fun k => N.any fun y => RR ns (toXVars vs) S y k t
    | [], _, _, loc, i, N, A, _ => by simp [Genshi.flattenList, eventLocsList, runOne, selB, matched]
    | k :: ks, hcl, hall, loc, i, N, A, hN => by
        simp only [cleanList, Bool.and_eq_true] at hcl
        have h1 := aTree ns vs S F hF hrl hna hnp k hcl.1 hall.1 (loc ++ [i]) N A hN
        have h2 := aTreeList ns vs S F hF hrl hna hnp ks hcl.2 hall.2 loc (i + 1) N A hN
        simp only [Genshi.flattenList, eventLocsList, runOne_append]
        rw [h1.1]
        refine ⟨h2.1, fun t => ?_⟩
        rw [selB_append _ _ _ _ (by rw [runOne_length, eventLocs_length]), h1.2 t, h2.2 t]
        simp [List.zipIdx_cons]
end

/-- the static hypotheses on a step list without position tests -/
structure StepsOk (S : List Step) : Prop where
  ne : 0 < S.length
  na : ∀ s ∈ S, s.axis ≠ .attribute
  wf : ∀ s ∈ S, s.test.elemWf ns
  typed : ∀ s ∈ S, ∀ q ∈ s.preds, q.typed ns vs = true
  nonpos : ∀ s ∈ S, ∀ q ∈ s.preds, q.numTyped vs = false

theorem StepsOk.cons {S : List Step} (h : StepsOk ns vs S) (s : Step) (ha : s.axis ≠ .attribute)
    (hw : s.test.elemWf ns) (hp : s.preds = []) : StepsOk ns vs (s :: S) :=
  ⟨Nat.succ_pos _, List.forall_mem_cons.2 ⟨ha, h.na⟩, List.forall_mem_cons.2 ⟨hw, h.wf⟩,
    List.forall_mem_cons.2 ⟨fun q hq => (by rw [hp] at hq; cases hq), h.typed⟩,
    List.forall_mem_cons.2 ⟨fun q hq => (by rw [hp] at hq; cases hq), h.nonpos⟩⟩

/-- the static hypotheses ask of a step only its test and predicates, and that its axis is not `attribute`: they
    carry over to every non-empty list of such steps taken from `S` -/
theorem StepsOk.of_like {S S' : List Step} (h : StepsOk ns vs S) (hne : S' ≠ [])
    (hl : ∀ s' ∈ S', s'.axis ≠ .attribute ∧ ∃ s ∈ S, s'.test = s.test ∧ s'.preds = s.preds) : StepsOk ns vs S' := by
  refine ⟨List.length_pos_iff.mpr hne, fun s' hs' => (hl s' hs').1, fun s' hs' => ?_, fun s' hs' => ?_, fun s' hs' => ?_⟩ <;>
    obtain ⟨_, s, hs, ht, hp⟩ := hl s' hs'
  · rw [ht]; exact h.wf s hs
  · rw [hp]; exact h.typed s hs
  · rw [hp]; exact h.nonpos s hs

/-- of the path, the node hypotheses mention the predicates only -/
theorem NodeFor.weaken {p p' : LocPath} (hsub : ∀ s ∈ p', ∀ q ∈ s.preds, ∃ s0 ∈ p, q ∈ s0.preds) {n : Node}
    (h : NodeFor p ns vs n) : NodeFor p' ns vs n :=
  ⟨h.1, h.2.1, h.2.2.1, fun s hs q hq => let ⟨s0, hs0, hq0⟩ := hsub s hs q hq; h.2.2.2 s0 hs0 q hq0⟩

theorem nodeFor_weaken {p p' : LocPath} (hsub : ∀ s ∈ p', ∀ q ∈ s.preds, ∃ s0 ∈ p, q ∈ s0.preds) (n : Node)
    (h : AllNodes (NodeFor p ns vs) n) : AllNodes (NodeFor p' ns vs) n :=
  AllNodes.imp (fun _ hn => hn.weaken ns vs hsub) n h

theorem StepsOk.realLen {S : List Step} (h : StepsOk ns vs S) : realLen S = S.length :=
  realLen_of_no_attr S h.na

theorem StepsOk.lastResult {S : List Step} (h : StepsOk ns vs S) (e : Event) : lastResult S e ns = .bool true :=
  lastResult_of_no_attr S h.na e ns

theorem StepsOk.noPositional {S : List Step} (h : StepsOk ns vs S) : NoPositional ns vs S :=
  fun s hs q hq e => by rw [isNum_eval, h.nonpos s hs q hq]

theorem StepsOk.hitOk {S : List Step} (h : StepsOk ns vs S) (n : Node) (hn : NodeFor S ns vs n) :
    HitOk ns vs S n := by
  intro s hs loc
  obtain ⟨hok, htag, hleaf, hab⟩ := hn
  exact hitE_eq_hitR ns vs s (h.wf s hs) (h.typed s hs) (h.nonpos s hs) ⟨loc, n⟩ hok htag
    (by cases n <;> simp_all) (hab s hs)

/-- without position tests GenericStrategy on `full` — the steps `S`, or `S` followed by an attribute step — is the
    position machine on `S`, gated by the value of the last step -/
theorem generic_eq_aStep (S : List Step) (h : StepsOk ns vs S) (full : List Step) (hr : realLen full = S.length)
    (htake : full.take S.length = S) (es : List Event) :
    (runOne (gStep full ns vs) gInit es).1
      = List.zipWith (fun e v => gate (lastResult full e ns) v) es (runOne (aStep ns vs S full.length) [[0]] es).1 := by
  have hnpm : NoPositional ns vs (full.take (realLen full)) := by
    rw [hr, htake]
    exact h.noPositional ns vs
  have := generic_eq_abstract ns vs full (by rw [hr, htake, h.realLen]) hnpm (by rw [hr]; exact h.ne) es
  rwa [hr, htake] at this

/-- the position machine on `S`, started at position 0 for the root, marks the nodes the reference semantics reaches
    from the root with `S` (first step taken as a test of the root itself), whatever fuel `F ≥ |S|` its loop is given.
    Of the nodes only `HitOk` is used: each step is hit by a node's event exactly when it holds of the node. -/
theorem aStep_marks (S : List Step) (h : StepsOk ns vs S) (F : Nat) (hF : S.length ≤ F) (root : Node)
    (hcl : root.clean = true) (hhit : AllNodes (HitOk ns vs S) root) (t : LNode) :
    selB (runOne (aStep ns vs S F) [[0]] root.flatten).1 (eventLocs root []) t.loc
      = RR ns (toXVars vs) S 0 ⟨[], root⟩ t := by
  have hnpr : ∀ s ∈ S, NonPositional ns (toXVars vs) s :=
    fun s hs => nonpositional_of_numTyped ns vs s (h.typed s hs) (h.nonpos s hs)
  rw [(aTree ns vs S F hF (h.realLen ns vs) h.na hnpr root hcl hhit [] [0] []
    ⟨by simp, by intro y hy; simp at hy; subst hy; exact h.ne⟩).2 t]
  simp

/-- **GenericStrategy without position tests.**  Over the events of an element tree the
    matcher reports `True` exactly at the nodes the reference semantics reaches from the root
    with the step list. -/
theorem generic_marks_hit (S : List Step) (h : StepsOk ns vs S) (root : Node) (hcl : root.clean = true)
    (hhit : AllNodes (HitOk ns vs S) root) (t : LNode) :
    selB (runOne (gStep S ns vs) gInit root.flatten).1 (eventLocs root []) t.loc
      = RR ns (toXVars vs) S 0 ⟨[], root⟩ t := by
  rw [generic_eq_aStep ns vs S h S (h.realLen ns vs) List.take_length,
    show (fun e v => gate (lastResult S e ns) v) = fun (_ : Event) v => gate (.bool true) v from
      funext fun e => by rw [h.lastResult ns vs e],
    zipWith_gate_true]
  exact aStep_marks ns vs S h _ (Nat.le_refl _) root hcl hhit t

theorem generic_nonpos_marks (S : List Step) (h : StepsOk ns vs S) (root : Node) (hcl : root.clean = true)
    (hnodes : AllNodes (NodeFor S ns vs) root) (t : LNode) :
    selB (runOne (gStep S ns vs) gInit root.flatten).1 (eventLocs root []) t.loc
      = RR ns (toXVars vs) S 0 ⟨[], root⟩ t :=
  generic_marks_hit ns vs S h root hcl (AllNodes.imp (fun n hn => h.hitOk ns vs n hn) root hnodes) t

end
end Genshi.Path
