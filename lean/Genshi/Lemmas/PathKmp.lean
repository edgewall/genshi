/-
  The combinatorics behind SimplePathStrategy's KMP matching: prefixes of the fragment that
  are suffixes of the text read so far, borders, the failure function `calculate_pi`, and the
  back-stepping loop that both `calculate_pi` and the matcher run.
-/
import Genshi.Model.PathStrategy
import Genshi.Lemmas.ListBasics
namespace Genshi.Path.Kmp
open Genshi Genshi.Path

/-- the node tests SimplePathStrategy supports -/
def simpleT : NodeTest → Bool
  | .localName false _ | .comment | .text => true
  | _ => false

theorem simpleT_cases (t : NodeTest) (h : simpleT t = true) :
    (∃ n, t = .localName false n) ∨ t = .comment ∨ t = .text := by
  cases t with
  | localName b n => cases b <;> simp_all [simpleT]
  | comment => exact Or.inr (Or.inl rfl)
  | text => exact Or.inr (Or.inr rfl)
  | _ => simp [simpleT] at h

/-- what `nodes_equal` compares: the class of the test and, for a plain name, the name -/
def shape : NodeTest → Nat × Str
  | .principal _ => (0, [])
  | .qprincipal _ _ => (1, [])
  | .localName _ a => (2, a)
  | .qname _ _ _ => (3, [])
  | .comment => (4, [])
  | .node => (5, [])
  | .pi _ => (6, [])
  | .text => (7, [])

theorem nodesEqual_iff (t u : NodeTest) : nodesEqual t u = true ↔ shape t = shape u := by
  cases t <;> cases u <;> simp [nodesEqual, shape]

theorem nodesEqual_refl (t : NodeTest) (h : simpleT t = true) : nodesEqual t t = true :=
  (nodesEqual_iff t t).2 rfl

theorem nodesEqual_symm (t u : NodeTest) (h : nodesEqual t u = true) : nodesEqual u t = true :=
  (nodesEqual_iff u t).2 ((nodesEqual_iff t u).1 h).symm

theorem nodesEqual_trans (t u v : NodeTest) (h1 : nodesEqual t u = true) (h2 : nodesEqual u v = true) :
    nodesEqual t v = true :=
  (nodesEqual_iff t v).2 (((nodesEqual_iff t u).1 h1).trans ((nodesEqual_iff u v).1 h2))

theorem nodesEqual_eq (t u : NodeTest) (ht : simpleT t = true) (hu : simpleT u = true)
    (h : nodesEqual t u = true) : t = u := by
  have hs := (nodesEqual_iff t u).1 h
  rcases simpleT_cases t ht with ⟨a, rfl⟩ | rfl | rfl <;> rcases simpleT_cases u hu with ⟨b, rfl⟩ | rfl | rfl <;>
    first | rfl | (cases hs; rfl) | cases hs

/-- a text symbol: which tests it satisfies -/
abbrev Sym := NodeTest → Bool

/-- a symbol treats equal tests alike, and tests satisfied by one symbol are equal -/
structure Compat (σ : Sym) : Prop where
  congr : ∀ t u, simpleT t = true → simpleT u = true → nodesEqual t u = true → σ t = σ u
  eqv : ∀ t u, simpleT t = true → simpleT u = true → σ t = true → σ u = true → nodesEqual t u = true

section
variable (F : Nat → NodeTest) (n : Nat)

/-- the prefix of length `b` of the fragment matches the last `b` symbols of the text
    (`τ k` = the symbol `k` steps back, `L` = length of the text) -/
def Suf (τ : Nat → Sym) (L b : Nat) : Prop :=
  b ≤ n ∧ b ≤ L ∧ ∀ i, i < b → τ (b - 1 - i) (F i) = true

theorem Suf.zero (τ : Nat → Sym) (L : Nat) : Suf F n τ L 0 := ⟨Nat.zero_le _, Nat.zero_le _, fun i hi => by omega⟩

/-- the text extended by one symbol -/
def push (σ : Sym) (τ : Nat → Sym) : Nat → Sym
  | 0 => σ
  | k + 1 => τ k

theorem Suf_push (σ : Sym) (τ : Nat → Sym) (L b : Nat) :
    Suf F n (push σ τ) (L + 1) (b + 1) ↔ (b < n ∧ σ (F b) = true ∧ Suf F n τ L b) := by
  constructor
  · rintro ⟨h1, h2, h3⟩
    refine ⟨by omega, ?_, by omega, by omega, ?_⟩
    · have := h3 b (by omega)
      simpa [push] using this
    · intro i hi
      have := h3 i (by omega)
      have e : b + 1 - 1 - i = (b - 1 - i) + 1 := by omega
      rw [e] at this
      simpa [push] using this
  · rintro ⟨h1, h2, h3, h4, h5⟩
    refine ⟨by omega, by omega, ?_⟩
    intro i hi
    by_cases hib : i = b
    · subst hib
      have e : i + 1 - 1 - i = 0 := by omega
      rw [e]; simpa [push] using h2
    · have e : b + 1 - 1 - i = (b - 1 - i) + 1 := by omega
      rw [e]
      simpa [push] using h5 i (by omega)

/-- the text "the first `q` tests of the fragment" -/
def selfText (q : Nat) : Nat → Sym := fun k t => nodesEqual t (F (q - 1 - k))

/-- `b` is the length of a proper border of the prefix of length `q` -/
def Bord (q b : Nat) : Prop := b < q ∧ Suf F n (selfText F q) q b

def CompatOn (τ : Nat → Sym) (L : Nat) : Prop := ∀ k, k < L → Compat (τ k)

/-- all tests of the fragment are supported ones -/
def Simple : Prop := ∀ i, i < n → simpleT (F i) = true

theorem compat_self (hs : Simple F n) (q : Nat) (hq : q ≤ n) : CompatOn (selfText F q) q := by
  intro k hk
  have hsF : simpleT (F (q - 1 - k)) = true := hs _ (by omega)
  constructor
  · intro t u _ _ htu
    simp only [selfText]
    cases h : nodesEqual u (F (q - 1 - k)) with
    | true => exact nodesEqual_trans _ _ _ htu h
    | false =>
      cases h' : nodesEqual t (F (q - 1 - k)) with
      | false => rfl
      | true =>
        have := nodesEqual_trans _ _ _ (nodesEqual_symm _ _ htu) h'
        rw [h] at this; cases this
  · intro t u _ _ h1 h2
    simp only [selfText] at h1 h2
    exact nodesEqual_trans _ _ _ h1 (nodesEqual_symm _ _ h2)

/-- a border of a matched prefix is matched -/
theorem Suf.of_bord (hs : Simple F n) (τ : Nat → Sym) (L : Nat) (hc : CompatOn τ L) (q b : Nat)
    (hq : Suf F n τ L q) (hb : Bord F n q b) : Suf F n τ L b := by
  obtain ⟨q1, q2, q3⟩ := hq
  obtain ⟨hbq, _, _, b3⟩ := hb
  refine ⟨by omega, by omega, ?_⟩
  intro i hi
  have h1 := b3 i hi                      -- F i ≈ F (q - 1 - (b - 1 - i))
  simp only [selfText] at h1
  have h2 := q3 (q - 1 - (b - 1 - i)) (by omega)
  have e : q - 1 - (q - 1 - (b - 1 - i)) = b - 1 - i := by omega
  rw [e] at h2
  have hcomp := hc (b - 1 - i) (by omega)
  rw [hcomp.congr (F i) (F (q - 1 - (b - 1 - i))) (hs _ (by omega)) (hs _ (by omega)) h1]
  exact h2

/-- two matched prefixes: the shorter is a border of the longer -/
theorem Bord.of_suf (hs : Simple F n) (τ : Nat → Sym) (L : Nat) (hc : CompatOn τ L) (q b : Nat)
    (hq : Suf F n τ L q) (hb : Suf F n τ L b) (hlt : b < q) : Bord F n q b := by
  obtain ⟨q1, q2, q3⟩ := hq
  obtain ⟨b1, b2, b3⟩ := hb
  refine ⟨hlt, by omega, by omega, ?_⟩
  intro i hi
  simp only [selfText]
  have h1 := b3 i hi
  have h2 := q3 (q - 1 - (b - 1 - i)) (by omega)
  have e : q - 1 - (q - 1 - (b - 1 - i)) = b - 1 - i := by omega
  rw [e] at h2
  exact (hc (b - 1 - i) (by omega)).eqv _ _ (hs _ (by omega)) (hs _ (by omega)) h1 h2

theorem Bord.trans (hs : Simple F n) (q b c : Nat) (hq : q ≤ n) (h1 : Bord F n q b) (h2 : Bord F n b c) :
    Bord F n q c :=
  ⟨by have := h1.1; have := h2.1; omega,
   Suf.of_bord F n hs (selfText F q) q (compat_self F n hs q hq) b c h1.2 h2⟩

theorem Bord.zero (q : Nat) (hq : 0 < q) : Bord F n q 0 := ⟨hq, Suf.zero F n _ _⟩

/-- `b` is the longest proper border of the prefix of length `q` -/
def IsLB (q b : Nat) : Prop := Bord F n q b ∧ ∀ c, Bord F n q c → c ≤ b

/-- the failure table is right for the prefixes of lengths `1 … m` -/
def PiOK (pi : List Nat) (m : Nat) : Prop :=
  ∀ q, 1 ≤ q → q ≤ m → IsLB F n q (pi.getD (q - 1) 0)

/-- the back-stepping loop shared by `calculate_pi` and the matcher:
    `while s > 0 and bad(s): s = pi[s-1]` -/
def back (pi : List Nat) (bad : Nat → Bool) : Nat → Nat → Nat
  | 0, s => s
  | fuel + 1, s => if s > 0 && bad s then back pi bad fuel (pi.getD (s - 1) 0) else s

/-- from a matched prefix `s0` that bounds all candidates, the loop finds the longest
    candidate that is good (or 0) -/
theorem back_spec (hs : Simple F n) (τ : Nat → Sym) (L : Nat) (hc : CompatOn τ L)
    (pi : List Nat) (m : Nat) (hm : m ≤ n) (hpi : PiOK F n pi m)
    (bad : Nat → Bool) (good cand : Nat → Prop)
    (hcand : ∀ b, cand b → Suf F n τ L b) :
    ∀ (fuel s0 : Nat), s0 < fuel → s0 ≤ m → Suf F n τ L s0 →
      (∀ s, s ≤ s0 → (bad s = true ↔ ¬ good s)) →
      (∀ b, cand b → good b → b ≤ s0) →
      Suf F n τ L (back pi bad fuel s0) ∧
      (∀ b, cand b → good b → b ≤ back pi bad fuel s0) ∧
      (0 < back pi bad fuel s0 → good (back pi bad fuel s0)) ∧
      back pi bad fuel s0 ≤ s0 := by
  intro fuel
  induction fuel with
  | zero => intro s0 h; omega
  | succ fuel ih =>
    intro s0 hfuel hs0m hsuf hbad hmax
    by_cases hgo : (decide (s0 > 0) && bad s0) = true
    · have hpos : 0 < s0 := by
        simp only [Bool.and_eq_true, decide_eq_true_eq] at hgo; exact hgo.1
      have hbd : bad s0 = true := by
        simp only [Bool.and_eq_true] at hgo; exact hgo.2
      have hng : ¬ good s0 := (hbad s0 (Nat.le_refl _)).mp hbd
      obtain ⟨hb1, hb2⟩ := hpi s0 hpos hs0m
      have hlt : pi.getD (s0 - 1) 0 < s0 := hb1.1
      have hrec := ih (pi.getD (s0 - 1) 0) (by omega) (by omega)
        (Suf.of_bord F n hs τ L hc s0 _ hsuf hb1)
        (fun s hs' => hbad s (by omega))
        (fun b hcb hgb => by
          have hle := hmax b hcb hgb
          have hne : b ≠ s0 := fun h => hng (h ▸ hgb)
          exact hb2 b (Bord.of_suf F n hs τ L hc s0 b hsuf (hcand b hcb) (by omega)))
      simp only [back, hgo, if_true]
      exact ⟨hrec.1, hrec.2.1, hrec.2.2.1, by have := hrec.2.2.2; omega⟩
    · simp only [back, hgo, Bool.false_eq_true, if_false]
      refine ⟨hsuf, hmax, ?_, Nat.le_refl _⟩
      intro hpos
      have hnb : bad s0 = false := by
        cases hb : bad s0 with
        | false => rfl
        | true => simp [hpos, hb] at hgo
      by_cases hg : good s0
      · exact hg
      · have := (hbad s0 (Nat.le_refl _)).mpr hg
        rw [hnb] at this; cases this

/-- what both uses of the back-stepping loop do next: where the loop stopped at a good candidate it is
    extended by one, otherwise nothing is matched; `Ext` is "matched" for the text extended by one symbol -/
theorem greatest_ext (Ext cand good : Nat → Prop) (bad : Nat → Bool) (s1 : Nat)
    (hext : ∀ b, Ext (b + 1) ↔ (cand b ∧ good b)) (h0 : Ext 0) (hbad : bad s1 = true ↔ ¬ good s1) (hc : cand s1)
    (h2 : ∀ b, cand b → good b → b ≤ s1) (h3 : 0 < s1 → good s1) :
    Ext (if bad s1 then s1 else s1 + 1) ∧ ∀ c, Ext c → c ≤ (if bad s1 then s1 else s1 + 1) := by
  cases hb : bad s1 with
  | false =>
    have hg : good s1 := Classical.not_not.mp fun h => by rw [hbad.mpr h] at hb; cases hb
    refine ⟨(hext s1).mpr ⟨hc, hg⟩, fun c hc' => ?_⟩
    cases c with
    | zero => exact Nat.zero_le _
    | succ b => exact Nat.succ_le_succ (h2 b ((hext b).mp hc').1 ((hext b).mp hc').2)
  | true =>
    have hng := hbad.mp hb
    have hz : s1 = 0 := Nat.eq_zero_of_not_pos fun hpos => hng (h3 hpos)
    subst hz
    refine ⟨h0, fun c hc' => ?_⟩
    cases c with
    | zero => exact Nat.le_refl _
    | succ b =>
      obtain ⟨g1, g2⟩ := (hext b).mp hc'
      obtain rfl : b = 0 := Nat.le_zero.mp (h2 b g1 g2)
      exact absurd g2 hng

/-- `p` is the longest prefix of the fragment matching the end of the text -/
def IsMax (τ : Nat → Sym) (L p : Nat) : Prop := Suf F n τ L p ∧ ∀ b, Suf F n τ L b → b ≤ p

/-- one matcher step: back-step from the longest matched prefix until the next test is
    satisfied by the new symbol, then advance — the result is the longest matched prefix of
    the extended text -/
theorem step_max (hs : Simple F n) (τ : Nat → Sym) (L : Nat) (hc : CompatOn τ L)
    (pi : List Nat) (hpi : PiOK F n pi n) (σ : Sym) (bad : Nat → Bool)
    (hbad : ∀ s, bad s = true ↔ ¬ (s < n ∧ σ (F s) = true))
    (p fuel : Nat) (hfuel : p < fuel) (hp : IsMax F n τ L p) :
    IsMax F n (push σ τ) (L + 1)
      (if bad (back pi bad fuel p) then back pi bad fuel p else back pi bad fuel p + 1) := by
  obtain ⟨h1, h2, h3, _⟩ := back_spec F n hs τ L hc pi n (Nat.le_refl _) hpi bad
    (fun b => b < n ∧ σ (F b) = true) (fun b => Suf F n τ L b) (fun b h => h)
    fuel p hfuel hp.1.1 hp.1 (fun s _ => hbad s) (fun b hb _ => hp.2 b hb)
  exact greatest_ext _ _ _ bad _ (fun b => by rw [Suf_push, ← and_assoc, and_comm]) (Suf.zero F n _ _) (hbad _) h1 h2 h3

theorem selfText_push (q : Nat) :
    selfText F q = push (fun t => nodesEqual t (F (q - 1))) (selfText F (q - 1)) := by
  funext k t
  cases k with
  | zero => simp [selfText, push]
  | succ k =>
    simp only [selfText, push]
    have : q - 1 - (k + 1) = q - 1 - 1 - k := by omega
    rw [this]

theorem bord_succ (m b : Nat) (hm : m < n) :
    Bord F n (m + 1) (b + 1) ↔ (Bord F n m b ∧ nodesEqual (F b) (F m) = true) := by
  unfold Bord
  rw [selfText_push F (m + 1)]
  simp only [Nat.add_sub_cancel]
  rw [Suf_push]
  constructor
  · rintro ⟨h1, h2, h3, h4⟩
    exact ⟨⟨by omega, h4⟩, h3⟩
  · rintro ⟨⟨h1, h2⟩, h3⟩
    exact ⟨by omega, by omega, h3, h2⟩

theorem pi_step (hs : Simple F n) (pi : List Nat) (m : Nat) (hm1 : 1 ≤ m) (hmn : m < n)
    (hpi : PiOK F n pi m) (fuel : Nat) (hfuel : pi.getD (m - 1) 0 < fuel) :
    let bad := fun x => !(nodesEqual (F x) (F m))
    let s1 := back pi bad fuel (pi.getD (m - 1) 0)
    IsLB F n (m + 1) (if bad s1 then s1 else s1 + 1) ∧ s1 ≤ pi.getD (m - 1) 0 := by
  intro bad s1
  obtain ⟨hlb1, hlb2⟩ := hpi m hm1 (Nat.le_refl _)
  obtain ⟨h1, h2, h3, h4⟩ := back_spec F n hs (selfText F m) m (compat_self F n hs m (by omega)) pi m (by omega) hpi
    bad (fun b => nodesEqual (F b) (F m) = true) (fun b => Bord F n m b) (fun b h => h.2)
    fuel (pi.getD (m - 1) 0) hfuel (by have := hlb1.1; omega) hlb1.2
    (fun s _ => by simp [bad]) (fun b hb _ => hlb2 b hb)
  exact ⟨greatest_ext _ _ _ bad s1 (fun b => bord_succ F n m b hmn) (Bord.zero F n _ (by omega)) (by simp [bad])
    ⟨by have := hlb1.1; omega, h1⟩ h2 h3, h4⟩

end

section
variable (f : List NodeTest)

/-- the fragment as a total function -/
def Fof : Nat → NodeTest := fun i => f.getD i .text

theorem getElem?_Fof (i : Nat) (hi : i < f.length) : f[i]? = some (Fof f i) := by
  simp [Fof, List.getD, List.getElem?_eq_getElem hi]

theorem simple_of_mem (h : ∀ t ∈ f, simpleT t = true) : Simple (Fof f) f.length :=
  fun i hi => h _ (List.mem_of_getElem? (getElem?_Fof f i hi))

theorem mem_of_simple (h : Simple (Fof f) f.length) : ∀ t ∈ f, simpleT t = true := by
  intro t ht
  obtain ⟨i, hi⟩ := List.getElem?_of_mem ht
  have hlt := (List.getElem?_eq_some_iff.mp hi).1
  rw [getElem?_Fof f i hlt] at hi
  cases hi
  exact h i hlt

theorem piBack_eq_back (pi : List Nat) (fi : NodeTest) : ∀ (fuel s : Nat),
    piBack f pi fi fuel s
      = back pi (fun x => !(match f[x]? with | some t => nodesEqual t fi | none => false)) fuel s := by
  intro fuel
  induction fuel with
  | zero => intro s; rfl
  | succ fuel ih =>
    intro s
    cases hfs : f[s]? <;> simp only [piBack, back, ih, hfs]

theorem back_congr (pi : List Nat) (bad bad' : Nat → Bool) : ∀ (fuel s : Nat),
    (∀ x, x ≤ s → bad x = bad' x) → (∀ x, 1 ≤ x → x ≤ s → pi.getD (x - 1) 0 < x) →
    back pi bad fuel s = back pi bad' fuel s := by
  intro fuel
  induction fuel with
  | zero => intro s _ _; rfl
  | succ fuel ih =>
    intro s h hdec
    simp only [back, h s (Nat.le_refl _)]
    split
    · rename_i hc
      have hpos : 0 < s := by
        simp only [Bool.and_eq_true, decide_eq_true_eq] at hc; exact hc.1
      have hlt := hdec s hpos (Nat.le_refl _)
      exact ih _ (fun x hx => h x (by omega)) (fun x h1 hx => hdec x h1 (by omega))
    · rfl

/-- the loop of `calculate_pi`, started on a table that is right for the first `m` tests with `s` its last
    entry, ends with a table that is right for the whole fragment (one round: `pi_step`) -/
theorem piLoop_ok (hs : Simple (Fof f) f.length) : ∀ (rest : List NodeTest) (pi : List Nat) (m : Nat),
    1 ≤ m → m ≤ f.length → pi.length = m → rest = f.drop m → PiOK (Fof f) f.length pi m →
    PiOK (Fof f) f.length (piLoop f rest pi (pi.getD (m - 1) 0)) f.length ∧
    (piLoop f rest pi (pi.getD (m - 1) 0)).length = f.length := by
  intro rest
  induction rest with
  | nil =>
    intro pi m hm1 hmn hlen hrest hpi
    have : m = f.length := by
      have := congrArg List.length hrest
      simp at this; omega
    subst this
    exact ⟨by simpa [piLoop] using hpi, by simpa [piLoop] using hlen⟩
  | cons fi rest ih =>
    intro pi m hm1 hmn hlen hrest hpi
    obtain ⟨hfm, hrest', _⟩ := drop_cons_info hrest.symm
    have hmlt : m < f.length := (List.getElem?_eq_some_iff.mp hfm).1
    have hfi : fi = Fof f m := by
      rw [getElem?_Fof f m hmlt] at hfm
      exact (Option.some.inj hfm).symm
    have hdec : ∀ x, 1 ≤ x → x ≤ pi.getD (m - 1) 0 → pi.getD (x - 1) 0 < x := by
      intro x h1 hx
      have hlb := (hpi m hm1 (Nat.le_refl _)).1.1
      exact (hpi x h1 (by omega)).1.1
    have hstep := pi_step (Fof f) f.length hs pi m hm1 hmlt hpi (pi.getD (m - 1) 0 + 1) (by omega)
    simp only at hstep
    -- the model's loop is the abstract one
    have hback : piBack f pi fi (pi.getD (m - 1) 0 + 1) (pi.getD (m - 1) 0)
        = back pi (fun x => !(nodesEqual (Fof f x) (Fof f m))) (pi.getD (m - 1) 0 + 1) (pi.getD (m - 1) 0) := by
      rw [piBack_eq_back]
      apply back_congr _ _ _ _ _ _ hdec
      intro x hx
      have hlb := (hpi m hm1 (Nat.le_refl _)).1.1
      rw [getElem?_Fof f x (by omega), hfi]
    simp only [piLoop, hback]
    generalize hs1 : back pi (fun x => !(nodesEqual (Fof f x) (Fof f m))) (pi.getD (m - 1) 0 + 1) (pi.getD (m - 1) 0) = s1 at *
    have hs1lt : s1 < f.length := by
      have := hstep.2
      have := (hpi m hm1 (Nat.le_refl _)).1.1
      omega
    rw [getElem?_Fof f s1 hs1lt, hfi]
    simp only
    have hnew : (if nodesEqual (Fof f s1) (Fof f m) = true then s1 + 1 else s1)
        = (if (!(nodesEqual (Fof f s1) (Fof f m))) = true then s1 else s1 + 1) := by
      cases nodesEqual (Fof f s1) (Fof f m) <;> simp
    rw [hnew]
    generalize hs' : (if (!(nodesEqual (Fof f s1) (Fof f m))) = true then s1 else s1 + 1) = s' at *
    have hget : (pi ++ [s']).getD (m + 1 - 1) 0 = s' := by
      simp only [List.getD_eq_getElem?_getD, Nat.add_sub_cancel]
      rw [List.getElem?_append_right (by omega)]
      simp [hlen]
    have hpi' : PiOK (Fof f) f.length (pi ++ [s']) (m + 1) := by
      intro q hq1 hqm
      by_cases hq : q ≤ m
      · have : (pi ++ [s']).getD (q - 1) 0 = pi.getD (q - 1) 0 := by
          simp only [List.getD_eq_getElem?_getD]
          rw [List.getElem?_append_left (by omega)]
        rw [this]; exact hpi q hq1 hq
      · have hqe : q = m + 1 := by omega
        subst hqe
        rw [hget]; exact hstep.1
    have := ih (pi ++ [s']) (m + 1) (by omega) (by omega) (by simp [hlen]) hrest'.symm hpi'
    rw [hget] at this
    exact this

/-- **`calculate_pi` computes the failure function**: entry `q-1` is the length of the
    longest proper border of the first `q` tests of the fragment -/
theorem calculatePi_ok (hne : f ≠ []) (hs : Simple (Fof f) f.length) :
    PiOK (Fof f) f.length (calculatePi f) f.length ∧ (calculatePi f).length = f.length := by
  cases hf : f with
  | nil => exact absurd hf hne
  | cons t rest =>
    rw [← hf]
    have h1 : PiOK (Fof f) f.length [0] 1 := by
      intro q hq1 hq
      have : q = 1 := by omega
      subst this
      exact ⟨Bord.zero _ _ 1 (by omega), fun c hc => by have := hc.1; omega⟩
    have := piLoop_ok f hs rest [0] 1 (by omega) (by rw [hf]; simp) rfl (by rw [hf]; rfl) h1
    simpa [calculatePi, hf] using this

end

theorem Fof_cons_zero (t0 : NodeTest) (ts : List NodeTest) : Fof (t0 :: ts) 0 = t0 := rfl

theorem Fof_cons_succ (t0 : NodeTest) (ts : List NodeTest) (i : Nat) : Fof (t0 :: ts) (i + 1) = Fof ts i := by
  simp [Fof, List.getD]

end Genshi.Path.Kmp
