/-
  SimplePathStrategy against GenericStrategy's position machine on one fragment matched with KMP
  (`descendant::t1/…/tn`, `descendant-or-self::t1/…/tn`): below any chain of ancestors the two report the
  same at every event (`kmp_tree`), from any pair of states that hold the longest matched prefix (`IsMax`)
  and one candidate position per matched prefix (`PosOK`).
-/
import Genshi.Lemmas.PathKmpStep
import Genshi.Lemmas.PathAbstract
import Genshi.Lemmas.PathTreeRun
import Genshi.Lemmas.PathFragsPath
namespace Genshi.Path.Kmp
open Genshi Genshi.Path

section
variable (ns : NsMap) (vs : Vars)

/-- no step after the first is on the self / descendant-or-self axis -/
def PlainNext (S : List Step) : Prop :=
  ∀ x s, S[x + 1]? = some s → s.axis = .child ∨ s.axis = .descendant

/-- one round of the position machine's loop on such a step list: nothing is queued; the position is kept for
    the children where its axis is descendant-like, and moved on by one where its step is hit -/
theorem aLoop_plain_cons (S : List Step) (hpl : PlainNext S) (e : Event) (x : Nat) (fp : Bool) (q : List AEntry)
    (fuel : Nat) (a : AAcc) (s : Step) (hs : S[x]? = some s) :
    ∃ (N : List Nat) (m : Bool),
      aLoop ns vs S S.length e (fuel + 1) ((x, fp) :: q) a = aLoop ns vs S S.length e fuel q ⟨N, m⟩ ∧
      (∀ y, y ∈ N ↔ (y ∈ a.nextPos ∨ (y = x ∧ isDescLike s.axis = true ∧ fp = true) ∨
        (y = x + 1 ∧ hitE ns vs s e = true ∧ x + 1 ≠ S.length))) ∧
      m = (a.matched || (hitE ns vs s e && (x + 1 == S.length))) := by
  have hN1 : ∀ y, y ∈ (if (isDescLike s.axis && fp) = true then pushDescA a.nextPos x else a.nextPos) ↔
      (y ∈ a.nextPos ∨ (y = x ∧ isDescLike s.axis = true ∧ fp = true)) := by
    intro y
    cases hd : isDescLike s.axis <;> cases fp <;> simp [pushDescA_mem]
  simp only [aLoop, hs]
  by_cases hh : hitE ns vs s e = true
  · simp only [hh, Bool.not_true, Bool.false_eq_true, if_false]
    by_cases hl : (x + 1 == S.length) = true
    · simp only [hl, if_true]
      refine ⟨_, _, rfl, fun y => ?_, by simp⟩
      rw [hN1 y]; simp [beq_iff_eq.mp hl]
    · simp only [hl, Bool.false_eq_true, if_false]
      have hxl : x + 1 ≠ S.length := by simpa using hl
      have hx1 : x + 1 < S.length := by have := (List.getElem?_eq_some_iff.mp hs).1; omega
      obtain ⟨s', hs'⟩ : ∃ s', S[x + 1]? = some s' := ⟨_, List.getElem?_eq_getElem hx1⟩
      have hax := hpl x s' hs'
      have h1 : ((S[x + 1]?.map Step.axis).getD .child == Axis.descendantOrSelf ||
          (S[x + 1]?.map Step.axis).getD .child == Axis.self) = false := by
        rcases hax with h | h <;> simp [hs', h]
      have h2 : ((S[x + 1]?.map Step.axis).getD .child != Axis.self) = true := by
        rcases hax with h | h <;> simp [hs', h]
      simp only [h1, h2, Bool.false_eq_true, if_false, if_true]
      refine ⟨_, _, rfl, fun y => ?_, by simp⟩
      rw [List.mem_append, hN1 y]; simp [hxl, or_assoc]
  · have hh' : hitE ns vs s e = false := by simpa using hh
    simp only [hh', Bool.not_false, if_true]
    refine ⟨_, _, rfl, fun y => ?_, by simp⟩
    rw [hN1 y]; simp

/-- the loop of the position machine on such a step list: what it hands down and whether it
    matched, as sets -/
theorem aLoop_plain (S : List Step) (hpl : PlainNext S) (e : Event) :
    ∀ (Q : List AEntry) (fuel : Nat) (a : AAcc), Q.length ≤ fuel → (∀ en ∈ Q, en.1 < S.length) →
      (∀ y, y ∈ (aLoop ns vs S S.length e fuel Q a).nextPos ↔
        (y ∈ a.nextPos ∨ ∃ en ∈ Q, ∃ s, S[en.1]? = some s ∧
          ((y = en.1 ∧ isDescLike s.axis = true ∧ en.2 = true) ∨
           (y = en.1 + 1 ∧ hitE ns vs s e = true ∧ en.1 + 1 ≠ S.length)))) ∧
      ((aLoop ns vs S S.length e fuel Q a).matched =
        (a.matched || Q.any fun en => match S[en.1]? with
          | some s => hitE ns vs s e && (en.1 + 1 == S.length)
          | none => false)) := by
  intro Q
  induction Q with
  | nil =>
    intro fuel a _ _
    cases fuel <;> simp [aLoop]
  | cons en q ih =>
    intro fuel a hfuel hb
    obtain ⟨x, fp⟩ := en
    obtain ⟨f, rfl⟩ : ∃ f, fuel = f + 1 := ⟨fuel - 1, by simp at hfuel; omega⟩
    obtain ⟨s, hs⟩ : ∃ s, S[x]? = some s := ⟨_, List.getElem?_eq_getElem (hb (x, fp) List.mem_cons_self)⟩
    obtain ⟨N, m, hrun, hN, rfl⟩ := aLoop_plain_cons ns vs S hpl e x fp q f a s hs
    obtain ⟨i1, i2⟩ := ih f ⟨N, _⟩ (by simp at hfuel; omega) (fun en hen => hb en (List.mem_cons_of_mem _ hen))
    rw [hrun]
    refine ⟨fun y => ?_, ?_⟩
    · rw [i1 y, hN y]
      simp only [List.mem_cons, exists_eq_or_imp, hs, Option.some.injEq, exists_eq_left', or_assoc]
    · rw [i2]; simp [hs, Bool.or_assoc]

/-- the positions of the fragment inside GenericStrategy's step list: first test at `base`
    on a descendant-like axis, the others on the child axis -/
structure FragAt (S : List Step) (base : Nat) (tests : List NodeTest) : Prop where
  len : S.length = base + tests.length
  first : ∃ ax, isDescLike ax = true ∧ S[base]? = some ⟨ax, Fof tests 0, []⟩
  others : ∀ i, 1 ≤ i → i < tests.length → S[base + i]? = some ⟨.child, Fof tests i, []⟩
  plain : PlainNext S
  rl : realLen S = S.length

/-- the candidate positions of GenericStrategy below a chain of ancestors: the start of the
    fragment (it can start anywhere), and one position per prefix that matches the end of
    the chain -/
def PosOK (base : Nat) (tests : List NodeTest) (rw : List Event) (P : List Nat) : Prop :=
  ∀ x, x ∈ P ↔ (x = base ∨ (base < x ∧ x < base + tests.length ∧
    Suf (Fof tests) tests.length (textOf ns rw) rw.length (x - base)))

theorem hitE_nopreds (ax : Axis) (t : NodeTest) (e : Event) : hitE ns vs ⟨ax, t, []⟩ e = t.matches e ns := by
  simp [hitE]

variable (S : List Step) (base : Nat) (tests : List NodeTest)

theorem FragAt.get (h : FragAt S base tests) (i : Nat) (hi : i < tests.length) :
    ∃ ax, (isDescLike ax = true ↔ i = 0) ∧ S[base + i]? = some ⟨ax, Fof tests i, []⟩ := by
  by_cases h0 : i = 0
  · subst h0
    obtain ⟨ax, ha, hg⟩ := h.first
    exact ⟨ax, ⟨fun _ => rfl, fun _ => ha⟩, hg⟩
  · exact ⟨.child, ⟨fun h => (nomatch h), fun h => absurd h h0⟩, h.others i (by omega) hi⟩

/-- `PosOK` in one clause: one candidate per matched prefix, the empty prefix (the start of the fragment) included -/
theorem posOK_iff (hn : 0 < tests.length) (rw : List Event) (P : List Nat) :
    PosOK ns base tests rw P ↔
      ∀ x, x ∈ P ↔ ∃ b, b < tests.length ∧ x = base + b ∧ Suf (Fof tests) tests.length (textOf ns rw) rw.length b := by
  refine forall_congr' fun x => Iff.of_eq (congrArg _ (propext ⟨?_, ?_⟩))
  · rintro (rfl | ⟨h1, h2, h3⟩)
    · exact ⟨0, hn, rfl, Suf.zero _ _ _ _⟩
    · exact ⟨x - base, by omega, by omega, h3⟩
  · rintro ⟨b, hb, rfl, h3⟩
    by_cases hb0 : b = 0
    · exact Or.inl (by omega)
    · exact Or.inr ⟨by omega, by omega, by rwa [Nat.add_sub_cancel_left]⟩

/-- one event for GenericStrategy's position machine -/
theorem visitA (hne : tests ≠ []) (h : FragAt S base tests) (Fu : Nat) (rw : List Event) (P : List Nat)
    (A : AState) (hP : PosOK ns base tests rw P) (e : Event) (he : e.isEnd = false) (hm : e.isNsOrCdata = false) :
    ∃ (N : List Nat) (m : Bool),
      aStep ns vs S Fu (P :: A) e = (if e.isStart then N :: P :: A else P :: A, if m then .bool true else .none) ∧
      PosOK ns base tests (e :: rw) N ∧
      (m = true ↔ Suf (Fof tests) tests.length (textOf ns (e :: rw)) (rw.length + 1) tests.length) := by
  have hn : 0 < tests.length := List.length_pos_iff.mpr hne
  rw [posOK_iff ns base tests hn] at hP
  have hbound : ∀ en ∈ P.map (fun x => ((x, true) : AEntry)), en.1 < S.length := by
    intro en hen
    obtain ⟨x, hx, rfl⟩ := List.mem_map.mp hen
    obtain ⟨b, hb, rfl, _⟩ := (hP x).mp hx
    rw [h.len]; exact Nat.add_lt_add_left hb base
  obtain ⟨i1, i2⟩ := aLoop_plain ns vs S h.plain e (P.map fun x => ((x, true) : AEntry))
    (2 * Fu + (P.map fun x => ((x, true) : AEntry)).length + 2) ⟨[], false⟩ (by omega) hbound
  simp only [List.length_map] at i1 i2
  refine ⟨(aLoop ns vs S S.length e (2 * Fu + P.length + 2) (P.map fun x => ((x, true) : AEntry)) ⟨[], false⟩).nextPos,
    (aLoop ns vs S S.length e (2 * Fu + P.length + 2) (P.map fun x => ((x, true) : AEntry)) ⟨[], false⟩).matched,
    by simp only [aStep, he, Bool.false_eq_true, if_false, hm, h.rl, List.headD_cons, List.length_map],
    (posOK_iff ns base tests hn _ _).mpr fun y => ?_, ?_⟩
  · -- the positions handed down: a candidate stays where its axis is descendant-like (the start), and moves on where its test matches
    rw [i1 y, textOf_cons]
    simp only [List.length_cons]
    constructor
    · rintro (hy | ⟨en, hen, s, hs, hcase⟩)
      · cases hy
      obtain ⟨x, hx, rfl⟩ := List.mem_map.mp hen
      obtain ⟨b, hb, rfl, hsuf⟩ := (hP x).mp hx
      obtain ⟨ax, ha, hg⟩ := h.get S base tests b hb
      rw [hg] at hs; cases hs
      rcases hcase with ⟨rfl, hd, _⟩ | ⟨rfl, hh, hl⟩
      · rw [ha.mp hd]; exact ⟨0, hn, rfl, Suf.zero _ _ _ _⟩
      · rw [hitE_nopreds] at hh
        exact ⟨b + 1, by rw [h.len] at hl; omega, rfl, (Suf_push _ _ _ _ _ _).mpr ⟨hb, hh, hsuf⟩⟩
    · rintro ⟨b', hb', rfl, hsuf⟩
      cases b' with
      | zero =>
        obtain ⟨ax, ha, hg⟩ := h.get S base tests 0 hn
        exact Or.inr ⟨(base, true), List.mem_map_of_mem ((hP _).mpr ⟨0, hn, rfl, Suf.zero _ _ _ _⟩), _, hg,
          Or.inl ⟨rfl, ha.mpr rfl, rfl⟩⟩
      | succ b =>
        obtain ⟨g1, g2, g3⟩ := (Suf_push _ _ _ _ _ _).mp hsuf
        obtain ⟨ax, _, hg⟩ := h.get S base tests b g1
        exact Or.inr ⟨(base + b, true), List.mem_map_of_mem ((hP _).mpr ⟨b, g1, rfl, g3⟩), _, hg,
          Or.inr ⟨rfl, by rw [hitE_nopreds]; exact g2, by rw [h.len]; omega⟩⟩
  · -- matched: the candidate of the prefix of length `n - 1` sits at the last position
    rw [i2, textOf_cons]
    simp only [Bool.false_or, List.any_map, List.any_eq_true, Function.comp]
    obtain ⟨b, hb⟩ : ∃ b, tests.length = b + 1 := ⟨tests.length - 1, by omega⟩
    rw [hb, Suf_push, ← hb]
    constructor
    · rintro ⟨x, hx, hcase⟩
      obtain ⟨b0, hb0, rfl, hsuf⟩ := (hP x).mp hx
      obtain ⟨ax, _, hg⟩ := h.get S base tests b0 hb0
      simp only [hg, hitE_nopreds, Bool.and_eq_true, beq_iff_eq] at hcase
      obtain rfl : b0 = b := by rw [h.len] at hcase; omega
      exact ⟨by omega, hcase.1, hsuf⟩
    · rintro ⟨g1, g2, g3⟩
      obtain ⟨ax, _, hg⟩ := h.get S base tests b g1
      refine ⟨base + b, (hP _).mpr ⟨b, g1, rfl, g3⟩, ?_⟩
      simp only [hg, hitE_nopreds, g2, Bool.true_and, beq_iff_eq]
      rw [h.len]; omega

/-- one event for SimplePathStrategy -/
theorem visitS (hne : tests ≠ []) (hs : Simple (Fof tests) tests.length) (sb ic0 : Bool) (rw : List Event) (p : Nat)
    (rest : PState) (hp : IsMax (Fof tests) tests.length (textOf ns rw) rw.length p) (e : Event)
    (he : e.isEnd = false) (hm : e.isNsOrCdata = false) :
    ∃ (p' : Nat) (m : Bool),
      pStep (some (frags2 tests sb)) ic0 ns (⟨some (1, p), true⟩ :: rest) e
        = ((if e.isStart then ⟨some (1, p'), true⟩ :: ⟨some (1, p), true⟩ :: rest else ⟨some (1, p), true⟩ :: rest),
           if m then .bool true else .none) ∧
      IsMax (Fof tests) tests.length (textOf ns (e :: rw)) (rw.length + 1) p' ∧
      (m = true ↔ Suf (Fof tests) tests.length (textOf ns (e :: rw)) (rw.length + 1) tests.length) := by
  have hmax := kmpStep_max ns ⟨tests, calculatePi tests, none, sb⟩ hne hs rfl rw p hp e
  refine ⟨kmpStep ns ⟨tests, calculatePi tests, none, sb⟩ p e,
    kmpStep ns ⟨tests, calculatePi tests, none, sb⟩ p e == tests.length,
    pStep_kmp ns tests sb ic0 p rest e he hm, hmax, ?_⟩
  simp only [beq_iff_eq]
  constructor
  · intro h; have := hmax.1; rw [h] at this; exact this
  · intro h
    have h1 := hmax.2 _ h
    have h2 := hmax.1.1
    simp only at h1 h2
    omega

mutual
  /-- below a chain of ancestors the two matchers report the same at every event -/
  theorem kmp_tree (hne : tests ≠ []) (hs : Simple (Fof tests) tests.length) (hS : FragAt S base tests)
      (sb ic0 : Bool) (Fu : Nat) :
      ∀ (n : Node), n.clean = true → ∀ (rw : List Event) (p : Nat) (P : List Nat) (rest : PState) (A : AState),
        IsMax (Fof tests) tests.length (textOf ns rw) rw.length p → PosOK ns base tests rw P →
        (runOne (pStep (some (frags2 tests sb)) ic0 ns) (⟨some (1, p), true⟩ :: rest) n.flatten).1
          = (runOne (aStep ns vs S Fu) (P :: A) n.flatten).1 ∧
        (runOne (pStep (some (frags2 tests sb)) ic0 ns) (⟨some (1, p), true⟩ :: rest) n.flatten).2
          = ⟨some (1, p), true⟩ :: rest ∧
        (runOne (aStep ns vs S Fu) (P :: A) n.flatten).2 = P :: A
    | .elem tg ats ks, hcl, rw, p, P, rest, A, hp, hP => by
        obtain ⟨p', m, e1, e2, e3⟩ := visitS ns tests hne hs sb ic0 rw p rest hp (.start tg ats) rfl rfl
        obtain ⟨N, m', f1, f2, f3⟩ := visitA ns vs S base tests hne hS Fu rw P A hP (.start tg ats) rfl rfl
        simp only [Event.isStart, if_true] at e1 f1
        have hk := kmp_treeList hne hs hS sb ic0 Fu ks (by simpa [Node.clean] using hcl) (.start tg ats :: rw) p' N
          (⟨some (1, p), true⟩ :: rest) (P :: A) e2 f2
        have hmm : m = m' := by
          cases m <;> cases m' <;> simp_all
        simp only [Node.flatten, runOne_cons, runOne_append, e1, f1, hk.1, hk.2.1, hk.2.2, hmm]
        simp [runOne, pStep, aStep, Event.isEnd]
    | .leaf e, hcl, rw, p, P, rest, A, hp, hP => by
        simp only [Node.clean, Bool.and_eq_true, Bool.not_eq_true'] at hcl
        obtain ⟨hend, hstart⟩ := isEnd_of_not_startEnd hcl.1
        obtain ⟨p', m, e1, e2, e3⟩ := visitS ns tests hne hs sb ic0 rw p rest hp e hend hcl.2
        obtain ⟨N, m', f1, f2, f3⟩ := visitA ns vs S base tests hne hS Fu rw P A hP e hend hcl.2
        simp only [hstart, Bool.false_eq_true, if_false] at e1 f1
        have hmm : m = m' := by
          cases m <;> cases m' <;> simp_all
        simp only [Node.flatten, runOne, e1, f1, hmm]
        exact ⟨trivial, trivial, trivial⟩
  theorem kmp_treeList (hne : tests ≠ []) (hs : Simple (Fof tests) tests.length) (hS : FragAt S base tests)
      (sb ic0 : Bool) (Fu : Nat) :
      ∀ (ks : List Node), cleanList ks = true → ∀ (rw : List Event) (p : Nat) (P : List Nat) (rest : PState)
        (A : AState),
        IsMax (Fof tests) tests.length (textOf ns rw) rw.length p → PosOK ns base tests rw P →
        (runOne (pStep (some (frags2 tests sb)) ic0 ns) (⟨some (1, p), true⟩ :: rest) (flattenList ks)).1
          = (runOne (aStep ns vs S Fu) (P :: A) (flattenList ks)).1 ∧
        (runOne (pStep (some (frags2 tests sb)) ic0 ns) (⟨some (1, p), true⟩ :: rest) (flattenList ks)).2
          = ⟨some (1, p), true⟩ :: rest ∧
        (runOne (aStep ns vs S Fu) (P :: A) (flattenList ks)).2 = P :: A
    | [], _, _, _, _, _, _, _, _ => by simp [Genshi.flattenList, runOne]
    | k :: ks, hcl, rw, p, P, rest, A, hp, hP => by
        simp only [cleanList, Bool.and_eq_true] at hcl
        have h1 := kmp_tree hne hs hS sb ic0 Fu k hcl.1 rw p P rest A hp hP
        have h2 := kmp_treeList hne hs hS sb ic0 Fu ks hcl.2 rw p P rest A hp hP
        simp only [Genshi.flattenList, runOne_append, h1.1, h1.2.1, h1.2.2, h2.1, h2.2.1, h2.2.2]
        exact ⟨trivial, trivial, trivial⟩
end

end

theorem fragments_fragPath (ax : Axis) (hax : ax = .descendant ∨ ax = .descendantOrSelf) (tests : List NodeTest)
    (hne : tests ≠ []) : fragments (fragPath ax tests) = some (frags2 tests (ax == .descendantOrSelf)) := by
  obtain ⟨t0, ts, rfl⟩ := List.exists_cons_of_ne_nil hne
  rcases hax with rfl | rfl <;>
    simp [fragments, fragPath, fragLoop, fragLoop_chain', frags2, calculatePi]

/-- the fragment behind a prefix `pre` of the step list; `hpl`: up to the fragment's first step
    no step but the very first is on the self / descendant-or-self axis -/
theorem fragAt_append (pre : List Step) (ax : Axis) (hax : isDescLike ax = true) (tests : List NodeTest)
    (hne : tests ≠ []) (hpl : PlainNext (pre ++ [⟨ax, Fof tests 0, []⟩])) :
    FragAt (pre ++ fragPath ax tests) pre.length tests := by
  have hn : 0 < tests.length := List.length_pos_iff.mpr hne
  have hget : ∀ i, i < tests.length → (pre ++ fragPath ax tests)[pre.length + i]?
      = some ⟨if i = 0 then ax else .child, Fof tests i, []⟩ := by
    intro i hi
    rw [List.getElem?_append_right (Nat.le_add_right _ _), Nat.add_sub_cancel_left, getElem?_fragPath ax tests i hi]
  refine ⟨by rw [List.length_append, length_fragPath], ⟨ax, hax, by simpa using hget 0 hn⟩, ?_, ?_, ?_⟩
  · intro i h1 hi
    rw [hget i hi, if_neg (by omega)]
  · intro x s hx
    by_cases hlt : x + 1 ≤ pre.length
    · apply hpl x s
      rw [← hx]
      by_cases h2 : x + 1 < pre.length
      · rw [List.getElem?_append_left h2, List.getElem?_append_left h2]
      · have : x + 1 = pre.length + 0 := by omega
        rw [this, hget 0 hn]; simp
    · obtain ⟨i, hxi⟩ : ∃ i, x + 1 = pre.length + i := ⟨x + 1 - pre.length, by omega⟩
      have hi : i < tests.length := by
        have := (List.getElem?_eq_some_iff.mp hx).1
        rw [List.length_append, length_fragPath] at this; omega
      rw [hxi, hget i hi, if_neg (by omega)] at hx
      cases hx; exact Or.inl rfl
  · have hl := hget (tests.length - 1) (by omega)
    have hlast : (pre ++ fragPath ax tests).getLast? = some ⟨if tests.length - 1 = 0 then ax else .child,
        Fof tests (tests.length - 1), []⟩ := by
      rw [List.getLast?_eq_getElem?, ← hl, List.length_append, length_fragPath]; congr 1; omega
    have hna : ((if tests.length - 1 = 0 then ax else .child) == Axis.attribute) = false := by
      split
      · cases ax <;> first | rfl | cases hax
      · rfl
    simp only [realLen, hlast, hna, Bool.false_eq_true, if_false]

end Genshi.Path.Kmp
