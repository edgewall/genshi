/-
  SimplePathStrategy's matcher step on one fragment that may start anywhere below the
  context (`descendant::t1/…/tn`, `//t1/…/tn`): the pair (fragment 1, p) on its stack always
  holds the longest prefix of the fragment that matches the end of the chain of ancestors.
  And what one call of the matcher does, by the kind of entry it starts from (`pStart`):
  context-ignoring (`pStep_ic`), bound to the context (`pStep_bound`), dead (`pStep_none_entry`),
  or the first event with a fragment that begins below the context node (`pStep_skip_root`); an END event pops
  the entry (`pStep_end`).
-/
import Genshi.Lemmas.PathKmp
namespace Genshi.Path.Kmp
open Genshi Genshi.Path

section
variable (ns : NsMap)

/-- the chain `rw` of events since the fragment was entered (the ancestors, innermost first) as a text -/
def textOf (rw : List Event) : Nat → Sym := fun k t =>
  match rw[k]? with
  | some e => t.matches e ns
  | none => false

theorem textOf_cons (e : Event) (rw : List Event) :
    textOf ns (e :: rw) = push (fun t => t.matches e ns) (textOf ns rw) := by
  funext k t
  cases k <;> simp [textOf, push]

/-- an event satisfies supported tests of one `nodes_equal` class only, and all of that class: so the failure table,
    built by comparing tests with `nodes_equal`, is the right one for texts of events -/
theorem compat_event (e : Event) : Compat (fun t => t.matches e ns) := by
  constructor
  · intro t u ht hu h
    rw [nodesEqual_eq t u ht hu h]
  · intro t u ht hu h1 h2
    rcases simpleT_cases t ht with ⟨a, rfl⟩ | rfl | rfl <;> rcases simpleT_cases u hu with ⟨b, rfl⟩ | rfl | rfl <;>
      cases e <;> simp_all [NodeTest.matches, NodeTest.apply, Val.truthy, nodesEqual]

theorem compatOn_textOf (rw : List Event) : CompatOn (textOf ns rw) rw.length := by
  intro k hk
  have : (textOf ns rw k) = fun t => t.matches rw[k] ns := by
    funext t; simp [textOf, List.getElem?_eq_getElem hk]
  rw [this]
  exact compat_event ns _

theorem isMax_nil (tests : List NodeTest) : IsMax (Fof tests) tests.length (textOf ns []) ([] : List Event).length 0 :=
  ⟨Suf.zero _ _ _ _, fun _ hb => hb.2.1⟩

variable (frag : Frag)

/-- the matcher's step on the current fragment -/
def kmpStep (p : Nat) (e : Event) : Nat :=
  let p1 := kmpBack frag e ns (p + 1) p
  if fragTest frag p1 e ns then p1 + 1 else p1

theorem kmpBack_eq_back (e : Event) : ∀ (fuel p : Nat),
    kmpBack frag e ns fuel p
      = back frag.pi (fun x => decide (x ≥ frag.tests.length) || !fragTest frag x e ns) fuel p := by
  intro fuel
  induction fuel with
  | zero => intro p; rfl
  | succ fuel ih => intro p; simp only [kmpBack, back, ih]

theorem fragTest_eq (p : Nat) (e : Event) :
    fragTest frag p e ns = (decide (p < frag.tests.length) && (Fof frag.tests p).matches e ns) := by
  unfold fragTest
  by_cases hp : p < frag.tests.length
  · rw [getElem?_Fof frag.tests p hp]; simp [hp]
  · have : frag.tests[p]? = none := by simp; omega
    rw [this]; simp [hp]

/-- the step keeps "longest prefix matching the end of the chain" -/
theorem kmpStep_max (hne : frag.tests ≠ []) (hs : Simple (Fof frag.tests) frag.tests.length)
    (hpi : frag.pi = calculatePi frag.tests) (rw : List Event) (p : Nat)
    (hp : IsMax (Fof frag.tests) frag.tests.length (textOf ns rw) rw.length p) (e : Event) :
    IsMax (Fof frag.tests) frag.tests.length (textOf ns (e :: rw)) (rw.length + 1) (kmpStep ns frag p e) := by
  have hpiok := (calculatePi_ok frag.tests hne hs).1
  rw [← hpi] at hpiok
  rw [textOf_cons]
  have h := step_max (Fof frag.tests) frag.tests.length hs (textOf ns rw) rw.length (compatOn_textOf ns rw)
    frag.pi hpiok (fun t => t.matches e ns)
    (fun x => decide (x ≥ frag.tests.length) || !fragTest frag x e ns)
    (fun s => by
      rw [fragTest_eq]
      by_cases h1 : s < frag.tests.length <;> cases (Fof frag.tests s).matches e ns <;> simp [h1] <;> omega)
    p (p + 1) (by omega) hp
  unfold kmpStep
  rw [kmpBack_eq_back]
  simp only
  generalize back frag.pi (fun x => decide (x ≥ frag.tests.length) || !fragTest frag x e ns) (p + 1) p = p1 at h ⊢
  have hb : (decide (p1 ≥ frag.tests.length) || !fragTest frag p1 e ns) = !fragTest frag p1 e ns := by
    rw [fragTest_eq]
    by_cases h1 : p1 < frag.tests.length <;> simp [h1] <;> omega
  rw [hb] at h
  cases hft : fragTest frag p1 e ns <;> simp [hft] at h ⊢ <;> exact h

/-- the fragments of `descendant::t1/…/tn` (`sb = false`) and `descendant-or-self::t1/…/tn`
    (`sb = true`, what a leading `//` gives) -/
def frags2 (tests : List NodeTest) (sb : Bool) : List Frag :=
  [⟨[], [], none, false⟩, ⟨tests, calculatePi tests, none, sb⟩]

theorem icLoop_succ (frags : List Frag) (e : Event) (fuel fid p : Nat) (frag : Frag) (h : frags[fid]? = some frag) :
    icLoop frags e ns (fuel + 1) fid p =
      if kmpStep ns frag p e == frag.tests.length then
        if fid + 1 == frags.length then (fid, kmpStep ns frag p e, frag.tests.length, frag.attr)
        else
          match frags[fid + 1]? with
          | some nxt => if !nxt.selfBeginning then (fid + 1, 0, frag.tests.length, frag.attr)
                        else icLoop frags e ns fuel (fid + 1) 0
          | none => (fid + 1, 0, frag.tests.length, frag.attr)
      else (fid, kmpStep ns frag p e, frag.tests.length, frag.attr) := by
  simp only [icLoop, h, kmpStep]
  rfl

theorem icLoop_frags2 (tests : List NodeTest) (sb : Bool) (e : Event) (p : Nat) :
    icLoop (frags2 tests sb) e ns 3 1 p
      = (1, kmpStep ns ⟨tests, calculatePi tests, none, sb⟩ p e, tests.length, none) := by
  rw [icLoop_succ ns _ e 2 1 p _ rfl]
  split <;> rfl

end
end Genshi.Path.Kmp

theorem Genshi.Path.pStep_end (ns : NsMap) (frags : List Frag) (ic : Bool) (st : PState) (tag : QName) :
    pStep (some frags) ic ns st (.end_ tag) = (st.drop 1, .none) := by
  simp [pStep, Event.isEnd]

namespace Genshi.Path.Frags
open Genshi Genshi.Path Genshi.Path.Kmp

section
variable (ns : NsMap)

/-- the result computed from what the context-ignoring loop returns -/
def icResult (frags : List Frag) (e : Event) (r : Nat × Nat × Nat × Option NodeTest) : Val :=
  if r.1 + 1 == frags.length && r.2.1 == r.2.2.1 then
    (match r.2.2.2 with
     | some a => attrResult a e ns
     | none => .bool true)
  else .none

/-- what the matcher pushes and reports from a context-ignoring entry `(fid, p)`; the fuel `frags.length + 1` is the
    one `pStep` gives the loop (each round but the last moves to the next fragment) -/
def icOut (frags : List Frag) (e : Event) (fid p : Nat) : PEntry × Val :=
  (⟨some ((icLoop frags e ns (frags.length + 1) fid p).1, (icLoop frags e ns (frags.length + 1) fid p).2.1), true⟩,
   icResult ns frags e (icLoop frags e ns (frags.length + 1) fid p))

/-- where a call starts: at the entry on top of the stack or, on the first event, at the first
    non-empty fragment (`none`: that fragment can only begin below the context node) -/
def pStart (frags : List Frag) (ig : Bool) : PState → Option (Option (Nat × Nat) × Bool)
  | [] =>
      if !((frags[skipEmpty frags (frags.length + 1) 0]?.map Frag.selfBeginning).getD false) && !ig then none
      else some (some (skipEmpty frags (frags.length + 1) 0, 0),
        ig || decide (skipEmpty frags (frags.length + 1) 0 > 0))
  | top :: _ => some (top.fp, top.ic)

theorem pStep_ic (frags : List Frag) (ig : Bool) (st : PState) (fid p : Nat) (e : Event)
    (he : e.isEnd = false) (hm : e.isNsOrCdata = false)
    (hstart : pStart frags ig st = some (some (fid, p), true)) :
    pStep (some frags) ig ns st e =
      ((if e.isStart then (icOut ns frags e fid p).1 :: st else st), (icOut ns frags e fid p).2) := by
  unfold pStep
  simp -zeta only [he, hm, Bool.false_eq_true, if_false]
  extract_lets fl sk ic0 sb0 start
  have hs : start = some (some (fid, p), true) := by cases st <;> exact hstart
  clear_value start
  subst hs
  simp only [Bool.not_true, Bool.false_eq_true, if_false, if_true, Bool.false_and, icResult, icOut, fl]
  generalize icLoop frags e ns (frags.length + 1) fid p = r
  obtain ⟨r1, r2, r3, r4⟩ := r
  cases r4 <;> by_cases h : (r1 + 1 == frags.length && r2 == r3) = true <;> simp [h]

/-- the first event when the fragment in front can only start below the context node
    (`child::` or `descendant::` first) -/
theorem pStep_skip_root (frags : List Frag) (ig : Bool) (e : Event)
    (he : e.isEnd = false) (hm : e.isNsOrCdata = false) (hstart : pStart frags ig [] = none) :
    pStep (some frags) ig ns [] e = ([⟨some (skipEmpty frags (frags.length + 1) 0, 0),
      ig || decide (skipEmpty frags (frags.length + 1) 0 > 0)⟩], .none) := by
  simp only [pStart, ite_eq_left_iff, reduceCtorEq, imp_false, Decidable.not_not] at hstart
  simp only [pStep, he, hm, hstart, Bool.false_eq_true, if_false, if_true]

/-- what the matcher pushes and reports from the context-bound entry `(0, p)` -/
def boundOut (frags : List Frag) (e : Event) (f0 : Frag) (p : Nat) : PEntry × Val :=
  if !fragTest f0 p e ns then (⟨none, false⟩, .none)
  else if p + 1 == f0.tests.length then
    if frags.length == 1 then
      (⟨none, false⟩, match f0.attr with
        | some a => attrResult a e ns
        | none => .bool true)
    else if !((frags[1]?.map Frag.selfBeginning).getD false) then (⟨some (1, 0), true⟩, .none)
    else icOut ns frags e 1 0
  else (⟨some (0, p + 1), false⟩, .none)

theorem pStep_none_entry (frags : List Frag) (ig : Bool) (st : PState) (e : Event)
    (he : e.isEnd = false) (hm : e.isNsOrCdata = false) (hstart : pStart frags ig st = some (none, false)) :
    pStep (some frags) ig ns st e = ((if e.isStart then ⟨none, false⟩ :: st else st), .none) := by
  unfold pStep
  simp -zeta only [he, hm, Bool.false_eq_true, if_false]
  extract_lets fl sk ic0 sb0 start
  have hs : start = some (none, false) := by cases st <;> exact hstart
  clear_value start
  subst hs
  rfl

theorem pStep_bound (frags : List Frag) (ig : Bool) (st : PState) (f0 : Frag) (h0 : frags[0]? = some f0) (p : Nat)
    (hp : p < f0.tests.length) (e : Event) (he : e.isEnd = false) (hm : e.isNsOrCdata = false)
    (hstart : pStart frags ig st = some (some (0, p), false)) :
    pStep (some frags) ig ns st e =
      ((if e.isStart then (boundOut ns frags e f0 p).1 :: st else st), (boundOut ns frags e f0 p).2) := by
  have hpl : (p == f0.tests.length) = false := by simp; omega
  unfold pStep boundOut
  simp -zeta only [he, hm, Bool.false_eq_true, if_false]
  extract_lets fl sk ic0 sb0 start
  have hs : start = some (some (0, p), false) := by cases st <;> exact hstart
  clear_value start
  subst hs
  by_cases hft : fragTest f0 p e ns = true
  · by_cases hp1 : (p + 1 == f0.tests.length) = true
    · by_cases hfl : (frags.length == 1) = true
      · have hfl' : (0 + 1 != frags.length) = false := by simp at hfl ⊢; omega
        have hfl2 : (0 + 1 == frags.length) = true := by simp at hfl ⊢; omega
        simp only [fl, Bool.not_false, if_true, h0, hpl, hft, hp1, hfl, hfl', hfl2, Bool.false_eq_true, if_false,
          Bool.and_false, Bool.not_true, Bool.and_self]
        cases f0.attr <;> rfl
      · have hfl' : (0 + 1 != frags.length) = true := by simp at hfl ⊢; omega
        by_cases hsb : (frags[1]?.map Frag.selfBeginning).getD false = true
        · simp only [fl, Bool.false_eq_true, if_false, Bool.not_false, if_true, h0, hpl, hft, hp1, hfl, hfl',
            Bool.and_self, Nat.zero_add, hsb, Bool.not_true, icResult, icOut, Bool.false_and]
          generalize icLoop frags e ns (frags.length + 1) 1 0 = r
          obtain ⟨r1, r2, r3, r4⟩ := r
          cases r4 <;> by_cases h : (r1 + 1 == frags.length && r2 == r3) = true <;> simp [h]
        · simp only [fl, Bool.false_eq_true, if_false, Bool.not_false, if_true, h0, hpl, hft, hp1, hfl, hfl',
            Bool.and_self, Nat.zero_add, hsb, Bool.not_true]
    · simp only [fl, Bool.false_eq_true, if_false, Bool.not_false, if_true, h0, hpl, hft, hp1,
        Bool.false_and, Bool.and_false, Bool.not_true]
  · simp only [Bool.false_eq_true, if_false, Bool.not_false, if_true, h0, hpl, hft]

end
end Genshi.Path.Frags

namespace Genshi.Path.Kmp
open Genshi Genshi.Path Genshi.Path.Frags

section
variable (ns : NsMap)

theorem icOut_frags2 (tests : List NodeTest) (sb : Bool) (e : Event) (p : Nat) :
    icOut ns (frags2 tests sb) e 1 p =
      (⟨some (1, kmpStep ns ⟨tests, calculatePi tests, none, sb⟩ p e), true⟩,
       if kmpStep ns ⟨tests, calculatePi tests, none, sb⟩ p e == tests.length then .bool true else .none) := by
  unfold icOut icResult
  rw [show (frags2 tests sb).length + 1 = 3 from rfl, icLoop_frags2]
  rfl

theorem pStep_kmp (tests : List NodeTest) (sb ic0 : Bool) (p : Nat) (rest : PState) (e : Event)
    (he : e.isEnd = false) (hm : e.isNsOrCdata = false) :
    pStep (some (frags2 tests sb)) ic0 ns (⟨some (1, p), true⟩ :: rest) e =
      ((if e.isStart then
          ⟨some (1, kmpStep ns ⟨tests, calculatePi tests, none, sb⟩ p e), true⟩ :: ⟨some (1, p), true⟩ :: rest
        else ⟨some (1, p), true⟩ :: rest),
       if kmpStep ns ⟨tests, calculatePi tests, none, sb⟩ p e == tests.length then .bool true else .none) := by
  rw [pStep_ic ns _ ic0 _ 1 p e he hm rfl, icOut_frags2]

end
end Genshi.Path.Kmp
