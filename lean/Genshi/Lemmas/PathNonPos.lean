/-
  Paths without position tests under GenericStrategy as operands (`Operand`), in relative mode
  (`operand_nonpositional`) and in pattern mode (`operand_generic_pattern`): what
  `select_eq_xp_nonpositional`, `pattern_matches_eq_xp` (C05), the spelling theorems of C17 and the
  pattern operands of C12 are assembled from.
-/
import Genshi.Lemmas.PathGeneric
import Genshi.Lemmas.PathAgree
namespace Genshi.Path
open Genshi Genshi.Path.Ref

/-- GenericStrategy's step list for a path `p` without position tests, in relative mode — `p` itself, or `p` behind a
    `self::*`: again without position tests, and at the root position 0 stands for `p` -/
theorem gSteps_relative (ns : NsMap) (vs : Vars) (p : LocPath) (hp : StepsOk ns vs p) :
    StepsOk ns vs (gSteps p false) ∧ (∀ s ∈ gSteps p false, s ∈ p ∨ s = dotSlash) ∧
    ∀ (tag : QName) (attrs : AttrList) (kids : List Node) (t : LNode),
      RR ns (toXVars vs) (gSteps p false) 0 ⟨[], .elem tag attrs kids⟩ t
        = reach ns (toXVars vs) p ⟨[], .elem tag attrs kids⟩ t := by
  obtain ⟨s0, rest, rfl⟩ := List.exists_cons_of_ne_nil (List.length_pos_iff.mp hp.ne)
  have hna := hp.na s0 List.mem_cons_self
  simp only [gSteps, Bool.false_eq_true, if_false]
  split
  · refine ⟨hp.cons ns vs dotSlash (by decide) (by simp [dotSlash, NodeTest.elemWf]) rfl,
      fun s hs => (List.mem_cons.mp hs).symm, fun tag attrs kids t => ?_⟩
    -- `self::*` in front: the root passes it, and what is left is `p`
    rw [RR_unfold ns (toXVars vs) _ 0 dotSlash rfl (fun q hq => nomatch hq) (by decide)]
    simp [hitR, testNode, dotSlash]
  · rename_i hc
    have : withAxis (convAxis s0.axis) s0 = s0 := by
      obtain ⟨ax, g, preds⟩ := s0
      cases ax <;> simp_all [withAxis, convAxis]
    exact ⟨hp, fun s hs => Or.inl hs, fun _ _ _ _ => by simp [RR, pathAt, this]⟩

theorem nodeFor_gSteps (ns : NsMap) (vs : Vars) (p : LocPath) (hp : StepsOk ns vs p) (n : Node) (h : NodeFor p ns vs n) :
    NodeFor (gSteps p false) ns vs n :=
  h.weaken ns vs fun s hs q hq => by
    rcases (gSteps_relative ns vs p hp).2.1 s hs with h | rfl
    · exact ⟨s, h, hq⟩
    · cases hq
/-- GenericStrategy on a step list without position tests, as an operand: it designates the node set of every
    path `p` that position 0 of the list stands for at the root.  Of the nodes only `HitOk` is used. -/
theorem operand_generic_hit (ns : NsMap) (vs : Vars) (S : List Step) (hS : StepsOk ns vs S) (root : Node)
    (hcl : root.clean = true) (hhit : AllNodes (HitOk ns vs S) root) (p : LocPath)
    (hRR : ∀ x : LNode, RR ns (toXVars vs) S 0 ⟨[], root⟩ x = reach ns (toXVars vs) p ⟨[], root⟩ x)
    (hlast : ∃ last, p.getLast? = some last ∧ last.axis ≠ .attribute) :
    Operand ns vs (toXVars vs) root p (.generic S) (.g gInit) :=
  ⟨by rw [runTest_genericL]; exact okVals_run _ (gStep_out _ ns vs (fun e => hS.lastResult ns vs e)) _ [] _,
   fun x => by rw [runTest_genericL, generic_marks_hit ns vs S hS root hcl hhit x, hRR], hlast⟩

/-- a path without position tests under GenericStrategy as an operand of a union -/
theorem operand_nonpositional (p : LocPath) (ns : NsMap) (vs : Vars) (hp : StepsOk ns vs p)
    (tag : QName) (attrs : AttrList) (kids : List Node)
    (hcl : (Node.elem tag attrs kids).clean = true)
    (hnodes : AllNodes (NodeFor p ns vs) (.elem tag attrs kids)) :
    Operand ns vs (toXVars vs) (.elem tag attrs kids) p (.generic (gSteps p false)) (.g gInit) :=
  have ⟨hS, _, hRR⟩ := gSteps_relative ns vs p hp
  operand_generic_hit ns vs _ hS _ hcl
    (AllNodes.imp (fun n hn => hS.hitOk ns vs n (nodeFor_gSteps ns vs p hp n hn)) _ hnodes) p
    (hRR tag attrs kids) (last_nonAttr (List.length_pos_iff.mp hp.ne) hp.na)


theorem StepsOk.patOf {ns : NsMap} {vs : Vars} {p : LocPath} (h : StepsOk ns vs p) : StepsOk ns vs (Frags.patOf p) := by
  obtain ⟨s0, rest, rfl⟩ := List.exists_cons_of_ne_nil (List.length_pos_iff.mp h.ne)
  refine h.of_like ns vs (List.cons_ne_nil _ _) fun s' hs' => ?_
  rcases List.mem_cons.mp hs' with rfl | hs
  · exact ⟨nofun, s0, List.mem_cons_self, rfl, rfl⟩
  · exact ⟨h.na s' (List.mem_cons_of_mem _ hs), s', List.mem_cons_of_mem _ hs, rfl, rfl⟩

theorem preds_patOf (p : LocPath) : ∀ s ∈ Frags.patOf p, ∀ q ∈ s.preds, ∃ s0 ∈ p, q ∈ s0.preds := by
  cases p with
  | nil => intro s hs; cases hs
  | cons s0 rest =>
    intro s hs q hq
    rcases List.mem_cons.mp hs with rfl | hs
    · exact ⟨s0, List.mem_cons_self, hq⟩
    · exact ⟨s, List.mem_cons_of_mem _ hs, hq⟩

theorem Frags.RR_patOf (ns : NsMap) (xvs : XVars) (p : LocPath) (c t : LNode) :
    RR ns xvs (patOf p) 0 c t = reach ns xvs (patOf p) c t := by
  cases p with
  | nil => rfl
  | cons s q => simp [RR, pathAt, patOf, convAxis, withAxis]

/-- GenericStrategy in pattern mode as an operand: for a path `s0/rest` without position tests and without a leading
    `.` it designates the node set of `descendant-or-self::s0/rest` from the root — a pattern matches a node iff the
    path leads to it from SOME node of the document taken as the parent of the first step -/
theorem operand_generic_pattern (s0 : Step) (rest : LocPath) (ns : NsMap) (vs : Vars) (hp : StepsOk ns vs (s0 :: rest))
    (hnd : stripDot (s0 :: rest) = s0 :: rest) (tag : QName) (attrs : AttrList) (kids : List Node)
    (hcl : (Node.elem tag attrs kids).clean = true)
    (hnodes : AllNodes (NodeFor (s0 :: rest) ns vs) (.elem tag attrs kids)) :
    Operand ns vs (toXVars vs) (.elem tag attrs kids) (Frags.patOf (s0 :: rest))
      (.generic (gSteps (s0 :: rest) true)) (.g gInit) := by
  have hS := hp.patOf
  rw [gSteps_patOf s0 rest (hp.na s0 List.mem_cons_self) hnd]
  exact operand_generic_hit ns vs _ hS _ hcl
    (AllNodes.imp (fun n hn => hS.hitOk ns vs n (hn.weaken ns vs (preds_patOf _))) _ hnodes) _
    (fun x => Frags.RR_patOf ns _ _ _ x) (last_nonAttr (List.cons_ne_nil _ _) hS.na)

end Genshi.Path
