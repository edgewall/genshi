/-
  C05, what every proof about `PathParser` starts from: how `cur` / `next` / `peek` / `at_end` read
  a token list given as `ts.drop pos = …`, `_node_test` on a name test, `_location_step` after
  its axis part (`AxSyn`: `axis::`, `@`, or nothing), the separator branch of the loop of
  `_location_path` and an error in its first turn (`parseTokens_locLoop_error`), and where the
  parser stands after a token that may be the last (`Print.At`).
  Also the syntax `axis::name/axis::name/…` (`chainTokens`, `stepOf`) in which `parse_chain`
  (`PathParseSteps.lean`) is stated.
-/
import Genshi.Model.PathParse
import Genshi.Lemmas.ListBasics
namespace Genshi.Path
open Genshi

def axisName : Axis → Str
  | .attribute => ['a','t','t','r','i','b','u','t','e']
  | .child => ['c','h','i','l','d']
  | .descendant => ['d','e','s','c','e','n','d','a','n','t']
  | .descendantOrSelf => ['d','e','s','c','e','n','d','a','n','t','-','o','r','-','s','e','l','f']
  | .self => ['s','e','l','f']

theorem axisForName_axisName (a : Axis) : axisForName (axisName a) = some a := by cases a <;> decide

/-- a name token that is none of the tokens the parser treats specially at a name position -/
def plainName (n : Str) : Prop := n ≠ ['*'] ∧ n ≠ ['.'] ∧ n ≠ ['['] ∧ n ≠ ['|']

/-- `axis::name/axis::name/…` -/
def chainTokens : List (Axis × Str) → List Str
  | [] => []
  | [(a, n)] => [axisName a, [':', ':'], n]
  | (a, n) :: r => axisName a :: [':', ':'] :: n :: ['/'] :: chainTokens r

def stepOf (p : Axis × Str) : Step := ⟨p.1, .localName (p.1 == .attribute) p.2, []⟩

theorem cur_drop {ts : List Str} {pos : Nat} {x : Str} {r : List Str} (h : ts.drop pos = x :: r) :
    cur ts pos = .ok x := by
  simp [cur, (drop_cons_info h).1]

theorem drop_succ {ts : List Str} {pos : Nat} {x : Str} {r : List Str} (h : ts.drop pos = x :: r) :
    ts.drop (pos + 1) = r :=
  (drop_cons_info h).2.1

theorem next_drop {ts : List Str} {pos : Nat} {x y : Str} {r : List Str} (h : ts.drop pos = x :: y :: r) :
    next ts pos = .ok (y, pos + 1) := by
  simp [next, (drop_cons_info (drop_succ h)).1]

theorem atEnd_drop_one {ts : List Str} {pos : Nat} {x : Str} (h : ts.drop pos = [x]) : atEnd ts pos = true :=
  (drop_cons_info h).2.2

theorem atEnd_drop_two {ts : List Str} {pos : Nat} {x y : Str} {r : List Str} (h : ts.drop pos = x :: y :: r) :
    atEnd ts pos = false :=
  (drop_cons_info h).2.2

theorem peek_drop_two {ts : List Str} {pos : Nat} {x y : Str} {r : List Str} (h : ts.drop pos = x :: y :: r) :
    peek ts pos = .ok (some y) := by
  simp [peek, atEnd_drop_two h, (drop_cons_info (drop_succ h)).1]

theorem peek_drop_one {ts : List Str} {pos : Nat} {x : Str} (h : ts.drop pos = [x]) : peek ts pos = .ok none := by
  simp [peek, atEnd_drop_one h]

/-- `_node_test` on a one-token name test `c`, with `rem` left after it -/
theorem nodeTest_plain (ts : List Str) (p : Nat) (attr : Bool) (c : Str) (rem : List Str)
    (hs : ∀ y r, rem = y :: r → y ≠ ['('] ∧ y ≠ ['(', ')'] ∧ y ≠ [':']) (h : ts.drop p = c :: rem) :
    nodeTest ts p attr =
      .ok (if c == ['*'] then .principal attr else if c == ['.'] then .node else .localName attr c,
           if rem = [] then p else p + 1) := by
  cases rem with
  | nil =>
    simp only [nodeTest, peek_drop_one h, cur_drop h, atEnd_drop_one h, bind, Except.bind, pure, Except.pure]
    by_cases h1 : c = ['*'] <;> by_cases h2 : c = ['.'] <;> simp [h1, h2]
  | cons y r =>
    obtain ⟨s1, s2, s3⟩ := hs y r rfl
    simp only [nodeTest, peek_drop_two h, cur_drop h, atEnd_drop_two h, next_drop h, bind, Except.bind, pure, Except.pure]
    simp [s1, s2, s3]
    by_cases h1 : c = ['*'] <;> by_cases h2 : c = ['.'] <;> simp [h1, h2]

/-- `_node_test` on `pf : c` -/
theorem nodeTest_prefixed (ts : List Str) (p : Nat) (attr : Bool) (pf c : Str) (rem : List Str)
    (h : ts.drop p = pf :: [':'] :: c :: rem) :
    nodeTest ts p attr =
      .ok (if c == ['*'] then .qprincipal attr pf else .qname attr pf c, if rem = [] then p + 2 else p + 3) := by
  have hd1 := drop_succ h
  have hd2 := drop_succ hd1
  cases rem with
  | nil =>
    simp [nodeTest, peek_drop_two h, cur_drop h, next_drop h, next_drop hd1, atEnd_drop_one hd2,
      bind, Except.bind, pure, Except.pure]
    by_cases h1 : c = ['*'] <;> simp [h1]
  | cons y r =>
    simp [nodeTest, peek_drop_two h, cur_drop h, next_drop h, next_drop hd1, next_drop hd2, atEnd_drop_two hd2,
      bind, Except.bind, pure, Except.pure]
    by_cases h1 : c = ['*'] <;> simp [h1]
theorem axisName_plain (a : Axis) : axisName a ≠ ['@'] ∧ axisName a ≠ ['.'] ∧ axisName a ≠ ['.', '.'] ∧
    startsWithSlash (axisName a) = false := by cases a <;> decide

inductive AxSyn where
  | explicit (a : Axis)     -- `axis::`
  | short                   -- nothing: child
  | attr                    -- `@`
  deriving Repr

def AxSyn.tokens : AxSyn → List Str
  | .explicit a => [axisName a, [':', ':']]
  | .short => []
  | .attr => [['@']]

def AxSyn.axis : AxSyn → Axis
  | .explicit a => a
  | .short => .child
  | .attr => .attribute

def AxSyn.parsed : AxSyn → Option Axis
  | .explicit a => some a
  | .short => none
  | .attr => some .attribute

theorem peek_head {ts : List Str} {pos : Nat} {c : Str} {L : List Str} (h : ts.drop pos = c :: L) :
    peek ts pos = .ok L.head? := by
  cases L with
  | nil => simpa using peek_drop_one h
  | cons y r => simpa using peek_drop_two h

/-- `_location_step` after its axis part (`axis::`, `@`, or nothing before a token that is not
    taken for one of these): the node test, then the predicates -/
theorem locationStep_axis (ts : List Str) (f pos : Nat) (ax : AxSyn) (c : Str) (r : List Str)
    (h : ts.drop pos = ax.tokens ++ c :: r)
    (hc : ax = .short → c ≠ ['@'] ∧ c ≠ ['.'] ∧ c ≠ ['.', '.'] ∧ r.head? ≠ some [':', ':']) :
    locationStep ts f pos =
      (nodeTest ts (pos + ax.tokens.length) (ax.axis == .attribute)).bind fun x =>
        (predLoop ts f x.2 []).bind fun y => .ok ((ax.parsed, x.1, y.1), y.2) := by
  cases ax with
  | explicit a =>
    have h' : ts.drop pos = axisName a :: [':', ':'] :: c :: r := h
    obtain ⟨h1, h2, h3, _⟩ := axisName_plain a
    have hb : (some a == some Axis.attribute) = (a == Axis.attribute) := by cases a <;> rfl
    simp only [↓reduceIte, locationStep, cur_drop h', h1, h2, h3, peek_drop_two h', axisForName_axisName, next_drop h',
      next_drop (drop_succ h'), hb, bind, Except.bind, pure, Except.pure, beq_iff_eq, AxSyn.tokens, AxSyn.axis,
      AxSyn.parsed, List.length_cons, List.length_nil]
  | short =>
    have h' : ts.drop pos = c :: r := h
    obtain ⟨c1, c2, c3, c4⟩ := hc rfl
    have hb : ((none : Option Axis) == some Axis.attribute) = false := rfl
    have hb2 : (Axis.child == Axis.attribute) = false := by decide
    have c4' : (r.head? == some [':', ':']) = false := by simpa using c4
    simp only [↓reduceIte, locationStep, cur_drop h', c1, c2, c3, peek_head h', c4', hb, hb2, bind, Except.bind, pure,
      Except.pure, beq_iff_eq, Bool.false_eq_true, AxSyn.tokens, AxSyn.axis, AxSyn.parsed, List.length_nil, Nat.add_zero]
  | attr =>
    have h' : ts.drop pos = ['@'] :: c :: r := h
    have hb : (some Axis.attribute == some Axis.attribute) = true := rfl
    simp only [↓reduceIte, locationStep, cur_drop h', next_drop h', hb, bind, Except.bind, pure, Except.pure,
      beq_self_eq_true, AxSyn.tokens, AxSyn.axis, AxSyn.parsed, List.length_cons, List.length_nil]

/-- the separator before a further step: `/`, or `//` for `/descendant-or-self::node()/` -/
def sepTok (d : Bool) : Str := if d then ['/', '/'] else ['/']

/-- entering the loop at the separator before a further step is entering it at the step, with
    the step `//` stands for appended -/
theorem locLoop_sep (ts : List Str) (f pos : Nat) (acc : List Step) (d : Bool) (x : Str) (r : List Str)
    (hacc : acc ≠ []) (hx : startsWithSlash x = false) (h : ts.drop pos = sepTok d :: x :: r) :
    locLoop ts (f + 1) pos acc =
      locLoop ts (f + 1) (pos + 1) (if d then acc ++ [⟨.descendantOrSelf, .node, []⟩] else acc) := by
  have hne : acc.isEmpty = false := by
    cases acc with
    | nil => exact absurd rfl hacc
    | cons _ _ => rfl
  have h1 := drop_succ h
  have hsl : startsWithSlash (sepTok d) = true := by cases d <;> rfl
  have hdd : (sepTok d == ['/', '/']) = d := by cases d <;> rfl
  simp only [locLoop, cur_drop h, cur_drop h1, hsl, hne, next_drop h, hx, hdd, bind, Except.bind, pure, Except.pure,
    ↓reduceIte, Bool.false_eq_true]

/-- an error in the first turn of the loop of `_location_path` is the error of `parse` (the fuel
    `parseTokens` starts with is a successor) -/
theorem parseTokens_locLoop_error {ts : List Str} {e : PErr} (h : ∀ f, locLoop ts (f + 1) 0 [] = .error e) :
    parseTokens ts = .error e := by
  unfold parseTokens
  rw [show 16 * (ts.length + 2) = 16 * (ts.length + 2) - 1 + 1 by omega]
  simp only [h, bind, Except.bind]

namespace Print

/-- the parser stands at `q`: the tokens `rem` are left; if none is left it stands on the last
    token `last` of what it has just read -/
def At (ts : List Str) (q : Nat) (last : Str) (rem : List Str) : Prop :=
  ts.drop q = if rem = [] then [last] else rem

theorem At.nil {ts : List Str} {q : Nat} {last : Str} (h : At ts q last []) : ts.drop q = [last] := by
  simpa [At] using h

theorem At.cons {ts : List Str} {q : Nat} {last y : Str} {r : List Str} (h : At ts q last (y :: r)) :
    ts.drop q = y :: r := by
  simpa [At] using h

theorem at_of_drop_nil {ts : List Str} {q : Nat} {x : Str} (h : ts.drop q = [x]) : At ts q x [] := by
  simpa [At] using h

theorem at_of_drop_cons {ts : List Str} {q : Nat} {x y : Str} {r : List Str} (h : ts.drop q = y :: r) :
    At ts q x (y :: r) := by
  simpa [At] using h

theorem At.after {ts : List Str} {p : Nat} {c : Str} {rem : List Str} (h : ts.drop p = c :: rem) :
    At ts (if rem = [] then p else p + 1) c rem := by
  cases rem with
  | nil => exact at_of_drop_nil h
  | cons y r => exact at_of_drop_cons (drop_succ h)

end Print

end Genshi.Path
