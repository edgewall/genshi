/-
  C05 `parser_accepts_subset` at token level, without predicates: location paths in abbreviated
  and unabbreviated syntax — `a/b`, `a//b`, `@x`, `p:a/*`, `./x:*//child::b/@p:c` — parse to the
  steps they denote (`parse_steps`).  The syntax is a `Print.Spelling` (`spelling_syn`), so the
  loops of `_location_path` and `parse` come from `PathPrintPath.lean`; `parse_chain`
  (`axis::name/axis::name/…`) is a special case.
-/
import Genshi.Lemmas.PathPrintPath
namespace Genshi.Path
open Genshi

inductive NTSyn where
  | name (n : Str)
  | star
  | qname (p n : Str)
  | qstar (p : Str)
  deriving Repr

def NTSyn.tokens : NTSyn → List Str
  | .name n => [n]
  | .star => [['*']]
  | .qname p n => [p, [':'], n]
  | .qstar p => [p, [':'], ['*']]

def NTSyn.test (attr : Bool) : NTSyn → NodeTest
  | .name n => .localName attr n
  | .star => .principal attr
  | .qname p n => .qname attr p n
  | .qstar p => .qprincipal attr p

/-- a token that can stand where a name is expected without being taken for something else -/
def okName (n : Str) : Prop :=
  n ≠ ['*'] ∧ n ≠ ['.'] ∧ n ≠ ['.', '.'] ∧ n ≠ ['@'] ∧ n ≠ ['['] ∧ n ≠ ['|'] ∧ startsWithSlash n = false

def NTSyn.wf : NTSyn → Prop
  | .name n => okName n
  | .star => True
  | .qname p n => okName p ∧ okName n
  | .qstar p => okName p

inductive StepSyn where
  | dot
  | step (ax : AxSyn) (nt : NTSyn)
  deriving Repr

def StepSyn.tokens : StepSyn → List Str
  | .dot => [['.']]
  | .step ax nt => ax.tokens ++ nt.tokens

def StepSyn.ast : StepSyn → Step
  | .dot => ⟨.self, .node, []⟩
  | .step ax nt => ⟨ax.axis, nt.test (ax.axis == .attribute), []⟩

def StepSyn.parsedAxis : StepSyn → Option Axis
  | .dot => some .self
  | .step ax _ => ax.parsed

def StepSyn.wf : StepSyn → Prop
  | .dot => True
  | .step _ nt => nt.wf

/-- after an axis has been read a name only has to be none of the tokens `_node_test` and the
    loops treat specially -/
def NTSyn.plain : NTSyn → Prop
  | .name n | .qname _ n => plainName n
  | _ => True

/-- what the parser needs of a step: the full `okName` only where the name test comes first -/
def StepSyn.ok : StepSyn → Prop
  | .step .short nt => nt.wf
  | .step _ nt => nt.plain
  | .dot => True

theorem okName.plain {n : Str} (h : okName n) : plainName n := ⟨h.1, h.2.1, h.2.2.2.2.1, h.2.2.2.2.2.1⟩

theorem NTSyn.wf.plain {nt : NTSyn} (h : nt.wf) : nt.plain := by
  cases nt with
  | name n => exact okName.plain h
  | qname p n => exact okName.plain h.2
  | _ => trivial

theorem StepSyn.wf.ok {s : StepSyn} (h : s.wf) : s.ok := by
  cases s with
  | dot => trivial
  | step ax nt => cases ax <;> first | exact h | exact NTSyn.wf.plain h

theorem StepSyn.ok.plain {ax : AxSyn} {nt : NTSyn} (h : (StepSyn.step ax nt).ok) : nt.plain := by
  cases ax <;> first | exact h | exact NTSyn.wf.plain h

/-- what follows a step: nothing, or a separator (`/`, `//`, or `|` before a further operand) and
    more tokens -/
def Tail (tail : List Str) : Prop :=
  tail = [] ∨ ∃ sep y r, tail = sep :: y :: r ∧ (sep = ['/'] ∨ sep = ['/', '/'] ∨ sep = ['|'])

theorem sep_facts {sep : Str} (h : sep = ['/'] ∨ sep = ['/', '/'] ∨ sep = ['|']) :
    sep ≠ ['('] ∧ sep ≠ ['(', ')'] ∧ sep ≠ [':'] ∧ sep ≠ [':', ':'] ∧ sep ≠ ['['] := by
  rcases h with rfl | rfl | rfl <;> decide

theorem tail_sep {tail : List Str} (ht : Tail tail) :
    ∀ y r, tail = y :: r → y ≠ ['('] ∧ y ≠ ['(', ')'] ∧ y ≠ [':'] := by
  rintro y r rfl
  rcases ht with h | ⟨sep, y', r', h, hsep⟩
  · cases h
  · cases h
    exact ⟨(sep_facts hsep).1, (sep_facts hsep).2.1, (sep_facts hsep).2.2.1⟩

theorem drop_add' {ts : List Str} {pos : Nat} {L : List Str} (h : ts.drop pos = L) (k : Nat) :
    ts.drop (pos + k) = L.drop k := by
  rw [← h, List.drop_drop]

open Print in
/-- `_node_test` on a name test; the parser stops on a token that is neither `[` nor `|` -/
theorem nodeTest_syn (ts : List Str) (pos : Nat) (attr : Bool) (nt : NTSyn) (tail : List Str)
    (hwf : nt.plain) (ht : Tail tail) (h : ts.drop pos = nt.tokens ++ tail) :
    ∃ q last, nodeTest ts pos attr = .ok (nt.test attr, q) ∧ At ts q last tail ∧ last ≠ ['['] ∧ last ≠ ['|'] := by
  have hstar : (['*'] : Str) ≠ ['['] ∧ (['*'] : Str) ≠ ['|'] := by decide
  cases nt with
  | name n =>
    exact ⟨_, n, by rw [nodeTest_plain ts pos attr n tail (tail_sep ht) h]; simp [hwf.1, hwf.2.1, NTSyn.test], .after h,
      hwf.2.2⟩
  | star => exact ⟨_, _, by rw [nodeTest_plain ts pos attr ['*'] tail (tail_sep ht) h]; rfl, .after h, hstar⟩
  | qname p n =>
    exact ⟨_, n, by rw [nodeTest_prefixed ts pos attr p n tail h]; simp [hwf.1, NTSyn.test],
      .after (drop_succ (drop_succ h)), hwf.2.2⟩
  | qstar p =>
    exact ⟨_, _, by rw [nodeTest_prefixed ts pos attr p ['*'] tail h]; rfl, .after (drop_succ (drop_succ h)), hstar⟩

open Print in
/-- no predicates follow: neither the token the parser stands on nor the next one is `[` -/
theorem predLoop_stop (ts : List Str) (fuel q : Nat) (last : Str) (tail : List Str) (hat : At ts q last tail)
    (hl : last ≠ ['[']) (ht : Tail tail) : predLoop ts (fuel + 1) q [] = .ok ([], q) := by
  rcases ht with rfl | ⟨sep, y, r, rfl, hsep⟩
  · simp [predLoop, cur_drop hat.nil, hl, bind, Except.bind, pure, Except.pure]
  · simp [predLoop, cur_drop hat.cons, (sep_facts hsep).2.2.2.2, bind, Except.bind, pure, Except.pure]

/-- a name test starts with a token after which no `::` follows; where the name test comes first in
    its step, `wf` says of that token what `_location_step` and the loop of `_location_path` ask -/
theorem NTSyn.first (nt : NTSyn) (tail : List Str) (ht : Tail tail) :
    ∃ c r, nt.tokens = c :: r ∧ (r ++ tail).head? ≠ some [':', ':'] ∧
      (nt.wf → c ≠ ['@'] ∧ c ≠ ['.'] ∧ c ≠ ['.', '.'] ∧ startsWithSlash c = false) := by
  have hnil : ([] ++ tail).head? ≠ some [':', ':'] := by
    rcases ht with rfl | ⟨sep, y, r, rfl, hsep⟩
    · simp
    · simpa using (sep_facts hsep).2.2.2.1
  have ok : ∀ {n : Str}, okName n → n ≠ ['@'] ∧ n ≠ ['.'] ∧ n ≠ ['.', '.'] ∧ startsWithSlash n = false :=
    fun h => ⟨h.2.2.2.1, h.2.1, h.2.2.1, h.2.2.2.2.2.2⟩
  cases nt with
  | name n => exact ⟨_, [], rfl, hnil, ok⟩
  | star => exact ⟨_, [], rfl, hnil, fun _ => by decide⟩
  | qname p n => exact ⟨_, _, rfl, by simp, fun h => ok h.1⟩
  | qstar p => exact ⟨_, _, rfl, by simp, ok⟩

open Print in
/-- `_location_step` on a step without predicates -/
theorem locationStep_syn (ts : List Str) (fuel pos : Nat) (s : StepSyn) (tail : List Str)
    (hwf : s.ok) (ht : Tail tail) (h : ts.drop pos = s.tokens ++ tail) :
    ∃ q last, locationStep ts (fuel + 1) pos = .ok ((s.parsedAxis, s.ast.test, []), q) ∧ At ts q last tail ∧
      last ≠ ['|'] := by
  cases s with
  | dot =>
    have h' : ts.drop pos = ['.'] :: tail := h
    have hat := At.after h'
    refine ⟨_, _, ?_, hat, by decide⟩
    have hb : (Axis.self == Axis.attribute) = false := by decide
    simp [locationStep, cur_drop h', hb, nodeTest_plain ts pos false ['.'] tail (tail_sep ht) h',
      predLoop_stop ts fuel _ ['.'] tail hat (by decide) ht, StepSyn.ast, StepSyn.parsedAxis, bind, Except.bind, pure,
      Except.pure]
  | step ax nt =>
    obtain ⟨c, r, hr, hne, hc⟩ := nt.first tail ht
    have h' : ts.drop pos = ax.tokens ++ c :: (r ++ tail) := by
      rw [h, StepSyn.tokens, List.append_assoc, hr]; rfl
    have hd : ts.drop (pos + ax.tokens.length) = nt.tokens ++ tail := by
      rw [drop_add' h]; simp [StepSyn.tokens]
    obtain ⟨q, last, hq, hat, l1, l2⟩ := nodeTest_syn ts _ (ax.axis == .attribute) nt tail hwf.plain ht hd
    refine ⟨q, last, ?_, hat, l2⟩
    rw [locationStep_axis ts (fuel + 1) pos ax _ _ h' (fun hax => by
        subst hax
        obtain ⟨f1, f2, f3, _⟩ := hc hwf
        exact ⟨f1, f2, f3, hne⟩), hq]
    simp [Except.bind, predLoop_stop ts fuel q _ tail hat l1 ht, StepSyn.ast, StepSyn.parsedAxis]

/-- a step starts with a token the loop of `_location_path` does not take for a separator -/
theorem StepSyn.head (s : StepSyn) (hwf : s.ok) : ∃ x r, s.tokens = x :: r ∧ startsWithSlash x = false := by
  cases s with
  | dot => exact ⟨_, _, rfl, by decide⟩
  | step ax nt =>
    cases ax with
    | explicit a => exact ⟨_, _, rfl, (axisName_plain a).2.2.2⟩
    | short =>
      obtain ⟨c, r, hr, _, hc⟩ := nt.first [] (.inl rfl)
      exact ⟨c, r, hr, (hc hwf).2.2.2⟩
    | attr => exact ⟨_, _, rfl, rfl⟩

def restTokens : List (Bool × StepSyn) → List Str
  | [] => []
  | (d, s) :: r => (if d then ['/', '/'] else ['/']) :: (s.tokens ++ restTokens r)

def dosNodeStep : Step := ⟨.descendantOrSelf, .node, []⟩

def restAst : List (Bool × StepSyn) → List Step
  | [] => []
  | (d, s) :: r => (if d then [dosNodeStep] else []) ++ s.ast :: restAst r

theorem parsed_getD (s : StepSyn) :
    (⟨s.parsedAxis.getD .child, s.ast.test, []⟩ : Step) = s.ast := by
  cases s with
  | dot => rfl
  | step ax nt => cases ax <;> rfl

def pathTokens (s0 : StepSyn) (rest : List (Bool × StepSyn)) : List Str := s0.tokens ++ restTokens rest

def pathAst (s0 : StepSyn) (rest : List (Bool × StepSyn)) : LocPath := s0.ast :: restAst rest

theorem StepSyn.ast_preds (s : StepSyn) : s.ast.preds = [] := by cases s <;> rfl

open Print in
/-- the written syntax of steps — `.`, `name`, `@name`, `axis::name`, attached with `/` or `//` —
    is a `Spelling`: `_location_step` reads each step back -/
theorem spelling_syn : Spelling (fun i : Bool × StepSyn => i.2.tokens) Prod.fst (fun i => i.2.ast) (fun i => i.2.ok)
    (· ≠ ['|']) where
  head i hi := i.2.head hi
  bar _ h := h
  read ts i hi rem hr hh f pos hd hf := by
    have ht : Tail rem := by
      rcases hr with rfl | ⟨y, z, r, rfl⟩
      · exact Or.inl rfl
      · refine Or.inr ⟨y, z, r, rfl, ?_⟩
        rcases hh y _ rfl with h | ⟨j, h⟩
        · exact Or.inr (Or.inr h)
        · cases hj : j.1 <;> simp [h, sepTok, hj]
    obtain ⟨f', rfl⟩ : ∃ f', f = f' + 1 := ⟨f - 1, by omega⟩
    obtain ⟨q, last, hq, hat, hl⟩ := locationStep_syn ts f' pos i.2 rem hi ht hd
    exact ⟨i.2.parsedAxis, q, last, by rw [hq, StepSyn.ast_preds], congrArg Step.axis (parsed_getD i.2), hat, hl⟩

theorem restTokens_eq (r : List (Bool × StepSyn)) :
    restTokens r = Print.restOf (fun i : Bool × StepSyn => i.2.tokens) Prod.fst r := by
  induction r with
  | nil => rfl
  | cons x r ih => obtain ⟨d, s⟩ := x; simp [restTokens, Print.restOf, sepTok, ih]

theorem restAst_eq (r : List (Bool × StepSyn)) :
    restAst r = Print.restAstOf Prod.fst (fun i : Bool × StepSyn => i.2.ast) r := by
  induction r with
  | nil => rfl
  | cons x r ih => obtain ⟨d, s⟩ := x; simp [restAst, Print.restAstOf, ih, dosNodeStep]

theorem parse_steps_ok (s0 : StepSyn) (rest : List (Bool × StepSyn)) (h0 : s0.ok) (hr : ∀ x ∈ rest, x.2.ok) :
    parseTokens (pathTokens s0 rest) = .ok [pathAst s0 rest] := by
  have := spelling_syn.parseTokens_read (false, s0) rest [] h0 hr (fun _ h => by cases h)
  simpa [Print.pathOf, Print.unOf, Print.pathAstOf, ← restTokens_eq, ← restAst_eq, pathTokens, pathAst] using this

/-- **parser_accepts_subset**, location paths without predicates in abbreviated or
    unabbreviated syntax -/
theorem parse_steps (s0 : StepSyn) (rest : List (Bool × StepSyn)) (h0 : s0.wf) (hr : ∀ x ∈ rest, x.2.wf) :
    parseTokens (pathTokens s0 rest) = .ok [pathAst s0 rest] :=
  parse_steps_ok s0 rest h0.ok fun x hx => (hr x hx).ok

def chainSyn (p : Axis × Str) : StepSyn := .step (.explicit p.1) (.name p.2)

theorem chainTokens_eq (p : Axis × Str) (ps : List (Axis × Str)) :
    chainTokens (p :: ps) = pathTokens (chainSyn p) (ps.map fun q => (false, chainSyn q)) := by
  induction ps generalizing p with
  | nil => obtain ⟨a, n⟩ := p; rfl
  | cons q r ih =>
    obtain ⟨a, n⟩ := p
    have := ih q
    simp only [pathTokens] at this
    simp [chainTokens, this, pathTokens, restTokens, chainSyn, StepSyn.tokens, AxSyn.tokens, NTSyn.tokens]

theorem chainAst_eq (ps : List (Axis × Str)) : restAst (ps.map fun q => (false, chainSyn q)) = ps.map stepOf := by
  induction ps with
  | nil => rfl
  | cons q r ih => simp only [List.map_cons, restAst, ih]; rfl

/-- **parser_accepts_subset**, the case `axis::name/axis::name/…` (token level) -/
theorem parse_chain (steps : List (Axis × Str)) (hne : steps ≠ []) (hnames : ∀ p ∈ steps, plainName p.2) :
    parseTokens (chainTokens steps) = .ok [steps.map stepOf] := by
  cases steps with
  | nil => exact absurd rfl hne
  | cons p ps =>
    have h0 : (chainSyn p).ok := hnames p List.mem_cons_self
    have hr : ∀ x ∈ ps.map fun q => (false, chainSyn q), x.2.ok := by
      intro x hx
      obtain ⟨q, hq, rfl⟩ := List.mem_map.mp hx
      exact hnames q (List.mem_cons_of_mem _ hq)
    rw [chainTokens_eq, parse_steps_ok _ _ h0 hr]
    simp only [pathAst, chainAst_eq]; rfl

end Genshi.Path
