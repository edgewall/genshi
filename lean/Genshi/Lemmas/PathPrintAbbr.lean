/-
  C05 `parse ∘ print = id`, part 6: the abbreviated spelling of steps (`a`, `@x`, `text()`; the
  other axes stay `axis::`) — `parse (printPathsA p) = p` on the same domain.
-/
import Genshi.Lemmas.PathPrintTok
namespace Genshi.Path
namespace Print
open Genshi

theorem stepToksA_cons (s : Step) (hs : stepOk s = true) :
    ∃ x r, stepToksA s = x :: r ∧ startsWithSlash x = false := by
  simp only [stepOk, Bool.and_eq_true] at hs
  obtain ⟨c, r, hc, _, _, _, h4, _⟩ := stepTest_first _ s.test hs.1
  cases ha : s.axis with
  | child => exact ⟨c, r ++ predsToks s.preds, by simp [stepToksA, axisToksA, ha, hc], h4⟩
  | «attribute» => exact ⟨['@'], stepTestToks s.test ++ predsToks s.preds, by simp [stepToksA, axisToksA, ha], by decide⟩
  | descendant => exact ⟨axisTok .descendant, [':', ':'] :: (stepTestToks s.test ++ predsToks s.preds), by simp [stepToksA, axisToksA, ha], by decide⟩
  | descendantOrSelf => exact ⟨axisTok .descendantOrSelf, [':', ':'] :: (stepTestToks s.test ++ predsToks s.preds), by simp [stepToksA, axisToksA, ha], by decide⟩
  | self => exact ⟨axisTok .self, [':', ':'] :: (stepTestToks s.test ++ predsToks s.preds), by simp [stepToksA, axisToksA, ha], by decide⟩

/-- what `_location_step` returns as axis for an abbreviated step -/
def axisRead : Axis → Option Axis
  | .child => none
  | a => some a

theorem axisRead_getD (a : Axis) : (axisRead a).getD .child = a := by cases a <;> rfl

/-- how the abbreviated spelling writes an axis -/
def axSyn : Axis → AxSyn
  | .child => .short
  | .attribute => .attr
  | a => .explicit a

theorem axSyn_facts (a : Axis) :
    (axSyn a).tokens = axisToksA a ∧ (axSyn a).axis = a ∧ (axSyn a).parsed = axisRead a := by
  cases a <;> exact ⟨rfl, rfl, rfl⟩

/-- `_location_step` on an abbreviated step -/
theorem locationStep_printA (ts : List Str) (s : Step) (hs : stepOk s = true) (rem : List Str) (hr : Rem rem)
    (hh : ∀ y r, rem = y :: r → y = ['/'] ∨ y = ['|']) (f pos : Nat)
    (h : ts.drop pos = stepToksA s ++ rem) (hf : 13 * ts.length + 9 ≤ f) :
    ∃ q last, locationStep ts f pos = .ok ((axisRead s.axis, s.test, s.preds), q) ∧ At ts q last rem ∧ LastOk last := by
  obtain ⟨ht, hax, hpa⟩ := axSyn_facts s.axis
  rw [← hpa]
  exact locationStep_written ts (axSyn s.axis) s hax hs rem hr hh f pos (by rw [h, ht]; simp [stepToksA]) hf

theorem spelling_abbr : Spelling stepToksA (fun _ => false) id (fun s => stepOk s = true) LastOk where
  head := stepToksA_cons
  bar _ h := h.2.2
  read ts s hs rem hr hh f pos hd hf := by
    obtain ⟨q, last, hq, hat, hl⟩ := locationStep_printA ts s hs rem hr
      (fun y r hy => (hh y r hy).symm.imp (fun ⟨_, h⟩ => h) id) f pos hd hf
    exact ⟨_, q, last, hq, axisRead_getD s.axis, hat, hl⟩

theorem printer_abbr : Printer stepToksA restToksA pathToksA unionToksA :=
  ⟨rfl, fun _ _ => rfl, rfl, fun _ _ => rfl, rfl, fun _ _ => rfl⟩

/-- the loop of `_location_path` over abbreviated steps -/
theorem locLoop_printA (ts : List Str) (rem : List Str) (hr : Rem rem) (hh : ∀ y r, rem = y :: r → y = ['|']) :
    ∀ (r : List Step) (s : Step) (acc : List Step) (f pos : Nat),
      stepOk s = true → (∀ x ∈ r, stepOk x = true) →
      ts.drop pos = stepToksA s ++ (restToksA r ++ rem) → 13 * ts.length + 10 + r.length + 1 ≤ f →
      ∃ q last, locLoop ts f pos acc = .ok (acc ++ s :: r, q) ∧ At ts q last rem ∧ LastOk last := by
  intro r s acc f pos hs hrs hd hf
  have hr' := printer_abbr.toks.1 r
  simpa [restAstOf_id] using spelling_abbr.locLoop_read ts rem hr hh r s acc f pos hs hrs (hr' ▸ hd) hf

theorem parseTokens_printA (ps : List LocPath) (h : pathsOk ps = true) :
    parseTokens (pathsToksA ps) = .ok ps := by
  obtain ⟨p, rest, rfl, hp, hrest⟩ := pathsOk_cons ps h
  exact spelling_abbr.parseTokens_printer printer_abbr p rest hp hrest

theorem stepToksA_ok (s : Step) (h : stepOk s = true) : AllOk (stepToksA s) := by
  have h' := h
  simp only [stepOk, Bool.and_eq_true, List.all_eq_true] at h'
  have hax : AllOk (axisToksA s.axis) := by
    cases s.axis with
    | child => exact .nil
    | «attribute» => exact .cons (tab _ (by decide)) .nil
    | _ => exact .cons (nameOk_tok _ (axisTok_name _)) (.cons (tab _ (by decide)) .nil)
  exact .append hax (.append (stepTestToks_ok _ _ h'.1) (predsToks_ok _ h'.2))

theorem pathsToksA_ok (ps : List LocPath) (h : pathsOk ps = true) : AllOk (pathsToksA ps) := by
  obtain ⟨p, rest, rfl, hp, hrest⟩ := pathsOk_cons ps h
  exact printer_abbr.allOk stepToksA_ok p rest hp hrest

/-- **`PathParser(text).parse()` reads every abbreviated print back.** -/
theorem parse_printA (ps : List LocPath) (h : pathsOk ps = true) : parse (printPathsA ps) = .ok ps := by
  unfold parse printPathsA
  rw [tokenize_render _ (pathsToksA_ok ps h)]
  exact parseTokens_printA ps h

end Print
end Genshi.Path
