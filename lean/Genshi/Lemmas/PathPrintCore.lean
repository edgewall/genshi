/-
  C05 `parse ∘ print = id`, part 1: the operator levels of genshi's predicate parser
  (`_or_expr` … `_relational_expr`, `_sub_expr`) seen as one family `parseAt k` / `loopAt k`,
  what may follow an operand (`Follow`), and how a binary node is spelled (`BinAt`).
-/
import Genshi.Model.PathPrint
import Genshi.Lemmas.PathParseChain
namespace Genshi.Path
namespace Print
open Genshi

/-- the parser function for an operand of level `k` -/
def parseAt : Nat → List Str → Nat → Nat → Except PErr (Expr × Nat)
  | 0, ts, f, p => orExpr ts f p
  | 1, ts, f, p => andExpr ts f p
  | 2, ts, f, p => eqExpr ts f p
  | 3, ts, f, p => relExpr ts f p
  | _, ts, f, p => subExpr ts f p

/-- the `while` loop of level `k` -/
def loopAt : Nat → List Str → Nat → Nat → Expr → Except PErr (Expr × Nat)
  | 0, ts, f, p, e => orLoop ts f p e
  | 1, ts, f, p, e => andLoop ts f p e
  | 2, ts, f, p, e => eqLoop ts f p e
  | _, ts, f, p, e => relLoop ts f p e

/-- a token that can follow an operand of level `k`: a closing token, or an operator that binds
    weaker than level `k` -/
inductive Follow : Nat → Str → Prop
  | rbr (k) : Follow k [']']
  | rpar (k) : Follow k [')']
  | comma (k) : Follow k [',']
  | or_ (k) : 0 < k → Follow k ['o', 'r']
  | and_ (k) : 1 < k → Follow k ['a', 'n', 'd']
  | eq (k) : 2 < k → Follow k ['=']
  | ne (k) : 2 < k → Follow k ['!', '=']
  | gt (k) : 3 < k → Follow k ['>']
  | ge (k) : 3 < k → Follow k ['>', '=']
  | lt (k) : 3 < k → Follow k ['<']
  | le (k) : 3 < k → Follow k ['<', '=']

theorem Follow.mono {k k' : Nat} {t : Str} (h : Follow k t) (hk : k ≤ k') : Follow k' t := by
  cases h with
  | rbr => exact .rbr _
  | rpar => exact .rpar _
  | comma => exact .comma _
  | or_ h => exact .or_ _ (by omega)
  | and_ h => exact .and_ _ (by omega)
  | eq h => exact .eq _ (by omega)
  | ne h => exact .ne _ (by omega)
  | gt h => exact .gt _ (by omega)
  | ge h => exact .ge _ (by omega)
  | lt h => exact .lt _ (by omega)
  | le h => exact .le _ (by omega)

/-- what the parser needs to know about a following token at a name position -/
theorem Follow.plain {k : Nat} {t : Str} (h : Follow k t) :
    t ≠ [':'] ∧ t ≠ ['('] ∧ t ≠ ['(', ')'] ∧ (t.head? == some '(') = false ∧ t ≠ ['['] ∧ t ≠ [':', ':'] := by
  cases h <;> decide

/-- how a binary node of level `j` is written and built -/
inductive BinAt : Nat → Str → (Expr → Expr → Expr) → Prop
  | or_ : BinAt 0 ['o', 'r'] Expr.or_
  | and_ : BinAt 1 ['a', 'n', 'd'] Expr.and_
  | eq : BinAt 2 ['='] (Expr.cmp .eq)
  | ne : BinAt 2 ['!', '='] (Expr.cmp .ne)
  | gt : BinAt 3 ['>'] (Expr.cmp .gt)
  | ge : BinAt 3 ['>', '='] (Expr.cmp .ge)
  | lt : BinAt 3 ['<'] (Expr.cmp .lt)
  | le : BinAt 3 ['<', '='] (Expr.cmp .le)

theorem BinAt.lt4 {j : Nat} {t : Str} {mk : Expr → Expr → Expr} (h : BinAt j t mk) : j < 4 := by
  cases h <;> omega

theorem BinAt.follow {j : Nat} {t : Str} {mk : Expr → Expr → Expr} (h : BinAt j t mk) : Follow (j + 1) t := by
  cases h
  · exact .or_ _ (by omega)
  · exact .and_ _ (by omega)
  · exact .eq _ (by omega)
  · exact .ne _ (by omega)
  · exact .gt _ (by omega)
  · exact .ge _ (by omega)
  · exact .lt _ (by omega)
  · exact .le _ (by omega)

/-- the operator tokens resolve to their classes in the regenerated `_operator_map` -/
theorem opOfToken_tokens :
    opOfToken ['='] = some .eq ∧ opOfToken ['!', '='] = some .ne ∧ opOfToken ['>'] = some .gt ∧
    opOfToken ['>', '='] = some .ge ∧ opOfToken ['<'] = some .lt ∧ opOfToken ['<', '='] = some .le := by
  decide

/-- a level is its next level followed by its loop -/
theorem parseAt_succ (j : Nat) (hj : j < 4) (ts : List Str) (f pos : Nat) :
    parseAt j ts (f + 1) pos = (parseAt (j + 1) ts f pos).bind (fun r => loopAt j ts f r.2 r.1) := by
  have h4 : j = 0 ∨ j = 1 ∨ j = 2 ∨ j = 3 := by omega
  rcases h4 with rfl | rfl | rfl | rfl
  · simp only [parseAt, loopAt, orExpr]
    cases andExpr ts f pos <;> rfl
  · simp only [parseAt, loopAt, andExpr]
    cases eqExpr ts f pos <;> rfl
  · simp only [parseAt, loopAt, eqExpr]
    cases relExpr ts f pos <;> rfl
  · simp only [parseAt, loopAt, relExpr]
    cases subExpr ts f pos <;> rfl

/-- the loop of level `j` ends at a token that may follow an operand of level `k ≤ j` -/
theorem loopAt_stop (j k : Nat) (hj : j < 4) (hk : k ≤ j) (ts : List Str) (f q : Nat) (acc : Expr)
    (t0 : Str) (rest : List Str) (h : ts.drop q = t0 :: rest) (hf : Follow k t0) :
    loopAt j ts (f + 1) q acc = .ok (acc, q) := by
  have h4 : j = 0 ∨ j = 1 ∨ j = 2 ∨ j = 3 := by omega
  rcases h4 with rfl | rfl | rfl | rfl
  · have : (t0 == ['o', 'r']) = false := by
      cases hf <;> first | rfl | omega
    simp [loopAt, orLoop, cur_drop h, this, bind, Except.bind, pure, Except.pure]
  · have : (t0 == ['a', 'n', 'd']) = false := by
      cases hf <;> first | rfl | omega
    simp [loopAt, andLoop, cur_drop h, this, bind, Except.bind, pure, Except.pure]
  · have : (t0 == ['=']) = false ∧ (t0 == ['!', '=']) = false := by
      cases hf <;> first | exact ⟨rfl, rfl⟩ | omega
    simp [loopAt, eqLoop, cur_drop h, this.1, this.2, bind, Except.bind, pure, Except.pure]
  · have : (t0 == ['>']) = false ∧ (t0 == ['>', '=']) = false ∧ (t0 == ['<']) = false ∧ (t0 == ['<', '=']) = false := by
      cases hf <;> first | exact ⟨rfl, rfl, rfl, rfl⟩ | omega
    simp [loopAt, relLoop, cur_drop h, this.1, this.2.1, this.2.2.1, this.2.2.2, bind, Except.bind, pure, Except.pure]

/-- the loop of level `j` at one of its operators -/
theorem loopAt_op {j : Nat} {tok : Str} {mk : Expr → Expr → Expr} (hb : BinAt j tok mk)
    (ts : List Str) (f q : Nat) (acc : Expr) (y : Str) (r : List Str) (h : ts.drop q = tok :: y :: r) :
    loopAt j ts (f + 1) q acc =
      (parseAt (j + 1) ts f (q + 1)).bind (fun x => loopAt j ts f x.2 (mk acc x.1)) := by
  obtain ⟨o1, o2, o3, o4, o5, o6⟩ := opOfToken_tokens
  cases hb
  · simp only [loopAt, orLoop, parseAt, cur_drop h, next_drop h, bind, Except.bind, pure, Except.pure]
    cases andExpr ts f (q + 1) <;> rfl
  · simp only [loopAt, andLoop, parseAt, cur_drop h, next_drop h, bind, Except.bind, pure, Except.pure]
    cases eqExpr ts f (q + 1) <;> rfl
  · simp only [loopAt, eqLoop, parseAt, cur_drop h, next_drop h, o1, bind, Except.bind, pure, Except.pure]
    cases relExpr ts f (q + 1) <;> rfl
  · simp only [loopAt, eqLoop, parseAt, cur_drop h, next_drop h, o2, bind, Except.bind, pure, Except.pure]
    cases relExpr ts f (q + 1) <;> rfl
  · simp only [loopAt, relLoop, parseAt, cur_drop h, next_drop h, o3, bind, Except.bind, pure, Except.pure]
    cases subExpr ts f (q + 1) <;> rfl
  · simp only [loopAt, relLoop, parseAt, cur_drop h, next_drop h, o4, bind, Except.bind, pure, Except.pure]
    cases subExpr ts f (q + 1) <;> rfl
  · simp only [loopAt, relLoop, parseAt, cur_drop h, next_drop h, o5, bind, Except.bind, pure, Except.pure]
    cases subExpr ts f (q + 1) <;> rfl
  · simp only [loopAt, relLoop, parseAt, cur_drop h, next_drop h, o6, bind, Except.bind, pure, Except.pure]
    cases subExpr ts f (q + 1) <;> rfl

theorem level_le (e : Expr) : level e ≤ 4 := by
  cases e <;> simp [level]
  rename_i op _ _
  cases op <;> simp

theorem bin_of_level (e : Expr) (j : Nat) (hl : level e = j) (hj : j < 4) :
    ∃ tok mk a b, BinAt j tok mk ∧ e = mk a b ∧ toks e = toksAt j a ++ tok :: toksAt (j + 1) b := by
  cases e with
  | or_ a b =>
    simp [level] at hl; subst hl
    exact ⟨_, _, a, b, .or_, rfl, by simp [toks, toksAt, paren, orTok]⟩
  | and_ a b =>
    simp [level] at hl; subst hl
    exact ⟨_, _, a, b, .and_, rfl, by simp [toks, toksAt, andTok]⟩
  | cmp op a b =>
    cases op <;> simp [level] at hl <;> subst hl
    · exact ⟨_, _, a, b, .eq, rfl, by rw [toks]; rfl⟩
    · exact ⟨_, _, a, b, .ne, rfl, by rw [toks]; rfl⟩
    · exact ⟨_, _, a, b, .gt, rfl, by rw [toks]; rfl⟩
    · exact ⟨_, _, a, b, .ge, rfl, by rw [toks]; rfl⟩
    · exact ⟨_, _, a, b, .lt, rfl, by rw [toks]; rfl⟩
    · exact ⟨_, _, a, b, .le, rfl, by rw [toks]; rfl⟩
  | _ => simp [level] at hl; omega

end Print
end Genshi.Path
