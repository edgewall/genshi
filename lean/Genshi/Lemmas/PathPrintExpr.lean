/-
  C05 `parse ∘ print = id`, part 3: every printable predicate expression is read back by
  `_or_expr` (and by the parser function of every other level, with parentheses when the
  expression binds weaker than the level asks for).
-/
import Genshi.Lemmas.PathPrintPrim
namespace Genshi.Path
namespace Print
open Genshi

/-- "level `j` reads `e` back and is then in its loop at the token after `e`": level `j + 1` on
    `toksAt j e` followed by the loop of level `j` is that loop pending at `t0` with accumulator
    `e`, with at most `(toks e).length` units of fuel less.  Because it speaks of the pending loop
    and not of a result, `a or b or c` is read by applying it to the left operand `a or b`
    (`AP_bin`); no chain is ever decomposed along its spine. -/
def AP (ts : List Str) (j : Nat) (e : Expr) (B : Nat) : Prop :=
  ∀ f pos t0 rest, ts.drop pos = toksAt j e ++ t0 :: rest → Follow (j + 1) t0 → B ≤ f + 1 →
    ∃ g q, f ≤ g + (toks e).length ∧ ts.drop q = t0 :: rest ∧
      (parseAt (j + 1) ts f pos).bind (fun r => loopAt j ts f r.2 r.1) = loopAt j ts g q e

/-- fuel on top of `12 · tokens`: how many parser functions lie between level `k` and the level
    `L` that really parses the expression — down from `k` to `L`, or up to `_sub_expr`, through the
    parentheses and down from `_or_expr` -/
def slack (k L : Nat) : Nat := if k ≤ L then L - k else L + 5 - k

/-- both statements with a bound that does not depend on the level (for sub-expressions).
    Fuel is handed down, one unit less at every call, so a bound is a bound on how deep the
    parser functions nest.  `12` per token is more than an operator (`AP_bin`) or a call
    (`SP_call`) adds; `8` covers the `slack + 2 ≤ 6` of `expr_step`, where the levels passed
    through and the parentheses (`SP_paren`) are counted. -/
def Good (ts : List Str) (e : Expr) : Prop :=
  (∀ k, k ≤ 4 → SP ts k e (12 * (toks e).length + 8)) ∧ (∀ j, j < 4 → AP ts j e (12 * (toks e).length + 8))

theorem SP.mono {ts : List Str} {k : Nat} {e : Expr} {B B' : Nat} (h : SP ts k e B) (hb : B ≤ B') : SP ts k e B' :=
  fun f pos t0 rest hd hf hB => h f pos t0 rest hd hf (by omega)

theorem AP.mono {ts : List Str} {k : Nat} {e : Expr} {B B' : Nat} (h : AP ts k e B) (hb : B ≤ B') : AP ts k e B' :=
  fun f pos t0 rest hd hf hB => h f pos t0 rest hd hf (by omega)

/-- the loop pending at `t0` stops there, since `t0` may follow an operand of level `j` itself -/
theorem SP_of_AP (ts : List Str) (j : Nat) (hj : j < 4) (e : Expr) (B : Nat) (hB : (toks e).length + 2 ≤ B)
    (h : AP ts j e B) : SP ts j e B := by
  intro f pos t0 rest hd hf hBf
  obtain ⟨f', rfl⟩ : ∃ f', f = f' + 1 := ⟨f - 1, by omega⟩
  obtain ⟨g, q, hg, hdq, heq⟩ := h f' pos t0 rest hd (hf.mono (by omega)) hBf
  obtain ⟨g', rfl⟩ : ∃ g', g = g' + 1 := ⟨g - 1, by omega⟩
  refine ⟨q, ?_, hdq⟩
  rw [parseAt_succ j hj, heq, loopAt_stop j j hj (Nat.le_refl _) ts g' q e t0 rest hdq hf]

theorem toksAt_succ_of_ne (e : Expr) (j : Nat) (h : level e ≠ j) : toksAt j e = toksAt (j + 1) e := by
  by_cases h1 : level e < j
  · rw [toksAt_of_lt h1, toksAt_of_lt (Nat.lt_succ_of_lt h1)]
  · rw [toksAt_of_le (Nat.not_lt.1 h1), toksAt_of_le (by omega)]

theorem AP_of_SP_succ (ts : List Str) (j : Nat) (e : Expr) (hl : level e ≠ j) (B' B : Nat)
    (hB : B' + 1 ≤ B) (h : SP ts (j + 1) e B') : AP ts j e B := by
  intro f pos t0 rest hd hf hBf
  rw [toksAt_succ_of_ne e j hl] at hd
  obtain ⟨q, hq, hdq⟩ := h f pos t0 rest hd hf (by omega)
  exact ⟨f, q, by omega, hdq, by rw [hq]; rfl⟩

theorem toksAt_length (k : Nat) (e : Expr) : (toks e).length ≤ (toksAt k e).length := by
  simp only [toksAt, paren]
  split <;> simp [lpar, rpar] <;> omega

theorem exprOk_bin {j : Nat} {tok : Str} {mk : Expr → Expr → Expr} (hb : BinAt j tok mk) (a b : Expr)
    (h : exprOk (mk a b) = true) : exprOk a = true ∧ exprOk b = true := by
  cases hb <;> simpa [exprOk] using h

/-- a binary node at its own level -/
theorem AP_bin (ts : List Str) (j : Nat) (hj : j < 4) (e : Expr) (hl : level e = j) (hok : exprOk e = true)
    (ih : ∀ e', (toks e').length < (toks e).length → exprOk e' = true → Good ts e') :
    AP ts j e (12 * (toks e).length + 2) := by
  obtain ⟨tok, mk, a, b, hb, rfl, htk⟩ := bin_of_level e j hl hj
  obtain ⟨hoka, hokb⟩ := exprOk_bin hb a b hok
  have hla := toksAt_length j a
  have hlb := toksAt_length (j + 1) b
  have hlen : (toks (mk a b)).length = (toksAt j a).length + 1 + (toksAt (j + 1) b).length := by
    rw [htk]; simp; omega
  intro f pos t0 rest hd hf hBf
  rw [toksAt_of_le (Nat.le_of_eq hl.symm), htk] at hd
  obtain ⟨y, r', hy⟩ := exists_cons_append (toksAt (j + 1) b) t0 rest
  have hd' : ts.drop pos = toksAt j a ++ tok :: (toksAt (j + 1) b ++ t0 :: rest) := by
    rw [hd]; simp
  obtain ⟨g1, q1, hg1, hdq1, heq1⟩ := (ih a (by omega) hoka).2 j hj f pos tok _ hd' hb.follow (by omega)
  obtain ⟨g', rfl⟩ : ∃ g', g1 = g' + 1 := ⟨g1 - 1, by omega⟩
  have hdq1' : ts.drop q1 = tok :: y :: r' := by rw [hdq1, hy]
  have hdb : ts.drop (q1 + 1) = toksAt (j + 1) b ++ t0 :: rest := drop_succ hdq1
  obtain ⟨q2, hq2, hdq2⟩ := (ih b (by omega) hokb).1 (j + 1) (by omega) g' (q1 + 1) t0 rest hdb hf (by omega)
  refine ⟨g', q2, by omega, hdq2, ?_⟩
  rw [heq1, loopAt_op hb ts g' q1 a y r' hdq1', hq2]
  rfl

/-- a parenthesised expression -/
theorem SP_paren (ts : List Str) (e : Expr) (hl : level e < 4) (B : Nat) (h : SP ts 0 e B) : SP ts 4 e (B + 1) := by
  intro f pos t0 rest hd hf hBf
  obtain ⟨f', rfl⟩ : ∃ f', f = f' + 1 := ⟨f - 1, by omega⟩
  rw [toksAt_of_lt hl] at hd
  simp only [List.cons_append, List.append_assoc, List.nil_append] at hd
  obtain ⟨y, r', hy⟩ := exists_cons_append (toks e) rpar (t0 :: rest)
  have hd' : ts.drop pos = lpar :: y :: r' := by rw [hd, hy]
  have hd1 : ts.drop (pos + 1) = toksAt 0 e ++ rpar :: t0 :: rest := by rw [toksAt_zero, drop_succ hd]
  obtain ⟨q, hq, hdq⟩ := h f' (pos + 1) rpar (t0 :: rest) hd1 (.rpar 0) (by omega)
  refine ⟨q + 1, ?_, drop_succ hdq⟩
  simp only [parseAt] at hq ⊢
  have h1 : (lpar != ['(']) = false := by decide
  have h2 : (rpar != [')']) = false := by decide
  rw [subExpr]
  simp [cur_drop hd', h1, next_drop hd', hq, cur_drop hdq, h2, next_drop hdq, bind, Except.bind, pure, Except.pure]

theorem functionOf_fn0 (f : Fn0) : functionOf (fn0Tok f) [] = .ok (.fn0 f) := by cases f <;> rfl
theorem functionOf_fn1 (f : Fn1) (a : Expr) : functionOf (fn1Tok f) [a] = .ok (.fn1 f a) := by cases f <;> rfl
theorem functionOf_fn2 (f : Fn2) (a b : Expr) : functionOf (fn2Tok f) [a, b] = .ok (.fn2 f a b) := by cases f <;> rfl
theorem functionOf_fn3 (f : Fn3) (hf : f ≠ .matches) (a b c : Expr) :
    functionOf (fn3Tok f) [a, b, c] = .ok (.fn3 f a b c) := by
  cases f
  · rfl
  · rfl
  · exact absurd rfl hf

theorem concat_facts (e : Expr) : isConcat e = true → exprOk e = true →
    ∃ a as, mkConcat (a :: as) = some e ∧ argToks e = toks a ++ moreArgs as ∧
      (∀ x ∈ a :: as, exprOk x = true) ∧ as.length + 1 = concatLen e := by
  induction e with
  | concat1 a _ =>
    intro _ hok
    refine ⟨a, [], rfl, by simp [argToks, moreArgs], ?_, rfl⟩
    intro x hx
    simp at hx; subst hx
    simpa [exprOk] using hok
  | concat a r _ ihr =>
    intro _ hok
    simp only [exprOk, Bool.and_eq_true, decide_eq_true_eq] at hok
    obtain ⟨b, bs, h2, h3, h4, h5⟩ := ihr hok.1.1.2 hok.1.2
    refine ⟨a, b :: bs, ?_, ?_, ?_, ?_⟩
    · simp [mkConcat, h2]
    · simp [argToks, h3, moreArgs]
    · intro x hx
      rcases List.mem_cons.mp hx with rfl | hx'
      · exact hok.1.1.1
      · exact h4 x hx'
    · simp [concatLen]; omega
  | _ => intro hc; simp [isConcat] at hc

/-- `99`: the arity range `harness/extract_path.py` writes into the regenerated `_function_map` for
    a function whose `__init__` takes `*args`; `exprOk` bounds a `concat` chain by it -/
theorem functionOf_concat (a : Expr) (as : List Expr) (e : Expr) (hm : mkConcat (a :: as) = some e)
    (hl : as.length + 1 ≤ 99) : functionOf concatTok (a :: as) = .ok e := by
  rcases as with _ | ⟨b, _ | ⟨d, _ | ⟨x, r⟩⟩⟩
  · simp [mkConcat] at hm; subst hm; rfl
  · simp [mkConcat] at hm; subst hm; rfl
  · simp [mkConcat] at hm; subst hm; rfl
  · have hlk : lookup concatTok Gen.Path.functionMap = some (cConcatFunction, 0, 99) := by decide
    have hc : (cConcatFunction == cConcatFunction) = true := by decide
    have hlen : ((a :: b :: d :: x :: r).length < 0 || (a :: b :: d :: x :: r).length > 99) = false := by
      simp at hl ⊢; omega
    simp only [↓reduceIte, functionOf, hlk, hlen, hm, hc, Bool.false_eq_true]

/-- a call with at least one argument -/
theorem SP_call (ts : List Str) (e : Expr) (name : Str) (a : Expr) (as : List Expr) (hn : FnTok name)
    (htk : toks e = name :: lpar :: (toks a ++ (moreArgs as ++ [rpar]))) (hl : level e = 4)
    (hfn : functionOf name (a :: as) = .ok e) (hoks : ∀ x ∈ a :: as, exprOk x = true)
    (ih : ∀ e', (toks e').length < (toks e).length → exprOk e' = true → Good ts e') :
    SP ts 4 e (12 * (toks e).length + 2) := by
  intro f pos t0 rest hd hf hB
  rw [toksAt_of_le (Nat.le_of_eq hl.symm), htk] at hd
  simp only [List.cons_append, List.append_assoc, List.nil_append] at hd
  have hlen : (toks e).length = 3 + (toks a).length + (moreArgs as).length := by rw [htk]; simp; omega
  have hM := moreArgs_length as
  obtain ⟨f', rfl⟩ : ∃ f', f = f' + 3 := ⟨f - 3, by omega⟩
  have hlt : ∀ x ∈ a :: as, (toks x).length + as.length ≤ (toks a).length + (moreArgs as).length := by
    intro x hx
    rcases List.mem_cons.mp hx with rfl | hx'
    · omega
    · have := moreArgs_mem_length as x hx'; omega
  have hsp : ∀ x ∈ a :: as, SP ts 0 x (12 * (toks x).length + 8) := by
    intro x hx
    have := hlt x hx
    exact (ih x (by omega) (hoks x hx)).1 0 (by omega)
  obtain ⟨q, hq, hdq⟩ := call_spec ts name hn a as f' pos t0 rest hd hsp
    (fun x hx => by have := hlt x hx; omega) (by omega) e hfn
  exact ⟨q, by simpa [parseAt] using hq, hdq⟩

/-- a primary that `_sub_expr` reads with `B` units of fuel to spare -/
theorem SP_of_sub (ts : List Str) (e : Expr) (hl : level e = 4) (B : Nat) (hB : B ≤ 12 * (toks e).length + 2)
    (h : ∀ f pos t0 rest, ts.drop pos = toks e ++ t0 :: rest → Follow 4 t0 →
      ∃ q, subExpr ts (f + B) pos = .ok (e, q) ∧ ts.drop q = t0 :: rest) :
    SP ts 4 e (12 * (toks e).length + 2) := by
  intro f pos t0 rest hd hf hf'
  obtain ⟨f', rfl⟩ : ∃ f', f = f' + B := ⟨f - B, by omega⟩
  rw [toksAt_of_le (Nat.le_of_eq hl.symm)] at hd
  exact h f' pos t0 rest hd hf

/-- an expression of level 4 where `_sub_expr` is asked -/
theorem SP_prim (ts : List Str) (e : Expr) (hl : level e = 4) (hok : exprOk e = true)
    (ih : ∀ e', (toks e').length < (toks e).length → exprOk e' = true → Good ts e') :
    SP ts 4 e (12 * (toks e).length + 2) := by
  cases e with
  | test t =>
    exact SP_of_sub ts _ hl 2 (Nat.le_add_left 2 _) fun f pos t0 rest hd hf => prim_test ts t hok f pos t0 rest 4 hf hd
  | str s => exact SP_of_sub ts _ hl 2 (Nat.le_add_left 2 _) fun f pos t0 rest hd _ => prim_str ts s f pos t0 rest hd
  | num x => exact SP_of_sub ts _ hl 2 (Nat.le_add_left 2 _) fun f pos t0 rest hd _ => prim_num ts x hok f pos t0 rest hd
  | var n => exact SP_of_sub ts _ hl 2 (Nat.le_add_left 2 _) fun f pos t0 rest hd _ => prim_var ts n f pos t0 rest hd
  | fn0 fn =>
    exact SP_of_sub ts _ hl 3 (by simp [toks]) fun f pos t0 rest hd _ =>
      call0_spec ts (fn0Tok fn) (.of_name (fn0Tok_name fn)) f pos t0 rest hd _ (functionOf_fn0 fn)
  | fn1 fn a =>
    refine SP_call ts _ (fn1Tok fn) a [] (.of_name (fn1Tok_name fn)) (by simp [toks, moreArgs]) hl (functionOf_fn1 fn a) ?_ ih
    intro x hx; simp at hx; subst hx; simpa [exprOk] using hok
  | fn2 fn a b =>
    simp only [exprOk, Bool.and_eq_true] at hok
    refine SP_call ts _ (fn2Tok fn) a [b] (.of_name (fn2Tok_name fn)) (by simp [toks, moreArgs]) hl (functionOf_fn2 fn a b) ?_ ih
    intro x hx; simp at hx; rcases hx with rfl | rfl
    · exact hok.1
    · exact hok.2
  | fn3 fn a b c =>
    simp only [exprOk, Bool.and_eq_true, bne_iff_ne, ne_eq] at hok
    refine SP_call ts _ (fn3Tok fn) a [b, c] (.of_name (fn3Tok_name fn)) (by simp [toks, moreArgs]) hl
      (functionOf_fn3 fn hok.1.1.1 a b c) ?_ ih
    intro x hx; simp at hx; rcases hx with rfl | rfl | rfl
    · exact hok.1.1.2
    · exact hok.1.2
    · exact hok.2
  | concat1 a =>
    refine SP_call ts _ concatTok a [] (.of_name concatTok_name) (by simp [toks, moreArgs]) hl rfl ?_ ih
    intro x hx; simp at hx; subst hx; simpa [exprOk] using hok
  | concat a r =>
    have hok' := hok
    simp only [exprOk, Bool.and_eq_true, decide_eq_true_eq] at hok'
    obtain ⟨b, bs, h2, h3, h4, h5⟩ := concat_facts r hok'.1.1.2 hok'.1.2
    refine SP_call ts _ concatTok a (b :: bs) (.of_name concatTok_name) ?_ hl ?_ ?_ ih
    · simp [toks, h3, moreArgs]
    · apply functionOf_concat
      · simp [mkConcat, h2]
      · simp; omega
    · intro x hx
      rcases List.mem_cons.mp hx with rfl | hx'
      · exact hok'.1.1.1
      · exact h4 x hx'
  | or_ a b => simp [level] at hl
  | and_ a b => simp [level] at hl
  | cmp op a b => cases op <;> simp [level] at hl

/-! On the five levels: the distance is 0 at the expression's own level only; elsewhere the next
    parser function (the next level, or from `_sub_expr` through the parentheses `_or_expr`) is one nearer. -/

theorem slack_own : ∀ k < 5, ∀ L < 5, slack k L ≤ 4 ∧ (slack k L = 0 → L = k) := by decide

theorem slack_next : ∀ k < 4, ∀ L < 5, slack k L ≠ 0 → slack (k + 1) L + 1 = slack k L ∧ L ≠ k := by decide

theorem slack_paren : ∀ L < 5, slack 4 L ≠ 0 → slack 0 L + 1 = slack 4 L ∧ L < 4 := by decide

/-- One expression, given all with fewer tokens.  `SP k e` and `AP k e` are proved in the order of
    `slack k (level e)`: at `0` level `k` is the expression's own, a binary node (`AP_bin`) or a
    primary (`SP_prim`); otherwise level `k` hands over to level `k + 1` (`AP_of_SP_succ`), or
    `_sub_expr` through the parentheses to `_or_expr` (`SP_paren`), which is one nearer, at one
    more unit of fuel. -/
theorem expr_step (ts : List Str) (e : Expr) (hok : exprOk e = true)
    (ih : ∀ e', (toks e').length < (toks e).length → exprOk e' = true → Good ts e') : Good ts e := by
  have hL := level_le e
  -- `+ 2` is the bound of `AP_bin` and `SP_prim` at the expression's own level (`r = 0`)
  have key : ∀ r k, k ≤ 4 → slack k (level e) = r →
      SP ts k e (12 * (toks e).length + r + 2) ∧ (k < 4 → AP ts k e (12 * (toks e).length + r + 2)) := by
    intro r
    induction r with
    | zero =>
      intro k hk hs
      have hkl := (slack_own k (by omega) _ (by omega)).2 hs
      by_cases h4 : k < 4
      · have hap := AP_bin ts k h4 e hkl hok ih
        exact ⟨SP_of_AP ts k h4 e _ (by omega) hap, fun _ => hap⟩
      · obtain rfl : k = 4 := by omega
        exact ⟨SP_prim ts e hkl hok ih, fun h => absurd h (by omega)⟩
    | succ r ihr =>
      intro k hk hs
      by_cases h4 : k < 4
      · obtain ⟨hs', hne⟩ := slack_next k h4 (level e) (by omega) (by omega)
        have hap := AP_of_SP_succ ts k e hne _ (12 * (toks e).length + (r + 1) + 2) (by omega)
          (ihr (k + 1) (by omega) (by omega)).1
        exact ⟨SP_of_AP ts k h4 e _ (by omega) hap, fun _ => hap⟩
      · obtain rfl : k = 4 := by omega
        obtain ⟨hs0, hl4⟩ := slack_paren (level e) (by omega) (by omega)
        exact ⟨SP_paren ts e hl4 _ (ihr 0 (by omega) (by omega)).1, fun h => absurd h (by omega)⟩
  constructor
  · intro k hk
    have := (slack_own k (by omega) (level e) (by omega)).1
    exact (key _ k hk rfl).1.mono (by omega)
  · intro j hj
    have := (slack_own j (by omega) (level e) (by omega)).1
    exact ((key _ j (by omega) rfl).2 hj).mono (by omega)

/-- strong induction on the number of tokens -/
theorem expr_all (ts : List Str) : ∀ (n : Nat) (e : Expr), (toks e).length < n → exprOk e = true → Good ts e := by
  intro n
  induction n with
  | zero => intro e h; omega
  | succ n ih =>
    intro e hlen hok
    exact expr_step ts e hok (fun e' h' hok' => ih e' (by omega) hok')

/-- `_or_expr` reads a printable expression back: the result is the expression, the position is
    on the token that follows it -/
theorem orExpr_print (ts : List Str) (e : Expr) (hok : exprOk e = true) (f pos : Nat) (t0 : Str) (rest : List Str)
    (h : ts.drop pos = toks e ++ t0 :: rest) (hf : Follow 0 t0) (hfuel : 12 * (toks e).length + 8 ≤ f) :
    ∃ q, orExpr ts f pos = .ok (e, q) ∧ ts.drop q = t0 :: rest := by
  have := (expr_all ts _ e (Nat.lt_succ_self _) hok).1 0 (by omega) f pos t0 rest (by rw [toksAt_zero]; exact h) hf hfuel
  simpa [parseAt] using this

end Print
end Genshi.Path
