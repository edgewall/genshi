/-
  C05 `parse ∘ print = id`, numerals: the printer writes a number as digits, or digits, a point and digits
  (`numTok_cases`); the domain check `numShape` and `XNum.parse` are each described once on that shape
  (the tokenizer's numeral regex: `tokOk_numeral` in `PathPrintTok.lean`); so every number `m / 10^e` has a
  numeral that reads back as that number (`numOk_all`), and the side condition on number literals in
  `Print.pathsOk` holds for every non-negative decimal.
-/
import Genshi.Model.PathPrint
import Genshi.Lemmas.ListBasics
namespace Genshi.Path
namespace Print
open Genshi

/-- the ten digit characters -/
def DigitStr (l : Str) : Prop := ∀ c ∈ l, ∃ k, k < 10 ∧ c = Char.ofNat (48 + k)

theorem dchar : ∀ k, k < 10 →
    XNum.isDigit (Char.ofNat (48 + k)) = true ∧ nameCh (Char.ofNat (48 + k)) = true ∧
    (Char.ofNat (48 + k)).toNat - 48 = k ∧ XNum.isXmlSpace (Char.ofNat (48 + k)) = false ∧
    (Char.ofNat (48 + k) == '-') = false := by decide

theorem DigitStr.append {a b : Str} (ha : DigitStr a) (hb : DigitStr b) : DigitStr (a ++ b) := by
  intro c hc
  rcases List.mem_append.mp hc with h | h
  · exact ha c h
  · exact hb c h

theorem DigitStr.all_digit {l : Str} (h : DigitStr l) : l.all XNum.isDigit = true := by
  simp only [List.all_eq_true]
  intro c hc
  obtain ⟨k, hk, rfl⟩ := h c hc
  exact (dchar k hk).1

theorem DigitStr.all_name {l : Str} (h : DigitStr l) : l.all nameCh = true := by
  simp only [List.all_eq_true]
  intro c hc
  obtain ⟨k, hk, rfl⟩ := h c hc
  exact (dchar k hk).2.1

theorem DigitStr.no_space {l : Str} (h : DigitStr l) : ∀ c ∈ l, XNum.isXmlSpace c = false := by
  intro c hc
  obtain ⟨k, hk, rfl⟩ := h c hc
  exact (dchar k hk).2.2.2.1

theorem drop_takeWhile (p : Char → Bool) (l : Str) : l.drop (l.takeWhile p).length = l.dropWhile p := by
  induction l with
  | nil => rfl
  | cons c cs ih =>
    by_cases h : p c = true
    · simp [List.takeWhile, List.dropWhile, h, ih]
    · simp [List.takeWhile, List.dropWhile, h]

/-- where `takeWhile` / `dropWhile` cut a run of `p` that is followed by something else -/
theorem span_of_all (p : Char → Bool) (a b : Str) (ha : a.all p = true) (hb : ∀ c, b.head? = some c → p c = false) :
    (a ++ b).takeWhile p = a ∧ (a ++ b).dropWhile p = b :=
  ⟨takeWhile_append_stop (List.all_eq_true.1 ha) hb, dropWhile_append_stop (List.all_eq_true.1 ha) hb⟩

theorem dot_nd : ∀ c r', ('.' :: r' : Str) = c :: r' → XNum.isDigit c = false := by
  intro c r' h; cases h; decide

theorem dot_head (fr : Str) (c : Char) (h : ('.' :: fr).head? = some c) : XNum.isDigit c = false := by
  cases h; decide

theorem digitsVal_snoc (l : Str) (d : Char) : XNum.digitsVal (l ++ [d]) = XNum.digitsVal l * 10 + (d.toNat - 48) := by
  simp [XNum.digitsVal, List.foldl_append]

theorem digitsAux_spec : ∀ (fuel n : Nat) (acc : Str), n < fuel →
    ∃ l, XNum.digitsAux fuel n acc = l ++ acc ∧ XNum.digitsVal l = n ∧ DigitStr l ∧ l ≠ [] := by
  intro fuel
  induction fuel with
  | zero => intro n acc h; omega
  | succ fuel ih =>
    intro n acc hn
    have hk : n % 10 < 10 := Nat.mod_lt _ (by omega)
    obtain ⟨_, _, hv, _, _⟩ := dchar (n % 10) hk
    by_cases h0 : n / 10 = 0
    · refine ⟨[Char.ofNat (48 + n % 10)], ?_, ?_, ?_, by simp⟩
      · simp [XNum.digitsAux, h0]
      · simp only [XNum.digitsVal, List.foldl, hv]; omega
      · intro c hc; simp at hc; exact ⟨n % 10, hk, hc⟩
    · obtain ⟨l, hl, hval, hds, _⟩ := ih (n / 10) (Char.ofNat (48 + n % 10) :: acc) (by omega)
      refine ⟨l ++ [Char.ofNat (48 + n % 10)], ?_, ?_, ?_, by simp⟩
      · have : (n / 10 == 0) = false := by simpa using h0
        simp [XNum.digitsAux, this, hl]
      · rw [digitsVal_snoc, hval, hv]; omega
      · exact hds.append (fun c hc => by simp at hc; exact ⟨n % 10, hk, hc⟩)

theorem digits_spec (n : Nat) : XNum.digitsVal (XNum.digits n) = n ∧ DigitStr (XNum.digits n) ∧ XNum.digits n ≠ [] := by
  obtain ⟨l, hl, hv, hd, hne⟩ := digitsAux_spec (n + 1) n [] (by omega)
  simp only [List.append_nil] at hl
  simp only [XNum.digits, hl]
  exact ⟨hv, hd, hne⟩

theorem digitsVal_zeros (j : Nat) (s : Str) : XNum.digitsVal (List.replicate j '0' ++ s) = XNum.digitsVal s := by
  induction j with
  | zero => simp
  | succ j ih =>
    simp only [List.replicate_succ, List.cons_append]
    simp only [XNum.digitsVal, List.foldl] at ih ⊢
    have : (0 * 10 + ('0'.toNat - 48)) = 0 := by decide
    rw [this]; exact ih

theorem padLeft_spec (k : Nat) (s : Str) (hs : DigitStr s) :
    XNum.digitsVal (XNum.padLeft k s) = XNum.digitsVal s ∧ DigitStr (XNum.padLeft k s) ∧ k ≤ (XNum.padLeft k s).length := by
  refine ⟨digitsVal_zeros _ _, ?_, ?_⟩
  · apply DigitStr.append _ hs
    intro c hc
    simp only [List.mem_replicate] at hc
    exact ⟨0, by omega, hc.2⟩
  · simp [XNum.padLeft]; omega

/-- **what the printer writes for `m / 10^e`**: digits of value `m`, with a point before the last `e` of them -/
theorem numTok_cases (neg : Bool) (m e : Nat) : ∃ ip fr, DigitStr ip ∧ ip ≠ [] ∧ DigitStr fr ∧ fr.length = e ∧
    XNum.digitsVal (ip ++ fr) = m ∧ numTok (.dec neg m e) = if e = 0 then ip else ip ++ '.' :: fr := by
  obtain ⟨hv, hd, _⟩ := digits_spec m
  obtain ⟨pv, pd, pl⟩ := padLeft_spec (e + 1) (XNum.digits m) hd
  rw [hv] at pv
  simp only [numTok, beq_iff_eq]
  generalize XNum.padLeft (e + 1) (XNum.digits m) = ds at pv pd pl
  have hsplit := List.take_append_drop (ds.length - e) ds
  refine ⟨ds.take (ds.length - e), ds.drop (ds.length - e), fun c hc => pd c (List.mem_of_mem_take hc), ?_,
    fun c hc => pd c (List.mem_of_mem_drop hc), by rw [List.length_drop]; omega, by rw [hsplit]; exact pv, ?_⟩
  · intro h
    have := congrArg List.length h
    rw [List.length_take] at this
    simp at this; omega
  · by_cases he : e = 0
    · subst he; simp
    · simp only [he, if_false]

/-- the domain's check of a numeral accepts digits followed by nothing, or by a point and digits -/
theorem numShape_digits (ip tl : Str) (hip : DigitStr ip) (hne : ip ≠ [])
    (htl : tl = [] ∨ ∃ fr, tl = '.' :: fr ∧ DigitStr fr ∧ fr ≠ []) : numShape (ip ++ tl) = true := by
  have h := span_of_all XNum.isDigit ip tl hip.all_digit (by
    rcases htl with rfl | ⟨fr, rfl, _⟩
    · nofun
    · exact dot_head fr)
  obtain ⟨c, cs, rfl⟩ := List.exists_cons_of_ne_nil hne
  simp only [numShape, h.1, List.drop_left, hip.all_name, List.isEmpty_cons, Bool.not_false, Bool.true_and]
  rcases htl with rfl | ⟨fr, rfl, hfr, hfne⟩
  · rfl
  · obtain ⟨d, ds, rfl⟩ := List.exists_cons_of_ne_nil hfne
    simp only [hfr.all_digit, List.isEmpty_cons, Bool.not_false, Bool.and_self]

theorem strip_id (s : Str) (h : ∀ c ∈ s, XNum.isXmlSpace c = false) :
    ((s.dropWhile XNum.isXmlSpace).reverse.dropWhile XNum.isXmlSpace).reverse = s := by
  have id : ∀ l : Str, (∀ c ∈ l, XNum.isXmlSpace c = false) → l.dropWhile XNum.isXmlSpace = l := by
    intro l hl
    cases l with
    | nil => rfl
    | cons c cs => simp [List.dropWhile, hl c List.mem_cons_self]
  rw [id s h, id s.reverse (fun c hc => h c (List.mem_reverse.mp hc)), List.reverse_reverse]

/-- `XNum.parse` on digits followed by `tl`, which is nothing or a point and digits: no white space, no sign, and
    the integer part ends where `tl` begins -/
theorem parse_digits (ip tl : Str) (hip : DigitStr ip) (hne : ip ≠ []) (htl : tl = [] ∨ ∃ fr, tl = '.' :: fr ∧ DigitStr fr) :
    XNum.parse (ip ++ tl) = .dec false (XNum.digitsVal (ip ++ tl.tail)) tl.tail.length := by
  obtain ⟨c, cs, rfl⟩ := List.exists_cons_of_ne_nil hne
  obtain ⟨k, hk, hck⟩ := hip c List.mem_cons_self
  have hminus : c ≠ '-' := fun h => by have := (dchar k hk).2.2.2.2; rw [← hck, h] at this; cases this
  have hneg : ∀ l r : Str, c :: l ≠ '-' :: r := fun l r h => hminus (List.cons.inj h).1
  have hsp : ∀ x ∈ c :: cs ++ tl, XNum.isXmlSpace x = false := by
    intro x hx
    rcases List.mem_append.1 hx with h | h
    · exact hip.no_space x h
    · rcases htl with rfl | ⟨fr, rfl, hfr⟩
      · cases h
      · exact (List.mem_cons.1 h).elim (fun h => h ▸ by decide) (hfr.no_space x)
  have hs := span_of_all XNum.isDigit (c :: cs) tl hip.all_digit (by
    rcases htl with rfl | ⟨fr, rfl, _⟩
    · nofun
    · exact dot_head fr)
  unfold XNum.parse
  simp only [strip_id _ hsp]
  rw [List.cons_append] at hs ⊢
  simp only [hneg, hs.1, hs.2, imp_self, implies_true, List.isEmpty_cons, Bool.false_eq_true, if_false,
    Bool.false_and, Bool.not_false, Bool.and_true]
  rcases htl with rfl | ⟨fr, rfl, hfr⟩
  · simp only [List.tail_nil, List.append_nil, List.length_nil]
  · simp only [hfr.all_digit, if_true, List.tail_cons]

theorem parse_int (ip : Str) (hip : DigitStr ip) (hne : ip ≠ []) :
    XNum.parse ip = .dec false (XNum.digitsVal ip) 0 := by
  have := parse_digits ip [] hip hne (.inl rfl)
  rwa [List.tail_nil, List.append_nil] at this

theorem parse_dec (ip fr : Str) (hip : DigitStr ip) (hfr : DigitStr fr) (hne : ip ≠ []) :
    XNum.parse (ip ++ '.' :: fr) = .dec false (XNum.digitsVal (ip ++ fr)) fr.length :=
  parse_digits ip ('.' :: fr) hip hne (.inr ⟨fr, rfl, hfr⟩)

/-- only a non-negative decimal passes `numOk` (NaN and negative numbers have no numeral) -/
theorem numOk_dec {x : XNum} (h : numOk x = true) : ∃ m e, x = .dec false m e := by
  cases x with
  | nan => simp [numOk] at h
  | dec neg m e =>
    cases neg with
    | true => simp [numOk] at h
    | false => exact ⟨m, e, rfl⟩

/-- **every non-negative decimal has a numeral that reads back as that number** -/
theorem numOk_all (m e : Nat) : numOk (.dec false m e) = true := by
  obtain ⟨ip, fr, hip, hne, hfr, hlen, hval, htok⟩ := numTok_cases false m e
  simp only [numOk, htok, Bool.and_eq_true, decide_eq_true_eq]
  by_cases he : e = 0
  · obtain rfl : fr = [] := List.eq_nil_of_length_eq_zero (hlen.trans he)
    rw [List.append_nil] at hval
    have := numShape_digits ip [] hip hne (.inl rfl)
    rw [List.append_nil] at this
    simp only [he, if_true, this, parse_int ip hip hne, hval, and_self]
  · have hfne : fr ≠ [] := fun h => he (by rw [← hlen, h]; rfl)
    simp only [he, if_false, numShape_digits ip _ hip hne (.inr ⟨fr, rfl, hfr, hfne⟩), parse_dec ip fr hip hfr hne, hval,
      hlen, and_self]

end Print
end Genshi.Path
