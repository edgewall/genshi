/-
  C05 `parse ∘ print = id`, part 4: steps with predicates, location paths, unions — including
  the parser's habit of never moving past the last token (`at_end`).

  Fuel, with `n = ts.length`: a predicate has at most `n` tokens, so `_or_expr` reads it with
  `12 n + 8` (`orExpr_print`); each loop needs one unit per turn on top of what its body needs,
  and a step has at most `n` predicates, a path at most `n` steps, a union at most `n` operands.
  Hence `12 n + 9 + preds` for the predicates (`predLoop_print`), `13 n + 9` for a step
  (`Spelling.read`), `13 n + 10 + steps + 1` for a path (`locLoop_read`), `14 n + 12 + operands`
  for a union (`unionLoop_read`), and that is below the `16 * (n + 2)` `parseTokens` starts with
  (`parseTokens_read`).
-/
import Genshi.Lemmas.PathPrintExpr
namespace Genshi.Path
namespace Print
open Genshi

/-- nothing, or at least two tokens, are left -/
def Rem (rem : List Str) : Prop := rem = [] ∨ ∃ y z r, rem = y :: z :: r

/-- what can follow a node test: `[`, `/` or `|` -/
def SepHead (rem : List Str) : Prop := ∀ y r, rem = y :: r → y = ['['] ∨ y = ['/'] ∨ y = ['|']

theorem sepHead_facts {y : Str} (h : y = ['['] ∨ y = ['/'] ∨ y = ['|']) :
    y ≠ ['('] ∧ y ≠ ['(', ')'] ∧ y ≠ [':'] := by
  rcases h with rfl | rfl | rfl <;> decide

theorem SepHead.sep {rem : List Str} (hs : SepHead rem) :
    ∀ y r, rem = y :: r → y ≠ ['('] ∧ y ≠ ['(', ')'] ∧ y ≠ [':'] :=
  fun y r h => sepHead_facts (hs y r h)

/-- `name()` -/
theorem nodeTest_type0 (ts : List Str) (p : Nat) (attr : Bool) (name : Str) (nt : NodeTest)
    (hnt : nodeTypeOf name [] = .ok nt) (rem : List Str)
    (h : ts.drop p = name :: ['(', ')'] :: rem) :
    ∃ q, nodeTest ts p attr = .ok (nt, q) ∧ At ts q ['(', ')'] rem := by
  have hd1 := drop_succ h
  rcases rem with _ | ⟨y, r⟩
  · refine ⟨p + 1, ?_, at_of_drop_nil hd1⟩
    simp [nodeTest, nodeType, peek_drop_two h, cur_drop h, next_drop h, atEnd_drop_one hd1, hnt,
      bind, Except.bind, pure, Except.pure]
  · refine ⟨p + 1 + 1, ?_, at_of_drop_cons (drop_succ hd1)⟩
    simp [nodeTest, nodeType, peek_drop_two h, cur_drop h, next_drop h, atEnd_drop_two hd1, next_drop hd1, hnt,
      bind, Except.bind, pure, Except.pure]

def piTok : Str := ['p','r','o','c','e','s','s','i','n','g','-','i','n','s','t','r','u','c','t','i','o','n']

/-- `processing-instruction("target")` -/
theorem nodeTest_pi (ts : List Str) (p : Nat) (attr : Bool) (tg : Str) (rem : List Str)
    (h : ts.drop p = piTok :: lpar :: quoteTok tg :: rpar :: rem) :
    ∃ q, nodeTest ts p attr = .ok (.pi (some tg), q) ∧ At ts q rpar rem := by
  have hd1 := drop_succ h
  have hd2 := drop_succ hd1
  have hd3 := drop_succ hd2
  obtain ⟨g1, g2, g3⟩ := quoteTok_facts tg
  simp only [Bool.and_eq_true, decide_eq_true_eq] at g1
  have hne : (quoteTok tg != [')']) = true := by
    unfold quoteTok; split <;> simp
  have hnt : nodeTypeOf piTok [tg] = .ok (.pi (some tg)) := rfl
  rcases rem with _ | ⟨y, r⟩
  · refine ⟨p + 1 + 1 + 1, ?_, at_of_drop_nil hd3⟩
    simp [nodeTest, nodeType, peek_drop_two h, cur_drop h, next_drop h, next_drop hd1, next_drop hd2, hne, g1.2, g2,
      atEnd_drop_one hd3, hnt, lpar, bind, Except.bind, pure, Except.pure]
  · refine ⟨p + 1 + 1 + 1 + 1, ?_, at_of_drop_cons (drop_succ hd3)⟩
    simp [nodeTest, nodeType, peek_drop_two h, cur_drop h, next_drop h, next_drop hd1, next_drop hd2, hne, g1.2, g2,
      atEnd_drop_two hd3, next_drop hd3, hnt, lpar, bind, Except.bind, pure, Except.pure]

/-- `_node_test` on the node test of a written step (a name test or a node-type test) followed by
    `rem`: the test comes back, and the parser stands at `rem` on a token the loops stop on -/
theorem nodeTest_step (ts : List Str) (p : Nat) (attr : Bool) (t : NodeTest) (ht : stepTestOk attr t = true)
    (rem : List Str) (hr : Rem rem) (hs : SepHead rem) (h : ts.drop p = stepTestToks t ++ rem) :
    ∃ q last, nodeTest ts p attr = .ok (t, q) ∧ At ts q last rem ∧ LastOk last := by
  cases t with
  | principal a | localName a n | qprincipal a pf | qname a pf n =>
    simp only [stepTestOk, testAttr, Bool.and_eq_true, beq_iff_eq, Option.some.injEq] at ht
    obtain ⟨hn, rfl⟩ := ht
    exact nodeTest_name ts _ a hn p rem hs.sep h
  | comment =>
    obtain ⟨q, hq, hat⟩ := nodeTest_type0 ts p attr _ .comment rfl rem (by simpa [stepTestToks] using h)
    exact ⟨q, _, hq, hat, lastOk_unit⟩
  | node =>
    obtain ⟨q, hq, hat⟩ := nodeTest_type0 ts p attr _ .node rfl rem (by simpa [stepTestToks] using h)
    exact ⟨q, _, hq, hat, lastOk_unit⟩
  | text =>
    obtain ⟨q, hq, hat⟩ := nodeTest_type0 ts p attr _ .text rfl rem (by simpa [stepTestToks] using h)
    exact ⟨q, _, hq, hat, lastOk_unit⟩
  | pi tg =>
    cases tg with
    | none =>
      obtain ⟨q, hq, hat⟩ := nodeTest_type0 ts p attr _ (.pi none) rfl rem (by simpa [stepTestToks] using h)
      exact ⟨q, _, hq, hat, lastOk_unit⟩
    | some tg =>
      obtain ⟨q, hq, hat⟩ := nodeTest_pi ts p attr tg rem (by simpa [stepTestToks, piTok] using h)
      exact ⟨q, _, hq, hat, lastOk_rpar⟩

theorem predsToks_length (ps : List Expr) : 2 * ps.length ≤ (predsToks ps).length := by
  induction ps with
  | nil => simp [predsToks]
  | cons e r ih => simp [predsToks, predToks]; omega

theorem rem_preds (ps : List Expr) (rem : List Str) (hr : Rem rem) : Rem (predsToks ps ++ rem) := by
  cases ps with
  | nil => simpa [predsToks] using hr
  | cons e r =>
    obtain ⟨y, r', hy⟩ := exists_cons_append (toks e) [']'] (predsToks r ++ rem)
    refine Or.inr ⟨['['], y, r', ?_⟩
    simp [predsToks, predToks, ← hy]

theorem drop_length_le {ts : List Str} {q : Nat} {l : List Str} (h : ts.drop q = l) : l.length ≤ ts.length := by
  have := congrArg List.length h
  simp only [List.length_drop] at this
  omega

/-- the `while self.cur_token == '['` loop of `_location_step` -/
theorem predLoop_print (ts : List Str) (rem : List Str) (hr : Rem rem)
    (hh : ∀ y r, rem = y :: r → y ≠ ['[']) :
    ∀ (ps : List Expr) (acc : List Expr) (f q : Nat) (last : Str),
      (∀ e ∈ ps, exprOk e = true) → At ts q last (predsToks ps ++ rem) → LastOk last →
      12 * ts.length + 9 + ps.length ≤ f →
      ∃ q' last', predLoop ts f q acc = .ok (acc ++ ps, q') ∧ At ts q' last' rem ∧ LastOk last' := by
  intro ps
  induction ps with
  | nil =>
    intro acc f q last _ hat hl hf
    obtain ⟨f', rfl⟩ : ∃ f', f = f' + 1 := ⟨f - 1, by omega⟩
    simp only [predsToks, List.nil_append] at hat
    refine ⟨q, last, ?_, hat, hl⟩
    rcases rem with _ | ⟨y, r⟩
    · have hb : (last == ['[']) = false := by simpa using hl.1
      simp [predLoop, cur_drop hat.nil, hb, bind, Except.bind, pure, Except.pure]
    · have hb : (y == ['[']) = false := by simpa using hh y _ rfl
      simp [predLoop, cur_drop hat.cons, hb, bind, Except.bind, pure, Except.pure]
  | cons e ps ih =>
    intro acc f q last hok hat hl hf
    obtain ⟨f', rfl⟩ : ∃ f', f = f' + 1 := ⟨f - 1, by omega⟩
    have hd : ts.drop q = ['['] :: (toks e ++ [']'] :: (predsToks ps ++ rem)) := by
      have : predsToks (e :: ps) ++ rem = ['['] :: (toks e ++ [']'] :: (predsToks ps ++ rem)) := by
        simp [predsToks, predToks]
      rw [this] at hat
      exact hat.cons
    obtain ⟨y, r', hy⟩ := exists_cons_append (toks e) [']'] (predsToks ps ++ rem)
    have hd' : ts.drop q = ['['] :: y :: r' := by rw [hd, hy]
    have hlen : (toks e).length ≤ ts.length := by
      have := drop_length_le hd
      simp at this; omega
    obtain ⟨q1, hq1, hdq1⟩ := orExpr_print ts e (hok e List.mem_cons_self) f' (q + 1) [']'] (predsToks ps ++ rem)
      (drop_succ hd) (.rbr 0) (by simp at hf; omega)
    -- the position after `]`
    have hadv : ∃ q2, predicate ts f' q = .ok (e, q2) ∧ At ts q2 [']'] (predsToks ps ++ rem) := by
      rcases hc : predsToks ps ++ rem with _ | ⟨y2, r2⟩
      · rw [hc] at hdq1
        refine ⟨q1, ?_, at_of_drop_nil hdq1⟩
        simp [predicate, next_drop hd', hq1, cur_drop hdq1, atEnd_drop_one hdq1, bind, Except.bind, pure, Except.pure]
      · rw [hc] at hdq1
        refine ⟨q1 + 1, ?_, at_of_drop_cons (drop_succ hdq1)⟩
        simp [predicate, next_drop hd', hq1, cur_drop hdq1, atEnd_drop_two hdq1, next_drop hdq1,
          bind, Except.bind, pure, Except.pure]
    obtain ⟨q2, hq2, hat2⟩ := hadv
    obtain ⟨q', last', hq', hat', hl'⟩ := ih (acc ++ [e]) f' q2 [']']
      (fun x hx => hok x (List.mem_cons_of_mem _ hx)) hat2 lastOk_rbr (by simp at hf ⊢; omega)
    refine ⟨q', last', ?_, hat', hl'⟩
    rw [predLoop]
    simp only [↓reduceIte, cur_drop hd', beq_self_eq_true, hq2, bind, Except.bind]
    rw [hq']
    simp

theorem axisTok_eq (a : Axis) : axisTok a = axisName a := by cases a <;> rfl

theorem sepHead_preds (ps : List Expr) (rem : List Str) (hh : ∀ y r, rem = y :: r → y = ['/'] ∨ y = ['|']) :
    SepHead (predsToks ps ++ rem) := by
  intro y r h
  cases ps with
  | nil =>
    simp [predsToks] at h
    rcases hh y r h with h1 | h1
    · exact Or.inr (Or.inl h1)
    · exact Or.inr (Or.inr h1)
  | cons e ps =>
    simp [predsToks, predToks] at h
    exact Or.inl h.1.symm

theorem stepTest_first (attr : Bool) (t : NodeTest) (ht : stepTestOk attr t = true) :
    ∃ c r, stepTestToks t = c :: r ∧ (c == ['@']) = false ∧ (c == ['.']) = false ∧ (c == ['.', '.']) = false ∧
      startsWithSlash c = false ∧ (∀ y r', r = y :: r' → y ≠ [':', ':']) := by
  have nf : ∀ n, nameOk n = true → (n == ['@']) = false ∧ (n == ['.']) = false ∧ (n == ['.', '.']) = false ∧
      startsWithSlash n = false := by
    intro n hn
    obtain ⟨_, _, _, _, g5, _, _, g8, _, _, _, g12, g13⟩ := nameOk_facts n hn
    exact ⟨by simpa using g5, by simpa using g8, by simpa using g13, g12⟩
  cases t with
  | principal a => exact ⟨_, _, rfl, by decide, by decide, by decide, by decide, by intro y r' h; cases h⟩
  | localName a n =>
    simp only [stepTestOk, testOk, Bool.and_eq_true] at ht
    obtain ⟨f1, f2, f3, f4⟩ := nf n ht.1
    exact ⟨_, _, rfl, f1, f2, f3, f4, by intro y r' h; cases h⟩
  | qprincipal a p =>
    simp only [stepTestOk, testOk, Bool.and_eq_true] at ht
    obtain ⟨f1, f2, f3, f4⟩ := nf p ht.1
    exact ⟨_, _, rfl, f1, f2, f3, f4, by intro y r' h; cases h; decide⟩
  | qname a p n =>
    simp only [stepTestOk, testOk, Bool.and_eq_true] at ht
    obtain ⟨f1, f2, f3, f4⟩ := nf p ht.1.1
    exact ⟨_, _, rfl, f1, f2, f3, f4, by intro y r' h; cases h; decide⟩
  | comment => exact ⟨_, _, rfl, by decide, by decide, by decide, by decide, by intro y r' h; cases h; decide⟩
  | node => exact ⟨_, _, rfl, by decide, by decide, by decide, by decide, by intro y r' h; cases h; decide⟩
  | text => exact ⟨_, _, rfl, by decide, by decide, by decide, by decide, by intro y r' h; cases h; decide⟩
  | pi tg =>
    cases tg with
    | none => exact ⟨_, _, rfl, by decide, by decide, by decide, by decide, by intro y r' h; cases h; decide⟩
    | some tg => exact ⟨_, _, rfl, by decide, by decide, by decide, by decide, by intro y r' h; cases h; decide⟩

/-- `_location_step` on a written step: the axis part `ax` (`axis::`, `@`, or nothing), the node
    test, the predicates.  The two printers differ in `ax` only. -/
theorem locationStep_written (ts : List Str) (ax : AxSyn) (s : Step) (hax : ax.axis = s.axis) (hs : stepOk s = true)
    (rem : List Str) (hr : Rem rem) (hh : ∀ y r, rem = y :: r → y = ['/'] ∨ y = ['|']) (f pos : Nat)
    (h : ts.drop pos = ax.tokens ++ (stepTestToks s.test ++ (predsToks s.preds ++ rem)))
    (hf : 13 * ts.length + 9 ≤ f) :
    ∃ q last, locationStep ts f pos = .ok ((ax.parsed, s.test, s.preds), q) ∧ At ts q last rem ∧ LastOk last := by
  simp only [stepOk, Bool.and_eq_true, List.all_eq_true] at hs
  obtain ⟨hst, hps⟩ := hs
  have hsep := sepHead_preds s.preds rem hh
  obtain ⟨c, r, hc, c1, c2, c3, _, c5⟩ := stepTest_first _ s.test hst
  have h' : ts.drop pos = ax.tokens ++ c :: (r ++ (predsToks s.preds ++ rem)) := by rw [h, hc]; rfl
  have hd2 : ts.drop (pos + ax.tokens.length) = stepTestToks s.test ++ (predsToks s.preds ++ rem) := by
    rw [← List.drop_drop, h]; simp
  obtain ⟨q1, last1, hq1, hat1, hl1⟩ := nodeTest_step ts _ (s.axis == .attribute) s.test hst _ (rem_preds _ _ hr) hsep hd2
  have hplen : s.preds.length ≤ ts.length := by
    have h1 := drop_length_le hd2
    have h2 := predsToks_length s.preds
    simp at h1; omega
  obtain ⟨q2, last2, hq2, hat2, hl2⟩ := predLoop_print ts rem hr
    (fun y r hy => by rcases hh y r hy with h1 | h1 <;> (rw [h1]; decide))
    s.preds [] f q1 last1 (fun e he => hps e he) hat1 hl1 (by omega)
  refine ⟨q2, last2, ?_, hat2, hl2⟩
  -- after a name test written without axis, no `::` follows
  have hne : (r ++ (predsToks s.preds ++ rem)).head? ≠ some [':', ':'] := by
    cases r with
    | cons y r' => simpa using c5 y r' rfl
    | nil =>
      rcases hL : predsToks s.preds ++ rem with _ | ⟨y, L⟩
      · simp
      · rcases hsep y L hL with h1 | h1 | h1 <;> simp [h1]
  rw [locationStep_axis ts f pos ax c _ h' (fun _ => ⟨by simpa using c1, by simpa using c2, by simpa using c3, hne⟩), hax]
  exact (congrArg (Except.bind · _) hq1).trans (by simp [Except.bind, hq2])

theorem pathOk_cons (p : LocPath) (h : pathOk p = true) :
    ∃ s r, p = s :: r ∧ stepOk s = true ∧ ∀ x ∈ r, stepOk x = true := by
  cases p with
  | nil => simp [pathOk] at h
  | cons s r =>
    simp only [pathOk, List.isEmpty_cons, Bool.not_false, Bool.true_and, List.all_cons, Bool.and_eq_true,
      List.all_eq_true] at h
    exact ⟨s, r, rfl, h.1, h.2⟩

theorem pathsOk_cons (ps : List LocPath) (h : pathsOk ps = true) :
    ∃ p rest, ps = p :: rest ∧ pathOk p = true ∧ ∀ q ∈ rest, pathOk q = true := by
  cases ps with
  | nil => simp [pathsOk] at h
  | cons p rest =>
    simp only [pathsOk, List.isEmpty_cons, Bool.not_false, Bool.true_and, List.all_cons, Bool.and_eq_true,
      List.all_eq_true] at h
    exact ⟨p, rest, rfl, h⟩

section
variable {I : Type} (sp : I → List Str) (dbl : I → Bool) (ast : I → Step)

/-- the further steps of a written path: `/ step` or `// step` -/
def restOf : List I → List Str
  | [] => []
  | i :: r => sepTok (dbl i) :: (sp i ++ restOf r)

def pathOf : List I → List Str
  | [] => []
  | i :: r => sp i ++ restOf sp dbl r

def unOf : List (List I) → List Str
  | [] => []
  | p :: ps => ['|'] :: (pathOf sp dbl p ++ unOf ps)

/-- the steps they denote: `//` stands for `/descendant-or-self::node()/` -/
def restAstOf : List I → List Step
  | [] => []
  | i :: r => (if dbl i then [⟨.descendantOrSelf, .node, []⟩] else []) ++ ast i :: restAstOf r

def pathAstOf : List I → LocPath
  | [] => []
  | i :: r => ast i :: restAstOf dbl ast r

end

/-- A way of writing steps: `sp i` are the tokens of the written step `i`, `ast i` the step it
    denotes, `dbl i` says whether it is attached with `//`, `ok i` is what is asked of it.
    `_location_step` reads a written step back whatever separator of this syntax (or `|`)
    follows, and the loop of `_location_path` does not take its first token for a separator;
    `L` is what is known of the token the parser stops on.  The loops of `_location_path` and
    `parse` are proved once for every such syntax. -/
structure Spelling {I : Type} (sp : I → List Str) (dbl : I → Bool) (ast : I → Step) (ok : I → Prop)
    (L : Str → Prop) : Prop where
  head : ∀ i, ok i → ∃ x r, sp i = x :: r ∧ startsWithSlash x = false
  bar : ∀ x, L x → x ≠ ['|']
  read : ∀ (ts : List Str) (i : I), ok i → ∀ rem, Rem rem →
    (∀ y r, rem = y :: r → y = ['|'] ∨ ∃ j, y = sepTok (dbl j)) → ∀ f pos, ts.drop pos = sp i ++ rem →
    13 * ts.length + 9 ≤ f →
    ∃ ax q last, locationStep ts f pos = .ok ((ax, (ast i).test, (ast i).preds), q) ∧ ax.getD .child = (ast i).axis ∧
      At ts q last rem ∧ L last

/-- a written path: a first step and further steps, all as asked -/
def PathOk {I : Type} (ok : I → Prop) (p : List I) : Prop := ∃ i r, p = i :: r ∧ ok i ∧ ∀ x ∈ r, ok x

namespace Spelling
variable {I : Type} {sp : I → List Str} {dbl : I → Bool} {ast : I → Step} {ok : I → Prop} {L : Str → Prop}

theorem rest_length (r : List I) : r.length ≤ (restOf sp dbl r).length := by
  induction r with
  | nil => simp
  | cons s r ih => simp [restOf]; omega

theorem rem_rest (h : Spelling sp dbl ast ok L) (r : List I) (hrs : ∀ x ∈ r, ok x) (rem : List Str)
    (hr : Rem rem) : Rem (restOf sp dbl r ++ rem) := by
  cases r with
  | nil => simpa [restOf] using hr
  | cons s r =>
    obtain ⟨x, r', hx, _⟩ := h.head s (hrs s List.mem_cons_self)
    exact Or.inr ⟨sepTok (dbl s), x, r' ++ (restOf sp dbl r ++ rem), by simp [restOf, hx]⟩

/-- the `while True` loop of `_location_path`, entered at the first token of a step -/
theorem locLoop_read (h : Spelling sp dbl ast ok L) (ts : List Str) (rem : List Str) (hr : Rem rem)
    (hh : ∀ y r, rem = y :: r → y = ['|']) :
    ∀ (r : List I) (s : I) (acc : List Step) (f pos : Nat),
      ok s → (∀ x ∈ r, ok x) →
      ts.drop pos = sp s ++ (restOf sp dbl r ++ rem) → 13 * ts.length + 10 + r.length + 1 ≤ f →
      ∃ q last, locLoop ts f pos acc = .ok (acc ++ ast s :: restAstOf dbl ast r, q) ∧ At ts q last rem ∧ L last := by
  intro r
  induction r with
  | nil =>
    intro s acc f pos hs _ hd hf
    obtain ⟨f', rfl⟩ : ∃ f', f = f' + 1 := ⟨f - 1, by omega⟩
    simp only [restOf, List.nil_append] at hd
    obtain ⟨x, r', hx, a4⟩ := h.head s hs
    have hd' : ts.drop pos = x :: (r' ++ rem) := by rw [hd, hx]; rfl
    obtain ⟨ax, q, last, hq, hax, hat, hl⟩ := h.read ts s hs rem hr
      (fun y r hy => Or.inl (hh y r hy)) f' pos hd (by omega)
    refine ⟨q, last, ?_, hat, hl⟩
    rw [locLoop]
    rcases hr with rfl | ⟨y2, z2, r2, rfl⟩
    · simp [cur_drop hd', a4, hq, cur_drop hat.nil, atEnd_drop_one hat.nil, hax, restAstOf, bind, Except.bind, pure,
        Except.pure]
    · have hy2 := hh y2 _ rfl
      subst hy2
      have hsl : startsWithSlash ['|'] = false := by decide
      simp [cur_drop hd', a4, hq, cur_drop hat.cons, atEnd_drop_two hat.cons, hsl, hax, restAstOf, bind, Except.bind,
        pure, Except.pure]
  | cons s' r ih =>
    intro s acc f pos hs hrs hd hf
    obtain ⟨f', rfl⟩ : ∃ f', f = f' + 1 + 1 := ⟨f - 2, by simp at hf; omega⟩
    obtain ⟨x, r', hx, a4⟩ := h.head s hs
    have hd' : ts.drop pos = x :: (r' ++ (restOf sp dbl (s' :: r) ++ rem)) := by rw [hd, hx]; rfl
    obtain ⟨ax, q, last, hq, hax, hat, hl⟩ := h.read ts s hs (restOf sp dbl (s' :: r) ++ rem)
      (h.rem_rest (s' :: r) hrs rem hr)
      (fun y r hy => by simp [restOf] at hy; exact Or.inr ⟨s', hy.1.symm⟩) (f' + 1) pos hd (by omega)
    have hs' := hrs s' List.mem_cons_self
    obtain ⟨x', r'', hx', b4⟩ := h.head s' hs'
    have hdq : ts.drop q = sepTok (dbl s') :: x' :: (r'' ++ (restOf sp dbl r ++ rem)) := by
      have : restOf sp dbl (s' :: r) ++ rem = sepTok (dbl s') :: x' :: (r'' ++ (restOf sp dbl r ++ rem)) := by
        simp [restOf, hx']
      rw [this] at hat
      exact hat.cons
    have hd1 : ts.drop (q + 1) = sp s' ++ (restOf sp dbl r ++ rem) := by
      rw [drop_succ hdq, hx']; simp
    obtain ⟨q', last', hq', hat', hl'⟩ := ih s'
      (if dbl s' then (acc ++ [ast s]) ++ [⟨.descendantOrSelf, .node, []⟩] else acc ++ [ast s]) (f' + 1) (q + 1)
      hs' (fun x hx => hrs x (List.mem_cons_of_mem _ hx)) hd1 (by simp at hf ⊢; omega)
    refine ⟨q', last', ?_, hat', hl'⟩
    have hsl : startsWithSlash (sepTok (dbl s')) = true := by cases dbl s' <;> rfl
    rw [locLoop]
    simp only [↓reduceIte, cur_drop hd', a4, hq, cur_drop hdq, atEnd_drop_two hdq, hsl, bind, Except.bind, pure,
      Except.pure, Bool.false_eq_true, Bool.not_true, Bool.or_self, hax]
    have hstep : (⟨(ast s).axis, (ast s).test, (ast s).preds⟩ : Step) = ast s := rfl
    rw [hstep, locLoop_sep ts f' q (acc ++ [ast s]) _ _ _ (by simp) b4 hdq, hq']
    cases hdb : dbl s' <;> simp [restAstOf, hdb]

theorem un_length (ps : List (List I)) : ps.length ≤ (unOf sp dbl ps).length := by
  induction ps with
  | nil => simp
  | cons p ps ih => simp [unOf]; omega

theorem rem_union (h : Spelling sp dbl ast ok L) (ps : List (List I)) (hps : ∀ p ∈ ps, PathOk ok p) :
    Rem (unOf sp dbl ps) := by
  cases ps with
  | nil => exact Or.inl rfl
  | cons p r =>
    obtain ⟨s, r', rfl, hs, _⟩ := hps p List.mem_cons_self
    obtain ⟨x, r'', hx, _⟩ := h.head s hs
    exact Or.inr ⟨['|'], x, r'' ++ (restOf sp dbl r' ++ unOf sp dbl r), by simp [unOf, pathOf, hx]⟩

theorem head_union (ps : List (List I)) : ∀ y r, unOf sp dbl ps = y :: r → y = ['|'] := by
  intro y r hy
  cases ps with
  | nil => simp [unOf] at hy
  | cons p r' => simp [unOf] at hy; exact hy.1.symm

/-- the `while self.cur_token == '|'` loop of `parse` -/
theorem unionLoop_read (h : Spelling sp dbl ast ok L) (ts : List Str) :
    ∀ (ps : List (List I)) (acc : List LocPath) (f q : Nat) (last : Str),
      (∀ p ∈ ps, PathOk ok p) → At ts q last (unOf sp dbl ps) → L last →
      14 * ts.length + 12 + ps.length ≤ f →
      ∃ q' last', unionLoop ts f q acc = .ok (acc ++ ps.map (pathAstOf dbl ast), q') ∧ At ts q' last' [] := by
  intro ps
  induction ps with
  | nil =>
    intro acc f q last _ hat hl hf
    obtain ⟨f', rfl⟩ : ∃ f', f = f' + 1 := ⟨f - 1, by omega⟩
    refine ⟨q, last, ?_, hat⟩
    have hb : (last == ['|']) = false := by simpa using h.bar last hl
    simp [unionLoop, cur_drop (At.nil hat), hb, bind, Except.bind, pure, Except.pure]
  | cons p ps ih =>
    intro acc f q last hps hat hl hf
    obtain ⟨f', rfl⟩ : ∃ f', f = f' + 1 := ⟨f - 1, by omega⟩
    obtain ⟨s, r, rfl, hs, hrs⟩ := hps p List.mem_cons_self
    obtain ⟨x, r', hx, _⟩ := h.head s hs
    have hd : ts.drop q = ['|'] :: (sp s ++ (restOf sp dbl r ++ unOf sp dbl ps)) := by
      have : unOf sp dbl ((s :: r) :: ps) = ['|'] :: (sp s ++ (restOf sp dbl r ++ unOf sp dbl ps)) := by
        simp [unOf, pathOf]
      rw [this] at hat
      exact hat.cons
    have hd' : ts.drop q = ['|'] :: x :: (r' ++ (restOf sp dbl r ++ unOf sp dbl ps)) := by rw [hd, hx]; rfl
    have hps' : ∀ p ∈ ps, PathOk ok p := fun x hx => hps x (List.mem_cons_of_mem _ hx)
    have hrl : r.length ≤ ts.length := by
      have h1 := drop_length_le hd
      have h2 := rest_length (sp := sp) (dbl := dbl) r
      simp at h1; omega
    obtain ⟨q1, last1, hq1, hat1, hl1⟩ := h.locLoop_read ts (unOf sp dbl ps) (h.rem_union ps hps') (head_union ps)
      r s [] f' (q + 1) hs hrs (drop_succ hd) (by simp at hf; omega)
    obtain ⟨q', last', hq', hat'⟩ := ih (acc ++ [pathAstOf dbl ast (s :: r)]) f' q1 last1 hps' hat1 hl1
      (by simp at hf ⊢; omega)
    refine ⟨q', last', ?_, hat'⟩
    rw [unionLoop]
    simp only [↓reduceIte, cur_drop hd', next_drop hd', hq1, beq_self_eq_true, bind, Except.bind, List.nil_append]
    rw [show ast s :: restAstOf dbl ast r = pathAstOf dbl ast (s :: r) from rfl, hq']
    simp

/-- **every written union is read back** -/
theorem parseTokens_read (h : Spelling sp dbl ast ok L) (s : I) (r : List I) (ps : List (List I))
    (hs : ok s) (hrs : ∀ x ∈ r, ok x) (hps : ∀ p ∈ ps, PathOk ok p) :
    parseTokens (pathOf sp dbl (s :: r) ++ unOf sp dbl ps) = .ok (((s :: r) :: ps).map (pathAstOf dbl ast)) := by
  generalize hts : pathOf sp dbl (s :: r) ++ unOf sp dbl ps = ts
  have hd0 : ts.drop 0 = sp s ++ (restOf sp dbl r ++ unOf sp dbl ps) := by simp [← hts, pathOf]
  have hrl : r.length + ps.length ≤ ts.length := by
    have h2 := rest_length (sp := sp) (dbl := dbl) r
    have h3 := un_length (sp := sp) (dbl := dbl) ps
    rw [← hts]; simp [pathOf]; omega
  obtain ⟨q1, last1, hq1, hat1, hl1⟩ := h.locLoop_read ts (unOf sp dbl ps) (h.rem_union ps hps) (head_union ps)
    r s [] (16 * (ts.length + 2)) 0 hs hrs hd0 (by omega)
  obtain ⟨q', last', hq', hat'⟩ := h.unionLoop_read ts ps [pathAstOf dbl ast (s :: r)] (16 * (ts.length + 2)) q1 last1
    hps hat1 hl1 (by omega)
  simp only [parseTokens, hq1, bind, Except.bind, List.nil_append]
  rw [show ast s :: restAstOf dbl ast r = pathAstOf dbl ast (s :: r) from rfl, hq']
  simp [atEnd_drop_one hat'.nil, pure, Except.pure]

end Spelling

/-- a printer that writes steps with `sp`, joins them with `/` and operands with `|` -/
structure Printer (sp : Step → List Str) (rest : List Step → List Str) (path : LocPath → List Str)
    (un : List LocPath → List Str) : Prop where
  rest_nil : rest [] = []
  rest_cons : ∀ s r, rest (s :: r) = ['/'] :: (sp s ++ rest r)
  path_nil : path [] = []
  path_cons : ∀ s r, path (s :: r) = sp s ++ rest r
  un_nil : un [] = []
  un_cons : ∀ p ps, un (p :: ps) = ['|'] :: (path p ++ un ps)

/-- its token functions are the generic ones -/
theorem Printer.toks {sp : Step → List Str} {rest : List Step → List Str} {path : LocPath → List Str}
    {un : List LocPath → List Str} (h : Printer sp rest path un) :
    (∀ r, rest r = restOf sp (fun _ => false) r) ∧ (∀ p, path p = pathOf sp (fun _ => false) p) ∧
      ∀ ps, un ps = unOf sp (fun _ => false) ps := by
  have hr : ∀ r, rest r = restOf sp (fun _ => false) r := by
    intro r
    induction r with
    | nil => exact h.rest_nil
    | cons s r ih => rw [h.rest_cons, ih]; rfl
  have hp : ∀ p, path p = pathOf sp (fun _ => false) p := by
    intro p
    cases p with
    | nil => exact h.path_nil
    | cons s r => rw [h.path_cons, hr]; rfl
  refine ⟨hr, hp, fun ps => ?_⟩
  induction ps with
  | nil => exact h.un_nil
  | cons p ps ih => rw [h.un_cons, hp, ih]; rfl

theorem restAstOf_id (r : List Step) : restAstOf (fun _ => false) id r = r := by
  induction r with
  | nil => rfl
  | cons x r ih => simp [restAstOf, ih]

theorem pathAstOf_id (p : LocPath) : pathAstOf (fun _ => false) id p = p := by
  cases p <;> simp [pathAstOf, restAstOf_id]

theorem spelling_full : Spelling stepToks (fun _ => false) id (fun s => stepOk s = true) LastOk where
  head s _ := ⟨_, _, rfl, by rw [axisTok_eq]; exact (axisName_plain s.axis).2.2.2⟩
  bar _ h := h.2.2
  read ts s hs rem hr hh f pos hd hf := by
    obtain ⟨q, last, hq, hat, hl⟩ := locationStep_written ts (.explicit s.axis) s rfl hs rem hr
      (fun y r hy => (hh y r hy).symm.imp (fun ⟨_, h⟩ => h) id) f pos
      (by rw [hd]; simp [stepToks, AxSyn.tokens, axisTok_eq]) hf
    exact ⟨_, q, last, hq, rfl, hat, hl⟩

/-- over a spelling of steps, the parser reads every union in the printers' domain back -/
theorem Spelling.parseTokens_printer {sp : Step → List Str} (h : Spelling sp (fun _ => false) id (fun s => stepOk s = true) LastOk)
    {rest : List Step → List Str} {path : LocPath → List Str} {un : List LocPath → List Str}
    (hP : Printer sp rest path un) (p : LocPath) (r : List LocPath) (hp : pathOk p = true)
    (hr : ∀ q ∈ r, pathOk q = true) : parseTokens (path p ++ un r) = .ok (p :: r) := by
  obtain ⟨_, hpe, hue⟩ := hP.toks
  obtain ⟨s, r', rfl, hs, hrs⟩ := pathOk_cons p hp
  have hid : pathAstOf (fun _ => false) id = id := funext pathAstOf_id
  rw [hpe, hue, h.parseTokens_read s r' r hs hrs fun q hq => pathOk_cons q (hr q hq), hid, List.map_id]

theorem printer_full : Printer stepToks restToks pathToks unionToks :=
  ⟨rfl, fun _ _ => rfl, rfl, fun _ _ => rfl, rfl, fun _ _ => rfl⟩

/-- **`PathParser(tokens).parse()` reads every printed union of location paths back.** -/
theorem parseTokens_print (ps : List LocPath) (h : pathsOk ps = true) :
    parseTokens (pathsToks ps) = .ok ps := by
  obtain ⟨p, rest, rfl, hp, hrest⟩ := pathsOk_cons ps h
  exact spelling_full.parseTokens_printer printer_full p rest hp hrest

end Print
end Genshi.Path
