/-
  Unfolding the reference semantics `Ref.reach` one tree level at a time, for
  steps whose predicates are not position tests: the form in which the
  top-down matchers can be compared with it.
-/
import Genshi.Model.PathRef
namespace Genshi.Path
open Genshi Genshi.Path.Ref

theorem zipIdx_filter_fst (f : LNode → Bool) (L : List LNode) (k : Nat) :
    ((L.zipIdx k).filter fun (c, _) => f c).map Prod.fst = L.filter f := by
  induction L generalizing k with
  | nil => rfl
  | cons n L ih =>
    simp only [List.zipIdx_cons, List.filter_cons]
    split <;> simp [ih]

section
variable (ns : NsMap) (xvs : XVars)

/-- node test and all predicates hold (predicates that are not position tests) -/
def hitR (s : Step) (c : LNode) : Bool :=
  testNode s.test c.node ns && s.preds.all fun p => predHolds p c.node 0 ns xvs

/-- no predicate of the step evaluates to a number on any node: none is a position test -/
def NonPositional (s : Step) : Prop :=
  ∀ p ∈ s.preds, ∀ (n : Node) (pos : Nat), predHolds p n pos ns xvs = predHolds p n 0 ns xvs

theorem filterPred_nonpos (p : Expr) (hp : ∀ (n : Node) (pos : Nat), predHolds p n pos ns xvs = predHolds p n 0 ns xvs)
    (L : List LNode) : filterPred p ns xvs L = L.filter fun c => predHolds p c.node 0 ns xvs := by
  unfold filterPred
  rw [← zipIdx_filter_fst (fun c => predHolds p c.node 0 ns xvs) L 0]
  congr 1
  apply List.filter_congr
  intro ⟨c, i⟩ _
  exact hp c.node (i + 1)

theorem filterPreds_nonpos (ps : List Expr)
    (hp : ∀ p ∈ ps, ∀ (n : Node) (pos : Nat), predHolds p n pos ns xvs = predHolds p n 0 ns xvs) :
    ∀ (L : List LNode), filterPreds ps ns xvs L = L.filter fun c => ps.all fun p => predHolds p c.node 0 ns xvs := by
  induction ps with
  | nil =>
    intro L
    simp only [filterPreds, List.foldl_nil, List.all_nil]
    exact (List.filter_eq_self.mpr (fun _ _ => rfl)).symm
  | cons p ps ih =>
    intro L
    simp only [filterPreds, List.foldl_cons]
    have := ih (fun q hq => hp q (List.mem_cons_of_mem _ hq)) (filterPred p ns xvs L)
    simp only [filterPreds] at this
    rw [this, filterPred_nonpos ns xvs p (hp p List.mem_cons_self), List.filter_filter]
    apply List.filter_congr
    intro c _
    simp [List.all_cons, Bool.and_comm]

theorem stepNodes_nonpos (s : Step) (hs : NonPositional ns xvs s) (c : LNode) :
    stepNodes s ns xvs c = (axisNodes s.axis c).filter (hitR ns xvs s) := by
  unfold stepNodes hitR
  rw [filterPreds_nonpos ns xvs s.preds hs, List.filter_filter]
  apply List.filter_congr
  intro n _
  rw [Bool.and_comm]

theorem reach_cons (s : Step) (rest : LocPath) (hs : NonPositional ns xvs s) (c t : LNode) :
    reach ns xvs (s :: rest) c t = (axisNodes s.axis c).any fun m => hitR ns xvs s m && reach ns xvs rest m t := by
  simp only [reach, stepNodes_nonpos ns xvs s hs, List.any_filter]

theorem descList_eq (ks : List Node) (loc : List Nat) (i : Nat) :
    descList ks loc i = ((ks.zipIdx i).map fun (k, j) => (⟨loc ++ [j], k⟩ : LNode)).flatMap
      fun k => k :: descendants k := by
  induction ks generalizing i with
  | nil => simp [descList]
  | cons k ks ih => simp [descList, List.zipIdx_cons, ih (i + 1), descendants]

theorem descendants_eq (c : LNode) : descendants c = (childrenOf c).flatMap fun k => k :: descendants k := by
  obtain ⟨loc, node⟩ := c
  cases node with
  | leaf e => simp [descendants, descOf, childrenOf]
  | elem t a ks => simp only [descendants, descOf, childrenOf]; exact descList_eq ks loc 0

def withAxis (a : Axis) (s : Step) : Step := ⟨a, s.test, s.preds⟩

theorem nonpos_withAxis (a : Axis) (s : Step) (hs : NonPositional ns xvs s) : NonPositional ns xvs (withAxis a s) := hs

theorem hitR_withAxis (a : Axis) (s : Step) (c : LNode) : hitR ns xvs (withAxis a s) c = hitR ns xvs s c := rfl

theorem reach_self (s : Step) (rest : LocPath) (hs : NonPositional ns xvs s) (hax : s.axis = .self) (c t : LNode) :
    reach ns xvs (s :: rest) c t = (hitR ns xvs s c && reach ns xvs rest c t) := by
  rw [reach_cons ns xvs s rest hs, hax]; simp [axisNodes]

theorem reach_child (s : Step) (rest : LocPath) (hs : NonPositional ns xvs s) (hax : s.axis = .child) (c t : LNode) :
    reach ns xvs (s :: rest) c t
      = (childrenOf c).any fun k => reach ns xvs (withAxis .self s :: rest) k t := by
  rw [reach_cons ns xvs s rest hs, hax]
  simp only [axisNodes]
  apply List.any_congr rfl
  intro k
  rw [reach_self ns xvs (withAxis .self s) rest (nonpos_withAxis ns xvs _ s hs) rfl, hitR_withAxis]

theorem reach_dos (s : Step) (rest : LocPath) (hs : NonPositional ns xvs s) (hax : s.axis = .descendantOrSelf)
    (c t : LNode) :
    reach ns xvs (s :: rest) c t
      = ((hitR ns xvs s c && reach ns xvs rest c t) ||
         (childrenOf c).any fun k => reach ns xvs (s :: rest) k t) := by
  rw [reach_cons ns xvs s rest hs, hax]
  simp only [axisNodes, List.any_cons]
  congr 1
  rw [descendants_eq c, List.any_flatMap]
  apply List.any_congr rfl
  intro k
  rw [reach_cons ns xvs s rest hs, hax]
  simp [axisNodes]

theorem reach_desc (s : Step) (rest : LocPath) (hs : NonPositional ns xvs s) (hax : s.axis = .descendant)
    (c t : LNode) :
    reach ns xvs (s :: rest) c t
      = (childrenOf c).any fun k => reach ns xvs (withAxis .descendantOrSelf s :: rest) k t := by
  rw [reach_cons ns xvs s rest hs, hax]
  simp only [axisNodes]
  rw [descendants_eq c, List.any_flatMap]
  apply List.any_congr rfl
  intro k
  rw [reach_cons ns xvs (withAxis .descendantOrSelf s) rest (nonpos_withAxis ns xvs _ s hs)]
  simp [withAxis, axisNodes, hitR]

/-- the axis of a step when the node at hand *is* a candidate for it -/
def convAxis : Axis → Axis
  | .child => .self
  | .descendant => .descendantOrSelf
  | a => a

/-- what is left to do when the node at hand is a candidate for step `x` -/
def pathAt (S : List Step) (x : Nat) : LocPath :=
  match S.drop x with
  | [] => []
  | s :: rest => withAxis (convAxis s.axis) s :: rest

/-- `t` is reached from candidate `c` of step `x` -/
def RR (S : List Step) (x : Nat) (c t : LNode) : Bool := reach ns xvs (pathAt S x) c t

theorem drop_of_getElem? {S : List Step} {x : Nat} {s : Step} (h : S[x]? = some s) :
    S.drop x = s :: S.drop (x + 1) := by
  obtain ⟨hlt, hs⟩ := List.getElem?_eq_some_iff.mp h
  rw [List.drop_eq_getElem_cons hlt, hs]

/-- a candidate either passes the step itself, or (descendant axes) hands the position
    to its children -/
theorem RR_unfold (S : List Step) (x : Nat) (s : Step) (h : S[x]? = some s)
    (hs : NonPositional ns xvs s) (hna : s.axis ≠ .attribute) (c t : LNode) :
    RR ns xvs S x c t =
      ((hitR ns xvs s c && reach ns xvs (S.drop (x + 1)) c t) ||
       ((s.axis == .descendant || s.axis == .descendantOrSelf) &&
         (childrenOf c).any fun k => RR ns xvs S x k t)) := by
  unfold RR pathAt
  rw [drop_of_getElem? h]
  simp only
  cases hax : s.axis with
  | «attribute» => exact absurd hax hna
  | self =>
    simp only [convAxis]
    rw [reach_self ns xvs _ _ (nonpos_withAxis ns xvs _ s hs) rfl, hitR_withAxis]
    simp
  | child =>
    simp only [convAxis]
    rw [reach_self ns xvs _ _ (nonpos_withAxis ns xvs _ s hs) rfl, hitR_withAxis]
    simp
  | descendant =>
    simp only [convAxis]
    rw [reach_dos ns xvs _ _ (nonpos_withAxis ns xvs _ s hs) rfl, hitR_withAxis]
    simp
  | descendantOrSelf =>
    simp only [convAxis]
    rw [reach_dos ns xvs _ _ (nonpos_withAxis ns xvs _ s hs) rfl, hitR_withAxis]
    simp

theorem reach_drop_end (S : List Step) (x : Nat) (h : S[x]? = none) (c t : LNode) :
    reach ns xvs (S.drop x) c t = (c.loc == t.loc) := by
  have : S.length ≤ x := by simpa using h
  rw [List.drop_eq_nil_of_le this]; rfl

/-- the remaining steps, seen from the node that passed the previous step -/
theorem reach_drop (S : List Step) (x : Nat) (s : Step) (h : S[x]? = some s)
    (hs : NonPositional ns xvs s) (hna : s.axis ≠ .attribute) (c t : LNode) :
    reach ns xvs (S.drop x) c t =
      if s.axis == .self || s.axis == .descendantOrSelf then RR ns xvs S x c t
      else (childrenOf c).any fun k => RR ns xvs S x k t := by
  unfold RR pathAt
  rw [drop_of_getElem? h]
  simp only
  cases hax : s.axis with
  | «attribute» => exact absurd hax hna
  | self =>
    have : withAxis (convAxis .self) s = s := by rw [← hax]; cases s; simp [withAxis, convAxis] at *; simp [hax]
    simp [this]
  | descendantOrSelf =>
    have : withAxis (convAxis .descendantOrSelf) s = s := by cases s; simp [withAxis, convAxis] at *; simp [hax]
    simp [this]
  | child =>
    simp only [convAxis]
    rw [reach_child ns xvs s _ hs hax]; simp
  | descendant =>
    simp only [convAxis]
    rw [reach_desc ns xvs s _ hs hax]; simp

def kidsAt (ks : List Node) (loc : List Nat) (i : Nat) : List LNode :=
  (ks.zipIdx i).map fun (k, j) => (⟨loc ++ [j], k⟩ : LNode)

mutual
  theorem descOf_any (f : LNode → Bool) : ∀ (n : Node) (loc : List Nat),
      (descOf n loc).any f
        = ((childrenOf ⟨loc, n⟩).any f || (descOf n loc).any fun m => (childrenOf m).any f)
    | .elem _ _ ks, loc => by
        simp only [descOf, childrenOf]
        exact descList_any f ks loc 0
    | .leaf _, _ => by simp [descOf, childrenOf]
  theorem descList_any (f : LNode → Bool) : ∀ (ks : List Node) (loc : List Nat) (i : Nat),
      (descList ks loc i).any f
        = ((kidsAt ks loc i).any f || (descList ks loc i).any fun m => (childrenOf m).any f)
    | [], _, _ => by simp [descList, kidsAt]
    | k :: ks, loc, i => by
        have h1 := descOf_any f k (loc ++ [i])
        have h2 := descList_any f ks loc (i + 1)
        simp only [descList, kidsAt, List.zipIdx_cons, List.map_cons, List.any_cons, List.any_append] at *
        rw [h1, h2]
        generalize f ⟨loc ++ [i], k⟩ = A
        generalize (childrenOf ⟨loc ++ [i], k⟩).any f = B
        generalize ((descOf k (loc ++ [i])).any fun m => (childrenOf m).any f) = C
        generalize ((List.map (fun x => (⟨loc ++ [x.2], x.1⟩ : LNode)) (ks.zipIdx (i + 1))).any f) = D
        generalize ((descList ks loc (i + 1)).any fun m => (childrenOf m).any f) = E
        cases A <;> cases B <;> cases C <;> cases D <;> cases E <;> rfl
end

/-- XPath's abbreviation `//`: with a step that has no position test,
    `descendant-or-self::node()/child::t[…]` selects what `descendant::t[…]` selects -/
theorem reach_dslash (s : Step) (rest : LocPath) (hs : NonPositional ns xvs s) (hax : s.axis = .child)
    (c t : LNode) :
    reach ns xvs (⟨.descendantOrSelf, .node, []⟩ :: s :: rest) c t
      = reach ns xvs (withAxis .descendant s :: rest) c t := by
  rw [reach_cons ns xvs _ _ (by intro q hq; simp at hq), reach_cons ns xvs _ rest (nonpos_withAxis ns xvs _ s hs)]
  simp only [axisNodes, withAxis, List.any_cons]
  have hn : ∀ m : LNode, hitR ns xvs ⟨.descendantOrSelf, .node, []⟩ m = true := by
    intro m; simp [hitR, testNode]
  simp only [hn, Bool.true_and]
  have hstep : ∀ m : LNode, reach ns xvs (s :: rest) m t
      = (childrenOf m).any fun k => hitR ns xvs s k && reach ns xvs rest k t := by
    intro m
    rw [reach_cons ns xvs s rest hs, hax]; rfl
  simp only [hstep]
  have := descOf_any (fun k => hitR ns xvs s k && reach ns xvs rest k t) c.node c.loc
  simp only [descendants]
  exact this.symm

end

/-- `reach` looks at the location of the target only -/
theorem reach_loc (ns : NsMap) (xvs : XVars) : ∀ (p : LocPath) (c t t' : LNode), t.loc = t'.loc →
    reach ns xvs p c t = reach ns xvs p c t'
  | [], c, t, t', h => by simp [reach, h]
  | s :: rest, c, t, t', h => by
      simp only [reach]
      apply List.any_congr rfl
      intro m
      exact reach_loc ns xvs rest m t t' h

end Genshi.Path
