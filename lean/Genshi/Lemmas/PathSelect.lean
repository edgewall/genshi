/-
  `Path.select` as a function of the per-event results (`emitV`): matched subtrees are copied
  whatever is reported inside them, and on results given node by node (`valsOf`) it is the
  tree walk `Ref.pick` (`emitV_valsOf`: matches whole, attribute selections, the search going
  on below everything else).  Also the shape `None` / `True` of results (`okVals`), which
  GenericStrategy's have when it reports a complete match as `True` (`gStep_out`).
-/
import Genshi.Lemmas.PathTreeRun
import Genshi.Lemmas.PathEval
namespace Genshi.Path
open Genshi Genshi.Path.Ref

/-- `Path.select` as a function of the per-event results -/
def emitV : Nat → List Event → List Val → List Item
  | _, [], _ => []
  | _, _, [] => []
  | depth, e :: es, v :: vs =>
      if depth > 0 then
        .ev e :: emitV (if e.isStart then depth + 1 else if e.isEnd then depth - 1 else depth) es vs
      else if v == .bool true then .ev e :: emitV (if e.isStart then 1 else 0) es vs
      else if v.truthy then itemOf v e :: emitV 0 es vs
      else emitV 0 es vs

theorem selectGo_eq_emitV (ms : List Matcher) (ns : NsMap) (vs : Vars) :
    ∀ (es : List Event) (sts : List MState) (depth : Nat),
      selectGo ms ns vs sts depth es = emitV depth es (runTest ms ns vs sts es) := by
  intro es
  induction es with
  | nil => intro sts depth; simp [selectGo, emitV]
  | cons e es ih =>
    intro sts depth
    simp only [selectGo, runTest, emitV, ih]

/-- the skipping depth after a stretch of events -/
def emitDepth : Nat → List Event → List Val → Nat
  | d, [], _ => d
  | d, _, [] => d
  | depth, e :: es, v :: vs =>
      if depth > 0 then
        emitDepth (if e.isStart then depth + 1 else if e.isEnd then depth - 1 else depth) es vs
      else if v == .bool true then emitDepth (if e.isStart then 1 else 0) es vs
      else emitDepth 0 es vs

theorem vals_append {v : List Val} {a b : Nat} (h : v.length = a + b) :
    ∃ va vb, v = va ++ vb ∧ va.length = a ∧ vb.length = b :=
  ⟨v.take a, v.drop a, by simp, by simp; omega, by simp; omega⟩

theorem vals_elem {v : List Val} {n : Nat} (h : v.length = n + 1 + 1) :
    ∃ x vk y, v = x :: (vk ++ [y]) ∧ vk.length = n := by
  match v, h with
  | x :: v', h =>
    have hl : v'.length = n + 1 := by simpa using h
    exact ⟨x, v'.dropLast, v'.getLast (by intro h0; simp [h0] at hl), by rw [List.dropLast_concat_getLast],
      by simp [hl]⟩

/-- Inside a matched element (`d ≥ 1`) the events of a subtree are copied whatever is reported for
    them, and `Path.select` goes on after the subtree at the depth it had before.  (Stated with
    the events and results that follow, so that no depth has to be carried between stretches.) -/
theorem emit_copy :
    (∀ n : Node, n.ok = true → ∀ d, 1 ≤ d → ∀ v1 : List Val, v1.length = n.flatten.length →
      ∀ (es : List Event) (vs : List Val),
        emitV d (n.flatten ++ es) (v1 ++ vs) = n.flatten.map Item.ev ++ emitV d es vs ∧
        emitDepth d (n.flatten ++ es) (v1 ++ vs) = emitDepth d es vs) ∧
    (∀ ks : List Node, okList ks = true → ∀ d, 1 ≤ d → ∀ v1 : List Val, v1.length = (flattenList ks).length →
      ∀ (es : List Event) (vs : List Val),
        emitV d (flattenList ks ++ es) (v1 ++ vs) = (flattenList ks).map Item.ev ++ emitV d es vs ∧
        emitDepth d (flattenList ks ++ es) (v1 ++ vs) = emitDepth d es vs) := by
  apply node_induction
  · intro t a ks ih hok d hd v1 hlen es vs
    obtain ⟨x, vk, y, rfl, hvk⟩ := vals_elem (n := (flattenList ks).length) (by simpa [Node.flatten] using hlen)
    obtain ⟨h1, h2⟩ := ih (by simpa [Node.ok] using hok) (d + 1) (by omega) vk hvk (.end_ t :: es) (y :: vs)
    have hd0 : d > 0 := hd
    have e1 : (Node.elem t a ks).flatten ++ es = .start t a :: (flattenList ks ++ .end_ t :: es) := by
      simp [Node.flatten]
    have e2 : (x :: (vk ++ [y])) ++ vs = x :: (vk ++ y :: vs) := by simp
    rw [e1, e2]
    simp only [↓reduceIte, emitV, emitDepth, hd0, Event.isStart, h1, h2]
    simp [Event.isEnd, Node.flatten]
  · intro e hok d hd v1 hlen es vs
    obtain ⟨x, rfl⟩ := List.length_eq_one_iff.1 hlen
    obtain ⟨he, hs⟩ := isEnd_of_not_startEnd (e := e) (by simpa [Node.ok] using hok)
    have hd0 : d > 0 := hd
    simp [Node.flatten, emitV, emitDepth, hd0, hs, he]
  · intro _ d _ v1 hlen es vs
    obtain rfl := List.length_eq_zero_iff.1 hlen
    exact ⟨rfl, rfl⟩
  · intro k ks ihk ihks hok d hd v1 hlen es vs
    simp only [okList, Bool.and_eq_true] at hok
    obtain ⟨va, vb, rfl, hva, hvb⟩ := vals_append (by simpa [Genshi.flattenList] using hlen)
    obtain ⟨h1, h2⟩ := ihk hok.1 d hd va hva (flattenList ks ++ es) (vb ++ vs)
    obtain ⟨h3, h4⟩ := ihks hok.2 d hd vb hvb es vs
    simp only [Genshi.flattenList, List.append_assoc, h1, h2, h3, h4, List.map_append, and_self]

theorem emitV_copy : ∀ (n : Node), n.ok = true → ∀ (d : Nat), 1 ≤ d → ∀ (v1 : List Val), v1.length = n.flatten.length →
      ∀ (es : List Event) (vs : List Val),
        emitV d (n.flatten ++ es) (v1 ++ vs) = n.flatten.map Item.ev ++ emitV d es vs :=
  fun n hok d hd v1 hlen es vs => (emit_copy.1 n hok d hd v1 hlen es vs).1

theorem emitDepth_copy : ∀ (n : Node), n.ok = true → ∀ (d : Nat), 1 ≤ d → ∀ (v1 : List Val),
      v1.length = n.flatten.length → emitDepth d n.flatten v1 = d := fun n hok d hd v1 hlen => by
  simpa [emitDepth] using (emit_copy.1 n hok d hd v1 hlen [] []).2

/-- per-event results that are `None` or — at the event of a node — `True`: the two results for
    which `Path.select` takes the `if result is True` branch (copy the subtree) or none; a truthy
    result of another kind goes to `elif result` and is delivered as it is (`Shaped`) -/
def okVals : List Val → List (Option LNode) → Prop
  | [], [] => True
  | v :: vs, l :: ls => (v = .none ∨ (v = .bool true ∧ l.isSome = true)) ∧ okVals vs ls
  | _, _ => False

theorem okVals_length : ∀ (vs : List Val) (ls : List (Option LNode)), okVals vs ls → vs.length = ls.length
  | [], [], _ => rfl
  | _ :: vs, _ :: ls, h => by simp [okVals_length vs ls h.2]
  | [], _ :: _, h => by simp [okVals] at h
  | _ :: _, [], h => by simp [okVals] at h

theorem okVals_append : ∀ (v1 v2 : List Val) (l1 l2 : List (Option LNode)), v1.length = l1.length →
    (okVals (v1 ++ v2) (l1 ++ l2) ↔ okVals v1 l1 ∧ okVals v2 l2)
  | [], v2, [], l2, _ => by simp [okVals]
  | v :: v1, v2, l :: l1, l2, h => by
      simp only [List.cons_append, okVals]
      rw [okVals_append v1 v2 l1 l2 (by simpa using h)]
      exact and_assoc.symm
  | [], _, _ :: _, _, h => by simp at h
  | _ :: _, _, [], _, h => by simp at h

def attrsOf : Val → AttrList
  | .attrs a => a
  | _ => []

/-- what `Path.select` can be handed at a node: nothing, a match, or — at a START — attributes -/
def Shaped (rep : LNode → Val) : Prop :=
  ∀ m : LNode, rep m = .none ∨ rep m = .bool true ∨ ∃ a, rep m = .attrs a ∧ (nodeEvent m.node).isStart = true

/-- **`Path.select` on results given node by node**: a node whose value is `True` is delivered
    whole, attributes are delivered where the value is an attribute list, and the search goes
    on below every node that is not delivered whole — and after the subtree. -/
theorem emitV_valsOf_then (rep : LNode → Val) (hrep : Shaped rep) :
    (∀ n : Node, n.ok = true → ∀ (loc : List Nat) (es : List Event) (vs : List Val),
      emitV 0 (n.flatten ++ es) (valsOf rep (eventLocs n loc) ++ vs)
        = pick (fun m => rep m == .bool true) (fun m => attrsOf (rep m)) n loc ++ emitV 0 es vs) ∧
    (∀ ks : List Node, okList ks = true → ∀ (loc : List Nat) (i : Nat) (es : List Event) (vs : List Val),
      emitV 0 (flattenList ks ++ es) (valsOf rep (eventLocsList ks loc i) ++ vs)
        = pickList (fun m => rep m == .bool true) (fun m => attrsOf (rep m)) ks loc i ++ emitV 0 es vs) := by
  have hnt : (Val.none == Val.bool true) = false := rfl
  apply node_induction
  · intro t a ks ih hok loc es vs
    have hks : okList ks = true := by simpa [Node.ok] using hok
    have e1 : (Node.elem t a ks).flatten ++ es = .start t a :: (flattenList ks ++ .end_ t :: es) := by
      simp [Node.flatten]
    have e2 : ∀ x : Val, (x :: (valsOf rep (eventLocsList ks loc 0) ++ [Val.none])) ++ vs
        = x :: (valsOf rep (eventLocsList ks loc 0) ++ Val.none :: vs) := fun x => by simp
    -- the search going on: the children, then END
    have hrest : emitV 0 (flattenList ks ++ .end_ t :: es) (valsOf rep (eventLocsList ks loc 0) ++ Val.none :: vs)
        = pickList (fun m => rep m == .bool true) (fun m => attrsOf (rep m)) ks loc 0 ++ emitV 0 es vs := by
      rw [ih hks loc 0]
      simp [emitV, Val.truthy, hnt]
    rw [valsOf_elem, e1, e2, pick]
    rcases hrep ⟨loc, .elem t a ks⟩ with h | h | ⟨at_, h, _⟩
    · have ha : attrsOf Val.none = [] := rfl
      simp only [h, emitV, Nat.lt_irrefl, ↓reduceIte, hnt, Val.truthy, Bool.false_eq_true, ha, List.isEmpty_nil,
        List.nil_append, hrest]
    · simp only [h, emitV, Nat.lt_irrefl, ↓reduceIte, beq_self_eq_true, Event.isStart]
      rw [(emit_copy.2 ks hks 1 (Nat.le_refl _) _ (by rw [valsOf_length, eventLocsList_length]) _ _).1]
      simp [emitV, Node.flatten, Event.isStart, Event.isEnd]
    · have hf : (Val.attrs at_ == Val.bool true) = false := rfl
      have ha : attrsOf (Val.attrs at_) = at_ := rfl
      simp only [h, emitV, Nat.lt_irrefl, ↓reduceIte, hf, Bool.false_eq_true, ha, Val.truthy, itemOf, hrest]
      cases at_ <;> rfl
  · intro e hok loc es vs
    have hse : e.isStart = false := (isEnd_of_not_startEnd (by simpa [Node.ok] using hok)).2
    rcases hrep ⟨loc, .leaf e⟩ with h | h | ⟨_, _, h⟩
    · simp [Node.flatten, eventLocs, valsOf, emitV, pick, h, hnt, Val.truthy]
    · simp [Node.flatten, eventLocs, valsOf, emitV, pick, h, hse]
    · rw [nodeEvent, hse] at h; cases h
  · intro _ loc i es vs
    rfl
  · intro k ks ihk ihks hok loc i es vs
    simp only [okList, Bool.and_eq_true] at hok
    rw [Genshi.flattenList, valsOf_kids, pickList, List.append_assoc, List.append_assoc, ihk hok.1, ihks hok.2,
      List.append_assoc]

theorem emitV_valsOf (rep : LNode → Val) (hrep : Shaped rep) :
    (∀ n : Node, n.ok = true → ∀ loc : List Nat,
      emitV 0 n.flatten (valsOf rep (eventLocs n loc))
        = pick (fun m => rep m == .bool true) (fun m => attrsOf (rep m)) n loc) ∧
    (∀ ks : List Node, okList ks = true → ∀ (loc : List Nat) (i : Nat),
      emitV 0 (flattenList ks) (valsOf rep (eventLocsList ks loc i))
        = pickList (fun m => rep m == .bool true) (fun m => attrsOf (rep m)) ks loc i) :=
  ⟨fun n hok loc => by simpa [emitV] using (emitV_valsOf_then rep hrep).1 n hok loc [] [],
    fun ks hok loc i => by simpa [emitV] using (emitV_valsOf_then rep hrep).2 ks hok loc i [] []⟩

mutual
  theorem okVals_run {σ : Type} (step : σ → Event → σ × Val)
      (hstep : ∀ st e, (step st e).2 = .none ∨ ((step st e).2 = .bool true ∧ e.isEnd = false)) :
      ∀ (n : Node) (loc : List Nat) (st : σ), okVals (runOne step st n.flatten).1 (eventLocs n loc)
    | .elem t a ks, loc, st => by
        rw [runOne_elem, eventLocs, okVals, okVals_append _ _ _ _ (by rw [runOne_length, eventLocsList_length])]
        refine ⟨?_, okVals_runList step hstep ks loc 0 _, ?_, trivial⟩
        · exact (hstep st (.start t a)).imp_right fun h => ⟨h.1, rfl⟩
        · exact (hstep _ (.end_ t)).imp_right fun h => by simp [Event.isEnd] at h
    | .leaf e, loc, st =>
        ⟨(hstep st e).imp_right fun h => ⟨h.1, rfl⟩, trivial⟩
  theorem okVals_runList {σ : Type} (step : σ → Event → σ × Val)
      (hstep : ∀ st e, (step st e).2 = .none ∨ ((step st e).2 = .bool true ∧ e.isEnd = false)) :
      ∀ (ks : List Node) (loc : List Nat) (i : Nat) (st : σ),
        okVals (runOne step st (flattenList ks)).1 (eventLocsList ks loc i)
    | [], _, _, _ => by simp [Genshi.flattenList, eventLocsList, runOne, okVals]
    | k :: ks, loc, i, st => by
        rw [runOne_kids, eventLocsList, okVals_append _ _ _ _ (by rw [runOne_length, eventLocs_length])]
        exact ⟨okVals_run step hstep k (loc ++ [i]) st, okVals_runList step hstep ks loc (i + 1) _⟩
end

theorem gLoop_retval (steps : List Step) (rlen : Nat) (e : Event) (ns : NsMap) (vs : Vars) :
    ∀ (fuel : Nat) (q : List QEntry) (acc : GAcc),
      (gLoop steps rlen e ns vs fuel q acc).retval = acc.retval ∨
      (gLoop steps rlen e ns vs fuel q acc).retval = lastResult steps e ns := by
  intro fuel
  induction fuel with
  | zero => intro q acc; exact Or.inl rfl
  | succ fuel ih =>
    intro q acc
    cases q with
    | nil => exact Or.inl rfl
    | cons en q =>
      obtain ⟨x, pcou, mcou⟩ := en
      rw [gLoop]
      cases steps[x]? with
      | none => exact Or.inl rfl
      | some st =>
        -- every branch goes on with the same `retval`, except the one for the last step
        dsimp only
        cases (!st.test.matches e ns)
        · simp only [Bool.false_eq_true, ↓reduceIte]
          cases gPreds e ns vs (pcou ++ mcou) st.preds 0 [] acc.store with
          | mk matched store =>
          dsimp only
          cases matched
          · exact ih _ _
          · simp only [Bool.not_true, Bool.false_eq_true, ↓reduceIte]
            cases (x + 1 == rlen)
            · exact ih _ _
            · simp only [↓reduceIte]
              rcases ih q ⟨_, store, _⟩ with h | h
              · rw [h]; dsimp only; split
                · exact Or.inr rfl
                · exact Or.inl rfl
              · exact Or.inr h
        · exact ih _ _

theorem gStep_out (steps : List Step) (ns : NsMap) (vs : Vars) (hlast : ∀ e, lastResult steps e ns = .bool true)
    (st : GState) (e : Event) :
    (gStep steps ns vs st e).2 = .none ∨ ((gStep steps ns vs st e).2 = .bool true ∧ e.isEnd = false) := by
  by_cases he : e.isEnd = true
  · left; simp [gStep, he]
  · by_cases hm : e.isNsOrCdata = true
    · left; simp [gStep, he, hm]
    · have he' : e.isEnd = false := by simpa using he
      simp only [↓reduceIte, gStep, he', hm, Bool.false_eq_true]
      rcases gLoop_retval steps (realLen steps) e ns vs _ _ ⟨[], st.store, .none⟩ with h | h
      · exact Or.inl h
      · exact Or.inr ⟨h.trans (hlast e), trivial⟩

end Genshi.Path
