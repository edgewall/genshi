/-
  SimplePathStrategy vs GenericStrategy by a simulation (C17 `simple_eq_generic_partial`):
  relative mode, one fragment of child-axis steps.  The pair (fragment index,
  matched prefix length) on Simple's stack stands for the one candidate position
  on Generic's stack.
-/
import Genshi.Lemmas.PathStream
import Genshi.Lemmas.PathCall
import Genshi.Lemmas.PathKmpStep
import Genshi.Lemmas.PathFragsPath
namespace Genshi.Path
open Genshi

section
variable (ns : NsMap) (vs : Vars)

theorem childPath_chain (tests : List NodeTest) : ChildPath (childChain tests) := fun s hs => by
  obtain ⟨t, _, rfl⟩ := List.mem_map.mp hs; rfl

theorem realLen_chain (tests : List NodeTest) : realLen (dotSlash :: childChain tests) = tests.length + 1 := by
  rw [realLen_childPath _ (childPath_chain tests)]
  simp [childChain]

theorem chain_getElem (tests : List NodeTest) (d : Nat) :
    (dotSlash :: childChain tests)[d + 1]? = (tests[d]?).map fun t => ⟨.child, t, []⟩ := by
  simp [childChain]

theorem gStep_chain (tests : List NodeTest) (st : GState) (e : Event) (d c : Nat) (t : NodeTest)
    (rest : List (List GPos)) (hstack : st.stack = [⟨d + 1, [c]⟩] :: rest) (ht : tests[d]? = some t)
    (he : e.isEnd = false) (hm : e.isNsOrCdata = false) :
    gStep (dotSlash :: childChain tests) ns vs st e =
      (if !t.matches e ns then (⟨if e.isStart then [] :: st.stack else st.stack, st.store⟩, .none)
       else if d + 1 == tests.length then
         (⟨if e.isStart then [] :: st.stack else st.stack, st.store⟩, .bool true)
       else (⟨if e.isStart then [⟨d + 2, [st.store.length]⟩] :: st.stack else st.stack, st.store ++ [[]]⟩, .none)) := by
  have hlast := lastResult_childPath ns _ (childPath_chain tests) e
  have hnext : ((dotSlash :: childChain tests)[d + 1 + 1]?.map Step.axis).getD .child = .child := by
    rw [chain_getElem]; cases tests[d + 1]? <;> rfl
  have hsx : (dotSlash :: childChain tests)[d + 1]? = some ⟨.child, t, []⟩ := by rw [chain_getElem, ht]; rfl
  rw [gStep_top1 ns vs _ st e (d + 1) [c] _ rest hstack hsx he hm (Or.inr (by rw [hnext]; rfl))]
  have hl : (d + 1 + 1 == tests.length + 1) = (d + 1 == tests.length) := by
    cases h : (d + 1 == tests.length) <;> simp at h ⊢ <;> omega
  simp only [gRound, hnext, hlast, gPreds, realLen_chain tests, isDescLike, hl]
  by_cases h1 : t.matches e ns = true
  · by_cases h2 : (d + 1 == tests.length) = true
    · simp [h1, h2, Val.truthy]
    · simp [h1, h2]
  · simp [h1]

theorem pStep_chain (tests : List NodeTest) (pi : List Nat) (e : Event) (p : Nat) (t : NodeTest)
    (rest : PState) (ht : tests[p]? = some t) (he : e.isEnd = false) (hm : e.isNsOrCdata = false) :
    pStep (some [⟨tests, pi, none, false⟩]) false ns (⟨some (0, p), false⟩ :: rest) e =
      (if !t.matches e ns then
         ((if e.isStart then ⟨none, false⟩ :: ⟨some (0, p), false⟩ :: rest else ⟨some (0, p), false⟩ :: rest), .none)
       else if p + 1 == tests.length then
         ((if e.isStart then ⟨none, false⟩ :: ⟨some (0, p), false⟩ :: rest else ⟨some (0, p), false⟩ :: rest), .bool true)
       else
         ((if e.isStart then ⟨some (0, p + 1), false⟩ :: ⟨some (0, p), false⟩ :: rest
           else ⟨some (0, p), false⟩ :: rest), .none)) := by
  have hlt : p < tests.length := by
    rcases Nat.lt_or_ge p tests.length with h | h
    · exact h
    · rw [List.getElem?_eq_none_iff.mpr h] at ht; cases ht
  rw [Frags.pStep_bound ns _ false _ ⟨tests, pi, none, false⟩ rfl p hlt e he hm rfl]
  simp only [Frags.boundOut, fragTest, ht, List.length_singleton, beq_self_eq_true, if_true]
  by_cases h1 : t.matches e ns = true <;> by_cases h2 : (p + 1 == tests.length) = true <;> simp [h1, h2]

theorem pStep_dead (frags : List Frag) (e : Event) (rest : PState)
    (he : e.isEnd = false) (hm : e.isNsOrCdata = false) :
    pStep (some frags) false ns (⟨none, false⟩ :: rest) e =
      ((if e.isStart then ⟨none, false⟩ :: ⟨none, false⟩ :: rest else ⟨none, false⟩ :: rest), .none) :=
  Frags.pStep_none_entry ns frags false _ e he hm rfl

theorem pStep_root (tests : List NodeTest) (hne : tests ≠ []) (pi : List Nat) (e : Event)
    (he : e.isEnd = false) (hm : e.isNsOrCdata = false) :
    pStep (some [⟨tests, pi, none, false⟩]) false ns [] e = ([⟨some (0, 0), false⟩], .none) := by
  have h1 : tests.isEmpty = false := by cases tests <;> simp_all
  rw [Frags.pStep_skip_root ns _ false e he hm (by simp [Frags.pStart, skipEmpty, h1])]
  simp [skipEmpty, h1]

/-- one stack level: a live candidate (Generic: position `d`, Simple: `d - 1` tests matched) or
    a dead subtree -/
def LvlRel (n d : Nat) (gl : List GPos) (pl : PEntry) : Prop :=
  (∃ c, gl = [⟨d, [c]⟩] ∧ pl = ⟨some (0, d - 1), false⟩ ∧ 1 ≤ d ∧ d ≤ n) ∨ (gl = [] ∧ pl = ⟨none, false⟩)

/-- the two stacks level by level, at depth `d`; below them Generic's stack keeps the level `[⟨0, [0]⟩]` of `gInit`,
    for which Simple's (empty at the start) has no counterpart -/
inductive StkRel (n : Nat) : Nat → List (List GPos) → PState → Prop
  | one {gl : List GPos} {pl : PEntry} : LvlRel n 1 gl pl → StkRel n 1 [gl, [⟨0, [0]⟩]] [pl]
  | succ {d : Nat} {gs : List (List GPos)} {ps : PState} {gl : List GPos} {pl : PEntry} :
      StkRel n d gs ps → LvlRel n (d + 1) gl pl → StkRel n (d + 1) (gl :: gs) (pl :: ps)

theorem StkRel.top {n d : Nat} {gs : List (List GPos)} {ps : PState} (h : StkRel n d gs ps) :
    ∃ gl gr pl pr, gs = gl :: gr ∧ ps = pl :: pr ∧ LvlRel n d gl pl := by
  cases h with
  | one hl => exact ⟨_, _, _, _, rfl, rfl, hl⟩
  | succ _ hl => exact ⟨_, _, _, _, rfl, rfl, hl⟩

theorem StkRel.pos {n d : Nat} {gs : List (List GPos)} {ps : PState} (h : StkRel n d gs ps) : 1 ≤ d := by
  cases h <;> omega

def RChain (n d : Nat) (g : GState) (t : PState) : Prop := StkRel n d g.stack t

theorem sim_chain (tests : List NodeTest) (hne : tests ≠ []) (pi : List Nat) :
    Sim (gStep (dotSlash :: childChain tests) ns vs) (pStep (some [⟨tests, pi, none, false⟩]) false ns)
      (RChain tests.length) 1 := by
  refine Sim.of_steps (fun d _ g t e hend hmk hr => ?_) (fun d hd g t tag hr => ?_)
    (fun g e => gStep_marker _ _ _ g e)
    (fun t e hend hmk => by simp only [pStep, hend, hmk, Bool.false_eq_true, if_false, if_true])
  · obtain ⟨stk, sto⟩ := g
    unfold RChain at hr
    simp only at hr
    obtain ⟨gl, gr, pl, pr, hg, ht, hl⟩ := StkRel.top hr
    subst hg ht
    rcases hl with ⟨c, hgl, hpl, hd1, hdn⟩ | ⟨hgl, hpl⟩
    · obtain ⟨d0, rfl⟩ : ∃ d0, d = d0 + 1 := ⟨d - 1, by omega⟩
      have hlt : d0 < tests.length := by omega
      obtain ⟨tt, htt⟩ : ∃ tt, tests[d0]? = some tt := ⟨tests[d0], by simp [hlt]⟩
      subst hgl hpl
      simp only [Nat.add_sub_cancel] at hr ⊢
      rw [gStep_chain ns vs tests ⟨_, sto⟩ e d0 c tt gr rfl htt hend hmk,
          pStep_chain ns tests pi e d0 tt pr htt hend hmk]
      by_cases h1 : tt.matches e ns = true <;> by_cases h2 : (d0 + 1 == tests.length) = true <;>
        by_cases h3 : e.isStart = true <;> simp [h1, h2, h3, RChain] <;>
        first
          | exact hr
          | exact StkRel.succ hr (Or.inr ⟨rfl, rfl⟩)
          | exact StkRel.succ hr (Or.inl ⟨_, rfl, rfl, by omega, by simp at h2; omega⟩)
    · subst hgl hpl
      rw [gStep_empty _ ns vs ⟨_, sto⟩ e gr rfl hend hmk, pStep_dead ns _ e pr hend hmk]
      by_cases h3 : e.isStart = true <;> simp [h3, RChain]
      · exact StkRel.succ hr (Or.inr ⟨rfl, rfl⟩)
      · exact hr
  · rw [gStep_end]
    simp only [pStep, Event.isEnd, if_true]
    refine ⟨trivial, ?_⟩
    obtain ⟨stk, sto⟩ := g
    unfold RChain at hr ⊢
    simp only at hr ⊢
    cases hr with
    | one _ => omega
    | succ h' _ => simpa using h'

end
end Genshi.Path
