/-
  SimplePathStrategy on a child chain followed by an attribute step (`a/b/@x`): it runs
  like the chain without the attribute step; where that reports `True`, the result is the
  value of the attribute test (`gateS`, which is the `gate` of GenericStrategy's run: `gateS_fun`).
-/
import Genshi.Lemmas.PathSimple
import Genshi.Lemmas.PathAbstract
import Genshi.Lemmas.PathAgree
namespace Genshi.Path
open Genshi Genshi.Path.Ref

section
variable (ns : NsMap)

/-- the result of SimplePathStrategy with a final attribute test, from the result without -/
def gateS (t : NodeTest) (e : Event) (v : Val) : Val :=
  match v with
  | .bool true => attrResult t e ns
  | _ => .none

/-- the stack entries that occur on a context-bound chain -/
def ChainShape (n : Nat) (st : PState) : Prop :=
  ∀ en ∈ st, en = ⟨none, false⟩ ∨ ∃ p, p < n ∧ en = ⟨some (0, p), false⟩

theorem pStep_attr (tests : List NodeTest) (hne : tests ≠ []) (pi : List Nat) (a : NodeTest) (st : PState)
    (hst : ChainShape tests.length st) (e : Event) :
    pStep (some [⟨tests, pi, some a, false⟩]) false ns st e =
      ((pStep (some [⟨tests, pi, none, false⟩]) false ns st e).1,
       gateS ns a e (pStep (some [⟨tests, pi, none, false⟩]) false ns st e).2) ∧
    ChainShape tests.length (pStep (some [⟨tests, pi, none, false⟩]) false ns st e).1 := by
  by_cases he : e.isEnd = true
  · simp only [↓reduceIte, pStep, he, gateS]
    exact ⟨trivial, fun en hen => hst en (List.mem_of_mem_drop hen)⟩
  · by_cases hm : e.isNsOrCdata = true
    · simp only [↓reduceIte, pStep, he, hm, Bool.false_eq_true, gateS]
      exact ⟨trivial, hst⟩
    · have he' : e.isEnd = false := by simpa using he
      have hm' : e.isNsOrCdata = false := by simpa using hm
      have hemp : tests.isEmpty = false := by cases tests <;> simp_all
      -- the entry pushed at START is again of the shape
      have hpush : ∀ en : PEntry, (en = ⟨none, false⟩ ∨ ∃ p, p < tests.length ∧ en = ⟨some (0, p), false⟩) →
          ChainShape tests.length (if e.isStart then en :: st else st) := fun en hen => by
        split
        · exact List.forall_mem_cons.2 ⟨hen, hst⟩
        · exact hst
      cases st with
      | nil =>
        rw [Frags.pStep_skip_root ns _ false e he' hm' (by simp [Frags.pStart, skipEmpty, hemp]),
          Frags.pStep_skip_root ns _ false e he' hm' (by simp [Frags.pStart, skipEmpty, hemp])]
        refine ⟨by simp [gateS, skipEmpty, hemp], fun en hen => ?_⟩
        simp [skipEmpty, hemp] at hen; subst hen
        exact Or.inr ⟨0, by cases tests <;> simp_all, rfl⟩
      | cons top rest =>
        rcases hst top List.mem_cons_self with h | ⟨p, hp, h⟩
        · subst h
          rw [pStep_dead ns _ e rest he' hm', pStep_dead ns _ e rest he' hm']
          exact ⟨by simp [gateS], hpush _ (Or.inl rfl)⟩
        · subst h
          rw [Frags.pStep_bound ns _ false _ ⟨tests, pi, some a, false⟩ rfl p hp e he' hm' rfl,
            Frags.pStep_bound ns _ false _ ⟨tests, pi, none, false⟩ rfl p hp e he' hm' rfl]
          obtain ⟨t, ht⟩ : ∃ t, tests[p]? = some t := ⟨tests[p], List.getElem?_eq_getElem hp⟩
          simp only [Frags.boundOut, fragTest, ht, List.length_singleton, beq_self_eq_true, if_true]
          cases t.matches e ns
          · exact ⟨rfl, hpush _ (Or.inl rfl)⟩
          · by_cases h2 : (p + 1 == tests.length) = true
            · simp only [↓reduceIte, h2, Bool.not_true, Bool.false_eq_true, gateS]
              exact ⟨trivial, hpush _ (Or.inl rfl)⟩
            · simp only [↓reduceIte, h2, Bool.not_true, Bool.false_eq_true, gateS]
              have : p + 1 ≠ tests.length := by simpa using h2
              exact ⟨trivial, hpush _ (Or.inr ⟨p + 1, by omega, rfl⟩)⟩

theorem fragments_chain_attr (tests : List NodeTest) (a : Step) (ha : a.axis = .attribute) :
    fragments (childChain tests ++ [a]) = some [⟨tests, calculatePi tests, some a.test, false⟩] := by
  rw [fragments, fragLoop_chain_app]
  simp [fragLoop, ha]

/-- SimplePathStrategy on `t1/…/tn/@a` reports the value of the attribute test where it
    reports `True` on `t1/…/tn` -/
theorem simple_attr_run (tests : List NodeTest) (hne : tests ≠ []) (pi : List Nat) (a : NodeTest) (es : List Event) :
    (runOne (pStep (some [⟨tests, pi, some a, false⟩]) false ns) [] es).1
      = List.zipWith (gateS ns a) es (runOne (pStep (some [⟨tests, pi, none, false⟩]) false ns) [] es).1 :=
  runOne_rel _ _ (fun s t => s = t ∧ ChainShape tests.length t) (gateS ns a)
    (fun s t e hr => by
      obtain ⟨rfl, hsh⟩ := hr
      obtain ⟨h1, h2⟩ := pStep_attr ns tests hne pi a s hsh e
      rw [h1]
      exact ⟨⟨rfl, h2⟩, rfl⟩)
    es [] [] ⟨rfl, fun en hen => by simp at hen⟩

theorem gateS_fun (a : NodeTest) : gateS ns a = fun e v => gate (a.apply e ns) v := by
  funext e v
  unfold gateS gate attrResult
  cases v with
  | bool b => cases b <;> rfl
  | _ => rfl

theorem gateS_eq_gate (a : NodeTest) (_hflag : a.attrFlag = true) (e : Event) (v : Val)
    (_hv : v = Val.none ∨ v = Val.bool true) : gateS ns a e v = gate (a.apply e ns) v :=
  congrFun (congrFun (gateS_fun ns a) e) v

/-- the two gates agree along a run as well (`gateS_fun`) -/
theorem zipWith_gateS (a : NodeTest) (_hflag : a.attrFlag = true) (es : List Event) (locs : List (Option LNode))
    (mk : List Nat → Bool) :
    List.zipWith (gateS ns a) es (markVals mk locs)
      = List.zipWith (fun e v => gate (a.apply e ns) v) es (markVals mk locs) := by
  rw [gateS_fun]

end
end Genshi.Path
