/-
  SingleStepStrategy is an abstraction of GenericStrategy (C17 `single_eq_generic`):
  the depth counter stands for the position stack, the one counter list for the
  counter of the only context node.
-/
import Genshi.Lemmas.PathCall
namespace Genshi.Path
open Genshi

/-- the value reported when the last real step matched -/
def lastVal (steps : List Step) (e : Event) (ns : NsMap) : Val :=
  if (lastResult steps e ns).truthy then lastResult steps e ns else .none

theorem gStep_one (steps : List Step) (ns : NsMap) (vs : Vars) (st : GState) (e : Event)
    (x c : Nat) (sx : Step) (rest : List (List GPos))
    (hstack : st.stack = [⟨x, [c]⟩] :: rest) (hsx : steps[x]? = some sx) (hlen : x + 1 = realLen steps)
    (hc : c < st.store.length) (he : e.isEnd = false) (hm : e.isNsOrCdata = false) :
    gStep steps ns vs st e =
      (let nextPos : List GPos := if isDescLike sx.axis then [⟨x, [c]⟩] else []
       let stack' := if e.isStart then nextPos :: st.stack else st.stack
       if !sx.test.matches e ns then (⟨stack', st.store⟩, .none)
       else
         let r := sPreds e ns vs sx.preds 0 (Store.get st.store c)
         if !r.1 then (⟨stack', st.store.set c r.2⟩, .none)
         else (⟨stack', st.store.set c r.2⟩, lastVal steps e ns)) := by
  rw [gStep_top1 ns vs steps st e x [c] sx rest hstack hsx he hm (Or.inl (by rw [hlen]; exact beq_self_eq_true _))]
  simp only [gRound, ← hlen, beq_self_eq_true, if_true, List.append_nil,
    gPreds_single e ns vs c sx.preds 0 st.store hc, pushDesc, List.getLast?_nil, List.isEmpty_cons,
    Bool.not_false, Bool.and_true, lastVal]
  by_cases hd : isDescLike sx.axis = true <;> by_cases hmt : sx.test.matches e ns = true <;>
    by_cases hp : (sPreds e ns vs sx.preds 0 (Store.get st.store c)).1 = true <;>
    simp [hd, hmt, hp]

/-- every node is a candidate at position 0 (first axis descendant-or-self, or a pattern) -/
def RAll (d : Nat) (g : GState) (t : SState) : Prop :=
  g.stack = List.replicate (d + 1) [⟨0, [0]⟩] ∧ 0 < g.store.length ∧ t.counters = Store.get g.store 0

/-- what SingleStepStrategy reports for a match -/
def sVal (sl : Step) (e : Event) (ns : NsMap) : Val :=
  if sl.axis == .attribute then attrResult sl.test e ns else .bool true

/-- The three simulations behind `single_eq_generic`, one per relation (`sim_all`, `sim_at`,
    `sim_desc`): GenericStrategy on `gsteps`, whose only live position is `x` with step `sx`,
    against SingleStepStrategy on `ssteps`.  The step lists enter through what the two matchers
    read of them: the live step, which is the last real one (`hgx`, `hrl`), first and last step of
    `ssteps` and their agreement with `sx`, the depths at which SingleStepStrategy does not look
    (`hout`), and the value reported for a match (`hval`) — so both modes, with and without a
    final attribute step, are instances with all of these closed by `rfl` / `simp`. -/
theorem sim_all (gsteps ssteps : List Step) (sx s0 sl : Step) (ic : Bool) (ns : NsMap) (vs : Vars)
    (hg0 : gsteps[0]? = some sx) (hrl : realLen gsteps = 1) (hax : sx.axis = .descendantOrSelf)
    (hsh : ssteps.head? = some s0) (hsl : ssteps.getLast? = some sl)
    (htest : s0.test = sx.test) (hpreds : s0.preds = sx.preds)
    (hout : ∀ (dep : Int), sOutside ic s0 dep = false)
    (hval : ∀ e, lastVal gsteps e ns = sVal sl e ns) :
    Sim (gStep gsteps ns vs) (sStep ssteps ic ns vs) RAll 0 := by
  refine Sim.of_steps (fun d _ g t e hend hmk hr => ?_) (fun d _ g t tag hr => ?_)
    (fun g e => gStep_marker _ _ _ g e) (fun t e => sStep_marker _ _ _ _ t e)
  · obtain ⟨hst, h0, hc⟩ := hr
    rw [gStep_one gsteps ns vs g e 0 0 sx (List.replicate d [⟨0, [0]⟩]) (by rw [hst]; rfl) hg0
          (by rw [hrl]) h0 hend hmk,
        sStep_run ssteps s0 sl hsh hsl ic ns vs t e hend hmk]
    simp only [hout, Bool.false_eq_true, if_false, htest, hpreds, hc, hval, isDescLike, hax, sVal]
    by_cases hm : sx.test.matches e ns = true <;>
      by_cases hp : (sPreds e ns vs sx.preds 0 (Store.get g.store 0)).1 = true <;>
      by_cases hs : e.isStart = true <;>
      simp [hm, hp, hs, RAll, hst, h0, hc, sBump, List.replicate_succ, Store.get_set_self g.store 0 _ h0] <;>
      (cases ic <;> simp [hc])
  · obtain ⟨hst, h0, hc⟩ := hr
    rw [gStep_end, sStep_end]
    refine ⟨rfl, ?_⟩
    cases ic <;> simp [RAll, hst, h0, hc, List.replicate_succ]

/-- candidates only at one depth `a` (0: the context node itself, position 0, counter 0;
    1: its children, position 1, counter `c`), nothing below -/
def RAt (a x c : Nat) (base : List (List GPos)) (d : Nat) (g : GState) (t : SState) : Prop :=
  ∃ k, d = a + k ∧ g.stack = List.replicate k [] ++ ([⟨x, [c]⟩] :: base) ∧ c < g.store.length ∧
    t.depth = (d : Int) ∧ t.counters = Store.get g.store c

theorem sim_at (a x c : Nat) (base : List (List GPos)) (gsteps ssteps : List Step) (sx s0 sl : Step)
    (ns : NsMap) (vs : Vars)
    (hgx : gsteps[x]? = some sx) (hrl : x + 1 = realLen gsteps) (hax : isDescLike sx.axis = false)
    (hsh : ssteps.head? = some s0) (hsl : ssteps.getLast? = some sl)
    (htest : s0.test = sx.test) (hpreds : s0.preds = sx.preds)
    (hout : ∀ (dep : Int), sOutside false s0 dep = (dep != (a : Int)))
    (hval : ∀ e, lastVal gsteps e ns = sVal sl e ns) :
    Sim (gStep gsteps ns vs) (sStep ssteps false ns vs) (RAt a x c base) a := by
  refine Sim.of_steps (fun d _ g t e hend hmk hr => ?_) (fun d _ g t tag hr => ?_)
    (fun g e => gStep_marker _ _ _ g e) (fun t e => sStep_marker _ _ _ _ t e)
  · obtain ⟨k, hd, hst, hc, hdep, hcnt⟩ := hr
    cases k with
    | zero =>
      simp only [List.replicate_zero, List.nil_append, Nat.add_zero] at hst hd
      rw [gStep_one gsteps ns vs g e x c sx base hst hgx hrl hc hend hmk,
          sStep_run ssteps s0 sl hsh hsl false ns vs t e hend hmk]
      have ho : sOutside false s0 t.depth = false := by rw [hout, hdep, hd]; simp
      simp only [ho, Bool.false_eq_true, if_false, htest, hpreds, hcnt, hval, hax]
      by_cases hm : sx.test.matches e ns = true <;>
        by_cases hp : (sPreds e ns vs sx.preds 0 (Store.get g.store c)).1 = true <;>
        by_cases hs : e.isStart = true <;>
        simp [hm, hp, hs, RAt, hst, hc, hcnt, hdep, hd, sBump, Store.get_set_self g.store c _ hc, sVal]
    | succ k =>
      have hst' : g.stack = [] :: (List.replicate k [] ++ ([⟨x, [c]⟩] :: base)) := by
        rw [hst, List.replicate_succ]; rfl
      rw [gStep_empty gsteps ns vs g e _ hst' hend hmk,
          sStep_run ssteps s0 sl hsh hsl false ns vs t e hend hmk]
      have ho : sOutside false s0 t.depth = true := by rw [hout, hdep, hd]; simp; omega
      simp only [ho, if_true]
      refine ⟨trivial, ?_⟩
      by_cases hs : e.isStart = true
      · simp only [hs, if_true, sBump, Bool.not_false, Bool.true_and]
        exact ⟨k + 2, by omega, by rw [hst']; simp [List.replicate_succ], hc, by simp [hdep], hcnt⟩
      · simp only [hs, Bool.false_eq_true, if_false, sBump, Bool.and_false]
        exact ⟨k + 1, hd, hst, hc, hdep, hcnt⟩
  · obtain ⟨k, hd, hst, hc, hdep, hcnt⟩ := hr
    rw [gStep_end, sStep_end]
    refine ⟨rfl, ?_⟩
    cases k with
    | zero => omega
    | succ k =>
      refine ⟨k, by omega, by rw [hst]; simp [List.replicate_succ], hc, by simp [hdep], hcnt⟩

/-- descendant axis below the context node: every node from depth 1 on is a candidate at
    position `x` with the counter `c` of the context node -/
def RDesc (x c : Nat) (base : List (List GPos)) (d : Nat) (g : GState) (t : SState) : Prop :=
  ∃ k, d = 1 + k ∧ g.stack = List.replicate (k + 1) [⟨x, [c]⟩] ++ base ∧ c < g.store.length ∧
    t.depth = (d : Int) ∧ t.counters = Store.get g.store c

theorem sim_desc (x c : Nat) (base : List (List GPos)) (gsteps ssteps : List Step) (sx s0 sl : Step)
    (ns : NsMap) (vs : Vars)
    (hgx : gsteps[x]? = some sx) (hrl : x + 1 = realLen gsteps) (hax : isDescLike sx.axis = true)
    (hsh : ssteps.head? = some s0) (hsl : ssteps.getLast? = some sl)
    (htest : s0.test = sx.test) (hpreds : s0.preds = sx.preds)
    (hout : ∀ (dep : Int), sOutside false s0 dep = decide (dep < 1))
    (hval : ∀ e, lastVal gsteps e ns = sVal sl e ns) :
    Sim (gStep gsteps ns vs) (sStep ssteps false ns vs) (RDesc x c base) 1 := by
  refine Sim.of_steps (fun d _ g t e hend hmk hr => ?_) (fun d hd1 g t tag hr => ?_)
    (fun g e => gStep_marker _ _ _ g e) (fun t e => sStep_marker _ _ _ _ t e)
  · obtain ⟨k, hd, hst, hc, hdep, hcnt⟩ := hr
    have hst' : g.stack = [⟨x, [c]⟩] :: (List.replicate k [⟨x, [c]⟩] ++ base) := by
      rw [hst, List.replicate_succ]; rfl
    rw [gStep_one gsteps ns vs g e x c sx _ hst' hgx hrl hc hend hmk,
        sStep_run ssteps s0 sl hsh hsl false ns vs t e hend hmk]
    have ho : sOutside false s0 t.depth = false := by rw [hout, hdep, hd]; simp; omega
    simp only [ho, Bool.false_eq_true, if_false, htest, hpreds, hcnt, hval, hax, if_true]
    by_cases hm : sx.test.matches e ns = true <;>
      by_cases hp : (sPreds e ns vs sx.preds 0 (Store.get g.store c)).1 = true <;>
      by_cases hs : e.isStart = true <;>
      simp [hm, hp, hs, RDesc, hst', hc, hcnt, hdep, hd, sBump, Store.get_set_self g.store c _ hc, sVal] <;>
      first
        | exact ⟨k + 1, by omega, by simp [List.replicate_succ]⟩
        | simp [List.replicate_succ]
  · obtain ⟨k, hd, hst, hc, hdep, hcnt⟩ := hr
    rw [gStep_end, sStep_end]
    refine ⟨rfl, ?_⟩
    cases k with
    | zero => omega
    | succ k =>
      refine ⟨k, by omega, by rw [hst]; simp [List.replicate_succ], hc, by simp [hdep], hcnt⟩

/-- on the same last step the two strategies report the same for a match, attribute step or not -/
theorem lastVal_snoc (pre : List Step) (s : Step) (e : Event) (ns : NsMap) :
    lastVal (pre ++ [s]) e ns = sVal s e ns := by
  by_cases h : s.axis = .attribute
  · simp [lastVal, lastResult, sVal, h, attrResult]
  · simp [lastVal, lastResult, sVal, h, Val.truthy]

theorem lastVal_attr (pre : List Step) (s : Step) (h : s.axis = .attribute)
    (e : Event) (ns : NsMap) : lastVal (pre ++ [s]) e ns = sVal s e ns :=
  lastVal_snoc pre s e ns

/-- **single_eq_generic.**  For every single location step (any of the five axes, any node
    test, any predicates, positional ones included), both modes, every element tree: the
    SingleStepStrategy matcher reports, event by event, exactly what GenericStrategy reports. -/
theorem single_eq_generic_run_full (s : Step) (ic : Bool) (ns : NsMap) (vs : Vars)
    (tag : QName) (attrs : AttrList) (kids : List Node) (hok : okList kids = true) :
    (runOne (gStep (gSteps [s] ic) ns vs) gInit (Node.elem tag attrs kids).flatten).1
      = (runOne (sStep (sSteps [s]) ic ns vs) ⟨[], 0⟩ (Node.elem tag attrs kids).flatten).1 := by
  have hroot : (Node.elem tag attrs kids).ok = true := by simpa [Node.ok] using hok
  have hinit : RAll 0 gInit ⟨[], 0⟩ := ⟨rfl, by decide, rfl⟩
  cases ic with
  | true =>
    by_cases ha : s.axis = .attribute
    · have hg : gSteps [s] true = [dotSlashSlash, s] := by simp [gSteps, stripDot, ha]
      have hs : sSteps [s] = [dotSlash, s] := by simp [sSteps, ha]
      rw [hg, hs]
      exact ((sim_all [dotSlashSlash, s] [dotSlash, s] dotSlashSlash dotSlash s true ns vs rfl
        (by simp [realLen, ha]) rfl rfl rfl rfl rfl (by intro d; simp [sOutside])
        (fun e => lastVal_snoc [dotSlashSlash] s e ns)).flatten _ hroot 0 (Nat.le_refl _) _ _ hinit).1
    · have hg : gSteps [s] true = [⟨.descendantOrSelf, s.test, s.preds⟩] := by
        have : (s.axis == Axis.attribute) = false := by simpa using ha
        simp [gSteps, stripDot, this]
      have hs : sSteps [s] = [s] := sSteps_single ha
      rw [hg, hs]
      exact ((sim_all [⟨.descendantOrSelf, s.test, s.preds⟩] [s] ⟨.descendantOrSelf, s.test, s.preds⟩ s s true ns vs rfl
        (by simp [realLen]) rfl rfl rfl rfl rfl (by intro d; simp [sOutside])
        (fun e => (lastVal_snoc [] _ e ns).trans (by simp [sVal, ha]))).flatten _ hroot 0 (Nat.le_refl _) _ _ hinit).1
  | false =>
    cases hax : s.axis with
    | descendantOrSelf =>
      have hg : gSteps [s] false = [s] := by simp [gSteps, hax]
      have hs : sSteps [s] = [s] := sSteps_single (by simp [hax])
      rw [hg, hs]
      exact ((sim_all [s] [s] s s s false ns vs rfl (by simp [realLen, hax]) hax rfl rfl rfl rfl
        (by intro d; simp [sOutside, hax])
        (fun e => lastVal_snoc [] s e ns)).flatten _ hroot 0 (Nat.le_refl _) _ _ hinit).1
    | self =>
      have hg : gSteps [s] false = [s] := by simp [gSteps, hax]
      have hs : sSteps [s] = [s] := sSteps_single (by simp [hax])
      rw [hg, hs]
      have hi : RAt 0 0 0 [] 0 gInit ⟨[], 0⟩ := ⟨0, rfl, rfl, by decide, rfl, rfl⟩
      exact ((sim_at 0 0 0 [] [s] [s] s s s ns vs rfl (by simp [realLen, hax]) (by simp [isDescLike, hax])
        rfl rfl rfl rfl (by intro d; simp [sOutside, hax])
        (fun e => lastVal_snoc [] s e ns)).flatten _ hroot 0 (Nat.le_refl _) _ _ hi).1
    | «attribute» =>
      have hg : gSteps [s] false = [dotSlash, s] := by simp [gSteps, hax]
      have hs : sSteps [s] = [dotSlash, s] := by simp [sSteps, hax]
      rw [hg, hs]
      have hi : RAt 0 0 0 [] 0 gInit ⟨[], 0⟩ := ⟨0, rfl, rfl, by decide, rfl, rfl⟩
      exact ((sim_at 0 0 0 [] [dotSlash, s] [dotSlash, s] dotSlash dotSlash s ns vs rfl
        (by simp [realLen, hax]) (by simp [isDescLike, dotSlash])
        rfl rfl rfl rfl (by intro d; simp [sOutside, dotSlash])
        (fun e => lastVal_snoc [dotSlash] s e ns)).flatten _ hroot 0 (Nat.le_refl _) _ _ hi).1
    | child =>
      have hg : gSteps [s] false = [dotSlash, s] := by simp [gSteps, hax]
      have hs : sSteps [s] = [s] := sSteps_single (by simp [hax])
      rw [hg, hs]
      simp only [Node.flatten, runOne_cons, runOne_append]
      rw [gStep_root s [] ns vs gInit tag attrs [] rfl (by simp [realLen, hax]) (Or.inl hax),
          sStep_run [s] s s rfl rfl false ns vs ⟨[], 0⟩ (.start tag attrs) rfl rfl]
      have ho : sOutside false s (0 : Int) = true := by simp [sOutside, hax]
      simp only [ho, if_true]
      have hi : RAt 1 1 1 [[⟨0, [0]⟩]] 1 ⟨[⟨1, [gInit.store.length]⟩] :: gInit.stack, gInit.store ++ [[]]⟩
          (sBump false (.start tag attrs) ⟨[], 0⟩) :=
        ⟨0, rfl, rfl, by decide, rfl, rfl⟩
      have hk := (sim_at 1 1 1 [[⟨0, [0]⟩]] [dotSlash, s] [s] s s s ns vs rfl (by simp [realLen, hax])
        (by simp [isDescLike, hax]) rfl rfl rfl rfl (by intro d; simp [sOutside, hax])
        (fun e => lastVal_snoc [dotSlash] s e ns)).flattenList kids hok 1 (Nat.le_refl _) _ _ hi
      rw [hk.1]
      simp [runOne, gStep_end, sStep_end]
    | descendant =>
      have hg : gSteps [s] false = [dotSlash, s] := by simp [gSteps, hax]
      have hs : sSteps [s] = [s] := sSteps_single (by simp [hax])
      rw [hg, hs]
      simp only [Node.flatten, runOne_cons, runOne_append]
      rw [gStep_root s [] ns vs gInit tag attrs [] rfl (by simp [realLen, hax]) (Or.inr hax),
          sStep_run [s] s s rfl rfl false ns vs ⟨[], 0⟩ (.start tag attrs) rfl rfl]
      have ho : sOutside false s (0 : Int) = true := by simp [sOutside, hax]
      simp only [ho, if_true]
      have hi : RDesc 1 1 [[⟨0, [0]⟩]] 1 ⟨[⟨1, [gInit.store.length]⟩] :: gInit.stack, gInit.store ++ [[]]⟩
          (sBump false (.start tag attrs) ⟨[], 0⟩) :=
        ⟨0, rfl, rfl, by decide, rfl, rfl⟩
      have hk := (sim_desc 1 1 [[⟨0, [0]⟩]] [dotSlash, s] [s] s s s ns vs rfl (by simp [realLen, hax])
        (by simp [isDescLike, hax]) rfl rfl rfl rfl (by intro d; simp [sOutside, hax])
        (fun e => lastVal_snoc [dotSlash] s e ns)).flattenList kids hok 1 (Nat.le_refl _) _ _ hi
      rw [hk.1]
      simp [runOne, gStep_end, sStep_end]

/-- `single_eq_generic_run_full` for callers that hold the attribute flag of the test; the
    hypothesis is not used -/
theorem single_eq_generic_run (s : Step) (ic : Bool) (ns : NsMap) (vs : Vars)
    (tag : QName) (attrs : AttrList) (kids : List Node) (hok : okList kids = true)
    (_hattr : s.axis = .attribute → s.test.attrFlag = true) :
    (runOne (gStep (gSteps [s] ic) ns vs) gInit (Node.elem tag attrs kids).flatten).1
      = (runOne (sStep (sSteps [s]) ic ns vs) ⟨[], 0⟩ (Node.elem tag attrs kids).flatten).1 :=
  single_eq_generic_run_full s ic ns vs tag attrs kids hok

end Genshi.Path
