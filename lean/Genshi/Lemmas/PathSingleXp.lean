/-
  C05 stage 1 / 3 for single steps: the nodes SingleStepStrategy reports while
  the stream of a tree goes by are exactly the nodes the XPath step selects from
  the context node, in document order — positional predicates included.
-/
import Genshi.Lemmas.PathXp
namespace Genshi.Path
open Genshi Genshi.Path.Ref

/-- is a node at depth `d` below the context node on the step's axis -/
def cand (a : Axis) (d : Nat) : Bool :=
  match a with
  | .self => d == 0
  | .child => d == 1
  | .descendant => decide (1 ≤ d)
  | .descendantOrSelf => true
  | .attribute => false

def candHere (s : Step) (ns : NsMap) (d : Nat) (n : LNode) : List LNode :=
  if cand s.axis d && s.test.matches (nodeEvent n.node) ns then [n] else []

mutual
  def candNode (s : Step) (ns : NsMap) : Nat → List Nat → Node → List LNode
    | d, loc, .elem t a ks => candHere s ns d ⟨loc, .elem t a ks⟩ ++ candList s ns (d + 1) loc 0 ks
    | d, loc, .leaf e => candHere s ns d ⟨loc, .leaf e⟩
  def candList (s : Step) (ns : NsMap) : Nat → List Nat → Nat → List Node → List LNode
    | _, _, _, [] => []
    | d, loc, i, k :: ks => candNode s ns d (loc ++ [i]) k ++ candList s ns d loc (i + 1) ks
end

theorem sOutside_eq (s : Step) (h : s.axis ≠ .attribute) (d : Nat) :
    sOutside false s (d : Int) = !cand s.axis d := by
  cases hax : s.axis <;> simp_all [sOutside, cand]
  · cases hd : (d == 1) <;> simp_all [bne] <;> omega
  · cases hd : decide (1 ≤ d) <;> simp_all <;> omega
  · cases hd : (d == 0) <;> simp_all [bne] <;> omega

/-- one non-END, non-marker event `e` of a node at depth `d` -/
theorem single_visit (s : Step) (ns : NsMap) (vs : Vars) (hna : s.axis ≠ .attribute)
    (d : Nat) (cs : List Nat) (n : LNode) (e : Event) (hev : nodeEvent n.node = e) (he : e.isEnd = false)
    (hm : e.isNsOrCdata = false) :
    (if (sStep [s] false ns vs ⟨cs, d⟩ e).2.truthy then [n] else [])
        = (sfilter ns vs evOf s.preds cs (candHere s ns d n)).1 ∧
    (sStep [s] false ns vs ⟨cs, d⟩ e).1
        = ⟨(sfilter ns vs evOf s.preds cs (candHere s ns d n)).2, if e.isStart then (d : Int) + 1 else d⟩ := by
  have hna' : (s.axis == Axis.attribute) = false := by simpa using hna
  simp only [sStep_run [s] s s rfl rfl false ns vs ⟨cs, d⟩ _ he hm, sOutside_eq s hna d, candHere, hev]
  by_cases hc : cand s.axis d = true <;> by_cases ht : s.test.matches e ns = true <;>
    by_cases hp : (sPreds e ns vs s.preds 0 cs).1 = true <;>
    by_cases hs : e.isStart = true <;>
    simp [hc, ht, hp, hs, sfilter, sBump, Val.truthy, hna', evOf, hev]

mutual
  theorem single_tree (s : Step) (ns : NsMap) (vs : Vars) (hna : s.axis ≠ .attribute) :
      ∀ (n : Node), n.clean = true → ∀ (d : Nat) (cs : List Nat) (loc : List Nat),
        matched (runOne (sStep [s] false ns vs) ⟨cs, d⟩ n.flatten).1 (eventLocs n loc)
          = (sfilter ns vs evOf s.preds cs (candNode s ns d loc n)).1 ∧
        (runOne (sStep [s] false ns vs) ⟨cs, d⟩ n.flatten).2
          = ⟨(sfilter ns vs evOf s.preds cs (candNode s ns d loc n)).2, d⟩
    | .elem t a ks, hcl, d, cs, loc => by
        obtain ⟨hv1, hv2⟩ := single_visit s ns vs hna d cs ⟨loc, .elem t a ks⟩ (.start t a) rfl rfl rfl
        have hk := single_forest s ns vs hna ks (by simpa [Node.clean] using hcl) (d + 1)
          (sfilter ns vs evOf s.preds cs (candHere s ns d ⟨loc, .elem t a ks⟩)).2 loc 0
        have hd1 : ((d : Int) + 1) = ((d + 1 : Nat) : Int) := by simp
        simp only [↓reduceIte, Event.isStart, hd1] at hv2
        rw [matched_elem, after_elem, hv1, hv2, hk.1, hk.2, candNode, sfilter_append]
        exact ⟨rfl, by simp [sStep_end]⟩
    | .leaf e, hcl, d, cs, loc => by
        simp only [Node.clean, Bool.and_eq_true, Bool.not_eq_true'] at hcl
        obtain ⟨hend, hstart⟩ := isEnd_of_not_startEnd hcl.1
        obtain ⟨hv1, hv2⟩ := single_visit s ns vs hna d cs ⟨loc, .leaf e⟩ e rfl hend hcl.2
        simp only [↓reduceIte, hstart, Bool.false_eq_true] at hv2
        rw [matched_leaf, after_leaf, candNode]
        exact ⟨hv1, hv2⟩
  theorem single_forest (s : Step) (ns : NsMap) (vs : Vars) (hna : s.axis ≠ .attribute) :
      ∀ (ks : List Node), cleanList ks = true → ∀ (d : Nat) (cs : List Nat) (loc : List Nat) (i : Nat),
        matched (runOne (sStep [s] false ns vs) ⟨cs, d⟩ (flattenList ks)).1 (eventLocsList ks loc i)
          = (sfilter ns vs evOf s.preds cs (candList s ns d loc i ks)).1 ∧
        (runOne (sStep [s] false ns vs) ⟨cs, d⟩ (flattenList ks)).2
          = ⟨(sfilter ns vs evOf s.preds cs (candList s ns d loc i ks)).2, d⟩
    | [], _, d, cs, loc, i => ⟨rfl, rfl⟩
    | k :: ks, hcl, d, cs, loc, i => by
        simp only [cleanList, Bool.and_eq_true] at hcl
        have h1 := single_tree s ns vs hna k hcl.1 d cs (loc ++ [i])
        have h2 := single_forest s ns vs hna ks hcl.2 d
          (sfilter ns vs evOf s.preds cs (candNode s ns d (loc ++ [i]) k)).2 loc (i + 1)
        rw [matched_kids, after_kids, h1.1, h1.2, h2.1, h2.2, candList, sfilter_append]
        exact ⟨rfl, rfl⟩
end

theorem sStep_out (s : Step) (hna : s.axis ≠ .attribute) (ns : NsMap) (vs : Vars) (st : SState) (e : Event) :
    (sStep [s] false ns vs st e).2 = .none ∨ ((sStep [s] false ns vs st e).2 = .bool true ∧ e.isEnd = false) := by
  have hna' : (s.axis == Axis.attribute) = false := by simpa using hna
  by_cases he : e.isEnd = true
  · left; simp [sStep, he]
  · by_cases hm : e.isNsOrCdata = true
    · left; simp [sStep, he, hm]
    · have he' : e.isEnd = false := by simpa using he
      rw [sStep_run [s] s s rfl rfl false ns vs st e he' (by simpa using hm)]
      simp only [↓reduceIte, hna', Bool.false_eq_true]
      split
      · exact Or.inl rfl
      · split
        · exact Or.inl rfl
        · split
          · exact Or.inl rfl
          · exact Or.inr ⟨rfl, he'⟩

mutual
  theorem cand_all (s : Step) (ns : NsMap) :
      ∀ (n : Node) (d : Nat) (loc : List Nat), (∀ d', d ≤ d' → cand s.axis d' = true) →
        candNode s ns d loc n = (⟨loc, n⟩ :: descOf n loc).filter (mtest s ns)
    | .elem t a ks, d, loc, h => by
        have := cand_all_list s ns ks (d + 1) loc 0 (fun d' hd => h d' (by omega))
        simp only [candNode, candHere, h d (Nat.le_refl _), Bool.true_and, descOf, List.filter_cons, mtest, this]
        split <;> simp_all
    | .leaf e, d, loc, h => by
        simp only [candNode, candHere, h d (Nat.le_refl _), Bool.true_and, descOf, List.filter_cons, mtest]
        split <;> simp_all
  theorem cand_all_list (s : Step) (ns : NsMap) :
      ∀ (ks : List Node) (d : Nat) (loc : List Nat) (i : Nat), (∀ d', d ≤ d' → cand s.axis d' = true) →
        candList s ns d loc i ks = (descList ks loc i).filter (mtest s ns)
    | [], _, _, _, _ => by simp [candList, descList]
    | k :: ks, d, loc, i, h => by
        simp only [candList, descList]
        rw [cand_all s ns k d (loc ++ [i]) h, cand_all_list s ns ks d loc (i + 1) h]
        by_cases hm : mtest s ns ⟨loc ++ [i], k⟩ = true <;> simp [hm]
end

mutual
  theorem cand_none (s : Step) (ns : NsMap) :
      ∀ (n : Node) (d : Nat) (loc : List Nat), (∀ d', d ≤ d' → cand s.axis d' = false) →
        candNode s ns d loc n = []
    | .elem t a ks, d, loc, h => by
        simp [candNode, candHere, h d (Nat.le_refl _),
          cand_none_list s ns ks (d + 1) loc 0 (fun d' hd => h d' (by omega))]
    | .leaf e, d, loc, h => by simp [candNode, candHere, h d (Nat.le_refl _)]
  theorem cand_none_list (s : Step) (ns : NsMap) :
      ∀ (ks : List Node) (d : Nat) (loc : List Nat) (i : Nat), (∀ d', d ≤ d' → cand s.axis d' = false) →
        candList s ns d loc i ks = []
    | [], _, _, _, _ => by simp [candList]
    | k :: ks, d, loc, i, h => by
        simp [candList, cand_none s ns k d (loc ++ [i]) h, cand_none_list s ns ks d loc (i + 1) h]
end

theorem candList_child (s : Step) (ns : NsMap) (hax : s.axis = .child) (loc : List Nat) :
    ∀ (ks : List Node) (i : Nat),
      candList s ns 1 loc i ks = ((ks.zipIdx i).map fun (k, j) => (⟨loc ++ [j], k⟩ : LNode)).filter (mtest s ns) := by
  intro ks
  induction ks with
  | nil => intro i; simp [candList]
  | cons k ks ih =>
    intro i
    have hnone : ∀ d', 2 ≤ d' → cand s.axis d' = false := by
      intro d' hd; simp [cand, hax]; omega
    simp only [candList, List.zipIdx_cons, List.map_cons, List.filter_cons, ih (i + 1)]
    cases k with
    | elem t a kk =>
      simp only [candNode, candHere, cand, hax, beq_self_eq_true, Bool.true_and, mtest,
        cand_none_list s ns kk 2 (loc ++ [i]) 0 hnone, List.append_nil]
      split <;> simp_all
    | leaf e =>
      simp only [candNode, candHere, cand, hax, beq_self_eq_true, Bool.true_and, mtest]
      split <;> simp_all

theorem candNode_root (s : Step) (ns : NsMap) (hna : s.axis ≠ .attribute) (root : Node) :
    candNode s ns 0 [] root = (axisNodes s.axis ⟨[], root⟩).filter (mtest s ns) := by
  cases hax : s.axis with
  | «attribute» => exact absurd hax hna
  | descendantOrSelf =>
    rw [cand_all s ns root 0 [] (fun d' _ => by simp [cand, hax])]
    simp [axisNodes, descendants]
  | self =>
    have hnone : ∀ d', 1 ≤ d' → cand s.axis d' = false := by
      intro d' hd; simp [cand, hax]; omega
    cases root with
    | elem t a ks =>
      simp [candNode, candHere, cand, hax, axisNodes, mtest, cand_none_list s ns ks 1 [] 0 hnone, List.filter_cons]
      split <;> simp_all
    | leaf e =>
      simp [candNode, candHere, cand, hax, axisNodes, mtest, List.filter_cons]
      split <;> simp_all
  | descendant =>
    cases root with
    | elem t a ks =>
      simp only [candNode, candHere, cand, hax, axisNodes, descendants, descOf]
      rw [cand_all_list s ns ks 1 [] 0 (fun d' hd => by simp [cand, hax]; omega)]
      simp
    | leaf e => simp [candNode, candHere, cand, hax, axisNodes, descendants, descOf]
  | child =>
    cases root with
    | elem t a ks =>
      simp only [candNode, candHere, cand, hax, axisNodes, childrenOf]
      rw [candList_child s ns hax [] ks 0]
      simp
    | leaf e => simp [candNode, candHere, cand, hax, axisNodes, childrenOf]

theorem single_matches (s : Step) (ns : NsMap) (vs : Vars) (root : Node)
    (hna : s.axis ≠ .attribute) (hcl : root.clean = true) (hwf : s.test.elemWf ns)
    (htyped : ∀ p ∈ s.preds, p.typed ns vs = true)
    (hcand : ∀ n ∈ axisNodes s.axis ⟨[], root⟩, CandOk s ns vs n) :
    matched (runOne (sStep [s] false ns vs) ⟨[], 0⟩ root.flatten).1 (eventLocs root [])
      = stepNodes s ns (toXVars vs) ⟨[], root⟩ := by
  refine ((single_tree s ns vs hna root hcl 0 [] []).1).trans ?_
  rw [candNode_root s ns hna root]
  exact step_pass s ns vs hwf htyped _ hcand

end Genshi.Path
