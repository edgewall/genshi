/-
  C17 spelling lemmas about the step list a matcher runs on.
  Step lists that are pointwise indistinguishable (`All2 StepEq`; e.g. an always-true, non-positional predicate
  inserted anywhere: `gPreds_insert`, `sPreds_insert`, `stepEq_insert`) give the same `gStep` / `sStep` (`gStep_congr`, `sStep_congr`),
  also after `gSteps` (`all2_gSteps`, `all2_gSteps_pattern`).
  Step lists that differ in their first step only (`TailEq`: `self::node()/p` and `self::*/p`, what GenericStrategy
  runs for `./p` and `p`) give the same `gStep` wherever every candidate position is ≥ 1 (`gLoop_tail`), which
  holds from the children of the context node on (`gStep_root_tail`, `sim_tail`; `tail_runs`).
-/
import Genshi.Lemmas.PathStream
namespace Genshi.Path
open Genshi

section
variable (ns : NsMap) (vs : Vars)

/-- `t` evaluates to the boolean `True` at every event (so it is no position test: that would be a number) -/
def AlwaysTrue (t : Expr) : Prop := ∀ e : Event, t.eval e ns vs = .bool true

theorem gPreds_insert (t : Expr) (ht : AlwaysTrue ns vs t) (e : Event) (cous : List Nat) (pre post : List Expr) :
    ∀ (cnum : Nat) (missed : List Nat) (store : Store),
      gPreds e ns vs cous (pre ++ t :: post) cnum missed store = gPreds e ns vs cous (pre ++ post) cnum missed store := by
  induction pre with
  | nil => intro cnum missed store; simp [gPreds, ht e, Val.truthy]
  | cons p ps ih =>
    intro cnum missed store
    simp only [List.cons_append, gPreds]
    cases p.eval e ns vs <;> simp only [ih] <;> split <;> simp [ih]

theorem sPreds_insert (t : Expr) (ht : AlwaysTrue ns vs t) (e : Event) (pre post : List Expr) :
    ∀ (cnum : Nat) (cs : List Nat),
      sPreds e ns vs (pre ++ t :: post) cnum cs = sPreds e ns vs (pre ++ post) cnum cs := by
  induction pre with
  | nil => intro cnum cs; simp [sPreds, ht e, Val.truthy]
  | cons p ps ih =>
    intro cnum cs
    simp only [List.cons_append, sPreds]
    cases p.eval e ns vs <;> simp only [ih]

/-- two steps the matchers cannot tell apart -/
def StepEq (s s' : Step) : Prop :=
  s.axis = s'.axis ∧ s.test = s'.test ∧
  (∀ e cous cnum missed store, gPreds e ns vs cous s.preds cnum missed store = gPreds e ns vs cous s'.preds cnum missed store) ∧
  (∀ e cnum cs, sPreds e ns vs s.preds cnum cs = sPreds e ns vs s'.preds cnum cs)

theorem StepEq.refl (s : Step) : StepEq ns vs s s := ⟨rfl, rfl, fun _ _ _ _ _ => rfl, fun _ _ _ => rfl⟩

theorem stepEq_insert (t : Expr) (ht : AlwaysTrue ns vs t) (s : Step) (k : Nat) :
    StepEq ns vs { s with preds := s.preds.take k ++ t :: s.preds.drop k } s := by
  refine ⟨rfl, rfl, ?_, ?_⟩
  · intro e cous cnum missed store
    have := gPreds_insert ns vs t ht e cous (s.preds.take k) (s.preds.drop k) cnum missed store
    simpa using this
  · intro e cnum cs
    have := sPreds_insert ns vs t ht e (s.preds.take k) (s.preds.drop k) cnum cs
    simpa using this

inductive All2 {α : Type} (R : α → α → Prop) : List α → List α → Prop
  | nil : All2 R [] []
  | cons {a b : α} {l l' : List α} : R a b → All2 R l l' → All2 R (a :: l) (b :: l')

theorem All2.length_eq {α : Type} {R : α → α → Prop} {l l' : List α} (h : All2 R l l') : l.length = l'.length := by
  induction h with
  | nil => rfl
  | cons _ _ ih => simp [ih]

theorem All2.mapIdx_left {α : Type} {R : α → α → Prop} : ∀ {l : List α} {f : Nat → α → α}, (∀ j a, R (f j a) a) →
    All2 R (l.mapIdx f) l
  | [], _, _ => All2.nil
  | a :: l, f, h => by
      rw [List.mapIdx_cons]
      exact All2.cons (h 0 a) (All2.mapIdx_left fun j b => h (j + 1) b)

theorem forall2_getElem? {α : Type} {R : α → α → Prop} {l l' : List α} (h : All2 R l l') (x : Nat) :
    (l[x]? = none ∧ l'[x]? = none) ∨ ∃ a b, l[x]? = some a ∧ l'[x]? = some b ∧ R a b := by
  induction h generalizing x with
  | nil => left; simp
  | cons hab _ ih =>
    cases x with
    | zero => right; exact ⟨_, _, rfl, rfl, hab⟩
    | succ x => simpa using ih x

theorem forall2_getLast? {α : Type} {R : α → α → Prop} {l l' : List α} (h : All2 R l l') :
    (l.getLast? = none ∧ l'.getLast? = none) ∨ ∃ a b, l.getLast? = some a ∧ l'.getLast? = some b ∧ R a b := by
  induction h with
  | nil => left; simp
  | @cons a b l l' hab hl ih =>
    right
    cases hl with
    | nil => exact ⟨a, b, rfl, rfl, hab⟩
    | cons hab' hl' =>
      rcases ih with ⟨h1, _⟩ | ⟨x, y, h1, h2, hr⟩
      · simp at h1
      · refine ⟨x, y, ?_, ?_, hr⟩
        · rw [List.getLast?_cons_cons]; exact h1
        · rw [List.getLast?_cons_cons]; exact h2

theorem lastResult_congr (steps steps' : List Step) (h : All2 (StepEq ns vs) steps steps') (e : Event) :
    lastResult steps e ns = lastResult steps' e ns := by
  unfold lastResult
  rcases forall2_getLast? h with ⟨h3, h4⟩ | ⟨a', b', h3, h4, hax', htest', _⟩
  · rw [h3, h4]
  · simp only [h3, h4, hax', htest']

theorem gLoop_congr (steps steps' : List Step) (h : All2 (StepEq ns vs) steps steps')
    (rlen : Nat) (e : Event) :
    ∀ (fuel : Nat) (q : List QEntry) (acc : GAcc),
      gLoop steps rlen e ns vs fuel q acc = gLoop steps' rlen e ns vs fuel q acc := by
  intro fuel
  induction fuel with
  | zero => intro q acc; simp [gLoop]
  | succ fuel ih =>
    intro q acc
    cases q with
    | nil => simp [gLoop]
    | cons en q =>
      obtain ⟨x, pcou, mcou⟩ := en
      rcases forall2_getElem? h x with ⟨h1, h2⟩ | ⟨a, b, h1, h2, hax, htest, hg, _⟩
      · simp only [gLoop, h1, h2]
      · have hnext : (steps[x + 1]?.map Step.axis) = (steps'[x + 1]?.map Step.axis) := by
          rcases forall2_getElem? h (x + 1) with ⟨h3, h4⟩ | ⟨a', b', h3, h4, hax', _⟩
          · rw [h3, h4]
          · simp only [h3, h4, Option.map_some, hax']
        rw [gLoop_cons ns vs steps rlen e fuel x pcou mcou q acc a h1,
          gLoop_cons ns vs steps' rlen e fuel x pcou mcou q acc b h2, ih, hnext,
          lastResult_congr ns vs steps steps' h]
        simp only [gRound, hax, htest, hg]

theorem realLen_congr (steps steps' : List Step) (h : All2 (StepEq ns vs) steps steps') :
    realLen steps = realLen steps' := by
  unfold realLen
  rcases forall2_getLast? h with ⟨h3, h4⟩ | ⟨a', b', h3, h4, hax', _⟩
  · simp [h3, h4]
  · simp [h3, h4, hax', h.length_eq]

theorem gStep_congr (steps steps' : List Step) (h : All2 (StepEq ns vs) steps steps')
    (st : GState) (e : Event) : gStep steps ns vs st e = gStep steps' ns vs st e := by
  unfold gStep
  simp only [realLen_congr ns vs steps steps' h, h.length_eq, gLoop_congr ns vs steps steps' h]

theorem sStep_congr (steps steps' : List Step) (h : All2 (StepEq ns vs) steps steps') (ic : Bool)
    (st : SState) (e : Event) : sStep steps ic ns vs st e = sStep steps' ic ns vs st e := by
  unfold sStep
  have hh : (steps.head? = none ∧ steps'.head? = none) ∨
      ∃ a b, steps.head? = some a ∧ steps'.head? = some b ∧ StepEq ns vs a b := by
    cases h with
    | nil => left; simp
    | cons hab _ => right; exact ⟨_, _, rfl, rfl, hab⟩
  rcases hh with ⟨h1, h2⟩ | ⟨a, b, h1, h2, hax, htest, _, hs⟩
  · simp [h1, h2]
  · rcases forall2_getLast? h with ⟨h3, h4⟩ | ⟨a', b', h3, h4, hax', htest', _⟩
    · simp [h3, h4]
    · simp only [h1, h2, h3, h4, hax, htest, hs, hax', htest']

theorem all2_gSteps (p1 p2 : LocPath) (h : All2 (StepEq ns vs) p1 p2) :
    All2 (StepEq ns vs) (gSteps p1 false) (gSteps p2 false) := by
  cases h with
  | nil => simp [gSteps]; exact All2.nil
  | @cons a b l l' hab hl =>
    have hax : a.axis = b.axis := hab.1
    simp only [gSteps, Bool.false_eq_true, if_false, hax]
    split
    · exact All2.cons (StepEq.refl ns vs dotSlash) (All2.cons hab hl)
    · exact All2.cons hab hl

theorem all2_gSteps_pattern (p1 p2 : LocPath) (h : All2 (StepEq ns vs) p1 p2)
    (h1 : stripDot p1 = p1) (h2 : stripDot p2 = p2) :
    All2 (StepEq ns vs) (gSteps p1 true) (gSteps p2 true) := by
  cases h with
  | nil => simp [gSteps, stripDot]; exact All2.nil
  | @cons a b l l' hab hl =>
    have hax : a.axis = b.axis := hab.1
    simp only [gSteps, if_true, h1, h2, hax]
    split
    · exact All2.cons (StepEq.refl ns vs dotSlashSlash) (All2.cons hab hl)
    · exact All2.cons ⟨rfl, hab.2.1, hab.2.2.1, hab.2.2.2⟩ hl

/-- two step lists that differ at most in their first element, which has the same axis in both -/
def TailEq (steps steps' : List Step) : Prop :=
  ∃ a b rest, steps = a :: rest ∧ steps' = b :: rest ∧ a.axis = b.axis ∧ rest ≠ []

theorem TailEq.getElem_succ {steps steps' : List Step} (h : TailEq steps steps') (x : Nat) :
    steps[x + 1]? = steps'[x + 1]? := by
  obtain ⟨a, b, rest, rfl, rfl, _, _⟩ := h; simp

theorem TailEq.getLast {steps steps' : List Step} (h : TailEq steps steps') :
    steps.getLast? = steps'.getLast? := by
  obtain ⟨a, b, rest, rfl, rfl, _, hne⟩ := h
  cases rest with
  | nil => exact absurd rfl hne
  | cons c r => simp [List.getLast?_cons_cons]

theorem TailEq.length {steps steps' : List Step} (h : TailEq steps steps') : steps.length = steps'.length := by
  obtain ⟨a, b, rest, rfl, rfl, _, _⟩ := h; simp

theorem TailEq.realLen {steps steps' : List Step} (h : TailEq steps steps') : realLen steps' = realLen steps := by
  unfold Genshi.Path.realLen; rw [h.getLast, h.length]

theorem TailEq.lastResult {steps steps' : List Step} (h : TailEq steps steps') (e : Event) :
    lastResult steps' e ns = lastResult steps e ns := by
  unfold Genshi.Path.lastResult; rw [h.getLast]

/-- no queued entry (`qPos`), no position handed down (`posPos`) refers to the first step -/
def qPos (q : List QEntry) : Prop := ∀ en ∈ q, 1 ≤ en.1
def posPos (l : List GPos) : Prop := ∀ p ∈ l, 1 ≤ p.x

theorem pushDesc_pos (np : List GPos) (x : Nat) (pc : List Nat) (h : posPos np) (hx : 1 ≤ x) :
    posPos (pushDesc np x pc) := by
  rcases pushDesc_cases np x pc with h1 | ⟨ini, cs, rfl, h1⟩ <;> rw [h1] <;> intro p hp <;>
    rcases List.mem_append.mp hp with h2 | h2
  · exact h p h2
  · rw [List.mem_singleton.mp h2]; exact hx
  · exact h p (List.mem_append_left _ h2)
  · rw [List.mem_singleton.mp h2]; exact hx

theorem pushSelf_pos (q : List QEntry) (x cc : Nat) (h : qPos q) (hx : 1 ≤ x) : qPos (pushSelf q x cc) := by
  intro en hen
  rcases pushSelf_fst q x cc en hen with h1 | ⟨t', ht', h1⟩
  · rw [h1]; exact hx
  · rw [← h1]; exact h t' ht'

theorem gRound_pos (rlen : Nat) (e : Event) (st : Step) (nx : Axis) (last : Val) (x : Nat) (pcou mcou : List Nat)
    (q : List QEntry) (acc : GAcc) (hx : isDescLike st.axis = true → 1 ≤ x) (hq : qPos q)
    (hp : posPos acc.nextPos) :
    qPos (gRound ns vs rlen e st nx last x pcou mcou q acc).1 ∧
    posPos (gRound ns vs rlen e st nx last x pcou mcou q acc).2.nextPos := by
  have hnp : posPos (if (isDescLike st.axis && !pcou.isEmpty) = true
      then pushDesc acc.nextPos x pcou else acc.nextPos) := by
    split
    · rename_i hc
      exact pushDesc_pos _ _ _ hp (hx (Bool.and_eq_true_iff.mp hc).1)
    · exact hp
  simp only [gRound]
  by_cases c1 : (!st.test.matches e ns) = true
  · rw [if_pos c1]; exact ⟨hq, hnp⟩
  rw [if_neg c1]
  by_cases c2 : (!(gPreds e ns vs (pcou ++ mcou) st.preds 0 [] acc.store).fst) = true
  · rw [if_pos c2]; exact ⟨hq, hnp⟩
  rw [if_neg c2]
  by_cases c3 : (x + 1 == rlen) = true
  · rw [if_pos c3]; exact ⟨hq, hnp⟩
  rw [if_neg c3]
  constructor
  · cases (nx == .descendantOrSelf || nx == .self)
    · exact hq
    · exact pushSelf_pos q _ _ hq (Nat.le_add_left 1 x)
  · cases (nx != .self)
    · exact hnp
    · intro p hpm
      rcases List.mem_append.mp hpm with h1 | h1
      · exact hnp p h1
      · rw [List.mem_singleton.mp h1]; exact Nat.le_add_left 1 x

/-- with every queued position ≥ 1 the first step is never looked at -/
theorem gLoop_tail (steps steps' : List Step) (h : TailEq steps steps') (rlen : Nat) (e : Event) :
    ∀ (fuel : Nat) (q : List QEntry) (acc : GAcc), qPos q → posPos acc.nextPos →
      gLoop steps rlen e ns vs fuel q acc = gLoop steps' rlen e ns vs fuel q acc ∧
      posPos (gLoop steps rlen e ns vs fuel q acc).nextPos := by
  intro fuel
  induction fuel with
  | zero => intro q acc _ hp; simp [gLoop, hp]
  | succ fuel ih =>
    intro q acc hq hp
    cases q with
    | nil => simp [gLoop, hp]
    | cons en q =>
      obtain ⟨x, pcou, mcou⟩ := en
      have hx : 1 ≤ x := hq (x, pcou, mcou) List.mem_cons_self
      have hq' : qPos q := fun en hen => hq en (List.mem_cons_of_mem _ hen)
      obtain ⟨x0, rfl⟩ : ∃ x0, x = x0 + 1 := ⟨x - 1, by omega⟩
      cases hsx : steps[x0 + 1]? with
      | none => simp only [gLoop, ← h.getElem_succ, hsx]; exact ⟨trivial, hp⟩
      | some st =>
        rw [gLoop_cons ns vs steps rlen e fuel _ pcou mcou q acc st hsx,
          gLoop_cons ns vs steps' rlen e fuel _ pcou mcou q acc st (h.getElem_succ x0 ▸ hsx),
          ← h.getElem_succ, h.lastResult ns e]
        obtain ⟨h1, h2⟩ := gRound_pos ns vs rlen e st _ (lastResult steps e ns) (x0 + 1) pcou mcou q acc (fun _ => hx) hq' hp
        exact ih _ _ h1 h2

/-- same state; the `d` topmost stack levels hold positions ≥ 1 only -/
def RTail (d : Nat) (g g' : GState) : Prop :=
  g = g' ∧ ∃ upper base, g.stack = upper ++ base ∧ upper.length = d ∧ ∀ l ∈ upper, posPos l

/-- step lists that differ in the first step only are in simulation from depth 1 on: there the topmost levels of
    the stack hold no position 0 (`RTail`), so `gLoop_tail` applies; the fuel is `gStep`'s own (`gStep_run`) -/
theorem sim_tail (steps steps' : List Step) (h : TailEq steps steps') :
    Sim (gStep steps ns vs) (gStep steps' ns vs) RTail 1 := by
  refine Sim.of_steps (fun d hd g g' e hend hmk hr => ?_) (fun d _ g g' tag hr => ?_)
    (fun g e => gStep_marker _ _ _ g e) (fun g e => gStep_marker _ _ _ g e)
  · obtain ⟨rfl, upper, base, hst, hlen, hpos⟩ := hr
    obtain ⟨top, up, rfl⟩ : ∃ top up, upper = top :: up := by
      cases upper with
      | nil => subst hlen; cases hd
      | cons top up => exact ⟨top, up, rfl⟩
    have hl := gLoop_tail ns vs steps steps' h (realLen steps) e (2 * steps.length + top.length + 2)
      (top.map fun p => (p.x, p.cous, [])) ⟨[], g.store, .none⟩
      (fun en hen => by
        obtain ⟨p, hp, rfl⟩ := List.mem_map.mp hen
        exact hpos top List.mem_cons_self p hp)
      (fun p hp => nomatch hp)
    rw [gStep_run steps ns vs g e top (up ++ base) hst hend hmk,
      gStep_run steps' ns vs g e top (up ++ base) hst hend hmk, h.realLen, ← h.length, ← hl.1]
    refine ⟨rfl, rfl, ?_⟩
    cases e.isStart with
    | false => exact ⟨top :: up, base, hst, hlen, hpos⟩
    | true =>
      exact ⟨_ :: top :: up, base, congrArg (_ :: ·) hst, congrArg (· + 1) hlen,
        List.forall_mem_cons.2 ⟨hl.2, hpos⟩⟩
  · obtain ⟨rfl, upper, base, hst, hlen, hpos⟩ := hr
    rw [gStep_end, gStep_end]
    refine ⟨rfl, rfl, ?_⟩
    cases upper with
    | nil => cases hlen
    | cons top up =>
      exact ⟨up, base, by rw [hst]; rfl, Nat.succ.inj hlen, fun l hl => hpos l (List.mem_cons_of_mem _ hl)⟩

/-- `.` = `self::node()` -/
def dot : Step := ⟨.self, .node, []⟩

theorem gLoop_nil' (steps : List Step) (rlen : Nat) (e : Event) (fuel : Nat)
    (acc : GAcc) : gLoop steps rlen e ns vs fuel [] acc = acc :=
  gLoop_nil steps rlen e ns vs fuel acc

theorem gStep_root_tail (p : LocPath) (hp : p ≠ []) (g : GState) (rest : List (List GPos))
    (hst : g.stack = [⟨0, [0]⟩] :: rest) (tag : QName) (attrs : AttrList) :
    gStep (dot :: p) ns vs g (.start tag attrs) = gStep (dotSlash :: p) ns vs g (.start tag attrs) ∧
    RTail 1 (gStep (dot :: p) ns vs g (.start tag attrs)).1 (gStep (dotSlash :: p) ns vs g (.start tag attrs)).1 := by
  have hte : TailEq (dot :: p) (dotSlash :: p) := ⟨dot, dotSlash, p, rfl, rfl, rfl, hp⟩
  have hfuel : ∀ n : Nat, 2 * n + ([⟨0, [0]⟩] : List GPos).length + 2 = (2 * n + 1 + 1) + 1 := fun _ => rfl
  rw [gStep_run (dot :: p) ns vs g _ _ _ hst rfl rfl, gStep_run (dotSlash :: p) ns vs g _ _ _ hst rfl rfl,
    hte.realLen, ← hte.length, hfuel]
  simp only [List.map_cons, List.map_nil]
  rw [gLoop_cons ns vs (dot :: p) _ _ _ 0 [0] [] [] _ dot rfl,
    gLoop_cons ns vs (dotSlash :: p) _ _ _ 0 [0] [] [] _ dotSlash rfl, hte.lastResult ns]
  -- the first round reads `self::node()` resp. `self::*`: the START event passes both
  have hround : ∀ rlen nx last acc,
      gRound ns vs rlen (.start tag attrs) dotSlash nx last 0 [0] [] [] acc
        = gRound ns vs rlen (.start tag attrs) dot nx last 0 [0] [] [] acc := fun _ _ _ _ => rfl
  obtain ⟨h1, h2⟩ := gRound_pos ns vs (realLen (dot :: p)) (.start tag attrs) dot
    (((dot :: p)[0 + 1]?.map Step.axis).getD .child) (lastResult (dot :: p) (.start tag attrs) ns) 0 [0] [] []
    ⟨[], g.store, .none⟩ (fun h => nomatch h) (fun _ h => nomatch h) (fun _ h => nomatch h)
  obtain ⟨e1, e2⟩ := gLoop_tail ns vs (dot :: p) (dotSlash :: p) hte (realLen (dot :: p)) (.start tag attrs)
    (2 * (dot :: p).length + 1 + 1) _ _ h1 h2
  rw [hround, ← hte.getElem_succ 0, ← e1]
  exact ⟨rfl, rfl, [_], g.stack, rfl, rfl, fun l hl => by rw [List.mem_singleton.mp hl]; exact e2⟩

/-- `self::node()/p` and `self::*/p` (what GenericStrategy runs for `./p` and for `p` in relative mode) report the same on an element tree -/
theorem tail_runs (p : LocPath) (hp : p ≠ []) (tag : QName) (attrs : AttrList) (kids : List Node)
    (hok : okList kids = true) :
    (runOne (gStep (dot :: p) ns vs) gInit (Node.elem tag attrs kids).flatten).1
      = (runOne (gStep (dotSlash :: p) ns vs) gInit (Node.elem tag attrs kids).flatten).1 := by
  simp only [Node.flatten, runOne_cons, runOne_append]
  obtain ⟨hroot, hR⟩ := gStep_root_tail ns vs p hp gInit [] rfl tag attrs
  have hk := (sim_tail ns vs (dot :: p) (dotSlash :: p) ⟨dot, dotSlash, p, rfl, rfl, rfl, hp⟩).flattenList kids hok 1
    (Nat.le_refl _) _ _ hR
  rw [hroot] at hk ⊢
  rw [hk.1]
  obtain ⟨heq, _⟩ := hk.2
  rw [heq]
  simp [runOne, gStep_end]

end
end Genshi.Path
