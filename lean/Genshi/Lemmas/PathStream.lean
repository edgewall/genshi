/-
  Running a matcher over the event stream of a tree: `runOne`, its behaviour on
  appended streams and on `Node.flatten`, `Path.test` for one path as the run of its
  strategy (`stratRun`, `runTest_forced`, `pathTest_chosen`), and the simulation principle used for
  C17 (two machines whose states are related depth by depth report the same,
  event by event, on every tree).  Then what the files on the single strategies share:
  what `Path.__init__` picks (`chooseStrategy_eq`, `chooses_*`), what `gSteps` is for a child path
  (`gSteps_childPath`; `sSteps_single` for `sSteps`) and in pattern mode (`Frags.patOf`, `gSteps_patOf`), one call of GenericStrategy
  outside its loop (`gStep_end`, `gStep_marker`, `gStep_run`) and one round of the loop (`gRound`,
  `gLoop_cons`, `gStep_top1`).
-/
import Genshi.Model.Core
import Genshi.Lemmas.Core
import Genshi.Model.PathStrategy
namespace Genshi.Path
open Genshi

/-- run a step function over a stream: the per-event results and the final state -/
def runOne {σ : Type} (step : σ → Event → σ × Val) : σ → List Event → List Val × σ
  | s, [] => ([], s)
  | s, e :: es =>
      let r := step s e
      let rest := runOne step r.1 es
      (r.2 :: rest.1, rest.2)

theorem runOne_cons {σ : Type} (step : σ → Event → σ × Val) (s : σ) (e : Event) (es : List Event) :
    runOne step s (e :: es) = ((step s e).2 :: (runOne step (step s e).1 es).1, (runOne step (step s e).1 es).2) := rfl

theorem runOne_length {σ : Type} (step : σ → Event → σ × Val) (s : σ) (es : List Event) :
    (runOne step s es).1.length = es.length := by
  induction es generalizing s with
  | nil => rfl
  | cons e es ih => simp [runOne, ih]

theorem runOne_append {σ : Type} (step : σ → Event → σ × Val) (s : σ) (a b : List Event) :
    runOne step s (a ++ b) =
      ((runOne step s a).1 ++ (runOne step (runOne step s a).2 b).1, (runOne step (runOne step s a).2 b).2) := by
  induction a generalizing s with
  | nil => simp [runOne]
  | cons e es ih => simp [runOne, ih]

/-- two machines whose states stay related and whose results differ by `φ` at every event: so do their runs -/
theorem runOne_rel {σ τ : Type} (f : σ → Event → σ × Val) (g : τ → Event → τ × Val) (R : σ → τ → Prop)
    (φ : Event → Val → Val)
    (h : ∀ s t e, R s t → R (f s e).1 (g t e).1 ∧ (f s e).2 = φ e (g t e).2) :
    ∀ (es : List Event) (s : σ) (t : τ), R s t →
      (runOne f s es).1 = List.zipWith φ es (runOne g t es).1 := by
  intro es
  induction es with
  | nil => intro s t _; rfl
  | cons e es ih =>
    intro s t hr
    obtain ⟨h1, h2⟩ := h s t e hr
    simp only [runOne, h2, ih _ _ h1, List.zipWith_cons_cons]

theorem runTest_one {σ : Type} (m : Matcher) (ns : NsMap) (vs : Vars) (step : σ → Event → σ × Val)
    (inj : σ → MState) (h : ∀ s e, m.step ns vs (inj s) e = (inj (step s e).1, (step s e).2))
    (s : σ) (es : List Event) : runTest [m] ns vs [inj s] es = (runOne step s es).1 := by
  induction es generalizing s with
  | nil => rfl
  | cons e es ih =>
    simp only [runTest, multiStep, List.zip_cons_cons, List.zip_nil_right, List.map_cons, List.map_nil, h,
      List.foldl_cons, List.foldl_nil, Val.isNone, runOne, ih]
    simp

/-- `Path.test` for one path run by SingleStepStrategy, SimplePathStrategy, GenericStrategy is that strategy's run -/
theorem runTest_single (steps : List Step) (ic : Bool) (ns : NsMap) (vs : Vars) (t : SState) (es : List Event) :
    runTest [.single steps ic] ns vs [.s t] es = (runOne (sStep steps ic ns vs) t es).1 :=
  runTest_one _ ns vs _ .s (fun _ _ => rfl) _ es

theorem Frags.runTest_simpleL (frags : Option (List Frag)) (ic : Bool) (ns : NsMap) (vs : Vars) (t : PState)
    (es : List Event) :
    runTest [.simple frags ic] ns vs [.p t] es = (runOne (pStep frags ic ns) t es).1 :=
  runTest_one _ ns vs _ .p (fun _ _ => rfl) t es

theorem runTest_genericL (steps : List Step) (ns : NsMap) (vs : Vars) (g : GState) (es : List Event) :
    runTest [.generic steps] ns vs [.g g] es = (runOne (gStep steps ns vs) g es).1 :=
  runTest_one _ ns vs _ .g (fun _ _ => rfl) g es

/-- what strategy `s` reports for the location path `p`, event by event -/
def stratRun (s : Strategy) (p : LocPath) (ic : Bool) (ns : NsMap) (vs : Vars) (es : List Event) : List Val :=
  match s with
  | .generic => (runOne (gStep (gSteps p ic) ns vs) gInit es).1
  | .single => (runOne (sStep (sSteps p) ic ns vs) ⟨[], 0⟩ es).1
  | .simple => (runOne (pStep (fragments p) ic ns) [] es).1

/-- `Path.test` for one path with a forced strategy is that strategy's run -/
theorem runTest_forced (s : Strategy) (p : LocPath) (ic : Bool) (ns : NsMap) (vs : Vars) (es : List Event) :
    runTest (pathTest [p] ic (some s)).1 ns vs (pathTest [p] ic (some s)).2 es = stratRun s p ic ns vs es := by
  cases s <;> simp only [pathTest, List.map_cons, List.map_nil, mkMatcher, stratRun]
  · rw [runTest_single]
  · rw [Frags.runTest_simpleL]
  · rw [runTest_genericL]

/-- forcing the strategy `Path.__init__` picks by itself changes nothing -/
theorem pathTest_chosen {p : LocPath} {s : Strategy} (h : chooseStrategy p = some s) (ic : Bool) :
    pathTest [p] ic = pathTest [p] ic (some s) := by
  simp only [pathTest, List.map_cons, List.map_nil, h, Option.getD_some]

/-- depth-indexed simulation between two machines (from depth `d0` on) -/
structure Sim {σ τ : Type} (stepA : σ → Event → σ × Val) (stepB : τ → Event → τ × Val)
    (R : Nat → σ → τ → Prop) (d0 : Nat) : Prop where
  start : ∀ d, d0 ≤ d → ∀ s t tag attrs, R d s t →
    (stepA s (.start tag attrs)).2 = (stepB t (.start tag attrs)).2 ∧
    R (d + 1) (stepA s (.start tag attrs)).1 (stepB t (.start tag attrs)).1
  end_ : ∀ d, d0 ≤ d → ∀ s t tag, R (d + 1) s t →
    (stepA s (.end_ tag)).2 = (stepB t (.end_ tag)).2 ∧
    R d (stepA s (.end_ tag)).1 (stepB t (.end_ tag)).1
  leaf : ∀ d, d0 ≤ d → ∀ s t e, e.isStartEnd = false → R d s t →
    (stepA s e).2 = (stepB t e).2 ∧ R d (stepA s e).1 (stepB t e).1

mutual
  theorem Sim.flatten {σ τ : Type} {stepA : σ → Event → σ × Val} {stepB : τ → Event → τ × Val}
      {R : Nat → σ → τ → Prop} {d0 : Nat} (h : Sim stepA stepB R d0) :
      ∀ (n : Node), n.ok = true → ∀ d, d0 ≤ d → ∀ s t, R d s t →
        (runOne stepA s n.flatten).1 = (runOne stepB t n.flatten).1 ∧
        R d (runOne stepA s n.flatten).2 (runOne stepB t n.flatten).2
    | .elem tag a ks, hok, d, hd, s, t, hr => by
        have h1 := h.start d hd s t tag a hr
        have h2 := Sim.flattenList h ks (by simpa [Node.ok] using hok) (d + 1) (Nat.le_succ_of_le hd) _ _ h1.2
        have h3 := h.end_ d hd _ _ tag h2.2
        simp only [Node.flatten, runOne, runOne_append]
        refine ⟨?_, ?_⟩
        · simp only [List.cons.injEq]
          exact ⟨h1.1, by rw [h2.1]; simp [h3.1]⟩
        · simpa using h3.2
    | .leaf e, hok, d, hd, s, t, hr => by
        have := h.leaf d hd s t e (by simpa [Node.ok] using hok) hr
        simp only [Node.flatten, runOne]
        exact ⟨by simp [this.1], this.2⟩
  theorem Sim.flattenList {σ τ : Type} {stepA : σ → Event → σ × Val} {stepB : τ → Event → τ × Val}
      {R : Nat → σ → τ → Prop} {d0 : Nat} (h : Sim stepA stepB R d0) :
      ∀ (ns : List Node), okList ns = true → ∀ d, d0 ≤ d → ∀ s t, R d s t →
        (runOne stepA s (flattenList ns)).1 = (runOne stepB t (flattenList ns)).1 ∧
        R d (runOne stepA s (flattenList ns)).2 (runOne stepB t (flattenList ns)).2
    | [], _, d, _, s, t, hr => by simp only [Genshi.flattenList, runOne]; exact ⟨trivial, hr⟩
    | n :: ns, hok, d, hd, s, t, hr => by
        simp only [okList, Bool.and_eq_true] at hok
        have h1 := Sim.flatten h n hok.1 d hd s t hr
        have h2 := Sim.flattenList h ns hok.2 d hd _ _ h1.2
        simp only [Genshi.flattenList, runOne_append]
        exact ⟨by rw [h1.1, h2.1], h2.2⟩
end

theorem isEnd_of_not_startEnd {e : Event} (h : e.isStartEnd = false) : e.isEnd = false ∧ e.isStart = false := by
  cases e <;> first | exact ⟨rfl, rfl⟩ | cases h

/-- how a `Sim` between two matchers is shown: both pass namespace / CDATA markers by (`hmA`,
    `hmB`), so START and the remaining leaves are one case (`key`: the depth grows at START only)
    and END is the other -/
theorem Sim.of_steps {σ τ : Type} {stepA : σ → Event → σ × Val} {stepB : τ → Event → τ × Val}
    {R : Nat → σ → τ → Prop} {d0 : Nat}
    (key : ∀ d, d0 ≤ d → ∀ s t e, e.isEnd = false → e.isNsOrCdata = false → R d s t →
      (stepA s e).2 = (stepB t e).2 ∧ R (if e.isStart then d + 1 else d) (stepA s e).1 (stepB t e).1)
    (hend : ∀ d, d0 ≤ d → ∀ s t tag, R (d + 1) s t →
      (stepA s (.end_ tag)).2 = (stepB t (.end_ tag)).2 ∧ R d (stepA s (.end_ tag)).1 (stepB t (.end_ tag)).1)
    (hmA : ∀ s e, e.isEnd = false → e.isNsOrCdata = true → stepA s e = (s, .none))
    (hmB : ∀ t e, e.isEnd = false → e.isNsOrCdata = true → stepB t e = (t, .none)) :
    Sim stepA stepB R d0 := by
  refine ⟨fun d hd s t tag attrs hr => key d hd s t (.start tag attrs) rfl rfl hr, hend, ?_⟩
  intro d hd s t e he hr
  obtain ⟨hE, hS⟩ := isEnd_of_not_startEnd he
  cases hmk : e.isNsOrCdata with
  | true => rw [hmA s e hE hmk, hmB t e hE hmk]; exact ⟨rfl, hr⟩
  | false =>
    have := key d hd s t e hE hmk hr
    rwa [hS] at this

/-- the loop of `Path.__init__` over `STRATEGIES`, as a case distinction -/
theorem chooseStrategy_eq (p : LocPath) :
    chooseStrategy p
      = some (if singleSupports p then .single else if simpleSupports p then .simple else .generic) := by
  have ho : strategyOrder = [.single, .simple, .generic] := by decide
  cases h1 : singleSupports p <;> cases h2 : simpleSupports p <;>
    simp [chooseStrategy, ho, List.find?, Strategy.supports, h1, h2]

theorem chooseStrategy_supports {p : LocPath} {s : Strategy} (h : chooseStrategy p = some s) : s.supports p = true :=
  List.find?_some (p := fun s : Strategy => s.supports p) h

theorem chooses_single (s : Step) : chooseStrategy [s] = some .single := by
  simp [chooseStrategy_eq, singleSupports]

theorem Frags.chooses_simple_of_supports (p : LocPath) (hsup : simpleSupports p = true) (h2 : 2 ≤ p.length) :
    chooseStrategy p = some .simple := by
  have h1 : singleSupports p = false := by unfold singleSupports; exact beq_false_of_ne (by omega)
  rw [chooseStrategy_eq, h1, hsup]; rfl

theorem simpleSupports_false_of_preds (p : LocPath) (s : Step) (hs : s ∈ p) (hp : s.preds ≠ []) :
    simpleSupports p = false := by
  cases p with
  | nil => rfl
  | cons s0 rest =>
    have : s.preds.isEmpty = false := by cases hsp : s.preds <;> simp_all
    simp only [simpleSupports, Bool.and_eq_false_iff]
    left; right
    rw [List.all_eq_false]
    exact ⟨s, hs, by simp [this]⟩

/-- `Path.__init__` picks GenericStrategy for every path of two or more steps that
    SimplePathStrategy does not support (a predicate, a wildcard or `node()` test somewhere) -/
theorem chooses_generic (p : LocPath) (h2 : 2 ≤ p.length) (hs : simpleSupports p = false) :
    chooseStrategy p = some .generic := by
  have h1 : singleSupports p = false := by unfold singleSupports; exact beq_false_of_ne (by omega)
  rw [chooseStrategy_eq, h1, hs]; rfl

/-- without a final attribute step every step is a real one, and a complete match is reported as `True` -/
theorem realLen_of_no_attr (S : List Step) (h : ∀ s ∈ S, s.axis ≠ .attribute) : realLen S = S.length := by
  unfold realLen
  cases hl : S.getLast? with
  | none => rw [List.getLast?_eq_none_iff.mp hl]; rfl
  | some last => simp [h last (List.mem_of_getLast? hl)]

theorem lastResult_of_no_attr (S : List Step) (h : ∀ s ∈ S, s.axis ≠ .attribute) (e : Event) (ns : NsMap) :
    lastResult S e ns = .bool true := by
  unfold lastResult
  cases hl : S.getLast? with
  | none => rfl
  | some last => simp [h last (List.mem_of_getLast? hl)]

/-- a path of child-axis steps (GenericStrategy puts `self::*` in front: `gSteps_childPath`) -/
def ChildPath (p : LocPath) : Prop := ∀ s ∈ p, s.axis = .child

theorem childPath_no_attr {p : LocPath} (h : ChildPath p) : ∀ s ∈ dotSlash :: p, s.axis ≠ .attribute := by
  intro s hs
  rcases List.mem_cons.mp hs with rfl | hs
  · decide
  · rw [h s hs]; decide

theorem realLen_childPath (p : LocPath) (h : ChildPath p) : realLen (dotSlash :: p) = p.length + 1 :=
  realLen_of_no_attr _ (childPath_no_attr h)

theorem lastResult_childPath (ns : NsMap) (p : LocPath) (h : ChildPath p) (e : Event) :
    lastResult (dotSlash :: p) e ns = .bool true :=
  lastResult_of_no_attr _ (childPath_no_attr h) e ns

theorem gSteps_childPath {p : LocPath} (h : ChildPath p) (hne : p ≠ []) : gSteps p false = dotSlash :: p := by
  obtain ⟨s0, r, rfl⟩ := List.exists_cons_of_ne_nil hne
  simp [gSteps, h s0 List.mem_cons_self]

theorem sSteps_single {s : Step} (hna : s.axis ≠ .attribute) : sSteps [s] = [s] := by
  simp [sSteps, hna]

/-- the path a location path matches as a pattern: its first step on the descendant-or-self
    axis from the root (what `GenericStrategy.test(ignore_context=True)` makes of it) -/
def Frags.patOf : LocPath → LocPath
  | [] => []
  | s :: q => ⟨.descendantOrSelf, s.test, s.preds⟩ :: q

/-- GenericStrategy's step list in pattern mode, for a path without a leading `.` to strip whose first step is
    not on the attribute axis -/
theorem gSteps_patOf (s0 : Step) (rest : LocPath) (hna : s0.axis ≠ .attribute)
    (hnd : stripDot (s0 :: rest) = s0 :: rest) : gSteps (s0 :: rest) true = Frags.patOf (s0 :: rest) := by
  have hax : (s0.axis == Axis.attribute) = false := beq_eq_false_iff_ne.mpr hna
  simp [gSteps, hnd, hax, Frags.patOf]

theorem gLoop_nil (steps : List Step) (rlen : Nat) (e : Event) (ns : NsMap) (vs : Vars) (fuel : Nat)
    (acc : GAcc) : gLoop steps rlen e ns vs fuel [] acc = acc := by
  cases fuel <;> rfl

theorem gStep_end (steps : List Step) (ns : NsMap) (vs : Vars) (st : GState) (tag : QName) :
    gStep steps ns vs st (.end_ tag) = (⟨st.stack.drop 1, st.store⟩, .none) := rfl

theorem gStep_marker (steps : List Step) (ns : NsMap) (vs : Vars) (st : GState) (e : Event)
    (he : e.isEnd = false) (hm : e.isNsOrCdata = true) : gStep steps ns vs st e = (st, .none) := by
  simp only [gStep, he, hm, Bool.false_eq_true, if_false, if_true]

theorem gStep_run (steps : List Step) (ns : NsMap) (vs : Vars) (st : GState) (e : Event)
    (top : List GPos) (rest : List (List GPos)) (hstack : st.stack = top :: rest)
    (he : e.isEnd = false) (hm : e.isNsOrCdata = false) :
    gStep steps ns vs st e =
      (⟨if e.isStart then
          (gLoop steps (realLen steps) e ns vs (2 * steps.length + top.length + 2)
            (top.map fun p => (p.x, p.cous, [])) ⟨[], st.store, .none⟩).nextPos :: st.stack
        else st.stack,
        (gLoop steps (realLen steps) e ns vs (2 * steps.length + top.length + 2)
          (top.map fun p => (p.x, p.cous, [])) ⟨[], st.store, .none⟩).store⟩,
       (gLoop steps (realLen steps) e ns vs (2 * steps.length + top.length + 2)
          (top.map fun p => (p.x, p.cous, [])) ⟨[], st.store, .none⟩).retval) := by
  simp only [gStep, he, hm, Bool.false_eq_true, if_false, hstack, List.headD_cons, List.length_map]

theorem List.eq_nil_or_snoc {α : Type} (l : List α) : l = [] ∨ ∃ ini b, l = ini ++ [b] := by
  rcases List.eq_nil_or_concat l with h | ⟨ini, b, h⟩
  · exact Or.inl h
  · exact Or.inr ⟨ini, b, by rw [h, List.concat_eq_append]⟩

/-- `pushDesc` either appends the position or, when the list ends in it already, joins the counters -/
theorem pushDesc_cases (np : List GPos) (x : Nat) (pc : List Nat) :
    pushDesc np x pc = np ++ [⟨x, pc⟩] ∨
      ∃ ini cs, np = ini ++ [⟨x, cs⟩] ∧ pushDesc np x pc = ini ++ [⟨x, cs ++ pc⟩] := by
  rcases List.eq_nil_or_snoc np with rfl | ⟨ini, last, rfl⟩
  · exact Or.inl rfl
  · simp only [pushDesc, List.getLast?_concat, List.dropLast_concat]
    by_cases h : (last.x == x) = true
    · rw [if_pos h]
      exact Or.inr ⟨ini, last.cous, by rw [← (beq_iff_eq.mp h)], rfl⟩
    · rw [if_neg h]; exact Or.inl rfl

/-- the positions queued by `pushSelf`: the new one, or one that was queued already -/
theorem pushSelf_fst (q : List QEntry) (x1 cc : Nat) (t : QEntry) (h : t ∈ pushSelf q x1 cc) :
    t.1 = x1 ∨ ∃ t' ∈ q, t'.1 = t.1 := by
  cases q with
  | nil => simp [pushSelf] at h; subst h; exact Or.inl rfl
  | cons t0 q' =>
    obtain ⟨x', p', m'⟩ := t0
    simp only [pushSelf] at h
    split at h
    · rcases List.mem_cons.mp h with h1 | h1
      · subst h1; exact Or.inl rfl
      · exact Or.inr ⟨t, h1, rfl⟩
    · rcases List.mem_cons.mp h with h1 | h1
      · subst h1; exact Or.inr ⟨(x', p', m'), List.mem_cons_self, rfl⟩
      · exact Or.inr ⟨t, List.mem_cons_of_mem _ h1, rfl⟩

section
variable (ns : NsMap) (vs : Vars)

/-- one round of the `while pos_queue` loop at a position whose step is `st`: of the step list it
    reads, besides `st`, the axis `nx` of the next step and the value `last` of a complete match -/
def gRound (rlen : Nat) (e : Event) (st : Step) (nx : Axis) (last : Val) (x : Nat) (pcou mcou : List Nat)
    (q : List QEntry) (acc : GAcc) : List QEntry × GAcc :=
  let nextPos := if isDescLike st.axis && !pcou.isEmpty then pushDesc acc.nextPos x pcou else acc.nextPos
  let r := gPreds e ns vs (pcou ++ mcou) st.preds 0 [] acc.store
  if !st.test.matches e ns then (q, { acc with nextPos := nextPos })
  else if !r.1 then (q, { acc with nextPos := nextPos, store := r.2 })
  else if x + 1 == rlen then (q, ⟨nextPos, r.2, if last.truthy then last else acc.retval⟩)
  else
    (if nx == .descendantOrSelf || nx == .self then pushSelf q (x + 1) r.2.length else q,
     ⟨if nx != .self then nextPos ++ [⟨x + 1, [r.2.length]⟩] else nextPos, r.2 ++ [[]], acc.retval⟩)

theorem gLoop_cons (steps : List Step) (rlen : Nat) (e : Event) (fuel x : Nat) (pcou mcou : List Nat)
    (q : List QEntry) (acc : GAcc) (st : Step) (h : steps[x]? = some st) :
    gLoop steps rlen e ns vs (fuel + 1) ((x, pcou, mcou) :: q) acc =
      gLoop steps rlen e ns vs fuel
        (gRound ns vs rlen e st ((steps[x + 1]?.map Step.axis).getD .child) (lastResult steps e ns) x pcou mcou q acc).1
        (gRound ns vs rlen e st ((steps[x + 1]?.map Step.axis).getD .child) (lastResult steps e ns) x pcou mcou q acc).2 := by
  rw [gLoop, h]
  simp only [gRound]
  by_cases c1 : (!st.test.matches e ns) = true
  · rw [if_pos c1, if_pos c1]
  · rw [if_neg c1, if_neg c1]
    by_cases c2 : (!(gPreds e ns vs (pcou ++ mcou) st.preds 0 [] acc.store).fst) = true
    · rw [if_pos c2, if_pos c2]
    · rw [if_neg c2, if_neg c2]
      by_cases c3 : (x + 1 == rlen) = true
      · rw [if_pos c3, if_pos c3]
      · rw [if_neg c3, if_neg c3]

theorem gRound_fst_nil (rlen : Nat) (e : Event) (st : Step) (nx : Axis) (last : Val) (x : Nat) (pcou mcou : List Nat)
    (acc : GAcc) (h : (x + 1 == rlen) = true ∨ (nx == .descendantOrSelf || nx == .self) = false) :
    (gRound ns vs rlen e st nx last x pcou mcou [] acc).1 = [] := by
  simp only [gRound]
  by_cases c1 : (!st.test.matches e ns) = true
  · rw [if_pos c1]
  rw [if_neg c1]
  by_cases c2 : (!(gPreds e ns vs (pcou ++ mcou) st.preds 0 [] acc.store).fst) = true
  · rw [if_pos c2]
  rw [if_neg c2]
  rcases h with h | h
  · rw [if_pos h]
  · by_cases c3 : (x + 1 == rlen) = true
    · rw [if_pos c3]
    · rw [if_neg c3, h]; rfl

/-- one call on a stack whose top holds a single candidate, at the last step or before a step that is
    not taken at the node itself: one round of the loop -/
theorem gStep_top1 (steps : List Step) (st : GState) (e : Event) (x : Nat) (cous : List Nat) (sx : Step)
    (rest : List (List GPos)) (hstack : st.stack = [⟨x, cous⟩] :: rest) (hsx : steps[x]? = some sx)
    (he : e.isEnd = false) (hm : e.isNsOrCdata = false)
    (h : (x + 1 == realLen steps) = true ∨
      ((steps[x + 1]?.map Step.axis).getD .child == .descendantOrSelf || (steps[x + 1]?.map Step.axis).getD .child == .self) = false) :
    gStep steps ns vs st e =
      (let r := (gRound ns vs (realLen steps) e sx ((steps[x + 1]?.map Step.axis).getD .child) (lastResult steps e ns)
          x cous [] [] ⟨[], st.store, .none⟩).2
       (⟨if e.isStart then r.nextPos :: st.stack else st.stack, r.store⟩, r.retval)) := by
  rw [gStep_run steps ns vs st e _ rest hstack he hm]
  simp only [List.map_cons, List.map_nil, List.length_cons, List.length_nil]
  rw [show 2 * steps.length + (0 + 1) + 2 = (2 * steps.length + 2) + 1 from by omega,
    gLoop_cons ns vs steps _ e _ x cous [] [] _ sx hsx, gRound_fst_nil ns vs _ e sx _ _ x cous [] _ h, gLoop_nil]

end

end Genshi.Path
