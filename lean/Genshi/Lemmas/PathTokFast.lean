/-
  A tokenizer step for checking tables and test vectors by evaluation.  `tokStep` compares
  characters up to some sixty times per character of the text (every entry of `_TOKENS`, then
  `tokenHeads` and the blanks again for `isNameChar`), and the kernel is slow at comparing two
  `Char`s, quick at comparing two `Nat` literals.  `tokStepF` asks the same questions of the
  character codes: two characters are equal iff their codes are (`beq_toNat`), so membership in
  `tokenHeads` or among the blanks is membership of the code in the list of codes
  (`contains_toNat`), and a table token can only start with one of `tokenHeads`
  (`firstToken_head_mem`), so `firstToken` is asked only then.  Hence `tokStepF = tokStep`
  (`tokStepF_eq`); `tokenize_eq_fast` and `parse_eq_fast` put it under `tokenize` and `parse`.
-/
import Genshi.Lemmas.PathTokStep
namespace Genshi.Path
open Genshi Print

theorem beq_toNat (a c : Char) : (a == c) = (a.toNat == c.toNat) := by
  by_cases h : a = c
  · subst h; rw [beq_self_eq_true, beq_self_eq_true]
  · rw [beq_eq_false_iff_ne.2 h, beq_eq_false_iff_ne.2 fun e => h (Char.toNat_inj.1 e)]

theorem contains_toNat (l : List Char) (c : Char) : l.contains c = (l.map Char.toNat).contains c.toNat := by
  induction l with
  | nil => rfl
  | cons a l ih => simp only [List.contains_cons, List.map_cons, ih, beq_toNat c a]

def isReSpaceF (c : Char) : Bool := [32, 9, 10, 13, 11, 12, 28, 29, 30, 31].contains c.toNat

def isNameCharF (c : Char) : Bool := !((tokenHeads.map Char.toNat).contains c.toNat) && !isReSpaceF c

theorem isReSpaceF_eq : isReSpaceF = isReSpace := by
  funext c
  simp only [isReSpaceF, isReSpace, List.contains_cons, List.contains_nil, Bool.or_false, beq_toNat c, Bool.or_assoc]
  rfl

theorem isNameCharF_eq : isNameCharF = isNameChar := by
  funext c
  rw [isNameCharF, isNameChar, ← contains_toNat, isReSpaceF_eq]

def tokStepF (s : Str) : Option Str × Nat :=
  match s with
  | [] => (none, 0)
  | c :: cs =>
    if c.toNat == 34 || c.toNat == 39 then tokStep (c :: cs) else
    match numPart (c :: cs) with
    | some n => (some n, n.length)
    | none =>
    match (if (tokenHeads.map Char.toNat).contains c.toNat then firstToken (c :: cs) Gen.Path.tokens else none) with
    | some t => (some t, t.length)
    | none =>
      let nm := (c :: cs).takeWhile isNameCharF
      if !nm.isEmpty then (some nm, nm.length)
      else
        let ws := (c :: cs).takeWhile isReSpaceF
        if !ws.isEmpty then (none, ws.length) else (none, 1)

theorem tokStepF_eq (s : Str) : tokStepF s = tokStep s := by
  cases s with
  | nil => rfl
  | cons c cs =>
    rw [tokStepF]
    by_cases hq : (c.toNat == 34 || c.toNat == 39) = true
    · rw [if_pos hq]
    · have q1 : (c == '"') = false := by
        rw [beq_toNat]; exact Bool.eq_false_iff.2 fun h => hq (by rw [show '"'.toNat = 34 from rfl] at h; simp [h])
      have q2 : (c == '\'') = false := by
        rw [beq_toNat]; exact Bool.eq_false_iff.2 fun h => hq (by rw [show '\''.toNat = 39 from rfl] at h; simp [h])
      have hft : (if (tokenHeads.map Char.toNat).contains c.toNat then firstToken (c :: cs) Gen.Path.tokens else none)
          = firstToken (c :: cs) Gen.Path.tokens := by
        rw [← contains_toNat]
        by_cases hh : tokenHeads.contains c = true
        · rw [if_pos hh]
        · rw [if_neg hh]
          rcases hf : firstToken (c :: cs) Gen.Path.tokens with _ | t
          · rfl
          · exact absurd (firstToken_head_mem c cs t hf) hh
      rw [if_neg hq, hft, isNameCharF_eq, isReSpaceF_eq, tokStep_cons]
      simp only [q1, q2, Bool.false_eq_true, if_false]
      rfl

def tokenizeAuxF : Nat → Str → List Str
  | 0, _ => []
  | _, [] => []
  | fuel + 1, s =>
      let (t, n) := tokStepF s
      let rest := tokenizeAuxF fuel (s.drop (max n 1))
      match t with
      | some t => t :: rest
      | none => rest

theorem tokenizeAuxF_eq : ∀ (fuel : Nat) (s : Str), tokenizeAuxF fuel s = tokenizeAux fuel s
  | 0, _ => rfl
  | _ + 1, [] => rfl
  | fuel + 1, c :: cs => by
    rw [tokenizeAuxF, tokenizeAux, tokStepF_eq]
    · simp only [tokenizeAuxF_eq fuel]; rfl
    all_goals exact fun h => nomatch h

theorem tokenize_eq_fast (s : Str) : tokenize s = tokenizeAuxF (s.length + 1) s := (tokenizeAuxF_eq _ s).symm

theorem parse_eq_fast (text : Str) : parse text = parseTokens (tokenizeAuxF (text.length + 1) text) := by
  rw [tokenizeAuxF_eq]; rfl

end Genshi.Path
