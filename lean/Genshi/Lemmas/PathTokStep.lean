/-
  One step of the tokenizer regex of `PathParser` by its alternatives (`tokStep_cons`), and what a
  match of the `_TOKENS` alternative says about the head of the text (`firstToken_head_mem`).
-/
import Genshi.Model.PathParse
namespace Genshi.Path
namespace Print
open Genshi

/-- `(?:\d+)?\.\d+` at the head of `s` -/
def numPart (s : Str) : Option Str :=
  let ds := s.takeWhile XNum.isDigit
  match s.drop ds.length with
  | '.' :: r =>
      let fr := r.takeWhile XNum.isDigit
      if fr.isEmpty then none else some (ds ++ '.' :: fr)
  | _ => none

/-- name, whitespace run or a skipped character -/
def namePart (s : Str) : Option Str × Nat :=
  let nm := s.takeWhile isNameChar
  if !nm.isEmpty then (some nm, nm.length)
  else
    let ws := s.takeWhile isReSpace
    if !ws.isEmpty then (none, ws.length) else (none, 1)

theorem tokStep_cons (c : Char) (cs : Str) : tokStep (c :: cs) =
    match (if c == '"' then spanQuote '"' cs else none) with
    | some (b, _) => (some ('"' :: b ++ ['"']), b.length + 2)
    | none =>
    match (if c == '\'' then spanQuote '\'' cs else none) with
    | some (b, _) => (some ('\'' :: b ++ ['\'']), b.length + 2)
    | none =>
    match numPart (c :: cs) with
    | some n => (some n, n.length)
    | none =>
    match firstToken (c :: cs) Gen.Path.tokens with
    | some t => (some t, t.length)
    | none => namePart (c :: cs) := rfl

theorem firstToken_head (s : Str) : ∀ (tab : List Str) (t : Str), firstToken s tab = some t →
    t ∈ tab ∧ t.isPrefixOf s = true := by
  intro tab
  induction tab with
  | nil => intro t h; simp [firstToken] at h
  | cons u us ih =>
    intro t h
    simp only [firstToken] at h
    by_cases hu : u.isPrefixOf s = true
    · simp [hu] at h; subst h; exact ⟨List.mem_cons_self, hu⟩
    · simp [hu] at h
      obtain ⟨h1, h2⟩ := ih t h
      exact ⟨List.mem_cons_of_mem _ h1, h2⟩

theorem firstToken_head_mem (c : Char) (cs t : Str) (h : firstToken (c :: cs) Gen.Path.tokens = some t) :
    tokenHeads.contains c = true := by
  obtain ⟨hm, hp⟩ := firstToken_head _ _ _ h
  cases t with
  | nil => exact absurd hm (by decide)
  | cons d ds =>
    simp only [List.isPrefixOf, Bool.and_eq_true, beq_iff_eq] at hp
    obtain rfl : d = c := hp.1
    simp only [tokenHeads, List.contains_eq_mem, List.mem_filterMap, decide_eq_true_eq]
    exact ⟨d :: ds, hm, rfl⟩

end Print
end Genshi.Path
