/-
  A matcher run over the events of a tree, one tree level at a time.  The per-event results
  of `runOne` are read against `eventLocs` (which node an event stands for); the equations
  below say what a run over `Node.flatten` is in terms of the step at START, the run over the
  children and the step at END, so that the tree inductions of the strategies never look at
  the event lists themselves.
-/
import Genshi.Lemmas.PathStream
import Genshi.Model.PathRef
namespace Genshi.Path
open Genshi Genshi.Path.Ref

mutual
  /-- parallel to `Node.flatten`: the located node an event stands for (`none` for END) -/
  def eventLocs : Node → List Nat → List (Option LNode)
    | .elem t a ks, loc => some ⟨loc, .elem t a ks⟩ :: (eventLocsList ks loc 0 ++ [none])
    | .leaf e, loc => [some ⟨loc, .leaf e⟩]
  def eventLocsList : List Node → List Nat → Nat → List (Option LNode)
    | [], _, _ => []
    | k :: ks, loc, i => eventLocs k (loc ++ [i]) ++ eventLocsList ks loc (i + 1)
end

/-- the located nodes at whose event the matcher reported a (truthy) result -/
def matched : List Val → List (Option LNode) → List LNode
  | v :: vs, l :: ls => (if v.truthy then l.toList else []) ++ matched vs ls
  | _, _ => []

theorem matched_append (v1 v2 : List Val) (l1 l2 : List (Option LNode)) (h : v1.length = l1.length) :
    matched (v1 ++ v2) (l1 ++ l2) = matched v1 l1 ++ matched v2 l2 := by
  induction v1 generalizing l1 with
  | nil => cases l1 with
    | nil => simp [matched]
    | cons _ _ => simp at h
  | cons v vs ih => cases l1 with
    | nil => simp at h
    | cons l ls =>
      simp only [List.cons_append, matched, List.append_assoc]
      rw [ih ls (by simpa using h)]

mutual
  theorem eventLocs_length : ∀ (n : Node) (loc : List Nat), (eventLocs n loc).length = n.flatten.length
    | .elem t a ks, loc => by
        simp only [eventLocs, Node.flatten, List.length_cons, List.length_append, List.length_nil]
        rw [eventLocsList_length ks loc 0]
    | .leaf e, loc => by simp [eventLocs, Node.flatten]
  theorem eventLocsList_length : ∀ (ks : List Node) (loc : List Nat) (i : Nat),
      (eventLocsList ks loc i).length = (flattenList ks).length
    | [], _, _ => by simp [eventLocsList, Genshi.flattenList]
    | k :: ks, loc, i => by
        simp only [eventLocsList, Genshi.flattenList, List.length_append]
        rw [eventLocs_length k _, eventLocsList_length ks loc (i + 1)]
end

/-- per-event results given node by node: `rep m` at the event of node `m`, `None` at END -/
def valsOf (rep : LNode → Val) (locs : List (Option LNode)) : List Val :=
  locs.map fun l => match l with
    | some m => rep m
    | none => Val.none

theorem valsOf_length (rep : LNode → Val) (locs : List (Option LNode)) : (valsOf rep locs).length = locs.length :=
  List.length_map _

theorem valsOf_append (rep : LNode → Val) (a b : List (Option LNode)) :
    valsOf rep (a ++ b) = valsOf rep a ++ valsOf rep b := List.map_append

theorem valsOf_elem (rep : LNode → Val) (t : QName) (a : AttrList) (ks : List Node) (loc : List Nat) :
    valsOf rep (eventLocs (.elem t a ks) loc) =
      rep ⟨loc, .elem t a ks⟩ :: (valsOf rep (eventLocsList ks loc 0) ++ [Val.none]) := by
  simp [valsOf, eventLocs]

theorem valsOf_kids (rep : LNode → Val) (k : Node) (ks : List Node) (loc : List Nat) (i : Nat) :
    valsOf rep (eventLocsList (k :: ks) loc i) =
      valsOf rep (eventLocs k (loc ++ [i])) ++ valsOf rep (eventLocsList ks loc (i + 1)) := by
  rw [eventLocsList, valsOf_append]

mutual
  /-- trees without namespace / CDATA marker leaves (which the strategies skip) and without
      START / END leaves (which would not be leaves of the stream) -/
  def _root_.Genshi.Node.clean : Node → Bool
    | .elem _ _ ks => cleanList ks
    | .leaf e => !e.isStartEnd && !e.isNsOrCdata
  def cleanList : List Node → Bool
    | [] => true
    | n :: ns => n.clean && cleanList ns
end

theorem ok_of_clean : ∀ (n : Node), n.clean = true → n.ok = true
  | .elem _ _ ks, h => by
      simp only [Node.clean] at h
      simp only [Node.ok]
      exact okList_of_clean ks h
  | .leaf e, h => by
      simp only [Node.clean, Bool.and_eq_true, Bool.not_eq_true'] at h
      simp [Node.ok, h.1]
where
  okList_of_clean : ∀ (ks : List Node), cleanList ks = true → okList ks = true
    | [], _ => rfl
    | k :: ks, h => by
        simp only [cleanList, Bool.and_eq_true] at h
        simp [okList, ok_of_clean k h.1, okList_of_clean ks h.2]

mutual
  /-- `P` holds of every node of the tree -/
  def AllNodes (P : Node → Prop) : Node → Prop
    | .elem t a ks => P (.elem t a ks) ∧ AllList P ks
    | .leaf e => P (.leaf e)
  def AllList (P : Node → Prop) : List Node → Prop
    | [] => True
    | k :: ks => AllNodes P k ∧ AllList P ks
end

theorem AllNodes.here {P : Node → Prop} : ∀ {n : Node}, AllNodes P n → P n
  | .elem _ _ _, h => h.1
  | .leaf _, h => h

theorem AllNodes.children {P : Node → Prop} (c : LNode) (hc : AllNodes P c.node) :
    ∀ k ∈ childrenOf c, AllNodes P k.node := by
  obtain ⟨loc, node⟩ := c
  cases node with
  | leaf e => intro k hk; simp [childrenOf] at hk
  | elem t a ks =>
    have hall : ∀ (ks : List Node), AllList P ks → ∀ k ∈ ks, AllNodes P k := by
      intro ks
      induction ks with
      | nil => intro _ k hk; simp at hk
      | cons x xs ih =>
        intro h k hk
        rcases List.mem_cons.mp hk with h1 | h1
        · rw [h1]; exact h.1
        · exact ih h.2 k h1
    intro k hk
    simp only [childrenOf, List.mem_map] at hk
    obtain ⟨⟨k', j⟩, hmem, rfl⟩ := hk
    have := List.mem_zipIdx' hmem
    exact hall ks hc.2 k' (this.2 ▸ List.getElem_mem _)

mutual
  theorem AllNodes.imp {P Q : Node → Prop} (h : ∀ n, P n → Q n) : ∀ (n : Node), AllNodes P n → AllNodes Q n
    | .elem _ _ ks, hn => ⟨h _ hn.1, AllList.imp h ks hn.2⟩
    | .leaf _, hn => h _ hn
  theorem AllList.imp {P Q : Node → Prop} (h : ∀ n, P n → Q n) : ∀ (ks : List Node), AllList P ks → AllList Q ks
    | [], _ => trivial
    | k :: ks, hk => ⟨AllNodes.imp h k hk.1, AllList.imp h ks hk.2⟩
end

mutual
  theorem AllNodes.of_clean {P : Node → Prop} (h : ∀ n, n.clean = true → P n) :
      ∀ (n : Node), n.clean = true → AllNodes P n
    | .elem _ _ ks, hn => ⟨h _ hn, AllList.of_clean h ks (by simpa [Node.clean] using hn)⟩
    | .leaf _, hn => h _ hn
  theorem AllList.of_clean {P : Node → Prop} (h : ∀ n, n.clean = true → P n) :
      ∀ (ks : List Node), cleanList ks = true → AllList P ks
    | [], _ => trivial
    | k :: ks, hk => by
        simp only [cleanList, Bool.and_eq_true] at hk
        exact ⟨AllNodes.of_clean h k hk.1, AllList.of_clean h ks hk.2⟩
end

section
variable {σ : Type} (step : σ → Event → σ × Val)

theorem runOne_elem (s : σ) (t : QName) (a : AttrList) (ks : List Node) :
    runOne step s (Node.elem t a ks).flatten =
      ((step s (.start t a)).2 :: ((runOne step (step s (.start t a)).1 (flattenList ks)).1 ++
          [(step (runOne step (step s (.start t a)).1 (flattenList ks)).2 (.end_ t)).2]),
        (step (runOne step (step s (.start t a)).1 (flattenList ks)).2 (.end_ t)).1) := by
  simp [Node.flatten, runOne, runOne_append]

theorem runOne_kids (s : σ) (k : Node) (ks : List Node) :
    runOne step s (flattenList (k :: ks)) =
      ((runOne step s k.flatten).1 ++ (runOne step (runOne step s k.flatten).2 (flattenList ks)).1,
        (runOne step (runOne step s k.flatten).2 (flattenList ks)).2) :=
  runOne_append step s _ _

theorem matched_elem (s : σ) (t : QName) (a : AttrList) (ks : List Node) (loc : List Nat) :
    matched (runOne step s (Node.elem t a ks).flatten).1 (eventLocs (.elem t a ks) loc) =
      (if (step s (.start t a)).2.truthy then [⟨loc, .elem t a ks⟩] else []) ++
        matched (runOne step (step s (.start t a)).1 (flattenList ks)).1 (eventLocsList ks loc 0) := by
  rw [runOne_elem, eventLocs, matched, matched_append _ _ _ _ (by rw [runOne_length, eventLocsList_length])]
  simp [matched]

theorem after_elem (s : σ) (t : QName) (a : AttrList) (ks : List Node) :
    (runOne step s (Node.elem t a ks).flatten).2 =
      (step (runOne step (step s (.start t a)).1 (flattenList ks)).2 (.end_ t)).1 := by
  rw [runOne_elem]

theorem matched_leaf (s : σ) (e : Event) (loc : List Nat) :
    matched (runOne step s (Node.leaf e).flatten).1 (eventLocs (.leaf e) loc) =
      if (step s e).2.truthy then [⟨loc, .leaf e⟩] else [] := by
  simp [Node.flatten, eventLocs, runOne, matched]

theorem after_leaf (s : σ) (e : Event) : (runOne step s (Node.leaf e).flatten).2 = (step s e).1 := rfl

theorem matched_kids (s : σ) (k : Node) (ks : List Node) (loc : List Nat) (i : Nat) :
    matched (runOne step s (flattenList (k :: ks))).1 (eventLocsList (k :: ks) loc i) =
      matched (runOne step s k.flatten).1 (eventLocs k (loc ++ [i])) ++
        matched (runOne step (runOne step s k.flatten).2 (flattenList ks)).1 (eventLocsList ks loc (i + 1)) := by
  rw [runOne_kids, eventLocsList, matched_append _ _ _ _ (by rw [runOne_length, eventLocs_length])]

theorem after_kids (s : σ) (k : Node) (ks : List Node) :
    (runOne step s (flattenList (k :: ks))).2 = (runOne step (runOne step s k.flatten).2 (flattenList ks)).2 := by
  rw [runOne_kids]

/-- The states `D` are dead for the machine: START reports nothing and pushes a frame that is
    again in `D` and that END pops, other events change nothing.  (A frame below which the
    strategies have given up: no position left, no fragment bound.) -/
structure DeadFrame (D : σ → Prop) : Prop where
  start : ∀ s t a, D s → (step s (.start t a)).2 = .none ∧ D (step s (.start t a)).1 ∧
    ∀ t', step (step s (.start t a)).1 (.end_ t') = (s, .none)
  leaf : ∀ s e, D s → e.isEnd = false → e.isStart = false → e.isNsOrCdata = false → step s e = (s, .none)

variable {step}

theorem DeadFrame.run {D : σ → Prop} (h : DeadFrame step D) :
    (∀ n : Node, n.clean = true → ∀ (s : σ) (loc : List Nat), D s →
      matched (runOne step s n.flatten).1 (eventLocs n loc) = [] ∧ (runOne step s n.flatten).2 = s) ∧
    (∀ ks : List Node, cleanList ks = true → ∀ (s : σ) (loc : List Nat) (i : Nat), D s →
      matched (runOne step s (flattenList ks)).1 (eventLocsList ks loc i) = [] ∧
        (runOne step s (flattenList ks)).2 = s) := by
  apply node_induction
  · intro t a ks ih hcl s loc hs
    obtain ⟨h1, h2, h3⟩ := h.start s t a hs
    obtain ⟨k1, k2⟩ := ih (by simpa [Node.clean] using hcl) _ loc 0 h2
    rw [matched_elem, after_elem, h1, k1, k2, h3]
    exact ⟨rfl, rfl⟩
  · intro e hcl s loc hs
    simp only [Node.clean, Bool.and_eq_true, Bool.not_eq_true'] at hcl
    obtain ⟨hend, hstart⟩ := isEnd_of_not_startEnd hcl.1
    rw [matched_leaf, after_leaf, h.leaf s e hs hend hstart hcl.2]
    exact ⟨rfl, rfl⟩
  · intro _ s loc i _
    exact ⟨rfl, rfl⟩
  · intro k ks ihk ihks hcl s loc i hs
    simp only [cleanList, Bool.and_eq_true] at hcl
    obtain ⟨k1, k2⟩ := ihk hcl.1 s (loc ++ [i]) hs
    rw [matched_kids, after_kids, k1, k2]
    exact ihks hcl.2 s loc (i + 1) hs

/-- a clean subtree below a dead frame reports nothing and leaves the state as it was -/
theorem DeadFrame.node {D : σ → Prop} (h : DeadFrame step D) {n : Node} (hcl : n.clean = true) {s : σ} (hs : D s)
    (loc : List Nat) :
    matched (runOne step s n.flatten).1 (eventLocs n loc) = [] ∧ (runOne step s n.flatten).2 = s :=
  h.run.1 n hcl s loc hs

theorem DeadFrame.kids {D : σ → Prop} (h : DeadFrame step D) {ks : List Node} (hcl : cleanList ks = true) {s : σ}
    (hs : D s) (loc : List Nat) (i : Nat) :
    matched (runOne step s (flattenList ks)).1 (eventLocsList ks loc i) = [] ∧
      (runOne step s (flattenList ks)).2 = s :=
  h.run.2 ks hcl s loc i hs

end
end Genshi.Path
