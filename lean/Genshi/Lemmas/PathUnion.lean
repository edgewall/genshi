/-
  Unions: `Path.test` for `p1|p2|…` reports, event by event, the first non-None
  result of its operands; when every operand reports `None` / `True` that is
  "some operand matches", and `Path.select` emits the outermost nodes of the
  union of the operands' node sets.
-/
import Genshi.Lemmas.PathAgree
import Genshi.Lemmas.ListBasics
namespace Genshi.Path
open Genshi Genshi.Path.Ref

/-- first non-None, position by position; the left row has priority -/
def or2 : List Val → List Val → List Val :=
  List.zipWith fun x y => if x.isNone then y else x

theorem or2_cons (x y : Val) (a b : List Val) : or2 (x :: a) (y :: b) = (if x.isNone then y else x) :: or2 a b :=
  rfl

theorem foldl_first_cons (v : Val) (vs : List Val) :
    (v :: vs).foldl (fun acc v => if acc.isNone then v else acc) .none
      = if v.isNone then vs.foldl (fun acc v => if acc.isNone then v else acc) .none else v := by
  have h0 : (Val.none).isNone = true := rfl
  simp only [↓reduceIte, List.foldl_cons, h0]
  by_cases hv : v.isNone = true
  · simp only [↓reduceIte, hv]
    cases v <;> simp_all [Val.isNone]
  · have hv' : v.isNone = false := by simpa using hv
    simp only [↓reduceIte, hv', Bool.false_eq_true]
    exact foldl_first_keep Val.isNone vs v hv'

/-- the dispatcher over `m :: ms` = `m` on its own, or else the dispatcher over `ms` -/
theorem runTest_cons_or (ns : NsMap) (vs : Vars) (m : Matcher) (st : MState) :
    ∀ (es : List Event) (ms : List Matcher) (sts : List MState),
      runTest (m :: ms) ns vs (st :: sts) es = or2 (runTest [m] ns vs [st] es) (runTest ms ns vs sts es) := by
  intro es
  induction es generalizing st with
  | nil => intro ms sts; simp [runTest, or2]
  | cons e es ih =>
    intro ms sts
    simp only [runTest, or2_cons, multiStep, List.zip_cons_cons, List.map_cons, List.zip_nil_right, List.map_nil]
    rw [foldl_first_cons, ih]
    simp [List.foldl_cons, List.foldl_nil, Val.isNone]

theorem runTest_nil (ns : NsMap) (vs : Vars) (es : List Event) :
    runTest [] ns vs [] es = List.replicate es.length .none := by
  induction es with
  | nil => rfl
  | cons e es ih => simp [runTest, multiStep, ih, List.replicate_succ]

/-- one position: of two results that are `None` or `True` the first non-None is one too, and is `True` iff one is -/
theorem first_ok {x y : Val} {P : Prop} (hx : x = .none ∨ (x = .bool true ∧ P)) (hy : y = .none ∨ (y = .bool true ∧ P)) :
    ((if x.isNone then y else x) = .none ∨ ((if x.isNone then y else x) = .bool true ∧ P)) ∧
    (if x.isNone then y else x).truthy = (x.truthy || y.truthy) := by
  rcases hx with rfl | ⟨rfl, hP⟩
  · exact ⟨hy, rfl⟩
  · rcases hy with rfl | ⟨rfl, _⟩ <;> exact ⟨Or.inr ⟨rfl, hP⟩, rfl⟩

theorem okVals_or2 : ∀ (locs : List (Option LNode)) (a b : List Val), okVals a locs → okVals b locs →
    okVals (or2 a b) locs ∧ ∀ x : List Nat, selB (or2 a b) locs x = (selB a locs x || selB b locs x)
  | [], [], [], _, _ => ⟨trivial, fun _ => rfl⟩
  | l :: ls, x :: a, y :: b, ha, hb => by
      obtain ⟨ih1, ih2⟩ := okVals_or2 ls a b ha.2 hb.2
      obtain ⟨h1, h2⟩ := first_ok ha.1 hb.1
      refine ⟨⟨h1, ih1⟩, fun z => ?_⟩
      rw [or2_cons, selB_cons, selB_cons, selB_cons, h2, ih2 z, Bool.and_or_distrib_right]
      ac_rfl
  | [], _ :: _, _, ha, _ => by simp [okVals] at ha
  | [], [], _ :: _, _, hb => by simp [okVals] at hb
  | _ :: _, [], _, ha, _ => by simp [okVals] at ha
  | _ :: _, _ :: _, [], _, hb => by simp [okVals] at hb

theorem operands_run (ns : NsMap) (vs : Vars) (xvs : XVars) (root : Node) :
    ∀ (ps : List LocPath) (ms : List Matcher) (sts : List MState), Operands ns vs xvs root ps ms sts →
      okVals (runTest ms ns vs sts root.flatten) (eventLocs root []) ∧
      ∀ x : LNode, selB (runTest ms ns vs sts root.flatten) (eventLocs root []) x.loc
          = nodeSelected ps ns xvs ⟨[], root⟩ x := by
  intro ps ms sts h
  induction h with
  | nil =>
    rw [runTest_nil, ← eventLocs_length root []]
    obtain ⟨h1, h2⟩ := okVals_replicate (eventLocs root [])
    exact ⟨h1, fun x => by simp [h2 x.loc, nodeSelected]⟩
  | @cons p ps m ms st sts hop _ ih =>
    rw [runTest_cons_or]
    obtain ⟨h1, h2⟩ := okVals_or2 _ _ _ hop.ok ih.1
    refine ⟨h1, fun x => ?_⟩
    rw [h2 x.loc, hop.sel x, ih.2 x]
    obtain ⟨last, hl, hna⟩ := hop.nonAttr
    have hna' : (last.axis != Axis.attribute) = true := by simpa using hna
    simp [nodeSelected, List.any_cons, hl, hna']

theorem operands_nonAttr (ns : NsMap) (vs : Vars) (xvs : XVars) (root : Node) :
    ∀ (ps : List LocPath) (ms : List Matcher) (sts : List MState), Operands ns vs xvs root ps ms sts →
      ∀ p ∈ ps, ∃ last, p.getLast? = some last ∧ last.axis ≠ .attribute := by
  intro ps ms sts h
  induction h with
  | nil => intro p hp; simp at hp
  | cons hop _ ih =>
    intro p hp
    rcases List.mem_cons.mp hp with h1 | h1
    · rw [h1]; exact hop.nonAttr
    · exact ih p h1

/-- **unions**: if every operand's matcher designates its XPath node set, `Path.select` over
    the union delivers the outermost nodes of the union of the node sets -/
theorem select_union (ns : NsMap) (vs : Vars) (xvs : XVars) (tag : QName) (attrs : AttrList) (kids : List Node)
    (hok : okList kids = true) (ps : List LocPath) (ms : List Matcher) (sts : List MState)
    (h : Operands ns vs xvs (.elem tag attrs kids) ps ms sts) :
    selectGo ms ns vs sts 0 (Node.elem tag attrs kids).flatten = xpSelect ps ns xvs (.elem tag attrs kids) := by
  have hrok : (Node.elem tag attrs kids).ok = true := by simpa [Node.ok] using hok
  obtain ⟨hokv, hsel⟩ := operands_run ns vs xvs _ ps ms sts h
  rw [selectGo_eq_emitV, emitV_pick _ hrok [] _ hokv]
  unfold xpSelect
  have hasel : attrsSelected ps ns xvs ⟨[], .elem tag attrs kids⟩ = fun _ => [] := by
    funext n
    unfold attrsSelected
    cases n.node with
    | leaf e => rfl
    | elem t a ks =>
      apply List.filter_eq_nil_iff.mpr
      intro at_ _
      simp only [List.any_eq_true, not_exists, not_and]
      intro p hp
      obtain ⟨last, hl, hna⟩ := operands_nonAttr ns vs xvs _ ps ms sts h p hp
      have hna' : (last.axis == Axis.attribute) = false := by simpa using hna
      simp [hl, hna']
  rw [hasel, show selOf _ _ = nodeSelected ps ns xvs ⟨[], .elem tag attrs kids⟩ from
    funext fun m => (selOf_eq_selB _ _ m).trans (hsel m)]

/-- one operand: a matcher that designates the node set of `p` selects what XPath selects -/
theorem select_of_operand (ns : NsMap) (vs : Vars) (xvs : XVars) (tag : QName) (attrs : AttrList) (kids : List Node)
    (hok : okList kids = true) {p : LocPath} {m : Matcher} {st : MState}
    (h : Operand ns vs xvs (.elem tag attrs kids) p m st) :
    selectGo [m] ns vs [st] 0 (Node.elem tag attrs kids).flatten = xpSelect [p] ns xvs (.elem tag attrs kids) :=
  select_union ns vs xvs tag attrs kids hok [p] _ _ (.cons h .nil)

end Genshi.Path
