/-
  What the `select_eq_xp` theorems ask of a tree and of a path (`elemWf`, `TestOk`, `numTyped`, `CandOk`,
  `NodeFor`), and the three places where the matchers' terms meet the reference's: the node test at a node's
  event (`matches_eq_testNode`), the outcome of a predicate (`predHoldsM_eq`), one counting pass over the
  nodes of an axis (`step_pass`: XPath's node test and successive predicate filters).
-/
import Genshi.Lemmas.PathCall
import Genshi.Lemmas.PathTreeRun
import Genshi.Lemmas.PathFilter
import Genshi.Lemmas.PathEval
import Genshi.Lemmas.ListBasics
namespace Genshi.Path
open Genshi Genshi.Path.Ref

abbrev evOf : LNode → Event := fun m => nodeEvent m.node

def mtest (s : Step) (ns : NsMap) (n : LNode) : Bool := s.test.matches (nodeEvent n.node) ns

/-- node tests as the parser builds them for the element axes: no attribute flag, prefixes
    bound, names hygienic -/
def NodeTest.elemWf (ns : NsMap) : NodeTest → Prop
  | .principal a => a = false
  | .qprincipal a pfx => a = false ∧ (lookup pfx ns).isSome
  | .localName a _ => a = false
  | .qname a pfx name => a = false ∧ (∃ u, lookup pfx ns = some u ∧ '}' ∉ u) ∧ nameOk name = true
  | _ => True

def tagsOk : Node → Prop
  | .elem t _ _ => qnOk t
  | .leaf _ => True

/-- what comparing the matchers' node test with XPath's asks of a node: a leaf is not a START /
    END event, the tag of an element is hygienic -/
def TestOk (n : Node) : Prop := (match n with | .leaf e => e.isStartEnd = false | _ => True) ∧ tagsOk n

theorem matches_eq_testNode (t : NodeTest) (ns : NsMap) (hwf : t.elemWf ns) (n : Node) (hn : TestOk n) :
    t.matches (nodeEvent n) ns = testNode t n ns := by
  obtain ⟨hcl, htag⟩ := hn
  unfold NodeTest.matches
  cases n with
  | elem tg a ks =>
    cases t with
    | principal f => simp [NodeTest.elemWf] at hwf; subst hwf
                     simp [nodeEvent, NodeTest.apply, testNode, Val.truthy]
    | qprincipal f pfx =>
      simp only [NodeTest.elemWf] at hwf
      obtain ⟨hf, hb⟩ := hwf; subst hf
      obtain ⟨u, hu⟩ := Option.isSome_iff_exists.mp hb
      simp [nodeEvent, NodeTest.apply, testNode, Val.truthy, nsOf, hu]
    | localName f name => simp [NodeTest.elemWf] at hwf; subst hwf
                          simp [nodeEvent, NodeTest.apply, testNode, Val.truthy]
    | qname f pfx name =>
      simp only [NodeTest.elemWf] at hwf
      obtain ⟨hf, ⟨u, hu, hnu⟩, hname⟩ := hwf; subst hf
      simp only [↓reduceIte, nodeEvent, NodeTest.apply, testNode, Val.truthy, nsOf, hu, Option.getD_some,
        Bool.false_eq_true]
      have hti := text_inj (q := tg) (r := ⟨u, name⟩) htag ⟨hname, hnu⟩
      by_cases heq : tg = ⟨u, name⟩
      · subst heq; simp
      · have h1 : (tg.text == (⟨u, name⟩ : QName).text) = false := by
          simpa using fun h => heq (hti.mp h)
        rw [h1]
        obtain ⟨tn, tl⟩ := tg
        by_cases h2 : tn = u <;> by_cases h3 : tl = name <;> simp_all
    | comment => simp [nodeEvent, NodeTest.apply, testNode, Val.truthy]
    | node => simp [nodeEvent, NodeTest.apply, testNode, Val.truthy]
    | pi tg => cases tg <;> simp [nodeEvent, NodeTest.apply, testNode, Val.truthy]
    | text => simp [nodeEvent, NodeTest.apply, testNode, Val.truthy]
  | leaf e =>
    simp only at hcl
    cases t with
    | pi tg =>
      cases tg <;> cases e <;>
        first | rfl | cases hcl | simp [nodeEvent, NodeTest.apply, testNode, Val.truthy]
    | _ => cases e <;> first | rfl | cases hcl

theorem mtest_eq_testNode (s : Step) (ns : NsMap) (hwf : s.test.elemWf ns) (n : LNode)
    (hcl : (match n.node with | .leaf e => e.isStartEnd = false | _ => True)) (htag : tagsOk n.node) :
    mtest s ns n = testNode s.test n.node ns :=
  matches_eq_testNode s.test ns hwf n.node ⟨hcl, htag⟩

/-- whether a predicate is a position test is static -/
def Expr.numTyped (vs : Vars) : Expr → Bool
  | .num _ => true
  | .var n => (match lookup n vs with
      | some (.num _) => true
      | _ => false)
  | .fn1 f _ => f == .number || f == .ceiling || f == .floor || f == .round || f == .stringLength
  | _ => false

theorem isNum_eval (e : Expr) (ev : Event) (ns : NsMap) (vs : Vars) :
    (e.eval ev ns vs).isNum = e.numTyped vs := by
  cases e with
  | test t =>
    simp only [Expr.eval, Expr.numTyped]
    cases t <;> cases ev <;> first | rfl | (simp only [NodeTest.apply] <;> (repeat' split) <;> rfl)
  | var n => simp only [Expr.eval, Expr.numTyped]; cases lookup n vs with
    | none => rfl
    | some v => cases v <;> rfl
  | fn0 f => cases f <;> cases ev <;> rfl
  | fn1 f a => cases f <;> rfl
  | fn2 f a b => cases f <;> rfl
  | fn3 f a b c => cases f <;> rfl
  | _ => rfl

/-- "a name test the parser builds for the attribute axis", as the matchers' files and the reference side spell it -/
theorem NodeTest.attrFlag_eq_isAttrName (t : NodeTest) : t.attrFlag = t.isAttrName := by
  cases t with
  | principal b | qprincipal b _ | localName b _ | qname b _ _ => cases b <;> rfl
  | _ => rfl

/-- hypotheses about the candidates of a step: hygienic nodes, predicates inside the typed
    fragment and clear of the pinned absent-attribute comparison -/
def CandOk (s : Step) (ns : NsMap) (vs : Vars) (n : LNode) : Prop :=
  nodeOk n.node ∧ tagsOk n.node ∧ ∀ p ∈ s.preds, p.absentFree (nodeEvent n.node) ns vs = true

/-- what the theorems need of every node of the tree, for the steps of path `p` -/
def NodeFor (p : LocPath) (ns : NsMap) (vs : Vars) (n : Node) : Prop :=
  nodeOk n ∧ tagsOk n ∧ (match n with | .leaf e => e.isStartEnd = false | _ => True) ∧
  ∀ s ∈ p, ∀ q ∈ s.preds, q.absentFree (nodeEvent n) ns vs = true

/-- the outcome of a predicate as the matchers use it is XPath's (`eval_toX`) -/
theorem predHoldsM_eq (n : Node) (hn : nodeOk n) (ns : NsMap) (vs : Vars) (p : Expr)
    (ht : p.typed ns vs = true) (hab : p.absentFree (nodeEvent n) ns vs = true) (pos : Nat) :
    predHoldsM ns vs p (nodeEvent n) pos = predHolds p n pos ns (toXVars vs) := by
  have h := eval_toX n hn ns vs p ht hab
  unfold predHoldsM predHolds
  cases hv : p.eval (nodeEvent n) ns vs <;> rw [hv] at h <;> simp [Val.toX] at h <;> rw [← h] <;>
    simp [Val.truthy, xBoolean]

/-- **one pass over the nodes of an axis = XPath's node test and successive predicate filters**
    (`sfilter_eq_fpreds`, `fpreds_eq_filterPreds`, with `predHoldsM_eq` for every candidate) -/
theorem step_pass (s : Step) (ns : NsMap) (vs : Vars) (hwf : s.test.elemWf ns)
    (htyped : ∀ p ∈ s.preds, p.typed ns vs = true) (L : List LNode) (hL : ∀ n ∈ L, CandOk s ns vs n) :
    (sfilter ns vs evOf s.preds [] (L.filter (mtest s ns))).1
      = filterPreds s.preds ns (toXVars vs) (L.filter fun n => testNode s.test n.node ns) := by
  have hfil : L.filter (mtest s ns) = L.filter fun n => testNode s.test n.node ns :=
    List.filter_congr fun n hn => mtest_eq_testNode s ns hwf n
      (by have := (hL n hn).1; cases hnode : n.node <;> simp_all [nodeOk]) (hL n hn).2.1
  rw [hfil, sfilter_eq_fpreds ns vs evOf (Expr.numTyped vs) s.preds _ (fun n _ p _ => isNum_eval p (evOf n) ns vs) []]
  simp only [List.getD_nil]
  exact fpreds_eq_filterPreds ns (toXVars vs) vs evOf (Expr.numTyped vs) s.preds 0 _
    (fun n hn p hp pos =>
      have hc := hL n (List.mem_filter.mp hn).1
      predHoldsM_eq n.node hc.1 ns vs p (htyped p hp) (hc.2.2 p hp) pos)
    (fun n _ p _ => isNum_eval p (evOf n) ns vs)

end Genshi.Path
