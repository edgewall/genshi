/-
  C03 — the rewritten expression, evaluated by Python, computes what the documented template
  semantics prescribes for the original expression (`xf_eval`, for every scope stack and environment it
  describes; `xform_correct` of `Props/C03.lean` is its instance at the start).
-/
import Genshi.Model.PyEval
import Genshi.Lemmas.PyXform
namespace Genshi.Py

def reserved : List Str := [cs!"__data__", cs!"_lookup_name", cs!"_lookup_attr", cs!"_lookup_item"]

mutual
/-- a target that only binds names (no attribute / item assignment) -/
def simpleTarget : PyExpr → Bool
  | .name _ => true
  | .tuple elts => simpleTargetL elts
  | .list elts => simpleTargetL elts
  | .starred e => simpleTarget e
  | _ => false
def simpleTargetL : List PyExpr → Bool
  | [] => true
  | e :: es => simpleTarget e && simpleTargetL es
end

def freeOfReserved (names : List Str) : Bool := names.all fun n => !reserved.contains n

def optIsParam : Option PyExpr → Bool
  | none => true
  | some p => isParam p

mutual
/-- the side conditions of `xform_correct`: no parameter or loop variable is named like one of
    the helper names of the rewriting, loop targets only bind names, helper nodes are where
    they belong -/
def okScopes : PyExpr → Bool
  | .name _ => true
  | .const _ => true
  | .boolOp _ vs => okScopesL vs
  | .binOp l _ r => okScopes l && okScopes r
  | .unaryOp _ e => okScopes e
  | .lambda po ar va ko ka body =>
      freeOfReserved (targetNamesL po ++ targetNamesL ar ++ targetNamesL ko ++ targetNamesO va ++ targetNamesO ka)
        && po.all isParam && ar.all isParam && ko.all isParam && optIsParam va && optIsParam ka
        && okScopesL po && okScopesL ar && okScopesL ko && okScopes body
  | .ifExp t b o => okScopes t && okScopes b && okScopes o
  | .dict items => items.all isDictItemE && okScopesL items
  | .listComp elt gens => freeOfReserved (compNames gens) && gens.all isCompE && okScopes elt && okScopesL gens
  | .genExp elt gens => freeOfReserved (compNames gens) && gens.all isCompE && okScopes elt && okScopesL gens
  | .yield_ v => okScopesO v
  | .compare l rest => rest.all isCmpE && okScopes l && okScopesL rest
  | .call f args kws => kws.all isKw && okScopes f && okScopesL args && okScopesL kws
  -- a starred operand would become a starred *argument* of the lookup call, which `evalArgs` unpacks
  -- (while `eval (.starred e) = eval e`)
  | .attribute v _ => !isStarredE v && okScopes v
  | .subscript v s => !isStarredE v && !isStarredE s && okScopes v && okScopes s
  | .slice l u st => okScopesO l && okScopesO u && okScopesO st
  | .starred e => okScopes e
  | .list elts => okScopesL elts
  | .tuple elts => okScopesL elts
  | .unsupported _ => true
  | .keyword _ v => okScopes v
  | .comp t it ifs _ => simpleTarget t && okScopes it && okScopesL ifs
  | .param _ _ d => okScopesO d
  | .dictItem k v => okScopesO k && okScopes v
  | .cmpRhs _ e => okScopes e
def okScopesL : List PyExpr → Bool
  | [] => true
  | e :: es => okScopes e && okScopesL es
def okScopesO : Option PyExpr → Bool
  | none => true
  | some e => okScopes e
end

section
variable {V E : Type}

/-- the transformer's `locals` stack describes the evaluation environment: a name is in it iff
    it is declared in a local scope (or is one of `CONSTANTS`) -/
def Inv (L : List (List Str)) (env : Env V) : Prop :=
  ∀ id, inLocals L id = true ↔ ((env.find id).isSome = true ∨ id ∈ constantNames)

/-- no helper name of the rewriting is shadowed by a local -/
def Res (env : Env V) : Prop := ∀ r ∈ reserved, env.find r = none

/-- a name the environment declares is on the `locals` stack -/
theorem Inv.of_find {L : List (List Str)} {env : Env V} (h : Inv L env) {id : Str} {v : Option V}
    (hf : env.find id = some v) : inLocals L id = true :=
  (h id).mpr (Or.inl (by rw [hf]; rfl))

/-- a name on the stack that the environment does not declare is one of `CONSTANTS` -/
theorem Inv.const_of_none {L : List (List Str)} {env : Env V} (h : Inv L env) {id : Str}
    (hin : inLocals L id = true) (hf : env.find id = none) : id ∈ constantNames :=
  ((h id).mp hin).resolve_left (by rw [hf]; exact Bool.false_ne_true)

/-- where the transformer starts: `CONSTANTS` is the only scope on `locals` and nothing is declared, so `Inv` holds
    through its `constantNames` disjunct alone -/
theorem inv_start : Inv [constantNames] ([] : Env V) := by
  intro id
  simp [inLocals, Env.find]

theorem res_start : Res ([] : Env V) := fun _ _ => rfl

theorem inLocals_append (L : List (List Str)) (names : List Str) (id : Str) :
    inLocals (L ++ [names]) id = (inLocals L id || names.contains id) := by
  simp [inLocals, List.any_append]

theorem find_append (a b : Env V) (id : Str) :
    (a ++ b).find id = match a.find id with | some v => some v | none => b.find id := by
  induction a with
  | nil => rfl
  | cons p r ih =>
    obtain ⟨n, v⟩ := p
    simp only [List.cons_append, Env.find]
    split
    · rfl
    · exact ih

theorem find_declared (names : List Str) (f : Str → Option V) (id : Str) :
    (Env.find (names.map fun n => (n, f n)) id).isSome = names.contains id := by
  induction names with
  | nil => rfl
  | cons n r ih =>
    simp only [List.map_cons, Env.find, List.contains_cons]
    by_cases h : n = id
    · simp [h]
    · have : (id == n) = false := by simpa using fun e => h e.symm
      simp [h, ih, this]

theorem find_scope_isSome (names : List Str) (f : Str → Option V) (env : Env V) (id : Str) :
    (Env.find ((names.map fun n => (n, f n)) ++ env) id).isSome = (names.contains id || (env.find id).isSome) := by
  rw [find_append]
  have := find_declared names f id
  cases h : Env.find (names.map fun n => (n, f n)) id with
  | some v => simp [h] at this; simp [this]
  | none => simp [h] at this; simp [this]

theorem inv_scope {L : List (List Str)} {env : Env V} (h : Inv L env) (names : List Str) (f : Str → Option V) :
    Inv (L ++ [names]) ((names.map fun n => (n, f n)) ++ env) := by
  intro id
  rw [inLocals_append, find_scope_isSome, Bool.or_eq_true, h id]
  simp only [Bool.or_eq_true]
  constructor
  · rintro ((a | b) | c)
    · exact Or.inl (Or.inr a)
    · exact Or.inr b
    · exact Or.inl (Or.inl c)
  · rintro ((a | b) | c)
    · exact Or.inr a
    · exact Or.inl (Or.inl b)
    · exact Or.inl (Or.inr c)

theorem res_scope {env : Env V} (h : Res env) (names : List Str) (f : Str → Option V)
    (hn : freeOfReserved names = true) : Res ((names.map fun n => (n, f n)) ++ env) := by
  intro r hr
  have h1 : names.contains r = false := by
    simp only [freeOfReserved, List.all_eq_true, Bool.not_eq_true'] at hn
    cases hc : names.contains r with
    | false => rfl
    | true =>
      have hm : r ∈ names := by simpa using hc
      have := hn r hm
      simp [hr] at this
  have h2 := find_scope_isSome names f env r
  rw [h1, h r hr] at h2
  cases hf : Env.find ((names.map fun n => (n, f n)) ++ env) r with
  | none => rfl
  | some v => simp [hf] at h2

theorem inv_declare {L : List (List Str)} {env : Env V} (h : Inv L env) (names : List Str) :
    Inv (L ++ [names]) (declare names env) :=
  inv_scope h names fun _ => none

theorem res_declare {env : Env V} (h : Res env) (names : List Str) (hn : freeOfReserved names = true) :
    Res (declare names env) :=
  res_scope h names (fun _ => none) hn

theorem find_set_isSome (env : Env V) (id : Str) (v : V) (id' : Str) :
    ((env.set id v).find id').isSome = (env.find id').isSome := by
  induction env with
  | nil => rfl
  | cons p r ih =>
    obtain ⟨n, old⟩ := p
    simp only [Env.set]
    split
    · simp only [Env.find]; split <;> rfl
    · simp only [Env.find]; split
      · rfl
      · exact ih

theorem find_assign_isSome (env : Env V) (b : List (Str × V)) (id' : Str) :
    ((env.assign b).find id').isSome = (env.find id').isSome := by
  unfold Env.assign
  induction b generalizing env with
  | nil => rfl
  | cons p r ih => simp only [List.foldl_cons]; rw [ih, find_set_isSome]

theorem inv_assign {L : List (List Str)} {env : Env V} (h : Inv L env) (b : List (Str × V)) : Inv L (env.assign b) := by
  intro id; rw [find_assign_isSome]; exact h id

theorem res_assign {env : Env V} (h : Res env) (b : List (Str × V)) : Res (env.assign b) := by
  intro r hr
  have := find_assign_isSome env b r
  rw [h r hr] at this
  cases hf : (env.assign b).find r with
  | none => rfl
  | some v => simp [hf] at this

mutual
theorem xfTarget_simple : ∀ (L : List (List Str)) (t : PyExpr), simpleTarget t = true → xfTarget L t = t
  | L, t, h => by
      cases t with
      | name _ => rfl
      | tuple elts => simp only [simpleTarget] at h; simp only [xfTarget, xfTargetL_simple L elts h]
      | list elts => simp only [simpleTarget] at h; simp only [xfTarget, xfTargetL_simple L elts h]
      | starred e => simp only [simpleTarget] at h; simp only [xfTarget, xfTarget_simple L e h]
      | _ => exact absurd h Bool.false_ne_true
theorem xfTargetL_simple : ∀ (L : List (List Str)) (ts : List PyExpr), simpleTargetL ts = true → xfTargetL L ts = ts
  | _, [], _ => rfl
  | L, t :: ts, h => by
      simp only [simpleTargetL, Bool.and_eq_true] at h
      simp only [xfTargetL, xfTarget_simple L t h.1, xfTargetL_simple L ts h.2]
end

theorem compNames_xfGens (L0 L1 : List (List Str)) (gens : List PyExpr) (hc : gens.all isCompE = true)
    (h : okScopesL gens = true) : compNames (xfGens L0 L1 gens) = compNames gens := by
  induction gens generalizing L0 with
  | nil => rfl
  | cons c r ih =>
    simp only [List.all_cons, Bool.and_eq_true] at hc
    simp only [okScopesL, Bool.and_eq_true] at h
    cases c with
    | comp t it ifs a =>
      simp only [okScopes, Bool.and_eq_true] at h
      simp only [xfGens, compNames, xfTarget_simple _ t h.1.1.1, ih L1 hc.2 h.2]
    | _ => exact absurd hc.1 Bool.false_ne_true

end

section
variable {V E : Type} (σ : Sem V E) (w : World V E) (g : Str → Except E V)

/-- in the globals `g` of the rewritten code, `__data__`, `_lookup_name`, `_lookup_attr` and
    `_lookup_item` are what `LookupBase.globals` puts there: calling them is applying the lookup
    rules; a string constant denotes its string; and a name of `CONSTANTS` is in the globals what the lookup
    rules make of it, i.e. not shadowed by the context data (for `NotImplemented` and `Ellipsis`, the two that are
    not keywords and so can occur as names, this is the known finding C03-constant-names) -/
structure Linked : Prop where
  data : ∃ D LN, g cs!"__data__" = .ok D ∧ g cs!"_lookup_name" = .ok LN ∧
      ∀ id, σ.call LN [(false, D), (false, σ.strV id)] [] = lookupName w id
  attr : ∃ LA, g cs!"_lookup_attr" = .ok LA ∧
      ∀ obj a, σ.call LA [(false, obj), (false, σ.strV a)] [] = lookupAttr σ w obj a
  item : ∃ LI, g cs!"_lookup_item" = .ok LI ∧
      ∀ obj k, ∃ T, σ.mkTuple [(false, k)] = .ok T ∧ σ.call LI [(false, obj), (false, T)] [] = lookupItem σ w obj k
  str : ∀ id, σ.const ⟨.str, '\'' :: (id ++ ['\''])⟩ = σ.strV id
  consts : ∀ id ∈ constantNames, g id = lookupName w id

variable {σ w g}

theorem res_find {env : Env V} (hR : Res env) (r : Str) (hr : r ∈ reserved) : env.find r = none := hR r hr

theorem evalArgs_cons_plain (look : Look V E) (e : PyExpr) (rest : List PyExpr) (env : Env V)
    (h : isStarredE e = false) :
    evalArgs σ look (e :: rest) env = (do
      let x ← eval σ look e env
      let xs ← evalArgs σ look rest env
      .ok ((false, x) :: xs)) := by
  rw [evalArgs]
  -- side condition of the last equation of `evalArgs`: `e` is not starred
  intro y hy; subst hy; simp [isStarredE] at h

theorem eval_free (look : Look V E) (id : Str) (env : Env V) (h : env.find id = none) :
    eval σ look (.name id) env = look.free id := by
  simp [eval, h]

/-- a call `f(a, b)` of a global `f` with two plain arguments: the shape of the three calls the rewriting writes -/
theorem eval_call2 (look : Look V E) (f : Str) (a b : PyExpr) (env : Env V) (hf : env.find f = none)
    (ha : isStarredE a = false) (hb : isStarredE b = false) :
    eval σ look (.call (.name f) [a, b] []) env = (do
      let fv ← look.free f
      let x ← eval σ look a env
      let y ← eval σ look b env
      σ.call fv [(false, x), (false, y)] []) := by
  rw [eval, eval_free look f env hf, evalArgs_cons_plain _ _ _ _ ha, evalArgs_cons_plain _ _ _ _ hb]
  simp only [evalArgs, evalKws, bind_assoc]
  rfl

theorem eval_strConst (look : Look V E) (hL : Linked σ w g) (s : Str) (env : Env V) :
    eval σ look (strConst s) env = .ok (σ.strV s) := by
  rw [strConst, eval, hL.str]

theorem eval_lookupName (hL : Linked σ w g) {env : Env V} (hR : Res env) (id : Str) :
    eval σ (pyLook σ g) (lookupNameCall id) env = lookupName w id := by
  obtain ⟨D, LN, hD, hLN, hcall⟩ := hL.data
  rw [lookupNameCall, eval_call2 _ _ _ _ _ (hR _ (by decide)) rfl rfl, eval_free _ _ _ (hR _ (by decide)),
    eval_strConst _ hL]
  simp only [pyLook, hLN, hD, bind, Except.bind]
  exact hcall id

theorem eval_lookupAttr (hL : Linked σ w g) {env : Env V} (hR : Res env) (v : PyExpr) (a : Str)
    (hv : isStarredE v = false) :
    eval σ (pyLook σ g) (lookupAttrCall v a) env
      = (eval σ (pyLook σ g) v env).bind fun x => lookupAttr σ w x a := by
  obtain ⟨LA, hLA, hcall⟩ := hL.attr
  rw [lookupAttrCall, eval_call2 _ _ _ _ _ (hR _ (by decide)) hv rfl, eval_strConst _ hL]
  show (g _).bind _ = _
  rw [hLA]
  exact congrArg _ (funext fun x => hcall x a)

theorem eval_lookupItem (hL : Linked σ w g) {env : Env V} (hR : Res env) (v k : PyExpr)
    (hv : isStarredE v = false) (hk : isStarredE k = false) :
    eval σ (pyLook σ g) (lookupItemCall v k) env
      = (eval σ (pyLook σ g) v env).bind fun x =>
          (eval σ (pyLook σ g) k env).bind fun y => lookupItem σ w x y := by
  obtain ⟨LI, hLI, hcall⟩ := hL.item
  rw [lookupItemCall, eval_call2 _ _ _ _ _ (hR _ (by decide)) hv rfl]
  show (g _).bind _ = _
  rw [hLI, eval, evalArgs_cons_plain _ _ _ _ hk]
  simp only [evalArgs, bind, Except.bind]
  cases eval σ (pyLook σ g) v env with
  | error e => rfl
  | ok x =>
    cases eval σ (pyLook σ g) k env with
    | error e => rfl
    | ok y =>
      obtain ⟨T, hT, hc⟩ := hcall x y
      simp [hT, hc]

theorem targetNamesL_xfL (L : List (List Str)) (ps : List PyExpr) (h : ps.all isParam = true) :
    targetNamesL (xfL L ps) = targetNamesL ps := by
  induction ps with
  | nil => rfl
  | cons p r ih =>
    simp only [List.all_cons, Bool.and_eq_true] at h
    cases p with
    | param n ann d => simp only [xfL, xf, targetNamesL, targetNames, ih h.2]
    | _ => exact absurd h.1 Bool.false_ne_true

theorem targetNamesO_xfO (L : List (List Str)) (o : Option PyExpr) (h : optIsParam o = true) :
    targetNamesO (xfO L o) = targetNamesO o ∧ optName (xfO L o) = optName o := by
  cases o with
  | none => exact ⟨rfl, rfl⟩
  | some p =>
    cases p with
    | param n ann d => exact ⟨rfl, rfl⟩
    | _ => exact absurd h Bool.false_ne_true

theorem runFrom_congr {look₁ look₂ : Look V E} {t : PyExpr} {ifs₁ ifs₂ rest₁ rest₂ : List PyExpr} {elt₁ elt₂ : PyExpr}
    {env : Env V}
    (hc : ∀ b, evalConds σ look₁ ifs₁ (env.assign b) = evalConds σ look₂ ifs₂ (env.assign b))
    (hg : ∀ b, runGens σ look₁ rest₁ (env.assign b) elt₁ = runGens σ look₂ rest₂ (env.assign b) elt₂) (items : List V) :
    runFrom σ look₁ t ifs₁ rest₁ items env elt₁ = runFrom σ look₂ t ifs₂ rest₂ items env elt₂ := by
  rw [runFrom, runFrom]
  simp only [hc, hg]

/- `Inv L env` is re-established at every scope the traversal enters: by `inv_scope` for the body of a lambda, by
   `inv_declare` / `inv_assign` inside a comprehension.  `Res` keeps the four helper names global, so that the calls
   the rewriting writes evaluate to the lookup rules (`eval_lookupName / Attr / Item`). -/
mutual
theorem xf_eval (hL : Linked σ w g) : ∀ (e : PyExpr) (L : List (List Str)) (env : Env V), Inv L env → Res env → okScopes e = true →
    eval σ (pyLook σ g) (xf L e) env = eval σ (gsLook σ w) e env
  | .name id, L, env, hI, hR, _ => by
      simp only [xf]
      cases hf : env.find id with
      | some v => rw [if_pos (hI.of_find hf), eval, eval, hf]; cases v <;> rfl
      | none =>
        by_cases hin : inLocals L id = true
        · rw [if_pos hin, eval_free _ _ _ hf, eval_free _ _ _ hf]
          exact hL.consts id (hI.const_of_none hin hf)
        · rw [if_neg hin, eval_lookupName hL hR, eval_free _ _ _ hf]
          rfl
  | .boolOp op vs, L, env, hI, hR, hok => by
      simp only [okScopes] at hok
      simp only [xf]
      cases vs with
      | nil => rw [xfL, eval, eval]
      | cons v rest =>
        simp only [okScopesL, Bool.and_eq_true] at hok
        rw [xfL, eval, eval, xf_eval hL v L env hI hR hok.1]
        congr 1; funext x
        exact xf_evalBool hL _ x rest L env hI hR hok.2
  | .binOp l op r, L, env, hI, hR, hok => by
      simp only [okScopes, Bool.and_eq_true] at hok
      rw [xf, eval, eval, xf_eval hL l L env hI hR hok.1, xf_eval hL r L env hI hR hok.2]
  | .unaryOp _ e, L, env, hI, hR, hok | .starred e, L, env, hI, hR, hok | .keyword _ e, L, env, hI, hR, hok
  | .cmpRhs _ e, L, env, hI, hR, hok => by
      simp only [okScopes] at hok
      rw [xf, eval, eval, xf_eval hL e L env hI hR hok]
  | .lambda po ar va ko ka body, L, env, hI, hR, hok => by
      simp only [okScopes, Bool.and_eq_true] at hok
      obtain ⟨⟨⟨⟨⟨⟨⟨⟨⟨hfree, hpo⟩, har⟩, hko⟩, hva⟩, hka⟩, okpo⟩, okar⟩, okko⟩, okbody⟩ := hok
      rw [xf, eval, eval, xf_evalParams hL po L env hI hR hpo okpo, xf_evalParams hL ar L env hI hR har okar,
        xf_evalParams hL ko L env hI hR hko okko]
      rw [targetNamesL_xfL L po hpo, targetNamesL_xfL L ar har, targetNamesL_xfL L ko hko,
        (targetNamesO_xfO L va hva).1, (targetNamesO_xfO L va hva).2, (targetNamesO_xfO L ka hka).1,
        (targetNamesO_xfO L ka hka).2]
      have hbody : ∀ b : List (Str × V),
          eval σ (pyLook σ g)
              (xf (L ++ [targetNamesL po ++ targetNamesL ar ++ targetNamesL ko ++ targetNamesO va ++ targetNamesO ka]) body)
              (paramScope (targetNamesL po ++ targetNamesL ar ++ targetNamesL ko ++ targetNamesO va ++ targetNamesO ka) b ++ env)
            = eval σ (gsLook σ w) body
              (paramScope (targetNamesL po ++ targetNamesL ar ++ targetNamesL ko ++ targetNamesO va ++ targetNamesO ka) b ++ env) :=
        fun b => xf_eval hL body _ _ (inv_scope hI _ _) (res_scope hR _ _ hfree) okbody
      simp only [hbody]
  | .ifExp t b o, L, env, hI, hR, hok => by
      simp only [okScopes, Bool.and_eq_true] at hok
      rw [xf, eval, eval, xf_eval hL t L env hI hR hok.1.1, xf_eval hL b L env hI hR hok.1.2, xf_eval hL o L env hI hR hok.2]
  | .dict items, L, env, hI, hR, hok => by
      simp only [okScopes, Bool.and_eq_true] at hok
      rw [xf, eval, eval, xf_evalDict hL items L env hI hR hok.1 hok.2]
  | .listComp elt gens, L, env, hI, hR, hok => by
      simp only [okScopes, Bool.and_eq_true] at hok
      rw [xf, eval, eval, xf_evalComp_of hL gens L env hI hR hok.1.1.1 hok.1.1.2 hok.2
        (fun env hI hR => xf_eval hL elt _ env hI hR hok.1.2)]
  | .genExp elt gens, L, env, hI, hR, hok => by
      simp only [okScopes, Bool.and_eq_true] at hok
      obtain ⟨⟨⟨hfree, hall⟩, okelt⟩, okgens⟩ := hok
      simp only [xf]
      cases gens with
      | nil =>
        simp only [xfGens]; rw [eval, eval]
        -- side condition of the catch-all equation: the clause list is not `comp :: _`
        all_goals (intro _ _ _ _ _ h; cases h)
      | cons c rest =>
        simp only [List.all_cons, Bool.and_eq_true] at hall
        cases c with
        | comp t it ifs a =>
          simp only [okScopesL, okScopes, Bool.and_eq_true] at okgens
          obtain ⟨⟨⟨hst, okit⟩, okifs⟩, okrest⟩ := okgens
          simp only [xfGens]
          rw [eval, eval, xf_eval hL it L env hI hR okit]
          -- from here as in `xf_evalComp_of` (the generator only adds `getIter` on the first iterable)
          simp only [compNames, xfTarget_simple _ t hst, compNames_xfGens _ _ rest hall.2 okrest] at hfree ⊢
          simp only [runFrom_congr
            (fun b => xf_evalConds hL ifs _ _ (inv_assign (inv_declare hI _) b) (res_assign (res_declare hR _ hfree) b) okifs)
            (fun b => xf_runGens_of hL (fun env hI hR => xf_eval hL elt _ env hI hR okelt) rest _
              (inv_assign (inv_declare hI _) b) (res_assign (res_declare hR _ hfree) b) okrest hall.2)]
        | _ => exact absurd hall.1 Bool.false_ne_true
  | .yield_ v, L, env, hI, hR, hok | .param _ _ v, L, env, hI, hR, hok => by
      simp only [okScopes] at hok
      rw [xf, eval, eval, xf_evalOpt hL v L env hI hR hok]
  | .compare l rest, L, env, hI, hR, hok => by
      simp only [okScopes, Bool.and_eq_true] at hok
      rw [xf, eval, eval, xf_eval hL l L env hI hR hok.1.2]
      congr 1; funext a
      exact xf_evalCmp hL a rest L env hI hR hok.1.1 hok.2
  | .call f args kws, L, env, hI, hR, hok => by
      simp only [okScopes, Bool.and_eq_true] at hok
      rw [xf, eval, eval, xf_eval hL f L env hI hR hok.1.1.2, xf_evalArgs hL args L env hI hR hok.1.2,
        xf_evalKws hL kws L env hI hR hok.1.1.1 hok.2]
  | .attribute v a, L, env, hI, hR, hok => by
      simp only [okScopes, Bool.and_eq_true, Bool.not_eq_true'] at hok
      simp only [xf]
      rw [eval_lookupAttr hL hR _ _ (by rw [xf_starred]; exact hok.1), xf_eval hL v L env hI hR hok.2, eval]
      rfl
  | .subscript v s, L, env, hI, hR, hok => by
      simp only [okScopes, Bool.and_eq_true, Bool.not_eq_true'] at hok
      obtain ⟨⟨⟨hsv, hss⟩, okv⟩, oks⟩ := hok
      simp only [xf]
      by_cases hk : isSliceKey s = true
      · simp only [hk, if_true]
        rw [eval, eval, xf_eval hL v L env hI hR okv, xf_eval hL s L env hI hR oks]
        simp [hk, isSliceKey_xf]
      · simp only [hk, Bool.false_eq_true, if_false]
        rw [eval_lookupItem hL hR _ _ (by rw [xf_starred]; exact hsv) (by rw [xf_starred]; exact hss),
          xf_eval hL v L env hI hR okv, xf_eval hL s L env hI hR oks, eval]
        simp only [hk, Bool.false_eq_true, if_false, gsLook, bind, Except.bind]
  | .slice l u st, L, env, hI, hR, hok => by
      simp only [okScopes, Bool.and_eq_true] at hok
      rw [xf, eval, eval, xf_evalOpt hL l L env hI hR hok.1.1, xf_evalOpt hL u L env hI hR hok.1.2, xf_evalOpt hL st L env hI hR hok.2]
  | .list elts, L, env, hI, hR, hok | .tuple elts, L, env, hI, hR, hok => by
      simp only [okScopes] at hok
      rw [xf, eval, eval, xf_evalArgs hL elts L env hI hR hok]
  | .const _, _, _, _, _, _ | .unsupported _, _, _, _, _, _ => by rw [xf, eval, eval]
  | .comp t it ifs a, L, env, hI, hR, hok => by
      simp only [okScopes, Bool.and_eq_true] at hok
      rw [xf, eval, eval, xf_eval hL it L env hI hR hok.1.2]
  | .dictItem k v, L, env, hI, hR, hok => by
      simp only [okScopes, Bool.and_eq_true] at hok
      rw [xf, eval, eval, xf_eval hL v L env hI hR hok.2]
theorem xf_evalBool (hL : Linked σ w g) (isAnd : Bool) (x : V) : ∀ (vs : List PyExpr) (L : List (List Str)) (env : Env V), Inv L env → Res env →
    okScopesL vs = true →
    evalBool σ (pyLook σ g) isAnd x (xfL L vs) env = evalBool σ (gsLook σ w) isAnd x vs env
  | [], _, _, _, _, _ => by rw [xfL, evalBool, evalBool]
  | v :: rest, L, env, hI, hR, hok => by
      simp only [okScopesL, Bool.and_eq_true] at hok
      rw [xfL, evalBool, evalBool, xf_eval hL v L env hI hR hok.1]
      congr 1; funext t
      split
      · congr 1; funext y
        exact xf_evalBool hL isAnd y rest L env hI hR hok.2
      · rfl
theorem xf_evalCmp (hL : Linked σ w g) (a : V) : ∀ (rest : List PyExpr) (L : List (List Str)) (env : Env V), Inv L env → Res env →
    rest.all isCmpE = true → okScopesL rest = true →
    evalCmp σ (pyLook σ g) a (xfL L rest) env = evalCmp σ (gsLook σ w) a rest env
  | [], _, _, _, _, _, _ => by rw [xfL, evalCmp, evalCmp]
  | c :: rest, L, env, hI, hR, hall, hok => by
      simp only [List.all_cons, Bool.and_eq_true] at hall
      simp only [okScopesL, Bool.and_eq_true] at hok
      cases c with
      | cmpRhs op e =>
        simp only [okScopes] at hok
        simp only [xfL, xf]
        rw [evalCmp, evalCmp, xf_eval hL e L env hI hR hok.1]
        congr 1; funext b
        congr 1; funext r
        have hemp : (xfL L rest).isEmpty = rest.isEmpty := by cases rest <;> rfl
        rw [hemp]
        split
        · rfl
        · congr 1; funext t
          split
          · exact xf_evalCmp hL b rest L env hI hR hall.2 hok.2
          · rfl
      | _ => exact absurd hall.1 Bool.false_ne_true
theorem xf_evalOpt (hL : Linked σ w g) : ∀ (o : Option PyExpr) (L : List (List Str)) (env : Env V), Inv L env → Res env → okScopesO o = true →
    evalOpt σ (pyLook σ g) (xfO L o) env = evalOpt σ (gsLook σ w) o env
  | none, _, _, _, _, _ => by rw [xfO, evalOpt, evalOpt]
  | some e, L, env, hI, hR, hok => by
      simp only [okScopesO] at hok
      rw [xfO, evalOpt, evalOpt, xf_eval hL e L env hI hR hok]
theorem xf_evalArgs (hL : Linked σ w g) : ∀ (es : List PyExpr) (L : List (List Str)) (env : Env V), Inv L env → Res env → okScopesL es = true →
    evalArgs σ (pyLook σ g) (xfL L es) env = evalArgs σ (gsLook σ w) es env
  | [], _, _, _, _, _ => by rw [xfL, evalArgs, evalArgs]
  | e :: rest, L, env, hI, hR, hok => by
      simp only [okScopesL, Bool.and_eq_true] at hok
      simp only [xfL]
      by_cases hs : isStarredE e = true
      · cases e with
        | starred y =>
          simp only [okScopes] at hok
          simp only [xf]
          rw [evalArgs, evalArgs, xf_eval hL y L env hI hR hok.1, xf_evalArgs hL rest L env hI hR hok.2]
        | _ => exact absurd hs Bool.false_ne_true
      · have hs' : isStarredE e = false := by simpa using hs
        rw [evalArgs_cons_plain _ _ _ _ (by rw [xf_starred]; exact hs'), evalArgs_cons_plain _ _ _ _ hs',
          xf_eval hL e L env hI hR hok.1, xf_evalArgs hL rest L env hI hR hok.2]
theorem xf_evalKws (hL : Linked σ w g) : ∀ (es : List PyExpr) (L : List (List Str)) (env : Env V), Inv L env → Res env →
    es.all isKw = true → okScopesL es = true →
    evalKws σ (pyLook σ g) (xfL L es) env = evalKws σ (gsLook σ w) es env
  | [], _, _, _, _, _, _ => by rw [xfL, evalKws, evalKws]
  | e :: rest, L, env, hI, hR, hall, hok => by
      simp only [List.all_cons, Bool.and_eq_true] at hall
      simp only [okScopesL, Bool.and_eq_true] at hok
      cases e with
      | keyword n v =>
        simp only [okScopes] at hok
        simp only [xfL, xf]
        rw [evalKws, evalKws, xf_eval hL v L env hI hR hok.1, xf_evalKws hL rest L env hI hR hall.2 hok.2]
      | _ => exact absurd hall.1 Bool.false_ne_true
theorem xf_evalDict (hL : Linked σ w g) : ∀ (es : List PyExpr) (L : List (List Str)) (env : Env V), Inv L env → Res env →
    es.all isDictItemE = true → okScopesL es = true →
    evalDict σ (pyLook σ g) (xfL L es) env = evalDict σ (gsLook σ w) es env
  | [], _, _, _, _, _, _ => by rw [xfL, evalDict, evalDict]
  | e :: rest, L, env, hI, hR, hall, hok => by
      simp only [List.all_cons, Bool.and_eq_true] at hall
      simp only [okScopesL, Bool.and_eq_true] at hok
      cases e with
      | dictItem k v =>
        simp only [okScopes, Bool.and_eq_true] at hok
        simp only [xfL, xf]
        rw [evalDict, evalDict, xf_evalOpt hL k L env hI hR hok.1.1, xf_eval hL v L env hI hR hok.1.2,
          xf_evalDict hL rest L env hI hR hall.2 hok.2]
      | _ => exact absurd hall.1 Bool.false_ne_true
theorem xf_evalParams (hL : Linked σ w g) : ∀ (es : List PyExpr) (L : List (List Str)) (env : Env V), Inv L env → Res env →
    es.all isParam = true → okScopesL es = true →
    evalParams σ (pyLook σ g) (xfL L es) env = evalParams σ (gsLook σ w) es env
  | [], _, _, _, _, _, _ => by rw [xfL, evalParams, evalParams]
  | e :: rest, L, env, hI, hR, hall, hok => by
      simp only [List.all_cons, Bool.and_eq_true] at hall
      simp only [okScopesL, Bool.and_eq_true] at hok
      cases e with
      | param n ann d =>
        simp only [okScopes] at hok
        simp only [xfL, xf]
        rw [evalParams, evalParams, xf_evalOpt hL d L env hI hR hok.1, xf_evalParams hL rest L env hI hR hall.2 hok.2]
      | _ => exact absurd hall.1 Bool.false_ne_true
theorem xf_evalConds (hL : Linked σ w g) : ∀ (es : List PyExpr) (L : List (List Str)) (env : Env V), Inv L env → Res env → okScopesL es = true →
    evalConds σ (pyLook σ g) (xfL L es) env = evalConds σ (gsLook σ w) es env
  | [], _, _, _, _, _ => by rw [xfL, evalConds, evalConds]
  | c :: rest, L, env, hI, hR, hok => by
      simp only [okScopesL, Bool.and_eq_true] at hok
      rw [xfL, evalConds, evalConds, xf_eval hL c L env hI hR hok.1]
      congr 1; funext x
      congr 1; funext t
      split
      · exact xf_evalConds hL rest L env hI hR hok.2
      · rfl
/- The element `elt` of a comprehension is no sub-term of its clause list, so the clause lemmas cannot recurse on it:
   they take its equation as a hypothesis (`_of`), and `xf_eval` supplies it from the enclosing node. -/
theorem xf_evalComp_of (hL : Linked σ w g) {elt : PyExpr} :
    ∀ (gens : List PyExpr) (L : List (List Str)) (env : Env V), Inv L env → Res env →
      freeOfReserved (compNames gens) = true → gens.all isCompE = true → okScopesL gens = true →
      (∀ env, Inv (L ++ [compNames gens]) env → Res env →
        eval σ (pyLook σ g) (xf (L ++ [compNames gens]) elt) env = eval σ (gsLook σ w) elt env) →
      evalComp σ (pyLook σ g) (xf (L ++ [compNames gens]) elt) (xfGens L (L ++ [compNames gens]) gens) env
        = evalComp σ (gsLook σ w) elt gens env
  | [], _, _, _, _, _, _, _, _ => by
      simp only [xfGens]; rw [evalComp, evalComp]
      all_goals (intro _ _ _ _ _ h; cases h)
  | c :: rest, L, env, hI, hR, hfree, hall, okgens, helt => by
      simp only [List.all_cons, Bool.and_eq_true] at hall
      cases c with
      | comp t it ifs a =>
        simp only [okScopesL, okScopes, Bool.and_eq_true] at okgens
        obtain ⟨⟨⟨hst, okit⟩, okifs⟩, okrest⟩ := okgens
        simp only [compNames] at hfree helt ⊢
        simp only [xfGens]
        rw [evalComp, evalComp, xf_eval hL it L env hI hR okit, xfTarget_simple _ t hst, compNames_xfGens _ _ rest hall.2 okrest]
        simp only [runFrom_congr
          (fun b => xf_evalConds hL ifs _ _ (inv_assign (inv_declare hI _) b) (res_assign (res_declare hR _ hfree) b) okifs)
          (fun b => xf_runGens_of hL helt rest _ (inv_assign (inv_declare hI _) b) (res_assign (res_declare hR _ hfree) b)
            okrest hall.2)]
      | _ => exact absurd hall.1 Bool.false_ne_true
theorem xf_runGens_of (hL : Linked σ w g) {elt : PyExpr} {L1 : List (List Str)}
    (helt : ∀ env, Inv L1 env → Res env → eval σ (pyLook σ g) (xf L1 elt) env = eval σ (gsLook σ w) elt env) :
    ∀ (rest : List PyExpr) (env : Env V), Inv L1 env → Res env → okScopesL rest = true → rest.all isCompE = true →
      runGens σ (pyLook σ g) (xfGens L1 L1 rest) env (xf L1 elt) = runGens σ (gsLook σ w) rest env elt
  | [], env, hI, hR, _, _ => by
      simp only [xfGens]
      rw [runGens, runGens, helt env hI hR]
  | c :: rest, env, hI, hR, okgens, hall => by
      simp only [List.all_cons, Bool.and_eq_true] at hall
      cases c with
      | comp t it ifs a =>
        simp only [okScopesL, okScopes, Bool.and_eq_true] at okgens
        obtain ⟨⟨⟨hst, okit⟩, okifs⟩, okrest⟩ := okgens
        simp only [xfGens]
        rw [runGens, runGens, xf_eval hL it L1 env hI hR okit, xfTarget_simple _ t hst]
        simp only [runFrom_congr
          (fun b => xf_evalConds hL ifs _ _ (inv_assign hI b) (res_assign hR b) okifs)
          (fun b => xf_runGens_of hL helt rest _ (inv_assign hI b) (res_assign hR b) okrest hall.2)]
      | _ => exact absurd hall.1 Bool.false_ne_true
end

theorem xf_runGens (hL : Linked σ w g) : ∀ (rest : List PyExpr) (env : Env V) (elt : PyExpr) (L1 : List (List Str)), Inv L1 env → Res env →
    okScopesL rest = true → rest.all isCompE = true → okScopes elt = true →
    runGens σ (pyLook σ g) (xfGens L1 L1 rest) env (xf L1 elt) = runGens σ (gsLook σ w) rest env elt :=
  fun rest env elt L1 hI hR okrest hall okelt =>
    xf_runGens_of hL (fun env hI hR => xf_eval hL elt L1 env hI hR okelt) rest env hI hR okrest hall

theorem xf_runFrom (hL : Linked σ w g) (t : PyExpr) (ifs rest : List PyExpr) (items : List V) (env : Env V) (elt : PyExpr)
    (L1 : List (List Str)) (hI : Inv L1 env) (hR : Res env) (hst : simpleTarget t = true) (okifs : okScopesL ifs = true)
    (okrest : okScopesL rest = true) (hall : rest.all isCompE = true) (okelt : okScopes elt = true) :
    runFrom σ (pyLook σ g) t (xfL L1 ifs) (xfGens L1 L1 rest) items env (xf L1 elt)
      = runFrom σ (gsLook σ w) t ifs rest items env elt :=
  runFrom_congr (fun b => xf_evalConds hL ifs L1 _ (inv_assign hI b) (res_assign hR b) okifs)
    (fun b => xf_runGens hL rest _ elt L1 (inv_assign hI b) (res_assign hR b) okrest hall okelt) items

theorem xf_evalComp (hL : Linked σ w g) (elt : PyExpr) : ∀ (gens : List PyExpr) (L : List (List Str)) (env : Env V), Inv L env → Res env →
    freeOfReserved (compNames gens) = true → gens.all isCompE = true → okScopes elt = true → okScopesL gens = true →
    evalComp σ (pyLook σ g) (xf (L ++ [compNames gens]) elt) (xfGens L (L ++ [compNames gens]) gens) env
      = evalComp σ (gsLook σ w) elt gens env :=
  fun gens L env hI hR hfree hall okelt okgens =>
    xf_evalComp_of hL gens L env hI hR hfree hall okgens (fun env hI hR => xf_eval hL elt _ env hI hR okelt)

end
end Genshi.Py
