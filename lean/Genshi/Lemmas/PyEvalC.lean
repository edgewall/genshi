/-
  C03 — the concrete evaluator and the abstract one.

  * `evalD_eq_eval`: on expressions without a lambda, `evalD σ look mk` (the evaluator that runs in the
    driver, closures as data) IS `eval σ look` (the evaluator `xform_correct` is about) — for every `σ`, `look`,
    environment; comprehensions, generator expressions, nested scopes, calls, lookups included.
  * `linked_concrete`: the hypotheses `Linked` of `xform_correct` hold for the concrete semantics
    `C.sem strict data cc`, the concrete world `C.world strict data` and the globals `C.globals strict data`.
-/
import Genshi.Lemmas.PyEval
import Genshi.Lemmas.PyXformLam
import Genshi.Model.PyEvalC
namespace Genshi.Py

section
variable {V E : Type} (σ : Sem V E) (look : Look V E)
  (mk : (po ar : List (Str × Option V)) → (va : Option Str) → (ko : List (Str × Option V)) → (ka : Option Str)
      → (names : List Str) → (body : PyExpr) → (env : Env V) → V)

theorem runFromD_congr {t : PyExpr} {ifs rest : List PyExpr} {elt : PyExpr}
    (hc : ∀ env, evalCondsD σ look mk ifs env = evalConds σ look ifs env)
    (hg : ∀ env, runGensD σ look mk rest env elt = runGens σ look rest env elt) (items : List V) (env : Env V) :
    runFromD σ look mk t ifs rest items env elt = runFrom σ look t ifs rest items env elt := by
  rw [runFromD, runFrom]
  simp only [hc, hg]

theorem evalArgsD_cons_plain (e : PyExpr) (rest : List PyExpr) (env : Env V) (h : isStarredE e = false) :
    evalArgsD σ look mk (e :: rest) env = (do
      let x ← evalD σ look mk e env
      let xs ← evalArgsD σ look mk rest env
      .ok ((false, x) :: xs)) := by
  rw [evalArgsD]
  intro y hy; subst hy; simp [isStarredE] at h

mutual
theorem evalD_eq_eval : ∀ (e : PyExpr) (env : Env V), lamFree e = true → evalD σ look mk e env = eval σ look e env
  | .name id, env, _ => by
      rw [evalD, eval]
      cases env.find id with
      | none => rfl
      | some v => cases v <;> rfl
  | .boolOp op vs, env, h => by
      simp only [lamFree] at h
      cases vs with
      | nil => rw [evalD, eval]
      | cons v rest =>
        simp only [lamFreeL, Bool.and_eq_true] at h
        rw [evalD, eval, evalD_eq_eval v env h.1]
        congr 1; funext x
        exact evalBoolD_eq _ x rest env h.2
  | .binOp l _ r, env, h | .subscript l r, env, h => by
      simp only [lamFree, Bool.and_eq_true] at h
      rw [evalD, eval, evalD_eq_eval l env h.1, evalD_eq_eval r env h.2]
  | .unaryOp _ e, env, h | .attribute e _, env, h | .starred e, env, h | .keyword _ e, env, h | .cmpRhs _ e, env, h => by
      simp only [lamFree] at h
      rw [evalD, eval, evalD_eq_eval e env h]
  | .lambda _ _ _ _ _ _, _, h => by simp [lamFree] at h
  | .ifExp t b o, env, h => by
      simp only [lamFree, Bool.and_eq_true] at h
      rw [evalD, eval, evalD_eq_eval t env h.1.1, evalD_eq_eval b env h.1.2, evalD_eq_eval o env h.2]
  | .dict items, env, h => by
      simp only [lamFree, Bool.and_eq_true] at h
      rw [evalD, eval, evalDictD_eq items env h.1 h.2]
  | .listComp elt gens, env, h => by
      simp only [lamFree, Bool.and_eq_true] at h
      rw [evalD, eval, evalCompD_eq_of (fun env => evalD_eq_eval elt env h.1.2) gens env h.1.1 h.2]
  | .genExp elt gens, env, h => by
      simp only [lamFree, Bool.and_eq_true] at h
      obtain ⟨⟨hall, helt⟩, hgens⟩ := h
      cases gens with
      | nil =>
        rw [evalD, eval]
        all_goals (intro _ _ _ _ _ h; cases h)
      | cons c rest =>
        simp only [List.all_cons, Bool.and_eq_true] at hall
        cases c with
        | comp t it ifs a =>
          simp only [lamFreeL, lamFree, Bool.and_eq_true] at hgens
          rw [evalD, eval, evalD_eq_eval it env hgens.1.1]
          simp only [runFromD_congr σ look mk (fun env => evalCondsD_eq ifs env hgens.1.2)
            (runGensD_eq_of (fun env => evalD_eq_eval elt env helt) rest · hgens.2 hall.2)]
        | _ => exact absurd hall.1 Bool.false_ne_true
  | .yield_ v, env, h => by
      simp only [lamFree] at h
      rw [evalD, eval, evalOptD_eq v env h]
  | .compare l rest, env, h => by
      simp only [lamFree, Bool.and_eq_true] at h
      rw [evalD, eval, evalD_eq_eval l env h.1.2]
      congr 1; funext a
      exact evalCmpD_eq a rest env h.1.1 h.2
  | .call f args kws, env, h => by
      simp only [lamFree, Bool.and_eq_true] at h
      rw [evalD, eval, evalD_eq_eval f env h.1.1.2, evalArgsD_eq args env h.1.2, evalKwsD_eq kws env h.1.1.1 h.2]
  | .slice l u st, env, h => by
      simp only [lamFree, Bool.and_eq_true] at h
      rw [evalD, eval, evalOptD_eq l env h.1.1, evalOptD_eq u env h.1.2, evalOptD_eq st env h.2]
  | .list elts, env, h | .tuple elts, env, h => by
      simp only [lamFree] at h
      rw [evalD, eval, evalArgsD_eq elts env h]
  | .const _, env, _ | .unsupported _, env, _ => by rw [evalD, eval]
  | .comp _ it _ _, env, h => by
      simp only [lamFree, Bool.and_eq_true] at h
      rw [evalD, eval, evalD_eq_eval it env h.1]
  | .param _ _ d, env, h => by
      simp only [lamFree] at h
      rw [evalD, eval, evalOptD_eq d env h]
      cases evalOpt σ look d env with
      | error _ => rfl
      | ok x => cases x <;> rfl
  | .dictItem _ v, env, h => by
      simp only [lamFree, Bool.and_eq_true] at h
      rw [evalD, eval, evalD_eq_eval v env h.2]
theorem evalBoolD_eq (isAnd : Bool) (x : V) : ∀ (vs : List PyExpr) (env : Env V), lamFreeL vs = true →
    evalBoolD σ look mk isAnd x vs env = evalBool σ look isAnd x vs env
  | [], env, _ => by rw [evalBoolD, evalBool]
  | v :: rest, env, h => by
      simp only [lamFreeL, Bool.and_eq_true] at h
      rw [evalBoolD, evalBool]
      congr 1; funext t
      split
      · rw [evalD_eq_eval v env h.1]
        congr 1; funext y
        exact evalBoolD_eq isAnd y rest env h.2
      · rfl
theorem evalCmpD_eq (a : V) : ∀ (rest : List PyExpr) (env : Env V), rest.all isCmpE = true → lamFreeL rest = true →
    evalCmpD σ look mk a rest env = evalCmp σ look a rest env
  | [], env, _, _ => by rw [evalCmpD, evalCmp]
  | c :: rest, env, hall, h => by
      simp only [List.all_cons, Bool.and_eq_true] at hall
      cases c with
      | cmpRhs op e =>
        simp only [lamFreeL, lamFree, Bool.and_eq_true] at h
        rw [evalCmpD, evalCmp, evalD_eq_eval e env h.1]
        congr 1; funext b
        congr 1; funext r
        split
        · rfl
        · congr 1; funext t
          split
          · exact evalCmpD_eq b rest env hall.2 h.2
          · rfl
      | _ => exact absurd hall.1 Bool.false_ne_true
theorem evalOptD_eq : ∀ (o : Option PyExpr) (env : Env V), lamFreeO o = true →
    evalOptD σ look mk o env = evalOpt σ look o env
  | none, env, _ => by rw [evalOptD, evalOpt]
  | some e, env, h => by
      simp only [lamFreeO] at h
      rw [evalOptD, evalOpt, evalD_eq_eval e env h]
theorem evalArgsD_eq : ∀ (es : List PyExpr) (env : Env V), lamFreeL es = true →
    evalArgsD σ look mk es env = evalArgs σ look es env
  | [], env, _ => by rw [evalArgsD, evalArgs]
  | e :: rest, env, h => by
      simp only [lamFreeL, Bool.and_eq_true] at h
      by_cases hs : isStarredE e = true
      · cases e with
        | starred y =>
          simp only [lamFree] at h
          rw [evalArgsD, evalArgs, evalD_eq_eval y env h.1, evalArgsD_eq rest env h.2]
        | _ => exact absurd hs Bool.false_ne_true
      · have hs' : isStarredE e = false := by simpa using hs
        rw [evalArgs_cons_plain _ _ _ _ hs', evalArgsD_cons_plain σ look mk e rest env hs', evalD_eq_eval e env h.1, evalArgsD_eq rest env h.2]
theorem evalKwsD_eq : ∀ (es : List PyExpr) (env : Env V), es.all isKw = true → lamFreeL es = true →
    evalKwsD σ look mk es env = evalKws σ look es env
  | [], env, _, _ => by rw [evalKwsD, evalKws]
  | e :: rest, env, hall, h => by
      simp only [List.all_cons, Bool.and_eq_true] at hall
      cases e with
      | keyword n v =>
        simp only [lamFreeL, lamFree, Bool.and_eq_true] at h
        rw [evalKwsD, evalKws, evalD_eq_eval v env h.1, evalKwsD_eq rest env hall.2 h.2]
      | _ => exact absurd hall.1 Bool.false_ne_true
theorem evalDictD_eq : ∀ (es : List PyExpr) (env : Env V), es.all isDictItemE = true → lamFreeL es = true →
    evalDictD σ look mk es env = evalDict σ look es env
  | [], env, _, _ => by rw [evalDictD, evalDict]
  | e :: rest, env, hall, h => by
      simp only [List.all_cons, Bool.and_eq_true] at hall
      cases e with
      | dictItem k v =>
        simp only [lamFreeL, lamFree, Bool.and_eq_true] at h
        rw [evalDictD, evalDict, evalOptD_eq k env h.1.1, evalD_eq_eval v env h.1.2, evalDictD_eq rest env hall.2 h.2]
      | _ => exact absurd hall.1 Bool.false_ne_true
theorem evalCondsD_eq : ∀ (es : List PyExpr) (env : Env V), lamFreeL es = true →
    evalCondsD σ look mk es env = evalConds σ look es env
  | [], env, _ => by rw [evalCondsD, evalConds]
  | c :: rest, env, h => by
      simp only [lamFreeL, Bool.and_eq_true] at h
      rw [evalCondsD, evalConds, evalD_eq_eval c env h.1]
      congr 1; funext x
      congr 1; funext t
      split
      · exact evalCondsD_eq rest env h.2
      · rfl
/- As for `xf_evalComp_of`: the element is no sub-term of the clause list, its equation is a hypothesis. -/
theorem evalCompD_eq_of {elt : PyExpr} (helt : ∀ env, evalD σ look mk elt env = eval σ look elt env) :
    ∀ (gens : List PyExpr) (env : Env V), gens.all isCompE = true → lamFreeL gens = true →
      evalCompD σ look mk elt gens env = evalComp σ look elt gens env
  | [], env, _, _ => by
      rw [evalCompD, evalComp]
      all_goals (intro _ _ _ _ _ h; cases h)
  | c :: rest, env, hall, hgens => by
      simp only [List.all_cons, Bool.and_eq_true] at hall
      cases c with
      | comp t it ifs a =>
        simp only [lamFreeL, lamFree, Bool.and_eq_true] at hgens
        rw [evalCompD, evalComp, evalD_eq_eval it env hgens.1.1]
        simp only [runFromD_congr σ look mk (fun env => evalCondsD_eq ifs env hgens.1.2)
          (runGensD_eq_of helt rest · hgens.2 hall.2)]
      | _ => exact absurd hall.1 Bool.false_ne_true
theorem runGensD_eq_of {elt : PyExpr} (helt : ∀ env, evalD σ look mk elt env = eval σ look elt env) :
    ∀ (rest : List PyExpr) (env : Env V), lamFreeL rest = true → rest.all isCompE = true →
      runGensD σ look mk rest env elt = runGens σ look rest env elt
  | [], env, _, _ => by rw [runGensD, runGens, helt]
  | c :: rest, env, hgens, hall => by
      simp only [List.all_cons, Bool.and_eq_true] at hall
      cases c with
      | comp t it ifs a =>
        simp only [lamFreeL, lamFree, Bool.and_eq_true] at hgens
        rw [runGensD, runGens, evalD_eq_eval it env hgens.1.1]
        simp only [runFromD_congr σ look mk (fun env => evalCondsD_eq ifs env hgens.1.2)
          (runGensD_eq_of helt rest · hgens.2 hall.2)]
      | _ => exact absurd hall.1 Bool.false_ne_true
end

theorem runGensD_eq : ∀ (rest : List PyExpr) (env : Env V) (elt : PyExpr), lamFreeL rest = true → rest.all isCompE = true →
    lamFree elt = true → runGensD σ look mk rest env elt = runGens σ look rest env elt :=
  fun rest env elt hrest hall helt =>
    runGensD_eq_of σ look mk (fun env => evalD_eq_eval σ look mk elt env helt) rest env hrest hall

theorem runFromD_eq (t : PyExpr) (ifs rest : List PyExpr) (items : List V) (env : Env V) (elt : PyExpr)
    (hifs : lamFreeL ifs = true) (hrest : lamFreeL rest = true) (hall : rest.all isCompE = true) (helt : lamFree elt = true) :
    runFromD σ look mk t ifs rest items env elt = runFrom σ look t ifs rest items env elt :=
  runFromD_congr σ look mk (fun env => evalCondsD_eq σ look mk ifs env hifs)
    (fun env => runGensD_eq σ look mk rest env elt hrest hall helt) items env

theorem evalCompD_eq (elt : PyExpr) : ∀ (gens : List PyExpr) (env : Env V), gens.all isCompE = true → lamFree elt = true →
    lamFreeL gens = true → evalCompD σ look mk elt gens env = evalComp σ look elt gens env :=
  fun gens env hall helt hgens =>
    evalCompD_eq_of σ look mk (fun env => evalD_eq_eval σ look mk elt env helt) gens env hall hgens

end

namespace C

theorem constV_str (id : Str) : constV ⟨.str, '\'' :: (id ++ ['\''])⟩ = .str id := by
  simp [constV]

theorem linked_concrete (strict : Bool) (data : List (Str × CV)) (cc : CallT) :
    Linked (sem strict data cc) (world strict data) (globals strict data) where
  data := ⟨.builtin cs!"__data__", .builtin cs!"_lookup_name", rfl, rfl, fun _ => rfl⟩
  attr := ⟨.builtin cs!"_lookup_attr", rfl, fun _ _ => rfl⟩
  item := ⟨.builtin cs!"_lookup_item", rfl, fun _ k => ⟨.tuple [k], rfl, rfl⟩⟩
  str := constV_str
  consts := by
    intro id hid
    simp only [constantNames, List.mem_cons, List.mem_nil_iff, or_false] at hid
    rcases hid with rfl | rfl | rfl | rfl | rfl <;> rfl

end C
end Genshi.Py
