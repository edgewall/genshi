/-
  C13 — facts about the generator alone (`Model/PyGen.lean`) that the developments on it share: the clauses of
  `gen` that are written with nested patterns, as equations on variables, and the `with_parens` table.
-/
import Genshi.Model.PyGen
namespace Genshi.Py
open Genshi.Gen

/-- every operator-like visitor of the code under test parenthesises its output -/
theorem parens_all :
    parenthesised cs!"BoolOp" = true ∧ parenthesised cs!"BinOp" = true ∧ parenthesised cs!"UnaryOp" = true
    ∧ parenthesised cs!"Lambda" = true ∧ parenthesised cs!"IfExp" = true ∧ parenthesised cs!"Yield" = true
    ∧ parenthesised cs!"Compare" = true := by decide

/-- the `...` and slice arms of `visit_Subscript` write what the general arm writes -/
theorem gen_subscript (v s : PyExpr) : gen (.subscript v s) = gen v ++ tLB :: (gen s ++ [tRB]) := by
  cases s with
  | const c =>
    obtain ⟨kind, t⟩ := c
    cases kind <;> rfl
  | _ => rfl

theorem gen_slice (l u st : Option PyExpr) :
    gen (.slice l u st) = genOpt [] l ++ tColon :: (genOpt [] u ++ genOpt [tColon] st) := by
  simp only [gen]

/-- an integer literal and the dot after it are written as one token (`1.`, what the text `1.real` starts with); after
    any other value the dot is a token of its own -/
theorem gen_attribute (v : PyExpr) (a : Str) (h : ∀ t, v ≠ .const ⟨.int, t⟩) :
    gen (.attribute v a) = gen v ++ [tDot, .name a] := by
  cases v with
  | const c =>
    obtain ⟨kind, t⟩ := c
    cases kind <;> first | rfl | exact absurd rfl (h t)
  | _ => rfl

end Genshi.Py
