/-
  C13 — a supported tree is one the generator accepts (`wf_genOk` for expressions, `wfs_genOk` for statements): every
  visitor it needs exists (`decide` over the generated visitor list) and every operator is in its table.  Conversely
  (`rejects`, `rejectsS`) a node class without visitor, an operator missing from a table or, for statements, a rejected
  embedded expression *anywhere* in a module body makes the generator raise (`genE` / `genModule = none`).
  `subterms` lists all nodes of a tree (for `no_field_dropped`).
-/
import Genshi.Lemmas.PySupported
namespace Genshi.Py
open Genshi.Gen

theorem hv :
    hasVisitor cs!"Name" = true ∧ hasVisitor cs!"Constant" = true ∧ hasVisitor cs!"BoolOp" = true
    ∧ hasVisitor cs!"BinOp" = true ∧ hasVisitor cs!"UnaryOp" = true ∧ hasVisitor cs!"Lambda" = true
    ∧ hasVisitor cs!"arguments" = true ∧ hasVisitor cs!"arg" = true ∧ hasVisitor cs!"IfExp" = true
    ∧ hasVisitor cs!"Dict" = true ∧ hasVisitor cs!"ListComp" = true ∧ hasVisitor cs!"GeneratorExp" = true
    ∧ hasVisitor cs!"Yield" = true ∧ hasVisitor cs!"Compare" = true ∧ hasVisitor cs!"Call" = true
    ∧ hasVisitor cs!"Attribute" = true ∧ hasVisitor cs!"Subscript" = true ∧ hasVisitor cs!"Starred" = true
    ∧ hasVisitor cs!"List" = true ∧ hasVisitor cs!"Tuple" = true := by decide

mutual
theorem wf_genOk : ∀ (e : PyExpr), WF e → genOk e = true := by
  intro e h
  cases e with
  | boolOp op vs =>
    simp only [WF] at h
    have hop : (lookup AstGen.boolOperators op).isSome = true := by rcases h.1 with rfl | rfl <;> decide
    have hne : vs ≠ [] := by intro e; subst e; simp at h
    simp [genOk, hv, hop, hne, wf_genOkL vs h.2.2.1]
  | tuple elts =>
    simp only [WF] at h
    have : elts.any isSlice = false := by
      rw [List.any_eq_false]
      intro x hx
      simpa using ns_elt (List.all_eq_true.mp h.2 x hx)
    simp [genOk, hv, wf_genOkL elts h.1, this]
  | _ => simp_all [WF, genOk, hv, wf_genOk, wf_genOkL, wf_genOkO]
theorem wf_genOkL : ∀ (es : List PyExpr), WFL es → genOkList es = true
  | [], _ => rfl
  | e :: es, h => by
      simp only [WFL] at h
      simp [genOkList, wf_genOk e h.1, wf_genOkL es h.2]
theorem wf_genOkO : ∀ (o : Option PyExpr), WFO o → genOkOpt o = true
  | none, _ => rfl
  | some e, h => by simpa [genOkOpt, WFO] using wf_genOk e h
end

theorem genOkList_sup (es : List PyExpr) (h : ∀ e ∈ es, Supported e) : genOkList es = true :=
  wf_genOkL es (wfl_of_supported es h).1

theorem genOkOpt_sup (o : Option PyExpr) (h : SupportedO o) : genOkOpt o = true :=
  wf_genOkO o (wfo_of_supported h)

theorem hvS :
    hasVisitor cs!"Expr" = true ∧ hasVisitor cs!"Assign" = true ∧ hasVisitor cs!"AugAssign" = true
    ∧ hasVisitor cs!"Return" = true ∧ hasVisitor cs!"Pass" = true ∧ hasVisitor cs!"Break" = true
    ∧ hasVisitor cs!"Continue" = true ∧ hasVisitor cs!"Assert" = true ∧ hasVisitor cs!"Raise" = true
    ∧ hasVisitor cs!"If" = true ∧ hasVisitor cs!"While" = true ∧ hasVisitor cs!"For" = true
    ∧ hasVisitor cs!"With" = true ∧ hasVisitor cs!"Try" = true ∧ hasVisitor cs!"ExceptHandler" = true
    ∧ hasVisitor cs!"FunctionDef" = true ∧ hasVisitor cs!"ClassDef" = true ∧ hasVisitor cs!"arguments" = true := by
  decide +kernel

theorem hvS2 :
    hasVisitor cs!"Delete" = true ∧ hasVisitor cs!"Import" = true ∧ hasVisitor cs!"ImportFrom" = true
    ∧ hasVisitor cs!"alias" = true := by
  decide +kernel

theorem genOkItems_sup (items : List (PyExpr × Option PyExpr)) (h : ∀ i ∈ items, Supported i.1 ∧ SupportedO i.2) :
    items.all (fun i => genOk i.1 && genOkOpt i.2) = true :=
  List.all_eq_true.mpr fun i hi => by rw [wf_genOk i.1 (h i hi).1.1, genOkOpt_sup i.2 (h i hi).2]; rfl

mutual
theorem wfs_genOk : ∀ (s : PyStmt), WFS s → genOkS s = true := by
  intro s h
  obtain ⟨vExpr, vAssign, vAug, vRet, vPass, vBreak, vCont, vAssert, vRaise, vIf, vWhile, vFor, vWith, vTry, vHandler,
    vDef, vClass, vArgs⟩ := hvS
  obtain ⟨vDel, vImport, vFrom, vAlias⟩ := hvS2
  cases s with
  | pass_ => exact vPass
  | break_ => exact vBreak
  | continue_ => exact vCont
  | global_ | unsupported => exact h.elim
  | expr e => unfold genOkS; rw [vExpr, wf_genOk e h.1]; rfl
  | return_ v => unfold genOkS; rw [vRet, genOkOpt_sup v h]; rfl
  | assign ts v => unfold WFS at h; unfold genOkS; rw [vAssign, genOkList_sup ts h.2.1, wf_genOk v h.2.2.1]; rfl
  | augAssign t op v =>
    unfold WFS at h; unfold genOkS; rw [vAug, h.1, wf_genOk t h.2.1.1, wf_genOk v h.2.2.1]; rfl
  | assert_ t m => unfold WFS at h; unfold genOkS; rw [vAssert, wf_genOk t h.1.1, genOkOpt_sup m h.2]; rfl
  | raise_ e c =>
    unfold WFS at h; unfold genOkS; rw [vRaise, genOkOpt_sup e h.1, genOkOpt_sup c h.2.1]; rfl
  | delete ts =>
    unfold WFS at h; unfold genOkS
    rw [vDel, List.isEmpty_eq_false_iff.mpr h.1, genOkList_sup ts h.2]; rfl
  | import_ ns => unfold WFS at h; unfold genOkS; rw [vImport, vAlias, List.isEmpty_eq_false_iff.mpr h.1]; rfl
  | importFrom m ns _ =>
    unfold WFS at h; obtain ⟨⟨mod, rfl, _⟩, hne⟩ := h
    unfold genOkS; rw [vFrom, vAlias, List.isEmpty_eq_false_iff.mpr hne]; rfl
  | if_ t b o =>
    unfold WFS at h; unfold genOkS; rw [vIf, wf_genOk t h.1.1, wfsl_genOk b h.2.1, wfsl_genOk o h.2.2.1]; rfl
  | while_ t b o =>
    unfold WFS at h; unfold genOkS; rw [vWhile, wf_genOk t h.1.1, wfsl_genOk b h.2.1, wfsl_genOk o h.2.2.1]; rfl
  | for_ t it b o =>
    unfold WFS at h; unfold genOkS
    rw [vFor, wf_genOk t h.1.1, wf_genOk it h.2.1.1, wfsl_genOk b h.2.2.1, wfsl_genOk o h.2.2.2.1]; rfl
  | with_ items b =>
    unfold WFS at h; unfold genOkS; rw [vWith, genOkItems_sup items h.2.1, wfsl_genOk b h.2.2.1]; rfl
  | try_ b hs o f =>
    unfold WFS at h; unfold genOkS
    rw [vTry, wfsl_genOk b h.1, wfsl_genOk hs h.2.1, wfsl_genOk o h.2.2.2.1, wfsl_genOk f h.2.2.2.2.1]; rfl
  | handler t n b =>
    unfold WFS at h; unfold genOkS; rw [vHandler, genOkOpt_sup t h.1, wfsl_genOk b h.2.2.1]; rfl
  | functionDef _ po ar va ko ka body decos ret _ =>
    unfold WFS ParamsOK at h
    obtain ⟨_, ⟨p1, p2, p3, p4, p5, _⟩, hb, _, hd, hret, _⟩ := h
    unfold genOkS
    rw [vDef, vArgs, wf_genOkL po p1, wf_genOkL ar p2, wf_genOkO va p3, wf_genOkL ko p4, wf_genOkO ka p5, wfsl_genOk body hb,
      genOkList_sup decos hd, genOkOpt_sup ret hret]; rfl
  | classDef _ bases kws body decos _ =>
    unfold WFS at h
    unfold genOkS
    rw [vClass, wf_genOkL bases h.2.1, wf_genOkL kws h.2.2.2.1, wfsl_genOk body h.2.2.2.2.2.1,
      genOkList_sup decos h.2.2.2.2.2.2.2.1]; rfl
theorem wfsl_genOk : ∀ (ss : List PyStmt), WFSL ss → genOkBody ss = true
  | [], _ => rfl
  | s :: ss, h => by unfold genOkBody; rw [wfs_genOk s h.1, wfsl_genOk ss h.2]; rfl
end

theorem genE_supported {e : PyExpr} (h : WF e) : genE e = some (gen e) := if_pos (wf_genOk e h)

theorem genModule_supported {ss : List PyStmt} (h : WFSL ss) : genModule ss = some (genBody 0 ss) :=
  if_pos (wfsl_genOk ss h)

mutual
/-- the tree contains a node class `ASTCodeGenerator` has no `visit_*` method for, or an
    operator that is not in the generator's table -/
def rejects : PyExpr → Bool
  | .name _ => false
  | .const _ => false
  | .boolOp op vs => (lookup AstGen.boolOperators op).isNone || rejectsL vs
  | .binOp l op r => (lookup AstGen.binaryOperators op).isNone || rejects l || rejects r
  | .unaryOp op e => (lookup AstGen.unaryOperators op).isNone || rejects e
  | .lambda po ar va ko ka body => rejectsL po || rejectsL ar || rejectsO va || rejectsL ko || rejectsO ka || rejects body
  | .ifExp t b o => rejects t || rejects b || rejects o
  | .dict items => rejectsL items
  | .listComp elt gens => rejects elt || rejectsL gens
  | .genExp elt gens => rejects elt || rejectsL gens
  | .yield_ v => rejectsO v
  | .compare l rest => rejects l || rejectsL rest
  | .call f args kws => rejects f || rejectsL args || rejectsL kws
  | .attribute v _ => rejects v
  | .subscript v s => rejects v || rejects s
  | .slice l u st => rejectsO l || rejectsO u || rejectsO st
  | .starred e => rejects e
  | .list elts => rejectsL elts
  | .tuple elts => rejectsL elts
  | .unsupported k => !hasVisitor k
  | .keyword _ v => rejects v
  | .comp t it ifs _ => rejects t || rejects it || rejectsL ifs
  | .param _ ann d => rejectsO ann || rejectsO d
  | .dictItem k v => rejectsO k || rejects v
  | .cmpRhs op e => (lookup AstGen.comparisonOperators op).isNone || rejects e
def rejectsL : List PyExpr → Bool
  | [] => false
  | e :: es => rejects e || rejectsL es
def rejectsO : Option PyExpr → Bool
  | none => false
  | some e => rejects e
end

mutual
theorem genOk_not_rejects : ∀ (e : PyExpr), genOk e = true → rejects e = false := by
  intro e h
  cases e <;> simp_all [genOk, rejects, genOk_not_rejects, genOkL_not_rejects, genOkO_not_rejects]
theorem genOkL_not_rejects : ∀ (es : List PyExpr), genOkList es = true → rejectsL es = false
  | [], _ => rfl
  | e :: es, h => by
      simp only [genOkList, Bool.and_eq_true] at h
      simp [rejectsL, genOk_not_rejects e h.1, genOkL_not_rejects es h.2]
theorem genOkO_not_rejects : ∀ (o : Option PyExpr), genOkOpt o = true → rejectsO o = false
  | none, _ => rfl
  | some e, h => by simpa [rejectsO] using genOk_not_rejects e h
end

theorem genE_rejects {e : PyExpr} (h : rejects e = true) : genE e = none :=
  if_neg fun hg => by rw [genOk_not_rejects e hg] at h; cases h

-- all nodes of a tree, in pre-order (for "no field is dropped")
mutual
def subterms : PyExpr → List PyExpr
  | .name id => [.name id]
  | .const c => [.const c]
  | .boolOp op vs => .boolOp op vs :: subtermsL vs
  | .binOp l op r => .binOp l op r :: (subterms l ++ subterms r)
  | .unaryOp op e => .unaryOp op e :: subterms e
  | .lambda po ar va ko ka body =>
      .lambda po ar va ko ka body :: (subtermsL po ++ subtermsL ar ++ subtermsO va ++ subtermsL ko ++ subtermsO ka ++ subterms body)
  | .ifExp t b o => .ifExp t b o :: (subterms t ++ subterms b ++ subterms o)
  | .dict items => .dict items :: subtermsL items
  | .listComp elt gens => .listComp elt gens :: (subterms elt ++ subtermsL gens)
  | .genExp elt gens => .genExp elt gens :: (subterms elt ++ subtermsL gens)
  | .yield_ v => .yield_ v :: subtermsO v
  | .compare l rest => .compare l rest :: (subterms l ++ subtermsL rest)
  | .call f args kws => .call f args kws :: (subterms f ++ subtermsL args ++ subtermsL kws)
  | .attribute v a => .attribute v a :: subterms v
  | .subscript v s => .subscript v s :: (subterms v ++ subterms s)
  | .slice l u st => .slice l u st :: (subtermsO l ++ subtermsO u ++ subtermsO st)
  | .starred e => .starred e :: subterms e
  | .list elts => .list elts :: subtermsL elts
  | .tuple elts => .tuple elts :: subtermsL elts
  | .unsupported k => [.unsupported k]
  | .keyword n v => .keyword n v :: subterms v
  | .comp t it ifs a => .comp t it ifs a :: (subterms t ++ subterms it ++ subtermsL ifs)
  | .param n ann d => .param n ann d :: (subtermsO ann ++ subtermsO d)
  | .dictItem k v => .dictItem k v :: (subtermsO k ++ subterms v)
  | .cmpRhs op e => .cmpRhs op e :: subterms e
def subtermsL : List PyExpr → List PyExpr
  | [] => []
  | e :: es => subterms e ++ subtermsL es
def subtermsO : Option PyExpr → List PyExpr
  | none => []
  | some e => subterms e
end

def rejectsItems : List (PyExpr × Option PyExpr) → Bool
  | [] => false
  | (c, v) :: r => rejects c || rejectsO v || rejectsItems r

mutual
/-- somewhere in the statement there is something the generator has no visitor / no table entry for -/
def rejectsS : PyStmt → Bool
  | .expr e => rejects e
  | .assign ts v => rejectsL ts || rejects v
  | .augAssign t op v => (lookup AstGen.binaryOperators op).isNone || rejects t || rejects v
  | .return_ v => rejectsO v
  | .delete ts => rejectsL ts
  | .pass_ | .break_ | .continue_ => false
  | .assert_ t m => rejects t || rejectsO m
  | .raise_ e c => rejectsO e || rejectsO c
  | .global_ _ => false
  | .import_ _ => false
  | .importFrom m _ _ => m.isNone            -- `from . import x`: `_write(None)` raises
  | .if_ t b o => rejects t || rejectsB b || rejectsB o
  | .while_ t b o => rejects t || rejectsB b || rejectsB o
  | .for_ t it b o => rejects t || rejects it || rejectsB b || rejectsB o
  | .with_ items b => rejectsItems items || rejectsB b
  | .try_ b hs o f => rejectsB b || rejectsB hs || rejectsB o || rejectsB f
  | .handler t _ b => rejectsO t || rejectsB b
  | .functionDef _ po ar va ko ka body decos ret _ =>
      rejectsL po || rejectsL ar || rejectsO va || rejectsL ko || rejectsO ka || rejectsB body || rejectsL decos || rejectsO ret
  | .classDef _ bases kws body decos _ => rejectsL bases || rejectsL kws || rejectsB body || rejectsL decos
  | .unsupported k => !hasVisitor k
def rejectsB : List PyStmt → Bool
  | [] => false
  | s :: ss => rejectsS s || rejectsB ss
end

theorem items_not_rejects (items : List (PyExpr × Option PyExpr))
    (h : items.all (fun i => genOk i.1 && genOkOpt i.2) = true) : rejectsItems items = false := by
  induction items with
  | nil => rfl
  | cons x r ih =>
    obtain ⟨c, v⟩ := x
    simp only [List.all_cons, Bool.and_eq_true] at h
    simp [rejectsItems, genOk_not_rejects c h.1.1, genOkO_not_rejects v h.1.2, ih h.2]

mutual
theorem genOkS_not_rejectsS : ∀ (s : PyStmt), genOkS s = true → rejectsS s = false := by
  intro s h
  cases s with
  | importFrom m _ _ => cases m <;> simp_all [genOkS, rejectsS]
  | with_ items b =>
    simp only [genOkS, Bool.and_eq_true] at h
    simp [rejectsS, items_not_rejects items h.1.2, genOkB_not_rejectsB b h.2]
  | _ => simp_all [genOkS, rejectsS, genOk_not_rejects, genOkL_not_rejects, genOkO_not_rejects, genOkB_not_rejectsB]
theorem genOkB_not_rejectsB : ∀ (ss : List PyStmt), genOkBody ss = true → rejectsB ss = false
  | [], _ => rfl
  | s :: ss, h => by
      simp only [genOkBody, Bool.and_eq_true] at h
      simp [rejectsB, genOkS_not_rejectsS s h.1, genOkB_not_rejectsB ss h.2]
end

theorem genModule_rejects {ss : List PyStmt} (h : rejectsB ss = true) : genModule ss = none :=
  if_neg fun hg => by rw [genOkB_not_rejectsB ss hg] at h; cases h

end Genshi.Py
