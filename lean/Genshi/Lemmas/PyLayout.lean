/-
  C13 — character level layout.  (1) The writer model of `ASTCodeGenerator` (`genStmtW`: `_new_line`,
  `_write`, `_change_indent` in the order of the visitors) produces exactly the physical lines
  `genStmtC`, rendered as `4 * depth` blanks + text + newline.  (2) The line-structure reader `retok`
  (CPython's indentation stack) reads those characters back as the non-blank lines with
  depth = the generator's indentation level, for every nesting depth.
-/
import Genshi.Model.PyLayout
set_option linter.unusedSimpArgs false
namespace Genshi.Py
open Genshi.Gen

theorem W.flushed_start (w : W) (l : PLine) : (w.start l).flushed = w.flushed ++ l.render ++ ['\n'] := rfl

theorem W.flushed_push (ls : List PLine) : ∀ (w : W), (w.push ls).flushed = w.flushed ++ renderT ls := by
  induction ls with
  | nil => intro w; simp [W.push, renderT]
  | cons l r ih => intro w; simp [W.push, renderT, ih, W.flushed_start]

theorem W.push_append (a b : List PLine) : ∀ (w : W), w.push (a ++ b) = (w.push a).push b := by
  induction a with
  | nil => intro w; rfl
  | cons l r ih => intro w; simp [W.push, ih]

theorem W.indent_push (ls : List PLine) : ∀ (w : W), (w.push ls).indent = w.indent := by
  induction ls with
  | nil => intro w; rfl
  | cons l r ih => intro w; simp [W.push, ih, W.start]

theorem W.newLine_eq (w : W) : w.newLine = w.start ⟨w.indent, []⟩ := by
  simp [W.newLine, W.start, PLine.render]

theorem W.write_start (w : W) (i : Nat) (t s : List Char) : (w.start ⟨i, t⟩).write s = w.start ⟨i, t ++ s⟩ := by
  unfold W.write
  split
  · rename_i h
    rw [List.isEmpty_iff.mp h, List.append_nil]
  · simp [W.start, PLine.render]

theorem W.write_push (w : W) (ls : List PLine) (i : Nat) (t s : List Char) :
    (w.push (ls ++ [⟨i, t⟩])).write s = w.push (ls ++ [⟨i, t ++ s⟩]) := by
  rw [W.push_append, W.push_append]
  exact W.write_start _ i t s

theorem W.write_push1 (w : W) (i : Nat) (t s : List Char) :
    (w.push [⟨i, t⟩]).write s = w.push [⟨i, t ++ s⟩] := W.write_push w [] i t s

theorem W.newLine_push (w : W) : w.newLine = w.push [⟨w.indent, []⟩] := by rw [W.newLine_eq]; rfl

theorem W.newLine_after (w : W) (ls : List PLine) : (w.push ls).newLine = w.push (ls ++ [⟨w.indent, []⟩]) := by
  rw [W.newLine_push, W.indent_push, ← W.push_append]

theorem W.flushed_indentBy (w : W) : w.indentBy.flushed = w.flushed := rfl
theorem W.flushed_dedentBy (w : W) : w.dedentBy.flushed = w.flushed := rfl

theorem W.indentBy_push (ls : List PLine) : ∀ (w : W), (w.push ls).indentBy = w.indentBy.push ls := by
  induction ls with
  | nil => intro w; rfl
  | cons l r ih => intro w; simp only [W.push, ih]; rfl

theorem W.dedentBy_push (ls : List PLine) : ∀ (w : W), (w.push ls).dedentBy = w.dedentBy.push ls := by
  induction ls with
  | nil => intro w; rfl
  | cons l r ih => intro w; simp only [W.push, ih]; rfl

theorem W.dedent_indent (w : W) : w.indentBy.dedentBy = w := by
  cases w; simp [W.indentBy, W.dedentBy]

theorem W.push_nil (w : W) : w.push [] = w := rfl

/-- a block: the header lines are open, the body is visited one level deeper, the level is restored -/
theorem blockW (b : List PyStmt) (ih : ∀ w', genBodyW b w' = w'.push (genBodyC w'.indent b)) (w : W) (L : List PLine) :
    (genBodyW b (w.push L).indentBy).dedentBy = w.push (L ++ genBodyC (w.indent + 1) b) := by
  rw [W.indentBy_push, ih, W.indent_push, ← W.push_append, W.dedentBy_push, W.dedent_indent]
  rfl

theorem decoW_eq (decos : List PyExpr) : ∀ (w : W) (L : List PLine),
    decoW decos (w.push L) = w.push (L ++ decos.map (fun d => (⟨w.indent, '@' :: genC d⟩ : PLine))) := by
  induction decos with
  | nil => intro w L; simp [decoW]
  | cons d r ih =>
    intro w L
    have := ih w (L ++ [⟨w.indent, '@' :: genC d⟩])
    simp only [decoW, List.foldl_cons] at this ⊢
    rw [W.newLine_after, W.write_push, W.write_push]
    simpa using this

mutual
theorem genStmtW_eq : ∀ (s : PyStmt) (w : W), genStmtW s w = w.push (genStmtC w.indent s) := by
  intro s w
  cases s with
  | raise_ e c => cases e <;> (unfold genStmtW genStmtC; simp only [W.newLine_push, W.write_push1, List.nil_append])
  | if_ _ b o | while_ _ b o | for_ _ _ b o =>
      unfold genStmtW genStmtC; simp only [W.newLine_push, W.write_push1, List.nil_append]
      rw [blockW b (genBodyW_eq b), genElseW_eq o, W.indent_push, ← W.push_append]
      rfl
  | with_ _ b | handler _ _ b =>
      unfold genStmtW genStmtC; simp only [W.newLine_push, W.write_push1, List.nil_append]
      rw [blockW b (genBodyW_eq b)]
      rfl
  | try_ b hs o f =>
      unfold genStmtW genStmtC; simp only [W.newLine_push, W.write_push1, List.nil_append]
      rw [blockW b (genBodyW_eq b), genBodyW_eq hs, W.indent_push, ← W.push_append]
      cases o with
      | nil =>
        cases f with
        | nil => simp only [W.newLine_after, W.indent_push, ← W.push_append]; simp
        | cons f1 fr =>
          simp only [W.newLine_after, W.write_push, List.nil_append]
          rw [blockW _ (genBodyW_eq (f1 :: fr))]
          simp only [W.indent_push, ← W.push_append]; simp
      | cons o1 orr =>
        simp only [W.newLine_after, W.write_push, List.nil_append]
        rw [blockW _ (genBodyW_eq (o1 :: orr))]
        cases f with
        | nil => simp only [W.indent_push, ← W.push_append]; simp
        | cons f1 fr =>
          simp only [W.newLine_after, W.write_push, List.nil_append]
          rw [blockW _ (genBodyW_eq (f1 :: fr))]
          simp only [W.indent_push, ← W.push_append]; simp
  | functionDef _ _ _ _ _ _ body decos _ _ | classDef _ _ _ body decos _ =>
      unfold genStmtW genStmtC
      have := decoW_eq decos w []
      rw [W.push_nil] at this
      rw [this]
      simp only [W.newLine_after, W.write_push, List.nil_append]
      rw [blockW body (genBodyW_eq body), List.append_assoc]
      rfl
  | unsupported _ => rfl
  | _ => unfold genStmtW genStmtC; simp only [W.newLine_push, W.write_push1, List.nil_append]
theorem genBodyW_eq : ∀ (ss : List PyStmt) (w : W), genBodyW ss w = w.push (genBodyC w.indent ss)
  | [], w => rfl
  | s :: ss, w => by
      unfold genBodyW genBodyC
      rw [genStmtW_eq s w, genBodyW_eq ss, W.indent_push, ← W.push_append]
theorem genElseW_eq : ∀ (ss : List PyStmt) (w : W), genElseW ss w = w.push (genElseC w.indent ss)
  | [], w => rfl
  | s :: ss, w => by
      unfold genElseW genElseC; simp only [W.newLine_push, W.write_push1, List.nil_append]
      rw [W.indentBy_push, genStmtW_eq s, W.indent_push, ← W.push_append, genBodyW_eq ss, W.indent_push, ← W.push_append,
        W.dedentBy_push, W.dedent_indent]
      simp [W.indentBy]
end

theorem renderT_append (a b : List PLine) : renderT (a ++ b) = renderT a ++ renderT b := by
  induction a with
  | nil => rfl
  | cons l r ih => simp [renderT, ih]

/-- `__init__` drops a last line that is whitespace only -/
def trimLast (ls : List PLine) : List PLine :=
  match ls.getLast? with
  | some l => if l.render.all isPySpace then ls.dropLast else ls
  | none => ls

theorem finish_push (ls : List PLine) (h : ls ≠ []) : (W.init.push ls).finish = some (renderT (trimLast ls)) := by
  obtain ⟨ini, l, rfl⟩ : ∃ ini l, ls = ini ++ [l] := ⟨ls.dropLast, ls.getLast h, (List.dropLast_concat_getLast h).symm⟩
  rw [W.push_append]
  have hf : (W.init.push ini).flushed = renderT ini := by rw [W.flushed_push]; rfl
  simp only [W.push, W.start, W.finish, hf, trimLast, List.getLast?_append, List.getLast?_singleton, Option.some_or,
    List.dropLast_concat]
  split
  · rfl
  · simp [renderT_append, renderT]

theorem codeS_lines (body : List PyStmt) (hok : genOkBody body = true) (hne : genBodyC 0 body ≠ []) :
    codeS body = some (renderT (trimLast (genBodyC 0 body))) := by
  simp only [codeS, hok, if_true]
  rw [genBodyW_eq]
  exact finish_push _ hne

def stkBelow : Nat → List Nat
  | 0 => []
  | d + 1 => 4 * d :: stkBelow d

/-- the indentation stack of the tokenizer at depth `d`: the columns `4d, …, 4, 0` -/
def stk (d : Nat) : List Nat := 4 * d :: stkBelow d

theorem stkBelow_length (d : Nat) : (stkBelow d).length = d := by
  induction d with
  | zero => rfl
  | succ d ih => simp [stkBelow, ih]

theorem dedentTo_stk (i : Nat) : ∀ (d : Nat), i < d → dedentTo (4 * i) (stkBelow d) = some (stk i) := by
  intro d
  induction d with
  | zero => intro h; omega
  | succ d ih =>
    intro h
    simp only [stkBelow, dedentTo]
    by_cases he : i = d
    · subst he; simp [stk]
    · have : i < d := by omega
      have h1 : ¬ (4 * i = 4 * d) := by omega
      have h2 : 4 * i < 4 * d := by omega
      simp [h1, h2, ih this]

/-- the depths of the non-blank lines that follow one at depth `d`: each at most one deeper than the one before.
    The tokenizer's stack is then always `stk` of the current depth, so every dedent finds its column on it. -/
def okFrom : Nat → List Nat → Bool
  | _, [] => true
  | d, i :: r => decide (i ≤ d + 1) && okFrom i r

def okHead (ind : Nat) : List Nat → Bool
  | [] => true
  | i :: r => decide (i ≤ ind) && okFrom i r

/-- the non-blank lines (`nbLines`) and their depths (`nbI`): all the tokenizer's indentation stack sees, since `retokGo`
    skips a blank line whatever its indentation -/
def nbI (ls : List PLine) : List Nat := (ls.filter (fun l => !l.blank)).map (·.indent)

def nbLines (ls : List PLine) : List PLine := ls.filter (fun l => !l.blank)

theorem nbI_eq (ls : List PLine) : nbI ls = (nbLines ls).map (·.indent) := rfl

theorem nbLines_append (a b : List PLine) : nbLines (a ++ b) = nbLines a ++ nbLines b := by simp [nbLines]

theorem nbLines_cons_ne (i : Nat) (t : List Char) (r : List PLine) (h : t ≠ []) :
    nbLines (⟨i, t⟩ :: r) = ⟨i, t⟩ :: nbLines r := by
  cases t with
  | nil => exact absurd rfl h
  | cons c q => simp [nbLines, PLine.blank]

theorem nbLines_nil : nbLines [] = [] := rfl

theorem nbI_cons_ne (i : Nat) (t : List Char) (r : List PLine) (h : t ≠ []) : nbI (⟨i, t⟩ :: r) = i :: nbI r := by
  rw [nbI_eq, nbLines_cons_ne i t r h]; rfl

theorem nbI_append (a b : List PLine) : nbI (a ++ b) = nbI a ++ nbI b := by
  rw [nbI_eq, nbLines_append, List.map_append]; rfl

def LineOK (l : PLine) : Prop := '\n' ∉ l.text ∧ ∀ c r, l.text = c :: r → isPySpace c = false

theorem countSp_spaces (n : Nat) (t : List Char) (h : ∀ c r, t = c :: r → c ≠ ' ') : countSp (spaces n ++ t) = n := by
  induction n with
  | zero =>
    simp only [spaces, List.replicate_zero, List.nil_append]
    cases t with
    | nil => rfl
    | cons c r =>
      have := h c r rfl
      unfold countSp
      split
      · rename_i heq; cases heq; exact absurd rfl this
      · rfl
  | succ n ih => simpa [spaces, List.replicate_succ, countSp] using ih

theorem drop_spaces (n : Nat) (t : List Char) : (spaces n ++ t).drop n = t :=
  List.drop_left' List.length_replicate

theorem retokGo_lines : ∀ (ls : List PLine) (d : Nat), (∀ l ∈ ls, LineOK l) → okFrom d (nbI ls) = true →
    retokGo (stk d) (ls.map PLine.render) = some ((ls.filter (fun l => !l.blank)).map fun l => (l.indent, l.text)) := by
  intro ls
  induction ls with
  | nil => intro d _ _; rfl
  | cons l ls ih =>
    intro d hl hok
    obtain ⟨i, t⟩ := l
    have hlo := hl ⟨i, t⟩ (by simp)
    have hls : ∀ l ∈ ls, LineOK l := fun x hx => hl x (by simp [hx])
    have hsp : ∀ c r, t = c :: r → c ≠ ' ' := fun c r h hc => absurd (hlo.2 c r h) (by rw [hc]; decide)
    simp only [List.map_cons, retokGo, PLine.render, countSp_spaces (4 * i) t hsp, drop_spaces]
    cases t with
    | nil =>
      simp only [List.isEmpty_nil, if_true]
      have : nbI (⟨i, []⟩ :: ls) = nbI ls := by simp [nbI, PLine.blank]
      rw [this] at hok
      simpa [PLine.blank] using ih d hls hok
    | cons c r =>
      rw [nbI_cons_ne i (c :: r) ls (List.cons_ne_nil _ _)] at hok
      simp only [okFrom, Bool.and_eq_true, decide_eq_true_eq] at hok
      have hrec := ih i hls hok.2
      simp only [List.isEmpty_cons, Bool.false_eq_true, if_false, stk]
      have hflt : (List.filter (fun l => !l.blank) (⟨i, c :: r⟩ :: ls)) = ⟨i, c :: r⟩ :: List.filter (fun l => !l.blank) ls :=
        nbLines_cons_ne i (c :: r) ls (List.cons_ne_nil _ _)
      rw [hflt]
      by_cases h1 : i = d
      · subst h1
        simp only [if_true]
        show Option.map _ (retokGo (stk i) _) = _
        rw [hrec]
        simp [stkBelow_length]
      · by_cases h2 : d < i
        · have hi : i = d + 1 := by omega
          subst hi
          have c1 : ¬ (4 * (d + 1) = 4 * d) := by omega
          have c2 : 4 * d < 4 * (d + 1) := by omega
          simp only [c1, c2, if_false, if_true]
          show Option.map _ (retokGo (stk (d + 1)) _) = _
          rw [hrec]
          simp [stkBelow_length]
        · have hi : i < d := by omega
          have c1 : ¬ (4 * i = 4 * d) := by omega
          have c2 : ¬ (4 * d < 4 * i) := by omega
          simp only [c1, c2, if_false, dedentTo_stk i d hi]
          rw [hrec]
          simp [stk, stkBelow_length]

theorem splitNL_line (a : List Char) (ha : '\n' ∉ a) : ∀ (cur rest : List Char),
    splitNL cur (a ++ '\n' :: rest) = (cur.reverse ++ a) :: splitNL [] rest := by
  induction a with
  | nil => intro cur rest; simp [splitNL]
  | cons c r ih =>
    intro cur rest
    have hc : c ≠ '\n' := fun h => ha (by simp [h])
    have hr : '\n' ∉ r := fun h => ha (by simp [h])
    simp [splitNL, hc, ih hr]

theorem splitNL_renderT (ls : List PLine) (h : ∀ l ∈ ls, '\n' ∉ l.text) : splitNL [] (renderT ls) = ls.map PLine.render := by
  induction ls with
  | nil => rfl
  | cons l r ih =>
    have hl : '\n' ∉ l.render := by
      have := h l (by simp)
      simp [PLine.render, spaces, this]
    simp only [renderT, List.map_cons]
    rw [splitNL_line _ hl, ih (fun x hx => h x (by simp [hx]))]
    rfl

theorem okFrom_of_okHead {ind : Nat} {I : List Nat} (h : okHead ind I = true) : okFrom ind I = true := by
  cases I with
  | nil => rfl
  | cons i r =>
    simp only [okHead, okFrom, Bool.and_eq_true, decide_eq_true_eq] at h ⊢
    exact ⟨by omega, h.2⟩

theorem retok_renderT (ls : List PLine) (hl : ∀ l ∈ ls, LineOK l) (hok : okHead 0 (nbI ls) = true) :
    retok (renderT ls) = some ((ls.filter (fun l => !l.blank)).map fun l => (l.indent, l.text)) := by
  unfold retok
  rw [splitNL_renderT ls (fun l h => (hl l h).1)]
  exact retokGo_lines ls 0 hl (okFrom_of_okHead hok)

/-- the lines of a block at level `ind`: nothing left of `ind`, the first non-blank line at `ind`, and
    from one non-blank line to the next the depth grows by at most one -/
def Nest (ind : Nat) (ls : List PLine) : Prop := (∀ l ∈ ls, ind ≤ l.indent) ∧ okHead ind (nbI ls) = true

theorem okFrom_append (ind : Nat) (b : List Nat) (hb : okHead ind b = true) : ∀ (a : List Nat) (d : Nat),
    okFrom d a = true → (∀ x ∈ a, ind ≤ x) → ind ≤ d → okFrom d (a ++ b) = true := by
  intro a
  induction a with
  | nil =>
    intro d _ _ hd
    cases b with
    | nil => rfl
    | cons j q =>
      simp only [okHead, Bool.and_eq_true, decide_eq_true_eq] at hb
      simp only [List.nil_append, okFrom, Bool.and_eq_true, decide_eq_true_eq]
      exact ⟨by omega, hb.2⟩
  | cons i r ih =>
    intro d h hall _
    simp only [okFrom, Bool.and_eq_true, decide_eq_true_eq] at h
    simp only [List.cons_append, okFrom, Bool.and_eq_true, decide_eq_true_eq]
    exact ⟨h.1, ih i h.2 (fun x hx => hall x (by simp [hx])) (hall i (by simp))⟩

theorem Nest.nil (ind : Nat) : Nest ind [] := ⟨by simp, rfl⟩

theorem mem_nbI {ls : List PLine} {x : Nat} (h : x ∈ nbI ls) : ∃ l ∈ ls, l.indent = x := by
  simp only [nbI, List.mem_map, List.mem_filter] at h
  obtain ⟨l, ⟨hl, _⟩, rfl⟩ := h
  exact ⟨l, hl, rfl⟩

theorem Nest.append {ind : Nat} {a b : List PLine} (ha : Nest ind a) (hb : Nest ind b) : Nest ind (a ++ b) := by
  refine ⟨?_, ?_⟩
  · intro l hl
    rcases List.mem_append.mp hl with h | h
    · exact ha.1 l h
    · exact hb.1 l h
  · rw [nbI_append]
    cases hA : nbI a with
    | nil => simpa using hb.2
    | cons i r =>
      have h2 := ha.2
      rw [hA] at h2
      simp only [okHead, Bool.and_eq_true, decide_eq_true_eq] at h2
      have hall : ∀ x ∈ i :: r, ind ≤ x := by
        intro x hx
        obtain ⟨l, hl, rfl⟩ := mem_nbI (hA ▸ hx)
        exact ha.1 l hl
      simp only [List.cons_append, okHead, Bool.and_eq_true, decide_eq_true_eq]
      exact ⟨h2.1, okFrom_append ind _ hb.2 r i h2.2 (fun x hx => hall x (by simp [hx])) (hall i (by simp))⟩

theorem Nest.single (ind : Nat) (t : List Char) : Nest ind [⟨ind, t⟩] := by
  refine ⟨by simp, ?_⟩
  cases t <;> simp [nbI, PLine.blank, okHead, okFrom]

theorem Nest.block {ind : Nat} {t : List Char} {b : List PLine} (ht : t ≠ []) (hb : Nest (ind + 1) b) :
    Nest ind (⟨ind, t⟩ :: b) := by
  refine ⟨?_, ?_⟩
  · intro l hl
    rcases List.mem_cons.mp hl with rfl | h
    · exact Nat.le_refl _
    · exact Nat.le_of_succ_le (hb.1 l h)
  · rw [nbI_cons_ne ind t b ht]
    simp only [okHead, Bool.and_eq_true, decide_eq_true_eq]
    refine ⟨Nat.le_refl _, ?_⟩
    have h2 := hb.2
    cases hB : nbI b with
    | nil => rfl
    | cons j q =>
      rw [hB] at h2
      simp only [okHead, Bool.and_eq_true, decide_eq_true_eq] at h2
      simp only [okFrom, Bool.and_eq_true, decide_eq_true_eq]
      exact h2

theorem Nest.decos (ind : Nat) (decos : List PyExpr) : Nest ind (decos.map fun d => (⟨ind, '@' :: genC d⟩ : PLine)) := by
  induction decos with
  | nil => exact Nest.nil ind
  | cons d r ih => exact Nest.append (a := [_]) (Nest.single ind _) ih

theorem Nest.cons {ind : Nat} {t : List Char} {b : List PLine} (hb : Nest ind b) : Nest ind (⟨ind, t⟩ :: b) :=
  Nest.append (a := [_]) (Nest.single ind t) hb

mutual
theorem nest_stmt : ∀ (s : PyStmt) (ind : Nat), Nest ind (genStmtC ind s) := by
  intro s ind
  cases s with
  | raise_ e _ => cases e <;> exact Nest.single ind _
  | if_ _ b o | while_ _ b o | for_ _ _ b o =>
      exact Nest.append (Nest.block (by simp) (nest_body b (ind + 1))) (nest_else o ind)
  | with_ _ b | handler _ _ b => exact Nest.block (by simp) (nest_body b (ind + 1))
  | try_ b hs o f =>
      have ho := nest_body o (ind + 1)
      have hf := nest_body f (ind + 1)
      refine Nest.append (Nest.append (Nest.append
        (Nest.block (t := cs!"try:") (List.cons_ne_nil _ _) (nest_body b (ind + 1))) (nest_body hs ind)) ?_) ?_
      · cases o with
        | nil => exact Nest.single ind []
        | cons _ _ => exact Nest.block (List.cons_ne_nil _ _) ho
      · cases f with
        | nil => exact Nest.nil ind
        | cons _ _ => exact Nest.block (List.cons_ne_nil _ _) hf
  | functionDef _ _ _ _ _ _ body decos _ _ | classDef _ _ _ body decos _ =>
      exact Nest.append (Nest.decos ind decos) (Nest.block (by simp) (nest_body body (ind + 1)))
  | unsupported _ => exact Nest.nil ind
  | _ => exact Nest.single ind _
theorem nest_body : ∀ (ss : List PyStmt) (ind : Nat), Nest ind (genBodyC ind ss)
  | [], ind => Nest.nil ind
  | s :: ss, ind => Nest.append (nest_stmt s ind) (nest_body ss ind)
theorem nest_else : ∀ (ss : List PyStmt) (ind : Nat), Nest ind (genElseC ind ss)
  | [], ind => Nest.nil ind
  | s :: ss, ind => Nest.block (List.cons_ne_nil _ _) (Nest.append (nest_stmt s (ind + 1)) (nest_body ss (ind + 1)))
end

theorem blank_of_allSpace {l : PLine} (hl : LineOK l) (h : l.render.all isPySpace = true) : l.blank = true := by
  obtain ⟨i, t⟩ := l
  cases t with
  | nil => rfl
  | cons c r =>
    have := hl.2 c r rfl
    simp [PLine.render, this] at h

theorem trimLast_props (ls : List PLine) (hl : ∀ l ∈ ls, LineOK l) :
    (∀ l ∈ trimLast ls, LineOK l) ∧ nbI (trimLast ls) = nbI ls ∧
      (trimLast ls).filter (fun l => !l.blank) = ls.filter (fun l => !l.blank) := by
  unfold trimLast
  cases hg : ls.getLast? with
  | none => exact ⟨hl, rfl, rfl⟩
  | some l =>
    simp only
    split
    · rename_i hsp
      have hne : ls ≠ [] := by rintro rfl; simp at hg
      have hlast : ls.getLast hne = l := by
        have := List.getLast?_eq_some_getLast hne
        rw [this] at hg
        exact Option.some.inj hg
      have hsplit : ls = ls.dropLast ++ [l] := by rw [← hlast]; exact (List.dropLast_concat_getLast hne).symm
      have hb : l.blank = true := blank_of_allSpace (hl l (by rw [hsplit]; simp)) hsp
      have hf : ls.filter (fun l => !l.blank) = ls.dropLast.filter (fun l => !l.blank) := by
        conv => lhs; rw [hsplit]
        simp [List.filter_append, hb]
      refine ⟨fun x hx => hl x ((List.dropLast_sublist ls).subset hx), ?_, hf.symm⟩
      simp only [nbI, hf]
    · exact ⟨hl, rfl, rfl⟩

theorem retok_codeS (body : List PyStmt) (hok : genOkBody body = true) (hne : genBodyC 0 body ≠ [])
    (hl : ∀ l ∈ genBodyC 0 body, LineOK l) :
    ∃ code, codeS body = some code ∧
      retok code = some (((genBodyC 0 body).filter (fun l => !l.blank)).map fun l => (l.indent, l.text)) := by
  refine ⟨_, codeS_lines body hok hne, ?_⟩
  obtain ⟨p1, p2, p3⟩ := trimLast_props _ hl
  rw [retok_renderT _ p1 (by rw [p2]; exact (nest_body body 0).2), p3]

/-- `LineOK`, decidable -/
def lineOKb (l : PLine) : Bool :=
  !l.text.contains '\n' && (match l.text with | [] => true | c :: _ => !isPySpace c)

theorem lineOK_of_b {l : PLine} (h : lineOKb l = true) : LineOK l := by
  simp only [lineOKb, Bool.and_eq_true, Bool.not_eq_true', List.contains_eq_mem, decide_eq_false_iff_not] at h
  refine ⟨h.1, ?_⟩
  intro c r hc
  rw [hc] at h
  simpa using h.2

end Genshi.Py
