/-
  C13 — `textOKB` (no expression statement / assignment writes an empty line) from the hypotheses on the tree, so that
  the agreement of the character model and the token model on the line structure holds for supported programs.
-/
import Genshi.Lemmas.PyLayoutText
import Genshi.Lemmas.PyLayoutLines
set_option linter.unusedSimpArgs false
namespace Genshi.Py
open Genshi.Gen

theorem ne_nil_of_headOKc {t : List Char} (h : headOKc t = true) : t.isEmpty = false := by
  cases t with
  | nil => simp [headOKc] at h
  | cons c r => rfl

mutual
theorem textOKS_of : ∀ (s : PyStmt), WFS s → charsOKS s = true → textOKS s = true := by
  intro s hw h
  cases s with
  | expr e => unfold textOKS; rw [ne_nil_of_headOKc (supported_headC hw h)]; rfl
  | assign ts v =>
    unfold WFS at hw; unfold charsOKS at h; rw [Bool.and_eq_true] at h
    unfold textOKS; rw [ne_nil_of_headOKc (headOKc_assign v hw.1 hw.2.1 h.1)]; rfl
  | if_ _ b o | while_ _ b o =>
    unfold WFS at hw; unfold charsOKS at h; simp only [Bool.and_eq_true] at h
    unfold textOKS; rw [textOKB_of b hw.2.1 h.1.2, textOKB_of o hw.2.2.1 h.2]; rfl
  | for_ _ _ b o =>
    unfold WFS at hw; unfold charsOKS at h; simp only [Bool.and_eq_true] at h
    unfold textOKS; rw [textOKB_of b hw.2.2.1 h.1.2, textOKB_of o hw.2.2.2.1 h.2]; rfl
  | with_ _ b =>
    unfold WFS at hw; unfold charsOKS at h; rw [Bool.and_eq_true] at h
    exact textOKB_of b hw.2.2.1 h.2
  | try_ b hs o f =>
    unfold WFS at hw; unfold charsOKS at h; simp only [Bool.and_eq_true] at h
    unfold textOKS
    rw [textOKB_of b hw.1 h.1.1.1, textOKB_of hs hw.2.1 h.1.1.2, textOKB_of o hw.2.2.2.1 h.1.2,
      textOKB_of f hw.2.2.2.2.1 h.2]; rfl
  | handler _ _ b =>
    unfold WFS at hw; unfold charsOKS at h; simp only [Bool.and_eq_true] at h
    exact textOKB_of b hw.2.2.1 h.2
  | functionDef _ _ _ _ _ _ body _ _ _ =>
    unfold WFS at hw; unfold charsOKS at h; simp only [Bool.and_eq_true] at h
    exact textOKB_of body hw.2.2.1 h.1.1.2
  | classDef _ _ _ body _ _ =>
    unfold WFS at hw; unfold charsOKS at h; simp only [Bool.and_eq_true] at h
    exact textOKB_of body hw.2.2.2.2.2.1 h.1.2
  | _ => rfl
theorem textOKB_of : ∀ (ss : List PyStmt), WFSL ss → charsOKB ss = true → textOKB ss = true
  | [], _, _ => rfl
  | s :: ss, hw, h => by
      unfold WFSL at hw; unfold charsOKB at h; rw [Bool.and_eq_true] at h
      unfold textOKB; rw [textOKS_of s hw.1 h.1, textOKB_of ss hw.2 h.2]; rfl
end

end Genshi.Py
