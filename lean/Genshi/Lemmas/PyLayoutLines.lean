/-
  C13 — the physical lines of the character model (`genStmtC`, blank lines removed) have the
  indentation sequence of the token-level lines (`genStmt`): the two models agree on the line
  structure, for every statement whose expression-statement / assignment lines are not empty.
-/
import Genshi.Lemmas.PyLayout
set_option linter.unusedSimpArgs false
namespace Genshi.Py
open Genshi.Gen

mutual
/-- no expression statement / assignment writes an empty text (it never does for a tree a parser produces) -/
def textOKS : PyStmt → Bool
  | .expr e => !(genC e).isEmpty
  | .assign ts v => !(genListC [] cs!" = " ts ++ genC v).isEmpty
  | .if_ _ b o => textOKB b && textOKB o
  | .while_ _ b o => textOKB b && textOKB o
  | .for_ _ _ b o => textOKB b && textOKB o
  | .with_ _ b => textOKB b
  | .try_ b hs o f => textOKB b && textOKB hs && textOKB o && textOKB f
  | .handler _ _ b => textOKB b
  | .functionDef _ _ _ _ _ _ body _ _ _ => textOKB body
  | .classDef _ _ _ body _ _ => textOKB body
  | _ => true
def textOKB : List PyStmt → Bool
  | [] => true
  | s :: ss => textOKS s && textOKB ss
end

theorem nb_decos (ind : Nat) (decos : List PyExpr) :
    (nbLines (decos.map fun d => (⟨ind, '@' :: genC d⟩ : PLine))).map (·.indent)
      = (decos.map fun d => (⟨ind, tAt :: gen d⟩ : Line)).map (·.indent) := by
  induction decos with
  | nil => rfl
  | cons d r ih => rw [List.map_cons, nbLines_cons_ne _ _ _ (by simp)]; simpa using ih

theorem indents_cons {i : Nat} {t : List Char} {r : List PLine} {toks : List Tok} {R : List Line} (h : t ≠ [])
    (hr : (nbLines r).map (·.indent) = R.map (·.indent)) :
    (nbLines (⟨i, t⟩ :: r)).map (·.indent) = ((⟨i, toks⟩ : Line) :: R).map (·.indent) := by
  rw [nbLines_cons_ne _ _ _ h, List.map_cons, List.map_cons, hr]

theorem indents_append {a b : List PLine} {A B : List Line} (ha : (nbLines a).map (·.indent) = A.map (·.indent))
    (hb : (nbLines b).map (·.indent) = B.map (·.indent)) :
    (nbLines (a ++ b)).map (·.indent) = (A ++ B).map (·.indent) := by
  rw [nbLines_append, List.map_append, List.map_append, ha, hb]

theorem colon_ne (s : List Char) : s ++ [':'] ≠ [] := List.append_ne_nil_of_right_ne_nil s (List.cons_ne_nil _ _)

mutual
theorem indents_stmt : ∀ (s : PyStmt) (ind : Nat), textOKS s = true →
    (nbLines (genStmtC ind s)).map (·.indent) = (genStmt ind s).map (·.indent) := by
  intro s ind h
  cases s with
  | expr _ | assign _ _ =>
      unfold textOKS at h; simp only [Bool.not_eq_true', List.isEmpty_eq_false_iff] at h
      exact indents_cons h rfl
  | augAssign t op v => exact indents_cons (by simp [augOpC]) rfl
  | raise_ e c => cases e <;> rfl
  | if_ _ b o | while_ _ b o | for_ _ _ b o =>
      unfold textOKS at h; rw [Bool.and_eq_true] at h
      exact indents_cons (colon_ne _) (indents_append (indents_body b (ind + 1) h.1) (indents_else o ind h.2))
  | with_ _ b | handler _ _ b => exact indents_cons (colon_ne _) (indents_body b (ind + 1) h)
  | try_ b hs o f =>
      unfold textOKS at h; simp only [Bool.and_eq_true] at h
      have eo := indents_body o (ind + 1) h.1.2
      have ef := indents_body f (ind + 1) h.2
      refine indents_cons (List.cons_ne_nil _ _) (indents_append (indents_append (indents_append
        (indents_body b (ind + 1) h.1.1.1) (indents_body hs ind h.1.1.2)) ?_) ?_)
      · cases o with
        | nil => rfl
        | cons _ _ => exact indents_cons (List.cons_ne_nil _ _) eo
      · cases f with
        | nil => rfl
        | cons _ _ => exact indents_cons (List.cons_ne_nil _ _) ef
  | functionDef _ _ _ _ _ _ body decos _ _ | classDef _ _ _ body decos _ =>
      exact indents_append (nb_decos ind decos) (indents_cons (colon_ne _) (indents_body body (ind + 1) h))
  | _ => rfl
theorem indents_body : ∀ (ss : List PyStmt) (ind : Nat), textOKB ss = true →
    (nbLines (genBodyC ind ss)).map (·.indent) = (genBody ind ss).map (·.indent)
  | [], _, _ => rfl
  | s :: ss, ind, h => by
      unfold textOKB at h; rw [Bool.and_eq_true] at h
      exact indents_append (indents_stmt s ind h.1) (indents_body ss ind h.2)
theorem indents_else : ∀ (ss : List PyStmt) (ind : Nat), textOKB ss = true →
    (nbLines (genElseC ind ss)).map (·.indent) = (genElse ind ss).map (·.indent)
  | [], _, _ => rfl
  | s :: ss, ind, h => by
      unfold textOKB at h; rw [Bool.and_eq_true] at h
      exact indents_cons (List.cons_ne_nil _ _) (indents_append (indents_stmt s (ind + 1) h.1) (indents_body ss (ind + 1) h.2))
end

end Genshi.Py
