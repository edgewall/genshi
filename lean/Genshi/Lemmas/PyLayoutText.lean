/-
  C13 — the hypothesis of `indentation_read_back` from a condition on the tree: when every
  identifier is non-empty and free of whitespace and every literal / operator text is free of
  newlines (`charsOK`), no expression text contains a newline, and an expression (not a helper
  node) never starts with whitespace.
-/
import Genshi.Lemmas.PyLayout
import Genshi.Lemmas.PySupported
import Genshi.Lemmas.PyGen
set_option linter.unusedSimpArgs false
namespace Genshi.Py
open Genshi.Gen

def nlFree (s : List Char) : Bool := !s.contains '\n'

def headOKc : List Char → Bool
  | [] => false
  | c :: _ => !isPySpace c

def identOK (s : Str) : Bool := !s.isEmpty && s.all (fun c => !isPySpace c)

theorem nlFree_append (a b : List Char) : nlFree (a ++ b) = (nlFree a && nlFree b) := by
  simp only [nlFree, List.contains_append, Bool.not_or]

theorem nlFree_cons (c : Char) (a : List Char) : nlFree (c :: a) = (decide (c ≠ '\n') && nlFree a) := by
  simp only [nlFree, List.contains_eq_mem, List.mem_cons]
  by_cases h1 : c = '\n' <;> by_cases h2 : '\n' ∈ a <;> simp [h1, h2, eq_comm]

theorem nlFree_nil : nlFree [] = true := rfl

theorem nlFree_ident {s : Str} (h : identOK s = true) : nlFree s = true := by
  simp only [identOK, Bool.and_eq_true, List.all_eq_true] at h
  simp only [nlFree, Bool.not_eq_true', List.contains_eq_mem, decide_eq_false_iff_not]
  intro hm
  have := h.2 _ hm
  simp [isPySpace] at this

theorem headOKc_ident {s : Str} (h : identOK s = true) : headOKc s = true := by
  cases s with
  | nil => simp [identOK] at h
  | cons c r =>
    simp only [identOK, Bool.and_eq_true, List.all_cons] at h
    exact h.2.1

theorem headOKc_append {a : List Char} (b : List Char) (h : headOKc a = true) : headOKc (a ++ b) = true := by
  cases a with
  | nil => simp [headOKc] at h
  | cons c r => exact h

theorem nlFree_drop (n : Nat) (a : List Char) (h : nlFree a = true) : nlFree (a.drop n) = true := by
  simp only [nlFree, Bool.not_eq_true', List.contains_eq_mem, decide_eq_false_iff_not] at h ⊢
  exact fun hm => h (List.mem_of_mem_drop hm)

mutual
def charsOK : PyExpr → Bool
  | .name id => identOK id
  | .const c => nlFree (constC c) && headOKc (constC c)
  | .boolOp op vs => nlFree (symText AstGen.boolOperators op) && charsOKL vs
  | .binOp l op r => nlFree (symText AstGen.binaryOperators op) && charsOK l && charsOK r
  | .unaryOp op e => nlFree (symText AstGen.unaryOperators op) && charsOK e
  | .lambda po ar va ko ka body => charsOKL po && charsOKL ar && charsOKO va && charsOKL ko && charsOKO ka && charsOK body
  | .ifExp t b o => charsOK t && charsOK b && charsOK o
  | .dict items => charsOKL items
  | .listComp elt gens => charsOK elt && charsOKL gens
  | .genExp elt gens => charsOK elt && charsOKL gens
  | .yield_ v => charsOKO v
  | .compare l rest => charsOK l && charsOKL rest
  | .call f args kws => charsOK f && charsOKL args && charsOKL kws
  | .attribute v a => charsOK v && identOK a
  | .subscript v s => charsOK v && charsOK s
  | .slice l u st => charsOKO l && charsOKO u && charsOKO st
  | .starred e => charsOK e
  | .list elts => charsOKL elts
  | .tuple elts => charsOKL elts
  | .unsupported _ => true
  | .keyword none v => charsOK v
  | .keyword (some n) v => identOK n && charsOK v
  | .comp t it ifs _ => charsOK t && charsOK it && charsOKL ifs
  | .param n ann d => identOK n && charsOKO ann && charsOKO d
  | .dictItem k v => charsOKO k && charsOK v
  | .cmpRhs op e => nlFree (symText AstGen.comparisonOperators op) && charsOK e
def charsOKL : List PyExpr → Bool
  | [] => true
  | e :: es => charsOK e && charsOKL es
def charsOKO : Option PyExpr → Bool
  | none => true
  | some e => charsOK e
end

/-- the `[...]` arm of `visit_Subscript` writes what the general arm writes -/
theorem genC_subscript (v s : PyExpr) : genC (.subscript v s) = genC v ++ '[' :: (genC s ++ [']']) := by
  cases s with
  | const c => obtain ⟨k, t⟩ := c; cases k <;> rfl
  | _ => eq_refl

theorem nlFree_wrapC (k : Str) (s : List Char) (h : nlFree s = true) : nlFree (wrapC k s) = true := by
  unfold wrapC
  split
  · simp only [nlFree_cons, nlFree_append, h]; decide
  · exact h

theorem nlFree_varargC {vaT : List Char} (h : nlFree vaT = true) (vaNone koEmpty : Bool) :
    nlFree (varargC vaT vaNone koEmpty) = true := by
  unfold varargC
  split
  · exact h
  · split <;> rfl

theorem nlFree_paramsC {poT arT vaT koT kaT : List Char} (poEmpty : Bool) (h1 : nlFree poT = true)
    (h2 : nlFree arT = true) (h3 : nlFree vaT = true) (h4 : nlFree koT = true) (h5 : nlFree kaT = true) :
    nlFree (paramsC poT poEmpty arT vaT koT kaT) = true := by
  unfold paramsC
  apply nlFree_drop
  have hs : nlFree (if poEmpty = true then [] else cs!", /") = true := by split <;> rfl
  simp only [nlFree_append, nlFree_cons, h1, h2, h3, h4, h5, hs]; decide

theorem nlFree_genC : ∀ (e : PyExpr), charsOK e = true → nlFree (genC e) = true := by
  intro e
  apply PyExpr.rec (motive_1 := fun e => charsOK e = true → nlFree (genC e) = true)
    (motive_2 := fun es => ∀ pre post, nlFree pre = true → nlFree post = true → charsOKL es = true →
      nlFree (genListC pre post es) = true)
    (motive_3 := fun o => ∀ pre, nlFree pre = true → charsOKO o = true → nlFree (genOptC pre o) = true)
  case name => intro id h; unfold charsOK at h; unfold genC; exact nlFree_ident h
  case const => intro c h; unfold charsOK at h; simp only [Bool.and_eq_true] at h; unfold genC; exact h.1
  case boolOp =>
    intro op vs ih_vs h
    unfold charsOK at h; rw [Bool.and_eq_true] at h
    cases vs with
    | nil => exact nlFree_wrapC _ _ rfl
    | cons v rest =>
      have := ih_vs (' ' :: (symText AstGen.boolOperators op ++ [' '])) []
        (by simp only [nlFree_append, nlFree_cons, h.1]; decide) rfl h.2
      unfold genListC at this; simp only [nlFree_append, Bool.and_eq_true] at this
      unfold genC
      apply nlFree_wrapC
      simp only [nlFree_append, this.1.1.2, this.2]; decide
  case binOp =>
    intro l op r ih_l ih_r h
    unfold charsOK at h; simp only [Bool.and_eq_true] at h
    unfold genC
    apply nlFree_wrapC
    simp only [nlFree_append, nlFree_cons, ih_l h.1.2, ih_r h.2, h.1.1]; decide
  case unaryOp =>
    intro op e ih_e h
    unfold charsOK at h; simp only [Bool.and_eq_true] at h
    unfold genC
    apply nlFree_wrapC
    simp only [nlFree_append, nlFree_cons, ih_e h.2, h.1]; decide
  case lambda =>
    intro po ar va ko ka body ih_po ih_ar ih_va ih_ko ih_ka ih_body h
    unfold charsOK at h; simp only [Bool.and_eq_true] at h
    obtain ⟨⟨⟨⟨⟨h1, h2⟩, h3⟩, h4⟩, h5⟩, h6⟩ := h
    unfold genC
    apply nlFree_wrapC
    have hp := nlFree_paramsC po.isEmpty (ih_po cs!", " [] rfl rfl h1)
      (ih_ar cs!", " [] rfl rfl h2) (nlFree_varargC (ih_va cs!", *" rfl h3) va.isNone ko.isEmpty)
      (ih_ko cs!", " [] rfl rfl h4) (ih_ka cs!", **" rfl h5)
    simp only [nlFree_append, nlFree_cons, hp, ih_body h6]; decide
  case ifExp =>
    intro t b o ih_t ih_b ih_o h
    unfold charsOK at h; simp only [Bool.and_eq_true] at h
    unfold genC
    apply nlFree_wrapC
    simp only [nlFree_append, nlFree_cons, ih_t h.1.1, ih_b h.1.2, ih_o h.2]; decide
  case dict | list | tuple =>
    intro es ih_es h
    unfold charsOK at h
    unfold genC
    simp only [nlFree_append, nlFree_cons, ih_es [] cs!", " rfl rfl h]; decide
  case listComp | genExp =>
    intro elt gens ih_elt ih_gens h
    unfold charsOK at h; simp only [Bool.and_eq_true] at h
    unfold genC
    simp only [nlFree_append, nlFree_cons, ih_elt h.1, ih_gens [] [] rfl rfl h.2]; decide
  case yield_ =>
    intro v ih_v h
    unfold charsOK at h
    unfold genC
    apply nlFree_wrapC
    simp only [nlFree_append, nlFree_cons, ih_v [' '] rfl h]; decide
  case compare =>
    intro l rest ih_l ih_rest h
    unfold charsOK at h; simp only [Bool.and_eq_true] at h
    unfold genC
    apply nlFree_wrapC
    simp only [nlFree_append, nlFree_cons, ih_l h.1, ih_rest [] [] rfl rfl h.2]; decide
  case call =>
    intro f args kws ih_f ih_args ih_kws h
    unfold charsOK at h; simp only [Bool.and_eq_true] at h
    unfold genC
    have hd : nlFree ((genListC cs!", " [] args ++ genListC cs!", " [] kws).drop 2) = true :=
      nlFree_drop _ _ (by simp only [nlFree_append, nlFree_cons, ih_args cs!", " [] rfl rfl h.1.2, ih_kws cs!", " [] rfl rfl h.2]; decide)
    simp only [nlFree_append, nlFree_cons, ih_f h.1.1, hd]; decide
  case «attribute» =>
    intro v a ih_v h
    unfold charsOK at h; simp only [Bool.and_eq_true] at h
    unfold genC
    simp only [nlFree_append, nlFree_cons, ih_v h.1, nlFree_ident h.2]; decide
  case subscript =>
    intro v s ih_v ih_s h
    unfold charsOK at h; rw [Bool.and_eq_true] at h
    rw [genC_subscript]
    simp only [nlFree_append, nlFree_cons, ih_v h.1, ih_s h.2]; decide
  case slice =>
    intro l u st ih_l ih_u ih_st h
    unfold charsOK at h; simp only [Bool.and_eq_true] at h
    unfold genC
    simp only [nlFree_append, nlFree_cons, ih_l [] rfl h.1.1, ih_u [] rfl h.1.2, ih_st [':'] rfl h.2]; decide
  case starred =>
    intro e ih_e h
    unfold charsOK at h
    unfold genC
    simp only [nlFree_append, nlFree_cons, ih_e h]; decide
  case unsupported => intro _ h; rfl
  case keyword =>
    intro n v ih_v h
    cases n with
    | none =>
      unfold charsOK at h; unfold genC
      simp only [nlFree_append, nlFree_cons, ih_v h]; decide
    | some n =>
      unfold charsOK at h; rw [Bool.and_eq_true] at h; unfold genC
      simp only [nlFree_append, nlFree_cons, nlFree_ident h.1, ih_v h.2]; decide
  case comp =>
    intro t it ifs a ih_t ih_it ih_ifs h
    unfold charsOK at h; simp only [Bool.and_eq_true] at h
    unfold genC
    have ha : nlFree (if a = true then cs!" async" else []) = true := by split <;> rfl
    simp only [nlFree_append, nlFree_cons, ha, ih_t h.1.1, ih_it h.1.2, ih_ifs cs!" if " [] rfl rfl h.2]; decide
  case param =>
    intro n ann d ih_ann ih_d h
    unfold charsOK at h; simp only [Bool.and_eq_true] at h
    unfold genC
    simp only [nlFree_append, nlFree_cons, nlFree_ident h.1.1, ih_ann cs!": " rfl h.1.2, ih_d ['='] rfl h.2]; decide
  case dictItem =>
    intro k v ih_k ih_v h
    unfold charsOK at h; simp only [Bool.and_eq_true] at h
    unfold genC
    simp only [nlFree_append, nlFree_cons, ih_k [] rfl h.1, ih_v h.2]; decide
  case cmpRhs =>
    intro op e ih_e h
    unfold charsOK at h; simp only [Bool.and_eq_true] at h
    unfold genC
    simp only [nlFree_append, nlFree_cons, h.1, ih_e h.2]; decide
  case nil | none => intros; rfl
  case cons =>
    intro e es ih_e ih_es pre post h1 h2 h
    unfold charsOKL at h; rw [Bool.and_eq_true] at h
    unfold genListC; simp only [nlFree_append, Bool.and_eq_true]
    exact ⟨⟨⟨h1, ih_e h.1⟩, h2⟩, ih_es pre post h1 h2 h.2⟩
  case some =>
    intro e ih_e pre h1 h
    unfold genOptC; rw [nlFree_append, Bool.and_eq_true]
    exact ⟨h1, ih_e h⟩

theorem nlFree_genListC : ∀ (pre post : List Char) (es : List PyExpr), nlFree pre = true → nlFree post = true →
    charsOKL es = true → nlFree (genListC pre post es) = true
  | _, _, [], _, _, _ => rfl
  | pre, post, e :: es, h1, h2, h => by
      unfold charsOKL at h; rw [Bool.and_eq_true] at h
      unfold genListC; simp only [nlFree_append, Bool.and_eq_true]
      exact ⟨⟨⟨h1, nlFree_genC e h.1⟩, h2⟩, nlFree_genListC pre post es h1 h2 h.2⟩

theorem nlFree_genOptC : ∀ (pre : List Char) (o : Option PyExpr), nlFree pre = true → charsOKO o = true →
    nlFree (genOptC pre o) = true
  | _, none, _, _ => rfl
  | pre, some e, h1, h => by
      unfold genOptC; rw [nlFree_append, Bool.and_eq_true]
      exact ⟨h1, nlFree_genC e h⟩

theorem headOKc_wrapC {k : Str} (hk : parenthesised k = true) (s : List Char) : headOKc (wrapC k s) = true := by
  simp [wrapC, hk, headOKc, isPySpace]

theorem headOKc_genC : ∀ (e : PyExpr), WF e → isExpr e = true → charsOK e = true → headOKc (genC e) = true := by
  intro e hw he h
  cases e with
  | name id => unfold charsOK at h; exact headOKc_ident h
  | const c => unfold charsOK at h; rw [Bool.and_eq_true] at h; exact h.2
  | boolOp _ vs => cases vs <;> exact headOKc_wrapC parens_all.1 _
  | binOp _ _ _ => exact headOKc_wrapC parens_all.2.1 _
  | unaryOp _ _ => exact headOKc_wrapC parens_all.2.2.1 _
  | lambda _ _ _ _ _ _ => exact headOKc_wrapC parens_all.2.2.2.1 _
  | ifExp _ _ _ => exact headOKc_wrapC parens_all.2.2.2.2.1 _
  | yield_ _ => exact headOKc_wrapC parens_all.2.2.2.2.2.1 _
  | compare _ _ => exact headOKc_wrapC parens_all.2.2.2.2.2.2 _
  | dict _ | listComp _ _ | genExp _ _ | list _ | tuple _ => rfl
  | call f _ _ =>
      unfold WF at hw; unfold charsOK at h; simp only [Bool.and_eq_true] at h
      exact headOKc_append _ (headOKc_genC f hw.1 hw.2.1 h.1.1)
  | «attribute» v _ =>
      unfold WF at hw; unfold charsOK at h; rw [Bool.and_eq_true] at h
      exact headOKc_append _ (headOKc_genC v hw.1 hw.2.1 h.1)
  | subscript v s =>
      unfold WF at hw; unfold charsOK at h; rw [Bool.and_eq_true] at h
      rw [genC_subscript]
      exact headOKc_append _ (headOKc_genC v hw.1 hw.2.1 h.1)
  | _ => cases he

theorem lineOKb_of {i : Nat} {t : List Char} (h1 : nlFree t = true) (h2 : headOKc t = true) : lineOKb ⟨i, t⟩ = true := by
  cases t with
  | nil => simp [headOKc] at h2
  | cons c r =>
    simp only [nlFree] at h1
    simp only [headOKc] at h2
    simp only [lineOKb, Bool.and_eq_true]
    exact ⟨h1, h2⟩

theorem linesOK_one {i : Nat} {t : List Char} (h1 : nlFree t = true) (h2 : headOKc t = true) :
    [(⟨i, t⟩ : PLine)].all lineOKb = true := by
  rw [List.all_cons, lineOKb_of h1 h2]; rfl

theorem linesOK_cons {l : PLine} {r : List PLine} (hl : lineOKb l = true) (hr : r.all lineOKb = true) :
    (l :: r).all lineOKb = true := by rw [List.all_cons, hl, hr]; rfl

theorem linesOK_append {a b : List PLine} (ha : a.all lineOKb = true) (hb : b.all lineOKb = true) :
    (a ++ b).all lineOKb = true := by rw [List.all_append, ha, hb]; rfl

theorem lineOKb_blank (i : Nat) : lineOKb ⟨i, []⟩ = true := rfl

def aliasOKc : Str × Option Str → Bool
  | (n, none) => nlFree n
  | (n, some a) => nlFree n && nlFree a

def itemsOKc : List (PyExpr × Option PyExpr) → Bool
  | [] => true
  | (c, v) :: r => charsOK c && charsOKO v && itemsOKc r

mutual
def charsOKS : PyStmt → Bool
  | .expr e => charsOK e
  | .assign ts v => charsOKL ts && charsOK v
  | .augAssign t op v => nlFree (symText AstGen.binaryOperators op) && charsOK t && charsOK v
  | .return_ v => charsOKO v
  | .delete ts => charsOKL ts
  | .pass_ | .break_ | .continue_ => true
  | .assert_ t m => charsOK t && charsOKO m
  | .raise_ e c => charsOKO e && charsOKO c
  | .global_ ns => ns.all nlFree
  | .import_ ns => ns.all aliasOKc
  | .importFrom m ns _ => nlFree (m.getD []) && ns.all aliasOKc
  | .if_ t b o => charsOK t && charsOKB b && charsOKB o
  | .while_ t b o => charsOK t && charsOKB b && charsOKB o
  | .for_ t it b o => charsOK t && charsOK it && charsOKB b && charsOKB o
  | .with_ items b => itemsOKc items && charsOKB b
  | .try_ b hs o f => charsOKB b && charsOKB hs && charsOKB o && charsOKB f
  | .handler t n b => charsOKO t && nlFree (n.getD []) && charsOKB b
  | .functionDef name po ar va ko ka body decos ret _ =>
      nlFree name && charsOKL po && charsOKL ar && charsOKO va && charsOKL ko && charsOKO ka && charsOKB body
        && charsOKL decos && charsOKO ret
  | .classDef name bases kws body decos _ => nlFree name && charsOKL bases && charsOKL kws && charsOKB body && charsOKL decos
  | .unsupported _ => true
def charsOKB : List PyStmt → Bool
  | [] => true
  | s :: ss => charsOKS s && charsOKB ss
end

theorem nlFree_joinC {α : Type} (sep : List Char) (hs : nlFree sep = true) (f : α → List Char) (xs : List α)
    (h : ∀ x ∈ xs, nlFree (f x) = true) : nlFree (joinC sep (xs.map f)) = true := by
  induction xs with
  | nil => rfl
  | cons x r ih =>
    cases r with
    | nil => simpa [joinC] using h x (by simp)
    | cons y r' =>
      simp only [List.map_cons, joinC, nlFree_append, Bool.and_eq_true] at ih ⊢
      exact ⟨⟨h x (by simp), hs⟩, ih (fun z hz => h z (by simp [hz]))⟩

theorem nlFree_aliasC {p : Str × Option Str} (h : aliasOKc p = true) : nlFree (aliasC p) = true := by
  obtain ⟨n, a⟩ := p
  cases a with
  | none => exact h
  | some a =>
    simp only [aliasOKc, Bool.and_eq_true] at h
    simp only [aliasC]
    simp only [nlFree_append, nlFree_cons, h.1, h.2]; decide

theorem nlFree_aliases (ns : List (Str × Option Str)) (h : ns.all aliasOKc = true) :
    nlFree (joinC cs!", " (ns.map aliasC)) = true :=
  nlFree_joinC _ rfl aliasC ns fun p hp => nlFree_aliasC (List.all_eq_true.mp h p hp)

theorem nlFree_withItem (items : List (PyExpr × Option PyExpr)) (h : itemsOKc items = true) :
    ∀ p ∈ items, nlFree (withItemC p) = true := by
  induction items with
  | nil => intro p hp; simp at hp
  | cons q r ih =>
    obtain ⟨c, v⟩ := q
    simp only [itemsOKc, Bool.and_eq_true] at h
    intro p hp
    rcases List.mem_cons.mp hp with rfl | hp'
    · cases v with
      | none => exact nlFree_genC c h.1.1
      | some t =>
        simp only [withItemC]
        simp only [nlFree_append, nlFree_cons, nlFree_genC c h.1.1, nlFree_genC t h.1.2]; decide
    · exact ih h.2 p hp'

theorem nlFree_withItems (items : List (PyExpr × Option PyExpr)) (h : itemsOKc items = true) :
    nlFree (joinC cs!", " (items.map withItemC)) = true :=
  nlFree_joinC _ rfl withItemC items (nlFree_withItem items h)

theorem nlFree_reprs (ns : List Str) (h : ns.all nlFree = true) : nlFree (joinC cs!", " (ns.map reprC)) = true :=
  nlFree_joinC _ rfl reprC ns fun p hp => by
    simp only [reprC, nlFree_append, nlFree_cons, List.all_eq_true.mp h p hp]; decide

theorem nlFree_genParamsC (po ar : List PyExpr) (va : Option PyExpr) (ko : List PyExpr) (ka : Option PyExpr)
    (h1 : charsOKL po = true) (h2 : charsOKL ar = true) (h3 : charsOKO va = true) (h4 : charsOKL ko = true)
    (h5 : charsOKO ka = true) : nlFree (genParamsC po ar va ko ka) = true :=
  nlFree_paramsC po.isEmpty (nlFree_genListC cs!", " [] po rfl rfl h1) (nlFree_genListC cs!", " [] ar rfl rfl h2)
    (nlFree_varargC (nlFree_genOptC cs!", *" va rfl h3) va.isNone ko.isEmpty) (nlFree_genListC cs!", " [] ko rfl rfl h4)
    (nlFree_genOptC cs!", **" ka rfl h5)

theorem nlFree_classArgsC (bases kws : List PyExpr) (h1 : charsOKL bases = true) (h2 : charsOKL kws = true) :
    nlFree (classArgsC bases kws) = true := by
  unfold classArgsC
  split
  · rfl
  · have hd : nlFree ((genListC cs!", " [] bases ++ genListC cs!", " [] kws).drop 2) = true :=
      nlFree_drop _ _ (by simp only [nlFree_append, nlFree_cons, nlFree_genListC cs!", " [] bases rfl rfl h1, nlFree_genListC cs!", " [] kws rfl rfl h2]; decide)
    simp only [nlFree_append, nlFree_cons, hd]; decide

theorem charsOKL_of_mem {es : List PyExpr} (h : charsOKL es = true) : ∀ e ∈ es, charsOK e = true := by
  induction es with
  | nil => intro e he; simp at he
  | cons x r ih =>
    simp only [charsOKL, Bool.and_eq_true] at h
    intro e he
    rcases List.mem_cons.mp he with rfl | he'
    · exact h.1
    · exact ih h.2 e he'

theorem decos_ok (ind : Nat) (decos : List PyExpr) (h : charsOKL decos = true) :
    (decos.map fun d => (⟨ind, '@' :: genC d⟩ : PLine)).all lineOKb = true := by
  simp only [List.all_map, List.all_eq_true]
  intro d hd
  exact lineOKb_of (by simp only [nlFree_append, nlFree_cons, nlFree_genC d (charsOKL_of_mem h d hd)]; decide) rfl

theorem supported_headC {e : PyExpr} (hs : Supported e) (hc : charsOK e = true) : headOKc (genC e) = true :=
  headOKc_genC e hs.1 hs.2 hc

theorem headOKc_assign {ts : List PyExpr} (v : PyExpr) (hne : ts ≠ []) (hs : ∀ t ∈ ts, Supported t)
    (hc : charsOKL ts = true) : headOKc (genListC [] cs!" = " ts ++ genC v) = true := by
  cases ts with
  | nil => exact absurd rfl hne
  | cons t r =>
    unfold charsOKL at hc; rw [Bool.and_eq_true] at hc
    unfold genListC; simp only [List.nil_append, List.append_assoc]
    exact headOKc_append _ (supported_headC (hs t (List.mem_cons_self ..)) hc.1)

theorem linesOK_stmt : ∀ (s : PyStmt) (ind : Nat), WFS s → charsOKS s = true → (genStmtC ind s).all lineOKb = true := by
  intro s
  apply PyStmt.rec (motive_1 := fun s => ∀ ind, WFS s → charsOKS s = true → (genStmtC ind s).all lineOKb = true)
    (motive_2 := fun ss => (∀ ind, WFSL ss → charsOKB ss = true → (genBodyC ind ss).all lineOKb = true) ∧
      ∀ ind, WFSL ss → charsOKB ss = true → (genElseC ind ss).all lineOKb = true)
  case expr =>
    intro e ind hw h
    unfold WFS at hw
    unfold charsOKS at h
    exact linesOK_one (nlFree_genC e h) (supported_headC hw h)
  case assign =>
    intro ts v ind hw h
    unfold WFS at hw
    unfold charsOKS at h; rw [Bool.and_eq_true] at h
    exact linesOK_one (by simp only [nlFree_append, nlFree_cons, nlFree_genListC [] cs!" = " ts rfl rfl h.1, nlFree_genC v h.2]; decide)
      (headOKc_assign v hw.1 hw.2.1 h.1)
  case augAssign =>
    intro t op v ind hw h
    unfold WFS at hw
    unfold charsOKS at h; simp only [Bool.and_eq_true] at h
    refine linesOK_one (by simp only [augOpC]; simp only [nlFree_append, nlFree_cons, nlFree_genC t h.1.2, nlFree_genC v h.2, h.1.1]; decide) ?_
    rw [List.append_assoc]
    exact headOKc_append _ (supported_headC hw.2.1 h.1.2)
  case return_ =>
    intro v ind hw h
    unfold charsOKS at h
    exact linesOK_one (by simp only [nlFree_append, nlFree_cons, nlFree_genOptC [' '] v rfl h]; decide) rfl
  case delete =>
    intro ts ind hw h
    unfold charsOKS at h
    have hd := nlFree_drop 2 _ (nlFree_genListC cs!", " [] ts rfl rfl h)
    exact linesOK_one (by simp only [nlFree_append, nlFree_cons, hd]; decide) rfl
  case pass_ | break_ | continue_ => intro ind hw h; rfl
  case assert_ =>
    intro t m ind hw h
    unfold charsOKS at h; simp only [Bool.and_eq_true] at h
    exact linesOK_one (by simp only [nlFree_append, nlFree_cons, nlFree_genC t h.1, nlFree_genOptC cs!", " m rfl h.2]; decide) rfl
  case raise_ =>
    intro e c ind hw h
    unfold charsOKS at h; simp only [Bool.and_eq_true] at h
    cases e with
    | none => rfl
    | some x =>
      simp only [charsOKO] at h
      exact linesOK_one (by simp only [nlFree_append, nlFree_cons, nlFree_genC x h.1, nlFree_genOptC cs!" from " c rfl h.2]; decide) rfl
  case global_ => intro _ ind hw h; unfold WFS at hw; exact hw.elim
  case import_ =>
    intro ns ind hw h
    unfold charsOKS at h
    exact linesOK_one (by simp only [nlFree_append, nlFree_cons, nlFree_aliases ns h]; decide) rfl
  case importFrom =>
    intro m ns lvl ind hw h
    unfold charsOKS at h; simp only [Bool.and_eq_true] at h
    have hdots : nlFree (List.replicate lvl '.') = true := by
      simp only [nlFree, Bool.not_eq_true', List.contains_eq_mem, decide_eq_false_iff_not, List.mem_replicate]
      intro hh; exact absurd hh.2 (by decide)
    exact linesOK_one (by simp only [nlFree_append, nlFree_cons, hdots, h.1, nlFree_aliases ns h.2]; decide) rfl
  case if_ | while_ =>
    intro t b o ih_b ih_o ind hw h
    unfold WFS at hw
    unfold charsOKS at h; simp only [Bool.and_eq_true] at h
    exact linesOK_cons (lineOKb_of (by simp only [nlFree_append, nlFree_cons, nlFree_genC t h.1.1]; decide) rfl)
      (linesOK_append (ih_b.1 _ hw.2.1 h.1.2) (ih_o.2 ind hw.2.2.1 h.2))
  case for_ =>
    intro t it b o ih_b ih_o ind hw h
    unfold WFS at hw
    unfold charsOKS at h; simp only [Bool.and_eq_true] at h
    exact linesOK_cons (lineOKb_of (by simp only [nlFree_append, nlFree_cons, nlFree_genC t h.1.1.1, nlFree_genC it h.1.1.2]; decide) rfl)
      (linesOK_append (ih_b.1 _ hw.2.2.1 h.1.2) (ih_o.2 ind hw.2.2.2.1 h.2))
  case with_ =>
    intro items b ih_b ind hw h
    unfold WFS at hw
    unfold charsOKS at h; simp only [Bool.and_eq_true] at h
    exact linesOK_cons (lineOKb_of (by simp only [nlFree_append, nlFree_cons, nlFree_withItems items h.1]; decide) rfl)
      (ih_b.1 _ hw.2.2.1 h.2)
  case try_ =>
    intro b hs o f ih_b ih_hs ih_o ih_f ind hw h
    unfold WFS at hw
    unfold charsOKS at h; simp only [Bool.and_eq_true] at h
    have e3 := ih_o.1 (ind + 1) hw.2.2.2.1 h.1.2
    have e4 := ih_f.1 (ind + 1) hw.2.2.2.2.1 h.2
    refine linesOK_cons rfl (linesOK_append (linesOK_append (linesOK_append
      (ih_b.1 (ind + 1) hw.1 h.1.1.1) (ih_hs.1 ind hw.2.1 h.1.1.2)) ?_) ?_)
    · cases o with
      | nil => rfl
      | cons _ _ => exact linesOK_cons rfl e3
    · cases f with
      | nil => rfl
      | cons _ _ => exact linesOK_cons rfl e4
  case handler =>
    intro t n b ih_b ind hw h
    unfold WFS at hw
    unfold charsOKS at h; simp only [Bool.and_eq_true] at h
    obtain ⟨hw1, rfl, hw3, _⟩ := hw
    exact linesOK_cons (lineOKb_of (by simp only [nlFree_append, nlFree_cons, nlFree_genOptC [' '] t rfl h.1.1]; decide) rfl)
      (ih_b.1 _ hw3 h.2)
  case functionDef =>
    intro name po ar va ko ka body decos ret tp ih_body ind hw h
    unfold WFS at hw
    unfold charsOKS at h; simp only [Bool.and_eq_true] at h
    obtain ⟨⟨⟨⟨⟨⟨⟨⟨h0, h1⟩, h2⟩, h3⟩, h4⟩, h5⟩, h6⟩, h7⟩, h8⟩ := h
    exact linesOK_append (decos_ok ind decos h7) (linesOK_cons
      (lineOKb_of (by simp only [nlFree_append, nlFree_cons, h0, nlFree_genParamsC po ar va ko ka h1 h2 h3 h4 h5, nlFree_genOptC cs!" -> " ret rfl h8]; decide) rfl)
      (ih_body.1 _ hw.2.2.1 h6))
  case classDef =>
    intro name bases kws body decos tp ih_body ind hw h
    unfold WFS at hw
    unfold charsOKS at h; simp only [Bool.and_eq_true] at h
    obtain ⟨⟨⟨⟨h0, h1⟩, h2⟩, h3⟩, h4⟩ := h
    exact linesOK_append (decos_ok ind decos h4) (linesOK_cons
      (lineOKb_of (by simp only [nlFree_append, nlFree_cons, h0, nlFree_classArgsC bases kws h1 h2]; decide) rfl)
      (ih_body.1 _ hw.2.2.2.2.2.1 h3))
  case unsupported => intro _ ind hw h; unfold WFS at hw; exact hw.elim
  case nil => exact ⟨fun _ _ _ => rfl, fun _ _ _ => rfl⟩
  case cons =>
    intro s ss ih_s ih_ss
    refine ⟨fun ind hw h => ?_, fun ind hw h => ?_⟩ <;>
      (unfold WFSL at hw; unfold charsOKB at h; rw [Bool.and_eq_true] at h)
    · exact linesOK_append (ih_s ind hw.1 h.1) (ih_ss.1 ind hw.2 h.2)
    · exact linesOK_cons rfl (linesOK_append (ih_s _ hw.1 h.1) (ih_ss.1 _ hw.2 h.2))

theorem linesOK_body : ∀ (ss : List PyStmt) (ind : Nat), WFSL ss → charsOKB ss = true → (genBodyC ind ss).all lineOKb = true
  | [], _, _, _ => rfl
  | s :: ss, ind, hw, h => by
      unfold WFSL at hw; unfold charsOKB at h; rw [Bool.and_eq_true] at h
      exact linesOK_append (linesOK_stmt s ind hw.1 h.1) (linesOK_body ss ind hw.2 h.2)
theorem linesOK_else : ∀ (ss : List PyStmt) (ind : Nat), WFSL ss → charsOKB ss = true → (genElseC ind ss).all lineOKb = true
  | [], _, _, _ => rfl
  | s :: ss, ind, hw, h => by
      unfold WFSL at hw; unfold charsOKB at h; rw [Bool.and_eq_true] at h
      exact linesOK_cons rfl (linesOK_append (linesOK_stmt s _ hw.1 h.1) (linesOK_body ss _ hw.2 h.2))

end Genshi.Py
