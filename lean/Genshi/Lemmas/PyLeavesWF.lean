/-
  C13 — the supported trees (`WF`, `WFS`) are inside the domain `leafOK` / `leafOKS` of the leaf
  theorem, so it applies to every program for which faithful regeneration is claimed.
-/
import Genshi.Lemmas.PyLeaves
import Genshi.Lemmas.PySupported
namespace Genshi.Py
open Genshi.Gen

theorem startsNum_of_wordNum (t : Str) (h : wordNum t = [.num t]) : startsNum t = true := by
  cases t with
  | nil => simp [wordNum] at h
  | cons c r =>
    simp only [wordNum] at h
    simp only [startsNum]
    split at h
    · assumption
    · simp at h

theorem constOK_leafOK (c : Const) (h : ConstOK c) : constLeafOK c = true := by
  obtain ⟨k, t⟩ := c
  cases k <;> simp only [ConstOK] at h <;> simp only [constLeafOK, Bool.and_eq_true, beq_iff_eq]
  · exact startsNum_of_wordNum t h.1
  · exact ⟨startsNum_of_wordNum t h.1, h.2.2.2⟩
  · exact ⟨startsNum_of_wordNum t h.1, h.2.2.2⟩

theorem isIntLit_eq (e : PyExpr) : isIntLit e = isIntConst e := by
  cases e with
  | const c => obtain ⟨k, t⟩ := c; cases k <;> rfl
  | _ => rfl

theorem wf_leafOK : ∀ (e : PyExpr), WF e → leafOK e = true := by
  intro e
  apply PyExpr.rec (motive_1 := fun e => WF e → leafOK e = true) (motive_2 := fun es => WFL es → leafOKL es = true)
    (motive_3 := fun o => WFO o → leafOKO o = true)
  case name | unsupported | nil | none => intros; rfl
  case const => intro c h; exact constOK_leafOK c h
  case boolOp => intro _ vs ih h; unfold WF at h; exact ih h.2.2.1
  case unaryOp | cmpRhs | keyword => intro _ e ih h; unfold WF at h; exact ih h.2.1
  case dict | list | tuple | yield_ | starred => intro x ih h; unfold WF at h; exact ih h.1
  case some => intro e ih h; exact ih h
  case binOp => intro l _ r ihl ihr h; unfold WF at h; unfold leafOK; rw [ihl h.2.1, ihr h.2.2.1]; rfl
  case lambda =>
    intro po ar va ko ka body i1 i2 i3 i4 i5 i6 h; unfold WF at h
    unfold leafOK; rw [i1 h.1, i2 h.2.1, i3 h.2.2.1, i4 h.2.2.2.1, i5 h.2.2.2.2.1, i6 h.2.2.2.2.2.1]; rfl
  case ifExp | slice => intro a b c i1 i2 i3 h; unfold WF at h; unfold leafOK; rw [i1 h.1, i2 h.2.1, i3 h.2.2.1]; rfl
  case listComp | genExp | compare | subscript | dictItem =>
    intro a b i1 i2 h; unfold WF at h; unfold leafOK; rw [i1 h.1, i2 h.2.2.1]; rfl
  case call => intro f args kws i1 i2 i3 h; unfold WF at h; unfold leafOK; rw [i1 h.1, i2 h.2.2.1, i3 h.2.2.2.2.1]; rfl
  case comp => intro t it ifs _ i1 i2 i3 h; unfold WF at h; unfold leafOK; rw [i1 h.1, i2 h.2.2.1, i3 h.2.2.2.2.1]; rfl
  case «attribute» => intro v _ ih h; unfold WF at h; unfold leafOK; rw [ih h.1, isIntLit_eq, h.2.2.2]; rfl
  case param => intro _ ann d i1 i2 h; unfold WF at h; unfold leafOK; rw [i1 h.2.1, i2 h.2.2.1]; rfl
  case cons => intro e es i1 i2 h; unfold WFL at h; unfold leafOKL; rw [i1 h.1, i2 h.2]; rfl

theorem wfl_leafOK : ∀ (es : List PyExpr), WFL es → leafOKL es = true
  | [], _ => rfl
  | e :: es, h => by unfold WFL at h; unfold leafOKL; rw [wf_leafOK e h.1, wfl_leafOK es h.2]; rfl

theorem wfo_leafOK : ∀ (o : Option PyExpr), WFO o → leafOKO o = true
  | none, _ => rfl
  | some e, h => wf_leafOK e h

theorem supportedO_leafOK (o : Option PyExpr) (h : SupportedO o) : leafOKO o = true :=
  wfo_leafOK o (wfo_of_supported h)

theorem supportedL_leafOK (es : List PyExpr) (h : ∀ e ∈ es, Supported e) : leafOKL es = true :=
  wfl_leafOK es (wfl_of_supported es h).1

theorem items_leafOK (items : List (PyExpr × Option PyExpr)) (h : ∀ i ∈ items, Supported i.1 ∧ SupportedO i.2) :
    leafOKItems items = true := by
  induction items with
  | nil => rfl
  | cons x r ih =>
    obtain ⟨c, v⟩ := x
    have hx := h (c, v) (by simp)
    simp [leafOKItems, wf_leafOK c hx.1.1, supportedO_leafOK v hx.2, ih (fun y hy => h y (by simp [hy]))]

theorem wfs_leafOKS : ∀ (s : PyStmt), WFS s → leafOKS s = true := by
  intro s
  apply PyStmt.rec (motive_1 := fun s => WFS s → leafOKS s = true) (motive_2 := fun ss => WFSL ss → leafOKB ss = true)
  case pass_ | break_ | continue_ | import_ | importFrom | unsupported | nil => intros; rfl
  case global_ => intro _ h; exact h.elim
  case expr => intro e h; exact wf_leafOK e h.1
  case return_ => intro v h; exact supportedO_leafOK v h
  case delete => intro ts h; exact supportedL_leafOK ts h.2
  case assign => intro ts v h; unfold WFS at h; unfold leafOKS; rw [supportedL_leafOK ts h.2.1, wf_leafOK v h.2.2.1]; rfl
  case augAssign => intro t _ v h; unfold WFS at h; unfold leafOKS; rw [wf_leafOK t h.2.1.1, wf_leafOK v h.2.2.1]; rfl
  case assert_ => intro t m h; unfold WFS at h; unfold leafOKS; rw [wf_leafOK t h.1.1, supportedO_leafOK m h.2]; rfl
  case raise_ => intro e c h; unfold WFS at h; unfold leafOKS; rw [supportedO_leafOK e h.1, supportedO_leafOK c h.2.1]; rfl
  case if_ | while_ =>
    intro t b o ib io h; unfold WFS at h; unfold leafOKS; rw [wf_leafOK t h.1.1, ib h.2.1, io h.2.2.1]; rfl
  case for_ =>
    intro t it b o ib io h; unfold WFS at h
    unfold leafOKS; rw [wf_leafOK t h.1.1, wf_leafOK it h.2.1.1, ib h.2.2.1, io h.2.2.2.1]; rfl
  case with_ => intro items b ib h; unfold WFS at h; unfold leafOKS; rw [items_leafOK items h.2.1, ib h.2.2.1]; rfl
  case try_ =>
    intro b hs o f ib ih io if_ h; unfold WFS at h
    unfold leafOKS; rw [ib h.1, ih h.2.1, io h.2.2.2.1, if_ h.2.2.2.2.1]; rfl
  case handler =>
    intro t n b ib h; unfold WFS at h; unfold leafOKS; rw [supportedO_leafOK t h.1, h.2.1, ib h.2.2.1]; rfl
  case functionDef =>
    intro _ po ar va ko ka body decos ret _ ib h; unfold WFS ParamsOK at h
    obtain ⟨_, ⟨h1, h2, h3, h4, h5, _⟩, h6, _, h7, h8, _⟩ := h
    unfold leafOKS; rw [wfl_leafOK po h1, wfl_leafOK ar h2, wfo_leafOK va h3, wfl_leafOK ko h4, wfo_leafOK ka h5,
      ib h6, supportedL_leafOK decos h7, supportedO_leafOK ret h8]; rfl
  case classDef =>
    intro _ bases kws body decos _ ib h; unfold WFS at h
    unfold leafOKS; rw [wfl_leafOK bases h.2.1, wfl_leafOK kws h.2.2.2.1, ib h.2.2.2.2.2.1,
      supportedL_leafOK decos h.2.2.2.2.2.2.2.1]; rfl
  case cons => intro s ss i1 i2 h; unfold WFSL at h; unfold leafOKB; rw [i1 h.1, i2 h.2]; rfl

theorem wfsl_leafOKB : ∀ (ss : List PyStmt), WFSL ss → leafOKB ss = true
  | [], _ => rfl
  | s :: ss, h => by unfold WFSL at h; unfold leafOKB; rw [wfs_leafOKS s h.1, wfsl_leafOKB ss h.2]; rfl


end Genshi.Py
