/-
  C13 — `parse_gen`: subscripts / slices and comprehensions.
-/
import Genshi.Lemmas.PyParseSeq
namespace Genshi.Py
open Genshi.Gen

def OptGoal (o : Option PyExpr) : Prop := ∀ x, o = some x → ExprGoal x

def SliceGoal (s : PyExpr) : Prop :=
  (isSlice s = false ∧ ExprGoal s) ∨ ∃ l u st, s = .slice l u st ∧ OptGoal l ∧ OptGoal u ∧ OptGoal st

theorem isSliceEnd_head {toks : List Tok} (h : headOK toks = true) : isSliceEnd toks = false := by
  unfold isSliceEnd
  split <;> first | cases h | rfl

theorem sliceLower_head (k : Knot) {toks : List Tok} (h : headOK toks = true) :
    sliceLower k toks = (k.expr toks).bind fun x => some (some x.1, x.2) := by
  unfold sliceLower
  split
  · cases h
  · rfl

theorem sliceUpper_head (k : Knot) {toks : List Tok} (h : headOK toks = true) :
    sliceUpper k toks = (k.expr toks).bind fun x => some (some x.1, x.2) := by
  unfold sliceUpper
  split
  · cases h
  · rw [isSliceEnd_head h]; rfl

theorem sliceStep_head (k : Knot) {toks : List Tok} (h : headOK toks = true) :
    sliceStep k toks = (k.expr toks).bind fun x => some (some x.1, x.2) := by
  unfold sliceStep
  rw [isSliceEnd_head h]; rfl

/-- a slice item that does not start with `*`: lower bound, then `:` upper bound and `:` step if they follow -/
theorem sliceF_lower (k : Knot) (toks : List Tok) (h : atCloser tStar toks = false) :
    sliceF k toks = (sliceLower k toks).bind fun x =>
      match x.2 with
      | .op [':'] :: r1 => (sliceUpper k r1).bind fun y =>
          match y.2 with
          | .op [':'] :: r3 => (sliceStep k r3).bind fun z => some (.slice x.1 y.1 z.1, z.2)
          | _ => some (.slice x.1 y.1 none, y.2)
      | _ => match x.1 with
          | some e => some (e, x.2)
          | none => none := by
  unfold sliceF
  split
  · simp [atCloser, tStar] at h
  · rfl

/-- an optional operand followed by the token `t`: the text starts like an operand or with `t` -/
theorem opt_notCloser (o : Option PyExpr) (go : OptGoal o) (t : Tok) (r : List Tok) {c : Tok}
    (hc : atomStart c = false) (ht : t ≠ c) : atCloser c (genOpt [] o ++ t :: r) = false := by
  cases o with
  | none => simpa [genOpt, atCloser] using ht
  | some x => exact atCloser_head (headOK_append _ (go x rfl).head) hc

theorem sliceLower_opt (o : Option PyExpr) (go : OptGoal o) (m : Nat) (hm : 8 * szO o + 1 ≤ m) (r : List Tok) :
    sliceLower (knot m) (genOpt [] o ++ tColon :: r) = some (o, tColon :: r) := by
  cases o with
  | none => rfl
  | some x =>
    rw [show genOpt [] (some x) = gen x from rfl, sliceLower_head _ (headOK_append _ (go x rfl).head),
      (go x rfl).kexpr (fuel_some hm) (tColon :: r) rfl]
    rfl

theorem sliceUpper_opt (o : Option PyExpr) (go : OptGoal o) (m : Nat) (hm : 8 * szO o + 1 ≤ m) (t : Tok)
    (ht : t = tColon ∨ t = tRB) (r : List Tok) :
    sliceUpper (knot m) (genOpt [] o ++ t :: r) = some (o, t :: r) := by
  cases o with
  | none => rcases ht with rfl | rfl <;> rfl
  | some x =>
    have hc : closedE (t :: r) = true := by rcases ht with rfl | rfl <;> rfl
    rw [show genOpt [] (some x) = gen x from rfl, sliceUpper_head _ (headOK_append _ (go x rfl).head),
      (go x rfl).kexpr (fuel_some hm) (t :: r) hc]
    rfl

theorem sliceStep_some (x : PyExpr) (gx : ExprGoal x) (m : Nat) (hm : need x + 1 ≤ m) (r : List Tok) :
    sliceStep (knot m) (gen x ++ tRB :: r) = some (some x, tRB :: r) := by
  rw [sliceStep_head _ (headOK_append _ gx.head), gx.kexpr hm (tRB :: r) rfl]
  rfl

theorem sliceF_ok (s : PyExpr) (h : SliceGoal s) (m : Nat) (hm : need s + 1 ≤ m) (rest : List Tok) :
    sliceF (knot m) (gen s ++ tRB :: rest) = some (s, tRB :: rest)
      ∧ atCloser tRB (gen s ++ tRB :: rest) = false := by
  rcases h with ⟨-, gs⟩ | ⟨l, u, st, rfl, gl, gu, gst⟩
  · have hh := headOK_append (tRB :: rest) gs.head
    refine ⟨?_, atCloser_head hh rfl⟩
    rw [sliceF_lower _ _ (atCloser_head hh rfl), sliceLower_head _ hh, gs.kexpr hm (tRB :: rest) rfl]
    rfl
  · obtain ⟨hl, hu, hst⟩ := fuelA (Nat.le_of_succ_le hm)
    simp only [gen_slice, List.append_assoc, List.cons_append]
    refine ⟨?_, opt_notCloser l gl tColon _ rfl (by decide)⟩
    rw [sliceF_lower _ _ (opt_notCloser l gl tColon _ rfl (by decide)), sliceLower_opt l gl m hl]
    cases st with
    | none =>
      show (sliceUpper (knot m) (genOpt [] u ++ tRB :: rest)).bind _ = _
      rw [sliceUpper_opt u gu m hu tRB (.inr rfl) rest]
      rfl
    | some x =>
      show (sliceUpper (knot m) (genOpt [] u ++ tColon :: (gen x ++ tRB :: rest))).bind _ = _
      rw [sliceUpper_opt u gu m hu tColon (.inl rfl)]
      show (sliceStep (knot m) (gen x ++ tRB :: rest)).bind _ = _
      rw [sliceStep_some x (gst x rfl) m (fuel_some hst) rest]
      rfl

theorem trailersF_sub (k : Knot) (e : PyExpr) (r : List Tok) :
    trailersF k e (tLB :: r) = (k.items .slices tRB [] false r).bind fun y =>
      match y.2 with
      | .op [']'] :: r2 =>
          match y.1.1, y.1.2 with
          | [], _ => none
          | [x], false => if isStar x then k.trailers (.subscript e (.tuple [x])) r2 else k.trailers (.subscript e x) r2
          | _, _ => k.trailers (.subscript e (.tuple y.1.1)) r2
      | _ => none := rfl

theorem goal_subscript (v s : PyExpr) (gv : ExprGoal v) (hs : SliceGoal s) : ExprGoal (.subscript v s) := by
  refine goal_trailer gv _ (sz s) (gen_subscript v s) rfl rfl (fun _ => rfl) ?_
  intro M hM rest
  obtain ⟨m, rfl, hm⟩ := succ_of_le hM
  simp only [List.cons_append, List.append_assoc, List.nil_append]
  rw [trailersF_sub, knot_items]
  obtain ⟨hsl, hat⟩ := sliceF_ok s hs m hm rest
  have : itemsF (knot m) .slices tRB [] false (gen s ++ tRB :: rest) = some (([s], false), tRB :: rest) := by
    have := itemsF_last (knot m) .slices tRB [] false (gen s ++ tRB :: rest) s (tRB :: rest) hat
      (by simpa [itemF] using hsl) rfl (by decide)
    simpa using this
  rw [this]
  have hns : isStar s = false := by
    rcases hs with ⟨_, gs⟩ | ⟨l, u, st, rfl, _⟩
    · cases s with
      | starred x => have := gs.head; simp [gen, headOK, atomStart, tStar] at this
      | _ => rfl
    · rfl
  simp [tRB, hns]

def CompGoal (c : PyExpr) : Prop :=
  ∃ t it ifs a, c = .comp t it ifs a ∧ ExprGoal t ∧ ExprGoal it ∧ ∀ x ∈ ifs, ExprGoal x

theorem gen_comp (t it : PyExpr) (ifs : List PyExpr) (a : Bool) :
    gen (.comp t it ifs a) = (if a then [kw cs!"async"] else []) ++
      kw cs!"for" :: (gen t ++ kw cs!"in" :: (gen it ++ genList [kw cs!"if"] [] ifs)) := by
  simp [gen]

theorem ifsF_if (k : Knot) (acc : List PyExpr) (r : List Tok) :
    ifsF k acc (kw cs!"if" :: r) = (k.disj r).bind fun a => k.ifs (a.1 :: acc) a.2 := rfl

theorem ifsF_stop (k : Knot) (acc : List PyExpr) (toks : List Tok) (h : stopsIf toks = true) :
    ifsF k acc toks = some (acc.reverse, toks) := by
  unfold ifsF
  split
  · simp [stopsIf] at h
  · rfl

theorem closedD_ifList (xs : List PyExpr) (rest : List Tok) (h : closedE rest = true) :
    closedD (genList [kw cs!"if"] [] xs ++ rest) = true :=
  genList_pre (fun _ => rfl) [] [] xs (closedE_D h)

theorem ifs_loop (xs : List PyExpr) (hx : ∀ x ∈ xs, ExprGoal x) :
    ∀ (acc : List PyExpr) (M : Nat), 8 * szL xs + 1 ≤ M → ∀ rest, closedE rest = true →
      (knot M).ifs acc (genList [kw cs!"if"] [] xs ++ rest) = some (acc.reverse ++ xs, rest) :=
  genList_loop (fun M => (knot M).ifs) id [kw cs!"if"] [] ExprGoal (closedE · = true)
    (fun _ _ _ hc => ifsF_stop _ _ _ (closedE_if hc))
    (fun m acc x xs rest gx _ hm hc => by
      simp only [List.append_nil, List.cons_append, List.nil_append]
      rw [knot_ifs, ifsF_if, gx.kdisj (Nat.le_succ_of_le hm) _ (closedD_ifList xs rest hc)]; rfl)
    xs hx


theorem itemF_targets (k : Knot) (toks : List Tok) (h : headOK toks = true) :
    itemF k .targets toks = primaryF k toks := by
  simp only [itemF]
  split
  · cases h
  · rfl

theorem clauseF_def (k : Knot) (acc : List PyExpr) (isAsync : Bool) (r : List Tok) :
    clauseF k acc isAsync r = (k.items .targets (kw cs!"in") [] false r).bind fun y =>
      (match y.1.1, y.1.2 with
        | [], _ => none
        | [t], false => some t
        | ts, _ => some (.tuple ts)).bind fun target =>
      match y.2 with
      | .name ['i', 'n'] :: r2 => (k.disj r2).bind fun a => (k.ifs [] a.2).bind fun b =>
          k.comps (.comp target a.1 b.1 isAsync :: acc) b.2
      | _ => none := rfl

theorem clauseF_ok (t it : PyExpr) (ifs : List PyExpr) (a : Bool) (gt : ExprGoal t) (git : ExprGoal it)
    (gifs : ∀ x ∈ ifs, ExprGoal x) (m : Nat) (hm : 8 * sz (.comp t it ifs a) + 1 ≤ m) (acc : List PyExpr)
    (rest : List Tok) (hr : closedE rest = true) :
    clauseF (knot m) acc a (gen t ++ kw cs!"in" :: (gen it ++ (genList [kw cs!"if"] [] ifs ++ rest)))
      = (knot m).comps (.comp t it ifs a :: acc) rest := by
  obtain ⟨m', rfl, hm'⟩ := succ_of_le hm
  obtain ⟨ht, hit, hifs⟩ := fuelA hm'
  have hh := headOK_append (kw cs!"in" :: (gen it ++ (genList [kw cs!"if"] [] ifs ++ rest))) gt.head
  have hitems : (knot (m'+1)).items .targets (kw cs!"in") [] false
      (gen t ++ kw cs!"in" :: (gen it ++ (genList [kw cs!"if"] [] ifs ++ rest)))
      = some (([t], false), kw cs!"in" :: (gen it ++ (genList [kw cs!"if"] [] ifs ++ rest))) := by
    rw [knot_items]
    have := itemsF_last (knot m') .targets (kw cs!"in") [] false _ t _ (atCloser_head hh (by decide))
      (by rw [itemF_targets _ _ hh]; exact gt.prim (Nat.le_of_succ_le ht) _ rfl) rfl (by decide)
    simpa using this
  have hd := git.kdisj (Nat.le_succ_of_le hit) (genList [kw cs!"if"] [] ifs ++ rest) (closedD_ifList ifs rest hr)
  have hifs := ifs_loop ifs gifs [] (m'+1) (Nat.le_succ_of_le hifs) rest hr
  rw [clauseF_def, hitems]
  simp only [Option.bind_some, kw]
  simp only [kw] at hd hifs
  rw [hd]
  simp only [Option.bind_some]
  rw [hifs]
  simp

def compEnd (rest : List Tok) : Prop := (∃ r, rest = tRP :: r) ∨ (∃ r, rest = tRB :: r)

theorem closedE_compList (gens : List PyExpr) (hg : ∀ c ∈ gens, CompGoal c) (rest : List Tok) (he : compEnd rest) :
    closedE (genList [] [] gens ++ rest) = true := by
  cases gens with
  | nil => rcases he with ⟨r, rfl⟩ | ⟨r, rfl⟩ <;> rfl
  | cons c gens =>
    obtain ⟨t, it, ifs, a, rfl, _⟩ := hg c (by simp)
    cases a <;> simp [genList_cons, gen_comp] <;> rfl

theorem comps_loop (gens : List PyExpr) (hg : ∀ c ∈ gens, CompGoal c) :
    ∀ (acc : List PyExpr) (M : Nat), 8 * szL gens + 1 ≤ M → ∀ rest, compEnd rest →
      (knot M).comps acc (genList [] [] gens ++ rest) = some (acc.reverse ++ gens, rest) :=
  genList_loop (fun M => (knot M).comps) id [] [] CompGoal compEnd
    (fun m acc rest he => by rcases he with ⟨r, rfl⟩ | ⟨r, rfl⟩ <;> rfl)
    (fun m acc c gens rest hc hgs hm he => by
      obtain ⟨t, it, ifs, a, rfl, gt, git, gifs⟩ := hc
      have hcl := clauseF_ok t it ifs a gt git gifs (m + 1) (Nat.le_succ_of_le hm) acc (genList [] [] gens ++ rest)
        (closedE_compList gens hgs rest he)
      simp only [gen_comp, List.nil_append, List.append_nil, List.append_assoc, List.cons_append, knot_comps]
      cases a
      · exact hcl
      · exact hcl)
    gens hg

theorem startsComp_compList (c : PyExpr) (gens : List PyExpr) (hc : CompGoal c) (rest : List Tok) :
    startsComp (genList [] [] (c :: gens) ++ rest) = true := by
  obtain ⟨t, it, ifs, a, rfl, _⟩ := hc
  cases a <;> simp [genList_cons, gen_comp, startsComp, kw]

/-- the element of a comprehension, read by the first step of `bracketF` / `parenF` -/
theorem comp_elt (elt : PyExpr) (ge : ExprGoal elt) (gens : List PyExpr) (hg : ∀ c ∈ gens, CompGoal c) {M : Nat}
    (hM : need elt + 1 ≤ M) (rest : List Tok) (he : compEnd rest) :
    eltF (knot M) (gen elt ++ (genList [] [] gens ++ rest)) = some (elt, genList [] [] gens ++ rest) := by
  rw [eltF_expr _ _ (headOK_parenStart (headOK_append _ ge.head))]
  exact ge.kexpr hM _ (closedE_compList gens hg rest he)

theorem goal_listComp (elt : PyExpr) (gens : List PyExpr) (ge : ExprGoal elt) (hne : gens ≠ [])
    (hg : ∀ c ∈ gens, CompGoal c) : ExprGoal (.listComp elt gens) := by
  refine goal_of_atom _ tLB (gen elt ++ (genList [] [] gens ++ [tRB])) (by simp [gen]) rfl (.inr ⟨_, rfl⟩) rfl
    fun n hn rest => ?_
  obtain ⟨c, gens', rfl⟩ := List.exists_cons_of_ne_nil hne
  obtain ⟨he, hgs, -⟩ := fuelA (c := 0) hn
  have hh := headOK_append (genList [] [] (c :: gens') ++ tRB :: rest) ge.head
  have hs := startsComp_compList c gens' (hg c (by simp)) (tRB :: rest)
  rw [atomF_lb, List.append_assoc, List.append_assoc, List.singleton_append, bracketF_elt _ _ (atCloser_head hh rfl),
    comp_elt elt ge _ hg he _ (.inr ⟨rest, rfl⟩), Option.bind_some]
  split
  · rename_i heq; dsimp only at heq; rw [heq] at hs; cases hs
  · rename_i heq; dsimp only at heq; rw [heq] at hs; cases hs
  · rw [if_pos hs, comps_loop (c :: gens') hg [] (n+1) hgs (tRB :: rest) (.inr ⟨rest, rfl⟩)]
    rfl

theorem goal_genExp (elt : PyExpr) (gens : List PyExpr) (ge : ExprGoal elt) (hne : gens ≠ [])
    (hg : ∀ c ∈ gens, CompGoal c) : ExprGoal (.genExp elt gens) := by
  refine goal_of_atom _ tLP (gen elt ++ (genList [] [] gens ++ [tRP])) (by simp [gen]) rfl (.inr ⟨_, rfl⟩) rfl
    fun n hn rest => ?_
  obtain ⟨c, gens', rfl⟩ := List.exists_cons_of_ne_nil hne
  obtain ⟨he, hgs, -⟩ := fuelA (c := 0) hn
  have hh := headOK_append (genList [] [] (c :: gens') ++ tRP :: rest) ge.head
  have hs := startsComp_compList c gens' (hg c (by simp)) (tRP :: rest)
  rw [atomF_lp, List.append_assoc, List.append_assoc, List.singleton_append,
    parenF_elt _ _ (atCloser_head hh rfl) (atCloser_head hh (by decide)),
    comp_elt elt ge _ hg he _ (.inl ⟨rest, rfl⟩), Option.bind_some]
  split
  · rename_i heq; dsimp only at heq; rw [heq] at hs; cases hs
  · rename_i heq; dsimp only at heq; rw [heq] at hs; cases hs
  · rw [if_pos hs, comps_loop (c :: gens') hg [] (n+1) hgs (tRP :: rest) (.inl ⟨rest, rfl⟩)]
    rfl

end Genshi.Py
