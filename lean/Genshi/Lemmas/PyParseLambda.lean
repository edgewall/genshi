/-
  C13 — `parse_gen`: lambda expressions.  The reader takes a parameter list as one comma separated sequence with the
  markers `/`, `*`, `*p`, `**p` among the parameters and sorts it into the five fields afterwards: `flatParams` is that
  sequence, `genParams_flat` says `visit_arguments` writes it, `assemble_flat` that the sorting gives the fields back.
  The `def` headers of the statement layer (`PyParseS5.lean`) go the same way.
-/
import Genshi.Lemmas.PyParseComp
import Genshi.Lemmas.ListBasics
namespace Genshi.Py
open Genshi.Gen

def ParamGoal (p : PyExpr) : Prop := ∃ n d, p = .param n none d ∧ IdentOK n ∧ OptGoal d

def VarGoal (o : Option PyExpr) : Prop := ∀ p, o = some p → ∃ n, p = .param n none none ∧ IdentOK n

/-- the tokens of an item of the flat parameter list -/
def paramTk : PyExpr → List Tok
  | .unsupported ['/'] => [tSlash]
  | p => gen p

def starPart : Option PyExpr → List PyExpr → List PyExpr
  | some v, _ => [.starred v]
  | none, [] => []
  | none, _ :: _ => [bareStar]

def kwPart : Option PyExpr → List PyExpr
  | some k => [.keyword none k]
  | none => []

def flatParams (po ar : List PyExpr) (va : Option PyExpr) (ko : List PyExpr) (ka : Option PyExpr) : List PyExpr :=
  po ++ ((if po.isEmpty then [] else [slashMark]) ++ (ar ++ (starPart va ko ++ (ko ++ kwPart ka))))

theorem paramTk_param (p : PyExpr) (h : isParam p = true) : paramTk p = gen p := by
  cases p <;> first | rfl | simp [isParam] at h

theorem paramGoal_isParam {p : PyExpr} (h : ParamGoal p) : isParam p = true := by
  obtain ⟨n, d, rfl, _⟩ := h; rfl

theorem genParams_flat (po ar : List PyExpr) (va : Option PyExpr) (ko : List PyExpr) (ka : Option PyExpr)
    (hpo : ∀ x ∈ po, isParam x = true) (har : ∀ x ∈ ar, isParam x = true) (hko : ∀ x ∈ ko, isParam x = true) :
    genParams po ar va ko ka = sepBy paramTk (flatParams po ar va ko ka) := by
  unfold genParams
  rw [← preBy_drop]
  unfold paramsToks flatParams
  congr 1
  rw [preBy_append, preBy_append, preBy_append, preBy_append, preBy_append]
  rw [preBy_genList paramTk po fun x hx => paramTk_param x (hpo x hx), preBy_genList paramTk ar fun x hx => paramTk_param x (har x hx),
    preBy_genList paramTk ko fun x hx => paramTk_param x (hko x hx)]
  have h1 : (if po.isEmpty then [] else [tComma, tSlash]) = preBy paramTk (if po.isEmpty then [] else [slashMark]) := by
    split <;> rfl
  have h2 : varargToks (genOpt [tComma, tStar] va) va.isNone ko.isEmpty = preBy paramTk (starPart va ko) := by
    cases va with
    | none => cases ko <;> rfl
    | some v => simp [varargToks, starPart, genOpt, preBy, paramTk, gen]
  have h3 : genOpt [tComma, tDStar] ka = preBy paramTk (kwPart ka) := by
    cases ka with
    | none => rfl
    | some k => simp [genOpt, kwPart, preBy, paramTk, gen]
  rw [h1, h2, h3]
  simp only [List.append_assoc]

theorem splitSlash_cons (x : PyExpr) (r : List PyExpr) (hx : x ≠ slashMark) :
    splitSlash (x :: r) = (splitSlash r).map fun p => (x :: p.1, p.2) := by
  rw [splitSlash]
  exact hx

theorem splitSlash_append (po tail : List PyExpr) (h : ∀ x ∈ po, x ≠ slashMark) :
    splitSlash (po ++ tail) = (splitSlash tail).map fun p => (po ++ p.1, p.2) := by
  induction po with
  | nil => simp
  | cons x xs ih =>
    rw [List.cons_append, splitSlash_cons _ _ (h x List.mem_cons_self), ih fun y hy => h y (List.mem_cons_of_mem _ hy),
      Option.map_map]
    rfl

theorem splitSlash_none (xs : List PyExpr) (h : ∀ x ∈ xs, x ≠ slashMark) : splitSlash xs = none := by
  simpa [splitSlash] using splitSlash_append xs [] h

theorem splitSlash_some (po rest : List PyExpr) (h : ∀ x ∈ po, x ≠ slashMark) :
    splitSlash (po ++ slashMark :: rest) = some (po, rest) := by
  simpa [splitSlash, slashMark] using splitSlash_append po (slashMark :: rest) h

theorem takeWhile_params (a b : List PyExpr) (ha : ∀ x ∈ a, isParam x = true)
    (hb : ∀ x, b.head? = some x → isParam x = false) :
    (a ++ b).takeWhile isParam = a ∧ (a ++ b).dropWhile isParam = b :=
  ⟨takeWhile_append_stop ha hb, dropWhile_append_stop ha hb⟩

theorem param_ne_slash {x : PyExpr} (h : isParam x = true) : x ≠ slashMark := by
  intro e; subst e; simp [isParam, slashMark] at h

/-- `assembleParams` cuts at the `/` marker and again before the first item that is no parameter -/
theorem assembleParams_split (po ar tail : List PyExpr) (hpo : ∀ x ∈ po, isParam x = true)
    (har : ∀ x ∈ ar, isParam x = true) (hstop : ∀ x, tail.head? = some x → isParam x = false)
    (hns : ∀ x ∈ tail, x ≠ slashMark) :
    assembleParams (po ++ ((if po.isEmpty then [] else [slashMark]) ++ (ar ++ tail))) = assembleTail po ar tail := by
  have htw := takeWhile_params ar tail har hstop
  have hnoslash : ∀ x ∈ ar ++ tail, x ≠ slashMark := fun x hx =>
    (List.mem_append.mp hx).elim (fun h => param_ne_slash (har x h)) (hns x)
  unfold assembleParams
  by_cases hp : po = []
  · subst hp
    simp only [List.isEmpty_nil, if_true, List.nil_append]
    rw [splitSlash_none _ hnoslash]
    simp only [List.all_nil, if_true, htw.1, htw.2]
  · have : po.isEmpty = false := List.isEmpty_eq_false_iff.mpr hp
    simp only [this, Bool.false_eq_true, if_false, List.cons_append, List.nil_append]
    rw [splitSlash_some po _ (fun x hx => param_ne_slash (hpo x hx))]
    have hall : po.all isParam = true := List.all_eq_true.mpr hpo
    simp only [hall, if_true, htw.1, htw.2]

/-- what `starPart` and `kwPart` hold: the markers `*`, `*p` and `**p` -/
theorem starPart_mem {va : Option PyExpr} {ko : List PyExpr} {x : PyExpr} (h : x ∈ starPart va ko) :
    x = bareStar ∨ ∃ v, va = some v ∧ x = .starred v := by
  match va, ko, h with
  | some v, _, h => exact Or.inr ⟨v, rfl, List.mem_singleton.mp h⟩
  | none, _ :: _, h => exact Or.inl (List.mem_singleton.mp h)

theorem kwPart_mem {ka : Option PyExpr} {x : PyExpr} (h : x ∈ kwPart ka) : ∃ k, ka = some k ∧ x = .keyword none k := by
  cases ka with
  | some k => exact ⟨k, rfl, List.mem_singleton.mp h⟩
  | none => cases h

theorem assemble_flat (po ar : List PyExpr) (va : Option PyExpr) (ko : List PyExpr) (ka : Option PyExpr)
    (hpo : ∀ x ∈ po, isParam x = true) (har : ∀ x ∈ ar, isParam x = true) (hko : ∀ x ∈ ko, isParam x = true)
    (hva : ∀ v, va = some v → isParam v = true) (hka : ∀ v, ka = some v → isParam v = true) :
    assembleParams (flatParams po ar va ko ka) = some (po, ar, va, ko, ka) := by
  have hkw : ∀ x, (kwPart ka).head? = some x → isParam x = false := fun x hx => by
    obtain ⟨k, _, rfl⟩ := kwPart_mem (List.mem_of_mem_head? hx)
    rfl
  have hstop : ∀ x, (starPart va ko ++ (ko ++ kwPart ka)).head? = some x → isParam x = false := by
    cases va with
    | some v => intro x hx; cases hx; rfl
    | none =>
      cases ko with
      | nil => exact hkw
      | cons k ks => intro x hx; cases hx; rfl
  have hns : ∀ x ∈ starPart va ko ++ (ko ++ kwPart ka), x ≠ slashMark := by
    intro x hx
    simp only [List.mem_append] at hx
    rcases hx with h | h | h
    · rcases starPart_mem h with rfl | ⟨v, _, rfl⟩ <;> nofun
    · exact param_ne_slash (hko x h)
    · obtain ⟨k, _, rfl⟩ := kwPart_mem h
      nofun
  unfold flatParams
  rw [assembleParams_split po ar _ hpo har hstop hns]
  -- the tail: `*` or `*p`, the keyword-only parameters, `**p`
  have htk := takeWhile_params ko (kwPart ka) hko hkw
  cases va with
  | some v =>
    simp only [starPart, List.cons_append, List.nil_append, assembleTail, hva v rfl, if_true, htk.1, htk.2]
    cases ka <;> simp [kwPart]
  | none =>
    cases ko with
    | nil => cases ka <;> rfl
    | cons k ks =>
      simp only [starPart, List.singleton_append, assembleTail, bareStar, isParam, htk.1, htk.2]
      cases ka <;> simp [kwPart]

/-- an item of the flat parameter list: a parameter (`P`), the `/` or bare `*` marker, `*p` or `**p` (`V p`) -/
def FlatOf (P V : PyExpr → Prop) (x : PyExpr) : Prop :=
  P x ∨ x = slashMark ∨ x = bareStar ∨ (∃ p, x = .starred p ∧ V p) ∨ (∃ p, x = .keyword none p ∧ V p)

theorem flat_goals {P V : PyExpr → Prop} (po ar : List PyExpr) (va : Option PyExpr) (ko : List PyExpr)
    (ka : Option PyExpr) (hpo : ∀ x ∈ po, P x) (har : ∀ x ∈ ar, P x) (hko : ∀ x ∈ ko, P x)
    (hva : ∀ p, va = some p → V p) (hka : ∀ p, ka = some p → V p) :
    ∀ x ∈ flatParams po ar va ko ka, FlatOf P V x := by
  intro x hx
  simp only [flatParams, List.mem_append] at hx
  rcases hx with h | h | h | h | h | h
  · exact Or.inl (hpo x h)
  · split at h
    · cases h
    · exact Or.inr (Or.inl (List.mem_singleton.mp h))
  · exact Or.inl (har x h)
  · rcases starPart_mem h with rfl | ⟨v, hv, rfl⟩
    · exact Or.inr (Or.inr (Or.inl rfl))
    · exact Or.inr (Or.inr (Or.inr (Or.inl ⟨v, rfl, hva v hv⟩)))
  · exact Or.inl (hko x h)
  · obtain ⟨k, hk, rfl⟩ := kwPart_mem h
    exact Or.inr (Or.inr (Or.inr (Or.inr ⟨k, rfl, hka k hk⟩)))

abbrev FlatGoal : PyExpr → Prop := FlatOf ParamGoal fun p => ∃ n, p = .param n none none ∧ IdentOK n

theorem itemF_params (k : Knot) (toks : List Tok) : itemF k .params toks = paramF k toks := by
  simp only [itemF]

theorem paramF_name (k : Knot) (n : Str) (rest : List Tok) (hn : isKeyword n = false) (hr : notEqHead rest = true) :
    paramF k (.name n :: rest) = some (.param n none none, rest) := by
  unfold paramF
  split <;> first
    | (rename_i heq; cases (List.cons.inj heq).1; done)
    | (rename_i heq; cases (List.cons.inj heq).2; cases hr)
    | (rename_i heq; cases heq; simp [hn])
    | (rename_i h; exact absurd rfl (h _ _))

theorem paramF_star (k : Knot) (rest : List Tok) (hr : itemEnd rest = true) :
    paramF k (.op ['*'] :: rest) = some (bareStar, rest) := by
  unfold paramF
  split
  · rename_i heq; cases (List.cons.inj heq).2; cases hr
  · rename_i heq; cases (List.cons.inj heq).2; rfl
  all_goals first
    | (rename_i heq; cases (List.cons.inj heq).1; done)
    | (rename_i h _ _ _ _; exact absurd rfl (h _))

theorem flat_item (x : PyExpr) (h : FlatGoal x) :
    ItemOK (itemEnd · = true) .params paramTk x ∧ ∀ rest, atCloser tColon (paramTk x ++ rest) = false := by
  rcases h with ⟨n, d, rfl, hn, gd⟩ | rfl | rfl | ⟨_, rfl, n, rfl, hn⟩ | ⟨_, rfl, n, rfl, hn⟩
  · have hn' : isKeyword n = false := hn
    refine ⟨fun M hM rest hr => ?_, fun rest => rfl⟩
    rw [itemF_params]
    cases d with
    | none => exact paramF_name _ n rest hn' (itemEnd_notEq hr)
    | some e =>
      have := (gd e rfl).kexpr (fuel_some (fuelA (c := 0) (Nat.le_of_succ_le hM)).2.1) rest (itemEnd_closedE hr)
      simp [paramTk, gen, genOpt, paramF, hn', tEq, this]
  · exact ⟨fun M _ rest _ => rfl, fun rest => rfl⟩
  · exact ⟨fun M _ rest hr => paramF_star _ rest hr, fun rest => rfl⟩
  · have hn' : isKeyword n = false := hn
    refine ⟨fun M _ rest _ => ?_, fun rest => rfl⟩
    rw [itemF_params]
    simp [paramTk, gen, genOpt, paramF, hn', tStar]
  · have hn' : isKeyword n = false := hn
    refine ⟨fun M _ rest _ => ?_, fun rest => rfl⟩
    rw [itemF_params]
    simp [paramTk, gen, genOpt, paramF, hn', tDStar]
theorem szL_flat (po ar : List PyExpr) (va : Option PyExpr) (ko : List PyExpr) (ka : Option PyExpr) :
    szL (flatParams po ar va ko ka) ≤ szL po + szL ar + szO va + szL ko + szO ka + 7 := by
  simp only [flatParams, szL_append]
  have h1 : szL (if po.isEmpty then [] else [slashMark]) ≤ 2 := by split <;> simp [szL, sz, slashMark]
  have h2 : szL (starPart va ko) ≤ szO va + 3 := by
    cases va with
    | some v => simp [starPart, szL, sz, szO]; omega
    | none => cases ko <;> simp [starPart, szL, sz, szO, bareStar]
  have h3 : szL (kwPart ka) ≤ szO ka + 1 := by
    cases ka with
    | some k => simp [kwPart, szL, sz, szO]; omega
    | none => simp [kwPart, szL, szO]
  omega

theorem exprF_lambda (k : Knot) (r : List Tok) :
    exprF k (.name ['l', 'a', 'm', 'b', 'd', 'a'] :: r) = (k.items .params tColon [] false r).bind fun y =>
      (assembleParams y.1.1).bind fun a =>
        match y.2 with
        | .op [':'] :: r2 => (k.expr r2).bind fun b => some (.lambda a.1 a.2.1 a.2.2.1 a.2.2.2.1 a.2.2.2.2 b.1, b.2)
        | _ => none := rfl

theorem goal_lambda (po ar : List PyExpr) (va : Option PyExpr) (ko : List PyExpr) (ka : Option PyExpr)
    (body : PyExpr) (hpo : ∀ x ∈ po, ParamGoal x) (har : ∀ x ∈ ar, ParamGoal x) (hko : ∀ x ∈ ko, ParamGoal x)
    (hva : VarGoal va) (hka : VarGoal ka) (gb : ExprGoal body) : ExprGoal (.lambda po ar va ko ka body) := by
  have ipo := fun x hx => paramGoal_isParam (hpo x hx)
  have iar := fun x hx => paramGoal_isParam (har x hx)
  have iko := fun x hx => paramGoal_isParam (hko x hx)
  have iva : ∀ v, va = some v → isParam v = true := fun v hv => by obtain ⟨n, rfl, _⟩ := hva v hv; rfl
  have hflat := genParams_flat po ar va ko ka ipo iar iko
  unfold genParams at hflat
  have hasm := assemble_flat po ar va ko ka ipo iar iko iva (fun v hv => by obtain ⟨n, rfl, _⟩ := hka v hv; rfl)
  have hgoals : ∀ x ∈ flatParams po ar va ko ka, FlatGoal x := flat_goals po ar va ko ka hpo har hko hva hka
  apply goal_of_paren _ (kw cs!"lambda" :: (sepBy paramTk (flatParams po ar va ko ka) ++ tColon :: gen body))
  · simp [gen, wrapP, parens_all.2.2.2.1, hflat]
  · rfl
  · rfl
  · rfl
  · intro n hn rest
    obtain ⟨hnb, hnf⟩ : need body + 1 ≤ n ∧ 8 * szL (flatParams po ar va ko ka) + 1 ≤ n := by
      have := szL_flat po ar va ko ka
      simp only [need, sz] at hn ⊢
      omega
    obtain ⟨m, rfl, -⟩ := succ_of_le hnb
    have hb := gb.kexpr hnb (tRP :: rest) (closedE_cons_rp rest)
    simp only [List.cons_append, List.append_assoc, kw]
    rw [exprF_lambda]
    obtain ⟨c', hit⟩ := items_sep_all .params paramTk tColon (by decide) (itemEnd · = true) (fun _ => rfl)
      (tColon :: (gen body ++ tRP :: rest)) rfl rfl _ (fun y hy => flat_item y (hgoals y hy)) false (m+1) hnf
    rw [hit]
    simp only [Option.bind_some, hasm, tColon, hb]

end Genshi.Py
