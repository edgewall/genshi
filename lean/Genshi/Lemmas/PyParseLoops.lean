/-
  C13 — `parse_gen`: the loops of the reader that push onto an accumulator, on the tokens `genList` writes
  (`genList_loop`; the comma separated sequences of `PyParseSeq.lean` and the comprehension clauses of
  `PyParseComp.lean` go through it too); boolean operators and comparison chains, with the facts about the
  comparison table.
-/
import Genshi.Lemmas.PyParseNodes
namespace Genshi.Py
open Genshi.Gen

theorem genList_nil (pre post : List Tok) : genList pre post [] = [] := by simp [genList]
theorem genList_cons (pre post : List Tok) (e : PyExpr) (es : List PyExpr) :
    genList pre post (e :: es) = pre ++ gen e ++ post ++ genList pre post es := by simp [genList]

theorem genList_append (pre post : List Tok) (a b : List PyExpr) :
    genList pre post (a ++ b) = genList pre post a ++ genList pre post b := by
  induction a with
  | nil => simp [genList_nil]
  | cons e es ih => simp [genList_cons, ih]

theorem genList_pre {p : List Tok → Bool} {t : Tok} (ht : ∀ r, p (t :: r) = true) (pre post : List Tok)
    (xs : List PyExpr) {rest : List Tok} (hr : p rest = true) : p (genList (t :: pre) post xs ++ rest) = true := by
  cases xs with
  | nil => rwa [genList_nil]
  | cons x xs => rw [genList_cons]; exact ht _

theorem belowBool_andList (vs : List PyExpr) (rest : List Tok) (h : closedD rest = true) :
    belowBool (genList [kw cs!"and"] [] vs ++ rest) = true :=
  genList_pre (fun _ => rfl) [] [] vs (closedD_belowBool h)

theorem belowBool_orList (vs : List PyExpr) (rest : List Tok) (h : closedD rest = true) :
    belowBool (genList [kw cs!"or"] [] vs ++ rest) = true :=
  genList_pre (fun _ => rfl) [] [] vs (closedD_belowBool h)

theorem stopsAnd_orList (vs : List PyExpr) (rest : List Tok) (h : closedD rest = true) :
    stopsAnd (genList [kw cs!"or"] [] vs ++ rest) = true :=
  genList_pre (fun _ => rfl) [] [] vs (closedD_and h)

/-- the loops of the reader that push one element per round onto an accumulator, on the tokens `genList pre post xs`:
    one induction for all of them.  `loop M` is the loop at depth `M` of the knot, `hstep` one round (the loop's
    equation and the reader of the element), `hstop` what it returns where the list ends. -/
theorem genList_loop {β : Type} (loop : Nat → List PyExpr → P β) (fin : List PyExpr → β) (pre post : List Tok)
    (Ok : PyExpr → Prop) (Stop : List Tok → Prop)
    (hstop : ∀ m acc rest, Stop rest → loop (m + 1) acc rest = some (fin acc.reverse, rest))
    (hstep : ∀ m acc x xs rest, Ok x → (∀ y ∈ xs, Ok y) → need x + 1 ≤ m → Stop rest →
      loop (m + 2) acc (pre ++ gen x ++ post ++ (genList pre post xs ++ rest))
        = loop (m + 1) (x :: acc) (genList pre post xs ++ rest))
    (xs : List PyExpr) (hx : ∀ x ∈ xs, Ok x) :
    ∀ (acc : List PyExpr) (M : Nat), 8 * szL xs + 1 ≤ M → ∀ rest, Stop rest →
      loop M acc (genList pre post xs ++ rest) = some (fin (acc.reverse ++ xs), rest) := by
  induction xs with
  | nil =>
    intro acc M hM rest hr
    obtain ⟨m, rfl, -⟩ := succ_of_le hM
    simpa [genList_nil] using hstop m acc rest hr
  | cons x xs ih =>
    intro acc M hM rest hr
    obtain ⟨m, rfl, h1, h2⟩ := szL_step hM
    have hxs : ∀ y ∈ xs, Ok y := fun y hy => hx y (by simp [hy])
    rw [genList_cons, List.append_assoc, hstep m acc x xs rest (hx x (by simp)) hxs h1 hr,
      ih hxs (x :: acc) (m + 1) (Nat.le_succ_of_le h2) rest hr]
    simp

theorem andlF_and (k : Knot) (acc : List PyExpr) (r : List Tok) :
    andlF k acc (kw cs!"and" :: r) = (k.inv r).bind fun x => k.andl (x.1 :: acc) x.2 := rfl
theorem orlF_or (k : Knot) (acc : List PyExpr) (r : List Tok) :
    orlF k acc (kw cs!"or" :: r) = (k.conj r).bind fun x => k.orl (x.1 :: acc) x.2 := rfl
theorem andl_loop (vs : List PyExpr) (hv : ∀ v ∈ vs, ExprGoal v) :
    ∀ (acc : List PyExpr) (M : Nat), 8 * szL vs + 1 ≤ M → ∀ rest, closedD rest = true →
      (knot M).andl acc (genList [kw cs!"and"] [] vs ++ rest) = some (mkBool cs!"And" (acc.reverse ++ vs), rest) :=
  genList_loop (fun M => (knot M).andl) (mkBool cs!"And") [kw cs!"and"] [] ExprGoal (closedD · = true)
    (fun _ _ _ hc => andl_stop _ _ _ (closedD_and hc))
    (fun m acc x xs rest gx _ hm hc => by
      simp only [List.append_nil, List.cons_append, List.nil_append]
      rw [knot_andl, andlF_and, gx.kinv (Nat.le_succ_of_le hm) _ (belowBool_andList xs rest hc)]; rfl)
    vs hv

theorem orl_loop (vs : List PyExpr) (hv : ∀ v ∈ vs, ExprGoal v) :
    ∀ (acc : List PyExpr) (M : Nat), 8 * szL vs + 1 ≤ M → ∀ rest, closedD rest = true →
      (knot M).orl acc (genList [kw cs!"or"] [] vs ++ rest) = some (mkBool cs!"Or" (acc.reverse ++ vs), rest) :=
  genList_loop (fun M => (knot M).orl) (mkBool cs!"Or") [kw cs!"or"] [] ExprGoal (closedD · = true)
    (fun _ _ _ hc => orl_stop _ _ _ (closedD_or hc))
    (fun m acc x xs rest gx _ hm hc => by
      simp only [List.append_nil, List.cons_append, List.nil_append]
      rw [knot_orl, orlF_or,
        gx.kconj (Nat.le_succ_of_le hm) _ (belowBool_orList xs rest hc) (stopsAnd_orList xs rest hc)]; rfl)
    vs hv

theorem mkBool_two (op : Str) (a b : PyExpr) (r : List PyExpr) : mkBool op (a :: b :: r) = .boolOp op (a :: b :: r) := rfl

theorem goal_boolOp (op : Str) (vs : List PyExpr) (hop : op = cs!"And" ∨ op = cs!"Or") (hlen : 2 ≤ vs.length)
    (hv : ∀ v ∈ vs, ExprGoal v) : ExprGoal (.boolOp op vs) := by
  obtain ⟨v0, v1, vs'', rfl⟩ : ∃ v0 v1 vs'', vs = v0 :: v1 :: vs'' := by
    match vs, hlen with
    | a :: b :: r, _ => exact ⟨a, b, r, rfl⟩
  have g0 := hv v0 (by simp)
  have hvs : ∀ v ∈ v1 :: vs'', ExprGoal v := fun x hx => hv x (by simp at hx ⊢; right; exact hx)
  -- per operator: its keyword, and the layer of the grammar that reads the chain
  obtain ⟨k, hk, hchain⟩ : ∃ k, opToks AstGen.boolOperators op = [kw k] ∧ ∀ m rest,
      need v0 + 1 ≤ m → 8 * szL (v1 :: vs'') + 1 ≤ m →
      exprF (knot (m+2)) (gen v0 ++ (genList [kw k] [] (v1 :: vs'') ++ tRP :: rest))
        = some (.boolOp op (v0 :: v1 :: vs''), tRP :: rest) := by
    rcases hop with rfl | rfl
    · refine ⟨cs!"and", boolTable_ok.1, fun m rest h0 hm => ?_⟩
      have hi := g0.inv (fuel_le 2 h0) _ (belowBool_andList (v1 :: vs'') _ (closedD_cons_rp rest))
      have hl := andl_loop (v1 :: vs'') hvs [v0] (m+2) (Nat.le_add_right_of_le hm) (tRP :: rest) (closedD_cons_rp rest)
      refine expr_of_conj _ _ _ _ ?_ (headOK_lambda (headOK_append _ g0.head)) (closedE_cons_rp rest)
      rw [conjF_def, hi, Option.bind_some, hl]
      rfl
    · refine ⟨cs!"or", boolTable_ok.2, fun m rest h0 hm => ?_⟩
      have hi := g0.conj (fuel_le 2 h0) _ (belowBool_orList (v1 :: vs'') _ (closedD_cons_rp rest))
        (stopsAnd_orList _ _ (closedD_cons_rp rest))
      have hl := orl_loop (v1 :: vs'') hvs [v0] (m+2) (Nat.le_add_right_of_le hm) (tRP :: rest) (closedD_cons_rp rest)
      refine expr_of_disj _ _ _ _ ?_ (headOK_lambda (headOK_append _ g0.head)) (closedE_if (closedE_cons_rp rest))
      rw [disjF_def, hi, Option.bind_some, hl]
      rfl
  apply goal_of_paren _ (gen v0 ++ genList [kw k] [] (v1 :: vs''))
  · simp [gen, wrapP, parens_all.1, hk]
  · rfl
  · rfl
  · exact headOK_parenStart (headOK_append _ g0.head)
  · intro n hn rest
    obtain ⟨m, rfl, h⟩ := fuel1 hn
    obtain ⟨h0, hm, -⟩ := fuelA (c := 0) (Nat.le_of_succ_le h)
    rw [List.append_assoc]
    exact hchain m rest h0 hm

theorem cmp_words_ok : ∀ p ∈ AstGen.comparisonOperators, cmpFind (splitBlank p.2) Astgrammar.cmpOps = some p.1 := by decide

theorem tokText_wordTok (p : Str) : tokText (wordTok p) = some p := by
  unfold wordTok
  split
  · split <;> rfl
  · rfl

theorem cmpOps_words : ∀ p ∈ Astgrammar.cmpOps,
    (1 ≤ p.1.length ∧ p.1.length ≤ 2)
    ∧ (∀ w ∈ p.1.head?, stopsTrailer [wordTok w] = true ∧ stopsPow [wordTok w] = true ∧ stopsBin [wordTok w] = true)
    ∧ (∀ w ∈ p.1.tail, atomStart (.name w) = false ∧ atomStart (.op w) = false) := by decide

theorem cmpOp_words (ws : List Str) (cls : Str) (h : cmpFind ws Astgrammar.cmpOps = some cls)
    (r : List Tok) (hr : headOK r = true) :
    cmpOp? (ws.map wordTok ++ r) = some (cls, r) ∧ stopsTrailer (ws.map wordTok ++ r) = true
      ∧ stopsPow (ws.map wordTok ++ r) = true ∧ stopsBin (ws.map wordTok ++ r) = true := by
  obtain ⟨hlen, hhead, -⟩ := cmpOps_words _ (cmpFind_mem h)
  obtain ⟨t, r', rfl⟩ : ∃ t r', r = t :: r' := by
    cases r with
    | nil => simp [headOK] at hr
    | cons t r' => exact ⟨t, r', rfl⟩
  match ws, h, hlen, hhead with
  | [a], h, _, hhead =>
    -- the operand's first token does not continue the operator
    have h2 : ∀ b, tokText t = some b → cmpFind [a, b] Astgrammar.cmpOps = none := by
      intro b hb
      cases hc : cmpFind [a, b] Astgrammar.cmpOps with
      | none => rfl
      | some c =>
        have hn := (cmpOps_words _ (cmpFind_mem hc)).2.2 b (by simp)
        cases t <;> simp only [tokText, Option.some.injEq, reduceCtorEq] at hb <;> subst hb <;>
          simp [headOK, hn] at hr
    refine ⟨?_, by simpa [stopsTrailer_cons _ (t :: r'), stopsPow_cons _ (t :: r'), stopsBin_cons _ (t :: r')] using hhead a rfl⟩
    cases hb : tokText t with
    | none => simp [cmpOp?, tokText_wordTok, hb, h]
    | some b => simp [cmpOp?, tokText_wordTok, hb, h2 b hb, h]
  | [a, b], h, _, hhead =>
    refine ⟨?_, by simpa [stopsTrailer_cons _ (_ :: t :: r'), stopsPow_cons _ (_ :: t :: r'), stopsBin_cons _ (_ :: t :: r')] using hhead a rfl⟩
    simp [cmpOp?, tokText_wordTok, h]
  | [], _, hlen, _ => simp at hlen
  | _ :: _ :: _ :: _, _, hlen, _ => simp at hlen

def CmpGoal (x : PyExpr) : Prop :=
  ∃ op e, x = .cmpRhs op e ∧ (lookup AstGen.comparisonOperators op).isSome = true ∧ ExprGoal e

theorem gen_cmpRhs (op : Str) (e : PyExpr) (h : (lookup AstGen.comparisonOperators op).isSome = true) :
    ∃ ws, gen (.cmpRhs op e) = ws.map wordTok ++ gen e ∧ cmpFind ws Astgrammar.cmpOps = some op := by
  obtain ⟨sym, hsym⟩ := Option.isSome_iff_exists.mp h
  refine ⟨splitBlank sym, ?_, cmp_words_ok _ (lookup_mem hsym)⟩
  simp [gen, opToks, hsym, symToks]

theorem cmpList_stops (rs : List PyExpr) (hr : ∀ x ∈ rs, CmpGoal x) (rest : List Tok) (hc : closedD rest = true) :
    stopsTrailer (genList [] [] rs ++ rest) = true ∧ stopsPow (genList [] [] rs ++ rest) = true
      ∧ stopsBin (genList [] [] rs ++ rest) = true := by
  cases rs with
  | nil =>
    have hb := closedD_belowBool hc
    simpa [genList_nil] using ⟨belowBool_trailer hb, belowBool_pow hb, belowBool_bin hb⟩
  | cons x rs =>
    obtain ⟨op, e, rfl, hop, ge⟩ := hr x (by simp)
    obtain ⟨ws, hg, hf⟩ := gen_cmpRhs op e hop
    have := cmpOp_words ws op hf (gen e ++ (genList [] [] rs ++ rest)) (headOK_append _ ge.head)
    simp only [genList_cons, hg, List.nil_append, List.append_nil, List.append_assoc]
    exact this.2

theorem cmplF_step (k : Knot) (l : PyExpr) (acc : List PyExpr) (toks r : List Tok) (cls : Str)
    (h : cmpOp? toks = some (cls, r)) :
    cmplF k l acc toks = (k.bin 0 r).bind fun x => k.cmpl l (.cmpRhs cls x.1 :: acc) x.2 := by
  simp [cmplF, h]

theorem cmpl_loop (l : PyExpr) (rs : List PyExpr) (hr : ∀ x ∈ rs, CmpGoal x) :
    ∀ (acc : List PyExpr) (M : Nat), 8 * szL rs + 1 ≤ M → ∀ rest, closedD rest = true →
      (knot M).cmpl l acc (genList [] [] rs ++ rest)
        = some (if (acc.reverse ++ rs).isEmpty then l else .compare l (acc.reverse ++ rs), rest) :=
  genList_loop (fun M => (knot M).cmpl l) (fun xs => if xs.isEmpty then l else .compare l xs) [] [] CmpGoal
    (closedD · = true)
    (fun m acc rest hc => by
      have := belowBool_cmp (closedD_belowBool hc)
      simp only [stopsCmp, Option.isNone_iff_eq_none] at this
      cases acc <;> simp [cmplF, this])
    (fun m acc x xs rest hx hxs hm hc => by
      obtain ⟨op, e, rfl, hop, ge⟩ := hx
      obtain ⟨ws, hg, hf⟩ := gen_cmpRhs op e hop
      have hs := cmpList_stops xs hxs rest hc
      have hw := cmpOp_words ws op hf (gen e ++ (genList [] [] xs ++ rest)) (headOK_append _ ge.head)
      simp only [hg, List.nil_append, List.append_nil, List.append_assoc]
      rw [knot_cmpl, cmplF_step _ _ _ _ _ _ hw.1,
        ge.kbin (Nat.le_succ_of_le (fuel_some hm)) 0 (genList [] [] xs ++ rest) hs.1 hs.2.1 hs.2.2]
      rfl)
    rs hr

theorem goal_compare (l : PyExpr) (rs : List PyExpr) (gl : ExprGoal l) (hne : rs ≠ [])
    (hr : ∀ x ∈ rs, CmpGoal x) : ExprGoal (.compare l rs) := by
  apply goal_of_paren _ (gen l ++ genList [] [] rs)
  · simp [gen, wrapP, parens_all.2.2.2.2.2.2]
  · rfl
  · rfl
  · exact headOK_parenStart (headOK_append _ gl.head)
  · intro n hn rest
    obtain ⟨m, rfl, hnl, hnr⟩ := fuel2 hn
    simp only [List.append_assoc]
    have hhead : headOK (gen l ++ (genList [] [] rs ++ tRP :: rest)) = true := headOK_append _ gl.head
    have hstops := cmpList_stops rs hr (tRP :: rest) (closedD_cons_rp rest)
    have hb := gl.bin (fuel_le 2 hnl) 0 (genList [] [] rs ++ tRP :: rest) hstops.1 hstops.2.1 hstops.2.2
    have hl := cmpl_loop l rs hr [] (m+2) (Nat.le_add_right_of_le hnr) (tRP :: rest) (closedD_cons_rp rest)
    have : cmpF (knot (m+2)) (gen l ++ (genList [] [] rs ++ tRP :: rest)) = some (.compare l rs, tRP :: rest) := by
      rw [cmpF_def, hb]
      simp only [Option.bind_some]
      rw [hl]
      simp [hne]
    exact expr_of_cmp _ _ _ _ this (headOK_not hhead) (headOK_lambda hhead) (closedE_cons_rp rest)

end Genshi.Py
