/-
  C13 — `parse_gen`: the structural induction over syntax trees (`main`), and that the measure `sz` is linear
  in the number of regenerated tokens (`sz_le`), by which the fuel of `pyParse` suffices.  The theorem itself
  (`pyParse_gen`) is put together in `PyParseS2.lean`, next to its forms for the readers of the statement layer.
-/
import Genshi.Lemmas.PyParseLambda
namespace Genshi.Py
open Genshi.Gen

/-- what the induction establishes for a node (helper nodes: the goals of their parts) -/
def Goal : PyExpr → Prop
  | .starred x => ExprGoal x
  | .keyword n v => (∀ s, n = some s → IdentOK s) ∧ ExprGoal v
  | .comp t it ifs _ => ExprGoal t ∧ ExprGoal it ∧ ∀ c ∈ ifs, ExprGoal c
  | .param n ann d => IdentOK n ∧ OptGoal ann ∧ OptGoal d
  | .dictItem k v => OptGoal k ∧ ExprGoal v
  | .cmpRhs op e => (lookup AstGen.comparisonOperators op).isSome = true ∧ ExprGoal e
  | .slice l u st => OptGoal l ∧ OptGoal u ∧ OptGoal st
  | .unsupported _ => True
  | e => ExprGoal e

theorem goal_expr {e : PyExpr} (he : isExpr e = true) (g : Goal e) : ExprGoal e := by
  cases e <;> first | exact g | simp [isExpr] at he

/-- from the parts of a list to its members: `p` is the test `WF` applies to the members, `h` what it means for one -/
theorem goals_of {p : PyExpr → Bool} {Q : PyExpr → Prop} (h : ∀ x, p x = true → Goal x → Q x) {es : List PyExpr}
    (he : es.all p = true) (g : ∀ x ∈ es, Goal x) : ∀ x ∈ es, Q x :=
  fun x hx => h x (List.all_eq_true.mp he x hx) (g x hx)

theorem goals_expr {es : List PyExpr} (he : es.all isExpr = true) (g : ∀ x ∈ es, Goal x) : ∀ x ∈ es, ExprGoal x :=
  goals_of (fun _ => goal_expr) he g

theorem goal_optexpr {o : Option PyExpr} (he : exprO o = true) (g : ∀ x, o = some x → Goal x) : OptGoal o := by
  intro x hx; subst hx; exact goal_expr he (g x rfl)

theorem goal_elt (x : PyExpr) (h1 : isElt x = true) (h2 : Goal x) : EltGoal x := by
  cases x with
  | starred y => exact Or.inl ⟨y, rfl, h2⟩
  | _ => first | exact Or.inr ⟨rfl, h2⟩ | cases h1

theorem goals_elt {es : List PyExpr} (he : es.all isElt = true) (g : ∀ x ∈ es, Goal x) : ∀ x ∈ es, EltGoal x :=
  goals_of goal_elt he g

theorem goal_kw (x : PyExpr) (h1 : isKw x = true) (h2 : Goal x) : KwGoal x := by
  cases x with
  | keyword n v => exact ⟨n, v, rfl, h2.1, h2.2⟩
  | _ => cases h1

theorem goals_kw {es : List PyExpr} (he : es.all isKw = true) (g : ∀ x ∈ es, Goal x) : ∀ x ∈ es, KwGoal x :=
  goals_of goal_kw he g

theorem goal_ditem (x : PyExpr) (h1 : isDItem x = true) (h2 : Goal x) : DItemGoal x := by
  cases x with
  | dictItem k v =>
    cases k with
    | none => cases h1
    | some k => exact ⟨k, v, rfl, h2.1 k rfl, h2.2⟩
  | _ => cases h1

theorem goal_comp (x : PyExpr) (h1 : isComp x = true) (h2 : Goal x) : CompGoal x := by
  cases x with
  | comp t it ifs a => exact ⟨t, it, ifs, a, rfl, h2.1, h2.2.1, h2.2.2⟩
  | _ => cases h1

theorem goal_cmp (x : PyExpr) (h1 : isCmp x = true) (h2 : Goal x) : CmpGoal x := by
  cases x with
  | cmpRhs op e => exact ⟨op, e, rfl, h2.1, h2.2⟩
  | _ => cases h1

theorem goal_param (x : PyExpr) (h1 : isPlainParam x = true) (h2 : Goal x) : ParamGoal x := by
  cases x with
  | param n ann d =>
    cases ann with
    | some a => cases h1
    | none => exact ⟨n, d, rfl, h2.1, h2.2.2⟩
  | _ => cases h1

theorem goal_var {o : Option PyExpr} (he : ∀ v, o = some v → isVarParam v = true) (g : ∀ x, o = some x → Goal x) :
    VarGoal o := by
  intro p hp
  have h1 := he p hp
  have h2 := g p hp
  cases p with
  | param n ann d =>
    cases ann with
    | some a => cases h1
    | none =>
      cases d with
      | some a => cases h1
      | none => exact ⟨n, rfl, h2.1⟩
  | _ => cases h1

theorem goal_slice {s : PyExpr} (hs : isExpr s = true ∨ isSlice s = true) (g : Goal s) : SliceGoal s := by
  rcases hs with h | h
  · exact Or.inl ⟨ns_expr h, goal_expr h g⟩
  · cases s with
    | slice l u st => exact Or.inr ⟨l, u, st, rfl, g.1, g.2.1, g.2.2⟩
    | _ => cases h

mutual
theorem main : ∀ (e : PyExpr), WF e → Goal e
  | .name id, h => spine_name id h
  | .const c, h => spine_const c h
  | .boolOp op vs, ⟨hop, hlen, hvs, evs⟩ => goal_boolOp op vs hop hlen (goals_expr evs (mainL vs hvs))
  | .binOp l op r, ⟨hop, hl, hr, el, er⟩ => goal_binOp l r op (goal_expr el (main l hl)) (goal_expr er (main r hr)) hop
  | .unaryOp op e, ⟨hop, he, ee⟩ => goal_unaryOp e op (goal_expr ee (main e he)) hop
  | .lambda po ar va ko ka body, ⟨hpo, har, hva, hko, hka, hb, eb, ppo, par, pko, pva, pka⟩ =>
      goal_lambda po ar va ko ka body (goals_of goal_param ppo (mainL po hpo)) (goals_of goal_param par (mainL ar har))
        (goals_of goal_param pko (mainL ko hko)) (goal_var pva (mainO va hva)) (goal_var pka (mainO ka hka))
        (goal_expr eb (main body hb))
  | .ifExp t b o, ⟨ht, hb, ho, et, eb, eo⟩ =>
      goal_ifExp t b o (goal_expr et (main t ht)) (goal_expr eb (main b hb)) (goal_expr eo (main o ho))
  | .dict items, ⟨hi, ei⟩ => goal_dict items (goals_of goal_ditem ei (mainL items hi))
  | .listComp elt gens, ⟨he, ee, hg, hne, eg⟩ =>
      goal_listComp elt gens (goal_expr ee (main elt he)) hne (goals_of goal_comp eg (mainL gens hg))
  | .genExp elt gens, ⟨he, ee, hg, hne, eg⟩ =>
      goal_genExp elt gens (goal_expr ee (main elt he)) hne (goals_of goal_comp eg (mainL gens hg))
  | .yield_ none, _ => goal_yield_none
  | .yield_ (some x), ⟨hx, ex⟩ => goal_yield_some x (goal_expr ex (main x hx))
  | .compare l rest, ⟨hl, el, hr, hne, er⟩ =>
      goal_compare l rest (goal_expr el (main l hl)) hne (goals_of goal_cmp er (mainL rest hr))
  | .call f args kws, ⟨hf, ef, ha, ea, hk, ek⟩ =>
      goal_call f args kws (goal_expr ef (main f hf)) (goals_elt ea (mainL args ha)) (goals_kw ek (mainL kws hk))
  | .attribute v a, ⟨hv, ev, _, hni⟩ => goal_attribute v a (goal_expr ev (main v hv)) hni
  | .subscript v s, ⟨hv, ev, hs, es⟩ => goal_subscript v s (goal_expr ev (main v hv)) (goal_slice es (main s hs))
  | .slice l u st, ⟨hl, hu, hst, el, eu, est⟩ =>
      ⟨goal_optexpr el (mainO l hl), goal_optexpr eu (mainO u hu), goal_optexpr est (mainO st hst)⟩
  | .starred e, ⟨he, ee⟩ => goal_expr ee (main e he)
  | .list elts, ⟨he, ee⟩ => goal_list elts (goals_elt ee (mainL elts he))
  | .tuple elts, ⟨he, ee⟩ => goal_tuple elts (goals_elt ee (mainL elts he))
  | .unsupported _, _ => trivial
  | .keyword _ v, ⟨hn, hv, ev⟩ => ⟨hn, goal_expr ev (main v hv)⟩
  | .comp t it ifs _, ⟨ht, et, hit, eit, hifs, eifs⟩ =>
      ⟨goal_expr et (main t ht), goal_expr eit (main it hit), goals_expr eifs (mainL ifs hifs)⟩
  | .param _ ann d, ⟨hn, ha, hd, ea, ed⟩ => ⟨hn, goal_optexpr ea (mainO ann ha), goal_optexpr ed (mainO d hd)⟩
  | .dictItem k v, ⟨hk, ek, hv, ev⟩ => ⟨goal_optexpr ek (mainO k hk), goal_expr ev (main v hv)⟩
  | .cmpRhs _ e, ⟨hop, he, ee⟩ => ⟨hop, goal_expr ee (main e he)⟩
theorem mainL : ∀ (es : List PyExpr), WFL es → ∀ x ∈ es, Goal x
  | [], _ => by simp
  | e :: es, ⟨he, hes⟩ => by
      intro x hx
      rcases List.mem_cons.mp hx with hxe | hx
      · rw [hxe]; exact main e he
      · exact mainL es hes x hx
theorem mainO : ∀ (o : Option PyExpr), WFO o → ∀ x, o = some x → Goal x
  | none, _ => by simp
  | some e, h => by
      intro x hx
      cases hx
      exact main e h
end

theorem wrapP_len (kind : Str) (toks : List Tok) : toks.length ≤ (wrapP kind toks).length := by
  unfold wrapP; split <;> simp <;> omega

theorem wrapP_len2 (kind : Str) (toks : List Tok) (h : parenthesised kind = true) :
    (wrapP kind toks).length = toks.length + 2 := by
  simp [wrapP, h]

theorem drop1_len (l : List Tok) : l.length ≤ (l.drop 1).length + 1 := by
  cases l <;> simp

theorem paramsToks_len (a : List Tok) (e : Bool) (b c d f : List Tok) :
    a.length + b.length + c.length + d.length + f.length ≤ (paramsToks a e b c d f).length + 1 := by
  unfold paramsToks
  have := drop1_len (a ++ (if e then [] else [tComma, tSlash]) ++ b ++ c ++ d ++ f)
  simp only [List.length_append] at this ⊢
  omega

theorem varargToks_len (v : List Tok) (n k : Bool) (h : n = false) : (varargToks v n k).length = v.length := by
  subst h; simp [varargToks]

/-- `visit_arguments` drops nothing but the first comma: the five pieces it is given all arrive in the parameter list -/
theorem genParams_len (po ar : List PyExpr) (va : Option PyExpr) (ko : List PyExpr) (ka : Option PyExpr) :
    (genList [tComma] [] po).length + (genList [tComma] [] ar).length + (genOpt [tComma, tStar] va).length
      + (genList [tComma] [] ko).length + (genOpt [tComma, tDStar] ka).length ≤ (genParams po ar va ko ka).length + 1 := by
  have hv : (genOpt [tComma, tStar] va).length ≤
      (varargToks (genOpt [tComma, tStar] va) va.isNone ko.isEmpty).length := by
    cases va with
    | none => exact Nat.zero_le _
    | some v => exact Nat.le_of_eq (varargToks_len _ _ _ rfl).symm
  exact Nat.le_trans (by omega) (paramsToks_len _ po.isEmpty _ _ _ _)

theorem cmpSym_len : ∀ p ∈ AstGen.comparisonOperators, 1 ≤ (symToks p.2).length := by decide

mutual
theorem sz_le : ∀ (e : PyExpr), WF e → sz e + 1 ≤ 3 * (gen e).length
  | .name id, _ => by simp [sz, gen]
  | .const c, h => by
      have := (spine_const c h).head
      cases hg : gen (.const c) with
      | nil => simp [hg, headOK] at this
      | cons t r => simp [sz]; omega
  | .boolOp op [], h => by simp [WF] at h
  | .boolOp op (v :: rest), h => by
      simp only [WF] at h
      have h1 := sz_le v h.2.2.1.1
      have h2 := szL_le rest h.2.2.1.2 (opToks AstGen.boolOperators op) []
      simp only [sz, szL, gen, wrapP_len2 _ _ parens_all.1, List.length_append] at *
      omega
  | .binOp l op r, h => by
      simp only [WF] at h
      have h1 := sz_le l h.2.1
      have h2 := sz_le r h.2.2.1
      simp only [sz, gen, wrapP_len2 _ _ parens_all.2.1, List.length_append] at *
      omega
  | .unaryOp op e, h => by
      simp only [WF] at h
      have h1 := sz_le e h.2.1
      simp only [sz, gen, wrapP_len2 _ _ parens_all.2.2.1, List.length_append] at *
      omega
  | .lambda po ar va ko ka body, h => by
      simp only [WF] at h
      obtain ⟨h1, h2, h3, h4, h5, h6, _⟩ := h
      have b1 := szL_le po h1 [tComma] []
      have b2 := szL_le ar h2 [tComma] []
      have b3 := szO_le va h3 [tComma, tStar]
      have b4 := szL_le ko h4 [tComma] []
      have b5 := szO_le ka h5 [tComma, tDStar]
      have b6 := sz_le body h6
      have hp := genParams_len po ar va ko ka
      simp only [sz, gen, genParams, wrapP_len2 _ _ parens_all.2.2.2.1, List.length_append, List.length_cons] at *
      omega
  | .ifExp t b o, h => by
      simp only [WF] at h
      have h1 := sz_le t h.1
      have h2 := sz_le b h.2.1
      have h3 := sz_le o h.2.2.1
      simp only [sz, gen, wrapP_len2 _ _ parens_all.2.2.2.2.1, List.length_append, List.length_cons] at *
      omega
  | .listComp elt gens, h
  | .genExp elt gens, h => by
      simp only [WF] at h
      have h1 := sz_le elt h.1
      have h2 := szL_le gens h.2.2.1 [] []
      simp only [sz, gen, List.length_append, List.length_cons] at *
      omega
  | .yield_ v, h => by
      simp only [WF] at h
      have h1 := szO_le v h.1 []
      simp only [sz, gen, wrapP_len2 _ _ parens_all.2.2.2.2.2.1, List.length_cons] at *
      omega
  | .compare l rest, h => by
      simp only [WF] at h
      have h1 := sz_le l h.1
      have h2 := szL_le rest h.2.2.1 [] []
      simp only [sz, gen, wrapP_len2 _ _ parens_all.2.2.2.2.2.2, List.length_append] at *
      omega
  | .call f args kws, h => by
      simp only [WF] at h
      have h1 := sz_le f h.1
      have h2 := szL_le args h.2.2.1 [tComma] []
      have h3 := szL_le kws h.2.2.2.2.1 [tComma] []
      have hd := drop1_len (genList [tComma] [] args ++ genList [tComma] [] kws)
      simp only [sz, gen, List.length_append, List.length_cons] at *
      omega
  | .attribute v a, h => by
      simp only [WF] at h
      have h1 := sz_le v h.1
      rw [gen_attribute v a (isIntConst_false h.2.2.2)]
      simp only [sz, List.length_append, List.length_cons] at *
      omega
  | .subscript v s, h => by
      simp only [WF] at h
      have h1 := sz_le v h.1
      have h2 := sz_le s h.2.2.1
      simp only [sz, gen_subscript, List.length_append, List.length_cons] at *
      omega
  | .slice l u st, h => by
      simp only [WF] at h
      have b1 := szO_le l h.1 []
      have b2 := szO_le u h.2.1 []
      have b3 := szO_le st h.2.2.1 [tColon]
      simp only [sz, gen, List.length_append, List.length_cons] at *
      omega
  | .starred e, h => by
      simp only [WF] at h
      have h1 := sz_le e h.1
      simp only [sz, gen, List.length_cons] at *
      omega
  | .dict elts, h
  | .list elts, h
  | .tuple elts, h => by
      simp only [WF] at h
      have h1 := szL_le elts h.1 [] [tComma]
      simp only [sz, gen, List.length_append, List.length_cons] at *
      omega
  | .unsupported _, h => by simp [WF] at h
  | .keyword none v, h
  | .keyword (some _) v, h => by
      simp only [WF] at h
      have h1 := sz_le v h.2.1
      simp only [sz, gen, List.length_cons] at *
      omega
  | .comp t it ifs a, h => by
      simp only [WF] at h
      have h1 := sz_le t h.1
      have h2 := sz_le it h.2.2.1
      have h3 := szL_le ifs h.2.2.2.2.1 [kw cs!"if"] []
      simp only [sz, gen, List.length_append, List.length_cons] at *
      omega
  | .param n ann d, h => by
      simp only [WF] at h
      have h1 := szO_le ann h.2.1 [tColon]
      have h2 := szO_le d h.2.2.1 [tEq]
      simp only [sz, gen, List.length_append, List.length_cons] at *
      omega
  | .dictItem k v, h => by
      simp only [WF] at h
      have h1 := szO_le k h.1 []
      have h2 := sz_le v h.2.2.1
      simp only [sz, gen, List.length_append, List.length_cons] at *
      omega
  | .cmpRhs op e, h => by
      simp only [WF] at h
      have h1 := sz_le e h.2.1
      obtain ⟨sym, hsym⟩ := Option.isSome_iff_exists.mp h.1
      have := cmpSym_len _ (lookup_mem hsym)
      simp only [sz, gen, opToks, hsym, List.length_append] at *
      omega
termination_by structural e => e
theorem szL_le : ∀ (es : List PyExpr), WFL es → ∀ pre post, szL es ≤ 3 * (genList pre post es).length
  | [], _ => by intro pre post; simp [szL]
  | e :: es, h => by
      simp only [WFL] at h
      intro pre post
      have h1 := sz_le e h.1
      have h2 := szL_le es h.2 pre post
      simp only [szL, genList_cons, List.length_append] at *
      omega
termination_by structural es => es
theorem szO_le : ∀ (o : Option PyExpr), WFO o → ∀ pre, szO o ≤ 3 * (genOpt pre o).length
  | none, _ => by intro pre; simp [szO]
  | some e, h => by
      simp only [WFO] at h
      intro pre
      have h1 := sz_le e h
      simp only [szO, genOpt, List.length_append] at *
      omega
termination_by structural o => o
end

end Genshi.Py
