/-
  C13 — `parse_gen`, node by node: what the parser does on the tokens each visitor writes,
  given what it does on the tokens of the children.
-/
import Genshi.Lemmas.PyParseWF
import Genshi.Lemmas.PyGen
namespace Genshi.Py
open Genshi.Gen

def notEqHead : List Tok → Bool
  | .op ['='] :: _ => false
  | _ => true

def noKwStart : List Tok → Bool
  | .name _ :: .op ['='] :: _ => false
  | _ => true

/-- parsing a primary on the tokens of `e` is the same as having `e` and continuing with the
    trailers of the rest (with `cS e` levels of fuel used by the trailers of `e` itself) -/
def Spine (e : PyExpr) : Prop :=
  ∀ M, need e ≤ M → ∀ rest, primaryF (knot M) (gen e ++ rest) = (knot (M - cS e)).trailers e rest

/-- what the induction over trees establishes for an expression node: its `Spine`, that its tokens start like an
    operand, and that (before anything but `=`) they are not taken for a keyword argument `name = …` -/
structure ExprGoal (e : PyExpr) : Prop where
  spine : Spine e
  head : headOK (gen e) = true
  nokw : ∀ rest, notEqHead rest = true → noKwStart (gen e ++ rest) = true

theorem need_ge (e : PyExpr) : cS e + 8 ≤ need e := by
  have := cS_lt_sz e
  have := sz_pos e
  simp only [need]; omega

theorem succ_of_le {k M : Nat} (h : k + 1 ≤ M) : ∃ n, M = n + 1 ∧ k ≤ n := by
  cases M with
  | zero => exact absurd h (Nat.not_succ_le_zero _)
  | succ n => exact ⟨n, rfl, Nat.le_of_succ_le_succ h⟩

/-- a call through the knot at depth `M` is the layer's function one level down -/
@[elab_as_elim]
theorem through_knot {P : Nat → Prop} {k M : Nat} (hM : k + 1 ≤ M) (h : ∀ n, k ≤ n → P (n + 1)) : P M := by
  obtain ⟨n, rfl, hn⟩ := succ_of_le hM
  exact h n hn

theorem need_pos (e : PyExpr) : 0 + 1 ≤ need e :=
  Nat.le_trans (Nat.le_add_left 1 (cS e + 7)) (need_ge e)

/-- one round of a loop over a list costs two units of fuel; what is left suffices for the head and for the tail -/
theorem szL_step {x : PyExpr} {xs : List PyExpr} {M : Nat} (hM : 8 * szL (x :: xs) + 1 ≤ M) :
    ∃ m, M = m + 2 ∧ need x + 1 ≤ m ∧ 8 * szL xs + 1 ≤ m := by
  simp only [szL, need] at *
  exact ⟨M - 2, by omega⟩

/-- The arithmetic of the fuel.  A node whose reader is entered at depth `n + 1` spends at most two more levels on
    itself; what is left, `m`, covers each part with a level to spare (for a call through the knot).  `need e ≤ n + 1`
    unfolds to `8 * (1 + sz a + sz b + sz c) ≤ n + 1` by `rfl`, so the node lemmas apply this as it stands. -/
theorem fuel3 {a b c n : Nat} (hn : 8 * (1 + a + b + c) ≤ n + 1) :
    ∃ m, n = m + 2 ∧ 8 * a + 1 ≤ m ∧ 8 * b + 1 ≤ m ∧ 8 * c + 1 ≤ m :=
  ⟨n - 2, by omega⟩

theorem fuel2 {a b n : Nat} (hn : 8 * (1 + a + b) ≤ n + 1) : ∃ m, n = m + 2 ∧ 8 * a + 1 ≤ m ∧ 8 * b + 1 ≤ m :=
  let ⟨m, h, ha, hb, _⟩ := fuel3 (c := 0) hn
  ⟨m, h, ha, hb⟩

theorem fuel1 {a n : Nat} (hn : 8 * (1 + a) ≤ n + 1) : ∃ m, n = m + 2 ∧ 8 * a + 1 ≤ m :=
  let ⟨m, h, ha, _⟩ := fuel3 (b := 0) (c := 0) hn
  ⟨m, h, ha⟩

/-- without the split: a depth that suffices for a node does for each part, read through the knot at the same depth
    (an atom and what is inside its brackets; an item of a sequence and its parts) -/
theorem fuelA {a b c M : Nat} (hM : 8 * (1 + a + b + c) ≤ M) : 8 * a + 1 ≤ M ∧ 8 * b + 1 ≤ M ∧ 8 * c + 1 ≤ M := by
  omega

theorem fuel_le {a m : Nat} (k : Nat) (h : a + 1 ≤ m) : a ≤ m + k :=
  Nat.le_of_succ_le (Nat.le_add_right_of_le h)

/-- an optional part weighs one more than the part itself (`szO`) -/
theorem fuel_some {a m : Nat} (h : 8 * (1 + a) + 1 ≤ m) : 8 * a + 1 ≤ m := by omega

namespace ExprGoal
variable {e : PyExpr}

theorem prim (g : ExprGoal e) {M : Nat} (hM : need e ≤ M) (rest : List Tok) (hs : stopsTrailer rest = true) :
    primaryF (knot M) (gen e ++ rest) = some (e, rest) := by
  rw [g.spine M hM rest]
  have := need_ge e
  obtain ⟨n, hn⟩ := Nat.exists_eq_add_of_le' (show 1 ≤ M - cS e by omega)
  rw [hn, knot_trailers, trailers_stop _ _ _ hs]

theorem unary (g : ExprGoal e) {M : Nat} (hM : need e ≤ M) (rest : List Tok) (hs : stopsTrailer rest = true)
    (hp : stopsPow rest = true) : unaryF (knot M) (gen e ++ rest) = some (e, rest) :=
  unary_of_power _ _ _ _ (power_of_primary _ _ _ _ (g.prim hM rest hs) hp) (headOK_append _ g.head)

theorem kunary (g : ExprGoal e) {M : Nat} (hM : need e + 1 ≤ M) (rest : List Tok) (hs : stopsTrailer rest = true)
    (hp : stopsPow rest = true) : (knot M).unary (gen e ++ rest) = some (e, rest) :=
  through_knot hM fun _ hn => g.unary hn rest hs hp

theorem bin (g : ExprGoal e) {M : Nat} (hM : need e ≤ M) (lvl : Nat) (rest : List Tok) (hs : stopsTrailer rest = true)
    (hp : stopsPow rest = true) (hb : stopsBin rest = true) :
    binF (knot M) lvl (gen e ++ rest) = some (e, rest) := by
  obtain ⟨n, rfl, -⟩ := succ_of_le (Nat.le_trans (need_pos e) hM)
  exact bin_of_unary _ _ _ _ _ (g.unary hM rest hs hp) hb

theorem kbin (g : ExprGoal e) {M : Nat} (hM : need e + 1 ≤ M) (lvl : Nat) (rest : List Tok) (hs : stopsTrailer rest = true)
    (hp : stopsPow rest = true) (hb : stopsBin rest = true) :
    (knot M).bin lvl (gen e ++ rest) = some (e, rest) :=
  through_knot hM fun _ hn => g.bin hn lvl rest hs hp hb

theorem inv (g : ExprGoal e) {M : Nat} (hM : need e ≤ M) (rest : List Tok) (hb : belowBool rest = true) :
    invF (knot M) (gen e ++ rest) = some (e, rest) := by
  obtain ⟨n, rfl, -⟩ := succ_of_le (Nat.le_trans (need_pos e) hM)
  exact inv_of_cmp _ _ _ _
    (cmp_of_bin _ _ _ _ (g.bin hM 0 rest (belowBool_trailer hb) (belowBool_pow hb) (belowBool_bin hb))
      (belowBool_cmp hb))
    (headOK_not (headOK_append _ g.head))

theorem kinv (g : ExprGoal e) {M : Nat} (hM : need e + 1 ≤ M) (rest : List Tok) (hb : belowBool rest = true) :
    (knot M).inv (gen e ++ rest) = some (e, rest) :=
  through_knot hM fun _ hn => g.inv hn rest hb

theorem conj (g : ExprGoal e) {M : Nat} (hM : need e ≤ M) (rest : List Tok) (hb : belowBool rest = true)
    (ha : stopsAnd rest = true) : conjF (knot M) (gen e ++ rest) = some (e, rest) := by
  obtain ⟨n, rfl, -⟩ := succ_of_le (Nat.le_trans (need_pos e) hM)
  exact conj_of_inv _ _ _ _ (g.inv hM rest hb) ha

theorem kconj (g : ExprGoal e) {M : Nat} (hM : need e + 1 ≤ M) (rest : List Tok) (hb : belowBool rest = true)
    (ha : stopsAnd rest = true) : (knot M).conj (gen e ++ rest) = some (e, rest) :=
  through_knot hM fun _ hn => g.conj hn rest hb ha

theorem disj (g : ExprGoal e) {M : Nat} (hM : need e ≤ M) (rest : List Tok) (hd : closedD rest = true) :
    disjF (knot M) (gen e ++ rest) = some (e, rest) := by
  obtain ⟨n, rfl, -⟩ := succ_of_le (Nat.le_trans (need_pos e) hM)
  exact disj_of_conj _ _ _ _ (g.conj hM rest (closedD_belowBool hd) (closedD_and hd)) (closedD_or hd)

theorem kdisj (g : ExprGoal e) {M : Nat} (hM : need e + 1 ≤ M) (rest : List Tok) (hd : closedD rest = true) :
    (knot M).disj (gen e ++ rest) = some (e, rest) :=
  through_knot hM fun _ hn => g.disj hn rest hd

theorem expr (g : ExprGoal e) {M : Nat} (hM : need e ≤ M) (rest : List Tok) (hc : closedE rest = true) :
    exprF (knot M) (gen e ++ rest) = some (e, rest) :=
  expr_of_disj _ _ _ _ (g.disj hM rest (closedE_D hc)) (headOK_lambda (headOK_append _ g.head)) (closedE_if hc)

theorem kexpr (g : ExprGoal e) {M : Nat} (hM : need e + 1 ≤ M) (rest : List Tok) (hc : closedE rest = true) :
    (knot M).expr (gen e ++ rest) = some (e, rest) :=
  through_knot hM fun _ hn => g.expr hn rest hc

end ExprGoal

theorem closedE_cons_rp (rest : List Tok) : closedE (tRP :: rest) = true := by rfl
theorem closedD_cons_rp (rest : List Tok) : closedD (tRP :: rest) = true := by rfl

/-- a node written as one atom of the reader (a name, a literal, a display, a parenthesised form): it is enough that
    `atomF` reads it.  A name or literal is a single token; before anything but `=` it is not a keyword argument. -/
theorem goal_of_atom (e : PyExpr) (t : Tok) (body : List Tok) (hg : gen e = t :: body) (ht : atomStart t = true)
    (hk : body = [] ∨ ∃ o, t = .op o) (hc : cS e = 0)
    (h : ∀ n, need e ≤ n + 1 → ∀ rest, atomF (knot (n + 1)) (t :: (body ++ rest)) = some (e, rest)) : ExprGoal e := by
  refine ⟨fun M hM rest => ?_, by rw [hg]; exact ht, fun rest hr => ?_⟩
  · obtain ⟨n, rfl, -⟩ := succ_of_le (Nat.le_trans (need_pos e) hM)
    rw [hg, hc, List.cons_append, primaryF_def, h n hM rest]; rfl
  · rw [hg]
    rcases hk with rfl | ⟨o, rfl⟩
    · cases rest with
      | nil => cases t <;> rfl
      | cons u r =>
        unfold noKwStart
        split
        · rename_i heq
          cases (List.cons.inj (List.cons.inj heq).2).1
          cases hr
        · rfl
    · rfl

theorem spine_name (id : Str) (h : IdentOK id) : ExprGoal (.name id) := by
  have h1 : id ≠ cs!"True" := by intro e; subst e; exact absurd h (by decide)
  have h2 : id ≠ cs!"False" := by intro e; subst e; exact absurd h (by decide)
  have h3 : id ≠ cs!"None" := by intro e; subst e; exact absurd h (by decide)
  refine goal_of_atom _ (.name id) [] rfl ?_ (.inl rfl) rfl fun n _ rest => ?_
  · simp [atomStart, show isKeyword id = false from h]
  · simp [atomF, h1, h2, h3, show isKeyword id = false from h]

theorem signedNum_eq (t : Str) (h : match t with | '-' :: _ => False | _ => True) : signedNum t = wordNum t := by
  unfold signedNum
  split
  · simp at h
  · rfl

theorem spine_const (c : Const) (h : ConstOK c) : ExprGoal (.const c) := by
  obtain ⟨kind, text⟩ := c
  have key : ∃ t, gen (.const ⟨kind, text⟩) = [t] ∧ atomStart t = true ∧
      ∀ k rest, atomF k (t :: rest) = some (.const ⟨kind, text⟩, rest) := by
    cases kind <;> simp only [ConstOK] at h
    · obtain ⟨h1, h2, h3⟩ := h
      exact ⟨.num text, by simp [gen, genConst, signedNum_eq _ h3, h1], rfl, by intro k rest; simp [atomF, h2]⟩
    · obtain ⟨h1, h2, h3, h4⟩ := h
      exact ⟨.num text, by simp [gen, genConst, h4, signedNum_eq _ h3, h1], rfl, by intro k rest; simp [atomF, h2]⟩
    · obtain ⟨h1, h2, h3, h4⟩ := h
      exact ⟨.num text, by simp [gen, genConst, h4, signedNum_eq _ h3, h1], rfl, by intro k rest; simp [atomF, h2]⟩
    · exact ⟨.str text, by simp [gen, genConst], rfl, by intro k rest; simp [atomF, h]⟩
    · exact ⟨.str text, by simp [gen, genConst], rfl, by intro k rest; simp [atomF, h]⟩
    · subst h; exact ⟨.name cs!"True", by simp [gen, genConst], by decide, by intro k rest; simp [atomF]⟩
    · subst h; exact ⟨.name cs!"False", by simp [gen, genConst], by decide, by intro k rest; simp [atomF]⟩
    · subst h; exact ⟨.name cs!"None", by simp [gen, genConst], by decide, by intro k rest; simp [atomF]⟩
    · subst h; exact ⟨tEllipsis, by simp [gen, genConst], by decide, by intro k rest; simp [atomF, tEllipsis]⟩
  obtain ⟨t, hg, hs, ha⟩ := key
  exact goal_of_atom _ t [] hg hs (.inl rfl) rfl fun n _ rest => ha _ rest

/-- what the text between the parentheses of a parenthesised node starts with: not `)`, `yield`, `*` -/
def parenStart : List Tok → Bool
  | [] => false
  | t :: _ => t != tRP && t != kw cs!"yield" && t != tStar

theorem parenStart_append {a : List Tok} (b : List Tok) (h : parenStart a = true) : parenStart (a ++ b) = true := by
  cases a with
  | nil => simp [parenStart] at h
  | cons t r => simpa [parenStart] using h

theorem headOK_parenStart {toks : List Tok} (h : headOK toks = true) : parenStart toks = true := by
  cases toks with
  | nil => simp [headOK] at h
  | cons t r =>
    simp [headOK] at h
    simp only [parenStart, Bool.and_eq_true, bne_iff_ne, ne_eq]
    refine ⟨⟨?_, ?_⟩, ?_⟩
    · intro e; subst e; simp [atomStart, tRP] at h
    · intro e; subst e; revert h; decide
    · intro e; subst e; simp [atomStart, tStar] at h

theorem eltF_expr (k : Knot) (toks : List Tok) (h : parenStart toks = true) : eltF k toks = k.expr toks := by
  cases toks with
  | nil => simp [parenStart] at h
  | cons t r =>
    simp only [parenStart, Bool.and_eq_true, bne_iff_ne, ne_eq] at h
    unfold eltF
    split
    · rename_i heq
      exact absurd (List.cons.inj heq).1 h.2
    · rfl

theorem atomF_lp (k : Knot) (r : List Tok) : atomF k (tLP :: r) = parenF k r := rfl
theorem atomF_lb (k : Knot) (r : List Tok) : atomF k (tLB :: r) = bracketF k r := rfl
theorem atomF_lc (k : Knot) (r : List Tok) : atomF k (tLC :: r) = braceF k r := rfl

/-- `(` … when the text inside starts neither with `)` nor with `yield`: an element, then what `parenF` does after it -/
theorem parenF_elt (k : Knot) (toks : List Tok) (h1 : atCloser tRP toks = false) (h2 : atCloser (kw cs!"yield") toks = false) :
    parenF k toks = (eltF k toks).bind fun x =>
      match x.2 with
      | .op [')'] :: r' =>
          match x.1 with
          | .starred _ => none
          | _ => some (x.1, r')
      | .op [','] :: r' => (k.items .elts tRP [x.1] true r').bind fun y =>
          match y.2 with
          | .op [')'] :: r3 => some (.tuple y.1.1, r3)
          | _ => none
      | _ =>
          if startsComp x.2 then (k.comps [] x.2).bind fun g =>
            match g.2 with
            | .op [')'] :: r3 => some (.genExp x.1 g.1, r3)
            | _ => none
          else none := by
  unfold parenF
  split
  · simp [atCloser, tRP] at h1
  · simp [atCloser, kw] at h2
  · rfl

theorem bracketF_elt (k : Knot) (toks : List Tok) (h1 : atCloser tRB toks = false) :
    bracketF k toks = (eltF k toks).bind fun x =>
      match x.2 with
      | .op [']'] :: r' => some (.list [x.1], r')
      | .op [','] :: r' => (k.items .elts tRB [x.1] true r').bind fun y =>
          match y.2 with
          | .op [']'] :: r3 => some (.list y.1.1, r3)
          | _ => none
      | _ =>
          if startsComp x.2 then (k.comps [] x.2).bind fun g =>
            match g.2 with
            | .op [']'] :: r3 => some (.listComp x.1 g.1, r3)
            | _ => none
          else none := by
  unfold bracketF
  split
  · simp [atCloser, tRB] at h1
  · rfl
theorem parenStart_closer {toks : List Tok} (h : parenStart toks = true) :
    atCloser tRP toks = false ∧ atCloser (kw cs!"yield") toks = false := by
  cases toks with
  | nil => cases h
  | cons t r =>
    simp only [parenStart, Bool.and_eq_true, bne_iff_ne, ne_eq] at h
    simp [atCloser, h.1.1, h.1.2]

theorem paren_wrap (k : Knot) (inner rest : List Tok) (e : PyExpr)
    (h : k.expr (inner ++ tRP :: rest) = some (e, tRP :: rest))
    (hh : parenStart inner = true) (hs : isStar e = false) :
    parenF k (inner ++ tRP :: rest) = some (e, rest) := by
  have hp := parenStart_append (tRP :: rest) hh
  rw [parenF_elt _ _ (parenStart_closer hp).1 (parenStart_closer hp).2, eltF_expr _ _ hp, h]
  cases e <;> first | rfl | cases hs

/-- a node written as `( inner )`: it is enough to parse `inner` as an expression -/
theorem goal_of_paren (e : PyExpr) (inner : List Tok) (hg : gen e = tLP :: (inner ++ [tRP])) (hc : cS e = 0)
    (hs : isStar e = false) (hh : parenStart inner = true)
    (h : ∀ n, need e ≤ n + 1 → ∀ rest, exprF (knot n) (inner ++ tRP :: rest) = some (e, tRP :: rest)) :
    ExprGoal e :=
  goal_of_atom e tLP (inner ++ [tRP]) hg rfl (.inr ⟨_, rfl⟩) hc fun n hn rest => by
    rw [atomF_lp, List.append_assoc]
    exact paren_wrap _ inner rest e (h n hn rest) hh hs

theorem goal_binOp (l r : PyExpr) (op : Str) (gl : ExprGoal l) (gr : ExprGoal r)
    (hop : (lookup AstGen.binaryOperators op).isSome = true) : ExprGoal (.binOp l op r) := by
  obtain ⟨sym, hsym⟩ := Option.isSome_iff_exists.mp hop
  obtain ⟨hsymToks, hst, hcase⟩ := binTable_ok _ (lookup_mem hsym)
  simp only at hsymToks hst hcase
  apply goal_of_paren _ (gen l ++ Tok.op sym :: gen r)
  · simp [gen, wrapP, parens_all.2.1, opToks, hsym, hsymToks]
  · rfl
  · rfl
  · exact headOK_parenStart (headOK_append _ gl.head)
  · intro n hn rest
    obtain ⟨m, rfl, hnl, hnr⟩ := fuel2 hn
    simp only [List.append_assoc, List.cons_append]
    have hhead : headOK (gen l ++ Tok.op sym :: (gen r ++ tRP :: rest)) = true := headOK_append _ gl.head
    rcases hcase with ⟨hpow, hcls⟩ | ⟨hnp, hlvl⟩
    · -- `**`: the power layer
      subst hpow; subst hcls
      have hp := gl.prim (fuel_le 2 hnl) (Tok.op ['*', '*'] :: (gen r ++ tRP :: rest)) (stopsTrailer_cons _ _ ▸ hst)
      have hr := gr.unary (M := m + 1) (fuel_le 1 hnr) (tRP :: rest) rfl rfl
      have hpw : powerF (knot (m+2)) (gen l ++ Tok.op ['*', '*'] :: (gen r ++ tRP :: rest))
          = some (.binOp l cs!"Pow" r, tRP :: rest) := by
        simp [powerF, hp, hr]
      exact expr_of_unary _ _ _ _ (unary_of_power _ _ _ _ hpw hhead) (headOK_not hhead) (headOK_lambda hhead)
        (closedE_cons_rp rest)
    · -- a left-associative operator with a level
      obtain ⟨⟨cls, lvl⟩, hbl, hcls⟩ := Option.map_eq_some_iff.mp hlvl
      simp only at hcls; subst hcls
      have hsp : stopsPow (Tok.op sym :: (gen r ++ tRP :: rest)) = true := by
        unfold stopsPow; split
        · rename_i heq; exact absurd (by simpa using (List.cons.inj heq).1) hnp
        · rfl
      have hu := gl.unary (fuel_le 2 hnl) (Tok.op sym :: (gen r ++ tRP :: rest)) (stopsTrailer_cons _ _ ▸ hst) hsp
      have hr := gr.kbin (M := m + 1) (Nat.le_add_right_of_le hnr) (lvl + 1) (tRP :: rest) rfl rfl rfl
      have hb : binF (knot (m+2)) 0 (gen l ++ Tok.op sym :: (gen r ++ tRP :: rest))
          = some (.binOp l cls r, tRP :: rest) := by
        rw [binF_def, hu]
        simp only [Option.bind_some, knot_binl]
        rw [binl_step _ _ _ _ _ _ _ hbl (Nat.zero_le _), hr]
        simp only [Option.bind_some, knot_binl]
        exact binl_stop _ _ _ _ rfl
      exact expr_of_bin0 _ _ _ _ hb (headOK_not hhead) (headOK_lambda hhead) (closedE_cons_rp rest)

theorem invF_not (k : Knot) (r : List Tok) :
    invF k (.name ['n', 'o', 't'] :: r) = (k.inv r).bind fun x => some (.unaryOp cs!"Not" x.1, x.2) := rfl

theorem unaryF_op (k : Knot) (s : Str) (r : List Tok) (cls : Str)
    (h : unarySym? s Astgrammar.unaryOps = some cls) :
    unaryF k (.op s :: r) = (k.unary r).bind fun x => some (.unaryOp cls x.1, x.2) := by
  simp [unaryF, h]

theorem goal_unaryOp (e : PyExpr) (op : Str) (ge : ExprGoal e)
    (hop : (lookup AstGen.unaryOperators op).isSome = true) : ExprGoal (.unaryOp op e) := by
  obtain ⟨sym, hsym⟩ := Option.isSome_iff_exists.mp hop
  rcases unTable_ok _ (lookup_mem hsym) with ⟨hnot, htoks⟩ | ⟨_, htoks, hun⟩
  · simp only at hnot htoks
    subst hnot
    apply goal_of_paren _ (Tok.name cs!"not" :: gen e)
    · simp [gen, wrapP, parens_all.2.2.1, opToks, hsym, htoks]
    · rfl
    · rfl
    · rfl
    · intro n hn rest
      obtain ⟨m, rfl, hne⟩ := fuel1 hn
      have : invF (knot (m+2)) (Tok.name cs!"not" :: (gen e ++ tRP :: rest))
          = some (.unaryOp cs!"Not" e, tRP :: rest) := by
        rw [invF_not, ge.kinv (Nat.le_add_right_of_le hne) (tRP :: rest) rfl]; rfl
      exact expr_of_inv _ _ _ _ this rfl (closedE_cons_rp rest)
  · simp only at htoks hun
    have hs1 : sym ≠ [')'] := by intro e; subst e; simp [unarySym?, Astgrammar.unaryOps] at hun
    have hs2 : sym ≠ ['*'] := by intro e; subst e; simp [unarySym?, Astgrammar.unaryOps] at hun
    apply goal_of_paren _ (Tok.op sym :: gen e)
    · simp [gen, wrapP, parens_all.2.2.1, opToks, hsym, htoks]
    · rfl
    · rfl
    · simp [parenStart, tRP, tStar, kw, hs1, hs2]
    · intro n hn rest
      obtain ⟨m, rfl, hne⟩ := fuel1 hn
      have : unaryF (knot (m+2)) (Tok.op sym :: (gen e ++ tRP :: rest))
          = some (.unaryOp op e, tRP :: rest) := by
        rw [unaryF_op _ _ _ _ hun, ge.kunary (Nat.le_add_right_of_le hne) (tRP :: rest) rfl rfl]; rfl
      exact expr_of_unary _ _ _ _ this rfl rfl (closedE_cons_rp rest)

theorem goal_ifExp (t b o : PyExpr) (gt : ExprGoal t) (gb : ExprGoal b) (go : ExprGoal o) :
    ExprGoal (.ifExp t b o) := by
  apply goal_of_paren _ (gen b ++ kw cs!"if" :: (gen t ++ kw cs!"else" :: gen o))
  · simp [gen, wrapP, parens_all.2.2.2.2.1]
  · rfl
  · rfl
  · exact headOK_parenStart (headOK_append _ gb.head)
  · intro n hn rest
    obtain ⟨m, rfl, ht, hb, ho⟩ := fuel3 hn
    simp only [List.append_assoc, List.cons_append]
    rw [exprF_disj _ _ (headOK_lambda (headOK_append _ gb.head)),
      gb.disj (fuel_le 2 hb) (kw cs!"if" :: (gen t ++ kw cs!"else" :: (gen o ++ tRP :: rest))) rfl]
    show ((knot (m + 2)).disj (gen t ++ kw cs!"else" :: (gen o ++ tRP :: rest))).bind _ = _
    rw [gt.kdisj (Nat.le_add_right_of_le ht) (kw cs!"else" :: (gen o ++ tRP :: rest)) rfl]
    show ((knot (m + 2)).expr (gen o ++ tRP :: rest)).bind _ = _
    rw [go.kexpr (Nat.le_add_right_of_le ho) (tRP :: rest) (closedE_cons_rp rest)]
    rfl

theorem goal_yield_none : ExprGoal (.yield_ none) :=
  goal_of_atom _ tLP [kw cs!"yield", tRP] (by simp [gen, wrapP, parens_all.2.2.2.2.2.1, genOpt]) rfl (.inr ⟨_, rfl⟩) rfl
    fun _ _ _ => rfl

/-- `( yield` … : the token after `yield` onwards, when an operand follows -/
theorem parenF_yield (k : Knot) (toks : List Tok) (h : headOK toks = true) :
    parenF k (kw cs!"yield" :: toks) = (k.expr toks).bind fun x =>
      match x.2 with
      | .op [')'] :: r' => some (.yield_ (some x.1), r')
      | .op [','] :: r' => (k.items .elts tRP [x.1] true r').bind fun y =>
          match y.2 with
          | .op [')'] :: r3 => some (.yield_ (some (.tuple y.1.1)), r3)
          | _ => none
      | _ => none := by
  have he := eltF_expr k toks (headOK_parenStart h)
  cases toks with
  | nil => cases h
  | cons t r =>
    simp only [parenF, kw]
    split
    · rename_i heq; cases (List.cons.inj heq).1; cases h
    · rw [he]; rfl

theorem goal_yield_some (x : PyExpr) (gx : ExprGoal x) : ExprGoal (.yield_ (some x)) := by
  refine goal_of_atom _ tLP (kw cs!"yield" :: (gen x ++ [tRP])) (by simp [gen, wrapP, parens_all.2.2.2.2.2.1, genOpt])
    rfl (.inr ⟨_, rfl⟩) rfl fun n hn rest => ?_
  rw [atomF_lp, List.cons_append, List.append_assoc, List.singleton_append, parenF_yield _ _ (headOK_append _ gx.head),
    gx.kexpr (fuel_some (fuelA (b := 0) (c := 0) hn).1) (tRP :: rest) (closedE_cons_rp rest)]
  rfl

end Genshi.Py
