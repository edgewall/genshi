/-
  C13 — statement layer: compound statements and blocks.
-/
import Genshi.Lemmas.PyParseS2
namespace Genshi.Py
open Genshi.Gen

mutual
def szS : PyStmt → Nat
  | .if_ _ b o => 2 + szSL b + szSL o
  | .while_ _ b o => 2 + szSL b + szSL o
  | .for_ _ _ b o => 2 + szSL b + szSL o
  | .with_ _ b => 2 + szSL b
  | .try_ b hs o f => 2 + szSL b + szSL hs + szSL o + szSL f
  | .handler _ _ b => 1 + szSL b
  | .functionDef _ _ _ _ _ _ body _ _ _ => 2 + szSL body
  | .classDef _ _ _ body _ _ => 2 + szSL body
  | .expr _ => 1
  | .assign _ _ => 1
  | .augAssign _ _ _ => 1
  | .return_ _ => 1
  | .delete _ => 1
  | .pass_ => 1
  | .break_ => 1
  | .continue_ => 1
  | .assert_ _ _ => 1
  | .raise_ _ _ => 1
  | .global_ _ => 1
  | .import_ _ => 1
  | .importFrom _ _ _ => 1
  | .unsupported _ => 1
def szSL : List PyStmt → Nat
  | [] => 1
  | s :: ss => 1 + szS s + szSL ss
end

/-- The arithmetic of the fuel of the statement readers, once.  A compound statement spends one level on its header line;
    what is left covers each of its blocks with one level to spare (the `else:` / `finally:` line). -/
theorem fuelS4 {a b c d fuel : Nat} (h : 2 + a + b + c + d ≤ fuel) :
    ∃ f, fuel = f + 1 ∧ a + 1 ≤ f ∧ b + 1 ≤ f ∧ c + 1 ≤ f ∧ d + 1 ≤ f :=
  ⟨fuel - 1, by omega⟩

theorem fuelS2 {a b fuel : Nat} (h : 2 + a + b ≤ fuel) : ∃ f, fuel = f + 1 ∧ a + 1 ≤ f ∧ b + 1 ≤ f :=
  let ⟨f, e, ha, hb, _⟩ := fuelS4 (c := 0) (d := 0) h
  ⟨f, e, ha, hb⟩

theorem fuelS1 {a fuel : Nat} (h : 2 + a ≤ fuel) : ∃ f, fuel = f + 1 ∧ a + 1 ≤ f :=
  let ⟨f, e, ha, _⟩ := fuelS4 (b := 0) (c := 0) (d := 0) h
  ⟨f, e, ha⟩

/-- one more statement (or handler) of a block: one level for the round, the rest covers the statement and the others -/
theorem fuelL {a b fuel : Nat} (h : 1 + a + b ≤ fuel) : ∃ f, fuel = f + 1 ∧ a ≤ f ∧ b ≤ f :=
  ⟨fuel - 1, by omega⟩

theorem szS_simple {s : PyStmt} (hs : isSimple s = true) : szS s = 1 := by
  cases s <;> first | rfl | cases hs

/-- the first of the following lines (if any) is indented less than `ind`, or equally and satisfies `P` -/
def Next (ind : Nat) (P : Line → Prop) (rest : List Line) : Prop :=
  ∀ l r, rest = l :: r → l.indent < ind ∨ (l.indent = ind ∧ P l)

def Ends (ind : Nat) (rest : List Line) : Prop := ∀ l r, rest = l :: r → l.indent < ind

def notClause (l : Line) : Prop := isClauseLine l = false
def notElse (l : Line) : Prop := l.toks ≠ [kw cs!"else", tColon]
def notFinally (l : Line) : Prop := l.toks ≠ [kw cs!"finally", tColon]
def notExcept (l : Line) : Prop := ∀ ts, l.toks ≠ kw cs!"except" :: ts

theorem Next.mono {ind : Nat} {P Q : Line → Prop} {rest : List Line} (h : Next ind P rest) (hpq : ∀ l, P l → Q l) :
    Next ind Q rest := by
  intro l r e
  rcases h l r e with h1 | ⟨h1, h2⟩
  · exact Or.inl h1
  · exact Or.inr ⟨h1, hpq l h2⟩

theorem Next.ends {ind : Nat} {P : Line → Prop} {rest : List Line} (h : Next ind P rest) : Ends (ind + 1) rest := by
  intro l r e
  rcases h l r e with h1 | ⟨h1, _⟩ <;> omega

/-- under `Next ind P` a first line that fails `P` is not at indentation `ind`: so `parseElse`, `parseFinally`, `parseHandlers`
    pass over a following line that looks like their clause -/
theorem Next.skip {ind i : Nat} {P : Line → Prop} {ts : List Tok} {r : List Line} (h : Next ind P (⟨i, ts⟩ :: r))
    (hn : ¬ P ⟨i, ts⟩) : ¬ i = ind := by
  rcases h _ _ rfl with hlt | ⟨_, hp⟩
  · exact Nat.ne_of_lt hlt
  · exact absurd hp hn

theorem next_cons (ind : Nat) (P : Line → Prop) (ts : List Tok) (r : List Line) (h : P ⟨ind, ts⟩) :
    Next ind P (⟨ind, ts⟩ :: r) := by
  intro l r' e
  obtain ⟨rfl, _⟩ := List.cons.inj e
  exact Or.inr ⟨rfl, h⟩

theorem ends_cons (ind : Nat) (ts : List Tok) (r : List Line) : Ends (ind + 1) (⟨ind, ts⟩ :: r) := by
  intro l r' e
  obtain ⟨rfl, _⟩ := List.cons.inj e
  exact Nat.lt_succ_self _

theorem notClause_else {l : Line} (h : notClause l) : notElse l := by
  intro e; simp [notClause, isClauseLine, e, kw] at h

theorem notClause_finally {l : Line} (h : notClause l) : notFinally l := by
  intro e; simp [notClause, isClauseLine, e, kw] at h

theorem notClause_except {l : Line} (h : notClause l) : notExcept l := by
  intro ts e; simp [notClause, isClauseLine, e, kw] at h

/-- What the induction over statements establishes, one predicate per reader: with fuel for the measure `szS` / `szSL` it
    reads the written lines back and leaves `rest`, provided `rest` cannot be taken for more of the same — a block ends at a
    dedent (`Ends`), a statement before a line that continues none of its clauses, the handler list before anything but `except`. -/
def BlockOK (ss : List PyStmt) : Prop :=
  ∀ ind fuel, szSL ss ≤ fuel → ∀ rest, Ends ind rest → parseBlock fuel ind (genBody ind ss ++ rest) = some (ss, rest)

def StmtOK (s : PyStmt) : Prop :=
  ∀ ind fuel, szS s ≤ fuel → ∀ rest, Next ind notClause rest →
    parseStmt fuel ind (genStmt ind s ++ rest) = some (s, rest)

def HandlersOK (hs : List PyStmt) : Prop :=
  ∀ ind fuel, szSL hs ≤ fuel → ∀ rest, Next ind notExcept rest →
    parseHandlers fuel ind (genBody ind hs ++ rest) = some (hs, rest)

theorem genElse_cons (ind : Nat) (s : PyStmt) (ss : List PyStmt) :
    genElse ind (s :: ss) = ⟨ind, [kw cs!"else", tColon]⟩ :: genBody (ind + 1) (s :: ss) := by
  simp [genElse, genBody]

theorem else_ok (o : List PyStmt) (ho : BlockOK o) (ind fuel : Nat) (hf : szSL o + 1 ≤ fuel) (rest : List Line)
    (hr : Next ind notElse rest) : parseElse fuel ind (genElse ind o ++ rest) = some (o, rest) := by
  obtain ⟨f, rfl, hf'⟩ := succ_of_le hf
  cases o with
  | nil =>
    simp only [genElse, List.nil_append]
    unfold parseElse
    split
    · rename_i h; simp at h
    · exact if_neg (hr.skip fun h => h rfl)
    · rfl
  | cons s ss =>
    rw [genElse_cons]
    simp only [List.cons_append, parseElse, kw, tColon, if_true]
    exact ho (ind + 1) f hf' rest hr.ends

theorem ends_else (ind : Nat) (o : List PyStmt) (rest : List Line) (hr : Next ind notElse rest) :
    Ends (ind + 1) (genElse ind o ++ rest) := by
  cases o with
  | nil => exact hr.ends
  | cons s ss => rw [genElse_cons]; exact ends_cons _ _ _

theorem headerEnd_colon : headerEnd [tColon] = true := by simp [headerEnd]

/-- `if` and `while`: keyword, condition, block, optional `else:` block -/
theorem cond_ok (k : Str) (mk : PyExpr → List PyStmt → List PyStmt → PyStmt) (t : PyExpr) (b o : List PyStmt)
    (hgen : ∀ ind, genStmt ind (mk t b o) = ⟨ind, kw k :: (gen t ++ [tColon])⟩ :: (genBody (ind + 1) b ++ genElse ind o))
    (hsz : szS (mk t b o) = 2 + szSL b + szSL o)
    (hparse : ∀ fuel ind ts rest, parseStmt (fuel + 1) ind (⟨ind, kw k :: ts⟩ :: rest) = (exprP ts).bind fun x =>
      if headerEnd x.2 then
        (parseBlock fuel (ind + 1) rest).bind fun y => (parseElse fuel ind y.2).bind fun z => some (mk x.1 y.1 z.1, z.2)
      else none)
    (ht : Supported t) (hb : BlockOK b) (ho : BlockOK o) : StmtOK (mk t b o) := by
  intro ind fuel hf rest hr
  rw [hsz] at hf
  obtain ⟨f, rfl, fb, fo⟩ := fuelS2 hf
  have hne := hr.mono (fun _ => notClause_else)
  rw [hgen, List.cons_append, List.append_assoc, hparse, exprP_gen t ht [tColon] (stopsAll_closedE rfl)]
  simp only [Option.bind_some, headerEnd_colon, if_true,
    hb (ind + 1) f (Nat.le_of_succ_le fb) (genElse ind o ++ rest) (ends_else ind o rest hne), else_ok o ho ind f fo rest hne]

theorem if_ok (t : PyExpr) (b o : List PyStmt) (ht : Supported t) (hb : BlockOK b) (ho : BlockOK o) :
    StmtOK (.if_ t b o) :=
  cond_ok cs!"if" .if_ t b o (fun _ => rfl) rfl (fun _ _ _ _ => rfl) ht hb ho

theorem while_ok (t : PyExpr) (b o : List PyStmt) (ht : Supported t) (hb : BlockOK b) (ho : BlockOK o) :
    StmtOK (.while_ t b o) :=
  cond_ok cs!"while" .while_ t b o (fun _ => rfl) rfl (fun _ _ _ _ => rfl) ht hb ho

theorem for_ok (t it : PyExpr) (b o : List PyStmt) (ht : Supported t) (hit : Supported it) (hb : BlockOK b)
    (ho : BlockOK o) : StmtOK (.for_ t it b o) := by
  intro ind fuel hf rest hr
  obtain ⟨f, rfl, fb, fo⟩ := fuelS2 hf
  have hne := hr.mono (fun _ => notClause_else)
  have hpt := primaryP_gen t ht (kw cs!"in" :: (gen it ++ [tColon])) rfl
  have hex := exprP_gen it hit [tColon] (stopsAll_closedE rfl)
  have hbody := hb (ind + 1) f (Nat.le_of_succ_le fb) (genElse ind o ++ rest) (ends_else ind o rest hne)
  have helse := else_ok o ho ind f fo rest hne
  simp only [kw] at hpt
  simp only [genStmt, List.cons_append, List.append_assoc, kw]
  rw [parseStmt]
  simp only [hpt, hex, headerEnd_colon, Option.bind_eq_bind, Option.bind_some, if_true, hbody, helse]

/-- one round of `withItemsP` on `c as v` -/
theorem withItemsP_as (f : Nat) {toks r' : List Tok} {c : PyExpr} {y : PyExpr × List Tok}
    (hc : exprP toks = some (c, kw cs!"as" :: r')) (hv : primaryP r' = some y) :
    withItemsP (f + 1) toks = match y.2 with
      | [.op [':']] => some [(c, some y.1)]
      | .op [','] :: r2 => (withItemsP f r2).map fun xs => (c, some y.1) :: xs
      | _ => none := by
  rw [withItemsP, hc]
  simp only [Option.bind_eq_bind, Option.bind_some, kw, hv]
  rfl

theorem withItems_loop (items : List (PyExpr × Option PyExpr)) (x : PyExpr × Option PyExpr)
    (h : ∀ i ∈ x :: items, Supported i.1 ∧ SupportedO i.2) :
    withItemsP ((joinToks [tComma] ((x :: items).map withItemToks) ++ [tColon]).length + 1)
      (joinToks [tComma] ((x :: items).map withItemToks) ++ [tColon]) = some (x :: items) := by
  refine sep_loop withItemsP withItemToks (fun i => Supported i.1 ∧ SupportedO i.2) [tColon] ?_ ?_ items x h _ (Nat.le_refl _)
  · rintro f ⟨c, _ | v⟩ hi
    · have hc := exprP_gen c hi.1 [tColon] (stopsAll_closedE rfl)
      rw [withItemsP, withItemToks, hc]
      rfl
    · rw [withItemToks, List.append_assoc, List.cons_append]
      exact withItemsP_as f (exprP_gen c hi.1 _ (stopsAll_as _)) (primaryP_gen v (hi.2 v rfl) [tColon] rfl)
  · rintro f ⟨c, _ | v⟩ R hi
    · have hc := exprP_gen c hi.1 (tComma :: R) (stopsAll_closedE rfl)
      rw [withItemsP, withItemToks, hc]
      rfl
    · rw [withItemToks, List.append_assoc, List.cons_append]
      exact withItemsP_as f (exprP_gen c hi.1 _ (stopsAll_as _)) (primaryP_gen v (hi.2 v rfl) (tComma :: R) rfl)

theorem with_ok (items : List (PyExpr × Option PyExpr)) (b : List PyStmt) (hne : items ≠ [])
    (hi : ∀ i ∈ items, Supported i.1 ∧ SupportedO i.2) (hb : BlockOK b) : StmtOK (.with_ items b) := by
  intro ind fuel hf rest hr
  obtain ⟨f, rfl, fb⟩ := fuelS1 hf
  obtain ⟨x, xs, rfl⟩ := List.exists_cons_of_ne_nil hne
  have hbody := hb (ind + 1) f (Nat.le_of_succ_le fb) rest hr.ends
  have hloop := withItems_loop xs x hi
  simp only [genStmt, List.cons_append, kw]
  rw [parseStmt]
  simp only [hloop, Option.bind_eq_bind, Option.bind_some, hbody]

theorem next_app {ind : Nat} {P : Line → Prop} {A rest : List Line} (hA : Next ind P A) (hr : Next ind P rest) :
    Next ind P (A ++ rest) := by
  cases A with
  | nil => exact hr
  | cons a A' =>
    intro l r e
    obtain ⟨rfl, _⟩ := List.cons.inj e
    exact hA a A' rfl

theorem next_nil (ind : Nat) (P : Line → Prop) : Next ind P [] := nofun

theorem head_else (ind : Nat) (P : Line → Prop) (o : List PyStmt) (h : P ⟨ind, [kw cs!"else", tColon]⟩) :
    Next ind P (genElse ind o) := by
  cases o with
  | nil => exact next_nil ind P
  | cons s ss => rw [genElse_cons]; exact next_cons ind P _ _ h

def finLines (ind : Nat) (f : List PyStmt) : List Line :=
  match f with
  | [] => []
  | _ :: _ => ⟨ind, [kw cs!"finally", tColon]⟩ :: genBody (ind + 1) f

theorem genStmt_try (ind : Nat) (b hs o f : List PyStmt) :
    genStmt ind (.try_ b hs o f) = ⟨ind, [kw cs!"try", tColon]⟩ ::
      (genBody (ind + 1) b ++ (genBody ind hs ++ (genElse ind o ++ finLines ind f))) := by
  cases f <;> simp [genStmt, finLines]

theorem head_fin (ind : Nat) (P : Line → Prop) (f : List PyStmt) (h : P ⟨ind, [kw cs!"finally", tColon]⟩) :
    Next ind P (finLines ind f) := by
  cases f with
  | nil => exact next_nil ind P
  | cons s ss => exact next_cons ind P _ _ h

theorem head_handlers (ind : Nat) (P : Line → Prop) (hs : List PyStmt) (h : ∀ ts, P ⟨ind, kw cs!"except" :: ts⟩)
    (hall : hs.all isHandler = true) : Next ind P (genBody ind hs) := by
  cases hs with
  | nil => exact next_nil ind P
  | cons x xs =>
    cases x <;> simp [isHandler] at hall
    exact next_cons ind P _ _ (h _)

theorem finally_ok (f : List PyStmt) (hf0 : BlockOK f) (ind fuel : Nat) (hf : szSL f + 1 ≤ fuel) (rest : List Line)
    (hr : Next ind notFinally rest) : parseFinally fuel ind (finLines ind f ++ rest) = some (f, rest) := by
  obtain ⟨n, rfl, hf'⟩ := succ_of_le hf
  cases f with
  | nil =>
    simp only [finLines, List.nil_append]
    unfold parseFinally
    split
    · rename_i h; simp at h
    · exact if_neg (hr.skip fun h => h rfl)
    · rfl
  | cons s ss =>
    simp only [finLines, List.cons_append, parseFinally, kw, tColon, if_true]
    exact hf0 (ind + 1) n hf' rest hr.ends

theorem handlers_nil : HandlersOK [] := by
  intro ind fuel hf rest hr
  obtain ⟨n, rfl, -⟩ := succ_of_le (k := 0) hf
  simp only [genBody, List.nil_append]
  unfold parseHandlers
  split
  · rename_i h; simp at h
  · exact if_neg (hr.skip fun h => h _ rfl)
  · rfl

theorem handlers_cons (t : Option PyExpr) (b hs : List PyStmt) (ht : SupportedO t) (hb : BlockOK b)
    (hhs : HandlersOK hs) (hall : hs.all isHandler = true) : HandlersOK (.handler t none b :: hs) := by
  intro ind fuel hf rest hr
  obtain ⟨n, rfl, fb, fhs⟩ := fuelL hf
  have hr' : Next ind (fun _ => True) (genBody ind hs ++ rest) :=
    next_app (head_handlers ind _ hs (fun _ => trivial) hall) (hr.mono (fun _ _ => trivial))
  have hbody := hb (ind + 1) n (Nat.le_trans (Nat.le_add_left _ 1) fb) (genBody ind hs ++ rest) hr'.ends
  have hrec := hhs ind n fhs rest hr
  cases t with
  | none =>
    simp only [genBody, genStmt, genOpt, List.cons_append, List.append_assoc, List.nil_append, kw, tColon]
    rw [parseHandlers]
    simp only [if_true, Option.bind_eq_bind, Option.bind_some, hbody, hrec]
  | some e =>
    have hh := headOK_append [tColon] (gen_headOK e (ht e rfl))
    have hex := exprP_gen e (ht e rfl) [tColon] (stopsAll_closedE rfl)
    simp only [genBody, genStmt, genOpt, List.cons_append, List.append_assoc, List.nil_append, kw]
    rw [parseHandlers]
    · simp only [if_true, hex, headerEnd_colon, Option.bind_eq_bind, Option.bind_some, hbody, hrec]
    · intro heq
      rw [heq] at hh
      cases hh

theorem try_ok (b hs o f : List PyStmt) (hb : BlockOK b) (hhs : HandlersOK hs) (hall : hs.all isHandler = true)
    (ho : BlockOK o) (hf0 : BlockOK f) : StmtOK (.try_ b hs o f) := by
  intro ind fuel hf rest hr
  obtain ⟨n, rfl, f1, f2, f3, f4⟩ := fuelS4 hf
  have hr1 : Next ind notFinally rest := hr.mono (fun _ => notClause_finally)
  have hr2 : Next ind notElse (finLines ind f ++ rest) :=
    next_app (head_fin ind _ f (by simp [notElse, kw])) (hr.mono (fun _ => notClause_else))
  have hr3 : Next ind notExcept (genElse ind o ++ (finLines ind f ++ rest)) :=
    next_app (head_else ind _ o (by simp [notExcept, kw]))
      (next_app (head_fin ind _ f (by simp [notExcept, kw])) (hr.mono (fun _ => notClause_except)))
  have hr4 : Next ind (fun _ => True) (genBody ind hs ++ (genElse ind o ++ (finLines ind f ++ rest))) :=
    next_app (head_handlers ind _ hs (fun _ => trivial) hall)
      (next_app (head_else ind _ o trivial) (next_app (head_fin ind _ f trivial) (hr.mono (fun _ _ => trivial))))
  have h1 := hb (ind + 1) n (Nat.le_of_succ_le f1) _ hr4.ends
  have h2 := hhs ind n (Nat.le_of_succ_le f2) _ hr3
  have h3 := else_ok o ho ind n f3 _ hr2
  have h4 := finally_ok f hf0 ind n f4 _ hr1
  rw [genStmt_try]
  simp only [List.cons_append, List.append_assoc, kw, tColon]
  rw [parseStmt]
  simp only [Option.bind_eq_bind, Option.bind_some, h1, h2, h3, h4]

theorem block_nil : BlockOK [] := by
  intro ind fuel hf rest hr
  obtain ⟨n, rfl, -⟩ := succ_of_le (k := 0) hf
  simp only [genBody, List.nil_append]
  cases rest with
  | nil => simp [parseBlock]
  | cons l r => have := hr l r rfl; simp [parseBlock, this]

theorem block_cons (s : PyStmt) (ss : List PyStmt) (hs : StmtOK s) (hss : BlockOK ss)
    (hhead : ∀ ind, ∃ toks ls, genStmt ind s = ⟨ind, toks⟩ :: ls ∧ notClause ⟨ind, toks⟩)
    (hnext : ∀ ind, Next ind notClause (genBody ind ss)) : BlockOK (s :: ss) := by
  intro ind fuel hf rest hr
  obtain ⟨n, rfl, fs, fss⟩ := fuelL hf
  have hr' : Next ind notClause rest := fun l r e => Or.inl (hr l r e)
  have h1 := hs ind n fs (genBody ind ss ++ rest) (next_app (hnext ind) hr')
  have h2 := hss ind n fss rest hr
  obtain ⟨toks, ls, hg, hcl⟩ := hhead ind
  simp only [genBody, List.append_assoc]
  rw [hg] at h1 ⊢
  simp only [List.cons_append] at h1 ⊢
  simp only [notClause] at hcl
  simp [parseBlock, hcl, h1, h2]

theorem genStmt_head (s : PyStmt) (h : WFS s) (hh : isHandler s = false) (ind : Nat) :
    ∃ toks ls, genStmt ind s = ⟨ind, toks⟩ :: ls ∧ notClause ⟨ind, toks⟩ := by
  by_cases hs : isSimple s = true
  · obtain ⟨toks, hg, _, ht⟩ := simple_ok s h hs ind
    refine ⟨_, [], hg, ?_⟩
    cases toks with
    | nil => rfl
    | cons t r =>
      cases t with
      | name s' =>
        simp only [notClause, isClauseLine, Bool.or_eq_false_iff, decide_eq_false_iff_not]
        exact ⟨⟨fun e => ht (kw cs!"else") (by decide) r (by rw [e]; rfl),
          fun e => ht (kw cs!"except") (by decide) r (by rw [e]; rfl)⟩,
          fun e => ht (kw cs!"finally") (by decide) r (by rw [e]; rfl)⟩
      | _ => rfl
  · cases s with
    | if_ _ _ _ | while_ _ _ _ | for_ _ _ _ _ | with_ _ _ | try_ _ _ _ _ => exact ⟨_, _, rfl, rfl⟩
    | functionDef _ _ _ _ _ _ _ decos _ _ | classDef _ _ _ _ decos _ => cases decos <;> exact ⟨_, _, rfl, rfl⟩
    | handler t n b => cases hh
    | global_ _ | unsupported _ => exact h.elim
    | _ => exact absurd rfl hs

theorem head_body (ind : Nat) (ss : List PyStmt) (h : WFSL ss) (hh : noHandlers ss = true) :
    Next ind notClause (genBody ind ss) := by
  cases ss with
  | nil => exact next_nil ind _
  | cons s ss' =>
    simp only [WFSL] at h
    simp only [noHandlers, List.all_cons, Bool.and_eq_true, Bool.not_eq_true'] at hh
    obtain ⟨toks, ls, hg, hcl⟩ := genStmt_head s h.1 hh.1 ind
    simp only [genBody, hg, List.cons_append]
    exact next_cons ind _ _ _ hcl

theorem simple_stmt_ok (s : PyStmt) (h : WFS s) (hs : isSimple s = true) : StmtOK s := by
  intro ind fuel hf rest hr
  rw [szS_simple hs] at hf
  obtain ⟨n, rfl, -⟩ := succ_of_le (k := 0) hf
  obtain ⟨toks, hg, hp, ht⟩ := simple_ok s h hs ind
  rw [hg]
  simp only [List.cons_append, List.nil_append]
  unfold parseStmt
  split <;> first
    | exact absurd rfl (ht _ (by decide) _)
    | simp [hp]

end Genshi.Py
