/-
  C13 — statement layer: `def` / `class` (decorators, parameter lists, class arguments), the induction
  over statements, the fuel bound and the round trip `pyParseS (genBody 0 ss) = some ss`.
-/
import Genshi.Lemmas.PyParseS3
namespace Genshi.Py
open Genshi.Gen

def AParamGoal (p : PyExpr) : Prop := ∃ n ann d, p = .param n ann d ∧ IdentOK n ∧ OptGoal ann ∧ OptGoal d

def AVarGoal (o : Option PyExpr) : Prop := ∀ p, o = some p → ∃ n ann, p = .param n ann none ∧ IdentOK n ∧ OptGoal ann

theorem goal_aparam (x : PyExpr) (h1 : isParam x = true) (h2 : Goal x) : AParamGoal x := by
  cases x with
  | param n ann d => exact ⟨n, ann, d, rfl, h2.1, h2.2.1, h2.2.2⟩
  | _ => cases h1

theorem goal_avar {o : Option PyExpr} (he : ∀ v, o = some v → isAnyVarParam v = true)
    (g : ∀ x, o = some x → Goal x) : AVarGoal o := by
  intro p hp
  have h1 := he p hp
  have h2 := g p hp
  cases p with
  | param n ann d =>
    cases d with
    | some a => simp [isAnyVarParam] at h1
    | none => exact ⟨n, ann, rfl, h2.1, h2.2.1⟩
  | _ => simp [isAnyVarParam] at h1

theorem aparam_isParam {p : PyExpr} (h : AParamGoal p) : isParam p = true := by
  obtain ⟨n, ann, d, rfl, _⟩ := h; rfl

abbrev AFlatGoal : PyExpr → Prop :=
  FlatOf AParamGoal fun p => ∃ n ann, p = .param n ann none ∧ IdentOK n ∧ OptGoal ann

theorem itemF_defparams (k : Knot) (toks : List Tok) : itemF k .defparams toks = dparamF k toks := by
  simp only [itemF]

theorem annF_end (k : Knot) (rest : List Tok) (h : ∀ r, rest ≠ tColon :: r) : annF k rest = some (none, rest) := by
  unfold annF
  split
  · rename_i r; exact absurd rfl (h r)
  · rfl

theorem ann_ok (ann : Option PyExpr) (ga : OptGoal ann) (M : Nat) (hM : 8 * szO ann + 1 ≤ M) (rest : List Tok)
    (hs : stopsAll rest = true) (hnc : ∀ r, rest ≠ tColon :: r) :
    annF (knot M) (genOpt [tColon] ann ++ rest) = some (ann, rest) := by
  cases ann with
  | none => exact annF_end _ rest hnc
  | some a =>
    obtain ⟨m, rfl, hm⟩ := succ_of_le (fuel_some hM)
    have := (ga a rfl).expr' hm rest hs
    simp [genOpt, annF, tColon, this]

/-- what follows a parameter of a `def`: a comma or the closing parenthesis -/
def DefEnd (rest : List Tok) : Prop := ∃ r, rest = tComma :: r ∨ rest = tRP :: r

theorem defEnd_facts {rest : List Tok} (h : DefEnd rest) :
    stopsAll rest = true ∧ closedE rest = true ∧ (∀ r, rest ≠ tColon :: r) ∧ (∀ r, rest ≠ tEq :: r) := by
  obtain ⟨r, rfl | rfl⟩ := h
  · exact ⟨stopsAll_closedE rfl, rfl, fun _ e => by simp [tComma, tColon] at e, fun _ e => by simp [tComma, tEq] at e⟩
  · exact ⟨stopsAll_closedE rfl, rfl, fun _ e => by simp [tRP, tColon] at e, fun _ e => by simp [tRP, tEq] at e⟩

theorem flat_itemA (x : PyExpr) (h : AFlatGoal x) :
    ItemOK DefEnd .defparams paramTk x ∧ ∀ rest, atCloser tRP (paramTk x ++ rest) = false := by
  rcases h with ⟨n, ann, d, rfl, hn, ga, gd⟩ | rfl | rfl | ⟨_, rfl, n, ann, rfl, hn, ga⟩ | ⟨_, rfl, n, ann, rfl, hn, ga⟩
  · have hn' : isKeyword n = false := hn
    constructor
    · intro M hM rest hr
      obtain ⟨f1, f2, f3, f4⟩ := defEnd_facts hr
      rw [itemF_defparams]
      obtain ⟨fa, fd, -⟩ := fuelA (c := 0) (Nat.le_of_succ_le hM)
      cases d with
      | none =>
        have ha := ann_ok ann ga M fa rest f1 f3
        simp only [paramTk, gen, genOpt, List.append_nil, List.cons_append]
        simp only [dparamF, hn', Bool.false_eq_true, if_false, ha, Option.bind_eq_bind, Option.bind_some]
        split
        · rename_i r2; exact absurd rfl (f4 r2)
        · rfl
      | some e =>
        have ha := ann_ok ann ga M fa (tEq :: (gen e ++ rest)) (stopsAll_eq _)
          (fun r e => by simp [tEq, tColon] at e)
        have he := (gd e rfl).kexpr (fuel_some fd) rest f2
        simp only [paramTk, gen, genOpt, List.cons_append, List.append_assoc, List.nil_append]
        simp only [tEq] at ha
        simp only [dparamF, hn', Bool.false_eq_true, if_false, tEq, ha, he, Option.bind_eq_bind, Option.bind_some]
    · intro rest; simp [paramTk, gen, atCloser, tRP]
  · constructor
    · intro M _ rest _; rw [itemF_defparams]; rfl
    · intro rest; rfl
  · constructor
    · intro M _ rest hr
      rw [itemF_defparams]
      obtain ⟨r, rfl | rfl⟩ := hr <;> rfl
    · intro rest; rfl
  · have hn' : isKeyword n = false := hn
    constructor
    · intro M hM rest hr
      obtain ⟨f1, f2, f3, f4⟩ := defEnd_facts hr
      rw [itemF_defparams]
      have hp : 8 * (1 + szO ann) + 1 ≤ M := (fuelA (b := 0) (c := 0) (Nat.le_of_succ_le hM)).1
      have ha := ann_ok ann ga M (fuel_some hp) rest f1 f3
      simp only [paramTk, gen, genOpt, List.append_nil, List.cons_append, tStar]
      simp only [dparamF, hn', Bool.false_eq_true, if_false, ha, Option.bind_eq_bind, Option.bind_some]
    · intro rest; rfl
  · have hn' : isKeyword n = false := hn
    constructor
    · intro M hM rest hr
      obtain ⟨f1, f2, f3, f4⟩ := defEnd_facts hr
      rw [itemF_defparams]
      have hp : 8 * (1 + szO ann) + 1 ≤ M := (fuelA (b := 0) (c := 0) (Nat.le_of_succ_le hM)).1
      have ha := ann_ok ann ga M (fuel_some hp) rest f1 f3
      simp only [paramTk, gen, genOpt, List.append_nil, List.cons_append, tDStar]
      simp only [dparamF, hn', Bool.false_eq_true, if_false, ha, Option.bind_eq_bind, Option.bind_some]
    · intro rest; rfl

theorem params_ok (po ar : List PyExpr) (va : Option PyExpr) (ko : List PyExpr) (ka : Option PyExpr)
    (hp : ParamsOK po ar va ko ka) (tail : List Tok) :
    itemsP .defparams tRP (genParams po ar va ko ka ++ tRP :: tail) = some (flatParams po ar va ko ka, tRP :: tail)
      ∧ assembleParams (flatParams po ar va ko ka) = some (po, ar, va, ko, ka) := by
  obtain ⟨h1, h2, h3, h4, h5, h8, h9, h10, h11, h12⟩ := hp
  have hpo := goals_of goal_aparam h8 (mainL po h1)
  have har := goals_of goal_aparam h9 (mainL ar h2)
  have hko := goals_of goal_aparam h10 (mainL ko h4)
  have hva := goal_avar h11 (mainO va h3)
  have hka := goal_avar h12 (mainO ka h5)
  have iva : ∀ v, va = some v → isParam v = true := fun v hv => by obtain ⟨n, ann, rfl, _⟩ := hva v hv; rfl
  have hflat := genParams_flat po ar va ko ka (List.all_eq_true.mp h8) (List.all_eq_true.mp h9) (List.all_eq_true.mp h10)
  have hasm := assemble_flat po ar va ko ka (List.all_eq_true.mp h8) (List.all_eq_true.mp h9) (List.all_eq_true.mp h10)
    iva (fun v hv => by obtain ⟨n, ann, rfl, _⟩ := hka v hv; rfl)
  have hgoals : ∀ x ∈ flatParams po ar va ko ka, AFlatGoal x := flat_goals po ar va ko ka hpo har hko hva hka
  refine ⟨?_, hasm⟩
  have l1 := szL_le po h1 [tComma] []
  have l2 := szL_le ar h2 [tComma] []
  have l3 := szO_le va h3 [tComma, tStar]
  have l4 := szL_le ko h4 [tComma] []
  have l5 := szO_le ka h5 [tComma, tDStar]
  have l6 := genParams_len po ar va ko ka
  have hsf := szL_flat po ar va ko ka
  rw [hflat] at l6 ⊢
  exact itemsP_sep .defparams paramTk tRP (by decide) DefEnd (fun r => ⟨r, Or.inl rfl⟩) (tRP :: tail) ⟨tail, Or.inr rfl⟩ rfl _
    (fun y hy => flat_itemA y (hgoals y hy)) (by omega)

theorem wfl_append : ∀ {a b : List PyExpr}, WFL a → WFL b → WFL (a ++ b)
  | [], _, _, hb => hb
  | _ :: _, _, ha, hb => ⟨ha.1, wfl_append ha.2 hb⟩

theorem classArgs_ok (bases kws : List PyExpr) (hb : WFL bases) (hbe : bases.all isElt = true) (hk : WFL kws)
    (hke : kws.all isKw = true) (tail : List Tok) :
    itemsP .args tRP (sepBy gen (bases ++ kws) ++ tRP :: tail) = some (bases ++ kws, tRP :: tail) :=
  have ha := goals_elt hbe (mainL bases hb)
  have hkw := goals_kw hke (mainL kws hk)
  itemsP_sep .args gen tRP (by decide) (itemEnd · = true) (fun _ => rfl) (tRP :: tail) rfl rfl (bases ++ kws)
    (fun y hy => (List.mem_append.mp hy).elim (fun h => arg_item y (ha y h)) (fun h => kw_item y (hkw y h)))
    (Nat.le_add_right_of_le (szL_sepBy _ (wfl_append hb hk)))

theorem classArgs_eq (bases kws : List PyExpr) (h : (bases.isEmpty && kws.isEmpty) = false) :
    classArgs bases kws = tLP :: (sepBy gen (bases ++ kws) ++ [tRP]) := by
  simp [classArgs, h, ← genList_append, sepBy_gen_tail]

theorem decorators_ok (ind : Nat) (decos : List PyExpr) (hd : ∀ d ∈ decos, Supported d) (L : List Line)
    (hL : ∀ i ts r, L ≠ ⟨i, tAt :: ts⟩ :: r) :
    decoratorsP ind ((decos.map fun d => (⟨ind, tAt :: gen d⟩ : Line)) ++ L) = some (decos, L) := by
  induction decos with
  | nil =>
    simp only [List.map_nil, List.nil_append]
    unfold decoratorsP
    split
    · rename_i i ts r
      exact absurd rfl (hL i ts r)
    · rfl
  | cons d ds ih =>
    have := ih (fun x hx => hd x (by simp [hx]))
    simp only [tAt] at this
    simp [decoratorsP, tAt, pyParse_gen d (hd d (by simp)), this]

theorem decorated_ok (ind n : Nat) (decos : List PyExpr) (hd : ∀ d ∈ decos, Supported d) (tl : List Tok)
    (w : Str) (hw : w = cs!"def" ∨ w = cs!"class") (rest : List Line) :
    parseStmt (n + 1) ind ((decos.map fun d => (⟨ind, tAt :: gen d⟩ : Line)) ++ ⟨ind, kw w :: tl⟩ :: rest)
      = defOrClass n ind decos (kw w :: tl) rest := by
  cases decos with
  | nil => rcases hw with rfl | rfl <;> rfl
  | cons d ds =>
    have hdeco := decorators_ok ind (d :: ds) hd (⟨ind, kw w :: tl⟩ :: rest)
      (fun i ts r e => by simp [kw, tAt] at e)
    simp only [List.map_cons, List.cons_append, tAt] at hdeco ⊢
    rw [parseStmt]
    simp only [hdeco, Option.bind_eq_bind, Option.bind_some, if_true]

theorem def_core (name : Str) (po ar : List PyExpr) (va : Option PyExpr) (ko : List PyExpr) (ka : Option PyExpr)
    (body : List PyStmt) (ret : Option PyExpr) (hp : ParamsOK po ar va ko ka) (hret : SupportedO ret)
    (hb : BlockOK body) (decos : List PyExpr) (ind m : Nat) (hm : szSL body + 1 ≤ m) (rest : List Line)
    (hr : Ends (ind + 1) rest) :
    defOrClass m ind decos
        (kw cs!"def" :: Tok.name name :: tLP :: (genParams po ar va ko ka ++ tRP :: (genOpt [tArrow] ret ++ [tColon])))
        (genBody (ind + 1) body ++ rest)
      = some (.functionDef name po ar va ko ka body decos ret false, rest) := by
  obtain ⟨n, rfl, hn⟩ := succ_of_le hm
  obtain ⟨hit, hasm⟩ := params_ok po ar va ko ka hp (genOpt [tArrow] ret ++ [tColon])
  have hbody := hb (ind + 1) n hn rest hr
  simp only [kw, tLP]
  rw [defOrClass]
  simp only [hit, hasm, Option.bind_eq_bind, Option.bind_some]
  cases ret with
  | none =>
    simp only [genOpt, List.nil_append, tRP, tColon]
    simp [headerEnd, tColon, hbody]
  | some e =>
    have hex := exprP_gen e (hret e rfl) [tColon] (stopsAll_closedE rfl)
    simp only [genOpt, List.cons_append, List.nil_append, tRP, tArrow]
    simp [hex, headerEnd, hbody]

theorem def_ok (name : Str) (po ar : List PyExpr) (va : Option PyExpr) (ko : List PyExpr) (ka : Option PyExpr)
    (body : List PyStmt) (decos : List PyExpr) (ret : Option PyExpr) (hp : ParamsOK po ar va ko ka)
    (hret : SupportedO ret) (hd : ∀ d ∈ decos, Supported d) (hb : BlockOK body) :
    StmtOK (.functionDef name po ar va ko ka body decos ret false) := by
  intro ind fuel hf rest hr
  obtain ⟨n, rfl, hn⟩ := fuelS1 hf
  have hcore := def_core name po ar va ko ka body ret hp hret hb decos ind n hn rest hr.ends
  have hdec := decorated_ok ind n decos hd
    (Tok.name name :: tLP :: (genParams po ar va ko ka ++ tRP :: (genOpt [tArrow] ret ++ [tColon]))) cs!"def"
    (Or.inl rfl) (genBody (ind + 1) body ++ rest)
  simp only [genStmt, List.append_assoc, List.cons_append]
  rw [hdec, hcore]

theorem class_core (name : Str) (bases kws : List PyExpr) (body : List PyStmt) (hb0 : WFL bases)
    (hbe : bases.all isElt = true) (hk : WFL kws) (hke : kws.all isKw = true) (hb : BlockOK body)
    (decos : List PyExpr) (ind m : Nat) (hm : szSL body + 1 ≤ m) (rest : List Line) (hr : Ends (ind + 1) rest) :
    defOrClass m ind decos (kw cs!"class" :: Tok.name name :: (classArgs bases kws ++ [tColon]))
        (genBody (ind + 1) body ++ rest)
      = some (.classDef name bases kws body decos false, rest) := by
  obtain ⟨n, rfl, hn⟩ := succ_of_le hm
  have hbody := hb (ind + 1) n hn rest hr
  cases hem : (bases.isEmpty && kws.isEmpty) with
  | true =>
    simp only [Bool.and_eq_true, List.isEmpty_iff] at hem
    obtain ⟨rfl, rfl⟩ := hem
    simp [classArgs, defOrClass, kw, tColon, headerEnd, hbody]
  | false =>
    have hit := classArgs_ok bases kws hb0 hbe hk hke [tColon]
    have hfil := filter_args bases kws (fun x hx => eltGoal_not_kw (goals_elt hbe (mainL bases hb0) x hx))
      (fun x hx => List.all_eq_true.mp hke x hx)
    rw [classArgs_eq bases kws hem]
    simp only [List.cons_append, List.append_assoc, List.nil_append]
    simp only [kw, tLP]
    rw [defOrClass]
    simp only [hit, Option.bind_eq_bind, Option.bind_some]
    simp [tRP, tColon, headerEnd, hbody, hfil.1, hfil.2]

theorem class_ok (name : Str) (bases kws : List PyExpr) (body : List PyStmt) (decos : List PyExpr) (hb0 : WFL bases)
    (hbe : bases.all isElt = true) (hk : WFL kws) (hke : kws.all isKw = true) (hd : ∀ d ∈ decos, Supported d)
    (hb : BlockOK body) : StmtOK (.classDef name bases kws body decos false) := by
  intro ind fuel hf rest hr
  obtain ⟨n, rfl, hn⟩ := fuelS1 hf
  have hcore := class_core name bases kws body hb0 hbe hk hke hb decos ind n hn rest hr.ends
  have hdec := decorated_ok ind n decos hd (Tok.name name :: (classArgs bases kws ++ [tColon])) cs!"class"
    (Or.inr rfl) (genBody (ind + 1) body ++ rest)
  simp only [genStmt, List.append_assoc, List.cons_append]
  rw [hdec, hcore]

/-- what `handlers_ok` needs from one `except` clause -/
def HandlerOK1 (s : PyStmt) : Prop := ∃ t b, s = .handler t none b ∧ SupportedO t ∧ BlockOK b

theorem noHandlers_cons {s : PyStmt} {ss : List PyStmt} (h : noHandlers (s :: ss) = true) :
    isHandler s = false ∧ noHandlers ss = true := by
  simpa [noHandlers] using h

theorem allHandlers_cons {s : PyStmt} {ss : List PyStmt} (h : (s :: ss).all isHandler = true) :
    isHandler s = true ∧ ss.all isHandler = true := by
  simpa using h

mutual
theorem stmt_ok : ∀ (s : PyStmt), WFS s → isHandler s = false → StmtOK s
  | s, h, hh => by
    cases s with
    | if_ t b o =>
      simp only [WFS] at h
      exact if_ok t b o h.1 (block_ok b h.2.1 h.2.2.2.1) (block_ok o h.2.2.1 h.2.2.2.2)
    | while_ t b o =>
      simp only [WFS] at h
      exact while_ok t b o h.1 (block_ok b h.2.1 h.2.2.2.1) (block_ok o h.2.2.1 h.2.2.2.2)
    | for_ t it b o =>
      simp only [WFS] at h
      exact for_ok t it b o h.1 h.2.1 (block_ok b h.2.2.1 h.2.2.2.2.1) (block_ok o h.2.2.2.1 h.2.2.2.2.2)
    | with_ items b =>
      simp only [WFS] at h
      exact with_ok items b h.1 h.2.1 (block_ok b h.2.2.1 h.2.2.2)
    | try_ b hs o f =>
      simp only [WFS] at h
      obtain ⟨h1, h2, h3, h4, h5, h6, h7, h8⟩ := h
      exact try_ok b hs o f (block_ok b h1 h6) (handlers_ok hs h2 h3) h3 (block_ok o h4 h7) (block_ok f h5 h8)
    | functionDef name po ar va ko ka body decos ret tp =>
      simp only [WFS] at h
      obtain ⟨_, hp, hb, hnh, hd, hret, rfl⟩ := h
      exact def_ok name po ar va ko ka body decos ret hp hret hd (block_ok body hb hnh)
    | classDef name bases kws body decos tp =>
      simp only [WFS] at h
      obtain ⟨_, hb0, hbe, hk, hke, hb, hnh, hd, rfl⟩ := h
      exact class_ok name bases kws body decos hb0 hbe hk hke hd (block_ok body hb hnh)
    | handler _ _ _ => cases hh
    | global_ _ => simp [WFS] at h
    | unsupported _ => simp [WFS] at h
    | _ => exact simple_stmt_ok _ h rfl
theorem block_ok : ∀ (ss : List PyStmt), WFSL ss → noHandlers ss = true → BlockOK ss
  | [], _, _ => block_nil
  | s :: ss, h, hh => by
      simp only [WFSL] at h
      have hh' := noHandlers_cons hh
      exact block_cons s ss (stmt_ok s h.1 hh'.1) (block_ok ss h.2 hh'.2) (fun ind => genStmt_head s h.1 hh'.1 ind)
        (fun ind => head_body ind ss h.2 hh'.2)
theorem handlers_ok : ∀ (hs : List PyStmt), WFSL hs → hs.all isHandler = true → HandlersOK hs
  | [], _, _ => handlers_nil
  | s :: hs, h, hall => by
      simp only [WFSL] at h
      obtain ⟨h1, h2⟩ := allHandlers_cons hall
      cases s with
      | handler t n b =>
        simp only [WFS] at h
        obtain ⟨⟨ht, rfl, hb, hnh⟩, hs'⟩ := h
        exact handlers_cons t b hs ht (block_ok b hb hnh) (handlers_ok hs hs' h2) h2
      | _ => cases h1
end

theorem handler_ok : ∀ (s : PyStmt), WFS s → isHandler s = true → HandlerOK1 s := by
  intro s h hh
  cases s with
  | handler t n b =>
    simp only [WFS] at h
    obtain ⟨ht, rfl, hb, hnh⟩ := h
    exact ⟨t, b, rfl, ht, block_ok b hb hnh⟩
  | _ => cases hh

theorem genElse_len (ind : Nat) (o : List PyStmt) : (genBody (ind + 1) o).length ≤ (genElse ind o).length := by
  cases o with
  | nil => simp [genBody, genElse]
  | cons s ss => rw [genElse_cons]; simp

theorem finLines_len (ind : Nat) (f : List PyStmt) : (genBody (ind + 1) f).length ≤ (finLines ind f).length := by
  cases f with
  | nil => exact Nat.le_refl _
  | cons s ss => exact Nat.le_succ _

theorem simple_len (s : PyStmt) (h : WFS s) (hs : isSimple s = true) (ind : Nat) :
    szS s + 2 ≤ 8 * (genStmt ind s).length := by
  obtain ⟨toks, hg, _⟩ := simple_ok s h hs ind
  rw [hg, szS_simple hs]
  exact Nat.le_of_ble_eq_true rfl

mutual
theorem szS_le : ∀ (s : PyStmt), WFS s → ∀ ind, szS s + 2 ≤ 8 * (genStmt ind s).length
  | s, h, ind => by
    cases s with
    | if_ t b o | while_ t b o =>
      simp only [WFS] at h
      have h1 := szSL_le b h.2.1 (ind + 1)
      have h2 := szSL_le o h.2.2.1 (ind + 1)
      have h3 := genElse_len ind o
      simp only [szS, genStmt, List.length_cons, List.length_append]
      omega
    | for_ t it b o =>
      simp only [WFS] at h
      have h1 := szSL_le b h.2.2.1 (ind + 1)
      have h2 := szSL_le o h.2.2.2.1 (ind + 1)
      have h3 := genElse_len ind o
      simp only [szS, genStmt, List.length_cons, List.length_append]
      omega
    | with_ _ b | handler _ _ b =>
      simp only [WFS] at h
      have h1 := szSL_le b h.2.2.1 (ind + 1)
      simp only [szS, genStmt, List.length_cons]
      omega
    | try_ b hs o f =>
      simp only [WFS] at h
      obtain ⟨h1, h2, _, h4, h5, _⟩ := h
      have l1 := szSL_le b h1 (ind + 1)
      have l2 := szSL_le hs h2 ind
      have l3 := szSL_le o h4 (ind + 1)
      have l4 := szSL_le f h5 (ind + 1)
      have l5 := genElse_len ind o
      have l6 := finLines_len ind f
      simp only [szS, genStmt_try, List.length_cons, List.length_append]
      omega
    | functionDef name po ar va ko ka body decos ret tp =>
      simp only [WFS] at h
      have h1 := szSL_le body h.2.2.1 (ind + 1)
      simp only [szS, genStmt, List.length_cons, List.length_append]
      omega
    | classDef name bases kws body decos tp =>
      simp only [WFS] at h
      have h1 := szSL_le body h.2.2.2.2.2.1 (ind + 1)
      simp only [szS, genStmt, List.length_cons, List.length_append]
      omega
    | global_ _ => simp [WFS] at h
    | unsupported _ => simp [WFS] at h
    | _ => exact simple_len _ h rfl ind
theorem szSL_le : ∀ (ss : List PyStmt), WFSL ss → ∀ ind, szSL ss ≤ 8 * (genBody ind ss).length + 1
  | [], _, _ => by simp [szSL]
  | s :: ss, h, ind => by
      simp only [WFSL] at h
      have h1 := szS_le s h.1 ind
      have h2 := szSL_le ss h.2 ind
      simp only [szSL, genBody, List.length_append]
      omega
end

/-- **statement layer round trip**: the lines written for a supported module body are read back as that body -/
theorem parseS_genBody (ss : List PyStmt) (h : WFSL ss) (hh : noHandlers ss = true) :
    pyParseS (genBody 0 ss) = some ss := by
  -- the 8 per line of `stmtFuel` is the bound of `szS_le`
  have hfuel : szSL ss ≤ stmtFuel (genBody 0 ss) := by
    have := szSL_le ss h 0
    simp only [stmtFuel]
    omega
  have := block_ok ss h hh 0 (stmtFuel (genBody 0 ss)) hfuel [] (fun l r e => by simp at e)
  simp only [List.append_nil] at this
  simp [pyParseS, this]

end Genshi.Py
