/-
  C13 — `parse_gen`: comma separated sequences (the items loop on `x1, …, xn,` and on `x1, …, xn`; displays and
  argument lists; the parameter lists of `PyParseLambda.lean` and the statement layer use the same two lemmas) and
  the trailers (`goal_trailer`; attribute access and call; the subscript is in `PyParseComp.lean`).
-/
import Genshi.Lemmas.PyParseLoops
namespace Genshi.Py
open Genshi.Gen

theorem atomStart_ne {t u : Tok} (h : atomStart t = true) (hu : atomStart u = false) : t ≠ u := by
  intro e; subst e; simp [h] at hu

/-- what follows an item of a sequence: a comma or a closing token -/
def itemEnd : List Tok → Bool
  | [] => true
  | t :: _ => t = tComma || t = tRP || t = tRB || t = tRC || t = tColon

theorem itemEnd_elim {t : Tok} {r : List Tok} (h : itemEnd (t :: r) = true) :
    t = tComma ∨ t = tRP ∨ t = tRB ∨ t = tRC ∨ t = tColon := by
  simp [itemEnd] at h
  rcases h with (((h | h) | h) | h) | h <;> simp [h]

theorem itemEnd_closedE {r : List Tok} (h : itemEnd r = true) : closedE r = true := by
  cases r with
  | nil => rfl
  | cons t r => rcases itemEnd_elim h with rfl | rfl | rfl | rfl | rfl <;> rfl

theorem itemEnd_startsComp {r : List Tok} (h : itemEnd r = true) : startsComp r = false := by
  cases r with
  | nil => rfl
  | cons t r => rcases itemEnd_elim h with rfl | rfl | rfl | rfl | rfl <;> rfl

theorem itemEnd_notEq {r : List Tok} (h : itemEnd r = true) : notEqHead r = true := by
  cases r with
  | nil => rfl
  | cons t r => rcases itemEnd_elim h with rfl | rfl | rfl | rfl | rfl <;> rfl

/-- an item (with token function `tk`) that the parser reads back in `mode`, before anything `E` allows after an item -/
def ItemOK (E : List Tok → Prop) (mode : Mode) (tk : PyExpr → List Tok) (x : PyExpr) : Prop :=
  ∀ M, need x + 1 ≤ M → ∀ rest, E rest → itemF (knot M) mode (tk x ++ rest) = some (x, rest)

def sepBy (tk : PyExpr → List Tok) : List PyExpr → List Tok
  | [] => []
  | [x] => tk x
  | x :: y :: xs => tk x ++ tComma :: sepBy tk (y :: xs)

/-- `, x1, x2, …`: a comma before every item, as `visit_arguments` and `visit_Call` write before the first comma is dropped -/
def preBy (tk : PyExpr → List Tok) : List PyExpr → List Tok
  | [] => []
  | x :: xs => tComma :: (tk x ++ preBy tk xs)

theorem preBy_append (tk : PyExpr → List Tok) (a b : List PyExpr) : preBy tk (a ++ b) = preBy tk a ++ preBy tk b := by
  induction a with
  | nil => rfl
  | cons x xs ih => simp [preBy, ih]

theorem preBy_drop (tk : PyExpr → List Tok) (xs : List PyExpr) : (preBy tk xs).drop 1 = sepBy tk xs := by
  induction xs with
  | nil => rfl
  | cons x xs ih =>
    cases xs with
    | nil => simp [preBy, sepBy]
    | cons y ys =>
      simp only [preBy, List.drop_succ_cons, List.drop_zero, sepBy] at ih ⊢
      rw [← ih]

theorem preBy_genList (tk : PyExpr → List Tok) (xs : List PyExpr) (h : ∀ x ∈ xs, tk x = gen x) :
    genList [tComma] [] xs = preBy tk xs := by
  induction xs with
  | nil => rfl
  | cons x xs ih => simp [genList_cons, preBy, h x List.mem_cons_self, ih fun y hy => h y (List.mem_cons_of_mem _ hy)]

theorem sepBy_gen (xs : List PyExpr) : (genList [tComma] [] xs).drop 1 = sepBy gen xs := by
  rw [preBy_genList gen xs fun _ _ => rfl, preBy_drop]

theorem sepBy_gen_tail (xs : List PyExpr) : (genList [tComma] [] xs).tail = sepBy gen xs := by
  rw [← List.drop_one]; exact sepBy_gen xs

theorem itemsF_at (k : Knot) (mode : Mode) (closer : Tok) (acc : List PyExpr) (c : Bool) (toks : List Tok)
    (h : atCloser closer toks = true) : itemsF k mode closer acc c toks = some ((acc.reverse, c), toks) := by
  simp [itemsF, h]

theorem itemsF_comma (k : Knot) (mode : Mode) (closer : Tok) (acc : List PyExpr) (c : Bool) (toks : List Tok)
    (x : PyExpr) (r : List Tok) (h : atCloser closer toks = false)
    (hi : itemF k mode toks = some (x, tComma :: r)) :
    itemsF k mode closer acc c toks = k.items mode closer (x :: acc) true r := by
  simp [itemsF, h, hi, tComma]

theorem itemsF_last (k : Knot) (mode : Mode) (closer : Tok) (acc : List PyExpr) (c : Bool) (toks : List Tok)
    (x : PyExpr) (tail : List Tok) (h : atCloser closer toks = false)
    (hi : itemF k mode toks = some (x, tail)) (hat : atCloser closer tail = true) (hc : closer ≠ tComma) :
    itemsF k mode closer acc c toks = some (((x :: acc).reverse, c), tail) := by
  simp only [itemsF, h, hi, Bool.false_eq_true, if_false, Option.bind_eq_bind, Option.bind_some]
  split
  · exact absurd (by simpa [atCloser, tComma] using hat) (Ne.symm hc)
  · simp [hat]

/-- the items loop on `x1, x2, …, xn,` (every item followed by a comma, as the displays are written) up to the closing
    token; the comma flag `f` is `c` until the first item has been read -/
theorem items_trailing (mode : Mode) (closer : Tok) (c : Bool) (xs : List PyExpr)
    (hx : ∀ x ∈ xs, ItemOK (itemEnd · = true) mode gen x ∧ ∀ rest, atCloser closer (gen x ++ rest) = false)
    (acc : List PyExpr) (f : Bool) (hf : f = (c || !acc.isEmpty)) (M : Nat) (hM : 8 * szL xs + 1 ≤ M) (rest : List Tok) :
    (knot M).items mode closer acc f (genList [] [tComma] xs ++ closer :: rest)
      = some ((acc.reverse ++ xs, c || !(acc.reverse ++ xs).isEmpty), closer :: rest) := by
  subst hf
  exact genList_loop (fun M acc => (knot M).items mode closer acc (c || !acc.isEmpty)) (fun xs => (xs, c || !xs.isEmpty))
    [] [tComma] (fun x => ItemOK (itemEnd · = true) mode gen x ∧ ∀ rest, atCloser closer (gen x ++ rest) = false)
    (fun r => ∃ r', r = closer :: r')
    (fun m acc r hr => by
      obtain ⟨r', rfl⟩ := hr
      simp [itemsF_at _ _ _ _ _ _ (show atCloser closer (closer :: r') = true by simp [atCloser])])
    (fun m acc x xs r hx _ hm _ => by
      simp only [List.nil_append, List.append_assoc, List.cons_append, knot_items]
      rw [itemsF_comma _ _ _ _ _ _ _ _ (hx.2 _) (hx.1 (m + 1) (Nat.le_succ_of_le hm) _ rfl)]
      simp)
    xs hx acc M hM (closer :: rest) ⟨rest, rfl⟩

/-- the items loop on `x1, x2, …, xn` followed by `tail`, at which the loop ends (the closer, or the end of the
    input); `E` says what may follow an item -/
theorem items_sep (mode : Mode) (tk : PyExpr → List Tok) (closer : Tok) (hcc : closer ≠ tComma)
    (E : List Tok → Prop) (hE : ∀ r, E (tComma :: r)) (tail : List Tok) (ht : E tail)
    (hat : atCloser closer tail = true) (xs : List PyExpr) :
    ∀ (x : PyExpr), (∀ y ∈ x :: xs, ItemOK E mode tk y ∧ ∀ rest, atCloser closer (tk y ++ rest) = false) →
    ∀ (acc : List PyExpr) (c : Bool) (M : Nat), 8 * szL (x :: xs) + 1 ≤ M →
      ∃ c', (knot M).items mode closer acc c (sepBy tk (x :: xs) ++ tail) = some ((acc.reverse ++ x :: xs, c'), tail) := by
  induction xs with
  | nil =>
    intro x hx acc c M hM
    obtain ⟨m, rfl, h1, -⟩ := szL_step hM
    obtain ⟨hok, hnc⟩ := hx x (by simp)
    have hi := hok (m + 1) (Nat.le_succ_of_le h1) tail ht
    refine ⟨c, ?_⟩
    simp only [sepBy, knot_items]
    rw [itemsF_last _ _ _ _ _ _ _ _ (hnc _) hi hat hcc]
    simp
  | cons y ys ih =>
    intro x hx acc c M hM
    obtain ⟨m, rfl, h1, h2⟩ := szL_step hM
    obtain ⟨hok, hnc⟩ := hx x (by simp)
    have hi := hok (m + 1) (Nat.le_succ_of_le h1) (tComma :: (sepBy tk (y :: ys) ++ tail)) (hE _)
    obtain ⟨c', hrec⟩ := ih y (fun z hz => hx z (by simp at hz ⊢; right; exact hz)) (x :: acc) true (m + 1)
      (Nat.le_succ_of_le h2)
    refine ⟨c', ?_⟩
    simp only [sepBy, List.append_assoc, List.cons_append, knot_items]
    rw [itemsF_comma _ _ _ _ _ _ _ _ (hnc _) hi, hrec]
    simp

theorem items_sep_all (mode : Mode) (tk : PyExpr → List Tok) (closer : Tok) (hcc : closer ≠ tComma)
    (E : List Tok → Prop) (hE : ∀ r, E (tComma :: r)) (tail : List Tok) (ht : E tail)
    (hat : atCloser closer tail = true) (xs : List PyExpr)
    (hx : ∀ y ∈ xs, ItemOK E mode tk y ∧ ∀ rest, atCloser closer (tk y ++ rest) = false)
    (c : Bool) (M : Nat) (hM : 8 * szL xs + 1 ≤ M) :
    ∃ c', (knot M).items mode closer [] c (sepBy tk xs ++ tail) = some ((xs, c'), tail) := by
  cases xs with
  | nil =>
    obtain ⟨m, rfl, -⟩ := succ_of_le hM
    exact ⟨c, itemsF_at _ _ _ _ _ _ hat⟩
  | cons x xs => simpa using items_sep mode tk closer hcc E hE tail ht hat xs x hx [] c M hM

theorem itemEnd_stops {r : List Tok} (h : itemEnd r = true) :
    stopsTrailer r = true ∧ stopsPow r = true ∧ stopsBin r = true := by
  have hb := closedD_belowBool (closedE_D (itemEnd_closedE h))
  exact ⟨belowBool_trailer hb, belowBool_pow hb, belowBool_bin hb⟩

def EltGoal (x : PyExpr) : Prop := (∃ y, x = .starred y ∧ ExprGoal y) ∨ (isStar x = false ∧ ExprGoal x)

theorem elt_item (x : PyExpr) (h : EltGoal x) : ItemOK (itemEnd · = true) .elts gen x := by
  intro M hM rest hr
  rcases h with ⟨y, rfl, gy⟩ | ⟨_, gx⟩
  · have hs := itemEnd_stops hr
    have := gy.kbin (fuel_some hM) 0 rest hs.1 hs.2.1 hs.2.2
    show eltF (knot M) (gen (.starred y) ++ rest) = _
    simp only [gen, List.cons_append, tStar, eltF, this, Option.bind_eq_bind, Option.bind_some]
  · show eltF (knot M) (gen x ++ rest) = _
    rw [eltF_expr _ _ (headOK_parenStart (headOK_append _ gx.head))]
    exact gx.kexpr hM rest (itemEnd_closedE hr)

theorem atCloser_head {toks : List Tok} (h : headOK toks = true) {c : Tok} (hc : atomStart c = false) :
    atCloser c toks = false := by
  cases toks with
  | nil => cases h
  | cons t r => simpa [atCloser] using atomStart_ne h hc

theorem elt_notCloser (x : PyExpr) (h : EltGoal x) (closer : Tok) (hc : atomStart closer = false)
    (hs : closer ≠ tStar) (rest : List Tok) : atCloser closer (gen x ++ rest) = false := by
  rcases h with ⟨y, rfl, _⟩ | ⟨_, gx⟩
  · simp only [gen, List.cons_append, atCloser]
    simpa using fun e => hs e.symm
  · exact atCloser_head (headOK_append _ gx.head) hc

theorem elt_first (x : PyExpr) (h : EltGoal x) {M : Nat} (hM : need x + 1 ≤ M) (rest : List Tok) :
    eltF (knot M) (gen x ++ tComma :: rest) = some (x, tComma :: rest) :=
  elt_item x h M hM (tComma :: rest) rfl

theorem elts_items (closer : Tok) (hc : atomStart closer = false) (hs : closer ≠ tStar)
    (xs : List PyExpr) (hx : ∀ x ∈ xs, EltGoal x) (x : PyExpr) (M : Nat) (hM : 8 * szL xs + 1 ≤ M) (rest : List Tok) :
    (knot M).items .elts closer [x] true (genList [] [tComma] xs ++ closer :: rest)
      = some ((x :: xs, true), closer :: rest) :=
  items_trailing .elts closer true xs (fun y hy => ⟨elt_item y (hx y hy), elt_notCloser y (hx y hy) closer hc hs⟩)
    [x] true rfl M hM rest

/-- what the depth of a display leaves for its first element and for the loop over the others -/
theorem fuel_cons {x : PyExpr} {xs : List PyExpr} {M : Nat} (h : 8 * szL (x :: xs) + 1 ≤ M) :
    need x + 1 ≤ M ∧ 8 * szL xs + 1 ≤ M :=
  let ⟨h1, h2, _⟩ := fuelA (c := 0) (Nat.le_of_succ_le h); ⟨h1, h2⟩

theorem goal_list (elts : List PyExpr) (hx : ∀ x ∈ elts, EltGoal x) : ExprGoal (.list elts) := by
  refine goal_of_atom _ tLB (genList [] [tComma] elts ++ [tRB]) rfl rfl (.inr ⟨_, rfl⟩) rfl fun n hn rest => ?_
  rw [atomF_lb, List.append_assoc]
  cases elts with
  | nil => rfl
  | cons x xs =>
    obtain ⟨h1, h2⟩ := fuel_cons (fuelA (b := 0) (c := 0) hn).1
    have gx := hx x (by simp)
    simp only [genList_cons, List.append_assoc, List.cons_append, List.nil_append]
    rw [bracketF_elt _ _ (elt_notCloser x gx tRB rfl (by decide) _), elt_first x gx h1 _]
    show ((knot (n+1)).items .elts tRB [x] true (genList [] [tComma] xs ++ tRB :: rest)).bind _ = _
    rw [elts_items tRB rfl (by decide) xs (fun y hy => hx y (by simp [hy])) x (n+1) h2 rest]
    rfl

theorem goal_tuple (elts : List PyExpr) (hx : ∀ x ∈ elts, EltGoal x) : ExprGoal (.tuple elts) := by
  refine goal_of_atom _ tLP (genList [] [tComma] elts ++ [tRP]) rfl rfl (.inr ⟨_, rfl⟩) rfl fun n hn rest => ?_
  rw [atomF_lp, List.append_assoc]
  cases elts with
  | nil => rfl
  | cons x xs =>
    obtain ⟨h1, h2⟩ := fuel_cons (fuelA (b := 0) (c := 0) hn).1
    have gx := hx x (by simp)
    simp only [genList_cons, List.append_assoc, List.cons_append, List.nil_append]
    rw [parenF_elt _ _ (elt_notCloser x gx tRP rfl (by decide) _)
      (elt_notCloser x gx (kw cs!"yield") (by decide) (by decide) _), elt_first x gx h1 _]
    show ((knot (n+1)).items .elts tRP [x] true (genList [] [tComma] xs ++ tRP :: rest)).bind _ = _
    rw [elts_items tRP rfl (by decide) xs (fun y hy => hx y (by simp [hy])) x (n+1) h2 rest]
    rfl

def DItemGoal (x : PyExpr) : Prop := ∃ k v, x = .dictItem (some k) v ∧ ExprGoal k ∧ ExprGoal v

theorem itemF_dict_kv (k : Knot) (toks : List Tok) (hh : headOK toks = true) :
    itemF k .dict toks = (k.expr toks).bind fun a =>
      match a.2 with
      | .op [':'] :: r' => (k.expr r').bind fun b => some (.dictItem (some a.1) b.1, b.2)
      | _ => none := by
  simp only [itemF]
  split
  · cases hh
  · rfl

theorem ditem_item (x : PyExpr) (h : DItemGoal x) :
    ItemOK (itemEnd · = true) .dict gen x ∧ ∀ rest, atCloser tRC (gen x ++ rest) = false := by
  obtain ⟨k, v, rfl, gk, gv⟩ := h
  have hg : ∀ rest, gen (.dictItem (some k) v) ++ rest = gen k ++ tColon :: (gen v ++ rest) := by
    intro rest; simp [gen, genOpt]
  constructor
  · intro M hM rest hr
    obtain ⟨hk, hv, -⟩ := fuelA (c := 0) (Nat.le_of_succ_le hM)
    rw [hg, itemF_dict_kv _ _ (headOK_append _ gk.head), gk.kexpr (fuel_some hk) (tColon :: (gen v ++ rest)) rfl]
    simp only [Option.bind_some, tColon, gv.kexpr hv rest (itemEnd_closedE hr)]
  · intro rest
    rw [hg]
    exact atCloser_head (headOK_append _ gk.head) rfl

theorem braceF_def (k : Knot) (toks : List Tok) :
    braceF k toks = (k.items .dict tRC [] false toks).bind fun y =>
      match y.2 with
      | .op ['}'] :: r' => some (.dict y.1.1, r')
      | _ => none := rfl

theorem goal_dict (items : List PyExpr) (hx : ∀ x ∈ items, DItemGoal x) : ExprGoal (.dict items) := by
  refine goal_of_atom _ tLC (genList [] [tComma] items ++ [tRC]) rfl rfl (.inr ⟨_, rfl⟩) rfl fun n hn rest => ?_
  rw [atomF_lc, List.append_assoc, List.singleton_append, braceF_def, items_trailing .dict tRC false items
    (fun x hxm => ditem_item x (hx x hxm)) [] false rfl (n+1) (fuelA (b := 0) (c := 0) hn).1 rest]
  rfl

/-- a node written as the tokens of `v` followed by one trailer `toks`: it is enough that the trailer loop, with fuel
    for the `k` units of size the trailer adds (and two levels more: its items loop and the reader of an item), reads
    `toks` and continues with `e` -/
theorem goal_trailer {v e : PyExpr} (gv : ExprGoal v) (toks : List Tok) (k : Nat) (hg : gen e = gen v ++ toks)
    (hc : cS e = cS v + 1) (hk : sz e = 1 + sz v + k) (hne : ∀ rest, notEqHead (toks ++ rest) = true)
    (h : ∀ m, 8 * k + 2 ≤ m → ∀ rest, trailersF (knot m) v (toks ++ rest) = (knot m).trailers e rest) :
    ExprGoal e := by
  refine ⟨?_, ?_, ?_⟩
  · intro M hM rest
    obtain ⟨m, h1, h2, h3, h4⟩ : ∃ m, need v ≤ M ∧ M - cS v = m + 1 ∧ M - (cS v + 1) = m ∧ 8 * k + 2 ≤ m := by
      have := cS_lt_sz v
      simp only [need, hk] at hM ⊢
      exact ⟨M - cS v - 1, by omega⟩
    rw [hg, List.append_assoc, gv.spine M h1, hc, h2, h3, knot_trailers]
    exact h m h4 rest
  · rw [hg]; exact headOK_append _ gv.head
  · intro rest _
    rw [hg, List.append_assoc]
    exact gv.nokw _ (hne rest)

theorem trailersF_attr (k : Knot) (e : PyExpr) (a : Str) (rest : List Tok) :
    trailersF k e (tDot :: .name a :: rest) = k.trailers (.attribute e a) rest := rfl

theorem isIntConst_false {v : PyExpr} (h : isIntConst v = false) (t : Str) : v ≠ .const ⟨.int, t⟩ := by
  rintro rfl; cases h

theorem goal_attribute (v : PyExpr) (a : Str) (gv : ExprGoal v) (h : isIntConst v = false) :
    ExprGoal (.attribute v a) :=
  goal_trailer gv [tDot, .name a] 0 (gen_attribute v a (isIntConst_false h)) rfl rfl (fun _ => rfl)
    (fun _ _ _ => trailersF_attr _ _ _ _)

def KwGoal (x : PyExpr) : Prop := ∃ n v, x = .keyword n v ∧ (∀ s, n = some s → IdentOK s) ∧ ExprGoal v

theorem itemF_args_expr (k : Knot) (toks : List Tok) (hh : headOK toks = true) (h3 : noKwStart toks = true) :
    itemF k .args toks = (k.expr toks).bind fun a =>
      if startsComp a.2 then (k.comps [] a.2).bind fun g => some (.genExp a.1 g.1, g.2) else some (a.1, a.2) := by
  simp only [itemF]
  split
  · cases hh
  · cases hh
  · simp [noKwStart] at h3
  · rfl

theorem itemF_args_kw (k : Knot) (n : Str) (r : List Tok) (h : isKeyword n = false) :
    itemF k .args (.name n :: tEq :: r) = (k.expr r).bind fun a => some (.keyword (some n) a.1, a.2) := by
  simp [itemF, tEq, h]

theorem arg_item (x : PyExpr) (h : EltGoal x) :
    ItemOK (itemEnd · = true) .args gen x ∧ ∀ rest, atCloser tRP (gen x ++ rest) = false := by
  refine ⟨?_, elt_notCloser x h tRP rfl (by decide)⟩
  intro M hM rest hr
  rcases h with ⟨y, rfl, gy⟩ | ⟨_, gx⟩
  · have := gy.kexpr (fuel_some hM) rest (itemEnd_closedE hr)
    simp only [gen, List.cons_append, tStar, itemF, this, Option.bind_eq_bind, Option.bind_some]
  · have hh := headOK_append rest gx.head
    rw [itemF_args_expr _ _ hh (gx.nokw rest (itemEnd_notEq hr)), gx.kexpr hM rest (itemEnd_closedE hr)]
    simp [itemEnd_startsComp hr]

theorem kw_item (x : PyExpr) (h : KwGoal x) :
    ItemOK (itemEnd · = true) .args gen x ∧ ∀ rest, atCloser tRP (gen x ++ rest) = false := by
  obtain ⟨n, v, rfl, hn, gv⟩ := h
  cases n with
  | none =>
    constructor
    · intro M hM rest hr
      have := gv.kexpr (fuel_some hM) rest (itemEnd_closedE hr)
      simp only [gen, List.cons_append, tDStar, itemF, this, Option.bind_eq_bind, Option.bind_some]
    · intro rest; simp [gen, atCloser, tDStar, tRP]
  | some n =>
    constructor
    · intro M hM rest hr
      simp only [gen, List.cons_append]
      rw [itemF_args_kw _ _ _ (hn n rfl), gv.kexpr (fuel_some hM) rest (itemEnd_closedE hr)]
      rfl
    · intro rest; simp [gen, atCloser, tRP]

theorem exprGoal_not_kw {x : PyExpr} (g : ExprGoal x) : isKw x = false := by
  cases x with
  | keyword n v =>
    cases n with
    | none => have := g.head; simp [gen, headOK, atomStart, tDStar] at this
    | some n => have := g.nokw [] rfl; simp [gen, noKwStart, tEq] at this
  | _ => rfl

theorem eltGoal_not_kw {x : PyExpr} (g : EltGoal x) : isKw x = false := by
  rcases g with ⟨y, rfl, _⟩ | ⟨_, gx⟩
  · rfl
  · exact exprGoal_not_kw gx

theorem filter_args (args kws : List PyExpr) (ha : ∀ x ∈ args, isKw x = false) (hk : ∀ x ∈ kws, isKw x = true) :
    (args ++ kws).filter (fun x => !isKw x) = args ∧ (args ++ kws).filter isKw = kws := by
  constructor
  · rw [List.filter_append]
    have h1 : args.filter (fun x => !isKw x) = args := List.filter_eq_self.mpr (fun x hx => by simp [ha x hx])
    have h2 : kws.filter (fun x => !isKw x) = [] := List.filter_eq_nil_iff.mpr (fun x hx => by simp [hk x hx])
    simp [h1, h2]
  · rw [List.filter_append]
    have h1 : args.filter isKw = [] := List.filter_eq_nil_iff.mpr (fun x hx => by simp [ha x hx])
    have h2 : kws.filter isKw = kws := List.filter_eq_self.mpr (fun x hx => hk x hx)
    simp [h1, h2]

theorem trailersF_call (k : Knot) (e : PyExpr) (r : List Tok) :
    trailersF k e (tLP :: r) = (k.items .args tRP [] false r).bind fun y =>
      match y.2 with
      | .op [')'] :: r2 => k.trailers (.call e (y.1.1.filter (fun x => !isKw x)) (y.1.1.filter isKw)) r2
      | _ => none := rfl

theorem szL_append (a b : List PyExpr) : szL (a ++ b) = szL a + szL b := by
  induction a with
  | nil => simp [szL]
  | cons x xs ih => simp [szL, ih]; omega

theorem args_items (args kws : List PyExpr) (ha : ∀ x ∈ args, EltGoal x) (hk : ∀ x ∈ kws, KwGoal x) (m : Nat)
    (hm : 8 * szL (args ++ kws) + 1 ≤ m) (rest : List Tok) :
    ∃ c, (knot m).items .args tRP [] false (sepBy gen (args ++ kws) ++ tRP :: rest)
      = some ((args ++ kws, c), tRP :: rest) := by
  refine items_sep_all .args gen tRP (by decide) (itemEnd · = true) (fun _ => rfl) (tRP :: rest) rfl rfl _
    (fun y hy => ?_) false m hm
  rcases List.mem_append.mp hy with h | h
  · exact arg_item y (ha y h)
  · exact kw_item y (hk y h)

theorem goal_call (f : PyExpr) (args kws : List PyExpr) (gf : ExprGoal f) (ha : ∀ x ∈ args, EltGoal x)
    (hk : ∀ x ∈ kws, KwGoal x) : ExprGoal (.call f args kws) := by
  have hg : gen (.call f args kws) = gen f ++ tLP :: (sepBy gen (args ++ kws) ++ [tRP]) := by
    simp [gen, ← genList_append, sepBy_gen_tail]
  have hfil := filter_args args kws (fun x hx => eltGoal_not_kw (ha x hx))
    (fun x hx => by obtain ⟨n, v, rfl, _⟩ := hk x hx; rfl)
  refine goal_trailer gf _ (szL args + szL kws) hg rfl (Nat.add_assoc _ _ _) (fun _ => rfl) ?_
  intro m hm rest
  obtain ⟨c, hit⟩ := args_items args kws ha hk m (szL_append args kws ▸ Nat.le_of_succ_le hm) rest
  simp only [List.cons_append, List.append_assoc, List.nil_append]
  rw [trailersF_call, hit]
  simp only [Option.bind_some, tRP, hfil.1, hfil.2]

end Genshi.Py
