/-
  C13 — infrastructure of `parse_gen`: where the loops of `pyParse` stop, how a parse result is lifted
  through the precedence layers, the fuel measure, and the facts about the generated unary, binary
  and Boolean operator tables (each a `decide` over the tables of the code under test and of the running
  CPython, so a changed table re-checks them; those about the comparison table are in `PyParseLoops.lean`,
  those about the statement tables in `PyParseS2.lean`).  The hypothesis `WF e` of the theorem is in
  `PySupported.lean`.
-/
import Genshi.Lemmas.PySupported
namespace Genshi.Py
open Genshi.Gen

@[simp] theorem knot_expr (n : Nat) : (knot (n+1)).expr = exprF (knot n) := rfl
@[simp] theorem knot_disj (n : Nat) : (knot (n+1)).disj = disjF (knot n) := rfl
@[simp] theorem knot_conj (n : Nat) : (knot (n+1)).conj = conjF (knot n) := rfl
@[simp] theorem knot_inv (n : Nat) : (knot (n+1)).inv = invF (knot n) := rfl
@[simp] theorem knot_bin (n : Nat) : (knot (n+1)).bin = binF (knot n) := rfl
@[simp] theorem knot_unary (n : Nat) : (knot (n+1)).unary = unaryF (knot n) := rfl
@[simp] theorem knot_trailers (n : Nat) : (knot (n+1)).trailers = trailersF (knot n) := rfl
@[simp] theorem knot_binl (n : Nat) : (knot (n+1)).binl = binlF (knot n) := rfl
@[simp] theorem knot_cmpl (n : Nat) : (knot (n+1)).cmpl = cmplF (knot n) := rfl
@[simp] theorem knot_andl (n : Nat) : (knot (n+1)).andl = andlF (knot n) := rfl
@[simp] theorem knot_orl (n : Nat) : (knot (n+1)).orl = orlF (knot n) := rfl
@[simp] theorem knot_items (n : Nat) : (knot (n+1)).items = itemsF (knot n) := rfl
@[simp] theorem knot_comps (n : Nat) : (knot (n+1)).comps = compsF (knot n) := rfl
@[simp] theorem knot_ifs (n : Nat) : (knot (n+1)).ifs = ifsF (knot n) := rfl

def stopsTrailer : List Tok → Bool
  | .op ['.'] :: _ => false
  | .op ['('] :: _ => false
  | .op ['['] :: _ => false
  | _ => true

def stopsPow : List Tok → Bool
  | .op ['*', '*'] :: _ => false
  | _ => true

def stopsBin : List Tok → Bool
  | .op s :: _ => (binLevel? s Astgrammar.binLevels).isNone
  | _ => true

def stopsCmp (toks : List Tok) : Bool := (cmpOp? toks).isNone

def stopsAnd : List Tok → Bool
  | .name ['a', 'n', 'd'] :: _ => false
  | _ => true

def stopsOr : List Tok → Bool
  | .name ['o', 'r'] :: _ => false
  | _ => true

def stopsIf : List Tok → Bool
  | .name ['i', 'f'] :: _ => false
  | _ => true

theorem stopsTrailer_cons (t : Tok) (r : List Tok) : stopsTrailer (t :: r) = stopsTrailer [t] := by
  unfold stopsTrailer; split <;> simp_all

theorem stopsPow_cons (t : Tok) (r : List Tok) : stopsPow (t :: r) = stopsPow [t] := by
  unfold stopsPow; split <;> simp_all

theorem stopsBin_cons (t : Tok) (r : List Tok) : stopsBin (t :: r) = stopsBin [t] := by
  cases t <;> rfl

theorem stopsAnd_cons (t : Tok) (r : List Tok) : stopsAnd (t :: r) = stopsAnd [t] := by
  unfold stopsAnd; split <;> simp_all

theorem stopsOr_cons (t : Tok) (r : List Tok) : stopsOr (t :: r) = stopsOr [t] := by
  unfold stopsOr; split <;> simp_all

theorem stopsIf_cons (t : Tok) (r : List Tok) : stopsIf (t :: r) = stopsIf [t] := by
  unfold stopsIf; split <;> simp_all

theorem trailers_stop (k : Knot) (e : PyExpr) (toks : List Tok) (h : stopsTrailer toks = true) :
    trailersF k e toks = some (e, toks) := by
  unfold trailersF
  split <;> first | rfl | (simp [stopsTrailer] at h)

theorem binl_stop (k : Knot) (lvl : Nat) (lhs : PyExpr) (toks : List Tok) (h : stopsBin toks = true) :
    binlF k lvl lhs toks = some (lhs, toks) := by
  unfold binlF
  split
  · rename_i s r
    simp [stopsBin] at h
    simp [h]
  · rfl

theorem cmpl_stop (k : Knot) (l : PyExpr) (toks : List Tok) (h : stopsCmp toks = true) :
    cmplF k l [] toks = some (l, toks) := by
  simp [stopsCmp] at h
  simp [cmplF, h]

theorem andl_stop (k : Knot) (acc : List PyExpr) (toks : List Tok) (h : stopsAnd toks = true) :
    andlF k acc toks = some (mkBool cs!"And" acc.reverse, toks) := by
  unfold andlF
  split
  · simp [stopsAnd] at h
  · rfl

theorem orl_stop (k : Knot) (acc : List PyExpr) (toks : List Tok) (h : stopsOr toks = true) :
    orlF k acc toks = some (mkBool cs!"Or" acc.reverse, toks) := by
  unfold orlF
  split
  · simp [stopsOr] at h
  · rfl

/-- the tokens that follow a complete sub-expression in regenerated source -/
def closersD : List Tok :=
  [tRP, tRB, tRC, tComma, tColon, kw cs!"for", kw cs!"async", kw cs!"if", kw cs!"else"]

/-- the rest of the input starts with a closer (or is empty): every operator loop stops, which is what the
    disjunction layer (`D`) and those below it ask of what follows -/
def closedD : List Tok → Bool
  | [] => true
  | t :: _ => closersD.contains t

/-- … and it is not `if` (so a conditional expression does not continue): what a whole expression (`E`) asks -/
def closedE (r : List Tok) : Bool := closedD r && stopsIf r

/-- `and`, `or` and the closers: nothing below the boolean layer continues -/
def belowBool : List Tok → Bool
  | [] => true
  | t :: _ => closersD.contains t || t = kw cs!"and" || t = kw cs!"or"

/-- a test that looks only at the first token and holds of each token of `S` holds of a list that is empty or starts in `S` -/
theorem of_head {p : List Tok → Bool} (hp : ∀ t r, p (t :: r) = p [t]) (h0 : p [] = true) {S : List Tok}
    (hS : ∀ t ∈ S, p [t] = true) : ∀ {r : List Tok}, (∀ t ∈ r.head?, t ∈ S) → p r = true
  | [], _ => h0
  | t :: r, h => (hp t r).trans (hS t (h t rfl))

theorem closedD_head {r : List Tok} (h : closedD r = true) : ∀ t ∈ r.head?, t ∈ closersD := by
  cases r with
  | nil => simp
  | cons t r => simpa [closedD] using h

theorem belowBool_head {r : List Tok} (h : belowBool r = true) : ∀ t ∈ r.head?, t ∈ closersD ++ [kw cs!"and", kw cs!"or"] := by
  cases r with
  | nil => simp
  | cons t r => simpa [belowBool, or_assoc] using h

theorem closedE_D {r : List Tok} (h : closedE r = true) : closedD r = true := (Bool.and_eq_true _ _ ▸ h).1

theorem closedD_belowBool {r : List Tok} (h : closedD r = true) : belowBool r = true := by
  cases r with
  | nil => rfl
  | cons t r => simp [closedD] at h; simp [belowBool, h]

theorem cmpFind_mem {ws : List Str} {cls : Str} {tbl : List (List Str × Str)} (h : cmpFind ws tbl = some cls) :
    (ws, cls) ∈ tbl := by
  induction tbl with
  | nil => simp [cmpFind] at h
  | cons p r ih =>
    obtain ⟨a, b⟩ := p
    simp only [cmpFind] at h
    split at h
    · rename_i heq; cases h; subst heq; simp
    · simp [ih h]

theorem stopsCmp_of_head (t : Tok) (r : List Tok) (h : ∀ p ∈ Astgrammar.cmpOps, p.1.head? ≠ tokText t) :
    stopsCmp (t :: r) = true := by
  have hf : ∀ a ws, tokText t = some a → cmpFind (a :: ws) Astgrammar.cmpOps = none := by
    intro a ws ha
    cases hc : cmpFind (a :: ws) Astgrammar.cmpOps with
    | none => rfl
    | some cls => exact absurd (by simp [ha]) (h _ (cmpFind_mem hc))
  cases ha : tokText t with
  | none => cases r <;> simp [stopsCmp, cmpOp?, ha]
  | some a =>
    cases r with
    | nil => simp [stopsCmp, cmpOp?, ha, hf a [] ha]
    | cons t2 r => cases hb : tokText t2 <;> simp [stopsCmp, cmpOp?, ha, hb, hf a _ ha]

/-- the closers, `and`, `or` against the operator tables: the trailer, `**`, binary and comparison loops stop at each -/
theorem belowBool_stops : ∀ t ∈ closersD ++ [kw cs!"and", kw cs!"or"],
    stopsTrailer [t] = true ∧ stopsPow [t] = true ∧ stopsBin [t] = true
      ∧ ∀ p ∈ Astgrammar.cmpOps, p.1.head? ≠ tokText t := by decide

theorem closedD_stops : ∀ t ∈ closersD, stopsAnd [t] = true ∧ stopsOr [t] = true := by decide

theorem belowBool_trailer {r : List Tok} (h : belowBool r = true) : stopsTrailer r = true :=
  of_head stopsTrailer_cons rfl (fun t ht => (belowBool_stops t ht).1) (belowBool_head h)

theorem belowBool_pow {r : List Tok} (h : belowBool r = true) : stopsPow r = true :=
  of_head stopsPow_cons rfl (fun t ht => (belowBool_stops t ht).2.1) (belowBool_head h)

theorem belowBool_bin {r : List Tok} (h : belowBool r = true) : stopsBin r = true :=
  of_head stopsBin_cons rfl (fun t ht => (belowBool_stops t ht).2.2.1) (belowBool_head h)

theorem belowBool_cmp {r : List Tok} (h : belowBool r = true) : stopsCmp r = true := by
  cases r with
  | nil => rfl
  | cons t r => exact stopsCmp_of_head t r (belowBool_stops t (belowBool_head h t rfl)).2.2.2

theorem closedD_and {r : List Tok} (h : closedD r = true) : stopsAnd r = true :=
  of_head stopsAnd_cons rfl (fun t ht => (closedD_stops t ht).1) (closedD_head h)

theorem closedD_or {r : List Tok} (h : closedD r = true) : stopsOr r = true :=
  of_head stopsOr_cons rfl (fun t ht => (closedD_stops t ht).2) (closedD_head h)

theorem closedE_if {r : List Tok} (h : closedE r = true) : stopsIf r = true := (Bool.and_eq_true _ _ ▸ h).2

/-- tokens a (well-formed) regenerated expression can start with -/
def atomStart : Tok → Bool
  | .name s => !isKeyword s || s = cs!"True" || s = cs!"False" || s = cs!"None"
  | .num _ => true
  | .str _ => true
  | .op s => s = ['('] || s = ['['] || s = ['{'] || s = ['.', '.', '.']

def headOK : List Tok → Bool
  | [] => false
  | t :: _ => atomStart t

theorem headOK_append {a : List Tok} (b : List Tok) (h : headOK a = true) : headOK (a ++ b) = true := by
  cases a with
  | nil => simp [headOK] at h
  | cons t r => simpa [headOK] using h

theorem power_of_primary (k : Knot) (toks : List Tok) (e : PyExpr) (r : List Tok)
    (h : primaryF k toks = some (e, r)) (hp : stopsPow r = true) : powerF k toks = some (e, r) := by
  unfold powerF
  simp only [h, Option.bind_eq_bind, Option.bind_some]
  split
  · simp [stopsPow] at hp
  · rfl

theorem atomStart_not_unary (t : Tok) (h : atomStart t = true) :
    ∀ s, t = .op s → unarySym? s Astgrammar.unaryOps = none := by
  intro s hs
  subst hs
  simp [atomStart] at h
  rcases h with ((h | h) | h) | h <;> subst h <;> rfl

theorem unary_of_power (k : Knot) (toks : List Tok) (e : PyExpr) (r : List Tok)
    (h : powerF k toks = some (e, r)) (hh : headOK toks = true) : unaryF k toks = some (e, r) := by
  cases toks with
  | nil => simp [headOK] at hh
  | cons t rest =>
    simp [headOK] at hh
    unfold unaryF
    split
    · rename_i s r' heq
      have := atomStart_not_unary t hh s (by simpa using (List.cons.inj heq).1)
      simp [this, h]
    · exact h

theorem bin_of_unary (n lvl : Nat) (toks : List Tok) (e : PyExpr) (r : List Tok)
    (h : unaryF (knot (n+1)) toks = some (e, r)) (hb : stopsBin r = true) :
    binF (knot (n+1)) lvl toks = some (e, r) := by
  simp [binF, h, binl_stop _ _ _ _ hb]

theorem cmp_of_bin (n : Nat) (toks : List Tok) (e : PyExpr) (r : List Tok)
    (h : binF (knot (n+1)) 0 toks = some (e, r)) (hc : stopsCmp r = true) :
    cmpF (knot (n+1)) toks = some (e, r) := by
  simp [cmpF, h, cmpl_stop _ _ _ hc]

theorem atomStart_not (t : Tok) (h : atomStart t = true) (s : Str) (hs : isKeyword s = true)
    (h1 : s ≠ cs!"True") (h2 : s ≠ cs!"False") (h3 : s ≠ cs!"None") : t ≠ .name s := by
  intro e
  subst e
  simp [atomStart, hs, h1, h2, h3] at h

def notKwHead (s : Str) : List Tok → Bool
  | .name s' :: _ => s' != s
  | _ => true

theorem headOK_notKw {toks : List Tok} (h : headOK toks = true) (s : Str) (hs : isKeyword s = true)
    (h1 : s ≠ cs!"True") (h2 : s ≠ cs!"False") (h3 : s ≠ cs!"None") : notKwHead s toks = true := by
  cases toks with
  | nil => rfl
  | cons t r =>
    cases t with
    | name s' => exact bne_iff_ne.mpr fun e => atomStart_not (.name s') h s hs h1 h2 h3 (congrArg Tok.name e)
    | _ => rfl

theorem headOK_not {toks : List Tok} (h : headOK toks = true) : notKwHead cs!"not" toks = true :=
  headOK_notKw h _ (by decide) (by decide) (by decide) (by decide)

theorem headOK_lambda {toks : List Tok} (h : headOK toks = true) : notKwHead cs!"lambda" toks = true :=
  headOK_notKw h _ (by decide) (by decide) (by decide) (by decide)

theorem inv_of_cmp (k : Knot) (toks : List Tok) (e : PyExpr) (r : List Tok)
    (h : cmpF k toks = some (e, r)) (hn : notKwHead cs!"not" toks = true) : invF k toks = some (e, r) := by
  unfold invF
  split
  · simp [notKwHead] at hn
  · exact h

theorem conj_of_inv (n : Nat) (toks : List Tok) (e : PyExpr) (r : List Tok)
    (h : invF (knot (n+1)) toks = some (e, r)) (ha : stopsAnd r = true) :
    conjF (knot (n+1)) toks = some (e, r) := by
  simp [conjF, h, andl_stop _ _ _ ha, mkBool]

theorem disj_of_conj (n : Nat) (toks : List Tok) (e : PyExpr) (r : List Tok)
    (h : conjF (knot (n+1)) toks = some (e, r)) (ho : stopsOr r = true) :
    disjF (knot (n+1)) toks = some (e, r) := by
  simp [disjF, h, orl_stop _ _ _ ho, mkBool]

/-- an expression that does not start with `lambda`: an or-test, and a conditional if `if` follows it -/
theorem exprF_disj (k : Knot) (toks : List Tok) (hl : notKwHead cs!"lambda" toks = true) :
    exprF k toks = (disjF k toks).bind fun x =>
      match x.2 with
      | .name ['i', 'f'] :: r1 => (k.disj r1).bind fun y =>
          match y.2 with
          | .name ['e', 'l', 's', 'e'] :: r3 => (k.expr r3).bind fun z => some (.ifExp y.1 x.1 z.1, z.2)
          | _ => none
      | _ => some x := by
  unfold exprF
  split
  · simp [notKwHead] at hl
  · rfl

theorem expr_of_disj (k : Knot) (toks : List Tok) (e : PyExpr) (r : List Tok)
    (h : disjF k toks = some (e, r)) (hl : notKwHead cs!"lambda" toks = true) (hi : stopsIf r = true) :
    exprF k toks = some (e, r) := by
  rw [exprF_disj _ _ hl, h, Option.bind_some]
  split
  · rename_i heq; dsimp only at heq; rw [heq] at hi; cases hi
  · rfl

theorem disj_of_unary (n : Nat) (toks : List Tok) (e : PyExpr) (r : List Tok)
    (h : unaryF (knot (n+1)) toks = some (e, r)) (hn : notKwHead cs!"not" toks = true) (hd : closedD r = true) :
    disjF (knot (n+1)) toks = some (e, r) := by
  have hb := closedD_belowBool hd
  exact disj_of_conj _ _ _ _
      (conj_of_inv _ _ _ _
        (inv_of_cmp _ _ _ _
          (cmp_of_bin _ _ _ _ (bin_of_unary _ _ _ _ _ h (belowBool_bin hb)) (belowBool_cmp hb)) hn)
        (closedD_and hd))
      (closedD_or hd)

theorem expr_of_conj (n : Nat) (toks : List Tok) (e : PyExpr) (r : List Tok)
    (h : conjF (knot (n+1)) toks = some (e, r)) (hl : notKwHead cs!"lambda" toks = true) (hc : closedE r = true) :
    exprF (knot (n+1)) toks = some (e, r) :=
  expr_of_disj _ _ _ _ (disj_of_conj _ _ _ _ h (closedD_or (closedE_D hc))) hl (closedE_if hc)

theorem expr_of_inv (n : Nat) (toks : List Tok) (e : PyExpr) (r : List Tok)
    (h : invF (knot (n+1)) toks = some (e, r)) (hl : notKwHead cs!"lambda" toks = true) (hc : closedE r = true) :
    exprF (knot (n+1)) toks = some (e, r) :=
  expr_of_conj _ _ _ _ (conj_of_inv _ _ _ _ h (closedD_and (closedE_D hc))) hl hc

theorem expr_of_cmp (n : Nat) (toks : List Tok) (e : PyExpr) (r : List Tok)
    (h : cmpF (knot (n+1)) toks = some (e, r)) (hn : notKwHead cs!"not" toks = true)
    (hl : notKwHead cs!"lambda" toks = true) (hc : closedE r = true) :
    exprF (knot (n+1)) toks = some (e, r) :=
  expr_of_inv _ _ _ _ (inv_of_cmp _ _ _ _ h hn) hl hc

theorem expr_of_bin0 (n : Nat) (toks : List Tok) (e : PyExpr) (r : List Tok)
    (h : binF (knot (n+1)) 0 toks = some (e, r)) (hn : notKwHead cs!"not" toks = true)
    (hl : notKwHead cs!"lambda" toks = true) (hc : closedE r = true) :
    exprF (knot (n+1)) toks = some (e, r) :=
  expr_of_cmp _ _ _ _ (cmp_of_bin _ _ _ _ h (belowBool_cmp (closedD_belowBool (closedE_D hc)))) hn hl hc

theorem expr_of_unary (n : Nat) (toks : List Tok) (e : PyExpr) (r : List Tok)
    (h : unaryF (knot (n+1)) toks = some (e, r)) (hn : notKwHead cs!"not" toks = true)
    (hl : notKwHead cs!"lambda" toks = true) (hc : closedE r = true) :
    exprF (knot (n+1)) toks = some (e, r) :=
  expr_of_bin0 _ _ _ _ (bin_of_unary _ _ _ _ _ h (belowBool_bin (closedD_belowBool (closedE_D hc)))) hn hl hc

theorem binF_def (k : Knot) (lvl : Nat) (toks : List Tok) :
    binF k lvl toks = (unaryF k toks).bind fun x => k.binl lvl x.1 x.2 := rfl

theorem binl_step (k : Knot) (lvl : Nat) (lhs : PyExpr) (s : Str) (r : List Tok) (cls : Str) (l : Nat)
    (h : binLevel? s Astgrammar.binLevels = some (cls, l)) (hl : lvl ≤ l) :
    binlF k lvl lhs (.op s :: r) = (k.bin (l + 1) r).bind fun x => k.binl lvl (.binOp lhs cls x.1) x.2 := by
  simp [binlF, h, hl]

theorem cmpF_def (k : Knot) (toks : List Tok) :
    cmpF k toks = (binF k 0 toks).bind fun x => k.cmpl x.1 [] x.2 := rfl

theorem conjF_def (k : Knot) (toks : List Tok) :
    conjF k toks = (invF k toks).bind fun x => k.andl [x.1] x.2 := rfl

theorem disjF_def (k : Knot) (toks : List Tok) :
    disjF k toks = (conjF k toks).bind fun x => k.orl [x.1] x.2 := rfl

theorem primaryF_def (k : Knot) (toks : List Tok) :
    primaryF k toks = (atomF k toks).bind fun x => k.trailers x.1 x.2 := rfl

mutual
def sz : PyExpr → Nat
  | .name _ => 1
  | .const _ => 1
  | .boolOp _ vs => 1 + szL vs
  | .binOp l _ r => 1 + sz l + sz r
  | .unaryOp _ e => 1 + sz e
  | .lambda po ar va ko ka body => 9 + szL po + szL ar + szO va + szL ko + szO ka + sz body
  | .ifExp t b o => 1 + sz t + sz b + sz o
  | .dict items => 1 + szL items
  | .listComp elt gens => 1 + sz elt + szL gens
  | .genExp elt gens => 1 + sz elt + szL gens
  | .yield_ v => 1 + szO v
  | .compare l rest => 1 + sz l + szL rest
  | .call f args kws => 1 + sz f + szL args + szL kws
  | .attribute v _ => 1 + sz v
  | .subscript v s => 1 + sz v + sz s
  | .slice l u st => 1 + szO l + szO u + szO st
  | .starred e => 1 + sz e
  | .list elts => 1 + szL elts
  | .tuple elts => 1 + szL elts
  | .unsupported _ => 1
  | .keyword _ v => 1 + sz v
  | .comp t it ifs _ => 1 + sz t + sz it + szL ifs
  | .param _ ann d => 1 + szO ann + szO d
  | .dictItem k v => 1 + szO k + sz v
  | .cmpRhs _ e => 1 + sz e
def szL : List PyExpr → Nat
  | [] => 0
  | e :: es => 1 + sz e + szL es
def szO : Option PyExpr → Nat
  | none => 0
  | some e => 1 + sz e
end

/-- fuel that suffices to parse the regenerated tokens of `e`: a node spends at most two levels of the knot on
    itself and one per trailer (`cS`), a loop two per item, and an item of a list weighs `1 + sz`; the weight 9 of a
    lambda pays for the markers of its flat parameter list (`szL_flat`) -/
def need (e : PyExpr) : Nat := 8 * sz e

/-- length of the trailer spine (attribute / call / subscript applications at the top) -/
def cS : PyExpr → Nat
  | .attribute v _ => cS v + 1
  | .call f _ _ => cS f + 1
  | .subscript v _ => cS v + 1
  | _ => 0

theorem sz_pos (e : PyExpr) : 1 ≤ sz e := by cases e <;> simp only [sz] <;> omega

theorem cS_lt_sz (e : PyExpr) : cS e < sz e := by
  induction e using PyExpr.rec (motive_2 := fun _ => True) (motive_3 := fun _ => True)
  case «attribute» v a ih => simp only [cS, sz]; omega
  case call f args kws ih _ _ => simp only [cS, sz]; omega
  case subscript v s ih _ => simp only [cS, sz]; omega
  all_goals first | trivial | exact sz_pos _

theorem lookup_mem {tbl : List (Str × Str)} {k v : Str} (h : lookup tbl k = some v) : (k, v) ∈ tbl := by
  induction tbl with
  | nil => simp [lookup] at h
  | cons p r ih =>
    obtain ⟨a, b⟩ := p
    simp only [lookup] at h
    split at h
    · rename_i heq; cases h; subst heq; simp
    · simp [ih h]

/-- the binary operator table of the generator agrees with the grammar of the running CPython:
    the text is one operator token, `**` is `Pow`, every other text has a level and the same class -/
theorem binTable_ok :
    ∀ p ∈ AstGen.binaryOperators,
      symToks p.2 = [Tok.op p.2] ∧ stopsTrailer [Tok.op p.2] = true ∧
      ((p.2 = ['*', '*'] ∧ p.1 = cs!"Pow") ∨
       (p.2 ≠ ['*', '*'] ∧ (binLevel? p.2 Astgrammar.binLevels).map (·.1) = some p.1)) := by decide

theorem unTable_ok :
    ∀ p ∈ AstGen.unaryOperators,
      (p.1 = cs!"Not" ∧ symToks p.2 = [Tok.name cs!"not"]) ∨
      (p.1 ≠ cs!"Not" ∧ symToks p.2 = [Tok.op p.2] ∧ unarySym? p.2 Astgrammar.unaryOps = some p.1) := by decide

theorem boolTable_ok :
    opToks AstGen.boolOperators cs!"And" = [kw cs!"and"] ∧ opToks AstGen.boolOperators cs!"Or" = [kw cs!"or"] := by
  decide

end Genshi.Py
