/-
  C13 — the domain of faithful regeneration is decidable: `WF` / `Supported` (expressions) and `WFS` / `WFSL`
  (statements) by recursion along their definitions, so that a concrete program is shown to be supported by
  evaluation (`by decide +kernel`).
-/
import Genshi.Lemmas.PySupported
namespace Genshi.Py
open Genshi.Gen

instance optAllDec {α : Type} (o : Option α) (p : α → Prop) [DecidablePred p] : Decidable (∀ v, o = some v → p v) :=
  match o with
  | none => isTrue nofun
  | some x => decidable_of_iff (p x) ⟨fun h _ e => Option.some.inj e ▸ h, fun h => h x rfl⟩

instance optExDec {α : Type} (o : Option α) (p : α → Prop) [DecidablePred p] : Decidable (∃ v, o = some v ∧ p v) :=
  match o with
  | none => isFalse nofun
  | some x => decidable_of_iff (p x) ⟨fun h => ⟨x, rfl, h⟩, fun ⟨_, e, h⟩ => Option.some.inj e ▸ h⟩

instance (c : Const) : Decidable (ConstOK c) := by
  unfold ConstOK
  split <;> first | infer_instance | (split <;> infer_instance)

mutual
def WF.dec : (e : PyExpr) → Decidable (WF e)
  | .name _ | .const _ | .unsupported _ => by unfold WF; infer_instance
  | .unaryOp _ e | .starred e | .keyword _ e | .cmpRhs _ e | .attribute e _ => by
      unfold WF; haveI := WF.dec e; infer_instance
  | .boolOp _ es | .dict es | .list es | .tuple es => by unfold WF; haveI := WFL.dec es; infer_instance
  | .yield_ v => by unfold WF; haveI := WFO.dec v; infer_instance
  | .binOp l _ r | .subscript l r => by unfold WF; haveI := WF.dec l; haveI := WF.dec r; infer_instance
  | .ifExp t b o => by unfold WF; haveI := WF.dec t; haveI := WF.dec b; haveI := WF.dec o; infer_instance
  | .listComp e es | .genExp e es | .compare e es => by
      unfold WF; haveI := WF.dec e; haveI := WFL.dec es; infer_instance
  | .call f args kws => by unfold WF; haveI := WF.dec f; haveI := WFL.dec args; haveI := WFL.dec kws; infer_instance
  | .slice l u st => by unfold WF; haveI := WFO.dec l; haveI := WFO.dec u; haveI := WFO.dec st; infer_instance
  | .comp t it ifs _ => by unfold WF; haveI := WF.dec t; haveI := WF.dec it; haveI := WFL.dec ifs; infer_instance
  | .param _ ann d => by unfold WF; haveI := WFO.dec ann; haveI := WFO.dec d; infer_instance
  | .dictItem k v => by unfold WF; haveI := WFO.dec k; haveI := WF.dec v; infer_instance
  | .lambda po ar va ko ka body => by
      unfold WF; haveI := WFL.dec po; haveI := WFL.dec ar; haveI := WFO.dec va; haveI := WFL.dec ko
      haveI := WFO.dec ka; haveI := WF.dec body; infer_instance
def WFL.dec : (es : List PyExpr) → Decidable (WFL es)
  | [] => isTrue trivial
  | e :: es => by unfold WFL; haveI := WF.dec e; haveI := WFL.dec es; infer_instance
def WFO.dec : (o : Option PyExpr) → Decidable (WFO o)
  | none => isTrue trivial
  | some e => WF.dec e
end

instance (e : PyExpr) : Decidable (WF e) := WF.dec e
instance (es : List PyExpr) : Decidable (WFL es) := WFL.dec es
instance (o : Option PyExpr) : Decidable (WFO o) := WFO.dec o
instance (e : PyExpr) : Decidable (Supported e) := inferInstanceAs (Decidable (_ ∧ _))
instance (o : Option PyExpr) : Decidable (SupportedO o) := inferInstanceAs (Decidable (∀ x, o = some x → Supported x))
instance (po ar : List PyExpr) (va : Option PyExpr) (ko : List PyExpr) (ka : Option PyExpr) :
    Decidable (ParamsOK po ar va ko ka) := by unfold ParamsOK; infer_instance

theorem dotJoin_eq : ∀ cs : List Str, dotJoin cs = ['.'].intercalate cs
  | [] => rfl
  | [c] => by simp [dotJoin, List.intercalate]
  | c :: d :: cs => by rw [dotJoin, dotJoin_eq (d :: cs)]; simp [List.intercalate]

/-- the components of a well-formed dotted name are what splitting at the dots gives (`List.splitOn` inverts `dotJoin`) -/
theorem dottedOK_iff (n : Str) :
    ((n.splitOn '.').all fun c => !c.isEmpty && !c.contains '.' && !isKeyword c) = true ↔ DottedOK n := by
  simp only [List.all_eq_true, Bool.and_eq_true, Bool.not_eq_true', List.isEmpty_eq_false_iff, List.contains_eq_mem,
    decide_eq_false_iff_not]
  constructor
  · exact fun h => ⟨_, List.splitOn_ne_nil _ _, by rw [dotJoin_eq, List.intercalate_splitOn],
      fun c hc => ⟨(h c hc).1.1, (h c hc).1.2, (h c hc).2⟩⟩
  · rintro ⟨comps, hne, rfl, hc⟩
    rw [dotJoin_eq, List.splitOn_intercalate _ (fun d hd => (hc d hd).2.1) hne]
    exact fun d hd => ⟨⟨(hc d hd).1, (hc d hd).2.1⟩, (hc d hd).2.2⟩

instance (n : Str) : Decidable (DottedOK n) := decidable_of_iff _ (dottedOK_iff n)

mutual
def WFS.dec : (s : PyStmt) → Decidable (WFS s)
  | .if_ _ b o | .while_ _ b o | .for_ _ _ b o => by
      unfold WFS; haveI := WFSL.dec b; haveI := WFSL.dec o; infer_instance
  | .with_ _ b | .handler _ _ b | .functionDef _ _ _ _ _ _ b _ _ _ | .classDef _ _ _ b _ _ => by
      unfold WFS; haveI := WFSL.dec b; infer_instance
  | .try_ b hs o f => by
      unfold WFS; haveI := WFSL.dec b; haveI := WFSL.dec hs; haveI := WFSL.dec o; haveI := WFSL.dec f; infer_instance
  | .expr _ | .assign _ _ | .augAssign _ _ _ | .return_ _ | .delete _ | .pass_ | .break_ | .continue_ | .assert_ _ _
  | .raise_ _ _ | .global_ _ | .import_ _ | .importFrom _ _ _ | .unsupported _ => by unfold WFS; infer_instance
def WFSL.dec : (ss : List PyStmt) → Decidable (WFSL ss)
  | [] => isTrue trivial
  | s :: ss => by unfold WFSL; haveI := WFS.dec s; haveI := WFSL.dec ss; infer_instance
end

instance (s : PyStmt) : Decidable (WFS s) := WFS.dec s
instance (ss : List PyStmt) : Decidable (WFSL ss) := WFSL.dec ss

end Genshi.Py
