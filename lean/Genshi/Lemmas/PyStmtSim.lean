/-
  C13 / C03 — statement mode: one simulation lemma for the generic load mapper `ml` (two instances related
  by a relation that is preserved by entering a lambda / comprehension scope agree on every
  expression whose loads are in the domain).
-/
import Genshi.Model.PyScope
namespace Genshi.Py

set_option linter.unusedSectionVars false
section sim
variable {σ₁ σ₂ : Type} (o₁ : NameOps σ₁) (o₂ : NameOps σ₂) (R : σ₁ → σ₂ → Prop) (q : Str → Bool)
variable (Hdec : ∀ a b id, R a b → q id = true → o₁.dec a id = o₂.dec b id)
variable (Hpush : ∀ a b N, R a b → R (o₁.push a N) (o₂.push b N))
include Hdec Hpush

mutual
theorem ml_sim : ∀ (e : PyExpr) (s : σ₁) (t : σ₂) (p : Str → Bool),
    (∀ id, p id = true → o₁.dec s id = o₂.dec t id) → (∀ N, R (o₁.push s N) (o₂.push t N)) →
    loadsOk p q e = true → ml o₁ s e = ml o₂ t e := by
  intro e s t p hp hR h
  cases e with
  | name id => unfold loadsOk at h; unfold ml loadOf; rw [hp id h]
  | const _ | unsupported _ => rfl
  | unaryOp _ e | «attribute» e _ | starred e | keyword _ e | cmpRhs _ e =>
      unfold loadsOk at h; unfold ml; rw [ml_sim e s t p hp hR h]
  | boolOp _ es | dict es | list es | tuple es =>
      unfold loadsOk at h; unfold ml; rw [mlL_sim es s t p hp hR h]
  | yield_ v => unfold loadsOk at h; unfold ml; rw [mlO_sim v s t p hp hR h]
  | binOp l _ r | subscript l r =>
      unfold loadsOk at h; rw [Bool.and_eq_true] at h
      unfold ml; rw [ml_sim l s t p hp hR h.1, ml_sim r s t p hp hR h.2]
  | ifExp c b o =>
      unfold loadsOk at h; simp only [Bool.and_eq_true] at h
      unfold ml; rw [ml_sim c s t p hp hR h.1.1, ml_sim b s t p hp hR h.1.2, ml_sim o s t p hp hR h.2]
  | compare l rest =>
      unfold loadsOk at h; rw [Bool.and_eq_true] at h
      unfold ml; rw [ml_sim l s t p hp hR h.1, mlL_sim rest s t p hp hR h.2]
  | call f args kws =>
      unfold loadsOk at h; simp only [Bool.and_eq_true] at h
      unfold ml; rw [ml_sim f s t p hp hR h.1.1, mlL_sim args s t p hp hR h.1.2, mlL_sim kws s t p hp hR h.2]
  | slice l u st =>
      unfold loadsOk at h; simp only [Bool.and_eq_true] at h
      unfold ml; rw [mlO_sim l s t p hp hR h.1.1, mlO_sim u s t p hp hR h.1.2, mlO_sim st s t p hp hR h.2]
  | comp tg it ifs a =>
      unfold loadsOk at h; simp only [Bool.and_eq_true] at h
      unfold ml; rw [mlT_sim tg s t p hp hR h.1.1, ml_sim it s t p hp hR h.1.2, mlL_sim ifs s t p hp hR h.2]
  | param n ann d =>
      unfold loadsOk at h; rw [Bool.and_eq_true] at h
      unfold ml; rw [mlO_sim ann s t p hp hR h.1, mlO_sim d s t p hp hR h.2]
  | dictItem k v =>
      unfold loadsOk at h; rw [Bool.and_eq_true] at h
      unfold ml; rw [mlO_sim k s t p hp hR h.1, ml_sim v s t p hp hR h.2]
  -- a nested scope: its loads are in `q`, and `R` holds again after the push
  | lambda po ar va ko ka body =>
      unfold loadsOk at h; simp only [Bool.and_eq_true] at h
      obtain ⟨⟨⟨⟨⟨h1, h2⟩, h3⟩, h4⟩, h5⟩, h6⟩ := h
      unfold ml; rw [mlL_sim po s t p hp hR h1, mlL_sim ar s t p hp hR h2, mlO_sim va s t p hp hR h3,
        mlL_sim ko s t p hp hR h4, mlO_sim ka s t p hp hR h5,
        ml_sim body _ _ q (fun id hq => Hdec _ _ id (hR _) hq) (fun N => Hpush _ _ N (hR _)) h6]
  | listComp elt gens | genExp elt gens =>
      unfold loadsOk at h; rw [Bool.and_eq_true] at h
      have hq1 := fun id hq => Hdec _ _ id (hR (compNames gens)) hq
      have hR1 := fun N => Hpush _ _ N (hR (compNames gens))
      unfold ml; rw [ml_sim elt _ _ q hq1 hR1 h.1, mlGens_sim gens s t _ _ p hp hR hq1 hR1 h.2]
theorem mlL_sim : ∀ (es : List PyExpr) (s : σ₁) (t : σ₂) (p : Str → Bool),
    (∀ id, p id = true → o₁.dec s id = o₂.dec t id) → (∀ N, R (o₁.push s N) (o₂.push t N)) →
    loadsOkL p q es = true → mlL o₁ s es = mlL o₂ t es
  | [], _, _, _, _, _, _ => rfl
  | e :: es, s, t, p, hp, hR, h => by
      unfold loadsOkL at h; rw [Bool.and_eq_true] at h
      unfold mlL; rw [ml_sim e s t p hp hR h.1, mlL_sim es s t p hp hR h.2]
theorem mlO_sim : ∀ (o : Option PyExpr) (s : σ₁) (t : σ₂) (p : Str → Bool),
    (∀ id, p id = true → o₁.dec s id = o₂.dec t id) → (∀ N, R (o₁.push s N) (o₂.push t N)) →
    loadsOkO p q o = true → mlO o₁ s o = mlO o₂ t o
  | none, _, _, _, _, _, _ => rfl
  | some e, s, t, p, hp, hR, h => by
      unfold loadsOkO at h; unfold mlO; rw [ml_sim e s t p hp hR h]
theorem mlGens_sim : ∀ (gens : List PyExpr) (s0 : σ₁) (t0 : σ₂) (s1 : σ₁) (t1 : σ₂) (p : Str → Bool),
    (∀ id, p id = true → o₁.dec s0 id = o₂.dec t0 id) → (∀ N, R (o₁.push s0 N) (o₂.push t0 N)) →
    (∀ id, q id = true → o₁.dec s1 id = o₂.dec t1 id) → (∀ N, R (o₁.push s1 N) (o₂.push t1 N)) →
    loadsOkGens p q gens = true → mlGens o₁ s0 s1 gens = mlGens o₂ t0 t1 gens
  | [], _, _, _, _, _, _, _, _, _, _ => rfl
  | e :: r, s0, t0, s1, t1, p, hp0, hR0, hq1, hR1, h => by
      have hr := mlGens_sim r s1 t1 s1 t1 q hq1 hR1 hq1 hR1
      cases e with
      | comp tg it ifs a =>
          unfold loadsOkGens at h; simp only [Bool.and_eq_true] at h
          unfold mlGens
          rw [mlT_sim tg s1 t1 q hq1 hR1 h.1.1.1, ml_sim it s0 t0 p hp0 hR0 h.1.1.2,
            mlL_sim ifs s1 t1 q hq1 hR1 h.1.2, hr h.2]
      | _ =>
          -- any other head is an ordinary expression of the comprehension's own scope
          obtain ⟨h1, h2⟩ := (Bool.and_eq_true _ _).mp h
          show _ :: _ = _ :: _
          rw [ml_sim _ s1 t1 q hq1 hR1 h1, hr h2]
theorem mlT_sim : ∀ (e : PyExpr) (s : σ₁) (t : σ₂) (p : Str → Bool),
    (∀ id, p id = true → o₁.dec s id = o₂.dec t id) → (∀ N, R (o₁.push s N) (o₂.push t N)) →
    loadsOkT p q e = true → mlT o₁ s e = mlT o₂ t e := by
  intro e s t p hp hR h
  cases e with
  | tuple elts | list elts => unfold loadsOkT at h; unfold mlT; rw [mlTL_sim elts s t p hp hR h]
  | starred e => unfold loadsOkT at h; unfold mlT; rw [mlT_sim e s t p hp hR h]
  | «attribute» v a => unfold loadsOkT at h; unfold mlT; rw [ml_sim v s t p hp hR h]
  | subscript v sl =>
      unfold loadsOkT at h; rw [Bool.and_eq_true] at h
      unfold mlT; rw [ml_sim v s t p hp hR h.1, ml_sim sl s t p hp hR h.2]
  | _ => rfl
theorem mlTL_sim : ∀ (es : List PyExpr) (s : σ₁) (t : σ₂) (p : Str → Bool),
    (∀ id, p id = true → o₁.dec s id = o₂.dec t id) → (∀ N, R (o₁.push s N) (o₂.push t N)) →
    loadsOkTL p q es = true → mlTL o₁ s es = mlTL o₂ t es
  | [], _, _, _, _, _, _ => rfl
  | e :: es, s, t, p, hp, hR, h => by
      unfold loadsOkTL at h; rw [Bool.and_eq_true] at h
      unfold mlTL; rw [mlT_sim e s t p hp hR h.1, mlTL_sim es s t p hp hR h.2]
end
end sim

end Genshi.Py
