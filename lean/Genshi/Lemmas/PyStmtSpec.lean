/-
  C13 / C03 — statement mode: genshi's scope stack against Python's scoping rule.
  `Rel L env` relates the transformer's `self.locals` (`L`) with the scope description of the
  specification (`env`); it is established for the module, preserved by every statement (the names a
  statement adds to `self.locals[-1]` are bound names of the scope) and re-established for the body
  of every nested `def` / `class`.  Under it every load in the domain is decided the same way.
-/
import Genshi.Lemmas.PyStmtSim
namespace Genshi.Py

def classTopHas : List Scope → Str → Bool
  | (true, t) :: _, id => t.contains id
  | _, _ => false

def topIsClass : List Scope → Bool
  | (k, _) :: _ => k
  | [] => false

/-- what a function nested in the scope sees -/
def SEnv.inner (env : SEnv) (id : Str) : Bool :=
  (env.kind == .function && env.bound.contains id) || env.encl.contains id

theorem visible_contains (env : SEnv) (id : Str) : env.visible.contains id = env.inner id := by
  rcases env with ⟨k, b, e⟩
  cases k <;> simp [SEnv.visible, SEnv.inner]

theorem nv_cons (k : Bool) (t : List Str) (o : List Scope) (id : Str) :
    nv ((k, t) :: o) id = ((!k && t.contains id) || nv o id) := by
  simp [nv]

theorem isLocalT_eq (L : List Scope) (id : Str) : isLocalT L id = (nv L id || classTopHas L id) := by
  match L with
  | [] => rfl
  | (true, t) :: o => simp [isLocalT, nv_cons, classTopHas, Bool.or_comm]
  | (false, t) :: o => simp [isLocalT, nv_cons, classTopHas]

theorem plain_not_super (id : Str) (h : plainName id = true) : superNames.contains id = false := by
  simp only [plainName, reservedNames, List.contains_append, Bool.not_eq_true', Bool.or_eq_false_iff] at h
  exact h.2

theorem genshiDec_plain (L : List Scope) (id : Str) (h : plainName id = true) : genshiDec L id = isLocalT L id := by
  unfold genshiDec
  rw [plain_not_super id h]
  simp

structure Rel (L : List Scope) (env : SEnv) : Prop where
  /-- the non-class entries of the stack hold what a function nested in the scope sees -/
  vis : ∀ id, plainName id = true → nv L id = env.inner id
  /-- a name in a class entry on top of the stack is a bound name of that class -/
  top : ∀ id, classTopHas L id = true → env.kind = .class_ ∧ env.bound.contains id = true
  cls : topIsClass L = (env.kind == .class_)
  /-- at module level the stack is a singleton, which `addTop` leaves as it is: module names are never recorded -/
  mod : env.kind = .module → env.encl = [] ∧ ∃ c, L = [c]

theorem rel_dec {L : List Scope} {env : SEnv} (h : Rel L env) (id : Str) (hp : directOk env id = true) :
    genshiOps.dec L id = pyOps.dec env id := by
  simp only [directOk, Bool.and_eq_true, Bool.not_eq_true', Bool.and_eq_false_iff] at hp
  obtain ⟨hq, hc⟩ := hp
  show genshiDec L id = !env.isGlobal id
  have htop : classTopHas L id = false := by
    cases hh : classTopHas L id with
    | false => rfl
    | true =>
      obtain ⟨h1, h2⟩ := h.top id hh
      rcases hc with hc | hc
      · rw [h1] at hc; exact absurd hc (by decide)
      · rw [h2] at hc; exact Bool.noConfusion hc
  rw [genshiDec_plain L id hq, isLocalT_eq, htop, h.vis id hq]
  rcases env with ⟨k, b, e⟩
  cases k
  · have := (h.mod rfl).1
    simp only at this
    subst this
    simp [SEnv.inner, SEnv.isGlobal]
  · simp [SEnv.inner, SEnv.isGlobal]
  · rcases hc with hc | hc
    · simp at hc
    · simp only at hc
      simp only [SEnv.inner, SEnv.isGlobal, hc]
      simp

theorem rel_child_fun {L : List Scope} {env : SEnv} (h : Rel L env) (N : List Str) :
    Rel ((false, N) :: L) (env.child .function N) := by
  refine ⟨?_, ?_, rfl, fun hk => by simp [SEnv.child] at hk⟩
  · intro id hq
    rw [nv_cons, h.vis id hq]
    show (!false && N.contains id || env.inner id)
      = ((ScopeKind.function == ScopeKind.function && N.contains id) || env.visible.contains id)
    rw [visible_contains]
    simp
  · intro id hh
    simp [classTopHas] at hh

/-- the relation between the states inside an expression: after entering a lambda / comprehension the scope is a
    function scope, where `directOk` asks no more than `plainName` -/
def RelF (L : List Scope) (env : SEnv) : Prop := Rel L env ∧ env.kind = .function

theorem relF_dec (L : List Scope) (env : SEnv) (id : Str) (h : RelF L env) (hq : plainName id = true) :
    genshiOps.dec L id = pyOps.dec env id :=
  rel_dec h.1 id (by rw [directOk, hq, h.2]; rfl)

theorem rel_push {L : List Scope} {env : SEnv} (h : Rel L env) (N : List Str) :
    RelF (genshiOps.push L N) (pyOps.push env N) := ⟨rel_child_fun h N, rfl⟩

theorem relF_push (L : List Scope) (env : SEnv) (N : List Str) (h : RelF L env) :
    RelF (genshiOps.push L N) (pyOps.push env N) := rel_push h.1 N

section
variable {L : List Scope} {env : SEnv} (h : Rel L env)
include h

theorem xt_spec (e : PyExpr) (ok : loadsOk (directOk env) plainName e = true) : xt L e = ml pyOps env e :=
  ml_sim genshiOps pyOps RelF plainName relF_dec relF_push e L env (directOk env) (rel_dec h) (rel_push h) ok
theorem xtL_spec (es : List PyExpr) (ok : loadsOkL (directOk env) plainName es = true) : xtL L es = mlL pyOps env es :=
  mlL_sim genshiOps pyOps RelF plainName relF_dec relF_push es L env (directOk env) (rel_dec h) (rel_push h) ok
theorem xtO_spec (o : Option PyExpr) (ok : loadsOkO (directOk env) plainName o = true) : xtO L o = mlO pyOps env o :=
  mlO_sim genshiOps pyOps RelF plainName relF_dec relF_push o L env (directOk env) (rel_dec h) (rel_push h) ok
theorem xtTL_spec (es : List PyExpr) (ok : loadsOkTL (directOk env) plainName es = true) : xtTL L es = mlTL pyOps env es :=
  mlTL_sim genshiOps pyOps RelF plainName relF_dec relF_push es L env (directOk env) (rel_dec h) (rel_push h) ok
end

/-- the names are bound names of the scope (nothing is demanded at module level, where the
    transformer registers nothing) -/
def SubB (env : SEnv) (ns : List Str) : Prop :=
  env.kind ≠ .module → ∀ id, ns.contains id = true → env.bound.contains id = true

theorem subB_left {env : SEnv} {a b : List Str} (h : SubB env (a ++ b)) : SubB env a := by
  intro hm id hi
  exact h hm id (by rw [List.contains_append, hi]; rfl)

theorem subB_right {env : SEnv} {a b : List Str} (h : SubB env (a ++ b)) : SubB env b := by
  intro hm id hi
  exact h hm id (by rw [List.contains_append, hi]; simp)

theorem subB_refl (k : ScopeKind) (a b e : List Str) : SubB ⟨k, a ++ b, e⟩ b := by
  intro _ id hi
  show (a ++ b).contains id = true
  rw [List.contains_append, hi]; simp

theorem rel_module : Rel [(false, constantNames)] moduleEnv := by
  refine ⟨?_, ?_, rfl, fun _ => ⟨rfl, _, rfl⟩⟩
  · intro id hq
    simp only [plainName, reservedNames, List.contains_append, Bool.not_eq_true', Bool.or_eq_false_iff] at hq
    rw [nv_cons, hq.1]
    rfl
  · intro id hh
    simp [classTopHas] at hh

theorem rel_addTop {L : List Scope} {env : SEnv} (h : Rel L env) (ns : List Str) (sb : SubB env ns) :
    Rel (addTop L ns) env := by
  match L, h with
  | [], h => exact h
  | [_], h => exact h
  | (k, t) :: o :: r, h =>
    have hm : env.kind ≠ .module := by
      intro hk
      obtain ⟨_, c, hc⟩ := h.mod hk
      simp at hc
    show Rel ((k, ns ++ t) :: o :: r) env
    have hcls := h.cls
    simp only [topIsClass] at hcls
    refine ⟨?_, ?_, ?_, fun hk => absurd hk hm⟩
    · intro id hq
      have hv := h.vis id hq
      rw [nv_cons] at hv ⊢
      cases k with
      | true => simpa using hv
      | false =>
        cases hn : ns.contains id with
        | false => rw [List.contains_append, hn]; simpa using hv
        | true =>
          have hb := sb hm id hn
          have hkind : env.kind = .function := by
            rcases env with ⟨kd, b, e⟩
            cases kd
            · exact absurd rfl hm
            · rfl
            · simp at hcls
          rw [List.contains_append, hn]
          simp only [SEnv.inner, hkind, hb]
          simp
    · intro id hh
      cases k with
      | false => simp [classTopHas] at hh
      | true =>
        have hkind : env.kind = .class_ := by simpa using hcls.symm
        refine ⟨hkind, ?_⟩
        simp only [classTopHas, List.contains_append, Bool.or_eq_true] at hh
        rcases hh with hh | hh
        · exact sb hm id hh
        · exact (h.top id (by simpa [classTopHas] using hh)).2
    · simpa [topIsClass] using hcls

theorem rel_child_cls {L : List Scope} {env : SEnv} (h : Rel L env) (B : List Str) :
    Rel ((true, []) :: L) (env.child .class_ B) := by
  refine ⟨?_, ?_, rfl, fun hk => by simp [SEnv.child] at hk⟩
  · intro id hq
    rw [nv_cons, h.vis id hq]
    show (!true && ([] : List Str).contains id || env.inner id)
      = ((ScopeKind.class_ == ScopeKind.function && B.contains id) || env.visible.contains id)
    rw [visible_contains]
    simp
  · intro id hh
    simp [classTopHas] at hh

mutual
theorem xsTgt_spec : ∀ (t : PyExpr) (L : List Scope) (env : SEnv), Rel L env →
    loadsOkT (directOk env) plainName t = true → SubB env (targetNames t) →
    (xsTgt L t).1 = mlT pyOps env t ∧ Rel (xsTgt L t).2 env := by
  intro t L env h ok sb
  cases t with
  | name id => exact ⟨rfl, rel_addTop h [id] (by unfold targetNames at sb; exact sb)⟩
  | tuple elts | list elts =>
      unfold loadsOkT at ok
      unfold targetNames at sb
      obtain ⟨h1, h2⟩ := xsTgtL_spec elts L env h ok sb
      exact ⟨by unfold xsTgt mlT; simp only [h1], h2⟩
  | starred e =>
      unfold loadsOkT at ok
      unfold targetNames at sb
      obtain ⟨h1, h2⟩ := xsTgt_spec e L env h ok sb
      exact ⟨by unfold xsTgt mlT; simp only [h1], h2⟩
  -- on an attribute / subscript target the target visitor does what the load mapper does
  | «attribute» v a => exact ⟨xt_spec h (.attribute v a) ok, h⟩
  | subscript v sl => exact ⟨xt_spec h (.subscript v sl) ok, h⟩
  | _ => exact ⟨rfl, h⟩
theorem xsTgtL_spec : ∀ (ts : List PyExpr) (L : List Scope) (env : SEnv), Rel L env →
    loadsOkTL (directOk env) plainName ts = true → SubB env (targetNamesL ts) →
    (xsTgtL L ts).1 = mlTL pyOps env ts ∧ Rel (xsTgtL L ts).2 env
  | [], L, env, h, _, _ => ⟨rfl, h⟩
  | e :: es, L, env, h, ok, sb => by
      unfold loadsOkTL at ok; rw [Bool.and_eq_true] at ok
      unfold targetNamesL at sb
      obtain ⟨h1, h2⟩ := xsTgt_spec e L env h ok.1 (subB_left sb)
      obtain ⟨h3, h4⟩ := xsTgtL_spec es _ env h2 ok.2 (subB_right sb)
      exact ⟨by unfold xsTgtL mlTL; simp only [h1, h3], h4⟩
end

theorem xsItems_spec : ∀ (items : List (PyExpr × Option PyExpr)) (L : List Scope) (env : SEnv), Rel L env →
    okItems env items = true → SubB env (items.map fun i => targetNamesO i.2).flatten →
    (xsItems L items).1 = specItems env items ∧ Rel (xsItems L items).2 env
  | [], L, env, h, _, _ => ⟨rfl, h⟩
  | (c, none) :: r, L, env, h, ok, sb => by
      simp only [okItems, Bool.and_eq_true] at ok
      simp only [List.map_cons, List.flatten_cons, targetNamesO, List.nil_append] at sb
      obtain ⟨h1, h2⟩ := xsItems_spec r L env h ok.2 sb
      exact ⟨by simp only [xsItems, specItems, xt_spec h c ok.1, h1], h2⟩
  | (c, some v) :: r, L, env, h, ok, sb => by
      simp only [okItems, Bool.and_eq_true] at ok
      simp only [List.map_cons, List.flatten_cons, targetNamesO] at sb
      obtain ⟨h1, h2⟩ := xsTgt_spec v L env h ok.1.2 (subB_left sb)
      obtain ⟨h3, h4⟩ := xsItems_spec r _ env h2 ok.2 (subB_right sb)
      exact ⟨by simp only [xsItems, specItems, xt_spec h c ok.1.1, h1, h3], h4⟩

theorem aliasNames_eq (ns : List (Str × Option Str)) : ns.map aliasName = ns.map importBinds :=
  List.map_congr_left fun a _ => by rcases a with ⟨n, _ | a⟩ <;> rfl

mutual
/-- genshi's `_bound_names` finds the names Python's rule says are bound (on accepted programs) -/
theorem bnS_eq : ∀ (s : PyStmt) (env : SEnv), okS env s = true → bnS s = bindsS s := by
  intro s env ok
  cases s with
  | import_ ns | importFrom _ ns _ => unfold bnS bindsS; rw [aliasNames_eq]
  | if_ _ b o | while_ _ b o | for_ _ _ b o =>
      unfold okS at ok; simp only [Bool.and_eq_true] at ok
      unfold bnS bindsS; rw [bnB_eq b env ok.1.2, bnB_eq o env ok.2]
  | with_ _ b =>
      unfold okS at ok; rw [Bool.and_eq_true] at ok
      unfold bnS bindsS; rw [bnB_eq b env ok.2]
  | try_ b hs o f =>
      unfold okS at ok; simp only [Bool.and_eq_true] at ok
      unfold bnS bindsS; rw [bnB_eq b env ok.1.1.1, bnB_eq hs env ok.1.1.2, bnB_eq o env ok.1.2, bnB_eq f env ok.2]
  | handler _ n b =>
      unfold okS at ok; simp only [Bool.and_eq_true, Option.isNone_iff_eq_none] at ok
      unfold bnS bindsS; rw [ok.1.1, bnB_eq b env ok.2]; rfl
  | _ => rfl
theorem bnB_eq : ∀ (ss : List PyStmt) (env : SEnv), okB env ss = true → bnB ss = bindsB ss
  | [], _, _ => rfl
  | s :: ss, env, ok => by
      unfold okB at ok; rw [Bool.and_eq_true] at ok
      unfold bnB bindsB; rw [bnS_eq s env ok.1, bnB_eq ss env ok.2]
end

mutual
theorem xsS_spec : ∀ (s : PyStmt) (L : List Scope) (env : SEnv), Rel L env → okS env s = true →
    SubB env (bindsS s) → (xsS L s).1 = specS env s ∧ Rel (xsS L s).2 env := by
  intro s L env h ok sb
  cases s with
  | expr e =>
      unfold okS at ok
      exact ⟨by unfold xsS specS; simp only [xt_spec h e ok], h⟩
  | assign ts v =>
      unfold okS at ok; simp only [Bool.and_eq_true] at ok
      unfold bindsS at sb
      obtain ⟨h1, h2⟩ := xsTgtL_spec ts L env h ok.1 sb
      exact ⟨by unfold xsS specS; simp only [h1, xt_spec h2 v ok.2], h2⟩
  | augAssign t op v =>
      unfold okS at ok; simp only [Bool.and_eq_true] at ok
      unfold bindsS at sb
      obtain ⟨h1, h2⟩ := xsTgt_spec t L env h ok.1 sb
      exact ⟨by unfold xsS specS; simp only [h1, xt_spec h2 v ok.2], h2⟩
  | return_ v =>
      unfold okS at ok
      exact ⟨by unfold xsS specS; simp only [xtO_spec h v ok], h⟩
  | delete ts =>
      unfold okS at ok
      exact ⟨by unfold xsS specS; simp only [xtTL_spec h ts ok], h⟩
  | assert_ t m =>
      unfold okS at ok; simp only [Bool.and_eq_true] at ok
      exact ⟨by unfold xsS specS; simp only [xt_spec h t ok.1, xtO_spec h m ok.2], h⟩
  | raise_ e c =>
      unfold okS at ok; simp only [Bool.and_eq_true] at ok
      exact ⟨by unfold xsS specS; simp only [xtO_spec h e ok.1, xtO_spec h c ok.2], h⟩
  | global_ _ => cases ok
  | import_ ns =>
      unfold bindsS at sb; rw [← aliasNames_eq] at sb
      exact ⟨rfl, rel_addTop h _ sb⟩
  | importFrom m ns lvl =>
      unfold okS at ok; rw [Bool.not_eq_true'] at ok
      unfold bindsS at sb; rw [← aliasNames_eq] at sb
      unfold xsS; simp only [ok, Bool.false_eq_true, if_false]
      exact ⟨rfl, rel_addTop h _ sb⟩
  | if_ t b o | while_ t b o =>
      unfold okS at ok; simp only [Bool.and_eq_true] at ok
      unfold bindsS at sb
      obtain ⟨hb1, hb2⟩ := xsB_spec b L env h ok.1.2 (subB_left sb)
      obtain ⟨ho1, ho2⟩ := xsB_spec o _ env hb2 ok.2 (subB_right sb)
      exact ⟨by unfold xsS specS; simp only [xt_spec h t ok.1.1, hb1, ho1], ho2⟩
  | for_ t it b o =>
      unfold okS at ok; simp only [Bool.and_eq_true] at ok
      unfold bindsS at sb
      obtain ⟨ht1, ht2⟩ := xsTgt_spec t L env h ok.1.1.1 (subB_left sb)
      obtain ⟨hb1, hb2⟩ := xsB_spec b _ env ht2 ok.1.2 (subB_left (subB_right sb))
      obtain ⟨ho1, ho2⟩ := xsB_spec o _ env hb2 ok.2 (subB_right (subB_right sb))
      exact ⟨by unfold xsS specS; simp only [ht1, xt_spec ht2 it ok.1.1.2, hb1, ho1], ho2⟩
  | with_ items b =>
      unfold okS at ok; simp only [Bool.and_eq_true] at ok
      unfold bindsS at sb
      obtain ⟨hi1, hi2⟩ := xsItems_spec items L env h ok.1 (subB_left sb)
      obtain ⟨hb1, hb2⟩ := xsB_spec b _ env hi2 ok.2 (subB_right sb)
      exact ⟨by unfold xsS specS; simp only [hi1, hb1], hb2⟩
  | try_ b hs o f =>
      unfold okS at ok; simp only [Bool.and_eq_true] at ok
      unfold bindsS at sb
      obtain ⟨hb1, hb2⟩ := xsB_spec b L env h ok.1.1.1 (subB_left sb)
      obtain ⟨hh1, hh2⟩ := xsB_spec hs _ env hb2 ok.1.1.2 (subB_left (subB_right sb))
      obtain ⟨ho1, ho2⟩ := xsB_spec o _ env hh2 ok.1.2 (subB_left (subB_right (subB_right sb)))
      obtain ⟨hf1, hf2⟩ := xsB_spec f _ env ho2 ok.2 (subB_right (subB_right (subB_right sb)))
      exact ⟨by unfold xsS specS; simp only [hb1, hh1, ho1, hf1], hf2⟩
  | handler t n b =>
      unfold okS at ok; simp only [Bool.and_eq_true] at ok
      unfold bindsS at sb
      obtain ⟨hb1, hb2⟩ := xsB_spec b L env h ok.2 (subB_right sb)
      exact ⟨by unfold xsS specS; simp only [xtO_spec h t ok.1.2, hb1], hb2⟩
  | functionDef name po ar va ko ka body decos ret tp =>
      unfold okS at ok; simp only [Bool.and_eq_true] at ok
      obtain ⟨⟨⟨⟨⟨⟨⟨k1, k2⟩, k3⟩, k4⟩, k5⟩, k6⟩, k7⟩, k8⟩ := ok
      unfold bindsS at sb
      have h1 : Rel (addTop L [name]) env := rel_addTop h [name] sb
      have hbn := bnB_eq body _ k8
      have hc := rel_child_fun h1 (paramNames po ar va ko ka ++ bindsB body)
      obtain ⟨hb1, _⟩ := xsB_spec body _ _ hc k8 (subB_refl _ _ _ _)
      refine ⟨?_, h1⟩
      unfold xsS specS
      simp only [hbn, xtL_spec h1 po k1, xtL_spec h1 ar k2, xtO_spec h1 va k3, xtL_spec h1 ko k4,
        xtO_spec h1 ka k5, xtL_spec h1 decos k6, xtO_spec h1 ret k7, hb1]
  | classDef name bases kws body decos tp =>
      unfold okS at ok; simp only [Bool.and_eq_true] at ok
      obtain ⟨⟨⟨k1, k2⟩, k3⟩, k4⟩ := ok
      unfold bindsS at sb
      have h1 : Rel (addTop L [name]) env := rel_addTop h [name] sb
      have hc := rel_child_cls h1 (bindsB body)
      obtain ⟨hb1, _⟩ := xsB_spec body _ _ hc k4 (subB_refl _ [] _ _)
      refine ⟨?_, h1⟩
      unfold xsS specS
      simp only [xtL_spec h1 bases k1, xtL_spec h1 kws k2, xtL_spec h1 decos k3, hb1]
  | pass_ | break_ | continue_ | unsupported _ => exact ⟨rfl, h⟩
theorem xsB_spec : ∀ (ss : List PyStmt) (L : List Scope) (env : SEnv), Rel L env → okB env ss = true →
    SubB env (bindsB ss) → (xsB L ss).1 = specB env ss ∧ Rel (xsB L ss).2 env
  | [], _, _, h, _, _ => ⟨rfl, h⟩
  | s :: ss, L, env, h, ok, sb => by
      unfold okB at ok; rw [Bool.and_eq_true] at ok
      unfold bindsB at sb
      obtain ⟨h1, h2⟩ := xsS_spec s L env h ok.1 (subB_left sb)
      obtain ⟨h3, h4⟩ := xsB_spec ss _ env h2 ok.2 (subB_right sb)
      exact ⟨by unfold xsB specB; simp only [h1, h3], h4⟩
end

theorem xformS_spec (body : List PyStmt) (ok : okModule body = true) : xformS body = specModule body :=
  (xsB_spec body _ moduleEnv rel_module ok (fun hm => absurd rfl hm)).1

end Genshi.Py
