/-
  C13 — statement mode: the transformed program is again a supported program.
  `WF e → WF (ml ops s e)` for every instance of the generic load mapper (a load is either kept or
  becomes `_lookup_name(__data__, 'x')`, both well-formed; every other node keeps its class and its
  fields are mapped), and `WFS s → WFS (xsS L s).1` for the statement transformer, so that
  `parseS_genS` applies to `xformS ss` without a side hypothesis.
-/
import Genshi.Model.PyStmtX
import Genshi.Lemmas.PyXform
namespace Genshi.Py
open Genshi.Gen

variable {σ : Type} (ops : NameOps σ)

theorem wf_loadOf (s : σ) (id : Str) (h : IdentOK id) : WF (loadOf ops s id) := by
  unfold loadOf
  split
  · exact h
  · exact wf_lookupName id

theorem isExpr_loadOf (s : σ) (id : Str) : isExpr (loadOf ops s id) = true := by
  unfold loadOf
  split <;> rfl

theorem isIntConst_loadOf (s : σ) (id : Str) : isIntConst (loadOf ops s id) = false := by
  unfold loadOf
  split <;> rfl

theorem isSlice_loadOf (s : σ) (id : Str) : isSlice (loadOf ops s id) = false := by
  unfold loadOf
  split <;> rfl

/-- `ml` keeps the node class; a name load becomes a name or a call, both of them expressions.
    (`eq_refl` instead of `rfl`: the same check, without the search for other `@[refl]` lemmas.) -/
theorem isExpr_ml (s : σ) (e : PyExpr) : isExpr (ml ops s e) = isExpr e := by
  cases e with
  | name id => exact isExpr_loadOf ops s id
  | _ => eq_refl

theorem isElt_ml (s : σ) (e : PyExpr) : isElt (ml ops s e) = isElt e := by
  cases e with
  | name id => unfold ml loadOf; split <;> rfl
  | _ => eq_refl

theorem isIntConst_ml (s : σ) (e : PyExpr) : isIntConst (ml ops s e) = isIntConst e := by
  cases e with
  | name id => exact isIntConst_loadOf ops s id
  | _ => eq_refl

theorem isSlice_ml (s : σ) (e : PyExpr) : isSlice (ml ops s e) = isSlice e := by
  cases e with
  | name id => exact isSlice_loadOf ops s id
  | _ => eq_refl

theorem isKw_ml (s : σ) (e : PyExpr) : isKw (ml ops s e) = isKw e := by
  cases e with
  | name id => unfold ml loadOf; split <;> rfl
  | _ => eq_refl

theorem isCmp_ml (s : σ) (e : PyExpr) : isCmp (ml ops s e) = isCmp e := by
  cases e with
  | name id => unfold ml loadOf; split <;> rfl
  | _ => eq_refl

theorem isComp_ml (s : σ) (e : PyExpr) : isComp (ml ops s e) = isComp e := by
  cases e with
  | name id => unfold ml loadOf; split <;> rfl
  | _ => eq_refl

theorem isParam_ml (s : σ) (e : PyExpr) : isParam (ml ops s e) = isParam e := by
  cases e with
  | name id => unfold ml loadOf; split <;> rfl
  | _ => eq_refl

theorem isDItem_ml (s : σ) (e : PyExpr) : isDItem (ml ops s e) = isDItem e := by
  cases e with
  | name id => unfold ml loadOf; split <;> rfl
  | dictItem k v => cases k <;> rfl
  | _ => eq_refl

theorem isPlainParam_ml (s : σ) (e : PyExpr) : isPlainParam (ml ops s e) = isPlainParam e := by
  cases e with
  | name id => unfold ml loadOf; split <;> rfl
  | param n ann d => cases ann <;> rfl
  | _ => eq_refl

theorem isVarParam_ml (s : σ) (e : PyExpr) : isVarParam (ml ops s e) = isVarParam e := by
  cases e with
  | name id => unfold ml loadOf; split <;> rfl
  | param n ann d => cases ann <;> cases d <;> rfl
  | _ => eq_refl

theorem isAnyVarParam_ml (s : σ) (e : PyExpr) : isAnyVarParam (ml ops s e) = isAnyVarParam e := by
  cases e with
  | name id => unfold ml loadOf; split <;> rfl
  | param n ann d => cases d <;> rfl
  | _ => eq_refl

theorem exprO_mlO (s : σ) (o : Option PyExpr) : exprO (mlO ops s o) = exprO o := by
  cases o with
  | none => rfl
  | some e => exact isExpr_ml ops s e

theorem mlL_eq_map (s : σ) (es : List PyExpr) : mlL ops s es = es.map (ml ops s) := by
  induction es with
  | nil => rfl
  | cons e r ih => rw [mlL, ih]; rfl

theorem mlTL_eq_map (s : σ) (es : List PyExpr) : mlTL ops s es = es.map (mlT ops s) := by
  induction es with
  | nil => rfl
  | cons e r ih => rw [mlTL, ih]; rfl

theorem all_mlL (p : PyExpr → Bool) (hp : ∀ s e, p (ml ops s e) = p e) (s : σ) (es : List PyExpr) :
    (mlL ops s es).all p = es.all p := by
  simp only [mlL_eq_map, List.all_map, Function.comp_def, hp]

theorem length_mlL (s : σ) (es : List PyExpr) : (mlL ops s es).length = es.length := by
  rw [mlL_eq_map, List.length_map]

theorem mlL_ne_nil (s : σ) (es : List PyExpr) (h : es ≠ []) : mlL ops s es ≠ [] := by
  rwa [mlL_eq_map, ne_eq, List.map_eq_nil_iff]

theorem var_mlO (p : PyExpr → Bool) (hp : ∀ s e, p (ml ops s e) = p e) (s : σ) (o : Option PyExpr)
    (h : ∀ v, o = some v → p v = true) : ∀ v, mlO ops s o = some v → p v = true := by
  intro v hv
  cases o with
  | none => simp [mlO] at hv
  | some q =>
    simp only [mlO, Option.some.injEq] at hv
    subst hv
    rw [hp]
    exact h q rfl

theorem isExpr_mlT (s : σ) (e : PyExpr) : isExpr (mlT ops s e) = isExpr e := by
  unfold mlT; split <;> rfl

theorem isElt_mlT (s : σ) (e : PyExpr) : isElt (mlT ops s e) = isElt e := by
  unfold mlT; split <;> rfl

theorem isIntConst_mlT (s : σ) (e : PyExpr) : isIntConst (mlT ops s e) = isIntConst e := by
  unfold mlT; split <;> rfl

theorem all_mlTL (s : σ) (es : List PyExpr) : (mlTL ops s es).all isElt = es.all isElt := by
  simp only [mlTL_eq_map, List.all_map, Function.comp_def, isElt_mlT]

theorem mlGens_ne_nil (s0 s1 : σ) (gens : List PyExpr) (h : gens ≠ []) : mlGens ops s0 s1 gens ≠ [] := by
  unfold mlGens
  split
  · exact h
  · exact List.cons_ne_nil _ _
  · exact List.cons_ne_nil _ _

theorem all_isComp_mlGens : ∀ (gens : List PyExpr) (s0 s1 : σ), gens.all isComp = true →
    (mlGens ops s0 s1 gens).all isComp = true
  | [], _, _, _ => rfl
  | e :: r, s0, s1, h => by
      rw [List.all_cons, Bool.and_eq_true] at h
      cases e with
      | comp t it ifs a => exact all_isComp_mlGens r s1 s1 h.2
      | _ => exact absurd h.1 Bool.false_ne_true

mutual
theorem wf_ml : ∀ (e : PyExpr) (s : σ), WF e → WF (ml ops s e) := by
  intro e s h
  cases e with
  | name id => exact wf_loadOf ops s id h
  | const c => exact h
  | unsupported _ => unfold WF at h; exact h.elim
  | unaryOp _ e | keyword _ e | cmpRhs _ e =>
      unfold WF at h; unfold ml WF; rw [isExpr_ml]
      exact ⟨h.1, wf_ml e s h.2.1, h.2.2⟩
  | starred e =>
      unfold WF at h; unfold ml WF; rw [isExpr_ml]
      exact ⟨wf_ml e s h.1, h.2⟩
  | «attribute» v a =>
      unfold WF at h; unfold ml WF; rw [isExpr_ml, isIntConst_ml]
      exact ⟨wf_ml v s h.1, h.2⟩
  | boolOp op vs =>
      unfold WF at h; unfold ml WF; rw [length_mlL, all_mlL ops _ (isExpr_ml ops)]
      exact ⟨h.1, h.2.1, wf_mlL vs s h.2.2.1, h.2.2.2⟩
  | binOp l op r =>
      unfold WF at h; unfold ml WF; simp only [isExpr_ml]
      exact ⟨h.1, wf_ml l s h.2.1, wf_ml r s h.2.2.1, h.2.2.2⟩
  | ifExp t b o =>
      unfold WF at h; unfold ml WF; simp only [isExpr_ml]
      exact ⟨wf_ml t s h.1, wf_ml b s h.2.1, wf_ml o s h.2.2.1, h.2.2.2⟩
  | dict items =>
      unfold WF at h; unfold ml WF; rw [all_mlL ops _ (isDItem_ml ops)]
      exact ⟨wf_mlL items s h.1, h.2⟩
  | list elts | tuple elts =>
      unfold WF at h; unfold ml WF; rw [all_mlL ops _ (isElt_ml ops)]
      exact ⟨wf_mlL elts s h.1, h.2⟩
  | yield_ v =>
      unfold WF at h; unfold ml WF; rw [exprO_mlO]
      exact ⟨wf_mlO v s h.1, h.2⟩
  | compare l rest =>
      unfold WF at h; unfold ml WF; rw [isExpr_ml, all_mlL ops _ (isCmp_ml ops)]
      exact ⟨wf_ml l s h.1, h.2.1, wf_mlL rest s h.2.2.1, mlL_ne_nil ops s rest h.2.2.2.1, h.2.2.2.2⟩
  | call f args kws =>
      unfold WF at h; unfold ml WF; rw [isExpr_ml, all_mlL ops _ (isElt_ml ops), all_mlL ops _ (isKw_ml ops)]
      exact ⟨wf_ml f s h.1, h.2.1, wf_mlL args s h.2.2.1, h.2.2.2.1, wf_mlL kws s h.2.2.2.2.1, h.2.2.2.2.2⟩
  | subscript v sl =>
      unfold WF at h; unfold ml WF; simp only [isExpr_ml, isSlice_ml]
      exact ⟨wf_ml v s h.1, h.2.1, wf_ml sl s h.2.2.1, h.2.2.2⟩
  | slice l u st =>
      unfold WF at h; unfold ml WF; simp only [exprO_mlO]
      exact ⟨wf_mlO l s h.1, wf_mlO u s h.2.1, wf_mlO st s h.2.2.1, h.2.2.2⟩
  | comp t it ifs a =>
      unfold WF at h; unfold ml WF; rw [isExpr_ml, isExpr_mlT, all_mlL ops _ (isExpr_ml ops)]
      exact ⟨wf_mlT t s h.1, h.2.1, wf_ml it s h.2.2.1, h.2.2.2.1, wf_mlL ifs s h.2.2.2.2.1, h.2.2.2.2.2⟩
  | param n ann d =>
      unfold WF at h; unfold ml WF; simp only [exprO_mlO]
      exact ⟨h.1, wf_mlO ann s h.2.1, wf_mlO d s h.2.2.1, h.2.2.2⟩
  | dictItem k v =>
      unfold WF at h; unfold ml WF; rw [exprO_mlO, isExpr_ml]
      exact ⟨wf_mlO k s h.1, h.2.1, wf_ml v s h.2.2.1, h.2.2.2⟩
  | lambda po ar va ko ka body =>
      unfold WF at h
      obtain ⟨h1, h2, h3, h4, h5, h6, h7, h8, h9, h10, h11, h12⟩ := h
      unfold ml WF; simp only [isExpr_ml, all_mlL ops _ (isPlainParam_ml ops)]
      exact ⟨wf_mlL po s h1, wf_mlL ar s h2, wf_mlO va s h3, wf_mlL ko s h4, wf_mlO ka s h5, wf_ml body _ h6,
        h7, h8, h9, h10, var_mlO ops _ (isVarParam_ml ops) s va h11, var_mlO ops _ (isVarParam_ml ops) s ka h12⟩
  | listComp elt gens | genExp elt gens =>
      unfold WF at h; unfold ml WF; rw [isExpr_ml]
      exact ⟨wf_ml elt _ h.1, h.2.1, wfl_mlGens gens s _ h.2.2.1, mlGens_ne_nil ops s _ gens h.2.2.2.1,
        all_isComp_mlGens ops gens s _ h.2.2.2.2⟩
theorem wf_mlL : ∀ (es : List PyExpr) (s : σ), WFL es → WFL (mlL ops s es)
  | [], _, _ => trivial
  | e :: es, s, h => by
      unfold WFL at h; unfold mlL WFL
      exact ⟨wf_ml e s h.1, wf_mlL es s h.2⟩
theorem wf_mlO : ∀ (o : Option PyExpr) (s : σ), WFO o → WFO (mlO ops s o)
  | none, _, _ => trivial
  | some e, s, h => wf_ml e s h
theorem wfl_mlGens : ∀ (gens : List PyExpr) (s0 s1 : σ), WFL gens → WFL (mlGens ops s0 s1 gens)
  | [], _, _, _ => trivial
  | e :: r, s0, s1, h => by
      unfold WFL at h
      have hr := wfl_mlGens r s1 s1 h.2
      cases e with
      | comp t it ifs a =>
          have hc := h.1
          unfold WF at hc
          unfold mlGens WFL WF; rw [isExpr_ml, isExpr_mlT, all_mlL ops _ (isExpr_ml ops)]
          exact ⟨⟨wf_mlT t s1 hc.1, hc.2.1, wf_ml it s0 hc.2.2.1, hc.2.2.2.1, wf_mlL ifs s1 hc.2.2.2.2.1,
            hc.2.2.2.2.2⟩, hr⟩
      | _ => exact ⟨wf_ml _ s1 h.1, hr⟩
theorem wf_mlT : ∀ (t : PyExpr) (s : σ), WF t → WF (mlT ops s t) := by
  intro t s h
  cases t with
  | tuple elts | list elts =>
      unfold WF at h; unfold mlT WF; rw [all_mlTL]
      exact ⟨wf_mlTL elts s h.1, h.2⟩
  | starred e =>
      unfold WF at h; unfold mlT WF; rw [isExpr_mlT]
      exact ⟨wf_mlT e s h.1, h.2⟩
  | «attribute» v a =>
      unfold WF at h; unfold mlT WF; rw [isExpr_ml, isIntConst_ml]
      exact ⟨wf_ml v s h.1, h.2⟩
  | subscript v sl =>
      unfold WF at h; unfold mlT WF; simp only [isExpr_ml, isSlice_ml]
      exact ⟨wf_ml v s h.1, h.2.1, wf_ml sl s h.2.2.1, h.2.2.2⟩
  | _ => exact h
theorem wf_mlTL : ∀ (ts : List PyExpr) (s : σ), WFL ts → WFL (mlTL ops s ts)
  | [], _, _ => trivial
  | t :: ts, s, h => by
      unfold WFL at h; unfold mlTL WFL
      exact ⟨wf_mlT t s h.1, wf_mlTL ts s h.2⟩
end

theorem wf_mlGens : ∀ (gens : List PyExpr) (s0 s1 : σ), WFL gens → gens.all isComp = true → gens ≠ [] →
    WFL (mlGens ops s0 s1 gens) ∧ mlGens ops s0 s1 gens ≠ [] ∧ (mlGens ops s0 s1 gens).all isComp = true :=
  fun gens s0 s1 h hall hne =>
    ⟨wfl_mlGens ops gens s0 s1 h, mlGens_ne_nil ops s0 s1 gens hne, all_isComp_mlGens ops gens s0 s1 hall⟩

theorem supported_ml (s : σ) (e : PyExpr) (h : Supported e) : Supported (ml ops s e) :=
  ⟨wf_ml ops e s h.1, by rw [isExpr_ml]; exact h.2⟩

theorem supportedO_mlO (s : σ) (o : Option PyExpr) (h : SupportedO o) : SupportedO (mlO ops s o) := by
  intro x hx
  cases o with
  | none => simp [mlO] at hx
  | some e =>
    simp only [mlO, Option.some.injEq] at hx
    subst hx
    exact supported_ml ops s e (h e rfl)

theorem supported_mlL (s : σ) (es : List PyExpr) (h : ∀ e ∈ es, Supported e) : ∀ e ∈ mlL ops s es, Supported e := by
  rw [mlL_eq_map, List.forall_mem_map]
  exact fun e he => supported_ml ops s e (h e he)

theorem supported_mlTL (s : σ) (es : List PyExpr) (h : ∀ e ∈ es, Supported e) : ∀ e ∈ mlTL ops s es, Supported e := by
  rw [mlTL_eq_map, List.forall_mem_map]
  exact fun e he => ⟨wf_mlT ops e s (h e he).1, by rw [isExpr_mlT]; exact (h e he).2⟩

theorem mlTL_ne_nil (s : σ) (es : List PyExpr) (h : es ≠ []) : mlTL ops s es ≠ [] := by
  rwa [mlTL_eq_map, ne_eq, List.map_eq_nil_iff]

theorem isExpr_xsTgt (L : List Scope) (e : PyExpr) : isExpr (xsTgt L e).1 = isExpr e := by
  unfold xsTgt; split <;> rfl

theorem isElt_xsTgt (L : List Scope) (e : PyExpr) : isElt (xsTgt L e).1 = isElt e := by
  unfold xsTgt; split <;> rfl

theorem all_xsTgtL (es : List PyExpr) : ∀ L : List Scope, (xsTgtL L es).1.all isElt = es.all isElt := by
  induction es with
  | nil => intro L; rfl
  | cons e r ih => intro L; simp [xsTgtL, isElt_xsTgt, ih]

mutual
theorem wf_xsTgt : ∀ (t : PyExpr) (L : List Scope), WF t → WF (xsTgt L t).1 := by
  intro t L h
  cases t with
  | tuple elts | list elts =>
      unfold WF at h; unfold xsTgt WF; rw [all_xsTgtL]
      exact ⟨wf_xsTgtL elts L h.1, h.2⟩
  | starred e =>
      unfold WF at h; unfold xsTgt WF; rw [isExpr_xsTgt]
      exact ⟨wf_xsTgt e L h.1, h.2⟩
  -- on an attribute / subscript target the target visitor does what the load mapper does
  | «attribute» v a => exact wf_ml genshiOps (.attribute v a) L h
  | subscript v sl => exact wf_ml genshiOps (.subscript v sl) L h
  | _ => exact h
theorem wf_xsTgtL : ∀ (ts : List PyExpr) (L : List Scope), WFL ts → WFL (xsTgtL L ts).1
  | [], _, _ => trivial
  | t :: ts, L, h => by
      unfold WFL at h; unfold xsTgtL WFL
      exact ⟨wf_xsTgt t L h.1, wf_xsTgtL ts _ h.2⟩
end

theorem supported_xsTgt (L : List Scope) (e : PyExpr) (h : Supported e) : Supported (xsTgt L e).1 :=
  ⟨wf_xsTgt e L h.1, by rw [isExpr_xsTgt]; exact h.2⟩

theorem supportedO_xsTgt (L : List Scope) (e : PyExpr) (h : SupportedO (some e)) : SupportedO (some (xsTgt L e).1) := by
  intro x hx
  simp only [Option.some.injEq] at hx
  subst hx
  exact supported_xsTgt L e (h e rfl)

theorem supported_xsTgtL (es : List PyExpr) : ∀ (L : List Scope), (∀ e ∈ es, Supported e) →
    ∀ e ∈ (xsTgtL L es).1, Supported e := by
  induction es with
  | nil => intro L _ e he; simp [xsTgtL] at he
  | cons x r ih =>
    intro L h e he
    simp only [xsTgtL, List.mem_cons] at he
    rcases he with rfl | he
    · exact supported_xsTgt L x (h x (by simp))
    · exact ih _ (fun y hy => h y (by simp [hy])) e he

theorem xsTgtL_ne_nil (L : List Scope) (es : List PyExpr) (h : es ≠ []) : (xsTgtL L es).1 ≠ [] := by
  cases es with
  | nil => exact absurd rfl h
  | cons e r => simp [xsTgtL]

theorem supported_xsItems (items : List (PyExpr × Option PyExpr)) : ∀ (L : List Scope),
    (∀ i ∈ items, Supported i.1 ∧ SupportedO i.2) → ∀ i ∈ (xsItems L items).1, Supported i.1 ∧ SupportedO i.2 := by
  induction items with
  | nil => intro L _ i hi; simp [xsItems] at hi
  | cons x r ih =>
    intro L h i hi
    obtain ⟨c, v⟩ := x
    have hx := h (c, v) (by simp)
    have hr : ∀ i ∈ r, Supported i.1 ∧ SupportedO i.2 := fun y hy => h y (by simp [hy])
    cases v with
    | none =>
      simp only [xsItems, List.mem_cons] at hi
      rcases hi with rfl | hi
      · exact ⟨supported_ml _ L c hx.1, by intro x hx; cases hx⟩
      · exact ih _ hr i hi
    | some t =>
      simp only [xsItems, List.mem_cons] at hi
      rcases hi with rfl | hi
      · exact ⟨supported_ml _ L c hx.1, supportedO_xsTgt L t hx.2⟩
      · exact ih _ hr i hi

theorem xsItems_ne_nil (L : List Scope) (items : List (PyExpr × Option PyExpr)) (h : items ≠ []) :
    (xsItems L items).1 ≠ [] := by
  cases items with
  | nil => exact absurd rfl h
  | cons x r =>
    obtain ⟨c, v⟩ := x
    cases v <;> simp [xsItems]

theorem isHandler_xsS (L : List Scope) (s : PyStmt) : isHandler (xsS L s).1 = isHandler s := by
  cases s with
  | importFrom m ns lvl => unfold xsS; split <;> rfl
  | _ => eq_refl

theorem noHandlers_xsB (ss : List PyStmt) : ∀ L : List Scope, noHandlers (xsB L ss).1 = noHandlers ss := by
  induction ss with
  | nil => intro L; rfl
  | cons s r ih =>
    intro L
    have := ih (xsS L s).2
    simp only [noHandlers] at this ⊢
    simp [xsB, isHandler_xsS, this]

theorem allHandlers_xsB (ss : List PyStmt) : ∀ L : List Scope, (xsB L ss).1.all isHandler = ss.all isHandler := by
  induction ss with
  | nil => intro L; rfl
  | cons s r ih => intro L; simp [xsB, isHandler_xsS, ih]

theorem paramsOK_xt (L : List Scope) (po ar : List PyExpr) (va : Option PyExpr) (ko : List PyExpr) (ka : Option PyExpr)
    (h : ParamsOK po ar va ko ka) : ParamsOK (xtL L po) (xtL L ar) (xtO L va) (xtL L ko) (xtO L ka) := by
  obtain ⟨h1, h2, h3, h4, h5, h6, h7, h8, h9, h10⟩ := h
  simp only [ParamsOK, xtL, xtO, all_mlL _ _ (isParam_ml _)]
  exact ⟨wf_mlL _ po L h1, wf_mlL _ ar L h2, wf_mlO _ va L h3, wf_mlL _ ko L h4, wf_mlO _ ka L h5, h6, h7, h8,
    var_mlO _ _ (isAnyVarParam_ml _) L va h9, var_mlO _ _ (isAnyVarParam_ml _) L ka h10⟩

theorem wfs_xsS : ∀ (s : PyStmt) (L : List Scope), WFS s → WFS (xsS L s).1 := by
  intro s
  apply PyStmt.rec (motive_1 := fun s => ∀ L, WFS s → WFS (xsS L s).1) (motive_2 := fun ss => ∀ L, WFSL ss → WFSL (xsB L ss).1)
  case pass_ | break_ | continue_ => intro L h; trivial
  case global_ | unsupported => intro _ L h; unfold WFS at h; exact h.elim
  case import_ => intro ns L h; exact h
  case importFrom => intro m ns lvl L h; unfold xsS; split <;> exact h
  case expr => intro e L h; unfold WFS at h; unfold xsS WFS; exact supported_ml _ L e h
  case return_ => intro v L h; unfold WFS at h; unfold xsS WFS; exact supportedO_mlO _ L v h
  case assign =>
    intro ts v L h
    unfold WFS at h; unfold xsS WFS
    exact ⟨xsTgtL_ne_nil L ts h.1, supported_xsTgtL ts L h.2.1, supported_ml _ _ v h.2.2⟩
  case augAssign =>
    intro t op v L h
    unfold WFS at h; unfold xsS WFS
    exact ⟨h.1, supported_xsTgt L t h.2.1, supported_ml _ _ v h.2.2⟩
  case delete =>
    intro ts L h
    unfold WFS at h; unfold xsS WFS
    exact ⟨mlTL_ne_nil _ L ts h.1, supported_mlTL _ L ts h.2⟩
  case assert_ =>
    intro t m L h
    unfold WFS at h; unfold xsS WFS
    exact ⟨supported_ml _ L t h.1, supportedO_mlO _ L m h.2⟩
  case raise_ =>
    intro e c L h
    unfold WFS at h; unfold xsS WFS
    refine ⟨supportedO_mlO _ L e h.1, supportedO_mlO _ L c h.2.1, fun he => ?_⟩
    cases e with
    | none => rw [h.2.2 rfl]; rfl
    | some x => cases he
  case if_ | while_ =>
    intro t b o ih_b ih_o L h
    unfold WFS at h; unfold xsS WFS; simp only [noHandlers_xsB]
    exact ⟨supported_ml _ L t h.1, ih_b L h.2.1, ih_o _ h.2.2.1, h.2.2.2⟩
  case for_ =>
    intro t it b o ih_b ih_o L h
    unfold WFS at h; unfold xsS WFS; simp only [noHandlers_xsB]
    exact ⟨supported_xsTgt L t h.1, supported_ml _ _ it h.2.1, ih_b _ h.2.2.1, ih_o _ h.2.2.2.1, h.2.2.2.2⟩
  case with_ =>
    intro items b ih_b L h
    unfold WFS at h; unfold xsS WFS; simp only [noHandlers_xsB]
    exact ⟨xsItems_ne_nil L items h.1, supported_xsItems items L h.2.1, ih_b _ h.2.2.1, h.2.2.2⟩
  case try_ =>
    intro b hs o f ih_b ih_hs ih_o ih_f L h
    unfold WFS at h; unfold xsS WFS; simp only [noHandlers_xsB, allHandlers_xsB]
    exact ⟨ih_b L h.1, ih_hs _ h.2.1, h.2.2.1, ih_o _ h.2.2.2.1, ih_f _ h.2.2.2.2.1, h.2.2.2.2.2⟩
  case handler =>
    intro t n b ih_b L h
    unfold WFS at h; unfold xsS WFS; simp only [noHandlers_xsB]
    exact ⟨supportedO_mlO _ L t h.1, h.2.1, ih_b L h.2.2.1, h.2.2.2⟩
  case functionDef =>
    intro name po ar va ko ka body decos ret tp ih_body L h
    unfold WFS at h; unfold xsS WFS; simp only [noHandlers_xsB]
    exact ⟨h.1, paramsOK_xt _ po ar va ko ka h.2.1, ih_body _ h.2.2.1, h.2.2.2.1,
      supported_mlL _ _ decos h.2.2.2.2.1, supportedO_mlO _ _ ret h.2.2.2.2.2.1, h.2.2.2.2.2.2⟩
  case classDef =>
    intro name bases kws body decos tp ih_body L h
    unfold WFS at h; unfold xsS WFS
    simp only [noHandlers_xsB, xtL, all_mlL _ _ (isElt_ml _), all_mlL _ _ (isKw_ml _)]
    exact ⟨h.1, wf_mlL _ bases _ h.2.1, h.2.2.1, wf_mlL _ kws _ h.2.2.2.1, h.2.2.2.2.1, ih_body _ h.2.2.2.2.2.1,
      h.2.2.2.2.2.2.1, supported_mlL _ _ decos h.2.2.2.2.2.2.2.1, h.2.2.2.2.2.2.2.2⟩
  case nil => intros; trivial
  case cons =>
    intro s ss ih_s ih_ss L h
    unfold WFSL at h; unfold xsB WFSL
    exact ⟨ih_s L h.1, ih_ss _ h.2⟩

theorem wfsl_xsB : ∀ (ss : List PyStmt) (L : List Scope), WFSL ss → WFSL (xsB L ss).1
  | [], _, _ => trivial
  | s :: ss, L, h => by
      unfold WFSL at h; unfold xsB WFSL
      exact ⟨wfs_xsS s L h.1, wfsl_xsB ss _ h.2⟩

end Genshi.Py
