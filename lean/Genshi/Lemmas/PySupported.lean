/-
  C13 — the supported trees: `WF e` / `WFS s` say of an expression / a statement that a Python parser can produce it from
  source and that the generator has a visitor for every node in it (`Supported`, `SupportedO`, and `SupportedS` of
  `Props/C13.lean`, add that the root is an expression / that no `except` clause stands outside a `try`).  This is the
  domain every claim of C13 is made on: the round trip through the parser, and that the transformer, the leaf
  specification and the layout stay inside it.  On the model only.
-/
import Genshi.Model.PyParse
namespace Genshi.Py
open Genshi.Gen

def isExpr : PyExpr → Bool
  | .name _ | .const _ | .boolOp _ _ | .binOp _ _ _ | .unaryOp _ _ | .lambda _ _ _ _ _ _ | .ifExp _ _ _
  | .dict _ | .listComp _ _ | .genExp _ _ | .yield_ _ | .compare _ _ | .call _ _ _ | .attribute _ _
  | .subscript _ _ | .list _ | .tuple _ => true
  | _ => false

def isElt : PyExpr → Bool
  | .starred _ => true
  | e => isExpr e

def isComp : PyExpr → Bool
  | .comp _ _ _ _ => true
  | _ => false

def isDItem : PyExpr → Bool
  | .dictItem (some _) _ => true
  | _ => false

def isCmp : PyExpr → Bool
  | .cmpRhs _ _ => true
  | _ => false

def isPlainParam : PyExpr → Bool
  | .param _ none _ => true
  | _ => false

def isVarParam : PyExpr → Bool
  | .param _ none none => true
  | _ => false

def isIntConst : PyExpr → Bool
  | .const ⟨.int, _⟩ => true
  | _ => false

def exprO : Option PyExpr → Bool
  | none => true
  | some x => isExpr x

abbrev IdentOK (s : Str) : Prop := isKeyword s = false

/-- constants as a parser produces them: the token text is `repr(value)` of a non-negative
    number / a string literal, and the kind is what the literal denotes -/
def ConstOK (c : Const) : Prop :=
  match c.kind with
  | .true_ => c.text = cs!"True"
  | .false_ => c.text = cs!"False"
  | .none_ => c.text = cs!"None"
  | .ellipsis => c.text = cs!"Ellipsis"
  | .str => strKind c.text = .str
  | .bytes => strKind c.text = .bytes
  | .int => wordNum c.text = [.num c.text] ∧ numKind c.text = .int ∧ (match c.text with | '-' :: _ => False | _ => True)
  | .float => wordNum c.text = [.num c.text] ∧ numKind c.text = .float ∧ (match c.text with | '-' :: _ => False | _ => True)
      ∧ Str.replace cs!"inf" AstGen.infStr c.text = c.text
  | .complex => wordNum c.text = [.num c.text] ∧ numKind c.text = .complex ∧ (match c.text with | '-' :: _ => False | _ => True)
      ∧ Str.replace cs!"inf" AstGen.infStr c.text = c.text

mutual
/-- well-formed and supported: the trees for which regeneration is claimed to be faithful -/
def WF : PyExpr → Prop
  | .name id => IdentOK id
  | .const c => ConstOK c
  | .boolOp op vs => (op = cs!"And" ∨ op = cs!"Or") ∧ 2 ≤ vs.length ∧ WFL vs ∧ vs.all isExpr = true
  | .binOp l op r => (lookup AstGen.binaryOperators op).isSome = true ∧ WF l ∧ WF r ∧ isExpr l = true ∧ isExpr r = true
  | .unaryOp op e => (lookup AstGen.unaryOperators op).isSome = true ∧ WF e ∧ isExpr e = true
  | .lambda po ar va ko ka body =>
      WFL po ∧ WFL ar ∧ WFO va ∧ WFL ko ∧ WFO ka ∧ WF body ∧ isExpr body = true
        ∧ po.all isPlainParam = true ∧ ar.all isPlainParam = true ∧ ko.all isPlainParam = true
        ∧ (∀ v, va = some v → isVarParam v = true) ∧ (∀ v, ka = some v → isVarParam v = true)
  | .ifExp t b o => WF t ∧ WF b ∧ WF o ∧ isExpr t = true ∧ isExpr b = true ∧ isExpr o = true
  | .dict items => WFL items ∧ items.all isDItem = true
  | .listComp elt gens => WF elt ∧ isExpr elt = true ∧ WFL gens ∧ gens ≠ [] ∧ gens.all isComp = true
  | .genExp elt gens => WF elt ∧ isExpr elt = true ∧ WFL gens ∧ gens ≠ [] ∧ gens.all isComp = true
  | .yield_ v => WFO v ∧ exprO v = true
  | .compare l rest => WF l ∧ isExpr l = true ∧ WFL rest ∧ rest ≠ [] ∧ rest.all isCmp = true
  | .call f args kws => WF f ∧ isExpr f = true ∧ WFL args ∧ args.all isElt = true ∧ WFL kws ∧ kws.all isKw = true
  | .attribute v a => WF v ∧ isExpr v = true ∧ IdentOK a ∧ isIntConst v = false
  | .subscript v s => WF v ∧ isExpr v = true ∧ WF s ∧ (isExpr s = true ∨ isSlice s = true)
  | .slice l u st => WFO l ∧ WFO u ∧ WFO st ∧ exprO l = true ∧ exprO u = true ∧ exprO st = true
  | .starred e => WF e ∧ isExpr e = true
  | .list elts => WFL elts ∧ elts.all isElt = true
  | .tuple elts => WFL elts ∧ elts.all isElt = true
  | .unsupported _ => False
  | .keyword n v => (∀ s, n = some s → IdentOK s) ∧ WF v ∧ isExpr v = true
  | .comp t it ifs _ => WF t ∧ isExpr t = true ∧ WF it ∧ isExpr it = true ∧ WFL ifs ∧ ifs.all isExpr = true
  | .param n ann d => IdentOK n ∧ WFO ann ∧ WFO d ∧ exprO ann = true ∧ exprO d = true
  | .dictItem k v => WFO k ∧ exprO k = true ∧ WF v ∧ isExpr v = true
  | .cmpRhs op e => (lookup AstGen.comparisonOperators op).isSome = true ∧ WF e ∧ isExpr e = true
def WFL : List PyExpr → Prop
  | [] => True
  | e :: es => WF e ∧ WFL es
def WFO : Option PyExpr → Prop
  | none => True
  | some e => WF e
end

def Supported (e : PyExpr) : Prop := WF e ∧ isExpr e = true

theorem isElt_of_isExpr {e : PyExpr} (h : isExpr e = true) : isElt e = true := by
  cases e <;> first | rfl | exact absurd h Bool.false_ne_true

/-- a test that is false on every `slice` node excludes slices -/
theorem ns_of {p : PyExpr → Bool} (hp : ∀ l u s, p (.slice l u s) = false) {x : PyExpr} (h : p x = true) :
    isSlice x = false := by
  cases x with
  | slice l u s => rw [hp] at h; cases h
  | _ => rfl

theorem ns_expr {x : PyExpr} (h : isExpr x = true) : isSlice x = false := ns_of (fun _ _ _ => rfl) h
theorem ns_elt {x : PyExpr} (h : isElt x = true) : isSlice x = false := ns_of (fun _ _ _ => rfl) h
theorem ns_kw {x : PyExpr} (h : isKw x = true) : isSlice x = false := ns_of (fun _ _ _ => rfl) h
theorem ns_comp {x : PyExpr} (h : isComp x = true) : isSlice x = false := ns_of (fun _ _ _ => rfl) h
theorem ns_ditem {x : PyExpr} (h : isDItem x = true) : isSlice x = false := ns_of (fun _ _ _ => rfl) h
theorem ns_cmp {x : PyExpr} (h : isCmp x = true) : isSlice x = false := ns_of (fun _ _ _ => rfl) h
theorem ns_param {x : PyExpr} (h : isPlainParam x = true) : isSlice x = false := ns_of (fun _ _ _ => rfl) h
theorem ns_var {x : PyExpr} (h : isVarParam x = true) : isSlice x = false := ns_of (fun _ _ _ => rfl) h
theorem ns_all {p : PyExpr → Bool} (hp : ∀ x, p x = true → isSlice x = false) {l : List PyExpr} (h : l.all p = true) :
    ∀ x ∈ l, isSlice x = false := fun x hx => hp x (List.all_eq_true.mp h x hx)
theorem ns_opt {o : Option PyExpr} (h : exprO o = true) : ∀ x, o = some x → isSlice x = false := by
  intro x hx; subst hx; exact ns_expr h
theorem ns_optv {o : Option PyExpr} (h : ∀ v, o = some v → isVarParam v = true) : ∀ x, o = some x → isSlice x = false :=
  fun x hx => ns_var (h x hx)

def SupportedO (o : Option PyExpr) : Prop := ∀ x, o = some x → Supported x

theorem wfl_of_supported (ts : List PyExpr) (h : ∀ t ∈ ts, Supported t) : WFL ts ∧ ts.all isElt = true := by
  induction ts with
  | nil => exact ⟨trivial, rfl⟩
  | cons t ts ih =>
    obtain ⟨hwf, hex⟩ := h t (by simp)
    obtain ⟨h1, h2⟩ := ih (fun x hx => h x (by simp [hx]))
    exact ⟨⟨hwf, h1⟩, by simp [isElt_of_isExpr hex, h2]⟩

theorem wfo_of_supported : ∀ {o : Option PyExpr}, SupportedO o → WFO o
  | none, _ => trivial
  | some e, h => (h e rfl).1

def isHandler : PyStmt → Bool
  | .handler _ _ _ => true
  | _ => false

def noHandlers (ss : List PyStmt) : Bool := ss.all fun s => !isHandler s

def isAnyVarParam : PyExpr → Bool
  | .param _ _ none => true
  | _ => false

/-- the parameters of a `def`: names with optional annotation and default -/
def ParamsOK (po ar : List PyExpr) (va : Option PyExpr) (ko : List PyExpr) (ka : Option PyExpr) : Prop :=
  WFL po ∧ WFL ar ∧ WFO va ∧ WFL ko ∧ WFO ka ∧ po.all isParam = true ∧ ar.all isParam = true
    ∧ ko.all isParam = true ∧ (∀ v, va = some v → isAnyVarParam v = true) ∧ (∀ v, ka = some v → isAnyVarParam v = true)

def dotJoin : List Str → Str
  | [] => []
  | [c] => c
  | c :: d :: cs => c ++ '.' :: dotJoin (d :: cs)

/-- a module path `a.b.c`: non-empty components without dots, none of them a keyword -/
def DottedOK (n : Str) : Prop :=
  ∃ comps, comps ≠ [] ∧ n = dotJoin comps ∧ ∀ c ∈ comps, c ≠ [] ∧ '.' ∉ c ∧ isKeyword c = false

mutual
/-- the statements for which regeneration is claimed to be faithful (statement layer) -/
def WFS : PyStmt → Prop
  | .expr e => Supported e
  | .assign ts v => ts ≠ [] ∧ (∀ t ∈ ts, Supported t) ∧ Supported v
  | .augAssign t op v => (lookup AstGen.binaryOperators op).isSome = true ∧ Supported t ∧ Supported v
  | .return_ v => SupportedO v
  | .pass_ => True
  | .break_ => True
  | .continue_ => True
  | .assert_ t m => Supported t ∧ SupportedO m
  | .raise_ e c => SupportedO e ∧ SupportedO c ∧ (e = none → c = none)
  | .if_ t b o => Supported t ∧ WFSL b ∧ WFSL o ∧ noHandlers b = true ∧ noHandlers o = true
  | .while_ t b o => Supported t ∧ WFSL b ∧ WFSL o ∧ noHandlers b = true ∧ noHandlers o = true
  | .for_ t it b o => Supported t ∧ Supported it ∧ WFSL b ∧ WFSL o ∧ noHandlers b = true ∧ noHandlers o = true
  | .with_ items b => items ≠ [] ∧ (∀ i ∈ items, Supported i.1 ∧ SupportedO i.2) ∧ WFSL b ∧ noHandlers b = true
  | .try_ b hs o f =>
      WFSL b ∧ WFSL hs ∧ hs.all isHandler = true ∧ WFSL o ∧ WFSL f ∧ noHandlers b = true ∧ noHandlers o = true
        ∧ noHandlers f = true
  | .handler t n b => SupportedO t ∧ n = none ∧ WFSL b ∧ noHandlers b = true
  | .functionDef name po ar va ko ka body decos ret tp =>
      IdentOK name ∧ ParamsOK po ar va ko ka ∧ WFSL body ∧ noHandlers body = true ∧ (∀ d ∈ decos, Supported d)
        ∧ SupportedO ret ∧ tp = false
  | .classDef name bases kws body decos tp =>
      IdentOK name ∧ WFL bases ∧ bases.all isElt = true ∧ WFL kws ∧ kws.all isKw = true ∧ WFSL body
        ∧ noHandlers body = true ∧ (∀ d ∈ decos, Supported d) ∧ tp = false
  | .delete ts => ts ≠ [] ∧ ∀ t ∈ ts, Supported t
  | .global_ _ => False
  | .import_ ns => ns ≠ [] ∧ ∀ p ∈ ns, DottedOK p.1
  | .importFrom m ns _ => (∃ mod, m = some mod ∧ DottedOK mod) ∧ ns ≠ []
  | .unsupported _ => False
def WFSL : List PyStmt → Prop
  | [] => True
  | s :: ss => WFS s ∧ WFSL ss
end

end Genshi.Py
