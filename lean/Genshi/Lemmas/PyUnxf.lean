/-
  C03 + C13 — `unxf` alone: it is the identity on a tree that does not itself call the lookup functions (`noLookup`,
  `unxf_id`), and it makes of each of the three calls the rewritings write the access the call stands for
  (`unxf_lookupName / Attr / Item`).  That both rewritings lose nothing (`PyXformUnxf.lean` for expressions,
  `PyStmtUnxf.lean` for statement mode) is put together from these two facts.
-/
import Genshi.Model.PyUnxf
import Genshi.Lemmas.PyXform
namespace Genshi.Py

def lookupFns : List Str := [cs!"_lookup_name", cs!"_lookup_attr", cs!"_lookup_item"]

/-- the function position of a call is not (the bare name of) one of the lookup functions -/
def plainCall : PyExpr → Bool
  | .name n => !lookupFns.contains n
  | _ => true

mutual
/-- the tree does not itself contain calls of the lookup functions (they are not valid template
    code: the names are reserved), and comprehension clauses are where they belong -/
def noLookup : PyExpr → Bool
  | .name _ => true
  | .const _ => true
  | .boolOp _ vs => noLookupL vs
  | .binOp l _ r => noLookup l && noLookup r
  | .unaryOp _ e => noLookup e
  | .lambda po ar va ko ka body =>
      noLookupL po && noLookupL ar && noLookupO va && noLookupL ko && noLookupO ka && noLookup body
  | .ifExp t b o => noLookup t && noLookup b && noLookup o
  | .dict items => noLookupL items
  | .listComp elt gens => gens.all isCompE && noLookup elt && noLookupL gens
  | .genExp elt gens => gens.all isCompE && noLookup elt && noLookupL gens
  | .yield_ v => noLookupO v
  | .compare l rest => noLookup l && noLookupL rest
  | .call f args kws => plainCall f && noLookup f && noLookupL args && noLookupL kws
  | .attribute v _ => noLookup v
  | .subscript v s => noLookup v && noLookup s
  | .slice l u st => noLookupO l && noLookupO u && noLookupO st
  | .starred e => noLookup e
  | .list elts => noLookupL elts
  | .tuple elts => noLookupL elts
  | .unsupported _ => true
  | .keyword _ v => noLookup v
  | .comp t it ifs _ => noLookup t && noLookup it && noLookupL ifs
  | .param _ ann d => noLookupO ann && noLookupO d
  | .dictItem k v => noLookupO k && noLookup v
  | .cmpRhs _ e => noLookup e
def noLookupL : List PyExpr → Bool
  | [] => true
  | e :: es => noLookup e && noLookupL es
def noLookupO : Option PyExpr → Bool
  | none => true
  | some e => noLookup e
end

theorem unquote_quote (s : Str) : unquote ('\'' :: (s ++ ['\''])) = s := by
  simp [unquote]

theorem collapse_plain (f : PyExpr) (args kws : List PyExpr) (h : plainCall f = true) :
    collapse (.call f args kws) = .call f args kws := by
  unfold collapse
  split
  · rename_i n a1 a2 heq
    injection heq with h1 h2 h3
    subst h1 h2 h3
    simp only [plainCall, lookupFns, List.contains_cons, List.contains_nil, Bool.or_false, Bool.not_eq_true',
      Bool.or_eq_false_iff, beq_eq_false_iff_ne, ne_eq] at h
    simp [h.1, h.2.1, h.2.2]
  · rfl

theorem collapse_name (id : Str) : collapse (lookupNameCall id) = .name id := by
  simp [collapse, lookupNameCall, strConst, unquote_quote]

theorem collapse_attr (v : PyExpr) (a : Str) : collapse (lookupAttrCall v a) = .attribute v a := by
  simp [collapse, lookupAttrCall, strConst, unquote_quote]

theorem collapse_item (v k : PyExpr) : collapse (lookupItemCall v k) = .subscript v k := by
  simp [collapse, lookupItemCall]

mutual
theorem unxf_id : ∀ (e : PyExpr), noLookup e = true → unxf e = e
  | .name _, _ | .const _, _ | .unsupported _, _ => rfl
  | .boolOp _ vs, h | .dict vs, h | .list vs, h | .tuple vs, h => by
      simp only [noLookup] at h; simp [unxf, unxfL_id vs h]
  | .binOp l _ r, h | .subscript l r, h => by
      simp only [noLookup, Bool.and_eq_true] at h; simp [unxf, unxf_id l h.1, unxf_id r h.2]
  | .unaryOp _ e, h | .attribute e _, h | .starred e, h | .keyword _ e, h | .cmpRhs _ e, h => by
      simp only [noLookup] at h; simp [unxf, unxf_id e h]
  | .lambda po ar va ko ka body, h => by
      simp only [noLookup, Bool.and_eq_true] at h
      obtain ⟨⟨⟨⟨⟨h1, h2⟩, h3⟩, h4⟩, h5⟩, h6⟩ := h
      simp [unxf, unxfL_id po h1, unxfL_id ar h2, unxfO_id va h3, unxfL_id ko h4, unxfO_id ka h5, unxf_id body h6]
  | .ifExp t b o, h => by
      simp only [noLookup, Bool.and_eq_true] at h
      simp [unxf, unxf_id t h.1.1, unxf_id b h.1.2, unxf_id o h.2]
  | .listComp elt gens, h | .genExp elt gens, h => by
      simp only [noLookup, Bool.and_eq_true] at h; simp [unxf, unxf_id elt h.1.2, unxfL_id gens h.2]
  | .yield_ v, h => by simp only [noLookup] at h; simp [unxf, unxfO_id v h]
  | .compare l rest, h => by
      simp only [noLookup, Bool.and_eq_true] at h; simp [unxf, unxf_id l h.1, unxfL_id rest h.2]
  | .call f args kws, h => by
      simp only [noLookup, Bool.and_eq_true] at h
      simp only [unxf, unxf_id f h.1.1.2, unxfL_id args h.1.2, unxfL_id kws h.2]
      exact collapse_plain f args kws h.1.1.1
  | .slice l u st, h => by
      simp only [noLookup, Bool.and_eq_true] at h
      simp [unxf, unxfO_id l h.1.1, unxfO_id u h.1.2, unxfO_id st h.2]
  | .comp t it ifs a, h => by
      simp only [noLookup, Bool.and_eq_true] at h
      simp [unxf, unxf_id t h.1.1, unxf_id it h.1.2, unxfL_id ifs h.2]
  | .param n ann d, h => by
      simp only [noLookup, Bool.and_eq_true] at h; simp [unxf, unxfO_id ann h.1, unxfO_id d h.2]
  | .dictItem k v, h => by
      simp only [noLookup, Bool.and_eq_true] at h; simp [unxf, unxfO_id k h.1, unxf_id v h.2]
theorem unxfL_id : ∀ (es : List PyExpr), noLookupL es = true → unxfL es = es
  | [], _ => rfl
  | e :: es, h => by
      simp only [noLookupL, Bool.and_eq_true] at h; simp [unxfL, unxf_id e h.1, unxfL_id es h.2]
theorem unxfO_id : ∀ (o : Option PyExpr), noLookupO o = true → unxfO o = o
  | none, _ => rfl
  | some e, h => by simp only [noLookupO] at h; simp [unxfO, unxf_id e h]
end

theorem unxf_lookupName (id : Str) : unxf (lookupNameCall id) = .name id := by
  show collapse (.call (unxf (.name cs!"_lookup_name")) (unxfL [.name cs!"__data__", strConst id]) (unxfL [])) = _
  exact collapse_name id

theorem unxf_lookupAttr (v : PyExpr) (a : Str) : unxf (lookupAttrCall v a) = .attribute (unxf v) a := by
  show collapse (.call (unxf (.name cs!"_lookup_attr")) (unxfL [v, strConst a]) (unxfL [])) = _
  exact collapse_attr (unxf v) a

theorem unxf_lookupItem (v k : PyExpr) : unxf (lookupItemCall v k) = .subscript (unxf v) (unxf k) := by
  show collapse (.call (unxf (.name cs!"_lookup_item")) (unxfL [v, .tuple [k]]) (unxfL [])) = _
  exact collapse_item (unxf v) (unxf k)

end Genshi.Py
