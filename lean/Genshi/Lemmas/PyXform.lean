/-
  C03 + C13 — the rewriting `xf` alone: what it keeps.  `xf` returns a node of the class it was given, except that a
  name, an attribute access and a subscript may come back as a call of a lookup function; so every test on the node
  class (those of the supported domain, `PySupported.lean`, and those of the side conditions of C03, defined here)
  has the same answer before and after.  The theorems about the rewritten tree — evaluation, well-formedness,
  lambda-freeness, inversion — all start from these equations.  At the end what it writes: the three lookup calls are
  well-formed (`wf_lookupName / Attr / Item`; statement mode writes the first of them too, `PyStmtWF.lean`).
-/
import Genshi.Model.PyXform
import Genshi.Lemmas.PySupported
namespace Genshi.Py
open Genshi.Gen

def isStarredE : PyExpr → Bool
  | .starred _ => true
  | _ => false

def isCompE : PyExpr → Bool
  | .comp _ _ _ _ => true
  | _ => false

def isCmpE : PyExpr → Bool
  | .cmpRhs _ _ => true
  | _ => false

def isDictItemE : PyExpr → Bool
  | .dictItem _ _ => true
  | _ => false

/-- the tests of C03's side conditions that are tests of the supported domain under another name -/
theorem isCompE_eq_isComp : isCompE = isComp := funext fun e => by cases e <;> rfl

theorem isCmpE_eq_isCmp : isCmpE = isCmp := funext fun e => by cases e <;> rfl

theorem xfL_eq_map (L : List (List Str)) (es : List PyExpr) : xfL L es = es.map (xf L) := by
  induction es with
  | nil => rfl
  | cons e r ih => rw [xfL, ih]; rfl

theorem all_xfL (p : PyExpr → Bool) (hp : ∀ L e, p (xf L e) = p e) (L : List (List Str)) (es : List PyExpr) :
    (xfL L es).all p = es.all p := by
  simp only [xfL_eq_map, List.all_map, Function.comp_def, hp]

theorem length_xfL (L : List (List Str)) (es : List PyExpr) : (xfL L es).length = es.length := by
  rw [xfL_eq_map, List.length_map]

theorem xfL_ne_nil (L : List (List Str)) (es : List PyExpr) (h : es ≠ []) : xfL L es ≠ [] := by
  rwa [xfL_eq_map, ne_eq, List.map_eq_nil_iff]

/-- `xf` keeps the node class: a name load becomes a name or a call, an attribute / item load a call or a
    subscript, all of them expressions; every other node keeps its constructor. -/
theorem isExpr_xf (L : List (List Str)) (e : PyExpr) : isExpr (xf L e) = isExpr e := by
  cases e with
  | name id => simp only [xf]; split <;> rfl
  | subscript v s => simp only [xf]; split <;> rfl
  | _ => rfl

theorem exprO_xfO (L : List (List Str)) (o : Option PyExpr) : exprO (xfO L o) = exprO o := by
  cases o with
  | none => rfl
  | some e => exact isExpr_xf L e

theorem isElt_xf (L : List (List Str)) (e : PyExpr) : isElt (xf L e) = isElt e := by
  cases e with
  | name id => simp only [xf]; split <;> rfl
  | subscript v s => simp only [xf]; split <;> rfl
  | _ => rfl

theorem xf_starred (L : List (List Str)) (e : PyExpr) : isStarredE (xf L e) = isStarredE e := by
  cases e <;> simp only [xf] <;> first | rfl | (split <;> rfl)

theorem isKw_xf (L : List (List Str)) (e : PyExpr) : isKw (xf L e) = isKw e := by
  cases e with
  | name id => simp only [xf]; split <;> rfl
  | subscript v s => simp only [xf]; split <;> rfl
  | _ => rfl

theorem isDItem_xf (L : List (List Str)) (e : PyExpr) : isDItem (xf L e) = isDItem e := by
  cases e with
  | dictItem k v => cases k <;> rfl
  | name id => simp only [xf]; split <;> rfl
  | subscript v s => simp only [xf]; split <;> rfl
  | _ => rfl

theorem isDictItemE_xf (L : List (List Str)) (e : PyExpr) : isDictItemE (xf L e) = isDictItemE e := by
  cases e with
  | name id => simp only [xf]; split <;> rfl
  | subscript v s => simp only [xf]; split <;> rfl
  | _ => rfl

theorem isCmp_xf (L : List (List Str)) (e : PyExpr) : isCmp (xf L e) = isCmp e := by
  cases e with
  | name id => simp only [xf]; split <;> rfl
  | subscript v s => simp only [xf]; split <;> rfl
  | _ => rfl

theorem isCmpE_xf (L : List (List Str)) (e : PyExpr) : isCmpE (xf L e) = isCmpE e :=
  isCmpE_eq_isCmp ▸ isCmp_xf L e

theorem isCompE_xf (L : List (List Str)) (e : PyExpr) : isCompE (xf L e) = isCompE e := by
  cases e with
  | name id => simp only [xf]; split <;> rfl
  | subscript v s => simp only [xf]; split <;> rfl
  | _ => rfl

theorem isPlainParam_xf (L : List (List Str)) (e : PyExpr) : isPlainParam (xf L e) = isPlainParam e := by
  cases e with
  | param n ann d => cases ann <;> rfl
  | name id => simp only [xf]; split <;> rfl
  | subscript v s => simp only [xf]; split <;> rfl
  | _ => rfl

theorem isVarParam_xf (L : List (List Str)) (e : PyExpr) : isVarParam (xf L e) = isVarParam e := by
  cases e with
  | param n ann d => cases ann <;> cases d <;> rfl
  | name id => simp only [xf]; split <;> rfl
  | subscript v s => simp only [xf]; split <;> rfl
  | _ => rfl

theorem var_xfO (L : List (List Str)) (o : Option PyExpr) (h : ∀ v, o = some v → isVarParam v = true) :
    ∀ v, xfO L o = some v → isVarParam v = true := by
  intro v hv
  cases o with
  | none => cases hv
  | some q =>
    cases (Option.some.inj hv)
    rw [isVarParam_xf]
    exact h q rfl

theorem isIntConst_xf (L : List (List Str)) (e : PyExpr) : isIntConst (xf L e) = isIntConst e := by
  cases e with
  | name id => simp only [xf]; split <;> rfl
  | subscript v s => simp only [xf]; split <;> rfl
  | _ => rfl

theorem isSlice_xf (L : List (List Str)) (e : PyExpr) : isSlice (xf L e) = isSlice e := by
  cases e <;> simp only [xf] <;> first | rfl | (split <;> rfl)

theorem isSliceKey_xf (L : List (List Str)) (s : PyExpr) : isSliceKey (xf L s) = isSliceKey s := by
  cases s with
  | name id => simp only [xf]; split <;> rfl
  | subscript v s => simp only [xf]; split <;> rfl
  | tuple elts => simp only [xf, isSliceKey, xfL_eq_map, List.any_map, Function.comp_def, isSlice_xf]
  | _ => rfl

theorem isExpr_xfTarget (L : List (List Str)) (e : PyExpr) : isExpr (xfTarget L e) = isExpr e := by
  unfold xfTarget; split <;> rfl

theorem isElt_xfTarget (L : List (List Str)) (e : PyExpr) : isElt (xfTarget L e) = isElt e := by
  unfold xfTarget; split <;> rfl

theorem xfTargetL_eq_map (L : List (List Str)) (es : List PyExpr) : xfTargetL L es = es.map (xfTarget L) := by
  induction es with
  | nil => rfl
  | cons e r ih => rw [xfTargetL, ih]; rfl

theorem all_xfTargetL (L : List (List Str)) (es : List PyExpr) : (xfTargetL L es).all isElt = es.all isElt := by
  simp only [xfTargetL_eq_map, List.all_map, Function.comp_def, isElt_xfTarget]

theorem all_isCompE_xfGens (L0 L1 : List (List Str)) : ∀ gens : List PyExpr,
    (xfGens L0 L1 gens).all isCompE = gens.all isCompE
  | [] => rfl
  | e :: r => by
      have hr := all_isCompE_xfGens L1 L1 r
      cases e with
      | comp t it ifs a => simp only [xfGens, List.all_cons, hr]; rfl
      | _ => simp only [xfGens, List.all_cons, hr, isCompE_xf]

theorem all_isComp_xfGens (L0 L1 : List (List Str)) (gens : List PyExpr) :
    (xfGens L0 L1 gens).all isComp = gens.all isComp :=
  isCompE_eq_isComp ▸ all_isCompE_xfGens L0 L1 gens

theorem xfGens_ne_nil (L0 L1 : List (List Str)) (gens : List PyExpr) (h : gens ≠ []) : xfGens L0 L1 gens ≠ [] := by
  unfold xfGens
  split
  · exact h
  · exact List.cons_ne_nil _ _
  · exact List.cons_ne_nil _ _

theorem wf_strConst (s : Str) : WF (strConst s) := by
  simp only [strConst, WF, ConstOK]
  rfl

theorem wf_lookupName (id : Str) : WF (lookupNameCall id) := by
  simp only [lookupNameCall, WF, WFL]
  exact ⟨by decide, rfl, ⟨by decide, wf_strConst id, trivial⟩, rfl, trivial, rfl⟩

theorem wf_lookupAttr {v : PyExpr} (hv : WF v) (he : isExpr v = true) (a : Str) : WF (lookupAttrCall v a) := by
  simp only [lookupAttrCall, WF, WFL, List.all_cons, List.all_nil, Bool.and_true, Bool.and_eq_true]
  exact ⟨by decide, rfl, ⟨hv, wf_strConst a, trivial⟩, ⟨isElt_of_isExpr he, rfl⟩, trivial, trivial⟩

theorem wf_lookupItem {v k : PyExpr} (hv : WF v) (hev : isExpr v = true) (hk : WF k) (hek : isExpr k = true) :
    WF (lookupItemCall v k) := by
  simp only [lookupItemCall, WF, WFL, List.all_cons, List.all_nil, Bool.and_true, Bool.and_eq_true]
  exact ⟨by decide, rfl, ⟨hv, ⟨⟨hk, trivial⟩, isElt_of_isExpr hek⟩, trivial⟩, ⟨isElt_of_isExpr hev, rfl⟩, trivial, trivial⟩

end Genshi.Py
