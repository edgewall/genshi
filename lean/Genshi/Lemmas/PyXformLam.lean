/-
  C03 — expressions without a lambda (`lamFree`: the trees on which the evaluator that runs in the driver is `eval`,
  `PyEvalC.lean`), and that the rewriting neither adds nor removes one (`xf_lamFree`).
-/
import Genshi.Lemmas.PyXform
namespace Genshi.Py

mutual
/-- no lambda expression inside (and helper nodes where they belong) -/
def lamFree : PyExpr → Bool
  | .name _ => true
  | .const _ => true
  | .boolOp _ vs => lamFreeL vs
  | .binOp l _ r => lamFree l && lamFree r
  | .unaryOp _ e => lamFree e
  | .lambda _ _ _ _ _ _ => false
  | .ifExp t b o => lamFree t && lamFree b && lamFree o
  | .dict items => items.all isDictItemE && lamFreeL items
  | .listComp elt gens => gens.all isCompE && lamFree elt && lamFreeL gens
  | .genExp elt gens => gens.all isCompE && lamFree elt && lamFreeL gens
  | .yield_ v => lamFreeO v
  | .compare l rest => rest.all isCmpE && lamFree l && lamFreeL rest
  | .call f args kws => kws.all isKw && lamFree f && lamFreeL args && lamFreeL kws
  | .attribute v _ => lamFree v
  | .subscript v s => lamFree v && lamFree s
  | .slice l u st => lamFreeO l && lamFreeO u && lamFreeO st
  | .starred e => lamFree e
  | .list elts => lamFreeL elts
  | .tuple elts => lamFreeL elts
  | .unsupported _ => true
  | .keyword _ v => lamFree v
  | .comp _ it ifs _ => lamFree it && lamFreeL ifs
  | .param _ _ d => lamFreeO d
  | .dictItem k v => lamFreeO k && lamFree v
  | .cmpRhs _ e => lamFree e
def lamFreeL : List PyExpr → Bool
  | [] => true
  | e :: es => lamFree e && lamFreeL es
def lamFreeO : Option PyExpr → Bool
  | none => true
  | some e => lamFree e
end

mutual
/-- The rewriting neither adds nor removes a lambda: the calls it writes have a name, the rewritten operand and
    constants as arguments, and every other node is rebuilt from its rewritten fields. -/
theorem xf_lamFree : ∀ (e : PyExpr) (L : List (List Str)), lamFree (xf L e) = lamFree e
  | .name id, L => by simp only [xf]; split <;> rfl
  | .const _, _ | .unsupported _, _ | .lambda _ _ _ _ _ _, _ => rfl
  | .boolOp _ vs, L | .list vs, L | .tuple vs, L => by simp only [xf, lamFree, xfL_lamFree vs L]
  | .binOp l _ r, L => by simp only [xf, lamFree, xf_lamFree l L, xf_lamFree r L]
  | .unaryOp _ e, L | .starred e, L | .keyword _ e, L | .cmpRhs _ e, L => by simp only [xf, lamFree, xf_lamFree e L]
  | .ifExp t b o, L => by simp only [xf, lamFree, xf_lamFree t L, xf_lamFree b L, xf_lamFree o L]
  | .dict items, L => by simp only [xf, lamFree, all_xfL _ isDictItemE_xf, xfL_lamFree items L]
  | .listComp elt gens, L | .genExp elt gens, L => by
      simp only [xf, lamFree, all_isCompE_xfGens, xf_lamFree elt _, xfGens_lamFree gens L _]
  | .yield_ v, L | .param _ _ v, L => by simp only [xf, lamFree, xfO_lamFree v L]
  | .compare l rest, L => by simp only [xf, lamFree, all_xfL _ isCmpE_xf, xf_lamFree l L, xfL_lamFree rest L]
  | .call f args kws, L => by
      simp only [xf, lamFree, all_xfL _ isKw_xf, xf_lamFree f L, xfL_lamFree args L, xfL_lamFree kws L]
  | .attribute v a, L => by simp [xf, lookupAttrCall, lamFree, lamFreeL, strConst, xf_lamFree v L]
  | .subscript v s, L => by
      simp only [xf]
      split
      · simp only [lamFree, xf_lamFree v L, xf_lamFree s L]
      · simp [lookupItemCall, lamFree, lamFreeL, xf_lamFree v L, xf_lamFree s L]
  | .slice l u st, L => by simp only [xf, lamFree, xfO_lamFree l L, xfO_lamFree u L, xfO_lamFree st L]
  | .comp t it ifs a, L => by simp only [xf, lamFree, xf_lamFree it L, xfL_lamFree ifs L]
  | .dictItem k v, L => by simp only [xf, lamFree, xfO_lamFree k L, xf_lamFree v L]
theorem xfL_lamFree : ∀ (es : List PyExpr) (L : List (List Str)), lamFreeL (xfL L es) = lamFreeL es
  | [], _ => rfl
  | e :: rest, L => by simp only [xfL, lamFreeL, xf_lamFree e L, xfL_lamFree rest L]
theorem xfO_lamFree : ∀ (o : Option PyExpr) (L : List (List Str)), lamFreeO (xfO L o) = lamFreeO o
  | none, _ => rfl
  | some e, L => by simp only [xfO, lamFreeO, xf_lamFree e L]
theorem xfGens_lamFree : ∀ (es : List PyExpr) (L0 L1 : List (List Str)), lamFreeL (xfGens L0 L1 es) = lamFreeL es
  | [], _, _ => rfl
  | e :: rest, L0, L1 => by
      have hr := xfGens_lamFree rest L1 L1
      cases e with
      | comp t it ifs a => simp only [xfGens, lamFreeL, lamFree, xf_lamFree it L0, xfL_lamFree ifs L1, hr]
      | _ => simp only [xfGens, lamFreeL, xf_lamFree _ L1, hr]
end

theorem lamFree_xf : ∀ (e : PyExpr) (L : List (List Str)), lamFree e = true → lamFree (xf L e) = true :=
  fun e L h => (xf_lamFree e L).trans h

theorem lamFreeL_xfL : ∀ (es : List PyExpr) (L : List (List Str)), lamFreeL es = true → lamFreeL (xfL L es) = true :=
  fun es L h => (xfL_lamFree es L).trans h

theorem lamFreeO_xfO : ∀ (o : Option PyExpr) (L : List (List Str)), lamFreeO o = true → lamFreeO (xfO L o) = true :=
  fun o L h => (xfO_lamFree o L).trans h

theorem lamFreeL_xfGens : ∀ (es : List PyExpr) (L0 L1 : List (List Str)), lamFreeL es = true →
    lamFreeL (xfGens L0 L1 es) = true :=
  fun es L0 L1 h => (xfGens_lamFree es L0 L1).trans h

end Genshi.Py
