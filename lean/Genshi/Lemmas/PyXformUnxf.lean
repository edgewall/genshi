/-
  C03 — the rewriting loses nothing: `unxf (xf L e) = e`.
-/
import Genshi.Lemmas.PyUnxf
namespace Genshi.Py

mutual
/-- The rewriting is invisible to `unxf`, on every tree: a name and its lookup call both become the name, an
    attribute / item access and its lookup call the access, and every other node is rebuilt from its fields
    (`collapse` at a call sees the same arguments). -/
theorem xf_unxf : ∀ (e : PyExpr) (L : List (List Str)), unxf (xf L e) = unxf e := by
  intro e L
  cases e with
  | name id =>
      unfold xf
      split
      · rfl
      · exact unxf_lookupName id
  | const _ | unsupported _ => rfl
  | unaryOp _ e | starred e | keyword _ e | cmpRhs _ e => unfold xf unxf; rw [xf_unxf e L]
  | boolOp _ es | dict es | list es | tuple es => unfold xf unxf; rw [xfL_unxf es L]
  | yield_ v => unfold xf unxf; rw [xfO_unxf v L]
  | binOp l _ r => unfold xf unxf; rw [xf_unxf l L, xf_unxf r L]
  | ifExp t b o => unfold xf unxf; rw [xf_unxf t L, xf_unxf b L, xf_unxf o L]
  | compare l rest => unfold xf unxf; rw [xf_unxf l L, xfL_unxf rest L]
  | call f args kws => unfold xf unxf; rw [xf_unxf f L, xfL_unxf args L, xfL_unxf kws L]
  | «attribute» v a => unfold xf; rw [unxf_lookupAttr, xf_unxf v L]; rfl
  | subscript v s =>
      unfold xf
      split
      · unfold unxf; rw [xf_unxf v L, xf_unxf s L]
      · rw [unxf_lookupItem, xf_unxf v L, xf_unxf s L]; rfl
  | slice l u st => unfold xf unxf; rw [xfO_unxf l L, xfO_unxf u L, xfO_unxf st L]
  | comp t it ifs a => unfold xf unxf; rw [xfTarget_unxf t L, xf_unxf it L, xfL_unxf ifs L]
  | param n ann d => unfold xf unxf; rw [xfO_unxf d L]
  | dictItem k v => unfold xf unxf; rw [xfO_unxf k L, xf_unxf v L]
  | lambda po ar va ko ka body =>
      unfold xf unxf
      rw [xfL_unxf po L, xfL_unxf ar L, xfO_unxf va L, xfL_unxf ko L, xfO_unxf ka L, xf_unxf body _]
  | listComp elt gens | genExp elt gens => unfold xf unxf; rw [xf_unxf elt _, xfGens_unxf gens L _]
theorem xfL_unxf : ∀ (es : List PyExpr) (L : List (List Str)), unxfL (xfL L es) = unxfL es
  | [], _ => rfl
  | e :: es, L => by unfold xfL unxfL; rw [xf_unxf e L, xfL_unxf es L]
theorem xfO_unxf : ∀ (o : Option PyExpr) (L : List (List Str)), unxfO (xfO L o) = unxfO o
  | none, _ => rfl
  | some e, L => by unfold xfO unxfO; rw [xf_unxf e L]
theorem xfGens_unxf : ∀ (gens : List PyExpr) (L0 L1 : List (List Str)), unxfL (xfGens L0 L1 gens) = unxfL gens
  | [], _, _ => rfl
  | e :: r, L0, L1 => by
      have hr := xfGens_unxf r L1 L1
      cases e with
      | comp t it ifs a => unfold xfGens unxfL unxf; rw [xfTarget_unxf t L1, xf_unxf it L0, xfL_unxf ifs L1, hr]
      | _ =>
          show unxf (xf L1 _) :: unxfL (xfGens L1 L1 r) = _
          rw [xf_unxf _ L1, hr]; rfl
theorem xfTarget_unxf : ∀ (e : PyExpr) (L : List (List Str)), unxf (xfTarget L e) = unxf e := by
  intro e L
  cases e with
  | tuple elts | list elts => unfold xfTarget unxf; rw [xfTargetL_unxf elts L]
  | starred e => unfold xfTarget unxf; rw [xfTarget_unxf e L]
  | «attribute» v a => unfold xfTarget unxf; rw [xf_unxf v L]
  | subscript v s => unfold xfTarget unxf; rw [xf_unxf v L, xf_unxf s L]
  | _ => rfl
theorem xfTargetL_unxf : ∀ (es : List PyExpr) (L : List (List Str)), unxfL (xfTargetL L es) = unxfL es
  | [], _ => rfl
  | e :: es, L => by unfold xfTargetL unxfL; rw [xfTarget_unxf e L, xfTargetL_unxf es L]
end

/-! `noLookup` is only what makes `unxf` the identity (`unxf_id`). -/

theorem unxf_xf : ∀ (e : PyExpr) (L : List (List Str)), noLookup e = true → unxf (xf L e) = e :=
  fun e L h => (xf_unxf e L).trans (unxf_id e h)

theorem unxf_xfL : ∀ (es : List PyExpr) (L : List (List Str)), noLookupL es = true → unxfL (xfL L es) = es :=
  fun es L h => (xfL_unxf es L).trans (unxfL_id es h)

theorem unxf_xfO : ∀ (o : Option PyExpr) (L : List (List Str)), noLookupO o = true → unxfO (xfO L o) = o :=
  fun o L h => (xfO_unxf o L).trans (unxfO_id o h)

theorem unxf_xfGens : ∀ (gens : List PyExpr) (L0 L1 : List (List Str)), noLookupL gens = true →
    gens.all isCompE = true → unxfL (xfGens L0 L1 gens) = gens :=
  fun gens L0 L1 h _ => (xfGens_unxf gens L0 L1).trans (unxfL_id gens h)

theorem unxf_xfTarget : ∀ (e : PyExpr) (L : List (List Str)), noLookup e = true → unxf (xfTarget L e) = e :=
  fun e L h => (xfTarget_unxf e L).trans (unxf_id e h)

theorem unxf_xfTargetL : ∀ (es : List PyExpr) (L : List (List Str)), noLookupL es = true →
    unxfL (xfTargetL L es) = es :=
  fun es L h => (xfTargetL_unxf es L).trans (unxfL_id es h)

end Genshi.Py
