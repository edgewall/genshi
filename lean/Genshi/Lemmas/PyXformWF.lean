/-
  C03 + C13 — the rewritten tree is again a supported tree, so `parse_gen` applies to it: the
  source genshi compiles has exactly the abstract syntax of the rewritten tree.
-/
import Genshi.Lemmas.PyXform
namespace Genshi.Py
open Genshi.Gen

mutual
theorem wf_xf : ∀ (e : PyExpr) (L : List (List Str)), WF e → WF (xf L e) := by
  intro e L h
  cases e with
  | name id =>
      unfold xf
      split
      · exact h
      · exact wf_lookupName id
  | const c => exact h
  | unsupported _ => unfold WF at h; exact h.elim
  | unaryOp _ e | keyword _ e | cmpRhs _ e =>
      unfold WF at h; unfold xf WF; rw [isExpr_xf]
      exact ⟨h.1, wf_xf e L h.2.1, h.2.2⟩
  | starred e =>
      unfold WF at h; unfold xf WF; rw [isExpr_xf]
      exact ⟨wf_xf e L h.1, h.2⟩
  | «attribute» v a =>
      unfold WF at h; unfold xf
      exact wf_lookupAttr (wf_xf v L h.1) (by rw [isExpr_xf]; exact h.2.1) a
  | boolOp op vs =>
      unfold WF at h; unfold xf WF; rw [length_xfL, all_xfL _ isExpr_xf]
      exact ⟨h.1, h.2.1, wf_xfL vs L h.2.2.1, h.2.2.2⟩
  | binOp l op r =>
      unfold WF at h; unfold xf WF; simp only [isExpr_xf]
      exact ⟨h.1, wf_xf l L h.2.1, wf_xf r L h.2.2.1, h.2.2.2⟩
  | ifExp t b o =>
      unfold WF at h; unfold xf WF; simp only [isExpr_xf]
      exact ⟨wf_xf t L h.1, wf_xf b L h.2.1, wf_xf o L h.2.2.1, h.2.2.2⟩
  | dict items =>
      unfold WF at h; unfold xf WF; rw [all_xfL _ isDItem_xf]
      exact ⟨wf_xfL items L h.1, h.2⟩
  | list elts | tuple elts =>
      unfold WF at h; unfold xf WF; rw [all_xfL _ isElt_xf]
      exact ⟨wf_xfL elts L h.1, h.2⟩
  | yield_ v =>
      unfold WF at h; unfold xf WF; rw [exprO_xfO]
      exact ⟨wf_xfO v L h.1, h.2⟩
  | compare l rest =>
      unfold WF at h; unfold xf WF; rw [isExpr_xf, all_xfL _ isCmp_xf]
      exact ⟨wf_xf l L h.1, h.2.1, wf_xfL rest L h.2.2.1, xfL_ne_nil L rest h.2.2.2.1, h.2.2.2.2⟩
  | call f args kws =>
      unfold WF at h; unfold xf WF; rw [isExpr_xf, all_xfL _ isElt_xf, all_xfL _ isKw_xf]
      exact ⟨wf_xf f L h.1, h.2.1, wf_xfL args L h.2.2.1, h.2.2.2.1, wf_xfL kws L h.2.2.2.2.1, h.2.2.2.2.2⟩
  | subscript v s =>
      unfold WF at h; unfold xf
      split
      · unfold WF; simp only [isExpr_xf, isSlice_xf]
        exact ⟨wf_xf v L h.1, h.2.1, wf_xf s L h.2.2.1, h.2.2.2⟩
      · -- a key that is no slice is an expression
        rename_i hk
        have hse : isExpr s = true := by
          rcases h.2.2.2 with hs | hs
          · exact hs
          · cases s <;> simp_all [isSlice, isSliceKey]
        exact wf_lookupItem (wf_xf v L h.1) (by rw [isExpr_xf]; exact h.2.1) (wf_xf s L h.2.2.1)
          (by rw [isExpr_xf]; exact hse)
  | slice l u st =>
      unfold WF at h; unfold xf WF; simp only [exprO_xfO]
      exact ⟨wf_xfO l L h.1, wf_xfO u L h.2.1, wf_xfO st L h.2.2.1, h.2.2.2⟩
  | comp t it ifs a =>
      unfold WF at h; unfold xf WF; rw [isExpr_xf, isExpr_xfTarget, all_xfL _ isExpr_xf]
      exact ⟨xfTarget_wf t L h.1, h.2.1, wf_xf it L h.2.2.1, h.2.2.2.1, wf_xfL ifs L h.2.2.2.2.1, h.2.2.2.2.2⟩
  | param n ann d =>
      unfold WF at h; unfold xf WF; rw [exprO_xfO]
      exact ⟨h.1, h.2.1, wf_xfO d L h.2.2.1, h.2.2.2⟩
  | dictItem k v =>
      unfold WF at h; unfold xf WF; rw [exprO_xfO, isExpr_xf]
      exact ⟨wf_xfO k L h.1, h.2.1, wf_xf v L h.2.2.1, h.2.2.2⟩
  | lambda po ar va ko ka body =>
      unfold WF at h
      obtain ⟨h1, h2, h3, h4, h5, h6, h7, h8, h9, h10, h11, h12⟩ := h
      unfold xf WF; simp only [isExpr_xf, all_xfL _ isPlainParam_xf]
      exact ⟨wf_xfL po L h1, wf_xfL ar L h2, wf_xfO va L h3, wf_xfL ko L h4, wf_xfO ka L h5, wf_xf body _ h6,
        h7, h8, h9, h10, var_xfO L va h11, var_xfO L ka h12⟩
  | listComp elt gens | genExp elt gens =>
      unfold WF at h; unfold xf WF; rw [isExpr_xf, all_isComp_xfGens]
      exact ⟨wf_xf elt _ h.1, h.2.1, xfGens_wf gens L _ h.2.2.1, xfGens_ne_nil L _ gens h.2.2.2.1, h.2.2.2.2⟩
theorem wf_xfL : ∀ (es : List PyExpr) (L : List (List Str)), WFL es → WFL (xfL L es)
  | [], _, _ => by simp [xfL, WFL]
  | e :: es, L, h => by
      simp only [WFL] at h
      simp only [xfL, WFL]
      exact ⟨wf_xf e L h.1, wf_xfL es L h.2⟩
theorem wf_xfO : ∀ (o : Option PyExpr) (L : List (List Str)), WFO o → WFO (xfO L o)
  | none, _, _ => by simp [xfO, WFO]
  | some e, L, h => by
      simp only [WFO] at h
      simp only [xfO, WFO]
      exact wf_xf e L h
theorem xfGens_wf : ∀ (gens : List PyExpr) (L0 L1 : List (List Str)), WFL gens → WFL (xfGens L0 L1 gens)
  | [], _, _, _ => trivial
  | e :: r, L0, L1, h => by
      unfold WFL at h
      have hr := xfGens_wf r L1 L1 h.2
      cases e with
      | comp t it ifs a =>
          have hc := h.1
          unfold WF at hc
          unfold xfGens WFL WF; rw [isExpr_xf, isExpr_xfTarget, all_xfL _ isExpr_xf]
          exact ⟨⟨xfTarget_wf t L1 hc.1, hc.2.1, wf_xf it L0 hc.2.2.1, hc.2.2.2.1, wf_xfL ifs L1 hc.2.2.2.2.1,
            hc.2.2.2.2.2⟩, hr⟩
      | _ => exact ⟨wf_xf _ L1 h.1, hr⟩
theorem xfTarget_wf : ∀ (t : PyExpr) (L : List (List Str)), WF t → WF (xfTarget L t) := by
  intro t L h
  cases t with
  | tuple elts | list elts =>
      unfold WF at h; unfold xfTarget WF; rw [all_xfTargetL]
      exact ⟨xfTargetL_wf elts L h.1, h.2⟩
  | starred e =>
      unfold WF at h; unfold xfTarget WF; rw [isExpr_xfTarget]
      exact ⟨xfTarget_wf e L h.1, h.2⟩
  | «attribute» v a =>
      unfold WF at h; unfold xfTarget WF; rw [isExpr_xf, isIntConst_xf]
      exact ⟨wf_xf v L h.1, h.2⟩
  | subscript v s =>
      unfold WF at h; unfold xfTarget WF; simp only [isExpr_xf, isSlice_xf]
      exact ⟨wf_xf v L h.1, h.2.1, wf_xf s L h.2.2.1, h.2.2.2⟩
  | _ => exact h  -- `xfTarget` leaves every other node as it is
theorem xfTargetL_wf : ∀ (ts : List PyExpr) (L : List (List Str)), WFL ts → WFL (xfTargetL L ts)
  | [], _, _ => trivial
  | t :: ts, L, h => by
      unfold WFL at h; unfold xfTargetL WFL
      exact ⟨xfTarget_wf t L h.1, xfTargetL_wf ts L h.2⟩
end

theorem wf_xfGens : ∀ (gens : List PyExpr) (L0 L1 : List (List Str)), WFL gens → gens.all isComp = true → gens ≠ [] →
    WFL (xfGens L0 L1 gens) ∧ xfGens L0 L1 gens ≠ [] ∧ (xfGens L0 L1 gens).all isComp = true :=
  fun gens L0 L1 h hall hne =>
    ⟨xfGens_wf gens L0 L1 h, xfGens_ne_nil L0 L1 gens hne, (all_isComp_xfGens L0 L1 gens).trans hall⟩

theorem wf_xfTarget : ∀ (t : PyExpr) (L : List (List Str)), WF t → isExpr t = true →
    WF (xfTarget L t) ∧ isExpr (xfTarget L t) = true :=
  fun t L h he => ⟨xfTarget_wf t L h, (isExpr_xfTarget L t).trans he⟩

theorem wf_xfTargetL : ∀ (ts : List PyExpr) (L : List (List Str)), WFL ts → ts.all isElt = true →
    WFL (xfTargetL L ts) ∧ (xfTargetL L ts).all isElt = true :=
  fun ts L h hall => ⟨xfTargetL_wf ts L h, (all_xfTargetL L ts).trans hall⟩

theorem supported_xform (e : PyExpr) (h : Supported e) : Supported (xform e) :=
  ⟨wf_xf e _ h.1, (isExpr_xf _ e).trans h.2⟩

end Genshi.Py
