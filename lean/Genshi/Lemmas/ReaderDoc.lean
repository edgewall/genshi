/-
  Helper lemmas for C08: the round trips over whole documents — a prolog (XML
  declaration, DOCTYPE) followed by a body forest whose leaves may be text, comments,
  processing instructions and CDATA sections — with or without a doctype option: the
  body.  The expected tokens are defined by recursion on the forest; html for every
  forest renderer `Rend` (`bodyHR`: one namespace and mixed namespaces are instances),
  xhtml for forests in one namespace (`bodyX_kids`).  The prolog: Lemmas/ReaderDocTop.
-/
import Genshi.Lemmas.ReaderTreeNs
import Genshi.Lemmas.ReaderPrologSim
namespace Genshi.Reader
open Genshi Genshi.Escape Genshi.Output

def dtPieces (n : Str) (p s : Option Str) : List Piece := [.tok (.doctype (doctypeContent n p s)), .chars ['\n']]

/-- the pieces one event is read back as; `hd`: a DOCTYPE has been written before -/
def evPieceH (hd : Bool) : FEv → List Piece
  | .doctype n p s => if hd then [] else dtPieces n p s
  | .pi t d => [.tok (.pi (t ++ ' ' :: d ++ ['?']))]
  | ev => evPieces ev

def hdAfter (hd : Bool) : FEv → Bool
  | .doctype _ _ _ => true
  | _ => hd

def evsPiecesH : Bool → List FEv → List Piece
  | _, [] => []
  | hd, ev :: rest => evPieceH hd ev ++ evsPiecesH (hdAfter hd ev) rest

theorem htmlEvP_pieces (r : RS) (hd : Bool) (ev : FEv) :
    bt (htmlEvP r hd ev).1 = (evPieceH hd ev).foldl applyPiece (bt r) ∧ (htmlEvP r hd ev).2 = hdAfter hd ev := by
  cases ev with
  | doctype n p s => cases hd <;> simp [htmlEvP, evPieceH, dtPieces, hdAfter, bt, applyPiece]
  | pi t d => simp [htmlEvP, evPieceH, hdAfter, bt, applyPiece]
  | _ => exact ⟨bt_htmlEv r _, rfl⟩

theorem foldP_pieces (evs : List FEv) : ∀ (r : RS) (hd : Bool),
    bt (foldP evs r hd).1 = (evsPiecesH hd evs).foldl applyPiece (bt r) := by
  induction evs with
  | nil => intro r hd; rfl
  | cons ev rest ih =>
    intro r hd
    have h := htmlEvP_pieces r hd ev
    have := ih (htmlEvP r hd ev).1 (htmlEvP r hd ev).2
    simp only [foldP, List.foldl_cons] at this ⊢
    rw [this, h.1, h.2]
    simp [evsPiecesH, List.foldl_append]

theorem htmlExpectedP_eq_assemble (evs : List FEv) : htmlExpectedP evs = assemble (evsPiecesH false evs) := by
  have := foldP_pieces evs {} false
  simp only [htmlExpectedP, assemble]
  have h1 : (foldP evs {} false).1.buf = (bt (foldP evs {} false).1).1 := rfl
  have h2 : (foldP evs {} false).1.toks = (bt (foldP evs {} false).1).2 := rfl
  rw [h1, h2, this]; rfl

/-- leaves of the document body outside script/style: plain text, comments without `--`, processing
    instructions without `>`, CDATA markers (not written under html).  DOCTYPE and XML declaration
    belong to the prolog. -/
def leafOkH : Event → Bool
  | .text _ f => !f
  | .comment s => commentOk s
  | .pi t d => piSafe false false (t ++ ' ' :: d)
  | .startCdata => true
  | .endCdata => true
  | _ => false

mutual
  def htmlTreeOkP : Node → Bool
    | .elem t a ks =>
        nameOkB t.loc && (fAttrs a).all (fun p => nameOkB p.1) &&
          (if rawTextElems.contains t.loc then rawKidsOk ks else htmlForestOkP ks)
    | .leaf e => leafOkH e
  def htmlForestOkP : List Node → Bool
    | [] => true
    | n :: ns => htmlTreeOkP n && htmlForestOkP ns
end

mutual
  /-- html: as `treePieces`, plus processing instructions (html.parser's convention: the `?` of the
      closing `?>` is part of the data) -/
  def treePiecesP : Node → List Piece
    | .elem t a ks =>
        .tok (.start t.loc (htmlAttrToks (fAttrs a)) false) ::
          (if ks.isEmpty then (if inTable (emptyElems .html) t.loc then [] else [.tok (.end_ t.loc)])
           else forestPiecesP ks ++ [.tok (.end_ t.loc)])
    | .leaf (.text s _) => [.chars s]
    | .leaf (.comment s) => [.tok (.comment s)]
    | .leaf (.pi t d) => [.tok (.pi (t ++ ' ' :: d ++ ['?']))]
    | .leaf _ => []
  def forestPiecesP : List Node → List Piece
    | [] => []
    | n :: ns => treePiecesP n ++ forestPiecesP ns
end

/-- what the body lemmas say of a list of events, in continuation-passing form (`evs` in front of any
    `rest`, outside script/style): the hypotheses of `rest` carry over, the reader is outside
    script/style again behind `evs`, and `evs` is read back as the pieces `ps` -/
structure BodyH (evs : List FEv) (ps : List Piece) : Prop where
  ok : ∀ hd rest, HtmlOkAllP false hd rest → HtmlOkAllP false hd (evs ++ rest)
  raw : ∀ rest, rawEndP false (evs ++ rest) = rawEndP false rest
  pieces : ∀ hd rest, evsPiecesH hd (evs ++ rest) = ps ++ evsPiecesH hd rest

/-- `BodyH` with the reader's flags as indices: the events `evs` lead from `(raw, hd)` to
    `(raw', hd')` (inside a script/style element; behind a DOCTYPE).  One event is a block (`one`),
    blocks compose (`append`); what the three fields say of an element or of the prolog is then
    said once, by composition. -/
structure BlockH (raw hd : Bool) (evs : List FEv) (raw' hd' : Bool) (ps : List Piece) : Prop where
  ok : ∀ rest, HtmlOkAllP raw' hd' rest → HtmlOkAllP raw hd (evs ++ rest)
  raw : ∀ rest, rawEndP raw (evs ++ rest) = rawEndP raw' rest
  pieces : ∀ rest, evsPiecesH hd (evs ++ rest) = ps ++ evsPiecesH hd' rest

theorem BlockH.nil (raw hd : Bool) : BlockH raw hd [] raw hd [] := ⟨fun _ h => h, fun _ => rfl, fun _ => rfl⟩

theorem BlockH.append {r h r1 h1 r2 h2 : Bool} {a b : List FEv} {pa pb : List Piece}
    (ha : BlockH r h a r1 h1 pa) (hb : BlockH r1 h1 b r2 h2 pb) : BlockH r h (a ++ b) r2 h2 (pa ++ pb) := by
  refine ⟨?_, ?_, ?_⟩
  · intro rest hr; rw [List.append_assoc]; exact ha.ok _ (hb.ok rest hr)
  · intro rest; rw [List.append_assoc, ha.raw, hb.raw]
  · intro rest; rw [List.append_assoc, ha.pieces, hb.pieces, List.append_assoc]

theorem hdAfter_eq (hd : Bool) (ev : FEv) : (hd || HtmlOkAllP.isDoctypeEv ev) = hdAfter hd ev := by
  cases ev <;> simp [HtmlOkAllP.isDoctypeEv, hdAfter]

theorem BlockH.one {raw hd : Bool} {ev : FEv} (h : HtmlOkP raw hd ev) :
    BlockH raw hd [ev] (rawAfter raw ev) (hdAfter hd ev) (evPieceH hd ev) :=
  ⟨fun _ hr => ⟨h, by rw [hdAfter_eq]; exact hr⟩, fun _ => rfl, fun _ => rfl⟩

theorem BodyH.block {evs : List FEv} {ps : List Piece} (h : BodyH evs ps) (hd : Bool) : BlockH false hd evs false hd ps :=
  ⟨h.ok hd, h.raw, h.pieces hd⟩

theorem BodyH.of_blocks {evs : List FEv} {ps : List Piece} (h : ∀ hd, BlockH false hd evs false hd ps) : BodyH evs ps :=
  ⟨fun hd => (h hd).ok, (h false).raw, fun hd => (h hd).pieces⟩

theorem BodyH.nil : BodyH [] [] := .of_blocks (.nil false)

theorem BodyH.append {a b : List FEv} {pa pb : List Piece} (ha : BodyH a pa) (hb : BodyH b pb) :
    BodyH (a ++ b) (pa ++ pb) := .of_blocks fun hd => (ha.block hd).append (hb.block hd)

theorem blockH_rawKids (hd : Bool) (ks : List Node) (h : rawKidsOk ks = true) :
    BlockH true hd (forestF ks) true hd (forestPiecesP ks) := by
  induction ks using rawKidsOk.induct with
  | case1 => exact .nil true hd
  | case2 x f ks' ih =>
    simp only [rawKidsOk, Bool.and_eq_true, Bool.not_eq_true'] at h
    obtain ⟨⟨rfl, hs⟩, hr⟩ := h
    exact (BlockH.one (ev := .text x false) ⟨rfl, fun _ => hs⟩).append (ih hr)
  | case3 k ks hne => simp [rawKidsOk] at h

/-- an element with the attributes `at_` written for it (html reads them as it reads the element's own), its
    children handed on as `kevs`: start tag, the children's block (inside script/style: text only), end tag -/
theorem BodyH.node (t : QName) (a : AttrList) (ks : List Node) (at_ : FAttrs) (kevs : List FEv)
    (hd : htmlAttrToks at_ = htmlAttrToks (fAttrs a)) (hT : NameOk t.loc) (hA : ∀ p ∈ at_, NameOk p.1)
    (hraw : rawTextElems.contains t.loc = true → rawKidsOk ks = true ∧ kevs = forestF ks)
    (hk : rawTextElems.contains t.loc = false → BodyH kevs (forestPiecesP ks)) :
    BodyH (if ks.isEmpty then [.empty t.loc at_] else .start t.loc at_ :: (kevs ++ [.end_ t.loc]))
      (treePiecesP (.elem t a ks)) := by
  refine .of_blocks fun h => ?_
  cases ks with
  | nil =>
    have e : treePiecesP (.elem t a []) = evPieceH h (.empty t.loc at_) := by
      simp only [treePiecesP, evPieceH, evPieces, hd, List.isEmpty_nil, ↓reduceIte]; split <;> rfl
    rw [e]; exact .one ⟨rfl, hT, hA⟩
  | cons k ks' =>
    have hkids : BlockH (rawTextElems.contains t.loc) h kevs (rawTextElems.contains t.loc) h (forestPiecesP (k :: ks')) := by
      cases hr : rawTextElems.contains t.loc with
      | true => obtain ⟨hko, rfl⟩ := hraw hr; exact blockH_rawKids h _ hko
      | false => exact (hk hr).block h
    have e : treePiecesP (.elem t a (k :: ks')) = evPieceH h (.start t.loc at_) ++
        (forestPiecesP (k :: ks') ++ evPieceH h (.end_ t.loc)) := by
      simp only [treePiecesP, evPieceH, evPieces, hd, List.isEmpty_cons, Bool.false_eq_true, ↓reduceIte,
        List.singleton_append]
    rw [e]
    exact (BlockH.one (ev := .start t.loc at_) ⟨rfl, hT, hA⟩).append
      (hkids.append (.one (ev := .end_ t.loc) hT))

theorem bodyH_leaf (e : Event) (h : leafOkH e = true) : BodyH (leafF e).toList (treePiecesP (.leaf e)) := by
  cases e with
  | text s f =>
    have hf : f = false := by simpa [leafOkH] using h
    exact .of_blocks fun _ => .one (ev := .text s f) ⟨hf, nofun⟩
  | comment s => exact .of_blocks fun _ => .one (ev := .comment s) ⟨rfl, h⟩
  | pi t d => exact .of_blocks fun _ => .one (ev := .pi t d) ⟨rfl, h⟩
  | startCdata => exact .of_blocks fun _ => .one (ev := .startCdata) trivial
  | endCdata => exact .of_blocks fun _ => .one (ev := .endCdata) trivial
  | _ => exact absurd h Bool.false_ne_true

theorem bodyHR {P : Type} (R : Rend P) (hR : R.Decl) :
    (∀ n p, htmlTreeOkP n = true → BodyH (R.F p [n]) (treePiecesP n)) ∧
    ∀ ns p, htmlForestOkP ns = true → BodyH (R.F p ns) (forestPiecesP ns) := by
  refine node_induction ?_ ?_ ?_ ?_
  · intro t a ks ih p h
    simp only [htmlTreeOkP, Bool.and_eq_true] at h
    rw [R.elem_eq]
    exact BodyH.node t a ks _ _ (hR.htmlAttrToks p t a) (nameOk_of_B h.1.1) (hR.names p t h.1.2)
      (fun hr => by rw [if_pos hr] at h; exact ⟨h.2, R.raw _ ks h.2⟩)
      (fun hr => by rw [if_neg (by rw [hr]; exact Bool.false_ne_true)] at h; exact ih _ h.2)
  · intro e p h; rw [R.leaf]; exact bodyH_leaf e (by rwa [htmlTreeOkP] at h)
  · intro p _; rw [R.nil]; exact BodyH.nil
  · intro n ns ihn ihs p h
    simp only [htmlForestOkP, Bool.and_eq_true] at h
    rw [R.cons, forestPiecesP]
    exact (ihn p h.1).append (ihs p h.2)

theorem bodyH_treeU (u : Str) : ∀ (s : Bool) (n : Node), htmlTreeOkP n = true → BodyH (treeFu u s n) (treePiecesP n) :=
  fun s n => rendU_tree u s n ▸ (bodyHR rendU rendU_decl).1 n (u, s)

theorem bodyH_forestU (u : Str) : ∀ (s : Bool) (ns : List Node), htmlForestOkP ns = true →
      BodyH (forestFu u s ns) (forestPiecesP ns) :=
  fun s ns => (bodyHR rendU rendU_decl).2 ns (u, s)

theorem bodyH_treeM : ∀ (cur : Str) (n : Node), htmlTreeOkP n = true → BodyH (treeFm cur n) (treePiecesP n) :=
  fun cur n => rendM_tree cur n ▸ (bodyHR rendM rendM_decl).1 n cur

theorem bodyH_forestM : ∀ (cur : Str) (ns : List Node), htmlForestOkP ns = true →
      BodyH (forestFm cur ns) (forestPiecesP ns) :=
  fun cur ns => (bodyHR rendM rendM_decl).2 ns cur

def xdPieces (v : Str) (e : Option Str) (s : Int) : List Piece :=
  [.tok (.pi (xmlDeclContent v e s)), .chars ['\n']]

/-- outside a CDATA section -/
def evPieceX (o : Opts) (f : Flags) : FEv → List Piece
  | .doctype n p s => if f.hd then [] else dtPieces n p s
  | .xmlDecl v e s => if f.hx || o.dropXmlDecl then [] else xdPieces v e s
  | .pi t d => [.tok (.pi (t ++ ' ' :: d))]
  | ev => evPiecesX ev

/-- inside a CDATA section -/
def evPieceCd : FEv → List Piece
  | .text s _ => [.chars s]
  | _ => []

def evsPiecesX (o : Opts) : Bool → Flags → List FEv → List Piece
  | _, _, [] => []
  | c, f, ev :: rest =>
      (if c then evPieceCd ev else evPieceX o f ev) ++ evsPiecesX o (cdAfter c ev) (flagsAfter o c f ev) rest

def btC (r : RC) : Str × List Tok := (r.buf, r.toks)

theorem xhtmlEvP_pieces (o : Opts) (r : RC) (f : Flags) (ev : FEv) :
    btC (xhtmlEvP o r f ev).1 =
      (if r.cd.isSome then evPieceCd ev else evPieceX o f ev).foldl applyPiece (btC r) := by
  obtain ⟨rcd, rbuf, rtoks⟩ := r
  cases rcd with
  | some b => cases ev <;> rfl
  | none =>
    cases ev with
    | doctype n p s =>
      cases hf : f.hd <;> simp [xhtmlEvP, evPieceX, dtPieces, btC, applyPiece, hf]
    | pi t d => simp [xhtmlEvP, evPieceX, btC, applyPiece]
    | xmlDecl v e s =>
      by_cases hw : (f.hx || o.dropXmlDecl) = true <;> simp [xhtmlEvP, evPieceX, xdPieces, btC, applyPiece, hw]
    | startCdata => rfl
    | _ => exact bt_xhtmlEv ⟨false, rbuf, rtoks⟩ _

def cdEnd (c : Bool) (evs : List FEv) : Bool := evs.foldl cdAfter c

theorem foldXP_pieces (o : Opts) (evs : List FEv) : ∀ (r : RC) (f : Flags), XhtmlOkAllP o r.cd.isSome f evs →
    btC (foldXP o evs r f).1 = (evsPiecesX o r.cd.isSome f evs).foldl applyPiece (btC r) ∧
    (foldXP o evs r f).1.cd.isSome = cdEnd r.cd.isSome evs := by
  induction evs with
  | nil => intro r f _; exact ⟨rfl, rfl⟩
  | cons ev rest ih =>
    intro r f hok
    have hp := xhtmlEvP_pieces o r f ev
    have hf := xhtmlEvP_flags o r f ev hok.1
    have := ih (xhtmlEvP o r f ev).1 (xhtmlEvP o r f ev).2 (by rw [hf.1, hf.2]; exact hok.2)
    simp only [foldXP, List.foldl_cons] at this ⊢
    rw [this.1, this.2, hp, hf.1, hf.2]
    simp [evsPiecesX, List.foldl_append, cdEnd]

theorem xhtmlExpectedP_eq_assemble (o : Opts) (evs : List FEv) (hok : XhtmlOkAllP o false {} evs) :
    xhtmlExpectedP o evs = assemble (evsPiecesX o false {} evs) := by
  have := (foldXP_pieces o evs {} {} hok).1
  simp only [xhtmlExpectedP, assemble]
  have h1 : (foldXP o evs {} {}).1.buf = (btC (foldXP o evs {} {}).1).1 := rfl
  have h2 : (foldXP o evs {} {}).1.toks = (btC (foldXP o evs {} {}).1).2 := rfl
  rw [h1, h2, this]; rfl

/-- leaves of the document body; `inCd`: inside a CDATA section (only plain text that cannot close
    it, and the end marker) -/
def leafOkX (inCd : Bool) : Event → Bool
  | .text s f => !f && (!inCd || cdataSafe 2 s)
  | .comment s => !inCd && commentOk s
  | .pi t d => !inCd && piSafe true false (t ++ ' ' :: d)
  | .startCdata => !inCd
  | .endCdata => inCd
  | _ => false

def cdAfterE (inCd : Bool) : Event → Bool
  | .startCdata => true
  | .endCdata => false
  | _ => inCd

mutual
  def xNodeOkP : Node → Bool
    | .elem t a ks =>
        nameOkB t.loc && (fAttrs a).all (fun p => nameOkB p.1 && attrValOkB p.2) && xKidsOkP false ks
    | .leaf _ => true
  /-- a list of siblings; a CDATA section is a run of siblings `START_CDATA, text…, END_CDATA` and
      must be closed in the same list -/
  def xKidsOkP : Bool → List Node → Bool
    | c, [] => !c
    | c, n :: rest =>
        match n with
        | .leaf e => leafOkX c e && xKidsOkP (cdAfterE c e) rest
        | .elem _ _ _ => !c && xNodeOkP n && xKidsOkP false rest
end

mutual
  /-- xhtml pieces of a tree in namespace `u`, processing instructions included; CDATA markers
      vanish, the text between them is ordinary character data -/
  def treePiecesXP (u : Str) (s : Bool) : Node → List Piece
    | .elem t a ks =>
        let at_ := (declAttr u s).map (fun p => (p.1, some p.2)) ++ xhtmlAttrToks (fAttrs a)
        if ks.isEmpty then
          (if inTable (emptyElems .xhtml) t.loc then [.tok (.start t.loc at_ true)]
           else [.tok (.start t.loc at_ false), .tok (.end_ t.loc)])
        else .tok (.start t.loc at_ false) :: (forestPiecesXP u true ks ++ [.tok (.end_ t.loc)])
    | .leaf (.text x _) => [.chars x]
    | .leaf (.comment x) => [.tok (.comment x)]
    | .leaf (.pi t d) => [.tok (.pi (t ++ ' ' :: d))]
    | .leaf _ => []
  def forestPiecesXP (u : Str) (s : Bool) : List Node → List Piece
    | [] => []
    | n :: ns => treePiecesXP u s n ++ forestPiecesXP u s ns
end

/-- a list of events that leads from CDATA state `c` to `c'`, in front of `rest` -/
structure BodyX (o : Opts) (c c' : Bool) (evs : List FEv) (ps : List Piece) : Prop where
  ok : ∀ f rest, XhtmlOkAllP o c' f rest → XhtmlOkAllP o c f (evs ++ rest)
  cd : ∀ rest, cdEnd c (evs ++ rest) = cdEnd c' rest
  pieces : ∀ f rest, evsPiecesX o c f (evs ++ rest) = ps ++ evsPiecesX o c' f rest

/-- `BodyX` with the flags as indices as well (the prolog changes them) -/
structure BlockX (o : Opts) (c : Bool) (f : Flags) (evs : List FEv) (c' : Bool) (f' : Flags) (ps : List Piece) : Prop where
  ok : ∀ rest, XhtmlOkAllP o c' f' rest → XhtmlOkAllP o c f (evs ++ rest)
  cd : ∀ rest, cdEnd c (evs ++ rest) = cdEnd c' rest
  pieces : ∀ rest, evsPiecesX o c f (evs ++ rest) = ps ++ evsPiecesX o c' f' rest

theorem BlockX.nil (o : Opts) (c : Bool) (f : Flags) : BlockX o c f [] c f [] := ⟨fun _ h => h, fun _ => rfl, fun _ => rfl⟩

theorem BlockX.append {o : Opts} {c c1 c2 : Bool} {f f1 f2 : Flags} {a b : List FEv} {pa pb : List Piece}
    (ha : BlockX o c f a c1 f1 pa) (hb : BlockX o c1 f1 b c2 f2 pb) : BlockX o c f (a ++ b) c2 f2 (pa ++ pb) := by
  refine ⟨?_, ?_, ?_⟩
  · intro rest h; rw [List.append_assoc]; exact ha.ok _ (hb.ok rest h)
  · intro rest; rw [List.append_assoc, ha.cd, hb.cd]
  · intro rest; rw [List.append_assoc, ha.pieces, hb.pieces, List.append_assoc]

theorem BlockX.one {o : Opts} {c : Bool} {f : Flags} {ev : FEv} (h : XhtmlOkP o c f ev) :
    BlockX o c f [ev] (cdAfter c ev) (flagsAfter o c f ev) (if c then evPieceCd ev else evPieceX o f ev) :=
  ⟨fun _ hr => ⟨h, hr⟩, fun _ => rfl, fun _ => rfl⟩

theorem BodyX.block {o : Opts} {c c' : Bool} {evs : List FEv} {ps : List Piece} (h : BodyX o c c' evs ps) (f : Flags) :
    BlockX o c f evs c' f ps := ⟨h.ok f, h.cd, h.pieces f⟩

theorem BodyX.of_blocks {o : Opts} {c c' : Bool} {evs : List FEv} {ps : List Piece}
    (h : ∀ f, BlockX o c f evs c' f ps) : BodyX o c c' evs ps :=
  ⟨fun f => (h f).ok, (h {}).cd, fun f => (h f).pieces⟩

theorem BodyX.nil (o : Opts) (c : Bool) : BodyX o c c [] [] := .of_blocks (.nil o c)

theorem BodyX.append {o : Opts} {c c' c'' : Bool} {a b : List FEv} {pa pb : List Piece}
    (ha : BodyX o c c' a pa) (hb : BodyX o c' c'' b pb) : BodyX o c c'' (a ++ b) (pa ++ pb) :=
  .of_blocks fun f => (ha.block f).append (hb.block f)

theorem bodyX_leaf (o : Opts) (u : Str) (s c : Bool) (e : Event) (h : leafOkX c e = true) :
    BodyX o c (cdAfterE c e) (treeFu u s (.leaf e)) (treePiecesXP u s (.leaf e)) := by
  rw [treeFu]
  cases c with
  | false =>
    cases e with
    | text x f =>
      have hf : f = false := by simpa [leafOkX] using h
      exact .of_blocks fun _ => .one (ev := .text x f) hf
    | comment x => exact .of_blocks fun _ => .one (ev := .comment x) h
    | pi t d => exact .of_blocks fun _ => .one (ev := .pi t d) h
    | startCdata => exact .of_blocks fun _ => .one (ev := .startCdata) trivial
    | _ => exact absurd h Bool.false_ne_true
  | true =>
    cases e with
    | text x f =>
      have hf : f = false ∧ cdataSafe 2 x = true := by simpa [leafOkX] using h
      exact .of_blocks fun _ => .one (ev := .text x f) hf
    | endCdata => exact .of_blocks fun _ => .one (ev := .endCdata) trivial
    | _ => exact absurd h Bool.false_ne_true

/-- an element whose start tag carries the declaration `d` (an ordinary first attribute for the XML
    tokenizer) and whose children are handed on as `kevs` -/
theorem BodyX.node (o : Opts) (t : QName) (a : AttrList) (ks : List Node) (d : FAttrs) (kevs : List FEv)
    (kps : List Piece)
    (hd : xhtmlAttrToks (d ++ fAttrs a) = d.map (fun p => (p.1, some p.2)) ++ xhtmlAttrToks (fAttrs a))
    (hdo : XAttrsOk d) (ht : nameOkB t.loc = true)
    (ha : (fAttrs a).all (fun p => nameOkB p.1 && attrValOkB p.2) = true)
    (hk : BodyX o false false kevs kps) :
    BodyX o false false
      (if ks.isEmpty then [.empty t.loc (d ++ fAttrs a)] else .start t.loc (d ++ fAttrs a) :: (kevs ++ [.end_ t.loc]))
      (let at_ := d.map (fun p => (p.1, some p.2)) ++ xhtmlAttrToks (fAttrs a)
       if ks.isEmpty then
         (if inTable (emptyElems .xhtml) t.loc then [.tok (.start t.loc at_ true)]
          else [.tok (.start t.loc at_ false), .tok (.end_ t.loc)])
       else .tok (.start t.loc at_ false) :: (kps ++ [.tok (.end_ t.loc)])) := by
  have hT := nameOk_of_B ht
  have hA := xattrsOk_append hdo ha
  refine .of_blocks fun f => ?_
  cases ks with
  | nil =>
    have := BlockX.one (o := o) (c := false) (f := f) (ev := .empty t.loc (d ++ fAttrs a)) ⟨hT, hA⟩
    simpa only [evPieceX, evPiecesX, hd, List.isEmpty_nil, Bool.false_eq_true, ↓reduceIte, cdAfter, flagsAfter] using this
  | cons k ks' =>
    have := (BlockX.one (o := o) (c := false) (f := f) (ev := .start t.loc (d ++ fAttrs a)) ⟨hT, hA⟩).append
      ((hk.block f).append (.one (ev := .end_ t.loc) hT))
    simpa only [evPieceX, evPiecesX, hd, List.isEmpty_cons, Bool.false_eq_true, ↓reduceIte, cdAfter, flagsAfter,
      List.singleton_append] using this

theorem bodyX_kids (o : Opts) (u : Str) (hu : attrValOkB u = true) : ∀ (ns : List Node) (s c : Bool),
    xKidsOkP c ns = true → BodyX o c false (forestFu u s ns) (forestPiecesXP u s ns)
  | [], s, c, h => by
      have hc : c = false := by simpa [xKidsOkP] using h
      subst hc
      simpa [forestFu, forestPiecesXP] using BodyX.nil o false
  | .leaf e :: rest, s, c, h => by
      simp only [xKidsOkP, Bool.and_eq_true] at h
      simp only [forestFu, forestPiecesXP]
      exact (bodyX_leaf o u s c e h.1).append (bodyX_kids o u hu rest s (cdAfterE c e) h.2)
  | .elem t a ks :: rest, s, c, h => by
      simp only [xKidsOkP, xNodeOkP, Bool.and_eq_true, Bool.not_eq_true'] at h
      obtain ⟨⟨hc, ⟨ht, ha⟩, hk⟩, hrest⟩ := h
      subst hc
      simp only [forestFu, forestPiecesXP]
      refine BodyX.append ?_ (bodyX_kids o u hu rest s false hrest)
      rw [treeFu, treePiecesXP]
      exact BodyX.node o t a ks _ _ _ (xhtmlAttrToks_decl u s _) (declAttr_ok u s hu) ht ha
        (bodyX_kids o u hu ks true false hk)
termination_by ns => sizeOf ns
decreasing_by
  all_goals simp only [List.cons.sizeOf_spec, Node.elem.sizeOf_spec]
  all_goals omega

end Genshi.Reader
