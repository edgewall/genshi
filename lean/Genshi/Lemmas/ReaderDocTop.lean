/-
  Helper lemmas for C08: a whole document (`docNodes`, Lemmas/OutputForest: prolog + body forest),
  serialised with or without a doctype option: what the tokenizers read back.
-/
import Genshi.Lemmas.ReaderDoc
import Genshi.Lemmas.ReaderLiterals
namespace Genshi.Reader
open Genshi Genshi.Escape Genshi.Output

theorem forestFm_doc (cur : Str) (decl : Option DeclT) (dt : Option DocTypeT) (body : List Node) :
    forestFm cur (docNodes decl dt body) = declF decl ++ (dtF dt ++ forestFm cur body) :=
  rendM.doc cur decl dt body

theorem mixedOk_doc (decl : Option DeclT) (dt : Option DocTypeT) (body : List Node)
    (h : forestMixedOk body = true) : forestMixedOk (docNodes decl dt body) = true := by
  simp only [docNodes, mixedOk_nodewise.append, h, Bool.and_true]
  cases decl <;> cases dt <;> simp [declN, dtN, forestMixedOk, mixedOk, leafF]

def dtPiecesOf : Option DocTypeT → List Piece
  | some x => dtPieces x.1 x.2.1 x.2.2
  | none => []

def dtOkOf : Option DocTypeT → Bool
  | some x => dtFieldsOk x.1 x.2.1 x.2.2
  | none => true

/-- html: no `>` in the identifiers of the DOCTYPE that is written (an HTML parser ends the
    declaration at the first `>`, quoted or not: finding C08-doctype-gt-html) -/
def dtNoGtOf : Option DocTypeT → Bool
  | some x => dtNoGt x.2.1 x.2.2
  | none => true

/-- the XML declaration of the stream: html writes nothing for it -/
theorem blockH_decl (decl : Option DeclT) (hd : Bool) : BlockH false hd (declF decl) false hd [] := by
  cases decl with
  | none => exact .nil false hd
  | some x => exact .one (ev := .xmlDecl x.1 x.2.1 x.2.2) trivial

/-- a DOCTYPE event: written, and read back as its literal, unless one was written before -/
theorem blockH_dt (d : Option DocTypeT) (hd : Bool) (hf : hd = false → dtOkOf d = true ∧ dtNoGtOf d = true) :
    BlockH false hd (dtF d) false (hd || d.isSome) (if hd then [] else dtPiecesOf d) := by
  cases d with
  | none => cases hd <;> exact .nil false _
  | some x =>
    have := BlockH.one (raw := false) (hd := hd) (ev := .doctype x.1 x.2.1 x.2.2)
      ⟨rfl, fun hh => dtScan_doctypeContent false _ _ _ (hf hh).1 fun _ => (hf hh).2⟩
    cases hd <;> exact this

theorem html_doc_tokens (o : Opts) (decl : Option DeclT) (dopt dt : Option DocTypeT) (B : List FEv) (ps : List Piece)
    (hB : BodyH B ps) (hwin : dtOkOf (winDt dopt dt) = true) (hgt : dtNoGtOf (winDt dopt dt) = true) :
    tokens false (serSpec .html o {} (declF decl ++ (dtF dopt ++ (dtF dt ++ B)))).flatten =
      some (assemble (dtPiecesOf (winDt dopt dt) ++ ps)) := by
  have hb := (blockH_decl decl false).append ((blockH_dt dopt false (by cases dopt <;> simp_all [winDt, dtOkOf, dtNoGtOf])).append
    ((blockH_dt dt _ (by cases dopt <;> simp_all [winDt])).append (hB.block _)))
  have hok := hb.ok [] trivial
  have hraw := hb.raw []
  have hps := hb.pieces []
  rw [List.append_nil] at hok hraw hps
  rw [html_tokensP o _ hok (((html_streamG o _ {} false {} rfl rfl hok.toG).2).trans hraw), htmlExpectedP_eq_assemble, hps]
  cases dopt <;> simp [winDt, evsPiecesH, dtPiecesOf]

def xdPiecesOf (o : Opts) : Option DeclT → List Piece
  | some x => if o.dropXmlDecl then [] else xdPieces x.1 x.2.1 x.2.2
  | none => []

/-- the XML declaration is written only with `drop_xml_decl=False`; then its literal must not hold `>` -/
def xdOkOf (o : Opts) : Option DeclT → Bool
  | some x => o.dropXmlDecl || xdNoGt x.1 x.2.1
  | none => true

theorem notXdHead_bodyX (u : Str) (s : Bool) (ns : List Node) (h : xKidsOkP false ns = true) :
    notXdHead (forestFu u s ns) = true := by
  cases ns with
  | nil => rfl
  | cons n rest =>
    cases n with
    | elem t a ks => cases ks <;> rfl
    | leaf e =>
      simp only [xKidsOkP, Bool.and_eq_true] at h
      cases e <;> first | rfl | exact absurd h.1 Bool.false_ne_true

theorem notXdHead_bodyHM (cur : Str) (ns : List Node) (h : htmlForestOkP ns = true) :
    notXdHead (forestFm cur ns) = true := by
  cases ns with
  | nil => rfl
  | cons n rest =>
    simp only [htmlForestOkP, Bool.and_eq_true] at h
    cases n with
    | elem t a ks => cases ks <;> rfl
    | leaf e => cases e <;> first | rfl | exact absurd h.1 Bool.false_ne_true

def flagsDecl (o : Opts) (f : Flags) : Option DeclT → Flags
  | some x => flagsAfter o false f (.xmlDecl x.1 x.2.1 x.2.2)
  | none => f

def flagsDt (f : Flags) : Option DocTypeT → Flags
  | some _ => { f with hd := true }
  | none => f

theorem flagsDecl_hd (o : Opts) (f : Flags) (decl : Option DeclT) : (flagsDecl o f decl).hd = f.hd := by
  cases decl with
  | none => rfl
  | some x => simp only [flagsDecl, flagsAfter]; split <;> rfl

/-- the XML declaration at the head of the stream: written with `drop_xml_decl=False` only -/
theorem blockX_decl (o : Opts) (decl : Option DeclT) (hx : xdOkOf o decl = true) :
    BlockX o false {} (declF decl) false (flagsDecl o {} decl) (xdPiecesOf o decl) := by
  cases decl with
  | none => exact .nil o false {}
  | some x =>
    have e : xdPiecesOf o (some x) = evPieceX o {} (.xmlDecl x.1 x.2.1 x.2.2) := by simp [evPieceX, xdPiecesOf]
    rw [e]
    exact .one (ev := .xmlDecl x.1 x.2.1 x.2.2) fun hh => piSafe_xmlDeclContent _ _ _ (by simpa [xdOkOf, hh.2] using hx)

theorem blockX_dt (o : Opts) (d : Option DocTypeT) (f : Flags) (hf : f.hd = false → dtOkOf d = true) :
    BlockX o false f (dtF d) false (flagsDt f d) (if f.hd then [] else dtPiecesOf d) := by
  cases d with
  | none => cases f.hd <;> exact .nil o false f
  | some x =>
    exact .one (ev := .doctype x.1 x.2.1 x.2.2) fun hh => dtScan_doctypeContent true _ _ _ (hf hh) (by intro hx; cases hx)

theorem xhtml_doc_tokens (o : Opts) (decl : Option DeclT) (dopt dt : Option DocTypeT) (B : List FEv) (ps : List Piece)
    (hB : BodyX o false false B ps) (hdecl : xdOkOf o decl = true) (hwin : dtOkOf (winDt dopt dt) = true) :
    tokens true (serSpec .xhtml o {} (declF decl ++ (dtF dopt ++ (dtF dt ++ B)))).flatten =
      some (assemble (xdPiecesOf o decl ++ (dtPiecesOf (winDt dopt dt) ++ ps))) := by
  have hb := (blockX_decl o decl hdecl).append ((blockX_dt o dopt _ (by cases dopt <;> simp_all [winDt, dtOkOf])).append
    ((blockX_dt o dt _ (by
      intro hh
      cases dopt with
      | none => exact hwin
      | some x => simp [flagsDt] at hh)).append (hB.block _)))
  have hok := hb.ok [] trivial
  have hcd := hb.cd []
  have hps := hb.pieces []
  rw [List.append_nil] at hok hcd hps
  have h2 : (foldXP o (declF decl ++ (dtF dopt ++ (dtF dt ++ B))) {} {}).1.cd.isSome = cdEnd false _ :=
    (foldXP_pieces o _ {} {} hok).2
  rw [xhtml_tokensP o _ hok (Option.not_isSome_iff_eq_none.mp (by rw [h2, hcd]; exact Bool.false_ne_true)),
    xhtmlExpectedP_eq_assemble o _ hok, hps]
  cases dopt <;> simp [winDt, evsPiecesX, dtPiecesOf, flagsDt, flagsDecl_hd]

end Genshi.Reader
