/-
  Helper lemmas for C08: the parsers' views (`htmlView` = html.parser, `xmlView` =
  expat with namespace resolution) of the tokens read back for a whole document:
  the DOCTYPE and the XML declaration are recovered as fields, processing
  instructions as target and data, elements in their namespace.
-/
import Genshi.Lemmas.ReaderDocTop
import Genshi.Lemmas.ReaderXmlView
import Genshi.Lemmas.OutputNoCR
namespace Genshi.Reader
open Genshi Genshi.Escape Genshi.Output

/-- no carriage return in the DOCTYPE / XML declaration fields -/
def dtNcr : Option DocTypeT → Bool
  | some x => ncr x.1 && oncr x.2.1 && oncr x.2.2
  | none => true

def declNcr : Option DeclT → Bool
  | some x => ncr x.1 && oncr x.2.1
  | none => true

/-- no carriage return anywhere in the document (with one, XML line-end normalisation changes the text) -/
def docNcr (u : Str) (dopt : Option DocTypeT) (decl : Option DeclT) (dt : Option DocTypeT) (body : List Node) : Bool :=
  ncr u && forestNcr body && declNcr decl && dtNcr dopt && dtNcr dt

theorem docEvs_ncr (u : Str) (dopt : Option DocTypeT) (decl : Option DeclT) (dt : Option DocTypeT) (body : List Node)
    (hcr : docNcr u dopt decl dt body = true) :
    ∀ ev ∈ declF decl ++ (dtF dopt ++ (dtF dt ++ forestFu u false body)), evNcr ev = true := by
  simp only [docNcr, Bool.and_eq_true] at hcr
  obtain ⟨⟨⟨⟨hu, hb⟩, hd1⟩, hd2⟩, hd3⟩ := hcr
  have hdt : ∀ d : Option DocTypeT, dtNcr d = true → ∀ ev ∈ dtF d, evNcr ev = true := by
    intro d hd ev h
    cases d with
    | none => cases h
    | some x => obtain rfl := List.mem_singleton.mp h; simpa [evNcr, dtNcr] using hd
  intro ev hev
  simp only [List.mem_append] at hev
  rcases hev with h | h | h | h
  · cases decl with
    | none => cases h
    | some x => obtain rfl := List.mem_singleton.mp h; simpa [evNcr, declNcr] using hd1
  · exact hdt dopt hd2 ev h
  · exact hdt dt hd3 ev h
  · exact ncr_forestFu u hu false body hb ev h

def startsTok : List Piece → Bool
  | .chars _ :: _ => false
  | _ => true

theorem mergeGo_startsTok (buf : Str) (ps : List Piece) (h : startsTok ps = true) :
    mergeGo buf ps = textTok buf ++ mergeGo [] ps := by
  cases ps with
  | nil => simp [mergeGo, textTok]
  | cons p rest =>
    cases p with
    | chars s => simp [startsTok] at h
    | tok t => simp [mergeGo, textTok]

def nlTok : List Tok := [.text ['\n']]

def dtToksOf : Option DocTypeT → List Tok
  | some x => .doctype (doctypeContent x.1 x.2.1 x.2.2) :: nlTok
  | none => []

def xdToksOf (o : Opts) : Option DeclT → List Tok
  | some x => if o.dropXmlDecl then [] else .pi (xmlDeclContent x.1 x.2.1 x.2.2) :: nlTok
  | none => []

theorem startsTok_dt (d : Option DocTypeT) (ps : List Piece) (h : startsTok ps = true) :
    startsTok (dtPiecesOf d ++ ps) = true := by
  cases d with
  | none => simpa [dtPiecesOf] using h
  | some x => rfl

theorem assemble_doc (o : Opts) (decl : Option DeclT) (d : Option DocTypeT) (ps : List Piece)
    (h : startsTok ps = true) :
    assemble (xdPiecesOf o decl ++ (dtPiecesOf d ++ ps)) = xdToksOf o decl ++ (dtToksOf d ++ assemble ps) := by
  have hdt : ∀ buf, mergeGo buf (dtPiecesOf d ++ ps) = textTok buf ++ (dtToksOf d ++ mergeGo [] ps) := by
    intro buf
    rw [mergeGo_startsTok buf _ (startsTok_dt d ps h)]
    cases d with
    | none => simp [dtPiecesOf, dtToksOf]
    | some x =>
      simp only [dtPiecesOf, dtPieces, List.cons_append, List.nil_append, mergeGo, dtToksOf, nlTok]
      rw [mergeGo_startsTok _ ps h]
      simp [textTok]
  rw [assemble_eq_merge, assemble_eq_merge]
  cases decl with
  | none => simpa [xdPiecesOf, xdToksOf, textTok] using hdt []
  | some x =>
    cases hx : o.dropXmlDecl with
    | true => simpa [xdPiecesOf, xdToksOf, hx, textTok] using hdt []
    | false =>
      simp only [xdPiecesOf, hx, Bool.false_eq_true, ↓reduceIte, xdPieces, List.cons_append, List.nil_append, mergeGo,
        xdToksOf, nlTok]
      rw [hdt]
      simp [textTok]

def dtHOf : Option DocTypeT → List HTok
  | some x => [.doctype x.1 (normOpt x.2.1) (normOpt x.2.2), .text ['\n']]
  | none => []

theorem htmlView_append (a b : List Tok) : htmlView (a ++ b) = htmlView a ++ htmlView b := by
  induction a with
  | nil => rfl
  | cons t ts ih => cases t <;> simp [htmlView, ih] <;> split <;> simp

theorem htmlView_dt (d : Option DocTypeT) (h : dtOkOf d = true) : htmlView (dtToksOf d) = dtHOf d := by
  cases d with
  | none => rfl
  | some x =>
    simp only [dtOkOf] at h
    simp [dtToksOf, nlTok, htmlView, parseDoctype_doctypeContent _ _ _ h, dtHOf]

/-- what html.parser delivers for a document whose DOCTYPE `win` is written in front of the body
    pieces `ps`: the DOCTYPE with its fields, then the body; the line feed the serializer writes
    behind the DOCTYPE is dropped (`dropDoctypeNl`) -/
def htmlDocView (win : Option DocTypeT) (ps : List Piece) : List HTok :=
  dropDoctypeNl (match win with
    | some x => .doctype x.1 (normOpt x.2.1) (normOpt x.2.2) :: htmlView (assemble (.chars ['\n'] :: ps))
    | none => htmlView (assemble ps))

theorem htmlView_doc (win : Option DocTypeT) (ps : List Piece) (h : dtOkOf win = true) :
    dropDoctypeNl (htmlView (assemble (dtPiecesOf win ++ ps))) = htmlDocView win ps := by
  cases win with
  | none => rfl
  | some x =>
    simp only [dtOkOf] at h
    have : assemble (dtPiecesOf (some x) ++ ps) =
        .doctype (doctypeContent x.1 x.2.1 x.2.2) :: assemble (.chars ['\n'] :: ps) := by
      rw [assemble_eq_merge, assemble_eq_merge]
      simp [dtPiecesOf, dtPieces, mergeGo, textTok]
    rw [this]
    simp [htmlDocView, htmlView, parseDoctype_doctypeContent _ _ _ h]

/-- the XML declaration is written and parsed back: no `>` and no `"` in version and encoding -/
def xdViewOk (o : Opts) : Option DeclT → Bool
  | some x => o.dropXmlDecl || (xdNoGt x.1 x.2.1 && xdFieldsOk x.1 x.2.1)
  | none => true

theorem xdOkOf_of_view (o : Opts) (decl : Option DeclT) (h : xdViewOk o decl = true) : xdOkOf o decl = true := by
  cases decl with
  | none => rfl
  | some x =>
    simp only [xdViewOk, Bool.or_eq_true, Bool.and_eq_true] at h
    simp only [xdOkOf, Bool.or_eq_true]
    rcases h with h | h
    · exact Or.inl h
    · exact Or.inr h.1

def xdXOf (o : Opts) : Option DeclT → List XTok
  | some x => if o.dropXmlDecl then [] else [.xmlDecl x.1 (normOpt x.2.1) (standaloneNorm x.2.2)]
  | none => []

def dtXOf : Option DocTypeT → List XTok
  | some x => [.doctype x.1 (normOpt x.2.1) (normOpt x.2.2)]
  | none => []

theorem xmlDeclContent_pfx (v : Str) (e : Option Str) (s : Int) :
    List.isPrefixOf ['x', 'm', 'l', ' '] (xmlDeclContent v e s) = true := rfl

theorem xmlView_prolog (o : Opts) (decl : Option DeclT) (d : Option DocTypeT) (T : List Tok)
    (hx : xdViewOk o decl = true) (hd : dtOkOf d = true) :
    xmlView [] (xdToksOf o decl ++ (dtToksOf d ++ T)) = (xmlView [] T).map (fun r => xdXOf o decl ++ (dtXOf d ++ r)) := by
  have hdt : xmlView [] (dtToksOf d ++ T) = (xmlView [] T).map (fun r => dtXOf d ++ r) := by
    cases d with
    | none => simp [dtToksOf, dtXOf]
    | some x =>
      simp only [dtOkOf] at hd
      simp only [dtToksOf, nlTok, List.cons_append, List.nil_append, xmlView, parseDoctype_doctypeContent _ _ _ hd,
        List.isEmpty_nil, ↓reduceIte, dtXOf]
      have : allSpace ['\n'] = true := by decide
      simp only [this, ↓reduceIte]
  cases decl with
  | none => simpa [xdToksOf, xdXOf] using hdt
  | some x =>
    cases hdx : o.dropXmlDecl with
    | true => simpa [xdToksOf, xdXOf, hdx] using hdt
    | false =>
      have hf : xdFieldsOk x.1 x.2.1 = true := by
        simp only [xdViewOk, hdx, Bool.false_or, Bool.and_eq_true] at hx; exact hx.2
      have : allSpace ['\n'] = true := by decide
      simp only [xdToksOf, hdx, Bool.false_eq_true, ↓reduceIte, nlTok, List.cons_append, List.nil_append, xmlView,
        xmlDeclContent_pfx, parseXmlDecl_xmlDeclContent _ _ _ hf, List.isEmpty_nil, this, hdt, xdXOf]
      cases xmlView [] T <;> simp

/-- the instruction is not an XML declaration -/
def piNotDecl (t d : Str) : Bool := !xmlDeclPfx.isPrefixOf (t ++ ' ' :: d)

mutual
  /-- hypotheses of the namespace resolution (as `xmlTreeOk`), processing instructions included -/
  def xmlTreeOkP (top : Bool) : Node → Bool
    | .elem t a ks => nameNoColon t.loc && xmlAttrNamesOk a && xmlForestOkP false ks
    | .leaf (.text _ _) => !top
    | .leaf (.pi t d) => piNotDecl t d
    | .leaf _ => true
  def xmlForestOkP (top : Bool) : List Node → Bool
    | [] => true
    | n :: ns => xmlTreeOkP top n && xmlForestOkP top ns
end

theorem scoped_tree_forestP (u : Str) :
    (∀ (n : Node) (s : Bool) (d : Nat) (rest : List Piece), (s = true → d ≠ 0) → xmlTreeOkP (!s) n = true →
      scopedP u d (treePiecesXP u s n ++ rest) = scopedP u d rest) ∧
    ∀ (ns : List Node) (s : Bool) (d : Nat) (rest : List Piece), (s = true → d ≠ 0) → xmlForestOkP (!s) ns = true →
      scopedP u d (forestPiecesXP u s ns ++ rest) = scopedP u d rest := by
  refine node_induction ?_ ?_ ?_ ?_
  · intro t a ks ih s d rest hd h
    simp only [xmlTreeOkP, Bool.and_eq_true] at h
    rw [treePiecesXP]
    exact scopedP_node u d t.loc _ ks _ rest h.1.1 (attrsOkX_tree u s d a hd h.1.2)
      fun r => ih true (d + 1) r (fun _ => Nat.succ_ne_zero d) h.2
  · intro e s d rest hd h
    cases e with
    | text x f =>
      have hs : s = true := by simpa [xmlTreeOkP] using h
      simp [treePiecesXP, scopedP, hd hs]
    | pi t x =>
      have hp : (!xmlDeclPfx.isPrefixOf (t ++ ' ' :: x)) = true := h
      simp [treePiecesXP, scopedP, hp]
    | _ => rfl
  · intro s d rest _ _; rfl
  · intro n ns ihn ihs s d rest hd h
    simp only [xmlForestOkP, Bool.and_eq_true] at h
    rw [forestPiecesXP, List.append_assoc, ihn s d _ hd h.1, ihs s d rest hd h.2]

theorem scoped_treeP (u : Str) : ∀ (n : Node) (s : Bool) (d : Nat) (rest : List Piece),
      (s = true → d ≠ 0) → xmlTreeOkP (!s) n = true →
      scopedP u d (treePiecesXP u s n ++ rest) = scopedP u d rest :=
  (scoped_tree_forestP u).1

theorem xmlView_forestP (u : Str) (ns : List Node) (h : xmlForestOkP true ns = true) :
    xmlView [] (assemble (forestPiecesXP u false ns)) =
      some ((assemble (forestPiecesXP u false ns)).flatMap (xmlMapTok u)) :=
  xmlView_scoped u _ <| by
    have hs := (scoped_tree_forestP u).2 ns false 0 [] (fun h => Bool.noConfusion h) h
    rwa [List.append_nil] at hs

theorem startsTok_forestP (u : Str) (ns : List Node) (h : xmlForestOkP true ns = true) :
    startsTok (forestPiecesXP u false ns) = true := by
  induction ns with
  | nil => rfl
  | cons n rest ih =>
    simp only [xmlForestOkP, Bool.and_eq_true] at h
    have ih' := ih h.2
    cases n with
    | elem t a ks =>
      rw [forestPiecesXP, treePiecesXP]
      cases ks with
      | nil => by_cases hv : inTable (emptyElems .xhtml) t.loc = true <;> simp only [hv, ↓reduceIte] <;> rfl
      | cons k ks' => rfl
    | leaf e =>
      cases e with
      | text x f => exact absurd h.1 Bool.false_ne_true
      | comment x => rfl
      | pi t d => rfl
      | _ => exact ih'

theorem xmlMapTok_pi (u t d : Str) (hn : piNotDecl t d = true) (ht : t.all (fun c => !isSpace c) = true)
    (hd : (match d with | c :: _ => !isSpace c | [] => true) = true) :
    xmlMapTok u (.pi (t ++ ' ' :: d)) = [.pi t d] := by
  have hp : xmlDeclPfx.isPrefixOf (t ++ ' ' :: d) = false := by simpa [piNotDecl] using hn
  have h1 : takeUntil isSpace (t ++ ' ' :: d) = (t, ' ' :: d) :=
    takeUntil_append isSpace t ' ' d (by
      intro x hx; have := List.all_eq_true.mp ht x hx; simpa using this) (by decide)
  have h2 : (' ' :: d).dropWhile isSpace = d := by
    have h0 : isSpace ' ' = true := by decide
    rw [List.dropWhile_cons_of_pos h0]
    cases d with
    | nil => rfl
    | cons c cs =>
      have : isSpace c = false := by simpa using hd
      simp [List.dropWhile, this]
  simp [xmlMapTok, hp, h1, h2]

end Genshi.Reader
