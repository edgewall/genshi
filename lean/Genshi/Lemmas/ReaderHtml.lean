/-
  Helper lemmas for C08: the HTML reader on what the html serializer writes — raw text,
  comments, the attribute loop, the start tag — and the specification `htmlEv` of what one
  event is read back as (abstract reader state `RS`), with its hypotheses `HtmlOk`.  That the
  reader follows the specification is proved for the extension `htmlEvP` in Lemmas/ReaderPrologSim.
-/
import Genshi.Lemmas.Reader
import Genshi.Model.Output
namespace Genshi.Reader
open Genshi Genshi.Escape Genshi.Output

/-- raw text that `</` does not end early: no `<` directly followed by `/`, and no `<` at the end -/
def rawOk : Str → Bool
  | [] => true
  | c :: cs =>
      if c == '<' then
        (match cs with
         | [] => false
         | d :: _ => d != '/' && rawOk cs)
      else rawOk cs

theorem feed_raw_aux (s : Str) :
    (∀ st : RSt, st.mode = .raw → rawOk s = true → feed false st s = { st with buf := st.buf ++ s }) ∧
    (∀ st : RSt, st.mode = .rawLt → rawOk ('<' :: s) = true →
        feed false st s = { st with mode := .raw, buf := st.buf ++ '<' :: s }) := by
  induction s with
  | nil =>
    refine ⟨fun st _ _ => by simp [feed], fun st _ h => ?_⟩
    simp [rawOk] at h
  | cons c cs ih =>
    refine ⟨fun st hm h => ?_, fun st hm h => ?_⟩
    · by_cases hc : c = '<'
      · subst hc
        have s1 : step false st '<' = { st with mode := .rawLt } := by simp [step, hm]
        rw [feed_cons, s1, ih.2 _ rfl h]
        simp [hm]
      · have hc' : (c == '<') = false := by simpa using hc
        have s1 : step false st c = { st with buf := st.buf ++ [c] } := by simp [step, hm, hc']
        have h' : rawOk cs = true := by simpa [rawOk, hc'] using h
        rw [feed_cons, s1, ih.1 _ (by simp [hm]) h']
        simp
    · have h2 : (c != '/') = true ∧ rawOk (c :: cs) = true := by
        simpa [rawOk] using h
      have hs : (c == '/') = false := by simpa using h2.1
      by_cases hc : c = '<'
      · subst hc
        have s1 : step false st '<' = { st with buf := st.buf ++ ['<'] } := by simp [step, hm]
        rw [feed_cons, s1, ih.2 _ (by simp [hm]) h2.2]
        simp
      · have hc' : (c == '<') = false := by simpa using hc
        have s1 : step false st c = { st with mode := .raw, buf := st.buf ++ ['<', c] } := by
          simp [step, hm, hc', hs]
        have h' : rawOk cs = true := by simpa [rawOk, hc'] using h2.2
        rw [feed_cons, s1, ih.1 _ rfl h']
        simp

theorem feed_raw (s : Str) (st : RSt) (hm : st.mode = .raw) (h : rawOk s = true) :
    feed false st s = { st with buf := st.buf ++ s } := (feed_raw_aux s).1 st hm h

/-- comment text the reader (and html.parser, expat) reads back: no `--` inside, no `-` at the end -/
def commentOk : Str → Bool
  | [] => true
  | c :: cs =>
      if c == '-' then
        (match cs with
         | [] => false
         | d :: _ => d != '-' && commentOk cs)
      else commentOk cs

theorem feed_comment_body (xml : Bool) (s : Str) (st : RSt) (hm : st.mode = .comment 0) (h : commentOk s = true) :
    feed xml st s = { st with buf := st.buf ++ s } := by
  obtain ⟨d, hp, hf⟩ := feed_scan xml (fun d : Bool => Mode.comment (if d then 1 else 0))
    (fun d w => commentOk (if d then '-' :: w else w) = true) (fun d c cs st hm h => by
      cases d with
      | false =>
        by_cases hc : c = '-'
        · subst hc; exact ⟨true, h, by simp [step, hm]⟩
        · have hc' : (c == '-') = false := by simpa using hc
          exact ⟨false, by simpa [commentOk, hc'] using h, by simp [step, hm, hc']⟩
      | true =>
        have h2 : (c != '-') = true ∧ commentOk (c :: cs) = true := by simpa [commentOk] using h
        have hc' : (c == '-') = false := by simpa using h2.1
        exact ⟨false, by simpa [commentOk, hc'] using h2.2, by simp [step, hm, hc']⟩) s false st hm h
  cases d with
  | false => rw [hf]; simp [← hm]
  | true => simp [commentOk] at hp

theorem feed_comment (xml : Bool) (buf : Str) (toks : List Tok) (s : Str) (h : commentOk s = true) :
    feed xml (mk .data buf toks) (['<', '!', '-', '-'] ++ s ++ ['-', '-', '>']) =
      mk .data [] (.comment s :: flushToks buf toks) := by
  have s0 : feed xml (mk .data buf toks) ['<', '!', '-', '-'] =
      ⟨.comment 0, [], [], [], [], [], [], flushToks buf toks⟩ := by
    rw [show ['<', '!', '-', '-'] = ('<' :: '!' :: ['-']) ++ ['-'] from rfl, feed_append,
      feed_bang xml buf toks kwComment _ ['-'] (.inl rfl) (by simp) rfl]
    simp [feed, step, kwComment, flush_eq]
  rw [show ['<', '!', '-', '-'] ++ s ++ ['-', '-', '>'] = ['<', '!', '-', '-'] ++ (s ++ ['-', '-', '>']) by simp,
    feed_append, s0, feed_append, feed_comment_body xml s _ rfl h]
  simp [feed, step, mk]

/-- what the html serializer's attribute loop means (specification): boolean attribute with a
    non-empty value ↦ present without value, with an empty one ↦ absent; `xml:lang` ↦ `lang` when
    there is no `lang`; other prefixed names and `xmlns` ↦ absent; everything else verbatim -/
def htmlAttrTok (all : FAttrs) (p : Str × Str) : List (Str × Option Str) :=
  if inTable (booleanAttrs .html) p.1 then (if p.2.isEmpty then [] else [(p.1, none)])
  else if p.1.any (· == ':') then
    (if p.1 == xmlLang && !hasAttr all lang then [(lang, some p.2)] else [])
  else if p.1 != xmlns then [(p.1, some p.2)]
  else []

def htmlAttrToks (a : FAttrs) : List (Str × Option Str) := a.flatMap (htmlAttrTok a)

theorem nameOk_lang : NameOk lang := by decide

theorem tagSt_htmlAttr {st : RSt} {nm : Str} {at_ : List (Str × Option Str)} {tk : List Tok}
    (h : TagSt st nm at_ tk) (all : FAttrs) (p : Str × Str) (hn : NameOk p.1) :
    TagSt (feed false st (htmlAttr all p)) nm ((htmlAttrTok all p).reverse ++ at_) tk := by
  unfold htmlAttr htmlAttrTok
  by_cases hb : inTable (booleanAttrs .html) p.1 = true
  · by_cases he : p.2.isEmpty = true
    · simpa [hb, he, feed_nil] using h
    · simp only [hb, he, ↓reduceIte, Bool.false_eq_true]
      exact tagSt_min false h p.1 hn
  · simp only [hb, Bool.false_eq_true, ↓reduceIte]
    by_cases hc : (p.1.any (· == ':')) = true
    · simp only [hc, ↓reduceIte]
      by_cases hl : (p.1 == xmlLang && !hasAttr all lang) = true
      · simp only [hl, ↓reduceIte, attrOut, escapePy_eq_spec]
        exact tagSt_quoted false h lang p.2 nameOk_lang (by intro hx; cases hx)
      · simpa [hl, feed_nil] using h
    · simp only [hc, Bool.false_eq_true, ↓reduceIte]
      by_cases hx : (p.1 != xmlns) = true
      · simp only [hx, ↓reduceIte, attrOut, escapePy_eq_spec]
        exact tagSt_quoted false h p.1 p.2 hn (by intro hx; cases hx)
      · simpa [hx, feed_nil] using h

theorem feed_htmlStart (buf : Str) (toks : List Tok) (t : Str) (a : FAttrs)
    (ht : NameOk t) (ha : ∀ p ∈ a, NameOk p.1) :
    feed false (mk .data buf toks) ('<' :: t ++ htmlAttrs a ++ ['>']) =
      mk (if rawTextElems.contains t then .raw else .data) []
        (.start t (htmlAttrToks a) false :: flushToks buf toks) := by
  have h0 := tagSt_open false buf toks t ht
  have h1 := tagSt_flatMap false (htmlAttr a) (htmlAttrTok a) a (fun p hp _ _ h => tagSt_htmlAttr h a p (ha p hp)) h0
  rw [show '<' :: t ++ htmlAttrs a ++ ['>'] = ('<' :: t) ++ (htmlAttrs a ++ ['>']) by simp,
    feed_append, feed_append, htmlAttrs]
  rw [feed_cons, tagSt_gt false h1]
  simp [feed, htmlAttrToks]

/-- what the reader knows between two events: raw-text mode or not, pending character data, tokens (reversed) -/
structure RS where
  raw : Bool := false
  buf : Str := []
  toks : List Tok := []
  deriving Repr, DecidableEq

def RS.toRSt (r : RS) : RSt := Genshi.Reader.mk (if r.raw then Mode.raw else Mode.data) r.buf r.toks

/-- specification: the effect of one (filtered) event of an html serialisation on what is read back -/
def htmlEv (r : RS) : FEv → RS
  | .start t a => ⟨rawTextElems.contains t, [], .start t (htmlAttrToks a) false :: flushToks r.buf r.toks⟩
  | .empty t a =>
      if inTable (emptyElems .html) t then
        ⟨false, [], .start t (htmlAttrToks a) false :: flushToks r.buf r.toks⟩
      else ⟨false, [], .end_ t :: .start t (htmlAttrToks a) false :: flushToks r.buf r.toks⟩
  | .end_ t => ⟨false, [], .end_ t :: flushToks r.buf r.toks⟩
  | .text s _ => { r with buf := r.buf ++ s }
  | .comment s => ⟨false, [], .comment s :: flushToks r.buf r.toks⟩
  | _ => r

/-- the hypotheses of the html round trip, per event, given whether we are inside script/style -/
def HtmlOk (raw : Bool) : FEv → Prop
  | .start t a => raw = false ∧ NameOk t ∧ ∀ p ∈ a, NameOk p.1
  | .empty t a => raw = false ∧ NameOk t ∧ ∀ p ∈ a, NameOk p.1
  | .end_ t => NameOk t
  | .text s safe => safe = false ∧ (raw = true → rawOk s = true)
  | .comment s => raw = false ∧ commentOk s = true
  | .pi _ _ => False
  | .doctype _ _ _ => False
  | _ => True

/-- a table of un-namespaced names is looked up by the name -/
theorem inTable_unqualified (l : List Str) (t : Str) : inTable (l.map fun n => ([], n)) t = l.contains t := by
  simp only [inTable, List.any_map, List.contains_eq_any_beq]
  exact congrArg (List.any l) (funext fun n => Bool.beq_comm)

theorem noescape_iff_raw {t : Str} (ht : NameOk t) :
    inTable (noescapeElems .html) t = rawTextElems.contains t := by
  -- the two namespaced entries of the table contain `/`, a name does not
  have hs : ∀ x : Str, '/' ∈ x → (x == t) = false := by
    rintro x hx
    rw [beq_eq_false_iff_ne]
    rintro rfl
    exact absurd (nameChar_facts (List.all_eq_true.mp ht.2 _ hx)).2.2.1 (by decide)
  simp only [inTable, noescapeElems, Gen.Output.htmlNoescapeElems, QName.text, rawTextElems, List.any_cons,
    List.any_nil, List.isEmpty_nil, List.isEmpty_cons, ↓reduceIte, Bool.false_eq_true, List.contains_cons,
    List.contains_nil, Bool.or_false]
  rw [← Bool.or_assoc, Bool.beq_comm (a := t), Bool.beq_comm (a := t)]
  refine (congrArg _ ?_).trans (Bool.or_false _)
  rw [hs _ (List.mem_append_left _ (by decide)), hs _ (List.mem_append_left _ (by decide))]; rfl

theorem void_not_raw {t : Str} (h : inTable (emptyElems .html) t = true) : rawTextElems.contains t = false := by
  by_cases h1 : t = ['s', 'c', 'r', 'i', 'p', 't']
  · subst h1; revert h; decide
  by_cases h2 : t = ['s', 't', 'y', 'l', 'e']
  · subst h2; revert h; decide
  simp [rawTextElems, h1, h2]

theorem startOut_html_start (t : Str) (a : FAttrs) :
    startOut .html false t a = '<' :: t ++ htmlAttrs a ++ ['>'] := by simp [startOut]

theorem startOut_html_empty (t : Str) (a : FAttrs) :
    startOut .html true t a =
      ('<' :: t ++ htmlAttrs a ++ ['>']) ++ (if inTable (emptyElems .html) t then [] else endTag t) := by
  by_cases h : inTable (emptyElems .html) t = true <;> simp [startOut, h]

theorem mode_cases (b : Bool) :
    (if b then Mode.raw else Mode.data) = .data ∨ (if b then Mode.raw else Mode.data) = .raw := by
  cases b <;> simp

theorem toRSt_eq (b : Bool) (buf : Str) (toks : List Tok) :
    RS.toRSt ⟨b, buf, toks⟩ = mk (if b then Mode.raw else Mode.data) buf toks := rfl

/-- is the reader inside a raw-text element after this event -/
def rawAfter (raw : Bool) : FEv → Bool
  | .start t _ => rawTextElems.contains t
  | .empty _ _ => false
  | .end_ _ => false
  | .comment _ => false
  | _ => raw

theorem htmlEv_raw (r : RS) (ev : FEv) : (htmlEv r ev).raw = rawAfter r.raw ev := by
  cases ev <;> simp [htmlEv, rawAfter]
  split <;> rfl

/-- the per-event hypotheses along the stream -/
def HtmlOkAll : Bool → List FEv → Prop
  | _, [] => True
  | raw, ev :: rest => HtmlOk raw ev ∧ HtmlOkAll (rawAfter raw ev) rest

/-- the tokens `html.parser` must deliver for a filtered stream: fold of the per-event
    specification, pending character data flushed at the end -/
def htmlExpected (evs : List FEv) : List Tok :=
  let r := evs.foldl htmlEv {}
  (flushToks r.buf r.toks).reverse

/-- a finished reading: the tokens are those of the abstract state -/
theorem tokens_of_feedS {s : Str} {r : RS} (h : feed false {} s = r.toRSt) (hend : r.raw = false) :
    tokens false s = some (flushToks r.buf r.toks).reverse := by
  obtain ⟨rraw, rbuf, rtoks⟩ := r
  subst hend
  exact tokens_of_feed h

end Genshi.Reader
