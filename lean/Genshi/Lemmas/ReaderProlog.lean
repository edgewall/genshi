/-
  Helper lemmas for C08: processing instructions, DOCTYPE and XML declaration in
  the round trips (tokenizer level: the literals are read back verbatim).
-/
import Genshi.Lemmas.Reader
import Genshi.Model.Output
namespace Genshi.Reader
open Genshi Genshi.Escape Genshi.Output

/-- the instruction is not ended early: no `>` (HTML) resp. no `?>` (XML) inside -/
def piSafe (xml : Bool) : Bool → Str → Bool
  | _, [] => true
  | q, c :: cs => !(c == '>' && (!xml || q)) && piSafe xml (c == '?') cs

def piQ : Bool → Str → Bool
  | q, [] => q
  | _, c :: cs => piQ (c == '?') cs

theorem piSafe_of_no_gt (xml : Bool) (s : Str) (h : ∀ c ∈ s, (c == '>') = false) : ∀ q, piSafe xml q s = true := by
  induction s with
  | nil => intro q; rfl
  | cons c cs ih =>
    intro q
    have hc := h c (by simp)
    simp [piSafe, hc, ih (fun y hy => h y (by simp [hy]))]

theorem feed_pi_body (xml : Bool) (s : Str) (q : Bool) (st : RSt) (hm : st.mode = .pi q) (h : piSafe xml q s = true) :
    feed xml st s = { st with mode := .pi (piQ q s), buf := st.buf ++ s } := by
  obtain ⟨q', hp, hf⟩ := feed_scan xml Mode.pi (fun a w => piSafe xml a w = true ∧ piQ a w = piQ q s)
    (fun a c cs st hm h => by
      have h1 := h.1
      simp only [piSafe, Bool.and_eq_true, Bool.not_eq_true'] at h1
      exact ⟨c == '?', ⟨h1.2, h.2⟩, by simp [step, hm, h1.1]⟩) s q st hm ⟨h, rfl⟩
  rw [hf, show q' = piQ q s from hp.2]

theorem feed_pi (xml : Bool) (buf : Str) (toks : List Tok) (body : Str) (h : piSafe xml false body = true) :
    feed xml (mk .data buf toks) (['<', '?'] ++ body ++ ['?', '>']) =
      mk .data [] (.pi (if xml then body else body ++ ['?']) :: flushToks buf toks) := by
  have s0 : feed xml (mk .data buf toks) ['<', '?'] = ⟨.pi false, [], [], [], [], [], [], flushToks buf toks⟩ := by
    simp [feed, step, mk, flush_eq]
  rw [show ['<', '?'] ++ body ++ ['?', '>'] = ['<', '?'] ++ (body ++ ['?', '>']) by simp, feed_append, s0,
    feed_append, feed_pi_body xml body false _ rfl h]
  cases xml <;> simp [feed, step, mk]

theorem piOut_eq (t d : Str) : piOut t d = ['<', '?'] ++ (t ++ ' ' :: d) ++ ['?', '>'] := by simp [piOut]

/-- the literal is well quoted: no `>` outside quotes (for an HTML parser: none at all, it ends the
    declaration at the first `>`), every quote closed -/
def dtScan (xml : Bool) : Option Char → Str → Bool
  | none, [] => true
  | some _, [] => false
  | none, c :: cs =>
      if c == '>' then false
      else if c == '"' || c == '\'' then dtScan xml (some c) cs
      else dtScan xml none cs
  | some q, c :: cs =>
      if c == q then dtScan xml none cs
      else if !xml && c == '>' then false
      else dtScan xml (some q) cs

def dtMode : Option Char → Mode
  | none => .doctype
  | some q => .doctypeQ q

/-- expat reads a DOCTYPE declaration quote-aware: `dtScan true` -/
theorem feed_doctype_body (s : Str) (qs : Option Char) (st : RSt) (hm : st.mode = dtMode qs)
    (h : dtScan true qs s = true) : feed true st s = { st with mode := .doctype, buf := st.buf ++ s } := by
  obtain ⟨a', hp, hf⟩ := feed_scan true dtMode (fun qs s => dtScan true qs s = true) (fun qs c cs st hm h => by
    cases qs with
    | none =>
      simp only [dtScan] at h
      by_cases h1 : (c == '>') = true
      · simp [h1] at h
      · rw [if_neg h1] at h
        by_cases h2 : (c == '"' || c == '\'') = true
        · rw [if_pos h2] at h
          exact ⟨some c, h, by simp only [step, hm, dtMode, h1, Bool.false_eq_true, ↓reduceIte, h2]⟩
        · rw [if_neg h2] at h
          refine ⟨none, h, ?_⟩
          simp only [Bool.or_eq_true, not_or] at h2
          simp [step, hm, dtMode, h1, h2]
    | some q =>
      simp only [dtScan] at h
      by_cases h1 : (c == q) = true
      · rw [if_pos h1] at h; exact ⟨none, h, by simp [step, hm, dtMode, h1]⟩
      · simp only [h1, Bool.false_eq_true, ↓reduceIte, Bool.not_true, Bool.false_and] at h
        exact ⟨some q, h, by simp [step, hm, dtMode, h1]⟩) s qs st hm h
  cases a' with
  | none => exact hf
  | some q => simp [dtScan] at hp

/-- what stands between `<!DOCTYPE ` and `>` -/
def doctypeContent (name : Str) (pubid sysid : Option Str) : Str :=
  name ++
  (if truthy pubid then [' ', 'P', 'U', 'B', 'L', 'I', 'C', ' ', '"'] ++ pubid.getD [] ++ ['"']
   else if truthy sysid then [' ', 'S', 'Y', 'S', 'T', 'E', 'M'] else []) ++
  (if truthy sysid then
     (if (sysid.getD []).any (· == '"') then [' ', '\''] ++ sysid.getD [] ++ ['\'']
      else [' ', '"'] ++ sysid.getD [] ++ ['"'])
   else [])

theorem doctypeOut_eq (n : Str) (p s : Option Str) :
    doctypeOut n p s = ['<', '!', 'D', 'O', 'C', 'T', 'Y', 'P', 'E', ' '] ++ doctypeContent n p s ++ ['>', '\n'] := by
  simp [doctypeOut, doctypeContent, List.append_assoc]

theorem feed_doctypeOpen (xml : Bool) (buf : Str) (toks : List Tok) :
    feed xml (mk .data buf toks) ['<', '!', 'D', 'O', 'C', 'T', 'Y', 'P', 'E', ' '] =
      ⟨.doctype, [], [], [], [], [], [], flushToks buf toks⟩ := by
  rw [show ['<', '!', 'D', 'O', 'C', 'T', 'Y', 'P', 'E', ' '] = ('<' :: '!' :: ['D', 'O', 'C', 'T', 'Y', 'P', 'E']) ++ [' ']
      from rfl, feed_append,
    feed_bang xml buf toks kwDoctype ['D', 'O', 'C', 'T', 'Y', 'P', 'E'] [' '] (.inr (.inl rfl)) (by simp) rfl]
  simp [feed, step, kwComment, kwDoctype, flush_eq]

theorem feed_doctype (buf : Str) (toks : List Tok) (content : Str) (h : dtScan true none content = true) :
    feed true (mk .data buf toks) (['<', '!', 'D', 'O', 'C', 'T', 'Y', 'P', 'E', ' '] ++ content ++ ['>', '\n']) =
      mk .data ['\n'] (.doctype content :: flushToks buf toks) := by
  rw [List.append_assoc, feed_append, feed_doctypeOpen, feed_append, feed_doctype_body content none _ rfl h]
  simp [feed, step, mk]

/-! html.parser (and the HTML5 tokenizer) end a DOCTYPE declaration at the first `>`, quoted or not:
    the literal is read back whole as soon as it holds no `>`; unbalanced quotes are harmless. -/

def QNoGt : Option Char → Prop
  | none => True
  | some q => (q == '>') = false

theorem feed_doctype_body_html (s : Str) : ∀ (qs : Option Char) (st : RSt), st.mode = dtMode qs → QNoGt qs →
    '>' ∉ s → ∃ qs', QNoGt qs' ∧ feed false st s = { st with mode := dtMode qs', buf := st.buf ++ s } := by
  intro qs st hm hq hs
  obtain ⟨a', hp, hf⟩ := feed_scan false dtMode (fun qs s => QNoGt qs ∧ '>' ∉ s) (fun qs c cs st hm h => by
    obtain ⟨hq, h⟩ := h
    have hc : (c == '>') = false := by simpa using fun e : c = '>' => h (by simp [e])
    have hcs : '>' ∉ cs := fun e => h (by simp [e])
    cases qs with
    | none =>
      by_cases h2 : (c == '"' || c == '\'') = true
      · exact ⟨some c, ⟨hc, hcs⟩, by simp only [step, hm, dtMode, hc, Bool.false_eq_true, ↓reduceIte, h2]⟩
      · refine ⟨none, ⟨trivial, hcs⟩, ?_⟩
        simp only [Bool.or_eq_true, not_or] at h2
        simp [step, hm, dtMode, hc, h2]
    | some q =>
      by_cases h1 : (c == q) = true
      · exact ⟨none, ⟨trivial, hcs⟩, by simp [step, hm, dtMode, h1]⟩
      · exact ⟨some q, ⟨hq, hcs⟩, by simp [step, hm, dtMode, h1, hc]⟩) s qs st hm ⟨hq, hs⟩
  exact ⟨a', hp.1, hf⟩

theorem feed_doctype_html (buf : Str) (toks : List Tok) (content : Str) (h : '>' ∉ content) :
    feed false (mk .data buf toks) (['<', '!', 'D', 'O', 'C', 'T', 'Y', 'P', 'E', ' '] ++ content ++ ['>', '\n']) =
      mk .data ['\n'] (.doctype content :: flushToks buf toks) := by
  obtain ⟨qs', hq', hf⟩ := feed_doctype_body_html content none
    ⟨.doctype, [], [], [], [], [], [], flushToks buf toks⟩ rfl trivial h
  rw [List.append_assoc, feed_append, feed_doctypeOpen, feed_append, hf]
  cases qs' with
  | none => simp [feed, step, mk, dtMode]
  | some q =>
    have hq : (q == '>') = false := hq'
    have hq2 : ('>' == q) = false := by
      have : q ≠ '>' := by simpa using hq
      simpa using fun e => this e.symm
    simp [feed, step, mk, dtMode, hq2]

/-- a literal the shared scanner accepts in HTML mode holds no `>` -/
theorem dtScan_no_gt (s : Str) : ∀ qs : Option Char, QNoGt qs → dtScan false qs s = true → '>' ∉ s := by
  induction s with
  | nil => intro _ _ _; exact List.not_mem_nil
  | cons c cs ih =>
    intro qs hq h
    cases qs with
    | none =>
      simp only [dtScan] at h
      by_cases h1 : (c == '>') = true
      · simp [h1] at h
      · rw [if_neg h1] at h
        have hc : c ≠ '>' := by simpa using h1
        have : '>' ∉ cs := by
          by_cases h2 : (c == '"' || c == '\'') = true
          · rw [if_pos h2] at h; exact ih (some c) (by simpa [QNoGt] using hc) h
          · rw [if_neg h2] at h; exact ih none trivial h
        simpa [hc.symm] using this
    | some q =>
      simp only [dtScan, Bool.not_false, Bool.true_and] at h
      have hq' : (q == '>') = false := hq
      by_cases h1 : (c == q) = true
      · rw [if_pos h1] at h
        have hc : c ≠ '>' := by rintro rfl; simp at h1 hq'; exact hq' h1.symm
        simpa [hc.symm] using ih none trivial h
      · rw [if_neg h1] at h
        by_cases h2 : (c == '>') = true
        · simp [h2] at h
        · rw [if_neg h2] at h
          have hc : c ≠ '>' := by simpa using h2
          simpa [hc.symm] using ih (some q) hq h

/-- what stands between `<?` and `?>` -/
def xmlDeclContent (version : Str) (encoding : Option Str) (standalone : Int) : Str :=
  ['x', 'm', 'l', ' ', 'v', 'e', 'r', 's', 'i', 'o', 'n', '=', '"'] ++ version ++ ['"'] ++
  (if truthy encoding then [' ', 'e', 'n', 'c', 'o', 'd', 'i', 'n', 'g', '=', '"'] ++ encoding.getD [] ++ ['"'] else []) ++
  (if standalone != -1 then
     [' ', 's', 't', 'a', 'n', 'd', 'a', 'l', 'o', 'n', 'e', '=', '"'] ++
       (if standalone != 0 then ['y', 'e', 's'] else ['n', 'o']) ++ ['"']
   else [])

theorem xmlDeclOut_eq (v : Str) (e : Option Str) (s : Int) :
    xmlDeclOut v e s = (['<', '?'] ++ xmlDeclContent v e s ++ ['?', '>']) ++ ['\n'] := by
  simp [xmlDeclOut, xmlDeclContent, List.append_assoc]

theorem feed_xmlDecl (buf : Str) (toks : List Tok) (content : Str) (h : piSafe true false content = true) :
    feed true (mk .data buf toks) ((['<', '?'] ++ content ++ ['?', '>']) ++ ['\n']) =
      mk .data ['\n'] (.pi content :: flushToks buf toks) := by
  rw [feed_append, feed_pi true buf toks content h]
  simp [feed, step, mk]

end Genshi.Reader
