/-
  Helper lemmas for C08: the two simulations.  Reading what a serializer writes for one event
  has the effect the specification prescribes (`html_eventG` for `htmlEvP`, `xhtml_feedP` for
  `xhtmlEvP`: the whole output language, processing instructions, DOCTYPE events, CDATA sections
  and the XML declaration included), hence so has reading a whole serialisation (`html_streamG`,
  `xhtml_streamP`, `…_tokens…`).  For html the hypothesis on a DOCTYPE literal is the one an HTML
  parser needs, no `>` (`HtmlOkG`); the `HtmlOkP` of C08's statements (`dtScan`, shared with the
  XML mode) is stronger.  The specifications without prolog events or CDATA sections (`htmlEv`, `xhtmlEvC`,
  `xhtmlEv`) are restrictions of the two full ones, and their round trips follow from that
  (`htmlP_of_plain`, `xhtmlP_of_C`, `xhtmlC_of_plain`).
-/
import Genshi.Lemmas.ReaderProlog
import Genshi.Lemmas.ReaderXhtmlCdata
namespace Genshi.Reader
open Genshi Genshi.Escape Genshi.Output

/-- specification with PI and DOCTYPE events; `hd`: a DOCTYPE has been written -/
def htmlEvP (r : RS) (hd : Bool) (ev : FEv) : RS × Bool :=
  match ev with
  | .doctype n p s =>
      if hd then (r, hd)
      else (⟨false, ['\n'], .doctype (doctypeContent n p s) :: flushToks r.buf r.toks⟩, true)
  | .pi t d => (⟨false, [], .pi (t ++ ' ' :: d ++ ['?']) :: flushToks r.buf r.toks⟩, hd)
  | _ => (htmlEv r ev, hd)

def HtmlOkP (raw hd : Bool) (ev : FEv) : Prop :=
  match ev with
  | .doctype n p s => raw = false ∧ (hd = false → dtScan false none (doctypeContent n p s) = true)
  | .pi t d => raw = false ∧ piSafe false false (t ++ ' ' :: d) = true
  | _ => HtmlOk raw ev

/-- as `HtmlOkP`, but a DOCTYPE literal only has to be free of `>` -/
def HtmlOkG (raw hd : Bool) (ev : FEv) : Prop :=
  match ev with
  | .doctype n p s => raw = false ∧ (hd = false → '>' ∉ doctypeContent n p s)
  | _ => HtmlOkP raw hd ev

theorem htmlOkG_of_P {raw hd : Bool} {ev : FEv} (h : HtmlOkP raw hd ev)
    (hdt : ∀ n p s, ev = .doctype n p s → hd = false → '>' ∉ doctypeContent n p s) : HtmlOkG raw hd ev := by
  cases ev with
  | doctype n p s => exact ⟨h.1, hdt n p s rfl⟩
  | _ => exact h

theorem HtmlOkP.toG {raw hd : Bool} {ev : FEv} (h : HtmlOkP raw hd ev) : HtmlOkG raw hd ev :=
  htmlOkG_of_P h (by rintro n p s rfl hh; exact dtScan_no_gt _ none trivial (h.2 hh))

/-- the hypotheses along the stream -/
def HtmlOkAllP : Bool → Bool → List FEv → Prop
  | _, _, [] => True
  | raw, hd, ev :: rest => HtmlOkP raw hd ev ∧ HtmlOkAllP (rawAfter raw ev) (hd || isDoctypeEv ev) rest
where isDoctypeEv : FEv → Bool
  | .doctype _ _ _ => true
  | _ => false

def HtmlOkAllG : Bool → Bool → List FEv → Prop
  | _, _, [] => True
  | raw, hd, ev :: rest => HtmlOkG raw hd ev ∧ HtmlOkAllG (rawAfter raw ev) (hd || HtmlOkAllP.isDoctypeEv ev) rest

theorem HtmlOkAllP.toG : ∀ {evs : List FEv} {raw hd : Bool}, HtmlOkAllP raw hd evs → HtmlOkAllG raw hd evs
  | [], _, _, _ => trivial
  | _ :: _, _, _, h => ⟨h.1.toG, h.2.toG⟩

theorem htmlEvP_flagsG (r : RS) (hd : Bool) (ev : FEv) (hok : HtmlOkG r.raw hd ev) :
    (htmlEvP r hd ev).1.raw = rawAfter r.raw ev ∧ (htmlEvP r hd ev).2 = (hd || HtmlOkAllP.isDoctypeEv ev) := by
  cases ev with
  | doctype n p s =>
    have hr : r.raw = false := hok.1
    cases hd <;> simp [htmlEvP, rawAfter, HtmlOkAllP.isDoctypeEv, hr]
  | pi t d =>
    have hr : r.raw = false := hok.1
    simp [htmlEvP, rawAfter, HtmlOkAllP.isDoctypeEv, hr]
  | _ => simp [htmlEvP, htmlEv_raw, HtmlOkAllP.isDoctypeEv]

theorem ctxAfter_html (o : Opts) (c : Ctx) (hd : Bool) (ev : FEv) (hok : HtmlOkG c.raw hd ev) :
    (ctxAfter .html o c ev).raw = rawAfter c.raw ev ∧
    (ctxAfter .html o c ev).haveDoctype = (c.haveDoctype || HtmlOkAllP.isDoctypeEv ev) := by
  cases ev with
  | start t a =>
    obtain ⟨hr, ht, _⟩ := hok
    simp only [ctxAfter, noescape_iff_raw ht, rawAfter, HtmlOkAllP.isDoctypeEv, Bool.or_false]
    cases rawTextElems.contains t <;> simp [hr]
  | empty t a => exact ⟨hok.1, (Bool.or_false _).symm⟩
  | comment s => exact ⟨hok.1, (Bool.or_false _).symm⟩
  | _ => simp [ctxAfter, rawAfter, HtmlOkAllP.isDoctypeEv]

/-- One event: reading what the html serializer writes for it (in a context that agrees with the
    reader about raw text and the DOCTYPE) has exactly the specified effect, and the agreement is
    kept. -/
theorem html_eventG (o : Opts) (r : RS) (hd : Bool) (c : Ctx) (ev : FEv) (hraw : c.raw = r.raw)
    (hhd : c.haveDoctype = hd) (hok : HtmlOkG r.raw hd ev) :
    feed false r.toRSt (emit .html o c ev).flatten = (htmlEvP r hd ev).1.toRSt ∧
    (ctxAfter .html o c ev).raw = (htmlEvP r hd ev).1.raw ∧
    (ctxAfter .html o c ev).haveDoctype = (htmlEvP r hd ev).2 := by
  have hf := htmlEvP_flagsG r hd ev hok
  have hc := ctxAfter_html o c hd ev (hraw ▸ hok)
  refine ⟨?_, by rw [hf.1, ← hraw]; exact hc.1, by rw [hf.2, ← hhd]; exact hc.2⟩
  obtain ⟨rraw, rbuf, rtoks⟩ := r
  simp only at hraw
  cases ev with
  | start t a =>
    obtain ⟨rfl, ht, ha⟩ := hok
    simp only [emit, List.flatten_singleton, startOut_html_start, htmlEvP, htmlEv, toRSt_eq, Bool.false_eq_true,
      ↓reduceIte]
    exact feed_htmlStart rbuf rtoks t a ht ha
  | empty t a =>
    obtain ⟨rfl, ht, ha⟩ := hok
    simp only [emit, List.flatten_singleton, startOut_html_empty, htmlEvP, htmlEv, toRSt_eq, Bool.false_eq_true,
      ↓reduceIte]
    rw [feed_append, feed_htmlStart rbuf rtoks t a ht ha]
    by_cases hv : inTable (emptyElems .html) t = true
    · rw [if_pos hv, if_pos hv, void_not_raw hv]; rfl
    · rw [if_neg hv, if_neg hv]
      exact feed_endTag false _ (mode_cases _) [] _ t ht.2
  | end_ t =>
    simp only [emit, List.flatten_singleton, endTag, htmlEvP, htmlEv, toRSt_eq]
    exact feed_endTag false _ (mode_cases _) rbuf rtoks t hok.2
  | text s sf =>
    obtain ⟨rfl, hrw⟩ := hok
    cases rraw with
    | true =>
      simp only [emit, hraw, ↓reduceIte, List.flatten_singleton, toRSt_eq, htmlEvP, htmlEv]
      rw [feed_raw s _ rfl (hrw rfl)]; rfl
    | false =>
      simp only [emit, hraw, Bool.false_eq_true, ↓reduceIte, List.flatten_singleton, toRSt_eq, htmlEvP, htmlEv]
      rw [feed_data_escaped false s _ rfl rfl]; rfl
  | comment s =>
    obtain ⟨rfl, hs⟩ := hok
    simp only [emit, List.flatten_singleton, commentOut, htmlEvP, htmlEv, toRSt_eq, Bool.false_eq_true, ↓reduceIte]
    exact feed_comment false rbuf rtoks s hs
  | pi t d =>
    obtain ⟨rfl, hs⟩ := hok
    simp only [emit, List.flatten_singleton, htmlEvP, toRSt_eq, piOut_eq, Bool.false_eq_true, ↓reduceIte]
    simpa using feed_pi false rbuf rtoks (t ++ ' ' :: d) hs
  | doctype n p s =>
    obtain ⟨rfl, hs⟩ := hok
    cases hd with
    | true => simp [emit, hhd, htmlEvP, feed]
    | false =>
      simp only [emit, hhd, Bool.false_eq_true, ↓reduceIte, List.flatten_singleton, htmlEvP, toRSt_eq, doctypeOut_eq]
      exact feed_doctype_html rbuf rtoks _ (hs rfl)
  -- the remaining events write nothing in html
  | _ => rfl

def foldP (evs : List FEv) (r : RS) (hd : Bool) : RS × Bool :=
  evs.foldl (fun st ev => htmlEvP st.1 st.2 ev) (r, hd)

def rawEndP (raw : Bool) (evs : List FEv) : Bool := evs.foldl rawAfter raw

theorem html_streamG (o : Opts) (evs : List FEv) :
    ∀ (r : RS) (hd : Bool) (c : Ctx), c.raw = r.raw → c.haveDoctype = hd → HtmlOkAllG r.raw hd evs →
      feed false r.toRSt (serSpec .html o c evs).flatten = (foldP evs r hd).1.toRSt ∧
      (foldP evs r hd).1.raw = rawEndP r.raw evs := by
  induction evs with
  | nil => intro r hd c _ _ _; exact ⟨rfl, rfl⟩
  | cons ev rest ih =>
    intro r hd c hraw hhd hok
    obtain ⟨he, hr, hh⟩ := html_eventG o r hd c ev hraw hhd hok.1
    have hf := htmlEvP_flagsG r hd ev hok.1
    rw [serSpec, List.flatten_append, feed_append, he]
    obtain ⟨i1, i2⟩ := ih (htmlEvP r hd ev).1 (htmlEvP r hd ev).2 _ hr hh (by rw [hf.1, hf.2]; exact hok.2)
    exact ⟨i1, i2.trans (by rw [hf.1]; rfl)⟩

/-- the tokens `html.parser` must deliver, PI and DOCTYPE events included -/
def htmlExpectedP (evs : List FEv) : List Tok :=
  let r := (foldP evs {} false).1
  (flushToks r.buf r.toks).reverse

theorem html_tokensG (o : Opts) (evs : List FEv) (hok : HtmlOkAllG false false evs)
    (hend : (foldP evs {} false).1.raw = false) :
    tokens false (serSpec .html o {} evs).flatten = some (htmlExpectedP evs) := by
  exact tokens_of_feedS (html_streamG o evs {} false {} rfl rfl hok).1 hend

theorem html_tokensP (o : Opts) (evs : List FEv) (hok : HtmlOkAllP false false evs)
    (hend : (foldP evs {} false).1.raw = false) :
    tokens false (serSpec .html o {} evs).flatten = some (htmlExpectedP evs) :=
  html_tokensG o evs hok.toG hend

/-- without PI and DOCTYPE events the full specification is the plain one -/
theorem htmlP_of_plain (evs : List FEv) : ∀ (r : RS) (hd : Bool), HtmlOkAll r.raw evs →
    HtmlOkAllP r.raw hd evs ∧ foldP evs r hd = (evs.foldl htmlEv r, hd) := by
  induction evs with
  | nil => intro r hd _; exact ⟨trivial, rfl⟩
  | cons ev rest ih =>
    intro r hd hok
    have h1 : HtmlOkP r.raw hd ev ∧ htmlEvP r hd ev = (htmlEv r ev, hd) ∧ HtmlOkAllP.isDoctypeEv ev = false := by
      cases ev with
      | doctype n p s => exact hok.1.elim
      | pi t d => exact hok.1.elim
      | _ => exact ⟨hok.1, rfl, rfl⟩
    obtain ⟨i1, i2⟩ := ih (htmlEv r ev) hd (by rw [htmlEv_raw]; exact hok.2)
    refine ⟨⟨h1.1, by rw [h1.2.2, Bool.or_false, ← htmlEv_raw]; exact i1⟩, ?_⟩
    rw [foldP, List.foldl_cons, h1.2.1]; exact i2

theorem html_tokens (o : Opts) (evs : List FEv) (hok : HtmlOkAll false evs)
    (hend : (evs.foldl htmlEv {}).raw = false) :
    tokens false (serSpec .html o {} evs).flatten = some (htmlExpected evs) := by
  obtain ⟨h1, h2⟩ := htmlP_of_plain evs {} false hok
  have := html_tokensP o evs h1 (by rw [h2]; exact hend)
  rwa [htmlExpectedP, h2] at this

/-- flags: a DOCTYPE / an XML declaration has been written -/
structure Flags where
  hd : Bool := false
  hx : Bool := false
  deriving DecidableEq, Repr

/-- the serializer's context as the reader's state and flags determine it: the xhtml simulation is
    stated for this context, so that "the context behind an event agrees with the reader" is a fact
    about `ctxAfter` alone (`ctxAfter_xhtml`) -/
def flagsCtx (raw : Bool) (f : Flags) : Ctx := ⟨raw, f.hx, f.hd⟩

/-- specification with CDATA sections, PI, DOCTYPE events and the XML declaration -/
def xhtmlEvP (o : Opts) (r : RC) (f : Flags) (ev : FEv) : RC × Flags :=
  match r.cd with
  | some _ => (xhtmlEvC r ev, f)
  | none =>
      match ev with
      | .doctype n p s =>
          if f.hd then (r, f)
          else (⟨none, ['\n'], .doctype (doctypeContent n p s) :: flushToks r.buf r.toks⟩, { f with hd := true })
      | .pi t d => (⟨none, [], .pi (t ++ ' ' :: d) :: flushToks r.buf r.toks⟩, f)
      | .xmlDecl v e s =>
          if f.hx || o.dropXmlDecl then (r, f)
          else (⟨none, ['\n'], .pi (xmlDeclContent v e s) :: flushToks r.buf r.toks⟩, { f with hx := true })
      | _ => (xhtmlEvC r ev, f)

def XhtmlOkP (o : Opts) (inCd : Bool) (f : Flags) (ev : FEv) : Prop :=
  if inCd then XhtmlOkC o true ev
  else
    match ev with
    | .doctype n p s => f.hd = false → dtScan true none (doctypeContent n p s) = true
    | .pi t d => piSafe true false (t ++ ' ' :: d) = true
    | .xmlDecl v e s => (f.hx = false ∧ o.dropXmlDecl = false) → piSafe true false (xmlDeclContent v e s) = true
    | _ => XhtmlOkC o false ev

/-- flags behind an event -/
def flagsAfter (o : Opts) (inCd : Bool) (f : Flags) : FEv → Flags
  | .doctype _ _ _ => if inCd then f else { f with hd := true }
  | .xmlDecl _ _ _ => if inCd || f.hx || o.dropXmlDecl then f else { f with hx := true }
  | _ => f

def XhtmlOkAllP (o : Opts) : Bool → Flags → List FEv → Prop
  | _, _, [] => True
  | inCd, f, ev :: rest => XhtmlOkP o inCd f ev ∧ XhtmlOkAllP o (cdAfter inCd ev) (flagsAfter o inCd f ev) rest

theorem ctxAfter_xhtml (o : Opts) (inCd : Bool) (f : Flags) (ev : FEv) (hok : XhtmlOkP o inCd f ev) :
    ctxAfter .xhtml o (flagsCtx inCd f) ev = flagsCtx (cdAfter inCd ev) (flagsAfter o inCd f ev) := by
  cases inCd with
  | true => cases ev <;> first | rfl | exact absurd hok (by simp [XhtmlOkP, XhtmlOkC])
  | false =>
    cases ev with
    | xmlDecl v e s =>
      obtain ⟨hd, hx⟩ := f
      cases hx <;> cases hdx : o.dropXmlDecl <;> simp [ctxAfter, flagsCtx, cdAfter, flagsAfter, hdx]
    | _ => rfl

/-- One event: reading what the xhtml serializer writes for it, in the context the reader's
    state and flags determine, has exactly the specified effect; the bracket count stays capped. -/
theorem xhtml_feedP (o : Opts) (r : RC) (f : Flags) (ev : FEv) (hb : ∀ b, r.cd = some b → b ≤ 2)
    (hok : XhtmlOkP o r.cd.isSome f ev) :
    feed true r.toRSt (emit .xhtml o (flagsCtx r.cd.isSome f) ev).flatten = (xhtmlEvP o r f ev).1.toRSt ∧
    ∀ b, (xhtmlEvP o r f ev).1.cd = some b → b ≤ 2 := by
  obtain ⟨rcd, rbuf, rtoks⟩ := r
  cases rcd with
  | some b =>
    have hb2 : b ≤ 2 := hb b rfl
    have hok' : XhtmlOkC o true ev := hok
    cases ev with
    | text s sf =>
      obtain ⟨rfl, hsafe⟩ := hok'
      refine ⟨?_, fun b' hb' => ?_⟩
      · simp only [emit, flagsCtx, Option.isSome_some, ↓reduceIte, List.flatten_singleton, xhtmlEvP, xhtmlEvC, toRSt_some]
        rw [feed_cdata s b _ rfl (cdataSafe_mono s b hb2 hsafe)]; rfl
      · obtain rfl : cdataB b s = b' := Option.some.inj hb'
        exact cdataB_le s b hb2
    | endCdata => exact ⟨feed_cdataClose b hb2 rbuf rtoks, nofun⟩
    | _ => exact absurd hok' (by simp [XhtmlOkC])
  | none =>
    have hok' : XhtmlOkP o false f ev := hok
    simp only [XhtmlOkP, Bool.false_eq_true, ↓reduceIte] at hok'
    cases ev with
    | start t a =>
      obtain ⟨ht, ha⟩ := hok'
      refine ⟨?_, nofun⟩
      simp only [emit, List.flatten_singleton, xhtmlEvP, xhtmlEvC, xhtmlEv, toRSt_none, toRSt_ofRS, startOut_xhtml_start]
      rw [feed_append, feed_cons, tagSt_gt true (tagSt_xhtmlOpen rbuf rtoks t a ht ha), List.reverse_reverse]
      rfl
    | empty t a =>
      obtain ⟨ht, ha⟩ := hok'
      have h1 := tagSt_xhtmlOpen rbuf rtoks t a ht ha
      simp only [emit, List.flatten_singleton, xhtmlEvP, xhtmlEvC, xhtmlEv, RC.toRS, toRSt_none, startOut_xhtml_empty]
      rw [feed_append]
      by_cases hv : inTable (emptyElems .xhtml) t = true
      · rw [if_pos hv, if_pos hv, tagSt_selfClose true h1, List.reverse_reverse]
        exact ⟨rfl, nofun⟩
      · rw [if_neg hv, if_neg hv, feed_cons, tagSt_gt true h1, List.reverse_reverse]
        exact ⟨feed_endTag true _ (Or.inl rfl) [] _ t ht.2, nofun⟩
    | end_ t =>
      refine ⟨?_, nofun⟩
      simp only [emit, List.flatten_singleton, endTag, toRSt_none]
      exact feed_endTag true _ (Or.inl rfl) rbuf rtoks t hok'.2
    | text s sf =>
      obtain rfl : sf = false := hok'
      refine ⟨?_, nofun⟩
      simp only [emit, flagsCtx, Option.isSome_none, Bool.false_eq_true, ↓reduceIte, List.flatten_singleton, xhtmlEvP,
        xhtmlEvC, xhtmlEv, toRSt_none, RC.toRS, toRSt_ofRS]
      rw [feed_data_escaped true s _ rfl rfl]; rfl
    | comment s =>
      refine ⟨?_, nofun⟩
      simp only [emit, List.flatten_singleton, commentOut, toRSt_none]
      exact feed_comment true rbuf rtoks s hok'
    | pi t d =>
      refine ⟨?_, nofun⟩
      simp only [emit, List.flatten_singleton, xhtmlEvP, toRSt_none, piOut_eq]
      exact feed_pi true rbuf rtoks (t ++ ' ' :: d) hok'
    | doctype n p s =>
      cases hfd : f.hd with
      | true => exact ⟨by simp [emit, flagsCtx, hfd, xhtmlEvP, feed], by simp [xhtmlEvP, hfd]⟩
      | false =>
        refine ⟨?_, by simp [xhtmlEvP, hfd]⟩
        simp only [emit, flagsCtx, hfd, Bool.false_eq_true, ↓reduceIte, List.flatten_singleton, xhtmlEvP, doctypeOut_eq,
          toRSt_none]
        exact feed_doctype rbuf rtoks _ (hok' hfd)
    | xmlDecl v e s =>
      by_cases hw : (f.hx || o.dropXmlDecl) = true
      · refine ⟨?_, by simp [xhtmlEvP, hw]⟩
        have : emit .xhtml o (flagsCtx false f) (.xmlDecl v e s) = [] := by
          simp only [Bool.or_eq_true] at hw
          rcases hw with h | h <;> simp [emit, flagsCtx, h]
        simp [this, xhtmlEvP, hw, feed]
      · have hw2 : f.hx = false ∧ o.dropXmlDecl = false := by simpa using hw
        refine ⟨?_, by simp [xhtmlEvP, hw2.1, hw2.2]⟩
        have hem : emit .xhtml o (flagsCtx false f) (.xmlDecl v e s) = [xmlDeclOut v e s] := by
          simp [emit, flagsCtx, hw2.1, hw2.2]
        simp only [Option.isSome_none, hem, List.flatten_singleton, xhtmlEvP, hw2.1, hw2.2, Bool.or_self, Bool.false_eq_true,
          ↓reduceIte, toRSt_none, xmlDeclOut_eq]
        exact feed_xmlDecl rbuf rtoks _ (hok' hw2)
    | startCdata => exact ⟨feed_cdataOpen rbuf rtoks, by intro b hb'; cases hb'; omega⟩
    | endCdata => exact absurd hok' (by simp [XhtmlOkC, XhtmlOk])
    | startNs p u => exact ⟨rfl, nofun⟩
    | endNs p => exact ⟨rfl, nofun⟩

theorem xhtmlEvP_flags (o : Opts) (r : RC) (f : Flags) (ev : FEv) (hok : XhtmlOkP o r.cd.isSome f ev) :
    (xhtmlEvP o r f ev).1.cd.isSome = cdAfter r.cd.isSome ev ∧ (xhtmlEvP o r f ev).2 = flagsAfter o r.cd.isSome f ev := by
  obtain ⟨rcd, rbuf, rtoks⟩ := r
  cases rcd with
  | some b =>
    have hok' : XhtmlOkC o true ev := hok
    cases ev <;> first | exact ⟨rfl, rfl⟩ | exact absurd hok' (by simp [XhtmlOkC])
  | none =>
    cases ev with
    | doctype n p s => obtain ⟨fhd, fhx⟩ := f; cases fhd <;> exact ⟨rfl, rfl⟩
    | xmlDecl v e s =>
      by_cases hw : (f.hx || o.dropXmlDecl) = true <;> simp [xhtmlEvP, hw, cdAfter, flagsAfter]
    | empty t a => simp only [xhtmlEvP, xhtmlEvC, xhtmlEv]; split <;> exact ⟨rfl, rfl⟩
    | endCdata => exact absurd hok (by simp [XhtmlOkP, XhtmlOkC, XhtmlOk])
    | _ => exact ⟨rfl, rfl⟩

def foldXP (o : Opts) (evs : List FEv) (r : RC) (f : Flags) : RC × Flags :=
  evs.foldl (fun st ev => xhtmlEvP o st.1 st.2 ev) (r, f)

theorem xhtml_streamP (o : Opts) (evs : List FEv) :
    ∀ (r : RC) (f : Flags), (∀ b, r.cd = some b → b ≤ 2) → XhtmlOkAllP o r.cd.isSome f evs →
      feed true r.toRSt (serSpec .xhtml o (flagsCtx r.cd.isSome f) evs).flatten = (foldXP o evs r f).1.toRSt := by
  induction evs with
  | nil => intro r f _ _; rfl
  | cons ev rest ih =>
    intro r f hb hok
    have he := xhtml_feedP o r f ev hb hok.1
    have hf := xhtmlEvP_flags o r f ev hok.1
    rw [serSpec, List.flatten_append, feed_append, he.1, ctxAfter_xhtml o _ f ev hok.1, ← hf.1, ← hf.2]
    exact ih _ _ he.2 (by rw [hf.1, hf.2]; exact hok.2)

/-- the tokens the XML tokenizer must deliver for the whole output language -/
def xhtmlExpectedP (o : Opts) (evs : List FEv) : List Tok :=
  let r := (foldXP o evs {} {}).1
  (flushToks r.buf r.toks).reverse

theorem xhtml_tokensP (o : Opts) (evs : List FEv) (hok : XhtmlOkAllP o false {} evs)
    (hend : (foldXP o evs {} {}).1.cd = none) :
    tokens true (serSpec .xhtml o {} evs).flatten = some (xhtmlExpectedP o evs) :=
  tokens_of_feedC (xhtml_streamP o evs {} {} nofun hok) hend

/-- outside the prolog the full specification is the CDATA-aware one -/
theorem xhtmlP_of_C (o : Opts) (evs : List FEv) : ∀ (r : RC) (f : Flags), XhtmlOkAllC o r.cd.isSome evs →
    XhtmlOkAllP o r.cd.isSome f evs ∧ foldXP o evs r f = (evs.foldl xhtmlEvC r, f) := by
  induction evs with
  | nil => intro r f _; exact ⟨trivial, rfl⟩
  | cons ev rest ih =>
    intro r f hok
    have h1 : XhtmlOkP o r.cd.isSome f ev ∧ xhtmlEvP o r f ev = (xhtmlEvC r ev, f) := by
      obtain ⟨rcd, rbuf, rtoks⟩ := r
      cases rcd with
      | some b => exact ⟨hok.1, rfl⟩
      | none =>
        have h := hok.1
        cases ev with
        | doctype n p s => exact absurd h (by simp [XhtmlOkC, XhtmlOk])
        | pi t d => exact absurd h (by simp [XhtmlOkC, XhtmlOk])
        | xmlDecl v e s =>
          have hd : o.dropXmlDecl = true := h
          exact ⟨fun hh => absurd hd (by simp [hh.2]), by simp [xhtmlEvP, hd, xhtmlEvC, xhtmlEv, RC.ofRS, RC.toRS]⟩
        | _ => exact ⟨h, rfl⟩
    have hf := xhtmlEvP_flags o r f ev h1.1
    rw [h1.2] at hf
    have hfl : flagsAfter o r.cd.isSome f ev = f := hf.2.symm
    obtain ⟨i1, i2⟩ := ih (xhtmlEvC r ev) f (by rw [hf.1]; exact hok.2)
    refine ⟨⟨h1.1, by rw [hfl, ← hf.1]; exact i1⟩, ?_⟩
    rw [foldXP, List.foldl_cons, h1.2]; exact i2

theorem xhtml_tokensC (o : Opts) (evs : List FEv) (hok : XhtmlOkAllC o false evs)
    (hend : (evs.foldl xhtmlEvC {}).cd = none) :
    tokens true (serSpec .xhtml o {} evs).flatten = some (xhtmlExpectedC evs) := by
  obtain ⟨h1, h2⟩ := xhtmlP_of_C o evs {} {} hok
  have := xhtml_tokensP o evs h1 (by rw [h2]; exact hend)
  rwa [xhtmlExpectedP, h2] at this

/-- without CDATA sections the CDATA-aware specification is the plain one -/
theorem xhtmlC_of_plain (o : Opts) (evs : List FEv) : ∀ r : RS, (∀ ev ∈ evs, XhtmlOk o ev) →
    XhtmlOkAllC o false evs ∧ evs.foldl xhtmlEvC (RC.ofRS r) = RC.ofRS (evs.foldl xhtmlEv r) := by
  induction evs with
  | nil => intro r _; exact ⟨trivial, rfl⟩
  | cons ev rest ih =>
    intro r hok
    have h := hok ev List.mem_cons_self
    have h1 : XhtmlOkC o false ev ∧ cdAfter false ev = false ∧ xhtmlEvC (RC.ofRS r) ev = RC.ofRS (xhtmlEv r ev) := by
      cases ev with
      | startCdata => exact absurd h (by simp [XhtmlOk])
      | endCdata => exact absurd h (by simp [XhtmlOk])
      | empty t a => refine ⟨h, rfl, ?_⟩; simp only [xhtmlEvC, RC.ofRS, xhtmlEv, RC.toRS]
      | _ => exact ⟨h, rfl, rfl⟩
    obtain ⟨i1, i2⟩ := ih (xhtmlEv r ev) fun e he => hok e (List.mem_cons_of_mem _ he)
    exact ⟨⟨h1.1, by rw [h1.2.1]; exact i1⟩, by rw [List.foldl_cons, List.foldl_cons, h1.2.2, i2]⟩

theorem xhtml_tokens (o : Opts) (evs : List FEv) (hok : ∀ ev ∈ evs, XhtmlOk o ev) :
    tokens true (serSpec .xhtml o {} evs).flatten = some (xhtmlExpected evs) := by
  obtain ⟨h1, h2⟩ := xhtmlC_of_plain o evs {} hok
  have := xhtml_tokensC o evs h1 (by rw [show ({} : RC) = RC.ofRS {} from rfl, h2]; rfl)
  rwa [xhtmlExpectedC, show ({} : RC) = RC.ofRS {} from rfl, h2] at this

end Genshi.Reader
