/-
  Helper lemmas for C08: the html and the xhtml round trip stated over forests — the expected
  tokens defined by recursion on the forest (`treePieces`, `treePiecesX`), the hypotheses on a
  forest (`htmlTreeOk`, `xhtmlTreeOk`), and the step for ONE element whose children are handed on
  (`pieces_node`, `htmlOk_node`, `piecesX_node`, `xhtmlOk_node`).  The html side is proved once for
  every forest renderer `R : Rend P` (Lemmas/OutputForest) that writes at most an `xmlns` declaration
  in front of an element's attributes (`R.Decl`): `piecesR`, `htmlOkR`; the flattenings `forestFu`,
  `forestFm` are instances.
-/
import Genshi.Lemmas.ListBasics
import Genshi.Lemmas.OutputForest
import Genshi.Lemmas.ReaderHtml
import Genshi.Lemmas.ReaderXhtml
namespace Genshi.Reader
open Genshi Genshi.Output

/-- what one event contributes to the tokens read back: a whole token, or character data that
    merges with the character data next to it -/
inductive Piece where
  | tok (t : Tok)
  | chars (s : Str)
  deriving Repr, DecidableEq

/-- a token ends the pending character data (a text token, unless empty); character data is appended -/
def applyPiece (bt : Str × List Tok) : Piece → Str × List Tok
  | .tok t => ([], t :: flushToks bt.1 bt.2)
  | .chars s => (bt.1 ++ s, bt.2)

/-- tokens of a list of pieces: adjacent character data merged, empty text dropped -/
def assemble (ps : List Piece) : List Tok :=
  let bt := ps.foldl applyPiece ([], [])
  (flushToks bt.1 bt.2).reverse

def evPieces : FEv → List Piece
  | .start t a => [.tok (.start t (htmlAttrToks a) false)]
  | .empty t a =>
      if inTable (emptyElems .html) t then [.tok (.start t (htmlAttrToks a) false)]
      else [.tok (.start t (htmlAttrToks a) false), .tok (.end_ t)]
  | .end_ t => [.tok (.end_ t)]
  | .text s _ => [.chars s]
  | .comment s => [.tok (.comment s)]
  | _ => []

/-- the part of the abstract reader state that `applyPiece` works on -/
def bt (r : RS) : Str × List Tok := (r.buf, r.toks)

theorem flushToks_nil (toks : List Tok) : flushToks [] toks = toks := rfl

theorem bt_htmlEv (r : RS) (ev : FEv) : bt (htmlEv r ev) = (evPieces ev).foldl applyPiece (bt r) := by
  cases ev with
  | empty t a => simp only [htmlEv, evPieces]; split <;> rfl
  | _ => rfl

/-- a fold of per-event specification steps that act on buffer and tokens as their pieces do yields the
    tokens of the pieces (html and xhtml alike) -/
theorem expected_eq_assemble (stp : RS → FEv → RS) (pcs : FEv → List Piece)
    (h : ∀ r ev, bt (stp r ev) = (pcs ev).foldl applyPiece (bt r)) (evs : List FEv) :
    (flushToks (evs.foldl stp {}).buf (evs.foldl stp {}).toks).reverse = assemble (evs.flatMap pcs) := by
  have : ∀ (evs : List FEv) (r : RS), bt (evs.foldl stp r) = (evs.flatMap pcs).foldl applyPiece (bt r) := by
    intro evs
    induction evs with
    | nil => intro r; rfl
    | cons ev rest ih => intro r; simp [ih, h, List.foldl_append]
  exact congrArg (fun x : Str × List Tok => (flushToks x.1 x.2).reverse) (this evs {})

theorem htmlExpected_eq_assemble (evs : List FEv) :
    htmlExpected evs = assemble (evs.flatMap evPieces) := expected_eq_assemble htmlEv evPieces bt_htmlEv evs

theorem flushToks_all {P : Tok → Prop} (htext : ∀ s, P (.text s)) {buf : Str} {toks : List Tok}
    (h : ∀ t ∈ toks, P t) : ∀ t ∈ flushToks buf toks, P t := by
  intro t ht
  unfold flushToks at ht
  split at ht
  · exact h t ht
  · rcases List.mem_cons.mp ht with rfl | ht
    · exact htext _
    · exact h t ht

/-- a token predicate that holds of text holds of the tokens a list of pieces is applied to as soon as it holds of the
    token pieces: character data only ever becomes text (C06's re-parse theorems go through this, with the pieces of
    one event: `San.evPieces_safe`, `San.evPiecesX_safe`) -/
theorem applyPieces_all {P : Tok → Prop} (htext : ∀ s, P (.text s)) {ps : List Piece}
    (h : ∀ t, Piece.tok t ∈ ps → P t) (bt : Str × List Tok) (hbt : ∀ t ∈ bt.2, P t) :
    ∀ t ∈ (ps.foldl applyPiece bt).2, P t :=
  foldl_inv (f := applyPiece) (fun bt : Str × List Tok => ∀ t ∈ bt.2, P t) ps bt hbt fun bt p hp hbt => by
    cases p with
    | tok t' => exact List.forall_mem_cons.mpr ⟨h t' hp, flushToks_all htext hbt⟩
    | chars s => exact hbt

theorem assemble_all {P : Tok → Prop} (htext : ∀ s, P (.text s)) {ps : List Piece}
    (h : ∀ t, Piece.tok t ∈ ps → P t) : ∀ t ∈ assemble ps, P t := by
  intro t ht
  rw [assemble, List.mem_reverse] at ht
  exact flushToks_all htext (applyPieces_all htext h ([], []) fun _ h => nomatch h) t ht

mutual
  /-- html: start tag with the attributes of `htmlAttrToks`; end tag unless the element is void and
      childless; text and comments verbatim; everything else invisible -/
  def treePieces : Node → List Piece
    | .elem t a ks =>
        .tok (.start t.loc (htmlAttrToks (fAttrs a)) false) ::
          (if ks.isEmpty then (if inTable (emptyElems .html) t.loc then [] else [.tok (.end_ t.loc)])
           else forestPieces ks ++ [.tok (.end_ t.loc)])
    | .leaf (.text s _) => [.chars s]
    | .leaf (.comment s) => [.tok (.comment s)]
    | .leaf _ => []
  def forestPieces : List Node → List Piece
    | [] => []
    | n :: ns => treePieces n ++ forestPieces ns
end

/-- one element written with the attributes `at_` — the element's own behind whatever declaration
    the flattening in use puts in front, which html does not see (`hd`) — around the events `kevs`
    of its children -/
theorem pieces_node (t : QName) (a : AttrList) (ks : List Node) (at_ : FAttrs) (kevs : List FEv)
    (hd : htmlAttrToks at_ = htmlAttrToks (fAttrs a)) (hk : kevs.flatMap evPieces = forestPieces ks) :
    (if ks.isEmpty then [.empty t.loc at_]
      else .start t.loc at_ :: (kevs ++ [.end_ t.loc])).flatMap evPieces = treePieces (.elem t a ks) := by
  cases ks with
  | nil =>
    simp only [List.isEmpty_nil, ↓reduceIte, List.flatMap_cons, List.flatMap_nil, List.append_nil, evPieces,
      treePieces, hd]
    split <;> rfl
  | cons k ks' =>
    simp only [List.isEmpty_cons, Bool.false_eq_true, ↓reduceIte, List.flatMap_cons, List.flatMap_append,
      List.flatMap_nil, List.append_nil, evPieces, treePieces, hk, hd, List.singleton_append]

theorem pieces_leaf (e : Event) : (leafF e).toList.flatMap evPieces = treePieces (.leaf e) := by
  cases e <;> rfl

/-- of all the attributes of a tag the two attribute loops look only at whether there is a `lang` -/
theorem hasAttr_xmlns_lang (v : Str) (a : FAttrs) : hasAttr ((xmlns, v) :: a) lang = hasAttr a lang := by
  have : (xmlns == lang) = false := by decide
  simp [hasAttr, this]

theorem htmlAttrToks_xmlns (v : Str) (a : FAttrs) : htmlAttrToks ((xmlns, v) :: a) = htmlAttrToks a := by
  have h1 : htmlAttrTok ((xmlns, v) :: a) (xmlns, v) = [] := by
    have hb : inTable (booleanAttrs .html) xmlns = false := by decide
    have hc : (xmlns.any (· == ':')) = false := by decide
    simp [htmlAttrTok, hb, hc]
  have h2 : htmlAttrTok ((xmlns, v) :: a) = htmlAttrTok a := by
    funext p; simp [htmlAttrTok, hasAttr_xmlns_lang]
  simp only [htmlAttrToks, List.flatMap_cons]
  rw [h1, h2]; rfl

/-- html drops the declaration -/
theorem _root_.Genshi.Output.Rend.Decl.htmlAttrToks {P : Type} {R : Rend P} (hR : R.Decl) (p : P) (t : QName)
    (a : AttrList) : htmlAttrToks (R.attrs p t a) = htmlAttrToks (fAttrs a) := by
  rcases hR p t a with e | ⟨v, e⟩ <;> rw [e]
  exact htmlAttrToks_xmlns v _

theorem piecesR {P : Type} (R : Rend P) (hR : R.Decl) :
    (∀ n p, (R.F p [n]).flatMap evPieces = treePieces n) ∧ ∀ ns p, (R.F p ns).flatMap evPieces = forestPieces ns := by
  refine node_induction ?_ ?_ ?_ ?_
  · intro t a ks ih p; rw [R.elem_eq]; exact pieces_node t a ks _ _ (hR.htmlAttrToks p t a) (ih _)
  · intro e p; rw [R.leaf]; exact pieces_leaf e
  · intro p; rw [R.nil]; rfl
  · intro n ns ihn ihs p; rw [R.cons, forestPieces, List.flatMap_append, ihn, ihs]

def nameOkB (n : Str) : Bool := !n.isEmpty && n.all nameChar

theorem nameOk_of_B {n : Str} (h : nameOkB n = true) : NameOk n := by
  simp only [nameOkB, Bool.and_eq_true, Bool.not_eq_true', List.isEmpty_eq_false_iff] at h
  exact ⟨h.1, h.2⟩

/-- children of a script/style element: text only, not Markup, no `</`, no `<` at the end -/
def rawKidsOk : List Node → Bool
  | [] => true
  | .leaf (.text s f) :: rest => !f && rawOk s && rawKidsOk rest
  | _ :: _ => false

mutual
  /-- a tree of the HTML vocabulary inside the hypotheses of the round trip -/
  def htmlTreeOk : Node → Bool
    | .elem t a ks =>
        nameOkB t.loc && (fAttrs a).all (fun p => nameOkB p.1) &&
          (if rawTextElems.contains t.loc then rawKidsOk ks else htmlForestOk ks)
    | .leaf (.text _ f) => !f
    | .leaf (.comment s) => commentOk s
    | .leaf _ => false
  def htmlForestOk : List Node → Bool
    | [] => true
    | n :: ns => htmlTreeOk n && htmlForestOk ns
end

def rawEnd (raw : Bool) (evs : List FEv) : Bool := evs.foldl rawAfter raw

theorem htmlOkAll_append (a b : List FEv) : ∀ raw : Bool,
    HtmlOkAll raw (a ++ b) ↔ HtmlOkAll raw a ∧ HtmlOkAll (rawEnd raw a) b := by
  induction a with
  | nil => intro raw; simp [HtmlOkAll, rawEnd]
  | cons e es ih => intro raw; simp [HtmlOkAll, rawEnd, ih, and_assoc]

theorem rawEnd_append (a b : List FEv) (raw : Bool) : rawEnd raw (a ++ b) = rawEnd (rawEnd raw a) b := by
  simp [rawEnd, List.foldl_append]

theorem foldl_htmlEv_raw (evs : List FEv) : ∀ r : RS, (evs.foldl htmlEv r).raw = rawEnd r.raw evs := by
  induction evs with
  | nil => intro r; rfl
  | cons e es ih => intro r; simp [ih, htmlEv_raw, rawEnd]

theorem rawKids_ok (ks : List Node) (h : rawKidsOk ks = true) :
    HtmlOkAll true (forestF ks) ∧ rawEnd true (forestF ks) = true := by
  induction ks with
  | nil => simp [forestF, HtmlOkAll, rawEnd]
  | cons k ks' ih =>
    cases k with
    | elem t a kk => simp [rawKidsOk] at h
    | leaf e =>
      cases e with
      | text s f =>
        simp only [rawKidsOk, Bool.and_eq_true, Bool.not_eq_true'] at h
        obtain ⟨⟨hf, hs⟩, hr⟩ := h
        have ih' := ih hr
        subst hf
        simp only [forestF, treeF, leafF, Option.toList_some, List.singleton_append, HtmlOkAll, HtmlOk, rawAfter,
          true_and, rawEnd, List.foldl_cons]
        exact ⟨⟨fun _ => hs, ih'.1⟩, ih'.2⟩
      | _ => simp [rawKidsOk] at h

theorem nameOk_xmlns : NameOk xmlns := by decide

theorem _root_.Genshi.Output.Rend.Decl.names {P : Type} {R : Rend P} (hR : R.Decl) (p : P) (t : QName) {a : AttrList}
    (ha : (fAttrs a).all (fun q => nameOkB q.1) = true) : ∀ q ∈ R.attrs p t a, NameOk q.1 := by
  have h0 : ∀ q ∈ fAttrs a, NameOk q.1 := fun q hq => nameOk_of_B (List.all_eq_true.mp ha q hq)
  rcases hR p t a with e | ⟨v, e⟩ <;> rw [e]
  · exact h0
  · exact List.forall_mem_cons.mpr ⟨nameOk_xmlns, h0⟩

theorem htmlOk_node (t : Str) (ks : List Node) (at_ : FAttrs) (kevs : List FEv)
    (hT : NameOk t) (hA : ∀ p ∈ at_, NameOk p.1)
    (hraw : rawTextElems.contains t = true → rawKidsOk ks = true ∧ kevs = forestF ks)
    (hk : rawTextElems.contains t = false → HtmlOkAll false kevs ∧ rawEnd false kevs = false) :
    let evs := if ks.isEmpty then [.empty t at_] else .start t at_ :: (kevs ++ [.end_ t])
    HtmlOkAll false evs ∧ rawEnd false evs = false := by
  cases ks with
  | nil => exact ⟨⟨⟨rfl, hT, hA⟩, trivial⟩, rfl⟩
  | cons k ks' =>
    simp only [List.isEmpty_cons, Bool.false_eq_true, ↓reduceIte]
    have hs : rawEnd false [XEv.start t at_] = rawTextElems.contains t := rfl
    have hkids : HtmlOkAll (rawTextElems.contains t) kevs ∧
        rawEnd (rawTextElems.contains t) kevs = rawTextElems.contains t := by
      cases hr : rawTextElems.contains t with
      | true => obtain ⟨h1, rfl⟩ := hraw hr; exact rawKids_ok _ h1
      | false => exact hk hr
    refine ⟨?_, ?_⟩
    · rw [← List.singleton_append, htmlOkAll_append, htmlOkAll_append, hs]
      exact ⟨⟨⟨rfl, hT, hA⟩, trivial⟩, hkids.1, ⟨hT, trivial⟩⟩
    · rw [← List.singleton_append, rawEnd_append, rawEnd_append]; rfl

theorem htmlOk_leaf (e : Event) (h : htmlTreeOk (.leaf e) = true) :
    HtmlOkAll false (leafF e).toList ∧ rawEnd false (leafF e).toList = false := by
  cases e with
  | text s f =>
    have hf : f = false := by simpa [htmlTreeOk] using h
    exact ⟨⟨⟨hf, nofun⟩, trivial⟩, rfl⟩
  | comment s => exact ⟨⟨⟨rfl, h⟩, trivial⟩, rfl⟩
  | _ => exact absurd h Bool.false_ne_true

/-- inside script/style every renderer writes what the plain flattening does: there are only text leaves -/
theorem _root_.Genshi.Output.Rend.raw {P : Type} (R : Rend P) (p : P) (ks : List Node) (h : rawKidsOk ks = true) :
    R.F p ks = forestF ks := by
  induction ks using rawKidsOk.induct with
  | case1 => exact R.nil p
  | case2 x f rest ih =>
    simp only [rawKidsOk, Bool.and_eq_true] at h
    rw [R.cons, R.leaf, ih h.2]; rfl
  | case3 k ks hne => simp [rawKidsOk] at h

theorem htmlOkR {P : Type} (R : Rend P) (hR : R.Decl) :
    (∀ n p, htmlTreeOk n = true → HtmlOkAll false (R.F p [n]) ∧ rawEnd false (R.F p [n]) = false) ∧
    ∀ ns p, htmlForestOk ns = true → HtmlOkAll false (R.F p ns) ∧ rawEnd false (R.F p ns) = false := by
  refine node_induction ?_ ?_ ?_ ?_
  · intro t a ks ih p h
    simp only [htmlTreeOk, Bool.and_eq_true] at h
    rw [R.elem_eq]
    exact htmlOk_node t.loc ks _ _ (nameOk_of_B h.1.1) (hR.names p t h.1.2)
      (fun hr => by rw [if_pos hr] at h; exact ⟨h.2, R.raw _ ks h.2⟩)
      (fun hr => by rw [if_neg (by rw [hr]; exact Bool.false_ne_true)] at h; exact ih _ h.2)
  · intro e p h; rw [R.leaf]; exact htmlOk_leaf e h
  · intro p _; rw [R.nil]; exact ⟨trivial, rfl⟩
  · intro n ns ihn ihs p h
    simp only [htmlForestOk, Bool.and_eq_true] at h
    have h1 := ihn p h.1
    have h2 := ihs p h.2
    rw [R.cons, htmlOkAll_append, rawEnd_append, h1.2]
    exact ⟨⟨h1.1, h2.1⟩, h2.2⟩

def evPiecesX : FEv → List Piece
  | .start t a => [.tok (.start t (xhtmlAttrToks a) false)]
  | .empty t a =>
      if inTable (emptyElems .xhtml) t then [.tok (.start t (xhtmlAttrToks a) true)]
      else [.tok (.start t (xhtmlAttrToks a) false), .tok (.end_ t)]
  | .end_ t => [.tok (.end_ t)]
  | .text s _ => [.chars s]
  | .comment s => [.tok (.comment s)]
  | _ => []

theorem bt_xhtmlEv (r : RS) (ev : FEv) : bt (xhtmlEv r ev) = (evPiecesX ev).foldl applyPiece (bt r) := by
  cases ev with
  | empty t a => simp only [xhtmlEv, evPiecesX]; split <;> rfl
  | _ => rfl

theorem xhtmlExpected_eq_assemble (evs : List FEv) :
    xhtmlExpected evs = assemble (evs.flatMap evPiecesX) := expected_eq_assemble xhtmlEv evPiecesX bt_xhtmlEv evs

mutual
  /-- xhtml: start tag with the attributes of `xhtmlAttrToks`; a childless void element is
      self-closed, every other element gets its end tag; text and comments verbatim -/
  def treePiecesX : Node → List Piece
    | .elem t a ks =>
        if ks.isEmpty then
          (if inTable (emptyElems .xhtml) t.loc then [.tok (.start t.loc (xhtmlAttrToks (fAttrs a)) true)]
           else [.tok (.start t.loc (xhtmlAttrToks (fAttrs a)) false), .tok (.end_ t.loc)])
        else .tok (.start t.loc (xhtmlAttrToks (fAttrs a)) false) :: (forestPiecesX ks ++ [.tok (.end_ t.loc)])
    | .leaf (.text s _) => [.chars s]
    | .leaf (.comment s) => [.tok (.comment s)]
    | .leaf _ => []
  def forestPiecesX : List Node → List Piece
    | [] => []
    | n :: ns => treePiecesX n ++ forestPiecesX ns
end

/-- an element whose start tag carries a declaration `d` that the XML tokenizer sees as ordinary
    first attributes, its children handed on as `kevs` -/
theorem piecesX_node (t : QName) (a : AttrList) (ks : List Node) (d : FAttrs) (kevs : List FEv) (kps : List Piece)
    (hd : xhtmlAttrToks (d ++ fAttrs a) = d.map (fun p => (p.1, some p.2)) ++ xhtmlAttrToks (fAttrs a))
    (hk : kevs.flatMap evPiecesX = kps) :
    (if ks.isEmpty then [.empty t.loc (d ++ fAttrs a)]
      else .start t.loc (d ++ fAttrs a) :: (kevs ++ [.end_ t.loc])).flatMap evPiecesX =
      (let at_ := d.map (fun p => (p.1, some p.2)) ++ xhtmlAttrToks (fAttrs a)
       if ks.isEmpty then
         (if inTable (emptyElems .xhtml) t.loc then [.tok (.start t.loc at_ true)]
          else [.tok (.start t.loc at_ false), .tok (.end_ t.loc)])
       else .tok (.start t.loc at_ false) :: (kps ++ [.tok (.end_ t.loc)])) := by
  cases ks with
  | nil =>
    simp only [List.isEmpty_nil, ↓reduceIte, List.flatMap_cons, List.flatMap_nil, List.append_nil, evPiecesX, hd]
  | cons k ks' =>
    simp only [List.isEmpty_cons, Bool.false_eq_true, ↓reduceIte, List.flatMap_cons, List.flatMap_append,
      List.flatMap_nil, List.append_nil, evPiecesX, hk, hd, List.singleton_append]

def attrValOkB (v : Str) : Bool := v.all fun c => !attrWs c

mutual
  /-- a tree inside the hypotheses of the xhtml round trip -/
  def xhtmlTreeOk : Node → Bool
    | .elem t a ks =>
        nameOkB t.loc && (fAttrs a).all (fun p => nameOkB p.1 && attrValOkB p.2) && xhtmlForestOk ks
    | .leaf (.text _ f) => !f
    | .leaf (.comment s) => commentOk s
    | .leaf _ => false
  def xhtmlForestOk : List Node → Bool
    | [] => true
    | n :: ns => xhtmlTreeOk n && xhtmlForestOk ns
end

theorem xattrsOk_append {d : FAttrs} {a : AttrList} (hd : XAttrsOk d)
    (ha : (fAttrs a).all (fun p => nameOkB p.1 && attrValOkB p.2) = true) : XAttrsOk (d ++ fAttrs a) := fun p hp =>
  (List.mem_append.mp hp).elim (hd p) fun h1 => by
    have := List.all_eq_true.mp ha p h1
    simp only [Bool.and_eq_true] at this
    exact ⟨nameOk_of_B this.1, fun _ => this.2⟩

/-- the XML tokenizer sees a namespace declaration as an ordinary attribute in front of the others -/
theorem xhtmlAttrToks_xmlns (v : Str) (a : FAttrs) :
    xhtmlAttrToks ((xmlns, v) :: a) = (xmlns, some v) :: xhtmlAttrToks a := by
  have hb : inTable (booleanAttrs .xhtml) xmlns = false := by decide
  have h1 : xhtmlAttrTok ((xmlns, v) :: a) (xmlns, v) = [(xmlns, some v)] := by
    have hl : (xmlns == xmlLang) = false := by decide
    have hs : (xmlns == xmlSpace) = false := by decide
    simp [xhtmlAttrTok, hb, hl, hs]
  have h2 : xhtmlAttrTok ((xmlns, v) :: a) = xhtmlAttrTok a := by
    funext p; simp [xhtmlAttrTok, hasAttr_xmlns_lang]
  simp only [xhtmlAttrToks, List.flatMap_cons]
  rw [h1, h2]; rfl

theorem xhtmlAttrToks_declM (cur v : Str) (a : FAttrs) :
    xhtmlAttrToks (declM cur v ++ a) = (declM cur v).map (fun p => (p.1, some p.2)) ++ xhtmlAttrToks a := by
  unfold declM
  split
  · rfl
  · exact xhtmlAttrToks_xmlns v a

theorem declM_ok (cur v : Str) (hv : attrValOkB v = true) : XAttrsOk (declM cur v) := by
  intro p hp
  unfold declM at hp
  split at hp
  · simp at hp
  · simp at hp; subst hp; exact ⟨nameOk_xmlns, fun _ => hv⟩

theorem xhtmlOk_node (o : Opts) (t : QName) (a : AttrList) (ks : List Node) (d : FAttrs) (kevs : List FEv)
    (hd : XAttrsOk d) (ht : nameOkB t.loc = true)
    (ha : (fAttrs a).all (fun p => nameOkB p.1 && attrValOkB p.2) = true) (hk : ∀ ev ∈ kevs, XhtmlOk o ev) :
    ∀ ev ∈ (if ks.isEmpty then [.empty t.loc (d ++ fAttrs a)]
      else .start t.loc (d ++ fAttrs a) :: (kevs ++ [.end_ t.loc])), XhtmlOk o ev := by
  have hT := nameOk_of_B ht
  have hA := xattrsOk_append hd ha
  intro ev hev
  split at hev
  · rw [List.mem_singleton] at hev; subst hev; exact ⟨hT, hA⟩
  · simp only [List.mem_cons, List.mem_append, List.not_mem_nil, or_false] at hev
    rcases hev with h1 | h1 | h1
    · subst h1; exact ⟨hT, hA⟩
    · exact hk ev h1
    · subst h1; exact hT

theorem xhtmlOk_leaf (o : Opts) (e : Event) (h : xhtmlTreeOk (.leaf e) = true) : ∀ ev ∈ (leafF e).toList, XhtmlOk o ev := by
  intro ev hev
  cases e with
  | text s f =>
    have hf : f = false := by simpa [xhtmlTreeOk] using h
    rw [List.mem_singleton.mp hev]; exact hf
  | comment s => rw [List.mem_singleton.mp hev]; exact h
  | _ => exact absurd h Bool.false_ne_true

end Genshi.Reader
