/-
  Helper lemmas for C08: the round trips over forests that MIX namespaces (XHTML elements with
  un-namespaced children and the like): every element whose namespace differs from the default
  namespace in scope carries an `xmlns` declaration (`xmlns=""` included); html drops it (instances
  of `piecesR`, `htmlOkR` at the renderer `rendM`), the XML tokenizer sees it as the first attribute.
-/
import Genshi.Lemmas.ReaderTreeNs
namespace Genshi.Reader
open Genshi Genshi.Output

theorem htmlAttrToks_declM (cur v : Str) (a : FAttrs) :
    htmlAttrToks (declM cur v ++ a) = htmlAttrToks a := by
  unfold declM
  split
  · rfl
  · exact htmlAttrToks_xmlns v a

theorem pieces_treeM : ∀ (cur : Str) (n : Node), (treeFm cur n).flatMap evPieces = treePieces n :=
  fun cur n => rendM_tree cur n ▸ (piecesR rendM rendM_decl).1 n cur

theorem pieces_forestM : ∀ (cur : Str) (ns : List Node), (forestFm cur ns).flatMap evPieces = forestPieces ns :=
  fun cur ns => (piecesR rendM rendM_decl).2 ns cur

theorem htmlOk_treeM : ∀ (cur : Str) (n : Node), htmlTreeOk n = true →
      HtmlOkAll false (treeFm cur n) ∧ rawEnd false (treeFm cur n) = false :=
  fun cur n => rendM_tree cur n ▸ (htmlOkR rendM rendM_decl).1 n cur

theorem htmlOk_forestM : ∀ (cur : Str) (ns : List Node), htmlForestOk ns = true →
      HtmlOkAll false (forestFm cur ns) ∧ rawEnd false (forestFm cur ns) = false :=
  fun cur ns => (htmlOkR rendM rendM_decl).2 ns cur

mutual
  /-- xhtml pieces of a tree that mixes namespaces: an element whose namespace differs from the
      default namespace in scope (`cur`) carries `xmlns="…"` (possibly `xmlns=""`) as first attribute -/
  def treePiecesXM (cur : Str) : Node → List Piece
    | .elem t a ks =>
        let at_ := (declM cur t.ns).map (fun p => (p.1, some p.2)) ++ xhtmlAttrToks (fAttrs a)
        if ks.isEmpty then
          (if inTable (emptyElems .xhtml) t.loc then [.tok (.start t.loc at_ true)]
           else [.tok (.start t.loc at_ false), .tok (.end_ t.loc)])
        else .tok (.start t.loc at_ false) :: (forestPiecesXM t.ns ks ++ [.tok (.end_ t.loc)])
    | .leaf (.text x _) => [.chars x]
    | .leaf (.comment x) => [.tok (.comment x)]
    | .leaf _ => []
  def forestPiecesXM (cur : Str) : List Node → List Piece
    | [] => []
    | n :: ns => treePiecesXM cur n ++ forestPiecesXM cur ns
end

mutual
  theorem piecesX_treeM : ∀ (cur : Str) (n : Node), (treeFm cur n).flatMap evPiecesX = treePiecesXM cur n
    | cur, .elem t a ks => by
        rw [treeFm, treePiecesXM]; exact piecesX_node t a ks _ _ _ (xhtmlAttrToks_declM cur t.ns _) (piecesX_forestM t.ns ks)
    | cur, .leaf e => by cases e <;> rfl
  theorem piecesX_forestM : ∀ (cur : Str) (ns : List Node),
      (forestFm cur ns).flatMap evPiecesX = forestPiecesXM cur ns
    | cur, [] => rfl
    | cur, n :: ns => by
        rw [forestFm, forestPiecesXM, List.flatMap_append, piecesX_treeM cur n, piecesX_forestM cur ns]
end

mutual
  /-- every element namespace can stand in an attribute value (no LF / TAB / CR) -/
  def nsValsOk : Node → Bool
    | .elem t _ ks => attrValOkB t.ns && forestNsValsOk ks
    | .leaf _ => true
  def forestNsValsOk : List Node → Bool
    | [] => true
    | n :: ns => nsValsOk n && forestNsValsOk ns
end

theorem xhtmlOk_forestM (o : Opts) : ∀ (cur : Str) (ns : List Node),
    xhtmlForestOk ns = true → forestNsValsOk ns = true → ∀ ev ∈ forestFm cur ns, XhtmlOk o ev := fun cur ns =>
  (node_induction
    (P := fun n => ∀ cur, xhtmlTreeOk n = true → nsValsOk n = true → ∀ ev ∈ treeFm cur n, XhtmlOk o ev)
    (Q := fun ns => ∀ cur, xhtmlForestOk ns = true → forestNsValsOk ns = true → ∀ ev ∈ forestFm cur ns, XhtmlOk o ev)
    (fun t a ks ih cur h hv => by
      simp only [xhtmlTreeOk, Bool.and_eq_true] at h
      simp only [nsValsOk, Bool.and_eq_true] at hv
      rw [treeFm]
      exact xhtmlOk_node o t a ks _ _ (declM_ok cur t.ns hv.1) h.1.1 h.1.2 (ih t.ns h.2 hv.2))
    (fun e _ h _ => xhtmlOk_leaf o e h) (fun _ _ _ => nofun)
    (fun n ns ihn ihs cur h hv ev hev => by
      simp only [xhtmlForestOk, Bool.and_eq_true] at h
      simp only [forestNsValsOk, Bool.and_eq_true] at hv
      rw [forestFm, List.mem_append] at hev
      exact hev.elim (ihn cur h.1 hv.1 ev) (ihs cur h.2 hv.2 ev))).2 ns cur

/-- on a forest in one namespace `u` the mixed-namespace pieces are the one-namespace pieces: the flattenings agree -/
theorem forestPiecesXM_uniform (u : Str) (ns : List Node) (h : forestUniformNs u ns = true) (cur : Str) (s : Bool)
    (hd : declM cur u = declAttr u s) : forestPiecesXM cur ns = forestPiecesXU u s ns := by
  rw [← piecesX_forestM, ← piecesX_forestU, (treeFm_uniform u).2 ns h cur s hd]

theorem nsValsOk_nodewise : Nodewise (fun t _ => attrValOkB t.ns) (fun _ => true) nsValsOk forestNsValsOk :=
  ⟨fun _ _ _ => rfl, fun _ => rfl, rfl, fun _ _ => rfl, fun _ _ => rfl⟩

theorem forestNsValsOk_uniform (u : Str) (hu : attrValOkB u = true) (ns : List Node) (h : forestUniformNs u ns = true) :
    forestNsValsOk ns = true :=
  ((uniformNs_nodewise u).mono nsValsOk_nodewise (fun t _ ht => by
    rw [Bool.and_eq_true, beq_iff_eq] at ht; rw [ht.1]; exact hu) fun _ _ => rfl).2 ns h

end Genshi.Reader
