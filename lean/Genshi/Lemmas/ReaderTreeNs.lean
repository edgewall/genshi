/-
  Helper lemmas for C08: the round trips over forests whose elements are all in one namespace
  (XHTML): the `xmlns` declaration the flattener adds on outermost elements is invisible under
  html (instances of `piecesR`, `htmlOkR` at `rendU`) and an ordinary attribute for the XML tokenizer.
  Forests without namespaces are the case of the empty namespace.
-/
import Genshi.Lemmas.ReaderTree
namespace Genshi.Reader
open Genshi Genshi.Output

theorem pieces_treeU (u : Str) : ∀ (s : Bool) (n : Node), (treeFu u s n).flatMap evPieces = treePieces n :=
  fun s n => rendU_tree u s n ▸ (piecesR rendU rendU_decl).1 n (u, s)

theorem pieces_forestU (u : Str) : ∀ (s : Bool) (ns : List Node), (forestFu u s ns).flatMap evPieces = forestPieces ns :=
  fun s ns => (piecesR rendU rendU_decl).2 ns (u, s)

theorem htmlOk_treeU (u : Str) : ∀ (s : Bool) (n : Node), htmlTreeOk n = true →
      HtmlOkAll false (treeFu u s n) ∧ rawEnd false (treeFu u s n) = false :=
  fun s n => rendU_tree u s n ▸ (htmlOkR rendU rendU_decl).1 n (u, s)

theorem xhtmlAttrToks_decl (u : Str) (s : Bool) (a : FAttrs) :
    xhtmlAttrToks (declAttr u s ++ a) = (declAttr u s).map (fun p => (p.1, some p.2)) ++ xhtmlAttrToks a := by
  rw [declAttr_eq_declM]; exact xhtmlAttrToks_declM _ u a

mutual
  /-- xhtml pieces of a tree in namespace `u`: outermost elements carry `xmlns="u"` -/
  def treePiecesXU (u : Str) (s : Bool) : Node → List Piece
    | .elem t a ks =>
        let at_ := (declAttr u s).map (fun p => (p.1, some p.2)) ++ xhtmlAttrToks (fAttrs a)
        if ks.isEmpty then
          (if inTable (emptyElems .xhtml) t.loc then [.tok (.start t.loc at_ true)]
           else [.tok (.start t.loc at_ false), .tok (.end_ t.loc)])
        else .tok (.start t.loc at_ false) :: (forestPiecesXU u true ks ++ [.tok (.end_ t.loc)])
    | .leaf (.text x _) => [.chars x]
    | .leaf (.comment x) => [.tok (.comment x)]
    | .leaf _ => []
  def forestPiecesXU (u : Str) (s : Bool) : List Node → List Piece
    | [] => []
    | n :: ns => treePiecesXU u s n ++ forestPiecesXU u s ns
end

mutual
  theorem piecesX_treeU (u : Str) : ∀ (s : Bool) (n : Node), (treeFu u s n).flatMap evPiecesX = treePiecesXU u s n
    | s, .elem t a ks => by
        rw [treeFu, treePiecesXU]; exact piecesX_node t a ks _ _ _ (xhtmlAttrToks_decl u s _) (piecesX_forestU u true ks)
    | s, .leaf e => by cases e <;> rfl
  theorem piecesX_forestU (u : Str) : ∀ (s : Bool) (ns : List Node),
      (forestFu u s ns).flatMap evPiecesX = forestPiecesXU u s ns
    | s, [] => rfl
    | s, n :: ns => by
        rw [forestFu, forestPiecesXU, List.flatMap_append, piecesX_treeU u s n, piecesX_forestU u s ns]
end

theorem declAttr_ok (u : Str) (s : Bool) (hu : attrValOkB u = true) : XAttrsOk (declAttr u s) := by
  rw [declAttr_eq_declM]; exact declM_ok _ u hu

theorem piecesXU_nil : (∀ n s, treePiecesXU [] s n = treePiecesX n) ∧ ∀ ns s, forestPiecesXU [] s ns = forestPiecesX ns := by
  refine node_induction ?_ ?_ ?_ ?_
  · intro t a ks ih s
    simp only [treePiecesXU, treePiecesX, ih true, show declAttr [] s = [] from rfl, List.map_nil, List.nil_append]
  · intro e s; cases e <;> rfl
  · intro s; rfl
  · intro n ns ihn ihs s; simp only [forestPiecesXU, forestPiecesX, ihn s, ihs s]

theorem forestPiecesXU_nil (s : Bool) (ns : List Node) : forestPiecesXU [] s ns = forestPiecesX ns := piecesXU_nil.2 ns s

/-! A forest without namespaces is a forest in the empty namespace (`treeFu_nil`): nothing is declared. -/

theorem pieces_tree : ∀ n : Node, (treeF n).flatMap evPieces = treePieces n := fun n => by
  rw [← treeFu_nil.1 n false]; exact pieces_treeU [] false n

theorem htmlOk_tree : ∀ n : Node, htmlTreeOk n = true →
      HtmlOkAll false (treeF n) ∧ rawEnd false (treeF n) = false := fun n h => by
  rw [← treeFu_nil.1 n false]; exact htmlOk_treeU [] false n h

theorem piecesX_tree : ∀ n : Node, (treeF n).flatMap evPiecesX = treePiecesX n := fun n => by
  rw [← treeFu_nil.1 n false, ← piecesXU_nil.1 n false]; exact piecesX_treeU [] false n

end Genshi.Reader
