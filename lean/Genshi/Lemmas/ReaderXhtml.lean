/-
  Helper lemmas for C08: the tokenizer in XML mode on the start tags the xhtml serializer
  writes, and the specification `xhtmlEv` of what one event is read back as when there are no
  CDATA sections (the reader is in character-data mode between events), with its hypotheses
  `XhtmlOk`.  The simulation is proved for the extension `xhtmlEvP` in Lemmas/ReaderPrologSim.
-/
import Genshi.Lemmas.ReaderHtml
namespace Genshi.Reader
open Genshi Genshi.Escape Genshi.Output

/-- what the xhtml serializer's attribute loop means (specification): a boolean attribute is
    written `name="name"` whatever its value; `xml:lang` is accompanied by `lang` when there is
    none; `xml:space` is dropped; everything else verbatim -/
def xhtmlAttrTok (all : FAttrs) (p : Str × Str) : List (Str × Option Str) :=
  if inTable (booleanAttrs .xhtml) p.1 then [(p.1, some p.1)]
  else if p.1 == xmlLang && !hasAttr all lang then [(lang, some p.2), (p.1, some p.2)]
  else if p.1 == xmlSpace then []
  else [(p.1, some p.2)]

def xhtmlAttrToks (a : FAttrs) : List (Str × Option Str) := a.flatMap (xhtmlAttrTok a)

/-- attribute names are names and, under XML, values hold no LF / TAB / CR -/
def XAttrsOk (a : FAttrs) : Prop := ∀ p ∈ a, NameOk p.1 ∧ AttrValOk true p.2

theorem attrValOk_of_name {n : Str} (h : NameOk n) : AttrValOk true n := by
  intro _
  have := h.2
  simp only [List.all_eq_true] at this ⊢
  intro c hc
  have hs := (nameChar_facts (this c hc)).1
  simp only [isSpace, Bool.or_eq_false_iff] at hs
  simp [attrWs, hs.1.1.2, hs.1.2, hs.2]

theorem tagSt_xhtmlAttr {st : RSt} {nm : Str} {at_ : List (Str × Option Str)} {tk : List Tok}
    (h : TagSt st nm at_ tk) (all : FAttrs) (p : Str × Str) (hn : NameOk p.1) (hv : AttrValOk true p.2) :
    TagSt (feed true st (xhtmlAttr all p)) nm ((xhtmlAttrTok all p).reverse ++ at_) tk := by
  unfold xhtmlAttr xhtmlAttrTok
  by_cases hb : inTable (booleanAttrs .xhtml) p.1 = true
  · simp only [hb, ↓reduceIte, attrOut, escapePy_eq_spec]
    exact tagSt_quoted true h p.1 p.1 hn (attrValOk_of_name hn)
  · simp only [hb, Bool.false_eq_true, ↓reduceIte]
    by_cases hl : (p.1 == xmlLang && !hasAttr all lang) = true
    · simp only [hl, ↓reduceIte, attrOut, escapePy_eq_spec]
      rw [feed_append]
      have h1 := tagSt_quoted true h lang p.2 nameOk_lang hv
      have h2 := tagSt_quoted true h1 p.1 p.2 hn hv
      simpa using h2
    · simp only [hl, Bool.false_eq_true, ↓reduceIte]
      by_cases hx : (p.1 == xmlSpace) = true
      · simpa [hx, feed_nil] using h
      · simp only [hx, Bool.false_eq_true, ↓reduceIte, attrOut, escapePy_eq_spec]
        exact tagSt_quoted true h p.1 p.2 hn hv

theorem tagSt_xhtmlOpen (buf : Str) (toks : List Tok) (t : Str) (a : FAttrs)
    (ht : NameOk t) (ha : XAttrsOk a) :
    TagSt (feed true (mk .data buf toks) ('<' :: t ++ xhtmlAttrs a)) t (xhtmlAttrToks a).reverse
      (flushToks buf toks) := by
  have h0 := tagSt_open true buf toks t ht
  have h1 := tagSt_flatMap true (xhtmlAttr a) (xhtmlAttrTok a) a
    (fun p hp _ _ h => tagSt_xhtmlAttr h a p (ha p hp).1 (ha p hp).2) h0
  rw [show '<' :: t ++ xhtmlAttrs a = ('<' :: t) ++ xhtmlAttrs a by simp, feed_append, xhtmlAttrs]
  simpa [xhtmlAttrToks] using h1

/-- specification: the effect of one (filtered) event of an xhtml serialisation on what the
    tokenizer reads back; `raw` is never set (no CDATA) -/
def xhtmlEv (r : RS) : FEv → RS
  | .start t a => ⟨false, [], .start t (xhtmlAttrToks a) false :: flushToks r.buf r.toks⟩
  | .empty t a =>
      if inTable (emptyElems .xhtml) t then
        ⟨false, [], .start t (xhtmlAttrToks a) true :: flushToks r.buf r.toks⟩
      else ⟨false, [], .end_ t :: .start t (xhtmlAttrToks a) false :: flushToks r.buf r.toks⟩
  | .end_ t => ⟨false, [], .end_ t :: flushToks r.buf r.toks⟩
  | .text s _ => { r with buf := r.buf ++ s }
  | .comment s => ⟨false, [], .comment s :: flushToks r.buf r.toks⟩
  | _ => r

/-- the hypotheses of the xhtml round trip, per event -/
def XhtmlOk (o : Opts) : FEv → Prop
  | .start t a => NameOk t ∧ XAttrsOk a
  | .empty t a => NameOk t ∧ XAttrsOk a
  | .end_ t => NameOk t
  | .text _ safe => safe = false
  | .comment s => commentOk s = true
  | .pi _ _ => False
  | .doctype _ _ _ => False
  | .xmlDecl _ _ _ => o.dropXmlDecl = true
  | .startCdata => False
  | .endCdata => False
  | _ => True

theorem startOut_xhtml_start (t : Str) (a : FAttrs) :
    startOut .xhtml false t a = ('<' :: t ++ xhtmlAttrs a) ++ ['>'] := by simp [startOut]

theorem startOut_xhtml_empty (t : Str) (a : FAttrs) :
    startOut .xhtml true t a =
      ('<' :: t ++ xhtmlAttrs a) ++
        (if inTable (emptyElems .xhtml) t then [' ', '/', '>'] else '>' :: endTag t) := by
  by_cases h : inTable (emptyElems .xhtml) t = true <;> simp [startOut, h]

def xhtmlExpected (evs : List FEv) : List Tok :=
  let r := evs.foldl xhtmlEv {}
  (flushToks r.buf r.toks).reverse

end Genshi.Reader
