/-
  Helper lemmas for C08: CDATA sections under the XML tokenizer (it keeps CDATA content in
  the pending character data, as expat with merged text does) and the specification `xhtmlEvC`
  of the xhtml round trip with them (abstract reader state `RC`).
-/
import Genshi.Lemmas.ReaderXhtml
namespace Genshi.Reader
open Genshi Genshi.Escape Genshi.Output

/-- text that can stand in a CDATA section when `b` closing brackets precede it: no `]]>` arises -/
def cdataSafe : Nat → Str → Bool
  | _, [] => true
  | b, c :: cs =>
      if c == '>' then (b != 2 && cdataSafe 0 cs)
      else if c == ']' then cdataSafe (if b == 2 then 2 else b + 1) cs
      else cdataSafe 0 cs

/-- trailing closing brackets (capped at 2) after reading the text -/
def cdataB : Nat → Str → Nat
  | b, [] => b
  | b, c :: cs => if c == ']' then cdataB (if b == 2 then 2 else b + 1) cs else cdataB 0 cs

theorem cdataSafe_mono (s : Str) : ∀ b : Nat, b ≤ 2 → cdataSafe 2 s = true → cdataSafe b s = true := by
  induction s with
  | nil => intro b _ _; rfl
  | cons c cs ih =>
    intro b hb h
    simp only [cdataSafe] at h ⊢
    by_cases h1 : (c == '>') = true
    · simp [h1] at h
    · simp only [h1, Bool.false_eq_true, ↓reduceIte] at h ⊢
      by_cases h2 : (c == ']') = true
      · simp only [h2, ↓reduceIte, BEq.rfl] at h ⊢
        by_cases hb2 : b = 2
        · subst hb2; simpa using h
        · have : (b == 2) = false := by simpa using hb2
          simp only [this, Bool.false_eq_true, ↓reduceIte]
          exact ih (b + 1) (by omega) h
      · simpa [h2] using h

theorem cdataB_le (s : Str) : ∀ b : Nat, b ≤ 2 → cdataB b s ≤ 2 := by
  induction s with
  | nil => intro b hb; simpa [cdataB] using hb
  | cons c cs ih =>
    intro b hb
    simp only [cdataB]
    split
    · split
      · exact ih 2 (by omega)
      · rename_i h; exact ih (b + 1) (by have : b ≠ 2 := by simpa using h
                                         omega)
    · exact ih 0 (by omega)

theorem feed_cdata (s : Str) (b : Nat) (st : RSt) (hm : st.mode = .cdata b) (h : cdataSafe b s = true) :
    feed true st s = { st with mode := .cdata (cdataB b s), buf := st.buf ++ s } := by
  obtain ⟨b', hp, hf⟩ := feed_scan true Mode.cdata (fun a w => cdataSafe a w = true ∧ cdataB a w = cdataB b s)
    (fun a c cs st hm h => by
      obtain ⟨h1, h2⟩ := h
      simp only [cdataSafe] at h1
      simp only [cdataB] at h2
      by_cases hg : (c == '>') = true
      · simp only [hg, ↓reduceIte, Bool.and_eq_true, bne_iff_ne, ne_eq] at h1
        have hc : (c == ']') = false := by
          have : c = '>' := by simpa using hg
          subst this; decide
        rw [if_neg (by simp [hc])] at h2
        exact ⟨0, ⟨h1.2, h2⟩, by simp [step, hm, hg, hc, show (a == 2) = false by simpa using h1.1]⟩
      · rw [if_neg hg] at h1
        by_cases hc : (c == ']') = true
        · rw [if_pos hc] at h1 h2
          exact ⟨_, ⟨h1, h2⟩, by simp [step, hm, hg, hc]⟩
        · rw [if_neg hc] at h1 h2
          exact ⟨0, ⟨h1, h2⟩, by simp [step, hm, hg, hc]⟩) s b st hm ⟨h, rfl⟩
  rw [hf, show b' = cdataB b s from hp.2]

theorem feed_cdataOpen (buf : Str) (toks : List Tok) :
    feed true (mk .data buf toks) cdataOpen = mk (.cdata 0) buf toks := by
  rw [show cdataOpen = ('<' :: '!' :: ['[', 'C', 'D', 'A', 'T', 'A']) ++ ['['] from rfl, feed_append,
    feed_bang true buf toks kwCdata _ ['['] (.inr (.inr ⟨rfl, rfl⟩)) (by simp) rfl]
  simp [feed, step, mk, kwComment, kwDoctype, kwCdata]

theorem take_append_two {α : Type} (l : List α) (a b : α) : (l ++ [a, b]).take ((l ++ [a, b]).length - 2) = l := by
  simp

theorem feed_cdataClose (b : Nat) (hb : b ≤ 2) (buf : Str) (toks : List Tok) :
    feed true (mk (.cdata b) buf toks) cdataClose = mk .data buf toks := by
  have h2 : cdataSafe b [']', ']'] = true ∧ cdataB b [']', ']'] = 2 := by
    have : b = 0 ∨ b = 1 ∨ b = 2 := by omega
    rcases this with rfl | rfl | rfl <;> decide
  rw [show cdataClose = [']', ']'] ++ ['>'] from rfl, feed_append, feed_cdata _ b _ rfl h2.1, h2.2]
  simp [feed, step, mk]

/-- abstract reader state: inside a CDATA section (with the bracket count) or not -/
structure RC where
  cd : Option Nat := none
  buf : Str := []
  toks : List Tok := []
  deriving Repr, DecidableEq

def RC.toRSt (r : RC) : RSt :=
  Genshi.Reader.mk (match r.cd with | none => Mode.data | some b => Mode.cdata b) r.buf r.toks

def RC.toRS (r : RC) : RS := ⟨false, r.buf, r.toks⟩
def RC.ofRS (r : RS) : RC := ⟨none, r.buf, r.toks⟩

/-- specification: one (filtered) event of an xhtml serialisation, CDATA sections included -/
def xhtmlEvC (r : RC) (ev : FEv) : RC :=
  match r.cd with
  | none =>
      match ev with
      | .startCdata => { r with cd := some 0 }
      | _ => RC.ofRS (xhtmlEv r.toRS ev)
  | some b =>
      match ev with
      | .text s _ => { r with cd := some (cdataB b s), buf := r.buf ++ s }
      | .endCdata => { r with cd := none }
      | _ => r

/-- hypotheses per event: outside CDATA as `XhtmlOk` plus START_CDATA; inside only plain text that
    cannot close the section, and END_CDATA -/
def XhtmlOkC (o : Opts) (inCd : Bool) (ev : FEv) : Prop :=
  if inCd then
    (match ev with
     | .text s safe => safe = false ∧ cdataSafe 2 s = true
     | .endCdata => True
     | _ => False)
  else
    (match ev with
     | .startCdata => True
     | _ => XhtmlOk o ev)

theorem toRSt_none (buf : Str) (toks : List Tok) : RC.toRSt ⟨none, buf, toks⟩ = mk .data buf toks := rfl
theorem toRSt_some (b : Nat) (buf : Str) (toks : List Tok) : RC.toRSt ⟨some b, buf, toks⟩ = mk (.cdata b) buf toks := rfl

theorem toRSt_ofRS (raw : Bool) (buf : Str) (toks : List Tok) : (RC.ofRS ⟨raw, buf, toks⟩).toRSt = mk .data buf toks := rfl

theorem tokens_of_feedC {s : Str} {r : RC} (h : feed true {} s = r.toRSt) (hend : r.cd = none) :
    tokens true s = some (flushToks r.buf r.toks).reverse := by
  obtain ⟨rcd, rbuf, rtoks⟩ := r
  subst hend
  exact tokens_of_feed h

/-- inside a CDATA section after this event? -/
def cdAfter (inCd : Bool) : FEv → Bool
  | .startCdata => true
  | .endCdata => false
  | _ => inCd

/-- the hypotheses along the stream -/
def XhtmlOkAllC (o : Opts) : Bool → List FEv → Prop
  | _, [] => True
  | inCd, ev :: rest => XhtmlOkC o inCd ev ∧ XhtmlOkAllC o (cdAfter inCd ev) rest

/-- the tokens the XML tokenizer must deliver, CDATA sections included -/
def xhtmlExpectedC (evs : List FEv) : List Tok :=
  let r := evs.foldl xhtmlEvC {}
  (flushToks r.buf r.toks).reverse

end Genshi.Reader
