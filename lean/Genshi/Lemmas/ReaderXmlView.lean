/-
  Helper lemmas for C08: namespace resolution (`xmlView`, expat's view) on the
  tokens read back from an xhtml serialisation whose elements are all in one
  namespace `u`: every element name resolves to `⟨u, local⟩`.
-/
import Genshi.Lemmas.ReaderTreeNs
namespace Genshi.Reader
open Genshi Genshi.Output

def textTok (buf : Str) : List Tok := if buf.isEmpty then [] else [.text buf]

/-- pieces to tokens, left to right: `buf` is the character data collected so far -/
def mergeGo (buf : Str) : List Piece → List Tok
  | [] => textTok buf
  | .chars s :: ps => mergeGo (buf ++ s) ps
  | .tok t :: ps => textTok buf ++ t :: mergeGo [] ps

theorem flushToks_reverse (buf : Str) (toks : List Tok) : (flushToks buf toks).reverse = toks.reverse ++ textTok buf := by
  unfold flushToks textTok
  by_cases h : buf.isEmpty = true <;> simp [h]

theorem assemble_go (ps : List Piece) : ∀ (buf : Str) (toks : List Tok),
    (flushToks (ps.foldl applyPiece (buf, toks)).1 (ps.foldl applyPiece (buf, toks)).2).reverse =
      toks.reverse ++ mergeGo buf ps := by
  induction ps with
  | nil => intro buf toks; simp [mergeGo, flushToks_reverse]
  | cons p ps ih =>
    intro buf toks
    cases p with
    | tok t =>
      simp only [List.foldl_cons, applyPiece, mergeGo]
      rw [ih]; simp [flushToks_reverse]
    | chars s =>
      simp only [List.foldl_cons, applyPiece, mergeGo]
      rw [ih]

theorem assemble_eq_merge (ps : List Piece) : assemble ps = mergeGo [] ps := by
  have := assemble_go ps [] []
  simpa [assemble] using this

/-- how an XML declaration starts between `<?` and `?>` -/
def xmlDeclPfx : Str := ['x', 'm', 'l', ' ']

/-- the token in expat's vocabulary when the default namespace is `u` everywhere; a processing
    instruction is split into target and data (white space between them dropped), the XML
    declaration and the DOCTYPE are parsed into their fields -/
def xmlMapTok (u : Str) : Tok → List XTok
  | .start n a sc =>
      if sc then [.start ⟨u, n⟩ ((resolveAttrs a).getD []), .end_ ⟨u, n⟩]
      else [.start ⟨u, n⟩ ((resolveAttrs a).getD [])]
  | .end_ n => [.end_ ⟨u, n⟩]
  | .text s => [.text s]
  | .comment s => [.comment s]
  | .pi s =>
      if xmlDeclPfx.isPrefixOf s then (parseXmlDecl s).toList
      else [.pi (takeUntil isSpace s).1 ((takeUntil isSpace s).2.dropWhile isSpace)]
  | .doctype s => (parseDoctype s).toList.map fun x => .doctype x.1 x.2.1 x.2.2

/-- the attributes of a start tag at depth `d` fit a document whose only namespace is `u`:
    the outermost elements declare it (unless it is empty), nobody declares anything else, and
    every attribute name resolves -/
def attrsOkX (u : Str) (d : Nat) (a : List (Str × Option Str)) : Bool :=
  (match lookupAttr xmlnsName a with
   | some (some v) => v == u
   | some none => false
   | none => d != 0 || u.isEmpty) &&
  (resolveAttrs a).isSome

/-- the pieces are well scoped from depth `d` on: no character data outside elements, end tags only
    for open elements, start tags as `attrsOkX`, PI and DOCTYPE tokens only with literals that
    `parseXmlDecl` / `parseDoctype` read -/
def scopedP (u : Str) : Nat → List Piece → Bool
  | _, [] => true
  | d, .chars _ :: ps => d != 0 && scopedP u d ps
  | d, .tok (.start n a sc) :: ps =>
      !(n.any (· == ':')) && attrsOkX u d a && scopedP u (if sc then d else d + 1) ps
  | d, .tok (.end_ _) :: ps => d != 0 && scopedP u (d - 1) ps
  | d, .tok (.text _) :: ps => d != 0 && scopedP u d ps
  | d, .tok (.comment _) :: ps => scopedP u d ps
  | d, .tok (.pi s) :: ps => (!xmlDeclPfx.isPrefixOf s || (parseXmlDecl s).isSome) && scopedP u d ps
  | d, .tok (.doctype s) :: ps => (parseDoctype s).isSome && scopedP u d ps

def textTokQ (buf : Str) : List XTok := if buf.isEmpty then [] else [.text buf]

theorem textTok_flatMap (u buf : Str) : (textTok buf).flatMap (xmlMapTok u) = textTokQ buf := by
  unfold textTok textTokQ; split <;> rfl

/-- pending character data in front of the rest, under any scope -/
theorem xmlView_textTokS (sc : List Str) (b : Str) (hb : b ≠ [] → sc ≠ []) (rest : List Tok) :
    xmlView sc (textTok b ++ rest) = (xmlView sc rest).map (fun r => textTokQ b ++ r) := by
  unfold textTok textTokQ
  by_cases h : b.isEmpty = true
  · simp only [h, ↓reduceIte, List.nil_append]
    cases xmlView sc rest <;> simp
  · have hne : b ≠ [] := by simpa using h
    have hsc := hb hne
    cases sc with
    | nil => exact absurd rfl hsc
    | cons d outer =>
      simp only [h, Bool.false_eq_true, ↓reduceIte, List.singleton_append, xmlView, List.isEmpty_cons]

theorem replicate_ne_nil (u : Str) {d : Nat} (hd : d ≠ 0) : List.replicate d u ≠ [] := by
  cases d with
  | zero => exact absurd rfl hd
  | succ k => exact List.cons_ne_nil _ _

theorem xmlView_text (u : Str) (d : Nat) (hd : d ≠ 0) (s : Str) (rest : List Tok) :
    xmlView (List.replicate d u) (.text s :: rest) =
      (xmlView (List.replicate d u) rest).map (fun r => .text s :: r) := by
  cases d with
  | zero => exact absurd rfl hd
  | succ k => simp [xmlView, List.replicate_succ]

theorem xmlView_textTok (u : Str) (d : Nat) (buf : Str) (hb : buf ≠ [] → d ≠ 0) (rest : List Tok) :
    xmlView (List.replicate d u) (textTok buf ++ rest) =
      (xmlView (List.replicate d u) rest).map (fun r => (textTok buf).flatMap (xmlMapTok u) ++ r) := by
  rw [xmlView_textTokS _ buf (fun h => replicate_ne_nil u (hb h)), textTok_flatMap]

theorem xmlView_start (u : Str) (d : Nat) (n : Str) (a : List (Str × Option Str)) (sc : Bool) (rest : List Tok)
    (hn : (n.any (· == ':')) = false) (ha : attrsOkX u d a = true) :
    xmlView (List.replicate d u) (.start n a sc :: rest) =
      (xmlView (List.replicate (if sc then d else d + 1) u) rest).map
        (fun r => xmlMapTok u (.start n a sc) ++ r) := by
  simp only [attrsOkX, Bool.and_eq_true] at ha
  obtain ⟨hx, hr⟩ := ha
  obtain ⟨ra, hra⟩ := Option.isSome_iff_exists.mp hr
  have hdflt : dfltNs (List.replicate d u) a = u := by
    unfold dfltNs
    cases hl : lookupAttr xmlnsName a with
    | none =>
      simp only [hl, Bool.or_eq_true, bne_iff_ne, ne_eq] at hx ⊢
      cases d with
      | zero =>
        rcases hx with h | h
        · exact absurd rfl h
        · simp [List.replicate]; exact (List.isEmpty_iff.mp h)
      | succ k => simp [List.replicate_succ]
    | some v =>
      cases v with
      | none => simp [hl] at hx
      | some w => simp only [hl, beq_iff_eq] at hx ⊢; exact hx
  simp only [xmlView, hn, Bool.false_eq_true, ↓reduceIte, hdflt, hra, xmlMapTok, Option.getD_some]
  cases sc with
  | true =>
    simp only [↓reduceIte]
    cases xmlView (List.replicate d u) rest <;> simp
  | false =>
    simp only [Bool.false_eq_true, ↓reduceIte]
    have : u :: List.replicate d u = List.replicate (d + 1) u := by simp [List.replicate_succ]
    rw [this]
    cases xmlView (List.replicate (d + 1) u) rest <;> simp

theorem xmlView_end (u : Str) (d : Nat) (hd : d ≠ 0) (n : Str) (rest : List Tok) :
    xmlView (List.replicate d u) (.end_ n :: rest) =
      (xmlView (List.replicate (d - 1) u) rest).map (fun r => xmlMapTok u (.end_ n) ++ r) := by
  cases d with
  | zero => exact absurd rfl hd
  | succ k =>
    simp only [List.replicate_succ, xmlView, Nat.add_sub_cancel, xmlMapTok]
    cases xmlView (List.replicate k u) rest <;> simp

theorem xmlView_comment (u : Str) (d : Nat) (s : Str) (rest : List Tok) :
    xmlView (List.replicate d u) (.comment s :: rest) =
      (xmlView (List.replicate d u) rest).map (fun r => xmlMapTok u (.comment s) ++ r) := by
  simp only [xmlView, xmlMapTok]
  cases xmlView (List.replicate d u) rest <;> simp

theorem xmlView_pi (u : Str) (d : Nat) (s : Str) (rest : List Tok)
    (h : (!xmlDeclPfx.isPrefixOf s || (parseXmlDecl s).isSome) = true) :
    xmlView (List.replicate d u) (.pi s :: rest) =
      (xmlView (List.replicate d u) rest).map (fun r => xmlMapTok u (.pi s) ++ r) := by
  by_cases hp : xmlDeclPfx.isPrefixOf s = true
  · have hs : (parseXmlDecl s).isSome = true := by simpa [hp] using h
    obtain ⟨x, hx⟩ := Option.isSome_iff_exists.mp hs
    have hp' : List.isPrefixOf ['x', 'm', 'l', ' '] s = true := hp
    simp only [xmlView, hp', ↓reduceIte, hx, xmlMapTok, hp, Option.toList_some]
    cases xmlView (List.replicate d u) rest <;> simp
  · have hp2 : xmlDeclPfx.isPrefixOf s = false := Bool.eq_false_iff.mpr hp
    have hp' : List.isPrefixOf ['x', 'm', 'l', ' '] s = false := hp2
    simp only [xmlView, hp', Bool.false_eq_true, ↓reduceIte, xmlMapTok, hp2]
    cases xmlView (List.replicate d u) rest <;> simp

theorem xmlView_doctype (u : Str) (d : Nat) (s : Str) (rest : List Tok) (h : (parseDoctype s).isSome = true) :
    xmlView (List.replicate d u) (.doctype s :: rest) =
      (xmlView (List.replicate d u) rest).map (fun r => xmlMapTok u (.doctype s) ++ r) := by
  obtain ⟨x, hx⟩ := Option.isSome_iff_exists.mp h
  obtain ⟨n, p, q⟩ := x
  simp only [xmlView, hx, xmlMapTok, Option.toList_some, List.map_cons, List.map_nil]
  cases xmlView (List.replicate d u) rest <;> simp

theorem xmlView_mergeGo (u : Str) (ps : List Piece) : ∀ (d : Nat) (buf : Str), (buf ≠ [] → d ≠ 0) →
    scopedP u d ps = true →
    xmlView (List.replicate d u) (mergeGo buf ps) = some ((mergeGo buf ps).flatMap (xmlMapTok u)) := by
  induction ps with
  | nil =>
    intro d buf hb _
    have := xmlView_textTok u d buf hb []
    simp only [List.append_nil] at this
    simp [mergeGo, this, xmlView]
  | cons p ps ih =>
    intro d buf hb h
    cases p with
    | chars s =>
      simp only [scopedP, Bool.and_eq_true, bne_iff_ne, ne_eq] at h
      simp only [mergeGo]
      exact ih d (buf ++ s) (fun _ => h.1) h.2
    | tok t =>
      simp only [mergeGo]
      rw [xmlView_textTok u d buf hb]
      cases t with
      | start n a sc =>
        simp only [scopedP, Bool.and_eq_true, Bool.not_eq_true'] at h
        obtain ⟨⟨hn, ha⟩, hrest⟩ := h
        rw [xmlView_start u d n a sc _ hn ha, ih _ [] (by intro hh; exact absurd rfl hh) hrest]
        simp [List.flatMap_append]
      | end_ n =>
        simp only [scopedP, Bool.and_eq_true, bne_iff_ne, ne_eq] at h
        rw [xmlView_end u d h.1, ih _ [] (by intro hh; exact absurd rfl hh) h.2]
        simp [List.flatMap_append]
      | text s =>
        simp only [scopedP, Bool.and_eq_true, bne_iff_ne, ne_eq] at h
        rw [xmlView_text u d h.1, ih _ [] (by intro hh; exact absurd rfl hh) h.2]
        simp [List.flatMap_append, xmlMapTok]
      | comment s =>
        simp only [scopedP] at h
        rw [xmlView_comment u d, ih _ [] (by intro hh; exact absurd rfl hh) h]
        simp [List.flatMap_append]
      | pi s =>
        simp only [scopedP, Bool.and_eq_true] at h
        rw [xmlView_pi u d s _ h.1, ih _ [] (by intro hh; exact absurd rfl hh) h.2]
        simp [List.flatMap_append]
      | doctype s =>
        simp only [scopedP, Bool.and_eq_true] at h
        rw [xmlView_doctype u d s _ h.1, ih _ [] (by intro hh; exact absurd rfl hh) h.2]
        simp [List.flatMap_append]

theorem xmlView_scoped (u : Str) (ps : List Piece) (h : scopedP u 0 ps = true) :
    xmlView [] (assemble ps) = some ((assemble ps).flatMap (xmlMapTok u)) := by
  rw [assemble_eq_merge]
  exact xmlView_mergeGo u ps 0 [] (fun h => absurd rfl h) h

/-- a flattened attribute name expat resolves: not `xmlns`, and either `xml:…` or without colon -/
def xNameOk (k : Str) : Bool := k != xmlnsName && (xmlPrefix.isPrefixOf k || !(k.any (· == ':')))

def resolvable (a : List (Str × Option Str)) : Bool := a.all fun p => p.2.isSome && xNameOk p.1

theorem lookupAttr_none_of_resolvable (a : List (Str × Option Str)) (h : resolvable a = true) :
    lookupAttr xmlnsName a = none := by
  induction a with
  | nil => rfl
  | cons p ps ih =>
    simp only [resolvable, List.all_cons, xNameOk, Bool.and_eq_true, bne_iff_ne, ne_eq] at h
    rw [lookupAttr, if_neg h.1.2.1]
    exact ih h.2

theorem resolveAttrs_isSome (a : List (Str × Option Str)) (h : resolvable a = true) :
    (resolveAttrs a).isSome = true := by
  induction a with
  | nil => rfl
  | cons p ps ih =>
    obtain ⟨k, v⟩ := p
    simp only [resolvable, List.all_cons, Bool.and_eq_true] at h
    obtain ⟨⟨hv, hk⟩, hps⟩ := h
    have ih' := ih (by simpa [resolvable] using hps)
    obtain ⟨w, hw⟩ := Option.isSome_iff_exists.mp hv
    obtain ⟨r, hr⟩ := Option.isSome_iff_exists.mp ih'
    subst hw
    simp only [xNameOk, Bool.and_eq_true, bne_iff_ne, ne_eq, Bool.or_eq_true, Bool.not_eq_true'] at hk
    simp only [resolveAttrs, hk.1, ↓reduceIte, hr]
    by_cases hp : xmlPrefix.isPrefixOf k = true
    · rw [if_pos hp]; rfl
    · rw [if_neg hp, hk.2.resolve_left hp]; rfl

/-- a declaration in front of attributes that resolve: expat finds it under `xmlns` (or nothing, when there
    is none) and resolves the rest as it stands -/
theorem lookupAttr_declM (cur v : Str) (x : List (Str × Option Str)) (hx : resolvable x = true) :
    lookupAttr xmlnsName ((declM cur v).map (fun p => (p.1, some p.2)) ++ x) =
      if v = cur then none else some (some v) := by
  unfold declM
  split
  · exact lookupAttr_none_of_resolvable x hx
  · rfl

theorem resolveAttrs_declM (cur v : Str) (x : List (Str × Option Str)) :
    resolveAttrs ((declM cur v).map (fun p => (p.1, some p.2)) ++ x) = resolveAttrs x := by
  unfold declM
  split <;> rfl

theorem resolvable_xhtmlAttrTok (fa : FAttrs) (p : Str × Str) (h : xNameOk p.1 = true) :
    resolvable (xhtmlAttrTok fa p) = true := by
  have hlang : xNameOk lang = true := by decide
  unfold xhtmlAttrTok
  by_cases h1 : inTable (booleanAttrs .xhtml) p.1 = true
  · rw [if_pos h1]; simp [resolvable, h]
  · rw [if_neg h1]
    by_cases h2 : (p.1 == xmlLang && !hasAttr fa lang) = true
    · rw [if_pos h2]; simp [resolvable, h, hlang]
    · rw [if_neg h2]
      by_cases h3 : (p.1 == xmlSpace) = true
      · rw [if_pos h3]; rfl
      · rw [if_neg h3]; simp [resolvable, h]

theorem xhtmlAttrToks_ok (fa : FAttrs) (h : fa.all (fun p => xNameOk p.1) = true) :
    resolvable (xhtmlAttrToks fa) = true := by
  rw [resolvable, xhtmlAttrToks, List.all_flatMap, List.all_eq_true]
  exact fun p hp => resolvable_xhtmlAttrTok fa p (List.all_eq_true.mp h p hp)

def nameNoColon (n : Str) : Bool := !(n.any (· == ':'))

/-- the attribute names of the stream resolve: un-namespaced ones are not `xmlns` and hold no colon -/
def xmlAttrNamesOk (a : AttrList) : Bool := (fAttrs a).all fun p => xNameOk p.1

mutual
  /-- hypotheses of the namespace resolution: element names without colon, resolvable attribute
      names, no character data outside elements (`top`) -/
  def xmlTreeOk (top : Bool) : Node → Bool
    | .elem t a ks => nameNoColon t.loc && xmlAttrNamesOk a && xmlForestOk false ks
    | .leaf (.text _ _) => !top
    | .leaf _ => true
  def xmlForestOk (top : Bool) : List Node → Bool
    | [] => true
    | n :: ns => xmlTreeOk top n && xmlForestOk top ns
end

theorem attrsOkX_tree (u : Str) (s : Bool) (d : Nat) (a : AttrList) (hd : s = true → d ≠ 0)
    (ha : xmlAttrNamesOk a = true) :
    attrsOkX u d ((declAttr u s).map (fun p => (p.1, some p.2)) ++ xhtmlAttrToks (fAttrs a)) = true := by
  have hx := xhtmlAttrToks_ok (fAttrs a) ha
  rw [declAttr_eq_declM, attrsOkX, lookupAttr_declM _ _ _ hx, resolveAttrs_declM, resolveAttrs_isSome _ hx, Bool.and_true]
  cases s with
  | true => simpa using Or.inl (hd rfl)
  | false => by_cases hu : u = [] <;> simp [hu]

theorem scopedP_node (u : Str) (d : Nat) (n : Str) (at_ : List (Str × Option Str)) (ks : List Node)
    (kps rest : List Piece) (hn : nameNoColon n = true) (hA : attrsOkX u d at_ = true)
    (hk : ∀ r, scopedP u (d + 1) (kps ++ r) = scopedP u (d + 1) r) :
    scopedP u d ((if ks.isEmpty then
        (if inTable (emptyElems .xhtml) n then [.tok (.start n at_ true)]
         else [.tok (.start n at_ false), .tok (.end_ n)])
      else .tok (.start n at_ false) :: (kps ++ [.tok (.end_ n)])) ++ rest) = scopedP u d rest := by
  have hn' : (!n.any (· == ':')) = true := hn
  have hend : scopedP u (d + 1) (.tok (.end_ n) :: rest) = scopedP u d rest := by simp [scopedP]
  by_cases hks : ks.isEmpty = true
  · rw [if_pos hks]
    by_cases hv : inTable (emptyElems .xhtml) n = true
    · rw [if_pos hv, List.singleton_append, scopedP, hn', hA, if_pos rfl]; rfl
    · rw [if_neg hv, List.cons_append, List.singleton_append, scopedP, hn', hA, if_neg Bool.false_ne_true, hend]; rfl
  · rw [if_neg hks, List.cons_append, List.append_assoc, List.singleton_append, scopedP, hn', hA,
      if_neg Bool.false_ne_true, hk, hend]; rfl

theorem scoped_tree_forest (u : Str) :
    (∀ (n : Node) (s : Bool) (d : Nat) (rest : List Piece), (s = true → d ≠ 0) → xmlTreeOk (!s) n = true →
      scopedP u d (treePiecesXU u s n ++ rest) = scopedP u d rest) ∧
    ∀ (ns : List Node) (s : Bool) (d : Nat) (rest : List Piece), (s = true → d ≠ 0) → xmlForestOk (!s) ns = true →
      scopedP u d (forestPiecesXU u s ns ++ rest) = scopedP u d rest := by
  refine node_induction ?_ ?_ ?_ ?_
  · intro t a ks ih s d rest hd h
    simp only [xmlTreeOk, Bool.and_eq_true] at h
    rw [treePiecesXU]
    exact scopedP_node u d t.loc _ ks _ rest h.1.1 (attrsOkX_tree u s d a hd h.1.2)
      fun r => ih true (d + 1) r (fun _ => Nat.succ_ne_zero d) h.2
  · intro e s d rest hd h
    cases e with
    | text x f =>
      have hs : s = true := by simpa [xmlTreeOk] using h
      simp [treePiecesXU, scopedP, hd hs]
    | _ => rfl
  · intro s d rest _ _; rfl
  · intro n ns ihn ihs s d rest hd h
    simp only [xmlForestOk, Bool.and_eq_true] at h
    rw [forestPiecesXU, List.append_assoc, ihn s d _ hd h.1, ihs s d rest hd h.2]

theorem scoped_tree (u : Str) : ∀ (n : Node) (s : Bool) (d : Nat) (rest : List Piece),
      (s = true → d ≠ 0) → xmlTreeOk (!s) n = true →
      scopedP u d (treePiecesXU u s n ++ rest) = scopedP u d rest :=
  (scoped_tree_forest u).1

theorem xmlView_forest (u : Str) (ns : List Node) (h : xmlForestOk true ns = true) :
    xmlView [] (assemble (forestPiecesXU u false ns)) =
      some ((assemble (forestPiecesXU u false ns)).flatMap (xmlMapTok u)) :=
  xmlView_scoped u _ <| by
    have hs := (scoped_tree_forest u).2 ns false 0 [] (fun h => Bool.noConfusion h) h
    rwa [List.append_nil] at hs

end Genshi.Reader
