/-
  Helper lemmas for C08: expat's view (`xmlView`, namespace resolution with a SCOPE STACK) of the
  xhtml tokens of a forest that mixes namespaces: every element is read back in its own namespace.
  The expected tokens are defined by recursion on the forest with qualified names
  (`forestPiecesQ`, `mergeGoQ`); the proof goes through the pieces in continuation-passing form
  (`ContOk`: whatever follows is resolved correctly from every pending text).
-/
import Genshi.Lemmas.ReaderTreeMixed
import Genshi.Lemmas.ReaderXmlView
namespace Genshi.Reader
open Genshi Genshi.Output

/-- expected output with qualified names: tokens and character data -/
inductive PieceQ where
  | tok (t : XTok)
  | chars (s : Str)

/-- pieces to tokens, left to right, adjacent character data merged, empty text dropped -/
def mergeGoQ (buf : Str) : List PieceQ → List XTok
  | [] => textTokQ buf
  | .chars s :: ps => mergeGoQ (buf ++ s) ps
  | .tok t :: ps => textTokQ buf ++ t :: mergeGoQ [] ps

/-- the attributes as expat delivers them: `xml:` attributes in the XML namespace, boolean
    attributes expanded, `lang` added for `xml:lang` -/
def attrsQ (a : AttrList) : List (QName × Str) := (resolveAttrs (xhtmlAttrToks (fAttrs a))).getD []

mutual
  /-- what an XML parser with namespace processing reads back for a tree: every element in its OWN
      namespace, start and end tag for every element (self-closed or not), text and comments verbatim -/
  def treePiecesQ : Node → List PieceQ
    | .elem t a ks =>
        if ks.isEmpty then [.tok (.start ⟨t.ns, t.loc⟩ (attrsQ a)), .tok (.end_ ⟨t.ns, t.loc⟩)]
        else .tok (.start ⟨t.ns, t.loc⟩ (attrsQ a)) :: (forestPiecesQ ks ++ [.tok (.end_ ⟨t.ns, t.loc⟩)])
    | .leaf (.text x _) => [.chars x]
    | .leaf (.comment x) => [.tok (.comment x)]
    | .leaf _ => []
  def forestPiecesQ : List Node → List PieceQ
    | [] => []
    | n :: ns => treePiecesQ n ++ forestPiecesQ ns
end

/-- whatever follows is resolved correctly under scope `sc`, from every pending text -/
def ContOk (sc : List Str) (R : List Piece) (RQ : List PieceQ) : Prop :=
  ∀ b : Str, (b ≠ [] → sc ≠ []) → xmlView sc (mergeGo b R) = some (mergeGoQ b RQ)

theorem contOk_nil : ContOk [] [] [] := by
  intro b hb
  have : b = [] := by
    by_cases h : b = []
    · exact h
    · exact absurd rfl (hb h)
  subst this
  simp [mergeGo, mergeGoQ, textTok, textTokQ, xmlView]

theorem xmlView_startS (sc : List Str) (t : QName) (a : AttrList) (s : Bool) (rest : List Tok)
    (hn : nameNoColon t.loc = true) (ha : xmlAttrNamesOk a = true) :
    xmlView sc (.start t.loc ((declM (sc.headD []) t.ns).map (fun p => (p.1, some p.2)) ++
        xhtmlAttrToks (fAttrs a)) s :: rest) =
      (if s then (xmlView sc rest).map
          (fun r => .start ⟨t.ns, t.loc⟩ (attrsQ a) :: .end_ ⟨t.ns, t.loc⟩ :: r)
       else (xmlView (t.ns :: sc) rest).map (fun r => .start ⟨t.ns, t.loc⟩ (attrsQ a) :: r)) := by
  have hx := xhtmlAttrToks_ok (fAttrs a) ha
  have hn' : (t.loc.any (· == ':')) = false := by simpa [nameNoColon] using hn
  obtain ⟨ra, hra⟩ := Option.isSome_iff_exists.mp (resolveAttrs_isSome _ hx)
  have hq : attrsQ a = ra := by simp [attrsQ, hra]
  have hdflt : dfltNs sc ((declM (sc.headD []) t.ns).map (fun p => (p.1, some p.2)) ++ xhtmlAttrToks (fAttrs a)) =
      t.ns := by
    rw [dfltNs, lookupAttr_declM _ _ _ hx]
    by_cases h : t.ns = sc.headD []
    · rw [if_pos h]; exact h.symm
    · rw [if_neg h]
  simp only [xmlView, hn', Bool.false_eq_true, ↓reduceIte, hdflt, resolveAttrs_declM, hra, hq]

theorem contOk_tree_forest :
    (∀ (n : Node) (sc : List Str) (R : List Piece) (RQ : List PieceQ),
      xmlTreeOk sc.isEmpty n = true → ContOk sc R RQ →
      ContOk sc (treePiecesXM (sc.headD []) n ++ R) (treePiecesQ n ++ RQ)) ∧
    ∀ (ns : List Node) (sc : List Str) (R : List Piece) (RQ : List PieceQ),
      xmlForestOk sc.isEmpty ns = true → ContOk sc R RQ →
      ContOk sc (forestPiecesXM (sc.headD []) ns ++ R) (forestPiecesQ ns ++ RQ) := by
  refine node_induction ?_ ?_ ?_ ?_
  · intro t a ks ih sc R RQ h hR b hb
    simp only [xmlTreeOk, Bool.and_eq_true] at h
    have h1 := hR [] (fun h => absurd rfl h)
    -- the end tag closes the scope the start tag opened
    have hend : ContOk (t.ns :: sc) (.tok (.end_ t.loc) :: R) (.tok (.end_ ⟨t.ns, t.loc⟩) :: RQ) := by
      intro b' _
      rw [mergeGo, mergeGoQ, xmlView_textTokS (t.ns :: sc) b' (fun _ => List.cons_ne_nil _ _), xmlView, h1]; rfl
    rw [treePiecesXM, treePiecesQ]
    by_cases hks : ks.isEmpty = true
    · rw [if_pos hks, if_pos hks, List.cons_append, mergeGoQ]
      by_cases hv : inTable (emptyElems .xhtml) t.loc = true
      · rw [if_pos hv, List.singleton_append, mergeGo, xmlView_textTokS sc b hb,
          xmlView_startS sc t a true _ h.1.1 h.1.2, if_pos rfl, h1]; rfl
      · rw [if_neg hv, List.cons_append, mergeGo, xmlView_textTokS sc b hb,
          xmlView_startS sc t a false _ h.1.1 h.1.2, if_neg Bool.false_ne_true]
        exact congrArg _ (congrArg _ (hend [] (fun h => absurd rfl h)))
    · rw [if_neg hks, if_neg hks, List.cons_append, List.cons_append, mergeGo, mergeGoQ, xmlView_textTokS sc b hb,
        xmlView_startS sc t a false _ h.1.1 h.1.2, if_neg Bool.false_ne_true, List.append_assoc, List.append_assoc]
      exact congrArg _ (congrArg _ (ih (t.ns :: sc) _ _ h.2 hend [] (fun h => absurd rfl h)))
  · intro e sc R RQ h hR
    cases e with
    | text x f =>
      have hsc : sc ≠ [] := by
        intro he; subst he; simp [xmlTreeOk] at h
      intro b _
      simp only [treePiecesXM, treePiecesQ, List.singleton_append, mergeGo, mergeGoQ]
      exact hR (b ++ x) (fun _ => hsc)
    | comment x =>
      intro b hb
      simp only [treePiecesXM, treePiecesQ, List.singleton_append, mergeGo, mergeGoQ]
      rw [xmlView_textTokS sc b hb]
      have h1 := hR [] (by intro h; exact absurd rfl h)
      simp only [xmlView, h1, Option.map_some]
    | _ => exact hR
  · intro sc R RQ _ hR; exact hR
  · intro n ns ihn ihs sc R RQ h hR
    simp only [xmlForestOk, Bool.and_eq_true] at h
    rw [forestPiecesXM, forestPiecesQ, List.append_assoc, List.append_assoc]
    exact ihn sc _ _ h.1 (ihs sc R RQ h.2 hR)

theorem contOk_tree : ∀ (n : Node) (sc : List Str) (R : List Piece) (RQ : List PieceQ),
      xmlTreeOk sc.isEmpty n = true → ContOk sc R RQ →
      ContOk sc (treePiecesXM (sc.headD []) n ++ R) (treePiecesQ n ++ RQ) :=
  contOk_tree_forest.1

theorem contOk_forest : ∀ (ns : List Node) (sc : List Str) (R : List Piece) (RQ : List PieceQ),
      xmlForestOk sc.isEmpty ns = true → ContOk sc R RQ →
      ContOk sc (forestPiecesXM (sc.headD []) ns ++ R) (forestPiecesQ ns ++ RQ) :=
  contOk_tree_forest.2

theorem xmlView_forestM (ns : List Node) (h : xmlForestOk true ns = true) :
    xmlView [] (assemble (forestPiecesXM [] ns)) = some (mergeGoQ [] (forestPiecesQ ns)) := by
  have := contOk_forest ns [] [] [] (by simpa using h) contOk_nil [] (by intro h; exact absurd rfl h)
  simpa [assemble_eq_merge] using this

end Genshi.Reader
