/-
  C06 — CSS comments: the text `sanitize_css` emits holds no complete comment, so the
  browser-side comment removal changes nothing.
-/
import Genshi.Lemmas.SanCssStable
set_option linter.unusedSimpArgs false
namespace Genshi.San
open Genshi.Gen Genshi.San.Spec

theorem prefix_before_sep {sep : Char} {b x y r : Str} (h : x ++ sep :: y = b ++ r) (hs : sep ∉ b) :
    ∃ r', x = b ++ r' ∧ r = r' ++ sep :: y := by
  induction b generalizing x with
  | nil => exact ⟨x, rfl, h.symm⟩
  | cons b0 b ih =>
    cases x with
    | nil => exact absurd ((List.cons.inj h).1 ▸ List.mem_cons_self) hs
    | cons c x =>
      cases (List.cons.inj h).1
      obtain ⟨r', rfl, rfl⟩ := ih (List.cons.inj h).2 (fun hm => hs (List.mem_cons_of_mem _ hm))
      exact ⟨r', rfl, rfl⟩

/-- an occurrence of `b` in `x ++ sep :: y`, where `sep` is no character of `b`, lies in `x` or in `y` -/
theorem occ_split {sep : Char} {b a x y r : Str} (hs : sep ∉ b) (h : x ++ sep :: y = a ++ b ++ r) :
    (∃ r', x = a ++ b ++ r' ∧ r = r' ++ sep :: y) ∨ (∃ a', y = a' ++ b ++ r ∧ a = x ++ sep :: a') := by
  induction a generalizing x with
  | nil => exact .inl (prefix_before_sep h hs)
  | cons a0 a ih =>
    cases x with
    | nil => cases (List.cons.inj h).1; exact .inr ⟨a, (List.cons.inj h).2, rfl⟩
    | cons c x =>
      cases (List.cons.inj h).1
      rcases ih (List.cons.inj h).2 with ⟨r', rfl, rfl⟩ | ⟨a', rfl, rfl⟩
      · exact .inl ⟨r', rfl, rfl⟩
      · exact .inr ⟨a', rfl, rfl⟩

def HasClose (s : Str) : Prop := ∃ x y, s = x ++ '*' :: '/' :: y

/-- no `/*` of the text has a `*/` anywhere behind it: nothing that `_CSS_COMMENTS` (`/\*.*?\*/` with `re.DOTALL`)
    can match -/
def NoComment (s : Str) : Prop := ∀ a b, s = a ++ '/' :: '*' :: b → ¬ HasClose b

theorem noComment_nil : NoComment [] := fun a b hab => by cases a <;> cases hab

theorem hasClose_mono {b : Str} (x y : Str) (h : HasClose b) : HasClose (x ++ b ++ y) := by
  obtain ⟨u, v, rfl⟩ := h
  exact ⟨x ++ u, v ++ y, by simp⟩

theorem hasClose_cons {s : Str} (c : Char) (h : HasClose s) : HasClose (c :: s) := by
  obtain ⟨u, v, rfl⟩ := h; exact ⟨c :: u, v, rfl⟩

/-- `NoComment` of a text, read at its first character -/
theorem noComment_cons {c : Char} {r : Str} :
    NoComment (c :: r) ↔ NoComment r ∧ ∀ r', c = '/' → r = '*' :: r' → ¬ HasClose r' := by
  constructor
  · exact fun h => ⟨fun a b hab => h (c :: a) b (by rw [hab]; rfl), fun r' hc hr => h [] r' (by rw [hc, hr]; rfl)⟩
  · rintro ⟨hr, hc⟩ a b hab
    cases a with
    | nil => cases hab; exact hc b rfl rfl
    | cons a0 a' => exact hr a' b (List.cons.inj hab).2

theorem afterStarSlash_none_iff (s : Str) : afterStarSlash s = none ↔ ¬ HasClose s := by
  fun_induction afterStarSlash s
  case case1 => exact iff_of_true rfl fun ⟨x, y, h⟩ => by cases x <;> cases h
  case case2 r' => exact iff_of_false nofun fun h => h ⟨[], r', rfl⟩
  case case3 c cs hm ih =>
    rw [ih]
    refine not_congr ⟨hasClose_cons c, fun ⟨x, y, h⟩ => ?_⟩
    cases x with
    | nil => cases h; exact (hm y rfl rfl).elim
    | cons x0 x' => exact ⟨x', y, (List.cons.inj h).2⟩

theorem afterStarSlash_sublist {s rest : Str} (h : afterStarSlash s = some rest) : rest.Sublist s := by
  fun_induction afterStarSlash s generalizing rest
  case case1 => cases h
  case case2 => cases h; exact ((List.Sublist.refl _).cons _).cons _
  case case3 ih => exact (ih h).cons _

theorem stripOnceGo_sublist (f : Nat) (s : Str) : (stripOnceGo f s).Sublist s := by
  fun_induction stripOnceGo f s
  case case1 => exact .refl _
  case case2 => exact .refl _
  case case3 h ih => exact ((ih.trans (afterStarSlash_sublist h)).cons _).cons _
  case case4 ih => exact ih.cons_cons _
  case case5 ih => exact ih.cons_cons _

theorem stripOnceGo_len (f : Nat) (s : Str) :
    stripOnceGo f s = s ∨ (stripOnceGo f s).length < s.length := by
  have h := stripOnceGo_sublist f s
  rcases Nat.lt_or_ge (stripOnceGo f s).length s.length with hl | hl
  · exact .inr hl
  · exact .inl (h.eq_of_length_le hl)

/-- the texts the browser-side comment removal leaves alone are those without a complete comment -/
theorem stripOnceGo_fixed_iff (f : Nat) (s : Str) (hf : s.length < f) : stripOnceGo f s = s ↔ NoComment s := by
  fun_induction stripOnceGo f s
  case case1 => cases hf
  case case2 => exact iff_of_true rfl noComment_nil
  case case3 n r' rest ha _ =>
    refine iff_of_false (fun hfix => ?_) fun h => ?_
    · -- a removed comment makes the text shorter
      have := ((stripOnceGo_sublist n rest).trans (afterStarSlash_sublist ha)).length_le
      rw [hfix] at this
      simp only [List.length_cons] at this
      omega
    · exact absurd ((afterStarSlash_none_iff r').mpr ((noComment_cons.mp h).2 r' rfl rfl)) (by rw [ha]; nofun)
  case case4 n r' ha ih =>
    rw [List.cons.injEq, eq_self, true_and, ih (Nat.lt_of_succ_lt_succ hf)]
    exact ⟨fun h => noComment_cons.mpr ⟨h, fun r'' _ hr => by cases hr; exact (afterStarSlash_none_iff _).mp ha⟩,
      fun h => (noComment_cons.mp h).1⟩
  case case5 n c cs hm ih =>
    rw [List.cons.injEq, eq_self, true_and, ih (Nat.lt_of_succ_lt_succ hf)]
    exact ⟨fun h => noComment_cons.mpr ⟨h, fun r' hc hr => (hm r' hc hr).elim⟩, fun h => (noComment_cons.mp h).1⟩

theorem stripOnce_noComment {s : Str} (h : NoComment s) : stripOnce s = s :=
  (stripOnceGo_fixed_iff _ s (Nat.lt_succ_self _)).mpr h

theorem afterCommentEnd_true (s : Str) : afterCommentEnd true s = afterStarSlash s := by
  fun_induction afterStarSlash s
  case case1 => rfl
  case case2 => rw [afterCommentEnd]
  case case3 c cs h ih => rw [afterCommentEnd.eq_3 _ _ _ h, ← ih]; rfl

theorem stripCommentsGo_true (f : Nat) (s : Str) : stripCommentsGo true f s = stripOnceGo f s := by
  fun_induction stripOnceGo f s
  case case1 => rw [stripCommentsGo]
  case case2 => rw [stripCommentsGo]
  case case3 h ih => rw [stripCommentsGo, afterCommentEnd_true, h]; exact ih
  case case4 h ih => rw [stripCommentsGo, afterCommentEnd_true, h]; exact congrArg _ ih
  case case5 c cs h ih => rw [stripCommentsGo.eq_4 _ _ _ _ h, ih]

theorem stripCommentsOnce_len (s : Str) :
    stripCommentsOnce true s = s ∨ (stripCommentsOnce true s).length < s.length := by
  rw [stripCommentsOnce, stripCommentsGo_true]
  exact stripOnceGo_len _ s

theorem stripCommentsFix_fixed (f : Nat) (s : Str) (hf : s.length < f) :
    stripCommentsOnce true (stripCommentsFix true f s) = stripCommentsFix true f s := by
  rw [stripCommentsFix_eq]
  exact fixN_fixed stripCommentsOnce_len f s hf

-- `commentsDotall` is a generated constant (`rfl`: `C06.css_comments_dotall`); it is carried as a
-- hypothesis from here on so that a pattern compiled without DOTALL breaks that one theorem only
theorem stripCssComments_noComment (hd : SanClass.commentsDotall = true) (s : Str) :
    NoComment (stripCssComments s) := by
  unfold stripCssComments
  rw [hd]
  have hfix := stripCommentsFix_fixed (s.length + 1) s (Nat.lt_succ_self _)
  unfold stripCommentsOnce at hfix
  rw [stripCommentsGo_true] at hfix
  exact (stripOnceGo_fixed_iff _ _ (Nat.lt_succ_self _)).mp hfix

def Sub (d p : Str) : Prop := ∃ x y, p = x ++ d ++ y

def HasOpen (s : Str) : Prop := ∃ a b, s = a ++ '/' :: '*' :: b

theorem hasClose_sub {d p : Str} (h : HasClose d) (hs : Sub d p) : HasClose p := by
  obtain ⟨x, y, rfl⟩ := hs
  exact hasClose_mono x y h

theorem hasOpen_sub {d p : Str} (h : HasOpen d) (hs : Sub d p) : HasOpen p := by
  obtain ⟨x, y, rfl⟩ := hs
  obtain ⟨a, b, rfl⟩ := h
  exact ⟨x ++ a, b ++ y, by simp⟩

theorem noComment_sub {d p : Str} (h : NoComment p) (hs : Sub d p) : NoComment d := by
  obtain ⟨x, y, rfl⟩ := hs
  intro a b hab hc
  subst hab
  exact h (x ++ a) (b ++ y) (by simp) (by simpa using hasClose_mono [] y hc)

theorem sub_refl (s : Str) : Sub s s := ⟨[], [], by simp⟩

theorem sub_trans {a b c : Str} (h1 : Sub a b) (h2 : Sub b c) : Sub a c := by
  obtain ⟨x, y, rfl⟩ := h1
  obtain ⟨u, v, rfl⟩ := h2
  exact ⟨u ++ x, y ++ v, by simp⟩

theorem pyStrip_sub (s : Str) : Sub (pyStrip s) s := by
  obtain ⟨t1, t2, h, _⟩ := Str.stripBy_decomp isSpace s
  exact ⟨t1, t2, h⟩

theorem sub_left (x : Str) (c : Char) (y : Str) : Sub x (x ++ c :: y) := ⟨[], c :: y, rfl⟩

theorem sub_right (x : Str) (c : Char) (y : Str) : Sub y (x ++ c :: y) := ⟨x ++ [c], [], by simp⟩

theorem hasClose_semi {x y : Str} (h : HasClose (x ++ ';' :: y)) : HasClose x ∨ HasClose y := by
  obtain ⟨u, v, huv⟩ := h
  rcases occ_split (sep := ';') (b := ['*', '/']) (by decide) (by simpa using huv) with
    ⟨r', hx, _⟩ | ⟨a', hy, _⟩
  · exact .inl ⟨u, r', by simpa using hx⟩
  · exact .inr ⟨a', v, by simpa using hy⟩

theorem hasClose_space {y : Str} (h : HasClose (' ' :: y)) : HasClose y := by
  obtain ⟨u, v, huv⟩ := h
  cases u with
  | nil => cases huv
  | cons u0 u' => exact ⟨u', v, (List.cons.inj huv).2⟩

theorem noComment_space {y : Str} (h : NoComment y) : NoComment (' ' :: y) :=
  noComment_cons.mpr ⟨h, fun _ hc => nomatch hc⟩

theorem noComment_semi_parts {x y : Str} (h : NoComment (x ++ ';' :: y)) :
    NoComment x ∧ NoComment y ∧ (HasOpen x → ¬ HasClose y) := by
  refine ⟨noComment_sub h (sub_left ..), noComment_sub h (sub_right ..), fun ⟨a, b, hab⟩ hc => ?_⟩
  subst hab
  exact h a (b ++ ';' :: y) (by simp) (by simpa using hasClose_mono (b ++ [';']) [] hc)

theorem noComment_semi_build {x y : Str} (hx : NoComment x) (hy : NoComment y)
    (hxy : HasOpen x → ¬ HasClose y) : NoComment (x ++ ';' :: y) := by
  intro a b hab
  rcases occ_split (sep := ';') (b := ['/', '*']) (by decide) (by simpa using hab) with
    ⟨r', hx', rfl⟩ | ⟨a', hy', _⟩
  · -- the comment opens in `x`
    intro hc
    rcases hasClose_semi hc with h1 | h2
    · exact hx a r' (by simpa using hx') h1
    · exact hxy ⟨a, r', by simpa using hx'⟩ h2
  · exact hy a' b (by simpa using hy')

/-- the pieces of a list, each with the separator behind it: the joined text and one more separator -/
theorem flatMap_sep (sep : Str) : ∀ ds : List Str, ds ≠ [] → ds.flatMap (· ++ sep) = Genshi.Str.join sep ds ++ sep
  | [], h => absurd rfl h
  | [d], _ => by rw [List.flatMap_cons, List.flatMap_nil, List.append_nil]; rfl
  | d :: d' :: ds, _ => by
    rw [List.flatMap_cons, flatMap_sep sep (d' :: ds) (List.cons_ne_nil _ _), Str.join_cons_cons]
    exact (List.append_assoc ..).symm

section derived
variable (f : Str → Option Str) (hf : ∀ p d, f p = some d → Sub d p)
include hf

/-- dropping a text between semicolons or keeping a part of it, seen on the two joined texts with a separator behind
    EVERY piece: then both grow by one step per piece, whatever is left of the list, and one induction carries the two
    facts that need each other (a `*/` stems from a `*/`; no comment before, no comment after) -/
theorem derived_pieces : ∀ ps : List Str,
    (HasClose ((ps.filterMap f).flatMap (· ++ declSep)) → HasClose (ps.flatMap (· ++ [';']))) ∧
    (NoComment (ps.flatMap (· ++ [';'])) → NoComment ((ps.filterMap f).flatMap (· ++ declSep)))
  | [] => ⟨id, id⟩
  | p :: ps => by
    obtain ⟨icl, inc⟩ := derived_pieces ps
    rw [List.flatMap_cons, List.append_assoc, List.singleton_append]
    cases hfp : f p with
    | none =>
      rw [List.filterMap_cons_none hfp]
      exact ⟨fun hc => hasClose_sub (icl hc) (sub_right ..), fun hn => inc (noComment_sub hn (sub_right ..))⟩
    | some d =>
      have hd := hf p d hfp
      rw [List.filterMap_cons_some hfp, List.flatMap_cons, List.append_assoc]
      refine ⟨fun hc => ?_, fun hn => ?_⟩
      · rcases hasClose_semi hc with h | h
        · exact hasClose_sub (hasClose_sub h hd) (sub_left ..)
        · exact hasClose_sub (icl (hasClose_space h)) (sub_right ..)
      · obtain ⟨hp, hq, hx⟩ := noComment_semi_parts hn
        exact noComment_semi_build (noComment_sub hp hd) (noComment_space (inc hq))
          fun ho hc => hx (hasOpen_sub ho hd) (icl (hasClose_space hc))

theorem derived_noComment (ps : List Str) (h : NoComment (ps.flatMap (· ++ [';']))) :
    NoComment (Genshi.Str.join declSep (ps.filterMap f)) := by
  cases hds : ps.filterMap f with
  | nil => exact noComment_nil
  | cons d ds =>
    have hn := (derived_pieces f hf ps).2 h
    rw [hds, flatMap_sep _ (d :: ds) (List.cons_ne_nil _ _)] at hn
    exact noComment_sub hn ⟨[], declSep, by simp⟩

end derived

theorem cssDecl_sub (cfg : Cfg) : ∀ p d, cssDecl cfg p = some d → Sub d p := by
  intro p d h
  obtain ⟨_, _, _, _, _, _, rfl⟩ := cssDecl_some h
  exact sub_trans (pyStrip_sub _) (pyStrip_sub _)

/-- **the text `sanitize_css` emits holds no complete comment** (with `re.DOTALL` on
    `_CSS_COMMENTS`, which the translator reads from the compiled pattern) -/
theorem sanitizeCss_noComment (hd : SanClass.commentsDotall = true) {cfg : Cfg} {x : Str} {decls : List Str}
    (h : sanitizeCss cfg x = .ok decls) : NoComment (Genshi.Str.join declSep decls) := by
  obtain ⟨t, _, rfl⟩ := sanitizeCss_eq h
  apply derived_noComment (cssDecl cfg) (cssDecl_sub cfg)
  rw [splitOn_flatMap]
  exact noComment_semi_build (stripCssComments_noComment hd t) noComment_nil fun _ ⟨x, y, hxy⟩ => by cases x <;> cases hxy

end Genshi.San
