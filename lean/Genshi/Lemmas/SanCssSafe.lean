/-
  C06 — the style text `sanitize_css` emits, read as a browser reads it: decoding is the
  identity on it and it holds no `expression(` (the `url(` arguments: `SanCssUrl.lean`).
-/
import Genshi.Lemmas.SanCssComments
import Genshi.Lemmas.SanUri
import Genshi.Lemmas.ListBasics
set_option linter.unusedSimpArgs false
namespace Genshi.San
open Genshi.Gen Genshi.San.Spec

theorem pyStrip_idem (s : Str) : pyStrip (pyStrip s) = pyStrip s := Str.stripBy_idem isSpace s

theorem sanitizeCss_decode_fixed (hd : SanClass.commentsDotall = true) {cfg : Cfg} {x : Str} {decls : List Str}
    (h : sanitizeCss cfg x = .ok decls) :
    cssDecode (Genshi.Str.join declSep decls) = Genshi.Str.join declSep decls := by
  unfold cssDecode
  simp only [cssDecodeGo, unescapeOnce_stable (sanitizeCss_stable h),
    stripOnce_noComment (sanitizeCss_noComment hd h), ↓reduceIte]

/-- what `sanitize_css` has tested of a declaration it emits (`sanitizeCss_facts`): the three checks of `cssDecl`, on
    the declaration cut at its first colon -/
structure DeclFacts (cfg : Cfg) (d : Str) : Prop where
  ex : ∃ pn value, split1 ':' d = (pn, some value) ∧
    isSafeCss cfg (pyLower (pyStrip pn)) (pyStrip value) = true ∧
    expressionSearch value = false ∧
    ∀ g ∈ urlFind value, isSafeUri cfg g = true

theorem sanitizeCss_facts {cfg : Cfg} {x : Str} {decls : List Str} (h : sanitizeCss cfg x = .ok decls) :
    ∀ d ∈ decls, DeclFacts cfg d := by
  obtain ⟨t, _, rfl⟩ := sanitizeCss_eq h
  intro d hd
  obtain ⟨piece, _, hdecl⟩ := List.mem_filterMap.mp hd
  obtain ⟨pn, value, hsp, hsafe, hexp, hurl, rfl⟩ := cssDecl_some hdecl
  rw [pyStrip_idem]
  exact ⟨pn, value, hsp, hsafe, hexp, hurl⟩

def Spells (cls : List (List Nat)) (w : Str) : Prop := w.length = cls.length ∧ matchClasses cls w = true

theorem matchClasses_split (cls : List (List Nat)) (s : Str) (h : matchClasses cls s = true) :
    ∃ w, s = w ++ dropClasses cls s ∧ Spells cls w := by
  fun_induction matchClasses cls s
  case case1 s => exact ⟨[], rfl, rfl, rfl⟩
  case case2 => cases h
  case case3 cl cls c cs ih =>
    rw [Bool.and_eq_true] at h
    obtain ⟨w, hw, hl, hm⟩ := ih h.2
    exact ⟨c :: w, congrArg _ hw, congrArg (· + 1) hl, by rw [matchClasses, h.1, hm]; rfl⟩

theorem matchClasses_append (cls : List (List Nat)) (w t : Str) (h : Spells cls w) :
    matchClasses cls (w ++ t) = true ∧ dropClasses cls (w ++ t) = t := by
  obtain ⟨hl, hm⟩ := h
  fun_induction matchClasses cls w
  case case1 s => cases List.length_eq_zero_iff.mp hl; exact ⟨rfl, rfl⟩
  case case2 => cases hm
  case case3 cl cls c cs ih =>
    rw [Bool.and_eq_true] at hm
    obtain ⟨h1, h2⟩ := ih (Nat.succ.inj hl) hm.2
    exact ⟨by rw [List.cons_append, matchClasses, hm.1, h1]; rfl, by rw [List.cons_append, dropClasses, h2]⟩

theorem spells_mem {cls : List (List Nat)} {w : Str} (h : Spells cls w) :
    ∀ c ∈ w, ∃ cl ∈ cls, inClass cl c = true := by
  obtain ⟨hl, hm⟩ := h
  fun_induction matchClasses cls w
  case case1 s => cases List.length_eq_zero_iff.mp hl; exact nofun
  case case2 => cases hm
  case case3 cl cls c cs ih =>
    rw [Bool.and_eq_true] at hm
    intro x hx
    rcases List.mem_cons.mp hx with rfl | hx
    · exact ⟨cl, List.mem_cons_self, hm.1⟩
    · obtain ⟨cl', hcl', hin⟩ := ih (Nat.succ.inj hl) hm.2 x hx
      exact ⟨cl', List.mem_cons_of_mem _ hcl', hin⟩

/-- the head of a call as both readers see it: one spelling of the keyword (`Spells`: one character per class),
    white space, `(` — exactly what `callAt` consumes (`callAt_block`, `block_callAt`) -/
def IsBlock (wide : Bool) (word : Str) (b : Str) : Prop :=
  ∃ w sp, b = w ++ sp ++ ['('] ∧ Spells (wordClasses wide word) w ∧ ∀ c ∈ sp, isSpace c = true

theorem callAt_block {wide : Bool} {word s r : Str} (h : callAt wide word s = some r) :
    ∃ b, IsBlock wide word b ∧ s = b ++ r := by
  unfold callAt at h
  split at h
  · rename_i hm
    obtain ⟨w, hw, hsp⟩ := matchClasses_split _ s hm
    split at h
    · rename_i r' hd
      cases h
      refine ⟨_, ⟨w, (dropClasses (wordClasses wide word) s).takeWhile isSpace, rfl, hsp, fun c hc => mem_takeWhile_imp hc⟩, ?_⟩
      have := List.takeWhile_append_dropWhile (p := isSpace) (l := dropClasses (wordClasses wide word) s)
      rw [hd] at this
      rw [List.append_assoc, List.append_assoc, List.singleton_append, this]; exact hw
    · cases h
  · cases h

theorem isSpace_paren : isSpace '(' = false := by decide

theorem block_callAt {wide : Bool} {word b r : Str} (h : IsBlock wide word b) :
    callAt wide word (b ++ r) = some r := by
  obtain ⟨w, sp, rfl, hw, hsp⟩ := h
  unfold callAt
  rw [List.append_assoc, List.append_assoc, List.singleton_append]
  obtain ⟨h1, h2⟩ := matchClasses_append _ w (sp ++ '(' :: r) hw
  simp only [h1, ↓reduceIte, h2]
  simp only [dropWhile_append_stop (b := '(' :: r) hsp fun x hx => by cases hx; exact isSpace_paren]

theorem block_paren_mem {wide : Bool} {word b : Str} (h : IsBlock wide word b) : '(' ∈ b := by
  obtain ⟨w, sp, rfl, _, _⟩ := h
  simp

theorem block_ne_nil {wide : Bool} {word b : Str} (h : IsBlock wide word b) : b ≠ [] :=
  List.ne_nil_of_mem (block_paren_mem h)

theorem block_head {wide : Bool} {word b : Str} (h : IsBlock wide word b) (hw : word ≠ []) :
    ∃ c rest, b = c :: rest ∧ ∃ cl ∈ wordClasses wide word, inClass cl c = true := by
  obtain ⟨w, sp, rfl, hsp, _⟩ := h
  cases w with
  | nil =>
    exfalso
    have := hsp.1
    simp [wordClasses] at this
    exact hw (List.length_eq_zero_iff.mp this.symm)
  | cons c w' =>
    exact ⟨c, w' ++ sp ++ ['('], by simp, spells_mem hsp c (by simp)⟩

/-- no call begins with a character that is in none of the classes of the keyword -/
theorem head_not_call {wide : Bool} {word : Str} (hw : word ≠ []) {x : Char}
    (hx : ∀ cl ∈ wordClasses wide word, inClass cl x = false) (rest : Str) : callAt wide word (x :: rest) = none := by
  cases hc : callAt wide word (x :: rest) with
  | none => rfl
  | some r =>
    obtain ⟨b, hb, hs⟩ := callAt_block hc
    obtain ⟨c, rest', rfl, cl, hcl, hin⟩ := block_head hb hw
    cases (List.cons.inj hs).1
    rw [hx cl hcl] at hin
    cases hin

/-- a character that the head of no call of `word` holds: it is in none of the classes of the keyword, no white
    space and not `(` -/
def Outside (wide : Bool) (word : Str) (x : Char) : Prop :=
  (∀ cl ∈ wordClasses wide word, inClass cl x = false) ∧ isSpace x = false ∧ x ≠ '('

theorem block_not_mem {wide : Bool} {word b : Str} (h : IsBlock wide word b) {x : Char} (hx : Outside wide word x) :
    x ∉ b := by
  obtain ⟨w, sp, rfl, hw, hsp⟩ := h
  obtain ⟨h1, h2, h3⟩ := hx
  intro hx
  simp at hx
  rcases hx with hx | hx | hx
  · obtain ⟨cl, hcl, hin⟩ := spells_mem hw x hx
    rw [h1 cl hcl] at hin; cases hin
  · rw [hsp x hx] at h2; cases h2
  · exact h3 hx

theorem hasExpression_iff (s : Str) : hasExpression s = true ↔
    ∃ a b r, IsBlock true expressionWord b ∧ s = a ++ b ++ r := by
  induction s with
  | nil =>
    simp only [hasExpression, Bool.false_eq_true, false_iff]
    rintro ⟨a, b, r, hb, h⟩
    have : b = [] := by
      have := congrArg List.length h; simp at this; exact List.length_eq_zero_iff.mp (by omega)
    exact block_ne_nil hb this
  | cons c cs ih =>
    simp only [hasExpression, Bool.or_eq_true]
    constructor
    · rintro (h | h)
      · cases hc : callAt true expressionWord (c :: cs) with
        | none => simp [hc] at h
        | some r =>
          obtain ⟨b, hb, hs⟩ := callAt_block hc
          exact ⟨[], b, r, hb, by simpa using hs⟩
      · obtain ⟨a, b, r, hb, hs⟩ := ih.mp h
        exact ⟨c :: a, b, r, hb, by simp [hs]⟩
    · rintro ⟨a, b, r, hb, hs⟩
      cases a with
      | nil =>
        left
        simp at hs
        rw [hs, block_callAt hb]; rfl
      | cons a0 a' =>
        right
        simp at hs
        exact ih.mpr ⟨a', b, r, hb, by rw [List.append_assoc]; exact hs.2⟩

theorem expr_semicolon : Outside true expressionWord ';' := ⟨by decide +kernel, by decide, by decide⟩
theorem expr_colon : Outside true expressionWord ':' := ⟨by decide +kernel, by decide, by decide⟩
theorem expr_class_space : ∀ cl ∈ wordClasses true expressionWord, inClass cl ' ' = false := by decide +kernel

theorem hasExpression_sep {x y : Str} {sep : Char} (hsep : Outside true expressionWord sep)
    (h : hasExpression (x ++ sep :: y) = true) : hasExpression x = true ∨ hasExpression y = true := by
  obtain ⟨a, b, r, hb, hs⟩ := (hasExpression_iff _).mp h
  rcases occ_split (block_not_mem hb hsep) hs with ⟨r', hx, _⟩ | ⟨a', hy, _⟩
  · exact Or.inl ((hasExpression_iff _).mpr ⟨a, b, r', hb, hx⟩)
  · exact Or.inr ((hasExpression_iff _).mpr ⟨a', b, r, hb, hy⟩)

theorem hasExpression_space {y : Str} (h : hasExpression (' ' :: y) = true) : hasExpression y = true := by
  rwa [hasExpression, head_not_call (by decide) expr_class_space, Option.isSome_none, Bool.false_or] at h

def classesSubset : List (List Nat) → List (List Nat) → Bool
  | [], [] => true
  | a :: as, b :: bs => a.all (fun n => b.contains n) && classesSubset as bs
  | _, _ => false

theorem matchClasses_mono : ∀ (a b : List (List Nat)) (s : Str), classesSubset a b = true →
    matchClasses a s = true → matchClasses b s = true := by
  intro a
  induction a with
  | nil =>
    intro b s hab _
    cases b with
    | nil => rfl
    | cons _ _ => simp [classesSubset] at hab
  | cons a0 as ih =>
    intro b s hab hm
    cases b with
    | nil => simp [classesSubset] at hab
    | cons b0 bs =>
      cases s with
      | nil => simp [matchClasses] at hm
      | cons c cs =>
        simp only [classesSubset, Bool.and_eq_true, List.all_eq_true] at hab
        simp only [matchClasses, Bool.and_eq_true] at hm ⊢
        refine ⟨?_, ih bs cs hab.2 hm.2⟩
        unfold inClass at hm ⊢
        have : c.toNat ∈ a0 := by simpa using hm.1
        exact hab.1 _ this

/-- every spelling of `expression` the browser side knows is matched by `_EXPRESSION_SEARCH` as
    compiled (re-checked against the generated classes) -/
theorem expression_classes_cover :
    classesSubset (wordClasses true expressionWord) SanClass.expressionClasses = true := by decide +kernel

theorem searchClasses_of_suffix (cls : List (List Nat)) : ∀ (a t : Str), matchClasses cls t = true →
    searchClasses cls (a ++ t) = true := by
  intro a
  induction a with
  | nil =>
    intro t h
    cases t with
    | nil => simpa [searchClasses] using h
    | cons c cs => simp [searchClasses, h]
  | cons a0 a' ih =>
    intro t h
    simp [searchClasses, ih t h]

theorem expressionSearch_of_hasExpression {v : Str} (h : hasExpression v = true) : expressionSearch v = true := by
  obtain ⟨a, b, r, ⟨w, sp, rfl, hw, _⟩, rfl⟩ := (hasExpression_iff _).mp h
  unfold expressionSearch
  rw [List.append_assoc]
  apply searchClasses_of_suffix
  have := (matchClasses_append _ w ((sp ++ ['(']) ++ r) hw).1
  have h2 := matchClasses_mono _ _ _ expression_classes_cover this
  simpa using h2

theorem mem_pyStrip {s : Str} {c : Char} (h : c ∈ s) (hc : isSpace c = false) : c ∈ pyStrip s := by
  obtain ⟨t1, t2, hs, h1, h2⟩ := Str.stripBy_decomp isSpace s
  change s = t1 ++ pyStrip s ++ t2 at hs
  rw [hs] at h
  simp at h
  rcases h with h | h | h
  · rw [List.all_eq_true.mp h1 c h] at hc; cases hc
  · exact h
  · rw [List.all_eq_true.mp h2 c h] at hc; cases hc

/-- hypothesis of the `expression(` and `url(` theorems: `sanitize_css` looks for calls in the VALUE of a declaration
    only, so a property name of `safe_css` with a `(` could hide one in front of the colon (`paren_not_in_propname`) -/
def CssNamesPlain (cfg : Cfg) : Prop := ∀ p ∈ cfg.safeCss, '(' ∉ p

theorem paren_not_in_propname {cfg : Cfg} (hcfg : CssNamesPlain cfg) {pn v : Str}
    (h : isSafeCss cfg (pyLower (pyStrip pn)) v = true) : '(' ∉ pn := by
  replace h : cfg.safeCss.contains (pyLower (pyStrip pn)) = true := (Bool.and_eq_true_iff.mp h).1
  intro hm
  have h1 : '(' ∈ pyStrip pn := mem_pyStrip hm isSpace_paren
  have h2 : '(' ∈ pyLower (pyStrip pn) := by
    unfold pyLower
    rw [List.mem_flatMap]
    refine ⟨'(', h1, ?_⟩
    rw [pyLowerChar_ascii (by decide)]
    decide
  exact hcfg _ (by simpa using h) h2

theorem decl_no_expression {cfg : Cfg} (hcfg : CssNamesPlain cfg) {d : Str} (hf : DeclFacts cfg d) :
    hasExpression d = false := by
  obtain ⟨pn, value, hsp, hsafe, hexp, _⟩ := hf.ex
  cases hh : hasExpression d with
  | false => rfl
  | true =>
    exfalso
    rw [(split1_eq hsp).1] at hh
    -- `:` is in no block, so a block of `pn ++ ':' :: value` lies in the name, which has no `(`, or in the value,
    -- where `_EXPRESSION_SEARCH` has looked
    rcases hasExpression_sep expr_colon hh with h | h
    · obtain ⟨a, b, r, hb, hs⟩ := (hasExpression_iff _).mp h
      apply paren_not_in_propname hcfg hsafe
      rw [hs]; simp [block_paren_mem hb]
    · rw [expressionSearch_of_hasExpression h] at hexp; cases hexp

theorem join_no_expression : ∀ (ds : List Str), (∀ d ∈ ds, hasExpression d = false) →
    hasExpression (Genshi.Str.join declSep ds) = false := by
  refine join_declSep_ind (P := fun s => hasExpression s = false) rfl (fun _ h => h) fun d r hd hr => ?_
  cases hh : hasExpression (d ++ ';' :: ' ' :: r) with
  | false => rfl
  | true =>
    rcases hasExpression_sep expr_semicolon hh with h1 | h2
    · rw [hd] at h1; cases h1
    · have := hasExpression_space h2
      rw [hr] at this; cases this

/-- **no `expression(` in the style text that `sanitize_css` emits** (the text the browser reads: `sanitizeCss_decode_fixed`) -/
theorem sanitizeCss_no_expression {cfg : Cfg} (hcfg : CssNamesPlain cfg) {x : Str} {decls : List Str}
    (h : sanitizeCss cfg x = .ok decls) : hasExpression (Genshi.Str.join declSep decls) = false :=
  join_no_expression decls (fun d hd' => decl_no_expression hcfg (sanitizeCss_facts h d hd'))

end Genshi.San
