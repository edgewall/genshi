/-
  C06 — CSS escapes: the text `sanitize_css` emits is *stable*: decoding it once more, as the
  browser does, changes nothing.  (`Stable` is a set of texts the browser-side
  `Spec.unescapeOnce` leaves alone, `unescapeOnce_stable`; the model's single decoding pass lands in it, and comment
  removal, splitting at `;`, stripping and joining with `; ` stay in it.)
-/
import Genshi.Lemmas.SanTotal
import Genshi.Model.SanSpec
import Genshi.Lemmas.StrStrip
set_option linter.unusedSimpArgs false
namespace Genshi.San
open Genshi.Gen Genshi.San.Spec

/-- characters after which a backslash is left alone by the browser-side decoder -/
def keptAfter (d : Char) : Bool := keepEscaped d || isCssNewline d

/-- the scan of the browser-side decoder without its output; the flag: the character in front was a backslash that
    starts an escape (it is left alone only before a `keptAfter` character or at the very end).  The lemmas below
    are inductions over the text for both states at once, so none of them looks two characters ahead. -/
def stable : Bool → Str → Bool
  | _, [] => true
  | true, d :: r => keptAfter d && stable false r
  | false, c :: r => stable (c = '\\') r

/-- texts on which `Spec.unescapeOnce` is the identity (`unescapeOnce_stable`) -/
def Stable (s : Str) : Prop := stable false s = true

theorem Stable.nil : Stable [] := rfl
theorem Stable.last : Stable ['\\'] := rfl
theorem Stable.plain (c : Char) (cs : Str) (hc : c ≠ '\\') (h : Stable cs) : Stable (c :: cs) := by
  rw [Stable, stable, decide_eq_false hc]; exact h
theorem Stable.kept (d : Char) (r : Str) (hd : keptAfter d = true) (h : Stable r) : Stable ('\\' :: d :: r) := by
  rw [Stable, stable, decide_eq_true rfl, stable, hd]; exact h
theorem Stable.tail {c : Char} {cs : Str} (h : Stable (c :: cs)) (hc : c ≠ '\\') : Stable cs := by
  rwa [Stable, stable, decide_eq_false hc] at h

/-- the state behind one character -/
theorem stable_cons {p : Bool} {c : Char} {r : Str} (h : stable p (c :: r) = true) :
    stable (!p && c = '\\') r = true := by
  cases p
  · exact h
  · exact (Bool.and_eq_true_iff.mp h).2

def keptChars : List Char := ['\\', '\'', '"', '{', '}', ';', ':', '(', ')', '#', '*', '\n', '\r', '\x0c']

theorem keptAfter_mem {d : Char} (h : keptAfter d = true) : d ∈ keptChars := by
  simp only [keptAfter, keepEscaped, isCssNewline, Bool.or_eq_true, decide_eq_true_eq] at h
  simpa only [keptChars, List.mem_cons, List.not_mem_nil, or_false, or_assoc] using h

theorem keptAfter_not_hex {d : Char} (h : keptAfter d = true) : isHex d = false :=
  (by decide : ∀ d ∈ keptChars, isHex d = false) d (keptAfter_mem h)

theorem unescapeOnceGo_stable : ∀ (f : Nat) (s : Str), Stable s → s.length < f → unescapeOnceGo f s = s
  | 0, _, _, hf => nomatch hf
  | _ + 1, [], _, _ => rfl
  | f + 1, c :: cs, hs, hf => by
    have hf' := Nat.lt_of_succ_lt_succ hf
    by_cases hc : c = '\\'
    · subst hc
      cases cs with
      | nil => rfl
      | cons d r =>
        obtain ⟨hd, hr⟩ := Bool.and_eq_true_iff.mp (show (keptAfter d && stable false r) = true from hs)
        have hx : (takeHex 6 (d :: r)).1 = [] := by rw [takeHex, if_neg (by rw [keptAfter_not_hex hd]; nofun)]
        rw [unescapeOnceGo, if_pos rfl]
        simp only [hx, List.isEmpty_nil, Bool.not_true, Bool.false_eq_true, ↓reduceIte]
        by_cases hn : isCssNewline d = true
        · -- the scan goes on at the newline, which is no backslash
          rw [if_pos hn, unescapeOnceGo_stable f (d :: r) (.plain d r (by rintro rfl; cases hn) hr) hf']
        · have hk : keepEscaped d = true := (Bool.or_eq_true_iff.mp hd).resolve_right hn
          rw [if_neg hn, if_pos hk, unescapeOnceGo_stable f r hr (Nat.lt_of_succ_lt hf')]
    · rw [unescapeOnceGo.eq_def]; simp only [if_neg hc]
      rw [unescapeOnceGo_stable f cs (hs.tail hc) hf']

theorem unescapeOnce_stable {s : Str} (hs : Stable s) : unescapeOnce s = s :=
  unescapeOnceGo_stable _ s hs (Nat.lt_succ_self _)

theorem takeUpTo_snd_length (p : Char → Bool) (n : Nat) (s : Str) : (takeUpTo p n s).2.length ≤ s.length := by
  fun_induction takeUpTo p n s
  case case3 hp a b hab ih => rw [hab] at ih; exact Nat.le_succ_of_le ih
  all_goals exact Nat.le_refl _

theorem takeUpTo_head_false {p : Char → Bool} {n : Nat} {d : Char} {r : Str}
    (h : (takeUpTo p (n + 1) (d :: r)).1 = []) : p d = false := by
  unfold takeUpTo at h
  by_cases hp : p d = true
  · simp [hp] at h
  · simpa using hp

theorem dropOneSpace_length (s : Str) : (dropOneSpace s).length ≤ s.length := by
  cases s with
  | nil => simp [dropOneSpace]
  | cons d r =>
    unfold dropOneSpace
    by_cases h : isReSpace d = true
    · simp [h]
    · simp [h]

theorem excluded_kept : ∀ n ∈ SanClass.escapeExcluded, n ∉ SanClass.escapeHex →
    keptAfter (Char.ofNat n) = true ∧ n ≠ 92 := by decide +kernel

theorem backslash_not_excluded : inClass SanClass.escapeExcluded '\\' = false := by decide

theorem excluded_kept_char {d : Char} (he : inClass SanClass.escapeExcluded d = true)
    (hh : inClass SanClass.escapeHex d = false) : keptAfter d = true ∧ d ≠ '\\' := by
  unfold inClass at he hh
  have h1 : d.toNat ∈ SanClass.escapeExcluded := by simpa using he
  have h2 : d.toNat ∉ SanClass.escapeHex := by simpa using hh
  have := excluded_kept _ h1 h2
  rw [Char.ofNat_toNat] at this
  refine ⟨this.1, ?_⟩
  intro e; subst e; exact this.2 rfl

/-- the escape decoder never fails; what it yields is stable (each case of the scan emits a `Stable` shape) and begins
    with the first character of the text if that is no backslash -/
theorem unescapeGo_spec (f : Nat) (s : Str) : ∃ o, unescapeGo f s = .ok o ∧
    (s.length < f → Stable o ∧ ∀ d r, s = d :: r → d ≠ '\\' → ∃ t, o = d :: t) := by
  fun_induction unescapeGo f s
  case case1 => exact ⟨_, rfl, fun h => nomatch h⟩
  case case2 => exact ⟨_, rfl, fun _ => ⟨.nil, nofun⟩⟩
  case case3 f cs hr hne ih =>
    -- a hex escape: its replacement (a kept backslash pair or one plain character), then the scan behind `\s?`
    obtain ⟨t, ht, hst⟩ := ih
    obtain ⟨x, hx, hsh⟩ := cssHexRepl_spec (fun h0 => by rw [h0] at hne; cases hne) (takeUpTo_all _ 6 cs)
    refine ⟨x ++ t, by rw [hx, ht]; rfl, fun h => ⟨?_, fun d r e hd => absurd (List.cons.inj e).1.symm hd⟩⟩
    have hst := (hst (by
      have h1 := dropOneSpace_length hr.2
      have h2 : hr.2.length ≤ cs.length := takeUpTo_snd_length (inClass SanClass.escapeHex) 6 cs
      simp only [List.length_cons] at h; omega)).1
    rcases hsh with hp | ⟨y, hy, hyb⟩
    · rw [hp]; exact .kept '\\' t (by decide) hst
    · rw [hy]; exact .plain y t hyb hst
  case case4 f d r hx _ _ ih =>
    -- a backslash before a character outside the excluded class: that character alone, a backslash doubled
    obtain ⟨t, ht, hst⟩ := ih
    refine ⟨_, by rw [ht]; rfl, fun h => ⟨?_, fun d r e hd => absurd (List.cons.inj e).1.symm hd⟩⟩
    have hst := (hst (by simp only [List.length_cons] at h; omega)).1
    by_cases hd : d = '\\'
    · rw [if_pos hd]; exact .kept '\\' t (by decide) hst
    · rw [if_neg hd]; exact .plain d t hd hst
  case case5 f d r hx hr he ih =>
    -- the scan goes on at `d`, which is kept behind a backslash and is none itself
    obtain ⟨t, ht, hst⟩ := ih
    have hnh : inClass SanClass.escapeHex d = false := takeUpTo_head_false (by simpa using he)
    obtain ⟨hk, hdb⟩ := excluded_kept_char (by simpa using hx) hnh
    refine ⟨_, by rw [ht]; rfl, fun h => ⟨?_, fun d r e hd => absurd (List.cons.inj e).1.symm hd⟩⟩
    obtain ⟨hs, hh⟩ := hst (by simp only [List.length_cons] at h ⊢; omega)
    obtain ⟨t', rfl⟩ := hh d r rfl hdb
    exact .kept d t' hk (hs.tail hdb)
  -- a backslash at the very end; then: no backslash
  case case6 => exact ⟨_, rfl, fun _ => ⟨.last, fun d r e hd => absurd (List.cons.inj e).1.symm hd⟩⟩
  case case7 f c cs hc ih =>
    obtain ⟨t, ht, hst⟩ := ih
    exact ⟨c :: t, by rw [ht]; rfl, fun h => ⟨.plain c t hc (hst (Nat.lt_of_succ_lt_succ h)).1,
      fun d r e _ => ⟨t, by rw [(List.cons.inj e).1]⟩⟩⟩

theorem replaceUnicodeEscapes_ok (s : Str) : ∃ r, replaceUnicodeEscapes s = .ok r :=
  (unescapeGo_spec _ _).imp fun _ h => h.1

theorem replaceUnicodeEscapes_stable {s t : Str} (h : replaceUnicodeEscapes s = .ok t) : Stable t :=
  (of_spec (unescapeGo_spec _ _) h (Nat.lt_succ_self _)).1

theorem sanitizeCss_ok (cfg : Cfg) (s : Str) : ∃ r, sanitizeCss cfg s = .ok r := by
  obtain ⟨t, ht⟩ := replaceUnicodeEscapes_ok s
  unfold sanitizeCss
  simp [ht]

/-- a text the decoder leaves alone may be cut anywhere: a backslash at the very end stands for itself -/
theorem stable_prefix (p : Bool) (a t : Str) (h : stable p (a ++ t) = true) : stable p a = true := by
  induction a generalizing p with
  | nil => rw [stable]
  | cons c a ih =>
    cases p
    · rw [stable]; exact ih _ h
    · rw [List.cons_append, stable, Bool.and_eq_true] at h
      rw [stable, h.1, ih false h.2]; rfl

theorem Stable.prefix {s : Str} (hs : Stable s) {a t : Str} (h : s = a ++ t) : Stable a :=
  stable_prefix false a t (h ▸ hs)

/-- the text after a removed comment is scanned afresh (neither `*` nor `/` is a backslash) -/
theorem stable_afterCommentEnd (dotall : Bool) {s rest : Str} (p : Bool) (hs : stable p s = true)
    (h : afterCommentEnd dotall s = some rest) : Stable rest := by
  fun_induction afterCommentEnd dotall s generalizing p
  case case1 => cases h
  case case2 r' => cases h; simpa [Stable] using stable_cons (stable_cons hs)
  case case3 hn _ => rw [if_pos hn] at h; cases h
  case case4 hn _ ih => rw [if_neg hn] at h; exact ih _ (stable_cons hs) h

theorem stripCommentsGo_stable (dotall : Bool) (f : Nat) (s : Str) (p : Bool) (hs : stable p s = true) :
    stable p (stripCommentsGo dotall f s) = true := by
  fun_induction stripCommentsGo dotall f s generalizing p
  case case1 => exact hs
  case case2 => exact hs
  case case3 f r' rest ha ih =>
    -- a `/` is never an escaped character
    cases p
    · exact ih false (stable_afterCommentEnd dotall _ (stable_cons (stable_cons hs)) ha)
    · exact absurd (Bool.and_eq_true_iff.mp hs).1 (by decide)
  case case4 f r' ha ih =>
    cases p
    · exact ih false hs
    · exact absurd (Bool.and_eq_true_iff.mp hs).1 (by decide)
  case case5 f c cs _ ih =>
    cases p
    · exact ih _ hs
    · rw [stable, Bool.and_eq_true] at hs ⊢; exact ⟨hs.1, ih false hs.2⟩

theorem splitOn_ne_nil (sep : Char) (s : Str) : splitOn sep s ≠ [] := by
  cases s with
  | nil => simp [splitOn]
  | cons c cs =>
    unfold splitOn
    by_cases h : c = sep
    · simp [h]
    · simp only [h, ↓reduceIte]
      split <;> simp

theorem splitOn_cons_ne {sep c : Char} (h : c ≠ sep) (cs : Str) :
    ∃ p ps, splitOn sep cs = p :: ps ∧ splitOn sep (c :: cs) = (c :: p) :: ps := by
  cases hs : splitOn sep cs with
  | nil => exact absurd hs (splitOn_ne_nil sep cs)
  | cons p ps =>
    refine ⟨p, ps, rfl, ?_⟩
    conv => lhs; unfold splitOn
    simp [h, hs]

theorem splitOn_cons_eq (sep : Char) (cs : Str) : splitOn sep (sep :: cs) = [] :: splitOn sep cs := by
  conv => lhs; unfold splitOn
  simp

theorem lstripBy_stable {p : Char → Bool} (hp : ∀ c, p c = true → c ≠ '\\') {s : Str} (hs : Stable s) :
    Stable (Genshi.Str.lstripBy p s) := by
  induction s with
  | nil => simpa [Genshi.Str.lstripBy] using hs
  | cons c cs ih =>
    unfold Genshi.Str.lstripBy
    by_cases h : p c = true
    · simp only [h, ↓reduceIte]
      exact ih (hs.tail (hp c h))
    · simpa [h] using hs

theorem rstripBy_stable {p : Char → Bool} {s : Str} (hs : Stable s) : Stable (Genshi.Str.rstripBy p s) := by
  obtain ⟨t, ht, _⟩ := Str.rstripBy_decomp p s
  exact hs.prefix ht

theorem isSpace_ne_backslash : ∀ c, isSpace c = true → c ≠ '\\' := by
  intro c h e; subst e; revert h; decide

theorem pyStrip_stable {s : Str} (hs : Stable s) : Stable (pyStrip s) := by
  unfold pyStrip Genshi.Str.stripBy
  exact rstripBy_stable (lstripBy_stable isSpace_ne_backslash hs)

/-- the pieces between semicolons, each with its semicolon behind it, are the text and one more semicolon -/
theorem splitOn_flatMap : ∀ s : Str, (splitOn ';' s).flatMap (· ++ [';']) = s ++ [';']
  | [] => rfl
  | c :: cs => by
    by_cases h : c = ';'
    · rw [h, splitOn_cons_eq, List.flatMap_cons, splitOn_flatMap cs]; rfl
    · obtain ⟨p, ps, hp, hsp⟩ := splitOn_cons_ne h cs
      rw [hsp, List.flatMap_cons, List.cons_append, List.cons_append, ← List.flatMap_cons (f := (· ++ [';'])), ← hp,
        splitOn_flatMap cs]; rfl

/-- `;` is left alone after a backslash and is no backslash: what follows it is scanned afresh -/
theorem stable_semicolon (p : Bool) (x y : Str) : stable p (x ++ ';' :: y) = (stable p x && stable false y) := by
  induction x generalizing p with
  | nil => cases p <;> (rw [List.nil_append, stable, stable]; rfl)
  | cons c x ih =>
    cases p
    · rw [List.cons_append, stable, stable, ih]
    · rw [List.cons_append, stable, stable, ih, Bool.and_assoc]

theorem stable_semicolon_iff {x y : Str} : Stable (x ++ ';' :: y) ↔ Stable x ∧ Stable y := by
  rw [Stable, stable_semicolon, Bool.and_eq_true]; rfl

theorem stable_flatMap : ∀ ps : List Str, Stable (ps.flatMap (· ++ [';'])) ↔ ∀ p ∈ ps, Stable p
  | [] => iff_of_true .nil nofun
  | p :: ps => by
    rw [List.flatMap_cons, List.append_assoc, List.singleton_append, stable_semicolon_iff, stable_flatMap ps,
      List.forall_mem_cons]

theorem splitOn_stable {s : Str} (hs : Stable s) : ∀ p ∈ splitOn ';' s, Stable p :=
  (stable_flatMap _).mp (by rw [splitOn_flatMap]; exact stable_semicolon_iff.mpr ⟨hs, .nil⟩)

theorem join_declSep_ind {Q P : Str → Prop} (hnil : P []) (h1 : ∀ d, Q d → P d)
    (hstep : ∀ d r, Q d → P r → P (d ++ ';' :: ' ' :: r)) :
    ∀ ds : List Str, (∀ d ∈ ds, Q d) → P (Genshi.Str.join declSep ds)
  | [], _ => hnil
  | [d], h => h1 d (h d (List.mem_singleton.mpr rfl))
  | d :: d' :: ds, h => by
    rw [Str.join_cons_cons, List.append_assoc]
    exact hstep d _ (h d List.mem_cons_self)
      (join_declSep_ind hnil h1 hstep (d' :: ds) fun x hx => h x (List.mem_cons_of_mem _ hx))

theorem cssDecl_some {cfg : Cfg} {piece d : Str} (h : cssDecl cfg piece = some d) :
    ∃ pn value, split1 ':' (pyStrip piece) = (pn, some value) ∧
      isSafeCss cfg (pyLower (pyStrip pn)) (pyStrip value) = true ∧ expressionSearch value = false ∧
      (∀ g ∈ urlFind value, isSafeUri cfg g = true) ∧ d = pyStrip (pyStrip piece) := by
  unfold cssDecl at h
  dsimp only at h
  by_cases h0 : (pyStrip piece).isEmpty = true
  · rw [if_pos h0] at h; cases h
  rw [if_neg h0] at h
  rcases hsp : split1 ':' (pyStrip piece) with ⟨pn, _ | value⟩ <;> rw [hsp] at h <;> dsimp only at h
  · cases h
  by_cases h1 : (!isSafeCss cfg (pyLower (pyStrip pn)) (pyStrip value)) = true
  · rw [if_pos h1] at h; cases h
  by_cases h2 : expressionSearch value = true
  · rw [if_neg h1, if_pos h2] at h; cases h
  by_cases h3 : ((urlFind value).any fun g => !isSafeUri cfg g) = true
  · rw [if_neg h1, if_neg h2, if_pos h3] at h; cases h
  rw [if_neg h1, if_neg h2, if_neg h3] at h
  refine ⟨pn, value, rfl, by simpa using h1, by simpa using h2, fun g hg => ?_, (Option.some.inj h).symm⟩
  cases hs : isSafeUri cfg g with
  | true => rfl
  | false => exact absurd (List.any_eq_true.mpr ⟨g, hg, by simp [hs]⟩) h3

theorem sanitizeCss_eq {cfg : Cfg} {x : Str} {decls : List Str} (h : sanitizeCss cfg x = .ok decls) :
    ∃ t, replaceUnicodeEscapes x = .ok t ∧
      decls = (splitOn ';' (stripCssComments t)).filterMap (cssDecl cfg) := by
  unfold sanitizeCss at h
  cases ht : replaceUnicodeEscapes x with
  | error e => rw [ht] at h; cases h
  | ok t => rw [ht] at h; exact ⟨t, rfl, (Except.ok.inj h).symm⟩

/-- **the text `sanitize_css` emits is stable**: decoding its escapes again changes nothing -/
theorem sanitizeCss_stable {cfg : Cfg} {x : Str} {decls : List Str} (h : sanitizeCss cfg x = .ok decls) :
    Stable (Genshi.Str.join declSep decls) := by
  obtain ⟨t, ht, rfl⟩ := sanitizeCss_eq h
  have hst : Stable (stripCssComments t) := by
    rw [stripCssComments, stripCommentsFix_eq]
    exact fixN_inv (fun s hs => stripCommentsGo_stable _ _ s false hs) _ t (replaceUnicodeEscapes_stable ht)
  refine join_declSep_ind .nil (fun _ h => h)
    (fun _ _ hd hr => stable_semicolon_iff.mpr ⟨hd, .plain ' ' _ (by decide) hr⟩) _ fun d hd => ?_
  obtain ⟨piece, hpiece, hdecl⟩ := List.mem_filterMap.mp hd
  obtain ⟨_, _, _, _, _, _, rfl⟩ := cssDecl_some hdecl
  exact pyStrip_stable (pyStrip_stable (splitOn_stable hst piece hpiece))

end Genshi.San
