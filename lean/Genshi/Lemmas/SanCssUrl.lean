/-
  C06 — `url(` in the style text `sanitize_css` emits: every argument, as the browser-side
  reader finds it in the joined declarations, has no scheme or a safe one (`GoodArg`).  The reader
  may run an unclosed argument of one declaration on across the `; ` into the next; `is_safe_uri`
  saw only the part `g` inside the declaration.  That is harmless: `;` is neither white space nor
  a quote nor a scheme character, so the scheme read in `g ++ ';' :: m` is the one read in `g`
  (`good_of_safe`), and `urlArgs_join_step` follows the reader across one separator.
-/
import Genshi.Lemmas.SanCssSafe
set_option linter.unusedSimpArgs false
namespace Genshi.San
open Genshi.Gen Genshi.San.Spec

theorem callAt_shorter {wide : Bool} {word s r : Str} (h : callAt wide word s = some r) : r.length < s.length := by
  obtain ⟨b, hb, hs⟩ := callAt_block h
  have := block_ne_nil hb
  rw [hs]; cases b with
  | nil => exact absurd rfl this
  | cons _ _ => simp; omega

theorem dropWhile_length_le (p : Char → Bool) (l : Str) : (l.dropWhile p).length ≤ l.length :=
  (List.dropWhile_suffix p).length_le

theorem urlArgsGo_fuel : ∀ (f : Nat) (s : Str), s.length < f → urlArgsGo f s = urlArgsGo (s.length + 1) s := by
  intro f
  induction f using Nat.strongRecOn with
  | _ f ih =>
    intro s hf
    cases f with
    | zero => simp at hf
    | succ f =>
      cases s with
      | nil => rfl
      | cons c cs =>
        have hcs : cs.length < f := by simp at hf; omega
        simp only [urlArgsGo, List.length_cons]
        cases hc : callAt false urlWord (c :: cs) with
        | none =>
          simp only
          rw [ih f (by omega) cs hcs]
        | some r =>
          simp only
          have hr := callAt_shorter hc
          have hd := dropWhile_length_le (· ≠ ')') r
          have hr' : r.length ≤ cs.length := Nat.le_of_lt_succ hr
          by_cases he : (r.takeWhile (· ≠ ')')).isEmpty = true
          · rw [if_pos he, if_pos he, ih f (by omega) cs hcs]
          · rw [if_neg he, if_neg he, ih f (by omega) _ (by omega), ih (cs.length + 1) (by omega) _ (by omega)]

theorem urlArgs_nil : urlArgs [] = [] := rfl

theorem urlArgs_cons (c : Char) (cs : Str) : urlArgs (c :: cs) =
    match callAt false urlWord (c :: cs) with
    | some r =>
      if (r.takeWhile (· ≠ ')')).isEmpty then urlArgs cs
      else r.takeWhile (· ≠ ')') :: urlArgs (r.dropWhile (· ≠ ')'))
    | none => urlArgs cs := by
  unfold urlArgs
  simp only [urlArgsGo, List.length_cons]
  cases hc : callAt false urlWord (c :: cs) with
  | none => rfl
  | some r =>
    simp only
    have hr := callAt_shorter hc
    have hd := dropWhile_length_le (· ≠ ')') r
    by_cases he : (r.takeWhile (· ≠ ')')).isEmpty = true
    · rw [if_pos he, if_pos he]
    · rw [if_neg he, if_neg he, urlArgsGo_fuel (cs.length + 1) _ (by simp at hr; omega)]

theorem urlArgs_cons_none {c : Char} {cs : Str} (h : callAt false urlWord (c :: cs) = none) :
    urlArgs (c :: cs) = urlArgs cs := by
  rw [urlArgs_cons, h]

theorem urlArgs_cons_empty {c : Char} {cs r : Str} (h : callAt false urlWord (c :: cs) = some r)
    (he : (r.takeWhile (· ≠ ')')).isEmpty = true) : urlArgs (c :: cs) = urlArgs cs := by
  rw [urlArgs_cons, h]; simp only [he, ↓reduceIte]

theorem urlArgs_cons_some {c : Char} {cs r : Str} (h : callAt false urlWord (c :: cs) = some r)
    (he : (r.takeWhile (· ≠ ')')).isEmpty = false) :
    urlArgs (c :: cs) = r.takeWhile (· ≠ ')') :: urlArgs (r.dropWhile (· ≠ ')')) := by
  rw [urlArgs_cons, h]; simp only [he, Bool.false_eq_true, ↓reduceIte]

theorem matchClasses_url (s : Str) :
    matchClasses SanClass.urlClasses s = matchClasses (wordClasses false urlWord) s := by
  rw [Bool.eq_iff_iff]
  exact ⟨matchClasses_mono _ _ s (by decide +kernel), matchClasses_mono _ _ s (by decide +kernel)⟩

theorem dropClasses_drop : ∀ (cls : List (List Nat)) (s : Str), dropClasses cls s = s.drop cls.length := by
  intro cls
  induction cls with
  | nil => intro s; simp [dropClasses]
  | cons cl cls ih =>
    intro s
    cases s with
    | nil => simp [dropClasses]
    | cons c cs => simp [dropClasses, ih]

theorem dropClasses_url (s : Str) :
    dropClasses SanClass.urlClasses s = dropClasses (wordClasses false urlWord) s := by
  rw [dropClasses_drop, dropClasses_drop]
  have : SanClass.urlClasses.length = (wordClasses false urlWord).length := by decide
  rw [this]

theorem isReSpace_eq : isReSpace = isSpace := by
  funext c
  unfold isReSpace isSpace
  rw [show SanClass.reSpaceRanges = SanClass.spaceRanges by decide +kernel]

theorem urlMatchAt_eq (s : Str) : urlMatchAt s =
    match callAt false urlWord s with
    | some r =>
      if (r.takeWhile (· ≠ ')')).isEmpty then none
      else some (r.takeWhile (· ≠ ')'), r.dropWhile (· ≠ ')'))
    | none => none := by
  unfold urlMatchAt callAt
  rw [matchClasses_url, dropClasses_url, isReSpace_eq]
  by_cases hm : matchClasses (wordClasses false urlWord) s = true
  · simp only [hm, ↓reduceIte]
    split <;> simp_all
  · simp [hm]

theorem urlFindGo_eq : ∀ (f : Nat) (s : Str), urlFindGo f s = urlArgsGo f s := by
  intro f
  induction f with
  | zero => intro s; rfl
  | succ f ih =>
    intro s
    cases s with
    | nil => rfl
    | cons c cs =>
      simp only [urlFindGo, urlArgsGo, urlMatchAt_eq]
      cases hc : callAt false urlWord (c :: cs) with
      | none => simp [ih]
      | some r =>
        simp only
        by_cases he : (r.takeWhile (· ≠ ')')).isEmpty = true
        · simp only [he, ↓reduceIte, ih]
        · simp only [he, Bool.false_eq_true, ↓reduceIte, ih]

/-- the model of `_URL_FINDITER` finds what the browser-side reader `Spec.urlArgs` finds: the two scanners differ in
    their tables only (`matchClasses_url`, `dropClasses_url`, `isReSpace_eq`, each a finite check); from here on the
    file reasons about `urlArgs` -/
theorem urlFind_eq (v : Str) : urlFind v = urlArgs v := urlFindGo_eq _ v

theorem url_semicolon : Outside false urlWord ';' := ⟨by decide +kernel, by decide, by decide⟩
theorem url_colon : Outside false urlWord ':' := ⟨by decide +kernel, by decide, by decide⟩
theorem url_close : Outside false urlWord ')' := ⟨by decide +kernel, by decide, by decide⟩
theorem url_class_space : ∀ cl ∈ wordClasses false urlWord, inClass cl ' ' = false := by decide +kernel

/-- what the reader finds behind the first `)` of a text it finds in the whole text, too: the head of a call holds no
    `)`, so an argument that begins before that `)` ends at it, and the scan goes on behind it -/
theorem urlArgs_after_close : ∀ (y : Str), ∀ arg ∈ urlArgs (y.dropWhile (· ≠ ')')), arg ∈ urlArgs y
  | [], _, h => h
  | c :: y', arg, h => by
    by_cases hc : c = ')'
    · subst hc
      simpa [List.dropWhile] using h
    · have hdw : (c :: y').dropWhile (· ≠ ')') = y'.dropWhile (· ≠ ')') := by
        simp [List.dropWhile, hc]
      cases hcall : callAt false urlWord (c :: y') with
      | none =>
        rw [urlArgs_cons_none hcall]
        exact urlArgs_after_close y' arg (by rw [← hdw]; exact h)
      | some r =>
        by_cases he : (r.takeWhile (· ≠ ')')).isEmpty = true
        · rw [urlArgs_cons_empty hcall he]
          exact urlArgs_after_close y' arg (by rw [← hdw]; exact h)
        · have he' : (r.takeWhile (· ≠ ')')).isEmpty = false := by simpa using he
          rw [urlArgs_cons_some hcall he']
          obtain ⟨b, hb, hs⟩ := callAt_block hcall
          have : (c :: y').dropWhile (· ≠ ')') = r.dropWhile (· ≠ ')') := by
            rw [hs]
            apply List.dropWhile_append_of_pos
            intro x hx
            simpa using fun e : x = ')' => block_not_mem hb url_close (e ▸ hx)
          rw [this] at h
          exact List.mem_cons_of_mem _ h

theorem callAt_before_sep {wide : Bool} {word x y r : Str} {c sep : Char} (hsep : Outside wide word sep)
    (h : callAt wide word (c :: x ++ sep :: y) = some r) :
    ∃ r1, callAt wide word (c :: x) = some r1 ∧ r = r1 ++ sep :: y := by
  obtain ⟨b, hb, hs⟩ := callAt_block h
  have hs' : (c :: x) ++ sep :: y = [] ++ b ++ r := by simpa using hs
  rcases occ_split (block_not_mem hb hsep) hs' with ⟨r', hx, hr⟩ | ⟨a', _, ha⟩
  · exact ⟨r', by rw [hx]; simpa using block_callAt (r := r') hb, hr⟩
  · cases ha

theorem urlArgs_skip_propname : ∀ (pn value : Str), '(' ∉ pn → urlArgs (pn ++ ':' :: value) = urlArgs value := by
  intro pn
  induction pn with
  | nil =>
    intro value _
    simp only [List.nil_append]
    exact urlArgs_cons_none (head_not_call (by decide) url_colon.1 value)
  | cons c pn' ih =>
    intro value hp
    have hp' : '(' ∉ pn' := fun hm => hp (by simp [hm])
    simp only [List.cons_append]
    have hnone : callAt false urlWord (c :: (pn' ++ ':' :: value)) = none := by
      cases hc : callAt false urlWord (c :: (pn' ++ ':' :: value)) with
      | none => rfl
      | some r =>
        -- a call that begins in the name has its `(` there
        obtain ⟨r1, hr1, _⟩ := callAt_before_sep url_colon (by simpa using hc)
        obtain ⟨b, hb, hs⟩ := callAt_block hr1
        exact absurd (hs ▸ List.mem_append_left _ (block_paren_mem hb)) hp
    rw [urlArgs_cons_none hnone]
    exact ih value hp'

def GoodArg (cfg : Cfg) (arg : Str) : Prop :=
  ∀ sch, browserScheme (trimArg arg) = some sch → sch ∈ cfg.safeSchemes

theorem cssOk_iff {cfg : Cfg} {v : Str} : cssOk cfg.safeSchemes v = true ↔
    hasExpression (cssDecode v) = false ∧ ∀ arg ∈ urlArgs (cssDecode v), GoodArg cfg arg := by
  unfold cssOk GoodArg schemeOk
  simp only [Bool.and_eq_true, Bool.not_eq_true', List.all_eq_true]
  refine and_congr_right fun _ => forall₂_congr fun arg _ => ?_
  cases browserScheme (trimArg arg) <;> simp

theorem trimArg_decomp (a : Str) : ∃ lead trail, a = lead ++ trimArg a ++ trail ∧
    ∀ c ∈ lead, isSpace c = true ∨ isQuote c = true := by
  unfold trimArg pyStrip
  obtain ⟨s1, e1, h1, hs1, _⟩ := Str.stripBy_decomp isSpace a
  obtain ⟨s2, e2, h2, hs2, _⟩ := Str.stripBy_decomp isQuote (Genshi.Str.stripBy isSpace a)
  obtain ⟨s3, e3, h3, hs3, _⟩ := Str.stripBy_decomp isSpace (Genshi.Str.stripBy isQuote (Genshi.Str.stripBy isSpace a))
  refine ⟨s1 ++ s2 ++ s3, e3 ++ e2 ++ e1, ?_, ?_⟩
  · conv => lhs; rw [h1, h2, h3]
    simp [List.append_assoc]
  · intro c hc
    simp at hc
    rcases hc with hc | hc | hc
    · exact Or.inl (List.all_eq_true.mp hs1 c hc)
    · exact Or.inr (List.all_eq_true.mp hs2 c hc)
    · exact Or.inl (List.all_eq_true.mp hs3 c hc)

theorem split1_colon_before_semicolon {g m pw rw : Str} (h : split1 ':' (g ++ ';' :: m) = (pw, some rw))
    (hs : ';' ∉ pw) : ∃ r', split1 ':' g = (pw, some r') := by
  rcases split1_cases ':' g with ⟨hn, _⟩ | ⟨a, b, _, _, e⟩
  · rw [split1_append_left _ hn, split1, if_neg (by decide)] at h
    rw [← (Prod.mk.inj h).1] at hs
    exact absurd (List.mem_append_right _ List.mem_cons_self) hs
  · cases (split1_append_right _ e).symm.trans h
    exact ⟨b, e⟩

theorem quote_space_not_kept {c : Char} (h : isSpace c = true ∨ isQuote c = true) : keepInScheme c = false := by
  rcases h with h | h
  · apply keep_of_isWsCtl
    unfold isWsCtl; simp [h]
  · unfold isQuote at h
    simp only [Bool.or_eq_true, decide_eq_true_eq] at h
    unfold keepInScheme
    rcases h with rfl | rfl <;> rw [isAlnum_below_zero (by decide)] <;> rfl

theorem good_of_safe {cfg : Cfg} {g arg : Str} (hsafe : isSafeUri cfg g = true)
    (harg : arg = g ∨ ∃ m, arg = g ++ ';' :: m) : GoodArg cfg arg := by
  intro sch hb
  obtain ⟨lead, trail, hdec, hlead⟩ := trimArg_decomp arg
  obtain ⟨pre, r, hsp, hlow, hall⟩ := browserScheme_pre hb
  have hcl : ':' ∉ lead := by
    intro hm
    rcases hlead _ hm with h | h
    · revert h; decide
    · revert h; decide
  have hsplit : split1 ':' arg = (lead ++ pre, some (r ++ trail)) := by
    rw [hdec, List.append_assoc, split1_append_left _ hcl, split1_append_right trail hsp]
  have hnot : ∀ x, isWsCtl x = false → isSchemeChar x = false →
      isSpace x = false → isQuote x = false → x ∉ lead ++ pre := by
    intro x h1 h2 h4 h5 hm
    simp at hm
    rcases hm with hm | hm
    · rcases hlead _ hm with h | h
      · rw [h4] at h; cases h
      · rw [h5] at h; cases h
    · exact not_mem_pre hall h1 h2 hm
  have hhash : '#' ∉ lead ++ pre := hnot '#' (by decide) (by decide) (by decide) (by decide)
  have hsemi : ';' ∉ lead ++ pre := hnot ';' (by decide) (by decide) (by decide) (by decide)
  have hfil : (lead ++ pre).filter keepInScheme = pre.filter keepInScheme := by
    rw [List.filter_append]
    have : lead.filter keepInScheme = [] := by
      apply List.filter_eq_nil_iff.mpr
      intro c hc
      simp [quote_space_not_kept (hlead c hc)]
    rw [this]; simp
  have hg : ∃ r', split1 ':' g = (lead ++ pre, some r') := by
    rcases harg with rfl | ⟨m, rfl⟩
    · exact ⟨_, hsplit⟩
    · exact split1_colon_before_semicolon hsplit hsemi
  obtain ⟨r', hr'⟩ := hg
  rw [isSafeUri_pre hr' hhash, hfil, hlow] at hsafe
  simpa using hsafe

theorem callAt_append {wide : Bool} {word s r : Str} (t : Str) (h : callAt wide word s = some r) :
    callAt wide word (s ++ t) = some (r ++ t) := by
  obtain ⟨b, hb, rfl⟩ := callAt_block h
  rw [List.append_assoc]
  exact block_callAt hb

theorem callAt_none_of_append {x t : Str} (h : callAt false urlWord (x ++ t) = none) :
    callAt false urlWord x = none := by
  cases hc : callAt false urlWord x with
  | none => rfl
  | some r => rw [callAt_append t hc] at h; cases h

theorem takeWhile_append_of_neg {p : Char → Bool} : ∀ {l1 : Str} (l2 : Str), (∃ x ∈ l1, p x = false) →
    (l1 ++ l2).takeWhile p = l1.takeWhile p ∧ (l1 ++ l2).dropWhile p = l1.dropWhile p ++ l2 := by
  intro l1
  induction l1 with
  | nil => intro l2 h; obtain ⟨x, hx, _⟩ := h; simp at hx
  | cons c cs ih =>
    intro l2 h
    by_cases hp : p c = true
    · obtain ⟨x, hx, hpx⟩ := h
      simp at hx
      rcases hx with rfl | hx
      · rw [hp] at hpx; cases hpx
      · have := ih l2 ⟨x, hx, hpx⟩
        simp [List.takeWhile, List.dropWhile, hp, this.1, this.2]
    · simp [List.takeWhile, List.dropWhile, hp]

theorem takeWhile_all {p : Char → Bool} {l : Str} (h : ∀ z ∈ l, p z = true) : l.takeWhile p = l := by
  simpa using List.takeWhile_append_of_pos (l₂ := []) h

theorem urlArgs_join_step (cfg : Cfg) : ∀ (n : Nat) (x y : Str), x.length ≤ n →
    (∀ g ∈ urlArgs x, isSafeUri cfg g = true) → (∀ arg ∈ urlArgs y, GoodArg cfg arg) →
    ∀ arg ∈ urlArgs (x ++ ';' :: y), GoodArg cfg arg := by
  intro n
  induction n using Nat.strongRecOn with
  | _ n ih =>
    intro x y hl hx hy arg harg
    cases x with
    | nil =>
      simp only [List.nil_append] at harg
      rw [urlArgs_cons_none (head_not_call (by decide) url_semicolon.1 y)] at harg
      exact hy arg harg
    | cons c x' =>
      have hl' : x'.length < n := by simp at hl; omega
      simp only [List.cons_append] at harg
      cases hcall : callAt false urlWord (c :: (x' ++ ';' :: y)) with
      | none =>
        rw [urlArgs_cons_none hcall] at harg
        have hnx : callAt false urlWord (c :: x') = none :=
          callAt_none_of_append (t := ';' :: y) (by simpa using hcall)
        rw [urlArgs_cons_none hnx] at hx
        exact ih x'.length hl' x' y (Nat.le_refl _) hx hy arg harg
      | some r =>
        obtain ⟨r1, hr1, hr⟩ := callAt_before_sep url_semicolon (by simpa using hcall)
        have hr1len := callAt_shorter hr1
        by_cases hclose : ∃ z ∈ r1, (decide (z ≠ ')')) = false
        · -- the argument is closed inside this declaration
          obtain ⟨htw, hdw⟩ := takeWhile_append_of_neg (p := fun z => decide (z ≠ ')')) (';' :: y) hclose
          rw [← hr] at htw hdw
          by_cases he : (r1.takeWhile (· ≠ ')')).isEmpty = true
          · rw [urlArgs_cons_empty hcall (by rw [htw]; exact he)] at harg
            rw [urlArgs_cons_empty hr1 he] at hx
            exact ih x'.length hl' x' y (Nat.le_refl _) hx hy arg harg
          · have he' : (r1.takeWhile (· ≠ ')')).isEmpty = false := by simpa using he
            rw [urlArgs_cons_some hcall (by rw [htw]; exact he'), htw, hdw] at harg
            rw [urlArgs_cons_some hr1 he'] at hx
            simp only [List.mem_cons] at harg
            rcases harg with rfl | harg
            · exact good_of_safe (hx _ (by simp)) (Or.inl rfl)
            · have hdl := dropWhile_length_le (· ≠ ')') r1
              exact ih (r1.dropWhile (· ≠ ')')).length (by simp at hr1len; omega) _ y (Nat.le_refl _)
                (fun g hg => hx g (List.mem_cons_of_mem _ hg)) hy arg harg
        · -- the argument runs on into the next declaration
          have hall : ∀ z ∈ r1, (decide (z ≠ ')')) = true := by
            intro z hz
            cases hd : decide (z ≠ ')') with
            | true => rfl
            | false => exact absurd ⟨z, hz, hd⟩ hclose
          have htw : r.takeWhile (· ≠ ')') = r1 ++ ';' :: y.takeWhile (· ≠ ')') := by
            rw [hr, List.takeWhile_append_of_pos hall]
            simp [List.takeWhile]
          have hdw : r.dropWhile (· ≠ ')') = y.dropWhile (· ≠ ')') := by
            rw [hr, List.dropWhile_append_of_pos hall]
            simp [List.dropWhile]
          have hne : (r.takeWhile (· ≠ ')')).isEmpty = false := by rw [htw]; simp
          rw [urlArgs_cons_some hcall hne, htw, hdw] at harg
          simp only [List.mem_cons] at harg
          rcases harg with rfl | harg
          · have hsafe : isSafeUri cfg r1 = true := by
              by_cases he : (r1.takeWhile (· ≠ ')')).isEmpty = true
              · have : r1 = [] := by
                  have h1 : r1.takeWhile (· ≠ ')') = r1 := takeWhile_all hall
                  rw [h1] at he; simpa using he
                rw [this]; rfl
              · have he' : (r1.takeWhile (· ≠ ')')).isEmpty = false := by simpa using he
                rw [urlArgs_cons_some hr1 he'] at hx
                have h1 : r1.takeWhile (· ≠ ')') = r1 := takeWhile_all hall
                rw [h1] at hx
                exact hx r1 (by simp)
            exact good_of_safe hsafe (Or.inr ⟨_, rfl⟩)
          · exact hy arg (urlArgs_after_close y arg harg)

theorem urlArgs_join (cfg : Cfg) : ∀ (ds : List Str), (∀ d ∈ ds, ∀ g ∈ urlArgs d, isSafeUri cfg g = true) →
    ∀ arg ∈ urlArgs (Genshi.Str.join declSep ds), GoodArg cfg arg := by
  refine join_declSep_ind (P := fun s => ∀ arg ∈ urlArgs s, GoodArg cfg arg) (fun _ h => nomatch h)
    (fun d hd arg harg => good_of_safe (hd arg harg) (Or.inl rfl)) fun d r hd hr => ?_
  refine urlArgs_join_step cfg d.length d _ (Nat.le_refl _) hd fun a ha => ?_
  rw [urlArgs_cons_none (head_not_call (by decide) url_class_space _)] at ha
  exact hr a ha

theorem decl_urls_safe {cfg : Cfg} (hcfg : CssNamesPlain cfg) {d : Str} (hf : DeclFacts cfg d) :
    ∀ g ∈ urlArgs d, isSafeUri cfg g = true := by
  obtain ⟨pn, value, hsp, hsafe, _, hurl⟩ := hf.ex
  rw [(split1_eq hsp).1, urlArgs_skip_propname pn value (paren_not_in_propname hcfg hsafe), ← urlFind_eq]
  exact hurl

/-- **every `url(` argument of the style text that `sanitize_css` emits, as the browser reads it (the text itself:
    `sanitizeCss_decode_fixed`), has no scheme or a safe one** -/
theorem sanitizeCss_urls_safe {cfg : Cfg} (hcfg : CssNamesPlain cfg) {x : Str} {decls : List Str}
    (h : sanitizeCss cfg x = .ok decls) : ∀ arg ∈ urlArgs (Genshi.Str.join declSep decls), GoodArg cfg arg :=
  urlArgs_join cfg decls (fun d hd' => decl_urls_safe hcfg (sanitizeCss_facts h d hd'))

end Genshi.San
