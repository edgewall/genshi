/-
  C06 — the filter loop: it never fails, and what it emits (characterisation of `step`, `sanAttrs`, `sanitizeFrom`).
-/
import Genshi.Lemmas.SanCssStable
import Genshi.Lemmas.Core
namespace Genshi.San
open Genshi.Gen

/-- what the body of the attribute loop has established when it keeps the input attribute `a` as `b` (`sanAttr_spec`) -/
structure AttrFacts (cfg : Cfg) (a b : QName × Str) : Prop where
  name : b.1 = a.1
  /-- the emitted value is the fully decoded input value, unless the attribute went through `sanitize_css` (then
      `style` says what it is) -/
  value : stripRefs a.2 = .ok b.2 ∨ (cfg.uriAttrs.contains a.1.text = false ∧ (a.1.text == styleWord) = true)
  stable : stripentities b.2 = .ok b.2
  safe : cfg.safeAttrs.contains a.1.text = true
  uri : cfg.uriAttrs.contains a.1.text = true → isSafeUri cfg b.2 = true
  style : cfg.uriAttrs.contains a.1.text = false → (a.1.text == styleWord) = true →
    ∃ v decls, stripRefs a.2 = .ok v ∧ sanitizeCss cfg v = .ok decls ∧ decls ≠ [] ∧
      b.2 = Genshi.Str.join declSep decls

/-- the body of the attribute loop never fails, and an attribute it keeps went through every test -/
theorem sanAttr_spec (cfg : Cfg) (a : QName × Str) :
    ∃ r, sanAttr cfg a = .ok r ∧ ∀ b, r = some b → AttrFacts cfg a b := by
  obtain ⟨v, hv⟩ := stripRefs_ok a.2
  unfold sanAttr
  simp only [hv, ok_bind]
  by_cases h1 : cfg.safeAttrs.contains a.1.text = true
  · simp only [h1, Bool.not_true, Bool.false_eq_true, ↓reduceIte]
    by_cases h2 : cfg.uriAttrs.contains a.1.text = true
    · simp only [h2, ↓reduceIte]
      refine ⟨_, rfl, fun b hb => ?_⟩
      by_cases h3 : isSafeUri cfg v = true
      · rw [if_pos h3] at hb
        cases hb
        exact ⟨rfl, .inl hv, stripRefs_fixed hv, h1, fun _ => h3, fun hf => by rw [h2] at hf; cases hf⟩
      · rw [if_neg h3] at hb; cases hb
    · simp only [h2, Bool.false_eq_true, ↓reduceIte]
      by_cases h3 : (a.1.text == styleWord) = true
      · simp only [h3, ↓reduceIte]
        obtain ⟨d, hd⟩ := sanitizeCss_ok cfg v
        obtain ⟨bk, hbk⟩ := stripentities_ok (Genshi.Str.join declSep d)
        simp only [hd, ok_bind]
        by_cases h4 : d.isEmpty = true
        · simp only [h4, ↓reduceIte]; exact ⟨_, rfl, nofun⟩
        · simp only [h4, Bool.false_eq_true, ↓reduceIte, hbk, ok_bind]
          refine ⟨_, rfl, fun b hb => ?_⟩
          by_cases h5 : bk = Genshi.Str.join declSep d
          · rw [if_pos h5] at hb
            cases hb
            exact ⟨rfl, .inr ⟨by simpa using h2, h3⟩, h5 ▸ hbk, h1, fun hf => absurd hf h2,
              fun _ _ => ⟨v, d, hv, hd, fun h0 => h4 (by rw [h0]; rfl), rfl⟩⟩
          · rw [if_neg h5] at hb; cases hb
      · simp only [h3, Bool.false_eq_true, ↓reduceIte]
        refine ⟨_, rfl, fun b hb => ?_⟩
        cases hb
        exact ⟨rfl, .inl hv, stripRefs_fixed hv, h1, fun hf => absurd hf h2, fun _ hf => absurd hf h3⟩
  · simp only [h1, Bool.not_false, ↓reduceIte]; exact ⟨_, rfl, nofun⟩

theorem sanAttr_ok (cfg : Cfg) (a : QName × Str) : ∃ r, sanAttr cfg a = .ok r :=
  (sanAttr_spec cfg a).imp fun _ h => h.1

theorem sanAttr_some {cfg : Cfg} {a b : QName × Str} (h : sanAttr cfg a = .ok (some b)) : AttrFacts cfg a b :=
  of_spec (sanAttr_spec cfg a) h b rfl

/-- the attribute loop never fails, and every attribute of its result was kept by its body -/
theorem sanAttrs_spec (cfg : Cfg) : ∀ as : AttrList,
    ∃ r, sanAttrs cfg as = .ok r ∧ ∀ b ∈ r, ∃ a ∈ as, sanAttr cfg a = .ok (some b)
  | [] => ⟨[], rfl, nofun⟩
  | a :: as => by
    obtain ⟨x, hx⟩ := sanAttr_ok cfg a
    obtain ⟨t, ht, hall⟩ := sanAttrs_spec cfg as
    have htail : ∀ b ∈ t, ∃ a' ∈ a :: as, sanAttr cfg a' = .ok (some b) := fun b hb =>
      (hall b hb).imp fun _ h => ⟨List.mem_cons_of_mem _ h.1, h.2⟩
    rw [sanAttrs, hx, ht]
    cases x with
    | none => exact ⟨t, rfl, htail⟩
    | some y =>
      refine ⟨y :: t, rfl, fun b hb => ?_⟩
      rcases List.mem_cons.mp hb with rfl | hb
      · exact ⟨a, List.mem_cons_self, hx⟩
      · exact htail b hb

theorem sanAttrs_ok (cfg : Cfg) (as : AttrList) : ∃ r, sanAttrs cfg as = .ok r :=
  (sanAttrs_spec cfg as).imp fun _ h => h.1

theorem sanAttrs_mem {cfg : Cfg} {as r : AttrList} (h : sanAttrs cfg as = .ok r) :
    ∀ b ∈ r, ∃ a ∈ as, sanAttr cfg a = .ok (some b) :=
  of_spec (sanAttrs_spec cfg as) h

/-- the events other than START and END that the filter does not drop for what they are -/
def passes : Event → Bool
  | .comment _ | .startCdata | .endCdata => false
  | .pi t d => !(List.contains t '>' || List.contains d '>')
  | .doctype n p s => !dtHasGt n p s
  | _ => true

theorem step_leaf (cfg : Cfg) (st : St) {e : Event} (he : e.isStartEnd = false) :
    step cfg st e = .ok (st, if (passes e && st.waiting.isNone) = true then [e] else []) := by
  cases e
  case start => cases he
  case end_ => cases he
  case pi t d =>
    rcases Bool.eq_false_or_eq_true (List.contains t '>' || List.contains d '>') with h | h <;>
      (simp only [step, passes, h]; rfl)
  case doctype n p s =>
    rcases Bool.eq_false_or_eq_true (dtHasGt n p s) with h | h <;> (simp only [step, passes, h]; rfl)
  all_goals rfl

theorem step_start_drop (cfg : Cfg) (w : QName) (d : Nat) (t : QName) (a : AttrList) :
    step cfg ⟨some w, d⟩ (.start t a) = .ok (if t.text == w.text then ⟨some w, d + 1⟩ else ⟨some w, d⟩, []) := rfl

theorem step_end_drop (cfg : Cfg) (w : QName) (d : Nat) (t : QName) :
    step cfg ⟨some w, d⟩ (.end_ t) =
      .ok (if w.text == t.text then (if d - 1 = 0 then ⟨none, 0⟩ else ⟨some w, d - 1⟩) else ⟨some w, d⟩, []) := by
  by_cases h : (w.text == t.text) = true <;> simp only [step, h] <;> rfl

theorem step_start_keep (cfg : Cfg) (d : Nat) (t : QName) (a : AttrList) :
    step cfg ⟨none, d⟩ (.start t a) =
      if isSafeElem cfg t a then (do let as ← sanAttrs cfg a; pure (⟨none, d⟩, [.start t as])) else .ok (⟨some t, 1⟩, []) := by
  cases h : isSafeElem cfg t a <;> simp only [step, h] <;> rfl

theorem step_end_keep (cfg : Cfg) (d : Nat) (t : QName) : step cfg ⟨none, d⟩ (.end_ t) = .ok (⟨none, d⟩, [.end_ t]) := rfl

theorem isSafeElem_tag {cfg : Cfg} {tag : QName} {attrs : AttrList} (h : isSafeElem cfg tag attrs = true) :
    tag.text ∈ cfg.safeTags :=
  List.contains_iff_mem.mp (Bool.and_eq_true_iff.mp h).1

/-- `Emits cfg st e x`: the iteration on the input event `e` in state `st` may yield `x`.  `step_spec` and
    `sanitizeFrom_spec` are stated through it, so that the theorems about the output (`start_emitted`,
    `other_emitted`) take an emitted event apart without unfolding `step`. -/
inductive Emits (cfg : Cfg) (st : St) (e : Event) : Event → Prop where
  | start (tag : QName) (attrs as : AttrList) :
      e = .start tag attrs → st.waiting = none → isSafeElem cfg tag attrs = true →
      sanAttrs cfg attrs = .ok as → Emits cfg st e (.start tag as)
  | other : st.waiting = none → (∀ t a, e ≠ .start t a) → passes e = true → Emits cfg st e e

/-- one iteration of the loop never fails, and what it yields is an input event passed on or a START event with filtered attributes -/
theorem step_spec (cfg : Cfg) (st : St) (e : Event) : ∃ r, step cfg st e = .ok r ∧ ∀ x ∈ r.2, Emits cfg st e x := by
  obtain ⟨w, d⟩ := st
  rcases e.startEnd_cases with ⟨t, a, rfl⟩ | ⟨t, rfl⟩ | he
  · cases w with
    | some w => rw [step_start_drop]; exact ⟨_, rfl, fun _ hx => nomatch hx⟩
    | none =>
      obtain ⟨as, has⟩ := sanAttrs_ok cfg a
      rw [step_start_keep, has]
      by_cases hs : isSafeElem cfg t a = true
      · rw [if_pos hs]
        refine ⟨_, rfl, fun x hx => ?_⟩
        cases List.mem_singleton.mp hx
        exact .start t a as rfl rfl hs has
      · rw [if_neg hs]; exact ⟨_, rfl, fun _ hx => nomatch hx⟩
  · cases w with
    | some w => rw [step_end_drop]; exact ⟨_, rfl, fun _ hx => nomatch hx⟩
    | none =>
      rw [step_end_keep]
      refine ⟨_, rfl, fun x hx => ?_⟩
      cases List.mem_singleton.mp hx
      exact .other rfl (fun _ _ => Event.noConfusion) rfl
  · rw [step_leaf cfg _ he]
    refine ⟨_, rfl, fun x hx => ?_⟩
    split at hx
    · rename_i hp
      obtain ⟨hp, hw⟩ := Bool.and_eq_true_iff.mp hp
      rw [List.mem_singleton.mp hx]
      exact .other (Option.isNone_iff_eq_none.mp hw) (fun t a e => by rw [e] at he; cases he) hp
    · cases hx

theorem step_ok (cfg : Cfg) (st : St) (e : Event) : ∃ r, step cfg st e = .ok r :=
  (step_spec cfg st e).imp fun _ h => h.1

/-- the loop never fails, and every event of its output was yielded by an iteration on an input event -/
theorem sanitizeFrom_spec (cfg : Cfg) (s : Stream) : ∀ st : St,
    ∃ o, sanitizeFrom cfg st s = .ok o ∧ ∀ x ∈ o, ∃ st1 e, e ∈ s ∧ Emits cfg st1 e x := by
  induction s with
  | nil => exact fun _ => ⟨[], rfl, nofun⟩
  | cons e es ih =>
    intro st
    obtain ⟨r, hr, hem⟩ := step_spec cfg st e
    obtain ⟨o, ho, hall⟩ := ih r.1
    refine ⟨r.2 ++ o, by rw [sanitizeFrom, hr, ok_bind, ho]; rfl, fun x hx => ?_⟩
    rcases List.mem_append.mp hx with hx | hx
    · exact ⟨st, e, List.mem_cons_self, hem x hx⟩
    · obtain ⟨st1, e1, he1, h1⟩ := hall x hx
      exact ⟨st1, e1, List.mem_cons_of_mem _ he1, h1⟩

theorem sanitizeFrom_ok (cfg : Cfg) (st : St) (s : Stream) : ∃ o, sanitizeFrom cfg st s = .ok o :=
  (sanitizeFrom_spec cfg s st).imp fun _ h => h.1

theorem sanitizeFrom_mem {cfg : Cfg} {st : St} {s o : Stream} (h : sanitizeFrom cfg st s = .ok o) :
    ∀ x ∈ o, ∃ st1 e, e ∈ s ∧ Emits cfg st1 e x :=
  of_spec (sanitizeFrom_spec cfg s st) h

theorem start_emitted {cfg : Cfg} {st : St} {s o : Stream} (h : sanitizeFrom cfg st s = .ok o)
    {tag : QName} {attrs : AttrList} (hm : Event.start tag attrs ∈ o) :
    ∃ attrs0, Event.start tag attrs0 ∈ s ∧ isSafeElem cfg tag attrs0 = true ∧
      sanAttrs cfg attrs0 = .ok attrs := by
  obtain ⟨st1, e, hes, hem⟩ := sanitizeFrom_mem h _ hm
  cases hem with
  | start _ attrs0 _ he _ hsafe has => exact ⟨attrs0, he ▸ hes, hsafe, has⟩
  | other _ hns _ => exact absurd rfl (hns tag attrs)

/-- an event of the output other than START is one that the filter passes on for what it is -/
theorem other_emitted {cfg : Cfg} {st : St} {s o : Stream} (h : sanitizeFrom cfg st s = .ok o) {x : Event} (hm : x ∈ o)
    (hx : ∀ t a, x ≠ .start t a) : passes x = true := by
  obtain ⟨_, _, _, hem⟩ := sanitizeFrom_mem h _ hm
  cases hem with
  | start t _ as => exact absurd rfl (hx t as)
  | other _ _ hp => exact hp

/-- what is known of an attribute the filter emits -/
def AttrGood (cfg : Cfg) (b : QName × Str) : Prop :=
  b.1.text ∈ cfg.safeAttrs ∧ stripentities b.2 = .ok b.2 ∧ (b.1.text ∈ cfg.uriAttrs → isSafeUri cfg b.2 = true) ∧
    (b.1.text ∉ cfg.uriAttrs → b.1.text = styleWord →
      ∃ x decls, sanitizeCss cfg x = .ok decls ∧ b.2 = Genshi.Str.join declSep decls)

theorem attrGood_of_sanAttr {cfg : Cfg} {a b : QName × Str} (h : sanAttr cfg a = .ok (some b)) : AttrGood cfg b := by
  have f := sanAttr_some h
  refine ⟨?_, f.stable, ?_, ?_⟩
  · rw [f.name]; simpa using f.safe
  · intro hu
    apply f.uri
    rw [← f.name]; simpa using hu
  · intro hu hs
    rw [f.name] at hu hs
    obtain ⟨v, decls, _, hd, _, hj⟩ := f.style
      (by simpa using hu)
      (by rw [hs]; simp)
    exact ⟨v, decls, hd, hj⟩

theorem attrsGood_of_sanAttrs {cfg : Cfg} {a a' : AttrList} (h : sanAttrs cfg a = .ok a') :
    ∀ b ∈ a', AttrGood cfg b := by
  intro b hb
  obtain ⟨a0, _, hsa⟩ := sanAttrs_mem h b hb
  exact attrGood_of_sanAttr hsa

theorem attr_emitted {cfg : Cfg} {st : St} {s o : Stream} (h : sanitizeFrom cfg st s = .ok o)
    {tag : QName} {attrs : AttrList} (hm : Event.start tag attrs ∈ o) {a : QName × Str} (ha : a ∈ attrs) :
    AttrGood cfg a := by
  obtain ⟨attrs0, _, _, has⟩ := start_emitted h hm
  exact attrsGood_of_sanAttrs has a ha

theorem style_attr_emitted {cfg : Cfg} {s o : Stream} (h : sanitize cfg s = .ok o)
    {tag : QName} {attrs : AttrList} (hm : Event.start tag attrs ∈ o)
    {a : QName × Str} (ha : a ∈ attrs) (hs : a.1.text = styleWord) (hu : styleWord ∉ cfg.uriAttrs) :
    ∃ x decls, sanitizeCss cfg x = .ok decls ∧ a.2 = Genshi.Str.join declSep decls :=
  (attr_emitted h hm ha).2.2.2 (hs ▸ hu) hs

end Genshi.San
