/-
  C06 — the two repeat-until-stable loops of the sanitizer carry fuel in
  the model (`stripRefsFix`: reference decoding of an attribute value, `stripCommentsFix`:
  `_strip_css_comments`).  The fuel the model passes (`length + 1`) is never the reason a loop
  stops: every pass that changes the text shortens it, so any larger fuel gives the same result
  at every depth (the `deep` stream of the harness compares model and code on values that need
  thousands of passes).  That the result is a fixed point of one more pass is `stripRefs_fixed`
  (`SanTotal.lean`) and `stripCommentsFix_fixed` (`SanCssComments.lean`).
-/
import Genshi.Lemmas.SanTotal
import Genshi.Lemmas.SanCssComments
namespace Genshi.San
open Genshi.Gen Genshi.San.Spec

theorem stripRefs_fuel (s : Str) (g : Nat) (hg : s.length < g) : stripRefsFix g s = stripRefs s := by
  rw [stripRefs, stripRefsFix_eq, stripRefsFix_eq, fixN_fuel stripEnt_shrinks g _ s hg (Nat.lt_succ_self _)]

theorem stripCommentsFix_fuel (f g : Nat) (s : Str) (hf : s.length < f) (hg : s.length < g) :
    stripCommentsFix true f s = stripCommentsFix true g s := by
  rw [stripCommentsFix_eq, stripCommentsFix_eq, fixN_fuel stripCommentsOnce_len f g s hf hg]

theorem stripRefsFix_length (n : Nat) (s : Str) {v : Str} (h : stripRefsFix n s = .ok v) : v.length ≤ s.length := by
  rw [stripRefsFix_eq] at h
  cases h
  exact fixN_length stripEnt_shrinks n s

end Genshi.San
