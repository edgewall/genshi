/-
  C06 — the tokens read back from a sanitized document, handed to genshi's own `HTMLParser`
  layer (model of work package `parse`: `Genshi.Parse.htmlStep`, with `stripentities` plugged in
  for the layer's `strip` parameter): the events it builds carry the same guarantees.  The layer
  decodes every attribute value once more; the values the sanitizer emits are fixed points of
  that decoding (first conjunct of `ValueSafe`), so nothing changes.
-/
import Genshi.Lemmas.SanReparse
import Genshi.Lemmas.ParseHtml
set_option linter.unusedSimpArgs false
namespace Genshi.San
open Genshi Genshi.San.Spec

/-- the layer's environment with `genshi.util.stripentities` as modelled here -/
def layerEnv (lower : Str → Str) (void : List Str) : Parse.Env where
  strip := fun v => match stripentities v with
    | .ok r => .ok r
    | .error _ => .error Parse.valueError
  lower := lower
  void := void

/-- the callback an HTML tokenizer makes for a token -/
def cbOf : Reader.Tok → Parse.HtmlCb
  | .start nm ats sc => if sc then .startendtag nm ats else .starttag nm ats
  | .end_ nm => .endtag nm
  | .text s => .data s
  | .comment s => .comment s
  | .pi s => .pi s
  | .doctype s => .decl s

/-- the guarantees of the property for one event of the re-parsed stream -/
def EventSafe (cfg : Cfg) : Event → Prop
  | .start tag attrs => tag.text ∈ cfg.safeTags ∧
      ∀ a ∈ attrs, a.1.text ∈ cfg.safeAttrs ∧ ValueSafe cfg a.1.text a.2
  | .end_ tag => tag.text ∈ cfg.safeTags
  | .text _ _ => True
  | _ => False

theorem mkQName_text {s : Str} (h1 : '{' ∉ s) (h2 : '}' ∉ s) : (Parse.mkQName s).text = s := by
  rw [Parse.mkQName_plain_name s h2 fun e => h1 (List.mem_of_mem_head? e)]; rfl

theorem mkQName_safeTag {cfg : Cfg} (hm : CfgMarkupOk cfg) {t : Str} (ht : t ∈ cfg.safeTags) :
    (Parse.mkQName t).text ∈ cfg.safeTags := by
  rw [mkQName_text (hm.tags _ ht).2.1 (hm.braces.1 _ ht)]; exact ht

/-- the attribute loop of `handle_starttag` on safe attributes: every value passes the second
    decoding unchanged (a minimised attribute gets its name as value) -/
theorem fixAttrs_safe {cfg : Cfg} (hm : CfgMarkupOk cfg) (lower : Str → Str) (void : List Str) :
    ∀ (ats : List (Str × Option Str)),
      (∀ p ∈ ats, p.1 ∈ cfg.safeAttrs ∧ ∀ val, p.2 = some val → ValueSafe cfg p.1 val) →
      ∃ fixed, Parse.fixAttrs (layerEnv lower void) ats = .ok fixed ∧
        ∀ a ∈ fixed, a.1.text ∈ cfg.safeAttrs ∧ ValueSafe cfg a.1.text a.2 := by
  intro ats
  induction ats with
  | nil => intro _; exact ⟨[], rfl, nofun⟩
  | cons p rest ih =>
    intro h
    obtain ⟨fixed, hf, hall⟩ := ih (fun q hq => h q (List.mem_cons_of_mem _ hq))
    obtain ⟨n, v⟩ := p
    have hp := h (n, v) List.mem_cons_self
    have hv : ValueSafe cfg n (v.getD n) := by
      cases v with
      | none => exact valueSafe_name hm hp.1
      | some val => exact hp.2 val rfl
    refine ⟨(Parse.mkQName n, v.getD n) :: fixed, ?_, List.forall_mem_cons.mpr ⟨?_, hall⟩⟩
    · simp only [Parse.fixAttrs, layerEnv, hv.1]
      have hf' := hf
      simp only [layerEnv] at hf'
      rw [hf']
    · rw [mkQName_text (hm.attrs _ hp.1).2.1 (hm.braces.2 _ hp.1)]; exact ⟨hp.1, hv⟩

/-- a callback for a safe token does not raise (the one failure point, `strip` on an attribute value, is
    covered by `fixAttrs_safe`); `Parse.StepOk` then lists what it can have done -/
theorem htmlStep_safe {cfg : Cfg} (hm : CfgMarkupOk cfg) (lower : Str → Str) (void : List Str)
    (openTags : List Str) (ho : ∀ o ∈ openTags, o ∈ cfg.safeTags) (t : Reader.Tok) (ht : TokSafe cfg t) :
    ∃ o' evs, Parse.htmlStep (layerEnv lower void) openTags (cbOf t) = .ok (o', evs) ∧
      (∀ o ∈ o', o ∈ cfg.safeTags) ∧ ∀ e ∈ evs, EventSafe cfg e := by
  cases t with
  | start nm ats sc =>
    obtain ⟨hnm, hats⟩ := ht
    obtain ⟨fixed, hf, hall⟩ := fixAttrs_safe hm lower void ats hats
    have hend : EventSafe cfg (.end_ (Parse.mkQName nm)) := mkQName_safeTag hm hnm
    have hstart : EventSafe cfg (.start (Parse.mkQName nm) fixed) := ⟨hend, hall⟩
    have htot : ∃ r, Parse.htmlStep (layerEnv lower void) openTags (cbOf (.start nm ats sc)) = .ok r := by
      cases sc
      · show ∃ r, Parse.handleStarttag _ openTags nm ats = .ok r
        rw [Parse.handleStarttag, hf]
        dsimp only
        split <;> exact ⟨_, rfl⟩
      · exact ⟨_, by rw [cbOf, if_pos rfl, Parse.htmlStep_startendtag, hf]⟩
    obtain ⟨⟨o', evs⟩, h⟩ := htot
    refine ⟨o', evs, h, ?_⟩
    have two : ∀ e ∈ [Event.start (Parse.mkQName nm) fixed, .end_ (Parse.mkQName nm)], EventSafe cfg e := by
      intro e he
      rcases List.mem_cons.mp he with rfl | he
      · exact hstart
      · cases List.mem_singleton.mp he; exact hend
    cases sc
    · cases Parse.htmlStep_ok (c := .starttag nm ats) h with
      | void _ _ f hf' _ => cases hf.symm.trans hf'; exact ⟨ho, two⟩
      | push _ _ f hf' _ =>
        cases hf.symm.trans hf'
        exact ⟨fun o hoo => (List.mem_cons.mp hoo).elim (· ▸ hnm) (ho o),
          fun e he => List.mem_singleton.mp he ▸ hstart⟩
    · cases Parse.htmlStep_ok (c := .startendtag nm ats) h with
      | selfClosing _ _ f hf' => cases hf.symm.trans hf'; exact ⟨ho, two⟩
  | end_ nm =>
    obtain ⟨pre, h1, h2⟩ := Parse.handleEndtag_split (layerEnv lower void) openTags nm
    refine ⟨(Parse.handleEndtag (layerEnv lower void) openTags nm).1, Parse.closers pre, by rw [← h2]; rfl,
      fun o hoo => ho o (by rw [h1]; exact List.mem_append_right _ hoo), fun e he => ?_⟩
    obtain ⟨u, hu, rfl⟩ := List.mem_map.mp he
    exact mkQName_safeTag hm (ho u (by rw [h1]; exact List.mem_append_left _ hu))
  | text s => exact ⟨openTags, [.text s false], rfl, ho, by intro e he; simp at he; subst he; trivial⟩
  | comment s => exact absurd ht (by simp [TokSafe])
  | pi s => exact absurd ht (by simp [TokSafe])
  | doctype s => exact absurd ht (by simp [TokSafe])

/-- the layer run over a token list (one callback per token; batching is irrelevant by C07's
    `html_batching_irrelevant`), closers included -/
def layerRun (env : Parse.Env) : List Str → List Reader.Tok → Except Parse.PyExc Stream
  | openTags, [] => .ok (Parse.closers openTags)
  | openTags, t :: ts =>
    match Parse.htmlStep env openTags (cbOf t) with
    | .error e => .error e
    | .ok (o', evs) =>
      match layerRun env o' ts with
      | .error e => .error e
      | .ok rest => .ok (evs ++ rest)

theorem layerRun_safe {cfg : Cfg} (hm : CfgMarkupOk cfg) (lower : Str → Str) (void : List Str) :
    ∀ (toks : List Reader.Tok) (openTags : List Str), (∀ o ∈ openTags, o ∈ cfg.safeTags) →
      (∀ t ∈ toks, TokSafe cfg t) →
      ∃ evs, layerRun (layerEnv lower void) openTags toks = .ok evs ∧ ∀ e ∈ evs, EventSafe cfg e := by
  intro toks
  induction toks with
  | nil =>
    intro openTags ho _
    refine ⟨_, rfl, ?_⟩
    intro e he
    simp only [Parse.closers, List.mem_map] at he
    obtain ⟨t, ht, rfl⟩ := he
    exact mkQName_safeTag hm (ho t ht)
  | cons t ts ih =>
    intro openTags ho ht
    obtain ⟨o', evs, hs, ho', hev⟩ := htmlStep_safe hm lower void openTags ho t (ht t (by simp))
    obtain ⟨rest, hr, hrest⟩ := ih o' ho' (fun x hx => ht x (by simp [hx]))
    refine ⟨evs ++ rest, by simp [layerRun, hs, hr], ?_⟩
    intro e he
    simp at he
    rcases he with he | he
    · exact hev e he
    · exact hrest e he

end Genshi.San
