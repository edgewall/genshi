/-
  C06 — the html-mode reader of C08 reads a DOCTYPE declaration back
  whole as soon as its literal holds no `>`: html.parser (and the HTML5 tokenizer) end the
  declaration at the first `>`, quoted or not, so unbalanced quotes inside the literal are
  harmless.  C08's own hypothesis `dtScan false` additionally asks for closed quotes (it shares the
  scanner with the XML mode); the events-level round trip for HTML is proved in
  Lemmas/ReaderPrologSim under the weaker hypothesis (`HtmlOkG`), which is exactly what the
  sanitizer establishes (`no_gt_in_declarations`); this file lifts it to the main loop.
-/
import Genshi.Lemmas.ReaderPrologSim
import Genshi.Lemmas.Output
set_option linter.unusedSimpArgs false
namespace Genshi.Reader
open Genshi Genshi.Escape Genshi.Output

/-- C08's `html_roundtrip_prolog_partial` with the DOCTYPE hypothesis weakened to "no `>` in the literal" -/
theorem html_roundtrip_prolog_nogt (o : Opts) (useCache : Bool) (evs : List FEv)
    (hok : HtmlOkAllG false false evs) (hend : (foldP evs {} false).1.raw = false) :
    tokens false (loop .html o useCache {} evs).flatten = some (htmlExpectedP evs) := by
  rw [loop_eq_spec]; exact html_tokensG o evs hok hend

theorem doctypeContent_no_gt (n : Str) (p s : Option Str) (hn : '>' ∉ n) (hp : '>' ∉ p.getD [])
    (hs : '>' ∉ s.getD []) : '>' ∉ doctypeContent n p s := by
  unfold doctypeContent
  intro hmem
  simp only [List.mem_append] at hmem
  rcases hmem with (h1 | h1) | h1
  · exact hn h1
  · split at h1
    · simp only [List.mem_append, List.mem_cons, List.not_mem_nil, or_false] at h1
      rcases h1 with (h1 | h1) | h1
      · revert h1; decide
      · exact hp h1
      · revert h1; decide
    · split at h1
      · revert h1; decide
      · cases h1
  · split at h1
    · split at h1
      · simp only [List.mem_append, List.mem_cons, List.not_mem_nil, or_false] at h1
        rcases h1 with (h1 | h1) | h1
        · revert h1; decide
        · exact hs h1
        · revert h1; decide
      · simp only [List.mem_append, List.mem_cons, List.not_mem_nil, or_false] at h1
        rcases h1 with (h1 | h1) | h1
        · revert h1; decide
        · exact hs h1
        · revert h1; decide
    · cases h1

end Genshi.Reader
