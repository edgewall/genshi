/-
  C06 — the re-parse clause at markup level: the sanitized forest, serialised as HTML or XHTML
  (model of work package `out`) and read back by the spec-side tokenizer (`Genshi.Reader`, which
  stands for html.parser / expat in the theorems of C08), yields tokens that satisfy the same
  guarantees: safe element names, safe attribute names, safe schemes, clean styles, no comments.

  This file: what the pruned forest looks like (`ForestGood`), that it lies inside the
  hypotheses of C08's tree round trips, and what the attributes of a start tag are read back as
  (`htmlAttrToks_safe`, `xhtmlAttrToks_safe`).  Tokens assembled from safe pieces are safe by
  `Reader.applyPieces_all` / `assemble_all` (`Lemmas/ReaderTree.lean`); the pieces themselves, event by
  event: `SanReparseProlog.lean` (html), `SanReparsePrologX.lean` (xhtml).
-/
import Genshi.Lemmas.SanCssUrl
import Genshi.Lemmas.SanTree
import Genshi.Lemmas.ReaderTree
set_option linter.unusedSimpArgs false
namespace Genshi.San
open Genshi Genshi.San.Spec

/-- every safe tag and attribute name is a name for the serializers and readers (no white space,
    no `> / = " < ! ? &`), is not a `{namespace}name`, no safe tag is a raw-text element
    (`script`, `style`) and no safe attribute name holds a colon or is `xmlns`; `braces`: no name holds a `}`, so
    that `QName(name)` in genshi's `HTMLParser` layer leaves it as it is (`mkQName_text`, `SanLayer.lean`) -/
structure CfgMarkupOk (cfg : Cfg) : Prop where
  tags : ∀ t ∈ cfg.safeTags, Reader.nameOkB t = true ∧ '{' ∉ t ∧ Reader.rawTextElems.contains t = false
  attrs : ∀ a ∈ cfg.safeAttrs, Reader.nameOkB a = true ∧ '{' ∉ a ∧ ':' ∉ a ∧ a ≠ Output.xmlns
  braces : (∀ t ∈ cfg.safeTags, '}' ∉ t) ∧ (∀ a ∈ cfg.safeAttrs, '}' ∉ a)

theorem text_plain {q : QName} (h : '{' ∉ q.text) : q.ns = [] ∧ q.text = q.loc := by
  unfold QName.text at h ⊢
  cases hn : q.ns with
  | nil => simp
  | cons c cs => simp [hn] at h

mutual
  /-- what pruning leaves of a `plainForest` (`prune_good`): safe tags, attributes as the filter emits them, text leaves -/
  def TreeGood (cfg : Cfg) : Node → Prop
    | .elem t a ks => t.text ∈ cfg.safeTags ∧ (∀ b ∈ a, AttrGood cfg b) ∧ ForestGood cfg ks
    | .leaf e => ∃ s, e = .text s false
  def ForestGood (cfg : Cfg) : List Node → Prop
    | [] => True
    | n :: ns => TreeGood cfg n ∧ ForestGood cfg ns
end

theorem forestGood_append {cfg : Cfg} : ∀ (a b : List Node), ForestGood cfg a → ForestGood cfg b →
    ForestGood cfg (a ++ b) := by
  intro a
  induction a with
  | nil => intro b _ hb; simpa using hb
  | cons n ns ih =>
    intro b ha hb
    simp only [ForestGood] at ha
    simp only [List.cons_append, ForestGood]
    exact ⟨ha.1, ih b ha.2 hb⟩

mutual
  /-- input leaves: plain (non-Markup) text, comments, the markers of CDATA sections (in any
      arrangement: unclosed, stray, around text that holds `]]>`), processing instructions and
      DOCTYPE declarations that hold a `>` — everything but the text is dropped by the filter -/
  def plainTree : Node → Bool
    | .elem _ _ ks => plainForest ks
    | .leaf (.text _ f) => !f
    | .leaf (.comment _) => true
    | .leaf .startCdata => true
    | .leaf .endCdata => true
    | .leaf (.pi t d) => List.contains t '>' || List.contains d '>'
    | .leaf (.doctype n p s) => dtHasGt n p s
    | .leaf _ => false
  def plainForest : List Node → Bool
    | [] => true
    | n :: ns => plainTree n && plainForest ns
end

theorem plainTree_leaf {e : Event} (h : plainTree (.leaf e) = true) :
    (∃ s, e = .text s false) ∨ passes e = false := by
  cases e
  case text s f => cases f; exact .inl ⟨s, rfl⟩; cases h
  case pi t d => exact .inr (congrArg Bool.not h)
  case doctype n p s => exact .inr (congrArg Bool.not h)
  case comment | startCdata | endCdata => exact .inr rfl
  all_goals cases h

mutual
  theorem prune_good (cfg : Cfg) : ∀ (n : Node) (p : List Node), plainTree n = true → prune cfg n = .ok p →
      ForestGood cfg p
    | .elem t a ks, p, hpl, h => by
      rcases prune_elem_ok h with rfl | ⟨a', ks', hs, ha', hk, rfl⟩
      · trivial
      · exact ⟨⟨isSafeElem_tag hs, attrsGood_of_sanAttrs ha', pruneList_good cfg ks ks' hpl hk⟩, trivial⟩
    | .leaf e, p, hpl, h => by
      rw [prune_leaf] at h
      cases h
      rcases plainTree_leaf hpl with ⟨s, rfl⟩ | hp
      · exact ⟨⟨s, rfl⟩, trivial⟩
      · rw [hp]; trivial
  theorem pruneList_good (cfg : Cfg) : ∀ (ns p : List Node), plainForest ns = true → pruneList cfg ns = .ok p →
      ForestGood cfg p
    | [], p, _, h => by cases h; trivial
    | n :: ns, p, hpl, h => by
      simp only [plainForest, Bool.and_eq_true] at hpl
      obtain ⟨a, b, ha, hb, rfl⟩ := pruneList_cons_ok h
      exact forestGood_append a b (prune_good cfg n a hpl.1 ha) (pruneList_good cfg ns b hpl.2 hb)
end

theorem fAttrs_plain {cfg : Cfg} (hm : CfgMarkupOk cfg) {a : AttrList} (ha : ∀ b ∈ a, AttrGood cfg b) :
    Output.attrNsOk a = true ∧ Output.fAttrs a = a.map (fun b => (b.1.text, b.2)) := by
  constructor
  · unfold Output.attrNsOk
    rw [List.all_eq_true]
    intro b hb
    have := (text_plain (hm.attrs _ (ha b hb).1).2.1).1
    simp [this]
  · unfold Output.fAttrs
    apply List.map_congr_left
    intro b hb
    have hp := text_plain (hm.attrs _ (ha b hb).1).2.1
    simp [Output.fName, hp.1, hp.2]

mutual
  theorem tree_in_html_domain {cfg : Cfg} (hm : CfgMarkupOk cfg) : ∀ (n : Node), TreeGood cfg n →
      n.ok = true ∧ Output.nsFree n = true ∧ Reader.htmlTreeOk n = true
    | .elem t a ks, h => by
      simp only [TreeGood] at h
      obtain ⟨ht, ha, hk⟩ := h
      obtain ⟨h1, h2, h3⟩ := forest_in_html_domain hm ks hk
      obtain ⟨hn, hb, hraw⟩ := hm.tags _ ht
      obtain ⟨hns, htl⟩ := text_plain hb
      obtain ⟨han, hfa⟩ := fAttrs_plain hm ha
      refine ⟨by simpa [Node.ok] using h1, ?_, ?_⟩
      · simp [Output.nsFree, hns, han, h2]
      · simp only [Reader.htmlTreeOk, Bool.and_eq_true]
        rw [← htl]
        refine ⟨⟨hn, ?_⟩, ?_⟩
        · rw [hfa, List.all_eq_true]
          intro q hq
          obtain ⟨b, hb', rfl⟩ := List.mem_map.mp hq
          exact (hm.attrs _ (ha b hb').1).1
        · simp only [hraw, Bool.false_eq_true, ↓reduceIte]; exact h3
    | .leaf e, h => by
      obtain ⟨s, rfl⟩ := h
      simp [Node.ok, Event.isStartEnd, Output.nsFree, Output.leafF, Reader.htmlTreeOk]
  theorem forest_in_html_domain {cfg : Cfg} (hm : CfgMarkupOk cfg) : ∀ (ns : List Node), ForestGood cfg ns →
      okList ns = true ∧ Output.forestNsFree ns = true ∧ Reader.htmlForestOk ns = true
    | [], _ => by simp [okList, Output.forestNsFree, Reader.htmlForestOk]
    | n :: ns, h => by
      simp only [ForestGood] at h
      obtain ⟨a1, a2, a3⟩ := tree_in_html_domain hm n h.1
      obtain ⟨b1, b2, b3⟩ := forest_in_html_domain hm ns h.2
      simp [okList, Output.forestNsFree, Reader.htmlForestOk, a1, a2, a3, b1, b2, b3]
end

mutual
  /-- attribute values without LF / TAB / CR (the extra hypothesis of the XHTML round trip:
      XML attribute-value normalisation, finding C08-attr-ws) -/
  def treeAttrVals : Node → Bool
    | .elem _ a ks => a.all (fun b => Reader.attrValOkB b.2) && forestAttrVals ks
    | .leaf _ => true
  def forestAttrVals : List Node → Bool
    | [] => true
    | n :: ns => treeAttrVals n && forestAttrVals ns
end

mutual
  theorem tree_in_xhtml_domain {cfg : Cfg} (hm : CfgMarkupOk cfg) : ∀ (n : Node), TreeGood cfg n →
      treeAttrVals n = true → Reader.xhtmlTreeOk n = true
    | .elem t a ks, h, hv => by
      simp only [TreeGood] at h
      obtain ⟨ht, ha, hk⟩ := h
      simp only [treeAttrVals, Bool.and_eq_true, List.all_eq_true] at hv
      obtain ⟨hn, hb, _⟩ := hm.tags _ ht
      obtain ⟨_, htl⟩ := text_plain hb
      obtain ⟨_, hfa⟩ := fAttrs_plain hm ha
      simp only [Reader.xhtmlTreeOk, Bool.and_eq_true]
      rw [← htl]
      refine ⟨⟨hn, ?_⟩, forest_in_xhtml_domain hm ks hk hv.2⟩
      rw [hfa, List.all_eq_true]
      intro q hq
      obtain ⟨b, hb', rfl⟩ := List.mem_map.mp hq
      simp only [Bool.and_eq_true]
      exact ⟨(hm.attrs _ (ha b hb').1).1, hv.1 b hb'⟩
    | .leaf e, h, _ => by
      obtain ⟨s, rfl⟩ := h
      simp [Reader.xhtmlTreeOk]
  theorem forest_in_xhtml_domain {cfg : Cfg} (hm : CfgMarkupOk cfg) : ∀ (ns : List Node), ForestGood cfg ns →
      forestAttrVals ns = true → Reader.xhtmlForestOk ns = true
    | [], _, _ => by simp [Reader.xhtmlForestOk]
    | n :: ns, h, hv => by
      simp only [ForestGood] at h
      simp only [forestAttrVals, Bool.and_eq_true] at hv
      simp [Reader.xhtmlForestOk, tree_in_xhtml_domain hm n h.1 hv.1, forest_in_xhtml_domain hm ns h.2 hv.2]
end

/-- the guarantees of the property for an attribute value that a reader delivers -/
def ValueSafe (cfg : Cfg) (n val : Str) : Prop :=
  stripentities val = .ok val ∧
  (n ∈ cfg.uriAttrs → ∀ sch, browserScheme val = some sch → sch ∈ cfg.safeSchemes) ∧
  (n ∉ cfg.uriAttrs → n = styleWord →
    cssDecode val = val ∧ hasExpression val = false ∧ ∀ arg ∈ urlArgs val, GoodArg cfg arg)

/-- the guarantees of the property for one token read back -/
def TokSafe (cfg : Cfg) : Reader.Tok → Prop
  | .start nm ats _ => nm ∈ cfg.safeTags ∧
      ∀ p ∈ ats, p.1 ∈ cfg.safeAttrs ∧ ∀ val, p.2 = some val → ValueSafe cfg p.1 val
  | .end_ nm => nm ∈ cfg.safeTags
  | .text _ => True
  | .comment _ => False
  | .pi _ => False
  | .doctype _ => False

theorem valueSafe_of_good (hd : Genshi.Gen.SanClass.commentsDotall = true) {cfg : Cfg} (hcss : CssNamesPlain cfg)
    {b : QName × Str} (h : AttrGood cfg b) : ValueSafe cfg b.1.text b.2 := by
  obtain ⟨_, hst0, hu, hs⟩ := h
  refine ⟨hst0, fun hin sch hb => isSafeUri_sound (hu hin) hb, fun hnin hst => ?_⟩
  obtain ⟨x, decls, hsan, hj⟩ := hs hnin hst
  rw [hj]
  exact ⟨sanitizeCss_decode_fixed hd hsan, sanitizeCss_no_expression hcss hsan, sanitizeCss_urls_safe hcss hsan⟩

theorem browserScheme_no_colon {v : Str} (h : ':' ∉ v) : browserScheme v = none := by
  unfold browserScheme
  have hf : ':' ∉ v.filter (fun c => !isWsCtl c) := fun hm => h (List.mem_filter.mp hm).1
  have := (split1_none_iff ':' _).mpr hf
  cases hsp : split1 ':' (v.filter fun c => !isWsCtl c) with
  | mk a b =>
    rw [hsp] at this
    simp at this
    subst this
    simp only [hsp]

theorem any_colon_false {n : Str} (h : ':' ∉ n) : n.any (· == ':') = false :=
  List.any_eq_false.mpr fun _ hc he => h (eq_of_beq he ▸ hc)

theorem htmlAttrToks_safe (hd : Genshi.Gen.SanClass.commentsDotall = true) {cfg : Cfg} (hm : CfgMarkupOk cfg)
    (hcss : CssNamesPlain cfg) {a : AttrList} (ha : ∀ b ∈ a, AttrGood cfg b) :
    ∀ p ∈ Reader.htmlAttrToks (Output.fAttrs a), p.1 ∈ cfg.safeAttrs ∧ ∀ val, p.2 = some val → ValueSafe cfg p.1 val := by
  intro p hp
  unfold Reader.htmlAttrToks at hp
  rw [List.mem_flatMap] at hp
  obtain ⟨q, hq, hpq⟩ := hp
  rw [(fAttrs_plain hm ha).2] at hq
  obtain ⟨b, hb, rfl⟩ := List.mem_map.mp hq
  have hg := ha b hb
  obtain ⟨_, _, hcol, hx⟩ := hm.attrs _ hg.1
  unfold Reader.htmlAttrTok at hpq
  simp only [any_colon_false hcol, Bool.false_eq_true, ↓reduceIte] at hpq
  by_cases hbool : Output.inTable (Output.booleanAttrs .html) b.1.text = true
  · rw [if_pos hbool] at hpq
    by_cases he : b.2.isEmpty = true
    · rw [if_pos he] at hpq; cases hpq
    · rw [if_neg he, List.mem_singleton] at hpq
      subst hpq
      exact ⟨hg.1, fun val hv => nomatch hv⟩
  · rw [if_neg hbool] at hpq
    by_cases hne : (b.1.text != Output.xmlns) = true
    · rw [if_pos hne, List.mem_singleton] at hpq
      subst hpq
      exact ⟨hg.1, fun val hv => Option.some.inj hv ▸ valueSafe_of_good hd hcss hg⟩
    · rw [if_neg hne] at hpq; cases hpq

theorem stripEntGo_no_amp : ∀ (f : Nat) (s : Str), '&' ∉ s → stripEntGo f s = .ok s := by
  intro f
  induction f with
  | zero => intro s _; rfl
  | succ f ih =>
    intro s h
    cases s with
    | nil => rfl
    | cons c cs =>
      have hc : c ≠ '&' := fun e => h (by simp [e])
      have hcs : '&' ∉ cs := fun hm => h (by simp [hm])
      simp [stripEntGo, hc, ih cs hcs]

theorem stripentities_no_amp {s : Str} (h : '&' ∉ s) : stripentities s = .ok s := stripEntGo_no_amp _ s h

theorem nameOk_no_amp {n : Str} (h : Reader.nameOkB n = true) : '&' ∉ n := by
  intro hm
  simp only [Reader.nameOkB, Bool.and_eq_true, List.all_eq_true] at h
  have := h.2 '&' hm
  revert this; decide

-- an XHTML boolean attribute is read back as `name="name"`; genshi's `HTMLParser` layer gives a minimised HTML
-- attribute its name as value (`fixAttrs_safe`, `SanLayer.lean`)
theorem valueSafe_name {cfg : Cfg} (hm : CfgMarkupOk cfg) {n : Str} (hn : n ∈ cfg.safeAttrs) :
    ValueSafe cfg n n := by
  obtain ⟨hok, _, hcol, _⟩ := hm.attrs _ hn
  refine ⟨stripentities_no_amp (nameOk_no_amp hok), fun _ sch hb => ?_, fun _ hst => ?_⟩
  · rw [browserScheme_no_colon hcol] at hb; cases hb
  · -- the word `style` as CSS text
    rw [hst]
    refine ⟨by decide +kernel, by decide +kernel, ?_⟩
    rw [show urlArgs styleWord = [] by decide +kernel]
    exact fun _ h => nomatch h

theorem xhtmlAttrToks_safe (hd : Genshi.Gen.SanClass.commentsDotall = true) {cfg : Cfg} (hm : CfgMarkupOk cfg)
    (hcss : CssNamesPlain cfg) {a : AttrList} (ha : ∀ b ∈ a, AttrGood cfg b) :
    ∀ p ∈ Reader.xhtmlAttrToks (Output.fAttrs a), p.1 ∈ cfg.safeAttrs ∧ ∀ val, p.2 = some val → ValueSafe cfg p.1 val := by
  intro p hp
  unfold Reader.xhtmlAttrToks at hp
  rw [List.mem_flatMap] at hp
  obtain ⟨q, hq, hpq⟩ := hp
  rw [(fAttrs_plain hm ha).2] at hq
  obtain ⟨b, hb, rfl⟩ := List.mem_map.mp hq
  have hg := ha b hb
  obtain ⟨_, _, hcol, hx⟩ := hm.attrs _ hg.1
  have hnl : (b.1.text == Output.xmlLang) = false := beq_eq_false_iff_ne.mpr fun e => hcol (e ▸ by decide)
  have hns : (b.1.text == Output.xmlSpace) = false := beq_eq_false_iff_ne.mpr fun e => hcol (e ▸ by decide)
  unfold Reader.xhtmlAttrTok at hpq
  simp only [hnl, hns, Bool.false_and, Bool.false_eq_true, ↓reduceIte] at hpq
  by_cases hbool : Output.inTable (Output.booleanAttrs .xhtml) b.1.text = true
  · rw [if_pos hbool, List.mem_singleton] at hpq
    subst hpq
    exact ⟨hg.1, fun val hv => Option.some.inj hv ▸ valueSafe_name hm hg.1⟩
  · rw [if_neg hbool, List.mem_singleton] at hpq
    subst hpq
    exact ⟨hg.1, fun val hv => Option.some.inj hv ▸ valueSafe_of_good hd hcss hg⟩

end Genshi.San
