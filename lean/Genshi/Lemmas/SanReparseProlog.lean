/-
  C06 — the re-parse clause beyond C08's tree hypotheses, HTML method: forests whose leaves are
  also processing instructions and DOCTYPE declarations.  The filter keeps a PI only without `>`
  (so html.parser's `<?target data>` is read back whole) and a DOCTYPE only without `>`; the
  events-level round trip `html_roundtrip_prolog_nogt` (`SanReaderDoctype.lean`: C08's, with the
  DOCTYPE hypothesis weakened to that) then applies to the flattened pruned forest, and every token
  read back carries the guarantees (`TokSafeP`).  `TreeGoodP`/`ForestGoodP`/`TokSafeP` are `TreeGood`/
  `ForestGood`/`TokSafe` of `SanReparse.lean` with a larger set of leaves and tokens (`treeGood_toP`,
  `TokSafe.toP`): more inputs, a weaker conclusion.  Both routes read the tokens off the same
  pieces, event by event (`evPieces_safe`), so the tokens of the tree theorems (`forestPieces_safe`)
  are dealt with here, too.
-/
import Genshi.Lemmas.SanReparse
import Genshi.Lemmas.SanReaderDoctype
import Genshi.Lemmas.ReaderDoc
set_option linter.unusedSimpArgs false
namespace Genshi.San
open Genshi Genshi.San.Spec

mutual
  /-- input leaves: plain text, comments, CDATA markers, processing instructions, DOCTYPE
      declarations and XML declarations (any) -/
  def prologTree : Node → Bool
    | .elem _ _ ks => prologForest ks
    | .leaf (.text _ f) => !f
    | .leaf (.comment _) => true
    | .leaf .startCdata => true
    | .leaf .endCdata => true
    | .leaf (.pi _ _) => true
    | .leaf (.doctype _ _ _) => true
    | .leaf (.xmlDecl _ _ _) => true
    | .leaf _ => false
  def prologForest : List Node → Bool
    | [] => true
    | n :: ns => prologTree n && prologForest ns
end

/-- what the filter establishes for a DOCTYPE event it keeps (`dtHasGt … = false`) is what the
    html-mode reader needs (`Reader.HtmlOkG`: no `>` in the literal the serializer writes) -/
theorem dtLiteral_no_gt {n : Str} {p s : Option Str} (h : dtHasGt n p s = false) :
    '>' ∉ Reader.doctypeContent n p s := by
  unfold dtHasGt at h
  simp only [Bool.or_eq_false_iff] at h
  obtain ⟨⟨hn, hp⟩, hs⟩ := h
  have opt : ∀ o : Option Str, optHasGt o = false → '>' ∉ o.getD [] := by
    intro o ho
    cases o with
    | none => simp
    | some x =>
      intro hm
      have : List.contains x '>' = true := by simpa using hm
      simp only [optHasGt] at ho
      rw [ho] at this; cases this
  refine Reader.doctypeContent_no_gt n p s ?_ (opt p hp) (opt s hs)
  intro hm
  have : List.contains n '>' = true := by simpa using hm
  rw [hn] at this; cases this

/-- the leaves pruning leaves of a `prologForest` (`prune_goodP`): besides text, the declarations the filter passes on -/
def LeafGoodP (e : Event) : Prop :=
  (∃ s, e = .text s false) ∨
  (∃ t d, e = .pi t d ∧ (List.contains t '>' || List.contains d '>') = false) ∨
  (∃ n p s, e = .doctype n p s ∧ dtHasGt n p s = false) ∨
  (∃ v en sa, e = .xmlDecl v en sa)

mutual
  def TreeGoodP (cfg : Cfg) : Node → Prop
    | .elem t a ks => t.text ∈ cfg.safeTags ∧ (∀ b ∈ a, AttrGood cfg b) ∧ ForestGoodP cfg ks
    | .leaf e => LeafGoodP e
  def ForestGoodP (cfg : Cfg) : List Node → Prop
    | [] => True
    | n :: ns => TreeGoodP cfg n ∧ ForestGoodP cfg ns
end

theorem forestGoodP_append {cfg : Cfg} : ∀ (a b : List Node), ForestGoodP cfg a → ForestGoodP cfg b →
    ForestGoodP cfg (a ++ b) := by
  intro a
  induction a with
  | nil => intro b _ hb; simpa using hb
  | cons n ns ih =>
    intro b ha hb
    simp only [ForestGoodP] at ha
    simp only [List.cons_append, ForestGoodP]
    exact ⟨ha.1, ih b ha.2 hb⟩

theorem prologTree_leaf {e : Event} (h : prologTree (.leaf e) = true) (hp : passes e = true) : LeafGoodP e := by
  cases e
  case text s f => cases f; exact .inl ⟨s, rfl⟩; cases h
  case pi t d => exact .inr (.inl ⟨t, d, rfl, by simpa [passes] using hp⟩)
  case doctype n p s => exact .inr (.inr (.inl ⟨n, p, s, rfl, by simpa [passes] using hp⟩))
  case xmlDecl v en sa => exact .inr (.inr (.inr ⟨v, en, sa, rfl⟩))
  case comment | startCdata | endCdata => cases hp
  all_goals cases h

mutual
  theorem prune_goodP (cfg : Cfg) : ∀ (n : Node) (p : List Node), prologTree n = true →
      prune cfg n = .ok p → ForestGoodP cfg p
    | .elem t a ks, p, hpl, h => by
      rcases prune_elem_ok h with rfl | ⟨a', ks', hs, ha', hk, rfl⟩
      · trivial
      · exact ⟨⟨isSafeElem_tag hs, attrsGood_of_sanAttrs ha', pruneList_goodP cfg ks ks' hpl hk⟩, trivial⟩
    | .leaf e, p, hpl, h => by
      rw [prune_leaf] at h
      cases h
      split
      · rename_i hp; exact ⟨prologTree_leaf hpl hp, trivial⟩
      · trivial
  theorem pruneList_goodP (cfg : Cfg) : ∀ (ns p : List Node), prologForest ns = true →
      pruneList cfg ns = .ok p → ForestGoodP cfg p
    | [], p, _, h => by cases h; trivial
    | n :: ns, p, hpl, h => by
      simp only [prologForest, Bool.and_eq_true] at hpl
      obtain ⟨a, b, ha, hb, rfl⟩ := pruneList_cons_ok h
      exact forestGoodP_append a b (prune_goodP cfg n a hpl.1 ha) (pruneList_goodP cfg ns b hpl.2 hb)
end

/-- `TreeGoodP` event by event, on the serializer's flattened form (`forestF_good`): what the token lemmas
    `evPieces_safe` / `evPiecesX_safe` and the hypotheses of the events-level round trips are derived from -/
def FEvGood (cfg : Cfg) : Output.FEv → Prop
  | .start t a => t ∈ cfg.safeTags ∧ ∃ al : AttrList, a = Output.fAttrs al ∧ ∀ b ∈ al, AttrGood cfg b
  | .empty t a => t ∈ cfg.safeTags ∧ ∃ al : AttrList, a = Output.fAttrs al ∧ ∀ b ∈ al, AttrGood cfg b
  | .end_ t => t ∈ cfg.safeTags
  | .text _ f => f = false
  | .pi t d => (List.contains t '>' || List.contains d '>') = false
  | .doctype n p s => dtHasGt n p s = false
  | .xmlDecl _ _ _ => True
  | _ => False

mutual
  theorem treeF_good {cfg : Cfg} (hm : CfgMarkupOk cfg) : ∀ (n : Node), TreeGoodP cfg n →
      (n.ok = true ∧ Output.nsFree n = true) ∧ ∀ ev ∈ Output.treeF n, FEvGood cfg ev
    | .elem t a ks, h => by
      simp only [TreeGoodP] at h
      obtain ⟨ht, ha, hk⟩ := h
      obtain ⟨⟨h1, h2⟩, h3⟩ := forestF_good hm ks hk
      obtain ⟨_, hb, _⟩ := hm.tags _ ht
      obtain ⟨hns, htl⟩ := text_plain hb
      obtain ⟨han, _⟩ := fAttrs_plain hm ha
      have hloc : t.loc ∈ cfg.safeTags := by rw [← htl]; exact ht
      refine ⟨⟨by simpa [Node.ok] using h1, by simp [Output.nsFree, hns, han, h2]⟩, ?_⟩
      intro ev hev
      simp only [Output.treeF] at hev
      split at hev
      · simp at hev; subst hev
        exact ⟨hloc, a, rfl, ha⟩
      · simp only [List.mem_cons, List.mem_append, List.mem_singleton, List.not_mem_nil, or_false] at hev
        rcases hev with rfl | hev | rfl
        · exact ⟨hloc, a, rfl, ha⟩
        · exact h3 ev hev
        · exact hloc
    | .leaf e, h => by
      rcases h with ⟨s, rfl⟩ | ⟨t, d, rfl, hgt⟩ | ⟨n, p, s, rfl, hdt⟩ | ⟨v, en, sa, rfl⟩ <;>
        refine ⟨⟨rfl, rfl⟩, fun ev hev => ?_⟩ <;> obtain rfl := List.mem_singleton.mp hev
      · rfl
      · exact hgt
      · exact hdt
      · trivial
  theorem forestF_good {cfg : Cfg} (hm : CfgMarkupOk cfg) : ∀ (ns : List Node), ForestGoodP cfg ns →
      (okList ns = true ∧ Output.forestNsFree ns = true) ∧ ∀ ev ∈ Output.forestF ns, FEvGood cfg ev
    | [], _ => by simp [okList, Output.forestNsFree, Output.forestF]
    | n :: ns, h => by
      simp only [ForestGoodP] at h
      obtain ⟨⟨a1, a2⟩, a3⟩ := treeF_good hm n h.1
      obtain ⟨⟨b1, b2⟩, b3⟩ := forestF_good hm ns h.2
      refine ⟨by simp [okList, Output.forestNsFree, a1, a2, b1, b2], ?_⟩
      intro ev hev
      simp only [Output.forestF, List.mem_append] at hev
      rcases hev with hev | hev
      · exact a3 ev hev
      · exact b3 ev hev
end

theorem piSafe_no_gt (xml : Bool) (s : Str) (q : Bool) (h : '>' ∉ s) : Reader.piSafe xml q s = true :=
  Reader.piSafe_of_no_gt xml s (fun _ hc => beq_eq_false_iff_ne.mpr fun e => h (e ▸ hc)) q

theorem piText_no_gt {t d : Str} (h : (List.contains t '>' || List.contains d '>') = false) :
    '>' ∉ t ++ ' ' :: d := by
  simp only [Bool.or_eq_false_iff, List.contains_eq_mem, decide_eq_false_iff_not] at h
  simp only [List.mem_append, List.mem_cons, not_or]
  exact ⟨h.1, by decide, h.2⟩

theorem fAttrs_nameOk {cfg : Cfg} (hm : CfgMarkupOk cfg) {al : AttrList} (ha : ∀ b ∈ al, AttrGood cfg b) :
    ∀ p ∈ Output.fAttrs al, Reader.NameOk p.1 := by
  intro p hp
  rw [(fAttrs_plain hm ha).2] at hp
  obtain ⟨b, hb, rfl⟩ := List.mem_map.mp hp
  exact Reader.nameOk_of_B (hm.attrs _ (ha b hb).1).1

theorem fevGood_ok {cfg : Cfg} (hm : CfgMarkupOk cfg) {ev : Output.FEv} (h : FEvGood cfg ev) (hd : Bool) :
    Reader.HtmlOkG false hd ev ∧ Reader.rawAfter false ev = false := by
  cases ev with
  | start t a =>
    obtain ⟨ht, al, rfl, ha⟩ := h
    obtain ⟨hn, _, hraw⟩ := hm.tags _ ht
    exact ⟨⟨rfl, Reader.nameOk_of_B hn, fAttrs_nameOk hm ha⟩, by simpa [Reader.rawAfter] using hraw⟩
  | empty t a =>
    obtain ⟨ht, al, rfl, ha⟩ := h
    obtain ⟨hn, _, _⟩ := hm.tags _ ht
    exact ⟨⟨rfl, Reader.nameOk_of_B hn, fAttrs_nameOk hm ha⟩, rfl⟩
  | end_ t => exact ⟨Reader.nameOk_of_B (hm.tags _ h).1, rfl⟩
  | text s f =>
    have : f = false := h
    subst this
    exact ⟨⟨rfl, by intro hx; cases hx⟩, rfl⟩
  | pi t d => exact ⟨⟨rfl, piSafe_no_gt false _ _ (piText_no_gt h)⟩, rfl⟩
  | doctype n p s => exact ⟨⟨rfl, fun _ => dtLiteral_no_gt h⟩, rfl⟩
  | xmlDecl _ _ _ => exact ⟨trivial, rfl⟩
  | _ => cases h

theorem okAllP_of_good {cfg : Cfg} (hm : CfgMarkupOk cfg) : ∀ (evs : List Output.FEv),
    (∀ ev ∈ evs, FEvGood cfg ev) → ∀ hd, Reader.HtmlOkAllG false hd evs ∧ Reader.rawEndP false evs = false := by
  intro evs
  induction evs with
  | nil => intro _ hd; exact ⟨trivial, rfl⟩
  | cons ev rest ih =>
    intro h hd
    obtain ⟨h1, h2⟩ := fevGood_ok hm (h ev (by simp)) hd
    have ihr := ih (fun e he => h e (by simp [he])) (hd || Reader.HtmlOkAllP.isDoctypeEv ev)
    refine ⟨?_, ?_⟩
    · simp only [Reader.HtmlOkAllG]
      rw [h2]
      exact ⟨h1, ihr.1⟩
    · simp only [Reader.rawEndP, List.foldl_cons]
      rw [h2]
      exact ihr.2

/-- on a sanitized event list the html-mode reader ends outside a raw-text element (the side condition of
    `html_roundtrip_prolog_nogt`): by the second half of `html_streamG` its `raw` flag is `rawEndP false _`, which
    `okAllP_of_good` has computed -/
theorem foldP_raw_false {cfg : Cfg} (hm : CfgMarkupOk cfg) (evs : List Output.FEv) (h : ∀ ev ∈ evs, FEvGood cfg ev) :
    (Reader.foldP evs {} false).1.raw = false := by
  obtain ⟨hok, hraw⟩ := okAllP_of_good hm evs h false
  exact (Reader.html_streamG ({} : Output.Opts) evs {} false {} rfl rfl hok).2.trans hraw

/-- as `TokSafe`, but processing instructions and DOCTYPE declarations may occur (the property
    forbids comments, not these) -/
def TokSafeP (cfg : Cfg) : Reader.Tok → Prop
  | .start nm ats _ => nm ∈ cfg.safeTags ∧
      ∀ p ∈ ats, p.1 ∈ cfg.safeAttrs ∧ ∀ val, p.2 = some val → ValueSafe cfg p.1 val
  | .end_ nm => nm ∈ cfg.safeTags
  | .text _ => True
  | .comment _ => False
  | .pi _ => True
  | .doctype _ => True

theorem TokSafe.toP {cfg : Cfg} {t : Reader.Tok} (h : TokSafe cfg t) : TokSafeP cfg t := by
  cases t with
  | pi _ | doctype _ => trivial
  | _ => exact h

theorem treeGood_toP (cfg : Cfg) :
    (∀ n, TreeGood cfg n → TreeGoodP cfg n) ∧ ∀ ns, ForestGood cfg ns → ForestGoodP cfg ns :=
  node_induction (fun _ _ _ ih h => ⟨h.1, h.2.1, ih h.2.2⟩) (fun _ h => .inl h) (fun _ => trivial)
    fun _ _ ihn ihs h => ⟨ihn h.1, ihs h.2⟩

/-- **what one sanitized event is read back as** (html): every token among its pieces is safe.  The reader's files
    say that the tokens of a serialised forest (`pieces_forestU`) and of a serialised event list
    (`htmlExpectedP_eq_assemble`) are assembled from these pieces, so both re-parse theorems for html rest on this
    lemma and `Reader.assemble_all`. -/
theorem evPieces_safe (hd : Genshi.Gen.SanClass.commentsDotall = true) {cfg : Cfg} (hm : CfgMarkupOk cfg)
    (hcss : CssNamesPlain cfg) {ev : Output.FEv} (hg : FEvGood cfg ev) :
    ∀ t, Reader.Piece.tok t ∈ Reader.evPieces ev → TokSafe cfg t := by
  intro t ht
  cases ev with
  | start tg a =>
    obtain ⟨htg, al, rfl, ha⟩ := hg
    cases List.mem_singleton.mp ht
    exact ⟨htg, htmlAttrToks_safe hd hm hcss ha⟩
  | empty tg a =>
    obtain ⟨htg, al, rfl, ha⟩ := hg
    have hs : TokSafe cfg (.start tg (Reader.htmlAttrToks (Output.fAttrs al)) false) := ⟨htg, htmlAttrToks_safe hd hm hcss ha⟩
    rw [Reader.evPieces] at ht
    split at ht
    · cases List.mem_singleton.mp ht; exact hs
    · rcases List.mem_cons.mp ht with e | ht
      · cases e; exact hs
      · cases List.mem_singleton.mp ht; exact htg
  | end_ tg => cases List.mem_singleton.mp ht; exact hg
  | text s f => cases List.mem_singleton.mp ht
  | pi _ _ | doctype _ _ _ | xmlDecl _ _ _ => cases ht
  | _ => exact hg.elim

theorem forestPieces_safe (hd : Genshi.Gen.SanClass.commentsDotall = true) {cfg : Cfg} (hm : CfgMarkupOk cfg)
    (hcss : CssNamesPlain cfg) (ns : List Node) (h : ForestGood cfg ns) :
    ∀ t, Reader.Piece.tok t ∈ Reader.forestPieces ns → TokSafe cfg t := by
  intro t ht
  rw [← Reader.pieces_forestU [] false, Output.treeFu_nil.2] at ht
  obtain ⟨ev, hev, ht⟩ := List.mem_flatMap.mp ht
  exact evPieces_safe hd hm hcss ((forestF_good hm ns ((treeGood_toP cfg).2 ns h)).2 ev hev) t ht

-- a DOCTYPE and an XML declaration are read back as a token of their own and a line break
theorem tokChars_all {P : Reader.Tok → Prop} {t0 : Reader.Tok} (h0 : P t0) {s : Str} :
    ∀ t, Reader.Piece.tok t ∈ [Reader.Piece.tok t0, .chars s] → P t := by
  intro t ht
  rcases List.mem_cons.mp ht with e | ht
  · cases e; exact h0
  · cases List.mem_singleton.mp ht

theorem evsPiecesH_safe (hd : Genshi.Gen.SanClass.commentsDotall = true) {cfg : Cfg} (hm : CfgMarkupOk cfg)
    (hcss : CssNamesPlain cfg) : ∀ (evs : List Output.FEv) (hdoc : Bool), (∀ ev ∈ evs, FEvGood cfg ev) →
      ∀ t, Reader.Piece.tok t ∈ Reader.evsPiecesH hdoc evs → TokSafeP cfg t
  | [], _, _, _, ht => nomatch ht
  | ev :: evs, hdoc, h, t, ht => by
    rcases List.mem_append.mp ht with ht | ht
    · -- a PI or the first DOCTYPE is read back as a token of its own kind, every other event as in `evPieces`
      cases ev with
      | doctype n p s =>
        cases hdoc
        · exact tokChars_all (P := TokSafeP cfg) (by trivial) t ht
        · cases ht
      | pi tg d => cases List.mem_singleton.mp ht; trivial
      | _ => exact (evPieces_safe hd hm hcss (h _ List.mem_cons_self) t ht).toP
    · exact evsPiecesH_safe hd hm hcss evs _ (fun e he => h e (List.mem_cons_of_mem _ he)) t ht

theorem htmlExpectedP_safe (hd : Genshi.Gen.SanClass.commentsDotall = true) {cfg : Cfg} (hm : CfgMarkupOk cfg)
    (hcss : CssNamesPlain cfg) (evs : List Output.FEv) (h : ∀ ev ∈ evs, FEvGood cfg ev) :
    ∀ t ∈ Reader.htmlExpectedP evs, TokSafeP cfg t := by
  rw [Reader.htmlExpectedP_eq_assemble]
  exact Reader.assemble_all (fun _ => trivial) (evsPiecesH_safe hd hm hcss evs false h)

end Genshi.San
