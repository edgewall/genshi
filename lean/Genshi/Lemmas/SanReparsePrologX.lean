/-
  C06 — the re-parse clause beyond C08's tree hypotheses, XHTML method:
  forests whose leaves are also processing instructions and DOCTYPE declarations, through C08's
  events-level round trip `xhtml_roundtrip_prolog_partial` (`XhtmlOkAllP` / `foldXP`).

  What the filter establishes: no CDATA marker reaches the serializer (the reader state stays
  outside a section: `cd = none` throughout), a kept PI holds no `>` and therefore no `?>`
  (`piSafe true`).  What an XML tokenizer needs in addition and the filter does NOT establish is
  asked of the *sanitized* forest: no LF / TAB / CR in attribute values (`forestAttrVals`,
  finding C08-attr-ws, as in `xhtml_reparse_safe_partial`) and well-quoted DOCTYPE literals
  (`forestDtQuoted`: `dtScan true` — an XML parser is quote-aware inside a DOCTYPE, so a name
  like `a"b` (which no XML parser yields) would swallow what follows up to the next quote).
-/
import Genshi.Lemmas.SanReparseProlog
set_option linter.unusedSimpArgs false
namespace Genshi.San
open Genshi Genshi.San.Spec

mutual
  /-- every DOCTYPE leaf of the (sanitized) forest is a literal an XML tokenizer reads back whole
      (well quoted), and every XML declaration leaf one that holds no `?>` -/
  def treeDtQuoted : Node → Bool
    | .elem _ _ ks => forestDtQuoted ks
    | .leaf (.doctype n p s) => Reader.dtScan true none (Reader.doctypeContent n p s)
    | .leaf (.xmlDecl v e s) => Reader.piSafe true false (Reader.xmlDeclContent v e s)
    | .leaf _ => true
  def forestDtQuoted : List Node → Bool
    | [] => true
    | n :: ns => treeDtQuoted n && forestDtQuoted ns
end

/-- what the XML round trip asks of an event beyond `FEvGood` -/
def XExtra : Output.FEv → Prop
  | .start _ a => ∀ q ∈ a, Reader.attrValOkB q.2 = true
  | .empty _ a => ∀ q ∈ a, Reader.attrValOkB q.2 = true
  | .doctype n p s => Reader.dtScan true none (Reader.doctypeContent n p s) = true
  | .xmlDecl v e s => Reader.piSafe true false (Reader.xmlDeclContent v e s) = true
  | _ => True

theorem fAttrs_vals {a : AttrList} (h : ∀ b ∈ a, Reader.attrValOkB b.2 = true) :
    ∀ q ∈ Output.fAttrs a, Reader.attrValOkB q.2 = true := by
  intro q hq
  unfold Output.fAttrs at hq
  obtain ⟨b, hb, rfl⟩ := List.mem_map.mp hq
  exact h b hb

mutual
  theorem treeF_extra : ∀ (n : Node), treeAttrVals n = true → treeDtQuoted n = true →
      ∀ ev ∈ Output.treeF n, XExtra ev
    | .elem t a ks, hv, hq => by
      simp only [treeAttrVals, Bool.and_eq_true, List.all_eq_true] at hv
      have hq' : forestDtQuoted ks = true := by simpa [treeDtQuoted] using hq
      have ha := fAttrs_vals hv.1
      intro ev hev
      simp only [Output.treeF] at hev
      split at hev
      · simp at hev; subst hev; exact ha
      · simp only [List.mem_cons, List.mem_append, List.mem_singleton, List.not_mem_nil, or_false] at hev
        rcases hev with rfl | hev | rfl
        · exact ha
        · exact forestF_extra ks hv.2 hq' ev hev
        · trivial
    | .leaf e, _, hq => by
      intro ev hev
      cases e
      case doctype n p s => obtain rfl := List.mem_singleton.mp hev; exact hq
      case xmlDecl v e s => obtain rfl := List.mem_singleton.mp hev; exact hq
      case start | end_ | startNs | endNs => cases hev
      all_goals obtain rfl := List.mem_singleton.mp hev; trivial
  theorem forestF_extra : ∀ (ns : List Node), forestAttrVals ns = true → forestDtQuoted ns = true →
      ∀ ev ∈ Output.forestF ns, XExtra ev
    | [], _, _ => by simp [Output.forestF]
    | n :: ns, hv, hq => by
      simp only [forestAttrVals, Bool.and_eq_true] at hv
      simp only [forestDtQuoted, Bool.and_eq_true] at hq
      intro ev hev
      simp only [Output.forestF, List.mem_append] at hev
      rcases hev with hev | hev
      · exact treeF_extra n hv.1 hq.1 ev hev
      · exact forestF_extra ns hv.2 hq.2 ev hev
end

theorem xattrsOk_of_good {cfg : Cfg} (hm : CfgMarkupOk cfg) {al : AttrList} (ha : ∀ b ∈ al, AttrGood cfg b)
    (hx : ∀ q ∈ Output.fAttrs al, Reader.attrValOkB q.2 = true) : Reader.XAttrsOk (Output.fAttrs al) := by
  exact fun p hp => ⟨fAttrs_nameOk hm ha p hp, fun _ => hx p hp⟩

theorem fevGood_okX {cfg : Cfg} (hm : CfgMarkupOk cfg) (o : Output.Opts) {ev : Output.FEv} (h : FEvGood cfg ev)
    (hx : XExtra ev) (f : Reader.Flags) :
    Reader.XhtmlOkP o false f ev ∧ Reader.cdAfter false ev = false := by
  cases ev with
  | start t a =>
    obtain ⟨ht, al, rfl, ha⟩ := h
    obtain ⟨hn, _, _⟩ := hm.tags _ ht
    exact ⟨⟨Reader.nameOk_of_B hn, xattrsOk_of_good hm ha hx⟩, rfl⟩
  | empty t a =>
    obtain ⟨ht, al, rfl, ha⟩ := h
    obtain ⟨hn, _, _⟩ := hm.tags _ ht
    exact ⟨⟨Reader.nameOk_of_B hn, xattrsOk_of_good hm ha hx⟩, rfl⟩
  | end_ t => exact ⟨Reader.nameOk_of_B (hm.tags _ h).1, rfl⟩
  | text s fl =>
    have : fl = false := h
    subst this
    exact ⟨rfl, rfl⟩
  | pi t d => exact ⟨piSafe_no_gt true _ _ (piText_no_gt h), rfl⟩
  | doctype n p s => exact ⟨fun _ => hx, rfl⟩
  | xmlDecl _ _ _ => exact ⟨fun _ => hx, rfl⟩
  | _ => cases h

theorem okAllXP_of_good {cfg : Cfg} (hm : CfgMarkupOk cfg) (o : Output.Opts) : ∀ (evs : List Output.FEv),
    (∀ ev ∈ evs, FEvGood cfg ev ∧ XExtra ev) → ∀ f, Reader.XhtmlOkAllP o false f evs := by
  intro evs
  induction evs with
  | nil => intro _ f; trivial
  | cons ev rest ih =>
    intro h f
    obtain ⟨h1, h2⟩ := fevGood_okX hm o (h ev (by simp)).1 (h ev (by simp)).2 f
    simp only [Reader.XhtmlOkAllP]
    rw [h2]
    exact ⟨h1, ih (fun e he => h e (by simp [he])) _⟩

theorem xhtmlEvP_cd_none {cfg : Cfg} (hm : CfgMarkupOk cfg) (o : Output.Opts) {ev : Output.FEv}
    (h : FEvGood cfg ev ∧ XExtra ev) (r : Reader.RC) (f : Reader.Flags) (hr : r.cd = none) :
    (Reader.xhtmlEvP o r f ev).1.cd = none := by
  obtain ⟨h1, h2⟩ := fevGood_okX hm o h.1 h.2 f
  have hfl := (Reader.xhtmlEvP_flags o r f ev (by rw [hr]; exact h1)).1
  rw [hr, Option.isSome_none, h2] at hfl
  exact Option.not_isSome_iff_eq_none.mp (by rw [hfl]; exact Bool.false_ne_true)

/-- the reader never enters a CDATA section on a sanitized event list -/
theorem foldXP_cd_none {cfg : Cfg} (hm : CfgMarkupOk cfg) (o : Output.Opts) : ∀ (evs : List Output.FEv),
    (∀ ev ∈ evs, FEvGood cfg ev ∧ XExtra ev) → ∀ (r : Reader.RC) (f : Reader.Flags), r.cd = none →
      (Reader.foldXP o evs r f).1.cd = none := fun evs h r f hr =>
  foldl_inv (fun st : Reader.RC × Reader.Flags => st.1.cd = none) evs (r, f) hr
    fun st ev hev hst => xhtmlEvP_cd_none hm o (h ev hev) st.1 st.2 hst

/-- **what one sanitized event is read back as** (xhtml): the counterpart of `evPieces_safe` -/
theorem evPiecesX_safe (hd : Genshi.Gen.SanClass.commentsDotall = true) {cfg : Cfg} (hm : CfgMarkupOk cfg)
    (hcss : CssNamesPlain cfg) {ev : Output.FEv} (hg : FEvGood cfg ev) :
    ∀ t, Reader.Piece.tok t ∈ Reader.evPiecesX ev → TokSafe cfg t := by
  intro t ht
  cases ev with
  | start tg a =>
    obtain ⟨htg, al, rfl, ha⟩ := hg
    cases List.mem_singleton.mp ht
    exact ⟨htg, xhtmlAttrToks_safe hd hm hcss ha⟩
  | empty tg a =>
    obtain ⟨htg, al, rfl, ha⟩ := hg
    have hs : ∀ sc, TokSafe cfg (.start tg (Reader.xhtmlAttrToks (Output.fAttrs al)) sc) :=
      fun _ => ⟨htg, xhtmlAttrToks_safe hd hm hcss ha⟩
    rw [Reader.evPiecesX] at ht
    split at ht
    · cases List.mem_singleton.mp ht; exact hs _
    · rcases List.mem_cons.mp ht with e | ht
      · cases e; exact hs _
      · cases List.mem_singleton.mp ht; exact htg
  | end_ tg => cases List.mem_singleton.mp ht; exact hg
  | text s f => cases List.mem_singleton.mp ht
  | pi _ _ | doctype _ _ _ | xmlDecl _ _ _ => cases ht
  | _ => exact hg.elim

theorem treePiecesX_safe (hd : Genshi.Gen.SanClass.commentsDotall = true) {cfg : Cfg} (hm : CfgMarkupOk cfg)
    (hcss : CssNamesPlain cfg) : ∀ (n : Node), TreeGood cfg n →
    ∀ t, Reader.Piece.tok t ∈ Reader.treePiecesX n → TokSafe cfg t := by
  intro n h t ht
  rw [← Reader.piecesX_tree] at ht
  obtain ⟨ev, hev, ht⟩ := List.mem_flatMap.mp ht
  exact evPiecesX_safe hd hm hcss ((treeF_good hm n ((treeGood_toP cfg).1 n h)).2 ev hev) t ht

theorem forestPiecesX_safe (hd : Genshi.Gen.SanClass.commentsDotall = true) {cfg : Cfg} (hm : CfgMarkupOk cfg)
    (hcss : CssNamesPlain cfg) : ∀ (ns : List Node), ForestGood cfg ns →
    ∀ t, Reader.Piece.tok t ∈ Reader.forestPiecesX ns → TokSafe cfg t
  | [], _, _, ht => nomatch ht
  | n :: ns, h, t, ht => (List.mem_append.mp ht).elim (treePiecesX_safe hd hm hcss n h.1 t)
      (forestPiecesX_safe hd hm hcss ns h.2 t)

theorem xhtmlEvP_safe (hd : Genshi.Gen.SanClass.commentsDotall = true) {cfg : Cfg} (hm : CfgMarkupOk cfg)
    (hcss : CssNamesPlain cfg) (o : Output.Opts) {ev : Output.FEv} (hg : FEvGood cfg ev) (r : Reader.RC)
    (f : Reader.Flags) (hcd : r.cd = none) (hr : ∀ t ∈ r.toks, TokSafeP cfg t) :
    ∀ t ∈ (Reader.xhtmlEvP o r f ev).1.toks, TokSafeP cfg t := by
  have h := Reader.xhtmlEvP_pieces o r f ev
  rw [hcd, Option.isSome_none, if_neg Bool.false_ne_true] at h
  show ∀ t ∈ (Reader.btC (Reader.xhtmlEvP o r f ev).1).2, TokSafeP cfg t
  rw [h]
  refine Reader.applyPieces_all (fun _ => trivial) (fun t ht => ?_) _ hr
  -- outside a CDATA section: the prolog events and a PI are read back as a token of their own kind, every other
  -- event as in `evPiecesX`
  cases ev with
  | doctype n p s =>
    rw [Reader.evPieceX] at ht
    split at ht
    · cases ht
    · exact tokChars_all (P := TokSafeP cfg) (by trivial) t ht
  | xmlDecl v e s =>
    rw [Reader.evPieceX] at ht
    split at ht
    · cases ht
    · exact tokChars_all (P := TokSafeP cfg) (by trivial) t ht
  | pi tg d => cases List.mem_singleton.mp ht; trivial
  | _ => exact (evPiecesX_safe hd hm hcss hg t ht).toP

theorem foldXP_safe (hd : Genshi.Gen.SanClass.commentsDotall = true) {cfg : Cfg} (hm : CfgMarkupOk cfg)
    (hcss : CssNamesPlain cfg) (o : Output.Opts) : ∀ (evs : List Output.FEv),
    (∀ ev ∈ evs, FEvGood cfg ev ∧ XExtra ev) →
    ∀ (r : Reader.RC) (f : Reader.Flags), r.cd = none → (∀ t ∈ r.toks, TokSafeP cfg t) →
      ∀ t ∈ (Reader.foldXP o evs r f).1.toks, TokSafeP cfg t := fun evs h r f hcd hr =>
  (foldl_inv (fun st : Reader.RC × Reader.Flags => st.1.cd = none ∧ ∀ t ∈ st.1.toks, TokSafeP cfg t) evs (r, f) ⟨hcd, hr⟩
    fun st ev hev hst => ⟨xhtmlEvP_cd_none hm o (h ev hev) st.1 st.2 hst.1,
      xhtmlEvP_safe hd hm hcss o (h ev hev).1 st.1 st.2 hst.1 hst.2⟩).2

theorem xhtmlExpectedP_safe (hd : Genshi.Gen.SanClass.commentsDotall = true) {cfg : Cfg} (hm : CfgMarkupOk cfg)
    (hcss : CssNamesPlain cfg) (o : Output.Opts) (evs : List Output.FEv)
    (h : ∀ ev ∈ evs, FEvGood cfg ev ∧ XExtra ev) :
    ∀ t ∈ Reader.xhtmlExpectedP o evs, TokSafeP cfg t := by
  intro t ht
  unfold Reader.xhtmlExpectedP at ht
  simp only [List.mem_reverse] at ht
  exact Reader.flushToks_all (fun _ => trivial) (foldXP_safe hd hm hcss o evs h {} {} rfl (by simp)) t ht

end Genshi.San
