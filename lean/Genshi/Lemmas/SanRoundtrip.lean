/-
  C06 — an attribute value survives serialisation: the serializers write `escape(value)`
  (`Genshi.Escape.escapeSpec true`, proved equal to the Python and C implementations in C18);
  decoding the references of that text again (here with the model of `stripentities`, which
  knows every numeric form and the 252 named entities) gives the value back.  So what the
  sanitizer guarantees about an attribute value holds for the value a parser reads back.
-/
import Genshi.Lemmas.SanTotal
import Genshi.Lemmas.Escape
import Genshi.Lemmas.ListBasics
namespace Genshi.San
open Genshi.Gen Genshi.Escape

theorem word_facts : isReWord 'a' = true ∧ isReWord 'm' = true ∧ isReWord 'p' = true ∧ isReWord 'l' = true ∧
    isReWord 't' = true ∧ isReWord 'g' = true ∧ isReWord ';' = false ∧ isReDigit '3' = true ∧
    isReDigit '4' = true ∧ isReDigit ';' = false := by decide +kernel

theorem entity_facts : namedRef ['a', 'm', 'p'] = .ok ['&'] ∧ namedRef ['l', 't'] = .ok ['<'] ∧
    namedRef ['g', 't'] = .ok ['>'] ∧ numRef ['3', '4'] = ['"'] := by decide +kernel

theorem semi_stop (rest : Str) : ∀ x, (';' :: rest).head? = some x → isReWord x = false := fun x hx => by
  cases hx; exact word_facts.2.2.2.2.2.2.1

theorem matchRef_word {c : Char} {w : Str} (hc : c ≠ '#') (hw : ∀ x ∈ c :: w, isReWord x = true) (rest : Str) :
    matchRef (c :: w ++ ';' :: rest) = some (namedRef (c :: w), rest) := by
  rw [matchRef, List.cons_append, matchNumeric_none hc, ← List.cons_append, matchNamed,
    takeWhile_append_stop hw (semi_stop rest), dropWhile_append_stop hw (semi_stop rest)]
  rfl

theorem matchNumeric_qt (rest : Str) : matchNumeric ('#' :: '3' :: '4' :: ';' :: rest) = some (['"'], rest) := by
  obtain ⟨_, _, _, _, _, _, _, h3, h4, hs⟩ := word_facts
  simp [matchNumeric, List.takeWhile, List.dropWhile, h3, h4, hs, entity_facts.2.2.2, dropSemi]

theorem matchRef_qt (rest : Str) : matchRef ('#' :: '3' :: '4' :: ';' :: rest) = some (.ok ['"'], rest) := by
  rw [matchRef, matchNumeric_qt]

theorem escC_length_pos (q : Bool) (c : Char) : 1 ≤ (escC q c).length :=
  List.length_pos_iff.mpr (escC_ne_nil q c)

theorem stripEntGo_word {c : Char} {w r : Str} (hc : c ≠ '#') (hw : ∀ x ∈ c :: w, isReWord x = true)
    (hn : namedRef (c :: w) = .ok r) (f : Nat) (rest : Str) :
    stripEntGo (f + 1) ('&' :: (c :: w ++ ';' :: rest)) = (do let t ← stripEntGo f rest; pure (r ++ t)) := by
  simp only [stripEntGo, ↓reduceIte, matchRef_word hc hw, hn]
  rfl

theorem stripEntGo_escC (q : Bool) (c : Char) (f : Nat) (rest : Str) :
    stripEntGo (f + 1) (escC q c ++ rest) = (do let t ← stripEntGo f rest; pure (c :: t)) := by
  obtain ⟨ha, hm, hp, hl, ht, hg, _⟩ := word_facts
  rcases escC_cases q c with ⟨h, rfl⟩ | ⟨h, rfl⟩ | ⟨h, rfl⟩ | ⟨h, rfl, _⟩ | ⟨h, hc, _⟩ <;> rw [h]
  · exact stripEntGo_word (w := ['m', 'p']) (by decide) (by simp [ha, hm, hp]) entity_facts.1 f rest
  · exact stripEntGo_word (w := ['t']) (by decide) (by simp [hl, ht]) entity_facts.2.1 f rest
  · exact stripEntGo_word (w := ['t']) (by decide) (by simp [hg, ht]) entity_facts.2.2.1 f rest
  · simp only [qt, List.cons_append, List.nil_append, stripEntGo, ↓reduceIte, matchRef_qt]
    rfl
  · simp only [List.cons_append, List.nil_append, stripEntGo, hc, ↓reduceIte]

theorem stripEntGo_escape (q : Bool) : ∀ (v : Str) (f : Nat), (escapeSpec q v).length < f →
    stripEntGo f (escapeSpec q v) = .ok v := by
  intro v
  induction v with
  | nil =>
    intro f hf
    cases f with
    | zero => cases hf
    | succ f => rfl
  | cons c v' ih =>
    intro f hf
    rw [escapeSpec_cons] at hf ⊢
    cases f with
    | zero => cases hf
    | succ f =>
      have := escC_length_pos q c
      rw [stripEntGo_escC, ih f (by rw [List.length_append] at hf; omega)]
      rfl

theorem stripentities_escape (q : Bool) (v : Str) : stripentities (escapeSpec q v) = .ok v :=
  stripEntGo_escape q v _ (Nat.lt_succ_self _)

end Genshi.San
