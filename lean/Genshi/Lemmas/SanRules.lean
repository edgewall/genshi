/-
  C06 — lemmas for the two rules of the sanitizer that the whitelist theorems do not mention,
  `is_safe_elem`'s password rule and `is_safe_css`'s negative-margin rule (the rules themselves:
  `Props/C06.lean`, `no_password_input`, `css_no_negative_margin`): what `attrs.get(name)` reads after
  the attribute loop (`sanAttrs_attrGet`), and what `is_safe_css` demands (`isSafeCss_true`).
-/
import Genshi.Lemmas.SanCssSafe
import Genshi.Lemmas.SanCssUrl
import Genshi.Lemmas.SanFilter
set_option linter.unusedSimpArgs false
namespace Genshi.San
open Genshi.Gen Genshi.San.Spec

theorem isSafeCss_true {cfg : Cfg} {pn v : Str} (h : isSafeCss cfg pn v = true) :
    pn ∈ cfg.safeCss ∧ ¬ (marginWord.isPrefixOf pn = true ∧ '-' ∈ v) := by
  unfold isSafeCss at h
  simp only [Bool.and_eq_true, Bool.not_eq_true', Bool.and_eq_false_iff] at h
  refine ⟨by simpa using h.1, ?_⟩
  rintro ⟨hp, hm⟩
  rcases h.2 with h2 | h2
  · rw [hp] at h2; cases h2
  · have : List.contains v '-' = true := by simpa using hm
    rw [this] at h2; cases h2

theorem stripRefs_of_stable {s : Str} (h : stripentities s = .ok s) : stripRefs s = .ok s := by
  unfold stripRefs stripRefsFix
  simp [h]

theorem attrGet_cons_eq {a : QName × Str} {as : AttrList} {n : Str} (h : a.1.text = n) :
    attrGet (a :: as) n = a.2 := by
  unfold attrGet
  rw [List.find?_cons]
  have : (a.1.text == n) = true := by simp [h]
  simp only [this]

theorem attrGet_cons_ne {a : QName × Str} {as : AttrList} {n : Str} (h : a.1.text ≠ n) :
    attrGet (a :: as) n = attrGet as n := by
  unfold attrGet
  rw [List.find?_cons]
  have : (a.1.text == n) = false := by simp [h]
  simp only [this]

theorem typeWord_ne_style : (typeWord == styleWord) = false := by decide

theorem stripRefsD_eq {s v : Str} (h : stripRefs s = .ok v) : stripRefsD s = v := by
  unfold stripRefsD; rw [h]

theorem stripRefsD_nil : stripRefsD [] = [] := by decide

theorem attrGet_none {as : AttrList} {n : Str} (h : ∀ a ∈ as, a.1.text ≠ n) : attrGet as n = [] := by
  induction as with
  | nil => simp [attrGet]
  | cons a as ih =>
    rw [attrGet_cons_ne (h a (by simp))]
    exact ih (fun b hb => h b (by simp [hb]))

/-- `attrs.get(n)` after the attribute loop, for a name that is neither a URI attribute nor `style`: the decoded
    value of the input's (first) attribute of that name if the name is safe, nothing otherwise -/
theorem sanAttrs_attrGet {cfg : Cfg} {n : Str} (hu : cfg.uriAttrs.contains n = false) (hst : (n == styleWord) = false) :
    ∀ (as r : AttrList), sanAttrs cfg as = .ok r →
      attrGet r n = if cfg.safeAttrs.contains n then stripRefsD (attrGet as n) else []
  | [], r, h => by cases h; rw [show attrGet [] n = [] from rfl, stripRefsD_nil, ite_self]
  | a :: as, r, h => by
    obtain ⟨x, hx⟩ := sanAttr_ok cfg a
    obtain ⟨t, ht⟩ := sanAttrs_ok cfg as
    have iht := sanAttrs_attrGet hu hst as t ht
    rw [sanAttrs, hx, ht] at h
    cases h
    by_cases hn : a.1.text = n
    · -- the first attribute of that name
      obtain ⟨v, hv⟩ := stripRefs_ok a.2
      rw [attrGet_cons_eq hn, stripRefsD_eq hv]
      unfold sanAttr at hx
      simp only [hv, ok_bind, hn, hu, hst, Bool.false_eq_true, ↓reduceIte] at hx
      by_cases hs : cfg.safeAttrs.contains n = true
      · simp only [hs, Bool.not_true, Bool.false_eq_true, ↓reduceIte, pure_eq_ok, Except.ok.injEq] at hx
        subst hx
        rw [if_pos hs]; exact attrGet_cons_eq hn
      · simp only [hs, Bool.not_false, ↓reduceIte, pure_eq_ok, Except.ok.injEq] at hx
        subst hx
        rw [if_neg hs]; rw [if_neg hs] at iht; exact iht
    · -- another name: dropped or kept under the same name
      rw [attrGet_cons_ne hn, ← iht]
      cases x with
      | none => rfl
      | some b => exact attrGet_cons_ne (by rw [(sanAttr_some hx).name]; exact hn)

theorem sanAttrs_attrGet_type {cfg : Cfg} (hu : cfg.uriAttrs.contains typeWord = false) :
    ∀ (as r : AttrList), sanAttrs cfg as = .ok r →
      (∀ a ∈ as, a.1.text ≠ typeWord) ∧ attrGet r typeWord = [] ∨
      (∃ a ∈ as, a.1.text = typeWord) ∧
        attrGet r typeWord = if cfg.safeAttrs.contains typeWord then stripRefsD (attrGet as typeWord) else [] := by
  intro as r h
  have e := sanAttrs_attrGet hu typeWord_ne_style as r h
  by_cases hex : ∃ a ∈ as, a.1.text = typeWord
  · exact .inr ⟨hex, e⟩
  · have hall : ∀ a ∈ as, a.1.text ≠ typeWord := fun a ha hn => hex ⟨a, ha, hn⟩
    exact .inl ⟨hall, by rw [e, attrGet_none hall, stripRefsD_nil, ite_self]⟩

theorem pyLower_nil_ne_password : pyLower [] ≠ passwordWord := by decide

end Genshi.San
