/-
  C06 — totality of the text functions of the sanitizer model: none of the explicit failure points
  (`pyChr`, `pyIntHex`, `pyIntDec`) is reachable (`sanitize_css`: `SanCssStable.lean`; the filter loop: `SanFilter.lean`);
  the two repeat-until-stable loops as one loop (`fixN`).
-/
import Genshi.Model.San
import Genshi.Lemmas.ListBasics
namespace Genshi.San
open Genshi.Gen

instance {ε α} [DecidableEq ε] [DecidableEq α] : DecidableEq (Except ε α) := fun a b =>
  match a, b with
  | .ok x, .ok y => if h : x = y then isTrue (by rw [h]) else isFalse (by intro e; cases e; exact h rfl)
  | .error x, .error y => if h : x = y then isTrue (by rw [h]) else isFalse (by intro e; cases e; exact h rfl)
  | .ok _, .error _ => isFalse (by intro e; cases e)
  | .error _, .ok _ => isFalse (by intro e; cases e)

@[simp] theorem ok_bind {ε α β} (a : α) (f : α → Except ε β) : (Except.ok a >>= f) = f a := rfl
@[simp] theorem pure_eq_ok {ε α} (a : α) : (pure a : Except ε α) = .ok a := rfl
@[simp] theorem map_ok {ε α β} (f : α → β) (a : α) : (f <$> (Except.ok a : Except ε α)) = .ok (f a) := rfl
@[simp] theorem exists_ok_eq {ε α} (a : α) : ∃ r, (Except.ok a : Except ε α) = .ok r := ⟨a, rfl⟩

/-- what a `…_spec` statement (never fails, and the result has a property) says of a result in hand -/
theorem of_spec {ε α : Type} {x : Except ε α} {P : α → Prop} (h : ∃ r, x = .ok r ∧ P r) {r : α} (hr : x = .ok r) : P r := by
  obtain ⟨_, h', hp⟩ := h
  cases h'.symm.trans hr
  exact hp

theorem entities_valid : Entities.name2codepoint.all (fun e => Nat.isValidChar e.2) = true := by
  decide +kernel

theorem lookupEntity_valid {name : Str} {cp : Nat} (h : lookupEntity name = some cp) :
    Nat.isValidChar cp := by
  unfold lookupEntity at h
  split at h
  · rename_i e he
    have hm := List.mem_of_find?_eq_some he
    have := List.all_eq_true.mp entities_valid e hm
    simp at h; subst h; simpa using this
  · simp at h

theorem toNat_ofNat_valid {n : Nat} (h : n.isValidChar) : (Char.ofNat n).toNat = n :=
  char_toNat_ofNat h

theorem pyChr_ok {n : Nat} (h : Nat.isValidChar n) : pyChr n = .ok (Char.ofNat n) := by
  unfold pyChr; simp [h]

theorem numRef_length (ref : Str) : (numRef ref).length = 1 := by
  unfold numRef
  simp only
  repeat' split
  all_goals rfl

theorem dropSemi_length (s : Str) : (dropSemi s).length ≤ s.length := by
  unfold dropSemi
  split
  · simp
  · exact Nat.le_refl _

theorem takeWhile_dropWhile_length (p : Char → Bool) (l : Str) :
    (l.takeWhile p).length + (l.dropWhile p).length = l.length := by
  rw [← List.length_append, List.takeWhile_append_dropWhile]

theorem matchNumeric_none {c : Char} (hc : c ≠ '#') (r : Str) : matchNumeric (c :: r) = none := by
  unfold matchNumeric
  split
  · rename_i heq; exact absurd (List.cons.inj heq).1 hc
  · rfl

/-- behind a non-empty run of digits (and an optional `;`) less is left -/
theorem dropSemi_dropWhile_length {p : Char → Bool} {l : Str} (h : (!(l.takeWhile p).isEmpty) = true) :
    (dropSemi (l.dropWhile p)).length < l.length := by
  have h1 := takeWhile_dropWhile_length p l
  have h2 := dropSemi_length (l.dropWhile p)
  have h3 : (l.takeWhile p).length ≠ 0 := fun e => by rw [List.length_eq_zero_iff.mp e] at h; cases h
  omega

theorem matchNumeric_length {s r rest : Str} (h : matchNumeric s = some (r, rest)) :
    r.length + rest.length < s.length := by
  revert h
  fun_cases matchNumeric s
  case case1 r1 _ hne =>
    intro h; cases h
    rw [numRef_length, List.length_cons]
    have := dropSemi_dropWhile_length hne; omega
  case case2 x r3 _ _ hne _ _ =>
    intro h; cases h
    rw [numRef_length, List.length_cons, List.length_cons]
    have := dropSemi_dropWhile_length hne; omega
  all_goals exact nofun

theorem namedRef_some {w : Str} (hw : w ≠ []) : ∃ r, namedRef w = .ok r ∧ r.length ≤ w.length := by
  unfold namedRef
  split
  · rename_i cp h
    rw [pyChr_ok (lookupEntity_valid h)]
    exact ⟨_, rfl, List.length_pos_iff.mpr hw⟩
  · exact ⟨_, rfl, Nat.le_refl _⟩

/-- a reference is replaced by a text that is shorter than `&` and the reference together -/
theorem matchRef_some {s rest : Str} {x : Except Err Str} (h : matchRef s = some (x, rest)) :
    ∃ r, x = .ok r ∧ r.length + rest.length < s.length + 1 := by
  unfold matchRef at h
  split at h
  · rename_i r0 rest0 hm
    cases h
    exact ⟨r0, rfl, Nat.lt_succ_of_lt (matchNumeric_length hm)⟩
  · unfold matchNamed at h
    dsimp only at h
    split at h
    · cases h
    · rename_i hne
      split at h
      · rename_i r' hd
        cases h
        obtain ⟨r, hr, hl⟩ := namedRef_some (w := s.takeWhile isReWord) (fun h0 => hne (by rw [h0]; rfl))
        have h2 := takeWhile_dropWhile_length isReWord s
        rw [hd, List.length_cons] at h2
        exact ⟨r, hr, by omega⟩
      · cases h

theorem stripEntGo_spec : ∀ (f : Nat) (s : Str), ∃ t, stripEntGo f s = .ok t ∧ (s.length < f → t = s ∨ t.length < s.length)
  | 0, s => ⟨s, rfl, fun h => nomatch h⟩
  | f + 1, [] => ⟨[], rfl, fun _ => .inl rfl⟩
  | f + 1, c :: cs => by
    obtain ⟨t, ht, hl⟩ := stripEntGo_spec f cs
    have copy : ∃ t', (do let t ← stripEntGo f cs; pure (c :: t)) = .ok t' ∧
        ((c :: cs).length < f + 1 → t' = c :: cs ∨ t'.length < (c :: cs).length) :=
      ⟨c :: t, by rw [ht]; rfl, fun h => (hl (Nat.lt_of_succ_lt_succ h)).imp (congrArg _) Nat.succ_lt_succ⟩
    rw [stripEntGo]
    by_cases hc : c = '&'
    · rw [if_pos hc]
      cases hm : matchRef cs with
      | none => exact copy
      | some pr =>
        obtain ⟨x, rest⟩ := pr
        obtain ⟨r, rfl, hlen⟩ := matchRef_some hm
        obtain ⟨t2, ht2, hl2⟩ := stripEntGo_spec f rest
        refine ⟨r ++ t2, by simp only [ok_bind, ht2]; rfl, fun h => .inr ?_⟩
        rw [List.length_cons] at h
        rw [List.length_append, List.length_cons]
        rcases hl2 (by omega) with e | l
        · rw [e]; omega
        · omega
    · rw [if_neg hc]; exact copy

theorem stripentities_ok (s : Str) : ∃ r, stripentities s = .ok r :=
  (stripEntGo_spec _ s).imp fun _ h => h.1

theorem stripentities_shrinks {s t : Str} (h : stripentities s = .ok t) : t = s ∨ t.length < s.length :=
  of_spec (stripEntGo_spec _ s) h (Nat.lt_succ_self _)

theorem takeUpTo_all (p : Char → Bool) (n : Nat) (s : Str) : ∀ c ∈ (takeUpTo p n s).1, p c = true := by
  fun_induction takeUpTo p n s
  case case3 hp a b hab ih => rw [hab] at ih; exact List.forall_mem_cons.mpr ⟨hp, ih⟩
  all_goals exact fun _ h => nomatch h

theorem escapeHex_hexVal : ∀ n ∈ SanClass.escapeHex, (hexVal? (Char.ofNat n)).isSome = true := by
  decide

theorem inClass_escapeHex_hexVal {c : Char} (h : inClass SanClass.escapeHex c = true) :
    (hexVal? c).isSome = true := by
  unfold inClass at h
  have hm : c.toNat ∈ SanClass.escapeHex := by simpa using h
  have := escapeHex_hexVal _ hm
  simpa [Char.ofNat_toNat] using this

theorem pyIntHex_fold_ok (s : Str) (acc : Nat) (h : ∀ c ∈ s, (hexVal? c).isSome = true) :
    ∃ n, s.foldl (fun acc c => do
      let a ← acc
      match hexVal? c with
      | some v => pure (a * 16 + v)
      | none => .error .valueError) (.ok acc : Except Err Nat) = .ok n := by
  induction s generalizing acc with
  | nil => exact ⟨acc, rfl⟩
  | cons c cs ih =>
    have hc := h c (by simp)
    cases hv : hexVal? c with
    | none => simp [hv] at hc
    | some v =>
      simp only [List.foldl_cons]
      have : (do let a ← (Except.ok acc : Except Err Nat)
                 match hexVal? c with
                 | some v => pure (a * 16 + v)
                 | none => Except.error Err.valueError) = Except.ok (acc * 16 + v) := by
        simp [hv]
      rw [this]
      exact ih _ (fun d hd => h d (by simp [hd]))

theorem pyIntHex_ok {s : Str} (hne : s ≠ []) (h : ∀ c ∈ s, (hexVal? c).isSome = true) :
    ∃ n, pyIntHex s = .ok n := by
  unfold pyIntHex
  have : s.isEmpty = false := by cases s <;> simp_all
  simp only [this, Bool.false_eq_true, ↓reduceIte]
  exact pyIntHex_fold_ok s 0 h

theorem isValidChar_of_guard {n : Nat} (h : ¬ (n > 0x10FFFF ∨ (0xD800 ≤ n ∧ n ≤ 0xDFFF))) :
    Nat.isValidChar n := by
  unfold Nat.isValidChar; omega

/-- a hex escape never fails; its replacement is an escaped backslash or one character that is no backslash -/
theorem cssHexRepl_spec {hs : Str} (hne : hs ≠ []) (h : ∀ c ∈ hs, inClass SanClass.escapeHex c = true) :
    ∃ r, cssHexRepl hs = .ok r ∧ (r = ['\\', '\\'] ∨ ∃ x, r = [x] ∧ x ≠ '\\') := by
  obtain ⟨n, hn⟩ := pyIntHex_ok hne (fun c hc => inClass_escapeHex_hexVal (h c hc))
  unfold cssHexRepl
  rw [hn, ok_bind]
  by_cases h1 : n = 0x5C
  · rw [if_pos h1]; exact ⟨_, rfl, .inl rfl⟩
  · rw [if_neg h1]
    by_cases h2 : n > 0x10FFFF ∨ (0xD800 ≤ n ∧ n ≤ 0xDFFF)
    · rw [if_pos h2]; exact ⟨_, rfl, .inr ⟨replChar, rfl, by decide⟩⟩
    · have hv := isValidChar_of_guard h2
      rw [if_neg h2, pyChr_ok hv]
      exact ⟨_, rfl, .inr ⟨_, rfl, fun e => h1 ((char_toNat_ofNat hv).symm.trans (congrArg Char.toNat e))⟩⟩

/-- `stripentities` as the total function it is -/
def stripEnt (s : Str) : Str :=
  match stripentities s with
  | .ok t => t
  | .error _ => s

theorem stripentities_eq (s : Str) : stripentities s = .ok (stripEnt s) := by
  obtain ⟨t, ht⟩ := stripentities_ok s
  rw [stripEnt, ht]

/-- `while g s ≠ s: s := g s` with fuel: both repeat-until-stable loops of the sanitizer are this loop
    (`stripRefsFix_eq`, `stripCommentsFix_eq`), and what is known about them is known about it -/
def fixN (g : Str → Str) : Nat → Str → Str
  | 0, s => s
  | f + 1, s => if g s = s then s else fixN g f (g s)

theorem fixN_inv {g : Str → Str} {P : Str → Prop} (hP : ∀ s, P s → P (g s)) : ∀ (f : Nat) (s : Str), P s → P (fixN g f s)
  | 0, _, h => h
  | f + 1, s, h => by
    unfold fixN
    split
    · exact h
    · exact fixN_inv hP f _ (hP s h)

section
variable {g : Str → Str} (hg : ∀ s, g s = s ∨ (g s).length < s.length)
include hg

-- a pass that changes the text shortens it, so fuel beyond the length is never used up
theorem fixN_fuel : ∀ (f f' : Nat) (s : Str), s.length < f → s.length < f' → fixN g f s = fixN g f' s
  | 0, _, _, h, _ => nomatch h
  | _, 0, _, _, h => nomatch h
  | f + 1, f' + 1, s, h, h' => by
    unfold fixN
    by_cases e : g s = s
    · rw [if_pos e, if_pos e]
    · have l : (g s).length < s.length := (hg s).resolve_left e
      rw [if_neg e, if_neg e]
      exact fixN_fuel f f' _ (by omega) (by omega)

theorem fixN_fixed : ∀ (f : Nat) (s : Str), s.length < f → g (fixN g f s) = fixN g f s
  | 0, _, h => nomatch h
  | f + 1, s, h => by
    unfold fixN
    by_cases e : g s = s
    · rw [if_pos e]; exact e
    · have l : (g s).length < s.length := (hg s).resolve_left e
      rw [if_neg e]
      exact fixN_fixed f _ (by omega)

theorem fixN_length (f : Nat) (s : Str) : (fixN g f s).length ≤ s.length :=
  fixN_inv (P := fun t => t.length ≤ s.length)
    (fun t ht => by rcases hg t with e | l; rw [e]; exact ht; omega) f s (Nat.le_refl _)
end

theorem stripRefsFix_eq : ∀ (f : Nat) (s : Str), stripRefsFix f s = .ok (fixN stripEnt f s)
  | 0, _ => rfl
  | f + 1, s => by
    unfold stripRefsFix fixN
    rw [stripentities_eq, ok_bind]
    split
    · rfl
    · exact stripRefsFix_eq f _

theorem stripCommentsFix_eq (d : Bool) : ∀ (f : Nat) (s : Str), stripCommentsFix d f s = fixN (stripCommentsOnce d) f s
  | 0, _ => rfl
  | f + 1, s => by unfold stripCommentsFix fixN; dsimp only; rw [stripCommentsFix_eq d f]

theorem stripRefs_ok (s : Str) : ∃ r, stripRefs s = .ok r := ⟨_, stripRefsFix_eq _ s⟩

theorem stripEnt_shrinks (s : Str) : stripEnt s = s ∨ (stripEnt s).length < s.length :=
  stripentities_shrinks (stripentities_eq s)

/-- attribute values are decoded until no reference is left: the emitted value is a fixed point of
    `stripentities`, so a reader that decodes attribute values once more (genshi's own HTMLParser does, on
    top of html.parser) ends up with the very value that was checked -/
theorem stripRefs_fixed {s v : Str} (h : stripRefs s = .ok v) : stripentities v = .ok v := by
  rw [stripRefs, stripRefsFix_eq] at h
  cases h
  rw [stripentities_eq, fixN_fixed stripEnt_shrinks _ s (Nat.lt_succ_self _)]

end Genshi.San
