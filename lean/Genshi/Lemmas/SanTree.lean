/-
  C06 — the filter on the flattening of a forest is the flattening of the pruned forest:
  a dropped element disappears with its whole subtree, nothing else is lost.
-/
import Genshi.Lemmas.SanFilter
set_option linter.unusedSimpArgs false
namespace Genshi.San

mutual
  /-- an element that is not safe disappears with everything inside; comments and the markers of CDATA sections disappear; every
      other node stays, elements with their attributes filtered -/
  def prune (cfg : Cfg) : Node → Except Err (List Node)
    | .elem t a ks =>
      if !isSafeElem cfg t a then pure []
      else do
        let a' ← sanAttrs cfg a
        let ks' ← pruneList cfg ks
        pure [.elem t a' ks']
    | .leaf e =>
      match e with
      | .comment _ => pure []
      | .startCdata => pure []
      | .doctype n p s => if dtHasGt n p s then pure [] else pure [.leaf (.doctype n p s)]
      | .endCdata => pure []
      | .pi t d => if List.contains t '>' || List.contains d '>' then pure [] else pure [.leaf (.pi t d)]
      | e => pure [.leaf e]
  def pruneList (cfg : Cfg) : List Node → Except Err (List Node)
    | [] => pure []
    | n :: ns => do
      let a ← prune cfg n
      let b ← pruneList cfg ns
      pure (a ++ b)
end

theorem prune_leaf (cfg : Cfg) (e : Event) :
    prune cfg (.leaf e) = .ok (if passes e = true then [.leaf e] else []) := by
  cases e
  case pi t d => rcases Bool.eq_false_or_eq_true (List.contains t '>' || List.contains d '>') with h | h <;>
    (simp only [prune, passes, h]; rfl)
  case doctype n p s => rcases Bool.eq_false_or_eq_true (dtHasGt n p s) with h | h <;>
    (simp only [prune, passes, h]; rfl)
  all_goals rfl

theorem prune_elem (cfg : Cfg) (t : QName) (a : AttrList) (ks : List Node) :
    prune cfg (.elem t a ks) = if isSafeElem cfg t a then
      (do let a' ← sanAttrs cfg a; let ks' ← pruneList cfg ks; pure [.elem t a' ks']) else .ok [] := by
  cases h : isSafeElem cfg t a <;> simp only [prune, h] <;> rfl

theorem pruneList_cons (cfg : Cfg) (n : Node) (ns : List Node) :
    pruneList cfg (n :: ns) = (do let a ← prune cfg n; let b ← pruneList cfg ns; pure (a ++ b)) := by
  rw [pruneList]

theorem prune_total (cfg : Cfg) : (∀ n, ∃ p, prune cfg n = .ok p) ∧ ∀ ns, ∃ p, pruneList cfg ns = .ok p := by
  refine node_induction (fun t a ks ⟨ks', hk⟩ => ?_) (fun e => ⟨_, prune_leaf cfg e⟩) ⟨[], rfl⟩
    (fun n ns ⟨a, ha⟩ ⟨b, hb⟩ => ⟨a ++ b, by rw [pruneList_cons, ha, hb]; rfl⟩)
  obtain ⟨a', ha⟩ := sanAttrs_ok cfg a
  rw [prune_elem, ha, hk]
  split <;> exact ⟨_, rfl⟩

theorem prune_elem_ok {cfg : Cfg} {t : QName} {a : AttrList} {ks p : List Node}
    (h : prune cfg (.elem t a ks) = .ok p) :
    p = [] ∨ ∃ a' ks', isSafeElem cfg t a = true ∧ sanAttrs cfg a = .ok a' ∧ pruneList cfg ks = .ok ks' ∧
      p = [.elem t a' ks'] := by
  obtain ⟨a', ha⟩ := sanAttrs_ok cfg a
  obtain ⟨ks', hk⟩ := (prune_total cfg).2 ks
  rw [prune_elem] at h
  by_cases hs : isSafeElem cfg t a = true
  · rw [if_pos hs, ha, hk] at h
    exact .inr ⟨a', ks', hs, ha, hk, (Except.ok.inj h).symm⟩
  · rw [if_neg hs] at h
    exact .inl (Except.ok.inj h).symm

theorem pruneList_cons_ok {cfg : Cfg} {n : Node} {ns p : List Node} (h : pruneList cfg (n :: ns) = .ok p) :
    ∃ a b, prune cfg n = .ok a ∧ pruneList cfg ns = .ok b ∧ p = a ++ b := by
  obtain ⟨a, ha⟩ := (prune_total cfg).1 n
  obtain ⟨b, hb⟩ := (prune_total cfg).2 ns
  rw [pruneList_cons, ha, hb] at h
  exact ⟨a, b, ha, hb, (Except.ok.inj h).symm⟩

/-- pruning keeps a forest a forest -/
theorem prune_ok_both (cfg : Cfg) :
    (∀ n p, n.ok = true → prune cfg n = .ok p → okList p = true) ∧
    ∀ ns p, okList ns = true → pruneList cfg ns = .ok p → okList p = true := by
  refine node_induction (fun t a ks ih p hok h => ?_) (fun e p hok h => ?_) (fun p _ h => ?_)
    (fun n ns ihn ihns p hok h => ?_)
  · rcases prune_elem_ok h with rfl | ⟨a', ks', _, _, hk, rfl⟩
    · rfl
    · simpa [okList, Node.ok] using ih ks' (by simpa [Node.ok] using hok) hk
  · rw [prune_leaf] at h
    cases h
    split
    · simpa [okList] using hok
    · rfl
  · cases h; rfl
  · obtain ⟨a, b, ha, hb, rfl⟩ := pruneList_cons_ok h
    simp only [okList, Bool.and_eq_true] at hok
    rw [okList_append, ihn a hok.1 ha, ihns b hok.2 hb]; rfl

@[simp] theorem error_bind {ε α β} (e : ε) (f : α → Except ε β) : (Except.error e >>= f) = .error e := rfl

theorem sanitizeFrom_step {cfg : Cfg} {st st' : St} {e : Event} {es out r : Stream}
    (h : step cfg st e = .ok (st', out)) (hr : sanitizeFrom cfg st' es = .ok r) :
    sanitizeFrom cfg st (e :: es) = .ok (out ++ r) := by
  rw [sanitizeFrom, h, ok_bind, hr]; rfl

/-- inside a dropped element a subtree changes nothing: the START of an element named like the dropped one
    raises `depth`, its END brings it back, and `depth` never reaches 0 on the way -/
theorem drop_both (cfg : Cfg) (w : QName) :
    (∀ (n : Node) (d : Nat) (rest : Stream), n.ok = true → 1 ≤ d →
      sanitizeFrom cfg ⟨some w, d⟩ (n.flatten ++ rest) = sanitizeFrom cfg ⟨some w, d⟩ rest) ∧
    ∀ (ns : List Node) (d : Nat) (rest : Stream), okList ns = true → 1 ≤ d →
      sanitizeFrom cfg ⟨some w, d⟩ (flattenList ns ++ rest) = sanitizeFrom cfg ⟨some w, d⟩ rest := by
  refine node_induction (fun t a ks ih d rest hok hd => ?_) (fun e d rest hok _ => ?_) (fun _ _ _ _ => rfl)
    (fun n ns ihn ihns d rest hok hd => ?_)
  · obtain ⟨r, hr⟩ := sanitizeFrom_ok cfg ⟨some w, d⟩ rest
    rw [hr, Node.flatten, List.cons_append, List.append_assoc]
    by_cases ht : (t.text == w.text) = true
    · refine sanitizeFrom_step (out := []) ((step_start_drop ..).trans (by rw [if_pos ht])) ?_
      rw [ih (d + 1) _ hok (Nat.le_add_left ..)]
      refine sanitizeFrom_step (out := []) ((step_end_drop ..).trans ?_) hr
      rw [if_pos (Bool.beq_comm.trans ht), if_neg (by omega)]; rfl
    · refine sanitizeFrom_step (out := []) ((step_start_drop ..).trans (by rw [if_neg ht])) ?_
      rw [ih d _ hok hd]
      refine sanitizeFrom_step (out := []) ((step_end_drop ..).trans ?_) hr
      rw [if_neg (by rwa [Bool.beq_comm])]
  · obtain ⟨r, hr⟩ := sanitizeFrom_ok cfg ⟨some w, d⟩ rest
    rw [hr]
    refine sanitizeFrom_step (out := []) ?_ hr
    rw [step_leaf cfg _ (by simpa [Node.ok] using hok), Option.isNone_some, Bool.and_false]; rfl
  · simp only [okList, Bool.and_eq_true] at hok
    rw [flattenList, List.append_assoc, ihn d _ hok.1 hd, ihns d rest hok.2 hd]

theorem drop_node (cfg : Cfg) (w : QName) : ∀ (n : Node) (d : Nat) (rest : Stream), n.ok = true → 1 ≤ d →
      sanitizeFrom cfg ⟨some w, d⟩ (n.flatten ++ rest) = sanitizeFrom cfg ⟨some w, d⟩ rest :=
  (drop_both cfg w).1

/-- outside a dropped element the filter does to the flattening of a subtree what `prune` does to the subtree -/
theorem keep_both (cfg : Cfg) :
    (∀ (n : Node) (rest : Stream), n.ok = true →
      sanitizeFrom cfg St.init (n.flatten ++ rest) =
        (do let p ← prune cfg n; let r ← sanitizeFrom cfg St.init rest; pure (flattenList p ++ r))) ∧
    ∀ (ns : List Node) (rest : Stream), okList ns = true →
      sanitizeFrom cfg St.init (flattenList ns ++ rest) =
        (do let p ← pruneList cfg ns; let r ← sanitizeFrom cfg St.init rest; pure (flattenList p ++ r)) := by
  refine node_induction (fun t a ks ih rest hok => ?_) (fun e rest hok => ?_) (fun rest _ => ?_)
    (fun n ns ihn ihns rest hok => ?_)
  · obtain ⟨r, hr⟩ := sanitizeFrom_ok cfg St.init rest
    obtain ⟨ks', hk⟩ := (prune_total cfg).2 ks
    rw [hr, prune_elem, Node.flatten, List.cons_append, List.append_assoc]
    by_cases hs : isSafeElem cfg t a = true
    · obtain ⟨as, has⟩ := sanAttrs_ok cfg a
      rw [if_pos hs, has, hk]
      have hin : sanitizeFrom cfg St.init (flattenList ks ++ ([.end_ t] ++ rest)) = .ok (flattenList ks' ++ .end_ t :: r) := by
        rw [ih _ hok, hk, List.singleton_append, sanitizeFrom_step (st := St.init) (step_end_keep ..) hr]; rfl
      refine (sanitizeFrom_step (st := St.init) ((step_start_keep ..).trans (by rw [if_pos hs, has]; rfl)) hin).trans ?_
      simp [flattenList, Node.flatten]
    · rw [if_neg hs]
      -- the element is dropped: its subtree is skipped at depth 1, its END ends the drop
      refine sanitizeFrom_step (st := St.init) (out := []) ((step_start_keep ..).trans (by rw [if_neg hs])) ?_
      rw [(drop_both cfg t).2 ks 1 _ hok (Nat.le_refl 1)]
      exact sanitizeFrom_step (out := []) ((step_end_drop ..).trans (by rw [if_pos (beq_self_eq_true _)]; rfl)) hr
  · obtain ⟨r, hr⟩ := sanitizeFrom_ok cfg St.init rest
    rw [hr, prune_leaf]
    refine (sanitizeFrom_step (step_leaf cfg St.init (by simpa [Node.ok] using hok)) hr).trans ?_
    cases passes e <;> rfl
  · obtain ⟨r, hr⟩ := sanitizeFrom_ok cfg St.init rest
    show sanitizeFrom cfg St.init rest = _
    rw [hr]; rfl
  · simp only [okList, Bool.and_eq_true] at hok
    obtain ⟨r, hr⟩ := sanitizeFrom_ok cfg St.init rest
    obtain ⟨p, hp⟩ := (prune_total cfg).1 n
    obtain ⟨q, hq⟩ := (prune_total cfg).2 ns
    rw [flattenList, List.append_assoc, ihn _ hok.1, ihns rest hok.2, pruneList_cons, hp, hq, hr]
    simp only [ok_bind, pure_eq_ok, flattenList_append, List.append_assoc]

theorem keep_node (cfg : Cfg) : ∀ (n : Node) (rest : Stream), n.ok = true →
      sanitizeFrom cfg St.init (n.flatten ++ rest) =
        (do let p ← prune cfg n; let r ← sanitizeFrom cfg St.init rest; pure (flattenList p ++ r)) :=
  (keep_both cfg).1

theorem pruneList_ok (cfg : Cfg) {ns : List Node} (hok : okList ns = true) :
    ∃ p, pruneList cfg ns = .ok p ∧ sanitize cfg (flattenList ns) = .ok (flattenList p) := by
  obtain ⟨p, hp⟩ := (prune_total cfg).2 ns
  have h := (keep_both cfg).2 ns [] hok
  rw [List.append_nil, hp] at h
  exact ⟨p, hp, h.trans (by simp [sanitizeFrom])⟩

theorem sanitize_flattenList (cfg : Cfg) (ns : List Node) (hok : okList ns = true) :
    sanitize cfg (flattenList ns) = (do let p ← pruneList cfg ns; pure (flattenList p)) := by
  obtain ⟨p, hp, h⟩ := pruneList_ok cfg hok
  rw [h, hp]; rfl

/-- a well-nested input is the flattening of a forest (`wellNested_flatten_forest`, `Lemmas/Core.lean`), the
    filter prunes that forest, and the flattening of a forest is well nested -/
theorem wellNested_sanitize {cfg : Cfg} {s o : Stream} (hs : WellNested s)
    (h : sanitize cfg s = .ok o) : WellNested o := by
  obtain ⟨ns, hok, rfl⟩ := wellNested_flatten_forest hs
  obtain ⟨p, hp, hsan⟩ := pruneList_ok cfg hok
  cases h.symm.trans hsan
  exact wellNested_flattenList p ((prune_ok_both cfg).2 ns p hok hp)

end Genshi.San
