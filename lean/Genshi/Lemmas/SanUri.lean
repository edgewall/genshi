/-
  C06 — `is_safe_uri` against the browser-side scheme reader.
-/
import Genshi.Lemmas.SanTotal
import Genshi.Lemmas.ListBasics
import Genshi.Model.SanSpec
set_option linter.unusedSimpArgs false
namespace Genshi.San
open Genshi.Gen Genshi.San.Spec

theorem char_le_iff (a b : Char) : a ≤ b ↔ a.toNat ≤ b.toNat := by
  rw [Char.le_def, UInt32.le_iff_toNat_le]; rfl

theorem inRanges_iff {rs : List (Nat × Nat)} {n : Nat} :
    inRanges rs n = true ↔ ∃ r ∈ rs, r.1 ≤ n ∧ n ≤ r.2 := by
  unfold inRanges
  simp [List.any_eq_true]

def wsCtlRanges : List (Nat × Nat) := SanClass.spaceRanges ++ [(0, 31), (127, 159)]

theorem isWsCtl_ranges (c : Char) : isWsCtl c = inRanges wsCtlRanges c.toNat := by
  unfold isWsCtl wsCtlRanges isSpace inRanges
  simp only [List.any_append, List.any_cons, List.any_nil, Bool.or_false, Bool.or_assoc, Nat.zero_le,
    decide_true, Bool.true_and]
  congr 2
  rw [decide_eq_decide]; omega

-- U+3000, the last `str.isspace` character, bounds `wsCtlRanges`
theorem wsCtl_alnum_disjoint : rangesDisjoint 12288 wsCtlRanges SanClass.alnumRanges = true := by
  decide +kernel

/-- white space and control characters are not alphanumeric: `is_safe_uri` discards them, too -/
theorem isAlnum_of_isWsCtl {c : Char} (h : isWsCtl c = true) : isAlnum c = false := by
  rw [isWsCtl_ranges] at h
  exact rangesDisjoint_spec wsCtl_alnum_disjoint h

theorem isAlnum_below_zero {c : Char} (h : c.toNat < 48) : isAlnum c = false := by
  have hall : SanClass.alnumRanges.all (fun r => Nat.ble 48 r.1) = true := by decide +kernel
  cases ha : isAlnum c with
  | false => rfl
  | true =>
    obtain ⟨r, hr, h1, _⟩ := inRanges_iff.mp ha
    have := Nat.le_of_ble_eq_true (List.all_eq_true.mp hall r hr)
    omega

theorem alnum_has_ascii : (48, 57) ∈ SanClass.alnumRanges ∧ (65, 90) ∈ SanClass.alnumRanges ∧
    (97, 122) ∈ SanClass.alnumRanges := by decide +kernel

theorem isAlnum_of_ascii {c : Char} (h : isAsciiAlpha c = true ∨ isAsciiDigit c = true) :
    isAlnum c = true := by
  unfold isAlnum
  rw [inRanges_iff]
  obtain ⟨h1, h2, h3⟩ := alnum_has_ascii
  unfold isAsciiAlpha isAsciiDigit at h
  simp only [Bool.or_eq_true, Bool.and_eq_true, decide_eq_true_eq, char_le_iff] at h
  rcases h with (⟨ha, hb⟩ | ⟨ha, hb⟩) | ⟨ha, hb⟩
  · exact ⟨_, h3, ha, hb⟩
  · exact ⟨_, h2, ha, hb⟩
  · exact ⟨_, h1, ha, hb⟩

theorem lowerAscii_spec (n : Nat) :
    lookupLower SanClass.lowerAscii n = if 65 ≤ n ∧ n ≤ 90 then some [n + 32] else none := by
  -- the table lists exactly the capital letters, each with its small letter
  have htab : SanClass.lowerAscii = (List.range 26).map fun i => (65 + i, [97 + i]) := by decide +kernel
  unfold lookupLower
  rw [htab, List.find?_map]
  cases hf : (List.range 26).find? ((fun e : Nat × List Nat => e.1 == n) ∘ fun i => (65 + i, [97 + i])) with
  | some i =>
    have hi : i < 26 := List.mem_range.mp (List.mem_of_find?_eq_some hf)
    have hp := List.find?_some hf
    have hn : 65 + i = n := beq_iff_eq.mp hp
    subst hn
    rw [if_pos ⟨Nat.le_add_right _ _, by omega⟩]
    exact congrArg (fun k => some [k]) (by omega : 97 + i = 65 + i + 32)
  | none =>
    have hno : ¬ (65 ≤ n ∧ n ≤ 90) := fun h =>
      List.find?_eq_none.mp hf (n - 65) (List.mem_range.mpr (by omega))
        ((beq_iff_eq (a := 65 + (n - 65))).mpr (by omega))
    rw [if_neg hno]; rfl

theorem pyLowerChar_ascii {c : Char} (h : c.toNat < 128) : pyLowerChar c = [Genshi.Str.lower c] := by
  unfold pyLowerChar Genshi.Str.lower
  simp only [h, ↓reduceIte, lowerAscii_spec, char_le_iff]
  have e1 : ('A' : Char).toNat = 65 := rfl
  have e2 : ('Z' : Char).toNat = 90 := rfl
  rw [e1, e2]
  by_cases hr : 65 ≤ c.toNat ∧ c.toNat ≤ 90
  · simp [hr]
  · simp [hr]

/-- a scheme character is an ASCII letter or digit, or one of the `+ - .` that `is_safe_uri` keeps, too -/
theorem schemeChar_cases {c : Char} (h : isSchemeChar c = true) :
    (isAsciiAlpha c = true ∨ isAsciiDigit c = true) ∨ isSchemePunct c = true := by
  simpa only [isSchemeChar, isSchemePunct, Bool.or_eq_true, or_assoc] using h

theorem schemePunct_cases {c : Char} (h : isSchemePunct c = true) : c = '+' ∨ c = '-' ∨ c = '.' := by
  simpa only [isSchemePunct, Bool.or_eq_true, decide_eq_true_eq, or_assoc] using h

theorem ascii_of_schemeChar {c : Char} (h : isSchemeChar c = true) : c.toNat < 128 := by
  rcases schemeChar_cases h with h | h
  · unfold isAsciiAlpha isAsciiDigit at h
    simp only [Bool.or_eq_true, Bool.and_eq_true, decide_eq_true_eq, char_le_iff] at h
    have e1 : ('z' : Char).toNat = 122 := rfl
    have e2 : ('Z' : Char).toNat = 90 := rfl
    have e3 : ('9' : Char).toNat = 57 := rfl
    rcases h with (⟨_, hb⟩ | ⟨_, hb⟩) | ⟨_, hb⟩ <;> omega
  · rcases schemePunct_cases h with rfl | rfl | rfl <;> decide

theorem split1_append {sep : Char} : ∀ {a : Str} (b : Str), sep ∉ a → split1 sep (a ++ sep :: b) = (a, some b)
  | [], b, _ => by rw [List.nil_append, split1, if_pos rfl]
  | c :: a, b, h => by
    rw [List.cons_append, split1, if_neg (fun e : c = sep => h (e ▸ List.mem_cons_self)),
      split1_append b (fun hm => h (List.mem_cons_of_mem _ hm))]

theorem split1_not_mem {sep : Char} : ∀ {l : Str}, sep ∉ l → split1 sep l = (l, none)
  | [], _ => rfl
  | c :: l, h => by
    rw [split1, if_neg (fun e : c = sep => h (e ▸ List.mem_cons_self)), split1_not_mem (fun hm => h (List.mem_cons_of_mem _ hm))]

/-- `s.split(sep, 1)`: no separator and the text itself, or the text cut at its first separator -/
theorem split1_cases (sep : Char) : ∀ l : Str, (sep ∉ l ∧ split1 sep l = (l, none)) ∨
    ∃ a b, sep ∉ a ∧ l = a ++ sep :: b ∧ split1 sep l = (a, some b)
  | [] => .inl ⟨List.not_mem_nil, rfl⟩
  | c :: l => by
    by_cases hc : c = sep
    · subst hc; exact .inr ⟨[], l, List.not_mem_nil, rfl, split1_append l List.not_mem_nil⟩
    · have hne : ∀ {x : Str}, sep ∉ x → sep ∉ c :: x := fun hx hm => (List.mem_cons.mp hm).elim (fun e => hc e.symm) hx
      rcases split1_cases sep l with ⟨h, _⟩ | ⟨a, b, ha, rfl, _⟩
      · exact .inl ⟨hne h, split1_not_mem (hne h)⟩
      · exact .inr ⟨c :: a, b, hne ha, rfl, split1_append b (hne ha)⟩

theorem split1_none_iff (sep : Char) (l : Str) : (split1 sep l).2 = none ↔ sep ∉ l := by
  rcases split1_cases sep l with ⟨h, e⟩ | ⟨a, b, _, rfl, e⟩ <;> rw [e]
  · exact iff_of_true rfl h
  · exact iff_of_false nofun (fun h => h (List.mem_append_right _ List.mem_cons_self))

theorem split1_fst_not_mem (sep : Char) (l : Str) : sep ∉ (split1 sep l).1 := by
  rcases split1_cases sep l with ⟨h, e⟩ | ⟨a, b, h, _, e⟩ <;> rw [e] <;> exact h

theorem split1_eq {sep : Char} {l a b : Str} (h : split1 sep l = (a, some b)) : l = a ++ sep :: b ∧ sep ∉ a := by
  rcases split1_cases sep l with ⟨_, e⟩ | ⟨a', b', ha, hl, e⟩ <;> cases e.symm.trans h
  exact ⟨hl, ha⟩

theorem split1_append_right {sep : Char} {s a b : Str} (t : Str) (h : split1 sep s = (a, some b)) :
    split1 sep (s ++ t) = (a, some (b ++ t)) := by
  obtain ⟨rfl, ha⟩ := split1_eq h
  rw [List.append_assoc, List.cons_append, split1_append _ ha]

theorem split1_append_left {sep : Char} {l : Str} (s : Str) (h : sep ∉ l) :
    split1 sep (l ++ s) = (l ++ (split1 sep s).1, (split1 sep s).2) := by
  rcases split1_cases sep s with ⟨hs, e⟩ | ⟨a, b, ha, rfl, e⟩ <;> rw [e]
  · exact split1_not_mem (fun hm => (List.mem_append.mp hm).elim h hs)
  · rw [← List.append_assoc]
    exact split1_append b (fun hm => (List.mem_append.mp hm).elim h ha)

theorem split1_filter (sep : Char) (f : Char → Bool) (hf : f sep = true) (l : Str) :
    split1 sep (l.filter f) = ((split1 sep l).1.filter f, (split1 sep l).2.map (List.filter f)) := by
  rcases split1_cases sep l with ⟨h, e⟩ | ⟨a, b, ha, rfl, e⟩ <;> rw [e]
  · exact split1_not_mem (fun hm => h (List.mem_filter.mp hm).1)
  · rw [List.filter_append, List.filter_cons_of_pos hf]
    exact split1_append _ (fun hm => ha (List.mem_filter.mp hm).1)

theorem split1_colon_of_hash {l pre : Str} {r : Str} (h : split1 ':' l = (pre, some r)) (hp : '#' ∉ pre) :
    ∃ r', split1 ':' (split1 '#' l).1 = (pre, some r') := by
  obtain ⟨rfl, hc⟩ := split1_eq h
  refine ⟨(split1 '#' r).1, ?_⟩
  rw [split1_append_left _ hp, split1, if_neg (by decide)]
  exact split1_append _ hc

theorem isWsCtl_hash : isWsCtl '#' = false := by decide

theorem scheme_all_schemeChar {p : Str} (hs : isScheme p = true) : ∀ c ∈ p, isSchemeChar c = true := by
  cases p with
  | nil => simp [isScheme] at hs
  | cons a as =>
    simp only [isScheme, Bool.and_eq_true, List.all_eq_true] at hs
    intro c hc
    simp at hc
    rcases hc with rfl | hc
    · simp [isSchemeChar, hs.1]
    · exact hs.2 c hc

theorem alnum_of_plain_scheme {p : Str} (hs : isScheme p = true)
    (hp : ∀ c ∈ p, c ≠ '+' ∧ c ≠ '-' ∧ c ≠ '.') :
    ∀ c ∈ p, (isAsciiAlpha c = true ∨ isAsciiDigit c = true) ∧ c.toNat < 128 := by
  intro c hc
  have hsc := scheme_all_schemeChar hs c hc
  refine ⟨(schemeChar_cases hsc).resolve_right fun h => ?_, ascii_of_schemeChar hsc⟩
  obtain ⟨h1, h2, h3⟩ := hp c hc
  rcases schemePunct_cases h with e | e | e <;> contradiction

theorem pyLower_ascii {p : Str} (h : ∀ c ∈ p, c.toNat < 128) : pyLower p = p.map Genshi.Str.lower := by
  induction p with
  | nil => rfl
  | cons c cs ih =>
    unfold pyLower at *
    simp only [List.flatMap_cons, List.map_cons]
    rw [pyLowerChar_ascii (h c (by simp)), ih (fun d hd => h d (by simp [hd]))]
    rfl

/-- what `is_safe_uri` computes once the text before the first colon is known to hold no `#` -/
theorem isSafeUri_pre {cfg : Cfg} {v pre r : Str} (hsp : split1 ':' v = (pre, some r)) (hhash : '#' ∉ pre) :
    isSafeUri cfg v = cfg.safeSchemes.contains (pyLower (pre.filter keepInScheme)) := by
  unfold isSafeUri
  by_cases hh : List.contains v '#' = true
  · obtain ⟨r', hr'⟩ := split1_colon_of_hash hsp hhash
    simp only [hh, ↓reduceIte]
    have hcol : List.contains (split1 '#' v).1 ':' = true := by
      have : (split1 ':' (split1 '#' v).1).2 ≠ none := by simp [hr']
      rw [Ne, split1_none_iff] at this
      simpa using this
    simp [hcol, hr']
    intro hn; exact absurd (by simpa using hcol) hn
  · simp only [hh, Bool.false_eq_true, ↓reduceIte]
    have hcol : List.contains v ':' = true := by
      have : (split1 ':' v).2 ≠ none := by simp [hsp]
      rw [Ne, split1_none_iff] at this
      simpa using this
    simp [hcol, hsp]
    intro hn; exact absurd (by simpa using hcol) hn

theorem keep_of_isWsCtl {c : Char} (h : isWsCtl c = true) : keepInScheme c = false := by
  unfold keepInScheme
  rw [isAlnum_of_isWsCtl h]
  cases hp : isSchemePunct c with
  | false => rfl
  | true => rcases schemePunct_cases hp with rfl | rfl | rfl <;> revert h <;> decide

theorem keep_of_schemeChar {c : Char} (h : isSchemeChar c = true) : keepInScheme c = true :=
  Bool.or_eq_true_iff.mpr ((schemeChar_cases h).imp_left isAlnum_of_ascii)

/-- the browser's reading, unfolded: the scheme is the text before the first colon with white
    space and controls removed, ASCII case folded — and that is exactly what `is_safe_uri`
    compares with the safe schemes -/
theorem browserScheme_pre {v s : Str} (hb : browserScheme v = some s) :
    ∃ pre r, split1 ':' v = (pre, some r) ∧ pyLower (pre.filter keepInScheme) = s ∧
      ∀ x ∈ pre, isWsCtl x = true ∨ isSchemeChar x = true := by
  unfold browserScheme at hb
  simp only at hb
  have hfc : (fun c => !isWsCtl c) ':' = true := by decide
  rw [split1_filter ':' _ hfc] at hb
  cases hsp : split1 ':' v with
  | mk pre rest =>
    simp only [hsp] at hb
    cases rest with
    | none => simp at hb
    | some r =>
      simp only [Option.map_some] at hb
      by_cases hsch : isScheme (pre.filter fun c => !isWsCtl c) = true
      · simp only [hsch, ↓reduceIte, Option.some.injEq] at hb
        subst hb
        have hsc := scheme_all_schemeChar hsch
        -- on `pre` the two filters keep the same characters: what is not white space or a control is a scheme character
        have hfilt : pre.filter keepInScheme = pre.filter fun c => !isWsCtl c := by
          apply List.filter_congr
          intro c hc
          cases hw : isWsCtl c with
          | true => exact keep_of_isWsCtl hw
          | false => exact keep_of_schemeChar (hsc c (by simp [List.mem_filter, hc, hw]))
        refine ⟨pre, r, rfl, ?_, ?_⟩
        · rw [hfilt, pyLower_ascii (fun c hc => ascii_of_schemeChar (hsc c hc))]
        · intro x hx
          cases hw : isWsCtl x with
          | true => exact Or.inl rfl
          | false =>
            right
            exact hsc x (by simp [List.mem_filter, hx, hw])
      · simp [hsch] at hb

theorem not_mem_pre {pre : Str} (hall : ∀ x ∈ pre, isWsCtl x = true ∨ isSchemeChar x = true)
    {x : Char} (h1 : isWsCtl x = false) (h2 : isSchemeChar x = false) : x ∉ pre := by
  intro hm
  rcases hall x hm with h | h
  · rw [h1] at h; cases h
  · rw [h2] at h; cases h

/-- **`is_safe_uri` is sound for the browser's reading**: if the URI is accepted and a browser
    reads a scheme in it, that scheme is one of the configured safe schemes. -/
theorem isSafeUri_sound {cfg : Cfg} {v s : Str} (h : isSafeUri cfg v = true)
    (hb : browserScheme v = some s) : s ∈ cfg.safeSchemes := by
  obtain ⟨pre, r, hsp, hlow, hall⟩ := browserScheme_pre hb
  have hhash : '#' ∉ pre := not_mem_pre hall (by decide) (by decide)
  rw [isSafeUri_pre hsp hhash, hlow] at h
  simpa using h

end Genshi.San
