/-
  `str.lstrip` / `rstrip` / `strip` with a character class (`Genshi.Str.lstripBy`, `rstripBy`, `stripBy`):
  `lstripBy p` is `List.dropWhile p`, `rstripBy p` the same from the other end. What is taken off is a run of
  characters in the class; what is left begins (ends) with a character outside it; text with such a first (last)
  character is left alone. At the end the equation of `join` on a piece that others follow. No Mathlib.
-/
import Genshi.Model.Str
namespace Genshi.Str

theorem lstripBy_eq_dropWhile (p : Char → Bool) (a : List Char) : lstripBy p a = a.dropWhile p := by
  fun_induction lstripBy p a with
  | case1 => rfl
  | case2 c cs hc ih => rw [List.dropWhile_cons_of_pos hc]; exact ih
  | case3 c cs hc => exact (List.dropWhile_cons_of_neg hc).symm

theorem lstripBy_cons_of_pos {p : Char → Bool} {c : Char} (cs : List Char) (h : p c = true) :
    lstripBy p (c :: cs) = lstripBy p cs := by
  rw [lstripBy, if_pos h]

theorem lstripBy_cons_of_neg {p : Char → Bool} {c : Char} (cs : List Char) (h : p c = false) :
    lstripBy p (c :: cs) = c :: cs := by
  rw [lstripBy, if_neg (by rw [h]; nofun)]

/-- a prefix of characters in the class goes -/
theorem lstripBy_decomp (p : Char → Bool) (a : List Char) : ∃ w, a = w ++ lstripBy p a ∧ w.all p = true :=
  ⟨a.takeWhile p, by rw [lstripBy_eq_dropWhile, List.takeWhile_append_dropWhile], List.all_takeWhile⟩

/-- what is left does not begin with a character in the class -/
theorem lstripBy_head (p : Char → Bool) (a : List Char) (c : Char) (h : (lstripBy p a).head? = some c) : p c = false := by
  have := List.head?_dropWhile_not p a
  rwa [← lstripBy_eq_dropWhile, h] at this

theorem lstripBy_id (p : Char → Bool) (a : List Char) (h : ∀ c, a.head? = some c → p c = false) : lstripBy p a = a := by
  cases a with
  | nil => rfl
  | cons c cs => exact lstripBy_cons_of_neg cs (h c rfl)

theorem lstripBy_idem (p : Char → Bool) (a : List Char) : lstripBy p (lstripBy p a) = lstripBy p a :=
  lstripBy_id p _ (lstripBy_head p a)

theorem lstripBy_append (p : Char → Bool) (a b : List Char) :
    lstripBy p (a ++ b) = if a.all p then lstripBy p b else lstripBy p a ++ b := by
  fun_induction lstripBy p a with
  | case1 => rfl
  | case2 c cs hc ih => rw [List.cons_append, lstripBy_cons_of_pos _ hc, List.all_cons, hc, Bool.true_and]; exact ih
  | case3 c cs hc => rw [List.cons_append, lstripBy, if_neg hc, List.all_cons, Bool.eq_false_iff.2 hc]; rfl

theorem lstripBy_all (p : Char → Bool) (a : List Char) (h : a.all p = true) : lstripBy p a = [] := by
  have := lstripBy_append p a []
  rwa [List.append_nil, h, if_pos rfl] at this

theorem lstripBy_eq_nil (p : Char → Bool) (a : List Char) (h : lstripBy p a = []) : a.all p = true := by
  obtain ⟨w, hw, hp⟩ := lstripBy_decomp p a
  rw [hw, h, List.append_nil]; exact hp

/-- white space in front of a text that does not begin with white space is all that goes -/
theorem lstripBy_prefix (p : Char → Bool) (w r : List Char) (hw : w.all p = true)
    (hr : ∀ c, r.head? = some c → p c = false) : lstripBy p (w ++ r) = r := by
  rw [lstripBy_append, if_pos hw, lstripBy_id p r hr]

theorem lstripBy_mem (p : Char → Bool) (a : List Char) (c : Char) (h : c ∈ lstripBy p a) : c ∈ a :=
  List.dropWhile_subset p (lstripBy_eq_dropWhile p a ▸ h)

/-! `rstripBy p a = (lstripBy p a.reverse).reverse`: each fact is its mirror image. -/

theorem rstripBy_reverse (p : Char → Bool) (a : List Char) : rstripBy p a.reverse = (lstripBy p a).reverse := by
  rw [rstripBy, List.reverse_reverse]

theorem rstripBy_snoc_of_pos {p : Char → Bool} {c : Char} (a : List Char) (h : p c = true) :
    rstripBy p (a ++ [c]) = rstripBy p a := by
  rw [rstripBy, List.reverse_append, List.reverse_singleton, List.singleton_append, lstripBy_cons_of_pos _ h, rstripBy]

theorem rstripBy_snoc_of_neg {p : Char → Bool} {c : Char} (a : List Char) (h : p c = false) :
    rstripBy p (a ++ [c]) = a ++ [c] := by
  rw [rstripBy, List.reverse_append, List.reverse_singleton, List.singleton_append, lstripBy_cons_of_neg _ h,
    List.reverse_cons, List.reverse_reverse]

theorem rstripBy_decomp (p : Char → Bool) (a : List Char) : ∃ w, a = rstripBy p a ++ w ∧ w.all p = true := by
  obtain ⟨w, hw, hp⟩ := lstripBy_decomp p a.reverse
  exact ⟨w.reverse, by rw [rstripBy, ← List.reverse_append, ← hw, List.reverse_reverse], by rwa [List.all_reverse]⟩

theorem rstripBy_last (p : Char → Bool) (a : List Char) (c : Char) (h : (rstripBy p a).getLast? = some c) : p c = false :=
  lstripBy_head p a.reverse c (by rwa [rstripBy, List.getLast?_reverse] at h)

theorem rstripBy_id (p : Char → Bool) (a : List Char) (h : ∀ c, a.getLast? = some c → p c = false) : rstripBy p a = a := by
  rw [rstripBy, lstripBy_id p _ (fun c hc => h c (by rwa [List.head?_reverse] at hc)), List.reverse_reverse]

theorem rstripBy_idem (p : Char → Bool) (a : List Char) : rstripBy p (rstripBy p a) = rstripBy p a :=
  rstripBy_id p _ (rstripBy_last p a)

theorem rstripBy_append (p : Char → Bool) (a b : List Char) :
    rstripBy p (a ++ b) = if b.all p then rstripBy p a else a ++ rstripBy p b := by
  rw [rstripBy, List.reverse_append, lstripBy_append, List.all_reverse]
  split
  · rfl
  · rw [List.reverse_append, List.reverse_reverse]; rfl

theorem rstripBy_all (p : Char → Bool) (a : List Char) (h : a.all p = true) : rstripBy p a = [] := by
  rw [rstripBy, lstripBy_all p _ (by rwa [List.all_reverse])]; rfl

theorem rstripBy_mem (p : Char → Bool) (a : List Char) (c : Char) (h : c ∈ rstripBy p a) : c ∈ a :=
  List.mem_reverse.1 (lstripBy_mem p _ c (List.mem_reverse.1 h))

/-- stripping the right end does not uncover a new left end -/
theorem lstripBy_rstripBy (p : Char → Bool) (a : List Char) (h : lstripBy p a = a) :
    lstripBy p (rstripBy p a) = rstripBy p a := by
  refine lstripBy_id p _ fun c hc => ?_
  obtain ⟨w, hw, _⟩ := rstripBy_decomp p a
  cases hr : rstripBy p a with
  | nil => rw [hr] at hc; cases hc
  | cons x xs =>
    rw [hr] at hc hw; cases hc
    exact lstripBy_head p a c (by rw [h, hw]; rfl)

theorem stripBy_lstrip (p : Char → Bool) (a : List Char) : lstripBy p (stripBy p a) = stripBy p a :=
  lstripBy_rstripBy p _ (lstripBy_idem p a)

theorem stripBy_rstrip (p : Char → Bool) (a : List Char) : rstripBy p (stripBy p a) = stripBy p a :=
  rstripBy_idem p _

theorem stripBy_idem (p : Char → Bool) (a : List Char) : stripBy p (stripBy p a) = stripBy p a := by
  rw [stripBy, stripBy_lstrip, stripBy_rstrip]

theorem stripBy_mem (p : Char → Bool) (a : List Char) (c : Char) (h : c ∈ stripBy p a) : c ∈ a :=
  lstripBy_mem p a c (rstripBy_mem p _ c h)

theorem stripBy_decomp (p : Char → Bool) (a : List Char) :
    ∃ w1 w2, a = w1 ++ stripBy p a ++ w2 ∧ w1.all p = true ∧ w2.all p = true := by
  obtain ⟨w1, h1, a1⟩ := lstripBy_decomp p a
  obtain ⟨w2, h2, a2⟩ := rstripBy_decomp p (lstripBy p a)
  exact ⟨w1, w2, by rw [List.append_assoc, stripBy, ← h2, ← h1], a1, a2⟩

theorem join_cons_cons (sep x y : List Char) (r : List (List Char)) :
    join sep (x :: y :: r) = x ++ sep ++ join sep (y :: r) := rfl

theorem join_cons_of_ne_nil (sep x : List Char) {r : List (List Char)} (h : r ≠ []) :
    join sep (x :: r) = x ++ sep ++ join sep r := by
  obtain ⟨y, r, rfl⟩ := List.exists_cons_of_ne_nil h
  rfl

end Genshi.Str
