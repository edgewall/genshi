/-
  Helper lemmas for C01: escaped text seen by the reader, over `Lemmas/Escape.lean`.  `unescape` on text whose pieces
  were escaped with different `quotes` settings (`escapeMixed`: a text run mixes `escape(v, quotes=False)` of the
  serializer with `escape(v)` of the `Markup` operators): the per-character generalisation of
  `unescape_escapeSpec`, and the relation `Enc` (escaped text for given character data) that the value side
  (`SubstMod.lean`) and the reader side (`SubstSer.lean`) both rest on.  Then what `readText` / `readAttr` and their
  XML-faithful variants make of an escaped value, and that every `&` of it starts a reference (`ampsOk`).
-/
import Genshi.Lemmas.Escape
import Genshi.Model.SubstRead
import Genshi.Lemmas.ListBasics
namespace Genshi.Subst
open Genshi.Escape Genshi.Str

/-- a relation between lists that holds of the empty lists and is kept by `++` is kept by `flatMap`: equality (what is
    written for a list of attributes), and the relations carried through the loop case of an induction over templates -/
theorem flatMap_rel {α β γ : Type} {R : List β → List γ → Prop} (nil : R [] [])
    (append : ∀ {a b c d}, R a c → R b d → R (a ++ b) (c ++ d)) (f : α → List β) (g : α → List γ)
    (xs : List α) (h : ∀ x ∈ xs, R (f x) (g x)) : R (xs.flatMap f) (xs.flatMap g) := by
  induction xs with
  | nil => exact nil
  | cons x xs ih =>
    rw [List.flatMap_cons, List.flatMap_cons]
    exact append (h x List.mem_cons_self) (ih fun y hy => h y (List.mem_cons_of_mem _ hy))

/-- a source character together with the `quotes` flag it was escaped under -/
abbrev QChar := Bool × Char

def escapeMixed (ps : List QChar) : List Char := ps.flatMap fun p => escC p.1 p.2

def stP (k : Nat) (p : QChar) : List Char := stage p.1 k p.2

theorem stP_mk (k : Nat) (q : Bool) (c : Char) : stP k (q, c) = stage q k c := rfl

theorem escapeMixed_cons (q : Bool) (c : Char) (ps : List QChar) :
    escapeMixed ((q, c) :: ps) = escC q c ++ escapeMixed ps := rfl

theorem escapeSpec_eq_mixed (q : Bool) (s : List Char) :
    escapeSpec q s = escapeMixed (s.map fun c => (q, c)) := by
  simp [escapeSpec, escapeMixed, List.flatMap_map]

theorem escapeMixed_append (a b : List QChar) : escapeMixed (a ++ b) = escapeMixed a ++ escapeMixed b := by
  simp [escapeMixed]

theorem escapeMixed_isEmpty (ps : List QChar) : (escapeMixed ps).isEmpty = ps.isEmpty := by
  cases ps with
  | nil => rfl
  | cons p ps =>
    obtain ⟨q, c⟩ := p
    rw [escapeMixed_cons]
    cases h : escC q c with
    | nil => exact absurd h (escC_ne_nil q c)
    | cons _ _ => rfl

theorem unescape_escapeMixed (ps : List QChar) : unescape (escapeMixed ps) = ps.map (·.2) :=
  unescape_flatMap_escC (fun p : QChar => p.1) (fun p => p.2) ps

/-- a `Markup` text the theorems can see through: escaped text (each character under either
    `quotes` setting).  This is what `escape(v)`, `Markup('…%s…') % v` without tags, `join`
    of plain strings … produce. -/
def SafeOk (s : List Char) : Prop := ∃ ps : List QChar, s = escapeMixed ps

/-- `s` is escaped text for the character data `d` (each character under either `quotes` setting).  It is what a
    `Markup` value is of its specification text, and what the reader's buffer is of the pending data of `coalesce`
    while a run of character data is read; proofs carry it instead of the flagged characters behind `s`. -/
def Enc (s d : List Char) : Prop := ∃ pp : List QChar, s = escapeMixed pp ∧ d = pp.map (·.2)

theorem Enc.nil : Enc [] [] := ⟨[], rfl, rfl⟩

theorem Enc.append {a b x y : List Char} (h1 : Enc a x) (h2 : Enc b y) : Enc (a ++ b) (x ++ y) := by
  obtain ⟨p, rfl, rfl⟩ := h1
  obtain ⟨q, rfl, rfl⟩ := h2
  exact ⟨p ++ q, (escapeMixed_append p q).symm, (List.map_append ..).symm⟩

theorem Enc.escaped (q : Bool) (d : List Char) : Enc (escapePy q d) d :=
  ⟨d.map fun c => (q, c), by rw [escapePy_eq_spec, escapeSpec_eq_mixed], by simp [List.map_map, Function.comp_def]⟩

theorem Enc.safeOk {s d : List Char} (h : Enc s d) : SafeOk s := h.imp fun _ h => h.1

theorem Enc.unescape {s d : List Char} (h : Enc s d) : unescape s = d := by
  obtain ⟨p, rfl, rfl⟩ := h
  exact unescape_escapeMixed p

theorem SafeOk.enc {s : List Char} (h : SafeOk s) : Enc s (unescape s) := by
  obtain ⟨p, rfl⟩ := h
  exact ⟨p, rfl, unescape_escapeMixed p⟩

theorem Enc.isEmpty {s d : List Char} (h : Enc s d) : s.isEmpty = d.isEmpty := by
  obtain ⟨p, rfl, rfl⟩ := h
  rw [escapeMixed_isEmpty, List.isEmpty_map]

theorem Enc.flushText {s d : List Char} (h : Enc s d) : flushText s = flushData d := by
  unfold Subst.flushText flushData
  rw [h.isEmpty, h.unescape]

/-- escaped text holds none of the characters that end character data or an attribute value -/
theorem escapePy_chars (q : Bool) (s : List Char) (x : Char) (h : x ∈ escapePy q s) :
    x ≠ '<' ∧ x ≠ '>' ∧ (q = true → x ≠ '"') := by
  rw [escapePy_eq_spec] at h
  have k := escapeSpec_no_raw q s
  exact ⟨fun e => k.1 (e ▸ h), fun e => k.2.1 (e ▸ h), fun hq e => k.2.2 hq (e ▸ h)⟩

theorem forall_mem_escapePy (q : Bool) {P : Char → Prop} (s : List Char) (hs : ∀ c ∈ s, P c)
    (href : ∀ x ∈ entityChars, P x) : ∀ x ∈ escapePy q s, P x :=
  escapePy_eq_spec q s ▸ forall_mem_escapeSpec q s hs href

/-- escaped text is read back as the value, up to a delimiter it cannot hold: `<` for character data … -/
theorem readText_escaped (q : Bool) (v rest : List Char) (hrest : ∀ x, rest.head? = some x → x = '<') :
    readText (escapePy q v ++ rest) = v := by
  unfold readText
  rw [takeWhile_append_stop (fun x hx => by simpa using (escapePy_chars q v x hx).1)
    (fun x hx => by simp [hrest x hx]), escapePy_eq_spec, unescape_escapeSpec]

/-- … and the closing `"` for an attribute value -/
theorem readAttr_escaped (v rest : List Char) : readAttr (escapePy true v ++ '"' :: rest) = v := by
  unfold readAttr
  rw [takeWhile_append_stop (fun x hx => by simpa using (escapePy_chars true v x hx).2.2 rfl)
    (fun x hx => by simp at hx; simp [← hx]), escapePy_eq_spec, unescape_escapeSpec]

theorem normEol_id (s : List Char) (h : '\r' ∉ s) : normEol s = s := by
  unfold normEol
  induction s with
  | nil => rfl
  | cons c cs ih =>
    have hc : c ≠ '\r' := fun e => h (by simp [e])
    have hcs : '\r' ∉ cs := fun e => h (List.mem_cons_of_mem _ e)
    simp [normEolGo, hc, ih hcs]

/-- on XML `Char`s without CR a conforming XML processor reads character data as the plain reader does … -/
theorem readTextXml_eq (s : List Char) (hchar : ∀ c ∈ s, isXmlChar c = true) (hcr : '\r' ∉ s) :
    readTextXml s = some (readText s) := by
  simp only [readTextXml, List.all_eq_true.mpr hchar, normEol_id s hcr, ↓reduceIte, readText]

/-- … and without TAB, LF, CR an attribute value -/
theorem readAttrXml_eq (s : List Char) (hchar : ∀ c ∈ s, isXmlChar c = true)
    (hws : ∀ c ∈ s, c ≠ '\t' ∧ c ≠ '\n' ∧ c ≠ '\r') : readAttrXml s = some (readAttr s) := by
  have hmap : s.map (fun c => if c = '\t' || c = '\n' then ' ' else c) = s :=
    (List.map_congr_left fun c hc => by simp [(hws c hc).1, (hws c hc).2.1]).trans (List.map_id s)
  simp only [readAttrXml, List.all_eq_true.mpr hchar, normAttrWs, normEol_id s fun h => (hws _ h).2.2 rfl, hmap,
    ↓reduceIte, readAttr]

theorem ampsOk_append_block (b rest : List Char) (hb : ∀ r, ampsOk (b ++ r) = ampsOk r) :
    ampsOk (b ++ rest) = ampsOk rest := hb rest

theorem ampsOk_pass (b rest : List Char) (hb : '&' ∉ b) : ampsOk (b ++ rest) = ampsOk rest := by
  induction b with
  | nil => rfl
  | cons c cs ih =>
    have hc : (c != '&') = true := by simpa using fun h : c = '&' => hb (h ▸ List.mem_cons_self)
    simp only [List.cons_append, ampsOk, hc, Bool.true_or, Bool.true_and, ih fun h => hb (List.mem_cons_of_mem _ h)]

theorem ampsOk_ref (b rest : List Char) (hb : '&' ∉ b) (he : entityFollows (b ++ rest) = true) :
    ampsOk ('&' :: b ++ rest) = ampsOk rest := by
  simp only [List.cons_append, ampsOk, he, Bool.or_true, Bool.true_and]
  exact ampsOk_pass b rest hb

theorem ampsOk_escC (q : Bool) (c : Char) (rest : List Char) :
    ampsOk (escC q c ++ rest) = ampsOk rest := by
  rcases escC_cases q c with ⟨e, _⟩ | ⟨e, _⟩ | ⟨e, _⟩ | ⟨e, _⟩ | ⟨e, h1, _⟩ <;> rw [e]
  · exact ampsOk_ref ['a', 'm', 'p', ';'] rest (by decide) rfl
  · exact ampsOk_ref ['l', 't', ';'] rest (by decide) rfl
  · exact ampsOk_ref ['g', 't', ';'] rest (by decide) rfl
  · exact ampsOk_ref ['#', '3', '4', ';'] rest (by decide) rfl
  · exact ampsOk_pass [c] rest (by simpa using fun h : '&' = c => h1 h.symm)

theorem ampsOk_escapeSpec (q : Bool) (s rest : List Char) :
    ampsOk (escapeSpec q s ++ rest) = ampsOk rest := by
  induction s with
  | nil => simp [escapeSpec]
  | cons c cs ih =>
    rw [escapeSpec_cons, List.append_assoc, ampsOk_escC, ih]

theorem ampsOk_spec (s : List Char) :
    ampsOk s = true ↔ ∀ pre post, s = pre ++ '&' :: post → entityFollows post = true := by
  induction s with
  | nil => simp [ampsOk]
  | cons c cs ih =>
    simp only [ampsOk, Bool.and_eq_true, Bool.or_eq_true, bne_iff_ne, ne_eq]
    constructor
    · rintro ⟨h1, h2⟩ pre post heq
      cases pre with
      | nil =>
        simp only [List.nil_append, List.cons.injEq] at heq
        obtain ⟨rfl, rfl⟩ := heq
        rcases h1 with h1 | h1
        · exact absurd rfl h1
        · exact h1
      | cons p ps =>
        simp only [List.cons_append, List.cons.injEq] at heq
        exact (ih.mp h2) ps post heq.2
    · intro h
      refine ⟨?_, ih.mpr fun pre post heq => h (c :: pre) post (by simp [heq])⟩
      by_cases hc : c = '&'
      · subst hc; exact Or.inr (h [] cs rfl)
      · exact Or.inl hc

/-- every `&` of escaped text starts one of the references the reader decodes -/
theorem escapePy_amps (q : Bool) (v : List Char) :
    ∀ pre post, escapePy q v = pre ++ '&' :: post → entityFollows post = true := by
  apply (ampsOk_spec _).mp
  simpa [ampsOk, escapePy_eq_spec] using ampsOk_escapeSpec q v []

end Genshi.Subst
