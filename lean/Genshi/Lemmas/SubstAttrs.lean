/-
  `Attrs.__or__`, generic in the value type (`gOr`; C18's `Escape.Attrs.or` is it at strings, `attrsOr_eq_gOr`):
  what its parts hold, by membership, and what `py:attrs` — `gOr` with the stripped values — does to an attribute.
-/
import Genshi.Model.Subst
namespace Genshi.Subst
open Genshi.Escape Genshi.Str

theorem mem_gRemove {α : Type} (items : List (Name × Option α)) (n : Name) :
    n ∈ gRemove items ↔ (n, none) ∈ items := by
  simp only [gRemove, List.mem_filterMap]
  constructor
  · rintro ⟨⟨k, w⟩, hp, h⟩
    cases w <;> simp at h
    exact h ▸ hp
  · exact fun h => ⟨_, h, rfl⟩

theorem mem_gRepl {α : Type} (self : List (Name × α)) (items : List (Name × Option α)) (n : Name) (v : α) :
    (n, v) ∈ gRepl self items ↔ (n, some v) ∈ items ∧ hasName self n = true := by
  simp only [gRepl, List.mem_filterMap]
  constructor
  · rintro ⟨⟨k, w⟩, hp, h⟩
    cases w with
    | none => cases h
    | some w =>
      by_cases hs : hasName self k = true <;> simp [hs] at h
      obtain ⟨rfl, rfl⟩ := h
      exact ⟨hp, hs⟩
  · exact fun ⟨hp, hs⟩ => ⟨_, hp, by simp [hs]⟩

/-- an attribute is kept unless the items name it with `None`; its value is the last one the items give it -/
theorem mem_gKept {α : Type} (self : List (Name × α)) (items : List (Name × Option α)) (n : Name) (v : α) :
    (n, v) ∈ gKept self items ↔
      ∃ w, (n, w) ∈ self ∧ (n, none) ∉ items ∧ v = (gLastVal n (gRepl self items)).getD w := by
  simp only [gKept, List.mem_filterMap, List.contains_eq_mem, decide_eq_true_eq]
  constructor
  · rintro ⟨⟨k, w⟩, hp, h⟩
    by_cases hr : k ∈ gRemove items <;> simp [hr] at h
    obtain ⟨rfl, rfl⟩ := h
    exact ⟨w, hp, fun h => hr ((mem_gRemove items k).mpr h), rfl⟩
  · rintro ⟨w, hp, hr, rfl⟩
    have hr' : n ∉ gRemove items := fun h => hr ((mem_gRemove items n).mp h)
    exact ⟨(n, w), hp, by simp [hr']⟩

theorem mem_gUpsert {α : Type} (n : Name) (v : α) (acc : List (Name × α)) (p : Name × α)
    (h : p ∈ gUpsert n v acc) : p = (n, v) ∨ p ∈ acc := by
  induction acc with
  | nil => exact Or.inl (by simpa [gUpsert] using h)
  | cons q qs ih =>
    obtain ⟨k, w⟩ := q
    simp only [gUpsert] at h
    split at h
    · exact (List.mem_cons.mp h).imp id (List.mem_cons_of_mem _)
    · rcases List.mem_cons.mp h with rfl | h'
      · exact Or.inr List.mem_cons_self
      · exact (ih h').imp id (List.mem_cons_of_mem _)

/-- an attribute is added only for an item with a value whose name is neither present nor removed -/
theorem mem_gNew {α : Type} (self : List (Name × α)) (remove : List Name) (items : List (Name × Option α)) :
    ∀ (acc : List (Name × α)) (p : Name × α), p ∈ items.foldl (gNewStep self remove) acc →
      p ∈ acc ∨ ((p.1, some p.2) ∈ items ∧ (hasName self p.1 || remove.contains p.1) = false) := by
  induction items with
  | nil => exact fun _ _ h => Or.inl h
  | cons q qs ih =>
    intro acc p h
    rcases ih _ p h with h' | ⟨hr, hc⟩
    · obtain ⟨k, w⟩ := q
      cases w with
      | none => exact Or.inl h'
      | some w =>
        simp only [gNewStep] at h'
        split at h'
        · exact Or.inl h'
        · rename_i hc
          rcases mem_gUpsert _ _ _ _ h' with rfl | h''
          · exact Or.inr ⟨List.mem_cons_self, by simpa using hc⟩
          · exact Or.inl h''
    · exact Or.inr ⟨List.mem_cons_of_mem _ hr, hc⟩

theorem gOr_names {α : Type} (self : List (Name × α)) (items : List (Name × Option α)) (p : Name × α)
    (h : p ∈ gOr self items) : (∃ q ∈ self, q.1 = p.1) ∨ (∃ q ∈ items, q.1 = p.1) := by
  rcases List.mem_append.mp h with h | h
  · obtain ⟨w, hw, _⟩ := (mem_gKept self items p.1 p.2).mp h
    exact Or.inl ⟨_, hw, rfl⟩
  · rcases mem_gNew self _ items [] p h with h' | ⟨h', _⟩
    · cases h'
    · exact Or.inr ⟨_, h', rfl⟩

theorem gOr_nil {α : Type} (self : List (Name × α)) : gOr self [] = self := by
  simp [gOr, gKept, gNew, gRemove, gRepl, gLastVal]

/-- `py:attrs` is `Attrs.__or__` with the evaluated items: the directive's test for an empty value of the
    expression cannot be observed -/
theorem applyPyAttrs_eq (env : Env) (attrib : List (Name × AttrSpec)) (items : List (Name × Atom)) :
    applyPyAttrs env attrib items =
      gOr attrib (items.map fun p => (p.1, (stripValue (evalAtom env p.2)).map AttrSpec.static)) := by
  unfold applyPyAttrs
  split
  · cases items with
    | nil => exact (gOr_nil attrib).symm
    | cons _ _ => contradiction
  · rfl

theorem lastVal_eq (n : Name) (l : List (Name × List Char)) : lastVal n l = gLastVal n l := by
  induction l with
  | nil => rfl
  | cons p ps ih => obtain ⟨k, v⟩ := p; simp only [lastVal, gLastVal, ih]; cases gLastVal n ps <;> rfl

theorem upsert_eq (n : Name) (v : List Char) (l : Attrs) : upsert n v l = gUpsert n v l := by
  induction l with
  | nil => rfl
  | cons p ps ih => obtain ⟨k, w⟩ := p; simp only [upsert, gUpsert, ih]

theorem orNew_eq_gNew (self : Attrs) (attrs : List (Name × Option (List Char))) :
    orNew self attrs = gNew self attrs := by
  have hstep : orNewStep self (orRemove attrs) = gNewStep self (gRemove attrs) := by
    funext acc p
    simp only [orNewStep, gNewStep, upsert_eq]
    cases p.2 <;> rfl
  simp only [orNew, gNew, hstep]

/-- `Attrs.__or__` of the C18 model is the generic `gOr` at strings -/
theorem attrsOr_eq_gOr (self : Attrs) (attrs : List (Name × Option (List Char))) :
    Attrs.or self attrs = gOr self attrs := by
  have hrem : orRemove attrs = gRemove attrs := rfl
  have hrepl : orRepl self attrs = gRepl self attrs := by
    simp only [orRepl, gRepl]; congr 1; funext p; cases p.2 <;> rfl
  have hkept : orKept self attrs = gKept self attrs := by
    simp only [orKept, gKept, hrem, hrepl, lastVal_eq]
  simp only [Attrs.or, gOr, hkept, orNew_eq_gNew]

section
variable {α : Type}

/-- a name that is not there yet is appended -/
theorem gUpsert_fresh (n : Name) (v : α) (acc : List (Name × α)) (h : ∀ q ∈ acc, q.1 ≠ n) :
    gUpsert n v acc = acc ++ [(n, v)] := by
  induction acc with
  | nil => rfl
  | cons q qs ih =>
    obtain ⟨k, w⟩ := q
    simp only [gUpsert, if_neg (h (k, w) List.mem_cons_self), ih fun r hr => h r (List.mem_cons_of_mem _ hr),
      List.cons_append]

/-- with distinct names in the items the `new` loop never replaces: it appends, in order, the items that have a value
    and whose name is neither present nor removed -/
theorem gNew_nodup (self : List (Name × α)) (remove : List Name) (items : List (Name × Option α))
    (hnd : (items.map (·.1)).Nodup) :
    ∀ acc : List (Name × α), (∀ q ∈ acc, ∀ p ∈ items, q.1 ≠ p.1) →
      items.foldl (gNewStep self remove) acc = acc ++ items.filterMap fun p =>
        p.2.bind fun v => if hasName self p.1 || remove.contains p.1 then none else some (p.1, v) := by
  induction items with
  | nil => exact fun acc _ => (List.append_nil acc).symm
  | cons p ps ih =>
    intro acc hacc
    obtain ⟨n, w⟩ := p
    simp only [List.map_cons, List.nodup_cons] at hnd
    have hrest : ∀ q ∈ acc, ∀ p ∈ ps, q.1 ≠ p.1 := fun q hq p hp => hacc q hq p (List.mem_cons_of_mem _ hp)
    rw [List.foldl_cons, List.filterMap_cons]
    cases w with
    | none => exact ih hnd.2 acc hrest
    | some v =>
      simp only [gNewStep, Option.bind_some]
      by_cases hb : (hasName self n || remove.contains n) = true
      · rw [if_pos hb, if_pos hb]
        exact ih hnd.2 acc hrest
      · rw [if_neg hb, if_neg hb, gUpsert_fresh n v acc fun q hq => hacc q hq _ List.mem_cons_self, ih hnd.2,
          List.append_assoc]
        · rfl
        · intro q hq p hp
          rcases List.mem_append.mp hq with hq | hq
          · exact hrest q hq p hp
          · cases List.mem_singleton.mp hq
            exact fun e => hnd.1 (List.mem_map.mpr ⟨p, hp, e.symm⟩)

theorem gLastVal_none (n : Name) (l : List (Name × α)) (hno : ∀ q ∈ l, q.1 ≠ n) : gLastVal n l = none := by
  induction l with
  | nil => rfl
  | cons q qs ih =>
    obtain ⟨k, w⟩ := q
    simp only [gLastVal]
    rw [ih fun r hr => hno r (List.mem_cons_of_mem _ hr)]
    have : k ≠ n := hno (k, w) (by simp)
    simp [this]

/-- the value looked up for a name that has one value only -/
theorem gLastVal_unique (n : Name) (v : α) (l : List (Name × α)) (hmem : (n, v) ∈ l)
    (huniq : ∀ w, (n, w) ∈ l → w = v) : gLastVal n l = some v := by
  induction l with
  | nil => cases hmem
  | cons p ps ih =>
    obtain ⟨k, w⟩ := p
    simp only [gLastVal]
    by_cases hps : ∃ w', (n, w') ∈ ps
    · obtain ⟨w', hw'⟩ := hps
      cases huniq w' (List.mem_cons_of_mem _ hw')
      rw [ih hw' fun w hw => huniq w (List.mem_cons_of_mem _ hw)]
    · rw [gLastVal_none n ps fun q hq hqn => hps ⟨q.2, hqn ▸ hq⟩]
      rcases List.mem_cons.mp hmem with h | h
      · cases h; simp
      · exact absurd ⟨v, h⟩ hps

theorem hasName_iff (a : List (Name × α)) (n : Name) : hasName a n = true ↔ ∃ p ∈ a, p.1 = n := by
  simp [hasName]

theorem nodup_fst_unique {β : Type} (l : List (Name × β)) (h : (l.map (·.1)).Nodup) (p q : Name × β)
    (hp : p ∈ l) (hq : q ∈ l) (hpq : p.1 = q.1) : p = q := by
  induction l with
  | nil => cases hp
  | cons x xs ih =>
    simp only [List.map_cons, List.nodup_cons] at h
    rcases List.mem_cons.mp hp with rfl | hp' <;> rcases List.mem_cons.mp hq with rfl | hq'
    · rfl
    · exact absurd (List.mem_map.mpr ⟨q, hq', hpq.symm⟩) h.1
    · exact absurd (List.mem_map.mpr ⟨p, hp', hpq⟩) h.1
    · exact ih h.2 hp' hq'

/-- a name given a value carries that value in the result -/
theorem gOr_sets (self : List (Name × α)) (items : List (Name × Option α)) (n : Name) (v : α)
    (hmem : (n, some v) ∈ items) (hnd : (items.map (·.1)).Nodup) : (n, v) ∈ gOr self items := by
  have huniq : ∀ w, (n, w) ∈ items → w = some v := fun w hw =>
    congrArg Prod.snd (nodup_fst_unique items hnd _ _ hw hmem rfl)
  have hnone : (n, none) ∉ items := fun h => nomatch huniq _ h
  apply List.mem_append.mpr
  by_cases hs : hasName self n = true
  · obtain ⟨p, hp, rfl⟩ := (hasName_iff self n).mp hs
    refine Or.inl ((mem_gKept self items _ _).mpr ⟨p.2, hp, hnone, ?_⟩)
    rw [gLastVal_unique _ v _ ((mem_gRepl self items _ _).mpr ⟨hmem, hs⟩) fun w hw =>
      Option.some.inj (huniq _ ((mem_gRepl self items _ _).mp hw).1)]
    rfl
  · rw [gNew, gNew_nodup self _ items hnd [] nofun]
    exact Or.inr (List.mem_filterMap.mpr ⟨_, hmem, by simp [hs, mem_gRemove, hnone]⟩)

/-- a name given `None` is absent from the result -/
theorem gOr_removes (self : List (Name × α)) (items : List (Name × Option α)) (n : Name)
    (hmem : (n, none) ∈ items) : ∀ p ∈ gOr self items, p.1 ≠ n := by
  rintro ⟨k, v⟩ hp rfl
  rcases List.mem_append.mp hp with h | h
  · obtain ⟨_, _, hno, _⟩ := (mem_gKept self items _ _).mp h
    exact hno hmem
  · rcases mem_gNew self _ items [] _ h with h' | ⟨_, hc⟩
    · cases h'
    · simp [(mem_gRemove items k).mpr hmem] at hc

/-- attributes the expression does not mention keep their value (and nothing else carries their name) -/
theorem gOr_untouched (self : List (Name × α)) (items : List (Name × Option α)) (n : Name) (v : α)
    (hno : ∀ p ∈ items, p.1 ≠ n) : (n, v) ∈ gOr self items ↔ (n, v) ∈ self := by
  have hlv : gLastVal n (gRepl self items) = none :=
    gLastVal_none n _ fun q hq hqn => hno _ ((mem_gRepl self items q.1 q.2).mp hq).1 hqn
  rw [show gOr self items = gKept self items ++ gNew self items from rfl, List.mem_append, mem_gKept, hlv]
  constructor
  · rintro (⟨w, hw, _, rfl⟩ | h)
    · exact hw
    · rcases mem_gNew self _ items [] _ h with h' | ⟨h', _⟩
      · cases h'
      · exact absurd rfl (hno _ h')
  · exact fun h => Or.inl ⟨v, h, fun h' => hno _ h' rfl, rfl⟩

end

end Genshi.Subst
