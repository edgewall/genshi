/-
  C01 — the serializers' event cache and the `noescape` flag of `HTMLSerializer`: a cache whose
  entries are what the uncached branch writes cannot be observed; after an END the flag is `false`
  whatever came before; and for streams whose raw-text elements have no element children the flag is
  "the innermost open element is a raw-text element", so that which text is escaped depends on the
  enclosing elements only.
-/
import Genshi.Model.SubstEmit
namespace Genshi.Subst
open Genshi.Escape Genshi.Str

/-- every entry is what the uncached branch writes for its key -/
def CacheOk (m : Method) (c : Cache) : Prop := ∀ k v, (k, v) ∈ c → v = emitTok m k

theorem cacheOk_nil (m : Method) : CacheOk m [] := by
  intro k v h; cases h

theorem cacheOk_cons (m : Method) (c : Cache) (k : Tok) (h : CacheOk m c) :
    CacheOk m ((k, emitTok m k) :: c) := by
  intro k' v' hm
  rcases List.mem_cons.mp hm with h1 | h1
  · cases h1; rfl
  · exact h k' v' h1

theorem cacheGet_mem (c : Cache) (k : Tok) (v : List Char) (h : cacheGet c k = some v) : (k, v) ∈ c := by
  induction c with
  | nil => simp [cacheGet] at h
  | cons p rest ih =>
    obtain ⟨k', v'⟩ := p
    by_cases hk : k' = k
    · simp [cacheGet, hk] at h
      subst hk; subst h
      exact List.mem_cons_self
    · simp [cacheGet, hk] at h
      exact List.mem_cons_of_mem _ (ih h)

/-- a look-up in such a cache misses, or yields what the uncached branch writes -/
theorem cacheGet_ok (m : Method) (c : Cache) (hc : CacheOk m c) (k : Tok) :
    cacheGet c k = none ∨ cacheGet c k = some (emitTok m k) := by
  cases h : cacheGet c k with
  | none => exact Or.inl rfl
  | some v => exact Or.inr (congrArg some (hc k v (cacheGet_mem c k v h)))

theorem serToksC_eq_serToks (m : Method) (toks : List Tok) :
    ∀ (c : Cache) (ne : Bool), CacheOk m c → serToksC m c ne toks = serToks m ne toks := by
  induction toks with
  | nil => intro c ne _; simp [serToksC, serToks]
  | cons tok rest ih =>
    intro c ne hc
    -- on a miss the entry stored is what the uncached branch writes
    have ih' := fun ne => ih _ ne (cacheOk_cons m c tok hc)
    cases tok with
    | text s f =>
      cases f with
      | true => simp [serToksC, serToks, ih c ne hc]
      | false =>
        cases ne with
        | true => simp [serToksC, serToks, ih c true hc]
        | false =>
          simp only [emitTok] at ih'
          rcases cacheGet_ok m c hc (.text s false) with hg | hg
          · simp [serToksC, serToks, hg, ih']
          · simp [serToksC, serToks, hg, emitTok, ih c _ hc]
    | «open» t a =>
      simp only [emitTok] at ih'
      rcases cacheGet_ok m c hc (.open t a) with hg | hg
      · simp [serToksC, serToks, hg, ih']
      · simp [serToksC, serToks, hg, emitTok, ih c _ hc]
    | empty t a =>
      simp only [emitTok] at ih'
      rcases cacheGet_ok m c hc (.empty t a) with hg | hg
      · simp [serToksC, serToks, hg, ih']
      · simp [serToksC, serToks, hg, emitTok, ih c _ hc]
    | close t =>
      simp only [emitTok] at ih'
      rcases cacheGet_ok m c hc (.close t) with hg | hg
      · simp [serToksC, serToks, hg, ih']
      · simp [serToksC, serToks, hg, emitTok, ih c _ hc]

theorem serializeC_eq_serialize (m : Method) (strip : Bool) (evs : List Ev) :
    serializeC m strip evs = serialize m strip evs := by
  simp only [serializeC, serialize]
  exact serToksC_eq_serToks m _ [] false (cacheOk_nil m)

/-- `noescape` after one event -/
def flagStep (m : Method) (ne : Bool) : Tok → Bool
  | .open t _ => ne || (noescapeElems m).contains t
  | .close _ => false
  | _ => ne

/-- `noescape` after a run of events -/
def flagRun (m : Method) (ne : Bool) (toks : List Tok) : Bool := toks.foldl (flagStep m) ne

theorem serToks_append (m : Method) (pre rest : List Tok) :
    ∀ ne, serToks m ne (pre ++ rest) = serToks m ne pre ++ serToks m (flagRun m ne pre) rest := by
  induction pre with
  | nil => intro ne; simp [serToks, flagRun]
  | cons tok pre ih =>
    intro ne
    cases tok with
    | text s f => cases f <;> simp [serToks, flagRun, flagStep, ih ne]
    | «open» t a => simp [serToks, flagRun, flagStep, ih]
    | empty t a => simp [serToks, flagRun, flagStep, ih ne]
    | close t => simp [serToks, flagRun, flagStep, ih false]

/-- after an END the flag is `false`, whatever was written before and whatever the flag was -/
theorem flagRun_close (m : Method) (ne : Bool) (pre : List Tok) (t : Name) :
    flagRun m ne (pre ++ [.close t]) = false := by
  simp [flagRun, List.foldl_append, flagStep]

/-- START tags of ordinary elements leave the flag off -/
theorem serToks_opens (m : Method) (opens : List (Name × List (Name × List Char)))
    (h : ∀ p ∈ opens, (noescapeElems m).contains p.1 = false) (rest : List Tok) :
    serToks m false ((opens.map fun p => Tok.open p.1 p.2) ++ rest) =
      (opens.flatMap fun p => emitOpen m p.1 p.2) ++ serToks m false rest := by
  induction opens with
  | nil => rfl
  | cons p ps ih =>
    simp only [List.map_cons, List.cons_append, serToks, h p List.mem_cons_self, Bool.or_false, List.flatMap_cons,
      List.append_assoc, ih fun q hq => h q (List.mem_cons_of_mem _ hq)]

/-- the serializers other than html never set the flag -/
theorem flagRun_not_html (m : Method) (hm : m ≠ .html) (toks : List Tok) : flagRun m false toks = false := by
  have hn : noescapeElems m = [] := by cases m <;> simp_all [noescapeElems]
  induction toks with
  | nil => simp [flagRun]
  | cons tok rest ih =>
    have hs : flagStep m false tok = false := by cases tok <;> simp [flagStep, hn]
    simpa [flagRun, hs] using ih

/-- below the innermost open element no raw-text element is open (kept by `rawLeafGo`: nothing is
    opened inside a raw-text element) -/
def stackOk (m : Method) (st : List Name) : Bool := st.tail.all fun t => !(noescapeElems m).contains t

theorem topRaw_tail (m : Method) (st : List Name) (h : stackOk m st = true) : topRaw m st.tail = false := by
  cases st with
  | nil => simp [topRaw]
  | cons t st =>
    cases st with
    | nil => simp [topRaw]
    | cons u st => simp [stackOk] at h; simp [topRaw, h.1]

theorem stackOk_tail (m : Method) (st : List Name) (h : stackOk m st = true) : stackOk m st.tail = true := by
  cases st with
  | nil => simp [stackOk]
  | cons t st =>
    cases st with
    | nil => simp [stackOk]
    | cons u st => simp [stackOk] at h ⊢; exact h.2

theorem stackOk_push (m : Method) (st : List Name) (t : Name) (h : stackOk m st = true)
    (ht : topRaw m st = false) : stackOk m (t :: st) = true := by
  cases st with
  | nil => simp [stackOk]
  | cons u st => simp [stackOk, topRaw] at h ht ⊢; exact ⟨ht, h⟩

theorem serToks_eq_serEncl (m : Method) (toks : List Tok) :
    ∀ st, stackOk m st = true → rawLeafGo m st toks = true →
      serToks m (topRaw m st) toks = serEncl m st toks := by
  induction toks with
  | nil => intro st _ _; simp [serToks, serEncl]
  | cons tok rest ih =>
    intro st hs h
    cases tok with
    | text s f =>
      simp only [rawLeafGo] at h
      cases f <;> simp [serToks, serEncl, ih st hs h]
    | «open» t a =>
      simp only [rawLeafGo, Bool.and_eq_true, Bool.not_eq_true'] at h
      have := ih (t :: st) (stackOk_push m st t hs h.1) h.2
      simp only [topRaw] at this
      simp only [serToks, serEncl, h.1, Bool.false_or, this]
    | empty t a =>
      simp only [rawLeafGo, Bool.and_eq_true, Bool.not_eq_true'] at h
      simp [serToks, serEncl, ih st hs h.2]
    | close t =>
      simp only [rawLeafGo] at h
      have := ih st.tail (stackOk_tail m st hs) h
      rw [topRaw_tail m st hs] at this
      simp [serToks, serEncl, this]

end Genshi.Subst
