/-
  C01 — `Markup(fmt) % operands` when `fmt` is markup with tags written by the template author:
  the result is the author's tags and text with every operand escaped in its hole, and reading
  it gives the author's elements with the operands verbatim.
-/
import Genshi.Lemmas.SubstSer
import Genshi.Lemmas.SubstMod
import Genshi.Model.SubstFmt
namespace Genshi.Subst
open Genshi.Escape Genshi.Str

/-- `%`-formatting read directly off the format string (positional operands, `%s` and `%%`) -/
def direct : List Char → List (List Char) → Option (List Char)
  | [], [] => some []
  | [], _ :: _ => none
  | '%' :: '%' :: r, as => (direct r as).map ('%' :: ·)
  | '%' :: 's' :: _, [] => none
  | '%' :: 's' :: r, a :: as => (direct r as).map (a ++ ·)
  | '%' :: _, _ => none
  | c :: r, as => (direct r as).map (c :: ·)

theorem fmtPos_lit_pre (acc : List Char) (ps : List Piece) (args : List (List Char)) (out : List Char)
    (h : fmtPos ps args = .ok out) :
    fmtPos ((if acc.isEmpty then [] else [Piece.lit acc.reverse]) ++ ps) args = .ok (acc.reverse ++ out) := by
  cases acc with
  | nil => simpa using h
  | cons c cs => simp [fmtPos, h, Except.map]

theorem direct_cons_ne (c : Char) (r : List Char) (as : List (List Char)) (hc : c ≠ '%') :
    direct (c :: r) as = (direct r as).map (c :: ·) := by
  rw [direct]
  all_goals (intros; simp_all)

/-- `parseFmt` then `fmtPos` computes what `direct` reads off the string -/
theorem parse_direct : ∀ (fuel : Nat) (s acc : List Char) (args : List (List Char)) (out : List Char),
    s.length < fuel → direct s args = some out →
    ∃ ps, parseFmt fuel s acc = some ps ∧ fmtPos ps args = .ok (acc.reverse ++ out) := by
  intro fuel s acc args out hl hd
  obtain ⟨n, rfl⟩ : ∃ n, fuel = n + 1 := ⟨fuel - 1, by omega⟩
  fun_induction direct s args generalizing n acc out with
  | case1 =>
    cases hd
    exact ⟨_, rfl, by simpa using fmtPos_lit_pre acc [] [] [] rfl⟩
  | case2 => cases hd
  | case3 r as ih =>
    obtain ⟨o, ho, rfl⟩ := Option.map_eq_some_iff.mp hd
    cases n with
    | zero => exact absurd hl (by simp)
    | succ m =>
    obtain ⟨ps, hp, hf⟩ := ih [] o ho m (Nat.lt_of_succ_lt (Nat.lt_of_succ_lt_succ hl))
    refine ⟨(if acc.isEmpty then [] else [Piece.lit acc.reverse]) ++ Piece.pct :: ps, by simp [parseFmt, hp], ?_⟩
    have h1 : fmtPos (Piece.pct :: ps) as = .ok ('%' :: o) := by
      simp only [fmtPos, hf, Except.map]; simp
    simpa using fmtPos_lit_pre acc (Piece.pct :: ps) as _ h1
  | case4 => cases hd
  | case5 r a as ih =>
    obtain ⟨o, ho, rfl⟩ := Option.map_eq_some_iff.mp hd
    cases n with
    | zero => exact absurd hl (by simp)
    | succ m =>
    obtain ⟨ps, hp, hf⟩ := ih [] o ho m (Nat.lt_of_succ_lt (Nat.lt_of_succ_lt_succ hl))
    refine ⟨(if acc.isEmpty then [] else [Piece.lit acc.reverse]) ++ Piece.arg :: ps, by simp [parseFmt, hp], ?_⟩
    have h1 : fmtPos (Piece.arg :: ps) (a :: as) = .ok (a ++ o) := by
      simp only [fmtPos, hf, Except.map]; simp
    simpa using fmtPos_lit_pre acc (Piece.arg :: ps) (a :: as) _ h1
  | case6 => cases hd
  | case7 c r as _ _ _ hc ih =>
    obtain ⟨o, ho, rfl⟩ := Option.map_eq_some_iff.mp hd
    cases n with
    | zero => exact absurd hl (by simp)
    | succ m =>
    obtain ⟨ps, hp, hf⟩ := ih (c :: acc) o ho m (Nat.lt_of_succ_lt_succ hl)
    exact ⟨ps, by rw [parseFmt_cons_ne _ c r acc hc]; exact hp, by simpa using hf⟩
theorem direct_nopct (x tail : List Char) (as : List (List Char)) (hx : ∀ c ∈ x, c ≠ '%') :
    direct (x ++ tail) as = (direct tail as).map (x ++ ·) := by
  induction x with
  | nil => simp
  | cons c cs ih =>
    rw [List.cons_append, direct_cons_ne c _ as (hx c (by simp)), ih fun d hd => hx d (List.mem_cons_of_mem _ hd)]
    simp [Option.map_map, Function.comp_def]

theorem direct_pctDouble (l tail : List Char) (as : List (List Char)) :
    direct (pctDouble l ++ tail) as = (direct tail as).map (l ++ ·) := by
  induction l with
  | nil => simp [pctDouble]
  | cons c cs ih =>
    simp only [pctDouble, List.flatMap_cons] at ih ⊢
    by_cases hc : c = '%'
    · subst hc
      simp only [↓reduceIte, List.cons_append, List.nil_append, direct, ih]
      simp [Option.map_map, Function.comp_def]
    · simp only [hc, ↓reduceIte, List.cons_append, List.nil_append]
      rw [direct_cons_ne c _ as hc, ih]
      simp [Option.map_map, Function.comp_def]

theorem direct_hole (tail : List Char) (a : List Char) (as : List (List Char)) :
    direct ('%' :: 's' :: tail) (a :: as) = (direct tail as).map (a ++ ·) := by
  simp [direct]

def nameNoPct (n : Name) : Prop := ∀ c ∈ n, c ≠ '%'

def piecesNoPct : List FPiece → Prop
  | [] => True
  | .open t attrs :: rest => nameNoPct t ∧ (∀ p ∈ attrs, nameNoPct p.1) ∧ piecesNoPct rest
  | .close t :: rest => nameNoPct t ∧ piecesNoPct rest
  | _ :: rest => piecesNoPct rest

theorem direct_attr_lit (n : Name) (v tail : List Char) (as : List (List Char)) (hn : nameNoPct n) :
    direct (fmtAttr (n, .lit v) ++ tail) as = (direct tail as).map (attrRaw n (escapePy true v) ++ ·) := by
  have e : fmtAttr (n, .lit v) ++ tail
      = ' ' :: (n ++ ('=' :: '"' :: (pctDouble (escapePy true v) ++ ('"' :: tail)))) := by
    simp [fmtAttr]
  rw [e, direct_cons_ne ' ' _ _ (by decide), direct_nopct n _ _ hn, direct_cons_ne '=' _ _ (by decide),
    direct_cons_ne '"' _ _ (by decide), direct_pctDouble, direct_cons_ne '"' _ _ (by decide)]
  simp [Option.map_map, Function.comp_def, attrRaw]

theorem direct_attr_hole (n : Name) (a tail : List Char) (as : List (List Char)) (hn : nameNoPct n) :
    direct (fmtAttr (n, .hole) ++ tail) (a :: as) = (direct tail as).map (attrRaw n a ++ ·) := by
  have e : fmtAttr (n, .hole) ++ tail = ' ' :: (n ++ ('=' :: '"' :: '%' :: 's' :: '"' :: tail)) := by
    simp [fmtAttr]
  rw [e, direct_cons_ne ' ' _ _ (by decide), direct_nopct n _ _ hn, direct_cons_ne '=' _ _ (by decide),
    direct_cons_ne '"' _ _ (by decide), direct_hole, direct_cons_ne '"' _ _ (by decide)]
  simp [Option.map_map, Function.comp_def, attrRaw]

theorem direct_attrs (attrs : List (Name × FAttr)) (hn : ∀ p ∈ attrs, nameNoPct p.1) :
    ∀ (args : List (List Char)) (at_ : List (Name × List Char)) (args' : List (List Char)) (tail : List Char),
      fillAttrs attrs args = some (at_, args') →
      direct (attrs.flatMap fmtAttr ++ tail) (args.map (escapePy true)) =
        (direct tail (args'.map (escapePy true))).map
          (attrsRaw (at_.map fun p => (p.1, escapePy true p.2)) ++ ·) := by
  induction attrs with
  | nil =>
    intro args at_ args' tail h
    simp only [fillAttrs, Option.some.injEq, Prod.mk.injEq] at h
    obtain ⟨rfl, rfl⟩ := h
    simp [attrsRaw]
  | cons p ps ih =>
    intro args at_ args' tail h
    obtain ⟨n, fa⟩ := p
    have hnn : nameNoPct n := hn (n, fa) (by simp)
    have ih' := ih fun q hq => hn q (List.mem_cons_of_mem _ hq)
    cases fa with
    | lit v =>
      simp only [fillAttrs, Option.map_eq_some_iff] at h
      obtain ⟨⟨at1, a1⟩, h1, h2⟩ := h
      simp only [Prod.mk.injEq] at h2
      obtain ⟨rfl, rfl⟩ := h2
      rw [List.flatMap_cons, List.append_assoc, direct_attr_lit n v _ _ hnn, ih' args at1 a1 tail h1]
      simp [Option.map_map, Function.comp_def, attrsRaw]
    | hole =>
      cases args with
      | nil => simp [fillAttrs] at h
      | cons a as =>
        simp only [fillAttrs, Option.map_eq_some_iff] at h
        obtain ⟨⟨at1, a1⟩, h1, h2⟩ := h
        simp only [Prod.mk.injEq] at h2
        obtain ⟨rfl, rfl⟩ := h2
        rw [List.flatMap_cons, List.append_assoc, List.map_cons, direct_attr_hole n _ _ _ hnn,
          ih' as at1 a1 tail h1]
        simp [Option.map_map, Function.comp_def, attrsRaw]

/-- the format string applied to the escaped operands is the author's markup with each operand
    escaped in its hole; written as raw tokens of any method: the filled pieces hold no EMPTY token, the only one the
    methods write differently -/
theorem direct_fmtString_any (m : Method) : ∀ (pieces : List FPiece) (args : List (List Char)) (toks : List Tok),
    piecesNoPct pieces → fillEsc pieces args = some toks →
    direct (fmtString pieces) (args.map (escapePy true)) = some ((toks.map rawOf).flatMap (emitRTok m)) := by
  intro pieces args toks hn h
  fun_induction fillEsc pieces args generalizing toks with
  | case1 => cases h; rfl
  | case2 | case4 | case7 => cases h
  | case3 s rest as ih =>
    obtain ⟨ts, hts, rfl⟩ := Option.map_eq_some_iff.mp h
    simp only [fmtString, direct_pctDouble, ih ts hn hts, Option.map_some, List.map_cons, List.flatMap_cons, rawOf, emitRTok]
  | case5 rest a as ih =>
    obtain ⟨ts, hts, rfl⟩ := Option.map_eq_some_iff.mp h
    simp only [fmtString, List.map_cons, direct_hole, ih ts hn hts, Option.map_some, List.flatMap_cons, rawOf, emitRTok]
  | case6 t attrs rest as at_ as' hfa ih =>
    obtain ⟨ts, hts, rfl⟩ := Option.map_eq_some_iff.mp h
    obtain ⟨ht, hat, hrest⟩ := hn
    simp only [fmtString]
    rw [direct_cons_ne '<' _ _ (by decide), direct_nopct t _ _ ht, direct_attrs attrs hat as at_ as' _ hfa,
      direct_cons_ne '>' _ _ (by decide), ih ts hrest hts]
    simp [rawOf, emitRTok]
  | case8 t rest as ih =>
    obtain ⟨ts, hts, rfl⟩ := Option.map_eq_some_iff.mp h
    simp only [fmtString]
    rw [direct_cons_ne '<' _ _ (by decide), direct_cons_ne '/' _ _ (by decide), direct_nopct t _ _ hn.1,
      direct_cons_ne '>' _ _ (by decide), ih ts hn.2 hts]
    simp [rawOf, emitRTok]

theorem direct_fmtString : ∀ (pieces : List FPiece) (args : List (List Char)) (toks : List Tok),
    piecesNoPct pieces → fillEsc pieces args = some toks →
    direct (fmtString pieces) (args.map (escapePy true)) = some ((toks.map rawOf).flatMap (emitRTok .xml)) :=
  direct_fmtString_any .xml

/-- **`Markup(fmt) % operands` with author markup**: every operand escaped in its hole -/
theorem mMod_pieces (m : Method) (pieces : List FPiece) (args : List (List Char)) (toks : List Tok)
    (hn : piecesNoPct pieces) (hf : fillEsc pieces args = some toks) :
    mMod escapePy (fmtString pieces) (.tup (args.map Opnd.plain)) =
      .ok ((toks.map rawOf).flatMap (emitRTok m)) := by
  have hd := direct_fmtString_any m pieces args toks hn hf
  obtain ⟨ps, hp, hfp⟩ := parse_direct ((fmtString pieces).length + 1) (fmtString pieces) []
    (args.map (escapePy true)) _ (by omega) hd
  unfold mMod
  rw [hp]
  simp only [List.map_map]
  have : (args.map ((escOpnd escapePy true) ∘ Opnd.plain)) = args.map (escapePy true) := by
    apply List.map_congr_left; intro a _; rfl
  rw [this, hfp]
  simp

theorem fillEsc_toks (pieces : List FPiece) (args : List (List Char)) (toks : List Tok)
    (h : fillEsc pieces args = some toks) : ∀ tok ∈ toks, ∀ s, tok = .text s true → ∃ a, s = escapePy true a := by
  fun_induction fillEsc pieces args generalizing toks with
  | case1 => cases h; exact fun _ h => nomatch h
  | case2 | case4 | case7 => cases h
  | case3 _ _ _ ih | case5 _ _ _ ih | case6 _ _ _ _ _ _ _ ih | case8 _ _ _ ih =>
    obtain ⟨ts, hts, rfl⟩ := Option.map_eq_some_iff.mp h
    exact List.forall_mem_cons.mpr ⟨fun _ e => by cases e <;> exact ⟨_, rfl⟩, ih ts hts⟩

/-- reading `Markup(fmt) % operands`: the author's elements, the operands as data -/
theorem readDoc_mMod_pieces (m : Method) (pieces : List FPiece) (args : List (List Char)) (toks : List Tok)
    (hn : piecesNoPct pieces) (hf : fillEsc pieces args = some toks)
    (hok : ∀ t ∈ toks, tokOkB m t = true) (hopen : ∀ t a, Tok.open t a ∈ toks → openOk m t = true) :
    ∃ s, mMod escapePy (fmtString pieces) (.tup (args.map Opnd.plain)) = .ok s ∧
      readDoc m s = some (coalesce (toks.flatMap tokEvents)) := by
  refine ⟨_, mMod_pieces m pieces args toks hn hf, ?_⟩
  rw [← serToks_raw m toks hok]
  refine readDoc_serToks m toks fun tok ht => ⟨hok tok ht, fun s e => ?_, fun t a e => hopen t a (e ▸ ht)⟩
  obtain ⟨a, rfl⟩ := fillEsc_toks pieces args toks hf tok ht s e
  exact (Enc.escaped true a).safeOk

end Genshi.Subst
