/-
  C01 — values: what the `Markup` operators make of their operands is escaped text for the operands' own text
  (`Enc`); `%` is parametric in its operands (`mMod_rel`), so that its result decodes to the plain formatting
  of the operands' text (`mMod_spec`) and whether it raises depends on the shape of the operands only.
-/
import Genshi.Lemmas.Subst
import Genshi.Model.SubstDomain
namespace Genshi.Subst
open Genshi.Escape Genshi.Str

/-- one character read in front of `rest`, as the reference or the character `escC p.1 p.2` it was written as -/
theorem parseEsc_sound_cons {rest : List Char} (p : QChar)
    (ih : ∀ qs, parseEsc rest = some qs → rest = escapeMixed qs) :
    ∀ ps, (parseEsc rest).map (p :: ·) = some ps → escC p.1 p.2 ++ rest = escapeMixed ps := by
  intro ps h
  obtain ⟨qs, hq, rfl⟩ := Option.map_eq_some_iff.mp h
  rw [escapeMixed_cons, ← ih qs hq]

theorem parseEsc_sound : ∀ (s : List Char) (ps : List QChar), parseEsc s = some ps → s = escapeMixed ps := by
  intro s
  induction s using parseEsc.induct with
  | case1 => intro ps h; simp [parseEsc] at h; subst h; rfl
  | case2 rest ih =>
    rw [parseEsc]
    exact parseEsc_sound_cons (false, '&') ih
  | case3 rest ih =>
    rw [parseEsc]
    exact parseEsc_sound_cons (false, '<') ih
  | case4 rest ih =>
    rw [parseEsc]
    exact parseEsc_sound_cons (false, '>') ih
  | case5 rest ih =>
    rw [parseEsc]
    exact parseEsc_sound_cons (true, '"') ih
  | case6 c rest h1 h2 h3 h4 hc =>
    intro ps h
    rw [parseEsc] at h
    · simp [hc] at h
    all_goals assumption
  | case7 c rest h1 h2 h3 h4 hc ih =>
    intro ps h
    rw [parseEsc] at h
    · simp only [hc, Bool.false_eq_true, ↓reduceIte] at h
      have hx := parseEsc_sound_cons (false, c) ih ps h
      simp only [Bool.or_eq_true, decide_eq_true_eq, not_or] at hc
      simpa [escC, hc.1.1, hc.1.2, hc.2] using hx
    all_goals assumption

theorem safeOk_of_B (s : List Char) (h : safeOkB s = true) : SafeOk s := by
  unfold safeOkB at h
  cases hp : parseEsc s with
  | none => simp [hp] at h
  | some ps => exact ⟨ps, parseEsc_sound s ps hp⟩

theorem SafeOk.nil : SafeOk [] := ⟨[], rfl⟩

theorem SafeOk.append {a b : List Char} (ha : SafeOk a) (hb : SafeOk b) : SafeOk (a ++ b) :=
  (ha.enc.append hb.enc).safeOk

theorem SafeOk.escaped (q : Bool) (s : List Char) : SafeOk (escapePy q s) := (Enc.escaped q s).safeOk

theorem Enc.ofB {s : List Char} (h : safeOkB s = true) : Enc s (safeText s) := (safeOk_of_B s h).enc

/-- text without `& < >` is its own escaped form -/
theorem Enc.benign (l : List Char) (h : ∀ c ∈ l, c ≠ '&' ∧ c ≠ '<' ∧ c ≠ '>') : Enc l l := by
  refine ⟨l.map fun c => (false, c), ?_, by simp [List.map_map, Function.comp_def]⟩
  rw [escapeMixed, List.flatMap_map]
  exact (flatMap_eq_self _ l fun c hc => by simp [escC, (h c hc).1, (h c hc).2.1, (h c hc).2.2]).symm

/-- an operand of a `Markup` operator, escaped: a str, a Markup or an `__html__` object; safe ones are escaped text -/
theorem Enc.opnd (x : Scalar) (hd : opndOk x = true) (hx : scalarOkB x = true) (q : Bool) :
    Enc (escOpnd escapePy q (toOpnd x)) (opndText x) := by
  cases x with
  | none => simp [opndOk] at hd
  | str s => exact Enc.escaped q s
  | markup s => exact Enc.ofB hx
  | num s => simp [opndOk] at hd
  | obj s h =>
    cases h with
    | none => simp [opndOk] at hd
    | some h => exact Enc.ofB hx

section Param
variable {α β : Type}

/-- two lists related element by element -/
def LR (R : α → β → Prop) : List α → List β → Prop
  | [], [] => True
  | a :: as, b :: bs => R a b ∧ LR R as bs
  | _, _ => False

theorem LR.nil (R : α → β → Prop) : LR R [] [] := trivial

theorem LR.append {R : α → β → Prop} : ∀ {a : List α} {b : List β} {c : List α} {d : List β},
    LR R a b → LR R c d → LR R (a ++ c) (b ++ d)
  | [], [], _, _, _, h => h
  | _ :: _, _ :: _, _, _, h1, h2 => ⟨h1.1, LR.append h1.2 h2⟩
  | [], _ :: _, _, _, h, _ => h.elim
  | _ :: _, [], _, _, h, _ => h.elim

theorem LR.map {γ : Type} {R : α → β → Prop} (f : γ → α) (g : γ → β) :
    ∀ (l : List γ), (∀ x ∈ l, R (f x) (g x)) → LR R (l.map f) (l.map g)
  | [], _ => trivial
  | x :: xs, h => ⟨h x List.mem_cons_self, LR.map f g xs fun y hy => h y (List.mem_cons_of_mem _ hy)⟩

/-- same name, related values -/
def PR (R : α → β → Prop) (p : Name × α) (q : Name × β) : Prop := p.1 = q.1 ∧ R p.2 q.2

/-- both absent or related -/
def OptR (R : α → β → Prop) : Option α → Option β → Prop
  | none, none => True
  | some x, some y => R x y
  | _, _ => False

end Param

theorem Enc.join {sep dsep : List Char} (hsep : Enc sep dsep) :
    ∀ {xs ds : List (List Char)}, LR Enc xs ds → Enc (Str.join sep xs) (Str.join dsep ds)
  | [], [], _ => Enc.nil
  | [_], [_], h => h.1
  | _ :: _ :: _, _ :: _ :: _, h => (h.1.append hsep).append (Enc.join hsep h.2)
  | [], _ :: _, h => h.elim
  | _ :: _, [], h => h.elim
  | [_], _ :: _ :: _, h => h.2.elim
  | _ :: _ :: _, [_], h => h.2.elim

theorem takeKey_suffix (r acc k r' : List Char) (h : takeKey r acc = some (k, r')) : ∀ c ∈ r', c ∈ r := by
  fun_induction takeKey r acc with
  | case1 => cases h
  | case2 rest acc => cases h; exact fun c hc => List.mem_cons_of_mem _ (List.mem_cons_of_mem _ hc)
  | case3 => cases h
  | case4 => cases h
  | case5 _ _ _ _ _ _ ih => exact fun c hc => List.mem_cons_of_mem _ (ih h c hc)

theorem parseFmt_cons_ne (fuel : Nat) (c : Char) (rest acc : List Char) (hc : c ≠ '%') :
    parseFmt (fuel + 1) (c :: rest) acc = parseFmt fuel rest (c :: acc) := by
  rw [parseFmt]
  intros; simp_all

/-- the literal collected in `acc`, as it is closed by a conversion or the end of the format string -/
theorem lits_flush {P : Char → Prop} {acc : List Char} (hacc : ∀ c ∈ acc, P c) :
    ∀ l, Piece.lit l ∈ (if acc.isEmpty then [] else [Piece.lit acc.reverse]) → ∀ c ∈ l, P c := by
  intro l hl
  split at hl
  · cases hl
  · cases List.mem_singleton.mp hl
    exact fun c hc => hacc c (List.mem_reverse.mp hc)

/-- the pieces of a format string from a conversion `x` on: the literal collected in `acc`, if any, then `x`,
    then the pieces `qs` of what follows -/
theorem lits_conv {P : Char → Prop} {acc : List Char} (hacc : ∀ c ∈ acc, P c) (x : Piece) (hx : ∀ l, x ≠ .lit l)
    {qs : List Piece} (hqs : ∀ l, Piece.lit l ∈ qs → ∀ c ∈ l, P c) :
    ∀ l, Piece.lit l ∈ (if acc.isEmpty then [] else [Piece.lit acc.reverse]) ++ [x] ++ qs → ∀ c ∈ l, P c := by
  intro l hl
  simp only [List.append_assoc, List.mem_append, List.mem_singleton] at hl
  rcases hl with h | h | h
  · exact lits_flush hacc l h
  · exact absurd h.symm (hx l)
  · exact hqs l h

/-- the literal pieces of a format string are made of its characters -/
theorem parseFmt_lits (P : Char → Prop) (fuel : Nat) (s acc : List Char) (ps : List Piece)
    (h : parseFmt fuel s acc = some ps) (hs : ∀ c ∈ s, P c) (hacc : ∀ c ∈ acc, P c) :
    ∀ l, Piece.lit l ∈ ps → ∀ c ∈ l, P c := by
  have tl2 : ∀ {a b : Char} {r : List Char}, (∀ c ∈ a :: b :: r, P c) → ∀ c ∈ r, P c :=
    fun h c hc => h c (List.mem_cons_of_mem _ (List.mem_cons_of_mem _ hc))
  fun_induction parseFmt fuel s acc generalizing ps with
  | case1 => cases h
  | case2 _ acc =>
    cases h
    exact lits_flush hacc
  | case3 _ acc pre r ih =>
    obtain ⟨qs, hq, rfl⟩ := Option.map_eq_some_iff.mp h
    exact lits_conv hacc .pct (fun _ e => nomatch e) (ih qs hq (tl2 hs) fun _ h => nomatch h)
  | case4 _ acc pre r ih =>
    obtain ⟨qs, hq, rfl⟩ := Option.map_eq_some_iff.mp h
    exact lits_conv hacc .arg (fun _ e => nomatch e) (ih qs hq (tl2 hs) fun _ h => nomatch h)
  | case5 _ acc pre r k r' hk ih =>
    obtain ⟨qs, hq, rfl⟩ := Option.map_eq_some_iff.mp h
    exact lits_conv hacc (.key k) (fun _ e => nomatch e)
      (ih qs hq (fun c hc => tl2 hs c (takeKey_suffix r [] k r' hk c hc)) fun _ h => nomatch h)
  | case6 => cases h
  | case7 => cases h
  | case8 _ c rest acc _ ih =>
    exact ih ps h (fun x hx => hs x (List.mem_cons_of_mem _ hx)) fun x hx => by
      rcases List.mem_cons.mp hx with rfl | hx
      · exact hs _ List.mem_cons_self
      · exact hacc x hx

/-- two results of `%`: related strings, or the same error -/
def ExRel (R : List Char → List Char → Prop) : Except FmtErr (List Char) → Except FmtErr (List Char) → Prop
  | .ok a, .ok b => R a b
  | .error e, .error e' => e = e'
  | _, _ => False

theorem ExRel.cases {R : List Char → List Char → Prop} {r r' : Except FmtErr (List Char)} (h : ExRel R r r') :
    (∃ a b, r = .ok a ∧ r' = .ok b ∧ R a b) ∨ (∃ e, r = .error e ∧ r' = .error e) := by
  cases r <;> cases r' <;> first | exact Or.inl ⟨_, _, rfl, rfl, h⟩ | exact h.elim | skip
  cases (h : _ = _); exact Or.inr ⟨_, rfl, rfl⟩

/-- a relation on strings that `%` carries from the operands to the result: a congruence for `++` that holds
    of the literal pieces of the format string -/
structure FmtRel (R : List Char → List Char → Prop) (ps : List Piece) : Prop where
  nil : R [] []
  append : ∀ {a b x y}, R a x → R b y → R (a ++ b) (x ++ y)
  lit : ∀ l, Piece.lit l ∈ ps → R l l
  pct : R ['%'] ['%']

theorem FmtRel.tail {R : List Char → List Char → Prop} {p : Piece} {ps : List Piece} (h : FmtRel R (p :: ps)) :
    FmtRel R ps :=
  ⟨h.nil, h.append, fun l hl => h.lit l (List.mem_cons_of_mem _ hl), h.pct⟩

theorem ExRel.prepend {R : List Char → List Char → Prop} {ps : List Piece} (hR : FmtRel R ps) {x y : List Char}
    (hxy : R x y) {r r' : Except FmtErr (List Char)} (h : ExRel R r r') : ExRel R (r.map (x ++ ·)) (r'.map (y ++ ·)) := by
  cases r <;> cases r' <;> first | exact h | exact hR.append hxy h

theorem fmtPos_rel {R : List Char → List Char → Prop} : ∀ (ps : List Piece) (a b : List (List Char)), FmtRel R ps →
    LR R a b → ExRel R (fmtPos ps a) (fmtPos ps b)
  | [], [], [], hR, _ => hR.nil
  | [], _ :: _, _ :: _, _, _ => rfl
  | [], [], _ :: _, _, h => h.elim
  | [], _ :: _, [], _, h => h.elim
  | .lit l :: ps, a, b, hR, h => (fmtPos_rel ps a b hR.tail h).prepend hR (hR.lit l List.mem_cons_self)
  | .pct :: ps, a, b, hR, h => (fmtPos_rel ps a b hR.tail h).prepend hR hR.pct
  | .arg :: _, [], [], _, _ => rfl
  | .arg :: _, [], _ :: _, _, h => h.elim
  | .arg :: _, _ :: _, [], _, h => h.elim
  | .arg :: ps, _ :: as, _ :: bs, hR, h => (fmtPos_rel ps as bs hR.tail h.2).prepend hR h.1
  | .key _ :: _, _, _, _, _ => rfl

theorem lookupKey_rel {R : List Char → List Char → Prop} (k : List Char) :
    ∀ {a b : List (List Char × List Char)}, LR (PR R) a b → OptR R (lookupKey k a) (lookupKey k b)
  | [], [], _ => trivial
  | (k1, v1) :: xs, (k2, v2) :: ys, h => by
      obtain ⟨⟨hk, hv⟩, hr⟩ := h
      cases (hk : k1 = k2)
      simp only [lookupKey]
      split
      · exact hv
      · exact lookupKey_rel k hr
  | [], _ :: _, h => h.elim
  | _ :: _, [], h => h.elim

theorem fmtMap_rel {R : List Char → List Char → Prop} : ∀ (ps : List Piece) (a b : List (List Char × List Char)),
    FmtRel R ps → LR (PR R) a b → ExRel R (fmtMap ps a) (fmtMap ps b)
  | [], _, _, hR, _ => hR.nil
  | .lit l :: ps, a, b, hR, h => (fmtMap_rel ps a b hR.tail h).prepend hR (hR.lit l List.mem_cons_self)
  | .pct :: ps, a, b, hR, h => (fmtMap_rel ps a b hR.tail h).prepend hR hR.pct
  | .arg :: _, _, _, _, _ => rfl
  | .key k :: ps, a, b, hR, h => by
      have hk := lookupKey_rel (R := R) k h
      simp only [fmtMap]
      cases h1 : lookupKey k a <;> cases h2 : lookupKey k b <;> rw [h1, h2] at hk
      · rfl
      · exact hk.elim
      · exact hk.elim
      · exact (fmtMap_rel ps a b hR.tail h).prepend hR hk

/-- operands of `%` of the same kind, number and keys, whose escaped forms are related -/
def ModRel (R : List Char → List Char → Prop) (esc esc' : Bool → List Char → List Char) : ModArg → ModArg → Prop
  | .one o, .one o' => R (escOpnd esc true o) (escOpnd esc' true o')
  | .tup a, .tup b => LR R (a.map (escOpnd esc true)) (b.map (escOpnd esc' true))
  | .map a, .map b =>
      LR (PR R) (a.map fun p => (p.1, escOpnd esc true p.2)) (b.map fun p => (p.1, escOpnd esc' true p.2))
  | _, _ => False

/-- **`%` is parametric in its operands**: related operands give related results, or the same error, for every
    relation that `++` and the literals of the format string respect -/
theorem mMod_rel {R : List Char → List Char → Prop} (esc esc' : Bool → List Char → List Char) (fm : List Char)
    (hR : ∀ ps, parseFmt (fm.length + 1) fm [] = some ps → FmtRel R ps) {a b : ModArg} (h : ModRel R esc esc' a b) :
    ExRel R (mMod esc fm a) (mMod esc' fm b) := by
  unfold mMod
  cases hp : parseFmt (fm.length + 1) fm [] with
  | none => rfl
  | some ps =>
    cases a <;> cases b <;> first | exact h.elim | skip
    · exact fmtPos_rel ps _ _ (hR ps hp) ⟨h, trivial⟩
    · exact fmtPos_rel ps _ _ (hR ps hp) h
    · exact fmtMap_rel ps _ _ (hR ps hp) h

/-- whether `%` raises, and how, depends on the kind, number and keys of the operands only -/
theorem mMod_shape (esc esc' : Bool → List Char → List Char) (fm : List Char) {a b : ModArg}
    (h : ModRel (fun _ _ => True) esc esc' a b) :
    (∃ x y, mMod esc fm a = .ok x ∧ mMod esc' fm b = .ok y) ∨ (∃ e, mMod esc fm a = .error e ∧ mMod esc' fm b = .error e) := by
  rcases (mMod_rel esc esc' fm (fun _ _ => ⟨trivial, fun _ _ => trivial, fun _ _ => trivial, trivial⟩) h).cases with
    ⟨x, y, e1, e2, _⟩ | h
  · exact Or.inl ⟨x, y, e1, e2⟩
  · exact Or.inr h

def benign (f : List Char) : Prop := ∀ c ∈ f, c ≠ '&' ∧ c ≠ '<' ∧ c ≠ '>'

theorem benign_of_B (f : List Char) (h : benignB f = true) : benign f := by
  intro c hc
  have := (List.all_eq_true.mp h) c hc
  simpa [not_or, and_assoc] using this

/-- every operand is a str, a Markup or an `__html__` object, and safe ones are escaped text -/
def FArgsDom (env : Env) : FArgs → Prop
  | .one a => opndOk (evalAtom env a) = true ∧ scalarOkB (evalAtom env a) = true
  | .tup as => ∀ a ∈ as, opndOk (evalAtom env a) = true ∧ scalarOkB (evalAtom env a) = true
  | .map kvs => ∀ p ∈ kvs, opndOk (evalAtom env p.2) = true ∧ scalarOkB (evalAtom env p.2) = true

/-- `Markup(f) % args` for a format string without `& < >`: the result is escaped text, and
    decoded it is the plain formatting of the operands' own text -/
theorem mMod_spec (env : Env) (f : List Char) (args : FArgs) (hf : benign f) (hargs : FArgsDom env args) :
    (∀ s, mMod escapePy f (evalFArgs env args) = .ok s →
      SafeOk s ∧ mMod (fun _ s => s) f (specFArgs env args) = .ok (unescape s)) ∧
    (∀ e, mMod escapePy f (evalFArgs env args) = .error e →
      mMod (fun _ s => s) f (specFArgs env args) = .error e) := by
  have h : ExRel Enc (mMod escapePy f (evalFArgs env args)) (mMod (fun _ s => s) f (specFArgs env args)) := by
    refine mMod_rel _ _ f (fun ps hp => ⟨Enc.nil, Enc.append, fun l hl => Enc.benign l ?_, Enc.benign _ (by simp)⟩) ?_
    · exact parseFmt_lits _ _ f [] ps hp hf (by simp) l hl
    · cases args with
      | one a => exact Enc.opnd _ hargs.1 hargs.2 true
      | tup as =>
        simp only [evalFArgs, specFArgs, ModRel, List.map_map]
        exact LR.map _ _ as fun a ha => Enc.opnd _ (hargs a ha).1 (hargs a ha).2 true
      | map kvs =>
        simp only [evalFArgs, specFArgs, ModRel, List.map_map]
        exact LR.map _ _ kvs fun p hp => ⟨rfl, Enc.opnd _ (hargs p hp).1 (hargs p hp).2 true⟩
  rcases h.cases with ⟨a, b, e1, e2, hab⟩ | ⟨e, e1, e2⟩ <;> rw [e1, e2]
  · exact ⟨fun s e => by cases e; exact ⟨hab.safeOk, by rw [hab.unescape]⟩, fun _ e => (nomatch e)⟩
  · exact ⟨fun _ e => (nomatch e), fun _ e => by cases e; rfl⟩

end Genshi.Subst
