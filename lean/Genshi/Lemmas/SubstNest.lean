/-
  C01 — the skeleton a template re-reads to is a well-nested forest.
-/
import Genshi.Lemmas.SubstSkel
namespace Genshi.Subst
open Genshi.Escape Genshi.Str

/-- stack discipline of START / END (as `Genshi.balance` on the shared event type) -/
def nest : List Name → List Ev → Option (List Name)
  | st, [] => some st
  | st, .start t _ :: es => nest (t :: st) es
  | t' :: st, .end_ t :: es => if t = t' then nest st es else none
  | [], .end_ _ :: _ => none
  | st, .text _ _ :: es => nest st es

theorem nest_append (a b : List Ev) : ∀ st, nest st (a ++ b) = (nest st a).bind fun st' => nest st' b := by
  induction a with
  | nil => intro st; simp [nest]
  | cons e es ih =>
    intro st
    cases e with
    | start t at_ => simp [nest, ih]
    | end_ t =>
      cases st with
      | nil => simp [nest]
      | cons t' st => by_cases h : t = t' <;> simp [nest, h, ih]
    | text s f => cases st <;> simp [nest, ih]

/-- a segment that leaves every stack as it found it -/
def Balanced (evs : List Ev) : Prop := ∀ st, nest st evs = some st

theorem Balanced.nil : Balanced [] := fun _ => rfl

theorem Balanced.text (s : List Char) (f : Bool) : Balanced [.text s f] := by
  intro st; cases st <;> rfl

theorem Balanced.append {a b : List Ev} (ha : Balanced a) (hb : Balanced b) : Balanced (a ++ b) := by
  intro st; rw [nest_append, ha st]; exact hb st

theorem Balanced.wrap {a : List Ev} (t : Name) (at_ : List (Name × List Char)) (ha : Balanced a) :
    Balanced (.start t at_ :: (a ++ [.end_ t])) := by
  intro st
  simp only [nest]
  rw [nest_append, ha (t :: st)]
  simp [nest]

theorem expectedB_balanced (env : Env) :
    (∀ b : BKid, Balanced (expectedB env b)) ∧ ∀ bs : List BKid, Balanced (expectedBs env bs) := by
  refine BKid.induct ?_ ?_ ?_ ?_
  · intro e; simp only [expectedB]; exact Balanced.text _ _
  · intro t attrs kids ih; simp only [expectedB]; exact Balanced.wrap t _ ih
  · exact Balanced.nil
  · intro b bs ih1 ih2; simp only [expectedBs]; exact Balanced.append ih1 ih2

theorem expectedSite_balanced (m : Method) (env : Env) (e : SExpr) (h : sexprOkB m e = true) :
    Balanced (expectedSite env e) := by
  cases e with
  | v e => exact Balanced.text _ _
  | add mk a => exact Balanced.text _ _
  | radd mk a => exact Balanced.text _ _
  | join sep items => exact Balanced.text _ _
  | esc a q => exact Balanced.text _ _
  | fmt f args =>
    simp only [expectedSite]
    split
    · exact Balanced.text _ _
    · exact Balanced.nil
  | fmtp ps as => simp [sexprOkB] at h
  | build b => exact (expectedB_balanced env).1 b
  | frag kids => exact (expectedB_balanced env).2 kids

theorem expected_balanced (m : Method) :
    (∀ (n : Node) (env : Env), nodeOkB m n = true → Balanced (expectedNode env n)) ∧
    ∀ (ns : List Node) (env : Env), nodesOkB m ns = true → Balanced (expectedList env ns) := by
  refine Node.induct ?_ ?_ ?_ ?_ ?_ ?_ ?_ ?_
  · exact fun s _ _ => Balanced.text _ _
  · intro e env h
    simp only [expectedNode]
    exact expectedSite_balanced m env e (by simpa [nodeOkB] using h)
  · intro t attrs pa kids ih env h
    simp only [nodeOkB, Bool.and_eq_true] at h
    rw [expectedNode_el]
    exact Balanced.wrap t _ (ih env h.2)
  · intro e kids ih env h
    simp only [nodeOkB, Bool.and_eq_true] at h
    simp only [expectedNode]
    exact flatMap_rel (R := fun a (_ : List Ev) => Balanced a) Balanced.nil (fun h1 h2 => h1.append h2) _ (fun _ => []) _
      fun x _ => ih (x :: env) h.2
  · intro a kids ih env h
    simp only [nodeOkB, Bool.and_eq_true] at h
    simp only [expectedNode]
    exact ih _ h.2
  · intro b kids ih env h
    cases b with
    | false => simp only [expectedNode]; exact Balanced.nil
    | true => simpa [expectedNode] using ih env (by simpa [nodeOkB] using h)
  · exact fun _ _ => Balanced.nil
  · intro n ns ih1 ih2 env h
    simp only [nodesOkB, Bool.and_eq_true] at h
    simp only [expectedList]
    exact Balanced.append (ih1 env h.1) (ih2 env h.2)

theorem expectedNode_balanced (m : Method) : ∀ (n : Node) (env : Env), nodeOkB m n = true →
      Balanced (expectedNode env n) := (expected_balanced m).1

theorem expectedList_balanced (m : Method) : ∀ (ns : List Node) (env : Env), nodesOkB m ns = true →
      Balanced (expectedList env ns) := (expected_balanced m).2

/-- `nest` on skeletons -/
def nestSk : List Name → List Sk → Option (List Name)
  | st, [] => some st
  | st, .start t _ :: es => nestSk (t :: st) es
  | t' :: st, .end_ t :: es => if t = t' then nestSk st es else none
  | [], .end_ _ :: _ => none
  | st, .text :: es => nestSk st es

/-- the nesting is a function of the START / END skeleton, so merging character data does not touch it -/
theorem nest_eq_sk (evs : List Ev) : ∀ st, nest st evs = nestSk st (tagsOf evs) := by
  induction evs with
  | nil => exact fun _ => rfl
  | cons e es ih =>
    intro st
    cases e with
    | text s f => cases st <;> exact ih _
    | start t a => exact ih _
    | end_ t =>
      cases st with
      | nil => rfl
      | cons t' st =>
        show (if t = t' then nest st es else none) = if t = t' then nestSk st (tagsOf es) else none
        rw [ih]

theorem nest_coalesce (evs : List Ev) (st : List Name) : nest st (coalesce evs) = nest st evs := by
  rw [nest_eq_sk, nest_eq_sk, tagsOf_coalesce]

theorem nest_reread (m : Method) (strip : Bool) (evs : List Ev) (st : List Name) :
    nest st (if strip then coalesceStrip m evs else coalesce evs) = nest st evs := by
  rw [nest_eq_sk, nest_eq_sk, tagsOf_reread]

end Genshi.Subst
