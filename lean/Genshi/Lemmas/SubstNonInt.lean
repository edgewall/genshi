/-
  C01 — non-interference: the element / attribute skeleton of what a template renders to does
  not depend on the *contents* of the strings substituted into it.
-/
import Genshi.Lemmas.SubstSkel
namespace Genshi.Subst
open Genshi.Escape Genshi.Str

/-- `f` applied to the text of a value that is not marked safe: a `str`, the `__str__` of an object.  `None`,
    `Markup` values, `__html__` results and numbers (their text is `str(n)`) stay as they are; the `retext` of a
    template does this to every value written in it. -/
def Scalar.retext (f : List Char → List Char) : Scalar → Scalar
  | .str s => .str (f s)
  | .obj s h => .obj (f s) h
  | x => x

def Val.retext (f : List Char → List Char) : Val → Val
  | .one x => .one (x.retext f)
  | .many xs => .many (xs.map (·.retext f))

def Atom.retext (f : List Char → List Char) : Atom → Atom
  | .lit x => .lit (x.retext f)
  | .var i => .var i

def VExpr.retext (f : List Char → List Char) : VExpr → VExpr
  | .val v => .val (v.retext f)
  | .var i => .var i
  | .listOf items => .listOf (items.map (·.retext f))

def APart.retext (f : List Char → List Char) : APart → APart
  | .lit s => .lit s
  | .expr e => .expr (e.retext f)

def AttrSpec.retext (f : List Char → List Char) : AttrSpec → AttrSpec
  | .static s => .static s
  | .interp ps => .interp (ps.map (·.retext f))

def FArgs.retext (f : List Char → List Char) : FArgs → FArgs
  | .one a => .one (a.retext f)
  | .tup as => .tup (as.map (·.retext f))
  | .map kvs => .map (kvs.map fun p => (p.1, p.2.retext f))

mutual
  def BKid.retext (f : List Char → List Char) : BKid → BKid
    | .arg e => .arg (e.retext f)
    | .el t attrs kids => .el t (attrs.map fun p => (p.1, p.2.retext f)) (BKid.retextList f kids)
  def BKid.retextList (f : List Char → List Char) : List BKid → List BKid
    | [] => []
    | k :: ks => k.retext f :: BKid.retextList f ks
end

def SExpr.retext (f : List Char → List Char) : SExpr → SExpr
  | .v e => .v (e.retext f)
  | .add m a => .add m (a.retext f)
  | .radd m a => .radd m (a.retext f)
  | .join sep items => .join sep (items.map (·.retext f))
  | .esc a q => .esc (a.retext f) q
  | .fmt fm args => .fmt fm (args.retext f)
  | .fmtp ps as => .fmtp ps (as.map (·.retext f))
  | .build b => .build (b.retext f)
  | .frag kids => .frag (BKid.retextList f kids)

mutual
  def Node.retext (f : List Char → List Char) : Node → Node
    | .lit s => .lit s
    | .site e => .site (e.retext f)
    | .el t attrs pa kids =>
        .el t (attrs.map fun p => (p.1, p.2.retext f))
          (pa.map fun items => items.map fun p => (p.1, p.2.retext f)) (Node.retextList f kids)
    | .loop e kids => .loop (e.retext f) (Node.retextList f kids)
    | .bind a kids => .bind (a.retext f) (Node.retextList f kids)
    | .cond b kids => .cond b (Node.retextList f kids)
  def Node.retextList (f : List Char → List Char) : List Node → List Node
    | [] => []
    | n :: ns => n.retext f :: Node.retextList f ns
end

variable (f : List Char → List Char)

theorem evalAtom_retext (env : Env) (a : Atom) :
    evalAtom (env.map (·.retext f)) (a.retext f) = (evalAtom env a).retext f := by
  cases a with
  | lit x => rfl
  | var i =>
    simp only [Atom.retext, evalAtom, List.getD_eq_getElem?_getD, List.getElem?_map]
    cases env[i]? <;> rfl

theorem evalV_retext (env : Env) (e : VExpr) :
    evalV (env.map (·.retext f)) (e.retext f) = (evalV env e).retext f := by
  cases e with
  | val v => rfl
  | var i =>
    simp only [VExpr.retext, evalV, Val.retext, List.getD_eq_getElem?_getD, List.getElem?_map, Val.one.injEq]
    cases env[i]? <;> rfl
  | listOf items =>
    simp only [VExpr.retext, evalV, Val.retext, List.map_map, Val.many.injEq]
    apply List.map_congr_left
    intro a _
    exact evalAtom_retext f env a

theorem itemsOf_retext (v : Val) : itemsOf (v.retext f) = (itemsOf v).map (·.retext f) := by
  cases v <;> rfl

theorem flattenVal_retext_len (v : Val) : (flattenVal (v.retext f)).length = (flattenVal v).length := by
  cases v with
  | one x => cases x <;> rfl
  | many xs => simp [Val.retext, flattenVal]

section Or
variable {α β : Type} (R : α → β → Prop)

/-- same name, both `None` or related values -/
def OR (p : Name × Option α) (q : Name × Option β) : Prop :=
  p.1 = q.1 ∧ match p.2, q.2 with
    | none, none => True
    | some a, some b => R a b
    | _, _ => False

theorem LR.inductPR {P : List (Name × α) → List (Name × β) → Prop} (nil : P [] [])
    (cons : ∀ n v w xs ys, R v w → LR (PR R) xs ys → P xs ys → P ((n, v) :: xs) ((n, w) :: ys)) :
    ∀ {a : List (Name × α)} {b : List (Name × β)}, LR (PR R) a b → P a b
  | [], [], _ => nil
  | (n, v) :: xs, (n', w) :: ys, h => by
      obtain ⟨hn, hv⟩ := h.1
      cases (hn : n = n')
      exact cons n v w xs ys hv h.2 (LR.inductPR nil cons h.2)
  | [], _ :: _, h => h.elim
  | _ :: _, [], h => h.elim

theorem LR.inductOR {P : List (Name × Option α) → List (Name × Option β) → Prop} (nil : P [] [])
    (none : ∀ n xs ys, LR (OR R) xs ys → P xs ys → P ((n, none) :: xs) ((n, none) :: ys))
    (some : ∀ n v w xs ys, R v w → LR (OR R) xs ys → P xs ys → P ((n, some v) :: xs) ((n, some w) :: ys)) :
    ∀ {a : List (Name × Option α)} {b : List (Name × Option β)}, LR (OR R) a b → P a b
  | [], [], _ => nil
  | (n, x) :: xs, (n', y) :: ys, h => by
      obtain ⟨hn, hv⟩ := h.1
      cases (hn : n = n')
      have ih := LR.inductOR nil none some h.2
      cases x <;> cases y
      · exact none n xs ys h.2 ih
      · exact hv.elim
      · exact hv.elim
      · exact some n _ _ xs ys hv h.2 ih
  | [], _ :: _, h => h.elim
  | _ :: _, [], h => h.elim

theorem names_of_LR {a : List (Name × α)} {b : List (Name × β)} (h : LR (PR R) a b) :
    a.map (·.1) = b.map (·.1) :=
  LR.inductPR R (P := fun a b => a.map (·.1) = b.map (·.1)) rfl (fun n _ _ _ _ _ _ ih => congrArg (n :: ·) ih) h

theorem hasName_LR {a : List (Name × α)} {b : List (Name × β)} (h : LR (PR R) a b) (n : Name) :
    hasName a n = hasName b n := by
  have e : ∀ {γ : Type} (l : List (Name × γ)), hasName l n = (l.map (·.1)).any (· == n) := fun l => by
    rw [List.any_map]; rfl
  rw [e, e, names_of_LR R h]

theorem gRemove_LR {a : List (Name × Option α)} {b : List (Name × Option β)} (h : LR (OR R) a b) :
    gRemove a = gRemove b :=
  LR.inductOR R (P := fun a b => gRemove a = gRemove b) rfl (fun n _ _ _ ih => congrArg (n :: ·) ih)
    (fun _ _ _ _ _ _ _ ih => ih) h

theorem gRepl_cons_some (self : List (Name × α)) (n : Name) (v : α) (xs : List (Name × Option α)) :
    gRepl self ((n, some v) :: xs) = if hasName self n then (n, v) :: gRepl self xs else gRepl self xs := by
  simp only [gRepl, List.filterMap_cons]
  split <;> simp_all

theorem gRepl_LR {self : List (Name × α)} {self' : List (Name × β)} (hs : LR (PR R) self self')
    {a : List (Name × Option α)} {b : List (Name × Option β)} (h : LR (OR R) a b) :
    LR (PR R) (gRepl self a) (gRepl self' b) := by
  refine LR.inductOR R (P := fun a b => LR (PR R) (gRepl self a) (gRepl self' b)) trivial (fun n xs ys _ ih => ih)
    (fun n v w xs ys hv _ ih => ?_) h
  rw [gRepl_cons_some, gRepl_cons_some, hasName_LR R hs n]
  split
  · exact ⟨⟨rfl, hv⟩, ih⟩
  · exact ih

theorem gLastVal_LR (n : Name) {a : List (Name × α)} {b : List (Name × β)} (h : LR (PR R) a b) :
    OptR R (gLastVal n a) (gLastVal n b) := by
  refine LR.inductPR R (P := fun a b => OptR R (gLastVal n a) (gLastVal n b)) trivial (fun k v w xs ys hv _ ih => ?_) h
  simp only [gLastVal]
  cases h1 : gLastVal n xs <;> cases h2 : gLastVal n ys <;> rw [h1, h2] at ih
  · by_cases hk : k = n
    · simp only [hk, ↓reduceIte]; exact hv
    · simp only [hk, ↓reduceIte]; trivial
  · exact ih.elim
  · exact ih.elim
  · exact ih

theorem getD_OptR {o : Option α} {o' : Option β} {x : α} {y : β} (h : OptR R o o') (hxy : R x y) :
    R (o.getD x) (o'.getD y) := by
  cases o <;> cases o' <;> first | exact hxy | exact h | exact h.elim

theorem gKept_LR {items : List (Name × Option α)} {items' : List (Name × Option β)}
    (hi : LR (OR R) items items') {self0 : List (Name × α)} {self0' : List (Name × β)}
    (hs0 : LR (PR R) self0 self0') {self : List (Name × α)} {self' : List (Name × β)} (h : LR (PR R) self self') :
    LR (PR R)
      (self.filterMap fun p => if (gRemove items).contains p.1 then none
        else some (p.1, (gLastVal p.1 (gRepl self0 items)).getD p.2))
      (self'.filterMap fun p => if (gRemove items').contains p.1 then none
        else some (p.1, (gLastVal p.1 (gRepl self0' items')).getD p.2)) := by
  rw [gRemove_LR R hi]
  refine LR.inductPR R (P := fun a b => LR (PR R) (a.filterMap _) (b.filterMap _)) trivial
    (fun k v w xs ys hv _ ih => ?_) h
  simp only [List.filterMap_cons]
  by_cases hc : (gRemove items').contains k = true
  · simp only [hc, ↓reduceIte]; exact ih
  · simp only [hc, Bool.false_eq_true, ↓reduceIte]
    exact ⟨⟨rfl, getD_OptR R (gLastVal_LR R k (gRepl_LR R hs0 hi)) hv⟩, ih⟩

theorem gUpsert_LR (n : Name) {v : α} {w : β} (hv : R v w) {a : List (Name × α)} {b : List (Name × β)}
    (h : LR (PR R) a b) : LR (PR R) (gUpsert n v a) (gUpsert n w b) := by
  refine LR.inductPR R (P := fun a b => LR (PR R) (gUpsert n v a) (gUpsert n w b)) ⟨⟨rfl, hv⟩, trivial⟩
    (fun k x y xs ys hxy hrest ih => ?_) h
  simp only [gUpsert]
  split
  · exact ⟨⟨rfl, hv⟩, hrest⟩
  · exact ⟨⟨rfl, hxy⟩, ih⟩

theorem gNew_LR {self : List (Name × α)} {self' : List (Name × β)} (hs : LR (PR R) self self')
    (remove : List Name) {a : List (Name × Option α)} {b : List (Name × Option β)} (h : LR (OR R) a b) :
    ∀ {acc : List (Name × α)} {acc' : List (Name × β)}, LR (PR R) acc acc' →
    LR (PR R) (a.foldl (gNewStep self remove) acc) (b.foldl (gNewStep self' remove) acc') := by
  refine LR.inductOR R (P := fun a b => ∀ {acc : List (Name × α)} {acc' : List (Name × β)}, LR (PR R) acc acc' →
      LR (PR R) (a.foldl (gNewStep self remove) acc) (b.foldl (gNewStep self' remove) acc'))
    (fun hacc => hacc) (fun n xs ys _ ih => fun hacc => ih hacc) (fun n v w xs ys hv _ ih => fun hacc => ?_) h
  simp only [List.foldl_cons, gNewStep, hasName_LR R hs n]
  apply ih
  split
  · exact hacc
  · exact gUpsert_LR R n hv hacc

/-- `Attrs.__or__` treats values as opaque: related operands give related results -/
theorem gOr_LR {self : List (Name × α)} {self' : List (Name × β)} (hs : LR (PR R) self self')
    {items : List (Name × Option α)} {items' : List (Name × Option β)} (hi : LR (OR R) items items') :
    LR (PR R) (gOr self items) (gOr self' items') := by
  unfold gOr
  apply LR.append
  · exact gKept_LR R hi hs hs
  · unfold gNew
    rw [gRemove_LR R hi]
    exact gNew_LR R hs _ hi trivial

end Or

section Attrs
variable (f : List Char → List Char)

theorem textData_flatten_len (v : Val) : ((flattenVal v).filterMap textData).length = (flattenVal v).length := by
  cases v with
  | one x => cases x <;> rfl
  | many xs => simp [flattenVal, List.filterMap_map, Function.comp_def, textData]

theorem partValues_retext_len (env : Env) (p : APart) :
    (partValues (env.map (·.retext f)) (p.retext f)).length = (partValues env p).length := by
  cases p with
  | lit s => rfl
  | expr e =>
    simp only [APart.retext, partValues, evalV_retext, textData_flatten_len, flattenVal_retext_len]

theorem attrValue_retext_isSome (env : Env) (a : AttrSpec) :
    (attrValue (env.map (·.retext f)) (a.retext f)).isSome = (attrValue env a).isSome := by
  cases a with
  | static s => rfl
  | interp parts =>
    simp only [AttrSpec.retext, attrValue, List.flatMap_map]
    have hl : (parts.flatMap fun p => partValues (env.map (·.retext f)) (p.retext f)).length
        = (parts.flatMap (partValues env)).length :=
      flatMap_rel (R := fun a b => a.length = b.length) rfl
        (fun h1 h2 => by rw [List.length_append, List.length_append, h1, h2]) _ _ parts
        fun p _ => partValues_retext_len f env p
    have e1 : ∀ {γ : Type} (l : List γ), l.isEmpty = decide (l.length = 0) := by
      intro γ l; cases l <;> simp
    rw [e1, e1, hl]
    split <;> rfl

/-- attribute specifications that yield a value under the same circumstances -/
def SR (env env' : Env) (a b : AttrSpec) : Prop := (attrValue env a).isSome = (attrValue env' b).isSome

theorem evalAttrs_names_LR (env env' : Env) {a b : List (Name × AttrSpec)} (h : LR (PR (SR env env')) a b) :
    (evalAttrs env a).map (·.1) = (evalAttrs env' b).map (·.1) := by
  refine LR.inductPR _ (P := fun a b => (evalAttrs env a).map (·.1) = (evalAttrs env' b).map (·.1)) rfl
    (fun n x y xs ys hv _ ih => ?_) h
  simp only [evalAttrs, List.filterMap_cons] at ih ⊢
  unfold SR at hv
  cases h1 : attrValue env x <;> cases h2 : attrValue env' y <;> simp [h1, h2] at hv <;> simp [ih]

theorem attrs_retext_LR (env : Env) : ∀ (attrs : List (Name × AttrSpec)),
    LR (PR (SR env (env.map (·.retext f)))) attrs (attrs.map fun p => (p.1, p.2.retext f))
  | [] => trivial
  | p :: ps => ⟨⟨rfl, (attrValue_retext_isSome f env p.2).symm⟩, attrs_retext_LR env ps⟩

/-- whether `py:attrs` keeps a value does not depend on its text (only `None` removes) -/
theorem stripValue_retext (x : Scalar) :
    (stripValue (x.retext f)).isSome = (stripValue x).isSome := by
  cases x <;> rfl

theorem items_retext_LR (env : Env) : ∀ (items : List (Name × Atom)),
    LR (OR (SR env (env.map (·.retext f))))
      (items.map fun p => (p.1, (stripValue (evalAtom env p.2)).map AttrSpec.static))
      ((items.map fun p => (p.1, p.2.retext f)).map fun p =>
        (p.1, (stripValue (evalAtom (env.map (·.retext f)) p.2)).map AttrSpec.static))
  | [] => trivial
  | p :: ps => by
      refine ⟨⟨rfl, ?_⟩, items_retext_LR env ps⟩
      have h := stripValue_retext f (evalAtom env p.2)
      simp only [evalAtom_retext]
      cases h1 : stripValue (evalAtom env p.2) <;> cases h2 : stripValue ((evalAtom env p.2).retext f) <;>
        simp_all [SR, attrValue]

theorem applyPyAttrs_retext_LR (env : Env) (attrs : List (Name × AttrSpec))
    (items : List (Name × Atom)) :
    LR (PR (SR env (env.map (·.retext f)))) (applyPyAttrs env attrs items)
      (applyPyAttrs (env.map (·.retext f)) (attrs.map fun p => (p.1, p.2.retext f))
        (items.map fun p => (p.1, p.2.retext f))) := by
  rw [applyPyAttrs_eq, applyPyAttrs_eq]
  exact gOr_LR _ (attrs_retext_LR f env attrs) (items_retext_LR f env items)

/-- the attributes of an element after `py:attrs`, before and after `retext`: same names, a value under the same circumstances -/
theorem attribOf_retext_LR (env : Env) (attrs : List (Name × AttrSpec)) (pa : Option (List (Name × Atom))) :
    LR (PR (SR env (env.map (·.retext f)))) (attribOf env attrs pa)
      (attribOf (env.map (·.retext f)) (attrs.map fun p => (p.1, p.2.retext f))
        (pa.map fun items => items.map fun p => (p.1, p.2.retext f))) := by
  cases pa with
  | none => exact attrs_retext_LR f env attrs
  | some items => exact applyPyAttrs_retext_LR f env attrs items

end Attrs

section Builder
variable (f : List Char → List Char)

theorem retext_isNone (x : Scalar) : (x.retext f = .none) ↔ (x = .none) := by
  cases x <;> simp [Scalar.retext]

theorem kwAttrs_retext_LR (env : Env) : ∀ (attrs : List (Name × Atom)) (seen : List Name),
    LR (OR fun (_ _ : List Char) => True) (kwAttrs env attrs seen)
      (kwAttrs (env.map (·.retext f)) (attrs.map fun p => (p.1, p.2.retext f)) seen)
  | [], _ => trivial
  | (n, a) :: rest, seen => by
      rw [List.map_cons, kwAttrs_cons, kwAttrs_cons, evalAtom_retext]
      simp only [retext_isNone]
      split
      · exact kwAttrs_retext_LR env rest seen
      · exact ⟨⟨rfl, trivial⟩, kwAttrs_retext_LR env rest (n :: seen)⟩

theorem builderAttrs_retext_names (env : Env) (attrs : List (Name × Atom)) :
    (Attrs.or [] (kwAttrs (env.map (·.retext f)) (attrs.map fun p => (p.1, p.2.retext f)) [])).map (·.1)
      = (Attrs.or [] (kwAttrs env attrs [])).map (·.1) := by
  rw [attrsOr_eq_gOr, attrsOr_eq_gOr]
  have hk := kwAttrs_retext_LR f env attrs []
  have hnil : LR (PR fun (_ _ : List Char) => True) ([] : List (Name × List Char)) [] := trivial
  exact (names_of_LR _ (gOr_LR _ hnil hk)).symm

end Builder

section Main
variable (f : List Char → List Char)

theorem bkid_skel (env : Env) :
    (∀ b : BKid, skelOf (expectedB (env.map (·.retext f)) (b.retext f)) = skelOf (expectedB env b)) ∧
    ∀ bs : List BKid,
      skelOf (expectedBs (env.map (·.retext f)) (BKid.retextList f bs)) = skelOf (expectedBs env bs) := by
  refine BKid.induct ?_ ?_ ?_ ?_
  · intro e; simp [BKid.retext, expectedB, skelOf, Ev.sk]
  · intro t attrs kids hk
    have ha := builderAttrs_retext_names f env attrs
    simp only [BKid.retext, expectedB, skelOf, List.map_cons, List.map_append, List.map_nil, Ev.sk] at hk ⊢
    rw [ha, hk]
  · rfl
  · intro b bs ih1 ih2
    simp only [BKid.retextList, expectedBs, skelOf_append]
    rw [ih1, ih2]

theorem fillAttrs_len : ∀ (attrs : List (Name × FAttr)) (a b : List (List Char)), a.length = b.length →
    (fillAttrs attrs a).map (fun r => (r.1.map (·.1), r.2.length)) =
      (fillAttrs attrs b).map (fun r => (r.1.map (·.1), r.2.length))
  | [], a, b, h => by simp [fillAttrs, h]
  | (n, .lit v) :: rest, a, b, h => by
      have e : ∀ x : Option (List (Name × List Char) × List (List Char)),
          (x.map fun r => ((n, v) :: r.1, r.2)).map (fun r => (r.1.map (·.1), r.2.length)) =
            (x.map fun r => (r.1.map (·.1), r.2.length)).map fun q => (n :: q.1, q.2) := fun x => by cases x <;> rfl
      simp only [fillAttrs, e, fillAttrs_len rest a b h]
  | (n, .hole) :: rest, [], [], _ => rfl
  | (n, .hole) :: rest, [], _ :: _, h => by simp at h
  | (n, .hole) :: rest, _ :: _, [], h => by simp at h
  | (n, .hole) :: rest, x :: xs, y :: ys, h => by
      have e : ∀ (z : List Char) (o : Option (List (Name × List Char) × List (List Char))),
          (o.map fun r => ((n, z) :: r.1, r.2)).map (fun r => (r.1.map (·.1), r.2.length)) =
            (o.map fun r => (r.1.map (·.1), r.2.length)).map fun q => (n :: q.1, q.2) := fun z o => by
        cases o <;> rfl
      simp only [fillAttrs, e, fillAttrs_len rest xs ys (by simpa using h)]

theorem map_skel_cons {c c' : Ev} (hc : c.sk = c'.sk) {x y : Option (List Ev)} (h : x.map skelOf = y.map skelOf) :
    (x.map (c :: ·)).map skelOf = (y.map (c' :: ·)).map skelOf := by
  have e : ∀ (d : Ev) (z : Option (List Ev)), (z.map (d :: ·)).map skelOf = (z.map skelOf).map (d.sk :: ·) :=
    fun d z => by cases z <;> rfl
  rw [e, e, h, hc]

/-- the skeleton of the filled pieces depends on the number of operands only -/
theorem fillEvents_skel : ∀ (ps : List FPiece) (a b : List (List Char)), a.length = b.length →
    (fillEvents ps a).map skelOf = (fillEvents ps b).map skelOf
  | [], [], [], _ => rfl
  | [], [], _ :: _, h => by simp at h
  | [], _ :: _, [], h => by simp at h
  | [], _ :: _, _ :: _, _ => rfl
  | .text s :: rest, a, b, h => map_skel_cons rfl (fillEvents_skel rest a b h)
  | .hole :: rest, [], [], _ => rfl
  | .hole :: rest, [], _ :: _, h => by simp at h
  | .hole :: rest, _ :: _, [], h => by simp at h
  | .hole :: rest, x :: xs, y :: ys, h =>
    map_skel_cons (c := .text x false) (c' := .text y false) rfl (fillEvents_skel rest xs ys (by simpa using h))
  | .open t attrs :: rest, a, b, h => by
      have ha := fillAttrs_len attrs a b h
      simp only [fillEvents]
      cases h1 : fillAttrs attrs a <;> cases h2 : fillAttrs attrs b <;> simp only [h1, h2] at ha
      · rfl
      · cases ha
      · cases ha
      · rename_i r r'
        simp only [Option.map_some, Option.some.injEq, Prod.mk.injEq] at ha
        exact map_skel_cons (by simp only [Ev.sk, ha.1]) (fillEvents_skel rest r.2 r'.2 ha.2)
  | .close t :: rest, a, b, h => map_skel_cons rfl (fillEvents_skel rest a b h)

theorem site_skel (env : Env) (e : SExpr) :
    skelOf (expectedSite (env.map (·.retext f)) (e.retext f)) = skelOf (expectedSite env e) := by
  cases e with
  | v e => simp only [SExpr.retext, expectedSite, skelOf, List.map_cons, List.map_nil, Ev.sk]
  | add m a => simp only [SExpr.retext, expectedSite, skelOf, List.map_cons, List.map_nil, Ev.sk]
  | radd m a => simp only [SExpr.retext, expectedSite, skelOf, List.map_cons, List.map_nil, Ev.sk]
  | join sep items => simp only [SExpr.retext, expectedSite, skelOf, List.map_cons, List.map_nil, Ev.sk]
  | esc a q => simp only [SExpr.retext, expectedSite, skelOf, List.map_cons, List.map_nil, Ev.sk]
  | fmt fm args =>
    simp only [SExpr.retext, expectedSite]
    -- the operands keep their kind, number and keys
    have h : ModRel (fun _ _ => True) (fun _ s => s) (fun _ s => s)
        (specFArgs (env.map (·.retext f)) (args.retext f)) (specFArgs env args) := by
      cases args <;> simp only [FArgs.retext, specFArgs, ModRel, List.map_map] <;>
        first | trivial | exact LR.map _ _ _ fun _ _ => trivial | exact LR.map _ _ _ fun _ _ => ⟨rfl, trivial⟩
    rcases mMod_shape _ _ fm h with ⟨a, b, e1, e2⟩ | ⟨e, e1, e2⟩ <;> rw [e1, e2] <;> rfl
  | fmtp ps as =>
    have h := fillEvents_skel ps ((as.map (·.retext f)).map fun a => opndText (evalAtom (env.map (·.retext f)) a))
      (as.map fun a => opndText (evalAtom env a)) (by simp)
    simp only [SExpr.retext, expectedSite]
    cases h1 : fillEvents ps ((as.map (·.retext f)).map fun a => opndText (evalAtom (env.map (·.retext f)) a)) <;>
      cases h2 : fillEvents ps (as.map fun a => opndText (evalAtom env a)) <;> simp_all
  | build b => simpa [SExpr.retext, expectedSite] using (bkid_skel f env).1 b
  | frag kids => simpa [SExpr.retext, expectedSite] using (bkid_skel f env).2 kids

theorem map_cons_retext (x : Scalar) (env : Env) :
    (x :: env).map (·.retext f) = x.retext f :: env.map (·.retext f) := rfl

theorem skel_retext :
    (∀ (n : Node) (env : Env),
      skelOf (expectedNode (env.map (·.retext f)) (n.retext f)) = skelOf (expectedNode env n)) ∧
    ∀ (ns : List Node) (env : Env),
      skelOf (expectedList (env.map (·.retext f)) (Node.retextList f ns)) = skelOf (expectedList env ns) := by
  refine Node.induct ?_ ?_ ?_ ?_ ?_ ?_ ?_ ?_
  · exact fun s env => rfl
  · intro e env; simpa [Node.retext, expectedNode] using site_skel f env e
  · intro t attrs pa kids ih env
    have hk := ih env
    simp only [Node.retext, expectedNode_el, skelOf, List.map_cons, List.map_append, List.map_nil, Ev.sk] at hk ⊢
    rw [← evalAttrs_names_LR env _ (attribOf_retext_LR f env attrs pa), hk]
  · intro e kids ih env
    simp only [Node.retext, expectedNode, evalV_retext, itemsOf_retext]
    rw [List.flatMap_map]
    exact flatMap_rel (R := fun a b => skelOf a = skelOf b) rfl
      (fun h1 h2 => by rw [skelOf_append, skelOf_append, h1, h2]) _ _ _
      fun x _ => by simpa [map_cons_retext] using ih (x :: env)
  · intro a kids ih env
    simpa [Node.retext, expectedNode, evalAtom_retext, map_cons_retext] using ih (evalAtom env a :: env)
  · intro b kids ih env
    cases b with
    | false => simp [Node.retext, expectedNode]
    | true => simpa [Node.retext, expectedNode] using ih env
  · exact fun env => rfl
  · intro n ns ih1 ih2 env
    simp only [Node.retextList, expectedList, skelOf_append]
    rw [ih1 env, ih2 env]

theorem node_skel : ∀ (n : Node) (env : Env),
      skelOf (expectedNode (env.map (·.retext f)) (n.retext f)) = skelOf (expectedNode env n) := (skel_retext f).1

end Main

section Domain
variable (f : List Char → List Char)

theorem scalarOkB_retext (x : Scalar) : scalarOkB (x.retext f) = scalarOkB x := by
  cases x with
  | obj s h => cases h <;> rfl
  | _ => rfl

theorem opndOk_retext (x : Scalar) : opndOk (x.retext f) = opndOk x := by
  cases x with
  | obj s h => cases h <;> rfl
  | _ => rfl

theorem atomOkB_retext (a : Atom) : atomOkB (a.retext f) = atomOkB a := by
  cases a with
  | lit x => exact scalarOkB_retext f x
  | var i => rfl

theorem all_map_congr {γ δ : Type} (l : List γ) {r : γ → δ} {p : δ → Bool} {p' : γ → Bool}
    (h : ∀ x, p (r x) = p' x) : (l.map r).all p = l.all p' := by
  rw [List.all_map]; exact List.all_congr rfl h

theorem vexprOkB_retext (e : VExpr) : vexprOkB (e.retext f) = vexprOkB e := by
  cases e with
  | val v =>
    cases v with
    | one x => exact scalarOkB_retext f x
    | many xs => exact all_map_congr xs (scalarOkB_retext f)
  | var i => rfl
  | listOf items => exact all_map_congr items (atomOkB_retext f)

theorem fargsOkB_retext (a : FArgs) : fargsOkB (a.retext f) = fargsOkB a := by
  cases a with
  | one a => exact atomOkB_retext f a
  | tup as => exact all_map_congr as (atomOkB_retext f)
  | map kvs => exact all_map_congr kvs fun p => atomOkB_retext f p.2

theorem attrsB_retext (m : Method) (attrs : List (Name × Atom)) :
    (attrs.map fun p => (p.1, p.2.retext f)).all (fun p => attrNameOkB m p.1 && atomOkB p.2)
      = attrs.all (fun p => attrNameOkB m p.1 && atomOkB p.2) :=
  all_map_congr attrs fun p => by rw [atomOkB_retext]

theorem bkidOkB_retext (m : Method) :
    (∀ b : BKid, bkidOkB m (b.retext f) = bkidOkB m b) ∧
    ∀ bs : List BKid, bkidsOkB m (BKid.retextList f bs) = bkidsOkB m bs := by
  refine BKid.induct ?_ ?_ ?_ ?_
  · exact fun e => vexprOkB_retext f e
  · intro t attrs kids hk
    have hempty : (BKid.retextList f kids).isEmpty = kids.isEmpty := by cases kids <;> rfl
    simp only [BKid.retext, bkidOkB, attrsB_retext, hk, hempty]
  · rfl
  · intro b bs ih1 ih2; simp only [BKid.retextList, bkidsOkB, ih1, ih2]

theorem sexprOkB_retext (m : Method) (e : SExpr) : sexprOkB m (e.retext f) = sexprOkB m e := by
  cases e with
  | v e => exact vexprOkB_retext f e
  | add mk a => simp [SExpr.retext, sexprOkB, atomOkB_retext]
  | radd mk a => simp [SExpr.retext, sexprOkB, atomOkB_retext]
  | join sep items => simp only [SExpr.retext, sexprOkB, all_map_congr items (atomOkB_retext f)]
  | esc a q => exact atomOkB_retext f a
  | fmt fm args => simp [SExpr.retext, sexprOkB, fargsOkB_retext]
  | fmtp ps as => rfl
  | build b => exact (bkidOkB_retext f m).1 b
  | frag kids => exact (bkidOkB_retext f m).2 kids

theorem attrSpecOkB_retext (a : AttrSpec) : attrSpecOkB (a.retext f) = attrSpecOkB a := by
  cases a with
  | static s => rfl
  | interp parts =>
    refine all_map_congr parts fun p => ?_
    cases p with
    | lit s => rfl
    | expr e => exact vexprOkB_retext f e

theorem okB_retext (m : Method) :
    (∀ n : Node, nodeOkB m (n.retext f) = nodeOkB m n) ∧
    ∀ ns : List Node, nodesOkB m (Node.retextList f ns) = nodesOkB m ns := by
  refine Node.induct ?_ ?_ ?_ ?_ ?_ ?_ ?_ ?_
  · exact fun s => rfl
  · exact fun e => sexprOkB_retext f m e
  · intro t attrs pa kids hk
    have hempty : (Node.retextList f kids).isEmpty = kids.isEmpty := by cases kids <;> rfl
    have hattrs : (attrs.map fun p => (p.1, p.2.retext f)).all (fun p => attrNameOkB m p.1 && attrSpecOkB p.2)
        = attrs.all (fun p => attrNameOkB m p.1 && attrSpecOkB p.2) :=
      all_map_congr attrs fun p => by rw [attrSpecOkB_retext]
    cases pa with
    | none => simp only [Node.retext, Option.map_none, nodeOkB, hattrs, hk, hempty]
    | some items => simp only [Node.retext, Option.map_some, nodeOkB, hattrs, hk, hempty, attrsB_retext]
  · intro e kids hk; simp only [Node.retext, nodeOkB, vexprOkB_retext, hk]
  · intro a kids hk; simp only [Node.retext, nodeOkB, atomOkB_retext, hk]
  · intro b kids hk; simp only [Node.retext, nodeOkB, hk]
  · rfl
  · intro n ns ih1 ih2; simp only [Node.retextList, nodesOkB, ih1, ih2]

theorem nodeOkB_retext (m : Method) : ∀ n : Node, nodeOkB m (n.retext f) = nodeOkB m n := (okB_retext f m).1

theorem atomOk_retext (env : Env) (a : Atom) :
    atomOk (env.map (·.retext f)) (a.retext f) = atomOk env a := by
  simp only [atomOk, evalAtom_retext, opndOk_retext]

theorem siteOk_retext (env : Env) (e : SExpr) :
    siteOk (env.map (·.retext f)) (e.retext f) = siteOk env e := by
  cases e with
  | v e => rfl
  | add mk a => exact atomOk_retext f env a
  | radd mk a => exact atomOk_retext f env a
  | join sep items => exact all_map_congr items (atomOk_retext f env)
  | esc a q => exact atomOk_retext f env a
  | fmt fm args =>
    have h1 : fargsAtomsOk (env.map (·.retext f)) (args.retext f) = fargsAtomsOk env args := by
      cases args with
      | one a => exact atomOk_retext f env a
      | tup as => exact all_map_congr as (atomOk_retext f env)
      | map kvs => exact all_map_congr kvs fun p => atomOk_retext f env p.2
    simp only [SExpr.retext, siteOk, h1]
    congr 1
    have h2 : ModRel (fun _ _ => True) escapePy escapePy
        (evalFArgs (env.map (·.retext f)) (args.retext f)) (evalFArgs env args) := by
      cases args <;> simp only [FArgs.retext, evalFArgs, ModRel, List.map_map] <;>
        first | trivial | exact LR.map _ _ _ fun _ _ => trivial | exact LR.map _ _ _ fun _ _ => ⟨rfl, trivial⟩
    rcases mMod_shape _ _ fm h2 with ⟨a, b, e1, e2⟩ | ⟨e, e1, e2⟩ <;> rw [e1, e2]
  | fmtp ps as =>
    have h1 : (as.map (·.retext f)).all (atomOk (env.map (·.retext f))) = as.all (atomOk env) :=
      all_map_congr as (atomOk_retext f env)
    simp only [SExpr.retext, siteOk, h1]
    congr 1
    have h2 : ModRel (fun _ _ => True) escapePy escapePy
        (.tup ((as.map (·.retext f)).map fun a => toOpnd (evalAtom (env.map (·.retext f)) a)))
        (.tup (as.map fun a => toOpnd (evalAtom env a))) := by
      simp only [ModRel, List.map_map]
      exact LR.map _ _ as fun _ _ => trivial
    rcases mMod_shape _ _ (fmtString ps) h2 with ⟨a, b, e1, e2⟩ | ⟨e, e1, e2⟩ <;> rw [e1, e2]
  | build b => rfl
  | frag kids => rfl

theorem ok_retext :
    (∀ (n : Node) (env : Env), nodeOk (env.map (·.retext f)) (n.retext f) = nodeOk env n) ∧
    ∀ (ns : List Node) (env : Env), listOk (env.map (·.retext f)) (Node.retextList f ns) = listOk env ns := by
  refine Node.induct ?_ ?_ ?_ ?_ ?_ ?_ ?_ ?_
  · exact fun s _ => rfl
  · exact fun e env => siteOk_retext f env e
  · intro t attrs pa kids ih env; simp only [Node.retext, nodeOk, ih env]
  · intro e kids ih env
    simp only [Node.retext, nodeOk, evalV_retext, itemsOf_retext, List.all_map]
    congr 1
    funext x
    simpa [map_cons_retext] using ih (x :: env)
  · intro a kids ih env
    simpa [Node.retext, nodeOk, evalAtom_retext, map_cons_retext] using ih (evalAtom env a :: env)
  · intro b kids ih env
    cases b with
    | false => rfl
    | true => simpa [Node.retext, nodeOk] using ih env
  · exact fun _ => rfl
  · intro n ns ih1 ih2 env; simp only [Node.retextList, listOk, ih1 env, ih2 env]

theorem nodeOk_retext : ∀ (n : Node) (env : Env), nodeOk (env.map (·.retext f)) (n.retext f) = nodeOk env n :=
  (ok_retext f).1

theorem envOk_retext (env : Env) (h : EnvOk env) : EnvOk (env.map (·.retext f)) := by
  intro x hx
  obtain ⟨y, hy, rfl⟩ := List.mem_map.mp hx
  rw [scalarOkB_retext]; exact h y hy

end Domain

end Genshi.Subst
