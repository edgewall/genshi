/-
  C01 — raw-text elements: the reader in raw-text mode over what the html serializer writes there,
  re-reading a stream WITH raw-text elements (`reread_rawtext_nostrip`), the template induction for templates
  with raw-text elements (`node_specR`: `StreamOkR`, `TEqR`), and that their raw-text elements have no element children.
-/
import Genshi.Lemmas.SubstTmpl
import Genshi.Model.SubstRaw
namespace Genshi.Subst
open Genshi.Escape Genshi.Str

theorem noEtago_lt_slash (b r : List Char) : noEtago (b ++ '<' :: '/' :: r) = false := by
  induction b with
  | nil => simp [noEtago]
  | cons x b ih => simp [noEtago, ih]

theorem noEtago_prefix (x y : List Char) (h : noEtago (x ++ y) = true) : noEtago x = true := by
  induction x with
  | nil => rfl
  | cons c cs ih =>
    simp only [List.cons_append, noEtago, Bool.and_eq_true, Bool.not_eq_true'] at h ⊢
    refine ⟨?_, ih h.2⟩
    cases cs with
    | nil => simp
    | cons d ds => simpa using h.1

theorem step_raw (m : Method) (st : RS) (c : List Char) (x : Char) (h : RawInv st c)
    (hne : noEtago (c ++ [x]) = true) :
    ∃ st', step m st x = some st' ∧ RawInv st' (c ++ [x]) ∧ st'.out = st.out := by
  obtain ⟨hb, hmode⟩ := h
  by_cases hx : x = '<'
  · subst hx
    refine ⟨{ st with mode := .rawLt, buf := st.buf ++ ['<'] }, ?_, ⟨by simp [hb], Or.inr ⟨rfl, c, rfl⟩⟩, rfl⟩
    rcases hmode with hm | ⟨hm, _⟩
    · simp [step, hm]
    · cases st; simp_all [step]
  · refine ⟨{ st with mode := .raw, buf := st.buf ++ [x] }, ?_, ⟨by simp [hb], Or.inl rfl⟩, rfl⟩
    rcases hmode with hm | ⟨hm, b, hcb⟩
    · simp only [step, hm, hx, ↓reduceIte]
    · have hxs : x ≠ '/' := by
        intro e
        subst e
        rw [hcb, List.append_assoc] at hne
        simp [noEtago_lt_slash b []] at hne
      simp [step, hm, hx, hxs]

theorem run_raw_chars (m : Method) (s : List Char) :
    ∀ (st : RS) (c : List Char), RawInv st c → noEtago (c ++ s) = true →
      ∃ st', run m st s = some st' ∧ RawInv st' (c ++ s) ∧ st'.out = st.out := by
  induction s with
  | nil => intro st c h _; exact ⟨st, rfl, by simpa using h, rfl⟩
  | cons x xs ih =>
    intro st c h hne
    have hne' : noEtago ((c ++ [x]) ++ xs) = true := by simpa using hne
    obtain ⟨s1, hs1, hi1, ho1⟩ := step_raw m st c x h (noEtago_prefix _ _ hne')
    obtain ⟨st', h1, h2, h3⟩ := ih s1 (c ++ [x]) hi1 hne'
    exact ⟨st', by rw [run_cons hs1]; exact h1, by simpa using h2, h3.trans ho1⟩

/-- the token streams the reader follows; `none`: outside a raw-text element, `some c`: inside one whose
    content so far is `c` -/
def ToksOkR (m : Method) : Option (List Char) → List Tok → Prop
  | none, [] => True
  | some _, [] => False
  | none, .text s f :: r => (f = true → SafeOk s) ∧ ToksOkR m none r
  | none, .open t a :: r =>
      isNameB t = true ∧ attrsOkB m a = true ∧ openOk m t = true ∧
        ToksOkR m (if isRawElem m t then some [] else none) r
  | none, .empty t a :: r => isNameB t = true ∧ attrsOkB m a = true ∧ ToksOkR m none r
  | none, .close t :: r => isNameB t = true ∧ ToksOkR m none r
  | some c, .text s _ :: r => noEtago (c ++ s) = true ∧ ToksOkR m (some (c ++ s)) r
  | some _, .close t :: r => isNameB t = true ∧ ToksOkR m none r
  | some _, .open _ _ :: _ => False
  | some _, .empty _ _ :: _ => False

/-- the reader over `pre ++ s`: over `pre`, then over `s` from the state reached; what the second run adds to the
    output (`X`) makes up `Y` with what the first added -/
theorem run_then {m : Method} {st s1 : RS} {pre s : List Char} {X Y : List Ev} (h1 : run m st pre = some s1)
    (ho : s1.out ++ X = st.out ++ Y)
    (h2 : ∃ st', run m s1 s = some st' ∧ st'.mode = .text ∧ st'.out ++ flushText st'.buf = s1.out ++ X) :
    ∃ st', run m st (pre ++ s) = some st' ∧ st'.mode = .text ∧ st'.out ++ flushText st'.buf = st.out ++ Y := by
  obtain ⟨st', h, hm, he⟩ := h2
  exact ⟨st', by rw [run_append, h1]; exact h, hm, he.trans ho⟩

/-- The reader over the serializer's tokens, in both modes at once.  Outside a raw-text element the pending
    character data is carried as `escapeMixed pp` (so that `unescape` distributes over what is appended) and
    the serializer's `noescape` flag is off; inside one the buffer holds the raw content `c` so far and the flag
    is on.  The two statements call each other at the START and END of a raw-text element. -/
theorem run_toksR (m : Method) : ∀ (toks : List Tok) (st : RS),
    (∀ pp : List QChar, st.mode = .text → st.buf = escapeMixed pp → ToksOkR m none toks →
      ∃ st', run m st (serToks m false toks) = some st' ∧ st'.mode = .text ∧
        st'.out ++ flushText st'.buf = st.out ++ coalesceRGo m false (pp.map (·.2)) (toks.flatMap tokEvents)) ∧
    (∀ c : List Char, RawInv st c → ToksOkR m (some c) toks →
      ∃ st', run m st (serToks m true toks) = some st' ∧ st'.mode = .text ∧
        st'.out ++ flushText st'.buf = st.out ++ coalesceRGo m true c (toks.flatMap tokEvents)) := by
  intro toks
  induction toks with
  | nil =>
    intro st
    refine ⟨?_, ?_⟩
    · intro pp hm hb _
      exact ⟨st, rfl, hm, by simp [hb, coalesceRGo, flushText_mixed]⟩
    · intro c _ h; exact absurd h (by simp [ToksOkR])
  | cons tok toks ih =>
    intro st
    refine ⟨?_, ?_⟩
    · intro pp hm hb hok
      cases tok with
      | text s f =>
        obtain ⟨hsafe, hok'⟩ := hok
        cases f with
        | false =>
          simp only [serToks, emitText, Bool.false_eq_true, ↓reduceIte]
          refine run_then (run_text_chars m (escapePy false s) (fun c hc => (escapePy_chars false s c hc).1) st hm) ?_
            ((ih { st with buf := st.buf ++ escapePy false s }).1 (pp ++ s.map fun c => (false, c)) hm
              (by simp [hb, escapePy_false_mixed, escapeMixed_append]) hok')
          simp [tokEvents, coalesceRGo, textValue, List.map_map, Function.comp_def]
        | true =>
          obtain ⟨ps, rfl⟩ := hsafe rfl
          simp only [serToks]
          refine run_then (run_text_chars m (escapeMixed ps) (safeOk_no_lt _ ⟨ps, rfl⟩) st hm) ?_
            ((ih { st with buf := st.buf ++ escapeMixed ps }).1 (pp ++ ps) hm (by simp [hb, escapeMixed_append]) hok')
          simp [tokEvents, coalesceRGo, textValue, unescape_escapeMixed]
      | close t =>
        obtain ⟨hn, hok'⟩ := hok
        obtain ⟨s1, hr1, hm1, hb1, ho1⟩ := run_close m st t ((isNameB_iff t).mp hn) hm
        have e : emitClose t = '<' :: '/' :: (t ++ ['>']) := by simp [emitClose]
        simp only [serToks, e]
        refine run_then hr1 ?_ ((ih s1).1 [] hm1 (by simp [hb1, escapeMixed_nil]) hok')
        rw [ho1, hb, flushText_mixed]
        simp [tokEvents, coalesceRGo]
      | «open» t a =>
        obtain ⟨hn, ha, hop, hok'⟩ := hok
        obtain ⟨s1, hr1, hs1, ho1⟩ := run_tagHead m st t _ ((isNameB_iff t).mp hn) (rawAttrsOk_map m a ha) hm
        obtain ⟨s2, hr2, hm2, hb2, ho2⟩ := run_gt' m s1 t _ hs1
        have hrun : run m st (emitOpen m t a) = some s2 := by
          have e : emitOpen m t a = ('<' :: (t ++ attrsRaw (a.map fun p => (p.1, escapePy true p.2)))) ++ ['>'] := by
            simp [emitOpen, emitAttrs_plain m a ha]
          rw [e, run_append, hr1]; exact hr2
        have hout : s2.out = st.out ++ flushData (pp.map (·.2)) ++ [.start t a] := by
          rw [ho2, ho1, hb, flushText_mixed, decodeAttrs_escaped, startEvents_open m t a hop]
        -- the rest is read in the mode the START leaves the reader in
        have hrest : ∃ st', run m s2 (serToks m (isRawElem m t) toks) = some st' ∧ st'.mode = .text ∧
            st'.out ++ flushText st'.buf = s2.out ++ coalesceRGo m (isRawElem m t) [] (toks.flatMap tokEvents) := by
          by_cases hraw : isRawElem m t = true
          · simp only [hraw, ↓reduceIte] at hok' hm2 ⊢
            exact (ih s2).2 [] ⟨hb2, Or.inl hm2⟩ hok'
          · have hraw' : isRawElem m t = false := by simpa using hraw
            simp only [hraw', Bool.false_eq_true, ↓reduceIte] at hok' hm2 ⊢
            exact (ih s2).1 [] hm2 (by simp [hb2, escapeMixed_nil]) hok'
        simp only [serToks, Bool.false_or]
        refine run_then hrun ?_ hrest
        rw [hout]
        simp [tokEvents, coalesceRGo]
      | empty t a =>
        obtain ⟨hn, ha, hok'⟩ := hok
        obtain ⟨s2, hr2, hm2, he2⟩ :=
          run_rtok_empty m t _ ⟨(isNameB_iff t).mp hn, rawAttrsOk_map m a ha⟩ st hm
        have ho : s2.out = st.out ++ flushText st.buf ++ [.start t a, .end_ t] := by
          simpa [absorb, decodeAttrs_escaped] using congrArg Prod.fst he2
        have hb2 : s2.buf = [] := by simpa [absorb] using congrArg Prod.snd he2
        simp only [serToks, emitEmpty_raw m t a ha]
        refine run_then hr2 ?_ ((ih s2).1 [] hm2 (by simp [hb2, escapeMixed_nil]) hok')
        rw [ho, hb, flushText_mixed]
        simp [tokEvents, coalesceRGo, flushData]
    · intro c hinv hok
      cases tok with
      | text s f =>
        obtain ⟨hne, hok'⟩ := hok
        obtain ⟨s1, hr1, hi1, ho1⟩ := run_raw_chars m s st c hinv hne
        have e : serToks m true (.text s f :: toks) = s ++ serToks m true toks := by
          cases f <;> simp [serToks]
        rw [e]
        refine run_then hr1 ?_ ((ih s1).2 (c ++ s) hi1 hok')
        rw [ho1]
        simp [tokEvents, coalesceRGo]
      | close t =>
        obtain ⟨hn, hok'⟩ := hok
        obtain ⟨s1, hr1, hm1, hb1, ho1⟩ := run_close_raw m st c t ((isNameB_iff t).mp hn) hinv
        have e : emitClose t = '<' :: '/' :: (t ++ ['>']) := by simp [emitClose]
        simp only [serToks, e]
        refine run_then hr1 ?_ ((ih s1).1 [] hm1 (by simp [hb1, escapeMixed_nil]) hok')
        rw [ho1]
        simp [tokEvents, coalesceRGo]
      | «open» t a => exact absurd hok (by simp [ToksOkR])
      | empty t a => exact absurd hok (by simp [ToksOkR])

theorem readDoc_toksR (m : Method) (toks : List Tok) (h : ToksOkR m none toks) :
    readDoc m (serToks m false toks) = some (coalesceRGo m false [] (toks.flatMap tokEvents)) := by
  obtain ⟨st, hr, hm, he⟩ := (run_toksR m toks initRS).1 [] rfl (by simp [initRS, escapeMixed_nil]) h
  unfold readDoc
  rw [hr]
  simp only [hm, ↓reduceIte]
  rw [he]
  simp [initRS]

/-- the event streams `reread_rawtext_nostrip` speaks about (`rawOkGo` is its decidable form) -/
def EvsOkR (m : Method) : Option (List Char) → List Ev → Prop
  | none, [] => True
  | some _, [] => False
  | none, .text s f :: r => (f = true → SafeOk s) ∧ EvsOkR m none r
  | none, .start t a :: r =>
      isNameB t = true ∧ attrsOkB m a = true ∧ EvsOkR m (if isRawElem m t then some [] else none) r
  | none, .end_ t :: r => isNameB t = true ∧ EvsOkR m none r
  | some c, .text s _ :: r => noEtago (c ++ s) = true ∧ EvsOkR m (some (c ++ s)) r
  | some _, .end_ t :: r => isNameB t = true ∧ EvsOkR m none r
  | some _, .start _ _ :: _ => False

theorem evsOkR_of_B (m : Method) (evs : List Ev) : ∀ rs, rawOkGo m rs evs = true → EvsOkR m rs evs := by
  induction evs with
  | nil => intro rs h; cases rs <;> simp_all [rawOkGo, EvsOkR]
  | cons e es ih =>
    intro rs h
    cases rs with
    | none =>
      cases e with
      | text s f =>
        simp only [rawOkGo, Bool.and_eq_true, Bool.or_eq_true, Bool.not_eq_true'] at h
        refine ⟨?_, ih _ h.2⟩
        intro hf
        rcases h.1 with h1 | h1
        · simp [hf] at h1
        · exact safeOk_of_B s h1
      | start t a =>
        simp only [rawOkGo, Bool.and_eq_true] at h
        exact ⟨h.1.1, h.1.2, ih _ h.2⟩
      | end_ t =>
        simp only [rawOkGo, Bool.and_eq_true] at h
        exact ⟨h.1, ih _ h.2⟩
    | some c =>
      cases e with
      | text s f =>
        simp only [rawOkGo, Bool.and_eq_true] at h
        exact ⟨h.1, ih _ h.2⟩
      | start t a => simp [rawOkGo] at h
      | end_ t =>
        simp only [rawOkGo, Bool.and_eq_true] at h
        exact ⟨h.1, ih _ h.2⟩

/-- a token stream the reader follows is one whose events are such a stream and whose open tags may be written
    as open tags -/
theorem toksOkR_of_events (m : Method) (toks : List Tok) :
    ∀ rs, EvsOkR m rs (toks.flatMap tokEvents) → (∀ t a, Tok.open t a ∈ toks → openOk m t = true) →
      ToksOkR m rs toks := by
  induction toks with
  | nil => intro rs h _; cases rs <;> exact h
  | cons tok ts ih =>
    intro rs h ho
    have ih' := fun rs h => ih rs h fun t a hm => ho t a (List.mem_cons_of_mem _ hm)
    cases rs <;> cases tok <;> simp only [List.flatMap_cons, tokEvents, List.cons_append, List.nil_append, EvsOkR] at h
    case none.text => exact ⟨h.1, ih' _ h.2⟩
    case none.open t a => exact ⟨h.1, h.2.1, ho t a List.mem_cons_self, ih' _ h.2.2⟩
    case none.empty t a =>
      -- the END directly after the START: the same whether or not the element is a raw-text element
      refine ⟨h.1, h.2.1, ih' _ ?_⟩
      split at h <;> exact h.2.2.2
    case none.close => exact ⟨h.1, ih' _ h.2⟩
    case some.text => exact ⟨h.1, ih' _ h.2⟩
    case some.close => exact ⟨h.1, ih' _ h.2⟩

/-- what `EmptyTagFilter` yields for such a stream is a token stream the reader follows -/
theorem toksOkR_emptyTags (m : Method) (evs : List Ev) :
    (∀ rs, EvsOkR m rs evs → emptyOkGo m none evs = true → ToksOkR m rs (emptyTagsGo none evs)) ∧
    (∀ t a, isNameB t = true → attrsOkB m a = true →
      EvsOkR m (if isRawElem m t then some [] else none) evs → emptyOkGo m (some t) evs = true →
      ToksOkR m none (emptyTagsGo (some (t, a)) evs)) := by
  refine ⟨fun rs h hn => ?_, fun t a ht ha h hn => ?_⟩
  · obtain ⟨he, ho⟩ := emptyTags_spec m evs none hn
    exact toksOkR_of_events m _ rs (by rw [he]; exact h) ho
  · obtain ⟨he, ho⟩ := emptyTags_spec m evs (some (t, a)) hn
    exact toksOkR_of_events m _ none (by rw [he]; exact ⟨ht, ha, h⟩) ho

/-- **re-reading what the html serializer wrote for a stream WITH raw-text elements** (no whitespace
    stripping): outside them the stream with its character data merged and decoded, inside them the
    emitted strings as they are -/
theorem readDoc_serialize_rawtext (m : Method) (evs : List Ev)
    (hok : EvsOkR m none evs) (hnest : emptyOkGo m none evs = true) :
    readDoc m (serialize m false evs) = some (coalesceR m evs) := by
  have htoks := (toksOkR_emptyTags m evs).1 none hok hnest
  have hev := (emptyTags_spec m evs none (by simpa [pendName] using hnest)).1
  simp only [serialize, Bool.false_eq_true, ↓reduceIte]
  unfold emptyTags
  rw [readDoc_toksR m _ htoks, hev]
  simp [coalesceR, pendEvents]

/-! ### contextual equivalence for the raw-aware merge

  `TEq` (indistinguishable for every reader without raw-text mode) is what the site lemmas prove.  Outside
  raw-text elements it carries over: a reader that marks every flush (`flMark`) shows the whole state
  the merge is in after a stream, and the raw-aware merge is a function of that. -/

/-- from outside a raw-text element: after `a` the raw-aware merge has produced `X` and holds `pend'` -/
def FactR (m : Method) (a : List Ev) (pend : List Char) (X : List Ev) (pend' : List Char) : Prop :=
  ∀ rest, coalesceRGo m false pend (a ++ rest) = X ++ coalesceRGo m false pend' rest

/-- the two streams leave the raw-aware merge with the same output and in the same state -/
def TEqR (m : Method) (a b : List Ev) : Prop :=
  ∀ pend, ∃ X pend', FactR m a pend X pend' ∧ FactR m b pend X pend'

theorem TEqR.nil (m : Method) : TEqR m [] [] :=
  fun pend => ⟨[], pend, fun _ => rfl, fun _ => rfl⟩

theorem FactR.append {m : Method} {a b : List Ev} {p0 p1 p2 : List Char} {X1 X2 : List Ev}
    (h1 : FactR m a p0 X1 p1) (h2 : FactR m b p1 X2 p2) : FactR m (a ++ b) p0 (X1 ++ X2) p2 := by
  intro rest
  rw [List.append_assoc, h1, h2, List.append_assoc]

theorem TEqR.append {m : Method} {a a' b b' : List Ev} (h1 : TEqR m a a') (h2 : TEqR m b b') :
    TEqR m (a ++ b) (a' ++ b') := by
  intro pend
  obtain ⟨X1, p1, f1, f1'⟩ := h1 pend
  obtain ⟨X2, p2, f2, f2'⟩ := h2 p1
  exact ⟨X1 ++ X2, p2, f1.append f2, f1'.append f2'⟩

theorem FactR.wrap {m : Method} {a : List Ev} {X : List Ev} {p' : List Char} (t : Name)
    (at_ : List (Name × List Char)) (hraw : isRawElem m t = false) (h : FactR m a [] X p') (pend : List Char) :
    FactR m (.start t at_ :: (a ++ [.end_ t])) pend
      (flushData pend ++ .start t at_ :: (X ++ (flushData p' ++ [.end_ t]))) [] := by
  intro rest
  simp only [List.cons_append, List.append_assoc, coalesceRGo, hraw]
  rw [h]
  simp [coalesceRGo]

theorem TEqR.wrap {m : Method} {a a' : List Ev} (t : Name) (at_ : List (Name × List Char))
    (hraw : isRawElem m t = false) (h : TEqR m a a') :
    TEqR m (.start t at_ :: (a ++ [.end_ t])) (.start t at_ :: (a' ++ [.end_ t])) := by
  intro pend
  obtain ⟨X, p', f, f'⟩ := h []
  exact ⟨_, [], f.wrap t at_ hraw pend, f'.wrap t at_ hraw pend⟩

theorem coalesceRGo_rawTexts (m : Method) (txts : List Ev) (h : txts.all isTextEv = true) :
    ∀ c rest, coalesceRGo m true c (txts ++ rest) = coalesceRGo m true (c ++ rawData txts) rest := by
  induction txts with
  | nil => intro c rest; simp [rawData]
  | cons e es ih =>
    intro c rest
    simp only [List.all_cons, Bool.and_eq_true] at h
    cases e with
    | text s f =>
      simp only [List.cons_append, coalesceRGo, rawData]
      rw [ih h.2]; simp
    | start t a => simp [isTextEv] at h
    | end_ t => simp [isTextEv] at h

theorem FactR.rawElem (m : Method) (t : Name) (at_ : List (Name × List Char)) (txts : List Ev)
    (hraw : isRawElem m t = true) (h : txts.all isTextEv = true) (pend : List Char) :
    FactR m (.start t at_ :: (txts ++ [.end_ t])) pend
      (flushData pend ++ .start t at_ :: (flushData (rawData txts) ++ [.end_ t])) [] := by
  intro rest
  simp only [List.cons_append, List.append_assoc, coalesceRGo, hraw]
  rw [coalesceRGo_rawTexts m txts h]
  simp [coalesceRGo]

/-- a raw-text element with text-only content and the element holding the concatenated strings as one text -/
theorem TEqR.rawElem (m : Method) (t : Name) (at_ : List (Name × List Char)) (txts : List Ev)
    (hraw : isRawElem m t = true) (h : txts.all isTextEv = true) :
    TEqR m (.start t at_ :: (txts ++ [.end_ t])) (.start t at_ :: ([.text (rawData txts) false] ++ [.end_ t])) := by
  intro pend
  refine ⟨_, [], FactR.rawElem m t at_ txts hraw h pend, ?_⟩
  have := FactR.rawElem m t at_ [.text (rawData txts) false] hraw (by simp [isTextEv]) pend
  simpa [rawData] using this

/-- `flMark` flushes every run as one marked TEXT event, empty or not, so the merged stream alternates
    marker / tag; `unmX` reads the output so far back from it and `unmP` the run still pending:
    `ab<x>c` merges to `[text ab, start x, text c]`, of which `unmX` is `[text ab, start x]` and `unmP` is `c`. -/
def flMark : Nat → List Char → List Ev := fun _ pend => [.text pend true]

def unmX : List Ev → List Ev
  | .text pend _ :: .start t a :: more => flushData pend ++ .start t a :: unmX more
  | .text pend _ :: .end_ t :: more => flushData pend ++ .end_ t :: unmX more
  | _ => []

def unmP : List Ev → List Char
  | .text _ _ :: .start _ _ :: more => unmP more
  | .text _ _ :: .end_ _ :: more => unmP more
  | [.text pend _] => pend
  | _ => []

theorem unmX_start (p : List Char) (f : Bool) (t : Name) (a : List (Name × List Char)) (more : List Ev) :
    unmX (.text p f :: .start t a :: more) = flushData p ++ .start t a :: unmX more := by rw [unmX]
theorem unmX_end (p : List Char) (f : Bool) (t : Name) (more : List Ev) :
    unmX (.text p f :: .end_ t :: more) = flushData p ++ .end_ t :: unmX more := by rw [unmX]
theorem unmP_start (p : List Char) (f : Bool) (t : Name) (a : List (Name × List Char)) (more : List Ev) :
    unmP (.text p f :: .start t a :: more) = unmP more := by rw [unmP]
theorem unmP_end (p : List Char) (f : Bool) (t : Name) (more : List Ev) :
    unmP (.text p f :: .end_ t :: more) = unmP more := by rw [unmP]

theorem presStep_nil (t : Name) : presStep [] 0 t = 0 := by simp [presStep]

theorem mark_fact (m : Method) (x : List Ev) (hraw : ∀ t a, Ev.start t a ∈ x → isRawElem m t = false) :
    ∀ pend, FactR m x pend (unmX (coalesceWith flMark [] 0 pend x)) (unmP (coalesceWith flMark [] 0 pend x)) := by
  induction x with
  | nil => intro pend rest; simp [coalesceWith, flMark, unmX, unmP]
  | cons e es ih =>
    have ih' := ih fun t a h => hraw t a (List.mem_cons_of_mem _ h)
    intro pend rest
    cases e with
    | text s f =>
      simp only [List.cons_append, coalesceWith, coalesceRGo]
      exact ih' _ rest
    | start t a =>
      have hr := hraw t a (by simp)
      simp only [List.cons_append, coalesceWith, coalesceRGo, hr, presStep_nil]
      rw [ih' [] rest]
      simp [flMark, unmX_start, unmP_start]
    | end_ t =>
      simp only [List.cons_append, coalesceWith, coalesceRGo, Nat.zero_sub]
      rw [ih' [] rest]
      simp [flMark, unmX_end, unmP_end]

theorem mark_starts (x : List Ev) (t : Name) (a : List (Name × List Char)) :
    ∀ pend, Ev.start t a ∈ coalesceWith flMark [] 0 pend x ↔ Ev.start t a ∈ x := by
  induction x with
  | nil => intro pend; simp [coalesceWith, flMark]
  | cons e es ih =>
    intro pend
    cases e with
    | text s f => simp [coalesceWith, ih]
    | start t' a' => simp [coalesceWith, flMark, presStep_nil, ih]
    | end_ t' => simp [coalesceWith, flMark, ih]

/-- outside raw-text elements `TEq` carries over to the raw-aware merge -/
theorem TEqR.ofTEq (m : Method) {a b : List Ev} (ha : ∀ e ∈ a, evOkB m e = true) (h : TEq a b) : TEqR m a b := by
  intro pend
  have hm : coalesceWith flMark [] 0 pend a = coalesceWith flMark [] 0 pend b := by
    simpa using h flMark [] 0 pend []
  have hra : ∀ t at_, Ev.start t at_ ∈ a → isRawElem m t = false := startsOk_of_ev ha
  have hrb : ∀ t at_, Ev.start t at_ ∈ b → isRawElem m t = false := by
    intro t at_ hmem
    apply hra t at_
    rw [← mark_starts a t at_ pend, hm, mark_starts b t at_ pend]
    exact hmem
  refine ⟨_, _, mark_fact m a hra pend, ?_⟩
  rw [hm]
  exact mark_fact m b hrb pend

/-- `StreamOk` for streams with raw-text elements: `a` in front of a stream of `EvsOkR` is one (said so, `++` keeps
    it), and `a` is `Closed` -/
structure StreamOkR (m : Method) (a : List Ev) : Prop where
  ok : ∀ b, EvsOkR m none b → EvsOkR m none (a ++ b)
  closed : Closed m a

theorem evsOkR_append_plain (m : Method) (a : List Ev) (hev : ∀ e ∈ a, evOkB m e = true) (hs : TextsOk a)
    (b : List Ev) (hb : EvsOkR m none b) : EvsOkR m none (a ++ b) := by
  induction a with
  | nil => exact hb
  | cons e es ih =>
    have ih' := ih (fun x hx => hev x (List.mem_cons_of_mem _ hx)) (fun s h => hs s (List.mem_cons_of_mem _ h))
    have he := hev e (by simp)
    cases e with
    | text s f =>
      refine ⟨?_, ih'⟩
      intro hf; subst hf; exact hs s (by simp)
    | start t at_ =>
      simp only [evOkB, Bool.and_eq_true, Bool.not_eq_true'] at he
      have hr : isRawElem m t = false := he.2
      refine ⟨he.1.1, he.1.2, ?_⟩
      simp only [hr, Bool.false_eq_true, ↓reduceIte]
      exact ih'
    | end_ t => exact ⟨he, ih'⟩

theorem StreamOkR.ofStreamOk {m : Method} {a : List Ev} (h : StreamOk m a) : StreamOkR m a :=
  ⟨evsOkR_append_plain m a h.ev h.safe, h.closed⟩

theorem StreamOkR.nil (m : Method) : StreamOkR m [] := StreamOkR.ofStreamOk (StreamOk.nil m)

theorem StreamOkR.append {m : Method} {a b : List Ev} (ha : StreamOkR m a) (hb : StreamOkR m b) :
    StreamOkR m (a ++ b) :=
  ⟨fun c hc => by rw [List.append_assoc]; exact ha.ok _ (hb.ok c hc), ha.closed.append hb.closed⟩

theorem StreamOkR.wrap {m : Method} {kids : List Ev} (t : Name) (at_ : List (Name × List Char))
    (hn : isNameB t = true) (hraw : isRawElem m t = false) (hat : attrsOkB m at_ = true)
    (hvoid : openOk m t = true ∨ kids = []) (hk : StreamOkR m kids) :
    StreamOkR m (.start t at_ :: (kids ++ [.end_ t])) := by
  refine ⟨?_, Closed.wrap t at_ hvoid hk.closed⟩
  intro b hb
  refine ⟨hn, hat, ?_⟩
  simp only [hraw, Bool.false_eq_true, ↓reduceIte]
  have hend : EvsOkR m none (.end_ t :: b) := ⟨hn, hb⟩
  simpa using hk.ok _ hend

theorem closed_texts (m : Method) (txts : List Ev) (h : txts.all isTextEv = true) : Closed m txts := by
  induction txts with
  | nil => exact (StreamOk.nil m).closed
  | cons e es ih =>
    simp only [List.all_cons, Bool.and_eq_true] at h
    cases e with
    | text s f => exact Closed.append (a := [.text s f]) ⟨by simp [emptyOkGo], by simp [emptyOkGo]⟩ (ih h.2)
    | start t a => simp [isTextEv] at h
    | end_ t => simp [isTextEv] at h

theorem evsOkR_rawTexts (m : Method) (txts : List Ev) (h : txts.all isTextEv = true) (rest : List Ev) :
    ∀ c, noEtago (c ++ rawData txts) = true → EvsOkR m (some (c ++ rawData txts)) rest →
      EvsOkR m (some c) (txts ++ rest) := by
  induction txts with
  | nil => intro c _ hr; simpa [rawData] using hr
  | cons e es ih =>
    intro c hne hr
    simp only [List.all_cons, Bool.and_eq_true] at h
    cases e with
    | text s f =>
      simp only [rawData] at hne hr
      rw [← List.append_assoc] at hne hr
      exact ⟨noEtago_prefix _ _ hne, ih h.2 (c ++ s) hne hr⟩
    | start t a => simp [isTextEv] at h
    | end_ t => simp [isTextEv] at h

/-- a raw-text element whose content is text events whose strings together hold no `</` -/
theorem StreamOkR.rawElem {m : Method} (t : Name) (at_ : List (Name × List Char)) (txts : List Ev)
    (hn : isNameB t = true) (hraw : isRawElem m t = true) (hat : attrsOkB m at_ = true)
    (hvoid : openOk m t = true ∨ txts = []) (h : txts.all isTextEv = true)
    (hne : noEtago (rawData txts) = true) :
    StreamOkR m (.start t at_ :: (txts ++ [.end_ t])) := by
  refine ⟨?_, Closed.wrap t at_ hvoid (closed_texts m txts h)⟩
  intro b hb
  refine ⟨hn, hat, ?_⟩
  simp only [hraw, ↓reduceIte]
  have hend : EvsOkR m (some ([] ++ rawData txts)) (.end_ t :: b) := ⟨hn, hb⟩
  simpa using evsOkR_rawTexts m txts h (.end_ t :: b) [] (by simpa using hne) hend

theorem expectedNodeR_el (m : Method) (env : Env) (t : Name) (attrs : List (Name × AttrSpec))
    (pa : Option (List (Name × Atom))) (kids : List Node) :
    expectedNodeR m env (.el t attrs pa kids) =
      .start t (evalAttrs env (attribOf env attrs pa)) ::
        ((if isRawElem m t then [.text (rawData (renderList env kids)) false] else expectedListR m env kids) ++ [.end_ t]) := by
  cases pa <;> simp [expectedNodeR, attribOf]

theorem specR (m : Method) :
    (∀ (n : Node) (env : Env), nodeOkR m env n = true → nodeOk env n = true →
      EnvOk env → StreamOkR m (renderNode env n) ∧ TEqR m (renderNode env n) (expectedNodeR m env n)) ∧
    ∀ (ns : List Node) (env : Env), nodesOkR m env ns = true → listOk env ns = true →
      EnvOk env → StreamOkR m (renderList env ns) ∧ TEqR m (renderList env ns) (expectedListR m env ns) := by
  refine Node.induct ?_ ?_ ?_ ?_ ?_ ?_ ?_ ?_
  · intro s env _ _ _
    have h := StreamOk.text m s false (by simp)
    simpa [renderNode, expectedNodeR] using
      (⟨StreamOkR.ofStreamOk h, TEqR.ofTEq m h.ev (TEq.refl _)⟩ :
        StreamOkR m [.text s false] ∧ TEqR m [.text s false] [.text s false])
  · intro e env hs hd he
    obtain ⟨h1, h2⟩ := site_spec m env e (by simpa [nodeOkR] using hs) (by simpa [nodeOk] using hd) he
    simpa [renderNode, expectedNodeR] using
      (⟨StreamOkR.ofStreamOk h1, TEqR.ofTEq m h1.ev h2⟩ :
        StreamOkR m (evalSite env e) ∧ TEqR m (evalSite env e) (expectedSite env e))
  · intro t attrs pa kids ih env hs hd he
    simp only [nodeOkR, Bool.and_eq_true] at hs
    obtain ⟨⟨⟨⟨hn, ha⟩, hpa⟩, hvoid⟩, hk⟩ := hs
    have hat := attribOf_ok m env attrs pa ha hpa
    have hv := openOk_or_nil (renderList env) rfl hvoid
    rw [renderNode_el, expectedNodeR_el]
    by_cases hraw : isRawElem m t = true
    · simp only [hraw, ↓reduceIte, Bool.and_eq_true] at hk ⊢
      exact ⟨StreamOkR.rawElem t _ _ hn hraw hat hv hk.1 hk.2, TEqR.rawElem m t _ _ hraw hk.1⟩
    · have hraw' : isRawElem m t = false := by simpa using hraw
      simp only [hraw', Bool.false_eq_true, ↓reduceIte] at hk ⊢
      obtain ⟨k1, k2⟩ := ih env hk (by simpa [nodeOk] using hd) he
      exact ⟨StreamOkR.wrap t _ hn hraw' hat hv k1, TEqR.wrap t _ hraw' k2⟩
  · intro e kids ih env hs hd he
    simp only [nodeOkR, Bool.and_eq_true, List.all_eq_true] at hs
    have hx := itemsOf_ok _ (evalV_ok env e hs.1 he)
    simp only [nodeOk, List.all_eq_true] at hd
    simp only [renderNode, expectedNodeR]
    exact flatMap_rel (R := fun a b => StreamOkR m a ∧ TEqR m a b) ⟨StreamOkR.nil m, TEqR.nil m⟩
      (fun h1 h2 => ⟨h1.1.append h2.1, h1.2.append h2.2⟩) _ _ _ fun x hxm =>
        ih (x :: env) (hs.2 x hxm) (hd x hxm) (EnvOk.cons (hx x hxm) he)
  · intro a kids ih env hs hd he
    simp only [nodeOkR, Bool.and_eq_true] at hs
    simpa [renderNode, expectedNodeR] using
      ih (evalAtom env a :: env) hs.2 (by simpa [nodeOk] using hd) (EnvOk.cons (evalAtom_ok env a hs.1 he) he)
  · intro b kids ih env hs hd he
    cases b with
    | false =>
      exact ⟨by simpa [renderNode] using StreamOkR.nil m, by simpa [renderNode, expectedNodeR] using TEqR.nil m⟩
    | true =>
      simpa [renderNode, expectedNodeR] using ih env (by simpa [nodeOkR] using hs) (by simpa [nodeOk] using hd) he
  · intro env _ _ _
    simpa [renderList, expectedListR] using (⟨StreamOkR.nil m, TEqR.nil m⟩ : StreamOkR m [] ∧ TEqR m [] [])
  · intro n ns ih1 ih2 env hs hd he
    simp only [nodesOkR, Bool.and_eq_true] at hs
    simp only [listOk, Bool.and_eq_true] at hd
    obtain ⟨h1, h2⟩ := ih1 env hs.1 hd.1 he
    obtain ⟨i1, i2⟩ := ih2 env hs.2 hd.2 he
    simp only [renderList, expectedListR]
    exact ⟨h1.append i1, h2.append i2⟩

theorem node_specR (m : Method) : ∀ (n : Node) (env : Env), nodeOkR m env n = true → nodeOk env n = true →
      EnvOk env → StreamOkR m (renderNode env n) ∧ TEqR m (renderNode env n) (expectedNodeR m env n) :=
  (specR m).1

theorem list_specR (m : Method) : ∀ (ns : List Node) (env : Env), nodesOkR m env ns = true → listOk env ns = true →
      EnvOk env → StreamOkR m (renderList env ns) ∧ TEqR m (renderList env ns) (expectedListR m env ns) :=
  (specR m).2

/-- re-reading a rendered template with raw-text elements (no whitespace stripping) -/
theorem readDoc_render_rawtext (m : Method) (env : Env) (T : List Node)
    (hs : nodesOkR m env T = true) (hd : listOk env T = true) (he : EnvOk env) :
    readDoc m (serialize m false (renderList env T)) = some (coalesceR m (expectedListR m env T)) := by
  obtain ⟨h1, h2⟩ := list_specR m T env hs hd he
  have hok : EvsOkR m none (renderList env T) := by simpa using h1.ok [] trivial
  rw [readDoc_serialize_rawtext m _ hok h1.closed.emptyOk]
  obtain ⟨X, p', f1, f2⟩ := h2 []
  have e1 := f1 []
  have e2 := f2 []
  simp only [List.append_nil] at e1 e2
  simp only [coalesceR, e1, e2]

theorem coalesceRGo_plain (m : Method) (evs : List Ev) (h : ∀ t a, Ev.start t a ∈ evs → isRawElem m t = false) :
    ∀ pend, coalesceRGo m false pend evs = coalesceGo pend evs := by
  induction evs with
  | nil => intro pend; rfl
  | cons e es ih =>
    have ih' := ih fun t a hm => h t a (List.mem_cons_of_mem _ hm)
    intro pend
    cases e with
    | text s f => simp [coalesceRGo, coalesceGo, ih']
    | start t a => simp [coalesceRGo, coalesceGo, ih', h t a (by simp)]
    | end_ t => simp [coalesceRGo, coalesceGo, ih']

theorem coalesceR_plain (m : Method) (evs : List Ev) (h : ∀ t a, Ev.start t a ∈ evs → isRawElem m t = false) :
    coalesceR m evs = coalesce evs := coalesceRGo_plain m evs h []

/-- on a template without raw-text elements the raw-aware domain and specification are the plain ones -/
theorem rawtext_of_B (m : Method) :
    (∀ (n : Node) (env : Env), nodeOkB m n = true →
      nodeOkR m env n = true ∧ expectedNodeR m env n = expectedNode env n) ∧
    ∀ (ns : List Node) (env : Env), nodesOkB m ns = true →
      nodesOkR m env ns = true ∧ expectedListR m env ns = expectedList env ns := by
  refine Node.induct ?_ ?_ ?_ ?_ ?_ ?_ ?_ ?_
  · exact fun _ _ _ => ⟨rfl, rfl⟩
  · exact fun e env h => ⟨by simpa [nodeOkB, nodeOkR] using h, rfl⟩
  · intro t attrs pa kids ih env h
    simp only [nodeOkB, tagOkB, Bool.and_eq_true, Bool.not_eq_true'] at h
    obtain ⟨⟨⟨⟨⟨hn, hraw⟩, ha⟩, hpa⟩, hvoid⟩, hk⟩ := h
    have hraw' : isRawElem m t = false := hraw
    obtain ⟨k1, k2⟩ := ih env hk
    refine ⟨?_, by rw [expectedNodeR_el, expectedNode_el, hraw', k2]; rfl⟩
    simp only [nodeOkR, Bool.and_eq_true, hraw', Bool.false_eq_true, ↓reduceIte]
    exact ⟨⟨⟨⟨hn, ha⟩, hpa⟩, hvoid⟩, k1⟩
  · intro e kids ih env h
    simp only [nodeOkB, Bool.and_eq_true] at h
    simp only [nodeOkR, Bool.and_eq_true, List.all_eq_true, expectedNodeR, expectedNode]
    exact ⟨⟨h.1, fun x _ => (ih (x :: env) h.2).1⟩, congrArg (List.flatMap · _) (funext fun x => (ih (x :: env) h.2).2)⟩
  · intro a kids ih env h
    simp only [nodeOkB, Bool.and_eq_true] at h
    simp only [nodeOkR, Bool.and_eq_true, expectedNodeR, expectedNode]
    exact ⟨⟨h.1, (ih _ h.2).1⟩, (ih _ h.2).2⟩
  · intro b kids ih env h
    cases b with
    | false => simp [nodeOkR, expectedNodeR, expectedNode]
    | true => simpa [nodeOkR, expectedNodeR, expectedNode] using ih env (by simpa [nodeOkB] using h)
  · exact fun _ _ => ⟨rfl, rfl⟩
  · intro n ns ih1 ih2 env h
    simp only [nodesOkB, Bool.and_eq_true] at h
    simp only [nodesOkR, Bool.and_eq_true, expectedListR, expectedList, (ih1 env h.1).2, (ih2 env h.2).2]
    exact ⟨⟨(ih1 env h.1).1, (ih2 env h.2).1⟩, trivial⟩

theorem nodeOkR_of_B (m : Method) : ∀ (n : Node) (env : Env), nodeOkB m n = true → nodeOkR m env n = true :=
  fun n env h => ((rawtext_of_B m).1 n env h).1

theorem nodesOkR_of_B (m : Method) : ∀ (ns : List Node) (env : Env), nodesOkB m ns = true → nodesOkR m env ns = true :=
  fun ns env h => ((rawtext_of_B m).2 ns env h).1

theorem expectedNodeR_of_B (m : Method) : ∀ (n : Node) (env : Env), nodeOkB m n = true →
      expectedNodeR m env n = expectedNode env n := fun n env h => ((rawtext_of_B m).1 n env h).2

theorem expectedListR_of_B (m : Method) : ∀ (ns : List Node) (env : Env), nodesOkB m ns = true →
      expectedListR m env ns = expectedList env ns := fun ns env h => ((rawtext_of_B m).2 ns env h).2

/-- the stack of open elements that goes with the reader state: outside raw text no open element is a
    raw-text element; inside, exactly the innermost one is -/
def StackInv (m : Method) : Option (List Char) → List Name → Prop
  | none, st => ∀ t ∈ st, isRawElem m t = false
  | some _, st => ∃ t st', st = t :: st' ∧ isRawElem m t = true ∧ ∀ u ∈ st', isRawElem m u = false

theorem topRaw_plain (m : Method) (st : List Name) (h : ∀ t ∈ st, isRawElem m t = false) : topRaw m st = false := by
  cases st with
  | nil => rfl
  | cons t ts => exact h t (by simp)

/-- an element opened outside raw text: the stack goes with the state `ToksOkR` continues in -/
theorem StackInv.push {m : Method} {st : List Name} (h : StackInv m none st) (t : Name) :
    StackInv m (if isRawElem m t then some [] else none) (t :: st) := by
  by_cases hraw : isRawElem m t = true
  · rw [if_pos hraw]
    exact ⟨t, st, rfl, hraw, h⟩
  · rw [if_neg hraw]
    exact List.forall_mem_cons.mpr ⟨Bool.eq_false_iff.mpr hraw, h⟩

/-- an element closed, in either state: what is left has no raw-text element open -/
theorem StackInv.pop {m : Method} {rs : Option (List Char)} {st : List Name} (h : StackInv m rs st) :
    StackInv m none st.tail := by
  cases rs with
  | none => exact fun u hu => h u (List.mem_of_mem_tail hu)
  | some c =>
    obtain ⟨t0, st', rfl, _, hrest⟩ := h
    exact hrest

theorem toksOkR_rawLeaf (m : Method) (toks : List Tok) :
    ∀ (rs : Option (List Char)) (st : List Name), ToksOkR m rs toks → StackInv m rs st → rawLeafGo m st toks = true := by
  induction toks with
  | nil => intro rs st _ _; rfl
  | cons tok toks ih =>
    intro rs st hok hst
    cases rs with
    | none =>
      cases tok with
      | text s f => exact ih none st hok.2 hst
      | «open» t a =>
        simp only [rawLeafGo, topRaw_plain m st hst, Bool.not_false, Bool.true_and]
        exact ih _ (t :: st) hok.2.2.2 (hst.push t)
      | empty t a =>
        simp only [rawLeafGo, topRaw_plain m st hst, Bool.not_false, Bool.true_and]
        exact ih none st hok.2.2 hst
      | close t => exact ih none st.tail hok.2 hst.pop
    | some c =>
      cases tok with
      | text s f => exact ih (some (c ++ s)) st hok.2 hst
      | «open» t a => exact absurd hok (by simp [ToksOkR])
      | empty t a => exact absurd hok (by simp [ToksOkR])
      | close t => exact ih none st.tail hok.2 hst.pop

/-- in a rendered template of `nodesOkR` raw-text elements have no element children -/
theorem render_rawLeaf (m : Method) (env : Env) (T : List Node)
    (hs : nodesOkR m env T = true) (hd : listOk env T = true) (he : EnvOk env) :
    rawLeafGo m [] (emptyTags (renderList env T)) = true := by
  obtain ⟨h1, _⟩ := list_specR m T env hs hd he
  have hok : EvsOkR m none (renderList env T) := by simpa using h1.ok [] trivial
  exact toksOkR_rawLeaf m _ none [] ((toksOkR_emptyTags m _).1 none hok h1.closed.emptyOk) (by intro t ht; simp at ht)

end Genshi.Subst
