/-
  C01 — the reader state machine run over the pieces the serializers write.
-/
import Genshi.Lemmas.Subst
namespace Genshi.Subst
open Genshi.Escape Genshi.Str

theorem run_nil (m : Method) (st : RS) : run m st [] = some st := rfl

theorem run_cons {m : Method} {st st' : RS} {c : Char} (h : step m st c = some st') (cs : List Char) :
    run m st (c :: cs) = run m st' cs := by
  simp [run, List.foldlM_cons, h]

theorem run_append (m : Method) (st : RS) (a b : List Char) :
    run m st (a ++ b) = (run m st a).bind fun st' => run m st' b := by
  simp [run, List.foldlM_append]

def IsName (t : Name) : Prop := t ≠ [] ∧ ∀ c ∈ t, isNameChar c = true

theorem run_collect (m : Method) (s : List Char) (md : Mode)
    (h : ∀ (st : RS), st.mode = md → ∀ c ∈ s, step m st c = some { st with buf := st.buf ++ [c] }) :
    ∀ st : RS, st.mode = md → run m st s = some { st with buf := st.buf ++ s } := by
  induction s with
  | nil => intro st _; simp [run_nil]
  | cons c cs ih =>
    intro st hm
    rw [run_cons (h st hm c (by simp)),
      ih (fun st' hm' x hx => h st' hm' x (List.mem_cons_of_mem _ hx)) { st with buf := st.buf ++ [c] } hm]
    simp

theorem run_text_chars (m : Method) (s : List Char) (hs : ∀ c ∈ s, c ≠ '<') :
    ∀ st : RS, st.mode = .text → run m st s = some { st with buf := st.buf ++ s } :=
  run_collect m s .text fun st hm c hc => by simp only [step, hm, hs c hc, ↓reduceIte]

theorem run_attrVal_chars (m : Method) (s : List Char) (hs : ∀ c ∈ s, c ≠ '"') :
    ∀ st : RS, st.mode = .attrVal → run m st s = some { st with buf := st.buf ++ s } :=
  run_collect m s .attrVal fun st hm c hc => by simp only [step, hm, hs c hc, ↓reduceIte]

theorem run_openName_chars (m : Method) (s : List Char) (hs : ∀ c ∈ s, isNameChar c = true) :
    ∀ st : RS, st.mode = .openName → run m st s = some { st with buf := st.buf ++ s } :=
  run_collect m s .openName fun st hm c hc => by simp only [step, hm, hs c hc, ↓reduceIte]

theorem run_closeName_chars (m : Method) (s : List Char) (hs : ∀ c ∈ s, isNameChar c = true) :
    ∀ st : RS, st.mode = .closeName → run m st s = some { st with buf := st.buf ++ s } :=
  run_collect m s .closeName fun st hm c hc => by
    have hgt : c ≠ '>' := by intro e; subst e; exact absurd (hs _ hc) (by decide)
    simp only [step, hm, hs c hc, hgt, ↓reduceIte]

theorem run_attrName_chars (m : Method) (s : List Char) (hs : ∀ c ∈ s, isNameChar c = true) :
    ∀ st : RS, st.mode = .attrName → run m st s = some { st with aname := st.aname ++ s } := by
  induction s with
  | nil => intro st _; simp [run_nil]
  | cons c cs ih =>
    intro st hm
    have hc : step m st c = some { st with aname := st.aname ++ [c] } := by
      simp only [step, hm, hs c (by simp), ↓reduceIte]
    rw [run_cons hc, ih (fun x hx => hs x (List.mem_cons_of_mem _ hx)) { st with aname := st.aname ++ [c] } hm]
    simp

/-- inside a start tag of element `t` whose attributes read so far are `acc` -/
def InStart (st : RS) (t : Name) (acc : List (Name × List Char)) : Prop :=
  (st.mode = .openName ∧ st.buf = t ∧ acc = []) ∨ (st.mode = .inTag ∧ st.tag = t ∧ st.attrs = acc)

theorem step_text_lt (m : Method) (st : RS) (h : st.mode = .text) :
    step m st '<' = some { st with mode := .lt, buf := [], out := st.out ++ flushText st.buf } := by
  simp [step, h]

theorem step_lt_slash (m : Method) (st : RS) (h : st.mode = .lt) :
    step m st '/' = some { st with mode := .closeName, buf := [] } := by
  simp [step, h]

theorem step_lt_name (m : Method) (st : RS) (c : Char) (h : st.mode = .lt) (hc : isNameChar c = true) :
    step m st c = some { st with mode := .openName, buf := [c] } := by
  have : c ≠ '/' := by intro e; subst e; simp [isNameChar] at hc
  simp [step, h, hc, this]

theorem step_closeName_gt (m : Method) (st : RS) (h : st.mode = .closeName) (hb : st.buf ≠ []) :
    step m st '>' = some { st with mode := .text, buf := [], out := st.out ++ [.end_ st.buf] } := by
  have : st.buf.isEmpty = false := by cases hbb : st.buf <;> simp_all
  simp [step, h, this]

theorem step_openName_sp (m : Method) (st : RS) (h : st.mode = .openName) :
    step m st ' ' = some { st with mode := .attrName, tag := st.buf, attrs := [], aname := [], buf := [] } := by
  simp [step, h, isNameChar]

theorem step_openName_slash (m : Method) (st : RS) (h : st.mode = .openName) :
    step m st '/' = some { st with mode := .slash, tag := st.buf, attrs := [], buf := [] } := by
  simp [step, h, isNameChar]

theorem step_openName_gt (m : Method) (st : RS) (h : st.mode = .openName) :
    step m st '>' = some { st with mode := (if isRawElem m st.buf then .raw else .text), buf := [],
                                   out := st.out ++ startEvents m st.buf [] } := by
  simp [step, h, isNameChar]

theorem step_attrName_eq (m : Method) (st : RS) (h : st.mode = .attrName) (hn : st.aname ≠ []) :
    step m st '=' = some { st with mode := .attrEq } := by
  have : st.aname.isEmpty = false := by cases hbb : st.aname <;> simp_all
  simp [step, h, isNameChar, this]

theorem step_attrName_slash (m : Method) (st : RS) (h : st.mode = .attrName) (hn : st.aname = []) :
    step m st '/' = some { st with mode := .slash } := by
  simp [step, h, isNameChar, hn]

theorem step_attrEq_quote (m : Method) (st : RS) (h : st.mode = .attrEq) :
    step m st '"' = some { st with mode := .attrVal, buf := [] } := by
  simp [step, h]

theorem step_attrVal_quote (m : Method) (st : RS) (h : st.mode = .attrVal) :
    step m st '"' = some { st with mode := .inTag, buf := [],
                                   attrs := st.attrs ++ [(st.aname, unescape st.buf)] } := by
  simp [step, h]

theorem step_inTag_sp (m : Method) (st : RS) (h : st.mode = .inTag) :
    step m st ' ' = some { st with mode := .attrName, aname := [] } := by
  simp [step, h]

theorem step_inTag_slash (m : Method) (st : RS) (h : st.mode = .inTag) :
    step m st '/' = some { st with mode := .slash } := by
  simp [step, h]

theorem step_inTag_gt (m : Method) (st : RS) (h : st.mode = .inTag) :
    step m st '>' = some { st with mode := (if isRawElem m st.tag then .raw else .text), buf := [],
                                   out := st.out ++ startEvents m st.tag st.attrs } := by
  simp [step, h]

theorem step_slash_gt (m : Method) (st : RS) (h : st.mode = .slash) :
    step m st '>' = some { st with mode := .text, buf := [],
                                   out := st.out ++ [.start st.tag st.attrs, .end_ st.tag] } := by
  simp [step, h]

theorem step_inStart_sp (m : Method) (st : RS) (t : Name) (acc : List (Name × List Char)) (hst : InStart st t acc) :
    ∃ s1 : RS, step m st ' ' = some s1 ∧ s1.mode = .attrName ∧ s1.tag = t ∧ s1.attrs = acc ∧
      s1.aname = [] ∧ s1.out = st.out := by
  rcases hst with ⟨hm, hb, ha⟩ | ⟨hm, ht, ha⟩
  · exact ⟨_, step_openName_sp m st hm, rfl, hb, ha.symm, rfl, rfl⟩
  · exact ⟨_, step_inTag_sp m st hm, rfl, ht, ha, rfl, rfl⟩

theorem step_inStart_slash (m : Method) (st : RS) (t : Name) (acc : List (Name × List Char))
    (hst : InStart st t acc) :
    ∃ s1 : RS, step m st '/' = some s1 ∧ s1.mode = .slash ∧ s1.tag = t ∧ s1.attrs = acc ∧ s1.out = st.out := by
  rcases hst with ⟨hm, hb, ha⟩ | ⟨hm, ht, ha⟩
  · exact ⟨_, step_openName_slash m st hm, rfl, hb, ha.symm, rfl⟩
  · exact ⟨_, step_inTag_slash m st hm, rfl, ht, ha, rfl⟩

/-- one attribute ` name="raw"` -/
theorem run_attr (m : Method) (st : RS) (t : Name) (acc : List (Name × List Char))
    (n raw : List Char) (hn : IsName n) (hraw : ∀ c ∈ raw, c ≠ '"') (hst : InStart st t acc) :
    ∃ st', run m st (attrRaw n raw) = some st' ∧ InStart st' t (acc ++ [(n, unescape raw)]) ∧
      st'.out = st.out := by
  obtain ⟨s1, hs1, hm1, ht1, ha1, hn1, ho1⟩ := step_inStart_sp m st t acc hst
  unfold attrRaw
  rw [run_cons hs1, run_append, run_attrName_chars m n hn.2 s1 hm1]
  simp only [Option.bind_some, hn1, List.nil_append]
  rw [run_cons (step_attrName_eq m { s1 with aname := n } hm1 hn.1), run_cons (step_attrEq_quote m _ rfl), run_append,
    run_attrVal_chars m raw hraw _ rfl]
  simp only [Option.bind_some, List.nil_append]
  rw [run_cons (step_attrVal_quote m _ rfl), run_nil]
  exact ⟨_, rfl, Or.inr ⟨rfl, ht1, by simp [ha1]⟩, ho1⟩

def RawAttrsOk (a : List (Name × List Char)) : Prop :=
  ∀ p ∈ a, IsName p.1 ∧ ∀ c ∈ p.2, c ≠ '"'

theorem run_attrs (m : Method) (t : Name) (a : List (Name × List Char)) (ha : RawAttrsOk a) :
    ∀ (st : RS) (acc : List (Name × List Char)), InStart st t acc →
    ∃ st', run m st (attrsRaw a) = some st' ∧ InStart st' t (acc ++ decodeAttrs a) ∧ st'.out = st.out := by
  induction a with
  | nil => intro st acc hst; exact ⟨st, rfl, by simpa [decodeAttrs] using hst, rfl⟩
  | cons p ps ih =>
    intro st acc hst
    have hp := ha p (by simp)
    obtain ⟨s1, hr1, hs1, ho1⟩ := run_attr m st t acc p.1 p.2 hp.1 hp.2 hst
    obtain ⟨s2, hr2, hs2, ho2⟩ := ih (fun q hq => ha q (List.mem_cons_of_mem _ hq)) s1 _ hs1
    refine ⟨s2, ?_, ?_, by rw [ho2, ho1]⟩
    · simp only [attrsRaw, List.flatMap_cons] at hr2 ⊢
      rw [run_append, hr1]; exact hr2
    · simpa [decodeAttrs, List.append_assoc] using hs2

theorem run_tagStart (m : Method) (st : RS) (t : Name) (ht : IsName t) (hm : st.mode = .text) :
    ∃ st', run m st ('<' :: t) = some st' ∧ InStart st' t [] ∧ st'.out = st.out ++ flushText st.buf := by
  obtain ⟨hne, hall⟩ := ht
  cases t with
  | nil => exact absurd rfl hne
  | cons c cs =>
    rw [run_cons (step_text_lt m st hm), run_cons (step_lt_name m _ c rfl (hall c (by simp))),
      run_openName_chars m cs (fun x hx => hall x (List.mem_cons_of_mem _ hx)) _ rfl]
    exact ⟨_, rfl, Or.inl ⟨rfl, by simp, rfl⟩, rfl⟩

theorem run_gt' (m : Method) (st : RS) (t : Name) (acc : List (Name × List Char)) (hst : InStart st t acc) :
    ∃ st', run m st ['>'] = some st' ∧ st'.mode = (if isRawElem m t then .raw else .text) ∧ st'.buf = [] ∧
      st'.out = st.out ++ startEvents m t acc := by
  rcases hst with ⟨hm, hb, ha⟩ | ⟨hm, ht, ha⟩
  · rw [run_cons (step_openName_gt m st hm)]
    exact ⟨_, rfl, by simp [hb], rfl, by simp [hb, ha]⟩
  · rw [run_cons (step_inTag_gt m st hm)]
    exact ⟨_, rfl, by simp [ht], rfl, by simp [ht, ha]⟩

theorem run_gt (m : Method) (st : RS) (t : Name) (acc : List (Name × List Char)) (hst : InStart st t acc)
    (hraw : isRawElem m t = false) :
    ∃ st', run m st ['>'] = some st' ∧ st'.mode = .text ∧ st'.buf = [] ∧
      st'.out = st.out ++ startEvents m t acc := by
  obtain ⟨s, h1, h2, h3, h4⟩ := run_gt' m st t acc hst
  exact ⟨s, h1, by simpa [hraw] using h2, h3, h4⟩

theorem run_slash_gt (m : Method) (st : RS) (t : Name) (acc : List (Name × List Char)) (hst : InStart st t acc) :
    ∃ st', run m st ['/', '>'] = some st' ∧ st'.mode = .text ∧ st'.buf = [] ∧
      st'.out = st.out ++ [.start t acc, .end_ t] := by
  obtain ⟨s1, hs1, hm1, ht1, ha1, ho1⟩ := step_inStart_slash m st t acc hst
  rw [run_cons hs1, run_cons (step_slash_gt m s1 hm1)]
  exact ⟨_, rfl, rfl, rfl, by simp [ht1, ha1, ho1]⟩

theorem run_sp_slash_gt (m : Method) (st : RS) (t : Name) (acc : List (Name × List Char))
    (hst : InStart st t acc) :
    ∃ st', run m st [' ', '/', '>'] = some st' ∧ st'.mode = .text ∧ st'.buf = [] ∧
      st'.out = st.out ++ [.start t acc, .end_ t] := by
  obtain ⟨s1, hs1, hm1, ht1, ha1, hn1, ho1⟩ := step_inStart_sp m st t acc hst
  rw [run_cons hs1, run_cons (step_attrName_slash m s1 hm1 hn1), run_cons (step_slash_gt m _ rfl)]
  exact ⟨_, rfl, rfl, rfl, by simp [ht1, ha1, ho1]⟩

theorem run_close (m : Method) (st : RS) (t : Name) (ht : IsName t) (hm : st.mode = .text) :
    ∃ st', run m st ('<' :: '/' :: (t ++ ['>'])) = some st' ∧ st'.mode = .text ∧ st'.buf = [] ∧
      st'.out = st.out ++ flushText st.buf ++ [.end_ t] := by
  rw [run_cons (step_text_lt m st hm), run_cons (step_lt_slash m _ rfl), run_append, run_closeName_chars m t ht.2 _ rfl]
  simp only [Option.bind_some, List.nil_append]
  rw [run_cons (step_closeName_gt m _ rfl (by exact ht.1))]
  exact ⟨_, rfl, rfl, rfl, rfl⟩

theorem run_tagHead (m : Method) (st : RS) (t : Name) (a : List (Name × List Char))
    (ht : IsName t) (ha : RawAttrsOk a) (hm : st.mode = .text) :
    ∃ st', run m st ('<' :: (t ++ attrsRaw a)) = some st' ∧ InStart st' t (decodeAttrs a) ∧
      st'.out = st.out ++ flushText st.buf := by
  obtain ⟨s1, hr1, hs1, ho1⟩ := run_tagStart m st t ht hm
  obtain ⟨s2, hr2, hs2, ho2⟩ := run_attrs m t a ha s1 [] hs1
  refine ⟨s2, ?_, by simpa using hs2, by rw [ho2, ho1]⟩
  rw [← List.cons_append, run_append, hr1]
  exact hr2

/-- what the reader needs of a raw token: names are names, character data has no `<`, raw attribute values
    no `"`, and the element is not a raw-text element (those are read by `run_toksR`) -/
def RTokOk (m : Method) : RTok → Prop
  | .text raw => ∀ c ∈ raw, c ≠ '<'
  | .open t a => (IsName t ∧ RawAttrsOk a) ∧ isRawElem m t = false
  | .empty t a => (IsName t ∧ RawAttrsOk a) ∧ isRawElem m t = false
  | .close t => IsName t

theorem startEvents_nonvoid (m : Method) (t : Name) (a : List (Name × List Char))
    (h : m = .html → (voidElems .html).contains t = false) : startEvents m t a = [.start t a] := by
  unfold startEvents
  cases m <;> simp_all

theorem startEvents_void (t : Name) (a : List (Name × List Char))
    (h : (voidElems .html).contains t = true) : startEvents .html t a = [.start t a, .end_ t] := by
  unfold startEvents
  rw [h]; rfl

/-- table facts: only html has raw-text elements, and none of them is a void element -/
theorem isRawElem_html (m : Method) (t : Name) (h : isRawElem m t = true) : m = .html := by
  cases m <;> simp_all [isRawElem, noescapeElems]

theorem raw_nonvoid (t : Name) (h : isRawElem .html t = true) : (voidElems .html).contains t = false := by
  have := List.all_eq_true.mp (by decide : ((noescapeElems .html).all fun t => !(voidElems .html).contains t) = true)
    t (by simpa [isRawElem] using h)
  simpa using this

/-- inside a raw-text element whose content so far is `c` -/
def RawInv (st : RS) (c : List Char) : Prop :=
  st.buf = c ∧ (st.mode = .raw ∨ (st.mode = .rawLt ∧ ∃ b, c = b ++ ['<']))

theorem flushRaw_eq (c : List Char) : flushRaw c = flushData c := rfl

/-- the end tag that closes a raw-text element -/
theorem run_close_raw (m : Method) (st : RS) (c : List Char) (t : Name) (ht : IsName t) (h : RawInv st c) :
    ∃ st', run m st ('<' :: '/' :: (t ++ ['>'])) = some st' ∧ st'.mode = .text ∧ st'.buf = [] ∧
      st'.out = st.out ++ flushData c ++ [.end_ t] := by
  obtain ⟨hb, hmode⟩ := h
  have h1 : ∃ s1 : RS, step m st '<' = some s1 ∧ s1.mode = .rawLt ∧ s1.buf = c ++ ['<'] ∧ s1.out = st.out := by
    rcases hmode with hm | ⟨hm, _, _⟩
    · refine ⟨{ st with mode := .rawLt, buf := st.buf ++ ['<'] }, ?_, rfl, by simp [hb], rfl⟩
      simp [step, hm]
    · refine ⟨{ st with mode := .rawLt, buf := st.buf ++ ['<'] }, ?_, rfl, by simp [hb], rfl⟩
      cases st
      simp_all [step]
  obtain ⟨s1, hs1, hm1, hb1, ho1⟩ := h1
  have h2 : step m s1 '/' = some { s1 with mode := .closeName, buf := [], out := s1.out ++ flushRaw s1.buf.dropLast } := by
    simp [step, hm1]
  rw [run_cons hs1, run_cons h2, run_append, run_closeName_chars m t ht.2 _ rfl]
  simp only [Option.bind_some, List.nil_append]
  rw [run_cons (step_closeName_gt m _ rfl (by exact ht.1))]
  refine ⟨_, rfl, rfl, rfl, ?_⟩
  simp [hb1, ho1, flushRaw_eq]

/-- the reader over an element without content, however the serializer closes it (`/>`, ` />`, `></t>`, or
    nothing for a void element of html) and whether or not it is a raw-text element: START and END -/
theorem run_rtok_empty (m : Method) (t : Name) (a : List (Name × List Char)) (hok : IsName t ∧ RawAttrsOk a)
    (st : RS) (hm : st.mode = .text) :
    ∃ st', run m st (emitRTok m (.empty t a)) = some st' ∧ st'.mode = .text ∧
      (st'.out, st'.buf) = absorb m (st.out, st.buf) (.empty t a) := by
  obtain ⟨s1, hr1, hs1, ho1⟩ := run_tagHead m st t a hok.1 hok.2 hm
  have close : ∀ z, (∃ s2, run m s1 z = some s2 ∧ s2.mode = .text ∧ s2.buf = [] ∧
      s2.out = s1.out ++ [.start t (decodeAttrs a), .end_ t]) →
      ∃ st', run m st ('<' :: (t ++ (attrsRaw a ++ z))) = some st' ∧ st'.mode = .text ∧
        (st'.out, st'.buf) = absorb m (st.out, st.buf) (.empty t a) := by
    rintro z ⟨s2, hr2, hm2, hb2, ho2⟩
    refine ⟨s2, ?_, hm2, by simp [absorb, hb2, ho2, ho1]⟩
    rw [← List.append_assoc, ← List.cons_append, run_append, hr1]; exact hr2
  obtain ⟨s2, hr2, hm2, hb2, ho2⟩ := run_gt' m s1 t _ hs1
  -- `<t …></t>`, for an element that is not void: through raw-text mode if it is a raw-text element
  have hpair : (m = .html → (voidElems .html).contains t = false) →
      ∃ s3, run m s1 ('>' :: '<' :: '/' :: (t ++ ['>'])) = some s3 ∧ s3.mode = .text ∧ s3.buf = [] ∧
        s3.out = s1.out ++ [.start t (decodeAttrs a), .end_ t] := by
    intro hnv
    have hclose : ∃ s3, run m s2 ('<' :: '/' :: (t ++ ['>'])) = some s3 ∧ s3.mode = .text ∧ s3.buf = [] ∧
        s3.out = s2.out ++ [.end_ t] := by
      by_cases hraw : isRawElem m t = true
      · simp only [hraw, ↓reduceIte] at hm2
        obtain ⟨s3, h3, hm3, hb3, ho3⟩ := run_close_raw m s2 [] t hok.1 ⟨hb2, Or.inl hm2⟩
        exact ⟨s3, h3, hm3, hb3, by simpa [flushData] using ho3⟩
      · simp only [hraw, Bool.false_eq_true, ↓reduceIte] at hm2
        obtain ⟨s3, h3, hm3, hb3, ho3⟩ := run_close m s2 t hok.1 hm2
        exact ⟨s3, h3, hm3, hb3, by simpa [hb2, flushText] using ho3⟩
    obtain ⟨s3, hr3, hm3, hb3, ho3⟩ := hclose
    refine ⟨s3, ?_, hm3, hb3, by simp [ho3, ho2, startEvents_nonvoid m t _ hnv]⟩
    rw [← List.singleton_append, run_append, hr2]; exact hr3
  -- `<t …>`, for a void element under html (no raw-text element is one)
  have hvoid : m = .html → (voidElems .html).contains t = true →
      ∃ s2, run m s1 ['>'] = some s2 ∧ s2.mode = .text ∧ s2.buf = [] ∧
        s2.out = s1.out ++ [.start t (decodeAttrs a), .end_ t] := by
    intro hmh hv
    subst hmh
    have hnr : isRawElem .html t = false := by
      cases h : isRawElem .html t
      · rfl
      · exact absurd hv (by rw [raw_nonvoid t h]; decide)
    exact ⟨s2, hr2, by simpa [hnr] using hm2, hb2, by rw [ho2, startEvents_void t _ hv]⟩
  cases m with
  | xml => exact close _ (run_slash_gt .xml s1 t _ hs1)
  | xhtml =>
    simp only [emitRTok]
    split
    · exact close _ (run_sp_slash_gt .xhtml s1 t _ hs1)
    · exact close _ (hpair (by simp))
  | html =>
    simp only [emitRTok]
    split
    · rename_i hv; exact close _ (hvoid rfl hv)
    · rename_i hv; exact close _ (hpair (fun _ => by simpa using hv))

theorem run_rtok (m : Method) (tok : RTok) (hok : RTokOk m tok) (st : RS) (hm : st.mode = .text) :
    ∃ st', run m st (emitRTok m tok) = some st' ∧ st'.mode = .text ∧
      (st'.out, st'.buf) = absorb m (st.out, st.buf) tok := by
  cases tok with
  | text raw =>
    refine ⟨_, run_text_chars m raw hok st hm, hm, rfl⟩
  | close t =>
    obtain ⟨s1, hr, hm1, hb1, ho1⟩ := run_close m st t hok hm
    exact ⟨s1, hr, hm1, by simp [absorb, hb1, ho1]⟩
  | «open» t a =>
    obtain ⟨hok, hnr⟩ := hok
    obtain ⟨s1, hr1, hs1, ho1⟩ := run_tagHead m st t a hok.1 hok.2 hm
    obtain ⟨s2, hr2, hm2, hb2, ho2⟩ := run_gt m s1 t _ hs1 hnr
    refine ⟨s2, ?_, hm2, by simp [absorb, hb2, ho2, ho1]⟩
    simp only [emitRTok]
    rw [← List.append_assoc, ← List.cons_append, run_append, hr1]
    exact hr2
  | empty t a => exact run_rtok_empty m t a hok.1 st hm

theorem run_rtoks (m : Method) (toks : List RTok) (hok : ∀ t ∈ toks, RTokOk m t) :
    ∀ st : RS, st.mode = .text →
    ∃ st', run m st (toks.flatMap (emitRTok m)) = some st' ∧ st'.mode = .text ∧
      (st'.out, st'.buf) = absorbAll m (st.out, st.buf) toks := by
  induction toks with
  | nil => intro st hm; exact ⟨st, rfl, hm, rfl⟩
  | cons t ts ih =>
    intro st hm
    obtain ⟨s1, hr1, hm1, he1⟩ := run_rtok m t (hok t (by simp)) st hm
    obtain ⟨s2, hr2, hm2, he2⟩ := ih (fun x hx => hok x (List.mem_cons_of_mem _ hx)) s1 hm1
    refine ⟨s2, ?_, hm2, ?_⟩
    · rw [List.flatMap_cons, run_append, hr1]; exact hr2
    · rw [he2, he1]; rfl

/-- **the reader accepts the serializers' output language** and reads it as `absorbAll` says -/
theorem readDoc_rtoks (m : Method) (toks : List RTok) (hok : ∀ t ∈ toks, RTokOk m t) :
    readDoc m (toks.flatMap (emitRTok m)) =
      some ((absorbAll m ([], []) toks).1 ++ flushText (absorbAll m ([], []) toks).2) := by
  obtain ⟨st, hr, hm, he⟩ := run_rtoks m toks hok initRS rfl
  unfold readDoc
  rw [hr]
  have h1 : st.out = (absorbAll m ([], []) toks).1 := congrArg Prod.fst he
  have h2 : st.buf = (absorbAll m ([], []) toks).2 := congrArg Prod.snd he
  simp [hm, h1, h2]

end Genshi.Subst
