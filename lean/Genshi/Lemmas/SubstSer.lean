/-
  C01 — the serializer's output is a sequence of raw tokens the reader accepts, and what the
  reader makes of it is the stream with its character data merged and decoded.
-/
import Genshi.Lemmas.SubstRead
namespace Genshi.Subst
open Genshi.Escape Genshi.Str

def TextsOk (evs : List Ev) : Prop := ∀ s, Ev.text s true ∈ evs → SafeOk s

theorem isNameB_iff (t : Name) : isNameB t = true ↔ IsName t := by
  unfold isNameB IsName
  cases t with
  | nil => simp
  | cons c cs => simp

/-- the raw token a serializer token is written as (outside raw-text elements) -/
def rawOf : Tok → RTok
  | .text s true => .text s
  | .text s false => .text (escapePy false s)
  | .open t a => .open t (a.map fun p => (p.1, escapePy true p.2))
  | .empty t a => .empty t (a.map fun p => (p.1, escapePy true p.2))
  | .close t => .close t

def tokOkB (m : Method) : Tok → Bool
  | .text _ _ => true
  | .open t a => isNameB t && attrsOkB m a && !(noescapeElems m).contains t
  | .empty t a => isNameB t && attrsOkB m a && !(noescapeElems m).contains t
  | .close t => isNameB t

theorem attrText_eq (n : Name) (v : List Char) : attrText n v = attrRaw n (escapePy true v) := by
  simp [attrText, attrRaw, emitAttr]

theorem emitAttrM_plain (m : Method) (all : List (Name × List Char)) (n : Name) (v : List Char)
    (h : plainAttrName m n = true) : emitAttrM m all n v = attrRaw n (escapePy true v) := by
  cases m with
  | xml => simp [emitAttrM, attrText_eq]
  | xhtml =>
    simp only [plainAttrName, Bool.and_eq_true, Bool.not_eq_true', bne_iff_ne, ne_eq] at h
    obtain ⟨⟨hb, hl⟩, hs⟩ := h
    simp only [emitAttrM, hb, Bool.false_eq_true, ↓reduceIte, hl, decide_false, Bool.false_and, hs,
      attrText_eq]
  | html =>
    simp only [plainAttrName, Bool.and_eq_true, Bool.not_eq_true', bne_iff_ne, ne_eq] at h
    obtain ⟨⟨hb, hc⟩, hx⟩ := h
    simp only [emitAttrM, hb, Bool.false_eq_true, ↓reduceIte, hc, hx, attrText_eq]

theorem emitAttrs_plain (m : Method) (a : List (Name × List Char)) (h : attrsOkB m a = true) :
    emitAttrs m a = attrsRaw (a.map fun p => (p.1, escapePy true p.2)) := by
  unfold emitAttrs attrsRaw
  rw [List.flatMap_map]
  exact flatMap_rel (R := Eq) rfl (fun h1 h2 => by rw [h1, h2]) _ _ a fun p hp =>
    emitAttrM_plain m a p.1 p.2 (Bool.and_eq_true _ _ ▸ List.all_eq_true.mp h p hp).2

theorem emitEmpty_raw (m : Method) (t : Name) (a : List (Name × List Char)) (ha : attrsOkB m a = true) :
    emitEmpty m t a = emitRTok m (.empty t (a.map fun p => (p.1, escapePy true p.2))) := by
  cases m with
  | xml => simp [emitEmpty, emitRTok, emitAttrs_plain _ a ha]
  | xhtml =>
    simp only [emitEmpty, emitRTok, emitAttrs_plain _ a ha, emitClose]
    split <;> simp
  | html =>
    simp only [emitEmpty, emitRTok, emitAttrs_plain _ a ha, emitClose]
    split <;> simp

theorem serToks_raw (m : Method) (toks : List Tok) (h : ∀ t ∈ toks, tokOkB m t = true) :
    serToks m false toks = (toks.map rawOf).flatMap (emitRTok m) := by
  induction toks with
  | nil => rfl
  | cons t ts ih =>
    have ht := h t (by simp)
    have ih' := ih fun x hx => h x (List.mem_cons_of_mem _ hx)
    cases t with
    | text s f =>
      cases f
      · simp [serToks, rawOf, emitRTok, emitText, ih']
      · simp [serToks, rawOf, emitRTok, ih']
    | close t =>
      simp [serToks, rawOf, emitRTok, emitClose, ih']
    | «open» t a =>
      simp only [tokOkB, Bool.and_eq_true, Bool.not_eq_true'] at ht
      simp only [serToks, ht.2, Bool.or_false, ih', List.map_cons, List.flatMap_cons, rawOf]
      congr 1
      simp [emitOpen, emitRTok, emitAttrs_plain m a ht.1.2]
    | empty t a =>
      simp only [tokOkB, Bool.and_eq_true, Bool.not_eq_true'] at ht
      simp only [serToks, ih', List.map_cons, List.flatMap_cons, rawOf, emitEmpty_raw m t a ht.1.2]

theorem safeOk_no_lt (s : List Char) (h : SafeOk s) : ∀ c ∈ s, c ≠ '<' := by
  obtain ⟨ps, rfl⟩ := h
  intro c hc
  obtain ⟨p, _, hp⟩ := List.mem_flatMap.mp hc
  rcases mem_escC p.1 p.2 c hp with h | h
  · exact fun e => absurd (e ▸ h) (by decide)
  · exact h.1 ▸ h.2.2.1

theorem rawAttrsOk_map (m : Method) (a : List (Name × List Char)) (h : attrsOkB m a = true) :
    RawAttrsOk (a.map fun p => (p.1, escapePy true p.2)) := by
  intro q hq
  obtain ⟨p, hp, rfl⟩ := List.mem_map.mp hq
  have := (List.all_eq_true.mp h) p hp
  simp only [Bool.and_eq_true] at this
  refine ⟨(isNameB_iff _).mp this.1, ?_⟩
  exact fun c hc => (escapePy_chars true p.2 c hc).2.2 rfl

theorem rtokOk_rawOf (m : Method) (tok : Tok) (h : tokOkB m tok = true)
    (hs : ∀ s, tok = .text s true → SafeOk s) : RTokOk m (rawOf tok) := by
  cases tok with
  | text s f =>
    cases f
    · exact fun c hc => (escapePy_chars false s c hc).1
    · exact safeOk_no_lt s (hs s rfl)
  | close t => exact (isNameB_iff t).mp h
  | «open» t a =>
    simp only [tokOkB, Bool.and_eq_true, Bool.not_eq_true'] at h
    exact ⟨⟨(isNameB_iff t).mp h.1.1, rawAttrsOk_map m a h.1.2⟩, h.2⟩
  | empty t a =>
    simp only [tokOkB, Bool.and_eq_true, Bool.not_eq_true'] at h
    exact ⟨⟨(isNameB_iff t).mp h.1.1, rawAttrsOk_map m a h.1.2⟩, h.2⟩

theorem escapeMixed_nil : escapeMixed [] = [] := rfl

theorem flushText_mixed (pp : List QChar) : flushText (escapeMixed pp) = flushData (pp.map (·.2)) :=
  Enc.flushText ⟨pp, rfl, rfl⟩

theorem decodeAttrs_escaped (a : List (Name × List Char)) :
    decodeAttrs (a.map fun p => (p.1, escapePy true p.2)) = a := by
  unfold decodeAttrs
  rw [List.map_map]
  conv => rhs; rw [← List.map_id a]
  apply List.map_congr_left
  intro p _
  simp [escapePy_eq_spec, unescape_escapeSpec]

theorem escapePy_false_mixed (s : List Char) :
    escapePy false s = escapeMixed (s.map fun c => (false, c)) := by
  rw [escapePy_eq_spec, escapeSpec_eq_mixed]

theorem startEvents_open (m : Method) (t : Name) (a : List (Name × List Char)) (h : openOk m t = true) :
    startEvents m t a = [.start t a] :=
  startEvents_nonvoid m t a fun hm => by simpa [openOk, hm] using h

/-- reading the raw tokens of a token list = merging and decoding its character data: the pending raw text stays
    the escaped form of the pending data -/
theorem absorb_enc (m : Method) (toks : List Tok)
    (hs : ∀ s, Tok.text s true ∈ toks → SafeOk s)
    (ho : ∀ t a, Tok.open t a ∈ toks → openOk m t = true) :
    ∀ (out : List Ev) (buf pend : List Char), Enc buf pend →
      (absorbAll m (out, buf) (toks.map rawOf)).1 ++ flushText (absorbAll m (out, buf) (toks.map rawOf)).2
      = out ++ coalesceGo pend (toks.flatMap tokEvents) := by
  induction toks with
  | nil => intro out buf pend h; simp [absorbAll, coalesceGo, h.flushText]
  | cons t ts ih =>
    intro out buf pend h
    have ih' := ih (fun s h => hs s (List.mem_cons_of_mem _ h)) (fun t a h => ho t a (List.mem_cons_of_mem _ h))
    simp only [List.map_cons, absorbAll, List.foldl_cons, List.flatMap_cons] at ih' ⊢
    cases t with
    | text s f =>
      cases f with
      | false => exact ih' out _ _ (h.append (Enc.escaped false s))
      | true => exact ih' out _ _ (h.append (hs s List.mem_cons_self).enc)
    | close t =>
      simp only [rawOf, absorb, tokEvents, List.cons_append, List.nil_append, coalesceGo]
      rw [ih' _ [] [] Enc.nil, h.flushText]
      simp
    | «open» t a =>
      simp only [rawOf, absorb, tokEvents, List.cons_append, List.nil_append, coalesceGo, decodeAttrs_escaped,
        startEvents_open m t a (ho t a List.mem_cons_self)]
      rw [ih' _ [] [] Enc.nil, h.flushText]
      simp
    | empty t a =>
      simp only [rawOf, absorb, tokEvents, List.cons_append, List.nil_append, coalesceGo, decodeAttrs_escaped]
      rw [ih' _ [] [] Enc.nil, h.flushText]
      simp [flushData]

theorem absorb_coalesce (m : Method) (toks : List Tok)
    (hs : ∀ s, Tok.text s true ∈ toks → SafeOk s)
    (ho : ∀ t a, Tok.open t a ∈ toks → openOk m t = true) :
    ∀ (out : List Ev) (pp : List QChar),
      (absorbAll m (out, escapeMixed pp) (toks.map rawOf)).1 ++
        flushText (absorbAll m (out, escapeMixed pp) (toks.map rawOf)).2
      = out ++ coalesceGo (pp.map (·.2)) (toks.flatMap tokEvents) :=
  fun out pp => absorb_enc m toks hs ho out _ _ ⟨pp, rfl, rfl⟩

def pendName (pend : Option (Name × List (Name × List Char))) : Option Name := pend.map (·.1)

def pendEvents (pend : Option (Name × List (Name × List Char))) : List Ev :=
  match pend with
  | some (t, a) => [.start t a]
  | none => []

/-- the filter loses nothing — its tokens stand for the events it was given —, and a START it writes as
    an open tag may be written as one -/
theorem emptyTags_spec (m : Method) (evs : List Ev) (pend : Option (Name × List (Name × List Char))) :
    emptyOkGo m (pendName pend) evs = true →
      (emptyTagsGo pend evs).flatMap tokEvents = pendEvents pend ++ evs ∧
      ∀ t0 a0, Tok.open t0 a0 ∈ emptyTagsGo pend evs → openOk m t0 = true := by
  fun_induction emptyTagsGo pend evs with
  | case1 pend => intro h; cases pend with
    | none => exact ⟨rfl, nofun⟩
    | some p => simp [pendName, emptyOkGo] at h
  | case2 t a t' rest ih =>
    intro h
    simp only [pendName, Option.map_some, emptyOkGo, Bool.and_eq_true, beq_iff_eq] at h
    exact ⟨by simp [tokEvents, pendEvents, (ih h.2).1, h.1], fun t0 a0 hm => (ih h.2).2 t0 a0 (by simpa using hm)⟩
  | case3 t a t' a' rest ih =>
    intro h
    simp only [pendName, Option.map_some, emptyOkGo, Bool.and_eq_true] at h
    refine ⟨by simp [tokEvents, pendEvents, (ih h.2).1], fun t0 a0 hm => ?_⟩
    rcases List.mem_cons.mp hm with e | hm
    · cases e; exact h.1
    · exact (ih h.2).2 t0 a0 hm
  | case4 t a s f rest ih =>
    intro h
    simp only [pendName, Option.map_some, emptyOkGo, Bool.and_eq_true] at h
    refine ⟨by simp [tokEvents, pendEvents, (ih h.2).1], fun t0 a0 hm => ?_⟩
    rcases List.mem_cons.mp hm with e | hm
    · cases e; exact h.1
    · exact (ih h.2).2 t0 a0 (by simpa using hm)
  | case5 t a rest ih => intro h; exact ⟨by simpa [pendEvents] using (ih h).1, (ih h).2⟩
  | case6 t rest ih =>
    intro h
    exact ⟨by simp [tokEvents, pendEvents, (ih h).1], fun t0 a0 hm => (ih h).2 t0 a0 (by simpa using hm)⟩
  | case7 s f rest ih =>
    intro h
    exact ⟨by simp [tokEvents, pendEvents, (ih h).1], fun t0 a0 hm => (ih h).2 t0 a0 (by simpa using hm)⟩

/-- what the reader theorems need of a serializer token -/
structure TokOk (m : Method) (tok : Tok) : Prop where
  ok : tokOkB m tok = true
  safe : ∀ s, tok = .text s true → SafeOk s
  opens : ∀ t a, tok = .open t a → openOk m t = true

/-- **`EmptyTagFilter`**: its tokens stand for the events it was given, and are tokens the reader follows -/
theorem emptyTags_ok (m : Method) (evs : List Ev) (hev : ∀ e ∈ evs, evOkB m e = true) (hsafe : TextsOk evs)
    (hnest : emptyOkGo m none evs = true) :
    (∀ tok ∈ emptyTags evs, TokOk m tok) ∧ (emptyTags evs).flatMap tokEvents = evs := by
  have hevs : (emptyTags evs).flatMap tokEvents = evs := (emptyTags_spec m evs none hnest).1
  refine ⟨fun tok htok => ?_, hevs⟩
  -- the events of a token are events that were given
  have hsub : ∀ e ∈ tokEvents tok, e ∈ evs := fun e he => hevs ▸ List.mem_flatMap.mpr ⟨tok, htok, he⟩
  refine ⟨?_, ?_, fun t a e => (emptyTags_spec m evs none hnest).2 t a (e ▸ htok)⟩
  · cases tok with
    | text s f => rfl
    | «open» t a => exact hev (.start t a) (hsub _ List.mem_cons_self)
    | empty t a => exact hev (.start t a) (hsub _ List.mem_cons_self)
    | close t => exact hev (.end_ t) (hsub _ List.mem_cons_self)
  · rintro s rfl
    exact hsafe s (hsub _ List.mem_cons_self)

/-- **serializer loop → reader**: what is written for a token list is read back as its events, character data
    merged and decoded -/
theorem readDoc_serToks (m : Method) (toks : List Tok) (h : ∀ tok ∈ toks, TokOk m tok) :
    readDoc m (serToks m false toks) = some (coalesce (toks.flatMap tokEvents)) := by
  rw [serToks_raw m toks fun t ht => (h t ht).ok, readDoc_rtoks]
  · rw [absorb_enc m toks (fun s hs => (h _ hs).safe s rfl) (fun t a ht => (h _ ht).opens t a rfl) [] [] [] Enc.nil]
    rfl
  · intro rt hrt
    obtain ⟨tok, htok, rfl⟩ := List.mem_map.mp hrt
    exact rtokOk_rawOf m tok (h tok htok).ok (h tok htok).safe

/-- **re-reading what the serializer wrote (no whitespace stripping)** gives the stream
    with its character data merged and decoded -/
theorem readDoc_serialize_nostrip (m : Method) (evs : List Ev)
    (hev : ∀ e ∈ evs, evOkB m e = true) (hsafe : TextsOk evs) (hnest : emptyOkGo m none evs = true) :
    readDoc m (serialize m false evs) = some (coalesce evs) := by
  obtain ⟨h1, h2⟩ := emptyTags_ok m evs hev hsafe hnest
  simp only [serialize, Bool.false_eq_true, ↓reduceIte, readDoc_serToks m _ h1, h2]

end Genshi.Subst
