/-
  C01 — the skeleton of an event list: events without their payload (`Sk`, `skelOf`), and the START / END part of it alone
  (`tagsOf`), which merging character data leaves as it is.  Non-interference (`SubstNonInt.lean`) compares skeletons; the
  nesting of a stream (`SubstNest.lean`) is a function of `tagsOf`.
-/
import Genshi.Lemmas.SubstTmpl
namespace Genshi.Subst
open Genshi.Escape Genshi.Str

/-- an event without its payload: character data and attribute values erased -/
inductive Sk where
  | start (tag : Name) (attrs : List Name)
  | end_ (tag : Name)
  | text
  deriving Repr, DecidableEq

def Ev.sk : Ev → Sk
  | .start t a => .start t (a.map (·.1))
  | .end_ t => .end_ t
  | .text _ _ => .text

def skelOf (evs : List Ev) : List Sk := evs.map Ev.sk

theorem skelOf_append (a b : List Ev) : skelOf (a ++ b) = skelOf a ++ skelOf b := by simp [skelOf]

/-- the START / END skeleton alone (how many TEXT events there are changes when character data is merged) -/
def tagsOf (evs : List Ev) : List Sk := (skelOf evs).filter (· != .text)

theorem tagsOf_flushData (pend : List Char) : tagsOf (flushData pend) = [] := by
  unfold flushData; split <;> rfl

theorem tagsOf_append (a b : List Ev) : tagsOf (a ++ b) = tagsOf a ++ tagsOf b := by
  simp [tagsOf, skelOf]

theorem tagsOf_coalesceWith (fl : Nat → List Char → List Ev) (hfl : ∀ p pend, tagsOf (fl p pend) = [])
    (pres : List Name) (evs : List Ev) : ∀ p pend, tagsOf (coalesceWith fl pres p pend evs) = tagsOf evs := by
  induction evs with
  | nil => intro p pend; simp only [coalesceWith, hfl]; rfl
  | cons e es ih =>
    intro p pend
    cases e with
    | text s g => simpa [coalesceWith, tagsOf, skelOf, Ev.sk] using ih p (pend ++ textValue s g)
    | start t a =>
      simp only [coalesceWith, tagsOf_append, hfl, List.nil_append]
      have := ih (presStep pres p t) []
      simp only [tagsOf, skelOf, List.map_cons, Ev.sk] at this ⊢
      simp [this]
    | end_ t =>
      simp only [coalesceWith, tagsOf_append, hfl, List.nil_append]
      have := ih (p - 1) []
      simp only [tagsOf, skelOf, List.map_cons, Ev.sk] at this ⊢
      simp [this]

theorem tagsOf_coalesce (evs : List Ev) : tagsOf (coalesce evs) = tagsOf evs := by
  unfold coalesce
  rw [coalesceGo_eq_with [] [] evs 0]
  exact tagsOf_coalesceWith _ (fun _ pend => tagsOf_flushData pend) [] evs 0 []

theorem tagsOf_coalesceStrip (m : Method) (evs : List Ev) : tagsOf (coalesceStrip m evs) = tagsOf evs := by
  unfold coalesceStrip
  rw [coalesceStripGo_eq_with]
  exact tagsOf_coalesceWith _ (fun p pend => by unfold flushDataP; exact tagsOf_flushData _) _ evs 0 []

/-- … so re-reading, with either whitespace setting, gives the START / END skeleton of what was to be read -/
theorem tagsOf_reread (m : Method) (strip : Bool) (evs : List Ev) :
    tagsOf (if strip then coalesceStrip m evs else coalesce evs) = tagsOf evs := by
  cases strip
  · exact tagsOf_coalesce evs
  · exact tagsOf_coalesceStrip m evs

end Genshi.Subst
