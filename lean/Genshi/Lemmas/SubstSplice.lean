/-
  C01 — a `Markup` text that is the serialization of tokens (author markup with tags and the
  escaped operands in its holes) can be replaced, in the stream the serializer sees, by the
  events of those tokens without changing the output (no whitespace stripping).  This composes
  `markup_format_site` into the template induction.
-/
import Genshi.Lemmas.SubstFmt
import Genshi.Lemmas.SubstTmpl
namespace Genshi.Subst
open Genshi.Escape Genshi.Str

/-- the serializer loop behind `EmptyTagFilter` in state `pend` -/
def serE (m : Method) (pend : Option (Name × List (Name × List Char))) (evs : List Ev) : List Char :=
  serToks m false (emptyTagsGo pend evs)

/-- a pending START must not be a raw-text element (so that `noescape` stays off) -/
def PendOk (m : Method) (pend : Option (Name × List (Name × List Char))) : Prop :=
  ∀ t a, pend = some (t, a) → (noescapeElems m).contains t = false

theorem PendOk.none (m : Method) : PendOk m none := by intro t a h; cases h

theorem pendOk_some {m : Method} {t : Name} {a : List (Name × List Char)}
    (h : (noescapeElems m).contains t = false) : PendOk m (some (t, a)) := by
  intro t1 a1 e1; cases e1; exact h

theorem pendOk_get {m : Method} {t : Name} {a : List (Name × List Char)} (h : PendOk m (some (t, a))) :
    (noescapeElems m).contains t = false := h t a rfl

/-- the text a pending START is written as when something other than its END follows -/
def prePend (m : Method) : Option (Name × List (Name × List Char)) → List Char
  | some (t, a) => emitOpen m t a
  | none => []

theorem serE_text (m : Method) (pend : Option (Name × List (Name × List Char))) (hp : PendOk m pend)
    (s : List Char) (f : Bool) (rest : List Ev) :
    serE m pend (.text s f :: rest) =
      prePend m pend ++ ((if f then s else emitText m s) ++ serE m none rest) := by
  cases pend with
  | none => cases f <;> simp [serE, emptyTagsGo, serToks, prePend]
  | some p =>
    obtain ⟨t, a⟩ := p
    have hnm : t ∉ noescapeElems m := by simpa using pendOk_get hp
    cases f <;> simp [serE, emptyTagsGo, serToks, prePend, hnm]

theorem serE_start (m : Method) (pend : Option (Name × List (Name × List Char))) (hp : PendOk m pend)
    (t : Name) (a : List (Name × List Char)) (rest : List Ev) :
    serE m pend (.start t a :: rest) = prePend m pend ++ serE m (some (t, a)) rest := by
  cases pend with
  | none => simp [serE, emptyTagsGo, prePend]
  | some p =>
    obtain ⟨t0, a0⟩ := p
    have hnm : t0 ∉ noescapeElems m := by simpa using pendOk_get hp
    simp [serE, emptyTagsGo, serToks, prePend, hnm]

/-- an END needs nothing of the pending START: written as EMPTY it leaves the `noescape` flag alone -/
theorem serE_end (m : Method) (pend : Option (Name × List (Name × List Char))) (t : Name) (rest : List Ev) :
    serE m pend (.end_ t :: rest) =
      (match pend with
        | some (t0, a0) => emitEmpty m t0 a0
        | none => emitClose t) ++ serE m none rest := by
  cases pend <;> simp [serE, emptyTagsGo, serToks]

/-- two event lists the serializer writes the same text for, in every context -/
def SameOut (m : Method) (a a' : List Ev) : Prop :=
  ∀ pend, PendOk m pend → ∀ rest rest' : List Ev,
    (∀ pend', PendOk m pend' → serE m pend' rest = serE m pend' rest') →
    serE m pend (a ++ rest) = serE m pend (a' ++ rest')

theorem SameOut.refl (m : Method) (a : List Ev) (ha : StartsOk m a) : SameOut m a a := by
  intro pend hp rest rest' h
  induction a generalizing pend with
  | nil => exact h pend hp
  | cons e es ih =>
    have hes : StartsOk m es := fun t a' hm => ha t a' (List.mem_cons_of_mem _ hm)
    cases e with
    | text s f => simp only [List.cons_append, serE_text m pend hp, ih hes none (PendOk.none m)]
    | start t a' =>
      have ht : PendOk m (some (t, a')) := pendOk_some (ha t a' (by simp))
      simp only [List.cons_append, serE_start m pend hp, ih hes _ ht]
    | end_ t => simp only [List.cons_append, serE_end m pend, ih hes none (PendOk.none m)]

theorem SameOut.append {m : Method} {a a' b b' : List Ev} (h1 : SameOut m a a') (h2 : SameOut m b b') :
    SameOut m (a ++ b) (a' ++ b') := by
  intro pend hp rest rest' h
  rw [List.append_assoc, List.append_assoc]
  exact h1 pend hp (b ++ rest) (b' ++ rest') fun pend' hp' => h2 pend' hp' rest rest' h

theorem SameOut.wrap {m : Method} {a a' : List Ev} (t : Name) (at_ : List (Name × List Char))
    (ht : (noescapeElems m).contains t = false) (h : SameOut m a a') :
    SameOut m (.start t at_ :: (a ++ [.end_ t])) (.start t at_ :: (a' ++ [.end_ t])) := by
  intro pend hp rest rest' hr
  simp only [List.cons_append, List.append_assoc, serE_start m pend hp]
  congr 1
  apply h _ (pendOk_some ht)
  intro pend' _
  simp only [List.nil_append, serE_end m pend', hr none (PendOk.none m)]

/-- the events tokens of author markup are spliced in as: an empty text after every START keeps
    `EmptyTagFilter` from merging it with a following END (the author wrote `<b></b>`, not `<b/>`) -/
def spliceEvents : List Tok → List Ev
  | [] => []
  | .text s f :: rest => .text s f :: spliceEvents rest
  | .open t a :: rest => .start t a :: .text [] false :: spliceEvents rest
  | .close t :: rest => .end_ t :: spliceEvents rest
  | .empty t a :: rest => .start t a :: .end_ t :: spliceEvents rest

def simpleToks (m : Method) (toks : List Tok) : Prop :=
  ∀ tok ∈ toks, (∀ t a, tok ≠ .empty t a) ∧
    (∀ t a, tok = .open t a → (noescapeElems m).contains t = false ∧ attrsOkB m a = true)

theorem attrsOkB_xml {m : Method} {a : List (Name × List Char)} (h : attrsOkB m a = true) : attrsOkB .xml a = true := by
  simp only [attrsOkB, List.all_eq_true, Bool.and_eq_true] at h ⊢
  exact fun p hp => ⟨(h p hp).1, rfl⟩

theorem emitOpen_plain (m : Method) (t : Name) (a : List (Name × List Char)) (h : attrsOkB m a = true) :
    emitOpen m t a = emitOpen .xml t a := by
  simp only [emitOpen, emitAttrs_plain m a h, emitAttrs_plain .xml a (attrsOkB_xml h)]

theorem serE_splice (m : Method) (toks : List Tok) (hs : simpleToks m toks) (rest : List Ev) :
    serE m none (spliceEvents toks ++ rest) = serToks .xml false toks ++ serE m none rest := by
  induction toks with
  | nil => rfl
  | cons tok ts ih =>
    have hts : simpleToks m ts := fun x hx => hs x (List.mem_cons_of_mem _ hx)
    have ih' := ih hts
    cases tok with
    | text s f =>
      simp only [spliceEvents, List.cons_append, serE_text m none (PendOk.none m), prePend, List.nil_append, ih']
      cases f <;> simp [serToks, emitText]
    | close t =>
      simp only [spliceEvents, List.cons_append, serE_end m none, ih']
      simp [serToks]
    | «open» t a =>
      obtain ⟨hne, hat⟩ := (hs _ (by simp)).2 t a rfl
      simp only [spliceEvents, List.cons_append, serE_start m none (PendOk.none m), prePend, List.nil_append,
        serE_text m _ (pendOk_some hne), Bool.false_eq_true, ↓reduceIte, ih']
      simp [serToks, emitOpen_plain m t a hat, emitText, escapePy_nil, noescapeElems]
    | empty t a => exact absurd rfl ((hs _ (by simp)).1 t a)

/-- **a `Markup` text that is a serialization of tokens = those tokens in the stream**
    (`serToks .xml`: the plain way of writing tags, which every method uses for these names: `emitOpen_plain`) -/
theorem SameOut.splice (m : Method) (toks : List Tok) (hs : simpleToks m toks) :
    SameOut m [.text (serToks .xml false toks) true] (.text [] true :: spliceEvents toks) := by
  intro pend hp rest rest' hr
  simp only [List.cons_append, List.nil_append, serE_text m pend hp, ↓reduceIte, serE_splice m toks hs,
    hr none (PendOk.none m)]

/-- `evs` is written like a stream `evs'` the serializer / reader theorems apply to, and that
    stream reads as `exp` -/
def Sem (m : Method) (evs exp : List Ev) : Prop :=
  ∃ evs', SameOut m evs evs' ∧ StreamOk m evs' ∧ TEq evs' exp

/-- what a "written alike" relation needs for the template induction to carry it: `SameOut`, and `SameOutS` under
    whitespace stripping -/
structure OutRel (m : Method) (S : List Ev → List Ev → Prop) : Prop where
  refl : ∀ a, StartsOk m a → S a a
  append : ∀ {a a' b b' : List Ev}, S a a' → S b b' → S (a ++ b) (a' ++ b')
  wrap : ∀ {a a' : List Ev} (t : Name) (at_ : List (Name × List Char)), (noescapeElems m).contains t = false →
    S a a' → S (.start t at_ :: (a ++ [.end_ t])) (.start t at_ :: (a' ++ [.end_ t]))

/-- … "written like a stream the serializer / reader theorems apply to, which reads as `exp`" then goes through templates -/
theorem tmplRel_out {m : Method} {S : List Ev → List Ev → Prop} (hS : OutRel m S) :
    TmplRel m fun evs exp => ∃ evs', S evs evs' ∧ StreamOk m evs' ∧ TEq evs' exp where
  of_spec hs ht := ⟨_, hS.refl _ (startsOk_of_ev hs.ev), hs, ht⟩
  append := fun ⟨_, s1, o1, t1⟩ ⟨_, s2, o2, t2⟩ => ⟨_, hS.append s1 s2, o1.append o2, t1.append t2⟩
  wrap t at_ ht hat hopen := fun ⟨_, s1, o1, t1⟩ =>
    have hne : (noescapeElems m).contains t = false := by
      simp only [tagOkB, Bool.and_eq_true, Bool.not_eq_true'] at ht; exact ht.2
    ⟨_, hS.wrap t at_ hne s1, StreamOk.wrap t at_ ht hat (Or.inl hopen) o1, TEq.wrap t at_ t1⟩

theorem tmplRel_sem (m : Method) : TmplRel m (Sem m) :=
  tmplRel_out (S := SameOut m) ⟨SameOut.refl m, SameOut.append, SameOut.wrap⟩

theorem Sem.append {m : Method} {a b ea eb : List Ev} (h1 : Sem m a ea) (h2 : Sem m b eb) :
    Sem m (a ++ b) (ea ++ eb) := (tmplRel_sem m).append h1 h2

theorem Sem.read {m : Method} {evs exp : List Ev} (h : Sem m evs exp) :
    readDoc m (serialize m false evs) = some (coalesce exp) := by
  obtain ⟨evs', s1, o1, t1⟩ := h
  have hout : serialize m false evs = serialize m false evs' := by
    have := s1 none (PendOk.none m) [] [] (fun _ _ => rfl)
    simpa [serE, serialize, emptyTags] using this
  rw [hout]
  exact o1.read t1 false

theorem fillAttrs_names : ∀ (attrs : List (Name × FAttr)) (args : List (List Char))
    (at_ : List (Name × List Char)) (args' : List (List Char)),
    fillAttrs attrs args = some (at_, args') → at_.map (·.1) = attrs.map (·.1)
  | [], _, _, _, h => by simp only [fillAttrs, Option.some.injEq, Prod.mk.injEq] at h; rw [← h.1]; rfl
  | (n, .lit v) :: rest, args, at_, args', h => by
      simp only [fillAttrs, Option.map_eq_some_iff] at h
      obtain ⟨⟨a1, r1⟩, h1, h2⟩ := h
      simp only [Prod.mk.injEq] at h2
      rw [← h2.1]
      simp [fillAttrs_names rest args a1 r1 h1]
  | (n, .hole) :: rest, [], _, _, h => by simp [fillAttrs] at h
  | (n, .hole) :: rest, x :: xs, at_, args', h => by
      simp only [fillAttrs, Option.map_eq_some_iff] at h
      obtain ⟨⟨a1, r1⟩, h1, h2⟩ := h
      simp only [Prod.mk.injEq] at h2
      rw [← h2.1]
      simp [fillAttrs_names rest xs a1 r1 h1]

theorem attrsOkB_of_names (m : Method) (a : List (Name × List Char)) (attrs : List (Name × FAttr))
    (hn : a.map (·.1) = attrs.map (·.1)) (h : ∀ p ∈ attrs, attrNameOkB m p.1 = true) : attrsOkB m a = true := by
  simp only [attrsOkB, List.all_eq_true]
  intro p hp
  have : p.1 ∈ attrs.map (·.1) := hn ▸ List.mem_map.mpr ⟨p, hp, rfl⟩
  obtain ⟨q, hq, hqn⟩ := List.mem_map.mp this
  have := h q hq
  simp only [attrNameOkB] at this
  rw [← hqn]; exact this

/-- the parts of `StreamOk` a segment of spliced events has (it may start with an END, so it is
    only closed when nothing is pending) -/
structure InnerOk (m : Method) (evs : List Ev) : Prop where
  ev : ∀ e ∈ evs, evOkB m e = true
  safe : TextsOk evs
  closed : ∀ rest, emptyOkGo m none (evs ++ rest) = emptyOkGo m none rest

theorem InnerOk.nil (m : Method) : InnerOk m [] :=
  ⟨(by intro e he; cases he), (by intro s hs; cases hs), (by intro rest; rfl)⟩

theorem InnerOk.append {m : Method} {a b : List Ev} (ha : InnerOk m a) (hb : InnerOk m b) : InnerOk m (a ++ b) :=
  ⟨fun e he => (List.mem_append.mp he).elim (ha.ev e) (hb.ev e),
   fun s hs => (List.mem_append.mp hs).elim (ha.safe s) (hb.safe s),
   fun rest => by rw [List.append_assoc, ha.closed, hb.closed]⟩

theorem InnerOk.streamOk {m : Method} {evs : List Ev} (h : InnerOk m evs) (s : List Char) (hs : SafeOk s) :
    StreamOk m (.text s true :: evs) := by
  refine ⟨?_, ?_, ?_, ?_⟩
  · intro e he
    rcases List.mem_cons.mp he with rfl | he'
    · rfl
    · exact h.ev e he'
  · intro s' hs'
    rcases List.mem_cons.mp hs' with e | hs''
    · simp only [Ev.text.injEq] at e; rw [e.1]; exact hs
    · exact h.safe s' hs''
  · intro rest
    simp only [List.cons_append, emptyOkGo, h.closed]
  · intro t rest _
    simp only [List.cons_append, emptyOkGo, h.closed]

/-- what a token of author markup with filled holes is, for pieces of `fpieceOkB`: a literal text or an escaped
    operand, a start tag of an ordinary element that may have content, an end tag -/
def FillTok (m : Method) : Tok → Prop
  | .text s f => f = true → ∃ a, s = escapePy true a
  | .open t a => (isNameB t = true ∧ (noescapeElems m).contains t = false) ∧ openOk m t = true ∧ attrsOkB m a = true
  | .close t => isNameB t = true
  | .empty _ _ => False

theorem fillEsc_fillTok (m : Method) (ps : List FPiece) (args : List (List Char)) (toks : List Tok)
    (hok : ∀ p ∈ ps, fpieceOkB m p = true) (h : fillEsc ps args = some toks) : ∀ tok ∈ toks, FillTok m tok := by
  fun_induction fillEsc ps args generalizing toks with
  | case1 => cases h; exact fun _ h => nomatch h
  | case2 | case4 | case7 => cases h
  | case3 s rest as ih =>
    obtain ⟨ts, hts, rfl⟩ := Option.map_eq_some_iff.mp h
    exact List.forall_mem_cons.mpr ⟨fun e => (nomatch e), ih ts (fun q hq => hok q (List.mem_cons_of_mem _ hq)) hts⟩
  | case5 rest a as ih =>
    obtain ⟨ts, hts, rfl⟩ := Option.map_eq_some_iff.mp h
    exact List.forall_mem_cons.mpr ⟨fun _ => ⟨a, rfl⟩, ih ts (fun q hq => hok q (List.mem_cons_of_mem _ hq)) hts⟩
  | case6 t attrs rest as at_ as' hfa ih =>
    obtain ⟨ts, hts, rfl⟩ := Option.map_eq_some_iff.mp h
    have hp := hok _ List.mem_cons_self
    simp only [fpieceOkB, tagOkB, Bool.and_eq_true, Bool.not_eq_true', List.all_eq_true] at hp
    exact List.forall_mem_cons.mpr ⟨⟨hp.1.1.1, hp.1.2,
      attrsOkB_of_names m at_ attrs (fillAttrs_names attrs as at_ as' hfa) fun q hq => (hp.2 q hq).1⟩,
      ih ts (fun q hq => hok q (List.mem_cons_of_mem _ hq)) hts⟩
  | case8 t rest as ih =>
    obtain ⟨ts, hts, rfl⟩ := Option.map_eq_some_iff.mp h
    have hp := hok _ List.mem_cons_self
    simp only [fpieceOkB, Bool.and_eq_true] at hp
    exact List.forall_mem_cons.mpr ⟨hp.1, ih ts (fun q hq => hok q (List.mem_cons_of_mem _ hq)) hts⟩


theorem simpleToks_of_fill {m : Method} {toks : List Tok} (h : ∀ tok ∈ toks, FillTok m tok) :
    simpleToks m toks ∧ ∀ tok ∈ toks, tokOkB .xml tok = true := by
  refine ⟨fun tok ht => ?_, fun tok ht => ?_⟩ <;> have hf := h tok ht <;> cases tok
  case refine_1.empty | refine_2.empty => exact hf.elim
  case refine_1.open t a => exact ⟨fun _ _ e => (nomatch e), fun _ _ e => by cases e; exact ⟨hf.1.2, hf.2.2⟩⟩
  case refine_2.open t a => simp [tokOkB, hf.1.1, attrsOkB_xml hf.2.2, noescapeElems]
  case refine_2.close t => exact hf
  case refine_2.text => rfl
  all_goals exact ⟨fun _ _ e => (nomatch e), fun _ _ e => (nomatch e)⟩

theorem spliceEvents_cons (tok : Tok) (ts : List Tok) :
    spliceEvents (tok :: ts) = spliceEvents [tok] ++ spliceEvents ts := by cases tok <;> rfl

theorem InnerOk.splice (m : Method) (toks : List Tok) (h : ∀ tok ∈ toks, FillTok m tok) :
    InnerOk m (spliceEvents toks) := by
  induction toks with
  | nil => exact InnerOk.nil m
  | cons tok ts ih =>
    rw [spliceEvents_cons]
    refine InnerOk.append ?_ (ih fun x hx => h x (List.mem_cons_of_mem _ hx))
    have hf := h tok List.mem_cons_self
    cases tok with
    | text s f =>
      refine ⟨fun e he => by cases List.mem_singleton.mp he; rfl, fun s' hs' => ?_, fun rest => by simp [spliceEvents, emptyOkGo]⟩
      cases List.mem_singleton.mp hs'
      obtain ⟨a, rfl⟩ := hf rfl
      exact SafeOk.escaped true a
    | «open» t a =>
      refine ⟨fun e he => ?_, fun s hs => by simp [spliceEvents] at hs, fun rest => by simp [spliceEvents, emptyOkGo, hf.2.1]⟩
      simp only [spliceEvents, List.mem_cons, List.not_mem_nil, or_false] at he
      rcases he with rfl | rfl
      · simp only [evOkB, hf.1.1, hf.1.2, hf.2.2]; rfl
      · rfl
    | close t =>
      exact ⟨fun e he => by cases List.mem_singleton.mp he; exact hf, fun s hs => by simp [spliceEvents] at hs,
        fun rest => by simp [spliceEvents, emptyOkGo]⟩
    | empty t a => exact hf.elim

/-- the spliced events of the filled pieces read as the pieces with the operands' own text in the holes -/
theorem fillEvents_splice (ps : List FPiece) (args : List (List Char)) (toks : List Tok) (h : fillEsc ps args = some toks) :
    ∃ evs, fillEvents ps args = some evs ∧ TEq (spliceEvents toks) evs := by
  fun_induction fillEsc ps args generalizing toks with
  | case1 => cases h; exact ⟨[], rfl, TEq.refl _⟩
  | case2 | case4 | case7 => cases h
  | case3 s rest as ih =>
    obtain ⟨ts, hts, rfl⟩ := Option.map_eq_some_iff.mp h
    obtain ⟨evs, h1, h2⟩ := ih ts hts
    exact ⟨.text s false :: evs, by simp [fillEvents, h1], TEq.append (TEq.refl [Ev.text s false]) h2⟩
  | case5 rest a as ih =>
    obtain ⟨ts, hts, rfl⟩ := Option.map_eq_some_iff.mp h
    obtain ⟨evs, h1, h2⟩ := ih ts hts
    exact ⟨.text a false :: evs, by simp [fillEvents, h1], TEq.append ((Enc.escaped true a).text .xml).2 h2⟩
  | case6 t attrs rest as at_ as' hfa ih =>
    obtain ⟨ts, hts, rfl⟩ := Option.map_eq_some_iff.mp h
    obtain ⟨evs, h1, h2⟩ := ih ts hts
    refine ⟨.start t at_ :: evs, by simp [fillEvents, hfa, h1], ?_⟩
    -- the empty text after the START goes
    have hh : TEq [Ev.start t at_, Ev.text [] false] [Ev.start t at_] := fun fl pres p pend rest => by
      simp [coalesceWith, textValue]
    exact TEq.append hh h2
  | case8 t rest as ih =>
    obtain ⟨ts, hts, rfl⟩ := Option.map_eq_some_iff.mp h
    obtain ⟨evs, h1, h2⟩ := ih ts hts
    exact ⟨.end_ t :: evs, by simp [fillEvents, h1], TEq.append (TEq.refl [Ev.end_ t]) h2⟩

theorem piecesNoPct_of_B (m : Method) : ∀ ps : List FPiece, (∀ p ∈ ps, fpieceOkB m p = true) → piecesNoPct ps
  | [], _ => trivial
  | p :: ps, h => by
    have ih := piecesNoPct_of_B m ps fun q hq => h q (List.mem_cons_of_mem _ hq)
    have hp := h p List.mem_cons_self
    have nopct : ∀ n : Name, nameNoPctB n = true → nameNoPct n := fun n hn c hc e => by
      subst e; simp [nameNoPctB] at hn; exact hn hc
    cases p with
    | «open» t attrs =>
      simp only [fpieceOkB, Bool.and_eq_true, List.all_eq_true] at hp
      exact ⟨nopct t hp.1.1.2, fun q hq => nopct q.1 (hp.2 q hq).2, ih⟩
    | close t =>
      simp only [fpieceOkB, Bool.and_eq_true] at hp
      exact ⟨nopct t hp.2, ih⟩
    | _ => exact ih

theorem fmtp_spec (m : Method) : ∀ (ps : List FPiece) (args : List (List Char)) (toks : List Tok),
    (∀ p ∈ ps, fpieceOkB m p = true) → fillEsc ps args = some toks →
    simpleToks m toks ∧ InnerOk m (spliceEvents toks) ∧ piecesNoPct ps ∧
    (∀ tok ∈ toks, tokOkB .xml tok = true) ∧
    ∃ evs, fillEvents ps args = some evs ∧ TEq (spliceEvents toks) evs := fun ps args toks hok h =>
  have hf := fillEsc_fillTok m ps args toks hok h
  ⟨(simpleToks_of_fill hf).1, InnerOk.splice m toks hf, piecesNoPct_of_B m ps hok, (simpleToks_of_fill hf).2,
    fillEvents_splice ps args toks h⟩

theorem strLit_of_B {a : Atom} (h : strLitB a = true) : ∃ s, a = .lit (.str s) := by
  cases a with
  | var i => cases h
  | lit x => cases x <;> first | exact ⟨_, rfl⟩ | cases h

theorem strLit_args (env : Env) : ∀ (as : List Atom), as.all strLitB = true →
    (as.map fun a => toOpnd (evalAtom env a)) = (as.filterMap strOf).map Opnd.plain ∧
    (as.map fun a => opndText (evalAtom env a)) = as.filterMap strOf
  | [], _ => ⟨rfl, rfl⟩
  | a :: as, h => by
      simp only [List.all_cons, Bool.and_eq_true] at h
      obtain ⟨i1, i2⟩ := strLit_args env as h.2
      obtain ⟨s, rfl⟩ := strLit_of_B h.1
      exact ⟨by rw [List.map_cons, i1]; rfl, by rw [List.map_cons, i2]; rfl⟩

/-- a `%` site with author tags renders to ONE `Markup` text: the serialization of the filled tokens,
    whose spliced events read as the site's specification -/
theorem fmtp_site (m : Method) (env : Env) (ps : List FPiece) (as : List Atom)
    (hs : sexprOkM m (.fmtp ps as) = true) :
    ∃ toks, fillEsc ps (as.filterMap strOf) = some toks ∧
      evalSite env (.fmtp ps as) = [.text (serToks .xml false toks) true] ∧
      simpleToks m toks ∧ (∀ tok ∈ toks, tokOkB .xml tok = true) ∧
      StreamOk m (.text [] true :: spliceEvents toks) ∧
      TEq (.text [] true :: spliceEvents toks) (expectedSite env (.fmtp ps as)) := by
  simp only [sexprOkM, Bool.and_eq_true] at hs
  obtain ⟨⟨hps, hlit⟩, hfill⟩ := hs
  obtain ⟨ha1, ha2⟩ := strLit_args env as hlit
  cases hf : fillEsc ps (as.filterMap strOf) with
  | none => simp [hf] at hfill
  | some toks =>
    obtain ⟨i1, i2, i3, i4, evs, i5, i6⟩ := fmtp_spec m ps (as.filterMap strOf) toks
      (fun p hp => (List.all_eq_true.mp hps) p hp) hf
    have hm := mMod_pieces .xml ps (as.filterMap strOf) toks i3 hf
    rw [← serToks_raw .xml toks i4] at hm
    have h0 : TEq [Ev.text [] true] [] :=
      TEq.texts (allText_single _ _) (fun e he' => nomatch he') (by simp [dataOf, textValue, Enc.nil.unescape])
    refine ⟨toks, rfl, by simp only [evalSite, markupOp, ha1, hm], i1, i4, i2.streamOk [] SafeOk.nil, ?_⟩
    simpa [expectedSite, ha2, i5] using TEq.append h0 i6

theorem site_sem (m : Method) (env : Env) (e : SExpr) (hs : sexprOkM m e = true)
    (hd : siteOk env e = true) (he : EnvOk env) : Sem m (evalSite env e) (expectedSite env e) := by
  cases e with
  | fmtp ps as =>
    obtain ⟨toks, _, hrender, h1, _, hok, hteq⟩ := fmtp_site m env ps as hs
    rw [hrender]
    exact ⟨_, SameOut.splice m toks h1, hok, hteq⟩
  | _ =>
    -- at every other site `sexprOkM` is `sexprOkB`
    obtain ⟨h1, h2⟩ := site_spec m env _ (by exact hs) hd he
    exact (tmplRel_sem m).of_spec h1 h2

theorem tmplDom_M (m : Method) : TmplDom m (sexprOkM m) (nodeOkM m) (nodesOkM m) :=
  ⟨fun _ => rfl, fun _ _ _ _ => rfl, fun _ _ => rfl, fun _ _ => rfl, fun _ _ => rfl, fun _ _ => rfl⟩

theorem node_sem (m : Method) : ∀ (n : Node) (env : Env), nodeOkM m n = true → nodeOk env n = true →
      EnvOk env → Sem m (renderNode env n) (expectedNode env n) :=
  (tmpl_induct (tmplRel_sem m) (tmplDom_M m) (site_sem m)).1

theorem list_sem (m : Method) : ∀ (ns : List Node) (env : Env), nodesOkM m ns = true → listOk env ns = true →
      EnvOk env → Sem m (renderList env ns) (expectedList env ns) :=
  (tmpl_induct (tmplRel_sem m) (tmplDom_M m) (site_sem m)).2

end Genshi.Subst
