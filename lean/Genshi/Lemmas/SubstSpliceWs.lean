/-
  C01 — `SameOut.splice` under `strip_whitespace=True`.

  With whitespace stripping the `WhitespaceFilter` buffers a whole run of character data and
  normalises it in one piece — including the tags the template author wrote inside a `Markup`
  text.  Both regular expressions only look at the following character, so a tag (which starts
  with `<`, ends with `>` and holds no newline) splits the run:

      normWs (X ++ tag ++ W) = normWs X ++ tag ++ normWs W          (`normWs_tag`)

  hence the `Markup` text is written exactly as its tags would be written as elements.
-/
import Genshi.Lemmas.SubstSplice
import Genshi.Lemmas.SubstStrip
namespace Genshi.Subst
open Genshi.Escape Genshi.Str

theorem foldr_dropStep_acc (d : Char → Bool) (X acc : List Char) (h : acc.head? ≠ some '\n') :
    X.foldr (dropStep d) acc = X.foldr (dropStep d) [] ++ acc := by
  induction X with
  | nil => rfl
  | cons c X ih =>
    simp only [List.foldr_cons, ih]
    cases hR : X.foldr (dropStep d) [] with
    | nil =>
      cases acc with
      | nil => simp
      | cons a as =>
        have : a ≠ '\n' := by simpa using h
        simp [dropStep, this]
    | cons r rs => simp [dropStep]; split <;> simp

theorem foldr_dropStep_noNl (d : Char → Bool) (T acc : List Char) (hT : ∀ x ∈ T, x ≠ '\n')
    (h : acc.head? ≠ some '\n') : T.foldr (dropStep d) acc = T ++ acc := by
  induction T with
  | nil => rfl
  | cons c T ih =>
    have hhead : (T ++ acc).head? ≠ some '\n' := by
      cases T with
      | nil => exact h
      | cons e T => simpa using hT e (by simp)
    rw [List.foldr_cons, ih fun y hy => hT y (List.mem_cons_of_mem _ hy), dropStep, decide_eq_false hhead,
      Bool.and_false]
    rfl

theorem dropStep_tag (d : Char → Bool) (X T W : List Char) (c : Char) (hT : ∀ x ∈ T, x ≠ '\n') (hc : c ≠ '\n')
    (hd : d c = false) :
    (X ++ (T ++ [c]) ++ W).foldr (dropStep d) [] =
      X.foldr (dropStep d) [] ++ (T ++ [c]) ++ W.foldr (dropStep d) [] := by
  have hhead : ∀ acc : List Char, (T ++ c :: acc).head? ≠ some '\n' := by
    intro acc
    cases T with
    | nil => simpa using hc
    | cons e T => simpa using hT e (by simp)
  rw [List.append_assoc, List.foldr_append, List.foldr_append, List.foldr_append]
  have hs : [c].foldr (dropStep d) (W.foldr (dropStep d) []) = c :: W.foldr (dropStep d) [] := by
    simp [dropStep, hd]
  rw [hs, foldr_dropStep_noNl d T _ hT (by simpa using hc), foldr_dropStep_acc d X _ (hhead _)]
  simp

/-- a piece of text without a newline that does not end in a blank (a tag) splits the run -/
theorem normWs_tag (X T W : List Char) (c : Char) (hT : ∀ x ∈ T, x ≠ '\n') (hc : c ≠ '\n') (hb : isBlank c = false) :
    normWs (X ++ (T ++ [c]) ++ W) = normWs X ++ (T ++ [c]) ++ normWs W := by
  unfold normWs
  rw [trimTrailing_eq, dropStep_tag isBlank X T W c hT hc hb, collapseLines_eq,
    dropStep_tag isNl _ T _ c hT hc (by simpa [isNl] using hc)]
  rfl

theorem wsFlush_congr (p : Nat) (b1 b2 : List (List Char × Bool)) (he : b1.isEmpty = b2.isEmpty)
    (ht : bufText b1 = bufText b2) : wsFlush p b1 = wsFlush p b2 := by
  simp only [wsFlush, he]
  simp only [bufText] at ht
  rw [ht]

/-- what was buffered only shows in the flush at the next tag: the filter yields that flush — of the buffer
    extended by the text tokens in front of the tag — and then tokens that do not depend on the buffer -/
theorem wsFilter_buf (pres noesc : List Name) (p : Nat) (ne : Bool) (toks : List Tok) :
    ∃ add tail, ∀ buf, wsFilter pres noesc p ne buf toks = wsFlush p (buf ++ add) ++ tail := by
  induction toks with
  | nil => exact ⟨[], [], fun buf => by simp [wsFilter]⟩
  | cons tok rest ih =>
    cases tok with
    | text s f =>
      obtain ⟨add, tail, h⟩ := ih
      exact ⟨(s, f || ne) :: add, tail, fun buf => by rw [wsFilter, h]; simp⟩
    | «open» t a => exact ⟨[], _, fun buf => by rw [List.append_nil buf]; rfl⟩
    | close t => exact ⟨[], _, fun buf => by rw [List.append_nil buf]; rfl⟩
    | empty t a => exact ⟨[], _, fun buf => by rw [List.append_nil buf]; rfl⟩

theorem wsFilter_congr (pres noesc : List Name) (toks : List Tok) :
    ∀ (p : Nat) (ne : Bool) (b1 b2 : List (List Char × Bool)), b1.isEmpty = b2.isEmpty → bufText b1 = bufText b2 →
      wsFilter pres noesc p ne b1 toks = wsFilter pres noesc p ne b2 toks := by
  intro p ne b1 b2 he ht
  obtain ⟨add, tail, h⟩ := wsFilter_buf pres noesc p ne toks
  rw [h, h, wsFlush_congr p (b1 ++ add) (b2 ++ add) (by cases b1 <;> cases b2 <;> first | rfl | cases he)
    (by rw [bufText_append, bufText_append, ht])]

theorem serToks_wsFlush (m : Method) (p : Nat) (buf : List (List Char × Bool)) (ne : Bool) (rest : List Tok) :
    serToks m ne (wsFlush p buf ++ rest) = flOut p (bufText buf) ++ serToks m ne rest := by
  cases buf with
  | nil => simp [wsFlush, bufText, flOut, (by decide : normWs [] = [])]
  | cons x xs =>
    simp only [wsFlush, List.isEmpty_cons, Bool.false_eq_true, if_false, List.cons_append, List.nil_append, serToks]
    simp only [flOut, bufText]

/-- **splitting a run**: when everything that may still follow in the run (`Z`) leaves the front
    part `P` of the buffered text alone, the front part can be written at once -/
theorem serToks_wsFilter_split (m : Method) (pres noesc : List Name) (p : Nat) (ne' : Bool) (P P' : List Char)
    (toks : List Tok) :
    ∀ (ne : Bool) (B : List (List Char × Bool)) (Y : List Char), bufText B = P ++ Y →
      (∀ Z, flOut p (P ++ Y ++ Z) = P' ++ flOut p (Y ++ Z)) →
      serToks m ne' (wsFilter pres noesc p ne B toks) =
        P' ++ serToks m ne' (wsFilter pres noesc p ne [(Y, true)] toks) := by
  intro ne B Y hB hZ
  obtain ⟨add, tail, h⟩ := wsFilter_buf pres noesc p ne toks
  rw [h, h, serToks_wsFlush, serToks_wsFlush, bufText_append, bufText_append, hB, hZ, List.append_assoc]
  simp [bufText]

/-- the state: the START `EmptyTagFilter` holds back, the filter's preserve depth and buffer
    (its `noescape` flag stays off: no raw-text elements) -/
def serS (m : Method) (pend : Option (Name × List (Name × List Char))) (p : Nat)
    (buf : List (List Char × Bool)) (evs : List Ev) : List Char :=
  serToks m false (wsFilter (preserveElems m) (noescapeElems m) p false buf (emptyTagsGo pend evs))

/-- in what is written only the text of the buffer shows (an empty buffer is flushed as nothing, an empty text is
    written as nothing) -/
theorem serS_congr (m : Method) (pend : Option (Name × List (Name × List Char))) (p : Nat)
    (b1 b2 : List (List Char × Bool)) (evs : List Ev) (ht : bufText b1 = bufText b2) :
    serS m pend p b1 evs = serS m pend p b2 evs := by
  have key : ∀ b, serS m pend p b evs = serS m pend p [(bufText b, true)] evs := fun b =>
    serToks_wsFilter_split m _ _ p false [] [] _ false b (bufText b) rfl fun _ => rfl
  rw [key b1, key b2, ht]

theorem serS_emptybuf (m : Method) (pend : Option (Name × List (Name × List Char))) (p : Nat) (evs : List Ev) :
    serS m pend p [] evs = serS m pend p [([], true)] evs :=
  serS_congr m pend p _ _ evs rfl

theorem serS_text_none (m : Method) (p : Nat) (buf : List (List Char × Bool)) (s : List Char) (f : Bool)
    (rest : List Ev) : serS m none p buf (.text s f :: rest) = serS m none p (buf ++ [(s, f)]) rest := by
  simp [serS, emptyTagsGo, wsFilter]

theorem serS_start_none (m : Method) (p : Nat) (buf : List (List Char × Bool)) (t : Name)
    (a : List (Name × List Char)) (rest : List Ev) :
    serS m none p buf (.start t a :: rest) = serS m (some (t, a)) p buf rest := by
  simp [serS, emptyTagsGo]

theorem serS_end_none (m : Method) (p : Nat) (buf : List (List Char × Bool)) (t : Name) (rest : List Ev) :
    serS m none p buf (.end_ t :: rest) = flOut p (bufText buf) ++ (emitClose t ++ serS m none (p - 1) [] rest) := by
  simp only [serS, emptyTagsGo, wsFilter, serToks_wsFlush, serToks]

theorem serS_text_some (m : Method) (t : Name) (a : List (Name × List Char))
    (hne : (noescapeElems m).contains t = false) (p : Nat) (buf : List (List Char × Bool))
    (s : List Char) (f : Bool) (rest : List Ev) :
    serS m (some (t, a)) p buf (.text s f :: rest) =
      flOut p (bufText buf) ++ (emitOpen m t a ++ serS m none (presStep (preserveElems m) p t) [(s, f)] rest) := by
  simp only [serS, emptyTagsGo, wsFilter, serToks_wsFlush, serToks, hne, Bool.or_false, presStep, List.nil_append]

theorem serS_start_some (m : Method) (t : Name) (a : List (Name × List Char))
    (hne : (noescapeElems m).contains t = false) (p : Nat) (buf : List (List Char × Bool))
    (t' : Name) (a' : List (Name × List Char)) (rest : List Ev) :
    serS m (some (t, a)) p buf (.start t' a' :: rest) =
      flOut p (bufText buf) ++ (emitOpen m t a ++ serS m (some (t', a')) (presStep (preserveElems m) p t) [] rest) := by
  simp only [serS, emptyTagsGo, wsFilter, serToks_wsFlush, serToks, hne, Bool.or_false, presStep]

theorem serS_end_some (m : Method) (t : Name) (a : List (Name × List Char)) (p : Nat)
    (buf : List (List Char × Bool)) (t' : Name) (rest : List Ev) :
    serS m (some (t, a)) p buf (.end_ t' :: rest) =
      flOut p (bufText buf) ++ (emitEmpty m t a ++ serS m none p [] rest) := by
  simp only [serS, emptyTagsGo, wsFilter, serToks_wsFlush, serToks]

/-- two event lists the serializer writes the same text for with whitespace stripping, in every
    context: whatever is held back, buffered and follows -/
def SameOutS (m : Method) (a a' : List Ev) : Prop :=
  ∀ pend, PendOk m pend → ∀ (p : Nat) (buf : List (List Char × Bool)) (rest rest' : List Ev),
    (∀ pend', PendOk m pend' → ∀ p' buf', serS m pend' p' buf' rest = serS m pend' p' buf' rest') →
    serS m pend p buf (a ++ rest) = serS m pend p buf (a' ++ rest')

theorem SameOutS.refl (m : Method) (a : List Ev) (ha : StartsOk m a) : SameOutS m a a := by
  intro pend hp p buf rest rest' h
  induction a generalizing pend p buf with
  | nil => exact h pend hp p buf
  | cons e es ih =>
    have hes : StartsOk m es := fun t a' hm => ha t a' (List.mem_cons_of_mem _ hm)
    cases e with
    | text s f =>
      cases pend with
      | none => simp only [List.cons_append, serS_text_none, ih hes none (PendOk.none m)]
      | some q =>
        obtain ⟨t0, a0⟩ := q
        simp only [List.cons_append, serS_text_some m t0 a0 (pendOk_get hp), ih hes none (PendOk.none m)]
    | start t a' =>
      have ht : PendOk m (some (t, a')) := pendOk_some (ha t a' (by simp))
      cases pend with
      | none => simp only [List.cons_append, serS_start_none, ih hes _ ht]
      | some q =>
        obtain ⟨t0, a0⟩ := q
        simp only [List.cons_append, serS_start_some m t0 a0 (pendOk_get hp), ih hes _ ht]
    | end_ t =>
      cases pend with
      | none => simp only [List.cons_append, serS_end_none, ih hes none (PendOk.none m)]
      | some q =>
        obtain ⟨t0, a0⟩ := q
        simp only [List.cons_append, serS_end_some, ih hes none (PendOk.none m)]

theorem SameOutS.append {m : Method} {a a' b b' : List Ev} (h1 : SameOutS m a a') (h2 : SameOutS m b b') :
    SameOutS m (a ++ b) (a' ++ b') := by
  intro pend hp p buf rest rest' h
  rw [List.append_assoc, List.append_assoc]
  exact h1 pend hp p buf (b ++ rest) (b' ++ rest') fun pend' hp' p' buf' => h2 pend' hp' p' buf' rest rest' h

theorem SameOutS.wrap {m : Method} {a a' : List Ev} (t : Name) (at_ : List (Name × List Char))
    (ht : (noescapeElems m).contains t = false) (h : SameOutS m a a') :
    SameOutS m (.start t at_ :: (a ++ [.end_ t])) (.start t at_ :: (a' ++ [.end_ t])) := by
  intro pend hp p buf rest rest' hr
  have hpt : PendOk m (some (t, at_)) := pendOk_some ht
  have inner : ∀ p1 buf1, serS m (some (t, at_)) p1 buf1 (a ++ (.end_ t :: rest)) =
      serS m (some (t, at_)) p1 buf1 (a' ++ (.end_ t :: rest')) := by
    intro p1 buf1
    apply h _ hpt
    intro pend' hp' p' buf'
    cases pend' with
    | none => simp only [serS_end_none, hr none (PendOk.none m)]
    | some q =>
      obtain ⟨t0, a0⟩ := q
      simp only [serS_end_some, hr none (PendOk.none m)]
  cases pend with
  | none => simp only [List.cons_append, List.append_assoc, List.nil_append, serS_start_none, inner]
  | some q =>
    obtain ⟨t0, a0⟩ := q
    simp only [List.cons_append, List.append_assoc, List.nil_append, serS_start_some m t0 a0 (pendOk_get hp), inner]

/-- the filter's preserve depth `d` of the author's elements further in, when it is `p` where the `Markup` text
    stands (`splice_main`): it stays 0 outside a preserving element (the author's elements are not preserving
    ones) and follows the nesting inside one -/
def lvl (p d : Nat) : Nat := if p = 0 then 0 else p + d

theorem lvl_zero (p : Nat) : lvl p 0 = p := by
  unfold lvl; split
  · next h => exact h.symm
  · rfl

theorem lvl_pred (p d : Nat) (hd : d > 0) : lvl p d - 1 = lvl p (d - 1) := by
  unfold lvl; split
  · rfl
  · exact Nat.add_sub_assoc hd p

theorem presStep_lvl (pres : List Name) (p d : Nat) (t : Name) (ht : pres.contains t = false) :
    presStep pres (lvl p d) t = lvl p (d + 1) := by
  unfold presStep lvl
  by_cases h0 : p = 0
  · simp [h0]; simpa using ht
  · have : p + d > 0 := by omega
    simp [h0, this]; omega

theorem flOut_lvl (p d : Nat) (s : List Char) : flOut (lvl p d) s = flOut p s := by
  unfold flOut lvl
  by_cases h : p = 0
  · simp [h]
  · have : p + d ≠ 0 := by omega
    simp [h]

theorem escapePy_noNl (q : Bool) (v : List Char) (h : ∀ x ∈ v, x ≠ '\n') : ∀ x ∈ escapePy q v, x ≠ '\n' :=
  forall_mem_escapePy q v h (by decide)

theorem isNameB_noNl (t : Name) (h : isNameB t = true) : ∀ x ∈ t, x ≠ '\n' := by
  intro x hx e
  simp only [isNameB, Bool.and_eq_true, List.all_eq_true] at h
  have := h.2 x hx
  subst e
  simp [isNameChar] at this

theorem emitAttrs_xml_noNl (a : List (Name × List Char))
    (h : ∀ p ∈ a, isNameB p.1 = true ∧ ∀ x ∈ p.2, x ≠ '\n') : ∀ x ∈ emitAttrs .xml a, x ≠ '\n' := by
  intro x hx
  obtain ⟨p, hp, hxp⟩ := List.mem_flatMap.mp hx
  obtain ⟨h1, h2⟩ := h p hp
  have hattr : ∀ x ∈ attrText p.1 p.2, x ≠ '\n' :=
    List.forall_mem_cons.mpr ⟨by decide, List.forall_mem_append.mpr ⟨List.forall_mem_append.mpr
      ⟨List.forall_mem_append.mpr ⟨isNameB_noNl _ h1, by decide⟩, escapePy_noNl true _ h2⟩, by decide⟩⟩
  exact hattr x hxp

theorem flOut_tag (p : Nat) (X T W : List Char) (hT : ∀ x ∈ T, x ≠ '\n') :
    flOut p (X ++ (T ++ ['>']) ++ W) = flOut p X ++ (T ++ ['>']) ++ flOut p W := by
  unfold flOut
  by_cases h : p = 0
  · simp only [h, if_true]
    exact normWs_tag X T W '>' hT (by decide) (by decide)
  · simp [h]

theorem serS_tag (m : Method) (p : Nat) (buf : List (List Char × Bool)) (T s : List Char) (rest : List Ev)
    (hT : ∀ x ∈ T, x ≠ '\n') :
    serS m none p (buf ++ [(T ++ '>' :: s, true)]) rest =
      (flOut p (bufText buf) ++ (T ++ ['>'])) ++ serS m none p [(s, true)] rest := by
  unfold serS
  apply serToks_wsFilter_split m _ _ p false (bufText buf ++ (T ++ ['>']))
  · simp [bufText]
  · intro Z
    have := flOut_tag p (bufText buf) T (s ++ Z) hT
    simpa [List.append_assoc] using this

/-- The buffered `Markup` text `serToks .xml false toks` against the events `spliceEvents toks`, token by token:
    a text token stays in the buffer on both sides; a tag at the front of the buffered text is written at once
    (`serS_tag`, by `normWs_tag`) exactly as the filter flushes before the corresponding START / END event.
    `d` counts the author's open elements, `closesOk` keeps it from going below 0. -/
theorem splice_main (m : Method) (rest rest' : List Ev)
    (hr : ∀ pend', PendOk m pend' → ∀ p' buf', serS m pend' p' buf' rest = serS m pend' p' buf' rest')
    (p : Nat) : ∀ (toks : List Tok), simpleToks m toks → (∀ tok ∈ toks, tokOkB .xml tok = true) →
      (∀ tok ∈ toks, tokWsOkB m tok = true) → ∀ (d : Nat) (buf : List (List Char × Bool)), closesOk d toks = true →
      serS m none p (buf ++ [(serToks .xml false toks, true)]) rest =
        serS m none (lvl p d) (buf ++ [([], true)]) (spliceEvents toks ++ rest') := by
  intro toks
  induction toks with
  | nil =>
    intro _ _ _ d buf hd
    simp only [closesOk, beq_iff_eq] at hd
    subst hd
    simp only [serToks, spliceEvents, List.nil_append, lvl_zero]
    exact hr none (PendOk.none m) p _
  | cons tok ts ih =>
    intro hs hx hw d buf hd
    have ih' := ih (fun x h => hs x (List.mem_cons_of_mem _ h)) (fun x h => hx x (List.mem_cons_of_mem _ h))
      (fun x h => hw x (List.mem_cons_of_mem _ h))
    cases tok with
    | text s f =>
      simp only [closesOk] at hd
      have hL : serS m none p (buf ++ [(serToks .xml false (.text s f :: ts), true)]) rest =
          serS m none p ((buf ++ [(s, f)]) ++ [(serToks .xml false ts, true)]) rest := by
        apply serS_congr
        cases f <;> simp [bufText, serToks, emitText]
      rw [hL, ih' d (buf ++ [(s, f)]) hd]
      simp only [spliceEvents, List.cons_append, serS_text_none]
      apply serS_congr
      simp [bufText]
    | close t =>
      simp only [closesOk, Bool.and_eq_true, decide_eq_true_eq] at hd
      have hname : isNameB t = true := by simpa [tokOkB] using hx _ List.mem_cons_self
      have hT : ∀ x ∈ ['<', '/'] ++ t, x ≠ '\n' :=
        List.forall_mem_cons.mpr ⟨by decide, List.forall_mem_cons.mpr ⟨by decide, isNameB_noNl t hname⟩⟩
      have e : serToks .xml false (.close t :: ts) = (['<', '/'] ++ t) ++ '>' :: serToks .xml false ts := by
        simp [serToks, emitClose]
      have := ih' (d - 1) [] hd.2
      simp only [List.nil_append] at this
      rw [e, serS_tag m p buf _ _ rest hT, this]
      simp only [spliceEvents, List.cons_append, serS_end_none, bufText_append, flOut_lvl, lvl_pred p d hd.1,
        serS_emptybuf]
      simp [bufText, emitClose]
    | «open» t a =>
      simp only [closesOk] at hd
      obtain ⟨hne, hat⟩ := (hs _ (by simp)).2 t a rfl
      have hok := hx _ (List.mem_cons_self)
      simp only [tokOkB, Bool.and_eq_true] at hok
      have hwt := hw _ (List.mem_cons_self)
      simp only [tokWsOkB, Bool.and_eq_true, Bool.not_eq_true', List.all_eq_true, bne_iff_ne, ne_eq] at hwt
      have hattrs : ∀ q ∈ a, isNameB q.1 = true ∧ ∀ x ∈ q.2, x ≠ '\n' := by
        intro q hq
        have h1 := hok.1.2
        simp only [attrsOkB, List.all_eq_true, Bool.and_eq_true] at h1
        exact ⟨(h1 q hq).1, fun x hx2 => hwt.2 q hq x hx2⟩
      have hT : ∀ x ∈ '<' :: t ++ emitAttrs .xml a, x ≠ '\n' :=
        List.forall_mem_cons.mpr
          ⟨by decide, List.forall_mem_append.mpr ⟨isNameB_noNl t hok.1.1, emitAttrs_xml_noNl a hattrs⟩⟩
      have e : serToks .xml false (.open t a :: ts) = ('<' :: t ++ emitAttrs .xml a) ++ '>' :: serToks .xml false ts := by
        simp [serToks, emitOpen, noescapeElems]
      have := ih' (d + 1) [] hd
      simp only [List.nil_append] at this
      rw [e, serS_tag m p buf _ _ rest hT, this]
      simp only [spliceEvents, List.cons_append, serS_start_none, serS_text_some m t a hne, bufText_append, flOut_lvl,
        emitOpen_plain m t a hat, presStep_lvl _ p d t hwt.1]
      -- the empty text after the START is written as nothing, safe or not
      have hc : serS m none (lvl p (d + 1)) [([], false)] (spliceEvents ts ++ rest') =
          serS m none (lvl p (d + 1)) [([], true)] (spliceEvents ts ++ rest') := by
        apply serS_congr
        simp [bufText, escapePy_nil]
      rw [hc]
      simp [bufText, emitOpen]
    | empty t a => exact absurd rfl ((hs _ (by simp)).1 t a)

theorem SameOutS.splice (m : Method) (toks : List Tok) (hs : simpleToks m toks)
    (hx : ∀ tok ∈ toks, tokOkB .xml tok = true) (hw : ∀ tok ∈ toks, tokWsOkB m tok = true)
    (hb : closesOk 0 toks = true) :
    SameOutS m [.text (serToks .xml false toks) true] (.text [] true :: spliceEvents toks) := by
  intro pend hp p buf rest rest' hr
  cases pend with
  | none =>
    simp only [List.cons_append, List.nil_append, serS_text_none]
    have := splice_main m rest rest' hr p toks hs hx hw 0 buf hb
    rw [lvl_zero] at this
    exact this
  | some q =>
    obtain ⟨t0, a0⟩ := q
    simp only [List.cons_append, List.nil_append, serS_text_some m t0 a0 (pendOk_get hp)]
    have := splice_main m rest rest' hr (presStep (preserveElems m) p t0) toks hs hx hw 0 [] hb
    rw [lvl_zero] at this
    simp only [List.nil_append] at this
    rw [this]

/-- `Sem` under whitespace stripping: written alike is `SameOutS` -/
def SemS (m : Method) (evs exp : List Ev) : Prop :=
  ∃ evs', SameOutS m evs evs' ∧ StreamOk m evs' ∧ TEq evs' exp

theorem tmplRel_semS (m : Method) : TmplRel m (SemS m) :=
  tmplRel_out (S := SameOutS m) ⟨SameOutS.refl m, SameOutS.append, SameOutS.wrap⟩

theorem SemS.append {m : Method} {a b ea eb : List Ev} (h1 : SemS m a ea) (h2 : SemS m b eb) :
    SemS m (a ++ b) (ea ++ eb) := (tmplRel_semS m).append h1 h2

theorem SemS.read {m : Method} {evs exp : List Ev} (h : SemS m evs exp) :
    readDoc m (serialize m true evs) = some (coalesceStrip m exp) := by
  obtain ⟨evs', s1, o1, t1⟩ := h
  have hout : serialize m true evs = serialize m true evs' := by
    have := s1 none (PendOk.none m) 0 [] [] [] (fun _ _ _ _ => rfl)
    simpa [serS, serialize, emptyTags] using this
  rw [hout]
  exact o1.read t1 true

theorem site_semS (m : Method) (env : Env) (e : SExpr) (hs : sexprOkW m e = true)
    (hd : siteOk env e = true) (he : EnvOk env) : SemS m (evalSite env e) (expectedSite env e) := by
  cases e with
  | fmtp ps as =>
    simp only [sexprOkW, Bool.and_eq_true] at hs
    obtain ⟨toks, hf, hrender, h1, hx, hok, hteq⟩ := fmtp_site m env ps as hs.1
    have hW := hs.2
    simp only [hf, Bool.and_eq_true, List.all_eq_true] at hW
    rw [hrender]
    exact ⟨_, SameOutS.splice m toks h1 hx hW.1 hW.2, hok, hteq⟩
  | _ =>
    obtain ⟨h1, h2⟩ := site_spec m env _ (by exact hs) hd he
    exact (tmplRel_semS m).of_spec h1 h2

theorem tmplDom_W (m : Method) : TmplDom m (sexprOkW m) (nodeOkW m) (nodesOkW m) :=
  ⟨fun _ => rfl, fun _ _ _ _ => rfl, fun _ _ => rfl, fun _ _ => rfl, fun _ _ => rfl, fun _ _ => rfl⟩

theorem node_semS (m : Method) : ∀ (n : Node) (env : Env), nodeOkW m n = true → nodeOk env n = true →
      EnvOk env → SemS m (renderNode env n) (expectedNode env n) :=
  (tmpl_induct (tmplRel_semS m) (tmplDom_W m) (site_semS m)).1

theorem list_semS (m : Method) : ∀ (ns : List Node) (env : Env), nodesOkW m ns = true → listOk env ns = true →
      EnvOk env → SemS m (renderList env ns) (expectedList env ns) :=
  (tmpl_induct (tmplRel_semS m) (tmplDom_W m) (site_semS m)).2

end Genshi.Subst
