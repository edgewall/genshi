/-
  C01 — the serializer with `strip_whitespace=True`: `WhitespaceFilter` hands the serializer
  one `Markup` text per run, normalised after escaping; re-reading gives the stream with each
  run of character data normalised.
-/
import Genshi.Lemmas.SubstSer
import Genshi.Lemmas.SubstWs
namespace Genshi.Subst
open Genshi.Escape Genshi.Str

/-- the text a buffer is flushed as (before normalisation) -/
def bufText (buf : List (List Char × Bool)) : List Char :=
  (buf.map fun p => if p.2 then p.1 else escapePy false p.1).flatten

/-- what a flushed buffer is written as -/
def flOut (p : Nat) (s : List Char) : List Char := if p = 0 then normWs s else s

theorem bufText_append (a b : List (List Char × Bool)) : bufText (a ++ b) = bufText a ++ bufText b := by
  simp [bufText]

theorem Enc.normWs {s d : List Char} (h : Enc s d) : Enc (normWs s) (normWs d) := by
  obtain ⟨p, rfl, rfl⟩ := h
  obtain ⟨q, _, h1, h2⟩ := normWs_mixed p
  exact ⟨q, h1, h2⟩

theorem Enc.flOut {s d : List Char} (h : Enc s d) (p : Nat) : Enc (flOut p s) (if p = 0 then Subst.normWs d else d) := by
  unfold Subst.flOut
  split
  · exact h.normWs
  · exact h

/-- one more TEXT event in the buffer -/
theorem Enc.snoc {buf : List (List Char × Bool)} {pend : List Char} (h : Enc (bufText buf) pend) (s : List Char)
    (f : Bool) (hs : f = true → SafeOk s) : Enc (bufText (buf ++ [(s, f)])) (pend ++ textValue s f) := by
  rw [bufText_append]
  cases f with
  | false => exact h.append (by simpa [bufText, textValue] using Enc.escaped false s)
  | true => exact h.append (by simpa [bufText, textValue] using (hs rfl).enc)

theorem presStep_pred (pres : List Name) (p : Nat) (t : Name) : presStep pres p t - 1 = p := by
  unfold presStep
  split
  · simp
  · rename_i h
    simp only [Bool.or_eq_true, decide_eq_true_eq, not_or, Nat.not_lt, Nat.le_zero_eq] at h
    simp [h.1]

/-- the flushed buffer, read: the pending data, normalised outside a preserving element -/
theorem coalesce_wsFlush (p : Nat) (buf : List (List Char × Bool)) (pend : List Char) (h : Enc (bufText buf) pend)
    (rest : List Ev) :
    coalesceGo [] ((wsFlush p buf).flatMap tokEvents ++ rest) = coalesceGo (if p = 0 then normWs pend else pend) rest := by
  cases buf with
  | nil =>
    have : pend = [] := List.isEmpty_iff.mp h.isEmpty.symm
    simp [this, wsFlush, (by decide : normWs [] = [])]
  | cons x xs =>
    show coalesceGo [] (Ev.text (flOut p (bufText (x :: xs))) true :: rest) = _
    simp only [coalesceGo, textValue, if_true, List.nil_append, (h.flOut p).unescape]

theorem wsFlush_ok (m : Method) (p : Nat) (buf : List (List Char × Bool)) (hb : SafeOk (bufText buf)) :
    ∀ tok ∈ wsFlush p buf, TokOk m tok := by
  intro tok htok
  cases buf with
  | nil => cases htok
  | cons x xs =>
    cases List.mem_singleton.mp htok
    exact ⟨rfl, fun s e => by cases e; exact (hb.enc.flOut p).safeOk, fun _ _ e => nomatch e⟩

/-- **`WhitespaceFilter`**, for tokens the reader follows: it yields such tokens, and merging the character data of
    what it yields gives the stream with every run normalised outside preserving elements.  (The filter normalises
    the escaped text; `Enc.normWs`.) -/
theorem wsFilter_spec (m : Method) (pres noesc : List Name) (toks : List Tok) (hok : ∀ tok ∈ toks, TokOk m tok)
    (ho : ∀ t a, Tok.open t a ∈ toks → noesc.contains t = false) :
    ∀ (p : Nat) (buf : List (List Char × Bool)) (pend : List Char), Enc (bufText buf) pend →
      (∀ tok ∈ wsFilter pres noesc p false buf toks, TokOk m tok) ∧
      coalesceGo [] ((wsFilter pres noesc p false buf toks).flatMap tokEvents)
        = coalesceStripGo pres p pend (toks.flatMap tokEvents) := by
  induction toks with
  | nil =>
    intro p buf pend h
    exact ⟨wsFlush_ok m p buf h.safeOk,
      by simpa [wsFilter, coalesceGo, coalesceStripGo, flushDataP] using coalesce_wsFlush p buf pend h []⟩
  | cons t ts ih =>
    intro p buf pend h
    have ih' := ih (fun x hx => hok x (List.mem_cons_of_mem _ hx)) (fun t a h => ho t a (List.mem_cons_of_mem _ h))
    have ht := hok t List.mem_cons_self
    -- a tag: the flush, the tag itself, then the filter on an empty buffer
    have tag : ∀ p' tok, tok ∈ wsFlush p buf ++ t :: wsFilter pres noesc p' false [] ts → TokOk m tok := fun p' tok h' => by
      rcases List.mem_append.mp h' with h' | h'
      · exact wsFlush_ok m p buf h.safeOk tok h'
      · rcases List.mem_cons.mp h' with rfl | h'
        · exact ht
        · exact (ih' p' [] [] Enc.nil).1 tok h'
    cases t with
    | text s f =>
      simpa [wsFilter, tokEvents, coalesceStripGo] using ih' p _ _ (h.snoc s f fun e => ht.safe s (e ▸ rfl))
    | close t =>
      refine ⟨tag _, ?_⟩
      simp only [wsFilter, List.flatMap_append, List.flatMap_cons, tokEvents, List.cons_append, List.nil_append,
        coalesce_wsFlush p buf pend h, coalesceGo, coalesceStripGo, (ih' (p - 1) [] [] Enc.nil).2]
      rfl
    | «open» t a =>
      simp only [wsFilter, ho t a List.mem_cons_self, Bool.or_self]
      refine ⟨tag _, ?_⟩
      simp only [List.flatMap_append, List.flatMap_cons, tokEvents, List.cons_append, List.nil_append,
        coalesce_wsFlush p buf pend h, coalesceGo, coalesceStripGo]
      rw [← (ih' (presStep pres p t) [] [] Enc.nil).2]
      rfl
    | empty t a =>
      refine ⟨tag _, ?_⟩
      simp only [wsFilter, List.flatMap_append, List.flatMap_cons, tokEvents, List.cons_append, List.nil_append,
        coalesce_wsFlush p buf pend h, coalesceGo, coalesceStripGo, presStep_pred, (ih' p [] [] Enc.nil).2]
      simp [flushDataP, flushData, (by decide : normWs [] = [])]

/-- **re-reading what the serializer wrote with whitespace stripping** gives the stream with
    every run of character data merged, decoded and — outside whitespace-preserving elements —
    normalised -/
theorem readDoc_serialize_strip (m : Method) (evs : List Ev)
    (hev : ∀ e ∈ evs, evOkB m e = true)
    (hsafe : TextsOk evs) (hnest : emptyOkGo m none evs = true) :
    readDoc m (serialize m true evs) = some (coalesceStrip m evs) := by
  obtain ⟨h1, h2⟩ := emptyTags_ok m evs hev hsafe hnest
  have hne : ∀ t a, Tok.open t a ∈ emptyTags evs → (noescapeElems m).contains t = false := fun t a h => by
    have := (h1 _ h).ok
    simp only [tokOkB, Bool.and_eq_true, Bool.not_eq_true'] at this
    exact this.2
  simp only [serialize, ↓reduceIte]
  obtain ⟨k1, k2⟩ := wsFilter_spec m (preserveElems m) (noescapeElems m) _ h1 hne 0 [] [] Enc.nil
  rw [readDoc_serToks m _ k1, coalesce, k2, h2]
  rfl

end Genshi.Subst
