/-
  C01 — from substitution sites to streams: what `renderList` produces is a stream the
  serializer/reader theorems apply to, and merging its character data gives the skeleton with
  every payload verbatim.
-/
import Genshi.Lemmas.SubstStrip
import Genshi.Lemmas.SubstMod
import Genshi.Lemmas.SubstAttrs
namespace Genshi.Subst
open Genshi.Escape Genshi.Str

/-- the merge of character data with the flush `fl` of a run (at preserve depth `p`) left open: `coalesceGo` is it at
    `flushData`, `coalesceStripGo` at `flushDataP`, so what is proved of it holds of both merges -/
def coalesceWith (fl : Nat → List Char → List Ev) (pres : List Name) : Nat → List Char → List Ev → List Ev
  | p, pend, [] => fl p pend
  | p, pend, .text s f :: rest => coalesceWith fl pres p (pend ++ textValue s f) rest
  | p, pend, .start t a :: rest => fl p pend ++ .start t a :: coalesceWith fl pres (presStep pres p t) [] rest
  | p, pend, .end_ t :: rest => fl p pend ++ .end_ t :: coalesceWith fl pres (p - 1) [] rest

theorem coalesceGo_eq_with (pres : List Name) (pend : List Char) (evs : List Ev) :
    ∀ p, coalesceGo pend evs = coalesceWith (fun _ => flushData) pres p pend evs := by
  induction evs generalizing pend with
  | nil => intro p; rfl
  | cons e es ih => intro p; cases e <;> simp only [coalesceGo, coalesceWith] <;> rw [ih]

theorem coalesceStripGo_eq_with (pres : List Name) (p : Nat) (pend : List Char) (evs : List Ev) :
    coalesceStripGo pres p pend evs = coalesceWith flushDataP pres p pend evs := by
  induction evs generalizing pend p with
  | nil => rfl
  | cons e es ih => cases e <;> simp [coalesceStripGo, coalesceWith, ih]

/-- two event lists a reader cannot tell apart, in any context — for every way `fl` of flushing a run of
    character data, so that the one relation serves `coalesce`, `coalesceStrip` and, through the marking
    flush `flMark` (`SubstRaw.lean`), the raw-aware merge -/
def TEq (a b : List Ev) : Prop :=
  ∀ (fl : Nat → List Char → List Ev) (pres : List Name) (p : Nat) (pend : List Char) (rest : List Ev),
    coalesceWith fl pres p pend (a ++ rest) = coalesceWith fl pres p pend (b ++ rest)

theorem TEq.refl (a : List Ev) : TEq a a := fun _ _ _ _ _ => rfl

theorem TEq.trans {a b c : List Ev} (h1 : TEq a b) (h2 : TEq b c) : TEq a c :=
  fun fl pres p pend rest => (h1 fl pres p pend rest).trans (h2 fl pres p pend rest)

theorem TEq.append {a a' b b' : List Ev} (h1 : TEq a a') (h2 : TEq b b') : TEq (a ++ b) (a' ++ b') := by
  intro fl pres p pend rest
  rw [List.append_assoc, List.append_assoc, h1 fl pres p pend (b ++ rest)]
  have key : ∀ (x : List Ev) (p : Nat) (pend : List Char),
      coalesceWith fl pres p pend (x ++ (b ++ rest)) = coalesceWith fl pres p pend (x ++ (b' ++ rest)) := by
    intro x
    induction x with
    | nil => intro p pend; exact h2 fl pres p pend rest
    | cons e es ih => intro p pend; cases e <;> simp [coalesceWith, ih]
  exact key a' p pend

theorem TEq.wrap {a a' : List Ev} (t : Name) (at_ : List (Name × List Char)) (h : TEq a a') :
    TEq (.start t at_ :: (a ++ [.end_ t])) (.start t at_ :: (a' ++ [.end_ t])) := by
  intro fl pres p pend rest
  simp only [List.cons_append, List.append_assoc, coalesceWith]
  rw [h fl pres (presStep pres p t) [] (.end_ t :: ([] ++ rest))]

theorem TEq.coalesce {a b : List Ev} (h : TEq a b) : coalesce a = coalesce b := by
  simpa [Subst.coalesce, ← coalesceGo_eq_with] using h (fun _ => flushData) [] 0 [] []

theorem TEq.coalesceStrip {a b : List Ev} (m : Method) (h : TEq a b) : coalesceStrip m a = coalesceStrip m b := by
  simpa [Subst.coalesceStrip, ← coalesceStripGo_eq_with] using h flushDataP (preserveElems m) 0 [] []

/-- the character data of a list of TEXT events (other events contribute nothing: not used for them) -/
def dataOf : List Ev → List Char
  | [] => []
  | .text s f :: rest => textValue s f ++ dataOf rest
  | _ :: rest => dataOf rest

def allText (evs : List Ev) : Prop := ∀ e ∈ evs, ∃ s f, e = .text s f

theorem allText_single (s : List Char) (f : Bool) : allText [.text s f] := by
  intro e he; exact ⟨s, f, List.mem_singleton.mp he⟩

theorem coalesceWith_texts (fl : Nat → List Char → List Ev) (pres : List Name) (p : Nat) (evs : List Ev)
    (h : allText evs) :
    ∀ pend rest, coalesceWith fl pres p pend (evs ++ rest) = coalesceWith fl pres p (pend ++ dataOf evs) rest := by
  induction evs with
  | nil => intro pend rest; simp [dataOf]
  | cons e es ih =>
    intro pend rest
    obtain ⟨s, f, rfl⟩ := h e (by simp)
    simp only [List.cons_append, coalesceWith, dataOf]
    rw [ih (fun x hx => h x (List.mem_cons_of_mem _ hx))]
    simp

theorem TEq.texts {a b : List Ev} (ha : allText a) (hb : allText b) (h : dataOf a = dataOf b) : TEq a b := by
  intro fl pres p pend rest
  rw [coalesceWith_texts fl pres p a ha, coalesceWith_texts fl pres p b hb, h]

/-- a segment made of complete elements and character data: `EmptyTagFilter`'s nesting check passes over it
    from the idle state, and after a pending START of `t` it needs `t` to be allowed content (unless the
    segment is empty: then the START is still pending) -/
def Closed (m : Method) (evs : List Ev) : Prop :=
  (∀ rest, emptyOkGo m none (evs ++ rest) = emptyOkGo m none rest) ∧
  (∀ t rest, evs ≠ [] → emptyOkGo m (some t) (evs ++ rest) = (openOk m t && emptyOkGo m none rest))

/-- "a stream the serializer / reader theorems apply to": the hypotheses of `readDoc_serialize_nostrip` / `_strip`, with
    the nesting said as `Closed` so that `++` and wrapping in an element keep them -/
structure StreamOk (m : Method) (evs : List Ev) : Prop where
  ev : ∀ e ∈ evs, evOkB m e = true
  safe : TextsOk evs
  closed : Closed m evs

/-- no START of a raw-text element: the serializer's `noescape` flag stays off over the stream, and the raw-aware merge
    is the plain one -/
def StartsOk (m : Method) (evs : List Ev) : Prop :=
  ∀ t a, Ev.start t a ∈ evs → (noescapeElems m).contains t = false

theorem startsOk_of_ev {m : Method} {evs : List Ev} (h : ∀ e ∈ evs, evOkB m e = true) : StartsOk m evs := by
  intro t a hm
  have := h _ hm
  simp only [evOkB, Bool.and_eq_true, Bool.not_eq_true'] at this
  exact this.2

theorem StreamOk.nil (m : Method) : StreamOk m [] :=
  ⟨by simp, by intro s h; simp at h, ⟨by simp, by intro t rest h; exact absurd rfl h⟩⟩

theorem StreamOk.text (m : Method) (s : List Char) (f : Bool) (h : f = true → SafeOk s) :
    StreamOk m [.text s f] := by
  refine ⟨by simp [evOkB], ?_, ⟨by simp [emptyOkGo], by intro t rest _; simp [emptyOkGo]⟩⟩
  intro s' hs'
  simp only [List.mem_singleton, Ev.text.injEq] at hs'
  rw [hs'.1]; exact h hs'.2.symm

theorem Closed.append {m : Method} {a b : List Ev} (ha : Closed m a) (hb : Closed m b) : Closed m (a ++ b) := by
  refine ⟨?_, ?_⟩
  · intro rest
    rw [List.append_assoc, ha.1, hb.1]
  · intro t rest hne
    by_cases hae : a = []
    · subst hae
      simp only [List.nil_append] at hne ⊢
      exact hb.2 t rest hne
    · rw [List.append_assoc, ha.2 t _ hae, hb.1]

theorem Closed.emptyOk {m : Method} {evs : List Ev} (h : Closed m evs) : emptyOkGo m none evs = true := by
  simpa [emptyOkGo] using h.1 []

theorem Closed.wrap {m : Method} {kids : List Ev} (t : Name) (at_ : List (Name × List Char))
    (hvoid : openOk m t = true ∨ kids = []) (hk : Closed m kids) :
    Closed m (.start t at_ :: (kids ++ [.end_ t])) := by
  have hkey : ∀ rest, emptyOkGo m (some t) (kids ++ (.end_ t :: rest)) = emptyOkGo m none rest := by
    intro rest
    by_cases hke : kids = []
    · subst hke; simp [emptyOkGo]
    · rw [hk.2 t _ hke]
      rcases hvoid with h | h
      · simp [h, emptyOkGo]
      · exact absurd h hke
  refine ⟨?_, ?_⟩
  · intro rest
    simp only [List.cons_append, List.append_assoc, emptyOkGo, List.nil_append]
    exact hkey rest
  · intro t' rest _
    simp only [List.cons_append, List.append_assoc, emptyOkGo, List.nil_append]
    rw [hkey rest]

theorem StreamOk.append {m : Method} {a b : List Ev} (ha : StreamOk m a) (hb : StreamOk m b) :
    StreamOk m (a ++ b) :=
  ⟨fun e he => (List.mem_append.mp he).elim (ha.ev e) (hb.ev e),
   fun s hs => (List.mem_append.mp hs).elim (ha.safe s) (hb.safe s), ha.closed.append hb.closed⟩

theorem StreamOk.wrap {m : Method} {kids : List Ev} (t : Name) (at_ : List (Name × List Char))
    (ht : tagOkB m t = true) (hat : attrsOkB m at_ = true) (hvoid : openOk m t = true ∨ kids = [])
    (hk : StreamOk m kids) : StreamOk m (.start t at_ :: (kids ++ [.end_ t])) := by
  simp only [tagOkB, Bool.and_eq_true, Bool.not_eq_true'] at ht
  obtain ⟨hn, hne⟩ := ht
  refine ⟨?_, ?_, Closed.wrap t at_ hvoid hk.closed⟩
  · intro e he
    simp only [List.mem_cons, List.mem_append, List.not_mem_nil, or_false] at he
    rcases he with rfl | h | rfl
    · simp only [evOkB, hn, hne, hat]; simp
    · exact hk.ev e h
    · simp [evOkB, hn]
  · intro s hs
    simp only [List.mem_cons, List.mem_append, List.not_mem_nil, or_false] at hs
    rcases hs with h | h | h
    · cases h
    · exact hk.safe s h
    · cases h

/-- **re-reading a stream the theorems apply to** gives what it reads as, character data merged and — with whitespace
    stripping — normalised: the serializer / reader stages behind every `structure_preserved` theorem -/
theorem StreamOk.read {m : Method} {evs exp : List Ev} (hs : StreamOk m evs) (ht : TEq evs exp) (strip : Bool) :
    readDoc m (serialize m strip evs) = some (if strip then coalesceStrip m exp else coalesce exp) := by
  cases strip with
  | false => rw [readDoc_serialize_nostrip m _ hs.ev hs.safe hs.closed.emptyOk, ht.coalesce]; rfl
  | true => rw [readDoc_serialize_strip m _ hs.ev hs.safe hs.closed.emptyOk, ht.coalesceStrip]; rfl

def EnvOk (env : Env) : Prop := ∀ x ∈ env, scalarOkB x = true

theorem evalAtom_ok (env : Env) (a : Atom) (ha : atomOkB a = true) (he : EnvOk env) :
    scalarOkB (evalAtom env a) = true := by
  cases a with
  | lit x => exact ha
  | var i =>
    simp only [evalAtom, List.getD_eq_getElem?_getD]
    cases h : env[i]? with
    | none => rfl
    | some x => exact he x (List.mem_of_getElem? h)

theorem evalV_ok (env : Env) (e : VExpr) (h : vexprOkB e = true) (he : EnvOk env) :
    valOkB (evalV env e) = true := by
  cases e with
  | val v => exact h
  | var i =>
    have := evalAtom_ok env (.var i) rfl he
    simpa [evalV, valOkB, evalAtom] using this
  | listOf items =>
    simp only [evalV, valOkB, List.all_map, List.all_eq_true, Function.comp_apply]
    intro a ha
    exact evalAtom_ok env a ((List.all_eq_true.mp h) a ha) he

theorem EnvOk.cons {env : Env} {x : Scalar} (hx : scalarOkB x = true) (he : EnvOk env) : EnvOk (x :: env) := by
  intro y hy
  rcases List.mem_cons.mp hy with rfl | h
  · exact hx
  · exact he y h

theorem dataOf_append (a b : List Ev) : dataOf (a ++ b) = dataOf a ++ dataOf b := by
  induction a with
  | nil => rfl
  | cons e es ih => cases e <;> simp [dataOf, ih]

/-- TEXT events only, the `Markup` ones escaped text, standing together for the character data `d`: what a value
    at a text site or a builder argument renders to -/
def TextsFor (evs : List Ev) (d : List Char) : Prop :=
  (∀ e ∈ evs, ∃ s f, e = .text s f ∧ (f = true → SafeOk s)) ∧ dataOf evs = d

theorem TextsFor.nil : TextsFor [] [] := ⟨fun _ h => (nomatch h), rfl⟩

theorem TextsFor.one (s : List Char) (f : Bool) (h : f = true → SafeOk s) : TextsFor [.text s f] (textValue s f) :=
  ⟨fun _ he => ⟨s, f, List.mem_singleton.mp he, h⟩, List.append_nil _⟩

theorem TextsFor.append {a b : List Ev} {x y : List Char} (h1 : TextsFor a x) (h2 : TextsFor b y) :
    TextsFor (a ++ b) (x ++ y) :=
  ⟨fun e he => (List.mem_append.mp he).elim (h1.1 e) (h2.1 e), by rw [← h1.2, ← h2.2, dataOf_append]⟩

/-- … which is a stream the theorems apply to and reads as the one text `d` -/
theorem TextsFor.spec (m : Method) {evs : List Ev} {d : List Char} (h : TextsFor evs d) :
    StreamOk m evs ∧ TEq evs [.text d false] := by
  refine ⟨?_, TEq.texts (fun e he => (h.1 e he).imp fun s hs => hs.imp fun f hf => hf.1) (allText_single d false)
    (by simp [h.2, dataOf, textValue])⟩
  have h1 := h.1
  clear h
  induction evs with
  | nil => exact StreamOk.nil m
  | cons e es ih =>
    obtain ⟨s, f, rfl, hs⟩ := h1 _ List.mem_cons_self
    exact (StreamOk.text m s f hs).append (ih fun x hx => h1 x (List.mem_cons_of_mem _ hx))

/-- a text site writes a scalar as the builder writes a child; for a number this is the generated
    `numberConvSafe = false` (`_number_conv` does not mark its text safe) -/
theorem flattenVal_one (x : Scalar) : flattenVal (.one x) = bchildEvents x := by cases x <;> rfl

theorem flattenVal_texts (v : Val) (hv : valOkB v = true) : TextsFor (flattenVal v) (valText v) := by
  cases v with
  | one x =>
    cases x with
    | none => exact TextsFor.nil
    | markup s => exact TextsFor.one s true fun _ => safeOk_of_B s hv
    | _ => exact TextsFor.one _ false fun e => nomatch e
  | many xs =>
    simp only [flattenVal, valText, List.map_eq_flatMap]
    exact flatMap_rel TextsFor.nil TextsFor.append _ _ xs fun x _ => TextsFor.one (pyStr x) false fun e => nomatch e

theorem bchildEvents_texts (x : Scalar) (hx : scalarOkB x = true) : TextsFor (bchildEvents x) (bchildText x) := by
  cases x with
  | none => exact TextsFor.nil
  | markup s => exact TextsFor.one s true fun _ => safeOk_of_B s hx
  | _ => exact TextsFor.one _ false fun e => nomatch e

theorem bvalEvents_texts (v : Val) (hv : valOkB v = true) : TextsFor (bvalEvents v) (bvalText v) := by
  cases v with
  | one x => exact bchildEvents_texts x hv
  | many xs => exact flatMap_rel TextsFor.nil TextsFor.append _ _ xs fun x hx => bchildEvents_texts x (List.all_eq_true.mp hv x hx)

/-- the attributes of a START event: those of the element whose specification yields a value -/
theorem mem_evalAttrs (env : Env) (attrib : List (Name × AttrSpec)) (n : Name) (v : List Char) :
    (n, v) ∈ evalAttrs env attrib ↔ ∃ sp, (n, sp) ∈ attrib ∧ attrValue env sp = some v := by
  simp only [evalAttrs, List.mem_filterMap]
  constructor
  · rintro ⟨⟨k, sp⟩, hq, hqv⟩
    cases hv : attrValue env sp with
    | none => simp [hv] at hqv
    | some w =>
      simp only [hv, Option.map_some, Option.some.injEq, Prod.mk.injEq] at hqv
      obtain ⟨rfl, rfl⟩ := hqv
      exact ⟨sp, hq, hv⟩
  · rintro ⟨sp, hq, hv⟩
    exact ⟨(n, sp), hq, by simp [hv]⟩

theorem evalAttrs_ok (m : Method) (env : Env) (attrib : List (Name × AttrSpec))
    (h : ∀ p ∈ attrib, attrNameOkB m p.1 = true) : attrsOkB m (evalAttrs env attrib) = true := by
  simp only [attrsOkB, List.all_eq_true]
  rintro ⟨n, v⟩ hp
  obtain ⟨sp, hq, _⟩ := (mem_evalAttrs env attrib n v).mp hp
  exact h (n, sp) hq

theorem applyPyAttrs_names (m : Method) (env : Env) (attrs : List (Name × AttrSpec))
    (items : List (Name × Atom))
    (ha : ∀ p ∈ attrs, attrNameOkB m p.1 = true) (hi : ∀ p ∈ items, attrNameOkB m p.1 = true) :
    ∀ p ∈ applyPyAttrs env attrs items, attrNameOkB m p.1 = true := by
  intro p hp
  rw [applyPyAttrs_eq] at hp
  rcases gOr_names _ _ p hp with ⟨q, hq, hqn⟩ | ⟨q, hq, hqn⟩
  · rw [← hqn]; exact ha q hq
  · obtain ⟨r, hr, rfl⟩ := List.mem_map.mp hq
    rw [← hqn]; exact hi r hr

/-- the builder's keyword attributes: `None` and repeated names are skipped -/
theorem kwAttrs_cons (env : Env) (n : Name) (a : Atom) (rest : List (Name × Atom)) (seen : List Name) :
    kwAttrs env ((n, a) :: rest) seen =
      if evalAtom env a = .none ∨ seen.contains n = true then kwAttrs env rest seen
      else (n, some (pyStr (evalAtom env a))) :: kwAttrs env rest (n :: seen) := by
  simp only [kwAttrs]
  cases evalAtom env a <;> simp

theorem kwAttrs_names (env : Env) (attrs : List (Name × Atom)) :
    ∀ seen, ∀ p ∈ kwAttrs env attrs seen, ∃ q ∈ attrs, q.1 = p.1 := by
  induction attrs with
  | nil => intro seen p hp; simp [kwAttrs] at hp
  | cons a as ih =>
    intro seen p hp
    have lift : ∀ seen, p ∈ kwAttrs env as seen → ∃ q ∈ a :: as, q.1 = p.1 := fun seen hp =>
      (ih seen p hp).imp fun q h => ⟨List.mem_cons_of_mem _ h.1, h.2⟩
    rw [kwAttrs_cons] at hp
    split at hp
    · exact lift _ hp
    · rcases List.mem_cons.mp hp with rfl | hp'
      · exact ⟨_, List.mem_cons_self, rfl⟩
      · exact lift _ hp'

theorem builderAttrs_ok (m : Method) (env : Env) (attrs : List (Name × Atom))
    (h : ∀ p ∈ attrs, attrNameOkB m p.1 = true) :
    attrsOkB m (Attrs.or [] (kwAttrs env attrs [])) = true := by
  simp only [attrsOkB, List.all_eq_true]
  intro p hp
  rw [attrsOr_eq_gOr] at hp
  rcases gOr_names _ _ p hp with ⟨q, hq, _⟩ | ⟨q, hq, hqn⟩
  · cases hq
  · obtain ⟨r, hr, hrn⟩ := kwAttrs_names env attrs [] q hq
    have := h r hr
    simp only [attrNameOkB] at this
    rw [← hqn, ← hrn]; exact this

/-- an element may hold content, or has none -/
theorem openOk_or_nil {β γ : Type} {m : Method} {t : Name} {kids : List β} (f : List β → List γ) (hf : f [] = [])
    (h : (openOk m t || kids.isEmpty) = true) : openOk m t = true ∨ f kids = [] := by
  cases kids with
  | nil => exact Or.inr hf
  | cons _ _ => exact Or.inl (by simpa using h)

/-- induction over templates: a property `P` of nodes and `Q` of node lists, together (and the same for builder
    children); the properties of `renderNode` / `expectedNode` / the template domains are proved along these -/
theorem Node.induct {P : Node → Prop} {Q : List Node → Prop}
    (lit : ∀ s, P (.lit s)) (site : ∀ e, P (.site e))
    (el : ∀ t attrs pa kids, Q kids → P (.el t attrs pa kids))
    (loop : ∀ e kids, Q kids → P (.loop e kids)) (bind : ∀ a kids, Q kids → P (.bind a kids))
    (cond : ∀ b kids, Q kids → P (.cond b kids))
    (nil : Q []) (cons : ∀ n ns, P n → Q ns → Q (n :: ns)) : (∀ n, P n) ∧ ∀ ns, Q ns :=
  ⟨fun n => Node.rec (motive_1 := P) (motive_2 := Q) lit site el loop bind cond nil cons n,
   fun ns => Node.rec_1 (motive_1 := P) (motive_2 := Q) lit site el loop bind cond nil cons ns⟩

theorem BKid.induct {P : BKid → Prop} {Q : List BKid → Prop} (arg : ∀ e, P (.arg e))
    (el : ∀ t attrs kids, Q kids → P (.el t attrs kids))
    (nil : Q []) (cons : ∀ b bs, P b → Q bs → Q (b :: bs)) : (∀ b, P b) ∧ ∀ bs, Q bs :=
  ⟨fun b => BKid.rec (motive_1 := P) (motive_2 := Q) arg el nil cons b,
   fun bs => BKid.rec_1 (motive_1 := P) (motive_2 := Q) arg el nil cons bs⟩

theorem bkid_spec (m : Method) (env : Env) (he : EnvOk env) :
    (∀ b : BKid, bkidOkB m b = true → StreamOk m (bkidEvents env b) ∧ TEq (bkidEvents env b) (expectedB env b)) ∧
    ∀ bs : List BKid, bkidsOkB m bs = true →
      StreamOk m (bkidsEvents env bs) ∧ TEq (bkidsEvents env bs) (expectedBs env bs) := by
  refine BKid.induct ?_ ?_ ?_ ?_
  · exact fun e h => (bvalEvents_texts _ (evalV_ok env e (by simpa [bkidOkB] using h) he)).spec m
  · intro t attrs kids ih h
    simp only [bkidOkB, Bool.and_eq_true] at h
    obtain ⟨⟨⟨ht, ha⟩, hvoid⟩, hk⟩ := h
    obtain ⟨k1, k2⟩ := ih hk
    have hattrs : ∀ p ∈ attrs, attrNameOkB m p.1 = true := fun p hp =>
      (Bool.and_eq_true _ _ ▸ List.all_eq_true.mp ha p hp).1
    exact ⟨StreamOk.wrap t _ ht (builderAttrs_ok m env attrs hattrs) (openOk_or_nil (bkidsEvents env) rfl hvoid) k1,
      by simp only [bkidEvents, expectedB]; exact TEq.wrap t _ k2⟩
  · exact fun _ => ⟨StreamOk.nil m, TEq.refl _⟩
  · intro b bs ih1 ih2 h
    simp only [bkidsOkB, Bool.and_eq_true] at h
    exact ⟨StreamOk.append (ih1 h.1).1 (ih2 h.2).1, TEq.append (ih1 h.1).2 (ih2 h.2).2⟩

/-- a `Markup` text that is escaped text for `d` is a stream the theorems apply to, and reads as `d` -/
theorem Enc.text (m : Method) {s d : List Char} (h : Enc s d) :
    StreamOk m [.text s true] ∧ TEq [.text s true] [.text d false] :=
  ⟨StreamOk.text m s true fun _ => h.safeOk,
    TEq.texts (allText_single s true) (allText_single d false) (by simp [dataOf, textValue, h.unescape])⟩

theorem site_spec (m : Method) (env : Env) (e : SExpr) (hs : sexprOkB m e = true)
    (hd : siteOk env e = true) (he : EnvOk env) :
    StreamOk m (evalSite env e) ∧ TEq (evalSite env e) (expectedSite env e) := by
  -- an operand in the domain, escaped
  have hop : ∀ a, atomOkB a = true → atomOk env a = true → ∀ q,
      Enc (escOpnd escapePy q (toOpnd (evalAtom env a))) (opndText (evalAtom env a)) :=
    fun a h1 h2 q => Enc.opnd _ h2 (evalAtom_ok env a h1 he) q
  cases e with
  | v e =>
    exact (flattenVal_texts _ (evalV_ok env e hs he)).spec m
  | add mk a =>
    simp only [sexprOkB, Bool.and_eq_true] at hs
    exact ((Enc.ofB hs.1).append (hop a hs.2 hd true)).text m
  | radd mk a =>
    simp only [sexprOkB, Bool.and_eq_true] at hs
    exact ((hop a hs.2 hd true).append (Enc.ofB hs.1)).text m
  | esc a q => exact (hop a hs hd q).text m
  | join sep items =>
    simp only [sexprOkB, Bool.and_eq_true] at hs
    have hitems := LR.map (R := Enc) (fun a => escOpnd escapePy true (toOpnd (evalAtom env a)))
      (fun a => opndText (evalAtom env a)) items
      fun a ha => hop a (List.all_eq_true.mp hs.2 a ha) (List.all_eq_true.mp hd a ha) true
    simpa [evalSite, markupOp, mJoin, expectedSite, List.map_map, Function.comp_def] using
      (Enc.join (Enc.ofB hs.1) hitems).text m
  | fmt f args =>
    simp only [sexprOkB, Bool.and_eq_true] at hs
    simp only [siteOk, Bool.and_eq_true] at hd
    have hargs : FArgsDom env args := by
      have hs2 := hs.2
      have hd1 := hd.1
      cases args with
      | one a => exact ⟨hd1, evalAtom_ok env a hs2 he⟩
      | tup as => exact fun a ha => ⟨List.all_eq_true.mp hd1 a ha, evalAtom_ok env a (List.all_eq_true.mp hs2 a ha) he⟩
      | map kvs =>
        exact fun p hp => ⟨List.all_eq_true.mp hd1 p hp, evalAtom_ok env p.2 (List.all_eq_true.mp hs2 p hp) he⟩
    obtain ⟨m1, m2⟩ := mMod_spec env f args (benign_of_B f hs.1) hargs
    simp only [evalSite, markupOp, expectedSite]
    cases hr : mMod escapePy f (evalFArgs env args) with
    | ok s =>
      obtain ⟨k1, k2⟩ := m1 s hr
      simp only [k2]
      exact k1.enc.text m
    | error e =>
      simp only [m2 e hr]
      exact ⟨StreamOk.nil m, TEq.refl _⟩
  | fmtp ps as => simp [sexprOkB] at hs
  | build b =>
    simpa [evalSite, expectedSite] using (bkid_spec m env he).1 b (by simpa [sexprOkB] using hs)
  | frag kids =>
    simpa [evalSite, expectedSite] using (bkid_spec m env he).2 kids (by simpa [sexprOkB] using hs)

theorem itemsOf_ok (v : Val) (h : valOkB v = true) : ∀ x ∈ itemsOf v, scalarOkB x = true := by
  cases v with
  | one x => intro y hy; simp [itemsOf] at hy
  | many xs => intro y hy; exact (List.all_eq_true.mp h) y hy

/-- the attributes of an element before interpolation, after `py:attrs` -/
def attribOf (env : Env) (attrs : List (Name × AttrSpec)) (pa : Option (List (Name × Atom))) :
    List (Name × AttrSpec) :=
  match pa with
  | none => attrs
  | some items => applyPyAttrs env attrs items

theorem renderNode_el (env : Env) (t : Name) (attrs : List (Name × AttrSpec))
    (pa : Option (List (Name × Atom))) (kids : List Node) :
    renderNode env (.el t attrs pa kids) =
      .start t (evalAttrs env (attribOf env attrs pa)) :: (renderList env kids ++ [.end_ t]) := by
  cases pa <;> simp [renderNode, attribOf]

theorem expectedNode_el (env : Env) (t : Name) (attrs : List (Name × AttrSpec))
    (pa : Option (List (Name × Atom))) (kids : List Node) :
    expectedNode env (.el t attrs pa kids) =
      .start t (evalAttrs env (attribOf env attrs pa)) :: (expectedList env kids ++ [.end_ t]) := by
  cases pa <;> simp [expectedNode, attribOf]

/-- the evaluated attributes of an element of the template domains are attributes the serializer writes plainly -/
theorem attribOf_ok (m : Method) (env : Env) (attrs : List (Name × AttrSpec)) (pa : Option (List (Name × Atom)))
    (ha : attrs.all (fun p => attrNameOkB m p.1 && attrSpecOkB p.2) = true)
    (hpa : (match pa with
      | none => true
      | some items => items.all fun p => attrNameOkB m p.1 && atomOkB p.2) = true) :
    attrsOkB m (evalAttrs env (attribOf env attrs pa)) = true := by
  have hattrs : ∀ p ∈ attrs, attrNameOkB m p.1 = true := fun p hp =>
    (Bool.and_eq_true _ _ ▸ List.all_eq_true.mp ha p hp).1
  apply evalAttrs_ok
  cases pa with
  | none => exact hattrs
  | some items =>
    exact applyPyAttrs_names m env attrs items hattrs fun p hp =>
      (Bool.and_eq_true _ _ ▸ List.all_eq_true.mp hpa p hp).1

/-- What a relation between a rendered stream and its specification needs to be carried through a
    template: it holds of streams the serializer / reader theorems apply to, and is closed under
    concatenation and under wrapping in an element. -/
structure TmplRel (m : Method) (R : List Ev → List Ev → Prop) : Prop where
  of_spec : ∀ {evs exp : List Ev}, StreamOk m evs → TEq evs exp → R evs exp
  append : ∀ {a b ea eb : List Ev}, R a ea → R b eb → R (a ++ b) (ea ++ eb)
  wrap : ∀ {kids exp : List Ev} (t : Name) (at_ : List (Name × List Char)), tagOkB m t = true →
    attrsOkB m at_ = true → openOk m t = true → R kids exp →
    R (Ev.start t at_ :: (kids ++ [Ev.end_ t])) (Ev.start t at_ :: (exp ++ [Ev.end_ t]))

/-- The template domains (`nodeOkB`; `nodeOkM`, `nodeOkW` with author markup at `%` sites) differ only in
    the sites `sok` they admit: each unfolds like this. -/
structure TmplDom (m : Method) (sok : SExpr → Bool) (ok : Node → Bool) (oks : List Node → Bool) : Prop where
  site : ∀ e, ok (.site e) = sok e
  el : ∀ t attrs pa kids, ok (.el t attrs pa kids) =
    (tagOkB m t && attrs.all (fun p => attrNameOkB m p.1 && attrSpecOkB p.2) &&
      (match pa with
        | none => true
        | some items => items.all fun p => attrNameOkB m p.1 && atomOkB p.2) &&
      (openOk m t || kids.isEmpty) && oks kids)
  loop : ∀ e kids, ok (.loop e kids) = (vexprOkB e && oks kids)
  bind : ∀ a kids, ok (.bind a kids) = (atomOkB a && oks kids)
  cond : ∀ b kids, ok (.cond b kids) = oks kids
  cons : ∀ n ns, oks (n :: ns) = (ok n && oks ns)

/-- the induction over templates for these domains: a relation that holds at the admitted sites holds of the
    template.  (The raw-text domain `nodeOkR` depends on the environment and has its own, `node_specR`.) -/
theorem tmpl_induct {m : Method} {R : List Ev → List Ev → Prop} (hR : TmplRel m R) {sok : SExpr → Bool}
    {ok : Node → Bool} {oks : List Node → Bool} (hD : TmplDom m sok ok oks)
    (hsite : ∀ env e, sok e = true → siteOk env e = true → EnvOk env → R (evalSite env e) (expectedSite env e)) :
    (∀ (n : Node) (env : Env), ok n = true → nodeOk env n = true → EnvOk env →
      R (renderNode env n) (expectedNode env n)) ∧
    ∀ (ns : List Node) (env : Env), oks ns = true → listOk env ns = true → EnvOk env →
      R (renderList env ns) (expectedList env ns) := by
  refine Node.induct ?_ ?_ ?_ ?_ ?_ ?_ ?_ ?_
  · intro s env _ _ _
    simpa [renderNode, expectedNode] using
      (hR.of_spec (StreamOk.text m s false (by simp)) (TEq.refl _) : R [.text s false] [.text s false])
  · intro e env hs hd he
    simpa [renderNode, expectedNode] using hsite env e (by rw [← hD.site]; exact hs)
      (by simpa [nodeOk] using hd) he
  · intro t attrs pa kids ih env hs hd he
    simp only [hD.el, Bool.and_eq_true] at hs
    obtain ⟨⟨⟨⟨ht, ha⟩, hpa⟩, hvoid⟩, hk⟩ := hs
    have hattrib := attribOf_ok m env attrs pa ha hpa
    rw [renderNode_el, expectedNode_el]
    cases kids with
    | nil =>
      simp only [renderList, expectedList]
      exact hR.of_spec (StreamOk.wrap t _ ht hattrib (Or.inr rfl) (StreamOk.nil m)) (TEq.refl _)
    | cons k ks =>
      have hopen : openOk m t = true := by simpa using hvoid
      exact hR.wrap t _ ht hattrib hopen (ih env hk (by simpa [nodeOk] using hd) he)
  · intro e kids ih env hs hd he
    simp only [hD.loop, Bool.and_eq_true] at hs
    have hx := itemsOf_ok _ (evalV_ok env e hs.1 he)
    simp only [nodeOk, List.all_eq_true] at hd
    simp only [renderNode, expectedNode]
    exact flatMap_rel (hR.of_spec (StreamOk.nil m) (TEq.refl _)) hR.append _ _ _ fun x hxm =>
      ih (x :: env) hs.2 (hd x hxm) (EnvOk.cons (hx x hxm) he)
  · intro a kids ih env hs hd he
    simp only [hD.bind, Bool.and_eq_true] at hs
    simpa [renderNode, expectedNode] using
      ih (evalAtom env a :: env) hs.2 (by simpa [nodeOk] using hd) (EnvOk.cons (evalAtom_ok env a hs.1 he) he)
  · intro b kids ih env hs hd he
    cases b with
    | false => simpa [renderNode, expectedNode] using hR.of_spec (StreamOk.nil m) (TEq.refl _)
    | true =>
      simpa [renderNode, expectedNode] using
        ih env (by rw [← hD.cond]; exact hs) (by simpa [nodeOk] using hd) he
  · intro env _ _ _
    simpa [renderList, expectedList] using hR.of_spec (StreamOk.nil m) (TEq.refl _)
  · intro n ns ih1 ih2 env hs hd he
    simp only [hD.cons, Bool.and_eq_true] at hs
    simp only [listOk, Bool.and_eq_true] at hd
    simp only [renderList, expectedList]
    exact hR.append (ih1 env hs.1 hd.1 he) (ih2 env hs.2 hd.2 he)

theorem tmplRel_spec (m : Method) : TmplRel m fun evs exp => StreamOk m evs ∧ TEq evs exp where
  of_spec hs ht := ⟨hs, ht⟩
  append h1 h2 := ⟨StreamOk.append h1.1 h2.1, TEq.append h1.2 h2.2⟩
  wrap t at_ ht hat hopen hk := ⟨StreamOk.wrap t at_ ht hat (Or.inl hopen) hk.1, TEq.wrap t at_ hk.2⟩

theorem tmplDom_B (m : Method) : TmplDom m (sexprOkB m) (nodeOkB m) (nodesOkB m) :=
  ⟨fun _ => rfl, fun _ _ _ _ => rfl, fun _ _ => rfl, fun _ _ => rfl, fun _ _ => rfl, fun _ _ => rfl⟩

theorem node_spec (m : Method) : ∀ (n : Node) (env : Env), nodeOkB m n = true → nodeOk env n = true →
      EnvOk env → StreamOk m (renderNode env n) ∧ TEq (renderNode env n) (expectedNode env n) :=
  (tmpl_induct (tmplRel_spec m) (tmplDom_B m) (site_spec m)).1

theorem list_spec (m : Method) : ∀ (ns : List Node) (env : Env), nodesOkB m ns = true → listOk env ns = true →
      EnvOk env → StreamOk m (renderList env ns) ∧ TEq (renderList env ns) (expectedList env ns) :=
  (tmpl_induct (tmplRel_spec m) (tmplDom_B m) (site_spec m)).2

end Genshi.Subst
