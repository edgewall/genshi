/-
  C01 — whitespace stripping commutes with escaping: the two regular expressions of
  `WhitespaceFilter` act on blanks and newlines only, which escaping leaves alone and never
  produces.
-/
import Genshi.Lemmas.Subst
import Genshi.Model.SubstEmit
namespace Genshi.Subst
open Genshi.Escape Genshi.Str

/-! Both regular expressions are one right-to-left pass that drops a character of some class when a
    newline follows it: blanks for `trimTrailing`, the newline itself for `collapseLines`. -/

def dropStep (d : Char → Bool) (c : Char) (acc : List Char) : List Char :=
  if d c && acc.head? = some '\n' then acc else c :: acc

def isNl (c : Char) : Bool := c = '\n'

theorem trimTrailing_eq (s : List Char) : trimTrailing s = s.foldr (dropStep isBlank) [] := rfl

theorem collapseLines_eq (s : List Char) : collapseLines s = s.foldr (dropStep isNl) [] := rfl

/-- a class of characters that escaping neither changes nor produces -/
structure Unescaped (d : Char → Bool) : Prop where
  self : ∀ q c, d c = true → escC q c = [c]
  other : ∀ q c, d c = false → ∀ x ∈ escC q c, d x = false

theorem unescaped_blank : Unescaped isBlank where
  self q c h := by
    have : c = ' ' ∨ c = '\t' := by simpa [isBlank] using h
    rcases this with rfl | rfl <;> rfl
  other q c h := forall_mem_escC q c h (by decide)

theorem unescaped_nl : Unescaped isNl where
  self q c h := by
    have : c = '\n' := by simpa [isNl] using h
    subst this; rfl
  other q c h := forall_mem_escC q c h (by decide)

theorem escC_no_nl (q : Bool) (c : Char) (hb : c ≠ '\n') : ∀ x ∈ escC q c, x ≠ '\n' :=
  forall_mem_escC q c hb (by decide)

theorem escC_head (q : Bool) (c : Char) : (escC q c).head? = some '\n' ↔ c = '\n' := by
  by_cases hc : c = '\n'
  · subst hc; exact ⟨fun _ => rfl, fun _ => rfl⟩
  · refine ⟨fun h => absurd ?_ (escC_no_nl q c hc '\n' (List.mem_of_mem_head? h)), fun h => absurd h hc⟩
    rfl

theorem escapeMixed_head (ps : List QChar) :
    (escapeMixed ps).head? = some '\n' ↔ ps.head?.map (·.2) = some '\n' := by
  cases ps with
  | nil => simp [escapeMixed]
  | cons p ps =>
    obtain ⟨q, c⟩ := p
    simp only [escapeMixed_cons, List.head?_cons, Option.map_some, Option.some.injEq]
    rw [← escC_head q c]
    cases h : escC q c with
    | nil => exact absurd h (escC_ne_nil q c)
    | cons x xs => simp

theorem foldr_keep (P : Char → Option Char → Bool) (b acc : List Char) (h : ∀ x ∈ b, ∀ o, P x o = false) :
    b.foldr (fun c acc => if P c acc.head? then acc else c :: acc) acc = b ++ acc := by
  induction b with
  | nil => rfl
  | cons x xs ih =>
    simp only [List.foldr_cons, List.cons_append]
    rw [ih fun y hy => h y (List.mem_cons_of_mem _ hy)]
    simp [h x (by simp)]

theorem foldr_dropStep_keep (d : Char → Bool) (b acc : List Char) (h : ∀ x ∈ b, d x = false) :
    b.foldr (dropStep d) acc = b ++ acc :=
  foldr_keep (fun c o => d c && o = some '\n') b acc fun x hx o => by simp [h x hx]

/-- one pass over escaped text is the escaped text of that pass over the data; the flagged characters behind the
    result are among those behind what was given -/
theorem dropStep_mixed (d : Char → Bool) (hd : Unescaped d) (ps : List QChar) :
    ∃ qs : List QChar, qs.Sublist ps ∧ (escapeMixed ps).foldr (dropStep d) [] = escapeMixed qs ∧
      (ps.map (·.2)).foldr (dropStep d) [] = qs.map (·.2) := by
  induction ps with
  | nil => exact ⟨[], .slnil, rfl, rfl⟩
  | cons p ps ih =>
    obtain ⟨q, c⟩ := p
    obtain ⟨qs, hs, h1, h2⟩ := ih
    rw [escapeMixed_cons, List.foldr_append, h1, List.map_cons, List.foldr_cons, h2]
    cases hc : d c with
    | true =>
      -- the character is its own escaped form; it goes exactly when the rest starts with a newline, on either side
      rw [hd.self q c hc]
      by_cases hn : qs.head?.map (·.2) = some '\n'
      · exact ⟨qs, hs.cons _, by simp [dropStep, hc, (escapeMixed_head qs).mpr hn],
          by simp only [dropStep, hc, List.head?_map, hn, Bool.true_and, decide_true, if_true]⟩
      · have hn' : ¬ (escapeMixed qs).head? = some '\n' := fun h => hn ((escapeMixed_head qs).mp h)
        exact ⟨(q, c) :: qs, hs.cons_cons _, by simp [dropStep, hc, hn', escapeMixed_cons, hd.self q c hc],
          by simp only [dropStep, hc, List.head?_map, hn, Bool.true_and, decide_false, Bool.false_eq_true, if_false,
            List.map_cons]⟩
    | false =>
      exact ⟨(q, c) :: qs, hs.cons_cons _, by rw [foldr_dropStep_keep d _ _ (hd.other q c hc), escapeMixed_cons],
        by simp [dropStep, hc]⟩

theorem normWs_mixed (ps : List QChar) :
    ∃ qs : List QChar, qs.Sublist ps ∧ normWs (escapeMixed ps) = escapeMixed qs ∧ normWs (ps.map (·.2)) = qs.map (·.2) := by
  obtain ⟨q1, s1, a1, b1⟩ := dropStep_mixed isBlank unescaped_blank ps
  obtain ⟨q2, s2, a2, b2⟩ := dropStep_mixed isNl unescaped_nl q1
  exact ⟨q2, s2.trans s1, by rw [normWs, trimTrailing_eq, a1, collapseLines_eq, a2],
    by rw [normWs, trimTrailing_eq, b1, collapseLines_eq, b2]⟩

end Genshi.Subst
