import Genshi.Model.Tf
import Genshi.Lemmas.Core
namespace Genshi.Tf

theorem unmark_markAll (s : Stream) : unmark (markAll s) = s := by
  induction s with
  | nil => rfl
  | cons e es ih => simp only [markAll, List.map_cons, unmark] at ih ⊢; rw [ih]

/-- results `Path.test()` can return without replacing the event -/
def Res.plain : Res → Bool
  | .none | .hit | .attrs _ | .self => true
  | _ => false

theorem unmark_cons_congr (m m' : Option Mark) (x : MEv) {a b : MStream} (h : unmark a = unmark b) :
    unmark ((m, x) :: a) = unmark ((m', x) :: b) := by
  cases x <;> simp [unmark, h]

theorem unmark_selectGo (d : Nat) (rs : List Res) (s : MStream) (h : ∀ r ∈ rs, r.plain = true) :
    unmark (selectGo d rs s) = unmark s := by
  induction s generalizing d rs with
  | nil => cases d <;> rfl
  | cons p s ih =>
    obtain ⟨m, x⟩ := p
    have htail : ∀ r ∈ rs.tail, r.plain = true := fun r hr => h r (List.mem_of_mem_tail hr)
    cases d with
    | zero =>
      cases m with
      | none => exact unmark_cons_congr _ _ x (ih 0 rs h)
      | some m =>
        have hhd : (rs.headD .none).plain = true := by
          cases rs with
          | nil => rfl
          | cons r rs => exact h r (by simp)
        cases hr : rs.headD .none <;> simp only [hr, Res.plain] at hhd <;> simp only [selectGo, hr]
        · exact unmark_cons_congr _ _ x (ih 0 _ htail)
        · by_cases hx : x.isStart
          · simp only [hx, ↓reduceIte]; exact unmark_cons_congr _ _ x (ih 1 _ htail)
          · simp only [hx]; exact unmark_cons_congr _ _ x (ih 0 _ htail)
        · exact unmark_cons_congr _ _ x (ih 0 _ htail)
        · exact unmark_cons_congr _ _ x (ih 0 _ htail)
        · cases hhd
        · cases hhd
    | succ d =>
      simp only [selectGo]
      by_cases hd : subDepth d x = 0
      · simp only [hd, ↓reduceIte]; exact unmark_cons_congr _ _ x (ih 0 rs h)
      · simp only [hd, ↓reduceIte]; exact unmark_cons_congr _ _ x (ih _ rs h)

/-- the markup events among pseudo-events (what `_unmark` keeps) -/
def evsOf : List MEv → Stream
  | [] => []
  | .ev e :: l => e :: evsOf l
  | _ :: l => evsOf l

theorem evsOf_append (a b : List MEv) : evsOf (a ++ b) = evsOf a ++ evsOf b := by
  induction a with
  | nil => rfl
  | cons x a ih => cases x <;> simp [evsOf, ih]

theorem unmark_eq_evsOf (s : MStream) : unmark s = evsOf (s.map (·.2)) := by
  induction s with
  | nil => rfl
  | cons p s ih => obtain ⟨m, x⟩ := p; cases x <;> simp [unmark, evsOf, ih]

theorem evsOf_map_snd (blk : MStream) : evsOf (blk.map (·.2)) = unmark blk := (unmark_eq_evsOf blk).symm

theorem unmark_append (a b : MStream) : unmark (a ++ b) = unmark a ++ unmark b := by
  simp only [unmark_eq_evsOf, List.map_append, evsOf_append]

theorem unmark_inj (c : List MEv) : unmark (inj c) = evsOf c := by
  rw [unmark_eq_evsOf, inj, List.map_map]; exact congrArg evsOf (List.map_id' _)

theorem unmark_map_mark (f : MItem → Option Mark) (s : MStream) :
    unmark (s.map fun p => (f p, p.2)) = unmark s := by
  rw [unmark_eq_evsOf, unmark_eq_evsOf, List.map_map]; rfl

/-- `WellNested` (Model/Core) under the name used for pieces of a stream and for contents; the two
    unfold to the same proposition, and proofs pass one for the other -/
def Bal (s : Stream) : Prop := balance [] s = some []

theorem Bal.nil : Bal [] := rfl

theorem inj_bal {c : List MEv} (hc : Bal (evsOf c)) : Bal (unmark (inj c)) := (unmark_inj c).symm ▸ hc

theorem balance_bal (st : List QName) {a : Stream} (ha : Bal a) (b : Stream) :
    balance st (a ++ b) = balance st b := by
  rw [balance_append]
  have := balance_frame a [] [] st ha
  simp at this
  simp [this]

theorem Bal.append {a b : Stream} (ha : Bal a) (hb : Bal b) : Bal (a ++ b) := wellNested_append ha hb

theorem balance_append_congr (p : Stream) {a b : Stream}
    (h : ∀ st, balance st a = balance st b) (st : List QName) :
    balance st (p ++ a) = balance st (p ++ b) := by
  induction p generalizing st with
  | nil => exact h st
  | cons e p ih => exact balance_cons_congr e (fun st => ih st) st

/-- what an item does to the stack of open elements -/
def eff : MEv → Option (Bool × QName)
  | .ev (.start t _) => some (true, t)
  | .ev (.end_ t) => some (false, t)
  | _ => none

def effStep : Option (Bool × QName) → List QName → Option (List QName)
  | none, st => some st
  | some (true, t), st => some (t :: st)
  | some (false, t), t' :: st => if t = t' then some st else none
  | some (false, _), [] => none

theorem balance_unmark_cons (m : Option Mark) (x : MEv) (l : MStream) (st : List QName) :
    balance st (unmark ((m, x) :: l)) = (effStep (eff x) st).bind fun st' => balance st' (unmark l) := by
  cases x with
  | attr t a => simp [unmark, eff, effStep]
  | brk => simp [unmark, eff, effStep]
  | ev e =>
    cases e with
    | start t a => simp [unmark, eff, effStep, balance]
    | end_ t =>
      cases st with
      | nil => simp [unmark, eff, effStep, balance]
      | cons t' st => by_cases h : t = t' <;> simp [unmark, eff, effStep, balance, h]
    | _ => cases st <;> simp [unmark, eff, effStep, balance]

theorem MEv.cases_eff (x : MEv) :
    (∃ t a, x = .ev (.start t a)) ∨ (∃ t, x = .ev (.end_ t)) ∨ (x.isStart = false ∧ x.isEnd = false ∧ eff x = none) := by
  cases x with
  | ev e =>
    cases e with
    | start t a => exact .inl ⟨t, a, rfl⟩
    | end_ t => exact .inr (.inl ⟨t, rfl⟩)
    | _ => exact .inr (.inr ⟨rfl, rfl, rfl⟩)
  | _ => exact .inr (.inr ⟨rfl, rfl, rfl⟩)

theorem eff_eq_start {y : MEv} {t : QName} (h : eff y = some (true, t)) : ∃ a, y = .ev (.start t a) := by
  rcases y.cases_eff with ⟨t', a, rfl⟩ | ⟨_, rfl⟩ | ⟨_, _, hn⟩
  · cases h; exact ⟨a, rfl⟩
  · cases h
  · rw [hn] at h; cases h

theorem eff_eq_end {y : MEv} {t : QName} (h : eff y = some (false, t)) : y = .ev (.end_ t) := by
  rcases y.cases_eff with ⟨_, _, rfl⟩ | ⟨t', rfl⟩ | ⟨_, _, hn⟩
  · cases h
  · cases h; rfl
  · rw [hn] at h; cases h

theorem balance_unmark_skip {x : MEv} (h : eff x = none) (m : Option Mark) (l : MStream) (st : List QName) :
    balance st (unmark ((m, x) :: l)) = balance st (unmark l) := by
  rw [balance_unmark_cons, h]; rfl

/-- items with the same effect on the stack in front of streams balanced alike -/
theorem balance_cons_eff {p q : MItem} (he : eff p.2 = eff q.2) {a b : MStream}
    (h : ∀ st, balance st (unmark a) = balance st (unmark b)) (st : List QName) :
    balance st (unmark (p :: a)) = balance st (unmark (q :: b)) := by
  rw [balance_unmark_cons, balance_unmark_cons, he]
  cases effStep (eff q.2) st with
  | none => rfl
  | some st' => simp [h st']

theorem balance_unmark_append_congr (l : MStream) {a b : MStream}
    (h : ∀ st, balance st (unmark a) = balance st (unmark b)) (st : List QName) :
    balance st (unmark (l ++ a)) = balance st (unmark (l ++ b)) := by
  rw [unmark_append, unmark_append]; exact balance_append_congr _ h st

/-- balanced pieces in front of streams balanced alike -/
theorem balance_piece {l l' a b : MStream} (hl : Bal (unmark l)) (hl' : Bal (unmark l'))
    (h : ∀ st, balance st (unmark a) = balance st (unmark b)) (st : List QName) :
    balance st (unmark (l ++ a)) = balance st (unmark (l' ++ b)) := by
  rw [unmark_append, unmark_append, balance_bal st hl, balance_bal st hl', h st]

theorem evsOf_map_ev (s : Stream) : evsOf (s.map .ev) = s := by
  induction s with
  | nil => rfl
  | cons e s ih => simp [evsOf, ih]

theorem unmark_inj_ev (c : Stream) : unmark (inj (c.map .ev)) = c := by
  rw [unmark_inj, evsOf_map_ev]

/-- a list of pseudo-events (a buffer, a content to inject) whose markup events are balanced -/
def BalE (buf : List MEv) : Prop := Bal (evsOf buf)

theorem BalE.nil : BalE [] := Bal.nil

theorem BalE.append {a b : List MEv} (ha : BalE a) (hb : BalE b) : BalE (a ++ b) := by
  unfold BalE; rw [evsOf_append]; exact Bal.append ha hb

theorem BalE.ite (acc : Bool) {buf : List MEv} (h : BalE buf) : BalE (if acc then buf else []) := by
  cases acc <;> simp [h, BalE.nil]

theorem BalE.ofBlock {blk : MStream} (h : Bal (unmark blk)) : BalE (blk.map (·.2)) := by
  unfold BalE; rw [evsOf_map_snd]; exact h

theorem attrFnEv_const (n : QName) (v : Option Str) : attrFnEv n (fun _ _ => v) = attrEv n v := by
  funext p
  fun_cases attrEv n v p
  · rfl
  · rename_i h
    fun_cases attrFnEv n (fun _ _ => v) p
    · exact absurd rfl (h _ _)
    · rfl

theorem wn_of_balance {s t : Stream} (h : ∀ st, balance st t = balance st s) (hs : WellNested s) :
    WellNested t := (h []).trans hs

end Genshi.Tf
