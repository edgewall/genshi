/-
  `copy(buffer, accumulate=True)`: the buffer receives exactly the marked events
  (what selection returns), provided no unmarked event sits between an ENTER and
  its EXIT (`tight`, `copyBuf_spec`) — which is the case right after a `select` (`selectGo_tight`).  For both modes of
  `accumulate`, selection by selection: `copyBuf_segs` (`TfBufBal.lean`).  `cut` fills its buffer as
  `copy` does (`cutBuf_eq_copyBuf`); the table of named buffers: `Bufs.get_set`.
-/
import Genshi.Model.Tf
namespace Genshi.Tf

/-- the events a marking selects, in order -/
def marked (s : MStream) : List MEv := (s.filter (·.1.isSome)).map (·.2)

/-- no unmarked item between an ENTER and the next EXIT (the flag: currently between the two) -/
def tight : Bool → MStream → Bool
  | _, [] => true
  | false, (m, _) :: s => tight (m = some .enter) s
  | true, (m, _) :: s => m.isSome && tight (!(m = some .exit)) s

theorem marked_cons_some (m : Mark) (x : MEv) (s : MStream) : marked ((some m, x) :: s) = x :: marked s := by
  simp [marked]

theorem marked_cons_none (x : MEv) (s : MStream) : marked ((none, x) :: s) = marked s := by
  simp [marked]

/-- the inner loop of a run of `m0` pushes an item with another mark back -/
theorem copyBuf_pushback (acc : Bool) (m0 : Mark) {m : Option Mark} (hm : m ≠ some m0) (x : MEv) (s : MStream)
    (buf : List MEv) : copyBuf acc (.inRun m0) buf ((m, x) :: s) = copyBuf acc .idle buf ((m, x) :: s) := by
  cases m <;> simp only [copyBuf, hm, ↓reduceIte]

theorem copyBuf_spec (s : MStream) :
    (∀ buf, tight false s = true → copyBuf true .idle buf s = buf ++ marked s) ∧
    (∀ buf, tight true s = true → copyBuf true .inEnter buf s = buf ++ marked s) ∧
    (∀ m0 buf, m0 ≠ .enter → tight false s = true → copyBuf true (.inRun m0) buf s = buf ++ marked s) := by
  induction s with
  | nil => simp [copyBuf, marked]
  | cons p s ih =>
    obtain ⟨m, x⟩ := p
    obtain ⟨h0, h1, h2⟩ := ih
    have hidle : ∀ buf, tight false ((m, x) :: s) = true →
        copyBuf true .idle buf ((m, x) :: s) = buf ++ marked ((m, x) :: s) := by
      intro buf ht
      rcases m with _ | m
      · simp only [tight] at ht
        simp only [copyBuf, marked_cons_none]
        exact h0 buf (by simpa using ht)
      · simp only [tight] at ht
        simp only [copyBuf, startSt, ↓reduceIte, marked_cons_some]
        by_cases he : m = .enter
        · subst he
          simp only [↓reduceIte]
          rw [h1 _ (by simpa using ht)]; simp
        · simp only [he, ↓reduceIte]
          have : tight false s = true := by simpa [he] using ht
          rw [h2 m _ he this]; simp
    refine ⟨hidle, ?_, ?_⟩
    · intro buf ht
      simp only [tight, Bool.and_eq_true] at ht
      obtain ⟨hm, ht⟩ := ht
      rcases m with _ | m
      · simp at hm
      · simp only [copyBuf, marked_cons_some]
        by_cases hx : m = .exit
        · subst hx
          simp only [↓reduceIte]
          rw [h0 _ (by simpa using ht)]; simp
        · have : (some m = some Mark.exit) = False := by simp [hx]
          simp only [this, ↓reduceIte]
          rw [h1 _ (by simpa [hx] using ht)]; simp
    · intro m0 buf hm0 ht
      by_cases hm : m = some m0
      · subst hm
        simp only [tight] at ht
        have : tight false s = true := by simpa [hm0] using ht
        simp only [copyBuf, ↓reduceIte, marked_cons_some]
        rw [h2 m0 _ hm0 this]; simp
      · rw [copyBuf_pushback true m0 hm]; exact hidle buf ht

theorem selectGo_tight (rs : List Res) (s : MStream) :
    ∀ d, tight (decide (d ≠ 0)) (selectGo d rs s) = true := by
  induction s generalizing rs with
  | nil => intro d; cases d <;> simp [selectGo, tight]
  | cons p s ih =>
    obtain ⟨m, x⟩ := p
    intro d
    cases d with
    | zero =>
      rcases m with _ | m
      · simpa [selectGo, tight] using ih rs 0
      · simp only [selectGo]
        cases hr : rs.headD .none with
        | hit =>
          simp only
          by_cases hx : x.isStart = true
          · simpa [hx, tight] using ih rs.tail 1
          · simpa [hx, tight] using ih rs.tail 0
        | none | attrs | self | event | text => simpa [tight] using ih rs.tail 0
    | succ d =>
      simp only [selectGo]
      by_cases hd : subDepth d x = 0
      · simpa [hd, tight] using ih rs 0
      · have := ih rs (subDepth d x)
        simp only [hd, ↓reduceIte]
        simpa [hd, tight] using this

theorem cutBuf_eq_copyBuf (acc : Bool) (s : MStream) :
    ∀ st buf, cutBuf acc st buf s = copyBuf acc st buf s := by
  induction s with
  | nil => intro st buf; cases st <;> rfl
  | cons p s ih =>
    intro st buf
    obtain ⟨m, x⟩ := p
    cases st with
    | idle => rcases m with _ | m <;> simp [cutBuf, copyBuf, ih]
    | inEnter => simp [cutBuf, copyBuf, ih]
    | inRun m0 =>
      by_cases hm : m = some m0
      · simp [cutBuf, copyBuf, hm, ih]
      · rcases m with _ | m <;> simp [cutBuf, copyBuf, hm, ih]

theorem Bufs.get_set (b : Bufs) (id id' : Nat) (v : List MEv) :
    (b.set id v).get id' = if id' = id then v else b.get id' := by
  unfold Bufs.set Bufs.get
  by_cases h : id' = id
  · subst h; simp
  · have h' : ¬ id = id' := fun e => h e.symm
    rw [List.find?_cons_of_neg (by simpa using h'), List.find?_filter, if_neg h]
    congr 2
    funext a
    by_cases ha : a.1 = id' <;> simp [ha, h]

end Genshi.Tf
