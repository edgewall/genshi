/-
  The buffers of copy() / cut(): segment by segment the buffer takes each selection (`copyBuf_segs`,
  both `accumulate` modes), so on a `Good` stream it holds balanced content (whole selections) and
  injecting a buffer later keeps streams well nested.
-/
import Genshi.Lemmas.TfRunL
import Genshi.Lemmas.TfBuf
namespace Genshi.Tf

section buf
variable (acc : Bool)

theorem copyBuf_inRun_block (m : Mark) (blk s : MStream) (h : Uniform m blk) :
    ∀ buf, copyBuf acc (.inRun m) buf (blk ++ s) = copyBuf acc (.inRun m) (buf ++ blk.map (·.2)) s := by
  induction blk with
  | nil => intro buf; simp
  | cons p blk ih =>
    intro buf
    obtain ⟨x, rfl, hu⟩ := h.cons_inv
    simp [copyBuf, ih hu]

theorem copyBuf_idle_block (m : Mark) (hm : m ≠ .enter) (p : MItem) (blk s : MStream)
    (h : Uniform m (p :: blk)) (buf : List MEv) :
    copyBuf acc .idle buf ((p :: blk) ++ s) =
      copyBuf acc (.inRun m) ((if acc then buf else []) ++ (p :: blk).map (·.2)) s := by
  obtain ⟨x, rfl, hu⟩ := h.cons_inv
  simp [copyBuf, startSt, hm, copyBuf_inRun_block acc m blk s hu]

theorem copyBuf_inEnter_mid (mid : MStream) (x : MEv) (s : MStream) (h : NoExit mid) :
    ∀ buf, copyBuf acc .inEnter buf (mid ++ (some .exit, x) :: s) =
      copyBuf acc .idle (buf ++ (mid.map (·.2) ++ [x])) s := by
  induction mid with
  | nil => intro buf; simp [copyBuf]
  | cons p mid ih =>
    intro buf
    obtain ⟨m', y⟩ := p
    obtain ⟨hp, hu⟩ := h.cons_inv
    simp [copyBuf, hp, ih hu]

end buf

def bufStep (acc : Bool) (b : List MEv) (seg : Seg) : List MEv :=
  if seg.selected then (if acc then b else []) ++ seg.flat.map (·.2) else b

theorem copyBuf_boundary (acc : Bool) (m : Mark) (hm : m ≠ .enter) :
    ∀ segs, SegsOk segs → headNotRun m segs → ∀ buf,
      copyBuf acc (.inRun m) buf (flatSegs segs) = copyBuf acc .idle buf (flatSegs segs) := by
  intro segs hok hh buf
  rcases headNotRun.head hm hok hh with h | ⟨m', x, s, h, hne⟩
  · rw [h]; rfl
  · rw [h, copyBuf_pushback acc m hne]

theorem copyBuf_segs (acc : Bool) : ∀ segs, SegsOk segs → ∀ buf,
    copyBuf acc .idle buf (flatSegs segs) = segs.foldl (bufStep acc) buf := by
  intro segs
  induction segs with
  | nil => intro _ buf; simp [flatSegs, copyBuf]
  | cons seg rest ih =>
    intro hok buf
    obtain ⟨hseg, hadj, hrest⟩ := hok
    cases seg with
    | plain x =>
      simp only [flatSegs, Seg.flat, List.foldl_cons, bufStep, Seg.selected]
      simpa [copyBuf] using ih hrest buf
    | run m p blk =>
      obtain ⟨hne, _, hu⟩ := hseg
      simp only [flatSegs, Seg.flat, List.foldl_cons]
      rw [copyBuf_idle_block acc m hne p blk _ hu, copyBuf_boundary acc m hne rest hrest hadj, ih hrest]
      simp [bufStep, Seg.selected, Seg.flat]
    | elem e mid x =>
      simp only [flatSegs, flat_elem_append, List.foldl_cons]
      simp only [copyBuf, startSt, ↓reduceIte]
      rw [copyBuf_inEnter_mid acc mid x _ (Inner.noExit hseg), ih hrest]
      simp [bufStep, Seg.selected, Seg.flat]

theorem foldl_bufStep_bal (acc : Bool) : ∀ {segs : List Seg}, GoodSegs segs → ∀ buf, BalE buf →
    BalE (segs.foldl (bufStep acc) buf)
  | [], _, _, h => h
  | seg :: _, hs, buf, h => by
    refine foldl_bufStep_bal acc hs.tail _ ?_
    rw [bufStep]
    split
    · next hsel => exact (BalE.ite acc h).append (BalE.ofBlock ((hs.2 seg List.mem_cons_self).piece hs.1.1 hsel).bal)
    · exact h

theorem copyBuf_bal (acc : Bool) {s : MStream} (hg : Good s) (buf : List MEv) (h : BalE buf) :
    BalE (copyBuf acc .idle buf s) := by
  obtain ⟨segs, hs, rfl⟩ := Good.segs hg
  rw [copyBuf_segs acc segs hs.1]
  exact foldl_bufStep_bal acc hs buf h

def BufsOk (b : Bufs) : Prop := ∀ id, BalE (b.get id)

theorem BufsOk.nil : BufsOk [] := by intro id; simp [Bufs.get, BalE.nil]

theorem BufsOk.set {b : Bufs} (h : BufsOk b) (id : Nat) {v : List MEv} (hv : BalE v) :
    BufsOk (b.set id v) := by
  intro id'
  rw [Bufs.get_set]
  split
  · exact hv
  · exact h id'

end Genshi.Tf
