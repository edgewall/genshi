/-
  Chains of transformations: every admissible chain maps a well-nested stream
  to a well-nested stream.  Induction over the chain with the invariant
  "well nested; `Good` — or, after an `invert()`, free of ENTER/EXIT marks —;
  every buffer holds balanced content".
-/
import Genshi.Lemmas.TfFilter
import Genshi.Lemmas.TfBufBal
import Genshi.Lemmas.TfCut
import Genshi.Lemmas.TfDirty
namespace Genshi.Tf

theorem unmark_selectGo_ok (d : Nat) (rs : List Res) (s : MStream) (h : selOk d rs s = true) :
    unmark (selectGo d rs s) = unmark s := by
  induction s generalizing d rs with
  | nil => cases d <;> rfl
  | cons p s ih =>
    obtain ⟨m, x⟩ := p
    cases d with
    | zero =>
      cases m with
      | none => exact unmark_cons_congr _ _ x (ih 0 rs h)
      | some m =>
        simp only [selOk] at h
        cases hr : rs.headD .none <;> simp only [hr, Bool.and_eq_true] at h <;> simp only [selectGo, hr]
        · exact unmark_cons_congr _ _ x (ih 0 _ h)
        · by_cases hx : x.isStart = true
          · simp only [hx, ↓reduceIte] at h ⊢; exact unmark_cons_congr _ _ x (ih 1 _ h.2)
          · simp only [hx] at h ⊢; exact unmark_cons_congr _ _ x (ih 0 _ h.2)
        · exact unmark_cons_congr _ _ x (ih 0 _ h)
        · exact unmark_cons_congr _ _ x (ih 0 _ h.2)
        · cases h
        · cases h
    | succ d =>
      simp only [selOk] at h
      simp only [selectGo]
      by_cases hd : subDepth d x = 0
      · simp only [hd, ↓reduceIte]; rw [hd] at h; exact unmark_cons_congr _ _ x (ih 0 rs h)
      · simp only [hd, ↓reduceIte]; exact unmark_cons_congr _ _ x (ih _ rs h)

theorem wrapper_elem_kids (t : QName) (a : AttrList) {kids : Stream} (hk : Bal kids) :
    Wrapper (.start t a :: kids) [.end_ t] := by
  intro X st rest hX
  have := balance_bal st (bal_elem t a (hk.append hX)) rest
  simpa using this

theorem wrapper_elem (t : QName) (a : AttrList) : Wrapper [.start t a] [.end_ t] :=
  wrapper_elem_kids t a Bal.nil

theorem bal_ensureStr (t : Str) : Bal (evsOf (ensureStr t)) := by
  induction t with
  | nil => rfl
  | cons c t ih =>
    simp only [ensureStr, List.map_cons, evsOf] at ih ⊢
    unfold Bal at *
    rw [balance_skip _ (by rfl)]; exact ih

theorem runGo_goodLike {pre post : MStream} (keep : Bool) (hw : Wrapper (unmark pre) (unmark post))
    (hpre : NoneMarked pre) (hpost : NoneMarked post) {s : MStream} (hg : Good s) :
    GoodLike (runGo pre post keep .idle s) s :=
  ⟨(runGo_balance keep hw hg).1, (runGo_good keep hpre hpost hg).1⟩

theorem wrap_goodLike (t : QName) (a : AttrList) {kids : Stream} (hk : Bal kids) {s : MStream} (hg : Good s) :
    GoodLike (wrap (.start t a :: kids) (.end_ t) s) s :=
  runGo_goodLike true (by rw [unmark_inj_ev]; simpa [unmark] using wrapper_elem_kids t a hk)
    (inj_noneMarked _) (by intro p hp; simp at hp; simp [hp]) hg

theorem replace_goodLike (c : List MEv) (hc : Bal (evsOf c)) {s : MStream} (hg : Good s) :
    GoodLike (replace c s) s :=
  runGo_goodLike (post := []) false (.ofBal (inj_bal hc) Bal.nil) (inj_noneMarked _) noneMarked_nil hg

theorem before_goodLike (c : List MEv) (hc : Bal (evsOf c)) {s : MStream} (hg : Good s) :
    GoodLike (before c s) s :=
  runGo_goodLike (post := []) true (.ofBal (inj_bal hc) Bal.nil) (inj_noneMarked _) noneMarked_nil hg

theorem after_goodLike (c : List MEv) (hc : Bal (evsOf c)) {s : MStream} (hg : Good s) :
    GoodLike (after c s) s :=
  runGo_goodLike (pre := []) true (.ofBal Bal.nil (inj_bal hc)) noneMarked_nil (inj_noneMarked _) hg

/-- before() / after() put balanced content into ANY marked stream: balanced the same way -/
theorem before_balance_any (c : List MEv) (hc : Bal (evsOf c)) (s : MStream) (st : List QName) :
    balance st (unmark (before c s)) = balance st (unmark s) :=
  runGo_balance_any (post := []) (inj_bal hc) Bal.nil s .idle st

theorem after_balance_any (c : List MEv) (hc : Bal (evsOf c)) (s : MStream) (st : List QName) :
    balance st (unmark (after c s)) = balance st (unmark s) :=
  runGo_balance_any (pre := []) Bal.nil (inj_bal hc) s .idle st

/-- injected content is balanced: literal event streams must be, strings are, buffers are by
    the invariant of the chain -/
def Content.Ok : Content → Prop
  | .evs s => Bal s
  | _ => True

theorem content_bal {b : Bufs} (hb : BufsOk b) {c : Content} (h : c.Ok) : Bal (evsOf (content b c)) := by
  cases c with
  | str t => exact bal_ensureStr t
  | evs s => simpa [content, evsOf_map_ev, Content.Ok] using h
  | buf id => exact hb id

/-- operations admitted on a `Good` marking: all of them (injected event streams balanced;
    the filter of `filter(f)` keeps balanced input balanced) -/
def Op.OkGood : Op → Prop
  | .filter f => FOk f
  | .wrap _ _ kids => Bal kids
  | .replace c => c.Ok
  | .before c => c.Ok
  | .after c => c.Ok
  | .prepend c => c.Ok
  | .append c => c.Ok
  | _ => True

/-- operations admitted while the selection is inverted ("dirty": the marking is then not `Good`, only
    free of ENTER / EXIT marks; documented precondition: a new `select` / `end` must come before
    anything that deletes (remove, cut), replaces, wraps, copies or filters contiguous selections) -/
def Op.OkDirty : Op → Prop
  | .remove => False
  | .replace _ => False
  | .wrap _ _ _ => False
  | .cut _ _ => False
  | .copy _ _ => False
  | .filter _ => False
  | .before c => c.Ok
  | .after c => c.Ok
  | .prepend c => c.Ok
  | .append c => c.Ok
  | _ => True

/-- is the marking `Good` after the operation? -/
def Op.next (good : Bool) : Op → Bool
  | .select _ => true
  | .endSel => true
  | .invert => false
  | _ => good

/-- every operation of the chain is admitted on the marking it meets (`good`: it is `Good`) -/
def Admissible : Bool → List Op → Prop
  | _, [] => True
  | good, op :: ops => (if good then op.OkGood else op.OkDirty) ∧ Admissible (op.next good) ops

/-- what the invariants of a chain say about the marking: well nested, and `Good` — or, after
    `invert()`, free of ENTER / EXIT marks -/
def MarkInv (good : Bool) (s : MStream) : Prop :=
  WellNested (unmark s) ∧ (good = true → Good s) ∧ (good = false → Inner s)

/-- the invariant of the induction over a chain: `MarkInv good s`, and every buffer holds balanced content -/
structure ChainInv (good : Bool) (s : MStream) (b : Bufs) : Prop where
  wn : WellNested (unmark s)
  isGood : good = true → Good s
  isInner : good = false → Inner s
  bufs : BufsOk b

theorem ChainInv.mark {good : Bool} {s : MStream} {b : Bufs} (h : ChainInv good s b) : MarkInv good s :=
  ⟨h.wn, h.isGood, h.isInner⟩

theorem MarkInv.chain {good : Bool} {s : MStream} (h : MarkInv good s) {b : Bufs} (hb : BufsOk b) :
    ChainInv good s b := ⟨h.1, h.2.1, h.2.2, hb⟩

/-- a chain starts on a `Good` marking -/
theorem MarkInv.markAll {s : Stream} (hs : WellNested s) : MarkInv true (markAll s) :=
  ⟨by rw [unmark_markAll]; exact hs, fun _ => markAll_good hs, nofun⟩

/-- an operation keeps the marking invariant if it does in each mode -/
theorem MarkInv.of_modes {good : Bool} {s t : MStream} (h : MarkInv good s) (hgood : Good s → GoodLike t s)
    (hdirty : Inner s → WellNested (unmark s) → WellNested (unmark t) ∧ Inner t) : MarkInv good t := by
  cases good with
  | true => exact ((hgood (h.2.1 rfl)).wn h.1).elim fun h1 h2 => ⟨h1, fun _ => h2, nofun⟩
  | false => exact (hdirty (h.2.2 rfl) h.1).elim fun h1 h2 => ⟨h1, nofun, fun _ => h2⟩

/-- the step of the chain invariant, both modes at once -/
theorem applyOp_inv (b : Bufs) (op : Op) {good : Bool} {s s' : MStream} {b' : Bufs}
    (hok : if good then op.OkGood else op.OkDirty) (inv : ChainInv good s b) (hsel : op.selOkAt s = true)
    (h : applyOp b op s = some (s', b')) : ChainInv (op.next good) s' b' := by
  have hwn := inv.wn
  have hb := inv.bufs
  have hm := inv.mark
  have keep : ∀ {t : MStream}, MarkInv good t → ChainInv good t b := fun h => h.chain hb
  have mkGood : ∀ {t : MStream}, GoodLike t s → ChainInv true t b :=
    fun h => ⟨wn_of_balance h.bal hwn, fun _ => h.good, nofun, hb⟩
  have mapOp : ∀ {g : MItem → MItem}, EffPres g → ChainInv good (s.map g) b := fun hg' =>
    keep (hm.of_modes (map_goodLike hg') fun hin hwn => ⟨map_wn hg' hwn, map_inner hg' hin⟩)
  -- an operation that only acts at ENTER / EXIT marks is the identity after `invert()`
  have elemOp : ∀ {t : MStream}, (Good s → GoodLike t s) → (Inner s → t = s) → ChainInv good t b := fun hg hi =>
    keep (hm.of_modes hg fun hin hwn => by rw [hi hin]; exact ⟨hwn, hin⟩)
  -- operations on contiguous selections: not admitted after `invert()`
  have goodOnly : op.OkDirty = False → good = true := fun hd => by
    cases good with
    | true => rfl
    | false => exact (hd ▸ hok : False).elim
  cases op with
  | select rs =>
    simp only [Op.selOkAt] at hsel
    obtain ⟨g, f⟩ := select_good rs s hwn hsel
    simp only [applyOp, select, f, ↓reduceIte, Option.map_some, Option.some.injEq, Prod.mk.injEq] at h
    obtain ⟨rfl, rfl⟩ := h
    exact mkGood ⟨fun _ => by rw [unmark_selectGo_ok 0 rs s hsel], g⟩
  | selectFail => simp [applyOp] at h
  | invert =>
    cases h
    exact ⟨by rw [unmark_invert]; exact hwn, nofun, fun _ => invert_inner s, hb⟩
  | endSel =>
    cases h
    exact mkGood ⟨fun _ => by rw [unmark_endSel], endSel_good hwn⟩
  | empty => cases h; exact elemOp empty_goodLike empty_inner
  | unwrap => cases h; exact elemOp unwrap_goodLike unwrap_inner
  | rename n => cases h; exact elemOp (rename_goodLike n) (rename_inner n)
  | prepend c =>
    cases h
    exact elemOp (prepend_goodLike _ (content_bal hb (by cases good <;> exact hok))) (prepend_inner' _)
  | append c =>
    cases h
    exact elemOp (append_goodLike _ (content_bal hb (by cases good <;> exact hok))) (append_inner' _)
  | before c =>
    cases h
    have hc : Bal (evsOf (content b c)) := content_bal hb (by cases good <;> exact hok)
    exact keep (hm.of_modes (before_goodLike _ hc) fun hin hwn =>
      ⟨wn_of_balance (before_balance_any _ hc s) hwn,
        runGo_inner (inj_noneMarked _) noneMarked_nil s hin _⟩)
  | after c =>
    cases h
    have hc : Bal (evsOf (content b c)) := content_bal hb (by cases good <;> exact hok)
    exact keep (hm.of_modes (after_goodLike _ hc) fun hin hwn =>
      ⟨wn_of_balance (after_balance_any _ hc s) hwn,
        runGo_inner noneMarked_nil (inj_noneMarked _) s hin _⟩)
  | attr n v => cases h; exact mapOp (attrEv_effPres n v)
  | attrFn n f => cases h; exact mapOp (attrFnEv_effPres n f)
  | mapBang all => cases h; exact mapOp (mapBangEv_effPres all)
  | subst p r n => cases h; exact mapOp (substEv_effPres p r n)
  | mapText f => cases h; exact mapOp (mapTextEv_effPres f)
  | buffer => cases h; exact keep hm
  | trace => cases h; exact keep hm
  | remove =>
    obtain rfl := goodOnly rfl
    cases h
    exact mkGood (remove_goodLike (inv.isGood rfl) [])
  | wrap t a kids =>
    obtain rfl := goodOnly rfl
    cases h
    exact mkGood (wrap_goodLike t a hok (inv.isGood rfl))
  | replace c =>
    obtain rfl := goodOnly rfl
    cases h
    exact mkGood (replace_goodLike _ (content_bal hb hok) (inv.isGood rfl))
  | filter f =>
    obtain rfl := goodOnly rfl
    cases h
    exact mkGood (filter_goodLike hok (inv.isGood rfl))
  | copy id acc =>
    obtain rfl := goodOnly rfl
    cases h
    rw [copy_id]
    exact ⟨hwn, inv.isGood, nofun, hb.set id (copyBuf_bal acc (inv.isGood rfl) _ (hb id))⟩
  | cut id acc =>
    obtain rfl := goodOnly rfl
    simp only [applyOp, Option.map_eq_some_iff, Prod.mk.injEq] at h
    obtain ⟨out, hc, rfl, rfl⟩ := h
    have g := cut_goodLike (inv.isGood rfl) hc
    refine ⟨wn_of_balance g.bal hwn, fun _ => g.good, nofun, ?_⟩
    rw [cutBuf_eq_copyBuf]
    exact hb.set id (copyBuf_bal acc (inv.isGood rfl) _ (BalE.ite acc (hb id)))

theorem applyOp_good (b : Bufs) (op : Op) {s s' : MStream} {b' : Bufs}
    (hok : op.OkGood) (inv : ChainInv true s b) (hsel : op.selOkAt s = true)
    (h : applyOp b op s = some (s', b')) : ChainInv (op.next true) s' b' :=
  applyOp_inv b op hok inv hsel h

theorem applyOp_dirty (b : Bufs) (op : Op) {s s' : MStream} {b' : Bufs}
    (hok : op.OkDirty) (inv : ChainInv false s b) (hsel : op.selOkAt s = true)
    (h : applyOp b op s = some (s', b')) : ChainInv (op.next false) s' b' :=
  applyOp_inv b op hok inv hsel h

theorem runChain_wellnested : ∀ (ops : List Op) (good : Bool) (b : Bufs) (s : MStream),
    Admissible good ops → ChainInv good s b → chainSelOk ops b s = true →
    ∀ out b', runChain ops b s = some (out, b') → WellNested (unmark out) := by
  intro ops
  induction ops with
  | nil =>
    intro good b s _ inv _ out b' h
    simp only [runChain, Option.some.injEq, Prod.mk.injEq] at h
    obtain ⟨rfl, _⟩ := h
    exact inv.wn
  | cons op ops ih =>
    intro good b s hadm inv hsel out b' h
    simp only [runChain] at h
    simp only [chainSelOk, Bool.and_eq_true] at hsel
    cases ha : applyOp b op s with
    | none => simp [ha] at h
    | some r =>
      obtain ⟨s1, b1⟩ := r
      simp only [ha] at h hsel
      exact ih (op.next good) b1 s1 hadm.2 (applyOp_inv b op hadm.1 inv hsel.1 ha) hsel.2 out b' h

def isSelect : Op → Bool
  | .select _ => true
  | _ => false

theorem runChain_selects (ops : List Op) (hall : ∀ op ∈ ops, isSelect op = true) :
    ∀ (b : Bufs) (s : MStream), WellNested (unmark s) → chainSelOk ops b s = true →
      ∃ out, runChain ops b s = some (out, b) ∧ unmark out = unmark s := by
  induction ops with
  | nil => intro b s _ _; exact ⟨s, rfl, rfl⟩
  | cons op ops ih =>
    intro b s hwn hsel
    have hop := hall op (by simp)
    cases op with
    | select rs =>
      simp only [chainSelOk, Op.selOkAt, Bool.and_eq_true] at hsel
      obtain ⟨g, f⟩ := select_good rs s hwn hsel.1
      have ha : applyOp b (.select rs) s = some (selectGo 0 rs s, b) := by simp [applyOp, select, f]
      have hu := unmark_selectGo_ok 0 rs s hsel.1
      rw [ha] at hsel
      obtain ⟨out, h1, h2⟩ := ih (fun o ho => hall o (by simp [ho])) b (selectGo 0 rs s)
        (by rw [hu]; exact hwn) hsel.2
      exact ⟨out, by simp [runChain, ha, h1], by rw [h2, hu]⟩
    | _ => simp [isSelect] at hop

end Genshi.Tf
