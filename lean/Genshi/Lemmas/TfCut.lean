/-
  `CutTransformation` on `Good` streams: when it does not fail its assertion the
  output is `Good` and balanced the same way (selections are dropped as whole
  balanced blocks; BREAK pseudo-events do not count; stripping attributes keeps
  the tag).
-/
import Genshi.Lemmas.TfOps
namespace Genshi.Tf

/-- the inner loop of a run of `m` on more items marked `m`: an attribute run collects their names -/
theorem cutGo_inRun_block (acc : Bool) {m : Mark} {blk : MStream} (hu : Uniform m blk) (s : MStream) :
    ∀ b names, cutGo acc (.inRun m) b names (blk ++ s) =
      cutGo acc (.inRun m) (b && blk.isEmpty)
        (if m = .attr then names ++ blk.flatMap (fun p => attrNames p.2) else names) s := by
  induction blk with
  | nil => intro b names; simp
  | cons p blk ih =>
    intro b names
    obtain ⟨x, rfl, hu'⟩ := hu.cons_inv
    by_cases hma : m = .attr
    · subst hma; simp [cutGo, ih hu']
    · simp [cutGo, hma, ih hu']

theorem cutGo_inEnter_mid (acc : Bool) (mid : MStream) (x : MEv) (s : MStream) (h : NoExit mid) :
    ∀ b names, cutGo acc .inEnter b names (mid ++ (some .exit, x) :: s) = cutGo acc .idle false names s := by
  induction mid with
  | nil => intro b names; simp [cutGo]
  | cons p mid ih =>
    intro b names
    obtain ⟨m', y⟩ := p
    obtain ⟨hp, hu⟩ := h.cons_inv
    simp only [List.cons_append, cutGo, hp, ↓reduceIte]
    exact ih hu _ _

def BrkPre (pre : MStream) : Prop := pre = [] ∨ pre = [brkItem]

theorem brkPre_ite (c : Prop) [Decidable c] : BrkPre (if c then [brkItem] else []) := by
  unfold BrkPre; split <;> simp

theorem brkPre_one : BrkPre [brkItem] := Or.inr rfl

theorem good_brk_prefix {pre : MStream} (hp : BrkPre pre) {s : MStream} (h : Good s) : Good (pre ++ s) := by
  rcases hp with rfl | rfl
  · simpa using h
  · simpa [brkItem] using Good.single (m := .brk) (x := .brk) (by decide) (by decide) rfl rfl h

theorem unmark_brk_prefix {pre : MStream} (hp : BrkPre pre) (s : MStream) : unmark (pre ++ s) = unmark s := by
  rcases hp with rfl | rfl <;> simp [brkItem, unmark]

theorem BrkPre.piece {pre : MStream} (hp : BrkPre pre) : GoodPiece pre :=
  ⟨by rw [← List.append_nil pre, unmark_brk_prefix hp]; exact Bal.nil, good_brk_prefix hp⟩

/-- the two states in which the generator can stand at a block boundary -/
def CutClaim (s : MStream) : Prop :=
  ∀ (st : RunSt), (st = .idle ∨ ∃ m0, m0 ≠ .enter ∧ st = .inRun m0) →
    ∀ acc b names out, cutGo acc st b names s = some out → GoodLike out s

/-- The claim is made for both states at once because a `Good` stream is so in more than one way: behind
    a block of `m` the generator stands in `.inRun m`, and the next block may go on with the same mark.
    In each case `key` / `fin` say what the first piece of the stream contributes (an unmarked item, its
    attributes possibly stripped; a dropped selection behind at most one BREAK), and the case split is
    over the state in which the generator meets it: idle, in a run of the same mark, or in a run of
    another mark, where the item is pushed back (`none` when an attribute run is not followed by a START). -/
theorem cut_claim {s : MStream} (hg : Good s) : CutClaim s := by
  induction hg with
  | nil =>
    intro st _ acc b names out h
    simp only [cutGo, Option.some.injEq] at h
    subst h
    cases b
    · exact GoodLike.piece (l' := []) brkPre_one.piece Bal.nil .nil
    · exact .nil
  | @plain x s' _ ih =>
    intro st hst acc b names out h
    have key : ∀ (x' : MEv) names', eff x' = eff x →
        ((none, x') :: ·) <$> cutGo acc .idle true names' s' = some out → GoodLike out ((none, x) :: s') := by
      intro x' names' he h
      obtain ⟨out', h1, rfl⟩ := Option.map_eq_some_iff.mp h
      exact (ih .idle (Or.inl rfl) acc true names' out' h1).plain he
    rcases hst with rfl | ⟨m0, hm0, rfl⟩
    · simp only [cutGo] at h
      exact key x names rfl h
    · have hne : ((none : Option Mark) = some m0) = False := by simp
      simp only [cutGo, hne, ↓reduceIte] at h
      by_cases hc : (m0 = Mark.attr && !x.isStart) = true
      · simp [hc] at h
      · simp only [hc] at h
        simp only [Bool.false_eq_true, ↓reduceIte] at h
        exact key _ _ (by split <;> simp [eff_stripAttrs]) h
  | @block m blk s' hne hnx hu hb _ ih =>
    cases blk with
    | nil => exact ih
    | cons p blk =>
      intro st hst acc b names out h
      obtain ⟨x, rfl, hu'⟩ := hu.cons_inv
      have fin : ∀ (pre : MStream), BrkPre pre → ∀ b' names', (pre ++ ·) <$>
            cutGo acc (.inRun m) b' names' (blk ++ s') = some out →
          GoodLike out (((some m, x) :: blk) ++ s') := by
        intro pre hpre b' names' h
        obtain ⟨out', h1, rfl⟩ := Option.map_eq_some_iff.mp h
        rw [cutGo_inRun_block acc hu' s' b' names'] at h1
        exact .piece hpre.piece hb (ih (.inRun m) (Or.inr ⟨m, hne, rfl⟩) acc _ _ out' h1)
      rcases hst with rfl | ⟨m0, hm0, rfl⟩
      · simp only [List.cons_append, cutGo, startSt, hne, ↓reduceIte] at h
        exact fin _ (brkPre_ite _) _ _ h
      · by_cases hmm : m = m0
        · subst hmm
          simp only [List.cons_append, cutGo, ↓reduceIte] at h
          exact fin [] (Or.inl rfl) false _ (by simpa using h)
        · have hne2 : (some m = some m0) = False := by simp [hmm]
          simp only [List.cons_append, cutGo, hne2, ↓reduceIte] at h
          by_cases hc : (m0 = Mark.attr && !x.isStart) = true
          · simp [hc] at h
          · simp only [hc, Bool.false_eq_true, ↓reduceIte, startSt, hne] at h
            exact fin _ (brkPre_ite _) _ _ h
  | @elem t a mid s' hf hb _ ih =>
    intro st hst acc b names out h
    have fin : ∀ (pre : MStream), BrkPre pre → ∀ b' names', (pre ++ ·) <$>
          cutGo acc .inEnter b' names' (mid ++ (some .exit, .ev (.end_ t)) :: s') = some out →
        GoodLike out ((some Mark.enter, MEv.ev (.start t a)) :: (mid ++ (some Mark.exit, MEv.ev (.end_ t)) :: s')) := by
      intro pre hpre b' names' h
      obtain ⟨out', h1, rfl⟩ := Option.map_eq_some_iff.mp h
      rw [cutGo_inEnter_mid acc mid _ s' hf.noExit] at h1
      exact .elem hpre.piece t a hb (ih .idle (Or.inl rfl) acc false names' out' h1)
    rcases hst with rfl | ⟨m0, hm0, rfl⟩
    · simp only [cutGo, startSt, ↓reduceIte] at h
      have : (Mark.enter = Mark.attr) = False := by simp
      simp only [this, ↓reduceIte] at h
      exact fin _ (brkPre_ite _) _ _ h
    · have hne2 : (some Mark.enter = some m0) = False := by
        simp; intro h; exact hm0 h.symm
      simp only [cutGo, hne2, ↓reduceIte, MEv.isStart, Bool.not_true, Bool.and_false,
        Bool.false_eq_true, startSt] at h
      have : (Mark.enter = Mark.attr) = False := by simp
      simp only [this, ↓reduceIte] at h
      exact fin _ (brkPre_ite _) _ _ h

theorem cut_goodLike {acc : Bool} {s out : MStream} (hg : Good s) (h : cut acc s = some out) : GoodLike out s :=
  cut_claim hg .idle (Or.inl rfl) acc false [] out h

end Genshi.Tf
