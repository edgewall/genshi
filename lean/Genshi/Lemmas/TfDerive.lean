import Genshi.Lemmas.Tf
/-!
# Derivation trees with `Transformer.apply(Transformer)` (chain concatenation)

`Transformer.apply(function)`: when `function` is itself a `Transformer`, the derived transformer's
chain is the chain of the object the method was called on followed by ALL links of the argument
(`transformer.transforms.extend(function.transforms)`); both stay as they were.  Model:
`deriveCat`, `DStep`, `historyD` (`Model/Tf.lean`); tie: driver verb `derive2`, correspondence
streams `derive-history` (chains of all objects after every derivation, links named by the
derivation that made them) and `chains-derived` (behaviour of the derived objects).

Behind them: `attr(name, callable)` for any callable, and `substitute` / the driven `map` as instances
of `mapText`.
-/
namespace Genshi.Tf

theorem deriveCat_length {α : Type} (h : List (List α)) (k j : Nat) :
    (deriveCat h k j).length = h.length + 1 := by
  simp [deriveCat]

theorem derive_length {α : Type} (h : List (List α)) (k : Nat) (x : α) :
    (derive h k x).length = h.length + 1 := by
  simp [derive]

theorem apply_transformer_leaves_origins {α : Type} (h : List (List α)) (k j i : Nat) (hi : i < h.length) :
    (deriveCat h k j)[i]? = h[i]? := by
  simp [deriveCat, List.getElem?_append_left hi]

theorem apply_transformer_concatenates {α : Type} (h : List (List α)) (k j : Nat) :
    (deriveCat h k j)[h.length]? = some (h.getD k [] ++ h.getD j []) ∧
      (deriveCat h k j).length = h.length + 1 := by
  simp [deriveCat]

example : deriveCat [[0], [0, 1], [0, 2]] 1 2 = [[0], [0, 1], [0, 2], [0, 1, 0, 2]] := by decide +kernel
example : (deriveCat [[0], [0, 1], [0, 2]] 1 2)[1]? = some [0, 1] := by decide +kernel
-- an object applied to itself: its chain twice
example : deriveCat [[0], [0, 1]] 1 1 = [[0], [0, 1], [0, 1, 0, 1]] := by decide +kernel

/-- a derivation appends one chain and changes nothing -/
theorem dstep_run {α : Type} (h : List (List α)) (st : DStep α) : ∃ c, st.run h = h ++ [c] := by
  cases st <;> exact ⟨_, rfl⟩

/-- every snapshot of a history is what it started from plus one chain per derivation so far -/
theorem historyD_ext {α : Type} : ∀ (ds : List (DStep α)) (h : List (List α)) (n : Nat) (snap : List (List α)),
    (historyD h ds)[n]? = some snap → ∃ ext, snap = h ++ ext ∧ ext.length = n + 1 := by
  intro ds
  induction ds with
  | nil => intro h n snap hm; simp [historyD] at hm
  | cons d ds ih =>
    intro h n snap hm
    obtain ⟨c, hc⟩ := dstep_run h d
    rw [historyD, hc] at hm
    cases n with
    | zero => exact ⟨[c], by simpa using hm.symm, rfl⟩
    | succ n =>
      obtain ⟨ext, rfl, he⟩ := ih _ n snap hm
      exact ⟨c :: ext, by simp, by simp [he]⟩

theorem historyD_keeps_chains {α : Type} : ∀ (ds : List (DStep α)) (h : List (List α)) (snap : List (List α)),
    snap ∈ historyD h ds → snap.take h.length = h := by
  intro ds h snap hm
  obtain ⟨n, hn⟩ := List.getElem?_of_mem hm
  obtain ⟨ext, rfl, _⟩ := historyD_ext ds h n snap hn
  simp

example : historyD [[0]] [.one 0 1, .one 0 2, .cat 1 2, .cat 3 3, .one 3 5] =
    [[[0], [0, 1]], [[0], [0, 1], [0, 2]], [[0], [0, 1], [0, 2], [0, 1, 0, 2]],
     [[0], [0, 1], [0, 2], [0, 1, 0, 2], [0, 1, 0, 2, 0, 1, 0, 2]],
     [[0], [0, 1], [0, 2], [0, 1, 0, 2], [0, 1, 0, 2, 0, 1, 0, 2], [0, 1, 0, 2, 5]]] := by decide +kernel

theorem historyD_snapshot_sizes {α : Type} : ∀ (ds : List (DStep α)) (h : List (List α)) (n : Nat)
    (snap : List (List α)), (historyD h ds)[n]? = some snap → snap.length = h.length + n + 1 := by
  intro ds h n snap hm
  obtain ⟨ext, rfl, he⟩ := historyD_ext ds h n snap hm
  simp [he, Nat.add_assoc]

example : (historyD [[0]] [.one 0 1, .cat 1 1])[1]? = some [[0], [0, 1], [0, 1, 0, 1]] := by decide +kernel

theorem historyD_one {α : Type} : ∀ (ds : List (Nat × α)) (h : List (List α)),
    historyD h (ds.map fun d => DStep.one d.1 d.2) = history h ds := by
  intro ds
  induction ds with
  | nil => intro h; simp [historyD, history]
  | cons d ds ih =>
    intro h
    obtain ⟨k, x⟩ := d
    simp only [List.map_cons, historyD, history, DStep.run]
    rw [ih]

example : historyD [[0]] [.one 0 1, .one 1 3] = history [[0]] [(0, 1), (1, 3)] := by decide +kernel

theorem runChain_append : ∀ (a b : List Op) (bufs : Bufs) (s : MStream),
    runChain (a ++ b) bufs s = (runChain a bufs s).bind fun r => runChain b r.2 r.1 := by
  intro a
  induction a with
  | nil => intro b bufs s; simp [runChain]
  | cons op a ih =>
    intro b bufs s
    simp only [List.cons_append, runChain]
    cases hop : applyOp bufs op s with
    | none => simp
    | some r => obtain ⟨s', b'⟩ := r; simp only []; exact ih b b' s'

theorem apply_transformer_runs_in_sequence (h : List (List Op)) (k j : Nat) (bufs : Bufs) (s : MStream) :
    ∀ c, (deriveCat h k j)[h.length]? = some c →
      runChain c bufs s = (runChain (h.getD k []) bufs s).bind fun r => runChain (h.getD j []) r.2 r.1 := by
  intro c hc
  have := (apply_transformer_concatenates h k j).1
  rw [this] at hc
  cases hc
  exact runChain_append _ _ _ _

-- non-vacuity: `Transformer('.')`-like chains; `t1 = t0.rename(n)`, `t2 = t1.apply(t1)`
example :
    let h : List (List Op) := [[.endSel], [.endSel, .rename ⟨[], ['n']⟩]]
    ∃ c, (deriveCat h 1 1)[h.length]? = some c ∧ c.length = 4 := ⟨_, rfl, rfl⟩

theorem attr_callable_changes_only_selected (n : QName) (f : QName → AttrList → Option Str) (s : MStream) :
    setAttrFn n f s = s.map (attrFnEv n f) ∧
    (∀ p : MItem, (attrFnEv n f p).1 = p.1) ∧
    (∀ (m : Option Mark) (x : MEv), m ≠ some .enter → attrFnEv n f (m, x) = (m, x)) ∧
    (∀ (m : Option Mark) (x : MEv), (∀ t a, x ≠ .ev (.start t a)) → attrFnEv n f (m, x) = (m, x)) ∧
    (∀ t a, attrFnEv n f (some .enter, .ev (.start t a)) =
        (some .enter, .ev (.start t (match f t a with
          | none => attrsSub a [n]
          | some w => attrsSet a n w)))) := by
  refine ⟨rfl, fun p => ?_, fun m x => ?_, fun m x => ?_, fun t a => rfl⟩
  · fun_cases attrFnEv n f p <;> rfl
  · have key : ∀ p : MItem, p.1 ≠ some .enter → attrFnEv n f p = p := fun p => by
      fun_cases attrFnEv n f p <;> intro h
      · exact absurd rfl h
      · rfl
    exact key (m, x)
  · have key : ∀ p : MItem, (∀ t a, p.2 ≠ .ev (.start t a)) → attrFnEv n f p = p := fun p => by
      fun_cases attrFnEv n f p <;> intro h
      · exact absurd rfl (h _ _)
      · rfl
    exact key (m, x)

theorem attr_callable_constant (n : QName) (v : Option Str) (s : MStream) :
    setAttrFn n (fun _ _ => v) s = setAttr n v s := by
  unfold setAttrFn setAttr
  rw [attrFnEv_const]

-- the callable reads the tag off the START event: `<b x="1">` selected gets `k="b"`
example : setAttrFn ⟨[], ['k']⟩ (fun t _ => some t.loc)
    [(some .enter, .ev (.start ⟨[], ['b']⟩ [(⟨[], ['x']⟩, ['1'])])), (some .exit, .ev (.end_ ⟨[], ['b']⟩)),
     (none, .ev (.start ⟨[], ['c']⟩ []))] =
    [(some .enter, .ev (.start ⟨[], ['b']⟩ [(⟨[], ['x']⟩, ['1']), (⟨[], ['k']⟩, ['b'])])),
     (some .exit, .ev (.end_ ⟨[], ['b']⟩)), (none, .ev (.start ⟨[], ['c']⟩ []))] := by decide +kernel

example : setAttrFn ⟨[], ['x']⟩ (fun _ _ => none)
    [(some .enter, .ev (.start ⟨[], ['b']⟩ [(⟨[], ['x']⟩, ['1'])]))] =
    setAttr ⟨[], ['x']⟩ none [(some .enter, .ev (.start ⟨[], ['b']⟩ [(⟨[], ['x']⟩, ['1'])]))] :=
  attr_callable_constant _ _ _

/-- `substitute(pattern, replace, count)` is `map(f, TEXT)` for `f = re.sub(pattern, replace, ·, count)`
    (a `Markup` text stays one): so `map_text_changes_only_selected_text` speaks about it — exactly the
    selected TEXT events change, by `subst`. -/
theorem substitute_is_map_text (p r : Str) (n : Nat) (s : MStream) :
    substitute p r n s = mapText (fun t sf => (subst p r n t, sf)) s := by
  have h : substEv p r n = mapTextEv (fun t sf => (subst p r n t, sf)) := by
    funext q
    obtain ⟨m, x⟩ := q
    cases m with
    | none => rfl
    | some m =>
      cases x with
      | ev e => cases e <;> rfl
      | _ => rfl
  unfold substitute mapText
  rw [h]

/-- `map(lambda d: d + '!', TEXT)` (the function the correspondence drives; also the user-written
    generator given to `apply(function)`) is `mapText` of that function. -/
theorem map_bang_text_is_map_text (s : MStream) :
    mapBang false s = mapText (fun t sf => (bang t, sf)) s := by
  have h : mapBangEv false = mapTextEv (fun t sf => (bang t, sf)) := by
    funext q
    obtain ⟨m, x⟩ := q
    cases m with
    | none => rfl
    | some m =>
      cases x with
      | ev e => cases e <;> rfl
      | _ => rfl
  unfold mapBang mapText
  rw [h]

example : substitute ['t'] ['Q'] 1 [(some .outside, .ev (.text ['t', 't'] false)), (none, .ev (.text ['t'] false))] =
    [(some .outside, .ev (.text ['Q', 't'] false)), (none, .ev (.text ['t'] false))] := by decide +kernel
example : mapBang false [(some .inside, .ev (.text ['a'] true)), (some .inside, .ev (.comment ['a']))] =
    [(some .inside, .ev (.text ['a', '!'] true)), (some .inside, .ev (.comment ['a']))] := by decide +kernel

end Genshi.Tf
