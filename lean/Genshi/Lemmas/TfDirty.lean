/-
  Streams without ENTER / EXIT marks (`Inner`: what `invert()` leaves behind).
  The element-only operations are the identity on them, and before / after — with contents that
  may vary from selection to selection (`runGoL`) — only insert balanced content, which keeps any
  stream balanced the same way, in every state of the loop.
-/
import Genshi.Lemmas.TfRunL
namespace Genshi.Tf

theorem invert_inner (s : MStream) : Inner (invert s) := by
  intro p hp
  simp only [invert, List.mem_map] at hp
  obtain ⟨q, _, rfl⟩ := hp
  obtain ⟨m, x⟩ := q
  cases m <;> simp

theorem empty_inner {s : MStream} (h : Inner s) : empty s = s := empty_elemOp.inner_id () h

theorem prepend_inner' (c : List MEv) {s : MStream} (h : Inner s) : prepend c s = s :=
  prepend_elemOp.inner_id c h

theorem append_inner' (c : List MEv) {s : MStream} (h : Inner s) : append c s = s :=
  append_elemOp.inner_id c h

theorem map_inner {f : MItem → MItem} (hf : EffPres f) {s : MStream} (h : Inner s) : Inner (s.map f) := by
  intro p hp
  obtain ⟨q, hq, rfl⟩ := List.mem_map.mp hp
  rw [(hf q).1]; exact h q hq

/-- `t` is `s` with pieces that satisfy `P` put in: what before() / after() do to ANY marked stream, so that
    whatever inserting such pieces preserves (balance, freedom from ENTER / EXIT marks) they preserve -/
inductive Ins (P : MStream → Prop) : MStream → MStream → Prop
  | nil : Ins P [] []
  | keep (p : MItem) {t s : MStream} : Ins P t s → Ins P (p :: t) (p :: s)
  | ins (c : MStream) {t s : MStream} : P c → Ins P t s → Ins P (c ++ t) s

theorem Ins.balance {t s : MStream} (h : Ins (fun c => Bal (unmark c)) t s) :
    ∀ st, balance st (unmark t) = balance st (unmark s) := by
  induction h with
  | nil => intro st; rfl
  | keep p _ ih => exact balance_cons_eff rfl ih
  | ins c hc _ ih => intro st; rw [unmark_append, balance_bal st hc, ih st]

theorem Ins.inner {t s : MStream} (h : Ins NoneMarked t s) (hs : Inner s) : Inner t := by
  induction h with
  | nil => exact hs
  | keep p _ ih =>
    have : Inner [p] := fun q hq => by rw [List.mem_singleton.mp hq]; exact hs p List.mem_cons_self
    exact this.append (ih hs.tail)
  | ins c hc _ ih => exact (Inner.ofNone hc).append (ih hs)

/-- the selection loop that keeps the selection (before / after, contents varying or not) only puts contents in,
    in every state -/
theorem runGoL_ins {P : MStream → Prop} (h0 : P []) (s : MStream) : ∀ (pres posts : List MStream),
    (∀ c ∈ pres, P c) → (∀ c ∈ posts, P c) → ∀ state, Ins P (runGoL true state pres posts s) s := by
  induction s with
  | nil =>
    intro pres posts _ hposts state
    have hp : Ins P (posts.headD []) [] := by simpa using Ins.ins _ (forall_headD h0 hposts) .nil
    cases state <;> simp only [runGoL]
    · exact .nil
    · exact hp
    · exact hp
  | cons p s ih =>
    intro pres posts hpres hposts state
    obtain ⟨m, x⟩ := p
    have hidle : ∀ (pres posts : List MStream), (∀ c ∈ pres, P c) → (∀ c ∈ posts, P c) →
        Ins P (runGoL true .idle pres posts ((m, x) :: s)) ((m, x) :: s) := by
      intro pres posts hpres hposts
      rcases m with _ | m
      · simp only [runGoL]; exact .keep _ (ih pres posts hpres hposts _)
      · simp only [runGoL, ↓reduceIte, List.singleton_append]
        exact .ins _ (forall_headD h0 hpres) (.keep _ (ih pres.tail posts (forall_tail hpres) hposts _))
    cases state with
    | idle => exact hidle pres posts hpres hposts
    | inEnter =>
      simp only [runGoL, ↓reduceIte, List.singleton_append]
      split
      · exact .keep _ (.ins _ (forall_headD h0 hposts) (ih pres posts.tail hpres (forall_tail hposts) _))
      · exact .keep _ (ih pres posts hpres hposts _)
    | inRun m0 =>
      by_cases hm : m = some m0
      · simp only [runGoL, hm, ↓reduceIte, List.singleton_append]; exact .keep _ (ih pres posts hpres hposts _)
      · rw [runGoL_pushback true pres posts m0 hm]
        exact .ins _ (forall_headD h0 hposts) (hidle pres posts.tail hpres (forall_tail hposts))

theorem runGoL_balance_bal (s : MStream) (pres posts : List MStream)
    (hpres : ∀ c ∈ pres, Bal (unmark c)) (hposts : ∀ c ∈ posts, Bal (unmark c)) (state : RunSt) (st : List QName) :
    balance st (unmark (runGoL true state pres posts s)) = balance st (unmark s) :=
  (runGoL_ins (P := fun c => Bal (unmark c)) Bal.nil s pres posts hpres hposts state).balance st

theorem runGoL_inner_none (s : MStream) (h : Inner s) (pres posts : List MStream)
    (hpres : ∀ c ∈ pres, NoneMarked c) (hposts : ∀ c ∈ posts, NoneMarked c) (state : RunSt) :
    Inner (runGoL true state pres posts s) :=
  (runGoL_ins noneMarked_nil s pres posts hpres hposts state).inner h

theorem runGoL_balance_any (s : MStream) : ∀ (pres posts : List MStream),
    (∀ c ∈ pres, VOk c) → (∀ c ∈ posts, VOk c) →
    ∀ (state : RunSt) st,
      balance st (unmark (runGoL true state pres posts s)) = balance st (unmark s) :=
  fun pres posts hpres hposts =>
    runGoL_balance_bal s pres posts (fun c hc => (hpres c hc).2) fun c hc => (hposts c hc).2

theorem runGoL_inner (s : MStream) (h : Inner s) : ∀ (pres posts : List MStream),
    (∀ c ∈ pres, VOk c) → (∀ c ∈ posts, VOk c) →
    ∀ state, Inner (runGoL true state pres posts s) :=
  fun pres posts hpres hposts =>
    runGoL_inner_none s h pres posts (fun c hc => (hpres c hc).1) fun c hc => (hposts c hc).1

theorem runGo_balance_any {pre post : MStream} (hpre : Bal (unmark pre)) (hpost : Bal (unmark post))
    (s : MStream) : ∀ (state : RunSt) st,
    balance st (unmark (runGo pre post true state s)) = balance st (unmark s) := by
  intro state st
  rw [← runGoL_replicate pre post true s state _ _ (Nat.lt_succ_self _) (Nat.lt_succ_self _)]
  exact runGoL_balance_bal s _ _ (replicate_forall hpre _) (replicate_forall hpost _) state st

theorem runGo_inner {pre post : MStream} (hpre : NoneMarked pre) (hpost : NoneMarked post)
    (s : MStream) (h : Inner s) : ∀ state, Inner (runGo pre post true state s) := by
  intro state
  rw [← runGoL_replicate pre post true s state _ _ (Nat.lt_succ_self _) (Nat.lt_succ_self _)]
  exact runGoL_inner_none s h _ _ (replicate_forall hpre _) (replicate_forall hpost _) state

end Genshi.Tf
