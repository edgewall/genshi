import Genshi.Model.TfFill
import Genshi.Lemmas.Core
namespace Genshi.Fill

theorem aget_eq (a : AttrList) (k : Str) :
    aget a k = (a.find? fun (q, _) => q = (⟨[], k⟩ : QName)).map (·.2) := by
  unfold aget
  congr 2
  funext ⟨⟨ns, loc⟩, _⟩
  cases ns <;> simp

theorem aget_aset (a : AttrList) (k v : Str) : aget (aset a k v) k = some v := by
  rw [aget_eq]
  unfold aset; simp only
  split
  · rename_i h
    induction a with
    | nil => simp at h
    | cons x a ih =>
      obtain ⟨q, w⟩ := x
      by_cases hq : q = (⟨[], k⟩ : QName)
      · simp [hq]
      · simp only [List.map_cons, hq, ↓reduceIte, List.find?_cons, decide_false]
        exact ih (by simpa [hq] using h)
  · rename_i h
    have : a.find? (fun (q, _) => q = (⟨[], k⟩ : QName)) = none := by
      rw [List.find?_eq_none]; intro x hx hc; exact h (List.any_eq_true.2 ⟨x, hx, hc⟩)
    simp [List.find?_append, this]

theorem aget_adel (a : AttrList) (k : Str) : aget (adel a k) k = none := by
  simp [aget_eq, adel]

theorem filter_aset (p : QName → Bool) (a : AttrList) (k v : Str) (hk : p ⟨[], k⟩ = false) :
    (aset a k v).filter (fun (q, _) => p q) = a.filter fun (q, _) => p q := by
  have hmap : (a.map fun (q, w) => if q = (⟨[], k⟩ : QName) then (q, v) else (q, w)).filter
      (fun (q, _) => p q) = a.filter fun (q, _) => p q := by
    induction a with
    | nil => rfl
    | cons x a ih =>
      obtain ⟨q, w⟩ := x
      by_cases hq : q = (⟨[], k⟩ : QName)
      · subst hq; simpa only [List.map_cons, ↓reduceIte, List.filter_cons, hk, Bool.false_eq_true] using ih
      · simp only [List.map_cons, hq, ↓reduceIte, List.filter_cons, ih]
  unfold aset; simp only
  split
  · exact hmap
  · simp [hk]

theorem filter_adel (p : QName → Bool) (a : AttrList) (k : Str) (hk : p ⟨[], k⟩ = false) :
    (adel a k).filter (fun (q, _) => p q) = a.filter fun (q, _) => p q := by
  unfold adel
  rw [List.filter_filter]
  congr 1
  funext ⟨q, _⟩
  by_cases hq : q = (⟨[], k⟩ : QName) <;> simp [hq, hk]

/-- the way the filler sets a flag attribute (`checked`, `selected`): present with the value `k`
    when `b`, otherwise removed -/
theorem filter_flag (p : QName → Bool) (a : AttrList) (k : Str) (b : Bool) (hk : p ⟨[], k⟩ = false) :
    (if b then aset a k k else if ahas a k then adel a k else a).filter (fun (q, _) => p q) =
      a.filter fun (q, _) => p q := by
  split
  · exact filter_aset p a k k hk
  · split
    · exact filter_adel p a k hk
    · rfl

theorem ahas_flag (a : AttrList) (k : Str) (b : Bool) :
    ahas (if b then aset a k k else if ahas a k then adel a k else a) k = b := by
  cases b
  · simp only [Bool.false_eq_true, ↓reduceIte]
    split
    · simp [ahas, aget_adel]
    · rename_i h; simpa using h
  · simp [ahas, aget_aset]

theorem adel_aset (a : AttrList) (k v : Str) : adel (aset a k v) k = adel a k :=
  filter_aset (fun q => !(q = (⟨[], k⟩ : QName))) a k v (by simp)

theorem adel_flag (a : AttrList) (k : Str) (b : Bool) :
    adel (if b then aset a k k else if ahas a k then adel a k else a) k = adel a k :=
  filter_flag (fun q => !(q = (⟨[], k⟩ : QName))) a k b (by simp)

/-- the three attributes the filler may touch (no namespace) -/
def special (n : QName) : Bool :=
  n.ns.isEmpty && (n.loc = sValue || n.loc = sChecked || n.loc = sSelected)

/-- an attribute list without `value` / `checked` / `selected` -/
def normAttrs (a : AttrList) : AttrList := a.filter fun (n, _) => !special n

theorem special_value : special ⟨[], sValue⟩ = true := by decide
theorem special_checked : special ⟨[], sChecked⟩ = true := by decide
theorem special_selected : special ⟨[], sSelected⟩ = true := by decide

theorem normAttrs_adel (a : AttrList) (k : Str) (hk : special ⟨[], k⟩ = true) :
    normAttrs (adel a k) = normAttrs a :=
  filter_adel (fun n => !special n) a k (by simp [hk])

theorem normAttrs_flag (a : AttrList) (k : Str) (b : Bool) (hk : special ⟨[], k⟩ = true) :
    normAttrs (if b then aset a k k else if ahas a k then adel a k else a) = normAttrs a :=
  filter_flag (fun n => !special n) a k b (by simp [hk])


/-- the `type` of an input as the filler sees it -/
def inputType (a : AttrList) : Str := ((aget a sType).getD []).map Str.lower

theorem inputAttrs_password (c : Cfg) (a : AttrList) (ht : inputType a = sPassword)
    (hp : c.passwords = false) : inputAttrs c a = a := by
  unfold inputAttrs
  unfold inputType at ht
  simp only [ht, hp]
  have h1 : (sPassword = sCheckbox) = False := by decide
  have h2 : (sPassword = sRadio) = False := by decide
  have h3 : (sPassword = ([] : Str)) = False := by decide
  have h4 : (sPassword = sHidden) = False := by decide
  have h5 : (sPassword = sText) = False := by decide
  simp [h1, h2, h3, h4, h5]

/-- an input's attributes are unchanged, or differ in `checked` only (checkbox / radio named in the
    data), or differ in `value` only (text-like input named in the data; a password only when asked) -/
theorem inputAttrs_confined (c : Cfg) (a : AttrList) :
    inputAttrs c a = a ∨
    (∃ name value, aget a sName = some name ∧ c.lookup name = some value ∧
      ((inputType a = sCheckbox ∨ inputType a = sRadio) ∧ adel (inputAttrs c a) sChecked = adel a sChecked ∨
       ¬ (inputType a = sPassword ∧ c.passwords = false) ∧ ¬ (inputType a = sCheckbox ∨ inputType a = sRadio) ∧
         adel (inputAttrs c a) sValue = adel a sValue)) := by
  by_cases hpw : inputType a = sPassword ∧ c.passwords = false
  · exact Or.inl (inputAttrs_password c a hpw.1 hpw.2)
  -- of the branches of `inputAttrs`, 2 and 3 set / remove `checked`, 8 sets `value`; the others return `a`
  fun_cases inputAttrs c a
  case case2 ht name hn _ value hl _ =>
    exact Or.inr ⟨name, value, hn, hl, Or.inl ⟨by simpa [inputType] using ht, adel_aset _ _ _⟩⟩
  case case3 ht name hn _ value hl _ _ =>
    exact Or.inr ⟨name, value, hn, hl, Or.inl ⟨by simpa [inputType] using ht,
      filter_adel (fun q => !(q = (⟨[], sChecked⟩ : QName))) a sChecked (by simp)⟩⟩
  case case8 ht _ name hn _ value hl v _ =>
    exact Or.inr ⟨name, value, hn, hl, Or.inr ⟨hpw, by simpa [inputType] using ht, adel_aset _ _ _⟩⟩
  all_goals exact Or.inl rfl

theorem normAttrs_of_adel {a b : AttrList} {k : Str} (hk : special ⟨[], k⟩ = true)
    (h : adel a k = adel b k) : normAttrs a = normAttrs b := by
  rw [← normAttrs_adel a k hk, h, normAttrs_adel b k hk]

theorem normAttrs_inputAttrs (c : Cfg) (a : AttrList) : normAttrs (inputAttrs c a) = normAttrs a := by
  rcases inputAttrs_confined c a with h | ⟨_, _, _, _, ⟨_, h⟩ | ⟨_, _, h⟩⟩
  · rw [h]
  · exact normAttrs_of_adel special_checked h
  · exact normAttrs_of_adel special_value h

theorem inputAttrs_unnamed (c : Cfg) (a : AttrList)
    (h : ∀ n, aget a sName = some n → c.lookup n = none) : inputAttrs c a = a := by
  rcases inputAttrs_confined c a with h' | ⟨n, _, hn, hl, _⟩
  · exact h'
  · rw [h n hn] at hl; cases hl

theorem inputAttrs_value (c : Cfg) (a : AttrList) (name : Str) (value : Val) (v : Scalar)
    (ht : inputType a = [] ∨ inputType a = sHidden ∨ inputType a = sText ∨
      (inputType a = sPassword ∧ c.passwords = true))
    (hn : aget a sName = some name) (hne : name.isEmpty = false) (hl : c.lookup name = some value)
    (hf : firstOf value = some v) : aget (inputAttrs c a) sValue = some v.text := by
  unfold inputAttrs
  unfold inputType at ht
  have hnc : ∀ t : Str, (t = [] ∨ t = sHidden ∨ t = sText ∨ (t = sPassword ∧ c.passwords = true)) →
      (decide (t = sCheckbox) || decide (t = sRadio)) = false := by
    intro t h
    rcases h with rfl | rfl | rfl | ⟨rfl, _⟩ <;> decide
  have hyes : ∀ t : Str, (t = [] ∨ t = sHidden ∨ t = sText ∨ (t = sPassword ∧ c.passwords = true)) →
      (decide (t = []) || decide (t = sHidden) || decide (t = sText) ||
        (decide (t = sPassword) && c.passwords)) = true := by
    intro t h
    rcases h with rfl | rfl | rfl | ⟨rfl, hp⟩
    · simp
    · simp
    · simp
    · simp [hp]
  simp only [hnc _ ht, hyes _ ht, Bool.false_eq_true, ↓reduceIte, hn, hne, hl, hf]
  exact aget_aset a sValue v.text

theorem inputAttrs_checked (c : Cfg) (a : AttrList) (name : Str) (value : Val)
    (ht : inputType a = sCheckbox ∨ inputType a = sRadio)
    (hn : aget a sName = some name) (hne : name.isEmpty = false) (hl : c.lookup name = some value) :
    ahas (inputAttrs c a) sChecked = isChecked (inputType a = sCheckbox) (aget a sValue) value := by
  unfold inputAttrs
  unfold inputType at ht ⊢
  have hyes : (decide (List.map Str.lower ((aget a sType).getD []) = sCheckbox) ||
      decide (List.map Str.lower ((aget a sType).getD []) = sRadio)) = true := by
    rcases ht with h | h <;> simp [h]
  simp only [hyes, ↓reduceIte, hn, hne, Bool.false_eq_true, hl]
  exact ahas_flag a sChecked _

/-- What one iteration of the filler's loop can do: the branches of `step`, each with as much
    of its condition as the theorems about all runs need (`pass` stands for every branch that
    hands the event on and leaves the state alone). -/
inductive Step (c : Cfg) (st : St) : Event → Option (St × Stream) → Prop
  | pass (e) : Step c st e (some (st, [e]))
  | form (tag a) : Step c st (.start tag a) (some ({ st with inForm := true }, [.start tag a]))
  | input (tag a) : tag.loc = sInput → Step c st (.start tag a) (some (st, [.start tag (inputAttrs c a)]))
  | select (tag a v) : (aget a sName).bind c.lookup = some v →
      Step c st (.start tag a) (some ({ st with selectValue := some v, inSelect := true }, [.start tag a]))
  | textarea (tag a v) : tag.loc = sTextarea → (aget a sName).bind c.lookup = some v →
      Step c st (.start tag a)
        (some ({ st with textareaValue := firstOf v, inTextarea := true }, [.start tag a]))
  | holdStart (tag a) : st.inForm = true → st.inSelect = true → tag.loc = sOption →
      Step c st (.start tag a)
        (some ({ st with optionStart := some (tag, a), optionValue := (aget a sValue).getD [],
                         noOptionValue := st.noOptionValue || (aget a sValue).isNone, inOption := true }, []))
  | holdText (t f) : st.inSelect = true → st.inOption = true →
      Step c st (.text t f)
        (some ({ st with optionValue := if st.noOptionValue then st.optionValue ++ t else st.optionValue,
                         optionText := st.optionText ++ [.text t f] }, []))
  | dropText (t f) : st.inTextarea = true → Step c st (.text t f) (some (st, []))
  | endForm (tag) : Step c st (.end_ tag) (some ({ st with inForm := false }, [.end_ tag]))
  | endSelect (tag) :
      Step c st (.end_ tag) (some ({ st with inSelect := false, selectValue := none }, [.end_ tag]))
  | endOption (tag ot oa) : st.inSelect = true → st.optionStart = some (ot, oa) →
      Step c st (.end_ tag)
        (some ({ st with inOption := false, noOptionValue := false, optionStart := none,
                         optionValue := [], optionText := [] },
          .start ot (if isSelected st.optionValue st.selectValue then aset oa sSelected sSelected
                     else if ahas oa sSelected then adel oa sSelected else oa) ::
            (st.optionText ++ [.end_ tag])))
  | endTextarea (tag) : st.inTextarea = true →
      Step c st (.end_ tag)
        (some ({ st with inTextarea := false, textareaValue := none },
          (match st.textareaValue with
            | some v => if v.text.isEmpty then [] else [.text v.text false]
            | none => []) ++ [.end_ tag]))
  | fail (tag) : st.inSelect = true → Step c st (.end_ tag) none


theorem step_spec (c : Cfg) (st : St) (e : Event) : Step c st e (step c st e) := by
  -- every branch of `step` is answered by the one constructor with its event kind, new state and
  -- output (found by unification); what is left are the branch conditions the constructor asks for
  fun_cases step c st e
  all_goals constructor
  all_goals simp_all +zetaDelta

theorem sOption_ne_sForm : (sOption = sForm) = False := by decide
theorem sOption_ne_sSelect : (sOption = sSelect) = False := by decide
theorem sOption_ne_sInput : (sOption = sInput) = False := by decide
theorem sOption_ne_sTextarea : (sOption = sTextarea) = False := by decide

theorem step_holdText (c : Cfg) (st : St) (t : Str) (f : Bool) (hF : st.inForm = true)
    (hS : st.inSelect = true) (hO : st.inOption = true) :
    step c st (.text t f) =
      some ({ st with optionValue := if st.noOptionValue then st.optionValue ++ t else st.optionValue,
                      optionText := st.optionText ++ [.text t f] }, []) := by
  simp [step, hF, hS, hO]

theorem step_endOption (c : Cfg) (st : St) (tag ot : QName) (oa : AttrList) (hF : st.inForm = true)
    (hS : st.inSelect = true) (ht : tag.loc = sOption) (hp : st.optionStart = some (ot, oa)) :
    step c st (.end_ tag) =
      some ({ st with inOption := false, noOptionValue := false, optionStart := none,
                      optionValue := [], optionText := [] },
        .start ot (if isSelected st.optionValue st.selectValue then aset oa sSelected sSelected
                   else if ahas oa sSelected then adel oa sSelected else oa) ::
          (st.optionText ++ [.end_ tag])) := by
  simp [step, hF, hS, ht, hp, sOption_ne_sForm, sOption_ne_sSelect]

/-- no START event of the stream, of whatever element, has a `name` with an entry in the data (more
    than is needed: the filler looks at inputs, selects and textareas only) -/
def Unnamed (c : Cfg) (s : Stream) : Prop :=
  ∀ tag a, Event.start tag a ∈ s → ∀ n, aget a sName = some n → c.lookup n = none

theorem step_unnamed {c : Cfg} (st : St) (hs : st.inSelect = false) (ht : st.inTextarea = false)
    (e : Event) (h : ∀ tag a, e = .start tag a → ∀ n, aget a sName = some n → c.lookup n = none) :
    ∃ st', step c st e = some (st', [e]) ∧ st'.inSelect = false ∧ st'.inTextarea = false := by
  have hb : ∀ tag a, e = .start tag a → (aget a sName).bind c.lookup = none := by
    intro tag a he
    cases hn : aget a sName with
    | none => rfl
    | some n => exact h tag a he n hn
  have hsp := step_spec c st e
  generalize step c st e = r at hsp
  cases hsp with
  | pass | form | endForm => exact ⟨_, rfl, hs, ht⟩
  | endSelect => exact ⟨_, rfl, rfl, ht⟩
  | input tag a => rw [inputAttrs_unnamed c a (h tag a rfl)]; exact ⟨_, rfl, hs, ht⟩
  | select tag a v hv | textarea tag a v _ hv => rw [hb tag a rfl] at hv; cases hv
  | holdStart _ _ _ h' | holdText _ _ h' | endOption _ _ _ h' | fail _ h' => rw [hs] at h'; cases h'
  | dropText _ _ h' | endTextarea _ h' => rw [ht] at h'; cases h'

theorem fillGo_cons {c : Cfg} {st st' : St} {e : Event} {o : Stream} (h : step c st e = some (st', o))
    (es : Stream) : fillGo c st (e :: es) = (fillGo c st' es).map (o ++ ·) := by
  simp [fillGo, h]

theorem fillGo_unnamed {c : Cfg} (s : Stream) (h : Unnamed c s) :
    ∀ st : St, st.inSelect = false → st.inTextarea = false → fillGo c st s = some s := by
  induction s with
  | nil => intro st _ _; rfl
  | cons e s ih =>
    intro st hs ht
    obtain ⟨st', h1, h2, h3⟩ := step_unnamed (c := c) st hs ht e
      (fun tag a he n hn => h tag a (by simp [he]) n hn)
    rw [fillGo_cons h1, ih (fun tag a hm n hn => h tag a (by simp [hm]) n hn) st' h2 h3]
    rfl

def isText : Event → Bool
  | .text _ _ => true
  | _ => false

def isOptStart : Event → Bool
  | .start t _ => t.loc = sOption
  | _ => false

def isOptEnd : Event → Bool
  | .end_ t => t.loc = sOption
  | _ => false

def isTextareaStart : Event → Bool
  | .start t _ => t.loc = sTextarea
  | _ => false

/-- hypothesis of the theorems (known finding C20-option-children): every START of an
    `option` element is followed by TEXT events only and then by the END of an `option` -/
def optText : Bool → Stream → Bool
  | false, [] => true
  | true, [] => false
  | false, e :: s => optText (isOptStart e) s
  | true, e :: s => if isText e then optText true s else isOptEnd e && optText false s

def normEv : Event → Event
  | .start t a => .start t (normAttrs a)
  | e => e

/-- the view of a stream in which the filler must change nothing: `value` / `checked` /
    `selected` attributes erased, TEXT events erased unless `kt` -/
def norm (kt : Bool) (s : Stream) : Stream := (s.filter fun e => kt || !isText e).map normEv

theorem norm_append (kt : Bool) (a b : Stream) : norm kt (a ++ b) = norm kt a ++ norm kt b := by
  simp [norm]

@[simp] theorem norm_nil (kt : Bool) : norm kt [] = [] := rfl

theorem norm_start (kt : Bool) (t : QName) {a a' : AttrList} (h : normAttrs a' = normAttrs a)
    (s : Stream) : norm kt (.start t a' :: s) = norm kt (.start t a :: s) := by
  simp [norm, isText, normEv, h]

theorem norm_text (t : Str) (f : Bool) (s : Stream) : norm false (.text t f :: s) = norm false s := by
  simp [norm, isText]

/-- the START of an option held back together with the option's text -/
def pend (st : St) : Stream :=
  match st.optionStart with
  | some (t, a) => .start t a :: st.optionText
  | none => []

/-- `inO`: the flag of `optText`, which follows every option element; the filler holds back
    only those inside a select named in the data -/
structure Inv (kt : Bool) (st : St) (inO : Bool) : Prop where
  noPend : st.optionStart = none → st.optionText = [] ∧ st.inOption = false
  isPend : ∀ t a, st.optionStart = some (t, a) →
    inO = true ∧ st.inForm = true ∧ st.inSelect = true ∧ st.inOption = true
  ta : kt = true → st.inTextarea = false

theorem optText_cons {inO : Bool} {e : Event} {s : Stream} (h : optText inO (e :: s) = true) :
    ∃ inO', optText inO' s = true ∧ (isOptStart e = true → inO' = true) := by
  cases inO with
  | false => exact ⟨isOptStart e, h, id⟩
  | true =>
    simp only [optText] at h
    split at h
    · exact ⟨true, h, fun _ => rfl⟩
    · rw [Bool.and_eq_true] at h
      exact ⟨false, h.2, fun hs => by cases e <;> simp [isOptStart, isOptEnd] at hs h⟩

/-- One iteration: what has been emitted plus what is held back is, in the view `norm`, what
    was held back before plus the event read. -/
theorem step_norm (c : Cfg) (kt : Bool) (st : St) (inO : Bool) (e : Event) (s' : Stream)
    (hinv : Inv kt st inO) (hopt : optText inO (e :: s') = true)
    (hta : kt = true → ∀ tag a, e = .start tag a → tag.loc = sTextarea →
      (aget a sName).bind c.lookup = none)
    (st' : St) (o : Stream) (hstep : step c st e = some (st', o)) :
    ∃ inO', Inv kt st' inO' ∧ optText inO' s' = true ∧
      norm kt (o ++ pend st') = norm kt (pend st ++ [e]) := by
  cases hp : st.optionStart with
  | some pr =>
    -- an option is held back: by `optText` the event is one of its texts or its END
    obtain ⟨ot, oa⟩ := pr
    obtain ⟨rfl, hF, hS, hOp⟩ := hinv.isPend ot oa hp
    cases e with
    | text t f =>
      cases (step_holdText c st t f hF hS hOp).symm.trans hstep
      exact ⟨true, ⟨fun h => by simp [hp] at h, fun _ _ _ => ⟨rfl, hF, hS, hOp⟩, hinv.ta⟩, hopt,
        by simp [pend, hp]⟩
    | end_ tag =>
      obtain ⟨ht, hopt⟩ : tag.loc = sOption ∧ optText false s' = true := by
        simpa [optText, isText, isOptEnd] using hopt
      cases (step_endOption c st tag ot oa hF hS ht hp).symm.trans hstep
      refine ⟨false, ⟨fun _ => ⟨rfl, rfl⟩, fun _ _ h => by simp at h, hinv.ta⟩, hopt, ?_⟩
      simpa [pend, hp] using norm_start kt ot (normAttrs_flag oa sSelected _ special_selected) _
    | _ => simp [optText, isText, isOptEnd] at hopt
  | none =>
    obtain ⟨hTx, hOp⟩ := hinv.noPend hp
    obtain ⟨inO', hopt', hflag⟩ := optText_cons hopt
    have hpend : pend st = [] := by simp [pend, hp]
    -- a state with the option bookkeeping of `st`
    have keep : ∀ st1 : St, st1.optionStart = none → st1.optionText = [] → st1.inOption = false →
        (kt = true → st1.inTextarea = false) → Inv kt st1 inO' :=
      fun st1 h1 h2 h3 h4 => ⟨fun _ => ⟨h2, h3⟩, fun t a h => by simp [h1] at h, h4⟩
    -- inside a textarea named in the data only the view without TEXT is claimed
    have noTa : st.inTextarea = true → kt = false := fun h => by
      cases kt with
      | false => rfl
      | true => simp [hinv.ta rfl] at h
    have hsp := step_spec c st e
    rw [hstep] at hsp
    cases hsp with
    | input tag a =>
      exact ⟨inO', keep _ hp hTx hOp hinv.ta, hopt', by
        simpa [hpend] using norm_start kt tag (normAttrs_inputAttrs c a) []⟩
    | textarea tag a v ht hv =>
      have hkt : kt = false := by
        cases kt with
        | false => rfl
        | true => rw [hta rfl tag a rfl ht] at hv; cases hv
      exact ⟨inO', keep _ hp hTx hOp (by simp [hkt]), hopt', by simp [pend, hp]⟩
    | holdStart tag a hF hS ht =>
      cases hflag (by simp [isOptStart, ht])
      exact ⟨true, ⟨fun h => by simp at h, fun _ _ _ => ⟨rfl, hF, hS, rfl⟩, hinv.ta⟩, hopt',
        by simp [pend, hp, hTx]⟩
    | holdText t f _ hO => rw [hOp] at hO; cases hO
    | dropText t f hT =>
      cases noTa hT
      exact ⟨inO', keep _ hp hTx hOp hinv.ta, hopt', by simp [hpend, norm_text]⟩
    | endOption tag ot oa _ h => rw [hp] at h; cases h
    | endTextarea tag hT =>
      cases noTa hT
      refine ⟨inO', keep _ hp hTx hOp (fun _ => rfl), hopt', ?_⟩
      simp only [pend, hp, List.append_nil, List.nil_append]
      split
      · split <;> simp [norm_text]
      · rfl
    | _ => exact ⟨inO', keep _ hp hTx hOp hinv.ta, hopt', by simp [pend, hp]⟩

/-- `kt = true`: TEXT events stay in the view.  That is claimed only when no textarea of the stream is
    named in the data (third hypothesis; `Inv.ta`: the filler is then never inside one), the one
    place where the filler changes text. -/
theorem fillGo_norm (c : Cfg) (kt : Bool) : ∀ (s : Stream) (st : St) (inO : Bool),
    Inv kt st inO → optText inO s = true →
    (kt = true → ∀ tag a, Event.start tag a ∈ s → tag.loc = sTextarea → (aget a sName).bind c.lookup = none) →
    ∀ out, fillGo c st s = some out → norm kt out = norm kt (pend st ++ s) := by
  intro s
  induction s with
  | nil =>
    intro st inO hinv hopt _ out h
    cases h
    cases inO with
    | true => simp [optText] at hopt
    | false =>
      cases hp : st.optionStart with
      | none => simp [pend, hp]
      | some pr => simpa using (hinv.isPend pr.1 pr.2 hp).1
  | cons e s ih =>
    intro st inO hinv hopt hta out h
    cases hs : step c st e with
    | none => simp [fillGo, hs] at h
    | some r =>
      obtain ⟨st', o⟩ := r
      rw [fillGo_cons hs] at h
      obtain ⟨out', hr, rfl⟩ := Option.map_eq_some_iff.mp h
      obtain ⟨inO', hinv', hopt', hn⟩ := step_norm c kt st inO e s hinv hopt
        (fun hk tag a he => hta hk tag a (by simp [he])) st' o hs
      have := ih st' inO' hinv' hopt' (fun hk tag a he' => hta hk tag a (by simp [he'])) out' hr
      rw [norm_append, this, ← norm_append, ← List.append_assoc, norm_append, hn, ← norm_append]
      simp

theorem inv_init (kt : Bool) : Inv kt {} false :=
  ⟨fun _ => ⟨rfl, rfl⟩, fun t a h => by simp at h, fun _ => rfl⟩

theorem fill_norm (c : Cfg) (kt : Bool) (s out : Stream) (hopt : optText false s = true)
    (hta : kt = true → ∀ tag a, Event.start tag a ∈ s → tag.loc = sTextarea → (aget a sName).bind c.lookup = none)
    (h : fill c s = some out) : norm kt out = norm kt s :=
  fillGo_norm c kt s {} false (inv_init kt) hopt hta out h

theorem norm_false_cons (e : Event) (s : Stream) :
    norm false (e :: s) = if isText e = true then norm false s else normEv e :: norm false s := by
  cases h : isText e <;> simp [norm, h]

theorem balance_norm (s : Stream) : ∀ st, balance st (norm false s) = balance st s := by
  induction s with
  | nil => intro st; rfl
  | cons e s ih =>
    intro st
    rw [norm_false_cons]
    cases e with
    | start t a => simp only [isText, Bool.false_eq_true, ↓reduceIte, normEv, balance]; exact ih _
    | end_ t =>
      cases st with
      | nil => simp [isText, normEv, balance]
      | cons t' st =>
        by_cases ht : t = t'
        · simp only [isText, Bool.false_eq_true, ↓reduceIte, normEv, balance, ht]; exact ih _
        · simp [isText, normEv, balance, ht]
    | text t f =>
      simp only [isText, ↓reduceIte]
      rw [balance_skip _ (by rfl), ih st]
    | _ =>
      simp only [isText, Bool.false_eq_true, ↓reduceIte, normEv]
      rw [balance_skip _ (by rfl), balance_skip _ (by rfl), ih st]

end Genshi.Fill
