/-
  The form-filler state machine (`Genshi.Fill.fill`) computes the documentation semantics
  `fillSpec` on every forest of its domain `okForest`; every well-nested stream is the
  flattening of the forest `parse` returns.
-/
import Genshi.Model.TfFillSpec
import Genshi.Lemmas.TfFill
namespace Genshi.Fill

theorem parseGo_leaf (fr : List (QName × AttrList × List Node)) (cur : List Node) {e : Event}
    (he : e.isStartEnd = false) (es : Stream) : parseGo fr cur (e :: es) = parseGo fr (.leaf e :: cur) es := by
  cases e with
  | start | end_ => cases he
  | _ => simp only [parseGo]

/-- `parse` reads the flattening of a forest back, node by node, in whatever frame it stands -/
theorem parseGo_flatten :
    (∀ n : Node, n.ok = true → ∀ fr cur rest, parseGo fr cur (n.flatten ++ rest) = parseGo fr (n :: cur) rest) ∧
    (∀ ns : List Node, okList ns = true → ∀ fr cur rest,
      parseGo fr cur (flattenList ns ++ rest) = parseGo fr (ns.reverse ++ cur) rest) := by
  refine node_induction (fun t a ks ih hok fr cur rest => ?_) (fun e hok fr cur rest => ?_)
    (fun _ _ _ _ => rfl) (fun n ns ihn ihns hok fr cur rest => ?_)
  · have hk : okList ks = true := by simpa [Node.ok] using hok
    simp only [Node.flatten, List.cons_append, List.append_assoc, parseGo]
    rw [ih hk]
    simp [parseGo]
  · exact parseGo_leaf fr cur (by simpa [Node.ok] using hok) rest
  · simp only [okList, Bool.and_eq_true] at hok
    rw [flattenList, List.append_assoc, ihn hok.1, ihns hok.2]
    simp

/-- a well-nested stream is the flattening of a forest (`wellNested_flatten_forest`), and `parse` returns that forest -/
theorem parse_wellNested (s : Stream) (h : WellNested s) :
    ∃ ns, parse s = some ns ∧ flattenList ns = s ∧ okList ns = true := by
  obtain ⟨ns, hok, rfl⟩ := wellNested_flatten_forest h
  refine ⟨ns, ?_, rfl, hok⟩
  have := parseGo_flatten.2 ns hok [] [] []
  simpa [parse, parseGo] using this

/-- the state of the filler between two sibling nodes: inside the selected form or not, governed
    by a select named in the data or not; nothing held back -/
def ctxSt (f : Bool) (sel : Option Val) : St := { inForm := f, inSelect := sel.isSome, selectValue := sel }

/-- an element whose START takes the filler from the state `st` of its siblings into the state `st1`
    of its children, and whose END takes it back: the children are done in `st1` (`hk`) -/
theorem fillGo_elem {c : Cfg} {st st1 : St} {t : QName} {a a' : AttrList} {ks ks' : List Node}
    (h1 : step c st (.start t a) = some (st1, [.start t a']))
    (hk : ∀ r, fillGo c st1 (flattenList ks ++ r) = (fillGo c st1 r).map (flattenList ks' ++ ·))
    (h2 : step c st1 (.end_ t) = some (st, [.end_ t])) (rest : Stream) :
    fillGo c st ((Node.elem t a ks).flatten ++ rest) =
      (fillGo c st rest).map ((Node.elem t a' ks').flatten ++ ·) := by
  simp only [Node.flatten, List.cons_append, List.append_assoc]
  rw [fillGo_cons h1, hk, fillGo_cons h2]
  simp [Option.map_map, Function.comp_def]

theorem sForm_ne_sInput : (sForm = sInput) = False := by decide
theorem sForm_ne_sSelect : (sForm = sSelect) = False := by decide
theorem sForm_ne_sTextarea : (sForm = sTextarea) = False := by decide
theorem sForm_ne_sOption : (sForm = sOption) = False := by decide
theorem sInput_ne_sForm : (sInput = sForm) = False := by decide
theorem sInput_ne_sSelect : (sInput = sSelect) = False := by decide
theorem sInput_ne_sTextarea : (sInput = sTextarea) = False := by decide
theorem sInput_ne_sOption : (sInput = sOption) = False := by decide
theorem sSelect_ne_sForm : (sSelect = sForm) = False := by decide
theorem sSelect_ne_sInput : (sSelect = sInput) = False := by decide
theorem sSelect_ne_sOption : (sSelect = sOption) = False := by decide
theorem sTextarea_ne_sForm : (sTextarea = sForm) = False := by decide
theorem sTextarea_ne_sInput : (sTextarea = sInput) = False := by decide
theorem sTextarea_ne_sSelect : (sTextarea = sSelect) = False := by decide
theorem sTextarea_ne_sOption : (sTextarea = sOption) = False := by decide

theorem step_other (c : Cfg) (st : St) (e : Event) (he : e.isStartEnd = false) (ht : isText e = false) :
    step c st e = some (st, [e]) := by
  cases e with
  | start | end_ => cases he
  | text => cases ht
  | _ => rfl

theorem step_leaf (c : Cfg) (st : St) (e : Event) (he : e.isStartEnd = false)
    (h1 : st.inOption = false) (h2 : st.inTextarea = false) : step c st e = some (st, [e]) := by
  cases ht : isText e with
  | false => exact step_other c st e he ht
  | true =>
    cases e with
    | text t f => simp [step, h1, h2]
    | _ => cases ht

/-- the content of a textarea named in the data: TEXT is dropped, the rest passes -/
theorem fill_textarea_kids (c : Cfg) (st : St) (hF : st.inForm = true) (hO : st.inOption = false)
    (hT : st.inTextarea = true) : ∀ (ks : List Node) (rest : Stream), ks.all isLeafOk = true →
    fillGo c st (flattenList ks ++ rest) =
      (fillGo c st rest).map (flattenList (ks.filter fun k => !isTextLeaf k) ++ ·)
  | [], rest, _ => by simp [flattenList]
  | k :: ks, rest, h => by
    simp only [List.all_cons, Bool.and_eq_true] at h
    have ih := fill_textarea_kids c st hF hO hT ks rest h.2
    cases k with
    | elem t a ks' => simp [isLeafOk] at h
    | leaf e =>
      have he : e.isStartEnd = false := by simpa [isLeafOk] using h.1
      simp only [flattenList, Node.flatten, List.cons_append, List.nil_append]
      cases ht : isText e with
      | false =>
        have hx : isTextLeaf (.leaf e) = false := by cases e <;> first | rfl | cases ht
        rw [fillGo_cons (step_other c st e he ht), ih]
        simp [hx, flattenList, Node.flatten, Option.map_map, Function.comp_def]
      | true =>
        cases e with
        | text t f =>
          have hs : step c st (.text t f) = some (st, []) := by simp [step, hF, hO, hT]
          rw [fillGo_cons hs, ih]
          simp [isTextLeaf, Option.map_map, Function.comp_def]
        | _ => cases ht

/-- the content of an option below a select named in the data: TEXT is held back -/
theorem fill_option_kids (c : Cfg) (ks : List Node) (st : St) (rest : Stream)
    (hF : st.inForm = true) (hS : st.inSelect = true) (hO : st.inOption = true)
    (h : ks.all isTextLeaf = true) :
    fillGo c st (flattenList ks ++ rest) =
      fillGo c { st with optionValue := if st.noOptionValue then st.optionValue ++ textOf ks else st.optionValue,
                         optionText := st.optionText ++ flattenList ks } rest := by
  induction ks generalizing st with
  | nil => simp only [flattenList, List.nil_append, textOf, List.append_nil, ite_self]
  | cons k ks ih =>
    rw [List.all_cons, Bool.and_eq_true] at h
    cases k with
    | elem t a ks' => cases h.1
    | leaf e =>
      cases e with
      | text t f =>
        have hv : ∀ (b : Bool) (v u : Str), (if b then (if b then v ++ t else v) ++ u else if b then v ++ t else v) =
            if b then v ++ (t ++ u) else v := by intro b; cases b <;> simp
        simp only [flattenList, Node.flatten, List.cons_append, List.nil_append]
        rw [fillGo_cons (step_holdText c st t f hF hS hO),
          ih { st with optionValue := if st.noOptionValue then st.optionValue ++ t else st.optionValue,
                       optionText := st.optionText ++ [.text t f] } hF hS hO h.2]
        simp only [List.nil_append, Option.map_id', hv, textOf, List.append_assoc, List.cons_append]
      | _ => cases h.1

theorem fill_option (c : Cfg) (v : Val) (t : QName) (a : AttrList) (ks : List Node) (rest : Stream)
    (hopt : t.loc = sOption) (hok : ks.all isTextLeaf = true) :
    fillGo c (ctxSt true (some v)) ((Node.elem t a ks).flatten ++ rest) =
      (fillGo c (ctxSt true (some v)) rest).map ((Node.elem t (optionAttrs v a ks) ks).flatten ++ ·) := by
  have h1 : step c (ctxSt true (some v)) (.start t a) =
      some ({ inForm := true, inSelect := true, selectValue := some v, optionStart := some (t, a),
              optionValue := (aget a sValue).getD [], noOptionValue := (aget a sValue).isNone,
              inOption := true }, []) := by
    simp [step, ctxSt, hopt, sOption_ne_sForm, sOption_ne_sInput, sOption_ne_sSelect, sOption_ne_sTextarea]
  have hov : (if (aget a sValue).isNone then (aget a sValue).getD [] ++ textOf ks else (aget a sValue).getD [])
      = optionVal a ks := by
    unfold optionVal
    cases aget a sValue <;> rfl
  simp only [Node.flatten, List.cons_append, List.append_assoc, List.nil_append]
  rw [fillGo_cons h1, fill_option_kids c ks _ _ rfl rfl rfl hok,
    fillGo_cons (step_endOption c _ t t a rfl rfl hopt rfl)]
  dsimp only
  rw [hov]
  simp [optionAttrs, ctxSt, Option.map_map, Function.comp_def]

theorem fill_textarea (c : Cfg) (sel : Option Val) (v : Val) (t : QName) (a : AttrList) (ks : List Node)
    (rest : Stream) (ht : t.loc = sTextarea) (hv : namedVal c a = some v) (hok : ks.all isLeafOk = true) :
    fillGo c (ctxSt true sel) ((Node.elem t a ks).flatten ++ rest) =
      (fillGo c (ctxSt true sel) rest).map ((Node.elem t a (textareaKids v ks)).flatten ++ ·) := by
  have hv' : (aget a sName).bind c.lookup = some v := hv
  have h1 : step c (ctxSt true sel) (.start t a) =
      some ({ ctxSt true sel with textareaValue := firstOf v, inTextarea := true }, [.start t a]) := by
    simp [step, ctxSt, ht, sTextarea_ne_sForm, sTextarea_ne_sInput, sTextarea_ne_sSelect, hv']
  have h2 : step c { ctxSt true sel with textareaValue := firstOf v, inTextarea := true } (.end_ t) =
      some (ctxSt true sel,
        (match firstOf v with
         | some x => if x.text.isEmpty then [] else [Event.text x.text false]
         | none => []) ++ [.end_ t]) := by
    simp [step, ctxSt, ht, sTextarea_ne_sForm, sTextarea_ne_sSelect, sTextarea_ne_sOption]
    rfl
  simp only [Node.flatten, List.cons_append, List.append_assoc]
  rw [fillGo_cons h1, fill_textarea_kids c _ rfl rfl rfl ks _ hok, fillGo_cons h2]
  simp only [Option.map_map, Function.comp_def, textareaKids, flattenList_append]
  congr 1
  funext o
  cases firstOf v with
  | none => simp [flattenList]
  | some x => cases hx : x.text.isEmpty <;> simp [flattenList, Node.flatten, hx]

/-- The state machine computes the specification, node by node: between two siblings the filler is in
    `ctxSt f sel` with nothing held back, so an element is `fillGo_elem` (the START into the context of
    the children, the children by induction, the END back to `ctxSt f sel`), one case per kind of
    control.  Outside the selected form no select governs (`f = false → sel = none`). -/
theorem fill_both (c : Cfg) :
    (∀ (n : Node) (f : Bool) (sel : Option Val) (rest : Stream),
      (f = false → sel = none) → okNode c f sel.isSome n = true →
      fillGo c (ctxSt f sel) (n.flatten ++ rest) =
        (fillGo c (ctxSt f sel) rest).map ((specNode c f sel n).flatten ++ ·)) ∧
    (∀ (ns : List Node) (f : Bool) (sel : Option Val) (rest : Stream),
      (f = false → sel = none) → okKids c f sel.isSome ns = true →
      fillGo c (ctxSt f sel) (flattenList ns ++ rest) =
        (fillGo c (ctxSt f sel) rest).map (flattenList (specList c f sel ns) ++ ·)) := by
  refine node_induction (fun t a ks ih f sel rest hsel hok => ?_) (fun e f sel rest _ hok => ?_)
    (fun f sel rest _ _ => ?_) (fun n ns ihn ihns f sel rest hsel hok => ?_)
  · cases f with
    | false =>
      cases hsel rfl
      simp only [okNode, ↓reduceIte] at hok
      simp only [specNode, ↓reduceIte]
      have h1 : step c (ctxSt false none) (.start t a) =
          some (ctxSt (decide (t.loc = sForm) && formMatches c a) none, [.start t a]) := by
        cases hb : (decide (t.loc = sForm) && formMatches c a) <;> simp [step, ctxSt, hb]
      have h2 : step c (ctxSt (decide (t.loc = sForm) && formMatches c a) none) (.end_ t) =
          some (ctxSt false none, [.end_ t]) := by
        cases hb : (decide (t.loc = sForm) && formMatches c a)
        · simp [step, ctxSt]
        · simp only [Bool.and_eq_true, decide_eq_true_eq] at hb
          simp [step, ctxSt, hb.1]
      exact fillGo_elem h1 (fun r => ih _ none r (fun _ => rfl) hok) h2 rest
    | true =>
      simp only [okNode, Bool.true_eq_false, ↓reduceIte] at hok
      simp only [specNode, Bool.true_eq_false, ↓reduceIte]
      by_cases hform : t.loc = sForm
      · simp [hform] at hok
      by_cases hinput : t.loc = sInput
      ·
        simp only [hinput, ↓reduceIte, sInput_ne_sForm] at hok ⊢
        have h1 : step c (ctxSt true sel) (.start t a) = some (ctxSt true sel, [.start t (inputAttrs c a)]) := by
          simp [step, ctxSt, hinput, sInput_ne_sForm]
        have h2 : step c (ctxSt true sel) (.end_ t) = some (ctxSt true sel, [.end_ t]) := by
          simp [step, ctxSt, hinput, sInput_ne_sForm, sInput_ne_sSelect, sInput_ne_sOption]
        exact fillGo_elem h1 (fun r => ih true sel r (by simp) hok) h2 rest
      by_cases hselect : t.loc = sSelect
      · -- a select element: `sel = none`
        simp only [hselect, ↓reduceIte, sSelect_ne_sForm, sSelect_ne_sInput,
          Bool.and_eq_true, Bool.not_eq_true'] at hok ⊢
        have hsn : sel = none := by
          cases sel with
          | none => rfl
          | some v => simp at hok
        subst hsn
        have h1 : step c (ctxSt true none) (.start t a) = some (ctxSt true (namedVal c a), [.start t a]) := by
          cases hv : namedVal c a <;>
            simp [step, ctxSt, hselect, sSelect_ne_sForm, sSelect_ne_sInput, show (aget a sName).bind c.lookup = _ from hv]
        have h2 : step c (ctxSt true (namedVal c a)) (.end_ t) = some (ctxSt true none, [.end_ t]) := by
          simp [step, ctxSt, hselect, sSelect_ne_sForm]
        have hk := fun r => ih true (namedVal c a) r (by simp) hok.2
        cases hv : namedVal c a <;> rw [hv] at h1 h2 hk <;> exact fillGo_elem h1 hk h2 rest
      by_cases htextarea : t.loc = sTextarea
      · simp only [htextarea, ↓reduceIte, sTextarea_ne_sForm, sTextarea_ne_sInput,
          sTextarea_ne_sSelect] at hok ⊢
        cases hv : namedVal c a with
        | some v =>
          simp only [hv, Option.isSome_some, ↓reduceIte] at hok
          exact fill_textarea c sel v t a ks rest htextarea hv hok
        | none =>
          simp only [hv, Option.isSome_none, Bool.false_eq_true, ↓reduceIte] at hok
          have hv' : (aget a sName).bind c.lookup = none := hv
          have h1 : step c (ctxSt true sel) (.start t a) = some (ctxSt true sel, [.start t a]) := by
            simp [step, ctxSt, htextarea, sTextarea_ne_sForm, sTextarea_ne_sInput, sTextarea_ne_sSelect, hv']
          have h2 : step c (ctxSt true sel) (.end_ t) = some (ctxSt true sel, [.end_ t]) := by
            simp [step, ctxSt, htextarea, sTextarea_ne_sForm, sTextarea_ne_sSelect, sTextarea_ne_sOption]
          exact fillGo_elem h1 (fun r => ih true sel r (by simp) hok) h2 rest
      by_cases hopt : t.loc = sOption
      · cases sel with
        | some v =>
          simp only [hopt, ↓reduceIte, sOption_ne_sForm, sOption_ne_sInput,
            sOption_ne_sSelect, sOption_ne_sTextarea, Option.isSome_some, Bool.and_self, decide_true] at hok ⊢
          exact fill_option c v t a ks rest hopt hok
        | none =>
          simp only [hopt, ↓reduceIte, sOption_ne_sForm, sOption_ne_sInput,
            sOption_ne_sSelect, sOption_ne_sTextarea, Option.isSome_none, Bool.and_false, Bool.false_eq_true] at hok ⊢
          have h1 : step c (ctxSt true none) (.start t a) = some (ctxSt true none, [.start t a]) := by
            simp [step, ctxSt, hopt, sOption_ne_sForm, sOption_ne_sInput, sOption_ne_sSelect, sOption_ne_sTextarea]
          have h2 : step c (ctxSt true none) (.end_ t) = some (ctxSt true none, [.end_ t]) := by
            simp [step, ctxSt, hopt, sOption_ne_sForm, sOption_ne_sSelect]
          exact fillGo_elem h1 (fun r => ih true none r (by simp) hok) h2 rest
      ·
        simp only [hform, hinput, hselect, htextarea, hopt, ↓reduceIte, decide_false, Bool.false_and,
          Bool.false_eq_true] at hok ⊢
        have h1 : step c (ctxSt true sel) (.start t a) = some (ctxSt true sel, [.start t a]) := by
          simp [step, ctxSt, hform, hinput, hselect, htextarea, hopt]
        have h2 : step c (ctxSt true sel) (.end_ t) = some (ctxSt true sel, [.end_ t]) := by
          simp [step, ctxSt, hform, hselect, hopt]
        exact fillGo_elem h1 (fun r => ih true sel r (by simp) hok) h2 rest
  · have he : e.isStartEnd = false := by simpa [okNode] using hok
    simp only [Node.flatten, specNode, List.cons_append, List.nil_append]
    rw [fillGo_cons (step_leaf c (ctxSt f sel) e he rfl rfl)]
    simp
  · simp only [flattenList, specList, List.nil_append]
    cases fillGo c (ctxSt f sel) rest <;> rfl
  · simp only [okKids, Bool.and_eq_true] at hok
    simp only [flattenList, specList, List.append_assoc]
    rw [ihn f sel _ hsel hok.1, ihns f sel rest hsel hok.2]
    simp [Option.map_map, Function.comp_def]

theorem fill_node (c : Cfg) : ∀ (n : Node) (f : Bool) (sel : Option Val) (rest : Stream),
      (f = false → sel = none) → okNode c f sel.isSome n = true →
      fillGo c (ctxSt f sel) (n.flatten ++ rest) =
        (fillGo c (ctxSt f sel) rest).map ((specNode c f sel n).flatten ++ ·) :=
  (fill_both c).1

theorem fill_list (c : Cfg) : ∀ (ns : List Node) (f : Bool) (sel : Option Val) (rest : Stream),
      (f = false → sel = none) → okKids c f sel.isSome ns = true →
      fillGo c (ctxSt f sel) (flattenList ns ++ rest) =
        (fillGo c (ctxSt f sel) rest).map (flattenList (specList c f sel ns) ++ ·) :=
  (fill_both c).2


theorem fill_spec (c : Cfg) (ns : List Node) (h : okForest c ns = true) :
    fill c (flattenList ns) = some (flattenList (fillSpec c ns)) := by
  have := fill_list c ns false none [] (fun _ => rfl) h
  simpa [fill, fillSpec, fillGo, ctxSt] using this

theorem optionAttrs_confined (v : Val) (a : AttrList) (ks : List Node) :
    adel (optionAttrs v a ks) sSelected = adel a sSelected := adel_flag a sSelected _

theorem optionAttrs_selected (v : Val) (a : AttrList) (ks : List Node) :
    ahas (optionAttrs v a ks) sSelected = isSelected (optionVal a ks) (some v) := ahas_flag a sSelected _

theorem textOf_cons_nontext (k : Node) (l : List Node) (h : isTextLeaf k = false) :
    textOf (k :: l) = textOf l := by
  cases k with
  | elem t a ks => rfl
  | leaf e => cases e <;> simp_all [textOf, isTextLeaf]

theorem isTextLeaf_text (t : Str) (f : Bool) : isTextLeaf (.leaf (.text t f)) = true := rfl

theorem textOf_noText : ∀ (ks : List Node), textOf (ks.filter fun k => !isTextLeaf k) = []
  | [] => rfl
  | k :: ks => by
    by_cases h : isTextLeaf k = true
    · simp only [List.filter_cons, h, Bool.not_true, Bool.false_eq_true, ↓reduceIte]
      exact textOf_noText ks
    · have h' : isTextLeaf k = false := by simpa using h
      simp only [List.filter_cons, h', Bool.not_false, ↓reduceIte]
      rw [textOf_cons_nontext k _ h']
      exact textOf_noText ks

theorem textOf_app : ∀ (a b : List Node), textOf (a ++ b) = textOf a ++ textOf b
  | [], b => rfl
  | k :: a, b => by
    cases k with
    | elem t at_ ks' => simp [textOf, textOf_app a b]
    | leaf e => cases e <;> simp [textOf, textOf_app a b]

theorem textareaKids_spec (v : Val) (x : Scalar) (ks : List Node) (hf : firstOf v = some x) :
    textOf (textareaKids v ks) = x.text ∧
    (textareaKids v ks).filter (fun k => !isTextLeaf k) = ks.filter (fun k => !isTextLeaf k) := by
  unfold textareaKids
  rw [hf]
  have hff : ∀ l : List Node, (l.filter fun k => !isTextLeaf k).filter (fun k => !isTextLeaf k) =
      l.filter fun k => !isTextLeaf k := by
    intro l; rw [List.filter_filter]; congr 1; funext k; cases isTextLeaf k <;> rfl
  by_cases hx : x.text.isEmpty = true
  · have : x.text = [] := by simpa using hx
    simp only [hx, ↓reduceIte, List.append_nil]
    exact ⟨by rw [textOf_noText, this], hff ks⟩
  · simp only [hx, Bool.false_eq_true, ↓reduceIte]
    refine ⟨by rw [textOf_app, textOf_noText]; simp [textOf], ?_⟩
    rw [List.filter_append, hff]
    simp [isTextLeaf_text]

end Genshi.Fill
