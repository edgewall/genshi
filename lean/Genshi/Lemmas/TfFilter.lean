/-
  `FilterTransformation` with a filter that keeps balanced input balanced:
  on a `Good` stream the output is balanced the same way and `Good` again.
  (The event that ends an OUTSIDE run is yielded as it is; a selected element
  directly behind such a run therefore passes unfiltered.)
-/
import Genshi.Lemmas.TfOps
namespace Genshi.Tf

/-- the stream filter given to `filter(f)` keeps balanced input balanced -/
def FOk (f : List MEv → List MEv) : Prop := ∀ q, BalE q → BalE (f q)

theorem unmark_flush (f : List MEv → List MEv) (q : List MEv) : unmark (flush f q) = evsOf (f q) := by
  rw [unmark_eq_evsOf, flush, List.map_map]; exact congrArg evsOf (List.map_id' _)

theorem flush_uniform (f : List MEv → List MEv) (q : List MEv) : Uniform .outside (flush f q) := by
  intro p hp; simp [flush] at hp; obtain ⟨_, _, rfl⟩ := hp; rfl

section fil
variable (f : List MEv → List MEv)

theorem filterGo_inOutside_block (blk R : MStream) (h : Uniform .outside blk) :
    ∀ q, filterGo f .inOutside q (blk ++ R) = filterGo f .inOutside (q ++ blk.map (·.2)) R := by
  induction blk with
  | nil => intro q; simp
  | cons p blk ih =>
    intro q
    obtain ⟨x, rfl, hu⟩ := h.cons_inv
    simp [filterGo, ih hu]

theorem filterGo_inEnter_mid (mid : MStream) (x : MEv) (R : MStream) (h : NoExit mid) :
    ∀ q, filterGo f .inEnter q (mid ++ (some .exit, x) :: R) =
      flush f (q ++ (mid.map (·.2) ++ [x])) ++ filterGo f .idle [] R := by
  induction mid with
  | nil => intro q; simp [filterGo]
  | cons p mid ih =>
    intro q
    obtain ⟨m, y⟩ := p
    obtain ⟨hp, hu⟩ := h.cons_inv
    simp [filterGo, hp, ih hu]

theorem filterGo_idle_block (m : Mark) (hne : m ≠ .enter) (hno : m ≠ .outside) (blk R : MStream)
    (h : Uniform m blk) : filterGo f .idle [] (blk ++ R) = blk ++ filterGo f .idle [] R := by
  induction blk with
  | nil => rfl
  | cons p blk ih =>
    obtain ⟨x, rfl, hu⟩ := h.cons_inv
    have h1 : (some m = some Mark.enter) = False := by simp [hne]
    have h2 : (some m = some Mark.outside) = False := by simp [hno]
    simp [filterGo, h1, h2, ih hu]

end fil

theorem bal_flush {f : List MEv → List MEv} (hf : FOk f) {q : List MEv} (hq : BalE q) :
    Bal (unmark (flush f q)) := by rw [unmark_flush]; exact hf q hq

theorem flat_flush {f : List MEv → List MEv} (hf : FOk f) {q : List MEv} (hq : BalE q) {s : MStream}
    (h : Flat s) : Flat (flush f q ++ s) :=
  Flat.block .outside (flush f q) (by decide) (by decide) (flush_uniform f q) (bal_flush hf hq) h

/-- the interior of a bracket that the outer loop walks through (after an OUTSIDE run) -/
theorem filter_mid {f : List MEv → List MEv} (hf : FOk f) {mid : MStream} (hm : Flat mid) :
    (∃ mid', Flat mid' ∧ (∀ st, balance st (unmark mid') = balance st (unmark mid)) ∧
      ∀ x R, filterGo f .idle [] (mid ++ (some .exit, x) :: R) =
        mid' ++ (some .exit, x) :: filterGo f .idle [] R) ∧
    (∀ q, BalE q → ∃ mid', Flat mid' ∧ (∀ st, balance st (unmark mid') = balance st (unmark mid)) ∧ ∀ x R,
        filterGo f .inOutside q (mid ++ (some .exit, x) :: R) =
        mid' ++ (some .exit, x) :: filterGo f .idle [] R) := by
  induction hm with
  | nil =>
    refine ⟨⟨[], Flat.nil, fun _ => rfl, fun x R => by simp [filterGo]⟩, fun q hq => ?_⟩
    exact ⟨flush f q, by simpa using flat_flush hf hq Flat.nil,
      fun st => by simpa [unmark] using balance_bal st (bal_flush hf hq) [],
      fun x R => by simp [filterGo]⟩
  | @plain y s' _ ih =>
    obtain ⟨⟨m1, f1, b1, e1⟩, _⟩ := ih
    have b1' := balance_cons_eff (p := (none, y)) (q := (none, y)) rfl b1
    exact ⟨⟨(none, y) :: m1, Flat.plain y f1, b1', fun x R => by simp [filterGo, e1]⟩,
      fun q hq => ⟨flush f q ++ (none, y) :: m1, flat_flush hf hq (Flat.plain y f1),
        balance_piece (l' := []) (bal_flush hf hq) Bal.nil b1', fun x R => by simp [filterGo, e1]⟩⟩
  | @block m blk s' hne hnx hu hb _ ih =>
    obtain ⟨⟨m1, f1, b1, e1⟩, ihout⟩ := ih
    cases blk with
    | nil => exact ⟨⟨m1, f1, by simpa using b1, by simpa using e1⟩, by simpa using ihout⟩
    | cons p blk =>
      obtain ⟨y, rfl, hu'⟩ := hu.cons_inv
      by_cases hmo : m = .outside
      · subst hmo
        constructor
        · obtain ⟨m2, f2, b2, e2⟩ := ihout (([] : List MEv) ++ ((some Mark.outside, y) :: blk).map (·.2))
            (by simpa using BalE.ofBlock hb)
          refine ⟨m2, f2, balance_piece (l := []) Bal.nil hb b2, fun x R => ?_⟩
          rw [← e2 x R]
          simp only [List.cons_append, List.append_assoc, filterGo]
          simp [filterGo_inOutside_block f blk _ hu']
        · intro q hq
          obtain ⟨m2, f2, b2, e2⟩ := ihout (q ++ ((some Mark.outside, y) :: blk).map (·.2))
            (hq.append (BalE.ofBlock hb))
          refine ⟨m2, f2, balance_piece (l := []) Bal.nil hb b2, fun x R => ?_⟩
          rw [← e2 x R, List.append_assoc, filterGo_inOutside_block f _ _ hu]
      · have h1 : (some m = some Mark.enter) = False := by simp [hne]
        have h2 : (some m = some Mark.outside) = False := by simp [hmo]
        constructor
        · refine ⟨((some m, y) :: blk) ++ m1, Flat.block m _ hne hnx hu hb f1, balance_unmark_append_congr _ b1,
            fun x R => ?_⟩
          rw [List.append_assoc, filterGo_idle_block f m hne hmo _ _ hu, e1, List.append_assoc]
        · intro q hq
          refine ⟨flush f q ++ (((some m, y) :: blk) ++ m1), flat_flush hf hq (Flat.block m _ hne hnx hu hb f1),
            balance_piece (l' := []) (bal_flush hf hq) Bal.nil (balance_unmark_append_congr _ b1), fun x R => ?_⟩
          simp only [List.cons_append, List.append_assoc, filterGo, h2, ↓reduceIte]
          rw [filterGo_idle_block f m hne hmo _ _ hu', e1]

theorem GoodPiece.flush {f : List MEv → List MEv} (hf : FOk f) {q : List MEv} (hq : BalE q) :
    GoodPiece (flush f q) :=
  .block (by decide) (by decide) (flush_uniform f q) (bal_flush hf hq)

/-- what is known about the rest of the stream, in whichever of the two boundary states the
    generator stands: its output is `Good` and balanced like the rest -/
structure FClaim (f : List MEv → List MEv) (R : MStream) : Prop where
  idle : GoodLike (filterGo f .idle [] R) R
  out : ∀ q, BalE q → GoodLike (filterGo f .inOutside q R) R

theorem filter_claim {f : List MEv → List MEv} (hf : FOk f) {s : MStream} (hg : Good s) : FClaim f s := by
  induction hg with
  | nil =>
    refine ⟨.nil, fun q hq => ?_⟩
    simp only [filterGo]
    split
    · exact .nil
    · simpa using GoodLike.piece (l' := []) (.flush hf hq) Bal.nil .nil
  | @plain x s' _ ih =>
    have h0 : GoodLike ((none, x) :: filterGo f .idle [] s') ((none, x) :: s') := ih.idle.plain rfl
    refine ⟨by simpa [filterGo] using h0, fun q hq => ?_⟩
    have : ((none : Option Mark) = some Mark.outside) = False := by simp
    simp only [filterGo, this, ↓reduceIte]
    exact .piece (l' := []) (.flush hf hq) Bal.nil h0
  | @block m blk s' hne hnx hu hb _ ih =>
    cases blk with
    | nil => exact ih
    | cons p blk =>
      obtain ⟨y, rfl, hu'⟩ := hu.cons_inv
      by_cases hmo : m = .outside
      · -- an OUTSIDE run is queued; the claim for the state `inOutside` takes over
        subst hmo
        constructor
        · have : filterGo f .idle [] (((some Mark.outside, y) :: blk) ++ s') =
              filterGo f .inOutside ([] ++ ((some Mark.outside, y) :: blk).map (·.2)) s' := by
            simp [filterGo, filterGo_inOutside_block f blk s' hu']
          rw [this]
          exact .piece (l := []) .nil hb (ih.out _ (by simpa using BalE.ofBlock hb))
        · intro q hq
          rw [filterGo_inOutside_block f _ s' hu]
          exact .piece (l := []) .nil hb (ih.out _ (hq.append (BalE.ofBlock hb)))
      · have h2 : (some m = some Mark.outside) = False := by simp [hmo]
        have h0 : GoodLike (((some m, y) :: blk) ++ filterGo f .idle [] s') (((some m, y) :: blk) ++ s') :=
          .piece (.block hne hnx hu hb) hb ih.idle
        constructor
        · rw [filterGo_idle_block f m hne hmo _ _ hu]; exact h0
        · intro q hq
          simp only [List.cons_append, filterGo, h2, ↓reduceIte]
          rw [filterGo_idle_block f m hne hmo _ _ hu']
          exact .piece (l' := []) (.flush hf hq) Bal.nil h0
  | @elem t a mid s' hf' hb _ ih =>
    have hE : BalE (([] ++ [MEv.ev (.start t a)]) ++ (mid.map (·.2) ++ [MEv.ev (.end_ t)])) := by
      unfold BalE
      have := bal_elem t a hb
      simpa [evsOf, evsOf_append, evsOf_map_snd] using this
    constructor
    · have : filterGo f .idle [] ((some Mark.enter, MEv.ev (.start t a)) :: (mid ++ (some Mark.exit, MEv.ev (.end_ t)) :: s')) =
          flush f (([] ++ [MEv.ev (.start t a)]) ++ (mid.map (·.2) ++ [MEv.ev (.end_ t)])) ++ filterGo f .idle [] s' := by
        simp only [filterGo, ↓reduceIte]
        exact filterGo_inEnter_mid f mid _ s' hf'.noExit _
      rw [this]; exact .elem (.flush hf hE) t a hb ih.idle
    · -- the element passes: its interior is handled by the outer loop
      intro q hq
      have h1 : (some Mark.enter = some Mark.outside) = False := by simp
      obtain ⟨⟨m1, f1, b1, e1⟩, _⟩ := filter_mid hf hf'
      have hb1 : Bal (unmark m1) := (b1 []).trans hb
      simp only [filterGo, h1, ↓reduceIte]
      rw [e1]
      have := GoodLike.elem (GoodPiece.elem t a f1 hb1) t a hb ih.idle
      exact .piece (l' := []) (.flush hf hq) Bal.nil (by simpa using this)

theorem filter_goodLike {f : List MEv → List MEv} (hf : FOk f) {s : MStream} (hg : Good s) :
    GoodLike (filterGo f .idle [] s) s := (filter_claim hf hg).idle

theorem fok_id : FOk id := fun _ h => h

theorem balance_dropComments (q : List MEv) :
    ∀ st, balance st (evsOf (dropComments q)) = balance st (evsOf q) := by
  unfold dropComments
  induction q with
  | nil => intro st; rfl
  | cons x q ih =>
    intro st
    cases x with
    | ev e =>
      cases e with
      | comment t => exact (ih st).trans (balance_skip _ rfl st _).symm
      | _ => exact balance_cons_congr _ ih st
    | _ => exact ih st

theorem fok_dropComments : FOk dropComments := by
  intro q hq
  unfold BalE Bal at *
  rw [balance_dropComments]; exact hq

end Genshi.Tf
