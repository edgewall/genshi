/-
  The invariant of marked streams under which every transformation is safe
  (`Good`: selections are balanced blocks or ENTER … EXIT brackets around a
  balanced interior).
-/
import Genshi.Lemmas.Tf
namespace Genshi.Tf

def Uniform (m : Mark) (blk : MStream) : Prop := ∀ p ∈ blk, p.1 = some m
def NoneMarked (l : MStream) : Prop := ∀ p ∈ l, p.1 = none
def NoExit (l : MStream) : Prop := ∀ p ∈ l, p.1 ≠ some .exit

theorem Uniform.cons_inv {m : Mark} {p : MItem} {blk : MStream} (h : Uniform m (p :: blk)) :
    ∃ x, p = (some m, x) ∧ Uniform m blk :=
  ⟨p.2, Prod.ext (h p List.mem_cons_self) rfl, fun q hq => h q (List.mem_cons_of_mem _ hq)⟩

theorem NoExit.cons_inv {m : Option Mark} {x : MEv} {l : MStream} (h : NoExit ((m, x) :: l)) :
    m ≠ some .exit ∧ NoExit l := List.forall_mem_cons.mp h

/-- `Good` without ENTER … EXIT brackets: the interior of a bracket -/
inductive Flat : MStream → Prop
  | nil : Flat []
  | plain (x : MEv) {s : MStream} : Flat s → Flat ((none, x) :: s)
  | block (m : Mark) (blk : MStream) {s : MStream} : m ≠ .enter → m ≠ .exit → Uniform m blk →
      Bal (unmark blk) → Flat s → Flat (blk ++ s)

/-- The selections are whole balanced pieces.  A block may be empty and two neighbouring blocks may
    carry the same mark, so a stream is `Good` in more than one way: whatever reads a decomposition
    off (`Good.head_cases`, `GoodSegs.block`) skips empty blocks and merges runs, and a loop that has
    left a block may still be inside a run of its mark. -/
inductive Good : MStream → Prop
  | nil : Good []
  | plain (x : MEv) {s : MStream} : Good s → Good ((none, x) :: s)
  | block (m : Mark) (blk : MStream) {s : MStream} : m ≠ .enter → m ≠ .exit → Uniform m blk →
      Bal (unmark blk) → Good s → Good (blk ++ s)
  | elem (t : QName) (a : AttrList) (mid : MStream) {s : MStream} : Flat mid → Bal (unmark mid) →
      Good s → Good ((some .enter, .ev (.start t a)) :: (mid ++ (some .exit, .ev (.end_ t)) :: s))

/-- head shapes of a `Good` stream (empty blocks skipped) -/
theorem Good.head_cases {R : MStream} (h : Good R) :
    R = [] ∨ (∃ x R1, R = (none, x) :: R1 ∧ Good R1) ∨
    (∃ m p blk R1, R = (p :: blk) ++ R1 ∧ m ≠ Mark.enter ∧ m ≠ Mark.exit ∧ Uniform m (p :: blk) ∧
      Bal (unmark (p :: blk)) ∧ Good R1) ∨
    (∃ t a mid R1, R = (some Mark.enter, MEv.ev (.start t a)) :: (mid ++ (some Mark.exit, MEv.ev (.end_ t)) :: R1) ∧
      Flat mid ∧ Bal (unmark mid) ∧ Good R1) := by
  induction h with
  | nil => exact Or.inl rfl
  | plain x hs _ => exact Or.inr (Or.inl ⟨x, _, rfl, hs⟩)
  | block m blk hne hnx hu hb hs ih =>
    cases blk with
    | nil => exact ih
    | cons p blk => exact Or.inr (Or.inr (Or.inl ⟨m, p, blk, _, rfl, hne, hnx, hu, hb, hs⟩))
  | elem t a mid hf hb hs _ => exact Or.inr (Or.inr (Or.inr ⟨t, a, mid, _, rfl, hf, hb, hs⟩))

/-- a selection kept (before / after / wrap) or dropped (replace) -/
def K (keep : Bool) (blk : MStream) : MStream := if keep then blk else []

theorem unmark_elem (t : QName) (a : AttrList) (mid s : MStream) :
    unmark ((some .enter, .ev (.start t a)) :: (mid ++ (some .exit, .ev (.end_ t)) :: s)) =
      (.start t a :: (unmark mid ++ [.end_ t])) ++ unmark s := by
  simp [unmark, unmark_append]

theorem unmark_elem' (t : QName) (a : AttrList) (mid : MStream) :
    unmark ((some .enter, .ev (.start t a)) :: (mid ++ [(some .exit, .ev (.end_ t))])) =
      (.start t a :: (unmark mid ++ [.end_ t])) := by
  simp [unmark, unmark_append]

theorem bal_elem (t : QName) (a : AttrList) {mid : Stream} (h : Bal mid) :
    Bal (.start t a :: (mid ++ [.end_ t])) := wellNested_wrap t a h

/-- `pre … post` around balanced content does not show in `balance`: the START … END of wrap, and
    balanced contents in front of or behind a selection (`Wrapper.ofBal`) -/
def Wrapper (pre post : Stream) : Prop :=
  ∀ (X : Stream) (st : List QName) (rest : Stream), Bal X →
    balance st (pre ++ (X ++ (post ++ rest))) = balance st rest

theorem Flat.ofNone {l : MStream} (hl : NoneMarked l) : Flat l := by
  induction l with
  | nil => exact Flat.nil
  | cons p l ih =>
    obtain ⟨m, x⟩ := p
    cases show m = none from hl (m, x) List.mem_cons_self
    exact Flat.plain x (ih fun q hq => hl q (List.mem_cons_of_mem _ hq))

end Genshi.Tf
