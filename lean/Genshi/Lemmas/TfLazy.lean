/-
  The lazy pipeline (`Model/TfLazy.lean`): algebra of `seqR`, frame and stability lemmas
  (a pipeline neither reads nor writes buffers outside its footprint); at the end the lemma behind
  finding C20-buffer-feedback (`injLoop_feedback`) and the chain and document on which
  `buffer_feedback_diverges` (`Props/C20.lean`) shows it.
-/
import Genshi.Model.TfLazy
namespace Genshi.Tf

@[simp] theorem seqR_div' (k : List Ctl → BufF → R) : seqR .div k = .div := rfl
@[simp] theorem seqR_err' (k : List Ctl → BufF → R) : seqR .err k = .err := rfl

theorem seqR_ok_nil (cs : List Ctl) (b : BufF) (k : List Ctl → BufF → R) :
    seqR (.ok (cs, b, [])) k = k cs b := by
  simp only [seqR]
  cases k cs b with
  | ok r => obtain ⟨cs', b', o⟩ := r; simp
  | err => rfl
  | div => rfl

theorem seqR_assoc (r : R) (k1 k2 : List Ctl → BufF → R) :
    seqR (seqR r k1) k2 = seqR r (fun cs b => seqR (k1 cs b) k2) := by
  cases r with
  | err => rfl
  | div => rfl
  | ok x =>
    obtain ⟨cs, b, o⟩ := x
    simp only [seqR]
    cases k1 cs b with
    | err => rfl
    | div => rfl
    | ok y =>
      obtain ⟨cs1, b1, o1⟩ := y
      simp only
      cases k2 cs1 b1 with
      | err => rfl
      | div => rfl
      | ok z => obtain ⟨cs2, b2, o2⟩ := z; simp [List.append_assoc]

theorem seqR_congr (r : R) (k1 k2 : List Ctl → BufF → R) (h : ∀ cs b, k1 cs b = k2 cs b) :
    seqR r k1 = seqR r k2 := by
  have : k1 = k2 := by funext cs b; exact h cs b
  rw [this]

def mapB (g : BufF → BufF) : R → R
  | .ok (cs, b, o) => .ok (cs, g b, o)
  | .err => .err
  | .div => .div

@[simp] theorem mapB_id (r : R) : mapB (fun b => b) r = r := by
  cases r with
  | ok x => obtain ⟨cs, b, o⟩ := x; rfl
  | err => rfl
  | div => rfl

theorem mapB_mapB (g h : BufF → BufF) (r : R) : mapB g (mapB h r) = mapB (fun b => g (h b)) r := by
  cases r with
  | ok x => obtain ⟨cs, b, o⟩ := x; rfl
  | err => rfl
  | div => rfl

theorem mapB_congr (g h : BufF → BufF) (r : R) (hg : ∀ b, g b = h b) : mapB g r = mapB h r := by
  have : g = h := funext hg
  rw [this]

theorem seqR_mapB (g : BufF → BufF) (r : R) (k : List Ctl → BufF → R)
    (hk : ∀ cs b, k cs (g b) = mapB g (k cs b)) : seqR (mapB g r) k = mapB g (seqR r k) := by
  cases r with
  | err => rfl
  | div => rfl
  | ok x =>
    obtain ⟨cs, b, o⟩ := x
    simp only [mapB, seqR, hk]
    cases k cs b with
    | err => rfl
    | div => rfl
    | ok y => obtain ⟨cs1, b1, o1⟩ := y; rfl

theorem mapB_seqR (g : BufF → BufF) (r : R) (k : List Ctl → BufF → R) :
    mapB g (seqR r k) = seqR r (fun cs b => mapB g (k cs b)) := by
  cases r with
  | err => rfl
  | div => rfl
  | ok x =>
    obtain ⟨cs, b, o⟩ := x
    simp only [seqR]
    cases k cs b with
    | err => rfl
    | div => rfl
    | ok y => obtain ⟨cs1, b1, o1⟩ := y; rfl

theorem BufF.set_set (b : BufF) (id : Nat) (v w : List MEv) : (b.set id v).set id w = b.set id w := by
  funext i; simp only [BufF.set]; split <;> rfl

theorem BufF.set_self (b : BufF) (id : Nat) : b.set id (b id) = b := by
  funext i; simp only [BufF.set]; split
  · rename_i h; rw [h]
  · rfl

theorem BufF.set_get (b : BufF) (id : Nat) (v : List MEv) : (b.set id v) id = v := by simp [BufF.set]

theorem BufF.set_ne (b : BufF) {i j : Nat} (v : List MEv) (h : j ≠ i) : (b.set i v) j = b j := by
  simp [BufF.set, h]

/-- `e` where `p` holds, `b` elsewhere -/
def mergeP (p : Nat → Bool) (e b : BufF) : BufF := fun i => if p i then e i else b i

theorem mergeP_self (p : Nat → Bool) (b : BufF) : mergeP p b b = b := by
  funext i; simp [mergeP]

theorem mergeP_mergeP (p : Nat → Bool) (e e' b : BufF) : mergeP p e (mergeP p e' b) = mergeP p e b := by
  funext i; simp only [mergeP]; split <;> rfl

theorem mergeP_congr (p : Nat → Bool) (e e' b : BufF) (h : ∀ i, p i = true → e i = e' i) :
    mergeP p e b = mergeP p e' b := by
  funext i; simp only [mergeP]; split
  · rename_i hp; exact h i hp
  · rfl

theorem mergeP_set_out (p : Nat → Bool) (e b : BufF) (id : Nat) (v : List MEv) (h : p id = false) :
    (mergeP p e b).set id v = mergeP p e (b.set id v) := by
  funext i
  simp only [BufF.set, mergeP]
  by_cases hi : i = id
  · subst hi; simp [h]
  · simp [hi]

theorem mergeP_out (p : Nat → Bool) (e b : BufF) (id : Nat) (h : p id = false) : mergeP p e b id = b id := by
  simp [mergeP, h]

theorem mergeP_in (p : Nat → Bool) (e b : BufF) (id : Nat) (h : p id = true) : mergeP p e b id = e id := by
  simp [mergeP, h]

def Act.wr : Act → List Nat
  | .reset id => [id]
  | .app id _ => [id]
  | _ => []

def Act.rd : Act → List Nat
  | .inj (.buf id) => [id]
  | _ => []

def wrOp : Op → List Nat
  | .copy id _ => [id]
  | .cut id _ => [id]
  | _ => []

def rdOp (op : Op) : List Nat := (readsOf op).toList

def wrOps (ops : List Op) : List Nat := ops.flatMap wrOp
def rdOps (ops : List Op) : List Nat := ops.flatMap rdOp

/-- the actions stay inside the footprint (`w` written, `r` read) -/
def ActsIn (w r : List Nat) (acts : List Act) : Prop :=
  ∀ a ∈ acts, (∀ i ∈ a.wr, i ∈ w) ∧ (∀ i ∈ a.rd, i ∈ r)

theorem ActsIn.nil (w r : List Nat) : ActsIn w r [] := by intro a h; simp at h

theorem ActsIn.append {w r : List Nat} {a b : List Act} (ha : ActsIn w r a) (hb : ActsIn w r b) :
    ActsIn w r (a ++ b) := by
  intro x hx
  rcases List.mem_append.mp hx with h | h
  · exact ha x h
  · exact hb x h

theorem ActsIn.tail {w r : List Nat} {a : Act} {as : List Act} (h : ActsIn w r (a :: as)) : ActsIn w r as :=
  fun x hx => h x (List.mem_cons_of_mem _ hx)

theorem ActsIn.head {w r : List Nat} {a : Act} {as : List Act} (h : ActsIn w r (a :: as)) :
    (∀ i ∈ a.wr, i ∈ w) ∧ (∀ i ∈ a.rd, i ∈ r) := h a (List.mem_cons_self ..)

theorem ActsIn.outs (w r : List Nat) (s : MStream) : ActsIn w r (outs s) := by
  intro a h
  simp only [Tf.outs, List.mem_map] at h
  obtain ⟨x, _, rfl⟩ := h
  simp [Act.wr, Act.rd]

/-- `push` (a pipeline) neither reads nor writes the buffers in `p`, and writes only `w` -/
structure Respects (push : List Ctl → BufF → MItem → R) (p : Nat → Bool) (w : List Nat) : Prop where
  frame : ∀ (e : BufF) cs b x, push cs (mergeP p e b) x = mapB (mergeP p e) (push cs b x)
  stable : ∀ cs b x cs' b' o, push cs b x = .ok (cs', b', o) → ∀ i, i ∉ w → b' i = b i

theorem pushList_frame {push : List Ctl → BufF → MItem → R} {p : Nat → Bool} {w : List Nat}
    (hp : Respects push p w) (e : BufF) : ∀ (l : List MItem) cs b,
    pushList push l cs (mergeP p e b) = mapB (mergeP p e) (pushList push l cs b)
  | [], cs, b => rfl
  | x :: l, cs, b => by
    simp only [pushList, hp.frame]
    exact seqR_mapB _ _ _ (fun cs b => pushList_frame hp e l cs b)

theorem seqR_stable {r : R} {k : List Ctl → BufF → R} {w : List Nat} {b0 : BufF}
    (hr : ∀ cs' b' o, r = .ok (cs', b', o) → ∀ i, i ∉ w → b' i = b0 i)
    (hk : ∀ cs1 b1 cs' b' o, k cs1 b1 = .ok (cs', b', o) → ∀ i, i ∉ w → b' i = b1 i)
    (cs' : List Ctl) (b' : BufF) (o : MStream) (h : seqR r k = .ok (cs', b', o)) :
    ∀ i, i ∉ w → b' i = b0 i := by
  cases r with
  | err => simp [seqR] at h
  | div => simp [seqR] at h
  | ok x =>
    obtain ⟨cs1, b1, o1⟩ := x
    simp only [seqR] at h
    cases hk1 : k cs1 b1 with
    | err => simp [hk1] at h
    | div => simp [hk1] at h
    | ok y =>
      obtain ⟨cs2, b2, o2⟩ := y
      simp only [hk1, Out.ok.injEq, Prod.mk.injEq] at h
      obtain ⟨_, rfl, _⟩ := h
      intro i hi
      rw [hk cs1 b1 cs2 b2 o2 hk1 i hi, hr cs1 b1 o1 rfl i hi]

theorem pushList_stable {push : List Ctl → BufF → MItem → R} {p : Nat → Bool} {w : List Nat}
    (hp : Respects push p w) : ∀ (l : List MItem) cs b cs' b' o,
    pushList push l cs b = .ok (cs', b', o) → ∀ i, i ∉ w → b' i = b i
  | [], cs, b, cs', b', o, h => by
    simp only [pushList, Out.ok.injEq, Prod.mk.injEq] at h
    obtain ⟨_, rfl, _⟩ := h
    intro i _; rfl
  | x :: l, cs, b, cs', b', o, h => by
    simp only [pushList] at h
    exact seqR_stable (fun cs1 b1 o1 h1 => hp.stable cs b x cs1 b1 o1 h1)
      (fun cs1 b1 cs2 b2 o2 h2 => pushList_stable hp l cs1 b1 cs2 b2 o2 h2) cs' b' o h

theorem injLoop_frame {push : List Ctl → BufF → MItem → R} {p : Nat → Bool} {w : List Nat}
    (hp : Respects push p w) (e : BufF) (id : Nat) (hid : p id = false) : ∀ (n i : Nat) cs b,
    injLoop push id n i cs (mergeP p e b) = mapB (mergeP p e) (injLoop push id n i cs b)
  | 0, i, cs, b => rfl
  | n + 1, i, cs, b => by
    simp only [injLoop, mergeP_out p e b id hid]
    cases (b id)[i]? with
    | none => rfl
    | some x =>
      simp only [hp.frame]
      exact seqR_mapB _ _ _ (fun cs b => injLoop_frame hp e id hid n (i + 1) cs b)

theorem injLoop_stable {push : List Ctl → BufF → MItem → R} {p : Nat → Bool} {w : List Nat}
    (hp : Respects push p w) (id : Nat) : ∀ (n i : Nat) cs b cs' b' o,
    injLoop push id n i cs b = .ok (cs', b', o) → ∀ j, j ∉ w → b' j = b j
  | 0, i, cs, b, cs', b', o, h => by simp [injLoop] at h
  | n + 1, i, cs, b, cs', b', o, h => by
    simp only [injLoop] at h
    cases hx : (b id)[i]? with
    | none =>
      simp only [hx, Out.ok.injEq, Prod.mk.injEq] at h
      obtain ⟨_, rfl, _⟩ := h
      intro j _; rfl
    | some x =>
      simp only [hx] at h
      exact seqR_stable (fun cs1 b1 o1 h1 => hp.stable cs b _ cs1 b1 o1 h1)
        (fun cs1 b1 cs2 b2 o2 h2 => injLoop_stable hp id n (i + 1) cs1 b1 cs2 b2 o2 h2) cs' b' o h

/-- iterating a buffer nobody writes is pushing its content -/
theorem injLoop_const {push : List Ctl → BufF → MItem → R} {p : Nat → Bool} {w : List Nat}
    (hp : Respects push p w) (id : Nat) (hid : id ∉ w) : ∀ (n i : Nat) cs b,
    (b id).length - i < n →
    injLoop push id n i cs b = pushList push (inj ((b id).drop i)) cs b
  | 0, i, cs, b, h => by omega
  | n + 1, i, cs, b, h => by
    simp only [injLoop]
    by_cases hi : i < (b id).length
    · rw [List.getElem?_eq_getElem hi]
      simp only
      rw [List.drop_eq_getElem_cons hi]
      simp only [inj, List.map_cons, pushList]
      cases hpush : push cs b (none, (b id)[i]) with
      | err => rfl
      | div => rfl
      | ok r =>
        obtain ⟨cs1, b1, o1⟩ := r
        have hb : b1 id = b id := hp.stable cs b _ cs1 b1 o1 hpush id hid
        simp only [seqR]
        rw [injLoop_const hp id hid n (i + 1) cs1 b1 (by rw [hb]; omega), hb]
        rfl
    · have : (b id)[i]? = none := List.getElem?_eq_none (by omega)
      rw [this, List.drop_eq_nil_of_le (by omega)]
      rfl

theorem execActs_frame {F : Nat} {push : List Ctl → BufF → MItem → R} {p : Nat → Bool} {w : List Nat}
    (hp : Respects push p w) (e : BufF) : ∀ (acts : List Act) cs b,
    (∀ a ∈ acts, (∀ i ∈ a.wr, p i = false) ∧ (∀ i ∈ a.rd, p i = false)) →
    execActs F push acts cs (mergeP p e b) = mapB (mergeP p e) (execActs F push acts cs b)
  | [], cs, b, _ => rfl
  | a :: as, cs, b, h => by
    have ih := fun cs b => execActs_frame (F := F) hp e as cs b (fun x hx => h x (List.mem_cons_of_mem _ hx))
    have ha := h a (List.mem_cons_self ..)
    cases a with
    | out x =>
      simp only [execActs, hp.frame]
      exact seqR_mapB _ _ _ ih
    | reset id =>
      have hid : p id = false := ha.1 id (by simp [Act.wr])
      simp only [execActs, mergeP_set_out p e b id [] hid]
      exact ih cs _
    | app id x =>
      have hid : p id = false := ha.1 id (by simp [Act.wr])
      simp only [execActs, mergeP_out p e b id hid, mergeP_set_out p e b id _ hid]
      exact ih cs _
    | inj c =>
      cases c with
      | buf id =>
        have hid : p id = false := ha.2 id (by simp [Act.rd])
        simp only [execActs, mergeP_out p e b id hid, injLoop_frame hp e id hid]
        exact seqR_mapB _ _ _ ih
      | str s | evs s =>
        simp only [execActs, pushList_frame hp e]
        exact seqR_mapB _ _ _ ih

theorem execActs_stable {F : Nat} {push : List Ctl → BufF → MItem → R} {p : Nat → Bool} {w w1 : List Nat}
    (hp : Respects push p w) : ∀ (acts : List Act) cs b cs' b' o,
    (∀ a ∈ acts, ∀ i ∈ a.wr, i ∈ w1) →
    execActs F push acts cs b = .ok (cs', b', o) → ∀ i, i ∉ w1 ++ w → b' i = b i
  | [], cs, b, cs', b', o, _, h => by
    simp only [execActs, Out.ok.injEq, Prod.mk.injEq] at h
    obtain ⟨_, rfl, _⟩ := h
    intro i _; rfl
  | a :: as, cs, b, cs', b', o, hw, h => by
    have ih := fun cs b cs' b' o => execActs_stable (F := F) (w1 := w1) hp as cs b cs' b' o
      (fun x hx => hw x (List.mem_cons_of_mem _ hx))
    have ha := hw a (List.mem_cons_self ..)
    have weak : ∀ {b0 b1 : BufF}, (∀ i, i ∉ w → b1 i = b0 i) → ∀ i, i ∉ w1 ++ w → b1 i = b0 i :=
      fun h i hi => h i (fun hc => hi (List.mem_append_right _ hc))
    have eff : ∀ id v, id ∈ w1 → execActs F push as cs (b.set id v) = .ok (cs', b', o) →
        ∀ i, i ∉ w1 ++ w → b' i = b i := fun id v hid h i hi => by
      rw [ih cs _ cs' b' o h i hi]
      exact BufF.set_ne _ _ (fun hc => hi (List.mem_append_left _ (hc ▸ hid)))
    cases a with
    | out x => exact seqR_stable (fun cs1 b1 o1 h1 => weak (hp.stable cs b x cs1 b1 o1 h1)) ih cs' b' o h
    | reset id => exact eff id _ (ha id (by simp [Act.wr])) h
    | app id x => exact eff id _ (ha id (by simp [Act.wr])) h
    | inj c =>
      cases c with
      | buf id =>
        exact seqR_stable (fun cs1 b1 o1 h1 => weak (injLoop_stable hp id _ 0 cs b cs1 b1 o1 h1)) ih cs' b' o h
      | str s | evs s =>
        exact seqR_stable (fun cs1 b1 o1 h1 => weak (pushList_stable hp _ cs b cs1 b1 o1 h1)) ih cs' b' o h

theorem pushList_append (push : List Ctl → BufF → MItem → R) : ∀ (l1 l2 : List MItem) cs b,
    pushList push (l1 ++ l2) cs b = seqR (pushList push l1 cs b) (pushList push l2)
  | [], l2, cs, b => by simp only [List.nil_append, pushList]; rw [seqR_ok_nil]
  | x :: l1, l2, cs, b => by
    simp only [List.cons_append, pushList]
    rw [seqR_assoc]
    exact seqR_congr _ _ _ (fun cs b => pushList_append push l1 l2 cs b)

theorem execActs_append (F : Nat) (push : List Ctl → BufF → MItem → R) : ∀ (a1 a2 : List Act) cs b,
    execActs F push (a1 ++ a2) cs b = seqR (execActs F push a1 cs b) (execActs F push a2)
  | [], a2, cs, b => by simp only [List.nil_append, execActs]; rw [seqR_ok_nil]
  | a :: a1, a2, cs, b => by
    have ih := fun cs b => execActs_append F push a1 a2 cs b
    cases a with
    | out x =>
      simp only [List.cons_append, execActs]
      rw [seqR_assoc]; exact seqR_congr _ _ _ ih
    | reset id => simp only [List.cons_append, execActs]; exact ih cs _
    | app id x => simp only [List.cons_append, execActs]; exact ih cs _
    | inj c =>
      cases c with
      | buf id | str s | evs s =>
        simp only [List.cons_append, execActs]
        rw [seqR_assoc]; exact seqR_congr _ _ _ ih

/-
  C20-buffer-feedback in the lazy model: an injector that iterates a buffer while a link further
  down appends every injected event to the same buffer never reaches the end of the buffer — for
  every fuel.
-/
@[simp] theorem seqR_div (k : List Ctl → BufF → R) : seqR .div k = .div := rfl
@[simp] theorem seqR_err (k : List Ctl → BufF → R) : seqR .err k = .err := rfl

/-- a `copy(id, accumulate=True)` link in the middle of an ENTER … EXIT selection appends every
    unmarked item it is fed to the buffer and yields nothing -/
theorem push_copy_inEnter (F id : Nat) (pend : MStream) (b : BufF) (x : MEv) :
    pushItem F [.copy id true] [.copy .inEnter pend] b (none, x) =
      .ok ([.copy .inEnter (pend ++ [(none, x)])], b.set id (b id ++ [x]), []) := by
  simp [pushItem, stepOp, copyStep, execActs]

/-- … so iterating that buffer in front of it never ends -/
theorem injLoop_feedback (F id : Nat) : ∀ (n i : Nat) (pend : MStream) (b : BufF), i < (b id).length →
    injLoop (pushItem F [.copy id true]) id n i [.copy .inEnter pend] b = .div := by
  intro n
  induction n with
  | zero => intro i pend b _; rfl
  | succ n ih =>
    intro i pend b hi
    have hx : (b id)[i]? = some ((b id)[i]) := List.getElem?_eq_getElem hi
    simp only [injLoop, hx, push_copy_inEnter]
    have := ih (i + 1) (pend ++ [(none, (b id)[i])]) (b.set id (b id ++ [(b id)[i]]))
      (by rw [BufF.set_get]; simp; omega)
    simp [seqR, this]


def fbQn (c : Char) : QName := ⟨[], [c]⟩

/-- `Transformer('a').copy(b).append(b).copy(b, accumulate=True)` -/
def fbOps : List Op := [.select [.none, .hit, .none, .none], .copy 1 false, .append (.buf 1), .copy 1 true]

/-- `<r><a/></r>` -/
def fbDoc : Stream := [.start (fbQn 'r') [], .start (fbQn 'a') [], .end_ (fbQn 'a'), .end_ (fbQn 'r')]

end Genshi.Tf
