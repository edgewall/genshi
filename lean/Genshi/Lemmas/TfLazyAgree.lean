/-
  The lazily evaluated chain agrees with its stage-wise reading whenever, between two
  `buffer()` barriers, no buffer is written twice, or read by an injector and written
  (`stagewise`).
-/
import Genshi.Lemmas.TfLazyOps
import Genshi.Lemmas.TfTrace
namespace Genshi.Tf

/-- the link of `op` run alone over `s` gives what `applyOp` gives -/
def OpAgree (b : Bufs) (op : Op) (s : MStream) : Prop :=
  (∀ s1 b1, applyOp b op s = some (s1, b1) → ∃ acts, actsAll op (initCtl op) s = some acts ∧
      flat (ofBufs b) acts = s1 ∧ effs (proOf op ++ acts) (ofBufs b) = ofBufs b1) ∧
  (applyOp b op s = none → actsAll op (initCtl op) s = none)

/-- operations that only yield -/
theorem agree_of_outs {b : Bufs} {op : Op} {s l : MStream} (hp : proOf op = [])
    (ha : applyOp b op s = some (l, b)) (h : actsAll op (initCtl op) s = some (outs l)) : OpAgree b op s := by
  refine ⟨fun s1 b1 h1 => ?_, fun hn => by simp [ha] at hn⟩
  simp only [ha, Option.some.injEq, Prod.mk.injEq] at h1
  obtain ⟨rfl, rfl⟩ := h1
  exact ⟨outs l, h, flat_outs _ _, by simp [hp, effs_outs]⟩

/-- operations that yield and inject, but write no buffer -/
theorem agree_of_flat {b : Bufs} {op : Op} {s l : MStream} (hp : proOf op = []) (hw : wrOp op = [])
    (ha : applyOp b op s = some (l, b))
    (h : (actsAll op (initCtl op) s).map (flat (ofBufs b)) = some l) : OpAgree b op s := by
  refine ⟨fun s1 b1 h1 => ?_, fun hn => by simp [ha] at hn⟩
  simp only [ha, Option.some.injEq, Prod.mk.injEq] at h1
  obtain ⟨rfl, rfl⟩ := h1
  obtain ⟨acts, h2, h3⟩ := Option.map_eq_some_iff.mp h
  refine ⟨acts, h2, h3, ?_⟩
  have := actsAll_fp op s _ acts h2
  rw [hw] at this
  simp [hp, effs_noWr this]

theorem op_agree (b : Bufs) (op : Op) (s : MStream) : OpAgree b op s := by
  cases op with
  | select rs =>
    have h := select_acts rs (ofBufs b) s 0 rs true
    by_cases hf : selectFin 0 rs s = 0
    · exact agree_of_flat (l := selectGo 0 rs s) rfl rfl (by simp [applyOp, select, hf]) (by simpa [initCtl, hf] using h)
    · refine ⟨fun s1 b1 h1 => by simp [applyOp, select, hf] at h1, fun _ => by simpa [initCtl, hf] using h⟩
  | selectFail =>
    refine ⟨fun s1 b1 h1 => by simp [applyOp] at h1, fun _ => ?_⟩
    cases s <;> simp [actsAll, finOp, stepOp]
  | invert | endSel | rename | attr | attrFn | mapBang | subst | mapText =>
    exact agree_of_outs rfl rfl (map_acts _ _ (fun _ => rfl) rfl s)
  | buffer =>
    refine agree_of_outs rfl rfl ?_
    have := map_acts .buffer id (fun _ => rfl) rfl s
    simpa [initCtl] using this
  | trace =>
    refine agree_of_outs rfl rfl ?_
    have := map_acts .trace id (fun _ => rfl) rfl s
    simpa [initCtl, trace] using this
  | empty => exact agree_of_outs rfl rfl (empty_acts s false)
  | remove => exact agree_of_outs rfl rfl (remove_acts s [])
  | unwrap => exact agree_of_outs rfl rfl (unwrap_acts s)
  | filter f => exact agree_of_outs rfl rfl (filter_acts f s .idle [])
  | wrap t a kids =>
    exact agree_of_flat rfl rfl rfl ((run_acts (.wrap t a kids) (wrapPre t a kids) [.out (none, .ev (.end_ t))] true
      (fun c p => rfl) (fun c => rfl) (ofBufs b) s .idle).trans (by simp [wrap, wrapPre, flat_outs, flat]))
  | replace c =>
    exact agree_of_flat rfl rfl rfl ((run_acts (.replace c) [.inj c] [] false (fun c p => rfl) (fun c => rfl)
      (ofBufs b) s .idle).trans (by simp [replace, flat, contentF_ofBufs]))
  | before c =>
    exact agree_of_flat rfl rfl rfl ((run_acts (.before c) [.inj c] [] true (fun c p => rfl) (fun c => rfl)
      (ofBufs b) s .idle).trans (by simp [before, flat, contentF_ofBufs]))
  | after c =>
    exact agree_of_flat rfl rfl rfl ((run_acts (.after c) [] [.inj c] true (fun c p => rfl) (fun c => rfl)
      (ofBufs b) s .idle).trans (by simp [after, flat, contentF_ofBufs]))
  | prepend c => exact agree_of_flat rfl rfl rfl ((prepend_acts c (ofBufs b) s).trans (by rw [contentF_ofBufs]))
  | append c => exact agree_of_flat rfl rfl rfl ((append_acts c (ofBufs b) s none).trans (by rw [contentF_ofBufs]; rfl))
  | copy id acc =>
    obtain ⟨acts, h1, h2⟩ := Option.map_eq_some_iff.mp (copy_acts id acc (ofBufs b) s .idle [])
    refine ⟨fun s1 b1 ha => ?_, fun hn => by simp [applyOp] at hn⟩
    simp only [applyOp, Option.some.injEq, Prod.mk.injEq] at ha
    obtain ⟨rfl, rfl⟩ := ha
    exact ⟨acts, h1, h2, by
      simp [proOf, writer_effs (copy_isWriter id acc) s (ofBufs b) ⟨[], rfl⟩ h1, ofBufs_set, ofBufs]⟩
  | cut id acc =>
    have hc := cut_acts id acc (ofBufs b) s .idle false []
    refine ⟨fun s1 b1 ha => ?_, fun hn => ?_⟩
    · simp only [applyOp, cut, Option.map_eq_some_iff] at ha
      obtain ⟨out, ho, he⟩ := ha
      simp only [Prod.mk.injEq] at he
      obtain ⟨rfl, rfl⟩ := he
      obtain ⟨acts, h1, h2⟩ := Option.map_eq_some_iff.mp (hc.trans ho)
      refine ⟨acts, h1, h2, ?_⟩
      rw [effs_append, writer_effs (cut_isWriter id acc) s _ ⟨_, _, rfl⟩ h1, cutBuf_eq_copyBuf, ofBufs_set]
      cases acc <;> simp [proOf, effs, ofBufs, BufF.set_set, BufF.set_get]
    · simp only [applyOp, cut, Option.map_eq_none_iff] at hn
      exact Option.map_eq_none_iff.mp (hc.trans hn)

/-- the run of a segment whose first link yields the actions `acts` -/
theorem runFrom_cons (F : Nat) (op : Op) (ops : List Op) : ∀ (s : MStream) (c : Ctl) (cs : List Ctl) (b : BufF)
    (acts : List Act), actsAll op c s = some acts →
    runFrom F (op :: ops) (c :: cs) b s = seqF (execActs F (pushItem F ops) acts cs b) (finish F ops) :=
  fun s c cs b acts h => by
    rw [runFrom, ← execActs_outs F]
    exact (actsAll_run h).fuse F ops cs b

/-- … and when the first link raises -/
theorem runFrom_cons_none (F : Nat) (op : Op) (ops : List Op) (s : MStream) (c : Ctl) (cs : List Ctl) (b : BufF)
    (h : actsAll op c s = none) : (runFrom F (op :: ops) (c :: cs) b s).toOption = none := by
  rw [runFrom, ← execActs_outs F]
  exact fuse_none F op ops (outs s) c cs b (injFree_outs s) ((actsAll_eq_linkU op s c).symm.trans h)

theorem wr_rd_disjoint (op : Op) : ∀ i ∈ wrOp op, i ∉ rdOp op := by
  fun_cases wrOp op
  · exact fun _ _ h => nomatch h
  · exact fun _ _ h => nomatch h
  · exact fun _ h => nomatch h

theorem proBufs_out : ∀ (ops : List Op) (b : BufF) (i : Nat), i ∉ wrOps ops → proBufs ops b i = b i
  | [], b, i, _ => rfl
  | op :: ops, b, i, h => by
    simp only [wrOps, List.flatMap_cons, List.mem_append, not_or] at h
    simp only [proBufs]
    rw [effs_out (proOf_fp op) i h.1]
    exact proBufs_out ops b i h.2

theorem proBufs_pointwise {i : Nat} : ∀ (ops : List Op) {b1 b : BufF}, b1 i = b i →
    proBufs ops b1 i = proBufs ops b i
  | [], _, _, h => h
  | op :: ops, _, _, h => effs_pointwise (proOf op) (proBufs_pointwise ops h)

theorem proBufs_frame {p : Nat → Bool} (e : BufF) (ops : List Op) (b : BufF)
    (h : ∀ i, p i = true → i ∉ wrOps ops) : proBufs ops (mergeP p e b) = mergeP p e (proBufs ops b) := by
  funext i
  cases hp : p i with
  | false => rw [mergeP_out _ _ _ _ hp]; exact proBufs_pointwise ops (mergeP_out _ _ _ _ hp)
  | true => rw [mergeP_in _ _ _ _ hp, proBufs_out ops _ i (h i hp), mergeP_in _ _ _ _ hp]

/-- Peeling the first link off a segment: when the links behind `op` neither write nor read what `op`
    writes and do not write what it reads, the segment is the rest of the segment, run on what `op`
    alone yields and started with the buffers `op` leaves.  Both sides are brought to the form "the
    rest run on the old buffers, the buffers `W = wrOp op` overwritten afterwards"
    (`mapBF (mergeP (inW W) …) (runFrom … (proBufs ops b) …)`): the left (`hL`) by `execActs_commute`
    and the frame lemmas, the right (`hRr`) by the frame lemmas alone.  `hbb` / `hb1`: the prologue of
    `op` / all its effects change buffers inside `W` only; `hE`: inside `W` they come out the same
    whether or not the prologues of the rest ran first. -/
theorem runSeg_peel (F : Nat) (op : Op) (ops : List Op) (b : BufF) (s : MStream) (acts : List Act)
    (hW : ∀ i ∈ wrOp op, i ∉ wrOps ops ∧ i ∉ rdOps ops) (hR : ∀ i ∈ rdOp op, i ∉ wrOps ops)
    (ha : actsAll op (initCtl op) s = some acts) :
    runSeg F (op :: ops) b s = runSeg F ops (effs (proOf op ++ acts) b) (flat b acts) := by
  have hin := actsAll_fp op s _ acts ha
  have hpro := proOf_fp op
  have hOut : Outside (inW (wrOp op)) ops := fun i hi => hW i (by simpa [inW] using hi)
  have hOutW : ∀ i, inW (wrOp op) i = true → i ∉ wrOps ops := fun i hi => (hOut i hi).1
  -- buffers when the first link starts
  have hrd : ∀ i ∈ rdOp op, effs (proOf op) (proBufs ops b) i = b i := fun i hi => by
    rw [effs_out hpro i (fun hc => wr_rd_disjoint op i hc hi), proBufs_out ops b i (hR i hi)]
  have hfl : flat (effs (proOf op) (proBufs ops b)) acts = flat b acts := flat_congr hin hrd
  have hbb := effs_eq_mergeP hpro (proBufs ops b)
  have hb1 := effs_eq_mergeP (hpro.append hin) b
  have hE : ∀ i, inW (wrOp op) i = true →
      effs acts (effs (proOf op) (proBufs ops b)) i = effs (proOf op ++ acts) b i := fun i hi => by
    have hiW : i ∈ wrOp op := by simpa [inW] using hi
    rw [effs_append]
    exact effs_pointwise acts (effs_pointwise _ (proBufs_out ops b i (hW i hiW).1))
  rw [runSeg_eq, runSeg_eq]
  have hL : runFrom F (op :: ops) ((op :: ops).map initCtl) (proBufs (op :: ops) b) s =
      mapBF (mergeP (inW (wrOp op)) (effs (proOf op ++ acts) b))
        (runFrom F ops (ops.map initCtl) (proBufs ops b) (flat b acts)) := by
    simp only [List.map_cons, proBufs]
    rw [runFrom_cons F op ops s _ _ _ acts ha,
      execActs_commute F ops (wrOp op) (rdOp op) hW hR (wr_rd_disjoint op) acts _ _ hin, hfl,
      seqF_mapB _ _ _ (fun cs b => finish_frame F ops _ hOut _ cs b)]
    show mapBF _ (runFrom F ops (ops.map initCtl) (effs (proOf op) (proBufs ops b)) (flat b acts)) = _
    rw [hbb, runFrom_frame F ops _ hOut, mapBF_mapBF, ← hbb]
    apply mapBF_congr
    intro bb
    rw [mergeP_mergeP]
    exact mergeP_congr _ _ _ _ hE
  have hRr : runFrom F ops (ops.map initCtl) (proBufs ops (effs (proOf op ++ acts) b)) (flat b acts) =
      mapBF (mergeP (inW (wrOp op)) (effs (proOf op ++ acts) b))
        (runFrom F ops (ops.map initCtl) (proBufs ops b) (flat b acts)) := by
    rw [hb1, proBufs_frame _ ops b hOutW, runFrom_frame F ops _ hOut, ← hb1]
  rw [hL, hRr]

/-- no buffer is written twice, or read and written, by the links of the segment -/
def NoConf : List Op → Prop
  | [] => True
  | op :: ops => (∀ i ∈ wrOp op, i ∉ wrOps ops ∧ i ∉ rdOps ops) ∧ (∀ i ∈ rdOp op, i ∉ wrOps ops) ∧ NoConf ops

theorem pushList_nil_ops (F : Nat) (s : MStream) (b : BufF) : pushList (pushItem F []) s [] b = .ok ([], b, s) := by
  rw [← execActs_outs F, execActs_nil_ops F _ b (injFree_outs s), effs_outs, outsOf_outs]

def liftRes (r : Option (MStream × Bufs)) : Option (MStream × BufF) := r.map fun r => (r.1, ofBufs r.2)

theorem runSeg_agree (F : Nat) : ∀ (ops : List Op) (b : Bufs) (s : MStream), NoConf ops →
    (runSeg F ops (ofBufs b) s).toOption = liftRes (runChain ops b s)
  | [], b, s, _ => by
    simp [runSeg, pushList_nil_ops, finish, proBufs, runChain, liftRes, Out.toOption]
  | op :: ops, b, s, h => by
    obtain ⟨hW, hR, hN⟩ := h
    have hag := op_agree b op s
    cases ha : applyOp b op s with
    | none =>
      rw [runSeg_eq, Out.toOption_map, List.map_cons,
        runFrom_cons_none F op ops s (initCtl op) (ops.map initCtl) _ (hag.2 ha)]
      simp [runChain, ha, liftRes]
    | some r =>
      obtain ⟨s1, b1⟩ := r
      obtain ⟨acts, h1, h2, h3⟩ := hag.1 s1 b1 ha
      rw [runSeg_peel F op ops (ofBufs b) s acts hW hR h1, h2, h3, runSeg_agree F ops b1 s1 hN]
      simp [runChain, ha]

def runChainSegs : List (List Op) → Bufs → MStream → Option (MStream × Bufs)
  | [], b, s => some (s, b)
  | seg :: ss, b, s =>
      match runChain seg b s with
      | none => none
      | some (s', b') => runChainSegs ss b' s'

theorem segs_ne_nil (ops : List Op) : segs ops ≠ [] := by
  fun_cases segs ops <;> exact List.cons_ne_nil _ _

theorem segs_cons_ne {op : Op} {ops s0 : List Op} {ss : List (List Op)} (hb : op = .buffer → False)
    (h : segs ops = s0 :: ss) : segs (op :: ops) = (op :: s0) :: ss := by
  generalize hl : op :: ops = l
  fun_cases segs l <;> cases hl
  · exact (hb rfl).elim
  · rename_i _ _ _ h'; rw [h] at h'; cases h'; rfl
  · rename_i _ h'; rw [h] at h'; cases h'

theorem runChainSegs_segs : ∀ (ops : List Op) (b : Bufs) (s : MStream),
    runChainSegs (segs ops) b s = runChain ops b s
  | [], b, s => by simp [segs, runChainSegs, runChain]
  | op :: ops, b, s => by
    obtain ⟨s0, ss, h⟩ := List.exists_cons_of_ne_nil (segs_ne_nil ops)
    have ih := runChainSegs_segs ops
    rw [h] at ih
    by_cases hb : op = .buffer
    · subst hb
      simp only [segs, runChainSegs, runChain, applyOp]
      rw [h]; exact ih b s
    · rw [segs_cons_ne hb h]
      simp only [runChainSegs, runChain] at ih ⊢
      cases applyOp b op s with
      | none => rfl
      | some r => exact ih r.2 r.1

theorem runSegs_agree (F : Nat) : ∀ (ss : List (List Op)) (b : Bufs) (s : MStream), (∀ seg ∈ ss, NoConf seg) →
    (runSegs F ss (ofBufs b) s).toOption = liftRes (runChainSegs ss b s)
  | [], b, s, _ => rfl
  | seg :: ss, b, s, h => by
    rw [runSegs_toOption_cons, runSeg_agree F seg b s (h seg (List.mem_cons_self ..)), runChainSegs]
    cases runChain seg b s with
    | none => rfl
    | some r => exact runSegs_agree F ss r.2 r.1 (fun sg hsg => h sg (List.mem_cons_of_mem _ hsg))

theorem wrOp_eq_nil {op : Op} (h1 : ∀ id acc, op = .copy id acc → False) (h2 : ∀ id acc, op = .cut id acc → False) :
    wrOp op = [] := by
  fun_cases wrOp op
  · exact (h1 _ _ rfl).elim
  · exact (h2 _ _ rfl).elim
  · rfl

/-- `stagewise` at a link that is no barrier, said with the footprints `wrOp` / `rdOp` of the link -/
theorem stagewise_cons {op : Op} (hb : op = .buffer → False) (w r : List Nat) (ops : List Op) :
    stagewise w r (op :: ops) = true ↔
      ((∀ i ∈ wrOp op, i ∉ w ∧ i ∉ r) ∧ ∀ i ∈ rdOp op, i ∉ w) ∧
        stagewise (wrOp op ++ w) (rdOp op ++ r) ops = true := by
  generalize hl : op :: ops = l
  fun_cases stagewise w r l <;> cases hl
  · exact (hb rfl).elim
  · simp [wrOp, rdOp, readsOf]
  · simp [wrOp, rdOp, readsOf]
  · rename_i id _ hc hk hro
    simp [wrOp_eq_nil hc hk, rdOp, hro]
  · rename_i _ hc hk hro
    simp [wrOp_eq_nil hc hk, rdOp, hro]

/-- what `stagewise` says about the segments of a chain -/
theorem stagewise_segs : ∀ (ops : List Op) (w r : List Nat), stagewise w r ops = true →
    ∃ sg ss, segs ops = sg :: ss ∧ NoConf sg ∧ (∀ i ∈ wrOps sg, i ∉ w ∧ i ∉ r) ∧ (∀ i ∈ rdOps sg, i ∉ w) ∧
      (∀ seg ∈ ss, NoConf seg) := by
  intro ops
  induction ops with
  | nil => exact fun _ _ _ => ⟨[], [], rfl, trivial, by simp [wrOps], by simp [rdOps], by simp⟩
  | cons op ops ih =>
    intro w r h
    by_cases hb : op = .buffer
    · subst hb
      obtain ⟨s0, ss, h0, hn, _, _, hss⟩ := ih [] [] h
      exact ⟨[], s0 :: ss, by simp [segs, h0], trivial, by simp [wrOps], by simp [rdOps],
        List.forall_mem_cons.mpr ⟨hn, hss⟩⟩
    · obtain ⟨⟨hw, hr⟩, h⟩ := (stagewise_cons hb w r ops).mp h
      obtain ⟨s0, ss, h0, hn, hw0, hr0, hss⟩ := ih _ _ h
      refine ⟨op :: s0, ss, segs_cons_ne hb h0, ⟨fun i hi => ⟨fun hc => (hw0 i hc).1 (List.mem_append_left _ hi),
          fun hc => hr0 i hc (List.mem_append_left _ hi)⟩,
        fun i hi hc => (hw0 i hc).2 (List.mem_append_left _ hi), hn⟩, fun i hi => ?_, fun i hi => ?_, hss⟩
      · rcases List.mem_append.mp (show i ∈ wrOp op ++ wrOps s0 from hi) with h | h
        · exact hw i h
        · exact ⟨fun hc => (hw0 i h).1 (List.mem_append_right _ hc), fun hc => (hw0 i h).2 (List.mem_append_right _ hc)⟩
      · rcases List.mem_append.mp (show i ∈ rdOp op ++ rdOps s0 from hi) with h | h
        · exact hr i h
        · exact fun hc => hr0 i h (List.mem_append_right _ hc)

theorem lazy_agrees (F : Nat) (ops : List Op) (b : Bufs) (s : MStream) (h : stagewise [] [] ops = true) :
    (runLazy F ops (ofBufs b) s).toOption = liftRes (runChain ops b s) := by
  obtain ⟨sg, ss, h0, hn, _, _, hss⟩ := stagewise_segs ops [] [] h
  rw [runLazy, ← runChainSegs_segs ops b s, h0]
  apply runSegs_agree
  intro seg hseg
  rcases List.mem_cons.mp hseg with rfl | hseg
  · exact hn
  · exact hss seg hseg

end Genshi.Tf
