/-
  What one step of a writer link (`copy` / `cut`) does (`WActs`), and footprints: the actions of a
  link touch only the buffer the link writes (`copy` / `cut`) or reads (an injector with a buffer as
  content).
-/
import Genshi.Lemmas.TfLazy
namespace Genshi.Tf

/-- state of the run detection and content of the link's buffer after the item `p` -/
def wNext (acc : Bool) : RunSt → List MEv → MItem → RunSt × List MEv
  | .idle, bid, (none, _) => (.idle, bid)
  | .idle, bid, (some m, x) => (startSt m, (if acc then bid else []) ++ [x])
  | .inEnter, bid, (m, x) => (if m = some .exit then .idle else .inEnter, bid ++ [x])
  | .inRun m0, bid, (m, x) =>
      if m = some m0 then (.inRun m0, bid ++ [x])
      else match m with
        | none => (.idle, bid)
        | some m' => (startSt m', (if acc then bid else []) ++ [x])

/-- The actions of one step of a writer link (`copy` / `cut`) on an item with the event `x`, its
    buffer going from `bid` to `nb`: it yields and leaves the buffer, or yields and starts a new
    selection with `x`, or appends `x` and then yields.  `pre` / `post` is what is known when it yields
    before / after it writes.  What is needed of a step of `copy` or `cut` (footprint, no injection,
    net effect, buffers balanced at the yields) is proved by cases on this, once for both. -/
inductive WActs (id : Nat) (acc : Bool) (x : MEv) (bid : List MEv) (pre post : Prop) : List Act → List MEv → Prop
  | keep (l : MStream) : pre → WActs id acc x bid pre post (outs l) bid
  | start (l : MStream) : pre →
      WActs id acc x bid pre post (outs l ++ newSel id acc x) ((if acc then bid else []) ++ [x])
  | more (l : MStream) : (l ≠ [] → post) → WActs id acc x bid pre post (.app id x :: outs l) (bid ++ [x])

/-- a step from the state `st` of the run detection on the item `p`: the buffer follows `wNext`; the
    step yields before it writes only outside a selection or when another mark ends a run, and after
    it has written only when the selection is complete -/
abbrev WStep (id : Nat) (acc : Bool) (st : RunSt) (bid : List MEv) (p : MItem) (acts : List Act) : Prop :=
  WActs id acc p.2 bid (st = .idle ∨ ∃ m0, st = .inRun m0 ∧ p.1 ≠ some m0) ((wNext acc st bid p).1 = .idle)
    acts (wNext acc st bid p).2

theorem outs_snoc (l : MStream) (p : MItem) : outs l ++ [.out p] = outs (l ++ [p]) := by simp [outs]

theorem copyStep_wActs {id : Nat} {acc : Bool} {st : RunSt} {pend : MStream} {p : MItem} {c' : Ctl}
    {acts : List Act} (h : copyStep id acc st pend p = (c', acts)) (bid : List MEv) :
    (∃ pend', c' = .copy (wNext acc st bid p).1 pend') ∧ WStep id acc st bid p acts := by
  revert h
  fun_cases copyStep id acc st pend p <;> intro h <;> cases h
  case case1 => exact ⟨⟨_, rfl⟩, .keep [_] (.inl rfl)⟩
  case case2 => exact ⟨⟨_, rfl⟩, .start [] (.inl rfl)⟩
  case case3 => simp only [WStep, wNext, ↓reduceIte]; exact ⟨⟨_, rfl⟩, .more _ (fun _ => trivial)⟩
  case case4 h => simp only [WStep, wNext, h, ↓reduceIte]; exact ⟨⟨_, rfl⟩, .more [] (fun h => (h rfl).elim)⟩
  case case5 => simp only [WStep, wNext, ↓reduceIte]; exact ⟨⟨_, rfl⟩, .more [] (fun h => (h rfl).elim)⟩
  case case6 m0 _ h =>
    simp only [WStep, wNext, h, ↓reduceIte, outs_snoc]; exact ⟨⟨_, rfl⟩, .keep _ (.inr ⟨m0, rfl, h⟩)⟩
  case case7 m0 _ _ h => simp only [WStep, wNext, h, ↓reduceIte]; exact ⟨⟨_, rfl⟩, .start _ (.inr ⟨m0, rfl, h⟩)⟩

/-- `cut` starts a selection as `copy` does, after a BREAK unless the last thing yielded was one -/
theorem cutSel_eq (id : Nat) (acc broken : Bool) (x : MEv) :
    cutSel id acc broken x = outs (if !acc && !broken then [brkItem] else []) ++ newSel id acc x := by
  cases acc <;> cases broken <;> rfl

theorem cutStep_wActs {id : Nat} {acc : Bool} {st : RunSt} {br : Bool} {nm : List QName} {p : MItem} {c' : Ctl}
    {acts : List Act} (h : cutStep id acc st br nm p = some (c', acts)) (bid : List MEv) :
    (∃ br' nm', c' = .cut (wNext acc st bid p).1 br' nm') ∧ WStep id acc st bid p acts := by
  revert h
  fun_cases cutStep id acc st br nm p <;> intro h <;> cases h
  case case1 => exact ⟨⟨_, _, rfl⟩, .keep [_] (.inl rfl)⟩
  case case2 => rw [cutSel_eq]; exact ⟨⟨_, _, rfl⟩, .start _ (.inl rfl)⟩
  case case3 => exact ⟨⟨_, _, rfl⟩, .more [] (fun h => (h rfl).elim)⟩
  case case4 => simp only [WStep, wNext, ↓reduceIte]; exact ⟨⟨_, _, rfl⟩, .more [] (fun h => (h rfl).elim)⟩
  case case6 m0 _ _ h _ _ _ =>
    simp only [WStep, wNext, h]; exact ⟨⟨_, _, rfl⟩, .keep [_] (.inr ⟨m0, rfl, h⟩)⟩
  case case7 m0 _ _ _ h _ _ _ =>
    simp only [WStep, wNext, h, cutSel_eq]; exact ⟨⟨_, _, rfl⟩, .start _ (.inr ⟨m0, rfl, h⟩)⟩

/-- `op` is a writer link on the buffer `id`: `stOf` reads the state of the run detection off its
    control state, every step is a `WStep`, and at the end of its input the link only yields -/
structure IsWriter (op : Op) (id : Nat) (acc : Bool) (stOf : Ctl → RunSt → Prop) : Prop where
  step : ∀ {c st p c' acts} (bid : List MEv), stOf c st → stepOp op c p = some (c', acts) →
    stOf c' (wNext acc st bid p).1 ∧ WStep id acc st bid p acts
  fin : ∀ {c acts}, finOp op c = some acts → ∃ l, acts = outs l

theorem copy_isWriter (id : Nat) (acc : Bool) : IsWriter (.copy id acc) id acc fun c st => ∃ pend, c = .copy st pend where
  step := by rintro _ st p c' acts bid ⟨pend, rfl⟩ hs; exact copyStep_wActs (Option.some.inj hs) bid
  fin := by intro c acts h; cases c <;> cases h; exact ⟨_, rfl⟩

theorem cut_isWriter (id : Nat) (acc : Bool) : IsWriter (.cut id acc) id acc fun c st => ∃ br nm, c = .cut st br nm where
  step := by rintro _ st p c' acts bid ⟨br, nm, rfl⟩ hs; exact cutStep_wActs hs bid
  fin := by
    intro c acts h
    cases c <;> cases h
    rename_i br _
    exact ⟨if br then [] else [brkItem], by cases br <;> rfl⟩

/-! `ActsIn` of an action list written with `::`, `++`, `outs`, `keepAct`, `newSel` is decided by
    `simp` with the following equivalences (and `Act.wr`, `Act.rd`). -/

theorem actsIn_nil_iff (w r : List Nat) : ActsIn w r [] ↔ True := ⟨fun _ => trivial, fun _ => ActsIn.nil w r⟩

theorem actsIn_cons_iff (w r : List Nat) (a : Act) (as : List Act) :
    ActsIn w r (a :: as) ↔ ((∀ i ∈ a.wr, i ∈ w) ∧ (∀ i ∈ a.rd, i ∈ r)) ∧ ActsIn w r as :=
  ⟨fun h => ⟨h.head, h.tail⟩, fun h x hx => (List.mem_cons.mp hx).elim (fun e => e ▸ h.1) (h.2 x)⟩

theorem actsIn_append_iff (w r : List Nat) (a b : List Act) : ActsIn w r (a ++ b) ↔ ActsIn w r a ∧ ActsIn w r b :=
  ⟨fun h => ⟨fun x hx => h x (List.mem_append_left _ hx), fun x hx => h x (List.mem_append_right _ hx)⟩,
   fun h => h.1.append h.2⟩

theorem actsIn_outs_iff (w r : List Nat) (s : MStream) : ActsIn w r (outs s) ↔ True :=
  ⟨fun _ => trivial, fun _ => ActsIn.outs w r s⟩

theorem actsIn_keep_iff (w r : List Nat) (keep : Bool) (p : MItem) : ActsIn w r (keepAct keep p) ↔ True := by
  cases keep <;> simp [keepAct, actsIn_cons_iff, actsIn_nil_iff, Act.wr, Act.rd]

theorem actsIn_newSel_iff (w r : List Nat) (id : Nat) (acc : Bool) (x : MEv) :
    ActsIn w r (newSel id acc x) ↔ id ∈ w := by
  cases acc <;> simp [newSel, actsIn_cons_iff, actsIn_nil_iff, Act.wr, Act.rd]

attribute [local simp] actsIn_nil_iff actsIn_cons_iff actsIn_append_iff actsIn_outs_iff actsIn_keep_iff
  actsIn_newSel_iff Act.wr Act.rd

theorem runStep_fp {w r : List Nat} {pre post : List Act} (hpre : ActsIn w r pre) (hpost : ActsIn w r post)
    (keep : Bool) (st : RunSt) (p : MItem) : ActsIn w r (runStep pre post keep st p).2 := by
  fun_cases runStep pre post keep st p <;> simp [*]

theorem mapStep_fp (w r : List Nat) (g : MItem → MItem) (c c' : Ctl) (p : MItem) (acts : List Act)
    (h : mapStep g c p = some (c', acts)) : ActsIn w r acts := by
  cases c <;> cases h; simp

theorem runStepC_fp {w r : List Nat} {pre post : List Act} (hpre : ActsIn w r pre) (hpost : ActsIn w r post)
    (keep : Bool) (c c' : Ctl) (p : MItem) (acts : List Act)
    (h : runStepC pre post keep c p = some (c', acts)) : ActsIn w r acts := by
  cases c <;> cases h; exact runStep_fp hpre hpost keep _ p

theorem runFinC_fp {w r : List Nat} {post : List Act} (hpost : ActsIn w r post) (c : Ctl) (acts : List Act)
    (h : runFinC post c = some acts) : ActsIn w r acts := by
  cases c <;> cases h; rename_i st; cases st <;> simp [runFin, hpost]

theorem actsIn_inj (w : List Nat) (c : Content) : ActsIn w (match c with | .buf id => [id] | _ => []) [.inj c] := by
  intro a h; simp at h; subst h
  cases c <;> simp [Act.wr, Act.rd]

theorem WActs.fp {id : Nat} {acc : Bool} {x : MEv} {bid nb : List MEv} {pre post : Prop} {acts : List Act}
    (h : WActs id acc x bid pre post acts nb) : ActsIn [id] [] acts := by
  cases h <;> simp

theorem filStep_fp (w r : List Nat) (f : List MEv → List MEv) (st : FilSt) (q : List MEv) (p : MItem) :
    ActsIn w r (filStep f st q p).2 := by
  fun_cases filStep f st q p <;> simp [*]

theorem selStep_fp (w r : List Nat) (d : Nat) (rs : List Res) (ok : Bool) (p : MItem) :
    ActsIn w r (selStep d rs ok p).2 := by
  fun_cases selStep d rs ok p <;> simp [*]

theorem fp_of_some {w r : List Nat} {f : Ctl × List Act} {c' : Ctl} {acts : List Act}
    (h : some f = some (c', acts)) (hf : ActsIn w r f.2) : ActsIn w r acts := by
  cases h; exact hf

/-- an injector's own content is what it reads -/
theorem actsIn_injOp {w : List Nat} {op : Op} {ct : Content}
    (h : readsOf op = match ct with | .buf id => some id | _ => none) : ActsIn w (rdOp op) [.inj ct] := by
  cases ct <;> simp [rdOp, h]

theorem stepOp_fp (op : Op) (c c' : Ctl) (p : MItem) (acts : List Act)
    (h : stepOp op c p = some (c', acts)) : ActsIn (wrOp op) (rdOp op) acts := by
  obtain ⟨m, x⟩ := p
  cases op with
  | selectFail => cases h
  | invert | endSel | rename | attr | attrFn | mapBang | subst | buffer | trace | mapText =>
    exact mapStep_fp _ _ _ c c' _ acts h
  | select rs =>
    cases c with
    | sel d rs ok => exact fp_of_some h (selStep_fp _ _ _ _ _ _)
    | _ => cases h
  | copy id acc =>
    cases c with
    | copy st pend => exact (copyStep_wActs (Option.some.inj h) []).2.fp
    | _ => cases h
  | filter f =>
    cases c with
    | fil st q => exact fp_of_some h (filStep_fp _ _ f _ _ _)
    | _ => cases h
  | cut id acc =>
    cases c with
    | cut st br nm => exact (cutStep_wActs h []).2.fp
    | _ => cases h
  | replace ct => exact runStepC_fp (actsIn_injOp (by cases ct <;> rfl)) (by simp) _ c c' _ acts h
  | before ct => exact runStepC_fp (actsIn_injOp (by cases ct <;> rfl)) (by simp) _ c c' _ acts h
  | after ct => exact runStepC_fp (by simp) (actsIn_injOp (by cases ct <;> rfl)) _ c c' _ acts h
  | wrap t a kids => exact runStepC_fp (by simp [wrapPre]) (by simp) _ c c' _ acts h
  | unwrap => cases c <;> cases h; split <;> simp
  | prepend ct =>
    cases c <;> cases h
    split
    · exact (actsIn_cons_iff ..).mpr ⟨by simp, actsIn_injOp (by cases ct <;> rfl)⟩
    · simp
  | empty =>
    cases c <;> try cases h
    rename_i b
    cases b
    · cases h; simp
    · simp only [stepOp] at h
      split at h <;> cases h <;> simp
  | remove =>
    cases c <;> try cases h
    simp only [stepOp] at h
    split at h
    · cases h; simp
    · cases h; simp
    · split at h <;> cases h <;> simp
  | append ct =>
    cases c <;> try cases h
    rename_i l
    cases l with
    | none => cases h; simp
    | some l =>
      simp only [stepOp] at h
      split at h <;> cases h
      · exact (actsIn_injOp (by cases ct <;> rfl)).append (by simp)
      · simp

theorem finOp_fp (op : Op) (c : Ctl) (acts : List Act) (h : finOp op c = some acts) :
    ActsIn (wrOp op) (rdOp op) acts := by
  cases op with
  | selectFail => cases h
  | select rs =>
    cases c <;> try cases h
    simp only [finOp] at h
    split at h <;> cases h
    simp
  | append ct =>
    cases c <;> try cases h
    rename_i l
    cases l <;> cases h
    · simp
    · exact (actsIn_injOp (by cases ct <;> rfl)).append (by simp)
  | replace ct | before ct => exact runFinC_fp (by simp) c acts h
  | after ct => exact runFinC_fp (actsIn_injOp (by cases ct <;> rfl)) c acts h
  | wrap t a kids => exact runFinC_fp (by simp) c acts h
  | copy id acc => cases c <;> cases h; simp
  | cut id acc => cases c <;> cases h; split <;> simp
  | filter f => cases c <;> cases h; split <;> simp
  | _ => cases h; simp

theorem proOf_fp (op : Op) : ActsIn (wrOp op) (rdOp op) (proOf op) := by
  cases op with
  | cut id acc =>
    cases acc
    · intro a h; simp [proOf] at h; subst h; simp [Act.wr, Act.rd, wrOp]
    · exact ActsIn.nil _ _
  | _ => exact ActsIn.nil _ _

end Genshi.Tf
