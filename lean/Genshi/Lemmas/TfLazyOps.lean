/-
  Every link of the lazy model, run on its own over a whole stream, yields what the stage-wise
  model of the operation (`Model/Tf.lean`) yields, and has its effect on the buffers.
-/
import Genshi.Lemmas.TfLink
import Genshi.Lemmas.TfBuf
namespace Genshi.Tf

/-- all actions of a link on the input `s`, from the state `c` to its end (`none`: it raises) -/
def actsAll (op : Op) : Ctl → MStream → Option (List Act)
  | c, [] => finOp op c
  | c, x :: s =>
      match stepOp op c x with
      | none => none
      | some (c', a) => (actsAll op c' s).map (a ++ ·)

theorem outs_cons (x : MItem) (l : MStream) : outs (x :: l) = .out x :: outs l := rfl

/-- the link alone on a plain stream is the link over the action list that only yields it -/
theorem actsAll_eq_linkU (op : Op) : ∀ (s : MStream) (c : Ctl), actsAll op c s = linkU op c (outs s)
  | [], _ => rfl
  | x :: s, c => by
    simp only [actsAll, outs_cons, linkU]
    cases stepOp op c x with
    | none => rfl
    | some r => simp only [actsAll_eq_linkU op s]

theorem actsAll_run {op : Op} {s : MStream} {c : Ctl} {acts : List Act} (h : actsAll op c s = some acts) :
    LinkRun op c (outs s) acts :=
  linkU_run (injFree_outs s) ((actsAll_eq_linkU op s c).symm.trans h)

theorem actsAll_fp (op : Op) (s : MStream) (c : Ctl) (acts : List Act) (h : actsAll op c s = some acts) :
    ActsIn (wrOp op) (rdOp op) acts := fun x hx =>
  ⟨fun i hi => (List.mem_append.mp
      ((actsAll_run h).wr [] (fun y hy => (ActsIn.outs [] [] s y hy).1) x hx i hi)).elim id nofun,
   (actsAll_run h).rd x hx⟩

@[simp] theorem outs_nil : outs [] = [] := rfl

theorem flat_outs (b : BufF) : ∀ (l : MStream), flat b (outs l) = l
  | [] => rfl
  | x :: l => by simp only [outs_cons, flat, flat_outs b l]

theorem ofBufs_set (b : Bufs) (id : Nat) (v : List MEv) : ofBufs (b.set id v) = (ofBufs b).set id v := by
  funext i; simp [ofBufs, BufF.set, Bufs.get_set]

theorem contentF_ofBufs (b : Bufs) (c : Content) : contentF (ofBufs b) c = content b c := by
  cases c <;> rfl

theorem effs_noWr {r : List Nat} {acts : List Act} (h : ActsIn [] r acts) (b : BufF) : effs acts b = b := by
  funext i; exact effs_out h i (by simp)

theorem map_acts (op : Op) (g : MItem → MItem) (hstep : ∀ p, stepOp op .unit p = some (.unit, [.out (g p)]))
    (hfin : finOp op .unit = some []) : ∀ s : MStream, actsAll op .unit s = some (outs (s.map g))
  | [] => by simp [actsAll, hfin]
  | x :: s => by simp [actsAll, hstep, map_acts op g hstep hfin s, outs]

theorem unwrap_acts : ∀ s : MStream, actsAll .unwrap .unit s = some (outs (unwrap s))
  | [] => by simp [actsAll, finOp, unwrap]
  | (m, x) :: s => by
    simp only [actsAll, stepOp, unwrap_acts s, Option.map_some, unwrap, List.filter_cons]
    split <;> simp [outs]

theorem empty_acts (s : MStream) (fl : Bool) : actsAll .empty (.flag fl) s = some (outs (emptyGo fl s)) := by
  fun_induction emptyGo fl s <;> simp_all [actsAll, stepOp, finOp, outs]

theorem remove_acts : ∀ (s : MStream) (names : List QName),
    actsAll .remove (.names names) s = some (outs (removeGo names s))
  | [], names => by simp [actsAll, finOp, removeGo]
  | (none, x) :: s, names => by
    by_cases h : (!names.isEmpty && x.isStart) = true <;>
      simp [actsAll, stepOp, removeGo, h, remove_acts s, outs]
  | (some m, x) :: s, names => by
    cases m <;> simp [actsAll, stepOp, removeGo, remove_acts s]

theorem filter_acts (f : List MEv → List MEv) (s : MStream) (st : FilSt) (q : List MEv) :
    actsAll (.filter f) (.fil st q) s = some (outs (filterGo f st q s)) := by
  fun_induction filterGo f st q s <;> simp_all [actsAll, stepOp, filStep, finOp, outs]

theorem flat_keepAct (b : BufF) (keep : Bool) (p : MItem) : flat b (keepAct keep p) = if keep then [p] else [] := by
  cases keep <;> rfl

theorem map_flat_append (bf : BufF) (a : List Act) (u : Option (List Act)) :
    (u.map (a ++ ·)).map (flat bf) = (u.map (flat bf)).map (flat bf a ++ ·) := by
  cases u <;> simp [flat_append]

/-! The links that inject or write, each against its stage-wise function: what the link yields on
    `s` (injections expanded with `bf`) is what the function gives.  One step lemma per link, then the
    recursion over `s` is the same every time (`map_flat_append`). -/

theorem runGo_cons (pre post : List Act) (keep : Bool) (bf : BufF) (st : RunSt) (p : MItem) (s : MStream) :
    runGo (flat bf pre) (flat bf post) keep st (p :: s) =
      flat bf (runStep pre post keep st p).2 ++ runGo (flat bf pre) (flat bf post) keep (runStep pre post keep st p).1 s := by
  fun_cases runStep pre post keep st p <;> simp [runGo, flat, flat_append, flat_keepAct, *]

theorem run_acts (op : Op) (pre post : List Act) (keep : Bool)
    (hstep : ∀ c p, stepOp op c p = runStepC pre post keep c p) (hfin : ∀ c, finOp op c = runFinC post c)
    (bf : BufF) : ∀ (s : MStream) (st : RunSt),
    (actsAll op (.run st) s).map (flat bf) = some (runGo (flat bf pre) (flat bf post) keep st s)
  | [], st => by cases st <;> simp [actsAll, hfin, runFinC, runFin, runGo, flat]
  | p :: s, st => by
    simp only [actsAll, hstep, runStepC]
    rw [map_flat_append, run_acts op pre post keep hstep hfin bf s, runGo_cons]
    rfl

theorem prepend_acts (c : Content) (bf : BufF) : ∀ (s : MStream),
    (actsAll (.prepend c) .unit s).map (flat bf) = some (prepend (contentF bf c) s)
  | [] => rfl
  | (m, x) :: s => by
    simp only [actsAll, stepOp]
    rw [map_flat_append, prepend_acts c bf s]
    by_cases he : m = some .enter <;> simp [flat, prepend, he]

theorem append_acts (c : Content) (bf : BufF) : ∀ (s : MStream) (last : Option MItem),
    (actsAll (.append c) (.last last) s).map (flat bf) = some (appendGo (contentF bf c) last s)
  | [], none => rfl
  | [], some l => by simp [actsAll, finOp, flat, appendGo]
  | (m, x) :: s, none => by
    simp only [actsAll, stepOp]
    rw [map_flat_append, append_acts c bf s]
    simp [flat, appendGo]
  | (m, x) :: s, some l => by
    by_cases he : m = some .exit
    · simp only [actsAll, stepOp, he, ↓reduceIte]
      rw [map_flat_append, append_acts c bf s]
      simp [flat, appendGo]
    · simp only [actsAll, stepOp, he, ↓reduceIte]
      rw [map_flat_append, append_acts c bf s]
      simp [flat, appendGo, he]

/-- one step of the select link against one step of `selectGo` / `selectFin` -/
theorem selectGo_cons (bf : BufF) (d : Nat) (rs : List Res) (ok : Bool) (p : MItem) (s : MStream) :
    match (selStep d rs ok p).1 with
    | .sel d' rs' _ => selectFin d rs (p :: s) = selectFin d' rs' s ∧
        selectGo d rs (p :: s) = flat bf (selStep d rs ok p).2 ++ selectGo d' rs' s
    | _ => False := by
  fun_cases selStep d rs ok p <;>
    simp only [selectFin, selectGo, flat, *, ↓reduceIte, Bool.false_eq_true, List.cons_append, List.nil_append,
      and_self]

theorem select_acts (rs0 : List Res) (bf : BufF) : ∀ (s : MStream) (d : Nat) (rs : List Res) (ok : Bool),
    (actsAll (.select rs0) (.sel d rs ok) s).map (flat bf) =
      if selectFin d rs s = 0 then some (selectGo d rs s) else none
  | [], d, rs, ok => by cases d <;> simp [actsAll, finOp, selectFin, selectGo, flat]
  | p :: s, d, rs, ok => by
    have h := selectGo_cons bf d rs ok p s
    simp only [actsAll, stepOp]
    cases hc : (selStep d rs ok p).1 with
    | sel d' rs' ok' =>
      simp only [hc] at h
      rw [map_flat_append, select_acts rs0 bf s d' rs' ok', h.1, h.2]
      split <;> rfl
    | _ => simp [hc] at h

theorem effs_newSel (id : Nat) (acc : Bool) (x : MEv) (as : List Act) (b : BufF) :
    effs (newSel id acc x ++ as) b = effs as (b.set id ((if acc then b id else []) ++ [x])) := by
  cases acc <;> simp [newSel, effs, BufF.set_set, BufF.set_get]

theorem flat_newSel (b : BufF) (id : Nat) (acc : Bool) (x : MEv) : flat b (newSel id acc x) = [] := by
  cases acc <;> rfl

theorem WActs.effs {id : Nat} {acc : Bool} {x : MEv} {b : BufF} {pre post : Prop} {acts : List Act} {nb : List MEv}
    (h : WActs id acc x (b id) pre post acts nb) : effs acts b = b.set id nb := by
  cases h with
  | keep l _ => rw [effs_outs, BufF.set_self]
  | start l _ => rw [effs_outs_append]; simpa [Tf.effs] using effs_newSel id acc x [] b
  | more l _ => exact effs_outs l _

/-- `copyBuf` (and `cutBuf`: `cutBuf_eq_copyBuf`) goes from item to item as `wNext` says -/
theorem copyBuf_cons (acc : Bool) (st : RunSt) (buf : List MEv) (p : MItem) (s : MStream) :
    copyBuf acc st buf (p :: s) = copyBuf acc (wNext acc st buf p).1 (wNext acc st buf p).2 s := by
  fun_cases wNext acc st buf p <;> simp [copyBuf, *]

/-- the buffer a writer link leaves behind on the input `s` is `copyBuf`'s -/
theorem writer_effs {op : Op} {id : Nat} {acc : Bool} {stOf : Ctl → RunSt → Prop} (hw : IsWriter op id acc stOf) :
    ∀ (s : MStream) {c : Ctl} {st : RunSt} {acts : List Act} (bf : BufF), stOf c st → actsAll op c s = some acts →
      effs acts bf = bf.set id (copyBuf acc st (bf id) s)
  | [], c, st, acts, bf, _, h => by
    obtain ⟨l, rfl⟩ := hw.fin h
    rw [effs_outs, copyBuf, BufF.set_self]
  | p :: s, c, st, acts, bf, hc, h => by
    simp only [actsAll] at h
    cases hs : stepOp op c p with
    | none => simp [hs] at h
    | some r =>
      obtain ⟨c', a⟩ := r
      simp only [hs, Option.map_eq_some_iff] at h
      obtain ⟨acts', h1, rfl⟩ := h
      obtain ⟨hc', ha⟩ := hw.step (bf id) hc hs
      rw [effs_append, ha.effs, writer_effs hw s _ hc' h1, BufF.set_set, BufF.set_get, copyBuf_cons]

theorem copyGo_cons (id : Nat) (acc : Bool) (bf : BufF) (st : RunSt) (pend : MStream) (p : MItem) (s : MStream) :
    ∃ st' pend', (copyStep id acc st pend p).1 = .copy st' pend' ∧
      copyGo st pend (p :: s) = flat bf (copyStep id acc st pend p).2 ++ copyGo st' pend' s := by
  fun_cases copyStep id acc st pend p <;> refine ⟨_, _, rfl, ?_⟩ <;>
    simp [copyGo, flat, flat_append, flat_outs, flat_newSel, *]

theorem copy_acts (id : Nat) (acc : Bool) (bf : BufF) : ∀ (s : MStream) (st : RunSt) (pend : MStream),
    (actsAll (.copy id acc) (.copy st pend) s).map (flat bf) = some (copyGo st pend s)
  | [], st, pend => by simp [actsAll, finOp, flat_outs, copyGo]
  | p :: s, st, pend => by
    obtain ⟨st', pend', h1, h2⟩ := copyGo_cons id acc bf st pend p s
    simp only [actsAll, stepOp, h1]
    rw [map_flat_append, copy_acts id acc bf s st' pend', h2]
    rfl

theorem flat_cutSel (b : BufF) (id : Nat) (acc broken : Bool) (x : MEv) :
    flat b (cutSel id acc broken x) = if !acc && !broken then [brkItem] else [] := by
  cases acc <;> cases broken <;> rfl

/-- one step of the cut link against one step of `cutGo` (`none`: the assertion fails) -/
theorem cutGo_cons (id : Nat) (acc : Bool) (bf : BufF) (st : RunSt) (br : Bool) (nm : List QName) (p : MItem)
    (s : MStream) : cutGo acc st br nm (p :: s) = (cutStep id acc st br nm p).bind fun r =>
      match r.1 with
      | .cut st' br' nm' => (flat bf r.2 ++ ·) <$> cutGo acc st' br' nm' s
      | _ => none := by
  fun_cases cutStep id acc st br nm p
  case case1 => rfl
  case case2 => simp only [cutGo, Option.bind_some, flat_cutSel]
  case case3 => simp only [cutGo, Option.bind_some, flat, List.nil_append, id_map']
  case case4 => simp only [cutGo, ↓reduceIte, Option.bind_some, flat, List.nil_append, id_map']; rfl
  case case5 h1 h2 => simp only [cutGo, h1, h2, ↓reduceIte]; rfl
  case case6 h1 h2 _ _ _ => simp only [cutGo, h1, h2, ↓reduceIte, Option.bind_some]; rfl
  case case7 h1 _ h2 _ _ _ =>
    simp only [cutGo, h1, h2, ↓reduceIte, Option.bind_some, flat_cutSel, Bool.false_eq_true, Bool.not_false,
      Bool.and_true]
    rfl

theorem cut_acts (id : Nat) (acc : Bool) (bf : BufF) : ∀ (s : MStream) (st : RunSt) (br : Bool) (nm : List QName),
    (actsAll (.cut id acc) (.cut st br nm) s).map (flat bf) = cutGo acc st br nm s
  | [], st, br, nm => by cases br <;> simp [actsAll, finOp, cutGo, flat]
  | p :: s, st, br, nm => by
    rw [cutGo_cons id acc bf]
    simp only [actsAll, stepOp]
    cases hs : cutStep id acc st br nm p with
    | none => rfl
    | some r =>
      obtain ⟨c', a⟩ := r
      obtain ⟨br', nm', rfl⟩ := (cutStep_wActs hs []).1
      simp only [Option.bind_some]
      rw [map_flat_append, cut_acts id acc bf s _ br' nm']
      rfl

end Genshi.Tf
