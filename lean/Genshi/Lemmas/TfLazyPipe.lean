/-
  The lazy pipeline respects the footprint of its links (frame and stability of `pushItem`, `finish`,
  `runFrom`); what an action list yields and does to the buffers (`flat`, `effs`).
-/
import Genshi.Lemmas.TfLazyFp
namespace Genshi.Tf

/-- `p` holds for no buffer the links read or write -/
def Outside (p : Nat → Bool) (ops : List Op) : Prop :=
  ∀ i, p i = true → i ∉ wrOps ops ∧ i ∉ rdOps ops

theorem Outside.tail {p : Nat → Bool} {op : Op} {ops : List Op} (h : Outside p (op :: ops)) : Outside p ops := by
  intro i hi
  have := h i hi
  simp only [wrOps, rdOps, List.flatMap_cons, List.mem_append, not_or] at this
  exact ⟨this.1.2, this.2.2⟩

theorem Outside.head {p : Nat → Bool} {op : Op} {ops : List Op} (h : Outside p (op :: ops)) :
    ∀ i, p i = true → i ∉ wrOp op ∧ i ∉ rdOp op := by
  intro i hi
  have := h i hi
  simp only [wrOps, rdOps, List.flatMap_cons, List.mem_append, not_or] at this
  exact ⟨this.1.1, this.2.1⟩

theorem actsIn_outside {p : Nat → Bool} {op : Op} {acts : List Act} (ha : ActsIn (wrOp op) (rdOp op) acts)
    (h : ∀ i, p i = true → i ∉ wrOp op ∧ i ∉ rdOp op) :
    ∀ a ∈ acts, (∀ i ∈ a.wr, p i = false) ∧ (∀ i ∈ a.rd, p i = false) := by
  intro a hm
  refine ⟨fun i hi => ?_, fun i hi => ?_⟩
  · cases hp : p i with
    | false => rfl
    | true => exact absurd ((ha a hm).1 i hi) (h i hp).1
  · cases hp : p i with
    | false => rfl
    | true => exact absurd ((ha a hm).2 i hi) (h i hp).2

theorem pushItem_respects (F : Nat) : ∀ (ops : List Op) (p : Nat → Bool), Outside p ops →
    Respects (pushItem F ops) p (wrOps ops)
  | [], p, _ => ⟨fun e cs b x => rfl, fun cs b x cs' b' o h => by
      simp only [pushItem, Out.ok.injEq, Prod.mk.injEq] at h
      obtain ⟨_, rfl, _⟩ := h
      intro i _; rfl⟩
  | op :: ops, p, hout => by
    have ih := pushItem_respects F ops p hout.tail
    refine ⟨fun e cs b x => ?_, fun cs b x cs' b' o h => ?_⟩
    · cases cs with
      | nil => rfl
      | cons c cs =>
        simp only [pushItem]
        cases hs : stepOp op c x with
        | none => rfl
        | some r =>
          obtain ⟨c', acts⟩ := r
          simp only
          rw [execActs_frame ih e acts cs b (actsIn_outside (stepOp_fp op c c' x acts hs) hout.head)]
          cases execActs F (pushItem F ops) acts cs b with
          | ok y => obtain ⟨cs1, b1, o1⟩ := y; rfl
          | err => rfl
          | div => rfl
    · cases cs with
      | nil => simp [pushItem] at h
      | cons c cs =>
        simp only [pushItem] at h
        cases hs : stepOp op c x with
        | none => simp [hs] at h
        | some r =>
          obtain ⟨c', acts⟩ := r
          simp only [hs] at h
          cases he : execActs F (pushItem F ops) acts cs b with
          | err => simp [he] at h
          | div => simp [he] at h
          | ok y =>
            obtain ⟨cs1, b1, o1⟩ := y
            simp only [he, Out.ok.injEq, Prod.mk.injEq] at h
            obtain ⟨_, rfl, _⟩ := h
            exact execActs_stable ih acts cs b cs1 b1 o1
              (fun a ha j hj => (stepOp_fp op c c' x acts hs a ha).1 j hj) he

def mapBF (g : BufF → BufF) : Out (BufF × MStream) → Out (BufF × MStream)
  | .ok (b, o) => .ok (g b, o)
  | .err => .err
  | .div => .div

/-- run `r`, then finish with `k`; outputs concatenated -/
def seqF (r : R) (k : List Ctl → BufF → Out (BufF × MStream)) : Out (BufF × MStream) :=
  match r with
  | .ok (cs, b, o1) =>
      (match k cs b with
       | .ok (b', o2) => .ok (b', o1 ++ o2)
       | .err => .err
       | .div => .div)
  | .err => .err
  | .div => .div

theorem finish_cons (F : Nat) (op : Op) (ops : List Op) (c : Ctl) (cs : List Ctl) (b : BufF) :
    finish F (op :: ops) (c :: cs) b =
      match finOp op c with
      | none => .err
      | some acts => seqF (execActs F (pushItem F ops) acts cs b) (finish F ops) := by
  simp only [finish]
  cases finOp op c with
  | none => rfl
  | some acts =>
    simp only [seqF]
    cases execActs F (pushItem F ops) acts cs b with
    | ok y => obtain ⟨cs1, b1, o1⟩ := y; rfl
    | err => rfl
    | div => rfl

theorem seqF_mapB (g : BufF → BufF) (r : R) (k : List Ctl → BufF → Out (BufF × MStream))
    (hk : ∀ cs b, k cs (g b) = mapBF g (k cs b)) : seqF (mapB g r) k = mapBF g (seqF r k) := by
  cases r with
  | err => rfl
  | div => rfl
  | ok x =>
    obtain ⟨cs, b, o⟩ := x
    simp only [mapB, seqF, hk]
    cases k cs b with
    | err => rfl
    | div => rfl
    | ok y => obtain ⟨b1, o1⟩ := y; rfl

theorem seqF_seqR (r : R) (k1 : List Ctl → BufF → R) (k2 : List Ctl → BufF → Out (BufF × MStream)) :
    seqF (seqR r k1) k2 = seqF r (fun cs b => seqF (k1 cs b) k2) := by
  cases r with
  | err => rfl
  | div => rfl
  | ok x =>
    obtain ⟨cs, b, o⟩ := x
    simp only [seqR, seqF]
    cases k1 cs b with
    | err => rfl
    | div => rfl
    | ok y =>
      obtain ⟨cs1, b1, o1⟩ := y
      simp only
      cases k2 cs1 b1 with
      | err => rfl
      | div => rfl
      | ok z => obtain ⟨b2, o2⟩ := z; simp [List.append_assoc]

theorem seqF_congr (r : R) (k1 k2 : List Ctl → BufF → Out (BufF × MStream)) (h : ∀ cs b, k1 cs b = k2 cs b) :
    seqF r k1 = seqF r k2 := by
  have : k1 = k2 := by funext cs b; exact h cs b
  rw [this]

theorem mapBF_seqF (g : BufF → BufF) (r : R) (k : List Ctl → BufF → Out (BufF × MStream)) :
    mapBF g (seqF r k) = seqF r (fun cs b => mapBF g (k cs b)) := by
  cases r with
  | err => rfl
  | div => rfl
  | ok x =>
    obtain ⟨cs, b, o⟩ := x
    simp only [seqF]
    cases k cs b with
    | err => rfl
    | div => rfl
    | ok y => obtain ⟨b1, o1⟩ := y; rfl

theorem mapBF_mapBF (g h : BufF → BufF) (r : Out (BufF × MStream)) :
    mapBF g (mapBF h r) = mapBF (fun b => g (h b)) r := by
  cases r with
  | ok x => obtain ⟨b, o⟩ := x; rfl
  | err => rfl
  | div => rfl

theorem mapBF_congr (g h : BufF → BufF) (r : Out (BufF × MStream)) (hg : ∀ b, g b = h b) :
    mapBF g r = mapBF h r := by
  have : g = h := funext hg
  rw [this]

def Out.toOption {α : Type} : Out α → Option α
  | .ok a => some a
  | _ => none

theorem Out.toOption_map {α β : Type} (f : α → β) (x : Out α) : (x.map f).toOption = x.toOption.map f := by
  cases x <;> rfl

theorem seqF_ok_nil (cs : List Ctl) (b : BufF) (k : List Ctl → BufF → Out (BufF × MStream)) :
    seqF (.ok (cs, b, [])) k = k cs b := by
  simp only [seqF]
  cases k cs b with
  | ok r => obtain ⟨b', o⟩ := r; simp
  | err => rfl
  | div => rfl

theorem seqF_ok (cs : List Ctl) (b : BufF) (o : MStream) (k : List Ctl → BufF → Out (BufF × MStream)) :
    seqF (.ok (cs, b, o)) k = (k cs b).map fun r => (r.1, o ++ r.2) := by
  simp only [seqF]
  cases k cs b <;> rfl

theorem seqF_toOption_none (r : R) (k : List Ctl → BufF → Out (BufF × MStream))
    (h : ∀ cs b, (k cs b).toOption = none) : (seqF r k).toOption = none := by
  cases r with
  | err => rfl
  | div => rfl
  | ok x =>
    obtain ⟨cs, b, o⟩ := x
    have := h cs b
    simp only [seqF]
    cases hk : k cs b with
    | err => rfl
    | div => rfl
    | ok y => simp [hk, Out.toOption] at this

theorem finish_frame (F : Nat) : ∀ (ops : List Op) (p : Nat → Bool), Outside p ops → ∀ (e : BufF) cs b,
    finish F ops cs (mergeP p e b) = mapBF (mergeP p e) (finish F ops cs b)
  | [], p, _, e, cs, b => rfl
  | op :: ops, p, hout, e, cs, b => by
    cases cs with
    | nil => rfl
    | cons c cs =>
      rw [finish_cons, finish_cons]
      cases hf : finOp op c with
      | none => rfl
      | some acts =>
        simp only
        rw [execActs_frame (pushItem_respects F ops p hout.tail) e acts cs b
          (actsIn_outside (finOp_fp op c acts hf) hout.head)]
        exact seqF_mapB _ _ _ (fun cs b => finish_frame F ops p hout.tail e cs b)

/-- the links `ops` in the states `cs` on the input `s`, to the end -/
def runFrom (F : Nat) (ops : List Op) (cs : List Ctl) (b : BufF) (s : MStream) : Out (BufF × MStream) :=
  seqF (pushList (pushItem F ops) s cs b) (finish F ops)

theorem runFrom_frame (F : Nat) (ops : List Op) (p : Nat → Bool) (hout : Outside p ops) (e : BufF)
    (cs : List Ctl) (b : BufF) (s : MStream) :
    runFrom F ops cs (mergeP p e b) s = mapBF (mergeP p e) (runFrom F ops cs b s) := by
  simp only [runFrom]
  rw [pushList_frame (pushItem_respects F ops p hout) e]
  exact seqF_mapB _ _ _ (fun cs b => finish_frame F ops p hout e cs b)

theorem runSeg_eq (F : Nat) (ops : List Op) (b : BufF) (s : MStream) :
    runSeg F ops b s = (runFrom F ops (ops.map initCtl) (proBufs ops b) s).map fun r => (r.2, r.1) := by
  simp only [runSeg, runFrom, seqF]
  cases pushList (pushItem F ops) s (ops.map initCtl) (proBufs ops b) with
  | err => rfl
  | div => rfl
  | ok x =>
    obtain ⟨cs, b1, o1⟩ := x
    simp only
    cases finish F ops cs b1 with
    | err => rfl
    | div => rfl
    | ok y => obtain ⟨b2, o2⟩ := y; rfl

/-- as far as success goes, `runSegs` is the segments one after the other in `Option` -/
theorem runSegs_toOption_cons (F : Nat) (seg : List Op) (ss : List (List Op)) (b : BufF) (s : MStream) :
    (runSegs F (seg :: ss) b s).toOption =
      (runSeg F seg b s).toOption.bind fun r => (runSegs F ss r.2 r.1).toOption := by
  simp only [runSegs]
  cases runSeg F seg b s <;> rfl

def contentF (b : BufF) : Content → List MEv
  | .buf id => b id
  | c => content [] c

/-- the items the actions yield, injections expanded with the buffers `b` -/
def flat (b : BufF) : List Act → MStream
  | [] => []
  | .out x :: as => x :: flat b as
  | .inj c :: as => inj (contentF b c) ++ flat b as
  | _ :: as => flat b as

theorem flat_congr {w r : List Nat} {b1 b : BufF} : ∀ {acts : List Act}, ActsIn w r acts →
    (∀ i ∈ r, b1 i = b i) → flat b1 acts = flat b acts
  | [], _, _ => rfl
  | a :: as, ha, h => by
    have ih := flat_congr (acts := as) ha.tail h
    cases a with
    | out | reset | app => simp only [flat, ih]
    | inj c =>
      cases c with
      | buf id =>
        have : b1 id = b id := h id (ha.head.2 id (by simp [Act.rd]))
        simp only [flat, contentF, this, ih]
      | str s | evs s => simp only [flat, contentF, ih]

/-- the effects act on every buffer separately -/
theorem effs_pointwise {i : Nat} : ∀ (acts : List Act) {b1 b : BufF}, b1 i = b i → effs acts b1 i = effs acts b i
  | [], _, _, h => h
  | a :: as, b1, b, h => by
    cases a with
    | out | inj => exact effs_pointwise as h
    | reset id =>
      refine effs_pointwise as ?_
      simp only [BufF.set]; split
      · rfl
      · exact h
    | app id x =>
      refine effs_pointwise as ?_
      simp only [BufF.set]; split
      · rename_i hi; rw [← hi, h]
      · exact h

theorem effs_out {w r : List Nat} : ∀ {acts : List Act} {b : BufF}, ActsIn w r acts →
    ∀ i, i ∉ w → effs acts b i = b i
  | [], b, _, i, _ => rfl
  | a :: as, b, ha, i, hi => by
    cases a with
    | out x => exact effs_out (acts := as) ha.tail i hi
    | inj c => exact effs_out (acts := as) ha.tail i hi
    | reset id =>
      simp only [effs]
      rw [effs_out (acts := as) ha.tail i hi]
      have : i ≠ id := by intro hc; subst hc; exact hi (ha.head.1 i (by simp [Act.wr]))
      simp [BufF.set, this]
    | app id x =>
      simp only [effs]
      rw [effs_out (acts := as) ha.tail i hi]
      have : i ≠ id := by intro hc; subst hc; exact hi (ha.head.1 i (by simp [Act.wr]))
      simp [BufF.set, this]

theorem effs_append : ∀ (a1 a2 : List Act) (b : BufF), effs (a1 ++ a2) b = effs a2 (effs a1 b)
  | [], a2, b => rfl
  | a :: a1, a2, b => by
    cases a <;> simp only [List.cons_append, effs] <;> exact effs_append a1 a2 _

theorem flat_append (b : BufF) : ∀ (a1 a2 : List Act), flat b (a1 ++ a2) = flat b a1 ++ flat b a2
  | [], a2 => rfl
  | a :: a1, a2 => by
    cases a <;> simp only [List.cons_append, flat, flat_append b a1 a2, List.append_assoc]

def inW (W : List Nat) : Nat → Bool := fun i => decide (i ∈ W)

/-- the effects of an action list change the buffers of its write footprint only -/
theorem effs_eq_mergeP {w r : List Nat} {acts : List Act} (h : ActsIn w r acts) (b : BufF) :
    effs acts b = mergeP (inW w) (effs acts b) b := by
  funext i
  simp only [mergeP]
  split
  · rfl
  · rename_i hi
    exact effs_out h i (fun hc => hi (by simp [inW, hc]))

end Genshi.Tf
