/-
  One link run over the action list of the links before it (`linkU`, Model/TfTrace.lean), read as
  a relation, and such a link fused into the push pipeline: the pipeline with the link in front,
  fed the list, is the pipeline without it, fed what the link makes of the list.
-/
import Genshi.Model.TfTrace
import Genshi.Lemmas.TfLazyPipe
namespace Genshi.Tf

theorem injFree_outs : ∀ l : MStream, injFree (outs l) = true
  | [] => rfl
  | _ :: l => by simpa [outs, injFree] using injFree_outs l

theorem injFree_append_eq : ∀ a1 a2 : List Act, injFree (a1 ++ a2) = (injFree a1 && injFree a2)
  | [], _ => rfl
  | a :: a1, a2 => by cases a <;> simp [injFree, injFree_append_eq a1 a2]

theorem injFree_append (a1 a2 : List Act) (h1 : injFree a1 = true) (h2 : injFree a2 = true) :
    injFree (a1 ++ a2) = true := by rw [injFree_append_eq, h1, h2]; rfl

theorem execActs_outs (F : Nat) (push : List Ctl → BufF → MItem → R) : ∀ (l : MStream) cs b,
    execActs F push (outs l) cs b = pushList push l cs b
  | [], cs, b => rfl
  | x :: l, cs, b => by
    simp only [outs, List.map_cons, execActs, pushList]
    exact seqR_congr _ _ _ (fun cs b => execActs_outs F push l cs b)

theorem outsOf_append : ∀ (a1 a2 : List Act), outsOf (a1 ++ a2) = outsOf a1 ++ outsOf a2
  | [], _ => rfl
  | x :: a1, a2 => by
    cases x <;> simp only [List.cons_append, outsOf, outsOf_append a1 a2]

theorem effs_outs_append (l : MStream) (as : List Act) (b : BufF) : effs (outs l ++ as) b = effs as b := by
  induction l with
  | nil => rfl
  | cons x l ih => simpa [outs, effs] using ih

theorem effs_outs (l : MStream) (b : BufF) : effs (outs l) b = b := by
  have := effs_outs_append l [] b
  simpa [effs] using this

theorem outsOf_outs : ∀ l : MStream, outsOf (outs l) = l
  | [] => rfl
  | x :: l => by simp only [outs, List.map_cons, outsOf]; rw [← outs, outsOf_outs l]

/-- the empty pipeline: the effects happen, the items are the output -/
theorem execActs_nil_ops (F : Nat) : ∀ (a : List Act) (b : BufF), injFree a = true →
    execActs F (pushItem F []) a [] b = .ok ([], effs a b, outsOf a)
  | [], b, _ => rfl
  | x :: as, b, h => by
    cases x with
    | inj c => simp [injFree] at h
    | out x =>
      have ih := execActs_nil_ops F as b (by simpa [injFree] using h)
      show seqR (pushItem F [] [] b x) (execActs F (pushItem F []) as) = _
      have h1 : pushItem F [] [] b x = .ok ([], b, [x]) := rfl
      rw [h1]
      simp only [seqR, ih, effs, outsOf, List.singleton_append]
    | reset id =>
      have ih := execActs_nil_ops F as (b.set id []) (by simpa [injFree] using h)
      simp only [execActs, ih, effs, outsOf]
    | app id x =>
      have ih := execActs_nil_ops F as (b.set id (b id ++ [x])) (by simpa [injFree] using h)
      simp only [execActs, ih, effs, outsOf]

/-- a buffer effect (`reset` / `append`): it passes through a link in place, and everything that
    reads an action list just applies it to the buffers (`effs [a] b`) and goes on -/
def Act.IsEff : Act → Prop
  | .reset _ | .app _ _ => True
  | _ => False

theorem injFree_eff {a : Act} (h : a.IsEff) (as : List Act) : injFree (a :: as) = injFree as := by
  cases a <;> first | rfl | exact h.elim

theorem outsOf_eff {a : Act} (h : a.IsEff) (as : List Act) : outsOf (a :: as) = outsOf as := by
  cases a <;> first | rfl | exact h.elim

theorem resolve_eff {a : Act} (h : a.IsEff) (b : BufF) (as : List Act) :
    resolve b (a :: as) = a :: resolve (effs [a] b) as := by
  cases a <;> first | rfl | exact h.elim

theorem execActs_eff {a : Act} (h : a.IsEff) (F : Nat) (push : List Ctl → BufF → MItem → R) (as : List Act)
    (cs : List Ctl) (b : BufF) : execActs F push (a :: as) cs b = execActs F push as cs (effs [a] b) := by
  cases a <;> first | rfl | exact h.elim

theorem rd_eff {a : Act} (h : a.IsEff) : a.rd = [] := by
  cases a <;> first | rfl | exact h.elim

theorem effs_one_out (a : Act) (b : BufF) {i : Nat} (hi : i ∉ a.wr) : effs [a] b i = b i :=
  effs_out (w := a.wr) (r := a.rd) (fun x hx => by rw [List.mem_singleton.mp hx]; exact ⟨fun _ h => h, fun _ h => h⟩) i hi

/-- What `linkU` does on a list without injections, as a relation: the link ends (`finOp`), an
    effect passes in place, an item is answered by `stepOp`.  A property of a link over an action
    list is an induction over this. -/
inductive LinkRun (op : Op) : Ctl → List Act → List Act → Prop
  | fin {c u} : finOp op c = some u → LinkRun op c [] u
  | eff {c a as u} : a.IsEff → LinkRun op c as u → LinkRun op c (a :: as) (a :: u)
  | out {c c' x a1 as u} : stepOp op c x = some (c', a1) → LinkRun op c' as u →
      LinkRun op c (.out x :: as) (a1 ++ u)

theorem linkU_run {op : Op} : ∀ {a : List Act} {c : Ctl} {u : List Act}, injFree a = true →
    linkU op c a = some u → LinkRun op c a u
  | [], _, _, _, h => .fin h
  | .inj _ :: _, _, _, hf, _ => nomatch hf
  | .reset id :: as, c, u, hf, h => by
    obtain ⟨u', hu, rfl⟩ := Option.map_eq_some_iff.mp h
    exact .eff trivial (linkU_run (a := as) hf hu)
  | .app id x :: as, c, u, hf, h => by
    obtain ⟨u', hu, rfl⟩ := Option.map_eq_some_iff.mp h
    exact .eff trivial (linkU_run (a := as) hf hu)
  | .out x :: as, c, u, hf, h => by
    simp only [linkU] at h
    cases hs : stepOp op c x with
    | none => simp [hs] at h
    | some r =>
      obtain ⟨c', a1⟩ := r
      simp only [hs, Option.map_eq_some_iff] at h
      obtain ⟨a2, h2, rfl⟩ := h
      exact .out hs (linkU_run (a := as) hf h2)

/-- the injections of the link read what the operation reads -/
theorem LinkRun.rd {op : Op} {c : Ctl} {a u : List Act} (h : LinkRun op c a u) :
    ∀ x ∈ u, ∀ i ∈ x.rd, i ∈ rdOp op := by
  induction h with
  | fin h => exact fun x hx => (finOp_fp op _ _ h x hx).2
  | eff he _ ih =>
    intro x hx i hi
    rcases List.mem_cons.mp hx with rfl | hx
    · rw [rd_eff he] at hi; cases hi
    · exact ih x hx i hi
  | out hs _ ih =>
    intro x hx
    rcases List.mem_append.mp hx with hx | hx
    · exact (stepOp_fp op _ _ _ _ hs x hx).2
    · exact ih x hx

/-- the writes passing through a link are those of its input plus its own -/
theorem LinkRun.wr {op : Op} {c : Ctl} {a u : List Act} (h : LinkRun op c a u) (w : List Nat)
    (hw : ∀ x ∈ a, ∀ i ∈ x.wr, i ∈ w) : ∀ x ∈ u, ∀ i ∈ x.wr, i ∈ wrOp op ++ w := by
  induction h with
  | fin h => exact fun x hx i hi => List.mem_append_left _ ((finOp_fp op _ _ h x hx).1 i hi)
  | eff _ _ ih =>
    intro x hx i hi
    rcases List.mem_cons.mp hx with rfl | hx
    · exact List.mem_append_right _ (hw _ (List.mem_cons_self ..) i hi)
    · exact ih (fun z hz => hw z (List.mem_cons_of_mem _ hz)) x hx i hi
  | out hs _ ih =>
    intro x hx i hi
    rcases List.mem_append.mp hx with hx | hx
    · exact List.mem_append_left _ ((stepOp_fp op _ _ _ _ hs x hx).1 i hi)
    · exact ih (fun z hz => hw z (List.mem_cons_of_mem _ hz)) x hx i hi

/-- the pipeline with the link in front, fed `a` = the pipeline without it, fed `u` -/
theorem LinkRun.fuse (F : Nat) {op : Op} (ops : List Op) {c : Ctl} {a u : List Act} (h : LinkRun op c a u) :
    ∀ cs b, seqF (execActs F (pushItem F (op :: ops)) a (c :: cs) b) (finish F (op :: ops)) =
      seqF (execActs F (pushItem F ops) u cs b) (finish F ops) := by
  induction h with
  | fin h => intro cs b; simp only [execActs]; rw [seqF_ok_nil, finish_cons, h]
  | eff he _ ih => intro cs b; rw [execActs_eff he, execActs_eff he]; exact ih cs _
  | out hs _ ih =>
    intro cs b
    simp only [execActs]
    rw [seqF_seqR, execActs_append, seqF_seqR]
    simp only [pushItem, hs]
    cases execActs F (pushItem F ops) _ cs b with
    | err => rfl
    | div => rfl
    | ok r1 =>
      obtain ⟨cs1, b1, o1⟩ := r1
      simp only []
      rw [seqF_ok, seqF_ok, ih cs1 b1]

/-- … and when the link raises, the pipeline delivers nothing (it raises too, unless a link behind has
    run out of fuel before) -/
theorem fuse_none (F : Nat) (op : Op) (ops : List Op) : ∀ (a : List Act) (c : Ctl) (cs : List Ctl) (b : BufF),
    injFree a = true → linkU op c a = none →
    (seqF (execActs F (pushItem F (op :: ops)) a (c :: cs) b) (finish F (op :: ops))).toOption = none
  | [], c, cs, b, _, h => by
    simp only [linkU] at h
    simp only [execActs]
    rw [seqF_ok_nil, finish_cons, h]
    rfl
  | .inj _ :: _, _, _, _, hf, _ => nomatch hf
  | .reset id :: as, c, cs, b, hf, h => fuse_none F op ops as c cs _ hf (Option.map_eq_none_iff.mp h)
  | .app id y :: as, c, cs, b, hf, h => fuse_none F op ops as c cs _ hf (Option.map_eq_none_iff.mp h)
  | .out y :: as, c, cs, b, hf, h => by
    simp only [linkU] at h
    simp only [execActs]
    rw [seqF_seqR]
    cases hs : stepOp op c y with
    | none => simp [pushItem, hs, seqF, Out.toOption]
    | some r =>
      obtain ⟨c', a1⟩ := r
      simp only [hs, Option.map_eq_none_iff] at h
      simp only [pushItem, hs]
      cases execActs F (pushItem F ops) a1 cs b with
      | err => rfl
      | div => rfl
      | ok r1 =>
        obtain ⟨cs1, b1, o1⟩ := r1
        have := fuse_none F op ops as c' cs1 b1 hf h
        simp only []
        rw [seqF_ok, Out.toOption_map, this]
        rfl

end Genshi.Tf
