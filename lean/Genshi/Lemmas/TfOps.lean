/-
  What an operation owes the next link of a chain (`GoodLike t s`: the output is `Good` and balanced
  like the input), and the operations that are one pass over the items: those that change ENTER … EXIT
  brackets only (`ElemOp`: unwrap, empty, prepend, append, rename), the per-item maps that keep mark
  and stack effect (`EffPres`: attr, map, substitute), remove, copy, invert and end.
-/
import Genshi.Lemmas.TfSelect
namespace Genshi.Tf

/-- no ENTER / EXIT marks (the interior of a bracket) -/
def Inner (l : MStream) : Prop := ∀ p ∈ l, p.1 ≠ some .enter ∧ p.1 ≠ some .exit

theorem Inner.tail {p : MItem} {l : MStream} (h : Inner (p :: l)) : Inner l :=
  fun q hq => h q (by simp [hq])

/-- an operation that hands on, one at a time, the items without ENTER / EXIT mark hands on every
    prefix free of such marks -/
theorem inner_append {f : MStream → MStream}
    (hstep : ∀ p s, p.1 ≠ some .enter → p.1 ≠ some .exit → f (p :: s) = p :: f s)
    {l : MStream} (h : Inner l) (s : MStream) : f (l ++ s) = l ++ f s := by
  induction l with
  | nil => rfl
  | cons p l ih =>
    have hp := h p List.mem_cons_self
    rw [List.cons_append, hstep p _ hp.1 hp.2, ih h.tail, List.cons_append]

theorem Inner.append {a b : MStream} (ha : Inner a) (hb : Inner b) : Inner (a ++ b) := by
  intro p hp
  rcases List.mem_append.mp hp with h | h
  · exact ha p h
  · exact hb p h

theorem Inner.ofUniform {m : Mark} {blk : MStream} (hne : m ≠ .enter) (hnx : m ≠ .exit)
    (hu : Uniform m blk) : Inner blk := by
  intro p hp
  rw [hu p hp]
  exact ⟨fun h => hne (by injection h), fun h => hnx (by injection h)⟩

theorem Inner.ofNone {l : MStream} (h : NoneMarked l) : Inner l := by
  intro p hp; rw [h p hp]; simp

theorem Flat.inner {l : MStream} (h : Flat l) : Inner l := by
  induction h with
  | nil => intro p hp; simp at hp
  | plain x _ ih =>
    intro p hp
    rcases List.mem_cons.mp hp with rfl | hp
    · simp
    · exact ih p hp
  | block m blk hne hnx hu _ _ ih => exact (Inner.ofUniform hne hnx hu).append ih

theorem Inner.noExit {l : MStream} (h : Inner l) : NoExit l := fun p hp => (h p hp).2

theorem Flat.noExit {l : MStream} (h : Flat l) : NoExit l := h.inner.noExit

theorem Flat.append {a b : MStream} (ha : Flat a) (hb : Flat b) : Flat (a ++ b) := by
  induction ha with
  | nil => exact hb
  | plain x _ ih => exact Flat.plain x ih
  | block m blk hne hnx hu hbal _ ih =>
    rw [List.append_assoc]; exact Flat.block m blk hne hnx hu hbal ih

theorem Flat.good_append {a s : MStream} (ha : Flat a) (hs : Good s) : Good (a ++ s) := by
  induction ha with
  | nil => exact hs
  | plain x _ ih => exact Good.plain x ih
  | block m blk hne hnx hu hbal _ ih =>
    rw [List.append_assoc]; exact Good.block m blk hne hnx hu hbal ih

theorem Good.append_plain {l s : MStream} (hl : NoneMarked l) (hs : Good s) : Good (l ++ s) :=
  (Flat.ofNone hl).good_append hs

theorem Flat.append_plain {l s : MStream} (hl : NoneMarked l) (hs : Flat s) : Flat (l ++ s) :=
  (Flat.ofNone hl).append hs

theorem inj_noneMarked (c : List MEv) : NoneMarked (inj c) := by
  intro p hp; simp [inj] at hp; obtain ⟨_, _, rfl⟩ := hp; rfl

/-- a piece of marked stream that may stand where a balanced selection stood: balanced, and `Good`
    in front of every `Good` stream -/
structure GoodPiece (l : MStream) : Prop where
  bal : Bal (unmark l)
  good : ∀ {s : MStream}, Good s → Good (l ++ s)

theorem GoodPiece.flat {l : MStream} (hf : Flat l) (hb : Bal (unmark l)) : GoodPiece l :=
  ⟨hb, fun hs => hf.good_append hs⟩

theorem GoodPiece.elem (t : QName) (a : AttrList) {mid : MStream} (hf : Flat mid) (hb : Bal (unmark mid)) :
    GoodPiece ((some .enter, .ev (.start t a)) :: (mid ++ [(some .exit, .ev (.end_ t))])) :=
  ⟨by rw [unmark_elem']; exact bal_elem t a hb, fun hs => by simpa using Good.elem t a mid hf hb hs⟩

/-- `t` is `Good` and balanced like `s`: what an operation owes the next link of a chain -/
structure GoodLike (t s : MStream) : Prop where
  bal : ∀ st, balance st (unmark t) = balance st (unmark s)
  good : Good t

theorem GoodLike.wn {t s : MStream} (h : GoodLike t s) (hs : WellNested (unmark s)) :
    WellNested (unmark t) ∧ Good t := ⟨wn_of_balance h.bal hs, h.good⟩

theorem GoodPiece.nil : GoodPiece [] := ⟨Bal.nil, fun hs => hs⟩

theorem GoodPiece.block {m : Mark} (hne : m ≠ .enter) (hnx : m ≠ .exit) {blk : MStream} (hu : Uniform m blk)
    (hb : Bal (unmark blk)) : GoodPiece blk := ⟨hb, fun hs => Good.block m blk hne hnx hu hb hs⟩

/-- a piece kept or dropped (replace drops the selection, before / after / wrap keep it) is a piece -/
theorem GoodPiece.K (keep : Bool) {l : MStream} (h : GoodPiece l) : GoodPiece (K keep l) := by
  cases keep
  · exact .nil
  · exact h

theorem GoodLike.nil : GoodLike [] [] := ⟨fun _ => rfl, Good.nil⟩

theorem GoodLike.plain {x' x : MEv} (he : eff x' = eff x) {t s : MStream} (h : GoodLike t s) :
    GoodLike ((none, x') :: t) ((none, x) :: s) :=
  ⟨balance_cons_eff he h.bal, Good.plain x' h.good⟩

/-- a balanced piece `l'` of the stream replaced by a `GoodPiece` -/
theorem GoodLike.piece {l l' t s : MStream} (hl : GoodPiece l) (hl' : Bal (unmark l')) (h : GoodLike t s) :
    GoodLike (l ++ t) (l' ++ s) :=
  ⟨balance_piece hl.bal hl' h.bal, hl.good h.good⟩

/-- … the piece being an ENTER … EXIT bracket -/
theorem GoodLike.elem {l t' s : MStream} (hl : GoodPiece l) (t : QName) (a : AttrList) {mid : MStream}
    (hb : Bal (unmark mid)) (h : GoodLike t' s) :
    GoodLike (l ++ t') ((some .enter, .ev (.start t a)) :: (mid ++ (some .exit, .ev (.end_ t)) :: s)) :=
  ⟨fun st => by rw [unmark_append, balance_bal st hl.bal, h.bal st, unmark_elem, balance_bal st (bal_elem t a hb)],
   hl.good h.good⟩

/-- An operation that hands on everything but ENTER … EXIT brackets and turns a bracket into
    `g c e mid x`; `c` is what it carries from one bracket to the next (`nx`).  What such an
    operation does to a `Good` stream (`ElemOp.good`) and to a stream cut into segments
    (`ElemOp.segs`) follows from these three equations alone. -/
structure ElemOp {σ : Type} (f : σ → MStream → MStream) (g : σ → MEv → MStream → MEv → MStream)
    (nx : σ → σ) : Prop where
  nil : ∀ c, f c [] = []
  inner : ∀ c l s, Inner l → f c (l ++ s) = l ++ f c s
  elem : ∀ c e mid x s, Inner mid →
    f c ((some .enter, e) :: (mid ++ (some .exit, x) :: s)) = g c e mid x ++ f (nx c) s

theorem ElemOp.inner_id {σ : Type} {f : σ → MStream → MStream} {g : σ → MEv → MStream → MEv → MStream}
    {nx : σ → σ} (h : ElemOp f g nx) (c : σ) {l : MStream} (hl : Inner l) : f c l = l := by
  have := h.inner c l [] hl
  rwa [h.nil, List.append_nil] at this

/-- a per-item map that changes ENTER / EXIT items only -/
theorem map_elemOp {σ : Type} (g : σ → MItem → MItem)
    (hg : ∀ c p, p.1 ≠ some .enter → p.1 ≠ some .exit → g c p = p) :
    ElemOp (fun c s => s.map (g c)) (fun c e mid x => g c (some .enter, e) :: (mid ++ [g c (some .exit, x)])) id := by
  have inner : ∀ c {l : MStream}, Inner l → l.map (g c) = l := fun c l h =>
    (List.map_congr_left fun p hp => hg c p (h p hp).1 (h p hp).2).trans (List.map_id l)
  exact ⟨fun _ => rfl, fun c l s h => by rw [List.map_append, inner c h],
    fun c e mid x s h => by simp [inner c h]⟩

theorem ElemOp.good {σ : Type} {f : σ → MStream → MStream} {g : σ → MEv → MStream → MEv → MStream}
    {nx : σ → σ} (h : ElemOp f g nx) (P : σ → Prop) (hnx : ∀ c, P c → P (nx c))
    (hg : ∀ c t a mid, P c → Flat mid → Bal (unmark mid) →
      GoodPiece (g c (.ev (.start t a)) mid (.ev (.end_ t)))) {s : MStream} (hs : Good s) :
    ∀ c, P c → GoodLike (f c s) s := by
  induction hs with
  | nil => intro c _; rw [h.nil]; exact .nil
  | @plain x s' _ ih =>
    intro c hc
    have hi : Inner [((none : Option Mark), x)] := fun p hp => by
      rw [List.mem_singleton.mp hp]; exact ⟨nofun, nofun⟩
    have := h.inner c _ s' hi
    rw [List.singleton_append] at this
    rw [this]
    exact (ih c hc).plain rfl
  | @block m blk s' hne hnx' hu hb _ ih =>
    intro c hc
    rw [h.inner c blk s' (Inner.ofUniform hne hnx' hu)]
    exact .piece (.block hne hnx' hu hb) hb (ih c hc)
  | @elem t a mid s' hf hb _ ih =>
    intro c hc
    rw [h.elem c _ mid _ s' hf.inner]
    exact .elem (hg c t a mid hc hf hb) t a hb (ih _ (hnx c hc))

theorem unwrap_inner {l : MStream} (h : Inner l) : unwrap l = l := by
  unfold unwrap
  rw [List.filter_eq_self]
  intro p hp
  obtain ⟨h1, h2⟩ := h p hp
  obtain ⟨m, x⟩ := p
  simp at h1 h2 ⊢
  exact ⟨h1, h2⟩

theorem unwrap_append (a b : MStream) : unwrap (a ++ b) = unwrap a ++ unwrap b := by
  simp [unwrap]

theorem unwrap_elem (e x : MEv) (mid s : MStream) (h : Inner mid) :
    unwrap ((some .enter, e) :: (mid ++ (some .exit, x) :: s)) = mid ++ unwrap s := by
  have : unwrap ((some Mark.enter, e) :: (mid ++ (some Mark.exit, x) :: s)) =
      unwrap (mid ++ (some Mark.exit, x) :: s) := by simp [unwrap]
  rw [this, unwrap_append, unwrap_inner h]
  simp [unwrap]

theorem unwrap_elemOp : ElemOp (fun (_ : Unit) => unwrap) (fun _ _ mid _ => mid) id :=
  ⟨fun _ => rfl, fun _ l s h => by rw [unwrap_append, unwrap_inner h],
   fun _ e mid x s h => unwrap_elem e x mid s h⟩

theorem unwrap_goodLike {s : MStream} (hg : Good s) : GoodLike (unwrap s) s :=
  unwrap_elemOp.good (fun _ => True) (fun _ h => h) (fun _ _ _ _ _ hf hb => .flat hf hb) hg () trivial

theorem emptyGo_inner (l s : MStream) (h : Inner l) :
    emptyGo false (l ++ s) = l ++ emptyGo false s :=
  inner_append (fun ⟨m, x⟩ s h1 _ => by simp [emptyGo, show m ≠ some .enter from h1]) h s

theorem emptyGo_skip (l : MStream) (x : MEv) (s : MStream) (h : Inner l) :
    emptyGo true (l ++ (some .exit, x) :: s) = (some .exit, x) :: emptyGo false s := by
  induction l with
  | nil => simp [emptyGo]
  | cons p l ih =>
    obtain ⟨m, y⟩ := p
    have h1 : m ≠ some .exit := (h (m, y) (by simp)).2
    simp [emptyGo, h1, ih h.tail]

theorem empty_elem (e x : MEv) (mid s : MStream) (h : Inner mid) :
    emptyGo false ((some .enter, e) :: (mid ++ (some .exit, x) :: s)) =
      (some .enter, e) :: ([] ++ (some .exit, x) :: emptyGo false s) := by
  simp [emptyGo, emptyGo_skip mid x s h]

theorem empty_elemOp : ElemOp (fun (_ : Unit) => empty) (fun _ e _ x => [(some .enter, e), (some .exit, x)]) id :=
  ⟨fun _ => rfl, fun _ l s h => emptyGo_inner l s h, fun _ e mid x s h => empty_elem e x mid s h⟩

theorem empty_goodLike {s : MStream} (hg : Good s) : GoodLike (empty s) s :=
  empty_elemOp.good (fun _ => True) (fun _ h => h) (fun _ t a _ _ _ _ => .elem t a Flat.nil Bal.nil) hg () trivial

theorem prepend_inner (c : List MEv) (l s : MStream) (h : Inner l) :
    prepend c (l ++ s) = l ++ prepend c s :=
  inner_append (fun ⟨m, x⟩ s h1 _ => by simp [prepend, show m ≠ some .enter from h1]) h s

theorem prepend_elem (c : List MEv) (e x : MEv) (mid s : MStream) (h : Inner mid) :
    prepend c ((some .enter, e) :: (mid ++ (some .exit, x) :: s)) =
      (some .enter, e) :: ((inj c ++ mid) ++ (some .exit, x) :: prepend c s) := by
  simp [prepend, prepend_inner c mid _ h]

theorem prepend_elemOp : ElemOp prepend
    (fun c e mid x => (some .enter, e) :: ((inj c ++ mid) ++ [(some .exit, x)])) id :=
  ⟨fun _ => rfl, prepend_inner, fun c e mid x s h => by rw [prepend_elem c e x mid s h]; simp⟩

theorem prepend_goodLike (c : List MEv) (hc : Bal (evsOf c)) {s : MStream} (hg : Good s) :
    GoodLike (prepend c s) s :=
  prepend_elemOp.good (fun c => Bal (evsOf c)) (fun _ h => h)
    (fun c t a mid hc hf hb => .elem t a (Flat.append_plain (inj_noneMarked c) hf)
      (by rw [unmark_append, unmark_inj]; exact hc.append hb)) hg c hc

theorem appendGo_inner (c : List MEv) (l s : MStream) (h : Inner l) :
    appendGo c none (l ++ s) = l ++ appendGo c none s :=
  inner_append (fun ⟨m, x⟩ s h1 _ => by simp [appendGo, show m ≠ some .enter from h1]) h s

theorem appendGo_mid (c : List MEv) (last : MItem) (l : MStream) (x : MEv) (s : MStream) (h : Inner l) :
    appendGo c (some last) (l ++ (some .exit, x) :: s) =
      l ++ (inj c ++ (some .exit, x) :: appendGo c none s) := by
  induction l generalizing last with
  | nil => simp [appendGo]
  | cons p l ih =>
    obtain ⟨m, y⟩ := p
    have h1 : m ≠ some .exit := (h (m, y) (by simp)).2
    simp [appendGo, h1, ih _ h.tail]

theorem append_elem (c : List MEv) (e x : MEv) (mid s : MStream) (h : Inner mid) :
    appendGo c none ((some .enter, e) :: (mid ++ (some .exit, x) :: s)) =
      (some .enter, e) :: ((mid ++ inj c) ++ (some .exit, x) :: appendGo c none s) := by
  simp [appendGo, appendGo_mid c _ mid x s h]

theorem append_elemOp : ElemOp append
    (fun c e mid x => (some .enter, e) :: ((mid ++ inj c) ++ [(some .exit, x)])) id :=
  ⟨fun _ => rfl, fun c l s h => appendGo_inner c l s h,
   fun c e mid x s h => (append_elem c e x mid s h).trans (by simp; rfl)⟩

theorem append_goodLike (c : List MEv) (hc : Bal (evsOf c)) {s : MStream} (hg : Good s) :
    GoodLike (append c s) s :=
  append_elemOp.good (fun c => Bal (evsOf c)) (fun _ h => h)
    (fun c t a mid hc hf hb => .elem t a (hf.append (Flat.ofNone (inj_noneMarked c)))
      (by rw [unmark_append, unmark_inj]; exact hb.append hc)) hg c hc

/-- a per-item map that keeps the mark and the stack effect -/
def EffPres (f : MItem → MItem) : Prop := ∀ p, (f p).1 = p.1 ∧ eff (f p).2 = eff p.2

theorem map_balance {f : MItem → MItem} (hf : EffPres f) (s : MStream) :
    ∀ st, balance st (unmark (s.map f)) = balance st (unmark s) := by
  induction s with
  | nil => intro st; rfl
  | cons p s ih => exact balance_cons_eff (hf p).2 ih

theorem map_uniform {f : MItem → MItem} (hf : EffPres f) {m : Mark} {blk : MStream}
    (hu : Uniform m blk) : Uniform m (blk.map f) := by
  intro p hp
  obtain ⟨q, hq, rfl⟩ := List.mem_map.mp hp
  rw [(hf q).1]; exact hu q hq

theorem map_bal {f : MItem → MItem} (hf : EffPres f) {l : MStream} (h : Bal (unmark l)) :
    Bal (unmark (l.map f)) := by
  unfold Bal; rw [map_balance hf l []]; exact h

theorem map_flat {f : MItem → MItem} (hf : EffPres f) {l : MStream} (h : Flat l) : Flat (l.map f) := by
  induction h with
  | nil => exact Flat.nil
  | @plain x s' _ ih =>
    have h := hf (none, x)
    rw [List.map_cons, show f (none, x) = ((f (none, x)).1, (f (none, x)).2) from rfl, h.1]
    exact Flat.plain _ ih
  | @block m blk s' hne hnx hu hb _ ih =>
    rw [List.map_append]
    exact Flat.block m _ hne hnx (map_uniform hf hu) (map_bal hf hb) ih

/-- an effect-preserving map sends a START event to a START event with the same mark and tag
    (`effPres_end`: an END event to itself) -/
theorem effPres_start {f : MItem → MItem} (hf : EffPres f) (m : Option Mark) (t : QName) (a : AttrList) :
    ∃ a', f (m, .ev (.start t a)) = (m, .ev (.start t a')) := by
  obtain ⟨h1, h2⟩ := hf (m, .ev (.start t a))
  obtain ⟨a', ha'⟩ := eff_eq_start h2
  exact ⟨a', Prod.ext h1 ha'⟩

theorem effPres_end {f : MItem → MItem} (hf : EffPres f) (m : Option Mark) (t : QName) :
    f (m, .ev (.end_ t)) = (m, .ev (.end_ t)) :=
  Prod.ext (hf _).1 (eff_eq_end (hf (m, .ev (.end_ t))).2)

theorem map_wn {f : MItem → MItem} (hf : EffPres f) {s : MStream} (h : WellNested (unmark s)) :
    WellNested (unmark (s.map f)) := wn_of_balance (map_balance hf s) h

theorem map_good {f : MItem → MItem} (hf : EffPres f) {s : MStream} (h : Good s) : Good (s.map f) := by
  induction h with
  | nil => exact Good.nil
  | @plain x s' _ ih =>
    have h := hf (none, x)
    rw [List.map_cons, show f (none, x) = ((f (none, x)).1, (f (none, x)).2) from rfl, h.1]
    exact Good.plain _ ih
  | @block m blk s' hne hnx hu hb _ ih =>
    rw [List.map_append]
    exact Good.block m _ hne hnx (map_uniform hf hu) (map_bal hf hb) ih
  | @elem t a mid s' hfl hb _ ih =>
    obtain ⟨a', ha'⟩ := effPres_start hf (some .enter) t a
    rw [List.map_cons, List.map_append, List.map_cons, ha', effPres_end hf]
    exact Good.elem t a' _ (map_flat hf hfl) (map_bal hf hb) ih

theorem map_goodLike {f : MItem → MItem} (hf : EffPres f) {s : MStream} (h : Good s) : GoodLike (s.map f) s :=
  ⟨map_balance hf s, map_good hf h⟩

theorem attrFnEv_effPres (n : QName) (f : QName → AttrList → Option Str) : EffPres (attrFnEv n f) := by
  intro p
  fun_cases attrFnEv n f p <;> exact ⟨rfl, rfl⟩

theorem attrEv_effPres (n : QName) (v : Option Str) : EffPres (attrEv n v) :=
  attrFnEv_const n v ▸ attrFnEv_effPres n _

theorem mapBangEv_effPres (all : Bool) : EffPres (mapBangEv all) := by
  intro p
  fun_cases mapBangEv all p <;> exact ⟨rfl, rfl⟩

theorem mapTextEv_effPres (f : Str → Bool → Str × Bool) : EffPres (mapTextEv f) := by
  intro p
  fun_cases mapTextEv f p <;> exact ⟨rfl, rfl⟩

theorem substEv_effPres (pat rep : Str) (count : Nat) : EffPres (substEv pat rep count) := by
  intro p
  fun_cases substEv pat rep count p <;> exact ⟨rfl, rfl⟩

theorem renameEv_inner (n : QName) {p : MItem} (h1 : p.1 ≠ some .enter) (h2 : p.1 ≠ some .exit) :
    renameEv n p = p := by
  obtain ⟨m, x⟩ := p
  rcases m with _ | m
  · rfl
  · cases m <;> first | rfl | exact absurd rfl h1 | exact absurd rfl h2

theorem rename_elemOp : ElemOp rename
    (fun n e mid x => renameEv n (some .enter, e) :: (mid ++ [renameEv n (some .exit, x)])) id :=
  map_elemOp renameEv fun n _ => renameEv_inner n

theorem rename_inner (n : QName) {l : MStream} (h : Inner l) : rename n l = l := rename_elemOp.inner_id n h

theorem rename_goodLike (n : QName) {s : MStream} (hg : Good s) : GoodLike (rename n s) s :=
  rename_elemOp.good (fun _ => True) (fun _ h => h) (fun n _ a _ _ hf hb => .elem n a hf hb) hg n trivial

/-- whatever the input, what `remove` leaves is unmarked -/
theorem removeGo_noneMarked (names : List QName) (s : MStream) : NoneMarked (removeGo names s) := by
  induction s generalizing names with
  | nil => intro p hp; simp [removeGo] at hp
  | cons q s ih =>
    obtain ⟨m, x⟩ := q
    rcases m with _ | m
    · simp only [removeGo]
      split
      · intro p hp
        rcases List.mem_cons.mp hp with rfl | hp
        · rfl
        · exact ih [] p hp
      · intro p hp
        rcases List.mem_cons.mp hp with rfl | hp
        · rfl
        · exact ih names p hp
    · cases m <;> simp only [removeGo] <;> exact ih _

theorem remove_good (s : MStream) : Good (remove s) := by
  have := Good.append_plain (removeGo_noneMarked [] s) Good.nil
  simpa [remove] using this

theorem removeGo_block {m : Mark} {blk : MStream} (hu : Uniform m blk) (names : List QName) (r : MStream) :
    ∃ names', removeGo names (blk ++ r) = removeGo names' r := by
  induction blk generalizing names with
  | nil => exact ⟨names, rfl⟩
  | cons p blk ih =>
    obtain ⟨x, rfl, hu'⟩ := hu.cons_inv
    cases m <;> simp only [List.cons_append, removeGo] <;> exact ih hu' _

theorem eff_stripAttrs (names : List QName) (x : MEv) : eff (stripAttrs names x) = eff x := by
  cases x with
  | ev e => cases e <;> rfl
  | _ => rfl

/-- an unmarked item stays, a START without the attributes selected in front of it -/
theorem removeGo_plain (names : List QName) (x : MEv) {l R : MStream}
    (h : ∀ names, GoodLike (removeGo names l) R) :
    GoodLike (removeGo names ((none, x) :: l)) ((none, x) :: R) := by
  simp only [removeGo]
  split
  · exact (h _).plain (eff_stripAttrs names x)
  · exact (h _).plain rfl

theorem removeGo_blk {m : Mark} {blk : MStream} (hu : Uniform m blk) (hb : Bal (unmark blk)) {l R : MStream}
    (h : ∀ names, GoodLike (removeGo names l) R) (names : List QName) :
    GoodLike (removeGo names (blk ++ l)) (blk ++ R) := by
  obtain ⟨names', e⟩ := removeGo_block hu names l
  rw [e]
  exact .piece (l := []) .nil hb (h names')

theorem removeGo_flat {mid : MStream} (hf : Flat mid) {rest R : MStream}
    (hr : ∀ names, GoodLike (removeGo names rest) R) :
    ∀ names, GoodLike (removeGo names (mid ++ rest)) (mid ++ R) := by
  induction hf with
  | nil => exact hr
  | @plain x s' _ ih => exact fun names => removeGo_plain names x ih
  | @block m blk s' hne hnx hu hb _ ih =>
    intro names
    rw [List.append_assoc, List.append_assoc]
    exact removeGo_blk hu hb ih names

theorem remove_goodLike {s : MStream} (hg : Good s) : ∀ names, GoodLike (removeGo names s) s := by
  induction hg with
  | nil => exact fun _ => .nil
  | @plain x s' _ ih => exact fun names => removeGo_plain names x ih
  | @block m blk s' hne hnx hu hb _ ih => exact removeGo_blk hu hb ih
  | @elem t a mid s' hf hb _ ih =>
    intro names
    -- the ENTER and EXIT events go; what stays of the interior is balanced like it
    have h := removeGo_flat hf (rest := (some .exit, .ev (.end_ t)) :: s') (R := s')
      (fun names => by simp only [removeGo]; exact ih names) names
    simp only [removeGo]
    exact ⟨fun st => by
      rw [h.bal, unmark_append, balance_bal st hb, unmark_elem, balance_bal st (bal_elem t a hb)], h.good⟩

theorem copyGo_pushback (m0 : Mark) {m : Option Mark} (hm : m ≠ some m0) (x : MEv) (s pend : MStream) :
    copyGo (.inRun m0) pend ((m, x) :: s) = pend ++ copyGo .idle [] ((m, x) :: s) := by
  cases m <;> simp only [copyGo, hm, ↓reduceIte]

theorem copyGo_spec (s : MStream) :
    copyGo .idle [] s = s ∧ (∀ pend, copyGo .inEnter pend s = pend ++ s) ∧
    (∀ m pend, copyGo (.inRun m) pend s = pend ++ s) := by
  induction s with
  | nil => simp [copyGo]
  | cons p s ih =>
    obtain ⟨m, x⟩ := p
    obtain ⟨h0, h1, h2⟩ := ih
    have hidle : copyGo .idle [] ((m, x) :: s) = (m, x) :: s := by
      rcases m with _ | m
      · simp [copyGo, h0]
      · simp only [copyGo, startSt]
        split
        · rw [h1]; rfl
        · rw [h2]; rfl
    refine ⟨hidle, ?_, ?_⟩
    · intro pend
      simp only [copyGo]
      split
      · simp [h0]
      · rw [h1]; simp
    · intro m0 pend
      by_cases hm : m = some m0
      · simp [copyGo, hm, h2]
      · rw [copyGo_pushback m0 hm, hidle]

theorem copy_id (s : MStream) : copy s = s := (copyGo_spec s).1

theorem unmark_invert (s : MStream) : unmark (invert s) = unmark s := by
  unfold invert
  exact unmark_map_mark (fun p => if p.1.isSome then none else some Mark.outside) s

theorem unmark_endSel (s : MStream) : unmark (endSel s) = unmark s := by
  unfold endSel
  exact unmark_map_mark (fun _ => some Mark.outside) s

theorem endSel_good {s : MStream} (h : WellNested (unmark s)) : Good (endSel s) := by
  have := Good.block .outside (endSel s) (by decide) (by decide)
    (by intro p hp; simp [endSel] at hp; obtain ⟨_, _, _, rfl⟩ := hp; rfl)
    (by rw [unmark_endSel]; exact h) Good.nil
  simpa using this

theorem markAll_good {s : Stream} (h : WellNested s) : Good (markAll s) := by
  have := Good.block .outside (markAll s) (by decide) (by decide)
    (by intro p hp; simp [markAll] at hp; obtain ⟨_, _, rfl⟩ := hp; rfl)
    (by rw [unmark_markAll]; exact h) Good.nil
  simpa using this

end Genshi.Tf
