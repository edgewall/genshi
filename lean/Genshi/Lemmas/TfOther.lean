/-
  C20 re-uses the theorems of the owners of the other built-in stream filters for "maps a
  well-nested stream to a well-nested stream".  Here the translation filter (C19, `trList_nodes`:
  the pass is a tree homomorphism on the flattening of a forest); the sanitizer's theorem (C06,
  `wellNested_sanitize`, `Lemmas/SanTree.lean`) is used by `Props/C20.lean` as it stands.
-/
import Genshi.Lemmas.Core
import Genshi.Lemmas.I18nTree
namespace Genshi.I18n
open Genshi

/-- the START / END skeleton of a translator stream (its nesting) -/
def tTags : TStream → Stream
  | [] => []
  | .start t _ :: s => .start t [] :: tTags s
  | .end_ t :: s => .end_ t :: tTags s
  | _ :: s => tTags s

theorem tTags_append : ∀ (a b : TStream), tTags (a ++ b) = tTags a ++ tTags b
  | [], b => rfl
  | e :: a, b => by cases e <;> simp [tTags, tTags_append a b]

theorem tTags_leaf (e : TEvent) (h : e.isBracket = false) : tTags [e] = [] := by
  cases e <;> simp_all [tTags, TEvent.isBracket]

mutual
  theorem tnode_balance : ∀ (n : TNode) (st : List QName) (rest : Stream), n.ok = true →
      balance st (tTags n.flatten ++ rest) = balance st rest
    | .elem t a ks, st, rest, h => by
        have hk : okNodes ks = true := by simpa [TNode.ok] using h
        simp only [TNode.flatten, tTags, tTags_append, List.cons_append, List.nil_append, List.append_assoc, balance_start]
        rw [tnodes_balance ks (t :: st) _ hk]
        exact balance_end_same st t rest
    | .leaf e, st, rest, h => by
        have he : e.isBracket = false := by simpa [TNode.ok] using h
        simp [TNode.flatten, tTags_leaf e he]
  theorem tnodes_balance : ∀ (ns : List TNode) (st : List QName) (rest : Stream), okNodes ns = true →
      balance st (tTags (flattenNodes ns) ++ rest) = balance st rest
    | [], st, rest, _ => by simp [flattenNodes, tTags]
    | n :: ns, st, rest, h => by
        simp only [okNodes, Bool.and_eq_true] at h
        simp only [flattenNodes, tTags_append, List.append_assoc]
        rw [tnode_balance n st _ h.1, tnodes_balance ns st rest h.2]
end

theorem trLeaf_not_bracket (cfg : Cfg) (cat : Catalog) (ctx : Ctx) (tt ta : Bool) (e : TEvent)
    (h : e.isBracket = false) : (trLeaf cfg cat ctx tt ta e).isBracket = false := by
  cases e with
  | text s => cases tt <;> simp [trLeaf, TEvent.isBracket]
  | sub d b => simp [trLeaf, trSub, TEvent.isBracket]
  | start t a => simp [TEvent.isBracket] at h
  | end_ t => simp [TEvent.isBracket] at h
  | _ => simp [trLeaf, TEvent.isBracket]

mutual
  theorem trNode_ok (cfg : Cfg) (cat : Catalog) (ctx : Ctx) (tt ta : Bool) : ∀ (n : TNode), n.ok = true →
      (trNode cfg cat ctx tt ta n).ok = true
    | .elem t a ks, h => by
        have hk : okNodes ks = true := by simpa [TNode.ok] using h
        simp only [trNode]
        split
        · exact h
        · simpa [TNode.ok] using trNodes_ok cfg cat ctx tt ta ks hk
    | .leaf e, h => by
        have he : e.isBracket = false := by simpa [TNode.ok] using h
        simp [trNode, TNode.ok, trLeaf_not_bracket cfg cat ctx tt ta e he]
  theorem trNodes_ok (cfg : Cfg) (cat : Catalog) (ctx : Ctx) (tt ta : Bool) : ∀ (ns : List TNode),
      okNodes ns = true → okNodes (trNodes cfg cat ctx tt ta ns) = true
    | [], _ => rfl
    | n :: ns, h => by
        simp only [okNodes, Bool.and_eq_true] at h
        simp only [trNodes, okNodes, Bool.and_eq_true]
        exact ⟨trNode_ok cfg cat ctx tt ta n h.1, trNodes_ok cfg cat ctx tt ta ns h.2⟩
end

/-- the translation pass maps the flattening of a forest to a well-nested stream, and its input is
    well nested too: for every catalogue, context and flags -/
theorem translate_wellNested (cfg : Cfg) (cat : Catalog) (ctx : Ctx) (tt ta : Bool) (ns : List TNode)
    (h : okNodes ns = true) :
    WellNested (tTags (flattenNodes ns)) ∧
    WellNested (tTags (trList cfg cat ctx tt ta 0 (flattenNodes ns))) := by
  have h1 := trList_nodes cfg cat ctx tt ta ns [] h
  simp only [List.append_nil] at h1
  have h0 : trList cfg cat ctx tt ta 0 [] = [] := by simp [trList]
  rw [h0, List.append_nil] at h1
  refine ⟨?_, ?_⟩
  · exact wellNested_of_balance_append fun rest => tnodes_balance ns [] rest h
  · rw [h1]
    exact wellNested_of_balance_append fun rest =>
      tnodes_balance (trNodes cfg cat ctx tt ta ns) [] rest (trNodes_ok cfg cat ctx tt ta ns h)

end Genshi.I18n
