/-
  The selection loop of replace / before / after / wrap, with contents that may vary from selection
  to selection (`runGoL`; `runGo` is the case of constant contents, `runGoL_replicate`), read
  segment by segment: on a stream cut into its maximal selections the loop puts the k-th pair of
  contents around the k-th selection (`runSpecL`, `runGoL_segs`).  A `Good` stream is such a list of
  segments (`Good.segs`), so balance and `Good` of the result are inductions over the segments.
-/
import Genshi.Lemmas.TfSegs
import Genshi.Lemmas.TfVaryDefs
namespace Genshi.Tf

theorem VOk.nil : VOk [] := ⟨fun p hp => by simp at hp, Bal.nil⟩

theorem forall_headD {P : MStream → Prop} (h0 : P []) {l : List MStream} (h : ∀ c ∈ l, P c) : P (l.headD []) := by
  cases l with
  | nil => exact h0
  | cons c l => exact h c List.mem_cons_self

theorem forall_tail {P : MStream → Prop} {l : List MStream} (h : ∀ c ∈ l, P c) : ∀ c ∈ l.tail, P c :=
  fun c hc => h c (List.mem_of_mem_tail hc)

section run
variable (keep : Bool)

theorem runGoL_inRun_block (pres posts : List MStream) (m : Mark) (blk s : MStream) (h : Uniform m blk) :
    runGoL keep (.inRun m) pres posts (blk ++ s) = K keep blk ++ runGoL keep (.inRun m) pres posts s := by
  induction blk with
  | nil => simp [K]
  | cons p blk ih =>
    obtain ⟨x, rfl, hu⟩ := h.cons_inv
    simp only [List.cons_append, runGoL, ↓reduceIte, ih hu]
    cases keep <;> simp [K]

theorem runGoL_idle_block (pres posts : List MStream) (m : Mark) (hm : m ≠ .enter) (p : MItem)
    (blk s : MStream) (h : Uniform m (p :: blk)) :
    runGoL keep .idle pres posts ((p :: blk) ++ s) =
      pres.headD [] ++ (K keep (p :: blk) ++ runGoL keep (.inRun m) pres.tail posts s) := by
  obtain ⟨x, rfl, hu⟩ := h.cons_inv
  simp only [List.cons_append, runGoL, startSt, hm, ↓reduceIte,
    runGoL_inRun_block keep pres.tail posts m blk s hu]
  cases keep <;> simp [K]

theorem runGoL_inEnter_mid (pres posts : List MStream) (mid : MStream) (x : MEv) (s : MStream)
    (h : NoExit mid) :
    runGoL keep .inEnter pres posts (mid ++ (some .exit, x) :: s) =
      K keep (mid ++ [(some .exit, x)]) ++ (posts.headD [] ++ runGoL keep .idle pres posts.tail s) := by
  induction mid with
  | nil => cases keep <;> simp [runGoL, K]
  | cons p mid ih =>
    obtain ⟨m', y⟩ := p
    obtain ⟨hp, hu⟩ := h.cons_inv
    simp only [List.cons_append, runGoL, hp, ↓reduceIte, ih hu]
    cases keep <;> simp [K]

theorem runGoL_idle_elem (pres posts : List MStream) (e : MEv) (mid : MStream) (x : MEv) (s : MStream)
    (h : NoExit mid) :
    runGoL keep .idle pres posts ((some .enter, e) :: (mid ++ (some .exit, x) :: s)) =
      pres.headD [] ++ (K keep ((some .enter, e) :: (mid ++ [(some .exit, x)])) ++
        (posts.headD [] ++ runGoL keep .idle pres.tail posts.tail s)) := by
  simp only [runGoL, startSt, ↓reduceIte, runGoL_inEnter_mid keep pres.tail posts mid x s h]
  cases keep <;> simp [K]

theorem runGoL_inRun_nil (pres posts : List MStream) (m : Mark) :
    runGoL keep (.inRun m) pres posts [] = posts.headD [] := by
  simp [runGoL]

theorem runGoL_idle_nil (pres posts : List MStream) :
    runGoL keep .idle pres posts [] = [] := by
  simp [runGoL]

theorem runGoL_idle_plain (pres posts : List MStream) (x : MEv) (s : MStream) :
    runGoL keep .idle pres posts ((none, x) :: s) = (none, x) :: runGoL keep .idle pres posts s := by
  simp [runGoL]

/-- the inner loop of a run of `m0` pushes an item with another mark back: the contents behind the selection,
    then the outer loop on the same item -/
theorem runGoL_pushback (pres posts : List MStream) (m0 : Mark) {m : Option Mark} (hm : m ≠ some m0) (x : MEv)
    (s : MStream) :
    runGoL keep (.inRun m0) pres posts ((m, x) :: s) =
      posts.headD [] ++ runGoL keep .idle pres posts.tail ((m, x) :: s) := by
  cases m <;> simp only [runGoL, hm, ↓reduceIte]

end run

/-- `runGoL` segment by segment: the k-th selection stands between the k-th contents -/
def runSpecL (keep : Bool) : List MStream → List MStream → List Seg → MStream
  | _, _, [] => []
  | pres, posts, seg :: rest =>
      if seg.selected then
        pres.headD [] ++ (K keep seg.flat ++ (posts.headD [] ++ runSpecL keep pres.tail posts.tail rest))
      else seg.flat ++ runSpecL keep pres posts rest

/-- at a selection boundary the inner loop pushes the item back and the outer loop resumes -/
theorem runGoL_boundary (keep : Bool) (m : Mark) (hm : m ≠ .enter) (pres posts : List MStream) :
    ∀ segs, SegsOk segs → headNotRun m segs →
      runGoL keep (.inRun m) pres posts (flatSegs segs) =
        posts.headD [] ++ runGoL keep .idle pres posts.tail (flatSegs segs) := by
  intro segs hok hh
  rcases headNotRun.head hm hok hh with h | ⟨m', x, s, h, hne⟩
  · rw [h, runGoL_inRun_nil, runGoL_idle_nil, List.append_nil]
  · rw [h, runGoL_pushback keep pres posts m hne]

theorem runGoL_segs (keep : Bool) : ∀ segs, SegsOk segs → ∀ pres posts,
    runGoL keep .idle pres posts (flatSegs segs) = runSpecL keep pres posts segs := by
  intro segs
  induction segs with
  | nil => intro _ pres posts; exact runGoL_idle_nil keep pres posts
  | cons seg rest ih =>
    intro hok pres posts
    obtain ⟨hseg, hadj, hrest⟩ := hok
    cases seg with
    | plain x =>
      show runGoL keep .idle pres posts ((none, x) :: flatSegs rest) = (none, x) :: runSpecL keep pres posts rest
      rw [runGoL_idle_plain, ih hrest]
    | run m p blk =>
      obtain ⟨hne, _, hu⟩ := hseg
      simp only [flatSegs, Seg.flat]
      rw [runGoL_idle_block keep pres posts m hne p blk _ hu,
        runGoL_boundary keep m hne pres.tail posts rest hrest hadj, ih hrest]
      rfl
    | elem e mid x =>
      simp only [flatSegs, flat_elem_append]
      rw [runGoL_idle_elem keep pres posts e mid x _ (Inner.noExit hseg), ih hrest]
      simp [runSpecL, Seg.selected, Seg.flat]

theorem K_nil (keep : Bool) : K keep [] = [] := by cases keep <;> rfl

/-- in the inner loop of a run of `m`: a leading run of `m` is the rest of the current selection,
    then the loop is at a selection boundary -/
theorem runGoL_inRun_segs (keep : Bool) (m : Mark) (hm : m ≠ .enter) (pres posts : List MStream)
    {segs : List Seg} (h : GoodSegs segs) :
    ∃ blk rest, GoodSegs rest ∧ flatSegs segs = blk ++ flatSegs rest ∧ GoodPiece blk ∧
      runGoL keep (.inRun m) pres posts (flatSegs segs) =
        K keep blk ++ (posts.headD [] ++ runSpecL keep pres posts.tail rest) := by
  rcases headNotRun_cases m segs with ⟨p, blk, rest, rfl⟩ | hh
  · obtain ⟨⟨hne, hnx, hu⟩, hadj, hrest⟩ := h.1
    refine ⟨p :: blk, rest, h.tail, rfl, .block hne hnx hu (h.2 _ List.mem_cons_self), ?_⟩
    rw [flatSegs, Seg.flat, runGoL_inRun_block keep pres posts m (p :: blk) _ hu,
      runGoL_boundary keep m hm pres posts rest hrest hadj, runGoL_segs keep rest hrest]
  · refine ⟨[], segs, h, rfl, .nil, ?_⟩
    rw [runGoL_boundary keep m hm pres posts segs h.1 hh, runGoL_segs keep segs h.1, K_nil]
    rfl

/-- a selected segment of a `Good` stream is a piece that may be replaced, kept or dropped -/
theorem Seg.Good.piece {seg : Seg} (h : Seg.Good seg) (hok : seg.Ok) (hsel : seg.selected = true) :
    GoodPiece seg.flat := by
  cases seg with
  | plain x => cases hsel
  | run m p blk => exact .block hok.1 hok.2.1 hok.2.2 h
  | elem e mid x =>
    obtain ⟨t, a, rfl, rfl, hf, hb⟩ := h
    exact .elem t a hf hb

theorem Wrapper.ofBal {a b : Stream} (ha : Bal a) (hb : Bal b) : Wrapper a b := fun X st rest hX => by
  rw [balance_bal st ha, balance_bal st hX, balance_bal st hb]

theorem getD_zero_headD (l : List MStream) : l.getD 0 [] = l.headD [] := by cases l <;> rfl

theorem getD_succ_tail (l : List MStream) (k : Nat) : l.getD (k + 1) [] = l.tail.getD k [] := by
  cases l <;> rfl

/-- the k-th pair of contents closes over a balanced selection -/
def PairsOk (pres posts : List MStream) : Prop :=
  ∀ k, Wrapper (unmark (pres.getD k [])) (unmark (posts.getD k []))

theorem PairsOk.head {pres posts : List MStream} (h : PairsOk pres posts) :
    Wrapper (unmark (pres.headD [])) (unmark (posts.headD [])) := by
  have := h 0
  rwa [getD_zero_headD, getD_zero_headD] at this

theorem PairsOk.tail {pres posts : List MStream} (h : PairsOk pres posts) : PairsOk pres.tail posts.tail := by
  intro k
  have := h (k + 1)
  rwa [getD_succ_tail, getD_succ_tail] at this

theorem VOk.getD {l : List MStream} (h : ∀ c ∈ l, VOk c) : ∀ k, VOk (l.getD k [])
  | 0 => by rw [getD_zero_headD]; exact forall_headD VOk.nil h
  | k + 1 => by rw [getD_succ_tail]; exact VOk.getD (forall_tail h) k

theorem PairsOk.ofVOk {pres posts : List MStream} (hpres : ∀ c ∈ pres, VOk c) (hposts : ∀ c ∈ posts, VOk c) :
    PairsOk pres posts := fun k => Wrapper.ofBal (VOk.getD hpres k).2 (VOk.getD hposts k).2

theorem PairsOk.replicate {pre post : MStream} (hw : Wrapper (unmark pre) (unmark post)) :
    ∀ n, PairsOk (List.replicate n pre) (List.replicate n post)
  | 0 => fun k => by
    simp only [List.replicate_zero, List.getD_nil]
    exact Wrapper.ofBal Bal.nil Bal.nil
  | n + 1 => fun k => by
    cases k with
    | zero => exact hw
    | succ k => rw [getD_succ_tail, getD_succ_tail]; exact PairsOk.replicate hw n k

theorem runSpecL_balance (keep : Bool) {segs : List Seg} (hs : GoodSegs segs) :
    ∀ pres posts, PairsOk pres posts →
      ∀ st, balance st (unmark (runSpecL keep pres posts segs)) = balance st (unmark (flatSegs segs)) := by
  induction segs with
  | nil => intro _ _ _ _; rfl
  | cons seg rest ih =>
    intro pres posts hp st
    have hg := hs.2 seg (List.mem_cons_self ..)
    rw [runSpecL, flatSegs]
    by_cases hsel : seg.selected = true
    · have hpc := hg.piece hs.1.1 hsel
      rw [if_pos hsel]
      simp only [unmark_append]
      rw [hp.head _ st _ (hpc.K keep).bal, ih hs.tail _ _ hp.tail st, balance_bal st hpc.bal]
    · rw [if_neg hsel]
      exact balance_unmark_append_congr _ (ih hs.tail pres posts hp) st

theorem noneMarked_nil : NoneMarked [] := fun _ hp => nomatch hp

theorem runSpecL_good (keep : Bool) {segs : List Seg} (hs : GoodSegs segs) :
    ∀ pres posts, (∀ c ∈ pres, NoneMarked c) → (∀ c ∈ posts, NoneMarked c) →
      Good (runSpecL keep pres posts segs) := by
  induction segs with
  | nil => intro _ _ _ _; exact Good.nil
  | cons seg rest ih =>
    intro pres posts hp hq
    rw [runSpecL]
    by_cases hsel : seg.selected = true
    · rw [if_pos hsel]
      exact Good.append_plain (forall_headD noneMarked_nil hp) ((((hs.2 seg List.mem_cons_self).piece hs.1.1 hsel).K keep).good
        (Good.append_plain (forall_headD noneMarked_nil hq)
          (ih hs.tail _ _ (forall_tail hp) (forall_tail hq))))
    · rw [if_neg hsel]
      cases seg with
      | plain x => exact Good.plain x (ih hs.tail pres posts hp hq)
      | _ => exact absurd rfl hsel

theorem runGoL_balance (keep : Bool) {s : MStream} (hg : Good s) :
    ∀ (pres posts : List MStream), (∀ c ∈ pres, VOk c) → (∀ c ∈ posts, VOk c) →
    ∀ st, balance st (unmark (runGoL keep .idle pres posts s)) = balance st (unmark s) := by
  intro pres posts hpres hposts st
  obtain ⟨segs, hs, rfl⟩ := Good.segs hg
  rw [runGoL_segs keep segs hs.1]
  exact runSpecL_balance keep hs pres posts (PairsOk.ofVOk hpres hposts) st

theorem runGoL_wellNested (keep : Bool) {s : MStream} (hg : Good s) (pres posts : List MStream)
    (hpres : ∀ c ∈ pres, VOk c) (hposts : ∀ c ∈ posts, VOk c) (hwn : WellNested (unmark s)) :
    WellNested (unmark (runGoL keep .idle pres posts s)) := by
  exact wn_of_balance (runGoL_balance keep hg pres posts hpres hposts) hwn

theorem runGoL_good (keep : Bool) {s : MStream} (hg : Good s) :
    ∀ (pres posts : List MStream), (∀ c ∈ pres, VOk c) → (∀ c ∈ posts, VOk c) →
    Good (runGoL keep .idle pres posts s) := by
  intro pres posts hpres hposts
  obtain ⟨segs, hs, rfl⟩ := Good.segs hg
  rw [runGoL_segs keep segs hs.1]
  exact runSpecL_good keep hs pres posts (fun c hc => (hpres c hc).1) fun c hc => (hposts c hc).1

/-- A step of the loop uses up at most one content in front and one behind, so lists longer than the
    stream (`s.length < a`, `< b`) are never exhausted; `h1` … `h4` are the induction hypothesis for
    the four ways a step can use them. -/
theorem runGoL_replicate (pre post : MStream) (keep : Bool) :
    ∀ (s : MStream) (st : RunSt) (a b : Nat), s.length < a → s.length < b →
      runGoL keep st (List.replicate a pre) (List.replicate b post) s = runGo pre post keep st s := by
  intro s
  induction s with
  | nil =>
    intro st a b _ hb
    obtain ⟨b', rfl⟩ : ∃ b', b = b' + 1 := ⟨b - 1, by simp at hb; omega⟩
    cases st <;> simp [runGoL, runGo, List.replicate_succ]
  | cons p s ih =>
    intro st a b ha hb
    obtain ⟨m, x⟩ := p
    simp only [List.length_cons] at ha hb
    obtain ⟨a', rfl⟩ : ∃ a', a = a' + 1 := ⟨a - 1, by omega⟩
    obtain ⟨b', rfl⟩ : ∃ b', b = b' + 1 := ⟨b - 1, by omega⟩
    have h1 : ∀ st, runGoL keep st (pre :: List.replicate a' pre) (post :: List.replicate b' post) s =
        runGo pre post keep st s := fun st => by
      simpa [List.replicate_succ] using ih st (a' + 1) (b' + 1) (by omega) (by omega)
    have h2 : ∀ st, runGoL keep st (List.replicate a' pre) (post :: List.replicate b' post) s =
        runGo pre post keep st s := fun st => by
      simpa [List.replicate_succ] using ih st a' (b' + 1) (by omega) (by omega)
    have h3 : ∀ st, runGoL keep st (pre :: List.replicate a' pre) (List.replicate b' post) s =
        runGo pre post keep st s := fun st => by
      simpa [List.replicate_succ] using ih st (a' + 1) b' (by omega) (by omega)
    have h4 : ∀ st, runGoL keep st (List.replicate a' pre) (List.replicate b' post) s =
        runGo pre post keep st s := fun st => ih st a' b' (by omega) (by omega)
    rw [List.replicate_succ, List.replicate_succ]
    cases st with
    | idle => cases m <;> simp only [runGoL, runGo, List.headD_cons, List.tail_cons, h1, h2]
    | inEnter => simp only [runGoL, runGo, List.headD_cons, List.tail_cons, h1, h3]
    | inRun m0 =>
      cases m <;> simp only [runGoL, runGo, List.headD_cons, List.tail_cons, h1, h3, h4]

theorem runGo_balance {pre post : MStream} (keep : Bool)
    (hw : Wrapper (unmark pre) (unmark post)) {s : MStream} (hg : Good s) :
    (∀ st, balance st (unmark (runGo pre post keep .idle s)) = balance st (unmark s)) ∧
    (∀ m, m ≠ .enter → ∀ (X : Stream) st, Bal X →
      balance st (unmark pre ++ (X ++ unmark (runGo pre post keep (.inRun m) s))) =
        balance st (unmark s)) := by
  obtain ⟨segs, hs, rfl⟩ := Good.segs hg
  have hn := Nat.lt_succ_self (flatSegs segs).length
  have hp := PairsOk.replicate hw ((flatSegs segs).length + 1)
  constructor
  · intro st
    rw [← runGoL_replicate pre post keep _ .idle _ _ hn hn, runGoL_segs keep segs hs.1]
    exact runSpecL_balance keep hs _ _ hp st
  · intro m hm X st hX
    -- the pending `post` is the head of the list of contents behind
    rw [← runGoL_replicate pre post keep _ (.inRun m) _ _ hn (Nat.lt_succ_of_lt hn), List.replicate_succ (a := post)]
    obtain ⟨blk, rest, hrest, he, hb, hr⟩ := runGoL_inRun_segs keep m hm
      (List.replicate ((flatSegs segs).length + 1) pre) (post :: List.replicate ((flatSegs segs).length + 1) post) hs
    rw [hr, List.headD_cons, List.tail_cons, unmark_append, unmark_append, ← List.append_assoc X,
      hw _ st _ (hX.append (hb.K keep).bal), runSpecL_balance keep hrest _ _ hp st, he, unmark_append,
      balance_bal st hb.bal]

theorem replicate_forall {P : MStream → Prop} {c : MStream} (h : P c) (n : Nat) : ∀ d ∈ List.replicate n c, P d :=
  fun _ hd => List.eq_of_mem_replicate hd ▸ h

theorem runGo_good {pre post : MStream} (keep : Bool) (hpre : NoneMarked pre) (hpost : NoneMarked post)
    {s : MStream} (hg : Good s) :
    Good (runGo pre post keep .idle s) ∧
    (∀ m, m ≠ .enter → Good (runGo pre post keep (.inRun m) s)) := by
  obtain ⟨segs, hs, rfl⟩ := Good.segs hg
  have hn := Nat.lt_succ_self (flatSegs segs).length
  constructor
  · rw [← runGoL_replicate pre post keep _ .idle _ _ hn hn, runGoL_segs keep segs hs.1]
    exact runSpecL_good keep hs _ _ (replicate_forall hpre _) (replicate_forall hpost _)
  · intro m hm
    rw [← runGoL_replicate pre post keep _ (.inRun m) _ _ hn hn]
    obtain ⟨blk, rest, hrest, _, hb, hr⟩ := runGoL_inRun_segs keep m hm
      (List.replicate ((flatSegs segs).length + 1) pre) (List.replicate ((flatSegs segs).length + 1) post) hs
    rw [hr]
    exact (hb.K keep).good (Good.append_plain (forall_headD noneMarked_nil (replicate_forall hpost _))
      (runSpecL_good keep hrest _ _ (replicate_forall hpre _)
        (forall_tail (replicate_forall hpost _))))

section run
variable (pre post : MStream) (keep : Bool)

def runSpec (seg : Seg) : MStream :=
  if seg.selected then pre ++ (K keep seg.flat ++ post) else seg.flat

theorem runSpecL_replicate : ∀ (segs : List Seg) (a b : Nat), segs.length ≤ a → segs.length ≤ b →
    runSpecL keep (List.replicate a pre) (List.replicate b post) segs = segs.flatMap (runSpec pre post keep)
  | [], _, _, _, _ => rfl
  | seg :: rest, a + 1, b + 1, ha, hb => by
    rw [runSpecL, List.flatMap_cons, runSpec, List.replicate_succ, List.replicate_succ, List.headD_cons,
      List.headD_cons, List.tail_cons, List.tail_cons,
      runSpecL_replicate rest a b (Nat.le_of_succ_le_succ ha) (Nat.le_of_succ_le_succ hb),
      ← List.replicate_succ, ← List.replicate_succ,
      runSpecL_replicate rest (a + 1) (b + 1) (Nat.le_of_succ_le ha) (Nat.le_of_succ_le hb)]
    split
    · simp only [List.append_assoc]
    · rfl

theorem length_le_flatSegs : ∀ segs : List Seg, segs.length ≤ (flatSegs segs).length
  | [] => Nat.le_refl 0
  | seg :: rest => by
    have hpos : 1 ≤ seg.flat.length := by cases seg <;> exact Nat.succ_pos _
    rw [flatSegs, List.length_append, List.length_cons, Nat.add_comm seg.flat.length]
    exact Nat.add_le_add (length_le_flatSegs rest) hpos

theorem runGo_segs : ∀ segs, SegsOk segs →
    runGo pre post keep .idle (flatSegs segs) = segs.flatMap (runSpec pre post keep) := by
  intro segs hok
  have hn := Nat.lt_succ_self (flatSegs segs).length
  rw [← runGoL_replicate pre post keep _ .idle _ _ hn hn, runGoL_segs keep segs hok]
  exact runSpecL_replicate pre post keep segs _ _ (Nat.le_succ_of_le (length_le_flatSegs segs))
    (Nat.le_succ_of_le (length_le_flatSegs segs))

end run

end Genshi.Tf
