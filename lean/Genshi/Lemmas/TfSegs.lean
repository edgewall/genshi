/-
  The documented effect of each operation, stated on a marked stream cut into
  its contiguous selections (`Seg`): unmarked events, maximal runs of one mark,
  ENTER … EXIT brackets.  The theorems about the element operations (`ElemOp.segs`) have the form
  `op (flatSegs segs) = segs.flatMap (what the operation does to one segment)`,
  so what is not selected is literally unchanged; the same for the run loops is `runGo_segs`
  (`TfRunL`), `copyBuf_segs` (`TfBufBal`) and `cut_segs_idle` (`TfSegs2`).  Every `Good` stream is such
  a list of segments, each selected one balanced (`GoodSegs`, `Good.segs`); the output of `select` is one.
-/
import Genshi.Lemmas.TfOps
namespace Genshi.Tf

inductive Seg where
  | plain (x : MEv)
  | run (m : Mark) (p : MItem) (blk : MStream)
  | elem (e : MEv) (mid : MStream) (x : MEv)

def Seg.flat : Seg → MStream
  | .plain x => [(none, x)]
  | .run _ p blk => p :: blk
  | .elem e mid x => (some .enter, e) :: (mid ++ [(some .exit, x)])

def flatSegs : List Seg → MStream
  | [] => []
  | seg :: rest => seg.flat ++ flatSegs rest

def Seg.selected : Seg → Bool
  | .plain _ => false
  | _ => true

def Seg.Ok : Seg → Prop
  | .plain _ => True
  | .run m p blk => m ≠ .enter ∧ m ≠ .exit ∧ Uniform m (p :: blk)
  | .elem _ mid _ => Inner mid

/-- the list does not begin with a run of `m`; asked behind a run of `m`, so that runs are maximal -/
def headNotRun (m : Mark) : List Seg → Prop
  | .run m' _ _ :: _ => m' ≠ m
  | _ => True

/-- The shape of the marks only: a run carries one mark other than ENTER / EXIT and is maximal, the
    interior of a bracket has no ENTER / EXIT.  That the selected segments are balanced is `GoodSegs`. -/
def SegsOk : List Seg → Prop
  | [] => True
  | seg :: rest => seg.Ok ∧ (match seg with
      | .run m _ _ => headNotRun m rest
      | _ => True) ∧ SegsOk rest

/-- a list of segments begins with a run of `m`, or a run of `m` may stand in front of it -/
theorem headNotRun_cases (m : Mark) : ∀ segs : List Seg,
    (∃ p blk rest, segs = .run m p blk :: rest) ∨ headNotRun m segs
  | [] => .inr trivial
  | .plain _ :: _ => .inr trivial
  | .elem _ _ _ :: _ => .inr trivial
  | .run m' p blk :: rest => by
    by_cases h : m' = m
    · exact .inl ⟨p, blk, rest, by rw [h]⟩
    · exact .inr h

/-- a list of segments that does not begin with a run of `m` is empty or begins with an item that is not
    marked `m`: what the inner loop of a run of `m` needs to know at a selection boundary -/
theorem headNotRun.head {m : Mark} (hm : m ≠ .enter) {segs : List Seg} (hok : SegsOk segs) (hh : headNotRun m segs) :
    flatSegs segs = [] ∨ ∃ m' x s, flatSegs segs = (m', x) :: s ∧ m' ≠ some m := by
  cases segs with
  | nil => exact .inl rfl
  | cons seg rest =>
    cases seg with
    | plain x => exact .inr ⟨none, x, _, rfl, nofun⟩
    | run m' p blk =>
      obtain ⟨x, rfl, _⟩ := hok.1.2.2.cons_inv
      exact .inr ⟨some m', x, _, rfl, fun h => hh (Option.some.inj h)⟩
    | elem e mid x => exact .inr ⟨some .enter, e, _, rfl, fun h => hm (Option.some.inj h).symm⟩

theorem flat_elem_append (e x : MEv) (mid s : MStream) :
    (Seg.elem e mid x).flat ++ s = (some .enter, e) :: (mid ++ (some .exit, x) :: s) := by
  simp [Seg.flat]

def elemSpec (g : MEv → MStream → MEv → MStream) : Seg → MStream
  | .elem e mid x => g e mid x
  | seg => seg.flat

theorem ElemOp.segs {σ : Type} {f : σ → MStream → MStream} {g : σ → MEv → MStream → MEv → MStream}
    (h : ElemOp f g id) (c : σ) : ∀ segs, SegsOk segs → f c (flatSegs segs) = segs.flatMap (elemSpec (g c)) := by
  intro segs
  induction segs with
  | nil => intro _; exact h.nil c
  | cons seg rest ih =>
    intro hok
    obtain ⟨hseg, _, hrest⟩ := hok
    cases seg with
    | plain x =>
      have : Inner (Seg.plain x).flat := by intro p hp; simp [Seg.flat] at hp; simp [hp]
      rw [flatSegs, List.flatMap_cons, h.inner _ _ _ this, ih hrest]; rfl
    | run m p blk =>
      obtain ⟨hne, hnx, hu⟩ := hseg
      have : Inner (Seg.run m p blk).flat := Inner.ofUniform hne hnx hu
      rw [flatSegs, List.flatMap_cons, h.inner _ _ _ this, ih hrest]; rfl
    | elem e mid x =>
      rw [flatSegs, List.flatMap_cons, flat_elem_append, h.elem c e mid x _ hseg, id, ih hrest]; rfl

theorem attrEv_inner (n : QName) (v : Option Str) {p : MItem} (h1 : p.1 ≠ some .enter) : attrEv n v p = p := by
  fun_cases attrEv n v p
  · exact absurd rfl h1
  · rfl

theorem setAttr_elemOp (n : QName) : ElemOp (setAttr n)
    (fun v e mid x => attrEv n v (some .enter, e) :: (mid ++ [(some .exit, x)])) id :=
  map_elemOp (attrEv n) fun v _ h1 _ => attrEv_inner n v h1

theorem setAttr_inner (n : QName) (v : Option Str) {l : MStream} (h : Inner l) : setAttr n v l = l :=
  (setAttr_elemOp n).inner_id v h

theorem remove_filter (s : MStream) (h : ∀ p ∈ s, p.1 ≠ some .attr) :
    remove s = s.filter (fun p => p.1.isNone) := by
  unfold remove
  induction s with
  | nil => rfl
  | cons p s ih =>
    obtain ⟨m, x⟩ := p
    have h1 : m ≠ some .attr := h (m, x) (by simp)
    have ih' := ih (fun q hq => h q (by simp [hq]))
    rcases m with _ | m
    · simp [removeGo, ih']
    · cases m <;> first | (exact absurd rfl h1) | simp [removeGo, ih']

theorem remove_attr_sel (tag t : QName) (a at_ : AttrList) (ha : a ≠ []) (s : MStream) :
    remove ((some .attr, .attr tag a) :: (none, .ev (.start t at_)) :: s) =
      (none, .ev (.start t (attrsSub at_ (a.map (·.1))))) :: remove s := by
  cases a with
  | nil => exact absurd rfl ha
  | cons p a => simp [remove, removeGo, attrNames, MEv.isStart, stripAttrs]


/-- a selected segment is a whole balanced piece -/
def Seg.Good : Seg → Prop
  | .plain _ => True
  | .run _ p blk => Bal (unmark (p :: blk))
  | .elem e mid x => ∃ t a, e = .ev (.start t a) ∧ x = .ev (.end_ t) ∧ Flat mid ∧ Bal (unmark mid)

/-- `Good` streams cut into maximal segments -/
def GoodSegs (segs : List Seg) : Prop := SegsOk segs ∧ ∀ seg ∈ segs, Seg.Good seg

theorem GoodSegs.cons {seg : Seg} {segs : List Seg}
    (hadj : match seg with | .run m _ _ => headNotRun m segs | _ => True) (h : GoodSegs segs)
    (hok : seg.Ok) (hg : Seg.Good seg) : GoodSegs (seg :: segs) :=
  ⟨⟨hok, hadj, h.1⟩, fun s hs => by
    rcases List.mem_cons.mp hs with rfl | hs
    · exact hg
    · exact h.2 s hs⟩

theorem GoodSegs.tail {seg : Seg} {segs : List Seg} (h : GoodSegs (seg :: segs)) : GoodSegs segs :=
  ⟨h.1.2.2, fun s hs => h.2 s (List.mem_cons_of_mem _ hs)⟩

/-- a balanced block in front: a new run, or the first run grows -/
theorem GoodSegs.block {m : Mark} (hne : m ≠ .enter) (hnx : m ≠ .exit) {blk : MStream} (hu : Uniform m blk)
    (hb : Bal (unmark blk)) {segs : List Seg} (h : GoodSegs segs) :
    ∃ segs', GoodSegs segs' ∧ flatSegs segs' = blk ++ flatSegs segs := by
  cases blk with
  | nil => exact ⟨segs, h, rfl⟩
  | cons p blk =>
    rcases headNotRun_cases m segs with ⟨p', blk', rest, rfl⟩ | hh
    · obtain ⟨⟨⟨_, _, hu'⟩, hadj, hrest⟩, hg⟩ := h
      refine ⟨.run m p (blk ++ p' :: blk') :: rest, ⟨⟨⟨hne, hnx, ?_⟩, hadj, hrest⟩, fun s hs => ?_⟩, ?_⟩
      · intro q hq
        rcases List.mem_append.mp (show q ∈ (p :: blk) ++ (p' :: blk') from hq) with hq | hq
        · exact hu q hq
        · exact hu' q hq
      · rcases List.mem_cons.mp hs with rfl | hs
        · have := hb.append (hg _ (List.mem_cons_self ..))
          rwa [← unmark_append] at this
        · exact hg s (List.mem_cons_of_mem _ hs)
      · simp [flatSegs, Seg.flat]
    · exact ⟨.run m p blk :: segs, GoodSegs.cons hh h ⟨hne, hnx, hu⟩ hb, rfl⟩

theorem Good.segs {s : MStream} (h : Good s) : ∃ segs, GoodSegs segs ∧ flatSegs segs = s := by
  induction h with
  | nil => exact ⟨[], ⟨trivial, fun _ h => nomatch h⟩, rfl⟩
  | plain x _ ih =>
    obtain ⟨segs, hs, rfl⟩ := ih
    exact ⟨.plain x :: segs, GoodSegs.cons trivial hs trivial trivial, rfl⟩
  | block m blk hne hnx hu hb _ ih =>
    obtain ⟨segs, hs, rfl⟩ := ih
    exact hs.block hne hnx hu hb
  | elem t a mid hf hb _ ih =>
    obtain ⟨segs, hs, rfl⟩ := ih
    exact ⟨.elem (.ev (.start t a)) mid (.ev (.end_ t)) :: segs,
      GoodSegs.cons trivial hs hf.inner ⟨t, a, rfl, rfl, hf, hb⟩, flat_elem_append _ _ mid _⟩

theorem select_segs (rs : List Res) (s : MStream) (hwn : WellNested (unmark s))
    (hok : selOk 0 rs s = true) : ∃ segs, SegsOk segs ∧ selectGo 0 rs s = flatSegs segs := by
  obtain ⟨segs, hs, he⟩ := Good.segs (select_good rs s hwn hok).1
  exact ⟨segs, hs.1, he.symm⟩

end Genshi.Tf
