/-
  cut on a stream cut into contiguous selections: what `cut` leaves in the stream.
-/
import Genshi.Lemmas.TfSegs
import Genshi.Lemmas.TfCut
namespace Genshi.Tf

/-- no selection of attributes among the segments: behind one, `cut` strips the START that follows or
    fails its assertion, which is not an effect on the selected segment alone -/
def NoAttrRun : List Seg → Prop
  | [] => True
  | .run m _ _ :: rest => m ≠ .attr ∧ NoAttrRun rest
  | _ :: rest => NoAttrRun rest

/-- the unselected segments -/
def keepSegs (segs : List Seg) : List Seg := segs.filter fun seg => !seg.selected

theorem keepSegs_nil : keepSegs [] = [] := rfl
theorem keepSegs_plain (x : MEv) (r : List Seg) : keepSegs (.plain x :: r) = .plain x :: keepSegs r := by
  simp [keepSegs, Seg.selected]
theorem keepSegs_run (m : Mark) (p : MItem) (blk : MStream) (r : List Seg) :
    keepSegs (.run m p blk :: r) = keepSegs r := by
  simp [keepSegs, Seg.selected]
theorem keepSegs_elem (e x : MEv) (mid : MStream) (r : List Seg) :
    keepSegs (.elem e mid x :: r) = keepSegs r := by
  simp [keepSegs, Seg.selected]

/-- the inner loop of a run (not of attributes) pushes an item with another mark back -/
theorem cutGo_pushback (acc : Bool) {m0 : Mark} (hma : m0 ≠ .attr) {m : Option Mark} (hm : m ≠ some m0) (x : MEv)
    (s : MStream) (b : Bool) (names : List QName) :
    cutGo acc (.inRun m0) b names ((m, x) :: s) = cutGo acc .idle false names ((m, x) :: s) := by
  have hma' : (m0 = Mark.attr) = False := by simp [hma]
  cases m <;> simp [cutGo, hm, hma']

/-- at a selection boundary the inner loop of a run (not of attributes) goes on as the outer loop does -/
theorem cutGo_boundary (acc : Bool) (m : Mark) (hm : m ≠ .enter) (hma : m ≠ .attr) :
    ∀ segs, SegsOk segs → headNotRun m segs → ∀ b names,
      ∃ b', cutGo acc (.inRun m) b names (flatSegs segs) = cutGo acc .idle b' names (flatSegs segs) := by
  intro segs hok hh b names
  rcases headNotRun.head hm hok hh with h | ⟨m', x, s, h, hne⟩
  · exact ⟨b, by rw [h]; rfl⟩
  · exact ⟨false, by rw [h, cutGo_pushback acc hma hne]⟩

theorem cut_segs_idle (acc : Bool) : ∀ segs, SegsOk segs → NoAttrRun segs → ∀ b names,
    ∃ out, cutGo acc .idle b names (flatSegs segs) = some out ∧
      unmark out = unmark (flatSegs (keepSegs segs)) := by
  intro segs
  induction segs with
  | nil =>
    intro _ _ b names
    simp only [flatSegs, cutGo, keepSegs_nil]
    cases b <;> simp [brkItem, unmark]
  | cons seg rest ih =>
    intro hok hna b names
    obtain ⟨hseg, hadj, hrest⟩ := hok
    have fin : ∀ (pre : MStream), BrkPre pre → ∀ b' names', keepSegs (seg :: rest) = keepSegs rest → NoAttrRun rest →
        ∃ out, (pre ++ ·) <$> cutGo acc .idle b' names' (flatSegs rest) = some out ∧
        unmark out = unmark (flatSegs (keepSegs (seg :: rest))) := by
      intro pre hpre b' names' hk hna'
      obtain ⟨o, h1, h2⟩ := ih hrest hna' b' names'
      exact ⟨pre ++ o, by simp [h1], by rw [unmark_brk_prefix hpre, h2, hk]⟩
    cases seg with
    | plain x =>
      obtain ⟨o, h1, h2⟩ := ih hrest hna true names
      refine ⟨(none, x) :: o, by simp [flatSegs, Seg.flat, cutGo, h1], ?_⟩
      rw [keepSegs_plain]
      exact unmark_cons_congr _ _ x h2
    | run m' p blk =>
      obtain ⟨hne, _, hu⟩ := hseg
      obtain ⟨hma', hna'⟩ := hna
      obtain ⟨x, rfl, hu'⟩ := hu.cons_inv
      have hattr : (m' = Mark.attr) = False := by simp [hma']
      -- after the first event of the run the generator is in `inRun m'`, up to the next boundary
      obtain ⟨b', hb'⟩ : ∃ b', cutGo acc (.inRun m') false names (blk ++ flatSegs rest) =
          cutGo acc .idle b' names (flatSegs rest) := by
        rw [cutGo_inRun_block acc hu' _ false names, if_neg hma', Bool.false_and]
        exact cutGo_boundary acc m' hne hma' rest hrest hadj false names
      simp only [flatSegs, Seg.flat, List.cons_append, cutGo, startSt, hne, ↓reduceIte, hattr, hb']
      exact fin _ (brkPre_ite _) b' names (keepSegs_run ..) hna'
    | elem e mid x =>
      have hea : (Mark.enter = Mark.attr) = False := by simp
      simp only [flatSegs, flat_elem_append, cutGo, startSt, ↓reduceIte, hea,
        cutGo_inEnter_mid acc mid x _ (Inner.noExit hseg)]
      exact fin _ (brkPre_ite _) false names (keepSegs_elem ..) hna

end Genshi.Tf
