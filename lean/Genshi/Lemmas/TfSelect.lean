/-
  `SelectTransformation` on a well-nested stream: whatever the path test
  answers, the marking it produces is `Good` (ENTER … EXIT brackets exactly one
  balanced subtree) and the generator does not run off the end of the stream.
-/
import Genshi.Lemmas.TfGood
namespace Genshi.Tf

theorem balance_tail {st : List QName} {p : MItem} {s : MStream} {r : List QName}
    (h : balance st (unmark (p :: s)) = some r) : ∃ st', balance st' (unmark s) = some r := by
  rw [balance_unmark_cons] at h
  cases hs : effStep (eff p.2) st with
  | none => rw [hs] at h; cases h
  | some st' => exact ⟨st', by rw [hs] at h; exact h⟩

theorem bal_single_nonSE {x : MEv} (hs : x.isStart = false) (he : x.isEnd = false) (m : Option Mark) :
    Bal (unmark [(m, x)]) := by
  rcases x.cases_eff with ⟨_, _, rfl⟩ | ⟨_, rfl⟩ | ⟨_, _, hn⟩
  · cases hs
  · cases he
  · exact (balance_unmark_skip hn m [] []).trans rfl

theorem Good.single {m : Mark} {x : MEv} {s : MStream} (hne : m ≠ .enter) (hnx : m ≠ .exit)
    (hs : x.isStart = false) (he : x.isEnd = false) (h : Good s) : Good ((some m, x) :: s) := by
  have := Good.block m [(some m, x)] hne hnx (by intro p hp; simp at hp; simp [hp])
    (bal_single_nonSE hs he (some m)) h
  simpa using this

/-- What the generator does with the rest of the stream, in either of its loops.  In the outer loop, on a
    suffix that closes the open elements, the marking is `Good` and the generator ends there.  Inside a
    matched element `t0` everything up to the END that closes `t0` is marked INSIDE, that END is marked
    EXIT, and the outer loop goes on behind it; the depth counter is the number of open elements, `t0`
    included: `inner.length + 1` (`subDepth` answers `d + 2` at a START, `d` at an END, `d + 1` otherwise,
    for the depth `d + 1`). -/
theorem select_claim (s : MStream) :
    (∀ (rs : List Res) (outer : List QName), balance outer (unmark s) = some [] → selOk 0 rs s = true →
      Good (selectGo 0 rs s) ∧ selectFin 0 rs s = 0) ∧
    (∀ (rs : List Res) (inner : List QName) (t0 : QName) (outer : List QName),
      balance (inner ++ t0 :: outer) (unmark s) = some [] → selOk (inner.length + 1) rs s = true →
      ∃ mid R, selectGo (inner.length + 1) rs s = mid ++ (some .exit, .ev (.end_ t0)) :: R ∧
        Uniform .inside mid ∧ balance inner (unmark mid) = some [] ∧ Good R ∧
        selectFin (inner.length + 1) rs s = 0) := by
  induction s with
  | nil => exact ⟨fun _ _ _ _ => ⟨Good.nil, rfl⟩, fun _ _ _ _ h _ => by simp [unmark, balance] at h⟩
  | cons p s ih =>
    obtain ⟨ih0, ih1⟩ := ih
    obtain ⟨m, x⟩ := p
    constructor
    · intro rs outer hb hok
      obtain ⟨st', hb'⟩ := balance_tail hb
      cases m with
      | none =>
        simp only [selOk] at hok
        simp only [selectGo, selectFin]
        obtain ⟨g, f⟩ := ih0 rs st' hb' hok
        exact ⟨Good.plain x g, f⟩
      | some m =>
        simp only [selOk] at hok
        simp only [selectGo, selectFin]
        cases hr : rs.headD .none <;> simp only [hr, Bool.and_eq_true, Bool.not_eq_true'] at hok ⊢
        · obtain ⟨g, f⟩ := ih0 rs.tail st' hb' hok
          exact ⟨Good.plain x g, f⟩
        · by_cases hx : x.isStart = true
          · -- a matched START: the rest is read at depth 1, with nothing open inside the element
            obtain ⟨t, a, rfl⟩ : ∃ t a, x = .ev (.start t a) := by
              rcases x.cases_eff with h | ⟨_, rfl⟩ | ⟨h, _⟩
              · exact h
              · cases hx
              · rw [h] at hx; cases hx
            simp only [hx, ↓reduceIte] at hok ⊢
            obtain ⟨mid, R, e, hu, hm, hR, hf⟩ := ih1 rs.tail [] t outer (by simpa [unmark, balance_start] using hb) hok.2
            simp only [List.length_nil, Nat.zero_add] at e hf
            rw [e]
            exact ⟨Good.elem t a mid (by simpa using Flat.block .inside mid (by decide) (by decide) hu hm Flat.nil)
              hm hR, hf⟩
          · have hx' : x.isStart = false := by simpa using hx
            simp only [hx', Bool.false_eq_true, ↓reduceIte] at hok ⊢
            obtain ⟨g, f⟩ := ih0 rs.tail st' hb' hok.2
            exact ⟨Good.single (by decide) (by decide) hx' hok.1 g, f⟩
        · obtain ⟨g, f⟩ := ih0 rs.tail st' hb' hok
          exact ⟨Good.single (by decide) (by decide) rfl rfl (Good.plain x g), f⟩
        · obtain ⟨g, f⟩ := ih0 rs.tail st' hb' hok.2
          exact ⟨Good.single (by decide) (by decide) hok.1.1 hok.1.2 g, f⟩
        · cases hok
        · cases hok
    · intro rs inner t0 outer h hok
      simp only [selOk] at hok
      simp only [selectGo, selectFin]
      rcases x.cases_eff with ⟨t, a, rfl⟩ | ⟨t, rfl⟩ | ⟨hs, he, hn⟩
      · obtain ⟨mid, R, e, hu, hm, hR, hf⟩ := ih1 rs (t :: inner) t0 outer
          (by simpa [unmark, balance_start] using h) (by simpa [subDepth, MEv.isStart] using hok)
        simp only [List.length_cons] at e hf
        refine ⟨(some .inside, .ev (.start t a)) :: mid, R, by simp [subDepth, MEv.isStart, e],
          List.forall_mem_cons.mpr ⟨rfl, hu⟩, by simpa [unmark, balance_start] using hm, hR,
          by simpa [subDepth, MEv.isStart] using hf⟩
      · simp only [unmark] at h
        obtain ⟨st', hst, h⟩ := balance_end_some h
        cases inner with
        | nil =>
          cases hst
          obtain ⟨g, f⟩ := ih0 rs outer h (by simpa [subDepth, MEv.isStart, MEv.isEnd] using hok)
          exact ⟨[], selectGo 0 rs s, by simp [subDepth, MEv.isStart, MEv.isEnd], (fun _ hp => nomatch hp), rfl, g,
            by simpa [subDepth, MEv.isStart, MEv.isEnd] using f⟩
        | cons t' inner' =>
          cases hst
          obtain ⟨mid, R, e, hu, hm, hR, hf⟩ := ih1 rs inner' t0 outer h
            (by simpa [subDepth, MEv.isStart, MEv.isEnd] using hok)
          refine ⟨(some .inside, .ev (.end_ t)) :: mid, R, by simp [subDepth, MEv.isStart, MEv.isEnd, e],
            List.forall_mem_cons.mpr ⟨rfl, hu⟩, by simpa [unmark, balance_end_same] using hm, hR,
            by simpa [subDepth, MEv.isStart, MEv.isEnd] using hf⟩
      · -- an event that does not touch the stack
        rw [balance_unmark_skip hn] at h
        obtain ⟨mid, R, e, hu, hm, hR, hf⟩ := ih1 rs inner t0 outer h (by simpa [subDepth, hs, he] using hok)
        refine ⟨(some .inside, x) :: mid, R, by simp [subDepth, hs, he, e],
          List.forall_mem_cons.mpr ⟨rfl, hu⟩, by rw [balance_unmark_skip hn]; exact hm, hR,
          by simpa [subDepth, hs, he] using hf⟩

/-- what `select_marks_wf` (`Props/C20.lean`) rests on -/
theorem select_good (rs : List Res) (s : MStream) (hwn : WellNested (unmark s))
    (hok : selOk 0 rs s = true) : Good (selectGo 0 rs s) ∧ selectFin 0 rs s = 0 :=
  (select_claim s).1 rs [] hwn hok

end Genshi.Tf
