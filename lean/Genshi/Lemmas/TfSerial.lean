/-
  C20 — well-nestedness of the serializer-internal filters of `genshi/output.py`
  (EmptyTagFilter, WhitespaceFilter, NamespaceFlattener, DocTypeInserter), stated over
  the shared `Event` vocabulary of `Model/Core.lean`.

  The filters work on the event type `XEv ν` of `Model/Output.lean`, which has the
  extra kind EMPTY.  `expandQ` / `expandF` map such events back to `Event`s (an EMPTY
  becomes START followed by END), so that `balance` / `WellNested` apply.
-/
import Genshi.Lemmas.Tf
import Genshi.Lemmas.OutputTree
import Genshi.Lemmas.OutputWs
namespace Genshi.Tf.Serial
open Genshi Genshi.Output

/-- an event before the NamespaceFlattener as shared events: EMPTY is START + END -/
def expandQ : QEv → List Event
  | .start t a => [.start t a]
  | .empty t a => [.start t a, .end_ t]
  | .end_ t => [.end_ t]
  | .text s f => [.text s f]
  | .comment s => [.comment s]
  | .pi t d => [.pi t d]
  | .doctype n p s => [.doctype n p s]
  | .xmlDecl v e s => [.xmlDecl v e s]
  | .startNs p u => [.startNs p u]
  | .endNs p => [.endNs p]
  | .startCdata => [.startCdata]
  | .endCdata => [.endCdata]

def toStreamQ (es : List QEv) : Stream := es.flatMap expandQ

/-- a flattened (prefixed) name as a `QName` without namespace -/
def qn (n : Str) : QName := ⟨[], n⟩

def qnAttrs (a : FAttrs) : AttrList := a.map fun p => (qn p.1, p.2)

/-- an event after the NamespaceFlattener as shared events -/
def expandF : FEv → List Event
  | .start t a => [.start (qn t) (qnAttrs a)]
  | .empty t a => [.start (qn t) (qnAttrs a), .end_ (qn t)]
  | .end_ t => [.end_ (qn t)]
  | .text s f => [.text s f]
  | .comment s => [.comment s]
  | .pi t d => [.pi t d]
  | .doctype n p s => [.doctype n p s]
  | .xmlDecl v e s => [.xmlDecl v e s]
  | .startNs p u => [.startNs p u]
  | .endNs p => [.endNs p]
  | .startCdata => [.startCdata]
  | .endCdata => [.endCdata]

def toStreamF (es : List FEv) : Stream := es.flatMap expandF

@[simp] theorem toStreamQ_nil : toStreamQ [] = [] := rfl
@[simp] theorem toStreamQ_cons (e : QEv) (es : List QEv) :
    toStreamQ (e :: es) = expandQ e ++ toStreamQ es := by simp [toStreamQ]
@[simp] theorem toStreamQ_append (a b : List QEv) :
    toStreamQ (a ++ b) = toStreamQ a ++ toStreamQ b := by simp [toStreamQ]
@[simp] theorem toStreamF_nil : toStreamF [] = [] := rfl
@[simp] theorem toStreamF_cons (e : FEv) (es : List FEv) :
    toStreamF (e :: es) = expandF e ++ toStreamF es := by simp [toStreamF]
@[simp] theorem toStreamF_append (a b : List FEv) :
    toStreamF (a ++ b) = toStreamF a ++ toStreamF b := by simp [toStreamF]

theorem expandQ_ofEvent (e : Event) : expandQ (ofEvent e) = [e] := by
  cases e <;> rfl

theorem toStreamQ_ofEvent (s : Stream) : toStreamQ (s.map ofEvent) = s := by
  induction s with
  | nil => rfl
  | cons e es ih => rw [List.map_cons, toStreamQ_cons, expandQ_ofEvent, ih]; rfl

section
variable (st : List QName) (es : Stream)
@[simp] theorem balance_text (x : Str) (f : Bool) : balance st (.text x f :: es) = balance st es :=
  balance_skip _ rfl st es
@[simp] theorem balance_comment (x : Str) : balance st (.comment x :: es) = balance st es :=
  balance_skip _ rfl st es
@[simp] theorem balance_pi (x y : Str) : balance st (.pi x y :: es) = balance st es :=
  balance_skip _ rfl st es
@[simp] theorem balance_doctype (x : Str) (y z : Option Str) :
    balance st (.doctype x y z :: es) = balance st es := balance_skip _ rfl st es
@[simp] theorem balance_xmlDecl (x : Str) (y : Option Str) (z : Int) :
    balance st (.xmlDecl x y z :: es) = balance st es := balance_skip _ rfl st es
@[simp] theorem balance_startNs (x y : Str) : balance st (.startNs x y :: es) = balance st es :=
  balance_skip _ rfl st es
@[simp] theorem balance_endNs (x : Str) : balance st (.endNs x :: es) = balance st es :=
  balance_skip _ rfl st es
@[simp] theorem balance_startCdata : balance st (.startCdata :: es) = balance st es :=
  balance_skip _ rfl st es
@[simp] theorem balance_endCdata : balance st (.endCdata :: es) = balance st es :=
  balance_skip _ rfl st es
end

/-- the stack the input is read on: the held-back START is already open there -/
def pendStack (p : Option (QName × AttrList)) (st : List QName) : List QName :=
  match p with
  | some (t, _) => t :: st
  | none => st

/-- does the filter end with a START held back (which it then drops)? -/
def endsPending : Option (QName × AttrList) → Stream → Bool
  | p, [] => p.isSome
  | _, .start t a :: es => endsPending (some (t, a)) es
  | _, _ :: es => endsPending none es

/-- `r` without its innermost element iff `b` -/
def dropTop (b : Bool) (r : List QName) : List QName :=
  match b with
  | true => r.tail
  | false => r

theorem endsPending_other (p : Option (QName × AttrList)) (e : Event) (es : Stream)
    (h : e.isStartEnd = false) : endsPending p (e :: es) = endsPending none es := by
  cases e <;> simp_all [Event.isStartEnd, endsPending]

/-- EmptyTagFilter, every input and every state: if the input balances to `r`, the expansion of
    the output balances to `r` as well — minus the innermost open element when the stream ends
    in a START (the real filter never yields that event). -/
theorem emptytag_balance : ∀ (s : Stream) (p : Option (QName × AttrList)) (st r : List QName),
    balance (pendStack p st) s = some r →
    balance st (toStreamQ (emptyTag p s)) = some (dropTop (endsPending p s) r) := by
  intro s
  induction s with
  | nil =>
    intro p st r h
    cases p with
    | none => simpa [pendStack, balance, emptyTag, endsPending, dropTop] using h
    | some ta =>
      obtain ⟨t, a⟩ := ta
      simp only [pendStack, balance, Option.some.injEq] at h
      subst h
      simp [emptyTag, endsPending, balance, dropTop]
  | cons e es ih =>
    -- nothing held back: a START is held back, everything else passes
    have hnone : ∀ st r, balance st (e :: es) = some r →
        balance st (toStreamQ (emptyTag none (e :: es))) = some (dropTop (endsPending none (e :: es)) r) := by
      intro st r h
      rcases e.startEnd_cases with ⟨t, a, rfl⟩ | ⟨t, rfl⟩ | he
      · rw [balance_start] at h
        exact ih (some (t, a)) st r h
      · obtain ⟨st', rfl, h'⟩ := balance_end_some h
        simp only [emptyTag, endsPending, ofEvent, toStreamQ_cons, expandQ, List.singleton_append]
        rw [balance_end_same]
        exact ih none st' r h'
      · rw [balance_skip _ he] at h
        rw [emptyTag_none_nonstart _ _ he, endsPending_other _ _ _ he, toStreamQ_cons,
          expandQ_ofEvent, List.singleton_append, balance_skip _ he]
        exact ih none st r h
    intro p st r h
    cases p with
    | none => exact hnone st r h
    | some ta =>
      obtain ⟨t, a⟩ := ta
      simp only [pendStack] at h
      by_cases hend : ∃ t', e = .end_ t'
      · -- the END closes the START held back: an EMPTY (its name is not compared)
        obtain ⟨t', rfl⟩ := hend
        obtain ⟨_, hst, h'⟩ := balance_end_some h
        cases hst
        simp only [emptyTag, endsPending, toStreamQ_cons, expandQ, List.cons_append, List.nil_append]
        rw [balance_empty]
        exact ih none st r h'
      · -- the START held back is released in front of anything else
        have hne : ∀ t', e ≠ .end_ t' := fun t' h => hend ⟨t', h⟩
        have hp : endsPending (some (t, a)) (e :: es) = endsPending none (e :: es) := by cases e <;> rfl
        rw [emptyTag_some_nonend t a e es hne, hp, toStreamQ_cons]
        simp only [expandQ, List.singleton_append]
        rw [balance_start]
        exact hnone (t :: st) r h

theorem emptytag_closes (s : Stream) (st : List QName) (p : Option (QName × AttrList))
    (h : balance (pendStack p st) s = some []) :
    balance st (toStreamQ (emptyTag p s)) = some [] := by
  have := emptytag_balance s p st [] h
  cases hb : endsPending p s <;> simpa [hb, dropTop] using this

theorem emptytag_wellnested : ∀ s : Stream, WellNested s → WellNested (toStreamQ (emptyTag none s)) := by
  intro s h
  exact emptytag_closes s [] none h

theorem emptytag_balance_eq (s : Stream) (h : WellNested s) :
    balance [] (toStreamQ (emptyTag none s)) = balance [] s := by
  rw [emptytag_wellnested s h, h]

/-- on a forest: the same from the owners' `emptyTag_flattenList` -/
theorem emptytag_forest_wellnested (ns : List Node) (h : okList ns = true) :
    WellNested (toStreamQ (forestQ ns)) := by
  rw [← emptyTag_flattenList ns h]
  exact emptytag_wellnested _ (wellNested_flattenList ns h)

theorem doctype_inserter_balance (d : Str × Option Str × Option Str) (es : List FEv) (st : List QName) :
    balance st (toStreamF (docTypeInsert d es)) = balance st (toStreamF es) := by
  fun_cases docTypeInsert d es <;> simp [expandF]

theorem doctype_inserter_wellnested (d : Str × Option Str × Option Str) (es : List FEv) :
    WellNested (toStreamF es) → WellNested (toStreamF (docTypeInsert d es)) :=
  (wellNested_congr (doctype_inserter_balance d es [])).2

def notText : QEv → Bool
  | .text _ _ => false
  | _ => true

/-- an event is a TEXT or passes `notText`: the two clauses of the whitespace filter -/
theorem notText_cases (e : QEv) : (∃ s f, e = .text s f) ∨ (notText e = true ∧ ∀ s f, e ≠ .text s f) := by
  cases e <;> simp [notText]

/-- what is flushed is TEXT -/
theorem wsFlush_notText (norm : Bool → Str → Str) (st : WsSt) : (wsFlushG norm st).filter notText = [] := by
  unfold wsFlushG; split <;> rfl

theorem whitespace_filter_skeleton (norm : Bool → Str → Str) (cfg : WsCfg) :
    ∀ (es : List QEv) (st : WsSt),
      (wsFilterG norm cfg st es).filter notText = es.filter notText := by
  intro es
  induction es with
  | nil => intro st; exact wsFlush_notText norm st
  | cons e rest ih =>
    intro st
    rcases notText_cases e with ⟨s, f, rfl⟩ | ⟨h, hne⟩
    · rw [List.filter_cons_of_neg (by simp [notText])]; exact ih _
    · rw [wsFilterG_cons norm cfg st e rest hne, List.filter_append, wsFlush_notText, List.nil_append,
        List.filter_cons_of_pos h, List.filter_cons_of_pos h, ih]

/-- nesting does not see TEXT events -/
theorem balance_filter_notText : ∀ (es : List QEv) (st : List QName),
    balance st (toStreamQ (es.filter notText)) = balance st (toStreamQ es)
  | [], _ => rfl
  | e :: es, st => by
    rcases notText_cases e with ⟨s, f, rfl⟩ | ⟨h, _⟩
    · rw [List.filter_cons_of_neg (by simp [notText]), toStreamQ_cons]
      exact (balance_filter_notText es st).trans (balance_skip _ rfl st _).symm
    · rw [List.filter_cons_of_pos h, toStreamQ_cons, toStreamQ_cons]
      exact balance_append_congr _ (balance_filter_notText es) st

/-- WhitespaceFilter, every normalisation / configuration / state / input / stack: the output has
    the balance of the input (only TEXT events are merged, rewritten or dropped:
    `whitespace_filter_skeleton`) -/
theorem whitespace_filter_balance (norm : Bool → Str → Str) (cfg : WsCfg) (es : List QEv) (st : WsSt)
    (st0 : List QName) :
    balance st0 (toStreamQ (wsFilterG norm cfg st es)) = balance st0 (toStreamQ es) := by
  rw [← balance_filter_notText, whitespace_filter_skeleton, balance_filter_notText]

theorem whitespace_filter_wellnested (norm : Bool → Str → Str) (cfg : WsCfg) (st : WsSt) (es : List QEv) :
    WellNested (toStreamQ (wsFilterG norm cfg st es)) ↔ WellNested (toStreamQ es) :=
  wellNested_congr (whitespace_filter_balance norm cfg es st [])

/-- the real filter (`norm = stdNorm`) from its initial state -/
theorem wsFilter_wellnested (cfg : WsCfg) (es : List QEv) (h : WellNested (toStreamQ es)) :
    WellNested (toStreamQ (wsFilter cfg {} es)) :=
  (whitespace_filter_wellnested stdNorm cfg {} es).2 h

/-! ### NamespaceFlattener (partial)

  The full statement

      ∀ (c : Bool) (st : FlatSt) (es : List QEv) (out : List FEv),
        WellNested (toStreamQ es) → flatten c st es = some out → WellNested (toStreamF out)

  is not proved here for C08/C09's lite model `Output.flatten` (it answers `none` outside its domain);
  for C02's total model of the same filter (`Genshi.Xml.flatRun`) the statement IS proved, full strength,
  in `Lemmas/TfSerialNs.lean` (`ns_flattener_wellnested`: the filter keeps the open elements on a stack,
  so the name written for an END is the name written for its START).    What is proved: on the domain of the
  owners' theorems `filtered_forest` (flattenings of forests without namespaces) and
  `filtered_forestU` (forests all of whose elements are in one namespace `u`, no namespace
  events) the output of the whole filter chain (EmptyTagFilter, NamespaceFlattener; no
  whitespace filter, no doctype option) expands to a well-nested stream.  Missing: input streams
  that are not flattenings of such forests (several namespaces, prefixed names, explicit
  START_NS/END_NS events and their placement), and the `cache = true` flattener.
-/

theorem leafF_balance (e : Event) (st : List QName) (rest : Stream) :
    balance st (toStreamF (leafF e).toList ++ rest) = balance st rest := by
  cases e <;> simp [leafF, expandF]

mutual
  theorem treeFu_balance (u : Str) : ∀ (n : Node) (sc : Bool) (st : List QName) (rest : Stream),
      balance st (toStreamF (treeFu u sc n) ++ rest) = balance st rest
    | .elem t a ks, sc, st, rest => by
        cases ks with
        | nil => simp [treeFu, expandF, balance_empty]
        | cons k ks' =>
          simp only [treeFu, List.isEmpty_cons, Bool.false_eq_true, ↓reduceIte, toStreamF_cons,
            toStreamF_append, expandF, List.cons_append, List.append_assoc,
            toStreamF_nil, List.append_nil, List.nil_append]
          rw [balance_start, forestFu_balance u (k :: ks') true (qn t.loc :: st) _, balance_end_same]
    | .leaf e, sc, st, rest => by
        simp only [treeFu]
        exact leafF_balance e st rest
  theorem forestFu_balance (u : Str) : ∀ (ns : List Node) (sc : Bool) (st : List QName) (rest : Stream),
      balance st (toStreamF (forestFu u sc ns) ++ rest) = balance st rest
    | [], sc, st, rest => by simp [forestFu]
    | n :: ns, sc, st, rest => by
        simp only [forestFu, toStreamF_append, List.append_assoc]
        rw [treeFu_balance u n sc st _, forestFu_balance u ns sc st rest]
end

theorem forestFu_wellnested (u : Str) (sc : Bool) (ns : List Node) :
    WellNested (toStreamF (forestFu u sc ns)) :=
  wellNested_of_balance_append (forestFu_balance u ns sc [])

/-! without namespaces the serializer is the one for a uniform namespace with `u = []` (`treeFu_nil`) -/

theorem treeF_balance : ∀ (n : Node) (st : List QName) (rest : Stream),
    balance st (toStreamF (treeF n) ++ rest) = balance st rest :=
  fun n st rest => treeFu_nil.1 n false ▸ treeFu_balance [] n false st rest

theorem forestF_balance (ns : List Node) (st : List QName) (rest : Stream) :
    balance st (toStreamF (forestF ns) ++ rest) = balance st rest :=
  treeFu_nil.2 ns false ▸ forestFu_balance [] ns false st rest

theorem forestF_wellnested (ns : List Node) : WellNested (toStreamF (forestF ns)) :=
  treeFu_nil.2 ns false ▸ forestFu_wellnested [] false ns

/-- NamespaceFlattener (behind EmptyTagFilter) on the flattening of a namespace-free forest: the
    filter chain delivers a stream, and its expansion is well nested -/
theorem ns_flattener_wellnested_partial (m : Method) (dropd : Bool) (ns : List Node)
    (hok : okList ns = true) (hns : forestNsFree ns = true) :
    ∃ out, filtered m { strip := false, cache := false, doctype := none, dropXmlDecl := dropd }
        (flattenList ns) = some out ∧ WellNested (toStreamF out) :=
  ⟨forestF ns, filtered_forest m false dropd ns hok hns, forestF_wellnested ns⟩

/-- the same on a forest all of whose elements are in one namespace `u` -/
theorem ns_flattener_wellnested_partialU (m : Method) (dropd : Bool) (u : Str) (hu : u ≠ xmlNs)
    (ns : List Node) (hok : okList ns = true) (hns : forestUniformNs u ns = true) :
    ∃ out, filtered m { strip := false, cache := false, doctype := none, dropXmlDecl := dropd }
        (flattenList ns) = some out ∧ WellNested (toStreamF out) :=
  ⟨forestFu u false ns, filtered_forestU m dropd u hu ns hok hns, forestFu_wellnested u false ns⟩

/-- with a doctype option the DocTypeInserter runs behind the flattener: still well nested -/
theorem ns_flattener_doctype_wellnested_partial (d : Str × Option Str × Option Str) (ns : List Node) :
    WellNested (toStreamF (docTypeInsert d (forestF ns))) :=
  doctype_inserter_wellnested d _ (forestF_wellnested ns)

section Examples

private def tA : QName := ⟨[], ['a']⟩
private def tB : QName := ⟨[], ['b']⟩
private def tC : QName := ⟨['u'], ['c']⟩

/-- `<a>x<b/><c><b>y</b></c></a>`: nested elements, one of them childless -/
private def sample : Stream :=
  [.start tA [], .text ['x'] false, .start tB [(tA, ['v'])], .end_ tB,
   .start tC [], .start tB [], .text ['y'] false, .end_ tB, .end_ tC, .end_ tA]

example : WellNested sample := by decide +kernel

/-- EmptyTagFilter makes an EMPTY out of `<b></b>` and keeps the nested rest -/
example : emptyTag none sample =
    [.start tA [], .text ['x'] false, .empty tB [(tA, ['v'])],
     .start tC [], .start tB [], .text ['y'] false, .end_ tB, .end_ tC, .end_ tA] := by decide +kernel

example : WellNested (toStreamQ (emptyTag none sample)) := by decide +kernel
example : WellNested (toStreamQ (emptyTag none sample)) := emptytag_wellnested _ (by decide)

/-- the hypothesis matters: an unclosed START is dropped, the model does not invent an END -/
example : toStreamQ (emptyTag none [.start tA [], .start tB []]) = [.start tA []] := by decide +kernel

/-- the quirk: the END closing a held-back START is not compared -/
example : ¬ WellNested [.start tA [], .end_ tB] ∧
    WellNested (toStreamQ (emptyTag none [.start tA [], .end_ tB])) := by decide +kernel

private def sampleF : List FEv :=
  [.xmlDecl ['1'] none (-1), .start ['a'] [], .start ['b'] [], .empty ['c'] [], .end_ ['b'], .end_ ['a']]

private def dt : Str × Option Str × Option Str := (['h'], none, none)

example : WellNested (toStreamF sampleF) := by decide +kernel
example : docTypeInsert dt sampleF =
    [.xmlDecl ['1'] none (-1), .doctype ['h'] none none, .start ['a'] [], .start ['b'] [],
     .empty ['c'] [], .end_ ['b'], .end_ ['a']] := by decide +kernel
example : WellNested (toStreamF (docTypeInsert dt sampleF)) := by decide +kernel
example : WellNested (toStreamF (docTypeInsert dt sampleF)) :=
  doctype_inserter_wellnested dt sampleF (by decide)

/-- input of the whitespace filter: two adjacent TEXT events inside nested elements -/
private def sampleQ : List QEv :=
  [.start tA [], .text ['x', ' '] true, .text ['\n', '\n'] true, .start tB [], .empty tC [], .end_ tB,
   .text ['z'] true, .end_ tA]

private def cfg0 : WsCfg := ⟨[], [], true⟩

example : WellNested (toStreamQ sampleQ) := by decide +kernel
/-- the merging filter (no normalisation) joins the two TEXT events and keeps the skeleton -/
example : wsFilterG (fun _ s => s) cfg0 {} sampleQ =
    [.start tA [], .text ['x', ' ', '\n', '\n'] true, .start tB [], .empty tC [], .end_ tB,
     .text ['z'] true, .end_ tA] := by decide +kernel
example : WellNested (toStreamQ (wsFilterG (fun _ s => s) cfg0 {} sampleQ)) := by decide +kernel
example : WellNested (toStreamQ (wsFilter cfg0 {} sampleQ)) :=
  wsFilter_wellnested cfg0 sampleQ (by decide)

/-- `<a k="v"><b/>t<b><a/></b></a>` as a forest -/
private def sampleForest : List Node :=
  [.elem tA [(⟨[], ['k']⟩, ['v'])]
    [.elem tB [] [], .leaf (.text ['t'] false), .elem tB [] [.elem tA [] []]]]

example : okList sampleForest = true ∧ forestNsFree sampleForest = true := by decide +kernel
example : forestF sampleForest =
    [.start ['a'] [(['k'], ['v'])], .empty ['b'] [], .text ['t'] false, .start ['b'] [],
     .empty ['a'] [], .end_ ['b'], .end_ ['a']] := by decide +kernel
example : WellNested (toStreamF (forestF sampleForest)) := by decide +kernel
example : ∃ out, filtered .xml { strip := false, cache := false, doctype := none, dropXmlDecl := true }
    (flattenList sampleForest) = some out ∧ WellNested (toStreamF out) :=
  ns_flattener_wellnested_partial .xml true sampleForest (by decide) (by decide)

private def tUa : QName := ⟨['u'], ['a']⟩
private def tUb : QName := ⟨['u'], ['b']⟩
private def sampleForestU : List Node :=
  [.elem tUa [] [.elem tUb [] [], .elem tUb [] [.leaf (.text ['t'] false)]]]

example : okList sampleForestU = true ∧ forestUniformNs ['u'] sampleForestU = true := by decide +kernel
example : forestFu ['u'] false sampleForestU =
    [.start ['a'] [(xmlns, ['u'])], .empty ['b'] [], .start ['b'] [], .text ['t'] false,
     .end_ ['b'], .end_ ['a']] := by decide +kernel
example : WellNested (toStreamF (forestFu ['u'] false sampleForestU)) := by decide +kernel
example : ∃ out, filtered .xhtml { strip := false, cache := false, doctype := none, dropXmlDecl := true }
    (flattenList sampleForestU) = some out ∧ WellNested (toStreamF out) :=
  ns_flattener_wellnested_partialU .xhtml true ['u'] (by decide) sampleForestU (by decide) (by decide)

end Examples

end Genshi.Tf.Serial
