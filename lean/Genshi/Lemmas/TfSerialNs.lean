/-
  C20 — the NamespaceFlattener (C02's total model `Genshi.Xml.flatRun`, `Model/XmlFlatten.lean`:
  genshi/output.py after the repair "NamespaceFlattener keeps track of which prefix is bound to
  which URI") maps EVERY well-nested stream to a well-nested stream: the name written for an END is
  the name written for its START (the filter keeps the open elements on a stack, `elems`).
-/
import Genshi.Model.XmlFlatten
import Genshi.Lemmas.TfSerial
namespace Genshi.Tf.Serial
open Genshi Genshi.Xml

/-- the stream after `EmptyTagFilter` (C02's vocabulary) read back in the shared vocabulary -/
def expandX : Xml.XEv → List Event
  | .ev e => [e]
  | .empty t a => [.start t a, .end_ t]

def toStreamX (es : List Xml.XEv) : Stream := es.flatMap expandX

/-- the flattened stream (C02's vocabulary) read back in the shared vocabulary -/
def expandXF : Xml.FEv → List Event
  | .start n a => [.start (qn n) (qnAttrs a)]
  | .empty n a => [.start (qn n) (qnAttrs a), .end_ (qn n)]
  | .end_ n => [.end_ (qn n)]
  | .other e => [e]

def toStreamXF (es : List Xml.FEv) : Stream := es.flatMap expandXF

@[simp] theorem toStreamX_cons (e : Xml.XEv) (es : List Xml.XEv) : toStreamX (e :: es) = expandX e ++ toStreamX es := by
  simp [toStreamX]

@[simp] theorem toStreamXF_append (a b : List Xml.FEv) : toStreamXF (a ++ b) = toStreamXF a ++ toStreamXF b := by
  simp [toStreamXF]

/-- the names of the open elements, as the balance stack of the output -/
def openNames (st : FSt) : List QName := st.elems.map fun p => qn p.1

/-- The input is balanced on `stk`, the output on the names the filter wrote for the open elements;
    the two stacks need only have the same length.  Input and output names are never compared: the
    name written for an END is popped from `st.elems`, where the START put it. -/
theorem flatRun_balance (pref : List (Str × Str)) : ∀ (s : List Xml.XEv) (st : FSt) (stk : List QName),
    stk.length = st.elems.length → balance stk (toStreamX s) = some [] →
    balance (openNames st) (toStreamXF (flatRun pref st s)) = some []
  | [], st, stk, hl, h => by
    simp only [toStreamX, List.flatMap_nil, balance, Option.some.injEq] at h
    subst h
    have : st.elems = [] := by
      cases he : st.elems with
      | nil => rfl
      | cons p r => rw [he] at hl; simp at hl
    simp [flatRun, toStreamXF, openNames, this, balance]
  | x :: s, st, stk, hl, h => by
    have ih := flatRun_balance pref s
    cases x with
    | empty tag attrs =>
      simp only [toStreamX_cons, expandX, List.cons_append, List.nil_append, balance_empty] at h
      simp only [flatRun, flatStep]
      generalize flatStart pref st tag attrs = r
      obtain ⟨name, as, t⟩ := r
      simp only [toStreamXF_append]
      have := ih { bindings := st.bindings, pending := [], elems := st.elems, counter := t.counter } stk hl h
      simpa [toStreamXF, expandXF, balance_empty, openNames] using this
    | ev e =>
      cases e with
      | start tag attrs =>
        simp only [toStreamX_cons, expandX, List.cons_append, List.nil_append, balance_start] at h
        simp only [flatRun, flatStep]
        generalize flatStart pref st tag attrs = r
        obtain ⟨name, as, t⟩ := r
        simp only [toStreamXF_append]
        have := ih { bindings := t.bindings, pending := [], elems := (name, t.declared.length) :: st.elems,
                     counter := t.counter } (tag :: stk) (by simp [hl]) h
        simpa [toStreamXF, expandXF, balance_start, openNames] using this
      | end_ tag =>
        simp only [toStreamX_cons, expandX, List.cons_append, List.nil_append] at h
        obtain ⟨stk', rfl, h'⟩ := balance_end_some h
        cases he : st.elems with
        | nil => rw [he] at hl; simp at hl
        | cons p rest =>
          obtain ⟨name, n⟩ := p
          simp only [flatRun, flatStep, he, toStreamXF_append]
          have := ih { st with bindings := st.bindings.drop n, elems := rest } stk'
            (by rw [he] at hl; simpa using hl) h'
          simpa [toStreamXF, expandXF, openNames, he, balance_end_same] using this
      | startNs p u =>
        simp only [toStreamX_cons, expandX, List.cons_append, List.nil_append, balance_startNs] at h
        simp only [flatRun, flatStep, List.nil_append]
        exact ih { st with pending := st.pending.filter (fun d => d.1 ≠ p) ++ [(p, u)] } stk hl h
      | endNs p =>
        simp only [toStreamX_cons, expandX, List.cons_append, List.nil_append, balance_endNs] at h
        simp only [flatRun, flatStep, List.nil_append]
        exact ih { st with pending := st.pending.filter (fun d => d.1 ≠ p) } stk hl h
      | text | comment | pi | doctype | xmlDecl | startCdata | endCdata =>
        simp only [toStreamX_cons, expandX, List.cons_append, List.nil_append, balance_text, balance_comment,
          balance_pi, balance_doctype, balance_xmlDecl, balance_startCdata, balance_endCdata] at h
        simpa [flatRun, flatStep, toStreamXF, expandXF] using ih st stk hl h

theorem ns_flattener_wellnested (pref : List (Str × Str)) (s : List Xml.XEv) (h : WellNested (toStreamX s)) :
    WellNested (toStreamXF (Xml.flatten pref s)) := by
  have := flatRun_balance pref s FSt.init [] (by simp [FSt.init]) h
  simpa [openNames, FSt.init, Xml.flatten, WellNested] using this

/-- C02's model of the EmptyTagFilter (`Xml.emptyTagGo`) and C08's (`Output.emptyTag`) are the same
    function written in two vocabularies -/
theorem toStreamX_emptyTagGo : ∀ (s : Stream) (p : Option (QName × AttrList)),
    toStreamX (emptyTagGo p s) = toStreamQ (Output.emptyTag p s)
  | [], p => by cases p <;> rfl
  | e :: es, p => by
    have ih := toStreamX_emptyTagGo es
    cases p with
    | none =>
      cases e <;> simp only [emptyTagGo, Output.emptyTag, toStreamX_cons, toStreamQ_cons, expandX, expandQ, Output.ofEvent, ih]
    | some q =>
      obtain ⟨t, a⟩ := q
      cases e <;> simp only [emptyTagGo, Output.emptyTag, toStreamX_cons, toStreamQ_cons, expandX, expandQ, Output.ofEvent, ih]

theorem emptyTagX_wellnested (s : Stream) (p : Option (QName × AttrList)) (stk : List QName)
    (h : balance (pendStack p stk) s = some []) : balance stk (toStreamX (emptyTagGo p s)) = some [] := by
  rw [toStreamX_emptyTagGo]; exact emptytag_closes s stk p h

theorem emptytag_ns_flattener_wellnested (pref : List (Str × Str)) (s : Stream) (h : WellNested s) :
    WellNested (toStreamXF (Xml.flatten pref (Xml.emptyTag s))) :=
  ns_flattener_wellnested pref _ (emptyTagX_wellnested s none [] (by simpa [pendStack, WellNested] using h))

end Genshi.Tf.Serial

namespace Genshi.Tf.Serial
open Genshi Genshi.Xml

/-- non-vacuity: two namespaces, a START_NS / END_NS pair INSIDE an element, an empty element -/
example :
    let s : Stream := [.start ⟨['u'], ['a']⟩ [], .startNs ['p'] ['v'], .start ⟨['v'], ['b']⟩ [(⟨['u'], ['k']⟩, ['1'])],
      .end_ ⟨['v'], ['b']⟩, .endNs ['p'], .text ['t'] false, .end_ ⟨['u'], ['a']⟩]
    WellNested s ∧ WellNested (toStreamXF (Xml.flatten [] (Xml.emptyTag s))) := by decide +kernel

end Genshi.Tf.Serial
