/-
  The lazily evaluated chain (`runLazy`, the push pipeline) equals the link-by-link trace
  semantics (`runTrace`, Model/TfTrace.lean) whenever, between two barriers, no link writes a
  buffer that it or a link before it reads (`lazyRaw`).  On the way: injections can be expanded
  beforehand (`execActs_resolve`), and then the effects commute past the pipeline
  (`execActs_commute`, the lemma behind the stage-wise reading in `Lemmas/TfLazyAgree.lean`).
-/
import Genshi.Lemmas.TfLink
namespace Genshi.Tf

theorem contentAt_eq (b : BufF) (c : Content) : contentAt b c = contentF b c := by
  cases c <;> rfl

theorem injFree_iff : ∀ a : List Act, injFree a = true ↔ ∀ x ∈ a, ∀ c, x ≠ .inj c
  | [] => ⟨fun _ _ h => (nomatch h), fun _ => rfl⟩
  | x :: a => by
    rw [List.forall_mem_cons]
    cases x with
    | inj c => exact ⟨fun h => (nomatch h), fun h => absurd rfl (h.1 c)⟩
    | _ => exact (injFree_iff a).trans ⟨fun h => ⟨nofun, h⟩, fun h => h.2⟩

/-- what is left when the injections are expanded: the other actions, and items -/
theorem mem_resolve {x : Act} {a : List Act} : ∀ {b : BufF}, x ∈ resolve b a →
    (x ∈ a ∧ ∀ c, x ≠ .inj c) ∨ ∃ p, x = .out p := by
  induction a with
  | nil => intro b h; cases h
  | cons y a ih =>
    intro b h
    have tl : ∀ {b}, x ∈ resolve b a → (x ∈ y :: a ∧ ∀ c, x ≠ .inj c) ∨ ∃ p, x = .out p := fun h =>
      (ih h).imp (fun h => ⟨List.mem_cons_of_mem _ h.1, h.2⟩) id
    cases y with
    | inj c =>
      rcases List.mem_append.mp h with h | h
      · obtain ⟨p, _, rfl⟩ := List.mem_map.mp h
        exact .inr ⟨p, rfl⟩
      · exact tl h
    | out | reset | app =>
      rcases List.mem_cons.mp h with rfl | h
      · exact .inl ⟨List.mem_cons_self, nofun⟩
      · exact tl h

theorem injFree_resolve (a : List Act) (b : BufF) : injFree (resolve b a) = true :=
  (injFree_iff _).mpr fun x hx c => by
    rcases mem_resolve hx with ⟨_, h⟩ | ⟨p, rfl⟩
    · exact h c
    · nofun

theorem resolve_injFree : ∀ (a : List Act) (b : BufF), injFree a = true → resolve b a = a
  | [], _, _ => rfl
  | a :: as, b, h => by
    cases a with
    | inj c => simp [injFree] at h
    | out x => simp only [resolve]; rw [resolve_injFree as b (by simpa [injFree] using h)]
    | reset id => simp only [resolve]; rw [resolve_injFree as _ (by simpa [injFree] using h)]
    | app id x => simp only [resolve]; rw [resolve_injFree as _ (by simpa [injFree] using h)]

theorem writes_eq_wrOps : ∀ ops : List Op, writes ops = wrOps ops
  | [] => rfl
  | op :: ops => by
    have ih := writes_eq_wrOps ops
    cases op <;> simp [writes, wrOps, wrOp, ih] <;> simp [wrOps]

/-- `rawOk` as a proposition -/
def RawOk : List Op → Prop
  | [] => True
  | op :: ops => (∀ i ∈ rdOp op, i ∉ wrOps ops) ∧ RawOk ops

theorem rawOk_iff : ∀ ops : List Op, rawOk ops = true ↔ RawOk ops
  | [] => by simp [rawOk, RawOk]
  | op :: ops => by
    rw [rawOk, RawOk, Bool.and_eq_true, rawOk_iff ops, rdOp, writes_eq_wrOps]
    cases readsOf op <;> simp

theorem seqR_congr_ok (r : R) (k1 k2 : List Ctl → BufF → R)
    (h : ∀ cs b o, r = .ok (cs, b, o) → k1 cs b = k2 cs b) : seqR r k1 = seqR r k2 := by
  cases r with
  | err => rfl
  | div => rfl
  | ok x =>
    obtain ⟨cs, b, o⟩ := x
    simp only [seqR, h cs b o rfl]

theorem BufF.set_agree {w : List Nat} {b b0 : BufF} (id : Nat) (v v0 : List MEv)
    (h : ∀ i, i ∉ w → b i = b0 i) (hv : id ∉ w → v = v0) : ∀ i, i ∉ w → (b.set id v) i = (b0.set id v0) i := by
  intro i hi
  simp only [BufF.set]
  split
  · rename_i h1; subst h1; exact hv hi
  · exact h i hi

/-- a pipeline that does not write what the actions read: their injections can be expanded
    beforehand -/
theorem execActs_resolve {F : Nat} {push : List Ctl → BufF → MItem → R} {p : Nat → Bool} {w : List Nat}
    (hp : Respects push p w) : ∀ (a : List Act) cs (b b0 : BufF),
    (∀ x ∈ a, ∀ i ∈ x.rd, i ∉ w) → (∀ i, i ∉ w → b i = b0 i) →
    execActs F push a cs b = execActs F push (resolve b0 a) cs b
  | [], cs, b, b0, _, _ => rfl
  | x :: as, cs, b, b0, hrd, hb => by
    have hrd' : ∀ y ∈ as, ∀ i ∈ y.rd, i ∉ w := fun y hy => hrd y (List.mem_cons_of_mem _ hy)
    have ih := fun cs b b0 => execActs_resolve (F := F) hp as cs b b0 hrd'
    cases x with
    | out y =>
      simp only [resolve, execActs]
      exact seqR_congr_ok _ _ _ (fun cs1 b1 o1 h1 =>
        ih cs1 b1 b0 (fun i hi => by rw [hp.stable cs b y cs1 b1 o1 h1 i hi]; exact hb i hi))
    | reset id =>
      simp only [resolve, execActs]
      exact ih cs _ _ (BufF.set_agree id [] [] hb (fun _ => rfl))
    | app id y =>
      simp only [resolve, execActs]
      exact ih cs _ _ (BufF.set_agree id _ _ hb (fun hid => by rw [hb id hid]))
    | inj c =>
      cases c with
      | buf id =>
        have hid : id ∉ w := hrd _ (List.mem_cons_self ..) id (by simp [Act.rd])
        simp only [resolve, execActs, contentAt]
        rw [injLoop_const hp id hid _ 0 cs b (by omega), execActs_append, execActs_outs]
        simp only [List.drop_zero, hb id hid]
        exact seqR_congr_ok _ _ _ (fun cs1 b1 o1 h1 =>
          ih cs1 b1 b0 (fun i hi => by rw [pushList_stable hp _ cs b cs1 b1 o1 h1 i hi]; exact hb i hi))
      | str s | evs s =>
        simp only [resolve, execActs, contentAt]
        rw [execActs_append, execActs_outs]
        exact seqR_congr_ok _ _ _ (fun cs1 b1 o1 h1 =>
          ih cs1 b1 b0 (fun i hi => by rw [pushList_stable hp _ cs b cs1 b1 o1 h1 i hi]; exact hb i hi))

theorem rd_of_injFree : ∀ (a : List Act), injFree a = true → ∀ x ∈ a, x.rd = [] := by
  intro a h x hx
  cases x with
  | inj c => exact absurd rfl ((injFree_iff a).mp h _ hx c)
  | _ => rfl

theorem effs_resolve : ∀ (a : List Act) (b b0 : BufF), effs (resolve b0 a) b = effs a b
  | [], _, _ => rfl
  | x :: a, b, b0 => by
    cases x with
    | out | reset | app => simp only [resolve, effs, effs_resolve a]
    | inj c => simp only [resolve, effs, effs_append, effs_outs, effs_resolve a]

/-- injections whose buffers the list itself does not write: resolving = expanding with the
    initial buffers -/
theorem outsOf_resolve_flat {w r : List Nat} (hwr : ∀ i ∈ w, i ∉ r) : ∀ (a : List Act) (b : BufF), ActsIn w r a →
    outsOf (resolve b a) = flat b a
  | [], _, _ => rfl
  | x :: a, b, h => by
    have ih := fun b => outsOf_resolve_flat hwr a b h.tail
    cases x with
    | out y => simp only [resolve, outsOf, flat, ih]
    | inj c => simp only [resolve, outsOf_append, outsOf_outs, flat, ih, contentAt_eq]
    | reset id =>
      have hid : id ∈ w := h.head.1 id (by simp [Act.wr])
      simp only [resolve, outsOf, flat, ih]
      exact flat_congr h.tail (fun i hi => by
        have : i ≠ id := by intro hc; subst hc; exact hwr i hid hi
        simp [BufF.set, this])
    | app id y =>
      have hid : id ∈ w := h.head.1 id (by simp [Act.wr])
      simp only [resolve, outsOf, flat, ih]
      exact flat_congr h.tail (fun i hi => by
        have : i ≠ id := by intro hc; subst hc; exact hwr i hid hi
        simp [BufF.set, this])

theorem resolve_wr (a : List Act) (b : BufF) (w : List Nat) (h : ∀ x ∈ a, ∀ i ∈ x.wr, i ∈ w) :
    ∀ x ∈ resolve b a, ∀ i ∈ x.wr, i ∈ w := by
  intro x hx i hi
  rcases mem_resolve hx with ⟨hx, _⟩ | ⟨p, rfl⟩
  · exact h x hx i hi
  · cases hi

/-- buffer effects on buffers the pipeline does not touch commute past it: the items are pushed, the
    effects done apart -/
theorem execActs_effs_commute (F : Nat) (ops : List Op) (W : List Nat)
    (hW : ∀ i ∈ W, i ∉ wrOps ops ∧ i ∉ rdOps ops) : ∀ (a : List Act) cs b, injFree a = true →
    ActsIn W [] a →
    execActs F (pushItem F ops) a cs b =
      mapB (mergeP (inW W) (effs a b)) (pushList (pushItem F ops) (outsOf a) cs b) := by
  have hp : Respects (pushItem F ops) (inW W) (wrOps ops) :=
    pushItem_respects F ops (inW W) (fun i hi => hW i (by simpa [inW] using hi))
  -- an effect `x`: it stays inside `W`, which the pipeline frames, so the rest may run on the old buffers
  have eff : ∀ (x : Act) (as : List Act) cs b, ActsIn W [] (x :: as) →
      execActs F (pushItem F ops) as cs (effs [x] b) =
        mapB (mergeP (inW W) (effs as (effs [x] b))) (pushList (pushItem F ops) (outsOf as) cs (effs [x] b)) →
      execActs F (pushItem F ops) as cs (effs [x] b) =
        mapB (mergeP (inW W) (effs as (effs [x] b))) (pushList (pushItem F ops) (outsOf as) cs b) := by
    intro x as cs b ha ih
    have hfr := pushList_frame hp (effs [x] b) (outsOf as) cs b
    rw [← effs_eq_mergeP (acts := [x]) (fun y hy => List.mem_singleton.mp hy ▸ ha.head) b] at hfr
    rw [ih, hfr, mapB_mapB]
    exact mapB_congr _ _ _ fun bb => mergeP_mergeP ..
  intro a
  induction a with
  | nil => intro cs b _ _; simp only [execActs, outsOf, pushList, effs, mapB, mergeP_self]
  | cons x as ih =>
    intro cs b hf ha
    cases x with
    | inj c => simp [injFree] at hf
    | reset | app => exact eff _ as cs b ha (ih cs _ hf ha.tail)
    | out y =>
      simp only [execActs, outsOf, effs, pushList]
      cases hl : pushItem F ops cs b y with
      | err => rfl
      | div => rfl
      | ok r =>
        obtain ⟨cs1, b1, o1⟩ := r
        -- the item leaves the buffers in `W` alone, so the effects of the rest are the same
        have hst := hp.stable cs b y cs1 b1 o1 hl
        have hef : mergeP (inW W) (effs as b1) = mergeP (inW W) (effs as b) := by
          funext bb
          exact mergeP_congr _ _ _ _ (fun i hi => by
            have hiW : i ∈ W := by simpa [inW] using hi
            exact effs_pointwise as (hst i (hW i hiW).1))
        simp only [seqR, ih cs1 b1 hf ha.tail, hef]
        cases pushList (pushItem F ops) (outsOf as) cs1 b1 with
        | err => rfl
        | div => rfl
        | ok y => obtain ⟨cs2, b2, o2⟩ := y; rfl

/-- Running the actions of a link whose written buffers `W` the rest of the pipeline does not
    touch, and whose read buffers `Rd` the rest does not write: the same as pushing everything the
    actions yield (injections read from the initial buffers) and doing the buffer effects apart.
    The injections are expanded beforehand (`execActs_resolve`, as for the trace semantics); then the
    effects commute. -/
theorem execActs_commute (F : Nat) (ops : List Op) (W Rd : List Nat)
    (hW : ∀ i ∈ W, i ∉ wrOps ops ∧ i ∉ rdOps ops) (hR : ∀ i ∈ Rd, i ∉ wrOps ops) (hWR : ∀ i ∈ W, i ∉ Rd) :
    ∀ (acts : List Act) cs b, ActsIn W Rd acts →
    execActs F (pushItem F ops) acts cs b =
      mapB (mergeP (inW W) (effs acts b)) (pushList (pushItem F ops) (flat b acts) cs b) := by
  intro acts cs b hin
  have hp : Respects (pushItem F ops) (fun _ => false) (wrOps ops) :=
    pushItem_respects F ops (fun _ => false) (by intro i hi; simp at hi)
  have hf := injFree_resolve acts b
  rw [execActs_resolve hp acts cs b b (fun x hx i hi => hR i ((hin x hx).2 i hi)) (fun _ _ => rfl),
    execActs_effs_commute F ops W hW _ cs b hf (fun x hx =>
      ⟨resolve_wr acts b W (fun y hy => (hin y hy).1) x hx, by rw [rd_of_injFree _ hf x hx]; nofun⟩),
    effs_resolve, outsOf_resolve_flat hWR acts b hin]

/-- The push pipeline fed an action list is the trace semantics of its links, link by link: the first
    link is fused out (`LinkRun.fuse`: the pipeline without it, fed what the link makes of the list),
    its injections are expanded with the buffers of their moment (`execActs_resolve`: by `RawOk` the rest
    of the pipeline writes no buffer they read), the rest is the induction hypothesis.  Of `Respects`
    only the `stable` half is wanted here, hence the empty set `fun _ => false` of framed buffers. -/
theorem pipeline_trace (F : Nat) : ∀ (ops : List Op) (cs : List Ctl) (b : BufF) (a : List Act),
    cs.length = ops.length → RawOk ops → injFree a = true →
    (seqF (execActs F (pushItem F ops) a cs b) (finish F ops)).toOption =
      (traceFrom ops cs b a).map fun t => (effs t b, outsOf t)
  | [], cs, b, a, hl, _, hf => by
    have : cs = [] := by simpa using hl
    subst this
    rw [execActs_nil_ops F a b hf]
    simp [seqF, finish, traceFrom, Out.toOption]
  | op :: ops, cs, b, a, hl, hraw, hf => by
    cases cs with
    | nil => simp at hl
    | cons c cs =>
      have hl' : cs.length = ops.length := by simpa using hl
      simp only [traceFrom]
      cases hu : linkU op c a with
      | none =>
        rw [fuse_none F op ops a c cs b hf hu]; rfl
      | some u =>
        have hp : Respects (pushItem F ops) (fun _ => false) (wrOps ops) :=
          pushItem_respects F ops (fun _ => false) (by intro i hi; simp at hi)
        have hr := linkU_run hf hu
        have hrd : ∀ x ∈ u, ∀ i ∈ x.rd, i ∉ wrOps ops := fun x hx i hi => hraw.1 i (hr.rd x hx i hi)
        rw [hr.fuse F ops cs b, execActs_resolve hp u cs b b hrd (fun _ _ => rfl),
          pipeline_trace F ops cs b (resolve b u) hl' hraw.2 (injFree_resolve u b)]

theorem runSeg_trace (F : Nat) (ops : List Op) (b : BufF) (s : MStream) (h : rawOk ops = true) :
    (runSeg F ops b s).toOption = traceSeg ops b s := by
  rw [runSeg_eq, Out.toOption_map, runFrom, ← execActs_outs,
    pipeline_trace F ops _ _ (outs s) (by simp) ((rawOk_iff ops).mp h) (injFree_outs s), traceSeg, Option.map_map]
  rfl

theorem runSegs_trace (F : Nat) : ∀ (ss : List (List Op)) (b : BufF) (s : MStream),
    ss.all rawOk = true → (runSegs F ss b s).toOption = traceSegs ss b s
  | [], b, s, _ => rfl
  | seg :: ss, b, s, h => by
    simp only [List.all_cons, Bool.and_eq_true] at h
    rw [runSegs_toOption_cons, runSeg_trace F seg b s h.1, traceSegs]
    cases traceSeg seg b s with
    | none => rfl
    | some r => exact runSegs_trace F ss r.2 r.1 h.2

theorem lazy_trace (F : Nat) (ops : List Op) (b : BufF) (s : MStream) (h : lazyRaw ops = true) :
    (runLazy F ops b s).toOption = runTrace ops b s :=
  runSegs_trace F (segs ops) b s h

end Genshi.Tf
