/-
  Shared definition for the proofs about the trace semantics (`Model/TfTrace.lean`):
  "every buffer is balanced whenever an item is yielded" (`BalAt`).
-/
import Genshi.Lemmas.Tf
import Genshi.Model.TfLazy
namespace Genshi.Tf

def BufFOk (b : BufF) : Prop := ∀ id, BalE (b id)

/-- along the action list `a`, started with the buffers `b`: whenever an item is yielded, and at
    the end of the list, every buffer holds balanced content -/
def BalAt : BufF → List Act → Prop
  | b, [] => BufFOk b
  | b, .out _ :: as => BufFOk b ∧ BalAt b as
  | b, .reset id :: as => BalAt (b.set id []) as
  | b, .app id x :: as => BalAt (b.set id (b id ++ [x])) as
  | b, .inj _ :: as => BalAt b as

end Genshi.Tf
