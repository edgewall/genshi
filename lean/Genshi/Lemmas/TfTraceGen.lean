/-
  Trace semantics, generic facts about one link run over an action list (`linkU`):
  * a link that does not read a buffer written earlier in the segment yields what it yields on the
    plain stream of items (`linkU_proj`), hence what the stage-wise model of its operation gives;
  * a link that writes no buffer keeps "every buffer is balanced whenever an item is yielded"
    (`linkU_balAt`).
-/
import Genshi.Lemmas.TfTrace
import Genshi.Lemmas.TfLazyAgree
import Genshi.Lemmas.TfTraceDefs
namespace Genshi.Tf

theorem resolve_append : ∀ (a1 a2 : List Act) (b : BufF),
    resolve b (a1 ++ a2) = resolve b a1 ++ resolve (effs a1 b) a2
  | [], _, _ => rfl
  | x :: a1, a2, b => by
    cases x with
    | out y => simp only [List.cons_append, resolve, effs, resolve_append a1 a2 b]
    | reset id => simp only [List.cons_append, resolve, effs, resolve_append a1 a2 _]
    | app id y => simp only [List.cons_append, resolve, effs, resolve_append a1 a2 _]
    | inj c => simp only [List.cons_append, resolve, effs, resolve_append a1 a2 b, List.append_assoc]

def NoWr (a : List Act) : Prop := ∀ x ∈ a, x.wr = []

theorem NoWr.actsIn {a : List Act} (h : NoWr a) {r : List Nat} (hr : ∀ x ∈ a, ∀ i ∈ x.rd, i ∈ r) : ActsIn [] r a :=
  fun x hx => ⟨fun _ hi => h x hx ▸ hi, hr x hx⟩

theorem NoWr.effs {a : List Act} (h : NoWr a) (b : BufF) : effs a b = b :=
  effs_noWr (h.actsIn fun x hx _ hi => List.mem_flatMap.mpr ⟨x, hx, hi⟩) b

theorem noWr_of_actsIn {r : List Nat} {a : List Act} (h : ActsIn [] r a) : NoWr a := by
  intro x hx
  have := (h x hx).1
  cases x with
  | out y => rfl
  | inj c => rfl
  | reset id => exact absurd (this id (by simp [Act.wr])) (by simp)
  | app id y => exact absurd (this id (by simp [Act.wr])) (by simp)

theorem BalAt.bufs : ∀ (a : List Act) (b : BufF), BalAt b a → BufFOk (effs a b)
  | [], _, h => h
  | .out _ :: a, b, h => BalAt.bufs a b h.2
  | .reset id :: a, b, h => BalAt.bufs a (b.set id []) h
  | .app id x :: a, b, h => BalAt.bufs a (b.set id (b id ++ [x])) h
  | .inj _ :: a, b, h => BalAt.bufs a b h

theorem balAt_outs_append : ∀ (l : MStream) {b : BufF} {a : List Act}, BufFOk b → BalAt b a → BalAt b (outs l ++ a)
  | [], _, _, _, h => h
  | _ :: l, _, _, hb, h => ⟨hb, balAt_outs_append l hb h⟩

theorem balAt_outs (l : MStream) {b : BufF} (hb : BufFOk b) : BalAt b (outs l) := by
  have := balAt_outs_append l (a := []) hb hb
  simpa using this

theorem balAt_resolve_noWr : ∀ (a : List Act) {b : BufF} {rest : List Act}, NoWr a → BufFOk b → BalAt b rest →
    BalAt b (resolve b a ++ rest)
  | [], _, _, _, _, h => h
  | x :: a, b, rest, hn, hb, h => by
    have ht : NoWr a := fun y hy => hn y (List.mem_cons_of_mem _ hy)
    have hx := hn x (List.mem_cons_self ..)
    cases x with
    | out y => exact ⟨hb, balAt_resolve_noWr a ht hb h⟩
    | inj c =>
      simp only [resolve, List.append_assoc]
      exact balAt_outs_append _ hb (balAt_resolve_noWr a ht hb h)
    | reset id => simp [Act.wr] at hx
    | app id y => simp [Act.wr] at hx

/-- actions that write nothing: their injections all read the buffers `b` -/
theorem NoWr.outsOf_resolve {a : List Act} (h : NoWr a) (b : BufF) : outsOf (resolve b a) = flat b a :=
  outsOf_resolve_flat (w := []) nofun a b (h.actsIn fun x hx _ hi => List.mem_flatMap.mpr ⟨x, hx, hi⟩)

theorem balAt_eff {a : Act} (h : a.IsEff) (b : BufF) (as : List Act) : BalAt b (a :: as) = BalAt (effs [a] b) as := by
  cases a <;> first | rfl | exact h.elim

theorem LinkRun.proj {op : Op} {c : Ctl} {a u : List Act} (h : LinkRun op c a u) :
    ∀ b, (∀ x ∈ a, ∀ i ∈ x.wr, i ∉ rdOp op) →
      ∃ u', actsAll op c (outsOf a) = some u' ∧ outsOf (resolve b u) = flat b u' := by
  induction h with
  | fin h => exact fun b _ => ⟨_, h, outsOf_resolve_flat (wr_rd_disjoint op) _ b (finOp_fp op _ _ h)⟩
  | @eff c a as u he _ ih =>
    intro b hw
    obtain ⟨u', h3, h4⟩ := ih (effs [a] b) (fun y hy => hw y (List.mem_cons_of_mem _ hy))
    refine ⟨u', by rw [outsOf_eff he]; exact h3, ?_⟩
    rw [resolve_eff he, outsOf_eff he, h4]
    exact flat_congr (actsAll_fp op _ c u' h3) (fun i hi =>
      effs_one_out a b (fun hc => hw a (List.mem_cons_self ..) i hc hi))
  | @out c c' x a1 as u hs _ ih =>
    intro b hw
    obtain ⟨u', h3, h4⟩ := ih (effs a1 b) (fun y hy => hw y (List.mem_cons_of_mem _ hy))
    have hfp := stepOp_fp op c c' x a1 hs
    refine ⟨a1 ++ u', by simp [outsOf, actsAll, hs, h3], ?_⟩
    rw [resolve_append, outsOf_append, h4, outsOf_resolve_flat (wr_rd_disjoint op) a1 b hfp, flat_append]
    congr 1
    exact flat_congr (actsAll_fp op _ c' u' h3) (fun i hi =>
      effs_out hfp i (fun hc => wr_rd_disjoint op i hc hi))

/-- When the effects passing through a link touch no buffer it reads, the link yields what it
    yields on the plain stream of items (`actsAll`, the link alone), injections read from the
    buffers the segment started with. -/
theorem linkU_proj (op : Op) : ∀ (a : List Act) (c : Ctl) (b : BufF) (u : List Act), injFree a = true →
    (∀ x ∈ a, ∀ i ∈ x.wr, i ∉ rdOp op) → linkU op c a = some u →
    ∃ u', actsAll op c (outsOf a) = some u' ∧ outsOf (resolve b u) = flat b u' :=
  fun _ _ b _ hf hw h => (linkU_run hf h).proj b hw

theorem LinkRun.balAt {op : Op} (hop : wrOp op = []) {c : Ctl} {a u : List Act} (h : LinkRun op c a u) :
    ∀ b, BalAt b a → BalAt b (resolve b u) := by
  induction h with
  | fin h =>
    intro b hb
    have hn : NoWr _ := noWr_of_actsIn (hop ▸ finOp_fp op _ _ h)
    simpa using balAt_resolve_noWr _ (rest := []) hn hb hb
  | eff he _ ih => intro b hb; rw [resolve_eff he, balAt_eff he]; exact ih _ ((balAt_eff he _ _).mp hb)
  | out hs _ ih =>
    intro b hb
    have hn : NoWr _ := noWr_of_actsIn (hop ▸ stepOp_fp op _ _ _ _ hs)
    rw [resolve_append, hn.effs]
    exact balAt_resolve_noWr _ hn hb.1 (ih b hb.2)

theorem linkU_balAt (op : Op) (hop : wrOp op = []) : ∀ (a : List Act) (c : Ctl) (b : BufF) (u : List Act),
    injFree a = true → BalAt b a → linkU op c a = some u → BalAt b (resolve b u) :=
  fun _ _ b _ hf hb h => (linkU_run hf h).balAt hop b hb

end Genshi.Tf
