/-
  Trace semantics: the injector links (replace / before / after / prepend / append) over an action
  list.  What such a link yields is the injector loop with a content that VARIES from injection to
  injection (`runGoL`, `prependL`, `appendGoL`): each injection expands the content with the buffers
  of that moment; when every buffer is balanced whenever an item is yielded (`BalAt`), every content
  is admissible (`VOk`).
-/
import Genshi.Lemmas.TfTraceGen
import Genshi.Lemmas.TfChains
namespace Genshi.Tf

theorem vok_content {b : BufF} (hb : BufFOk b) {c : Content} (hc : c.Ok) : VOk (inj (contentAt b c)) := by
  refine ⟨inj_noneMarked _, ?_⟩
  rw [unmark_inj]
  cases c with
  | str t => exact bal_ensureStr t
  | evs s => simpa [contentAt, content, evsOf_map_ev, Content.Ok] using hc
  | buf id => exact hb id

theorem resolve_append_noWr {x : List Act} (hx : NoWr x) (y : List Act) (b : BufF) :
    resolve b (x ++ y) = resolve b x ++ resolve b y := by
  rw [resolve_append, hx.effs]

/-- the actions `a1` of a step that writes nothing, in front of what the rest of the link yields -/
theorem outsOf_resolve_step {a1 u : List Act} (ha : NoWr a1) (b : BufF) {rest t : MStream}
    (hu : outsOf (resolve b u) = rest) (hstep : flat b a1 ++ rest = t) : outsOf (resolve b (a1 ++ u)) = t := by
  rw [resolve_append_noWr ha, outsOf_append, ha.outsOf_resolve, hu, hstep]

theorem noWr_inj (c : Content) : NoWr [.inj c] := by
  intro z hz; simp at hz; subst hz; rfl

theorem noWr_nil : NoWr [] := by intro z hz; simp at hz

/-- What a link that writes no buffer yields over an action list is made step by step: `Q c s t` (from the
    state `c`, on the items `s`, the link yields `t`) holds of the run if it holds at the end of the input and
    is kept by a step, each with the buffers of its moment, which hold balanced content (`BalAt`). -/
theorem LinkRun.yields {op : Op} {Q : Ctl → MStream → MStream → Prop}
    (hnw : ∀ {c p c' a1}, stepOp op c p = some (c', a1) → NoWr a1)
    (hfin : ∀ {c acts} (b : BufF), finOp op c = some acts → BufFOk b → Q c [] (outsOf (resolve b acts)))
    (hstep : ∀ {c p c' a1 s rest} (b : BufF), stepOp op c p = some (c', a1) → BufFOk b → Q c' s rest →
      Q c (p :: s) (flat b a1 ++ rest))
    {c : Ctl} {a u : List Act} (h : LinkRun op c a u) : ∀ b, BalAt b a → Q c (outsOf a) (outsOf (resolve b u)) := by
  induction h with
  | fin h => exact fun b hb => hfin b h hb
  | eff he _ ih =>
    intro b hb
    rw [resolve_eff he, outsOf_eff he, outsOf_eff he]
    exact ih _ ((balAt_eff he _ _).mp hb)
  | out hs _ ih =>
    intro b hb
    rw [outsOf_resolve_step (hnw hs) b rfl rfl]
    exact hstep b hs hb.1 (ih b hb.2)

theorem runStep_noWr {pre post : List Act} (hpre : NoWr pre) (hpost : NoWr post) (keep : Bool) (st : RunSt)
    (p : MItem) : NoWr (runStep pre post keep st p).2 :=
  noWr_of_actsIn (runStep_fp (r := (pre ++ post).flatMap Act.rd)
    (hpre.actsIn fun x hx _ hi => List.mem_flatMap.mpr ⟨x, List.mem_append_left _ hx, hi⟩)
    (hpost.actsIn fun x hx _ hi => List.mem_flatMap.mpr ⟨x, List.mem_append_right _ hx, hi⟩) keep st p)

/-- one step of the loop against one step of `runGoL`: `i` / `j` say whether the step uses `pre` / `post` -/
theorem runGoL_cons (pre post : List Act) (keep : Bool) (bf : BufF) (st : RunSt) (p : MItem) :
    ∃ i j : Bool, ∀ (pres posts : List MStream) (s : MStream),
      flat bf (runStep pre post keep st p).2 ++ runGoL keep (runStep pre post keep st p).1 pres posts s =
        runGoL keep st ((if i then [flat bf pre] else []) ++ pres) ((if j then [flat bf post] else []) ++ posts)
          (p :: s) := by
  fun_cases runStep pre post keep st p
  case case1 => exact ⟨false, false, fun _ _ _ => by simp [runGoL, flat]⟩
  case case2 => exact ⟨true, false, fun _ _ _ => by simp [runGoL, flat_append, flat_keepAct]⟩
  case case3 => exact ⟨false, true, fun _ _ _ => by simp [runGoL, flat_append, flat_keepAct]⟩
  case case4 h => exact ⟨false, false, fun _ _ _ => by simp [runGoL, flat_keepAct, h]⟩
  case case5 => exact ⟨false, false, fun _ _ _ => by simp [runGoL, flat_keepAct]⟩
  case case6 h => exact ⟨false, true, fun _ _ _ => by simp [runGoL, flat, flat_append, h]⟩
  case case7 h => exact ⟨true, true, fun _ _ _ => by simp [runGoL, flat_append, flat_keepAct, h]⟩

theorem forall_mem_ite_append {α : Type} {P : α → Prop} (i : Bool) {x : α} {l : List α} (hx : P x)
    (hl : ∀ y ∈ l, P y) : ∀ y ∈ (if i then [x] else []) ++ l, P y := by
  cases i
  · exact hl
  · exact List.forall_mem_cons.mpr ⟨hx, hl⟩

theorem run_link (op : Op) (pre post : List Act) (keep : Bool)
    (hstep : ∀ c p, stepOp op c p = runStepC pre post keep c p) (hfin : ∀ c, finOp op c = runFinC post c)
    (hpre : NoWr pre) (hpost : NoWr post)
    (hv : ∀ b', BufFOk b' → VOk (outsOf (resolve b' pre)) ∧ VOk (outsOf (resolve b' post))) :
    ∀ (a : List Act) (st : RunSt) (b : BufF) (u : List Act), injFree a = true → BalAt b a →
      linkU op (.run st) a = some u →
      ∃ pres posts, (∀ c ∈ pres, VOk c) ∧ (∀ c ∈ posts, VOk c) ∧
        outsOf (resolve b u) = runGoL keep st pres posts (outsOf a) := by
  intro a st b u hf hb h
  refine (linkU_run hf h).yields (op := op) (Q := fun c s t => ∀ st, c = .run st →
      ∃ pres posts, (∀ c ∈ pres, VOk c) ∧ (∀ c ∈ posts, VOk c) ∧ t = runGoL keep st pres posts s)
    ?_ ?_ ?_ b hb st rfl
  · intro c p c' a1 hs
    cases c <;> cases (hstep _ p).symm.trans hs
    exact runStep_noWr hpre hpost keep _ p
  · rintro c acts b h hb st rfl
    simp only [hfin, runFinC, Option.some.injEq] at h
    subst h
    cases st with
    | idle => exact ⟨[], [], by simp, by simp, rfl⟩
    | inEnter =>
      exact ⟨[], [outsOf (resolve b post)], by simp, by simpa using (hv b hb).2, by simp [runFin, runGoL]⟩
    | inRun m0 =>
      exact ⟨[], [outsOf (resolve b post)], by simp, by simpa using (hv b hb).2, by simp [runFin, runGoL]⟩
  · rintro c p c' a1 s rest b hs hb ih st rfl
    simp only [hstep, runStepC, Option.some.injEq, Prod.mk.injEq] at hs
    obtain ⟨rfl, rfl⟩ := hs
    obtain ⟨pres, posts, h3, h4, rfl⟩ := ih _ rfl
    obtain ⟨i, j, hij⟩ := runGoL_cons pre post keep b st p
    exact ⟨_, _, forall_mem_ite_append i (hpre.outsOf_resolve b ▸ (hv b hb).1) h3,
      forall_mem_ite_append j (hpost.outsOf_resolve b ▸ (hv b hb).2) h4, hij _ _ _⟩

theorem prepend_link (ct : Content) (hc : ct.Ok) : ∀ (a : List Act) (b : BufF) (u : List Act),
    injFree a = true → BalAt b a → linkU (.prepend ct) .unit a = some u →
    ∃ cs, (∀ c ∈ cs, VOk c) ∧ outsOf (resolve b u) = prependL cs (outsOf a) := by
  intro a b u hf hb h
  refine (linkU_run hf h).yields (op := .prepend ct) (Q := fun _ s t => ∃ cs, (∀ c ∈ cs, VOk c) ∧ t = prependL cs s)
    (fun hs => noWr_of_actsIn (stepOp_fp _ _ _ _ _ hs)) ?_ ?_ b hb
  · intro c acts b h _
    cases h
    exact ⟨[], by simp, rfl⟩
  · rintro c ⟨m, x⟩ c' a1 s rest b hs hb ⟨cs, h3, rfl⟩
    cases c <;> cases hs
    by_cases he : m = some Mark.enter
    · exact ⟨inj (contentAt b ct) :: cs, List.forall_mem_cons.mpr ⟨vok_content hb hc, h3⟩,
        by simp [flat, prependL, he, contentAt_eq]⟩
    · exact ⟨cs, h3, by simp [flat, prependL, he]⟩

theorem append_link (ct : Content) (hc : ct.Ok) : ∀ (a : List Act) (l : Option MItem) (b : BufF) (u : List Act),
    injFree a = true → BalAt b a → linkU (.append ct) (.last l) a = some u →
    ∃ cs, (∀ c ∈ cs, VOk c) ∧ outsOf (resolve b u) = appendGoL cs l (outsOf a) := by
  intro a l b u hf hb h
  refine (linkU_run hf h).yields (op := .append ct)
    (Q := fun c s t => ∀ l, c = .last l → ∃ cs, (∀ c ∈ cs, VOk c) ∧ t = appendGoL cs l s)
    (fun hs => noWr_of_actsIn (stepOp_fp _ _ _ _ _ hs)) ?_ ?_ b hb l rfl
  · rintro c acts b h hb l rfl
    cases l with
    | none => cases h; exact ⟨[], by simp, rfl⟩
    | some last =>
      cases h
      exact ⟨[inj (contentAt b ct)], by simpa using vok_content hb hc,
        by simp [resolve, outsOf, outsOf_append, outsOf_outs, appendGoL]⟩
  · rintro c ⟨m, x⟩ c' a1 s rest b hs hb ih l rfl
    cases l with
    | none =>
      cases hs
      obtain ⟨cs, h3, rfl⟩ := ih _ rfl
      exact ⟨cs, h3, by simp [flat, appendGoL]⟩
    | some last =>
      by_cases he : m = some Mark.exit
      · simp only [stepOp, he, ↓reduceIte, Option.some.injEq, Prod.mk.injEq] at hs
        obtain ⟨rfl, rfl⟩ := hs
        obtain ⟨cs, h3, rfl⟩ := ih _ rfl
        exact ⟨inj (contentAt b ct) :: cs, List.forall_mem_cons.mpr ⟨vok_content hb hc, h3⟩,
          by simp [flat, appendGoL, he, contentAt_eq]⟩
      · simp only [stepOp, he, ↓reduceIte, Option.some.injEq, Prod.mk.injEq] at hs
        obtain ⟨rfl, rfl⟩ := hs
        obtain ⟨cs, h3, rfl⟩ := ih _ rfl
        exact ⟨cs, h3, by simp [flat, appendGoL, he]⟩

end Genshi.Tf
