/-
  Trace semantics: the invariant of a chain, link by link.
  "well nested; `Good` — or, after `invert()`, free of ENTER/EXIT marks —; every buffer balanced
  whenever an item is yielded" is kept by every admissible link, also by a link that reads a buffer
  a link before it in the same segment writes (the buffer is balanced at every injection point).
  At the end: every `stagewise` chain satisfies the buffer hypotheses of the nesting theorem for lazily
  read buffers (`trace_chain_wellnested` behind `lazy_trace`): reads come after writes (`lazyRaw`) and a
  buffer has one writer between two barriers (`OneWriter`).
-/
import Genshi.Lemmas.TfTraceW
import Genshi.Lemmas.TfTraceInj
import Genshi.Lemmas.TfVaryDirty
namespace Genshi.Tf

/-- the invariant between two links of a segment: `a` = the actions of the links so far, `b` = the
    buffers the segment started with, `w` = the buffers written so far in the segment -/
structure TInv (good : Bool) (w : List Nat) (b : BufF) (a : List Act) : Prop where
  inj : injFree a = true
  wn : WellNested (unmark (outsOf a))
  isGood : good = true → Good (outsOf a)
  isInner : good = false → Inner (outsOf a)
  bal : BalAt b a
  wr : ∀ x ∈ a, ∀ i ∈ x.wr, i ∈ w
  b0 : BufFOk b

theorem TInv.mark {good : Bool} {w : List Nat} {b : BufF} {a : List Act} (h : TInv good w b a) :
    MarkInv good (outsOf a) := ⟨h.wn, h.isGood, h.isInner⟩

/-- a link admitted after the buffers `w` were written in the segment: the operation is admitted on
    the marking (`OkGood` / `OkDirty` as for the stage-wise chain) and its buffer has no writer yet -/
def AdmOp (good : Bool) (w : List Nat) (op : Op) : Prop :=
  (if good then op.OkGood else op.OkDirty) ∧ (∀ i ∈ wrOp op, i ∉ w)

def admSeg : Bool → List Nat → List Op → Prop
  | _, _, [] => True
  | good, w, op :: ops => AdmOp good w op ∧ admSeg (op.next good) (wrOp op ++ w) ops

def goodAfter : Bool → List Op → Bool
  | good, [] => good
  | good, op :: ops => goodAfter (op.next good) ops

/-- `Admissible` and `OneWriter` of a chain, said segment by segment (`admSegs_admissible`) -/
def AdmSegs : Bool → List (List Op) → Prop
  | _, [] => True
  | good, seg :: ss => admSeg good [] seg ∧ AdmSegs (goodAfter good seg) ss

def bufsFor (op : Op) (b : BufF) : Bufs :=
  match readsOf op with
  | some id => Bufs.set [] id (b id)
  | none => []

theorem bufsFor_ok (op : Op) {b : BufF} (hb : BufFOk b) : BufsOk (bufsFor op b) := by
  unfold bufsFor
  cases readsOf op with
  | none => exact BufsOk.nil
  | some id => exact BufsOk.nil.set id (hb id)

theorem bufsFor_rd (op : Op) (b : BufF) : ∀ i ∈ rdOp op, ofBufs (bufsFor op b) i = b i := by
  intro i hi
  simp only [rdOp] at hi
  unfold bufsFor
  cases hr : readsOf op with
  | none => simp [hr] at hi
  | some id =>
    simp only [hr, Option.toList_some, List.mem_singleton] at hi
    subst hi
    simp [ofBufs, Bufs.get, Bufs.set]

/-! the injector loops with varying content keep the marking invariant in both modes -/

theorem MarkInv.runGoL {good keep : Bool} {s : MStream} (h : MarkInv good s) (hk : good = false → keep = true)
    (pres posts : List MStream) (hpres : ∀ c ∈ pres, VOk c) (hposts : ∀ c ∈ posts, VOk c) :
    MarkInv good (runGoL keep .idle pres posts s) := by
  cases good with
  | true =>
    exact ⟨runGoL_wellNested keep (h.2.1 rfl) pres posts hpres hposts h.1,
      fun _ => runGoL_good keep (h.2.1 rfl) pres posts hpres hposts, nofun⟩
  | false =>
    obtain rfl := hk rfl
    exact ⟨runGoL_wellNested_any _ pres posts hpres hposts .idle h.1, nofun,
      fun _ => runGoL_inner _ (h.2.2 rfl) pres posts hpres hposts .idle⟩

theorem MarkInv.prependL {good : Bool} {s : MStream} (h : MarkInv good s) (cs : List MStream)
    (hcs : ∀ c ∈ cs, VOk c) : MarkInv good (prependL cs s) :=
  h.of_modes (fun hg => prependL_goodLike hg cs hcs)
    fun hin hwn => by rw [prependL_inner_id cs hin]; exact ⟨hwn, hin⟩

theorem MarkInv.appendL {good : Bool} {s : MStream} (h : MarkInv good s) (cs : List MStream)
    (hcs : ∀ c ∈ cs, VOk c) : MarkInv good (appendGoL cs none s) :=
  h.of_modes (fun hg => appendL_goodLike hg cs hcs)
    fun hin hwn => by rw [appendL_inner_id cs hin]; exact ⟨hwn, hin⟩

theorem link_stage (op : Op) (good : Bool) (w : List Nat) (b : BufF) (a u : List Act) (inv : TInv good w b a)
    (hok : if good then op.OkGood else op.OkDirty) (hrd : ∀ i ∈ rdOp op, i ∉ w)
    (hsel : op.selOkAt (outsOf a) = true) (h : linkU op (initCtl op) a = some u) :
    WellNested (unmark (outsOf (resolve b u))) ∧ (op.next good = true → Good (outsOf (resolve b u))) ∧
    (op.next good = false → Inner (outsOf (resolve b u))) := by
  obtain ⟨u', h3, h4⟩ := linkU_proj op a (initCtl op) b u inv.inj
    (fun x hx i hi hr => hrd i hr (inv.wr x hx i hi)) h
  have hag := op_agree (bufsFor op b) op (outsOf a)
  have hbb := bufsFor_ok op inv.b0
  cases ha : applyOp (bufsFor op b) op (outsOf a) with
  | none => rw [hag.2 ha] at h3; simp at h3
  | some r =>
    obtain ⟨s1, b1⟩ := r
    obtain ⟨acts, h5, h6, _⟩ := hag.1 s1 b1 ha
    rw [h3] at h5
    simp only [Option.some.injEq] at h5
    subst h5
    have hs1 : outsOf (resolve b u) = s1 := by
      rw [h4, ← h6]
      exact (flat_congr (actsAll_fp op _ _ u' h3) (bufsFor_rd op b)).symm
    rw [hs1]
    exact (applyOp_inv (bufsFor op b) op hok (inv.mark.chain hbb) hsel ha).mark

theorem injFree_newSel (id : Nat) (acc : Bool) (x : MEv) : injFree (newSel id acc x) = true := by
  cases acc <;> rfl

theorem WActs.injFree {id : Nat} {acc : Bool} {x : MEv} {bid nb : List MEv} {pre post : Prop} {acts : List Act}
    (h : WActs id acc x bid pre post acts nb) : Tf.injFree acts = true := by
  cases h <;> simp [Tf.injFree, injFree_append_eq, injFree_outs, injFree_newSel]

theorem writer_injFree {op : Op} {id : Nat} {acc : Bool} {stOf : Ctl → RunSt → Prop} (hw : IsWriter op id acc stOf)
    {c : Ctl} {a u : List Act} (h : LinkRun op c a u) : ∀ st, stOf c st → injFree u = true := by
  induction h with
  | fin h => intro _ _; obtain ⟨l, rfl⟩ := hw.fin h; exact injFree_outs l
  | eff he _ ih => intro st hc; rw [injFree_eff he]; exact ih st hc
  | out hs _ ih =>
    intro st hc
    obtain ⟨hc', ha⟩ := hw.step [] hc hs
    exact injFree_append _ _ ha.injFree (ih _ hc')

/-- One admitted link keeps the invariant.  Buffers (`hbal`): a link that writes none by `linkU_balAt`;
    `copy` / `cut` by `copy_balAt` / `cut_balAt`, no link before them writing their buffer (`hid`).
    Marking: the five injectors yield their loop with the content of each moment (`run_link`,
    `prepend_link`, `append_link`), which keeps `MarkInv` in both modes; every other link (wrap too:
    its content is constant) yields what its stage-wise operation gives (`link_stage`). -/
theorem link_inv (op : Op) (good : Bool) (w : List Nat) (b : BufF) (a u : List Act) (inv : TInv good w b a)
    (hadm : AdmOp good w op) (hsel : op.selOkAt (outsOf a) = true) (h : linkU op (initCtl op) a = some u) :
    TInv (op.next good) (wrOp op ++ w) b (resolve b u) := by
  obtain ⟨hok, hwr⟩ := hadm
  have hinj : injFree (resolve b u) = true := injFree_resolve u b
  have hw : ∀ x ∈ resolve b u, ∀ i ∈ x.wr, i ∈ wrOp op ++ w :=
    resolve_wr u b _ ((linkU_run inv.inj h).wr w inv.wr)
  have hbal : BalAt b (resolve b u) := by
    by_cases hwo : wrOp op = []
    · exact linkU_balAt op hwo a (initCtl op) b u inv.inj inv.bal h
    · cases op with
      | copy id acc =>
        cases good with
        | false => simp [Op.OkDirty] at hok
        | true =>
          have hid : ∀ x ∈ a, id ∉ x.wr := fun x hx hc => hwr id (by simp [wrOp]) (inv.wr x hx id hc)
          rw [resolve_injFree u b (writer_injFree (copy_isWriter id acc) (linkU_run inv.inj h) .idle ⟨[], rfl⟩)]
          exact copy_balAt id acc a b u inv.inj hid (inv.isGood rfl) inv.bal (inv.b0 id) h
      | cut id acc =>
        cases good with
        | false => simp [Op.OkDirty] at hok
        | true =>
          have hid : ∀ x ∈ a, id ∉ x.wr := fun x hx hc => hwr id (by simp [wrOp]) (inv.wr x hx id hc)
          rw [resolve_injFree u b (writer_injFree (cut_isWriter id acc) (linkU_run inv.inj h) .idle ⟨_, _, rfl⟩)]
          exact cut_balAt id acc a b u inv.inj hid (inv.isGood rfl) inv.bal (inv.b0 id) h
      | _ => simp [wrOp] at hwo
  have mk : MarkInv (op.next good) (outsOf (resolve b u)) → TInv (op.next good) (wrOp op ++ w) b (resolve b u) :=
    fun hm => ⟨hinj, hm.1, hm.2.1, hm.2.2, hbal, hw, inv.b0⟩
  -- the injectors: the loop with the content of each moment, which keeps the marking in both modes
  have hm := inv.mark
  have hvc : ∀ (c : Content), c.Ok → ∀ b', BufFOk b' →
      VOk (outsOf (resolve b' [.inj c])) ∧ VOk (outsOf (resolve b' [])) := fun c hc b' hb' => by
    refine ⟨?_, VOk.nil⟩
    simpa [resolve, outsOf_append, outsOf_outs, outsOf] using vok_content hb' hc
  cases op with
  | replace c =>
    cases good with
    | false => exact absurd hok (by simp [Op.OkDirty])
    | true =>
      obtain ⟨pres, posts, p1, p2, p3⟩ := run_link (.replace c) [.inj c] [] false (fun _ _ => rfl) (fun _ => rfl)
        (noWr_inj c) noWr_nil (hvc c hok) a .idle b u inv.inj inv.bal h
      exact mk (p3 ▸ hm.runGoL nofun pres posts p1 p2)
  | before c =>
    have hc : c.Ok := by cases good <;> exact hok
    obtain ⟨pres, posts, p1, p2, p3⟩ := run_link (.before c) [.inj c] [] true (fun _ _ => rfl) (fun _ => rfl)
      (noWr_inj c) noWr_nil (hvc c hc) a .idle b u inv.inj inv.bal h
    exact mk (p3 ▸ hm.runGoL (fun _ => rfl) pres posts p1 p2)
  | after c =>
    have hc : c.Ok := by cases good <;> exact hok
    obtain ⟨pres, posts, p1, p2, p3⟩ := run_link (.after c) [] [.inj c] true (fun _ _ => rfl) (fun _ => rfl)
      noWr_nil (noWr_inj c) (fun b' hb' => (hvc c hc b' hb').symm) a .idle b u inv.inj inv.bal h
    exact mk (p3 ▸ hm.runGoL (fun _ => rfl) pres posts p1 p2)
  | prepend c =>
    obtain ⟨cs, p1, p3⟩ := prepend_link c (by cases good <;> exact hok) a b u inv.inj inv.bal h
    exact mk (p3 ▸ hm.prependL cs p1)
  | append c =>
    obtain ⟨cs, p1, p3⟩ := append_link c (by cases good <;> exact hok) a none b u inv.inj inv.bal h
    exact mk (p3 ▸ hm.appendL cs p1)
  | _ => exact mk (link_stage _ good w b a u inv hok (fun i hi => by simp [rdOp, readsOf] at hi) hsel h)

theorem traceFrom_inv : ∀ (ops : List Op) (good : Bool) (w : List Nat) (b : BufF) (a t : List Act),
    TInv good w b a → admSeg good w ops → traceSelOkFrom ops b a = true →
    traceFrom ops (ops.map initCtl) b a = some t → ∃ w', TInv (goodAfter good ops) w' b t
  | [], good, w, b, a, t, inv, _, _, h => by
    simp only [traceFrom, Option.some.injEq] at h
    subst h
    exact ⟨w, inv⟩
  | op :: ops, good, w, b, a, t, inv, hadm, hsel, h => by
    simp only [List.map_cons, traceFrom] at h
    simp only [traceSelOkFrom, Bool.and_eq_true] at hsel
    cases hu : linkU op (initCtl op) a with
    | none => simp [hu] at h
    | some u =>
      simp only [hu] at h hsel
      exact traceFrom_inv ops (op.next good) _ b (resolve b u) t (link_inv op good w b a u inv hadm.1 hsel.1 hu)
        hadm.2 hsel.2 h

theorem effs_reset_ok {b : BufF} (hb : BufFOk b) (id : Nat) : BufFOk (b.set id []) := by
  intro j
  simp only [BufF.set]; split
  · exact BalE.nil
  · exact hb j

theorem proBufs_ok : ∀ (ops : List Op) {b : BufF}, BufFOk b → BufFOk (proBufs ops b)
  | [], _, hb => hb
  | op :: ops, b, hb => by
    have ih := proBufs_ok ops hb
    simp only [proBufs]
    cases op with
    | cut id acc => cases acc <;> simp [proOf, effs, effs_reset_ok ih, ih]
    | _ => simpa [proOf, effs] using ih

/-- between two segments the invariant is that of the stage-wise chain (`ChainInv`), over buffers as
    functions; inside a segment it is `TInv` -/
theorem traceSeg_inv (seg : List Op) (good : Bool) (b : BufF) (s s' : MStream) (b' : BufF)
    (inv : MarkInv good s) (hb : BufFOk b) (hadm : admSeg good [] seg) (hsel : traceSelOkSeg seg b s = true)
    (h : traceSeg seg b s = some (s', b')) : MarkInv (goodAfter good seg) s' ∧ BufFOk b' := by
  simp only [traceSeg, Option.map_eq_some_iff, Prod.mk.injEq] at h
  obtain ⟨t, ht, rfl, rfl⟩ := h
  have hb0 := proBufs_ok seg hb
  rw [← outsOf_outs s] at inv
  have i0 : TInv good [] (proBufs seg b) (outs s) :=
    ⟨injFree_outs s, inv.1, inv.2.1, inv.2.2, balAt_outs s hb0,
     fun x hx i hi => by have := (ActsIn.outs [] [] s x hx).1 i hi; simp at this, hb0⟩
  obtain ⟨w', it⟩ := traceFrom_inv seg good [] _ (outs s) t i0 hadm hsel ht
  exact ⟨it.mark, BalAt.bufs t _ it.bal⟩

theorem traceSegs_inv : ∀ (ss : List (List Op)) (good : Bool) (b : BufF) (s s' : MStream) (b' : BufF),
    MarkInv good s → BufFOk b → AdmSegs good ss → traceSelOk ss b s = true →
    traceSegs ss b s = some (s', b') → WellNested (unmark s')
  | [], good, b, s, s', b', inv, _, _, _, h => by
    simp only [traceSegs, Option.some.injEq, Prod.mk.injEq] at h
    rw [← h.1]; exact inv.1
  | seg :: ss, good, b, s, s', b', inv, hb, hadm, hsel, h => by
    simp only [traceSegs] at h
    simp only [traceSelOk, Bool.and_eq_true] at hsel
    cases hs : traceSeg seg b s with
    | none => simp [hs] at h
    | some r =>
      obtain ⟨s1, b1⟩ := r
      simp only [hs] at h hsel
      obtain ⟨inv1, hb1⟩ := traceSeg_inv seg good b s s1 b1 inv hb hadm.1 hsel.1 hs
      exact traceSegs_inv ss _ b1 s1 s' b' inv1 hb1 hadm.2 hsel.2 h

/-- `chain_wellnested` for the trace semantics -/
theorem trace_chain_wellnested (ops : List Op) (s : Stream) (hs : WellNested s)
    (hadm : AdmSegs true (segs ops)) (hsel : traceSelOk (segs ops) (fun _ => []) (markAll s) = true)
    (out : MStream) (b : BufF) (h : runTrace ops (fun _ => []) (markAll s) = some (out, b)) :
    WellNested (unmark out) :=
  traceSegs_inv (segs ops) true (fun _ => []) (markAll s) out b (.markAll hs) (fun _ => BalE.nil) hadm hsel h

/-- between two `buffer()` barriers every buffer has at most one writer (`w`: written so far) -/
def OneWriter : List Nat → List Op → Prop
  | _, [] => True
  | _, .buffer :: ops => OneWriter [] ops
  | w, op :: ops => (∀ i ∈ wrOp op, i ∉ w) ∧ OneWriter (wrOp op ++ w) ops

theorem oneWriter_cons {op : Op} (hb : op ≠ .buffer) (w : List Nat) (ops : List Op) :
    OneWriter w (op :: ops) = ((∀ i ∈ wrOp op, i ∉ w) ∧ OneWriter (wrOp op ++ w) ops) := by
  generalize hl : op :: ops = l
  fun_cases OneWriter w l <;> cases hl
  · exact absurd rfl hb
  · rfl

/-- `AdmSegs` is `Admissible` (the hypothesis of `chain_wellnested`) plus "one writer per buffer
    between two barriers" -/
theorem admSegs_of_admissible : ∀ (ops : List Op) (good : Bool) (w : List Nat),
    Admissible good ops → OneWriter w ops →
    ∃ s0 ss, segs ops = s0 :: ss ∧ admSeg good w s0 ∧ AdmSegs (goodAfter good s0) ss
  | [], good, w, _, _ => ⟨[], [], rfl, trivial, trivial⟩
  | op :: ops, good, w, hadm, hone => by
    obtain ⟨h1, h2⟩ := hadm
    by_cases hb : op = .buffer
    · subst hb
      obtain ⟨s0, ss, hs, ha, hr⟩ := admSegs_of_admissible ops good [] h2 hone
      exact ⟨[], s0 :: ss, congrArg ([] :: ·) hs, trivial, ⟨ha, hr⟩⟩
    · have hone' := (oneWriter_cons hb w ops).mp hone
      obtain ⟨s0, ss, hs, ha, hr⟩ := admSegs_of_admissible ops (op.next good) (wrOp op ++ w) h2 hone'.2
      exact ⟨op :: s0, ss, segs_cons_ne hb hs, ⟨⟨h1, hone'.1⟩, ha⟩, hr⟩

theorem admSegs_admissible (ops : List Op) (hadm : Admissible true ops) (hone : OneWriter [] ops) :
    AdmSegs true (segs ops) := by
  obtain ⟨s0, ss, hs, ha, hr⟩ := admSegs_of_admissible ops true [] hadm hone
  rw [hs]; exact ⟨ha, hr⟩

theorem rawOk_of_noConf (seg : List Op) (h : NoConf seg) : rawOk seg = true := by
  refine (rawOk_iff seg).mpr ?_
  induction seg with
  | nil => trivial
  | cons op ops ih => exact ⟨h.2.1, ih h.2.2⟩

theorem stagewise_lazyRaw (ops : List Op) (h : stagewise [] [] ops = true) : lazyRaw ops = true := by
  obtain ⟨sg, ss, h0, hn, _, _, hss⟩ := stagewise_segs ops [] [] h
  simp only [lazyRaw, h0, List.all_cons, Bool.and_eq_true, List.all_eq_true]
  exact ⟨rawOk_of_noConf sg hn, fun seg hseg => rawOk_of_noConf seg (hss seg hseg)⟩

theorem stagewise_oneWriter : ∀ (ops : List Op) (w r w' : List Nat), (∀ i ∈ w', i ∈ w) →
    stagewise w r ops = true → OneWriter w' ops := by
  intro ops
  induction ops with
  | nil => intros; trivial
  | cons op ops ih =>
    intro w r w' hsub h
    by_cases hb : op = .buffer
    · subst hb; exact ih [] [] [] nofun h
    · obtain ⟨⟨hw, _⟩, h⟩ := (stagewise_cons hb w r ops).mp h
      rw [oneWriter_cons hb]
      exact ⟨fun i hi hc => (hw i hi).1 (hsub i hc),
        ih _ _ _ (fun i hi => List.mem_append.mpr ((List.mem_append.mp hi).imp_right (hsub i))) h⟩

theorem stagewise_in_lazy_class (ops : List Op) (h : stagewise [] [] ops = true) :
    lazyRaw ops = true ∧ OneWriter [] ops :=
  ⟨stagewise_lazyRaw ops h, stagewise_oneWriter ops [] [] [] (fun i hi => by simp at hi) h⟩

end Genshi.Tf
