/-
  Trace semantics: the writer links.  On a `Good` input the `copy` / `cut` link yields items only
  at moments at which its buffer holds whole selections (balanced content): "every buffer is
  balanced whenever an item is yielded" (`BalAt`) is kept (`copy_balAt`, `cut_balAt`).
-/
import Genshi.Lemmas.TfTraceGen
import Genshi.Lemmas.TfOps
namespace Genshi.Tf

/-- the link's buffer `bid`, completed by what the rest `R` of the input will still append to it
    in the current selection, is balanced; after that selection the input is `Good` again -/
def WInv : RunSt → List MEv → MStream → Prop
  | .idle, bid, R => Good R ∧ BalE bid
  | .inRun m0, bid, R => m0 ≠ .enter ∧
      ∃ blk R', R = blk ++ R' ∧ Uniform m0 blk ∧ Good R' ∧ BalE (bid ++ blk.map (·.2))
  | .inEnter, bid, R =>
      ∃ mid x R', R = mid ++ (some .exit, x) :: R' ∧ NoExit mid ∧ Good R' ∧ BalE (bid ++ mid.map (·.2) ++ [x])

theorem balE_block {base : List MEv} {blk : MStream} (hb : BalE base) (h : Bal (unmark blk)) :
    BalE (base ++ blk.map (·.2)) := hb.append (BalE.ofBlock h)

theorem balE_elem {base : List MEv} (hb : BalE base) (t : QName) (a : AttrList) {mid : MStream}
    (h : Bal (unmark mid)) :
    BalE ((base ++ [MEv.ev (.start t a)]) ++ mid.map (·.2) ++ [MEv.ev (.end_ t)]) := by
  have := balE_block hb (unmark_elem' t a mid ▸ bal_elem t a h)
  simpa [List.append_assoc] using this

theorem good_plain_inv {x : MEv} {R : MStream} (hg : Good ((none, x) :: R)) : Good R := by
  rcases hg.head_cases with h | ⟨y, R2, h, hg2⟩ | ⟨m', p, blk, R2, h, _, _, hu, _, _⟩ | ⟨t, a, mid, R2, h, _⟩
  · cases h
  · cases h; exact hg2
  · cases h; cases hu (none, x) (List.mem_cons_self ..)
  · cases h

/-- a `Good` stream that begins with a marked item begins with a balanced block of that mark, or
    (ENTER) with a bracket -/
theorem good_marked_inv {m : Mark} {x : MEv} {R : MStream} (hg : Good ((some m, x) :: R)) :
    (m ≠ .enter ∧ ∃ blk R', R = blk ++ R' ∧ Uniform m blk ∧ Bal (unmark ((some m, x) :: blk)) ∧ Good R') ∨
    (m = .enter ∧ ∃ t a mid R', x = .ev (.start t a) ∧ R = mid ++ (some .exit, .ev (.end_ t)) :: R' ∧
      Flat mid ∧ Bal (unmark mid) ∧ Good R') := by
  rcases hg.head_cases with h | ⟨y, R2, h, _⟩ | ⟨m', p, blk, R2, h, hne, _, hu, hbal, hg2⟩ | ⟨t, a, mid, R2, h, hf, hbal, hg2⟩
  · cases h
  · cases h
  · cases h
    obtain ⟨_, hp, hu'⟩ := hu.cons_inv
    cases hp
    exact .inl ⟨hne, blk, R2, rfl, hu', hbal, hg2⟩
  · cases h
    exact .inr ⟨rfl, t, a, mid, R2, rfl, rfl, hf, hbal, hg2⟩

/-- starting a selection in the idle state (or after a run of another mark): the invariant of the new
    state, from `Good` of the stream that begins with the item -/
theorem wInv_start (acc : Bool) {bid : List MEv} (hb : BalE bid) {m : Mark} {x : MEv} {R1 : MStream}
    (hg : Good ((some m, x) :: R1)) : WInv (startSt m) ((if acc then bid else []) ++ [x]) R1 := by
  have hba := BalE.ite acc hb
  rcases good_marked_inv hg with ⟨hne, blk, R2, rfl, hu, hbal, hg2⟩ | ⟨rfl, t, a, mid, R2, rfl, rfl, hf, hbal, hg2⟩
  · rw [show startSt m = .inRun m by simp [startSt, hne]]
    exact ⟨hne, blk, R2, rfl, hu, hg2, by simpa [List.append_assoc] using balE_block hba hbal⟩
  · exact ⟨mid, _, R2, rfl, hf.noExit, hg2, balE_elem hba t a hbal⟩

/-- one step of the run detection keeps the invariant; when the step may yield BEFORE its effects
    (idle, or a run ended by another mark) the buffer is balanced at that moment -/
theorem wNext_inv (acc : Bool) (st : RunSt) (bid : List MEv) (p : MItem) (R1 : MStream)
    (h : WInv st bid (p :: R1)) :
    WInv (wNext acc st bid p).1 (wNext acc st bid p).2 R1 ∧
    ((st = .idle ∨ ∃ m0, st = .inRun m0 ∧ p.1 ≠ some m0) → BalE bid) := by
  obtain ⟨m, x⟩ := p
  cases st with
  | idle =>
    obtain ⟨hg, hb⟩ := h
    refine ⟨?_, fun _ => hb⟩
    cases m with
    | none => exact ⟨good_plain_inv hg, hb⟩
    | some m => exact wInv_start acc hb hg
  | inEnter =>
    obtain ⟨mid, x', R', hR, hne, hg, hb⟩ := h
    refine ⟨?_, fun hc => by rcases hc with hc | ⟨m0, hc, _⟩ <;> simp at hc⟩
    cases mid with
    | nil =>
      simp only [List.nil_append, List.cons.injEq, Prod.mk.injEq] at hR
      obtain ⟨⟨rfl, rfl⟩, rfl⟩ := hR
      simp only [wNext, ↓reduceIte]
      exact ⟨hg, by simpa using hb⟩
    | cons q mid =>
      simp only [List.cons_append, List.cons.injEq] at hR
      obtain ⟨rfl, rfl⟩ := hR
      obtain ⟨hq, hne⟩ := hne.cons_inv
      simp only [wNext, hq, ↓reduceIte]
      exact ⟨mid, x', R', rfl, hne, hg, by simpa [List.append_assoc] using hb⟩
  | inRun m0 =>
    obtain ⟨hm0, blk, R', hR, hu, hg, hb⟩ := h
    cases blk with
    | cons q blk =>
      simp only [List.cons_append, List.cons.injEq] at hR
      obtain ⟨rfl, rfl⟩ := hR
      obtain ⟨_, hq, hu'⟩ := hu.cons_inv
      cases hq
      refine ⟨?_, fun hc => ?_⟩
      · simp only [wNext, ↓reduceIte]
        exact ⟨hm0, blk, R', rfl, hu', hg, by simpa [List.append_assoc] using hb⟩
      · rcases hc with hc | ⟨m1, hc, hne⟩
        · simp at hc
        · simp only [RunSt.inRun.injEq] at hc; subst hc; exact absurd rfl hne
    | nil =>
      simp only [List.nil_append] at hR
      subst hR
      have hb' : BalE bid := by simpa using hb
      refine ⟨?_, fun _ => hb'⟩
      by_cases hq : m = some m0
      · -- the run continues into the next block of the same mark
        subst hq
        simp only [wNext, ↓reduceIte]
        rcases good_marked_inv hg with ⟨_, blk, R2, rfl, hu2, hbal, hg2⟩ | ⟨rfl, _⟩
        · exact ⟨hm0, blk, R2, rfl, hu2, hg2, by simpa [List.append_assoc] using balE_block hb' hbal⟩
        · exact absurd rfl hm0
      · simp only [wNext, hq, ↓reduceIte]
        cases m with
        | none => exact ⟨good_plain_inv hg, hb'⟩
        | some m' => exact wInv_start acc hb' hg

def OthersOk (id : Nat) (b : BufF) : Prop := ∀ j, j ≠ id → BalE (b j)

theorem bufFOk_of {id : Nat} {b : BufF} (ho : OthersOk id b) (hb : BalE (b id)) : BufFOk b := by
  intro j
  by_cases hj : j = id
  · subst hj; exact hb
  · exact ho j hj

theorem othersOk_set {id : Nat} {b : BufF} (ho : OthersOk id b) (v : List MEv) : OthersOk id (b.set id v) :=
  fun j hj => by rw [BufF.set_ne _ _ hj]; exact ho j hj

theorem balAt_newSel (id : Nat) (acc : Bool) (x : MEv) (b : BufF) (rest : List Act) :
    BalAt b (newSel id acc x ++ rest) = BalAt (b.set id ((if acc then b id else []) ++ [x])) rest := by
  cases acc <;> simp [newSel, BalAt, BufF.set_set, BufF.set_get]

/-- the actions of a writer step in front of `rest`: the buffers are balanced at its yields when the
    link's buffer is at the moments the step may yield (`pre`: before it writes, `post`: after) -/
theorem WActs.balAt {id : Nat} {acc : Bool} {x : MEv} {b : BufF} {pre post : Prop} {acts : List Act} {nb : List MEv}
    (h : WActs id acc x (b id) pre post acts nb) {rest : List Act} (ho : OthersOk id b) (hpre : pre → BalE (b id))
    (hpost : post → BalE nb) (hrest : BalAt (b.set id nb) rest) : BalAt b (acts ++ rest) := by
  cases h with
  | keep l hp => rw [BufF.set_self] at hrest; exact balAt_outs_append l (bufFOk_of ho (hpre hp)) hrest
  | start l hp =>
    rw [List.append_assoc]
    exact balAt_outs_append l (bufFOk_of ho (hpre hp)) ((balAt_newSel ..).mpr hrest)
  | more l hl =>
    cases l with
    | nil => exact hrest
    | cons q l =>
      exact balAt_outs_append _ (bufFOk_of (othersOk_set ho _) (by
        rw [BufF.set_get]; exact hpost (hl (List.cons_ne_nil _ _)))) hrest

theorem wInv_nil {st : RunSt} {bid : List MEv} (h : WInv st bid []) : BalE bid := by
  cases st with
  | idle => exact h.2
  | inRun m0 =>
    obtain ⟨_, blk, R', hR, _, _, hb⟩ := h
    have : blk = [] := by
      cases blk with
      | nil => rfl
      | cons q blk => simp at hR
    subst this
    simpa using hb
  | inEnter =>
    obtain ⟨mid, x, R', hR, _⟩ := h
    cases mid <;> simp at hR

/-- A writer link keeps the buffers balanced at its yields over an action list whose items form a
    `Good` stream (`WInv`) and in which nobody else writes its buffer: `b0` is the buffers as the links
    before it see them, `b` the same with the link's own buffer as the link has filled it so far. -/
theorem writer_balAt {op : Op} {id : Nat} {acc : Bool} {stOf : Ctl → RunSt → Prop} (hw : IsWriter op id acc stOf)
    {c : Ctl} {a u : List Act} (h : LinkRun op c a u) :
    ∀ st b b0, stOf c st → (∀ x ∈ a, id ∉ x.wr) → (∀ j, j ≠ id → b j = b0 j) → BalAt b0 a →
      WInv st (b id) (outsOf a) → BalAt b u := by
  induction h with
  | fin h =>
    intro st b b0 _ _ hag hx hinv
    obtain ⟨l, rfl⟩ := hw.fin h
    exact balAt_outs l (bufFOk_of (fun j hj => hag j hj ▸ hx j) (wInv_nil hinv))
  | @eff c a as u he _ ih =>
    intro st b b0 hc hwr hag hx hinv
    have ha := hwr a (List.mem_cons_self ..)
    rw [balAt_eff he]
    refine ih st _ _ hc (fun z hz => hwr z (List.mem_cons_of_mem _ hz)) (fun j hj => effs_pointwise [a] (hag j hj))
      ((balAt_eff he ..).mp hx) ?_
    rw [effs_one_out a b ha, ← outsOf_eff he]; exact hinv
  | @out c c' p a1 as u hs _ ih =>
    intro st b b0 hc hwr hag hx hinv
    obtain ⟨hnext, hpre⟩ := wNext_inv acc st (b id) p (outsOf as) hinv
    obtain ⟨hc', hact⟩ := hw.step (b id) hc hs
    refine hact.balAt (fun j hj => hag j hj ▸ hx.1 j) hpre (fun hidle => by rw [hidle] at hnext; exact hnext.2) ?_
    refine ih _ _ b0 hc' (fun z hz => hwr z (List.mem_cons_of_mem _ hz))
      (fun j hj => (BufF.set_ne _ _ hj).trans (hag j hj)) hx.2 ?_
    rw [BufF.set_get]; exact hnext

theorem copy_balAt (id : Nat) (acc : Bool) (a : List Act) (b : BufF) (u : List Act)
    (hf : injFree a = true) (hw : ∀ x ∈ a, id ∉ x.wr) (hg : Good (outsOf a)) (hb : BalAt b a) (hbid : BalE (b id))
    (h : linkU (.copy id acc) (.copy .idle []) a = some u) : BalAt b u :=
  writer_balAt (copy_isWriter id acc) (linkU_run hf h) .idle b b ⟨[], rfl⟩ hw (fun _ _ => rfl) hb ⟨hg, hbid⟩

theorem cut_balAt (id : Nat) (acc : Bool) (a : List Act) (b : BufF) (u : List Act)
    (hf : injFree a = true) (hw : ∀ x ∈ a, id ∉ x.wr) (hg : Good (outsOf a)) (hb : BalAt b a) (hbid : BalE (b id))
    (h : linkU (.cut id acc) (.cut .idle false []) a = some u) : BalAt b u :=
  writer_balAt (cut_isWriter id acc) (linkU_run hf h) .idle b b ⟨_, _, rfl⟩ hw (fun _ _ => rfl) hb ⟨hg, hbid⟩

end Genshi.Tf
