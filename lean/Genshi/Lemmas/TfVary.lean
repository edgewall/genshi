/-
  The element loops with a content that VARIES from injection to injection (`prependL`,
  `appendGoL` of `TfVaryDefs.lean`: what a link that reads a `StreamBuffer` lazily computes) keep a
  `Good` stream `Good` and balanced the same way, as long as every single content is unmarked and
  balanced on its own (`VOk`); with constant contents they are `prepend` / `append`.  The
  selection loop `runGoL` is in `TfRunL.lean`.  Examples for all three.
-/
import Genshi.Lemmas.TfRunL
namespace Genshi.Tf

theorem prependL_inner (cs : List MStream) (l s : MStream) (h : Inner l) :
    prependL cs (l ++ s) = l ++ prependL cs s :=
  inner_append (fun ⟨m, x⟩ s h1 _ => by simp [prependL, show m ≠ some .enter from h1]) h s

theorem prependL_elem (cs : List MStream) (e x : MEv) (mid s : MStream) (h : Inner mid) :
    prependL cs ((some .enter, e) :: (mid ++ (some .exit, x) :: s)) =
      (some .enter, e) :: ((cs.headD [] ++ mid) ++ (some .exit, x) :: prependL cs.tail s) := by
  simp [prependL, prependL_inner cs.tail mid _ h]

theorem prependL_elemOp : ElemOp prependL
    (fun cs e mid x => (some .enter, e) :: ((cs.headD [] ++ mid) ++ [(some .exit, x)])) List.tail :=
  ⟨fun _ => rfl, prependL_inner, fun c e mid x s h => by rw [prependL_elem c e x mid s h]; simp⟩

theorem prependL_goodLike {s : MStream} (hg : Good s) (cs : List MStream) (hcs : ∀ c ∈ cs, VOk c) :
    GoodLike (prependL cs s) s :=
  prependL_elemOp.good (fun cs => ∀ c ∈ cs, VOk c) (fun _ => forall_tail)
    (fun cs t a mid hcs hf hb => .elem t a (Flat.append_plain (forall_headD VOk.nil hcs).1 hf)
      (by rw [unmark_append]; exact (forall_headD VOk.nil hcs).2.append hb)) hg cs hcs

theorem appendGoL_inner (cs : List MStream) (l s : MStream) (h : Inner l) :
    appendGoL cs none (l ++ s) = l ++ appendGoL cs none s :=
  inner_append (fun ⟨m, x⟩ s h1 _ => by simp [appendGoL, show m ≠ some .enter from h1]) h s

theorem appendGoL_mid (cs : List MStream) (last : MItem) (l : MStream) (x : MEv) (s : MStream)
    (h : Inner l) :
    appendGoL cs (some last) (l ++ (some .exit, x) :: s) =
      l ++ (cs.headD [] ++ (some .exit, x) :: appendGoL cs.tail none s) := by
  induction l generalizing last with
  | nil => simp [appendGoL]
  | cons p l ih =>
    obtain ⟨m, y⟩ := p
    have h1 : m ≠ some .exit := (h (m, y) (by simp)).2
    simp [appendGoL, h1, ih _ h.tail]

theorem appendL_elem (cs : List MStream) (e x : MEv) (mid s : MStream) (h : Inner mid) :
    appendGoL cs none ((some .enter, e) :: (mid ++ (some .exit, x) :: s)) =
      (some .enter, e) :: ((mid ++ cs.headD []) ++ (some .exit, x) :: appendGoL cs.tail none s) := by
  simp [appendGoL, appendGoL_mid cs _ mid x s h]

theorem appendL_elemOp : ElemOp (fun cs => appendGoL cs none)
    (fun cs e mid x => (some .enter, e) :: ((mid ++ cs.headD []) ++ [(some .exit, x)])) List.tail :=
  ⟨fun _ => rfl, appendGoL_inner, fun c e mid x s h => by rw [appendL_elem c e x mid s h]; simp⟩

theorem appendL_goodLike {s : MStream} (hg : Good s) (cs : List MStream) (hcs : ∀ c ∈ cs, VOk c) :
    GoodLike (appendGoL cs none s) s :=
  appendL_elemOp.good (fun cs => ∀ c ∈ cs, VOk c) (fun _ => forall_tail)
    (fun cs t a mid hcs hf hb => .elem t a (hf.append (Flat.ofNone (forall_headD VOk.nil hcs).1))
      (by rw [unmark_append]; exact hb.append (forall_headD VOk.nil hcs).2)) hg cs hcs

theorem prependL_replicate (c : List MEv) :
    ∀ (s : MStream) (n : Nat), s.length ≤ n → prependL (List.replicate n (inj c)) s = prepend c s := by
  intro s
  induction s with
  | nil => intro n _; simp [prependL, prepend]
  | cons p s ih =>
    intro n hn
    obtain ⟨m, x⟩ := p
    simp only [List.length_cons] at hn
    obtain ⟨n', rfl⟩ : ∃ n', n = n' + 1 := ⟨n - 1, by omega⟩
    have h1 := ih (n' + 1) (by omega)
    have h2 := ih n' (by omega)
    rw [List.replicate_succ] at h1 ⊢
    simp only [prependL, prepend, List.headD_cons, List.tail_cons, h1, h2]

theorem appendGoL_replicate (c : List MEv) :
    ∀ (s : MStream) (last : Option MItem) (n : Nat), s.length < n →
      appendGoL (List.replicate n (inj c)) last s = appendGo c last s := by
  intro s
  induction s with
  | nil =>
    intro last n hn
    obtain ⟨n', rfl⟩ : ∃ n', n = n' + 1 := ⟨n - 1, by simp at hn; omega⟩
    cases last <;> simp [appendGoL, appendGo, List.replicate_succ]
  | cons p s ih =>
    intro last n hn
    obtain ⟨m, x⟩ := p
    simp only [List.length_cons] at hn
    obtain ⟨n', rfl⟩ : ∃ n', n = n' + 1 := ⟨n - 1, by omega⟩
    have h1 := fun last => ih last (n' + 1) (by omega)
    have h2 := fun last => ih last n' (by omega)
    rw [List.replicate_succ] at h1 ⊢
    cases last <;> simp only [appendGoL, appendGo, List.headD_cons, List.tail_cons, h1, h2]

/-! ### the statements are not vacuous: a `Good` stream with two selected elements, two different
    admissible contents, and what the loops make of them -/

section examples

private def qa : QName := ⟨[], ['a']⟩
private def qb : QName := ⟨[], ['b']⟩
private def c1 : MStream := [(none, .ev (.text ['1'] false))]
private def c2 : MStream := [(none, .ev (.start qb []) ), (none, .ev (.text ['2'] false)), (none, .ev (.end_ qb))]
private def two : MStream :=
  [(some .enter, .ev (.start qa [])), (some .exit, .ev (.end_ qa)), (none, .ev (.text ['-'] false)),
   (some .enter, .ev (.start qb [])), (some .exit, .ev (.end_ qb))]

private theorem two_good : Good two :=
  Good.elem qa [] [] Flat.nil Bal.nil (Good.plain _ (Good.elem qb [] [] Flat.nil Bal.nil Good.nil))

private theorem c12_ok : ∀ c ∈ [c1, c2], VOk c := by
  intro c hc
  simp only [List.mem_cons, List.not_mem_nil, or_false] at hc
  rcases hc with rfl | rfl
  · exact ⟨by unfold NoneMarked; decide, by unfold Bal; decide⟩
  · exact ⟨by unfold NoneMarked; decide, by unfold Bal; decide⟩

/-- after(): the first element is followed by `c1`, the second by `c2` -/
example : runGoL true .idle [] [c1, c2] two =
    [(some .enter, .ev (.start qa [])), (some .exit, .ev (.end_ qa))] ++ c1 ++
    [(none, .ev (.text ['-'] false)), (some .enter, .ev (.start qb [])), (some .exit, .ev (.end_ qb))] ++ c2 := by
  decide

/-- replace(): the first element becomes `c1`, the second `c2` -/
example : runGoL false .idle [c1, c2] [] two = c1 ++ [(none, .ev (.text ['-'] false))] ++ c2 := by
  decide

example : Good (runGoL true .idle [] [c1, c2] two) ∧ WellNested (unmark (runGoL true .idle [] [c1, c2] two)) :=
  ⟨runGoL_good true two_good [] [c1, c2] (by simp) c12_ok,
   runGoL_wellNested true two_good [] [c1, c2] (by simp) c12_ok (by decide)⟩

example : prependL [c1, c2] two =
    [(some .enter, .ev (.start qa []))] ++ c1 ++ [(some .exit, .ev (.end_ qa)), (none, .ev (.text ['-'] false)),
     (some .enter, .ev (.start qb []))] ++ c2 ++ [(some .exit, .ev (.end_ qb))] := by
  decide

example : Good (prependL [c1, c2] two) ∧ WellNested (unmark (prependL [c1, c2] two)) :=
  ((prependL_goodLike two_good _ c12_ok).wn (by decide)).symm

example : appendGoL [c2, c1] none two =
    [(some .enter, .ev (.start qa []))] ++ c2 ++ [(some .exit, .ev (.end_ qa)), (none, .ev (.text ['-'] false)),
     (some .enter, .ev (.start qb []))] ++ c1 ++ [(some .exit, .ev (.end_ qb))] := by
  decide

example : Good (appendGoL [c1, c2] none two) ∧ WellNested (unmark (appendGoL [c1, c2] none two)) :=
  ((appendL_goodLike two_good _ c12_ok).wn (by decide)).symm

/-- the hypothesis `VOk` is needed: an unbalanced content breaks the nesting -/
example : ¬ WellNested (unmark (runGoL true .idle [] [[(none, .ev (.end_ qa))]] two)) := by
  decide

end examples

end Genshi.Tf
