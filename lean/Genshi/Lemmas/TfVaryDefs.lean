/-
  The injector loops with a content that varies from injection to injection (`runGoL`,
  `prependL`, `appendGoL`): what a link that reads a buffer lazily computes (`Lemmas/TfTraceInj.lean`).
  With the same content at every injection they are `runGo` (`runGoL_replicate`, `Lemmas/TfRunL.lean`),
  `prepend`, `appendGo` (`prependL_replicate`, `appendGoL_replicate`, `Lemmas/TfVary.lean`).  They are
  defined in front of the stage-wise half because its facts about `runGo` (`runGo_balance`, `runGo_good`,
  `runGo_segs`) are read off those about `runGoL`, so that both halves rest on one proof.
-/
import Genshi.Lemmas.TfGood
namespace Genshi.Tf

/-- admissible varying content: unmarked and balanced -/
def VOk (c : MStream) : Prop := NoneMarked c ∧ Bal (unmark c)

/-- `runGo` (replace / before / after) with a content that varies: the k-th use of `pre` is the
    k-th element of `pres`, the k-th use of `post` the k-th element of `posts` (`[]` when the list
    is exhausted) -/
def runGoL (keep : Bool) : RunSt → List MStream → List MStream → MStream → MStream
  | .idle, _, _, [] => []
  | _, _, posts, [] => posts.headD []
  | .idle, pres, posts, (none, x) :: s => (none, x) :: runGoL keep .idle pres posts s
  | .idle, pres, posts, (some m, x) :: s =>
      pres.headD [] ++ ((if keep then [(some m, x)] else []) ++ runGoL keep (startSt m) pres.tail posts s)
  | .inEnter, pres, posts, (m, x) :: s =>
      (if keep then [(m, x)] else []) ++
        (if m = some .exit then posts.headD [] ++ runGoL keep .idle pres posts.tail s
         else runGoL keep .inEnter pres posts s)
  | .inRun m0, pres, posts, (m, x) :: s =>
      if m = some m0 then (if keep then [(m, x)] else []) ++ runGoL keep (.inRun m0) pres posts s
      else
        posts.headD [] ++ (match m with
          | none => (none, x) :: runGoL keep .idle pres posts.tail s
          | some m' => pres.headD [] ++ ((if keep then [(some m', x)] else []) ++
                        runGoL keep (startSt m') pres.tail posts.tail s))

/-- `prepend` with a varying content: one element of `cs` per ENTER -/
def prependL : List MStream → MStream → MStream
  | _, [] => []
  | cs, (m, x) :: s =>
      if m = some .enter then (m, x) :: (cs.headD [] ++ prependL cs.tail s) else (m, x) :: prependL cs s

/-- `append` with a varying content: one element of `cs` per injection (in front of an EXIT, or at
    the end of a stream that ends inside an element) -/
def appendGoL : List MStream → Option MItem → MStream → MStream
  | _, none, [] => []
  | cs, some last, [] => cs.headD [] ++ [last]
  | cs, none, (m, x) :: s => (m, x) :: appendGoL cs (if m = some .enter then some (m, x) else none) s
  | cs, some _, (m, x) :: s =>
      if m = some .exit then cs.headD [] ++ (m, x) :: appendGoL cs.tail none s
      else (m, x) :: appendGoL cs (some (m, x)) s

end Genshi.Tf
