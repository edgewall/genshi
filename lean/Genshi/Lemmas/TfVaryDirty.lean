/-
  The injector loops with a content that VARIES from injection to injection (`runGoL`,
  `prependL`, `appendGoL`) on streams without ENTER / EXIT marks (`Inner`: what `invert()` leaves
  behind): examples for `runGoL_balance_any` / `runGoL_inner` of `TfDirty.lean`, and the
  element-only loops `prependL` / `appendGoL`, which are the identity on `Inner` streams.
-/
import Genshi.Lemmas.TfVary
import Genshi.Lemmas.TfDirty
namespace Genshi.Tf

theorem runGoL_wellNested_any (s : MStream) (pres posts : List MStream)
    (hpres : ∀ c ∈ pres, VOk c) (hposts : ∀ c ∈ posts, VOk c) (state : RunSt)
    (hwn : WellNested (unmark s)) : WellNested (unmark (runGoL true state pres posts s)) := by
  exact wn_of_balance (runGoL_balance_any s pres posts hpres hposts _) hwn

/-! the statement is not vacuous: an `Inner` stream (marks OUTSIDE / none only) whose OUTSIDE runs
    cut through the element `a` (its START is selected, its text and END are not; then the text of
    the next run), two different balanced contents `d1`, `d2` — one behind each run -/
section examples

private def ra : QName := ⟨[], ['a']⟩
private def rb : QName := ⟨[], ['b']⟩
private def d1 : MStream := [(none, .ev (.text ['1'] false))]
private def d2 : MStream :=
  [(none, .ev (.start rb [])), (none, .ev (.text ['2'] false)), (none, .ev (.end_ rb))]
private def cutS : MStream :=
  [(some .outside, .ev (.start ra [])), (none, .ev (.text ['-'] false)), (none, .ev (.end_ ra)),
   (some .outside, .ev (.text ['+'] false))]

private theorem cut_inner : Inner cutS := by unfold Inner; decide

private theorem d12_ok : ∀ c ∈ [d1, d2], VOk c := by
  intro c hc
  simp only [List.mem_cons, List.not_mem_nil, or_false] at hc
  rcases hc with rfl | rfl
  · exact ⟨by unfold NoneMarked; decide, by unfold Bal; decide⟩
  · exact ⟨by unfold NoneMarked; decide, by unfold Bal; decide⟩

/-- after(): `d1` lands inside the element `a` (behind its selected START), `d2` at the end -/
example : runGoL true .idle [] [d1, d2] cutS =
    [(some .outside, .ev (.start ra []))] ++ d1 ++
    [(none, .ev (.text ['-'] false)), (none, .ev (.end_ ra)), (some .outside, .ev (.text ['+'] false))] ++
    d2 := by
  decide

example : WellNested (unmark (runGoL true .idle [] [d1, d2] cutS)) :=
  runGoL_wellNested_any cutS [] [d1, d2] (by simp) d12_ok .idle (by decide)

end examples

example : Inner (runGoL true .idle [] [d1, d2] cutS) :=
  runGoL_inner cutS cut_inner [] [d1, d2] (by simp) d12_ok .idle

/-- `prependL` only acts at ENTER marks: the identity after `invert()` -/
theorem prependL_inner_id (cs : List MStream) {s : MStream} (h : Inner s) : prependL cs s = s :=
  prependL_elemOp.inner_id cs h

/-- `appendGoL` only acts at ENTER / EXIT marks: the identity after `invert()` -/
theorem appendL_inner_id (cs : List MStream) {s : MStream} (h : Inner s) :
    appendGoL cs none s = s :=
  appendL_elemOp.inner_id cs h

example : prependL [d1, d2] cutS = cutS ∧ appendGoL [d1, d2] none cutS = cutS :=
  ⟨prependL_inner_id _ cut_inner, appendL_inner_id _ cut_inner⟩

end Genshi.Tf
