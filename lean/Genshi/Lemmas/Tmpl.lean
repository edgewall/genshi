/-
  C04 helper lemmas: the result combinators `seq`, `mapSt`, `wrapOut` (when they succeed, when they
  fail, their algebra), facts about single functions of the implementation model, and what a render
  leaves of the frame stack, the choice stack, the data and the macro table (`run_all`).
-/
import Genshi.Lemmas.ListBasics
import Genshi.Model.TmplImpl
namespace Genshi.Tmpl

theorem seq_ok {σ : Type} {r : Res σ} {k : σ → Res σ} {o : List Event} {s' : σ} :
    seq r k = .ok (o, s') ↔
      ∃ o1 s1 o2, r = .ok (o1, s1) ∧ k s1 = .ok (o2, s') ∧ o = o1 ++ o2 := by
  unfold seq
  cases r with
  | error e => simp
  | ok p =>
    obtain ⟨o1, s1⟩ := p
    simp only
    cases hk : k s1 with
    | error e => simp [hk]
    | ok q =>
      obtain ⟨o2, s2⟩ := q
      simp only [Except.ok.injEq, Prod.mk.injEq]
      constructor
      · rintro ⟨rfl, rfl⟩; exact ⟨o1, s1, o2, ⟨rfl, rfl⟩, by rw [hk], rfl⟩
      · rintro ⟨a, b, c, ⟨rfl, rfl⟩, h2, rfl⟩
        rw [hk] at h2
        simp only [Except.ok.injEq, Prod.mk.injEq] at h2
        exact ⟨by rw [h2.1], h2.2⟩

theorem mapSt_ok {σ : Type} {f : σ → σ} {r : Res σ} {o : List Event} {s' : σ} :
    mapSt f r = .ok (o, s') ↔ ∃ s1, r = .ok (o, s1) ∧ s' = f s1 := by
  unfold mapSt
  cases r with
  | error e => simp
  | ok p =>
    obtain ⟨o1, s1⟩ := p
    simp only [Except.ok.injEq, Prod.mk.injEq]
    constructor
    · rintro ⟨rfl, rfl⟩; exact ⟨s1, ⟨rfl, rfl⟩, rfl⟩
    · rintro ⟨s, ⟨rfl, rfl⟩, rfl⟩; exact ⟨rfl, rfl⟩

theorem wrapOut_ok {σ : Type} {a b : Event} {r : Res σ} {o : List Event} {s' : σ} :
    wrapOut a b r = .ok (o, s') ↔ ∃ o1, r = .ok (o1, s') ∧ o = a :: o1 ++ [b] := by
  unfold wrapOut
  cases r with
  | error e => simp
  | ok p =>
    obtain ⟨o1, s1⟩ := p
    simp only [Except.ok.injEq, Prod.mk.injEq]
    constructor
    · rintro ⟨rfl, rfl⟩; exact ⟨o1, ⟨rfl, rfl⟩, rfl⟩
    · rintro ⟨o2, ⟨rfl, rfl⟩, rfl⟩; exact ⟨rfl, rfl⟩

theorem mapSt_err {σ : Type} {f : σ → σ} {r : Res σ} {e : Err} :
    mapSt f r = .error e ↔ r = .error e := by
  unfold mapSt
  cases r with
  | error e' => simp
  | ok p => obtain ⟨o, s⟩ := p; simp

theorem wrapOut_err {σ : Type} {a b : Event} {r : Res σ} {e : Err} :
    wrapOut a b r = .error e ↔ r = .error e := by
  unfold wrapOut
  cases r with
  | error e' => simp
  | ok p => obtain ⟨o, s⟩ := p; simp

theorem seq_fails {σ : Type} {r : Res σ} {k : σ → Res σ} :
    (∃ e, seq r k = .error e ∧ e ≠ .fuel) ↔
      (∃ e, r = .error e ∧ e ≠ .fuel) ∨ ∃ o s, r = .ok (o, s) ∧ ∃ e, k s = .error e ∧ e ≠ .fuel := by
  cases r with
  | error e' => simp [seq]
  | ok p =>
    obtain ⟨o1, s1⟩ := p
    have hs : ∀ e, seq (.ok (o1, s1)) k = .error e ↔ k s1 = .error e := fun e => by
      cases hk : k s1 <;> simp [seq, hk]
    simp only [hs, reduceCtorEq, false_and, exists_false, false_or]
    exact ⟨fun h => ⟨o1, s1, rfl, h⟩, fun ⟨_, _, h1, h2⟩ => by cases h1; exact h2⟩

theorem mapSt_id {σ : Type} (r : Res σ) : mapSt (fun s => s) r = r := by
  cases r <;> rfl

theorem seq_ok_nil {σ : Type} (r : Res σ) : seq r (fun s => .ok ([], s)) = r := by
  cases r with
  | error e => rfl
  | ok p => simp [seq]

theorem seq_assoc {σ : Type} (r : Res σ) (k k' : σ → Res σ) :
    seq (seq r k) k' = seq r (fun s => seq (k s) k') := by
  cases r with
  | error e => rfl
  | ok p =>
    obtain ⟨o, s⟩ := p
    cases h : k s with
    | error e => simp [seq, h]
    | ok q =>
      obtain ⟨o2, s2⟩ := q
      cases h' : k' s2 with
      | error e => simp [seq, h, h']
      | ok q' => simp [seq, h, h']

theorem seq_mapSt {σ : Type} (f : σ → σ) (r : Res σ) (k : σ → Res σ) :
    seq (mapSt f r) k = seq r (fun s => k (f s)) := by
  cases r <;> rfl

theorem seq_skip {σ : Type} {r : Res σ} {k : σ → Res σ} (h : ∀ o s, r = .ok (o, s) → k s = .ok ([], s)) :
    seq r k = r := by
  cases r with
  | error e => rfl
  | ok p => simp [seq, h p.1 p.2 rfl]

section
variable {α β : Type} {R : α → β → Prop} {a : List α} {b : List β} (hlen : a.length = b.length)
  (h : ∀ (i : Nat) (x : α) (y : β), a[i]? = some x → b[i]? = some y → R x y)
include hlen h

/-- two tables of the same length that are related entry by entry stay so when each gets one more entry -/
theorem table_snoc {x : α} {y : β} (hxy : R x y) (i : Nat) (u : α) (v : β)
    (h1 : (a ++ [x])[i]? = some u) (h2 : (b ++ [y])[i]? = some v) : R u v := by
  by_cases hi : i < a.length
  · rw [List.getElem?_append_left hi] at h1
    rw [List.getElem?_append_left (hlen ▸ hi)] at h2
    exact h i u v h1 h2
  · have hi' := Nat.le_of_not_lt hi
    rw [List.getElem?_append_right hi'] at h1
    rw [List.getElem?_append_right (hlen ▸ hi'), ← hlen] at h2
    cases hk : i - a.length with
    | zero => simp only [hk, List.getElem?_cons_zero, Option.some.injEq] at h1 h2; subst h1 h2; exact hxy
    | succ k => simp [hk] at h1

/-- … and answer a lookup alike -/
theorem table_get (i : Nat) : (a[i]? = none ∧ b[i]? = none) ∨ ∃ x y, a[i]? = some x ∧ b[i]? = some y ∧ R x y := by
  cases ha : a[i]? with
  | none => exact .inl ⟨rfl, by rw [List.getElem?_eq_none_iff] at ha ⊢; rw [← hlen]; exact ha⟩
  | some x =>
    have hlt : i < b.length := by rw [← hlen]; exact (List.getElem?_eq_some_iff.1 ha).1
    have hb := List.getElem?_eq_getElem hlt
    exact .inr ⟨x, b[i], rfl, hb, h i x _ ha hb⟩

end

theorem whenMatches_no_test {look : Name → Val} {c : Choice} {e : Option Expr}
    (h : (!c.hasTest && e.isNone) = true) : whenMatches look c e = .error .runtime := by
  simp only [Bool.and_eq_true, Bool.not_eq_true', Option.isNone_iff_eq_none] at h
  simp [whenMatches, h.1, h.2]

/-- a `py:when` without a test under a `py:choose` without one: the failure set apart, as `run` has it -/
theorem whenMatches_bind {α : Type} (look : Name → Val) (c : Choice) (e : Option Expr) (k : Bool → Except Err α) :
    whenMatches look c e >>= k =
      if (!c.hasTest && e.isNone) = true then .error .runtime else whenMatches look c e >>= k := by
  split
  · rename_i h; rw [whenMatches_no_test h]; rfl
  · rfl

theorem whenMatches_ok_test {look : Name → Val} {c : Choice} {e : Option Expr} {m : Bool}
    (h : whenMatches look c e = .ok m) : (!c.hasTest && e.isNone) = false := by
  cases ht : !c.hasTest && e.isNone with
  | false => rfl
  | true => rw [whenMatches_no_test ht] at h; cases h

theorem run_flat_single (k : Nat) (e : CEv) (st : St) : run (k + 1) (.flat [e]) st = run k (.ev e) st := by
  cases k with
  | zero => rfl
  | succ k => simp only [run]; exact seq_ok_nil _

/-- the clause of `run` for `py:attrs` followed by anything but a lone `py:strip` -/
theorem run_attrs_more {n : Nat} {e : Expr} {d2 : Dir} {ds2 : List Dir} {body : List CEv} {st : St}
    (h : ∀ c, d2 = .strip c → ds2 = [] → False) :
    run (n + 1) (.apply (.attrs e :: d2 :: ds2) body) st = .error .unmodelled := run.eq_22 st n e d2 ds2 body h

/-- the directives behind a `py:attrs`, as the clauses of `run` tell them apart -/
theorem attrs_tail_cases (ds : List Dir) : ds = [] ∨ (∃ c, ds = [.strip c]) ∨
    ∃ d2 ds2, ds = d2 :: ds2 ∧ ∀ c, d2 = .strip c → ds2 = [] → False := by
  cases ds with
  | nil => exact .inl rfl
  | cons d2 ds2 =>
    by_cases hs : ∃ c, d2 = .strip c ∧ ds2 = []
    · obtain ⟨c, rfl, rfl⟩ := hs; exact .inr (.inl ⟨c, rfl⟩)
    · exact .inr (.inr ⟨d2, ds2, rfl, fun c h1 h2 => hs ⟨c, h1, h2⟩⟩)

/-- invariant of a task on the frame stack: `binds` assigns into the top frame, every
    other task leaves the stack as it found it -/
def ScopesOK : ITask → St → St → Prop
  | .binds _ _ _, st, st' => st'.scopes.tail = st.scopes.tail ∧ (st.scopes ≠ [] → st'.scopes ≠ [])
  | _, st, st' => st'.scopes = st.scopes

theorem ScopesOK_iff {t : ITask} {st st' : St} (ht : ∀ bs ds b, t ≠ .binds bs ds b) :
    ScopesOK t st st' ↔ st'.scopes = st.scopes := by
  cases t <;> first | exact Iff.rfl | exact absurd rfl (ht _ _ _)

@[simp] theorem push_scopes (st : St) (f : Frame) : (st.push f).scopes = f :: st.scopes := rfl
@[simp] theorem pop_scopes (st : St) : st.pop.scopes = st.scopes.tail := rfl
@[simp] theorem setMatched_scopes (st : St) (c cs m) : (st.setMatched c cs m).scopes = st.scopes := rfl
@[simp] theorem popChoice_scopes (st : St) : st.popChoice.scopes = st.scopes := rfl
@[simp] theorem define_scopes (st : St) (n m) : (st.define n m).scopes = st.scopes := rfl

theorem setTop_scopes (st : St) (x : Name) (v : Val) :
    (st.setTop x v).scopes.tail = st.scopes.tail ∧ (st.scopes ≠ [] → (st.setTop x v).scopes ≠ []) := by
  unfold St.setTop
  cases h : st.scopes with
  | nil => simp [h]
  | cons f fs => simp

/-- what rendering may do to `_choice_stack`: nothing, or set the matched flag of the top entry -/
def ChoiceStep (a b : List Choice) : Prop :=
  b = a ∨ ∃ c cs, a = c :: cs ∧ c.matched = false ∧ b = { c with matched := true } :: cs

theorem ChoiceStep.refl (a : List Choice) : ChoiceStep a a := Or.inl rfl

theorem ChoiceStep.trans {a b c : List Choice} (h1 : ChoiceStep a b) (h2 : ChoiceStep b c) :
    ChoiceStep a c := by
  rcases h1 with rfl | ⟨x, xs, rfl, hx, rfl⟩
  · exact h2
  · rcases h2 with rfl | ⟨y, ys, hy, hm, _⟩
    · exact Or.inr ⟨x, xs, rfl, hx, rfl⟩
    · simp only [List.cons.injEq] at hy
      rw [← hy.1] at hm
      simp at hm

theorem ChoiceStep.tail_eq {c : Choice} {cs b : List Choice} (h : ChoiceStep (c :: cs) b) : b.tail = cs := by
  rcases h with rfl | ⟨_, _, h1, _, rfl⟩
  · rfl
  · exact (List.cons.inj h1).2.symm

/-- what rendering may do to the data frame and the macro table: macros are only added, and a
    data variable keeps its value unless a macro created meanwhile was stored under its name -/
def DataStep (st st' : St) : Prop :=
  (∃ ms, st'.macros = st.macros ++ ms) ∧
  ∀ x, st'.data.look? x = st.data.look? x ∨
       ∃ i, st.macros.length ≤ i ∧ st'.data.look? x = some (.macro i)

theorem DataStep.refl (st : St) : DataStep st st := ⟨⟨[], by simp⟩, fun _ => Or.inl rfl⟩

theorem DataStep.trans {a b c : St} (h1 : DataStep a b) (h2 : DataStep b c) : DataStep a c := by
  obtain ⟨⟨m1, e1⟩, d1⟩ := h1
  obtain ⟨⟨m2, e2⟩, d2⟩ := h2
  refine ⟨⟨m1 ++ m2, by rw [e2, e1, List.append_assoc]⟩, fun x => ?_⟩
  rcases d2 x with h | ⟨i, hi, h⟩
  · rcases d1 x with g | ⟨j, hj, g⟩
    · exact Or.inl (h.trans g)
    · exact Or.inr ⟨j, hj, h.trans g⟩
  · refine Or.inr ⟨i, ?_, h⟩
    rw [e1] at hi
    simp at hi
    omega

theorem look_set (e : Env) (n : Name) (v : Val) (x : Name) :
    (e.set n v).look? x = if n = x then some v else e.look? x := by
  induction e with
  | nil => simp [Env.set, Env.look?]
  | cons p rest ih =>
    obtain ⟨k, w⟩ := p
    simp only [Env.set]
    by_cases hk : k = n
    · subst hk
      simp only [↓reduceIte, Env.look?]
      by_cases hx : k = x <;> simp [hx]
    · simp only [hk, ↓reduceIte, Env.look?, ih]
      by_cases hx : k = x
      · subst hx; simp [Ne.symm hk]
      · simp [hx]

def Inv (st st' : St) : Prop := ChoiceStep st.choice st'.choice ∧ DataStep st st'

theorem Inv.refl (st : St) : Inv st st := ⟨ChoiceStep.refl _, DataStep.refl _⟩
theorem Inv.trans {a b c : St} (h1 : Inv a b) (h2 : Inv b c) : Inv a c :=
  ⟨h1.1.trans h2.1, h1.2.trans h2.2⟩

theorem Inv.of_same {st st' : St} (h1 : st'.choice = st.choice) (h2 : st'.data = st.data)
    (h3 : st'.macros = st.macros) : Inv st st' := by
  refine ⟨Or.inl h1, ⟨[], by simp [h3]⟩, fun x => Or.inl (by rw [h2])⟩

theorem Inv.push (st : St) (f : Frame) : Inv st (st.push f) := Inv.of_same rfl rfl rfl
theorem Inv.pop (st : St) : Inv st st.pop := Inv.of_same rfl rfl rfl
theorem Inv.setTop (st : St) (x : Name) (v : Val) : Inv st (st.setTop x v) := by
  unfold St.setTop; split
  · exact Inv.refl _
  · exact Inv.of_same rfl rfl rfl

theorem Inv.define (st : St) (n : Name) (m : Macro) : Inv st (st.define n m) := by
  refine ⟨Or.inl rfl, ⟨[m], rfl⟩, fun x => ?_⟩
  simp only [St.define, look_set]
  by_cases h : n = x
  · exact Or.inr ⟨st.macros.length, Nat.le_refl _, by simp [h]⟩
  · exact Or.inl (by simp [h])

theorem Inv.setMatched (st : St) (c : Choice) (cs : List Choice) (m : Bool)
    (h : st.choice = c :: cs) (hc : c.matched = false) : Inv st (st.setMatched c cs m) := by
  refine ⟨?_, DataStep.refl _⟩
  cases m with
  | true => exact Or.inr ⟨c, cs, h, hc, rfl⟩
  | false =>
    refine Or.inl ?_
    simp only [St.setMatched, h]
    congr 1
    cases c; simp_all

/-- every successful answer ends in a state with `Q` -/
def ResAll {σ : Type} (Q : σ → Prop) (r : Res σ) : Prop := ∀ o s, r = .ok (o, s) → Q s

theorem ResAll.ok {σ : Type} {Q : σ → Prop} {o : List Event} {s : σ} (h : Q s) : ResAll Q (.ok (o, s)) := by
  intro _ _ e; cases e; exact h

theorem ResAll.error {σ : Type} {Q : σ → Prop} (e : Err) : ResAll Q (.error e) := fun _ _ h => by cases h

theorem ResAll.mono {σ : Type} {Q Q' : σ → Prop} {r : Res σ} (h : ResAll Q r) (hq : ∀ s, Q s → Q' s) :
    ResAll Q' r := fun o s e => hq s (h o s e)

theorem ResAll.bind {σ α : Type} {Q : σ → Prop} (x : Except Err α) {f : α → Res σ} (h : ∀ a, ResAll Q (f a)) :
    ResAll Q (x >>= f : Except Err (List Event × σ)) := by
  cases x with
  | error e => exact .error e
  | ok a => exact h a

theorem ResAll.seq {σ : Type} {Q Q' : σ → Prop} {r : Res σ} {k : σ → Res σ} (h : ResAll Q r)
    (hk : ∀ s, Q s → ResAll Q' (k s)) : ResAll Q' (seq r k) := by
  intro o s e
  obtain ⟨o1, s1, o2, h1, h2, _⟩ := seq_ok.1 e
  exact hk s1 (h o1 s1 h1) o2 s h2

theorem ResAll.mapSt {σ : Type} {Q Q' : σ → Prop} {r : Res σ} {f : σ → σ} (h : ResAll Q r)
    (hf : ∀ s, Q s → Q' (f s)) : ResAll Q' (mapSt f r) := by
  intro o s e
  obtain ⟨s1, h1, rfl⟩ := mapSt_ok.1 e
  exact hf s1 (h o s1 h1)

/-- what a render leaves of the frame stack, the choice stack, the data and the macro table -/
theorem run_all : ∀ (n : Nat) (t : ITask) (st : St), ResAll (fun st' => ScopesOK t st st' ∧ Inv st st') (run n t st) := by
  intro n
  induction n with
  | zero => intro t st; exact .error _
  | succ n ih =>
    intro t st
    have same : ∀ {t : ITask} {o : List Event}, (∀ bs ds b, t ≠ .binds bs ds b) →
        ResAll (fun st' => ScopesOK t st st' ∧ Inv st st') (.ok (o, st)) := by
      intro t o ht
      exact .ok ⟨(ScopesOK_iff ht).2 rfl, Inv.refl _⟩
    cases t with
    | flat body =>
      cases body with
      | nil => exact same (by simp)
      | cons ev rest =>
        simp only [run]
        exact .seq (ih _ _) fun s1 a => (ih _ s1).mono fun s2 b => ⟨b.1.trans a.1, a.2.trans b.2⟩
    | ev e =>
      cases e with
      | start t a => exact same (by simp)
      | end_ t => exact same (by simp)
      | text s => exact same (by simp)
      | xexpr x =>
        cases x with
        | pure e => simp only [run]; exact .bind _ fun _ => .bind _ fun _ => same (by simp)
        | call f args =>
          simp only [run]
          refine .bind _ fun _ => .bind _ fun _ => .bind _ fun _ => .bind _ fun scope => ?_
          exact (ih _ _).mapSt fun s1 a =>
            ⟨by simpa [ScopesOK] using congrArg List.tail a.1, ((Inv.push st scope).trans a.2).trans (Inv.pop s1)⟩
      | sub ds body => simp only [run]; exact ih _ _
    | apply ds body =>
      cases ds with
      | nil => simp only [run]; exact ih _ _
      | cons d ds =>
        cases d with
        | def_ name params => exact .ok ⟨rfl, Inv.define _ _ _⟩
        | when e =>
          simp only [run]
          cases hc : st.choice with
          | nil => exact .error _
          | cons c cs =>
            dsimp only
            cases hm : c.matched with
            | true => exact same (by simp)
            | false =>
              simp only [Bool.false_eq_true, ↓reduceIte]
              by_cases ht : (!c.hasTest && e.isNone) = true
              · rw [if_pos ht]; exact .error _
              · rw [if_neg ht]
                refine .bind _ fun m => ?_
                cases m with
                | true => exact (ih _ _).mono fun _ a => ⟨a.1, (Inv.setMatched st c cs true hc hm).trans a.2⟩
                | false => exact .ok ⟨rfl, Inv.setMatched st c cs false hc hm⟩
        | otherwise =>
          simp only [run]
          cases hc : st.choice with
          | nil => exact .error _
          | cons c cs =>
            dsimp only
            cases hm : c.matched with
            | true => exact same (by simp)
            | false => exact (ih _ _).mono fun _ a => ⟨a.1, (Inv.setMatched st c cs true hc hm).trans a.2⟩
        | for_ v e => simp only [run]; exact .bind _ fun _ => .bind _ fun _ => ih _ _
        | if_ e =>
          simp only [run]
          refine .bind _ fun v => ?_
          cases v.truthy with
          | true => exact ih _ _
          | false => exact same (by simp)
        | choose e =>
          simp only [run]
          exact .bind _ fun _ => (ih _ _).mapSt fun _ a => ⟨a.1, Or.inl a.2.1.tail_eq, a.2.2⟩
        | with_ bs =>
          simp only [run]
          exact (ih _ _).mapSt fun s1 a =>
            ⟨by simpa [ScopesOK] using a.1.1, ((Inv.push st []).trans a.2).trans (Inv.pop s1)⟩
        | replace x => exact .error _
        | content x => exact .error _
        | attrs e =>
          rcases attrs_tail_cases ds with rfl | ⟨c, rfl⟩ | ⟨d2, ds2, rfl, h⟩
          · simp only [run]; exact .bind _ fun _ => ih _ _
          · simp only [run]; exact .bind _ fun _ => .bind _ fun _ => ih _ _
          · rw [run_attrs_more h]; exact .error _
        | strip c =>
          cases ds with
          | nil => simp only [run]; exact .bind _ fun _ => ih _ _
          | cons d2 ds2 => exact .error _
    | loop v items ds body =>
      cases items with
      | nil => exact same (by simp)
      | cons item items =>
        simp only [run]
        refine .seq (ih _ _) fun s1 a => (ih _ _).mono fun s2 b =>
          ⟨?_, (((Inv.push st _).trans a.2).trans (Inv.pop s1)).trans b.2⟩
        have a1 := a.1; have b1 := b.1
        simp only [ScopesOK, push_scopes, pop_scopes] at a1 b1 ⊢
        rw [b1, a1]; rfl
    | binds bs ds body =>
      cases bs with
      | nil =>
        simp only [run]
        exact (ih _ _).mono fun _ a => ⟨by have a1 := a.1; simp only [ScopesOK] at a1 ⊢; simp [a1], a.2⟩
      | cons p bs =>
        obtain ⟨x, e⟩ := p
        simp only [run]
        refine .bind _ fun v => (ih _ _).mono fun _ a => ?_
        have b := setTop_scopes st x v
        exact ⟨⟨a.1.1.trans b.1, fun hne => a.1.2 (b.2 hne)⟩, (Inv.setTop st x v).trans a.2⟩

theorem run_scopes (n : Nat) (t : ITask) (st : St) (o : List Event) (st' : St)
    (h : run n t st = .ok (o, st')) : ScopesOK t st st' := (run_all n t st o st' h).1

theorem run_inv (n : Nat) (t : ITask) (st : St) (o : List Event) (st' : St)
    (h : run n t st = .ok (o, st')) : Inv st st' := (run_all n t st o st' h).2

end Genshi.Tmpl
