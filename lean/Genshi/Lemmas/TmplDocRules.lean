/-
  C04: big-step construction rules of the documentation semantics.  `DOk t loc d o d'`: with
  enough fuel task `t` renders `o` under the local variables `loc` from state `d` and leaves `d'`;
  `DErr t loc d`: with enough fuel it fails (with an error that is not "out of fuel").
  Each rule is the matching equation of `Doc` read for one kind of answer.
-/
import Genshi.Lemmas.TmplLim
namespace Genshi.Tmpl

theorem DOk.congr {t t' : DTask} {loc loc' : Env} {d d0 d' : DSt} {o : List Event}
    (h : Doc t loc d = Doc t' loc' d0) : DOk t loc d o d' ↔ DOk t' loc' d0 o d' := by
  rw [DOk_iff_Doc, DOk_iff_Doc, h]

theorem DOk.nodes_nil (loc : Env) (d : DSt) : DOk (.nodes []) loc d [] d := ⟨1, rfl⟩

theorem DOk.nodes_cons_iff {nd : TNode} {rest : List TNode} {loc : Env} {d d2 : DSt} {o : List Event} :
    DOk (.nodes (nd :: rest)) loc d o d2 ↔
      ∃ o1 d1 o2, DOk (.node nd) loc d o1 d1 ∧ DOk (.nodes rest) loc d1 o2 d2 ∧ o = o1 ++ o2 := by
  simp only [DOk_iff_Doc, Doc_nodes_cons, seq_ok]

theorem DOk.node_text (s : Str) (loc : Env) (d : DSt) : DOk (.node (.text s)) loc d [tx s] d := ⟨1, rfl⟩

theorem DOk.node_expr {x : XExpr} {loc : Env} {d d' : DSt} {o : List Event}
    (h : DOk (.xexpr x) loc d o d') : DOk (.node (.expr x)) loc d o d' :=
  (DOk.congr (Doc_node_expr ..)).2 h

theorem DOk.node_elem {tag attrs dirs kids} {loc : Env} {d d' : DSt} {o : List Event}
    (h : DOk (.dirs (sortBy Dir.docIdx dirs) (.elem tag attrs kids)) loc d o d') :
    DOk (.node (.elem tag attrs dirs kids)) loc d o d' :=
  (DOk.congr (Doc_node_elem ..)).2 h

theorem DOk.node_delem {dd kids} {loc : Env} {d d' : DSt} {o : List Event}
    (h : DOk (.dirs [dd] (.frag kids)) loc d o d') : DOk (.node (.delem dd kids)) loc d o d' :=
  (DOk.congr (Doc_node_delem ..)).2 h

theorem DOk.dirs_nil_elem {tag attrs kids} {loc : Env} {d d' : DSt} {o : List Event}
    (h : DOk (.nodes kids) loc d o d') :
    DOk (.dirs [] (.elem tag attrs kids)) loc d (startEv tag attrs :: o ++ [endEv tag]) d' := by
  rw [DOk_iff_Doc] at *
  rw [Doc_dirs_nil_elem, h]; rfl

theorem DOk.dirs_nil_frag {kids} {loc : Env} {d d' : DSt} {o : List Event}
    (h : DOk (.nodes kids) loc d o d') : DOk (.dirs [] (.frag kids)) loc d o d' :=
  (DOk.congr (Doc_dirs_nil_frag ..)).2 h

theorem DOk.xexpr_pure {e : Expr} {loc : Env} {d : DSt} {v : Val} {out : List Event}
    (hv : eval (dlook loc d) e = .ok v) (ho : renderVal v = .ok out) :
    DOk (.xexpr (.pure e)) loc d out d :=
  ⟨1, by simp [doc, hv, ho, bind, Except.bind, pure, Except.pure]⟩

theorem DOk.xexpr_call {f args} {loc : Env} {d d' : DSt} {o : List Event} {fv vs m scope}
    (hfv : eval (dlook loc d) f = .ok fv)
    (hvs : evalArgs (dlook loc d) args = .ok vs) (hm : getDMacro d fv = .ok m)
    (hsc : bindParams (dlook loc d) m.params vs = .ok scope)
    (h : DOk (.dirs m.dirs m.target) (scope ++ loc) d o d') :
    DOk (.xexpr (.call f args)) loc d o d' := by
  rw [DOk_iff_Doc] at *
  simp [Doc_xexpr_call, hfv, hvs, hm, hsc, h, bind, Except.bind]

theorem DOk.def_ (name params ds t) (loc : Env) (d : DSt) :
    DOk (.dirs (.def_ name params :: ds) t) loc d [] (d.define name ⟨params, ds, t⟩) := ⟨1, rfl⟩

theorem DOk.if_true {e ds t} {loc : Env} {d d' : DSt} {o : List Event} {v : Val}
    (hv : eval (dlook loc d) e = .ok v) (ht : v.truthy = true) (h : DOk (.dirs ds t) loc d o d') :
    DOk (.dirs (.if_ e :: ds) t) loc d o d' := by
  rw [DOk_iff_Doc] at *
  simp [Doc_if, hv, ht, h, bind, Except.bind]

theorem DOk.if_false {e ds t} {loc : Env} {d : DSt} {v : Val}
    (hv : eval (dlook loc d) e = .ok v) (ht : v.truthy = false) :
    DOk (.dirs (.if_ e :: ds) t) loc d [] d :=
  ⟨1, by simp [doc, hv, ht, bind, Except.bind, pure, Except.pure]⟩

theorem DOk.for_ {v e ds t} {loc : Env} {d d' : DSt} {o : List Event} {it items}
    (hit : eval (dlook loc d) e = .ok it) (hitems : iterItems it = .ok items)
    (h : DOk (.loop v items ds t) loc d o d') : DOk (.dirs (.for_ v e :: ds) t) loc d o d' := by
  rw [DOk_iff_Doc] at *
  simp [Doc_for, hit, hitems, h, bind, Except.bind]

theorem DOk.loop_nil (v ds t) (loc : Env) (d : DSt) : DOk (.loop v [] ds t) loc d [] d := ⟨1, rfl⟩

theorem DOk.loop_cons_iff {v item items ds t} {loc : Env} {d d2 : DSt} {o : List Event} :
    DOk (.loop v (item :: items) ds t) loc d o d2 ↔
      ∃ o1 d1 o2, DOk (.dirs ds t) ((v, item) :: loc) d o1 d1 ∧ DOk (.loop v items ds t) loc d1 o2 d2 ∧ o = o1 ++ o2 := by
  simp only [DOk_iff_Doc, Doc_loop_cons, seq_ok]

theorem DOk.choose {e ds t} {loc : Env} {d d1 : DSt} {o : List Event} {v : Val}
    (hv : evalOpt (dlook loc d) e = .ok v)
    (h : DOk (.dirs ds t) loc { d with ch := some ⟨false, e.isSome, v⟩ } o d1) :
    DOk (.dirs (.choose e :: ds) t) loc d o { d1 with ch := d.ch } := by
  rw [DOk_iff_Doc] at *
  simp [Doc_choose, hv, h, bind, Except.bind, mapSt]

theorem DOk.with_ {bs ds t} {loc : Env} {d d' : DSt} {o : List Event}
    (h : DOk (.binds bs ds t) loc d o d') : DOk (.dirs (.with_ bs :: ds) t) loc d o d' :=
  (DOk.congr (Doc_with ..)).2 h

theorem DOk.binds_nil {ds t} {loc : Env} {d d' : DSt} {o : List Event}
    (h : DOk (.dirs ds t) loc d o d') : DOk (.binds [] ds t) loc d o d' :=
  (DOk.congr (Doc_binds_nil ..)).2 h

theorem DOk.binds_cons {x e bs ds t} {loc : Env} {d d' : DSt} {o : List Event} {v : Val}
    (hv : eval (dlook loc d) e = .ok v) (h : DOk (.binds bs ds t) ((x, v) :: loc) d o d') :
    DOk (.binds ((x, e) :: bs) ds t) loc d o d' := by
  rw [DOk_iff_Doc] at *
  simp [Doc_binds_cons, hv, h, bind, Except.bind]

theorem DOk.replace {x ds t} {loc : Env} {d d' : DSt} {o : List Event}
    (h : DOk (.xexpr x) loc d o d') : DOk (.dirs (.replace x :: ds) t) loc d o d' :=
  (DOk.congr (Doc_replace ..)).2 h

theorem DOk.content_elem {x ds tag attrs kids} {loc : Env} {d d' : DSt} {o : List Event}
    (h : DOk (.dirs ds (.elem tag attrs [.expr x])) loc d o d') :
    DOk (.dirs (.content x :: ds) (.elem tag attrs kids)) loc d o d' :=
  (DOk.congr (Doc_content_elem ..)).2 h

theorem DOk.attrs_elem {e ds tag attrs kids} {loc : Env} {d d' : DSt} {o : List Event} {v ps}
    (hv : eval (dlook loc d) e = .ok v) (hps : attrsPairs v = .ok ps)
    (h : DOk (.dirs ds (.elem tag (Genshi.Escape.Attrs.or attrs ps) kids)) loc d o d') :
    DOk (.dirs (.attrs e :: ds) (.elem tag attrs kids)) loc d o d' := by
  rw [DOk_iff_Doc] at *
  simp [Doc_attrs_elem, hv, hps, h, bind, Except.bind]

theorem DOk.strip_elem {c ds tag attrs kids} {loc : Env} {d d' : DSt} {o : List Event} {b : Bool}
    (hb : stripCond (dlook loc d) c = .ok b)
    (h : DOk (.dirs ds (if b then .frag kids else .elem tag attrs kids)) loc d o d') :
    DOk (.dirs (.strip c :: ds) (.elem tag attrs kids)) loc d o d' := by
  rw [DOk_iff_Doc] at *
  simp [Doc_strip_elem, hb, h, bind, Except.bind]

theorem DOk.when_done {e ds t} {loc : Env} {d : DSt} {c : Choice}
    (hc : d.ch = some c) (hm : c.matched = true) : DOk (.dirs (.when e :: ds) t) loc d [] d :=
  ⟨1, by simp [doc, hc, hm]⟩

theorem DOk.when_hit {e ds t} {loc : Env} {d d' : DSt} {o : List Event} {c : Choice}
    (hc : d.ch = some c) (hm : c.matched = false) (hw : whenMatches (dlook loc d) c e = .ok true)
    (h : DOk (.dirs ds t) loc (d.setMatched c true) o d') :
    DOk (.dirs (.when e :: ds) t) loc d o d' := by
  rw [DOk_iff_Doc] at *
  simp [Doc_when, hc, hm, hw, h, bind, Except.bind]

theorem DOk.when_miss {e ds t} {loc : Env} {d : DSt} {c : Choice}
    (hc : d.ch = some c) (hm : c.matched = false) (hw : whenMatches (dlook loc d) c e = .ok false) :
    DOk (.dirs (.when e :: ds) t) loc d [] (d.setMatched c false) :=
  ⟨1, by simp [doc, hc, hm, hw, bind, Except.bind, pure, Except.pure]⟩

theorem DOk.otherwise_done {ds t} {loc : Env} {d : DSt} {c : Choice}
    (hc : d.ch = some c) (hm : c.matched = true) : DOk (.dirs (.otherwise :: ds) t) loc d [] d :=
  ⟨1, by simp [doc, hc, hm]⟩

theorem DOk.otherwise_hit {ds t} {loc : Env} {d d' : DSt} {o : List Event} {c : Choice}
    (hc : d.ch = some c) (hm : c.matched = false)
    (h : DOk (.dirs ds t) loc (d.setMatched c true) o d') :
    DOk (.dirs (.otherwise :: ds) t) loc d o d' := by
  rw [DOk_iff_Doc] at *
  simp [Doc_otherwise, hc, hm, h]

/-! ### failing renders -/

theorem DErr.congr {t t' : DTask} {loc loc' : Env} {d d0 : DSt} (h : Doc t loc d = Doc t' loc' d0) :
    DErr t loc d ↔ DErr t' loc' d0 := by
  rw [DErr_iff_Doc, DErr_iff_Doc, h]

theorem DErr.nodes_cons_iff {nd rest} {loc : Env} {d : DSt} :
    DErr (.nodes (nd :: rest)) loc d ↔
      DErr (.node nd) loc d ∨ ∃ o1 d1, DOk (.node nd) loc d o1 d1 ∧ DErr (.nodes rest) loc d1 := by
  simp only [DErr_iff_Doc, DOk_iff_Doc, Doc_nodes_cons, seq_fails]

theorem DErr.node_expr {x} {loc : Env} {d : DSt} (h : DErr (.xexpr x) loc d) : DErr (.node (.expr x)) loc d :=
  (DErr.congr (Doc_node_expr ..)).2 h

theorem DErr.node_elem {tag attrs dirs kids} {loc : Env} {d : DSt}
    (h : DErr (.dirs (sortBy Dir.docIdx dirs) (.elem tag attrs kids)) loc d) :
    DErr (.node (.elem tag attrs dirs kids)) loc d :=
  (DErr.congr (Doc_node_elem ..)).2 h

theorem DErr.node_delem {dd kids} {loc : Env} {d : DSt} (h : DErr (.dirs [dd] (.frag kids)) loc d) :
    DErr (.node (.delem dd kids)) loc d :=
  (DErr.congr (Doc_node_delem ..)).2 h

theorem DErr.dirs_nil_frag {kids} {loc : Env} {d : DSt} (h : DErr (.nodes kids) loc d) :
    DErr (.dirs [] (.frag kids)) loc d :=
  (DErr.congr (Doc_dirs_nil_frag ..)).2 h

theorem DErr.dirs_nil_elem {tag attrs kids} {loc : Env} {d : DSt} (h : DErr (.nodes kids) loc d) :
    DErr (.dirs [] (.elem tag attrs kids)) loc d := by
  simpa only [DErr_iff_Doc, Doc_dirs_nil_elem, wrapOut_err] using h

theorem DErr.now {t : DTask} {loc : Env} {d : DSt} {e : Err} (h : doc 1 t loc d = .error e) (he : e ≠ .fuel) :
    DErr t loc d := ⟨1, e, h, he⟩

theorem DErr.replace {x ds t} {loc : Env} {d : DSt} (h : DErr (.xexpr x) loc d) :
    DErr (.dirs (.replace x :: ds) t) loc d :=
  (DErr.congr (Doc_replace ..)).2 h

theorem DErr.content_elem {x ds tag attrs kids} {loc : Env} {d : DSt}
    (h : DErr (.dirs ds (.elem tag attrs [.expr x])) loc d) :
    DErr (.dirs (.content x :: ds) (.elem tag attrs kids)) loc d :=
  (DErr.congr (Doc_content_elem ..)).2 h

theorem DErr.with_ {bs ds t} {loc : Env} {d : DSt} (h : DErr (.binds bs ds t) loc d) :
    DErr (.dirs (.with_ bs :: ds) t) loc d :=
  (DErr.congr (Doc_with ..)).2 h

theorem DErr.binds_nil {ds t} {loc : Env} {d : DSt} (h : DErr (.dirs ds t) loc d) :
    DErr (.binds [] ds t) loc d :=
  (DErr.congr (Doc_binds_nil ..)).2 h

theorem DErr.binds_cons {x e bs ds t} {loc : Env} {d : DSt} {v : Val}
    (hv : eval (dlook loc d) e = .ok v) (h : DErr (.binds bs ds t) ((x, v) :: loc) d) :
    DErr (.binds ((x, e) :: bs) ds t) loc d :=
  (DErr.congr (by simp [Doc_binds_cons, hv, bind, Except.bind])).2 h

theorem DErr.if_true {e ds t} {loc : Env} {d : DSt} {v : Val}
    (hv : eval (dlook loc d) e = .ok v) (ht : v.truthy = true) (h : DErr (.dirs ds t) loc d) :
    DErr (.dirs (.if_ e :: ds) t) loc d :=
  (DErr.congr (by simp [Doc_if, hv, ht, bind, Except.bind])).2 h

theorem DErr.for_ {v e ds t} {loc : Env} {d : DSt} {it items}
    (hit : eval (dlook loc d) e = .ok it) (hitems : iterItems it = .ok items)
    (h : DErr (.loop v items ds t) loc d) : DErr (.dirs (.for_ v e :: ds) t) loc d :=
  (DErr.congr (by simp [Doc_for, hit, hitems, bind, Except.bind])).2 h

theorem DErr.loop_cons_iff {v item items ds t} {loc : Env} {d : DSt} :
    DErr (.loop v (item :: items) ds t) loc d ↔ DErr (.dirs ds t) ((v, item) :: loc) d ∨
      ∃ o1 d1, DOk (.dirs ds t) ((v, item) :: loc) d o1 d1 ∧ DErr (.loop v items ds t) loc d1 := by
  simp only [DErr_iff_Doc, DOk_iff_Doc, Doc_loop_cons, seq_fails]

theorem DErr.choose {e ds t} {loc : Env} {d : DSt} {v : Val}
    (hv : evalOpt (dlook loc d) e = .ok v)
    (h : DErr (.dirs ds t) loc { d with ch := some ⟨false, e.isSome, v⟩ }) :
    DErr (.dirs (.choose e :: ds) t) loc d := by
  simp only [DErr_iff_Doc, Doc_choose, hv, bind, Except.bind, mapSt_err] at h ⊢
  exact h

theorem DErr.attrs_elem {e ds tag attrs kids} {loc : Env} {d : DSt} {v ps}
    (hv : eval (dlook loc d) e = .ok v) (hps : attrsPairs v = .ok ps)
    (h : DErr (.dirs ds (.elem tag (Genshi.Escape.Attrs.or attrs ps) kids)) loc d) :
    DErr (.dirs (.attrs e :: ds) (.elem tag attrs kids)) loc d :=
  (DErr.congr (by simp [Doc_attrs_elem, hv, hps, bind, Except.bind])).2 h

theorem DErr.strip_elem {c ds tag attrs kids} {loc : Env} {d : DSt} {b : Bool}
    (hb : stripCond (dlook loc d) c = .ok b)
    (h : DErr (.dirs ds (if b then .frag kids else .elem tag attrs kids)) loc d) :
    DErr (.dirs (.strip c :: ds) (.elem tag attrs kids)) loc d :=
  (DErr.congr (by simp [Doc_strip_elem, hb, bind, Except.bind])).2 h

theorem DErr.when_hit {e ds t} {loc : Env} {d : DSt} {c : Choice}
    (hc : d.ch = some c) (hm : c.matched = false) (hw : whenMatches (dlook loc d) c e = .ok true)
    (h : DErr (.dirs ds t) loc (d.setMatched c true)) : DErr (.dirs (.when e :: ds) t) loc d :=
  (DErr.congr (by simp [Doc_when, hc, hm, hw, bind, Except.bind])).2 h

theorem DErr.otherwise_hit {ds t} {loc : Env} {d : DSt} {c : Choice}
    (hc : d.ch = some c) (hm : c.matched = false) (h : DErr (.dirs ds t) loc (d.setMatched c true)) :
    DErr (.dirs (.otherwise :: ds) t) loc d :=
  (DErr.congr (by simp [Doc_otherwise, hc, hm])).2 h

theorem DErr.xexpr_call {f args} {loc : Env} {d : DSt} {fv vs m scope}
    (hfv : eval (dlook loc d) f = .ok fv)
    (hvs : evalArgs (dlook loc d) args = .ok vs) (hm : getDMacro d fv = .ok m)
    (hsc : bindParams (dlook loc d) m.params vs = .ok scope) (h : DErr (.dirs m.dirs m.target) (scope ++ loc) d) :
    DErr (.xexpr (.call f args)) loc d :=
  (DErr.congr (by simp [Doc_xexpr_call, hfv, hvs, hm, hsc, bind, Except.bind])).2 h

end Genshi.Tmpl
