/-
  C04: the documented equivalences — as equations between answers (`Run_if_true`,
  `Run_for_unrolled`, `Run_choose_first`) and as tails that render alike (`TailEq`, `TailImp`) with
  their congruence under control directives.
-/
import Genshi.Lemmas.TmplSim
import Genshi.Lemmas.TmplRules
namespace Genshi.Tmpl

/-- control directives other than `py:def` (whose effect is to *store* its tail) -/
def Dir.ctl : Dir → Bool
  | .when _ | .otherwise | .for_ _ _ | .if_ _ | .choose _ | .with_ _ => true
  | _ => false

/-- control directives and `py:def` -/
def Dir.ctlDef : Dir → Bool
  | .def_ _ _ => true
  | d => d.ctl

theorem Dir.ctl_ctlDef {d : Dir} (h : d.ctl = true) : d.ctlDef = true := by
  cases d <;> first | rfl | cases h

theorem Dir.ctlDef_kept {d : Dir} (h : d.ctlDef = true) : d.kept = true := by
  cases d <;> first | rfl | cases h

/-- two (directive list, sub-stream) pairs that render alike from every state -/
def TailEq (ds : List Dir) (body : List CEv) (ds' : List Dir) (body' : List CEv) : Prop :=
  ∀ st o st', IOk (.apply ds body) st o st' ↔ IOk (.apply ds' body') st o st'

/-- one direction (for refinements that are not equivalences) -/
def TailImp (ds : List Dir) (body : List CEv) (ds' : List Dir) (body' : List CEv) : Prop :=
  ∀ st o st', IOk (.apply ds body) st o st' → IOk (.apply ds' body') st o st'

theorem loop_imp {ds body ds' body'} (h : TailImp ds body ds' body') (v : Name) :
    ∀ items st o st', IOk (.loop v items ds body) st o st' → IOk (.loop v items ds' body') st o st' := by
  intro items
  induction items with
  | nil => intro st o st'; rw [IOk.loop_nil_iff, IOk.loop_nil_iff]; exact id
  | cons item items ih =>
    intro st o st'
    rw [IOk.loop_cons_iff, IOk.loop_cons_iff]
    rintro ⟨o1, s1, o2, h1, h2, rfl⟩
    exact ⟨o1, s1, o2, h _ _ _ h1, ih _ _ _ h2, rfl⟩

theorem binds_imp {ds body ds' body'} (h : TailImp ds body ds' body') :
    ∀ bs st o st', IOk (.binds bs ds body) st o st' → IOk (.binds bs ds' body') st o st' := by
  intro bs
  induction bs with
  | nil => intro st o st'; rw [IOk.binds_nil_iff, IOk.binds_nil_iff]; exact h _ _ _
  | cons p bs ih =>
    obtain ⟨x, e⟩ := p
    intro st o st'
    rw [IOk.binds_cons_iff, IOk.binds_cons_iff]
    rintro ⟨v, hv, h1⟩
    exact ⟨v, hv, ih _ _ _ h1⟩

theorem apply_cons_imp {ds body ds' body'} (d : Dir) (hd : d.ctl = true)
    (h : TailImp ds body ds' body') : TailImp (d :: ds) body (d :: ds') body' := by
  intro st o st'
  cases d <;> simp [Dir.ctl] at hd
  · rw [IOk.when_iff, IOk.when_iff]
    rintro ⟨c, cs, hc, hh⟩
    refine ⟨c, cs, hc, ?_⟩
    rcases hh with hh | ⟨hm, m, hmm, ⟨rfl, h1⟩ | hh⟩
    · exact Or.inl hh
    · exact Or.inr ⟨hm, true, hmm, Or.inl ⟨rfl, h _ _ _ h1⟩⟩
    · exact Or.inr ⟨hm, m, hmm, Or.inr hh⟩
  · rw [IOk.otherwise_iff, IOk.otherwise_iff]
    rintro ⟨c, cs, hc, hh | ⟨hm, h1⟩⟩
    · exact ⟨c, cs, hc, Or.inl hh⟩
    · exact ⟨c, cs, hc, Or.inr ⟨hm, h _ _ _ h1⟩⟩
  · rw [IOk.for_iff, IOk.for_iff]
    rintro ⟨it, items, h1, h2, h3⟩
    exact ⟨it, items, h1, h2, loop_imp h _ _ _ _ _ h3⟩
  · rw [IOk.if_iff, IOk.if_iff]
    rintro ⟨v, hv, ⟨ht, h1⟩ | hh⟩
    · exact ⟨v, hv, Or.inl ⟨ht, h _ _ _ h1⟩⟩
    · exact ⟨v, hv, Or.inr hh⟩
  · rw [IOk.choose_iff, IOk.choose_iff]
    rintro ⟨v, s1, hv, h1, rfl⟩
    exact ⟨v, s1, hv, h _ _ _ h1, rfl⟩
  · rw [IOk.with_iff, IOk.with_iff]
    rintro ⟨s1, h1, rfl⟩
    exact ⟨s1, binds_imp h _ _ _ _ h1, rfl⟩

theorem apply_prefix_imp {ds body ds' body'} (pre : List Dir) (hpre : ∀ d ∈ pre, d.ctl = true)
    (h : TailImp ds body ds' body') : TailImp (pre ++ ds) body (pre ++ ds') body' := by
  induction pre with
  | nil => simpa using h
  | cons d pre ih =>
    simp only [List.cons_append]
    exact apply_cons_imp d (hpre d (List.mem_cons_self ..))
      (ih (fun x hx => hpre x (List.mem_cons_of_mem _ hx)))

theorem apply_cons_congr {ds body ds' body'} (d : Dir) (hd : d.ctl = true)
    (h : TailEq ds body ds' body') : TailEq (d :: ds) body (d :: ds') body' := fun st o st' =>
  ⟨apply_cons_imp d hd (fun _ _ _ => (h _ _ _).1) st o st', apply_cons_imp d hd (fun _ _ _ => (h _ _ _).2) st o st'⟩

theorem apply_prefix_congr {ds body ds' body'} (pre : List Dir) (hpre : ∀ d ∈ pre, d.ctl = true)
    (h : TailEq ds body ds' body') : TailEq (pre ++ ds) body (pre ++ ds') body' := fun st o st' =>
  ⟨apply_prefix_imp pre hpre (fun _ _ _ => (h _ _ _).1) st o st',
   apply_prefix_imp pre hpre (fun _ _ _ => (h _ _ _).2) st o st'⟩

/-- one step: a directive followed by others on the same sub-stream = the directive alone
    around a nested SUB carrying the others -/
theorem elem_form_step (d : Dir) (hd : d.ctl = true) (ds : List Dir) (body : List CEv) :
    TailEq (d :: ds) body [d] [.sub ds body] := by
  refine apply_cons_congr d hd ?_
  intro st o st'
  rw [IOk.apply_nil_iff, IOk.flat_single_iff, IOk.ev_sub_iff]

/-- the prepared stream of directives written as nested directive elements, outermost first,
    around an element that keeps the directives `stay` as attributes -/
def nestSubs : List Dir → List Dir → List CEv → List CEv
  | [], stay, body => mkSub stay body
  | d :: pre, stay, body => [.sub [d] (nestSubs pre stay body)]

theorem nested_eq_chain (pre : List Dir) (hpre : ∀ d ∈ pre, d.ctl = true) (stay : List Dir)
    (body : List CEv) : ∀ st o st',
    IOk (.flat (nestSubs pre stay body)) st o st' ↔ IOk (.apply (pre ++ stay) body) st o st' := by
  induction pre with
  | nil => intro st o st'; simpa [nestSubs] using IOk.mkSub_iff
  | cons d pre ih =>
    intro st o st'
    have ih' := ih (fun x hx => hpre x (List.mem_cons_of_mem _ hx))
    simp only [nestSubs, List.cons_append]
    rw [IOk.flat_single_iff, IOk.ev_sub_iff]
    refine (apply_cons_congr d (hpre d (List.mem_cons_self ..)) ?_) st o st'
    intro s p s'
    rw [IOk.apply_nil_iff]
    exact ih' s p s'

/-- what `attach` leaves of `py:content` + `py:strip`: stripping the element around the one EXPR event
    leaves the event, which is what `attach` leaves of `py:replace` -/
theorem run_strip_expr (k : Nat) (x : XExpr) (t : Name) (a : List (Name × Str)) (st : St) :
    run (k + 1) (.apply [.strip none] [.start t a, .xexpr x, .end_ t]) st = run k (.flat [.xexpr x]) st := by
  simp [run, stripBody, stripCond, bind, Except.bind, pure, Except.pure]

theorem Run_strip_expr (x : XExpr) (t : Name) (a : List (Name × Str)) (st : St) :
    Run (.apply [.strip none] [.start t a, .xexpr x, .end_ t]) st = Run (.apply [] [.xexpr x]) st := by
  rw [Run_apply_nil]; exact Run_step fun k => run_strip_expr k x t a st

theorem replace_tail_eq (x : XExpr) (t : Name) (a : List (Name × Str)) :
    TailEq [] [.xexpr x] [.strip none] [.start t a, .xexpr x, .end_ t] :=
  fun st _ _ => (IOk.congr (Run_strip_expr x t a st)).symm

/-- with `py:attrs` on the element: content + strip evaluates it (and may fail there), replace
    does not — whenever content + strip renders, replace renders the same -/
theorem replace_attrs_tail_imp (x : XExpr) (e : Expr) (t : Name) (a : List (Name × Str)) :
    TailImp [.attrs e, .strip none] [.start t a, .xexpr x, .end_ t] [.attrs e] [.xexpr x] := by
  intro st o st'
  rw [IOk_iff_Run, IOk_iff_Run, Run_attrs_strip, Run_attrs]
  simp only [attrsHead, bind_ok]
  rintro ⟨_, ⟨v, -, ps, -, hb⟩, b', hb', h⟩
  cases hb; cases hb'
  exact ⟨_, rfl, h⟩

/-- the unrolled loop: one SUB per item that binds the loop variable with `py:with` -/
def unroll (v : Name) (items : List Val) (ds : List Dir) (body : List CEv) : List CEv :=
  items.map fun item => .sub (.with_ [(v, .lit item)] :: ds) body

theorem Run_with_single (v : Name) (item : Val) (ds body) (st : St) :
    Run (.apply (.with_ [(v, .lit item)] :: ds) body) st
      = mapSt St.pop (Run (.apply ds body) (st.push [(v, item)])) := by
  simp only [Run_with, Run_binds_cons, Run_binds_nil]; rfl

theorem Run_loop_unrolled (v : Name) (ds : List Dir) (body : List CEv) :
    ∀ items st, Run (.loop v items ds body) st = Run (.flat (unroll v items ds body)) st
  | [], st => by rw [Run_loop_nil]; exact (Run_flat_nil st).symm
  | item :: items, st => by
      rw [Run_loop_cons, unroll, List.map_cons, Run_flat_cons, Run_ev_sub, Run_with_single, seq_mapSt]
      simp only [Run_loop_unrolled v ds body items]; rfl

theorem Run_for_unrolled {v : Name} {e : Expr} {ds : List Dir} {body : List CEv} {st : St} {it : Val}
    {items : List Val} (he : eval st.look e = .ok it) (hi : iterItems it = .ok items) :
    Run (.apply (.for_ v e :: ds) body) st = Run (.flat (unroll v items ds body)) st := by
  rw [Run_for, he, ← Run_loop_unrolled]; simp only [bind, Except.bind, hi]

theorem Run_if_true {e : Expr} {ds : List Dir} {body : List CEv} {st : St} {v : Val}
    (hv : eval st.look e = .ok v) (ht : v.truthy = true) :
    Run (.apply (.if_ e :: ds) body) st = Run (.apply ds body) st := by
  rw [Run_if, hv]; simp only [bind, Except.bind, ht, if_true]

theorem Run_if_false {e : Expr} {ds : List Dir} {body : List CEv} {st : St} {v : Val}
    (hv : eval st.look e = .ok v) (hf : v.truthy = false) :
    Run (.apply (.if_ e :: ds) body) st = .ok ([], st) := by
  rw [Run_if, hv]; simp only [bind, Except.bind, hf]; rfl

/-- a branch of a choose: test of the `py:when`, further directives, sub-stream -/
abbrev Branch := Option Expr × List Dir × List CEv

def branchEv (b : Branch) : CEv := .sub (.when b.1 :: b.2.1) b.2.2

theorem setMatched_false_self {st : St} {c : Choice} {cs : List Choice}
    (hc : st.choice = c :: cs) (hm : c.matched = false) : st.setMatched c cs false = st := by
  cases st; cases c
  simp_all [St.setMatched]

theorem Run_branch {b : Branch} {st : St} {c : Choice} {cs : List Choice} (hc : st.choice = c :: cs) :
    Run (.ev (branchEv b)) st =
      if c.matched then .ok ([], st) else if !c.hasTest && b.1.isNone then .error (posErr b.2.2)
      else whenMatches st.look c b.1 >>= fun m =>
        if m then Run (.apply b.2.1 b.2.2) (st.setMatched c cs true) else pure ([], st.setMatched c cs false) := by
  rw [branchEv, Run_ev_sub, Run_when, hc]

/-- Of the branches of a choose only the first whose test holds is run: the earlier ones (tests
    false) and all later ones (tests not evaluated) do nothing.  An equation between answers, so it
    holds for outputs, failures and divergence alike. -/
theorem Run_choose_first (pre post : List Branch) (b : Branch) {st : St} {c : Choice} {cs : List Choice}
    (hc : st.choice = c :: cs) (hm : c.matched = false)
    (hpre : ∀ p ∈ pre, whenMatches st.look c p.1 = .ok false)
    (hb : whenMatches st.look c b.1 = .ok true) :
    Run (.flat ((pre ++ b :: post).map branchEv)) st = Run (.apply b.2.1 b.2.2) (st.setMatched c cs true) := by
  induction pre with
  | cons p pre ih =>
    have hp := hpre p (List.mem_cons_self ..)
    rw [List.cons_append, List.map_cons, Run_flat_cons, Run_branch hc, hm, whenMatches_ok_test hp, hp]
    simp only [Bool.false_eq_true, if_false, bind, Except.bind, pure, Except.pure, seq, List.nil_append,
      setMatched_false_self hc hm]
    rw [ih fun q hq => hpre q (List.mem_cons_of_mem _ hq)]
    cases Run (.apply b.2.1 b.2.2) (st.setMatched c cs true) <;> rfl
  | nil =>
    rw [List.nil_append, List.map_cons, Run_flat_cons, Run_branch hc, hm, whenMatches_ok_test hb, hb]
    simp only [Bool.false_eq_true, if_false, bind, Except.bind, if_true]
    refine seq_skip fun o s1 h => ?_
    have hch : s1.choice = { c with matched := true } :: cs := by
      rcases (Run_ok_inv h).2.1 with h3 | ⟨c', cs', h3, hm3, _⟩
      · exact h3
      · simp only [St.setMatched, List.cons.injEq] at h3
        rw [← h3.1] at hm3; simp at hm3
    clear h
    induction post with
    | nil => exact Run_flat_nil _
    | cons q post ih =>
      rw [List.map_cons, Run_flat_cons, Run_branch hch]
      simp only [if_true, seq, List.nil_append]
      rw [ih]

theorem attach_ctlDef_prefix (pre : List Dir) (hpre : ∀ d ∈ pre, d.ctlDef = true) (tl : List Dir)
    (body : List CEv) :
    attach (pre ++ tl) body = (pre ++ (attach tl body).1, (attach tl body).2) :=
  attach_prefix pre (fun d hd => Dir.ctlDef_kept (hpre d hd)) tl body

/-- directives written as nested directive elements around a node -/
def nestNodes : List Dir → TNode → TNode
  | [], inner => inner
  | d :: pre, inner => .delem d [nestNodes pre inner]

end Genshi.Tmpl
