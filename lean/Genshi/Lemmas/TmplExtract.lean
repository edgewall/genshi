/-
  C04: the flat `_extract_directives` pass (depth counter + `dirmap`) computes the
  tree-recursive extraction, and the whole construction-time pipeline on the parsed
  stream equals `compileNodes`.
-/
import Genshi.Model.TmplExtract
namespace Genshi.Tmpl

theorem extractFlatFrom_append (s : XSt) (a b : List PEv) :
    extractFlatFrom s (a ++ b) = extractFlatFrom (extractFlatFrom s a) b := by
  simp [extractFlatFrom, List.foldl_append]

theorem extractFlatFrom_cons (s : XSt) (e : PEv) (b : List PEv) :
    extractFlatFrom s (e :: b) = extractFlatFrom (extractStep s e) b := rfl

theorem extractFlatFrom_nil (s : XSt) : extractFlatFrom s [] = s := rfl

/-- every pending `dirmap` entry belongs to an element that is still open -/
def KeysBelow (m : DirMap) (depth : Nat) : Prop := ∀ p ∈ m, p.1.1 < depth

theorem get?_none_of_keysBelow {m : DirMap} {d : Nat} (h : KeysBelow m d) (t : PTag) :
    m.get? (d, t) = none := by
  induction m with
  | nil => rfl
  | cons p m ih =>
    obtain ⟨k, v⟩ := p
    have hk := h (k, v) (List.mem_cons_self ..)
    simp only [DirMap.get?]
    rw [if_neg]
    · exact ih (fun q hq => h q (List.mem_cons_of_mem _ hq))
    · intro he; rw [he] at hk; simp at hk

theorem erase_of_keysBelow {m : DirMap} {d : Nat} (h : KeysBelow m d) (t : PTag) :
    m.erase (d, t) = m := by
  unfold DirMap.erase
  rw [List.filter_eq_self]
  intro p hp
  have := h p hp
  simp only [ne_eq, decide_eq_true_eq]
  intro he; rw [he] at this; simp at this

theorem get?_put (m : DirMap) (k v) : (m.put k v).get? k = some v := by
  simp [DirMap.put, DirMap.get?]

theorem erase_put {m : DirMap} {d : Nat} (h : KeysBelow m d) (t : PTag) (v) :
    (m.put (d, t) v).erase (d, t) = m := by
  simp only [DirMap.put, erase_of_keysBelow h]
  simp only [DirMap.erase, List.filter_cons, ne_eq, not_true_eq_false, decide_false]
  exact erase_of_keysBelow h t

theorem keysBelow_put {m : DirMap} {d : Nat} (h : KeysBelow m d) (t : PTag) (v) :
    KeysBelow (m.put (d, t) v) (d + 1) := by
  intro p hp
  simp only [DirMap.put, List.mem_cons] at hp
  rcases hp with rfl | hp
  · simp
  · rw [erase_of_keysBelow h] at hp
    exact Nat.lt_succ_of_lt (h p hp)

theorem keysBelow_succ {m : DirMap} {d : Nat} (h : KeysBelow m d) : KeysBelow m (d + 1) :=
  fun p hp => Nat.lt_succ_of_lt (h p hp)

theorem trimEnds_wrap {α : Type} (a b : α) (l : List α) : trimEnds (a :: (l ++ [b])) = l := by
  simp [trimEnds]

theorem sortBy_single {α : Type} (key : α → Nat) (x : α) : sortBy key [x] = [x] := rfl

mutual
  theorem extract_node : ∀ (n : TNode) (d : Nat) (m : DirMap) (out : List REv), KeysBelow m d →
      extractFlatFrom ⟨d, m, out⟩ (toStream n) = ⟨d, m, out ++ extractTree n⟩
    | .text s, d, m, out, _ => by simp [toStream, extractTree, extractFlatFrom, extractStep]
    | .expr x, d, m, out, _ => by simp [toStream, extractTree, extractFlatFrom, extractStep]
    | .elem tag attrs dirs kids, d, m, out, hk => by
        simp only [toStream, extractFlatFrom_cons, extractFlatFrom_append, extractFlatFrom_nil, extractStep,
          List.nil_append]
        cases hd : dirs.isEmpty with
        | true =>
          simp only [if_true]
          rw [extract_nodes kids (d + 1) m _ (keysBelow_succ hk)]
          simp only [Nat.add_sub_cancel, get?_none_of_keysBelow hk, extractTree, hd, if_true]
          simp [List.append_assoc]
        | false =>
          simp only [Bool.false_eq_true, if_false]
          rw [extract_nodes kids (d + 1) _ _ (keysBelow_put hk _ _)]
          simp only [Nat.add_sub_cancel, get?_put, Option.isSome_none, Bool.false_eq_true,
            if_false, erase_put hk, extractTree, hd]
          simp [List.append_assoc]
    | .delem dd kids, d, m, out, hk => by
        simp only [toStream, extractFlatFrom_cons, extractFlatFrom_append, extractFlatFrom_nil, extractStep,
          List.append_nil, List.isEmpty_cons, Bool.false_eq_true, if_false, sortBy_single]
        rw [extract_nodes kids (d + 1) _ _ (keysBelow_put hk _ _)]
        simp only [Nat.add_sub_cancel, get?_put, Option.isSome_some, if_true, erase_put hk,
          extractTree]
        simp [List.append_assoc, trimEnds_wrap]
  theorem extract_nodes : ∀ (ns : List TNode) (d : Nat) (m : DirMap) (out : List REv), KeysBelow m d →
      extractFlatFrom ⟨d, m, out⟩ (toStreams ns) = ⟨d, m, out ++ extractTrees ns⟩
    | [], d, m, out, _ => by simp [toStreams, extractTrees, extractFlatFrom]
    | n :: ns, d, m, out, hk => by
        simp only [toStreams, extractFlatFrom_append, extractTrees]
        rw [extract_node n d m out hk, extract_nodes ns d m _ hk]
        simp [List.append_assoc]
end

/-- The one-pass algorithm with the `(depth, tag)` dictionary nests exactly like the tree. -/
theorem extractFlat_eq_tree (ns : List TNode) : extractFlat (toStreams ns) = extractTrees ns := by
  unfold extractFlat
  rw [extract_nodes ns 0 [] [] (by intro p hp; simp at hp)]
  simp

theorem toCEvs_eq_map (l : List REv) : toCEvs l = l.map toCEv := by
  induction l with
  | nil => rfl
  | cons e es ih => simp [toCEvs, ih]

theorem toCEvs_append (a b : List REv) : toCEvs (a ++ b) = toCEvs a ++ toCEvs b := by
  simp [toCEvs_eq_map]

theorem prepareRs_append (a b : List REv) : prepareRs (a ++ b) = prepareRs a ++ prepareRs b := by
  induction a with
  | nil => simp [prepareRs]
  | cons e es ih => simp [prepareRs, ih, List.append_assoc]

theorem toCEv_getLast (e : REv) (l : List REv) :
    ((toCEv e :: toCEvs l).getLast?).getD (toCEv e) = toCEv ((e :: l).getLast?.getD e) := by
  rw [← toCEvs, toCEvs_eq_map, List.getLast?_map]
  cases (e :: l).getLast? <;> rfl

theorem attach_toCEvs (ds : List Dir) (body : List REv) :
    attach ds (toCEvs body) = ((attachR ds body).1, toCEvs (attachR ds body).2) := by
  fun_induction attachR ds body
  case case1 => rfl
  case case2 ih => rw [attach, ← ih]; rfl
  case case3 x ds t a tail ih =>
    rw [← ih]
    simp only [toCEvs, toCEv, attach]
    rw [show CEv.start t.name a = toCEv (.start t a) from rfl, toCEv_getLast]
  case case4 x ds body h ih =>
    rw [← ih]
    cases body with
    | nil => rfl
    | cons e rest => cases e <;> first | rfl | exact (h _ _ _ rfl).elim
  case case5 d ds body h1 h2 r ih => rw [attach.eq_5 _ _ _ h1 h2, ih]

theorem toCEvs_mkSubR (ds : List Dir) (body : List REv) :
    toCEvs (mkSubR ds body) = mkSub ds (toCEvs body) := by
  unfold mkSubR mkSub
  split <;> simp [toCEvs, toCEv]

mutual
  theorem prepare_node : ∀ n : TNode, toCEvs (prepareRs (extractTree n)) = compileNode n
    | .text s => by simp [extractTree, prepareRs, prepareR, toCEvs, toCEv, compileNode]
    | .expr x => by simp [extractTree, prepareRs, prepareR, toCEvs, toCEv, compileNode]
    | .elem tag attrs dirs kids => by
        have ih := prepare_nodes kids
        have hbody : toCEvs (prepareRs (REv.start (plainTag tag) attrs ::
            (extractTrees kids ++ [REv.end_ (plainTag tag)]))) =
            CEv.start tag attrs :: (compileNodes kids ++ [CEv.end_ tag]) := by
          simp only [prepareRs, prepareR, prepareRs_append, List.append_nil, List.cons_append,
            List.nil_append, toCEvs, toCEv, toCEvs_append, ih, plainTag]
        simp only [extractTree, compileNode]
        cases hd : dirs.isEmpty with
        | true =>
          have : dirs = [] := by simpa using hd
          subst this
          simp only [if_true, hbody, sortBy, attach, mkSub, List.isEmpty_nil]
        | false =>
          simp only [Bool.false_eq_true, if_false, prepareRs, prepareR, List.append_nil, toCEvs_mkSubR]
          rw [← hbody, attach_toCEvs]
          simp [prepareRs, prepareR]
    | .delem d kids => by
        have ih := prepare_nodes kids
        simp only [extractTree, compileNode, prepareRs, prepareR, List.append_nil, toCEvs_mkSubR]
        rw [← ih, attach_toCEvs]
  theorem prepare_nodes : ∀ ns : List TNode, toCEvs (prepareRs (extractTrees ns)) = compileNodes ns
    | [] => by simp [extractTrees, prepareRs, toCEvs, compileNodes]
    | n :: ns => by
        simp only [extractTrees, prepareRs_append, toCEvs_append, compileNodes]
        rw [prepare_node n, prepare_nodes ns]
end

/-- The construction-time pipeline as the code runs it (flat extraction pass, then `attach`)
    produces the prepared stream `compileNodes` that the run-time model and all theorems use. -/
theorem compileFlat_eq_compile (ns : List TNode) : compileFlat ns = compileNodes ns := by
  unfold compileFlat
  rw [extractFlat_eq_tree, prepare_nodes]

end Genshi.Tmpl
