/-
  C04: the inversion theorem of the text-template reader (new syntax).  A template printed from
  its flat token form (`ttoksNew`, = the printer `nodesNew` of the AST) is read back by the scanner,
  `_escape_re`, `interpolate`/`lex`, the tokenizer and the reader of the mini language to exactly
  the tokens it was printed from.

  Route: the run of text / `${…}` tokens between two directives is one text segment of the scanner
  (`grp`); the printed template is `printNew` of the grouped list (`print_grp`), which is well formed
  (`wf_grp`), so the scanner round trip `scan_print` applies; reading the grouped list gives the
  tokens back (`cook_grp`: `interpolate_seg` for the segments, `tokenize_print` + the parser
  inversions for the sources).
-/
import Genshi.Lemmas.TmplScanText
import Genshi.Lemmas.TmplReadLex
import Genshi.Lemmas.TmplReadToks
import Genshi.Lemmas.TmplPrintChars
import Genshi.Lemmas.TmplText
import Genshi.Lemmas.TmplOrder
namespace Genshi.Tmpl.Print
open Genshi.Tmpl.Raw Genshi.Tmpl.Scan
open Genshi.Py.Lex (unmodelled)

theorem readExpr_print (st : Bool) (e : Expr) (h : exprOk st e = true) :
    readExpr st (exprSrc e) = some e := by
  unfold readExpr exprSrc
  rw [tokenize_print (exprToks e) (xexprToks_ok st (.pure e) h)]
  exact readExprToks_print st e h

theorem readXExpr_print (st : Bool) (x : XExpr) (h : xexprOk st x = true) :
    readXExpr st (xexprSrc x) = some x := by
  unfold readXExpr xexprSrc
  rw [tokenize_print _ (xexprToks_ok st x h)]
  exact readXToks_print st x h

theorem readDir_print (st : Bool) (d : Dir) (h : dirOk st d = true) :
    readDir st d.name (dirSrc d) = some d := by
  unfold readDir dirSrc
  rw [tokenize_print _ (dirToks_ok st d h)]
  exact readDirToks_print st d h

/-- `newToks` only looks at what a raw token means -/
def cookToks (st : Bool) : List CTok → Except PErr (List TTok)
  | [] => .ok []
  | .text s :: r => do
      let evs ← interpolate s
      let a ← evToks st evs
      let b ← cookToks st r
      pure (a ++ b)
  | .comment _ :: r => cookToks st r
  | .dir cmd val :: r => do
      let a ← Raw.dirToks st Gen.Directives.newTextDirectives cmd val
      let b ← cookToks st r
      pure (a ++ b)

theorem newToks_cook (st : Bool) : ∀ rs : List RTok, newToks st rs = cookToks st (rs.map cook)
  | [] => rfl
  | .text raw :: r => by simp only [newToks, List.map, cook, cookToks, newToks_cook st r]
  | .comment b :: r => by simp only [newToks, List.map, cook, cookToks, newToks_cook st r]
  | .dir i c v :: r => by simp only [newToks, List.map, cook, cookToks, newToks_cook st r]

def isPiece : TTok → Bool
  | .text _ => true
  | .xexpr _ => true
  | _ => false

def pieceOf : TTok → Bool × Str
  | .text s => (false, s)
  | .xexpr x => (true, xexprSrc x)
  | _ => (false, [])

theorem ttoksNew_append : ∀ (a b : List TTok), ttoksNew (a ++ b) = ttoksNew a ++ ttoksNew b
  | [], _ => rfl
  | t :: a, b => by simp [ttoksNew, ttoksNew_append a b]

theorem ttoksNew_pieces : ∀ (pt : List TTok), pt.all isPiece = true → ttoksNew pt = segSrc (pt.map pieceOf)
  | [], _ => rfl
  | .text s :: r, h => by
      simp only [List.all_cons, Bool.and_eq_true] at h
      simp [ttoksNew, ttokNew, pieceOf, segSrc, ttoksNew_pieces r h.2]
  | .xexpr x :: r, h => by
      simp only [List.all_cons, Bool.and_eq_true] at h
      simp [ttoksNew, ttokNew, pieceOf, segSrc, ttoksNew_pieces r h.2]
  | .dir _ :: _, h => by simp [isPiece] at h
  | .end_ :: _, h => by simp [isPiece] at h

/-- induction over a run of text / `${…}` tokens that satisfy the side condition -/
theorem pieces_induction {st : Bool} {P : List TTok → Prop} (nil : P [])
    (text : ∀ s r, textOk s = true → r.all isPiece = true → P r → P (.text s :: r))
    (xexpr : ∀ x r, xexprOk st x = true → P r → P (.xexpr x :: r)) :
    ∀ pt, pt.all isPiece = true → pt.all (ttokOk st) = true → P pt
  | [], _, _ => nil
  | .text s :: r, hp, ho => by
      simp only [List.all_cons, Bool.and_eq_true] at hp ho
      exact text s r ho.1 hp.2 (pieces_induction nil text xexpr r hp.2 ho.2)
  | .xexpr x :: r, hp, ho => by
      simp only [List.all_cons, Bool.and_eq_true] at hp ho
      exact xexpr x r ho.1 (pieces_induction nil text xexpr r hp.2 ho.2)
  | .dir _ :: _, h, _ => by simp [isPiece] at h
  | .end_ :: _, h, _ => by simp [isPiece] at h

theorem plain_step (c : Char) (r : Str) (h1 : c ≠ '\\')
    (h2 : c = '{' → r.head? ≠ some '%' ∧ r.head? ≠ some '#') : plainNew (c :: r) = plainNew r :=
  plainNew.eq_5 c r h1 (fun _ hc hr => (h2 hc).1 (by rw [hr]; rfl)) (fun _ hc hr => (h2 hc).2 (by rw [hr]; rfl))

/-- a string that is plain whatever follows it -/
def PlainS (s : Str) : Prop := ∀ rest, plainNew (s ++ rest) = plainNew rest

theorem PlainS.nil : PlainS [] := fun _ => rfl

theorem PlainS.append {a b : Str} (ha : PlainS a) (hb : PlainS b) : PlainS (a ++ b) := by
  intro rest
  rw [List.append_assoc, ha, hb]

theorem plainS_text : ∀ (s : Str), s.all textCh = true → PlainS s
  | [], _ => PlainS.nil
  | c :: r, h => by
      simp only [List.all_cons, Bool.and_eq_true] at h
      intro rest
      have hc := h.1
      simp only [textCh, Bool.and_eq_true, bne_iff_ne, ne_eq] at hc
      rw [List.cons_append, plain_step c _ hc.1.1 (fun e => absurd e hc.2)]
      exact plainS_text r h.2 rest

theorem plain_src : ∀ (s rest : Str), (∀ c ∈ s, c ≠ '\\' ∧ c ≠ '%' ∧ c ≠ '#') →
    rest.head? ≠ some '%' → rest.head? ≠ some '#' → plainNew (s ++ rest) = plainNew rest
  | [], _, _, _, _ => rfl
  | c :: r, rest, h, h1, h2 => by
      have hc := h c (List.mem_cons_self ..)
      have hr : ∀ x ∈ r, x ≠ '\\' ∧ x ≠ '%' ∧ x ≠ '#' := fun x hx => h x (List.mem_cons_of_mem _ hx)
      rw [List.cons_append, plain_step c _ hc.1 ?_]
      · exact plain_src r rest hr h1 h2
      · intro _
        cases r with
        | nil => exact ⟨h1, h2⟩
        | cons d r' =>
          have hd := h d (by simp)
          simp only [List.cons_append, List.head?_cons, ne_eq, Option.some.injEq]
          exact ⟨hd.2.1, hd.2.2⟩

theorem plainS_expr (st : Bool) (x : XExpr) (h : xexprOk st x = true) : PlainS (ttokNew (.xexpr x)) := by
  intro rest
  have hch := xexprSrc_chars st x h
  have hne := xexprSrc_ne_nil st x h
  simp only [ttokNew, List.cons_append, List.append_assoc]
  rw [plain_step '$' _ (by decide) (by intro e; exact absurd e (by decide))]
  rw [plain_step '{' _ (by decide) ?_]
  · rw [plain_src (xexprSrc x) _ hch (by simp) (by simp)]
    simp only [List.nil_append]
    exact plain_step '}' _ (by decide) (by intro e; exact absurd e (by decide))
  · intro _
    cases hx : xexprSrc x with
    | nil => exact absurd hx hne
    | cons d r' =>
      have hd := hch d (by rw [hx]; simp)
      simp only [List.cons_append, List.head?_cons, ne_eq, Option.some.injEq]
      exact ⟨hd.2.1, hd.2.2⟩

theorem plainS_pieces (st : Bool) : ∀ (pt : List TTok), pt.all isPiece = true → pt.all (ttokOk st) = true →
    PlainS (ttoksNew pt) := by
  apply pieces_induction
  case nil => exact PlainS.nil
  case text =>
    intro s r hs _ ih
    simp only [textOk, Bool.and_eq_true] at hs
    exact PlainS.append (plainS_text s hs.2) ih
  case xexpr => exact fun x r hx ih => PlainS.append (plainS_expr st x hx) ih

theorem escape_pieces (st : Bool) (pt : List TTok) (hp : pt.all isPiece = true) (ho : pt.all (ttokOk st) = true) :
    escapeNew (ttoksNew pt) = ttoksNew pt := by
  apply escape_plain
  have := plainS_pieces st pt hp ho []
  simpa [plainNew] using this

theorem pieces_noBs (st : Bool) : ∀ (pt : List TTok), pt.all isPiece = true → pt.all (ttokOk st) = true →
    ∀ c ∈ ttoksNew pt, c ≠ '\\' := by
  apply pieces_induction
  case nil => simp [ttoksNew]
  case text =>
    intro s r hs _ ih c hc
    simp only [textOk, Bool.and_eq_true, List.all_eq_true] at hs
    simp only [ttoksNew, ttokNew, List.mem_append] at hc
    rcases hc with hc | hc
    · have := hs.2 c hc
      simp only [textCh, Bool.and_eq_true, bne_iff_ne, ne_eq] at this
      exact this.1.1
    · exact ih c hc
  case xexpr =>
    intro x r hx ih c hc
    simp only [ttoksNew, ttokNew, List.mem_append, List.mem_cons, List.not_mem_nil, or_false] at hc
    rcases hc with (rfl | rfl | hc | rfl) | hc
    · decide
    · decide
    · exact (xexprSrc_chars st x hx c hc).1
    · decide
    · exact ih c hc

theorem pieces_ne_nil (st : Bool) : ∀ (pt : List TTok), pt.all isPiece = true → pt.all (ttokOk st) = true →
    pt ≠ [] → ttoksNew pt ≠ [] := by
  apply pieces_induction
  case nil => exact fun h => absurd rfl h
  case text =>
    intro s r hs _ _ _
    simp only [textOk, Bool.and_eq_true, Bool.not_eq_true', List.isEmpty_eq_false_iff] at hs
    simp [ttoksNew, ttokNew, hs.1]
  case xexpr => intros; simp [ttoksNew, ttokNew]

def flushT (pt : List TTok) : List CTok := if pt.isEmpty then [] else [.text (ttoksNew pt)]

/-- `pt`: the pending run of text / `${…}` tokens -/
def grp : List TTok → List TTok → List CTok
  | pt, [] => flushT pt
  | pt, .text s :: r => grp (pt ++ [TTok.text s]) r
  | pt, .xexpr x :: r => grp (pt ++ [TTok.xexpr x]) r
  | pt, .dir d :: r => flushT pt ++ .dir d.name (dirSrc d) :: grp [] r
  | pt, .end_ :: r => flushT pt ++ .dir kwEnd [] :: grp [] r

/-- command and value of a directive token -/
def brk : TTok → Str × Str
  | .dir d => (d.name, dirSrc d)
  | _ => (kwEnd, [])

theorem grp_piece {t : TTok} (h : isPiece t = true) (pt r : List TTok) :
    grp pt (t :: r) = grp (pt ++ [t]) r := by
  cases t <;> first | rfl | cases h

theorem grp_brk {t : TTok} (h : isPiece t = false) (pt r : List TTok) :
    grp pt (t :: r) = flushT pt ++ .dir (brk t).1 (brk t).2 :: grp [] r := by
  cases t <;> first | rfl | cases h

theorem ttokNew_brk {t : TTok} (h : isPiece t = false) :
    ttokNew t = printNewTok (.dir (brk t).1 (brk t).2) := by
  cases t <;> first | rfl | cases h

theorem printNew_append : ∀ (a b : List CTok), printNew (a ++ b) = printNew a ++ printNew b
  | [], _ => rfl
  | t :: a, b => by simp [printNew, printNew_append a b]

theorem print_flushT (st : Bool) (pt : List TTok) (hp : pt.all isPiece = true) (ho : pt.all (ttokOk st) = true) :
    printNew (flushT pt) = ttoksNew pt := by
  cases pt with
  | nil => rfl
  | cons t r =>
    simp only [flushT, List.isEmpty_cons, Bool.false_eq_true, if_false, printNew, printNewTok, List.append_nil]
    exact escape_pieces st (t :: r) hp ho

theorem all_snoc {α} (p : α → Bool) (l : List α) (a : α) : (l ++ [a]).all p = (l.all p && p a) := by
  simp [List.all_append]

/-- induction along a token list with the pending run `pt` of pieces, as `grp` / `grpOld` walk it: a piece
    joins the run, any other token ends it and starts from an empty run; the side condition arrives split
    into its parts -/
theorem runs_induction {st : Bool} {P : List TTok → List TTok → Prop}
    (nil : ∀ pt, pt.all isPiece = true → pt.all (ttokOk st) = true → P pt [])
    (piece : ∀ pt t r, isPiece t = true → ttokOk st t = true → P (pt ++ [t]) r → P pt (t :: r))
    (brk : ∀ pt t r, isPiece t = false → pt.all isPiece = true → pt.all (ttokOk st) = true →
      ttokOk st t = true → P [] r → P pt (t :: r)) :
    ∀ ts pt, pt.all isPiece = true → (pt ++ ts).all (ttokOk st) = true → P pt ts
  | [], pt, hp, ho => nil pt hp (by simpa using ho)
  | t :: r, pt, hp, ho => by
      have ho' := ho
      simp only [List.all_append, List.all_cons, Bool.and_eq_true] at ho'
      cases ht : isPiece t with
      | true =>
        exact piece pt t r ht ho'.2.1
          (runs_induction nil piece brk r (pt ++ [t]) (by simp [List.all_append, hp, ht]) (by simpa using ho))
      | false => exact brk pt t r ht hp ho'.1 ho'.2.1 (runs_induction nil piece brk r [] rfl (by simpa using ho'.2.2))

theorem print_grp (st : Bool) : ∀ (ts pt : List TTok), pt.all isPiece = true → (pt ++ ts).all (ttokOk st) = true →
    printNew (grp pt ts) = ttoksNew pt ++ ttoksNew ts := by
  apply runs_induction
  case nil => intro pt hp ho; simp [grp, print_flushT st pt hp ho, ttoksNew]
  case piece => intro pt t r ht _ ih; rw [grp_piece ht, ih]; simp [ttoksNew_append, ttoksNew]
  case brk =>
    intro pt t r ht hp ho _ ih
    rw [grp_brk ht, printNew_append, print_flushT st pt hp ho, printNew, ih]
    simp [ttoksNew, ttokNew_brk ht]

theorem find2_free (a b : Char) : ∀ (s : Str), (∀ c ∈ s, c ≠ a) → find2 a b s = none
  | [], _ => rfl
  | c :: r, h => by
      have hc := h c (List.mem_cons_self ..)
      have ih := find2_free a b r (fun x hx => h x (List.mem_cons_of_mem _ hx))
      simp [find2, hc, ih]

theorem name_ne_nil (d : Dir) : d.name ≠ [] := by cases d <;> simp [Dir.name]

theorem name_lower (d : Dir) : ∀ c ∈ d.name, 97 ≤ c.toNat ∧ c.toNat ≤ 122 := by
  cases d <;> simp only [Dir.name] <;> decide

theorem name_word (d : Dir) : ∀ c ∈ d.name, Genshi.San.isReWord c = true := by
  intro c hc
  have h := name_lower d c hc
  exact List.any_eq_true.2 ⟨(97, 122), by decide, by simpa using h⟩

theorem okDir_dir (st : Bool) (d : Dir) (h : dirOk st d = true) : OkDir d.name (dirSrc d) where
  cmd_ne := name_ne_nil d
  cmd_word := name_word d
  val_free := find2_free '%' '}' _ (fun c hc => (dirSrc_chars st d h c hc).2.1)
  val_head := dirSrc_head st d h
  val_last := dirSrc_last st d h

theorem okDir_brk (st : Bool) {t : TTok} (ho : ttokOk st t = true) (h : isPiece t = false) :
    OkDir (brk t).1 (brk t).2 := by
  cases t with
  | dir d => exact okDir_dir st d ho
  | end_ =>
    refine ⟨by simp [brk, kwEnd], ?_, rfl, by intro c hc; simp [brk] at hc, by intro c hc; simp [brk] at hc⟩
    intro c hc
    simp only [brk, kwEnd, List.mem_cons, List.not_mem_nil, or_false] at hc
    rcases hc with rfl | rfl | rfl <;> decide +kernel
  | _ => cases h

theorem lastCh_noBs : ∀ (s : Str) (p : Char), (∀ c ∈ s, c ≠ '\\') → p ≠ '\\' → lastCh p s ≠ '\\'
  | [], _, _, hp => hp
  | c :: r, _, h, _ => lastCh_noBs r c (fun x hx => h x (List.mem_cons_of_mem _ hx)) (h c (List.mem_cons_self ..))

/-- the pending run in front of a well-formed list that does not begin with a text -/
theorem wf_flush (st : Bool) (pt : List TTok) (hp : pt.all isPiece = true) (ho : pt.all (ttokOk st) = true)
    (X : List CTok) (hX : WF X) (hh : ∀ u, X.head? = some u → u.isText = false) : WF (flushT pt ++ X) := by
  cases pt with
  | nil => exact hX
  | cons t r =>
    simp only [flushT, List.isEmpty_cons, Bool.false_eq_true, if_false, List.singleton_append]
    refine ⟨pieces_ne_nil st _ hp ho (by simp), hX, ?_⟩
    intro s e u hu
    cases e
    exact ⟨hh u hu, lastCh_noBs _ _ (pieces_noBs st _ hp ho) (by decide)⟩

theorem wf_grp (st : Bool) : ∀ (ts pt : List TTok), pt.all isPiece = true → (pt ++ ts).all (ttokOk st) = true →
    WF (grp pt ts) := by
  apply runs_induction
  case nil => intro pt hp ho; simpa [grp] using wf_flush st pt hp ho [] trivial (by simp)
  case piece => intro pt t r ht _ ih; rwa [grp_piece ht]
  case brk =>
    intro pt t r ht hp ho hot ih
    rw [grp_brk ht]
    exact wf_flush st pt hp ho _ ⟨okDir_brk st hot ht, ih, fun s e => by cases e⟩ (by simp [CTok.isText])

theorem noAdj_append_left : ∀ (a b : List TTok), noAdjText (a ++ b) = true → noAdjText a = true
  | [], _, _ => rfl
  | [t], b, h => by simp [noAdjText]
  | t :: u :: a, b, h => by
      rw [List.cons_append, List.cons_append, noAdjText] at h
      rw [noAdjText]
      simp only [Bool.and_eq_true] at h ⊢
      exact ⟨h.1, noAdj_append_left (u :: a) b h.2⟩

theorem noAdj_append_right : ∀ (a b : List TTok), noAdjText (a ++ b) = true → noAdjText b = true
  | [], _, h => h
  | t :: a, b, h => by
      simp only [List.cons_append, noAdjText, Bool.and_eq_true] at h
      exact noAdj_append_right a b h.2

theorem segOK_pieces (st : Bool) : ∀ (pt : List TTok), pt.all isPiece = true → pt.all (ttokOk st) = true →
    noAdjText pt = true → SegOK (pt.map pieceOf) := by
  apply pieces_induction
  case nil => exact fun _ => trivial
  case text =>
    intro s r hs hr ih hn
    simp only [textOk, Bool.and_eq_true, Bool.not_eq_true', List.isEmpty_eq_false_iff, List.all_eq_true] at hs
    simp only [noAdjText, Bool.and_eq_true, Bool.not_eq_true', isTextTok, Bool.true_and] at hn
    refine ⟨hs.1, ?_, ?_, ih hn.2⟩
    · intro c hc
      have := hs.2 c hc
      simp only [textCh, Bool.and_eq_true, bne_iff_ne, ne_eq] at this
      exact this.1.2
    · intro p hpp
      cases r with
      | nil => simp at hpp
      | cons u r' =>
        simp only [List.map_cons, List.head?_cons, Option.some.injEq] at hpp
        subst hpp
        simp only [List.all_cons, Bool.and_eq_true] at hr
        cases u with
        | text _ => simp at hn
        | xexpr _ => rfl
        | dir _ => simp [isPiece] at hr
        | end_ => simp [isPiece] at hr
  case xexpr =>
    intro x r hx ih hn
    simp only [noAdjText, Bool.and_eq_true] at hn
    exact ⟨xexprSrc_scannable st x hx, xexprSrc_ne_nil st x hx, xexprSrc_strip st x hx, ih hn.2⟩

theorem evToks_pieces (st : Bool) : ∀ (pt : List TTok), pt.all isPiece = true → pt.all (ttokOk st) = true →
    evToks st ((pt.map pieceOf).map pieceEv) = .ok pt := by
  apply pieces_induction
  case nil => rfl
  case text =>
    intro s r _ _ ih
    simp only [List.map_cons, pieceOf, pieceEv, evToks, ih]
    rfl
  case xexpr =>
    intro x r hx ih
    simp only [List.map_cons, pieceOf, pieceEv, evToks, readXExpr_print st x hx, ih]
    rfl

theorem cook_flush (st : Bool) (pt : List TTok) (hp : pt.all isPiece = true) (ho : pt.all (ttokOk st) = true)
    (hn : noAdjText pt = true) (hm : unmodelled (ttoksNew pt) = false) (X : List CTok) (res : List TTok)
    (hX : cookToks st X = .ok res) : cookToks st (flushT pt ++ X) = .ok (pt ++ res) := by
  cases pt with
  | nil => simpa [flushT] using hX
  | cons t r =>
    simp only [flushT, List.isEmpty_cons, Bool.false_eq_true, if_false, List.singleton_append, cookToks]
    rw [ttoksNew_pieces _ hp] at hm ⊢
    rw [interpolate_seg _ (segOK_pieces st _ hp ho hn) hm]
    simp only [bind, Except.bind]
    rw [evToks_pieces st _ hp ho, hX]
    rfl

theorem dirToks_read {st : Bool} {names : List (Str × Str)} {cmd val : Str} {d : Dir}
    (h1 : cmd ≠ ['e', 'n', 'd']) (h2 : cmd ≠ ['i', 'n', 'c', 'l', 'u', 'd', 'e'])
    (h3 : cmd ≠ ['p', 'y', 't', 'h', 'o', 'n']) (hn : names.any (fun p => p.1 = cmd) = true)
    (hr : readDir st cmd val = some d) : Raw.dirToks st names cmd val = .ok [.dir d] := by
  simp [Raw.dirToks, h1, h2, h3, hn, hr]

theorem name_registered (st : Bool) (d : Dir) (h : dirOk st d = true) :
    d.name ≠ ['e', 'n', 'd'] ∧ d.name ≠ ['i', 'n', 'c', 'l', 'u', 'd', 'e'] ∧
    d.name ≠ ['p', 'y', 't', 'h', 'o', 'n'] ∧ d.name.head? ≠ some '#' ∧
    Gen.Directives.newTextDirectives.any (fun p => p.1 = d.name) = true ∧
    Gen.Directives.oldTextDirectives.any (fun p => p.1 = d.name) = true := by
  cases d <;> first
    | (simp [dirOk] at h; done)
    | (simp only [Dir.name]; exact ⟨by decide, by decide, by decide, by decide, rfl, rfl⟩)

theorem dirToks_dir (st : Bool) (d : Dir) (h : dirOk st d = true) :
    Raw.dirToks st Gen.Directives.newTextDirectives d.name (dirSrc d) = .ok [.dir d] := by
  obtain ⟨h1, h2, h3, _, hn, _⟩ := name_registered st d h
  exact dirToks_read h1 h2 h3 hn (readDir_print st d h)

theorem dirToks_end (st : Bool) : Raw.dirToks st Gen.Directives.newTextDirectives kwEnd [] = .ok [.end_] := rfl

theorem dirToks_brk (st : Bool) {t : TTok} (ho : ttokOk st t = true) (h : isPiece t = false) :
    Raw.dirToks st Gen.Directives.newTextDirectives (brk t).1 (brk t).2 = .ok [t] := by
  cases t with
  | dir d => exact dirToks_dir st d ho
  | end_ => exact dirToks_end st
  | _ => cases h

theorem cook_grp (st : Bool) : ∀ (ts pt : List TTok), pt.all isPiece = true → (pt ++ ts).all (ttokOk st) = true →
    noAdjText (pt ++ ts) = true → unmodelled (ttoksNew (pt ++ ts)) = false →
    cookToks st (grp pt ts) = .ok (pt ++ ts) := by
  apply runs_induction
  case nil =>
    intro pt hp ho hn hm
    simp only [List.append_nil] at hn hm ⊢
    simpa [grp] using cook_flush st pt hp ho hn hm [] [] rfl
  case piece =>
    intro pt t r ht _ ih hn hm
    have e : pt ++ t :: r = (pt ++ [t]) ++ r := by simp
    rw [e] at hn hm ⊢
    rw [grp_piece ht]
    exact ih hn hm
  case brk =>
    intro pt t r ht hp ho hot ih hn hm
    rw [ttoksNew_append] at hm
    have hm2 := Scan.unmodelled_append_right _ _ hm
    simp only [ttoksNew] at hm2
    have hn2 := noAdj_append_right _ _ hn
    simp only [noAdjText, Bool.and_eq_true] at hn2
    rw [grp_brk ht]
    apply cook_flush st pt hp ho (noAdj_append_left _ _ hn) (Scan.unmodelled_append_left _ _ hm)
    simp only [cookToks, dirToks_brk st hot ht, bind, Except.bind, pure, Except.pure,
      ih (by simpa using hn2.2) (by simpa using Scan.unmodelled_append_right _ _ hm2)]
    rfl

theorem rawToks_print_flat (st : Bool) (ts : List TTok) (h : ttoksOk st ts = true)
    (hm : unmodelled (ttoksNew ts) = false) : rawToks false st (ttoksNew ts) = .ok ts := by
  simp only [ttoksOk, Bool.and_eq_true] at h
  have hp := print_grp st ts [] rfl (by simpa using h.1)
  simp only [ttoksNew, List.nil_append] at hp
  have hw := wf_grp st ts [] rfl (by simpa using h.1)
  simp only [rawToks, Bool.false_eq_true, if_false]
  rw [newToks_cook, ← hp, scan_print hw]
  have := cook_grp st ts [] rfl (by simpa using h.1) (by simpa using h.2) (by simpa using hm)
  simpa using this

mutual
  theorem nodeNew_flat : ∀ (n : TNode), nodeNew n = ttoksNew (toToks n)
    | .text s => by simp [nodeNew, toToks, ttoksNew, ttokNew]
    | .expr x => by simp [nodeNew, toToks, ttoksNew, ttokNew]
    | .elem _ _ _ _ => by simp [nodeNew, toToks, ttoksNew]
    | .delem d kids => by
        simp only [nodeNew, toToks, ttoksNew, ttokNew, ttoksNew_append, nodesNew_flat kids]
        simp
  theorem nodesNew_flat : ∀ (ns : List TNode), nodesNew ns = ttoksNew (toTokss ns)
    | [] => rfl
    | n :: ns => by simp only [nodesNew, toTokss, ttoksNew_append, nodeNew_flat n, nodesNew_flat ns]
end

def headText : List TTok → Bool
  | t :: _ => isTextTok t
  | [] => false

def lastText : List TTok → Bool
  | [] => false
  | [t] => isTextTok t
  | _ :: r => lastText r

theorem noAdj_append : ∀ (a b : List TTok), noAdjText a = true → noAdjText b = true →
    (lastText a && headText b) = false → noAdjText (a ++ b) = true
  | [], _, _, hb, _ => hb
  | [t], b, _, hb, hj => by
      cases b with
      | nil => simp [noAdjText]
      | cons u b' =>
        simp only [lastText, headText] at hj
        simp only [List.singleton_append, noAdjText, hj, Bool.not_false, Bool.true_and]
        exact hb
  | t :: u :: a, b, ha, hb, hj => by
      rw [noAdjText] at ha
      rw [List.cons_append, List.cons_append, noAdjText]
      simp only [Bool.and_eq_true] at ha ⊢
      exact ⟨ha.1, noAdj_append (u :: a) b ha.2 hb (by simpa [lastText] using hj)⟩

theorem lastText_snoc (a : List TTok) (t : TTok) : lastText (a ++ [t]) = isTextTok t := by
  induction a with
  | nil => rfl
  | cons x a ih =>
    cases a with
    | nil => simp [lastText]
    | cons y a' => simpa [lastText] using ih

theorem headText_toTokss : ∀ (ns : List TNode), nodesOk st ns = true →
    headText (toTokss ns) = (match ns with | m :: _ => isTextNode m | [] => false)
  | [], _ => rfl
  | .text s :: r, _ => by simp [toTokss, toToks, headText, isTextTok, isTextNode]
  | .expr x :: r, _ => by simp [toTokss, toToks, headText, isTextTok, isTextNode]
  | .delem d k :: r, _ => by simp [toTokss, toToks, headText, isTextTok, isTextNode]
  | .elem _ _ _ _ :: r, h => by simp [nodesOk, nodeOk] at h

mutual
  theorem nodeOk_flat (st : Bool) : ∀ (n : TNode), nodeOk st n = true →
      (toToks n).all (ttokOk st) = true ∧ noAdjText (toToks n) = true ∧ lastText (toToks n) = isTextNode n
    | .text s, h => by simpa [toToks, ttokOk, noAdjText, lastText, isTextTok, isTextNode, nodeOk] using h
    | .expr x, h => by simpa [toToks, ttokOk, noAdjText, lastText, isTextTok, isTextNode, nodeOk] using h
    | .elem _ _ _ _, h => by simp [nodeOk] at h
    | .delem d kids, h => by
        simp only [nodeOk, Bool.and_eq_true] at h
        obtain ⟨hk1, hk2⟩ := nodesOk_flat st kids h.2
        refine ⟨?_, ?_, ?_⟩
        · simp [toToks, ttokOk, h.1, hk1, List.all_append]
        · simp only [toToks]
          have : noAdjText (toTokss kids ++ [TTok.end_]) = true :=
            noAdj_append _ _ hk2 rfl (by simp [headText, isTextTok])
          simp only [noAdjText, isTextTok, Bool.false_and, Bool.not_false, Bool.true_and]
          exact this
        · simp only [toToks, isTextNode]
          rw [show TTok.dir d :: (toTokss kids ++ [TTok.end_]) = (TTok.dir d :: toTokss kids) ++ [TTok.end_] by simp,
            lastText_snoc]
          rfl
  theorem nodesOk_flat (st : Bool) : ∀ (ns : List TNode), nodesOk st ns = true →
      (toTokss ns).all (ttokOk st) = true ∧ noAdjText (toTokss ns) = true
    | [], _ => ⟨rfl, rfl⟩
    | n :: ns, h => by
        simp only [nodesOk, Bool.and_eq_true, Bool.not_eq_true'] at h
        obtain ⟨h1, h2, h3⟩ := nodeOk_flat st n h.1.1
        obtain ⟨k1, k2⟩ := nodesOk_flat st ns h.1.2
        refine ⟨by simp [toTokss, List.all_append, h1, k1], ?_⟩
        simp only [toTokss]
        apply noAdj_append _ _ h2 k2
        rw [h3, headText_toTokss ns h.1.2]
        exact h.2
end

/-- **Inversion of the reader (new text syntax).** -/
theorem rawToks_print (st : Bool) (ns : List TNode) (h : nodesOk st ns = true)
    (hm : unmodelled (nodesNew ns) = false) : rawToks false st (nodesNew ns) = .ok (toTokss ns) := by
  rw [nodesNew_flat] at hm ⊢
  obtain ⟨h1, h2⟩ := nodesOk_flat st ns h
  exact rawToks_print_flat st _ (by simp [ttoksOk, h1, h2]) hm

theorem dirOk_textual (st : Bool) (d : Dir) (h : dirOk st d = true) : d.textual = true ∧ d.elemOnly = false := by
  cases d <;> first | (simp [dirOk] at h; done) | exact ⟨rfl, rfl⟩

mutual
  theorem nodeOk_text (st : Bool) : ∀ (n : TNode), nodeOk st n = true → textNode n = true ∧ wfNode n = true
    | .text _, _ => ⟨rfl, rfl⟩
    | .expr _, _ => ⟨rfl, rfl⟩
    | .elem _ _ _ _, h => by simp [nodeOk] at h
    | .delem d kids, h => by
        simp only [nodeOk, Bool.and_eq_true] at h
        obtain ⟨k1, k2⟩ := nodesOk_text st kids h.2
        obtain ⟨d1, d2⟩ := dirOk_textual st d h.1
        simp [textNode, wfNode, d1, d2, k1, k2]
  theorem nodesOk_text (st : Bool) : ∀ (ns : List TNode), nodesOk st ns = true →
      textNodes ns = true ∧ wfNodes ns = true
    | [], _ => ⟨rfl, rfl⟩
    | n :: ns, h => by
        simp only [nodesOk, Bool.and_eq_true] at h
        obtain ⟨a1, a2⟩ := nodeOk_text st n h.1.1
        obtain ⟨b1, b2⟩ := nodesOk_text st ns h.1.2
        simp [textNodes, wfNodes, a1, a2, b1, b2]
end

/-- a source that reads to the tokens of a text-template AST compiles to what the AST compiles to, whatever the
    syntax: what takes an inversion of the reader to the run-time theorems -/
theorem compileRaw_of_rawToks {old st : Bool} {src : Str} {ns : List TNode}
    (hr : rawToks old st src = .ok (toTokss ns)) (ht : textNodes ns = true) :
    compileRaw old st src = .ok (compileNodes ns) := by
  unfold compileRaw
  rw [hr]
  simp only [bind, Except.bind, pure, Except.pure]
  have := compileText_eq_compile ns ht
  unfold compileText at this
  rw [this]

theorem renderRaw_of_rawToks {old st : Bool} {src : Str} {ns : List TNode}
    (hr : rawToks old st src = .ok (toTokss ns)) (ht : textNodes ns = true) (fuel : Nat) (data : Env) :
    renderRaw fuel old st src data = .ok (implRender fuel ns data) := by
  unfold renderRaw
  rw [compileRaw_of_rawToks hr ht]
  rfl

theorem compileRaw_print (st : Bool) (ns : List TNode) (h : nodesOk st ns = true)
    (hm : unmodelled (nodesNew ns) = false) : compileRaw false st (nodesNew ns) = .ok (compileNodes ns) :=
  compileRaw_of_rawToks (rawToks_print st ns h hm) (nodesOk_text st ns h).1

theorem renderRaw_print (st : Bool) (ns : List TNode) (h : nodesOk st ns = true)
    (hm : unmodelled (nodesNew ns) = false) (fuel : Nat) (data : Env) :
    renderRaw fuel false st (nodesNew ns) data = .ok (implRender fuel ns data) :=
  renderRaw_of_rawToks (rawToks_print st ns h hm) (nodesOk_text st ns h).1 fuel data

end Genshi.Tmpl.Print
