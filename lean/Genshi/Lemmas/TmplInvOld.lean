/-
  C04: the inversion theorem of the text-template reader, old syntax (`#cmd value` lines).
  Same route as `TmplInv.lean`: the run of text / `${…}` tokens between two directive lines is one
  text token of the scanner; the scanner round trip is `scan_old_print_raw`; a directive line is
  split by `splitLine` into command and value (the value keeps its line feed, which the tokenizer
  skips).  The side condition adds the line discipline of the old syntax: a directive starts a line
  (`lineStarts`: at the start of the template, behind another directive line, or behind a text ending
  in a line feed — what `gen_templates.fix_old` establishes), and `#` does not occur in texts.
-/
import Genshi.Lemmas.TmplInv
import Genshi.Lemmas.TmplScanOldRT
namespace Genshi.Tmpl.Print
open Genshi.Tmpl.Raw Genshi.Tmpl.Scan
open Genshi.Py.Lex (unmodelled)

theorem tokenize_print_nl (ts : List MTok) (h : ts.all tokOk = true) :
    tokenize (toksSrc ts ++ ['\n']) = some ts := by
  have := tokGo_print ts h ['\n'] (by simp [isWs]) ((toksSrc ts ++ ['\n']).length + 1) [] (by simp)
  simpa [tokenize] using this

theorem readDir_print_nl (st : Bool) (d : Dir) (h : dirOk st d = true) :
    readDir st d.name (dirSrc d ++ ['\n']) = some d := by
  unfold readDir dirSrc
  rw [tokenize_print_nl _ (dirToks_ok st d h)]
  exact readDirToks_print st d h

theorem ttoksOld_append : ∀ (a b : List TTok), ttoksOld (a ++ b) = ttoksOld a ++ ttoksOld b
  | [], _ => rfl
  | t :: a, b => by simp [ttoksOld, ttoksOld_append a b]

theorem ttoksOld_pieces : ∀ (pt : List TTok), pt.all isPiece = true → ttoksOld pt = ttoksNew pt
  | [], _ => rfl
  | .text s :: r, h => by
      simp only [List.all_cons, Bool.and_eq_true] at h
      simp [ttoksOld, ttokOld, ttoksNew, ttokNew, ttoksOld_pieces r h.2]
  | .xexpr x :: r, h => by
      simp only [List.all_cons, Bool.and_eq_true] at h
      simp [ttoksOld, ttokOld, ttoksNew, ttokNew, ttoksOld_pieces r h.2]
  | .dir _ :: _, h => by simp [isPiece] at h
  | .end_ :: _, h => by simp [isPiece] at h

mutual
  theorem nodeOld_flat : ∀ (n : TNode), nodeOld n = ttoksOld (toToks n)
    | .text s => by simp [nodeOld, toToks, ttoksOld, ttokOld]
    | .expr x => by simp [nodeOld, toToks, ttoksOld, ttokOld]
    | .elem _ _ _ _ => by simp [nodeOld, toToks, ttoksOld]
    | .delem d kids => by
        simp only [nodeOld, toToks, ttoksOld, ttokOld, ttoksOld_append, nodesOld_flat kids]
        simp
  theorem nodesOld_flat : ∀ (ns : List TNode), nodesOld ns = ttoksOld (toTokss ns)
    | [] => rfl
    | n :: ns => by simp only [nodesOld, toTokss, ttoksOld_append, nodeOld_flat n, nodesOld_flat ns]
end

def lineBody (cmd val : Str) : Str := cmd ++ (if val.isEmpty then [] else ' ' :: val)

theorem oldLine_eq (cmd val : Str) : oldLine cmd val = '#' :: (lineBody cmd val ++ ['\n']) := by
  simp [oldLine, lineBody]

def flushO (pt : List TTok) : List OCTok := if pt.isEmpty then [] else [.text (ttoksNew pt)]

def grpOld : List TTok → List TTok → List OCTok
  | pt, [] => flushO pt
  | pt, .text s :: r => grpOld (pt ++ [.text s]) r
  | pt, .xexpr x :: r => grpOld (pt ++ [.xexpr x]) r
  | pt, .dir d :: r => flushO pt ++ .line [] (lineBody d.name (dirSrc d)) :: grpOld [] r
  | pt, .end_ :: r => flushO pt ++ .line [] (lineBody kwEnd []) :: grpOld [] r

theorem grpOld_piece {t : TTok} (h : isPiece t = true) (pt r : List TTok) :
    grpOld pt (t :: r) = grpOld (pt ++ [t]) r := by
  cases t <;> first | rfl | cases h

theorem grpOld_brk {t : TTok} (h : isPiece t = false) (pt r : List TTok) :
    grpOld pt (t :: r) = flushO pt ++ .line [] (lineBody (brk t).1 (brk t).2) :: grpOld [] r := by
  cases t <;> first | rfl | cases h

theorem ttokOld_brk {t : TTok} (h : isPiece t = false) : ttokOld t = oldLine (brk t).1 (brk t).2 := by
  cases t <;> first | rfl | cases h

theorem escapeOld_id : ∀ (s : Str), (∀ c ∈ s, c ≠ '#') → escapeOld s = s
  | [], _ => rfl
  | c :: r, h => by
      have hc := h c (List.mem_cons_self ..)
      simp [escapeOld, hc, escapeOld_id r (fun x hx => h x (List.mem_cons_of_mem _ hx))]

theorem pieces_noHash (st : Bool) : ∀ (pt : List TTok), pt.all isPiece = true → pt.all (ttokOk st) = true →
    pt.all noHash = true → ∀ c ∈ ttoksNew pt, c ≠ '#' := by
  apply pieces_induction
  case nil => simp [ttoksNew]
  case text =>
    intro s r _ _ ih hn c hc
    simp only [List.all_cons, Bool.and_eq_true] at hn
    simp only [ttoksNew, ttokNew, List.mem_append] at hc
    rcases hc with hc | hc
    · have := hn.1
      simp only [noHash, List.all_eq_true, bne_iff_ne, ne_eq] at this
      exact this c hc
    · exact ih hn.2 c hc
  case xexpr =>
    intro x r hx ih hn c hc
    simp only [List.all_cons, Bool.and_eq_true] at hn
    simp only [ttoksNew, ttokNew, List.mem_append, List.mem_cons, List.not_mem_nil, or_false] at hc
    rcases hc with (rfl | rfl | hc | rfl) | hc
    · decide
    · decide
    · exact (xexprSrc_chars st x hx c hc).2.2
    · decide
    · exact ih hn.2 c hc

theorem printOld_append : ∀ (a b : List OCTok), printOld (a ++ b) = printOld a ++ printOld b
  | [], _ => rfl
  | t :: a, b => by simp [printOld, printOld_append a b]

theorem print_flushO (st : Bool) (pt : List TTok) (hp : pt.all isPiece = true) (ho : pt.all (ttokOk st) = true)
    (hn : pt.all noHash = true) : printOld (flushO pt) = ttoksOld pt := by
  rw [ttoksOld_pieces pt hp]
  cases pt with
  | nil => rfl
  | cons t r =>
    simp only [flushO, List.isEmpty_cons, Bool.false_eq_true, if_false, printOld, printOldTok, List.append_nil]
    exact escapeOld_id _ (pieces_noHash st _ hp ho hn)

theorem print_grpOld (st : Bool) : ∀ (ts pt : List TTok), pt.all isPiece = true → (pt ++ ts).all (ttokOk st) = true →
    (pt ++ ts).all noHash = true → printOld (grpOld pt ts) = ttoksOld pt ++ ttoksOld ts := by
  apply runs_induction
  case nil =>
    intro pt hp ho hn
    simp only [List.append_nil] at hn
    simp [grpOld, print_flushO st pt hp ho hn, ttoksOld]
  case piece =>
    intro pt t r ht _ ih hn
    rw [grpOld_piece ht, ih (by simpa using hn)]
    simp [ttoksOld_append, ttoksOld]
  case brk =>
    intro pt t r ht hp ho _ ih hn
    simp only [List.all_append, List.all_cons, Bool.and_eq_true] at hn
    rw [grpOld_brk ht, printOld_append, print_flushO st pt hp ho hn.1, printOld, ih (by simpa using hn.2.2)]
    simp [ttoksOld, ttokOld_brk ht, printOldTok, oldLine_eq]

theorem name_noNl (d : Dir) : ∀ c ∈ d.name, c ≠ '\n' := by
  rintro c hc rfl
  exact absurd (name_lower d _ hc).1 (by decide)

theorem okLine_dir (st : Bool) (d : Dir) (h : dirOk st d = true) : OkOTok (.line [] (lineBody d.name (dirSrc d))) := by
  refine ⟨by simp, ?_, ?_⟩
  · obtain ⟨c0, r, e⟩ := List.exists_cons_of_ne_nil (name_ne_nil d)
    refine ⟨c0, r ++ (if (dirSrc d).isEmpty then [] else ' ' :: dirSrc d), by simp [lineBody, e], Or.inl ?_⟩
    exact name_word d c0 (by rw [e]; simp)
  · intro c hc
    simp only [lineBody, List.mem_append] at hc
    rcases hc with hc | hc
    · exact name_noNl d c hc
    · split at hc
      · simp at hc
      · simp only [List.mem_cons] at hc
        rcases hc with rfl | hc
        · decide
        · exact (dirSrc_chars st d h c hc).2.2.2

theorem okLine_end : OkOTok (.line [] (lineBody kwEnd [])) := by
  refine ⟨by simp, ⟨'e', ['n', 'd'], by simp [lineBody, kwEnd], Or.inl (by decide +kernel)⟩, ?_⟩
  intro c hc
  simp only [lineBody, kwEnd, List.isEmpty_nil, if_true, List.append_nil, List.mem_cons, List.not_mem_nil, or_false] at hc
  rcases hc with rfl | rfl | rfl <;> decide

/-- the pending run in front of a well-formed list that begins, if with anything, with a directive line;
    the run then ends in a line feed -/
theorem wfo_flush (st : Bool) (pt : List TTok) (hp : pt.all isPiece = true) (ho : pt.all (ttokOk st) = true)
    (X : List OCTok) (hX : WFOld X)
    (hh : ∀ u, X.head? = some u → (∃ b body, u = .line b body) ∧ (pt ≠ [] → endsNl (ttoksNew pt) = true)) :
    WFOld (flushO pt ++ X) := by
  cases pt with
  | nil => exact hX
  | cons t r =>
    simp only [flushO, List.isEmpty_cons, Bool.false_eq_true, if_false, List.singleton_append]
    refine ⟨pieces_ne_nil st _ hp ho (by simp), hX, ?_⟩
    intro s e u hu
    cases e
    exact ⟨(hh u hu).1, by simpa [endsNl] using (hh u hu).2 (by simp)⟩

theorem wf_grpOld (st : Bool) : ∀ (ts pt : List TTok) (bol : Bool), pt.all isPiece = true →
    (pt ++ ts).all (ttokOk st) = true → (pt ≠ [] → bol = endsNl (ttoksNew pt)) → lineStarts bol ts = true →
    WFOld (grpOld pt ts) := by
  suffices h : ∀ (ts pt : List TTok), pt.all isPiece = true → (pt ++ ts).all (ttokOk st) = true → ∀ bol,
      (pt ≠ [] → bol = endsNl (ttoksNew pt)) → lineStarts bol ts = true → WFOld (grpOld pt ts) from
    fun ts pt bol hp ho => h ts pt hp ho bol
  apply runs_induction
  case nil => intro pt hp ho _ _ _; simpa [grpOld] using wfo_flush st pt hp ho [] trivial (by simp)
  case brk =>
    intro pt t r ht hp ho hot ih bol hb hl
    have hbol : lineStarts bol (t :: r) = (bol && lineStarts true r) := by cases t <;> first | rfl | cases ht
    simp only [hbol, Bool.and_eq_true] at hl
    rw [grpOld_brk ht]
    refine wfo_flush st pt hp ho _ ⟨?_, ih true (by simp) hl.2, fun s e => by cases e⟩
      fun u hu => ⟨⟨_, _, (Option.some.inj hu).symm⟩, fun hne => by rw [← hb hne]; exact hl.1⟩
    cases t with
    | dir d => exact okLine_dir st d hot
    | end_ => exact okLine_end
    | _ => cases ht
  case piece =>
    intro pt t r ht hot ih bol hb hl
    rw [grpOld_piece ht]
    cases t with
    | text s =>
      have hsne : s ≠ [] := by
        simp only [ttokOk, textOk, Bool.and_eq_true, Bool.not_eq_true', List.isEmpty_eq_false_iff] at hot; exact hot.1
      apply ih (endsNl s)
      · intro _
        rw [ttoksNew_append]
        simp only [ttoksNew, ttokNew, List.append_nil]
        simp only [endsNl, getLast?_append_ne (a := ttoksNew pt) hsne]
      · simpa [lineStarts] using hl
    | xexpr x =>
      apply ih false
      · intro _
        rw [ttoksNew_append]
        simp only [ttoksNew, ttokNew, List.append_nil]
        rw [show ('$' :: '{' :: (xexprSrc x ++ ['}'])) = ('$' :: '{' :: xexprSrc x) ++ ['}'] by simp,
          ← List.append_assoc]
        simp only [endsNl, getLast?_append_ne (a := ttoksNew pt ++ '$' :: '{' :: xexprSrc x) (b := ['}']) (by simp)]
        decide
      · simpa [lineStarts] using hl
    | _ => cases ht

theorem name_noSpace (d : Dir) : ∀ c ∈ d.name, Genshi.San.isSpace c = false := fun c hc =>
  have h := name_lower d c hc
  (isSpace_eq_isReSpace c).trans (ascii_not_reSpace ⟨by omega, by omega⟩)

/-- `split(None, 1)` of a line without a value -/
theorem splitLine_noval (cmd : Str) (hcmd : ∀ c ∈ cmd, Genshi.San.isSpace c = false) (hne : cmd ≠ []) :
    splitLine [] (cmd ++ ['\n']) = (cmd, none) := by
  obtain ⟨c0, cmd', rfl⟩ := List.exists_cons_of_ne_nil hne
  have hc0 := hcmd c0 (List.mem_cons_self ..)
  have s2 := span_all (p := fun c => !Genshi.San.isSpace c) (c0 :: cmd') ['\n']
    (by intro c hc; simp [hcmd c hc]) (by intro c hc; simp at hc; subst hc; decide)
  have e0 : (c0 :: cmd' ++ ['\n']).dropWhile Genshi.San.isSpace = c0 :: cmd' ++ ['\n'] := by
    simp [hc0]
  unfold splitLine
  simp only [List.nil_append, List.dropWhile_cons, show Genshi.San.isSpace '#' = false by decide,
    Bool.false_eq_true, if_false, List.drop_succ_cons, List.drop_zero]
  simp only [e0, s2.1, s2.2]
  simp [show Genshi.San.isSpace '\n' = true by decide]

theorem splitLine_dir (st : Bool) (d : Dir) (h : dirOk st d = true) :
    splitLine [] (lineBody d.name (dirSrc d) ++ ['\n']) =
      (d.name, if (dirSrc d).isEmpty then none else some (dirSrc d ++ ['\n'])) := by
  cases hv : dirSrc d with
  | nil => simpa [lineBody] using splitLine_noval d.name (name_noSpace d) (name_ne_nil d)
  | cons v0 vr =>
    have := splitLine_print [] d.name (v0 :: vr) (by simp) (name_noSpace d) (name_ne_nil d)
      (by rw [← hv]; exact fun c hc => (isSpace_eq_isReSpace c).trans (dirSrc_head st d h c hc)) (by simp)
    simpa [lineBody] using this

theorem old_dir (st : Bool) (d : Dir) (h : dirOk st d = true) :
    (let cv := splitLine [] (lineBody d.name (dirSrc d) ++ ['\n'])
     if cv.1.head? = some '#' then Except.ok []
     else Raw.dirToks st Gen.Directives.oldTextDirectives cv.1 (cv.2.getD [])) = .ok [TTok.dir d] := by
  obtain ⟨h1, h2, h3, h4, _, hn⟩ := name_registered st d h
  rw [splitLine_dir st d h]
  simp only [if_neg h4]
  cases hv : dirSrc d with
  | nil => exact dirToks_read h1 h2 h3 hn (by simpa [hv] using readDir_print st d h)
  | cons v0 vr => exact dirToks_read h1 h2 h3 hn (by simpa [hv] using readDir_print_nl st d h)

theorem old_end (st : Bool) :
    (let cv := splitLine [] (lineBody kwEnd [] ++ ['\n'])
     if cv.1.head? = some '#' then Except.ok []
     else Raw.dirToks st Gen.Directives.oldTextDirectives cv.1 (cv.2.getD [])) = .ok [TTok.end_] := by
  have hs : splitLine [] (lineBody kwEnd [] ++ ['\n']) = (kwEnd, none) := by decide
  simp only [hs]
  rfl

theorem old_flush (st : Bool) (pt : List TTok) (hp : pt.all isPiece = true) (ho : pt.all (ttokOk st) = true)
    (hn : noAdjText pt = true) (hm : unmodelled (ttoksNew pt) = false) (X : List OTok) (res : List TTok)
    (hX : oldToks st X = .ok res) : oldToks st ((flushO pt).map rawOld ++ X) = .ok (pt ++ res) := by
  cases pt with
  | nil => simpa [flushO] using hX
  | cons t r =>
    simp only [flushO, List.isEmpty_cons, Bool.false_eq_true, if_false, List.map_cons, List.map_nil,
      List.singleton_append, rawOld, oldToks, unescape_escapeOld]
    rw [ttoksNew_pieces _ hp] at hm ⊢
    rw [interpolate_seg _ (segOK_pieces st _ hp ho hn) hm]
    simp only [bind, Except.bind]
    rw [evToks_pieces st _ hp ho, hX]
    rfl

theorem old_grp (st : Bool) : ∀ (ts pt : List TTok), pt.all isPiece = true → (pt ++ ts).all (ttokOk st) = true →
    noAdjText (pt ++ ts) = true → unmodelled (ttoksOld (pt ++ ts)) = false →
    oldToks st ((grpOld pt ts).map rawOld) = .ok (pt ++ ts) := by
  apply runs_induction
  case nil =>
    intro pt hp ho hn hm
    simp only [List.append_nil] at hn hm ⊢
    rw [ttoksOld_pieces pt hp] at hm
    simpa [grpOld] using old_flush st pt hp ho hn hm [] [] rfl
  case piece =>
    intro pt t r ht _ ih hn hm
    have e : pt ++ t :: r = (pt ++ [t]) ++ r := by simp
    rw [e] at hn hm ⊢
    rw [grpOld_piece ht]
    exact ih hn hm
  case brk =>
    intro pt t r ht hp ho hot ih hn hm
    rw [ttoksOld_append] at hm
    have hm1 := Scan.unmodelled_append_left _ _ hm
    rw [ttoksOld_pieces pt hp] at hm1
    have hm2 := Scan.unmodelled_append_right _ _ hm
    simp only [ttoksOld] at hm2
    have hn2 := noAdj_append_right _ _ hn
    simp only [noAdjText, Bool.and_eq_true] at hn2
    have ih := ih (by simpa using hn2.2) (by simpa using Scan.unmodelled_append_right _ _ hm2)
    rw [grpOld_brk ht, List.map_append, List.map_cons]
    apply old_flush st pt hp ho (noAdj_append_left _ _ hn) hm1
    simp only [rawOld, oldToks]
    have hd : (let cv := splitLine [] (lineBody (brk t).1 (brk t).2 ++ ['\n'])
        if cv.1.head? = some '#' then Except.ok []
        else Raw.dirToks st Gen.Directives.oldTextDirectives cv.1 (cv.2.getD [])) = .ok [t] := by
      cases t with
      | dir d => exact old_dir st d hot
      | end_ => exact old_end st
      | _ => cases ht
    simp only at hd
    rw [hd]
    simp only [List.nil_append] at ih
    rw [ih]
    rfl

theorem rawToks_print_flat_old (st : Bool) (ts : List TTok) (h : ttoksOkOld st ts = true)
    (hm : unmodelled (ttoksOld ts) = false) : rawToks true st (ttoksOld ts) = .ok ts := by
  simp only [ttoksOkOld, ttoksOk, Bool.and_eq_true] at h
  obtain ⟨⟨⟨h1, h2⟩, h3⟩, h4⟩ := h
  have hp := print_grpOld st ts [] rfl (by simpa using h1) (by simpa using h3)
  simp only [ttoksOld, List.nil_append] at hp
  have hw := wf_grpOld st ts [] true rfl (by simpa using h1) (by simp) h4
  simp only [rawToks, if_true]
  rw [← hp, scan_old_print_raw _ hw]
  have := old_grp st ts [] rfl (by simpa using h1) (by simpa using h2) (by simpa using hm)
  simpa using this

theorem nodesOk_of_old {st : Bool} {ns : List TNode} (h : nodesOkOld st ns = true) : nodesOk st ns = true := by
  simp only [nodesOkOld, Bool.and_eq_true] at h
  exact h.1.1

/-- **Inversion of the reader (old text syntax).** -/
theorem rawToks_print_old (st : Bool) (ns : List TNode) (h : nodesOkOld st ns = true)
    (hm : unmodelled (nodesOld ns) = false) : rawToks true st (nodesOld ns) = .ok (toTokss ns) := by
  simp only [nodesOkOld, Bool.and_eq_true] at h
  rw [nodesOld_flat] at hm ⊢
  obtain ⟨h1, h2⟩ := nodesOk_flat st ns h.1.1
  exact rawToks_print_flat_old st _ (by simp [ttoksOkOld, ttoksOk, h1, h2, h.1.2, h.2]) hm

end Genshi.Tmpl.Print
