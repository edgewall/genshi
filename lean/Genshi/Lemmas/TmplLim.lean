/-
  C04: the two interpreters without fuel.  `run n t st` and `doc n t loc d` answer "out of fuel"
  until `n` is large enough and keep their answer from then on (`run_approx`, `doc_approx`: the
  answers are monotone in the fuel), so the limit exists: `Run t st` / `Doc t loc d` is the answer
  that is reached, `Err.fuel` if none ever is.  It is picked with `Classical.choose`: `Lim`, `Run`,
  `Doc` are for proofs only and are never run.  They are functions and not relations because a
  function can be rewritten: `Run` / `Doc` satisfy the clauses of `run` / `doc` as equations with
  no fuel in them (`Run_flat_cons`, `Doc_if`, …), so a statement about renders "with enough fuel"
  (`IOk`, `IErr`, `DOk`, `DErr`) is a statement about `Run` / `Doc` and is proved by rewriting,
  success, failure and divergence at once.  `Lim` itself is used in this file and in `ResRel.lim`
  (`TmplResRel.lean`) only: `Lim_const`, `Lim_succ`, `Lim_bind`, `Lim_map`, `Lim_seq`, `Lim_ite` give the
  equations, everything else sees `Run` / `Doc`.
-/
import Genshi.Lemmas.TmplMono
namespace Genshi.Tmpl

open Classical in
/-- the answer a chain settles on -/
noncomputable def Lim {α : Type} (f : Nat → Except Err α) : Except Err α :=
  if h : ∃ n, f n ≠ .error .fuel then f (choose h) else .error .fuel

section
variable {α : Type} {f : Nat → Except Err α}

theorem Lim_attained (h : Lim f ≠ .error .fuel) : ∃ n, f n = Lim f := by
  unfold Lim at h ⊢
  split
  · exact ⟨_, rfl⟩
  · rename_i hn; rw [dif_neg hn] at h; exact absurd rfl h

theorem Lim_eq (hf : Chain f) {n : Nat} (h : f n ≠ .error .fuel) :
    Lim f = f n := by
  have hex : ∃ n, f n ≠ .error .fuel := ⟨n, h⟩
  unfold Lim
  rw [dif_pos hex]
  have h2 := Classical.choose_spec hex
  exact (hf.mono rfl h2 (Nat.le_max_left _ n)).symm.trans (hf.mono rfl h (Nat.le_max_right _ n))

theorem approx_Lim (hf : Chain f) (n : Nat) : Approx (f n) (Lim f) := by
  by_cases h : f n = .error .fuel
  · exact Or.inl h
  · exact Or.inr (Lim_eq hf h).symm

theorem Lim_eq_iff (hf : Chain f) {r : Except Err α} (hr : r ≠ .error .fuel) :
    Lim f = r ↔ ∃ n, f n = r :=
  ⟨fun h => h ▸ Lim_attained (h ▸ hr), fun ⟨_, h⟩ => h ▸ Lim_eq hf (h ▸ hr)⟩

theorem Lim_err_iff (hf : Chain f) : (∃ n e, f n = .error e ∧ e ≠ .fuel) ↔ ∃ e, Lim f = .error e ∧ e ≠ .fuel :=
  ⟨fun ⟨n, e, h, he⟩ => ⟨e, (Lim_eq_iff hf (by simpa using he)).2 ⟨n, h⟩, he⟩, fun ⟨e, h, he⟩ =>
    let ⟨n, hn⟩ := (Lim_eq_iff hf (by simpa using he)).1 h; ⟨n, e, hn, he⟩⟩

/-- the limit is the one answer that every `f n` approximates and that is reached if it is an answer at all -/
theorem Lim_unique {R : Except Err α} (hf : Chain f)
    (h1 : ∀ n, Approx (f n) R) (h2 : R ≠ .error .fuel → ∃ n, f n = R) : Lim f = R := by
  by_cases hR : R = .error .fuel
  · by_cases hL : Lim f = .error .fuel
    · rw [hL, hR]
    · obtain ⟨n, hn⟩ := Lim_attained hL
      rcases h1 n with h | h
      · rw [← hn, h, hR]
      · rw [← hn, h]
  · obtain ⟨n, hn⟩ := h2 hR
    rw [Lim_eq hf (n := n) (by rw [hn]; exact hR), hn]

omit f in
theorem Lim_const (c : Except Err α) : Lim (fun _ => c) = c :=
  Lim_unique (fun _ => Approx.refl _) (fun _ => Approx.refl _) (fun _ => ⟨0, rfl⟩)

theorem Lim_succ (hf : Chain f) : Lim (fun n => f (n + 1)) = Lim f :=
  Lim_unique (fun n => hf (n + 1)) (fun n => approx_Lim hf (n + 1)) (fun h => by
    obtain ⟨n, hn⟩ := Lim_attained h
    exact ⟨n, hf.mono hn h (Nat.le_succ n)⟩)

end

theorem Lim_bind {α β : Type} (x : Except Err α) (g : Nat → α → Except Err β) :
    Lim (fun n => x >>= g n) = x >>= fun a => Lim (g · a) := by
  cases x with
  | error e => exact Lim_const _
  | ok a => rfl

/-- a function of the answer that passes "out of fuel" on commutes with the limit -/
theorem Lim_map {α β : Type} (φ : Except Err α → Except Err β) (hφ : φ (.error .fuel) = .error .fuel)
    {f : Nat → Except Err α} (hf : Chain f) : Lim (fun n => φ (f n)) = φ (Lim f) := by
  refine Lim_unique (fun n => (hf n).map φ hφ) (fun n => (approx_Lim hf n).map φ hφ) (fun h => ?_)
  have : Lim f ≠ .error .fuel := fun e => h (by rw [e, hφ])
  obtain ⟨n, hn⟩ := Lim_attained this
  exact ⟨n, by rw [hn]⟩

theorem Lim_seq {σ : Type} {a : Nat → Res σ} {b : Nat → σ → Res σ} (ha : Chain a) (hb : ∀ s, Chain (b · s)) :
    Lim (fun n => seq (a n) (b n)) = seq (Lim a) (fun s => Lim (b · s)) := by
  refine Lim_unique (fun n => seq_approx (ha n) (fun s => hb s n))
    (fun n => seq_approx (approx_Lim ha n) (fun s => approx_Lim (hb s) n)) (fun h => ?_)
  have h1 : Lim a ≠ .error .fuel := fun e => h (by rw [e]; rfl)
  obtain ⟨n1, hn1⟩ := Lim_attained h1
  cases hr : Lim a with
  | error e => exact ⟨n1, by rw [hn1, hr]; rfl⟩
  | ok p =>
    obtain ⟨o1, s1⟩ := p
    have h2 : Lim (b · s1) ≠ .error .fuel := fun e => h (by simp [hr, seq, e])
    obtain ⟨n2, hn2⟩ := Lim_attained h2
    refine ⟨max n1 n2, ?_⟩
    rw [ha.mono hn1 h1 (Nat.le_max_left _ _), hr]
    simp only [seq]
    rw [(hb s1).mono hn2 h2 (Nat.le_max_right _ _)]

theorem Lim_ite {α : Type} (c : Prop) [Decidable c] (f g : Nat → Except Err α) :
    Lim (fun n => if c then f n else g n) = if c then Lim f else Lim g := by
  split <;> rfl

/-! ### the implementation model -/

noncomputable def Run (t : ITask) (st : St) : IRes := Lim (run · t st)

theorem Run_eq_iff {t : ITask} {st : St} {r : IRes} (hr : r ≠ .error .fuel) : Run t st = r ↔ ∃ n, run n t st = r :=
  Lim_eq_iff (run_chain t st) hr

theorem Run_succ (t : ITask) (st : St) : Run t st = Lim (fun n => run (n + 1) t st) :=
  (Lim_succ (run_chain t st)).symm

def IOk (t : ITask) (st : St) (o : List Event) (st' : St) : Prop :=
  ∃ m, run m t st = .ok (o, st')

def IErr (t : ITask) (st : St) : Prop := ∃ m e, run m t st = .error e ∧ e ≠ .fuel

theorem IOk_iff_Run {t : ITask} {st st' : St} {o : List Event} : IOk t st o st' ↔ Run t st = .ok (o, st') :=
  (Run_eq_iff (by simp)).symm

theorem IErr_iff_Run {t : ITask} {st : St} : IErr t st ↔ ∃ e, Run t st = .error e ∧ e ≠ .fuel :=
  Lim_err_iff (run_chain t st)

theorem IOk.unique {t : ITask} {st : St} {o o' : List Event} {s s' : St}
    (h1 : IOk t st o s) (h2 : IOk t st o' s') : o = o' ∧ s = s' := by
  rw [IOk_iff_Run] at h1 h2
  rw [h1] at h2; cases h2; exact ⟨rfl, rfl⟩

theorem IErr.not_ok {t : ITask} {st s1 : St} {o : List Event} (h1 : IErr t st) (h2 : IOk t st o s1) : False := by
  rw [IErr_iff_Run] at h1; rw [IOk_iff_Run] at h2
  obtain ⟨e, h, _⟩ := h1
  rw [h2] at h; cases h

/-- the answer of a renderer: the output of the run, the final state dropped -/
theorem out_ok {σ : Type} {r : Res σ} {o : List Event} :
    (do let (o, _) ← r; pure o : Except Err (List Event)) = .ok o ↔ ∃ s, r = .ok (o, s) := by
  cases r with
  | error e => simp [bind, Except.bind]
  | ok p => cases p; simp [bind, Except.bind, pure, Except.pure]

theorem out_err {σ : Type} {r : Res σ} {e : Err} :
    (do let (o, _) ← r; pure o : Except Err (List Event)) = .error e ↔ r = .error e := by
  cases r with
  | error e => simp [bind, Except.bind]
  | ok p => simp [bind, Except.bind, pure, Except.pure]

theorem implRender_ok {ns : List TNode} {data : Env} {o : List Event} :
    (∃ m, implRender m ns data = .ok o) ↔ ∃ st', IOk (.flat (compileNodes ns)) (St.init data) o st' := by
  simp only [implRender, out_ok, IOk]; exact exists_comm

theorem implRender_err {ns : List TNode} {data : Env} :
    (∃ m e, implRender m ns data = .error e ∧ e ≠ .fuel) ↔ IErr (.flat (compileNodes ns)) (St.init data) := by
  simp only [implRender, out_err, IErr]

theorem Run_const {t : ITask} {st : St} {c : IRes} (h : ∀ n, run (n + 1) t st = c) : Run t st = c := by
  rw [Run_succ]; simp only [h]; exact Lim_const c

theorem Run_step {t t' : ITask} {st st' : St} (h : ∀ n, run (n + 1) t st = run n t' st') :
    Run t st = Run t' st' := by
  rw [Run_succ]; simp only [h]; rfl

theorem Run_flat_nil (st : St) : Run (.flat []) st = .ok ([], st) := Run_const fun _ => rfl

theorem Run_flat_cons (e : CEv) (rest : List CEv) (st : St) :
    Run (.flat (e :: rest)) st = seq (Run (.ev e) st) (fun s1 => Run (.flat rest) s1) := by
  rw [Run_succ]; exact Lim_seq (run_chain _ _) (fun _ => run_chain _ _)

theorem Run_ev_start (t a) (st : St) : Run (.ev (.start t a)) st = .ok ([startEv t a], st) := Run_const fun _ => rfl
theorem Run_ev_end (t) (st : St) : Run (.ev (.end_ t)) st = .ok ([endEv t], st) := Run_const fun _ => rfl
theorem Run_ev_text (s) (st : St) : Run (.ev (.text s)) st = .ok ([tx s], st) := Run_const fun _ => rfl

theorem Run_ev_pure (e : Expr) (st : St) : Run (.ev (.xexpr (.pure e))) st =
    (do let v ← eval st.look e; let out ← renderVal v; pure (out, st)) := Run_const fun _ => rfl

theorem Run_ev_call (f : Expr) (args : List Arg) (st : St) : Run (.ev (.xexpr (.call f args))) st =
    (do let fv ← eval st.look f
        let vs ← evalArgs st.look args
        let m ← getMacro st fv
        let scope ← bindParams st.look m.params vs
        mapSt St.pop (Run (.apply m.dirs m.body) (st.push scope))) := by
  rw [Run_succ]; simp only [run, Lim_bind]
  refine bind_congr fun _ => bind_congr fun _ => bind_congr fun _ => bind_congr fun _ => ?_
  exact Lim_map _ rfl (run_chain _ _)

theorem Run_ev_sub (ds body) (st : St) : Run (.ev (.sub ds body)) st = Run (.apply ds body) st :=
  Run_step fun _ => rfl

theorem Run_apply_nil (body) (st : St) : Run (.apply [] body) st = Run (.flat body) st := Run_step fun _ => rfl

theorem Run_def (name params ds body) (st : St) :
    Run (.apply (.def_ name params :: ds) body) st = .ok ([], st.define name ⟨params, ds, body⟩) :=
  Run_const fun _ => rfl

theorem Run_when (e ds body) (st : St) : Run (.apply (.when e :: ds) body) st =
    (match st.choice with
    | [] => .error (posErr body)
    | c :: cs =>
        if c.matched then .ok ([], st)
        else if !c.hasTest && e.isNone then .error (posErr body)
        else do
          let m ← whenMatches st.look c e
          if m then Run (.apply ds body) (st.setMatched c cs true) else pure ([], st.setMatched c cs false)) := by
  rw [Run_succ]; simp only [run]
  cases st.choice with
  | nil => exact Lim_const _
  | cons c cs => simp only [Lim_ite, Lim_const, Lim_bind]; rfl

theorem Run_otherwise (ds body) (st : St) : Run (.apply (.otherwise :: ds) body) st =
    (match st.choice with
    | [] => .error (posErr body)
    | c :: cs => if c.matched then .ok ([], st) else Run (.apply ds body) (st.setMatched c cs true)) := by
  rw [Run_succ]; simp only [run]
  cases st.choice with
  | nil => exact Lim_const _
  | cons c cs => simp only [Lim_ite, Lim_const]; rfl

theorem Run_for (v e ds body) (st : St) : Run (.apply (.for_ v e :: ds) body) st =
    (do let it ← eval st.look e; let items ← iterItems it; Run (.loop v items ds body) st) := by
  rw [Run_succ]; simp only [run, Lim_bind]; rfl

theorem Run_if (e ds body) (st : St) : Run (.apply (.if_ e :: ds) body) st =
    (do let v ← eval st.look e; if v.truthy then Run (.apply ds body) st else pure ([], st)) := by
  rw [Run_succ]; simp only [run, Lim_bind, Lim_ite, Lim_const]; rfl

theorem Run_choose (e ds body) (st : St) : Run (.apply (.choose e :: ds) body) st =
    (do let v ← evalOpt st.look e
        mapSt St.popChoice (Run (.apply ds body) { st with choice := ⟨false, e.isSome, v⟩ :: st.choice })) := by
  rw [Run_succ]; simp only [run, Lim_bind]
  exact bind_congr fun _ => Lim_map _ rfl (run_chain _ _)

theorem Run_with (bs ds body) (st : St) : Run (.apply (.with_ bs :: ds) body) st =
    mapSt St.pop (Run (.binds bs ds body) (st.push [])) := by
  rw [Run_succ]; exact Lim_map _ rfl (run_chain _ _)

theorem Run_attrs (e body) (st : St) : Run (.apply [.attrs e] body) st =
    (do let b ← attrsHead st.look e body; Run (.flat b) st) := by
  rw [Run_succ]; simp only [run, Lim_bind]; rfl

theorem Run_attrs_strip (e c body) (st : St) : Run (.apply [.attrs e, .strip c] body) st =
    (do let b ← attrsHead st.look e body; let b' ← stripBody st.look c b; Run (.flat b') st) := by
  rw [Run_succ]; simp only [run, Lim_bind]; rfl

theorem Run_strip (c body) (st : St) : Run (.apply [.strip c] body) st =
    (do let b' ← stripBody st.look c body; Run (.flat b') st) := by
  rw [Run_succ]; simp only [run, Lim_bind]; rfl

theorem Run_replace (x ds body) (st : St) : Run (.apply (.replace x :: ds) body) st = .error .unmodelled :=
  Run_const fun _ => rfl

theorem Run_content (x ds body) (st : St) : Run (.apply (.content x :: ds) body) st = .error .unmodelled :=
  Run_const fun _ => rfl

theorem Run_attrs_more (e d2 ds2 body) (st : St) (h : ∀ c, d2 = .strip c → ds2 = [] → False) :
    Run (.apply (.attrs e :: d2 :: ds2) body) st = .error .unmodelled :=
  Run_const fun _ => run_attrs_more h

theorem Run_strip_more (c d2 ds2 body) (st : St) : Run (.apply (.strip c :: d2 :: ds2) body) st = .error .unmodelled :=
  Run_const fun _ => rfl

theorem Run_loop_nil (v ds body) (st : St) : Run (.loop v [] ds body) st = .ok ([], st) := Run_const fun _ => rfl

theorem Run_loop_cons (v item items ds body) (st : St) : Run (.loop v (item :: items) ds body) st =
    seq (Run (.apply ds body) (st.push [(v, item)])) (fun s1 => Run (.loop v items ds body) s1.pop) := by
  rw [Run_succ]; exact Lim_seq (run_chain _ _) (fun _ => run_chain _ _)

theorem Run_binds_nil (ds body) (st : St) : Run (.binds [] ds body) st = Run (.apply ds body) st :=
  Run_step fun _ => rfl

theorem Run_binds_cons (x e bs ds body) (st : St) : Run (.binds ((x, e) :: bs) ds body) st =
    (do let v ← eval st.look e; Run (.binds bs ds body) (st.setTop x v)) := by
  rw [Run_succ]; simp only [run, Lim_bind]; rfl

theorem Run_flat_single (e : CEv) (st : St) : Run (.flat [e]) st = Run (.ev e) st := by
  simp only [Run_flat_cons, Run_flat_nil, seq_ok_nil]

theorem Run_flat_append (a b : List CEv) (st : St) :
    Run (.flat (a ++ b)) st = seq (Run (.flat a) st) (fun s => Run (.flat b) s) := by
  induction a generalizing st with
  | nil => simp [Run_flat_nil, seq]; cases Run (.flat b) st <;> rfl
  | cons e a ih => simp only [List.cons_append, Run_flat_cons, ih, seq_assoc]

theorem Run_mkSub (ds : List Dir) (body : List CEv) (st : St) :
    Run (.flat (mkSub ds body)) st = Run (.apply ds body) st := by
  unfold mkSub
  split
  · rename_i he
    have : ds = [] := by simpa using he
    rw [this, Run_apply_nil]
  · rw [Run_flat_single, Run_ev_sub]

/-- an element: its sub-stream between its tags -/
theorem Run_elem (t : Name) (a : List (Name × Str)) (body : List CEv) (st : St) :
    Run (.flat (.start t a :: (body ++ [.end_ t]))) st = wrapOut (startEv t a) (endEv t) (Run (.flat body) st) := by
  simp only [Run_flat_cons, Run_ev_start, Run_flat_append, Run_ev_end, Run_flat_nil, seq]
  cases Run (.flat body) st with
  | error e => rfl
  | ok p => simp [wrapOut]

theorem Run_ok_inv {t : ITask} {st st' : St} {o : List Event} (h : Run t st = .ok (o, st')) :
    ScopesOK t st st' ∧ Inv st st' := by
  obtain ⟨n, hn⟩ := (Run_eq_iff (by simp)).1 h
  exact run_all n t st o st' hn

/-! ### the documentation semantics -/

noncomputable def Doc (t : DTask) (loc : Env) (d : DSt) : DRes := Lim (doc · t loc d)

theorem Doc_eq_iff {t : DTask} {loc : Env} {d : DSt} {r : DRes} (hr : r ≠ .error .fuel) :
    Doc t loc d = r ↔ ∃ n, doc n t loc d = r := Lim_eq_iff (doc_chain t loc d) hr

theorem Doc_succ (t : DTask) (loc : Env) (d : DSt) : Doc t loc d = Lim (fun n => doc (n + 1) t loc d) :=
  (Lim_succ (doc_chain t loc d)).symm

def DOk (t : DTask) (loc : Env) (d : DSt) (o : List Event) (d' : DSt) : Prop :=
  ∃ n, doc n t loc d = .ok (o, d')

def DErr (t : DTask) (loc : Env) (d : DSt) : Prop := ∃ n e, doc n t loc d = .error e ∧ e ≠ .fuel

theorem DOk_iff_Doc {t : DTask} {loc : Env} {d d' : DSt} {o : List Event} :
    DOk t loc d o d' ↔ Doc t loc d = .ok (o, d') := (Doc_eq_iff (by simp)).symm

theorem DErr_iff_Doc {t : DTask} {loc : Env} {d : DSt} : DErr t loc d ↔ ∃ e, Doc t loc d = .error e ∧ e ≠ .fuel :=
  Lim_err_iff (doc_chain t loc d)

theorem DOk.unique {t : DTask} {loc : Env} {d d1 d2 : DSt} {o1 o2 : List Event}
    (h1 : DOk t loc d o1 d1) (h2 : DOk t loc d o2 d2) : o1 = o2 ∧ d1 = d2 := by
  rw [DOk_iff_Doc] at h1 h2
  rw [h1] at h2; cases h2; exact ⟨rfl, rfl⟩

theorem DErr.not_ok {t : DTask} {loc : Env} {d d1 : DSt} {o : List Event}
    (h1 : DErr t loc d) (h2 : DOk t loc d o d1) : False := by
  rw [DErr_iff_Doc] at h1; rw [DOk_iff_Doc] at h2
  obtain ⟨e, h, _⟩ := h1
  rw [h2] at h; cases h

theorem docRender_ok {ns : List TNode} {data : Env} {o : List Event} :
    (∃ n, docRender n ns data = .ok o) ↔ ∃ d', DOk (.nodes ns) [] ⟨data, [], none⟩ o d' := by
  simp only [docRender, out_ok, DOk]; exact exists_comm

theorem docRender_err {ns : List TNode} {data : Env} :
    (∃ n e, docRender n ns data = .error e ∧ e ≠ .fuel) ↔ DErr (.nodes ns) [] ⟨data, [], none⟩ := by
  simp only [docRender, out_err, DErr]

theorem Doc_const {t : DTask} {loc : Env} {d : DSt} {c : DRes} (h : ∀ n, doc (n + 1) t loc d = c) :
    Doc t loc d = c := by
  rw [Doc_succ]; simp only [h]; exact Lim_const c

theorem Doc_step {t t' : DTask} {loc loc' : Env} {d d' : DSt}
    (h : ∀ n, doc (n + 1) t loc d = doc n t' loc' d') : Doc t loc d = Doc t' loc' d' := by
  rw [Doc_succ]; simp only [h]; rfl

theorem Doc_nodes_nil (loc : Env) (d : DSt) : Doc (.nodes []) loc d = .ok ([], d) := Doc_const fun _ => rfl

theorem Doc_nodes_cons (nd : TNode) (rest : List TNode) (loc : Env) (d : DSt) :
    Doc (.nodes (nd :: rest)) loc d = seq (Doc (.node nd) loc d) (fun d1 => Doc (.nodes rest) loc d1) := by
  rw [Doc_succ]; exact Lim_seq (doc_chain _ _ _) (fun _ => doc_chain _ _ _)

theorem Doc_node_text (s : Str) (loc : Env) (d : DSt) : Doc (.node (.text s)) loc d = .ok ([tx s], d) :=
  Doc_const fun _ => rfl

theorem Doc_node_expr (x : XExpr) (loc : Env) (d : DSt) : Doc (.node (.expr x)) loc d = Doc (.xexpr x) loc d :=
  Doc_step fun _ => rfl

theorem Doc_node_elem (tag attrs dirs kids) (loc : Env) (d : DSt) : Doc (.node (.elem tag attrs dirs kids)) loc d =
    Doc (.dirs (sortBy Dir.docIdx dirs) (.elem tag attrs kids)) loc d := Doc_step fun _ => rfl

theorem Doc_node_delem (dd kids) (loc : Env) (d : DSt) :
    Doc (.node (.delem dd kids)) loc d = Doc (.dirs [dd] (.frag kids)) loc d := Doc_step fun _ => rfl

theorem Doc_xexpr_pure (e : Expr) (loc : Env) (d : DSt) : Doc (.xexpr (.pure e)) loc d =
    (do let v ← eval (dlook loc d) e; let out ← renderVal v; pure (out, d)) := Doc_const fun _ => rfl

theorem Doc_xexpr_call (f : Expr) (args : List Arg) (loc : Env) (d : DSt) : Doc (.xexpr (.call f args)) loc d =
    (do let fv ← eval (dlook loc d) f
        let vs ← evalArgs (dlook loc d) args
        let m ← getDMacro d fv
        let scope ← bindParams (dlook loc d) m.params vs
        Doc (.dirs m.dirs m.target) (scope ++ loc) d) := by
  rw [Doc_succ]; simp only [doc, Lim_bind]; rfl

theorem Doc_dirs_nil_elem (tag attrs kids) (loc : Env) (d : DSt) : Doc (.dirs [] (.elem tag attrs kids)) loc d =
    wrapOut (startEv tag attrs) (endEv tag) (Doc (.nodes kids) loc d) := by
  rw [Doc_succ]; exact Lim_map _ rfl (doc_chain _ _ _)

theorem Doc_dirs_nil_frag (kids) (loc : Env) (d : DSt) : Doc (.dirs [] (.frag kids)) loc d = Doc (.nodes kids) loc d :=
  Doc_step fun _ => rfl

theorem Doc_def (name params ds t) (loc : Env) (d : DSt) :
    Doc (.dirs (.def_ name params :: ds) t) loc d = .ok ([], d.define name ⟨params, ds, t⟩) := Doc_const fun _ => rfl

theorem Doc_when (e ds t) (loc : Env) (d : DSt) : Doc (.dirs (.when e :: ds) t) loc d =
    (match d.ch with
    | none => .error .runtime
    | some c =>
        if c.matched then .ok ([], d) else do
          let m ← whenMatches (dlook loc d) c e
          if m then Doc (.dirs ds t) loc (d.setMatched c true) else pure ([], d.setMatched c false)) := by
  rw [Doc_succ]; simp only [doc]
  cases d.ch with
  | none => exact Lim_const _
  | some c => simp only [Lim_ite, Lim_const, Lim_bind]; rfl

theorem Doc_otherwise (ds t) (loc : Env) (d : DSt) : Doc (.dirs (.otherwise :: ds) t) loc d =
    (match d.ch with
    | none => .error .runtime
    | some c => if c.matched then .ok ([], d) else Doc (.dirs ds t) loc (d.setMatched c true)) := by
  rw [Doc_succ]; simp only [doc]
  cases d.ch with
  | none => exact Lim_const _
  | some c => simp only [Lim_ite, Lim_const]; rfl

theorem Doc_for (v e ds t) (loc : Env) (d : DSt) : Doc (.dirs (.for_ v e :: ds) t) loc d =
    (do let it ← eval (dlook loc d) e; let items ← iterItems it; Doc (.loop v items ds t) loc d) := by
  rw [Doc_succ]; simp only [doc, Lim_bind]; rfl

theorem Doc_if (e ds t) (loc : Env) (d : DSt) : Doc (.dirs (.if_ e :: ds) t) loc d =
    (do let v ← eval (dlook loc d) e; if v.truthy then Doc (.dirs ds t) loc d else pure ([], d)) := by
  rw [Doc_succ]; simp only [doc, Lim_bind, Lim_ite, Lim_const]; rfl

theorem Doc_choose (e ds t) (loc : Env) (d : DSt) : Doc (.dirs (.choose e :: ds) t) loc d =
    (do let v ← evalOpt (dlook loc d) e
        mapSt (fun s1 => { s1 with ch := d.ch }) (Doc (.dirs ds t) loc { d with ch := some ⟨false, e.isSome, v⟩ })) := by
  rw [Doc_succ]; simp only [doc, Lim_bind]
  exact bind_congr fun _ => Lim_map _ rfl (doc_chain _ _ _)

theorem Doc_with (bs ds t) (loc : Env) (d : DSt) : Doc (.dirs (.with_ bs :: ds) t) loc d = Doc (.binds bs ds t) loc d :=
  Doc_step fun _ => rfl

theorem Doc_replace (x ds t) (loc : Env) (d : DSt) : Doc (.dirs (.replace x :: ds) t) loc d = Doc (.xexpr x) loc d :=
  Doc_step fun _ => rfl

theorem Doc_content_elem (x ds tag attrs kids) (loc : Env) (d : DSt) :
    Doc (.dirs (.content x :: ds) (.elem tag attrs kids)) loc d = Doc (.dirs ds (.elem tag attrs [.expr x])) loc d :=
  Doc_step fun _ => rfl

theorem Doc_attrs_elem (e ds tag attrs kids) (loc : Env) (d : DSt) :
    Doc (.dirs (.attrs e :: ds) (.elem tag attrs kids)) loc d =
    (do let v ← eval (dlook loc d) e
        let ps ← attrsPairs v
        Doc (.dirs ds (.elem tag (Genshi.Escape.Attrs.or attrs ps) kids)) loc d) := by
  rw [Doc_succ]; simp only [doc, Lim_bind]; rfl

theorem Doc_strip_elem (c ds tag attrs kids) (loc : Env) (d : DSt) :
    Doc (.dirs (.strip c :: ds) (.elem tag attrs kids)) loc d =
    (do let b ← stripCond (dlook loc d) c
        Doc (.dirs ds (if b then .frag kids else .elem tag attrs kids)) loc d) := by
  rw [Doc_succ]; simp only [doc, Lim_bind]; rfl

theorem Doc_loop_nil (v ds t) (loc : Env) (d : DSt) : Doc (.loop v [] ds t) loc d = .ok ([], d) := Doc_const fun _ => rfl

theorem Doc_loop_cons (v item items ds t) (loc : Env) (d : DSt) : Doc (.loop v (item :: items) ds t) loc d =
    seq (Doc (.dirs ds t) ((v, item) :: loc) d) (fun d1 => Doc (.loop v items ds t) loc d1) := by
  rw [Doc_succ]; exact Lim_seq (doc_chain _ _ _) (fun _ => doc_chain _ _ _)

theorem Doc_binds_nil (ds t) (loc : Env) (d : DSt) : Doc (.binds [] ds t) loc d = Doc (.dirs ds t) loc d :=
  Doc_step fun _ => rfl

theorem Doc_binds_cons (x e bs ds t) (loc : Env) (d : DSt) : Doc (.binds ((x, e) :: bs) ds t) loc d =
    (do let v ← eval (dlook loc d) e; Doc (.binds bs ds t) ((x, v) :: loc) d) := by
  rw [Doc_succ]; simp only [doc, Lim_bind]; rfl

end Genshi.Tmpl
