/-
  C04: fuel monotonicity.  `Approx r r'`: `r` is out of fuel or already the final
  answer `r'`.  More fuel never changes an answer that is not `Err.fuel`.
-/
import Genshi.Lemmas.Tmpl
namespace Genshi.Tmpl

def Approx {α : Type} (r r' : Except Err α) : Prop := r = .error .fuel ∨ r = r'

theorem Approx.refl {α : Type} (r : Except Err α) : Approx r r := Or.inr rfl
theorem Approx.fuel {α : Type} (r : Except Err α) : Approx (.error .fuel) r := Or.inl rfl

theorem Approx.trans {α : Type} {a b c : Except Err α} (h1 : Approx a b) (h2 : Approx b c) :
    Approx a c := by
  rcases h1 with rfl | rfl
  · exact Or.inl rfl
  · exact h2

theorem seq_approx {σ : Type} {r r' : Res σ} {k k' : σ → Res σ}
    (h : Approx r r') (hk : ∀ s, Approx (k s) (k' s)) : Approx (seq r k) (seq r' k') := by
  rcases h with rfl | rfl
  · exact Or.inl rfl
  · cases r with
    | error e => exact Or.inr rfl
    | ok p =>
      obtain ⟨o1, s1⟩ := p
      rcases hk s1 with h | h
      · left; simp [seq, h]
      · right; simp [seq, h]

/-- a function of the answer that passes "out of fuel" on -/
theorem Approx.map {α β : Type} (φ : Except Err α → Except Err β) (hφ : φ (.error .fuel) = .error .fuel)
    {r r' : Except Err α} (h : Approx r r') : Approx (φ r) (φ r') := by
  rcases h with rfl | rfl
  · exact Or.inl hφ
  · exact Or.inr rfl

theorem mapSt_approx {σ : Type} {f : σ → σ} {r r' : Res σ} (h : Approx r r') :
    Approx (mapSt f r) (mapSt f r') := h.map _ rfl

theorem wrapOut_approx {σ : Type} {a b : Event} {r r' : Res σ} (h : Approx r r') :
    Approx (wrapOut a b r) (wrapOut a b r') := h.map _ rfl

theorem bind_approx {α β : Type} (x : Except Err α) {f f' : α → Except Err β}
    (h : ∀ a, Approx (f a) (f' a)) : Approx (x >>= f) (x >>= f') := by
  cases x with
  | error e => exact Or.inr rfl
  | ok a => exact h a

theorem ite_approx {α : Type} (c : Prop) [Decidable c] {a a' b b' : Except Err α}
    (ha : Approx a a') (hb : Approx b b') : Approx (if c then a else b) (if c then a' else b') := by
  split
  · exact ha
  · exact hb

/-- answers in the fuel: one that is not "out of fuel" is final -/
def Chain {α : Type} (f : Nat → Except Err α) : Prop := ∀ n, Approx (f n) (f (n + 1))

theorem Chain.mono {α : Type} {f : Nat → Except Err α} (hf : Chain f) {n m : Nat} {r : Except Err α}
    (h : f n = r) (hr : r ≠ .error .fuel) (hm : n ≤ m) : f m = r := by
  induction hm with
  | refl => exact h
  | step _ ih =>
    rcases hf _ with h1 | h1
    · rw [ih] at h1; exact absurd h1 hr
    · rw [← h1]; exact ih

theorem run_approx : ∀ (n : Nat) (t : ITask) (st : St), Approx (run n t st) (run (n + 1) t st) := by
  intro n
  induction n with
  | zero => intro t st; exact Or.inl rfl
  | succ n ih =>
    intro t st
    cases t with
    | flat body =>
      cases body with
      | nil => exact Or.inr rfl
      | cons e rest =>
        simp only [run]
        exact seq_approx (ih _ _) (fun s => ih _ _)
    | ev e =>
      cases e with
      | start t a => exact Or.inr rfl
      | end_ t => exact Or.inr rfl
      | text s => exact Or.inr rfl
      | xexpr x =>
        cases x with
        | pure e => exact Or.inr rfl
        | call f args =>
          simp only [run]
          refine bind_approx _ (fun fv => bind_approx _ (fun vs => bind_approx _ (fun m => bind_approx _ (fun sc => ?_))))
          exact mapSt_approx (ih _ _)
      | sub ds body => simp only [run]; exact ih _ _
    | apply ds body =>
      cases ds with
      | nil => simp only [run]; exact ih _ _
      | cons d ds =>
        cases d with
        | def_ name params => exact Or.inr rfl
        | when e =>
          simp only [run]
          split
          · exact Or.inr rfl
          · refine ite_approx _ (Approx.refl _) (ite_approx _ (Approx.refl _) ?_)
            refine bind_approx _ (fun m => ?_)
            exact ite_approx _ (ih _ _) (Approx.refl _)
        | otherwise =>
          simp only [run]
          split
          · exact Or.inr rfl
          · exact ite_approx _ (Approx.refl _) (ih _ _)
        | for_ v e =>
          simp only [run]
          exact bind_approx _ (fun it => bind_approx _ (fun items => ih _ _))
        | if_ e =>
          simp only [run]
          exact bind_approx _ (fun v => ite_approx _ (ih _ _) (Approx.refl _))
        | choose e =>
          simp only [run]
          exact bind_approx _ (fun v => mapSt_approx (ih _ _))
        | with_ bs => simp only [run]; exact mapSt_approx (ih _ _)
        | replace x => exact Or.inr rfl
        | content x => exact Or.inr rfl
        | attrs e =>
          rcases attrs_tail_cases ds with rfl | ⟨c, rfl⟩ | ⟨d2, ds2, rfl, h⟩
          · simp only [run]; exact bind_approx _ (fun b => ih _ _)
          · simp only [run]; exact bind_approx _ (fun b => bind_approx _ (fun b' => ih _ _))
          · rw [run_attrs_more h, run_attrs_more h]; exact Or.inr rfl
        | strip c =>
          cases ds with
          | nil => simp only [run]; exact bind_approx _ (fun b => ih _ _)
          | cons d2 ds2 => exact Or.inr rfl
    | loop v items ds body =>
      cases items with
      | nil => exact Or.inr rfl
      | cons item items =>
        simp only [run]
        exact seq_approx (ih _ _) (fun s => ih _ _)
    | binds bs ds body =>
      cases bs with
      | nil => simp only [run]; exact ih _ _
      | cons p bs =>
        obtain ⟨x, e⟩ := p
        simp only [run]
        exact bind_approx _ (fun v => ih _ _)

theorem run_flat_single_approx (k : Nat) (e : CEv) (st : St) : Approx (run k (.flat [e]) st) (run k (.ev e) st) := by
  cases k with
  | zero => exact .inl rfl
  | succ k => rw [run_flat_single]; exact run_approx k _ st

theorem run_chain (t : ITask) (st : St) : Chain (run · t st) := fun n => run_approx n t st

theorem run_mono {n m : Nat} {t : ITask} {st : St} {r : IRes}
    (h : run n t st = r) (hr : r ≠ .error .fuel) (hm : n ≤ m) : run m t st = r :=
  (run_chain t st).mono h hr hm

theorem run_final_unique {n n' : Nat} {t : ITask} {st : St} {r r' : IRes}
    (h : run n t st = r) (hr : r ≠ .error .fuel) (h' : run n' t st = r') (hr' : r' ≠ .error .fuel) : r = r' :=
  (run_mono h hr (Nat.le_max_left n n')).symm.trans (run_mono h' hr' (Nat.le_max_right n n'))

theorem doc_approx : ∀ (n : Nat) (t : DTask) (loc : Env) (st : DSt),
    Approx (doc n t loc st) (doc (n + 1) t loc st) := by
  intro n
  induction n with
  | zero => intro t loc st; exact Or.inl rfl
  | succ n ih =>
    intro t loc st
    cases t with
    | nodes ns =>
      cases ns with
      | nil => exact Or.inr rfl
      | cons nd rest => simp only [doc]; exact seq_approx (ih _ _ _) (fun s => ih _ _ _)
    | node nd =>
      cases nd with
      | text s => exact Or.inr rfl
      | expr x => simp only [doc]; exact ih _ _ _
      | elem tag attrs dirs kids => simp only [doc]; exact ih _ _ _
      | delem d kids => simp only [doc]; exact ih _ _ _
    | xexpr x =>
      cases x with
      | pure e => exact Or.inr rfl
      | call f args =>
        simp only [doc]
        exact bind_approx _ (fun fv => bind_approx _ (fun vs => bind_approx _ (fun m => bind_approx _ (fun sc => ih _ _ _))))
    | dirs ds t =>
      cases ds with
      | nil =>
        cases t with
        | elem tag attrs kids => simp only [doc]; exact wrapOut_approx (ih _ _ _)
        | frag kids => simp only [doc]; exact ih _ _ _
      | cons d ds =>
        cases d with
        | def_ name params => exact Or.inr rfl
        | when e =>
          simp only [doc]
          split
          · exact Or.inr rfl
          · refine ite_approx _ (Approx.refl _) ?_
            refine bind_approx _ (fun m => ?_)
            exact ite_approx _ (ih _ _ _) (Approx.refl _)
        | otherwise =>
          simp only [doc]
          split
          · exact Or.inr rfl
          · exact ite_approx _ (Approx.refl _) (ih _ _ _)
        | for_ v e =>
          simp only [doc]
          exact bind_approx _ (fun it => bind_approx _ (fun items => ih _ _ _))
        | if_ e =>
          simp only [doc]
          exact bind_approx _ (fun v => ite_approx _ (ih _ _ _) (Approx.refl _))
        | choose e =>
          simp only [doc]
          exact bind_approx _ (fun v => mapSt_approx (ih _ _ _))
        | with_ bs => simp only [doc]; exact ih _ _ _
        | replace x => simp only [doc]; exact ih _ _ _
        | content x => cases t <;> simp only [doc] <;> exact ih _ _ _
        | attrs e =>
          cases t with
          | elem tag attrs kids =>
            simp only [doc]
            exact bind_approx _ (fun v => bind_approx _ (fun ps => ih _ _ _))
          | frag kids => simp only [doc]; exact ih _ _ _
        | strip c =>
          cases t with
          | elem tag attrs kids =>
            simp only [doc]
            exact bind_approx _ (fun b => ih _ _ _)
          | frag kids => simp only [doc]; exact ih _ _ _
    | loop v items ds t =>
      cases items with
      | nil => exact Or.inr rfl
      | cons item items => simp only [doc]; exact seq_approx (ih _ _ _) (fun s => ih _ _ _)
    | binds bs ds t =>
      cases bs with
      | nil => simp only [doc]; exact ih _ _ _
      | cons p bs =>
        obtain ⟨x, e⟩ := p
        simp only [doc]
        exact bind_approx _ (fun v => ih _ _ _)

theorem doc_chain (t : DTask) (loc : Env) (d : DSt) : Chain (doc · t loc d) := fun n => doc_approx n t loc d

theorem doc_mono {n m : Nat} {t : DTask} {loc : Env} {st : DSt} {r : DRes}
    (h : doc n t loc st = r) (hr : r ≠ .error .fuel) (hm : n ≤ m) : doc m t loc st = r :=
  (doc_chain t loc st).mono h hr hm

theorem doc_final_unique {n n' : Nat} {t : DTask} {loc : Env} {st : DSt} {r r' : DRes}
    (h : doc n t loc st = r) (hr : r ≠ .error .fuel) (h' : doc n' t loc st = r') (hr' : r' ≠ .error .fuel) : r = r' :=
  (doc_mono h hr (Nat.le_max_left n n')).symm.trans (doc_mono h' hr' (Nat.le_max_right n n'))

end Genshi.Tmpl
