/-
  C04: the order in which the directives of one element are applied, and well-formed templates.
  `Dir.rank` is the position in the documented processing order, which is also the sort key of the
  implementation (`implIdx_eq_rank`); `StrictSorted`: what sorting makes of directives none of which
  occurs twice (`sortBy_strict`), and what sorting leaves alone (`sortBy_of_sorted`); `wfNodes`: the
  templates the simulations are about.
-/
import Genshi.Model.TmplImpl
namespace Genshi.Tmpl

def Dir.rank : Dir → Nat
  | .def_ _ _ => 0 | .when _ => 2 | .otherwise => 3 | .for_ _ _ => 4 | .if_ _ => 5
  | .choose _ => 6 | .with_ _ => 7 | .replace _ => 8 | .content _ => 9 | .attrs _ => 10
  | .strip _ => 11

theorem docIdx_eq_rank (d : Dir) : d.docIdx = d.rank := by cases d <;> rfl

/-- the generated table agrees with the documentation (re-checked whenever the table changes) -/
theorem implOrder_eq : implOrder = docOrder := by decide

theorem implIdx_eq_rank (d : Dir) : d.implIdx = d.rank := by
  unfold Dir.implIdx; rw [implOrder_eq]; exact docIdx_eq_rank d

theorem implIdx_eq_docIdx : Dir.implIdx = Dir.docIdx := by
  funext d; rw [implIdx_eq_rank, docIdx_eq_rank]

def StrictSorted (ds : List Dir) : Prop := (ds.map Dir.rank).Pairwise (· < ·)

theorem StrictSorted.tail {d : Dir} {ds : List Dir} (h : StrictSorted (d :: ds)) : StrictSorted ds := by
  unfold StrictSorted at *; simp only [List.map_cons, List.pairwise_cons] at h; exact h.2

theorem StrictSorted.head_lt {d : Dir} {ds : List Dir} (h : StrictSorted (d :: ds)) :
    ∀ x ∈ ds, d.rank < x.rank := by
  unfold StrictSorted at h; simp only [List.map_cons, List.pairwise_cons, List.mem_map] at h
  intro x hx; exact h.1 _ ⟨x, hx, rfl⟩

theorem StrictSorted.cons_tail {a d : Dir} {ds : List Dir} (h : StrictSorted (a :: d :: ds)) :
    StrictSorted (a :: ds) := by
  unfold StrictSorted at *
  simp only [List.map_cons, List.pairwise_cons, List.mem_cons, forall_eq_or_imp] at h ⊢
  exact ⟨h.1.2, h.2.2⟩

theorem StrictSorted.suffix {pre tl : List Dir} (h : StrictSorted (pre ++ tl)) : StrictSorted tl := by
  induction pre with
  | nil => simpa using h
  | cons d pre ih => exact ih (by simpa using h.tail)

theorem sorted_after_strip {c : Option Expr} {ds : List Dir} (h : StrictSorted (.strip c :: ds)) :
    ds = [] := by
  cases ds with
  | nil => rfl
  | cons d ds =>
    have := h.head_lt d (List.mem_cons_self ..)
    cases d <;> simp [Dir.rank] at this

theorem sorted_after_attrs {e : Expr} {ds : List Dir} (h : StrictSorted (.attrs e :: ds)) :
    ds = [] ∨ ∃ c, ds = [.strip c] := by
  cases ds with
  | nil => exact Or.inl rfl
  | cons d ds =>
    have h1 := h.head_lt d (List.mem_cons_self ..)
    cases d <;> simp [Dir.rank] at h1
    rename_i c
    exact Or.inr ⟨c, by rw [sorted_after_strip h.tail]⟩

theorem mem_insertBy {α : Type} (key : α → Nat) (x : α) (ys : List α) (z : α) :
    z ∈ insertBy key x ys ↔ z = x ∨ z ∈ ys := by
  induction ys with
  | nil => simp [insertBy]
  | cons y ys ih =>
    simp only [insertBy]
    split
    · simp only [List.mem_cons, ih]; grind
    · simp

theorem mem_sortBy {α : Type} (key : α → Nat) (xs : List α) (z : α) : z ∈ sortBy key xs ↔ z ∈ xs := by
  induction xs with
  | nil => simp [sortBy]
  | cons x xs ih => simp only [sortBy, mem_insertBy, ih, List.mem_cons]

theorem insertBy_strict {α : Type} (key : α → Nat) (x : α) (ys : List α)
    (hs : (ys.map key).Pairwise (· < ·)) (hx : ∀ y ∈ ys, key y ≠ key x) :
    ((insertBy key x ys).map key).Pairwise (· < ·) := by
  induction ys with
  | nil => simp [insertBy]
  | cons y ys ih =>
    rw [List.map_cons, List.pairwise_cons] at hs
    simp only [insertBy]
    split
    · rename_i hlt
      rw [List.map_cons, List.pairwise_cons]
      refine ⟨?_, ih hs.2 (fun z hz => hx z (List.mem_cons_of_mem _ hz))⟩
      intro k hk
      obtain ⟨z, hz, rfl⟩ := List.mem_map.1 hk
      rcases (mem_insertBy key x ys z).1 hz with rfl | hz
      · exact hlt
      · exact hs.1 _ (List.mem_map.2 ⟨z, hz, rfl⟩)
    · rename_i hge
      have hne := hx y (List.mem_cons_self ..)
      have hlt : key x < key y := by omega
      rw [List.map_cons, List.pairwise_cons, List.map_cons, List.pairwise_cons]
      refine ⟨?_, hs.1, hs.2⟩
      intro k hk
      rcases List.mem_cons.1 hk with rfl | hk
      · exact hlt
      · exact Nat.lt_trans hlt (hs.1 _ hk)

theorem sortBy_strict {α : Type} (key : α → Nat) (xs : List α) (h : (xs.map key).Nodup) :
    ((sortBy key xs).map key).Pairwise (· < ·) := by
  induction xs with
  | nil => simp [sortBy]
  | cons x xs ih =>
    simp only [List.map_cons, List.nodup_cons, List.mem_map, not_exists, not_and] at h
    simp only [sortBy]
    refine insertBy_strict key x _ (ih h.2) ?_
    intro y hy
    exact h.1 y ((mem_sortBy key xs y).1 hy)

theorem sortBy_docIdx_strict (dirs : List Dir) (h : (dirs.map Dir.rank).Nodup) :
    StrictSorted (sortBy Dir.docIdx dirs) := by
  have : Dir.docIdx = Dir.rank := funext docIdx_eq_rank
  rw [this]
  exact sortBy_strict Dir.rank dirs h

theorem insertBy_lt {α : Type} (key : α → Nat) (x : α) (ys : List α)
    (h : ∀ y ∈ ys, key x < key y) : insertBy key x ys = x :: ys := by
  cases ys with
  | nil => rfl
  | cons y ys =>
    have := h y (List.mem_cons_self ..)
    simp only [insertBy]
    rw [if_neg (by omega)]

theorem sortBy_of_sorted {α : Type} (key : α → Nat) (xs : List α)
    (h : (xs.map key).Pairwise (· < ·)) : sortBy key xs = xs := by
  induction xs with
  | nil => rfl
  | cons x xs ih =>
    rw [List.map_cons, List.pairwise_cons] at h
    simp only [sortBy]
    rw [ih h.2]
    exact insertBy_lt key x xs (fun y hy => h.1 _ (List.mem_map.2 ⟨y, hy, rfl⟩))

theorem sortBy_implIdx_of_sorted (ds : List Dir) (h : StrictSorted ds) : sortBy Dir.implIdx ds = ds := by
  have : Dir.implIdx = Dir.rank := funext implIdx_eq_rank
  rw [this]; exact sortBy_of_sorted Dir.rank ds h

/-- directives that need an element to act on -/
def Dir.elemOnly : Dir → Bool
  | .content _ | .attrs _ | .strip _ => true
  | _ => false

mutual
  def wfNode : TNode → Bool
    | .text _ => true
    | .expr _ => true
    | .elem _ _ dirs kids => decide ((dirs.map Dir.rank).Nodup) && wfNodes kids
    | .delem d kids => !d.elemOnly && wfNodes kids
  def wfNodes : List TNode → Bool
    | [] => true
    | n :: ns => wfNode n && wfNodes ns
end

theorem wfNodes_cons {n : TNode} {ns : List TNode} (h : wfNodes (n :: ns) = true) :
    wfNode n = true ∧ wfNodes ns = true := by
  simpa [wfNodes] using h

end Genshi.Tmpl
