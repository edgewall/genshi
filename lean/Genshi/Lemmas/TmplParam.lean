/-
  C04: rendering does not depend on *how* a macro is stored — as a directive chain over the
  element's sub-stream (attribute form) or as nested SUB events (element form).
  `StRel`: states equal up to that representation of macros.  `Par n T T'`: from related states `T'`
  answers as `T` answers with fuel `n` (the same output into related states, or a failure).
  Every task is related to itself (`par_self`, one case per clause of `run`), two stored forms of a
  macro are related (`par_macro`), both by one induction on the fuel (`par_all`); `param`,
  `nest_of_chain`, `chain_of_nest`, `tail_pair` are what the properties use of it.
-/
import Genshi.Lemmas.TmplEquiv
import Genshi.Lemmas.TmplResRel
namespace Genshi.Tmpl

/-- pairs of (directive tail, sub-stream) that render alike: what `attach` leaves of
    `py:replace` and of `py:content` + `py:strip` -/
inductive BasePair : List Dir × List CEv → List Dir × List CEv → Prop
  | repl (x : XExpr) (t : Name) (a : List (Name × Str)) :
      BasePair ([], [.xexpr x]) ([.strip none], [.start t a, .xexpr x, .end_ t])
  | unrepl (x : XExpr) (t : Name) (a : List (Name × Str)) :
      BasePair ([.strip none], [.start t a, .xexpr x, .end_ t]) ([], [.xexpr x])

theorem BasePair.symm {a b} (h : BasePair a b) : BasePair b a := by
  cases h with
  | repl x t a => exact BasePair.unrepl x t a
  | unrepl x t a => exact BasePair.repl x t a

/-- two stored forms of the same `py:def`: identical; the same control prefix over base-equivalent tails
    (`py:replace` vs `py:content` + `py:strip`); the directive chain over the element's sub-stream
    (attribute form) vs nested SUB events (element form), either way round -/
inductive MRel : Macro → Macro → Prop
  | refl (m : Macro) : MRel m m
  | tail (ps : List Param) (pre : List Dir) (T1 T2 : List Dir × List CEv) :
      (∀ d ∈ pre, d.ctlDef = true) → BasePair T1 T2 → MRel ⟨ps, pre ++ T1.1, T1.2⟩ ⟨ps, pre ++ T2.1, T2.2⟩
  | nest (ps : List Param) (pre stay : List Dir) (body : List CEv) :
      (∀ d ∈ pre, d.ctlDef = true) → MRel ⟨ps, pre ++ stay, body⟩ ⟨ps, [], nestSubs pre stay body⟩
  | unnest (ps : List Param) (pre stay : List Dir) (body : List CEv) :
      (∀ d ∈ pre, d.ctlDef = true) → MRel ⟨ps, [], nestSubs pre stay body⟩ ⟨ps, pre ++ stay, body⟩

theorem MRel.symm {a b : Macro} (h : MRel a b) : MRel b a := by
  cases h with
  | refl => exact MRel.refl _
  | tail ps pre T1 T2 hp hb => exact MRel.tail ps pre T2 T1 hp hb.symm
  | nest ps pre stay body hp => exact MRel.unnest ps pre stay body hp
  | unnest ps pre stay body hp => exact MRel.nest ps pre stay body hp

theorem MRel.params {a b : Macro} (h : MRel a b) : a.params = b.params := by
  cases h <;> rfl

structure StRel (a b : St) : Prop where
  scopes : b.scopes = a.scopes
  data : b.data = a.data
  choice : b.choice = a.choice
  mlen : a.macros.length = b.macros.length
  macros : ∀ (i : Nat) (m m' : Macro), a.macros[i]? = some m → b.macros[i]? = some m' → MRel m m'

theorem StRel.refl (a : St) : StRel a a :=
  ⟨rfl, rfl, rfl, rfl, fun i m m' h1 h2 => by rw [h1] at h2; cases h2; exact MRel.refl _⟩

theorem StRel.symm {a b : St} (h : StRel a b) : StRel b a :=
  ⟨h.scopes.symm, h.data.symm, h.choice.symm, h.mlen.symm, fun i m m' h1 h2 => (h.macros i m' m h2 h1).symm⟩

theorem StRel.look {a b : St} (h : StRel a b) : b.look = a.look := by
  funext x; simp [St.look, h.scopes, h.data]

theorem StRel.push {a b : St} (h : StRel a b) (f : Frame) : StRel (a.push f) (b.push f) :=
  ⟨by simp [St.push, h.scopes], h.data, h.choice, h.mlen, h.macros⟩

theorem StRel.pop {a b : St} (h : StRel a b) : StRel a.pop b.pop :=
  ⟨by simp [St.pop, h.scopes], h.data, h.choice, h.mlen, h.macros⟩

theorem StRel.setTop {a b : St} (h : StRel a b) (x : Name) (v : Val) : StRel (a.setTop x v) (b.setTop x v) := by
  have hs := h.scopes
  unfold St.setTop
  rw [hs]
  cases hsc : a.scopes with
  | nil => exact h
  | cons f fs => exact ⟨rfl, h.data, h.choice, h.mlen, h.macros⟩

theorem StRel.setMatched {a b : St} (h : StRel a b) (c : Choice) (cs : List Choice) (m : Bool) :
    StRel (a.setMatched c cs m) (b.setMatched c cs m) :=
  ⟨h.scopes, h.data, rfl, h.mlen, h.macros⟩

theorem StRel.pushChoice {a b : St} (h : StRel a b) (c : Choice) :
    StRel { a with choice := c :: a.choice } { b with choice := c :: b.choice } :=
  ⟨h.scopes, h.data, by simp [h.choice], h.mlen, h.macros⟩

theorem StRel.popChoice {a b : St} (h : StRel a b) : StRel a.popChoice b.popChoice :=
  ⟨h.scopes, h.data, by simp [St.popChoice, h.choice], h.mlen, h.macros⟩

theorem StRel.define {a b : St} (h : StRel a b) (name : Name) {m m' : Macro} (hm : MRel m m') :
    StRel (a.define name m) (b.define name m') := by
  refine ⟨h.scopes, by simp [St.define, h.data, h.mlen], h.choice, by simp [St.define, h.mlen], ?_⟩
  simp only [St.define]
  exact table_snoc h.mlen h.macros hm

/-- related states answer a callee alike -/
theorem getMacro_rel {a b : St} (h : StRel a b) (v : Val) :
    (∃ e, getMacro a v = .error e ∧ getMacro b v = .error e) ∨
    ∃ m m', getMacro a v = .ok m ∧ getMacro b v = .ok m' ∧ MRel m m' := by
  cases v with
  | «macro» i =>
    simp only [getMacro]
    rcases table_get h.mlen h.macros i with ⟨h1, h2⟩ | ⟨m, m', h1, h2, hr⟩
    · rw [h1, h2]; exact .inl ⟨_, rfl, rfl⟩
    · rw [h1, h2]; exact .inr ⟨m, m', rfl, rfl, hr⟩
  | atom x => exact .inl ⟨_, rfl, rfl⟩
  | list xs => exact .inl ⟨_, rfl, rfl⟩
  | dict kv => exact .inl ⟨_, rfl, rfl⟩
  | undef => exact .inl ⟨_, rfl, rfl⟩

/-- from related states `T'` answers as `T` answers with fuel `n` -/
def Par (n : Nat) (T T' : ITask) : Prop :=
  ∀ st st', StRel st st' → ResRel StRel (run n T st) (Run T' st')

theorem Par.mono {n : Nat} {T T' : ITask} (h : Par (n + 1) T T') : Par n T T' := fun st st' hr =>
  .of_approx (run_approx n T st) (h st st' hr)

theorem loop_par {ds1 ds2 : List Dir} {b1 b2 : List CEv} (v : Name) : ∀ {n : Nat},
    Par n (.apply ds1 b1) (.apply ds2 b2) → ∀ items, Par (n + 1) (.loop v items ds1 b1) (.loop v items ds2 b2) := by
  intro n hA items
  induction items with
  | nil => intro st st' hr; simp only [run, Run_loop_nil]; exact .ok hr
  | cons item items ih =>
    intro st st' hr
    simp only [run, Run_loop_cons]
    exact .seq (hA _ _ (hr.push _)) fun _ _ _ _ _ g => ih.mono _ _ g.pop

theorem binds_par {ds1 ds2 : List Dir} {b1 b2 : List CEv} : ∀ {n : Nat},
    Par n (.apply ds1 b1) (.apply ds2 b2) → ∀ bs, Par (n + 1) (.binds bs ds1 b1) (.binds bs ds2 b2) := by
  intro n hA bs
  induction bs with
  | nil => intro st st' hr; simp only [run, Run_binds_nil]; exact hA _ _ hr
  | cons p bs ih =>
    intro st st' hr
    obtain ⟨x, e⟩ := p
    simp only [run, Run_binds_cons, hr.look]
    exact .bind _ fun v _ => ih.mono _ _ (hr.setTop x v)

/-- the same control directive or `py:def` in front of two tails that are related with less fuel
    (and give related macros when stored) -/
theorem ctl_par {n : Nat} {d : Dir} (hd : d.ctlDef = true) {ds1 ds2 : List Dir} {b1 b2 : List CEv}
    (hM : ∀ ps, MRel ⟨ps, ds1, b1⟩ ⟨ps, ds2, b2⟩) (hA : Par n (.apply ds1 b1) (.apply ds2 b2)) :
    Par (n + 1) (.apply (d :: ds1) b1) (.apply (d :: ds2) b2) := by
  intro st st' hr
  cases d with
  | def_ name params => simp only [run, Run_def]; exact .ok (hr.define name (hM params))
  | when e =>
    simp only [run, Run_when, hr.choice, hr.look]
    cases hc : st.choice with
    | nil => exact .err _ (posErr_ne_fuel _)
    | cons c cs =>
      exact .ite _ (.ok hr) (.ite _ (.err _ (posErr_ne_fuel _)) (.bind _ fun m _ => .ite _
        (hA _ _ (hr.setMatched c cs true)) (.ok (hr.setMatched c cs false))))
  | otherwise =>
    simp only [run, Run_otherwise, hr.choice]
    cases hc : st.choice with
    | nil => exact .err _ (posErr_ne_fuel _)
    | cons c cs => exact .ite _ (.ok hr) (hA _ _ (hr.setMatched c cs true))
  | for_ v e =>
    simp only [run, Run_for, hr.look]
    refine .bind _ fun _ _ => .bind _ fun items _ => ?_
    cases n with
    | zero => exact .inl rfl
    | succ n => exact loop_par v hA.mono items _ _ hr
  | if_ e =>
    simp only [run, Run_if, hr.look]
    exact .bind _ fun v _ => .ite _ (hA _ _ hr) (.ok hr)
  | choose e =>
    simp only [run, Run_choose, hr.look]
    exact .bind _ fun v _ => (hA _ _ (hr.pushChoice ⟨false, e.isSome, v⟩)).mapSt fun _ _ _ _ _ g => g.popChoice
  | with_ bs =>
    simp only [run, Run_with]
    cases n with
    | zero => exact .inl rfl
    | succ n => exact (binds_par hA.mono bs _ _ (hr.push [])).mapSt fun _ _ _ _ _ g => g.pop
  | replace x => simp [Dir.ctlDef, Dir.ctl] at hd
  | content x => simp [Dir.ctlDef, Dir.ctl] at hd
  | attrs e => simp [Dir.ctlDef, Dir.ctl] at hd
  | strip c => simp [Dir.ctlDef, Dir.ctl] at hd

/-- parametricity: every task is related to itself -/
theorem par_self {n : Nat} (hP : ∀ T, Par n T T)
    (hM : ∀ m m', MRel m m' → Par n (.apply m.dirs m.body) (.apply m'.dirs m'.body)) :
    ∀ T, Par (n + 1) T T := by
  intro T st st' hr
  cases T with
  | flat body =>
    cases body with
    | nil => simp only [run, Run_flat_nil]; exact .ok hr
    | cons e rest =>
      simp only [run, Run_flat_cons]
      exact .seq (hP _ _ _ hr) fun _ _ _ _ _ g => hP _ _ _ g
  | ev e =>
    cases e with
    | start t a => simp only [run, Run_ev_start]; exact .ok hr
    | end_ t => simp only [run, Run_ev_end]; exact .ok hr
    | text s => simp only [run, Run_ev_text]; exact .ok hr
    | xexpr x =>
      cases x with
      | pure e0 =>
        simp only [run, Run_ev_pure, hr.look]
        exact .bind _ fun _ _ => .bind _ fun _ _ => .ok hr
      | call f args =>
        simp only [run, Run_ev_call, hr.look]
        refine .bind _ fun fv _ => .bind _ fun vs _ => ?_
        rcases getMacro_rel hr fv with ⟨e, h1, h2⟩ | ⟨m, m', h1, h2, hrel⟩
        · rw [h1, h2]; exact .same e
        · rw [h1, h2]
          simp only [bind, Except.bind, ← hrel.params]
          exact .bind _ fun scope _ => (hM m m' hrel _ _ (hr.push scope)).mapSt fun _ _ _ _ _ g => g.pop
    | sub ds body => simp only [run, Run_ev_sub]; exact hP _ _ _ hr
  | apply ds body =>
    cases ds with
    | nil => simp only [run, Run_apply_nil]; exact hP _ _ _ hr
    | cons d ds =>
      by_cases hd : d.ctlDef = true
      · exact ctl_par hd (fun _ => MRel.refl _) (hP _) st st' hr
      · cases d with
        | replace x => simp only [run, Run_replace]; exact .same _
        | content x => simp only [run, Run_content]; exact .same _
        | attrs e0 =>
          rcases attrs_tail_cases ds with rfl | ⟨c, rfl⟩ | ⟨d2, ds2, rfl, h⟩
          · simp only [run, Run_attrs, hr.look]; exact .bind _ fun _ _ => hP _ _ _ hr
          · simp only [run, Run_attrs_strip, hr.look]
            exact .bind _ fun _ _ => .bind _ fun _ _ => hP _ _ _ hr
          · rw [run_attrs_more h, Run_attrs_more _ _ _ _ _ h]; exact .same _
        | strip c =>
          cases ds with
          | nil => simp only [run, Run_strip, hr.look]; exact .bind _ fun _ _ => hP _ _ _ hr
          | cons d2 ds2 => simp only [run, Run_strip_more]; exact .same _
        | _ => simp [Dir.ctlDef, Dir.ctl] at hd
  | loop v items ds body => exact loop_par v (hP _) items st st' hr
  | binds bs ds body => exact binds_par (hP _) bs st st' hr

/-- two stored forms of a macro are related -/
theorem par_macro {n : Nat} (hP : ∀ T, Par (n + 1) T T)
    (hM : ∀ m m', MRel m m' → Par n (.apply m.dirs m.body) (.apply m'.dirs m'.body)) :
    ∀ m m', MRel m m' → Par (n + 1) (.apply m.dirs m.body) (.apply m'.dirs m'.body) := by
  intro m m' h
  cases h with
  | refl => exact hP _
  | tail ps pre T1 T2 hp hb =>
    cases pre with
    | nil =>
      intro st st' hr
      cases hb with
      | repl x t a =>
        simp only [List.nil_append, Run_strip_expr]
        exact hP _ st st' hr
      | unrepl x t a =>
        simp only [List.nil_append, run_strip_expr, Run_apply_nil]
        exact (hP _).mono st st' hr
    | cons d pre =>
      have hp' : ∀ x ∈ pre, x.ctlDef = true := fun x hx => hp x (List.mem_cons_of_mem _ hx)
      exact ctl_par (hp d (List.mem_cons_self ..)) (fun ps => MRel.tail ps pre T1 T2 hp' hb)
        (hM _ _ (MRel.tail ps pre T1 T2 hp' hb))
  | nest ps pre stay body hp =>
    intro st st' hr
    cases pre with
    | nil =>
      simp only [List.nil_append, nestSubs, Run_apply_nil, Run_mkSub]
      exact hP _ st st' hr
    | cons d pre =>
      have hp' : ∀ x ∈ pre, x.ctlDef = true := fun x hx => hp x (List.mem_cons_of_mem _ hx)
      simp only [List.cons_append, nestSubs, Run_apply_nil, Run_flat_single, Run_ev_sub]
      exact ctl_par (hp d (List.mem_cons_self ..)) (fun ps => MRel.nest ps pre stay body hp')
        (hM _ _ (MRel.nest ps pre stay body hp')) st st' hr
  | unnest ps pre stay body hp =>
    intro st st' hr
    cases pre with
    | nil =>
      simp only [nestSubs, List.nil_append, run]
      unfold mkSub
      split
      · rename_i he
        have : stay = [] := by simpa using he
        subst this
        rw [Run_apply_nil]; exact (hP _).mono st st' hr
      · cases n with
        | zero => exact .inl rfl
        | succ n =>
          rw [run_flat_single]
          cases n with
          | zero => exact .inl rfl
          | succ n => simp only [run]; exact (hP _).mono.mono.mono st st' hr
    | cons d pre =>
      have hp' : ∀ x ∈ pre, x.ctlDef = true := fun x hx => hp x (List.mem_cons_of_mem _ hx)
      -- the nested form spends three units of fuel on `.apply []`, `.flat [sub]` and `.ev (.sub …)` before it reaches
      -- the directive, so the hypothesis is used three units lower (`mono`)
      rcases n with _ | _ | _ | n
      · exact .inl rfl
      · exact .inl rfl
      · exact .inl rfl
      · simp only [nestSubs, run, run_flat_single]
        exact ctl_par (hp d (List.mem_cons_self ..)) (fun ps => MRel.unnest ps pre stay body hp')
          (hM _ _ (MRel.unnest ps pre stay body hp')).mono.mono.mono st st' hr

theorem par_all : ∀ n, (∀ T, Par n T T) ∧
    ∀ m m', MRel m m' → Par n (.apply m.dirs m.body) (.apply m'.dirs m'.body) := by
  intro n
  induction n with
  | zero => exact ⟨fun _ _ _ _ => .inl rfl, fun _ _ _ _ _ _ => .inl rfl⟩
  | succ n ih =>
    have hP := par_self ih.1 ih.2
    exact ⟨hP, par_macro hP ih.2⟩

/-- **Parametricity.**  Related states (equal up to the stored form of macros) are
    indistinguishable: every task renders the same output from them and ends in related states. -/
theorem param {T : ITask} {st st' s1 : St} {o : List Event} (h : IOk T st o s1) (hr : StRel st st') :
    ∃ s1', IOk T st' o s1' ∧ StRel s1 s1' := by
  obtain ⟨n, h⟩ := h
  obtain ⟨s1', h1, g⟩ := ((par_all n).1 T st st' hr).of_ok h
  exact ⟨s1', IOk_iff_Run.2 h1, g⟩

theorem param_macro {m m' : Macro} (hm : MRel m m') {st st' s1 : St} {o : List Event}
    (h : IOk (.apply m.dirs m.body) st o s1) (hr : StRel st st') :
    ∃ s1', IOk (.apply m'.dirs m'.body) st' o s1' ∧ StRel s1 s1' := by
  obtain ⟨n, h⟩ := h
  obtain ⟨s1', h1, g⟩ := ((par_all n).2 m m' hm st st' hr).of_ok h
  exact ⟨s1', IOk_iff_Run.2 h1, g⟩

theorem nest_of_chain {pre stay : List Dir} {body : List CEv} {st st' s1 : St} {o : List Event}
    (hp : ∀ d ∈ pre, d.ctlDef = true) (h : IOk (.apply (pre ++ stay) body) st o s1) (hr : StRel st st') :
    ∃ s1', IOk (.flat (nestSubs pre stay body)) st' o s1' ∧ StRel s1 s1' := by
  obtain ⟨s1', r, g⟩ := param_macro (MRel.nest [] pre stay body hp) h hr
  exact ⟨s1', IOk.apply_nil_iff.1 r, g⟩

theorem chain_of_nest {pre stay : List Dir} {body : List CEv} {st st' s1 : St} {o : List Event}
    (hp : ∀ d ∈ pre, d.ctlDef = true) (h : IOk (.flat (nestSubs pre stay body)) st o s1) (hr : StRel st st') :
    ∃ s1', IOk (.apply (pre ++ stay) body) st' o s1' ∧ StRel s1 s1' :=
  param_macro (MRel.unnest [] pre stay body hp) (IOk.apply_nil_iff.2 h) hr

/-- same control/def prefix, `py:replace` tail vs `py:content` + `py:strip` tail -/
theorem tail_pair {pre : List Dir} {T1 T2 : List Dir × List CEv} {st st' s1 : St} {o : List Event}
    (hp : ∀ d ∈ pre, d.ctlDef = true) (hb : BasePair T1 T2) (h : IOk (.apply (pre ++ T1.1) T1.2) st o s1)
    (hr : StRel st st') : ∃ s1', IOk (.apply (pre ++ T2.1) T2.2) st' o s1' ∧ StRel s1 s1' :=
  param_macro (MRel.tail [] pre T1 T2 hp hb) h hr

theorem compile_nestNodes (pre : List Dir) (hpre : ∀ d ∈ pre, d.ctlDef = true) (inner : TNode)
    (ds : List Dir) (b : List CEv) (hin : compileNode inner = mkSub ds b) :
    compileNode (nestNodes pre inner) = nestSubs pre ds b := by
  induction pre with
  | nil => simpa [nestNodes, nestSubs] using hin
  | cons d pre ih =>
    have ih' := ih (fun x hx => hpre x (List.mem_cons_of_mem _ hx))
    simp only [nestNodes, compileNode, compileNodes, List.append_nil, nestSubs]
    rw [attach_keep (Dir.ctlDef_kept (hpre d (List.mem_cons_self ..)))]
    simp [attach, mkSub, ih']

/-- an element whose directives stand in the processing order: the SUB after `attach` -/
theorem compile_elem_sorted (tag : Name) (attrs : List (Name × Str)) {ds : List Dir} (kids : List TNode)
    (hs : StrictSorted ds) : compileNode (.elem tag attrs ds kids) =
      mkSub (attach ds (targetBody (.elem tag attrs kids))).1 (attach ds (targetBody (.elem tag attrs kids))).2 := by
  simp only [compileNode, sortBy_implIdx_of_sorted ds hs, targetBody]

/-- … beginning with control directives and `py:def`: these stand in front of what `attach` leaves of the others -/
theorem compile_elem_prefix {pre tl : List Dir} (hpre : ∀ d ∈ pre, d.ctlDef = true) (hs : StrictSorted (pre ++ tl))
    (tag : Name) (attrs : List (Name × Str)) (kids : List TNode) :
    compileNode (.elem tag attrs (pre ++ tl) kids) =
      mkSub (pre ++ (attach tl (targetBody (.elem tag attrs kids))).1)
        (attach tl (targetBody (.elem tag attrs kids))).2 := by
  rw [compile_elem_sorted tag attrs kids hs, attach_ctlDef_prefix pre hpre]

/-- control directives and `py:def` as nested directive elements around the element that keeps `stay`, and all
    of them as attributes: the same directives and sub-stream, nested in the one form, chained in the other -/
theorem compile_nest_elem {pre stay : List Dir} (hpre : ∀ d ∈ pre, d.ctlDef = true) (hs : StrictSorted (pre ++ stay))
    (tag : Name) (attrs : List (Name × Str)) (kids : List TNode) :
    ∃ ds b, compileNode (nestNodes pre (.elem tag attrs stay kids)) = nestSubs pre ds b ∧
      compileNode (.elem tag attrs (pre ++ stay) kids) = mkSub (pre ++ ds) b :=
  ⟨_, _, compile_nestNodes pre hpre _ _ _ (compile_elem_sorted tag attrs kids hs.suffix),
   compile_elem_prefix hpre hs tag attrs kids⟩

end Genshi.Tmpl
