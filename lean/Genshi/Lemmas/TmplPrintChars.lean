/-
  C04 — the characters of printed expressions and directive values (`Model/TmplPrint.lean`):
  every token laid out for an AST that satisfies the side condition is a token of the tokenizer;
  the printed source of `${…}` is in the domain of the C03 lexer theorem (`Scannable`), non-empty,
  without blanks at its ends; no character of a printed source can start or end a delimiter or an
  escape; a directive value has no `\s` character at its ends.
-/
import Genshi.Lemmas.TmplReadLex
import Genshi.Lemmas.TmplReadToks
import Genshi.Model.SanChars
namespace Genshi.Tmpl.Print
open Genshi.Tmpl.Raw
open Genshi.Py.Lex (Scannable StrBody plainChar isWord stripAscii)

/-- the symbols of the mini language without the braces -/
def flatSyms : List Char := ['(', ')', '[', ']', ',', ':', ';', '-', '=']

/-- a character a token source can begin or end with -/
def edgeCh (c : Char) : Bool :=
  isIdChar c || c == '\'' || ['(', ')', '[', ']', '{', '}', ',', ':', ';', '-', '='].contains c

/-- a character that cannot start / end a delimiter or an escape -/
def okCh (c : Char) : Bool := c != '\\' && c != '%' && c != '#' && c != '\n'

/-- the class `stripAscii` removes -/
def stripCls (c : Char) : Bool :=
  c = ' ' || c = '\t' || c = '\n' || c = '\r' || c = '\x0b' || c = '\x0c'
    || c = '\x1c' || c = '\x1d' || c = '\x1e' || c = '\x1f' || c = '\u0085' || c = '\u00a0'

theorem val_range {c : Char} {a b : UInt32} (h : a ≤ c.val ∧ c.val ≤ b) (ha : 33 ≤ a.toNat) (hb : b.toNat ≤ 126) :
    33 ≤ c.toNat ∧ c.toNat ≤ 126 := by
  have h1 := UInt32.le_iff_toNat_le.mp h.1
  have h2 := UInt32.le_iff_toNat_le.mp h.2
  show 33 ≤ c.val.toNat ∧ c.val.toNat ≤ 126
  omega

theorem idChar_range {c : Char} (h : isIdChar c = true) : 33 ≤ c.toNat ∧ c.toNat ≤ 126 := by
  simp [isIdChar, isIdStart, isDigit, Char.le_def] at h
  rcases h with ((h | h) | rfl) | h
  · exact val_range h (by decide) (by decide)
  · exact val_range h (by decide) (by decide)
  · decide
  · exact val_range h (by decide) (by decide)

theorem sym_cases {c : Char} (h : ['(', ')', '[', ']', '{', '}', ',', ':', ';', '-', '='].contains c = true) :
    c = '(' ∨ c = ')' ∨ c = '[' ∨ c = ']' ∨ c = '{' ∨ c = '}' ∨ c = ',' ∨ c = ':' ∨ c = ';' ∨ c = '-' ∨ c = '=' := by
  simpa only [List.contains_cons, List.contains_nil, Bool.or_false, Bool.or_eq_true, beq_iff_eq] using h

theorem flatSym_cases {c : Char} (h : flatSyms.contains c = true) :
    c = '(' ∨ c = ')' ∨ c = '[' ∨ c = ']' ∨ c = ',' ∨ c = ':' ∨ c = ';' ∨ c = '-' ∨ c = '=' := by
  simpa only [flatSyms, List.contains_cons, List.contains_nil, Bool.or_false, Bool.or_eq_true, beq_iff_eq] using h

theorem edgeCh_range {c : Char} (h : edgeCh c = true) : 33 ≤ c.toNat ∧ c.toNat ≤ 126 := by
  simp only [edgeCh, Bool.or_eq_true, beq_iff_eq] at h
  rcases h with (h | rfl) | h
  · exact idChar_range h
  · decide
  · rcases sym_cases h with rfl | rfl | rfl | rfl | rfl | rfl | rfl | rfl | rfl | rfl | rfl <;> decide

theorem ascii_not_reSpace {c : Char} (h : 33 ≤ c.toNat ∧ c.toNat ≤ 126) : Genshi.San.isReSpace c = false := by
  simp [Genshi.San.isReSpace, Genshi.San.inRanges, Genshi.Gen.SanClass.reSpaceRanges]
  omega

/-- `str.isspace` and `\s` of `re`: the generated tables are the same -/
theorem isSpace_eq_isReSpace (c : Char) : Genshi.San.isSpace c = Genshi.San.isReSpace c := rfl

theorem edgeCh_not_reSpace {c : Char} (h : edgeCh c = true) : Genshi.San.isReSpace c = false :=
  ascii_not_reSpace (edgeCh_range h)

theorem stripCls_not_edge {c : Char} (h : stripCls c = true) : edgeCh c = false := by
  simp only [stripCls, Bool.or_eq_true, decide_eq_true_eq] at h
  rcases h with ((((((((((rfl | rfl) | rfl) | rfl) | rfl) | rfl) | rfl) | rfl) | rfl) | rfl) | rfl) | rfl <;> decide

theorem edgeCh_not_strip {c : Char} (h : edgeCh c = true) : stripCls c = false := by
  cases hs : stripCls c with
  | false => rfl
  | true => rw [stripCls_not_edge hs] at h; cases h

theorem idChar_okCh {c : Char} (h : isIdChar c = true) : okCh c = true := by
  have ne := Genshi.Py.Lex.ne_of_class h
  simp [okCh, ne '\\' (by decide), ne '%' (by decide), ne '#' (by decide), ne '\n' (by decide)]

theorem strCh_okCh {c : Char} (h : strCh c = true) : okCh c = true := by
  simp only [strCh, okCh, Bool.and_eq_true] at h ⊢
  exact ⟨⟨⟨h.1.1.1.1, h.1.2⟩, h.2⟩, h.1.1.2⟩

/-- a token the tokenizer can produce, other than a brace, whose string literal holds nothing that
    could end a directive -/
def tokFlat : MTok → Bool
  | .name s => tokOk (.name s)
  | .int _ => true
  | .str s => s.all strCh
  | .sym c => flatSyms.contains c
  | .eqeq => true

/-- `tokFlat` or a brace -/
def tokFine : MTok → Bool
  | .name s => tokOk (.name s)
  | .int _ => true
  | .str s => s.all strCh
  | .sym c => ['(', ')', '[', ']', '{', '}', ',', ':', ';', '-', '='].contains c
  | .eqeq => true

theorem tokFlat_fine {t : MTok} (h : tokFlat t = true) : tokFine t = true := by
  cases t with
  | sym c => rcases flatSym_cases h with rfl | rfl | rfl | rfl | rfl | rfl | rfl | rfl | rfl <;> decide
  | _ => exact h

theorem tokFine_ok {t : MTok} (h : tokFine t = true) : tokOk t = true := by
  cases t with
  | str s =>
    simp only [tokFine, tokOk, List.all_eq_true] at h ⊢
    intro c hc
    have := h c hc
    simp only [strCh, Bool.and_eq_true] at this
    simp [this.1.1.1.1, this.1.1.1.2, this.1.1.2]
  | _ => exact h

theorem all_fine_ok {ts : List MTok} (h : ts.all tokFine = true) : ts.all tokOk = true := by
  simp only [List.all_eq_true] at h ⊢
  exact fun t ht => tokFine_ok (h t ht)

theorem all_flat_fine {ts : List MTok} (h : ts.all tokFlat = true) : ts.all tokFine = true := by
  simp only [List.all_eq_true] at h ⊢
  exact fun t ht => tokFlat_fine (h t ht)

theorem name_chars {s : Str} (h : tokOk (.name s) = true) : s ≠ [] ∧ ∀ c ∈ s, isIdChar c = true := by
  cases s with
  | nil => simp [tokOk] at h
  | cons c r =>
    simp only [tokOk, Bool.and_eq_true, List.all_eq_true] at h
    refine ⟨by simp, ?_⟩
    intro d hd
    rcases List.mem_cons.mp hd with rfl | hd
    · exact idStart_idChar h.1
    · exact h.2 d hd

theorem natStr_chars (n : Nat) : natStr n ≠ [] ∧ ∀ c ∈ natStr n, isIdChar c = true :=
  ⟨Nat.toDigits_ne_nil, fun c hc => digit_idChar (natStr_digits n c hc)⟩

theorem idChar_edge {c : Char} (h : isIdChar c = true) : edgeCh c = true := by simp [edgeCh, h]

theorem edgeCh_okCh {c : Char} (h : edgeCh c = true) : okCh c = true := by
  simp only [edgeCh, Bool.or_eq_true, beq_iff_eq] at h
  rcases h with (h | rfl) | h
  · exact idChar_okCh h
  · decide
  · rcases sym_cases h with rfl | rfl | rfl | rfl | rfl | rfl | rfl | rfl | rfl | rfl | rfl <;> decide

/-- what the outer stages (scanner, `_escape_re`, `lex`, `strip`) need of a printed source: it begins and
    ends with a character a token can begin or end with, and no character of it could start or end a
    delimiter, an escape or a line -/
structure Src (s : Str) : Prop where
  head : ∀ c, s.head? = some c → edgeCh c = true
  last : ∀ c, s.getLast? = some c → edgeCh c = true
  ok : ∀ c ∈ s, okCh c = true

theorem Src.of_edge {s : Str} (h : ∀ c ∈ s, edgeCh c = true) : Src s :=
  ⟨fun c hc => h c (List.mem_of_head? hc), fun c hc => h c (List.mem_of_getLast? hc),
    fun c hc => edgeCh_okCh (h c hc)⟩

/-- two sources, glued or with one blank between them -/
theorem Src.join {a b j : Str} (ha : Src a) (hb : Src b) (hane : a ≠ []) (hbne : b ≠ [])
    (hj : j = [] ∨ j = [' ']) : Src (a ++ (j ++ b)) where
  head c hc := by
    obtain ⟨x, a', rfl⟩ := List.exists_cons_of_ne_nil hane
    exact ha.head c hc
  last c hc := by
    rw [getLast?_append_ne (by simp [hbne]), getLast?_append_ne hbne] at hc
    exact hb.last c hc
  ok c hc := by
    simp only [List.mem_append] at hc
    rcases hc with hc | hc | hc
    · exact ha.ok c hc
    · rcases hj with rfl | rfl
      · cases hc
      · rw [List.mem_singleton.mp hc]; decide
    · exact hb.ok c hc

theorem tokSrc_src {t : MTok} (h : tokFine t = true) : Src (tokSrc t) := by
  cases t with
  | name s => exact .of_edge fun c hc => idChar_edge ((name_chars h).2 c hc)
  | int n => exact .of_edge fun c hc => idChar_edge ((natStr_chars n).2 c hc)
  | str s =>
    refine ⟨fun c hc => ?_, fun c hc => ?_, fun c hc => ?_⟩
    · cases hc; decide
    · rw [tokSrc, ← List.cons_append, getLast?_append_ne (by simp)] at hc
      cases hc; decide
    · simp only [tokFine, List.all_eq_true] at h
      simp only [tokSrc, List.mem_cons, List.mem_append, List.not_mem_nil, or_false] at hc
      rcases hc with rfl | hc | rfl
      · decide
      · exact strCh_okCh (h c hc)
      · decide
  | sym c => exact .of_edge fun d hd => by rw [List.mem_singleton.mp hd]; exact Bool.or_eq_true_iff.mpr (.inr h)
  | eqeq => exact .of_edge (by decide)

/-- what `toksSrc` writes between the token lists `a` and `b` -/
def junc (a b : List MTok) : Str :=
  match a.getLast?, b.head? with
  | some x, some y => if sep x y then [' '] else []
  | _, _ => []

theorem junc_cases (a b : List MTok) : junc a b = [] ∨ junc a b = [' '] := by
  unfold junc
  split
  · split <;> simp
  · simp

theorem toksSrc_append : ∀ (a b : List MTok), toksSrc (a ++ b) = toksSrc a ++ (junc a b ++ toksSrc b)
  | [], b => by simp [toksSrc, junc]
  | [t], [] => by simp [toksSrc, junc]
  | [t], y :: b => by simp [toksSrc, junc]
  | t :: u :: r, b => by
      have ih := toksSrc_append (u :: r) b
      have hj : junc (t :: u :: r) b = junc (u :: r) b := by simp [junc, List.getLast?_cons_cons]
      simp only [List.cons_append] at ih ⊢
      rw [hj]
      show tokSrc t ++ ((if sep t u then [' '] else []) ++ toksSrc (u :: (r ++ b)))
        = (tokSrc t ++ ((if sep t u then [' '] else []) ++ toksSrc (u :: r))) ++ (junc (u :: r) b ++ toksSrc b)
      rw [ih]
      simp only [List.append_assoc]

theorem toksSrc_cons (t : MTok) (r : List MTok) : toksSrc (t :: r) = tokSrc t ++ (junc [t] r ++ toksSrc r) :=
  toksSrc_append [t] r

theorem toksSrc_ne_nil {ts : List MTok} (hne : ts ≠ []) (h : ts.all tokFine = true) : toksSrc ts ≠ [] := by
  cases ts with
  | nil => exact absurd rfl hne
  | cons t r =>
    simp only [List.all_cons, Bool.and_eq_true] at h
    rw [toksSrc_cons]
    have := tokSrc_ne_nil (tokFine_ok h.1)
    simp [this]

theorem toksSrc_src : ∀ (ts : List MTok), ts.all tokFine = true → Src (toksSrc ts)
  | [], _ => ⟨nofun, nofun, nofun⟩
  | [t], h => tokSrc_src (by simpa using h)
  | t :: u :: r, h => by
      simp only [List.all_cons, Bool.and_eq_true] at h
      have h' : (u :: r).all tokFine = true := by simp [h.2]
      rw [toksSrc_cons]
      exact (tokSrc_src h.1).join (toksSrc_src (u :: r) h') (tokSrc_ne_nil (tokFine_ok h.1)) (toksSrc_ne_nil (by simp) h')
        (junc_cases _ _)

/-- token lists of `tokFlat` tokens and balanced braces -/
inductive Bal : List MTok → Prop where
  | nil : Bal []
  | tok (t : MTok) (r : List MTok) : tokFlat t = true → Bal r → Bal (t :: r)
  | braces (inner r : List MTok) : Bal inner → Bal r → Bal (.sym '{' :: (inner ++ .sym '}' :: r))

theorem Bal.append {a b : List MTok} (ha : Bal a) (hb : Bal b) : Bal (a ++ b) := by
  induction ha with
  | nil => exact hb
  | tok t r ht _ ih => exact Bal.tok t _ ht ih
  | braces inner r hi _ _ ih =>
    have := Bal.braces inner _ hi ih
    simpa [List.append_assoc] using this

theorem Bal.of_flat : ∀ {ts : List MTok}, ts.all tokFlat = true → Bal ts
  | [], _ => Bal.nil
  | t :: r, h => by
      simp only [List.all_cons, Bool.and_eq_true] at h
      exact Bal.tok t r h.1 (Bal.of_flat h.2)

theorem IsSep.bal {α : Type} {c : Char} {f : α → List MTok} {g : List α → List MTok} (h : IsSep c f g)
    (hc : tokFlat (.sym c) = true) : ∀ l : List α, (∀ a ∈ l, Bal (f a)) → Bal (g l)
  | [], _ => h.1 ▸ Bal.nil
  | [a], hl => by rw [h.2.1]; exact hl a (List.mem_cons_self ..)
  | a :: b :: r, hl => by
      rw [h.2.2]
      exact Bal.append (hl a (List.mem_cons_self ..))
        (Bal.tok _ _ hc (h.bal hc (b :: r) fun x hx => hl x (List.mem_cons_of_mem _ hx)))

theorem Bal.fine {ts : List MTok} (h : Bal ts) : ts.all tokFine = true := by
  induction h with
  | nil => rfl
  | tok t r ht _ ih => simp [tokFlat_fine ht, ih]
  | braces inner r _ _ ih1 ih2 =>
    have h1 : tokFine (.sym '{') = true := by decide
    have h2 : tokFine (.sym '}') = true := by decide
    simp [h1, h2, ih1, ih2]

theorem scannable_words : ∀ (s : List Char) (r : List Char), (∀ c ∈ s, isIdChar c = true) → Scannable r →
    Scannable (s ++ r)
  | [], _, _, hr => hr
  | c :: s, r, h, hr =>
      Scannable.word c (s ++ r) (h c (by simp))
        (scannable_words s r (fun d hd => h d (by simp [hd])) hr)

theorem strBody_of_strCh : ∀ (s : List Char), s.all strCh = true → StrBody '\'' s
  | [], _ => StrBody.nil
  | c :: s, h => by
      simp only [List.all_cons, Bool.and_eq_true] at h
      have hc := h.1
      simp only [strCh, Bool.and_eq_true, bne_iff_ne, ne_eq] at hc
      exact StrBody.char c s hc.1.1.1.2 hc.1.1.2 hc.1.1.1.1 (strBody_of_strCh s h.2)

theorem scannable_tok {t : MTok} (h : tokFlat t = true) {r : List Char} (hr : Scannable r) :
    Scannable (tokSrc t ++ r) := by
  cases t with
  | name s => exact scannable_words s r (name_chars h).2 hr
  | int n => exact scannable_words _ r (natStr_chars n).2 hr
  | str s =>
    have : tokSrc (.str s) ++ r = '\'' :: (s ++ '\'' :: r) := by simp [tokSrc]
    rw [this]
    exact Scannable.str '\'' s r (Or.inl rfl) (strBody_of_strCh s h) hr
  | sym c =>
    refine Scannable.plain c r ?_ hr
    rcases flatSym_cases h with rfl | rfl | rfl | rfl | rfl | rfl | rfl | rfl | rfl <;> decide
  | eqeq => exact Scannable.plain '=' _ (by decide) (Scannable.plain '=' _ (by decide) hr)

theorem scannable_junc (a b : List MTok) {r : List Char} (hr : Scannable r) : Scannable (junc a b ++ r) := by
  rcases junc_cases a b with e | e <;> rw [e]
  · exact hr
  · exact Scannable.plain ' ' r (by decide) hr

theorem Bal.scannable {ts : List MTok} (h : Bal ts) : ∀ {r : List Char}, Scannable r → Scannable (toksSrc ts ++ r) := by
  induction h with
  | nil => intro r hr; exact hr
  | tok t ts ht _ ih =>
    intro r hr
    rw [toksSrc_cons]
    simp only [List.append_assoc]
    exact scannable_tok ht (scannable_junc _ _ (ih hr))
  | braces inner ts _ _ ih1 ih2 =>
    intro r hr
    have e : toksSrc (.sym '{' :: (inner ++ .sym '}' :: ts)) ++ r
        = '{' :: ((junc [.sym '{'] (inner ++ .sym '}' :: ts) ++ (toksSrc inner ++ junc inner (.sym '}' :: ts)))
            ++ '}' :: (junc [.sym '}'] ts ++ (toksSrc ts ++ r))) := by
      rw [toksSrc_cons, toksSrc_append, toksSrc_cons]
      simp [tokSrc, List.append_assoc]
    rw [e]
    refine Scannable.braces _ _ ?_ (scannable_junc _ _ (ih2 hr))
    have := scannable_junc [.sym '{'] (inner ++ .sym '}' :: ts)
      (ih1 (scannable_junc inner (.sym '}' :: ts) Scannable.nil))
    simpa [List.append_assoc] using this

theorem nameOk_flat {n : Name} (h : nameOk n = true) : tokFlat (.name n) = true := by
  cases n with
  | nil => simp [nameOk] at h
  | cons c r =>
    simp only [nameOk, Bool.and_eq_true] at h
    simp only [tokFlat, tokOk, Bool.and_eq_true]
    exact h.1

theorem flat_sym {c : Char} (h : flatSyms.contains c = true) : tokFlat (.sym c) = true := h

theorem atomToks_flat (a : Atom) (h : atomOk a = true) : (atomToks a).all tokFlat = true := by
  cases a with
  | none => decide
  | bool b => cases b <;> decide
  | int i => cases i <;> simp [atomToks, tokFlat, flatSyms]
  | str s => simpa [atomToks, tokFlat, atomOk, strOk] using h

theorem exprToks_bal (st : Bool) : ∀ (e : Expr), exprOk st e = true → Bal (exprToks e) := by
  apply exprOk_induction
  case name => intro n hn; rw [exprToks_mkVar]; exact .tok _ _ (nameOk_flat hn) .nil
  case atom => exact fun a h => .of_flat (atomToks_flat a h)
  case list =>
    intro xs h
    exact .tok _ _ (by decide) (.append
      (atomsToks_sep.bal (by decide) xs fun a ha => .of_flat (atomToks_flat a (List.all_eq_true.mp h a ha)))
      (.of_flat (by decide)))
  case dict =>
    intro kv h
    refine .braces (pairsToks kv) [] (pairsToks_sep.bal (by decide) kv fun p hp => ?_) .nil
    have hp := List.all_eq_true.mp h p hp
    simp only [Bool.and_eq_true] at hp
    exact .tok _ _ hp.1 (.tok _ _ (by decide) (.of_flat (atomToks_flat p.2 hp.2)))
  case eq =>
    intro a b _ _ iha ihb
    exact .tok _ _ (by decide) (.append iha (.tok _ _ (by decide) (.append ihb (.of_flat (by decide)))))
  case not => exact fun a _ iha => .tok _ _ (by decide) (.tok _ _ (by decide) (.append iha (.of_flat (by decide))))
  case len => exact fun a _ iha => .tok _ _ (by decide) (.tok _ _ (by decide) (.append iha (.of_flat (by decide))))
  case ix =>
    intro a i _ _ iha ihi
    rw [exprToks_mkIx]
    exact .append iha (.tok _ _ (by decide) (.append ihi (.of_flat (by decide))))

theorem exprToks_ne_nil (st : Bool) (e : Expr) (h : exprOk st e = true) : exprToks e ≠ [] := by
  obtain ⟨t, ts, ht, _⟩ := exprToks_head h
  simp [ht]

theorem argToks_bal (st : Bool) (a : Arg) (h : argOk st a = true) : Bal (argToks a) := by
  obtain ⟨k, e⟩ := a
  cases k with
  | none => exact exprToks_bal st e h
  | some k =>
    simp only [argOk, Bool.and_eq_true] at h
    simp only [argToks]
    exact Bal.tok _ _ (nameOk_flat h.1) (Bal.tok _ _ (by decide) (exprToks_bal st e h.2))

theorem argsToks_bal (st : Bool) (args : List Arg) (h : args.all (argOk st) = true) : Bal (argsToks args) :=
  argsToks_sep.bal (by decide) args fun a ha => argToks_bal st a (List.all_eq_true.mp h a ha)

theorem xexprToks_bal (st : Bool) : ∀ (x : XExpr), xexprOk st x = true → Bal (xexprToks x) := by
  apply xexprOk_cases
  case pure => exact exprToks_bal st
  case call =>
    intro f args hf h
    simp only [argsOk, Bool.and_eq_true] at h
    simp only [xexprToks, exprToks_mkVar]
    exact .tok _ _ (nameOk_flat hf) (.tok _ _ (by decide) (.append (argsToks_bal st args h.1) (.of_flat (by decide))))

theorem xexprToks_ne_nil (st : Bool) : ∀ (x : XExpr), xexprOk st x = true → xexprToks x ≠ [] := by
  apply xexprOk_cases
  case pure => exact exprToks_ne_nil st
  case call => intros; simp [xexprToks]

theorem paramToks_bal (st : Bool) (p : Param) (h : paramOk st p = true) : Bal (paramToks p) := by
  obtain ⟨n, o⟩ := p
  cases o with
  | none => exact Bal.tok _ _ (nameOk_flat h) Bal.nil
  | some e =>
    simp only [paramOk, Bool.and_eq_true] at h
    simp only [paramToks]
    exact Bal.tok _ _ (nameOk_flat h.1) (Bal.tok _ _ (by decide) (exprToks_bal st e h.2))

theorem optToks_bal (st : Bool) (o : Option Expr) (h : optOk st o = true) : Bal (optToks o) := by
  cases o with
  | none => exact Bal.nil
  | some e => exact exprToks_bal st e h

theorem dirToks_bal (st : Bool) (d : Dir) (h : dirOk st d = true) : Bal (dirToks d) := by
  cases d with
  | def_ f ps =>
    simp only [dirOk, Bool.and_eq_true] at h
    cases ps with
    | nil => exact Bal.tok _ _ (nameOk_flat h.1.1) Bal.nil
    | cons p ps =>
      simp only [dirToks]
      exact Bal.tok _ _ (nameOk_flat h.1.1) (Bal.tok _ _ (by decide)
        (Bal.append (paramsToks_sep.bal (by decide) _ fun q hq => paramToks_bal st q (List.all_eq_true.mp h.1.2 q hq))
          (Bal.of_flat (by decide))))
  | when e => exact optToks_bal st e h
  | otherwise => exact Bal.nil
  | for_ v e =>
    simp only [dirOk, Bool.and_eq_true] at h
    simp only [dirToks]
    exact Bal.tok _ _ (nameOk_flat h.1) (Bal.tok _ _ (by decide) (exprToks_bal st e h.2))
  | if_ e => exact exprToks_bal st e h
  | choose e => exact optToks_bal st e h
  | with_ bs =>
    simp only [dirOk, Bool.and_eq_true] at h
    refine bindsToks_sep.bal (by decide) bs fun p hp => ?_
    have hp := List.all_eq_true.mp h.2 p hp
    simp only [Bool.and_eq_true] at hp
    exact Bal.tok _ _ (nameOk_flat hp.1) (Bal.tok _ _ (by decide) (exprToks_bal st p.2 hp.2))
  | _ => simp [dirOk] at h

theorem xexprToks_ok (st : Bool) (x : XExpr) (h : xexprOk st x = true) : (xexprToks x).all tokOk = true :=
  all_fine_ok (xexprToks_bal st x h).fine

theorem dirToks_ok (st : Bool) (d : Dir) (h : dirOk st d = true) : (dirToks d).all tokOk = true :=
  all_fine_ok (dirToks_bal st d h).fine

/-- the printed source of `${…}` is in the domain of the C03 lexer theorem (`Py.Lex.lex_expr`) -/
theorem xexprSrc_scannable (st : Bool) (x : XExpr) (h : xexprOk st x = true) :
    Genshi.Py.Lex.Scannable (xexprSrc x) := by
  have := (xexprToks_bal st x h).scannable Scannable.nil
  simpa [xexprSrc] using this

theorem xexprSrc_ne_nil (st : Bool) (x : XExpr) (h : xexprOk st x = true) : xexprSrc x ≠ [] :=
  toksSrc_ne_nil (xexprToks_ne_nil st x h) (xexprToks_bal st x h).fine

theorem stripAscii_id {s : List Char} (hh : ∀ c, s.head? = some c → stripCls c = false)
    (hl : ∀ c, s.getLast? = some c → stripCls c = false) : stripAscii s = s := by
  have drop : ∀ t : List Char, (∀ c, t.head? = some c → stripCls c = false) → t.dropWhile stripCls = t := by
    intro t ht
    cases t with
    | nil => rfl
    | cons c r => simp [ht c rfl]
  show ((s.dropWhile stripCls).reverse.dropWhile stripCls).reverse = s
  rw [drop s hh, drop s.reverse (by rw [List.head?_reverse]; exact hl), List.reverse_reverse]

theorem xexprSrc_src (st : Bool) (x : XExpr) (h : xexprOk st x = true) : Src (xexprSrc x) :=
  toksSrc_src _ (xexprToks_bal st x h).fine

theorem dirSrc_src (st : Bool) (d : Dir) (h : dirOk st d = true) : Src (dirSrc d) :=
  toksSrc_src _ (dirToks_bal st d h).fine

theorem xexprSrc_strip (st : Bool) (x : XExpr) (h : xexprOk st x = true) :
    Genshi.Py.Lex.stripAscii (xexprSrc x) = xexprSrc x :=
  stripAscii_id (fun c hc => edgeCh_not_strip ((xexprSrc_src st x h).head c hc))
    (fun c hc => edgeCh_not_strip ((xexprSrc_src st x h).last c hc))

theorem okCh_spec {c : Char} (h : okCh c = true) : c ≠ '\\' ∧ c ≠ '%' ∧ c ≠ '#' ∧ c ≠ '\n' := by
  simp only [okCh, Bool.and_eq_true, bne_iff_ne, ne_eq] at h
  exact ⟨h.1.1.1, h.1.1.2, h.1.2, h.2⟩

/-- no character of the printed source of `${…}` could start a delimiter or an escape -/
theorem xexprSrc_chars (st : Bool) (x : XExpr) (h : xexprOk st x = true) :
    ∀ c ∈ xexprSrc x, c ≠ '\\' ∧ c ≠ '%' ∧ c ≠ '#' := by
  intro c hc
  have := okCh_spec ((xexprSrc_src st x h).ok c hc)
  exact ⟨this.1, this.2.1, this.2.2.1⟩

theorem xexprSrc_no_nl (st : Bool) (x : XExpr) (h : xexprOk st x = true) : ∀ c ∈ xexprSrc x, c ≠ '\n' :=
  fun c hc => (okCh_spec ((xexprSrc_src st x h).ok c hc)).2.2.2

/-- no character of a printed directive value could start / end a delimiter, an escape or the line -/
theorem dirSrc_chars (st : Bool) (d : Dir) (h : dirOk st d = true) :
    ∀ c ∈ dirSrc d, c ≠ '\\' ∧ c ≠ '%' ∧ c ≠ '#' ∧ c ≠ '\n' :=
  fun c hc => okCh_spec ((dirSrc_src st d h).ok c hc)

theorem dirSrc_head (st : Bool) (d : Dir) (h : dirOk st d = true) :
    ∀ c, (dirSrc d).head? = some c → Genshi.San.isReSpace c = false :=
  fun c hc => edgeCh_not_reSpace ((dirSrc_src st d h).head c hc)

theorem dirSrc_last (st : Bool) (d : Dir) (h : dirOk st d = true) :
    ∀ c, (dirSrc d).getLast? = some c → Genshi.San.isReSpace c = false :=
  fun c hc => edgeCh_not_reSpace ((dirSrc_src st d h).last c hc)

theorem dirSrc_scannable (st : Bool) (d : Dir) (h : dirOk st d = true) : Genshi.Py.Lex.Scannable (dirSrc d) := by
  have := (dirToks_bal st d h).scannable Scannable.nil
  simpa [dirSrc] using this

end Genshi.Tmpl.Print
