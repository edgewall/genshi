/-
  C04 — the commuting lemma "raw loop = `textParse` after reading".

  `Scan.parseNew` runs the token loop of `NewTextTemplate._parse` over raw (command, value)
  pairs and builds a stream of `SEv`; `rawToks` reads the same raw tokens into `TTok`s (reader of
  the mini expression language, `readXExpr` / `readDir`) and `textParse` runs the loop over those.
  Whenever the source can be read, the stream `parseNew` builds, read event by event (`ReadEvs`),
  IS the stream `textParse` builds: a simulation between the two loops (`Rel`).
-/
import Genshi.Model.TmplRaw
import Genshi.Lemmas.ListBasics
namespace Genshi.Tmpl.Raw
open Genshi.Tmpl.Scan (SEv PErr RTok)
open Genshi.Gen.Directives (newTextDirectives)

/-- the parsed stream of a text template read event by event: text stays, the source of `${…}`
    is read by `readXExpr`, a SUB event `(cmd, some val)` by `readDir` and its body recursively;
    `incl`, `exec`, a SUB without value and unreadable sources have no reading -/
inductive ReadEvs (strict : Bool) : List SEv → List REv → Prop
  | nil : ReadEvs strict [] []
  | text (s : Str) {r : List SEv} {r' : List REv} :
      ReadEvs strict r r' → ReadEvs strict (.text s :: r) (.text s :: r')
  | expr {src : Str} {x : XExpr} {r : List SEv} {r' : List REv} :
      readXExpr strict src = some x → ReadEvs strict r r' →
      ReadEvs strict (.expr src :: r) (.xexpr x :: r')
  | sub {cmd val : Str} {d : Dir} {body : List SEv} {body' : List REv} {r : List SEv} {r' : List REv} :
      readDir strict cmd val = some d → ReadEvs strict body body' → ReadEvs strict r r' →
      ReadEvs strict (.sub cmd (some val) body :: r) (.sub [d] body' :: r')

/-- the same reader as a function (fuel: nesting depth; `SEv` is a nested inductive) -/
def readEvs (strict : Bool) : Nat → List SEv → Option (List REv)
  | _, [] => some []
  | f, .text s :: r => (readEvs strict f r).map (.text s :: ·)
  | f, .expr src :: r =>
      match readXExpr strict src with
      | some x => (readEvs strict f r).map (.xexpr x :: ·)
      | none => none
  | f + 1, .sub cmd (some val) body :: r =>
      match readDir strict cmd val, readEvs strict f body with
      | some d, some body' => (readEvs strict (f + 1) r).map (.sub [d] body' :: ·)
      | _, _ => none
  | _, _ :: _ => none

theorem ReadEvs.length_eq {strict : Bool} {a : List SEv} {b : List REv}
    (h : ReadEvs strict a b) : a.length = b.length := by
  induction h <;> simp [*]

theorem ReadEvs.append {strict : Bool} {a c : List SEv} {b d : List REv}
    (h1 : ReadEvs strict a b) (h2 : ReadEvs strict c d) : ReadEvs strict (a ++ c) (b ++ d) := by
  induction h1 with
  | nil => simpa using h2
  | text s _ ih => exact .text s ih
  | expr hx _ ih => exact .expr hx ih
  | sub hd hb _ _ ih => exact .sub hd hb ih

theorem ReadEvs.splitAt {strict : Bool} {a : List SEv} {b : List REv}
    (h : ReadEvs strict a b) (n : Nat) :
    ReadEvs strict (a.take n) (b.take n) ∧ ReadEvs strict (a.drop n) (b.drop n) := by
  induction h generalizing n with
  | nil => simpa using .nil
  | text s h' ih => cases n with
    | zero => exact ⟨.nil, .text s h'⟩
    | succ n => exact ⟨.text s (ih n).1, (ih n).2⟩
  | expr hx h' ih => cases n with
    | zero => exact ⟨.nil, .expr hx h'⟩
    | succ n => exact ⟨.expr hx (ih n).1, (ih n).2⟩
  | sub hd hb h' _ ih => cases n with
    | zero => exact ⟨.nil, .sub hd hb h'⟩
    | succ n => exact ⟨.sub hd hb (ih n).1, (ih n).2⟩

inductive RelMap (strict : Bool) : Scan.DirMap → TDirMap → Prop
  | nil : RelMap strict [] []
  | cons (k : Int) (off : Nat) {cmd val : Str} {d : Dir} {m : Scan.DirMap} {m' : TDirMap} :
      readDir strict cmd val = some d → RelMap strict m m' →
      RelMap strict ((k, (cmd, some val, off)) :: m) ((k, (d, off)) :: m')

theorem RelMap.get? {strict : Bool} {m : Scan.DirMap} {m' : TDirMap}
    (h : RelMap strict m m') (k : Int) :
    (Scan.DirMap.get? m k = none ∧ TDirMap.get? m' k = none) ∨
    ∃ cmd val d off, Scan.DirMap.get? m k = some (cmd, some val, off) ∧
      TDirMap.get? m' k = some (d, off) ∧ readDir strict cmd val = some d := by
  induction h with
  | nil => left; simp [Scan.DirMap.get?, TDirMap.get?]
  | cons k' off hd _ ih =>
      simp only [Scan.DirMap.get?, TDirMap.get?]
      split
      · right; exact ⟨_, _, _, _, rfl, rfl, hd⟩
      · exact ih

theorem RelMap.erase {strict : Bool} {m : Scan.DirMap} {m' : TDirMap}
    (h : RelMap strict m m') (k : Int) :
    RelMap strict (Scan.DirMap.erase m k) (TDirMap.erase m' k) := by
  induction h with
  | nil => exact .nil
  | cons k' off hd _ ih =>
      simp only [Scan.DirMap.erase, TDirMap.erase] at ih ⊢
      by_cases hk : k' = k
      · simpa [List.filter_cons, hk] using ih
      · simpa [List.filter_cons, hk] using RelMap.cons k' off hd ih

theorem RelMap.put {strict : Bool} {m : Scan.DirMap} {m' : TDirMap}
    (h : RelMap strict m m') (k : Int) (off : Nat) {cmd val : Str} {d : Dir}
    (hd : readDir strict cmd val = some d) :
    RelMap strict (Scan.DirMap.put m k (cmd, some val, off)) (TDirMap.put m' k (d, off)) :=
  .cons k off hd (h.erase k)

structure Rel (strict : Bool) (s : Scan.PSt) (t : TSt) : Prop where
  depth : s.depth = t.depth
  out : ReadEvs strict s.out t.out
  dm : RelMap strict s.dirmap t.dirmap

theorem Rel.stepEnd {strict : Bool} {s : Scan.PSt} {t : TSt} (h : Rel strict s t) :
    Rel strict (Scan.stepEnd s) (textStep t .end_) := by
  obtain ⟨hdep, hout, hdm⟩ := h
  rcases hdm.get? (s.depth - 1) with ⟨h1, h2⟩ | ⟨cmd, val, d, off, h1, h2, hd⟩
  · rw [hdep] at h2
    simp only [Scan.stepEnd, textStep, h1, h2]
    exact ⟨by simp [hdep], hout, hdm⟩
  · rw [hdep] at h2
    simp only [Scan.stepEnd, textStep, h1, h2]
    refine ⟨by simp [hdep], ?_, ?_⟩
    · exact (hout.splitAt off).1.append (.sub hd (hout.splitAt off).2 .nil)
    · simpa [hdep] using hdm.erase (s.depth - 1)

theorem Rel.stepOpen {strict : Bool} {s : Scan.PSt} {t : TSt} (h : Rel strict s t)
    {names : List (Str × Str)} {cmd val : Str} {d : Dir}
    (hn : names.any (fun p => p.1 = cmd) = true) (hd : readDir strict cmd val = some d) :
    ∃ s', Scan.stepOpen names s cmd (some val) = .ok s' ∧ Rel strict s' (textStep t (.dir d)) := by
  obtain ⟨hdep, hout, hdm⟩ := h
  refine ⟨_, by simp only [Scan.stepOpen, hn]; rfl, ?_⟩
  simp only [textStep]
  refine ⟨by simp [hdep], hout, ?_⟩
  simpa [hdep, hout.length_eq] using hdm.put s.depth s.out.length hd

/-- `evToks` succeeds on `text` / `expr` events only, and its tokens append their reading -/
theorem evToks_read {strict : Bool} (evs : List SEv) (ts : List TTok)
    (h : evToks strict evs = .ok ts) :
    ∃ rs, ReadEvs strict evs rs ∧
      ∀ t : TSt, ts.foldl textStep t = { t with out := t.out ++ rs } := by
  induction evs generalizing ts with
  | nil => cases h; exact ⟨[], .nil, fun t => by simp⟩
  | cons e r ih =>
    cases e with
    | text s =>
      obtain ⟨ts', hr, h⟩ := bind_ok.mp h
      cases h
      obtain ⟨rs, h1, h2⟩ := ih ts' hr
      exact ⟨.text s :: rs, .text s h1, fun t => by simp [textStep, h2]⟩
    | expr src =>
      rw [evToks] at h
      split at h
      · next x hx =>
        obtain ⟨ts', hr, h⟩ := bind_ok.mp h
        cases h
        obtain ⟨rs, h1, h2⟩ := ih ts' hr
        exact ⟨.xexpr x :: rs, .expr hx h1, fun t => by simp [textStep, h2]⟩
      · cases h
    | _ => cases h

theorem Rel.emit {strict : Bool} {s : Scan.PSt} {t : TSt} (h : Rel strict s t)
    {evs : List SEv} {ts : List TTok} (he : evToks strict evs = .ok ts) :
    Rel strict (s.emit evs) (ts.foldl textStep t) := by
  obtain ⟨rs, h1, h2⟩ := evToks_read evs ts he
  rw [h2]
  exact ⟨h.depth, h.out.append h1, h.dm⟩

theorem Rel.stepDir {strict : Bool} {s : Scan.PSt} {t : TSt} (h : Rel strict s t)
    {inner cmd val : Str} {ts : List TTok}
    (hd : dirToks strict newTextDirectives cmd val = .ok ts) :
    ∃ s', Scan.stepNew s (.dir inner cmd val) = .ok s' ∧ Rel strict s' (ts.foldl textStep t) := by
  unfold dirToks at hd
  split at hd
  · next hc => cases hd; subst hc; exact ⟨Scan.stepEnd s, rfl, h.stepEnd⟩
  · next hc =>
    split at hd
    · cases hd
    · next hip =>
      simp only [Bool.or_eq_true, decide_eq_true_eq, not_or] at hip
      split at hd
      · next hn =>
        split at hd
        · next d hr =>
          cases hd
          obtain ⟨s', h1, h2⟩ := h.stepOpen hn hr
          exact ⟨s', by simp [Scan.stepNew, hc, hip.1, hip.2, h1], h2⟩
        · cases hd
      · cases hd

theorem parseToks_sim {strict : Bool} (rts : List RTok) :
    ∀ (ts : List TTok) (s : Scan.PSt) (t : TSt), newToks strict rts = .ok ts → Rel strict s t →
      ∃ s', Scan.parseToks Scan.stepNew s rts = (s', none) ∧ Rel strict s' (ts.foldl textStep t) := by
  induction rts with
  | nil => intro ts s t h hr; cases h; exact ⟨s, rfl, hr⟩
  | cons rt r ih =>
    intro ts s t h hr
    cases rt with
    | text raw =>
      obtain ⟨evs, hi, h⟩ := bind_ok.mp h
      obtain ⟨a, ha, h⟩ := bind_ok.mp h
      obtain ⟨b, hb, h⟩ := bind_ok.mp h
      cases h
      obtain ⟨s', h1, h2⟩ := ih b _ _ hb (hr.emit ha)
      exact ⟨s', by simp [Scan.parseToks, Scan.stepNew, hi, bind, Except.bind, pure, Except.pure, h1],
        by rwa [List.foldl_append]⟩
    | comment c => exact ih ts s t h hr
    | dir inner cmd val =>
      obtain ⟨a, ha, h⟩ := bind_ok.mp h
      obtain ⟨b, hb, h⟩ := bind_ok.mp h
      cases h
      obtain ⟨s1, hs1, hr1⟩ := hr.stepDir (inner := inner) ha
      obtain ⟨s', h1, h2⟩ := ih b s1 _ hb hr1
      exact ⟨s', by simp only [Scan.parseToks, hs1, h1], by rwa [List.foldl_append]⟩

/-- raw loop = `textParse` after reading: whenever the source can be read into tokens, the
    stream `parseNew` builds from the raw (command, value) pairs, read event by event, is the
    stream `textParse` builds from the read tokens -/
theorem parseNew_commutes (strict : Bool) (src : Str) (toks : List TTok)
    (h : rawToks false strict src = .ok toks) :
    ∃ evs, Scan.parseNew src = .ok evs ∧ ReadEvs strict evs (textParse toks) := by
  simp only [rawToks, Bool.false_eq_true, if_false] at h
  obtain ⟨s', h1, h2⟩ :=
    parseToks_sim (Scan.scanNew src) toks ⟨0, [], []⟩ ⟨0, [], []⟩ h ⟨rfl, .nil, .nil⟩
  exact ⟨s'.out, by simp [Scan.parseNew, Scan.result, h1], h2.out⟩

theorem readEvs_of_ReadEvs {strict : Bool} {a : List SEv} {b : List REv}
    (h : ReadEvs strict a b) : ∃ f, ∀ g, f ≤ g → readEvs strict g a = some b := by
  induction h with
  | nil => exact ⟨0, fun g _ => by cases g <;> simp [readEvs]⟩
  | text s _ ih =>
      obtain ⟨f, hf⟩ := ih
      exact ⟨f, fun g hg => by simp [readEvs, hf g hg]⟩
  | expr hx _ ih =>
      obtain ⟨f, hf⟩ := ih
      exact ⟨f, fun g hg => by simp [readEvs, hx, hf g hg]⟩
  | sub hd _ _ ihb ih =>
      obtain ⟨fb, hfb⟩ := ihb
      obtain ⟨f, hf⟩ := ih
      refine ⟨max (fb + 1) f, fun g hg => ?_⟩
      cases g with
      | zero => omega
      | succ g =>
          have h1 := hfb g (by omega)
          have h2 := hf (g + 1) (by omega)
          simp [readEvs, hd, h1, h2]

theorem parseNew_commutes_fuel (strict : Bool) (src : Str) (toks : List TTok)
    (h : rawToks false strict src = .ok toks) :
    ∃ evs fuel, Scan.parseNew src = .ok evs ∧ readEvs strict fuel evs = some (textParse toks) := by
  obtain ⟨evs, h1, h2⟩ := parseNew_commutes strict src toks h
  obtain ⟨f, hf⟩ := readEvs_of_ReadEvs h2
  exact ⟨evs, f, h1, hf f (Nat.le_refl f)⟩

/-! ### the hypothesis is not vacuous: `a{% if x %}b${y}{% end %}` -/

def exSrc : Str :=
  ['a', '{', '%', ' ', 'i', 'f', ' ', 'x', ' ', '%', '}', 'b', '$', '{', 'y', '}',
   '{', '%', ' ', 'e', 'n', 'd', ' ', '%', '}']

def exToks : List TTok :=
  [.text ['a'], .dir (.if_ (.var ['x'])), .text ['b'], .xexpr (.pure (.var ['y'])), .end_]

theorem exSrc_rawToks : rawToks false false exSrc = .ok exToks := by
  have hs : Scan.scanNew exSrc =
      [.text ['a'], .dir [' ', 'i', 'f', ' ', 'x', ' '] ['i', 'f'] ['x'], .text ['b', '$', '{', 'y', '}'],
       .dir [' ', 'e', 'n', 'd', ' '] ['e', 'n', 'd'] []] := by decide +kernel
  simp only [rawToks, Bool.false_eq_true, if_false, hs]
  rfl

example : textParse exToks = [.text ['a'], .sub [.if_ (.var ['x'])] [.text ['b'], .xexpr (.pure (.var ['y']))]] := by
  rfl

example : ∃ evs, Scan.parseNew exSrc = .ok evs ∧ ReadEvs false evs (textParse exToks) :=
  parseNew_commutes false exSrc exToks exSrc_rawToks

end Genshi.Tmpl.Raw
