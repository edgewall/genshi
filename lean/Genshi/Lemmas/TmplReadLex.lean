/-
  C04: the tokenizer of the mini expression language reads back what the printer of token lists
  writes: `tokenize (toksSrc ts) = some ts` for every list of tokens the tokenizer can produce.
-/
import Genshi.Model.TmplPrint
import Genshi.Lemmas.PyLex
import Genshi.Lemmas.TmplScan
namespace Genshi.Tmpl.Print
open Genshi.Tmpl.Raw
open Genshi.Py.Lex (ne_of_class)

theorem idStart_not_ws {c : Char} (h : isIdStart c = true) : isWs c = false := by
  have ne := ne_of_class h
  simp [isWs, ne ' ' (by decide), ne '\t' (by decide), ne '\n' (by decide), ne '\r' (by decide)]

theorem digit_not_ws {c : Char} (h : isDigit c = true) : isWs c = false := by
  have ne := ne_of_class h
  simp [isWs, ne ' ' (by decide), ne '\t' (by decide), ne '\n' (by decide), ne '\r' (by decide)]

theorem digit_not_idStart {c : Char} (h : isDigit c = true) : isIdStart c = false := by
  simp only [isIdStart, isDigit, Bool.and_eq_true, decide_eq_true_eq, Bool.or_eq_false_iff,
    Bool.and_eq_false_iff, decide_eq_false_iff_not, Char.le_def, Char.ext_iff, UInt32.le_iff_toNat_le,
    ← UInt32.toNat_inj] at *
  simp at *
  omega

theorem idStart_ne_eq {c : Char} (h : isIdStart c = true) : c ≠ '=' := ne_of_class h _ (by decide)

theorem digit_ne_eq {c : Char} (h : isDigit c = true) : c ≠ '=' := ne_of_class h _ (by decide)

theorem digit_of_core {c : Char} (h : c.isDigit = true) : isDigit c = true := by
  simpa [isDigit, Char.isDigit, Char.le_def] using h

theorem idStart_idChar {c : Char} (h : isIdStart c = true) : isIdChar c = true := by
  simp [isIdChar, h]

theorem digit_idChar {c : Char} (h : isDigit c = true) : isIdChar c = true := by
  simp [isIdChar, h]

theorem natOf_natStr (n : Nat) : natOf (natStr n) = n :=
  Nat.ofDigitChars_ten_toDigits (n := n)

theorem natStr_digits (n : Nat) : ∀ c ∈ natStr n, isDigit c = true := fun _ hc =>
  digit_of_core (Nat.isDigit_of_mem_toDigits (by decide) (by decide) hc)

theorem natStr_cons (n : Nat) : ∃ c s, natStr n = c :: s := by
  cases h : natStr n with
  | nil => exact absurd h (by simp [natStr])
  | cons c s => exact ⟨c, s, rfl⟩

theorem tokGo_cons (f : Nat) (c : Char) (r : Str) (acc : List MTok) :
    tokGo (f + 1) (c :: r) acc =
      if isWs c then tokGo f r acc
      else if isIdStart c then
        tokGo f (r.dropWhile isIdChar) (.name (c :: r.takeWhile isIdChar) :: acc)
      else if isDigit c then
        tokGo f (r.dropWhile isDigit) (.int (natOf (c :: r.takeWhile isDigit)) :: acc)
      else if c = '\'' then
        match r.dropWhile (fun d => d != '\'') with
        | _ :: r' =>
            if (r.takeWhile (fun d => d != '\'')).contains '\\'
                || (r.takeWhile (fun d => d != '\'')).contains '\n' then none
            else tokGo f r' (.str (r.takeWhile (fun d => d != '\'')) :: acc)
        | [] => none
      else if c = '=' then
        match r with
        | '=' :: r' => tokGo f r' (.eqeq :: acc)
        | _ => tokGo f r (.sym '=' :: acc)
      else if ['(', ')', '[', ']', '{', '}', ',', ':', ';', '-'].contains c then
        tokGo f r (.sym c :: acc)
      else none := by
  rfl

/-- what must hold of the character behind the token `a` for `a` to be read alone -/
def glueC : MTok → Char → Prop
  | .name _, c => isIdChar c = false
  | .int _, c => isDigit c = false
  | .sym d, c => d = '=' → c ≠ '='
  | _, _ => True

def glue (a : MTok) (rest : Str) : Prop := ∀ c, rest.head? = some c → glueC a c

theorem step_ws {c : Char} (hc : isWs c = true) (f : Nat) (rest : Str) (acc : List MTok) :
    tokGo (f + 1) (c :: rest) acc = tokGo f rest acc := by
  rw [tokGo_cons, if_pos hc]

theorem step_name {c : Char} {s : Str} (hc : isIdStart c = true) (hs : ∀ d ∈ s, isIdChar d = true)
    (f : Nat) (rest : Str) (acc : List MTok) (hg : glue (.name (c :: s)) rest) :
    tokGo (f + 1) ((c :: s) ++ rest) acc = tokGo f rest (.name (c :: s) :: acc) := by
  have sp := Scan.span_all (p := isIdChar) s rest hs hg
  rw [List.cons_append, tokGo_cons]
  simp only [idStart_not_ws hc, hc, if_true, Bool.false_eq_true, if_false, sp.1, sp.2]

theorem step_int (n : Nat) (f : Nat) (rest : Str) (acc : List MTok) (hg : glue (.int n) rest) :
    tokGo (f + 1) (natStr n ++ rest) acc = tokGo f rest (.int n :: acc) := by
  obtain ⟨c, s, e⟩ := natStr_cons n
  have hd := natStr_digits n
  rw [e] at hd
  have hc : isDigit c = true := hd c (List.mem_cons_self ..)
  have sp := Scan.span_all (p := isDigit) s rest (fun d hd' => hd d (List.mem_cons_of_mem _ hd')) hg
  rw [e, List.cons_append, tokGo_cons]
  simp only [digit_not_ws hc, digit_not_idStart hc, hc, if_true, Bool.false_eq_true, if_false,
    sp.1, sp.2]
  rw [← e, natOf_natStr]

theorem step_str {s : Str} (hs : tokOk (.str s) = true) (f : Nat) (rest : Str) (acc : List MTok) :
    tokGo (f + 1) (('\'' :: (s ++ ['\''])) ++ rest) acc = tokGo f rest (.str s :: acc) := by
  simp only [tokOk, List.all_eq_true, Bool.and_eq_true, bne_iff_ne, ne_eq] at hs
  have sp := Scan.span_all (p := fun d => d != '\'') s ('\'' :: rest)
    (fun d hd => by simpa using (hs d hd).1.1) (by simp)
  have c1 : List.contains s '\\' = false := by
    cases h : List.contains s '\\' with
    | false => rfl
    | true => exact absurd rfl (hs _ (by simpa using h)).1.2
  have c2 : List.contains s '\n' = false := by
    cases h : List.contains s '\n' with
    | false => rfl
    | true => exact absurd rfl (hs _ (by simpa using h)).2
  have e : ('\'' :: (s ++ ['\''])) ++ rest = '\'' :: (s ++ '\'' :: rest) := by simp
  rw [e, tokGo_cons]
  simp only [show isWs '\'' = false by decide, show isIdStart '\'' = false by decide,
    show isDigit '\'' = false by decide, Bool.false_eq_true, if_false, if_true, sp.1, sp.2, c1, c2,
    Bool.or_self]

theorem step_sym {c : Char} (hm : ['(', ')', '[', ']', '{', '}', ',', ':', ';', '-'].contains c = true)
    (f : Nat) (rest : Str) (acc : List MTok) :
    tokGo (f + 1) (c :: rest) acc = tokGo f rest (.sym c :: acc) := by
  have : ∀ d ∈ ['(', ')', '[', ']', '{', '}', ',', ':', ';', '-'],
      isWs d = false ∧ isIdStart d = false ∧ isDigit d = false ∧ d ≠ '\'' ∧ d ≠ '=' := by decide
  obtain ⟨h1, h2, h3, h4, h5⟩ := this c (List.contains_iff_mem.mp hm)
  rw [tokGo_cons]
  simp only [h1, h2, h3, h4, h5, hm, Bool.false_eq_true, if_false, if_true]

theorem step_assign (f : Nat) (rest : Str) (acc : List MTok) (hg : glue (.sym '=') rest) :
    tokGo (f + 1) ('=' :: rest) acc = tokGo f rest (.sym '=' :: acc) := by
  rw [tokGo_cons]
  simp only [show isWs '=' = false by decide, show isIdStart '=' = false by decide,
    show isDigit '=' = false by decide, show ('=' : Char) ≠ '\'' by decide,
    Bool.false_eq_true, if_false, if_true]
  split
  · exact absurd rfl (hg '=' rfl rfl)
  · rfl

theorem step_eqeq (f : Nat) (rest : Str) (acc : List MTok) :
    tokGo (f + 1) ('=' :: '=' :: rest) acc = tokGo f rest (.eqeq :: acc) := by
  rw [tokGo_cons]
  simp only [show isWs '=' = false by decide, show isIdStart '=' = false by decide,
    show isDigit '=' = false by decide, show ('=' : Char) ≠ '\'' by decide,
    Bool.false_eq_true, if_false, if_true]

theorem step_tok (a : MTok) (ok : tokOk a = true) (f : Nat) (rest : Str) (acc : List MTok)
    (hg : glue a rest) : tokGo (f + 1) (tokSrc a ++ rest) acc = tokGo f rest (a :: acc) := by
  cases a with
  | name s =>
      cases s with
      | nil => simp [tokOk] at ok
      | cons c s =>
          simp only [tokOk, Bool.and_eq_true, List.all_eq_true] at ok
          exact step_name ok.1 ok.2 f rest acc hg
  | int n => exact step_int n f rest acc hg
  | str s => exact step_str ok f rest acc
  | sym c =>
      by_cases he : c = '='
      · subst he; exact step_assign f rest acc hg
      · have he' : ¬ '=' = c := fun e => he e.symm
        refine step_sym ?_ f rest acc
        simpa [tokOk, he, he'] using ok
  | eqeq => exact step_eqeq f rest acc

theorem tokSrc_cons (b : MTok) (ok : tokOk b = true) : ∃ c s, tokSrc b = c :: s := by
  cases b with
  | name s =>
      cases s with
      | nil => simp [tokOk] at ok
      | cons c s => exact ⟨c, s, rfl⟩
  | int n => exact natStr_cons n
  | str s => exact ⟨_, _, rfl⟩
  | sym c => exact ⟨_, _, rfl⟩
  | eqeq => exact ⟨_, _, rfl⟩

theorem toksSrc_head {b : MTok} {c : Char} {s : Str} (e : tokSrc b = c :: s) (r : List MTok) :
    ∃ s', toksSrc (b :: r) = c :: s' := by
  cases r with
  | nil => exact ⟨s, e⟩
  | cons b' r => exact ⟨_, by rw [toksSrc, e]; rfl⟩

theorem glue_ws (a : MTok) {rest : Str} (h : ∀ c, rest.head? = some c → isWs c = true) : glue a rest := by
  intro c hc
  have hw := h c hc
  simp only [isWs, Bool.or_eq_true, decide_eq_true_eq] at hw
  rcases hw with ((rfl | rfl) | rfl) | rfl <;> cases a <;> simp only [glueC] <;> intros <;> decide

theorem sym_not_idChar {d : Char} (ok : tokOk (.sym d) = true) : isIdChar d = false := by
  simp only [tokOk, List.contains_eq_mem, List.mem_cons, List.not_mem_nil, or_false,
    decide_eq_true_eq] at ok
  rcases ok with rfl | rfl | rfl | rfl | rfl | rfl | rfl | rfl | rfl | rfl | rfl <;> decide

/-- no blank between `a b` and `a` a name or a number: `b` is neither -/
theorem not_wordy_of_sep {a b : MTok} (hs : sep a b = false) (ha : MTok.isWordy a = true) : MTok.isWordy b = false := by
  simp only [sep, ha, Bool.true_and, Bool.or_eq_false_iff] at hs
  exact hs.1.2

/-- only a name or a number begins with an identifier character -/
theorem head_not_idChar {b : MTok} (okb : tokOk b = true) (hw : MTok.isWordy b = false)
    {c : Char} {s : Str} (e : tokSrc b = c :: s) : isIdChar c = false := by
  cases b with
  | name sb => cases hw
  | int n => cases hw
  | str sb => cases e; decide
  | sym d => cases e; exact sym_not_idChar okb
  | eqeq => cases e; decide

theorem glue_sep (a b : MTok) (okb : tokOk b = true) (hs : sep a b = false)
    {c : Char} {s : Str} (e : tokSrc b = c :: s) : glueC a c := by
  cases a with
  | name sa => exact head_not_idChar okb (not_wordy_of_sep hs rfl) e
  | int na => exact (Bool.or_eq_false_iff.mp (head_not_idChar okb (not_wordy_of_sep hs rfl) e)).2
  | sym d =>
      show d = '=' → c ≠ '='
      intro hd
      subst hd
      cases b with
      | name sb =>
          cases sb with
          | nil => simp [tokOk] at okb
          | cons c' s' =>
              simp only [tokOk, Bool.and_eq_true] at okb
              simp only [tokSrc, List.cons.injEq] at e
              rw [← e.1]; exact idStart_ne_eq okb.1
      | int n =>
          have := natStr_digits n c (by simp only [tokSrc] at e; rw [e]; exact List.mem_cons_self ..)
          exact digit_ne_eq this
      | str sb =>
          simp only [tokSrc, List.cons.injEq] at e
          rw [← e.1]; decide
      | sym d' =>
          simp only [tokSrc, List.cons.injEq] at e
          rw [← e.1]
          intro h
          subst h
          simp [sep] at hs
      | eqeq => simp [sep] at hs
  | str sa => trivial
  | eqeq => trivial

theorem tokSrc_ne_nil {a : MTok} (ok : tokOk a = true) : tokSrc a ≠ [] := by
  obtain ⟨c, s, e⟩ := tokSrc_cons a ok
  rw [e]; exact List.cons_ne_nil _ _

theorem tokGo_ws : ∀ (w : Str), (∀ c ∈ w, isWs c = true) → ∀ (f : Nat) (acc : List MTok),
    w.length + 1 ≤ f → tokGo f w acc = some acc.reverse
  | [], _, f + 1, acc, _ => rfl
  | c :: w, hw, f + 1, acc, hf => by
      rw [step_ws (hw c (List.mem_cons_self ..))]
      exact tokGo_ws w (fun d hd => hw d (List.mem_cons_of_mem _ hd)) f acc (by simpa using hf)

/-- one unit of fuel per character suffices: a step that reads the non-empty `x` leaves enough for
    what follows -/
theorem fuel_step {x y w : Str} {f : Nat} (hx : x ≠ []) (h : (x ++ y).length + w.length + 1 ≤ f + 1) :
    y.length + w.length + 1 ≤ f := by
  have := List.length_pos_iff.mpr hx
  rw [List.length_append] at h
  omega

/-- `w`: the line feed an old-syntax directive line keeps -/
theorem tokGo_print : ∀ (ts : List MTok), ts.all tokOk = true → ∀ (w : Str), (∀ c ∈ w, isWs c = true) →
    ∀ (f : Nat) (acc : List MTok), (toksSrc ts).length + w.length + 1 ≤ f →
    tokGo f (toksSrc ts ++ w) acc = some (acc.reverse ++ ts)
  | [], _, w, hw, f, acc, hf => by
      simpa [toksSrc] using tokGo_ws w hw f acc (by simpa [toksSrc] using hf)
  | _ :: _, _, _, _, 0, _, hf => absurd hf (Nat.not_succ_le_zero _)
  | [t], h, w, hw, f + 1, acc, hf => by
      have ok : tokOk t = true := by simpa using h
      have hf1 := fuel_step (y := []) (tokSrc_ne_nil ok) (by rw [List.append_nil]; exact hf)
      rw [toksSrc, step_tok t ok f w acc (glue_ws t fun c hc => hw c (List.mem_of_mem_head? hc)),
        tokGo_ws w hw f _ (by simpa using hf1)]
      simp
  | a :: b :: r, h, w, hw, f + 1, acc, hf => by
      simp only [List.all_cons, Bool.and_eq_true] at h
      obtain ⟨oka, okb, okr⟩ := h
      have ih := tokGo_print (b :: r) (by simp [okb, okr]) w hw
      have hf1 := fuel_step (tokSrc_ne_nil oka) hf
      simp only [toksSrc, List.append_assoc]
      cases hs : sep a b with
      | true =>
          simp only [hs, if_true, List.singleton_append] at hf1 ⊢
          cases f with
          | zero => exact absurd hf1 (Nat.not_succ_le_zero _)
          | succ f =>
            rw [step_tok a oka (f + 1) _ acc (glue_ws a (by intro c hc; cases hc; rfl)), step_ws rfl,
              ih f (a :: acc) (fuel_step (x := [' ']) (List.cons_ne_nil _ _) hf1)]
            simp
      | false =>
          simp only [hs, Bool.false_eq_true, if_false, List.nil_append] at hf1 ⊢
          obtain ⟨c, s, e⟩ := tokSrc_cons b okb
          obtain ⟨s', e'⟩ := toksSrc_head e r
          have hg : glue a (toksSrc (b :: r) ++ w) := by
            intro c' hc'
            rw [e'] at hc'
            cases hc'
            exact glue_sep a b okb hs e
          rw [step_tok a oka f _ acc hg, ih f (a :: acc) hf1]
          simp

theorem tokenize_print (ts : List MTok) (h : ts.all tokOk = true) :
    tokenize (toksSrc ts) = some ts := by
  have := tokGo_print ts h [] (by simp) ((toksSrc ts).length + 1) [] (by simp)
  simpa [tokenize] using this

end Genshi.Tmpl.Print
