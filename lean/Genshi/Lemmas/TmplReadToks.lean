/-
  C04: the reader of the mini language inverts the token layout of the printer
  (`Model/TmplPrint.lean`): `readExprToks`, `readXToks`, `readDirToks` on `exprToks`, `xexprToks`,
  `dirToks`, for every AST that satisfies the side conditions `exprOk`, `xexprOk`, `dirOk`.
-/
import Genshi.Model.TmplPrint
namespace Genshi.Tmpl.Print
open Genshi.Tmpl.Raw

/-- `g` lays a list out item by item (`f`) with the symbol `c` between the items -/
def IsSep {α : Type} (c : Char) (f : α → List MTok) (g : List α → List MTok) : Prop :=
  g [] = [] ∧ (∀ a, g [a] = f a) ∧ ∀ a b r, g (a :: b :: r) = f a ++ .sym c :: g (b :: r)

theorem atomsToks_sep : IsSep ',' atomToks atomsToks := ⟨rfl, fun _ => rfl, fun _ _ _ => rfl⟩
theorem pairsToks_sep : IsSep ',' (fun p => .str p.1 :: .sym ':' :: atomToks p.2) pairsToks :=
  ⟨rfl, fun _ => rfl, fun _ _ _ => rfl⟩
theorem argsToks_sep : IsSep ',' argToks argsToks := ⟨rfl, fun _ => rfl, fun _ _ _ => rfl⟩
theorem paramsToks_sep : IsSep ',' paramToks paramsToks := ⟨rfl, fun _ => rfl, fun _ _ _ => rfl⟩
theorem bindsToks_sep : IsSep ';' (fun p => .name p.1 :: .sym '=' :: exprToks p.2) bindsToks :=
  ⟨rfl, fun _ => rfl, fun _ _ _ => rfl⟩

theorem IsSep.length {α : Type} {c : Char} {f : α → List MTok} {g : List α → List MTok} (h : IsSep c f g) :
    ∀ l : List α, l.length ≤ (g l).length + 1
  | [] => Nat.zero_le _
  | [_] => Nat.le_add_left _ _
  | a :: b :: r => by
      have := h.length (b :: r)
      rw [h.2.2, List.length_append, List.length_cons]
      simp only [List.length_cons] at this ⊢
      omega

@[simp] theorem exprToks_mkVar (st : Bool) (n : Name) : exprToks (mkVar st n) = [.name n] := by
  cases st <;> rfl

@[simp] theorem exprToks_mkIx (st : Bool) (a i : Expr) :
    exprToks (mkIx st a i) = exprToks a ++ .sym '[' :: (exprToks i ++ [.sym ']']) := by
  cases st <;> rfl

/-- induction over the expressions a text template can be printed from: under the lookup mode `st` a
    name is `mkVar st n` and a subscript `mkIx st a i`, which is how the reader builds them -/
theorem exprOk_induction {st : Bool} {P : Expr → Prop}
    (name : ∀ n, nameOk n = true → P (mkVar st n))
    (atom : ∀ a, atomOk a = true → P (.lit (.atom a)))
    (list : ∀ xs, xs.all atomOk = true → P (.lit (.list xs)))
    (dict : ∀ kv, (kv.all fun p => strOk p.1 && atomOk p.2) = true → P (.lit (.dict kv)))
    (eq : ∀ a b, exprOk st a = true → exprOk st b = true → P a → P b → P (.eq a b))
    (not : ∀ a, exprOk st a = true → P a → P (.not a))
    (len : ∀ a, exprOk st a = true → P a → P (.len a))
    (ix : ∀ a i, exprOk st a = true → exprOk st i = true → P a → P i → P (mkIx st a i)) :
    ∀ e, exprOk st e = true → P e := by
  intro e
  induction e with
  | var n =>
    intro h; simp only [exprOk, Bool.and_eq_true, Bool.not_eq_true'] at h
    obtain ⟨rfl, hn⟩ := h; exact name n hn
  | svar n =>
    intro h; simp only [exprOk, Bool.and_eq_true] at h
    obtain ⟨rfl, hn⟩ := h; exact name n hn
  | lit v =>
    intro h
    cases v with
    | atom a => exact atom a h
    | list xs => exact list xs h
    | dict kv => exact dict kv h
    | undef => cases h
    | «macro» _ => cases h
  | eq a b iha ihb =>
    intro h; simp only [exprOk, Bool.and_eq_true] at h
    exact eq a b h.1 h.2 (iha h.1) (ihb h.2)
  | not a iha => intro h; exact not a h (iha h)
  | len a iha => intro h; exact len a h (iha h)
  | ix a i iha ihi =>
    intro h; simp only [exprOk, Bool.and_eq_true, Bool.not_eq_true'] at h
    obtain ⟨⟨rfl, h1⟩, h2⟩ := h; exact ix a i h1 h2 (iha h1) (ihi h2)
  | six a i iha ihi =>
    intro h; simp only [exprOk, Bool.and_eq_true] at h
    obtain ⟨⟨rfl, h1⟩, h2⟩ := h; exact ix a i h1 h2 (iha h1) (ihi h2)

/-- `${…}` holds an expression or a call of a name -/
theorem xexprOk_cases {st : Bool} {P : XExpr → Prop}
    (pure : ∀ e, exprOk st e = true → P (.pure e))
    (call : ∀ f args, nameOk f = true → argsOk st args = true → P (.call (mkVar st f) args)) :
    ∀ x, xexprOk st x = true → P x := by
  intro x h
  cases x with
  | pure e => exact pure e h
  | call f args =>
    cases f with
    | var n =>
      simp only [xexprOk, Bool.and_eq_true, Bool.not_eq_true'] at h
      obtain ⟨⟨rfl, hn⟩, ha⟩ := h; exact call n args hn ha
    | svar n =>
      simp only [xexprOk, Bool.and_eq_true] at h
      obtain ⟨⟨rfl, hn⟩, ha⟩ := h; exact call n args hn ha
    | _ => cases h

theorem pAtom_print (a : Atom) (rest : List MTok) : pAtom (atomToks a ++ rest) = some (a, rest) := by
  cases a with
  | none => rfl
  | bool b => cases b <;> rfl
  | int i =>
    cases i with
    | ofNat n => rfl
    | negSucc n => simp [atomToks, pAtom, Int.negSucc_eq]
  | str s => rfl

/-- the first token of an atom -/
def atomHead : MTok → Bool
  | .name _ => true
  | .int _ => true
  | .str _ => true
  | .sym c => c = '('
  | .eqeq => false

theorem atomToks_head (a : Atom) : ∃ t ts, atomToks a = t :: ts ∧ atomHead t = true := by
  cases a with
  | none => exact ⟨_, _, rfl, rfl⟩
  | bool b => cases b <;> exact ⟨_, _, rfl, rfl⟩
  | int i => cases i <;> exact ⟨_, _, rfl, by simp [atomHead]⟩
  | str s => exact ⟨_, _, rfl, rfl⟩

theorem pAtoms_print (xs : List Atom) (hx : xs ≠ []) (f : Nat) (rest : List MTok) (hf : xs.length ≤ f) :
    pAtoms f (atomsToks xs ++ .sym ']' :: rest) = some (xs, rest) := by
  induction xs generalizing f with
  | nil => exact absurd rfl hx
  | cons a r ih =>
    cases f with
    | zero => simp at hf
    | succ f =>
      cases r with
      | nil => simp [atomsToks, pAtoms, pAtom_print]
      | cons b r =>
        have := ih (by simp) f (by simpa using hf)
        simp [atomsToks, pAtoms, pAtom_print, this]

theorem pPairs_print (kv : List (Str × Atom)) (hx : kv ≠ []) (f : Nat) (rest : List MTok)
    (hf : kv.length ≤ f) :
    pPairs f (pairsToks kv ++ .sym '}' :: rest) = some (kv, rest) := by
  induction kv generalizing f with
  | nil => exact absurd rfl hx
  | cons a r ih =>
    obtain ⟨k, a⟩ := a
    cases f with
    | zero => simp at hf
    | succ f =>
      cases r with
      | nil => simp [pairsToks, pPairs, pAtom_print]
      | cons b r =>
        have := ih (by simp) f (by simpa using hf)
        simp [pairsToks, pPairs, pAtom_print, this]

theorem pAtoms_mono (f : Nat) (toks : List MTok) (res) (h : pAtoms f toks = some res) :
    pAtoms (f + 1) toks = some res := by
  fun_induction pAtoms f toks generalizing res
  case case2 ha _ _ hr ih => cases h; rw [pAtoms, ha]; simp only [ih _ hr]
  case case4 ha => cases h; rw [pAtoms]; simp only [ha]
  all_goals cases h

theorem pPairs_mono (f : Nat) (toks : List MTok) (res) (h : pPairs f toks = some res) :
    pPairs (f + 1) toks = some res := by
  fun_induction pPairs f toks generalizing res
  case case2 ha _ _ hr ih => cases h; rw [pPairs, ha]; simp only [ih _ hr]
  case case4 ha => cases h; rw [pPairs]; simp only [ha]
  all_goals cases h

/-- the rule of `pPrimary` that answered answers again: its recursive calls succeed with more fuel -/
theorem pPrimary_step (f : Nat)
    (ihE : ∀ st toks res, pExpr f st toks = some res → pExpr (f + 1) st toks = some res) :
    ∀ st toks res, pPrimary (f + 1) st toks = some res → pPrimary (f + 1 + 1) st toks = some res := by
  intro st toks res
  generalize hg : f + 1 = g
  fun_cases pPrimary g st toks
  all_goals intro h
  all_goals cases h
  all_goals cases hg
  case case2 _ _ _ h1 => rw [pPrimary.eq_2, if_pos rfl]; simp only [ihE _ _ _ h1]
  case case5 _ _ x _ _ h1 => rw [pPrimary.eq_3 _ _ _ _ x, h1]
  case case7 _ _ x h1 hn => rw [pPrimary.eq_3 _ _ _ _ x, h1, if_neg hn]
  case case8 _ _ _ h1 => rw [pPrimary.eq_4, if_pos rfl]; simp only [ihE _ _ _ h1]
  case case10 _ _ hn _ _ _ _ h1 h2 => rw [pPrimary.eq_4, if_neg hn, ihE _ _ _ h1]; simp only [ihE _ _ _ h2]
  case case13 _ _ _ h1 => rw [pPrimary.eq_5, h1]
  case case15 _ x1 x2 _ _ _ _ h1 h2 => rw [pPrimary.eq_6 _ _ _ x1 x2, ihE _ _ _ h1]; simp only [ihE _ _ _ h2]
  case case18 => rw [pPrimary.eq_7]
  case case19 _ x _ _ h1 => rw [pPrimary.eq_8 _ _ _ x, pAtoms_mono f _ _ h1]
  case case21 => rw [pPrimary.eq_9]
  case case22 _ x _ _ h1 => rw [pPrimary.eq_10 _ _ _ x, pPairs_mono f _ _ h1]
  case case24 _ _ x9 x8 x7 x6 x5 x4 x3 x2 x1 h1 => rw [pPrimary.eq_11 _ _ _ x9 x8 x7 x6 x5 x4 x3 x2 x1, h1]

theorem pAll_mono (f : Nat) :
    (∀ st toks res, pExpr f st toks = some res → pExpr (f + 1) st toks = some res) ∧
    (∀ st e toks res, pPostfix f st e toks = some res → pPostfix (f + 1) st e toks = some res) ∧
    (∀ st toks res, pPrimary f st toks = some res → pPrimary (f + 1) st toks = some res) := by
  induction f with
  | zero =>
    refine ⟨?_, ?_, ?_⟩
    · intro st toks res h; simp [pExpr] at h
    · intro st e toks res h; simp [pPostfix] at h
    · intro st toks res h; unfold pPrimary at h; simp at h
  | succ f ih =>
    obtain ⟨ihE, ihO, ihP⟩ := ih
    refine ⟨?_, ?_, ?_⟩
    · intro st toks res h
      rw [pExpr] at h ⊢
      cases h' : pPrimary f st toks with
      | none => simp [h'] at h
      | some p =>
        obtain ⟨e, rest⟩ := p
        rw [h'] at h
        rw [ihP _ _ _ h']
        exact ihO _ _ _ _ h
    · intro st e toks res h
      unfold pPostfix at h ⊢
      split at h
      · simp at h
      · rename_i heq; cases heq
        split at h
        · rename_i heq; rw [ihE _ _ _ heq]; exact ihO _ _ _ _ h
        · simp at h
      · rename_i h1 h2
        · exact h
    · exact pPrimary_step f ihE

theorem pExpr_mono {f g : Nat} (hfg : f ≤ g) {st : Bool} {toks : List MTok} {res : Expr × List MTok}
    (h : pExpr f st toks = some res) : pExpr g st toks = some res := by
  induction hfg with
  | refl => exact h
  | step _ ih => exact (pAll_mono _).1 _ _ _ ih

theorem pPostfix_mono {f g : Nat} (hfg : f ≤ g) {st : Bool} {e : Expr} {toks : List MTok}
    {res : Expr × List MTok} (h : pPostfix f st e toks = some res) : pPostfix g st e toks = some res := by
  induction hfg with
  | refl => exact h
  | step _ ih => exact (pAll_mono _).2.1 _ _ _ _ ih

theorem pPrimary_mono {f g : Nat} (hfg : f ≤ g) {st : Bool} {toks : List MTok} {res : Expr × List MTok}
    (h : pPrimary f st toks = some res) : pPrimary g st toks = some res := by
  induction hfg with
  | refl => exact h
  | step _ ih => exact (pAll_mono _).2.2 _ _ _ ih

/-- the continuation does not open a call -/
def noParen (rest : List MTok) : Prop := ∀ r, rest ≠ .sym '(' :: r

/-- the continuation does not open a subscript -/
def noBracket (rest : List MTok) : Prop := ∀ r, rest ≠ .sym '[' :: r

theorem pPrimary_paren {f : Nat} {st : Bool} {t : MTok} {r r1 r2 : List MTok} {a b : Expr}
    (h1 : t ≠ .name kwNot) (h2 : t ≠ .sym '-')
    (ha : pExpr f st (t :: r) = some (a, .eqeq :: r1))
    (hb : pExpr f st r1 = some (b, .sym ')' :: r2)) :
    pPrimary (f + 1) st (.sym '(' :: t :: r) = some (.eq a b, r2) := by
  cases t with
  | name n => rw [pPrimary.eq_4, if_neg (fun e => h1 (by rw [e])), ha]; simp only [hb]
  | sym c =>
    rw [pPrimary.eq_6 _ _ _ (by intro _ _ e; cases e) (by intro _ e; cases e; exact h2 rfl), ha]
    simp only [hb]
  | _ => rw [pPrimary.eq_6 _ _ _ (by intro _ _ e; cases e) (by intro _ e; cases e), ha]; simp only [hb]

theorem pPostfix_ix {f : Nat} {st : Bool} {e i : Expr} {r r' : List MTok}
    (h : pExpr f st r = some (i, .sym ']' :: r')) :
    pPostfix (f + 1) st e (.sym '[' :: r) = pPostfix f st (mkIx st e i) r' := by
  simp [pPostfix, h]

theorem nameOk_ne {n : Name} (h : nameOk n = true) :
    n ≠ ['N', 'o', 'n', 'e'] ∧ n ≠ ['T', 'r', 'u', 'e'] ∧ n ≠ ['F', 'a', 'l', 's', 'e'] ∧
    n ≠ kwNot ∧ n ≠ kwIn ∧ n ≠ kwLen := by
  unfold nameOk at h
  split at h
  · simp at h
  · simp only [Bool.and_eq_true, Bool.not_eq_true', List.contains_eq_mem, List.mem_cons,
      List.not_mem_nil, or_false, decide_eq_false_iff_not, not_or] at h
    obtain ⟨_, h1, h2, h3, h4, h5, h6⟩ := h
    exact ⟨h1, h2, h3, h4, h5, h6⟩

theorem pAtom_name {n : Name} (h : nameOk n = true) : pAtom [.name n] = none := by
  obtain ⟨h1, h2, h3, _⟩ := nameOk_ne h
  unfold pAtom
  split
  all_goals first | rfl | (exfalso; grind)

theorem pPrimary_name {f : Nat} {st : Bool} {n : Name} {rest : List MTok}
    (h : nameOk n = true) (hr : noParen rest) :
    pPrimary (f + 1) st (.name n :: rest) = some (mkVar st n, rest) := by
  obtain ⟨_, _, _, h4, h5, h6⟩ := nameOk_ne h
  rw [pPrimary.eq_3 _ _ _ _ hr, pAtom_name h]
  simp [h4, h5, h6]

theorem pPrimary_nameAtom {f : Nat} {st : Bool} {n : Name} {a : Atom} {x rest : List MTok}
    (h : pAtom [.name n] = some (a, x)) (hr : noParen rest) :
    pPrimary (f + 1) st (.name n :: rest) = some (.lit (.atom a), rest) := by
  rw [pPrimary.eq_3 _ _ _ _ hr, h]

theorem pPrimary_atom {f : Nat} {st : Bool} (a : Atom) {rest : List MTok} (hr : noParen rest) :
    pPrimary (f + 1) st (atomToks a ++ rest) = some (.lit (.atom a), rest) := by
  cases a with
  | none => exact pPrimary_nameAtom (x := []) rfl hr
  | bool b => cases b <;> exact pPrimary_nameAtom (x := []) rfl hr
  | int i =>
    cases i with
    | ofNat n =>
      have hp := pAtom_print (.int (.ofNat n)) rest
      simp only [atomToks, List.cons_append, List.nil_append] at hp ⊢
      unfold pPrimary
      rw [hp]
    | negSucc n =>
      have hp := pAtom_print (.int (.negSucc n)) rest
      simp only [atomToks, List.cons_append, List.nil_append] at hp ⊢
      rw [pPrimary.eq_5, hp]
  | str s =>
    have hp := pAtom_print (.str s) rest
    simp only [atomToks, List.cons_append, List.nil_append] at hp ⊢
    unfold pPrimary
    rw [hp]

theorem atomsToks_head {xs : List Atom} (hx : xs ≠ []) :
    ∃ t ts, atomsToks xs = t :: ts ∧ atomHead t = true := by
  match xs, hx with
  | [a], _ => exact atomToks_head a
  | a :: b :: r, _ =>
    obtain ⟨t, ts, h, ht⟩ := atomToks_head a
    exact ⟨t, ts ++ .sym ',' :: atomsToks (b :: r), by simp [atomsToks, h], ht⟩

theorem pPrimary_list {f : Nat} {st : Bool} (xs : List Atom) (rest : List MTok) (hf : xs.length ≤ f) :
    pPrimary (f + 1) st (.sym '[' :: (atomsToks xs ++ .sym ']' :: rest)) = some (.lit (.list xs), rest) := by
  cases xs with
  | nil => simp [atomsToks, pPrimary]
  | cons a r =>
    have hp := pAtoms_print (a :: r) (by simp) f rest hf
    obtain ⟨t, ts, h, ht⟩ := atomsToks_head (xs := a :: r) (by simp)
    rw [h] at hp ⊢
    rw [pPrimary.eq_8 _ _ _ (by intro _ e; cases e; simp [atomHead] at ht), hp]

theorem pPrimary_dict {f : Nat} {st : Bool} (kv : List (Str × Atom)) (rest : List MTok)
    (hf : kv.length ≤ f) :
    pPrimary (f + 1) st (.sym '{' :: (pairsToks kv ++ .sym '}' :: rest)) = some (.lit (.dict kv), rest) := by
  cases kv with
  | nil => simp [pairsToks, pPrimary]
  | cons a r =>
    have hp := pPairs_print (a :: r) (by simp) f rest hf
    have h : ∃ k ts, pairsToks (a :: r) = .str k :: ts := by
      obtain ⟨k, v⟩ := a
      cases r with
      | nil => exact ⟨_, _, rfl⟩
      | cons b r => exact ⟨_, _, rfl⟩
    obtain ⟨k, ts, h⟩ := h
    rw [h] at hp ⊢
    rw [pPrimary.eq_10 _ _ _ (by intro _ e; cases e), hp]

theorem exprToks_head {st : Bool} {e : Expr} (h : exprOk st e = true) :
    ∃ t ts, exprToks e = t :: ts ∧ t ≠ .name kwNot ∧ t ≠ .sym '-' := by
  revert e
  apply exprOk_induction
  case name => exact fun n hn => ⟨_, _, exprToks_mkVar st n, by simpa using (nameOk_ne hn).2.2.2.1, by simp⟩
  case atom =>
    intro a _
    obtain ⟨t, ts, ht, hh⟩ := atomToks_head a
    refine ⟨t, ts, ht, ?_, ?_⟩
    · rintro rfl
      cases a with
      | none => simp [atomToks, kwNot] at ht
      | bool b => cases b <;> simp [atomToks, kwNot] at ht
      | int i => cases i <;> simp [atomToks] at ht
      | str s => simp [atomToks] at ht
    · rintro rfl; simp [atomHead] at hh
  case len => exact fun a _ _ => ⟨_, _, rfl, by simp [kwLen, kwNot], by simp⟩
  case ix =>
    intro a i _ _ ⟨t, ts, ht, h1, h2⟩ _
    exact ⟨t, _, by rw [exprToks_mkIx, ht]; rfl, h1, h2⟩
  all_goals intros; exact ⟨_, _, rfl, by simp, by simp⟩

/-- what the induction over the expression carries: the primary part of the layout of `e` is read
    as some `p`, and the subscripts that follow rebuild `e` from `p`; two units of fuel per token
    suffice (what `readExprToks` gives) -/
def ReadsAs (st : Bool) (e : Expr) : Prop :=
  ∀ rest, noParen rest → ∃ p r,
    (∀ f, 2 * (exprToks e).length ≤ f → pPrimary f st (exprToks e ++ rest) = some (p, r)) ∧
    (∀ g res, pPostfix g st e rest = some res → pPostfix (g + 2 * (exprToks e).length) st p r = some res)

theorem ReadsAs.pExpr {st : Bool} {e : Expr} (h : ReadsAs st e) {f : Nat} {rest : List MTok}
    (hf : 2 * (exprToks e).length + 2 ≤ f) (h1 : noParen rest) (h2 : noBracket rest) :
    pExpr f st (exprToks e ++ rest) = some (e, rest) := by
  obtain ⟨p, r, hp, hq⟩ := h rest h1
  obtain ⟨f, rfl⟩ : ∃ f', f = f' + 1 := ⟨f - 1, by omega⟩
  rw [Raw.pExpr, hp f (by omega)]
  exact pPostfix_mono (by omega) (hq 1 _ (pPostfix.eq_3 _ _ _ _ h2))

theorem ReadsAs.of_primary {st : Bool} {e : Expr} (hc : 0 < (exprToks e).length)
    (hp : ∀ rest, noParen rest → ∀ f, 2 * (exprToks e).length ≤ f + 1 →
      pPrimary (f + 1) st (exprToks e ++ rest) = some (e, rest)) :
    ReadsAs st e :=
  fun rest hr => ⟨e, rest, fun f hf => by
    obtain ⟨f, rfl⟩ : ∃ f', f = f' + 1 := ⟨f - 1, by omega⟩
    exact hp rest hr f hf, fun _ _ h => pPostfix_mono (by omega) h⟩

theorem noParen_close (c : Char) (hc : c ≠ '(') (r : List MTok) : noParen (.sym c :: r) := by
  intro r' h; cases h; exact hc rfl
theorem noBracket_close (c : Char) (hc : c ≠ '[') (r : List MTok) : noBracket (.sym c :: r) := by
  intro r' h; cases h; exact hc rfl
theorem noParen_nil : noParen [] := by intro r' h; cases h
theorem noBracket_nil : noBracket [] := by intro r' h; cases h

theorem readsAs_ix {st : Bool} {a i : Expr} (ha : ReadsAs st a) (hi : ReadsAs st i) : ReadsAs st (mkIx st a i) := by
  intro rest hr
  obtain ⟨p, r, hp, hq⟩ := ha (.sym '[' :: (exprToks i ++ .sym ']' :: rest)) (noParen_close _ (by decide) _)
  have htoks : exprToks (mkIx st a i) ++ rest = exprToks a ++ .sym '[' :: (exprToks i ++ .sym ']' :: rest) := by
    simp
  have hl : (exprToks (mkIx st a i)).length = (exprToks a).length + (exprToks i).length + 2 := by
    simp only [exprToks_mkIx, List.length_append, List.length_cons, List.length_nil]; omega
  rw [hl]
  refine ⟨p, r, fun f hf => ?_, fun g res h => ?_⟩
  · rw [htoks]; exact hp f (by omega)
  · have hI := hi.pExpr (f := g + 2 * (exprToks i).length + 2) (rest := .sym ']' :: rest) (by omega)
      (noParen_close _ (by decide) _) (noBracket_close _ (by decide) _)
    have h2 : pPostfix (g + 2 * (exprToks i).length + 2 + 1) st a (.sym '[' :: (exprToks i ++ .sym ']' :: rest))
        = some res := by
      rw [pPostfix_ix hI]
      exact pPostfix_mono (by omega) h
    exact pPostfix_mono (by omega) (hq _ _ h2)

/-- `( not a )` and `len ( a )`: two tokens, a sub-expression, the closing parenthesis -/
theorem readsAs_wrap {st : Bool} {a e : Expr} (t u : MTok) (ha : ReadsAs st a)
    (ht : exprToks e = t :: u :: (exprToks a ++ [.sym ')']))
    (hp : ∀ f rest, Raw.pExpr f st (exprToks a ++ .sym ')' :: rest) = some (a, .sym ')' :: rest) →
      pPrimary (f + 1) st (t :: u :: (exprToks a ++ .sym ')' :: rest)) = some (e, rest)) : ReadsAs st e := by
  have hl : (exprToks e).length = (exprToks a).length + 3 := by simp [ht]
  refine .of_primary (by omega) fun rest hr f hf => ?_
  rw [ht, List.cons_append, List.cons_append, List.append_assoc]
  exact hp f rest (ha.pExpr (by omega) (noParen_close _ (by decide) _) (noBracket_close _ (by decide) _))

theorem readsAs_print (st : Bool) (e : Expr) (h : exprOk st e = true) : ReadsAs st e := by
  revert e
  apply exprOk_induction
  case name =>
    intro n hn
    refine .of_primary (by simp) fun rest hr f _ => ?_
    rw [exprToks_mkVar]; exact pPrimary_name hn hr
  case atom =>
    intro a _
    obtain ⟨t, ts, ht, _⟩ := atomToks_head a
    exact .of_primary (by simp [exprToks, ht]) fun rest hr f _ => pPrimary_atom a hr
  case list =>
    intro xs _
    refine .of_primary (by simp [exprToks]) fun rest hr f hf => ?_
    have := atomsToks_sep.length xs
    simp only [exprToks, List.length_append, List.length_cons, List.length_nil] at hf
    simpa [exprToks] using pPrimary_list (st := st) xs rest (f := f) (by omega)
  case dict =>
    intro kv _
    refine .of_primary (by simp [exprToks]) fun rest hr f hf => ?_
    have := pairsToks_sep.length kv
    simp only [exprToks, List.length_append, List.length_cons, List.length_nil] at hf
    simpa [exprToks] using pPrimary_dict (st := st) kv rest (f := f) (by omega)
  case eq =>
    intro a b oka _ ha hb
    obtain ⟨t, ts, hta, h1, h2⟩ := exprToks_head oka
    refine .of_primary (by simp [exprToks]) fun rest hr f hf => ?_
    simp only [exprToks, List.length_append, List.length_cons, List.length_nil] at hf
    have hA := ha.pExpr (f := f) (rest := .eqeq :: (exprToks b ++ .sym ')' :: rest)) (by omega)
      (fun _ h => by cases h) (fun _ h => by cases h)
    have hB := hb.pExpr (f := f) (rest := .sym ')' :: rest) (by omega)
      (noParen_close _ (by decide) _) (noBracket_close _ (by decide) _)
    rw [hta] at hA
    have : exprToks (.eq a b) ++ rest
        = .sym '(' :: t :: (ts ++ .eqeq :: (exprToks b ++ .sym ')' :: rest)) := by
      simp [exprToks, hta]
    rw [this]
    exact pPrimary_paren h1 h2 hA hB
  case not => exact fun a _ ha => readsAs_wrap (.sym '(') (.name kwNot) ha rfl fun f rest h => by simp [pPrimary, h]
  case len => exact fun a _ ha => readsAs_wrap (.name kwLen) (.sym '(') ha rfl fun f rest h => by simp [pPrimary, h]
  case ix => exact fun a i _ _ ha hi => readsAs_ix ha hi

theorem pExpr_print {st : Bool} {e : Expr} (h : exprOk st e = true) {f : Nat} {rest : List MTok}
    (hf : 2 * (exprToks e).length + 2 ≤ f) (h1 : noParen rest) (h2 : noBracket rest) :
    pExpr f st (exprToks e ++ rest) = some (e, rest) :=
  (readsAs_print st e h).pExpr hf h1 h2

/-- with the fuel the callers give: twice the number of tokens ahead, plus two -/
theorem pExpr_print' {st : Bool} {e : Expr} (h : exprOk st e = true) {rest : List MTok}
    (h1 : noParen rest) (h2 : noBracket rest) :
    pExpr (2 * (exprToks e ++ rest).length + 2) st (exprToks e ++ rest) = some (e, rest) :=
  pExpr_print h (by simp only [List.length_append]; omega) h1 h2

theorem pExpr_print_sym {st : Bool} {e : Expr} (h : exprOk st e = true) {c : Char} (h1 : c ≠ '(') (h2 : c ≠ '[')
    (rest : List MTok) :
    pExpr (2 * (exprToks e ++ .sym c :: rest).length + 2) st (exprToks e ++ .sym c :: rest) = some (e, .sym c :: rest) :=
  pExpr_print' h (noParen_close _ h1 _) (noBracket_close _ h2 _)

theorem readExprToks_print (st : Bool) (e : Expr) (h : exprOk st e = true) :
    readExprToks st (exprToks e) = some e := by
  have := pExpr_print' h (rest := []) noParen_nil noBracket_nil
  simp only [List.append_nil] at this
  simp [readExprToks, this]

/-- behind a leading name, the layout of an expression goes on with `(` (after `len`), with `[`,
    or is over -/
theorem exprToks_second {st : Bool} {e : Expr} (h : exprOk st e = true) {rest r : List MTok} {f : Name}
    {t2 : MTok} (heq : exprToks e ++ rest = .name f :: t2 :: r) :
    (f = kwLen ∧ t2 = .sym '(') ∨ t2 = .sym '[' ∨ rest = t2 :: r := by
  revert e rest r
  apply exprOk_induction
  case name =>
    intro n _ rest r heq
    simp only [exprToks_mkVar, List.cons_append, List.nil_append, List.cons.injEq] at heq
    exact .inr (.inr heq.2)
  case atom =>
    intro a _ rest r heq
    cases a with
    | none => simp only [exprToks, atomToks, List.cons_append, List.nil_append, List.cons.injEq] at heq; exact .inr (.inr heq.2)
    | bool b =>
      cases b <;>
      · simp only [exprToks, atomToks, List.cons_append, List.nil_append, List.cons.injEq] at heq
        exact .inr (.inr heq.2)
    | int i => cases i <;> simp [exprToks, atomToks] at heq
    | str s => simp [exprToks, atomToks] at heq
  case len =>
    intro a _ _ rest r heq
    simp only [exprToks, List.cons_append, List.cons.injEq, MTok.name.injEq] at heq
    exact .inl ⟨heq.1.symm, heq.2.1.symm⟩
  case ix =>
    intro a i _ _ iha _ rest r heq
    simp only [exprToks_mkIx, List.append_assoc, List.cons_append] at heq
    rcases iha heq with h' | h' | h'
    · exact .inl h'
    · exact .inr (.inl h')
    · simp only [List.cons.injEq] at h'; exact .inr (.inl h'.1.symm)
  all_goals (intros; rename_i heq; simp [exprToks] at heq)

theorem exprToks_not_kw {st : Bool} {e : Expr} (h : exprOk st e = true) {c : Char} (hc : c ≠ '=')
    (rest : List MTok) : ∀ k r, exprToks e ++ .sym c :: rest ≠ .name k :: .sym '=' :: r := by
  intro k r heq
  rcases exprToks_second h heq with h' | h' | h'
  · simp at h'
  · simp at h'
  · simp only [List.cons.injEq, MTok.sym.injEq] at h'; exact hc h'.1

theorem pArgs_print (st : Bool) (args : List Arg) (hne : args ≠ []) (kw : Bool) (f : Nat)
    (hok : args.all (argOk st) = true) (hord : argsOrdered kw args = true) (hf : args.length ≤ f) :
    pArgs f st kw (argsToks args ++ [.sym ')']) = some args := by
  induction args generalizing kw f with
  | nil => exact absurd rfl hne
  | cons a r ih =>
    obtain ⟨f, rfl⟩ : ∃ f', f = f' + 1 := ⟨f - 1, by simp at hf; omega⟩
    simp only [List.all_cons, Bool.and_eq_true] at hok
    obtain ⟨hoka, hokr⟩ := hok
    obtain ⟨k, e⟩ := a
    cases k with
    | none =>
      simp only [argsOrdered, Bool.and_eq_true, Bool.not_eq_true'] at hord
      obtain ⟨rfl, hord⟩ := hord
      simp only [argOk] at hoka
      cases r with
      | nil =>
        simp only [argsToks, argToks]
        rw [pArgs.eq_3 _ _ _ _ (exprToks_not_kw hoka (by decide) _), pExpr_print_sym hoka (by decide) (by decide)]
        rfl
      | cons b r =>
        rw [argsToks_sep.2.2, List.append_assoc, List.cons_append]
        simp only [argToks]
        rw [pArgs.eq_3 _ _ _ _ (exprToks_not_kw hoka (by decide) _), pExpr_print_sym hoka (by decide) (by decide)]
        simp only [ih (by simp) false f hokr hord (by simpa using hf)]
        rfl
    | some k =>
      simp only [argsOrdered] at hord
      simp only [argOk, Bool.and_eq_true] at hoka
      cases r with
      | nil =>
        simp only [argsToks, argToks, List.cons_append]
        rw [pArgs, pExpr_print_sym hoka.2 (c := ')') (by decide) (by decide)]
        rfl
      | cons b r =>
        rw [argsToks_sep.2.2, List.append_assoc, List.cons_append]
        simp only [argToks, List.cons_append]
        rw [pArgs, pExpr_print_sym hoka.2 (c := ',') (by decide) (by decide)]
        simp only [ih (by simp) true f hokr hord (by simpa using hf)]

theorem argsToks_ne_nil {st : Bool} {args : List Arg} (hne : args ≠ [])
    (hok : args.all (argOk st) = true) : ∃ t ts, argsToks args = t :: ts := by
  match args, hne with
  | (k, e) :: r, _ =>
    simp only [List.all_cons, Bool.and_eq_true] at hok
    have : ∃ t ts, argToks (k, e) = t :: ts := by
      cases k with
      | none =>
        obtain ⟨t, ts, h, _⟩ := exprToks_head (st := st) (e := e) (by simpa [argOk] using hok.1)
        exact ⟨t, ts, h⟩
      | some k => exact ⟨_, _, rfl⟩
    obtain ⟨t, ts, h⟩ := this
    cases r with
    | nil => exact ⟨t, ts, by simpa [argsToks] using h⟩
    | cons b r => exact ⟨t, _, by simp only [argsToks, h, List.cons_append]; rfl⟩

theorem readXToks_call {st : Bool} {n : Name} (hn : nameOk n = true) (args : List Arg)
    (hok : argsOk st args = true) :
    readXToks st (.name n :: .sym '(' :: (argsToks args ++ [.sym ')'])) = some (.call (mkVar st n) args) := by
  have hlen := (nameOk_ne hn).2.2.2.2.2
  simp only [argsOk, Bool.and_eq_true] at hok
  cases args with
  | nil => simp [readXToks, hlen, argsToks]
  | cons a r =>
    obtain ⟨t, ts, ht⟩ := argsToks_ne_nil (args := a :: r) (by simp) hok.1
    have hp := pArgs_print st (a :: r) (by simp) false ((argsToks (a :: r) ++ [MTok.sym ')']).length + 1)
      hok.1 hok.2 (by have := argsToks_sep.length (a :: r); simp only [List.length_append] at *; simp at *; omega)
    unfold readXToks
    simp only [hlen, if_false]
    split
    · next heq => rw [ht] at heq; simp at heq
    · rw [hp]; rfl

theorem readXToks_print (st : Bool) (x : XExpr) (h : xexprOk st x = true) :
    readXToks st (xexprToks x) = some x := by
  revert x
  apply xexprOk_cases
  case pure =>
    intro e h
    have hr := readExprToks_print st e h
    simp only [xexprToks]
    unfold readXToks
    split
    · next f r heq =>
      rcases exprToks_second h (rest := []) (by simpa using heq) with ⟨rfl, _⟩ | h' | h'
      · simp [hr]
      · simp at h'
      · simp at h'
    · simp [hr]
  case call =>
    intro n args hn hargs
    simpa [xexprToks] using readXToks_call hn args hargs

theorem pParams_print (st : Bool) (ps : List Param) (hne : ps ≠ []) (d : Bool) (f : Nat)
    (hok : ps.all (paramOk st) = true) (hord : paramsOrdered d ps = true) (hf : ps.length ≤ f) :
    pParams f st d (paramsToks ps ++ [.sym ')']) = some ps := by
  induction ps generalizing d f with
  | nil => exact absurd rfl hne
  | cons a r ih =>
    obtain ⟨f, rfl⟩ : ∃ f', f = f' + 1 := ⟨f - 1, by simp at hf; omega⟩
    simp only [List.all_cons, Bool.and_eq_true] at hok
    obtain ⟨hoka, hokr⟩ := hok
    obtain ⟨n, e⟩ := a
    cases e with
    | none =>
      simp only [paramsOrdered, Bool.and_eq_true, Bool.not_eq_true'] at hord
      obtain ⟨rfl, hord⟩ := hord
      cases r with
      | nil => simp [paramsToks, paramToks, pParams]
      | cons b r =>
        rw [paramsToks_sep.2.2, List.append_assoc, List.cons_append]
        simp [paramToks, pParams, ih (by simp) false f hokr hord (by simpa using hf)]
    | some e =>
      simp only [paramsOrdered] at hord
      simp only [paramOk, Bool.and_eq_true] at hoka
      cases r with
      | nil =>
        simp only [paramsToks, paramToks, List.cons_append]
        rw [pParams, pExpr_print_sym hoka.2 (c := ')') (by decide) (by decide)]
        rfl
      | cons b r =>
        rw [paramsToks_sep.2.2, List.append_assoc, List.cons_append]
        simp only [paramToks, List.cons_append]
        rw [pParams, pExpr_print_sym hoka.2 (c := ',') (by decide) (by decide)]
        simp only [ih (by simp) true f hokr hord (by simpa using hf)]

theorem pBinds_print (st : Bool) (bs : List (Name × Expr)) (hne : bs ≠ []) (f : Nat)
    (hok : (bs.all fun p => nameOk p.1 && exprOk st p.2) = true) (hf : bs.length ≤ f) :
    pBinds f st (bindsToks bs) = some bs := by
  induction bs generalizing f with
  | nil => exact absurd rfl hne
  | cons a r ih =>
    obtain ⟨f, rfl⟩ : ∃ f', f = f' + 1 := ⟨f - 1, by simp at hf; omega⟩
    simp only [List.all_cons, Bool.and_eq_true] at hok
    obtain ⟨⟨_, hoke⟩, hokr⟩ := hok
    obtain ⟨n, e⟩ := a
    cases r with
    | nil =>
      have := pExpr_print' hoke (rest := []) noParen_nil noBracket_nil
      simp only [List.append_nil] at this
      rw [bindsToks, pBinds, this]
    | cons b r =>
      simp only [bindsToks]
      rw [pBinds, pExpr_print_sym hoke (c := ';') (by decide) (by decide)]
      simp only [ih (by simp) f hokr (by simpa using hf)]
      rfl

theorem optExpr_print (st : Bool) (o : Option Expr) (h : optOk st o = true) :
    optExpr st (optToks o) = some o := by
  cases o with
  | none => simp [optExpr, optToks]
  | some e =>
    simp only [optOk] at h
    obtain ⟨t, ts, ht, _⟩ := exprToks_head h
    have hne : (exprToks e).isEmpty = false := by rw [ht]; rfl
    simp [optExpr, optToks, hne, readExprToks_print st e h]

theorem readDirToks_print (st : Bool) (d : Dir) (h : dirOk st d = true) :
    readDirToks st d.name (dirToks d) = some d := by
  cases d with
  | def_ f ps =>
    simp only [dirOk, Bool.and_eq_true] at h
    obtain ⟨⟨hf, hok⟩, hord⟩ := h
    cases ps with
    | nil => rfl
    | cons p r =>
      have hp := pParams_print st (p :: r) (by simp) false
        ((paramsToks (p :: r) ++ [MTok.sym ')']).length + 1) hok hord
        (by have := paramsToks_sep.length (p :: r); simp only [List.length_append] at *; simp at *; omega)
      show (pParams _ st false _).map (Dir.def_ f) = _
      rw [hp]; rfl
  | when e =>
    show (optExpr st (optToks e)).map Dir.when = _
    rw [optExpr_print st e h]; rfl
  | otherwise => rfl
  | for_ v e =>
    simp only [dirOk, Bool.and_eq_true] at h
    show (readExprToks st (exprToks e)).map (Dir.for_ v) = _
    rw [readExprToks_print st e h.2]; rfl
  | if_ e =>
    show (readExprToks st (exprToks e)).map Dir.if_ = _
    rw [readExprToks_print st e h]; rfl
  | choose e =>
    show (optExpr st (optToks e)).map Dir.choose = _
    rw [optExpr_print st e h]; rfl
  | with_ bs =>
    simp only [dirOk, Bool.and_eq_true, Bool.not_eq_true', List.isEmpty_eq_false_iff] at h
    show (pBinds ((bindsToks bs).length + 1) st (bindsToks bs)).map Dir.with_ = _
    rw [pBinds_print st bs h.1 ((bindsToks bs).length + 1) h.2 (by have := bindsToks_sep.length bs; omega)]; rfl
  | _ => exact absurd h Bool.false_ne_true

end Genshi.Tmpl.Print
