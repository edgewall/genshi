/-
  C04: a relation between the answers of two interpreters, and its passage through the result
  combinators (`>>=`, `if`, `seq`, `mapSt`, `wrapOut`).  A simulation between interpreters is then proved
  clause by clause without looking inside an answer: success, failure and "out of fuel" are one case.
-/
import Genshi.Lemmas.TmplLim
namespace Genshi.Tmpl

/-- related answers: the left one is out of fuel (nothing is claimed), or both are the same output
    with states related by `P`, or both are failures -/
def ResRel {σ τ : Type} (P : σ → τ → Prop) (r : Res σ) (r' : Res τ) : Prop :=
  r = .error .fuel ∨ (∃ o s s', r = .ok (o, s) ∧ r' = .ok (o, s') ∧ P s s') ∨
    ∃ e e', r = .error e ∧ r' = .error e' ∧ e' ≠ .fuel

section
variable {σ τ : Type} {P : σ → τ → Prop}

theorem ResRel.ok {o : List Event} {s : σ} {s' : τ} (h : P s s') : ResRel P (.ok (o, s)) (.ok (o, s')) :=
  .inr (.inl ⟨o, s, s', rfl, rfl, h⟩)

theorem ResRel.err (e : Err) {e' : Err} (h : e' ≠ .fuel) : ResRel P (.error e : Res σ) (.error e' : Res τ) :=
  .inr (.inr ⟨e, e', rfl, rfl, h⟩)

theorem ResRel.same (e : Err) : ResRel P (.error e : Res σ) (.error e : Res τ) := by
  by_cases h : e = .fuel
  · exact .inl (by rw [h])
  · exact err e h

theorem ResRel.bind {α : Type} (x : Except Err α) {f : α → Res σ} {f' : α → Res τ}
    (h : ∀ a, x = .ok a → ResRel P (f a) (f' a)) : ResRel P (x >>= f : Except Err (List Event × σ)) (x >>= f' : Except Err (List Event × τ)) := by
  cases x with
  | error e => exact same e
  | ok a => exact h a rfl

theorem ResRel.ite (c : Prop) [Decidable c] {a b : Res σ} {a' b' : Res τ} (ha : ResRel P a a') (hb : ResRel P b b') :
    ResRel P (if c then a else b) (if c then a' else b') := by
  split
  · exact ha
  · exact hb

theorem ResRel.seq {Q : σ → τ → Prop} {r : Res σ} {r' : Res τ} {k : σ → Res σ} {k' : τ → Res τ}
    (h : ResRel Q r r') (hk : ∀ o s s', r = .ok (o, s) → r' = .ok (o, s') → Q s s' → ResRel P (k s) (k' s')) :
    ResRel P (Genshi.Tmpl.seq r k) (Genshi.Tmpl.seq r' k') := by
  rcases h with rfl | ⟨o, s, s', rfl, rfl, h⟩ | ⟨e, e', rfl, rfl, he⟩
  · exact .inl rfl
  · rcases hk o s s' rfl rfl h with h2 | ⟨o2, t, t', h2, h2', hp⟩ | ⟨e, e', h2, h2', he⟩
    · exact .inl (by simp [Genshi.Tmpl.seq, h2])
    · exact .inr (.inl ⟨o ++ o2, t, t', by simp [Genshi.Tmpl.seq, h2], by simp [Genshi.Tmpl.seq, h2'], hp⟩)
    · exact .inr (.inr ⟨e, e', by simp [Genshi.Tmpl.seq, h2], by simp [Genshi.Tmpl.seq, h2'], he⟩)
  · exact err e he

theorem ResRel.mapSt {Q : σ → τ → Prop} {r : Res σ} {r' : Res τ} {f : σ → σ} {f' : τ → τ}
    (h : ResRel P r r') (hf : ∀ o s s', r = .ok (o, s) → r' = .ok (o, s') → P s s' → Q (f s) (f' s')) :
    ResRel Q (Genshi.Tmpl.mapSt f r) (Genshi.Tmpl.mapSt f' r') := by
  rcases h with rfl | ⟨o, s, s', rfl, rfl, h⟩ | ⟨e, e', rfl, rfl, he⟩
  · exact .inl rfl
  · exact ok (hf o s s' rfl rfl h)
  · exact err e he

theorem ResRel.mapSt_right {Q : σ → τ → Prop} {r : Res σ} {r' : Res τ} {f' : τ → τ}
    (h : ResRel P r r') (hf : ∀ o s s', r = .ok (o, s) → r' = .ok (o, s') → P s s' → Q s (f' s')) :
    ResRel Q r (Genshi.Tmpl.mapSt f' r') := by
  simpa only [mapSt_id] using h.mapSt (f := fun s => s) hf

theorem ResRel.wrapOut {a b : Event} {r : Res σ} {r' : Res τ} (h : ResRel P r r') :
    ResRel P (Genshi.Tmpl.wrapOut a b r) (Genshi.Tmpl.wrapOut a b r') := by
  rcases h with rfl | ⟨o, s, s', rfl, rfl, h⟩ | ⟨e, e', rfl, rfl, he⟩
  · exact .inl rfl
  · exact ok h
  · exact err e he

theorem ResRel.of_ok {r : Res σ} {r' : Res τ} {o : List Event} {s : σ} (h : ResRel P r r') (hr : r = .ok (o, s)) :
    ∃ s', r' = .ok (o, s') ∧ P s s' := by
  subst hr
  rcases h with h | ⟨_, _, s', h, h', hp⟩ | ⟨_, _, h, _⟩
  · cases h
  · cases h; exact ⟨s', h', hp⟩
  · cases h

theorem ResRel.of_err {r : Res σ} {r' : Res τ} {e : Err} (h : ResRel P r r') (hr : r = .error e) (he : e ≠ .fuel) :
    ∃ e', r' = .error e' ∧ e' ≠ .fuel := by
  subst hr
  rcases h with h | ⟨_, _, _, h, _⟩ | ⟨_, e', _, h', he'⟩
  · cases h; exact absurd rfl he
  · cases h
  · exact ⟨e', h', he'⟩

theorem ResRel.of_approx {r0 r : Res σ} {r' : Res τ} (h0 : Approx r0 r) (h : ResRel P r r') : ResRel P r0 r' := by
  rcases h0 with rfl | rfl
  · exact .inl rfl
  · exact h

theorem ResRel.mapSt_left {Q : σ → τ → Prop} {r : Res σ} {r' : Res τ} {f : σ → σ}
    (h : ResRel P r r') (hf : ∀ o s s', r = .ok (o, s) → r' = .ok (o, s') → P s s' → Q (f s) s') :
    ResRel Q (Genshi.Tmpl.mapSt f r) r' := by
  simpa only [mapSt_id] using h.mapSt (f' := fun s => s) hf

/-- a relation that holds at every fuel holds for the answer reached -/
theorem ResRel.lim {f : Nat → Res σ} {r' : Res τ} (h : ∀ n, ResRel P (f n) r') : ResRel P (Lim f) r' := by
  by_cases hL : Lim f = .error .fuel
  · exact .inl hL
  · obtain ⟨n, hn⟩ := Lim_attained hL
    exact hn ▸ h n

end

end Genshi.Tmpl
