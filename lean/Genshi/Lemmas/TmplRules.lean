/-
  C04: big-step rules of the implementation model.  `IOk t st o st'`: with enough fuel task `t`
  renders `o` from state `st` and leaves `st'`; `IErr t st`: with enough fuel it fails (with an error
  that is not "out of fuel").  One rule per clause of `run`: the equation of `Run` for the clause
  (`Lemmas/TmplLim.lean`) read at a successful answer, as an iff; for failures the clauses that
  sequence or pass on.
-/
import Genshi.Lemmas.TmplLim
namespace Genshi.Tmpl

theorem IOk.congr {t t' : ITask} {st st' s1 : St} {o : List Event} (h : Run t st = Run t' st') :
    IOk t st o s1 ↔ IOk t' st' o s1 := by
  rw [IOk_iff_Run, IOk_iff_Run, h]

theorem ok_nil_iff {st st' : St} {o : List Event} : (.ok ([], st) : IRes) = .ok (o, st') ↔ o = [] ∧ st' = st := by
  simp [eq_comm]

theorem exists_cons_eq {α : Type} {c : α} {cs : List α} {P : α → List α → Prop} :
    (∃ c' cs', c :: cs = c' :: cs' ∧ P c' cs') ↔ P c cs :=
  ⟨fun ⟨_, _, h, hp⟩ => by cases h; exact hp, fun hp => ⟨c, cs, rfl, hp⟩⟩

theorem IOk.flat_nil_iff {st s2 : St} {o : List Event} : IOk (.flat []) st o s2 ↔ o = [] ∧ s2 = st := by
  rw [IOk_iff_Run, Run_flat_nil, ok_nil_iff]

theorem IOk.flat_cons_iff {e : CEv} {rest : List CEv} {st s2 : St} {o : List Event} :
    IOk (.flat (e :: rest)) st o s2 ↔
      ∃ o1 s1 o2, IOk (.ev e) st o1 s1 ∧ IOk (.flat rest) s1 o2 s2 ∧ o = o1 ++ o2 := by
  simp only [IOk_iff_Run, Run_flat_cons, seq_ok]

theorem IOk.flat_append_iff {a b : List CEv} {st s2 : St} {o : List Event} :
    IOk (.flat (a ++ b)) st o s2 ↔
      ∃ o1 s1 o2, IOk (.flat a) st o1 s1 ∧ IOk (.flat b) s1 o2 s2 ∧ o = o1 ++ o2 := by
  simp only [IOk_iff_Run, Run_flat_append, seq_ok]

theorem IOk.flat_single_iff {e : CEv} {st s1 : St} {o : List Event} :
    IOk (.flat [e]) st o s1 ↔ IOk (.ev e) st o s1 := IOk.congr (Run_flat_single ..)

theorem IOk.mkSub_iff {ds body} {st s1 : St} {o : List Event} :
    IOk (.flat (Genshi.Tmpl.mkSub ds body)) st o s1 ↔ IOk (.apply ds body) st o s1 := IOk.congr (Run_mkSub ..)

theorem IOk.ev_start (t a) (st : St) : IOk (.ev (.start t a)) st [startEv t a] st := ⟨1, rfl⟩
theorem IOk.ev_end (t) (st : St) : IOk (.ev (.end_ t)) st [endEv t] st := ⟨1, rfl⟩
theorem IOk.ev_text (s) (st : St) : IOk (.ev (.text s)) st [tx s] st := ⟨1, rfl⟩

theorem IOk.ev_pure {e : Expr} {st : St} {v : Val} {out : List Event}
    (hv : eval st.look e = .ok v) (ho : renderVal v = .ok out) : IOk (.ev (.xexpr (.pure e))) st out st :=
  ⟨1, by simp [run, hv, ho, bind, Except.bind, pure, Except.pure]⟩

theorem IOk.ev_call {f args} {st s1 : St} {o : List Event} {fv vs m scope}
    (hfv : eval st.look f = .ok fv)
    (hvs : evalArgs st.look args = .ok vs) (hm : getMacro st fv = .ok m)
    (hsc : bindParams st.look m.params vs = .ok scope) (h : IOk (.apply m.dirs m.body) (st.push scope) o s1) :
    IOk (.ev (.xexpr (.call f args))) st o s1.pop := by
  obtain ⟨k, h⟩ := h
  exact ⟨k + 1, by simp [run, hfv, hvs, hm, hsc, h, bind, Except.bind, mapSt]⟩

theorem IOk.ev_sub_iff {ds body} {st s1 : St} {o : List Event} :
    IOk (.ev (.sub ds body)) st o s1 ↔ IOk (.apply ds body) st o s1 := IOk.congr (Run_ev_sub ..)

theorem IOk.apply_nil_iff {body} {st s1 : St} {o : List Event} :
    IOk (.apply [] body) st o s1 ↔ IOk (.flat body) st o s1 := IOk.congr (Run_apply_nil ..)

theorem IOk.def_ (name params ds body) (st : St) :
    IOk (.apply (.def_ name params :: ds) body) st [] (st.define name ⟨params, ds, body⟩) := ⟨1, rfl⟩

theorem IOk.when_iff {e ds body} {st st' : St} {o : List Event} :
    IOk (.apply (.when e :: ds) body) st o st' ↔
      ∃ c cs, st.choice = c :: cs ∧
        ((c.matched = true ∧ o = [] ∧ st' = st) ∨
         (c.matched = false ∧ ∃ m, whenMatches st.look c e = .ok m ∧
            ((m = true ∧ IOk (.apply ds body) (st.setMatched c cs true) o st') ∨
             (m = false ∧ o = [] ∧ st' = st.setMatched c cs false)))) := by
  simp only [IOk_iff_Run, Run_when]
  cases st.choice with
  | nil => simp
  | cons c cs =>
    rw [exists_cons_eq]
    cases hm : c.matched with
    | true => simp only [hm, if_true, true_and, Bool.true_eq_false, false_and, or_false]; exact ok_nil_iff
    | false =>
      simp only [hm, Bool.false_eq_true, if_false, false_and, false_or, true_and]
      split
      · rename_i h
        exact ⟨fun h' => (nomatch h'), fun ⟨m, hmm, _⟩ => absurd h (by rw [whenMatches_ok_test hmm]; exact Bool.false_ne_true)⟩
      · simp only [bind_ok]
        refine exists_congr fun m => and_congr_right fun _ => ?_
        cases m with
        | true => simp
        | false => simpa [pure, Except.pure] using ok_nil_iff (st := st.setMatched c cs false)

theorem IOk.otherwise_iff {ds body} {st st' : St} {o : List Event} :
    IOk (.apply (.otherwise :: ds) body) st o st' ↔
      ∃ c cs, st.choice = c :: cs ∧
        ((c.matched = true ∧ o = [] ∧ st' = st) ∨
         (c.matched = false ∧ IOk (.apply ds body) (st.setMatched c cs true) o st')) := by
  simp only [IOk_iff_Run, Run_otherwise]
  cases st.choice with
  | nil => simp
  | cons c cs =>
    rw [exists_cons_eq]
    cases hm : c.matched with
    | true => simp only [hm, if_true, true_and, Bool.true_eq_false, false_and, or_false]; exact ok_nil_iff
    | false => simp only [hm, Bool.false_eq_true, if_false, false_and, false_or, true_and]

theorem IOk.for_iff {v e ds body} {st st' : St} {o : List Event} :
    IOk (.apply (.for_ v e :: ds) body) st o st' ↔
      ∃ it items, eval st.look e = .ok it ∧ iterItems it = .ok items ∧
        IOk (.loop v items ds body) st o st' := by
  simp only [IOk_iff_Run, Run_for, bind_ok]
  exact ⟨fun ⟨it, h1, items, h2, h3⟩ => ⟨it, items, h1, h2, h3⟩, fun ⟨it, items, h1, h2, h3⟩ => ⟨it, h1, items, h2, h3⟩⟩

theorem IOk.if_iff {e ds body} {st st' : St} {o : List Event} :
    IOk (.apply (.if_ e :: ds) body) st o st' ↔
      ∃ v, eval st.look e = .ok v ∧
        ((v.truthy = true ∧ IOk (.apply ds body) st o st') ∨ (v.truthy = false ∧ o = [] ∧ st' = st)) := by
  simp only [IOk_iff_Run, Run_if, bind_ok]
  refine exists_congr fun v => and_congr_right fun _ => ?_
  cases v.truthy with
  | true => simp
  | false => simpa [pure, Except.pure] using ok_nil_iff (st := st)

theorem IOk.choose_iff {e ds body} {st st' : St} {o : List Event} :
    IOk (.apply (.choose e :: ds) body) st o st' ↔
      ∃ v s1, evalOpt st.look e = .ok v ∧
        IOk (.apply ds body) { st with choice := ⟨false, e.isSome, v⟩ :: st.choice } o s1 ∧
        st' = s1.popChoice := by
  simp only [IOk_iff_Run, Run_choose, bind_ok, mapSt_ok]
  exact ⟨fun ⟨v, hv, s1, h⟩ => ⟨v, s1, hv, h⟩, fun ⟨v, s1, hv, h⟩ => ⟨v, hv, s1, h⟩⟩

theorem IOk.with_iff {bs ds body} {st st' : St} {o : List Event} :
    IOk (.apply (.with_ bs :: ds) body) st o st' ↔
      ∃ s1, IOk (.binds bs ds body) (st.push []) o s1 ∧ st' = s1.pop := by
  simp only [IOk_iff_Run, Run_with, mapSt_ok]

theorem IOk.loop_nil_iff {v ds body} {st st' : St} {o : List Event} :
    IOk (.loop v [] ds body) st o st' ↔ o = [] ∧ st' = st := by
  rw [IOk_iff_Run, Run_loop_nil, ok_nil_iff]

theorem IOk.loop_cons_iff {v item items ds body} {st st' : St} {o : List Event} :
    IOk (.loop v (item :: items) ds body) st o st' ↔
      ∃ o1 s1 o2, IOk (.apply ds body) (st.push [(v, item)]) o1 s1 ∧
        IOk (.loop v items ds body) s1.pop o2 st' ∧ o = o1 ++ o2 := by
  simp only [IOk_iff_Run, Run_loop_cons, seq_ok]

theorem IOk.binds_nil_iff {ds body} {st st' : St} {o : List Event} :
    IOk (.binds [] ds body) st o st' ↔ IOk (.apply ds body) st o st' := IOk.congr (Run_binds_nil ..)

theorem IOk.binds_cons_iff {x e bs ds body} {st st' : St} {o : List Event} :
    IOk (.binds ((x, e) :: bs) ds body) st o st' ↔
      ∃ v, eval st.look e = .ok v ∧ IOk (.binds bs ds body) (st.setTop x v) o st' := by
  simp only [IOk_iff_Run, Run_binds_cons, bind_ok]

/-! ### failing renders -/

theorem IErr.congr {t t' : ITask} {st st' : St} (h : Run t st = Run t' st') : IErr t st ↔ IErr t' st' := by
  rw [IErr_iff_Run, IErr_iff_Run, h]

theorem IErr.flat_nil_false {st : St} (h : IErr (.flat []) st) : False := by
  simp [IErr_iff_Run, Run_flat_nil] at h

theorem IErr.flat_cons_iff {e : CEv} {rest : List CEv} {st : St} :
    IErr (.flat (e :: rest)) st ↔ IErr (.ev e) st ∨ ∃ o s1, IOk (.ev e) st o s1 ∧ IErr (.flat rest) s1 := by
  simp only [IErr_iff_Run, IOk_iff_Run, Run_flat_cons, seq_fails]

theorem IErr.flat_append_iff {a b : List CEv} {st : St} :
    IErr (.flat (a ++ b)) st ↔ IErr (.flat a) st ∨ ∃ o s1, IOk (.flat a) st o s1 ∧ IErr (.flat b) s1 := by
  simp only [IErr_iff_Run, IOk_iff_Run, Run_flat_append, seq_fails]

theorem IErr.flat_single_iff {e : CEv} {st : St} : IErr (.flat [e]) st ↔ IErr (.ev e) st :=
  IErr.congr (Run_flat_single ..)

theorem IErr.ev_sub_iff {ds body} {st : St} : IErr (.ev (.sub ds body)) st ↔ IErr (.apply ds body) st :=
  IErr.congr (Run_ev_sub ..)

theorem IErr.apply_nil_iff {body} {st : St} : IErr (.apply [] body) st ↔ IErr (.flat body) st :=
  IErr.congr (Run_apply_nil ..)

theorem IErr.mkSub_iff {ds body} {st : St} :
    IErr (.flat (Genshi.Tmpl.mkSub ds body)) st ↔ IErr (.apply ds body) st := IErr.congr (Run_mkSub ..)

end Genshi.Tmpl
