/-
  C04 — the token-level printer round trip of the text-template scanner for ARBITRARY delimiters:
  under `Delims.ok` and the "no early occurrence of the end delimiter" conditions, a printed
  directive / comment is scanned as exactly one token (with its command and value), whatever
  follows it.  `Genshi/Lemmas/TmplScanPrint.lean` uses it at the default delimiters.
-/
import Genshi.Model.TmplScanD
import Genshi.Lemmas.TmplScan
namespace Genshi.Tmpl.ScanD
open Genshi.Tmpl.Scan Genshi.San

/-- the first occurrence of `p` in `s ++ p ++ rest` is the printed one: `p` does not occur in
    `s ++ p` starting inside `s` -/
def NoOcc (p s : Str) : Prop := ∀ rest, findSub p (s ++ p ++ rest) = some (s, rest)

theorem noOcc_nil (p : Str) : NoOcc p [] := by
  intro rest
  cases p with
  | nil => cases rest <;> simp [findSub, dropPrefix?]
  | cons c p' =>
    have h := dropPrefix?_append (c :: p') rest
    simp only [List.nil_append, List.cons_append] at h ⊢
    simp [findSub, h]

theorem noOcc_of_not_mem {p s : Str} {c : Char} {p' : Str} (hp : p = c :: p') (hs : c ∉ s) :
    NoOcc p s := by
  induction s with
  | nil => exact noOcc_nil p
  | cons a s ih =>
    intro rest
    have hca : c ≠ a := fun h => hs (by simp [h])
    have ih' := ih (fun h => hs (List.mem_cons_of_mem _ h)) rest
    subst hp
    simp only [List.cons_append, List.append_assoc] at ih' ⊢
    simp [findSub, dropPrefix?, hca, ih']

theorem lastCh_append (p : Char) (x y : Str) : lastCh p (x ++ y) = lastCh (lastCh p x) y := by
  induction x generalizing p with
  | nil => rfl
  | cons c x ih => exact ih c

theorem scanDGo_skip (d : Delims) (x : Str) : ∀ (k : Nat) (p : Char) (acc y : Str), x.length = k →
    scanDGo d k p acc (x ++ y) = scanDGo d 0 (lastCh p x) acc y := by
  induction x with
  | nil => intro k p acc y h; simp at h; subst h; rfl
  | cons c x ih =>
    intro k p acc y h
    cases k with
    | zero => simp at h
    | succ k =>
      simp only [List.length_cons, Nat.add_right_cancel_iff] at h
      simp only [List.cons_append, scanDGo, lastCh]
      exact ih k c acc y h

theorem scanDGo_dir (d : Delims) {p : Char} {acc X : Str} {m : DirM} (hp : p ≠ '\\')
    (hsd : d.sd ≠ []) (hm : matchDirD d X = some m) (hX : X = m.inner ++ d.ed ++ m.rest) :
    scanDGo d 0 p acc (d.sd ++ X) =
      flushText acc ++ RTok.dir m.inner m.cmd m.val ::
        scanDGo d 0 (lastCh p (d.sd ++ m.inner ++ d.ed)) [] m.rest := by
  obtain ⟨c, sd', hsd'⟩ := List.exists_cons_of_ne_nil hsd
  have e : d.sd ++ X = c :: (sd' ++ X) := by rw [hsd']; rfl
  have hdp : dropPrefix? d.sd (c :: (sd' ++ X)) = some X := by
    rw [← e]; exact dropPrefix?_append d.sd X
  have hk : scanDGo d (d.sd.length + m.inner.length + d.ed.length - 1) c [] (sd' ++ X) =
      scanDGo d 0 (lastCh p (d.sd ++ m.inner ++ d.ed)) [] m.rest := by
    have e2 : sd' ++ X = (sd' ++ m.inner ++ d.ed) ++ m.rest := by rw [hX]; simp
    rw [e2, scanDGo_skip d _ _ c [] m.rest (by simp [hsd']; omega)]
    congr 1
    rw [hsd']; rfl
  rw [e]
  conv => lhs; unfold scanDGo
  simp [hp, hdp, hm, hk]

theorem scanDGo_comment (d : Delims) {p : Char} {acc X body rest : Str} (hp : p ≠ '\\')
    (hsc : d.sc ≠ []) (hnd : (dropPrefix? d.sd (d.sc ++ X)).bind (matchDirD d) = none)
    (hm : matchCommentD d X = some (body, rest)) (hX : X = body ++ d.ec ++ rest) :
    scanDGo d 0 p acc (d.sc ++ X) =
      flushText acc ++ RTok.comment body ::
        scanDGo d 0 (lastCh p (d.sc ++ body ++ d.ec)) [] rest := by
  obtain ⟨c, sc', hsc'⟩ := List.exists_cons_of_ne_nil hsc
  have e : d.sc ++ X = c :: (sc' ++ X) := by rw [hsc']; rfl
  have hdp : dropPrefix? d.sc (c :: (sc' ++ X)) = some X := by
    rw [← e]; exact dropPrefix?_append d.sc X
  rw [e] at hnd
  have hk : scanDGo d (d.sc.length + body.length + d.ec.length - 1) c [] (sc' ++ X) =
      scanDGo d 0 (lastCh p (d.sc ++ body ++ d.ec)) [] rest := by
    have e2 : sc' ++ X = (sc' ++ body ++ d.ec) ++ rest := by rw [hX]; simp
    rw [e2, scanDGo_skip d _ _ c [] rest (by simp [hsc']; omega)]
    congr 1
    rw [hsc']; rfl
  rw [e]
  conv => lhs; unfold scanDGo
  simp [hp, hdp, hnd, hm, hk]

theorem ok_ed {d : Delims} (hd : d.ok = true) :
    ∃ c r, d.ed = c :: r ∧ isReWord c = false ∧ isReSpace c = false := by
  unfold Delims.ok at hd
  cases he : d.ed with
  | nil => simp [he] at hd
  | cons c r =>
    simp [he] at hd
    exact ⟨c, r, rfl, hd.2.1, hd.2.2⟩

theorem ok_ne {d : Delims} (hd : d.ok = true) : d.sd ≠ [] ∧ d.sc ≠ [] ∧ d.ec ≠ [] := by
  unfold Delims.ok at hd
  refine ⟨?_, ?_, ?_⟩ <;> (intro h; simp [h] at hd)

/-- the printed value with its trailing blank -/
def valPad (val : Str) : Str := if val.isEmpty then [] else val ++ [' ']

/-- what is between the delimiters of a printed directive -/
def dirInner (cmd val : Str) : Str := ' ' :: (cmd ++ ' ' :: valPad val)

/-- a directive the documentation describes, for the delimiters `d` -/
structure OkDirD (d : Delims) (cmd val : Str) : Prop where
  cmd_ne : cmd ≠ []
  cmd_word : ∀ c ∈ cmd, isReWord c = true
  /-- the end delimiter does not occur early in `val ␣ ED` -/
  val_free : NoOcc d.ed (valPad val)
  val_head : ∀ c, val.head? = some c → isReSpace c = false
  val_last : ∀ c, val.getLast? = some c → isReSpace c = false

theorem print_dirD (d : Delims) (cmd val rest : Str) :
    printDTok d (.dir cmd val) ++ rest = d.sd ++ (dirInner cmd val ++ d.ed ++ rest) := by
  cases hv : val.isEmpty <;> simp [printDTok, dirInner, valPad, hv]

theorem print_commentD (d : Delims) (b rest : Str) :
    printDTok d (.comment b) ++ rest = d.sc ++ (b ++ d.ec ++ rest) := by
  simp [printDTok]

theorem matchDirD_print (d : Delims) (hd : d.ok = true) {cmd val : Str} (ok : OkDirD d cmd val)
    (rest : Str) :
    matchDirD d (dirInner cmd val ++ d.ed ++ rest) = some ⟨dirInner cmd val, cmd, val, rest⟩ := by
  obtain ⟨e0, ed', hed, he0w, he0s⟩ := ok_ed hd
  obtain ⟨c0, cmd', rfl⟩ := List.exists_cons_of_ne_nil ok.cmd_ne
  have hc0 : isReSpace c0 = false := word_not_space (ok.cmd_word c0 (List.mem_cons_self ..))
  generalize hZ : valPad val ++ d.ed ++ rest = Z
  have hZhead : ∀ c, Z.head? = some c → isReSpace c = false := by
    intro c hc
    subst hZ
    cases val with
    | nil => simp [valPad, hed] at hc; subst hc; exact he0s
    | cons a v => simp [valPad] at hc; subst hc; exact ok.val_head a rfl
  have hZfind : findSub d.ed Z = some (valPad val, rest) := by
    subst hZ; exact ok.val_free rest
  have hstrip : rstripBy isReSpace (valPad val) = val := by
    cases val with
    | nil => simp [valPad, rstripBy]
    | cons a v =>
      simp only [valPad, List.isEmpty_cons, Bool.false_eq_true, if_false]
      rw [rstripBy_eq, Str.rstripBy_snoc_of_pos _ space_blank]
      exact Str.rstripBy_id _ _ ok.val_last
  have s1 := span_all (p := isReSpace) [' '] ((c0 :: cmd') ++ ' ' :: Z) (by simp [space_blank])
    (by intro c hc; simp at hc; subst hc; exact hc0)
  have s2 := span_all (p := isReWord) (c0 :: cmd') (' ' :: Z) ok.cmd_word
    (by intro c hc; simp at hc; subst hc; exact word_blank)
  have s3 := span_all (p := isReSpace) [' '] Z (by simp [space_blank]) hZhead
  have e : dirInner (c0 :: cmd') val ++ d.ed ++ rest = [' '] ++ ((c0 :: cmd') ++ ' ' :: Z) := by
    rw [← hZ]; simp [dirInner]
  have e3 : (' ' :: Z) = [' '] ++ Z := rfl
  unfold matchDirD
  simp only [e, s1.1, s1.2, s2.1, s2.2]
  simp only [e3, s3.1, s3.2, hZfind, hstrip]
  simp [dotNew_true, dirInner]

theorem matchCommentD_print (d : Delims) {b : Str} (h : NoOcc d.ec b) (rest : Str) :
    matchCommentD d (b ++ d.ec ++ rest) = some (b, rest) := by
  unfold matchCommentD
  rw [h rest]
  simp [dotNew_true]

/-- a printed directive at a position not preceded by a backslash is one token, and scanning
    resumes behind it (the character in front is then the last one of the printed directive) -/
theorem scanDGo_printed_dir (d : Delims) (hd : d.ok = true) {cmd val : Str} (ok : OkDirD d cmd val)
    (p : Char) (hp : p ≠ '\\') (acc rest : Str) :
    scanDGo d 0 p acc (printDTok d (.dir cmd val) ++ rest) =
      flushText acc ++ RTok.dir (dirInner cmd val) cmd val ::
        scanDGo d 0 (lastCh p (printDTok d (.dir cmd val))) [] rest := by
  have hm := matchDirD_print d hd ok rest
  have h := scanDGo_dir d (p := p) (acc := acc) hp (ok_ne hd).1 hm rfl
  have e1 := print_dirD d cmd val rest
  have e2 := print_dirD d cmd val []
  simp only [List.append_nil] at e2
  rw [e1, h, e2]
  simp

/-- a printed comment (that is not also matched as a directive) at a position not preceded by a
    backslash is one token -/
theorem scanDGo_printed_comment (d : Delims) (hd : d.ok = true) {b : Str} (h : NoOcc d.ec b)
    (p : Char) (hp : p ≠ '\\') (acc rest : Str)
    (hnd : (dropPrefix? d.sd (d.sc ++ (b ++ d.ec ++ rest))).bind (matchDirD d) = none) :
    scanDGo d 0 p acc (printDTok d (.comment b) ++ rest) =
      flushText acc ++ RTok.comment b ::
        scanDGo d 0 (lastCh p (printDTok d (.comment b))) [] rest := by
  have hm := matchCommentD_print d h rest
  have hs := scanDGo_comment d (p := p) (acc := acc) hp (ok_ne hd).2.1 hnd hm rfl
  have e1 := print_commentD d b rest
  have e2 := print_commentD d b []
  simp only [List.append_nil] at e2
  rw [e1, hs, e2]
  simp

/-- the same when the directive start delimiter is no prefix of anything beginning with the comment
    start delimiter (the two start delimiters part somewhere, as `{%` and `{#` do) -/
theorem scanDGo_printed_comment' (d : Delims) (hd : d.ok = true) {b : Str} (h : NoOcc d.ec b)
    (hsep : ∀ y, dropPrefix? d.sd (d.sc ++ y) = none)
    (p : Char) (hp : p ≠ '\\') (acc rest : Str) :
    scanDGo d 0 p acc (printDTok d (.comment b) ++ rest) =
      flushText acc ++ RTok.comment b ::
        scanDGo d 0 (lastCh p (printDTok d (.comment b))) [] rest :=
  scanDGo_printed_comment d hd h p hp acc rest (by rw [hsep]; rfl)

theorem lastCh_printed_dir (d : Delims) (hd : d.ok = true) (cmd val : Str) (p : Char) :
    lastCh p (printDTok d (.dir cmd val)) = lastCh ' ' d.ed := by
  obtain ⟨e0, ed', hed, _, _⟩ := ok_ed hd
  have e2 := print_dirD d cmd val []
  simp only [List.append_nil] at e2
  rw [e2, lastCh_append, lastCh_append, hed]
  rfl

theorem lastCh_printed_comment (d : Delims) (hd : d.ok = true) (b : Str) (p : Char) :
    lastCh p (printDTok d (.comment b)) = lastCh ' ' d.ec := by
  obtain ⟨e0, ec', hec⟩ := List.exists_cons_of_ne_nil (ok_ne hd).2.2
  have e2 := print_commentD d b []
  simp only [List.append_nil] at e2
  rw [e2, lastCh_append, lastCh_append, hec]
  rfl

def dEx : Delims := ⟨['<', '<'], ['>', '>'], ['<', '#'], ['#', '>']⟩

theorem dEx_ok : dEx.ok = true := by decide +kernel
theorem dEx_sd : dEx.sd = ['<', '<'] := rfl
theorem dEx_ed : dEx.ed = ['>', '>'] := rfl
theorem dEx_sc : dEx.sc = ['<', '#'] := rfl
theorem dEx_ec : dEx.ec = ['#', '>'] := rfl

theorem okDir_ex : OkDirD dEx ['i', 'f'] ['x'] where
  cmd_ne := by simp
  cmd_word := by
    intro c hc
    simp at hc
    rcases hc with rfl | rfl <;> decide +kernel
  val_free := noOcc_of_not_mem (c := '>') (p' := ['>']) rfl (by decide)
  val_head := by intro c hc; simp at hc; subst hc; decide +kernel
  val_last := by intro c hc; simp at hc; subst hc; decide +kernel

example (rest : Str) :
    scanD dEx ("<< if x >>".toList ++ rest) =
      RTok.dir " if x ".toList "if".toList "x".toList :: scanDGo dEx 0 '>' [] rest := by
  have h := scanDGo_printed_dir dEx dEx_ok okDir_ex '\n' (by decide) [] rest
  simpa [scanD, flushText, printDTok, dirInner, valPad, lastCh, dEx_sd, dEx_ed] using h

example (rest : Str) :
    scanD dEx ("<# note #>".toList ++ rest) =
      RTok.comment " note ".toList :: scanDGo dEx 0 '>' [] rest := by
  have h := scanDGo_printed_comment' dEx dEx_ok (b := " note ".toList)
    (noOcc_of_not_mem (c := '#') (p' := ['>']) rfl (by decide))
    (by intro y; simp [dEx, dropPrefix?]) '\n' (by decide) [] rest
  simpa [scanD, flushText, printDTok, lastCh, dEx_sc, dEx_ec] using h

end Genshi.Tmpl.ScanD
