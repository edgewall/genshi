/-
  C04: old text syntax — text outside directive lines reaches the parsed stream verbatim, modulo
  the `\#` escape: a template that is the escaped form of a `$`-free text parses to that text alone.
  Then the two facts about a printed directive line: at a line start it is one token (`scanOld_line`),
  and `splitLine` gives back its command and value (`splitLine_print`).
-/
import Genshi.Lemmas.TmplScanText
namespace Genshi.Tmpl.Scan
open Genshi.Gen

/-- a backslash in front of every `#` -/
def escapeOld : Str → Str
  | [] => []
  | c :: r => if c = '#' then '\\' :: '#' :: escapeOld r else c :: escapeOld r

theorem blank_backslash : isBlank '\\' = false := by decide
theorem blank_hash : isBlank '#' = false := by decide

theorem escapeOld_head (s : Str) : (escapeOld s).head? ≠ some '#' := by
  cases s with
  | nil => simp [escapeOld]
  | cons c r =>
    unfold escapeOld
    split
    · simp
    · rename_i h; simpa using h

theorem unescape_escapeOld (s : Str) : unescapeOld (escapeOld s) = s := by
  fun_induction escapeOld s
  case case1 => rfl
  case case2 r ih => rw [unescapeOld, ih]
  case case3 c r h ih =>
    rw [unescapeOld.eq_3 _ _ (fun r' hc hr => escapeOld_head r (by rw [hr]; rfl)), ih]

theorem matchOldLine_none {s : Str} (h : (s.dropWhile isBlank).head? ≠ some '#') : matchOldLine s = none := by
  unfold matchOldLine
  simp only
  split
  · rename_i c r heq; rw [heq] at h; simp at h
  · rfl

theorem escapeOld_ne_nil {s : Str} (h : s ≠ []) : escapeOld s ≠ [] := by
  cases s with
  | nil => exact absurd rfl h
  | cons c r => unfold escapeOld; split <;> simp

theorem escapeOld_cons (c : Char) (r : Str) : escapeOld (c :: r) = escapeOld [c] ++ escapeOld r := by
  simp only [escapeOld]; split <;> rfl

/-- escaped text does not start a directive line, if it holds a character outside `[ \t]` or what
    follows it does not start one -/
theorem escapeOld_noLine (s rest : Str)
    (h : (∃ c ∈ s, isBlank c = false) ∨ (rest.dropWhile isBlank).head? ≠ some '#') :
    matchOldLine (escapeOld s ++ rest) = none := by
  apply matchOldLine_none
  induction s with
  | nil => exact h.resolve_left (by simp)
  | cons c r ih =>
    by_cases hc : c = '#'
    · simp [escapeOld, hc, blank_backslash]
    · simp only [escapeOld, if_neg hc, List.cons_append, List.dropWhile_cons]
      split
      · rename_i hb
        refine ih (h.imp_left ?_)
        rintro ⟨d, hd, hdb⟩
        rcases List.mem_cons.mp hd with rfl | hd
        · rw [hb] at hdb; cases hdb
        · exact ⟨d, hd, hdb⟩
      · simpa using hc

/-- one character of escaped text that starts no directive line (the `#` of `\#` is not at a line start) -/
theorem scanOld_char (c : Char) (X : Str) (first : Bool) (p : Char) (acc : Str)
    (hm : matchOldLine (escapeOld [c] ++ X) = none) :
    scanOldGo 0 first p acc (escapeOld [c] ++ X) = scanOldGo 0 false c ((escapeOld [c]).reverse ++ acc) X := by
  by_cases hc : c = '#'
  · subst hc
    simp only [escapeOld, if_true, List.cons_append, List.nil_append] at hm ⊢
    conv => lhs; unfold scanOldGo
    simp only [hm]
    conv => lhs; unfold scanOldGo
    simp
  · simp only [escapeOld, if_neg hc, List.cons_append, List.nil_append] at hm ⊢
    conv => lhs; unfold scanOldGo
    simp [hm]

/-- escaped text holds no directive line, if it ends with a line feed or what follows it starts none;
    the scanner goes on behind it with the text pending -/
theorem scanOld_text : ∀ (s : Str) (q : Char) (first : Bool) (p : Char) (acc rest : Str),
    (q = '\n' ∨ (rest.dropWhile isBlank).head? ≠ some '#') →
    scanOldGo 0 first p acc (escapeOld (s ++ [q]) ++ rest) =
      scanOldGo 0 false q ((escapeOld (s ++ [q])).reverse ++ acc) rest
  | [], q, first, p, acc, rest, h =>
      scanOld_char q rest first p acc
        (escapeOld_noLine [q] rest (h.imp_left fun e => ⟨q, by simp, by rw [e]; decide⟩))
  | c :: s, q, first, p, acc, rest, h => by
      have hm := escapeOld_noLine (c :: (s ++ [q])) rest (h.imp_left fun e => ⟨q, by simp, by rw [e]; decide⟩)
      rw [List.cons_append, escapeOld_cons, List.append_assoc]
      rw [escapeOld_cons, List.append_assoc] at hm
      rw [scanOld_char c _ first p acc hm, scanOld_text s q false c _ rest h]
      simp

theorem scanOld_escaped_go (s : Str) (first : Bool) (p : Char) (acc : Str) :
    scanOldGo 0 first p acc (escapeOld s) = flushOld ((escapeOld s).reverse ++ acc) := by
  rcases List.eq_nil_or_concat s with rfl | ⟨s', q, rfl⟩
  · simp [escapeOld, scanOldGo]
  · simpa [scanOldGo] using scanOld_text s' q first p acc [] (.inr (by simp))

theorem scanOld_escaped {s : Str} (hne : s ≠ []) : scanOld (escapeOld s) = [.text (escapeOld s)] := by
  rw [scanOld, scanOld_escaped_go, flushOld_ne (by simpa using escapeOld_ne_nil hne)]
  simp

theorem parseOld_escaped_eq {s : Str} (hne : s ≠ []) : parseOld (escapeOld s) = interpolate s := by
  unfold parseOld
  rw [scanOld_escaped hne]
  exact parse_one_text fun _ => by rw [stepOld, unescape_escapeOld]

theorem parseOld_escaped {s : Str} (hne : s ≠ []) (h : ∀ c ∈ s, c ≠ '$') :
    parseOld (escapeOld s) = .ok [.text s] := by
  rw [parseOld_escaped_eq hne, interpolate_text hne h]

theorem oldDotall_off : TextScan.oldDotall = false := by decide
theorem oldMultiline_on : TextScan.oldMultiline = true := by decide

theorem dotOld_iff (c : Char) : dotOld c = true ↔ c ≠ '\n' := by
  simp [dotOld, oldDotall_off]

theorem matchOldLine_print (b line rest : Str) (c0 : Char) (hb : ∀ c ∈ b, isBlank c = true)
    (hc0 : San.isReWord c0 = true ∨ c0 = '#') (hl : ∀ c ∈ c0 :: line, c ≠ '\n') :
    matchOldLine (b ++ '#' :: c0 :: (line ++ '\n' :: rest)) = some (b, c0 :: (line ++ ['\n'])) := by
  have s1 := span_all (p := isBlank) b ('#' :: c0 :: (line ++ '\n' :: rest)) hb
    (by intro c hc; simp at hc; subst hc; exact blank_hash)
  have s2 := span_all (p := dotOld) (c0 :: line) ('\n' :: rest) (fun c hc => (dotOld_iff c).2 (hl c hc))
    (by intro c hc; simp at hc; subst hc; simp [dotOld, oldDotall_off])
  have e : c0 :: (line ++ '\n' :: rest) = (c0 :: line) ++ '\n' :: rest := rfl
  have hw : (San.isReWord c0 || decide (c0 = '#')) = true := by
    rcases hc0 with h | h <;> simp [h]
  unfold matchOldLine
  simp only [s1.1, s1.2]
  rw [if_pos (by simpa using hw), e, s2.1, s2.2]
  simp

theorem scanOldGo_skip (x : Str) : ∀ (k : Nat) (f : Bool) (p : Char) (acc y : Str), x.length = k → x ≠ [] →
    scanOldGo k f p acc (x ++ y) = scanOldGo 0 false (lastCh p x) acc y := by
  induction x with
  | nil => intro k f p acc y _ h; exact absurd rfl h
  | cons c x ih =>
    intro k f p acc y h _
    cases k with
    | zero => simp at h
    | succ k =>
      simp only [List.length_cons, Nat.add_right_cancel_iff] at h
      simp only [List.cons_append, scanOldGo, lastCh]
      cases x with
      | nil => simp at h; subst h; rfl
      | cons d x' => exact ih k false c acc y h (by simp)

theorem scanOld_line_aux (c p : Char) (first : Bool) (Y rest acc b body : Str)
    (hcond : (first || TextScan.oldMultiline && decide (p = '\n')) = true)
    (hm : matchOldLine (c :: (Y ++ '\n' :: rest)) = some (b, body))
    (hlen : (Y ++ ['\n']).length = b.length + body.length) :
    scanOldGo 0 first p acc (c :: (Y ++ '\n' :: rest)) =
      flushOld acc ++ OTok.line b body :: scanOldGo 0 false '\n' [] rest := by
  conv => lhs; unfold scanOldGo
  rw [if_pos hcond, hm]
  simp only
  have e : Y ++ '\n' :: rest = (Y ++ ['\n']) ++ rest := by simp
  rw [e, scanOldGo_skip (Y ++ ['\n']) (b.length + body.length) false c [] rest hlen (by simp), lastCh_snoc]

/-- a directive (or `##` comment) line at a line start is one token, and scanning goes on at the
    line start behind it -/
theorem scanOld_line (b line rest acc : Str) (c0 p : Char) (first : Bool) (hb : ∀ c ∈ b, isBlank c = true)
    (hc0 : San.isReWord c0 = true ∨ c0 = '#') (hl : ∀ c ∈ c0 :: line, c ≠ '\n')
    (hstart : first = true ∨ p = '\n') :
    scanOldGo 0 first p acc (b ++ '#' :: c0 :: (line ++ '\n' :: rest)) =
      flushOld acc ++ OTok.line b (c0 :: (line ++ ['\n'])) :: scanOldGo 0 false '\n' [] rest := by
  have hm := matchOldLine_print b line rest c0 hb hc0 hl
  have hcond : (first || TextScan.oldMultiline && decide (p = '\n')) = true := by
    rcases hstart with h | h <;> simp [h, oldMultiline_on]
  cases b with
  | nil =>
    have e : [] ++ '#' :: c0 :: (line ++ '\n' :: rest) = '#' :: ((c0 :: line) ++ '\n' :: rest) := rfl
    rw [e] at hm ⊢
    exact scanOld_line_aux '#' p first (c0 :: line) rest acc [] _ hcond hm (by simp)
  | cons b0 b' =>
    have e : (b0 :: b') ++ '#' :: c0 :: (line ++ '\n' :: rest) = b0 :: ((b' ++ '#' :: c0 :: line) ++ '\n' :: rest) := by
      simp
    rw [e] at hm ⊢
    exact scanOld_line_aux b0 p first (b' ++ '#' :: c0 :: line) rest acc (b0 :: b') _ hcond hm (by simp; omega)

/-- `split(None, 1)` of a printed line gives back the command and the value (with the line feed
    the old syntax leaves on it) -/
theorem splitLine_print (b cmd val : Str) (hb : ∀ c ∈ b, isBlank c = true)
    (hcmd : ∀ c ∈ cmd, San.isSpace c = false) (hne : cmd ≠ [])
    (hval : ∀ c, val.head? = some c → San.isSpace c = false) (hvne : val ≠ []) :
    splitLine b (cmd ++ ' ' :: (val ++ ['\n'])) = (cmd, some (val ++ ['\n'])) := by
  have hbs : ∀ c ∈ b, San.isSpace c = true := by
    intro c hc
    have := hb c hc
    simp only [isBlank, List.contains_iff_mem, show TextScan.oldBlank = [9, 32] by decide] at this
    simp only [List.mem_cons, List.not_mem_nil, or_false] at this
    have hc' : c = '\t' ∨ c = ' ' := by
      rcases this with h | h
      · left; rw [← Char.ofNat_toNat c, h]
      · right; rw [← Char.ofNat_toNat c, h]
    rcases hc' with rfl | rfl <;> decide
  obtain ⟨c0, cmd', rfl⟩ := List.exists_cons_of_ne_nil hne
  have hc0 := hcmd c0 (List.mem_cons_self ..)
  have s1 := span_all (p := San.isSpace) b ('#' :: (c0 :: cmd' ++ ' ' :: (val ++ ['\n']))) hbs
    (by intro c hc; simp at hc; subst hc; decide)
  have s2 := span_all (p := fun c => !San.isSpace c) (c0 :: cmd') (' ' :: (val ++ ['\n']))
    (by intro c hc; simp [hcmd c hc]) (by intro c hc; simp at hc; subst hc; decide)
  obtain ⟨v0, val', rfl⟩ := List.exists_cons_of_ne_nil hvne
  have hv0 := hval v0 rfl
  unfold splitLine
  simp only [s1.2, List.drop_succ_cons, List.drop_zero]
  have e0 : (c0 :: cmd' ++ ' ' :: (v0 :: val' ++ ['\n'])).dropWhile San.isSpace = c0 :: cmd' ++ ' ' :: (v0 :: val' ++ ['\n']) := by
    simp [hc0]
  simp only [e0, s2.1, s2.2]
  simp [hv0, show San.isSpace ' ' = true by decide]

end Genshi.Tmpl.Scan
