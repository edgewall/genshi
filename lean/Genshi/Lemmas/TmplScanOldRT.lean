/-
  C04: old text syntax — the printer round trip of the scanner.  A well-formed list of cooked
  tokens (literal texts, directive / comment lines), printed with a backslash in front of every
  `#` of the texts, scans back to itself.  This is the induction over token lists on top of the
  three cases of `TmplScanOld.lean` (escaped text, a directive line at a line start, unescape).
-/
import Genshi.Lemmas.TmplScanOld
namespace Genshi.Tmpl.Scan
open Genshi.Gen

/-- cooked tokens of the old syntax: literal text, or a directive / comment line `blanks#body` + line feed
    (`body` without the line feed) -/
inductive OCTok where
  | text (s : Str)
  | line (blanks body : Str)
  deriving Repr, DecidableEq, Inhabited

def printOldTok : OCTok → Str
  | .text s => escapeOld s
  | .line b body => b ++ '#' :: (body ++ ['\n'])

def printOld : List OCTok → Str
  | [] => []
  | t :: ts => printOldTok t ++ printOld ts

/-- what a raw token means (the line feed that ends a directive line is not part of its body) -/
def cookOld : OTok → OCTok
  | .text raw => .text (unescapeOld raw)
  | .line b body => .line b (if body.getLast? = some '\n' then body.dropLast else body)

/-- documented constructs: non-empty text; a line whose blanks are `[ \t]*`, whose body starts with a
    word character or `#` and holds no line feed -/
def OkOTok : OCTok → Prop
  | .text s => s ≠ []
  | .line b body => (∀ c ∈ b, isBlank c = true) ∧
      (∃ c0 r, body = c0 :: r ∧ (Genshi.San.isReWord c0 = true ∨ c0 = '#')) ∧ (∀ c ∈ body, c ≠ '\n')

/-- text tokens are maximal; a text in front of a line ends with a line feed (a directive must start a line) -/
def WFOld : List OCTok → Prop
  | [] => True
  | t :: ts => OkOTok t ∧ WFOld ts ∧
      (∀ s, t = .text s → ∀ u, ts.head? = some u → (∃ b body, u = .line b body) ∧ s.getLast? = some '\n')

/-- escaped text that ends with a line feed holds no directive line, whatever follows it; the
    scanner goes on behind it at a line start with the text pending -/
theorem scanOld_escaped_go_app : ∀ (s : Str) (first : Bool) (p : Char) (acc rest : Str),
    s.getLast? = some '\n' →
    scanOldGo 0 first p acc (escapeOld s ++ rest) =
      scanOldGo 0 false '\n' ((escapeOld s).reverse ++ acc) rest := by
  intro s first p acc rest h
  obtain ⟨s', rfl⟩ := List.getLast?_eq_some_iff.mp h
  exact scanOld_text s' '\n' first p acc rest (.inl rfl)

/-- the raw token the scanner yields for a printed cooked token -/
def rawOld : OCTok → OTok
  | .text s => .text (escapeOld s)
  | .line b body => .line b (body ++ ['\n'])

theorem cookOld_line (b body : Str) : cookOld (.line b (body ++ ['\n'])) = .line b body := by
  simp [cookOld]

theorem cookOld_text (s : Str) : cookOld (.text (escapeOld s)) = .text s := by
  simp [cookOld, unescape_escapeOld]

theorem cookOld_rawOld : ∀ (t : OCTok), cookOld (rawOld t) = t
  | .text s => cookOld_text s
  | .line b body => cookOld_line b body

theorem map_cookOld_rawOld (ts : List OCTok) : (ts.map rawOld).map cookOld = ts := by
  induction ts with
  | nil => rfl
  | cons t ts ih => simp only [List.map_cons, cookOld_rawOld, ih]

theorem flushOld_nil : flushOld [] = [] := rfl

theorem flushOld_escaped {s : Str} (hne : s ≠ []) :
    flushOld ((escapeOld s).reverse ++ []) = [.text (escapeOld s)] := by
  rw [flushOld_ne (by simpa using escapeOld_ne_nil hne)]
  simp

/-- the scanner on a printed well-formed token list; `acc` is the pending text, which may be
    non-empty only in front of a directive line (or the end) -/
theorem scan_old_print_go : ∀ (ts : List OCTok), WFOld ts → ∀ (first : Bool) (p : Char) (acc : Str),
    (first = true ∨ p = '\n') → (acc = [] ∨ ∀ s, ts.head? ≠ some (.text s)) →
    scanOldGo 0 first p acc (printOld ts) = flushOld acc ++ ts.map rawOld := by
  intro ts
  induction ts with
  | nil => intro _ first p acc _ _; simp [printOld, scanOldGo]
  | cons t ts ih =>
    intro wf first p acc hstart hacc
    obtain ⟨hok, wft, hnext⟩ := wf
    cases t with
    | text s =>
      have hacc : acc = [] := hacc.resolve_right (fun h => h s rfl)
      subst hacc
      have hne : s ≠ [] := hok
      rw [show printOld (.text s :: ts) = escapeOld s ++ printOld ts from rfl]
      cases ts with
      | nil =>
        rw [show printOld [] = [] from rfl, List.append_nil, scanOld_escaped_go, flushOld_escaped hne]
        rfl
      | cons u ts' =>
        obtain ⟨⟨b, body, hu⟩, hlast⟩ := hnext s rfl u rfl
        subst hu
        rw [scanOld_escaped_go_app s first p [] _ hlast,
          ih wft false '\n' _ (Or.inr rfl) (Or.inr (fun _ h => by cases h)), flushOld_escaped hne]
        rfl
    | line b body =>
      obtain ⟨hb, ⟨c0, r, hbody, hc0⟩, hnl⟩ := hok
      subst hbody
      have e : printOld (.line b (c0 :: r) :: ts) = b ++ '#' :: c0 :: (r ++ '\n' :: printOld ts) := by
        simp [printOld, printOldTok]
      rw [e, scanOld_line b r (printOld ts) acc c0 p first hb hc0 hnl hstart,
        ih wft false '\n' [] (Or.inr rfl) (Or.inl rfl)]
      simp [flushOld_nil, rawOld]

/-- the printer round trip of the old text syntax, raw form: a well-formed list of texts and
    directive / comment lines, printed (texts escaped), scans to exactly its raw tokens -/
theorem scan_old_print_raw (ts : List OCTok) (wf : WFOld ts) :
    scanOld (printOld ts) = ts.map rawOld := by
  unfold scanOld
  rw [scan_old_print_go ts wf true '\n' [] (Or.inl rfl) (Or.inl rfl)]
  simp [flushOld_nil]

theorem scan_old_print_roundtrip (ts : List OCTok) (wf : WFOld ts) :
    (scanOld (printOld ts)).map cookOld = ts := by
  rw [scan_old_print_raw ts wf, map_cookOld_rawOld]

/-- a text, a directive line with blanks in front, a comment line, a trailing text -/
def exOld : List OCTok :=
  [.text ['a', '#', 'b', '\n'], .line [' ', '\t'] ['i', 'f', ' ', 'x'], .line [] ['#', ' ', 'n', 'o', 't', 'e'],
   .text ['z', ' ']]

example : printOld exOld =
    ['a', '\\', '#', 'b', '\n', ' ', '\t', '#', 'i', 'f', ' ', 'x', '\n', '#', '#', ' ', 'n', 'o', 't', 'e', '\n',
     'z', ' '] := by decide +kernel

theorem exOld_wf : WFOld exOld := by
  simp only [exOld, WFOld, OkOTok]
  refine ⟨by simp, ⟨?_, ⟨?_, ⟨by simp, trivial, by simp⟩, by simp⟩, by simp⟩, by simp⟩
  · refine ⟨by decide, ⟨'i', _, rfl, Or.inl (by decide)⟩, by decide⟩
  · refine ⟨by simp, ⟨'#', _, rfl, Or.inr rfl⟩, by decide⟩

example : (scanOld (printOld exOld)).map cookOld = exOld := scan_old_print_roundtrip exOld exOld_wf

example : scanOld (printOld exOld) = exOld.map rawOld := scan_old_print_raw exOld exOld_wf

set_option maxRecDepth 8000 in
example : (scanOld (printOld exOld)).map cookOld = exOld := by decide +kernel

end Genshi.Tmpl.Scan
