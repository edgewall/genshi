/-
  C04: the printer round trip of the new text syntax: every well-formed token list, printed the way
  the documentation writes the constructs (with the documented escapes), is scanned to itself.
-/
import Genshi.Lemmas.TmplScanDPrint
namespace Genshi.Tmpl.Scan
open Genshi.San (isReSpace isReWord isSpace inRanges)
open Genshi.Gen

theorem scanNewGo_push {c p : Char} {acc X : Str}
    (h : c ≠ '{' ∨ p = '\\' ∨ (X.head? ≠ some '%' ∧ X.head? ≠ some '#')) :
    scanNewGo 0 p acc (c :: X) = scanNewGo 0 c (c :: acc) X := by
  conv => lhs; unfold scanNewGo
  split
  · rename_i hc
    simp only [Bool.and_eq_true, decide_eq_true_eq, bne_iff_ne, ne_eq] at hc
    obtain ⟨rfl, hp⟩ := hc
    rcases h with h | h | ⟨h1, h2⟩
    · exact absurd rfl h
    · exact absurd h hp
    · split
      · simp at h1
      · simp at h2
      · rfl
  · rfl

/-- every alternative of `_escape_re` starts with a backslash -/
theorem unescapeNew_cons {c : Char} (h : c ≠ '\\') (r : Str) : unescapeNew (c :: r) = c :: unescapeNew r := by
  apply unescapeNew.eq_7 <;> exact fun _ e _ => h e

theorem unescape_escape (s : Str) : unescapeNew (escapeNew s) = s := by
  fun_induction escapeNew s with
  | case1 => rfl
  | case2 r ih => rw [unescapeNew, ih]
  | case3 r ih => rw [unescapeNew, ih]
  | case4 r ih => rw [unescapeNew, ih]
  | case5 c r h1 h2 h3 ih => rw [unescapeNew_cons (by simpa using h1), ih]

theorem escape_head (r rest : Str) (hr1 : r.head? ≠ some '%') (hr2 : r.head? ≠ some '#')
    (h1 : rest.head? ≠ some '%') (h2 : rest.head? ≠ some '#') :
    (escapeNew r ++ rest).head? ≠ some '%' ∧ (escapeNew r ++ rest).head? ≠ some '#' := by
  fun_cases escapeNew r
  · exact ⟨h1, h2⟩
  · exact ⟨by simp, by simp⟩
  · exact ⟨by simp, by simp⟩
  · exact ⟨by simp, by simp⟩
  · exact ⟨hr1, hr2⟩

theorem escape_ne_nil {s : Str} (h : s ≠ []) : escapeNew s ≠ [] := by
  fun_cases escapeNew s
  · exact h
  all_goals exact List.cons_ne_nil _ _

theorem lastCh_escape (s : Str) : ∀ p, lastCh p (escapeNew s) = '\\' → lastCh p s = '\\' := by
  fun_induction escapeNew s with
  | case1 => intro p h; exact h
  | case2 r ih => intro p h; exact ih _ h
  | case3 r ih =>
    intro p h
    simp only [lastCh] at h ⊢
    exact ih _ h
  | case4 r ih =>
    intro p h
    simp only [lastCh] at h ⊢
    exact ih _ h
  | case5 c r h1 h2 h3 ih => intro p h; exact ih _ h

/-- escaped text is scanned as text: no directive or comment starts inside it -/
theorem scan_escaped (s : Str) : ∀ (p : Char) (acc rest : Str),
    rest.head? ≠ some '%' → rest.head? ≠ some '#' →
    scanNewGo 0 p acc (escapeNew s ++ rest) =
      scanNewGo 0 (lastCh p (escapeNew s)) ((escapeNew s).reverse ++ acc) rest := by
  fun_induction escapeNew s with
  | case1 => intro p acc rest _ _; rfl
  | case2 r ih =>
    intro p acc rest h1 h2
    simp only [List.cons_append]
    rw [scanNewGo_push (Or.inl (by decide)), scanNewGo_push (Or.inl (by decide)), ih _ _ _ h1 h2]
    simp [lastCh]
  | case3 r ih =>
    intro p acc rest h1 h2
    simp only [List.cons_append]
    rw [scanNewGo_push (Or.inl (by decide)), scanNewGo_push (Or.inr (Or.inl rfl)),
      scanNewGo_push (Or.inl (by decide)), ih _ _ _ h1 h2]
    simp [lastCh]
  | case4 r ih =>
    intro p acc rest h1 h2
    simp only [List.cons_append]
    rw [scanNewGo_push (Or.inl (by decide)), scanNewGo_push (Or.inr (Or.inl rfl)),
      scanNewGo_push (Or.inl (by decide)), ih _ _ _ h1 h2]
    simp [lastCh]
  | case5 c r hc1 hc2 hc3 ih =>
    intro p acc rest h1 h2
    simp only [List.cons_append]
    have hh : c ≠ '{' ∨ p = '\\' ∨ ((escapeNew r ++ rest).head? ≠ some '%' ∧ (escapeNew r ++ rest).head? ≠ some '#') := by
      by_cases hc : c = '{'
      · subst hc
        refine Or.inr (Or.inr (escape_head r rest ?_ ?_ h1 h2))
        · intro h; cases r with
          | nil => simp at h
          | cons d r' => simp at h; subst h; exact hc2 r' rfl rfl
        · intro h; cases r with
          | nil => simp at h
          | cons d r' => simp at h; subst h; exact hc3 r' rfl rfl
      · exact Or.inl hc
    rw [scanNewGo_push hh, ih _ _ _ h1 h2]
    simp [lastCh]

theorem find2_none_cons {a b c : Char} {x : Str} (h : find2 a b (c :: x) = none) :
    ¬(c = a ∧ x.head? = some b) ∧ find2 a b x = none := by
  simp only [find2] at h
  split at h
  · simp at h
  · rename_i hc
    simp only [Bool.and_eq_true, decide_eq_true_eq] at hc
    refine ⟨hc, ?_⟩
    split at h
    · simp at h
    · assumption

theorem find2_append {a b : Char} : ∀ (x y : Str), find2 a b x = none → y.head? ≠ some b →
    find2 a b (x ++ y) = (find2 a b y).map (fun uv => (x ++ uv.1, uv.2))
  | [], y, _, _ => by simp only [List.nil_append]; cases find2 a b y <;> rfl
  | c :: x, y, h, hy => by
    obtain ⟨hc, hx⟩ := find2_none_cons h
    have ih := find2_append x y hx hy
    have hc' : ¬(c = a ∧ (x ++ y).head? = some b) := by
      rintro ⟨rfl, hh⟩
      cases x with
      | nil => exact hy (by simpa using hh)
      | cons d x' => exact hc ⟨rfl, by simpa using hh⟩
    simp only [List.cons_append, find2]
    rw [if_neg (by simpa using hc'), ih]
    cases find2 a b y <;> simp

/-- what makes `{% cmd val %}` a directive the documentation describes -/
structure OkDir (cmd val : Str) : Prop where
  cmd_ne : cmd ≠ []
  cmd_word : ∀ c ∈ cmd, isReWord c = true
  val_free : find2 '%' '}' val = none
  val_head : ∀ c, val.head? = some c → isReSpace c = false
  val_last : ∀ c, val.getLast? = some c → isReSpace c = false

theorem noOcc_of_find2 {a b : Char} (hab : a ≠ b) {s : Str} (h : find2 a b s = none) : ScanD.NoOcc [a, b] s := by
  intro rest
  rw [ScanD.findSub_two, List.append_assoc, find2_append s _ h (by simpa using hab)]
  simp [find2]

theorem OkDir.toD {cmd val : Str} (ok : OkDir cmd val) : ScanD.OkDirD ScanD.dflt cmd val where
  cmd_ne := ok.cmd_ne
  cmd_word := ok.cmd_word
  val_free := by
    refine noOcc_of_find2 (by decide) ?_
    unfold ScanD.valPad
    split
    · rfl
    · rw [find2_append val _ ok.val_free (by decide)]; rfl
  val_head := ok.val_head
  val_last := ok.val_last

theorem print_dir_default (cmd val : Str) : ScanD.printDTok ScanD.dflt (.dir cmd val) = printNewTok (.dir cmd val) := by
  cases h : val.isEmpty <;> simp [ScanD.printDTok, printNewTok, ScanD.dflt, h]

theorem scanNewGo_printed_dir {cmd val : Str} (ok : OkDir cmd val) {p : Char} (hp : p ≠ '\\') (acc rest : Str) :
    scanNewGo 0 p acc (printNewTok (.dir cmd val) ++ rest) =
      flushText acc ++ RTok.dir (ScanD.dirInner cmd val) cmd val :: scanNewGo 0 '}' [] rest := by
  have h := ScanD.scanDGo_printed_dir _ ScanD.dflt_ok ok.toD p hp acc rest
  rwa [ScanD.lastCh_printed_dir _ ScanD.dflt_ok, ScanD.scanDGo_default, ScanD.scanDGo_default, print_dir_default] at h

theorem scanNewGo_printed_comment {b : Str} (ok : find2 '#' '}' b = none) {p : Char} (hp : p ≠ '\\') (acc rest : Str) :
    scanNewGo 0 p acc (printNewTok (.comment b) ++ rest) =
      flushText acc ++ RTok.comment b :: scanNewGo 0 '}' [] rest := by
  have h := ScanD.scanDGo_printed_comment' ScanD.dflt ScanD.dflt_ok (noOcc_of_find2 (by decide) ok) (fun _ => rfl) p hp acc rest
  rwa [ScanD.lastCh_printed_comment _ ScanD.dflt_ok, ScanD.scanDGo_default, ScanD.scanDGo_default] at h

def CTok.isText : CTok → Bool
  | .text _ => true
  | _ => false

/-- a construct the documentation describes: non-empty text; `{% word value %}` where the value
    holds no `%}` and starts and ends with a non-blank; a comment without `#}` inside -/
def OkTok : CTok → Prop
  | .text s => s ≠ []
  | .dir cmd val => OkDir cmd val
  | .comment b => find2 '#' '}' b = none

/-- well-formed token lists: every token is a documented construct, text tokens are maximal (no two
    in a row) and a text in front of a directive or comment does not end in a backslash (it would
    escape the delimiter: such a template cannot be written) -/
def WF : List CTok → Prop
  | [] => True
  | t :: ts => OkTok t ∧ WF ts ∧
      (∀ s, t = .text s → ∀ u, ts.head? = some u → u.isText = false ∧ lastCh ' ' s ≠ '\\')

theorem lastCh_cons (p q : Char) : ∀ (s : Str), s ≠ [] → lastCh p s = lastCh q s
  | [], h => absurd rfl h
  | _ :: _, _ => rfl

theorem print_head (ts : List CTok) (h : ∀ u, ts.head? = some u → u.isText = false) :
    (printNew ts).head? ≠ some '%' ∧ (printNew ts).head? ≠ some '#' := by
  cases ts with
  | nil => simp [printNew]
  | cons u r =>
    have hu := h u rfl
    cases u with
    | text s => simp [CTok.isText] at hu
    | dir cmd val => cases h : val.isEmpty <;> simp [printNew, printNewTok, h]
    | comment b => simp [printNew, printNewTok]

theorem scan_print_go : ∀ (ts : List CTok) (p : Char) (acc : Str), WF ts → (ts ≠ [] → p ≠ '\\') →
    (acc = [] ∨ ∀ u, ts.head? = some u → u.isText = false) →
    (scanNewGo 0 p acc (printNew ts)).map cook = (flushText acc).map cook ++ ts
  | [], p, acc, _, _, _ => by simp [printNew, scanNewGo]
  | .text s :: ts, p, acc, wf, hp, hacc => by
    obtain ⟨ok, wfts, hnext⟩ := wf
    obtain rfl := hacc.resolve_right fun h => by cases h (.text s) rfl
    have hnt : ∀ u, ts.head? = some u → u.isText = false := fun u hu => (hnext s rfl u hu).1
    obtain ⟨h1, h2⟩ := print_head ts hnt
    have hne : escapeNew s ≠ [] := escape_ne_nil ok
    rw [printNew, show printNewTok (.text s) = escapeNew s from rfl, scan_escaped s p [] _ h1 h2]
    rw [scan_print_go ts _ _ wfts ?_ (.inr hnt)]
    · rw [flushText_ne (by simpa using hne)]
      simp [flushText, cook, unescape_escape]
    · intro hts hl
      obtain ⟨u, r, rfl⟩ := List.exists_cons_of_ne_nil hts
      have := (hnext s rfl u rfl).2
      have hl' := lastCh_escape s p hl
      rw [lastCh_cons p ' ' s ok] at hl'
      exact this hl'
  | .dir cmd val :: ts, p, acc, wf, hp, _ => by
    obtain ⟨ok, wfts, _⟩ := wf
    rw [printNew, scanNewGo_printed_dir ok (hp (by simp))]
    simp only [List.map_append, List.map_cons, cook]
    rw [scan_print_go ts '}' [] wfts (fun _ => by decide) (.inl rfl)]
    simp [flushText]
  | .comment b :: ts, p, acc, wf, hp, _ => by
    obtain ⟨ok, wfts, _⟩ := wf
    rw [printNew, scanNewGo_printed_comment ok (hp (by simp))]
    simp only [List.map_append, List.map_cons, cook]
    rw [scan_print_go ts '}' [] wfts (fun _ => by decide) (.inl rfl)]
    simp [flushText]

theorem scan_print {ts : List CTok} (wf : WF ts) : (scanNew (printNew ts)).map cook = ts := by
  have := scan_print_go ts '\n' [] wf (fun _ => by decide) (.inl rfl)
  simpa [scanNew, flushText] using this

end Genshi.Tmpl.Scan
