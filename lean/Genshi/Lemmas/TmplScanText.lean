/-
  C04: text outside directives reaches the parsed stream verbatim (modulo the documented
  escapes): a template that is the escaped form of a text parses to `interpolate` of that text,
  to the text alone if it is `$`-free.
-/
import Genshi.Lemmas.TmplScanPrint
import Genshi.Lemmas.TmplSeg
namespace Genshi.Tmpl.Scan
open Genshi.Py.Lex (lex_expr Scannable textChunk)

theorem hasDollarBrace_free (s : Str) (h : ∀ c ∈ s, c ≠ '$') : hasDollarBrace s = false := by
  fun_induction hasDollarBrace s
  case case1 => exact absurd rfl (h '$' (by simp))
  case case2 ih => exact ih fun c hc => h c (List.mem_cons_of_mem _ hc)
  case case3 => rfl

/-- a `$`-free text is one piece -/
theorem interpolate_text {s : Str} (hne : s ≠ []) (h : ∀ c ∈ s, c ≠ '$') :
    interpolate s = .ok [.text s] := by
  have := interpolate_seg_of [(false, s)] ⟨hne, h, by simp, trivial⟩ (by simp [segSrc, hasDollarBrace_free s h])
  simpa [segSrc, pieceEv] using this

/-- the token loop on a single text token whose unescaped form is `x` -/
theorem parse_one_text {α : Type} {step : PSt → α → Except PErr PSt} {t : α} {x : Str}
    (h : ∀ s, step s t = do let evs ← interpolate x; pure (s.emit evs)) :
    result (parseToks step ⟨0, [], []⟩ [t]) = interpolate x := by
  simp only [parseToks, h]
  cases interpolate x with
  | error e => simp [result, bind, Except.bind]
  | ok evs => simp [result, bind, Except.bind, pure, Except.pure, PSt.emit]

theorem scanNew_escaped {s : Str} (hne : s ≠ []) : scanNew (escapeNew s) = [.text (escapeNew s)] := by
  have := scan_escaped s '\n' [] [] (by simp) (by simp)
  simp only [List.append_nil] at this
  rw [scanNew, this, scanNewGo, flushText_ne (by simpa using escape_ne_nil hne), List.reverse_reverse]

/-- the escaped form of a text is one text segment that `_escape_re` gives back: the parsed stream is
    `interpolate` of the text -/
theorem parseNew_escaped_eq {s : Str} (hne : s ≠ []) : parseNew (escapeNew s) = interpolate s := by
  unfold parseNew
  rw [scanNew_escaped hne]
  exact parse_one_text fun _ => by rw [stepNew, unescape_escape]

theorem parseNew_escaped {s : Str} (hne : s ≠ []) (h : ∀ c ∈ s, c ≠ '$') :
    parseNew (escapeNew s) = .ok [.text s] := by
  rw [parseNew_escaped_eq hne, interpolate_text hne h]

/-- text that needs no escape -/
def plainNew : Str → Bool
  | [] => true
  | '\\' :: _ => false
  | '{' :: '%' :: _ => false
  | '{' :: '#' :: _ => false
  | _ :: r => plainNew r

theorem escape_plain (s : Str) (h : plainNew s = true) : escapeNew s = s := by
  fun_induction plainNew s with
  | case1 => rfl
  | case2 => cases h
  | case3 => cases h
  | case4 => cases h
  | case5 c r h1 h2 h3 ih => rw [escapeNew.eq_5 _ _ h1 h2 h3, ih h]

theorem parseNew_plain {s : Str} (hne : s ≠ []) (h : ∀ c ∈ s, c ≠ '$') (hp : plainNew s = true) :
    parseNew s = .ok [.text s] := by
  have := parseNew_escaped hne h
  rwa [escape_plain s hp] at this

/-- plain text (no backslash, no start delimiter) is its own escaped form -/
theorem parseNew_plain_interpolate {s : Str} (hne : s ≠ []) (hp : plainNew s = true) :
    parseNew s = interpolate s := by
  have := parseNew_escaped_eq hne
  rwa [escape_plain s hp] at this

/-- **Expression boundaries in a text template.**  In plain text `pre ${inner} post` (no `$` in `pre`
    and `post`) the parsed stream is the text before, one EXPR event whose source is exactly `inner`
    (blanks stripped) and the text after — for every scannable `inner` (blanks, operators, words,
    string literals with braces inside, balanced braces nested to any depth). -/
theorem parseNew_expr (pre inner post : Str) (hpre : ∀ c ∈ pre, c ≠ '$') (hpost : ∀ c ∈ post, c ≠ '$')
    (hi : Scannable inner) (hin : inner ≠ [])
    (hp : plainNew (pre ++ '$' :: '{' :: (inner ++ '}' :: post)) = true)
    (hm : Py.Lex.unmodelled (pre ++ '$' :: '{' :: (inner ++ '}' :: post)) = false) :
    parseNew (pre ++ '$' :: '{' :: (inner ++ '}' :: post)) =
      .ok (flushBuf pre ++ [.expr (Py.Lex.stripAscii inner)] ++ flushBuf post) := by
  rw [parseNew_plain_interpolate (by simp) hp]
  unfold interpolate
  rw [hm, lex_expr pre inner post hpre hpost hi]
  simp only [Bool.and_false, Bool.false_eq_true, if_false]
  cases pre <;> cases post <;> cases inner <;> simp_all [textChunk, interpGo, flushBuf]

end Genshi.Tmpl.Scan
