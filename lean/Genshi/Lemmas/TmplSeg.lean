/-
  C04: `interpolate` on a run of any number of pieces (non-empty literal texts, `${…}` with a source
  that has no blanks at its ends): what `lex_expr` / `parseNew_expr` say of one expression between two
  texts, in the form the inversion theorem of the text-template reader needs; and: `unmodelled` (the
  domain test of the C03 lexer model) is inherited by infixes.
-/
import Genshi.Model.TmplScan
import Genshi.Lemmas.PyLex
namespace Genshi.Tmpl.Scan
open Genshi.Py.Lex (Scannable lexGo lex flush lexGo_text lexGo_expr lexGo_end textChunk unmodelled)

/-- source of a run of pieces: `(false, t)` literal text, `(true, s)` an expression `${s}` -/
def segSrc : List (Bool × Str) → Str
  | [] => []
  | (false, t) :: r => t ++ segSrc r
  | (true, s) :: r => '$' :: '{' :: (s ++ '}' :: segSrc r)

def pieceEv : Bool × Str → SEv
  | (false, t) => .text t
  | (true, s) => .expr s

/-- texts non-empty and `$`-free, never two texts in a row; expression sources scannable,
    non-empty and without blanks at their ends -/
def SegOK : List (Bool × Str) → Prop
  | [] => True
  | (false, t) :: r => t ≠ [] ∧ (∀ c ∈ t, c ≠ '$') ∧ (∀ p, r.head? = some p → p.1 = true) ∧ SegOK r
  | (true, s) :: r => Scannable s ∧ s ≠ [] ∧ Genshi.Py.Lex.stripAscii s = s ∧ SegOK r

theorem flush_rev (lit : Str) (out : List (Bool × Str)) :
    (flush lit out).reverse = out.reverse ++ textChunk lit.reverse := by
  cases lit <;> simp [flush, textChunk]

theorem lexGo_seg : ∀ (ps : List (Bool × Str)) (lit : Str) (out : List (Bool × Str)) (fuel : Nat), SegOK ps →
    (lit = [] ∨ ∀ p, ps.head? = some p → p.1 = true) → (segSrc ps).length + 1 ≤ fuel →
    lexGo fuel lit out (segSrc ps) = .ok (out.reverse ++ textChunk lit.reverse ++ ps)
  | [], lit, out, fuel, _, _, hf => by
      obtain ⟨f, rfl⟩ : ∃ f, fuel = f + 1 := ⟨fuel - 1, by simp [segSrc] at hf; omega⟩
      simp [segSrc, lexGo_end, flush_rev]
  | (false, t) :: r, lit, out, fuel, h, hl, hf => by
      obtain ⟨ht, hd, hh, hr⟩ := h
      obtain rfl := hl.resolve_right fun h => by cases h (false, t) rfl
      simp only [segSrc, List.length_append] at hf ⊢
      rw [lexGo_text t hd fuel [] out (segSrc r) (by omega)]
      rw [lexGo_seg r (t.reverse ++ []) out (fuel - t.length) hr (.inr hh) (by omega)]
      cases t with
      | nil => exact absurd rfl ht
      | cons c t' => simp [textChunk]
  | (true, s) :: r, lit, out, fuel, h, _, hf => by
      obtain ⟨hs, _, _, hr⟩ := h
      obtain ⟨f, rfl⟩ : ∃ f, fuel = f + 1 := ⟨fuel - 1, by simp [segSrc] at hf; omega⟩
      simp only [segSrc, List.length_cons, List.length_append] at hf ⊢
      rw [lexGo_expr f lit out s (segSrc r) hs]
      rw [lexGo_seg r [] _ f hr (.inl rfl) (by omega)]
      simp [flush_rev, textChunk]

theorem lex_seg (ps : List (Bool × Str)) (h : SegOK ps) : lex (segSrc ps) = .ok ps := by
  unfold lex
  rw [lexGo_seg ps [] [] _ h (.inl rfl) (Nat.le_refl _)]
  simp [textChunk]

theorem interpGo_seg : ∀ (ps : List (Bool × Str)) (buf : Str), SegOK ps →
    (buf = [] ∨ ∀ p, ps.head? = some p → p.1 = true) →
    interpGo buf ps = flushBuf buf ++ ps.map pieceEv
  | [], buf, _, _ => by simp [interpGo]
  | (false, t) :: r, buf, h, hb => by
      obtain ⟨ht, _, hh, hr⟩ := h
      obtain rfl := hb.resolve_right fun h => by cases h (false, t) rfl
      simp only [interpGo, List.nil_append]
      rw [interpGo_seg r t hr (.inr hh)]
      cases t with
      | nil => exact absurd rfl ht
      | cons c t' => simp [flushBuf, pieceEv]
  | (true, s) :: r, buf, h, _ => by
      obtain ⟨_, hne, hst, hr⟩ := h
      simp only [interpGo]
      rw [interpGo_seg r [] hr (.inl rfl)]
      cases s with
      | nil => exact absurd rfl hne
      | cons c s' => simp [flushBuf, pieceEv, hst]

/-- `interpolate` asks for the domain of the lexer model only where the text holds a `${` -/
theorem interpolate_seg_of (ps : List (Bool × Str)) (h : SegOK ps)
    (hm : (hasDollarBrace (segSrc ps) && unmodelled (segSrc ps)) = false) :
    interpolate (segSrc ps) = .ok (ps.map pieceEv) := by
  unfold interpolate
  rw [hm, lex_seg ps h]
  simp only [Bool.false_eq_true, if_false]
  rw [interpGo_seg ps [] h (.inl rfl)]
  simp [flushBuf]

theorem interpolate_seg (ps : List (Bool × Str)) (h : SegOK ps) (hm : unmodelled (segSrc ps) = false) :
    interpolate (segSrc ps) = .ok (ps.map pieceEv) :=
  interpolate_seg_of ps h (by rw [hm, Bool.and_false])

/-! ### `unmodelled` looks at most two characters ahead -/

/-- the window of `unmodelled` at one position -/
def win (c : Char) (r : Str) : Bool :=
  match c, r with
  | '\'', '\'' :: '\'' :: _ => true
  | '"', '"' :: '"' :: _ => true
  | '\\', '\n' :: _ => true
  | '\\', '\r' :: _ => true
  | _, _ => false

theorem unmodelled_cons (c : Char) (r : Str) :
    unmodelled (c :: r) = (decide (c.toNat ≥ 128) || win c r || unmodelled r) := by
  rfl

theorem win_prefix (c : Char) (a b : Str) (h : win c (a ++ b) = false) : win c a = false := by
  -- where the window fires on `a`, the same characters head `a ++ b`
  fun_cases win c a
  · exact h
  · exact h
  · exact h
  · exact h
  · rfl

theorem unmodelled_append_right : ∀ (a b : Str), unmodelled (a ++ b) = false → unmodelled b = false
  | [], _, h => h
  | c :: a, b, h => by
      rw [List.cons_append, unmodelled_cons] at h
      simp only [Bool.or_eq_false_iff] at h
      exact unmodelled_append_right a b h.2

theorem unmodelled_append_left : ∀ (a b : Str), unmodelled (a ++ b) = false → unmodelled a = false
  | [], _, _ => rfl
  | c :: a, b, h => by
      rw [List.cons_append, unmodelled_cons] at h
      simp only [Bool.or_eq_false_iff] at h
      rw [unmodelled_cons]
      simp only [Bool.or_eq_false_iff]
      exact ⟨⟨h.1.1, win_prefix c a b h.1.2⟩, unmodelled_append_left a b h.2⟩

theorem unmodelled_infix (a b c : Str) (h : unmodelled (a ++ (b ++ c)) = false) : unmodelled b = false :=
  unmodelled_append_left b c (unmodelled_append_right a _ h)

end Genshi.Tmpl.Scan
