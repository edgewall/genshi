/-
  C04: the implementation model simulates the documentation semantics: what both simulations
  (`sim_fwd`, `Lemmas/TmplSimMain.lean`, and `sim_bwd`, `Lemmas/TmplSimRev.lean`) rest on.  Directives
  about to be applied to a target (`DirsWF`); what `attach` does to them (`attach_prefix`,
  `attach_content`, `run_after_replace`); the relation between the two states (`SimG`, with one lemma
  per operation on the state) and the tasks (`taskOf`, `TaskWF`, `BindsPre`).
-/
import Genshi.Lemmas.TmplOrder
import Genshi.Lemmas.TmplLim
namespace Genshi.Tmpl

def targetBody : Target → List CEv
  | .elem tag attrs kids => .start tag attrs :: (compileNodes kids ++ [.end_ tag])
  | .frag kids => compileNodes kids

def Target.kids : Target → List TNode
  | .elem _ _ kids => kids
  | .frag kids => kids

def TargetOK (ds : List Dir) : Target → Prop
  | .elem _ _ _ => True
  | .frag _ => ∀ d ∈ ds, d.elemOnly = false

theorem TargetOK.tail {d : Dir} {ds : List Dir} {t : Target} (h : TargetOK (d :: ds) t) : TargetOK ds t := by
  cases t with
  | elem => trivial
  | frag kids => intro x hx; exact h x (List.mem_cons_of_mem _ hx)

/-- directives about to be applied to a target: strictly in the documented order (what sorting makes of the
    directives of a `wfNode`, none of which occurs twice), the element-only ones on an element, the children well-formed -/
structure DirsWF (ds : List Dir) (t : Target) : Prop where
  sorted : StrictSorted ds
  tok : TargetOK ds t
  wf : wfNodes t.kids = true

theorem DirsWF.tail {d ds t} (h : DirsWF (d :: ds) t) : DirsWF ds t :=
  ⟨h.sorted.tail, h.tok.tail, h.wf⟩

theorem DirsWF.not_frag {d ds kids} (h : DirsWF (d :: ds) (.frag kids)) (he : d.elemOnly = true) : False := by
  rw [h.tok d (List.mem_cons_self ..)] at he; cases he

theorem DirsWF.content {ds tag attrs kids} (h : DirsWF ds (.elem tag attrs kids)) (x : XExpr) :
    DirsWF ds (.elem tag attrs [.expr x]) := ⟨h.sorted, trivial, rfl⟩

theorem DirsWF.of_elem {tag attrs dirs kids} (h : wfNode (.elem tag attrs dirs kids) = true) :
    DirsWF (sortBy Dir.docIdx dirs) (.elem tag attrs kids) := by
  simp only [wfNode, Bool.and_eq_true, decide_eq_true_eq] at h
  exact ⟨sortBy_docIdx_strict dirs h.1, trivial, h.2⟩

theorem DirsWF.of_delem {d kids} (h : wfNode (.delem d kids) = true) : DirsWF [d] (.frag kids) := by
  simp only [wfNode, Bool.and_eq_true, Bool.not_eq_true'] at h
  exact ⟨by simp [StrictSorted], by intro x hx; simp at hx; subst hx; exact h.1, h.2⟩

/-- the directives `attach` keeps in the list: all but `py:replace` and `py:content`, which
    rewrite the sub-stream and leave no run-time directive -/
def Dir.kept : Dir → Bool
  | .replace _ | .content _ => false
  | _ => true

theorem attach_keep {d : Dir} (h : d.kept = true) (ds : List Dir) (body : List CEv) :
    attach (d :: ds) body = (d :: (attach ds body).1, (attach ds body).2) := by
  cases d <;> first | rfl | cases h

theorem attach_prefix (pre : List Dir) (h : ∀ d ∈ pre, d.kept = true) (tl : List Dir) (body : List CEv) :
    attach (pre ++ tl) body = (pre ++ (attach tl body).1, (attach tl body).2) := by
  induction pre with
  | nil => rfl
  | cons d pre ih =>
    rw [List.cons_append, attach_keep (h d (List.mem_cons_self ..)), ih fun x hx => h x (List.mem_cons_of_mem _ hx)]
    rfl

theorem attach_no_rewrite (ds : List Dir) (body : List CEv)
    (h : ∀ d ∈ ds, d.rank ≠ 8 ∧ d.rank ≠ 9) : attach ds body = (ds, body) := by
  have hk : ∀ d ∈ ds, d.kept = true := fun d hd => by
    have hd := h d hd
    cases d <;> first | rfl | exact absurd rfl hd.1 | exact absurd rfl hd.2
  simpa [attach] using attach_prefix ds hk [] body

theorem getLast_body (t a) (ks : List CEv) (e : CEv) :
    (CEv.start t a :: (ks ++ [e])).getLast?.getD (.start t a) = e := by
  simp [List.getLast?_cons]

/-- `py:content` at `attach`: the element keeps its tags, around the one EXPR event -/
theorem attach_content (x : XExpr) (ds : List Dir) (tag : Name) (attrs : List (Name × Str)) (kids : List TNode) :
    attach (.content x :: ds) (targetBody (.elem tag attrs kids)) =
      attach ds (targetBody (.elem tag attrs [.expr x])) := by
  simp only [targetBody, attach, getLast_body]
  simp [compileNodes, compileNode]

theorem compileNodes_cons (n : TNode) (ns : List TNode) :
    compileNodes (n :: ns) = compileNode n ++ compileNodes ns := by simp [compileNodes]

theorem dropLast_body (ks : List CEv) (e : CEv) : (ks ++ [e]).dropLast = ks := by simp

/-- `py:strip` leaves of the sub-stream of an element that of the element or that of its content -/
theorem stripBody_elem (look : Name → Val) (c : Option Expr) (tag : Name) (attrs : List (Name × Str))
    (kids : List TNode) :
    stripBody look c (targetBody (.elem tag attrs kids)) =
      (do let b ← stripCond look c; pure (targetBody (if b then .frag kids else .elem tag attrs kids))) := by
  simp only [targetBody, stripBody]
  refine bind_congr fun b => ?_
  cases b with
  | false => rfl
  | true =>
    cases h : compileNodes kids ++ [.end_ tag] with
    | nil => simp at h
    | cons x r => simp only [↓reduceIte]; rw [← h]; simp

/-- `py:attrs` leaves of the sub-stream of an element that of the element with the attributes merged in -/
theorem attrsHead_elem (look : Name → Val) (e : Expr) (tag : Name) (attrs : List (Name × Str)) (kids : List TNode) :
    attrsHead look e (targetBody (.elem tag attrs kids)) =
      (do let v ← eval look e
          let ps ← attrsPairs v
          pure (targetBody (.elem tag (Genshi.Escape.Attrs.or attrs ps) kids))) := rfl

/-- after `py:replace` nothing else on the element has any effect: `py:content` finds no element
    at `attach` and goes, `py:attrs` / `py:strip` find none at run time and pass the EXPR event on -/
theorem run_after_replace (x : XExpr) : ∀ ds : List Dir, StrictSorted (.replace x :: ds) →
    (attach ds [.xexpr x]).2 = [.xexpr x] ∧ ∀ (k : Nat) (st : St),
      run (k + 1) (.apply (attach ds [.xexpr x]).1 [.xexpr x]) st = run k (.flat [.xexpr x]) st := by
  intro ds
  induction ds with
  | nil => intro _; exact ⟨rfl, fun _ _ => rfl⟩
  | cons d ds ih =>
    intro hs
    have hd := hs.head_lt d (List.mem_cons_self ..)
    cases d <;> simp [Dir.rank] at hd
    · simp only [attach]; exact ih hs.cons_tail
    · rcases sorted_after_attrs hs.tail with rfl | ⟨c, rfl⟩
      · exact ⟨rfl, fun k st => by simp [attach, run, attrsHead, bind, Except.bind]⟩
      · exact ⟨rfl, fun k st => by simp [attach, run, attrsHead, stripBody, bind, Except.bind]⟩
    · rw [sorted_after_strip hs.tail]
      exact ⟨rfl, fun k st => by simp [attach, run, stripBody, bind, Except.bind]⟩

theorem Run_after_replace (x : XExpr) (st : St) (ds : List Dir) (hs : StrictSorted (.replace x :: ds)) :
    Run (.apply (attach ds [.xexpr x]).1 (attach ds [.xexpr x]).2) st = Run (.ev (.xexpr x)) st := by
  obtain ⟨h2, h⟩ := run_after_replace x ds hs
  rw [h2, Run_step fun k => h k st, Run_flat_single]

/-- a macro of the documentation semantics and one of the implementation: the same parameters, and the second holds
    what `attach` makes of the directives and target of the first -/
def MacroSim (dm : DMacro) (m : Macro) : Prop :=
  dm.params = m.params ∧ DirsWF dm.dirs dm.target ∧
  m.dirs = (attach dm.dirs (targetBody dm.target)).1 ∧
  m.body = (attach dm.dirs (targetBody dm.target)).2

/-- the relation between the two states that both simulations maintain, for all that is not local: the same data,
    the same state of the innermost `py:choose`, macro tables of equal length with corresponding entries.  The local
    scopes are related beside it (`loc = st.scopes.flatten`): the documentation semantics takes them as an argument. -/
structure SimG (d : DSt) (s : St) : Prop where
  glob : d.glob = s.data
  ch : d.ch = s.choice.head?
  mlen : d.macros.length = s.macros.length
  macros : ∀ (i : Nat) (dm : DMacro) (m : Macro), d.macros[i]? = some dm → s.macros[i]? = some m → MacroSim dm m

theorem SimG.init (data : Env) : SimG ⟨data, [], none⟩ (St.init data) :=
  ⟨rfl, rfl, rfl, by intro i dm m h; simp at h⟩

theorem SimG.of_same {d : DSt} {st st' : St} (h : SimG d st) (h1 : st'.data = st.data)
    (h2 : st'.choice = st.choice) (h3 : st'.macros = st.macros) : SimG d st' :=
  ⟨by rw [h1]; exact h.glob, by rw [h2]; exact h.ch, by rw [h3]; exact h.mlen,
   by rw [h3]; exact h.macros⟩

/-- an assignment of `py:with`, on both sides -/
theorem SimG.setTop {d : DSt} {st : St} {loc : Env} (h : SimG d st) (hl : loc = st.scopes.flatten)
    (hne : st.scopes ≠ []) (x : Name) (v : Val) :
    (x, v) :: loc = (st.setTop x v).scopes.flatten ∧ SimG d (st.setTop x v) ∧ (st.setTop x v).scopes ≠ [] := by
  cases hs : st.scopes with
  | nil => exact absurd hs hne
  | cons f fs =>
    have hset : (st.setTop x v).scopes = ((x, v) :: f) :: fs := by simp [St.setTop, hs]
    exact ⟨by rw [hset, hl, hs]; simp, h.of_same (by simp [St.setTop, hs]) (by simp [St.setTop, hs]) (by simp [St.setTop, hs]),
      by rw [hset]; simp⟩

/-- the same innermost choose on both sides (a `py:choose` entered, a matched flag set) -/
theorem SimG.setChoice {d : DSt} {st : St} (h : SimG d st) (c : Choice) (cs : List Choice) :
    SimG { d with ch := some c } { st with choice := c :: cs } :=
  ⟨h.glob, rfl, h.mlen, h.macros⟩

/-- leaving a `py:choose`: the documentation semantics puts its innermost choose back, the implementation pops its stack -/
theorem SimG.popChoice {d d1 : DSt} {st s1 : St} (h : SimG d st) (g : SimG d1 s1) (ht : s1.choice.tail = st.choice) :
    SimG { d1 with ch := d.ch } s1.popChoice :=
  ⟨g.glob, by simp only [St.popChoice, ht]; exact h.ch, g.mlen, g.macros⟩

theorem SimG.define {d : DSt} {st : St} (h : SimG d st) (name : Name) (params : List Param)
    (ds : List Dir) (t : Target) (hw : DirsWF ds t) :
    SimG (d.define name ⟨params, ds, t⟩)
      (st.define name ⟨params, (attach ds (targetBody t)).1, (attach ds (targetBody t)).2⟩) := by
  refine ⟨?_, h.ch, ?_, ?_⟩
  · simp only [DSt.define, St.define, h.glob, h.mlen]
  · simp [DSt.define, St.define, h.mlen]
  · simp only [DSt.define, St.define]
    exact table_snoc h.mlen h.macros ⟨rfl, hw, rfl, rfl⟩

/-- the two macro tables answer a callee alike -/
theorem getMacro_sim {d : DSt} {st : St} (h : SimG d st) (v : Val) :
    (∃ e, getDMacro d v = .error e ∧ getMacro st v = .error e) ∨
    ∃ dm m, getDMacro d v = .ok dm ∧ getMacro st v = .ok m ∧ MacroSim dm m := by
  cases v with
  | «macro» i =>
    simp only [getDMacro, getMacro]
    rcases table_get h.mlen h.macros i with ⟨h1, h2⟩ | ⟨dm, m, h1, h2, hr⟩
    · rw [h1, h2]; exact .inl ⟨_, rfl, rfl⟩
    · rw [h1, h2]; exact .inr ⟨dm, m, rfl, rfl, hr⟩
  | atom a => exact .inl ⟨_, rfl, rfl⟩
  | list xs => exact .inl ⟨_, rfl, rfl⟩
  | dict kv => exact .inl ⟨_, rfl, rfl⟩
  | undef => exact .inl ⟨_, rfl, rfl⟩

theorem lookFrames_flatten (fs : List Frame) (x : Name) :
    lookFrames fs x = Env.look? fs.flatten x := by
  induction fs with
  | nil => rfl
  | cons f fs ih =>
    simp only [lookFrames, List.flatten_cons]
    induction f with
    | nil => simpa [Env.look?] using ih
    | cons p f ihf =>
      obtain ⟨k, v⟩ := p
      simp only [Env.look?, List.cons_append]
      by_cases hk : k = x
      · simp [hk]
      · simpa [hk] using ihf

theorem look_sim {loc : Env} {d : DSt} {s : St} (hl : loc = s.scopes.flatten) (hg : d.glob = s.data) :
    dlook loc d = s.look := by
  funext x
  unfold dlook St.look
  rw [lookFrames_flatten, ← hl, hg]
  cases Env.look? loc x <;> rfl

theorem push_flatten {loc : Env} {st : St} (hl : loc = st.scopes.flatten) (f : Frame) :
    f ++ loc = (st.push f).scopes.flatten := by simp [St.push, hl]

theorem posErr_ne_fuel (body : List CEv) : posErr body ≠ .fuel := by
  unfold posErr; split <;> simp

/-- the task of the implementation that stands for a task of the documentation semantics: nodes compiled,
    directives after `attach` -/
def taskOf : DTask → ITask
  | .nodes ns => .flat (compileNodes ns)
  | .node nd => .flat (compileNode nd)
  | .dirs ds t => .apply (attach ds (targetBody t)).1 (attach ds (targetBody t)).2
  | .loop v items ds t => .loop v items (attach ds (targetBody t)).1 (attach ds (targetBody t)).2
  | .xexpr x => .ev (.xexpr x)
  | .binds bs ds t => .binds bs (attach ds (targetBody t)).1 (attach ds (targetBody t)).2

def TaskWF : DTask → Prop
  | .nodes ns => wfNodes ns = true
  | .node nd => wfNode nd = true
  | .dirs ds t => DirsWF ds t
  | .loop _ _ ds t => DirsWF ds t
  | .xexpr _ => True
  | .binds _ ds t => DirsWF ds t

/-- precondition on the state for the assignment phase of `py:with` -/
def BindsPre : DTask → St → Prop
  | .binds _ _ _, st => st.scopes ≠ []
  | _, _ => True

theorem IOk.scopes {t : ITask} {st st' : St} {o : List Event} (h : IOk t st o st') :
    ScopesOK t st st' := by
  obtain ⟨m, h⟩ := h
  exact run_scopes m t st o st' h

end Genshi.Tmpl
