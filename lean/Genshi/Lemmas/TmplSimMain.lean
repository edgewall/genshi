/-
  C04: the forward simulation — whatever the documentation semantics answers (an output or a
  failure), the implementation model answers alike on the compiled template (`sim_fwd`, one
  case per clause of `doc`, each an instance of the matching equation of `Run`).
-/
import Genshi.Lemmas.TmplSim
import Genshi.Lemmas.TmplResRel
namespace Genshi.Tmpl

/-- **Forward simulation.**  Whatever the documentation semantics answers with fuel `n`, the
    implementation model answers alike on the compiled task, from a related state. -/
theorem sim_fwd : ∀ (n : Nat) (T : DTask) (loc : Env) (d : DSt), TaskWF T →
    ∀ st : St, loc = st.scopes.flatten → SimG d st → BindsPre T st →
    ResRel SimG (doc n T loc d) (Run (taskOf T) st) := by
  intro n
  induction n with
  | zero => intro T loc d _ st _ _ _; exact .inl rfl
  | succ n ih =>
    intro T loc d hwf st hl hg hb
    have hlook := look_sim hl hg.glob
    cases T with
    | nodes ns =>
      cases ns with
      | nil => simp only [doc, taskOf, compileNodes, Run_flat_nil]; exact .ok hg
      | cons nd rest =>
        obtain ⟨w1, w2⟩ := wfNodes_cons hwf
        simp only [doc, taskOf, compileNodes_cons, Run_flat_append]
        refine .seq (ih (.node nd) _ _ w1 st hl hg trivial) fun o d1 s1 _ h2 g1 => ?_
        exact ih (.nodes rest) _ _ w2 s1 (by rw [show s1.scopes = st.scopes from (Run_ok_inv h2).1]; exact hl) g1 trivial
    | node nd =>
      cases nd with
      | text s => simp only [doc, taskOf, compileNode, Run_flat_single, Run_ev_text]; exact .ok hg
      | expr x =>
        simp only [doc, taskOf, compileNode, Run_flat_single]
        exact ih (.xexpr x) _ _ trivial st hl hg trivial
      | elem tag attrs dirs kids =>
        simp only [doc, taskOf, compileNode, implIdx_eq_docIdx, Run_mkSub]
        exact ih (.dirs _ (.elem tag attrs kids)) _ _ (DirsWF.of_elem hwf) st hl hg trivial
      | delem dd kids =>
        simp only [doc, taskOf, compileNode, Run_mkSub]
        exact ih (.dirs [dd] (.frag kids)) _ _ (DirsWF.of_delem hwf) st hl hg trivial
    | xexpr x =>
      cases x with
      | pure e =>
        simp only [doc, taskOf, Run_ev_pure, hlook]
        exact .bind _ fun v _ => .bind _ fun out _ => .ok hg
      | call f args =>
        simp only [doc, taskOf, Run_ev_call, hlook]
        refine .bind _ fun fv _ => .bind _ fun vs _ => ?_
        rcases getMacro_sim hg fv with ⟨e, h1, h2⟩ | ⟨dm, m, h1, h2, hp, hdw, hd1, hd2⟩
        · rw [h1, h2]; exact .same e
        · rw [h1, h2]
          simp only [bind, Except.bind, hp]
          refine .bind _ fun scope _ => ?_
          have := ih (.dirs dm.dirs dm.target) (scope ++ loc) d hdw (st.push scope) (push_flatten hl scope)
            (hg.of_same rfl rfl rfl) trivial
          rw [taskOf, ← hd1, ← hd2] at this
          exact this.mapSt_right fun _ _ _ _ _ g => g.of_same rfl rfl rfl
    | dirs ds t =>
      have hdw : DirsWF ds t := hwf
      cases ds with
      | nil =>
        cases t with
        | elem tag attrs kids =>
          simp only [doc, taskOf, attach, targetBody, Run_apply_nil, Run_elem]
          exact (ih (.nodes kids) _ _ hdw.wf st hl hg trivial).wrapOut
        | frag kids =>
          simp only [doc, taskOf, attach, targetBody, Run_apply_nil]
          exact ih (.nodes kids) _ _ hdw.wf st hl hg trivial
      | cons dd ds =>
        have hdt : DirsWF ds t := hdw.tail
        have ihd := fun d' st' (hl' : loc = st'.scopes.flatten) (g' : SimG d' st') =>
          ih (.dirs ds t) loc d' hdt st' hl' g' trivial
        simp only [taskOf] at ihd
        cases dd with
        | def_ name params =>
          simp only [doc, taskOf, attach, Run_def]
          exact .ok (hg.define name params ds t hdt)
        | when e =>
          simp only [doc, taskOf, attach, Run_when, hg.ch, hlook]
          cases hcs : st.choice with
          | nil => exact .err _ (posErr_ne_fuel _)
          | cons c cs =>
            simp only [List.head?_cons]
            rw [whenMatches_bind]
            exact .ite _ (.ok hg) (.ite _ (.err _ (posErr_ne_fuel _)) (.bind _ fun m _ => .ite _
              (ihd _ _ (by simpa [St.setMatched] using hl) (hg.setChoice _ cs)) (.ok (hg.setChoice _ cs))))
        | otherwise =>
          simp only [doc, taskOf, attach, Run_otherwise, hg.ch]
          cases hcs : st.choice with
          | nil => exact .err _ (posErr_ne_fuel _)
          | cons c cs =>
            simp only [List.head?_cons]
            exact .ite _ (.ok hg) (ihd _ _ (by simpa [St.setMatched] using hl) (hg.setChoice _ cs))
        | for_ v e =>
          simp only [doc, taskOf, attach, Run_for, hlook]
          exact .bind _ fun it _ => .bind _ fun items _ => ih (.loop v items ds t) _ _ hdt st hl hg trivial
        | if_ e =>
          simp only [doc, taskOf, attach, Run_if, hlook]
          exact .bind _ fun v _ => .ite _ (ihd _ _ hl hg) (.ok hg)
        | choose e =>
          simp only [doc, taskOf, attach, Run_choose, hlook]
          refine .bind _ fun v _ => ?_
          exact (ihd _ { st with choice := ⟨false, e.isSome, v⟩ :: st.choice } hl (hg.setChoice _ _)).mapSt fun _ _ _ _ h2 g1 =>
            hg.popChoice g1 (Run_ok_inv h2).2.1.tail_eq
        | with_ bs =>
          simp only [doc, taskOf, attach, Run_with]
          have := ih (.binds bs ds t) loc d hdt (st.push []) (by simp [St.push, hl]) (hg.of_same rfl rfl rfl)
            (by simp [BindsPre, St.push])
          exact this.mapSt_right fun _ _ _ _ _ g => g.of_same rfl rfl rfl
        | replace x =>
          simp only [doc, taskOf, attach]
          rw [Run_after_replace x st ds hdw.sorted]
          exact ih (.xexpr x) _ _ trivial st hl hg trivial
        | content x =>
          cases t with
          | frag kids =>
            exact (hdw.not_frag rfl).elim
          | elem tag attrs kids =>
            simp only [doc, taskOf, attach_content]
            exact ih (.dirs ds (.elem tag attrs [.expr x])) loc d (hdt.content x) st hl hg trivial
        | attrs e =>
          cases t with
          | frag kids =>
            exact (hdw.not_frag rfl).elim
          | elem tag attrs kids =>
            have key : ∀ ps, ResRel SimG (doc n (.dirs ds (.elem tag (Genshi.Escape.Attrs.or attrs ps) kids)) loc d)
                (Run (taskOf (.dirs ds (.elem tag (Genshi.Escape.Attrs.or attrs ps) kids))) st) :=
              fun ps => ih (.dirs ds (.elem tag (Genshi.Escape.Attrs.or attrs ps) kids)) _ _ ⟨hdt.sorted, trivial, hdt.wf⟩ st hl hg trivial
            rcases sorted_after_attrs hdw.sorted with rfl | ⟨c, rfl⟩
            · simp only [doc, taskOf, attach, Run_attrs, attrsHead_elem, hlook, bind_assoc, pure_bind]
              refine .bind _ fun v _ => .bind _ fun ps _ => ?_
              simpa only [taskOf, attach, Run_apply_nil] using key ps
            · simp only [doc, taskOf, attach, Run_attrs_strip, attrsHead_elem, hlook, bind_assoc, pure_bind]
              refine .bind _ fun v _ => .bind _ fun ps _ => ?_
              simpa only [taskOf, attach, Run_strip] using key ps
        | strip c =>
          cases t with
          | frag kids =>
            exact (hdw.not_frag rfl).elim
          | elem tag attrs kids =>
            have hnil := sorted_after_strip hdw.sorted
            subst hnil
            simp only [doc, taskOf, attach, Run_strip, stripBody_elem, hlook, bind_assoc, pure_bind]
            refine .bind _ fun b _ => ?_
            have := ih (.dirs [] (if b then .frag kids else .elem tag attrs kids)) loc d
              (show DirsWF _ _ from ⟨by simp [StrictSorted], by cases b <;> simp [TargetOK], by cases b <;> exact hdt.wf⟩)
              st hl hg trivial
            simpa only [taskOf, attach, Run_apply_nil] using this
    | loop v items ds t =>
      have hdw : DirsWF ds t := hwf
      cases items with
      | nil => simp only [doc, taskOf, Run_loop_nil]; exact .ok hg
      | cons item items =>
        simp only [doc, taskOf, Run_loop_cons]
        refine .seq (ih (.dirs ds t) _ _ hdw (st.push [(v, item)]) (by simp [St.push, hl])
          (hg.of_same rfl rfl rfl) trivial) fun o d1 s1 _ h2 g1 => ?_
        have hs1 : s1.scopes = (st.push [(v, item)]).scopes := (Run_ok_inv h2).1
        exact ih (.loop v items ds t) _ _ hdw s1.pop (by simp [St.pop, hs1, St.push, hl]) (g1.of_same rfl rfl rfl) trivial
    | binds bs ds t =>
      have hdw : DirsWF ds t := hwf
      cases bs with
      | nil => simp only [doc, taskOf, Run_binds_nil]; exact ih (.dirs ds t) _ _ hdw st hl hg trivial
      | cons p bs =>
        obtain ⟨x, e⟩ := p
        simp only [doc, taskOf, Run_binds_cons, hlook]
        refine .bind _ fun v _ => ?_
        obtain ⟨hl', hg', hb'⟩ := hg.setTop hl hb x v
        exact ih (.binds bs ds t) _ _ hdw (st.setTop x v) hl' hg' hb'

theorem sim_ok : ∀ (n : Nat) (T : DTask) (loc : Env) (d : DSt) (o : List Event) (d' : DSt),
    doc n T loc d = .ok (o, d') → TaskWF T →
    ∀ st : St, loc = st.scopes.flatten → SimG d st → BindsPre T st →
    ∃ st', IOk (taskOf T) st o st' ∧ SimG d' st' := by
  intro n T loc d o d' h hwf st hl hg hb
  obtain ⟨st', h1, g⟩ := (sim_fwd n T loc d hwf st hl hg hb).of_ok h
  exact ⟨st', IOk_iff_Run.2 h1, g⟩

theorem sim_err : ∀ (n : Nat) (T : DTask) (loc : Env) (d : DSt) (e : Err),
    doc n T loc d = .error e → e ≠ .fuel → TaskWF T →
    ∀ st : St, loc = st.scopes.flatten → SimG d st → BindsPre T st → IErr (taskOf T) st := by
  intro n T loc d e h he hwf st hl hg hb
  exact IErr_iff_Run.2 ((sim_fwd n T loc d hwf st hl hg hb).of_err h he)

end Genshi.Tmpl
