/-
  C04: the reverse simulation — whatever the implementation model answers on a compiled
  well-formed template (an output or a failure), the documentation semantics answers alike
  (`sim_bwd`, by induction on the fuel of `run`, against the equations of `Doc`).  The compiler
  flattens (`compileNodes` concatenates, `mkSub` inlines a SUB without directives), so three facts
  say what a flattened stream does at the fuel of the whole: `run_flat_append_approx`,
  `run_elem_approx`, `run_after_replace`.
-/
import Genshi.Lemmas.TmplSimMain
namespace Genshi.Tmpl

/-- a concatenation is flattened part by part, with no more fuel -/
theorem run_flat_append_approx (a b : List CEv) : ∀ (k : Nat) (st : St),
    Approx (run k (.flat (a ++ b)) st) (seq (run k (.flat a) st) (fun s => run k (.flat b) s)) := by
  induction a with
  | nil =>
    intro k st
    cases k with
    | zero => exact .inl rfl
    | succ k => refine .inr ?_; simp only [List.nil_append, run, seq]; cases run (k + 1) (.flat b) st <;> simp
  | cons e a ih =>
    intro k st
    cases k with
    | zero => exact .inl rfl
    | succ k =>
      simp only [List.cons_append, run, seq_assoc]
      exact seq_approx (.refl _) fun s1 =>
        (ih k s1).trans (seq_approx (.refl _) fun s => run_approx k _ s)

/-- an element: its sub-stream between its tags, with less fuel -/
theorem run_elem_approx (k : Nat) (t : Name) (a : List (Name × Str)) (body : List CEv) (st : St) :
    Approx (run (k + 1) (.flat (.start t a :: (body ++ [.end_ t]))) st)
      (wrapOut (startEv t a) (endEv t) (run k (.flat body) st)) := by
  cases k with
  | zero => exact .inl rfl
  | succ k =>
    simp only [run]
    refine (seq_approx (.refl _) fun s1 => run_flat_append_approx body [.end_ t] (k + 1) s1).trans ?_
    simp only [seq, run_flat_single]
    cases run (k + 1) (.flat body) st with
    | error e => exact .inr rfl
    | ok p =>
      cases k with
      | zero => exact .inl rfl
      | succ k => exact .inr (by simp [run, wrapOut])

theorem attach_fst_nil {dd : Dir} {D : List Dir} {body : List CEv} (h : (attach (dd :: D) body).1 = []) :
    (∃ x, dd = .replace x) ∨ ∃ x, dd = .content x := by
  cases dd <;> first
    | exact .inl ⟨_, rfl⟩
    | exact .inr ⟨_, rfl⟩
    | (simp only [attach] at h; cases h)

/-- the reverse simulation at fuel `k` -/
def Bwd (k : Nat) (T : DTask) : Prop :=
  ∀ (loc : Env) (d : DSt) (st : St), TaskWF T → loc = st.scopes.flatten → SimG d st → BindsPre T st →
    ResRel (fun s d' => SimG d' s) (run k (taskOf T) st) (Doc T loc d)

theorem Bwd.mono {k : Nat} {T : DTask} (h : Bwd (k + 1) T) : Bwd k T := fun loc d st hwf hl hg hb =>
  .of_approx (run_approx k _ st) (h loc d st hwf hl hg hb)

theorem bwd_elem {k : Nat} {kids : List TNode} (ih : Bwd k (.nodes kids)) (tag : Name) (attrs : List (Name × Str))
    {loc : Env} {d : DSt} {st : St} (hwf : wfNodes kids = true) (hl : loc = st.scopes.flatten) (hg : SimG d st) :
    ResRel (fun s d' => SimG d' s) (run (k + 1) (.flat (targetBody (.elem tag attrs kids))) st)
      (Doc (.dirs [] (.elem tag attrs kids)) loc d) := by
  rw [Doc_dirs_nil_elem]
  exact .of_approx (run_elem_approx k tag attrs _ st) (ih loc d st hwf hl hg trivial).wrapOut

/-- the sub-stream of a target with no directive left -/
theorem bwd_body {k : Nat} (ih : ∀ T, Bwd k T) (t : Target) {loc : Env} {d : DSt} {st : St}
    (hwf : wfNodes t.kids = true) (hl : loc = st.scopes.flatten) (hg : SimG d st) :
    ResRel (fun s d' => SimG d' s) (run k (.flat (targetBody t)) st) (Doc (.dirs [] t) loc d) := by
  cases t with
  | frag kids => rw [Doc_dirs_nil_frag]; exact ih (.nodes kids) loc d st hwf hl hg trivial
  | elem tag attrs kids =>
    cases k with
    | zero => exact .inl rfl
    | succ k => exact bwd_elem (ih _).mono tag attrs hwf hl hg

theorem bwd_dirs {k : Nat} (ih : ∀ T, Bwd k T) : ∀ (D : List Dir) (t : Target), Bwd (k + 1) (.dirs D t) := by
  intro D
  induction D with
  | nil =>
    intro t loc d st hwf hl hg _
    have hdw : DirsWF [] t := hwf
    simp only [taskOf, attach, run]
    exact bwd_body ih t hdw.wf hl hg
  | cons dd D ihD =>
    intro t loc d st hwf hl hg _
    have hdw : DirsWF (dd :: D) t := hwf
    have hdt : DirsWF D t := hdw.tail
    have hlook := look_sim hl hg.glob
    have ihk := fun d' st' (hl' : loc = st'.scopes.flatten) (g' : SimG d' st') =>
      ih (.dirs D t) loc d' st' hdt hl' g' trivial
    simp only [taskOf] at ihk
    cases dd with
    | def_ name params =>
      simp only [taskOf, attach, run, Doc_def]
      exact .ok (hg.define name params D t hdt)
    | when e =>
      simp only [taskOf, attach, run, Doc_when, hg.ch, hlook]
      cases hcs : st.choice with
      | nil => exact .err _ (by simp)
      | cons c cs =>
        simp only [List.head?_cons]
        conv => rhs; rw [whenMatches_bind]
        exact .ite _ (.ok hg) (.ite _ (.err _ (by simp)) (.bind _ fun m _ => .ite _
          (ihk _ _ (by simpa [St.setMatched] using hl) (hg.setChoice _ cs)) (.ok (hg.setChoice _ cs))))
    | otherwise =>
      simp only [taskOf, attach, run, Doc_otherwise, hg.ch]
      cases hcs : st.choice with
      | nil => exact .err _ (by simp)
      | cons c cs =>
        simp only [List.head?_cons]
        exact .ite _ (.ok hg) (ihk _ _ (by simpa [St.setMatched] using hl) (hg.setChoice _ cs))
    | for_ v e =>
      simp only [taskOf, attach, run, Doc_for, hlook]
      exact .bind _ fun it _ => .bind _ fun items _ =>
        ih (.loop v items D t) loc d st hdt hl hg trivial
    | if_ e =>
      simp only [taskOf, attach, run, Doc_if, hlook]
      exact .bind _ fun v _ => .ite _ (ihk _ _ hl hg) (.ok hg)
    | choose e =>
      simp only [taskOf, attach, run, Doc_choose, hlook]
      refine .bind _ fun v _ => ?_
      exact (ihk _ { st with choice := ⟨false, e.isSome, v⟩ :: st.choice } hl (hg.setChoice _ _)).mapSt fun _ _ _ h1 _ g1 =>
        hg.popChoice g1 (run_inv k _ _ _ _ h1).1.tail_eq
    | with_ bs =>
      simp only [taskOf, attach, run, Doc_with]
      exact (ih (.binds bs D t) loc d (st.push []) hdt (by simp [St.push, hl])
        (hg.of_same rfl rfl rfl) (by simp [BindsPre, St.push])).mapSt_left fun _ _ _ _ _ g => g.of_same rfl rfl rfl
    | replace x =>
      obtain ⟨h2, h⟩ := run_after_replace x D hdw.sorted
      simp only [taskOf, attach, Doc_replace]
      rw [h2, h k st]
      exact .of_approx (run_flat_single_approx k _ st) (ih (.xexpr x) loc d st trivial hl hg trivial)
    | content x =>
      cases t with
      | frag kids =>
        exact (hdw.not_frag rfl).elim
      | elem tag attrs kids =>
        simp only [taskOf, attach_content, Doc_content_elem]
        exact ihD (.elem tag attrs [.expr x]) loc d st (hdt.content x) hl hg trivial
    | attrs e =>
      cases t with
      | frag kids =>
        exact (hdw.not_frag rfl).elim
      | elem tag attrs kids =>
        rcases sorted_after_attrs hdw.sorted with rfl | ⟨c, rfl⟩
        · simp only [taskOf, attach, run, attrsHead_elem, bind_assoc, pure_bind, Doc_attrs_elem, hlook]
          refine .bind _ fun v _ => .bind _ fun ps _ => ?_
          exact bwd_body ih (.elem tag (Genshi.Escape.Attrs.or attrs ps) kids) hdt.wf hl hg
        · simp only [taskOf, attach, run, attrsHead_elem, stripBody_elem, bind_assoc, pure_bind,
            Doc_attrs_elem, Doc_strip_elem, hlook]
          refine .bind _ fun v _ => .bind _ fun ps _ => .bind _ fun b _ => ?_
          exact bwd_body ih (if b then .frag kids else .elem tag (Genshi.Escape.Attrs.or attrs ps) kids)
            (by cases b <;> exact hdt.wf) hl hg
    | strip c =>
      cases t with
      | frag kids =>
        exact (hdw.not_frag rfl).elim
      | elem tag attrs kids =>
        have hnil := sorted_after_strip hdw.sorted
        subst hnil
        simp only [taskOf, attach, run, stripBody_elem, bind_assoc, pure_bind, Doc_strip_elem, hlook]
        refine .bind _ fun b _ => ?_
        exact bwd_body ih (if b then .frag kids else .elem tag attrs kids) (by cases b <;> exact hdt.wf) hl hg

/-- a SUB whose directives all vanished at `attach` is inlined: its events are flattened at the
    fuel of the surrounding stream -/
theorem bwd_inline {k : Nat} (ih : ∀ T, Bwd k T) : ∀ (D : List Dir) (t : Target), DirsWF D t →
    (attach D (targetBody t)).1 = [] → (D = [] → ∃ tag attrs kids, t = .elem tag attrs kids) →
    ∀ (loc : Env) (d : DSt) (st : St), loc = st.scopes.flatten → SimG d st →
    ResRel (fun s d' => SimG d' s) (run (k + 1) (.flat (attach D (targetBody t)).2) st) (Doc (.dirs D t) loc d) := by
  intro D
  induction D with
  | nil =>
    intro t hdw _ hel loc d st hl hg
    obtain ⟨tag, attrs, kids, rfl⟩ := hel rfl
    exact bwd_elem (ih _) tag attrs hdw.wf hl hg
  | cons dd D ihD =>
    intro t hdw hnil _ loc d st hl hg
    have hdt := hdw.tail
    rcases attach_fst_nil hnil with ⟨x, rfl⟩ | ⟨x, rfl⟩
    · simp only [attach, Doc_replace]
      rw [(run_after_replace x D hdw.sorted).1, run_flat_single]
      exact ih (.xexpr x) loc d st trivial hl hg trivial
    · cases t with
      | frag kids =>
        exact (hdw.not_frag rfl).elim
      | elem tag attrs kids =>
        rw [attach_content] at hnil ⊢
        rw [Doc_content_elem]
        exact ihD (.elem tag attrs [.expr x]) (hdt.content x) hnil
          (fun _ => ⟨tag, attrs, [.expr x], rfl⟩) loc d st hl hg

theorem bwd_node {k : Nat} (ih : ∀ T, Bwd k T) (nd : TNode) : Bwd (k + 1) (.node nd) := by
  intro loc d st hwf hl hg _
  -- an element or directive element compiles to `mkSub r.1 r.2`
  have hsub : ∀ (D : List Dir) (t : Target), DirsWF D t → (D = [] → ∃ tag attrs kids, t = .elem tag attrs kids) →
      ResRel (fun s d' => SimG d' s)
        (run (k + 1) (.flat (mkSub (attach D (targetBody t)).1 (attach D (targetBody t)).2)) st)
        (Doc (.dirs D t) loc d) := by
    intro D t hdw hel
    unfold mkSub
    split
    · rename_i he
      exact bwd_inline ih D t hdw (by simpa using he) hel loc d st hl hg
    · rw [run_flat_single]
      cases k with
      | zero => exact .inl rfl
      | succ k => simp only [run]; exact (ih (.dirs D t)).mono loc d st hdw hl hg trivial
  cases nd with
  | text s =>
    simp only [taskOf, compileNode, run_flat_single, Doc_node_text]
    cases k with
    | zero => exact .inl rfl
    | succ k => exact .ok hg
  | expr x =>
    simp only [taskOf, compileNode, run_flat_single, Doc_node_expr]
    exact ih (.xexpr x) loc d st trivial hl hg trivial
  | elem tag attrs dirs kids =>
    simp only [taskOf, compileNode, implIdx_eq_docIdx, Doc_node_elem]
    exact hsub _ (.elem tag attrs kids) (DirsWF.of_elem hwf) (fun _ => ⟨tag, attrs, kids, rfl⟩)
  | delem dd kids =>
    simp only [taskOf, compileNode, Doc_node_delem]
    exact hsub [dd] (.frag kids) (DirsWF.of_delem hwf) (by simp)

theorem bwd_step {k : Nat} (ih : ∀ T, Bwd k T) (T : DTask) : Bwd (k + 1) T := by
  cases T with
  | dirs D t => exact bwd_dirs ih D t
  | node nd => exact bwd_node ih nd
  | nodes ns =>
    induction ns with
    | nil => intro loc d st _ _ hg _; simp only [taskOf, compileNodes, run, Doc_nodes_nil]; exact .ok hg
    | cons nd rest ihr =>
      intro loc d st hwf hl hg _
      obtain ⟨w1, w2⟩ := wfNodes_cons hwf
      simp only [taskOf, compileNodes_cons, Doc_nodes_cons]
      refine .of_approx (run_flat_append_approx _ _ _ _)
        (.seq (bwd_node ih nd loc d st w1 hl hg trivial) fun o s1 d1 h1 _ g1 => ?_)
      exact ihr loc d1 s1 w2 (by rw [show s1.scopes = st.scopes from run_scopes _ _ _ _ _ h1]; exact hl) g1 trivial
  | xexpr x =>
    intro loc d st _ hl hg _
    have hlook := look_sim hl hg.glob
    cases x with
    | pure e =>
      simp only [taskOf, run, Doc_xexpr_pure, hlook]
      exact .bind _ fun v _ => .bind _ fun out _ => .ok hg
    | call f args =>
      simp only [taskOf, run, Doc_xexpr_call, hlook]
      refine .bind _ fun fv _ => .bind _ fun vs _ => ?_
      rcases getMacro_sim hg fv with ⟨e, h1, h2⟩ | ⟨dm, m, h1, h2, hp, hdw, hd1, hd2⟩
      · rw [h1, h2]; exact .same e
      · rw [h1, h2]
        simp only [bind, Except.bind, hp]
        refine .bind _ fun scope _ => ?_
        rw [hd1, hd2]
        exact (ih (.dirs dm.dirs dm.target) (scope ++ loc) d (st.push scope) hdw (push_flatten hl scope)
          (hg.of_same rfl rfl rfl) trivial).mapSt_left fun _ _ _ _ _ g => g.of_same rfl rfl rfl
  | loop v items D t =>
    intro loc d st hwf hl hg _
    have hdw : DirsWF D t := hwf
    cases items with
    | nil => simp only [taskOf, run, Doc_loop_nil]; exact .ok hg
    | cons item items =>
      simp only [taskOf, run, Doc_loop_cons]
      refine .seq (ih (.dirs D t) _ d (st.push [(v, item)]) hdw (by simp [St.push, hl])
        (hg.of_same rfl rfl rfl) trivial) fun o s1 d1 h1 _ g1 => ?_
      have hs1 : s1.scopes = (st.push [(v, item)]).scopes := run_scopes _ _ _ _ _ h1
      exact ih (.loop v items D t) loc d1 s1.pop hdw (by simp [St.pop, hs1, St.push, hl]) (g1.of_same rfl rfl rfl) trivial
  | binds bs D t =>
    intro loc d st hwf hl hg hb
    have hdw : DirsWF D t := hwf
    cases bs with
    | nil => simp only [taskOf, run, Doc_binds_nil]; exact ih (.dirs D t) loc d st hdw hl hg trivial
    | cons p bs =>
      obtain ⟨x, e⟩ := p
      simp only [taskOf, run, Doc_binds_cons, look_sim hl hg.glob]
      refine .bind _ fun v _ => ?_
      obtain ⟨hl', hg', hb'⟩ := hg.setTop hl hb x v
      exact ih (.binds bs D t) _ d (st.setTop x v) hdw hl' hg' hb'

theorem sim_bwd : ∀ (k : Nat) (T : DTask), Bwd k T := by
  intro k
  induction k with
  | zero => intro T loc d st _ _ _ _; exact .inl rfl
  | succ k ih => exact bwd_step ih

/-- **The two semantics have the same outcome** on a well-formed template from related states: the
    same output with related states, a failure on both sides, or neither terminates. -/
theorem sim_agree {T : DTask} {loc : Env} {d : DSt} {st : St} (hwf : TaskWF T) (hl : loc = st.scopes.flatten)
    (hg : SimG d st) (hb : BindsPre T st) :
    ResRel SimG (Doc T loc d) (Run (taskOf T) st) ∧ ResRel (fun s d' => SimG d' s) (Run (taskOf T) st) (Doc T loc d) :=
  ⟨.lim fun n => sim_fwd n T loc d hwf st hl hg hb, .lim fun k => sim_bwd k T loc d st hwf hl hg hb⟩

def RevQ (m : Nat) (T : DTask) : Prop :=
  ∀ (loc : Env) (d : DSt) (st : St) (o : List Event) (st' : St),
    run m (taskOf T) st = .ok (o, st') → TaskWF T → loc = st.scopes.flatten → SimG d st →
    BindsPre T st → ∃ d', DOk T loc d o d' ∧ SimG d' st'

theorem sim_rev : ∀ (m : Nat) (T : DTask), RevQ m T := by
  intro m T loc d st o st' h hwf hl hg hb
  obtain ⟨d', h1, g⟩ := (sim_bwd m T loc d st hwf hl hg hb).of_ok h
  exact ⟨d', DOk_iff_Doc.2 h1, g⟩

def RevE (m : Nat) (T : DTask) : Prop :=
  ∀ (loc : Env) (d : DSt) (st : St) (e : Err),
    run m (taskOf T) st = .error e → e ≠ .fuel → TaskWF T → loc = st.scopes.flatten → SimG d st →
    BindsPre T st → DErr T loc d

theorem sim_rev_err : ∀ (m : Nat) (T : DTask), RevE m T := by
  intro m T loc d st e h he hwf hl hg hb
  exact DErr_iff_Doc.2 ((sim_bwd m T loc d st hwf hl hg hb).of_err h he)

end Genshi.Tmpl
