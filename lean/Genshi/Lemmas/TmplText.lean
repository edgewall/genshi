/-
  C04: the token loop of the text templates builds the same SUB nesting as the
  template tree (and hence as the markup form of the same directives).
-/
import Genshi.Lemmas.TmplExtract
import Genshi.Model.TmplText
namespace Genshi.Tmpl

theorem textParseFrom_append (s : TSt) (a b : List TTok) :
    textParseFrom s (a ++ b) = textParseFrom (textParseFrom s a) b := by
  simp [textParseFrom, List.foldl_append]

theorem textParseFrom_cons (s : TSt) (e : TTok) (b : List TTok) :
    textParseFrom s (e :: b) = textParseFrom (textStep s e) b := rfl

theorem textParseFrom_nil (s : TSt) : textParseFrom s [] = s := rfl

/-- `KeysBelow` (`Lemmas/TmplExtract.lean`) for the token loop, whose `dirmap` is keyed by the depth alone -/
def TKeysBelow (m : TDirMap) (depth : Int) : Prop := ∀ p ∈ m, p.1 < depth

theorem tget?_none {m : TDirMap} {d : Int} (h : TKeysBelow m d) : m.get? d = none := by
  induction m with
  | nil => rfl
  | cons p m ih =>
    obtain ⟨k, v⟩ := p
    have hk := h (k, v) (List.mem_cons_self ..)
    simp only [TDirMap.get?]
    rw [if_neg (by intro he; simp only at hk; omega)]
    exact ih (fun q hq => h q (List.mem_cons_of_mem _ hq))

theorem terase_of_below {m : TDirMap} {d : Int} (h : TKeysBelow m d) : m.erase d = m := by
  unfold TDirMap.erase
  rw [List.filter_eq_self]
  intro p hp
  have := h p hp
  simp only [ne_eq, decide_eq_true_eq]
  omega

theorem tget?_put (m : TDirMap) (k v) : (m.put k v).get? k = some v := by
  simp [TDirMap.put, TDirMap.get?]

theorem terase_put {m : TDirMap} {d : Int} (h : TKeysBelow m d) (v) : (m.put d v).erase d = m := by
  simp only [TDirMap.put, terase_of_below h]
  simp only [TDirMap.erase, List.filter_cons, ne_eq, not_true_eq_false, decide_false]
  exact terase_of_below h

theorem tkeys_put {m : TDirMap} {d : Int} (h : TKeysBelow m d) (v) : TKeysBelow (m.put d v) (d + 1) := by
  intro p hp
  simp only [TDirMap.put, List.mem_cons] at hp
  rcases hp with rfl | hp
  · show d < d + 1; omega
  · rw [terase_of_below h] at hp
    have := h p hp
    omega

mutual
  theorem text_node : ∀ (n : TNode), textNode n = true → ∀ (d : Int) (m : TDirMap) (out : List REv),
      TKeysBelow m d → textParseFrom ⟨d, m, out⟩ (toToks n) = ⟨d, m, out ++ extractTree n⟩
    | .text s, _, d, m, out, _ => by simp [toToks, extractTree, textParseFrom, textStep]
    | .expr x, _, d, m, out, _ => by simp [toToks, extractTree, textParseFrom, textStep]
    | .elem _ _ _ _, h, _, _, _, _ => by simp [textNode] at h
    | .delem dd kids, h, d, m, out, hk => by
        have hkids : textNodes kids = true := by
          simp only [textNode, Bool.and_eq_true] at h; exact h.2
        simp only [toToks, textParseFrom_cons, textParseFrom_append, textParseFrom_nil, textStep]
        rw [text_nodes kids hkids (d + 1) _ _ (tkeys_put hk _)]
        simp only [Int.add_sub_cancel, tget?_put, terase_put hk, extractTree]
        simp
  theorem text_nodes : ∀ (ns : List TNode), textNodes ns = true → ∀ (d : Int) (m : TDirMap) (out : List REv),
      TKeysBelow m d → textParseFrom ⟨d, m, out⟩ (toTokss ns) = ⟨d, m, out ++ extractTrees ns⟩
    | [], _, d, m, out, _ => by simp [toTokss, extractTrees, textParseFrom]
    | n :: ns, h, d, m, out, hk => by
        have h' : textNode n = true ∧ textNodes ns = true := by simpa [textNodes] using h
        simp only [toTokss, textParseFrom_append, extractTrees]
        rw [text_node n h'.1 d m out hk, text_nodes ns h'.2 d m _ hk]
        simp [List.append_assoc]
end

theorem textParse_eq_tree (ns : List TNode) (h : textNodes ns = true) :
    textParse (toTokss ns) = extractTrees ns := by
  unfold textParse
  rw [text_nodes ns h 0 [] [] (by intro p hp; simp at hp)]
  simp

/-- Text templates: the token loop followed by `_prepare` gives the prepared stream
    `compileNodes` — the same one the markup form of the directives (as directive elements)
    compiles to. -/
theorem compileText_eq_compile (ns : List TNode) (h : textNodes ns = true) :
    compileText ns = compileNodes ns := by
  unfold compileText
  rw [textParse_eq_tree ns h, prepare_nodes]

end Genshi.Tmpl
