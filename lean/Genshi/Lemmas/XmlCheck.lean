/-
  C02 — the document checker `ckStep` read backwards: what an accepted event is
  and what it does to the checker's state (`CkStep`).  The inductions over a
  checked stream (simulation, second pass, depth discipline, merging of
  character data) case on this relation instead of unfolding `ckStep`.
-/
import Genshi.Model.XmlSpec
namespace Genshi.Xml
open Genshi Genshi.Xml.Reader

/-- events that pass through the flattener unchanged (the XML declaration does too, but `docOK` accepts it
    only as the first event, in front of the run that `ckStep` checks) -/
def isPlain : Event → Bool
  | .text _ _ => true
  | .comment _ => true
  | .pi _ _ => true
  | .startCdata => true
  | .endCdata => true
  | .doctype _ _ _ => true
  | _ => false

/-- where the checker accepts such an event: character data and CDATA inside the root element, a DOCTYPE in
    the prolog, once -/
def plainOK (ck : CkSt) : Event → Bool
  | .text _ _ => !ck.stack.isEmpty
  | .startCdata => !ck.stack.isEmpty
  | .endCdata => !ck.stack.isEmpty
  | .doctype _ _ _ => ck.stack.isEmpty && !ck.rootSeen && !ck.doctypeSeen
  | _ => true

def plainNext (ck : CkSt) : Event → CkSt
  | .doctype _ _ _ => { ck with doctypeSeen := true }
  | _ => ck

theorem plainNext_stack (ck : CkSt) (e : Event) : (plainNext ck e).stack = ck.stack := by
  cases e <;> rfl

theorem ckStep_plain (ck : CkSt) {e : Event} (he : isPlain e = true) :
    ckStep ck (.ev e) = if plainOK ck e then some (plainNext ck e) else none := by
  have inside : ∀ b : Bool, (if b = true then none else some ck) = if (!b) = true then some ck else none := by
    intro b; cases b <;> rfl
  cases e with
  | text s f => exact inside _
  | startCdata => exact inside _
  | endCdata => exact inside _
  | comment s => rfl
  | pi t d => rfl
  | doctype n p s =>
    have prolog : ∀ (a b c : Bool) (x : CkSt),
        (if (!a || b || c) = true then none else some x) = if (a && !b && !c) = true then some x else none := by
      intro a b c x; cases a <;> cases b <;> cases c <;> rfl
    exact prolog _ _ _ _
  | _ => cases he

/-- One accepted event: a constructor per kind, with the checker's state afterwards. -/
inductive CkStep : CkSt → XEv → CkSt → Prop
  | start {ck : CkSt} {t : QName} {a : AttrList} {d' : Bool} (h : ckStartLike ck t a = some d') :
      CkStep ck (.ev (.start t a))
        { ck with stack := (t, ck.dTruthy) :: ck.stack, dTruthy := d', pendD := none, rootSeen := true }
  | empty {ck : CkSt} {t : QName} {a : AttrList} {d' : Bool} (h : ckStartLike ck t a = some d') :
      CkStep ck (.empty t a) { ck with pendD := none, rootSeen := true }
  | end_ {ck : CkSt} {t : QName} {d : Bool} {rest : List (QName × Bool)} (h : ck.stack = (t, d) :: rest) :
      CkStep ck (.ev (.end_ t)) { ck with stack := rest, dTruthy := d }
  | startNs {ck : CkSt} {p u : Str} (h : nsDeclOK p u = true) :
      CkStep ck (.ev (.startNs p u)) { ck with pendD := if p.isEmpty then some (!falsyUri u) else ck.pendD }
  | endNs {ck : CkSt} {p : Str} :
      CkStep ck (.ev (.endNs p)) { ck with pendD := if p.isEmpty then none else ck.pendD }
  | plain {ck : CkSt} {e : Event} (he : isPlain e = true) (h : plainOK ck e = true) :
      CkStep ck (.ev e) (plainNext ck e)

theorem ckStep_inv {ck ck' : CkSt} {x : XEv} (h : ckStep ck x = some ck') : CkStep ck x ck' := by
  cases x with
  | empty t a =>
    obtain ⟨d', hd, rfl⟩ := Option.map_eq_some_iff.mp h
    exact .empty hd
  | ev e =>
    by_cases he : isPlain e = true
    · rw [ckStep_plain ck he] at h
      split at h
      · cases h; exact .plain he ‹_›
      · cases h
    cases e with
    | start t a =>
      obtain ⟨d', hd, rfl⟩ := Option.map_eq_some_iff.mp h
      exact .start hd
    | end_ t =>
      simp only [ckStep] at h
      cases hs : ck.stack with
      | nil => rw [hs] at h; cases h
      | cons top rest =>
        obtain ⟨t', d⟩ := top
        rw [hs] at h
        simp only at h
        by_cases ht : t = t'
        · subst ht
          rw [if_pos rfl] at h
          cases h
          exact .end_ hs
        · rw [if_neg ht] at h; cases h
    | startNs p u =>
      simp only [ckStep] at h
      by_cases hl : nsDeclOK p u = true
      · have r := CkStep.startNs (ck := ck) hl
        by_cases hp : p.isEmpty = true
        · rw [hl, if_neg (by decide), if_pos hp] at h; cases h; rwa [if_pos hp] at r
        · rw [hl, if_neg (by decide), if_neg hp] at h; cases h; rwa [if_neg hp] at r
      · rw [if_pos (by simpa using hl)] at h; cases h
    | endNs p =>
      simp only [ckStep] at h
      have r := CkStep.endNs (ck := ck) (p := p)
      by_cases hp : p.isEmpty = true
      · rw [if_pos hp] at h; cases h; rwa [if_pos hp] at r
      · rw [if_neg hp] at h; cases h; rwa [if_neg hp] at r
    | xmlDecl v e s => cases h
    | _ => exact absurd rfl he

theorem docGo_cons {ck : CkSt} {x : XEv} {xs : List XEv} (h : docGo ck (x :: xs) = true) :
    ∃ ck', ckStep ck x = some ck' ∧ docGo ck' xs = true := by
  simp only [docGo] at h
  cases hck : ckStep ck x with
  | none => rw [hck] at h; cases h
  | some ck' => rw [hck] at h; exact ⟨ck', rfl, h⟩

/-- a document is an accepted run, or a declaration in front of one; the flattener passes the declaration on -/
theorem docOK_cases {xs : List XEv} (h : docOK xs = true) :
    docGo CkSt.init xs = true ∨ ∃ v e s rest, xs = .ev (.xmlDecl v e s) :: rest ∧ docGo CkSt.init rest = true := by
  unfold docOK at h
  split at h
  · exact .inr ⟨_, _, _, _, rfl, h⟩
  · exact .inl h

theorem flatten_decl (pref : List (Str × Str)) (v : Str) (e : Option Str) (s : Int) (rest : List XEv) :
    flatten pref (.ev (.xmlDecl v e s) :: rest) = .other (.xmlDecl v e s) :: flatten pref rest := rfl

theorem ckStartLike_parts {c : CkSt} {t : QName} {a : AttrList} {d' : Bool}
    (h : ckStartLike c t a = some d') :
    d' = c.pendD.getD c.dTruthy ∧ ¬ (c.stack.isEmpty = true ∧ c.rootSeen = true) ∧
    tagOK t = true ∧ attrsOK a = true ∧ (t.ns = [] → d' = false) := by
  unfold ckStartLike at h
  simp only at h
  split at h
  · cases h
  · rename_i hc
    simp only [Option.some.injEq] at h
    simp only [Bool.or_eq_true, Bool.and_eq_true, Bool.not_eq_true', not_or, not_and,
      Bool.not_eq_true, Bool.not_eq_false] at hc
    obtain ⟨⟨⟨h1, h2⟩, h3⟩, h4⟩ := hc
    refine ⟨h.symm, ?_, h2, h3, ?_⟩
    · intro ⟨x, y⟩; have := h1 x; rw [y] at this; cases this
    · intro hn
      have : t.ns.isEmpty = true := by simp [hn]
      have := h4 this
      rw [← h]; exact this

theorem attrsOK_parts {a : AttrList} (h : attrsOK a = true) :
    (∀ x ∈ a, attrOK x = true) ∧ nodupKeys a = true := by
  unfold attrsOK at h
  simp only [Bool.and_eq_true, List.all_eq_true] at h
  exact h

end Genshi.Xml
