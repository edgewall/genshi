/-
  C02 — `EmptyTagFilter` does not change what a well-nested stream denotes.
-/
import Genshi.Model.XmlSpec
import Genshi.Lemmas.Core
namespace Genshi.Xml
open Genshi

/-- what a stream denotes -/
def canonS (s : Stream) : List REv := s.flatMap canonEv

theorem canonX_cons (x : XEv) (xs : List XEv) : canonX (x :: xs) = canonXEv x ++ canonX xs := by
  simp [canonX]

theorem emptyTagGo_other {e : Event} (he : e.isStartEnd = false) (prev : Option (QName × AttrList)) (es : Stream) :
    emptyTagGo prev (e :: es) =
      (match prev with | some (t, a) => [.ev (.start t a)] | none => []) ++ .ev e :: emptyTagGo none es := by
  rcases prev with _ | ⟨t, a⟩ <;> cases e <;> first | rfl | cases he

theorem emptyTagGo_canon : ∀ (s : Stream) (prev : Option (QName × AttrList)) (stk : List QName),
    balance (match prev with | some (t, _) => t :: stk | none => stk) s = some [] →
    canonX (emptyTagGo prev s) =
      (match prev with | some (t, a) => [REv.start t a] | none => []) ++ canonS s := by
  intro s
  induction s with
  | nil =>
    intro prev stk h
    cases prev with
    | none => simp [emptyTagGo, canonX, canonS]
    | some ta => obtain ⟨t, a⟩ := ta; simp [balance] at h
  | cons e es ih =>
    intro prev stk h
    by_cases he : e.isStartEnd = false
    · rw [balance_skip e he] at h
      have := ih none _ h
      rw [emptyTagGo_other he]
      rcases prev with _ | ⟨t, a⟩ <;> simp [canonX, canonS, canonXEv, canonEv] at this ⊢ <;> rw [this]
    rcases prev with _ | ⟨t, a⟩
    · cases e with
      | start t a =>
        simp only [emptyTagGo]
        have := ih (some (t, a)) stk (by rwa [balance_start] at h)
        rw [this]; simp [canonS, canonEv]
      | end_ t =>
        simp only [emptyTagGo, canonX_cons]
        obtain ⟨stk', rfl, h'⟩ := balance_end_some h
        have := ih none stk' h'
        simp only [List.nil_append] at this
        rw [this]; simp [canonS, canonXEv]
      | _ => exact absurd rfl he
    · simp only at h
      cases e with
      | start t' a' =>
        simp only [emptyTagGo, canonX_cons]
        have := ih (some (t', a')) (t :: stk) (by rwa [balance_start] at h)
        rw [this]; simp [canonS, canonXEv, canonEv]
      | end_ t' =>
        simp only [emptyTagGo, canonX_cons]
        obtain ⟨_, hst, h'⟩ := balance_end_some h
        cases hst
        have := ih none stk h'
        simp only [List.nil_append] at this
        rw [this]; simp [canonS, canonXEv, canonEv]
      | _ => exact absurd rfl he

theorem canonX_emptyTag (s : Stream) (h : WellNested s) : canonX (emptyTag s) = canonS s := by
  have := emptyTagGo_canon s none [] h
  simpa [emptyTag] using this

end Genshi.Xml
