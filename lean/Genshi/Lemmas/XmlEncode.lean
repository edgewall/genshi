/-
  C02 — what `encode` (xmlcharrefreplace) does to the pieces the serializer
  writes: escaped character data and attribute values become `encEscStr` /
  `encAttr` (read back by the reference decoder), markup whose characters the
  encoding has stays as it is (`markup_all`, `enc_emitStart`).  Per codec table: the
  encoded text lies inside the codec's repertoire (so `str.encode` cannot fail), a
  character outside it is written as its decimal character reference, and a table one
  of whose ranges covers ASCII satisfies the assumption of the encoding theorems.
-/
import Genshi.Lemmas.XmlTokA
import Genshi.Model.XmlSpec
namespace Genshi.Xml
open Genshi Genshi.Escape Genshi.Xml.Reader

theorem okStr_parts {s : Str} (h : okStr s = true) : s.all isXmlChar = true ∧ '\r' ∉ s := by
  unfold okStr at h
  simp only [List.all_eq_true, Bool.and_eq_true, decide_eq_true_eq] at h
  exact ⟨by simp only [List.all_eq_true]; exact fun c hc => (h c hc).1, fun hm => (h _ hm).2 rfl⟩

/-- a decimal character reference consists of `&`, `#`, `;` and digits -/
theorem mem_charRef {c x : Char} (h : x ∈ charRef c) : x ∈ ['&', '#', ';'] ∨ isDigit x = true := by
  simp only [charRef, List.mem_cons, List.mem_append, List.mem_nil_iff, or_false] at h
  rcases h with (rfl | rfl | h) | rfl
  · exact .inl (by decide)
  · exact .inl (by decide)
  · exact .inr (List.all_eq_true.mp (dec_all_digit c.toNat) x h)
  · exact .inl (by decide)

/-- `encode` keeps the characters the encoding has and adds nothing but the characters of decimal references -/
theorem mem_encodeText {rep : Char → Bool} {s : Str} {x : Char} (h : x ∈ encodeText rep s) :
    (x ∈ s ∧ rep x = true) ∨ x ∈ ['&', '#', ';'] ∨ isDigit x = true := by
  obtain ⟨c, hc, hx⟩ := List.mem_flatMap.mp h
  by_cases hr : rep c = true
  · rw [if_pos hr, List.mem_singleton] at hx
    exact .inl (hx ▸ ⟨hc, hr⟩)
  · rw [if_neg hr] at hx
    exact .inr (mem_charRef hx)

theorem encodeText_ne_nil {rep : Char → Bool} {s : Str} (h : s ≠ []) : encodeText rep s ≠ [] := by
  cases s with
  | nil => exact absurd rfl h
  | cons c cs =>
    intro e
    have := (List.append_eq_nil_iff.mp (List.flatMap_cons.symm.trans e)).1
    split at this
    · cases this
    · simp [charRef] at this

/-- what the tokenizer needs to know of escaped text: no raw `<`, `>` (nor `"` in attribute mode), no CR that was
    not there before, not empty unless the source is: from the alphabet of the references (`Lemmas/Escape.lean`) -/
theorem escapePy_chars (q : Bool) (s : Str) :
    '<' ∉ escapePy q s ∧ '>' ∉ escapePy q s ∧ (q = true → '"' ∉ escapePy q s) ∧
    ('\r' ∉ s → '\r' ∉ escapePy q s) ∧ (s ≠ [] → escapePy q s ≠ []) := by
  rw [escapePy_eq_spec]
  obtain ⟨h1, h2, h3⟩ := escapeSpec_no_raw q s
  refine ⟨h1, h2, h3, fun h hm => ?_, fun h e => ?_⟩
  · exact forall_mem_escapeSpec q s (P := (· ≠ '\r')) (fun c hc e => h (e ▸ hc)) (by decide) _ hm rfl
  · cases s with
    | nil => exact h rfl
    | cons c cs => exact escC_ne_nil q c (List.append_eq_nil_iff.mp (List.flatMap_cons.symm.trans e)).1

/-- text as the serializer escapes it and `encode` then writes it -/
def encEscStr (rep : Char → Bool) (q : Bool) (s : Str) : Str := encodeText rep (escapePy q s)

/-- the same after `encode`, whatever the encoding: none of these characters occurs in a character reference -/
theorem encEscStr_chars (rep : Char → Bool) (q : Bool) (s : Str) :
    '<' ∉ encEscStr rep q s ∧ '>' ∉ encEscStr rep q s ∧ (q = true → '"' ∉ encEscStr rep q s) ∧
    ('\r' ∉ s → '\r' ∉ encEscStr rep q s) ∧ (s ≠ [] → encEscStr rep q s ≠ []) := by
  obtain ⟨e1, e2, e3, e4, e5⟩ := escapePy_chars q s
  have k : ∀ x, x ∉ ['&', '#', ';'] → isDigit x = false → x ∈ encEscStr rep q s → x ∈ escapePy q s := by
    intro x h1 h2 hm
    rcases mem_encodeText hm with h | h | h
    · exact h.1
    · exact absurd h h1
    · rw [h2] at h; cases h
  exact ⟨fun h => e1 (k _ (by decide) (by decide) h), fun h => e2 (k _ (by decide) (by decide) h),
    fun hq h => e3 hq (k _ (by decide) (by decide) h), fun hs h => e4 hs (k _ (by decide) (by decide) h),
    fun hs => encodeText_ne_nil (e5 hs)⟩

theorem decodeText_encEsc (rep : Char → Bool) (hr : AsciiRep rep) (s : Str) (h : okStr s = true) :
    decodeText (encEscStr rep false s) = some s :=
  decodeGo_encode_escape rep hr false false s (okStr_parts h).1 (fun e => by cases e)

/-- the value written between the quotes for an attribute -/
def encAttr (rep : Char → Bool) (v : Str) : Str := if v = noneUri then [] else encEscStr rep true v

/-- the attribute list as the serializer writes it and `encode` leaves it when
    the names are representable -/
def emitAttrsEnc (rep : Char → Bool) (attrs : List (Str × Str)) : Str :=
  emitAttrsWith (attrs.map fun a => (a.1, encAttr rep a.2))

theorem attrEnc_encAttr (rep : Char → Bool) (hr : AsciiRep rep) (v : Str) (h : attrValOK v = true) :
    AttrEnc (encAttr rep v) (normUri v) := by
  unfold attrValOK at h
  unfold encAttr normUri
  by_cases hv : v = noneUri
  · simp only [hv, if_true]
    exact ⟨by simp, rfl⟩
  · simp only [hv, if_false]
    simp only [hv, decide_false, Bool.false_or, Bool.and_eq_true, List.all_eq_true, decide_eq_true_eq] at h
    exact ⟨(encEscStr_chars rep true v).2.2.1 rfl, decodeGo_encode_escape rep hr true true v (okStr_parts h.1).1
      (fun _ c hc => ⟨(h.2 c hc).1, (h.2 c hc).2, fun e => (okStr_parts h.1).2 (e ▸ hc)⟩)⟩

theorem forall₂_encAttr (rep : Char → Bool) (hr : AsciiRep rep) (attrs : List (Str × Str))
    (h : flatAttrsOK attrs = true) :
    List.Forall₂ (fun e a => e.1 = a.1 ∧ validName a.1 = true ∧ AttrEnc e.2 a.2)
      (attrs.map fun a => (a.1, encAttr rep a.2)) (normAttrs attrs) := by
  induction attrs with
  | nil => exact .nil
  | cons a rest ih =>
    unfold flatAttrsOK at h ih
    simp only [List.all_cons, Bool.and_eq_true] at h
    refine .cons ⟨rfl, h.1.1, attrEnc_encAttr rep hr a.2 h.1.2⟩ (ih h.2)

theorem encodeText_append (rep : Char → Bool) (a b : Str) :
    encodeText rep (a ++ b) = encodeText rep a ++ encodeText rep b := by
  simp [encodeText]

theorem repOpt_getD {rep : Char → Bool} {o : Option Str} (h : repOpt rep o = true) : (o.getD []).all rep = true := by
  cases o with
  | none => rfl
  | some s => exact h

theorem enc_id (rep : Char → Bool) (s : Str) (h : ∀ c ∈ s, rep c = true) : encodeText rep s = s :=
  encodeText_rep rep s (List.all_eq_true.mpr h)

theorem enc_cons (rep : Char → Bool) (c : Char) (hc : rep c = true) (s : Str) :
    encodeText rep (c :: s) = c :: encodeText rep s := by
  simp [encodeText, hc]

theorem encodeText_emitAttrs (rep : Char → Bool) (hr : AsciiRep rep) (a : List (Str × Str))
    (h : a.all (fun x => x.1.all rep) = true) : encodeText rep (emitAttrs a) = emitAttrsEnc rep a := by
  unfold emitAttrsEnc
  induction a with
  | nil => rfl
  | cons x xs ih =>
    obtain ⟨k, v⟩ := x
    simp only [List.all_cons, Bool.and_eq_true] at h
    have hk : ∀ c ∈ ' ' :: k, rep c = true := by
      intro c hc
      rcases List.mem_cons.mp hc with rfl | hc
      · exact hr _ (by decide)
      · exact List.all_eq_true.mp h.1 c hc
    show encodeText rep ((' ' :: k ++ ('=' :: '"' :: (if v = noneUri then [] else escapePy true v))) ++
      '"' :: emitAttrs xs) = _
    rw [encodeText_append, encodeText_append, enc_id rep (' ' :: k) hk,
      enc_cons rep '=' (hr _ (by decide)), enc_cons rep '"' (hr _ (by decide)),
      enc_cons rep '"' (hr _ (by decide)), ih h.2]
    simp only [List.map_cons, emitAttrsWith, encAttr, encEscStr]
    by_cases hv : v = noneUri
    · simp [hv, encodeText]
    · simp [hv]

theorem enc_emitStart (rep : Char → Bool) (hr : AsciiRep rep) (n : Str) (a : List (Str × Str)) (empty : Bool)
    (hn : n.all rep = true) (ha : a.all (fun x => x.1.all rep) = true) :
    encodeText rep (emitStart n a empty) =
      '<' :: n ++ emitAttrsEnc rep a ++ (if empty then ['/', '>'] else ['>']) := by
  have h1 : ∀ c ∈ '<' :: n, rep c = true := by
    intro c hc
    rcases List.mem_cons.mp hc with rfl | hc
    · exact hr _ (by decide)
    · exact List.all_eq_true.mp hn c hc
  have h2 : ∀ c ∈ (if empty then ['/', '>'] else ['>']), rep c = true := by
    intro c hc
    apply hr
    cases empty <;> (revert hc; simp) <;> (try rintro (rfl | rfl)) <;> (try rintro rfl) <;> decide
  show encodeText rep (('<' :: n ++ emitAttrs a) ++ (if empty then ['/', '>'] else ['>'])) = _
  rw [encodeText_append, encodeText_append, enc_id rep _ h1, encodeText_emitAttrs rep hr a ha, enc_id rep _ h2]

/-- a class of characters that holds all of ASCII except perhaps CR: the repertoire of an encoding that contains
    ASCII, and "is not CR" (the text handed to the tokenizer must not hold one) -/
def AsciiOK (P : Char → Bool) : Prop := ∀ c : Char, c.toNat < 128 → c ≠ '\r' → P c = true

theorem AsciiRep.ok {rep : Char → Bool} (hr : AsciiRep rep) : AsciiOK rep := fun c h _ => hr c h

theorem notCR_ok : AsciiOK (fun c => decide (c ≠ '\r')) := fun _ _ h => decide_eq_true h

theorem all_ascii {P : Char → Bool} (hP : AsciiOK P) (s : Str)
    (h : s.all (fun c => decide (c.toNat < 128) && decide (c ≠ '\r')) = true) : s.all P = true :=
  List.all_eq_true.mpr fun c hc => by
    have := List.all_eq_true.mp h c hc
    simp only [Bool.and_eq_true, decide_eq_true_eq] at this
    exact hP c this.1 this.2

theorem cr_not_mem_of_all {s : Str} (h : s.all (fun c => decide (c ≠ '\r')) = true) : '\r' ∉ s :=
  fun hm => by simpa using List.all_eq_true.mp h _ hm

theorem all_of_cr_not_mem {s : Str} (h : '\r' ∉ s) : s.all (fun c => decide (c ≠ '\r')) = true :=
  List.all_eq_true.mpr fun _ hc => decide_eq_true fun e => h (e ▸ hc)

/-- The markup the serializer writes lies in such a class when the names and the other strings it is made of do:
    for `rep`, `encode` leaves it alone; for "is not CR", end-of-line normalisation does. -/
theorem markup_all {rep : Char → Bool} (hr : AsciiOK rep) :
    (∀ n, n.all rep = true → (emitEnd n).all rep = true) ∧
    (∀ s, s.all rep = true → (['<', '!', '-', '-'] ++ s ++ ['-', '-', '>']).all rep = true) ∧
    (∀ t d, t.all rep = true → d.all rep = true → (['<', '?'] ++ t ++ ' ' :: d ++ ['?', '>']).all rep = true) ∧
    (∀ v e sa, v.all rep = true → repOpt rep e = true → (emitDecl v e sa).all rep = true) ∧
    (∀ n p s out, n.all rep = true → repOpt rep p = true → repOpt rep s = true → emitDoctype n p s = some out →
      out.all rep = true) := by
  have a := fun l h => all_ascii hr l h
  refine ⟨fun n hn => ?_, fun s hs => ?_, fun t d ht hd => ?_, fun v e sa hv he => ?_, fun n p s out hn hp hs hem => ?_⟩
  · simp only [emitEnd, List.cons_append, List.all_cons, List.all_append, hn, hr '<' (by decide) (by decide), hr '/' (by decide) (by decide),
      a ['>'] (by decide), Bool.and_self]
  · simp only [List.all_append, hs, a ['<', '!', '-', '-'] (by decide), a ['-', '-', '>'] (by decide), Bool.and_self]
  · simp only [List.all_append, List.all_cons, ht, hd, a ['<', '?'] (by decide), a ['?', '>'] (by decide),
      hr ' ' (by decide) (by decide), Bool.and_self]
  · unfold emitDecl
    simp only [List.all_append, Bool.and_eq_true]
    refine ⟨⟨⟨⟨⟨a _ (by decide), hv⟩, a _ (by decide)⟩, ?_⟩, ?_⟩, a _ (by decide)⟩
    · cases e with
      | none => rfl
      | some en =>
        simp only
        split
        · rfl
        · simp only [List.all_append, Bool.and_eq_true]
          exact ⟨⟨a _ (by decide), he⟩, a _ (by decide)⟩
    · split
      · rfl
      · simp only [List.all_append, Bool.and_eq_true]
        exact ⟨⟨a _ (by decide), by split <;> exact a _ (by decide)⟩, a _ (by decide)⟩
  · have hp' := repOpt_getD hp
    have hs' := repOpt_getD hs
    unfold emitDoctype at hem
    by_cases hne : n.isEmpty = true
    · rw [if_pos hne] at hem; cases hem
    · rw [if_neg hne, Option.some.injEq] at hem
      subst hem
      simp only [List.all_append, Bool.and_eq_true]
      refine ⟨⟨⟨⟨a _ (by decide), hn⟩, ?_⟩, ?_⟩, a _ (by decide)⟩
      · split
        · simp only [List.all_append, Bool.and_eq_true]
          exact ⟨⟨a _ (by decide), hp'⟩, a _ (by decide)⟩
        · split
          · exact a _ (by decide)
          · rfl
      · split
        · split <;>
          · simp only [List.all_append, Bool.and_eq_true]
            exact ⟨⟨a _ (by decide), hs'⟩, a _ (by decide)⟩
        · rfl

def nextCdata (c : Bool) : FEv → Bool
  | .other .startCdata => true
  | .other .endCdata => false
  | _ => c

theorem repMarkupGo_cons (rep : Char → Bool) (c : Bool) (e : FEv) (es : List FEv) :
    repMarkupGo rep c (e :: es) = (repMarkupGo rep c [e] && repMarkupGo rep (nextCdata c e) es) := by
  cases e with
  | start n a => simp [repMarkupGo, nextCdata]
  | empty n a => simp [repMarkupGo, nextCdata]
  | end_ n => simp [repMarkupGo, nextCdata]
  | other ev => cases ev <;> simp [repMarkupGo, nextCdata]

/-- the table check the translator's output is put through: some range covers 0 … 127 -/
def coversAscii (rs : List (Nat × Nat)) : Bool := rs.any fun r => r.1 == 0 && decide (127 ≤ r.2)

theorem asciiRep_of_covers (rs : List (Nat × Nat)) (h : coversAscii rs = true) : AsciiRep (inRanges rs) := by
  intro c hc
  unfold coversAscii at h
  obtain ⟨r, hr, hc2⟩ := List.any_eq_true.mp h
  simp only [Bool.and_eq_true, beq_iff_eq, decide_eq_true_eq] at hc2
  unfold inRanges
  apply List.any_eq_true.mpr
  refine ⟨r, hr, ?_⟩
  simp only [Bool.and_eq_true, decide_eq_true_eq]
  omega

theorem encodeText_all_rep (rep : Char → Bool) (hr : AsciiRep rep) (s : Str) :
    (encodeText rep s).all rep = true :=
  List.all_eq_true.mpr fun x hx => by
    rcases mem_encodeText hx with h | h | h
    · exact h.2
    · exact hr x ((by decide : ∀ y ∈ ['&', '#', ';'], y.toNat < 128) x h)
    · exact hr x (isDigit_ascii h)

theorem encodeText_unrep (rep : Char → Bool) (c : Char) (h : rep c = false) :
    encodeText rep [c] = '&' :: '#' :: dec c.toNat ++ [';'] := by
  simp [encodeText, charRef, h]

end Genshi.Xml
