/-
  C02 — the flattener and the reader's namespace stage.  Four files: A the
  invariants of the binding list (`LevelOK`, `Ext`, `TagInv`), generated and
  preferred prefixes, and the equations of `flatStep`; B what `takePending`,
  `declare`, `flatTag`, `flatAttrs` do to the tag state; C the reader's view of
  one start tag; D the simulation and the round trip at event level.
-/
import Genshi.Lemmas.XmlCheck
import Genshi.Lemmas.XmlScope
import Genshi.Lemmas.ListBasics
namespace Genshi.Xml
open Genshi Genshi.Xml.Reader

def legalB (b : Binding) : Prop := declLegal b.1 (normUri b.2.1) = true

def BindingsOK (bs : List Binding) : Prop := ∀ b ∈ bs, legalB b

def XmlBound (bs : List Binding) : Prop := uriOf bs xmlPrefix = some xmlNs

/-- the default namespace in force is not an *explicitly declared non-empty* one -/
def JProp (bs : List Binding) : Prop :=
  ¬ ∃ u, uriOf bs [] = some u ∧ falsyUri u = false ∧ autoOf bs [] = false

/-- What the simulation keeps of the binding list at every nesting level: each binding is a declaration XML can
    express (`BindingsOK`), `xml` is bound to its namespace (`XmlBound`), and — `d` being the checker's `dTruthy` at
    that level — where for the checker no explicit non-empty default-namespace declaration is in force, the
    flattener's default namespace is not an explicit non-empty one either (`JProp`), so an element without
    namespace can be written without prefix. -/
def LevelOK (bs : List Binding) (d : Bool) : Prop :=
  BindingsOK bs ∧ XmlBound bs ∧ (d = false → JProp bs)

theorem BindingsOK.cons {b : Binding} {bs : List Binding} (hb : legalB b) (h : BindingsOK bs) :
    BindingsOK (b :: bs) := by
  intro x hx
  rcases List.mem_cons.mp hx with rfl | hx
  · exact hb
  · exact h x hx

theorem XmlBound.cons {p u : Str} {a : Bool} {bs : List Binding} (hp : p ≠ xmlPrefix) (h : XmlBound bs) :
    XmlBound ((p, u, a) :: bs) := by
  unfold XmlBound at *
  rw [uriOf_cons]; simp [hp, h]

theorem JProp.cons_auto {p u : Str} {bs : List Binding} (h : JProp bs) : JProp ((p, u, true) :: bs) := by
  intro ⟨v, h1, h2, h3⟩
  rw [uriOf_cons] at h1
  rw [autoOf_cons] at h3
  by_cases hp : p = []
  · simp [hp] at h3
  · simp only [hp, if_false] at h1 h3
    exact h ⟨v, h1, h2, h3⟩

theorem JProp.cons_other {p u : Str} {a : Bool} {bs : List Binding} (hp : p ≠ []) (h : JProp bs) :
    JProp ((p, u, a) :: bs) := by
  intro ⟨v, h1, h2, h3⟩
  rw [uriOf_cons] at h1
  rw [autoOf_cons] at h3
  simp only [hp, if_false] at h1 h3
  exact h ⟨v, h1, h2, h3⟩

theorem JProp.of_falsy {bs : List Binding} {u : Str} (h1 : uriOf bs [] = some u) (h2 : falsyUri u = true) :
    JProp bs := by
  intro ⟨v, hv, hf, _⟩
  rw [h1] at hv
  cases hv
  rw [h2] at hf
  cases hf

/-- `bs'` is `bs` under bindings of prefixes that were unbound when they were pushed: every look-up that succeeds in
    `bs` gives the same answer in `bs'` (`Ext.uriOf`) and the default namespace is the same (`Ext.default`). So what
    was resolved for the tag name and the earlier attributes stays right while `flatAttrs` declares more. -/
inductive Ext : List Binding → List Binding → Prop
  | refl (bs) : Ext bs bs
  | push {bs bs'} (p u : Str) (a : Bool) (h : Ext bs bs') (hf : uriOf bs' p = none) : Ext bs ((p, u, a) :: bs')

theorem Ext.trans {a b c : List Binding} (h1 : Ext a b) (h2 : Ext b c) : Ext a c := by
  induction h2 with
  | refl => exact h1
  | push p u x _ hf ih => exact Ext.push p u x ih hf

theorem Ext.uriOf {bs bs' : List Binding} (h : Ext bs bs') {q v : Str} (hq : uriOf bs q = some v) :
    Genshi.Xml.uriOf bs' q = some v := by
  induction h with
  | refl => exact hq
  | push p u a _ hf ih =>
    rw [uriOf_cons]
    by_cases hp : p = q
    · subst hp; rw [ih] at hf; cases hf
    · simp [hp, ih]

theorem Ext.default {bs bs' : List Binding} (h : Ext bs bs') :
    Genshi.Xml.uriOf bs' [] = Genshi.Xml.uriOf bs [] ∧ autoOf bs' [] = autoOf bs [] := by
  induction h with
  | refl => exact ⟨rfl, rfl⟩
  | push p u a _ hf ih =>
    have hp : p ≠ [] := by
      intro e; subst e; exact uriOf_nil_ne_none _ hf
    rw [uriOf_cons, autoOf_cons]
    simp [hp, ih]

theorem Ext.jprop {bs bs' : List Binding} (h : Ext bs bs') (hj : JProp bs) : JProp bs' := by
  intro ⟨v, h1, h2, h3⟩
  rw [h.default.1] at h1
  rw [h.default.2] at h3
  exact hj ⟨v, h1, h2, h3⟩

def rawProj (b : Binding) : Str × Str := (b.1, b.2.1)

/-- While one start tag is generated: the tag state's bindings are `base` (those in force before the tag) under
    exactly the declarations made on this tag so far, in order, no prefix twice. -/
structure TagInv (base : List Binding) (t : TagSt) : Prop where
  front : ∃ front, t.bindings = front ++ base ∧ front.map rawProj = t.declared.reverse
  nodup : (t.declared.map Prod.fst).Nodup
  legal : BindingsOK t.bindings
  xml : XmlBound t.bindings

theorem TagInv.declared_bound {base : List Binding} {t : TagSt} (h : TagInv base t) {p : Str}
    (hp : p ∈ t.declared.map Prod.fst) : uriOf t.bindings p ≠ none := by
  obtain ⟨front, hb, hf⟩ := h.front
  apply uriOf_ne_none_of_mem
  rw [hb]
  simp only [List.map_append, List.mem_append]
  left
  have : front.map (·.1) = (t.declared.reverse).map Prod.fst := by
    rw [← hf]; simp [rawProj, Function.comp_def]
  rw [this, List.map_reverse]
  exact List.mem_reverse.mpr hp

theorem TagInv.drop {base : List Binding} {t : TagSt} (h : TagInv base t) :
    t.bindings.drop t.declared.length = base := by
  obtain ⟨front, hb, hf⟩ := h.front
  have hlen : front.length = t.declared.length := by simpa using congrArg List.length hf
  rw [hb, ← hlen]; simp

theorem TagInv.push {base : List Binding} {t : TagSt} (h : TagInv base t) (p u : Str) (a : Bool) (c : Nat)
    (hnew : p ∉ t.declared.map Prod.fst) (hl : legalB (p, u, a)) (hx : p ≠ xmlPrefix) :
    TagInv base { bindings := (p, u, a) :: t.bindings, declared := t.declared ++ [(p, u)], counter := c } := by
  obtain ⟨front, hb, hf⟩ := h.front
  refine ⟨⟨(p, u, a) :: front, by simp [hb], by simp [hf, rawProj]⟩, ?_, h.legal.cons hl, h.xml.cons hx⟩
  simp only [List.map_append, List.map_cons, List.map_nil]
  rw [List.nodup_append]
  refine ⟨h.nodup, by simp, ?_⟩
  intro x hx1 y hy
  simp only [List.mem_singleton] at hy
  subst hy
  intro e; subst e; exact hnew hx1

theorem colon_not_mem_dec (n : Nat) : ':' ∉ dec n := not_mem_digits (dec_all_digit n) (by decide)

theorem nsName_legal (n : Nat) (uri : Str) (h1 : uri ≠ []) (h2 : uri ≠ xmlNs) (h3 : uri ≠ xmlnsNs) :
    declLegal (nsName n) uri = true := by
  have hc : ':' ∉ nsName n := by
    intro h
    simp only [nsName, List.mem_cons] at h
    rcases h with h | h | h
    · exact absurd h (by decide)
    · exact absurd h (by decide)
    · exact colon_not_mem_dec n h
  have hx : nsName n ≠ xmlPrefix := by simp [nsName, xmlPrefix]
  have hxs : nsName n ≠ xmlnsName := by simp [nsName, xmlnsName]
  unfold declLegal
  have e1 : (nsName n).isEmpty = false := by simp [nsName]
  have e2 : List.elem ':' (nsName n) = false := by
    simpa using hc
  have e3 : ((nsName n).head?.map isNameStartBad).getD true = false := by
    simp [nsName]; decide
  simp [e1, e3, h1, h2, h3, hx, hxs, hc]

/-- the prefix `_declare` picks: the preferred prefix of the URI where that is non-empty and free, else a
    generated name, which is free -/
theorem freshPrefix_cases (pref : List (Str × Str)) (bs : List Binding) (uri : Str) (c : Nat) :
    (∃ p, List.lookup uri pref = some p ∧ p ≠ [] ∧ uriOf bs p = none ∧ (freshPrefix pref bs uri c).1 = p) ∨
    ∃ n, (freshPrefix pref bs uri c).1 = nsName n ∧ uriOf bs (nsName n) = none := by
  have gen : ∃ n, (genLoop bs c (bs.length + 1)).1 = nsName n ∧ uriOf bs (nsName n) = none := by
    obtain ⟨n, hn⟩ := genLoop_prefix bs (bs.length + 1) c
    exact ⟨n, hn, hn ▸ genLoop_fresh bs c⟩
  unfold freshPrefix
  cases hl : List.lookup uri pref with
  | none => exact .inr gen
  | some p =>
    simp only
    by_cases hc : ¬ p.isEmpty = true ∧ uriOf bs p = none
    · rw [if_pos hc]; exact .inl ⟨p, rfl, by simpa using hc.1, hc.2, rfl⟩
    · rw [if_neg hc]; exact .inr gen

theorem freshPrefix_ne_nil (pref : List (Str × Str)) (bs : List Binding) (uri : Str) (c : Nat) :
    (freshPrefix pref bs uri c).1 ≠ [] := by
  rcases freshPrefix_cases pref bs uri c with ⟨p, _, hp, _, e⟩ | ⟨n, e, _⟩ <;> rw [e]
  · exact hp
  · exact nsName_ne_nil n

theorem freshPrefix_unbound (pref : List (Str × Str)) (bs : List Binding) (uri : Str) (c : Nat) :
    uriOf bs (freshPrefix pref bs uri c).1 = none := by
  rcases freshPrefix_cases pref bs uri c with ⟨p, _, _, hu, e⟩ | ⟨n, e, hu⟩ <;> rw [e] <;> exact hu

theorem freshPrefix_spec (pref : List (Str × Str)) (hpref : prefOK pref = true) (bs : List Binding)
    (uri : Str) (counter : Nat)
    (h1 : uri ≠ []) (h2 : uri ≠ xmlNs) (h3 : uri ≠ xmlnsNs) :
    (freshPrefix pref bs uri counter).1 ≠ [] ∧
    uriOf bs (freshPrefix pref bs uri counter).1 = none ∧
    declLegal (freshPrefix pref bs uri counter).1 uri = true := by
  rcases freshPrefix_cases pref bs uri counter with ⟨p, hl, hp, hu, e⟩ | ⟨n, e, hu⟩ <;> rw [e]
  · refine ⟨hp, hu, ?_⟩
    have := List.all_eq_true.mp hpref (uri, p) (lookup_mem hl)
    simp only [Bool.or_eq_true, Bool.and_eq_true] at this
    rcases this with h | h
    · exact absurd (by simpa using h) hp
    · exact h.1
  · exact ⟨nsName_ne_nil n, hu, nsName_legal n uri h1 h2 h3⟩

theorem flatRun_cons (pref : List (Str × Str)) (st : FSt) (x : XEv) (xs : List XEv) :
    flatRun pref st (x :: xs) = (flatStep pref st x).2 ++ flatRun pref (flatStep pref st x).1 xs := rfl

theorem flatStep_start (pref : List (Str × Str)) (st : FSt) (tag : QName) (attrs : AttrList) :
    flatStep pref st (.ev (.start tag attrs)) =
      ({ bindings := (flatStart pref st tag attrs).2.2.bindings, pending := [],
         elems := ((flatStart pref st tag attrs).1, (flatStart pref st tag attrs).2.2.declared.length) :: st.elems,
         counter := (flatStart pref st tag attrs).2.2.counter },
       [.start (flatStart pref st tag attrs).1 (flatStart pref st tag attrs).2.1]) := rfl

theorem flatStep_empty (pref : List (Str × Str)) (st : FSt) (tag : QName) (attrs : AttrList) :
    flatStep pref st (.empty tag attrs) =
      ({ bindings := st.bindings, pending := [], elems := st.elems,
         counter := (flatStart pref st tag attrs).2.2.counter },
       [.empty (flatStart pref st tag attrs).1 (flatStart pref st tag attrs).2.1]) := rfl

theorem flatStep_end (pref : List (Str × Str)) (st : FSt) (tag : QName) (name : Str) (n : Nat)
    (rest : List (Str × Nat)) (h : st.elems = (name, n) :: rest) :
    flatStep pref st (.ev (.end_ tag)) = ({ st with bindings := st.bindings.drop n, elems := rest }, [.end_ name]) := by
  simp only [flatStep, h]

theorem flatStep_end_out (pref : List (Str × Str)) (st : FSt) (t : QName) :
    ∃ name, (flatStep pref st (.ev (.end_ t))).2 = [.end_ name] := by
  simp only [flatStep]
  split <;> exact ⟨_, rfl⟩

theorem flatStep_startNs (pref : List (Str × Str)) (st : FSt) (p u : Str) :
    flatStep pref st (.ev (.startNs p u)) =
      ({ st with pending := st.pending.filter (fun d => d.1 ≠ p) ++ [(p, u)] }, []) := rfl

theorem flatStep_endNs (pref : List (Str × Str)) (st : FSt) (p : Str) :
    flatStep pref st (.ev (.endNs p)) = ({ st with pending := st.pending.filter (fun d => d.1 ≠ p) }, []) := rfl

theorem flatStep_plain (pref : List (Str × Str)) (st : FSt) (e : Event) (h : isPlain e = true) :
    flatStep pref st (.ev e) = (st, [.other e]) := by
  cases e <;> first | rfl | cases h

end Genshi.Xml
