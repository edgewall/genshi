/-
  C02 — the flattener's bookkeeping, part B: what `takePending`, `declare`,
  `flatTag`, `flatAttrs` do to the tag state.
-/
import Genshi.Lemmas.XmlFlatA
namespace Genshi.Xml
open Genshi Genshi.Xml.Reader

theorem normUri_of_ne {u : Str} (h : u ≠ noneUri) : normUri u = u := by simp [normUri, h]

/-- Python's falsy URIs (`""`, `None`) are those a reader sees as no namespace -/
theorem falsy_iff_normUri_nil {u : Str} : falsyUri u = true ↔ normUri u = [] := by
  unfold falsyUri normUri
  by_cases hu : u = noneUri <;> simp [hu]

/-- the requests waiting for the next start tag: at most one per prefix (a START_NS replaces an earlier one for its
    prefix), each accepted by the checker -/
structure PendingOK (pending : List (Str × Str)) : Prop where
  nodup : (pending.map Prod.fst).Nodup
  legal : ∀ d ∈ pending, nsDeclOK d.1 d.2 = true

theorem nsDeclOK_legalB {p u : Str} (h : nsDeclOK p u = true) (a : Bool) : legalB (p, u, a) := by
  unfold nsDeclOK at h
  unfold legalB
  by_cases hp : p.isEmpty = true
  · simp only [hp, if_true] at h
    have : p = [] := by simpa using hp
    subst this
    exact h
  · rw [if_neg hp] at h
    simp only [Bool.and_eq_true, decide_eq_true_eq] at h
    simp only
    rw [normUri_of_ne h.2]
    exact h.1

/-- what a legal declaration of a non-empty prefix says (the parts the proofs use) -/
theorem declLegal_parts {p u : Str} (hp : p ≠ []) (h : declLegal p u = true) :
    ':' ∉ p ∧ p ≠ xmlnsName ∧ u ≠ [] ∧ (p = xmlPrefix ↔ u = xmlNs) := by
  unfold declLegal at h
  have he : p.isEmpty = false := by simpa using hp
  simp only [he, Bool.false_eq_true, if_false, Bool.not_eq_true', Bool.or_eq_false_iff] at h
  obtain ⟨⟨⟨⟨⟨h1, h2⟩, h3⟩, _⟩, h5⟩, _⟩ := h
  exact ⟨by simpa using h1, by simpa using h3, by simpa using h2, by simpa using h5⟩

/-- a declaration that is actually taken does not concern the `xml` prefix: the
    only legal one repeats the permanent binding and is skipped -/
theorem nsDeclOK_ne_xml {p u : Str} (h : nsDeclOK p u = true) {bs : List Binding} (hx : XmlBound bs)
    (hne : uriOf bs p ≠ some u) : p ≠ xmlPrefix := by
  intro e
  subst e
  unfold nsDeclOK at h
  rw [if_neg (by decide), Bool.and_eq_true] at h
  apply hne
  rw [(declLegal_parts (by decide) h.1).2.2.2.mp rfl]
  exact hx

theorem takePending_counter (t : TagSt) (pending : List (Str × Str)) :
    (takePending t pending).counter = t.counter := by
  induction pending generalizing t with
  | nil => rfl
  | cons d ds ih =>
    obtain ⟨p, u⟩ := d
    unfold takePending
    split <;> simp [ih]

theorem takePending_inv (base : List Binding) (pending : List (Str × Str)) :
    ∀ (t : TagSt), TagInv base t → PendingOK pending →
      (∀ p ∈ pending.map Prod.fst, p ∉ t.declared.map Prod.fst) →
      TagInv base (takePending t pending) := by
  induction pending with
  | nil => intro t h _ _; exact h
  | cons d ds ih =>
    intro t h hp hdis
    obtain ⟨p, u⟩ := d
    have hds : PendingOK ds := ⟨(List.nodup_cons.mp hp.nodup).2, fun d hd => hp.legal d (by simp [hd])⟩
    have hpnot : p ∉ ds.map Prod.fst := (List.nodup_cons.mp hp.nodup).1
    unfold takePending
    split
    · rename_i hc
      apply ih _ _ hds
      · intro q hq
        simp only [List.map_append, List.map_cons, List.map_nil, List.mem_append, List.mem_singleton, not_or]
        refine ⟨hdis q (by simp [hq]), ?_⟩
        intro e; subst e; exact hpnot hq
      · exact h.push p u false t.counter (hdis p (by simp)) (nsDeclOK_legalB (hp.legal (p, u) (by simp)) false)
          (nsDeclOK_ne_xml (hp.legal (p, u) (by simp)) h.xml hc.1)
    · exact ih t h hds (fun q hq => hdis q (by simp [hq]))

theorem takePending_other (pending : List (Str × Str)) (q : Str) (hq : q ∉ pending.map Prod.fst) :
    ∀ (t : TagSt), uriOf (takePending t pending).bindings q = uriOf t.bindings q ∧
      autoOf (takePending t pending).bindings q = autoOf t.bindings q := by
  induction pending with
  | nil => intro t; exact ⟨rfl, rfl⟩
  | cons d ds ih =>
    intro t
    obtain ⟨p, u⟩ := d
    simp only [List.map_cons, List.mem_cons, not_or] at hq
    unfold takePending
    split
    · have := ih hq.2 { t with bindings := (p, u, false) :: t.bindings, declared := t.declared ++ [(p, u)] }
      rw [this.1, this.2, uriOf_cons, autoOf_cons]
      have : p ≠ q := fun e => hq.1 e.symm
      simp [this]
    · exact ih hq.2 t

theorem takePending_default_falsy (pending : List (Str × Str)) (hnd : (pending.map Prod.fst).Nodup)
    (u : Str) (hu : falsyUri u = true) (hm : ([], u) ∈ pending) :
    ∀ (t : TagSt), uriOf (takePending t pending).bindings [] = some u := by
  induction pending with
  | nil => simp at hm
  | cons d ds ih =>
    intro t
    obtain ⟨p, v⟩ := d
    have hnd' := List.nodup_cons.mp hnd
    rcases List.mem_cons.mp hm with e | hm'
    · cases e
      -- this entry is the default one; the rest does not touch the default
      have hrest : ([] : Str) ∉ ds.map Prod.fst := hnd'.1
      unfold takePending
      split
      · rw [(takePending_other ds [] hrest _).1, uriOf_cons]; simp
      · rename_i hc
        rw [(takePending_other ds [] hrest _).1]
        simp only [List.isEmpty_nil, not_true_eq_false, hu, true_or, false_or, and_true, ne_eq,
          Decidable.not_not] at hc
        exact hc
    · have hp : p ≠ [] := by
        intro e; subst e
        exact hnd'.1 (List.mem_map.mpr ⟨([], u), hm', rfl⟩)
      unfold takePending
      split
      · exact ih hnd'.2 hm' _
      · exact ih hnd'.2 hm' _

theorem lookup_none_not_mem {pending : List (Str × Str)} {p : Str} (h : List.lookup p pending = none) :
    p ∉ pending.map Prod.fst := by
  intro hm
  obtain ⟨d, hd, rfl⟩ := List.mem_map.mp hm
  simpa using List.lookup_eq_none_iff.mp h d hd

/-- when the checker's `d'` is false, the default namespace after the requested
    declarations is not an explicit non-empty one -/
theorem takePending_jprop (pending : List (Str × Str)) (hp : PendingOK pending) (t : TagSt)
    (d : Bool) (hj : d = false → JProp t.bindings)
    (hd' : ((List.lookup [] pending).map (fun u => !falsyUri u)).getD d = false) :
    JProp (takePending t pending).bindings := by
  cases hl : List.lookup [] pending with
  | none =>
    rw [hl] at hd'
    simp only [Option.map_none, Option.getD_none] at hd'
    have := takePending_other pending [] (lookup_none_not_mem hl) t
    intro ⟨v, h1, h2, h3⟩
    rw [this.1] at h1; rw [this.2] at h3
    exact hj hd' ⟨v, h1, h2, h3⟩
  | some u =>
    rw [hl] at hd'
    simp only [Option.map_some, Option.getD_some, Bool.not_eq_false'] at hd'
    exact JProp.of_falsy (takePending_default_falsy pending hp.nodup u hd' (lookup_mem hl) t) hd'

theorem declare_given_nil (pref : List (Str × Str)) (t : TagSt) (uri : Str)
    (hn : ([] : Str) ∉ t.declared.map Prod.fst) :
    declare pref t uri (some []) =
      ([], { bindings := ([], uri, true) :: t.bindings, declared := t.declared ++ [([], uri)],
             counter := t.counter }) := by
  have : (t.declared.map Prod.fst).contains ([] : Str) = false :=
    Bool.eq_false_iff.mpr fun h => hn (List.contains_iff_mem.mp h)
  simp only [declare, this, Bool.false_eq_true, if_false]

theorem declare_fresh (pref : List (Str × Str)) (t : TagSt) (uri : Str) (pfx : Option Str)
    (hp : pfx = none ∨ ∃ p, pfx = some p ∧ p ∈ t.declared.map Prod.fst) :
    declare pref t uri pfx =
      ((freshPrefix pref t.bindings uri t.counter).1,
       { bindings := ((freshPrefix pref t.bindings uri t.counter).1, uri, true) :: t.bindings,
         declared := t.declared ++ [((freshPrefix pref t.bindings uri t.counter).1, uri)],
         counter := (freshPrefix pref t.bindings uri t.counter).2 }) := by
  unfold declare
  rcases hp with rfl | ⟨p, rfl, hp⟩
  · simp
  · have : (t.declared.map Prod.fst).contains p = true := List.contains_iff_mem.mpr hp
    simp only [this, if_true]

theorem legalB_of_declLegal {p u : Str} {a : Bool} (hu : u ≠ noneUri) (h : declLegal p u = true) :
    legalB (p, u, a) := by
  unfold legalB; simp only; rw [normUri_of_ne hu]; exact h

theorem declLegal_ne_xml {p u : Str} (hp : p ≠ []) (h : declLegal p u = true) (hu : u ≠ xmlNs) :
    p ≠ xmlPrefix :=
  fun e => hu ((declLegal_parts hp h).2.2.2.mp e)

theorem declare_fresh_inv (pref : List (Str × Str)) (hpref : prefOK pref = true)
    (base : List Binding) (t : TagSt) (h : TagInv base t) (uri : Str) (pfx : Option Str)
    (hp : pfx = none ∨ ∃ p, pfx = some p ∧ p ∈ t.declared.map Prod.fst)
    (h1 : uri ≠ []) (h2 : uri ≠ xmlNs) (h3 : uri ≠ xmlnsNs) (h4 : uri ≠ noneUri) :
    TagInv base (declare pref t uri pfx).2 ∧
    (declare pref t uri pfx).1 ≠ [] ∧
    uriOf t.bindings (declare pref t uri pfx).1 = none ∧
    (declare pref t uri pfx).2.bindings = ((declare pref t uri pfx).1, uri, true) :: t.bindings := by
  rw [declare_fresh pref t uri pfx hp]
  obtain ⟨f1, f2, f3⟩ := freshPrefix_spec pref hpref t.bindings uri t.counter h1 h2 h3
  refine ⟨?_, f1, f2, rfl⟩
  apply h.push _ uri true _ _ (legalB_of_declLegal h4 f3) (declLegal_ne_xml f1 f3 h2)
  intro hm
  exact h.declared_bound hm f2

/-- the name written for `tag` under the bindings `bs`: the local name where the default namespace in force is
    none, else `prefix:local` with a prefix bound to the tag's namespace -/
inductive TagRes (bs : List Binding) : Str → QName → Prop
  | plain {tag : QName} {u : Str} (hn : tag.ns = []) (hu : uriOf bs [] = some u) (hf : falsyUri u = true) :
      TagRes bs tag.loc tag
  | qualified {tag : QName} {p : Str} (hn : tag.ns ≠ []) (hu : uriOf bs p = some tag.ns) :
      TagRes bs (qualify p tag.loc) tag

theorem TagRes.ext {bs bs' : List Binding} {name : Str} {tag : QName} (h : TagRes bs name tag)
    (he : Ext bs bs') : TagRes bs' name tag := by
  cases h with
  | plain hn hu hf => exact .plain hn (by rw [he.default.1]; exact hu) hf
  | qualified hn hu => exact .qualified hn (he.uriOf hu)

theorem nsOK_ne {ns : Str} (h : nsOK ns = true) : ns ≠ noneUri ∧ ns ≠ xmlnsNs := by
  unfold nsOK at h
  simpa using h

theorem tagOK_parts {t : QName} (h : tagOK t = true) : locOK t.loc = true ∧ t.ns ≠ noneUri ∧ t.ns ≠ xmlnsNs := by
  unfold tagOK at h
  rw [Bool.and_eq_true] at h
  exact ⟨h.1, nsOK_ne h.2⟩

theorem ne_xmlNs_of_findPrefix_none {bs : List Binding} (hx : XmlBound bs) {ns : Str} {fa : Bool}
    (h : findPrefix bs ns fa = none) : ns ≠ xmlNs := by
  intro e
  subst e
  have := findPrefix_complete bs xmlNs fa xmlPrefix (by decide) hx
  rw [h] at this
  cases this

theorem declLegal_nil {u : Str} (h1 : u ≠ xmlNs) (h2 : u ≠ xmlnsNs) : declLegal [] u = true := by
  unfold declLegal; simp [h1, h2]

/-- The tag-name step keeps `TagInv`, writes a name the reader resolves to `tag` (`TagRes`) and keeps `JProp`.
    Without namespace the local name is written: right where the default namespace in force is falsy; a made-up
    non-empty one is undone by `xmlns=""` on this tag; an explicit non-empty one is what `hj` rules out (the checker
    refuses such an element). With a namespace, a prefix in scope is used, else the namespace is declared — as the
    default unless this tag has declared the default already. `hexp`: a default declared on this tag so far comes
    from `takePending`, hence is explicit. -/
theorem flatTag_spec (pref : List (Str × Str)) (hpref : prefOK pref = true)
    (base : List Binding) (t : TagSt) (h : TagInv base t) (tag : QName) (htag : tagOK tag = true)
    (hj : tag.ns = [] → JProp t.bindings)
    (hexp : ([] : Str) ∈ t.declared.map Prod.fst → autoOf t.bindings [] = false) :
    TagInv base (flatTag pref t tag).2 ∧
    TagRes (flatTag pref t tag).2.bindings (flatTag pref t tag).1 tag ∧
    (JProp t.bindings → JProp (flatTag pref t tag).2.bindings) := by
  obtain ⟨_, hns1, hns2⟩ := tagOK_parts htag
  unfold flatTag
  by_cases hn : tag.ns = []
  · have hne : tag.ns.isEmpty = true := by simp [hn]
    simp only [hne, if_true]
    cases hu : uriOf t.bindings [] with
    | none => exact absurd hu (uriOf_nil_ne_none _)
    | some u =>
      simp only
      by_cases hc : ¬ falsyUri u = true ∧ autoOf t.bindings [] = true
      · rw [if_pos hc]
        have hnd : ([] : Str) ∉ t.declared.map Prod.fst := by
          intro hm; rw [hexp hm] at hc; exact absurd hc.2 (by simp)
        rw [declare_given_nil pref t [] hnd]
        refine ⟨?_, ?_, fun hj' => hj'.cons_auto⟩
        · exact h.push [] [] true t.counter hnd (by unfold legalB; decide) (by decide)
        · exact .plain hn (u := []) (by rw [uriOf_cons]; simp) (by decide)
      · rw [if_neg hc]
        refine ⟨h, ?_, fun hj' => hj'⟩
        refine .plain hn hu ?_
        cases hf : falsyUri u with
        | true => rfl
        | false =>
          exfalso
          apply hj hn
          refine ⟨u, hu, hf, ?_⟩
          cases ha : autoOf t.bindings [] with
          | false => rfl
          | true => exact absurd ⟨by simp [hf], ha⟩ hc
  · have hne : tag.ns.isEmpty = false := by simpa using hn
    simp only [hne, Bool.false_eq_true, if_false]
    cases hf : findPrefix t.bindings tag.ns false with
    | some p =>
      simp only
      refine ⟨h, ?_, fun hj' => hj'⟩
      exact .qualified hn (findPrefix_sound _ _ _ _ hf).1
    | none =>
      simp only
      have hx := ne_xmlNs_of_findPrefix_none h.xml hf
      by_cases hnd : ([] : Str) ∈ t.declared.map Prod.fst
      · obtain ⟨i1, i2, i3, i4⟩ := declare_fresh_inv pref hpref base t h tag.ns (some [])
          (Or.inr ⟨[], rfl, hnd⟩) hn hx hns2 hns1
        refine ⟨i1, ?_, fun hj' => by rw [i4]; exact hj'.cons_auto⟩
        exact .qualified hn (by rw [i4, uriOf_cons]; simp)
      · rw [declare_given_nil pref t tag.ns hnd]
        refine ⟨?_, ?_, fun hj' => hj'.cons_auto⟩
        · exact h.push [] tag.ns true t.counter hnd
            (legalB_of_declLegal hns1 (declLegal_nil hx hns2)) (by decide)
        · exact .qualified hn (p := []) (by rw [uriOf_cons]; simp)

theorem takePending_explicit (pending : List (Str × Str)) :
    ∀ (t : TagSt), (([] : Str) ∈ t.declared.map Prod.fst → autoOf t.bindings [] = false) →
      (([] : Str) ∈ (takePending t pending).declared.map Prod.fst →
        autoOf (takePending t pending).bindings [] = false) := by
  induction pending with
  | nil => intro t h; exact h
  | cons d ds ih =>
    intro t h
    obtain ⟨p, u⟩ := d
    unfold takePending
    split
    · apply ih
      intro hm
      simp only [List.map_append, List.map_cons, List.map_nil, List.mem_append, List.mem_singleton] at hm
      rw [autoOf_cons]
      by_cases hp : p = []
      · simp [hp]
      · simp only [hp, if_false]
        rcases hm with hm | hm
        · exact h hm
        · exact absurd hm.symm hp
    · exact ih t h

/-- the same for one attribute as written (`o`): the value is unchanged; the name is the local name where the
    attribute has no namespace, else `prefix:local` with a non-empty prefix bound to its namespace -/
def AttrRes (bs : List Binding) (o : Str × Str) (a : QName × Str) : Prop :=
  o.2 = a.2 ∧
  if a.1.ns = [] then o.1 = a.1.loc
  else ∃ p, p ≠ [] ∧ o.1 = p ++ ':' :: a.1.loc ∧ uriOf bs p = some a.1.ns

theorem AttrRes.ext {bs bs' : List Binding} {o : Str × Str} {a : QName × Str} (h : AttrRes bs o a)
    (he : Ext bs bs') : AttrRes bs' o a := by
  unfold AttrRes at *
  refine ⟨h.1, ?_⟩
  by_cases hn : a.1.ns = []
  · rw [if_pos hn]; have := h.2; rwa [if_pos hn] at this
  · rw [if_neg hn]; have := h.2; rw [if_neg hn] at this
    obtain ⟨p, h1, h2, h3⟩ := this
    exact ⟨p, h1, h2, he.uriOf h3⟩

theorem forall₂_ext {bs bs' : List Binding} (he : Ext bs bs') :
    ∀ {out : List (Str × Str)} {attrs : AttrList},
      List.Forall₂ (AttrRes bs) out attrs → List.Forall₂ (AttrRes bs') out attrs := by
  intro out attrs h
  induction h with
  | nil => exact .nil
  | cons h1 _ ih => exact .cons (h1.ext he) ih

theorem attrOK_parts {a : QName × Str} (h : attrOK a = true) :
    locOK a.1.loc = true ∧ nsOK a.1.ns = true ∧ ¬ (a.1.ns = [] ∧ a.1.loc = xmlnsName) ∧ a.2 ≠ noneUri := by
  unfold attrOK at h
  simp only [Bool.and_eq_true, Bool.not_eq_true', Bool.and_eq_false_iff, decide_eq_true_eq,
    decide_eq_false_iff_not, ne_eq] at h
  refine ⟨h.1.1.1, h.1.1.2, ?_, h.2⟩
  intro ⟨h1, h2⟩
  rcases h.1.2 with h3 | h3
  · simp [h1] at h3
  · exact h3 h2

theorem flatAttrs_plain (pref : List (Str × Str)) (t : TagSt) (a : QName) (v : Str) (rest : AttrList)
    (hn : a.ns = []) :
    flatAttrs pref t ((a, v) :: rest) =
      ((a.loc, v) :: (flatAttrs pref t rest).1, (flatAttrs pref t rest).2) := by
  have hne : a.ns.isEmpty = true := by simp [hn]
  rw [flatAttrs]
  simp only [hne, if_true]

theorem flatAttrs_found (pref : List (Str × Str)) (t : TagSt) (a : QName) (v : Str) (rest : AttrList)
    (hn : a.ns ≠ []) (p : Str) (hf : findPrefix t.bindings a.ns true = some p) :
    flatAttrs pref t ((a, v) :: rest) =
      ((p ++ ':' :: a.loc, v) :: (flatAttrs pref t rest).1, (flatAttrs pref t rest).2) := by
  have hne : a.ns.isEmpty = false := by simpa using hn
  rw [flatAttrs]
  simp only [hne, Bool.false_eq_true, if_false, hf]

theorem flatAttrs_decl (pref : List (Str × Str)) (t : TagSt) (a : QName) (v : Str) (rest : AttrList)
    (hn : a.ns ≠ []) (hf : findPrefix t.bindings a.ns true = none) :
    flatAttrs pref t ((a, v) :: rest) =
      (((declare pref t a.ns none).1 ++ ':' :: a.loc, v) :: (flatAttrs pref (declare pref t a.ns none).2 rest).1,
       (flatAttrs pref (declare pref t a.ns none).2 rest).2) := by
  have hne : a.ns.isEmpty = false := by simpa using hn
  rw [flatAttrs]
  simp only [hne, Bool.false_eq_true, if_false, hf]

/-- Induction along `flatAttrs` over attributes the checker accepts, from a tag state inside the invariant:
    an attribute without namespace; one whose namespace has a prefix in scope; one for which a prefix is
    declared, with what `declare` guarantees then (`declare_fresh_inv`). -/
theorem flatAttrs_ind (pref : List (Str × Str)) (hpref : prefOK pref = true) (base : List Binding)
    {P : TagSt → AttrList → Prop} (nil : ∀ t, TagInv base t → P t [])
    (plain : ∀ t a v rest, TagInv base t → (∀ x ∈ rest, attrOK x = true) → a.ns = [] → P t rest → P t ((a, v) :: rest))
    (found : ∀ t a v rest p, TagInv base t → (∀ x ∈ rest, attrOK x = true) → a.ns ≠ [] → a.ns ≠ noneUri →
      findPrefix t.bindings a.ns true = some p → P t rest → P t ((a, v) :: rest))
    (made : ∀ t a v rest, TagInv base t → (∀ x ∈ rest, attrOK x = true) → a.ns ≠ [] → a.ns ≠ noneUri →
      findPrefix t.bindings a.ns true = none → TagInv base (declare pref t a.ns none).2 →
      (declare pref t a.ns none).1 ≠ [] → uriOf t.bindings (declare pref t a.ns none).1 = none →
      (declare pref t a.ns none).2.bindings = ((declare pref t a.ns none).1, a.ns, true) :: t.bindings →
      P (declare pref t a.ns none).2 rest → P t ((a, v) :: rest)) :
    ∀ (attrs : AttrList) (t : TagSt), TagInv base t → (∀ a ∈ attrs, attrOK a = true) → P t attrs := by
  intro attrs
  induction attrs with
  | nil => intro t h _; exact nil t h
  | cons av rest ih =>
    intro t h hok
    obtain ⟨a, v⟩ := av
    have hrest : ∀ x ∈ rest, attrOK x = true := fun x hx => hok x (by simp [hx])
    obtain ⟨_, hns, _, _⟩ := attrOK_parts (hok (a, v) (by simp))
    obtain ⟨hns1, hns2⟩ := nsOK_ne hns
    by_cases hn : a.ns = []
    · exact plain t a v rest h hrest hn (ih t h hrest)
    · cases hf : findPrefix t.bindings a.ns true with
      | some p => exact found t a v rest p h hrest hn hns1 hf (ih t h hrest)
      | none =>
        obtain ⟨j1, j2, j3, j4⟩ := declare_fresh_inv pref hpref base t h a.ns none (Or.inl rfl) hn
          (ne_xmlNs_of_findPrefix_none h.xml hf) hns2 hns1
        exact made t a v rest h hrest hn hns1 hf j1 j2 j3 j4 (ih _ j1 hrest)

theorem flatAttrs_spec (pref : List (Str × Str)) (hpref : prefOK pref = true) (base : List Binding)
    (attrs : AttrList) :
    ∀ (t : TagSt), TagInv base t → (∀ a ∈ attrs, attrOK a = true) →
      TagInv base (flatAttrs pref t attrs).2 ∧
      Ext t.bindings (flatAttrs pref t attrs).2.bindings ∧
      List.Forall₂ (AttrRes (flatAttrs pref t attrs).2.bindings) (flatAttrs pref t attrs).1 attrs := by
  revert attrs
  refine flatAttrs_ind pref hpref base (fun t h => ⟨h, Ext.refl _, .nil⟩) ?_ ?_ ?_
  · intro t a v rest _ _ hn ⟨i1, i2, i3⟩
    rw [flatAttrs_plain pref t a v rest hn]
    exact ⟨i1, i2, .cons ⟨rfl, by rw [if_pos hn]⟩ i3⟩
  · intro t a v rest p _ _ hn _ hf ⟨i1, i2, i3⟩
    rw [flatAttrs_found pref t a v rest hn p hf]
    have hs := findPrefix_sound _ _ _ _ hf
    have : AttrRes t.bindings (p ++ ':' :: a.loc, v) (a, v) :=
      ⟨rfl, by rw [if_neg hn]; exact ⟨p, hs.2 rfl, rfl, hs.1⟩⟩
    exact ⟨i1, i2, .cons (this.ext i2) i3⟩
  · intro t a v rest _ _ hn _ hf _ j2 j3 j4 ⟨i1, i2, i3⟩
    rw [flatAttrs_decl pref t a v rest hn hf]
    have hext : Ext t.bindings (declare pref t a.ns none).2.bindings := by
      rw [j4]; exact Ext.push _ _ _ (Ext.refl _) j3
    have : AttrRes (declare pref t a.ns none).2.bindings ((declare pref t a.ns none).1 ++ ':' :: a.loc, v) (a, v) :=
      ⟨rfl, by rw [if_neg hn]; exact ⟨_, j2, rfl, by rw [j4, uriOf_cons]; simp⟩⟩
    exact ⟨i1, hext.trans i2, .cons (this.ext i2) i3⟩

end Genshi.Xml
