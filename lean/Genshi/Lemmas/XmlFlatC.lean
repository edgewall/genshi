/-
  C02 — part C: the reader's view of a start tag written by the flattener.
-/
import Genshi.Lemmas.XmlFlatB
import Genshi.Lemmas.XmlList
namespace Genshi.Xml
open Genshi Genshi.Xml.Reader

theorem locOK_parts {l : Str} (h : locOK l = true) :
    l ≠ [] ∧ ':' ∉ l ∧ (l.head?.map isNameStartBad).getD true = false := by
  unfold locOK at h
  simp only [Bool.and_eq_true, Bool.not_eq_true'] at h
  refine ⟨by intro e; simp [e] at h, ?_, h.2⟩
  have := h.1.2
  simpa using this

theorem splitQ_plain (l : Str) (h : ':' ∉ l) : splitQ l = some ([], l) := by
  unfold splitQ; rw [span_no_colon l h]

theorem splitQ_qualified (p l : Str) (hp : p ≠ []) (hpc : ':' ∉ p) (hl : locOK l = true) :
    splitQ (p ++ ':' :: l) = some (p, l) := by
  obtain ⟨h1, h2, h3⟩ := locOK_parts hl
  unfold splitQ
  rw [span_colon p l hpc]
  have e1 : p.isEmpty = false := by simpa using hp
  have e2 : l.isEmpty = false := by simpa using h1
  have e3 : List.elem ':' l = false := by simpa using h2
  simp [e1, e2, h2, h3]

theorem colon_not_mem_xmlns : ':' ∉ xmlnsName := by decide

theorem declOf_nsAttr (p u : Str) (h : declLegal p u = true) :
    declOf (nsAttrName p, u) = some (some (p, u)) := by
  unfold declOf nsAttrName
  by_cases hp : p = []
  · subst hp
    simp only [List.isEmpty_nil, if_true]
    rw [span_no_colon _ colon_not_mem_xmlns]
    simp [h]
  · have he : p.isEmpty = false := by simpa using hp
    simp only [he, Bool.false_eq_true, if_false]
    rw [span_colon _ _ colon_not_mem_xmlns]
    simp [he, h]

theorem declOf_plain (l v : Str) (h : ':' ∉ l) (hx : l ≠ xmlnsName) : declOf (l, v) = none := by
  unfold declOf
  simp only
  rw [span_no_colon l h]
  simp [hx]

theorem declOf_prefixed (p l v : Str) (h : ':' ∉ p) (hx : p ≠ xmlnsName) :
    declOf (p ++ ':' :: l, v) = none := by
  unfold declOf
  simp only
  rw [span_colon p l h]
  simp [hx]

theorem splitAttrs_plain (as : List (Str × Str)) (h : ∀ a ∈ as, declOf a = none) :
    splitAttrs as = some ([], as) := by
  induction as with
  | nil => rfl
  | cons a rest ih =>
    unfold splitAttrs
    rw [ih (fun x hx => h x (by simp [hx])), h a (by simp)]

theorem splitAttrs_decls (ds : List (Str × Str)) (hl : ∀ d ∈ ds, declLegal d.1 d.2 = true)
    (rest : List (Str × Str)) (r : Scope × List (Str × Str)) (hr : splitAttrs rest = some r) :
    splitAttrs (ds.map (fun d => (nsAttrName d.1, d.2)) ++ rest) = some (ds ++ r.1, r.2) := by
  induction ds with
  | nil => simpa using hr
  | cons d ds ih =>
    simp only [List.map_cons, List.cons_append]
    unfold splitAttrs
    rw [ih (fun x hx => hl x (by simp [hx])), declOf_nsAttr d.1 d.2 (hl d (by simp))]

/-- what a reader can see of a binding: prefix and URI (`None` as `""`), not the `auto` flag -/
def proj (b : Binding) : Str × Str := (b.1, normUri b.2.1)

/-- the reader's scope that corresponds to the flattener's binding list -/
def scopeOf (bs : List Binding) : Scope := bs.map proj

/-- `uriOf`, up to `None` / `""`, is the reader's look-up in `scopeOf`: `lookup` for a prefix, and for the default
    namespace the reader's reading of "no declaration in scope" as no namespace -/
theorem uriOf_scopeOf (bs : List Binding) (p : Str) :
    (uriOf bs p).map normUri =
      if p = [] then some ((List.lookup [] (scopeOf bs)).getD []) else List.lookup p (scopeOf bs) := by
  induction bs with
  | nil => by_cases hp : p = [] <;> simp [uriOf, scopeOf, hp, normUri, noneUri]
  | cons b bs ih =>
    obtain ⟨p', u, a⟩ := b
    simp only [scopeOf, List.map_cons, proj, List.lookup] at ih ⊢
    rw [uriOf_cons]
    by_cases e : p = p'
    · subst e; by_cases hp : p = [] <;> simp [hp]
    · rw [if_neg (Ne.symm e), beq_false_of_ne e, ih]
      by_cases hp : p = []
      · subst hp; rw [beq_false_of_ne e]
      · rw [if_neg hp, if_neg hp]

theorem lookup_scopeOf (bs : List Binding) (p : Str) (hp : p ≠ []) :
    List.lookup p (scopeOf bs) = (uriOf bs p).map normUri := by
  rw [uriOf_scopeOf, if_neg hp]

theorem lookup_scopeOf_nil (bs : List Binding) (u : Str) (h : uriOf bs [] = some u) :
    (List.lookup [] (scopeOf bs)).getD [] = normUri u := by
  have := uriOf_scopeOf bs []
  rw [h, if_pos rfl] at this
  exact (Option.some.inj this).symm

theorem bound_prefix_facts {bs : List Binding} (hb : BindingsOK bs) {p u : Str} (hp : p ≠ [])
    (h : uriOf bs p = some u) : ':' ∉ p ∧ p ≠ xmlnsName ∧ normUri u ≠ [] := by
  obtain ⟨a, ha⟩ := uriOf_some_mem bs p u hp h
  have := hb _ ha
  unfold legalB at this
  obtain ⟨h1, h2, h3, _⟩ := declLegal_parts hp this
  exact ⟨h1, h2, h3⟩

/-- a name with a prefix bound to a non-empty URI resolves to that URI, as element name and as attribute name -/
theorem resolve_qualified {sc : Scope} {n p l u : Str} (hp : p ≠ []) (hs : splitQ n = some (p, l))
    (hl : List.lookup p sc = some u) (hu : u.isEmpty = false) :
    resolveElem sc n = some ⟨u, l⟩ ∧ resolveAttr sc n = some ⟨u, l⟩ := by
  unfold resolveElem resolveAttr
  rw [hs]
  cases p with
  | nil => exact absurd rfl hp
  | cons c cs => simp [hl, hu]

theorem resolve_bound {bs : List Binding} (hb : BindingsOK bs) {p l ns : Str} (hp : p ≠ []) (hu : uriOf bs p = some ns)
    (hns : ns ≠ noneUri) (hl : locOK l = true) :
    ':' ∉ p ∧ p ≠ xmlnsName ∧ resolveElem (scopeOf bs) (p ++ ':' :: l) = some ⟨ns, l⟩ ∧
      resolveAttr (scopeOf bs) (p ++ ':' :: l) = some ⟨ns, l⟩ := by
  obtain ⟨f1, f2, f3⟩ := bound_prefix_facts hb hp hu
  rw [normUri_of_ne hns] at f3
  exact ⟨f1, f2, resolve_qualified hp (splitQ_qualified p l hp f1 hl)
    (by rw [lookup_scopeOf bs _ hp, hu, Option.map_some, normUri_of_ne hns]) (by simpa using f3)⟩

theorem resolveElem_of_tagRes {bs : List Binding} (hb : BindingsOK bs) {name : Str} {tag : QName}
    (h : TagRes bs name tag) (htag : tagOK tag = true) :
    resolveElem (scopeOf bs) name = some tag := by
  obtain ⟨hloc, hns1, _⟩ := tagOK_parts htag
  obtain ⟨l1, l2, l3⟩ := locOK_parts hloc
  cases h with
  | plain hn h2 h3 =>
    unfold resolveElem
    rw [splitQ_plain _ l2]
    simp only
    rw [lookup_scopeOf_nil bs _ h2, falsy_iff_normUri_nil.mp h3]
    cases tag; simp_all
  | @qualified _ p hn h2 =>
    by_cases hp : p = []
    · subst hp
      unfold resolveElem
      simp only [qualify, List.isEmpty_nil, if_true]
      rw [splitQ_plain _ l2]
      simp only
      rw [lookup_scopeOf_nil bs _ h2, normUri_of_ne hns1]
    · have he : p.isEmpty = false := by simpa using hp
      simp only [qualify, he, Bool.false_eq_true, if_false]
      exact (resolve_bound hb hp h2 hns1 hloc).2.2.1

/-- one attribute as written is read back as the attribute it was written for, and is not taken for a declaration -/
theorem AttrRes.resolve {bs : List Binding} (hb : BindingsOK bs) {o : Str × Str} {a : QName × Str}
    (h : AttrRes bs o a) (hok : attrOK a = true) :
    resolveAttr (scopeOf bs) o.1 = some a.1 ∧ normUri o.2 = a.2 ∧ declOf (o.1, normUri o.2) = none := by
  obtain ⟨hloc, hns, hxm, hv⟩ := attrOK_parts hok
  obtain ⟨hval, hname⟩ := h
  rw [hval]
  by_cases hn : a.1.ns = []
  · rw [if_pos hn] at hname
    have l2 := (locOK_parts hloc).2.1
    rw [hname, resolveAttr, splitQ_plain _ l2]
    exact ⟨(congrArg (fun n => some (QName.mk n a.1.loc)) hn).symm, normUri_of_ne hv, declOf_plain _ _ l2 (fun e => hxm ⟨hn, e⟩)⟩
  · rw [if_neg hn] at hname
    obtain ⟨p, hp, hname, hu⟩ := hname
    obtain ⟨f1, f2, _, f4⟩ := resolve_bound hb hp hu (nsOK_ne hns).1 hloc
    rw [hname]
    exact ⟨f4, normUri_of_ne hv, declOf_prefixed _ _ _ f1 f2⟩

theorem resolveAttrs_of_res {bs : List Binding} (hb : BindingsOK bs) :
    ∀ {out : List (Str × Str)} {attrs : AttrList},
      List.Forall₂ (AttrRes bs) out attrs → (∀ a ∈ attrs, attrOK a = true) →
      resolveAttrs (scopeOf bs) (normAttrs out) = some attrs ∧
      ∀ o ∈ normAttrs out, declOf o = none := by
  intro out attrs h
  induction h with
  | nil => intro _; exact ⟨rfl, by simp [normAttrs]⟩
  | @cons o a out attrs h1 _ ih =>
    intro hok
    obtain ⟨i1, i2⟩ := ih (fun x hx => hok x (List.mem_cons_of_mem _ hx))
    obtain ⟨r1, r2, r3⟩ := h1.resolve hb (hok a List.mem_cons_self)
    simp only [normAttrs, List.map_cons] at i1 i2 ⊢
    refine ⟨by rw [resolveAttrs, r1, i1, r2], fun x hx => ?_⟩
    rcases List.mem_cons.mp hx with rfl | hx
    · exact r3
    · exact i2 x hx

end Genshi.Xml
