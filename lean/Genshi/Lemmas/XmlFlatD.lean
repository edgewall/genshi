/-
  C02 — part D: the simulation between the flattener and the reader's namespace
  stage, and the round-trip theorem at the level of flattened events.
-/
import Genshi.Lemmas.XmlFlatC
namespace Genshi.Xml
open Genshi Genshi.Xml.Reader

inductive Frames : List Binding → List (Str × Nat) → List (Str × QName × Scope) → List (QName × Bool) → Prop
  | nil (bs : List Binding) : Frames bs [] [] []
  | cons {bs : List Binding} {name : Str} {n : Nat} {q : QName} {d : Bool}
      {elems : List (Str × Nat)} {open_ : List (Str × QName × Scope)} {stack : List (QName × Bool)} :
      LevelOK (bs.drop n) d → Frames (bs.drop n) elems open_ stack →
      Frames bs ((name, n) :: elems) ((name, q, scopeOf (bs.drop n)) :: open_) ((q, d) :: stack)

/-- The flattener state `st`, the reader state `rst` after the tokens written so far and the checker state
    `ck` after the events consumed so far: same scope, open elements frame by frame (`Frames`: each frame's
    bindings are the current ones minus its declarations), and the checker's view of the pending and the
    default-namespace declarations. -/
structure Inv (st : FSt) (rst : RSt) (ck : CkSt) : Prop where
  scope : rst.scope = scopeOf st.bindings
  frames : Frames st.bindings st.elems rst.open_ ck.stack
  level : LevelOK st.bindings ck.dTruthy
  pend : PendingOK st.pending
  pendD : ck.pendD = (List.lookup [] st.pending).map (fun u => !falsyUri u)
  root : rst.rootSeen = ck.rootSeen
  doct : rst.doctypeSeen = ck.doctypeSeen

/-- a start tag opens a frame: its bindings are the old ones under the tag's declarations -/
theorem Frames.push {base : List Binding} {elems : List (Str × Nat)} {open_ : List (Str × QName × Scope)}
    {stack : List (QName × Bool)} (fr : Frames base elems open_ stack) {d : Bool} (lv : LevelOK base d)
    {t : TagSt} (ti : TagInv base t) (name : Str) (q : QName) :
    Frames t.bindings ((name, t.declared.length) :: elems) ((name, q, scopeOf base) :: open_) ((q, d) :: stack) := by
  have := @Frames.cons t.bindings name t.declared.length q d elems open_ stack
    (by rw [ti.drop]; exact lv) (by rw [ti.drop]; exact fr)
  rwa [ti.drop] at this

theorem Frames.open_empty {bs : List Binding} {elems : List (Str × Nat)}
    {open_ : List (Str × QName × Scope)} {stack : List (QName × Bool)} (h : Frames bs elems open_ stack) :
    open_.isEmpty = stack.isEmpty := by
  cases h <;> rfl

theorem nodupKeys_decls (ds : List (Str × Str)) (h : (ds.map Prod.fst).Nodup) :
    nodupKeys ds = true := by
  induction ds with
  | nil => rfl
  | cons d ds ih =>
    obtain ⟨k, v⟩ := d
    simp only [List.map_cons, List.nodup_cons] at h
    unfold nodupKeys
    simp only [Bool.and_eq_true, Bool.not_eq_true']
    exact ⟨Bool.eq_false_iff.mpr fun hc => h.1 ((@List.contains_iff_mem _ instBEqOfDecidableEq _ _ _).mp hc), ih h.2⟩

/-- a tag's declarations as the reader sees them (`None` as `""`): each is legal, no prefix comes twice, and the
    flattener's scope is the scope before the tag under them -/
theorem TagInv.decls_legal {base : List Binding} {t : TagSt} (h : TagInv base t) :
    ∀ d ∈ t.declared.map (fun d => (d.1, normUri d.2)), declLegal d.1 d.2 = true := by
  obtain ⟨front, hb, hf⟩ := h.front
  intro d hd
  obtain ⟨d0, hd0, rfl⟩ := List.mem_map.mp hd
  obtain ⟨b, hbm, rfl⟩ := List.mem_map.mp (show d0 ∈ front.map rawProj by rw [hf]; exact List.mem_reverse.mpr hd0)
  exact h.legal b (by rw [hb]; exact List.mem_append_left _ hbm)

theorem TagInv.decls_nodup {base : List Binding} {t : TagSt} (h : TagInv base t) :
    nodupKeys (t.declared.map (fun d => (d.1, normUri d.2))) = true :=
  nodupKeys_decls _ (by simpa [List.map_map, Function.comp_def] using h.nodup)

theorem TagInv.scope {base : List Binding} {t : TagSt} (h : TagInv base t) :
    (t.declared.map (fun d => (d.1, normUri d.2))).reverse ++ scopeOf base = scopeOf t.bindings := by
  obtain ⟨front, hb, hf⟩ := h.front
  rw [hb, scopeOf, scopeOf, List.map_append, ← List.map_reverse, ← hf]
  simp [List.map_map, Function.comp_def, rawProj, proj]

/-- One start tag the checker accepts, from states related by `Inv`: the reader resolves what was written back to
    `tag` and `attrs` and has exactly the flattener's new bindings in scope; `TagInv` and `LevelOK` (at the checker's
    new flag `d'`) hold afterwards; the `xmlns` attributes written are the tag's declarations. The three stages of
    `flatStart` (`takePending_inv`, `flatTag_spec`, `flatAttrs_spec`) are chained through `TagInv st.bindings`; the
    tag name resolved by the second stays resolved after the third because that only adds bindings of unbound
    prefixes (`TagRes.ext`). -/
theorem flatStart_spec (pref : List (Str × Str)) (hpref : prefOK pref = true)
    (st : FSt) (rst : RSt) (ck : CkSt) (inv : Inv st rst ck) (tag : QName) (attrs : AttrList)
    (d' : Bool) (hck : ckStartLike ck tag attrs = some d') :
    resolveTag rst.scope (flatStart pref st tag attrs).1 (normAttrs (flatStart pref st tag attrs).2.1) =
      some (tag, attrs, scopeOf (flatStart pref st tag attrs).2.2.bindings) ∧
    TagInv st.bindings (flatStart pref st tag attrs).2.2 ∧
    LevelOK (flatStart pref st tag attrs).2.2.bindings d' ∧
    ∃ plain, splitAttrs (normAttrs (flatStart pref st tag attrs).2.1) =
      some ((flatStart pref st tag attrs).2.2.declared.map (fun d => (d.1, normUri d.2)), plain) := by
  obtain ⟨hd', _, htag, hattrs, hdn⟩ := ckStartLike_parts hck
  obtain ⟨hattrs1, hattrs2⟩ := attrsOK_parts hattrs
  obtain ⟨lv1, lv2, lv3⟩ := inv.level
  have t0inv : TagInv st.bindings { bindings := st.bindings, declared := [], counter := st.counter } :=
    ⟨⟨[], rfl, rfl⟩, by simp, lv1, lv2⟩
  have i0 := takePending_inv st.bindings st.pending _ t0inv inv.pend (by simp)
  have hexp := takePending_explicit st.pending
    { bindings := st.bindings, declared := [], counter := st.counter } (by simp)
  have hd'' : ((List.lookup [] st.pending).map (fun u => !falsyUri u)).getD ck.dTruthy = d' := by
    rw [hd', inv.pendD]
  have hj0 : d' = false → JProp (takePending
      { bindings := st.bindings, declared := [], counter := st.counter } st.pending).bindings :=
    fun e => takePending_jprop st.pending inv.pend _ ck.dTruthy lv3 (by rw [hd'', e])
  obtain ⟨i1, r1, j1⟩ := flatTag_spec pref hpref st.bindings _ i0 tag htag
    (fun hn => hj0 (hdn hn)) hexp
  obtain ⟨i2, e2, r2⟩ := flatAttrs_spec pref hpref st.bindings attrs _ i1 hattrs1
  unfold flatStart
  simp only
  generalize ht0 : takePending { bindings := st.bindings, declared := [], counter := st.counter }
    st.pending = t0 at *
  generalize ht1 : flatTag pref t0 tag = ft at *
  obtain ⟨name, t1⟩ := ft
  simp only at i1 r1 j1 i2 e2 r2 ⊢
  generalize ht2 : flatAttrs pref t1 attrs = fa at *
  obtain ⟨as, t2⟩ := fa
  simp only at i2 e2 r2 ⊢
  have ra := resolveAttrs_of_res i2.legal r2 hattrs1
  have hsplit : splitAttrs (normAttrs (t2.declared.map (fun d => (nsAttrName d.1, d.2)) ++ as)) =
      some (t2.declared.map (fun d => (d.1, normUri d.2)), normAttrs as) := by
    have e : normAttrs (t2.declared.map (fun d => (nsAttrName d.1, d.2)) ++ as) =
        (t2.declared.map (fun d => (d.1, normUri d.2))).map (fun d => (nsAttrName d.1, d.2)) ++ normAttrs as := by
      simp [normAttrs, List.map_map, Function.comp_def]
    rw [e, splitAttrs_decls _ i2.decls_legal _ _ (splitAttrs_plain _ ra.2)]
    simp
  refine ⟨?_, i2, ⟨i2.legal, i2.xml, fun e => e2.jprop (j1 (hj0 e))⟩, ⟨_, hsplit⟩⟩
  unfold resolveTag
  rw [hsplit]
  simp only [i2.decls_nodup, Bool.not_true, Bool.false_eq_true, if_false]
  rw [inv.scope, i2.scope, resolveElem_of_tagRes i2.legal (r1.ext e2) htag, ra.1]
  simp [hattrs2]

/-- a key looked up after a filter on keys: the same answer if the key passes the test, nothing otherwise -/
theorem lookup_filter_key {β : Type} (l : List (Str × β)) (P : Str → Bool) (q : Str) :
    List.lookup q (l.filter fun d => P d.1) = if P q then List.lookup q l else none := by
  induction l with
  | nil => simp
  | cons d ds ih =>
    obtain ⟨k, v⟩ := d
    rw [List.filter_cons]
    by_cases e : q = k
    · subst e
      by_cases hP : P q = true
      · rw [if_pos hP, if_pos hP, List.lookup_cons_self, List.lookup_cons_self]
      · rw [if_neg hP, if_neg hP, ih, if_neg hP]
    · have hc : ∀ r : List (Str × β), List.lookup q ((k, v) :: r) = List.lookup q r := fun r => by
        rw [List.lookup_cons, beq_false_of_ne e]
      by_cases hP : P k = true
      · rw [if_pos hP, hc, hc, ih]
      · rw [if_neg hP, hc, ih]

theorem PendingOK.filter {pending : List (Str × Str)} (h : PendingOK pending) (p : Str) :
    PendingOK (pending.filter (fun d => d.1 ≠ p)) :=
  ⟨List.Nodup.sublist (List.filter_sublist.map Prod.fst) h.nodup, fun d hd => h.legal d (List.mem_filter.mp hd).1⟩

theorem PendingOK.request {pending : List (Str × Str)} (h : PendingOK pending) (p u : Str)
    (hl : nsDeclOK p u = true) : PendingOK (pending.filter (fun d => d.1 ≠ p) ++ [(p, u)]) := by
  have hf := h.filter p
  refine ⟨?_, ?_⟩
  · simp only [List.map_append, List.map_cons, List.map_nil]
    rw [List.nodup_append]
    refine ⟨hf.nodup, by simp, ?_⟩
    intro x hx y hy
    simp only [List.mem_singleton] at hy
    subst hy
    intro e; subst e
    simp only [List.mem_map] at hx
    obtain ⟨d, hd, hd2⟩ := hx
    have := (List.mem_filter.mp hd).2
    simp [hd2] at this
  · intro d hd
    rcases List.mem_append.mp hd with hd | hd
    · exact hf.legal d hd
    · simp only [List.mem_singleton] at hd; subst hd; exact hl

theorem map_id_opt {α : Type} (o : Option (List α)) : o.map (fun r => ([] : List α) ++ r) = o := by
  cases o <;> simp

theorem Inv.with_pending {st : FSt} {rst : RSt} {ck : CkSt} (inv : Inv st rst ck)
    (pend' : List (Str × Str)) (pd' : Option Bool) (h1 : PendingOK pend')
    (h2 : pd' = (List.lookup [] pend').map (fun u => !falsyUri u)) :
    Inv { st with pending := pend' } rst { ck with pendD := pd' } :=
  ⟨inv.scope, inv.frames, inv.level, h1, h2, inv.root, inv.doct⟩

theorem ck_eta (ck : CkSt) : { ck with pendD := ck.pendD } = ck := rfl

theorem lookup_request (pending : List (Str × Str)) (p u : Str) :
    List.lookup [] (pending.filter (fun d => d.1 ≠ p) ++ [(p, u)]) =
      if p.isEmpty then some u else List.lookup [] pending := by
  rw [List.lookup_append, lookup_filter_key pending (fun k => decide (k ≠ p)) [], List.lookup_singleton]
  by_cases hp : p = []
  · subst hp; rfl
  · simp [hp, Ne.symm hp]

theorem lookup_release (pending : List (Str × Str)) (p : Str) :
    List.lookup [] (pending.filter (fun d => d.1 ≠ p)) = if p.isEmpty then none else List.lookup [] pending := by
  rw [lookup_filter_key pending (fun k => decide (k ≠ p)) []]
  by_cases hp : p = []
  · subst hp; rfl
  · simp [hp, Ne.symm hp]

def plainNextR (rst : RSt) : Event → RSt
  | .doctype _ _ _ => { rst with doctypeSeen := true }
  | _ => rst

theorem Inv.plain {st : FSt} {rst : RSt} {ck : CkSt} (inv : Inv st rst ck) (e : Event) :
    Inv st (plainNextR rst e) (plainNext ck e) := by
  cases e <;> first | exact inv | exact ⟨inv.scope, inv.frames, inv.level, inv.pend, inv.pendD, inv.root, rfl⟩

theorem resolveGo_plain {rst : RSt} {ck : CkSt} {e : Event} (he : isPlain e = true) (h : plainOK ck e = true)
    (ho : rst.open_.isEmpty = ck.stack.isEmpty) (hr : rst.rootSeen = ck.rootSeen) (hd : rst.doctypeSeen = ck.doctypeSeen)
    (rest : List FEv) :
    resolveGo rst (.other e :: rest) = (resolveGo (plainNextR rst e) rest).map (canonEv e ++ ·) := by
  have inside : plainOK ck e = !ck.stack.isEmpty → rst.open_.isEmpty = false := fun e => by
    rw [ho, ← Bool.not_eq_true', ← e]; exact h
  cases e with
  | text s f => rw [resolveGo, inside rfl]; rfl
  | startCdata => rw [resolveGo, inside rfl]; rfl
  | comment s => rw [resolveGo]; rfl
  | pi t d => rw [resolveGo]; rfl
  | endCdata => rw [resolveGo]; rfl
  | doctype n p s =>
    have : (rst.rootSeen || rst.doctypeSeen || !rst.open_.isEmpty) = false := by
      rw [ho, hr, hd]
      revert h
      simp only [plainOK]
      generalize ck.stack.isEmpty = a, ck.rootSeen = b, ck.doctypeSeen = c
      cases a <;> cases b <;> cases c <;> decide
    rw [resolveGo, this]; rfl
  | _ => cases he

/-- One event `x` the checker accepts: the tokens the flattener emits for it take the reader from a
    state related by `Inv` to one related again, and the reader reports exactly `canonXEv x` for them
    (nothing for namespace events, START + END for EMPTY).  `sim_run` is the induction over the stream. -/
theorem step_sim (pref : List (Str × Str)) (hpref : prefOK pref = true)
    (st : FSt) (rst : RSt) (ck : CkSt) (inv : Inv st rst ck) (x : XEv) (ck' : CkSt)
    (hck : ckStep ck x = some ck') :
    ∃ rst', Inv (flatStep pref st x).1 rst' ck' ∧
      ∀ rest, resolveGo rst ((flatStep pref st x).2.map normF ++ rest) =
        (resolveGo rst' rest).map (canonXEv x ++ ·) := by
  have hopen := inv.frames.open_empty
  -- a start tag is accepted by the reader where the checker accepts the element
  have hroot : ∀ {t a d'}, ckStartLike ck t a = some d' → (rst.open_.isEmpty && rst.rootSeen) = false := fun h => by
    rw [hopen, inv.root, ← Bool.not_eq_true, Bool.and_eq_true]; exact (ckStartLike_parts h).2.1
  cases ckStep_inv hck with
  | @empty tag attrs d' hd' =>
    obtain ⟨rt, _, _⟩ := flatStart_spec pref hpref st rst ck inv tag attrs d' hd'
    refine ⟨{ rst with rootSeen := true },
      ⟨inv.scope, inv.frames, inv.level, ⟨by simp [flatStep], by simp [flatStep]⟩, rfl, rfl, inv.doct⟩, fun rest => ?_⟩
    rw [flatStep_empty]
    simp only [List.map_cons, List.map_nil, List.cons_append, List.nil_append, normF]
    rw [resolveGo, hroot hd', if_neg Bool.false_ne_true, rt]
    simp [canonXEv]
  | @start tag attrs d' hd' =>
    obtain ⟨rt, ti, lv, _⟩ := flatStart_spec pref hpref st rst ck inv tag attrs d' hd'
    refine ⟨{ rst with open_ := ((flatStart pref st tag attrs).1, tag, rst.scope) :: rst.open_,
                       scope := scopeOf (flatStart pref st tag attrs).2.2.bindings, rootSeen := true }, ?_, fun rest => ?_⟩
    · rw [flatStep_start]
      refine ⟨rfl, ?_, lv, ⟨by simp, by simp⟩, rfl, rfl, inv.doct⟩
      rw [inv.scope]
      exact inv.frames.push inv.level ti _ _
    · rw [flatStep_start]
      simp only [List.map_cons, List.map_nil, List.cons_append, List.nil_append, normF]
      rw [resolveGo, hroot hd', if_neg Bool.false_ne_true, rt]
      simp [canonXEv, canonEv]
  | @end_ tag d rest' hs =>
    have fr := inv.frames
    rw [hs] at fr
    generalize hb : st.bindings = bs0 at fr
    generalize he : st.elems = elems0 at fr
    generalize ho : rst.open_ = open0 at fr
    cases fr with
    | @cons _ name n _ _ elems open_ _ lv fr' =>
      subst hb
      rw [flatStep_end pref st tag name n elems he]
      refine ⟨{ rst with open_ := open_, scope := scopeOf (st.bindings.drop n) },
        ⟨rfl, fr', lv, inv.pend, inv.pendD, inv.root, inv.doct⟩, fun rest => ?_⟩
      simp only [List.map_cons, List.map_nil, List.cons_append, List.nil_append, normF]
      rw [resolveGo]
      simp [ho, canonXEv, canonEv]
  | @startNs p u hl =>
    refine ⟨rst, inv.with_pending _ _ (inv.pend.request p u hl) ?_, fun rest => by simp [flatStep, canonXEv, canonEv]⟩
    rw [lookup_request, inv.pendD]
    split <;> rfl
  | @endNs p =>
    refine ⟨rst, inv.with_pending _ _ (inv.pend.filter p) ?_, fun rest => by simp [flatStep, canonXEv, canonEv]⟩
    rw [lookup_release, inv.pendD]
    split <;> rfl
  | @plain e he h =>
    rw [flatStep_plain pref st e he]
    exact ⟨_, inv.plain e, fun rest => resolveGo_plain he h hopen inv.root inv.doct rest⟩

theorem sim_run (pref : List (Str × Str)) (hpref : prefOK pref = true) :
    ∀ (xs : List XEv) (st : FSt) (rst : RSt) (ck : CkSt), Inv st rst ck → docGo ck xs = true →
      resolveGo rst ((flatRun pref st xs).map normF) = some (canonX xs) := by
  intro xs
  induction xs with
  | nil =>
    intro st rst ck inv h
    simp only [docGo, Bool.and_eq_true] at h
    simp only [flatRun, List.map_nil, canonX, List.flatMap_nil]
    rw [resolveGo]
    rw [inv.frames.open_empty, inv.root, h.1, h.2]
    simp
  | cons x xs ih =>
    intro st rst ck inv h
    obtain ⟨ck', hck, h'⟩ := docGo_cons h
    obtain ⟨rst', inv', heq⟩ := step_sim pref hpref st rst ck inv x ck' hck
    rw [flatRun_cons, List.map_append, heq, ih _ _ _ inv' h']
    simp [canonX]

theorem inv_init : Inv FSt.init RSt.init CkSt.init := by
  have hx : normUri xmlNs = xmlNs := normUri_of_ne (by decide)
  refine ⟨?_, Frames.nil _, ⟨?_, ?_, fun _ => ?_⟩, ⟨by simp [FSt.init], by simp [FSt.init]⟩, rfl, rfl, rfl⟩
  · simp [RSt.init, FSt.init, baseScope, scopeOf, proj, hx]
  · intro b hb
    simp only [FSt.init, List.mem_singleton] at hb
    subst hb
    unfold legalB
    simp only [hx]
    decide
  · rfl
  · exact JProp.of_falsy (u := []) rfl (by decide)

/-- **the flattener is a right inverse of namespace resolution**: for every
    stream inside `docOK`, what an XML reader resolves from the flattened events
    is exactly what the stream denotes -/
theorem resolve_flatten (pref : List (Str × Str)) (hpref : prefOK pref = true) (xs : List XEv)
    (h : docOK xs = true) :
    resolve ((flatten pref xs).map normF) = some (canonX xs) := by
  rcases docOK_cases h with h | ⟨v, e, s, rest, rfl, h⟩
  · have hr := sim_run pref hpref xs _ _ _ inv_init h
    unfold flatten resolve
    split
    · rename_i heq; rw [heq, resolveGo] at hr; cases hr
    · exact hr
  · rw [flatten_decl, List.map_cons, show normF (.other (.xmlDecl v e s)) = .other (.xmlDecl v e s) from rfl, resolve,
      show flatten pref rest = flatRun pref FSt.init rest from rfl, sim_run pref hpref rest _ _ _ inv_init h]
    rfl

end Genshi.Xml
