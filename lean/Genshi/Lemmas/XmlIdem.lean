/-
  C02 — idempotence at the level of events: parsing the flattened output again
  and flattening that gives the same flattened output, for streams shaped like
  the parser's (`idemOK`).  XmlIdemB–D do the same for builder streams (what the
  second pass sees, one start tag, the run); XmlIdemE goes from events to text.
-/
import Genshi.Lemmas.XmlFlatD
namespace Genshi.Xml
open Genshi Genshi.Xml.Reader

/-- the requests among `P` that `takePending` takes in state `t`, in order (it skips one that repeats the binding in
    force, and one for a non-empty default namespace that elements can already be written in); requesting just
    these has the same effect (`takePending_idem`), and they are what the second pass is given -/
def pushed (t : TagSt) (P : List (Str × Str)) : List (Str × Str) :=
  (takePending t P).declared.drop t.declared.length

theorem takePending_declared (P : List (Str × Str)) :
    ∀ t : TagSt, (takePending t P).declared = t.declared ++ pushed t P := by
  induction P with
  | nil => intro t; simp [pushed, takePending]
  | cons d rest ih =>
    intro t
    obtain ⟨p, u⟩ := d
    unfold pushed
    have key : ∀ t' : TagSt, t'.declared = t.declared ++ [(p, u)] →
        (takePending t' rest).declared = t.declared ++ (takePending t' rest).declared.drop t.declared.length := by
      intro t' ht'
      rw [ih t', ht']
      simp
    unfold takePending
    split
    · exact key _ rfl
    · have := ih t
      unfold pushed at this
      exact this

theorem pushed_cons (t : TagSt) (p u : Str) (rest : List (Str × Str)) :
    pushed t ((p, u) :: rest) =
      if uriOf t.bindings p ≠ some u ∧ (¬ p.isEmpty ∨ falsyUri u ∨ findPrefix t.bindings u false = none) then
        (p, u) :: pushed { t with bindings := (p, u, false) :: t.bindings, declared := t.declared ++ [(p, u)] } rest
      else pushed t rest := by
  unfold pushed
  rw [takePending]
  split
  · rw [takePending_declared rest]; simp [pushed]
  · rfl

theorem takePending_idem (P : List (Str × Str)) :
    ∀ t : TagSt, takePending t (pushed t P) = takePending t P := by
  induction P with
  | nil => intro t; simp [pushed, takePending]
  | cons d rest ih =>
    intro t
    obtain ⟨p, u⟩ := d
    rw [pushed_cons, takePending]
    split
    · rename_i hc; rw [takePending, if_pos hc]; exact ih _
    · exact ih t

def nsEv (D : List (Str × Str)) : List XEv := D.map fun d => .ev (.startNs d.1 d.2)

theorem filter_ne_id (pend : List (Str × Str)) (p : Str) (h : p ∉ pend.map Prod.fst) :
    pend.filter (fun d => d.1 ≠ p) = pend := by
  apply List.filter_eq_self.mpr
  intro d hd
  simp only [ne_eq, decide_not, Bool.not_eq_eq_eq_not, Bool.not_true, decide_eq_false_iff_not]
  intro e
  exact h (List.mem_map.mpr ⟨d, hd, e⟩)

theorem flatRun_nsEv (pref : List (Str × Str)) (D : List (Str × Str)) :
    ∀ (st : FSt) (rest : List XEv), (D.map Prod.fst).Nodup → (∀ p ∈ D.map Prod.fst, p ∉ st.pending.map Prod.fst) →
      flatRun pref st (nsEv D ++ rest) = flatRun pref { st with pending := st.pending ++ D } rest := by
  induction D with
  | nil => intro st rest _ _; simp [nsEv]
  | cons d ds ih =>
    intro st rest hnd hdis
    obtain ⟨p, u⟩ := d
    simp only [List.map_cons, List.nodup_cons] at hnd
    simp only [nsEv, List.map_cons, List.cons_append]
    rw [flatRun_cons]
    simp only [flatStep, List.nil_append]
    rw [filter_ne_id st.pending p (hdis p (by simp))]
    have := ih { st with pending := st.pending ++ [(p, u)] } rest hnd.2 (by
      intro q hq
      simp only [List.map_append, List.map_cons, List.map_nil, List.mem_append, List.mem_singleton, not_or]
      refine ⟨hdis q (by simp [hq]), ?_⟩
      intro e; subst e; exact hnd.1 hq)
    simp only [nsEv] at this
    rw [this]
    simp

theorem flatRun_endNs (pref : List (Str × Str)) (ps : List Str) :
    ∀ (st : FSt) (rest : List XEv), st.pending = [] →
      flatRun pref st (endNsEvents ps ++ rest) = flatRun pref st rest := by
  unfold endNsEvents
  generalize ps.reverse = l
  induction l with
  | nil => intro st rest _; simp
  | cons p l ih =>
    intro st rest hp
    simp only [List.map_cons, List.cons_append]
    rw [flatRun_cons]
    simp only [flatStep, List.nil_append, hp, List.filter_nil]
    have : ({ st with pending := [] } : FSt) = st := by cases st; cases hp; rfl
    rw [this]
    exact ih st rest hp

/-- a namespace URI as the parser reports it in START_NS: `xmlns=""` gives `None` -/
def toNone (u : Str) : Str := if (normUri u).isEmpty then noneUri else normUri u

/-- the declarations written on a start tag as the parser hands them to the second pass. Three identifications of
    `None` and `""` are in play: `falsyUri` (to the flattener both mean no namespace), `normUri` (the serializer
    writes `None` as `""`), `toNone` (the parser reports `xmlns=""` as `None`). -/
def toNoneD (D : List (Str × Str)) : List (Str × Str) := D.map fun d => (d.1, toNone d.2)

/-- only `""` is reported differently -/
theorem toNone_ok {u : Str} (h : u ≠ []) : toNone u = u := by
  unfold toNone normUri
  by_cases e : u = noneUri
  · subst e; rfl
  · simp [e, h]

theorem toNoneD_ok (D : List (Str × Str)) (h : ∀ d ∈ D, d.2 ≠ []) : toNoneD D = D := by
  unfold toNoneD
  conv => rhs; rw [← List.map_id D]
  exact List.map_congr_left fun d hd => by rw [toNone_ok (h d hd)]; rfl

theorem nsEvents_toNoneD (D : List (Str × Str)) :
    nsEvents (D.map fun d => (d.1, normUri d.2)) = nsEv (toNoneD D) := by
  unfold nsEvents nsEv toNoneD
  rw [List.map_map, List.map_map]
  rfl

theorem nsEvents_eq (D : List (Str × Str)) (h : ∀ d ∈ D, d.2 ≠ []) :
    nsEvents (D.map fun d => (d.1, normUri d.2)) = nsEv D := by
  rw [nsEvents_toNoneD, toNoneD_ok D h]

theorem pushed_subset (P : List (Str × Str)) : ∀ (t : TagSt) (d : Str × Str), d ∈ pushed t P → d ∈ P := by
  induction P with
  | nil => intro t d h; simp [pushed, takePending] at h
  | cons x rest ih =>
    intro t d h
    obtain ⟨p, u⟩ := x
    rw [pushed_cons] at h
    split at h
    · rcases List.mem_cons.mp h with rfl | h
      · exact List.mem_cons_self
      · exact List.mem_cons_of_mem _ (ih _ d h)
    · exact List.mem_cons_of_mem _ (ih t d h)

theorem flatStart_congr (pref : List (Str × Str)) (st st' : FSt) (tag : QName) (attrs : AttrList)
    (hb : st'.bindings = st.bindings) (hc : st'.counter = st.counter)
    (ht : takePending { bindings := st.bindings, declared := [], counter := st.counter } st'.pending =
          takePending { bindings := st.bindings, declared := [], counter := st.counter } st.pending) :
    flatStart pref st' tag attrs = flatStart pref st tag attrs := by
  unfold flatStart
  simp only [hb, hc, ht]

/-- `Frames` (Lemmas/XmlFlatD) with `reparseX`'s open elements in place of the reader's: an entry also holds the
    prefixes declared on its tag, for the END_NS events; `LevelOK` is not needed here. -/
inductive PFrames : List Binding → List (Str × Nat) → List (Str × QName × Scope × List Str) →
    List (QName × Bool) → Prop
  | nil (bs : List Binding) : PFrames bs [] [] []
  | cons {bs : List Binding} {name : Str} {n : Nat} {q : QName} {d : Bool} {ps : List Str}
      {elems : List (Str × Nat)} {open_ : List (Str × QName × Scope × List Str)} {stack : List (QName × Bool)} :
      PFrames (bs.drop n) elems open_ stack →
      PFrames bs ((name, n) :: elems) ((name, q, scopeOf (bs.drop n), ps) :: open_) ((q, d) :: stack)

theorem PFrames.push {base : List Binding} {elems : List (Str × Nat)} {open_ : List (Str × QName × Scope × List Str)}
    {stack : List (QName × Bool)} (fr : PFrames base elems open_ stack) {t : TagSt} (ti : TagInv base t)
    (name : Str) (q : QName) (d : Bool) (ps : List Str) :
    PFrames t.bindings ((name, t.declared.length) :: elems) ((name, q, scopeOf base, ps) :: open_) ((q, d) :: stack) := by
  have := @PFrames.cons t.bindings name t.declared.length q d ps elems open_ stack (by rw [ti.drop]; exact fr)
  rwa [ti.drop] at this

/-- First pass `st1`, second pass `st2` (on what `reparseX`, in state `pst`, reads back), checker `ck`.
    `inRun`: a run of START_NS events is open in the first pass; only then may `st1.pending` be non-empty.
    `pend1ne`: no pending URI is `""` (the parser reports `None`), so `nsEvents` gives the events back. -/
structure IRel (st1 st2 : FSt) (pst : PSt) (ck : CkSt) (inRun : Bool) : Prop where
  bind : st2.bindings = st1.bindings
  elems : st2.elems = st1.elems
  counter : st2.counter = st1.counter
  pend2 : st2.pending = []
  pend1 : inRun = false → st1.pending = []
  pend1ne : ∀ d ∈ st1.pending, d.2 ≠ []
  scope : pst.scope = scopeOf st1.bindings
  frames : PFrames st1.bindings st1.elems pst.open_ ck.stack

theorem idem_start (pref : List (Str × Str)) (hpref : prefOK pref = true)
    (st1 st2 : FSt) (rst : RSt) (pst : PSt) (ck : CkSt) (inRun : Bool) (inv : Inv st1 rst ck)
    (rel : IRel st1 st2 pst ck inRun) (tag : QName) (attrs : AttrList) (d' : Bool)
    (hd' : ckStartLike ck tag attrs = some d')
    (hno : (flatStart pref st1 tag attrs).2.2 =
      takePending { bindings := st1.bindings, declared := [], counter := st1.counter } st1.pending) :
    resolveTag pst.scope (flatStart pref st1 tag attrs).1 (normAttrs (flatStart pref st1 tag attrs).2.1) =
      some (tag, attrs, scopeOf (flatStart pref st1 tag attrs).2.2.bindings) ∧
    (∃ plain, splitAttrs (normAttrs (flatStart pref st1 tag attrs).2.1) =
      some ((flatStart pref st1 tag attrs).2.2.declared.map (fun d => (d.1, normUri d.2)), plain)) ∧
    nsEvents ((flatStart pref st1 tag attrs).2.2.declared.map (fun d => (d.1, normUri d.2))) =
      nsEv (flatStart pref st1 tag attrs).2.2.declared ∧
    (∀ rest, flatRun pref st2 (nsEv (flatStart pref st1 tag attrs).2.2.declared ++ rest) =
      flatRun pref { st2 with pending := (flatStart pref st1 tag attrs).2.2.declared } rest) ∧
    flatStart pref { st2 with pending := (flatStart pref st1 tag attrs).2.2.declared } tag attrs =
      flatStart pref st1 tag attrs := by
  obtain ⟨rt, ti, _, plain, hsplit⟩ := flatStart_spec pref hpref st1 rst ck inv tag attrs d' hd'
  have hdecl : (flatStart pref st1 tag attrs).2.2.declared =
      pushed { bindings := st1.bindings, declared := [], counter := st1.counter } st1.pending := by
    rw [hno]; simp [pushed]
  refine ⟨?_, ⟨plain, hsplit⟩, ?_, ?_, ?_⟩
  · rw [rel.scope, ← inv.scope]; exact rt
  · apply nsEvents_eq
    intro d hd
    rw [hdecl] at hd
    exact rel.pend1ne d (pushed_subset _ _ d hd)
  · intro rest
    have := flatRun_nsEv pref (flatStart pref st1 tag attrs).2.2.declared st2 rest ti.nodup
      (by rw [rel.pend2]; simp)
    rw [this, rel.pend2]; simp
  · apply flatStart_congr
    · exact rel.bind
    · exact rel.counter
    · simp only
      rw [hdecl, takePending_idem]

theorem idemGo_cons (pref : List (Str × Str)) (st : FSt) (inRun : Bool) (x : XEv) (xs : List XEv) :
    idemGo pref st inRun (x :: xs) =
      ((match x with
        | .ev (.startNs _ u) => !u.isEmpty
        | .ev (.start t a) =>
            decide ((flatStart pref st t a).2.2 =
              takePending { bindings := st.bindings, declared := [], counter := st.counter } st.pending)
        | .empty t a =>
            decide ((flatStart pref st t a).2.2 =
              takePending { bindings := st.bindings, declared := [], counter := st.counter } st.pending)
        | _ => !inRun) &&
       idemGo pref (flatStep pref st x).1 (match x with | .ev (.startNs _ _) => true | _ => false) xs) := rfl

theorem idemGo_plain (pref : List (Str × Str)) (st : FSt) (inRun : Bool) (e : Event) (he : isPlain e = true)
    (xs : List XEv) : idemGo pref st inRun (.ev e :: xs) = (!inRun && idemGo pref st false xs) := by
  cases e <;> first | rfl | cases he

theorem plain_step (pref : List (Str × Str)) (st1 st2 : FSt) (pst : PSt) (e : Event) (he : isPlain e = true)
    (xs xs2 : List XEv) (r1 : reparseX pst ((flatRun pref st1 xs).map normF) = some xs2) :
    reparseX pst ((flatRun pref st1 (.ev e :: xs)).map normF) = some (.ev e :: xs2) ∧
    flatRun pref st1 (.ev e :: xs) = .other e :: flatRun pref st1 xs ∧
    flatRun pref st2 (.ev e :: xs2) = .other e :: flatRun pref st2 xs2 := by
  have h : ∀ st ys, flatRun pref st (.ev e :: ys) = .other e :: flatRun pref st ys := fun st ys => by
    rw [flatRun_cons, flatStep_plain pref st e he]; rfl
  refine ⟨?_, h _ _, h _ _⟩
  rw [h, List.map_cons, show normF (.other e) = .other e from rfl, reparseX, r1]; rfl

theorem end_step (pref : List (Str × Str)) {st1 st2 : FSt} {pst : PSt} {ck : CkSt} {tag : QName} {d : Bool}
    {stack : List (QName × Bool)} (hs : ck.stack = (tag, d) :: stack) (helems : st2.elems = st1.elems)
    (fr : PFrames st1.bindings st1.elems pst.open_ ck.stack) :
    ∃ name n elems ps open_,
      flatStep pref st1 (.ev (.end_ tag)) = ({ st1 with bindings := st1.bindings.drop n, elems := elems }, [.end_ name]) ∧
      flatStep pref st2 (.ev (.end_ tag)) = ({ st2 with bindings := st2.bindings.drop n, elems := elems }, [.end_ name]) ∧
      PFrames (st1.bindings.drop n) elems open_ stack ∧
      ∀ rest, reparseX pst (.end_ name :: rest) =
        (reparseX ⟨open_, scopeOf (st1.bindings.drop n)⟩ rest).map ([.ev (.end_ tag)] ++ endNsEvents ps ++ ·) := by
  rw [hs] at fr
  generalize hb : st1.bindings = bs0 at fr
  generalize he : st1.elems = elems0 at fr
  generalize ho : pst.open_ = open0 at fr
  cases fr with
  | @cons _ name n _ _ ps elems open_ _ fr' =>
    subst hb
    refine ⟨name, n, elems, ps, open_, flatStep_end pref st1 tag name n elems he,
      flatStep_end pref st2 tag name n elems (helems.trans he), fr', fun rest => ?_⟩
    rw [reparseX]
    simp only [ho, if_true]

/-- The first pass on `xs`, `reparseX` on its output and the second pass on what `reparseX` delivers, in lockstep,
    by cases on the checker's step (`ckStep_inv`). Only a start tag needs an argument: `idemGo` says that the first
    pass declared there exactly what `takePending` took of the pending requests (`hcond`); `reparseX` turns these
    `xmlns` attributes back into START_NS events, and requesting them again gives the same tag (`idem_start`). `Inv`
    is carried along to have `flatStart_spec` for the first pass. -/
theorem idem_run (pref : List (Str × Str)) (hpref : prefOK pref = true) :
    ∀ (xs : List XEv) (st1 st2 : FSt) (pst : PSt) (ck : CkSt) (inRun : Bool),
      (∃ rst, Inv st1 rst ck) → docGo ck xs = true → idemGo pref st1 inRun xs = true →
      IRel st1 st2 pst ck inRun →
      ∃ xs2, reparseX pst ((flatRun pref st1 xs).map normF) = some xs2 ∧
        flatRun pref st2 xs2 = flatRun pref st1 xs := by
  intro xs
  induction xs with
  | nil =>
    intro st1 st2 pst ck inRun _ _ _ _
    exact ⟨[], by simp [flatRun, reparseX], by simp [flatRun]⟩
  | cons x xs ih =>
    intro st1 st2 pst ck inRun hinv hdoc hidem rel
    obtain ⟨rst, inv⟩ := hinv
    obtain ⟨ck', hck, hdoc⟩ := docGo_cons hdoc
    obtain ⟨rst', inv', _⟩ := step_sim pref hpref st1 rst ck inv x ck' hck
    cases ckStep_inv hck with
    | @empty tag attrs d' hd' =>
      rw [idemGo_cons, Bool.and_eq_true] at hidem
      obtain ⟨hcond, hidem'⟩ := hidem
      simp only [decide_eq_true_eq] at hcond
      obtain ⟨h1, ⟨plain, h2⟩, h3, h4, h5⟩ := idem_start pref hpref st1 st2 rst pst ck inRun inv rel tag attrs d' hd' hcond
      rw [flatStep_empty] at hidem' inv'
      have rel' : IRel { bindings := st1.bindings, pending := [], elems := st1.elems, counter := (flatStart pref st1 tag attrs).2.2.counter }
          { bindings := st2.bindings, pending := [], elems := st2.elems, counter := (flatStart pref st1 tag attrs).2.2.counter } pst
          { ck with pendD := none, rootSeen := true } false :=
        ⟨rel.bind, rel.elems, rfl, rfl, fun _ => rfl, by simp, rel.scope, rel.frames⟩
      obtain ⟨xs2, r1, r2⟩ := ih _ _ pst _ false ⟨rst', inv'⟩ hdoc hidem' rel'
      refine ⟨nsEvents ((flatStart pref st1 tag attrs).2.2.declared.map (fun d => (d.1, normUri d.2))) ++
        [.empty tag attrs] ++ endNsEvents (((flatStart pref st1 tag attrs).2.2.declared.map
          (fun d => (d.1, normUri d.2))).map Prod.fst) ++ xs2, ?_, ?_⟩
      · rw [flatRun_cons, flatStep_empty]
        simp only [List.map_cons, normF, List.cons_append, List.nil_append]
        rw [reparseX]
        simp only [h1, h2, r1, Option.map_some]
      · rw [h3]
        simp only [List.append_assoc]
        rw [h4, List.cons_append, List.nil_append, flatRun_cons, flatStep_empty, h5, flatRun_endNs pref _ _ _ rfl, r2,
          flatRun_cons, flatStep_empty]
    | @plain e he hok =>
      rw [idemGo_plain pref st1 inRun e he, Bool.and_eq_true, Bool.not_eq_true'] at hidem
      obtain ⟨hcond, hidem'⟩ := hidem
      rw [flatStep_plain pref st1 e he] at inv'
      have rel' : IRel st1 st2 pst (plainNext ck e) false :=
        ⟨rel.bind, rel.elems, rel.counter, rel.pend2, fun _ => rel.pend1 hcond, rel.pend1ne, rel.scope,
          by rw [plainNext_stack]; exact rel.frames⟩
      obtain ⟨xs2, r1, r2⟩ := ih _ st2 pst _ false ⟨rst', inv'⟩ hdoc hidem' rel'
      obtain ⟨p1, p2, p3⟩ := plain_step pref st1 st2 pst e he xs xs2 r1
      exact ⟨.ev e :: xs2, p1, by rw [p2, p3, r2]⟩
    | @start tag attrs d' hd' =>
      rw [idemGo_cons, Bool.and_eq_true] at hidem
      obtain ⟨hcond, hidem'⟩ := hidem
      simp only [decide_eq_true_eq] at hcond
      obtain ⟨h1, ⟨plain, h2⟩, h3, h4, h5⟩ := idem_start pref hpref st1 st2 rst pst ck inRun inv rel tag attrs d' hd' hcond
      obtain ⟨_, ti, _, _⟩ := flatStart_spec pref hpref st1 rst ck inv tag attrs d' hd'
      rw [flatStep_start] at hidem' inv'
      have fr := rel.frames.push ti (flatStart pref st1 tag attrs).1 tag ck.dTruthy
        (((flatStart pref st1 tag attrs).2.2.declared.map (fun d => (d.1, normUri d.2))).map Prod.fst)
      rw [← rel.scope] at fr
      have rel' : IRel
          { bindings := (flatStart pref st1 tag attrs).2.2.bindings, pending := [], elems := ((flatStart pref st1 tag attrs).1, (flatStart pref st1 tag attrs).2.2.declared.length) :: st1.elems, counter := (flatStart pref st1 tag attrs).2.2.counter }
          { bindings := (flatStart pref st1 tag attrs).2.2.bindings, pending := [], elems := ((flatStart pref st1 tag attrs).1, (flatStart pref st1 tag attrs).2.2.declared.length) :: st2.elems, counter := (flatStart pref st1 tag attrs).2.2.counter }
          ⟨((flatStart pref st1 tag attrs).1, tag, pst.scope,
              ((flatStart pref st1 tag attrs).2.2.declared.map (fun d => (d.1, normUri d.2))).map Prod.fst) :: pst.open_,
            scopeOf (flatStart pref st1 tag attrs).2.2.bindings⟩
          { ck with stack := (tag, ck.dTruthy) :: ck.stack, dTruthy := d', pendD := none, rootSeen := true } false :=
        ⟨rfl, by simp [rel.elems], rfl, rfl, fun _ => rfl, by simp, rfl, fr⟩
      obtain ⟨xs2, r1, r2⟩ := ih _ _ _ _ false ⟨rst', inv'⟩ hdoc hidem' rel'
      refine ⟨nsEvents ((flatStart pref st1 tag attrs).2.2.declared.map (fun d => (d.1, normUri d.2))) ++
        [.ev (.start tag attrs)] ++ xs2, ?_, ?_⟩
      · rw [flatRun_cons, flatStep_start]
        simp only [List.map_cons, normF, List.cons_append, List.nil_append]
        rw [reparseX]
        simp only [h1, h2, r1, Option.map_some]
      · rw [h3]
        simp only [List.append_assoc]
        rw [h4, List.cons_append, List.nil_append, flatRun_cons, flatStep_start, h5, r2, flatRun_cons, flatStep_start]
    | @end_ tag d stack hs =>
      rw [idemGo_cons, Bool.and_eq_true, Bool.not_eq_true'] at hidem
      obtain ⟨hcond, hidem'⟩ := hidem
      obtain ⟨name, n, elems, ps, open_, e1, e2, fr', hre⟩ := end_step pref hs rel.elems rel.frames
      rw [e1] at hidem' inv'
      have rel' : IRel { st1 with bindings := st1.bindings.drop n, elems := elems }
          { st2 with bindings := st2.bindings.drop n, elems := elems }
          ⟨open_, scopeOf (st1.bindings.drop n)⟩ { ck with stack := stack, dTruthy := d } false :=
        ⟨by simp [rel.bind], rfl, rel.counter, rel.pend2, fun _ => rel.pend1 hcond, rel.pend1ne, rfl, fr'⟩
      obtain ⟨xs2, r1, r2⟩ := ih _ _ _ _ false ⟨rst', inv'⟩ hdoc hidem' rel'
      refine ⟨[.ev (.end_ tag)] ++ endNsEvents ps ++ xs2, ?_, ?_⟩
      · rw [flatRun_cons, e1]
        simp only [List.map_cons, normF, List.cons_append, List.nil_append]
        rw [hre, r1]; rfl
      · simp only [List.cons_append, List.nil_append]
        rw [flatRun_cons, e2]
        simp only
        rw [flatRun_endNs pref ps _ xs2 (by simpa using rel.pend2), r2, flatRun_cons, e1]
    | @startNs p u hl =>
      rw [idemGo_cons, Bool.and_eq_true, Bool.not_eq_true'] at hidem
      obtain ⟨hcond, hidem'⟩ := hidem
      have hne : u ≠ [] := by intro e; simp [e] at hcond
      rw [flatStep_startNs] at hidem' inv'
      have rel' : IRel { st1 with pending := st1.pending.filter (fun d => d.1 ≠ p) ++ [(p, u)] } st2 pst
          { ck with pendD := if p.isEmpty then some (!falsyUri u) else ck.pendD } true := by
        refine ⟨rel.bind, rel.elems, rel.counter, rel.pend2, (fun e => by cases e), ?_, rel.scope, rel.frames⟩
        intro d hd
        simp only [List.mem_append, List.mem_singleton] at hd
        rcases hd with hd | rfl
        · exact rel.pend1ne d (List.mem_filter.mp hd).1
        · exact hne
      obtain ⟨xs2, r1, r2⟩ := ih _ st2 pst _ true ⟨rst', inv'⟩ hdoc hidem' rel'
      exact ⟨xs2, by rw [flatRun_cons, flatStep_startNs]; exact r1, by rw [flatRun_cons, flatStep_startNs]; exact r2⟩
    | @endNs p =>
      rw [idemGo_cons, Bool.and_eq_true, Bool.not_eq_true'] at hidem
      obtain ⟨hcond, hidem'⟩ := hidem
      have hp1 := rel.pend1 hcond
      have hstep1 : flatStep pref st1 (.ev (.endNs p)) = (st1, []) := by
        have : st1.pending.filter (fun d => d.1 ≠ p) = st1.pending := by rw [hp1]; rfl
        rw [flatStep_endNs, this]
      rw [hstep1] at hidem' inv'
      have rel' : IRel st1 st2 pst { ck with pendD := if p.isEmpty then none else ck.pendD } false :=
        ⟨rel.bind, rel.elems, rel.counter, rel.pend2, fun _ => hp1, rel.pend1ne, rel.scope, rel.frames⟩
      obtain ⟨xs2, r1, r2⟩ := ih _ st2 pst _ false ⟨rst', inv'⟩ hdoc hidem' rel'
      exact ⟨xs2, by rw [flatRun_cons, hstep1]; exact r1, by rw [flatRun_cons, hstep1]; exact r2⟩

theorem irel_init : IRel FSt.init FSt.init PSt.init CkSt.init false :=
  ⟨rfl, rfl, rfl, rfl, fun _ => rfl, by simp [FSt.init], inv_init.scope, PFrames.nil _⟩

/-- **idempotence at the level of events**: for streams shaped like the
    parser's (`idemOK`) inside `docOK`, reading the flattened output back
    (`reparseX`) and flattening again gives the same flattened output -/
theorem idem_flatten (pref : List (Str × Str)) (hpref : prefOK pref = true) (xs : List XEv)
    (h1 : docOK xs = true) (h2 : idemOK pref xs = true) :
    ∃ xs2, reparseX PSt.init ((flatten pref xs).map normF) = some xs2 ∧ flatten pref xs2 = flatten pref xs := by
  rcases docOK_cases h1 with h1 | ⟨v, e, s, rest, rfl, h1⟩
  · exact idem_run pref hpref xs _ _ _ _ false ⟨_, inv_init⟩ h1 h2 irel_init
  · obtain ⟨xs2, r1, r2⟩ := idem_run pref hpref rest _ _ _ _ false ⟨_, inv_init⟩ h1
      (Bool.and_eq_true_iff.mp ((idemGo_cons ..).symm.trans h2)).2 irel_init
    refine ⟨.ev (.xmlDecl v e s) :: xs2, ?_, ?_⟩
    · simp only [flatten_decl, List.map_cons, normF, reparseX]
      exact congrArg (Option.map (XEv.ev (.xmlDecl v e s) :: ·)) r1
    · rw [flatten_decl, flatten_decl]; exact congrArg _ r2

end Genshi.Xml
