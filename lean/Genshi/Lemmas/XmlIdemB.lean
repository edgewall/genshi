/-
  C02 — idempotence for builder streams, part 1: what the second pass can see
  of the first pass's bindings (`scopeOf`: prefix and URI, not the `auto` flag,
  `None` and `""` identified) determines `_find_prefix`; and the prefix chosen
  for a name is stable under the fresh declarations made later on the same tag.
-/
import Genshi.Lemmas.XmlIdem
namespace Genshi.Xml
open Genshi Genshi.Xml.Reader

theorem uriOf_scope : ∀ (bs1 bs2 : List Binding), scopeOf bs1 = scopeOf bs2 → ∀ p : Str,
    (uriOf bs1 p).map normUri = (uriOf bs2 p).map normUri := by
  intro bs1 bs2 h p
  rw [uriOf_scopeOf, uriOf_scopeOf, h]

/-- a URI that is neither `""` nor `None` is seen as itself, and nothing else is seen as it -/
theorem normUri_eq_iff {u uri : Str} (h1 : uri ≠ []) (h2 : uri ≠ noneUri) : normUri u = uri ↔ u = uri := by
  refine ⟨fun h => ?_, fun e => by rw [e, normUri_of_ne h2]⟩
  by_cases e : u = noneUri
  · rw [e] at h; exact absurd h.symm h1
  · rwa [normUri_of_ne e] at h

theorem uriOf_scope_iff {bs1 bs2 : List Binding} (h : scopeOf bs1 = scopeOf bs2) {uri p : Str}
    (h1 : uri ≠ []) (h2 : uri ≠ noneUri) : uriOf bs1 p = some uri ↔ uriOf bs2 p = some uri := by
  have k : ∀ o : Option Str, o = some uri ↔ o.map normUri = some uri := fun o => by
    cases o with
    | none => exact ⟨nofun, nofun⟩
    | some u => rw [Option.map_some, Option.some.injEq, Option.some.injEq, normUri_eq_iff h1 h2]
  rw [k (uriOf bs1 p), k (uriOf bs2 p), uriOf_scope bs1 bs2 h p]

theorem uriOf_scope_none {bs1 bs2 : List Binding} (h : scopeOf bs1 = scopeOf bs2) {p : Str}
    (hu : uriOf bs1 p = none) : uriOf bs2 p = none := by
  have := uriOf_scope bs1 bs2 h p
  rwa [hu, Option.map_none, eq_comm, Option.map_eq_none_iff] at this

theorem findGo_scope {full1 full2 : List Binding} (hf : scopeOf full1 = scopeOf full2) {uri : Str}
    (h1 : uri ≠ []) (h2 : uri ≠ noneUri) (fa : Bool) :
    ∀ (bs1 bs2 : List Binding), scopeOf bs1 = scopeOf bs2 →
      findGo full1 uri fa bs1 = findGo full2 uri fa bs2
  | [], [], _ => rfl
  | [], _ :: _, h => by simp [scopeOf] at h
  | _ :: _, [], h => by simp [scopeOf] at h
  | (p1, u1, a1) :: bs1, (p2, u2, a2) :: bs2, h => by
      simp only [scopeOf, List.map_cons, List.cons.injEq, proj, Prod.mk.injEq] at h
      obtain ⟨⟨hp, hu⟩, hr⟩ := h
      subst hp
      have ih := findGo_scope hf h1 h2 fa bs1 bs2 hr
      have hu' : u1 = uri ↔ u2 = uri := by
        rw [← normUri_eq_iff h1 h2, hu, normUri_eq_iff h1 h2]
      have hc : (u1 = uri ∧ (¬ p1.isEmpty ∨ fa = false) ∧ uriOf full1 p1 = some uri) ↔
          (u2 = uri ∧ (¬ p1.isEmpty ∨ fa = false) ∧ uriOf full2 p1 = some uri) := by
        rw [hu', uriOf_scope_iff hf h1 h2]
      simp only [findGo]
      by_cases c1 : (u1 = uri ∧ (¬ p1.isEmpty ∨ fa = false) ∧ uriOf full1 p1 = some uri)
      · rw [if_pos c1, if_pos (hc.mp c1)]
      · rw [if_neg c1, if_neg (fun c2 => c1 (hc.mpr c2))]
        exact ih

theorem findPrefix_scope {bs1 bs2 : List Binding} (h : scopeOf bs1 = scopeOf bs2) {uri : Str}
    (h1 : uri ≠ []) (h2 : uri ≠ noneUri) (fa : Bool) :
    findPrefix bs1 uri fa = findPrefix bs2 uri fa := by
  unfold findPrefix
  have hc : (fa = false ∧ uriOf bs1 [] = some uri) ↔ (fa = false ∧ uriOf bs2 [] = some uri) := by
    rw [uriOf_scope_iff h h1 h2]
  by_cases c1 : (fa = false ∧ uriOf bs1 [] = some uri)
  · rw [if_pos c1, if_pos (hc.mp c1)]
  · rw [if_neg c1, if_neg (fun c2 => c1 (hc.mpr c2))]
    exact findGo_scope h h1 h2 fa bs1 bs2 h

theorem findGo_full_congr (full full' : List Binding) (uri : Str) (fa : Bool) :
    ∀ bs : List Binding, (∀ q ∈ bs.map (·.1), uriOf full' q = uriOf full q) →
      findGo full' uri fa bs = findGo full uri fa bs := by
  intro bs
  induction bs with
  | nil => intro _; rfl
  | cons b bs ih =>
    intro h
    obtain ⟨p, u, a⟩ := b
    simp only [findGo]
    rw [h p List.mem_cons_self, ih (fun q hq => h q (List.mem_cons_of_mem _ hq))]

/-- a fresh binding does not change the answer of `_find_prefix` for `uri`,
    unless it binds `uri` itself and the answer did not come from the default
    namespace -/
theorem findPrefix_push {bs : List Binding} {p u uri : Str} {a fa : Bool} (hf : uriOf bs p = none)
    (hc : u ≠ uri ∨ (fa = false ∧ uriOf bs [] = some uri)) :
    findPrefix ((p, u, a) :: bs) uri fa = findPrefix bs uri fa := by
  have hp : p ≠ [] := by
    intro e; subst e; exact uriOf_nil_ne_none _ hf
  have hd : uriOf ((p, u, a) :: bs) [] = uriOf bs [] := by
    rw [uriOf_cons]; simp [hp]
  unfold findPrefix
  rw [hd]
  by_cases c : (fa = false ∧ uriOf bs [] = some uri)
  · rw [if_pos c, if_pos c]
  · rw [if_neg c, if_neg c]
    have hu : u ≠ uri := by
      rcases hc with h | h
      · exact h
      · exact absurd h c
    simp only [findGo]
    rw [if_neg (fun x => hu x.1)]
    apply findGo_full_congr
    intro q hq
    rw [uriOf_cons]
    have : p ≠ q := by
      intro e; subst e
      exact uriOf_ne_none_of_mem bs p hq hf
    simp [this]

/-- the prefix found for `uri` stays the answer after a declaration that was
    made because *another* namespace had no usable prefix -/
theorem findPrefix_push_stable {bs : List Binding} {p ns uri q : Str} {a fa : Bool}
    (hq : findPrefix bs uri fa = some q) (hn : findPrefix bs ns true = none) (hf : uriOf bs p = none) :
    findPrefix ((p, ns, a) :: bs) uri fa = some q := by
  rw [findPrefix_push hf, hq]
  have hs := findPrefix_sound bs uri fa q hq
  by_cases hq0 : q = []
  · subst hq0
    cases fa with
    | true => exact absurd rfl (hs.2 rfl)
    | false => exact Or.inr ⟨rfl, hs.1⟩
  · left
    intro e; subst e
    have := findPrefix_complete bs ns true q hq0 hs.1
    rw [hn] at this
    cases this

theorem findPrefix_declared {bs : List Binding} {p uri : Str} {a : Bool} (hp : p ≠ []) :
    findPrefix ((p, uri, a) :: bs) uri true = some p := by
  unfold findPrefix
  rw [if_neg (fun x => by cases x.1)]
  simp only [findGo]
  rw [if_pos]
  refine ⟨trivial, Or.inl (by simpa using hp), ?_⟩
  rw [uriOf_cons]; simp

/-- the prefix found for a namespace stays the answer while the attribute loop declares prefixes for others:
    a fact of the algorithm (a generated or preferred prefix is unbound when it is taken), not of the invariants -/
theorem findPrefix_flatAttrs (pref : List (Str × Str)) {uri q : Str} {fa : Bool} (attrs : AttrList) :
    ∀ {t : TagSt}, findPrefix t.bindings uri fa = some q →
      findPrefix (flatAttrs pref t attrs).2.bindings uri fa = some q := by
  induction attrs with
  | nil => exact id
  | cons av rest ih =>
    intro t hq
    obtain ⟨a, v⟩ := av
    by_cases hn : a.ns = []
    · rw [flatAttrs_plain pref t a v rest hn]; exact ih hq
    · cases hf : findPrefix t.bindings a.ns true with
      | some p => rw [flatAttrs_found pref t a v rest hn p hf]; exact ih hq
      | none =>
        rw [flatAttrs_decl pref t a v rest hn hf]
        apply ih
        rw [declare_fresh pref t a.ns none (Or.inl rfl)]
        exact findPrefix_push_stable hq hf (freshPrefix_unbound pref t.bindings a.ns t.counter)

theorem flatAttrs_stable (pref : List (Str × Str)) (hpref : prefOK pref = true) (base : List Binding)
    (uri q : Str) (fa : Bool) (attrs : AttrList) :
    ∀ (t : TagSt), TagInv base t → (∀ a ∈ attrs, attrOK a = true) →
      findPrefix t.bindings uri fa = some q →
      findPrefix (flatAttrs pref t attrs).2.bindings uri fa = some q :=
  fun _ _ _ => findPrefix_flatAttrs pref attrs

/-- **the second pass over the attributes**: with every declaration of the
    first pass in scope, each attribute finds the prefix the first pass gave it
    and nothing is declared -/
theorem flatAttrs_second (pref : List (Str × Str)) (hpref : prefOK pref = true) (base : List Binding)
    (attrs : AttrList) :
    ∀ (t : TagSt), TagInv base t → (∀ a ∈ attrs, attrOK a = true) →
      ∀ T : TagSt, scopeOf T.bindings = scopeOf (flatAttrs pref t attrs).2.bindings →
        flatAttrs pref T attrs = ((flatAttrs pref t attrs).1, T) := by
  revert attrs
  refine flatAttrs_ind pref hpref base (fun t _ T _ => rfl) ?_ ?_ ?_
  · intro t a v rest _ _ hn ih T hT
    rw [flatAttrs_plain pref t a v rest hn] at hT ⊢
    rw [flatAttrs_plain pref T a v rest hn, ih T hT]
  · intro t a v rest p _ _ hn hns1 hf ih T hT
    rw [flatAttrs_found pref t a v rest hn p hf] at hT ⊢
    have hT2 : findPrefix T.bindings a.ns true = some p := by
      rw [findPrefix_scope hT hn hns1]
      exact findPrefix_flatAttrs pref rest hf
    rw [flatAttrs_found pref T a v rest hn p hT2, ih T hT]
  · intro t a v rest _ _ hn hns1 hf _ j2 _ j4 ih T hT
    rw [flatAttrs_decl pref t a v rest hn hf] at hT ⊢
    have hT2 : findPrefix T.bindings a.ns true = some (declare pref t a.ns none).1 := by
      rw [findPrefix_scope hT hn hns1]
      apply findPrefix_flatAttrs pref rest
      rw [j4]
      exact findPrefix_declared j2
    rw [flatAttrs_found pref T a v rest hn _ hT2, ih T hT]

theorem takePending_append (A B : List (Str × Str)) :
    ∀ t : TagSt, takePending t (A ++ B) = takePending (takePending t A) B := by
  induction A with
  | nil => intro t; rfl
  | cons d ds ih =>
    intro t
    obtain ⟨p, u⟩ := d
    simp only [List.cons_append, takePending]
    split
    · exact ih _
    · exact ih t

/-- **the declarations of the attribute loop, met again as explicit ones**: all
    of them are taken, in order -/
theorem takePending_second_attrs (pref : List (Str × Str)) (hpref : prefOK pref = true) (base : List Binding)
    (attrs : AttrList) :
    ∀ (t : TagSt), TagInv base t → (∀ a ∈ attrs, attrOK a = true) →
      ∀ T : TagSt, scopeOf T.bindings = scopeOf t.bindings →
        ∃ DA, (flatAttrs pref t attrs).2.declared = t.declared ++ DA ∧
          (∀ d ∈ DA, d.2 ≠ [] ∧ d.2 ≠ noneUri) ∧
          scopeOf (takePending T DA).bindings = scopeOf (flatAttrs pref t attrs).2.bindings ∧
          (takePending T DA).declared = T.declared ++ DA := by
  revert attrs
  refine flatAttrs_ind pref hpref base
    (fun t _ T hT => ⟨[], by simp [flatAttrs], by simp, by simpa [flatAttrs, takePending] using hT, by simp [takePending]⟩)
    ?_ ?_ ?_
  · intro t a v rest _ _ hn ih T hT
    rw [flatAttrs_plain pref t a v rest hn]
    exact ih T hT
  · intro t a v rest p _ _ hn _ hf ih T hT
    rw [flatAttrs_found pref t a v rest hn p hf]
    exact ih T hT
  · intro t a v rest _ _ hn hns1 hf _ j2 j3 j4 ih T hT
    rw [flatAttrs_decl pref t a v rest hn hf]
    have hdecl : (declare pref t a.ns none).2.declared = t.declared ++ [((declare pref t a.ns none).1, a.ns)] := by
      rw [declare_fresh pref t a.ns none (Or.inl rfl)]
    generalize hp' : (declare pref t a.ns none).1 = p' at *
    generalize ht' : (declare pref t a.ns none).2 = t' at *
    have hT' : scopeOf ((p', a.ns, false) :: T.bindings) = scopeOf t'.bindings := by
      rw [j4]
      simp only [scopeOf, List.map_cons, proj] at hT ⊢
      rw [hT]
    obtain ⟨DA, d1, d2, d3, d4⟩ := ih
      { T with bindings := (p', a.ns, false) :: T.bindings, declared := T.declared ++ [(p', a.ns)] } hT'
    have hcond : uriOf T.bindings p' ≠ some a.ns ∧
        (¬ p'.isEmpty ∨ falsyUri a.ns ∨ findPrefix T.bindings a.ns false = none) := by
      refine ⟨?_, Or.inl (by simpa using j2)⟩
      rw [uriOf_scope_none hT.symm j3]
      simp
    have htp : takePending T ((p', a.ns) :: DA) =
        takePending { T with bindings := (p', a.ns, false) :: T.bindings, declared := T.declared ++ [(p', a.ns)] } DA := by
      rw [takePending, if_pos hcond]
    refine ⟨(p', a.ns) :: DA, ?_, ?_, ?_, ?_⟩
    · rw [d1, hdecl]; simp
    · intro d hd
      rcases List.mem_cons.mp hd with rfl | hd
      · exact ⟨hn, hns1⟩
      · exact d2 d hd
    · rw [htp]; exact d3
    · rw [htp, d4]; simp

end Genshi.Xml
