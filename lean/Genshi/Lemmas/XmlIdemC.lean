/-
  C02 — idempotence for builder streams, part 2: one start tag in the second
  pass.  The first pass (no pending declarations) invents declarations `D`; the
  second pass meets them as explicit ones (`xmlns=""` as `None`), takes all of
  them, and then finds for the tag and every attribute the prefix the first
  pass chose, declaring nothing.
-/
import Genshi.Lemmas.XmlIdemB
namespace Genshi.Xml
open Genshi Genshi.Xml.Reader

theorem toNone_nil : toNone [] = noneUri := by decide

theorem normUri_toNone (u : Str) : normUri (toNone u) = normUri u := by
  by_cases h : u = []
  · subst h; decide
  · rw [toNone_ok h]

/-- the tag-name step of the first pass on a tag without pending declarations,
    and what the second pass makes of its declaration -/
theorem flatTag_builder (pref : List (Str × Str)) (t0 : TagSt) (hd : t0.declared = [])
    (tag : QName) (htag : tagOK tag = true) :
    (∀ T0 : TagSt, scopeOf T0.bindings = scopeOf t0.bindings →
      scopeOf (takePending T0 (toNoneD (flatTag pref t0 tag).2.declared)).bindings =
        scopeOf (flatTag pref t0 tag).2.bindings ∧
      (takePending T0 (toNoneD (flatTag pref t0 tag).2.declared)).declared =
        T0.declared ++ toNoneD (flatTag pref t0 tag).2.declared) ∧
    (tag.ns = [] → (flatTag pref t0 tag).1 = tag.loc) ∧
    (tag.ns ≠ [] → ∃ p, (flatTag pref t0 tag).1 = qualify p tag.loc ∧
      findPrefix (flatTag pref t0 tag).2.bindings tag.ns false = some p) := by
  obtain ⟨_, hns1, hns2⟩ := tagOK_parts htag
  have hnd : ([] : Str) ∉ t0.declared.map Prod.fst := by rw [hd]; simp
  unfold flatTag
  by_cases hn : tag.ns = []
  · have hne : tag.ns.isEmpty = true := by simp [hn]
    simp only [hne, if_true]
    cases hu : uriOf t0.bindings [] with
    | none => exact absurd hu (uriOf_nil_ne_none _)
    | some u =>
      simp only
      by_cases hc : ¬ falsyUri u = true ∧ autoOf t0.bindings [] = true
      · rw [if_pos hc, declare_given_nil pref t0 [] hnd]
        simp only [hd, List.nil_append]
        refine ⟨?_, fun _ => trivial, fun h => absurd hn h⟩
        intro T0 hT
        have hcond : uriOf T0.bindings [] ≠ some noneUri ∧
            (¬ ([] : Str).isEmpty ∨ falsyUri noneUri ∨ findPrefix T0.bindings noneUri false = none) := by
          refine ⟨?_, Or.inr (Or.inl (by decide))⟩
          intro e
          have := uriOf_scope T0.bindings t0.bindings hT []
          rw [e, hu] at this
          simp only [Option.map_some, Option.some.injEq] at this
          have h0 : normUri noneUri = [] := by decide
          rw [h0] at this
          exact hc.1 (falsy_iff_normUri_nil.mpr this.symm)
        have e1 : toNoneD [(([] : Str), ([] : Str))] = [([], noneUri)] := by decide
        rw [e1, takePending, if_pos hcond]
        simp only [takePending]
        refine ⟨?_, trivial⟩
        simp only [scopeOf, List.map_cons, proj] at hT ⊢
        rw [hT]
        have h0 : normUri noneUri = normUri [] := by decide
        rw [h0]
      · rw [if_neg hc]
        simp only [hd]
        refine ⟨?_, fun _ => trivial, fun h => absurd hn h⟩
        intro T0 hT
        exact ⟨hT, by simp [toNoneD, takePending]⟩
  · have hne : tag.ns.isEmpty = false := by simpa using hn
    simp only [hne, Bool.false_eq_true, if_false]
    cases hf : findPrefix t0.bindings tag.ns false with
    | some p =>
      simp only [hd]
      refine ⟨?_, fun h => absurd h hn, fun _ => ⟨p, rfl, hf⟩⟩
      intro T0 hT
      exact ⟨hT, by simp [toNoneD, takePending]⟩
    | none =>
      simp only
      rw [declare_given_nil pref t0 tag.ns hnd]
      simp only [hd, List.nil_append]
      refine ⟨?_, fun h => absurd h hn, fun _ => ⟨[], rfl, ?_⟩⟩
      · intro T0 hT
        have hcond : uriOf T0.bindings [] ≠ some tag.ns ∧
            (¬ ([] : Str).isEmpty ∨ falsyUri tag.ns ∨ findPrefix T0.bindings tag.ns false = none) := by
          refine ⟨?_, Or.inr (Or.inr ?_)⟩
          · intro e
            have := (uriOf_scope_iff hT hn hns1).mp e
            have : findPrefix t0.bindings tag.ns false = some [] := by
              unfold findPrefix; rw [if_pos ⟨rfl, this⟩]
            rw [hf] at this; cases this
          · rw [findPrefix_scope hT hn hns1]; exact hf
        have e1 : toNoneD [(([] : Str), tag.ns)] = [([], tag.ns)] := by
          simp [toNoneD, toNone_ok hn]
        rw [e1, takePending, if_pos hcond]
        simp only [takePending]
        refine ⟨?_, trivial⟩
        simp only [scopeOf, List.map_cons, proj] at hT ⊢
        rw [hT]
      · unfold findPrefix
        rw [if_pos ⟨rfl, by rw [uriOf_cons]; simp⟩]

theorem toNoneD_append (A B : List (Str × Str)) : toNoneD (A ++ B) = toNoneD A ++ toNoneD B := by
  simp [toNoneD]

/-- **one start tag in the second pass** (tag state level): `t0` is the first
    pass's state at the tag (no pending declarations), `T0` the second pass's,
    seeing the same bindings; the second pass is handed the first pass's
    declarations -/
theorem tag_second (pref : List (Str × Str)) (hpref : prefOK pref = true) (base : List Binding)
    (t0 : TagSt) (ht0 : TagInv base t0) (hd0 : t0.declared = [])
    (tag : QName) (attrs : AttrList) (htag : tagOK tag = true) (hattrs : ∀ a ∈ attrs, attrOK a = true)
    (hj : tag.ns = [] → JProp t0.bindings)
    (T0 : TagSt) (hT : scopeOf T0.bindings = scopeOf t0.bindings) (hTd : T0.declared = []) :
    ∀ T2, T2 = takePending T0 (toNoneD (flatAttrs pref (flatTag pref t0 tag).2 attrs).2.declared) →
      T2.declared = toNoneD (flatAttrs pref (flatTag pref t0 tag).2 attrs).2.declared ∧
      scopeOf T2.bindings = scopeOf (flatAttrs pref (flatTag pref t0 tag).2 attrs).2.bindings ∧
      flatTag pref T2 tag = ((flatTag pref t0 tag).1, T2) ∧
      flatAttrs pref T2 attrs = ((flatAttrs pref (flatTag pref t0 tag).2 attrs).1, T2) := by
  obtain ⟨_, hns1, hns2⟩ := tagOK_parts htag
  obtain ⟨b1, b2, b3⟩ := flatTag_builder pref t0 hd0 tag htag
  obtain ⟨i1, r1, _⟩ := flatTag_spec pref hpref base t0 ht0 tag htag hj (by rw [hd0]; simp)
  generalize flatTag pref t0 tag = ft at *
  obtain ⟨name, t1⟩ := ft
  simp only at b1 b2 b3 i1 r1 ⊢
  obtain ⟨c1, c2⟩ := b1 T0 hT
  obtain ⟨DA, d1, d2, d3, d4⟩ := takePending_second_attrs pref hpref base attrs t1 i1 hattrs
    (takePending T0 (toNoneD t1.declared)) c1
  obtain ⟨i2, e2, _⟩ := flatAttrs_spec pref hpref base attrs t1 i1 hattrs
  have hD : toNoneD (flatAttrs pref t1 attrs).2.declared = toNoneD t1.declared ++ DA := by
    rw [d1, toNoneD_append, toNoneD_ok DA fun d hd => (d2 d hd).1]
  intro T2 hT2
  rw [hD, takePending_append] at hT2
  subst hT2
  refine ⟨by rw [d4, c2, hTd, hD]; simp, d3, ?_, ?_⟩
  · by_cases hn : tag.ns = []
    · have hne : tag.ns.isEmpty = true := by simp [hn]
      obtain ⟨_, hu, hfu⟩ | ⟨hn', _⟩ := r1
      · rw [← e2.default.1] at hu
        have hs := uriOf_scope _ _ d3 []
        rw [hu] at hs
        unfold flatTag
        simp only [hne, if_true]
        cases hu2 : uriOf (takePending (takePending T0 (toNoneD t1.declared)) DA).bindings [] with
        | none => exact absurd hu2 (uriOf_nil_ne_none _)
        | some u2 =>
          rw [hu2] at hs
          simp only [Option.map_some, Option.some.injEq] at hs
          rw [falsy_iff_normUri_nil.mp hfu] at hs
          have hf2 := falsy_iff_normUri_nil.mpr hs
          simp only
          rw [if_neg (fun x => x.1 hf2)]
      · exact absurd hn hn'
    · have hne : tag.ns.isEmpty = false := by simpa using hn
      obtain ⟨p, hp1, hp2⟩ := b3 hn
      have hst := findPrefix_flatAttrs pref attrs hp2
      have hT2f : findPrefix (takePending (takePending T0 (toNoneD t1.declared)) DA).bindings tag.ns false = some p := by
        rw [findPrefix_scope d3 hn hns1]; exact hst
      unfold flatTag
      simp only [hne, Bool.false_eq_true, if_false, hT2f, hp1]
  · exact flatAttrs_second pref hpref base attrs t1 i1 hattrs _ d3

theorem flatStart_eq (pref : List (Str × Str)) (st : FSt) (tag : QName) (attrs : AttrList) :
    flatStart pref st tag attrs =
      ((flatTag pref (takePending ⟨st.bindings, [], st.counter⟩ st.pending) tag).1,
       (flatAttrs pref (flatTag pref (takePending ⟨st.bindings, [], st.counter⟩ st.pending) tag).2 attrs).2.declared.map
          (fun d => (nsAttrName d.1, d.2)) ++
         (flatAttrs pref (flatTag pref (takePending ⟨st.bindings, [], st.counter⟩ st.pending) tag).2 attrs).1,
       (flatAttrs pref (flatTag pref (takePending ⟨st.bindings, [], st.counter⟩ st.pending) tag).2 attrs).2) := rfl

theorem normAttrs_decls (D : List (Str × Str)) :
    normAttrs ((toNoneD D).map fun d => (nsAttrName d.1, d.2)) = normAttrs (D.map fun d => (nsAttrName d.1, d.2)) := by
  simp [normAttrs, toNoneD, List.map_map, Function.comp_def, normUri_toNone]

/-- **one start tag in the second pass** (filter state level) -/
theorem flatStart_second (pref : List (Str × Str)) (hpref : prefOK pref = true)
    (st1 : FSt) (rst : RSt) (ck : CkSt) (inv : Inv st1 rst ck) (hp1 : st1.pending = [])
    (st2 : FSt) (hk : scopeOf st2.bindings = scopeOf st1.bindings)
    (tag : QName) (attrs : AttrList) (d' : Bool) (hck : ckStartLike ck tag attrs = some d') :
    ∀ r1, r1 = flatStart pref st1 tag attrs →
    ∀ r2, r2 = flatStart pref { st2 with pending := toNoneD r1.2.2.declared } tag attrs →
      r2.1 = r1.1 ∧ normAttrs r2.2.1 = normAttrs r1.2.1 ∧
      scopeOf r2.2.2.bindings = scopeOf r1.2.2.bindings ∧
      r2.2.2.declared = toNoneD r1.2.2.declared ∧ r2.2.2.counter = st2.counter := by
  obtain ⟨hd', _, htag, hattrs, hdn⟩ := ckStartLike_parts hck
  obtain ⟨hattrs1, _⟩ := attrsOK_parts hattrs
  obtain ⟨lv1, lv2, lv3⟩ := inv.level
  have t0inv : TagInv st1.bindings { bindings := st1.bindings, declared := [], counter := st1.counter } :=
    ⟨⟨[], rfl, rfl⟩, by simp, lv1, lv2⟩
  have hd'' : d' = ck.dTruthy := by
    rw [hd', inv.pendD, hp1]; rfl
  have hj : tag.ns = [] → JProp st1.bindings := fun hn => lv3 (by rw [← hd'']; exact hdn hn)
  have key := tag_second pref hpref st1.bindings ⟨st1.bindings, [], st1.counter⟩ t0inv rfl tag attrs htag hattrs1 hj
    ⟨st2.bindings, [], st2.counter⟩ hk rfl _ rfl
  obtain ⟨k1, k2, k3, k4⟩ := key
  intro r1 hr1 r2 hr2
  rw [flatStart_eq, hp1] at hr1
  simp only [takePending] at hr1
  subst hr1
  rw [flatStart_eq] at hr2
  simp only at hr2
  rw [k3] at hr2
  simp only at hr2
  rw [k4] at hr2
  simp only at hr2
  subst hr2
  simp only
  refine ⟨trivial, ?_, k2, k1, takePending_counter _ _⟩
  rw [k1]
  simp only [normAttrs, List.map_append]
  congr 1
  exact normAttrs_decls _

end Genshi.Xml
