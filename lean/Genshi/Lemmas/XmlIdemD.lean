/-
  C02 — idempotence for builder streams, part 3: the run.  First pass on a
  stream without namespace events, second pass on what `reparseX` reads from the
  first pass's output; the two filter states see the same bindings (`scopeOf`),
  their counters and `auto` flags differ.
-/
import Genshi.Lemmas.XmlIdemC
namespace Genshi.Xml
open Genshi Genshi.Xml.Reader

/-- `IRel` for builder streams: the two passes have the same scope (`scopeOf`) instead of the same bindings — the
    second holds the declarations the first made up as explicit ones, and its counter lags — and neither has
    requests pending between two events. -/
structure BRel (st1 st2 : FSt) (pst : PSt) (ck : CkSt) : Prop where
  bind : scopeOf st2.bindings = scopeOf st1.bindings
  elems : st2.elems = st1.elems
  pend1 : st1.pending = []
  pend2 : st2.pending = []
  scope : pst.scope = scopeOf st1.bindings
  frames : PFrames st1.bindings st1.elems pst.open_ ck.stack

theorem toNoneD_fst (D : List (Str × Str)) : (toNoneD D).map Prod.fst = D.map Prod.fst := by
  simp [toNoneD, List.map_map, Function.comp_def]

theorem scopeOf_drop (bs1 bs2 : List Binding) (n : Nat) (h : scopeOf bs2 = scopeOf bs1) :
    scopeOf (bs2.drop n) = scopeOf (bs1.drop n) := by
  simp only [scopeOf, List.map_drop] at h ⊢
  rw [h]

/-- The lockstep of `idem_run` for a stream without namespace events. At a start tag the first pass makes up
    declarations, `reparseX` reports them as START_NS events (`xmlns=""` as `None`: `toNoneD`), and the second pass,
    given these requests, writes the same tag up to `None` / `""` and ends in the same scope (`flatStart_second`). -/
theorem builder_run (pref : List (Str × Str)) (hpref : prefOK pref = true) :
    ∀ (xs : List XEv) (st1 st2 : FSt) (pst : PSt) (ck : CkSt),
      (∃ rst, Inv st1 rst ck) → docGo ck xs = true → xs.all noNs = true → BRel st1 st2 pst ck →
      ∃ xs2, reparseX pst ((flatRun pref st1 xs).map normF) = some xs2 ∧
        (flatRun pref st2 xs2).map normF = (flatRun pref st1 xs).map normF := by
  intro xs
  induction xs with
  | nil =>
    intro st1 st2 pst ck _ _ _ _
    exact ⟨[], by simp [flatRun, reparseX], by simp [flatRun]⟩
  | cons x xs ih =>
    intro st1 st2 pst ck hinv hdoc hno rel
    obtain ⟨rst, inv⟩ := hinv
    simp only [List.all_cons, Bool.and_eq_true] at hno
    obtain ⟨hcond, hno'⟩ := hno
    obtain ⟨ck', hck, hdoc⟩ := docGo_cons hdoc
    obtain ⟨rst', inv', _⟩ := step_sim pref hpref st1 rst ck inv x ck' hck
    cases ckStep_inv hck with
    | @empty tag attrs d' hd' =>
      obtain ⟨rt, ti, _, plain, hsplit⟩ := flatStart_spec pref hpref st1 rst ck inv tag attrs d' hd'
      obtain ⟨s1, s2, s3, s4, s5⟩ := flatStart_second pref hpref st1 rst ck inv rel.pend1 st2 rel.bind
        tag attrs d' hd' _ rfl _ rfl
      rw [flatStep_empty] at inv'
      rw [flatRun_cons, flatStep_empty]
      rw [inv.scope, ← rel.scope] at rt
      have hnd := ti.nodup
      rw [← toNoneD_fst] at hnd
      generalize hr1 : flatStart pref st1 tag attrs = r1 at *
      generalize hr2 : flatStart pref { st2 with pending := toNoneD r1.2.2.declared } tag attrs = r2 at *
      have rel' : BRel { bindings := st1.bindings, pending := [], elems := st1.elems, counter := r1.2.2.counter }
          { bindings := st2.bindings, pending := [], elems := st2.elems, counter := r2.2.2.counter } pst
          { ck with pendD := none, rootSeen := true } :=
        ⟨rel.bind, rel.elems, rfl, rfl, rel.scope, rel.frames⟩
      obtain ⟨xs2, q1, q2⟩ := ih _ _ pst _ ⟨rst', inv'⟩ hdoc hno' rel'
      refine ⟨nsEvents (r1.2.2.declared.map (fun d => (d.1, normUri d.2))) ++
        [.empty tag attrs] ++ endNsEvents ((r1.2.2.declared.map (fun d => (d.1, normUri d.2))).map Prod.fst) ++ xs2, ?_, ?_⟩
      · simp only [List.map_cons, normF, List.cons_append, List.nil_append]
        rw [reparseX]
        simp only [rt, hsplit, q1, Option.map_some]
      · rw [nsEvents_toNoneD]
        simp only [List.append_assoc]
        rw [flatRun_nsEv pref (toNoneD r1.2.2.declared) st2 _ hnd (by rw [rel.pend2]; simp)]
        rw [rel.pend2, List.nil_append, List.cons_append, List.nil_append, flatRun_cons, flatStep_empty, hr2]
        simp only
        rw [flatRun_endNs pref _ _ _ rfl]
        simp only [List.map_append, List.map_cons, List.map_nil, normF, q2, s1, s2]
    | @plain e he hok =>
      rw [flatStep_plain pref st1 e he] at inv'
      have rel' : BRel st1 st2 pst (plainNext ck e) :=
        ⟨rel.bind, rel.elems, rel.pend1, rel.pend2, rel.scope, by rw [plainNext_stack]; exact rel.frames⟩
      obtain ⟨xs2, q1, q2⟩ := ih _ st2 pst _ ⟨rst', inv'⟩ hdoc hno' rel'
      obtain ⟨p1, p2, p3⟩ := plain_step pref st1 st2 pst e he xs xs2 q1
      exact ⟨.ev e :: xs2, p1, by rw [p2, p3, List.map_cons, List.map_cons, q2]⟩
    | @start tag attrs d' hd' =>
      obtain ⟨rt, ti, _, plain, hsplit⟩ := flatStart_spec pref hpref st1 rst ck inv tag attrs d' hd'
      obtain ⟨s1, s2, s3, s4, s5⟩ := flatStart_second pref hpref st1 rst ck inv rel.pend1 st2 rel.bind
        tag attrs d' hd' _ rfl _ rfl
      rw [flatStep_start] at inv'
      rw [flatRun_cons, flatStep_start]
      rw [inv.scope, ← rel.scope] at rt
      have hnd := ti.nodup
      rw [← toNoneD_fst] at hnd
      have fr := rel.frames.push ti (flatStart pref st1 tag attrs).1 tag ck.dTruthy
        (((flatStart pref st1 tag attrs).2.2.declared.map (fun d => (d.1, normUri d.2))).map Prod.fst)
      rw [← rel.scope] at fr
      generalize hr1 : flatStart pref st1 tag attrs = r1 at *
      generalize hr2 : flatStart pref { st2 with pending := toNoneD r1.2.2.declared } tag attrs = r2 at *
      have hlen2 : r2.2.2.declared.length = r1.2.2.declared.length := by
        rw [s4]; simp [toNoneD]
      have rel' : BRel
          { bindings := r1.2.2.bindings, pending := [], elems := (r1.1, r1.2.2.declared.length) :: st1.elems, counter := r1.2.2.counter }
          { bindings := r2.2.2.bindings, pending := [], elems := (r2.1, r2.2.2.declared.length) :: st2.elems, counter := r2.2.2.counter }
          ⟨(r1.1, tag, pst.scope, (r1.2.2.declared.map (fun d => (d.1, normUri d.2))).map Prod.fst) :: pst.open_,
            scopeOf r1.2.2.bindings⟩
          { ck with stack := (tag, ck.dTruthy) :: ck.stack, dTruthy := d', pendD := none, rootSeen := true } :=
        ⟨s3, by simp [rel.elems, s1, hlen2], rfl, rfl, rfl, fr⟩
      obtain ⟨xs2, q1, q2⟩ := ih _ _ _ _ ⟨rst', inv'⟩ hdoc hno' rel'
      refine ⟨nsEvents (r1.2.2.declared.map (fun d => (d.1, normUri d.2))) ++ [.ev (.start tag attrs)] ++ xs2, ?_, ?_⟩
      · simp only [List.map_cons, normF, List.cons_append, List.nil_append]
        rw [reparseX]
        simp only [rt, hsplit, q1, Option.map_some]
      · rw [nsEvents_toNoneD]
        simp only [List.append_assoc]
        rw [flatRun_nsEv pref (toNoneD r1.2.2.declared) st2 _ hnd (by rw [rel.pend2]; simp)]
        rw [rel.pend2, List.nil_append, List.cons_append, List.nil_append, flatRun_cons, flatStep_start, hr2]
        simp only [List.map_append, List.map_cons, List.map_nil, normF]
        rw [q2, s1, s2]
    | @end_ tag d stack hs =>
      obtain ⟨name, n, elems, ps, open_, e1, e2, fr', hre⟩ := end_step pref hs rel.elems rel.frames
      rw [e1] at inv'
      have rel' : BRel { st1 with bindings := st1.bindings.drop n, elems := elems }
          { st2 with bindings := st2.bindings.drop n, elems := elems }
          ⟨open_, scopeOf (st1.bindings.drop n)⟩ { ck with stack := stack, dTruthy := d } :=
        ⟨scopeOf_drop _ _ n rel.bind, rfl, rel.pend1, rel.pend2, rfl, fr'⟩
      obtain ⟨xs2, q1, q2⟩ := ih _ _ _ _ ⟨rst', inv'⟩ hdoc hno' rel'
      refine ⟨[.ev (.end_ tag)] ++ endNsEvents ps ++ xs2, ?_, ?_⟩
      · rw [flatRun_cons, e1]
        simp only [List.map_cons, normF, List.cons_append, List.nil_append]
        rw [hre, q1]; rfl
      · simp only [List.cons_append, List.nil_append]
        rw [flatRun_cons, e2]
        simp only
        rw [flatRun_endNs pref ps _ xs2 (by simpa using rel.pend2), flatRun_cons pref st1, e1]
        simp only [List.map_append, List.map_cons, List.map_nil, normF, q2]
    | startNs => cases hcond
    | endNs => cases hcond

end Genshi.Xml
