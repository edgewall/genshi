/-
  C02 — idempotence, part 4: from flattened events to the text.  The serializer
  does not distinguish `None` from `""` in attribute values, and what the
  tokenizer reports for the serializer's text, minus the white space outside the
  root element, is the flattened stream itself; hence
  `ser (parse (encode (ser s))) = ser s`.
-/
import Genshi.Lemmas.XmlIdemD
import Genshi.Lemmas.XmlMerge
namespace Genshi.Xml
open Genshi Genshi.Escape Genshi.Xml.Reader

theorem brel_init : BRel FSt.init FSt.init PSt.init CkSt.init :=
  ⟨rfl, rfl, rfl, rfl, inv_init.scope, PFrames.nil _⟩

/-- **idempotence at the level of events, builder streams**: for every stream
    without namespace events inside `docOK`, reading the flattened output back
    (`reparseX`) and flattening again gives the same flattened output (an
    `xmlns=""` the first pass wrote comes back as `None`, which is written `""`
    again: equality up to `normF`) -/
theorem idem_flatten_builder (pref : List (Str × Str)) (hpref : prefOK pref = true) (xs : List XEv)
    (h1 : docOK xs = true) (h2 : builderShaped xs = true) :
    ∃ xs2, reparseX PSt.init ((flatten pref xs).map normF) = some xs2 ∧
      (flatten pref xs2).map normF = (flatten pref xs).map normF := by
  rcases docOK_cases h1 with h1 | ⟨v, e, s, rest, rfl, h1⟩
  · exact builder_run pref hpref xs _ _ _ _ ⟨_, inv_init⟩ h1 h2 brel_init
  · obtain ⟨xs2, r1, r2⟩ := builder_run pref hpref rest _ _ _ _ ⟨_, inv_init⟩ h1
      (Bool.and_eq_true_iff.mp (List.all_cons.symm.trans h2)).2 brel_init
    refine ⟨.ev (.xmlDecl v e s) :: xs2, ?_, ?_⟩
    · simp only [flatten_decl, List.map_cons, normF, reparseX]
      exact congrArg (Option.map (XEv.ev (.xmlDecl v e s) :: ·)) r1
    · rw [flatten_decl, flatten_decl, List.map_cons, List.map_cons]; exact congrArg _ r2

theorem emitAttrs_norm (a : List (Str × Str)) : emitAttrs (normAttrs a) = emitAttrs a := by
  induction a with
  | nil => rfl
  | cons x rest ih =>
    obtain ⟨n, v⟩ := x
    simp only [normAttrs, List.map_cons, emitAttrs] at ih ⊢
    rw [ih]
    by_cases hv : v = noneUri
    · subst hv
      have h0 : normUri noneUri = [] := by decide
      have h1 : ([] : Str) ≠ noneUri := by decide
      rw [h0, if_neg h1, if_pos rfl]
      simp [escapePy_nil]
    · rw [normUri_of_ne hv]

theorem serStep_normF (st : SerSt) (e : FEv) : serStep st (normF e) = serStep st e := by
  cases e with
  | start n a => simp only [normF, serStep, emitStart, emitAttrs_norm]
  | empty n a => simp only [normF, serStep, emitStart, emitAttrs_norm]
  | end_ n => rfl
  | other ev => rfl

theorem serRun_normF (fs : List FEv) : ∀ st : SerSt, serRun st (fs.map normF) = serRun st fs := by
  induction fs with
  | nil => intro st; rfl
  | cons e es ih =>
    intro st
    simp only [List.map_cons, serRun, serStep_normF]
    cases serStep st e with
    | none => rfl
    | some r => simp only [ih]

/-- depth discipline of a flattened document: character data only inside
    elements, a DOCTYPE only outside, no XML declaration -/
def topOK : Nat → List FEv → Bool
  | _, [] => true
  | d, .start _ _ :: es => topOK (d + 1) es
  | d, .empty _ _ :: es => topOK d es
  | d, .end_ _ :: es => d ≠ 0 && topOK (d - 1) es
  | d, .other (.text _ _) :: es => d ≠ 0 && topOK d es
  | d, .other (.doctype _ _ _) :: es => d = 0 && topOK d es
  | _, .other (.xmlDecl _ _ _) :: _ => false
  | d, .other _ :: es => topOK d es

theorem dropTopWs_tokOf : ∀ (fs : List FEv) (d : Nat), topOK d fs = true →
    dropTopWs d (tokOf fs) = fs.map normF := by
  intro fs
  induction fs with
  | nil => intro d _; simp [tokOf, dropTopWs]
  | cons e es ih =>
    intro d h
    cases e with
    | start n a =>
      simp only [topOK] at h
      simp only [tokOf, normF, dropTopWs, List.map_cons, ih _ h]
    | empty n a =>
      simp only [topOK] at h
      cases d <;> simp only [tokOf, normF, dropTopWs, List.map_cons, ih _ h]
    | end_ n =>
      simp only [topOK, Bool.and_eq_true] at h
      simp only [tokOf, normF, dropTopWs, List.map_cons, ih _ h.2]
    | other ev =>
      cases ev with
      | text s f =>
        simp only [topOK, Bool.and_eq_true, decide_eq_true_eq] at h
        cases d with
        | zero => exact absurd rfl h.1
        | succ d' => simp only [tokOf, normF, dropTopWs, List.map_cons, ih _ h.2]
      | doctype n p s =>
        simp only [topOK, Bool.and_eq_true, decide_eq_true_eq] at h
        obtain ⟨h0, h1⟩ := h
        subst h0
        have hw : (['\n'] : Str).all isSpace = true := by decide
        simp only [tokOf, wsTok, normF, dropTopWs, List.map_cons, hw, if_true, ih _ h1]
      | xmlDecl v e s => simp [topOK] at h
      | _ =>
        simp only [topOK] at h
        cases d <;> simp only [tokOf, normF, dropTopWs, List.map_cons, ih _ h]

theorem topOK_plain {ck : CkSt} {e : Event} (he : isPlain e = true) (h : plainOK ck e = true) (es : List FEv) :
    topOK ck.stack.length (.other e :: es) = topOK ck.stack.length es := by
  cases e <;> first | cases he | rfl | skip
  all_goals
    cases hs : ck.stack <;> simp_all [plainOK, topOK]

theorem flatRun_topOK (pref : List (Str × Str)) : ∀ (xs : List XEv) (st : FSt) (ck : CkSt),
    docGo ck xs = true → topOK ck.stack.length (flatRun pref st xs) = true := by
  intro xs
  induction xs with
  | nil => intro st ck _; rfl
  | cons x xs ih =>
    intro st ck hdoc
    obtain ⟨ck', hck, hdoc⟩ := docGo_cons hdoc
    have ih' := ih (flatStep pref st x).1 ck' hdoc
    rw [flatRun_cons]
    cases ckStep_inv hck with
    | start h => exact ih'
    | empty h => exact ih'
    | end_ h =>
      obtain ⟨name, hn⟩ := flatStep_end_out pref st _
      rw [hn, h]
      simpa [topOK] using ih'
    | startNs h => exact ih'
    | endNs => exact ih'
    | plain he h =>
      rw [flatStep_plain pref st _ he] at ih' ⊢
      rw [plainNext_stack] at ih'
      rw [List.singleton_append, topOK_plain he h]
      exact ih'

theorem dropTopWs_flatten (pref : List (Str × Str)) (xs : List XEv) (h : docOK xs = true) :
    dropTopWs 0 (tokOf (flatten pref xs)) = (flatten pref xs).map normF := by
  rcases docOK_cases h with h | ⟨v, e, s, rest, rfl, h⟩
  · exact dropTopWs_tokOf _ 0 (flatRun_topOK pref xs FSt.init CkSt.init h)
  · exact congrArg (FEv.other (.xmlDecl v e s) :: ·) (dropTopWs_tokOf _ 0 (flatRun_topOK pref rest FSt.init CkSt.init h))

theorem idem_text_of_events (pref : List (Str × Str)) (rep : Char → Bool) (hr : AsciiRep rep)
    (xs : List XEv) (hd : docOK xs = true)
    (hb : docTextOK (flatten pref xs) = true) (hm : repMarkup rep (flatten pref xs) = true)
    (hev : ∃ xs2, reparseX PSt.init ((flatten pref xs).map normF) = some xs2 ∧
      (flatten pref xs2).map normF = (flatten pref xs).map normF) :
    ∃ out, serRun SerSt.init (flatten pref xs) = some out ∧
      ∃ xs2, parseText (encodeText rep out) = some xs2 ∧
        serRun SerSt.init (flatten pref xs2) = some out := by
  obtain ⟨out, h1, h2⟩ := tokenize_ser rep hr _ hb hm
  obtain ⟨xs2, r1, r2⟩ := hev
  refine ⟨out, h1, xs2, ?_, ?_⟩
  · unfold parseText
    rw [h2]
    simp only [Option.bind_some]
    rw [dropTopWs_flatten pref xs hd]
    exact r1
  · rw [← serRun_normF, r2, serRun_normF]
    exact h1

theorem noNs_mergeX : ∀ (xs : List XEv) (acc : Option Str), xs.all noNs = true →
    (mergeXGo acc xs).all noNs = true :=
  all_mergeX noNs fun _ => rfl

/-- **ser_idempotent for builder streams, text level** (adjacent and empty
    TEXT events included) -/
theorem idem_text_builder (pref : List (Str × Str)) (hpref : prefOK pref = true) (rep : Char → Bool)
    (hr : AsciiRep rep) (xs : List XEv) (hd : docOK xs = true) (hb : builderShaped xs = true)
    (ht : inputTextOKm rep pref xs = true) :
    ∃ out, serRun SerSt.init (flatten pref xs) = some out ∧
      ∃ xs2, parseText (encodeText rep out) = some xs2 ∧
        serRun SerSt.init (flatten pref xs2) = some out := by
  have ht' := inputTextOK_mergeX rep pref xs ht
  have hd' := docOK_mergeX xs hd
  have hb' : builderShaped (mergeX xs) = true := noNs_mergeX xs none hb
  obtain ⟨t1, t2⟩ := textOK_of_input rep hr pref _ ht'
  obtain ⟨out, h1, h2⟩ := idem_text_of_events pref rep hr (mergeX xs) hd' t1 t2
    (idem_flatten_builder pref hpref _ hd' hb')
  rw [flatten_mergeX, serRun_mergeF'] at h1
  exact ⟨out, h1, h2⟩

/-- **ser_idempotent for parser-shaped streams, text level** -/
theorem idem_text_parsed (pref : List (Str × Str)) (hpref : prefOK pref = true) (rep : Char → Bool)
    (hr : AsciiRep rep) (xs : List XEv) (hd : docOK xs = true) (hi : idemOK pref xs = true)
    (ht : inputTextOK rep pref xs = true) :
    ∃ out, serRun SerSt.init (flatten pref xs) = some out ∧
      ∃ xs2, parseText (encodeText rep out) = some xs2 ∧
        serRun SerSt.init (flatten pref xs2) = some out := by
  obtain ⟨t1, t2⟩ := textOK_of_input rep hr pref _ ht
  obtain ⟨xs2, r1, r2⟩ := idem_flatten pref hpref xs hd hi
  exact idem_text_of_events pref rep hr xs hd t1 t2 ⟨xs2, r1, by rw [r2]⟩

end Genshi.Xml
