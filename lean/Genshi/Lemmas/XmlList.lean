/-
  `List.span` on a run of characters that all pass the test, up to the first
  one that does not (names up to a stop character, a prefix up to its colon,
  character data up to `<`).
-/
import Genshi.Model.Core
import Genshi.Lemmas.ListBasics
namespace Genshi.Xml
open Genshi

theorem span_until {p : Char → Bool} (l : Str) (x : Char) (r : Str)
    (hl : ∀ c ∈ l, p c = true) (hx : p x = false) : (l ++ x :: r).span p = (l, x :: r) :=
  span_append_stop hl fun _ h => by cases h; exact hx

theorem span_all {p : Char → Bool} (l : Str) (hl : ∀ c ∈ l, p c = true) : l.span p = (l, []) := by
  simpa using span_append_stop (b := []) hl (fun _ h => by cases h)

theorem span_no_colon (l : Str) (h : ':' ∉ l) : l.span (· ≠ ':') = (l, []) :=
  span_all l fun c hc => by simp; rintro rfl; exact h hc

theorem span_colon (p l : Str) (h : ':' ∉ p) : (p ++ ':' :: l).span (· ≠ ':') = (p, ':' :: l) :=
  span_until p ':' l (fun c hc => by simp; rintro rfl; exact h hc) (by simp)

end Genshi.Xml
