/-
  C02 — adjacent character data: merging TEXT events changes neither the text
  the serializer writes nor (up to the same merging) what the stream denotes.
-/
import Genshi.Lemmas.XmlTxtB
import Genshi.Lemmas.XmlTokD
import Genshi.Lemmas.XmlFlatD
import Genshi.Lemmas.XmlEmptyTag
namespace Genshi.Xml
open Genshi Genshi.Escape Genshi.Xml.Reader

def isTextF : FEv → Bool
  | .other (.text _ false) => true
  | _ => false

theorem mergeFGo_text (acc : Option Str) (s : Str) (es : List FEv) :
    mergeFGo acc (.other (.text s false) :: es) = mergeFGo (some (acc.getD [] ++ s)) es := by
  cases acc <;> simp [mergeFGo]

theorem mergeFGo_other (acc : Option Str) (e : FEv) (es : List FEv) (h : isTextF e = false) :
    mergeFGo acc (e :: es) = flushF (acc.getD []) ++ e :: mergeFGo none es := by
  cases acc <;> rcases e with _ | _ | _ | ev <;> try rfl
  all_goals cases ev <;> try rfl
  all_goals (rename_i f; cases f <;> first | rfl | cases h)

theorem mergeFGo_nil (acc : Option Str) : mergeFGo acc [] = flushF (acc.getD []) := by
  cases acc <;> rfl

theorem isTextF_inv {e : FEv} (h : isTextF e = true) : ∃ s, e = .other (.text s false) := by
  rcases e with _ | _ | _ | ev <;> try cases h
  cases ev with
  | text s f => cases f <;> first | exact ⟨s, rfl⟩ | cases h
  | _ => cases h

/-- events that end a run of character data: all but unescaped TEXT and the namespace events -/
def otherX : XEv → Bool
  | .ev (.text _ false) => false
  | .ev (.startNs _ _) => false
  | .ev (.endNs _) => false
  | _ => true

theorem mergeXGo_text (acc : Option Str) (s : Str) (es : List XEv) :
    mergeXGo acc (.ev (.text s false) :: es) = mergeXGo (some (acc.getD [] ++ s)) es := by
  cases acc <;> simp [mergeXGo]

theorem mergeXGo_startNs (acc : Option Str) (p u : Str) (es : List XEv) :
    mergeXGo acc (.ev (.startNs p u) :: es) = .ev (.startNs p u) :: mergeXGo acc es := by
  cases acc <;> simp [mergeXGo]

theorem mergeXGo_endNs (acc : Option Str) (p : Str) (es : List XEv) :
    mergeXGo acc (.ev (.endNs p) :: es) = .ev (.endNs p) :: mergeXGo acc es := by
  cases acc <;> simp [mergeXGo]

theorem mergeXGo_nil (acc : Option Str) : mergeXGo acc [] = flushX (acc.getD []) := by
  cases acc <;> rfl

theorem mergeXGo_other (acc : Option Str) (e : XEv) (es : List XEv) (h : otherX e = true) :
    mergeXGo acc (e :: es) = flushX (acc.getD []) ++ e :: mergeXGo none es := by
  cases acc <;> rcases e with ev | _ <;> try rfl
  all_goals cases ev <;> first | rfl | cases h | skip
  all_goals (rename_i f; cases f <;> first | rfl | cases h)

/-- induction along `mergeXGo`: character data, a namespace event, any other event -/
theorem mergeX_ind {P : Option Str → List XEv → Prop} (nil : ∀ acc, P acc [])
    (text : ∀ acc s xs, P (some (acc.getD [] ++ s)) xs → P acc (.ev (.text s false) :: xs))
    (startNs : ∀ acc p u xs, P acc xs → P acc (.ev (.startNs p u) :: xs))
    (endNs : ∀ acc p xs, P acc xs → P acc (.ev (.endNs p) :: xs))
    (other : ∀ acc x xs, otherX x = true → P none xs → P acc (x :: xs)) : ∀ xs acc, P acc xs := by
  intro xs
  induction xs with
  | nil => exact nil
  | cons x xs ih =>
    intro acc
    rcases x with e | ⟨t, a⟩
    · cases e with
      | text s f => cases f with
        | false => exact text acc s xs (ih _)
        | true => exact other acc _ xs rfl (ih none)
      | startNs p u => exact startNs acc p u xs (ih acc)
      | endNs p => exact endNs acc p xs (ih acc)
      | _ => exact other acc _ xs rfl (ih none)
    · exact other acc _ xs rfl (ih none)

theorem flatRun_flushX (pref : List (Str × Str)) (st : FSt) (t : Str) (rest : List XEv) :
    flatRun pref st (flushX t ++ rest) = flushF t ++ flatRun pref st rest := by
  unfold flushX flushF
  split
  · rfl
  · rw [List.singleton_append, flatRun_cons, flatStep_plain pref _ _ rfl]

theorem flatStep_other_out (pref : List (Str × Str)) (st : FSt) (e : XEv) (h : otherX e = true) :
    ∃ f, (flatStep pref st e).2 = [f] ∧ isTextF f = false := by
  cases e with
  | empty t a => exact ⟨_, rfl, rfl⟩
  | ev ev =>
    cases ev with
    | end_ t => obtain ⟨name, hn⟩ := flatStep_end_out pref st t; exact ⟨_, hn, rfl⟩
    | text s f => cases f with
      | false => cases h
      | true => exact ⟨_, rfl, rfl⟩
    | startNs p u => cases h
    | endNs p => cases h
    | _ => exact ⟨_, rfl, rfl⟩

theorem flatRun_mergeX (pref : List (Str × Str)) :
    ∀ (xs : List XEv) (acc : Option Str) (st : FSt),
      flatRun pref st (mergeXGo acc xs) = mergeFGo acc (flatRun pref st xs) := by
  refine mergeX_ind (fun acc st => ?_) (fun acc s xs ih st => ?_) (fun acc p u xs ih st => ?_)
    (fun acc p xs ih st => ?_) (fun acc x xs hx ih st => ?_)
  · rw [mergeXGo_nil]
    simpa [flatRun, mergeFGo_nil] using flatRun_flushX pref st (acc.getD []) []
  · rw [mergeXGo_text, flatRun_cons, flatStep_plain pref _ _ rfl, ih]
    simp only [List.cons_append, List.nil_append]
    rw [mergeFGo_text]
  · rw [mergeXGo_startNs, flatRun_cons, flatRun_cons]
    exact ih _
  · rw [mergeXGo_endNs, flatRun_cons, flatRun_cons]
    exact ih _
  · obtain ⟨f, hf, hnt⟩ := flatStep_other_out pref st x hx
    rw [mergeXGo_other acc x xs hx, flatRun_flushX, flatRun_cons, flatRun_cons, ih, hf]
    simp only [List.cons_append, List.nil_append]
    rw [mergeFGo_other acc f _ hnt]

theorem flatten_mergeX (pref : List (Str × Str)) (xs : List XEv) :
    flatten pref (mergeX xs) = mergeF (flatten pref xs) := flatRun_mergeX pref xs none FSt.init

def isTextR : REv → Bool
  | .text _ => true
  | _ => false

theorem mergeRGo_text (acc : Option Str) (s : Str) (es : List REv) :
    mergeRGo acc (.text s :: es) = mergeRGo (some (acc.getD [] ++ s)) es := by
  cases acc <;> simp [mergeRGo]

theorem mergeRGo_other (acc : Option Str) (e : REv) (es : List REv) (h : isTextR e = false) :
    mergeRGo acc (e :: es) = flushR (acc.getD []) ++ e :: mergeRGo none es := by
  cases acc <;> cases e <;> first | rfl | cases h

theorem mergeRGo_nil (acc : Option Str) : mergeRGo acc [] = flushR (acc.getD []) := by cases acc <;> rfl

theorem canonX_flushX (t : Str) (rest : List XEv) : canonX (flushX t ++ rest) = flushR t ++ canonX rest := by
  unfold flushX flushR
  split <;> rfl

theorem canonXEv_other {x : XEv} (hx : otherX x = true) (hs : noSafeText x = true) (acc : Option Str) (rs : List REv) :
    mergeRGo acc (canonXEv x ++ rs) = flushR (acc.getD []) ++ canonXEv x ++ mergeRGo none rs := by
  rcases x with e | ⟨t, a⟩
  · cases e with
    | text s f => cases f with
      | false => cases hx
      | true => cases hs
    | startNs p u => cases hx
    | endNs p => cases hx
    | _ => simp only [canonXEv, canonEv, List.cons_append, List.nil_append]; rw [mergeRGo_other acc _ _ rfl]; simp
  · simp only [canonXEv, List.cons_append, List.nil_append]
    rw [mergeRGo_other acc _ _ rfl, mergeRGo_other none _ _ rfl]; simp [flushR]

theorem canonX_mergeX : ∀ (xs : List XEv) (acc : Option Str), xs.all noSafeText = true →
    canonX (mergeXGo acc xs) = mergeRGo acc (canonX xs) := by
  refine mergeX_ind (fun acc _ => ?_) (fun acc s xs ih h => ?_) (fun acc p u xs ih h => ?_)
    (fun acc p xs ih h => ?_) (fun acc x xs hx ih h => ?_)
  · rw [mergeXGo_nil]; simpa [canonX, mergeRGo_nil] using canonX_flushX (acc.getD []) []
  all_goals simp only [List.all_cons, Bool.and_eq_true] at h
  · rw [mergeXGo_text, ih h.2, canonX_cons]
    simp only [canonXEv, canonEv, List.cons_append, List.nil_append]
    rw [mergeRGo_text]
  · rw [mergeXGo_startNs, canonX_cons, canonX_cons, ih h.2]; rfl
  · rw [mergeXGo_endNs, canonX_cons, canonX_cons, ih h.2]; rfl
  · rw [mergeXGo_other acc x xs hx, canonX_flushX, canonX_cons, canonX_cons, ih h.2, canonXEv_other hx h.1,
      List.append_assoc]

theorem docGo_flushX (ck : CkSt) (t : Str) (rest : List XEv) (h : t.isEmpty = false → ck.stack.isEmpty = false) :
    docGo ck (flushX t ++ rest) = docGo ck rest := by
  unfold flushX
  split
  · rfl
  · rename_i he
    rw [List.singleton_append, docGo, ckStep_plain ck (e := .text t false) rfl]
    simp only [plainOK, plainNext, h (Bool.eq_false_iff.mpr he), Bool.not_false, if_true]

theorem docGo_mergeX : ∀ (xs : List XEv) (acc : Option Str) (ck : CkSt),
    ((acc.getD []).isEmpty = false → ck.stack.isEmpty = false) → docGo ck xs = true →
    docGo ck (mergeXGo acc xs) = true := by
  refine mergeX_ind (fun acc ck hacc h => ?_) (fun acc s xs ih ck hacc h => ?_) (fun acc p u xs ih ck hacc h => ?_)
    (fun acc p xs ih ck hacc h => ?_) (fun acc x xs hx ih ck hacc h => ?_)
  · rw [mergeXGo_nil]
    have := docGo_flushX ck (acc.getD []) [] hacc
    rw [List.append_nil] at this
    rw [this]; exact h
  all_goals obtain ⟨ck', hck, h'⟩ := docGo_cons h
  · rw [mergeXGo_text]
    cases ckStep_inv hck with
    | plain _ hok => exact ih _ (fun _ => by simpa [plainOK] using hok) h'
  · rw [mergeXGo_startNs]
    simp only [docGo, hck]
    cases ckStep_inv hck with
    | startNs _ => exact ih _ hacc h'
    | plain he _ => cases he
  · rw [mergeXGo_endNs]
    simp only [docGo, hck]
    cases ckStep_inv hck with
    | endNs => exact ih _ hacc h'
    | plain he _ => cases he
  · rw [mergeXGo_other acc x xs hx, docGo_flushX ck _ _ hacc]
    simp only [docGo, hck]
    exact ih ck' (fun e => by cases e) h'

/-- `docGo` refuses a declaration, so what it accepts is a document without one -/
theorem docOK_of_docGo {xs : List XEv} (h : docGo CkSt.init xs = true) : docOK xs = true := by
  unfold docOK
  split
  · cases h
  · exact h

theorem docOK_mergeX (xs : List XEv) (h : docOK xs = true) : docOK (mergeX xs) = true := by
  unfold docOK at h
  split at h
  · exact docGo_mergeX _ none CkSt.init (fun e => by cases e) h
  · exact docOK_of_docGo (docGo_mergeX xs none CkSt.init (fun e => by cases e) h)

theorem skeleton_flushX (t : Str) (rest : List XEv) : skeleton (flushX t ++ rest) = flushF t ++ skeleton rest := by
  unfold flushX flushF
  split <;> rfl

theorem skeleton_cons_other (x : XEv) (h : otherX x = true) :
    ∃ f, (∀ xs, skeleton (x :: xs) = f :: skeleton xs) ∧ isTextF f = false := by
  cases x with
  | empty t a => exact ⟨_, fun _ => rfl, rfl⟩
  | ev ev =>
    cases ev with
    | text s f => cases f with
      | false => cases h
      | true => exact ⟨_, fun _ => rfl, rfl⟩
    | startNs p u => cases h
    | endNs p => cases h
    | _ => exact ⟨_, fun _ => rfl, rfl⟩

theorem skeleton_mergeX : ∀ (xs : List XEv) (acc : Option Str),
    skeleton (mergeXGo acc xs) = mergeFGo acc (skeleton xs) := by
  refine mergeX_ind (fun acc => ?_) (fun acc s xs ih => ?_) (fun acc p u xs ih => ?_)
    (fun acc p xs ih => ?_) (fun acc x xs hx ih => ?_)
  · rw [mergeXGo_nil]; simpa [skeleton, mergeFGo_nil] using skeleton_flushX (acc.getD []) []
  · rw [mergeXGo_text, ih]
    simp only [skeleton]
    rw [mergeFGo_text]
  · rw [mergeXGo_startNs]; exact ih
  · rw [mergeXGo_endNs]; exact ih
  · obtain ⟨f, hf, hnt⟩ := skeleton_cons_other x hx
    rw [mergeXGo_other acc x xs hx, skeleton_flushX, hf, ih, hf, mergeFGo_other acc f _ hnt]

theorem all_mergeX (P : XEv → Bool) (hP : ∀ t, P (.ev (.text t false)) = true) :
    ∀ (xs : List XEv) (acc : Option Str), xs.all P = true → (mergeXGo acc xs).all P = true := by
  have hacc : ∀ t, (flushX t).all P = true := fun t => by
    unfold flushX; split <;> simp [hP]
  refine mergeX_ind (fun acc _ => ?_) (fun acc s xs ih h => ?_) (fun acc p u xs ih h => ?_)
    (fun acc p xs ih h => ?_) (fun acc x xs hx ih h => ?_)
  · rw [mergeXGo_nil]; exact hacc _
  all_goals simp only [List.all_cons, Bool.and_eq_true] at h
  · rw [mergeXGo_text]; exact ih h.2
  · rw [mergeXGo_startNs]; simp only [List.all_cons, Bool.and_eq_true]; exact ⟨h.1, ih h.2⟩
  · rw [mergeXGo_endNs]; simp only [List.all_cons, Bool.and_eq_true]; exact ⟨h.1, ih h.2⟩
  · rw [mergeXGo_other acc x xs hx]
    simp only [List.all_append, List.all_cons, Bool.and_eq_true]
    exact ⟨hacc _, h.1, ih h.2⟩

def textOut (st : SerSt) (t : Str) : Str := if st.inCdata then t else escapePy false t

theorem serStep_text (st : SerSt) (t : Str) : serStep st (.other (.text t false)) = some (st, textOut st t) := by
  simp only [serStep, textOut]
  by_cases h : st.inCdata = true <;> simp [h]

theorem textOut_append (st : SerSt) (a b : Str) : textOut st (a ++ b) = textOut st a ++ textOut st b := by
  unfold textOut
  by_cases h : st.inCdata = true <;> simp [h, escapePy_append]

theorem textOut_nil (st : SerSt) : textOut st [] = [] := by
  unfold textOut
  by_cases h : st.inCdata = true <;> simp [h, escapePy_nil]

theorem serRun_flushF (st : SerSt) (t : Str) (rest : List FEv) :
    serRun st (flushF t ++ rest) = (serRun st rest).map (textOut st t ++ ·) := by
  unfold flushF
  split
  · rename_i h
    cases List.isEmpty_iff.mp h
    simp [textOut_nil]
  · rw [List.singleton_append, serRun_cons, serStep_text]

theorem serRun_mergeF : ∀ (fs : List FEv) (st : SerSt) (acc : Option Str),
    serRun st (mergeFGo acc fs) = (serRun st fs).map (textOut st (acc.getD []) ++ ·) := by
  intro fs
  induction fs with
  | nil =>
    intro st acc
    rw [mergeFGo_nil]
    simpa [serRun] using serRun_flushF st (acc.getD []) []
  | cons e es ih =>
    intro st acc
    by_cases ht : isTextF e = true
    · obtain ⟨s, rfl⟩ := isTextF_inv ht
      rw [mergeFGo_text, ih, serRun_cons, serStep_text]
      simp only [Option.getD_some, textOut_append]
      cases serRun st es <;> simp
    · have hf : isTextF e = false := by simpa using ht
      rw [mergeFGo_other acc e es hf, serRun_flushF, serRun_cons, serRun_cons]
      cases serStep st e with
      | none => rfl
      | some r =>
        obtain ⟨st', o⟩ := r
        simp only
        rw [ih st' none]
        cases serRun st' es <;> simp [textOut_nil]

theorem serRun_mergeF' (fs : List FEv) (st : SerSt) : serRun st (mergeF fs) = serRun st fs := by
  unfold mergeF
  rw [serRun_mergeF, Option.getD_none, textOut_nil]
  cases serRun st fs <;> rfl

theorem repMarkupGo_flushF (rep : Char → Bool) (c : Bool) (t : Str) (rest : List FEv)
    (ha : c = true → t.all rep = true) (h : repMarkupGo rep c rest = true) :
    repMarkupGo rep c (flushF t ++ rest) = true := by
  unfold flushF
  split
  · exact h
  · simp only [List.singleton_append, repMarkupGo, Bool.or_false, Bool.and_eq_true, Bool.or_eq_true, Bool.not_eq_true']
    refine ⟨?_, h⟩
    cases c with
    | false => left; rfl
    | true => right; exact ha rfl

theorem repMarkupGo_mergeF (rep : Char → Bool) : ∀ (fs : List FEv) (c : Bool) (acc : Option Str),
    (c = true → (acc.getD []).all rep = true) → repMarkupGo rep c fs = true →
    repMarkupGo rep c (mergeFGo acc fs) = true := by
  intro fs
  induction fs with
  | nil => intro c acc ha h; rw [mergeFGo_nil]; simpa using repMarkupGo_flushF rep c _ [] ha h
  | cons e es ih =>
    intro c acc ha h
    rw [repMarkupGo_cons, Bool.and_eq_true] at h
    by_cases ht : isTextF e = true
    · obtain ⟨s, rfl⟩ := isTextF_inv ht
      rw [mergeFGo_text]
      apply ih c _ _ h.2
      intro hc
      have h1 := h.1
      simp only [repMarkupGo, Bool.or_false, Bool.and_true, Bool.or_eq_true, Bool.not_eq_true', hc] at h1
      simp only [Option.getD_some, List.all_append, Bool.and_eq_true]
      refine ⟨ha hc, ?_⟩
      rcases h1 with h1 | h1
      · cases h1
      · exact h1
    · have hf : isTextF e = false := by simpa using ht
      rw [mergeFGo_other acc e es hf]
      apply repMarkupGo_flushF rep c _ _ ha
      rw [repMarkupGo_cons, Bool.and_eq_true]
      exact ⟨h.1, ih _ none (fun _ => rfl) h.2⟩

/-- the round trip for a list of events after `EmptyTagFilter` (character data not adjacent) -/
theorem roundtrip_xev_out (pref : List (Str × Str)) (hpref : prefOK pref = true) (rep : Char → Bool)
    (hr : AsciiRep rep) (xs : List XEv) (hd : docOK xs = true)
    (hb : docTextOK (flatten pref xs) = true) (hm : repMarkup rep (flatten pref xs) = true) :
    ∃ out, serRun SerSt.init (flatten pref xs) = some out ∧
      Reader.read (encodeText rep out) = some (canonX xs) := by
  obtain ⟨o1, h1, h3⟩ := tokenize_ser rep hr _ hb hm
  refine ⟨o1, h1, ?_⟩
  unfold Reader.read
  rw [h3]
  simp only [Option.bind_some]
  rw [resolve_tokOf]
  exact resolve_flatten pref hpref xs hd

theorem roundtrip_xev (pref : List (Str × Str)) (hpref : prefOK pref = true) (rep : Char → Bool)
    (hr : AsciiRep rep) (xs : List XEv) (hd : docOK xs = true) (ht : inputTextOK rep pref xs = true) :
    ∃ out, serRun SerSt.init (flatten pref xs) = some out ∧
      Reader.read (encodeText rep out) = some (canonX xs) := by
  obtain ⟨hb, hm⟩ := textOK_of_input rep hr pref xs ht
  exact roundtrip_xev_out pref hpref rep hr xs hd hb hm

theorem inputTextOK_mergeX (rep : Char → Bool) (pref : List (Str × Str)) (xs : List XEv)
    (ht : inputTextOKm rep pref xs = true) : inputTextOK rep pref (mergeX xs) = true := by
  unfold inputTextOKm at ht
  simp only [Bool.and_eq_true] at ht
  obtain ⟨⟨⟨⟨hp, hev⟩, hns⟩, hdt⟩, hrm⟩ := ht
  unfold inputTextOK
  simp only [Bool.and_eq_true]
  refine ⟨⟨⟨hp, all_mergeX _ (fun _ => rfl) xs none hev⟩, ?_⟩, ?_⟩
  · unfold mergeX; rw [skeleton_mergeX]; exact hdt
  · unfold mergeX repMarkup; rw [skeleton_mergeX]
    exact repMarkupGo_mergeF rep _ false none (fun e => by cases e) hrm

/-- … and with adjacent (or empty) character data: the reader reports it merged -/
theorem roundtrip_xev_merged (pref : List (Str × Str)) (hpref : prefOK pref = true) (rep : Char → Bool)
    (hr : AsciiRep rep) (xs : List XEv) (hd : docOK xs = true) (ht : inputTextOKm rep pref xs = true) :
    ∃ out, serRun SerSt.init (flatten pref xs) = some out ∧
      Reader.read (encodeText rep out) = some (mergeR (canonX xs)) := by
  have ht' := inputTextOK_mergeX rep pref xs ht
  unfold inputTextOKm at ht
  simp only [Bool.and_eq_true] at ht
  obtain ⟨⟨⟨_, hns⟩, _⟩, _⟩ := ht
  obtain ⟨out, h1, h2⟩ := roundtrip_xev pref hpref rep hr (mergeX xs) (docOK_mergeX xs hd) ht'
  rw [flatten_mergeX, serRun_mergeF'] at h1
  refine ⟨out, h1, ?_⟩
  rw [h2]
  unfold mergeX mergeR
  rw [canonX_mergeX xs none hns]

end Genshi.Xml
