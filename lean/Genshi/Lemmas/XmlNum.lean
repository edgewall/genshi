/-
  Decimal numerals (`'%d' % n`): printing then reading gives the number back,
  numerals are non-empty strings of digits, `'ns%d'` is injective.
-/
import Genshi.Model.XmlCore
namespace Genshi.Xml

theorem digitChar_toNat (d : Nat) : (digitChar d).toNat = 48 + d % 10 := by
  unfold digitChar
  have h : (48 + d % 10).isValidChar := by
    left; omega
  simp [Char.ofNat, h, Char.ofNatAux, Char.toNat]
  omega

theorem isDigit_iff {c : Char} : isDigit c = true ↔ 48 ≤ c.toNat ∧ c.toNat ≤ 57 := by
  simp only [isDigit, Bool.and_eq_true, decide_eq_true_eq]
  exact and_congr UInt32.le_iff_toNat_le UInt32.le_iff_toNat_le

theorem isDigit_digitChar (d : Nat) : isDigit (digitChar d) = true :=
  isDigit_iff.mpr (by rw [digitChar_toNat]; omega)

theorem isDigit_ascii {c : Char} (h : isDigit c = true) : c.toNat < 128 := by
  have := isDigit_iff.mp h; omega

theorem parseDec_append_digit (s : List Char) (d : Nat) :
    parseDec (s ++ [digitChar d]) = parseDec s * 10 + d % 10 := by
  unfold parseDec
  rw [List.foldl_append]
  simp [digitChar_toNat]

theorem parseDec_decF : ∀ (f n : Nat), n ≤ f → parseDec (decF f n) = n := by
  intro f
  induction f with
  | zero =>
    intro n hn
    have : n = 0 := by omega
    subst this
    decide
  | succ f ih =>
    intro n hn
    unfold decF
    by_cases h : n < 10
    · simp only [h, if_true]
      have := parseDec_append_digit [] n
      simp only [List.nil_append] at this
      rw [this]
      simp [parseDec]; omega
    · simp only [h, if_false]
      rw [parseDec_append_digit, ih (n / 10) (by omega)]
      omega

theorem parseDec_dec (n : Nat) : parseDec (dec n) = n := parseDec_decF n n (Nat.le_refl n)

theorem decF_chars : ∀ (f n : Nat) (c : Char), c ∈ decF f n → ∃ k, c = digitChar k := by
  intro f
  induction f with
  | zero => intro n c h; simp only [decF, List.mem_singleton] at h; exact ⟨n, h⟩
  | succ f ih =>
    intro n c h
    unfold decF at h
    split at h
    · simp only [List.mem_singleton] at h; exact ⟨n, h⟩
    · rcases List.mem_append.mp h with h | h
      · exact ih _ c h
      · simp only [List.mem_singleton] at h; exact ⟨n, h⟩

theorem decF_all_digit (f n : Nat) : (decF f n).all isDigit = true :=
  List.all_eq_true.mpr fun c hc => by
    obtain ⟨k, rfl⟩ := decF_chars f n c hc
    exact isDigit_digitChar k

theorem dec_all_digit (n : Nat) : (dec n).all isDigit = true := decF_all_digit n n

theorem not_mem_digits {ds : List Char} (hd : ds.all isDigit = true) {x : Char} (hx : isDigit x = false) : x ∉ ds :=
  fun h => by rw [List.all_eq_true.mp hd x h] at hx; cases hx

theorem decF_ne_nil : ∀ (f n : Nat), decF f n ≠ [] := by
  intro f n
  cases f with
  | zero => simp [decF]
  | succ f => unfold decF; by_cases h : n < 10 <;> simp [h]

theorem dec_ne_nil (n : Nat) : dec n ≠ [] := decF_ne_nil n n

theorem dec_injective : Function.Injective dec := by
  intro a b h
  have := congrArg parseDec h
  rwa [parseDec_dec, parseDec_dec] at this

theorem nsName_injective : Function.Injective nsName := by
  intro a b h
  unfold nsName at h
  exact dec_injective (by simpa using h)

end Genshi.Xml
