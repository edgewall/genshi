/-
  The parser layer above expat (genshi/input.py): `_coalesce` merges adjacent
  TEXT events and changes nothing else; what `ET(element)` and the callback
  queue deliver.
-/
import Genshi.Model.XmlParser
import Genshi.Lemmas.Core
import Genshi.Lemmas.Parse
namespace Genshi.Xml
open Genshi

def isText : Event → Bool
  | .text _ _ => true
  | _ => false

def NoAdjText : Stream → Prop
  | .text _ _ :: .text s f :: es => False ∧ NoAdjText (.text s f :: es)
  | _ :: es => NoAdjText es
  | [] => True

/-- character data between markup, in order: one string per maximal TEXT run,
    and the non-TEXT events -/
def runsGo : Option Str → Stream → List (Sum Str Event)
  | none, [] => []
  | some t, [] => [.inl t]
  | none, .text s _ :: es => runsGo (some s) es
  | some t, .text s _ :: es => runsGo (some (t ++ s)) es
  | none, e :: es => .inr e :: runsGo none es
  | some t, e :: es => .inl t :: .inr e :: runsGo none es

def runs (s : Stream) : List (Sum Str Event) := runsGo none s

theorem isText_eq : isText = Parse.isText := by funext e; cases e <;> rfl

theorem coalesceGo_nil (buf : Option Str) : coalesceGo buf [] = Parse.flushBuf buf := by cases buf <;> rfl

theorem coalesceGo_text (buf : Option Str) (s : Str) (f : Bool) (es : Stream) :
    coalesceGo buf (.text s f :: es) = coalesceGo (some (buf.getD [] ++ s)) es := by cases buf <;> rfl

theorem coalesceGo_other (buf : Option Str) {e : Event} (he : isText e = false) (es : Stream) :
    coalesceGo buf (e :: es) = Parse.flushBuf buf ++ e :: coalesceGo none es := by
  cases buf <;> cases e <;> first | rfl | cases he

theorem coalesce_ind {P : Option Str → Stream → Prop} (nil : ∀ buf, P buf [])
    (text : ∀ buf s f es, P (some (buf.getD [] ++ s)) es → P buf (.text s f :: es))
    (other : ∀ buf e es, isText e = false → P none es → P buf (e :: es)) : ∀ s buf, P buf s := by
  intro s
  induction s with
  | nil => exact nil
  | cons e es ih =>
    intro buf
    cases e with
    | text s f => exact text buf s f es (ih _)
    | _ => exact other buf _ es rfl (ih none)

/-- `_coalesce` of this parser layer is the one both parsers share in the C07 model (`Model/Parse.lean`), with a
    normal end of input -/
theorem coalesceGo_eq : ∀ (s : Stream) (buf : Option Str), coalesceGo buf s = Parse.coalesceGo true buf s := by
  refine coalesce_ind (fun buf => ?_) (fun buf s f es ih => ?_) (fun buf e es he ih => ?_)
  · cases buf <;> rfl
  · rw [coalesceGo_text, ih]; rfl
  · rw [coalesceGo_other buf he, ih, Parse.coalesceGo_nontext true buf e es (isText_eq ▸ he)]

theorem coalesceGo_noAdj : ∀ (s : Stream) (buf : Option Str), NoAdjText (coalesceGo buf s) := by
  refine coalesce_ind (fun buf => ?_) (fun buf s f es ih => ?_) (fun buf e es he ih => ?_)
  · cases buf <;> simp [coalesceGo, NoAdjText]
  · rw [coalesceGo_text]; exact ih
  · rw [coalesceGo_other buf he]
    revert ih
    cases buf <;> cases e <;> first | exact id | cases he

theorem coalesce_noAdj (s : Stream) : NoAdjText (coalesce s) := coalesceGo_noAdj s none

theorem runsGo_other (buf : Option Str) {e : Event} (he : isText e = false) (es : Stream) :
    runsGo buf (e :: es) = (match buf with | none => [] | some t => [.inl t]) ++ .inr e :: runsGo none es := by
  cases buf <;> cases e <;> first | rfl | cases he

theorem runs_coalesceGo : ∀ (s : Stream) (buf : Option Str),
    runsGo none (coalesceGo buf s) = runsGo buf s := by
  refine coalesce_ind (fun buf => ?_) (fun buf s f es ih => ?_) (fun buf e es he ih => ?_)
  · cases buf <;> rfl
  · rw [coalesceGo_text, ih]; cases buf <;> rfl
  · rw [coalesceGo_other buf he, runsGo_other buf he, ← ih]
    cases buf with
    | none => exact runsGo_other none he _
    | some t => exact runsGo_other (some t) he _

theorem runs_coalesce (s : Stream) : runs (coalesce s) = runs s := runs_coalesceGo s none

theorem balance_coalesceGo (s : Stream) (buf : Option Str) (st : List QName) :
    balance st (coalesceGo buf s) = balance st s := by
  rw [coalesceGo_eq]; exact Parse.balance_coalesceGo true s buf st

theorem wellNested_coalesce (s : Stream) (h : WellNested s) : WellNested (coalesce s) :=
  (wellNested_congr (balance_coalesceGo s none [])).2 h

/-! ### seams: `_coalesce` joins TEXT with TEXT only

Whatever stands between two pieces of character data — an END_CDATA directly
followed by a START_CDATA in particular — stays where it is, and the text on
its two sides is never joined.  (A CDATA section is the only place where the
serializer writes text verbatim, so joining `a]]` and `>b` across the seam of
`<![CDATA[a]]]]><![CDATA[>b]]>` would make the output ill-formed.) -/

theorem coalesceGo_append_nontext (e : Event) (he : isText e = false) (b : Stream) :
    ∀ (a : Stream) (buf : Option Str),
      coalesceGo buf (a ++ e :: b) = coalesceGo buf a ++ e :: coalesce b := by
  refine coalesce_ind (fun buf => ?_) (fun buf s f es ih => ?_) (fun buf x es hx ih => ?_)
  · rw [List.nil_append, coalesceGo_other buf he, coalesceGo_nil]; rfl
  · rw [List.cons_append, coalesceGo_text, coalesceGo_text]; exact ih
  · rw [List.cons_append, coalesceGo_other buf hx, coalesceGo_other buf hx, ih, List.append_assoc]; rfl

theorem coalesce_append_nontext (a b : Stream) (e : Event) (he : isText e = false) :
    coalesce (a ++ e :: b) = coalesce a ++ e :: coalesce b :=
  coalesceGo_append_nontext e he b a none

theorem coalesce_cdata_seam (a b : Stream) :
    coalesce (a ++ .endCdata :: .startCdata :: b) = coalesce a ++ .endCdata :: .startCdata :: coalesce b := by
  rw [coalesce_append_nontext a _ .endCdata rfl]
  have := coalesce_append_nontext [] b .startCdata rfl
  simp only [List.nil_append] at this
  rw [this]; simp [coalesce, coalesceGo]

def nonText (s : Stream) : Stream := s.filter fun e => !isText e

theorem nonText_text (s : Str) (f : Bool) (es : Stream) : nonText (.text s f :: es) = nonText es := rfl

theorem nonText_coalesceGo (s : Stream) (buf : Option Str) : nonText (coalesceGo buf s) = nonText s := by
  rw [coalesceGo_eq, nonText, nonText, isText_eq]; exact Parse.filter_nontext_coalesceGo s buf

theorem nonText_coalesce (s : Stream) : nonText (coalesce s) = nonText s := nonText_coalesceGo s none

theorem balance_etText (o : Option Str) (st : List QName) (rest : Stream) :
    balance st (etText o ++ rest) = balance st rest := by
  rcases o with _ | _ | _
  · rfl
  · rfl
  · exact balance_skip _ rfl st rest

mutual
  theorem balance_etStream : ∀ (t : ETree) (st : List QName) (rest : Stream),
      balance st (etStream t ++ rest) = balance st rest
    | .node tag attrs text kids tail, st, rest => by
        simp only [etStream, List.cons_append, List.append_assoc, balance_start]
        rw [balance_etText, balance_etKids kids (qnameOf tag :: st), balance_end_same]
        exact balance_etText tail st rest
  theorem balance_etKids : ∀ (ks : List ETree) (st : List QName) (rest : Stream),
      balance st (etKids ks ++ rest) = balance st rest
    | [], st, rest => by simp [etKids]
    | k :: ks, st, rest => by
        simp only [etKids, List.append_assoc]
        rw [balance_etStream k st, balance_etKids ks st rest]
end

theorem wellNested_etStream (t : ETree) : WellNested (etStream t) :=
  wellNested_of_balance_append (balance_etStream t [])

def isNsEvent : Event → Bool
  | .startNs _ _ => true
  | .endNs _ => true
  | _ => false

theorem noNs_etText (o : Option Str) : (etText o).all (fun e => !isNsEvent e) = true := by
  cases o with
  | none => rfl
  | some t => cases t <;> rfl

mutual
  theorem noNs_etStream : ∀ (t : ETree), (etStream t).all (fun e => !isNsEvent e) = true
    | .node tag attrs text kids tail => by
        simp only [etStream, List.all_cons, List.all_append, noNs_etText, noNs_etKids kids]
        rfl
  theorem noNs_etKids : ∀ (ks : List ETree), (etKids ks).all (fun e => !isNsEvent e) = true
    | [] => rfl
    | k :: ks => by
        simp only [etKids, List.all_append, noNs_etStream k, noNs_etKids ks]
        rfl
end

def plainText : Event → Bool
  | .text _ true => false
  | _ => true

/-- `_coalesce` yields all character data as plain text, `Markup` or not on the way in -/
theorem coalesceGo_plain (s : Stream) (buf : Option Str) : (coalesceGo buf s).all plainText = true := by
  rw [coalesceGo_eq]
  refine List.all_eq_true.mpr fun e he => ?_
  cases e with
  | text t b => cases Parse.coalesceGo_allPlain true s buf t b he; rfl
  | _ => rfl

theorem parseCbs_shape (entity : Str → Option Char) (cbs : List Cb) :
    NoAdjText (parseCbs entity cbs).1 ∧ (parseCbs entity cbs).1.all plainText = true ∧
    nonText (parseCbs entity cbs).1 = nonText (runCbs entity cbs).1 := by
  exact ⟨coalesce_noAdj _, coalesceGo_plain _ none, nonText_coalesce _⟩

end Genshi.Xml
