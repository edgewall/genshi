/-
  Character data written by the serializer and by `encode` is read back by the
  reader's reference decoder: entity blocks of `escape`, decimal character
  references of `xmlcharrefreplace`.
-/
import Genshi.Model.XmlSer
import Genshi.Model.XmlReader
import Genshi.Lemmas.XmlNum
import Genshi.Lemmas.Escape
namespace Genshi.Xml
open Genshi Genshi.Escape Genshi.Xml.Reader

theorem decodeGo_lit (attr : Bool) (c : Char) (rest : Str)
    (hx : isXmlChar c = true) (hamp : c ≠ '&')
    (hattr : attr = true → c ≠ '<' ∧ c ≠ '\t' ∧ c ≠ '\n' ∧ c ≠ '\r') :
    decodeGo attr none (c :: rest) = (decodeGo attr none rest).map (c :: ·) := by
  rw [decodeGo]
  · cases attr with
    | false => simp [hx]
    | true => obtain ⟨h1, h2, h3, h4⟩ := hattr rfl; simp [hx, h1, h2, h3, h4]
  · exact hamp

theorem decodeGo_name (attr : Bool) (name : Str) (hn : ';' ∉ name) (acc rest : Str) :
    decodeGo attr (some acc) (name ++ ';' :: rest) =
      match refChar (acc.reverse ++ name) with
      | some c => (decodeGo attr none rest).map (c :: ·)
      | none => none := by
  induction name generalizing acc with
  | nil => simp [decodeGo]; rfl
  | cons d ds ih =>
    have hd : d ≠ ';' := by intro h; apply hn; simp [h]
    have hds : ';' ∉ ds := by intro h; apply hn; simp [h]
    have step : decodeGo attr (some acc) (d :: (ds ++ ';' :: rest)) = decodeGo attr (some (d :: acc)) (ds ++ ';' :: rest) := by
      rw [decodeGo]
      exact hd
    simp only [List.cons_append]
    rw [step, ih hds (d :: acc)]
    simp

theorem decodeGo_ref (attr : Bool) (name : Str) (hn : ';' ∉ name) (rest : Str) :
    decodeGo attr none ('&' :: (name ++ ';' :: rest)) =
      match refChar name with
      | some c => (decodeGo attr none rest).map (c :: ·)
      | none => none := by
  have : decodeGo attr none ('&' :: (name ++ ';' :: rest)) = decodeGo attr (some []) (name ++ ';' :: rest) := by
    simp only [decodeGo]
  rw [this, decodeGo_name attr name hn [] rest]
  simp

theorem charOfNat?_toNat (c : Char) (hx : isXmlChar c = true) : charOfNat? c.toNat = some c := by
  unfold charOfNat?
  have hv : c.toNat.isValidChar := c.valid
  simp only [hv, dite_true]
  have : Char.ofNatAux c.toNat hv = c := by
    have h2 := Char.ofNat_toNat c
    unfold Char.ofNat at h2
    simpa [hv] using h2
  rw [this]; simp [hx]

theorem isDigit_ne_x (d : Char) (h : isDigit d = true) : d ≠ 'x' := by
  intro hx; subst hx; revert h; decide

theorem isDigit_ne_semi (d : Char) (h : isDigit d = true) : d ≠ ';' := by
  intro hx; subst hx; revert h; decide

theorem refChar_digits (ds : Str) (hne : ds ≠ []) (hd : ds.all isDigit = true) :
    refChar ('#' :: ds) = charOfNat? (parseDec ds) := by
  match ds, hne with
  | d :: ds', _ =>
    have hdx : d ≠ 'x' := isDigit_ne_x d (by simp at hd; exact hd.1)
    rw [refChar]
    · simp [hd]
    · intro hs h; exact hdx (List.cons.inj h).1

theorem semi_not_mem_digits (ds : Str) (hd : ds.all isDigit = true) : ';' ∉ ds := not_mem_digits hd (by decide)

theorem decodeGo_charRef (attr : Bool) (c : Char) (hx : isXmlChar c = true) (rest : Str) :
    decodeGo attr none (charRef c ++ rest) = (decodeGo attr none rest).map (c :: ·) := by
  unfold charRef
  have hne := dec_ne_nil c.toNat
  have hd := dec_all_digit c.toNat
  have hsemi : ';' ∉ '#' :: dec c.toNat := by
    intro h
    rcases List.mem_cons.mp h with h | h
    · exact absurd h (by decide)
    · exact semi_not_mem_digits _ hd h
  have := decodeGo_ref attr ('#' :: dec c.toNat) hsemi rest
  have e : '&' :: '#' :: dec c.toNat ++ [';'] ++ rest = '&' :: (('#' :: dec c.toNat) ++ ';' :: rest) := by simp
  rw [e, this, refChar_digits _ hne hd, parseDec_dec, charOfNat?_toNat c hx]

theorem decodeGo_escC (attr q : Bool) (c : Char) (rest : Str) (hx : isXmlChar c = true)
    (hattr : attr = true → c ≠ '\t' ∧ c ≠ '\n' ∧ c ≠ '\r') :
    decodeGo attr none (escC q c ++ rest) = (decodeGo attr none rest).map (c :: ·) := by
  rcases escC_cases q c with ⟨h, rfl⟩ | ⟨h, rfl⟩ | ⟨h, rfl⟩ | ⟨h, rfl, _⟩ | ⟨h, h1, h2, _⟩ <;> rw [h]
  · exact decodeGo_ref attr ['a', 'm', 'p'] (by decide) rest
  · exact decodeGo_ref attr ['l', 't'] (by decide) rest
  · exact decodeGo_ref attr ['g', 't'] (by decide) rest
  · exact decodeGo_ref attr ['#', '3', '4'] (by decide) rest
  · exact decodeGo_lit attr c rest hx h1 (fun ha => ⟨h2, hattr ha⟩)

/-- what `encode` makes of one escaped character -/
def encEsc (rep : Char → Bool) (q : Bool) (c : Char) : Str := encodeText rep (escC q c)

def AsciiRep (rep : Char → Bool) : Prop := ∀ c : Char, c.toNat < 128 → rep c = true

theorem encodeText_rep (rep : Char → Bool) (s : Str) (h : s.all rep = true) : encodeText rep s = s := by
  induction s with
  | nil => rfl
  | cons c cs ih =>
    simp only [List.all_cons, Bool.and_eq_true] at h
    have := ih h.2
    simp only [encodeText, List.flatMap_cons] at this ⊢
    rw [this]; simp [h.1]

theorem encodeText_ascii (rep : Char → Bool) (hr : AsciiRep rep) (s : Str) (hs : ∀ c ∈ s, c.toNat < 128) :
    encodeText rep s = s :=
  encodeText_rep rep s (List.all_eq_true.mpr fun c hc => hr c (hs c hc))

theorem encEsc_eq (rep : Char → Bool) (hr : AsciiRep rep) (q : Bool) (c : Char) :
    encEsc rep q c = if rep c then escC q c else charRef c := by
  unfold encEsc
  rcases escC_cases q c with ⟨h, rfl⟩ | ⟨h, rfl⟩ | ⟨h, rfl⟩ | ⟨h, rfl, _⟩ | ⟨h, _⟩ <;> rw [h]
  · rw [if_pos (hr _ (by decide)), encodeText_ascii rep hr amp (by decide)]
  · rw [if_pos (hr _ (by decide)), encodeText_ascii rep hr lt (by decide)]
  · rw [if_pos (hr _ (by decide)), encodeText_ascii rep hr gt (by decide)]
  · rw [if_pos (hr _ (by decide)), encodeText_ascii rep hr qt (by decide)]
  · simp [encodeText]

theorem encodeText_escapeSpec (rep : Char → Bool) (q : Bool) (s : Str) :
    encodeText rep (escapeSpec q s) = s.flatMap (encEsc rep q) := by
  unfold encodeText escapeSpec encEsc encodeText
  rw [List.flatMap_assoc]

theorem decodeGo_encEsc (rep : Char → Bool) (hr : AsciiRep rep) (attr q : Bool) (c : Char) (rest : Str)
    (hx : isXmlChar c = true) (hattr : attr = true → c ≠ '\t' ∧ c ≠ '\n' ∧ c ≠ '\r') :
    decodeGo attr none (encEsc rep q c ++ rest) = (decodeGo attr none rest).map (c :: ·) := by
  rw [encEsc_eq rep hr]
  by_cases h : rep c = true
  · simp only [h, if_true]; exact decodeGo_escC attr q c rest hx hattr
  · simp only [h]; exact decodeGo_charRef attr c hx rest

theorem decodeGo_encode_escape (rep : Char → Bool) (hr : AsciiRep rep) (attr q : Bool) (s : Str)
    (hx : s.all isXmlChar = true)
    (hattr : attr = true → ∀ c ∈ s, c ≠ '\t' ∧ c ≠ '\n' ∧ c ≠ '\r') :
    decodeGo attr none (encodeText rep (escapePy q s)) = some s := by
  rw [escapePy_eq_spec, encodeText_escapeSpec]
  induction s with
  | nil => simp [decodeGo]
  | cons c cs ih =>
    simp only [List.all_cons, Bool.and_eq_true] at hx
    rw [List.flatMap_cons, decodeGo_encEsc rep hr attr q c _ hx.1 (fun ha => hattr ha c (by simp))]
    rw [ih hx.2 (fun ha d hd => hattr ha d (by simp [hd]))]
    rfl

end Genshi.Xml
