/-
  Basic facts about the flattener's binding list: look-ups, `_find_prefix`,
  the prefix generator (freshness by a pigeonhole argument).
-/
import Genshi.Model.XmlFlatten
import Genshi.Lemmas.XmlNum
import Batteries.Data.List.Perm
namespace Genshi.Xml
open Genshi

theorem uriOf_cons (p' u : Str) (a : Bool) (bs : List Binding) (p : Str) :
    uriOf ((p', u, a) :: bs) p = if p' = p then some u else uriOf bs p := rfl

theorem autoOf_cons (p' u : Str) (a : Bool) (bs : List Binding) (p : Str) :
    autoOf ((p', u, a) :: bs) p = if p' = p then a else autoOf bs p := rfl

theorem uriOf_some_mem (bs : List Binding) (p u : Str) (hp : p ≠ []) (h : uriOf bs p = some u) :
    ∃ a, (p, u, a) ∈ bs := by
  induction bs with
  | nil => simp [uriOf, hp] at h
  | cons b bs ih =>
    obtain ⟨p', u', a'⟩ := b
    rw [uriOf_cons] at h
    by_cases hpp : p' = p
    · simp only [hpp, if_true, Option.some.injEq] at h
      subst hpp; subst h
      exact ⟨a', by simp⟩
    · simp only [hpp, if_false] at h
      obtain ⟨a, ha⟩ := ih h
      exact ⟨a, by simp [ha]⟩

/-- a look-up fails exactly for a non-empty prefix that no binding carries -/
theorem uriOf_eq_none_iff (bs : List Binding) (p : Str) : uriOf bs p = none ↔ p ≠ [] ∧ p ∉ bs.map (·.1) := by
  induction bs with
  | nil =>
    rw [uriOf]
    by_cases hp : p = []
    · subst hp; exact ⟨nofun, fun h => absurd rfl h.1⟩
    · rw [if_neg (by simpa using hp)]; exact ⟨fun _ => ⟨hp, List.not_mem_nil⟩, fun _ => rfl⟩
  | cons b bs ih =>
    obtain ⟨p', u, a⟩ := b
    rw [uriOf_cons, List.map_cons, List.mem_cons, not_or]
    by_cases hpp : p' = p
    · rw [if_pos hpp]; exact ⟨nofun, fun h => absurd hpp.symm h.2.1⟩
    · rw [if_neg hpp, ih]; exact ⟨fun h => ⟨h.1, Ne.symm hpp, h.2⟩, fun h => ⟨h.1, h.2.2⟩⟩

theorem uriOf_none_of_not_mem (bs : List Binding) (p : Str) (hp : p ≠ [])
    (h : p ∉ bs.map (·.1)) : uriOf bs p = none :=
  (uriOf_eq_none_iff bs p).mpr ⟨hp, h⟩

theorem uriOf_ne_none_of_mem (bs : List Binding) (p : Str) (h : p ∈ bs.map (·.1)) : uriOf bs p ≠ none :=
  fun e => ((uriOf_eq_none_iff bs p).mp e).2 h

theorem uriOf_nil_ne_none (bs : List Binding) : uriOf bs [] ≠ none :=
  fun e => ((uriOf_eq_none_iff bs []).mp e).1 rfl

theorem findGo_sound (full : List Binding) (uri : Str) (fa : Bool) (bs : List Binding) (p : Str)
    (h : findGo full uri fa bs = some p) :
    uriOf full p = some uri ∧ (fa = true → p ≠ []) := by
  induction bs with
  | nil => simp [findGo] at h
  | cons b bs ih =>
    obtain ⟨p', u', a'⟩ := b
    unfold findGo at h
    split at h
    · rename_i hc
      simp only [Option.some.injEq] at h
      subst h
      refine ⟨hc.2.2, ?_⟩
      intro hfa
      rcases hc.2.1 with h1 | h1
      · intro e; apply h1; simp [e]
      · simp [hfa] at h1
    · exact ih h

theorem findPrefix_sound (bs : List Binding) (uri : Str) (fa : Bool) (p : Str)
    (h : findPrefix bs uri fa = some p) :
    uriOf bs p = some uri ∧ (fa = true → p ≠ []) := by
  unfold findPrefix at h
  split at h
  · rename_i hc
    simp only [Option.some.injEq] at h
    subst h
    exact ⟨hc.2, fun hfa => by simp [hfa] at hc⟩
  · exact findGo_sound bs uri fa bs p h

/-- completeness of the search: a usable binding is found (perhaps an inner one) -/
theorem findGo_complete (full : List Binding) (uri : Str) (fa : Bool) (bs : List Binding)
    (p : Str) (a : Bool) (hm : (p, uri, a) ∈ bs) (hp : p ≠ []) (hu : uriOf full p = some uri) :
    (findGo full uri fa bs).isSome = true := by
  induction bs with
  | nil => simp at hm
  | cons b bs ih =>
    obtain ⟨p', u', a'⟩ := b
    unfold findGo
    split
    · rfl
    · rename_i hc
      simp only [List.mem_cons, Prod.mk.injEq] at hm
      rcases hm with ⟨h1, h2, _⟩ | hm
      · exfalso; apply hc
        subst h1; subst h2
        exact ⟨rfl, Or.inl (by simpa using hp), hu⟩
      · exact ih hm

theorem findPrefix_complete (bs : List Binding) (uri : Str) (fa : Bool) (p : Str)
    (hp : p ≠ []) (hu : uriOf bs p = some uri) : (findPrefix bs uri fa).isSome = true := by
  unfold findPrefix
  split
  · rfl
  · obtain ⟨a, ha⟩ := uriOf_some_mem bs p uri hp hu
    exact findGo_complete bs uri fa bs p a ha hp hu

theorem nsName_ne_nil (n : Nat) : nsName n ≠ [] := by simp [nsName]

/-- if the loop gives a bound name, every candidate it tried was bound -/
theorem genLoop_bound_all (bs : List Binding) : ∀ (fuel val : Nat),
    uriOf bs (genLoop bs val fuel).1 ≠ none →
    ∀ i, i ≤ fuel → uriOf bs (nsName (val + 1 + i)) ≠ none := by
  intro fuel
  induction fuel with
  | zero =>
    intro val h i hi
    have : i = 0 := by omega
    subst this
    simpa [genLoop] using h
  | succ f ih =>
    intro val h i hi
    unfold genLoop at h
    by_cases hc : uriOf bs (nsName (val + 1)) = none
    · simp [hc] at h
    · simp only [hc, if_false] at h
      cases i with
      | zero => simpa using hc
      | succ j =>
        have := ih (val + 1) h j (by omega)
        have e : val + 1 + 1 + j = val + 1 + (j + 1) := by omega
        rwa [e] at this

/-- `bindings.length + 1` candidates are enough: the generated prefix is not bound -/
theorem genLoop_fresh (bs : List Binding) (val : Nat) :
    uriOf bs (genLoop bs val (bs.length + 1)).1 = none := by
  apply Classical.byContradiction
  intro h
  have hall := genLoop_bound_all bs (bs.length + 1) val h
  let names := (List.range (bs.length + 2)).map fun i => nsName (val + 1 + i)
  have hnd : names.Nodup := by
    refine List.pairwise_map.2 (List.nodup_range.imp fun {a b} hne hab => hne ?_)
    have := nsName_injective hab
    omega
  have hsub : names ⊆ bs.map (·.1) := by
    intro x hx
    simp only [names, List.mem_map, List.mem_range] at hx
    obtain ⟨i, hi, rfl⟩ := hx
    apply Classical.byContradiction
    intro hn
    exact hall i (by omega) (uriOf_none_of_not_mem bs _ (nsName_ne_nil _) hn)
  have := (List.subperm_of_subset hnd hsub).length_le
  simp [names] at this
  omega

theorem genLoop_prefix (bs : List Binding) : ∀ (fuel val : Nat),
    ∃ n, (genLoop bs val fuel).1 = nsName n := by
  intro fuel
  induction fuel with
  | zero => intro val; exact ⟨val + 1, rfl⟩
  | succ f ih =>
    intro val
    unfold genLoop
    by_cases hc : uriOf bs (nsName (val + 1)) = none
    · simp only [hc, if_true]; exact ⟨val + 1, rfl⟩
    · simp only [hc, if_false]; exact ih (val + 1)

end Genshi.Xml
