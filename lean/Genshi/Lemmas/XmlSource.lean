/-
  `parseSource` (XMLParser + EmptyTagFilter on any document text) against
  `parseText` (the same on serializer output, used by the idempotence theorems):
  they differ only where a start tag is directly followed by an end tag.
-/
import Genshi.Model.XmlSpec
import Genshi.Lemmas.XmlParser
import Genshi.Lemmas.XmlIdemE
namespace Genshi.Xml
open Genshi Genshi.Xml.Reader

def isStartF : FEv → Bool
  | .start _ _ => true
  | _ => false
def isEndF : FEv → Bool
  | .end_ _ => true
  | _ => false
def headEndF : List FEv → Bool
  | f :: _ => isEndF f
  | [] => false

theorem noStartEnd_cons (f : FEv) (r : List FEv) :
    noStartEnd (f :: r) = (!(isStartF f && headEndF r) && noStartEnd r) := by
  cases f with
  | start n a =>
    cases r with
    | nil => rfl
    | cons g r => cases g <;> rfl
  | _ => rfl

theorem noStartEnd_tail : ∀ (e : FEv) (es : List FEv), noStartEnd (e :: es) = true → noStartEnd es = true := by
  intro e es h
  rw [noStartEnd_cons, Bool.and_eq_true] at h
  exact h.2

theorem collapseEmpty_id (fs : List FEv) : noStartEnd fs = true → collapseEmpty fs = fs := by
  fun_induction collapseEmpty fs with
  | case1 n a es ih => intro h'; simp [noStartEnd] at h'
  | case2 n a m es h ih => intro h'; simp [noStartEnd] at h'
  | case3 e es hne ih => intro h'; rw [ih (noStartEnd_tail e es h')]
  | case4 => intro _; rfl

theorem parseSource_eq_parseText (t : Str) (toks : List FEv) (h : Reader.tokenize t = some toks)
    (hn : noStartEnd (dropTopWs 0 toks) = true) : parseSource t = parseText t := by
  simp only [parseSource, parseText, h, Option.bind_some, collapseEmpty_id _ hn]

theorem noNs_ev (e : Event) : noNs (.ev e) = !isNsEvent e := by cases e <;> rfl
theorem noNs_empty (t : QName) (a : AttrList) : noNs (.empty t a) = true := rfl
theorem isNsEvent_start (t : QName) (a : AttrList) : isNsEvent (.start t a) = false := rfl

theorem emptyTagGo_noNs (prev : Option (QName × AttrList)) (s : Stream) :
    s.all (fun e => !isNsEvent e) = true → (emptyTagGo prev s).all noNs = true := by
  fun_induction emptyTagGo prev s <;>
    simp_all only [List.all_cons, List.all_nil, Bool.and_eq_true, noNs_ev, noNs_empty, isNsEvent_start,
      Bool.not_false, and_self, true_and, implies_true]

theorem builderShaped_etStream (t : ETree) : builderShaped (emptyTag (etStream t)) = true :=
  emptyTagGo_noNs none _ (noNs_etStream t)


theorem flatStep_single (pref : List (Str × Str)) (st : FSt) (x : XEv) (hx : noNs x = true) :
    ∃ f, (flatStep pref st x).2 = [f] ∧ isStartF f = isStartX x ∧ isEndF f = isEndX x := by
  cases x with
  | empty t a => exact ⟨_, rfl, rfl, rfl⟩
  | ev e =>
    cases e with
    | start t a => exact ⟨_, rfl, rfl, rfl⟩
    | end_ t =>
      simp only [flatStep]
      split <;> exact ⟨_, rfl, rfl, rfl⟩
    | startNs p u => simp [noNs] at hx
    | endNs p => simp [noNs] at hx
    | _ => exact ⟨_, rfl, rfl, rfl⟩

theorem flatStep_ns (pref : List (Str × Str)) (st : FSt) (x : XEv) (hx : noNs x = false) :
    (flatStep pref st x).2 = [] ∧ isStartX x = false := by
  cases x with
  | empty t a => simp [noNs] at hx
  | ev e => cases e <;> first | (simp [noNs] at hx; done) | exact ⟨rfl, rfl⟩

theorem headEnd_flatRun (pref : List (Str × Str)) : ∀ (xs : List XEv) (st : FSt),
    headEndF (flatRun pref st xs) = headEndX xs := by
  intro xs
  induction xs with
  | nil => intro st; rfl
  | cons x xs ih =>
    intro st
    rw [flatRun]
    by_cases hx : noNs x = true
    · obtain ⟨f, hf, _, he⟩ := flatStep_single pref st x hx
      simp only [hf, List.singleton_append, headEndF, headEndX, hx, if_true, he]
    · simp only [Bool.not_eq_true] at hx
      simp only [(flatStep_ns pref st x hx).1, List.nil_append, headEndX, hx, ih]
      simp

theorem noStartEnd_flatRun (pref : List (Str × Str)) : ∀ (xs : List XEv) (st : FSt),
    noStartEndX xs = true → noStartEnd (flatRun pref st xs) = true := by
  intro xs
  induction xs with
  | nil => intro st _; rfl
  | cons x xs ih =>
    intro st hx
    simp only [noStartEndX, Bool.and_eq_true] at hx
    rw [flatRun]
    by_cases hn : noNs x = true
    · obtain ⟨f, hf, hs, _⟩ := flatStep_single pref st x hn
      simp only [hf, List.singleton_append]
      rw [noStartEnd_cons, hs, headEnd_flatRun, ih _ hx.2]
      simpa using hx.1
    · simp only [Bool.not_eq_true] at hn
      simp only [(flatStep_ns pref st x hn).1, List.nil_append]
      exact ih _ hx.2

theorem noStartEnd_map_normF : ∀ (fs : List FEv), noStartEnd (fs.map normF) = noStartEnd fs
  | [] => rfl
  | f :: r => by
    have h1 : isStartF (normF f) = isStartF f := by cases f <;> rfl
    have h2 : headEndF (r.map normF) = headEndF r := by
      rcases r with _ | ⟨g, _⟩
      · rfl
      · cases g <;> rfl
    rw [List.map_cons, noStartEnd_cons, noStartEnd_cons, noStartEnd_map_normF r, h1, h2]

theorem idem_text_of_events_source (pref : List (Str × Str)) (rep : Char → Bool) (hr : AsciiRep rep)
    (xs : List XEv) (hd : docOK xs = true)
    (hb : docTextOK (flatten pref xs) = true) (hm : repMarkup rep (flatten pref xs) = true)
    (hne : noStartEndX xs = true)
    (hev : ∃ xs2, reparseX PSt.init ((flatten pref xs).map normF) = some xs2 ∧
      (flatten pref xs2).map normF = (flatten pref xs).map normF) :
    ∃ out, serRun SerSt.init (flatten pref xs) = some out ∧
      ∃ xs2, parseSource (encodeText rep out) = some xs2 ∧
        serRun SerSt.init (flatten pref xs2) = some out := by
  obtain ⟨out, h1, xs2, h2, h3⟩ := idem_text_of_events pref rep hr xs hd hb hm hev
  obtain ⟨out', g1, g2⟩ := tokenize_ser rep hr _ hb hm
  rw [h1] at g1
  cases g1
  refine ⟨out, h1, xs2, ?_, h3⟩
  rw [parseSource_eq_parseText _ _ g2 ?_]
  · exact h2
  · rw [dropTopWs_flatten pref _ hd, noStartEnd_map_normF]
    exact noStartEnd_flatRun pref _ _ hne

theorem idem_text_builder_source (pref : List (Str × Str)) (hpref : prefOK pref = true) (rep : Char → Bool)
    (hr : AsciiRep rep) (xs : List XEv) (hd : docOK xs = true) (hb : builderShaped xs = true)
    (ht : inputTextOKm rep pref xs = true) (hne : noStartEndX (mergeX xs) = true) :
    ∃ out, serRun SerSt.init (flatten pref xs) = some out ∧
      ∃ xs2, parseSource (encodeText rep out) = some xs2 ∧
        serRun SerSt.init (flatten pref xs2) = some out := by
  have ht' := inputTextOK_mergeX rep pref xs ht
  have hd' := docOK_mergeX xs hd
  have hb' : builderShaped (mergeX xs) = true := noNs_mergeX xs none hb
  obtain ⟨t1, t2⟩ := textOK_of_input rep hr pref _ ht'
  obtain ⟨out, h1, h2⟩ := idem_text_of_events_source pref rep hr (mergeX xs) hd' t1 t2 hne
    (idem_flatten_builder pref hpref _ hd' hb')
  rw [flatten_mergeX, serRun_mergeF'] at h1
  exact ⟨out, h1, h2⟩

theorem idem_text_parsed_source (pref : List (Str × Str)) (hpref : prefOK pref = true) (rep : Char → Bool)
    (hr : AsciiRep rep) (xs : List XEv) (hd : docOK xs = true) (hi : idemOK pref xs = true)
    (ht : inputTextOK rep pref xs = true) (hne : noStartEndX xs = true) :
    ∃ out, serRun SerSt.init (flatten pref xs) = some out ∧
      ∃ xs2, parseSource (encodeText rep out) = some xs2 ∧
        serRun SerSt.init (flatten pref xs2) = some out := by
  obtain ⟨t1, t2⟩ := textOK_of_input rep hr pref _ ht
  obtain ⟨xs2, r1, r2⟩ := idem_flatten pref hpref xs hd hi
  exact idem_text_of_events_source pref rep hr xs hd t1 t2 hne ⟨xs2, r1, by rw [r2]⟩

end Genshi.Xml
