/-
  C02 — the reader's tokenizer reads back what the serializer writes.  Five
  files, in import order A, B, E, C, D: A names, quoted values and attribute
  lists; B one piece of markup (`takeMarkup`); E the prolog (XML declaration,
  DOCTYPE); C the token loop over content; D from the loop to `tokenize`.
  `XmlEncode` (what `encode` does to the serializer's pieces) stands between A and C.
-/
import Genshi.Lemmas.XmlRefs
import Genshi.Lemmas.XmlList
import Batteries.Data.List.Basic
namespace Genshi.Xml
open Genshi Genshi.Escape Genshi.Xml.Reader

theorem validName_chars {n : Str} (hn : validName n = true) : ∀ c ∈ n, isNameStop c = false := by
  intro c hc
  unfold validName at hn
  cases n with
  | nil => cases hc
  | cons d ds =>
    simp only [Bool.and_eq_true, List.all_eq_true] at hn
    simpa using hn.2 c hc

theorem takeName_until (n : Str) (x : Char) (r : Str) (hn : validName n = true) (hx : isNameStop x = true) :
    takeName (n ++ x :: r) = (n, x :: r) :=
  span_until n x r (fun c hc => by simp [validName_chars hn c hc]) (by simp [hx])

theorem takeName_end (n : Str) (hn : validName n = true) : takeName n = (n, []) :=
  span_all n fun c hc => by simp [validName_chars hn c hc]

theorem validName_head {n : Str} (hn : validName n = true) :
    ∃ c cs, n = c :: cs ∧ isNameStop c = false := by
  cases n with
  | nil => cases hn
  | cons d ds => exact ⟨d, ds, rfl, validName_chars hn d (by simp)⟩

theorem not_space_of_not_stop {c : Char} (h : isNameStop c = false) : isSpace c = false := by
  cases hs : isSpace c with
  | false => rfl
  | true => simp [isNameStop, hs] at h

theorem dropSpaces_of_head {c : Char} {cs : Str} (h : isSpace c = false) : dropSpaces (c :: cs) = c :: cs := by
  simp [dropSpaces, List.dropWhile, h]

theorem takeQuoted_dq (v rest : Str) (hv : '"' ∉ v) : takeQuoted ('"' :: (v ++ '"' :: rest)) = some (v, rest) := by
  simp only [takeQuoted]
  rw [span_until v '"' rest (fun c hc => by simp; intro e; subst e; exact hv hc) (by simp)]
  rfl

theorem takeQuoted_sq (v rest : Str) (hv : '\'' ∉ v) :
    takeQuoted ('\'' :: (v ++ '\'' :: rest)) = some (v, rest) := by
  simp only [takeQuoted]
  rw [span_until v '\'' rest (fun c hc => by simp; intro e; subst e; exact hv hc) (by simp)]
  rfl

/-- an attribute value as it stands between the quotes, and what it decodes to -/
structure AttrEnc (ev v : Str) : Prop where
  noquote : '"' ∉ ev
  decodes : decodeAttr ev = some v

/-- attribute lists written as ` name="value"` … -/
def emitAttrsWith : List (Str × Str) → Str
  | [] => []
  | (a, ev) :: rest => ' ' :: a ++ ('=' :: '"' :: ev) ++ '"' :: emitAttrsWith rest

theorem isSpace_sp : isSpace ' ' = true := by decide

theorem takeAttrs_attr (f : Nat) (a ev v more : Str) (ha : validName a = true) (he : AttrEnc ev v) :
    takeAttrs (f + 1) (' ' :: a ++ ('=' :: '"' :: ev) ++ '"' :: more) =
      match takeAttrs f more with
      | some (as, e, rest) => some ((a, v) :: as, e, rest)
      | none => none := by
  obtain ⟨c, cs, rfl, hc⟩ := validName_head ha
  have hsp := not_space_of_not_stop hc
  have hgt : c ≠ '>' := by intro e; subst e; exact absurd hc (by decide)
  have hsl : c ≠ '/' := by intro e; subst e; exact absurd hc (by decide)
  have e1 : ' ' :: (c :: cs) ++ ('=' :: '"' :: ev) ++ '"' :: more =
      ' ' :: c :: (cs ++ '=' :: '"' :: (ev ++ '"' :: more)) := by simp
  rw [e1]
  rw [takeAttrs]
  · simp only [isSpace_sp, Bool.not_true, Bool.false_eq_true, if_false]
    rw [dropSpaces_of_head hsp]
    split
    · rename_i heq; simp only [List.cons.injEq] at heq; exact absurd heq.1 hgt
    · rename_i heq; simp only [List.cons.injEq] at heq; exact absurd heq.1 hsl
    · have e2 : c :: (cs ++ '=' :: '"' :: (ev ++ '"' :: more)) = (c :: cs) ++ '=' :: ('"' :: (ev ++ '"' :: more)) := by simp
      rw [e2, takeName_until (c :: cs) '=' _ ha (by decide)]
      simp only [ha, Bool.not_true, Bool.false_eq_true, if_false]
      rw [dropSpaces_of_head (c := '=') (by decide)]
      simp only
      rw [dropSpaces_of_head (c := '"') (by decide), takeQuoted_dq ev more he.noquote]
      simp only [he.decodes]
      cases takeAttrs f more with
      | none => rfl
      | some r => obtain ⟨as, e, rest⟩ := r; rfl
  · intro h; exact absurd h (by decide)
  · intro rest h; exact absurd h (by decide)

theorem takeAttrs_emit (enc : List (Str × Str)) (attrs : List (Str × Str))
    (h : List.Forall₂ (fun e a => e.1 = a.1 ∧ validName a.1 = true ∧ AttrEnc e.2 a.2) enc attrs)
    (closing : Str) (selfc : Bool) (hc : closing = if selfc then ['/', '>'] else ['>']) (rest : Str) :
    ∀ f, attrs.length < f →
      takeAttrs f (emitAttrsWith enc ++ closing ++ rest) = some (attrs, selfc, rest) := by
  induction h with
  | nil =>
    intro f hf
    obtain ⟨g, rfl⟩ : ∃ g, f = g + 1 := ⟨f - 1, by simp at hf; omega⟩
    subst hc
    cases selfc
    · simp [emitAttrsWith, takeAttrs]
    · simp [emitAttrsWith, takeAttrs]
  | @cons e a enc attrs h1 _ ih =>
    intro f hf
    obtain ⟨g, rfl⟩ : ∃ g, f = g + 1 := ⟨f - 1, by simp at hf; omega⟩
    obtain ⟨en, ev⟩ := e
    obtain ⟨an, av⟩ := a
    simp only at h1
    obtain ⟨rfl, hv, he⟩ := h1
    have e1 : emitAttrsWith ((en, ev) :: enc) ++ closing ++ rest =
        ' ' :: en ++ ('=' :: '"' :: ev) ++ '"' :: (emitAttrsWith enc ++ closing ++ rest) := by
      simp [emitAttrsWith]
    rw [e1, takeAttrs_attr g en ev av _ hv he, ih g (by simp at hf; omega)]

end Genshi.Xml
