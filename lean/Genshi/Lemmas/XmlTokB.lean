/-
  C02 — the tokenizer reads back what the serializer writes, part B: `breakOn`
  and the single pieces of markup (`takeMarkup`: tags, comments, CDATA sections,
  processing instructions).
-/
import Genshi.Lemmas.XmlTokA
namespace Genshi.Xml
open Genshi Genshi.Escape Genshi.Xml.Reader

theorem forall₂_length_eq {α β : Type} {R : α → β → Prop} :
    ∀ {l₁ : List α} {l₂ : List β}, List.Forall₂ R l₁ l₂ → l₁.length = l₂.length
  | _, _, .nil => rfl
  | _, _, .cons _ h => congrArg Nat.succ (forall₂_length_eq h)

theorem isPrefixOf_append_of_le : ∀ (l a b : Str), l.length ≤ a.length →
    l.isPrefixOf (a ++ b) = l.isPrefixOf a := by
  intro l
  induction l with
  | nil => intro a b _; simp
  | cons c cs ih =>
    intro a b h
    cases a with
    | nil => simp at h
    | cons d ds =>
      simp only [List.cons_append, List.isPrefixOf]
      rw [ih ds b (by simpa using h)]

theorem isPrefixOf_self_append (l b : Str) : l.isPrefixOf (l ++ b) = true := by
  induction l with
  | nil => simp
  | cons c cs ih => simp [ih]

/-- an occurrence of `pat` in `c :: cs` starts at `c` or lies in `cs` -/
theorem hasSub_cons (pat : Str) (c : Char) (cs : Str) :
    hasSub pat (c :: cs) = (pat.isPrefixOf (c :: cs) || hasSub pat cs) := by
  unfold hasSub
  rw [breakOn]
  split
  · rename_i h; rw [h]; rfl
  · rename_i h; rw [Bool.eq_false_iff.mpr h, Option.isSome_map, Bool.false_or]

/-- `pat` first occurs right after `body` when no occurrence starts inside
    `body` (such an occurrence would lie within `body ++ pat.dropLast`) -/
theorem breakOn_first (pat : Str) (hp : pat ≠ []) (body rest : Str)
    (h : hasSub pat (body ++ pat.dropLast) = false) :
    breakOn pat (body ++ pat ++ rest) = some (body, rest) := by
  induction body with
  | nil =>
    obtain ⟨p, ps, rfl⟩ := List.exists_cons_of_ne_nil hp
    rw [List.nil_append, List.cons_append, breakOn, ← List.cons_append, if_pos (isPrefixOf_self_append _ rest)]
    simp
  | cons c cs ih =>
    rw [List.cons_append, hasSub_cons, Bool.or_eq_false_iff] at h
    -- the test at `c` sees no further than `pat.dropLast`, where `h.1` has answered it
    have e : c :: cs ++ pat ++ rest = (c :: (cs ++ pat.dropLast)) ++ ([pat.getLast hp] ++ rest) := by
      conv => lhs; rw [← List.dropLast_concat_getLast hp]
      simp
    have hnp : pat.isPrefixOf (c :: cs ++ pat ++ rest) = false := by
      rw [e, isPrefixOf_append_of_le _ _ _ (by simp; omega)]
      exact h.1
    rw [List.append_assoc, List.cons_append] at hnp ⊢
    rw [breakOn, if_neg (Bool.eq_false_iff.mp hnp), ← List.append_assoc, ih h.2]
    rfl

theorem hasSub_false_of_not_mem (pat : Str) (c : Char) (hc : c ∈ pat) (s : Str) (hs : c ∉ s) :
    hasSub pat s = false := by
  induction s with
  | nil =>
    cases pat with
    | nil => simp at hc
    | cons p ps => rfl
  | cons d ds ih =>
    rw [hasSub_cons, ih fun e => hs (List.mem_cons_of_mem _ e), Bool.or_false]
    exact Bool.eq_false_iff.mpr fun hpf => hs ((List.isPrefixOf_iff_prefix.mp hpf).subset hc)

theorem emitAttrsWith_head (enc : List (Str × Str)) (closing rest : Str) (hc : closing = ['>'] ∨ closing = ['/', '>']) :
    ∃ x r, emitAttrsWith enc ++ closing ++ rest = x :: r ∧ isNameStop x = true := by
  cases enc with
  | nil =>
    rcases hc with rfl | rfl
    · exact ⟨'>', rest, by simp [emitAttrsWith], by decide⟩
    · exact ⟨'/', '>' :: rest, by simp [emitAttrsWith], by decide⟩
  | cons e es =>
    obtain ⟨a, ev⟩ := e
    exact ⟨' ', a ++ ('=' :: '"' :: ev) ++ '"' :: emitAttrsWith es ++ closing ++ rest, by simp [emitAttrsWith], by decide⟩

theorem emitAttrsWith_length (enc : List (Str × Str)) : enc.length ≤ (emitAttrsWith enc).length := by
  induction enc with
  | nil => simp [emitAttrsWith]
  | cons e es ih =>
    obtain ⟨a, ev⟩ := e
    simp only [emitAttrsWith, List.length_cons, List.length_append]
    omega

theorem validName_first_ok {n : Str} (hn : validName n = true) :
    ∃ c cs, n = c :: cs ∧ c ≠ '!' ∧ c ≠ '?' ∧ c ≠ '/' := by
  obtain ⟨c, cs, rfl, hc⟩ := validName_head hn
  refine ⟨c, cs, rfl, ?_, ?_, ?_⟩ <;> (intro e; subst e; revert hc; decide)

theorem takeMarkup_start (name : Str) (enc attrs : List (Str × Str)) (selfc : Bool) (rest : Str)
    (hn : validName name = true)
    (h : List.Forall₂ (fun e a => e.1 = a.1 ∧ validName a.1 = true ∧ AttrEnc e.2 a.2) enc attrs) :
    takeMarkup (name ++ emitAttrsWith enc ++ (if selfc then ['/', '>'] else ['>']) ++ rest) =
      some ([if selfc then FEv.empty name attrs else FEv.start name attrs], rest) := by
  obtain ⟨c, cs, rfl, h1, h2, h3⟩ := validName_first_ok hn
  have hcl : (if selfc then ['/', '>'] else ['>']) = ['>'] ∨ (if selfc then ['/', '>'] else ['>']) = ['/', '>'] := by
    cases selfc <;> simp
  obtain ⟨x, r, hx, hxs⟩ := emitAttrsWith_head enc _ rest hcl
  have e1 : (c :: cs) ++ emitAttrsWith enc ++ (if selfc then ['/', '>'] else ['>']) ++ rest = (c :: cs) ++ x :: r := by
    rw [← hx]; simp
  have hlen : attrs.length < (x :: r).length + 1 := by
    rw [← hx]
    have := emitAttrsWith_length enc
    have hl := forall₂_length_eq h
    simp only [List.length_append]
    cases selfc <;> simp <;> omega
  rw [e1]
  unfold takeMarkup
  split
  · rename_i heq; simp only [List.cons_append, List.cons.injEq] at heq; exact absurd heq.1 h1
  · rename_i heq; simp only [List.cons_append, List.cons.injEq] at heq; exact absurd heq.1 h1
  · rename_i heq; simp only [List.cons_append, List.cons.injEq] at heq; exact absurd heq.1 h1
  · rename_i heq; simp only [List.cons_append, List.cons.injEq] at heq; exact absurd heq.1 h2
  · rename_i heq; simp only [List.cons_append, List.cons.injEq] at heq; exact absurd heq.1 h3
  · rw [takeName_until (c :: cs) x r hn hxs]
    simp only [hn, Bool.not_true, Bool.false_eq_true, if_false]
    rw [← hx, takeAttrs_emit enc attrs h _ selfc rfl rest _ (by rw [hx]; exact hlen)]
    cases selfc <;> rfl

theorem takeMarkup_end (name rest : Str) (hn : validName name = true) :
    takeMarkup ('/' :: (name ++ '>' :: rest)) = some ([FEv.end_ name], rest) := by
  simp only [takeMarkup]
  rw [takeName_until name '>' rest hn (by decide)]
  simp only [hn, Bool.not_true, Bool.false_eq_true, if_false]
  rw [dropSpaces_of_head (c := '>') (by decide)]
  rfl

theorem takeMarkup_comment (s rest : Str) (hx : s.all isXmlChar = true)
    (hd : hasSub ['-', '-'] (s ++ ['-']) = false) :
    takeMarkup ('!' :: '-' :: '-' :: (s ++ ['-', '-', '>'] ++ rest)) = some ([FEv.other (.comment s)], rest) := by
  simp only [takeMarkup]
  have e : s ++ ['-', '-', '>'] ++ rest = s ++ ['-', '-'] ++ ('>' :: rest) := by simp
  rw [e, breakOn_first ['-', '-'] (by simp) s ('>' :: rest) (by simpa using hd)]
  simp [hx]

theorem takeMarkup_cdata (s rest : Str) (hx : s.all isXmlChar = true)
    (hd : hasSub [']', ']', '>'] (s ++ [']', ']']) = false) :
    takeMarkup ('!' :: '[' :: 'C' :: 'D' :: 'A' :: 'T' :: 'A' :: '[' :: (s ++ [']', ']', '>'] ++ rest)) =
      some (if s.isEmpty then [FEv.other .startCdata, FEv.other .endCdata]
            else [FEv.other .startCdata, FEv.other (.text s false), FEv.other .endCdata], rest) := by
  simp only [takeMarkup]
  rw [breakOn_first [']', ']', '>'] (by simp) s rest (by simpa using hd)]
  simp only [hx, Bool.not_true, Bool.false_eq_true, if_false]
  cases s <;> simp

theorem takeMarkup_pi (t d rest : Str) (ht : validName t = true) (hc : ':' ∉ t)
    (hxml : t.map lowerAscii ≠ ['x', 'm', 'l']) (hx : d.all isXmlChar = true)
    (hsp : (d.head?.map isSpace).getD false = false)
    (hd : hasSub ['?', '>'] (d ++ ['?']) = false) :
    takeMarkup ('?' :: (t ++ ' ' :: d ++ ['?', '>'] ++ rest)) = some ([FEv.other (.pi t d)], rest) := by
  simp only [takeMarkup]
  have e : t ++ ' ' :: d ++ ['?', '>'] ++ rest = t ++ ' ' :: (d ++ ['?', '>'] ++ rest) := by simp
  rw [e, takeName_until t ' ' _ ht (by decide)]
  have e2 : List.elem ':' t = false := by simpa using hc
  simp only [ht, e2, hxml, Bool.not_true, Bool.false_eq_true, Bool.or_self, decide_false, if_false]
  have hdrop : dropSpaces (d ++ ['?', '>'] ++ rest) = d ++ ['?', '>'] ++ rest := by
    cases d with
    | nil =>
      have : isSpace '?' = false := by decide
      simp [dropSpaces, this]
    | cons c cs =>
      simp only [List.head?_cons, Option.map_some, Option.getD_some] at hsp
      simp [dropSpaces, hsp]
  split
  · rename_i heq; simp at heq
  · rename_i c s2 heq
    simp only [List.cons.injEq] at heq
    obtain ⟨rfl, rfl⟩ := heq
    simp only [isSpace_sp, Bool.not_true, Bool.false_eq_true, if_false]
    rw [hdrop, breakOn_first ['?', '>'] (by simp) d rest (by simpa using hd)]
    simp [hx]
  · rename_i heq; simp at heq

end Genshi.Xml
