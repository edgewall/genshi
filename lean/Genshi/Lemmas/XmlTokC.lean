/-
  C02 — the tokenizer reads back what the serializer writes, part C: the token
  loop (`tokGo`) over content in the normal form `contentOK`, runs of character
  data included, on the text as `encode` leaves it.
-/
import Genshi.Lemmas.XmlTokE
import Genshi.Lemmas.XmlEncode
namespace Genshi.Xml
open Genshi Genshi.Escape Genshi.Xml.Reader

theorem tokGo_markup (f : Nat) (m rest : Str) (toks : List FEv)
    (h : takeMarkup (m ++ rest) = some (toks, rest)) :
    tokGo (f + 1) ('<' :: (m ++ rest)) = (tokGo f rest).map (toks ++ ·) := by
  simp only [tokGo, h]

theorem tokGo_text (f : Nat) (et t rest : Str) (hne : et ≠ []) (hlt : '<' ∉ et) (hgt : '>' ∉ et)
    (hdec : decodeText et = some t) (hrest : rest = [] ∨ ∃ r, rest = '<' :: r) :
    tokGo (f + 1) (et ++ rest) = (tokGo f rest).map (FEv.other (.text t false) :: ·) := by
  obtain ⟨c, cs, rfl⟩ : ∃ c cs, et = c :: cs := by
    cases et with
    | nil => exact absurd rfl hne
    | cons c cs => exact ⟨c, cs, rfl⟩
  have hc : c ≠ '<' := fun e => hlt (by simp [e])
  have hspan : ((c :: cs) ++ rest).span (· ≠ '<') = (c :: cs, rest) := by
    rcases hrest with rfl | ⟨r, rfl⟩
    · simp only [List.append_nil]
      exact span_all _ (fun d hd => by simp; intro e; subst e; exact hlt hd)
    · exact span_until _ '<' r (fun d hd => by simp; intro e; subst e; exact hlt hd) (by simp)
  have hsub : hasSub [']', ']', '>'] (c :: cs) = false :=
    hasSub_false_of_not_mem _ '>' (by simp) _ hgt
  simp only [List.cons_append] at hspan ⊢
  rw [tokGo]
  · simp only [hspan, hsub, Bool.false_eq_true, if_false, hdec]
    cases tokGo f rest <;> rfl
  · intro h; exact hc h

theorem cr_not_mem_of_validName {n : Str} (h : validName n = true) : '\r' ∉ n :=
  fun hm => absurd (validName_chars h _ hm) (by decide)

theorem nm_app {a b : Str} (ha : '\r' ∉ a) (hb : '\r' ∉ b) : '\r' ∉ a ++ b := by
  simp only [List.mem_append, not_or]; exact ⟨ha, hb⟩

theorem nm_cons {c : Char} {a : Str} (hc : c ≠ '\r') (ha : '\r' ∉ a) : '\r' ∉ c :: a := by
  simp only [List.mem_cons, not_or]; exact ⟨fun e => hc e.symm, ha⟩

theorem cr_not_mem_emitAttrsEnc (rep : Char → Bool) (a : List (Str × Str))
    (h : flatAttrsOK a = true) : '\r' ∉ emitAttrsEnc rep a := by
  unfold emitAttrsEnc
  induction a with
  | nil => simp [emitAttrsWith]
  | cons x xs ih =>
    obtain ⟨n, v⟩ := x
    unfold flatAttrsOK at h ih
    simp only [List.all_cons, Bool.and_eq_true] at h
    have hn := cr_not_mem_of_validName h.1.1
    have hv : '\r' ∉ encAttr rep v := by
      unfold encAttr
      by_cases e : v = noneUri
      · simp [e]
      · simp only [e, if_false]
        have hv := h.1.2
        unfold attrValOK at hv
        simp only [e, decide_false, Bool.false_or, Bool.and_eq_true] at hv
        exact (encEscStr_chars rep true v).2.2.2.1 (okStr_parts hv.1).2
    have := ih h.2
    simp only [List.map_cons, emitAttrsWith]
    exact nm_app (nm_app (nm_cons (by decide) hn) (nm_cons (by decide) (nm_cons (by decide) hv)))
      (nm_cons (by decide) this)

theorem serRun_cons (st : SerSt) (e : FEv) (es : List FEv) :
    serRun st (e :: es) = match serStep st e with
      | none => none
      | some (st', out) => (serRun st' es).map (out ++ ·) := rfl

/-- `m` is markup (what follows a `<`) that the tokenizer reads back as `toks`; it holds no CR -/
structure Piece (toks : List FEv) (m : Str) : Prop where
  nocr : '\r' ∉ m
  read : ∀ rest, takeMarkup (m ++ rest) = some (toks, rest)

/-- What `tokGo_content` proves of the events `fs` serialised from state `st`, `out` being the text after `encode`.
    `head`: unless `fs` begins with character data, `out` is empty or begins with `<`, so that a run of
    character data in front of it ends exactly there.  `tok`: any fuel above the length of the text does. -/
structure Body (rep : Char → Bool) (st : SerSt) (fs : List FEv) (out : Str) : Prop where
  ser : (serRun st fs).map (encodeText rep) = some out
  nocr : '\r' ∉ out
  head : startsWithText fs = false → out = [] ∨ ∃ r, out = '<' :: r
  tok : ∀ f, out.length < f → tokGo f out = some (tokOf fs)

theorem ser_glue (rep : Char → Bool) {st st' : SerSt} {e : FEv} {es : List FEv} {p0 p out' : Str}
    (hs : serStep st e = some (st', p0)) (he : encodeText rep p0 = p)
    (ih : (serRun st' es).map (encodeText rep) = some out') :
    (serRun st (e :: es)).map (encodeText rep) = some (p ++ out') := by
  obtain ⟨o, ho, rfl⟩ := Option.map_eq_some_iff.mp ih
  rw [serRun_cons, hs]
  simp only [ho, Option.map_some, encodeText_append, he]

/-- markup for `pre` in front of a body: `<` + `m`, then the body -/
theorem Body.glue {rep : Char → Bool} {st st' : SerSt} {pre es : List FEv} {m out' : Str} {toks : List FEv}
    (ih : Body rep st' es out') (pc : Piece toks m)
    (hser : (serRun st (pre ++ es)).map (encodeText rep) = some ('<' :: (m ++ out')))
    (htoks : tokOf (pre ++ es) = toks ++ tokOf es) :
    Body rep st (pre ++ es) ('<' :: (m ++ out')) := by
  refine ⟨hser, ?_, fun _ => Or.inr ⟨_, rfl⟩, ?_⟩
  · simp only [List.mem_cons, List.mem_append, not_or]
    exact ⟨by decide, pc.nocr, ih.nocr⟩
  · intro f hf
    obtain ⟨g, rfl⟩ : ∃ g, f = g + 1 := ⟨f - 1, by simp at hf; omega⟩
    rw [tokGo_markup g m out' _ (pc.read _), ih.tok g (by simp at hf; omega), htoks]
    simp

/-- one event whose markup is `p0` as the serializer writes it and `<` + `m` after `encode` -/
theorem Body.glue1 {rep : Char → Bool} {st : SerSt} {e : FEv} {es : List FEv} {p0 m out' : Str}
    (ih : Body rep st es out') (pc : Piece [normF e] m)
    (hs : serStep st e = some (st, p0)) (he : encodeText rep p0 = '<' :: m)
    (htoks : tokOf (e :: es) = normF e :: tokOf es) :
    Body rep st (e :: es) ('<' :: (m ++ out')) :=
  Body.glue (pre := [e]) ih pc (ser_glue rep hs he ih.ser) htoks

theorem piece_start (rep : Char → Bool) (hr : AsciiRep rep) (n : Str) (a : List (Str × Str)) (selfc : Bool)
    (hn : validName n = true) (ha : flatAttrsOK a = true) :
    Piece [if selfc then FEv.empty n (normAttrs a) else FEv.start n (normAttrs a)]
      (n ++ emitAttrsEnc rep a ++ (if selfc then ['/', '>'] else ['>'])) :=
  ⟨nm_app (nm_app (cr_not_mem_of_validName hn) (cr_not_mem_emitAttrsEnc rep a ha)) (by cases selfc <;> decide),
    fun rest => takeMarkup_start n _ _ selfc rest hn (forall₂_encAttr rep hr a ha)⟩

theorem piece_end (n : Str) (hn : validName n = true) : Piece [FEv.end_ n] ('/' :: n ++ ['>']) :=
  ⟨nm_app (nm_cons (by decide) (cr_not_mem_of_validName hn)) (by decide),
    fun rest => by simpa using takeMarkup_end n rest hn⟩

theorem piece_comment (s : Str) (h : commentOK s = true) :
    Piece [FEv.other (.comment s)] ('!' :: '-' :: '-' :: (s ++ ['-', '-', '>'])) := by
  unfold commentOK at h
  simp only [Bool.and_eq_true, Bool.not_eq_true'] at h
  exact ⟨nm_cons (by decide) (nm_cons (by decide) (nm_cons (by decide) (nm_app (okStr_parts h.1).2 (by decide)))),
    fun rest => takeMarkup_comment s rest (okStr_parts h.1).1 h.2⟩

theorem piece_pi (t d : Str) (h : piOK t d = true) :
    Piece [FEv.other (.pi t d)] ('?' :: (t ++ ' ' :: d ++ ['?', '>'])) := by
  unfold piOK at h
  simp only [Bool.and_eq_true, Bool.not_eq_true', decide_eq_true_eq] at h
  obtain ⟨⟨⟨⟨⟨p1, p2⟩, p3⟩, p4⟩, p5⟩, p6⟩ := h
  exact ⟨nm_cons (by decide) (nm_app (nm_app (cr_not_mem_of_validName p1) (nm_cons (by decide) (okStr_parts p4).2))
      (by decide)),
    fun rest => takeMarkup_pi t d rest p1 (by simpa using p2) p3 (okStr_parts p4).1 p5 p6⟩

theorem piece_cdata (s : Str) (h : cdataOK s = true) :
    Piece (if s.isEmpty then [FEv.other .startCdata, FEv.other .endCdata]
           else [FEv.other .startCdata, FEv.other (.text s false), FEv.other .endCdata])
      ('!' :: '[' :: 'C' :: 'D' :: 'A' :: 'T' :: 'A' :: '[' :: (s ++ [']', ']', '>'])) := by
  unfold cdataOK at h
  simp only [Bool.and_eq_true, Bool.not_eq_true'] at h
  exact ⟨nm_cons (by decide) (nm_cons (by decide) (nm_cons (by decide) (nm_cons (by decide) (nm_cons (by decide)
      (nm_cons (by decide) (nm_cons (by decide) (nm_cons (by decide) (nm_app (okStr_parts h.1).2 (by decide))))))))),
    fun rest => takeMarkup_cdata s rest (okStr_parts h.1).1 h.2⟩

theorem sysidOK_parts {sy : Str} (h : sysidOK sy = true) :
    sy ≠ [] ∧ okStr sy = true ∧ ¬ ('"' ∈ sy ∧ '\'' ∈ sy) := by
  unfold sysidOK at h
  simp only [Bool.and_eq_true, Bool.not_eq_true', Bool.and_eq_false_iff] at h
  refine ⟨by intro e; simp [e] at h, h.1.2, ?_⟩
  intro ⟨h1, h2⟩
  rcases h.2 with h3 | h3 <;> simp_all

/-- the quote the serializer puts around a system literal: `'` when the literal holds a `"` -/
def sysQuote (s : Option Str) : Char := if List.elem '"' (s.getD []) then '\'' else '"'

theorem doctypeOK_ids {n : Str} {p s : Option Str} (h : doctypeOK n p s = true) :
    (∀ sy, s = some sy → sy.isEmpty = false ∧ sysQuote s ∉ sy ∧ '\r' ∉ sy) ∧
    (∀ pu, p = some pu → s.isSome = true ∧ pu.isEmpty = false ∧ pu.all isPubidChar = true ∧ normPubid pu = pu ∧
      '\r' ∉ pu) := by
  have sys : ∀ sy, sysidOK sy = true → sy.isEmpty = false ∧ sysQuote (some sy) ∉ sy ∧ '\r' ∉ sy := by
    intro sy hs
    obtain ⟨s1, s2, s3⟩ := sysidOK_parts hs
    refine ⟨by simpa using s1, ?_, (okStr_parts s2).2⟩
    by_cases hdq : '"' ∈ sy
    · simpa [sysQuote, hdq] using fun e => s3 ⟨hdq, e⟩
    · simp [sysQuote, hdq]
  unfold doctypeOK at h
  simp only [Bool.and_eq_true] at h
  rcases p with _ | pu <;> rcases s with _ | sy
  · exact ⟨by simp, by simp⟩
  · exact ⟨fun _ e => Option.some.inj e ▸ sys sy h.2, by simp⟩
  · simp at h
  · simp only [Bool.and_eq_true, Bool.not_eq_true', decide_eq_true_eq] at h
    obtain ⟨⟨⟨⟨p1, p2⟩, p3⟩, p4⟩, p5⟩ := h.2
    exact ⟨fun _ e => Option.some.inj e ▸ sys sy p5, fun _ e => Option.some.inj e ▸ ⟨rfl, p1, p2, p3, by simpa using p4⟩⟩

theorem doctype_piece (n : Str) (p s : Option Str) (h : doctypeOK n p s = true) :
    ∃ m, emitDoctype n p s = some ('<' :: (m ++ ['\n'])) ∧ Piece [FEv.other (.doctype n p s)] m := by
  obtain ⟨hs, hp⟩ := doctypeOK_ids h
  unfold doctypeOK at h
  simp only [Bool.and_eq_true] at h
  obtain ⟨⟨hn, hq⟩, -⟩ := h
  have hne : n.isEmpty = false := by
    obtain ⟨c, cs, rfl, _⟩ := validName_head hn; rfl
  have hqc : sysQuote s = '"' ∨ sysQuote s = '\'' := by
    unfold sysQuote; split <;> simp
  have hem : emitDoctype n p s =
      some ('<' :: ('!' :: 'D' :: 'O' :: 'C' :: 'T' :: 'Y' :: 'P' :: 'E' :: ' ' :: (n ++ (extId p s (sysQuote s) ++ ['>'])) ++
        ['\n'])) := by
    rcases p with _ | pu <;> rcases s with _ | sy
    · simp [emitDoctype, hne, truthy, extId]
    · have := (hs sy rfl).1
      simp [emitDoctype, hne, truthy, extId, sysQuote, this]
      split <;> simp
    · simp at hp
    · have := (hs sy rfl).1
      have := (hp pu rfl).2.1
      simp [emitDoctype, truthy, extId, sysQuote, *]
      split <;> simp
  -- no CR: the walk over `emitDoctype` is `markup_all`'s
  have hcr : ∀ o : Option Str, (∀ x, o = some x → '\r' ∉ x) → repOpt (fun c => decide (c ≠ '\r')) o = true := by
    rintro (_ | x) hx
    · rfl
    · exact all_of_cr_not_mem (hx x rfl)
  have hall := (markup_all notCR_ok).2.2.2.2 n p s _ (all_of_cr_not_mem (cr_not_mem_of_validName hn))
    (hcr p fun pu e => (hp pu e).2.2.2.2) (hcr s fun sy e => (hs sy e).2.2) hem
  refine ⟨_, hem, ⟨fun hm => cr_not_mem_of_all hall (List.mem_cons_of_mem _ (List.mem_append_left _ hm)),
    fun rest => ?_⟩⟩
  have := takeDoctype_ext n p s (sysQuote s) rest hqc hn hq (fun sy e => (hs sy e).2.1)
    (fun pu e => ⟨(hp pu e).1, (hp pu e).2.2.1, (hp pu e).2.2.2.1⟩)
  simp only [takeMarkup, List.cons_append, List.append_assoc, List.nil_append]
  rw [this]; rfl

theorem ser_cdata (rep : Char → Bool) (hr : AsciiRep rep) {st : SerSt} (hst : st.inCdata = false) {es : List FEv}
    {out' : Str} (ih : (serRun st es).map (encodeText rep) = some out') :
    (∀ s : Str, s.all rep = true →
      (serRun st (FEv.other .startCdata :: FEv.other (.text s false) :: FEv.other .endCdata :: es)).map (encodeText rep) =
        some ('<' :: (('!' :: '[' :: 'C' :: 'D' :: 'A' :: 'T' :: 'A' :: '[' :: (s ++ [']', ']', '>'])) ++ out'))) ∧
    (serRun st (FEv.other .startCdata :: FEv.other .endCdata :: es)).map (encodeText rep) =
      some ('<' :: (('!' :: '[' :: 'C' :: 'D' :: 'A' :: 'T' :: 'A' :: '[' :: ([] ++ [']', ']', '>'])) ++ out')) := by
  have hst' : ({ st with inCdata := false } : SerSt) = st := by obtain ⟨a, b, c⟩ := st; cases (hst : c = false); rfl
  have h3 := ser_glue rep (st := { st with inCdata := true }) (e := .other .endCdata) (by rw [serStep, hst'])
    (encodeText_rep rep _ (all_ascii hr.ok [']', ']', '>'] (by decide))) ih
  have h1 : ∀ {es' : List FEv} {o : Str}, (serRun { st with inCdata := true } es').map (encodeText rep) = some o →
      (serRun st (FEv.other .startCdata :: es')).map (encodeText rep) = some (['<', '!', '[', 'C', 'D', 'A', 'T', 'A', '['] ++ o) :=
    fun h => ser_glue rep rfl (encodeText_rep rep _ (all_ascii hr.ok _ (by decide))) h
  refine ⟨fun s hs => ?_, by simpa using h1 h3⟩
  simpa using h1 (ser_glue rep (e := .other (.text s false)) (by simp [serStep]) (encodeText_rep rep s hs) h3)

/-- a line break in front of markup (or the end) is a text token of its own -/
theorem Body.ws {rep : Char → Bool} {st : SerSt} {es : List FEv} {out' : Str} (r : Body rep st es out')
    (hnt : startsWithText es = false) :
    '\r' ∉ '\n' :: out' ∧ ∀ f, ('\n' :: out').length < f → tokGo f ('\n' :: out') = some (wsTok :: tokOf es) := by
  refine ⟨nm_cons (by decide) r.nocr, ?_⟩
  intro f hf
  obtain ⟨g, rfl⟩ : ∃ g, f = g + 1 := ⟨f - 1, by simp at hf; omega⟩
  have := tokGo_text g ['\n'] ['\n'] out' (by simp) (by decide) (by decide) (by decide) (r.head hnt)
  simp only [List.cons_append, List.nil_append] at this
  rw [this, r.tok g (by simp at hf; omega)]
  rfl

/-- The token loop reads back the serialisation of content in normal form.  Induction along `contentOK`,
    from the END of the list: each event contributes one piece (`<` + markup, a `Piece`, or a run of escaped
    character data, which stops at the `<` or the end that `Body.head` promises), glued in front of the result
    for the rest (`Body.glue`).  `hm` (the markup is representable) is what makes `encode` leave a piece alone. -/
theorem tokGo_content (rep : Char → Bool) (hr : AsciiRep rep) (dt : Bool) (fs : List FEv)
    (h : contentOK dt fs = true) (hm : repMarkupGo rep false fs = true) :
    ∀ (st : SerSt), st.inCdata = false → (dt = true → st.haveDoctype = false) → ∃ out, Body rep st fs out := by
  obtain ⟨m1, m2, m3, -, m5⟩ := markup_all hr.ok
  fun_induction contentOK dt fs
  · -- []
    intro st _ _
    exact ⟨[], rfl, by simp, fun _ => Or.inl rfl, fun f _ => by cases f <;> rfl⟩
  · -- start
    rename_i dt n a es ih
    intro st hst hdt
    simp only [Bool.and_eq_true, repMarkupGo] at h hm
    obtain ⟨out', r⟩ := ih h.2 hm.2 st hst hdt
    exact ⟨_, r.glue1 (piece_start rep hr n a false h.1.1 h.1.2) rfl (enc_emitStart rep hr n a false hm.1.1 hm.1.2) rfl⟩
  · -- empty
    rename_i dt n a es ih
    intro st hst hdt
    simp only [Bool.and_eq_true, repMarkupGo] at h hm
    obtain ⟨out', r⟩ := ih h.2 hm.2 st hst hdt
    exact ⟨_, r.glue1 (piece_start rep hr n a true h.1.1 h.1.2) rfl (enc_emitStart rep hr n a true hm.1.1 hm.1.2) rfl⟩
  · -- end
    rename_i dt n es ih
    intro st hst hdt
    simp only [Bool.and_eq_true, repMarkupGo] at h hm
    obtain ⟨out', r⟩ := ih h.2 hm.2 st hst hdt
    exact ⟨_, r.glue1 (piece_end n h.1) rfl (encodeText_rep rep _ (m1 n hm.1)) rfl⟩
  · -- text
    rename_i dt s safe es ih
    intro st hst hdt
    simp only [Bool.and_eq_true, Bool.not_eq_true', repMarkupGo] at h hm
    obtain ⟨⟨⟨⟨hsafe, hne⟩, hok⟩, hnt⟩, hes⟩ := h
    subst hsafe
    obtain ⟨out', r⟩ := ih hes hm.2 st hst hdt
    have hs : s ≠ [] := by intro e; simp [e] at hne
    obtain ⟨c1, c2, _, c4, c5⟩ := encEscStr_chars rep false s
    refine ⟨encEscStr rep false s ++ out', ?_, ?_, fun hh => by simp [startsWithText] at hh, ?_⟩
    · exact ser_glue rep (by simp [serStep, hst]) rfl r.ser
    · exact nm_app (c4 (okStr_parts hok).2) r.nocr
    · intro f hf
      obtain ⟨g, rfl⟩ : ∃ g, f = g + 1 := ⟨f - 1, by simp at hf; omega⟩
      have hpos := List.length_pos_iff.mpr (c5 hs)
      rw [tokGo_text g _ s out' (c5 hs) c1 c2 (decodeText_encEsc rep hr s hok) (r.head hnt),
        r.tok g (by simp at hf; omega)]
      simp [normF, tokOf]
  · -- comment
    rename_i dt s es ih
    intro st hst hdt
    simp only [Bool.and_eq_true, repMarkupGo] at h hm
    obtain ⟨out', r⟩ := ih h.2 hm.2 st hst hdt
    exact ⟨_, r.glue1 (piece_comment s h.1) rfl (encodeText_rep rep _ (m2 s hm.1)) rfl⟩
  · -- pi
    rename_i dt t d es ih
    intro st hst hdt
    simp only [Bool.and_eq_true, repMarkupGo] at h hm
    obtain ⟨out', r⟩ := ih h.2 hm.2 st hst hdt
    exact ⟨_, r.glue1 (piece_pi t d h.1) rfl (encodeText_rep rep _ (m3 t d hm.1.1 hm.1.2)) rfl⟩
  · -- CDATA with text
    rename_i dt s safe es ih
    intro st hst hdt
    simp only [Bool.and_eq_true, Bool.not_eq_true', repMarkupGo] at h hm
    obtain ⟨⟨⟨hsafe, hne⟩, hcd⟩, hes⟩ := h
    subst hsafe
    obtain ⟨out', r⟩ := ih hes hm.2 st hst hdt
    have pc := piece_cdata s hcd
    rw [hne, if_neg Bool.false_ne_true] at pc
    exact ⟨_, r.glue (pre := [FEv.other .startCdata, FEv.other (.text s false), FEv.other .endCdata]) pc
      ((ser_cdata rep hr hst r.ser).1 s hm.1) rfl⟩
  · -- empty CDATA
    rename_i dt es ih
    intro st hst hdt
    simp only [repMarkupGo] at hm
    obtain ⟨out', r⟩ := ih h hm st hst hdt
    exact ⟨_, r.glue (pre := [FEv.other .startCdata, FEv.other .endCdata]) (piece_cdata [] (by decide))
      (ser_cdata rep hr hst r.ser).2 rfl⟩
  · -- DOCTYPE
    rename_i n p s es ih
    intro st hst hdt
    simp only [Bool.and_eq_true, Bool.not_eq_true', repMarkupGo] at h hm
    obtain ⟨⟨hd, hnt⟩, hes⟩ := h
    have hhd := hdt rfl
    obtain ⟨out', r⟩ := ih hes hm.2 { st with haveDoctype := true } hst (fun e => by cases e)
    obtain ⟨m, hm1, pc⟩ := doctype_piece n p s hd
    obtain ⟨w1, w2⟩ := r.ws hnt
    have hser := ser_glue rep (st := st) (e := .other (.doctype n p s)) (by simp [serStep, hhd, hm1])
      (encodeText_rep rep _ (m5 n p s _ hm.1.1.1 hm.1.1.2 hm.1.2 hm1)) r.ser
    refine ⟨'<' :: (m ++ '\n' :: out'), by simpa using hser, nm_cons (by decide) (nm_app pc.nocr w1),
      fun _ => Or.inr ⟨_, rfl⟩, ?_⟩
    intro f hf
    obtain ⟨g, rfl⟩ : ∃ g, f = g + 1 := ⟨f - 1, by simp at hf; omega⟩
    rw [tokGo_markup g m ('\n' :: out') _ (pc.read _), w2 g (by simp at hf ⊢; omega)]
    rfl
  · -- anything else is outside `contentOK`
    cases h

end Genshi.Xml
