/-
  C02 — part D: from the token loop to `tokenize` on whole documents
  (`tokenize_ser`); the namespace stage does not see the line breaks of the
  prolog (`resolve_tokOf`).
-/
import Genshi.Lemmas.XmlTokC
namespace Genshi.Xml
open Genshi Genshi.Escape Genshi.Xml.Reader

theorem normEol_of_no_cr (s : Str) (h : '\r' ∉ s) : normEol s = s := by
  induction s with
  | nil => rfl
  | cons c cs ih =>
    have hc : c ≠ '\r' := fun e => h (by simp [e])
    have hcs : '\r' ∉ cs := fun e => h (by simp [e])
    unfold normEol
    split
    · rename_i heq; cases heq
    · rename_i heq; injection heq with h1 h2; exact absurd h1 hc
    · rename_i heq; injection heq with h1 h2; exact absurd h1 hc
    · rename_i heq; injection heq with h1 h2; subst h1; subst h2; rw [ih hcs]

theorem stripPrefix_eq_some {pre s rest : Str} (h : stripPrefix pre s = some rest) : s = pre ++ rest := by
  unfold stripPrefix at h
  split at h
  · rename_i hp
    obtain ⟨t, rfl⟩ := List.isPrefixOf_iff_prefix.mp hp
    simpa using h
  · cases h

/-- The token loop accepts no text that `tokenize` would take for the beginning of an XML
    declaration: `xml` is not a PI target. -/
theorem tokGo_not_decl (f : Nat) (rest : Str) (toks : List FEv)
    (h : tokGo f ('<' :: '?' :: 'x' :: 'm' :: 'l' :: rest) = some toks) :
    ∃ c r, rest = c :: r ∧ isSpace c = false := by
  have hstop : ¬ (rest = [] ∨ ∃ x r', rest = x :: r' ∧ isNameStop x = true) := by
    intro hr
    have hn := takeName_stop ['x', 'm', 'l'] (by decide) rest hr
    cases f with
    | zero => simp [tokGo] at h
    | succ f =>
      simp only [tokGo, takeMarkup] at h
      rw [show 'x' :: 'm' :: 'l' :: rest = ['x', 'm', 'l'] ++ rest from rfl, hn] at h
      simp [lowerAscii] at h
  cases rest with
  | nil => exact absurd (Or.inl rfl) hstop
  | cons c r =>
    refine ⟨c, r, rfl, ?_⟩
    cases hc : isSpace c with
    | false => rfl
    | true => exact absurd (Or.inr ⟨c, r, rfl, by simp [isNameStop, hc]⟩) hstop

theorem tokenize_of_tokGo (out : Str) (toks : List FEv) (hcr : '\r' ∉ out)
    (h : tokGo (out.length + 1) out = some toks) : tokenize out = some toks := by
  unfold tokenize
  simp only [normEol_of_no_cr out hcr]
  cases hs : stripPrefix ['<', '?', 'x', 'm', 'l'] out with
  | none => simpa using h
  | some rest =>
    rw [stripPrefix_eq_some hs] at h
    obtain ⟨c, r, rfl, hc⟩ := tokGo_not_decl _ rest toks h
    simp only [hc, Bool.false_eq_true, if_false]
    rw [stripPrefix_eq_some hs]
    exact h

theorem cr_not_mem_emitDecl {v : Str} {enc : Option Str} {sa : Int} (h : declOK v enc sa = true) :
    '\r' ∉ emitDecl v enc sa := by
  unfold declOK at h
  simp only [Bool.and_eq_true] at h
  refine cr_not_mem_of_all ((markup_all notCR_ok).2.2.2.1 v enc sa
    (all_of_cr_not_mem fun hm => absurd (version_chars h.1.1 _ hm) (by decide)) ?_)
  cases enc with
  | none => rfl
  | some e => exact all_of_cr_not_mem fun hm => absurd ((encname_chars h.1.2).2 _ hm) (by decide)

/-- **the tokenizer is a left inverse of the serializer followed by `encode`** on whole documents
    (`docTextOK`) whose markup the encoding can represent -/
theorem tokenize_ser (rep : Char → Bool) (hr : AsciiRep rep) (fs : List FEv)
    (h : docTextOK fs = true) (hm : repMarkup rep fs = true) :
    ∃ out, serRun SerSt.init fs = some out ∧ tokenize (encodeText rep out) = some (tokOf fs) := by
  unfold docTextOK at h
  split at h
  · rename_i v e sa rest
    simp only [Bool.and_eq_true, Bool.not_eq_true'] at h
    obtain ⟨⟨hd, hnt⟩, hc⟩ := h
    simp only [repMarkup, repMarkupGo, Bool.and_eq_true] at hm
    obtain ⟨out', r⟩ := tokGo_content rep hr true rest hc hm.2 { SerSt.init with haveDecl := true } rfl (fun _ => rfl)
    obtain ⟨w1, w2⟩ := r.ws hnt
    have hser := ser_glue rep (st := SerSt.init) (e := .other (.xmlDecl v e sa)) rfl
      (encodeText_rep rep _ ((markup_all hr.ok).2.2.2.1 v e sa hm.1.1 hm.1.2)) r.ser
    obtain ⟨o, ho, he⟩ := Option.map_eq_some_iff.mp hser
    refine ⟨o, ho, ?_⟩
    rw [he]
    have hcr : '\r' ∉ emitDecl v e sa ++ out' := nm_app (cr_not_mem_emitDecl hd) r.nocr
    unfold tokenize
    simp only [normEol_of_no_cr _ hcr]
    have e1 : emitDecl v e sa ++ out' = ['<', '?', 'x', 'm', 'l'] ++ (declTail v e sa ++ out') := by
      rw [emitDecl_eq]; simp
    rw [e1, stripPrefix_append]
    have e2 : ∃ r', declTail v e sa ++ out' = ' ' :: r' := ⟨_, rfl⟩
    obtain ⟨r', hr'⟩ := e2
    simp only [hr', isSpace_sp, if_true]
    rw [← hr', takeDecl_emit v e sa hd out']
    simp only
    rw [w2 _ (Nat.lt_succ_self _)]
    simp [tokOf]
  · obtain ⟨out, r⟩ := tokGo_content rep hr true fs h hm SerSt.init rfl (fun _ => rfl)
    obtain ⟨o, ho, rfl⟩ := Option.map_eq_some_iff.mp r.ser
    exact ⟨o, ho, tokenize_of_tokGo _ _ r.nocr (r.tok _ (Nat.lt_succ_self _))⟩

theorem resolveGo_ws (rst : RSt) (h : rst.open_.isEmpty = true) (es : List FEv) :
    resolveGo rst (wsTok :: es) = resolveGo rst es := by
  unfold wsTok
  rw [resolveGo]
  simp [h, isSpace]

theorem resolveGo_congr (f : FEv) {a b : List FEv} (h : ∀ rst, resolveGo rst a = resolveGo rst b) (rst : RSt) :
    resolveGo rst (f :: a) = resolveGo rst (f :: b) := by
  rcases f with _ | _ | _ | ev
  iterate 3 (rw [resolveGo, resolveGo]; simp only [h])
  cases ev <;> simp only [resolveGo, h]

theorem resolveGo_tokOf : ∀ (fs : List FEv) (rst : RSt),
    resolveGo rst (tokOf fs) = resolveGo rst (fs.map normF) := by
  intro fs
  induction fs with
  | nil => intro rst; rfl
  | cons e es ih =>
    intro rst
    rcases e with _ | _ | _ | ev
    iterate 3 exact resolveGo_congr _ ih rst
    cases ev with
    | doctype n p s =>
      simp only [tokOf, List.map_cons, normF]
      rw [resolveGo, resolveGo]
      by_cases hc : (rst.rootSeen || rst.doctypeSeen || !rst.open_.isEmpty) = true
      · simp [hc]
      · simp only [hc, Bool.false_eq_true, if_false]
        have ho : rst.open_.isEmpty = true := by
          cases h1 : rst.open_.isEmpty <;> simp_all
        rw [resolveGo_ws _ (by simpa using ho), ih]
    | xmlDecl v e s => simp only [tokOf, List.map_cons, normF]; simp [resolveGo]
    | _ => exact resolveGo_congr _ ih rst

theorem resolve_tokOf (fs : List FEv) : resolve (tokOf fs) = resolve (fs.map normF) := by
  rcases fs with _ | ⟨_ | _ | _ | ev, es⟩
  · rfl
  iterate 3 exact resolveGo_tokOf (_ :: es) _
  cases ev with
  | xmlDecl v e s =>
    simp only [tokOf, List.map_cons, normF, resolve]
    rw [resolveGo_ws _ rfl, resolveGo_tokOf]
  | _ => exact resolveGo_tokOf (_ :: es) _

end Genshi.Xml
