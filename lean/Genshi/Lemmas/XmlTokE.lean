/-
  C02 — the tokenizer reads back the prolog: XML declaration and DOCTYPE.
-/
import Genshi.Lemmas.XmlTokB
import Genshi.Model.XmlSpec
namespace Genshi.Xml
open Genshi Genshi.Escape Genshi.Xml.Reader

theorem stripPrefix_append (pre rest : Str) : stripPrefix pre (pre ++ rest) = some rest := by
  unfold stripPrefix
  rw [if_pos (isPrefixOf_self_append pre rest)]
  simp

theorem takeName_stop (n : Str) (hn : validName n = true) (r : Str)
    (hr : r = [] ∨ ∃ x r', r = x :: r' ∧ isNameStop x = true) : takeName (n ++ r) = (n, r) := by
  rcases hr with rfl | ⟨x, r', rfl, hx⟩
  · simpa using takeName_end n hn
  · exact takeName_until n x r' hn hx

theorem dropSpaces_name (n r : Str) (hn : validName n = true) : dropSpaces (n ++ r) = n ++ r := by
  obtain ⟨c, cs, rfl, hc⟩ := validName_head hn
  simp only [List.cons_append]
  exact dropSpaces_of_head (not_space_of_not_stop hc)

theorem dropSpaces_sp (c : Char) (r : Str) (h : isSpace c = false) : dropSpaces (' ' :: c :: r) = c :: r := by
  simp [dropSpaces, List.dropWhile, isSpace_sp, h]

theorem takeQuoted_sp (q : Char) (hq : q = '"' ∨ q = '\'') (v rest : Str) (hv : q ∉ v) :
    takeQuoted (dropSpaces (' ' :: q :: (v ++ q :: rest))) = some (v, rest) := by
  rcases hq with rfl | rfl
  · rw [dropSpaces_sp _ _ (by decide), takeQuoted_dq v rest hv]
  · rw [dropSpaces_sp _ _ (by decide), takeQuoted_sq v rest hv]

/-- the external identifier of a DOCTYPE as the serializer writes it, the system literal between `q`s -/
def extId (p s : Option Str) (q : Char) : Str :=
  match p, s with
  | none, some sy => [' ', 'S', 'Y', 'S', 'T', 'E', 'M'] ++ ' ' :: q :: (sy ++ [q])
  | some pu, some sy => [' ', 'P', 'U', 'B', 'L', 'I', 'C'] ++ ' ' :: '"' :: (pu ++ '"' :: ' ' :: q :: (sy ++ [q]))
  | _, _ => []

theorem takeDoctype_ext (n : Str) (p s : Option Str) (q : Char) (rest : Str) (hqc : q = '"' ∨ q = '\'')
    (hn : validName n = true) (hq : doctypeNameOk n = true)
    (hs : ∀ sy, s = some sy → q ∉ sy)
    (hp : ∀ pu, p = some pu → s.isSome = true ∧ pu.all isPubidChar = true ∧ normPubid pu = pu) :
    takeDoctype (' ' :: (n ++ (extId p s q ++ '>' :: rest))) = some (FEv.other (.doctype n p s), rest) := by
  obtain ⟨x, r, hx, hxs⟩ : ∃ x r, extId p s q ++ '>' :: rest = x :: r ∧ isNameStop x = true := by
    rcases p with _ | pu <;> rcases s with _ | sy <;> exact ⟨_, _, rfl, by decide⟩
  simp only [takeDoctype, isSpace_sp, Bool.not_true, Bool.false_eq_true, if_false]
  rw [dropSpaces_name n _ hn, hx, takeName_until n x r hn hxs, ← hx]
  simp only [hn, hq, Bool.not_true, Bool.or_self, Bool.false_eq_true, if_false]
  rcases p with _ | pu <;> rcases s with _ | sy
  · rw [show extId none none q ++ '>' :: rest = '>' :: rest from rfl, dropSpaces_of_head (c := '>') (by decide)]
    rfl
  · rw [show extId none (some sy) q ++ '>' :: rest =
      ' ' :: 'S' :: (['Y', 'S', 'T', 'E', 'M'] ++ ' ' :: q :: (sy ++ q :: '>' :: rest)) by simp [extId],
      dropSpaces_sp 'S' _ (by decide)]
    have e := stripPrefix_append ['S', 'Y', 'S', 'T', 'E', 'M'] (' ' :: q :: (sy ++ q :: '>' :: rest))
    simp only [List.cons_append, List.nil_append] at e ⊢
    split
    · rename_i heq; simp at heq
    · simp only [e, isSpace_sp, Bool.not_true, Bool.false_eq_true, if_false, takeQuoted_sp q hqc sy _ (hs sy rfl)]
      rw [dropSpaces_of_head (c := '>') (by decide)]
      rfl
  · exact absurd (hp pu rfl).1 (by simp)
  · obtain ⟨_, hpc, hpn⟩ := hp pu rfl
    have hpq : '"' ∉ pu := fun hm => absurd (List.all_eq_true.mp hpc '"' hm) (by decide)
    rw [show extId (some pu) (some sy) q ++ '>' :: rest =
      ' ' :: 'P' :: (['U', 'B', 'L', 'I', 'C'] ++ ' ' :: '"' :: (pu ++ '"' :: ' ' :: q :: (sy ++ q :: '>' :: rest))) by
        simp [extId],
      dropSpaces_sp 'P' _ (by decide)]
    have e := stripPrefix_append ['P', 'U', 'B', 'L', 'I', 'C'] (' ' :: '"' :: (pu ++ '"' :: ' ' :: q :: (sy ++ q :: '>' :: rest)))
    have e' : stripPrefix ['S', 'Y', 'S', 'T', 'E', 'M']
        ('P' :: 'U' :: 'B' :: 'L' :: 'I' :: 'C' :: ' ' :: '"' :: (pu ++ '"' :: ' ' :: q :: (sy ++ q :: '>' :: rest))) = none := rfl
    simp only [List.cons_append, List.nil_append] at e ⊢
    split
    · rename_i heq; simp at heq
    · simp only [e, e', isSpace_sp, Bool.not_true, Bool.false_eq_true, if_false, takeQuoted_sp '"' (Or.inl rfl) pu _ hpq,
        takeQuoted_sp q hqc sy _ (hs sy rfl)]
      rw [dropSpaces_of_head (c := '>') (by decide)]
      simp only [hpc, hpn, if_true]
/-- a pseudo-attribute of the XML declaration as `emitDecl` writes it -/
def pseudo (name v : Str) : Str := ' ' :: (name ++ '=' :: '"' :: (v ++ ['"']))

theorem takePseudo_hit (name v after : Str) (hn : ∃ c cs, name = c :: cs ∧ isSpace c = false) (hv : '"' ∉ v) :
    takePseudo name (pseudo name v ++ after) = some (v, after) := by
  obtain ⟨c, cs, rfl, hc⟩ := hn
  simp only [pseudo, List.cons_append, List.append_assoc, List.nil_append, takePseudo, isSpace_sp, Bool.not_true,
    Bool.false_eq_true, if_false]
  rw [dropSpaces_of_head hc, ← List.cons_append, stripPrefix_append]
  simp only [Option.map_some]
  rw [dropSpaces_of_head (c := '=') (by decide)]
  simp only
  rw [dropSpaces_of_head (c := '"') (by decide), takeQuoted_dq v after hv]

theorem takePseudo_miss (d : Char) (ds : Str) (c : Char) (r : Str) (hc : isSpace c = false) :
    takePseudo (d :: ds) (c :: r) = none ∧ (d ≠ c → takePseudo (d :: ds) (' ' :: c :: r) = none) := by
  refine ⟨by simp [takePseudo, hc], fun hne => ?_⟩
  have : stripPrefix (d :: ds) (c :: r) = none := by simp [stripPrefix, List.isPrefixOf, hne]
  simp [takePseudo, isSpace_sp, dropSpaces_of_head hc, this]

def encPart (enc : Option Str) : Str :=
  match enc with
  | some e => if e.isEmpty then [] else [' ', 'e', 'n', 'c', 'o', 'd', 'i', 'n', 'g', '=', '"'] ++ e ++ ['"']
  | none => []

def saPart (sa : Int) : Str :=
  if sa = -1 then []
  else [' ', 's', 't', 'a', 'n', 'd', 'a', 'l', 'o', 'n', 'e', '=', '"']
       ++ (if sa = 0 then ['n', 'o'] else ['y', 'e', 's']) ++ ['"']

theorem encPart_some (e : Str) (h : e.isEmpty = false) :
    encPart (some e) = pseudo ['e', 'n', 'c', 'o', 'd', 'i', 'n', 'g'] e := by
  simp [encPart, pseudo, h]

theorem saPart_eq (sa : Int) : saPart sa =
    if sa = -1 then [] else pseudo ['s', 't', 'a', 'n', 'd', 'a', 'l', 'o', 'n', 'e'] (if sa = 0 then ['n', 'o'] else ['y', 'e', 's']) := by
  unfold saPart pseudo
  split <;> simp

/-- the part of the declaration after `<?xml`, as `emitDecl` writes it -/
def declTail (v : Str) (enc : Option Str) (sa : Int) : Str :=
  pseudo ['v', 'e', 'r', 's', 'i', 'o', 'n'] v ++ (encPart enc ++ (saPart sa ++ ['?', '>', '\n']))

theorem emitDecl_eq (v : Str) (enc : Option Str) (sa : Int) :
    emitDecl v enc sa = ['<', '?', 'x', 'm', 'l'] ++ declTail v enc sa := by
  show ['<', '?', 'x', 'm', 'l', ' ', 'v', 'e', 'r', 's', 'i', 'o', 'n', '=', '"'] ++ v ++ ['"'] ++ encPart enc ++
    saPart sa ++ ['?', '>', '\n'] = _
  simp only [declTail, pseudo, List.append_assoc, List.cons_append, List.nil_append]

/-- the characters of a version number: none of them is a quote or a CR (by `decide` at the use) -/
theorem version_chars {v : Str} (h : validVersion v = true) :
    ∀ c ∈ v, (isAlpha c || isDigit c || c = '_' || c = '.' || c = '-') = true := by
  unfold validVersion at h
  simp only [Bool.and_eq_true, List.all_eq_true] at h
  exact h.2

theorem encname_chars {e : Str} (h : validEncName e = true) :
    e ≠ [] ∧ ∀ c ∈ e, (isAlpha c || isDigit c || c = '.' || c = '_' || c = '-') = true := by
  unfold validEncName at h
  cases e with
  | nil => cases h
  | cons c cs =>
    simp only [Bool.and_eq_true, List.all_eq_true] at h
    refine ⟨List.cons_ne_nil c cs, fun x hx => ?_⟩
    rcases List.mem_cons.mp hx with rfl | hx
    · rw [h.1]; rfl
    · exact h.2 x hx

theorem takeDecl_of {s s1 s2 s3 rest v : Str} {eo : Option Str} {sa : Int}
    (h1 : takePseudo ['v', 'e', 'r', 's', 'i', 'o', 'n'] s = some (v, s1)) (hv : validVersion v = true)
    (h2 : takePseudo ['e', 'n', 'c', 'o', 'd', 'i', 'n', 'g'] s1 = eo.map (·, s2)) (h2n : eo = none → s2 = s1)
    (he : ∀ e, eo = some e → validEncName e = true)
    (hsa : (sa = -1 ∨ sa = 0) ∨ sa = 1)
    (h3 : takePseudo ['s', 't', 'a', 'n', 'd', 'a', 'l', 'o', 'n', 'e'] s2 =
      if sa = -1 then none else some (if sa = 0 then ['n', 'o'] else ['y', 'e', 's'], s3))
    (h3n : sa = -1 → s3 = s2) (h4 : dropSpaces s3 = '?' :: '>' :: rest) :
    takeDecl s = some (FEv.other (.xmlDecl v eo sa), rest) := by
  unfold takeDecl
  simp only [h1, hv, Bool.not_true, Bool.false_eq_true, if_false]
  -- what remains once the encoding is read, for either outcome
  have fin : ∀ s', (sa = -1 → s3 = s') →
      takePseudo ['s', 't', 'a', 'n', 'd', 'a', 'l', 'o', 'n', 'e'] s' =
        (if sa = -1 then none else some (if sa = 0 then ['n', 'o'] else ['y', 'e', 's'], s3)) →
      (match (match takePseudo ['s', 't', 'a', 'n', 'd', 'a', 'l', 'o', 'n', 'e'] s' with
          | some (['y', 'e', 's'], r) => some ((1 : Int), r)
          | some (['n', 'o'], r) => some (0, r)
          | some _ => none
          | none => some (-1, s')) with
        | none => none
        | some (sa', s3') =>
          match dropSpaces s3' with
          | '?' :: '>' :: rest => some (FEv.other (.xmlDecl v eo sa'), rest)
          | _ => none) = some (FEv.other (.xmlDecl v eo sa), rest) := by
    intro s' hn h3
    rcases hsa with (rfl | rfl) | rfl
    · cases hn rfl; simp only [h3, if_true, h4]
    · simp only [h3, show ((0 : Int) = -1) = False by decide, if_false, if_true, h4]
    · simp only [h3, show ((1 : Int) = -1) = False by decide, show ((1 : Int) = 0) = False by decide, if_false, h4]
  cases eo with
  | none =>
    cases h2n rfl
    simp only [h2, Option.map_none, Option.getD_none, Bool.not_true, Bool.false_eq_true, if_false]
    exact fin _ h3n h3
  | some e =>
    simp only [h2, Option.map_some, Option.getD_some, he e rfl, Bool.not_true, Bool.false_eq_true, if_false]
    exact fin _ h3n h3

theorem takePseudo_saPart (sa : Int) (r : Str) :
    takePseudo ['e', 'n', 'c', 'o', 'd', 'i', 'n', 'g'] (saPart sa ++ '?' :: '>' :: r) = none ∧
    takePseudo ['s', 't', 'a', 'n', 'd', 'a', 'l', 'o', 'n', 'e'] (saPart sa ++ '?' :: '>' :: r) =
      if sa = -1 then none else some (if sa = 0 then ['n', 'o'] else ['y', 'e', 's'], '?' :: '>' :: r) := by
  rw [saPart_eq]
  split
  · exact ⟨(takePseudo_miss _ _ '?' _ (by decide)).1, (takePseudo_miss _ _ '?' _ (by decide)).1⟩
  · exact ⟨(takePseudo_miss 'e' _ 's' _ (by decide)).2 (by decide),
      takePseudo_hit _ _ _ ⟨'s', _, rfl, by decide⟩ (by split <;> decide)⟩

theorem takeDecl_emit (v : Str) (enc : Option Str) (sa : Int) (h : declOK v enc sa = true) (rest : Str) :
    takeDecl (declTail v enc sa ++ rest) = some (FEv.other (.xmlDecl v enc sa), '\n' :: rest) := by
  unfold declOK at h
  simp only [Bool.and_eq_true, Bool.or_eq_true, decide_eq_true_eq] at h
  obtain ⟨⟨hv, he⟩, hsa⟩ := h
  have he' : ∀ e, enc = some e → validEncName e = true := by rintro e rfl; exact he
  obtain ⟨s1, s2⟩ := takePseudo_saPart sa ('\n' :: rest)
  have e0 : declTail v enc sa ++ rest = pseudo ['v', 'e', 'r', 's', 'i', 'o', 'n'] v ++
      (encPart enc ++ (saPart sa ++ '?' :: '>' :: '\n' :: rest)) := by simp [declTail]
  rw [e0]
  refine takeDecl_of (s2 := saPart sa ++ '?' :: '>' :: '\n' :: rest)
    (takePseudo_hit _ v _ ⟨'v', _, rfl, by decide⟩ (fun hm => absurd (version_chars hv _ hm) (by decide))) hv ?_ ?_ he' hsa s2
    (by rintro rfl; rfl) (dropSpaces_of_head (by decide))
  · cases enc with
    | none => exact s1
    | some e =>
      obtain ⟨hne, hch⟩ := encname_chars (he' e rfl)
      have hq : '"' ∉ e := fun hm => absurd (hch _ hm) (by decide)
      have hee : e.isEmpty = false := by simpa using hne
      rw [encPart_some e hee]
      exact takePseudo_hit _ e _ ⟨'e', _, rfl, by decide⟩ hq
  · rintro rfl; rfl
end Genshi.Xml
