/-
  C02 — the names the flattener writes can be written: every prefix it binds is
  empty or an XML name the encoding can represent, every URI it declares can be
  an attribute value (part A: one start tag).
-/
import Genshi.Lemmas.XmlTokA
import Genshi.Lemmas.XmlFlatA
namespace Genshi.Xml
open Genshi Genshi.Escape Genshi.Xml.Reader

/-- every prefix bound is empty or a name that can be written; `DeclTxt`: so is every prefix of a list of
    declarations, and every URI in it can be an attribute value (declarations are written, bindings only looked
    up); `TagTxt` both for a tag state -/
def BindTxt (rep : Char → Bool) (bs : List Binding) : Prop :=
  ∀ b ∈ bs, prefixTxt rep b.1 = true

def DeclTxt (rep : Char → Bool) (ds : List (Str × Str)) : Prop :=
  ∀ d ∈ ds, prefixTxt rep d.1 = true ∧ uriTxt d.2 = true

structure TagTxt (rep : Char → Bool) (t : TagSt) : Prop where
  bind : BindTxt rep t.bindings
  decl : DeclTxt rep t.declared

theorem TagTxt.push {rep : Char → Bool} {t : TagSt} (h : TagTxt rep t) (p u : Str) (a : Bool) (c : Nat)
    (hp : prefixTxt rep p = true) (hu : uriTxt u = true) :
    TagTxt rep { bindings := (p, u, a) :: t.bindings, declared := t.declared ++ [(p, u)], counter := c } := by
  constructor
  · intro b hb
    rcases List.mem_cons.mp hb with rfl | hb
    · exact hp
    · exact h.bind b hb
  · intro d hd
    rcases List.mem_append.mp hd with hd | hd
    · exact h.decl d hd
    · simp only [List.mem_singleton] at hd; subst hd; exact ⟨hp, hu⟩

theorem takePending_txt (rep : Char → Bool) (P : List (Str × Str)) :
    ∀ t : TagSt, TagTxt rep t → DeclTxt rep P → TagTxt rep (takePending t P) := by
  induction P with
  | nil => intro t h _; exact h
  | cons d rest ih =>
    intro t h hP
    obtain ⟨p, u⟩ := d
    have hd := hP (p, u) (by simp)
    have hrest : DeclTxt rep rest := fun x hx => hP x (by simp [hx])
    unfold takePending
    split
    · exact ih _ (h.push p u false t.counter hd.1 hd.2) hrest
    · exact ih t h hrest

theorem digit_not_stop : ∀ m, m < 10 → isNameStop (digitChar m) = false := by
  decide +kernel

theorem digitChar_mod (k : Nat) : digitChar k = digitChar (k % 10) := by
  simp [digitChar]

/-- a name of ASCII characters can be written under every encoding that contains ASCII -/
theorem nameTxt_ascii (rep : Char → Bool) (hr : AsciiRep rep) {n : Str} (hv : validName n = true)
    (ha : ∀ c ∈ n, c.toNat < 128) : nameTxt rep n = true := by
  unfold nameTxt
  rw [hv, Bool.true_and]
  exact List.all_eq_true.mpr fun c hc => hr c (ha c hc)

theorem nsName_txt (rep : Char → Bool) (hr : AsciiRep rep) (n : Nat) : nameTxt rep (nsName n) = true := by
  have hc : ∀ c ∈ 'n' :: 's' :: dec n, isNameStop c = false ∧ c.toNat < 128 := by
    intro c hc
    simp only [List.mem_cons] at hc
    rcases hc with rfl | rfl | hc
    · decide
    · decide
    · obtain ⟨k, rfl⟩ := decF_chars n n c hc
      exact ⟨digitChar_mod k ▸ digit_not_stop _ (Nat.mod_lt _ (by decide)), isDigit_ascii (isDigit_digitChar k)⟩
  refine nameTxt_ascii rep hr ?_ fun c h => (hc c h).2
  simp only [nsName, validName, Bool.and_eq_true, List.all_eq_true, Bool.not_eq_true']
  exact ⟨by decide, fun c h => (hc c h).1⟩

theorem prefTxt_lookup {rep : Char → Bool} {pref : List (Str × Str)} (h : prefTxt rep pref = true)
    {uri p : Str} (hl : List.lookup uri pref = some p) : prefixTxt rep p = true :=
  List.all_eq_true.mp h (uri, p) (lookup_mem hl)

theorem prefixTxt_of_nameTxt {rep : Char → Bool} {p : Str} (h : nameTxt rep p = true) : prefixTxt rep p = true := by
  unfold prefixTxt; simp [h]

theorem nameTxt_of_prefixTxt {rep : Char → Bool} {p : Str} (h : prefixTxt rep p = true) (hp : p ≠ []) :
    nameTxt rep p = true := by
  unfold prefixTxt at h
  simpa [hp] using h

theorem freshPrefix_txt (rep : Char → Bool) (hr : AsciiRep rep) (pref : List (Str × Str))
    (hp : prefTxt rep pref = true) (bs : List Binding) (uri : Str) (c : Nat) :
    prefixTxt rep (freshPrefix pref bs uri c).1 = true := by
  rcases freshPrefix_cases pref bs uri c with ⟨p, hl, _, _, e⟩ | ⟨n, e, _⟩ <;> rw [e]
  · exact prefTxt_lookup hp hl
  · exact prefixTxt_of_nameTxt (nsName_txt rep hr n)

theorem declare_txt (rep : Char → Bool) (hr : AsciiRep rep) (pref : List (Str × Str))
    (hp : prefTxt rep pref = true) (t : TagSt) (h : TagTxt rep t) (uri : Str) (hu : uriTxt uri = true)
    (pfx : Option Str) (hpfx : ∀ p, pfx = some p → prefixTxt rep p = true) :
    TagTxt rep (declare pref t uri pfx).2 ∧ prefixTxt rep (declare pref t uri pfx).1 = true := by
  unfold declare
  cases pfx with
  | none =>
    simp only
    exact ⟨h.push _ uri true _ (freshPrefix_txt rep hr pref hp _ _ _) hu, freshPrefix_txt rep hr pref hp _ _ _⟩
  | some p =>
    simp only
    split
    · exact ⟨h.push _ uri true _ (freshPrefix_txt rep hr pref hp _ _ _) hu, freshPrefix_txt rep hr pref hp _ _ _⟩
    · exact ⟨h.push p uri true _ (hpfx p rfl) hu, hpfx p rfl⟩

theorem prefixTxt_nil (rep : Char → Bool) : prefixTxt rep [] = true := by simp [prefixTxt]

theorem validName_append_colon {p l : Str} (hp : validName p = true) (hl : validName l = true) :
    validName (p ++ ':' :: l) = true := by
  obtain ⟨c, cs, rfl, _⟩ := validName_head hp
  unfold validName at hp hl ⊢
  cases l with
  | nil => simp at hl
  | cons d ds =>
    simp only [List.cons_append, Bool.and_eq_true, Bool.not_eq_true', List.all_cons, List.all_append,
      List.all_eq_true] at hp hl ⊢
    refine ⟨hp.1, hp.2.1, ⟨fun x hx => hp.2.2 x hx, by decide, hl.2.1, fun x hx => hl.2.2 x hx⟩⟩

theorem nameTxt_qualified (rep : Char → Bool) (hr : AsciiRep rep) {p l : Str}
    (hp : nameTxt rep p = true) (hl : nameTxt rep l = true) : nameTxt rep (p ++ ':' :: l) = true := by
  unfold nameTxt at *
  simp only [Bool.and_eq_true] at hp hl ⊢
  refine ⟨validName_append_colon hp.1 hl.1, ?_⟩
  simp only [List.all_append, List.all_cons, Bool.and_eq_true]
  exact ⟨hp.2, hr _ (by decide), hl.2⟩

theorem nameTxt_qualify (rep : Char → Bool) (hr : AsciiRep rep) {p l : Str}
    (hp : prefixTxt rep p = true) (hl : nameTxt rep l = true) : nameTxt rep (qualify p l) = true := by
  unfold qualify
  by_cases he : p.isEmpty = true
  · simp [he, hl]
  · simp only [he, Bool.false_eq_true, if_false]
    exact nameTxt_qualified rep hr (nameTxt_of_prefixTxt hp (by simpa using he)) hl

theorem BindTxt.of_uriOf {rep : Char → Bool} {bs : List Binding} (h : BindTxt rep bs) {p u : Str}
    (hu : uriOf bs p = some u) : prefixTxt rep p = true := by
  by_cases hp : p = []
  · subst hp; exact prefixTxt_nil rep
  · obtain ⟨a, ha⟩ := uriOf_some_mem bs p u hp hu
    exact h _ ha

theorem qnameTxt_parts {rep : Char → Bool} {q : QName} (h : qnameTxt rep q = true) :
    nameTxt rep q.loc = true ∧ uriTxt q.ns = true := by
  unfold qnameTxt at h; simpa using h

theorem flatTag_txt (rep : Char → Bool) (hr : AsciiRep rep) (pref : List (Str × Str))
    (hp : prefTxt rep pref = true) (t : TagSt) (h : TagTxt rep t) (tag : QName) (hq : qnameTxt rep tag = true) :
    TagTxt rep (flatTag pref t tag).2 ∧ nameTxt rep (flatTag pref t tag).1 = true := by
  obtain ⟨hl, hu⟩ := qnameTxt_parts hq
  unfold flatTag
  split
  · split
    · split
      · exact ⟨(declare_txt rep hr pref hp t h [] (by decide) (some []) (fun p e => by cases e; exact prefixTxt_nil rep)).1, hl⟩
      · exact ⟨h, hl⟩
    · exact ⟨h, hl⟩
  · split
    · rename_i p hf
      exact ⟨h, nameTxt_qualify rep hr (h.bind.of_uriOf (findPrefix_sound _ _ _ _ hf).1) hl⟩
    · have := declare_txt rep hr pref hp t h tag.ns hu (some []) (fun p e => by cases e; exact prefixTxt_nil rep)
      exact ⟨this.1, nameTxt_qualify rep hr this.2 hl⟩

theorem attrsTxt_parts {rep : Char → Bool} {a : QName × Str} {rest : AttrList}
    (h : attrsTxt rep (a :: rest) = true) :
    qnameTxt rep a.1 = true ∧ attrValOK a.2 = true ∧ attrsTxt rep rest = true := by
  unfold attrsTxt at *
  simp only [List.all_cons, Bool.and_eq_true] at h
  exact ⟨h.1.1, h.1.2, h.2⟩

theorem flatAttrs_txt (rep : Char → Bool) (hr : AsciiRep rep) (pref : List (Str × Str))
    (hp : prefTxt rep pref = true) (attrs : AttrList) :
    ∀ (t : TagSt), TagTxt rep t → attrsTxt rep attrs = true →
      TagTxt rep (flatAttrs pref t attrs).2 ∧
      ∀ o ∈ (flatAttrs pref t attrs).1, nameTxt rep o.1 = true ∧ attrValOK o.2 = true := by
  induction attrs with
  | nil => intro t h _; exact ⟨h, by simp [flatAttrs]⟩
  | cons av rest ih =>
    intro t h ha
    obtain ⟨a, v⟩ := av
    obtain ⟨hq, hv, hrest⟩ := attrsTxt_parts ha
    obtain ⟨hl, hu⟩ := qnameTxt_parts hq
    unfold flatAttrs
    split
    · obtain ⟨i1, i2⟩ := ih t h hrest
      exact ⟨i1, List.forall_mem_cons.mpr ⟨⟨hl, hv⟩, i2⟩⟩
    · split
      · rename_i p hf
        obtain ⟨i1, i2⟩ := ih t h hrest
        have hs := findPrefix_sound _ _ _ _ hf
        exact ⟨i1, List.forall_mem_cons.mpr
          ⟨⟨nameTxt_qualified rep hr (nameTxt_of_prefixTxt (h.bind.of_uriOf hs.1) (hs.2 rfl)) hl, hv⟩, i2⟩⟩
      · have hd := declare_txt rep hr pref hp t h a.ns hu none (fun p e => by cases e)
        obtain ⟨i1, i2⟩ := ih _ hd.1 hrest
        have hne : (declare pref t a.ns none).1 ≠ [] := by
          unfold declare
          exact freshPrefix_ne_nil pref t.bindings a.ns t.counter
        exact ⟨i1, List.forall_mem_cons.mpr ⟨⟨nameTxt_qualified rep hr (nameTxt_of_prefixTxt hd.2 hne) hl, hv⟩, i2⟩⟩

end Genshi.Xml
