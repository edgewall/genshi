/-
  C02 — part B: the whole run; the text-level hypotheses follow from their
  input-side form (`inputTextOK`).
-/
import Genshi.Lemmas.XmlTxtA
-- for `Lemmas/XmlEncode.lean`; through `XmlTokC` because both files run `fun_induction contentOK`, and the auxiliary
-- declarations that generates must not come into being in two branches of the import graph
import Genshi.Lemmas.XmlTokC
namespace Genshi.Xml
open Genshi Genshi.Escape Genshi.Xml.Reader

/-- the invariant of the run: `BindTxt` for the bindings, `DeclTxt` for the pending requests, and the names
    remembered for the END tags can be written -/
structure TxtInv (rep : Char → Bool) (st : FSt) : Prop where
  bind : BindTxt rep st.bindings
  pend : DeclTxt rep st.pending
  elems : ∀ e ∈ st.elems, nameTxt rep e.1 = true

theorem nameTxt_xmlns (rep : Char → Bool) (hr : AsciiRep rep) : nameTxt rep xmlnsName = true :=
  nameTxt_ascii rep hr (by decide +kernel) (by decide)

theorem nameTxt_nsAttrName (rep : Char → Bool) (hr : AsciiRep rep) {p : Str} (hp : prefixTxt rep p = true) :
    nameTxt rep (nsAttrName p) = true := by
  unfold nsAttrName
  by_cases he : p.isEmpty = true
  · simp [he, nameTxt_xmlns rep hr]
  · simp only [he, Bool.false_eq_true, if_false]
    exact nameTxt_qualified rep hr (nameTxt_xmlns rep hr) (nameTxt_of_prefixTxt hp (by simpa using he))

theorem flatStart_txt (rep : Char → Bool) (hr : AsciiRep rep) (pref : List (Str × Str))
    (hp : prefTxt rep pref = true) (st : FSt) (inv : TxtInv rep st) (tag : QName) (attrs : AttrList)
    (hq : qnameTxt rep tag = true) (ha : attrsTxt rep attrs = true) :
    nameTxt rep (flatStart pref st tag attrs).1 = true ∧
    (∀ o ∈ (flatStart pref st tag attrs).2.1, nameTxt rep o.1 = true ∧ attrValOK o.2 = true) ∧
    TagTxt rep (flatStart pref st tag attrs).2.2 := by
  have t0 : TagTxt rep (takePending { bindings := st.bindings, declared := [], counter := st.counter } st.pending) :=
    takePending_txt rep st.pending _ ⟨inv.bind, by intro d hd; simp at hd⟩ inv.pend
  obtain ⟨t1, n1⟩ := flatTag_txt rep hr pref hp _ t0 tag hq
  obtain ⟨t2, a2⟩ := flatAttrs_txt rep hr pref hp attrs _ t1 ha
  unfold flatStart
  simp only
  refine ⟨n1, ?_, t2⟩
  intro o ho
  rcases List.mem_append.mp ho with ho | ho
  · simp only [List.mem_map] at ho
    obtain ⟨d, hd, rfl⟩ := ho
    have := t2.decl d hd
    exact ⟨nameTxt_nsAttrName rep hr this.1, this.2⟩
  · exact a2 o ho

/-- an output event and the corresponding event of the skeleton: a tag of the same kind whose name and attributes
    can be written, or the same copied event -/
inductive SimF (rep : Char → Bool) : FEv → FEv → Prop
  | start {n m : Str} {a b : List (Str × Str)} (hn : nameTxt rep n = true)
      (ha : ∀ o ∈ a, nameTxt rep o.1 = true ∧ attrValOK o.2 = true) : SimF rep (.start n a) (.start m b)
  | empty {n m : Str} {a b : List (Str × Str)} (hn : nameTxt rep n = true)
      (ha : ∀ o ∈ a, nameTxt rep o.1 = true ∧ attrValOK o.2 = true) : SimF rep (.empty n a) (.empty m b)
  | end_ {n m : Str} (hn : nameTxt rep n = true) : SimF rep (.end_ n) (.end_ m)
  | other (e : Event) : SimF rep (.other e) (.other e)

/-- `inputTextOK` asks for names that can be written on the input events (`evTxt`) and in the preferred-prefix
    table, and for everything else on the skeleton: the stream with each tag replaced by a dummy name without attributes, namespace events dropped. The
    flattener's output matches the skeleton event by event (`SimF`), its tags carrying names and attribute values
    that can be written. -/
theorem flatRun_sim (rep : Char → Bool) (hr : AsciiRep rep) (pref : List (Str × Str))
    (hp : prefTxt rep pref = true) :
    ∀ (xs : List XEv) (st : FSt), TxtInv rep st → xs.all (evTxt rep) = true →
      List.Forall₂ (SimF rep) (flatRun pref st xs) (skeleton xs) := by
  intro xs
  induction xs with
  | nil => intro st _ _; exact .nil
  | cons x xs ih =>
    intro st inv hall
    obtain ⟨hx, hxs⟩ : evTxt rep x = true ∧ xs.all (evTxt rep) = true := by simpa using hall
    rw [flatRun_cons]
    cases x with
    | empty tag attrs =>
      simp only [evTxt, Bool.and_eq_true] at hx
      obtain ⟨n1, a1, t1⟩ := flatStart_txt rep hr pref hp st inv tag attrs hx.1 hx.2
      simp only [flatStep, skeleton, List.cons_append, List.nil_append]
      refine .cons (.empty n1 a1) (ih _ ⟨inv.bind, by intro d hd; simp at hd, inv.elems⟩ hxs)
    | ev e =>
      cases e with
      | start tag attrs =>
        simp only [evTxt, Bool.and_eq_true] at hx
        obtain ⟨n1, a1, t1⟩ := flatStart_txt rep hr pref hp st inv tag attrs hx.1 hx.2
        simp only [flatStep, skeleton, List.cons_append, List.nil_append]
        refine .cons (.start n1 a1) (ih _ ⟨t1.bind, by intro d hd; simp at hd, ?_⟩ hxs)
        intro e he
        rcases List.mem_cons.mp he with rfl | he
        · exact n1
        · exact inv.elems e he
      | end_ tag =>
        simp only [evTxt] at hx
        obtain ⟨hl, _⟩ := qnameTxt_parts hx
        simp only [flatStep, skeleton]
        cases hel : st.elems with
        | nil =>
          simp only [List.cons_append, List.nil_append]
          refine .cons (.end_ ?_) (ih _ inv hxs)
          split
          · exact hl
          · split
            · rename_i p hf
              exact nameTxt_qualify rep hr (inv.bind.of_uriOf (findPrefix_sound _ _ _ _ hf).1) hl
            · exact hl
        | cons top rest =>
          obtain ⟨name, n⟩ := top
          simp only [List.cons_append, List.nil_append]
          refine .cons (.end_ ?_) (ih _ ⟨?_, inv.pend, ?_⟩ hxs)
          · exact inv.elems (name, n) (by rw [hel]; simp)
          · intro b hb; exact inv.bind b (List.mem_of_mem_drop hb)
          · intro e he; exact inv.elems e (by rw [hel]; simp [he])
      | startNs p u =>
        simp only [evTxt, Bool.and_eq_true] at hx
        simp only [flatStep, skeleton, List.nil_append]
        refine ih { st with pending := st.pending.filter (fun d => d.1 ≠ p) ++ [(p, u)] } ⟨inv.bind, ?_, inv.elems⟩ hxs
        intro d hd
        rcases List.mem_append.mp hd with hd | hd
        · exact inv.pend d (List.mem_filter.mp hd).1
        · simp only [List.mem_singleton] at hd; subst hd; exact hx
      | endNs p =>
        simp only [flatStep, skeleton, List.nil_append]
        refine ih { st with pending := st.pending.filter (fun d => d.1 ≠ p) } ⟨inv.bind, ?_, inv.elems⟩ hxs
        intro d hd
        exact inv.pend d (List.mem_filter.mp hd).1
      | _ => simp only [flatStep, skeleton, List.cons_append, List.nil_append]; exact .cons (.other _) (ih _ inv hxs)

theorem sim_startsWithText {rep : Char → Bool} {fs gs : List FEv} (h : List.Forall₂ (SimF rep) fs gs) :
    startsWithText fs = startsWithText gs := by
  cases h with
  | nil => rfl
  | cons h1 _ => cases h1 with
    | other e => cases e <;> rfl
    | _ => rfl

theorem nameTxt_valid {rep : Char → Bool} {n : Str} (h : nameTxt rep n = true) : validName n = true ∧ n.all rep = true := by
  unfold nameTxt at h; simpa using h

theorem flatAttrsOK_of_txt {rep : Char → Bool} {a : List (Str × Str)}
    (h : ∀ o ∈ a, nameTxt rep o.1 = true ∧ attrValOK o.2 = true) :
    flatAttrsOK a = true ∧ a.all (fun x => x.1.all rep) = true := by
  unfold flatAttrsOK
  refine ⟨List.all_eq_true.mpr fun o ho => ?_, List.all_eq_true.mpr fun o ho => (nameTxt_valid (h o ho).1).2⟩
  simp only [Bool.and_eq_true]
  exact ⟨(nameTxt_valid (h o ho).1).1, (h o ho).2⟩

/-- `contentOK` looks at a tag only for what `SimF` guarantees of it, so it passes from the skeleton to the
    flattener's output, case by case along `contentOK` (`repMarkupGo_sim` does the same for `repMarkup`). -/
theorem contentOK_sim (rep : Char → Bool) (dt : Bool) (gs : List FEv) (hg : contentOK dt gs = true) :
    ∀ fs, List.Forall₂ (SimF rep) fs gs → contentOK dt fs = true := by
  fun_induction contentOK dt gs
  · intro fs h; cases h; rfl
  · rename_i dt n a es ih
    intro fs h
    cases h with | cons h1 h2 =>
    cases h1 with | start hn ha =>
    simp only [contentOK, Bool.and_eq_true] at hg ⊢
    exact ⟨⟨(nameTxt_valid hn).1, (flatAttrsOK_of_txt ha).1⟩, ih hg.2 _ h2⟩
  · rename_i dt n a es ih
    intro fs h
    cases h with | cons h1 h2 =>
    cases h1 with | empty hn ha =>
    simp only [contentOK, Bool.and_eq_true] at hg ⊢
    exact ⟨⟨(nameTxt_valid hn).1, (flatAttrsOK_of_txt ha).1⟩, ih hg.2 _ h2⟩
  · rename_i dt n es ih
    intro fs h
    cases h with | cons h1 h2 =>
    cases h1 with | end_ hn =>
    simp only [contentOK, Bool.and_eq_true] at hg ⊢
    exact ⟨(nameTxt_valid hn).1, ih hg.2 _ h2⟩
  · rename_i dt s safe es ih
    intro fs h
    cases h with | cons h1 h2 =>
    cases h1 with | other =>
    simp only [contentOK, Bool.and_eq_true] at hg ⊢
    exact ⟨⟨hg.1.1, by rw [sim_startsWithText h2]; exact hg.1.2⟩, ih hg.2 _ h2⟩
  · rename_i dt s es ih
    intro fs h
    cases h with | cons h1 h2 =>
    cases h1 with | other =>
    simp only [contentOK, Bool.and_eq_true] at hg ⊢
    exact ⟨hg.1, ih hg.2 _ h2⟩
  · rename_i dt t d es ih
    intro fs h
    cases h with | cons h1 h2 =>
    cases h1 with | other =>
    simp only [contentOK, Bool.and_eq_true] at hg ⊢
    exact ⟨hg.1, ih hg.2 _ h2⟩
  · rename_i dt s safe es ih
    intro fs h
    cases h with | cons h1 h =>
    cases h1 with | other =>
    cases h with | cons h1 h =>
    cases h1 with | other =>
    cases h with | cons h1 h3 =>
    cases h1 with | other =>
    simp only [contentOK, Bool.and_eq_true] at hg ⊢
    exact ⟨hg.1, ih hg.2 _ h3⟩
  · rename_i dt es ih
    intro fs h
    cases h with | cons h1 h =>
    cases h1 with | other =>
    cases h with | cons h1 h2 =>
    cases h1 with | other =>
    simp only [contentOK]
    exact ih hg _ h2
  · rename_i n p s es ih
    intro fs h
    cases h with | cons h1 h2 =>
    cases h1 with | other =>
    simp only [contentOK, Bool.and_eq_true] at hg ⊢
    exact ⟨⟨hg.1.1, by rw [sim_startsWithText h2]; exact hg.1.2⟩, ih hg.2 _ h2⟩
  · cases hg

theorem repMarkupGo_sim (rep : Char → Bool) {fs gs : List FEv} (h : List.Forall₂ (SimF rep) fs gs) :
    ∀ c : Bool, repMarkupGo rep c gs = true → repMarkupGo rep c fs = true := by
  induction h with
  | nil => exact fun _ _ => rfl
  | cons h1 _ ih =>
    intro c hg
    rw [repMarkupGo_cons, Bool.and_eq_true] at hg ⊢
    cases h1 with
    | start hn ha =>
      exact ⟨by simp only [repMarkupGo, Bool.and_true, (nameTxt_valid hn).2, (flatAttrsOK_of_txt ha).2], ih _ hg.2⟩
    | empty hn ha =>
      exact ⟨by simp only [repMarkupGo, Bool.and_true, (nameTxt_valid hn).2, (flatAttrsOK_of_txt ha).2], ih _ hg.2⟩
    | end_ hn => exact ⟨by simp only [repMarkupGo, Bool.and_true, (nameTxt_valid hn).2], ih _ hg.2⟩
    | other e => exact ⟨hg.1, ih _ hg.2⟩

theorem txtInv_init (rep : Char → Bool) (hr : AsciiRep rep) : TxtInv rep FSt.init := by
  refine ⟨?_, by intro d hd; simp [FSt.init] at hd, by intro e he; simp [FSt.init] at he⟩
  intro b hb
  simp only [FSt.init, List.mem_singleton] at hb
  subst hb
  exact prefixTxt_of_nameTxt (nameTxt_ascii rep hr (by decide +kernel) (by decide))

/-- `contentOK` refuses a declaration, so what it accepts is a document without one -/
theorem docTextOK_of_contentOK {fs : List FEv} (h : contentOK true fs = true) : docTextOK fs = true := by
  unfold docTextOK
  split
  · cases h
  · exact h

theorem textOK_of_input (rep : Char → Bool) (hr : AsciiRep rep) (pref : List (Str × Str)) (xs : List XEv)
    (h : inputTextOK rep pref xs = true) :
    docTextOK (flatten pref xs) = true ∧ repMarkup rep (flatten pref xs) = true := by
  unfold inputTextOK at h
  simp only [Bool.and_eq_true] at h
  obtain ⟨⟨⟨hp, hev⟩, hd⟩, hm⟩ := h
  have hsim := flatRun_sim rep hr pref hp xs FSt.init (txtInv_init rep hr) hev
  refine ⟨?_, repMarkupGo_sim rep hsim _ hm⟩
  unfold docTextOK at hd
  unfold flatten
  generalize flatRun pref FSt.init xs = fs at hsim
  generalize skeleton xs = gs at hsim hd
  split at hd
  · cases hsim with | cons h1 h2 =>
    cases h1 with | other =>
    simp only [docTextOK, Bool.and_eq_true] at hd ⊢
    exact ⟨⟨hd.1.1, by rw [sim_startsWithText h2]; exact hd.1.2⟩, contentOK_sim rep true _ hd.2 _ h2⟩
  · exact docTextOK_of_contentOK (contentOK_sim rep true _ hd _ hsim)

end Genshi.Xml
