/-
  C18 — model of `genshi.core.Markup` (escape / unescape / operators) in both
  implementations (`genshi/core.py`, `genshi/_speedups.c`) and of `Attrs`.

  The model mirrors the code as it is:
    * `escapePy`   = the `str.replace` chain of `Markup.escape` in core.py
    * `escapeCBytes` = the two-pass UTF-8 byte scan of `_speedups.c` (length
                     pre-computation, early copy of the rest once every special
                     byte has been replaced)
    * `unescape`   = the four `replace` calls, in the order of the code
  The specification (`escapeSpec`) is the character-wise map.
-/
import Genshi.Model.Str
namespace Genshi.Escape
open Genshi.Str

def amp : List Char := ['&', 'a', 'm', 'p', ';']
def lt  : List Char := ['&', 'l', 't', ';']
def gt  : List Char := ['&', 'g', 't', ';']
def qt  : List Char := ['&', '#', '3', '4', ';']

/-- specification: what one character becomes -/
def escC (q : Bool) (c : Char) : List Char :=
  if c = '&' then amp
  else if c = '<' then lt
  else if c = '>' then gt
  else if c = '"' then (if q then qt else [c])
  else [c]

def escapeSpec (q : Bool) (s : List Char) : List Char := s.flatMap (escC q)

/-- `Markup.escape` in core.py (string branch). -/
def escapePy (q : Bool) (s : List Char) : List Char :=
  let t := replace ['>'] gt (replace ['<'] lt (replace ['&'] amp s))
  if q then replace ['"'] qt t else t

/-- `Markup.unescape` (core.py and `Markup_unescape` in C): same order. -/
def unescape (s : List Char) : List Char :=
  replace amp ['&'] (replace lt ['<'] (replace gt ['>'] (replace qt ['"'] s)))

/-- recogniser of well-formed escaped text: no raw `<` `>`, and every `&` starts one of
    the four entities `escape` writes (what any reader of the output relies on).
    The number is how many characters of the current entity are still to be passed over. -/
def entWf : Nat → List Char → Bool
  | _, [] => true
  | k + 1, _ :: cs => entWf k cs
  | 0, c :: cs =>
      if c = '&' then
        if amp.isPrefixOf (c :: cs) then entWf 4 cs
        else if lt.isPrefixOf (c :: cs) then entWf 3 cs
        else if gt.isPrefixOf (c :: cs) then entWf 3 cs
        else if qt.isPrefixOf (c :: cs) then entWf 4 cs
        else false
      else if c = '<' ∨ c = '>' then false
      else entWf 0 cs

/-! ### UTF-8 (bytes as `Nat` < 256) -/

def utf8Char (c : Char) : List Nat :=
  let v := c.toNat
  if v < 0x80 then [v]
  else if v < 0x800 then [0xC0 + v / 64, 0x80 + v % 64]
  else if v < 0x10000 then [0xE0 + v / 4096, 0x80 + (v / 64) % 64, 0x80 + v % 64]
  else [0xF0 + v / 262144, 0x80 + (v / 4096) % 64, 0x80 + (v / 64) % 64, 0x80 + v % 64]

def utf8 (s : List Char) : List Nat := s.flatMap utf8Char

/-! ### the C scan -/

def bAmp : List Nat := [38, 97, 109, 112, 59]
def bLt  : List Nat := [38, 108, 116, 59]
def bGt  : List Nat := [38, 103, 116, 59]
def bQt  : List Nat := [38, 35, 51, 52, 59]

/-- first pass: `(len, inn)` -/
def cCount (q : Bool) : List Nat → Nat × Nat
  | [] => (0, 0)
  | b :: bs =>
      let (len, inn) := cCount q bs
      if b = 38 then (len + 5, inn + 1)
      else if b = 34 then (if q then (len + 5, inn + 1) else (len + 1, inn))
      else if b = 60 ∨ b = 62 then (len + 4, inn + 1)
      else (len + 1, inn)

/-- second pass with the `outn == inn` shortcut -/
def cLoop (q : Bool) (inn : Nat) : Nat → List Nat → List Nat
  | _, [] => []
  | outn, b :: bs =>
      if outn = inn then b :: bs
      else if b = 38 then bAmp ++ cLoop q inn (outn + 1) bs
      else if b = 34 then (if q then bQt ++ cLoop q inn (outn + 1) bs else b :: cLoop q inn outn bs)
      else if b = 60 then bLt ++ cLoop q inn (outn + 1) bs
      else if b = 62 then bGt ++ cLoop q inn (outn + 1) bs
      else b :: cLoop q inn outn bs

/-- `escape()` of `_speedups.c` on the UTF-8 bytes: the bytes written and the
    size of the buffer that was allocated for them. -/
def escapeCBytes (q : Bool) (bs : List Nat) : List Nat × Nat :=
  let (len, inn) := cCount q bs
  if inn = 0 then (bs, bs.length) else (cLoop q inn 0 bs, len)

/-- what one byte becomes (specification on bytes) -/
def escB (q : Bool) (b : Nat) : List Nat :=
  if b = 38 then bAmp
  else if b = 60 then bLt
  else if b = 62 then bGt
  else if b = 34 then (if q then bQt else [b])
  else [b]

/-! ### operands and operators -/

/-- An operand of a `Markup` operator: an ordinary string, a `Markup`
    instance, or an object whose `__html__()` returns the given text. -/
inductive Opnd where
  | plain : List Char → Opnd
  | safe  : List Char → Opnd
  | html  : List Char → Opnd
  deriving Repr, DecidableEq

/-- `escape(x, quotes)` on an operand, parametric in the string escaper. -/
def escOpnd (esc : Bool → List Char → List Char) (q : Bool) : Opnd → List Char
  | .plain s => esc q s
  | .safe s => s
  | .html s => s

/-- the operand is taken as it is (a `Markup` or an `__html__` result), not escaped -/
def Opnd.isSafe : Opnd → Bool
  | .plain _ => false
  | _ => true

/-- `Markup.__add__` : result is always Markup -/
def mAdd (esc : Bool → List Char → List Char) (self : List Char) (o : Opnd) : List Char :=
  self ++ escOpnd esc true o

/-- `Markup.__radd__` -/
def mRadd (esc : Bool → List Char → List Char) (self : List Char) (o : Opnd) : List Char :=
  escOpnd esc true o ++ self

def mMul (self : List Char) : Nat → List Char
  | 0 => []
  | n + 1 => self ++ mMul self n

def mJoin (esc : Bool → List Char → List Char) (sep : List Char) (q : Bool) (xs : List Opnd) : List Char :=
  Str.join sep (xs.map (escOpnd esc q))

/-- pieces of a `%`-format string in the supported fragment -/
inductive Piece where
  | lit : List Char → Piece
  | pct : Piece                 -- `%%`
  | arg : Piece                 -- `%s`
  | key : List Char → Piece     -- `%(k)s`
  deriving Repr, DecidableEq

/-- read `k)s` after `%(`; `none` = outside the fragment -/
def takeKey : List Char → List Char → Option (List Char × List Char)
  | [], _ => none
  | ')' :: 's' :: rest, acc => some (acc.reverse, rest)
  | ')' :: _, _ => none
  | c :: rest, acc => if c = '(' then none else takeKey rest (c :: acc)

/-- parse a format string; `none` = uses a conversion outside `%s %% %(k)s` -/
def parseFmt : Nat → List Char → List Char → Option (List Piece)
  | 0, _, _ => none
  | _ + 1, [], acc => some (if acc.isEmpty then [] else [.lit acc.reverse])
  | fuel + 1, '%' :: rest, acc =>
      let pre := if acc.isEmpty then [] else [Piece.lit acc.reverse]
      match rest with
      | '%' :: r => (parseFmt fuel r []).map (pre ++ [.pct] ++ ·)
      | 's' :: r => (parseFmt fuel r []).map (pre ++ [.arg] ++ ·)
      | '(' :: r =>
          match takeKey r [] with
          | some (k, r') => (parseFmt fuel r' []).map (pre ++ [.key k] ++ ·)
          | none => none
      | _ => none
  | fuel + 1, c :: rest, acc => parseFmt fuel rest (c :: acc)

inductive FmtErr where
  | unsupported  -- outside the modelled fragment
  | typeError    -- wrong number of positional arguments / mapping required
  | keyError
  deriving Repr, DecidableEq

/-- positional formatting: consume `args` left to right -/
def fmtPos : List Piece → List (List Char) → Except FmtErr (List Char)
  | [], [] => .ok []
  | [], _ :: _ => .error .typeError
  | .lit s :: ps, as => (fmtPos ps as).map (s ++ ·)
  | .pct :: ps, as => (fmtPos ps as).map ('%' :: ·)
  | .arg :: _, [] => .error .typeError
  | .arg :: ps, a :: as => (fmtPos ps as).map (a ++ ·)
  | .key _ :: _, _ => .error .typeError

def lookupKey (k : List Char) : List (List Char × List Char) → Option (List Char)
  | [] => none
  | (k', v) :: rest => if k = k' then some v else lookupKey k rest

def fmtMap : List Piece → List (List Char × List Char) → Except FmtErr (List Char)
  | [], _ => .ok []
  | .lit s :: ps, m => (fmtMap ps m).map (s ++ ·)
  | .pct :: ps, m => (fmtMap ps m).map ('%' :: ·)
  | .arg :: _, _ => .error .unsupported   -- `'%s' % {..}` prints the dict: outside the fragment
  | .key k :: ps, m =>
      match lookupKey k m with
      | none => .error .keyError
      | some v => (fmtMap ps m).map (v ++ ·)

inductive ModArg where
  | one : Opnd → ModArg
  | tup : List Opnd → ModArg
  | map : List (List Char × Opnd) → ModArg
  deriving Repr

/-- `Markup.__mod__` on the fragment (mapping, tuple, single string) -/
def mMod (esc : Bool → List Char → List Char) (fmt : List Char) (a : ModArg) :
    Except FmtErr (List Char) :=
  match parseFmt (fmt.length + 1) fmt [] with
  | none => .error .unsupported
  | some ps =>
    match a with
    | .one o => fmtPos ps [escOpnd esc true o]
    | .tup os => fmtPos ps (os.map (escOpnd esc true))
    | .map kvs => fmtMap ps (kvs.map fun (k, o) => (k, escOpnd esc true o))

/-! ### Attrs -/

abbrev Name := List Char
abbrev Attrs := List (Name × List Char)

def Attrs.has (a : Attrs) (n : Name) : Bool := a.any (fun p => p.1 == n)

def Attrs.get (a : Attrs) (n : Name) : Option (List Char) :=
  match a with
  | [] => none
  | (k, v) :: rest => if k = n then some v else Attrs.get rest n

/-- `dict([...])` lookup: the last pair for a key wins -/
def lastVal (n : Name) : List (Name × List Char) → Option (List Char)
  | [] => none
  | (k, v) :: rest =>
      match lastVal n rest with
      | some w => some w
      | none => if k = n then some v else none

/-- `remove = set([an for an, av in attrs if av is None])` -/
def orRemove (attrs : List (Name × Option (List Char))) : List Name :=
  attrs.filterMap fun p => if p.2.isNone then some p.1 else none

/-- `replace = dict([(an, av) for an, av in attrs if an in self and av is not None])` -/
def orRepl (self : Attrs) (attrs : List (Name × Option (List Char))) : List (Name × List Char) :=
  attrs.filterMap fun p =>
    match p.2 with
    | some v => if self.has p.1 then some (p.1, v) else none
    | none => none

/-- `[(sn, replace.get(sn, sv)) for sn, sv in self if sn not in remove]` -/
def orKept (self : Attrs) (attrs : List (Name × Option (List Char))) : Attrs :=
  self.filterMap fun p =>
    if (orRemove attrs).contains p.1 then none
    else some (p.1, (lastVal p.1 (orRepl self attrs)).getD p.2)

/-- the inner `for … else` of `Attrs.__or__`: overwrite the value at the first
    occurrence of the name, or append -/
def upsert (n : Name) (v : List Char) : Attrs → Attrs
  | [] => [(n, v)]
  | (k, w) :: rest => if k = n then (n, v) :: rest else (k, w) :: upsert n v rest

/-- one iteration of the `new` loop -/
def orNewStep (self : Attrs) (remove : List Name) (acc : Attrs) (p : Name × Option (List Char)) : Attrs :=
  match p.2 with
  | some v => if self.has p.1 || remove.contains p.1 then acc else upsert p.1 v acc
  | none => acc

/-- the `new` list built by the loop in `Attrs.__or__` -/
def orNew (self : Attrs) (attrs : List (Name × Option (List Char))) : Attrs :=
  attrs.foldl (orNewStep self (orRemove attrs)) []

/-- `Attrs.__or__` exactly as the comprehensions and the loop in core.py -/
def Attrs.or (self : Attrs) (attrs : List (Name × Option (List Char))) : Attrs :=
  orKept self attrs ++ orNew self attrs

/-- `Attrs.__sub__` -/
def Attrs.sub (self : Attrs) (names : List Name) : Attrs :=
  self.filter fun (n, _) => !names.contains n

end Genshi.Escape
