/-
  C10 — the template as a heap object.

  Python objects that matter for "rendering never modifies a template":

  * the parsed template stream `Template._stream`: a Python list of event tuples; a SUB
    event is the (immutable) tuple `(SUB, (directives, substream), pos)` holding references
    to two MUTABLE lists (`genshi/template/base.py` `_prepare`);
  * directive objects (immutable after `attach`, identified by `id`);
  * per render: the `Context` (frames, `_choice_stack`) and whatever lists the filters
    allocate for that render (`Translator.__call__` copies every sub-stream).

  A heap is a list of cells addressed by position.  There are two address spaces: the
  template's (`Ref.tmpl`, shared by every render and every API call) and one private space
  per render (`Ref.priv`).  Whether private objects can be reached from another render is
  not a theorem of this model but its shape; the harness checks it on the real code by
  snapshotting every other render's context around each `next()`.

  Import-free (linked into gdrv).
-/
import Genshi.Model.Core
import Genshi.Model.Str
namespace Genshi.Heap
open Genshi

/-! ## values of the expression fragment -/

inductive Atom where
  | none
  | bool (b : Bool)
  | int (n : Int)
  | str (s : Str)
  deriving DecidableEq, Repr, Inhabited

/-- Python truthiness -/
def Atom.truthy : Atom → Bool
  | .none => false
  | .bool b => b
  | .int n => n != 0
  | .str s => !s.isEmpty

/-- numeric view of bool/int (Python: `True == 1`) -/
def Atom.num? : Atom → Option Int
  | .bool b => some (if b then 1 else 0)
  | .int n => some n
  | _ => Option.none

/-- Python `==` on atoms -/
def Atom.pyEq (a b : Atom) : Bool :=
  match a.num?, b.num? with
  | some x, some y => x == y
  | Option.none, Option.none =>
    (match a, b with
     | .none, .none => true
     | .str s, .str t => s == t
     | _, _ => false)
  | _, _ => false

def atomsEq : List Atom → List Atom → Bool
  | [], [] => true
  | a :: as, b :: bs => a.pyEq b && atomsEq as bs
  | _, _ => false

def digitsOfInt (n : Int) : Str :=
  if n < 0 then '-' :: Nat.toDigits 10 n.natAbs else Nat.toDigits 10 n.natAbs

/-- `str(x)` for atoms -/
def Atom.text : Atom → Str
  | .none => ['N', 'o', 'n', 'e']
  | .bool true => ['T', 'r', 'u', 'e']
  | .bool false => ['F', 'a', 'l', 's', 'e']
  | .int n => digitsOfInt n
  | .str s => s

/-! ## expressions -/

/-- literal values of the expression fragment -/
inductive Lit where
  | atom (a : Atom)
  | list (xs : List Atom)
  deriving DecidableEq, Repr, Inhabited

inductive Expr where
  | var (n : Str)
  | lit (v : Lit)
  | eq (a b : Expr)
  | not (a : Expr)
  | call0 (f : Str)                 -- `f()`
  | call1 (f : Str) (a : Expr)      -- `f(a)`
  | fmt1 (s0 : Str) (a : Expr) (s1 : Str)                         -- `'s0%ss1' % a`
  | fmt2 (s0 : Str) (a : Expr) (s1 : Str) (b : Expr) (s2 : Str)   -- `'s0%ss1%ss2' % (a, b)`
  | genexp (body : Expr) (x : Str) (src : Expr)
                                    -- `(body for x in src)`: a NESTED scope.  `src` is evaluated (and `iter()`
                                    -- applied) where the expression stands; `body` is code of the nested scope
                                    -- and runs at each `next()` of the generator object, reading every name but
                                    -- `x` through `__data__` of the globals of its `eval` — the render's Context
                                    -- as it is THEN.  `map(lambda x: body, src)` (lazy in Python 3) is the same.
  | lam (x : Str) (body : Expr)     -- `lambda x: body`: the body is code of a nested scope as well
  deriving DecidableEq, Repr, Inhabited

inductive Err where
  | undefined          -- UndefinedError (strict lookup)
  | typeError          -- TypeError (`iter(5)`, calling a non-callable)
  | attribute          -- AttributeError (a macro parameter without argument and without default)
  | runtime            -- TemplateRuntimeError (`py:when` outside `py:choose`)
  | stopIter           -- RuntimeError: generator raised StopIteration
  | notFound           -- TemplateNotFound (include without fallback)
  | unmodelled         -- construct outside the modelled fragment
  | fuel               -- the step did not finish within the fuel given
  deriving DecidableEq, Repr, Inhabited

/-! ## template events, directive objects, the heap -/

/-- a reference to a Python list: in the template's own heap or in the private heap of the
    render that allocated it -/
inductive Ref where
  | tmpl (a : Nat)
  | priv (a : Nat)
  deriving DecidableEq, Repr, Inhabited

/-- the expression of `py:attrs` -/
inductive AttrsSpec where
  | dict (kvs : List (Str × Expr))     -- a dict display with string keys `{'k': e, …}`
  | pairs (kvs : List (Str × Expr))    -- a list display of pairs `[('k', e), …]`
  | expr (e : Expr)                    -- any other expression of the fragment
  deriving DecidableEq, Repr, Inhabited

inductive DirKind where
  | pyIf (e : Expr)
  | pyFor (var : Str) (e : Expr)
  | pyWith (binds : List (Str × Expr))
  | pyChoose (e : Option Expr)
  | pyWhen (e : Option Expr)
  | pyOtherwise
  | pyStrip (e : Option Expr)
  | pyDef (name : Str) (params : List (Str × Option Expr))   -- positional parameters, optional defaults
  | pyMatch (name : Str) (once : Bool)   -- `py:match` with a one-step element-name path; hint `match_once`
  | pyAttrs (spec : AttrsSpec)
  | i18nDomain (d : Str)
  | i18nComment (c : Str)
  | i18nCtxt (c : Str)
  | i18nMsg                     -- ExtractableI18NDirective; rendering is outside the step model
  | i18nChoose                  -- ExtractableI18NDirective
  | i18nBranch                  -- i18n:singular / i18n:plural (I18NDirective, not extractable)
  | pyOther                     -- any other non-i18n directive
  deriving DecidableEq, Repr, Inhabited

/-- a directive object; `id` stands for Python object identity -/
structure Dir where
  id : Nat
  kind : DirKind
  deriving DecidableEq, Repr, Inhabited

def DirKind.isI18n : DirKind → Bool
  | .i18nDomain _ | .i18nComment _ | .i18nCtxt _ | .i18nMsg | .i18nChoose | .i18nBranch => true
  | _ => false

def DirKind.isExtractable : DirKind → Bool
  | .i18nMsg | .i18nChoose => true
  | _ => false

/-- the value of an attribute in a template START event: a string, or (interpolated: `title="T$a"`) a
    reference to the Python list of TEXT / EXPR events `interpolate` built — a list owned by the template -/
inductive AVal where
  | plain (s : Str)
  | interp (r : Ref)
  deriving DecidableEq, Repr, Inhabited

def AVal.isInterp : AVal → Bool
  | .interp _ => true
  | .plain _ => false

inductive TEv where
  | out (e : Event)                 -- START (plain attribute values), END, TEXT, COMMENT, …
  | startI (tag : QName) (attrs : List (QName × AVal))
                                    -- START with at least one interpolated attribute value (or the START
                                    -- `py:attrs` re-yields)
  | expr (e : Expr)                 -- EXPR
  | sub (dirs : Ref) (body : Ref)   -- SUB: references to the directive list and the sub-stream list
  | incl (t : Option Nat) (fb : Option Ref)
                                    -- INCLUDE with a static href: the template the loader finds for it
                                    -- (`none`: TemplateNotFound) and the prepared fallback list
  | execGen (name x : Str) (src body : Expr)
                                    -- EXEC whose suite is one generator function
                                    -- `def name():` / `for x in src:` / `yield body`
  | other                           -- other EXEC, INCLUDE with a computed href:
                                    -- outside the step model
  deriving DecidableEq, Repr, Inhabited

inductive Cell where
  | evs (l : List TEv)
  | dirs (l : List Dir)
  deriving DecidableEq, Repr, Inhabited

abbrev Heap := List Cell

/-- what a piece of code may do differently before / after the `fix:` commits; the values that
    describe the code under test are regenerated into `Genshi/Gen/Heap.lean` by the translator
    (behavioural probes of `Translator.__call__` and `Translator.extract`) -/
structure Variant where
  callCopies : Bool        -- `Translator.__call__` reorders a copy of the directive list
  extractCopies : Bool     -- `Translator.extract` pops from a copy of the directive list
  deriving DecidableEq, Repr, Inhabited

def Variant.fixed : Variant := ⟨true, true⟩
def Variant.original : Variant := ⟨false, false⟩

/-- the two address spaces a render can read -/
def readEvs (h ph : Heap) : Ref → Option (List TEv)
  | .tmpl a => match h[a]? with | some (.evs l) => some l | _ => none
  | .priv a => match ph[a]? with | some (.evs l) => some l | _ => none

def readDirs (h ph : Heap) : Ref → Option (List Dir)
  | .tmpl a => match h[a]? with | some (.dirs l) => some l | _ => none
  | .priv a => match ph[a]? with | some (.dirs l) => some l | _ => none


/-- an entry of `Context._match_templates`: `(test, path, list(stream), hints, namespaces, directives)` -/
structure MatchT where
  name : Str
  body : List TEv
  once : Bool
  rest : List Dir
  /-- a `once` template that has fired: its test was replaced by one that never matches, the slot stays
      (genshi fix "py:match once retires the template without shifting the others") -/
  retired : Bool := false
  deriving DecidableEq, Repr, Inhabited

/-! ## run-time values -/

/-- what `py:def` stores in the context: the function closes over the copy of its sub-stream and the
    directives that follow `py:def` on the element (its context is the render's own) -/
structure Macro where
  name : Str
  params : List (Str × Option Expr)
  body : List TEv
  rest : List Dir
  deriving DecidableEq, Repr, Inhabited

inductive Val where
  | atom (a : Atom)
  | list (xs : List Atom)
  | opaque (tag : Str)        -- functions put into the context (`defined`, `_i18n.gettext`, …)
  | macro (m : Macro)         -- a function defined by `py:def`
  | gen0 (m : Macro)          -- the generator object `f()` returns: nothing has run yet
  | gen1 (m : Macro) (a : Val)
  | genx (x : Str) (items : List Atom) (body : Expr)
                              -- the generator object of `(body for x in src)`: the items `iter(src)` still has,
                              -- nothing of `body` has run for them.  A mutable object: the model lets it live only
                              -- in the iterator that consumes it (`It.genexp`, `It.forNextG`), storing it in the
                              -- context is outside the model
  | genfn (name x : Str) (src body : Expr)
                              -- the generator function a `<?python ?>` block defined (stored in the context by the
                              -- `exec`); its globals hold `__data__` = the render's Context
  | genf (x : Str) (src body : Expr)
                              -- the generator object `name()` returned: nothing has run, not even `src`
  | lam (x : Str) (body : Expr)
                              -- a function made by `lambda` (immutable; its globals hold `__data__` = the Context)
  deriving DecidableEq, Repr, Inhabited

/-- generator objects (consumed by iteration: value semantics would be wrong once two places hold one) -/
def Val.isGenerator : Val → Bool
  | .gen0 _ | .gen1 _ _ | .genx _ _ _ | .genf _ _ _ => true
  | _ => false

/-- `iter(value)` for the data values of the fragment -/
def iterItems : Val → Option (List Atom)
  | .list xs => some xs
  | .atom (.str s) => some (s.map fun ch => .str [ch])
  | _ => none

def Lit.val : Lit → Val
  | .atom a => .atom a
  | .list xs => .list xs

def Val.truthy : Val → Bool
  | .atom a => a.truthy
  | .list xs => !xs.isEmpty
  | _ => true

def Val.pyEq : Val → Val → Bool
  | .atom a, .atom b => a.pyEq b
  | .list xs, .list ys => atomsEq xs ys
  | .opaque s, .opaque t => s == t
  | _, _ => false

/-! ## the context (`genshi/template/base.py` `Context`) -/

/-- a frame is a dict in insertion order -/
abbrev Frame := List (Str × Val)

def Frame.get? : Frame → Str → Option Val
  | [], _ => none
  | (k, v) :: rest, key => if k = key then some v else Frame.get? rest key

/-- `d[key] = v`: an existing key keeps its position -/
def Frame.set : Frame → Str → Val → Frame
  | [], key, v => [(key, v)]
  | (k, w) :: rest, key, v => if k = key then (k, v) :: rest else (k, w) :: Frame.set rest key v

/-- `[matched, has_test, value]` on `Context._choice_stack` -/
structure Choice where
  matched : Bool
  hasTest : Bool
  value : Option Val
  deriving DecidableEq, Repr, Inhabited

structure Ctx where
  frames : List Frame        -- head = `frames[0]`, the innermost scope (`push = appendleft`)
  choice : List Choice       -- head = `_choice_stack[-1]`
  mts : List MatchT := []      -- `_match_templates`, in registration order
  deriving DecidableEq, Repr, Inhabited

def sDefined : Str := ['d', 'e', 'f', 'i', 'n', 'e', 'd']
def sValueOf : Str := ['v', 'a', 'l', 'u', 'e', '_', 'o', 'f']

/-- `Context(**data)`: one frame; `defined` / `value_of` are added with `setdefault` -/
def Ctx.new (data : Frame) : Ctx :=
  let d1 := if (Frame.get? data sDefined).isSome then data else data ++ [(sDefined, .opaque sDefined)]
  let d2 := if (Frame.get? d1 sValueOf).isSome then d1 else d1 ++ [(sValueOf, .opaque sValueOf)]
  { frames := [d2], choice := [], mts := [] }

/-- `Context.get` / `_find`: innermost frame that has the key -/
def lookupFrames : List Frame → Str → Option Val
  | [], _ => none
  | f :: fs, key =>
    match Frame.get? f key with
    | some v => some v
    | none => lookupFrames fs key

def Ctx.push (c : Ctx) (f : Frame) : Ctx := { c with frames := f :: c.frames }
/-- `ctxt.pop()` = `frames.popleft()` -/
def Ctx.pop (c : Ctx) : Ctx := { c with frames := c.frames.tail }
/-- `ctxt[key] = v` writes `frames[0]` -/
def Ctx.setTop (c : Ctx) (key : Str) (v : Val) : Ctx :=
  match c.frames with
  | [] => c
  | f :: fs => { c with frames := Frame.set f key v :: fs }

/-- `ctxt.frames[-1][key] = v` (where `py:def` stores its function) -/
def setBottom : List Frame → Str → Val → List Frame
  | [], _, _ => []
  | [f], key, v => [Frame.set f key v]
  | f :: fs, key, v => f :: setBottom fs key v

/-! ## evaluation -/

/-- calling what the name is bound to -/
def callVal (f : Option Val) (arg : Option Val) : Except Err Val :=
  match f with
  | none => .error .undefined
  | some (.macro m) =>
    (match arg with
     | none => .ok (.gen0 m)
     | some a => if a.isGenerator then .error .unmodelled else .ok (.gen1 m a))
  | some (.opaque _) => .error .unmodelled
  | some (.genfn _ x src body) =>
    (match arg with
     | none => .ok (.genf x src body)
     | some _ => .error .typeError)            -- takes 0 positional arguments
  | some (.lam _ _) =>
    (match arg with
     | none => .error .typeError               -- missing 1 required positional argument
     | some _ => .error .unmodelled)           -- a call of a lambda below the top of an expression: see `eval`
  | some _ => .error .typeError

def evalBase (fs : List Frame) : Expr → Except Err Val
  | .var n =>
    match lookupFrames fs n with
    | some v => .ok v
    | none => .error .undefined
  | .lit v => .ok v.val
  | .eq a b =>
    match evalBase fs a with
    | .error e => .error e
    | .ok x =>
      match evalBase fs b with
      | .error e => .error e
      | .ok y => .ok (.atom (.bool (x.pyEq y)))
  | .not a =>
    match evalBase fs a with
    | .error e => .error e
    | .ok x => .ok (.atom (.bool (!x.truthy)))
  | .call0 f =>
    match lookupFrames fs f with
    | none => .error .undefined
    | some fv => callVal (some fv) none
  | .call1 f a =>
    match lookupFrames fs f with
    | none => .error .undefined
    | some fv =>
      match evalBase fs a with
      | .error e => .error e
      | .ok x => callVal (some fv) (some x)
  | .fmt1 s0 a s1 =>
    match evalBase fs a with
    | .error e => .error e
    | .ok (.atom x) => .ok (.atom (.str (s0 ++ x.text ++ s1)))
    | .ok _ => .error .unmodelled
  | .fmt2 s0 a s1 b s2 =>
    match evalBase fs a with
    | .error e => .error e
    | .ok x =>
      match evalBase fs b with
      | .error e => .error e
      | .ok y =>
        match x, y with
        | .atom x, .atom y => .ok (.atom (.str (s0 ++ x.text ++ s1 ++ y.text ++ s2)))
        | _, _ => .error .unmodelled
  | .genexp body x src =>
    -- the outermost iterable is evaluated, and `iter()` called on it, at once; the body not at all
    match evalBase fs src with
    | .error e => .error e
    | .ok v =>
      match v with
      | .atom _ | .list _ =>
        (match iterItems v with
         | some items => .ok (.genx x items body)
         | none => .error .typeError)
      | .opaque _ | .macro _ | .genfn _ _ _ _ | .lam _ _ => .error .typeError
      | _ => .error .unmodelled
  | .lam x body => .ok (.lam x body)

/-- evaluation of a template expression.  A function made by `lambda` can be called at the top of an
    expression (`${g(y)}`): its body runs with the argument as its local and every other name looked up in the
    Context as it is NOW (not as it was when the lambda was made).  (The two layers keep the recursion
    structural: the body is not a sub-term of the call.) -/
def eval (fs : List Frame) (e : Expr) : Except Err Val :=
  match e with
  | .call1 f a =>
    (match lookupFrames fs f with
     | some (.lam x body) =>
       (match evalBase fs a with
        | .error er => .error er
        | .ok arg => if arg.isGenerator then .error .unmodelled else evalBase ([(x, arg)] :: fs) body)
     | _ => evalBase fs e)
  | _ => evalBase fs e

end Genshi.Heap
