/-
  C10 — one `next()` of a render as a transition of a coroutine state.

  A render (`Template.generate(**data)` iterated lazily) is the `_flatten` generator
  (`genshi/template/base.py`) with its stack of suspended iterators, fed by the template's
  stream or by the `Translator.__call__` generator over it (`genshi/filters/i18n.py`); the
  directive generators (`genshi/template/directives.py`) are the nodes of the iterator tree.
  `_match` is `mpull` / `consume` / `runBody`, `_include` is `pipe`.

  Every function is total; recursion is on an explicit fuel (a step that needs more reports
  `Err.fuel`).  The template's heap is threaded through exactly the code paths that hold a
  reference to one of its lists and call a mutating method on it.
-/
import Genshi.Model.Heap
namespace Genshi.Heap
open Genshi

/-- the part of a render's private state directives and filters work on -/
structure St where
  ctx : Ctx
  ph : Heap
  deriving DecidableEq, Repr, Inhabited

/-- iterator objects: list iterators and (suspended) directive generators -/
inductive It where
  | lst (evs : List TEv)                 -- iterator over a list private to the render: remaining items
  | ref (r : Ref) (i : Nat)              -- Python list iterator: the list is read at every `next()`
  | raw (r : Ref) (i : Nat)              -- a list object used as `stream` (SUB with an empty directive list):
                                         -- the `for` statement makes a NEW iterator whenever it is re-entered
  | ensure (xs : List Atom)              -- `_ensure(result)` for an expression that produced a list
  | forNew (var : Str) (e : Expr) (src : It) (rest : List Dir)
  | forNext (var : Str) (items : List Atom) (scope : Frame) (body : List TEv) (rest : List Dir)
  | forRun (var : Str) (items : List Atom) (scope : Frame) (body : List TEv) (rest : List Dir) (inner : It)
                                         -- `scope`: the ONE dict ForDirective pushes for every item; what was
                                         -- written into it while it was `frames[0]` is still there next time
  | withNew (binds : List (Str × Expr)) (src : It) (rest : List Dir)
  | popAfter (inner : It)                -- py:with / i18n:domain / i18n:ctxt running: `ctxt.pop()` at the end
  | chooseNew (e : Option Expr) (src : It) (rest : List Dir)
  | chooseRun (inner : It)               -- `_choice_stack.pop()` at the end
  | pushNew (f : Frame) (src : It) (rest : List Dir)
  | stripNew (e : Option Expr) (src : It)
  | stripRun (prev : TEv) (src : It)     -- StripDirective._generate with its one-event look-behind
  | attrsNew (spec : AttrsSpec) (src : It)   -- AttrsDirective._generate, not started
  | macroNew (m : Macro) (arg : Option Val)   -- the generator a `py:def` function returned, not started
  | genfNew (x : Str) (src body : Expr)   -- `_ensure(result)` over the generator object of a generator function,
                                         -- not started: the first `next()` evaluates `src` and calls `iter()`
  | genexp (x : Str) (items : List Atom) (body : Expr)
                                         -- `_ensure(result)` over the generator object of `(body for x in …)`:
                                         -- `body` runs at each `next()`, in the render's context as it is then
  | forNextG (var : Str) (x : Str) (items : List Atom) (gbody : Expr) (scope : Frame) (body : List TEv)
      (rest : List Dir)                  -- ForDirective iterating over such a generator object: the next item is
                                         -- computed after `ctxt.pop()`
  | forRunG (var : Str) (x : Str) (items : List Atom) (gbody : Expr) (scope : Frame) (body : List TEv)
      (rest : List Dir) (inner : It)
  | dead
  deriving DecidableEq, Repr, Inhabited

inductive PullOut where
  | item (t : TEv)
  | done
  | err (e : Err)
  deriving DecidableEq, Repr, Inhabited

def sDomain : Str := ['_', 'i', '1', '8', 'n', '.', 'd', 'o', 'm', 'a', 'i', 'n']
def sContext : Str := ['_', 'i', '1', '8', 'n', '.', 'c', 'o', 'n', 't', 'e', 'x', 't']

/-! ## attribute values: interpolation (`_flatten` on a START event) and `py:attrs` -/

/-- the TEXT data the nested `_flatten(value, ctxt)` yields for the list of an interpolated attribute
    value (a list of TEXT and EXPR events): `None` results are skipped, an iterable goes through `_ensure` -/
def interpParts (fs : List Frame) : List TEv → Except Err (List Str)
  | [] => .ok []
  | t :: ts =>
    let here : Except Err (List Str) :=
      match t with
      | .out (.text s _) => .ok [s]
      | .expr e =>
        (match eval fs e with
         | .error er => .error er
         | .ok (.atom .none) => .ok []
         | .ok (.atom a) => .ok [a.text]
         | .ok (.list xs) => .ok (xs.map Atom.text)
         | .ok _ => .error .unmodelled)
      | _ => .error .unmodelled
    match here with
    | .error er => .error er
    | .ok a =>
      match interpParts fs ts with
      | .error er => .error er
      | .ok b => .ok (a ++ b)

/-- the loop over `attrs` in `_flatten`: `if not values: continue` drops the attribute, otherwise
    `''.join(values)` -/
def evalAttrs (h ph : Heap) (fs : List Frame) : List (QName × AVal) → Except Err AttrList
  | [] => .ok []
  | (n, .plain s) :: rest =>
    (match evalAttrs h ph fs rest with
     | .error er => .error er
     | .ok as => .ok ((n, s) :: as))
  | (n, .interp r) :: rest =>
    match readEvs h ph r with
    | none => .error .unmodelled
    | some parts =>
      match interpParts fs parts with
      | .error er => .error er
      | .ok vals =>
        match evalAttrs h ph fs rest with
        | .error er => .error er
        | .ok as => .ok (if vals.isEmpty then as else (n, vals.flatten) :: as)

/-- characters `str.strip()` removes, as far as the model goes (a text with a character outside ASCII is
    outside the model) -/
def isStripSpace (c : Char) : Bool :=
  c = ' ' || (9 ≤ c.toNat && c.toNat ≤ 13) || (28 ≤ c.toNat && c.toNat ≤ 31)

/-- `None if v is None else str(v).strip()` (genshi fix ec9dd78: an empty value is kept; before it
    `v is not None and str(v).strip() or None` removed the attribute) -/
def attrText : Val → Except Err (Option Str)
  | .atom .none => .ok none
  | .atom a =>
    if a.text.all (fun c => c.toNat < 128) then
      .ok (some (Genshi.Str.stripBy isStripSpace a.text))
    else .error .unmodelled
  | _ => .error .unmodelled

/-- the values of a dict / list display, left to right -/
def evalEntries (fs : List Frame) : List (Str × Expr) → Except Err (List (Str × Val))
  | [] => .ok []
  | (k, e) :: rest =>
    match eval fs e with
    | .error er => .error er
    | .ok v =>
      match evalEntries fs rest with
      | .error er => .error er
      | .ok vs => .ok ((k, v) :: vs)

def entryTexts : List (Str × Val) → Except Err (List (QName × Option Str))
  | [] => .ok []
  | (k, v) :: rest =>
    match attrText v with
    | .error er => .error er
    | .ok t =>
      match entryTexts rest with
      | .error er => .error er
      | .ok ts => .ok ((QName.plain k, t) :: ts)

/-- `attrs = _eval_expr(self.expr, …)`, then (`if attrs:`) the list of `(QName(n), text or None)`;
    `none`: the value is false, the START event stays as it is -/
def evalAttrsSpec (fs : List Frame) : AttrsSpec → Except Err (Option (List (QName × Option Str)))
  | .dict kvs =>
    (match evalEntries fs kvs with
     | .error er => .error er
     | .ok vs =>
       -- a dict: a repeated key keeps its first position and gets the last value
       let d : Frame := vs.foldl (fun acc (kv : Str × Val) => Frame.set acc kv.1 kv.2) []
       if d.isEmpty then .ok none else (entryTexts d).map some)
  | .pairs kvs =>
    (match evalEntries fs kvs with
     | .error er => .error er
     | .ok vs => if vs.isEmpty then .ok none else (entryTexts vs).map some)
  | .expr e =>
    match eval fs e with
    | .error er => .error er
    | .ok v =>
      if !v.truthy then .ok none
      else match v with
        | .atom _ => .error .attribute        -- `attrs.items()` on a number / string
        | _ => .error .unmodelled

/-- `Attrs.__or__`: names given `None` are removed, names already present get the (last) new value in
    place, the others are appended (a repeated new name keeps its first position, last value) -/
def attrsOr (self : List (QName × AVal)) (new : List (QName × Option Str)) : List (QName × AVal) :=
  let inSelf (n : QName) : Bool := self.any (fun p => p.1 == n)
  let removed (n : QName) : Bool := new.any (fun p => p.1 == n && p.2.isNone)
  let replace (n : QName) : Option Str :=
    (new.reverse.find? (fun p => p.1 == n && p.2.isSome)).bind (·.2)
  let added : List (QName × AVal) := new.foldl (fun acc p =>
      match p.2 with
      | none => acc
      | some v =>
        if inSelf p.1 || removed p.1 then acc
        else if acc.any (fun q => q.1 == p.1) then acc.map (fun q => if q.1 == p.1 then (q.1, .plain v) else q)
        else acc ++ [(p.1, .plain v)]) []
  (self.filter (fun p => !removed p.1)).map (fun p =>
      match replace p.1 with
      | some v => (p.1, AVal.plain v)
      | none => p) ++ added

/-- the START data of a template event, if it is one -/
def startOf : TEv → Option (QName × List (QName × AVal))
  | .out (.start tag attrs) => some (tag, attrs.map fun p => (p.1, .plain p.2))
  | .startI tag attrs => some (tag, attrs)
  | _ => none

/-! ## `_apply_directives`: the part of each directive that runs when it is applied -/

/-- `py:when`: decide the branch; `none` = TemplateRuntimeError -/
def whenMatched (fs : List Frame) (info : Choice) (e : Option Expr) : Except Err Bool :=
  match e, info.hasTest with
  | none, false => .error .runtime
  | none, true => .ok (match info.value with | some v => v.truthy | none => false)
  | some ex, true =>
    match eval fs ex with
    | .error er => .error er
    | .ok x => .ok (match info.value with | some v => v.pyEq x | none => false)
  | some ex, false =>
    match eval fs ex with
    | .error er => .error er
    | .ok x => .ok x.truthy

/-- `list(stream)` for a plain list iterator -/
def remaining (h ph : Heap) : It → Option (List TEv)
  | .lst l => some l
  | .ref r i => (readEvs h ph r).map (·.drop i)
  | _ => none

def applyDirs (h ph : Heap) (c : Ctx) (stream : It) : List Dir → Except Err (Ctx × It)
  | [] => .ok (c, stream)
  | d :: rest =>
    match d.kind with
    | .pyIf e =>
      match eval c.frames e with
      | .error er => .error er
      | .ok v => if v.truthy then applyDirs h ph c stream rest else .ok (c, .lst [])
    | .pyFor var e => .ok (c, .forNew var e stream rest)
    | .pyWith b => .ok (c, .withNew b stream rest)
    | .pyChoose e => .ok (c, .chooseNew e stream rest)
    | .i18nDomain dm => .ok (c, .pushNew [(sDomain, .atom (.str dm))] stream rest)
    | .i18nCtxt cx => .ok (c, .pushNew [(sContext, .atom (.str cx))] stream rest)
    | .i18nComment _ => applyDirs h ph c stream rest
    | .pyWhen e =>
      match c.choice with
      | [] => .error .runtime
      | info :: more =>
        if info.matched then .ok (c, .lst [])
        else
          match whenMatched c.frames info e with
          | .error er => .error er
          | .ok m =>
            let c' := { c with choice := { info with matched := m } :: more }
            if m then applyDirs h ph c' stream rest else .ok (c', .lst [])
    | .pyOtherwise =>
      match c.choice with
      | [] => .error .runtime
      | info :: more =>
        if info.matched then .ok (c, .lst [])
        else applyDirs h ph { c with choice := { info with matched := true } :: more } stream rest
    | .pyStrip e => applyDirs h ph c (.stripNew e stream) rest
    | .pyAttrs spec => applyDirs h ph c (.attrsNew spec stream) rest
    | .pyDef name params =>
      -- DefDirective.__call__: `stream = list(stream)`; the function goes into the BOTTOM frame; nothing is output
      match remaining h ph stream with
      | none => .error .unmodelled
      | some body =>
        .ok ({ c with frames := setBottom c.frames name (.macro ⟨name, params, body, rest⟩) }, .lst [])
    | .pyMatch name once =>
      -- MatchDirective.__call__: `ctxt._match_templates.append((test, path, list(stream), hints, ns, directives))`
      match remaining h ph stream with
      | none => .error .unmodelled
      | some body => .ok ({ c with mts := c.mts ++ [⟨name, body, once, rest, false⟩] }, .lst [])
    | _ => .error .unmodelled

/-! ## directive generators -/

/-- `py:with`: the assignments are evaluated one after the other in the frame already pushed -/
def evalBinds (c : Ctx) : List (Str × Expr) → Except (Ctx × Err) Ctx
  | [] => .ok c
  | (n, e) :: rest =>
    match eval c.frames e with
    | .error er => .error (c, er)
    | .ok v =>
      -- a generator object bound to a name can be consumed from several places: outside the model
      if v.isGenerator then .error (c, .unmodelled) else evalBinds (c.setTop n v) rest

/-- positional arguments first, then the default expressions (evaluated in the caller's context at call
    time); a parameter with neither: `_eval_expr(None, …)` raises AttributeError.  Extra arguments are dropped. -/
def bindParams (fs : List Frame) : List (Str × Option Expr) → Option Val → Frame → Except Err Frame
  | [], _, acc => .ok acc
  | (n, _) :: rest, some a, acc => bindParams fs rest none (acc ++ [(n, a)])
  | (n, some d) :: rest, none, acc =>
    match eval fs d with
    | .error er => .error er
    | .ok v => bindParams fs rest none (acc ++ [(n, v)])
  | (_, none) :: _, none, _ => .error .attribute

structure PullRes where
  st : St
  it : It
  out : PullOut
  deriving DecidableEq, Repr, Inhabited

/-- `next(it)`; the template heap is only read -/
def pull (h : Heap) : Nat → St → It → PullRes
  | 0, st, it => ⟨st, it, .err .fuel⟩
  | fuel + 1, st, it =>
    match it with
    | .dead => ⟨st, .dead, .done⟩
    | .lst [] => ⟨st, .lst [], .done⟩
    | .lst (t :: ts) => ⟨st, .lst ts, .item t⟩
    | .ref r i =>
      match readEvs h st.ph r with
      | none => ⟨st, .dead, .err .unmodelled⟩
      | some l =>
        match l[i]? with
        | some t => ⟨st, .ref r (i + 1), .item t⟩
        | none => ⟨st, .ref r i, .done⟩
    | .raw r i =>
      match readEvs h st.ph r with
      | none => ⟨st, .dead, .err .unmodelled⟩
      | some l =>
        match l[i]? with
        | some t => ⟨st, .raw r (i + 1), .item t⟩
        | none => ⟨st, .raw r i, .done⟩
    | .ensure [] => ⟨st, .ensure [], .done⟩
    | .ensure (a :: as) => ⟨st, .ensure as, .item (.out (.text a.text false))⟩
    | .forNew var e src rest =>
      match eval st.ctx.frames e with
      | .error er => ⟨st, .dead, .err er⟩
      | .ok v =>
        match v with
        | .genx x items gbody =>
          -- `iter(generator)` is the generator; `stream = list(stream)`; then the loop asks for the first item
          (match remaining h st.ph src with
           | none => ⟨st, .dead, .err .unmodelled⟩
           | some body => pull h fuel st (.forNextG var x items gbody [] body rest))
        | .genf x gsrc gbody =>
          -- the generator of a generator function: its `for x in src` starts at the first `next()`, i.e. here,
          -- after `stream = list(stream)`
          (match remaining h st.ph src with
           | none => ⟨st, .dead, .err .unmodelled⟩
           | some body =>
             match eval st.ctx.frames gsrc with
             | .error er => ⟨st, .dead, .err er⟩
             | .ok (.atom a) =>
               (match iterItems (.atom a) with
                | none => ⟨st, .dead, .err .typeError⟩
                | some items => pull h fuel st (.forNextG var x items gbody [] body rest))
             | .ok (.list xs) => pull h fuel st (.forNextG var x xs gbody [] body rest)
             | .ok (.opaque _) | .ok (.macro _) | .ok (.genfn _ _ _ _) | .ok (.lam _ _) => ⟨st, .dead, .err .typeError⟩
             | .ok _ => ⟨st, .dead, .err .unmodelled⟩)
        | .gen0 _ | .gen1 _ _ => ⟨st, .dead, .err .unmodelled⟩
        | _ =>
        match iterItems v with
        | none => ⟨st, .dead, .err .typeError⟩
        | some items =>
          match remaining h st.ph src with
          | none => ⟨st, .dead, .err .unmodelled⟩
          | some body => pull h fuel st (.forNext var items [] body rest)
    | .forNext _ [] _ _ _ => ⟨st, .dead, .done⟩
    | .forNext var (x :: xs) scope body rest =>
      -- `assign(scope, item); ctxt.push(scope)`
      let c1 := st.ctx.push (Frame.set scope var (.atom x))
      match applyDirs h st.ph c1 (.lst body) rest with
      | .error er => ⟨{ st with ctx := c1 }, .dead, .err er⟩
      | .ok (c2, inner) => pull h fuel { st with ctx := c2 } (.forRun var xs scope body rest inner)
    | .forRun var xs scope body rest inner =>
      let r := pull h fuel st inner
      match r.out with
      | .item t => ⟨r.st, .forRun var xs scope body rest r.it, .item t⟩
      | .err er => ⟨r.st, .dead, .err er⟩
      | .done =>
        -- `ctxt.pop()`: the frame that comes off is the scope dict with whatever was stored in it meanwhile
        pull h fuel { r.st with ctx := r.st.ctx.pop } (.forNext var xs (r.st.ctx.frames.headD scope) body rest)
    | .forNextG _ _ [] _ _ _ _ => ⟨st, .dead, .done⟩
    | .forNextG var x (a :: as) gbody scope body rest =>
      -- `next(generator)`: the body of the nested scope runs NOW — `x` is its local, every other name is looked
      -- up in the Context (`__data__` of the globals of the eval that created the generator) as it is now
      match eval ([(x, .atom a)] :: st.ctx.frames) gbody with
      | .error er => ⟨st, .dead, .err er⟩
      | .ok v =>
        if v.isGenerator then ⟨st, .dead, .err .unmodelled⟩
        else
          let c1 := st.ctx.push (Frame.set scope var v)
          match applyDirs h st.ph c1 (.lst body) rest with
          | .error er => ⟨{ st with ctx := c1 }, .dead, .err er⟩
          | .ok (c2, inner) => pull h fuel { st with ctx := c2 } (.forRunG var x as gbody scope body rest inner)
    | .forRunG var x xs gbody scope body rest inner =>
      let r := pull h fuel st inner
      match r.out with
      | .item t => ⟨r.st, .forRunG var x xs gbody scope body rest r.it, .item t⟩
      | .err er => ⟨r.st, .dead, .err er⟩
      | .done =>
        pull h fuel { r.st with ctx := r.st.ctx.pop } (.forNextG var x xs gbody (r.st.ctx.frames.headD scope) body rest)
    | .genfNew x gsrc gbody =>
      match eval st.ctx.frames gsrc with
      | .error er => ⟨st, .dead, .err er⟩
      | .ok (.atom a) =>
        (match iterItems (.atom a) with
         | none => ⟨st, .dead, .err .typeError⟩
         | some items => pull h fuel st (.genexp x items gbody))
      | .ok (.list xs) => pull h fuel st (.genexp x xs gbody)
      | .ok (.opaque _) | .ok (.macro _) | .ok (.genfn _ _ _ _) | .ok (.lam _ _) => ⟨st, .dead, .err .typeError⟩
      | .ok _ => ⟨st, .dead, .err .unmodelled⟩
    | .genexp _ [] _ => ⟨st, .dead, .done⟩
    | .genexp x (a :: as) gbody =>
      -- `_ensure`: `next(stream)`, then `TEXT, str(item)` for an item that is no event tuple
      match eval ([(x, .atom a)] :: st.ctx.frames) gbody with
      | .error er => ⟨st, .dead, .err er⟩
      | .ok (.atom v) => ⟨st, .genexp x as gbody, .item (.out (.text v.text false))⟩
      | .ok _ => ⟨st, .dead, .err .unmodelled⟩
    | .withNew binds src rest =>
      match evalBinds (st.ctx.push []) binds with
      | .error (c', er) => ⟨{ st with ctx := c' }, .dead, .err er⟩
      | .ok c2 =>
        match applyDirs h st.ph c2 src rest with
        | .error er => ⟨{ st with ctx := c2 }, .dead, .err er⟩
        | .ok (c3, inner) => pull h fuel { st with ctx := c3 } (.popAfter inner)
    | .popAfter inner =>
      let r := pull h fuel st inner
      match r.out with
      | .item t => ⟨r.st, .popAfter r.it, .item t⟩
      | .err er => ⟨r.st, .dead, .err er⟩
      | .done => ⟨{ r.st with ctx := r.st.ctx.pop }, .dead, .done⟩
    | .chooseNew e src rest =>
      let val : Except Err (Option Val) :=
        match e with
        | none => .ok none
        | some ex => (eval st.ctx.frames ex).map some
      match val with
      | .error er => ⟨st, .dead, .err er⟩
      | .ok v =>
        let c1 := { st.ctx with choice := ⟨false, e.isSome, v⟩ :: st.ctx.choice }
        match applyDirs h st.ph c1 src rest with
        | .error er => ⟨{ st with ctx := c1 }, .dead, .err er⟩
        | .ok (c2, inner) => pull h fuel { st with ctx := c2 } (.chooseRun inner)
    | .chooseRun inner =>
      let r := pull h fuel st inner
      match r.out with
      | .item t => ⟨r.st, .chooseRun r.it, .item t⟩
      | .err er => ⟨r.st, .dead, .err er⟩
      | .done => ⟨{ r.st with ctx := { r.st.ctx with choice := r.st.ctx.choice.tail } }, .dead, .done⟩
    | .pushNew f src rest =>
      let c1 := st.ctx.push f
      match applyDirs h st.ph c1 src rest with
      | .error er => ⟨{ st with ctx := c1 }, .dead, .err er⟩
      | .ok (c2, inner) => pull h fuel { st with ctx := c2 } (.popAfter inner)
    | .stripNew e src =>
      let cond : Except Err Bool :=
        match e with
        | none => .ok true
        | some ex => (eval st.ctx.frames ex).map Val.truthy
      match cond with
      | .error er => ⟨st, .dead, .err er⟩
      | .ok false => pull h fuel st src
      | .ok true =>
        let r1 := pull h fuel st src            -- next(stream): skip the start tag
        match r1.out with
        | .err er => ⟨r1.st, .dead, .err er⟩
        | .done => ⟨r1.st, .dead, .err .stopIter⟩
        | .item _ =>
          let r2 := pull h fuel r1.st r1.it      -- previous = next(stream)
          match r2.out with
          | .err er => ⟨r2.st, .dead, .err er⟩
          | .done => ⟨r2.st, .dead, .err .stopIter⟩
          | .item p => pull h fuel r2.st (.stripRun p r2.it)
    | .macroNew m arg =>
      -- the body of `function(*args)`: bind the parameters, push the scope, apply the remaining directives
      match bindParams st.ctx.frames m.params arg [] with
      | .error er => ⟨st, .dead, .err er⟩
      | .ok scope =>
        let c1 := st.ctx.push scope
        match applyDirs h st.ph c1 (.lst m.body) m.rest with
        | .error er => ⟨{ st with ctx := c1 }, .dead, .err er⟩
        | .ok (c2, inner) => pull h fuel { st with ctx := c2 } (.popAfter inner)
    | .stripRun p src =>
      let r := pull h fuel st src
      match r.out with
      | .item t => ⟨r.st, .stripRun t r.it, .item p⟩
      | .err er => ⟨r.st, .dead, .err er⟩
      | .done => ⟨r.st, .dead, .done⟩
    | .attrsNew spec src =>
      -- `kind, data, pos = next(stream)`; the expression is evaluated only for a START; afterwards the
      -- generator relays the stream
      let r := pull h fuel st src
      match r.out with
      | .err er => ⟨r.st, .dead, .err er⟩
      | .done => ⟨r.st, .dead, .err .stopIter⟩
      | .item t =>
        match startOf t with
        | none => ⟨r.st, r.it, .item t⟩
        | some (tag, attrib) =>
          match evalAttrsSpec r.st.ctx.frames spec with
          | .error er => ⟨r.st, .dead, .err er⟩
          | .ok none => ⟨r.st, r.it, .item t⟩
          | .ok (some new) => ⟨r.st, r.it, .item (.startI tag (attrsOr attrib new))⟩

/-! ## `Translator.__call__` -/

def i18nKeys : List Str := [
  ['_','i','1','8','n','.','g','e','t','t','e','x','t'],
  ['_','i','1','8','n','.','n','g','e','t','t','e','x','t'],
  ['_','i','1','8','n','.','d','g','e','t','t','e','x','t'],
  ['_','i','1','8','n','.','d','n','g','e','t','t','e','x','t'],
  ['_','i','1','8','n','.','p','g','e','t','t','e','x','t'],
  ['_','i','1','8','n','.','n','p','g','e','t','t','e','x','t'],
  ['_','i','1','8','n','.','d','p','g','e','t','t','e','x','t'],
  ['_','i','1','8','n','.','d','n','p','g','e','t','t','e','x','t']]

/-- the generator's prologue: `ctxt['_i18n.gettext'] = gettext` … (translations object) -/
def setI18nKeys (c : Ctx) : Ctx := i18nKeys.foldl (fun c k => c.setTop k (.opaque k)) c

def popN : Nat → Ctx → Ctx
  | 0, c => c
  | n + 1, c => popN n c.pop

def insertAt : Nat → Dir → List Dir → List Dir
  | 0, d, l => d :: l
  | _ + 1, d, [] => [d]
  | n + 1, d, x :: xs => x :: insertAt n d xs

/-- state of `for idx, directive in enumerate(directives)` -/
structure Reorder where
  ds : List Dir
  dom : Option Str
  cx : Option Str
  ctx : Ctx
  deriving Repr, Inhabited

/-- the loop body runs on the list as it is at that moment (Python list iterator) -/
def reorderLoop : Nat → Nat → Reorder → Reorder
  | 0, _, s => s
  | n + 1, i, s =>
    match s.ds[i]? with
    | none => s
    | some d =>
      match d.kind with
      | .i18nDomain dm =>
        reorderLoop n (i + 1)
          { s with dom := some dm, ctx := s.ctx.push [(sDomain, .atom (.str dm))],
                   ds := d :: s.ds.eraseIdx i }
      | .i18nCtxt c =>
        let pos := match s.dom with | some dm => if dm.isEmpty then 0 else 1 | none => 0
        reorderLoop n (i + 1)
          { s with cx := some c, ctx := s.ctx.push [(sContext, .atom (.str c))],
                   ds := insertAt pos d (s.ds.eraseIdx i) }
      | _ => reorderLoop n (i + 1) s

/-- the same loop one list-method call at a time: the contents of the list after every `pop` and every
    `insert` (what another thread holding a reference to the list can see, before the fix) -/
def reorderMicro : Nat → Nat → List Dir → Bool → List (List Dir)
  | 0, _, _, _ => []
  | n + 1, i, ds, dom =>
    match ds[i]? with
    | none => []
    | some d =>
      match d.kind with
      | .i18nDomain dm =>
        let a := ds.eraseIdx i
        let b := d :: a
        a :: b :: reorderMicro n (i + 1) b (!dm.isEmpty)
      | .i18nCtxt _ =>
        let a := ds.eraseIdx i
        let b := insertAt (if dom then 1 else 0) d a
        a :: b :: reorderMicro n (i + 1) b dom
      | _ => reorderMicro n (i + 1) ds dom

def strTruthy : Option Str → Bool
  | some s => !s.isEmpty
  | none => false

/-- result of translating a list of events eagerly (`list(self(substream, ctxt, …))`) -/
structure TRes where
  h : Heap
  st : St
  out : List TEv
  err : Option Err
  deriving Repr, Inhabited

/-- result of handling one SUB event up to its `yield` -/
structure TSub where
  h : Heap
  st : St
  ev : TEv
  pops : Nat          -- `ctxt.pop()`s executed when the generator is resumed
  err : Option Err
  deriving Repr, Inhabited

def writeDirs (h ph : Heap) (r : Ref) (ds : List Dir) : Heap × Heap :=
  match r with
  | .tmpl a => (h.set a (.dirs ds), ph)
  | .priv a => (h, ph.set a (.dirs ds))

/-- the SUB branch of `Translator.__call__`.  `nested` is the recursive call on the sub-stream.
    Before the fix the reordering is done on the list the event refers to — the template's. -/
def transSub (v : Variant) (nested : Heap → St → List TEv → TRes) (h : Heap) (st : St)
    (d b : Ref) : TSub :=
  match readDirs h st.ph d, readEvs h st.ph b with
  | some ds, some body =>
    let r := reorderLoop ds.length 0 ⟨ds, none, none, st.ctx⟩
    let (h1, ph1, dref) :=
      if v.callCopies then (h, st.ph ++ [.dirs r.ds], Ref.priv st.ph.length)
      else let w := writeDirs h st.ph d r.ds; (w.1, w.2, d)
    let n := nested h1 ⟨setI18nKeys r.ctx, ph1⟩ body
    let bref := Ref.priv n.st.ph.length
    let pops := (if strTruthy r.dom then 1 else 0) + (if strTruthy r.cx then 1 else 0)
    ⟨n.h, { n.st with ph := n.st.ph ++ [.evs n.out] }, .sub dref bref, pops, n.err⟩
  | _, _ => ⟨h, st, .other, 0, some .unmodelled⟩

/-- the body of the generator over a list of events, run to exhaustion (identity catalogue:
    START / TEXT events are re-yielded unchanged) -/
def transEvs (v : Variant) : Nat → Heap → St → List TEv → TRes
  | 0, h, st, _ => ⟨h, st, [], some .fuel⟩
  | _ + 1, h, st, [] => ⟨h, st, [], none⟩
  | fuel + 1, h, st, t :: ts =>
    match t with
    | .sub d b =>
      let r := transSub v (transEvs v fuel) h st d b
      match r.err with
      | some e => ⟨r.h, r.st, [], some e⟩
      | none =>
        let rest := transEvs v fuel r.h { r.st with ctx := popN r.pops r.st.ctx } ts
        ⟨rest.h, rest.st, r.ev :: rest.out, rest.err⟩
    | .startI _ attrs =>
      -- `newval = list(self(_ensure(value), ctxt, translate_text=False))` for every interpolated value: a nested
      -- call whose prologue stores the eight functions in `frames[0]`; identity catalogue: the events stay
      let st1 : St := if attrs.any (fun p => p.2.isInterp) then { st with ctx := setI18nKeys st.ctx } else st
      let rest := transEvs v fuel h st1 ts
      ⟨rest.h, rest.st, t :: rest.out, rest.err⟩
    | _ =>
      let rest := transEvs v fuel h st ts
      ⟨rest.h, rest.st, t :: rest.out, rest.err⟩

/-- what `_flatten` pulls from when its own stack is empty: the list `root` (a template's `_stream`, or the
    fallback of an include), directly or through the Translator generator -/
inductive Src where
  | direct (root : Ref) (i : Nat)                                -- `iter(stream)`
  | trans (root : Ref) (i : Nat) (started : Bool) (pend : Nat)   -- the Translator generator over it, suspended
  | none                                                         -- `_flatten(iterator)`: everything is on the stack
  deriving DecidableEq, Repr, Inhabited

structure SrcRes where
  h : Heap
  st : St
  src : Src
  out : PullOut
  deriving Repr, Inhabited

def pullSource (v : Variant) (fuel : Nat) (h : Heap) (st : St) : Src → SrcRes
  | .none => ⟨h, st, .none, .done⟩
  | .direct root i =>
    match readEvs h st.ph root with
    | none => ⟨h, st, .direct root i, .err .unmodelled⟩
    | some l =>
      match l[i]? with
      | some t => ⟨h, st, .direct root (i + 1), .item t⟩
      | none => ⟨h, st, .direct root i, .done⟩
  | .trans root i started pend =>
    let c0 := if started then st.ctx else setI18nKeys st.ctx
    let st1 : St := { st with ctx := popN pend c0 }
    match readEvs h st.ph root with
    | none => ⟨h, st1, .trans root i true 0, .err .unmodelled⟩
    | some l =>
      match l[i]? with
      | none => ⟨h, st1, .trans root i true 0, .done⟩
      | some (.sub d b) =>
        let r := transSub v (transEvs v fuel) h st1 d b
        match r.err with
        | some e => ⟨r.h, r.st, .trans root (i + 1) true 0, .err e⟩
        | none => ⟨r.h, r.st, .trans root (i + 1) true r.pops, .item r.ev⟩
      | some (.startI tag attrs) =>
        let st2 : St := if attrs.any (fun p => p.2.isInterp) then { st1 with ctx := setI18nKeys st1.ctx } else st1
        ⟨h, st2, .trans root (i + 1) true 0, .item (.startI tag attrs)⟩
      | some t => ⟨h, st1, .trans root (i + 1) true 0, .item t⟩

/-! ## `_flatten` -/

/-- `stream = pop()` followed by `for … in stream`: an iterator continues, a list starts again -/
def resumeTop : List It → List It
  | .raw r _ :: rest => .raw r 0 :: rest
  | l => l

/-- what comes out of `_flatten` (and passes `_match` unchanged) -/
inductive FlatOut where
  | ev (e : Event)
  | done
  | err (e : Err)
  | incl (t : Option Nat) (fb : Option Ref)      -- an INCLUDE event, for the `_include` filter behind
  deriving DecidableEq, Repr, Inhabited

structure FlatRes where
  h : Heap
  st : St
  src : Src
  stack : List It
  out : FlatOut
  deriving Repr, Inhabited

def flat (v : Variant) : Nat → Heap → St → Src → List It → FlatRes
  | 0, h, st, src, stack => ⟨h, st, src, stack, .err .fuel⟩
  | fuel + 1, h, st, src, stack =>
    let p : SrcRes × List It :=
      match stack with
      | [] => (pullSource v fuel h st src, [])
      | it :: rest =>
        let r := pull h fuel st it
        (⟨h, r.st, src, r.out⟩, r.it :: rest)
    let h1 := p.1.h
    let st1 := p.1.st
    let src1 := p.1.src
    let stack1 := p.2
    match p.1.out with
    | .err e => ⟨h1, st1, src1, stack1, .err e⟩
    | .done =>
      match stack1 with
      | [] => ⟨h1, st1, src1, [], .done⟩
      | _ :: rest => flat v fuel h1 st1 src1 (resumeTop rest)
    | .item t =>
      match t with
      | .out e => ⟨h1, st1, src1, stack1, .ev e⟩
      | .other => ⟨h1, st1, src1, stack1, .err .unmodelled⟩
      | .execGen name x gsrc gbody =>
        -- `_exec_suite`: `exec(code, globals, ctxt)` — the `def` statement stores the function with `ctxt[name] = …`
        -- (`frames[0]`); nothing is yielded
        flat v fuel h1 { st1 with ctx := st1.ctx.setTop name (.genfn name x gsrc gbody) } src1 stack1
      | .incl ti fb => ⟨h1, st1, src1, stack1, .incl ti fb⟩
      | .startI tag attrs =>
        match evalAttrs h1 st1.ph st1.ctx.frames attrs with
        | .error er => ⟨h1, st1, src1, stack1, .err er⟩
        | .ok as => ⟨h1, st1, src1, stack1, .ev (.start tag as)⟩
      | .expr ex =>
        match eval st1.ctx.frames ex with
        | .error er => ⟨h1, st1, src1, stack1, .err er⟩
        | .ok (.atom .none) => flat v fuel h1 st1 src1 stack1
        | .ok (.atom (.str s)) => ⟨h1, st1, src1, stack1, .ev (.text s false)⟩
        | .ok (.atom a) => ⟨h1, st1, src1, stack1, .ev (.text a.text false)⟩
        | .ok (.list xs) => flat v fuel h1 st1 src1 (.ensure xs :: stack1)
        | .ok (.opaque _) => ⟨h1, st1, src1, stack1, .err .unmodelled⟩
        | .ok (.macro _) => ⟨h1, st1, src1, stack1, .err .unmodelled⟩
        | .ok (.gen0 m) => flat v fuel h1 st1 src1 (.macroNew m none :: stack1)
        | .ok (.gen1 m a) => flat v fuel h1 st1 src1 (.macroNew m (some a) :: stack1)
        | .ok (.genx x items gbody) => flat v fuel h1 st1 src1 (.genexp x items gbody :: stack1)
        | .ok (.genf x gsrc gbody) => flat v fuel h1 st1 src1 (.genfNew x gsrc gbody :: stack1)
        | .ok (.genfn _ _ _ _) => ⟨h1, st1, src1, stack1, .err .unmodelled⟩     -- `str(function)` shows an address
        | .ok (.lam _ _) => ⟨h1, st1, src1, stack1, .err .unmodelled⟩
      | .sub d b =>
        match readDirs h1 st1.ph d with
        | none => ⟨h1, st1, src1, stack1, .err .unmodelled⟩
        | some ds =>
          -- `_apply_directives`: `directives[0](iter(stream), directives[1:], …)`, or the list itself
          match applyDirs h1 st1.ph st1.ctx (if ds.isEmpty then .raw b 0 else .ref b 0) ds with
          | .error er => ⟨h1, st1, src1, stack1, .err er⟩
          | .ok (c2, it2) => flat v fuel h1 { st1 with ctx := c2 } src1 (it2 :: stack1)

/-! ## the `_match` filter (one-step element-name paths, content not selected) -/

/-- the first match template with index in `[start, end)` that tests true on a START with this local name -/
def findMatchFrom (name : Str) (start : Nat) (end_ : Option Nat) : Nat → List MatchT → Option (Nat × MatchT)
  | _, [] => none
  | idx, mt :: rest =>
    let inRange := start ≤ idx && (match end_ with | some e => idx < e | none => true)
    if inRange && !mt.retired && mt.name = name then some (idx, mt) else findMatchFrom name start end_ (idx + 1) rest

def findMatch (mts : List MatchT) (start : Nat) (end_ : Option Nat) (name : Str) : Option (Nat × MatchT) :=
  findMatchFrom name start end_ 0 mts

/-- `if 'match_once' in hints: match_templates[idx] = (_retired,) + match_templates[idx][1:]`; the slot
    stays, so `pre_end = idx + 1` either way; returns the list and `idx + 1` -/
def afterOnce (mts : List MatchT) (idx : Nat) (mt : MatchT) : List MatchT × Nat :=
  if mt.once then (mts.set idx { mt with retired := true }, idx + 1) else (mts, idx + 1)

structure CRes where
  h : Heap
  st : St
  src : Src
  stack : List It
  err : Option Err
  deriving Repr, Inhabited

mutual
  /-- `content = list(self._include(chain([event], inner, tail), ctxt))`: the matched element is pulled out
      of this `_flatten` up to its END (`_strip`), through `self._match(inner, start, end=pre_end)`; bodies of
      match templates that fire inside are rendered on the spot.  Nobody selects the content: only the
      effects of producing it remain. -/
  def consume (v : Variant) : Nat → Heap → St → Src → List It → Nat → Nat → Nat → CRes
    | 0, h, st, src, stack, _, _, _ => ⟨h, st, src, stack, some .fuel⟩
    | fuel + 1, h, st, src, stack, start, preEnd, depth =>
      if depth = 0 then ⟨h, st, src, stack, none⟩
      else
        let r := flat v fuel h st src stack
        match r.out with
        | .done => ⟨r.h, r.st, r.src, r.stack, some .stopIter⟩      -- `next(stream)` inside `_strip`
        | .err e => ⟨r.h, r.st, r.src, r.stack, some e⟩
        | .incl _ _ => ⟨r.h, r.st, r.src, r.stack, some .unmodelled⟩
        | .ev (.end_ _) => consume v fuel r.h r.st r.src r.stack start preEnd (depth - 1)
        | .ev (.start tag _) =>
          match (if preEnd > 0 then findMatch r.st.ctx.mts start (some preEnd) tag.loc else none) with
          | none => consume v fuel r.h r.st r.src r.stack start preEnd (depth + 1)
          | some (idx, mt) =>
            let (mts', pe2) := afterOnce r.st.ctx.mts idx mt
            let st1 : St := { r.st with ctx := { r.st.ctx with mts := mts' } }
            let c := consume v fuel r.h st1 r.src r.stack start pe2 1
            match c.err with
            | some e => ⟨c.h, c.st, c.src, c.stack, some e⟩
            | none =>
              match applyDirs c.h c.st.ph c.st.ctx (.lst mt.body) mt.rest with
              | .error e => ⟨c.h, c.st, c.src, c.stack, some e⟩
              | .ok (c2, it) =>
                let b := runBody v fuel c.h { c.st with ctx := c2 } [it] pe2 (some preEnd)
                match b.err with
                | some e => ⟨b.h, b.st, c.src, c.stack, some e⟩
                | none => consume v fuel b.h b.st c.src c.stack start preEnd depth
        | .ev _ => consume v fuel r.h r.st r.src r.stack start preEnd depth

  /-- `self._match(self._flatten(template, …), ctxt, start=idx+1, end=end)` driven to its end, events dropped -/
  def runBody (v : Variant) : Nat → Heap → St → List It → Nat → Option Nat → CRes
    | 0, h, st, stack, _, _ => ⟨h, st, .none, stack, some .fuel⟩
    | fuel + 1, h, st, stack, start, end_ =>
      let r := flat v fuel h st .none stack
      match r.out with
      | .done => ⟨r.h, r.st, .none, r.stack, none⟩
      | .err e => ⟨r.h, r.st, .none, r.stack, some e⟩
      | .incl _ _ => ⟨r.h, r.st, .none, r.stack, some .unmodelled⟩
      | .ev (.start tag _) =>
        match findMatch r.st.ctx.mts start end_ tag.loc with
        | none => runBody v fuel r.h r.st r.stack start end_
        | some (idx, mt) =>
          let (mts', pe2) := afterOnce r.st.ctx.mts idx mt
          let st1 : St := { r.st with ctx := { r.st.ctx with mts := mts' } }
          let c := consume v fuel r.h st1 .none r.stack start pe2 1
          match c.err with
          | some e => ⟨c.h, c.st, .none, c.stack, some e⟩
          | none =>
            match applyDirs c.h c.st.ph c.st.ctx (.lst mt.body) mt.rest with
            | .error e => ⟨c.h, c.st, .none, c.stack, some e⟩
            | .ok (c2, it) =>
              let b := runBody v fuel c.h { c.st with ctx := c2 } [it] pe2 end_
              match b.err with
              | some e => ⟨b.h, b.st, .none, c.stack, some e⟩
              | none => runBody v fuel b.h b.st c.stack start end_
      | .ev _ => runBody v fuel r.h r.st r.stack start end_
end

inductive MOut where
  | ev (e : Event)
  | done
  | err (e : Err)
  | incl (t : Option Nat) (fb : Option Ref)
  | matched (body : It) (start : Nat)     -- a match template fired: its body is rendered next, matched from `start`
  deriving Repr, Inhabited

structure MRes where
  h : Heap
  st : St
  src : Src
  stack : List It
  out : MOut
  deriving Repr, Inhabited

/-- one `next()` of `_match(stream, ctxt, start)` over this frame's `_flatten` -/
def mpull (v : Variant) (fuel : Nat) (h : Heap) (st : St) (src : Src) (stack : List It) (start : Nat) : MRes :=
  let r := flat v fuel h st src stack
  match r.out with
  | .done => ⟨r.h, r.st, r.src, r.stack, .done⟩
  | .err e => ⟨r.h, r.st, r.src, r.stack, .err e⟩
  | .incl t fb => ⟨r.h, r.st, r.src, r.stack, .incl t fb⟩
  | .ev (.start tag attrs) =>
    match findMatch r.st.ctx.mts start none tag.loc with
    | none => ⟨r.h, r.st, r.src, r.stack, .ev (.start tag attrs)⟩
    | some (idx, mt) =>
      let (mts', pe) := afterOnce r.st.ctx.mts idx mt
      let st1 : St := { r.st with ctx := { r.st.ctx with mts := mts' } }
      let c := consume v fuel r.h st1 r.src r.stack start pe 1
      match c.err with
      | some e => ⟨c.h, c.st, c.src, c.stack, .err e⟩
      | none =>
        match applyDirs c.h c.st.ph c.st.ctx (.lst mt.body) mt.rest with
        | .error e => ⟨c.h, c.st, c.src, c.stack, .err e⟩
        | .ok (c2, it) => ⟨c.h, { c.st with ctx := c2 }, c.src, c.stack, .matched it pe⟩
  | .ev e => ⟨r.h, r.st, r.src, r.stack, .ev e⟩

/-! ## the `_include` filter: one pipeline (filters of a template over a list) per nesting level -/

/-- the suspended generators of one `generate()` / of the filtered fallback / of the body of a match
    template: `_flatten` with its source, and the `start` of the `_match` over it -/
structure PFrame where
  src : Src
  stack : List It
  mstart : Nat := 0
  deriving DecidableEq, Repr, Inhabited

def srcOver (translator : Bool) (root : Ref) : Src :=
  if translator then .trans root 0 false 0 else .direct root 0

inductive StepOut where
  | ev (e : Event)
  | done                 -- StopIteration: the render is complete
  | err (e : Err)        -- the exception that ends the render
  | stopped              -- `next()` on a generator that already finished or raised
  deriving DecidableEq, Repr, Inhabited

structure PipeRes where
  h : Heap
  st : St
  frames : List PFrame
  touched : List Nat     -- templates loaded through the loader and rendered (`tmpl.generate(ctxt)` prepares them)
  out : StepOut
  deriving Repr, Inhabited

/-- `roots[t]` = address of the `_stream` list of template `t` of the loader (0 = the template itself).
    Head of `frames` = the innermost pipeline, the one that runs. -/
def pipe (v : Variant) (translator : Bool) (roots : List Nat) :
    Nat → Heap → St → List PFrame → List Nat → PipeRes
  | 0, h, st, frames, touched => ⟨h, st, frames, touched, .err .fuel⟩
  | _ + 1, h, st, [], touched => ⟨h, st, [], touched, .done⟩
  | fuel + 1, h, st, f :: outer, touched =>
    let r := mpull v fuel h st f.src f.stack f.mstart
    let cur : PFrame := ⟨r.src, r.stack, f.mstart⟩
    match r.out with
    | .ev e => ⟨r.h, r.st, cur :: outer, touched, .ev e⟩
    | .err e => ⟨r.h, r.st, cur :: outer, touched, .err e⟩
    | .done => pipe v translator roots fuel r.h r.st outer touched     -- back in the enclosing generator's loop
    | .matched it start =>
      pipe v translator roots fuel r.h r.st (⟨.none, [it], start⟩ :: cur :: outer) touched
    | .incl (some t) _ =>
      match roots[t]? with
      | none => ⟨r.h, r.st, cur :: outer, touched, .err .unmodelled⟩
      | some root =>
        pipe v translator roots fuel r.h r.st (⟨srcOver translator (.tmpl root), [], 0⟩ :: cur :: outer) (touched ++ [t])
    | .incl none (some fb) =>
      pipe v translator roots fuel r.h r.st (⟨srcOver translator fb, [], 0⟩ :: cur :: outer) touched
    | .incl none none =>
      -- TemplateNotFound; inside an included template the includer's `except` would see it (C11's business)
      ⟨r.h, r.st, cur :: outer, touched, .err (if outer.isEmpty then .notFound else .unmodelled)⟩

/-! ## a render and its `next()` -/

structure Render where
  ctx : Ctx
  ph : Heap
  frames : List PFrame
  live : Bool
  deriving DecidableEq, Repr, Inhabited

/-- `Template.generate(**data)` on a prepared template: nothing runs before the first `next()` -/
def Render.new (translator : Bool) (root : Nat) (data : Frame) : Render :=
  { ctx := Ctx.new data, ph := [], frames := [⟨srcOver translator (.tmpl root), [], 0⟩], live := true }

structure StepRes where
  h : Heap
  r : Render
  out : StepOut
  touched : List Nat
  deriving Repr, Inhabited

def stepR (v : Variant) (translator : Bool) (roots : List Nat) (fuel : Nat) (h : Heap) (r : Render) : StepRes :=
  if r.live then
    let f := pipe v translator roots fuel h ⟨r.ctx, r.ph⟩ r.frames []
    let live := match f.out with | .ev _ => true | _ => false
    ⟨f.h, { ctx := f.st.ctx, ph := f.st.ph, frames := f.frames, live := live }, f.out, f.touched⟩
  else ⟨h, r, .stopped, []⟩

end Genshi.Heap
