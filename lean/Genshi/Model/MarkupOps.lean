/-
  C18 — the rest of the safe-string / attribute algebra of `genshi/core.py`,
  `genshi/util.py` and `genshi/_speedups.c`, function by function and bug-compatible in BOTH
  implementations (`Impl.c` / `Impl.py`):

    Markup.escape (classmethod: falsy operands, exact Markup, Markup subclasses, `__html__`,
                   None, numbers), the static C `escape()` the C operators call (no falsy test),
    Markup.__add__/__radd__/__mul__/__rmul__/join/__mod__ (`%s %r %d %%  %(k)s %(k)r %(k)d`)
    with the TYPE of every result (str / Markup / Markup subclass),
    Markup.__repr__ (ASCII fragment of `str.__repr__`, decidable guard), Markup.unescape,
    core.unescape, Markup.stripentities(keepxmlentities), Markup.striptags, util.striptags,
    util.plaintext, PyUnicode_FromStringAndSize (UTF-8 decoding of the C buffer),
    Attrs.__contains__/get/__getitem__ (index and slice)/__sub__ with a string/totuple,
    QName.__new__/__getnewargs__, Namespace.__getitem__/__contains__/__eq__.

  `stripentities` (keepxmlentities false) is C06's model `Genshi.San.stripentities`
  (imported read-only).  No Mathlib: linked into `gdrv`.
-/
import Genshi.Model.Escape
import Genshi.Model.SanText
namespace Genshi.MarkupOps
open Genshi.Str Genshi.Escape

abbrev Str := List Char

inductive Impl where
  | c | py
  deriving DecidableEq, Repr

/-- run-time type of a string result -/
inductive Ty where
  | str      -- exactly `str`
  | markup   -- exactly `Markup`
  | msub     -- the very operand, an instance of a subclass of `Markup`
  deriving DecidableEq, Repr

/-- operands -/
inductive Arg where
  | str (s : Str)      -- `str`, or an instance of a `str` subclass that is not a Markup
  | markup (s : Str)   -- exactly `Markup`
  | msub (s : Str)     -- instance of a subclass of `Markup`
  | html (s : Str)     -- object (truthy) whose `__html__()` returns `s`
  | none
  | int (n : Int)
  deriving DecidableEq, Repr

inductive PyErr where
  | attributeError | typeError | keyError | indexError
  deriving DecidableEq, Repr

/-- `not text` -/
def Arg.falsy : Arg → Bool
  | .str s => s.isEmpty
  | .markup s => s.isEmpty
  | .msub s => s.isEmpty
  | .html _ => false
  | .none => true
  | .int n => n == 0

/-- `str(n)` for an int -/
def intRepr (n : Int) : Str :=
  if n < 0 then '-' :: Nat.toDigits 10 n.natAbs else Nat.toDigits 10 n.natAbs

def noneRepr : Str := ['N', 'o', 'n', 'e']

/-- the classmethod `Markup.escape(text, quotes)` called on `Markup` itself.
    Python: `not text` / `type(text) is cls` / `hasattr(text, '__html__')` / replace chain.
    C (`Markup_escape`): `PyObject_Not` / `PyObject_TypeCheck(text, type)` / `escape()`. -/
def escapeCls (impl : Impl) (esc : Bool → Str → Str) (q : Bool) (a : Arg) :
    Except PyErr (Ty × Str) :=
  if a.falsy then .ok (.markup, []) else
  match impl, a with
  | _, .markup s => .ok (.markup, s)
  | .c, .msub s => .ok (.msub, s)                 -- `PyObject_TypeCheck`: the operand itself
  | .py, .msub s => .ok (.markup, s)              -- `hasattr(text, '__html__')`: `cls(text.__html__())`
  | _, .html s => .ok (.markup, s)
  | _, .str s => .ok (.markup, esc q s)
  | .c, .int n => .ok (.markup, intRepr n)        -- `PyObject_Str`
  | .py, .int _ => .error .attributeError         -- `int` has no `replace`
  | _, .none => .ok (.markup, [])

/-- what the operators call on an operand: Python `escape(x)` = the classmethod;
    C the static `escape()` (no falsy test: `None` prints as `None`, `0` as `0`) -/
def escapeOp (impl : Impl) (esc : Bool → Str → Str) (q : Bool) (a : Arg) : Except PyErr Str :=
  match impl with
  | .py => (escapeCls .py esc q a).map (·.2)
  | .c => .ok (match a with
      | .markup s => s
      | .msub s => s
      | .html s => s
      | .str s => esc q s
      | .none => noneRepr
      | .int n => intRepr n)

/-- `Markup.__add__` (always a `Markup`) -/
def add (impl : Impl) (esc : Bool → Str → Str) (self : Str) (o : Arg) : Except PyErr (Ty × Str) :=
  (escapeOp impl esc true o).map fun t => (.markup, self ++ t)

/-- `Markup.__radd__` -/
def radd (impl : Impl) (esc : Bool → Str → Str) (self : Str) (o : Arg) : Except PyErr (Ty × Str) :=
  (escapeOp impl esc true o).map fun t => (.markup, t ++ self)

/-- `Markup.__mul__` / `__rmul__`: a negative count gives the empty Markup, a non-integer
    operand `TypeError` -/
def mul (self : Str) : Arg → Except PyErr (Ty × Str)
  | .int n => .ok (.markup, mMul self n.toNat)
  | _ => .error .typeError

/-- `Markup.join(seq, escape_quotes)` -/
def join (impl : Impl) (esc : Bool → Str → Str) (sep : Str) (q : Bool) (xs : List Arg) :
    Except PyErr (Ty × Str) :=
  (xs.mapM (escapeOp impl esc q)).map fun ts => (.markup, Str.join sep ts)

/-! ### `str.__repr__` (ASCII fragment) and `Markup.__repr__` -/

def hexDig (n : Nat) : Char := if n < 10 then Char.ofNat (48 + n) else Char.ofNat (87 + n)

def reprChar (quote : Char) (c : Char) : Str :=
  if c = quote ∨ c = '\\' then ['\\', c]
  else if c = '\t' then ['\\', 't']
  else if c = '\n' then ['\\', 'n']
  else if c = '\r' then ['\\', 'r']
  else if c.toNat < 0x20 ∨ c.toNat = 0x7f then ['\\', 'x', hexDig (c.toNat / 16), hexDig (c.toNat % 16)]
  else [c]

/-- the guard: every character is ASCII (printability of the rest is a Unicode table) -/
def reprModelled (s : Str) : Bool := s.all fun c => c.toNat < 128

def reprQuote (s : Str) : Char := if s.contains '\'' && !s.contains '"' then '"' else '\''

/-- `str.__repr__(s)` for ASCII `s` -/
def strRepr (s : Str) : Str := reprQuote s :: s.flatMap (reprChar (reprQuote s)) ++ [reprQuote s]

/-- `Markup.__repr__`: `<Markup '…'>` -/
def markupRepr (s : Str) : Str := ['<', 'M', 'a', 'r', 'k', 'u', 'p', ' '] ++ strRepr s ++ ['>']

/-! ### `Markup.__mod__` -/

inductive Conv where
  | s | r | d
  deriving DecidableEq, Repr

inductive Piece where
  | lit : Str → Piece
  | pct : Piece                    -- `%%`
  | arg : Conv → Piece             -- `%s %r %d`
  | key : Str → Conv → Piece       -- `%(k)s %(k)r %(k)d`
  deriving DecidableEq, Repr

def conv? (c : Char) : Option Conv :=
  if c = 's' then some .s else if c = 'r' then some .r else if c = 'd' then some .d else none

/-- read `k)` + conversion after `%(`; `none` = outside the fragment (nested parentheses,
    flags, widths, other conversions, unterminated key) -/
def takeKey : Str → Str → Option (Str × Conv × Str)
  | [], _ => none
  | [_], _ => none
  | ')' :: c :: rest, acc => (conv? c).map fun cv => (acc.reverse, cv, rest)
  | c :: rest, acc => if c = '(' then none else takeKey rest (c :: acc)

/-- parse a format string; `none` = uses something outside `%s %r %d %% %(k)s %(k)r %(k)d` -/
def parseFmt : Nat → Str → Str → Option (List Piece)
  | 0, _, _ => none
  | _ + 1, [], acc => some (if acc.isEmpty then [] else [.lit acc.reverse])
  | fuel + 1, '%' :: rest, acc =>
      let pre := if acc.isEmpty then [] else [Piece.lit acc.reverse]
      match rest with
      | '%' :: r => (parseFmt fuel r []).map (pre ++ [.pct] ++ ·)
      | '(' :: r =>
          match takeKey r [] with
          | some (k, cv, r') => (parseFmt fuel r' []).map (pre ++ [.key k cv] ++ ·)
          | none => none
      | c :: r =>
          match conv? c with
          | some cv => (parseFmt fuel r []).map (pre ++ [.arg cv] ++ ·)
          | none => none
      | [] => none
  | fuel + 1, c :: rest, acc => parseFmt fuel rest (c :: acc)

inductive FmtErr where
  | unsupported            -- outside the modelled fragment (counted, never defaulted)
  | raised (e : PyErr)
  deriving DecidableEq, Repr

/-- one conversion applied to an operand that `escape` has already turned into a Markup
    with text `t`: `%s` its text, `%r` `Markup.__repr__`, `%d` `TypeError` (a Markup is no number) -/
def convert (cv : Conv) (t : Str) : Except FmtErr Str :=
  match cv with
  | .s => .ok t
  | .r => if reprModelled t then .ok (markupRepr t) else .error .unsupported
  | .d => .error (.raised .typeError)

/-- positional formatting: consume the operands left to right -/
def fmtPos : List Piece → List Str → Except FmtErr Str
  | [], [] => .ok []
  | [], _ :: _ => .error (.raised .typeError)
  | .lit s :: ps, as => (fmtPos ps as).map (s ++ ·)
  | .pct :: ps, as => (fmtPos ps as).map ('%' :: ·)
  | .arg _ :: _, [] => .error (.raised .typeError)
  | .arg cv :: ps, a :: as => do
      let x ← convert cv a
      let r ← fmtPos ps as
      pure (x ++ r)
  | .key _ _ :: _, _ => .error (.raised .typeError)

def fmtMap : List Piece → List (Str × Str) → Except FmtErr Str
  | [], _ => .ok []
  | .lit s :: ps, m => (fmtMap ps m).map (s ++ ·)
  | .pct :: ps, m => (fmtMap ps m).map ('%' :: ·)
  | .arg _ :: _, _ => .error .unsupported   -- `'%s' % {..}` prints the dict: outside the fragment
  | .key k cv :: ps, m =>
      match lookupKey k m with
      | none => .error (.raised .keyError)
      | some v => do
          let x ← convert cv v
          let r ← fmtMap ps m
          pure (x ++ r)

inductive ModArg where
  | one : Arg → ModArg
  | tup : List Arg → ModArg
  | map : List (Str × Arg) → ModArg
  deriving Repr

def liftErr {α : Type} : Except PyErr α → Except FmtErr α
  | .ok a => .ok a
  | .error e => .error (.raised e)

/-- `dict(zip(args.keys(), map(escape, args.values())))`, one item -/
def escapeKV (impl : Impl) (esc : Bool → Str → Str) (p : Str × Arg) : Except PyErr (Str × Str) :=
  (escapeOp impl esc true p.2).map fun t => (p.1, t)

/-- `Markup.__mod__`: every operand goes through `escape` first (an error there wins),
    then `str.__mod__` on the fragment; the result is a `Markup` -/
def mod (impl : Impl) (esc : Bool → Str → Str) (fmt : Str) (a : ModArg) : Except FmtErr (Ty × Str) :=
  match parseFmt (fmt.length + 1) fmt [] with
  | none => .error .unsupported
  | some ps =>
    match a with
    | .one o => do
        let t ← liftErr (escapeOp impl esc true o)
        let r ← fmtPos ps [t]
        pure (.markup, r)
    | .tup os => do
        let ts ← liftErr (os.mapM (escapeOp impl esc true))
        let r ← fmtPos ps ts
        pure (.markup, r)
    | .map kvs => do
        let ts ← liftErr (kvs.mapM (escapeKV impl esc))
        let r ← fmtMap ps ts
        pure (.markup, r)

/-! ### unescape, stripentities, striptags, plaintext -/

/-- `Markup.unescape()`: a plain `str` (both implementations) -/
def unescapeM (s : Str) : Ty × Str := (.str, unescape s)

/-- `genshi.core.unescape(text)`: not a Markup → returned unchanged -/
def unescapeFn : Arg → Option (Ty × Str)
  | .str s => some (.str, s)
  | .markup s => some (unescapeM s)
  | .msub s => some (unescapeM s)
  | _ => none

def xmlEntities : List Str :=
  [['a', 'm', 'p'], ['a', 'p', 'o', 's'], ['g', 't'], ['l', 't'], ['q', 'u', 'o', 't']]

/-- `_replace_entity` for `&name;` with `keepxmlentities` true -/
def namedRefK (name : Str) : Except San.Err Str :=
  if xmlEntities.contains name then .ok ('&' :: name ++ [';'])
  else match San.lookupEntity name with
    | some cp => do let c ← San.pyChr cp; pure [c]
    | none => .ok (['&', 'a', 'm', 'p', ';'] ++ name ++ [';'])

def matchNamedK (rest : Str) : Option (Except San.Err Str × Str) :=
  let w := rest.takeWhile San.isReWord
  if w.isEmpty then none else
  match rest.dropWhile San.isReWord with
  | ';' :: r => some (namedRefK w, r)
  | _ => none

def matchRefK (rest : Str) : Option (Except San.Err Str × Str) :=
  match San.matchNumeric rest with
  | some (r, rest') => some (.ok r, rest')
  | none => matchNamedK rest

def stripEntGoK : Nat → Str → Except San.Err Str
  | 0, s => .ok s
  | _ + 1, [] => .ok []
  | f + 1, c :: cs =>
    if c = '&' then
      match matchRefK cs with
      | some (repl, rest) => do
          let r ← repl
          let t ← stripEntGoK f rest
          pure (r ++ t)
      | none => do let t ← stripEntGoK f cs; pure (c :: t)
    else do let t ← stripEntGoK f cs; pure (c :: t)

/-- `genshi.util.stripentities(text, keepxmlentities)` -/
def stripentities (keep : Bool) (s : Str) : Except San.Err Str :=
  if keep then stripEntGoK (s.length + 1) s else San.stripentities s

/-- `.*?-->` of `_STRIPTAGS_RE` (no DOTALL): the text after the first `-->` provided no line
    feed comes before it -/
def afterCommentEnd : Str → Option Str
  | [] => none
  | c :: cs =>
    if ['-', '-', '>'].isPrefixOf (c :: cs) then some (cs.drop 2)
    else if c = '\n' then none
    else afterCommentEnd cs

/-- `[^>]*>`: the text after the first `>` -/
def afterGt : Str → Option Str
  | [] => none
  | c :: cs => if c = '>' then some cs else afterGt cs

/-- one match of `(<!--.*?-->|<[^>]*>)` at a `<` (`rest` = the text after it) -/
def matchTag (rest : Str) : Option Str :=
  match (if ['!', '-', '-'].isPrefixOf rest then afterCommentEnd (rest.drop 3) else none) with
  | some r => some r
  | none => afterGt rest

def stripTagsGo : Nat → Str → Str
  | 0, s => s
  | _ + 1, [] => []
  | f + 1, c :: cs =>
    if c = '<' then
      match matchTag cs with
      | some rest => stripTagsGo f rest
      | none => c :: stripTagsGo f cs
    else c :: stripTagsGo f cs

/-- `genshi.util.striptags(text)` -/
def striptags (s : Str) : Str := stripTagsGo (s.length + 1) s

/-- `genshi.util.plaintext(text, keeplinebreaks)` -/
def plaintext (keeplinebreaks : Bool) (s : Str) : Except San.Err Str := do
  let t ← stripentities false (striptags s)
  pure (if keeplinebreaks then t else replace ['\n'] [' '] t)

/-! ### `PyUnicode_FromStringAndSize`: decoding the buffer the C `escape()` filled -/

/-- strict UTF-8 decoding is not needed: the buffer holds the bytes of a valid string with
    ASCII bytes replaced by ASCII text; the decoder follows the lead byte -/
def utf8Decode : Nat → List Nat → List Char
  | 0, _ => []
  | _ + 1, [] => []
  | f + 1, b0 :: rest =>
    if b0 < 0x80 then Char.ofNat b0 :: utf8Decode f rest
    else if b0 < 0xE0 then
      match rest with
      | b1 :: r => Char.ofNat ((b0 - 0xC0) * 64 + (b1 - 0x80)) :: utf8Decode f r
      | _ => []
    else if b0 < 0xF0 then
      match rest with
      | b1 :: b2 :: r => Char.ofNat ((b0 - 0xE0) * 4096 + (b1 - 0x80) * 64 + (b2 - 0x80)) :: utf8Decode f r
      | _ => []
    else
      match rest with
      | b1 :: b2 :: b3 :: r =>
          Char.ofNat ((b0 - 0xF0) * 262144 + (b1 - 0x80) * 4096 + (b2 - 0x80) * 64 + (b3 - 0x80)) :: utf8Decode f r
      | _ => []

/-- the C `escape()` on a string, end to end: encode, scan, decode -/
def escapeC (q : Bool) (s : Str) : Str :=
  let bs := (escapeCBytes q (utf8 s)).1
  utf8Decode bs.length bs

/-- the string escaper of an implementation -/
def escOf : Impl → Bool → Str → Str
  | .c => escapeC
  | .py => escapePy

/-! ### Attrs -/

/-- `Attrs.__getitem__(i)` for an integer -/
def attrsIndex (a : Attrs) (i : Int) : Except PyErr (Name × Str) :=
  let j : Int := if i < 0 then i + a.length else i
  if j < 0 then .error .indexError
  else match a[j.toNat]? with
    | some p => .ok p
    | none => .error .indexError

/-- a slice bound as `slice.indices` clamps it (step 1) -/
def sliceBound (len : Nat) (dflt : Nat) : Option Int → Nat
  | none => dflt
  | some v => if v < 0 then (v + len).toNat else min v.toNat len

/-- `Attrs.__getitem__(slice(i, j))`: an `Attrs` again -/
def attrsSlice (a : Attrs) (i j : Option Int) : Attrs :=
  let lo := sliceBound a.length 0 i
  let hi := sliceBound a.length a.length j
  (a.drop lo).take (hi - lo)

/-- `Attrs.__sub__` with a single string: `names = (names,)` -/
def attrsSubStr (a : Attrs) (n : Name) : Attrs := Attrs.sub a [n]

/-- the data of `Attrs.totuple()`: `''.join([x[1] for x in self])` (kind `TEXT`, position
    `(None, -1, -1)` are constants) -/
def attrsTotuple (a : Attrs) : Str := (a.map (·.2)).flatten

/-! ### QName, Namespace -/

structure QN where
  text : Str            -- the `str` value (what `==` and `hash` see)
  ns : Option Str       -- `.namespace`
  loc : Str             -- `.localname`
  deriving DecidableEq, Repr

def lstripBrace (s : Str) : Str := lstripBy (· = '{') s

/-- `s.split('}', 1)`: `none` when there is no `}` -/
def splitBrace : Str → Option (Str × Str)
  | [] => none
  | c :: cs =>
    if c = '}' then some ([], cs)
    else match splitBrace cs with
      | some (a, b) => some (c :: a, b)
      | none => none

/-- `QName.__new__(cls, qname)` for a string -/
def qnameNew (s : Str) : QN :=
  let s' := lstripBrace s
  match splitBrace s' with
  | some (a, b) => ⟨'{' :: s', some a, b⟩
  | none => ⟨s', none, s'⟩

/-- `QName.__getnewargs__`: what pickle / copy hand back to `__new__` -/
def qnameNewArgs (q : QN) : Str := lstripBrace q.text

/-- `Namespace.__getitem__` / `__getattr__` -/
def nsGetItem (uri name : Str) : QN := qnameNew (uri ++ '}' :: name)

/-- `Namespace.__contains__` -/
def nsContains (uri : Str) (q : QN) : Bool := q.ns == some uri

/-- `Namespace.__eq__` with another Namespace or with a string -/
def nsEq (uri other : Str) : Bool := uri == other

end Genshi.MarkupOps
