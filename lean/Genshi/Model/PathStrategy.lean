/-
  genshi/path.py — the three matcher strategies as state machines stepping over
  events (`GenericStrategy.test`, `SimplePathStrategy.__init__/test`,
  `SingleStepStrategy.test`), `supports`, strategy selection in
  `Path.__init__`, the union dispatcher `_multi` of `Path.test`, and
  `Path.select` with its update-only calls over matched subtrees.

  The matchers return `Val`: `none` (Python `None`), `bool true` (a match),
  `attrs a` (the selected attributes), `event e` (a node() test result).
  `updateonly` is ignored by all three strategies in the code, so it is not a
  parameter here: an update-only call is a call whose result the caller drops.
-/
import Genshi.Model.Path
import Genshi.Gen.Path
namespace Genshi.Path
open Genshi

def dotSlash : Step := ⟨.self, .principal false, []⟩          -- _DOTSLASH
def dotSlashSlash : Step := ⟨.descendantOrSelf, .principal false, []⟩   -- _DOTSLASHSLASH

/-- events the matchers skip without touching their state -/
def _root_.Genshi.Event.isNsOrCdata : Event → Bool
  | .startNs _ _ | .endNs _ | .startCdata | .endCdata => true
  | _ => false

def _root_.Genshi.Event.isStart : Event → Bool
  | .start _ _ => true
  | _ => false

def _root_.Genshi.Event.isEnd : Event → Bool
  | .end_ _ => true
  | _ => false

/-! ## Positional counters -/

/-- `if len(cou) < cnum + 1: cou.append(0); cou[cnum] += 1` -/
def bump (cnum : Nat) (cou : List Nat) : List Nat :=
  let cou := if cou.length < cnum + 1 then cou ++ [0] else cou
  cou.mapIdx fun i v => if i == cnum then v + 1 else v

abbrev Store := List (List Nat)

def Store.get (s : Store) (id : Nat) : List Nat := s.getD id []

/-- the loop over `enumerate(chain(pcou, mcou))` for one positional predicate:
    returns the store and the set of missed indexes -/
def countLoop (cnum : Nat) (x : XNum) : List Nat → Nat → List Nat → Store → Store × List Nat
  | [], _, missed, store => (store, missed)
  | id :: ids, i, missed, store =>
      if missed.contains i then countLoop cnum x ids (i + 1) missed store
      else
        let cou := bump cnum (store.get id)
        let store := store.set id cou
        let missed := if XNum.eqNat x (cou.getD cnum 0) then missed else missed ++ [i]
        countLoop cnum x ids (i + 1) missed store

/-- the `for predicate in predicates` loop of GenericStrategy for one position:
    (matched, store) -/
def gPreds (e : Event) (ns : NsMap) (vs : Vars) (cous : List Nat) :
    List Expr → Nat → List Nat → Store → Bool × Store
  | [], _, _, store => (true, store)
  | p :: ps, cnum, missed, store =>
      match p.eval e ns vs with
      | .num x =>
          let (store, missed) := countLoop cnum x cous 0 missed store
          let ok := if missed.length == cous.length then false else (Val.num x).truthy
          if !ok then (false, store) else gPreds e ns vs cous ps (cnum + 1) missed store
      | v => if !v.truthy then (false, store) else gPreds e ns vs cous ps cnum missed store

/-! ## GenericStrategy -/

structure GPos where
  x : Nat
  cous : List Nat
  deriving DecidableEq, Repr, Inhabited

structure GState where
  stack : List (List GPos)      -- head = top of the Python list
  store : Store
  deriving DecidableEq, Repr, Inhabited

/-- `while len(p) > 1 and p[0] is self::node() without predicates: p = p[1:]` -/
def stripDot : LocPath → LocPath
  | s0 :: s1 :: rest =>
      if s0.axis == .self && s0.preds.isEmpty && s0.test == .node then stripDot (s1 :: rest)
      else s0 :: s1 :: rest
  | p => p

/-- the `steps` list computed at the top of `GenericStrategy.test` -/
def gSteps (p : LocPath) (ic : Bool) : List Step :=
  match (if ic then stripDot p else p) with
  | [] => []
  | s0 :: rest =>
    let p := if ic then stripDot p else p
    if ic then
      if s0.axis == .attribute then dotSlashSlash :: p
      else ⟨.descendantOrSelf, s0.test, s0.preds⟩ :: rest
    else if s0.axis == .child || s0.axis == .attribute || s0.axis == .descendant then dotSlash :: p
    else p

def realLen (steps : List Step) : Nat :=
  match steps.getLast? with
  | some s => if s.axis == .attribute then steps.length - 1 else steps.length
  | none => 0

def gInit : GState := ⟨[[⟨0, [0]⟩]], [[]]⟩

def isDescLike (a : Axis) : Bool := a == .descendant || a == .descendantOrSelf

structure GAcc where
  nextPos : List GPos
  store : Store
  retval : Val
  deriving Repr

/-- `next_pos` update for a descendant-like position with counters from the parent -/
def pushDesc (nextPos : List GPos) (x : Nat) (pcou : List Nat) : List GPos :=
  match nextPos.getLast? with
  | some last => if last.x == x then nextPos.dropLast ++ [⟨x, last.cous ++ pcou⟩] else nextPos ++ [⟨x, pcou⟩]
  | none => [⟨x, pcou⟩]

/-- queue entries `(x, pcou, mcou)` -/
abbrev QEntry := Nat × List Nat × List Nat

def pushSelf (q : List QEntry) (x1 : Nat) (cc : Nat) : List QEntry :=
  match q with
  | [] => [(x1, [], [cc])]
  | (x', p', m') :: q' => if x' > x1 then (x1, [], [cc]) :: q else (x', p', m' ++ [cc]) :: q'

/-- `matched` once the last real step matched: `True`, or the result of the attribute node
    test when the path ends in an attribute step -/
def lastResult (steps : List Step) (e : Event) (ns : NsMap) : Val :=
  match steps.getLast? with
  | some last => if last.axis == .attribute then last.test.apply e ns else .bool true
  | none => .bool true

/-- the `while pos_queue` loop -/
def gLoop (steps : List Step) (rlen : Nat) (e : Event) (ns : NsMap) (vs : Vars) :
    Nat → List QEntry → GAcc → GAcc
  | 0, _, acc => acc
  | _, [], acc => acc
  | fuel + 1, (x, pcou, mcou) :: q, acc =>
    match steps[x]? with
    | none => acc
    | some st =>
      let nextPos := if isDescLike st.axis && !pcou.isEmpty then pushDesc acc.nextPos x pcou else acc.nextPos
      if !st.test.matches e ns then gLoop steps rlen e ns vs fuel q { acc with nextPos := nextPos }
      else
        let (matched, store) := gPreds e ns vs (pcou ++ mcou) st.preds 0 [] acc.store
        if !matched then gLoop steps rlen e ns vs fuel q { acc with nextPos := nextPos, store := store }
        else if x + 1 == rlen then
          let m : Val := lastResult steps e ns
          let retval := if m.truthy then m else acc.retval
          gLoop steps rlen e ns vs fuel q ⟨nextPos, store, retval⟩
        else
          let cc := store.length
          let store := store ++ [[]]
          let nextAxis := (steps[x + 1]?.map Step.axis).getD .child
          let q := if nextAxis == .descendantOrSelf || nextAxis == .self then pushSelf q (x + 1) cc else q
          let nextPos := if nextAxis != .self then nextPos ++ [⟨x + 1, [cc]⟩] else nextPos
          gLoop steps rlen e ns vs fuel q ⟨nextPos, store, acc.retval⟩

/-- one call of `_test(event, namespaces, variables)` -/
def gStep (steps : List Step) (ns : NsMap) (vs : Vars) (st : GState) (e : Event) : GState × Val :=
  if e.isEnd then ({ st with stack := st.stack.drop 1 }, .none)
  else if e.isNsOrCdata then (st, .none)
  else
    let top := st.stack.headD []
    let q : List QEntry := top.map fun p => (p.x, p.cous, [])
    let acc := gLoop steps (realLen steps) e ns vs (2 * steps.length + q.length + 2) q ⟨[], st.store, .none⟩
    let stack := if e.isStart then acc.nextPos :: st.stack else st.stack
    (⟨stack, acc.store⟩, acc.retval)

/-! ## SingleStepStrategy -/

structure SState where
  counters : List Nat
  depth : Int
  deriving DecidableEq, Repr, Inhabited

/-- `return attrib(kind, data, pos, namespaces, variables) or None` (fixes ef611bc for
    SimplePathStrategy, 996160a for SingleStepStrategy) -/
def attrResult (a : NodeTest) (e : Event) (ns : NsMap) : Val :=
  if (a.apply e ns).truthy then a.apply e ns else .none

def sSteps (p : LocPath) : List Step :=
  match p with
  | s0 :: _ => if s0.axis == .attribute then dotSlash :: p else p
  | [] => []

def sPreds (e : Event) (ns : NsMap) (vs : Vars) : List Expr → Nat → List Nat → Bool × List Nat
  | [], _, counters => (true, counters)
  | p :: ps, cnum, counters =>
      match p.eval e ns vs with
      | .num x =>
          let counters := bump cnum counters
          let ok := if XNum.eqNat x (counters.getD cnum 0) then (Val.num x).truthy else false
          if !ok then (false, counters) else sPreds e ns vs ps (cnum + 1) counters
      | v => if !v.truthy then (false, counters) else sPreds e ns vs ps cnum counters

def sStep (steps : List Step) (ic : Bool) (ns : NsMap) (vs : Vars) (st : SState) (e : Event) : SState × Val :=
  if e.isEnd then ((if ic then st else { st with depth := st.depth - 1 }), .none)
  else if e.isNsOrCdata then (st, .none)
  else
    match steps.head?, steps.getLast? with
    | some s0, some sl =>
      let outside := !ic && ((s0.axis == .self && st.depth != 0) || (s0.axis == .child && st.depth != 1)
                              || (s0.axis == .descendant && st.depth < 1))
      let st := if !ic && e.isStart then { st with depth := st.depth + 1 } else st
      if outside then (st, .none)
      else if !s0.test.matches e ns then (st, .none)
      else
        let (ok, counters) := sPreds e ns vs s0.preds 0 st.counters
        let st := { st with counters := counters }
        if !ok then (st, .none)
        else if sl.axis == .attribute then (st, attrResult sl.test e ns)
        else (st, .bool true)
    | _, _ => (st, .none)

/-! ## SimplePathStrategy -/

structure Frag where
  tests : List NodeTest
  pi : List Nat
  attr : Option NodeTest
  selfBeginning : Bool
  deriving DecidableEq, Repr, Inhabited

/-- `nodes_equal` -/
def nodesEqual : NodeTest → NodeTest → Bool
  | .localName _ a, .localName _ b => a == b
  | .principal _, .principal _ => true
  | .qprincipal _ _, .qprincipal _ _ => true
  | .qname _ _ _, .qname _ _ _ => true
  | .comment, .comment => true
  | .node, .node => true
  | .pi _, .pi _ => true
  | .text, .text => true
  | _, _ => false

/-- the inner `while s > 0 and not nodes_equal(f[s], f[i]): s = pi[s-1]` -/
def piBack (f : List NodeTest) (pi : List Nat) (fi : NodeTest) : Nat → Nat → Nat
  | 0, s => s
  | fuel + 1, s =>
      if s > 0 && !(match f[s]? with | some t => nodesEqual t fi | none => false)
      then piBack f pi fi fuel (pi.getD (s - 1) 0) else s

/-- `calculate_pi` -/
def piLoop (f : List NodeTest) : List NodeTest → List Nat → Nat → List Nat
  | [], pi, _ => pi
  | fi :: rest, pi, s =>
      let s := piBack f pi fi (s + 1) s
      let s := if (match f[s]? with | some t => nodesEqual t fi | none => false) then s + 1 else s
      piLoop f rest (pi ++ [s]) s

def calculatePi (f : List NodeTest) : List Nat :=
  match f with
  | [] => []
  | _ :: rest => piLoop f rest [0] 0

/-- the loop of `SimplePathStrategy.__init__`; `none` = "can never match" (`self.fragments = None`) -/
def fragLoop : List Step → List Frag → List NodeTest → Bool → Option (List Frag)
  | [], frags, fragment, sb => some (frags ++ [⟨fragment, calculatePi fragment, none, sb⟩])
  | st :: rest, frags, fragment, sb =>
      match st.axis with
      | .self =>
          match fragment.getLast? with
          | some last => if !nodesEqual st.test last then none else fragLoop rest frags fragment sb
          | none => fragLoop rest frags [st.test] true
      | .child => fragLoop rest frags (fragment ++ [st.test]) sb
      | .attribute => some (frags ++ [⟨fragment, calculatePi fragment, some st.test, sb⟩])
      | .descendant =>
          fragLoop rest (frags ++ [⟨fragment, calculatePi fragment, none, sb⟩]) [st.test] false
      | .descendantOrSelf =>
          fragLoop rest (frags ++ [⟨fragment, calculatePi fragment, none, sb⟩]) [st.test] true

def fragments (p : LocPath) : Option (List Frag) := fragLoop p [] [] false

/-- stack entries `(fid, p, ic)`; `fp = none` is `(None, None, ic)` -/
structure PEntry where
  fp : Option (Nat × Nat)
  ic : Bool
  deriving DecidableEq, Repr, Inhabited

abbrev PState := List PEntry     -- head = top

def skipEmpty (frags : List Frag) : Nat → Nat → Nat
  | 0, fid => fid
  | fuel + 1, fid =>
      match frags[fid]? with
      | some f => if f.tests.isEmpty then skipEmpty frags fuel (fid + 1) else fid
      | none => fid

def fragTest (frag : Frag) (p : Nat) (e : Event) (ns : NsMap) : Bool :=
  match frag.tests[p]? with
  | some t => t.matches e ns
  | none => false

/-- KMP: `while p > 0 and (p >= frag_len or not frag[p](...)): p = pi[p-1]` -/
def kmpBack (frag : Frag) (e : Event) (ns : NsMap) : Nat → Nat → Nat
  | 0, p => p
  | fuel + 1, p =>
      if p > 0 && (p >= frag.tests.length || !fragTest frag p e ns)
      then kmpBack frag e ns fuel (frag.pi.getD (p - 1) 0) else p

/-- the `while True` loop of the context-ignoring branch:
    returns (fid, p, frag_len, attrib) -/
def icLoop (frags : List Frag) (e : Event) (ns : NsMap) :
    Nat → Nat → Nat → Nat × Nat × Nat × Option NodeTest
  | 0, fid, p => (fid, p, 0, none)
  | fuel + 1, fid, p =>
      match frags[fid]? with
      | none => (fid, p, 0, none)
      | some frag =>
        let fragLen := frag.tests.length
        let p := kmpBack frag e ns (p + 1) p
        let p := if fragTest frag p e ns then p + 1 else p
        if p == fragLen then
          if fid + 1 == frags.length then (fid, p, fragLen, frag.attr)
          else
            match frags[fid + 1]? with
            | some nxt => if !nxt.selfBeginning then (fid + 1, 0, fragLen, frag.attr)
                          else icLoop frags e ns fuel (fid + 1) 0
            | none => (fid + 1, 0, fragLen, frag.attr)
        else (fid, p, fragLen, frag.attr)

def pStep (frags? : Option (List Frag)) (ignoreContext : Bool) (ns : NsMap) (st : PState) (e : Event) :
    PState × Val :=
  match frags? with
  | none => (st, .none)
  | some frags =>
  if e.isEnd then (st.drop 1, .none)
  else if e.isNsOrCdata then (st, .none)
  else
    let fl := frags.length
    -- where are we: (fid?, p, ic) or an early return
    let start : Option (Option (Nat × Nat) × Bool) :=
      match st with
      | [] =>
          let fid := skipEmpty frags (fl + 1) 0
          let ic := ignoreContext || fid > 0
          let sb := (frags[fid]?.map Frag.selfBeginning).getD false
          if !sb && !ignoreContext then none else some (some (fid, 0), ic)
      | top :: _ => some (top.fp, top.ic)
    match start with
    | none =>
        let fid := skipEmpty frags (fl + 1) 0
        (⟨some (fid, 0), ignoreContext || fid > 0⟩ :: st, .none)
    | some (fp, ic) =>
      -- the fragment still bound to the context
      let bound : Option (Option (Nat × Nat) × Bool × Nat × Option NodeTest) :=
        match fp with
        | some (fid, p) =>
          if !ic then
            match frags[fid]? with
            | none => some (fp, ic, 0, none)
            | some frag =>
              let fragLen := frag.tests.length
              let fp' : Option (Nat × Nat) :=
                if p == fragLen then some (fid, p)
                else if fragTest frag p e ns then some (fid, p + 1)
                else none
              match fp' with
              | some (fid, p) =>
                  if p == fragLen && fid + 1 != fl then
                    let sb := (frags[fid + 1]?.map Frag.selfBeginning).getD false
                    if !sb then none     -- early return below (push for START)
                    else some (some (fid + 1, 0), true, fragLen, frag.attr)
                  else some (some (fid, p), ic, fragLen, frag.attr)
              | none => some (none, ic, fragLen, frag.attr)
          else some (fp, ic, 0, none)
        | none => some (fp, ic, 0, none)
      match bound with
      | none =>
          -- next fragment starts with descendant:: : only below this node
          match fp with
          | some (fid, _) => ((if e.isStart then ⟨some (fid + 1, 0), true⟩ :: st else st), .none)
          | none => (st, .none)
      | some (none, ic, _, _) => ((if e.isStart then ⟨none, ic⟩ :: st else st), .none)
      | some (some (fid, p), ic, fragLen, attrib) =>
        let (fid, p, fragLen, attrib) :=
          if ic then icLoop frags e ns (fl + 1) fid p else (fid, p, fragLen, attrib)
        -- `ic` can only have become True inside the loop when it already was
        let st' :=
          if e.isStart then
            (if !ic && fid + 1 == fl && p == fragLen then ⟨none, ic⟩ else ⟨some (fid, p), ic⟩) :: st
          else st
        if fid + 1 == fl && p == fragLen then
          match attrib with
          | some a => (st', attrResult a e ns)
          | none => (st', .bool true)
        else (st', .none)

/-! ## supports, strategy selection, `Path.test`, `Path.select` -/

def simpleSupports (p : LocPath) : Bool :=
  match p with
  | [] => false      -- `path[0]` raises
  | s0 :: _ =>
    s0.axis != .attribute && (p.all fun s =>
      s.preds.isEmpty && (match s.test with
        | .localName _ _ | .comment | .text => true
        | _ => false)) &&
    -- `for step in path[:-1]: if step[0] is ATTRIBUTE: return False` (fix e131362)
    p.dropLast.all fun s => s.axis != .attribute

def singleSupports (p : LocPath) : Bool := p.length == 1

inductive Strategy where
  | single | simple | generic
  deriving DecidableEq, Repr, Inhabited

def strategyOfName (n : Str) : Option Strategy :=
  if n == ['S','i','n','g','l','e','S','t','e','p','S','t','r','a','t','e','g','y'] then some .single
  else if n == ['S','i','m','p','l','e','P','a','t','h','S','t','r','a','t','e','g','y'] then some .simple
  else if n == ['G','e','n','e','r','i','c','S','t','r','a','t','e','g','y'] then some .generic
  else none

def Strategy.supports : Strategy → LocPath → Bool
  | .single, p => singleSupports p
  | .simple, p => simpleSupports p
  | .generic, _ => true

/-- `Path.STRATEGIES` (generated) -/
def strategyOrder : List Strategy := Gen.Path.strategies.filterMap strategyOfName

/-- the loop of `Path.__init__`: first strategy that supports the path -/
def chooseStrategy (p : LocPath) : Option Strategy := strategyOrder.find? fun s => s.supports p

/-- a matcher: the strategy object bound to one location path and one mode -/
inductive Matcher where
  | generic (steps : List Step)
  | single (steps : List Step) (ic : Bool)
  | simple (frags : Option (List Frag)) (ic : Bool)
  deriving Repr, Inhabited

inductive MState where
  | g (s : GState)
  | s (s : SState)
  | p (s : PState)
  deriving Repr, Inhabited

def mkMatcher (s : Strategy) (p : LocPath) (ic : Bool) : Matcher × MState :=
  match s with
  | .generic => (.generic (gSteps p ic), .g gInit)
  | .single => (.single (sSteps p) ic, .s ⟨[], 0⟩)
  | .simple => (.simple (fragments p) ic, .p [])

def Matcher.step (m : Matcher) (ns : NsMap) (vs : Vars) (st : MState) (e : Event) : MState × Val :=
  match m, st with
  | .generic steps, .g s => let (s, v) := gStep steps ns vs s e; (.g s, v)
  | .single steps ic, .s s => let (s, v) := sStep steps ic ns vs s e; (.s s, v)
  | .simple frags ic, .p s => let (s, v) := pStep frags ic ns s e; (.p s, v)
  | _, st => (st, .none)

/-- `_multi`: every sub-test sees every event; the first non-`None` result is returned -/
def multiStep (ms : List Matcher) (ns : NsMap) (vs : Vars) : List MState → Event → List MState × Val
  | sts, e =>
    let rs := (ms.zip sts).map fun (m, st) => m.step ns vs st e
    (rs.map Prod.fst, (rs.map Prod.snd).foldl (fun acc v => if acc.isNone then v else acc) .none)

/-- the function returned by `Path.test(ignore_context)` together with its initial state -/
def pathTest (paths : List LocPath) (ic : Bool) (force : Option Strategy := none) : List Matcher × List MState :=
  let ms := paths.map fun p =>
    let s := match force with
      | some s => s
      | none => (chooseStrategy p).getD .generic
    mkMatcher s p ic
  (ms.map Prod.fst, ms.map Prod.snd)

/-- results of testing every event (no skipping) -/
def runTest (ms : List Matcher) (ns : NsMap) (vs : Vars) : List MState → List Event → List Val
  | _, [] => []
  | sts, e :: es =>
      let (sts, v) := multiStep ms ns vs sts e
      v :: runTest ms ns vs sts es

/-- What a caller observes of the per-event results: with `skip` it behaves like `Path.select`
    and the match filter — after a `True` on a START event the events up to the matching END
    are fed with `updateonly=True` and their results dropped (`none`).  The strategies ignore
    `updateonly`, so the results themselves are those of `runTest`. -/
def maskSkip (skip : Bool) : Nat → List Event → List Val → List (Option Val)
  | _, [], _ => []
  | _, _, [] => []
  | depth, e :: es, v :: vs =>
      if depth > 0 then
        none :: maskSkip skip (if e.isStart then depth + 1 else if e.isEnd then depth - 1 else depth) es vs
      else
        some v :: maskSkip skip (if skip && v == .bool true && e.isStart then 1 else 0) es vs

def traceCaller (ms : List Matcher) (ns : NsMap) (vs : Vars) (skip : Bool) (sts : List MState)
    (events : List Event) : List (Option Val) :=
  maskSkip skip 0 events (runTest ms ns vs sts events)

/-- `yield result` for a truthy result other than `True` -/
def itemOf (v : Val) (e : Event) : Item :=
  match v with
  | .attrs a => Item.attrs a
  | .event e' => Item.ev e'
  | _ => Item.ev e

/-- `Path.select`: `depth > 0` while the events of a matched element are passed through
    (the matcher is still fed, update-only) -/
def selectGo (ms : List Matcher) (ns : NsMap) (vs : Vars) : List MState → Nat → List Event → List Item
  | _, _, [] => []
  | sts, depth, e :: es =>
      let (sts, v) := multiStep ms ns vs sts e
      if depth > 0 then
        let depth := if e.isStart then depth + 1 else if e.isEnd then depth - 1 else depth
        .ev e :: selectGo ms ns vs sts depth es
      else if v == .bool true then
        .ev e :: selectGo ms ns vs sts (if e.isStart then 1 else 0) es
      else if v.truthy then itemOf v e :: selectGo ms ns vs sts 0 es
      else selectGo ms ns vs sts 0 es

def select (paths : List LocPath) (ns : NsMap) (vs : Vars) (events : List Event)
    (force : Option Strategy := none) : List Item :=
  let (ms, sts) := pathTest paths false force
  selectGo ms ns vs sts 0 events

end Genshi.Path
