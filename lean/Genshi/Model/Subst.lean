/-
  C01 — substitution sites: how a value taken from the template context reaches the
  output stream.  The model mirrors the code as it is:

    * `flattenVal`   = the EXPR branch of `Template._flatten` (genshi/template/base.py)
                       with `_ensure` (genshi/core.py) for iterables
    * `attrValue`    = the START branch of `_flatten` for interpolated attribute values
                       (`''.join(values)`, `None` parts dropped, nothing left → attribute dropped)
    * `applyPyAttrs` = `AttrsDirective.__call__` (genshi/template/directives.py):
                       `None if v is None else str(v).strip()`, merged with `Attrs.__or__`
    * `evalSite`     = the expression forms of the grammar: `Markup` operators (C18 model),
                       `escape`, the element builder (`Fragment.append/_generate`,
                       `_kwargs_to_attrs`, genshi/builder.py)
    * `renderNode`   = template bodies: literal text, `${…}`/`py:content`/`py:replace` sites,
                       elements, `py:for`, `py:with`/macro calls, `py:if`

  Expressions are not evaluated here (that is C03): a case carries the *values* the
  expressions evaluate to.  Events are START / END / TEXT(plain|safe) without namespaces.
-/
import Genshi.Model.Escape
import Genshi.Gen.Subst
namespace Genshi.Subst
open Genshi.Escape Genshi.Str

abbrev Name := List Char

/-- a scalar context value, as the substitution sites distinguish them -/
inductive Scalar where
  | none                                             -- `None`
  | str (s : List Char)                              -- `str`
  | markup (s : List Char)                           -- `Markup` instance (marked safe)
  | num (s : List Char)                              -- `int`/`float`/`bool` (also subclasses); `s = str(n)`
  | obj (s : List Char) (html : Option (List Char))  -- object: `__str__() = s`, optional `__html__()`
  deriving Repr, DecidableEq, Inhabited

/-- a context value: a scalar, or a list / generator of scalars -/
inductive Val where
  | one (x : Scalar)
  | many (xs : List Scalar)
  deriving Repr, DecidableEq, Inhabited

/-- `six.text_type(x)` -/
def pyStr : Scalar → List Char
  | .none => ['N', 'o', 'n', 'e']
  | .str s => s
  | .markup s => s
  | .num s => s
  | .obj s _ => s

/-- output events of the model (no namespaces) -/
inductive Ev where
  | start (tag : Name) (attrs : List (Name × List Char))
  | end_ (tag : Name)
  | text (s : List Char) (safe : Bool)       -- `safe`: the data is a `Markup` instance
  deriving Repr, DecidableEq, Inhabited

/-! ### text sites: `Template._flatten`, EXPR branch -/

/-- `_number_conv(result)`: `Markup` (marked safe) or plain text, as the class under test says -/
def numberEv (s : List Char) : Ev := .text s Genshi.Gen.Subst.numberConvSafe

/-- the events produced for the result of an EXPR -/
def flattenVal : Val → List Ev
  | .one .none => []                                   -- `if result is not None`
  | .one (.str s) => [.text s false]                   -- string → TEXT
  | .one (.markup s) => [.text s true]                 -- a Markup instance is a string: kept as it is
  | .one (.num s) => [numberEv s]                      -- number → TEXT via `_number_conv`
  | .one (.obj s _) => [.text s false]                 -- no `__iter__` → `six.text_type(result)`
  | .many xs => xs.map fun x => .text (pyStr x) false  -- `__iter__` → `_ensure`: `TEXT, six.text_type(item)`

/-! ### attribute-value sites -/

/-- scalar-valued expression: a context value or a loop / with / macro variable -/
inductive Atom where
  | lit (x : Scalar)
  | var (i : Nat)
  deriving Repr, DecidableEq, Inhabited

/-- value expression -/
inductive VExpr where
  | val (v : Val)                  -- a context variable holding `v`
  | var (i : Nat)                  -- loop / with / macro variable (0 = innermost)
  | listOf (items : List Atom)     -- `[a, b]`, `(z for z in [a, b])`
  deriving Repr, DecidableEq, Inhabited

abbrev Env := List Scalar

def evalAtom (env : Env) : Atom → Scalar
  | .lit x => x
  | .var i => env.getD i .none

def evalV (env : Env) : VExpr → Val
  | .val v => v
  | .var i => .one (env.getD i .none)
  | .listOf items => .many (items.map (evalAtom env))

inductive APart where
  | lit (s : List Char)
  | expr (e : VExpr)
  deriving Repr, DecidableEq, Inhabited

/-- an attribute in a template start tag -/
inductive AttrSpec where
  | static (s : List Char)          -- no expression: stays a string
  | interp (parts : List APart)     -- `interpolate` produced a list of TEXT / EXPR events
  deriving Repr, DecidableEq, Inhabited

def textData : Ev → Option (List Char)
  | .text s _ => some s
  | _ => none

/-- `[event[1] for event in self._flatten(value, …) if event[0] is TEXT and event[1] is not None]` -/
def partValues (env : Env) : APart → List (List Char)
  | .lit s => [s]
  | .expr e => (flattenVal (evalV env e)).filterMap textData

/-- the START branch of `_flatten`: `None` = `if not values: continue` (attribute dropped);
    `''.join(values)` returns a plain `str` whatever the parts were -/
def attrValue (env : Env) : AttrSpec → Option (List Char)
  | .static s => some s
  | .interp parts =>
      let vs := parts.flatMap (partValues env)
      if vs.isEmpty then none else some vs.flatten

/-! ### `py:attrs` -/

def isPySpace (c : Char) : Bool := Genshi.Gen.Subst.pySpace.contains c.toNat

/-- `str.strip()` -/
def pyStrip (s : List Char) : List Char := stripBy isPySpace s

/-- `None if v is None else six.text_type(v).strip()`: only `None` removes an attribute
    (genshi fix `ec9dd78`; before it a value that was empty after trimming removed it as well) -/
def stripValue : Scalar → Option (List Char)
  | .none => none
  | x => some (pyStrip (pyStr x))

/-! `Attrs.__or__` of core.py, as in `Genshi.Escape.Attrs.or`, generic in the value type
    (the directive runs before interpolated values are evaluated, so values are `AttrSpec`s) -/
section Or
variable {α : Type}

def hasName (a : List (Name × α)) (n : Name) : Bool := a.any (fun p => p.1 == n)

def gLastVal (n : Name) : List (Name × α) → Option α
  | [] => none
  | (k, v) :: rest =>
      match gLastVal n rest with
      | some w => some w
      | none => if k = n then some v else none

def gRemove (attrs : List (Name × Option α)) : List Name :=
  attrs.filterMap fun p => if p.2.isNone then some p.1 else none

def gRepl (self : List (Name × α)) (attrs : List (Name × Option α)) : List (Name × α) :=
  attrs.filterMap fun p =>
    match p.2 with
    | some v => if hasName self p.1 then some (p.1, v) else none
    | none => none

def gKept (self : List (Name × α)) (attrs : List (Name × Option α)) : List (Name × α) :=
  self.filterMap fun p =>
    if (gRemove attrs).contains p.1 then none
    else some (p.1, (gLastVal p.1 (gRepl self attrs)).getD p.2)

def gUpsert (n : Name) (v : α) : List (Name × α) → List (Name × α)
  | [] => [(n, v)]
  | (k, w) :: rest => if k = n then (n, v) :: rest else (k, w) :: gUpsert n v rest

def gNewStep (self : List (Name × α)) (remove : List Name) (acc : List (Name × α))
    (p : Name × Option α) : List (Name × α) :=
  match p.2 with
  | some v => if hasName self p.1 || remove.contains p.1 then acc else gUpsert p.1 v acc
  | none => acc

def gNew (self : List (Name × α)) (attrs : List (Name × Option α)) : List (Name × α) :=
  attrs.foldl (gNewStep self (gRemove attrs)) []

/-- `Attrs.__or__` -/
def gOr (self : List (Name × α)) (attrs : List (Name × Option α)) : List (Name × α) :=
  gKept self attrs ++ gNew self attrs
end Or

/-- `AttrsDirective.__call__`: `attrib |= [(QName(n), None if v is None else str(v).strip()) for n, v in attrs]`;
    a falsy value of the expression leaves the attributes alone -/
def applyPyAttrs (env : Env) (attrib : List (Name × AttrSpec)) (items : List (Name × Atom)) :
    List (Name × AttrSpec) :=
  if items.isEmpty then attrib
  else gOr attrib (items.map fun (n, a) => (n, (stripValue (evalAtom env a)).map AttrSpec.static))

/-- the attributes of a START event after the directive and `_flatten` -/
def evalAttrs (env : Env) (attrib : List (Name × AttrSpec)) : List (Name × List Char) :=
  attrib.filterMap fun (n, a) => (attrValue env a).map fun v => (n, v)

/-! ### expression forms at text sites -/

/-- operand of a `Markup` operator (C18 domain: str, Markup, object with `__html__`; the
    other scalars are mapped as the C implementation does — they are outside the domain the
    driver answers for, see `opndOk`) -/
def toOpnd : Scalar → Opnd
  | .none => .plain []
  | .str s => .plain s
  | .markup s => .safe s
  | .num s => .plain s
  | .obj s none => .plain s
  | .obj _ (some h) => .html h

def opndOk : Scalar → Bool
  | .str _ => true
  | .markup _ => true
  | .obj _ (some _) => true
  | _ => false

inductive FArgs where
  | one (a : Atom)
  | tup (as : List Atom)
  | map (kvs : List (List Char × Atom))
  deriving Repr, Inhabited

def evalFArgs (env : Env) : FArgs → ModArg
  | .one a => .one (toOpnd (evalAtom env a))
  | .tup as => .tup (as.map fun a => toOpnd (evalAtom env a))
  | .map kvs => .map (kvs.map fun (k, a) => (k, toOpnd (evalAtom env a)))

/-- the element builder: a child argument of `tag.x(...)` -/
inductive BKid where
  | arg (e : VExpr)                                                  -- a value
  | el (tag : Name) (attrs : List (Name × Atom)) (kids : List BKid)   -- a nested `tag.y(...)`
  deriving Repr, Inhabited

/-- `Fragment.append` + `Fragment._generate` for one scalar child: `None` is skipped, strings
    (a `Markup` stays a `Markup`) are TEXT, anything else is `six.text_type(child)` -/
def bchildEvents : Scalar → List Ev
  | .none => []
  | .str s => [.text s false]
  | .markup s => [.text s true]
  | .num s => [.text s false]
  | .obj s _ => [.text s false]

def bvalEvents : Val → List Ev
  | .one x => bchildEvents x
  | .many xs => xs.flatMap bchildEvents

/-- `_kwargs_to_attrs`: `None` values and repeated names are skipped, values are `six.text_type(value)` -/
def kwAttrs (env : Env) : List (Name × Atom) → List Name → List (Name × Option (List Char))
  | [], _ => []
  | (n, a) :: rest, seen =>
      match evalAtom env a with
      | .none => kwAttrs env rest seen
      | x => if seen.contains n then kwAttrs env rest seen
             else (n, some (pyStr x)) :: kwAttrs env rest (n :: seen)

mutual
  /-- `Element._generate` (attributes: `Attrs() | _kwargs_to_attrs(kwargs)`) -/
  def bkidEvents (env : Env) : BKid → List Ev
    | .arg e => bvalEvents (evalV env e)
    | .el t attrs kids =>
        .start t (Attrs.or [] (kwAttrs env attrs [])) :: (bkidsEvents env kids ++ [.end_ t])
  def bkidsEvents (env : Env) : List BKid → List Ev
    | [] => []
    | k :: ks => bkidEvents env k ++ bkidsEvents env ks
end

/-! markup written by the template author with holes, as `Markup('<b title="%s">%s</b>') % (a, b)` uses it:
    the pieces and the format string they are written as -/

inductive FAttr where
  | lit (v : List Char)      -- a literal attribute value (its text, not yet escaped)
  | hole                     -- `%s`
  deriving Repr, DecidableEq, Inhabited

inductive FPiece where
  | text (s : List Char)     -- literal character data (its text, not yet escaped)
  | hole                     -- `%s` in text position
  | open (tag : Name) (attrs : List (Name × FAttr))
  | close (tag : Name)
  deriving Repr, Inhabited

/-- a literal `%` is written `%%` in a format string -/
def pctDouble (s : List Char) : List Char := s.flatMap fun c => if c = '%' then ['%', '%'] else [c]

def fmtAttr (p : Name × FAttr) : List Char :=
  match p.2 with
  | .lit v => ' ' :: (p.1 ++ ('=' :: '"' :: (pctDouble (escapePy true v) ++ ['"'])))
  | .hole => ' ' :: (p.1 ++ ['=', '"', '%', 's', '"'])

/-- the format string the author writes for the pieces -/
def fmtString : List FPiece → List Char
  | [] => []
  | .text s :: rest => pctDouble (escapePy false s) ++ fmtString rest
  | .hole :: rest => '%' :: 's' :: fmtString rest
  | .open t attrs :: rest => '<' :: (t ++ (attrs.flatMap fmtAttr ++ '>' :: fmtString rest))
  | .close t :: rest => '<' :: '/' :: (t ++ '>' :: fmtString rest)

/-- fill the attribute holes from the operands; `none`: not enough operands -/
def fillAttrs : List (Name × FAttr) → List (List Char) → Option (List (Name × List Char) × List (List Char))
  | [], as => some ([], as)
  | (n, .lit v) :: rest, as => (fillAttrs rest as).map fun r => ((n, v) :: r.1, r.2)
  | (_, .hole) :: _, [] => none
  | (n, .hole) :: rest, a :: as => (fillAttrs rest as).map fun r => ((n, a) :: r.1, r.2)

/-- expression at a text site -/
inductive SExpr where
  | v (e : VExpr)                                   -- `${e}`
  | add (m : List Char) (a : Atom)                  -- `Markup(m) + a`
  | radd (m : List Char) (a : Atom)                 -- `a + Markup(m)`
  | join (sep : List Char) (items : List Atom)      -- `Markup(sep).join([…])`
  | esc (a : Atom) (q : Bool)                       -- `escape(a, quotes=q)`
  | fmt (f : List Char) (args : FArgs)              -- `Markup(f) % args`
  | fmtp (pieces : List FPiece) (args : List Atom)  -- `Markup(fmtString pieces) % (a, b, …)`
  | build (b : BKid)                                -- `tag.x(…)`
  | frag (kids : List BKid)                         -- `tag(…)`
  deriving Repr, Inhabited

/-- value of a `Markup` operator expression: always a `Markup` (`none`: the operator raises) -/
def markupOp (env : Env) : SExpr → Option (List Char)
  | .add m a => some (mAdd escapePy m (toOpnd (evalAtom env a)))
  | .radd m a => some (mRadd escapePy m (toOpnd (evalAtom env a)))
  | .join sep items => some (mJoin escapePy sep true (items.map fun a => toOpnd (evalAtom env a)))
  | .esc a q => some (escOpnd escapePy q (toOpnd (evalAtom env a)))
  | .fmt f args =>
      match mMod escapePy f (evalFArgs env args) with
      | .ok s => some s
      | .error _ => none
  | .fmtp ps as =>
      match mMod escapePy (fmtString ps) (.tup (as.map fun a => toOpnd (evalAtom env a))) with
      | .ok s => some s
      | .error _ => none
  | _ => none

/-- the events an EXPR with this expression contributes (`_flatten`; builder objects and
    streams are iterables of events and pass through `_ensure` unchanged) -/
def evalSite (env : Env) : SExpr → List Ev
  | .v e => flattenVal (evalV env e)
  | .build b => bkidEvents env b
  | .frag kids => bkidsEvents env kids
  | e => match markupOp env e with
      | some s => [.text s true]
      | none => []

/-! ### template bodies -/

inductive Node where
  | lit (s : List Char)                         -- literal text of the template
  | site (e : SExpr)                            -- `${e}`, `$e`, `py:replace`, (inside an element) `py:content`
  | el (tag : Name) (attrs : List (Name × AttrSpec)) (pyattrs : Option (List (Name × Atom)))
       (kids : List Node)
  | loop (e : VExpr) (kids : List Node)         -- `py:for each="x in e"`
  | bind (a : Atom) (kids : List Node)          -- `py:with vars="y=a"`, macro call `f(a)`
  | cond (b : Bool) (kids : List Node)          -- `py:if`, the chosen `py:when`
  deriving Repr, Inhabited

def itemsOf : Val → List Scalar
  | .many xs => xs
  | .one _ => []

mutual
  def renderNode (env : Env) : Node → List Ev
    | .lit s => [.text s false]
    | .site e => evalSite env e
    | .el t attrs pa kids =>
        let attrib := match pa with
          | none => attrs
          | some items => applyPyAttrs env attrs items
        .start t (evalAttrs env attrib) :: (renderList env kids ++ [.end_ t])
    | .loop e kids => (itemsOf (evalV env e)).flatMap fun x => renderList (x :: env) kids
    | .bind a kids => renderList (evalAtom env a :: env) kids
    | .cond b kids => if b then renderList env kids else []
  def renderList (env : Env) : List Node → List Ev
    | [] => []
    | n :: ns => renderNode env n ++ renderList env ns
end

/-! ### the domain the model answers for

  Operands of `Markup` operators outside `str` / `Markup` / `__html__` objects make the two
  `Markup` implementations differ (C18); a `%` that raises has no output at all. -/

def atomOk (env : Env) (a : Atom) : Bool := opndOk (evalAtom env a)

def fargsAtomsOk (env : Env) : FArgs → Bool
  | .one a => atomOk env a
  | .tup as => as.all (atomOk env)
  | .map kvs => kvs.all fun p => atomOk env p.2

def siteOk (env : Env) : SExpr → Bool
  | .add _ a => atomOk env a
  | .radd _ a => atomOk env a
  | .join _ items => items.all (atomOk env)
  | .esc a _ => atomOk env a
  | .fmt f args =>
      fargsAtomsOk env args &&
      (match mMod escapePy f (evalFArgs env args) with
        | .ok _ => true
        | .error _ => false)
  | .fmtp ps as =>
      as.all (atomOk env) &&
      (match mMod escapePy (fmtString ps) (.tup (as.map fun a => toOpnd (evalAtom env a))) with
        | .ok _ => true
        | .error _ => false)
  | _ => true

mutual
  def nodeOk (env : Env) : Node → Bool
    | .lit _ => true
    | .site e => siteOk env e
    | .el _ _ _ kids => listOk env kids
    | .loop e kids => (itemsOf (evalV env e)).all fun x => listOk (x :: env) kids
    | .bind a kids => listOk (evalAtom env a :: env) kids
    | .cond b kids => if b then listOk env kids else true
  def listOk (env : Env) : List Node → Bool
    | [] => true
    | n :: ns => nodeOk env n && listOk env ns
end

end Genshi.Subst
