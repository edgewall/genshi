/-
  C01 — the specification side of `structure_preserved`: what re-reading the output of a
  template must give.  `expectedList env T` is the skeleton of `T` (elements and attributes as
  written in the template, loops unrolled) with each substituted value as character data,
  verbatim.  `_flatten`, `_ensure`, the escapers and the serializers do not appear: a value marked
  safe counts as the text its markup stands for (`safeText`), a `%` site is C18's formatter with
  the identity for the escaper, the builder's attributes are merged by `Attrs.or`.
-/
import Genshi.Model.Subst
namespace Genshi.Subst
open Genshi.Escape Genshi.Str

/-- the character data a value marked as safe markup stands for, when that markup is plain
    escaped text (the only safe values the theorems follow: see `SafeOk`) -/
def safeText (s : List Char) : List Char := unescape s

/-- the character data a scalar contributes at a text site: `None` nothing, anything else its
    string value -/
def scalarText : Scalar → List Char
  | .none => []
  | .markup s => safeText s
  | x => pyStr x

/-- … and a sequence the string values of its items one after the other -/
def valText : Val → List Char
  | .one x => scalarText x
  | .many xs => xs.flatMap pyStr

/-- the character data an operand of a `Markup` operator stands for -/
def opndText : Scalar → List Char
  | .markup s => safeText s
  | .obj _ (some h) => safeText h
  | x => pyStr x

/-- a child of a builder element: `None` nothing -/
def bchildText : Scalar → List Char
  | .none => []
  | .markup s => safeText s
  | x => pyStr x

def bvalText : Val → List Char
  | .one x => bchildText x
  | .many xs => xs.flatMap bchildText

mutual
  def expectedB (env : Env) : BKid → List Ev
    | .arg e => [.text (bvalText (evalV env e)) false]
    | .el t attrs kids =>
        .start t (Attrs.or [] (kwAttrs env attrs [])) :: (expectedBs env kids ++ [.end_ t])
  def expectedBs (env : Env) : List BKid → List Ev
    | [] => []
    | k :: ks => expectedB env k ++ expectedBs env ks
end

/-- the operands of `%` as plain strings -/
def specFArgs (env : Env) : FArgs → ModArg
  | .one a => .one (.safe (opndText (evalAtom env a)))
  | .tup as => .tup (as.map fun a => .safe (opndText (evalAtom env a)))
  | .map kvs => .map (kvs.map fun p => (p.1, .safe (opndText (evalAtom env p.2))))

/-- the author's pieces with the operands in their holes, as events: literal text and operands
    are character data, tags are elements whose attribute values are the literal values and the operands -/
def fillEvents : List FPiece → List (List Char) → Option (List Ev)
  | [], [] => some []
  | [], _ :: _ => none
  | .text s :: rest, as => (fillEvents rest as).map (.text s false :: ·)
  | .hole :: _, [] => none
  | .hole :: rest, a :: as => (fillEvents rest as).map (.text a false :: ·)
  | .open t attrs :: rest, as =>
      match fillAttrs attrs as with
      | some (at_, as') => (fillEvents rest as').map (.start t at_ :: ·)
      | none => none
  | .close t :: rest, as => (fillEvents rest as).map (.end_ t :: ·)

/-- what a text site must contribute: one run of character data (or the builder's elements) -/
def expectedSite (env : Env) : SExpr → List Ev
  | .v e => [.text (valText (evalV env e)) false]
  | .add m a => [.text (safeText m ++ opndText (evalAtom env a)) false]
  | .radd m a => [.text (opndText (evalAtom env a) ++ safeText m) false]
  | .join sep items => [.text (Str.join (safeText sep) (items.map fun a => opndText (evalAtom env a))) false]
  | .esc a _ => [.text (opndText (evalAtom env a)) false]
  | .fmt f args =>
      -- the format string with the operands substituted verbatim: Python's own `%` on plain strings
      match mMod (fun _ s => s) f (specFArgs env args) with
      | .ok s => [.text s false]
      | .error _ => []
  | .fmtp ps as =>
      -- the author's elements with the operands' own text in the holes
      match fillEvents ps (as.map fun a => opndText (evalAtom env a)) with
      | some evs => evs
      | none => []
  | .build b => expectedB env b
  | .frag kids => expectedBs env kids

mutual
  def expectedNode (env : Env) : Node → List Ev
    | .lit s => [.text s false]
    | .site e => expectedSite env e
    | .el t attrs pa kids =>
        let attrib := match pa with
          | none => attrs
          | some items => applyPyAttrs env attrs items
        .start t (evalAttrs env attrib) :: (expectedList env kids ++ [.end_ t])
    | .loop e kids => (itemsOf (evalV env e)).flatMap fun x => expectedList (x :: env) kids
    | .bind a kids => expectedList (evalAtom env a :: env) kids
    | .cond b kids => if b then expectedList env kids else []
  def expectedList (env : Env) : List Node → List Ev
    | [] => []
    | n :: ns => expectedNode env n ++ expectedList env ns
end

end Genshi.Subst
