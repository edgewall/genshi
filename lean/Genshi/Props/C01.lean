/-
  C01 — Template data can never change the structure of generated markup.
  Property theorems, with the few lemmas only they use; helper lemmas live in `Genshi/Lemmas/Subst*.lean`.

  OBLIGATIONS (checked against `#print axioms` by the harness):
    text_roundtrip attr_roundtrip text_no_markup attr_no_breakout
    text_roundtrip_xml_partial attr_roundtrip_xml_partial
    reread_nostrip reread_strip strip_commutes_escape site_yields_plain markup_add_escapes
    structure_preserved_partial render_stream_ok hole_is_data emit_both_implementations markup_format_site
    payload_is_data structure_preserved_markup_partial reread_wellnested
    attrs_site attrs_site_none_removes attrs_site_others_untouched attrs_blank_kept
    script_text_is_raw div_text_is_escaped attr_name_not_escaped pre_keeps_whitespace div_normalises_whitespace
    text_cr_not_recovered_xml attr_lf_not_recovered_xml control_char_not_wellformed_xml
    cache_unobservable noescape_cleared_by_end site_after_end_is_escaped escaping_by_enclosing_elements
    two_scripts_then_site_escaped empty_script_keeps_escaping
    structure_preserved_markup_strip_partial markup_attr_newline_normalised reread_tree
    reread_rawtext_nostrip structure_preserved_rawtext_partial rawtext_covers_plain_templates
    rawtext_spec_is_plain_spec rawtext_no_etago_needed rawtext_etago_closes_element rawtext_site_not_escaped
    reader_raw_mode_runs_to_etago structure_preserved_rawtext_as_written rawtext_strip_normalises_content
-/
import Genshi.Props.C18
import Genshi.Lemmas.Subst
import Genshi.Lemmas.SubstTmpl
import Genshi.Lemmas.SubstAttrs
import Genshi.Lemmas.SubstFmt
import Genshi.Lemmas.SubstNonInt
import Genshi.Lemmas.SubstSplice
import Genshi.Lemmas.SubstNest
import Genshi.Lemmas.SubstCache
import Genshi.Lemmas.SubstSpliceWs
import Genshi.Lemmas.SubstTree
import Genshi.Lemmas.SubstRaw
namespace Genshi.Props.C01
open Genshi.Escape Genshi.Str Genshi.Subst

/-- Character data written for a not-safe value is read back verbatim, whatever follows it
    in the output (the end of the output or the next tag), for every string and all three
    methods. -/
theorem text_roundtrip (m : Method) (v rest : List Char) (hrest : ∀ x, rest.head? = some x → x = '<') :
    readText (emitText m v ++ rest) = v :=
  readText_escaped false v rest hrest

/-- An attribute value is read back verbatim from between its double quotes. -/
theorem attr_roundtrip (v rest : List Char) :
    readAttr (emitAttr v ++ '"' :: rest) = v :=
  readAttr_escaped v rest

/-- Substituted character data cannot introduce markup: it contains no `<` (so no tag,
    comment, processing instruction, CDATA section or doctype can start), no `>`, and every
    `&` in it starts one of the four references the reader decodes (so no other entity). -/
theorem text_no_markup (m : Method) (v : List Char) :
    '<' ∉ emitText m v ∧ '>' ∉ emitText m v ∧
    (∀ pre post, emitText m v = pre ++ '&' :: post → entityFollows post = true) := by
  exact ⟨fun h => (escapePy_chars false v _ h).1 rfl, fun h => (escapePy_chars false v _ h).2.1 rfl,
    escapePy_amps false v⟩

/-- A substituted attribute value cannot end the attribute or the tag: no `"`, no `<`, no `>`;
    every `&` starts one of the four references. -/
theorem attr_no_breakout (v : List Char) :
    '"' ∉ emitAttr v ∧ '<' ∉ emitAttr v ∧ '>' ∉ emitAttr v ∧
    (∀ pre post, emitAttr v = pre ++ '&' :: post → entityFollows post = true) := by
  exact ⟨fun h => (escapePy_chars true v _ h).2.2 rfl rfl, fun h => (escapePy_chars true v _ h).1 rfl,
    fun h => (escapePy_chars true v _ h).2.1 rfl, escapePy_amps true v⟩

/-! ## what a conforming XML processor adds (xml / xhtml)

  Full statements (false of the code, see the witnesses):
    `∀ v, readTextXml (emitText m v) = some v`  and  `∀ v, readAttrXml (emitAttr v ++ ['"']) = some v`.
  Proved with the excluding hypotheses: every character is an XML `Char`, no CR (text), no
  TAB / LF / CR (attribute values). -/

theorem normEol_id (s : List Char) (h : '\r' ∉ s) : normEol s = s := Subst.normEol_id s h

/-- xml / xhtml, character data: verbatim for every string of XML `Char`s without CR. -/
theorem text_roundtrip_xml_partial (m : Method) (v : List Char)
    (hchar : ∀ c ∈ v, isXmlChar c = true) (hcr : '\r' ∉ v) :
    readTextXml (emitText m v) = some v := by
  rw [emitText, readTextXml_eq _ (forall_mem_escapePy false v hchar (by decide))
    fun h => forall_mem_escapePy false (P := (· ≠ '\r')) v (fun c hc e => hcr (e ▸ hc)) (by decide) _ h rfl]
  exact congrArg some (by simpa using readText_escaped false v [] (by simp))

/-- xml / xhtml, attribute values: verbatim for every string of XML `Char`s without TAB, LF, CR. -/
theorem attr_roundtrip_xml_partial (v : List Char)
    (hchar : ∀ c ∈ v, isXmlChar c = true) (hws : ∀ c ∈ v, c ≠ '\t' ∧ c ≠ '\n' ∧ c ≠ '\r') :
    readAttrXml (emitAttr v ++ ['"']) = some v := by
  have hq : ∀ {P : Char → Prop}, (∀ c ∈ v, P c) → (∀ x ∈ entityChars ++ ['"'], P x) → ∀ x ∈ emitAttr v ++ ['"'], P x :=
    fun hv hr x hx => (List.mem_append.mp hx).elim
      (forall_mem_escapePy true v hv (fun y hy => hr y (List.mem_append_left _ hy)) x)
      fun hx => hr x (List.mem_append_right _ hx)
  rw [readAttrXml_eq _ (hq hchar (by decide)) (hq hws (by decide))]
  exact congrArg some (readAttr_escaped v [])

/-- witness (finding C01-xml-cr): a CR in substituted text comes back as LF -/
theorem text_cr_not_recovered_xml :
    readTextXml (emitText .xml ['a', '\r', 'b']) = some ['a', '\n', 'b'] := by decide +kernel

/-- witness (finding C01-attr-ws-xml): a LF in an attribute value comes back as a space -/
theorem attr_lf_not_recovered_xml :
    readAttrXml (emitAttr ['a', '\n', 'b'] ++ ['"']) = some ['a', ' ', 'b'] := by decide +kernel

/-- witness (finding C01-xml-control-char): U+000B makes the output not well-formed -/
theorem control_char_not_wellformed_xml :
    readTextXml (emitText .xml ['a', Char.ofNat 11, 'b']) = none := by decide +kernel

/-- The reader re-reads the output of all three serializers, without whitespace stripping, as
    the stream that was serialized with its character data merged and decoded: START and END
    events, their names, attribute names and attribute values come back exactly.
    Hypotheses: names are names written plainly (`evOkB`), `Markup` text is escaped text
    (`TextsOk`), the stream is nested as `EmptyTagFilter` and the html reader rely on. -/
theorem reread_nostrip (m : Method) (evs : List Ev)
    (hev : ∀ e ∈ evs, evOkB m e = true) (hsafe : TextsOk evs) (hnest : emptyOkGo m none evs = true) :
    readDoc m (serialize m false evs) = some (coalesce evs) :=
  readDoc_serialize_nostrip m evs hev hsafe hnest

/-- … and with `strip_whitespace=True`: every run of character data additionally normalised
    as the option documents (blanks before a newline, runs of newlines) — except inside the
    whitespace-preserving elements `pre`, `textarea` of xhtml / html — and nothing else. -/
theorem reread_strip (m : Method) (evs : List Ev)
    (hev : ∀ e ∈ evs, evOkB m e = true)
    (hsafe : TextsOk evs) (hnest : emptyOkGo m none evs = true) :
    readDoc m (serialize m true evs) = some (coalesceStrip m evs) :=
  readDoc_serialize_strip m evs hev hsafe hnest

/-- Whitespace stripping acts on the escaped text exactly as on the text itself. -/
theorem strip_commutes_escape (q : Bool) (s : List Char) :
    normWs (escapePy q s) = escapePy q (normWs s) := by
  rw [escapePy_eq_spec, escapePy_eq_spec, escapeSpec_eq_mixed]
  obtain ⟨qs, hs, h1, h2⟩ := normWs_mixed (s.map fun c => (q, c))
  -- the characters kept all carry the flag `q`
  have hq : qs.map (fun p => (q, p.2)) = qs :=
    (List.map_congr_left fun p hp => by obtain ⟨c, _, rfl⟩ := List.mem_map.mp (hs.subset hp); rfl).trans (List.map_id qs)
  rw [h1, ← hq, escapeSpec_eq_mixed, show normWs s = qs.map (·.2) by simpa [Function.comp_def] using h2, List.map_map]
  rfl

/-- **No site turns a value that is not marked safe into markup, and none lets a value reach
    a tag or attribute name.**  By cases over the sites:
    * a text site (`${…}`, `py:content`, `py:replace`, loop and macro bodies) yields TEXT events
      only, and a `Markup` TEXT event only for a value that is itself a `Markup` instance, verbatim;
    * a builder child likewise;
    * the attribute names of an element after attribute interpolation and `py:attrs` are names
      written in the template (its attributes, the keys of the `py:attrs` expression), and an
      interpolated attribute value is the plain concatenation of its parts. -/
theorem site_yields_plain :
    (∀ (v : Val) (e : Ev), e ∈ flattenVal v →
      ∃ s f, e = .text s f ∧ (f = true → v = .one (.markup s))) ∧
    (∀ (x : Scalar) (e : Ev), e ∈ bchildEvents x →
      ∃ s f, e = .text s f ∧ (f = true → x = .markup s)) ∧
    (∀ (env : Env) (attrs : List (Subst.Name × AttrSpec)) (pa : Option (List (Subst.Name × Atom))) (p : Subst.Name × List Char),
      p ∈ evalAttrs env (match pa with | none => attrs | some items => applyPyAttrs env attrs items) →
      (∃ q ∈ attrs, q.1 = p.1) ∨ (∃ items, pa = some items ∧ ∃ q ∈ items, q.1 = p.1)) ∧
    (∀ (env : Env) (parts : List APart) (v : List Char), attrValue env (.interp parts) = some v →
      v = (parts.flatMap (partValues env)).flatten) := by
  have hb : ∀ (x : Scalar) (e : Ev), e ∈ bchildEvents x → ∃ s f, e = .text s f ∧ (f = true → x = .markup s) := by
    intro x e he
    cases x with
    | none => simp [bchildEvents] at he
    | str s => simp [bchildEvents] at he; exact ⟨_, _, he, by simp⟩
    | markup s => simp [bchildEvents] at he; exact ⟨_, _, he, fun _ => rfl⟩
    | num s => simp [bchildEvents] at he; exact ⟨_, _, he, by simp⟩
    | obj s h => simp [bchildEvents] at he; exact ⟨_, _, he, by simp⟩
  refine ⟨?_, hb, ?_, ?_⟩
  · intro v e he
    cases v with
    | one x =>
      obtain ⟨s, f, rfl, h⟩ := hb x e (flattenVal_one x ▸ he)
      exact ⟨s, f, rfl, fun hf => congrArg Val.one (h hf)⟩
    | many xs =>
      simp only [flattenVal, List.mem_map] at he
      obtain ⟨x, _, rfl⟩ := he
      exact ⟨_, _, rfl, by simp⟩
  · rintro env attrs pa ⟨n, v⟩ hp
    obtain ⟨sp, hq, _⟩ := (mem_evalAttrs env _ n v).mp hp
    cases pa with
    | none => exact Or.inl ⟨_, hq, rfl⟩
    | some items =>
      simp only [applyPyAttrs_eq] at hq
      rcases gOr_names _ _ _ hq with ⟨r, hr, hrn⟩ | ⟨r, hr, hrn⟩
      · exact Or.inl ⟨r, hr, hrn⟩
      · obtain ⟨r', hr', rfl⟩ := List.mem_map.mp hr
        exact Or.inr ⟨items, rfl, r', hr', hrn⟩
  · intro env parts v h
    simp only [attrValue] at h
    split at h
    · cases h
    · simpa using h.symm

/-- A `Markup` operator escapes each operand that is not marked safe exactly once and the
    result, decoded, is the operands' own text in place (`+`, reflected `+`, `join`, `escape`,
    `%`): what `site_spec` says at the operator sites, proved here for `+` from `Enc.opnd`. -/
theorem markup_add_escapes (env : Env) (mk : List Char) (a : Atom)
    (hm : safeOkB mk = true) (ha : atomOkB a = true) (hd : opndOk (evalAtom env a) = true) (he : EnvOk env) :
    ∃ s, evalSite env (.add mk a) = [.text s true] ∧ SafeOk s ∧
      unescape s = safeText mk ++ opndText (evalAtom env a) := by
  have h := (Enc.ofB hm).append (Enc.opnd (evalAtom env a) hd (evalAtom_ok env a ha he) true)
  exact ⟨_, rfl, h.safeOk, h.unescape⟩

/-- `py:attrs`, full statement: a name whose value is not `None` carries that value, surrounding
    white space trimmed — also when nothing is left after trimming (genshi fix `ec9dd78`, finding
    C01-attrs-blank-dropped; witness `attrs_blank_kept`).
    (The names of the expression are distinct, as the keys of a dictionary are.) -/
theorem attrs_site (env : Env) (attrs : List (Subst.Name × AttrSpec)) (items : List (Subst.Name × Atom))
    (n : Subst.Name) (a : Atom) (hmem : (n, a) ∈ items) (hnd : (items.map (·.1)).Nodup)
    (hv : evalAtom env a ≠ .none) :
    (n, pyStrip (pyStr (evalAtom env a))) ∈ evalAttrs env (applyPyAttrs env attrs items) := by
  have hsv : stripValue (evalAtom env a) = some (pyStrip (pyStr (evalAtom env a))) := by
    cases hx : evalAtom env a with
    | none => exact absurd hx hv
    | str s => rfl
    | markup s => rfl
    | num s => rfl
    | obj s h => rfl
  rw [mem_evalAttrs, applyPyAttrs_eq]
  refine ⟨.static (pyStrip (pyStr (evalAtom env a))), ?_, rfl⟩
  apply gOr_sets
  · exact List.mem_map.mpr ⟨(n, a), hmem, by simp [hsv]⟩
  · simpa [List.map_map, Function.comp_def] using hnd

/-- `None` removes the attribute. -/
theorem attrs_site_none_removes (env : Env) (attrs : List (Subst.Name × AttrSpec)) (items : List (Subst.Name × Atom))
    (n : Subst.Name) (a : Atom) (hmem : (n, a) ∈ items) (hv0 : evalAtom env a = .none) :
    ∀ p ∈ evalAttrs env (applyPyAttrs env attrs items), p.1 ≠ n := by
  have hv : stripValue (evalAtom env a) = none := by rw [hv0]; rfl
  intro p hp hpn
  obtain ⟨k, v⟩ := p
  simp only at hpn
  subst hpn
  rw [mem_evalAttrs, applyPyAttrs_eq] at hp
  obtain ⟨sp, hsp, _⟩ := hp
  exact gOr_removes attrs _ k (List.mem_map.mpr ⟨(k, a), hmem, by simp [hv]⟩) _ hsp rfl

/-- attributes the expression does not name are untouched -/
theorem attrs_site_others_untouched (env : Env) (attrs : List (Subst.Name × AttrSpec))
    (items : List (Subst.Name × Atom)) (n : Subst.Name) (v : List Char) (hno : ∀ p ∈ items, p.1 ≠ n) :
    (n, v) ∈ evalAttrs env (applyPyAttrs env attrs items) ↔ (n, v) ∈ evalAttrs env attrs := by
  rw [mem_evalAttrs, mem_evalAttrs, applyPyAttrs_eq]
  refine exists_congr fun sp => and_congr_left fun _ => gOr_untouched attrs _ n sp fun p hp => ?_
  obtain ⟨q, hq, rfl⟩ := List.mem_map.mp hp
  exact hno q hq

/-- regression witness for finding C01-attrs-blank-dropped: `<a py:attrs="{'title': ' '}"/>` has an empty `title` -/
theorem attrs_blank_kept :
    renderNode [] (.el ['a'] [] (some [(['t', 'i', 't', 'l', 'e'], .lit (.str [' ']))]) [])
      = [.start ['a'] [(['t', 'i', 't', 'l', 'e'], [])], .end_ ['a']] := by decide +kernel

/-- **Structure preserved.**

    FULL STATEMENT (the property): for every template of the grammar (a tree whose leaves are
    substitution sites), every environment, all three methods and both whitespace settings,
    re-reading the rendered output gives the skeleton of the template with every value that is
    not marked safe as character data or attribute value, verbatim (trimmed at `py:attrs`),
    except inside script/style under html and inside CDATA.
    The full statement is FALSE of the code: `attr_lf_not_recovered_xml`, `text_cr_not_recovered_xml`, `control_char_not_wellformed_xml`
    (what a conforming XML processor does to TAB/LF/CR and non-Char characters).

    PROVED: for every template of the grammar, every environment, all three methods and both
    whitespace settings, with the specification-side reader `readDoc`: re-reading gives exactly
    `expectedList env T` — the elements and attributes written in the template, loops unrolled,
    every substituted value verbatim as character data / attribute value (`expectedList` mentions
    no escaping) — with each run of character data normalised as documented under `strip_whitespace`.

    Hypotheses (each decidable, reported per generated case by the driver):
    `nodesOkB` — element / attribute names are names the serializer writes plainly (no boolean or
    prefixed attribute names), no script/style (the property's exception), html void elements are empty,
    markup written by the template author inside `Markup` operators is plain escaped text, format
    strings contain no `& < >` (author markup with tags there: `structure_preserved_markup_partial`, and at
    character level `hole_is_data`), values *marked safe* are plain escaped text (the property does not constrain
    safe values, but a safe value with tags puts the whole template outside this theorem);
    `listOk` — operands of `Markup` operators are str / Markup / `__html__` objects and `%` does
    not raise (domain of C18).  `py:attrs` is covered as the code is (only `None` removes); its
    value-level statement is `attrs_site`.  XML-level normalisation is outside `readDoc`;
    see `text_roundtrip_xml_partial` / `attr_roundtrip_xml_partial`. -/
theorem structure_preserved_partial (m : Method) (strip : Bool) (T : List Subst.Node) (env : Env)
    (hT : nodesOkB m T = true) (hdom : listOk env T = true) (henv : EnvOk env) :
    readDoc m (serialize m strip (renderList env T)) =
      some (if strip then coalesceStrip m (expectedList env T) else coalesce (expectedList env T)) := by
  obtain ⟨hs, hteq⟩ := list_spec m T env hT hdom henv
  exact hs.read hteq strip

/-- **A hole in author markup is data.**  Whatever markup the template author wrote before a
    substitution (a `Markup` format string, a `Markup` concatenated in front, a tag with an
    attribute whose value is the hole): if the reader is reading character data, or is inside a
    double-quoted attribute value, when it reaches the escaped value, then it is in the same mode
    after it and has only collected the value.  (Together with C18's `mod_safe_once`,
    `add_safe_once`, `join_safe_once` — every operand that is not safe is escaped exactly once
    — this is C01 for `Markup` operators with arbitrary author markup.) -/
theorem hole_is_data (m : Method) (st : RS) (v : List Char) :
    (∀ q, st.mode = .text → run m st (escapePy q v) = some { st with buf := st.buf ++ escapePy q v }) ∧
    (st.mode = .attrVal → run m st (escapePy true v) = some { st with buf := st.buf ++ escapePy true v }) :=
  ⟨fun q hm => run_text_chars m _ (fun c hc => (escapePy_chars q v c hc).1) st hm,
    fun hm => run_attrVal_chars m _ (fun c hc => (escapePy_chars true v c hc).2.2 rfl) st hm⟩

/-- **`Markup(fmt) % operands` with tags in the author's markup.**  `fmt` is written from
    pieces — literal text, start tags whose attribute values are literals or holes, end tags,
    text holes (`fmtString`).  For every operand list: the operator's result (`mMod`, the C18
    model of both implementations) is the author's markup with each operand escaped in its hole,
    and re-reading it — with the reader of any of the three methods — gives the author's
    elements and attributes with every operand verbatim as character data / attribute value
    (`fillEsc` holds the operands; `coalesce` decodes the `escape()`d text holes).
    Hypotheses: the names contain no `%` (they are written into a format string), are names the
    reader accepts, and (html) a void element is not given content. -/
theorem markup_format_site (m : Method) (pieces : List FPiece) (args : List (List Char)) (toks : List Tok)
    (hn : piecesNoPct pieces) (hf : fillEsc pieces args = some toks)
    (hok : ∀ t ∈ toks, tokOkB m t = true) (hopen : ∀ t a, Tok.open t a ∈ toks → openOk m t = true) :
    ∃ s, mMod escapePy (fmtString pieces) (.tup (args.map Opnd.plain)) = .ok s ∧
      readDoc m s = some (coalesce (toks.flatMap tokEvents)) :=
  readDoc_mMod_pieces m pieces args toks hn hf hok hopen

/-- Both `Markup` implementations write the same bytes: the C scan of `_speedups.c` on the
    UTF-8 of a value is the UTF-8 of what the model's emitters (the Python chain) produce
    (C18: `escapeC_eq_escapePy`). -/
theorem emit_both_implementations (m : Method) (v : List Char) :
    (escapeCBytes false (utf8 v)).1 = utf8 (emitText m v) ∧
    (escapeCBytes true (utf8 v)).1 = utf8 (emitAttr v) :=
  ⟨Genshi.Props.C18.escapeC_eq_escapePy false v, Genshi.Props.C18.escapeC_eq_escapePy true v⟩

/-- **structure_preserved with markup that has tags, written by the template author**
    (`Markup('<a href="%s">%s</a>') % (u, v)` inside a template), without whitespace stripping.
    The rendered stream holds ONE `Markup` text for such a site (the model of the code is unchanged);
    the proof shows that the serializer writes it exactly as it would write the author's tags as
    elements with the escaped operands between them (`SameOut.splice`, behind `EmptyTagFilter`), and
    the template induction carries that relation (`Sem`).  Re-reading gives the author's elements
    *and* the template's, every operand and every other substituted value verbatim.
    Hypotheses: `nodesOkM` = `nodesOkB` plus, for these sites: the author's names are names without
    `%`, not void under html, the operands are plain strings of the context, and there are as many
    as holes.  `strip_whitespace=True` for these sites is `structure_preserved_markup_strip_partial` (the filter
    normalises the whole text run, attribute values inside the author's tags included).
    MISSING: mapping operands, safe *values* with tags. -/
theorem structure_preserved_markup_partial (m : Method) (T : List Subst.Node) (env : Env)
    (hT : nodesOkM m T = true) (hdom : listOk env T = true) (henv : EnvOk env) :
    readDoc m (serialize m false (renderList env T)) = some (coalesce (expectedList env T)) :=
  (list_sem m T env hT hdom henv).read

/-- **… and with whitespace stripping.**  The `WhitespaceFilter` buffers the `Markup` text of such a
    site together with the character data around it and normalises the run in one piece — the author's
    tags included.  Both regular expressions only look at the following character, so a tag (it starts
    with `<`, ends with `>` and holds no newline) splits the run: `normWs (X ++ tag ++ W) = normWs X ++
    tag ++ normWs W` (`normWs_tag`), and the text is written exactly as its tags would be written as
    elements (`SameOutS.splice`).  Re-reading gives the author's elements and the template's, every
    operand and every other substituted value verbatim up to the documented normalisation of
    character data outside `pre`/`textarea` (`coalesceStrip`).
    Hypotheses: `nodesOkW` = `nodesOkM` plus, for these sites: the author's elements are not
    whitespace-preserving ones (the filter does not see them as elements), their tags are balanced,
    and no attribute value inside them — literal or operand — holds a newline (FALSE without it:
    the filter's normalisation reaches into the value, witness `markup_attr_newline_normalised`).
    MISSING: mapping operands, `+`/`join` with tagged author markup, safe *values* with tags. -/
theorem structure_preserved_markup_strip_partial (m : Method) (T : List Subst.Node) (env : Env)
    (hT : nodesOkW m T = true) (hdom : listOk env T = true) (henv : EnvOk env) :
    readDoc m (serialize m true (renderList env T)) = some (coalesceStrip m (expectedList env T)) :=
  (list_semS m T env hT hdom henv).read

/-- `<p>${Markup('<a title="%s">x</a>') % ('a \n\nb',)}</p>` rendered with whitespace stripping: the value comes
    back as `a\nb` — the filter normalised inside the attribute value (why the hypothesis is there) -/
theorem markup_attr_newline_normalised :
    readDoc .xml (serialize .xml true (renderList []
      [.el ['p'] [] none [.site (.fmtp [.open ['a'] [(['t'], .hole)], .text ['x'], .close ['a']]
        [.lit (.str ['a', ' ', '\n', '\n', 'b'])])]]))
      = some [.start ['p'] [], .start ['a'] [(['t'], ['a', '\n', 'b'])], .text ['x'] false, .end_ ['a'], .end_ ['p']] := by
  decide +kernel

/-- **What is re-read is a well-nested forest**: every END closes the innermost open START of the
    same name and nothing stays open — the element *tree* of the template, not just a sequence of tags. -/
theorem reread_wellnested (m : Method) (strip : Bool) (T : List Subst.Node) (env : Env)
    (hT : nodesOkB m T = true) (hdom : listOk env T = true) (henv : EnvOk env) :
    ∃ out, readDoc m (serialize m strip (renderList env T)) = some out ∧ nest [] out = some [] := by
  exact ⟨_, structure_preserved_partial m strip T env hT hdom henv,
    (nest_reread m strip _ []).trans (expectedList_balanced m T env hT [])⟩

/-- **The result as a tree.**  The re-read events, embedded into the shared event type (`toCore`: plain
    names), are the flattening of exactly one forest of `Core.Node`s: the element *tree* of the template
    with the substituted values as text leaves and attribute values. -/
theorem reread_tree (m : Method) (strip : Bool) (T : List Subst.Node) (env : Env)
    (hT : nodesOkB m T = true) (hdom : listOk env T = true) (henv : EnvOk env) :
    ∃ out forest, readDoc m (serialize m strip (renderList env T)) = some out ∧
      okList forest = true ∧ flattenList forest = out.map toCore ∧
      ∀ other, okList other = true → flattenList other = out.map toCore → other = forest := by
  obtain ⟨out, h1, h2⟩ := reread_wellnested m strip T env hT hdom henv
  obtain ⟨forest, ⟨h3, h4⟩, h5⟩ := Genshi.Parse.wellNested_unique_forest _ (wellNested_toCore out h2)
  exact ⟨out, forest, h1, h3, h4, h5⟩

/-- **Template data cannot change the structure** (non-interference).  Replace the text of
    every value that is not marked safe — every `str`, the `__str__` of every object, in the
    environment and in the template's context values — by anything at all (`retext f`: the
    lengths of sequences, `None`-ness and the kinds of values stay): the elements, their order
    and nesting, and their attribute *names*, as re-read from the rendered output, are the same.
    (`tagsOf` erases character data and attribute values.)
    Hypotheses: those of `structure_preserved_partial` only — for EVERY `f`: `py:attrs` keeps a value that is
    blank after trimming (`attrs_blank_kept`), so nowhere does the text of a value decide whether an attribute exists. -/
theorem payload_is_data (m : Method) (strip : Bool) (T : List Subst.Node) (env : Env) (f : List Char → List Char)
    (hT : nodesOkB m T = true) (hdom : listOk env T = true) (henv : EnvOk env) :
    ∃ out out',
      readDoc m (serialize m strip (renderList env T)) = some out ∧
      readDoc m (serialize m strip (renderList (env.map (·.retext f)) (Subst.Node.retextList f T))) = some out' ∧
      tagsOf out' = tagsOf out := by
  have h1 := structure_preserved_partial m strip T env hT hdom henv
  have h2 := structure_preserved_partial m strip (Subst.Node.retextList f T) (env.map (·.retext f))
    (by rw [(okB_retext f m).2]; exact hT) (by rw [(ok_retext f).2]; exact hdom) (envOk_retext f env henv)
  refine ⟨_, _, h1, h2, ?_⟩
  rw [tagsOf_reread, tagsOf_reread]
  simp only [tagsOf, (skel_retext f).2 T env]

/-- The rendered stream of a template of the grammar is always one the serializer / reader
    theorems apply to. -/
theorem render_stream_ok (m : Method) (T : List Subst.Node) (env : Env)
    (hT : nodesOkB m T = true) (hdom : listOk env T = true) (henv : EnvOk env) :
    (∀ e ∈ renderList env T, evOkB m e = true) ∧ TextsOk (renderList env T) ∧
    emptyOkGo m none (renderList env T) = true := by
  obtain ⟨hs, _⟩ := list_spec m T env hT hdom henv
  exact ⟨hs.ev, hs.safe, hs.closed.emptyOk⟩

/-- inside `script` under html nothing is escaped (the exception the property states) -/
theorem script_text_is_raw :
    serialize .html true [.start ['s', 'c', 'r', 'i', 'p', 't'] [], .text ['a', '<', 'b'] false,
                          .end_ ['s', 'c', 'r', 'i', 'p', 't']]
      = ['<', 's', 'c', 'r', 'i', 'p', 't', '>', 'a', '<', 'b', '<', '/', 's', 'c', 'r', 'i', 'p', 't', '>'] := by
  decide +kernel

/-- … and outside it the same text is escaped -/
theorem div_text_is_escaped :
    serialize .html true [.start ['d', 'i', 'v'] [], .text ['a', '<', 'b'] false, .end_ ['d', 'i', 'v']]
      = ['<', 'd', 'i', 'v', '>', 'a', '&', 'l', 't', ';', 'b', '<', '/', 'd', 'i', 'v', '>'] := by
  decide +kernel

/-- inside `pre` (xhtml / html) whitespace stripping leaves character data alone … -/
theorem pre_keeps_whitespace :
    readDoc .xhtml (serialize .xhtml true [.start ['p', 'r', 'e'] [], .text ['a', ' ', '\n', '\n', 'b'] false,
                                           .end_ ['p', 'r', 'e']])
      = some [.start ['p', 'r', 'e'] [], .text ['a', ' ', '\n', '\n', 'b'] false, .end_ ['p', 'r', 'e']] := by
  decide +kernel

/-- … and elsewhere it normalises it (the only way `strip_whitespace` changes a payload) -/
theorem div_normalises_whitespace :
    readDoc .xhtml (serialize .xhtml true [.start ['d', 'i', 'v'] [], .text ['a', ' ', '\n', '\n', 'b'] false,
                                           .end_ ['d', 'i', 'v']])
      = some [.start ['d', 'i', 'v'] [], .text ['a', '\n', 'b'] false, .end_ ['d', 'i', 'v']] := by
  decide +kernel

/-- attribute *names* are written as they are: a `py:attrs` key is not a value (the property
    speaks of values; names must be names — hypothesis `attrNameOkB`) -/
theorem attr_name_not_escaped :
    serialize .xml false [.start ['a'] [(['x', '>', '<', 'b'], ['1'])], .end_ ['a']]
      = ['<', 'a', ' ', 'x', '>', '<', 'b', '=', '"', '1', '"', '/', '>'] := by
  decide +kernel

/-! ## the serializers' event cache and the `noescape` flag of `HTMLSerializer`

  `serialize` (all theorems above) is the loop without the per-render event cache; `serializeC` is
  the loop as it is written, with the cache and with the flag kept in the cache-hit branch as well
  as in the uncached branches. -/

/-- The event cache is unobservable on START / END / TEXT streams: for every stream, method and
    whitespace setting the loop with its cache writes what the loop without one writes (raw text
    bypasses the cache; the flag is kept on a cache hit exactly as on a miss). -/
theorem cache_unobservable (m : Method) (strip : Bool) (evs : List Ev) :
    serializeC m strip evs = serialize m strip evs :=
  serializeC_eq_serialize m strip evs

/-- After an END event the flag is `false`, whatever was written before it, whatever the flag was
    and whatever the cache holds: what follows an end tag is written as at the start of a render. -/
theorem noescape_cleared_by_end (m : Method) (c : Cache) (hc : CacheOk m c) (ne : Bool)
    (pre : List Tok) (t : Subst.Name) (rest : List Tok) :
    serToksC m c ne (pre ++ .close t :: rest) = serToks m ne (pre ++ [.close t]) ++ serToks m false rest := by
  rw [serToksC_eq_serToks m _ c ne hc]
  have : pre ++ .close t :: rest = (pre ++ [.close t]) ++ rest := by simp
  rw [this, serToks_append, flagRun_close]

/-- Hence a not-safe value in text position directly after any end tag, or after further start tags
    of ordinary elements, is escaped — however many raw-text elements were written (and cached)
    before it. -/
theorem site_after_end_is_escaped (m : Method) (c : Cache) (hc : CacheOk m c) (ne : Bool)
    (pre : List Tok) (t : Subst.Name) (opens : List (Subst.Name × List (Subst.Name × List Char)))
    (hopens : ∀ p ∈ opens, (noescapeElems m).contains p.1 = false) (v : List Char) (rest : List Tok) :
    serToksC m c ne (pre ++ .close t :: (opens.map fun p => Tok.open p.1 p.2) ++ .text v false :: rest) =
      serToks m ne (pre ++ [.close t]) ++ (opens.flatMap fun p => emitOpen m p.1 p.2) ++ emitText m v ++
        serToks m false rest := by
  rw [List.append_assoc, List.cons_append, noescape_cleared_by_end m c hc, serToks_opens m opens hopens, List.append_assoc,
    List.append_assoc]
  simp only [serToks, Bool.false_eq_true, ↓reduceIte]

/-- Which text is escaped depends on the enclosing elements only: for a stream whose raw-text
    elements have no element children, the loop (cache, flag) writes what `serEncl` writes, which
    has no flag — a plain text is raw exactly when the innermost open element is `script`/`style`
    under html. -/
theorem escaping_by_enclosing_elements (m : Method) (toks : List Tok) (h : rawLeafGo m [] toks = true) :
    serToksC m [] false toks = serEncl m [] toks := by
  rw [serToksC_eq_serToks m _ [] false (cacheOk_nil m)]
  exact serToks_eq_serEncl m toks [] (by simp [stackOk]) h

def scriptName : Subst.Name := ['s', 'c', 'r', 'i', 'p', 't']

/-- two identical `script` elements (the second START, TEXT-free END are served from the cache), then a
    hostile value in text position: escaped -/
theorem two_scripts_then_site_escaped :
    serializeC .html false [.start ['r'] [], .start scriptName [], .text ['1', '<', '2'] false, .end_ scriptName,
                            .start scriptName [], .text ['1', '<', '2'] false, .end_ scriptName,
                            .text ['<', 'b', '>'] false, .end_ ['r']]
      = ['<', 'r', '>', '<', 's', 'c', 'r', 'i', 'p', 't', '>', '1', '<', '2', '<', '/', 's', 'c', 'r', 'i', 'p', 't', '>',
         '<', 's', 'c', 'r', 'i', 'p', 't', '>', '1', '<', '2', '<', '/', 's', 'c', 'r', 'i', 'p', 't', '>',
         '&', 'l', 't', ';', 'b', '&', 'g', 't', ';', '<', '/', 'r', '>'] := by
  decide +kernel

/-- an empty raw-text element (EMPTY event) does not switch escaping off -/
theorem empty_script_keeps_escaping :
    serializeC .html false [.start ['r'] [], .start scriptName [], .end_ scriptName, .text ['<'] false, .end_ ['r']]
      = ['<', 'r', '>', '<', 's', 'c', 'r', 'i', 'p', 't', '>', '<', '/', 's', 'c', 'r', 'i', 'p', 't', '>',
         '&', 'l', 't', ';', '<', '/', 'r', '>'] := by
  decide +kernel

example : rawLeafGo .html [] (emptyTags [.start ['r'] [], .start scriptName [], .text ['1', '<', '2'] false,
    .end_ scriptName, .start scriptName [], .text ['1', '<', '2'] false, .end_ scriptName,
    .text ['<', 'b', '>'] false, .end_ ['r']]) = true := by decide +kernel
example : CacheOk .html [(.close scriptName, emitClose scriptName)] :=
  cacheOk_cons .html [] (.close scriptName) (cacheOk_nil .html)
example : rawLeafGo .html [] [.open scriptName [], .open ['b'] [], .close ['b'], .text ['<'] false, .close scriptName] = false := by
  decide +kernel

example : readText (emitText .html ['<', 's', 'c', 'r', 'i', 'p', 't', '>', '&'] ++ ['<', '/', 'p', '>'])
    = ['<', 's', 'c', 'r', 'i', 'p', 't', '>', '&'] := by decide +kernel
example : readAttr (emitAttr ['"', '>', '<', 'b', ' ', 'o', 'n', 'x', '=', '"'] ++ ['"', '>'])
    = ['"', '>', '<', 'b', ' ', 'o', 'n', 'x', '=', '"'] := by decide +kernel
example : emitAttr ['"', '&'] = ['&', '#', '3', '4', ';', '&', 'a', 'm', 'p', ';'] := by decide +kernel
example : readTextXml (emitText .xml ['a', '&', 'l', 't', ';', 'é']) = some ['a', '&', 'l', 't', ';', 'é'] := by decide +kernel

/-- `Markup('<a href="%s" class="x&#34;y">100%% %s</a>') % (u, v)` -/
def examplePieces : List FPiece :=
  [.open ['a'] [(['h', 'r', 'e', 'f'], .hole), (['c', 'l', 'a', 's', 's'], .lit ['x', '"', 'y'])],
   .text ['1', '0', '0', '%', ' '], .hole, .close ['a']]

example : fmtString examplePieces =
    ['<', 'a', ' ', 'h', 'r', 'e', 'f', '=', '"', '%', 's', '"', ' ', 'c', 'l', 'a', 's', 's', '=', '"', 'x', '&', '#', '3', '4',
     ';', 'y', '"', '>', '1', '0', '0', '%', '%', ' ', '%', 's', '<', '/', 'a', '>'] := by decide +kernel

example : (fillEsc examplePieces [['"', '>', '<'], ['<', '/', 'a', '>']]).map (fun toks => coalesce (toks.flatMap tokEvents)) =
    some [.start ['a'] [(['h', 'r', 'e', 'f'], ['"', '>', '<']), (['c', 'l', 'a', 's', 's'], ['x', '"', 'y'])],
          .text ['1', '0', '0', '%', ' ', '<', '/', 'a', '>'] false, .end_ ['a']] := by decide +kernel

/-- `<p>${Markup('<a href="%s" class="x&#34;y">100%% %s</a>') % (u, v)}!</p>` -/
def exampleM : List Subst.Node :=
  [.el ['p'] [] none
    [.site (.fmtp examplePieces [.lit (.str ['"', '>', '<']), .lit (.str ['<', '/', 'a', '>'])]), .lit ['!']]]

example : nodesOkM .html exampleM = true ∧ nodesOkM .xml exampleM = true ∧ listOk [] exampleM = true := by decide +kernel

example : readDoc .html (serialize .html false (renderList [] exampleM)) =
    some [.start ['p'] [],
          .start ['a'] [(['h', 'r', 'e', 'f'], ['"', '>', '<']), (['c', 'l', 'a', 's', 's'], ['x', '"', 'y'])],
          .text ['1', '0', '0', '%', ' ', '<', '/', 'a', '>'] false, .end_ ['a'],
          .text ['!'] false, .end_ ['p']] := by decide +kernel

example : nodesOkW .html exampleM = true ∧ nodesOkW .xhtml exampleM = true := by decide +kernel

example : readDoc .html (serialize .html true (renderList [] exampleM)) =
    some (coalesceStrip .html (expectedList [] exampleM)) := by decide +kernel

/-- a template with an interpolated attribute, `py:attrs`, a loop, a `Markup` operator and a
    builder call: inside the hypotheses of `structure_preserved_partial` for all methods -/
def exampleT : List Subst.Node :=
  [.el ['d', 'i', 'v'] [(['i', 'd'], .interp [.lit ['x', '-'], .expr (.val (.one (.str ['"', '>', '<']))) ])]
      (some [(['t', 'i', 't', 'l', 'e'], .lit (.str [' ', '<', 'b', '>', ' ']))])
      [.loop (.val (.many [.str ['<', 'i', '>'], .num ['4', '2'], .none]))
         [.el ['l', 'i'] [] none [.site (.v (.var 0))]],
       .site (.add ['&', 'a', 'm', 'p', ';'] (.lit (.str ['<', '/', 'd', 'i', 'v', '>']))),
       .site (.build (.el ['b'] [(['c', 'l', 'a', 's', 's'], .lit (.str ['"']))] [.arg (.val (.one (.str ['&'])))])),
       .el ['b', 'r'] [] none []]]

example : nodesOkB .xml exampleT = true ∧ nodesOkB .xhtml exampleT = true ∧ nodesOkB .html exampleT = true ∧
    listOk [] exampleT = true := by decide +kernel

example : readDoc .html (serialize .html false (renderList [] exampleT)) =
    some [.start ['d', 'i', 'v'] [(['i', 'd'], ['x', '-', '"', '>', '<']), (['t', 'i', 't', 'l', 'e'], ['<', 'b', '>'])],
          .start ['l', 'i'] [], .text ['<', 'i', '>'] false, .end_ ['l', 'i'],
          .start ['l', 'i'] [], .text ['4', '2'] false, .end_ ['l', 'i'],
          .start ['l', 'i'] [], .end_ ['l', 'i'],
          .text ['&', '<', '/', 'd', 'i', 'v', '>'] false,
          .start ['b'] [(['c', 'l', 'a', 's', 's'], ['"'])], .text ['&'] false, .end_ ['b'],
          .start ['b', 'r'] [], .end_ ['b', 'r'],
          .end_ ['d', 'i', 'v']] := by decide +kernel

/-! ## html templates WITH raw-text elements (`script`, `style`)

  Inside a raw-text element under html the property states its own exception: no escaping takes
  place.  What it still says about such a template: the element structure OUTSIDE is the template's,
  every value there verbatim; and the raw-text element holds, as raw text, exactly the strings its
  body emitted — provided they hold no `</` (a reader ends raw text at the next `</`). -/

/-- **Re-reading a stream with raw-text elements** (no whitespace stripping): for every stream whose
    names are plain, whose `Markup` texts outside raw text are escaped text, whose raw-text elements
    hold TEXT events only with no `</` in their concatenated strings (`EvsOkR`; decidable form
    `rawOkGo`) and which `EmptyTagFilter` passes (`emptyOkGo`), the reader — in raw-text mode between
    the tags of `script`/`style` under html — gives the stream with its character data merged and
    decoded outside raw text, and merged as it was emitted inside (`coalesceR`). -/
theorem reread_rawtext_nostrip (m : Method) (evs : List Ev)
    (hok : rawOkGo m none evs = true) (hnest : emptyOkGo m none evs = true) :
    readDoc m (serialize m false evs) = some (coalesceR m evs) :=
  readDoc_serialize_rawtext m evs (evsOkR_of_B m evs none hok) hnest

example : rawOkGo .html none
    [.start ['p'] [], .text ['<'] false, .end_ ['p'],
     .start ['s', 'c', 'r', 'i', 'p', 't'] [(['i', 'd'], ['"'])], .text ['a', '<', 'b'] false, .text ['&', '&'] true,
     .end_ ['s', 'c', 'r', 'i', 'p', 't'], .start ['s', 't', 'y', 'l', 'e'] [], .end_ ['s', 't', 'y', 'l', 'e'],
     .text ['<', '/'] false] = true := by decide +kernel

example : readDoc .html (serialize .html false
    [.start ['p'] [], .text ['<'] false, .end_ ['p'],
     .start ['s', 'c', 'r', 'i', 'p', 't'] [(['i', 'd'], ['"'])], .text ['a', '<', 'b'] false, .text ['&', '&'] true,
     .end_ ['s', 'c', 'r', 'i', 'p', 't'], .start ['s', 't', 'y', 'l', 'e'] [], .end_ ['s', 't', 'y', 'l', 'e'],
     .text ['<', '/'] false]) =
  some [.start ['p'] [], .text ['<'] false, .end_ ['p'],
     .start ['s', 'c', 'r', 'i', 'p', 't'] [(['i', 'd'], ['"'])], .text ['a', '<', 'b', '&', '&'] false,
     .end_ ['s', 'c', 'r', 'i', 'p', 't'], .start ['s', 't', 'y', 'l', 'e'] [], .end_ ['s', 't', 'y', 'l', 'e'],
     .text ['<', '/'] false] := by decide +kernel

/-- **Structure preserved, html templates with raw-text elements included** (`strip_whitespace=False`).

    FULL STATEMENT: as `structure_preserved_partial`, for both whitespace settings, for templates in which
    `script`/`style` elements occur anywhere and hold literal text and substitution sites: re-reading the
    rendered output gives the skeleton of the template with every value outside raw text verbatim, and each
    raw-text element holding the concatenation of the strings its body emitted (no escaping there — the
    property's exception), provided that concatenation holds no `</`.

    PROVED: exactly that, for every method, template and environment, WITHOUT whitespace stripping:
    `readDoc m (serialize m false (renderList env T)) = some (coalesceR m (expectedListR m env T))`, where
    `expectedListR` is `expectedList` (no reference to escaping) with a raw-text element holding
    `rawData (renderList env body)`.  Hypotheses: `nodesOkR m env T` — as `nodesOkB` (plain names, escaped-text
    author markup, safe values without tags), and an element may be a raw-text element when its body renders (in
    this environment) to TEXT events only whose strings together hold no `</`; `listOk` (operand domain of C18).
    MISSING: `strip_whitespace=True` (the filter normalises the raw text as one `Markup` run: the content read back
    is `normWs` of the concatenation outside `pre`); the XML-level normalisations as in `structure_preserved_partial`.
    When the content holds `</` the statement is false: `rawtext_etago_closes_element`. -/
theorem structure_preserved_rawtext_partial (m : Method) (T : List Subst.Node) (env : Env)
    (hT : nodesOkR m env T = true) (hdom : listOk env T = true) (henv : EnvOk env) :
    readDoc m (serialize m false (renderList env T)) = some (coalesceR m (expectedListR m env T)) :=
  readDoc_render_rawtext m env T hT hdom henv

/-- … and the same for the loops AS THEY ARE WRITTEN (per-render event cache, `noescape` flag: `serializeC`, what the driver
    runs against the real code): the rendered stream of such a template keeps raw-text elements free of element children
    (`rawLeafGo`, the hypothesis of `escaping_by_enclosing_elements`), so which of its texts are written raw is decided by the
    innermost open element alone (`serEncl`, no flag, no cache), and re-reading gives the specification. -/
theorem structure_preserved_rawtext_as_written (m : Method) (T : List Subst.Node) (env : Env)
    (hT : nodesOkR m env T = true) (hdom : listOk env T = true) (henv : EnvOk env) :
    rawLeafGo m [] (emptyTags (renderList env T)) = true ∧
    serializeC m false (renderList env T) = serEncl m [] (emptyTags (renderList env T)) ∧
    readDoc m (serializeC m false (renderList env T)) = some (coalesceR m (expectedListR m env T)) := by
  have hleaf := render_rawLeaf m env T hT hdom henv
  refine ⟨hleaf, ?_, ?_⟩
  · have := escaping_by_enclosing_elements m (emptyTags (renderList env T)) hleaf
    simpa [serializeC] using this
  · rw [cache_unobservable]
    exact structure_preserved_rawtext_partial m T env hT hdom henv

/-- `<div><script type="…">var a = "${v0}" ; ${v1}</script><p title="${v0}">${v1}</p></div><style/>` with
    `v0 = a<b&`, `v1 = Markup('&amp;')`: inside the script both strings as they are, outside the values verbatim -/
def exampleR : List Subst.Node :=
  [.el ['d', 'i', 'v'] [] none
     [.el ['s', 'c', 'r', 'i', 'p', 't'] [(['t', 'y', 'p', 'e'], .static ['j', 's'])] none
        [.lit ['v', 'a', 'r', ' ', 'a', '=', '"'], .site (.v (.var 0)), .lit ['"', ';'], .site (.v (.var 1))],
      .el ['p'] [(['t', 'i', 't', 'l', 'e'], .interp [.expr (.var 0)])] none [.site (.v (.var 1))]],
   .el ['s', 't', 'y', 'l', 'e'] [] none []]

def exampleREnv : Env := [.str ['a', '<', 'b', '&'], .markup ['&', 'a', 'm', 'p', ';']]

example : nodesOkR .html exampleREnv exampleR = true ∧ nodesOkR .xhtml exampleREnv exampleR = true ∧
    listOk exampleREnv exampleR = true ∧ nodesOkB .html exampleR = false := by decide +kernel

example : readDoc .html (serialize .html false (renderList exampleREnv exampleR)) =
    some [.start ['d', 'i', 'v'] [],
          .start ['s', 'c', 'r', 'i', 'p', 't'] [(['t', 'y', 'p', 'e'], ['j', 's'])],
          .text ['v', 'a', 'r', ' ', 'a', '=', '"', 'a', '<', 'b', '&', '"', ';', '&', 'a', 'm', 'p', ';'] false,
          .end_ ['s', 'c', 'r', 'i', 'p', 't'],
          .start ['p'] [(['t', 'i', 't', 'l', 'e'], ['a', '<', 'b', '&'])], .text ['&'] false, .end_ ['p'],
          .end_ ['d', 'i', 'v'],
          .start ['s', 't', 'y', 'l', 'e'] [], .end_ ['s', 't', 'y', 'l', 'e']] := by decide +kernel

/-- the same template under xhtml: `script` is an ordinary element there, everything is escaped and decoded -/
example : readDoc .xhtml (serialize .xhtml false (renderList exampleREnv exampleR)) =
    some [.start ['d', 'i', 'v'] [],
          .start ['s', 'c', 'r', 'i', 'p', 't'] [(['t', 'y', 'p', 'e'], ['j', 's'])],
          .text ['v', 'a', 'r', ' ', 'a', '=', '"', 'a', '<', 'b', '&', '"', ';', '&'] false,
          .end_ ['s', 'c', 'r', 'i', 'p', 't'],
          .start ['p'] [(['t', 'i', 't', 'l', 'e'], ['a', '<', 'b', '&'])], .text ['&'] false, .end_ ['p'],
          .end_ ['d', 'i', 'v'],
          .start ['s', 't', 'y', 'l', 'e'] [], .end_ ['s', 't', 'y', 'l', 'e']] := by decide +kernel

/-- `nodesOkR` covers every template of `structure_preserved_partial` … -/
theorem rawtext_covers_plain_templates (m : Method) (T : List Subst.Node) (env : Env)
    (hT : nodesOkB m T = true) : nodesOkR m env T = true :=
  nodesOkR_of_B m T env hT

/-- … and says the same there: without raw-text elements the raw-aware specification is the plain one -/
theorem rawtext_spec_is_plain_spec (m : Method) (T : List Subst.Node) (env : Env)
    (hT : nodesOkB m T = true) :
    expectedListR m env T = expectedList env T ∧
    (∀ evs : List Ev, (∀ t a, Ev.start t a ∈ evs → isRawElem m t = false) → coalesceR m evs = coalesce evs) :=
  ⟨expectedListR_of_B m T env hT, fun evs h => coalesceR_plain m evs h⟩

/-- a string without `</` keeps the reader inside the raw-text element, whatever else it holds (`<`, `&`,
    quotes, `]]>`, `-->` …): the content collected is the string itself -/
theorem rawtext_no_etago_needed (m : Method) (st : RS) (c s : List Char)
    (hst : st.buf = c ∧ st.mode = .raw) (h : noEtago (c ++ s) = true) :
    ∃ st', run m st s = some st' ∧ st'.buf = c ++ s ∧ (st'.mode = .raw ∨ st'.mode = .rawLt) ∧ st'.out = st.out := by
  obtain ⟨st', h1, h2, h3⟩ := run_raw_chars m s st c ⟨hst.1, Or.inl hst.2⟩ h
  exact ⟨st', h1, h2.1, h2.2.imp id (fun x => x.1), h3⟩

/-- `<script>${v}</script>` with `v = '</script><b>'` under html: the value is written as it is (the documented
    exception), the reader leaves raw text at its `</`, and the re-read structure has an element `b` the template
    does not have — the hypothesis "no `</` in the content" cannot be dropped -/
theorem rawtext_etago_closes_element :
    let T : List Subst.Node := [.el ['s', 'c', 'r', 'i', 'p', 't'] [] none [.site (.v (.var 0))]]
    let env : Env := [.str ['<', '/', 's', 'c', 'r', 'i', 'p', 't', '>', '<', 'b', '>']]
    nodesOkR .html env T = false ∧
    serialize .html false (renderList env T) =
      ['<', 's', 'c', 'r', 'i', 'p', 't', '>', '<', '/', 's', 'c', 'r', 'i', 'p', 't', '>', '<', 'b', '>',
       '<', '/', 's', 'c', 'r', 'i', 'p', 't', '>'] ∧
    readDoc .html (serialize .html false (renderList env T)) =
      some [.start ['s', 'c', 'r', 'i', 'p', 't'] [], .end_ ['s', 'c', 'r', 'i', 'p', 't'], .start ['b'] [],
            .end_ ['s', 'c', 'r', 'i', 'p', 't']] ∧
    readDoc .html (serialize .html false (renderList env T)) ≠ some (coalesceR .html (expectedListR .html env T)) := by
  decide +kernel

/-- why `structure_preserved_rawtext_partial` is stated without whitespace stripping: with `strip_whitespace=True`
    the filter normalises the raw text too (blanks before a newline, runs of newlines) — `<script>${v}</script>` with
    `v = 'a<b  \n\n c'` is read back as `a<b\n c`, still unescaped; the specification there is `normWs` of the
    concatenation, not the concatenation -/
theorem rawtext_strip_normalises_content :
    let T : List Subst.Node := [.el ['s', 'c', 'r', 'i', 'p', 't'] [] none [.site (.v (.var 0))]]
    let env : Env := [.str ['a', '<', 'b', ' ', ' ', '\n', '\n', ' ', 'c']]
    nodesOkR .html env T = true ∧
    readDoc .html (serialize .html true (renderList env T)) =
      some [.start ['s', 'c', 'r', 'i', 'p', 't'] [], .text ['a', '<', 'b', '\n', ' ', 'c'] false,
            .end_ ['s', 'c', 'r', 'i', 'p', 't']] ∧
    readDoc .html (serialize .html true (renderList env T)) ≠ some (coalesceR .html (expectedListR .html env T)) := by
  decide +kernel

/-- a not-safe value inside `script` under html is NOT escaped (the exception), under xhtml it is -/
theorem rawtext_site_not_escaped :
    let T : List Subst.Node := [.el ['s', 'c', 'r', 'i', 'p', 't'] [] none [.site (.v (.var 0))]]
    let env : Env := [.str ['a', '<', 'b']]
    serialize .html false (renderList env T) =
      ['<', 's', 'c', 'r', 'i', 'p', 't', '>', 'a', '<', 'b', '<', '/', 's', 'c', 'r', 'i', 'p', 't', '>'] ∧
    serialize .xhtml false (renderList env T) =
      ['<', 's', 'c', 'r', 'i', 'p', 't', '>', 'a', '&', 'l', 't', ';', 'b', '<', '/', 's', 'c', 'r', 'i', 'p', 't', '>'] := by
  decide +kernel

/-- the reader's raw-text mode: `<`, `&amp;` and a start tag inside `script` are content under html and
    markup / a reference under xhtml -/
theorem reader_raw_mode_runs_to_etago :
    readDoc .html ['<', 's', 'c', 'r', 'i', 'p', 't', '>', '<', 'b', '>', '&', 'a', 'm', 'p', ';', '<',
                   '<', '/', 's', 'c', 'r', 'i', 'p', 't', '>'] =
      some [.start ['s', 'c', 'r', 'i', 'p', 't'] [], .text ['<', 'b', '>', '&', 'a', 'm', 'p', ';', '<'] false,
            .end_ ['s', 'c', 'r', 'i', 'p', 't']] ∧
    readDoc .xhtml ['<', 's', 'c', 'r', 'i', 'p', 't', '>', '<', 'b', '>', '&', 'a', 'm', 'p', ';',
                    '<', '/', 's', 'c', 'r', 'i', 'p', 't', '>'] =
      some [.start ['s', 'c', 'r', 'i', 'p', 't'] [], .start ['b'] [], .text ['&'] false,
            .end_ ['s', 'c', 'r', 'i', 'p', 't']] := by
  decide +kernel

end Genshi.Props.C01
