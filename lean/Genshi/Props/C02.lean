/-
  C02 — XML serialisation is a right inverse of XML parsing.  Property theorems;
  helper lemmas live in `Genshi/Lemmas/Xml*.lean`.

  OBLIGATIONS (checked against the axiom audit by the harness):
    gen_tables_as_modelled extracted_codecs_ascii default_pref_ok
    xml_roundtrip output_wellformed xml_roundtrip_events output_wellformed_events xml_roundtrip_partial
    xml_roundtrip_outputside_partial
    tokenizer_inverts_serializer
    ser_idempotent_partial builder_stream_not_idemOK
    ser_idempotent_builder_events ser_idempotent_builder ser_idempotent_parsed_text
    mixed_stream_not_idempotent
    explicit_default_not_undeclared
    encode_roundtrip_text encode_roundtrip_attr charref_roundtrip
    encode_every_codec
    attr_tab_lf_cr_not_recovered text_cr_not_recovered decl_encoding_echoed
    parser_keeps_cdata_seam xml_roundtrip_adjacent_cdata merged_cdata_seam_not_wellformed
    parse_source_agrees empty_text_child_not_idempotent et_stream_builder_shaped
    ser_idempotent_builder_source ser_idempotent_parsed_text_source parser_layer_stream_shape
-/
import Genshi.Lemmas.XmlRefs
import Genshi.Lemmas.XmlFlatD
import Genshi.Lemmas.XmlEmptyTag
import Genshi.Lemmas.XmlEncode
import Genshi.Lemmas.XmlIdem
import Genshi.Lemmas.XmlIdemE
import Genshi.Lemmas.XmlTxtB
import Genshi.Lemmas.XmlMerge
import Genshi.Model.XmlParser
import Genshi.Lemmas.XmlParser
import Genshi.Lemmas.XmlSource
namespace Genshi.Props.C02
open Genshi Genshi.Xml Genshi.Escape Genshi.Xml.Reader

/-- The tables read from the code are the ones the model was written against:
    the permanent `xml` binding, the filter chain of the XML serializer without
    whitespace stripping, and `xmlcharrefreplace` as the error handler. -/
theorem gen_tables_as_modelled :
    Genshi.Gen.Xml.flattenerInitial = [(xmlNs, xmlPrefix)] ∧
    Genshi.Gen.Xml.xmlFilters =
      [['E','m','p','t','y','T','a','g','F','i','l','t','e','r'],
       ['N','a','m','e','s','p','a','c','e','F','l','a','t','t','e','n','e','r']] ∧
    Genshi.Gen.Xml.encodeProbe = charRef (Char.ofNat 0x20AC) := by
  decide +kernel

/-- Every codec in the translator's table (as probed in the running interpreter:
    every scalar value goes through the codec's encoder; utf-8/16/32, ascii,
    latin-1, iso-8859-2, iso-8859-7, iso-8859-15, cp1251, cp1252, cp437, koi8-r, mac-roman)
    represents all of ASCII, which is what the encoding theorems assume.  The
    check is by evaluation of the generated table (`coversAscii`), lifted by
    `asciiRep_of_covers`; a codec added to the table is checked on the next run. -/
theorem extracted_codecs_ascii :
    ∀ e ∈ Genshi.Gen.Xml.encodings, AsciiRep (inRanges e.2) := by
  have h : Genshi.Gen.Xml.encodings.all (fun e => coversAscii e.2) = true := by decide +kernel
  intro e he
  exact asciiRep_of_covers e.2 (List.all_eq_true.mp h e he)

/-- The preferred-prefix table a default `NamespaceFlattener()` holds (as extracted)
    is one the theorems accept. -/
theorem default_pref_ok : prefOK defaultPref = true := by decide +kernel

/-- **xml_roundtrip, namespace stage** (all streams in `docOK`, any legal
    preferred-prefix table).  What an XML reader resolves from the output of
    `EmptyTagFilter` + `NamespaceFlattener` — qualified names through the `xmlns`
    attributes in scope, attribute lists, character data, comments, PIs, CDATA
    markers, declaration, doctype — is exactly the event sequence the stream
    denotes; prefixes and declarations do not appear in the comparison.
    `docOK` holds for what the parser produces from a well-formed document and
    for builder streams (no namespace events); see `Model/XmlSpec.lean`. -/
theorem xml_roundtrip_events (pref : List (Str × Str)) (hpref : prefOK pref = true) (s : Stream)
    (hn : WellNested s) (h : docOK (emptyTag s) = true) :
    resolve ((flatten pref (emptyTag s)).map normF) = some (canonS s) := by
  rw [resolve_flatten pref hpref _ h, canonX_emptyTag s hn]

/-- **output_wellformed, namespace stage**: on the same domain the flattened
    events are namespace-well-formed — every prefix used is declared in scope,
    no start tag carries two declarations of one prefix or two attributes with
    one expanded name, start and end tags match lexically, there is one root
    (`resolve` checks all of these and answers `none` otherwise). -/
theorem output_wellformed_events (pref : List (Str × Str)) (hpref : prefOK pref = true) (s : Stream)
    (h : docOK (emptyTag s) = true) :
    (resolve ((flatten pref (emptyTag s)).map normF)).isSome = true := by
  rw [resolve_flatten pref hpref _ h]; rfl

/-- **The reader's tokenizer is a left inverse of the serializer's text, under
    every encoding,** on whole documents in tokenizer normal form (`docTextOK`:
    an optional XML declaration, at most one DOCTYPE, names, attribute values,
    text, comments, PIs, CDATA sections the XML syntax can express; no `Markup`
    text; character data not adjacent to character data) whose markup the
    encoding can represent (`repMarkup`; character data and attribute values are
    unrestricted): the text is produced (no exception) and, after
    `xmlcharrefreplace`, is read back as the same events (`None` attribute values
    as empty strings; the line breaks after the declaration and the DOCTYPE appear
    as white-space tokens, `tokOf`). -/
theorem tokenizer_inverts_serializer (rep : Char → Bool) (hr : AsciiRep rep) (fs : List FEv)
    (h : docTextOK fs = true) (hm : repMarkup rep fs = true) :
    ∃ out, serRun SerSt.init fs = some out ∧ tokenize (encodeText rep out) = some (tokOf fs) :=
  tokenize_ser rep hr fs h hm

/-- **xml_roundtrip (text level, every encoding), with the text conditions on
    the flattener's output.**  For every
    well-nested stream in `docOK` whose flattened form the text syntax can
    express (`docTextOK`) with markup the encoding can represent (`repMarkup`),
    the serializer produces a text and from its encoded form (characters the
    encoding lacks written as character references) the XML reader — end-of-line
    and attribute-value normalisation, tokenizer, reference decoding, namespace
    resolution, well-formedness checks — reads exactly the events the stream
    denotes: same qualified names, attribute lists, character data, comments,
    PIs, CDATA sections, XML declaration and DOCTYPE.

    What this statement leaves out, `xml_roundtrip` covers: (a) adjacent TEXT
    events (builder streams; the parser never produces them) are handled there
    through the merging lemmas of `Lemmas/XmlMerge.lean`; (b) `docTextOK` /
    `repMarkup` are asked here of the flattener's *output* (names with
    prefixes); `xml_roundtrip_partial` and `xml_roundtrip` derive them from
    conditions on the input names and prefixes (`textOK_of_input`). -/
theorem xml_roundtrip_outputside_partial (pref : List (Str × Str)) (hpref : prefOK pref = true)
    (rep : Char → Bool) (hr : AsciiRep rep) (s : Stream)
    (hn : WellNested s) (h : docOK (emptyTag s) = true)
    (hb : docTextOK (flatten pref (emptyTag s)) = true)
    (hm : repMarkup rep (flatten pref (emptyTag s)) = true) :
    ∃ out, serRun SerSt.init (flatten pref (emptyTag s)) = some out ∧
      Reader.read (encodeText rep out) = some (canonS s) := by
  obtain ⟨out, h1, h2⟩ := roundtrip_xev_out pref hpref rep hr _ h hb hm
  exact ⟨out, h1, by rw [h2, canonX_emptyTag s hn]⟩

/-- The round trip with all hypotheses on the input stream.  For every
    well-nested stream `s`, every legal preferred-prefix table and every encoding
    that contains ASCII: if
      * `docOK`: `s` is an XML document whose namespace events the syntax can
        express (what the parser delivers for a well-formed document, what the
        builder delivers for arbitrary qualified names),
      * `inputTextOK`: its local names, prefixes and preferred prefixes are XML
        names the encoding can represent, its namespace URIs and attribute
        values contain no TAB/LF/CR, its character data no CR, comments, PIs,
        CDATA sections, declaration and DOCTYPE can be written and represented,
        character data is not adjacent to character data,
    then the serializer produces a text, and from `encode`'s rendering of it
    (unrepresentable characters of text and attribute values as character
    references) an XML reader reads exactly the events `s` denotes.

    The full statement is `xml_roundtrip` (adjacent and empty TEXT events
    allowed, the reader's answer compared up to merging of character data);
    this is the special case without merging. -/
theorem xml_roundtrip_partial (pref : List (Str × Str)) (hpref : prefOK pref = true)
    (rep : Char → Bool) (hr : AsciiRep rep) (s : Stream)
    (hn : WellNested s) (h : docOK (emptyTag s) = true)
    (ht : inputTextOK rep pref (emptyTag s) = true) :
    ∃ out, serRun SerSt.init (flatten pref (emptyTag s)) = some out ∧
      Reader.read (encodeText rep out) = some (canonS s) := by
  obtain ⟨h1, h2⟩ := textOK_of_input rep hr pref _ ht
  exact xml_roundtrip_outputside_partial pref hpref rep hr s hn h h1 h2

/-- For every well-nested stream `s`, every legal
    preferred-prefix table and every encoding that contains ASCII: if
      * `docOK`: `s` is an XML document whose namespace events the syntax can
        express (what the parser delivers for a well-formed document, what the
        builder delivers for arbitrary qualified names),
      * `inputTextOKm`: local names, prefixes and preferred prefixes are XML
        names the encoding can represent; namespace URIs and attribute values
        contain no TAB/LF/CR, character data no CR; comments, PIs, CDATA
        sections, declaration and DOCTYPE can be written and represented; no
        `Markup` (pre-escaped) text — the statement's exclusions, nothing else,
    then `XMLSerializer` produces a text, and from `encode`'s rendering of it
    (characters of text and attribute values the encoding lacks as character
    references) an XML reader reads exactly the events `s` denotes — same
    qualified names, attribute lists, comments, PIs, CDATA sections, declaration,
    DOCTYPE, and the same character data, adjacent TEXT events being reported as
    one (`mergeR`), as every XML parser does. -/
theorem xml_roundtrip (pref : List (Str × Str)) (hpref : prefOK pref = true)
    (rep : Char → Bool) (hr : AsciiRep rep) (s : Stream)
    (hn : WellNested s) (h : docOK (emptyTag s) = true)
    (ht : inputTextOKm rep pref (emptyTag s) = true) :
    ∃ out, serRun SerSt.init (flatten pref (emptyTag s)) = some out ∧
      Reader.read (encodeText rep out) = some (mergeR (canonS s)) := by
  obtain ⟨out, h1, h2⟩ := roundtrip_xev_merged pref hpref rep hr _ h ht
  exact ⟨out, h1, by rw [h2, canonX_emptyTag s hn]⟩

/-- On the same domain the encoded output is a
    well-formed XML document: the reader accepts it (tokenizer: legal names,
    quoted attribute values without `<`, legal references and characters, no
    `]]>` in character data, comments/PIs/CDATA properly closed, declaration
    first; namespace stage: every prefix declared in scope, no duplicate
    declaration or attribute on a tag, matching tags, one root, no character
    data outside it). -/
theorem output_wellformed (pref : List (Str × Str)) (hpref : prefOK pref = true)
    (rep : Char → Bool) (hr : AsciiRep rep) (s : Stream)
    (hn : WellNested s) (h : docOK (emptyTag s) = true)
    (ht : inputTextOKm rep pref (emptyTag s) = true) :
    ∃ out, serRun SerSt.init (flatten pref (emptyTag s)) = some out ∧
      (Reader.read (encodeText rep out)).isSome = true := by
  obtain ⟨out, h1, h2⟩ := xml_roundtrip pref hpref rep hr s hn h ht
  exact ⟨out, h1, by rw [h2]; rfl⟩

/-- a builder stream with adjacent and empty strings is inside the hypotheses -/
example :
    let s : Stream :=
      [.start ⟨['u'], ['a']⟩ [(⟨['v'], ['x']⟩, ['1'])], .text ['t'] false, .text [] false, .text ['&'] false,
       .start ⟨[], ['d']⟩ [], .text [] false, .end_ ⟨[], ['d']⟩, .end_ ⟨['u'], ['a']⟩]
    WellNested s ∧ docOK (emptyTag s) = true ∧
    inputTextOKm (inRanges [(0, 127)]) defaultPref (emptyTag s) = true ∧
    mergeR (canonS s) = [.start ⟨['u'], ['a']⟩ [(⟨['v'], ['x']⟩, ['1'])], .text ['t', '&'],
      .start ⟨[], ['d']⟩ [], .end_ ⟨[], ['d']⟩, .end_ ⟨['u'], ['a']⟩] := by
  decide +kernel

/-- For every stream in `docOK` that is shaped
    like the parser's (`idemOK`: namespace events directly in front of their
    start tag, `xmlns=""` reported with `None`, every namespace that is used
    bound by the stream's own declarations so that the flattener invents none):
    reading the flattened output back as `XMLParser` + `EmptyTagFilter` would
    (`reparseX`: START_NS per `xmlns` attribute in attribute order, resolved
    names, END_NS after the END) and flattening again yields the same flattened
    events — hence the same text.  In particular redundant declarations dropped
    in the first pass stay dropped and prefix choices are stable.

    The property asks `ser (parse (ser s)) = ser s` for every parsed document
    and every builder stream; this theorem is its event level for parser-shaped
    streams.  Builder streams (where the first pass invents declarations that
    the second pass meets as explicit ones) are `ser_idempotent_builder_events`
    / `ser_idempotent_builder`; the text level for this class is
    `ser_idempotent_parsed_text`.  Covered by no theorem: (a) parsed
    documents outside `idemOK` — a default-namespace declaration dropped in
    favour of a prefix that is shadowed later, so that the flattener makes up a
    declaration inside a parsed stream (≈ 0.3 % of the generated documents; the
    oracle checks them on the real code, the driver on the model);
    `mixed_stream_not_idempotent` shows that mixing the two shapes freely is
    not idempotent; (b) `reparseX` is compared with the real parser by the
    correspondence stream `reparse`, not derived from a model of expat. -/
theorem ser_idempotent_partial (pref : List (Str × Str)) (hpref : prefOK pref = true) (s : Stream)
    (h1 : docOK (emptyTag s) = true) (h2 : idemOK pref (emptyTag s) = true) :
    ∃ xs2, reparseX PSt.init ((flatten pref (emptyTag s)).map normF) = some xs2 ∧
      flatten pref xs2 = flatten pref (emptyTag s) ∧
      serRun SerSt.init (flatten pref xs2) = serRun SerSt.init (flatten pref (emptyTag s)) := by
  obtain ⟨xs2, r1, r2⟩ := idem_flatten pref hpref _ h1 h2
  exact ⟨xs2, r1, r2, by rw [r2]⟩

/-- a document with aliased, re-bound and undeclared namespaces is inside `idemOK` -/
example : idemOK defaultPref (emptyTag
    [.startNs [] ['u'], .startNs ['q'] ['u'], .start ⟨['u'], ['a']⟩ [(⟨['u'], ['x']⟩, ['1'])],
     .startNs ['q'] ['v'], .startNs [] noneUri, .start ⟨[], ['b']⟩ [(⟨['v'], ['y']⟩, ['2'])],
     .text ['t'] false, .end_ ⟨[], ['b']⟩, .endNs [], .endNs ['q'],
     .start ⟨['u'], ['c']⟩ [], .end_ ⟨['u'], ['c']⟩,
     .end_ ⟨['u'], ['a']⟩, .endNs ['q'], .endNs []]) = true := by decide +kernel

/-- a builder stream is not: its namespaces are declared by the flattener -/
theorem builder_stream_not_idemOK :
    idemOK defaultPref (emptyTag [.start ⟨['u'], ['a']⟩ [], .text ['t'] false, .end_ ⟨['u'], ['a']⟩]) = false := by
  decide

/-- **ser_idempotent for builder streams, namespace stage.**  For every stream
    without namespace events (`builderShaped`: what `genshi.builder` delivers —
    the namespaces live in the qualified names and `NamespaceFlattener` makes up
    every prefix and declaration) that is a document (`docOK`), and every legal
    preferred-prefix table: reading the flattened output back as `XMLParser` +
    `EmptyTagFilter` would (`reparseX`: the made-up declarations arrive as
    explicit START_NS events, `xmlns=""` as `None`) and flattening again yields
    the same flattened events (up to `None` / `""` as the value of `xmlns`,
    which the serializer writes alike) — hence the same text.  The second pass
    takes every declaration the first pass made up, in order, makes up none
    itself, and chooses for every element and attribute name the prefix the
    first pass chose: a prefix chosen for a name stays the answer of
    `_find_prefix` under the fresh declarations made later on the same tag
    (`findPrefix_push_stable`, `flatAttrs_stable`), and `_find_prefix` depends
    only on what a reader can see of the bindings (`findPrefix_scope`), not on
    the `auto` flags or the prefix counter, which differ between the passes. -/
theorem ser_idempotent_builder_events (pref : List (Str × Str)) (hpref : prefOK pref = true) (s : Stream)
    (h1 : docOK (emptyTag s) = true) (h2 : builderShaped (emptyTag s) = true) :
    ∃ xs2, reparseX PSt.init ((flatten pref (emptyTag s)).map normF) = some xs2 ∧
      (flatten pref xs2).map normF = (flatten pref (emptyTag s)).map normF ∧
      serRun SerSt.init (flatten pref xs2) = serRun SerSt.init (flatten pref (emptyTag s)) := by
  obtain ⟨xs2, r1, r2⟩ := idem_flatten_builder pref hpref _ h1 h2
  exact ⟨xs2, r1, r2, by rw [← serRun_normF, r2, serRun_normF]⟩

/-- **ser_idempotent for builder streams** (text level, every encoding): for
    every builder stream `s` in the domain of `xml_roundtrip` (`docOK`,
    `inputTextOKm`: adjacent and empty TEXT events allowed, the statement's
    exclusions only), every legal preferred-prefix table and every encoding
    that contains ASCII: `XMLSerializer` produces a text `out`; parsing its
    encoded form (`parseText`: tokenizer, white space outside the root element
    dropped, namespace declarations reported as START_NS / END_NS events around
    their element, resolved names) succeeds, and serialising the parsed stream
    gives `out` again:  `ser (parse (encode (ser s))) = ser s`.

    `parseText` is the specification-side account of `XMLParser` +
    `EmptyTagFilter` for texts in which no start tag is directly followed by an
    end tag (`parse_source_agrees`); the real chain reads `<a></a>` as EMPTY
    (`parseSource`, compared with the real parser on every serializer output
    and on source documents by the streams `reparse` / `reparse-source`; not
    derived from a model of expat).  The statement about the real chain is
    `ser_idempotent_builder_source`, with the side condition that no
    element's content is empty TEXT only; `empty_text_child_not_idempotent` is
    the witness that the side condition cannot be dropped. -/
theorem ser_idempotent_builder (pref : List (Str × Str)) (hpref : prefOK pref = true)
    (rep : Char → Bool) (hr : AsciiRep rep) (s : Stream)
    (h : docOK (emptyTag s) = true) (hb : builderShaped (emptyTag s) = true)
    (ht : inputTextOKm rep pref (emptyTag s) = true) :
    ∃ out, serRun SerSt.init (flatten pref (emptyTag s)) = some out ∧
      ∃ xs2, parseText (encodeText rep out) = some xs2 ∧
        serRun SerSt.init (flatten pref xs2) = some out :=
  idem_text_builder pref hpref rep hr _ h hb ht

/-- **ser_idempotent for parser-shaped streams, text level**: the same
    conclusion for streams in `idemOK` (what the parser delivers: namespace
    events in front of their start tag, nothing for the flattener to make up)
    without adjacent character data (`inputTextOK`; the parser coalesces). -/
theorem ser_idempotent_parsed_text (pref : List (Str × Str)) (hpref : prefOK pref = true)
    (rep : Char → Bool) (hr : AsciiRep rep) (s : Stream)
    (h : docOK (emptyTag s) = true) (hi : idemOK pref (emptyTag s) = true)
    (ht : inputTextOK rep pref (emptyTag s) = true) :
    ∃ out, serRun SerSt.init (flatten pref (emptyTag s)) = some out ∧
      ∃ xs2, parseText (encodeText rep out) = some xs2 ∧
        serRun SerSt.init (flatten pref xs2) = some out :=
  idem_text_parsed pref hpref rep hr _ h hi ht

/-- a builder tree with two namespaces, a namespaced attribute that needs a
    made-up prefix, an un-namespaced child (`xmlns=""`), a child back in the
    first namespace, adjacent and empty strings is inside the hypotheses; the
    second pass does see made-up declarations (three of them on the root) -/
example :
    let s : Stream :=
      [.start ⟨['u'], ['a']⟩ [(⟨['v'], ['x']⟩, ['1']), (⟨['u'], ['y']⟩, ['2'])],
       .text ['t'] false, .text [] false, .text ['&'] false,
       .start ⟨[], ['d']⟩ [], .start ⟨['u'], ['e']⟩ [(⟨['v'], ['z']⟩, ['3'])], .end_ ⟨['u'], ['e']⟩, .end_ ⟨[], ['d']⟩,
       .end_ ⟨['u'], ['a']⟩]
    docOK (emptyTag s) = true ∧ builderShaped (emptyTag s) = true ∧
    inputTextOKm (inRanges [(0, 127)]) defaultPref (emptyTag s) = true ∧
    (flatten defaultPref (emptyTag s)).head? =
      some (.start ['a'] [(['x','m','l','n','s'], ['u']), (['x','m','l','n','s',':','n','s','1'], ['v']),
        (['x','m','l','n','s',':','n','s','2'], ['u']), (['n','s','1',':','x'], ['1']), (['n','s','2',':','y'], ['2'])]) := by
  decide +kernel

/-- Boundary of the two idempotence theorems, with witness: a hand-made stream
    that *mixes* builder-style elements with explicit namespace events is inside
    `docOK` but in neither shape class, and idempotence fails there (model and
    real code alike): `b` gets a made-up `xmlns=""` (binding `''`), the explicit
    START_NS('', None) in front of `c` differs from it and is written again; the
    second pass meets both as `None` and drops the second.  The property
    quantifies over parsed documents and streams *without* explicit namespace
    events, so this is outside it. -/
theorem mixed_stream_not_idempotent :
    let s : Stream := [.start ⟨['u'], ['a']⟩ [], .start ⟨[], ['b']⟩ [], .startNs [] noneUri,
                       .start ⟨[], ['c']⟩ [], .end_ ⟨[], ['c']⟩, .endNs [], .end_ ⟨[], ['b']⟩,
                       .end_ ⟨['u'], ['a']⟩]
    docOK (emptyTag s) = true ∧ builderShaped (emptyTag s) = false ∧ idemOK defaultPref (emptyTag s) = false ∧
    serRun SerSt.init (flatten defaultPref (emptyTag s)) =
      some ['<','a',' ','x','m','l','n','s','=','"','u','"','>','<','b',' ','x','m','l','n','s','=','"','"','>',
            '<','c',' ','x','m','l','n','s','=','"','"','/','>','<','/','b','>','<','/','a','>'] ∧
    (reparseX PSt.init ((flatten defaultPref (emptyTag s)).map normF)).bind
        (fun xs2 => serRun SerSt.init (flatten defaultPref xs2)) =
      some ['<','a',' ','x','m','l','n','s','=','"','u','"','>','<','b',' ','x','m','l','n','s','=','"','"','>',
            '<','c','/','>','<','/','b','>','<','/','a','>'] := by
  decide +kernel

/-- a namespaced document with declaration, DOCTYPE and mixed content is inside
    all hypotheses, and the text it is about exists -/
example :
    let s : Stream :=
      [.xmlDecl ['1', '.', '0'] (some ['u', 't', 'f', '-', '8']) (-1), .comment ['c'],
       .doctype ['a'] (some ['-', '/', '/', 'X']) (some ['x', '.', 'd', 't', 'd']),
       .startNs [] ['u'], .start ⟨['u'], ['a']⟩ [(⟨[], ['x']⟩, ['1', '"', '<'])],
       .text ['t', '&'] false, .comment ['c'], .startCdata, .text ['<', 'z'] false, .endCdata,
       .start ⟨['v'], ['b']⟩ [], .end_ ⟨['v'], ['b']⟩, .pi ['p'] ['d'],
       .end_ ⟨['u'], ['a']⟩, .endNs []]
    WellNested s ∧ docOK (emptyTag s) = true ∧ docTextOK (flatten defaultPref (emptyTag s)) = true ∧
    repMarkup (inRanges [(0, 127)]) (flatten defaultPref (emptyTag s)) = true ∧
    inputTextOK (inRanges [(0, 127)]) defaultPref (emptyTag s) = true ∧
    (serialize s).isSome = true := by
  decide +kernel

/-- a document with re-bound prefixes, two prefixes for one URI, an undeclared
    default namespace and an unbound attribute namespace is inside the hypothesis -/
example : docOK (emptyTag
    [.startNs [] ['u'], .startNs ['q'] ['u'], .start ⟨['u'], ['a']⟩ [(⟨['u'], ['x']⟩, ['1'])],
     .startNs ['q'] ['v'], .startNs [] noneUri, .start ⟨[], ['b']⟩ [(⟨['w'], ['y']⟩, ['2'])],
     .text ['t'] false, .end_ ⟨[], ['b']⟩, .endNs [], .endNs ['q'],
     .start ⟨['v'], ['c']⟩ [], .end_ ⟨['v'], ['c']⟩,
     .end_ ⟨['u'], ['a']⟩, .endNs ['q'], .endNs []]) = true := by decide +kernel

/-- so is a builder stream: qualified names, no namespace events -/
example : docOK (emptyTag
    [.start ⟨['u'], ['a']⟩ [(⟨['v'], ['x']⟩, ['1'])], .start ⟨[], ['d']⟩ [], .end_ ⟨[], ['d']⟩,
     .start ⟨['v'], ['e']⟩ [], .text ['t'] false, .end_ ⟨['v'], ['e']⟩, .end_ ⟨['u'], ['a']⟩]) = true := by decide +kernel

/-- Outside the hypothesis, with witness: an element without namespace inside the
    scope of an *explicit* non-empty default namespace declaration is left there
    (the flattener writes `xmlns=""` only against default namespaces it made up
    itself; template output relies on this), so it is read back in that
    namespace.  The parser never produces such a stream. -/
theorem explicit_default_not_undeclared :
    let s : Stream := [.startNs [] ['u'], .start ⟨['u'], ['a']⟩ [], .start ⟨[], ['b']⟩ [],
                       .end_ ⟨[], ['b']⟩, .end_ ⟨['u'], ['a']⟩, .endNs []]
    docOK (emptyTag s) = false ∧
    resolve ((flatten defaultPref (emptyTag s)).map normF) =
      some [.start ⟨['u'], ['a']⟩ [], .start ⟨['u'], ['b']⟩ [], .end_ ⟨['u'], ['b']⟩, .end_ ⟨['u'], ['a']⟩] := by
  decide +kernel

/-- For every string of XML characters and every
    encoding (any set of representable characters that contains ASCII): escaping
    as the serializer does for text, then `xmlcharrefreplace`, is read back by an
    XML reader as the original string — unrepresentable characters come back as
    the same scalar through their character reference. -/
theorem encode_roundtrip_text (rep : Char → Bool) (hr : AsciiRep rep) (s : Str)
    (hx : s.all isXmlChar = true) :
    decodeText (encodeText rep (escapePy false s)) = some s :=
  decodeGo_encode_escape rep hr false false s hx (fun h => by cases h)

/-- The same for attribute values outside TAB/LF/CR (which XML normalises to a
    space and the serializer does not write as references). -/
theorem encode_roundtrip_attr (rep : Char → Bool) (hr : AsciiRep rep) (s : Str)
    (hx : s.all isXmlChar = true) (hws : ∀ c ∈ s, c ≠ '\t' ∧ c ≠ '\n' ∧ c ≠ '\r') :
    decodeAttr (encodeText rep (escapePy true s)) = some s :=
  decodeGo_encode_escape rep hr true true s hx (fun _ => hws)

/-- **encode, for every output encoding of the table.**  For each codec the
    translator probed (`Genshi.Gen.Xml.encodings`: the set of scalar values the
    codec's own encoder accepts) and every string of XML characters, what
    `encode` makes of escaped character data with `xmlcharrefreplace`
      * lies inside the codec's repertoire (the codec cannot refuse it),
      * has every character the codec has as itself and every character it
        lacks as `&#N;` with `N` the scalar value in decimal,
      * and is read back by an XML reader as the original string;
    the same for attribute values outside TAB/LF/CR. -/
theorem encode_every_codec :
    ∀ e ∈ Genshi.Gen.Xml.encodings, ∀ s : Str, s.all isXmlChar = true →
      (encodeText (inRanges e.2) (escapePy false s)).all (inRanges e.2) = true ∧
      (∀ c : Char, inRanges e.2 c = false →
        encodeText (inRanges e.2) [c] = '&' :: '#' :: dec c.toNat ++ [';']) ∧
      (∀ c : Char, inRanges e.2 c = true → encodeText (inRanges e.2) [c] = [c]) ∧
      decodeText (encodeText (inRanges e.2) (escapePy false s)) = some s ∧
      ((∀ c ∈ s, c ≠ '\t' ∧ c ≠ '\n' ∧ c ≠ '\r') →
        decodeAttr (encodeText (inRanges e.2) (escapePy true s)) = some s) := by
  intro e he s hx
  have hr := extracted_codecs_ascii e he
  refine ⟨encodeText_all_rep _ hr _, fun c hc => encodeText_unrep _ c hc,
    fun c hc => enc_cons _ c hc [], encode_roundtrip_text _ hr s hx,
    fun hws => encode_roundtrip_attr _ hr s hx hws⟩

/-- the euro sign under three codecs of the table: latin-1 lacks it, cp1252 and
    iso-8859-15 have it; Cyrillic under koi8-r -/
example :
    (Genshi.Gen.Xml.encodings.lookup ['l','a','t','i','n','-','1']).map (fun r => encodeText (inRanges r) [Char.ofNat 0x20AC]) =
      some ['&','#','8','3','6','4',';'] ∧
    (Genshi.Gen.Xml.encodings.lookup ['c','p','1','2','5','2']).map (fun r => encodeText (inRanges r) [Char.ofNat 0x20AC]) =
      some [Char.ofNat 0x20AC] ∧
    (Genshi.Gen.Xml.encodings.lookup ['i','s','o','-','8','8','5','9','-','1','5']).map
        (fun r => encodeText (inRanges r) [Char.ofNat 0x20AC, Char.ofNat 0xA4]) =
      some [Char.ofNat 0x20AC, '&','#','1','6','4',';'] ∧
    (Genshi.Gen.Xml.encodings.lookup ['k','o','i','8','-','r']).map
        (fun r => encodeText (inRanges r) [Char.ofNat 0x416, Char.ofNat 0xE9]) =
      some [Char.ofNat 0x416, '&','#','2','3','3',';'] := by
  decide +kernel

/-- A character reference is read back as the same scalar, in both modes. -/
theorem charref_roundtrip (attr : Bool) (c : Char) (hx : isXmlChar c = true) (rest : Str) :
    decodeGo attr none (charRef c ++ rest) = (decodeGo attr none rest).map (c :: ·) :=
  decodeGo_charRef attr c hx rest

example : decodeText (encodeText (fun c => c.toNat < 128) (escapePy false ['a', '<', 'é', '&', '😀'])) =
    some ['a', '<', 'é', '&', '😀'] :=
  encode_roundtrip_text _ (fun _ h => by simpa using h) _ (by decide +kernel)

example : encodeText (fun c => c.toNat < 128) (escapePy false ['<', 'é']) =
    ['&', 'l', 't', ';', '&', '#', '2', '3', '3', ';'] := by decide +kernel

/-- Domain exclusion, with witness: TAB / LF / CR in an attribute value are
    written literally and an XML reader turns them into a space. -/
theorem attr_tab_lf_cr_not_recovered :
    decodeAttr (escapePy true ['a', '\t', 'b']) = some ['a', ' ', 'b'] ∧
    decodeAttr (escapePy true ['\n']) = some [' '] ∧
    decodeAttr (escapePy true ['\r']) = some [' '] := by
  decide +kernel

/-- Domain exclusion, with witness: CR in text is written literally and an XML
    reader reports it as LF. -/
theorem text_cr_not_recovered :
    (normEol (escapePy false ['a', '\r', 'b'])) = ['a', '\n', 'b'] := by decide +kernel

/-- Known finding `C02-decl-encoding-echo`, model side: the serializer writes the
    declaration of the source whatever encoding `encode` is then asked for, and a
    character the codec has is written raw — under latin-1 the bytes say
    `encoding="utf-8"` and hold a lone 0xE9.  (The theorems above are about the
    text as the codec's own decoder returns it.) -/
theorem decl_encoding_echoed :
    (serialize [.xmlDecl ['1', '.', '0'] (some ['u', 't', 'f', '-', '8']) (-1),
                .start ⟨[], ['a']⟩ [], .text [Char.ofNat 233] false, .end_ ⟨[], ['a']⟩]).map
      (encodeText (inRanges [(0, 255)])) =
    some ['<', '?', 'x', 'm', 'l', ' ', 'v', 'e', 'r', 's', 'i', 'o', 'n', '=', '"', '1', '.', '0', '"', ' ', 'e', 'n', 'c', 'o', 'd', 'i', 'n', 'g', '=', '"', 'u', 't', 'f', '-', '8', '"', '?', '>', '\n', '<', 'a', '>', (Char.ofNat 233), '<', '/', 'a', '>'] := by decide +kernel

/-! ### adjacent CDATA sections (the seam rule)

Character data that contains `]]>` can be written as CDATA in one way only:
split over two sections that directly follow each other
(`<![CDATA[a]]]]><![CDATA[>b]]>`).  A parser reports two sections; the
serializer writes text inside a section verbatim, so the two pieces must never
be joined. -/

/-- the stream `<a><![CDATA[x]]><![CDATA[y]]></a>` is parsed into -/
def twoSections (x y : Str) : Stream :=
  [.start ⟨[], ['a']⟩ [], .startCdata, .text x false, .endCdata,
   .startCdata, .text y false, .endCdata, .end_ ⟨[], ['a']⟩]

/-- **The parser layer keeps the seams of character data.**  `_coalesce` joins
    TEXT with TEXT only: for all streams `a`, `b` an END_CDATA directly followed
    by a START_CDATA stays where it is and the text on its two sides is
    coalesced separately; more generally no event other than TEXT is dropped,
    added, moved or merged (`nonText`), and the character data between two such
    events is the concatenation of what was there (`runs`). -/
theorem parser_keeps_cdata_seam :
    (∀ a b : Stream, coalesce (a ++ .endCdata :: .startCdata :: b) =
        coalesce a ++ .endCdata :: .startCdata :: coalesce b) ∧
    (∀ (a b : Stream) (e : Event), isText e = false → coalesce (a ++ e :: b) = coalesce a ++ e :: coalesce b) ∧
    (∀ s : Stream, nonText (coalesce s) = nonText s) ∧
    (∀ s : Stream, runs (coalesce s) = runs s) :=
  ⟨coalesce_cdata_seam, coalesce_append_nontext, nonText_coalesce, runs_coalesce⟩

/-- expat's callbacks for `<a>p<![CDATA[x]]]]><![CDATA[>]]><![CDATA[]]>y&amp;z</a>` (character data arrives in
    pieces) through `_handle_*` and `_coalesce`: three sections, the seam `]]` | `>` kept -/
example :
    coalesce (runCbs (fun _ => none)
      [.startEl ['a'] [], .data ['p'], .startCdata, .data ['x'], .data [']', ']'], .endCdata,
       .startCdata, .data ['>'], .endCdata, .startCdata, .endCdata, .data ['y'], .data ['&'], .data ['z'],
       .endEl ['a']]).1 =
    [.start ⟨[], ['a']⟩ [], .text ['p'] false, .startCdata, .text ['x', ']', ']'] false, .endCdata,
     .startCdata, .text ['>'] false, .endCdata, .startCdata, .endCdata, .text ['y', '&', 'z'] false,
     .end_ ⟨[], ['a']⟩] := by decide +kernel

/-- **xml_roundtrip covers adjacent CDATA sections**: for ALL section texts `x`,
    `y` that CDATA can hold (`cdataOK`: XML characters, no CR, no `]]>` — `x`
    may well end in `]]` and `y` start with `>`) and that the encoding can
    represent, the document `<a><![CDATA[x]]><![CDATA[y]]></a>` as parsed
    (two sections) is inside the hypotheses of `xml_roundtrip`, and the reader
    gets two sections with the same texts back from the serializer's output. -/
theorem xml_roundtrip_adjacent_cdata (rep : Char → Bool) (hr : AsciiRep rep) (x y : Str)
    (hx : cdataOK x = true) (hy : cdataOK y = true) (hx0 : x ≠ []) (hy0 : y ≠ [])
    (hxr : x.all rep = true) (hyr : y.all rep = true) :
    ∃ out, serRun SerSt.init (flatten defaultPref (emptyTag (twoSections x y))) = some out ∧
      Reader.read (encodeText rep out) =
        some [.start ⟨[], ['a']⟩ [], .startCdata, .text x, .endCdata,
              .startCdata, .text y, .endCdata, .end_ ⟨[], ['a']⟩] := by
  have hn : WellNested (twoSections x y) := by simp [WellNested, twoSections, balance]
  have hd : docOK (emptyTag (twoSections x y)) = true := rfl
  have ex : x.isEmpty = false := by cases x <;> first | rfl | exact absurd rfl hx0
  have ey : y.isEmpty = false := by cases y <;> first | rfl | exact absurd rfl hy0
  have fx : flushF x = [.other (.text x false)] := by rw [flushF, ex]; rfl
  have fy : flushF y = [.other (.text y false)] := by rw [flushF, ey]; rfl
  have rx : rep 'x' = true := hr _ (by decide)
  have hp : prefTxt rep defaultPref = true := by
    simp [prefTxt, defaultPref, Genshi.Gen.Xml.flattenerInitial, prefixTxt,
      nameTxt_ascii rep hr (n := ['x', 'm', 'l']) (by decide +kernel) (by decide)]
  have hq : qnameTxt rep ⟨[], ['a']⟩ = true := by
    simp [qnameTxt, uriTxt, nameTxt_ascii rep hr (n := ['a']) (by decide +kernel) (by decide)]
    decide
  have hv : validName ['x'] = true := by decide +kernel
  have ht : inputTextOKm rep defaultPref (emptyTag (twoSections x y)) = true := by
    simp [twoSections, emptyTag, emptyTagGo, inputTextOKm, skeleton, mergeF, mergeFGo, docTextOK, contentOK,
      repMarkup, repMarkupGo, evTxt, noSafeText, hx, hy, ex, ey, fx, fy, hxr, hyr, dummyName, flatAttrsOK,
      hp, hq, hv, rx, attrsTxt]
  obtain ⟨out, h1, h2⟩ := xml_roundtrip defaultPref default_pref_ok rep hr _ hn hd ht
  refine ⟨out, h1, ?_⟩
  rw [h2]
  simp [twoSections, canonS, canonEv, mergeR, mergeRGo, flushR, hx0, hy0]

/-- a seam that spells `]]>` is inside the hypotheses and comes back as written -/
example :
    let s := twoSections ['a', ']', ']'] ['>', 'b']
    WellNested s ∧ docOK (emptyTag s) = true ∧ inputTextOKm (inRanges [(0, 127)]) defaultPref (emptyTag s) = true ∧
    serialize s = some ['<','a','>','<','!','[','C','D','A','T','A','[','a',']',']',']',']','>',
                        '<','!','[','C','D','A','T','A','[','>','b',']',']','>','<','/','a','>'] := by
  decide +kernel

/-- **Witness: joining the two sections is what must not happen.**  The stream
    with ONE section holding `a]]>b` (what a parser layer that merged directly
    adjacent sections would deliver for `<a><![CDATA[a]]]]><![CDATA[>b]]></a>`)
    is outside `inputTextOKm` (no CDATA section can hold `]]>`), the serializer
    writes it verbatim and the reader rejects the output. -/
theorem merged_cdata_seam_not_wellformed :
    let s : Stream := [.start ⟨[], ['a']⟩ [], .startCdata, .text ['a', ']', ']', '>', 'b'] false, .endCdata,
                       .end_ ⟨[], ['a']⟩]
    docOK (emptyTag s) = true ∧ inputTextOKm (fun _ => true) defaultPref (emptyTag s) = false ∧
    (serialize s).bind Reader.read = none ∧
    coalesce (twoSections ['a', ']', ']'] ['>', 'b']) = twoSections ['a', ']', ']'] ['>', 'b'] := by
  decide +kernel

/-- **`parseSource` and `parseText` agree wherever no start tag is directly
    followed by an end tag.**  `parseText` (the parser as the idempotence
    theorems see it) reads `<a></a>` as START, END; the real parser chain
    (expat, then `EmptyTagFilter`) reads it as EMPTY, like `<a/>`; `parseSource`
    does so too and is the function compared with the real `XMLParser` +
    `EmptyTagFilter` on serializer output AND on source documents (streams
    `reparse`, `reparse-source`). -/
theorem parse_source_agrees (t : Str) (toks : List FEv) (h : Reader.tokenize t = some toks)
    (hn : noStartEnd (dropTopWs 0 toks) = true) : parseSource t = parseText t :=
  parseSource_eq_parseText t toks h hn

/-- non-vacuity: a source document with single quotes, a reference, CDATA and an empty-element tag -/
example :
    let t : Str := ['<','a',' ','x','=','\'','1','\'','>','&','#','6','0',';','<','b','/','>','<','!','[','C','D','A','T','A','[','c',']',']','>','<','/','a','>']
    (Reader.tokenize t).isSome = true ∧ parseSource t = parseText t ∧
    parseSource t = some [.ev (.start ⟨[], ['a']⟩ [(⟨[], ['x']⟩, ['1'])]), .ev (.text ['<'] false), .empty ⟨[], ['b']⟩ [],
                          .ev .startCdata, .ev (.text ['c'] false), .ev .endCdata, .ev (.end_ ⟨[], ['a']⟩)] := by
  decide +kernel

/-- **Witness: where they differ, idempotence is lost.**  A builder stream whose
    only child is the empty string (`tag.a('')`) is serialised as `<a></a>`; the
    real parser chain reads that as EMPTY (`parseSource`; `parseText` does not)
    and the second serialisation is `<a/>`.  So `ser_idempotent_builder`, stated
    with `parseText`, says nothing true of the real code for an element whose
    content is empty TEXT events only: XML has no empty text node, the oracle
    keeps such trees out (`tree_in_domain`), the real code behaves as this
    witness says. -/
theorem empty_text_child_not_idempotent :
    let s : Stream := [.start ⟨[], ['a']⟩ [], .text [] false, .end_ ⟨[], ['a']⟩]
    docOK (emptyTag s) = true ∧ builderShaped (emptyTag s) = true ∧
    serialize s = some ['<','a','>','<','/','a','>'] ∧
    parseText ['<','a','>','<','/','a','>'] = some [.ev (.start ⟨[], ['a']⟩ []), .ev (.end_ ⟨[], ['a']⟩)] ∧
    parseSource ['<','a','>','<','/','a','>'] = some [.empty ⟨[], ['a']⟩ []] ∧
    serRun SerSt.init (flatten defaultPref [.empty ⟨[], ['a']⟩ []]) = some ['<','a','/','>'] := by
  decide +kernel

/-- **`ET(element)` delivers a well-nested builder-shaped stream** for every
    ElementTree element (any tags, attribute names, texts, tails, nesting): no
    namespace events, start and end tags balanced — so on `docOK ∧ inputTextOKm`
    the theorems for builder streams (`xml_roundtrip`, `ser_idempotent_builder`)
    apply to it as they do to `genshi.builder` output. -/
theorem et_stream_builder_shaped (t : ETree) :
    WellNested (etStream t) ∧ builderShaped (emptyTag (etStream t)) = true :=
  ⟨wellNested_etStream t, builderShaped_etStream t⟩

/-- `ET` of `<{u}a x="1">t<b/>tail</{u}a>`: inside the hypotheses of `xml_roundtrip` -/
example :
    let s := etStream (.node ['{','u','}','a'] [(['x'], ['1'])] (some ['t']) [.node ['b'] [] none [] (some ['w'])] none)
    s = [.start ⟨['u'], ['a']⟩ [(⟨[], ['x']⟩, ['1'])], .text ['t'] false, .start ⟨[], ['b']⟩ [], .end_ ⟨[], ['b']⟩,
         .text ['w'] false, .end_ ⟨['u'], ['a']⟩] ∧
    docOK (emptyTag s) = true ∧ inputTextOKm (inRanges [(0, 127)]) defaultPref (emptyTag s) = true := by
  decide +kernel

/-- **ser_idempotent for builder streams through the real parser chain**
    (`parseSource`: `<a></a>` is read as EMPTY, as expat + `EmptyTagFilter` do).
    Same hypotheses as `ser_idempotent_builder` plus the decidable side
    condition `noStartEndX (mergeX (emptyTag s))`: once adjacent TEXT events are
    merged and empty ones dropped, no START is followed by its END with nothing
    between them — i.e. no element's content consists of empty TEXT events only
    (an element without children is EMPTY after `EmptyTagFilter` and is fine).
    Then `ser (parseSource (encode (ser s))) = ser s`.  The side condition
    cannot be dropped: `empty_text_child_not_idempotent`. -/
theorem ser_idempotent_builder_source (pref : List (Str × Str)) (hpref : prefOK pref = true)
    (rep : Char → Bool) (hr : AsciiRep rep) (s : Stream)
    (h : docOK (emptyTag s) = true) (hb : builderShaped (emptyTag s) = true)
    (ht : inputTextOKm rep pref (emptyTag s) = true)
    (hne : noStartEndX (mergeX (emptyTag s)) = true) :
    ∃ out, serRun SerSt.init (flatten pref (emptyTag s)) = some out ∧
      ∃ xs2, parseSource (encodeText rep out) = some xs2 ∧
        serRun SerSt.init (flatten pref xs2) = some out :=
  idem_text_builder_source pref hpref rep hr _ h hb ht hne

/-- **… and for parser-shaped streams** (`idemOK`, `inputTextOK`): the same
    conclusion with `parseSource`, side condition `noStartEndX (emptyTag s)`
    (START and END with nothing but namespace events between them do not
    occur; `EmptyTagFilter` guarantees it for what it is given by a parser,
    where TEXT events are never empty). -/
theorem ser_idempotent_parsed_text_source (pref : List (Str × Str)) (hpref : prefOK pref = true)
    (rep : Char → Bool) (hr : AsciiRep rep) (s : Stream)
    (h : docOK (emptyTag s) = true) (hi : idemOK pref (emptyTag s) = true)
    (ht : inputTextOK rep pref (emptyTag s) = true)
    (hne : noStartEndX (emptyTag s) = true) :
    ∃ out, serRun SerSt.init (flatten pref (emptyTag s)) = some out ∧
      ∃ xs2, parseSource (encodeText rep out) = some xs2 ∧
        serRun SerSt.init (flatten pref xs2) = some out :=
  idem_text_parsed_source pref hpref rep hr _ h hi ht hne

/-- the builder tree of the example after `ser_idempotent_parsed_text` (two namespaces, made-up prefixes, `xmlns=""`, adjacent and empty
    strings beside real ones) satisfies the side condition; `tag.a('')` does not -/
example :
    let s : Stream :=
      [.start ⟨['u'], ['a']⟩ [(⟨['v'], ['x']⟩, ['1']), (⟨['u'], ['y']⟩, ['2'])],
       .text ['t'] false, .text [] false, .text ['&'] false,
       .start ⟨[], ['d']⟩ [], .start ⟨['u'], ['e']⟩ [(⟨['v'], ['z']⟩, ['3'])], .end_ ⟨['u'], ['e']⟩, .end_ ⟨[], ['d']⟩,
       .end_ ⟨['u'], ['a']⟩]
    docOK (emptyTag s) = true ∧ builderShaped (emptyTag s) = true ∧
    inputTextOKm (inRanges [(0, 127)]) defaultPref (emptyTag s) = true ∧
    noStartEndX (mergeX (emptyTag s)) = true ∧
    noStartEndX (mergeX (emptyTag [.start ⟨[], ['a']⟩ [], .text [] false, .end_ ⟨[], ['a']⟩])) = false := by
  decide +kernel

/-- a parsed document with declarations (namespace events between the tags) satisfies it -/
example : noStartEndX (emptyTag
    [.startNs [] ['u'], .start ⟨['u'], ['a']⟩ [], .startNs ['q'] ['v'], .start ⟨['v'], ['b']⟩ [], .end_ ⟨['v'], ['b']⟩,
     .endNs ['q'], .text ['t'] false, .end_ ⟨['u'], ['a']⟩, .endNs []]) = true := by decide +kernel

/-- **What `XMLParser` delivers, whatever expat calls** (any callback sequence,
    any entity table): no two TEXT events in a row, no `Markup` text (the
    `noSafeText` clause of `inputTextOKm`), and the events other than TEXT are
    exactly those the `_handle_*` callbacks enqueued, in order — `_coalesce`
    touches character data only. -/
theorem parser_layer_stream_shape (entity : Str → Option Char) (cbs : List Cb) :
    NoAdjText (parseCbs entity cbs).1 ∧ (parseCbs entity cbs).1.all plainText = true ∧
    nonText (parseCbs entity cbs).1 = nonText (runCbs entity cbs).1 :=
  parseCbs_shape entity cbs

/-- an undefined entity ends the parse after the events enqueued so far (`false`), a defined one becomes text
    that is coalesced with its neighbours -/
example :
    parseCbs (fun n => if n = ['n','b','s','p'] then some (Char.ofNat 160) else none)
      [.startEl ['a'] [], .data ['x'], .other ['&','n','b','s','p',';'], .data ['y'], .other ['&','z',';'], .data ['w']] =
    ([.start ⟨[], ['a']⟩ [], .text ['x', Char.ofNat 160, 'y'] false], false) := by decide +kernel

end Genshi.Props.C02
