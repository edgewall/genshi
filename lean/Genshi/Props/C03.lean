/-
  C03 — Template expressions evaluate exactly as Python evaluates them.

  Model: `Genshi.Py.xform` (= `ExpressionASTTransformer` with the scope tracking of
  `TemplateASTTransformer`; `Model/PyXform.lean`), the abstract evaluator `Genshi.Py.eval` with
  Python's scoping rules and the documented lookup rules `lookupName / lookupAttr / lookupItem`
  (`Model/PyEval.lean`).  That the rewritten tree is then *regenerated and compiled* faithfully is
  C13 (`Genshi.Props.C13.parse_gen`).  Property theorems only; lemmas in `Genshi/Lemmas/Py{Xform,Eval,EvalC,XformWF,XformLam,Unxf,XformUnxf,Lex}.lean`.
  Hypotheses of the statements: `okScopes` (side conditions on the expression), `Inv L env` (the transformer's
  `locals` stack describes the environment), `Res env` (no helper name of the rewriting is shadowed), `Linked`
  (what the globals of the rewritten code hold) — all `Lemmas/PyEval.lean`; `lamFree` (`Lemmas/PyXformLam.lean`),
  `noLookup` (`Lemmas/PyUnxf.lean`), `Scannable` (`Lemmas/PyLex.lean`), `Supported` (`Lemmas/PySupported.lean`).

  OBLIGATIONS (checked by the axiom audit of the harness):
    xform_correct bound_names_left_alone free_names_looked_up strict_raises lenient_undefined
    name_resolution_order attr_falls_back_to_item item_falls_back_to_attr attr_error_of_class_propagates
    constants_not_looked_up link_consistent pipeline_faithful expression_semantics xform_invertible
    lex_expression_boundaries lex_dollar_escape lex_name_reference
    lookup_attr_prefers_attribute lookup_item_prefers_item lookup_attr_fallback_only_on_failure
    lookup_item_fallback_only_on_failure both_attribute_and_item
    concrete_evaluator_is_eval concrete_linked rewriting_adds_no_lambda concrete_xform_correct
-/
import Genshi.Lemmas.PyEval
import Genshi.Lemmas.PyXformWF
import Genshi.Lemmas.PyXformUnxf
import Genshi.Lemmas.PyLex
import Genshi.Props.C13
import Genshi.Model.PyLookupObj
import Genshi.Lemmas.PyEvalC
namespace Genshi.Props.C03
open Genshi.Py

variable {V E : Type} (σ : Sem V E) (w : World V E) (g : Str → Except E V)

/-- **The rewriting implements the documented semantics.**  For every expression (any nesting
    of operators, lambdas with every parameter kind, comprehensions, calls, attribute / item
    access, …), every operator semantics `σ`, every context data / builtins / lookup mode `w`:
    Python's evaluation of the *rewritten* tree (free names from the globals that
    `LookupBase.globals` provides, plain `getattr` / `getitem`) equals the evaluation of the
    *original* tree under the documented template semantics (free names: data, then builtins,
    then undefined; attribute and item access with the documented fall-backs; names bound by
    lambda parameters and comprehension loop variables are ordinary Python variables with
    Python's scoping: defaults and the first iterable belong to the enclosing scope). -/
theorem xform_correct (hL : Linked σ w g) (e : PyExpr) (hok : okScopes e = true) :
    eval σ (pyLook σ g) (xform e) [] = eval σ (gsLook σ w) e [] :=
  -- `CONSTANTS` is the outermost scope of the transformer's `locals`; `Linked.consts` says what such a name evaluates to
  xf_eval hL e [constantNames] [] inv_start res_start hok

/-- **The compiled source is the rewritten tree.**  The rewriting of a supported expression is
    again supported, so (C13 `parse_gen`) the source that is regenerated from it and handed to
    `compile()` has exactly the abstract syntax of the rewritten tree: no grouping, operand,
    argument or lookup call is lost between the transformer and the compiler. -/
theorem pipeline_faithful (e : PyExpr) (h : Supported e) : pyParse (gen (xform e)) = some (xform e) :=
  Genshi.Props.C13.parse_gen _ (supported_xform e h)

/-- **End to end.**  What Python evaluates — the parse of the regenerated source of the
    rewritten expression — computes the documented template semantics of the original. -/
theorem expression_semantics (hL : Linked σ w g) (e : PyExpr) (hs : Supported e) (hok : okScopes e = true) :
    ∃ e', pyParse (gen (xform e)) = some e' ∧ eval σ (pyLook σ g) e' [] = eval σ (gsLook σ w) e [] :=
  ⟨xform e, pipeline_faithful e hs, xform_correct σ w g hL e hok⟩

/-- a name bound in a local scope (lambda parameter, loop variable) is left alone by the
    rewriting and evaluates to the local value -/
theorem bound_names_left_alone (L : List (List Str)) (env : Env V) (hI : Inv L env) (id : Str) (v : V)
    (h : env.find id = some (some v)) :
    xf L (.name id) = .name id ∧ eval σ (pyLook σ g) (xf L (.name id)) env = .ok v := by
  have hin : inLocals L id = true := hI.of_find h
  constructor
  · simp [xf, hin]
  · simp [xf, hin, eval, h]

/-- a free name is routed through `lookup_name` -/
theorem free_names_looked_up (hL : Linked σ w g) (L : List (List Str)) (env : Env V) (hI : Inv L env) (hR : Res env)
    (id : Str) (h : env.find id = none) (hc : id ∉ constantNames) :
    xf L (.name id) = lookupNameCall id ∧ eval σ (pyLook σ g) (xf L (.name id)) env = lookupName w id := by
  have hin : inLocals L id = false := by
    cases hin : inLocals L id with
    | false => rfl
    | true => exact absurd (hI.const_of_none hin h) hc
  constructor
  · simp [xf, hin]
  · simp only [xf, hin, Bool.false_eq_true, if_false]
    exact eval_lookupName hL hR id

/-- strict mode: a name that is neither in the context data nor a builtin raises `UndefinedError` -/
theorem strict_raises (hs : w.strict = true) (id : Str) (hd : w.data id = none) (hb : w.builtins id = none) :
    lookupName w id = .error (w.undefinedError id none) := by
  simp [lookupName, hd, hb, undefinedRes, hs]

/-- lenient mode: it evaluates to an `Undefined` object -/
theorem lenient_undefined (hs : w.strict = false) (id : Str) (hd : w.data id = none) (hb : w.builtins id = none) :
    lookupName w id = .ok (w.undefinedV id none) := by
  simp [lookupName, hd, hb, undefinedRes, hs]

/-- names are resolved in the context data first, then in the builtins -/
theorem name_resolution_order (id : Str) :
    (∀ v, w.data id = some v → lookupName w id = .ok v) ∧
    (∀ v, w.data id = none → w.builtins id = some v → lookupName w id = .ok v) := by
  constructor
  · intro v h; simp [lookupName, h]
  · intro v h1 h2; simp [lookupName, h1, h2]

/-- `obj.key` where there is no such attribute (and the class has none) but an item `key`: the item -/
theorem attr_falls_back_to_item (obj : V) (key : Str) (e : E) (v : V) (h1 : σ.getattr obj key = .error e)
    (h2 : w.isAttributeError e = true) (h3 : w.classHasAttr obj key = false) (h4 : σ.getitem obj (σ.strV key) = .ok v) :
    lookupAttr σ w obj key = .ok v := by
  simp [lookupAttr, h1, h2, h3, h4]

/-- `obj[key]` where there is no such item, the key is a string and there is an attribute of that name: the attribute -/
theorem item_falls_back_to_attr (obj k : V) (s : Str) (e : E) (v : V) (h1 : σ.getitem obj k = .error e)
    (h2 : w.isKeyError e = true) (h3 : w.strOf k = some s) (h4 : σ.getattr obj s = .ok v) :
    lookupItem σ w obj k = .ok v := by
  simp [lookupItem, h1, h2, h3, h4]

/-- an `AttributeError` raised by an attribute the class does define (a property) propagates -/
theorem attr_error_of_class_propagates (obj : V) (key : Str) (e : E) (h1 : σ.getattr obj key = .error e)
    (h2 : w.isAttributeError e = true) (h3 : w.classHasAttr obj key = true) :
    lookupAttr σ w obj key = .error e := by
  simp [lookupAttr, h1, h2, h3]

/-- `obj.key` where the attribute exists is that attribute — whatever `obj[key]` would give
    (`{'keys': 1}.keys` is the method, not the item) -/
theorem lookup_attr_prefers_attribute (obj : V) (key : Str) (v : V) (h : σ.getattr obj key = .ok v) :
    lookupAttr σ w obj key = .ok v := by
  simp [lookupAttr, h]

/-- `obj[key]` where the item exists is that item — whatever `getattr(obj, key)` would give -/
theorem lookup_item_prefers_item (obj k v : V) (h : σ.getitem obj k = .ok v) :
    lookupItem σ w obj k = .ok v := by
  simp [lookupItem, h]

/-- `lookup_attr` differs from plain `getattr` only where `getattr` raised an `AttributeError` for
    a name the class does not define -/
theorem lookup_attr_fallback_only_on_failure (obj : V) (key : Str)
    (h : lookupAttr σ w obj key ≠ σ.getattr obj key) :
    ∃ e, σ.getattr obj key = .error e ∧ w.isAttributeError e = true ∧ w.classHasAttr obj key = false := by
  unfold lookupAttr at h
  cases hg : σ.getattr obj key with
  | ok v => simp [hg] at h
  | error e =>
    refine ⟨e, rfl, ?_⟩
    simp only [hg] at h
    by_cases h1 : w.isAttributeError e = true
    · by_cases h2 : w.classHasAttr obj key = true
      · simp [h1, h2] at h
      · exact ⟨h1, by simpa using h2⟩
    · simp [h1] at h

/-- `lookup_item` differs from plain item access only where that raised one of the four listed
    exception classes and the key is a string -/
theorem lookup_item_fallback_only_on_failure (obj k : V)
    (h : lookupItem σ w obj k ≠ σ.getitem obj k) :
    ∃ e s, σ.getitem obj k = .error e ∧ w.strOf k = some s ∧
      (w.isAttributeError e || w.isKeyError e || w.isIndexError e || w.isTypeError e) = true := by
  unfold lookupItem at h
  cases hg : σ.getitem obj k with
  | ok v => simp [hg] at h
  | error e =>
    simp only [hg] at h
    by_cases h1 : (w.isAttributeError e || w.isKeyError e || w.isIndexError e || w.isTypeError e) = true
    · cases hs : w.strOf k with
      | none => simp [h1, hs] at h
      | some s => exact ⟨e, s, rfl, rfl, h1⟩
    · simp [h1] at h

/-- non-vacuity, on a concrete object that has *both* an attribute `x` (value 1) and an item `'x'`
    (value 2), and on a `dict`-like object whose key collides with a method of its class:
    dot access gives the attribute / method, subscription gives the item -/
theorem both_attribute_and_item :
    Obj.attrOf true (.obj [(cs!"x", 1)] [] (some [(cs!"x", 2)])) cs!"x" = .ok (.val 1) ∧
    Obj.itemOf true (.obj [(cs!"x", 1)] [] (some [(cs!"x", 2)])) (.str cs!"x") = .ok (.val 2) ∧
    Obj.attrOf true (.obj [] [(cs!"keys", some 900)] (some [(cs!"keys", 7)])) cs!"keys" = .ok (.val 900) ∧
    Obj.itemOf true (.obj [] [(cs!"keys", some 900)] (some [(cs!"keys", 7)])) (.str cs!"keys") = .ok (.val 7) ∧
    Obj.attrOf true (.obj [] [] (some [(cs!"k", 7)])) cs!"k" = .ok (.val 7) ∧
    Obj.itemOf true (.obj [(cs!"k", 3)] [] none) (.str cs!"k") = .ok (.val 3) :=
  ⟨rfl, rfl, rfl, rfl, rfl, rfl⟩

/-- **Known finding C03-constant-names (witness).**  `NotImplemented` and `Ellipsis` are not
    rewritten into a context lookup (every other free name is), so a context variable of that
    name is never consulted: `xform_correct` needs `Linked.consts`. -/
theorem constants_not_looked_up :
    xform (.name cs!"NotImplemented") = .name cs!"NotImplemented"
    ∧ xform (.name cs!"Ellipsis") = .name cs!"Ellipsis"
    ∧ xform (.name cs!"x") = lookupNameCall cs!"x" := by
  refine ⟨rfl, rfl, rfl⟩

def unitSem : Sem Unit Unit where
  const := fun _ => ()
  strV := fun _ => ()
  binop := fun _ _ _ => .ok ()
  unop := fun _ _ => .ok ()
  truthy := fun _ => .ok true
  cmp := fun _ _ _ => .ok ()
  call := fun _ _ _ => .ok ()
  getattr := fun _ _ => .ok ()
  getitem := fun _ _ => .ok ()
  mkList := fun _ => .ok ()
  mkTuple := fun _ => .ok ()
  mkDict := fun _ => .ok ()
  mkSlice := fun _ _ _ => ()
  iter := fun _ => .ok []
  bindTarget := fun _ _ => .ok []
  mkFun := fun _ _ _ _ _ _ => ()
  mkGen := fun _ => ()
  yieldV := fun _ => .ok ()
  unbound := fun _ => ()

def unitWorld : World Unit Unit where
  data := fun _ => some ()
  builtins := fun _ => none
  strict := true
  undefinedError := fun _ _ => ()
  undefinedV := fun _ _ => ()
  isAttributeError := fun _ => false
  isKeyError := fun _ => false
  isIndexError := fun _ => false
  isTypeError := fun _ => false
  classHasAttr := fun _ _ => false
  strOf := fun _ => none

/-- the hypotheses of `xform_correct` are satisfiable -/
theorem link_consistent : Linked unitSem unitWorld (fun _ => .ok ()) := by
  refine ⟨⟨(), (), rfl, rfl, fun _ => rfl⟩, ⟨(), rfl, fun _ _ => rfl⟩, ⟨(), rfl, fun _ _ => ⟨(), rfl, rfl⟩⟩, fun _ => rfl,
    fun _ _ => rfl⟩

/-- `lambda p, /, q=a: [i for i in q if p]` applied: scopes, defaults, comprehension -/
def exScopes : PyExpr :=
  .lambda [.param ['p'] none none] [.param ['q'] none (some (.name ['a']))] none [] none
    (.listComp (.name ['i']) [.comp (.name ['i']) (.name ['q']) [.name ['p']] false])

example : okScopes exScopes = true := by decide
example : xform exScopes =
    .lambda [.param ['p'] none none] [.param ['q'] none (some (lookupNameCall ['a']))] none [] none
      (.listComp (.name ['i']) [.comp (.name ['i']) (.name ['q']) [.name ['p']] false]) := rfl
example : eval unitSem (pyLook unitSem (fun _ => .ok ())) (xform exScopes) []
    = eval unitSem (gsLook unitSem unitWorld) exScopes [] :=
  xform_correct _ _ _ link_consistent exScopes (by decide)

/-- **The rewriting loses nothing.**  Undoing the three documented rewritings
    (`_lookup_name(__data__, 'x')` → `x`, `_lookup_attr(v, 'a')` → `v.a`, `_lookup_item(v, (k,))` → `v[k]`)
    on the transformed tree gives back exactly the tree that was parsed, for every expression that
    does not itself call the (reserved) lookup functions: the transformer only wraps names,
    attribute and item accesses; it never drops, duplicates, reorders or otherwise changes a node.
    Independent of any semantics `σ`. -/
theorem xform_invertible (e : PyExpr) (h : noLookup e = true) : unxf (xform e) = e :=
  unxf_xf e _ h

example : unxf (xform (.lambda [] [.param ['a'] none (some (.name ['b']))] none [] none
    (.subscript (.attribute (.name ['a']) ['c']) (.name ['d']))))
    = .lambda [] [.param ['a'] none (some (.name ['b']))] none [] none
        (.subscript (.attribute (.name ['a']) ['c']) (.name ['d'])) := xform_invertible _ rfl

/-- **The evaluator that runs in the driver is the evaluator of `xform_correct`.**  `evalD` differs from `eval` in one
    place: a lambda expression evaluates to a closure *as data* (`mk … body env`) instead of a Lean function handed to
    `σ.mkFun`.  On every expression without a lambda — operators, comparisons chains, comprehensions and generator
    expressions with any number of clauses, calls, attribute / item access, displays, slices, in every environment, for
    every value semantics and lookup — the two are equal.  (With lambdas the two produce different *representations*
    of the function value; the scoping rules they apply are the same text: `paramScope names b ++ env`, tied to CPython
    and to genshi by the correspondence streams `ceval-*`.) -/
theorem concrete_evaluator_is_eval {V E : Type} (σ : Sem V E) (look : Look V E)
    (mk : List (Str × Option V) → List (Str × Option V) → Option Str → List (Str × Option V) → Option Str →
      List Str → PyExpr → Env V → V)
    (e : PyExpr) (env : Env V) (h : lamFree e = true) : evalD σ look mk e env = eval σ look e env :=
  evalD_eq_eval σ look mk e env h

/-- **The hypotheses of `xform_correct` hold for the concrete semantics**: with the concrete values (`C.CV`), CPython's
    operator / container / call semantics on them (`C.sem`), any context data, either lookup mode and the globals
    `__data__`, `_lookup_name`, `_lookup_attr`, `_lookup_item` of `LookupBase.globals`, calling the helpers applies the
    lookup rules, string constants denote their strings and the constant names are not shadowed. -/
theorem concrete_linked (strict : Bool) (data : List (Str × C.CV)) (cc : C.CallT) :
    Linked (C.sem strict data cc) (C.world strict data) (C.globals strict data) :=
  C.linked_concrete strict data cc

/-- the rewriting wraps names, attribute and item accesses in calls; it never introduces a lambda -/
theorem rewriting_adds_no_lambda (e : PyExpr) (h : lamFree e = true) : lamFree (xform e) = true :=
  lamFree_xf e _ h

/-- **The headline theorem, concretely.**  For every lambda-free expression, every context data, both lookup modes
    and every way `cc` of calling closure values: what the driver computes for "Python evaluates the rewritten tree
    with genshi's globals" (`C.runWith true`) equals what it computes for "the documented template semantics of the
    original tree" (`C.runWith false`) — the two answers the correspondence streams `ceval-*` compare with
    `Expression.evaluate` and with CPython.  (The driver's `C.run py … fuel` is `C.runWith py … (C.callAt py … fuel)`:
    the two modes call closure values through their own mode; on a lambda-free expression over closure-free data no
    closure value exists — that last step is not proved, see notes/C03.md.) -/
theorem concrete_xform_correct (strict : Bool) (data : List (Str × C.CV)) (cc : C.CallT) (e : PyExpr)
    (hok : okScopes e = true) (h : lamFree e = true) :
    C.runWith true strict data cc e = C.runWith false strict data cc e := by
  unfold C.runWith
  simp only [if_true, Bool.false_eq_true, if_false]
  rw [evalD_eq_eval _ _ _ _ _ (rewriting_adds_no_lambda e h), evalD_eq_eval _ _ _ _ _ h]
  simp only [C.lookOf, if_true, Bool.false_eq_true, if_false]
  exact xform_correct _ _ _ (C.linked_concrete strict data cc) e hok

/-- `[x + d.k for x in x if x]`: the loop variable shadows the context name it iterates over; `d.k` falls back to the item -/
def exConcrete : PyExpr :=
  .listComp (.binOp (.name ['x']) cs!"Add" (.attribute (.name ['d']) ['k']))
    [.comp (.name ['x']) (.name ['x']) [.name ['x']] false]

example (strict : Bool) (data : List (Str × C.CV)) (fuel : Nat) :
    C.runWith true strict data (C.callAt false strict data fuel) exConcrete = C.run false strict data fuel exConcrete :=
  concrete_xform_correct strict data _ exConcrete (by decide) (by decide)

example : lamFree (xform exConcrete) = true := rewriting_adds_no_lambda exConcrete (by decide)

example : evalD (C.sem false [] (C.callAt false false [] 3)) (C.lookOf false false [] (C.callAt false false [] 3)) C.mkClo exConcrete []
    = eval (C.sem false [] (C.callAt false false [] 3)) (C.lookOf false false [] (C.callAt false false [] 3)) exConcrete [] :=
  concrete_evaluator_is_eval _ _ _ exConcrete [] (by decide)

open Genshi.Py.Lex in
/-- **Expression boundaries.**  In template text `pre ${inner} post` (no `$` in `pre`, `post`) the
    chunks are the literal `pre`, the expression with exactly the text `inner`, the literal `post` —
    for every `inner` made of blanks, operators, words, string literals (escapes, braces and `$`
    inside them do not count), comments, and balanced braces nested to any depth (`Scannable`). -/
theorem lex_expression_boundaries (pre inner post : List Char) (hpre : ∀ c ∈ pre, c ≠ '$')
    (hpost : ∀ c ∈ post, c ≠ '$') (hi : Scannable inner) :
    lex (pre ++ '$' :: '{' :: (inner ++ '}' :: post)) = .ok (textChunk pre ++ [(true, inner)] ++ textChunk post) :=
  lex_expr pre inner post hpre hpost hi

open Genshi.Py.Lex in
/-- `$$` is a literal `$`: the scanner goes on after it with `$` as the start of the next literal,
    whatever the state. -/
theorem lex_dollar_escape (f : Nat) (lit : List Char) (out : List (Bool × List Char)) (r : List Char) :
    lexGo (f + 1) lit out ('$' :: '$' :: r) = lexGo f ['$'] (flush lit out) r := by
  simp [lexGo, isNameStart]

open Genshi.Py.Lex in
/-- `$name.attr`: the expression is the longest run of name characters after the name start. -/
theorem lex_name_reference (f : Nat) (lit : List Char) (out : List (Bool × List Char)) (c : Char) (r : List Char)
    (hc : isNameStart c = true) :
    lexGo (f + 1) lit out ('$' :: c :: r)
      = lexGo f [] ((true, stripAscii (c :: r.takeWhile isNameChar)) :: flush lit out) (r.dropWhile isNameChar) := by
  have h1 : c ≠ '{' := by rintro rfl; exact absurd hc (by decide)
  simp [lexGo, h1, hc, takeWhileRev_eq]

open Genshi.Py.Lex in
/-- `a[{'}': 1}]` — a brace inside a string inside braces -/
theorem exScannable : Scannable cs!"a[{'}': 1}]" :=
  .word 'a' _ (by decide) (.plain '[' _ (by decide)
    (.braces cs!"'}': 1" cs!"]"
      (.str '\'' ['}'] cs!": 1" (Or.inl rfl) (.char '}' [] (by decide) (by decide) (by decide) .nil)
        (.plain ':' _ (by decide) (.plain ' ' _ (by decide) (.word '1' _ (by decide) .nil))))
      (.plain ']' _ (by decide) .nil)))

open Genshi.Py.Lex in
example : lex cs!"x ${a[{'}': 1}]} y" = .ok [(false, cs!"x "), (true, cs!"a[{'}': 1}]"), (false, cs!" y")] :=
  lex_expression_boundaries cs!"x " cs!"a[{'}': 1}]" cs!" y" (by decide) (by decide) exScannable

end Genshi.Props.C03
