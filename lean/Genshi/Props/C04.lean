/-
  C04 — Directives implement the documented control-flow semantics.
  Property theorems, with the few lemmas only they use; helper lemmas live in `Genshi/Lemmas/Tmpl*.lean`.

  OBLIGATIONS (checked by the harness: every name must be a theorem here, axioms audited):
    order_documented text_directives_are_markup_directives index_is_position
    frames_restored frames_restored_binds choice_stack_restored choose_restores_choice_stack
    outer_variables_kept lookup_after_eq_before render_restores_context
    fuel_irrelevant_impl fuel_irrelevant_doc impl_eq_doc no_output_when_doc_fails no_output_when_impl_fails impl_fails_when_doc_fails
    failing_renders_agree
    if_false_removes if_true_transparent for_eq_unrolled choose_first_match_only
    attr_form_eq_elem_form_ctl replace_eq_content_strip_ctl replace_eq_content_strip
    macro_representation_irrelevant attr_form_eq_elem_form replace_refines_content_strip_attrs
    extract_flat_eq_tree construction_pipeline_eq_compile text_parse_eq_tree text_pipeline_eq_compile
    direlem_attrs_witness
    regex_flags_documented scan_new_lossless scan_old_lossless scan_new_print_roundtrip
    text_reaches_stream_escaped text_reaches_stream_escaped_old text_reaches_output_verbatim
    expression_boundaries_text_template scan_old_line_roundtrip_partial
    tokenize_print_roundtrip reader_inverts_layout interpolate_any_number_of_pieces
    raw_print_roundtrip_tokens raw_print_roundtrip source_text_eq_doc raw_loop_commutes
    scan_old_print_roundtrip raw_print_roundtrip_tokens_old raw_print_roundtrip_old source_text_eq_doc_old
    scan_delims_default scan_delims_lossless scan_delims_print_roundtrip_partial
-/
import Genshi.Lemmas.TmplSimMain
import Genshi.Lemmas.TmplSimRev
import Genshi.Lemmas.TmplEquiv
import Genshi.Lemmas.TmplParam
import Genshi.Lemmas.TmplExtract
import Genshi.Lemmas.TmplText
import Genshi.Lemmas.TmplScanText
import Genshi.Lemmas.TmplScanOld
import Genshi.Lemmas.TmplInv
import Genshi.Lemmas.TmplInvOld
import Genshi.Lemmas.TmplScanD
import Genshi.Lemmas.TmplScanDPrint
import Genshi.Lemmas.TmplRawLoop
namespace Genshi.Props.C04
open Genshi Genshi.Tmpl

/-- The sort key of `_extract_directives` (position in `MarkupTemplate.directives`, regenerated
    from the code on every run) is the documented processing order. -/
theorem order_documented : implOrder = docOrder := implOrder_eq

/-- Both text template classes register a sub-list of the markup directives, in the same
    relative order and with the same classes. -/
theorem text_directives_are_markup_directives :
    Gen.Directives.newTextDirectives.Sublist Gen.Directives.markupDirectives ∧
    Gen.Directives.oldTextDirectives = Gen.Directives.newTextDirectives := by decide

/-- `get_directive_index` is the position in the list (what `implIdx` assumes). -/
theorem index_is_position :
    Gen.Directives.markupIndices = List.range Gen.Directives.markupDirectives.length := by decide

/-- `_extract_directives` walks the flat parsed stream once, with a depth counter and the
    dictionary `dirmap` keyed by `(depth, tag)`, and cuts the events of an element with
    directives out of the output list when its END arrives.  For the parsed stream of every
    template this yields exactly the nesting of the template tree: every SUB holds the events
    of its own element (minus the element itself for a directive element), directives sorted. -/
theorem extract_flat_eq_tree (ns : List TNode) : extractFlat (toStreams ns) = extractTrees ns :=
  extractFlat_eq_tree ns

/-- … and `Template._prepare` on that stream gives the prepared stream `compileNodes` about
    which all run-time theorems below speak. -/
theorem construction_pipeline_eq_compile (ns : List TNode) : compileFlat ns = compileNodes ns :=
  compileFlat_eq_compile ns

/-- Text templates (both syntaxes, after the scanners): the token loop with the depth-keyed
    `dirmap` nests the blocks exactly like the template tree, i.e. like the markup form of the
    same directives written as directive elements. -/
theorem text_parse_eq_tree (ns : List TNode) (h : textNodes ns = true) :
    textParse (toTokss ns) = extractTrees ns :=
  textParse_eq_tree ns h

/-- … and `Template._prepare` on those events gives the prepared stream `compileNodes` of that markup form. -/
theorem text_pipeline_eq_compile (ns : List TNode) (h : textNodes ns = true) :
    compileText ns = compileNodes ns :=
  compileText_eq_compile ns h

/-- After any directive, sub-stream, loop or template the frame stack is the one before it:
    loop variables, `py:with` bindings and macro parameters are invisible outside.
    (All tasks of the implementation model except the internal assignment phase of `py:with`,
    for which see `frames_restored_binds`.) -/
theorem frames_restored (n : Nat) (t : ITask) (st st' : St) (o : List Event)
    (ht : ∀ bs ds body, t ≠ .binds bs ds body)
    (h : run n t st = .ok (o, st')) : st'.scopes = st.scopes :=
  (ScopesOK_iff ht).1 (run_scopes n t st o st' h)

/-- The assignment phase of `py:with` only touches the frame `py:with` pushed. -/
theorem frames_restored_binds (n : Nat) (bs ds body) (st st' : St) (o : List Event)
    (h : run n (.binds bs ds body) st = .ok (o, st')) : st'.scopes.tail = st.scopes.tail :=
  (run_scopes n _ st o st' h).1

/-- After anything is rendered the choice stack is what it was, except that the matched flag
    of the innermost enclosing `py:choose` may have been set (by a `py:when`/`py:otherwise`). -/
theorem choice_stack_restored (n : Nat) (t : ITask) (st st' : St) (o : List Event)
    (h : run n t st = .ok (o, st')) :
    st'.choice = st.choice ∨
    ∃ c cs, st.choice = c :: cs ∧ c.matched = false ∧ st'.choice = { c with matched := true } :: cs :=
  (run_inv n t st o st' h).1

/-- A `py:choose` (with whatever directives follow it on the element) restores the stack exactly. -/
theorem choose_restores_choice_stack (n : Nat) (e ds body) (st st' : St) (o : List Event)
    (h : run n (.apply (.choose e :: ds) body) st = .ok (o, st')) : st'.choice = st.choice := by
  obtain ⟨v, s1, -, ⟨m, h1⟩, rfl⟩ := IOk.choose_iff.1 ⟨n, h⟩
  exact (run_inv m _ _ _ _ h1).1.tail_eq

/-- A variable of the context data never changes its value, with the single documented
    exception: `py:def` stores the macro under its name (so the name now denotes a macro
    created during this rendering).  Macros are only ever added. -/
theorem outer_variables_kept (n : Nat) (t : ITask) (st st' : St) (o : List Event)
    (h : run n t st = .ok (o, st')) :
    (∃ ms, st'.macros = st.macros ++ ms) ∧
    ∀ x, st'.data.look? x = st.data.look? x ∨
         ∃ i, st.macros.length ≤ i ∧ st'.data.look? x = some (.macro i) :=
  (run_inv n t st o st' h).2

/-- What a name denotes after a directive is what it denoted before it (or a macro defined
    meanwhile): loop, binding and parameter names fall back to their outer value. -/
theorem lookup_after_eq_before (n : Nat) (t : ITask) (st st' : St) (o : List Event)
    (ht : ∀ bs ds body, t ≠ .binds bs ds body)
    (h : run n t st = .ok (o, st')) (x : Name) :
    st'.look x = st.look x ∨ ∃ i, st.macros.length ≤ i ∧ st'.look x = .macro i := by
  have hs := frames_restored n t st st' o ht h
  have hd := (outer_variables_kept n t st st' o h).2 x
  unfold St.look
  rw [hs]
  cases lookFrames st.scopes x with
  | some v => exact Or.inl rfl
  | none =>
    rcases hd with hd | ⟨i, hi, hd⟩
    · exact Or.inl (by simp [hd])
    · exact Or.inr ⟨i, hi, by simp [hd]⟩

/-- Rendering a whole template leaves an empty frame stack and an empty choice stack. -/
theorem render_restores_context (n : Nat) (ns : List TNode) (data : Env) (st' : St) (o : List Event)
    (h : run n (.flat (compileNodes ns)) (St.init data) = .ok (o, st')) :
    st'.scopes = [] ∧ st'.choice = [] := by
  refine ⟨frames_restored n _ _ _ o (by intro _ _ _ hh; cases hh) h, ?_⟩
  rcases choice_stack_restored n _ _ _ o h with h1 | ⟨c, cs, h1, _⟩
  · exact h1
  · simp [St.init] at h1

/-- More fuel never changes an answer of the implementation model (fuel is not an observable). -/
theorem fuel_irrelevant_impl (n m : Nat) (t : ITask) (st : St) (r : IRes)
    (h : run n t st = r) (hr : r ≠ .error .fuel) (hm : n ≤ m) : run m t st = r :=
  run_mono h hr hm

/-- … nor of the documentation semantics. -/
theorem fuel_irrelevant_doc (n m : Nat) (t : DTask) (loc : Env) (st : DSt) (r : DRes)
    (h : doc n t loc st = r) (hr : r ≠ .error .fuel) (hm : n ≤ m) : doc m t loc st = r :=
  doc_mono h hr hm

/-- **Implementation = documentation.**  For every well-formed template (the `py:` attributes of
    one element pairwise distinct, as XML demands; only def/when/otherwise/for/if/choose/with/
    replace in element form, as the parsers demand) and all context data: the documentation
    semantics defines the output `o` iff the implementation model (flat extraction, attach,
    directive chain over frames and choice stack, flatten) renders exactly `o`.
    Both directions are simulations (`sim_agree`) over the state relation
    "scoped environment = concatenated frame stack, globals = bottom frame, innermost choose =
    top of the choice stack, macro tables related through `attach`". -/
theorem impl_eq_doc (ns : List TNode) (data : Env) (o : List Event) (hwf : wfNodes ns = true) :
    (∃ n, docRender n ns data = .ok o) ↔ (∃ m, implRender m ns data = .ok o) := by
  obtain ⟨f, b⟩ := sim_agree (T := .nodes ns) hwf rfl (SimG.init data) trivial
  simp only [docRender_ok, implRender_ok, DOk_iff_Doc, IOk_iff_Run]
  exact ⟨fun ⟨_, h⟩ => (f.of_ok h).imp fun _ => And.left, fun ⟨_, h⟩ => (b.of_ok h).imp fun _ => And.left⟩

/-! Failing renders: when one side fails the other produces no output for any amount of fuel
    (`no_output_when_*`: an answer other than "out of fuel" is final, so a failure and an output of
    the same side cannot both occur), and it fails itself — it terminates with an error
    (`failing_renders_agree`).  The error *class* is not part of the statement: it differs in one
    corner (a `py:when`/`py:otherwise` with an empty body that may not render raises
    RuntimeError from a StopIteration where the message would need a position); the classes
    are compared by the correspondence check on every run. -/

/-- **Failing renders agree.**  The documentation semantics fails on a template and data iff the
    implementation model fails on them (each terminating with an error other than "out of fuel").
    Together with `impl_eq_doc`: on every well-formed template and all data both semantics have
    the same outcome — the same output, or a failure, or neither terminates. -/
theorem failing_renders_agree (ns : List TNode) (data : Env) (hwf : wfNodes ns = true) :
    (∃ n e, docRender n ns data = .error e ∧ e ≠ .fuel) ↔
    (∃ m e, implRender m ns data = .error e ∧ e ≠ .fuel) := by
  obtain ⟨f, b⟩ := sim_agree (T := .nodes ns) hwf rfl (SimG.init data) trivial
  simp only [docRender_err, implRender_err, DErr_iff_Doc, IErr_iff_Run]
  exact ⟨fun ⟨_, h, he⟩ => f.of_err h he, fun ⟨_, h, he⟩ => b.of_err h he⟩

/-- When the documentation semantics fails (an expression raises, a `py:when` stands outside a
    `py:choose`, a macro gets too few arguments, …) the implementation model fails too — it
    terminates with an error, it does not hang or skip the failing evaluation. -/
theorem impl_fails_when_doc_fails (ns : List TNode) (data : Env) (hwf : wfNodes ns = true) (n : Nat)
    (e : Err) (he : e ≠ .fuel) (h : docRender n ns data = .error e) :
    ∃ m e', implRender m ns data = .error e' ∧ e' ≠ .fuel :=
  (failing_renders_agree ns data hwf).1 ⟨n, e, h, he⟩

theorem no_output_when_doc_fails (ns : List TNode) (data : Env) (hwf : wfNodes ns = true) (n : Nat)
    (e : Err) (he : e ≠ .fuel) (h : docRender n ns data = .error e) (m : Nat) (o : List Event) :
    implRender m ns data ≠ .ok o := by
  intro hm
  obtain ⟨d', hd⟩ := docRender_ok.1 ((impl_eq_doc ns data o hwf).2 ⟨m, hm⟩)
  exact DErr.not_ok (docRender_err.1 ⟨n, e, h, he⟩) hd

theorem no_output_when_impl_fails (ns : List TNode) (data : Env) (hwf : wfNodes ns = true) (m : Nat)
    (e : Err) (he : e ≠ .fuel) (h : implRender m ns data = .error e) (n : Nat) (o : List Event) :
    docRender n ns data ≠ .ok o := by
  intro hn
  obtain ⟨st', hs⟩ := implRender_ok.1 ((impl_eq_doc ns data o hwf).1 ⟨n, hn⟩)
  exact IErr.not_ok (implRender_err.1 ⟨m, e, h, he⟩) hs

/-! ### the documented equivalences, on the implementation model

  `IOk t st o st'`: with enough fuel task `t` renders `o` from state `st` and ends in `st'`
  (the answer is independent of the fuel: `fuel_irrelevant_impl`). -/

/-- A false condition removes the element (and whatever else is on it). -/
theorem if_false_removes (e : Expr) (ds : List Dir) (body : List CEv) (st : St) (v : Val)
    (hv : eval st.look e = .ok v) (hf : v.truthy = false) :
    IOk (.apply (.if_ e :: ds) body) st [] st :=
  IOk_iff_Run.2 (Run_if_false hv hf)

/-- A true condition is transparent. -/
theorem if_true_transparent (e : Expr) (ds : List Dir) (body : List CEv) (st st' : St) (v : Val)
    (o : List Event) (hv : eval st.look e = .ok v) (ht : v.truthy = true) :
    IOk (.apply (.if_ e :: ds) body) st o st' ↔ IOk (.apply ds body) st o st' :=
  IOk.congr (Run_if_true hv ht)

/-- A loop equals its unrolled body, one copy per item with the loop variable bound by `py:with`. -/
theorem for_eq_unrolled (v : Name) (e : Expr) (ds : List Dir) (body : List CEv) (st st' : St)
    (o : List Event) (it : Val) (items : List Val)
    (he : eval st.look e = .ok it) (hi : iterItems it = .ok items) :
    IOk (.apply (.for_ v e :: ds) body) st o st' ↔ IOk (.flat (unroll v items ds body)) st o st' :=
  IOk.congr (Run_for_unrolled he hi)

/-- Of the branches of a choose only the first matching `py:when` is rendered: the earlier ones
    (tests false) and all later ones (tests not even evaluated) contribute nothing. -/
theorem choose_first_match_only (pre post : List Branch) (b : Branch) (st st' : St) (o : List Event)
    (c : Choice) (cs : List Choice) (hc : st.choice = c :: cs) (hm : c.matched = false)
    (hpre : ∀ p ∈ pre, whenMatches st.look c p.1 = .ok false)
    (hb : whenMatches st.look c b.1 = .ok true) :
    IOk (.flat ((pre ++ b :: post).map branchEv)) st o st' ↔
      IOk (.apply b.2.1 b.2.2) (st.setMatched c cs true) o st' :=
  IOk.congr (Run_choose_first pre post b hc hm hpre hb)

/-- Attribute form = element form, control directives (when/otherwise/for/if/choose/with): nested
    directive elements in the documented order around the element (which keeps `stay` as
    attributes) render exactly as the same directives written as attributes — same output
    *and the very same state* afterwards.  (`py:def` included: `attr_form_eq_elem_form` below.) -/
theorem attr_form_eq_elem_form_ctl (pre stay : List Dir) (tag : Name) (attrs : List (Name × Str))
    (kids : List TNode) (hpre : ∀ d ∈ pre, d.ctl = true) (hs : StrictSorted (pre ++ stay))
    (st st' : St) (o : List Event) :
    IOk (.flat (compileNode (nestNodes pre (.elem tag attrs stay kids)))) st o st' ↔
      IOk (.flat (compileNode (.elem tag attrs (pre ++ stay) kids))) st o st' := by
  obtain ⟨ds, b, hL, hR⟩ := compile_nest_elem (fun d hd => Dir.ctl_ctlDef (hpre d hd)) hs tag attrs kids
  rw [hL, hR, nested_eq_chain pre hpre]
  exact IOk.mkSub_iff.symm

/-- **The stored form of a macro is unobservable.**  `StRel a b`: the states agree except that
    a macro may be stored as a directive chain over the element's sub-stream in one and as nested
    SUB events in the other (what `py:def` stores for the attribute form and for the element
    form).  Every task renders the same output from related states and ends in related states. -/
theorem macro_representation_irrelevant (T : ITask) (st st' s1 : St) (o : List Event)
    (h : IOk T st o s1) (hr : StRel st st') : ∃ s1', IOk T st' o s1' ∧ StRel s1 s1' :=
  param h hr

/-- **Attribute form = element form, all directives with an element form** (def, when, otherwise,
    for, if, choose, with; any number, nested in the documented order; the element keeps `stay`
    — content/attrs/strip, or anything else — as attributes).  From related states (in particular
    from the same state) both forms render the same output and end in related states, i.e.
    states no later rendering can tell apart (`macro_representation_irrelevant`): the only
    difference is how a `py:def` among the directives stored its macro. -/
theorem attr_form_eq_elem_form (pre stay : List Dir) (tag : Name) (attrs : List (Name × Str))
    (kids : List TNode) (hpre : ∀ d ∈ pre, d.ctlDef = true) (hs : StrictSorted (pre ++ stay))
    (st st' : St) (hr : StRel st st') (o : List Event) (s1 : St) :
    (IOk (.flat (compileNode (nestNodes pre (.elem tag attrs stay kids)))) st o s1 →
      ∃ s1', IOk (.flat (compileNode (.elem tag attrs (pre ++ stay) kids))) st' o s1' ∧ StRel s1 s1') ∧
    (IOk (.flat (compileNode (.elem tag attrs (pre ++ stay) kids))) st o s1 →
      ∃ s1', IOk (.flat (compileNode (nestNodes pre (.elem tag attrs stay kids)))) st' o s1' ∧ StRel s1 s1') := by
  obtain ⟨ds, b, hL, hR⟩ := compile_nest_elem hpre hs tag attrs kids
  rw [hL, hR]
  constructor
  · intro h
    obtain ⟨s1', r, g⟩ := chain_of_nest hpre h hr
    exact ⟨s1', IOk.mkSub_iff.2 r, g⟩
  · intro h
    exact nest_of_chain hpre (IOk.mkSub_iff.1 h) hr

/-- `py:replace` = `py:content` + `py:strip`, with control directives before it: same output and
    the identical state (iff).  With `py:def` among them: `replace_eq_content_strip`; with
    `py:attrs` on the element the two are not equivalent: `replace_refines_content_strip_attrs`. -/
theorem replace_eq_content_strip_ctl (pre : List Dir) (x : XExpr) (tag : Name)
    (attrs : List (Name × Str)) (kids : List TNode) (hpre : ∀ d ∈ pre, d.ctl = true)
    (hs1 : StrictSorted (pre ++ [.replace x])) (hs2 : StrictSorted (pre ++ [.content x, .strip none]))
    (st st' : St) (o : List Event) :
    IOk (.flat (compileNode (.elem tag attrs (pre ++ [.replace x]) kids))) st o st' ↔
      IOk (.flat (compileNode (.elem tag attrs (pre ++ [.content x, .strip none]) kids))) st o st' := by
  have hp := fun d hd => Dir.ctl_ctlDef (hpre d hd)
  rw [compile_elem_prefix hp hs1, compile_elem_prefix hp hs2, attach_content, IOk.mkSub_iff, IOk.mkSub_iff]
  exact apply_prefix_congr pre hpre (replace_tail_eq x tag attrs) st o st'

/-! ### known finding C04-direlem-attrs: a `py:` attribute on a directive element

  `<py:if test="1" py:strip=""><b>x</b></py:if>`: the template AST (and with it `impl_eq_doc`)
  covers directive elements *without* further `py:` attributes.  The parsed stream below is
  that template; the flat extraction pass removes the directive element's own START/END
  (`substream[1:-1]`) before the attribute directive runs, so `py:strip` strips the first child
  element instead: the model renders `x`, where the documented order (strip applies to the
  element it is written on, which is not output anyway) gives `<b>x</b>`. -/

private def direlemStream : List PEv :=
  [.start (pyTag (.if_ (.lit (.atom (.int 1))))) [] [.strip none] (some (.if_ (.lit (.atom (.int 1))))),
   .start (plainTag ['b']) [] [] none, .text ['x'], .end_ (plainTag ['b']),
   .end_ (pyTag (.if_ (.lit (.atom (.int 1)))))]

private def direlemDoc : List TNode :=
  [.delem (.if_ (.lit (.atom (.int 1)))) [.elem ['b'] [] [] [.text ['x']]]]

/-- The model mirrors the defect: implementation on the parsed stream ≠ documentation. -/
theorem direlem_attrs_witness :
    (run 50 (.flat (toCEvs (prepareRs (extractFlat direlemStream)))) (St.init [])).toOption.map (·.1)
      = some [tx ['x']] ∧
    docRender 50 direlemDoc [] = .ok [startEv ['b'] [], tx ['x'], endEv ['b']] := by
  constructor <;> rfl

/-- **`py:replace` = `py:content` + `py:strip`** after any of def/when/otherwise/for/if/choose/with
    on the same element: from related states (in particular the same state) both render the same
    output and end in related, i.e. indistinguishable, states (a `py:def` among the directives
    stores the macro in the two forms; `macro_representation_irrelevant`). -/
theorem replace_eq_content_strip (pre : List Dir) (x : XExpr) (tag : Name) (attrs : List (Name × Str))
    (kids : List TNode) (hpre : ∀ d ∈ pre, d.ctlDef = true)
    (hs1 : StrictSorted (pre ++ [.replace x])) (hs2 : StrictSorted (pre ++ [.content x, .strip none]))
    (st st' : St) (hr : StRel st st') (o : List Event) (s1 : St) :
    (IOk (.flat (compileNode (.elem tag attrs (pre ++ [.replace x]) kids))) st o s1 →
      ∃ s1', IOk (.flat (compileNode (.elem tag attrs (pre ++ [.content x, .strip none]) kids))) st' o s1' ∧
        StRel s1 s1') ∧
    (IOk (.flat (compileNode (.elem tag attrs (pre ++ [.content x, .strip none]) kids))) st o s1 →
      ∃ s1', IOk (.flat (compileNode (.elem tag attrs (pre ++ [.replace x]) kids))) st' o s1' ∧
        StRel s1 s1') := by
  simp only [compile_elem_prefix hpre hs1, compile_elem_prefix hpre hs2, attach_content, IOk.mkSub_iff]
  exact ⟨fun h => tail_pair hpre (BasePair.repl x tag attrs) h hr,
    fun h => tail_pair hpre (BasePair.unrepl x tag attrs) h hr⟩

/-- With `py:attrs` on the same element the two are not equivalent (content + strip keeps the
    element alive for `py:attrs`, whose expression may fail; `py:replace` never evaluates it), but
    `py:replace` refines `py:content` + `py:strip`: whenever the latter renders, the former renders
    the same output and ends in the same state. -/
theorem replace_refines_content_strip_attrs (pre : List Dir) (x : XExpr) (e : Expr) (tag : Name)
    (attrs : List (Name × Str)) (kids : List TNode) (hpre : ∀ d ∈ pre, d.ctl = true)
    (hs1 : StrictSorted (pre ++ [.replace x, .attrs e]))
    (hs2 : StrictSorted (pre ++ [.content x, .attrs e, .strip none]))
    (st st' : St) (o : List Event)
    (h : IOk (.flat (compileNode (.elem tag attrs (pre ++ [.content x, .attrs e, .strip none]) kids))) st o st') :
    IOk (.flat (compileNode (.elem tag attrs (pre ++ [.replace x, .attrs e]) kids))) st o st' := by
  have hp := fun d hd => Dir.ctl_ctlDef (hpre d hd)
  rw [compile_elem_prefix hp hs2, attach_content, IOk.mkSub_iff] at h
  rw [compile_elem_prefix hp hs1, IOk.mkSub_iff]
  exact apply_prefix_imp pre hpre (replace_attrs_tail_imp x e tag attrs) st o st' h

private def c (s : String) : List Char := s.toList

/-- `<a py:for="x in xs" py:if="x">${x}</a>${x}` over xs=[0,2], x='o' -/
private def ex1 : List TNode :=
  [.elem ['a'] [] [.if_ (.var ['x']), .for_ ['x'] (.var ['x', 's'])] [.expr (.pure (.var ['x']))],
   .expr (.pure (.var ['x']))]
private def ex1data : Env :=
  [(['x', 's'], .list [.int 0, .int 2]), (['x'], .atom (.str ['o']))]

example : implRender 100 ex1 ex1data =
    .ok [startEv ['a'] [], tx ['2'], endEv ['a'], tx ['o']] := by rfl

example : docRender 100 ex1 ex1data = implRender 100 ex1 ex1data := by rfl
example : wfNodes ex1 = true := by decide +kernel

example : textNodes [.delem (.for_ ['x'] (.var ['x', 's'])) [.text ['a'], .delem (.if_ (.var ['x'])) [.expr (.pure (.var ['x']))]]] = true := by
  decide +kernel

private def exSt0 : St := St.init [(['x', 's'], .list [.int 1, .int 2])]

private def exPre : List Dir := [.for_ ['x'] (.var ['x', 's']), .if_ (.var ['x']), .with_ [(['y'], .var ['x'])]]

/-- the hypotheses of the equivalence theorems are satisfiable on non-trivial inputs -/
example : (∀ d ∈ exPre, d.ctl = true) ∧ StrictSorted (exPre ++ [.attrs (.var ['w']), .strip none]) ∧
    StrictSorted (exPre ++ [.replace (.pure (.var ['y']))]) ∧
    StrictSorted (exPre ++ [.content (.pure (.var ['y'])), .strip none]) ∧
    StrictSorted (exPre ++ [.replace (.pure (.var ['y'])), .attrs (.var ['w'])]) ∧
    StrictSorted (exPre ++ [.content (.pure (.var ['y'])), .attrs (.var ['w']), .strip none]) := by
  unfold StrictSorted
  decide +kernel

/-- … also with a `py:def` among the nested directives (`attr_form_eq_elem_form`) -/
example : (∀ d ∈ Dir.def_ ['f'] [(['p'], some (.lit (.atom (.int 1))))] :: exPre, d.ctlDef = true) ∧
    StrictSorted ((Dir.def_ ['f'] [(['p'], some (.lit (.atom (.int 1))))] :: exPre) ++ [.attrs (.var ['w']), .strip none]) ∧
    StRel exSt0 exSt0 := by
  refine ⟨by decide, ?_, StRel.refl _⟩
  unfold StrictSorted
  decide +kernel

/-- `py:choose` with two `py:when`: the first does not match, the second does -/
private def exSt : St := ⟨[], [(['x'], .atom (.int 2))], [⟨false, true, .atom (.int 2)⟩], []⟩

example : whenMatches exSt.look ⟨false, true, .atom (.int 2)⟩ (some (.lit (.atom (.int 1)))) = .ok false ∧
    whenMatches exSt.look ⟨false, true, .atom (.int 2)⟩ (some (.var ['x'])) = .ok true := by
  constructor <;> rfl

example : IOk (.apply (.if_ (.lit (.atom (.int 0))) :: exPre) [.text ['t']]) exSt [] exSt :=
  if_false_removes _ _ _ _ (.atom (.int 0)) rfl rfl

/-- the documentation semantics is defined (does not fail) on the running example, so
    `impl_eq_doc` speaks about it -/
example : ∃ o, docRender 100 ex1 ex1data = .ok o := ⟨_, rfl⟩

section Scanners
open Genshi.Tmpl.Scan

/-- The flags of the compiled expressions (regenerated from the code on every run) are the ones
    the documented syntax needs: a directive or comment may span lines (DOTALL), an old-syntax
    directive occupies one line (`^` at every line start, `.` stops at the line feed). -/
theorem regex_flags_documented :
    Gen.TextScan.newDotall = true ∧ Gen.TextScan.oldMultiline = true ∧ Gen.TextScan.oldDotall = false ∧
    Gen.TextScan.oldBlank = [9, 32] := by decide

/-- **Losslessness (new syntax).**  For every source text the scanner is total and the source
    texts of its tokens (text segments, `{%…%}`, `{#…#}`) concatenate to the input: no character of
    the template is dropped or duplicated. -/
theorem scan_new_lossless (s : List Char) : (scanNew s).flatMap RTok.src = s := scanNew_lossless s

/-- **Losslessness (old syntax)**: text segments and directive lines concatenate to the input. -/
theorem scan_old_lossless (s : List Char) : (scanOld s).flatMap OTok.src = s := scanOld_lossless s

/-- **Printer round trip (new syntax).**  Every well-formed token list (non-empty maximal texts;
    `{% word value %}` whose value holds no `%}` and has no blanks at its ends; comments without
    `#}`; no text ending in a backslash in front of a delimiter), printed with the documented
    escapes, is scanned to itself: every documented construct is reachable and means itself. -/
theorem scan_new_print_roundtrip (ts : List CTok) (wf : WF ts) :
    (scanNew (printNew ts)).map cook = ts := scan_print wf

private def exToks : List CTok :=
  [.text ['a', '\\', '{', '%', '\n'], .dir ['i', 'f'] ['x', ' ', '%', ' ', '2'], .text ['b', '{'],
   .dir ['e', 'n', 'd'] [], .comment [' ', '{', '%', '#', ' '], .text ['\\']]

private theorem word_i : Genshi.San.isReWord 'i' = true := by decide +kernel
private theorem word_f : Genshi.San.isReWord 'f' = true := by decide +kernel
private theorem word_e : Genshi.San.isReWord 'e' = true := by decide +kernel
private theorem word_n : Genshi.San.isReWord 'n' = true := by decide +kernel
private theorem word_d : Genshi.San.isReWord 'd' = true := by decide +kernel
private theorem space_x : Genshi.San.isReSpace 'x' = false := by decide
private theorem space_2 : Genshi.San.isReSpace '2' = false := by decide

/-- the hypothesis of the round trip is satisfiable on a list with escapes, a multi-word value,
    a comment holding a start delimiter and a trailing backslash -/
example : WF exToks := by
  have okIf : OkDir ['i', 'f'] ['x', ' ', '%', ' ', '2'] := by
    refine ⟨by simp, ?_, by decide, ?_, ?_⟩
    · intro c hc; simp at hc; rcases hc with rfl | rfl
      · exact word_i
      · exact word_f
    · intro c hc; simp at hc; subst hc; exact space_x
    · intro c hc; simp at hc; subst hc; exact space_2
  have okEnd : OkDir ['e', 'n', 'd'] [] := by
    refine ⟨by simp, ?_, by decide, ?_, ?_⟩
    · intro c hc; simp at hc; rcases hc with rfl | rfl | rfl
      · exact word_e
      · exact word_n
      · exact word_d
    · intro c hc; simp at hc
    · intro c hc; simp at hc
  simp only [exToks, WF, OkTok]
  and_intros
  all_goals first
    | exact okIf
    | exact okEnd
    | trivial
    | decide
    | (intro s hs u hu; simp at hs hu; subst hs; subst hu; exact ⟨rfl, by decide⟩)
    | (intro s hs u hu; simp at hu; done)
    | (intro s hs; simp at hs; done)
    | simp

example : printNew exToks = cs!"a\\\\\\{%\n{% if x % 2 %}b{{% end %}{# {%# #}\\\\" := by decide +kernel

/-- **Text reaches the stream verbatim, modulo the documented escapes.**  A template that is the
    escaped form of a non-empty text without `$` (backslashes doubled, a backslash in front of
    every `{%` / `{#`) parses to exactly one TEXT event carrying that text; a text that needs no
    escape is its own template. -/
theorem text_reaches_stream_escaped (s : List Char) (hne : s ≠ []) (h : ∀ c ∈ s, c ≠ '$') :
    parseNew (escapeNew s) = .ok [.text s] ∧ (plainNew s = true → parseNew s = .ok [.text s]) :=
  ⟨parseNew_escaped hne h, parseNew_plain hne h⟩

/-- **Old syntax.**  A template that is the escaped form of a non-empty text without `$` (a backslash
    in front of every `#`) parses to exactly one TEXT event carrying that text: no line of it is
    taken for a directive or comment line, every escape is undone. -/
theorem text_reaches_stream_escaped_old (s : List Char) (hne : s ≠ []) (h : ∀ c ∈ s, c ≠ '$') :
    parseOld (escapeOld s) = .ok [.text s] := parseOld_escaped hne h

example : escapeOld cs!"a\n#if x\n  ## c\n" = cs!"a\n\\#if x\n  \\#\\# c\n" := by decide +kernel
example : parseOld cs!"a\n\\#if x\n  \\#\\# c\n" = .ok [.text cs!"a\n#if x\n  ## c\n"] := by rfl

/-- … and a TEXT event is rendered as itself (`_flatten`), whatever the data. -/
theorem text_reaches_output_verbatim (s : List Char) (data : Env) (fuel : Nat) :
    implRender (fuel + 2) [.text s] data = .ok [tx s] := by
  simp [implRender, compileNodes, compileNode, run, seq, bind, Except.bind, pure, Except.pure]

example : parseNew cs!"a\\{% b \\\\ %}\n" = .ok [.text cs!"a{% b \\ %}\n"] := by rfl

/-- **Printer round trip (old syntax), the two line-level cases.**  For all texts around them:
    (1) a directive or comment line at a line start (start of the template or behind a line feed) is
    scanned as *one* token carrying exactly its blanks and its body, and scanning goes on at the
    line start behind it; (2) `lstrip()[1:].split(None, 1)` of such a line gives back the command and
    the value (with the line feed the old syntax leaves on it).  With
    `text_reaches_stream_escaped_old` (escaped text holds no directive line and is undone by the
    unescape) these are the cases of the induction over token lists, which is
    `scan_old_print_roundtrip` below. -/
theorem scan_old_line_roundtrip_partial :
    (∀ (b line rest acc : List Char) (c0 p : Char) (first : Bool), (∀ c ∈ b, isBlank c = true) →
      (Genshi.San.isReWord c0 = true ∨ c0 = '#') → (∀ c ∈ c0 :: line, c ≠ '\n') → (first = true ∨ p = '\n') →
      scanOldGo 0 first p acc (b ++ '#' :: c0 :: (line ++ '\n' :: rest)) =
        flushOld acc ++ OTok.line b (c0 :: (line ++ ['\n'])) :: scanOldGo 0 false '\n' [] rest) ∧
    (∀ (b cmd val : List Char), (∀ c ∈ b, isBlank c = true) → (∀ c ∈ cmd, Genshi.San.isSpace c = false) → cmd ≠ [] →
      (∀ c, val.head? = some c → Genshi.San.isSpace c = false) → val ≠ [] →
      splitLine b (cmd ++ ' ' :: (val ++ ['\n'])) = (cmd, some (val ++ ['\n']))) :=
  ⟨fun b line rest acc c0 p first hb hc hl hs => scanOld_line b line rest acc c0 p first hb hc hl hs,
   fun b cmd val hb hc hne hv hvne => splitLine_print b cmd val hb hc hne hv hvne⟩

example : scanOld cs!"  #if x\nb\n" = [.line cs!"  " cs!"if x\n", .text cs!"b\n"] ∧
    splitLine cs!"  " cs!"if x\n" = (cs!"if", some cs!"x\n") := by decide +kernel

/-- **Interpolation composed with the scanner.**  In a plain text template `pre ${inner} post` (no
    backslash or start delimiter anywhere, no `$` in `pre` / `post`) the parsed stream is the text
    before, one EXPR event whose source is exactly `inner` and the text after, for every scannable
    `inner` (C03's `lex_expr`: string literals holding braces, braces nested to any depth). -/
theorem expression_boundaries_text_template (pre inner post : List Char)
    (hpre : ∀ c ∈ pre, c ≠ '$') (hpost : ∀ c ∈ post, c ≠ '$')
    (hi : Genshi.Py.Lex.Scannable inner) (hin : inner ≠ [])
    (hp : plainNew (pre ++ '$' :: '{' :: (inner ++ '}' :: post)) = true)
    (hm : Genshi.Py.Lex.unmodelled (pre ++ '$' :: '{' :: (inner ++ '}' :: post)) = false) :
    parseNew (pre ++ '$' :: '{' :: (inner ++ '}' :: post)) =
      .ok (flushBuf pre ++ [.expr (Genshi.Py.Lex.stripAscii inner)] ++ flushBuf post) :=
  parseNew_expr pre inner post hpre hpost hi hin hp hm

example : Genshi.Py.Lex.Scannable cs!"x" ∧ plainNew cs!"a ${x}!" = true ∧ Genshi.Py.Lex.unmodelled cs!"a ${x}!" = false :=
  ⟨.word 'x' [] (by decide) .nil, by decide, by decide⟩
example : parseNew cs!"a ${x}!" = .ok [.text cs!"a ", .expr cs!"x", .text cs!"!"] := by rfl

end Scanners

section Inversion
open Genshi.Tmpl.Print Genshi.Tmpl.Raw Genshi.Tmpl.Scan

/-- **The tokenizer inverts the token printer**, for every list of tokens the tokenizer can produce
    (identifiers, numbers, string literals without quote / backslash / line feed, the symbols, `==`):
    written with a blank where the documented layout has one or where two tokens would run together
    (`sep`), the list is tokenized to itself. -/
theorem tokenize_print_roundtrip (ts : List MTok) (h : ts.all tokOk = true) : tokenize (toksSrc ts) = some ts :=
  tokenize_print ts h

example : toksSrc [.sym '(', .name cs!"x", .eqeq, .sym '(', .sym '-', .int 12, .sym ')', .sym ')'] = cs!"(x == (-12))" := by
  decide +kernel

/-- **The reader inverts the layout of the mini language**: expressions (names, None/True/False,
    integers, strings, list and dict literals, `==`, `not`, `len`, indexing — nested in any way),
    `${…}` sources (an expression or a macro call with positional and keyword arguments) and the value
    of every text-template directive (`def` with parameters and defaults, `for`, `if`, `when`, `choose`,
    `otherwise`, `with`) are read back from their printed source, under either lookup mode. -/
theorem reader_inverts_layout (st : Bool) :
    (∀ e, exprOk st e = true → readExpr st (exprSrc e) = some e) ∧
    (∀ x, xexprOk st x = true → readXExpr st (xexprSrc x) = some x) ∧
    (∀ d, dirOk st d = true → readDir st d.name (dirSrc d) = some d) :=
  ⟨readExpr_print st, readXExpr_print st, readDir_print st⟩

/-- **`interpolate` on any number of pieces** (what `expression_boundaries_text_template` says of one expression
    between two texts, for `interpolate` instead of `parseNew`):
    a run of non-empty `$`-free texts (never two in a row) and `${…}` expressions with scannable,
    non-empty sources without blanks at their ends (`SegOK`: `stripAscii s = s`) is cut into exactly these pieces. -/
theorem interpolate_any_number_of_pieces (ps : List (Bool × List Char)) (h : SegOK ps)
    (hm : Genshi.Py.Lex.unmodelled (segSrc ps) = false) : interpolate (segSrc ps) = .ok (ps.map pieceEv) :=
  interpolate_seg ps h hm

/-- **Inversion of the text-template reader, on token lists.**  Every list of template tokens
    (texts without backslash / `$` / `{`, never two in a row; `${…}`; `{% directive %}`; `{% end %}` —
    balanced or not) that satisfies the decidable side condition `ttoksOk`, printed in the new text
    syntax, is read back — scanner, `_escape_re`, `interpolate` over `lex`, tokenizer, reader of
    expressions and directive values — to exactly the list it was printed from.  (`hm`: the printed
    text is inside the domain of the C03 lexer model: ASCII, no triple quotes.) -/
theorem raw_print_roundtrip_tokens (st : Bool) (ts : List TTok) (h : ttoksOk st ts = true)
    (hm : Genshi.Py.Lex.unmodelled (ttoksNew ts) = false) : rawToks false st (ttoksNew ts) = .ok ts :=
  rawToks_print_flat st ts h hm

/-- **Inversion of the text-template reader.**  For every text-template AST satisfying the
    decidable side condition `nodesOk` (maximal non-empty texts without backslash / `$` / `{`;
    identifiers that are not words of the mini language; string literals without quote, backslash,
    line feed, `%`, `#`; directives of the text languages; `with` with at least one binding; parameters
    with defaults last, keyword arguments last): the source text printed from the AST is read back to
    the token form of the AST — `rawToks (print ns) = toTokss ns`. -/
theorem raw_print_roundtrip (st : Bool) (ns : List TNode) (h : nodesOk st ns = true)
    (hm : Genshi.Py.Lex.unmodelled (nodesNew ns) = false) : rawToks false st (nodesNew ns) = .ok (toTokss ns) :=
  rawToks_print st ns h hm

/-- `impl_eq_doc` about any source, of either syntax, that reads to the tokens of a well-formed text-template AST -/
theorem source_eq_doc_of_rawToks {old st : Bool} {src : List Char} {ns : List TNode}
    (hr : rawToks old st src = .ok (toTokss ns)) (hk : textNodes ns = true ∧ wfNodes ns = true)
    (data : Env) (o : List Event) :
    (∃ n, docRender n ns data = .ok o) ↔ (∃ m, renderRaw m old st src data = .ok (.ok o)) := by
  rw [impl_eq_doc ns data o hk.2]
  simp only [renderRaw_of_rawToks hr hk.1, Except.ok.injEq]

/-- **`impl_eq_doc` as a statement about template source text.**  For every such AST and all data:
    the documentation semantics defines the output `o` of the AST iff the template *source*, read
    and compiled from its characters (`renderRaw`: scanner, escapes, `lex`/`interpolate`, reader,
    token loop, `_prepare`, `_flatten` with the directive chain), renders exactly `o`:
    `render (parse (print ast)) = doc ast`. -/
theorem source_text_eq_doc (st : Bool) (ns : List TNode) (data : Env) (o : List Event)
    (h : nodesOk st ns = true) (hm : Genshi.Py.Lex.unmodelled (nodesNew ns) = false) :
    (∃ n, docRender n ns data = .ok o) ↔ (∃ m, renderRaw m false st (nodesNew ns) data = .ok (.ok o)) :=
  source_eq_doc_of_rawToks (rawToks_print st ns h hm) (nodesOk_text st ns h) data o

/-- **The raw token loop commutes with reading.**  Whenever a source can be read into tokens, the
    stream `NewTextTemplate._parse` builds from the raw (command, value) pairs (`parseNew`: depth
    counter, `dirmap`, SUB events carrying command and value *strings*), read event by event, is the
    stream `textParse` builds from the read tokens — the loop all run-time theorems are about. -/
theorem raw_loop_commutes (st : Bool) (src : List Char) (toks : List TTok)
    (h : rawToks false st src = .ok toks) :
    ∃ evs, parseNew src = .ok evs ∧ ReadEvs st evs (textParse toks) :=
  parseNew_commutes st src toks h

/-- a template with a loop, a macro with a default, calls by position and by keyword (None) -/
private def exInv : List TNode :=
  [.text cs!"a 50% ",
   .delem (.def_ cs!"f" [(cs!"x", none), (cs!"p", some (.lit (.atom (.str cs!"Z"))))])
     [.expr (.pure (.var cs!"x")), .text cs!".", .expr (.pure (.eq (.var cs!"p") (.lit (.atom .none))))],
   .delem (.for_ cs!"it" (.lit (.list [.int 1, .int (-2)])))
     [.expr (.call (.var cs!"f") [(none, .ix (.var cs!"d") (.lit (.atom (.str cs!"k")))), (some cs!"p", .lit (.atom .none))]),
      .text cs!", "],
   .expr (.pure (.len (.lit (.dict [(cs!"k", .bool true)]))))]

example : nodesNew exInv =
    cs!"a 50% {% def f(x, p='Z') %}${x}.${(p == None)}{% end %}{% for it in [1, (-2)] %}${f(d['k'], p=None)}, {% end %}${len({'k': True})}" := by
  decide +kernel

private theorem exInv_ok : nodesOk false exInv = true ∧ Genshi.Py.Lex.unmodelled (nodesNew exInv) = false := by
  decide +kernel

example : nodesOk false exInv = true ∧ Genshi.Py.Lex.unmodelled (nodesNew exInv) = false := exInv_ok

example : rawToks false false (nodesNew exInv) = .ok (toTokss exInv) :=
  raw_print_roundtrip false exInv exInv_ok.1 exInv_ok.2

/-- **Printer round trip (old syntax)**, for whole token lists (the induction over the cases of
    `scan_old_line_roundtrip_partial`).
    Every well-formed old-syntax token list (non-empty maximal texts; directive / comment lines
    `[blanks]#body` whose body starts with a word character or `#` and holds no line feed; a text in
    front of a line ends with a line feed), printed with `\#` for every `#` of a text, is scanned to
    itself: `(scanOld (printOld ts)).map cookOld = ts`. -/
theorem scan_old_print_roundtrip (ts : List OCTok) (wf : WFOld ts) : (scanOld (printOld ts)).map cookOld = ts :=
  Genshi.Tmpl.Scan.scan_old_print_roundtrip ts wf

example : printOld [.text cs!"a#b\n", .line cs!" \t" cs!"if x", .line [] cs!"# note", .text cs!"z "] =
    cs!"a\\#b\n \t#if x\n## note\nz " := by decide +kernel

/-- **Inversion of the reader, old syntax, on token lists**: under `ttoksOkOld` (= `ttoksOk`, no `#`
    in texts, and the line discipline `lineStarts`: a directive line starts the template or follows a
    directive line or a text that ends with a line feed). -/
theorem raw_print_roundtrip_tokens_old (st : Bool) (ts : List TTok) (h : ttoksOkOld st ts = true)
    (hm : Genshi.Py.Lex.unmodelled (ttoksOld ts) = false) : rawToks true st (ttoksOld ts) = .ok ts :=
  rawToks_print_flat_old st ts h hm

/-- **Inversion of the reader, old syntax**: `rawToks (print ns) = toTokss ns` for every text-template
    AST with `nodesOkOld` (the scanner with `^` at line starts, `\#`, `lstrip()[1:].split(None, 1)`, the
    value keeping its line feed, tokenizer, reader). -/
theorem raw_print_roundtrip_old (st : Bool) (ns : List TNode) (h : nodesOkOld st ns = true)
    (hm : Genshi.Py.Lex.unmodelled (nodesOld ns) = false) : rawToks true st (nodesOld ns) = .ok (toTokss ns) :=
  rawToks_print_old st ns h hm

/-- `impl_eq_doc` about the source text of an old-syntax template. -/
theorem source_text_eq_doc_old (st : Bool) (ns : List TNode) (data : Env) (o : List Event)
    (h : nodesOkOld st ns = true) (hm : Genshi.Py.Lex.unmodelled (nodesOld ns) = false) :
    (∃ n, docRender n ns data = .ok o) ↔ (∃ m, renderRaw m true st (nodesOld ns) data = .ok (.ok o)) :=
  source_eq_doc_of_rawToks (rawToks_print_old st ns h hm) (nodesOk_text st ns (nodesOk_of_old h)) data o

private def exInvOld : List TNode :=
  [.text cs!"a 50%\n",
   .delem (.def_ cs!"f" [(cs!"x", none), (cs!"p", some (.lit (.atom (.str cs!"Z"))))])
     [.expr (.pure (.var cs!"x")), .text cs!".\n"],
   .delem (.choose none) [.delem (.when (some (.var cs!"w"))) [.text cs!"b\n"], .delem .otherwise []],
   .expr (.call (.var cs!"f") [(none, .lit (.atom (.int 1))), (some cs!"p", .lit (.atom .none))])]

example : nodesOld exInvOld =
    cs!"a 50%\n#def f(x, p='Z')\n${x}.\n#end\n#choose\n#when w\nb\n#end\n#otherwise\n#end\n#end\n${f(1, p=None)}" := by
  decide +kernel

private theorem exInvOld_ok :
    nodesOkOld false exInvOld = true ∧ Genshi.Py.Lex.unmodelled (nodesOld exInvOld) = false := by
  decide +kernel

example : nodesOkOld false exInvOld = true ∧ Genshi.Py.Lex.unmodelled (nodesOld exInvOld) = false := exInvOld_ok

example : rawToks true false (nodesOld exInvOld) = .ok (toTokss exInvOld) :=
  raw_print_roundtrip_old false exInvOld exInvOld_ok.1 exInvOld_ok.2

end Inversion

section Delimiters
open Genshi.Tmpl.Scan Genshi.Tmpl.ScanD

/-- At the default delimiters the scanner and the unescape parameterised by the four delimiter
    strings ARE the ones every other theorem is about. -/
theorem scan_delims_default (s : List Char) : scanD dflt s = scanNew s ∧ unescapeD dflt s = unescapeNew s :=
  ⟨scanD_default s, unescapeD_default s⟩

/-- **Losslessness for all delimiters** inside the side condition `Delims.ok` (indeed whenever the two
    comment delimiters are not both empty: `scanD_lossless`; with both empty it is false:
    `scanD_lossless_needs_hyp`): the source texts of the tokens concatenate to the input. -/
theorem scan_delims_lossless (d : Delims) (h : d.ok = true) (s : List Char) : (scanD d s).flatMap (srcD d) = s :=
  scanD_lossless_of_ok d h s

/-- **Printed constructs are scanned as themselves, for all delimiter choices** with `Delims.ok`
    (non-empty delimiters; the directive end starts with a character that is neither `\w` nor `\s`).
    Full statement (open): `(scanD d (printD d ts)).map (cookD d) = ts` for every well-formed token list
    (needs in addition that no end delimiter ends in a backslash, and the text case with `escapeD`).
    Proved here, whatever surrounds them: (1) a printed directive `SD cmd value ED` whose value does not
    hold the end delimiter early (`OkDirD`) at a position not behind a backslash is exactly one token
    with that command and value, and scanning resumes behind it; (2) the same for a printed comment
    when the comment start is not also a directive start. -/
theorem scan_delims_print_roundtrip_partial (d : Delims) (hd : d.ok = true) :
    (∀ (cmd val : List Char), OkDirD d cmd val → ∀ (p : Char), p ≠ '\\' → ∀ (acc rest : List Char),
      scanDGo d 0 p acc (printDTok d (.dir cmd val) ++ rest) =
        flushText acc ++ RTok.dir (dirInner cmd val) cmd val ::
          scanDGo d 0 (lastCh p (printDTok d (.dir cmd val))) [] rest) ∧
    (∀ (b : List Char), NoOcc d.ec b → (∀ y, dropPrefix? d.sd (d.sc ++ y) = none) → ∀ (p : Char), p ≠ '\\' →
      ∀ (acc rest : List Char),
      scanDGo d 0 p acc (printDTok d (.comment b) ++ rest) =
        flushText acc ++ RTok.comment b :: scanDGo d 0 (lastCh p (printDTok d (.comment b))) [] rest) :=
  ⟨fun _ _ ok p hp acc rest => scanDGo_printed_dir d hd ok p hp acc rest,
   fun _ h hsep p hp acc rest => scanDGo_printed_comment' d hd h hsep p hp acc rest⟩

example : (⟨cs!"<<", cs!">>", cs!"<#", cs!"#>"⟩ : Delims).ok = true := dEx_ok
example : scanD ⟨cs!"<<", cs!">>", cs!"<#", cs!"#>"⟩ cs!"a<< if x >>b<# c #>" =
    [.text cs!"a", .dir cs!" if x " cs!"if" cs!"x", .text cs!"b", .comment cs!" c "] := by decide +kernel

end Delimiters

end Genshi.Props.C04
