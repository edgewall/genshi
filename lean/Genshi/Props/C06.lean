/-
  C06 — The HTML sanitizer emits only whitelisted, script-free markup and never fails.
  Property theorems, with the few lemmas only they use; models in `Genshi/Model/San*.lean`, lemmas in `Genshi/Lemmas/San*.lean`.
  Every theorem is about an arbitrary configuration `cfg` (the five sets are parameters) and an
  arbitrary event stream unless a hypothesis says otherwise.

  OBLIGATIONS (checked by the harness: `#print axioms` of each):
    sanitize_total stripentities_total sanitize_css_total
    only_safe_elems_attrs no_comments no_cdata_markers no_gt_in_declarations
    wellnested_in_out end_tags_safe dropped_subtree_absent
    uri_attrs_checked uri_attrs_safe scheme_punct_rejected
    css_comments_dotall css_expression_classes_cover css_decode_fixed css_no_expression
    css_urls_safe css_scheme_punct_rejected
    attr_value_roundtrip uri_attrs_scheme_serialised default_config_script_free
    html_reparse_safe_partial xhtml_reparse_safe_partial default_config_markup_ok css_pass_order_matters
    attr_values_decode_stable html_reparse_events_safe_partial redecode_witness
    css_ok css_no_negative_margin password_inputs_dropped no_password_input no_password_input_after_decoding password_rule_reference_witness
    html_reparse_prolog_safe_partial xhtml_reparse_prolog_safe_partial xhtml_doctype_quote_witness
    decode_loop_fuel_independent comment_loop_fuel_independent loops_end_stable
    css_helpers_total strip_css_comments_complete unsafe_css_property_dropped default_css_no_scripting_properties
-/
import Genshi.Lemmas.SanTree
import Genshi.Lemmas.Core
import Genshi.Lemmas.SanUri
import Genshi.Lemmas.SanCssUrl
import Genshi.Lemmas.SanRoundtrip
import Genshi.Lemmas.SanReparse
import Genshi.Lemmas.SanLayer
import Genshi.Lemmas.SanRules
import Genshi.Lemmas.SanReparseProlog
import Genshi.Lemmas.SanReparsePrologX
import Genshi.Lemmas.SanFuel
import Genshi.Props.C08
namespace Genshi.Props.C06
open Genshi Genshi.San Genshi.San.Spec

/-- The sanitizer never raises: for every configuration and every event stream (well nested or
    not, produced by a parser or not) the model returns a stream.  The failure points of the
    code (`chr`, `int`) are explicit in the model; the proof shows none is reachable. -/
theorem sanitize_total (cfg : Cfg) (s : Stream) : ∃ o, sanitize cfg s = .ok o :=
  sanitizeFrom_ok cfg St.init s

/-- `stripentities` never raises (numeric references beyond U+10FFFF, surrogates, `&#X…;`,
    over-long digit strings, unknown names). -/
theorem stripentities_total (s : Str) : ∃ r, stripentities s = .ok r := stripentities_ok s

/-- `sanitize_css` never raises (CSS escapes beyond U+10FFFF, surrogates). -/
theorem sanitize_css_total (cfg : Cfg) (s : Str) : ∃ r, sanitizeCss cfg s = .ok r := sanitizeCss_ok cfg s

-- the hostile numerics of findings C06-charref-range / C06-charref-upper-x / C06-css-escape-range
example : stripentities ['&', '#', '1', '1', '1', '4', '1', '1', '2', ';'] = .ok [replChar] := by decide +kernel
example : stripentities ['&', '#', 'X', '4', '1', ';'] = .ok ['A'] := by decide +kernel
example : sanitizeCss Cfg.default ['c', 'o', 'l', 'o', 'r', ':', '\\', '1', '1', '0', '0', '0', '0'] =
    .ok [['c', 'o', 'l', 'o', 'r', ':', replChar]] := by decide +kernel

/-- Every START event of the output carries a tag of the safe set and only attributes of the
    safe set — for all input streams. -/
theorem only_safe_elems_attrs {cfg : Cfg} {s o : Stream} (h : sanitize cfg s = .ok o)
    {tag : QName} {attrs : AttrList} (hm : Event.start tag attrs ∈ o) :
    tag.text ∈ cfg.safeTags ∧ ∀ a ∈ attrs, a.1.text ∈ cfg.safeAttrs := by
  obtain ⟨_, _, hsafe, _⟩ := start_emitted h hm
  exact ⟨isSafeElem_tag hsafe, fun a ha => (attr_emitted h hm ha).1⟩

/-- No COMMENT event survives — for all input streams. -/
theorem no_comments {cfg : Cfg} {s o : Stream} (h : sanitize cfg s = .ok o) (c : Str) :
    Event.comment c ∉ o :=
  fun hm => nomatch other_emitted h hm nofun

/-- No CDATA section marker survives — for all input streams, balanced or not (finding
    C06-cdata-markers: the text between the markers of the input is therefore ordinary TEXT in
    the output, which every serializer escapes; between markers the XML and XHTML serializers
    write text verbatim, and `]]><script>…` — or an unclosed section — re-parses as a live
    element). -/
theorem no_cdata_markers {cfg : Cfg} {s o : Stream} (h : sanitize cfg s = .ok o) :
    Event.startCdata ∉ o ∧ Event.endCdata ∉ o :=
  ⟨(fun hm => nomatch other_emitted h hm nofun), (fun hm => nomatch other_emitted h hm nofun)⟩

/-- **Every declaration-like event that survives is closed where it says**: no processing
    instruction and no DOCTYPE declaration of the output holds a `>` (in target or data; in name,
    public or system identifier).  An HTML parser ends both at the first `>`, quoted or not, and
    reads the rest as markup (findings C06-pi-markup and C06-doctype-markup, repaired) — for all
    input streams. -/
theorem no_gt_in_declarations {cfg : Cfg} {s o : Stream} (h : sanitize cfg s = .ok o) :
    (∀ t d, Event.pi t d ∈ o → '>' ∉ t ∧ '>' ∉ d) ∧
    (∀ n p q, Event.doctype n p q ∈ o → dtHasGt n p q = false) := by
  refine ⟨fun t d hm => ?_, fun n p q hm => by simpa [passes] using other_emitted h hm nofun⟩
  have hp := other_emitted h hm nofun
  simp only [passes, Bool.not_eq_true', Bool.or_eq_false_iff] at hp
  exact ⟨by simpa using hp.1, by simpa using hp.2⟩

-- non-vacuity: the system identifier `x'><s>` (legal XML inside double quotes) and a PI with `>`
-- are dropped; a harmless DOCTYPE and PI pass
example : sanitize Cfg.default [.doctype ['h', 't', 'm', 'l'] none (some ['x', '\'', '>', '<', 's', '>']),
    .pi ['x'] ['a', '>'], .doctype ['h', 't', 'm', 'l'] (some ['-', '/', '/', 'W']) (some ['x', '.', 'd', 't', 'd']),
    .pi ['p', 'h', 'p'] ['e', 'c', 'h', 'o']] =
    .ok [.doctype ['h', 't', 'm', 'l'] (some ['-', '/', '/', 'W']) (some ['x', '.', 'd', 't', 'd']),
      .pi ['p', 'h', 'p'] ['e', 'c', 'h', 'o']] := by decide +kernel

-- non-vacuity: a section (closed, then unclosed) around hostile text; the text stays, as plain TEXT
example : sanitize Cfg.default [.startCdata, .text [']', ']', '>', '<', 's', '>'] false, .endCdata, .startCdata,
    .text ['x'] false] = .ok [.text [']', ']', '>', '<', 's', '>'] false, .text ['x'] false] := by decide +kernel

theorem wellnested_in_out {cfg : Cfg} {s o : Stream} (hs : WellNested s) (h : sanitize cfg s = .ok o) :
    WellNested o := wellNested_sanitize hs h

/-- For a well-nested input every END event of the output carries a tag of the safe set, too
    (for an ill-nested input a stray END event of the input is passed through: the theorem needs
    the hypothesis, see the example below). -/
theorem end_tags_safe {cfg : Cfg} {s o : Stream} (hs : WellNested s) (h : sanitize cfg s = .ok o)
    {tag : QName} (hm : Event.end_ tag ∈ o) : tag.text ∈ cfg.safeTags := by
  obtain ⟨a, ha⟩ := wellNested_end_start (wellnested_in_out hs h) hm
  exact (only_safe_elems_attrs h ha).1

/-- The output for a well-nested input is the flattening of the pruned forest: an element that
    is not safe is absent together with everything inside it, comments are absent, every other
    node is kept in place (elements with filtered attributes). -/
theorem dropped_subtree_absent {cfg : Cfg} {s : Stream} (hs : WellNested s) :
    ∃ ns, okList ns = true ∧ s = flattenList ns ∧
      sanitize cfg s = (do let p ← pruneList cfg ns; pure (flattenList p)) := by
  obtain ⟨ns, hok, rfl⟩ := wellNested_flatten_forest hs
  exact ⟨ns, hok, rfl, sanitize_flattenList cfg ns hok⟩

/-- Every attribute of the output whose name is in `uri_attrs` went through `is_safe_uri` and
    was accepted (for all input streams). -/
theorem uri_attrs_checked {cfg : Cfg} {s o : Stream} (h : sanitize cfg s = .ok o)
    {tag : QName} {attrs : AttrList} (hm : Event.start tag attrs ∈ o)
    {a : QName × Str} (ha : a ∈ attrs) (hu : a.1.text ∈ cfg.uriAttrs) : isSafeUri cfg a.2 = true :=
  (attr_emitted h hm ha).2.2.1 hu

/-- **Every emitted URI attribute has a safe scheme, as a browser reads it** (white space and
    control characters removed, the text before the first colon if it has the syntax of a
    scheme, ASCII case folded) — for all configurations and all input streams.  `is_safe_uri`
    keeps `+ - .` when it reads the scheme, as the browser-side reader does: `h-t-t-p:` does not
    count as `http` (finding C06-scheme-punct, `scheme_punct_rejected`). -/
theorem uri_attrs_safe {cfg : Cfg} {s o : Stream} (h : sanitize cfg s = .ok o)
    {tag : QName} {attrs : AttrList} (hm : Event.start tag attrs ∈ o)
    {a : QName × Str} (ha : a ∈ attrs) (hu : a.1.text ∈ cfg.uriAttrs)
    {sch : Str} (hb : browserScheme a.2 = some sch) : sch ∈ cfg.safeSchemes :=
  isSafeUri_sound (uri_attrs_checked h hm ha hu) hb

def hrefName : QName := ⟨[], ['h', 'r', 'e', 'f']⟩
def aTag : QName := ⟨[], ['a']⟩
def scriptTag : QName := ⟨[], ['s', 'c', 'r', 'i', 'p', 't']⟩
def punctUri : Str := ['h', '-', 't', '-', 't', '-', 'p', ':', '/', '/', 'x']
def jsUri : Str := ['j', 'a', 'v', 'a', '\t', 's', 'c', 'r', 'i', 'p', 't', ':', 'x']

/-- Regression of finding C06-scheme-punct (fixed): `href="h-t-t-p://x"`, whose scheme a browser
    reads as `h-t-t-p`, is dropped. -/
theorem scheme_punct_rejected :
    sanitize Cfg.default [.start aTag [(hrefName, punctUri)], .end_ aTag] = .ok [.start aTag [], .end_ aTag] ∧
      browserScheme punctUri = some ['h', '-', 't', '-', 't', '-', 'p'] := by
  decide +kernel

-- non-vacuity: a URI with an embedded tab is read as `javascript` by the browser-side reader,
-- is dropped by the filter, and an unsafe element nested in itself is dropped up to its own end
example : browserScheme jsUri = some ['j', 'a', 'v', 'a', 's', 'c', 'r', 'i', 'p', 't'] := by decide +kernel
example : sanitize Cfg.default
    [.start aTag [(hrefName, jsUri)], .start scriptTag [], .text ['x'] false, .start scriptTag [],
     .end_ scriptTag, .text ['y'] false, .end_ scriptTag, .comment ['c'], .end_ aTag] =
    .ok [.start aTag [], .end_ aTag] := by decide +kernel
-- `end_tags_safe` needs well-nested input: a stray END event is passed through
example : sanitize Cfg.default [.end_ scriptTag] = .ok [.end_ scriptTag] := by decide +kernel
-- `uri_attrs_safe` is not vacuous: an accepted URI with a scheme
example : sanitize Cfg.default [.start aTag [(hrefName, ['H', 't', 'T', 'p', ':', 'x'])], .end_ aTag] =
    .ok [.start aTag [(hrefName, ['H', 't', 'T', 'p', ':', 'x'])], .end_ aTag] ∧
    browserScheme ['H', 't', 'T', 'p', ':', 'x'] = some ['h', 't', 't', 'p'] := by decide +kernel

/-! ## Style attributes

  The emitted value of a `style` attribute is `'; '.join(decls)`.  The browser-side reader of
  the spec half (`Spec.cssDecode`: escape decoding and comment removal until nothing changes;
  `Spec.hasExpression`; `Spec.urlArgs` + `Spec.trimArg` + `Spec.browserScheme`) is applied to
  that value.  Hypotheses on the configuration: `style` is not listed as a URI attribute (else
  the code never filters its CSS) and no CSS property name of `safe_css` holds a parenthesis. -/

/-- `_CSS_COMMENTS` is compiled with `re.DOTALL` (read from the pattern object by the translator):
    a comment that spans a line break is removed.  The CSS theorems depend on it. -/
theorem css_comments_dotall : Genshi.Gen.SanClass.commentsDotall = true := rfl

/-- Every spelling of `expression` that the browser-side reader accepts (upper and lower case,
    full-width forms, small capitals) is in the character classes of `_EXPRESSION_SEARCH` as
    compiled (the generated table). -/
theorem css_expression_classes_cover :
    classesSubset (wordClasses true expressionWord) Genshi.Gen.SanClass.expressionClasses = true :=
  expression_classes_cover

/-- The browser's decoding (CSS escapes, comments; repeated until nothing changes) of an emitted
    style value is that value itself: what the filter checked is what the browser reads. -/
theorem css_decode_fixed {cfg : Cfg} {s o : Stream} (h : sanitize cfg s = .ok o)
    {tag : QName} {attrs : AttrList} (hm : Event.start tag attrs ∈ o)
    {a : QName × Str} (ha : a ∈ attrs) (hs : a.1.text = styleWord) (hu : styleWord ∉ cfg.uriAttrs) :
    cssDecode a.2 = a.2 := by
  obtain ⟨x, decls, hd, hj⟩ := style_attr_emitted h hm ha hs hu
  rw [hj]; exact sanitizeCss_decode_fixed css_comments_dotall hd

/-- No `expression(` (in any spelling, after decoding) in an emitted style value. -/
theorem css_no_expression {cfg : Cfg} (hcfg : CssNamesPlain cfg) {s o : Stream} (h : sanitize cfg s = .ok o)
    {tag : QName} {attrs : AttrList} (hm : Event.start tag attrs ∈ o)
    {a : QName × Str} (ha : a ∈ attrs) (hs : a.1.text = styleWord) (hu : styleWord ∉ cfg.uriAttrs) :
    hasExpression (cssDecode a.2) = false := by
  obtain ⟨x, decls, hd, hj⟩ := style_attr_emitted h hm ha hs hu
  rw [hj, sanitizeCss_decode_fixed css_comments_dotall hd]; exact sanitizeCss_no_expression hcfg hd

/-- **Every `url(` argument of an emitted style value, as the browser decodes and reads it, has
    a safe scheme**. -/
theorem css_urls_safe {cfg : Cfg} (hcfg : CssNamesPlain cfg) {s o : Stream} (h : sanitize cfg s = .ok o)
    {tag : QName} {attrs : AttrList} (hm : Event.start tag attrs ∈ o)
    {a : QName × Str} (ha : a ∈ attrs) (hs : a.1.text = styleWord) (hu : styleWord ∉ cfg.uriAttrs)
    {arg : Str} (harg : arg ∈ urlArgs (cssDecode a.2))
    {sch : Str} (hb : browserScheme (trimArg arg) = some sch) : sch ∈ cfg.safeSchemes := by
  obtain ⟨x, decls, hd, hj⟩ := style_attr_emitted h hm ha hs hu
  rw [hj, sanitizeCss_decode_fixed css_comments_dotall hd] at harg
  exact sanitizeCss_urls_safe hcfg hd arg harg sch hb

/-- **The whole emitted style value is acceptable to the browser-side reader** — the single
    statement of the spec half: `cssOk schemes v` = after decoding (escapes, comments, to a fixed
    point) `v` holds no `expression(` in any spelling, and every `url(` argument has no scheme or
    one of `schemes`.  It is the predicate the oracle applies to the real output (`css_problems`
    of the harness, compared with `cssOk` on every run: stream `spec-cssok`). -/
theorem css_ok {cfg : Cfg} (hcfg : CssNamesPlain cfg) {s o : Stream} (h : sanitize cfg s = .ok o)
    {tag : QName} {attrs : AttrList} (hm : Event.start tag attrs ∈ o)
    {a : QName × Str} (ha : a ∈ attrs) (hs : a.1.text = styleWord) (hu : styleWord ∉ cfg.uriAttrs) :
    cssOk cfg.safeSchemes a.2 = true :=
  cssOk_iff.2 ⟨css_no_expression hcfg h hm ha hs hu, fun _ harg _ hb => css_urls_safe hcfg h hm ha hs hu harg hb⟩

/-- **No negative margins, only whitelisted properties**: the emitted style value is the
    `'; '`-joined list of declarations `name:value` each of which has a property name (stripped,
    lower-cased) of `safe_css`, and none of which is a `margin…` property with a `-` in its value
    (`is_safe_css`: "negative margins can be used for phishing").  With `css_decode_fixed` the
    text that was checked is the text the browser reads. -/
theorem css_no_negative_margin {cfg : Cfg} {s o : Stream} (h : sanitize cfg s = .ok o)
    {tag : QName} {attrs : AttrList} (hm : Event.start tag attrs ∈ o)
    {a : QName × Str} (ha : a ∈ attrs) (hs : a.1.text = styleWord) (hu : styleWord ∉ cfg.uriAttrs) :
    ∃ decls, a.2 = Genshi.Str.join declSep decls ∧ ∀ d ∈ decls, ∃ pn value,
      split1 ':' d = (pn, some value) ∧ pyLower (pyStrip pn) ∈ cfg.safeCss ∧
      ¬ (marginWord.isPrefixOf (pyLower (pyStrip pn)) = true ∧ '-' ∈ pyStrip value) := by
  obtain ⟨x, decls, hd, hj⟩ := style_attr_emitted h hm ha hs hu
  refine ⟨decls, hj, ?_⟩
  intro d hdm
  obtain ⟨pn, value, hsp, hsafe, _⟩ := (sanitizeCss_facts hd d hdm).ex
  exact ⟨pn, value, hsp, isSafeCss_true hsafe⟩

def styleCfg : Cfg := { Cfg.default with safeAttrs := styleWord :: Cfg.default.safeAttrs }
def styleName : QName := ⟨[], styleWord⟩
def divTag : QName := ⟨[], ['d', 'i', 'v']⟩
def punctCss : Str := ['c', 'o', 'l', 'o', 'r', ':', ' ', 'u', 'r', 'l', '(', 'h', '-', 't', '-', 't', '-', 'p',
  ':', 'x', ')']

/-- Regression of finding C06-scheme-punct for `url()`: `color: url(h-t-t-p:x)` is dropped. -/
theorem css_scheme_punct_rejected :
    sanitize styleCfg [.start divTag [(styleName, punctCss)], .end_ divTag] = .ok [.start divTag [], .end_ divTag] := by
  decide +kernel

-- non-vacuity: the hypotheses hold for the default sets, and the filter acts on encoded payloads
theorem cssNamesPlain_default : CssNamesPlain Cfg.default := by
  unfold CssNamesPlain; decide +kernel

example : CssNamesPlain Cfg.default ∧ CssNamesPlain styleCfg ∧ styleWord ∉ styleCfg.uriAttrs :=
  ⟨cssNamesPlain_default, cssNamesPlain_default, by decide⟩
-- `\75rl(javascript:x)` is decoded, recognised and dropped; the safe declaration stays
example : sanitizeCss styleCfg
    ['b', 'a', 'c', 'k', 'g', 'r', 'o', 'u', 'n', 'd', ':', '\\', '7', '5', 'r', 'l', '(', 'j', 'a', 'v', 'a', 's', 'c',
     'r', 'i', 'p', 't', ':', 'x', ')', ';', 'c', 'o', 'l', 'o', 'r', ':', 'r', 'e', 'd'] =
    .ok [['c', 'o', 'l', 'o', 'r', ':', 'r', 'e', 'd']] := by decide +kernel
-- a comment spanning a line break and a comment completed by the removal of another one
example : sanitizeCss styleCfg
    ['t', 'o', 'p', ':', 'e', '/', '/', '*', 'x', '*', '/', '*', '\n', '*', '/', 'x', 'p', 'r', 'e', 's', 's', 'i', 'o',
     'n', '(', '1', ')'] = .ok [] := by decide +kernel
-- a hex-escaped backslash stays escaped: the emitted text decodes to itself
example : sanitizeCss styleCfg ['t', 'o', 'p', ':', '\\', '5', 'c', ' ', '7', '5', ' ', 'r', 'l', '(', 'x', ')'] =
    .ok [['t', 'o', 'p', ':', '\\', '\\', '7', '5', ' ', 'r', 'l', '(', 'x', ')']] ∧
    cssDecode ['t', 'o', 'p', ':', '\\', '\\', '7', '5', ' ', 'r', 'l', '(', 'x', ')'] =
      ['t', 'o', 'p', ':', '\\', '\\', '7', '5', ' ', 'r', 'l', '(', 'x', ')'] := by decide +kernel

-- non-vacuity of `css_ok` / `css_no_negative_margin`: a style attribute with a negative margin,
-- an unlisted property and two harmless declarations; the last two are emitted and are `cssOk`
example : sanitize styleCfg [.start divTag [(styleName,
      ['m', 'a', 'r', 'g', 'i', 'n', '-', 'l', 'e', 'f', 't', ':', '-', '9', 'p', 'x', ';', 'p', 'o', 's', 'i', 't', 'i', 'o',
       'n', ':', 'f', 'i', 'x', 'e', 'd', ';', 'M', 'a', 'r', 'g', 'i', 'n', ':', '1', 'p', 'x', ';', 'c', 'o', 'l', 'o', 'r',
       ':', 'u', 'r', 'l', '(', 'h', 't', 't', 'p', ':', 'x', ')'])], .end_ divTag] =
    .ok [.start divTag [(styleName, ['M', 'a', 'r', 'g', 'i', 'n', ':', '1', 'p', 'x', ';', ' ', 'c', 'o', 'l', 'o', 'r', ':',
       'u', 'r', 'l', '(', 'h', 't', 't', 'p', ':', 'x', ')'])], .end_ divTag] ∧
    cssOk styleCfg.safeSchemes ['M', 'a', 'r', 'g', 'i', 'n', ':', '1', 'p', 'x', ';', ' ', 'c', 'o', 'l', 'o', 'r', ':',
       'u', 'r', 'l', '(', 'h', 't', 't', 'p', ':', 'x', ')'] = true ∧
    cssOk styleCfg.safeSchemes ['c', 'o', 'l', 'o', 'r', ':', 'u', 'r', 'l', '(', 'j', 's', ':', 'x', ')'] = false := by
  decide +kernel

/-! ## The order of the two CSS passes

  `sanitize_css` decodes escapes first and removes comments afterwards.  `css_decode_fixed`
  depends on that order: with the passes swapped (comments first), a comment whose delimiters are
  themselves escaped (`\2f\2a … \2a\2f`) only appears after decoding, survives, and the emitted
  text is no fixed point of the browser-side decoder — it hides `expression(`. -/

/-- `sanitize_css` with its two normalisation passes in the wrong order -/
def sanitizeCssSwapped (cfg : Cfg) (text : Str) : Except Err (List Str) := do
  let t ← unescapeCss (stripCssComments (normalizeNewlines text))
  pure ((splitOn ';' t).filterMap (cssDecl cfg))

def orderPayload : Str :=
  ['t', 'o', 'p', ':', 'e', 'x', 'p', '\\', '2', 'f', '\\', '2', 'a', 'x', '\\', '2', 'a', '\\', '2', 'f', 'r', 'e', 's', 's',
   'i', 'o', 'n', '(', '1', ')']

theorem css_pass_order_matters :
    -- the code's order: recognised and dropped
    sanitizeCss styleCfg orderPayload = .ok [] ∧
    -- swapped: emitted, not a fixed point of the browser's decoding, which reveals `expression(`
    (∃ d, sanitizeCssSwapped styleCfg orderPayload = .ok [d] ∧ cssDecode d ≠ d ∧
      hasExpression (cssDecode d) = true) := by
  refine ⟨by decide +kernel, ['t', 'o', 'p', ':', 'e', 'x', 'p', '/', '*', 'x', '*', '/', 'r', 'e', 's', 's', 'i', 'o', 'n', '(', '1', ')'], ?_⟩
  decide +kernel

/-! ## The password rule of `is_safe_elem`

  "Password fields can be used for phishing": an `input` element (by `QName.localname`) whose
  `type` attribute is `password` in any letter case is treated like an element outside the safe
  set.  The rule decodes the `type` value of the input event until no reference is left, as the
  attribute loop does for the value it emits (finding C06-password-reference: a rule that compares
  the UNDECODED value passes `<input type="pass&amp;amp;#119;ord">`, which is written as
  `<input type="password">`).  The statement about the output alone therefore needs no hypothesis
  on the input values. -/

/-- Every emitted START event stems from an input START event of the same tag whose attributes
    were filtered and which was no password field: `localname = input ∧ lower(decoded type) =
    password` is false of the input element — for all streams. -/
theorem password_inputs_dropped {cfg : Cfg} {s o : Stream} (h : sanitize cfg s = .ok o)
    {tag : QName} {attrs : AttrList} (hm : Event.start tag attrs ∈ o) :
    ∃ attrs0, Event.start tag attrs0 ∈ s ∧ sanAttrs cfg attrs0 = .ok attrs ∧
      ¬ (localname tag = inputWord ∧ pyLower (stripRefsD (attrGet attrs0 typeWord)) = passwordWord) := by
  obtain ⟨attrs0, hes, hsafe, has⟩ := start_emitted h hm
  refine ⟨attrs0, hes, has, ?_⟩
  rintro ⟨hl, ht⟩
  unfold isSafeElem at hsafe
  simp [hl, ht] at hsafe

/-- **The output never contains a password field** — for ALL streams: no emitted `input` element (by local name) has a `type` attribute
    that is `password` in any letter case.  The one hypothesis is on the configuration:
    `type` is not configured as a URI attribute (then the first `type` attribute could be dropped
    by the scheme test and a second one take its place). -/
theorem no_password_input {cfg : Cfg} (hu : typeWord ∉ cfg.uriAttrs) {s o : Stream}
    (h : sanitize cfg s = .ok o) {tag : QName} {attrs : AttrList} (hm : Event.start tag attrs ∈ o)
    (hl : localname tag = inputWord) : pyLower (attrGet attrs typeWord) ≠ passwordWord := by
  obtain ⟨attrs0, hin, has, hno⟩ := password_inputs_dropped h hm
  have hu' : cfg.uriAttrs.contains typeWord = false := by simpa using hu
  rw [sanAttrs_attrGet hu' typeWord_ne_style attrs0 attrs has]
  by_cases hs : cfg.safeAttrs.contains typeWord = true
  · rw [if_pos hs]; exact fun ht => hno ⟨hl, ht⟩
  · rw [if_neg hs]; exact pyLower_nil_ne_password

/-- what `no_password_input` says carries over to the value as emitted: it is a fixed point of
    reference decoding (`attr_values_decode_stable`), so no reader that decodes once more turns
    it into `password` either -/
theorem no_password_input_after_decoding {cfg : Cfg} (hu : typeWord ∉ cfg.uriAttrs) {s o : Stream}
    (h : sanitize cfg s = .ok o) {tag : QName} {attrs : AttrList} (hm : Event.start tag attrs ∈ o)
    (hl : localname tag = inputWord) : pyLower (stripRefsD (attrGet attrs typeWord)) ≠ passwordWord := by
  have hst : stripentities (attrGet attrs typeWord) = .ok (attrGet attrs typeWord) := by
    unfold attrGet
    cases hf : attrs.find? (fun a => a.1.text == typeWord) with
    | none => decide
    | some a =>
      exact (attr_emitted h hm (List.mem_of_find?_eq_some hf)).2.1
  rw [stripRefsD_eq (stripRefs_of_stable hst)]
  exact no_password_input hu h hm hl

def inputTag : QName := ⟨[], inputWord⟩
def typeName : QName := ⟨[], typeWord⟩

/-- Regression of the repaired finding C06-password-reference: `type="pass&#119;ord"` and
    `type="pass&amp;#119;ord"` in the event stream (what the HTML parser delivers for
    `pass&amp;amp;#119;ord` resp. one more layer) are password fields: dropped with their content. -/
theorem password_rule_reference_witness :
    sanitize Cfg.default [.start inputTag [(typeName, ['p', 'a', 's', 's', '&', '#', '1', '1', '9', ';', 'o', 'r', 'd'])],
      .text ['x'] false, .end_ inputTag,
      .start inputTag [(typeName, ['P', 'a', 's', 's', '&', 'a', 'm', 'p', ';', '#', '1', '1', '9', ';', 'o', 'r', 'd'])],
      .end_ inputTag, .text ['y'] false] = .ok [.text ['y'] false] := by
  decide +kernel

-- non-vacuity: a password field (mixed case) is dropped with its content, also under a name in
-- the EMPTY namespace (`QName('}input')`: string value `{}input`, local name `input`) when the
-- configuration lists that name; a text field is kept
example : sanitize Cfg.default [.start inputTag [(typeName, ['P', 'a', 's', 's', 'W', 'o', 'r', 'd'])],
    .text ['x'] false, .end_ inputTag, .start inputTag [(typeName, ['t', 'e', 'x', 't'])], .end_ inputTag] =
    .ok [.start inputTag [(typeName, ['t', 'e', 'x', 't'])], .end_ inputTag] := by decide +kernel
example : localname ⟨[], ['{', '}', 'i', 'n', 'p', 'u', 't']⟩ = inputWord ∧
    localname ⟨['u'], inputWord⟩ = inputWord ∧ localname ⟨[], ['{', 'i', 'n', 'p', 'u', 't']⟩ = inputWord ∧
    (⟨[], ['{', '}', 'i', 'n', 'p', 'u', 't']⟩ : QName).text = ['{', '}', 'i', 'n', 'p', 'u', 't'] := by decide
example : sanitize { Cfg.default with safeTags := ['{', '}', 'i', 'n', 'p', 'u', 't'] :: Cfg.default.safeTags }
    [.start ⟨[], ['{', '}', 'i', 'n', 'p', 'u', 't']⟩ [(typeName, passwordWord)], .text ['x'] false,
     .end_ ⟨[], ['{', '}', 'i', 'n', 'p', 'u', 't']⟩] = .ok [] := by decide +kernel

/-! ## After serialisation (attribute values)

  The re-parse clause of the property, in this section for attribute VALUES: the serializers
  write `escape(value)` (C18: `escapeSpec true`, equal to the Python and C implementations), and
  decoding the references of that text (model of `stripentities`: all numeric forms, the 252
  names) gives the value back, so every guarantee about an emitted value holds for the value
  read back.  The markup level (serializer output read by a parser) follows in the section
  "After serialisation (markup level)", on top of C08's round trips. -/

theorem attr_value_roundtrip (q : Bool) (v : Str) :
    stripentities (Genshi.Escape.escapeSpec q v) = .ok v := stripentities_escape q v

/-- The URI guarantee for the value as written by a serializer and read back. -/
theorem uri_attrs_scheme_serialised {cfg : Cfg} {s o : Stream} (h : sanitize cfg s = .ok o)
    {tag : QName} {attrs : AttrList} (hm : Event.start tag attrs ∈ o)
    {a : QName × Str} (ha : a ∈ attrs) (hu : a.1.text ∈ cfg.uriAttrs)
    {back sch : Str} (hr : stripentities (Genshi.Escape.escapeSpec true a.2) = .ok back)
    (hb : browserScheme back = some sch) : sch ∈ cfg.safeSchemes := by
  rw [attr_value_roundtrip] at hr
  cases hr
  exact uri_attrs_safe h hm ha hu hb

-- non-vacuity: a value with all four escaped characters
example : stripentities (Genshi.Escape.escapeSpec true ['a', '&', '<', '"', '>', '&', 'l', 't', ';']) =
    .ok ['a', '&', '<', '"', '>', '&', 'l', 't', ';'] := by decide +kernel

/-- **Every emitted attribute value is a fixed point of reference decoding** (all configurations,
    all streams): the filter decodes until nothing is left and drops a style text that still
    holds a reference, so a reader that decodes attribute values once more — genshi's own
    HTMLParser applies `stripentities` to what html.parser has already decoded — ends up with the
    very value that was checked. -/
theorem attr_values_decode_stable {cfg : Cfg} {s o : Stream} (h : sanitize cfg s = .ok o)
    {tag : QName} {attrs : AttrList} (hm : Event.start tag attrs ∈ o)
    {a : QName × Str} (ha : a ∈ attrs) : stripentities a.2 = .ok a.2 :=
  (attr_emitted h hm ha).2.1

/-- Why the fixed point matters (regression of finding C06-redecode, fixed): the once-decoded value
    `&#106;avascript:x` is accepted by `is_safe_uri` (nothing before the `#`), yet one more
    decoding makes it `javascript:x`.  The filter never emits it: it decodes on and drops the
    attribute. -/
theorem redecode_witness :
    isSafeUri Cfg.default ['&', '#', '1', '0', '6', ';', 'a', 'v', 'a', 's', 'c', 'r', 'i', 'p', 't', ':', 'x'] = true ∧
    stripentities ['&', '#', '1', '0', '6', ';', 'a', 'v', 'a', 's', 'c', 'r', 'i', 'p', 't', ':', 'x'] =
      .ok ['j', 'a', 'v', 'a', 's', 'c', 'r', 'i', 'p', 't', ':', 'x'] ∧
    sanitize Cfg.default [.start aTag [(hrefName, ['&', 'a', 'm', 'p', ';', '#', '1', '0', '6', ';', 'a', 'v', 'a', 's',
      'c', 'r', 'i', 'p', 't', ':', 'x'])], .end_ aTag] = .ok [.start aTag [], .end_ aTag] := by
  decide +kernel

/-! ## The default configuration (the generated class attributes)

  All theorems above hold for every configuration; the property's title also says "script-free",
  which for the *default* sets means: no scripting element, no event-handler or `style`
  attribute, no scripting scheme is whitelisted, and the hypotheses of the CSS theorems hold.
  Re-checked against `Gen/Sanitizer.lean` on every run, so that a changed class attribute that
  lets script through breaks a named theorem. -/

def startsWithOn : Str → Bool
  | 'o' :: 'n' :: _ => true
  | _ => false

theorem default_config_script_free :
    (∀ t ∈ [['s', 'c', 'r', 'i', 'p', 't'], ['s', 't', 'y', 'l', 'e'], ['o', 'b', 'j', 'e', 'c', 't'],
            ['e', 'm', 'b', 'e', 'd'], ['i', 'f', 'r', 'a', 'm', 'e'], ['a', 'p', 'p', 'l', 'e', 't'],
            ['l', 'i', 'n', 'k'], ['m', 'e', 't', 'a'], ['b', 'a', 's', 'e'], ['s', 'v', 'g'], ['m', 'a', 't', 'h'],
            ['f', 'r', 'a', 'm', 'e'], ['f', 'r', 'a', 'm', 'e', 's', 'e', 't']],
        t ∉ Cfg.default.safeTags) ∧
    (∀ a ∈ Cfg.default.safeAttrs, startsWithOn a = false) ∧
    styleWord ∉ Cfg.default.safeAttrs ∧
    ['f', 'o', 'r', 'm', 'a', 'c', 't', 'i', 'o', 'n'] ∉ Cfg.default.safeAttrs ∧
    ['s', 'r', 'c', 'd', 'o', 'c'] ∉ Cfg.default.safeAttrs ∧
    (∀ sch ∈ [['j', 'a', 'v', 'a', 's', 'c', 'r', 'i', 'p', 't'], ['v', 'b', 's', 'c', 'r', 'i', 'p', 't'],
              ['d', 'a', 't', 'a'], ['l', 'i', 'v', 'e', 's', 'c', 'r', 'i', 'p', 't'], ['m', 'o', 'c', 'h', 'a']],
        sch ∉ Cfg.default.safeSchemes) ∧
    (∀ a ∈ [['h', 'r', 'e', 'f'], ['s', 'r', 'c'], ['a', 'c', 't', 'i', 'o', 'n']],
        a ∈ Cfg.default.safeAttrs → a ∈ Cfg.default.uriAttrs) ∧
    styleWord ∉ Cfg.default.uriAttrs ∧ CssNamesPlain Cfg.default := by
  refine ⟨?_, ?_, ?_, ?_, ?_, ?_, ?_, ?_, cssNamesPlain_default⟩ <;> decide +kernel

/-- The names of the default configuration can be written as markup (re-checked against the
    generated sets): hypothesis `CfgMarkupOk` of the re-parse theorems. -/
theorem default_config_markup_ok : CfgMarkupOk Cfg.default ∧ CfgMarkupOk styleCfg := by
  have hd : CfgMarkupOk Cfg.default := by constructor <;> decide +kernel
  -- `styleCfg` differs by the one attribute name `style`
  refine ⟨hd, hd.tags, fun a ha => ?_, hd.braces.1, fun a ha => ?_⟩ <;>
    rcases List.mem_cons.mp ha with rfl | ha
  · decide
  · exact hd.attrs a ha
  · decide
  · exact hd.braces.2 a ha

/-! ## After serialisation (markup level): the re-parse clause

  "The same guarantees hold for the stream obtained by serialising that output as HTML or XHTML
  and parsing it again": the sanitized forest is rendered by the serializer model of work package
  `out` (`Genshi.Output.render`, tied to genshi's serializers in C08/C09) and read back by the
  spec-side tokenizer `Genshi.Reader.tokens` (which stands for html.parser / expat in C08 and is
  compared with them on every run there).  Every token read back carries the guarantees
  (`TokSafe`): start and end tags with safe names, only safe attribute names, URI attribute values
  with a safe scheme, style values that decode to themselves and hold neither `expression(` nor an
  unsafe `url(`, and no comment, processing instruction or DOCTYPE at all.

  `_partial`: the hypotheses are those of C08's tree round trips — `strip_whitespace=False`, no
  doctype option, input leaves are plain (non-Markup) text, comments, the markers of CDATA sections
  in any arrangement, and processing instructions and DOCTYPE declarations that hold a `>` (`plainForest`: everything the
  filter drops, and text; PIs and DOCTYPE declarations that are kept, XML declarations and namespace
  events are not covered: C08's tree round trips have no such leaves), and the names of the configuration can be written as
  markup (`CfgMarkupOk`, true of the default sets: `default_config_markup_ok`); for XHTML
  additionally no LF/TAB/CR in the emitted attribute values (finding C08-attr-ws). -/

theorem html_reparse_safe_partial {cfg : Cfg} (hm : CfgMarkupOk cfg) (hcss : CssNamesPlain cfg)
    (cache dropd : Bool) (ns : List Node) (hok : okList ns = true) (hpl : plainForest ns = true) :
    ∃ p toks, sanitize cfg (flattenList ns) = .ok (flattenList p) ∧
      (Genshi.Output.render .html { strip := false, cache := cache, doctype := none, dropXmlDecl := dropd }
          (flattenList p)).bind (Genshi.Reader.tokens false) = some toks ∧
      ∀ t ∈ toks, TokSafe cfg t := by
  obtain ⟨p, hp, hsan⟩ := pruneList_ok cfg hok
  have hgood := pruneList_good cfg ns p hpl hp
  obtain ⟨h1, h2, h3⟩ := forest_in_html_domain hm p hgood
  exact ⟨p, _, hsan, Genshi.Props.C08.html_roundtrip_tree_partial cache dropd p h1 h2 h3,
    Genshi.Reader.assemble_all (fun _ => trivial) (forestPieces_safe css_comments_dotall hm hcss p hgood)⟩

theorem xhtml_reparse_safe_partial {cfg : Cfg} (hm : CfgMarkupOk cfg) (hcss : CssNamesPlain cfg)
    (cache : Bool) (ns : List Node) (hok : okList ns = true) (hpl : plainForest ns = true) :
    ∃ p, sanitize cfg (flattenList ns) = .ok (flattenList p) ∧
      (forestAttrVals p = true →
        ∃ toks, (Genshi.Output.render .xhtml { strip := false, cache := cache, doctype := none, dropXmlDecl := true }
            (flattenList p)).bind (Genshi.Reader.tokens true) = some toks ∧
          ∀ t ∈ toks, TokSafe cfg t) := by
  obtain ⟨p, hp, hsan⟩ := pruneList_ok cfg hok
  have hgood := pruneList_good cfg ns p hpl hp
  obtain ⟨h1, h2, _⟩ := forest_in_html_domain hm p hgood
  exact ⟨p, hsan, fun hv => ⟨_, Genshi.Props.C08.xhtml_roundtrip_tree_partial cache p h1 h2
    (forest_in_xhtml_domain hm p hgood hv),
    Genshi.Reader.assemble_all (fun _ => trivial) (forestPiecesX_safe css_comments_dotall hm hcss p hgood)⟩⟩

/-- The re-parse clause through genshi's own HTML parser layer (model of work package `parse`,
    `Genshi.Parse.htmlStep`, with `stripentities` for its `strip` parameter, any `str.lower`, any
    table of void elements): the tokens read back from the HTML serialisation of the sanitized
    forest, handed to the layer one callback each, make it fail nowhere and build only safe
    events (`EventSafe`: safe tags, safe attribute names, `ValueSafe` values), the end tags it
    supplies itself included.  `_partial`: same hypotheses as `html_reparse_safe_partial`. -/
theorem html_reparse_events_safe_partial {cfg : Cfg} (hm : CfgMarkupOk cfg) (hcss : CssNamesPlain cfg)
    (cache dropd : Bool) (lower : Str → Str) (void : List Str)
    (ns : List Node) (hok : okList ns = true) (hpl : plainForest ns = true) :
    ∃ p toks evs, sanitize cfg (flattenList ns) = .ok (flattenList p) ∧
      (Genshi.Output.render .html { strip := false, cache := cache, doctype := none, dropXmlDecl := dropd }
          (flattenList p)).bind (Genshi.Reader.tokens false) = some toks ∧
      layerRun (layerEnv lower void) [] toks = .ok evs ∧ ∀ e ∈ evs, EventSafe cfg e := by
  obtain ⟨p, toks, h1, h2, h3⟩ := html_reparse_safe_partial hm hcss cache dropd ns hok hpl
  obtain ⟨evs, h4, h5⟩ := layerRun_safe hm lower void toks [] (by simp) h3
  exact ⟨p, toks, evs, h1, h2, h4, h5⟩

-- non-vacuity: a nested payload goes through sanitizer, HTML serializer and reader
example : (do
    let o ← (sanitize styleCfg [.start divTag [(styleName, punctCss), (hrefName, jsUri)], .start scriptTag [],
      .text ['x'] false, .end_ scriptTag, .text ['a', '<', 'b'] false, .comment ['c'], .end_ divTag]).toOption
    let txt ← Genshi.Output.render .html { strip := false, cache := true, doctype := none, dropXmlDecl := true } o
    Genshi.Reader.tokens false txt) =
    some [.start ['d', 'i', 'v'] [] false, .text ['a', '<', 'b'], .end_ ['d', 'i', 'v']] := by decide +kernel

-- non-vacuity: CDATA markers (closed around `]]><s>`, then unclosed) and a PI holding `>` are
-- inside `plainForest`; the text of the section is read back as text, not as markup
example : plainForest [.leaf .startCdata, .leaf (.text [']', ']', '>', '<', 's', '>'] false), .leaf .endCdata,
    .elem divTag [] [.leaf .startCdata, .leaf (.pi ['x'] ['a', '>', '<', 's'])]] = true := by decide
example : (do
    let o ← (sanitize Cfg.default [.start divTag [], .startCdata, .text [']', ']', '>', '<', 's', '>'] false, .endCdata,
      .pi ['x'] ['a', '>', '<', 's'], .startCdata, .end_ divTag]).toOption
    let txt ← Genshi.Output.render .xhtml { strip := false, cache := true, doctype := none, dropXmlDecl := true } o
    Genshi.Reader.tokens true txt) =
    some [.start ['d', 'i', 'v'] [] false, .text [']', ']', '>', '<', 's', '>'], .end_ ['d', 'i', 'v']] := by decide +kernel

/-! ### beyond C08's tree hypotheses: processing instructions and DOCTYPE declarations (HTML)

  C08's tree round trips know no PI / DOCTYPE leaves; its events-level theorem
  `html_roundtrip_prolog_partial` does, under two hypotheses: no `>` inside a PI (`piSafe`) and a
  DOCTYPE literal that passes `dtScan false` (no `>` and every quote closed).  The first is
  **established by the filter** (a PI holding `>` is dropped: C06-pi-markup).  The
  second is stricter than what an HTML parser needs: html.parser, the HTML5 tokenizer and C08's
  html-mode reader end a DOCTYPE at the first `>`, quoted or not, so a literal without `>` is read
  back whole whatever its quotes.  `Lemmas/SanReaderDoctype.lean` states the events-level round
  trip under that weaker hypothesis (`html_roundtrip_prolog_nogt`, from `html_tokensG` of
  `Lemmas/ReaderPrologSim.lean`, which is proved under it), and "no `>`" is **established by
  the filter** too (C06-doctype-markup, `no_gt_in_declarations`).  The theorem therefore has no
  hypothesis on the PI / DOCTYPE leaves of the input.
  `TokSafeP` is `TokSafe` except that PI and DOCTYPE tokens may occur (the property forbids
  comments, not these).  XML declaration leaves are inside too (the HTML serializer writes none).
  `_partial` (what is still outside): HTML method only (XHTML: `xhtml_reparse_prolog_safe_partial`),
  `strip_whitespace=False`, no doctype option, no namespace leaves, text leaves not Markup. -/

theorem html_reparse_prolog_safe_partial {cfg : Cfg} (hm : CfgMarkupOk cfg) (hcss : CssNamesPlain cfg)
    (cache dropd : Bool) (ns : List Node) (hok : okList ns = true) (hpl : prologForest ns = true) :
    ∃ p toks, sanitize cfg (flattenList ns) = .ok (flattenList p) ∧
      (Genshi.Output.render .html { strip := false, cache := cache, doctype := none, dropXmlDecl := dropd }
          (flattenList p)).bind (Genshi.Reader.tokens false) = some toks ∧
      ∀ t ∈ toks, TokSafeP cfg t := by
  obtain ⟨p, hp, hsan⟩ := pruneList_ok cfg hok
  have hgood := pruneList_goodP cfg ns p hpl hp
  obtain ⟨⟨h1, h2⟩, h3⟩ := forestF_good hm p hgood
  refine ⟨p, Genshi.Reader.htmlExpectedP (Genshi.Output.forestF p), hsan, ?_,
    htmlExpectedP_safe css_comments_dotall hm hcss _ h3⟩
  rw [Genshi.Output.render_forest .html cache dropd h1 h2, Option.bind_some]
  exact Genshi.Reader.html_roundtrip_prolog_nogt _ _ _ (okAllP_of_good hm _ h3 false).1 (foldP_raw_false hm _ h3)

-- non-vacuity: a DOCTYPE whose quotes are NOT balanced (name `a"b`: outside C08's `dtScan false`, inside
-- this theorem), a kept PI, a DOCTYPE holding `>` (dropped) and a PI holding `>` (dropped)
example : prologForest [.leaf (.doctype ['a', '"', 'b'] none (some ['x', '.', 'd', 't', 'd'])),
    .elem divTag [] [.leaf (.pi ['p', 'h', 'p'] ['e', 'c', 'h', 'o']), .leaf (.text ['a', '<'] false),
      .leaf (.pi ['x'] ['a', '>', '<', 's'])],
    .leaf (.doctype ['h', 't', 'm', 'l'] none (some ['x', '\'', '>', '<', 's', '>']))] = true := by decide
example : Genshi.Reader.dtScan false none (Genshi.Reader.doctypeContent ['a', '"', 'b'] none none) = false := by decide
example : prologForest [.leaf (.xmlDecl ['1', '.', '0'] none (-1)), .leaf (.doctype ['a', '"', 'b'] none none),
    .elem divTag [] [.leaf (.text ['"', 'x'] false)]] = true := by decide
example : (do
    let o ← (sanitize Cfg.default [.xmlDecl ['1', '.', '0'] none (-1), .doctype ['a', '"', 'b'] none none, .start divTag [],
      .text ['"', 'x'] false, .end_ divTag]).toOption
    let txt ← Genshi.Output.render .html { strip := false, cache := true, doctype := none, dropXmlDecl := true } o
    Genshi.Reader.tokens false txt) =
    some [.doctype ['a', '"', 'b'], .text ['\n'], .start ['d', 'i', 'v'] [] false, .text ['"', 'x'], .end_ ['d', 'i', 'v']] := by
  decide +kernel
example : (do
    let o ← (sanitize Cfg.default [.doctype ['h', 't', 'm', 'l'] none (some ['x', '.', 'd', 't', 'd']), .start divTag [],
      .pi ['p', 'h', 'p'] ['e', 'c', 'h', 'o'], .text ['a', '<'] false, .pi ['x'] ['a', '>', '<', 's'], .end_ divTag,
      .doctype ['h', 't', 'm', 'l'] none (some ['x', '\'', '>', '<', 's', '>'])]).toOption
    let txt ← Genshi.Output.render .html { strip := false, cache := true, doctype := none, dropXmlDecl := true } o
    Genshi.Reader.tokens false txt) =
    some [.doctype ['h', 't', 'm', 'l', ' ', 'S', 'Y', 'S', 'T', 'E', 'M', ' ', '"', 'x', '.', 'd', 't', 'd', '"'], .text ['\n'],
      .start ['d', 'i', 'v'] [] false, .pi ['p', 'h', 'p', ' ', 'e', 'c', 'h', 'o', '?'], .text ['a', '<'], .end_ ['d', 'i', 'v']] := by
  decide +kernel

/-! ### the same for the XHTML method

  Composition of `dropped_subtree_absent` with C08's events-level `xhtml_roundtrip_prolog_partial`
  (`XhtmlOkAllP` / `foldXP`, a reader with a CDATA state).  Established by the filter: no CDATA
  marker reaches the serializer (the XML reader never enters a section), a kept PI holds no `>`
  and so no `?>`.  Asked of the *sanitized* forest `p` (the filter does not establish them; both
  are hypotheses of C08's XML round trip): no LF / TAB / CR in emitted attribute values
  (`forestAttrVals`, finding C08-attr-ws) and well-quoted emitted DOCTYPE literals
  (`forestDtQuoted` = C08's `dtScan true`: an XML tokenizer is quote-aware inside a DOCTYPE; a
  name like `a"b`, which no XML parser yields, would make it read on to the next quote —
  `xhtml_doctype_quote_witness` below); with them goes the analogous condition on XML declaration
  leaves (no `?>` in the literal `xml version="…" …`, only relevant with `drop_xml_decl=False`).  Any
  `drop_xml_decl`.  `_partial`: `strip_whitespace=False`, no doctype option, no namespace leaves,
  text leaves not Markup, tokenizer level (before namespace resolution). -/

theorem xhtml_reparse_prolog_safe_partial {cfg : Cfg} (hm : CfgMarkupOk cfg) (hcss : CssNamesPlain cfg)
    (cache dropd : Bool) (ns : List Node) (hok : okList ns = true) (hpl : prologForest ns = true) :
    ∃ p, sanitize cfg (flattenList ns) = .ok (flattenList p) ∧
      (forestAttrVals p = true → forestDtQuoted p = true →
        ∃ toks, (Genshi.Output.render .xhtml { strip := false, cache := cache, doctype := none, dropXmlDecl := dropd }
            (flattenList p)).bind (Genshi.Reader.tokens true) = some toks ∧
          ∀ t ∈ toks, TokSafeP cfg t) := by
  obtain ⟨p, hp, hsan⟩ := pruneList_ok cfg hok
  have hgood := pruneList_goodP cfg ns p hpl hp
  obtain ⟨⟨h1, h2⟩, h3⟩ := forestF_good hm p hgood
  refine ⟨p, hsan, fun hv hq => ?_⟩
  · have hx := forestF_extra p hv hq
    have hall : ∀ ev ∈ Genshi.Output.forestF p, FEvGood cfg ev ∧ XExtra ev := fun ev hev => ⟨h3 ev hev, hx ev hev⟩
    refine ⟨Genshi.Reader.xhtmlExpectedP ⟨dropd⟩ (Genshi.Output.forestF p), ?_,
      xhtmlExpectedP_safe css_comments_dotall hm hcss ⟨dropd⟩ _ hall⟩
    rw [Genshi.Output.render_forest .xhtml cache dropd h1 h2, Option.bind_some]
    exact Genshi.Props.C08.xhtml_roundtrip_prolog_partial _ _ _ (okAllXP_of_good hm ⟨dropd⟩ _ hall {})
      (foldXP_cd_none hm ⟨dropd⟩ _ hall {} {} rfl)

-- non-vacuity: a DOCTYPE, a kept PI, a PI holding `>` (dropped), a CDATA section (markers dropped), a
-- DOCTYPE holding `>` (dropped); the sanitized forest satisfies both extra hypotheses
example : prologForest [.leaf (.doctype ['h', 't', 'm', 'l'] none (some ['x', '.', 'd', 't', 'd'])),
    .elem divTag [] [.leaf (.pi ['p', 'h', 'p'] ['e', 'c', 'h', 'o']), .leaf .startCdata, .leaf (.text ['a', '<'] false),
      .leaf .endCdata, .leaf (.pi ['x'] ['a', '>', '<', 's'])],
    .leaf (.doctype ['h', 't', 'm', 'l'] none (some ['x', '\'', '>', '<', 's', '>']))] = true := by decide
example : forestAttrVals [.leaf (.xmlDecl ['1', '.', '0'] none (-1)), .leaf (.doctype ['h', 't', 'm', 'l'] none (some ['x', '.', 'd', 't', 'd'])),
      .elem divTag [] [.leaf (.pi ['p', 'h', 'p'] ['e', 'c', 'h', 'o']), .leaf (.text ['a', '<'] false)]] = true ∧
    forestDtQuoted [.leaf (.xmlDecl ['1', '.', '0'] none (-1)), .leaf (.doctype ['h', 't', 'm', 'l'] none (some ['x', '.', 'd', 't', 'd'])),
      .elem divTag [] [.leaf (.pi ['p', 'h', 'p'] ['e', 'c', 'h', 'o']), .leaf (.text ['a', '<'] false)]] = true := by decide
example : (do
    let o ← (sanitize Cfg.default [.xmlDecl ['1', '.', '0'] none (-1),
      .doctype ['h', 't', 'm', 'l'] none (some ['x', '.', 'd', 't', 'd']), .start divTag [],
      .pi ['p', 'h', 'p'] ['e', 'c', 'h', 'o'], .startCdata, .text ['a', '<'] false, .endCdata, .pi ['x'] ['a', '>', '<', 's'],
      .end_ divTag, .doctype ['h', 't', 'm', 'l'] none (some ['x', '\'', '>', '<', 's', '>'])]).toOption
    let txt ← Genshi.Output.render .xhtml { strip := false, cache := true, doctype := none, dropXmlDecl := false } o
    Genshi.Reader.tokens true txt) =
    some [.pi ['x', 'm', 'l', ' ', 'v', 'e', 'r', 's', 'i', 'o', 'n', '=', '"', '1', '.', '0', '"'], .text ['\n'],
      .doctype ['h', 't', 'm', 'l', ' ', 'S', 'Y', 'S', 'T', 'E', 'M', ' ', '"', 'x', '.', 'd', 't', 'd', '"'], .text ['\n'],
      .start ['d', 'i', 'v'] [] false, .pi ['p', 'h', 'p', ' ', 'e', 'c', 'h', 'o'], .text ['a', '<'], .end_ ['d', 'i', 'v']] := by
  decide +kernel

/-- The hypothesis `forestDtQuoted` is needed for an XML tokenizer (not for an HTML one, see
    `html_reparse_prolog_safe_partial`): the sanitizer keeps `<!DOCTYPE a"b>` (no `>` inside), and the
    quote-aware XML reader swallows the following start tag into the declaration (up to the next
    quote, here the one in the text) — expat itself rejects such a document. -/
theorem xhtml_doctype_quote_witness :
    sanitize Cfg.default [.doctype ['a', '"', 'b'] none none, .start divTag [], .text ['"', 'x'] false, .end_ divTag] =
      .ok [.doctype ['a', '"', 'b'] none none, .start divTag [], .text ['"', 'x'] false, .end_ divTag] ∧
    (Genshi.Output.render .xhtml { strip := false, cache := true, doctype := none, dropXmlDecl := true }
        [.doctype ['a', '"', 'b'] none none, .start divTag [], .text ['"', 'x'] false, .end_ divTag]).bind
      (Genshi.Reader.tokens true) ≠
      some [.doctype ['a', '"', 'b'], .text ['\n'], .start ['d', 'i', 'v'] [] false, .text ['"', 'x'], .end_ ['d', 'i', 'v']] := by
  decide +kernel

/-! ## The repeat-until-stable loops at any depth

  The code repeats reference decoding of an attribute value and comment removal of a style text
  `while` the text changes; the model carries fuel (`length + 1`).  The fuel is never what ends a
  loop: a pass that changes the text shortens it, so every larger fuel gives the same result —
  the model describes the unbounded `while` loops of the code at every depth, also for a value
  wrapped in thousands of `&amp;` layers (stream `deep` of the harness: model and code compared
  at depths beyond the interpreter's recursion limit), and the result is stable under one more
  pass. -/

theorem decode_loop_fuel_independent (s : Str) (g : Nat) (hg : s.length < g) : stripRefsFix g s = stripRefs s :=
  stripRefs_fuel s g hg

theorem comment_loop_fuel_independent (s : Str) (g : Nat) (hg : s.length < g) :
    stripCommentsFix Genshi.Gen.SanClass.commentsDotall g s = stripCssComments s := by
  unfold stripCssComments
  rw [css_comments_dotall]
  exact stripCommentsFix_fuel g (s.length + 1) s hg (Nat.lt_succ_self _)

theorem loops_end_stable (s : Str) :
    (∀ v, stripRefs s = .ok v → stripentities v = .ok v ∧ v.length ≤ s.length) ∧
    stripCommentsOnce Genshi.Gen.SanClass.commentsDotall (stripCssComments s) = stripCssComments s := by
  refine ⟨fun v h => ⟨stripRefs_fixed h, stripRefsFix_length _ s h⟩, ?_⟩
  unfold stripCssComments
  rw [css_comments_dotall]
  exact stripCommentsFix_fixed _ s (Nat.lt_succ_self _)

-- non-vacuity: three layers of `&amp;` need four passes; a staggered comment needs two
example : stripRefs ['&', 'a', 'm', 'p', ';', 'a', 'm', 'p', ';', 'a', 'm', 'p', ';', '#', '1', '0', '6', ';'] = .ok ['j'] := by
  decide +kernel
example : stripentities ['&', 'a', 'm', 'p', ';', 'a', 'm', 'p', ';', 'a', 'm', 'p', ';', '#', '1', '0', '6', ';'] =
    .ok ['&', 'a', 'm', 'p', ';', 'a', 'm', 'p', ';', '#', '1', '0', '6', ';'] := by decide +kernel
example : stripCssComments ['e', '/', '/', '*', '*', '/', '*', '*', '/', 'x'] = ['e', 'x'] ∧
    stripCommentsOnce true ['e', '/', '/', '*', '*', '/', '*', '*', '/', 'x'] = ['e', '/', '*', '*', '/', 'x'] := by decide +kernel

/-! ## The helpers of the sanitizer, one by one

  `_replace_unicode_escapes`, `_strip_css_comments`, `is_safe_css`, `is_safe_uri` and the
  attribute loop are each a model function of their own (`replaceUnicodeEscapes`,
  `stripCssComments`, `isSafeCss`, `isSafeUri`, `sanAttr`/`sanAttrs`), compared with the code one
  by one (streams `_replace_unicode_escapes`, `_strip_css_comments`, `is_safe_css`, `is_safe_uri`,
  `decode-loop`) besides the composite streams.  genshi has no special treatment of vendor
  prefixes, `behavior` or `-moz-binding`: such properties are dropped because they are not in
  `safe_css` — for every configuration (`unsafe_css_property_dropped`), and the default set holds
  none of them (`default_css_no_scripting_properties`, over the generated table). -/

/-- none of the helpers raises: escape decoding (hex escapes beyond U+10FFFF, surrogates, `\5c`,
    a trailing white-space character, backslash-newline, a backslash at the end), the attribute
    loop on one attribute, the decoding loop -/
theorem css_helpers_total (cfg : Cfg) (s : Str) (a : QName × Str) :
    (∃ r, replaceUnicodeEscapes s = .ok r) ∧ (∃ r, sanAttr cfg a = .ok r) ∧ (∃ r, stripRefs s = .ok r) :=
  ⟨replaceUnicodeEscapes_ok s, sanAttr_ok cfg a, stripRefs_ok s⟩

/-- `_strip_css_comments` leaves no complete comment `/*…*/` behind, however the comments are
    nested or staggered (the loop runs until the text is stable) -/
theorem strip_css_comments_complete (s : Str) : NoComment (stripCssComments s) :=
  stripCssComments_noComment css_comments_dotall s

/-- A declaration whose property (stripped, lower-cased) is not in `safe_css` is never emitted —
    for every configuration: vendor-prefixed properties, `behavior`, `-moz-binding`, … need no
    rule of their own. -/
theorem unsafe_css_property_dropped {cfg : Cfg} {piece d : Str} (h : cssDecl cfg piece = some d) :
    ∃ pn v, split1 ':' (pyStrip piece) = (pn, some v) ∧ pyLower (pyStrip pn) ∈ cfg.safeCss := by
  obtain ⟨pn, v, hsp, hsafe, _⟩ := cssDecl_some h
  exact ⟨pn, v, hsp, (isSafeCss_true hsafe).1⟩

def startsWithDash : Str → Bool
  | '-' :: _ => true
  | _ => false

/-- The default `SAFE_CSS` (generated from the class attribute) holds no property that runs code or
    binds behaviour, no vendor-prefixed property, and not `position`. -/
theorem default_css_no_scripting_properties :
    (∀ p ∈ [['b', 'e', 'h', 'a', 'v', 'i', 'o', 'r'], ['-', 'm', 'o', 'z', '-', 'b', 'i', 'n', 'd', 'i', 'n', 'g'],
            ['-', 'm', 's', '-', 'b', 'e', 'h', 'a', 'v', 'i', 'o', 'r'], ['-', 'o', '-', 'l', 'i', 'n', 'k'],
            ['f', 'i', 'l', 't', 'e', 'r'], ['p', 'o', 's', 'i', 't', 'i', 'o', 'n'], ['e', 'x', 'p', 'r', 'e', 's', 's', 'i', 'o', 'n']],
        p ∉ Cfg.default.safeCss) ∧
    (∀ p ∈ Cfg.default.safeCss, startsWithDash p = false) := by
  decide +kernel

-- non-vacuity: vendor-prefixed / behaviour properties are dropped, escapes with a trailing
-- white-space character and backslash-newline are decoded as the code does
example : sanitizeCss Cfg.default ['-', 'm', 'o', 'z', '-', 'b', 'i', 'n', 'd', 'i', 'n', 'g', ':', 'u', 'r', 'l', '(', 'x', ')', ';',
    'b', 'e', 'h', 'a', 'v', 'i', 'o', 'r', ':', 'u', 'r', 'l', '(', 'x', ')', ';', 'c', 'o', 'l', 'o', 'r', ':', 'r', 'e', 'd'] =
    .ok [['c', 'o', 'l', 'o', 'r', ':', 'r', 'e', 'd']] := by decide +kernel
example : replaceUnicodeEscapes ['\\', '6', '5', ' ', 'x', '\\', '6', '5', '\r', '\n', 'y', '\\', '\n', 'z', '\\'] =
    .ok ['e', 'x', 'e', 'y', '\\', '\n', 'z', '\\'] := by decide +kernel

end Genshi.Props.C06
