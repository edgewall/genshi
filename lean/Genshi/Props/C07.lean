/-
  C07 — Parsers are total and always deliver a well-formed event stream.
  Property theorems, with the definitions their statements need; the models are `Genshi/Model/Parse*.lean`, helper lemmas
  `Genshi/Lemmas/Parse*.lean`.

  Every theorem about the HTML layer holds for **every** sequence of batches of
  tokenizer callbacks (`reads`, then the batch made by `close()`), every
  `stripentities` and every `str.lower`; `html.parser` and Expat are not modelled.

  OBLIGATIONS (audited by the harness: `#print axioms` of each):
    html_events_wellnested html_delivered_balanced html_batching_irrelevant
    html_errors_are_parseerror html_base_exception_propagates
    html_void_clause_needs_tokenizer_contract void_table_is_html4 void_table_plain
    coalesce_merges_text coalesce_keeps_events coalesce_idempotent
    xml_layer_tree xml_tree_wellformed xml_batching_irrelevant
    xml_errors_are_parseerror_with_line xml_undefined_entity_position
    xml_html_entity_is_text xml_errors_are_parseerror xml_unknown_encoding_is_parseerror
    xml_source_failure_propagates xml_api_total
    html_stream_is_forest html_text_is_plain xml_text_is_plain
    endtag_closes_to_innermost_match endtag_without_match_closes_all void_endtag_ignored
    xml_layer_tree_merged events_determine_tree
    html_nothing_lost xml_events_are_callbacks
    html_positions_projection xml_positions_projection coalesce_positions_come_from_events
    html_closers_take_last_position xml_text_position
    html_text_cutting_irrelevant xml_text_cutting_irrelevant
    html_api_total
    xml_qname_of_expat_name xml_qname_faithful_iff xml_plain_name xml_brace_uri_loses_its_brace
    html_real_env_total real_env_strip_total lower_table_ascii lower_final_sigma
    html_event_kinds
    entity_table_resolves xml_html_entities_resolve merged_forest_is_normal
    open_tags_is_nesting_stack delivered_is_prefix_of_unbatched
    handle_pi_total handle_pi_shape handle_pi_fields handle_pi_takes_one_qmark html_decl_ignored
-/
import Genshi.Lemmas.ParseHtml
import Genshi.Lemmas.ParseXml
import Genshi.Lemmas.ParseTree
import Genshi.Lemmas.ParseContent
import Genshi.Lemmas.ParsePos
import Genshi.Lemmas.ParseSplit
import Genshi.Lemmas.ParseEnv
import Genshi.Lemmas.ParsePi
namespace Genshi.Props.C07
open Genshi Genshi.Parse

/-- all callbacks of a parse, batches forgotten -/
def htmlItems (reads : List HtmlRead) (close : List (Item HtmlCb)) : List (Item HtmlCb) :=
  (reads.map HtmlReadG.toRead).flatMap Read.toItems ++ close

/-- tokenizer contract for the void-element clause: no reported start tag name begins with a brace -/
def TagsOk (reads : List HtmlRead) (close : List (Item HtmlCb)) : Prop :=
  (htmlItems reads close).all itemTagOk = true

/-- Iterating lazily: whatever the batches, what the consumer has received when an exception arrives is
    a beginning of the stream the same callbacks give without any batching (`eager`, coalesced) — events
    are only ever withheld by a failure, never altered, and the exception is that run's exception. -/
theorem delivered_is_prefix_of_unbatched (env : Env) (reads : List HtmlRead) (close : List (Item HtmlCb)) :
    (htmlParse env reads close).1 <+: coalesce (eager (htmlLayer env) [] (htmlItems reads close)).1 ∧
    (htmlParse env reads close).2 = (eager (htmlLayer env) [] (htmlItems reads close)).2.map htmlHandler := by
  obtain ⟨h1, h2, _⟩ := parse_vs_eager (htmlLayer env) htmlHandler [] (reads.map HtmlReadG.toRead) close
  exact ⟨h2, h1⟩

/-- Whatever the tokenizer calls and however the calls are batched:
    when `HTMLParser` finishes without raising, the stream it delivered is well nested with nothing
    left open, has no two adjacent TEXT events, and — for tokenizers that never report a tag name
    beginning with a brace — every START of a void element is immediately followed by its END. -/
theorem html_events_wellnested (env : Env) (reads : List HtmlRead) (close : List (Item HtmlCb))
    (s : Stream) (h : htmlParse env reads close = (s, none)) :
    WellNested s ∧ noAdjText s = true ∧ (TagsOk reads close → voidClosed env.void s = true) := by
  obtain ⟨hnone, rfl⟩ := parse_finished h
  obtain ⟨st, hb, hst⟩ := eager_html_balance env (htmlItems reads close) []
  cases hst hnone
  exact ⟨(wellNested_coalesce _).2 hb, noAdjText_coalesceGo true _ none,
    fun hok => voidClosed_coalesceGo _ true _ none (eager_html_voidClosed env _ [] hok)⟩

/-- Also when the parse fails: what was delivered before the exception never closes an element
    that is not open (it is the beginning of a well-nested stream). -/
theorem html_delivered_balanced (env : Env) (reads : List HtmlRead) (close : List (Item HtmlCb)) :
    ∃ st, balance [] (htmlParse env reads close).1 = some st := by
  obtain ⟨⟨t, ht⟩, _⟩ := delivered_is_prefix_of_unbatched env reads close
  obtain ⟨st, hb, _⟩ := eager_html_balance env (htmlItems reads close) []
  have : balance [] (coalesce (eager (htmlLayer env) [] (htmlItems reads close)).1) = some st := by
    rw [coalesce, balance_coalesceGo]; exact hb
  rw [← ht] at this
  exact balance_prefix [] _ t st this

/-- The outcome depends only on the concatenation of the batches
    (where `read()` cuts the input, which batch `close()` flushes): same exception or none, and
    without an exception the same stream. Chunk boundaries cannot lose, duplicate or reorder events. -/
theorem html_batching_irrelevant (env : Env) (reads reads' : List HtmlRead)
    (close close' : List (Item HtmlCb)) (h : htmlItems reads close = htmlItems reads' close') :
    (htmlParse env reads close).2 = (htmlParse env reads' close').2 ∧
    ((htmlParse env reads close).2 = none → (htmlParse env reads close).1 = (htmlParse env reads' close').1) :=
  parse_mergeData_congr (htmlData env) htmlHandler [] _ _ close close' (congrArg _ h)

/-- **The anchored state.** After any batch of callbacks that completes (played into the empty queue
    from the initial state, `feed`), `_open_tags` is exactly the stack of elements that the enqueued
    events have opened and not yet closed, and it holds no void element. -/
theorem open_tags_is_nesting_stack (env : Env) (items : List (Item HtmlCb)) (o : List Str) (q : Stream)
    (h : feed (htmlLayer env) [] [] items = .ok (o, q)) :
    balance [] q = some (o.map mkQName) ∧ ∀ t ∈ o, env.void.contains t = false := by
  rw [feed_nil_eq_run] at h
  refine ⟨run_html_balance env items [] o q h, ?_⟩
  have := run_html_noVoid env items [] o q h rfl
  simp only [noVoid, List.all_eq_true, Bool.not_eq_true'] at this
  exact this

/-- "delivers a well-formed event stream" as a tree statement: the stream of a parse that finishes
    is the flattening of exactly one forest of elements whose leaves are the non START/END events. -/
theorem html_stream_is_forest (env : Env) (reads : List HtmlRead) (close : List (Item HtmlCb))
    (s : Stream) (h : htmlParse env reads close = (s, none)) :
    ∃ ns, (okList ns = true ∧ flattenList ns = s) ∧
      ∀ ms, okList ms = true → flattenList ms = s → ms = ns :=
  wellNested_unique_forest s (html_events_wellnested env reads close s h).1

/-- documented kinds: whatever `HTMLParser` delivers (also before a failure) is a START, END, TEXT,
    COMMENT or PI event — never a DOCTYPE, XML declaration, namespace or CDATA event -/
theorem html_event_kinds (env : Env) (reads : List HtmlRead) (close : List (Item HtmlCb)) (e : Event)
    (h : e ∈ (htmlParse env reads close).1) : htmlKind e = true := by
  obtain ⟨⟨t, ht⟩, _⟩ := delivered_is_prefix_of_unbatched env reads close
  have hm : e ∈ coalesce (eager (htmlLayer env) [] (htmlItems reads close)).1 := by
    rw [← ht]; exact List.mem_append_left _ h
  rcases mem_coalesceGo true _ none e hm with ⟨t, rfl⟩ | ⟨_, h'⟩
  · rfl
  · exact eager_html_kinds env _ [] e h'

/-- documented types: TEXT data is a plain `str` (never `Markup`), also in what is delivered before a failure -/
theorem html_text_is_plain (env : Env) (reads : List HtmlRead) (close : List (Item HtmlCb)) (t : Str) (b : Bool)
    (h : Event.text t b ∈ (htmlParse env reads close).1) : b = false :=
  parse_text_plain _ _ _ _ _ t b h

/-- what an end tag does (the surprising but well-nested rule): `</tag>` closes every open element
    up to and including the innermost one whose name equals `tag` ignoring case … -/
theorem endtag_closes_to_innermost_match (env : Env) (tag : Str) (hv : env.void.contains tag = false)
    (pre : List Str) (t : Str) (post : List Str)
    (hpre : ∀ x ∈ pre, env.lower x ≠ env.lower tag) (ht : env.lower t = env.lower tag) :
    htmlStep env (pre ++ t :: post) (.endtag tag) =
      .ok (post, (pre ++ [t]).map fun x => Event.end_ (mkQName x)) := by
  simp only [htmlStep, handleEndtag, hv, Bool.false_eq_true, ↓reduceIte]
  rw [popTo_match env tag pre t post hpre ht]

/-- … and **everything** that is open when no open element has that name -/
theorem endtag_without_match_closes_all (env : Env) (tag : Str) (hv : env.void.contains tag = false)
    (o : List Str) (h : ∀ x ∈ o, env.lower x ≠ env.lower tag) :
    htmlStep env o (.endtag tag) = .ok ([], o.map fun x => Event.end_ (mkQName x)) := by
  simp only [htmlStep, handleEndtag, hv, Bool.false_eq_true, ↓reduceIte]
  rw [popTo_nomatch env tag o h]

/-- the end tag of a void element is ignored -/
theorem void_endtag_ignored (env : Env) (tag : Str) (hv : env.void.contains tag = true) (o : List Str) :
    htmlStep env o (.endtag tag) = .ok (o, []) := by
  simp only [htmlStep, handleEndtag, hv, ↓reduceIte]

/-- **Nothing is lost, duplicated or reordered** — at no batch boundary, by no end tag, not at end of
    input: the character data of the delivered stream is the concatenation of the character data of
    the callbacks, and its START / COMMENT / PI events are, in order, those of the callbacks. -/
theorem html_nothing_lost (env : Env) (reads : List HtmlRead) (close : List (Item HtmlCb))
    (s : Stream) (h : htmlParse env reads close = (s, none)) :
    textOf s = (htmlItems reads close).flatMap itemText ∧
    mainEvents s = (htmlItems reads close).flatMap (itemMain env) := by
  obtain ⟨hnone, rfl⟩ := parse_finished h
  rw [textOf_coalesce, mainEvents_coalesce]
  exact eager_html_content env _ [] hnone

/-- Strengthens `html_batching_irrelevant`. `html.parser` cuts
    character data into `handle_data` calls where the chunks happen to end. The outcome depends only on
    the callback sequence with adjacent `handle_data` calls merged — neither on the batches nor on how
    the text was cut. (This is the condition under which the oracle demands chunking invariance of the
    real parser: equal merged callback traces.) -/
theorem html_text_cutting_irrelevant (env : Env) (reads reads' : List HtmlRead)
    (close close' : List (Item HtmlCb))
    (h : mergeData (htmlData env) (htmlItems reads close) = mergeData (htmlData env) (htmlItems reads' close')) :
    (htmlParse env reads close).2 = (htmlParse env reads' close').2 ∧
    ((htmlParse env reads close).2 = none → (htmlParse env reads close).1 = (htmlParse env reads' close').1) :=
  parse_mergeData_congr (htmlData env) htmlHandler [] _ _ close close' h

/-- every exception the environment can raise below the layer is an `Exception` -/
def OnlyExceptions (env : Env) (reads : List HtmlRead) (close : List (Item HtmlCb)) : Prop :=
  (∀ v e, env.strip v = .error e → e.isBase = false) ∧ (htmlItems reads close).all itemNoBase = true

/-- If `stripentities`, `read()` and the tokenizer raise nothing
    but `Exception`s, the only thing that leaves `HTMLParser` is `ParseError` (without position):
    every failure path of the layer itself (`stripentities`, `unichr`, `int`, the bytes check) is
    converted. -/
theorem html_errors_are_parseerror (env : Env) (reads : List HtmlRead) (close : List (Item HtmlCb))
    (hex : OnlyExceptions env reads close) (r : Raised) (h : (htmlParse env reads close).2 = some r) :
    r = .parseError (-1) (-1) := by
  have a1 := (delivered_is_prefix_of_unbatched env reads close).2
  rw [h] at a1
  cases he : (eager (htmlLayer env) [] (htmlItems reads close)).2 with
  | none => rw [he] at a1; simp at a1
  | some e =>
    rw [he] at a1
    simp only [Option.map_some, Option.some.injEq] at a1
    have hb := eager_html_noBase env hex.1 _ [] e hex.2 he
    cases e with
    | base n => simp [PyExc.isBase] at hb
    | exc n => rw [a1]; rfl
    | expat l c => rw [a1]; rfl
    | codec l c => rw [a1]; rfl

/-- `HTML(text)` = `Stream(list(HTMLParser(…)))`: the list is built only when nothing was raised -/
def htmlCall (env : Env) (reads : List HtmlRead) (close : List (Item HtmlCb)) : Except Raised Stream :=
  match htmlParse env reads close with
  | (s, none) => .ok s
  | (_, some r) => .error r

/-- **Totality, as the API shows it.** For every input the tokenizer can turn into callbacks, in any
    batches, with an environment that raises nothing but `Exception`s: `HTML(text)` either returns a
    stream that is well nested, merged, void-closed (under the tokenizer contract) and the flattening of
    a forest (the only one: `html_stream_is_forest`) — or it raises `ParseError`. There is no third outcome. -/
theorem html_api_total (env : Env) (reads : List HtmlRead) (close : List (Item HtmlCb))
    (hex : OnlyExceptions env reads close) :
    (∃ s, htmlCall env reads close = .ok s ∧ WellNested s ∧ noAdjText s = true ∧
        (TagsOk reads close → voidClosed env.void s = true) ∧
        ∃ ns, okList ns = true ∧ flattenList ns = s) ∨
    htmlCall env reads close = .error (.parseError (-1) (-1)) := by
  unfold htmlCall
  cases hp : htmlParse env reads close with
  | mk s err =>
    cases err with
    | none =>
      left
      obtain ⟨h1, h2, h3⟩ := html_events_wellnested env reads close s hp
      obtain ⟨ns, hns, _⟩ := html_stream_is_forest env reads close s hp
      exact ⟨s, rfl, h1, h2, h3, ns, hns⟩
    | some r =>
      right
      have := html_errors_are_parseerror env reads close hex r (by rw [hp])
      simp [this]

/-- … and only those (`except Exception`), on one parse: a `BaseException` that is not an `Exception`, raised by
    the tokenizer in the second batch, leaves unchanged. -/
theorem html_base_exception_propagates (env : Env) (n : Str) :
    htmlParse env [.text [.cb (.data ['x'])], .text [.raise (.base n)]] [] = ([], some (.propagate n)) := by
  simp [htmlParse, parse, generate, feed, htmlLayer, htmlStep, HtmlReadG.toRead, htmlHandler, coalesceGo]

/-- The void clause of `html_events_wellnested` really needs the tokenizer contract: `QName('{br')`
    is `br`, but `'{br'` is not in `_EMPTY_ELEMS`, so a tokenizer reporting the tag `{br` would get
    a START `br` that is closed only at the end of input. -/
theorem html_void_clause_needs_tokenizer_contract :
    let env : Env := ⟨fun v => .ok v, asciiLower, Genshi.Gen.Output.parserEmptyElems⟩
    let r := htmlParse env [.text [.cb (.starttag ['{', 'b', 'r'] []), .cb (.data ['x'])]] []
    r.2 = none ∧ WellNested r.1 ∧ voidClosed env.void r.1 = false := by
  decide +kernel

/-- HTML 4.01 void elements (the specification's list, not the code's) -/
def html4Void : List Str := [
  ['a','r','e','a'], ['b','a','s','e'], ['b','a','s','e','f','o','n','t'], ['b','r'], ['c','o','l'],
  ['f','r','a','m','e'], ['h','r'], ['i','m','g'], ['i','n','p','u','t'], ['i','s','i','n','d','e','x'],
  ['l','i','n','k'], ['m','e','t','a'], ['p','a','r','a','m']]

/-- the generated `HTMLParser._EMPTY_ELEMS` is exactly the HTML 4.01 list -/
theorem void_table_is_html4 :
    (∀ t ∈ Genshi.Gen.Output.parserEmptyElems, t ∈ html4Void) ∧
    (∀ t ∈ html4Void, t ∈ Genshi.Gen.Output.parserEmptyElems) := by
  decide +kernel

/-- … and its names are plain: `QName(name)` has no namespace and the name as local name, so the
    void clause above speaks about exactly the elements the code treats as void -/
theorem void_table_plain : plainNames Genshi.Gen.Output.parserEmptyElems := by
  unfold plainNames; decide +kernel

/-- adjacent text is merged into one event … -/
theorem coalesce_merges_text (s : Stream) :
    noAdjText (coalesce s) = true ∧ textOf (coalesce s) = textOf s :=
  ⟨noAdjText_coalesceGo true s none, textOf_coalesce s⟩

/-- … nothing else is touched: the other events stay, in order, and nesting is unchanged -/
theorem coalesce_keeps_events (s : Stream) (st : List QName) :
    (coalesce s).filter (fun e => !isText e) = s.filter (fun e => !isText e) ∧
    balance st (coalesce s) = balance st s :=
  ⟨filter_nontext_coalesceGo s none, balance_coalesceGo true s none st⟩

theorem coalesce_idempotent (s : Stream) : coalesce (coalesce s) = coalesce s := coalesce_idem s

/-- for **every** sequence of Expat callbacks that does not fail (tree or not): the delivered stream
    is what the handler calls enqueue, in order, with adjacent text merged — whatever the batches -/
theorem xml_events_are_callbacks (reads : List XmlRead) (close : List (Item XmlCb))
    (h : firstFailure ((reads.map XmlReadG.toRead).flatMap Read.toItems ++ close) = none) :
    xmlParse reads close = (coalesce (((reads.map XmlReadG.toRead).flatMap Read.toItems ++ close).flatMap xItemEvents), none) := by
  obtain ⟨a1, _, a3⟩ := parse_vs_eager xmlLayer xmlHandler () (reads.map XmlReadG.toRead) close
  obtain ⟨e1, e2⟩ := eager_xml ((reads.map XmlReadG.toRead).flatMap Read.toItems ++ close)
  rw [e1, h] at a1
  exact Prod.ext (by rw [← e2 h]; exact (a3 a1).2) a1

/-- When the handler calls Expat makes are the traversal of a forest (prolog,
    root element, epilog; character data split into pieces in any way; namespace declarations
    reported around their element; default-handler calls for white space outside the root and for the
    internal DTD subset, none of them a reference), then however the calls are batched the parser delivers the
    flattening of that forest with adjacent text merged — START_NS/END_NS bracket their element —
    and raises nothing. -/
theorem xml_layer_tree (doc : List XNode) (hwf : wfList doc = true)
    (reads : List (List (Item XmlCb))) (close : List (Item XmlCb))
    (h : reads.flatten ++ close = (callbacksList doc).map Item.cb) :
    xmlParse (reads.map XmlReadG.chunk) close = (coalesce (flattenList (toNodesList doc)), none) := by
  -- the traversal of a forest is a callback sequence without failure; what its calls enqueue is the flattening
  have := xml_events_are_callbacks (reads.map XmlReadG.chunk) close
  rw [xmlReads_items, h, List.flatMap_map] at this
  rw [this (firstFailure_of_allOk _ (callbacks_allOk_both.2 doc hwf))]
  exact congrArg (fun s => (coalesce s, none)) (callbacks_events_both.2 doc hwf)

/-- the stream of a tree traversal is well nested and has no adjacent text -/
theorem xml_tree_wellformed (doc : List XNode) (hwf : wfList doc = true)
    (reads : List (List (Item XmlCb))) (close : List (Item XmlCb))
    (h : reads.flatten ++ close = (callbacksList doc).map Item.cb) :
    WellNested (xmlParse (reads.map XmlReadG.chunk) close).1 ∧
    noAdjText (xmlParse (reads.map XmlReadG.chunk) close).1 = true := by
  rw [xml_layer_tree doc hwf reads close h]
  exact ⟨(wellNested_coalesce _).2 (wellNested_flattenList _ (toNodes_ok_both.2 doc)), noAdjText_coalesceGo true _ none⟩

/-- the same with the merging done on the tree: the stream is the flattening of the document forest
    in which each maximal run of character data is one text node -/
theorem xml_layer_tree_merged (doc : List XNode) (hwf : wfList doc = true)
    (reads : List (List (Item XmlCb))) (close : List (Item XmlCb))
    (h : reads.flatten ++ close = (callbacksList doc).map Item.cb) :
    xmlParse (reads.map XmlReadG.chunk) close = (flattenList (mergeForest (toNodesList doc)), none) := by
  rw [xml_layer_tree doc hwf reads close h, coalesce_flattenList]

/-- … and that forest is in normal form: no two text leaves are adjacent, at any depth -/
theorem merged_forest_is_normal (ns : List Node) :
    noAdjLeavesList (mergeForest ns) = true ∧ coalesce (flattenList ns) = flattenList (mergeForest ns) :=
  ⟨mergeForest_normal ns, coalesce_flattenList ns⟩

/-- comparing event streams is comparing trees: two well-formed forests with the same events are equal -/
theorem events_determine_tree (a b : List Node) (ha : okList a = true) (hb : okList b = true)
    (h : flattenList a = flattenList b) : a = b :=
  flattenList_inj a b ha hb h

theorem xml_text_is_plain (reads : List XmlRead) (close : List (Item XmlCb)) (t : Str) (b : Bool)
    (h : Event.text t b ∈ (xmlParse reads close).1) : b = false :=
  parse_text_plain _ _ _ _ _ t b h

def xmlItems (reads : List XmlRead) (close : List (Item XmlCb)) : List (Item XmlCb) :=
  (reads.map XmlReadG.toRead).flatMap Read.toItems ++ close

/-- For every sequence of Expat callbacks (tree or not): the outcome
    depends only on the concatenation of the batches. -/
theorem xml_batching_irrelevant (reads reads' : List XmlRead) (close close' : List (Item XmlCb))
    (h : xmlItems reads close = xmlItems reads' close') :
    (xmlParse reads close).2 = (xmlParse reads' close').2 ∧
    ((xmlParse reads close).2 = none → (xmlParse reads close).1 = (xmlParse reads' close').1) ∧
    noAdjText (xmlParse reads close).1 = true := by
  obtain ⟨h1, h2⟩ := parse_mergeData_congr xmlData xmlHandler () _ _ close close' (congrArg _ h)
  exact ⟨h1, h2, parse_noAdjText ..⟩

/-- the same for Expat's `CharacterDataHandler` calls -/
theorem xml_text_cutting_irrelevant (reads reads' : List XmlRead) (close close' : List (Item XmlCb))
    (h : mergeData xmlData (xmlItems reads close) = mergeData xmlData (xmlItems reads' close')) :
    (xmlParse reads close).2 = (xmlParse reads' close').2 ∧
    ((xmlParse reads close).2 = none → (xmlParse reads close).1 = (xmlParse reads' close').1) :=
  parse_mergeData_congr xmlData xmlHandler () _ _ close close' h

/-- **Qualified names, exactly.** Expat reports a namespaced name as `uri}local` (it refuses URIs that
    contain the separator `}`); the layer hands `QName` that string. For **every** such URI and every local
    part — also one that contains `}`: only the first `}` separates — the qualified name has the local part
    as it is and the URI without its leading `{`s as namespace (`QName` strips them: `qname.lstrip('{')`). -/
theorem xml_qname_of_expat_name (uri loc : Str) (h1 : '}' ∉ uri) :
    mkQName (uri ++ '}' :: loc) = ⟨lstripBrace uri, loc⟩ :=
  mkQName_expat_name_exact uri loc h1

/-- … so the name Expat reported is recovered — "the same qualified names as an independent parser" —
    **exactly when** the URI does not begin with `{`. The other URIs are the class of the known finding
    C07-xml-brace-namespace (witness `xml_brace_uri_loses_its_brace`); nothing else is excluded. -/
theorem xml_qname_faithful_iff (uri loc : Str) (h1 : '}' ∉ uri) :
    mkQName (uri ++ '}' :: loc) = ⟨uri, loc⟩ ↔ uri.head? ≠ some '{' := by
  rw [xml_qname_of_expat_name uri loc h1, ← lstripBrace_eq_self_iff]
  constructor
  · intro h; exact congrArg QName.ns h
  · intro h; rw [h]

/-- names without namespace: the local name is the name without leading `{`s — the name itself for every
    XML name (they contain no braces) -/
theorem xml_plain_name (s : Str) (h1 : '}' ∉ s) :
    mkQName s = ⟨[], lstripBrace s⟩ ∧ (s.head? ≠ some '{' → mkQName s = ⟨[], s⟩) :=
  ⟨mkQName_plain_name_exact s h1, fun h2 => mkQName_plain_name s h1 h2⟩

/-- a URI on the other side of `xml_qname_faithful_iff`: for `<a xmlns="{u"/>` Expat reports START_NS `{u` and the
    element name `{u}a`; the START event carries the namespace `u` -/
theorem xml_brace_uri_loses_its_brace :
    mkQName (['{','u'] ++ '}' :: ['a']) ≠ ⟨['{','u'], ['a']⟩ ∧
    (xmlParse [.chunk [.cb (.startNs none (some ['{','u'])), .cb (.startElement ['{','u','}','a'] []),
                       .cb (.endElement ['{','u','}','a']), .cb (.endNs none)]] []).1 =
      [.startNs [] ['{','u'], .start ⟨['u'], ['a']⟩ [], .end_ ⟨['u'], ['a']⟩, .endNs []] := by
  decide +kernel

/-- The first failure among the concatenated batches decides:
    an `ExpatError` — raised by Expat or by `_handle_other` for an undefined entity — leaves as
    `ParseError` carrying exactly its line and column. -/
theorem xml_errors_are_parseerror_with_line (reads : List XmlRead) (close : List (Item XmlCb)) :
    (xmlParse reads close).2 = (firstFailure (xmlItems reads close)).map xmlHandler ∧
    ∀ l c, firstFailure (xmlItems reads close) = some (.expat l c) →
      (xmlParse reads close).2 = some (.parseError l c) := by
  obtain ⟨a1, _, _⟩ := parse_vs_eager xmlLayer xmlHandler () (reads.map XmlReadG.toRead) close
  rw [(eager_xml _).1] at a1
  refine ⟨a1, ?_⟩
  intro l c hf
  unfold xmlParse
  rw [a1]
  unfold xmlItems at hf
  rw [hf]; rfl

/-- an entity reference that Expat hands to the default handler and that is not an HTML entity is
    reported at the position Expat had when it made the call -/
theorem xml_undefined_entity_position (name : Str) (l c : Int) (pre : List (Item XmlCb))
    (hpre : firstFailure pre = none) (hundef : lookupEntity (innerName ('&' :: name)) = none)
    (rest close : List (Item XmlCb)) :
    (xmlParse [.chunk (pre ++ .cb (.default_ ('&' :: name) l c) :: rest)] close).2 = some (.parseError l c) := by
  apply (xml_errors_are_parseerror_with_line _ _).2
  simp only [xmlItems, List.map_cons, List.map_nil, XmlReadG.toRead, List.flatMap_cons, Read.toItems,
    List.flatMap_nil, List.append_nil, List.append_assoc]
  rw [firstFailure_append _ _ hpre]
  simp only [List.cons_append, firstFailure, handleOther, hundef]

/-- over the *generated* entity table (`entities.name2codepoint` of the running interpreter): every name
    is found with its own code point (no name is shadowed by an earlier row) and every code point is a
    Unicode scalar value -/
theorem entity_table_resolves :
    ∀ p ∈ Genshi.Gen.Parse.entities, lookupEntity p.1 = some p.2 ∧ p.2 < 0x110000 ∧ ¬ (0xD800 ≤ p.2 ∧ p.2 ≤ 0xDFFF) := by
  -- the rows are written sorted by name, so one pass over adjacent rows shows the names distinct
  have hasc : keysAscending Genshi.Gen.Parse.entities = true := by decide +kernel
  have hscalar : ∀ p ∈ Genshi.Gen.Parse.entities, p.2 < 0x110000 ∧ ¬ (0xD800 ≤ p.2 ∧ p.2 ≤ 0xDFFF) := by
    decide +kernel
  intro p hp
  refine ⟨?_, hscalar p hp⟩
  rw [lookupEntity, find?_key_of_ascending _ hasc p hp]; rfl

/-- hence every HTML entity reference that reaches the default handler (`&name;`) becomes the one
    character it names, in both layers -/
theorem xml_html_entities_resolve (p : Str × Nat) (hp : p ∈ Genshi.Gen.Parse.entities) (l c : Int) :
    handleOther ('&' :: p.1 ++ [';']) l c = .ok [.text [Char.ofNat p.2] false] ∧
    entityrefText p.1 = [Char.ofNat p.2] := by
  have h := (entity_table_resolves p hp).1
  have hi : innerName ('&' :: p.1 ++ [';']) = p.1 := by simp [innerName]
  constructor
  · simp only [List.cons_append] at hi ⊢
    simp only [handleOther, hi, h]
  · simp only [entityrefText, h]

/-- an HTML entity handed to the default handler becomes character data -/
theorem xml_html_entity_is_text :
    xmlParse [.chunk [.cb (.startElement ['a'] []), .cb (.default_ ['&','n','b','s','p',';'] 1 3),
      .cb (.characterData ['x']), .cb (.endElement ['a'])]] [] =
    ([.start ⟨[], ['a']⟩ [], .text [Char.ofNat 160, 'x'] false, .end_ ⟨[], ['a']⟩], none) := by
  decide +kernel

/-- what Expat and pyexpat raise on their own: an `ExpatError`, or the codec machinery's exception for an
    encoding Python cannot provide -/
def xmlTokenizerError : PyExc → Bool
  | .expat _ _ => true
  | .codec _ _ => true
  | _ => false

/-- `read()` does not fail and nothing but the tokenizer's own errors is raised during `Parse` -/
def OnlyTokenizerErrors (reads : List XmlRead) (close : List (Item XmlCb)) : Prop :=
  ∀ e, Item.raise e ∈ xmlItems reads close → xmlTokenizerError e = true

/-- Whatever Expat calls, in whatever batches: if the source can be read
    and the handlers are genshi's own, the only thing that leaves `XMLParser` is `ParseError` — for text
    that is not well formed (Expat's error, also for a lone surrogate, which reaches Expat as an invalid
    byte sequence), for an undefined entity (`_handle_other`'s error) and for a declared encoding Python
    cannot provide (`_parse`) — and it carries the line and column of the failure that came first. -/
theorem xml_errors_are_parseerror (reads : List XmlRead) (close : List (Item XmlCb))
    (hex : OnlyTokenizerErrors reads close) (r : Raised) (h : (xmlParse reads close).2 = some r) :
    ∃ l c, r = .parseError l c ∧
      (firstFailure (xmlItems reads close) = some (.expat l c) ∨ firstFailure (xmlItems reads close) = some (.codec l c)) := by
  have h1 := (xml_errors_are_parseerror_with_line reads close).1
  rw [h1] at h
  cases hf : firstFailure (xmlItems reads close) with
  | none => rw [hf] at h; simp at h
  | some e =>
    rw [hf] at h
    simp only [Option.map_some, Option.some.injEq] at h
    have htok : xmlTokenizerError e = true := by
      rcases firstFailure_some _ e hf with hm | ⟨l, c, rfl⟩
      · exact hex e hm
      · rfl
    cases e with
    | expat l c => exact ⟨l, c, h.symm, .inl rfl⟩
    | codec l c => exact ⟨l, c, h.symm, .inr rfl⟩
    | exc n => simp [xmlTokenizerError] at htok
    | base n => simp [xmlTokenizerError] at htok

/-- `XML(text)` = `Stream(list(XMLParser(…)))`: the list is built only when nothing was raised -/
def xmlCall (reads : List XmlRead) (close : List (Item XmlCb)) : Except Raised Stream :=
  match xmlParse reads close with
  | (s, none) => .ok s
  | (_, some r) => .error r

/-- **Totality of the XML parser, as the API shows it.** Whatever Expat calls and however the calls are batched, if
    the source can be read and the handlers are genshi's own: `XML(text)` either returns the events the handler calls
    enqueue, in order, with adjacent text merged — or raises `ParseError` with a line and column. No third outcome. -/
theorem xml_api_total (reads : List XmlRead) (close : List (Item XmlCb)) (hex : OnlyTokenizerErrors reads close) :
    (∃ s, xmlCall reads close = .ok s ∧ noAdjText s = true ∧
        s = coalesce ((xmlItems reads close).flatMap xItemEvents)) ∨
    (∃ l c, xmlCall reads close = .error (.parseError l c)) := by
  unfold xmlCall
  cases hp : xmlParse reads close with
  | mk s err =>
    cases err with
    | none =>
      left
      obtain ⟨hn, rfl⟩ := parse_finished hp
      obtain ⟨e1, e2⟩ := eager_xml (xmlItems reads close)
      exact ⟨_, rfl, noAdjText_coalesceGo true _ none, congrArg coalesce (e2 (e1.symm.trans hn))⟩
    | some r =>
      right
      obtain ⟨l, c, hr, _⟩ := xml_errors_are_parseerror reads close hex r (by rw [hp])
      exact ⟨l, c, by rw [hr]⟩

/-- the case of the defect C07-xmlparser-unknown-encoding, on the model: `<?xml version="1.0" encoding="uf-8"?>`
    in a byte source — the declaration is reported, then pyexpat lets the `LookupError` of the codec lookup
    through; it leaves as `ParseError` at Expat's error position and nothing of the failing batch is delivered -/
theorem xml_unknown_encoding_is_parseerror :
    xmlParse [.chunk [.cb (.xmlDecl ['1','.','0'] (some ['u','f','-','8']) (-1)), .raise (.codec 1 30)]] [] =
      ([], some (.parseError 1 30)) := by
  decide +kernel

/-- what is *not* converted: an exception of the source's `read()` (or one a foreign handler raises) is no
    statement about the document and leaves `XMLParser` as it is -/
theorem xml_source_failure_propagates (n : Str) (pre : List (Item XmlCb)) (hpre : firstFailure pre = none)
    (rest : List XmlRead) (close : List (Item XmlCb)) :
    (xmlParse (.chunk pre :: .fail (.exc n) :: rest) close).2 = some (.propagate n) := by
  rw [(xml_errors_are_parseerror_with_line _ _).1]
  have : firstFailure (xmlItems (.chunk pre :: .fail (.exc n) :: rest) close) = some (.exc n) := by
    simp only [xmlItems, List.map_cons, XmlReadG.toRead, List.flatMap_cons, Read.toItems, List.append_assoc]
    rw [firstFailure_append _ _ hpre]; rfl
  rw [this]; rfl

/-! ## positions

The driver (`gdrv`) runs the models *with* positions (`htmlParseP`, `xmlParseP`: `_enqueue`'s stamping,
`_coalesce`'s `textpos`, the closers' re-used `pos`, the TEXT fix-up of the XML parser), and the
correspondence compares positions too. Every theorem above is about those same computations: -/

/-- forgetting the positions of what the positioned HTML model delivers gives exactly what the
    position-free model delivers for the same callbacks; the exception is the same -/
theorem html_positions_projection (env : Env) (reads : List HtmlReadP) (close : List (Item (HtmlCb × Pos))) :
    htmlParse env (reads.map (HtmlReadG.map Prod.fst)) (close.map (Item.map Prod.fst)) =
      (erase (htmlParseP env reads close).1, (htmlParseP env reads close).2) :=
  htmlParseP_erase env reads close

theorem xml_positions_projection (reads : List XmlReadP) (close : List (Item (XmlCb × Pos))) :
    xmlParse (reads.map (XmlReadG.map Prod.fst)) (close.map (Item.map Prod.fst)) =
      (erase (xmlParseP reads close).1, (xmlParseP reads close).2) :=
  xmlParseP_erase reads close

/-- `_coalesce` invents no position: every position it delivers is that of an incoming event -/
theorem coalesce_positions_come_from_events (f : Bool) (s : PStream) (x : PEvent)
    (h : x ∈ coalesceGoP f none s) : ∃ y ∈ s, y.2 = x.2 := by
  rcases coalesceGoP_positions f s none x h with h | ⟨b, hb, _⟩
  · exact h
  · simp at hb

/-- the END events that close what is still open at end of input all carry the position of the last
    event before them -/
theorem html_closers_take_last_position (env : Env) (items : List (Item (HtmlCb × Pos)))
    (h : (eager (htmlLayerP env) ⟨[], none⟩ items).2 = none) :
    ∃ q cl, (eager (htmlLayerP env) ⟨[], none⟩ items).1 = q ++ cl ∧
      ∀ x ∈ cl, isEnd x.1 = true ∧ x.2 = ((q.getLast?).map (·.2)).getD (-1, -1) := by
  obtain ⟨k', q, _, he, hl⟩ := eager_html_closers env items h
  refine ⟨q, closersP k', he, fun x hx => ?_⟩
  obtain ⟨t, _, rfl⟩ := List.mem_map.1 hx
  exact ⟨rfl, by rw [hl, lastPos, Option.or_none]⟩

/-- test vectors for `_enqueue`'s TEXT fix-up (`textPos`; Expat reports the end of the text): single-line text is
    moved back by its length, text with a line feed to its first line with unknown offset; `lineCount` is
    `len(data.splitlines())`, which also breaks at U+0085 and U+2028 -/
theorem xml_text_position :
    textPos ['f','o','o',' ','b','a','r'] (1, 13) = (1, 6) ∧
    textPos ['f','o','o','\n','b','a','r'] (2, 3) = (1, -1) ∧
    textPos ['a','\r','\n','b','\n'] (5, 0) = (4, -1) ∧
    lineCount ['a', Char.ofNat 0x85, 'b', Char.ofNat 0x2028, '\n', '\n'] = 4 := by
  decide +kernel

/-! ## the real environment

`realEnv` (what `gdrv` runs): `stripentities` as modelled by work package `san`, Python's `str.lower` (generated
per-character table and the final-sigma rule), the generated void table. -/

/-- `stripentities` never raises (san's totality theorem): the hypothesis about `strip` is discharged -/
theorem real_env_strip_total (v : Str) : ∃ r, realEnv.strip v = .ok r := stripReal_total v

/-- **Totality in the real environment**: for every input the tokenizer can turn into callbacks, in any batches,
    as long as `read()` and the tokenizer raise nothing but `Exception`s, `HTML(text)` returns a well-nested,
    merged, void-closed forest stream or raises `ParseError` — no hypothesis about `stripentities` or `lower` left -/
theorem html_real_env_total (reads : List HtmlRead) (close : List (Item HtmlCb))
    (hex : (htmlItems reads close).all itemNoBase = true) :
    (∃ s, htmlCall realEnv reads close = .ok s ∧ WellNested s ∧ noAdjText s = true ∧
        (TagsOk reads close → voidClosed realEnv.void s = true) ∧
        ∃ ns, okList ns = true ∧ flattenList ns = s) ∨
    htmlCall realEnv reads close = .error (.parseError (-1) (-1)) :=
  html_api_total realEnv reads close ⟨fun v e h => stripReal_noBase v e h, hex⟩

/-- over the *generated* `str.lower` table: on ASCII it is ASCII lower-casing (`A`–`Z` + 32, nothing else moves) -/
theorem lower_table_ascii :
    ∀ n < 128, lowerChar (Char.ofNat n) = [if 65 ≤ n ∧ n ≤ 90 then Char.ofNat (n + 32) else Char.ofNat n] := by
  -- the first run is `A`–`Z` onto `a`–`z`; every other row of the two tables starts above ASCII
  have hruns : Genshi.Gen.Parse.lowerRuns = (65, 90, 1, 97) :: Genshi.Gen.Parse.lowerRuns.tail := rfl
  have htail : ∀ r ∈ Genshi.Gen.Parse.lowerRuns.tail, 128 ≤ r.1 := by decide +kernel
  have hmulti : ∀ e ∈ Genshi.Gen.Parse.lowerMulti, 128 ≤ e.1 := by decide
  intro n hn
  have hnat : (Char.ofNat n).toNat = n := char_toNat_ofNat (.inl (by omega))
  have h1 : Genshi.Gen.Parse.lowerMulti.find? (fun e => e.1 = n) = none :=
    List.find?_eq_none.2 fun e he => by have := hmulti e he; simp only [decide_eq_true_eq]; omega
  have h2 : Genshi.Gen.Parse.lowerRuns.tail.find? (fun r => r.1 ≤ n && n ≤ r.2.1 && (n - r.1) % r.2.2.1 = 0) = none :=
    List.find?_eq_none.2 fun r hr => by have := htail r hr; simp only [Bool.and_eq_true, decide_eq_true_eq]; omega
  simp only [lowerChar, hnat, h1]
  rw [hruns, List.find?_cons, h2]
  by_cases h : 65 ≤ n ∧ n ≤ 90
  · simp only [h, and_self, decide_true, Nat.mod_one, Bool.and_self, if_true]
    rw [show 97 + (n - 65) = n + 32 by omega]
  · have : (decide (65 ≤ n) && decide (n ≤ 90)) = false := by simpa using h
    simp only [this, Bool.false_and, h, if_false]

/-- test vectors, over the generated classes, for the one context rule of `str.lower` (a capital sigma after a
    cased letter and not before one is the final sigma — also across case-ignorable characters — otherwise the
    small sigma) and for the one character whose lower case is two characters -/
theorem lower_final_sigma :
    pyLower [Char.ofNat 0x391, Char.ofNat 0x3A3] = [Char.ofNat 0x3B1, Char.ofNat 0x3C2] ∧
    pyLower [Char.ofNat 0x391, Char.ofNat 0x3A3, Char.ofNat 0x391] = [Char.ofNat 0x3B1, Char.ofNat 0x3C3, Char.ofNat 0x3B1] ∧
    pyLower [Char.ofNat 0x3A3] = [Char.ofNat 0x3C3] ∧
    pyLower ['a', '.', Char.ofNat 0x3A3, '\'', '1'] = ['a', '.', Char.ofNat 0x3C2, '\'', '1'] ∧
    pyLower ['1', Char.ofNat 0x3A3] = ['1', Char.ofNat 0x3C3] ∧
    pyLower [Char.ofNat 0x130] = ['i', Char.ofNat 0x307] := by
  decide +kernel

/-! ## `HTMLParser.handle_pi`

The callback gets everything between `<?` and `>`: for `<?php echo 1 ?>` the string `php echo 1 ?`. -/

/-- `handle_pi` never raises, leaves `_open_tags` alone and enqueues exactly one
    event, a PI — in every environment, for every string. -/
theorem handle_pi_total (env : Env) (o : List Str) (s : Str) :
    htmlStep env o (.pi s) = .ok (o, [piEvent s]) ∧ ∃ t d, piEvent s = .pi t d :=
  ⟨rfl, piEvent_isPi s⟩

/-- For every string: the target of the PI event contains no white space
    (`str.isspace`), and its data neither begins nor ends with white space (`strip` leaves it as it is). -/
theorem handle_pi_shape (s t d : Str) (h : piEvent s = .pi t d) :
    NoSp t ∧ Str.stripBy isPySpace d = d := by
  rw [piEvent_eq] at h
  exact piOf_shape _ t d h

/-- What target and data are — with or without the closing `?` of the XML form:
    `ws target ws+ data ws` gives `(target, data)` for every white-space-free non-empty target and every
    non-empty data without white space at its ends (white space inside the data is kept);
    `ws target ws` gives `(target, '')`, also for the empty target. -/
theorem handle_pi_fields :
    (∀ w0 t w1 d w2 : Str, AllSp w0 → NoSp t → t ≠ [] → AllSp w1 → w1 ≠ [] →
        Str.stripBy isPySpace d = d → d ≠ [] → AllSp w2 →
        piEvent (w0 ++ (t ++ (w1 ++ (d ++ w2))) ++ ['?']) = .pi t d ∧
        ((w0 ++ (t ++ (w1 ++ (d ++ w2)))).getLast? ≠ some '?' →
          piEvent (w0 ++ (t ++ (w1 ++ (d ++ w2)))) = .pi t d)) ∧
    (∀ w0 t w2 : Str, AllSp w0 → NoSp t → AllSp w2 →
        piEvent (w0 ++ (t ++ w2) ++ ['?']) = .pi t [] ∧
        ((w0 ++ (t ++ w2)).getLast? ≠ some '?' → piEvent (w0 ++ (t ++ w2)) = .pi t [])) := by
  exact ⟨fun w0 t w1 d w2 h0 ht hne h1 h1ne hd hdne h2 =>
      piEvent_of_piOf (piOf_two_fields w0 t w1 d w2 h0 ht hne h1 h1ne hd hdne h2),
    fun w0 t w2 h0 ht h2 => piEvent_of_piOf (piOf_one_field w0 t w2 h0 ht h2)⟩

/-- Only one `?` is taken off: `<?php??>` has the target `php?`
    (bug-compatible: `data[:-1]` once), and a `?` that is not the last character stays. -/
theorem handle_pi_takes_one_qmark :
    piEvent ['p','h','p','?','?'] = .pi ['p','h','p','?'] [] ∧
    piEvent ['a',' ','?',' '] = .pi ['a'] ['?'] ∧
    ∀ x : Str, dropLastQ (x ++ ['?']) = x := by
  refine ⟨by decide +kernel, by decide +kernel, dropLastQ_snoc⟩

/-! ## `handle_decl` / `unknown_decl` -/

/-- DOCTYPE declarations and marked sections (`<![CDATA[…]]>`, `<![if …]>`: the callbacks
    `handle_decl` / `unknown_decl`, which genshi does not override) enqueue nothing and leave `_open_tags` alone; taking
    them out of the callback sequence — wherever they stand, in any read or in the `close()` batch — changes nothing: the
    same events are delivered (text on both sides of a marked section is one TEXT event), the same exception is raised,
    and a lazy consumer has received the same events before a failure. -/
theorem html_decl_ignored (env : Env) (reads : List HtmlRead) (close : List (Item HtmlCb)) :
    (∀ o s, htmlStep env o (.decl s) = .ok (o, [])) ∧
    htmlParse env (reads.map dropDecl) (close.filter notDecl) = htmlParse env reads close := by
  refine ⟨fun _ _ => rfl, ?_⟩
  simp only [htmlParse, parse, generate_dropDecl]

/-! ## non-vacuity and test vectors -/

/-- hypotheses of `xml_errors_are_parseerror`: text, then Expat's own error in the second batch -/
example : OnlyTokenizerErrors [.chunk [.cb (.startElement ['a'] [])], .chunk [.cb (.characterData ['x']), .raise (.expat 2 5)]] [] ∧
    xmlParse [.chunk [.cb (.startElement ['a'] [])], .chunk [.cb (.characterData ['x']), .raise (.expat 2 5)]] [] =
      ([.start ⟨[], ['a']⟩ []], some (.parseError 2 5)) := by
  refine ⟨?_, by decide +kernel⟩
  intro e he
  simp only [xmlItems, List.map_cons, List.map_nil, XmlReadG.toRead, List.flatMap_cons, Read.toItems, List.flatMap_nil,
    List.append_nil, List.cons_append, List.nil_append, List.mem_cons, List.not_mem_nil, or_false, Item.raise.injEq,
    reduceCtorEq, false_or] at he
  subst he; rfl

/-- a URI that begins with a brace and a local part that contains the separator (`xml_qname_of_expat_name`) -/
example : mkQName (['{','{','u'] ++ '}' :: ['a','}','b']) = ⟨['u'], ['a','}','b']⟩ := by decide +kernel

/-- the end-tag rule in the real environment (`str.lower` from the generated table): `</B>` closes `b` and what is
    open inside it -/
example : htmlStep realEnv [['i'], ['b'], ['p']] (.endtag ['B']) = .ok ([['p']], [.end_ ⟨[], ['i']⟩, .end_ ⟨[], ['b']⟩]) := by
  decide +kernel

/-- `<p>a<br>b</i>c` with the text split over two reads: hypotheses of `html_events_wellnested`
    are met by a non-trivial parse -/
example :
    let env : Env := ⟨fun v => .ok v, asciiLower, Genshi.Gen.Output.parserEmptyElems⟩
    htmlParse env
      [.text [.cb (.starttag ['p'] [(['i','d'], none)]), .cb (.data ['a']), .cb (.starttag ['b','r'] [])],
       .text [.cb (.data ['b']), .cb (.endtag ['i']), .cb (.data ['c'])], .text [.cb (.data ['d'])]] [] =
    ([.start ⟨[], ['p']⟩ [(⟨[], ['i','d']⟩, ['i','d'])], .text ['a'] false, .start ⟨[], ['b','r']⟩ [],
      .end_ ⟨[], ['b','r']⟩, .text ['b'] false, .end_ ⟨[], ['p']⟩, .text ['c', 'd'] false], none) := by
  decide +kernel

/-- a failing `stripentities` in the second batch: ParseError, the first batch was delivered -/
example :
    let env : Env := ⟨fun v => if v = ['!'] then .error valueError else .ok v, asciiLower, Genshi.Gen.Output.parserEmptyElems⟩
    htmlParse env [.text [.cb (.starttag ['a'] []), .cb (.data ['x'])],
                   .text [.cb (.starttag ['b'] [(['h'], some ['!'])])]] [] =
    ([.start ⟨[], ['a']⟩ []], some (.parseError (-1) (-1))) := by
  decide +kernel

/-- two batchings of the same callbacks (hypothesis of `html_batching_irrelevant`) -/
example : htmlItems [.text [.cb (.data ['a'])], .text [.cb (.data ['b'])]] [] =
    htmlItems [.text [.cb (.data ['a']), .cb (.data ['b'])]] [] := rfl

/-- a document with a namespace declaration, split text and a comment (hypothesis of `xml_layer_tree`) -/
example :
    let doc := [XNode.elem ['u','}','a'] [(['i'], ['1'])] [(none, some ['u'])]
                  [.chars [['x'], ['y']], .comment ['c'], .elem ['b'] [] [] []]]
    xmlParse [.chunk ((callbacksList doc).map Item.cb)] [] =
      ([.startNs [] ['u'], .start ⟨['u'], ['a']⟩ [(⟨[], ['i']⟩, ['1'])], .text ['x','y'] false, .comment ['c'],
        .start ⟨[], ['b']⟩ [], .end_ ⟨[], ['b']⟩, .end_ ⟨['u'], ['a']⟩, .endNs []], none) := by
  decide +kernel

/-- `</B>` with `p` and `b` open above an `a`: hypotheses of `endtag_closes_to_innermost_match` -/
example :
    let env : Env := ⟨fun v => .ok v, asciiLower, Genshi.Gen.Output.parserEmptyElems⟩
    htmlStep env [['p'], ['b'], ['a']] (.endtag ['B']) =
      .ok ([['a']], [.end_ ⟨[], ['p']⟩, .end_ ⟨[], ['b']⟩]) := by rfl

/-- merging on the tree: two text pieces and a CDATA section next to each other -/
example : flattenList (mergeForest (toNodesList [XNode.elem ['a'] [] [] [.chars [['x'], ['y']], .chars [['z']]]])) =
    [.start ⟨[], ['a']⟩ [], .text ['x', 'y', 'z'] false, .end_ ⟨[], ['a']⟩] := by decide +kernel

/-- `ab` in one call or as `a`, `b` over two reads: hypothesis of `html_text_cutting_irrelevant` -/
example (env : Env) : mergeData (htmlData env) (htmlItems [.text [.cb (.data ['a'])], .text [.cb (.data ['b']), .cb (.endtag ['p'])]] []) =
    mergeData (htmlData env) (htmlItems [.text [.cb (.data ['a', 'b']), .cb (.endtag ['p'])]] []) := rfl

/-- `handle_pi` on the test-suite inputs: `<?php echo "Foobar" ?>`, `<?php?>`, `<?php ?>` -/
example : piEvent ['p','h','p',' ','e','c','h','o',' ','"','F','o','o','b','a','r','"',' ','?'] =
      .pi ['p','h','p'] ['e','c','h','o',' ','"','F','o','o','b','a','r','"'] ∧
    piEvent ['p','h','p','?'] = .pi ['p','h','p'] [] ∧ piEvent ['p','h','p',' ','?'] = .pi ['p','h','p'] [] ∧
    piEvent [Char.ofNat 160, 'a', Char.ofNat 0x85, 'b', ' ', 'c'] = .pi ['a'] ['b', ' ', 'c'] := by
  decide +kernel

/-- non-vacuity of `handle_pi_fields`: `<?php echo "x" ?>` and `<?xml-stylesheet?>`, NBSP and U+0085 as white space -/
example : AllSp [Char.ofNat 160] ∧ NoSp ['p','h','p'] ∧ AllSp [' ', Char.ofNat 0x85] ∧
    Str.stripBy isPySpace ['e','c','h','o',' ','1'] = ['e','c','h','o',' ','1'] ∧
    piEvent ([Char.ofNat 160] ++ (['p','h','p'] ++ ([' ', Char.ofNat 0x85] ++ (['e','c','h','o',' ','1'] ++ [' ']))) ++ ['?']) =
      .pi ['p','h','p'] ['e','c','h','o',' ','1'] := by
  decide +kernel

/-- non-vacuity of `handle_pi_shape` -/
example : piEvent ['a',' ','b',' ','c',' ','?'] = .pi ['a'] ['b',' ','c'] ∧ NoSp ['a'] ∧ ¬ NoSp ['b',' ','c'] := by decide +kernel

/-- non-vacuity: `<!DOCTYPE html><p>a<![CDATA[x]]>b` — the two texts around the marked section arrive as one -/
example :
    let env : Env := ⟨fun v => .ok v, asciiLower, Genshi.Gen.Output.parserEmptyElems⟩
    let reads : List HtmlRead := [.text [.cb (.decl ['D']), .cb (.starttag ['p'] []), .cb (.data ['a'])],
                                  .text [.cb (.decl ['C']), .cb (.data ['b'])]]
    (reads.map dropDecl).map (fun r => match r with | .text l => l.length | _ => 0) = [2, 1] ∧
    htmlParse env reads [] = ([.start ⟨[], ['p']⟩ [], .text ['a', 'b'] false, .end_ ⟨[], ['p']⟩], none) := by
  decide +kernel

/-- `handle_charref` / `handle_entityref`: `&#65;`, `&#x41;`, out of range, `&nbsp;`, an unknown name -/
example : charrefText ['6','5'] = .ok ['A'] ∧ charrefText ['x','4','1'] = .ok ['A'] ∧
    charrefText ['1','1','1','4','1','1','2'] = .error valueError ∧
    charrefText ['9','9','9','9','9','9','9','9','9','9','9'] = .error overflowError ∧
    entityrefText ['n','b','s','p'] = [Char.ofNat 160] ∧ entityrefText ['j'] = ['&','j',';'] := by
  decide +kernel

/-- positions: two reads, text merged across them keeps the first position, the closers re-use the last -/
example :
    let env : Env := ⟨fun v => .ok v, asciiLower, Genshi.Gen.Output.parserEmptyElems⟩
    htmlParseP env [.text [.cb (.starttag ['p'] [], (1, 0)), .cb (.data ['a'], (1, 3))],
                    .text [.cb (.data ['b'], (2, 0)), .cb (.starttag ['i'] [], (2, 1))]] [] =
    ([(.start ⟨[], ['p']⟩ [], (1, 0)), (.text ['a', 'b'] false, (1, 3)), (.start ⟨[], ['i']⟩ [], (2, 1)),
      (.end_ ⟨[], ['i']⟩, (2, 1)), (.end_ ⟨[], ['p']⟩, (2, 1))], none) := by
  decide +kernel

end Genshi.Props.C07
