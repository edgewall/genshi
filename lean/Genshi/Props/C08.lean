/-
  C08 — HTML and XHTML output re-parses to the stream that was serialised.
  Property theorems, with the few lemmas only they use; helper lemmas live in `Genshi/Lemmas/Reader*.lean`
  and `Output*.lean`.

  The readers (`Genshi.Reader.tokens`, `readHtml`, `readXml`) are specification-side:
  the smallest tokenizer accepting the serializers' output language, validated
  against `html.parser` / expat on real output by the correspondence check.

  OBLIGATIONS (checked by the harness: every name must be a theorem here, axioms audited):
    text_roundtrip attr_roundtrip_html attr_roundtrip_xhtml
    void_iff_html void_iff_xhtml void_table_is_html4 nonvoid_never_selfclosed
    bool_attr_html bool_attr_xhtml bool_table_covers_html4
    doctype_unique doctype_suppressed doctype_option_wins decl_policy_html decl_policy_xhtml decl_unique
    html_roundtrip_partial xhtml_roundtrip_partial html_render_roundtrip_partial xhtml_render_roundtrip_partial
    html_roundtrip_tree_partial xhtml_roundtrip_tree_partial html_roundtrip_tree_ns_partial
    xhtml_roundtrip_tree_ns_partial xhtml_roundtrip_cdata_partial cdata_end_not_recovered
    html_roundtrip_prolog_partial xhtml_roundtrip_prolog_partial pi_gt_not_recovered_html
    xhtml_roundtrip_tree_qnames_partial markup_text_as_plain html_roundtrip_markup_partial
    xhtml_roundtrip_markup_partial name_not_a_name_not_recovered rawtext_trailing_lt_recovered
    rawtext_endtag_not_recovered comment_dashes_not_recovered attr_ws_not_recovered_xhtml
    markup_text_not_recovered raw_table_matches_reader normEol_id doctype_table_is_w3c
    doctype_literal_roundtrip xmldecl_literal_roundtrip html_roundtrip_doc_partial xhtml_roundtrip_doc_tokens_partial
    xhtml_roundtrip_doc_partial output_no_cr xhtml_roundtrip_doc_readxml_partial doctype_gt_not_recovered_html
    wsfilter_forest wsfilter_forest_whole strip_is_norm_forest_partial html_roundtrip_tree_strip_partial
    xhtml_roundtrip_tree_strip_partial xhtml_roundtrip_tree_qnames_strip_partial
    html_roundtrip_doc_strip_partial xhtml_roundtrip_doc_strip_partial xhtml_roundtrip_doc_readxml_strip_partial
    preserve_table_is_pre_textarea html_roundtrip_tree_mixed_partial xhtml_roundtrip_tree_mixed_tokens_partial
    html_roundtrip_doc_mixed_partial strip_is_norm_forest_mixed_partial html_roundtrip_doc_mixed_strip_partial
    xhtml_roundtrip_tree_mixed_tokens_strip_partial xhtml_roundtrip_tree_mixed_qnames_partial
    xhtml_roundtrip_tree_mixed_qnames_strip_partial markup_leaves_as_plain_partial html_roundtrip_doc_markup_partial
    xhtml_roundtrip_doc_readxml_markup_partial
-/
import Genshi.Lemmas.ReaderXhtml
import Genshi.Lemmas.ReaderTree
import Genshi.Lemmas.ReaderTreeNs
import Genshi.Lemmas.ReaderXhtmlCdata
import Genshi.Lemmas.ReaderPrologSim
import Genshi.Lemmas.ReaderXmlView
import Genshi.Lemmas.ReaderDocView
import Genshi.Lemmas.OutputNoCR
import Genshi.Lemmas.OutputWsRender
import Genshi.Lemmas.ReaderTreeMixed
import Genshi.Lemmas.ReaderXmlViewMixed
import Genshi.Lemmas.OutputMarkupForest
import Genshi.Lemmas.OutputSafeText
import Genshi.Lemmas.Output
import Genshi.Lemmas.OutputFlatten
import Genshi.Model.OutputPipeline
namespace Genshi.Props.C08
open Genshi Genshi.Escape Genshi.Output Genshi.Reader

/-- Escaped character data (what every markup serializer writes for TEXT outside CDATA / script /
    style) is read back verbatim, appended to whatever character data precedes it — for every
    string, in HTML and XML mode. -/
theorem text_roundtrip (xml : Bool) (buf s : Str) (toks : List Tok) :
    feed xml (mk .data buf toks) (escapePy false s) = mk .data (buf ++ s) toks := by
  rw [escapePy_eq_spec, feed_data_escaped xml s _ rfl rfl]; simp [mk]

example : tokens false (escapePy false ['a', '<', '&', 'a', 'm', 'p', ';', '"']) =
    some [.text ['a', '<', '&', 'a', 'm', 'p', ';', '"']] := by decide +kernel

/-- An attribute written by the html serializer (`name="escape(value)"`) is read back with
    exactly its value, for every value. -/
theorem attr_roundtrip_html (buf : Str) (toks : List Tok) (t n v : Str) (ht : NameOk t) (hn : NameOk n) :
    feed false (mk .data buf toks) ('<' :: t ++ attrOut n v ++ ['>']) =
      mk (if rawTextElems.contains t then Mode.raw else Mode.data) []
        (.start t [(n, some v)] false :: flushToks buf toks) := by
  rw [attrOut, escapePy_eq_spec]; exact feed_start_attr false buf toks t n v ht hn nofun

/-- The same under XML, for every value without LF / TAB / CR (attribute-value normalisation,
    see `attr_ws_not_recovered_xhtml`). -/
theorem attr_roundtrip_xhtml (buf : Str) (toks : List Tok) (t n v : Str) (ht : NameOk t) (hn : NameOk n)
    (hv : AttrValOk true v) :
    feed true (mk .data buf toks) ('<' :: t ++ attrOut n v ++ ['>']) =
      mk .data [] (.start t [(n, some v)] false :: flushToks buf toks) := by
  rw [attrOut, escapePy_eq_spec]; exact feed_start_attr true buf toks t n v ht hn hv

example : tokens true (['<', 'a'] ++ attrOut ['t'] ['x', '"', '<', '&'] ++ ['>']) =
    some [.start ['a'] [(['t'], some ['x', '"', '<', '&'])] false] := by decide +kernel

/-- HTML 4.01 elements with EMPTY content model (specification side) -/
def html4Void : List Str :=
  [['a','r','e','a'], ['b','a','s','e'], ['b','a','s','e','f','o','n','t'], ['b','r'], ['c','o','l'],
   ['f','r','a','m','e'], ['h','r'], ['i','m','g'], ['i','n','p','u','t'], ['i','s','i','n','d','e','x'],
   ['l','i','n','k'], ['m','e','t','a'], ['p','a','r','a','m']]

/-- the sets the two serializers are driven by are exactly the HTML 4 void elements -/
theorem void_table_is_html4 :
    Gen.Output.htmlEmptyElems = html4Void.map (fun n => ([], n)) ∧
    Gen.Output.xhtmlEmptyElems = html4Void.map (fun n => ([], n)) := by decide +kernel

/-- html: an element without content is written without end tag iff it is a void element;
    any other empty element gets its end tag -/
theorem void_iff_html (t : Str) (a : FAttrs) :
    startOut .html true t a =
      ('<' :: t ++ htmlAttrs a ++ ['>']) ++ (if html4Void.contains t then [] else endTag t) := by
  rw [startOut_html_empty, emptyElems, void_table_is_html4.1, inTable_unqualified]

/-- xhtml: an element without content is self-closed iff it is a void element; any other empty
    element is written with start and end tag -/
theorem void_iff_xhtml (t : Str) (a : FAttrs) :
    startOut .xhtml true t a =
      ('<' :: t ++ xhtmlAttrs a) ++ (if html4Void.contains t then [' ', '/', '>'] else '>' :: endTag t) := by
  rw [startOut_xhtml_empty, emptyElems, void_table_is_html4.2, inTable_unqualified]

/-- "and no other element is": a START event never produces a self-closed or end-tag-less
    form — its output is the start tag alone and the END event writes the end tag -/
theorem nonvoid_never_selfclosed (m : Method) (o : Opts) (c : Ctx) (t : Str) (a : FAttrs) :
    emit m o c (.start t a) = [startOut m false t a] ∧ emit m o c (.end_ t) = [endTag t] ∧
    startOut .html false t a = '<' :: t ++ htmlAttrs a ++ ['>'] ∧
    startOut .xhtml false t a = ('<' :: t ++ xhtmlAttrs a) ++ ['>'] :=
  ⟨rfl, rfl, startOut_html_start t a, startOut_xhtml_start t a⟩

example : startOut .html true ['b', 'r'] [] = ['<', 'b', 'r', '>'] ∧
    startOut .html true ['b'] [] = ['<', 'b', '>', '<', '/', 'b', '>'] ∧
    startOut .xhtml true ['b', 'r'] [] = ['<', 'b', 'r', ' ', '/', '>'] := by decide +kernel

/-- HTML 4.01 boolean attributes (specification side) -/
def html4Boolean : List Str :=
  [['c','h','e','c','k','e','d'], ['c','o','m','p','a','c','t'], ['d','e','c','l','a','r','e'], ['d','e','f','e','r'],
   ['d','i','s','a','b','l','e','d'], ['i','s','m','a','p'], ['m','u','l','t','i','p','l','e'], ['n','o','h','r','e','f'],
   ['n','o','r','e','s','i','z','e'], ['n','o','s','h','a','d','e'], ['n','o','w','r','a','p'],
   ['r','e','a','d','o','n','l','y'], ['s','e','l','e','c','t','e','d']]

/-- every HTML 4 boolean attribute is in the set of both serializers (which add the HTML 5
    `autofocus`, `required`, `formnovalidate`) -/
theorem bool_table_covers_html4 :
    html4Boolean.all (fun n => inTable (booleanAttrs .html) n && inTable (booleanAttrs .xhtml) n) = true ∧
    (booleanAttrs .html).all (fun p => p.1.isEmpty && (html4Boolean.contains p.2 ||
        [['a','u','t','o','f','o','c','u','s'], ['r','e','q','u','i','r','e','d'],
         ['f','o','r','m','n','o','v','a','l','i','d','a','t','e']].contains p.2)) = true ∧
    booleanAttrs .html = booleanAttrs .xhtml := by decide +kernel

/-- html: a boolean attribute with a non-empty value is minimised and stays present; with an
    empty value it is dropped -/
theorem bool_attr_html (all : FAttrs) (n v : Str) (hb : inTable (booleanAttrs .html) n = true) :
    htmlAttr all (n, v) = (if v.isEmpty then [] else ' ' :: n) ∧
    htmlAttrTok all (n, v) = (if v.isEmpty then [] else [(n, none)]) := by
  simp [htmlAttr, htmlAttrTok, hb]

/-- xhtml: a boolean attribute is expanded to `name="name"` whatever its value -/
theorem bool_attr_xhtml (all : FAttrs) (n v : Str) (hb : inTable (booleanAttrs .xhtml) n = true) :
    xhtmlAttr all (n, v) = attrOut n n ∧ xhtmlAttrTok all (n, v) = [(n, some n)] := by
  simp [xhtmlAttr, xhtmlAttrTok, hb]

def isDoctype : FEv → Bool
  | .doctype _ _ _ => true
  | _ => false

def isXmlDecl : FEv → Bool
  | .xmlDecl _ _ _ => true
  | _ => false

/-- number of DOCTYPE events of the stream that are actually written -/
def doctypesWritten (m : Method) (o : Opts) : Ctx → List FEv → Nat
  | _, [] => 0
  | c, ev :: rest =>
      (if isDoctype ev && !(emit m o c ev).isEmpty then 1 else 0) + doctypesWritten m o (ctxAfter m o c ev) rest

def declsWritten (m : Method) (o : Opts) : Ctx → List FEv → Nat
  | _, [] => 0
  | c, ev :: rest =>
      (if isXmlDecl ev && !(emit m o c ev).isEmpty then 1 else 0) + declsWritten m o (ctxAfter m o c ev) rest

theorem ctxAfter_haveDoctype (m : Method) (o : Opts) (c : Ctx) (ev : FEv) :
    (ctxAfter m o c ev).haveDoctype = (c.haveDoctype || isDoctype ev) := by
  cases ev <;> simp only [ctxAfter, isDoctype, Bool.or_false, Bool.or_true] <;> split <;> rfl

/-- the first DOCTYPE event is written unless one was written before, and no other -/
theorem doctypesWritten_eq (m : Method) (o : Opts) (evs : List FEv) : ∀ c : Ctx,
    doctypesWritten m o c evs = if !c.haveDoctype && evs.any isDoctype then 1 else 0 := by
  induction evs with
  | nil => intro c; simp [doctypesWritten]
  | cons ev rest ih =>
    intro c
    have he : (isDoctype ev && !(emit m o c ev).isEmpty) = (isDoctype ev && !c.haveDoctype) := by
      cases ev with
      | doctype n p s => cases h : c.haveDoctype <;> simp [isDoctype, emit, h]
      | _ => rfl
    rw [doctypesWritten, ih, he, ctxAfter_haveDoctype, List.any_cons]
    cases c.haveDoctype <;> cases isDoctype ev <;> simp

theorem doctypes_zero (m : Method) (o : Opts) (evs : List FEv) (c : Ctx) (h : c.haveDoctype = true) :
    doctypesWritten m o c evs = 0 := by
  rw [doctypesWritten_eq, h]; rfl

/-- Output carries at most one DOCTYPE, whatever the stream holds. -/
theorem doctype_unique (m : Method) (o : Opts) (evs : List FEv) :
    ∀ c : Ctx, doctypesWritten m o c evs ≤ 1 := by
  intro c; rw [doctypesWritten_eq]; split <;> decide

/-- Once a DOCTYPE has been written every later DOCTYPE event of the stream is dropped: the
    output is that of the stream without them. -/
theorem doctype_suppressed (m : Method) (o : Opts) (evs : List FEv) :
    ∀ c : Ctx, c.haveDoctype = true →
      serSpec m o c evs = serSpec m o c (evs.filter (fun e => !isDoctype e)) := by
  induction evs with
  | nil => intro c _; rfl
  | cons ev rest ih =>
    intro c h
    by_cases hd : isDoctype ev = true
    · have hf : (ev :: rest).filter (fun e => !isDoctype e) = rest.filter (fun e => !isDoctype e) := by
        simp [hd]
      rw [hf]
      cases ev with
      | doctype n p s =>
        have hc : ctxAfter m o c (.doctype n p s) = c := by
          cases c; simp only [ctxAfter] at *; simp_all
        simp only [serSpec, emit, h, ↓reduceIte, List.nil_append, hc]
        exact ih c h
      | _ => simp [isDoctype] at hd
    · have hf : (ev :: rest).filter (fun e => !isDoctype e) = ev :: rest.filter (fun e => !isDoctype e) := by
        simp [hd]
      rw [hf]
      simp only [serSpec]
      rw [ih _ (by rw [ctxAfter_haveDoctype, h]; rfl)]

/-- the stream behind a leading XML declaration -/
def afterDecl : List FEv → List FEv
  | .xmlDecl _ _ _ :: rest => rest
  | fs => fs

/-- what is written for a leading XML declaration -/
def leadDecl (m : Method) (o : Opts) : List FEv → List Str
  | .xmlDecl v e s :: _ => emit m o {} (.xmlDecl v e s)
  | _ => []

/-- the context behind a leading XML declaration and the inserted DOCTYPE -/
def ctxBehindProlog (m : Method) (o : Opts) : List FEv → Ctx
  | .xmlDecl v e s :: _ => { ctxAfter m o {} (.xmlDecl v e s) with haveDoctype := true }
  | _ => { haveDoctype := true }

/-- A doctype option replaces any doctype in the stream: `DocTypeInserter` puts the option's
    DOCTYPE first (only a leading XML declaration stays in front of it), it is written, and from
    then on no DOCTYPE event of the stream is. -/
theorem doctype_option_wins (m : Method) (o : Opts) (d : DocTypeT) (fs : List FEv) :
    serSpec m o {} (docTypeInsert d fs) =
      leadDecl m o fs ++ [doctypeOut d.1 d.2.1 d.2.2] ++ serSpec m o (ctxBehindProlog m o fs) (afterDecl fs) ∧
    doctypesWritten m o (ctxBehindProlog m o fs) (afterDecl fs) = 0 := by
  cases fs with
  | nil => exact ⟨rfl, rfl⟩
  | cons ev rest =>
    cases ev with
    | xmlDecl v e s =>
      refine ⟨?_, doctypes_zero m o _ _ rfl⟩
      cases m <;> cases hx : o.dropXmlDecl <;>
        simp [docTypeInsert, serSpec, leadDecl, afterDecl, ctxBehindProlog, emit, ctxAfter, hx]
    | _ => exact ⟨rfl, doctypes_zero m o _ _ rfl⟩

def str (s : String) : Str := s.toList

/-- the W3C identifiers (specification side): HTML 4.01, XHTML 1.0 / 1.1, SVG 1.1, HTML5 -/
def w3cDoctypes : List (Str × (Str × Option Str × Option Str)) :=
  let h : Str := ['h','t','m','l']
  let s : Str := ['s','v','g']
  [(str "html", (h, some (str "-//W3C//DTD HTML 4.01//EN"), some (str "http://www.w3.org/TR/html4/strict.dtd"))),
   (str "html-frameset", (h, some (str "-//W3C//DTD HTML 4.01 Frameset//EN"), some (str "http://www.w3.org/TR/html4/frameset.dtd"))),
   (str "html-strict", (h, some (str "-//W3C//DTD HTML 4.01//EN"), some (str "http://www.w3.org/TR/html4/strict.dtd"))),
   (str "html-transitional", (h, some (str "-//W3C//DTD HTML 4.01 Transitional//EN"), some (str "http://www.w3.org/TR/html4/loose.dtd"))),
   (str "html5", (h, none, none)),
   (str "svg", (s, some (str "-//W3C//DTD SVG 1.1//EN"), some (str "http://www.w3.org/Graphics/SVG/1.1/DTD/svg11.dtd"))),
   (str "svg-basic", (s, some (str "-//W3C//DTD SVG Basic 1.1//EN"), some (str "http://www.w3.org/Graphics/SVG/1.1/DTD/svg11-basic.dtd"))),
   (str "svg-full", (s, some (str "-//W3C//DTD SVG 1.1//EN"), some (str "http://www.w3.org/Graphics/SVG/1.1/DTD/svg11.dtd"))),
   (str "svg-tiny", (s, some (str "-//W3C//DTD SVG Tiny 1.1//EN"), some (str "http://www.w3.org/Graphics/SVG/1.1/DTD/svg11-tiny.dtd"))),
   (str "xhtml", (h, some (str "-//W3C//DTD XHTML 1.0 Strict//EN"), some (str "http://www.w3.org/TR/xhtml1/DTD/xhtml1-strict.dtd"))),
   (str "xhtml-frameset", (h, some (str "-//W3C//DTD XHTML 1.0 Frameset//EN"), some (str "http://www.w3.org/TR/xhtml1/DTD/xhtml1-frameset.dtd"))),
   (str "xhtml-strict", (h, some (str "-//W3C//DTD XHTML 1.0 Strict//EN"), some (str "http://www.w3.org/TR/xhtml1/DTD/xhtml1-strict.dtd"))),
   (str "xhtml-transitional", (h, some (str "-//W3C//DTD XHTML 1.0 Transitional//EN"), some (str "http://www.w3.org/TR/xhtml1/DTD/xhtml1-transitional.dtd"))),
   (str "xhtml11", (h, some (str "-//W3C//DTD XHTML 1.1//EN"), some (str "http://www.w3.org/TR/xhtml11/DTD/xhtml11.dtd")))]

/-- `DocType.get` answers with the W3C identifiers for every name it knows, and lower-cases its argument -/
theorem doctype_table_is_w3c :
    Gen.OutputExtra.docTypes = w3cDoctypes ∧ Gen.OutputExtra.docTypeGetLowers = true := by
  refine ⟨?_, by decide⟩
  -- entry by entry; a literal is compared with its characters through `String.ofList`, which the
  -- kernel does in one pass (`String.toList` on a literal is far slower)
  have eq_str (l : List Char) (s : String) (h : String.ofList l = s) : l = str s := by
    subst h; exact String.toList_ofList.symm
  simp only [Gen.OutputExtra.docTypes, w3cDoctypes, List.cons.injEq, Prod.mk.injEq, Option.some.injEq, and_true,
    true_and]
  repeat' apply And.intro
  all_goals exact eq_str _ _ rfl

/-- html never writes an XML declaration -/
theorem decl_policy_html (o : Opts) (c : Ctx) (v : Str) (e : Option Str) (s : Int) :
    emit .html o c (.xmlDecl v e s) = [] := by simp [emit]

/-- xhtml writes an XML declaration only when asked for (`drop_xml_decl=False`) -/
theorem decl_policy_xhtml (o : Opts) (c : Ctx) (v : Str) (e : Option Str) (s : Int)
    (h : o.dropXmlDecl = true) : emit .xhtml o c (.xmlDecl v e s) = [] := by simp [emit, h]

/-- the method and option setting drop XML declarations -/
def dropsDecl (m : Method) (o : Opts) : Bool := m = .html || (m = .xhtml && o.dropXmlDecl)

theorem ctxAfter_haveDecl (m : Method) (o : Opts) (c : Ctx) (ev : FEv) :
    (ctxAfter m o c ev).haveDecl = (c.haveDecl || (isXmlDecl ev && !dropsDecl m o)) := by
  cases ev <;> simp only [ctxAfter, isXmlDecl, dropsDecl, Bool.false_and, Bool.true_and, Bool.or_false] <;> split <;>
    simp [*]

/-- the first XML declaration is written unless the method drops them or one was written before, and
    no other -/
theorem declsWritten_eq (m : Method) (o : Opts) (evs : List FEv) : ∀ c : Ctx,
    declsWritten m o c evs = if !dropsDecl m o && !c.haveDecl && evs.any isXmlDecl then 1 else 0 := by
  induction evs with
  | nil => intro c; simp [declsWritten]
  | cons ev rest ih =>
    intro c
    have he : (isXmlDecl ev && !(emit m o c ev).isEmpty) = (isXmlDecl ev && (!dropsDecl m o && !c.haveDecl)) := by
      cases ev with
      | xmlDecl v e s =>
        simp only [isXmlDecl, emit, dropsDecl, Bool.true_and]
        generalize decide (m = .html) = A
        generalize (decide (m = .xhtml) && o.dropXmlDecl) = B
        cases A <;> cases B <;> cases c.haveDecl <;> rfl
      | _ => rfl
    rw [declsWritten, ih, he, ctxAfter_haveDecl, List.any_cons]
    cases c.haveDecl <;> cases isXmlDecl ev <;> cases dropsDecl m o <;> simp

/-- Output carries at most one XML declaration, for every method and stream. -/
theorem decl_unique (m : Method) (o : Opts) (evs : List FEv) :
    ∀ c : Ctx, declsWritten m o c evs ≤ 1 := by
  intro c; rw [declsWritten_eq]; split <;> decide

/-- `render(cache=True) = render(cache=False)` (as in C09; restated here so that the two property
    files do not import each other) -/
theorem render_cache_irrelevant' (m : Method) (strip : Bool) (dt : Option DocTypeT) (dropd : Bool) (s : Stream) :
    render m { strip := strip, cache := true, doctype := dt, dropXmlDecl := dropd } s =
    render m { strip := strip, cache := false, doctype := dt, dropXmlDecl := dropd } s :=
  render_cache m strip true dt dropd s

/-- html.  For every filtered stream inside the stated hypotheses (`HtmlOkAll`: names are names;
    inside script/style only text without `</`; comments without `--`; no Markup text; no PI /
    DOCTYPE events — each excluded class has a witness below or is named in props/C08.json) the
    tokens read back from the html serialisation are exactly the specified ones (`htmlExpected`:
    start tags with the attributes of `htmlAttrToks`, end tags for non-void elements only, text
    verbatim with adjacent text merged, comments verbatim).
    Not covered here: PI and DOCTYPE events (`html_roundtrip_prolog_partial`), Markup text that is
    the escape of some string (`html_roundtrip_markup_partial`), `readHtml` applied to
    `render .html cfg s` for a tree-shaped `s` (`html_roundtrip_doc_partial`); raw text ending in
    `<` is outside `HtmlOkAll` and recovered only on an example (`rawtext_trailing_lt_recovered`). -/
theorem html_roundtrip_partial (o : Opts) (useCache : Bool) (evs : List FEv) (hok : HtmlOkAll false evs)
    (hend : (evs.foldl htmlEv {}).raw = false) :
    tokens false (loop .html o useCache {} evs).flatten = some (htmlExpected evs) := by
  rw [loop_eq_spec]; exact html_tokens o evs hok hend

/-- xhtml, at the level of the tokenizer (before namespace resolution).  Hypotheses
    (`XhtmlOk`): names are names, attribute values without LF/TAB/CR, comments without `--`, no
    Markup text, no CDATA sections, no PI / DOCTYPE events, XML declarations dropped. -/
theorem xhtml_roundtrip_partial (o : Opts) (useCache : Bool) (evs : List FEv)
    (hok : ∀ ev ∈ evs, XhtmlOk o ev) :
    tokens true (loop .xhtml o useCache {} evs).flatten = some (xhtmlExpected evs) := by
  rw [loop_eq_spec]; exact xhtml_tokens o evs hok

/-- the same about `render` (filters included): whenever the filters deliver `fs` for a stream and
    `fs` is inside the hypotheses, the rendered text reads back as specified -/
theorem html_render_roundtrip_partial (cfg : Cfg) (s : Stream) (fs : List FEv)
    (hf : filtered .html cfg s = some fs) (hok : HtmlOkAll false fs)
    (hend : (fs.foldl htmlEv {}).raw = false) :
    (render .html cfg s).bind (tokens false) = some (htmlExpected fs) := by
  simp only [render, chunks, hf, Option.map_some, Option.bind_some]
  exact html_roundtrip_partial _ _ fs hok hend

theorem xhtml_render_roundtrip_partial (cfg : Cfg) (s : Stream) (fs : List FEv)
    (hf : filtered .xhtml cfg s = some fs) (hok : ∀ ev ∈ fs, XhtmlOk ⟨cfg.dropXmlDecl⟩ ev) :
    (render .xhtml cfg s).bind (tokens true) = some (xhtmlExpected fs) := by
  simp only [render, chunks, hf, Option.map_some, Option.bind_some]
  exact xhtml_roundtrip_partial _ _ fs hok

def exStream : Stream :=
  [.start ⟨[], ['p']⟩ [(⟨[], ['c', 'h', 'e', 'c', 'k', 'e', 'd']⟩, ['y']), (⟨[], ['t']⟩, ['<', '"'])],
   .start ⟨[], ['b', 'r']⟩ [], .end_ ⟨[], ['b', 'r']⟩,
   .start ⟨[], ['s', 'c', 'r', 'i', 'p', 't']⟩ [], .text ['a', '<', 'b'] false, .end_ ⟨[], ['s', 'c', 'r', 'i', 'p', 't']⟩,
   .text ['a', '<', 'b'] false, .end_ ⟨[], ['p']⟩]

example : (render .html { strip := false } exStream).bind (tokens false) =
    some [.start ['p'] [(['c', 'h', 'e', 'c', 'k', 'e', 'd'], none), (['t'], some ['<', '"'])] false,
          .start ['b', 'r'] [] false,
          .start ['s', 'c', 'r', 'i', 'p', 't'] [] false, .text ['a', '<', 'b'], .end_ ['s', 'c', 'r', 'i', 'p', 't'],
          .text ['a', '<', 'b'], .end_ ['p']] := by decide +kernel

/-- html over forests whose elements are in ARBITRARY namespaces (none of them the XML namespace;
    builder-style streams without START_NS events — e.g. XHTML elements with un-namespaced
    children): the flattener writes an `xmlns` declaration (`xmlns=""` included) on every element whose
    namespace differs from the default namespace in scope (`flatten_forestM`), html drops all of them —
    the tokens read back are those of the forest with the namespaces forgotten.  Generalises
    `html_roundtrip_tree_ns_partial` (one namespace). -/
theorem html_roundtrip_tree_mixed_partial (cache dropd : Bool) (ns : List Node)
    (hok : okList ns = true) (hns : forestMixedOk ns = true) (hh : htmlForestOk ns = true) :
    (render .html { strip := false, cache := cache, doctype := none, dropXmlDecl := dropd } (flattenList ns)).bind
        (tokens false) = some (assemble (forestPieces ns)) := by
  rw [render_cache _ _ cache]
  have hf := filtered_forestM .html dropd none ns hok hns
  simp only [withDoctype] at hf
  have hk := htmlOk_forestM [] ns hh
  have hend : ((forestFm [] ns).foldl htmlEv {}).raw = false := by rw [foldl_htmlEv_raw]; exact hk.2
  rw [html_render_roundtrip_partial _ _ _ hf hk.1 hend, htmlExpected_eq_assemble, pieces_forestM]

/-- html, over forests all of whose elements are in one namespace `u` (XHTML in practice): the
    flattener declares `u` on the outermost elements, html drops the declaration — the tokens read
    back are those of the namespace-free forest. -/
theorem html_roundtrip_tree_ns_partial (cache dropd : Bool) (u : Str) (hu : u ≠ xmlNs) (ns : List Node)
    (hok : okList ns = true) (hns : forestUniformNs u ns = true) (hh : htmlForestOk ns = true) :
    (render .html { strip := false, cache := cache, doctype := none, dropXmlDecl := dropd } (flattenList ns)).bind
        (tokens false) = some (assemble (forestPieces ns)) :=
  html_roundtrip_tree_mixed_partial cache dropd ns hok (forestMixedOk_of_uniform u hu ns hns) hh

/-- html, over trees.  For every forest `ns` (a) whose leaves are not START/END events, (b) without
    element namespaces (attributes none or XML namespace) and (c) inside the hypotheses
    `htmlForestOk` (names are names, script/style hold only plain text without `</`, comments
    without `--`, leaves are plain text or comments): the html serialisation of its flattening,
    read back, is `assemble (forestPieces ns)` — start tag with the attributes of `htmlAttrToks`,
    end tag unless the element is void and childless, adjacent text merged and recovered verbatim.
    Not covered here: forests in one namespace (`html_roundtrip_tree_ns_partial`),
    `strip_whitespace=True` (`html_roundtrip_tree_strip_partial`), a doctype option and
    PI / DOCTYPE / CDATA leaves (`html_roundtrip_doc_partial`). -/
theorem html_roundtrip_tree_partial (cache dropd : Bool) (ns : List Node)
    (hok : okList ns = true) (hns : forestNsFree ns = true) (hh : htmlForestOk ns = true) :
    (render .html { strip := false, cache := cache, doctype := none, dropXmlDecl := dropd } (flattenList ns)).bind
        (tokens false) = some (assemble (forestPieces ns)) :=
  html_roundtrip_tree_ns_partial cache dropd [] (by decide) ns hok (uniformNs_nil.2 ns hns) hh

/-- xhtml over forests that mix namespaces (those of `html_roundtrip_tree_mixed_partial`), tokenizer
    level (before namespace resolution): an element carries
    `xmlns="its namespace"` as first attribute exactly when its namespace differs from that of its
    parent (from none at top level) — `forestPiecesXM`; everything else as in the namespace-free case (`xhtml_roundtrip_tree_partial`).
    Additional hypothesis: the namespaces can stand in an attribute value (`forestNsValsOk`).
    Through expat's namespace resolution (`xmlView` with a scope stack: every element read back in
    its own namespace): `xhtml_roundtrip_tree_mixed_qnames_partial`. -/
theorem xhtml_roundtrip_tree_mixed_tokens_partial (cache : Bool) (ns : List Node)
    (hok : okList ns = true) (hns : forestMixedOk ns = true) (hh : xhtmlForestOk ns = true)
    (hv : forestNsValsOk ns = true) :
    (render .xhtml { strip := false, cache := cache, doctype := none, dropXmlDecl := true } (flattenList ns)).bind
        (tokens true) = some (assemble (forestPiecesXM [] ns)) := by
  rw [render_cache _ _ cache]
  have hf := filtered_forestM .xhtml true none ns hok hns
  simp only [withDoctype] at hf
  rw [xhtml_render_roundtrip_partial _ _ _ hf (xhtmlOk_forestM ⟨true⟩ [] ns hh hv), xhtmlExpected_eq_assemble,
    piecesX_forestM]

/-- xhtml, forests in one namespace `u` (those of `html_roundtrip_tree_ns_partial`), tokenizer level:
    the outermost elements carry `xmlns="u"` as their first attribute, everything else as in the
    namespace-free case (`xhtml_roundtrip_tree_partial`). -/
theorem xhtml_roundtrip_tree_ns_partial (cache : Bool) (u : Str) (hu : u ≠ xmlNs) (huv : attrValOkB u = true)
    (ns : List Node) (hok : okList ns = true) (hns : forestUniformNs u ns = true)
    (hh : xhtmlForestOk ns = true) :
    (render .xhtml { strip := false, cache := cache, doctype := none, dropXmlDecl := true } (flattenList ns)).bind
        (tokens true) = some (assemble (forestPiecesXU u false ns)) := by
  rw [← forestPiecesXM_uniform u ns hns [] false (declAttr_eq_declM u false).symm]
  exact xhtml_roundtrip_tree_mixed_tokens_partial cache ns hok (forestMixedOk_of_uniform u hu ns hns) hh
    (forestNsValsOk_uniform u huv ns hns)

/-- xhtml, over trees (tokenizer level, before namespace resolution): same shape; a childless void
    element is read back self-closed, every other element with start and end tag; boolean
    attributes as `name="name"`; hypotheses `xhtmlForestOk` (additionally: attribute values without
    LF/TAB/CR). -/
theorem xhtml_roundtrip_tree_partial (cache : Bool) (ns : List Node)
    (hok : okList ns = true) (hns : forestNsFree ns = true) (hh : xhtmlForestOk ns = true) :
    (render .xhtml { strip := false, cache := cache, doctype := none, dropXmlDecl := true } (flattenList ns)).bind
        (tokens true) = some (assemble (forestPiecesX ns)) := by
  rw [← forestPiecesXU_nil false]
  exact xhtml_roundtrip_tree_ns_partial cache [] (by decide) rfl ns hok (uniformNs_nil.2 ns hns) hh

def exForestX0 : List Node :=
  [.elem ⟨xhtmlNs, ['p']⟩ [(⟨xmlNs, ['l', 'a', 'n', 'g']⟩, ['e', 'n'])]
    [.elem ⟨xhtmlNs, ['b', 'r']⟩ [] [], .leaf (.text ['<'] false)]]

example : xmlForestOk true exForestX0 = true ∧ xhtmlForestOk exForestX0 = true ∧
    forestUniformNs xhtmlNs exForestX0 = true := by decide +kernel

/-- xhtml, through namespace resolution (expat's view): for a forest in namespace `u` (XHTML) inside
    the hypotheses, additionally without character data outside elements and with resolvable names
    (`xmlForestOk`: no colon in element and un-namespaced attribute names, no attribute called
    `xmlns`), the tokens read back resolve to: every element in namespace `u`, `xml:`-attributes in
    the XML namespace, the `xmlns` declaration consumed, self-closed elements as start + end. -/
theorem xhtml_roundtrip_tree_qnames_partial (cache : Bool) (u : Str) (hu : u ≠ xmlNs) (huv : attrValOkB u = true)
    (ns : List Node) (hok : okList ns = true) (hns : forestUniformNs u ns = true)
    (hh : xhtmlForestOk ns = true) (hx : xmlForestOk true ns = true) :
    (render .xhtml { strip := false, cache := cache, doctype := none, dropXmlDecl := true } (flattenList ns)).bind
        (fun out => (tokens true out).bind (xmlView [])) =
      some ((assemble (forestPiecesXU u false ns)).flatMap (xmlMapTok u)) := by
  rw [← Option.bind_assoc, xhtml_roundtrip_tree_ns_partial cache u hu huv ns hok hns hh, Option.bind_some]
  exact xmlView_forest u ns hx

example : (assemble (forestPiecesXU xhtmlNs false exForestX0)).flatMap (xmlMapTok xhtmlNs) =
    [.start ⟨xhtmlNs, ['p']⟩ [(⟨[], ['l', 'a', 'n', 'g']⟩, ['e', 'n']), (⟨xmlNsUri, ['l', 'a', 'n', 'g']⟩, ['e', 'n'])],
     .start ⟨xhtmlNs, ['b', 'r']⟩ [], .end_ ⟨xhtmlNs, ['b', 'r']⟩, .text ['<'], .end_ ⟨xhtmlNs, ['p']⟩] := by decide +kernel

def exForestX : List Node :=
  [.elem ⟨xhtmlNs, ['p']⟩ [] [.elem ⟨xhtmlNs, ['b', 'r']⟩ [] [], .leaf (.text ['<'] false)]]

example : okList exForestX = true ∧ forestUniformNs xhtmlNs exForestX = true ∧ xhtmlForestOk exForestX = true ∧
    attrValOkB xhtmlNs = true ∧ xhtmlNs ≠ xmlNs := by decide +kernel

example : assemble (forestPiecesXU xhtmlNs false exForestX) =
    [.start ['p'] [(xmlns, some xhtmlNs)] false, .start ['b', 'r'] [] true, .text ['<'], .end_ ['p']] := by decide +kernel

/-- `WhitespaceFilter` as a function on forests.  For every forest `ns` (leaves are not START/END
    events), every filter state `st` (preserve depth, noescape flag, CDATA flag, pending text), every
    normalisation function and every rest of the stream: the event-level filter
    (`wsFilterG`, the model of `WhitespaceFilter.__call__`) applied to the events of the forest
    followed by `rest` delivers the events of the forest `wsForestG … st ns` (adjacent text leaves
    merged into one Markup leaf, normalised outside preserved space; everything else untouched) and
    goes on with `rest` in the state the forest function hands back (pending text included). -/
theorem wsfilter_forest (norm : Bool → Str → Str) (cfg : WsCfg) (ns : List Node) (st : WsSt) (rest : List QEv)
    (hok : okList ns = true) :
    wsFilterG norm cfg st (forestQ ns ++ rest) =
      forestQ (wsForestG norm cfg st ns).1 ++ wsFilterG norm cfg (wsForestG norm cfg st ns).2 rest :=
  wsFilterG_forest norm cfg ns st rest hok

/-- the whole filter chain in front of the flattener (`EmptyTagFilter`, then `WhitespaceFilter`
    from its initial state, the final flush included) on the flattening of a forest is the
    flattening (childless elements as EMPTY) of `wsForest` -/
theorem wsfilter_forest_whole (m : Method) (ns : List Node) (hok : okList ns = true) :
    preFlat m true (flattenList ns) = forestQ (wsForest (wsCfg m) ns) :=
  preFlat_wsForest m ns hok

def exWsForest : List Node :=
  [.elem ⟨[], ['p']⟩ []
    [.leaf (.text ['a', ' ', '\n'] false), .leaf (.text ['\n', '<'] false),
     .elem ⟨[], ['p', 'r', 'e']⟩ [] [.leaf (.text ['x', ' ', '\n', '\n'] false), .elem ⟨[], ['b', 'r']⟩ [] [],
       .leaf (.text [' ', '\n'] false)],
     .elem ⟨[], ['s', 'c', 'r', 'i', 'p', 't']⟩ [] [.leaf (.text ['1', '<', '2', ' ', '\n'] false)],
     .leaf (.text [' ', '\n', '\n', 'b'] false)]]

example : flattenList (wsForest (wsCfg .html) exWsForest) = flattenList
    [.elem ⟨[], ['p']⟩ []
      [.leaf (.text ['a', '\n', '&', 'l', 't', ';'] true),
       .elem ⟨[], ['p', 'r', 'e']⟩ [] [.leaf (.text ['x', ' ', '\n', '\n'] true), .elem ⟨[], ['b', 'r']⟩ [] [],
         .leaf (.text [' ', '\n'] true)],
       .elem ⟨[], ['s', 'c', 'r', 'i', 'p', 't']⟩ [] [.leaf (.text ['1', '<', '2', '\n'] true)],
       .leaf (.text ['\n', 'b'] true)]] := by decide +kernel

example : flattenList (normForest .html exWsForest) = flattenList
    [.elem ⟨[], ['p']⟩ []
      [.leaf (.text ['a', '\n', '<'] false),
       .elem ⟨[], ['p', 'r', 'e']⟩ [] [.leaf (.text ['x', ' ', '\n', '\n'] false), .elem ⟨[], ['b', 'r']⟩ [] [],
         .leaf (.text [' ', '\n'] false)],
       .elem ⟨[], ['s', 'c', 'r', 'i', 'p', 't']⟩ [] [.leaf (.text ['1', '<', '2', '\n'] false)],
       .leaf (.text ['\n', 'b'] false)]] := by decide +kernel

example : okList exWsForest = true ∧ forestUniformNs [] exWsForest = true ∧ wsDom .html exWsForest = true ∧
    wsDom .xhtml exWsForest = true ∧ htmlForestOk (normForest .html exWsForest) = true ∧
    xhtmlForestOk (normForest .xhtml exWsForest) = true := by decide +kernel

def preserveSpec : List (Str × Str) :=
  [([], ['p', 'r', 'e']), ([], ['t', 'e', 'x', 't', 'a', 'r', 'e', 'a']),
   (xhtmlNs, ['p', 'r', 'e']), (xhtmlNs, ['t', 'e', 'x', 't', 'a', 'r', 'e', 'a'])]

/-- the whitespace-preserving elements `normForest` is stated with (generated from the serializers'
    `_PRESERVE_SPACE`) are `pre` and `textarea`, un-namespaced and XHTML-namespaced, for html and
    xhtml alike -/
theorem preserve_table_is_pre_textarea :
    (∀ m ∈ [Method.html, Method.xhtml],
      (preserveElems m).all (fun p => preserveSpec.contains p) = true ∧
      preserveSpec.all (fun p => (preserveElems m).contains p) = true) := by decide +kernel

/-- `strip_whitespace=True` is `strip_whitespace=False` on the normalised forest, for forests that
    mix namespaces (any method, cache setting, doctype option; `wsDom` and `normForest` are described
    at the one-namespace case `strip_is_norm_forest_partial`) -/
theorem strip_is_norm_forest_mixed_partial (m : Method) (cache dropd : Bool) (dopt : Option DocTypeT)
    (ns : List Node) (hok : okList ns = true) (hns : forestMixedOk ns = true) (hd : wsDom m ns = true) :
    render m { strip := true, cache := cache, doctype := dopt, dropXmlDecl := dropd } (flattenList ns) =
      render m { strip := false, cache := cache, doctype := dopt, dropXmlDecl := dropd }
        (flattenList (normForest m ns)) := by
  rw [render_of_filtered _ _ _ _ _ _ _ (filtered_strip_forestM m dropd dopt ns hok hns),
    render_of_filtered _ _ _ _ _ _ _ (filtered_forestM m dropd dopt _ (okList_normForest m ns hok)
      (mixedOk_normForest m ns hns)), serSpec_ws_dt_eqM m ⟨dropd⟩ dopt ns hd]

/-- **`strip_whitespace=True` is `strip_whitespace=False` on the normalised forest.**  For every
    method, cache setting and forest `ns` in one namespace `u` inside `wsDom` (text leaves are plain,
    no CDATA markers, script / style under html hold only text): the serialisation with the
    whitespace filter equals, character by character, the serialisation without it of
    `normForest m ns` — the forest with every run of adjacent text leaves merged into one text leaf
    that is trimmed and collapsed (`wsNorm`) unless it stands below `pre` / `textarea` (the
    serializer's `_PRESERVE_SPACE`) or an element with `xml:space="preserve"`.  Hence every
    statement about `strip_whitespace=False` applies to the normalised forest (below).
    With or without a doctype option (`DocTypeInserter` sits behind the filter and looks at the first
    event only: `serSpec_ws_dt_eq`).
    Forests that mix namespaces: `strip_is_norm_forest_mixed_partial`.  Not proved: Markup text
    leaves (proper escapes) or CDATA sections together with stripping (`wsDom` excludes both;
    without stripping Markup leaves are covered by `markup_leaves_as_plain_partial`). -/
theorem strip_is_norm_forest_partial (m : Method) (cache dropd : Bool) (u : Str) (hu : u ≠ xmlNs)
    (dopt : Option DocTypeT) (ns : List Node)
    (hok : okList ns = true) (hns : forestUniformNs u ns = true) (hd : wsDom m ns = true) :
    render m { strip := true, cache := cache, doctype := dopt, dropXmlDecl := dropd } (flattenList ns) =
      render m { strip := false, cache := cache, doctype := dopt, dropXmlDecl := dropd }
        (flattenList (normForest m ns)) :=
  strip_is_norm_forest_mixed_partial m cache dropd dopt ns hok (forestMixedOk_of_uniform u hu ns hns) hd

/-- html over forests with `strip_whitespace=True`: what is read back is the normalised forest -/
theorem html_roundtrip_tree_strip_partial (cache dropd : Bool) (u : Str) (hu : u ≠ xmlNs) (ns : List Node)
    (hok : okList ns = true) (hns : forestUniformNs u ns = true) (hd : wsDom .html ns = true)
    (hh : htmlForestOk (normForest .html ns) = true) :
    (render .html { strip := true, cache := cache, doctype := none, dropXmlDecl := dropd } (flattenList ns)).bind
        (tokens false) = some (assemble (forestPieces (normForest .html ns))) := by
  rw [strip_is_norm_forest_partial .html cache dropd u hu none ns hok hns hd]
  exact html_roundtrip_tree_ns_partial cache dropd u hu _ (okList_normForest .html ns hok)
    (uniformNs_normForest u .html ns hns) hh

/-- xhtml over forests with `strip_whitespace=True`, tokenizer level -/
theorem xhtml_roundtrip_tree_strip_partial (cache : Bool) (u : Str) (hu : u ≠ xmlNs) (huv : attrValOkB u = true)
    (ns : List Node) (hok : okList ns = true) (hns : forestUniformNs u ns = true) (hd : wsDom .xhtml ns = true)
    (hh : xhtmlForestOk (normForest .xhtml ns) = true) :
    (render .xhtml { strip := true, cache := cache, doctype := none, dropXmlDecl := true } (flattenList ns)).bind
        (tokens true) = some (assemble (forestPiecesXU u false (normForest .xhtml ns))) := by
  rw [strip_is_norm_forest_partial .xhtml cache true u hu none ns hok hns hd]
  exact xhtml_roundtrip_tree_ns_partial cache u hu huv _ (okList_normForest .xhtml ns hok)
    (uniformNs_normForest u .xhtml ns hns) hh

/-- xhtml over forests with `strip_whitespace=True`, through namespace resolution (expat's view) -/
theorem xhtml_roundtrip_tree_qnames_strip_partial (cache : Bool) (u : Str) (hu : u ≠ xmlNs)
    (huv : attrValOkB u = true) (ns : List Node) (hok : okList ns = true) (hns : forestUniformNs u ns = true)
    (hd : wsDom .xhtml ns = true) (hh : xhtmlForestOk (normForest .xhtml ns) = true)
    (hx : xmlForestOk true (normForest .xhtml ns) = true) :
    (render .xhtml { strip := true, cache := cache, doctype := none, dropXmlDecl := true } (flattenList ns)).bind
        (fun out => (tokens true out).bind (xmlView [])) =
      some ((assemble (forestPiecesXU u false (normForest .xhtml ns))).flatMap (xmlMapTok u)) := by
  rw [strip_is_norm_forest_partial .xhtml cache true u hu none ns hok hns hd]
  exact xhtml_roundtrip_tree_qnames_partial cache u hu huv _ (okList_normForest .xhtml ns hok)
    (uniformNs_normForest u .xhtml ns hns) hh hx

example : assemble (forestPieces (normForest .html exWsForest)) =
    [.start ['p'] [] false, .text ['a', '\n', '<'], .start ['p', 'r', 'e'] [] false, .text ['x', ' ', '\n', '\n'],
     .start ['b', 'r'] [] false, .text [' ', '\n'], .end_ ['p', 'r', 'e'],
     .start ['s', 'c', 'r', 'i', 'p', 't'] [] false, .text ['1', '<', '2', '\n'], .end_ ['s', 'c', 'r', 'i', 'p', 't'],
     .text ['\n', 'b'], .end_ ['p']] := by decide +kernel

def exMixed : List Node :=
  [.elem ⟨xhtmlNs, ['d', 'i', 'v']⟩ []
    [.elem ⟨[], ['p']⟩ [] [.elem ⟨xhtmlNs, ['b', 'r']⟩ [] [], .leaf (.text ['<'] false)],
     .elem ⟨xhtmlNs, ['b']⟩ [] [.elem ⟨[], ['i']⟩ [] []]]]

example : okList exMixed = true ∧ forestMixedOk exMixed = true ∧ htmlForestOk exMixed = true ∧
    xhtmlForestOk exMixed = true ∧ forestNsValsOk exMixed = true ∧ forestUniformNs xhtmlNs exMixed = false := by decide +kernel

example : assemble (forestPiecesXM [] exMixed) =
    [.start ['d', 'i', 'v'] [(xmlns, some xhtmlNs)] false, .start ['p'] [(xmlns, some [])] false,
     .start ['b', 'r'] [(xmlns, some xhtmlNs)] true, .text ['<'], .end_ ['p'],
     .start ['b'] [] false, .start ['i'] [(xmlns, some [])] false, .end_ ['i'], .end_ ['b'], .end_ ['d', 'i', 'v']] := by
  decide +kernel

example : (xmlView [] (assemble (forestPiecesXM [] exMixed))) =
    some [.start ⟨xhtmlNs, ['d', 'i', 'v']⟩ [], .start ⟨[], ['p']⟩ [], .start ⟨xhtmlNs, ['b', 'r']⟩ [],
      .end_ ⟨xhtmlNs, ['b', 'r']⟩, .text ['<'], .end_ ⟨[], ['p']⟩, .start ⟨xhtmlNs, ['b']⟩ [], .start ⟨[], ['i']⟩ [],
      .end_ ⟨[], ['i']⟩, .end_ ⟨xhtmlNs, ['b']⟩, .end_ ⟨xhtmlNs, ['d', 'i', 'v']⟩] := by decide +kernel

/-- xhtml with CDATA sections (events level): the content of a section is read back verbatim as
    part of the surrounding character data (expat's view with merged text).  Hypotheses
    (`XhtmlOkAllC`): as `XhtmlOk` outside sections; inside a section only plain text that cannot
    close it (`cdataSafe 2`: no `]]>`, not starting with `>` or `]>`) and END_CDATA. -/
theorem xhtml_roundtrip_cdata_partial (o : Opts) (useCache : Bool) (evs : List FEv)
    (hok : XhtmlOkAllC o false evs) (hend : (evs.foldl xhtmlEvC {}).cd = none) :
    tokens true (loop .xhtml o useCache {} evs).flatten = some (xhtmlExpectedC evs) := by
  rw [loop_eq_spec]; exact xhtml_tokensC o evs hok hend

example : tokens true (loop .xhtml {} true {}
      [.start ['p'] [], .text ['a'] false, .startCdata, .text ['<', ']', ']'] false, .endCdata, .text ['&'] false,
       .end_ ['p']]).flatten =
    some [.start ['p'] [] false, .text ['a', '<', ']', ']', '&'], .end_ ['p']] := by decide +kernel

/-- html, the whole output language: as `html_roundtrip_partial`, plus processing instructions
    (read back as `target data?`, html.parser's convention; hypothesis: no `>` inside) and DOCTYPE
    events (the first one is written and its literal `name[ PUBLIC "…"][ SYSTEM][ "…"]` is read
    back verbatim, followed by the line feed as character data; later ones are not written;
    hypothesis `dtScan`: the literal is well quoted). -/
theorem html_roundtrip_prolog_partial (o : Opts) (useCache : Bool) (evs : List FEv)
    (hok : HtmlOkAllP false false evs) (hend : (foldP evs {} false).1.raw = false) :
    tokens false (loop .html o useCache {} evs).flatten = some (htmlExpectedP evs) := by
  rw [loop_eq_spec]; exact html_tokensP o evs hok hend

/-- xhtml, the whole output language at tokenizer level: CDATA sections, processing instructions
    (hypothesis: no `?>` inside), DOCTYPE events (first one written, literal read back verbatim)
    and the XML declaration (written once, only with `drop_xml_decl=False`; read back as the
    instruction `xml version="…" …`). -/
theorem xhtml_roundtrip_prolog_partial (o : Opts) (useCache : Bool) (evs : List FEv)
    (hok : XhtmlOkAllP o false {} evs) (hend : (foldXP o evs {} {}).1.cd = none) :
    tokens true (loop .xhtml o useCache {} evs).flatten = some (xhtmlExpectedP o evs) := by
  rw [loop_eq_spec]; exact xhtml_tokensP o evs hok hend

/-- The DOCTYPE literal the serializers write is parsed back (by the specification-side
    `parseDoctype`, html.parser's and expat's reading of it) into exactly the fields of the event —
    an empty identifier counts as absent (Python truthiness) — and is inside the tokenizer's
    hypothesis `dtScan`, for all fields that can be told apart in a literal (`dtFieldsOk`: no blank,
    `>` or quote in the name, no `"` in the public identifier, not both kinds of quote in the system
    identifier); for an HTML parser, which ends a DOCTYPE at the first `>` whether quoted or not,
    additionally no `>` in the identifiers (`dtNoGt`; see `doctype_gt_not_recovered_html`). -/
theorem doctype_literal_roundtrip (n : Str) (p s : Option Str) (h : dtFieldsOk n p s = true) :
    parseDoctype (doctypeContent n p s) = some (n, normOpt p, normOpt s) ∧
    dtScan true none (doctypeContent n p s) = true ∧
    (dtNoGt p s = true → dtScan false none (doctypeContent n p s) = true) :=
  ⟨parseDoctype_doctypeContent n p s h, dtScan_doctypeContent true n p s h (by intro hx; cases hx),
   fun hg => dtScan_doctypeContent false n p s h (fun _ => hg)⟩

/-- The same for the XML declaration: version, encoding (empty = absent) and the standalone flag
    (-1 absent, 0 no, anything else yes) are recovered from the literal, for every version and
    encoding without `"`. -/
theorem xmldecl_literal_roundtrip (v : Str) (e : Option Str) (s : Int) (h : xdFieldsOk v e = true) :
    parseXmlDecl (xmlDeclContent v e s) = some (.xmlDecl v (normOpt e) (standaloneNorm s)) :=
  parseXmlDecl_xmlDeclContent v e s h

/-- **html, whole documents whose body mixes namespaces**: as its one-namespace case
    `html_roundtrip_doc_partial`, where documents and what is read back are described (XML
    declaration, DOCTYPE, doctype option, body with text / comment / PI / CDATA leaves), for a body
    whose elements are in arbitrary namespaces other than XML (`forestMixedOk`): html.parser reads
    back the winning DOCTYPE and the body with all namespace declarations gone. -/
theorem html_roundtrip_doc_mixed_partial (cache dropd : Bool) (dopt : Option DocTypeT)
    (decl : Option DeclT) (dt : Option DocTypeT) (body : List Node)
    (hok : okList body = true) (hns : forestMixedOk body = true) (hh : htmlForestOkP body = true)
    (hwin : dtOkOf (winDt dopt dt) = true) (hgt : dtNoGtOf (winDt dopt dt) = true) :
    (render .html { strip := false, cache := cache, doctype := dopt, dropXmlDecl := dropd }
        (flattenList (docNodes decl dt body))).bind readHtml =
      some (htmlDocView (winDt dopt dt) (forestPiecesP body)) := by
  have hf := filtered_forestM .html dropd dopt (docNodes decl dt body) (okList_doc decl dt body hok)
    (mixedOk_doc decl dt body hns)
  rw [forestFm_doc, withDoctype_doc _ _ _ _ (notXdHead_bodyHM [] body hh)] at hf
  rw [render_of_filtered _ _ _ _ _ _ _ hf, Option.bind_some, readHtml,
    html_doc_tokens ⟨dropd⟩ decl dopt dt _ _ (bodyH_forestM [] body hh) hwin hgt, Option.map_some, htmlView_doc _ _ hwin]

/-- html, over whole documents.  A document is an optional XML declaration, an optional DOCTYPE and a
    body forest all of whose elements are in one namespace `u` (none: `u = []`; XHTML; any but the XML
    namespace); the body's leaves may be plain text, comments, processing instructions and CDATA
    markers (`htmlForestOkP`: as `htmlForestOk`, PI data without `>`).  With or without a doctype
    option, cache on or off: what html.parser reads back (`readHtml`) is the DOCTYPE that wins (the
    option if given, else the document's own; never two; its three fields recovered), then the
    body as `forestPiecesP` prescribes (void elements without end tag, boolean attributes minimised,
    text merged and verbatim, PIs with html.parser's trailing `?`, no XML declaration, CDATA markers
    gone).
    Not covered here: `strip_whitespace=True` (`html_roundtrip_doc_strip_partial`), Markup text
    leaves (`html_roundtrip_doc_markup_partial`), bodies that mix namespaces
    (`html_roundtrip_doc_mixed_partial`). -/
theorem html_roundtrip_doc_partial (cache dropd : Bool) (u : Str) (hu : u ≠ xmlNs) (dopt : Option DocTypeT)
    (decl : Option DeclT) (dt : Option DocTypeT) (body : List Node)
    (hok : okList body = true) (hns : forestUniformNs u body = true) (hh : htmlForestOkP body = true)
    (hwin : dtOkOf (winDt dopt dt) = true) (hgt : dtNoGtOf (winDt dopt dt) = true) :
    (render .html { strip := false, cache := cache, doctype := dopt, dropXmlDecl := dropd }
        (flattenList (docNodes decl dt body))).bind readHtml =
      some (htmlDocView (winDt dopt dt) (forestPiecesP body)) :=
  html_roundtrip_doc_mixed_partial cache dropd dopt decl dt body hok (forestMixedOk_of_uniform u hu body hns) hh hwin hgt

/-- what `render` (strip off) writes for a document: the main loop's specification over the prolog
    events, the option's DOCTYPE in its place, and the filtered body -/
theorem render_doc (m : Method) (cache dropd : Bool) (u : Str) (hu : u ≠ xmlNs) (dopt : Option DocTypeT)
    (decl : Option DeclT) (dt : Option DocTypeT) (body : List Node)
    (hok : okList body = true) (hns : forestUniformNs u body = true) (hB : notXdHead (forestFu u false body) = true) :
    render m { strip := false, cache := cache, doctype := dopt, dropXmlDecl := dropd }
        (flattenList (docNodes decl dt body)) =
      some (serSpec m ⟨dropd⟩ {} (declF decl ++ (dtF dopt ++ (dtF dt ++ forestFu u false body)))).flatten := by
  have hf := filtered_forestU_dt m dropd u hu dopt (docNodes decl dt body) (okList_doc decl dt body hok)
    (uniformNs_doc u decl dt body hns)
  rw [forestFu_doc, withDoctype_doc _ _ _ _ hB] at hf
  exact render_of_filtered _ _ _ _ _ _ _ hf

/-- xhtml, over whole documents, tokenizer level (before namespace resolution): the XML declaration
    (only with `drop_xml_decl=False`) and the winning DOCTYPE are read back as their literals, each
    followed by its line feed, then the body as `forestPiecesXP` prescribes: `xmlns="u"` on the
    outermost elements, childless void elements self-closed, boolean attributes expanded, CDATA
    sections as ordinary character data, PIs verbatim.  Body hypotheses `xKidsOkP` (as
    `xhtmlForestOk`; inside a CDATA section only plain text that cannot close it; PI data without
    `?>`). -/
theorem xhtml_roundtrip_doc_tokens_partial (cache dropd : Bool) (u : Str) (hu : u ≠ xmlNs) (huv : attrValOkB u = true)
    (dopt : Option DocTypeT) (decl : Option DeclT) (dt : Option DocTypeT) (body : List Node)
    (hok : okList body = true) (hns : forestUniformNs u body = true) (hh : xKidsOkP false body = true)
    (hdecl : xdOkOf ⟨dropd⟩ decl = true) (hwin : dtOkOf (winDt dopt dt) = true) :
    (render .xhtml { strip := false, cache := cache, doctype := dopt, dropXmlDecl := dropd }
        (flattenList (docNodes decl dt body))).bind (tokens true) =
      some (assemble (xdPiecesOf ⟨dropd⟩ decl ++ (dtPiecesOf (winDt dopt dt) ++ forestPiecesXP u false body))) := by
  rw [render_doc .xhtml cache dropd u hu dopt decl dt body hok hns (notXdHead_bodyX u false body hh), Option.bind_some]
  exact xhtml_doc_tokens ⟨dropd⟩ decl dopt dt _ _ (bodyX_kids ⟨dropd⟩ u huv body false false hh) hdecl hwin

/-- xhtml, over whole documents, through namespace resolution (expat's view, `xmlView`): the XML
    declaration comes back with its fields (only with `drop_xml_decl=False`), then the winning
    DOCTYPE with its fields, then the body: every element in namespace `u`, `xml:` attributes in the
    XML namespace, the `xmlns` declaration consumed, self-closed elements as start + end, PIs split
    into target and data (`xmlMapTok`; `xmlMapTok_pi`: recovered when the target holds no white
    space and the data starts with none), the line feeds of the prolog dropped.  Additional
    hypotheses `xmlForestOkP` (no character data outside elements, names without colon, no attribute
    called `xmlns`, no PI that looks like an XML declaration) and `xdViewOk` (no `"` in the
    declaration's fields). -/
theorem xhtml_roundtrip_doc_partial (cache dropd : Bool) (u : Str) (hu : u ≠ xmlNs) (huv : attrValOkB u = true)
    (dopt : Option DocTypeT) (decl : Option DeclT) (dt : Option DocTypeT) (body : List Node)
    (hok : okList body = true) (hns : forestUniformNs u body = true) (hh : xKidsOkP false body = true)
    (hx : xmlForestOkP true body = true)
    (hdecl : xdViewOk ⟨dropd⟩ decl = true) (hwin : dtOkOf (winDt dopt dt) = true) :
    (render .xhtml { strip := false, cache := cache, doctype := dopt, dropXmlDecl := dropd }
        (flattenList (docNodes decl dt body))).bind (fun out => (tokens true out).bind (xmlView [])) =
      some (xdXOf ⟨dropd⟩ decl ++ (dtXOf (winDt dopt dt) ++
        (assemble (forestPiecesXP u false body)).flatMap (xmlMapTok u))) := by
  rw [← Option.bind_assoc, xhtml_roundtrip_doc_tokens_partial cache dropd u hu huv dopt decl dt body hok hns hh
    (xdOkOf_of_view _ _ hdecl) hwin, Option.bind_some, assemble_doc _ _ _ _ (startsTok_forestP u body hx),
    xmlView_prolog _ _ _ _ hdecl hwin, xmlView_forestP u body hx]
  rfl

/-- without CR the expat view applies the tokenizer to the text as it is -/
theorem normEol_id (s : Str) (h : '\r' ∉ s) : normEol s = s := by
  unfold normEol
  induction s with
  | nil => rfl
  | cons c cs ih =>
    have hc : (c == '\r') = false := by
      have : c ≠ '\r' := fun e => h (by simp [e])
      simpa using this
    have hcs : '\r' ∉ cs := fun e => h (by simp [e])
    simp [normEolGo, hc, ih hcs]

/-- The serializers write no carriage return unless the stream holds one: for every method, option
    setting and filtered stream whose strings are free of CR, so is the output. -/
theorem output_no_cr (m : Method) (o : Opts) (useCache : Bool) (evs : List FEv) (h : ∀ ev ∈ evs, evNcr ev = true) :
    '\r' ∉ (loop m o useCache {} evs).flatten := by
  rw [loop_eq_spec]
  exact serSpec_no_cr m o evs {} h

/-- xhtml, over whole documents, as ONE statement about expat's reading of the output (`readXml` =
    line-end normalisation, tokenizer, namespace resolution): under the hypotheses of
    `xhtml_roundtrip_doc_partial` and when no string of the document holds a carriage return
    (`forestNcr` …; with one, XML line-end normalisation changes the text: finding C08-text-cr), the
    parser delivers the declaration, the winning DOCTYPE and the body with qualified names. -/
theorem xhtml_roundtrip_doc_readxml_partial (cache dropd : Bool) (u : Str) (hu : u ≠ xmlNs) (huv : attrValOkB u = true)
    (dopt : Option DocTypeT) (decl : Option DeclT) (dt : Option DocTypeT) (body : List Node)
    (hok : okList body = true) (hns : forestUniformNs u body = true) (hh : xKidsOkP false body = true)
    (hx : xmlForestOkP true body = true)
    (hdecl : xdViewOk ⟨dropd⟩ decl = true) (hwin : dtOkOf (winDt dopt dt) = true)
    (hcr : docNcr u dopt decl dt body = true) :
    (render .xhtml { strip := false, cache := cache, doctype := dopt, dropXmlDecl := dropd }
        (flattenList (docNodes decl dt body))).bind readXml =
      some (xdXOf ⟨dropd⟩ decl ++ (dtXOf (winDt dopt dt) ++
        (assemble (forestPiecesXP u false body)).flatMap (xmlMapTok u))) := by
  have h1 := xhtml_roundtrip_doc_partial cache dropd u hu huv dopt decl dt body hok hns hh hx hdecl hwin
  have hr := render_doc .xhtml cache dropd u hu dopt decl dt body hok hns (notXdHead_bodyX u false body hh)
  rw [hr] at h1 ⊢
  simp only [Option.bind_some] at h1 ⊢
  unfold readXml
  rw [normEol_id _ (serSpec_no_cr .xhtml ⟨dropd⟩ _ {} (docEvs_ncr u dopt decl dt body hcr))]
  exact h1

def exDocBody : List Node :=
  [.leaf (.pi ['p', 'h', 'p'] ['e', 'c', 'h', 'o']),
   .elem ⟨xhtmlNs, ['p']⟩ [(⟨[], ['c', 'h', 'e', 'c', 'k', 'e', 'd']⟩, ['y'])]
     [.elem ⟨xhtmlNs, ['b', 'r']⟩ [] [], .leaf (.text ['a', '<'] false), .leaf .startCdata,
      .leaf (.text ['&', ']'] false), .leaf .endCdata, .leaf (.comment ['c'])]]

def exDecl : Option DeclT := some (['1', '.', '0'], some ['u', 't', 'f', '-', '8'], -1)
def exDt : Option DocTypeT := some (['h', 't', 'm', 'l'], none, some ['a', '"', 'b'])
def exDopt : Option DocTypeT := some (['h', 't', 'm', 'l'], some ['-', '/', '/', 'W', '3', 'C'], some ['x', '.', 'd', 't', 'd'])

example : okList exDocBody = true ∧ forestUniformNs xhtmlNs exDocBody = true ∧ htmlForestOkP exDocBody = true ∧
    xKidsOkP false exDocBody = true ∧ xmlForestOkP true exDocBody = true ∧ xdViewOk ⟨false⟩ exDecl = true ∧
    dtOkOf (winDt exDopt exDt) = true ∧ dtOkOf (winDt none exDt) = true ∧ dtNoGtOf (winDt exDopt exDt) = true := by
  decide +kernel

example : htmlDocView (winDt exDopt exDt) (forestPiecesP exDocBody) =
    [.doctype ['h', 't', 'm', 'l'] (some ['-', '/', '/', 'W', '3', 'C']) (some ['x', '.', 'd', 't', 'd']),
     .pi ['p', 'h', 'p', ' ', 'e', 'c', 'h', 'o', '?'],
     .start ['p'] [(['c', 'h', 'e', 'c', 'k', 'e', 'd'], none)], .start ['b', 'r'] [],
     .text ['a', '<', '&', ']'], .comment ['c'], .end_ ['p']] := by decide +kernel

example : xdXOf ⟨false⟩ exDecl ++ (dtXOf (winDt none exDt) ++
      (assemble (forestPiecesXP xhtmlNs false exDocBody)).flatMap (xmlMapTok xhtmlNs)) =
    [.xmlDecl ['1', '.', '0'] (some ['u', 't', 'f', '-', '8']) (-1),
     .doctype ['h', 't', 'm', 'l'] none (some ['a', '"', 'b']),
     .pi ['p', 'h', 'p'] ['e', 'c', 'h', 'o'],
     .start ⟨xhtmlNs, ['p']⟩ [(⟨[], ['c', 'h', 'e', 'c', 'k', 'e', 'd']⟩, ['c', 'h', 'e', 'c', 'k', 'e', 'd'])],
     .start ⟨xhtmlNs, ['b', 'r']⟩ [], .end_ ⟨xhtmlNs, ['b', 'r']⟩,
     .text ['a', '<', '&', ']'], .comment ['c'], .end_ ⟨xhtmlNs, ['p']⟩] := by decide +kernel

/-- **html, whole documents whose body mixes namespaces, `strip_whitespace=True`**: html.parser
    reads back the winning DOCTYPE and the NORMALISED body with all namespace declarations gone -/
theorem html_roundtrip_doc_mixed_strip_partial (cache dropd : Bool) (dopt : Option DocTypeT)
    (decl : Option DeclT) (dt : Option DocTypeT) (body : List Node)
    (hok : okList body = true) (hns : forestMixedOk body = true) (hd : wsDom .html body = true)
    (hh : htmlForestOkP (normForest .html body) = true)
    (hwin : dtOkOf (winDt dopt dt) = true) (hgt : dtNoGtOf (winDt dopt dt) = true) :
    (render .html { strip := true, cache := cache, doctype := dopt, dropXmlDecl := dropd }
        (flattenList (docNodes decl dt body))).bind readHtml =
      some (htmlDocView (winDt dopt dt) (forestPiecesP (normForest .html body))) := by
  rw [strip_is_norm_forest_mixed_partial .html cache dropd dopt _ (okList_doc decl dt body hok)
    (mixedOk_doc decl dt body hns) (wsDom_doc .html decl dt body hd), normForest_doc]
  exact html_roundtrip_doc_mixed_partial cache dropd dopt decl dt _ (okList_normForest .html body hok)
    (mixedOk_normForest .html body hns) hh hwin hgt

/-- **html, whole documents, `strip_whitespace=True`**: as `html_roundtrip_doc_partial`, with the
    body read back as the NORMALISED forest (`normForest`: text runs merged, trimmed and collapsed
    outside `pre` / `textarea` / `xml:space="preserve"`).  Body inside `wsDom` (plain text leaves, no
    CDATA markers, script / style hold only text); the other hypotheses are those of the theorem
    without stripping, on the normalised body. -/
theorem html_roundtrip_doc_strip_partial (cache dropd : Bool) (u : Str) (hu : u ≠ xmlNs) (dopt : Option DocTypeT)
    (decl : Option DeclT) (dt : Option DocTypeT) (body : List Node)
    (hok : okList body = true) (hns : forestUniformNs u body = true) (hd : wsDom .html body = true)
    (hh : htmlForestOkP (normForest .html body) = true)
    (hwin : dtOkOf (winDt dopt dt) = true) (hgt : dtNoGtOf (winDt dopt dt) = true) :
    (render .html { strip := true, cache := cache, doctype := dopt, dropXmlDecl := dropd }
        (flattenList (docNodes decl dt body))).bind readHtml =
      some (htmlDocView (winDt dopt dt) (forestPiecesP (normForest .html body))) :=
  html_roundtrip_doc_mixed_strip_partial cache dropd dopt decl dt body hok (forestMixedOk_of_uniform u hu body hns) hd hh
    hwin hgt

/-- **xhtml, whole documents, `strip_whitespace=True`**, through expat's view (`xmlView`) -/
theorem xhtml_roundtrip_doc_strip_partial (cache dropd : Bool) (u : Str) (hu : u ≠ xmlNs) (huv : attrValOkB u = true)
    (dopt : Option DocTypeT) (decl : Option DeclT) (dt : Option DocTypeT) (body : List Node)
    (hok : okList body = true) (hns : forestUniformNs u body = true) (hd : wsDom .xhtml body = true)
    (hh : xKidsOkP false (normForest .xhtml body) = true) (hx : xmlForestOkP true (normForest .xhtml body) = true)
    (hdecl : xdViewOk ⟨dropd⟩ decl = true) (hwin : dtOkOf (winDt dopt dt) = true) :
    (render .xhtml { strip := true, cache := cache, doctype := dopt, dropXmlDecl := dropd }
        (flattenList (docNodes decl dt body))).bind (fun out => (tokens true out).bind (xmlView [])) =
      some (xdXOf ⟨dropd⟩ decl ++ (dtXOf (winDt dopt dt) ++
        (assemble (forestPiecesXP u false (normForest .xhtml body))).flatMap (xmlMapTok u))) := by
  rw [strip_is_norm_forest_partial .xhtml cache dropd u hu dopt _ (okList_doc decl dt body hok)
    (uniformNs_doc u decl dt body hns) (wsDom_doc .xhtml decl dt body hd), normForest_doc]
  exact xhtml_roundtrip_doc_partial cache dropd u hu huv dopt decl dt _ (okList_normForest .xhtml body hok)
    (uniformNs_normForest u .xhtml body hns) hh hx hdecl hwin

/-- the same as ONE statement about expat's reading of the output (`readXml`) -/
theorem xhtml_roundtrip_doc_readxml_strip_partial (cache dropd : Bool) (u : Str) (hu : u ≠ xmlNs)
    (huv : attrValOkB u = true)
    (dopt : Option DocTypeT) (decl : Option DeclT) (dt : Option DocTypeT) (body : List Node)
    (hok : okList body = true) (hns : forestUniformNs u body = true) (hd : wsDom .xhtml body = true)
    (hh : xKidsOkP false (normForest .xhtml body) = true) (hx : xmlForestOkP true (normForest .xhtml body) = true)
    (hdecl : xdViewOk ⟨dropd⟩ decl = true) (hwin : dtOkOf (winDt dopt dt) = true)
    (hcr : docNcr u dopt decl dt (normForest .xhtml body) = true) :
    (render .xhtml { strip := true, cache := cache, doctype := dopt, dropXmlDecl := dropd }
        (flattenList (docNodes decl dt body))).bind readXml =
      some (xdXOf ⟨dropd⟩ decl ++ (dtXOf (winDt dopt dt) ++
        (assemble (forestPiecesXP u false (normForest .xhtml body))).flatMap (xmlMapTok u))) := by
  rw [strip_is_norm_forest_partial .xhtml cache dropd u hu dopt _ (okList_doc decl dt body hok)
    (uniformNs_doc u decl dt body hns) (wsDom_doc .xhtml decl dt body hd), normForest_doc]
  exact xhtml_roundtrip_doc_readxml_partial cache dropd u hu huv dopt decl dt _ (okList_normForest .xhtml body hok)
    (uniformNs_normForest u .xhtml body hns) hh hx hdecl hwin hcr

def exWsDocBody : List Node :=
  [.elem ⟨xhtmlNs, ['h', 't', 'm', 'l']⟩ []
    [.leaf (.text ['\n', ' ', '\n'] false),
     .elem ⟨xhtmlNs, ['p']⟩ [] [.leaf (.text ['a', ' ', '\n'] false), .leaf (.text ['\n', '<'] false)],
     .elem ⟨xhtmlNs, ['p', 'r', 'e']⟩ [] [.leaf (.text [' ', '\n', '\n'] false)]]]

example : okList exWsDocBody = true ∧ forestUniformNs xhtmlNs exWsDocBody = true ∧ wsDom .html exWsDocBody = true ∧
    wsDom .xhtml exWsDocBody = true ∧ htmlForestOkP (normForest .html exWsDocBody) = true ∧
    xKidsOkP false (normForest .xhtml exWsDocBody) = true ∧ xmlForestOkP true (normForest .xhtml exWsDocBody) = true ∧
    docNcr xhtmlNs exDopt exDecl exDt (normForest .xhtml exWsDocBody) = true := by decide +kernel

example : (assemble (forestPiecesXP xhtmlNs false (normForest .xhtml exWsDocBody))).flatMap (xmlMapTok xhtmlNs) =
    [.start ⟨xhtmlNs, ['h', 't', 'm', 'l']⟩ [], .text ['\n'], .start ⟨xhtmlNs, ['p']⟩ [], .text ['a', '\n', '<'],
     .end_ ⟨xhtmlNs, ['p']⟩, .start ⟨xhtmlNs, ['p', 'r', 'e']⟩ [], .text [' ', '\n', '\n'],
     .end_ ⟨xhtmlNs, ['p', 'r', 'e']⟩, .end_ ⟨xhtmlNs, ['h', 't', 'm', 'l']⟩] := by decide +kernel

example : okList exMixed = true ∧ forestMixedOk exMixed = true ∧ htmlForestOkP exMixed = true ∧
    dtOkOf (winDt exDopt exDt) = true ∧ dtNoGtOf (winDt exDopt exDt) = true := by decide +kernel

def exMixedWs : List Node :=
  [.elem ⟨xhtmlNs, ['d', 'i', 'v']⟩ []
    [.leaf (.text [' ', '\n'] false), .leaf (.text ['\n', 'a'] false),
     .elem ⟨[], ['p', 'r', 'e']⟩ [] [.leaf (.text [' ', '\n', '\n'] false), .elem ⟨xhtmlNs, ['b', 'r']⟩ [] []]]]

example : okList exMixedWs = true ∧ forestMixedOk exMixedWs = true ∧ wsDom .html exMixedWs = true ∧
    htmlForestOkP (normForest .html exMixedWs) = true ∧ forestUniformNs xhtmlNs exMixedWs = false := by decide +kernel

example : htmlDocView none (forestPiecesP (normForest .html exMixedWs)) =
    [.start ['d', 'i', 'v'] [], .text ['\n', 'a'], .start ['p', 'r', 'e'] [], .text [' ', '\n', '\n'],
     .start ['b', 'r'] [], .end_ ['p', 'r', 'e'], .end_ ['d', 'i', 'v']] := by decide +kernel

/-- xhtml, forests that mix namespaces, `strip_whitespace=True`, tokenizer level: the tokens of the
    normalised forest, `xmlns` declarations where the namespace changes -/
theorem xhtml_roundtrip_tree_mixed_tokens_strip_partial (cache : Bool) (ns : List Node)
    (hok : okList ns = true) (hns : forestMixedOk ns = true) (hd : wsDom .xhtml ns = true)
    (hh : xhtmlForestOk (normForest .xhtml ns) = true) (hv : forestNsValsOk (normForest .xhtml ns) = true) :
    (render .xhtml { strip := true, cache := cache, doctype := none, dropXmlDecl := true } (flattenList ns)).bind
        (tokens true) = some (assemble (forestPiecesXM [] (normForest .xhtml ns))) := by
  rw [strip_is_norm_forest_mixed_partial .xhtml cache true none ns hok hns hd]
  exact xhtml_roundtrip_tree_mixed_tokens_partial cache _ (okList_normForest .xhtml ns hok)
    (mixedOk_normForest .xhtml ns hns) hh hv

example : wsDom .xhtml exMixedWs = true ∧ xhtmlForestOk (normForest .xhtml exMixedWs) = true ∧
    forestNsValsOk (normForest .xhtml exMixedWs) = true := by decide +kernel

/-- **xhtml over forests that mix namespaces, through expat's namespace resolution** (`xmlView` with
    its scope stack): every element is read back in its OWN namespace (`forestPiecesQ`: start and end
    tag with the qualified name of the element, `xml:` attributes in the XML namespace, every `xmlns`
    declaration — `xmlns=""` included — consumed, text merged and verbatim, comments verbatim).
    Hypotheses as `xhtml_roundtrip_tree_qnames_partial`: `xhtmlForestOk`, `xmlForestOk` (no character
    data outside elements, names without colon, no attribute called `xmlns`), namespaces that can
    stand in an attribute value. -/
theorem xhtml_roundtrip_tree_mixed_qnames_partial (cache : Bool) (ns : List Node)
    (hok : okList ns = true) (hns : forestMixedOk ns = true) (hh : xhtmlForestOk ns = true)
    (hv : forestNsValsOk ns = true) (hx : xmlForestOk true ns = true) :
    (render .xhtml { strip := false, cache := cache, doctype := none, dropXmlDecl := true } (flattenList ns)).bind
        (fun out => (tokens true out).bind (xmlView [])) = some (mergeGoQ [] (forestPiecesQ ns)) := by
  rw [← Option.bind_assoc, xhtml_roundtrip_tree_mixed_tokens_partial cache ns hok hns hh hv, Option.bind_some]
  exact xmlView_forestM ns hx

/-- the same with `strip_whitespace=True`: the normalised forest, every element in its own namespace -/
theorem xhtml_roundtrip_tree_mixed_qnames_strip_partial (cache : Bool) (ns : List Node)
    (hok : okList ns = true) (hns : forestMixedOk ns = true) (hd : wsDom .xhtml ns = true)
    (hh : xhtmlForestOk (normForest .xhtml ns) = true) (hv : forestNsValsOk (normForest .xhtml ns) = true)
    (hx : xmlForestOk true (normForest .xhtml ns) = true) :
    (render .xhtml { strip := true, cache := cache, doctype := none, dropXmlDecl := true } (flattenList ns)).bind
        (fun out => (tokens true out).bind (xmlView [])) =
      some (mergeGoQ [] (forestPiecesQ (normForest .xhtml ns))) := by
  rw [strip_is_norm_forest_mixed_partial .xhtml cache true none ns hok hns hd]
  exact xhtml_roundtrip_tree_mixed_qnames_partial cache _ (okList_normForest .xhtml ns hok)
    (mixedOk_normForest .xhtml ns hns) hh hv hx

example : xmlForestOk true exMixed = true ∧ xmlForestOk true (normForest .xhtml exMixedWs) = true := by decide +kernel

example : mergeGoQ [] (forestPiecesQ exMixed) =
    [.start ⟨xhtmlNs, ['d', 'i', 'v']⟩ [], .start ⟨[], ['p']⟩ [], .start ⟨xhtmlNs, ['b', 'r']⟩ [],
      .end_ ⟨xhtmlNs, ['b', 'r']⟩, .text ['<'], .end_ ⟨[], ['p']⟩, .start ⟨xhtmlNs, ['b']⟩ [], .start ⟨[], ['i']⟩ [],
      .end_ ⟨[], ['i']⟩, .end_ ⟨xhtmlNs, ['b']⟩, .end_ ⟨xhtmlNs, ['d', 'i', 'v']⟩] := by decide +kernel

/-- Markup text leaves are written like their plain form, for forests that mix namespaces -/
theorem markup_leaves_as_plain_mixed (m : Method) (cache dropd : Bool) (dopt : Option DocTypeT) (ns : List Node)
    (hok : okList ns = true) (hns : forestMixedOk ns = true) (hd : mkDom m ns = true) :
    render m { strip := false, cache := cache, doctype := dopt, dropXmlDecl := dropd } (flattenList ns) =
      render m { strip := false, cache := cache, doctype := dopt, dropXmlDecl := dropd }
        (flattenList (plainF m false ns)) := by
  rw [render_of_filtered _ _ _ _ _ _ _ (filtered_forestM m dropd dopt ns hok hns),
    render_of_filtered _ _ _ _ _ _ _ (filtered_forestM m dropd dopt (plainF m false ns)
      (by rw [okList_plainF]; exact hok) (by rw [(mixedOk_nodewise.plain m).2]; exact hns))]
  exact congrArg (fun x => some x.flatten) (serSpecR_mk_dt_eq m ⟨dropd⟩ rendM [] dopt ns hd)

/-- A forest with Markup (pre-escaped) text leaves is written exactly like its plain form
    `plainF m false ns` — every Markup leaf replaced by the plain text leaf of its `unescape` (inside
    script / style under html: of the text itself) — for every method, cache setting and doctype
    option, on `mkDom`: a Markup leaf outside raw context is the escape of some string (`ProperEsc`),
    script / style hold only text, no CDATA markers.  Forest-level form of the events-level
    `markup_text_as_plain` (further down). -/
theorem markup_leaves_as_plain_partial (m : Method) (cache dropd : Bool) (u : Str) (hu : u ≠ xmlNs)
    (dopt : Option DocTypeT) (ns : List Node)
    (hok : okList ns = true) (hns : forestUniformNs u ns = true) (hd : mkDom m ns = true) :
    render m { strip := false, cache := cache, doctype := dopt, dropXmlDecl := dropd } (flattenList ns) =
      render m { strip := false, cache := cache, doctype := dopt, dropXmlDecl := dropd }
        (flattenList (plainF m false ns)) :=
  markup_leaves_as_plain_mixed m cache dropd dopt ns hok (forestMixedOk_of_uniform u hu ns hns) hd

/-- **html, whole documents with Markup text leaves** (strip off): html.parser reads back the winning
    DOCTYPE and the body with every Markup leaf as the text it is the escape of -/
theorem html_roundtrip_doc_markup_partial (cache dropd : Bool) (u : Str) (hu : u ≠ xmlNs) (dopt : Option DocTypeT)
    (decl : Option DeclT) (dt : Option DocTypeT) (body : List Node)
    (hok : okList body = true) (hns : forestUniformNs u body = true) (hd : mkDom .html body = true)
    (hh : htmlForestOkP (plainF .html false body) = true)
    (hwin : dtOkOf (winDt dopt dt) = true) (hgt : dtNoGtOf (winDt dopt dt) = true) :
    (render .html { strip := false, cache := cache, doctype := dopt, dropXmlDecl := dropd }
        (flattenList (docNodes decl dt body))).bind readHtml =
      some (htmlDocView (winDt dopt dt) (forestPiecesP (plainF .html false body))) := by
  rw [markup_leaves_as_plain_partial .html cache dropd u hu dopt _ (okList_doc decl dt body hok)
    (uniformNs_doc u decl dt body hns) (mkDom_doc .html decl dt body hd), plainF_doc]
  exact html_roundtrip_doc_partial cache dropd u hu dopt decl dt _ (by rw [okList_plainF]; exact hok)
    (by rw [uniformNs_plainF]; exact hns) hh hwin hgt

/-- **xhtml, whole documents with Markup text leaves** (strip off), expat's reading (`readXml`) -/
theorem xhtml_roundtrip_doc_readxml_markup_partial (cache dropd : Bool) (u : Str) (hu : u ≠ xmlNs)
    (huv : attrValOkB u = true)
    (dopt : Option DocTypeT) (decl : Option DeclT) (dt : Option DocTypeT) (body : List Node)
    (hok : okList body = true) (hns : forestUniformNs u body = true) (hd : mkDom .xhtml body = true)
    (hh : xKidsOkP false (plainF .xhtml false body) = true) (hx : xmlForestOkP true (plainF .xhtml false body) = true)
    (hdecl : xdViewOk ⟨dropd⟩ decl = true) (hwin : dtOkOf (winDt dopt dt) = true)
    (hcr : docNcr u dopt decl dt (plainF .xhtml false body) = true) :
    (render .xhtml { strip := false, cache := cache, doctype := dopt, dropXmlDecl := dropd }
        (flattenList (docNodes decl dt body))).bind readXml =
      some (xdXOf ⟨dropd⟩ decl ++ (dtXOf (winDt dopt dt) ++
        (assemble (forestPiecesXP u false (plainF .xhtml false body))).flatMap (xmlMapTok u))) := by
  rw [markup_leaves_as_plain_partial .xhtml cache dropd u hu dopt _ (okList_doc decl dt body hok)
    (uniformNs_doc u decl dt body hns) (mkDom_doc .xhtml decl dt body hd), plainF_doc]
  exact xhtml_roundtrip_doc_readxml_partial cache dropd u hu huv dopt decl dt _ (by rw [okList_plainF]; exact hok)
    (by rw [uniformNs_plainF]; exact hns) hh hx hdecl hwin hcr

def exMarkupBody : List Node :=
  [.elem ⟨xhtmlNs, ['p']⟩ []
    [.leaf (.text ['a', '&', 'l', 't', ';'] true), .leaf (.text ['<'] false),
     .elem ⟨xhtmlNs, ['s', 'c', 'r', 'i', 'p', 't']⟩ [] [.leaf (.text ['1', '&', 'a', 'm', 'p', ';'] true)]]]

example : okList exMarkupBody = true ∧ forestUniformNs xhtmlNs exMarkupBody = true ∧ mkDom .html exMarkupBody = true ∧
    mkDom .xhtml exMarkupBody = true ∧ htmlForestOkP (plainF .html false exMarkupBody) = true ∧
    xKidsOkP false (plainF .xhtml false exMarkupBody) = true ∧
    xmlForestOkP true (plainF .xhtml false exMarkupBody) = true := by decide +kernel

example : htmlDocView none (forestPiecesP (plainF .html false exMarkupBody)) =
    [.start ['p'] [], .text ['a', '<', '<'], .start ['s', 'c', 'r', 'i', 'p', 't'] [],
     .text ['1', '&', 'a', 'm', 'p', ';'], .end_ ['s', 'c', 'r', 'i', 'p', 't'], .end_ ['p']] := by decide +kernel

def exProlog : List FEv :=
  [.xmlDecl ['1', '.', '0'] none (-1), .doctype ['h', 't', 'm', 'l'] none (some ['a', '"', 'b']),
   .doctype ['x'] none none, .start ['p'] [], .pi ['x'] ['y'], .text ['<'] false, .end_ ['p']]

example : tokens false (loop .html {} true {} exProlog).flatten =
    some [.doctype ['h','t','m','l',' ','S','Y','S','T','E','M',' ','\'','a','"','b','\''], .text ['\n'],
          .start ['p'] [] false, .pi ['x', ' ', 'y', '?'], .text ['<'], .end_ ['p']] := by decide +kernel

example : tokens true (loop .xhtml ⟨false⟩ true {} exProlog).flatten =
    some [.pi ['x','m','l',' ','v','e','r','s','i','o','n','=','"','1','.','0','"'], .text ['\n'],
          .doctype ['h','t','m','l',' ','S','Y','S','T','E','M',' ','\'','a','"','b','\''], .text ['\n'],
          .start ['p'] [] false, .pi ['x', ' ', 'y'], .text ['<'], .end_ ['p']] := by decide +kernel

/-- Markup (pre-escaped) text that is the escape of some string is written exactly like the plain
    text of that string (and inside CDATA / script / style like the plain text itself): for every
    method, option setting and stream, the output is that of the stream `desafe …` in which every
    Markup TEXT event is replaced by the corresponding plain one. -/
theorem markup_text_as_plain (m : Method) (o : Opts) (useCache : Bool) (evs : List FEv)
    (hs : SafeProper m o {} evs) :
    loop m o useCache {} evs = loop m o useCache {} (desafe m o {} evs) := by
  rw [loop_eq_spec, loop_eq_spec, serSpec_desafe m o evs {} hs]

/-- html round trip with Markup text: properly escaped Markup text is read back unescaped (this
    covers what `WhitespaceFilter` hands on, see `Genshi.Output.properEsc_stdNorm`) -/
theorem html_roundtrip_markup_partial (o : Opts) (useCache : Bool) (evs : List FEv)
    (hs : SafeProper .html o {} evs) (hok : HtmlOkAllP false false (desafe .html o {} evs))
    (hend : (foldP (desafe .html o {} evs) {} false).1.raw = false) :
    tokens false (loop .html o useCache {} evs).flatten = some (htmlExpectedP (desafe .html o {} evs)) := by
  rw [markup_text_as_plain .html o useCache evs hs]
  exact html_roundtrip_prolog_partial o useCache _ hok hend

theorem xhtml_roundtrip_markup_partial (o : Opts) (useCache : Bool) (evs : List FEv)
    (hs : SafeProper .xhtml o {} evs) (hok : XhtmlOkAllP o false {} (desafe .xhtml o {} evs))
    (hend : (foldXP o (desafe .xhtml o {} evs) {} {}).1.cd = none) :
    tokens true (loop .xhtml o useCache {} evs).flatten = some (xhtmlExpectedP o (desafe .xhtml o {} evs)) := by
  rw [markup_text_as_plain .xhtml o useCache evs hs]
  exact xhtml_roundtrip_prolog_partial o useCache _ hok hend

example : tokens false (loop .html {} true {} [.start ['p'] [], .text ['a', '&', 'a', 'm', 'p', ';'] true,
      .text ['<'] false, .end_ ['p']]).flatten =
    some [.start ['p'] [] false, .text ['a', '&', '<'], .end_ ['p']] := by decide +kernel

/-- a processing instruction whose data contains `>` is cut short by an HTML parser (known finding
    C08-pi-gt-html) -/
theorem pi_gt_not_recovered_html :
    let evs : List FEv := [.pi ['x'] ['a', '>', 'b']]
    tokens false (loop .html {} true {} evs).flatten ≠ some (htmlExpectedP evs) := by decide +kernel

/-- a DOCTYPE identifier that contains `>` is cut short by an HTML parser, quoted or not (html.parser
    and the HTML5 tokenizer end the declaration at the first `>`; expat is quote-aware): the rest is
    read as live markup (known finding C08-doctype-gt-html) -/
theorem doctype_gt_not_recovered_html :
    let evs : List FEv := [.doctype ['h', 't', 'm', 'l'] none (some ['x', '>', '<', 'b', '>'])]
    tokens false (loop .html {} true {} evs).flatten ≠ some (htmlExpectedP evs) ∧
    tokens true (loop .xhtml {} true {} evs).flatten = some (xhtmlExpectedP {} evs) := by decide +kernel

/-- `]]>` inside a CDATA section ends it early (limit of the format) -/
theorem cdata_end_not_recovered :
    let evs : List FEv := [.start ['p'] [], .startCdata, .text [']', ']', '>', 'x'] false, .endCdata, .end_ ['p']]
    tokens true (loop .xhtml {} true {} evs).flatten ≠ some (xhtmlExpectedC evs) := by decide +kernel

def exForest : List Node :=
  [.elem ⟨[], ['p']⟩ [(⟨[], ['c', 'h', 'e', 'c', 'k', 'e', 'd']⟩, ['y'])]
    [.elem ⟨[], ['b', 'r']⟩ [] [], .leaf (.text ['a', '<'] false), .leaf (.text ['&'] false),
     .elem ⟨[], ['s', 'c', 'r', 'i', 'p', 't']⟩ [] [.leaf (.text ['1', '<', '2'] false)], .elem ⟨[], ['b']⟩ [] []]]

example : okList exForest = true ∧ forestNsFree exForest = true ∧ htmlForestOk exForest = true ∧
    xhtmlForestOk exForest = true := by decide +kernel

example : assemble (forestPieces exForest) =
    [.start ['p'] [(['c', 'h', 'e', 'c', 'k', 'e', 'd'], none)] false, .start ['b', 'r'] [] false,
     .text ['a', '<', '&'], .start ['s', 'c', 'r', 'i', 'p', 't'] [] false, .text ['1', '<', '2'],
     .end_ ['s', 'c', 'r', 'i', 'p', 't'], .start ['b'] [] false, .end_ ['b'], .end_ ['p']] := by decide +kernel

/-- raw text containing `</` (html): the script element ends early -/
theorem rawtext_endtag_not_recovered :
    let evs : List FEv := [.start ['s', 'c', 'r', 'i', 'p', 't'] [], .text ['<', '/', 'b', '>'] false,
                           .end_ ['s', 'c', 'r', 'i', 'p', 't']]
    tokens false (loop .html {} true {} evs).flatten ≠ some (htmlExpected evs) := by decide +kernel

/-- a tag "name" that is not a name (here: with a blank) is read back as a name and an attribute -/
theorem name_not_a_name_not_recovered :
    let evs : List FEv := [.empty ['a', ' ', 'b'] []]
    tokens false (loop .html {} true {} evs).flatten ≠ some (htmlExpected evs) := by decide +kernel

/-- the hypothesis "raw text does not end in `<`" of `rawOk` is stronger than necessary (it keeps the
    simulation invariant simple): the reader does recover such text -/
theorem rawtext_trailing_lt_recovered :
    let evs : List FEv := [.start ['s', 'c', 'r', 'i', 'p', 't'] [], .text ['a', '<'] false,
                           .end_ ['s', 'c', 'r', 'i', 'p', 't']]
    tokens false (loop .html {} true {} evs).flatten = some (htmlExpected evs) ∧ rawOk ['a', '<'] = false := by
  decide +kernel

/-- a comment containing `--`: read back shorter (and html.parser / expat reject or truncate it) -/
theorem comment_dashes_not_recovered :
    let evs : List FEv := [.comment ['a', '-', '-', '>', 'b']]
    tokens false (loop .html {} true {} evs).flatten ≠ some (htmlExpected evs) := by decide +kernel

/-- LF in an attribute value under xhtml: XML attribute-value normalisation gives a blank
    (known finding C08-attr-ws) -/
theorem attr_ws_not_recovered_xhtml :
    let evs : List FEv := [.empty ['a'] [(['t'], ['x', '\n', 'y'])]]
    tokens true (loop .xhtml {} true {} evs).flatten ≠ some (xhtmlExpected evs) := by decide +kernel

/-- Markup text is written as it is: if it holds markup, markup is read back -/
theorem markup_text_not_recovered :
    let evs : List FEv := [.text ['<', 'b', '>'] true]
    tokens false (loop .html {} true {} evs).flatten ≠ some (htmlExpected evs) := by decide +kernel

/-- the elements the html serializer writes raw are the ones the reader (html.parser) reads raw -/
theorem raw_table_matches_reader :
    (Gen.Output.htmlNoescapeElems.filter (fun p => p.1.isEmpty)).map (·.2) = rawTextElems := by decide +kernel

end Genshi.Props.C08
