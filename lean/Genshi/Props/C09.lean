/-
  C09 — Serializer caching and whitespace options are unobservable except for
  whitespace.  Property theorems, with the few lemmas only they use; helper lemmas live in
  `Genshi/Lemmas/Output*.lean`.

  OBLIGATIONS (checked by the harness: every name must be a theorem here, axioms audited):
    ser_is_map_emit cache_inv_initial cache_inv_preserved cache_inv
    serCache_eq_serNoCache_xml serCache_eq_serNoCache_xhtml serCache_eq_serNoCache_html
    serCache_eq_serNoCache emit_history_free emit_context_only_text
    raw_text_entry_violates_inv flatten_cache_irrelevant render_cache_irrelevant
    cache_flag_honoured filter_chain_order ws_filter_args xml_namespace_const
    strip_is_norm_of_runs merge_only_unobservable_partial strip_only_whitespace_partial
    wsNorm_deletes_only_ws noescape_agree_html_vocab strip_namespace_witness
    preserve_table_is_spec noescape_table_is_spec
    wsNorm_absorbs strip_only_whitespace_global_partial wsNorm_commutes_with_escape
    cache_unobservable_markup_attrs ser_is_map_emit_markup_attrs markup_attr_key_collision_witness
    markup_attrs_conservative
    flat_cache_inv_initial flat_cache_inv_preserved flat_cache_inv flat_cache_entry_bindings_only
    flatten_cache_irrelevant_full flatten_cached_is_xml_flatten flat_cache_stale_entry_violates_inv
    flat_cache_typed_key_collision_witness ser_cache_irrelevant_full lite_flatten_is_xml_flatten
    render_full_cache_irrelevant render_full_extends_render strip_only_whitespace_full_partial
    ser_typed_conservative
-/
import Genshi.Lemmas.Output
import Genshi.Lemmas.OutputFlatten
import Genshi.Lemmas.OutputWs
import Genshi.Lemmas.OutputWsDoctype
import Genshi.Lemmas.OutputWsGlobal
import Genshi.Lemmas.OutputSafeText
import Genshi.Lemmas.OutputMarkupAttr
import Genshi.Lemmas.OutputFlattenCacheC
import Genshi.Lemmas.OutputFlattenLiteFull
import Genshi.Lemmas.OutputFlatPipeline
import Genshi.Model.OutputPipeline
import Genshi.Model.OutputFlatPipeline
import Genshi.Model.OutputPipelineFull
namespace Genshi.Props.C09
open Genshi Genshi.Output

/-- For every method, option setting and filtered stream, the chunks yielded by the main loop
    without cache are exactly `emit` of each event in the markup context reached by the events
    before it (`serSpec` threads `ctxAfter`): dependence on the event and its context only. -/
theorem ser_is_map_emit (m : Method) (o : Opts) (evs : List FEv) :
    loop m o false {} evs = serSpec m o {} evs :=
  loop_nocache_eq_spec m o evs {}

example : serSpec .html {} {} [.start ['s','c','r','i','p','t'] [], .text ['a','<','b'] false,
      .end_ ['s','c','r','i','p','t'], .text ['a','<','b'] false]
    = [['<','s','c','r','i','p','t','>'], ['a','<','b'], ['<','/','s','c','r','i','p','t','>'],
       ['a','&','l','t',';','b']] := by decide +kernel

/-- state of the loop after a prefix of the stream -/
def stateAfter (m : Method) (o : Opts) (useCache : Bool) : LoopSt → List FEv → LoopSt
  | st, [] => st
  | st, ev :: rest => stateAfter m o useCache (step m o useCache st ev).1 rest

/-- The empty cache satisfies the invariant. -/
theorem cache_inv_initial (m : Method) (o : Opts) : CacheOk m o ({} : LoopSt).cache :=
  cacheOk_nil m o

/-- Every iteration of the loop preserves it. -/
theorem cache_inv_preserved (m : Method) (o : Opts) (st : LoopSt) (ev : FEv)
    (h : CacheOk m o st.cache) : CacheOk m o (step m o true st ev).1.cache :=
  (step_cache m o st ev h).2.2

/-- Hence at every point of every stream: each cache entry equals the context-free `emit` of its
    key in every context in which that key can be looked up. -/
theorem cache_inv (m : Method) (o : Opts) (evs : List FEv) :
    CacheOk m o (stateAfter m o true {} evs).cache := by
  suffices h : ∀ st : LoopSt, CacheOk m o st.cache → CacheOk m o (stateAfter m o true st evs).cache from
    h {} (cacheOk_nil m o)
  induction evs with
  | nil => intro st h; exact h
  | cons ev rest ih => intro st h; exact ih _ (cache_inv_preserved m o st ev h)

/-- The entry a loop that caches text written inside CDATA / script stores (`(TEXT, s) ↦ s`,
    unescaped; genshi before repair fbd3a33 did) violates the invariant: outside such a context
    the same key is written escaped. -/
theorem raw_text_entry_violates_inv :
    ¬ CacheOk .xml {} [(.text ['a', '<', 'b'] false, ['a', '<', 'b'])] := by
  intro h
  have := (h (.text ['a', '<', 'b'] false) ['a', '<', 'b'] (by decide)).2 {} (by decide)
  revert this; decide

/-- main loop, all streams of filtered events -/
theorem serCache_eq_serNoCache (m : Method) (o : Opts) (evs : List FEv) :
    loop m o true {} evs = loop m o false {} evs := by
  rw [loop_eq_spec, loop_eq_spec]

theorem serCache_eq_serNoCache_xml (o : Opts) (evs : List FEv) :
    loop .xml o true {} evs = loop .xml o false {} evs := serCache_eq_serNoCache .xml o evs

theorem serCache_eq_serNoCache_xhtml (o : Opts) (evs : List FEv) :
    loop .xhtml o true {} evs = loop .xhtml o false {} evs := serCache_eq_serNoCache .xhtml o evs

theorem serCache_eq_serNoCache_html (o : Opts) (evs : List FEv) :
    loop .html o true {} evs = loop .html o false {} evs := serCache_eq_serNoCache .html o evs

example : loop .html {} true {} [.start ['s','c','r','i','p','t'] [], .text ['a','<','b'] false,
      .end_ ['s','c','r','i','p','t'], .text ['a','<','b'] false, .text ['a','<','b'] false]
    = [['<','s','c','r','i','p','t','>'], ['a','<','b'], ['<','/','s','c','r','i','p','t','>'],
       ['a','&','l','t',';','b'], ['a','&','l','t',';','b']] := by decide +kernel

/-- What one event is written as never depends on which events were serialised earlier, only on
    the markup context: two histories that lead to the same context give the same output for any
    continuation (with the cache on, whatever either history left in it). -/
theorem emit_history_free (m : Method) (o : Opts) (h1 h2 rest : List FEv)
    (hctx : ctxOf (stateAfter m o true {} h1) = ctxOf (stateAfter m o true {} h2)) :
    loop m o true (stateAfter m o true {} h1) rest = loop m o true (stateAfter m o true {} h2) rest := by
  rw [loop_cache_eq_spec m o rest _ (cache_inv m o h1), loop_cache_eq_spec m o rest _ (cache_inv m o h2), hctx]

/-- Only text (escaped or raw) and the prolog events (written once) look at the context at all. -/
theorem emit_context_only_text (m : Method) (o : Opts) (c c' : Ctx) (ev : FEv)
    (h : match ev with
         | .text _ false => c.raw = c'.raw
         | .doctype _ _ _ => c.haveDoctype = c'.haveDoctype
         | .xmlDecl _ _ _ => c.haveDecl = c'.haveDecl
         | _ => True) :
    emit m o c ev = emit m o c' ev := by
  cases ev with
  | text s f => cases f <;> simp_all [emit]
  | doctype n p s => simp_all [emit]
  | xmlDecl v e s => simp_all [emit]
  | _ => rfl

/-- When attribute values may be `Markup` instances (typed events: each START / EMPTY attribute value
    flagged Markup or plain; `Markup('x') == 'x'` and equal hashes, so the cache key `TEv.key` forgets
    the flags), what a typed event is written as depends only on the event and its markup context
    (`emitT`: a start tag holding a Markup value is `startOutM` of its own typed attributes, anything
    else is `emit` of its key), for both cache settings -/
theorem ser_is_map_emit_markup_attrs (m : Method) (o : Opts) (useCache : Bool) (evs : List TEv) :
    loopT m o useCache {} evs = serSpecT m o {} evs :=
  loopT_eq_spec m o useCache evs {} (cacheOk_nil m o)

/-- Hence cache on = cache off also on typed events, for every method, option setting and stream.
    The loops never look up nor store a start tag holding a Markup value (`stepT`: the `_cacheable`
    test), which keeps the cache invariant.  Of the loops without that test (`loopOld`: genshi before
    the repair of finding C09-markup-attr) the statement is false: `markup_attr_key_collision_witness`. -/
theorem cache_unobservable_markup_attrs (m : Method) (o : Opts) (evs : List TEv) :
    loopT m o true {} evs = loopT m o false {} evs := by
  rw [ser_is_map_emit_markup_attrs, ser_is_map_emit_markup_attrs]

/-- the typed layer extends the plain one conservatively: events without typed values go through
    `loop` unchanged, and a start tag none of whose values is Markup is written as the plain tag -/
theorem markup_attrs_conservative (m : Method) (o : Opts) (b : Bool) (evs : List FEv) (ie : Bool) (t : Str)
    (a : MAttrs) (h : ∀ p ∈ a, p.2.2 = false) :
    loopT m o b {} (evs.map TEv.ev) = loop m o b {} evs ∧ startOutM m ie t a = startOut m ie t (plainAttrs a) :=
  ⟨loopT_ev m o b evs {}, startOutM_plain m ie t a h⟩

def exTyped : List TEv :=
  [.tag false ['a'] [(['t'], ['x', '&', 'y'], true)], .ev (.end_ ['a']),
   .tag false ['a'] [(['t'], ['x', '&', 'y'], false)], .ev (.end_ ['a'])]

/-- the loops before the repair on a Markup value followed by the equal plain string: the second
    start tag is served the first one's rendering — cache on ≠ cache off (and the plain `&` goes out
    unescaped) -/
theorem markup_attr_key_collision_witness :
    loopOld .xml {} true {} exTyped ≠ loopOld .xml {} false {} exTyped ∧
    loopT .xml {} true {} exTyped = loopOld .xml {} false {} exTyped := by decide +kernel

example : (loopT .xml {} true {} exTyped).flatten =
    "<a t=\"x&y\"></a><a t=\"x&amp;y\"></a>".toList := by rw [String.toList_ofList]; decide +kernel

/-- The flattener's own START/EMPTY cache is unobservable. -/
theorem flatten_cache_irrelevant (m : Method) (evs : List QEv) :
    flatten true (flatInit m) evs = flatten false (flatInit m) evs :=
  flatten_init_cache m true evs

/-- `render(cache=True) = render(cache=False)` for every stream, method and option setting
    (both are `none` together when the stream leaves the lite namespace domain). -/
theorem render_cache_irrelevant (m : Method) (strip : Bool) (dt : Option DocTypeT) (dropd : Bool)
    (s : Stream) :
    render m { strip := strip, cache := true, doctype := dt, dropXmlDecl := dropd } s =
    render m { strip := strip, cache := false, doctype := dt, dropXmlDecl := dropd } s :=
  render_cache m strip true dt dropd s

example : render .html { strip := false, cache := true } [.start ⟨[], ['p']⟩ [], .text ['<'] false, .end_ ⟨[], ['p']⟩]
    = some ['<', 'p', '>', '&', 'l', 't', ';', '<', '/', 'p', '>'] := by decide +kernel

/-! ### `NamespaceFlattener` with its START/EMPTY cache on the FULL namespace model

  `Xml.cstep` / `Xml.cflatten` (Model/OutputFlattenCache.lean) put the filter's private cache — hit
  only when the cache is on, nothing is pending and no attribute value is a Markup instance; an
  entry stored only for a tag that wrote no declaration; cleared when a START declares and when an
  END takes declarations out of scope — on top of property C02's model of the filter
  (`Xml.flatStep`: bindings, pending requests, open elements, prefix generator), with typed
  attribute values. -/

/-- The invariant of the flattener's cache (`Xml.CacheOk pref bindings cache`) holds of the empty
    cache. -/
theorem flat_cache_inv_initial (pref : List (Str × Str)) (bs : List Xml.Binding) : Xml.CacheOk pref bs [] :=
  Xml.cacheOk_nil pref bs

/-- Every event preserves the invariant, and under it the step with the cache yields the same
    events and reaches the same flattener state as the step without (whatever the cache-less
    run carries in its unused cache component). -/
theorem flat_cache_inv_preserved (pref : List (Str × Str)) (st : Xml.FSt) (cache cache2 : Xml.Cache)
    (e : Xml.TXEv) (h : Xml.CacheOk pref st.bindings cache) :
    (Xml.cstep pref true ⟨st, cache⟩ e).2 = (Xml.cstep pref false ⟨st, cache2⟩ e).2 ∧
    (Xml.cstep pref true ⟨st, cache⟩ e).1.st = (Xml.cstep pref false ⟨st, cache2⟩ e).1.st ∧
    Xml.CacheOk pref (Xml.cstep pref true ⟨st, cache⟩ e).1.st.bindings (Xml.cstep pref true ⟨st, cache⟩ e).1.cache :=
  Xml.cstep_cache pref st cache cache2 e h

/-- hence the invariant holds at every point of every stream -/
theorem flat_cache_inv (pref : List (Str × Str)) (evs : List Xml.TXEv) :
    Xml.CacheOk pref (evs.foldl (fun c e => (Xml.cstep pref true c e).1) ⟨Xml.FSt.init, []⟩).st.bindings
      (evs.foldl (fun c e => (Xml.cstep pref true c e).1) ⟨Xml.FSt.init, []⟩).cache :=
  Xml.crun_inv pref evs Xml.FSt.init [] (Xml.cacheOk_nil _ _)

/-- why clearing on every change of `bindings` suffices: a start tag that writes no declaration is
    flattened the same in every state with the same bindings and nothing pending — the prefix
    generator's counter, the open elements and (redundant) pending requests do not matter — and it
    leaves bindings and counter as they were -/
theorem flat_cache_entry_bindings_only (pref : List (Str × Str)) (st : Xml.FSt) (tag : QName) (a : Xml.TAttrs)
    (h : (Xml.flatStartT pref st tag a).2.2.declared = []) :
    (Xml.flatStartT pref st tag a).2.2 = ⟨st.bindings, [], st.counter⟩ ∧
    ∀ st' : Xml.FSt, st'.bindings = st.bindings → st'.pending = [] →
      Xml.flatStartT pref st' tag a =
        ((Xml.flatStartT pref st tag a).1, (Xml.flatStartT pref st tag a).2.1, ⟨st.bindings, [], st'.counter⟩) :=
  Xml.flatStartT_nodecl pref st tag a h

/-- `NamespaceFlattener(prefixes, cache=True)` and `NamespaceFlattener(prefixes, cache=False)` yield
    the same events, for every preferred-prefix mapping and every stream of events whose
    attribute values are plain strings or Markup instances — on the full namespace model. -/
theorem flatten_cache_irrelevant_full (pref : List (Str × Str)) (evs : List Xml.TXEv) :
    Xml.cflatten pref true evs = Xml.cflatten pref false evs :=
  Xml.cflatten_cache pref true evs

/-- ... and on events with plain values that is C02's `Xml.flatten`: every theorem of property C02
    about the flattener's output speaks about the filter as it runs, cache on -/
theorem flatten_cached_is_xml_flatten (pref : List (Str × Str)) (useCache : Bool) (evs : List Xml.XEv) :
    Xml.cflatten pref useCache (evs.map Xml.TXEv.ofX) = (Xml.flatten pref evs).map Xml.TFEv.ofF :=
  Xml.cflatten_ofX pref useCache evs

/-- the same start tag `{u}a` four times: outermost (declares `xmlns="u"`, clears), nested (computed, stored),
    nested again (HIT), and after both ENDs (the END that drops the declaration cleared the cache:
    declares again) -/
def exFlat : List Xml.TXEv :=
  [.tag false ⟨['u'], ['a']⟩ [], .tag false ⟨['u'], ['a']⟩ [], .tag true ⟨['u'], ['a']⟩ [],
   .ev (.end_ ⟨['u'], ['a']⟩), .ev (.end_ ⟨['u'], ['a']⟩), .tag true ⟨['u'], ['a']⟩ []]

example : Xml.cflatten Xml.defaultPref true exFlat =
    [.tag false ['a'] [(['x','m','l','n','s'], (['u'], false))], .tag false ['a'] [], .tag true ['a'] [],
     .end_ ['a'], .end_ ['a'], .tag true ['a'] [(['x','m','l','n','s'], (['u'], false))]] := by decide +kernel

/-- the hit happens: in the state before the third tag the cache answers -/
example : (Xml.chit true
    ((exFlat.take 2).foldl (fun c e => (Xml.cstep Xml.defaultPref true c e).1) ⟨Xml.FSt.init, []⟩)
    false ⟨['u'], ['a']⟩ []).isSome = true := by decide +kernel

/-- An entry that survives the END which takes its declaration out of scope breaks the invariant
    (the mutation "no `cache.clear()` in the END branch"): what was stored for `{u}a` inside the
    scope of `xmlns="u"` is not what the tag is flattened to outside. -/
theorem flat_cache_stale_entry_violates_inv :
    ¬ Xml.CacheOk Xml.defaultPref Xml.FSt.init.bindings [(⟨false, ⟨['u'], ['a']⟩, []⟩, (['a'], []))] := by
  intro h
  have := h _ _ List.mem_cons_self Xml.FSt.init rfl rfl
  revert this
  decide +kernel

/-- Why the key alone does not decide a hit (the `_cacheable` test of repair 80997eb): a start tag
    holding a Markup value and the same tag holding the equal plain string have the same cache key
    (`Markup('x') == 'x'`), yet are flattened to different events (the types of the values differ,
    which the serializer's `escape` sees); `cflatten` with its cache on writes each as its own. -/
theorem flat_cache_typed_key_collision_witness :
    let aM : Xml.TAttrs := [(⟨[], ['t']⟩, (['x', '&', 'y'], true))]
    let aP : Xml.TAttrs := [(⟨[], ['t']⟩, (['x', '&', 'y'], false))]
    Xml.keyOf false ⟨[], ['a']⟩ aM = Xml.keyOf false ⟨[], ['a']⟩ aP ∧
    (Xml.flatStartT Xml.defaultPref Xml.FSt.init ⟨[], ['a']⟩ aM).2.1 ≠
      (Xml.flatStartT Xml.defaultPref Xml.FSt.init ⟨[], ['a']⟩ aP).2.1 ∧
    Xml.cflatten Xml.defaultPref true [.tag false ⟨[], ['a']⟩ aM, .tag false ⟨[], ['a']⟩ aP] =
      [.tag false ['a'] [(['t'], (['x', '&', 'y'], true))], .tag false ['a'] [(['t'], (['x', '&', 'y'], false))]] := by
  decide +kernel

/-- The serializer behind `EmptyTagFilter` (`strip_whitespace=False`, no doctype option) on the
    FULL namespace domain with typed attribute values: `NamespaceFlattener(prefixes, cache)`
    followed by the main loop of the method, both given the same `cache` argument — the text
    written with `cache=True` is the text written with `cache=False`, for every method, option
    setting, preferred-prefix mapping and stream. -/
theorem ser_cache_irrelevant_full (m : Method) (o : Opts) (pref : List (Str × Str)) (evs : List Xml.TXEv) :
    serT m o pref true evs = serT m o pref false evs := by
  simp only [serT, flatten_cache_irrelevant_full, cache_unobservable_markup_attrs]

example : serT .xml {} Xml.defaultPref true exFlat =
    "<a xmlns=\"u\"><a><a/></a></a><a xmlns=\"u\"/>".toList := by rw [String.toList_ofList]; decide +kernel

/-- The lite flattener (the one inside `render`, `Model/OutputFlattenLite.lean`) is property C02's
    full flattener restricted to its domain: whenever it answers `some out` — with or without its
    cache —, `out` is `Xml.flatten pref` of the same events through the adapters `toX` / `ofXF`, for
    EVERY preferred-prefix mapping (on the lite domain no prefix is ever made up).  Hence, with
    `flatten_cached_is_xml_flatten`, also the output of the full filter with its cache.
    Hypothesis: no element namespace is the reserved string U+0000, which C02's model reads as
    Python's `None` (a QName never has that namespace). -/
theorem lite_flatten_is_xml_flatten (m : Method) (c : Bool) (pref : List (Str × Str)) (evs : List QEv)
    (out : List FEv) (hok : ∀ e ∈ evs, tagOk e = true) (h : flatten c (flatInit m) evs = some out) :
    (Xml.flatten pref (evs.map toX)).map ofXF = out := by
  rw [flatten_init_cache] at h
  exact flatten_lift pref evs (flatInit m) Xml.FSt.init out (rel_init m) hok h

example : flatten true (flatInit .xhtml)
    [.start ⟨xhtmlNs, ['p']⟩ [(⟨xmlNs, ['l','a','n','g']⟩, ['e','n'])], .empty ⟨xhtmlNs, ['b']⟩ [], .empty ⟨[], ['i']⟩ [],
     .end_ ⟨xhtmlNs, ['p']⟩] =
    some [.start ['p'] [(xmlns, xhtmlNs), (['x','m','l',':','l','a','n','g'], ['e','n'])], .empty ['b'] [],
          .empty ['i'] [(xmlns, [])], .end_ ['p']] := by decide +kernel

/-- `render(cache=True) = render(cache=False)` for EVERY stream — any namespaces, prefixes,
    START_NS / END_NS events, made-up declarations —, every method, `strip_whitespace` setting,
    doctype option and `drop_xml_decl`: `renderFull` is the serializer with `EmptyTagFilter`,
    `WhitespaceFilter`, the full `NamespaceFlattener` with its own cache (given the method's preferred
    prefixes as extracted from the code), `DocTypeInserter` and the main loop with its cache. -/
theorem render_full_cache_irrelevant (m : Method) (strip : Bool) (dt : Option DocTypeT) (dropd : Bool)
    (s : Stream) :
    renderFull m { strip := strip, cache := true, doctype := dt, dropXmlDecl := dropd } s =
    renderFull m { strip := strip, cache := false, doctype := dt, dropXmlDecl := dropd } s := by
  simp only [renderFull, filteredFull, flatten_cache_irrelevant_full, serCache_eq_serNoCache]

/-- `renderFull` extends `render`: wherever the lite-domain model of the whole serializer answers,
    the full one gives the same text (so the theorems about `render` — strip, history, cache — are
    theorems about `renderFull` on that domain).  Hypothesis as in `lite_flatten_is_xml_flatten`. -/
theorem render_full_extends_render (m : Method) (cfg : Cfg) (s : Stream) (out : Str)
    (hok : ∀ e ∈ preFlat m cfg.strip s, tagOk e = true) (h : render m cfg s = some out) :
    renderFull m cfg s = out := by
  simp only [render, chunks, filtered, Option.map_map] at h
  cases hf : flatten cfg.cache (flatInit m) (preFlat m cfg.strip s) with
  | none => simp [hf] at h
  | some fs =>
    simp only [hf, Option.map_some, Function.comp_apply, Option.some.injEq] at h
    rw [renderFull, filteredFull_eq, lite_flatten_is_xml_flatten m cfg.cache (prefOf m) _ fs hok hf]
    exact h

/-- the typed pipeline extends the plain one conservatively: on a stream whose attribute values are
    all plain strings, `serT` (flattener with cache + typed main loop) behind `EmptyTagFilter` writes
    what `renderFull` writes with `strip_whitespace=False` and no doctype option -/
theorem ser_typed_conservative (m : Method) (c dropd : Bool) (s : Stream) :
    serT m ⟨dropd⟩ (prefOf m) c ((emptyTag none s).map fun e => Xml.TXEv.ofX (toX e)) =
    renderFull m { strip := false, cache := c, doctype := none, dropXmlDecl := dropd } s := by
  have h1 := serT_plain m ⟨dropd⟩ (prefOf m) c ((emptyTag none s).map toX)
  rw [List.map_map] at h1
  rw [show (fun e => Xml.TXEv.ofX (toX e)) = Xml.TXEv.ofX ∘ toX from rfl, h1, renderFull, filteredFull_eq]
  rfl

/-- outside the lite domain (`render` answers `none`): two prefixed namespaces, a re-bound prefix -/
example : renderFull .xml { strip := false, cache := true }
    [.startNs ['p'] ['u'], .start ⟨['u'], ['a']⟩ [], .start ⟨['v'], ['b']⟩ [(⟨['u'], ['k']⟩, ['1'])],
     .end_ ⟨['v'], ['b']⟩, .end_ ⟨['u'], ['a']⟩, .endNs ['p']]
    = "<p:a xmlns:p=\"u\"><b xmlns=\"v\" p:k=\"1\"/></p:a>".toList := by rw [String.toList_ofList]; decide +kernel

/-- every serializer class hands its `cache` argument to its main loop and to the flattener
    (defect #2: `HTMLSerializer` stored `True`) -/
theorem cache_flag_honoured :
    Gen.OutputExtra.cacheFlags.all (fun r => r.2.1 == r.1.2 && r.2.2 == r.1.2) = true := by decide +kernel

def chainOf (strip dt : Bool) : List (List Char) :=
  [['E','m','p','t','y','T','a','g','F','i','l','t','e','r']] ++
  (if strip then [['W','h','i','t','e','s','p','a','c','e','F','i','l','t','e','r']] else []) ++
  [['N','a','m','e','s','p','a','c','e','F','l','a','t','t','e','n','e','r']] ++
  (if dt then [['D','o','c','T','y','p','e','I','n','s','e','r','t','e','r']] else [])

/-- the filter chain of every serializer, for every option setting, is the one `filtered` applies -/
theorem filter_chain_order :
    Gen.OutputExtra.filterChains.all (fun r => r.2 == chainOf r.1.2.1 r.1.2.2.1) = true := by decide +kernel

def methodName : Method → List Char
  | .xml => ['x','m','l']
  | .xhtml => ['x','h','t','m','l']
  | .html => ['h','t','m','l']

/-- the constructed `WhitespaceFilter` of each serializer got the sets and the `cdata` flag the
    model uses (`wsCfg`) -/
theorem ws_filter_args :
    (Gen.OutputExtra.wsArgs ==
      [Method.xml, Method.xhtml, Method.html].map
        (fun m => (methodName m, ((wsCfg m).preserve, (wsCfg m).noescape, (wsCfg m).cdata)))) = true := by
  decide +kernel

/-- whitespace-preserving elements: `pre` and `textarea`, un-namespaced and XHTML, for the two HTML
    methods; none for xml (only `xml:space="preserve"`) -/
theorem preserve_table_is_spec :
    Gen.Output.htmlPreserveSpace =
      [([], ['p','r','e']), ([], ['t','e','x','t','a','r','e','a']), (xhtmlNs, ['p','r','e']),
       (xhtmlNs, ['t','e','x','t','a','r','e','a'])] ∧
    Gen.Output.xhtmlPreserveSpace = Gen.Output.htmlPreserveSpace ∧ Gen.Output.xmlPreserveSpace = [] := by decide +kernel

/-- raw-text elements of html: `script` and `style`, un-namespaced and XHTML -/
theorem noescape_table_is_spec :
    Gen.Output.htmlNoescapeElems =
      [([], ['s','c','r','i','p','t']), ([], ['s','t','y','l','e']), (xhtmlNs, ['s','c','r','i','p','t']),
       (xhtmlNs, ['s','t','y','l','e'])] := by decide +kernel

theorem xml_namespace_const :
    xmlNs = Gen.OutputExtra.xmlNamespace ∧ xmlSpaceQ.ns = Gen.OutputExtra.xmlNamespace := by decide +kernel

/-- the serializer with a `WhitespaceFilter` whose text normalisation is `norm` -/
def renderWith (norm : Bool → Str → Str) (m : Method) (cache dropd : Bool) (dt : Option DocTypeT)
    (s : Stream) : Option Str :=
  (flatten cache (flatInit m) (wsFilterG norm (wsCfg m) {} (emptyTag none s))).map
    fun fs => (loop m ⟨dropd⟩ cache {} (withDoctype dt fs)).flatten

theorem renderWith_cache (norm : Bool → Str → Str) (m : Method) (cache dropd : Bool) (dt : Option DocTypeT)
    (s : Stream) : renderWith norm m cache dropd dt s = renderWith norm m false dropd dt s := by
  simp only [renderWith, flatten_init_cache m cache, loop_eq_spec]

/-- `strip_whitespace=True` is: every maximal run of adjacent TEXT events goes through `stdNorm`
    (`wsNorm` outside preserved space, identity inside) — by construction of the filter. -/
theorem strip_is_norm_of_runs (m : Method) (cache dropd : Bool) (dt : Option DocTypeT) (s : Stream) :
    render m { strip := true, cache := cache, doctype := dt, dropXmlDecl := dropd } s =
    renderWith stdNorm m cache dropd dt s := by
  simp only [render, chunks, filtered, preFlat, wsFilter, renderWith, Option.map_map, ↓reduceIte]
  congr 1

/-- for html the filter looks script/style up by qualified name and the main loop by flattened
    name; the stream is inside the HTML vocabulary when both agree on every START -/
def NoescapeAgreeS (m : Method) (s : Stream) : Prop :=
  ∀ t a, Event.start t a ∈ s → m = .html →
    qInTable (noescapeElems .html) t = inTable (noescapeElems .html) t.loc

/-- Apart from normalising white space the filter is unobservable: with the merge-only filter
    (adjacent text merged, pre-escaped, wrapped in Markup, script/CDATA text marked raw — but no
    normalisation) the output is the output without any filter, for every method, cache setting,
    doctype option and `drop_xml_decl`.  Unconditional for xml and xhtml; for html on streams whose
    script/style elements are un-namespaced or XHTML (`NoescapeAgreeS`, see
    `strip_namespace_witness`) — hence `_partial`. -/
theorem merge_only_unobservable_partial (m : Method) (cache dropd : Bool) (dt : Option DocTypeT) (s : Stream)
    (hag : NoescapeAgreeS m s) :
    renderWith idNorm m cache dropd dt s =
    render m { strip := false, cache := cache, doctype := dt, dropXmlDecl := dropd } s := by
  rw [renderWith_cache, render_cache m false cache]
  have := wsMerge_withDoctype m ⟨dropd⟩ dt (emptyTag none s) (flatInit m) (noescapeAgree_emptyTag m s hag)
  simp only [renderWith, render, chunks, filtered, preFlat, Option.map_map, Bool.false_eq_true, ↓reduceIte]
  exact this

/-- the hypothesis holds on the HTML vocabulary: un-namespaced or XHTML elements whose local
    names contain no brace -/
theorem noescape_agree_html_vocab (t : QName) (h : (t.ns = [] ∨ t.ns = xhtmlNs) ∧ '{' ∉ t.loc) :
    qInTable (noescapeElems .html) t = inTable (noescapeElems .html) t.loc := by
  obtain ⟨ns, loc⟩ := t
  simp only at h
  have hb : ∀ pre : Str, loc ≠ '{' :: pre := by
    intro pre hp; exact h.2 (by simp [hp])
  rcases h.1 with h1 | h1 <;> subst h1
  · rfl
  · simp only [qInTable, inTable, noescapeElems, Gen.Output.htmlNoescapeElems, QName.text, xhtmlNs, List.any_cons,
      List.any_nil, List.isEmpty_nil, List.isEmpty_cons, ↓reduceIte, Bool.false_eq_true, Bool.or_false]
    by_cases hs : loc = ['s', 'c', 'r', 'i', 'p', 't']
    · subst hs; decide
    by_cases hy : loc = ['s', 't', 'y', 'l', 'e']
    · subst hy; decide
    have e1 : ∀ x : Str, x ≠ loc → (x == loc) = false := fun x hx => by simpa using hx
    simp [e1 _ (Ne.symm hs), e1 _ (Ne.symm hy)]
    exact ⟨fun h => hb _ h.symm, fun h => hb _ h.symm⟩

/-- outside it the full statement fails: a `script` element in a foreign default namespace is
    raw for the main loop (flattened name `script`) but not for the filter -/
theorem strip_namespace_witness :
    let s : Stream := [.start ⟨['u'], ['s','c','r','i','p','t']⟩ [], .text ['<'] false,
                       .end_ ⟨['u'], ['s','c','r','i','p','t']⟩]
    renderWith idNorm .html false true none s ≠ render .html { strip := false, cache := false } s := by decide +kernel

/-- Output produced with whitespace stripping differs from output without it only in that every
    text run outside preserved space is replaced by its white-space normal form, which deletes
    nothing but blanks, tabs and line feeds.
    Partial: for html the `NoescapeAgreeS` hypothesis is needed (the statement is false without it:
    `strip_namespace_witness`).  The equation `wsNorm (render strip) = wsNorm (render nostrip)` for
    the global normal form is `strip_only_whitespace_global_partial` (also checked by the oracle with
    Python's `re` on every generated stream). -/
theorem strip_only_whitespace_partial (m : Method) (cache dropd : Bool) (dt : Option DocTypeT) (s : Stream)
    (hag : NoescapeAgreeS m s) :
    render m { strip := true, cache := cache, doctype := dt, dropXmlDecl := dropd } s =
      renderWith stdNorm m cache dropd dt s ∧
    render m { strip := false, cache := cache, doctype := dt, dropXmlDecl := dropd } s =
      renderWith idNorm m cache dropd dt s ∧
    (∀ p x, stdNorm p x = (if p then idNorm p x else wsNorm x)) ∧
    (∀ x, (wsNorm x).Sublist x ∧ (wsNorm x).filter (fun c => !wsChar c) = x.filter (fun c => !wsChar c)) :=
  ⟨strip_is_norm_of_runs m cache dropd dt s, (merge_only_unobservable_partial m cache dropd dt s hag).symm,
   fun _ _ => rfl, Output.wsNorm_deletes_only_ws⟩

/-- The normal form of a whole text absorbs the normal form of any part of it. -/
theorem wsNorm_absorbs (A R B : Str) : wsNorm (A ++ (wsNorm R ++ B)) = wsNorm (A ++ (R ++ B)) :=
  wsNorm_absorb A R B

/-- Escaping and the white-space normal form commute (the filter normalises *after* escaping, the
    property speaks about the text): what the filter hands on for escaped text is the escape of the
    normalised text. -/
theorem wsNorm_commutes_with_escape (x : Str) :
    wsNorm (Escape.escapePy false x) = Escape.escapePy false (wsNorm x) := by
  rw [Escape.escapePy_eq_spec, Escape.escapePy_eq_spec]; exact wsNorm_escape x

theorem renderWith_rel (n1 n2 : Bool → Str → Str) (h : ∀ p x, WsEq (n1 p x) (n2 p x)) (m : Method)
    (dropd : Bool) (dt : Option DocTypeT) (s : Stream) :
    OptRel WsEq (renderWith n1 m false dropd dt s) (renderWith n2 m false dropd dt s) :=
  (flatten_rel (wsFilterG_rel n1 n2 h (wsCfg m) (emptyTag none s) {}) (flatInit m)).map fun _ _ hf => by
    cases dt with
    | none => exact loop_rel m ⟨dropd⟩ hf {}
    | some d => exact loop_rel m ⟨dropd⟩ (docTypeInsert_rel d hf) {}

/-- The formulation of DESIGN.md: the outputs with and without whitespace stripping have the same
    white-space normal form (`wsNorm` = delete `[ \t]+` before line feeds, then collapse runs of line
    feeds, applied to the whole output), for every method, cache setting, doctype option and
    `drop_xml_decl`.  Proof: both outputs are `renderWith norm` for two normalisations that agree up
    to `wsNorm` in every context (`WsEq`, by the absorption lemma `wsNorm_absorb`); filter, flattener,
    `DocTypeInserter` and main loop keep streams related piecewise (`renderWith_rel`).  It says
    less than `strip_only_whitespace_partial` (it ignores that preserved space is left alone).  Partial for html as there
    (`NoescapeAgreeS`). -/
theorem strip_only_whitespace_global_partial (m : Method) (cache dropd : Bool) (dt : Option DocTypeT)
    (s : Stream) (hag : NoescapeAgreeS m s) :
    OptRel (fun a b => wsNorm a = wsNorm b)
      (render m { strip := true, cache := cache, doctype := dt, dropXmlDecl := dropd } s)
      (render m { strip := false, cache := cache, doctype := dt, dropXmlDecl := dropd } s) := by
  rw [strip_is_norm_of_runs, ← merge_only_unobservable_partial m cache dropd dt s hag]
  rw [renderWith_cache stdNorm, renderWith_cache idNorm]
  exact (renderWith_rel stdNorm idNorm wsEq_stdNorm m dropd dt s).mono fun a b h => by simpa using h [] []

example : wsNorm ['<', 'p', '>', ' ', '\n', '\n', 'x'] = wsNorm ['<', 'p', '>', '\n', 'x'] := by decide +kernel

/-- The same for the total model `renderFull`, on the part of its domain where the lite-domain
    model `render` answers (there the two agree: `render_full_extends_render`).
    FULL STATEMENT (not proved): the equation for every stream — it needs the whitespace lemmas
    (`renderWith_rel`, `wsMerge_tailOut`) re-proved against `Xml.cflatten`, see notes/C09.md. -/
theorem strip_only_whitespace_full_partial (m : Method) (cache dropd : Bool) (dt : Option DocTypeT)
    (s : Stream) (hag : NoescapeAgreeS m s)
    (hok : ∀ strip, ∀ e ∈ preFlat m strip s, tagOk e = true)
    (hdom : (render m { strip := false, cache := cache, doctype := dt, dropXmlDecl := dropd } s).isSome) :
    wsNorm (renderFull m { strip := true, cache := cache, doctype := dt, dropXmlDecl := dropd } s) =
    wsNorm (renderFull m { strip := false, cache := cache, doctype := dt, dropXmlDecl := dropd } s) := by
  obtain ⟨a, b, h1, h2, hab⟩ := (strip_only_whitespace_global_partial m cache dropd dt s hag).of_isSome hdom
  rw [render_full_extends_render m _ s a (hok true) h1, render_full_extends_render m _ s b (hok false) h2]
  exact hab

example : wsNorm (renderFull .xhtml { strip := true, cache := true }
      [.start ⟨xhtmlNs, ['p']⟩ [], .text [' ', '\n', '\n', 'x'] false, .end_ ⟨xhtmlNs, ['p']⟩]) =
    wsNorm (renderFull .xhtml { strip := false, cache := true }
      [.start ⟨xhtmlNs, ['p']⟩ [], .text [' ', '\n', '\n', 'x'] false, .end_ ⟨xhtmlNs, ['p']⟩]) := by decide +kernel

theorem wsNorm_deletes_only_ws (x : Str) :
    (wsNorm x).Sublist x ∧ (wsNorm x).filter (fun c => !wsChar c) = x.filter (fun c => !wsChar c) :=
  Output.wsNorm_deletes_only_ws x

example : wsNorm ['a', ' ', ' ', '\n', '\n', '\n', ' ', 'b', ' '] = ['a', '\n', ' ', 'b', ' '] := by decide +kernel

end Genshi.Props.C09
