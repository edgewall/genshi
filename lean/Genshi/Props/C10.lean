/-
  C10 — Rendering never modifies a template; renders are independent of one another.
  The property theorems, with the definitions their statements use (the lemmas about `FlagsUp` stand
  beside it); the heap machine is `Genshi/Model/Heap*.lean`, the helper lemmas are
  `Genshi/Lemmas/Heap*.lean`.  `cv` is the variant of the code under test, regenerated by
  the translator from behavioural probes (`Genshi/Gen/Heap.lean`).

  OBLIGATIONS (checked against the axiom audit by the harness):
    codeVariant_fixed step_preserves_template extract_preserves_template
    op_preserves_template op_preserves_prepared_heap prepared_stays unpickled_renders_same
    step_footprint interleaving_independent interleaving_independent_opened
    ops_between_steps_invisible failure_isolated failing_step_footprint
    extract_original_changes_render call_original_writes_template
    extract_original_can_hang_render call_original_transient_state call_micro_agrees
    extract_history_independent solo_is_api_run
    prepare_race_witness_between_assignments prepare_race_witness_check_then_act
    prepare_uninterrupted_ok prepare_sequential_ok prepare_race_never_silent prepare_overlap_without_raise
    i18nKeys_match dirClasses_match pickle_keeps_and_restores_filters prepared_flags_match
    step_reads_own_render_only genexp_reads_context_at_next for_genexp_item_after_pop
    lazy_scope_interleaving_witness lambda_reads_context_at_call genfn_source_read_at_first_next
    lazy_scope_interleaving_witness2 schedule_reads_own_render_only for_genexp_next_item
-/
import Genshi.Lemmas.HeapWorld
import Genshi.Gen.Heap
namespace Genshi.Props.C10
open Genshi Genshi.Heap

/-- the code under test, as probed by the translator -/
abbrev cv : Variant := Genshi.Gen.Heap.codeVariant

/-- Both `fix:` commits are in the tree under test: `Translator.__call__` and
    `Translator.extract` work on copies of the directive lists.  Every theorem below that
    mentions `cv` rests on this; reverting either repair flips the probe and breaks the build here. -/
theorem codeVariant_fixed : cv = Variant.fixed := by decide +kernel

theorem cv_call : cv.callCopies = true := by decide +kernel
theorem cv_extract : cv.extractCopies = true := by decide +kernel

/-- A `next()` of any render, in any state, returns the template's heap as it found it. -/
theorem step_preserves_template (tr : Bool) (roots : List Nat) (fuel : Nat) (h : Heap) (r : Render) :
    (stepR cv tr roots fuel h r).h = h := stepR_heap cv cv_call tr roots fuel h r

/-- `Translator.extract` over any stream returns the template's heap as it found it. -/
theorem extract_preserves_template (fuel : Nat) (h : Heap) (evs : List TEv) :
    (extractEvs cv fuel h evs).h = h := extractEvs_heap cv cv_extract fuel h evs

/-- For every API operation (`.stream`, `generate`, `next()` of any open
    render, message extraction, pickling, loader registration) on a template in any state —
    prepared or not, with any number of open renders in any states — a later render with the same
    data produces the same output: for all data `d` and any number `n` of `next()` calls. -/
theorem op_preserves_template (fuel : Nat) (w : World) (hc : w.Consistent) (a : Act)
    (d : Frame) (n : Nat) :
    solo cv fuel (exec cv fuel w a).1 d n = solo cv fuel w d n :=
  (exec_sameTmpl cv cv_call cv_extract fuel w hc a).solo cv fuel d n

/-- Structurally: no operation changes a single cell of the prepared lists of ANY template of the
    loader, the filters, or which list is a template's `_stream`; what may change is `_stream`/`_prepared`
    flag pairs, and they stay consistent (that a prepared pair stays as it is: `prepared_stays`). -/
theorem op_preserves_prepared_heap (fuel : Nat) (w : World) (hc : w.Consistent) (a : Act) :
    (exec cv fuel w a).1.heap = w.heap ∧ (exec cv fuel w a).1.translator = w.translator ∧
    (exec cv fuel w a).1.roots = w.roots ∧ (exec cv fuel w a).1.Consistent := by
  have hs := exec_sameTmpl cv cv_call cv_extract fuel w hc a
  exact ⟨hs.heap, hs.translator, hs.roots, hs.cons⟩

/-- The unpickled copy of a template without extra filters renders like the original. -/
theorem unpickled_renders_same (fuel : Nat) (w : World) (ht : w.translator = false)
    (d : Frame) (n : Nat) : solo cv fuel w.unpickled d n = solo cv fuel w d n := by
  unfold solo World.unpickled World.roots
  simp [ht]

/-- a prepared template stays exactly as it is -/
def FlagsUp (ts ts' : List TState) : Prop :=
  ∀ (t : Nat) (x : TState), ts[t]? = some x → x.prepared = true → ts'[t]? = some x

theorem accessT_up (ts : List TState) (t : Nat) : FlagsUp ts (accessT ts t).1 := by
  intro u x hu hp
  fun_cases accessT ts t
  case case4 y hy hny _ =>
    show (ts.set t _)[u]? = some x
    by_cases hut : u = t
    · subst hut; rw [hy] at hu; cases hu; exact absurd hp hny
    · rw [List.getElem?_set_ne (Ne.symm hut)]; exact hu
  all_goals exact hu

theorem markPrepared_up : ∀ (touched : List Nat) (ts : List TState), FlagsUp ts (markPrepared ts touched) := by
  intro touched
  induction touched with
  | nil => intro ts t x h _; exact h
  | cons a rest ih =>
    intro ts t x h hp
    exact ih _ t x (accessT_up ts a t x h hp) hp

/-- Every operation leaves the `_stream` / `_prepared` pair of every already prepared template of the
    loader untouched: preparation happens once per template object. -/
theorem prepared_stays (fuel : Nat) (w : World) (a : Act) : FlagsUp w.tmpls (exec cv fuel w a).1.tmpls := by
  have ha : FlagsUp w.tmpls w.access.1.tmpls := accessT_up w.tmpls 0
  cases a with
  | access => exact ha
  | «open» d => rw [exec_open_eq]; split <;> exact ha
  | step i =>
    cases hr : w.renders[i]? with
    | none => rw [exec_step_none cv fuel w i hr]; exact fun _ _ h _ => h
    | some r => rw [exec_step_some cv fuel w i r hr]; exact markPrepared_up _ _
  | extract =>
    rw [exec_extract_eq]
    split
    · split <;> exact ha
    · exact ha
  | pickle | register => exact fun _ _ h _ => h

/-- A `next()` of render `i` writes render `i`'s own state and nothing else:
    not a cell of any template, not the filters, not the loader, not any other render.  (What it
    may do to shared state is prepare a template it includes for the first time — the flag pair of
    `op_preserves_prepared_heap`.) -/
theorem step_footprint (fuel : Nat) (w : World) (i : Nat) :
    (exec cv fuel w (.step i)).1.heap = w.heap ∧
    (exec cv fuel w (.step i)).1.translator = w.translator ∧
    (exec cv fuel w (.step i)).1.registered = w.registered ∧
    ∀ j, j ≠ i → (exec cv fuel w (.step i)).1.renders[j]? = w.renders[j]? := by
  cases hr : w.renders[i]? with
  | none => rw [exec_step_none cv fuel w i hr]; exact ⟨rfl, rfl, rfl, fun _ _ => rfl⟩
  | some r =>
    rw [exec_step_some cv fuel w i r hr]
    exact ⟨stepR_heap cv cv_call w.translator w.roots fuel w.heap r, rfl, rfl,
      fun j hj => List.getElem?_set_ne (Ne.symm hj)⟩

/-- For EVERY schedule — any interleaving of `next()` calls over
    any number of open renders, with API operations and further `generate` calls anywhere in
    between — the outputs of render `i` are exactly the outputs of stepping that render alone
    against the same template. -/
theorem interleaving_independent (fuel : Nat) (s : List Act) (w : World) (i : Nat) (r : Render)
    (hc : w.Consistent) (hr : w.renders[i]? = some r) :
    outputsOf i (run cv fuel w s).2 =
      soloSteps cv w.translator w.roots fuel w.heap (countSteps i s) r :=
  run_outputs cv cv_call cv_extract fuel s w i r hc hr

/-- The same for a render opened in the middle of a schedule: after ANY history `s1` on the
    template object (prepared or not at the start), `generate(**d)` followed by any schedule `s2`
    yields, for the new render, exactly `solo` on the untouched initial object. -/
theorem interleaving_independent_opened (fuel : Nat) (w : World) (hc : w.Consistent)
    (s1 : List Act) (d : Frame) (s2 : List Act) :
    let w1 := (run cv fuel w s1).1
    let k := w1.renders.length
    outputsOf k (run cv fuel (exec cv fuel w1 (.open d)).1 s2).2 = solo cv fuel w d (countSteps k s2) := by
  intro w1 k
  have hs1 : SameTmpl w w1 := run_sameTmpl cv cv_call cv_extract fuel s1 w hc
  have hs2 := exec_sameTmpl cv cv_call cv_extract fuel w1 hs1.cons (.open d)
  have hr : (exec cv fuel w1 (.open d)).1.renders[k]? = some (Render.new w1.translator (w1.roots.headD 0) d) := by
    rw [exec_open cv fuel w1 hs1.cons d]; exact List.getElem?_concat_length ..
  rw [interleaving_independent fuel s2 _ k _ hs2.cons hr, ← hs1.solo cv fuel d, hs2.heap, hs2.translator, hs2.roots]
  rfl

/-- Two worlds with the same template value
    that agree on render `i`, driven by ANY two schedules (other renders with other data, other operations, in any
    order) that give render `i` the same number of `next()` calls, yield the same outputs for render `i`.  What a
    render outputs is a function of the template value, its own state and how often it was advanced — of nothing
    any other render, or code running lazily inside it, did. -/
theorem schedule_reads_own_render_only (fuel : Nat) (s s' : List Act) (w w' : World) (i : Nat) (r : Render)
    (hc : w.Consistent) (hc' : w'.Consistent)
    (hh : w.heap = w'.heap) (hr : w.roots = w'.roots) (ht : w.translator = w'.translator)
    (hi : w.renders[i]? = some r) (hi' : w'.renders[i]? = some r)
    (hn : countSteps i s = countSteps i s') :
    outputsOf i (run cv fuel w s).2 = outputsOf i (run cv fuel w' s').2 := by
  rw [interleaving_independent fuel s w i r hc hi, interleaving_independent fuel s' w' i r hc' hi', hh, hr, ht, hn]

/-- API operations between the `next()` calls are invisible to every render: dropping them all
    from a schedule changes no render's output. -/
theorem ops_between_steps_invisible (fuel : Nat) (s : List Act) (w : World) (i : Nat) (r : Render)
    (hc : w.Consistent) (hr : w.renders[i]? = some r) :
    outputsOf i (run cv fuel w s).2 =
      outputsOf i (run cv fuel w (s.filter fun a => match a with | .step _ => true | _ => false)).2 :=
  schedule_reads_own_render_only fuel s _ w w i r hc hc rfl rfl rfl hr hr (countSteps_filter i _ rfl s).symm

def notStepOf (i : Nat) : Act → Bool
  | .step j => j != i
  | _ => true

/-- Whatever render `i` does — including raising part-way — has no effect
    on any other render: removing every `next()` of render `i` from the schedule leaves the
    outputs of each other render `j` unchanged. -/
theorem failure_isolated (fuel : Nat) (s : List Act) (w : World) (i j : Nat) (r : Render)
    (hij : j ≠ i) (hc : w.Consistent) (hr : w.renders[j]? = some r) :
    outputsOf j (run cv fuel w s).2 = outputsOf j (run cv fuel w (s.filter (notStepOf i))).2 :=
  schedule_reads_own_render_only fuel s _ w w j r hc hc rfl rfl rfl hr hr
    (countSteps_filter j _ (by simp [notStepOf, hij]) s).symm

/-- The step on which a render raises changes nothing another render or a later render reads. -/
theorem failing_step_footprint (fuel : Nat) (w : World) (hc : w.Consistent) (i : Nat) (e : Err)
    (_ : (exec cv fuel w (.step i)).2 = .out i (.err e)) :
    SameTmpl w (exec cv fuel w (.step i)).1 ∧
    ∀ j, j ≠ i → (exec cv fuel w (.step i)).1.renders[j]? = w.renders[j]? :=
  ⟨exec_sameTmpl cv cv_call cv_extract fuel w hc (.step i), (step_footprint fuel w i).2.2.2⟩

/-- Extraction is repeatable and independent of everything that happened to the object before:
    after ANY history the messages walk is the one of the untouched object. -/
theorem extract_history_independent (fuel : Nat) (w : World) (hc : w.Consistent) (s : List Act) :
    (exec cv fuel (run cv fuel w s).1 .extract).2 = (exec cv fuel w .extract).2 :=
  (run_sameTmpl cv cv_call cv_extract fuel s w hc).extract hc cv fuel

/-- `solo` is not an ad-hoc definition: it is what the API yields when nothing else happens —
    `generate(**d)` followed by `n` times `next()`. -/
theorem solo_is_api_run (fuel : Nat) (w : World) (hc : w.Consistent) (d : Frame) (n : Nat) :
    outputsOf w.renders.length
      (run cv fuel w (.open d :: List.replicate n (.step w.renders.length))).2 = solo cv fuel w d n := by
  have h := interleaving_independent_opened fuel w hc [] d (List.replicate n (.step w.renders.length))
  simp only [run] at h
  rw [countSteps_replicate] at h
  rw [run_cons]
  rw [outputsOf_exec_other cv fuel w (.open d) _ _ nofun]
  exact h


def sHidden : Str := ['h', 'i', 'd', 'd', 'e', 'n']

/-- `<b py:if="False">hidden</b>`: SUB([If False], [TEXT hidden]) -/
def imgIf : Heap :=
  [ .evs [.sub (.tmpl 1) (.tmpl 2)],
    .dirs [⟨0, .pyIf (.lit (.atom (.bool false)))⟩],
    .evs [.out (.text sHidden false)] ]

/-- Before the repair `op_preserves_template` is FALSE for `extract`: after
    `Translator.extract(tmpl.stream)` the element hidden by `py:if="False"` is rendered. -/
theorem extract_original_changes_render :
    solo Variant.original 20 (exec Variant.original 20 (World.init imgIf [0] false) .extract).1 [] 2
      ≠ solo Variant.original 20 (World.init imgIf [0] false) [] 2 := by decide +kernel

example : solo Variant.original 20 (World.init imgIf [0] false) [] 2 = [.done, .stopped] := by decide +kernel
example : solo Variant.original 20 (exec Variant.original 20 (World.init imgIf [0] false) .extract).1 [] 2
    = [.ev (.text sHidden false), .done] := by decide +kernel
/-- with the repaired code the same scenario is covered by `op_preserves_template` -/
example : solo Variant.fixed 20 (exec Variant.fixed 20 (World.init imgIf [0] false) .extract).1 [] 2
    = [.done, .stopped] := by decide +kernel

/-- `<p i18n:comment="c" i18n:domain="d"/>` with the directives in the order [comment, domain] -/
def imgDomain : Heap :=
  [ .evs [.sub (.tmpl 1) (.tmpl 2)],
    .dirs [⟨0, .i18nComment ['c']⟩, ⟨1, .i18nDomain ['d']⟩],
    .evs [.out (.text ['x'] false)] ]

/-- Before the repair `step_footprint` is FALSE: a `next()` of a render with the Translator filter
    reorders the template's own directive list. -/
theorem call_original_writes_template :
    (exec Variant.original 20 (exec Variant.original 20 (World.init imgDomain [0] true) (.open [])).1 (.step 0)).1.heap
      ≠ (exec Variant.original 20 (World.init imgDomain [0] true) (.open [])).1.heap := by decide +kernel

example : (exec Variant.fixed 20 (exec Variant.fixed 20 (World.init imgDomain [0] true) (.open [])).1 (.step 0)).1.heap
    = imgDomain := by decide +kernel

/-- a SUB with the one directive `py:strip` over `a`, `${[1]}`, `b`: `extract` as it was pops every
    directive that is not an i18n one, which leaves this list empty -/
def imgLoop : Heap :=
  [ .evs [.sub (.tmpl 1) (.tmpl 2)],
    .dirs [⟨0, .pyStrip none⟩],
    .evs [.out (.text ['a'] false), .expr (.lit (.list [.int 1])), .out (.text ['b'] false)] ]

/-- Before the repair extraction can leave a SUB event with an EMPTY directive list behind; `_flatten`
    then iterates the sub-stream list itself and starts over after every nested iterator: the render
    never finishes (here: more than 12 events from a 3-event template, never `done`). -/
theorem extract_original_can_hang_render :
    StepOut.done ∉ solo Variant.original 40 (exec Variant.original 40 (World.init imgLoop [0] false) .extract).1 [] 12 ∧
    StepOut.done ∈ solo Variant.original 40 (World.init imgLoop [0] false) [] 12 := by decide +kernel

/-- Thread granularity, before the repair: `directives.insert(0, directives.pop(idx))` is two calls on the
    shared list.  Even when the i18n:domain directive is already in front (the usual case: nothing
    changes in the end), between the two calls the list that every other render applies lacks it. -/
theorem call_original_transient_state :
    [⟨1, .i18nComment ['c']⟩] ∈
      reorderMicro 2 0 [⟨0, .i18nDomain ['d']⟩, ⟨1, .i18nComment ['c']⟩] false ∧
    lastOr [] (reorderMicro 2 0 [⟨0, .i18nDomain ['d']⟩, ⟨1, .i18nComment ['c']⟩] false)
      = [⟨0, .i18nDomain ['d']⟩, ⟨1, .i18nComment ['c']⟩] := by decide +kernel

/-- the call-by-call trace is the loop of the model: it ends in the list `reorderLoop` computes -/
theorem call_micro_agrees (n i : Nat) (s : Reorder) :
    lastOr s.ds (reorderMicro n i s.ds (strTruthy s.dom)) = (reorderLoop n i s).ds :=
  reorderMicro_last n i s

/-- Thread 0 has assigned `_stream` and not yet `_prepared`; thread 1 arrives, sees
    `_prepared == False`, prepares the prepared stream and raises. -/
theorem prepare_race_witness_between_assignments :
    (raceRun (RaceSt.init 2) [0, 0, 0, 0, 1, 1, 1, 1]).pcs = [.l476, .raised] := by decide +kernel

/-- Thread 0 has passed the check; thread 1 prepares completely; thread 0 prepares again and raises. -/
theorem prepare_race_witness_check_then_act :
    (raceRun (RaceSt.init 2) [0, 0, 1, 1, 1, 1, 1, 0, 0]).pcs = [.raised, .finished] := by decide +kernel

def raceConsistent (s : RaceSt) : Prop := s.prepared = s.streamPrepared

/-- Both threads read the unprepared stream before either assigns: nobody raises, both finish. -/
theorem prepare_overlap_without_raise :
    (raceRun (RaceSt.init 2) [0, 0, 0, 1, 1, 1, 1, 1, 0, 0]).pcs = [.finished, .finished] := by decide +kernel

/-- A thread that runs `Template.stream` without another thread in between finishes without raising
    and leaves a consistent, prepared template (this is the hypothesis of every theorem above:
    `World.access` is atomic). -/
theorem prepare_uninterrupted_ok (s : RaceSt) (t : Nat) (hc : raceConsistent s) (ht : s.pcs[t]? = some .l455) :
    (raceRun s [t, t, t, t, t]).pcs[t]? = some .finished ∧ (raceRun s [t, t, t, t, t]).prepared = true ∧
    raceConsistent (raceRun s [t, t, t, t, t]) ∧
    ∀ u, u ≠ t → (raceRun s [t, t, t, t, t]).pcs[u]? = s.pcs[u]? := by
  obtain ⟨h1, o1⟩ := raceStep_view s t (s.prepared, s.prepared, .l455) ⟨hc.symm, rfl, ht⟩
  obtain ⟨h2, o2⟩ := raceStep_view _ t _ h1
  obtain ⟨h3, o3⟩ := raceStep_view _ t _ h2
  obtain ⟨h4, o4⟩ := raceStep_view _ t _ h3
  obtain ⟨h5, o5⟩ := raceStep_view _ t _ h4
  have e : pcStep (pcStep (pcStep (pcStep (pcStep (s.prepared, s.prepared, .l455))))) = (true, true, .finished) := by
    cases s.prepared <;> rfl
  rw [e] at h5
  exact ⟨h5.2.2, h5.2.1, h5.2.1.trans h5.1.symm, fun u hu =>
    (o5 u hu).trans ((o4 u hu).trans ((o3 u hu).trans ((o2 u hu).trans (o1 u hu))))⟩

/-- Any number of threads entering one after the other: nobody raises. -/
theorem prepare_sequential_ok (n : Nat) :
    ∀ (k : Nat), k ≤ n →
      let s := raceRun (RaceSt.init n) ((List.range k).flatMap fun t => [t, t, t, t, t])
      raceConsistent s ∧ (∀ t, t < k → s.pcs[t]? = some .finished) ∧ (∀ t, k ≤ t → t < n → s.pcs[t]? = some .l455) := by
  intro k
  induction k with
  | zero =>
    refine fun _ => ⟨rfl, fun t ht => absurd ht (Nat.not_lt_zero t), fun t _ ht => ?_⟩
    show (List.replicate n Pc.l455)[t]? = _
    rw [List.getElem?_replicate, if_pos ht]
  | succ k ih =>
    intro hk
    obtain ⟨hc, hfin, hwait⟩ := ih (Nat.le_of_succ_le hk)
    rw [List.range_succ, List.flatMap_append, raceRun_append, List.flatMap_cons, List.flatMap_nil, List.append_nil]
    obtain ⟨h1, _, h3, h4⟩ := prepare_uninterrupted_ok _ k hc (hwait k (Nat.le_refl k) hk)
    refine ⟨h3, fun t ht => ?_, fun t ht1 ht2 => ?_⟩
    · by_cases htk : t = k
      · subst htk; exact h1
      · exact (h4 t htk).trans (hfin t (Nat.lt_of_le_of_ne (Nat.le_of_lt_succ ht) htk))
    · exact (h4 t (Nat.ne_of_gt ht1)).trans (hwait t (Nat.le_of_succ_le ht1) ht2)

/-- Line granularity, EVERY schedule, any number of threads: the race in `_prepare_self` can make a
    thread raise, but it cannot make one return a stream that is not prepared (no silently wrong
    output).  (The other half of `RaceInv`: `_prepared` is never set on an unprepared stream.) -/
theorem prepare_race_never_silent (n : Nat) (sched : List Nat) (t : Nat)
    (h : (raceRun (RaceSt.init n) sched).pcs[t]? = some .finished) :
    (raceRun (RaceSt.init n) sched).streamPrepared = true :=
  (raceInv_run sched _ (raceInv_init n)).2 t (Or.inr h)

/-- the context keys the model's `Translator.__call__` sets are the ones the code sets -/
theorem i18nKeys_match : Genshi.Gen.Heap.i18nKeys = Genshi.Heap.i18nKeys := by decide +kernel

def pfx (p : Str) (s : Str) : Str := p ++ s

/-- the model's view of each registered directive -/
def kindOfName (n : Str) : Option DirKind :=
  if n = ['p','y',':','i','f'] then some (.pyIf (.lit (.atom .none)))
  else if n = ['p','y',':','f','o','r'] then some (.pyFor [] (.lit (.atom .none)))
  else if n = ['p','y',':','w','i','t','h'] then some (.pyWith [])
  else if n = ['p','y',':','c','h','o','o','s','e'] then some (.pyChoose none)
  else if n = ['p','y',':','w','h','e','n'] then some (.pyWhen none)
  else if n = ['p','y',':','o','t','h','e','r','w','i','s','e'] then some .pyOtherwise
  else if n = ['p','y',':','s','t','r','i','p'] then some (.pyStrip none)
  else if n = ['p','y',':','d','e','f'] then some (.pyDef [] [])
  else if n = ['p','y',':','m','a','t','c','h'] then some (.pyMatch [] false)
  else if
          n = ['p','y',':','r','e','p','l','a','c','e'] ∨ n = ['p','y',':','c','o','n','t','e','n','t'] ∨
          n = ['p','y',':','a','t','t','r','s'] then some .pyOther
  else if n = ['i','1','8','n',':','d','o','m','a','i','n'] then some (.i18nDomain [])
  else if n = ['i','1','8','n',':','c','o','m','m','e','n','t'] then some (.i18nComment [])
  else if n = ['i','1','8','n',':','c','t','x','t'] then some (.i18nCtxt [])
  else if n = ['i','1','8','n',':','m','s','g'] then some .i18nMsg
  else if n = ['i','1','8','n',':','c','h','o','o','s','e'] then some .i18nChoose
  else if n = ['i','1','8','n',':','s','i','n','g','u','l','a','r'] ∨
          n = ['i','1','8','n',':','p','l','u','r','a','l'] then some .i18nBranch
  else none

/-- every directive class registered by `MarkupTemplate` and `Translator` is known to the model,
    with the place in the `I18NDirective` / `ExtractableI18NDirective` hierarchy that
    `Translator.extract` dispatches on -/
theorem dirClasses_match :
    Genshi.Gen.Heap.dirClasses.all (fun row =>
      match kindOfName row.1 with
      | some k => k.isI18n == row.2.1 && k.isExtractable == row.2.2
      | none => false) = true := by decide +kernel

/-- `__getstate__` works on a copy of `__dict__` (the pickled object keeps its filters) and
    `__setstate__` gives the copy the default filters again -/
theorem pickle_keeps_and_restores_filters :
    Genshi.Gen.Heap.afterDumpFilters = Genshi.Gen.Heap.translatorFilters ∧
    Genshi.Gen.Heap.unpickledFilters = Genshi.Gen.Heap.freshFilters ∧
    Genshi.Gen.Heap.translatorFilters.tail = Genshi.Gen.Heap.freshFilters := by decide +kernel

/-- `_prepared` of a new object, after `.stream`, after `generate()`: as in the model -/
theorem prepared_flags_match (img : Heap) (tr : Bool) (d : Frame) (fuel : Nat) :
    ((World.init img [0] tr).prepared, (World.init img [0] tr).access.1.prepared,
     (exec cv fuel (World.init img [0] tr) (.open d)).1.prepared) = Genshi.Gen.Heap.preparedFlags := by
  simp [World.init, World.access, World.prepared, accessT, exec, Genshi.Gen.Heap.preparedFlags]

def sX : Str := ['x']
def sXs : Str := ['x', 's']

/-- `<li py:for="x in xs">$x</li>` behind a Translator -/
def imgFor : Heap :=
  [ .evs [.out (.start ⟨[], ['u', 'l']⟩ []), .sub (.tmpl 1) (.tmpl 2), .out (.end_ ⟨[], ['u', 'l']⟩)],
    .dirs [⟨0, .pyFor sX (.var sXs)⟩],
    .evs [.out (.start ⟨[], ['l', 'i']⟩ []), .expr (.var sX), .out (.end_ ⟨[], ['l', 'i']⟩)] ]

def w2 : World :=
  (run cv 30 (World.init imgFor [0] true)
    [.open [(sXs, .list [.int 1, .int 2])], .open [(sXs, .atom (.int 5))]]).1

example : w2.Consistent ∧ w2.prepared = true ∧ w2.renders.length = 2 := by decide +kernel

/-- two renders interleaved with an extraction in between; the second one fails (`iter(5)`) -/
example : outputsOf 0 (run cv 30 w2 [.step 0, .step 1, .step 0, .extract, .step 1, .step 0, .step 0]).2
    = [.ev (.start ⟨[], ['u', 'l']⟩ []), .ev (.start ⟨[], ['l', 'i']⟩ []), .ev (.text ['1'] false),
       .ev (.end_ ⟨[], ['l', 'i']⟩)] := by decide +kernel
example : outputsOf 1 (run cv 30 w2 [.step 0, .step 1, .step 0, .extract, .step 1, .step 0, .step 0]).2
    = [.ev (.start ⟨[], ['u', 'l']⟩ []), .err .typeError] := by decide +kernel

/-- `<py:def function="f(p)"><b>$p</b></py:def>${f(a)}`: the macro lives in each render's own bottom frame -/
def imgDef : Heap :=
  [ .evs [.sub (.tmpl 1) (.tmpl 2), .expr (.call1 ['f'] (.var ['a']))],
    .dirs [⟨0, .pyDef ['f'] [(['p'], none)]⟩],
    .evs [.out (.start ⟨[], ['b']⟩ []), .expr (.var ['p']), .out (.end_ ⟨[], ['b']⟩)] ]

def w3 : World :=
  (run cv 30 (World.init imgDef [0] false)
    [.open [(['a'], .atom (.int 1))], .open [(['a'], .atom (.str ['z']))]]).1

example : outputsOf 0 (run cv 30 w3 [.step 0, .step 1, .step 1, .step 0, .step 0, .step 1, .step 0, .step 1]).2
    = [.ev (.start ⟨[], ['b']⟩ []), .ev (.text ['1'] false), .ev (.end_ ⟨[], ['b']⟩), .done] := by decide +kernel
example : outputsOf 1 (run cv 30 w3 [.step 0, .step 1, .step 1, .step 0, .step 0, .step 1, .step 0, .step 1]).2
    = [.ev (.start ⟨[], ['b']⟩ []), .ev (.text ['z'] false), .ev (.end_ ⟨[], ['b']⟩), .done] := by decide +kernel

/-- `<xi:include href="inc.html"/>` in the template, `inc.html` = `<b>$a</b>`; cells 0 and 1 -/
def imgInc : Heap :=
  [ .evs [.out (.text ['<'] false), .incl (some 1) none, .out (.text ['>'] false)],
    .evs [.out (.start ⟨[], ['b']⟩ []), .expr (.var ['a']), .out (.end_ ⟨[], ['b']⟩)] ]

def w4 : World :=
  (run cv 30 (World.init imgInc [0, 1] false)
    [.open [(['a'], .atom (.int 1))], .open [(['a'], .atom (.int 2))]]).1

/-- the included template is prepared by the `next()` that reaches the include -- a write to state shared
    with every other render, which `op_preserves_template` shows to be invisible -/
example : (w4.tmpls.map (·.prepared)) = [true, false] ∧
    ((run cv 30 w4 [.step 0, .step 0]).1.tmpls.map (·.prepared)) = [true, true] := by decide +kernel

example : outputsOf 1 (run cv 30 w4 [.step 0, .step 1, .step 0, .step 1, .step 1, .step 0, .step 1, .step 1, .step 1]).2
    = [.ev (.text ['<'] false), .ev (.start ⟨[], ['b']⟩ []), .ev (.text ['2'] false), .ev (.end_ ⟨[], ['b']⟩),
       .ev (.text ['>'] false), .done] := by decide +kernel

/-- `<py:match path="em" once="true"><b>M</b></py:match><em>x</em><em>y</em>`: the entry is deleted from
    the render's OWN `_match_templates` when it fires -/
def imgMatch : Heap :=
  [ .evs [.sub (.tmpl 1) (.tmpl 2),
          .out (.start ⟨[], ['e', 'm']⟩ []), .out (.text ['x'] false), .out (.end_ ⟨[], ['e', 'm']⟩),
          .out (.start ⟨[], ['e', 'm']⟩ []), .out (.text ['y'] false), .out (.end_ ⟨[], ['e', 'm']⟩)],
    .dirs [⟨0, .pyMatch ['e', 'm'] true⟩],
    .evs [.out (.start ⟨[], ['b']⟩ []), .out (.text ['M'] false), .out (.end_ ⟨[], ['b']⟩)] ]

def w5 : World := (run cv 40 (World.init imgMatch [0] false) [.open [], .open []]).1

/-- render 0 has used up its once-template while render 1 has not started: render 1 still matches -/
example : outputsOf 1 (run cv 40 w5 [.step 0, .step 0, .step 0, .step 0, .step 1, .step 1, .step 1, .step 1, .step 0]).2
    = [.ev (.start ⟨[], ['b']⟩ []), .ev (.text ['M'] false), .ev (.end_ ⟨[], ['b']⟩), .ev (.start ⟨[], ['e', 'm']⟩ [])] ∧
    outputsOf 0 (run cv 40 w5 [.step 0, .step 0, .step 0, .step 0, .step 1, .step 1, .step 1, .step 1, .step 0]).2
    = [.ev (.start ⟨[], ['b']⟩ []), .ev (.text ['M'] false), .ev (.end_ ⟨[], ['b']⟩), .ev (.start ⟨[], ['e', 'm']⟩ []),
       .ev (.text ['y'] false)] := by decide +kernel

/-- `<p title="T$a" py:attrs="{'id': b, 'title': c}">x</p>`: the interpolated value is a list of the template
    (cell 3) that every render reads; `py:attrs` builds a new `Attrs` per render -/
def imgAttrs : Heap :=
  [ .evs [.sub (.tmpl 1) (.tmpl 2)],
    .dirs [⟨0, .pyAttrs (.dict [(['i', 'd'], .var ['b']), (['t', 'i', 't', 'l', 'e'], .var ['c'])])⟩],
    .evs [.startI ⟨[], ['p']⟩ [(⟨[], ['t', 'i', 't', 'l', 'e']⟩, .interp (.tmpl 3))],
          .out (.text ['x'] false), .out (.end_ ⟨[], ['p']⟩)],
    .evs [.out (.text ['T'] false), .expr (.var ['a'])] ]

def w6 : World :=
  (run cv 30 (World.init imgAttrs [0] true)
    [.open [(['a'], .atom (.int 1)), (['b'], .atom (.str [' ', 'u'])), (['c'], .atom (.str ['k']))],
     .open [(['a'], .atom (.str ['z'])), (['b'], .atom (.str [' '])), (['c'], .atom .none)],
     .open [(['a'], .atom .none), (['b'], .atom (.int 0))]]).1

/-- three renders in lock step: interpolation / replacement / removal / failure, each as alone -/
example :
    outputsOf 0 (run cv 30 w6 [.step 0, .step 1, .step 2, .step 0, .step 1, .step 2]).2
      = [.ev (.start ⟨[], ['p']⟩ [(⟨[], ['t', 'i', 't', 'l', 'e']⟩, ['k']), (⟨[], ['i', 'd']⟩, ['u'])]),
         .ev (.text ['x'] false)] ∧
    outputsOf 1 (run cv 30 w6 [.step 0, .step 1, .step 2, .step 0, .step 1, .step 2]).2
      = [.ev (.start ⟨[], ['p']⟩ [(⟨[], ['i', 'd']⟩, [])]), .ev (.text ['x'] false)] ∧   -- `id=""`: an empty value is kept (fix ec9dd78)
    outputsOf 2 (run cv 30 w6 [.step 0, .step 1, .step 2, .step 0, .step 1, .step 2]).2
      = [.err .undefined, .stopped] ∧
    solo cv 30 w6 [(['a'], .atom .none), (['b'], .atom (.int 0)), (['c'], .atom (.bool false))] 2
      = [.ev (.start ⟨[], ['p']⟩ [(⟨[], ['t', 'i', 't', 'l', 'e']⟩, ['F', 'a', 'l', 's', 'e']), (⟨[], ['i', 'd']⟩, ['0'])]),
         .ev (.text ['x'] false)] := by decide +kernel

/-! ## lazily evaluated nested scopes: `(body for x in xs)` / `map(lambda x: body, xs)`

  The body of a generator expression is code of a NESTED scope: it runs at each `next()` of the generator
  object — possibly many `next()` of the render later, with other renders of the same template object
  evaluating their expressions in between — and reads every name but its own variable through `__data__`
  of the globals of the `eval` that created it.  In the model that is `It.genexp` / `It.forNextG`: the body
  is evaluated in `st.ctx.frames` of the render that holds the iterator, at the pull.  The theorems above
  (`step_preserves_template`, `op_preserves_template`, `interleaving_independent`, `failure_isolated`, …)
  are stated over arbitrary heaps, renders and schedules, so they hold for these iterators as they stand;
  the statements below say what is particular to them. -/

/-- What a `next()` of render `i` yields, and the state it leaves render `i`
    in, is a function of the template value and of render `i`'s OWN state: two worlds that agree on those —
    and differ in any way in their other renders (their contexts, their suspended generators, what they
    evaluated last), in the flags, in the loader count — give the same output.  In particular code that runs
    lazily inside render `i` (the body of a generator expression) cannot see any other render's data. -/
theorem step_reads_own_render_only (fuel : Nat) (w w' : World) (i : Nat)
    (hh : w.heap = w'.heap) (hr : w.roots = w'.roots) (ht : w.translator = w'.translator)
    (hi : w.renders[i]? = w'.renders[i]?) :
    (exec cv fuel w (.step i)).2 = (exec cv fuel w' (.step i)).2 ∧
    (exec cv fuel w (.step i)).1.renders[i]? = (exec cv fuel w' (.step i)).1.renders[i]? ∧
    (exec cv fuel w (.step i)).1.heap = (exec cv fuel w' (.step i)).1.heap := by
  cases hri : w.renders[i]? with
  | none =>
    rw [exec_step_none cv fuel w i hri, exec_step_none cv fuel w' i (hi ▸ hri)]
    exact ⟨rfl, hi, hh⟩
  | some r =>
    have hri' := hi ▸ hri
    rw [exec_step_some cv fuel w i r hri, exec_step_some cv fuel w' i r hri', ← hh, ← hr, ← ht]
    exact ⟨rfl, (List.getElem?_set_self (List.getElem?_eq_some_iff.mp hri).1).trans
      (List.getElem?_set_self (List.getElem?_eq_some_iff.mp hri').1).symm, rfl⟩

/-- One `next()` of the `_ensure` generator over the generator object of
    `(body for x in …)`: the body is evaluated NOW, with `x` bound to the item as its local and every other
    name looked up in the frames of the render's context as they are at this pull; the item becomes a TEXT
    event; the render's context and private heap are not changed; an exception ends the generator. -/
theorem genexp_reads_context_at_next (h : Heap) (fuel : Nat) (st : St) (x : Str) (a : Atom) (as : List Atom)
    (body : Expr) :
    pull h (fuel + 1) st (.genexp x (a :: as) body) =
      (match eval ([(x, .atom a)] :: st.ctx.frames) body with
       | .error er => ⟨st, .dead, .err er⟩
       | .ok (.atom v) => ⟨st, .genexp x as body, .item (.out (.text v.text false))⟩
       | .ok _ => ⟨st, .dead, .err .unmodelled⟩) := by
  rfl

/-- `py:for` over such a generator object: when the loop body is exhausted
    the scope dict comes off the context FIRST (`ctxt.pop()`), then the `for` statement asks the generator for
    the next item — the body of the generator expression is evaluated in the frames without the loop's scope
    (a loop variable with the name the body reads does not shadow it), and a failure there ends the loop with
    the scope already popped. -/
theorem for_genexp_item_after_pop (h : Heap) (fuel : Nat) (st : St) (var x : Str) (a : Atom) (as : List Atom)
    (gbody : Expr) (scope : Frame) (body : List TEv) (rest : List Dir) (er : Err)
    (he : eval ([(x, .atom a)] :: st.ctx.pop.frames) gbody = .error er) :
    pull h (fuel + 3) st (.forRunG var x (a :: as) gbody scope body rest (.lst [])) =
      ⟨{ st with ctx := st.ctx.pop }, .dead, .err er⟩ := by
  conv => lhs; whnf
  rw [show pull h (fuel + 2) st (.lst []) = ⟨st, .lst [], .done⟩ from rfl]
  dsimp only
  rw [he]

/-- The successful counterpart: the item is the value of the generator's body in the
    frames WITHOUT the loop's scope; it is then assigned into the scope dict that just came off (what was stored
    in it meanwhile is still there), the dict is pushed again and the remaining directives are applied. -/
theorem for_genexp_next_item (h : Heap) (fuel : Nat) (st : St) (var x : Str) (a : Atom) (as : List Atom)
    (gbody : Expr) (scope : Frame) (body : List TEv) (rest : List Dir) (v : Val)
    (he : eval ([(x, .atom a)] :: st.ctx.pop.frames) gbody = .ok v) (hg : v.isGenerator = false) :
    pull h (fuel + 3) st (.forRunG var x (a :: as) gbody scope body rest (.lst [])) =
      (let sc := st.ctx.frames.headD scope
       let c1 := st.ctx.pop.push (Frame.set sc var v)
       match applyDirs h st.ph c1 (.lst body) rest with
       | .error er => ⟨{ st with ctx := c1 }, .dead, .err er⟩
       | .ok (c2, inner) => pull h (fuel + 1) { st with ctx := c2 } (.forRunG var x as gbody sc body rest inner)) := by
  -- the inner iterator is exhausted (it answers at `fuel + 2`): the scope comes off, then the generator is
  -- asked, by the pull of `forNextG` one level down; `fuel + 1` is what is left for the round that follows
  conv => lhs; whnf
  rw [show pull h (fuel + 2) st (.lst []) = ⟨st, .lst [], .done⟩ from rfl]
  dsimp only
  rw [he]
  dsimp only
  rw [hg]
  rfl

def sA : Str := ['a']
def sV : Str := ['v']

/-- `<ul><li py:for="v in ('%s:%s;' % (x, a) for x in xs)">$v</li>${(x == a for x in xs)}</ul>` -/
def imgGen : Heap :=
  [ .evs [.out (.start ⟨[], ['u', 'l']⟩ []), .sub (.tmpl 1) (.tmpl 2),
          .expr (.genexp (.eq (.var sX) (.var sA)) sX (.var sXs)), .out (.end_ ⟨[], ['u', 'l']⟩)],
    .dirs [⟨0, .pyFor sV (.genexp (.fmt2 [] (.var sX) [':'] (.var sA) [';']) sX (.var sXs))⟩],
    .evs [.out (.start ⟨[], ['l', 'i']⟩ []), .expr (.var sV), .out (.end_ ⟨[], ['l', 'i']⟩)] ]

/-- three renders of it: `a = 1`, `a = 'k'`, `a` undefined (the generator raises when its first item is asked for) -/
def w7 : World :=
  (run cv 40 (World.init imgGen [0] true)
    [.open [(sXs, .list [.int 1, .int 2]), (sA, .atom (.int 1))],
     .open [(sXs, .list [.str ['k'], .int 2]), (sA, .atom (.str ['k']))],
     .open [(sXs, .list [.int 1])]]).1

def lockStep3 : Nat → List Act
  | 0 => []
  | n + 1 => [.step 0, .step 1, .step 2] ++ lockStep3 n

/-- Non-vacuity of `interleaving_independent` / `failure_isolated` /
    `op_preserves_template` on lazily evaluated scopes: three renders advanced in lock step — each generator
    is suspended between two items while the two other renders run the same body with their own `a` — with an
    extraction in the middle; every render yields what it yields alone (`a` of its own context in every item),
    the third one fails on its own. -/
theorem lazy_scope_interleaving_witness :
    w7.Consistent ∧
    outputsOf 0 (run cv 40 w7 (lockStep3 5 ++ [.extract] ++ lockStep3 6)).2
      = [.ev (.start ⟨[], ['u', 'l']⟩ []),
         .ev (.start ⟨[], ['l', 'i']⟩ []), .ev (.text ['1', ':', '1', ';'] false), .ev (.end_ ⟨[], ['l', 'i']⟩),
         .ev (.start ⟨[], ['l', 'i']⟩ []), .ev (.text ['2', ':', '1', ';'] false), .ev (.end_ ⟨[], ['l', 'i']⟩),
         .ev (.text ['T', 'r', 'u', 'e'] false), .ev (.text ['F', 'a', 'l', 's', 'e'] false),
         .ev (.end_ ⟨[], ['u', 'l']⟩), .done] ∧
    outputsOf 1 (run cv 40 w7 (lockStep3 5 ++ [.extract] ++ lockStep3 6)).2
      = [.ev (.start ⟨[], ['u', 'l']⟩ []),
         .ev (.start ⟨[], ['l', 'i']⟩ []), .ev (.text ['k', ':', 'k', ';'] false), .ev (.end_ ⟨[], ['l', 'i']⟩),
         .ev (.start ⟨[], ['l', 'i']⟩ []), .ev (.text ['2', ':', 'k', ';'] false), .ev (.end_ ⟨[], ['l', 'i']⟩),
         .ev (.text ['T', 'r', 'u', 'e'] false), .ev (.text ['F', 'a', 'l', 's', 'e'] false),
         .ev (.end_ ⟨[], ['u', 'l']⟩), .done] ∧
    outputsOf 2 (run cv 40 w7 (lockStep3 3)).2 = [.ev (.start ⟨[], ['u', 'l']⟩ []), .err .undefined, .stopped] ∧
    solo cv 40 w7 [(sXs, .list [.int 1, .int 2]), (sA, .atom (.int 1))] 11
      = outputsOf 0 (run cv 40 w7 (lockStep3 5 ++ [.extract] ++ lockStep3 6)).2 := by decide +kernel

/-- non-vacuity of `genexp_reads_context_at_next`: the same suspended generator yields what the context holds
    for `a` at the pull -/
example :
    (pull [] 5 ⟨⟨[[(sA, .atom (.int 7))]], [], []⟩, []⟩ (.genexp sX [.int 1] (.fmt2 [] (.var sX) [':'] (.var sA) [';']))).out
      = .item (.out (.text ['1', ':', '7', ';'] false)) ∧
    (pull [] 5 ⟨⟨[[(sA, .atom (.str ['z']))]], [], []⟩, []⟩ (.genexp sX [.int 1] (.fmt2 [] (.var sX) [':'] (.var sA) [';']))).out
      = .item (.out (.text ['1', ':', 'z', ';'] false)) := by decide +kernel

/-- non-vacuity of `for_genexp_item_after_pop`: `py:for="a in (x == a for x in xs)"` — the loop variable has the
    name the body reads; the second item is computed with the loop's scope (`a = True`) already popped: against
    the outer `a = 2` (with the scope still pushed it would be `2 == True`, i.e. `False`); and with no outer `a`
    the generator fails after the first round, the scope popped -/
example :
    (pull [] 9 ⟨⟨[[(sA, .atom (.bool true))], [(sA, .atom (.int 2))]], [], []⟩, []⟩
        (.forRunG sA sX [.int 2] (.eq (.var sX) (.var sA)) [] [.expr (.var sA)] [] (.lst []))).out
      = .item (.expr (.var sA)) ∧
    (pull [] 9 ⟨⟨[[(sA, .atom (.bool true))], [(sA, .atom (.int 2))]], [], []⟩, []⟩
        (.forRunG sA sX [.int 2] (.eq (.var sX) (.var sA)) [] [.expr (.var sA)] [] (.lst []))).st.ctx.frames
      = [[(sA, .atom (.bool true))], [(sA, .atom (.int 2))]] ∧
    pull [] 9 ⟨⟨[[(sA, .atom (.bool true))], []], [], []⟩, []⟩
        (.forRunG sA sX [.int 2] (.eq (.var sX) (.var sA)) [] [.expr (.var sA)] [] (.lst []))
      = ⟨⟨⟨[[]], [], []⟩, []⟩, .dead, .err .undefined⟩ := by decide +kernel

/-- non-vacuity of `step_reads_own_render_only` / `schedule_reads_own_render_only`: `w7` and the world in which
    the two other renders have been advanced into the middle of their generators agree on render 0 (and both are
    consistent) -/
example :
    (run cv 40 w7 [.step 1, .step 1, .step 1, .step 2, .step 2]).1.renders[0]? = w7.renders[0]? ∧
    (run cv 40 w7 [.step 1, .step 1, .step 1, .step 2, .step 2]).1.heap = w7.heap ∧
    (run cv 40 w7 [.step 1, .step 1, .step 1, .step 2, .step 2]).1.Consistent ∧
    countSteps 0 (lockStep3 4) = countSteps 0 [.step 0, .extract, .step 0, .step 1, .step 0, .pickle, .step 0] := by decide +kernel

/-- A function made by `lambda x: body` (bound by `py:with` in one `next()`)
    called at the top of a later expression: the body is evaluated in the frames of the render's context as they
    are at the CALL, with the argument as its local — whatever was evaluated, by this render or any other, since
    the lambda was made. -/
theorem lambda_reads_context_at_call (fs : List Frame) (f x : Str) (body a : Expr) (arg : Val)
    (hf : lookupFrames fs f = some (.lam x body)) (ha : evalBase fs a = .ok arg) (hg : arg.isGenerator = false) :
    eval fs (.call1 f a) = evalBase ([(x, arg)] :: fs) body := by
  simp [eval, hf, ha, hg]

/-- The generator object of a generator function of a `<?python ?>` block
    (`def g():` / `for x in src:` / `yield body`): calling `g()` runs nothing; the first `next()` evaluates `src`
    in the render's context as it is then (here: a list) and goes on as the generator expression does. -/
theorem genfn_source_read_at_first_next (h : Heap) (fuel : Nat) (st : St) (x : Str) (src body : Expr)
    (xs : List Atom) (hs : eval st.ctx.frames src = .ok (.list xs)) :
    pull h (fuel + 1) st (.genfNew x src body) = pull h fuel st (.genexp x xs body) := by
  conv => lhs; whnf
  rw [hs]

def sG : Str := ['g']
def sGen1 : Str := ['g', 'e', 'n', '1']

/-- `<?python def gen1(): for x in xs: yield '%s:%s;' % (x, a) ?><p py:with="g=lambda x: x == a">${g(1)}${gen1()}${g(2)}</p>` -/
def imgGenFn : Heap :=
  [ .evs [.execGen sGen1 sX (.var sXs) (.fmt2 [] (.var sX) [':'] (.var sA) [';']), .sub (.tmpl 1) (.tmpl 2)],
    .dirs [⟨0, .pyWith [(sG, .lam sX (.eq (.var sX) (.var sA)))]⟩],
    .evs [.out (.start ⟨[], ['p']⟩ []), .expr (.call1 sG (.lit (.atom (.int 1)))), .expr (.call0 sGen1),
          .expr (.call1 sG (.lit (.atom (.int 2)))), .out (.end_ ⟨[], ['p']⟩)] ]

def w8 : World :=
  (run cv 40 (World.init imgGenFn [0] false)
    [.open [(sXs, .list [.int 5, .int 6]), (sA, .atom (.int 1))],
     .open [(sXs, .list [.int 7, .int 8]), (sA, .atom (.int 2))]]).1

def lockStep2 : Nat → List Act
  | 0 => []
  | n + 1 => [.step 0, .step 1] ++ lockStep2 n

/-- The same for a generator function of a code block and a lambda bound by
    `py:with`: two renders in lock step, a pickle and a `.stream` access in between; each lambda call and each
    item of each generator sees the `a` of its own render. -/
theorem lazy_scope_interleaving_witness2 :
    w8.Consistent ∧
    outputsOf 0 (run cv 40 w8 (lockStep2 3 ++ [.pickle, .access] ++ lockStep2 5)).2
      = [.ev (.start ⟨[], ['p']⟩ []), .ev (.text ['T', 'r', 'u', 'e'] false),
         .ev (.text ['5', ':', '1', ';'] false), .ev (.text ['6', ':', '1', ';'] false),
         .ev (.text ['F', 'a', 'l', 's', 'e'] false), .ev (.end_ ⟨[], ['p']⟩), .done, .stopped] ∧
    outputsOf 1 (run cv 40 w8 (lockStep2 3 ++ [.pickle, .access] ++ lockStep2 5)).2
      = [.ev (.start ⟨[], ['p']⟩ []), .ev (.text ['F', 'a', 'l', 's', 'e'] false),
         .ev (.text ['7', ':', '2', ';'] false), .ev (.text ['8', ':', '2', ';'] false),
         .ev (.text ['T', 'r', 'u', 'e'] false), .ev (.end_ ⟨[], ['p']⟩), .done, .stopped] ∧
    solo cv 40 w8 [(sXs, .list [.int 7, .int 8]), (sA, .atom (.int 2))] 8
      = outputsOf 1 (run cv 40 w8 (lockStep2 3 ++ [.pickle, .access] ++ lockStep2 5)).2 := by decide +kernel

/-- non-vacuity of `lambda_reads_context_at_call` and `genfn_source_read_at_first_next` -/
example :
    (eval [[(sG, .lam sX (.eq (.var sX) (.var sA))), (sA, .atom (.int 3))]]
        (.call1 sG (.lit (.atom (.int 3))))).toOption
      = some (.atom (.bool true)) ∧
    (eval [[(sA, .atom (.int 4))], [(sG, .lam sX (.eq (.var sX) (.var sA))), (sA, .atom (.int 3))]]
        (.call1 sG (.lit (.atom (.int 3))))).toOption
      = some (.atom (.bool false)) ∧
    (pull [] 5 ⟨⟨[[(sXs, .list [.int 1]), (sA, .atom (.int 7))]], [], []⟩, []⟩
        (.genfNew sX (.var sXs) (.fmt2 [] (.var sX) [':'] (.var sA) [';']))).out
      = .item (.out (.text ['1', ':', '7', ';'] false)) := by decide +kernel

end Genshi.Props.C10
