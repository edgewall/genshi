/-
  C11 — Included templates behave the same whether inlined at prepare time (auto_reload off)
  or loaded at render time (auto_reload on).

  Model: Genshi/Model/Incl.lean.  `renderRuntime` / `renderInline` are the two loader modes on a
  file set; `fuel` stands for Python's recursion depth (`Res.fuel` = RecursionError).

  OBLIGATIONS
  inline_eq_runtime_partial
  same_termination
  eager_syntax_witness
  match_range_witness
  match_range_text_witness
  match_range_select_witness
  tables_as_modelled
  prepare_terminates
  more_fuel_same_result
  result_unique
  include_replaced_by_target
  fallback_iff_missing
  missing_without_fallback_raises
  marker_free_same_results
  inline_real_eq_runtime_partial
  guard_leaves_only_cyclic
  inline_seq_eq_runtime_partial
  failed_render_keeps_cache_sound
  inline_seq_after_failure_partial
  runtime_eq_spec_partial
  inline_eq_spec_partial
  spec_restart_witness
  inline_eq_runtime_illformed_partial
  inline_seq_illformed_partial
  failed_prepare_keeps_cache_sound
  inline_real_seq_eq_runtime_partial
  seq_same_termination
  runtime_eq_spec_zones_partial
  inline_eq_spec_zones_partial
  spec_leaf_dyn_witness
  inline_real_eq_runtime_illformed_partial
  inline_real_seq_illformed_partial
  seq_more_fuel_same_answers_and_loader
  failed_request_more_fuel_further_loads
  loaded_set_grows_with_fuel
  loaded_set_eventually_constant
-/
import Genshi.Lemmas.InclGuard
import Genshi.Lemmas.InclSeq
import Genshi.Lemmas.InclSpecZ
import Genshi.Gen.Incl
namespace Genshi.Props.C11
open Genshi.Incl

/-- one render on a loader with an arbitrary history: whatever prepared templates the cache holds
(prepared earlier under other guard sets), the outcome equals the run-time mode's, and the cache
stays a cache of prepared forms -/
theorem renderOn_eq {T : List Name} {files : Files} (hH : inH T files = true) (fuel : Nat)
    (c : Cache) (hc : CacheInv T files c) (q : Req) :
    (renderOn .inlineM files fuel c q).1 = (renderOn .runtime files fuel [] q).1 ∧
    CacheInv T files (renderOn .inlineM files fuel c q).2 := by
  obtain ⟨h1, h2⟩ := renderOn_rel (filesOk_of_inH hH) fuel c hc q
  exact ⟨h1.resolve_left (·.1), h2⟩

/-
  Full statement (false for the model and for the code, see the witnesses below):
    ∀ files entry kind data fuel, renderInline files entry kind data fuel = renderRuntime files entry kind data fuel
  Proved under the hypothesis `inH T files` for any tag set `T`:
    * every file is a well-formed template (else: finding C11-eager-syntax),
    * inside an element whose tag has a match template (tag in `T`) and inside a match template
      body: no macro call, and a statically named include only when what is inlined for it does
      not depend on the window of match templates (`zoneTargetOk`: the target — or the fallback of
      a missing target — has no element with a tag in `T`, no macro call, no `select`, no named
      include of markup); every match template is written for a tag in `T` (else: findings
      C11-match-range, C11-match-range-select),
    * statically named includes are relative and name the class of their target,
    * text templates make no macro calls (their pipeline has no match filter; else: finding
      C11-match-range-text).
-/
theorem inline_eq_runtime_partial (T : List Name) (files : Files) (hH : inH T files = true)
    (entry : Name) (kind : Kind) (data : List (Name × Value)) (fuel : Nat) :
    renderInline files entry kind data fuel = renderRuntime files entry kind data fuel := by
  have h := (renderOn_eq hH fuel [] CacheInv.nil (entry, kind, data)).1
  rwa [renderOn_fst_nil, renderOn_fst_nil] at h

/-- any number of renders through one loader: with the prepared-template cache carried from
request to request (so later entries meet templates that were prepared inside other templates),
inline mode answers every request like run-time mode does -/
theorem inline_seq_eq_runtime_partial (T : List Name) (files : Files) (hH : inH T files = true)
    (fuel : Nat) (qs : List Req) :
    renderSeq .inlineM files fuel [] qs = renderSeq .runtime files fuel [] qs := by
  have key : ∀ (qs : List Req) (c : Cache), CacheInv T files c →
      renderSeq .inlineM files fuel c qs = renderSeq .runtime files fuel [] qs := by
    intro qs
    induction qs with
    | nil => intro c _; rfl
    | cons q qs ih =>
      intro c hc
      have h := renderOn_eq hH fuel c hc q
      simp only [renderSeq]
      rw [h.1, ih _ h.2, renderOn_runtime_cache]
  exact key qs [] CacheInv.nil

/-- replaying any list of loads keeps the cache a cache of prepared forms -/
theorem replayLoads_inv {T : List Name} {files : Files} (hH : inH T files = true) :
    ∀ (ls : List Load) (c : Cache), CacheInv T files c → CacheInv T files (replayLoads files c ls) :=
  (loadStep_inv (filesOk_of_inH hH)).replay

/-- **the loader after a failed render or a failed preparation.**  Whatever the request did before it raised
(an undefined name, a missing include without fallback, the recursion limit, and — for file sets that
contain ill-formed templates, `inHW` — a syntax error met while a template was being prepared, at load time
or inside a run-time include): the templates it loaded and prepared on the way stay in the loader
(`cacheAfterFail`: `loadInlC` / `pcT` for a preparation that failed part-way, `replayLoads` of the logged
loads otherwise), and every one of them is a prepared form of its file — the invariant under which
`renderOn_eq` answers the next request like run-time mode -/
theorem failed_render_keeps_cache_sound {T : List Name} {files : Files} (hH : inHW T files = true) (fuel : Nat)
    (c : Cache) (hc : CacheInv T files c) (q : Req) :
    CacheInv T files (cacheAfterFail .inlineM files fuel c q) :=
  (loadStep_inv (filesOk_of_inHW hH)).afterFail .inlineM fuel c q hc

theorem renderOnF_eq {T : List Name} {files : Files} (hH : inH T files = true) (fuel : Nat)
    (c : Cache) (hc : CacheInv T files c) (q : Req) :
    (renderOnF .inlineM files fuel c q).1 = (renderOn .runtime files fuel [] q).1 ∧
    CacheInv T files (renderOnF .inlineM files fuel c q).2 :=
  ⟨by rw [renderOnF_fst]; exact (renderOn_eq hH fuel c hc q).1, renderOnF_inv (filesOk_of_inH hH) .inlineM fuel c hc q⟩

/-
  Full statement (false, see the witnesses): for every file set, any number of renders through one loader,
  failed ones included, answer in inline mode like in run-time mode.  Proved under `inH`.
-/
/-- any number of renders through one loader, **failed ones included**: the loader keeps what a failed
render had loaded and prepared (`renderSeqF`), and inline mode still answers every later request like
run-time mode does -/
theorem inline_seq_after_failure_partial (T : List Name) (files : Files) (hH : inH T files = true)
    (fuel : Nat) (qs : List Req) :
    (renderSeqF .inlineM files fuel [] qs).map (·.1) = renderSeq .runtime files fuel [] qs :=
  (seqF_rel (filesOk_of_inH hH) .inlineM fuel qs [] CacheInv.nil (.inl rfl)).eq fun _ _ h => h.resolve_left (·.1)

/-! ## file sets that contain ill-formed templates

`inH` asks for every file to be a well-formed template: with `auto_reload` off a statically named target is
loaded — and parsed — while the includer is prepared, so a syntax error surfaces although the include may
never be reached (finding C11-eager-syntax).  Without that clause (`inHW`) the two modes still differ in
nothing else: inline mode answers like run-time mode **or raises the syntax error**; and the loader keeps,
after a preparation that failed part-way, the templates prepared inside it (`pcT`), which answer later
requests as before. -/

/-
  Full statement (false: `eager_syntax_witness`): for every file set — ill-formed templates included —
      renderInline files entry kind data fuel = renderRuntime files entry kind data fuel.
  Proved under `inHW` (= `inH` without "every file is well-formed"): the two modes agree, or inline mode
  raises the syntax error (eagerly, while preparing).
-/
/-- **ill-formed templates in the file set**: the only thing inline mode does differently is to raise the
syntax error of a statically named target early -/
theorem inline_eq_runtime_illformed_partial (T : List Name) (files : Files) (hH : inHW T files = true)
    (entry : Name) (kind : Kind) (data : List (Name × Value)) (fuel : Nat) :
    renderInline files entry kind data fuel = .err .syntaxErr ∨
    renderInline files entry kind data fuel = renderRuntime files entry kind data fuel := by
  have h := (renderOn_rel (filesOk_of_inHW hH) fuel [] CacheInv.nil (entry, kind, data)).1.imp_left (·.2)
  rwa [renderOn_fst_nil, renderOn_fst_nil] at h

/-
  Full statement (false, `eager_syntax_witness`): for every file set, ill-formed templates included, inline mode
  answers every request of a sequence like run-time mode.  Proved under `inHW`, with the syntax error as the one
  other answer.
-/
/-- any number of requests through one loader over a file set that may contain ill-formed templates, the loader
keeping after every failure — a failed render, **a preparation that failed part-way** — what it had loaded and
prepared up to there (`renderSeqF`): position by position inline mode answers like run-time mode or raises the
syntax error -/
theorem inline_seq_illformed_partial (T : List Name) (files : Files) (hH : inHW T files = true)
    (fuel : Nat) (qs : List Req) :
    All2 (fun a b => a = .err .syntaxErr ∨ a = b)
      ((renderSeqF .inlineM files fuel [] qs).map (·.1)) (renderSeq .runtime files fuel [] qs) :=
  (seqF_rel (filesOk_of_inHW hH) .inlineM fuel qs [] CacheInv.nil (.inl rfl)).imp fun _ _ h => h.imp_left (·.2)

/-
  Full statement (false, `spec_restart_witness`): for every file set, entry, data and fuel
      renderRuntime files entry kind data fuel = renderSpec files entry kind data fuel
  — run-time includes produce what the property's own words describe: the target's content in place of
  the include, in the includer's context.  Proved for file sets in which no match template is defined
  (`noMtFiles`): there the window of match templates, the one thing a run-time include restarts and a
  replacement in place does not, cannot matter.  File sets with match templates: `runtime_eq_spec_zones_partial` below.
-/
/-- **an include stands for its target** (no match templates in the file set): the run-time mode renders
    exactly what the specification evaluator renders — same events, same error, both out of fuel -/
theorem runtime_eq_spec_partial (files : Files) (hF : noMtFiles files = true)
    (entry : Name) (kind : Kind) (data : List (Name × Value)) (fuel : Nat) :
    renderRuntime files entry kind data fuel = renderSpec files entry kind data fuel := by
  simp only [renderRuntime, renderSpec, loadT]
  cases hraw : loadRaw files entry kind with
  | fuel => rfl
  | err e => rfl
  | ok body =>
    simp only [Res.map_ok, Res.bind_ok]
    have h0 : OkSt (St.init data) := ⟨rfl, rfl, by intro p hp; simp [St.init] at hp⟩
    have := specL_sr hF (spec_sr hF fuel) body (.ofKind kind) (.ofKind kind) (St.init data) (loadRaw_noMt hF hraw) h0
    rw [this.1]

/-- … and so does the inline mode, inside the hypothesis of `inline_eq_runtime_partial` -/
theorem inline_eq_spec_partial (T : List Name) (files : Files) (hH : inH T files = true) (hF : noMtFiles files = true)
    (entry : Name) (kind : Kind) (data : List (Name × Value)) (fuel : Nat) :
    renderInline files entry kind data fuel = renderSpec files entry kind data fuel := by
  rw [inline_eq_runtime_partial T files hH, runtime_eq_spec_partial files hF]

/-
  Full statement (false, `spec_restart_witness`): renderRuntime = renderSpec for every file set.
  Proved for file sets WITH match templates under `inHS T files`: every match template is written for a tag in
  `T`; inside an element with a tag in `T` and inside a match template body (a zone) no macro call, and an
  include only of content that does not depend on the window of match templates — statically named: the target
  (or the fallback of a missing one) has no element with a tag in `T`, no macro call, no `select`, and includes
  only text templates (`winfreeSL`); expression-valued: a text template, with such a fallback —; text templates
  are textual.  No demand on well-formedness or on the class named by an include (both evaluators load the same
  raw file).  Missing for the full statement: exactly these clauses (the run-time include restarts the match
  filter, the replacement in place does not).
-/
/-- **an include stands for its target, with match templates around**: the layout pattern (a match template
wrapping `select()` around an element whose content includes leaf fragments and text templates), macros and
match templates defined inside included files, includes — also expression-valued ones — anywhere outside zones -/
theorem runtime_eq_spec_zones_partial (T : List Name) (files : Files) (hS : inHS T files = true)
    (entry : Name) (kind : Kind) (data : List (Name × Value)) (fuel : Nat) :
    renderRuntime files entry kind data fuel = renderSpec files entry kind data fuel := by
  simp only [renderRuntime, renderSpec, loadT]
  cases hraw : loadRaw files entry kind with
  | fuel => rfl
  | err e => rfl
  | ok body =>
    simp only [Res.map_ok, Res.bind_ok]
    have hok : fileOkS T files _ = true := all_find hS (loadRaw_ok_find hraw)
    simp only [fileOkS, Bool.and_eq_true] at hok
    have h0 : OkStZ T files (St.init data) := ⟨by intro p hp; simp [St.init] at hp, by intro p hp; simp [St.init] at hp⟩
    have := zspecL hS (zspec hS fuel) body false (.ofKind kind) (.ofKind kind) (St.init data) hok.1.1 hok.1.2
      (.ofKind fun hk => winfreeSL_of_textual T body (by simpa [hk] using hok.2)) h0
    rw [this.1]

/-- … and so does the inline mode, inside both hypotheses -/
theorem inline_eq_spec_zones_partial (T : List Name) (files : Files) (hH : inH T files = true) (hS : inHS T files = true)
    (entry : Name) (kind : Kind) (data : List (Name × Value)) (fuel : Nat) :
    renderInline files entry kind data fuel = renderSpec files entry kind data fuel := by
  rw [inline_eq_runtime_partial T files hH, runtime_eq_spec_zones_partial T files hS]

/-- recursive and mutually recursive includes terminate under the same conditions in both modes:
one mode runs out of any amount of fuel iff the other does, and one mode reaches a result with
some fuel iff the other reaches it (with the same fuel) -/
theorem same_termination (T : List Name) (files : Files) (hH : inH T files = true)
    (entry : Name) (kind : Kind) (data : List (Name × Value)) :
    ((∀ fuel, renderInline files entry kind data fuel = .fuel) ↔
     (∀ fuel, renderRuntime files entry kind data fuel = .fuel)) ∧
    (∀ r, (∃ fuel, renderInline files entry kind data fuel = r ∧ r ≠ .fuel) ↔
          (∃ fuel, renderRuntime files entry kind data fuel = r ∧ r ≠ .fuel)) := by
  refine ⟨⟨fun h fuel => ?_, fun h fuel => ?_⟩, fun r => ⟨fun ⟨f, h⟩ => ⟨f, ?_⟩, fun ⟨f, h⟩ => ⟨f, ?_⟩⟩⟩
  · rw [← inline_eq_runtime_partial T files hH]; exact h fuel
  · rw [inline_eq_runtime_partial T files hH]; exact h fuel
  · rw [← inline_eq_runtime_partial T files hH]; exact h
  · rw [inline_eq_runtime_partial T files hH]; exact h

/-- with the recursion guard (`inlined`), preparing a template terminates for every file set —
cyclic, ill-formed or outside the hypothesis: `prepFuel files` always suffices -/
theorem prepare_terminates (files : Files) (name : Name) (cls : Kind) (c : Cache) :
    loadInl files name cls c ≠ .fuel := by
  rcases load_cases files name cls c with ⟨_, _, hi, _⟩ | ⟨_, _, _, hi, _⟩ <;> rw [hi]
  · exact fun h => nomatch h
  · exact prepT_nofuel files (prepFuel files) [name] name c (rem_lt_prepFuel files [name])

/-- fuel is only a bound: a result reached with some fuel is reached with any larger fuel, in
either mode (no hypothesis on the file set) -/
theorem more_fuel_same_result (files : Files) (entry : Name) (kind : Kind) (data : List (Name × Value))
    {f g : Nat} (hfg : f ≤ g) :
    (∀ r, renderRuntime files entry kind data f = r → r ≠ .fuel → renderRuntime files entry kind data g = r) ∧
    (∀ r, renderInline files entry kind data f = r → r ≠ .fuel → renderInline files entry kind data g = r) := by
  have key : ∀ m r, (renderOn m files f [] (entry, kind, data)).1 = r → r ≠ .fuel →
      (renderOn m files g [] (entry, kind, data)).1 = r := fun m => renderOn_mono m files hfg [] _
  simp only [renderOn_fst_nil] at key
  exact ⟨key .runtime, key .inlineM⟩

/-- hence a mode defines at most one result (stated for run-time mode; the second clause of `more_fuel_same_result`
gives it for inline mode in the same way) -/
theorem result_unique (files : Files) (entry : Name) (kind : Kind) (data : List (Name × Value))
    {f g : Nat} {r r' : Res (List Ev)}
    (h : renderRuntime files entry kind data f = r) (hr : r ≠ .fuel)
    (h' : renderRuntime files entry kind data g = r') (hr' : r' ≠ .fuel) : r = r' := by
  rcases Nat.le_total f g with hfg | hfg
  · exact ((more_fuel_same_result files entry kind data hfg).1 r h hr).symm.trans h'
  · exact (((more_fuel_same_result files entry kind data hfg).1 r' h' hr').symm.trans h).symm

/-- what the recursion guard leaves behind: after inline preparation, every statically named
include still present in the prepared stream — at any depth, also inside inlined templates, macro
and match template bodies and fallbacks — names a file that does not exist (error deferred to run
time) or a file on a cycle of the static include graph.  These are exactly the run-time includes
both modes share; their termination is decided by the data.  In particular an acyclic file set
whose targets all exist is inlined completely.  No hypothesis on the file set. -/
theorem guard_leaves_only_cyclic (files : Files) (name : Name) (cls : Kind) (c : Cache)
    (b' : List Node) (c' : Cache) (hc : CacheGood files c) (h : loadInl files name cls c = .ok (b', c')) :
    (∀ t ∈ targetsL b', files.find t = none ∨ Cyc files t) ∧ CacheGood files c' := by
  rcases load_cases files name cls c with ⟨_, _, hi, _⟩ | ⟨_, _, _, hi, _⟩ <;> rw [hi] at h
  · cases h
  · exact prepT_good files (prepFuel files) [name] name c b' c'
      (fun g hg => by simp at hg; subst hg; exact .refl _) hc h

/-- the code keeps no markers in prepared streams (`renderInlineReal`).  For every file set: a
result reached by the marked variant is reached by the marker-free one with the same fuel, and a
result reached by the marker-free one is reached by the marked one with enough fuel -/
theorem marker_free_same_results (files : Files) (entry : Name) (kind : Kind) (data : List (Name × Value))
    (r : Res (List Ev)) (hr : r ≠ .fuel) :
    (∀ f, renderInline files entry kind data f = r → renderInlineReal files entry kind data f = r) ∧
    (∀ f, renderInlineReal files entry kind data f = r → ∃ g, renderInline files entry kind data g = r) := by
  have eM : ∀ f, renderInline files entry kind data f = (renderOn .inlineM files f [] (entry, kind, data)).1 :=
    fun f => (renderOn_fst_nil .inlineM files f entry kind data).symm
  have eU : ∀ f, renderInlineReal files entry kind data f = (renderOn .inlineU files f [] (entry, kind, data)).1 :=
    fun f => (renderOn_fst_nil .inlineU files f entry kind data).symm
  constructor
  · intro f h
    rw [eM] at h
    rw [eU, renderOn_U_of_M files f [] _ (by rw [h]; exact hr)]; exact h
  · intro f h
    rw [eU] at h
    obtain ⟨g0, hg⟩ := renderOn_M_of_U files f [] _ (by rw [h]; exact hr)
    exact ⟨g0, by rw [eM, hg g0 (Nat.le_refl _)]; exact h⟩

/-- what the preparation left in the loader when a load raised (full: every file set in `inHW`), and its
agreement with the load where the load returns (every file set) -/
theorem failed_prepare_keeps_cache_sound {T : List Name} {files : Files} (hH : inHW T files = true)
    (name : Name) (cls : Kind) (c : Cache) (hc : CacheInv T files c) :
    CacheInv T files (loadInlC files name cls c) ∧
    (∀ r, loadInl files name cls c = .ok r → loadInlC files name cls c = r.2) :=
  ⟨loadInlC_inv (filesOk_of_inHW hH) name cls c hc, loadInlC_agree files name cls c⟩

/-
  Full statement (false, see the witnesses): for every file set the code's own inline mode answers every request
  of a sequence like run-time mode.  Proved under `inH`, for sequences run-time mode answers within the fuel.
-/
/-- **sequences in the code's own inline mode.**  Any number of requests through one loader, failed ones
included, prepared streams without cost markers (`Mode.inlineU`, what `gdrv` runs against the real loader):
whenever run-time mode answers the whole sequence within the fuel, inline mode gives the same answers with the
same fuel (it needs less stack: inlined templates are entered for free) -/
theorem inline_real_seq_eq_runtime_partial (T : List Name) (files : Files) (hH : inH T files = true)
    (fuel : Nat) (qs : List Req) (hno : ∀ r ∈ renderSeq .runtime files fuel [] qs, r ≠ .fuel) :
    (renderSeqF .inlineU files fuel [] qs).map (·.1) = renderSeq .runtime files fuel [] qs :=
  (seqF_rel (filesOk_of_inH hH) .inlineU fuel qs [] CacheInv.nil (.inr ⟨rfl, hno⟩)).eq
    fun _ _ h => h.resolve_left (·.1)

/-- sequences in the code's own inline mode over file sets that may contain ill-formed templates — what `gdrv`
runs against the real loader in the `ill` shards: whenever run-time mode answers the whole sequence within the
fuel, the marker-free inline mode with the same fuel answers every request like run-time mode or raises the
syntax error, the loader keeping what failed renders and failed preparations left -/
theorem inline_real_seq_illformed_partial (T : List Name) (files : Files) (hH : inHW T files = true)
    (fuel : Nat) (qs : List Req) (hno : ∀ r ∈ renderSeq .runtime files fuel [] qs, r ≠ .fuel) :
    All2 (fun a b => a = .err .syntaxErr ∨ a = b)
      ((renderSeqF .inlineU files fuel [] qs).map (·.1)) (renderSeq .runtime files fuel [] qs) :=
  (seqF_rel (filesOk_of_inHW hH) .inlineU fuel qs [] CacheInv.nil (.inr ⟨rfl, hno⟩)).imp
    fun _ _ h => h.imp_left (·.2)

/-- **fuel is only a bound, for sequences and for the loader's state** (every file set, every mode): if no
request of the sequence runs out of fuel `f`, then with any larger fuel every answer *and the loader's prepared
templates after every request* — failed requests included: the loads a failed render had performed are the same
(`runOn_fuelLe`; for a stream under any `J`: `logN_eq/logL_eq`) — are the same.  So the depth at which the limit sits can influence a sequence only
through a request that actually hits it (where the harness applies its saturation test) -/
theorem seq_more_fuel_same_answers_and_loader (m : Mode) (files : Files) {f g : Nat} (hfg : f ≤ g) (qs : List Req)
    (hno : ∀ x ∈ renderSeqF m files f [] qs, x.1 ≠ .fuel) :
    renderSeqF m files g [] qs = renderSeqF m files f [] qs :=
  renderSeqF_fuel_indep m files hfg qs [] hno

/-- **a request that hits the limit** (every file set, every mode): with more fuel it performs the same loads and
possibly further ones (`runOn_fuelLe`: the log at fuel `f` is a prefix of the log at `g ≥ f`; for a stream under any `J`:
`logN_pre/logL_pre`), so
the loader's state after the failed request at the larger fuel is the state at the smaller fuel with further
loads replayed on top -/
theorem failed_request_more_fuel_further_loads (m : Mode) (files : Files) {f g : Nat} (hfg : f ≤ g) (c : Cache) (q : Req) :
    ∃ t, cacheAfterFail m files g c q = replayLoads files (cacheAfterFail m files f c q) t := by
  obtain ⟨t, ht⟩ := (runOn_fuelLe m files hfg c q).pre trivial
  exact ⟨t, by rw [cacheAfterFail_eq, cacheAfterFail_eq, ht, replayLoads_append]⟩

/-- **the set of prepared templates a failed request leaves grows with the fuel** (every file set, every mode):
the loader loses nothing by a failed request (`Sub c …`: preparations, loads and replayed loads only add to the
cache, `Lemmas/InclGrow.lean`), and what it holds after the request at fuel `f` it also holds after the request
at any `g ≥ f`.  The names are among the finitely many files of the set, so the sequence of these sets is
eventually constant: that constant is what the harness's saturation test (fuel 24 against 72) looks for -/
theorem loaded_set_grows_with_fuel (m : Mode) (files : Files) {f g : Nat} (hfg : f ≤ g) (c : Cache) (q : Req) :
    Sub c (cacheAfterFail m files f c q) ∧ Sub (cacheAfterFail m files f c q) (cacheAfterFail m files g c q) := by
  refine ⟨(Sub.cacheRel files).loadStep.afterFail m f c q, ?_⟩
  obtain ⟨t, ht⟩ := failed_request_more_fuel_further_loads m files hfg c q
  rw [ht]
  exact replayLoads_grows files t _

/-- **saturation exists** (every file set, every mode): the prepared templates are files of the set
(`Lemmas/InclGrow.lean`: `In`), the set a failed request leaves grows with the fuel, so from some fuel `f0` on it is
the same set of templates for every fuel — the state the real loader (whose limit lies far beyond the model's
24) is compared with when the harness's test finds fuel 24 and 72 to agree.  Not proved: a bound on `f0` -/
theorem loaded_set_eventually_constant (m : Mode) (files : Files) (c : Cache) (q : Req) (hc : In files c) :
    ∃ f0, ∀ g, f0 ≤ g →
      Sub (cacheAfterFail m files g c q) (cacheAfterFail m files f0 c q) ∧
      Sub (cacheAfterFail m files f0 c q) (cacheAfterFail m files g c q) := by
  obtain ⟨f0, h⟩ := growing_caches_const files (fun f => cacheAfterFail m files f c q)
    (fun f => cacheAfterFail_in m files f c q hc)
    (fun f g hfg => (loaded_set_grows_with_fuel m files hfg c q).2)
  exact ⟨f0, fun g hg => ⟨h g hg, (loaded_set_grows_with_fuel m files hg c q).2⟩⟩

/-- **the same conditions of termination, for sequences**: a list of answers none of which is "out of fuel" is
what the code's inline mode gives for the sequence with some fuel iff it is what run-time mode gives with some
fuel (recursive and mutually recursive includes, failed requests in the sequence, the loader's state carried
along) -/
theorem seq_same_termination (T : List Name) (files : Files) (hH : inH T files = true)
    (qs : List Req) (rs : List (Res (List Ev))) (hrs : ∀ r ∈ rs, r ≠ .fuel) :
    (∃ f, (renderSeqF .inlineU files f [] qs).map (·.1) = rs) ↔ (∃ f, renderSeq .runtime files f [] qs = rs) := by
  constructor
  · rintro ⟨f, hf⟩
    -- run-time mode may need more fuel, by request: from `g1` on the marked run gives this request's marker-free answer
    -- (`renderOn_M_of_U`) and run-time mode the marked run's (`renderOn_eq`); `g2` does for the rest; take the larger
    have key : ∀ (qs : List Req) (c : Cache), CacheInv T files c →
        (∀ r ∈ (renderSeqF .inlineU files f c qs).map (·.1), r ≠ .fuel) →
        ∃ g0, ∀ g, g0 ≤ g → renderSeq .runtime files g [] qs = (renderSeqF .inlineU files f c qs).map (·.1) := by
      intro qs
      induction qs with
      | nil => intro c _ _; exact ⟨0, fun _ _ => rfl⟩
      | cons q qs ih =>
        intro c hc hno
        simp only [renderSeqF, List.map_cons, List.mem_cons, forall_eq_or_imp] at hno
        obtain ⟨g1, hg1⟩ := renderOn_M_of_U files f c q (by rw [← renderOnF_fst]; exact hno.1)
        obtain ⟨g2, hg2⟩ := ih _ (renderOnF_inv (filesOk_of_inH hH) .inlineU f c hc q) hno.2
        refine ⟨max g1 g2, fun g hg => ?_⟩
        simp only [renderSeq, renderSeqF, List.map_cons]
        rw [renderOn_runtime_cache, hg2 g (Nat.le_trans (Nat.le_max_right _ _) hg), ← (renderOn_eq hH g c hc q).1,
          hg1 g (Nat.le_trans (Nat.le_max_left _ _) hg), renderOnF_fst]
    obtain ⟨g0, hg0⟩ := key qs [] CacheInv.nil (by rw [hf]; exact hrs)
    exact ⟨g0, by rw [hg0 g0 (Nat.le_refl _), hf]⟩
  · rintro ⟨f, hf⟩
    exact ⟨f, by rw [inline_real_seq_eq_runtime_partial T files hH f qs (by rw [hf]; exact hrs), hf]⟩

/-
  The statement about the code as it is (no markers).  Full statement (false, same witnesses):
    ∀ files entry kind data r, r ≠ .fuel → ((∃ f, renderInlineReal … f = r) ↔ (∃ f, renderRuntime … f = r))
  Proved under `inH`: the two modes reach the same results (events or error); a result reached in
  run-time mode with fuel `f` is reached in inline mode with the same `f` (inline mode needs less
  stack), the converse may need more.
-/
theorem inline_real_eq_runtime_partial (T : List Name) (files : Files) (hH : inH T files = true)
    (entry : Name) (kind : Kind) (data : List (Name × Value)) (r : Res (List Ev)) (hr : r ≠ .fuel) :
    ((∃ f, renderInlineReal files entry kind data f = r) ↔ (∃ f, renderRuntime files entry kind data f = r)) ∧
    (∀ f, renderRuntime files entry kind data f = r → renderInlineReal files entry kind data f = r) := by
  have hm := marker_free_same_results files entry kind data r hr
  refine ⟨⟨fun ⟨f, h⟩ => ?_, fun ⟨f, h⟩ => ⟨f, ?_⟩⟩, fun f h => ?_⟩
  · obtain ⟨g, hg⟩ := hm.2 f h
    exact ⟨g, by rw [← inline_eq_runtime_partial T files hH]; exact hg⟩
  · exact hm.1 f (by rw [inline_eq_runtime_partial T files hH]; exact h)
  · exact hm.1 f (by rw [inline_eq_runtime_partial T files hH]; exact h)

/-
  The marker-free statement for file sets with ill-formed templates.  Full statement (false, `eager_syntax_witness`):
  the code's inline mode and run-time mode reach the same results.
-/
/-- the code as it is (no markers), file sets that may contain ill-formed templates (`inHW`): a result the inline
mode reaches is the syntax error or a result run-time mode reaches; a result run-time mode reaches with fuel `f` is
reached by the inline mode with the same `f`, unless the inline mode raises the syntax error -/
theorem inline_real_eq_runtime_illformed_partial (T : List Name) (files : Files) (hH : inHW T files = true)
    (entry : Name) (kind : Kind) (data : List (Name × Value)) (r : Res (List Ev)) (hr : r ≠ .fuel) :
    ((∃ f, renderInlineReal files entry kind data f = r) → r = .err .syntaxErr ∨ ∃ f, renderRuntime files entry kind data f = r) ∧
    (∀ f, renderRuntime files entry kind data f = r →
      renderInlineReal files entry kind data f = r ∨ renderInlineReal files entry kind data f = .err .syntaxErr) := by
  constructor
  · rintro ⟨f, h⟩
    obtain ⟨g, hg⟩ := (marker_free_same_results files entry kind data r hr).2 f h
    rcases inline_eq_runtime_illformed_partial T files hH entry kind data g with h1 | h1
    · left; rw [← hg, h1]
    · right; exact ⟨g, by rw [← h1]; exact hg⟩
  · intro f h
    rcases inline_eq_runtime_illformed_partial T files hH entry kind data f with h1 | h1
    · right; exact (marker_free_same_results files entry kind data _ (by simp)).1 f h1
    · left; exact (marker_free_same_results files entry kind data r hr).1 f (by rw [h1]; exact h)

/-! ## what an include means (run-time semantics; by `inline_eq_runtime_partial` the inline mode
produces the same events for whole templates) -/

/-- the include element is replaced by the events of its target (`r1.1`), which is evaluated in
the including template's context at that point (`st`: data, loop variables, macros, match
templates), and the rest of the includer continues in the context the target leaves behind
(`r1.2`: the target's macros and match templates reach the includer from that point on); the
fallback plays no role when the target exists -/
theorem include_replaced_by_target (files : Files) (J : RJ) (rng : Rng) (st : St)
    (h : List Char) (cls : Kind) (hasFb : Bool) (fb : List Node) (pos name : Name) (body rest : List Node)
    (hres : resolve pos h = some name) (hfind : files.find name = some ⟨cls, some body⟩) :
    renderL .runtime files J rng (.include (.static h) cls hasFb fb pos :: rest) st =
      (J (.ofKind cls) body st).bind fun r1 =>
        (renderL .runtime files J rng rest r1.2).bind fun r2 => .ok (r1.1 ++ r2.1, r2.2) := by
  rw [renderL_cons, renderN_static_found hres hfind]

/-- fallback content is rendered when the target is missing; that it plays no role when the target exists is part of
`include_replaced_by_target` -/
theorem fallback_iff_missing (files : Files) (J : RJ) (rng : Rng) (st : St)
    (h : List Char) (cls : Kind) (fb : List Node) (pos name : Name)
    (hres : resolve pos h = some name) (hfind : files.find name = none) :
    renderN .runtime files J rng (.include (.static h) cls true fb pos) st = renderL .runtime files J rng.fresh fb st :=
  renderN_static_missing hres hfind

/-- a missing target without fallback raises the not-found error -/
theorem missing_without_fallback_raises (files : Files) (J : RJ) (rng : Rng) (st : St)
    (h : List Char) (cls : Kind) (fb : List Node) (pos name : Name)
    (hres : resolve pos h = some name) (hfind : files.find name = none) :
    renderN .runtime files J rng (.include (.static h) cls false fb pos) st = .err .notFound :=
  renderN_static_missing hres hfind

/-! ## the code's tables the model is written against (regenerated from the code on every run)

`renderN` is `_flatten → _match → _include` as one step with the include stage last (a run-time
include is resolved after matching, by a template that runs its own complete pipeline: range
`Rng.ofKind cls`, which is `Rng.full` for a markup template), text templates have no match stage, the class of an include target is fixed when the
owning template is prepared (`cls`), a text include carries the empty fallback (`hasFb = true`,
`fb = []`), an empty `xi:fallback` is a fallback. -/
theorem tables_as_modelled :
    Gen.Incl.markupFilters = [['_', 'f', 'l', 'a', 't', 't', 'e', 'n'], ['_', 'm', 'a', 't', 'c', 'h'], ['_', 'i', 'n', 'c', 'l', 'u', 'd', 'e']] ∧
    Gen.Incl.textFilters = [['_', 'f', 'l', 'a', 't', 't', 'e', 'n'], ['_', 'i', 'n', 'c', 'l', 'u', 'd', 'e']] ∧
    Gen.Incl.markupIncludeTable.map (fun r => (r.1, r.2.1)) =
      [([], ['M', 'a', 'r', 'k', 'u', 'p', 'T', 'e', 'm', 'p', 'l', 'a', 't', 'e']),
       (['x', 'm', 'l'], ['M', 'a', 'r', 'k', 'u', 'p', 'T', 'e', 'm', 'p', 'l', 'a', 't', 'e']),
       (['t', 'e', 'x', 't'], ['N', 'e', 'w', 'T', 'e', 'x', 't', 'T', 'e', 'm', 'p', 'l', 'a', 't', 'e'])] ∧
    Gen.Incl.markupIncludeTable.all (fun r => r.2.2 == ['n', 'o', 'n', 'e']) = true ∧
    Gen.Incl.textInclude = (['N', 'e', 'w', 'T', 'e', 'x', 't', 'T', 'e', 'm', 'p', 'l', 'a', 't', 'e'], ['l', 'i', 's', 't', '0']) ∧
    Gen.Incl.emptyFallback = ['l', 'i', 's', 't', '0'] ∧
    Gen.Incl.loaderAutoReloadDefault = false := by
  decide +kernel

/-! ## the full statement is false: witnesses (findings/C11.json) -/

section witnesses
def nA : Name := ['a', '.', 'h', 't', 'm', 'l']
def nB : Name := ['b', '.', 'h', 't', 'm', 'l']
def nBad : Name := ['b', 'a', 'd', '.', 'h', 't', 'm', 'l']
def nNope : Name := ['n', 'o', 'p', 'e', '.', 'h', 't', 'm', 'l']

/-- a.html: `<d><py:if test="s0"><xi:include href="bad.html"/></py:if></d>`, bad.html is not
well-formed, `s0 = ''`: inline mode raises TemplateSyntaxError while preparing, run-time mode
never reaches the include (finding C11-eager-syntax) -/
def wEager : Files :=
  [[(nA, ⟨.markup, some [.elem ['d'] [.cond (.var ['s', '0']) [.include (.static nBad) .markup false [] nA]]]⟩),
    (nBad, ⟨.markup, none⟩)]]

theorem eager_syntax_witness :
    renderInline wEager nA .markup [(['s', '0'], .str [])] 5 = .err .syntaxErr ∧
    renderInlineReal wEager nA .markup [(['s', '0'], .str [])] 5 = .err .syntaxErr ∧
    renderRuntime wEager nA .markup [(['s', '0'], .str [])] 5 = .ok [.start ['d'], .stop ['d']] := by
  decide +kernel

/-- a.html: `<d><py:match path="x">X</py:match><py:match path="q"><xi:include href="nope.html"/></py:match>
<x><xi:include href="b.html"/></x></d>`, b.html: `<e><q/></e>`.  The content of the matched `<x>`
is processed under the match templates up to the one for `x`; inlined, b.html's `<q/>` inherits
that restriction, while the run-time include runs b.html through its own match filter, which
applies the template for `q` (finding C11-match-range) -/
def wRange : Files :=
  [[(nA, ⟨.markup, some [.elem ['d'] [
        .matchT ['x'] [.text ['X']],
        .matchT ['q'] [.include (.static nNope) .markup false [] nA],
        .elem ['x'] [.include (.static nB) .markup false [] nA]]]⟩),
    (nB, ⟨.markup, some [.elem ['e'] [.elem ['q'] []]]⟩)]]

theorem match_range_witness :
    renderInline wRange nA .markup [] 5 = .ok [.start ['d'], .text ['X'], .stop ['d']] ∧
    renderInlineReal wRange nA .markup [] 5 = .ok [.start ['d'], .text ['X'], .stop ['d']] ∧
    renderRuntime wRange nA .markup [] 5 = .err .notFound := by
  decide +kernel

/-- the same finding in its usual shape (C12 records it as C12-include-in-match): a.html:
`<d><py:match path="x"><w>${select('*|text()')}</w></py:match><py:match path="q"><q><k/>${select('*|text()')}</q></py:match>
<x><xi:include href="b.html"/></x></d>`, b.html: `<q/>`.  At run time b.html's own match filter
rewrites `<q/>` once, and the body of the template for `x` re-matches the selected content from
the next template on: the template for `q` is applied twice; inlined, once -/
def wSelect : Files :=
  [[(nA, ⟨.markup, some [.elem ['d'] [
        .matchT ['x'] [.elem ['w'] [.select]],
        .matchT ['q'] [.elem ['q'] [.elem ['k'] [], .select]],
        .elem ['x'] [.include (.static nB) .markup false [] nA]]]⟩),
    (nB, ⟨.markup, some [.elem ['q'] []]⟩)]]

theorem match_range_select_witness :
    renderInlineReal wSelect nA .markup [] 6 =
      .ok [.start ['d'], .start ['w'], .start ['q'], .start ['k'], .stop ['k'], .stop ['q'], .stop ['w'], .stop ['d']] ∧
    renderRuntime wSelect nA .markup [] 6 =
      .ok [.start ['d'], .start ['w'], .start ['q'], .start ['k'], .stop ['k'], .start ['k'], .stop ['k'],
           .stop ['q'], .stop ['w'], .stop ['d']] := by
  decide +kernel

/-- a.html: `<d><py:match path="q">Q</py:match><py:def function="m0"><q/></py:def>
<xi:include href="t.txt" parse="text"/></d>`, t.txt: `${m0()}`.  Included at run time the text
template runs through its own pipeline, which has no match filter: the `<q/>` its macro call
produces escapes the includer's match template; inlined it does not (finding C11-match-range-text) -/
def wText : Files :=
  [[(nA, ⟨.markup, some [.elem ['d'] [
        .matchT ['q'] [.text ['Q']],
        .defn ['m', '0'] [.elem ['q'] []],
        .include (.static ['t', '.', 't', 'x', 't']) .text false [] nA]]⟩),
    (['t', '.', 't', 'x', 't'], ⟨.text, some [.call ['m', '0']]⟩)]]

theorem match_range_text_witness :
    renderInline wText nA .markup [] 5 = .ok [.start ['d'], .text ['Q'], .stop ['d']] ∧
    renderInlineReal wText nA .markup [] 5 = .ok [.start ['d'], .text ['Q'], .stop ['d']] ∧
    renderRuntime wText nA .markup [] 5 = .ok [.start ['d'], .start ['q'], .stop ['q'], .stop ['d']] := by
  decide +kernel

example : inH (matchTags wText) wText = false := by decide +kernel
example : inH (matchTags wEager) wEager = false := by decide +kernel
example : inH (matchTags wRange) wRange = false := by decide +kernel
end witnesses

section nonvacuous
def nSubC : Name := ['s', 'u', 'b', '/', 'c', '.', 'h', 't', 'm', 'l']
def nT : Name := ['t', '.', 't', 'x', 't']

/-- a.html includes sub/c.html (which registers a macro and a match template and includes
../a.html back under a loop over the shrinking tree `t0`), calls the macro, uses the match
template, includes a missing file with fallback, a text template, and an expression-valued href -/
def exFiles : Files :=
  [[(nA, ⟨.markup, some [.elem ['d'] [
        .include (.static nSubC) .markup false [] nA,
        .call ['m', '0'],
        .elem ['x'] [.text ['g', 'o', 'n', 'e']],
        .include (.static nNope) .markup true [.text ['F'], .var ['s', '0']] nA,
        .include (.static nT) .text false [] nA,
        .include (.dyn [.var ['h', '0']]) .markup true [] nA]]⟩),
    (nSubC, ⟨.markup, some [.elem ['e'] [
        .defn ['m', '0'] [.text ['M'], .var ['s', '0']],
        .matchT ['x'] [.text ['X']],
        .loop ['t', '0'] ['t', '0'] [.include (.static ['.', '.', '/', 'a', '.', 'h', 't', 'm', 'l']) .markup false [] nSubC]]]⟩),
    (nT, ⟨.text, some [.text ['T'], .include (.static nNope) .text true [] nT]⟩)]]

def exData : List (Name × Value) :=
  [(['s', '0'], .str ['v']), (['t', '0'], .list [.list []]), (['h', '0'], .str nB)]

example : inH (matchTags exFiles) exFiles = true := by decide +kernel

-- both modes, same events; the recursion through sub/c.html → ../a.html is decided by the data
example : renderInline exFiles nA .markup exData 9 = renderRuntime exFiles nA .markup exData 9 := by decide +kernel
example : (match renderRuntime exFiles nA .markup exData 9 with | .ok evs => evs.length | _ => 0) = 20 := by decide +kernel
-- the guard leaves one statically named include in the prepared entry: the cyclic ../a.html
example : (loadInl exFiles nA .markup []).map (fun r => targetsL r.1) = .ok [nA] := by decide +kernel
-- not enough fuel for the two nested template entries: both modes give up
example : renderInline exFiles nA .markup exData 2 = .fuel ∧ renderRuntime exFiles nA .markup exData 2 = .fuel := by decide +kernel
-- the code's inline mode (no markers) spends no fuel on inlined templates: it gets by with less
example : renderInlineReal exFiles nA .markup exData 2 = renderRuntime exFiles nA .markup exData 9 := by decide +kernel

def nLeaf : Name := ['l', 'e', 'a', 'f', '.', 'h', 't', 'm', 'l']
/-- `a.html` = `<d><xi:include href="${h0}"/>${u0}</d>` (fails when `u0` is undefined, after the include was
    loaded), `b.html` = `<e><xi:include href="c.html"/></e>`, `c.html` = `C` -/
def exFail : Files :=
  [[(nA, ⟨.markup, some [.elem ['d'] [.include (.dyn [.var ['h', '0']]) .markup false [] nA, .var ['u', '0']]]⟩),
    (nB, ⟨.markup, some [.elem ['e'] [.include (.static ['c', '.', 'h', 't', 'm', 'l']) .markup false [] nB]]⟩),
    (['c', '.', 'h', 't', 'm', 'l'], ⟨.markup, some [.text ['C']]⟩)]]

def exFailReqs : List Req :=
  [(nA, .markup, [(['h', '0'], .str nB)]),            -- raises UndefinedError after b.html (and c.html) were loaded
   (nB, .markup, []),                                 -- served from what the failed render left behind
   (nA, .markup, [(['h', '0'], .str nB), (['u', '0'], .str ['!'])])]

example : inH (matchTags exFail) exFail = true := by decide +kernel
/-- the failed render leaves `a.html`, `b.html` and (inlined into `b.html`) `c.html` prepared in the loader;
    the model that forgets them (`renderSeq`) and the faithful one answer alike, as the theorem says -/
example : (renderSeqF .inlineM exFail 6 [] exFailReqs).map (fun x => (x.1, x.2.map (·.1))) =
    [(.err .undefined, [nB, ['c', '.', 'h', 't', 'm', 'l'], nA]),
     (.ok [.start ['e'], .text ['C'], .stop ['e']], [nB, ['c', '.', 'h', 't', 'm', 'l'], nA]),
     (.ok [.start ['d'], .start ['e'], .text ['C'], .stop ['e'], .text ['!'], .stop ['d']],
      [nB, ['c', '.', 'h', 't', 'm', 'l'], nA])] := by decide +kernel
example : (renderOn .inlineM exFail 6 [] (nA, .markup, [(['h', '0'], .str nB)])).2 = [] := by decide +kernel

/-- non-vacuity of `inline_real_seq_eq_runtime_partial` / `seq_same_termination`: the sequence with a failed
request in the marker-free mode; no answer is "out of fuel" at fuel 6.  At fuel 2 run-time mode gives up on
`exFiles` where the marker-free inline mode answers: the hypothesis `hno` is needed, and the two directions of
`seq_same_termination` may need different fuel. -/
example : (renderSeqF .inlineU exFail 6 [] exFailReqs).map (·.1) = renderSeq .runtime exFail 6 [] exFailReqs ∧
    (renderSeq .runtime exFail 6 [] exFailReqs).all (· != .fuel) = true ∧
    renderSeq .runtime exFiles 2 [] [(nA, .markup, exData)] = [.fuel] ∧
    (renderSeqF .inlineU exFiles 2 [] [(nA, .markup, exData)]).map (·.1) = renderSeq .runtime exFiles 9 [] [(nA, .markup, exData)] := by
  decide +kernel

/-- non-vacuity of `seq_more_fuel_same_answers_and_loader`: the sequence with a failed render, fuel 6 and 9, the
code's inline mode — answers and prepared templates after every request -/
example : (renderSeqF .inlineU exFail 6 [] exFailReqs).all (fun x => x.1 != .fuel) = true ∧
    (renderSeqF .inlineU exFail 9 [] exFailReqs).map (fun x => (x.1, x.2.map (·.1))) =
      (renderSeqF .inlineU exFail 6 [] exFailReqs).map (fun x => (x.1, x.2.map (·.1))) := by decide +kernel

def nC : Name := ['c', '.', 'h', 't', 'm', 'l']

/-- `a.html` includes `${h0}` = `b.html`, which includes `${h1}` = `c.html`, which includes `${h2}` = `a.html`: an endless
    descent through expression-valued includes -/
def exDeep : Files :=
  [[(nA, ⟨.markup, some [.elem ['d'] [.include (.dyn [.var ['h', '0']]) .markup false [] nA]]⟩),
    (nB, ⟨.markup, some [.elem ['e'] [.include (.dyn [.var ['h', '1']]) .markup false [] nB]]⟩),
    (nC, ⟨.markup, some [.elem ['p'] [.include (.dyn [.var ['h', '2']]) .markup false [] nC]]⟩)]]
def exDeepData : List (Name × Value) := [(['h', '0'], .str nB), (['h', '1'], .str nC), (['h', '2'], .str nA)]

/-- the hypothesis of `loaded_set_eventually_constant` holds for a fresh loader (and, by `cacheAfterFail_in`, stays) -/
example : In exDeep [] := by intro n h; simp at h

/-- non-vacuity of `failed_request_more_fuel_further_loads`, and what saturation means: the request runs out of
every fuel; with fuel 0 the loader is left with 2 prepared templates, from fuel 1 on with all 3 -/
example : (List.range 6).map (fun f => (renderOnF .inlineU exDeep f [] (nA, .markup, exDeepData)).1) = List.replicate 6 .fuel ∧
    (List.range 6).map (fun f => ((renderOnF .inlineU exDeep f [] (nA, .markup, exDeepData)).2.map (·.1)).length) = [2, 3, 3, 3, 3, 3] := by
  decide +kernel
/-- `a.html` = `<d><xi:include href="${h0}"/></d>`, `b.html` = `<e>B</e>`,
    `c.html` = `<e><xi:include href="b.html"/><py:if test="s0"><xi:include href="bad.html"/></py:if></e>`,
    `bad.html` is not well-formed -/
def exIll : Files :=
  [[(nA, ⟨.markup, some [.elem ['d'] [.include (.dyn [.var ['h', '0']]) .markup false [] nA]]⟩),
    (nB, ⟨.markup, some [.elem ['e'] [.text ['B']]]⟩),
    (nC, ⟨.markup, some [.elem ['e'] [.include (.static nB) .markup false [] nC,
                                        .cond (.var ['s', '0']) [.include (.static nBad) .markup false [] nC]]]⟩),
    (nBad, ⟨.markup, none⟩)]]

def exIllReqs : List Req :=
  [(nA, .markup, [(['h', '0'], .str nC), (['s', '0'], .str [])]),   -- loads c.html at run time: its preparation fails after b.html
   (nB, .markup, []),                                                -- served from what the failed preparation left
   (nC, .markup, [(['s', '0'], .str [])])]

/-- the witness of finding C11-eager-syntax is inside `inHW`: there `inline_real_eq_runtime_illformed_partial` speaks,
and the syntax-error disjunct is the one that holds -/
example : inHW (matchTags wEager) wEager = true ∧
    renderInlineReal wEager nA .markup [(['s', '0'], .str [])] 5 = .err .syntaxErr ∧
    renderInlineReal exIll nB .markup [] 5 = renderRuntime exIll nB .markup [] 5 := by decide +kernel
/-- non-vacuity of `inline_eq_runtime_illformed_partial` / `inline_seq_illformed_partial`: outside `inH`, inside
`inHW`; the first request raises the syntax error in inline mode only, when `c.html` is loaded by the
expression-valued include and prepared: `b.html` was inlined into it — and stays prepared in the loader, beside
the entry — before `bad.html` was met; `c.html` itself is not kept.  Run-time mode answers all three. -/
example : inHW (matchTags exIll) exIll = true ∧ inH (matchTags exIll) exIll = false := by decide +kernel
example : (renderSeqF .inlineM exIll 6 [] exIllReqs).map (fun x => (x.1, x.2.map (·.1))) =
    [(.err .syntaxErr, [nB, nA]),
     (.ok [.start ['e'], .text ['B'], .stop ['e']], [nB, nA]),
     (.err .syntaxErr, [nB, nA])] := by decide +kernel
example : (renderSeqF .inlineU exIll 6 [] exIllReqs).map (·.1) = (renderSeqF .inlineM exIll 6 [] exIllReqs).map (·.1) ∧
    (renderSeq .runtime exIll 6 [] exIllReqs).all (· != .fuel) = true := by decide +kernel
example : renderSeq .runtime exIll 6 [] exIllReqs =
    [.ok [.start ['d'], .start ['e'], .start ['e'], .text ['B'], .stop ['e'], .stop ['e'], .stop ['d']],
     .ok [.start ['e'], .text ['B'], .stop ['e']],
     .ok [.start ['e'], .start ['e'], .text ['B'], .stop ['e'], .stop ['e']]] := by decide +kernel
/-- the cache-after function agrees with the preparation where it succeeds, and differs from "drop everything"
where it fails -/
example : (loadInlC exIll nC .markup []).map (·.1) = [nB] ∧
    (loadInl exIll nC .markup []).map (fun _ => ()) = .err .syntaxErr ∧
    (loadInl exIll nA .markup []).map (fun r => r.2.map (·.1)) = .ok ((loadInlC exIll nA .markup []).map (·.1)) := by
  decide +kernel

/-- `a.html` = `<py:match path="x">[${select('*|text()')}]</py:match><py:match path="y">Y<y/></py:match>
    <x><xi:include href="${h0}"/></x>`, `b.html` = `<y/>`.  The include sits in the content of a matched element:
    that content is produced under the window `[0, 1)` and then spliced into the body of template 0, which is
    open to template 1.  Replaced in place, `<y/>` reaches the body untouched and template 1 rewrites it once.
    Loaded at run time, `b.html` runs through its own match filter first (template 1 applies: `Y<y/>`), and
    the `<y/>` it leaves is rewritten once more in the body. -/
def exRestart : Files :=
  [[(nA, ⟨.markup, some [.matchT ['x'] [.text ['['], .select, .text [']']],
                          .matchT ['y'] [.text ['Y'], .elem ['y'] []],
                          .elem ['x'] [.include (.dyn [.var ['h', '0']]) .markup false [] nA]]⟩),
    (nB, ⟨.markup, some [.elem ['y'] []]⟩)]]

/-- With match templates the full statement `runtime = spec` is false — inside `inH`, where both loader modes
    agree with each other: an expression-valued include in a zone restarts the match filter in both modes. -/
theorem spec_restart_witness :
    renderRuntime exRestart nA .markup [(['h', '0'], .str nB)] 6
      = .ok [.text ['['], .text ['Y'], .text ['Y'], .start ['y'], .stop ['y'], .text [']']] ∧
    renderSpec exRestart nA .markup [(['h', '0'], .str nB)] 6
      = .ok [.text ['['], .text ['Y'], .start ['y'], .stop ['y'], .text [']']] ∧
    renderInline exRestart nA .markup [(['h', '0'], .str nB)] 6
      = renderRuntime exRestart nA .markup [(['h', '0'], .str nB)] 6 ∧
    inH (matchTags exRestart) exRestart = true := by decide +kernel

/-- `a.html` as in `exRestart`, but `<x>` includes `leaf.html` = `<p><xi:include href="${h0}"/></p>` by name: a
    window-independent fragment in the sense of `inH` (`winfreeL`: an expression-valued include restarts the window
    in both loader modes) — not in the sense of `inHS` (`winfreeSL`): in place, `b.html`'s `<y/>` stays under the
    restricted window of the matched element's content. -/
def exLeafDyn : Files :=
  [[(nA, ⟨.markup, some [.matchT ['x'] [.text ['['], .select, .text [']']],
                          .matchT ['y'] [.text ['Y'], .elem ['y'] []],
                          .elem ['x'] [.include (.static nLeaf) .markup false [] nA]]⟩),
    (nLeaf, ⟨.markup, some [.elem ['p'] [.include (.dyn [.var ['h', '0']]) .markup false [] nLeaf]]⟩),
    (nB, ⟨.markup, some [.elem ['y'] []]⟩)]]

/-- why `inHS` asks more of window-independent content than `inH` does: inside `inH` (the loader modes agree),
    outside `inHS`, and run-time mode differs from the specification -/
theorem spec_leaf_dyn_witness :
    inH (matchTags exLeafDyn) exLeafDyn = true ∧ inHS (matchTags exLeafDyn) exLeafDyn = false ∧
    renderRuntime exLeafDyn nA .markup [(['h', '0'], .str nB)] 7
      = .ok [.text ['['], .start ['p'], .text ['Y'], .text ['Y'], .start ['y'], .stop ['y'], .stop ['p'], .text [']']] ∧
    renderInlineReal exLeafDyn nA .markup [(['h', '0'], .str nB)] 7
      = renderRuntime exLeafDyn nA .markup [(['h', '0'], .str nB)] 7 ∧
    renderSpec exLeafDyn nA .markup [(['h', '0'], .str nB)] 7
      = .ok [.text ['['], .start ['p'], .text ['Y'], .start ['y'], .stop ['y'], .stop ['p'], .text [']']] := by
  decide +kernel

/-- the clause of `inHS` that admits an expression-valued include inside a zone is not vacuous: `<x>` (matched, its
    content wrapped by the match template) includes `${h0}` = `t.txt` with `parse="text"`, and a missing text template
    with a fallback -/
def exZoneText : Files :=
  [[(nA, ⟨.markup, some [.elem ['d'] [
        .matchT ['x'] [.elem ['w'] [.select]],
        .elem ['x'] [.include (.dyn [.var ['h', '0']]) .text false [] nA,
                     .include (.dyn [.var ['h', '1']]) .text true [.text ['F']] nA]]]⟩),
    (nT, ⟨.text, some [.text ['T'], .var ['s', '0']]⟩)]]

example : inHS (matchTags exZoneText) exZoneText = true ∧ noMtFiles exZoneText = false ∧
    renderRuntime exZoneText nA .markup ((['h', '0'], .str nT) :: (['h', '1'], .str ['n', '.', 't', 'x', 't']) :: exData) 5
      = renderSpec exZoneText nA .markup ((['h', '0'], .str nT) :: (['h', '1'], .str ['n', '.', 't', 'x', 't']) :: exData) 5 ∧
    renderSpec exZoneText nA .markup ((['h', '0'], .str nT) :: (['h', '1'], .str ['n', '.', 't', 'x', 't']) :: exData) 5
      = .ok [.start ['d'], .start ['w'], .text ['T'], .text ['v'], .text ['F'], .stop ['w'], .stop ['d']] := by
  decide +kernel

/-- non-vacuity of `runtime_eq_spec_partial`: a file set without match templates (nested and recursive
    includes, a macro crossing the file boundary, fallback, text include, expression-valued href) -/
def exSpec : Files :=
  [[(nA, ⟨.markup, some [.elem ['d'] [
        .include (.static nSubC) .markup false [] nA,
        .call ['m', '0'],
        .include (.static nNope) .markup true [.text ['F'], .var ['s', '0']] nA,
        .include (.static nT) .text false [] nA,
        .include (.dyn [.var ['h', '0']]) .markup true [] nA]]⟩),
    (nSubC, ⟨.markup, some [.elem ['e'] [
        .defn ['m', '0'] [.text ['M'], .var ['s', '0']],
        .loop ['t', '0'] ['t', '0'] [.include (.static ['.', '.', '/', 'a', '.', 'h', 't', 'm', 'l']) .markup false [] nSubC]]]⟩),
    (nT, ⟨.text, some [.text ['T'], .include (.static nNope) .text true [] nT]⟩)]]

example : noMtFiles exSpec = true ∧ inH (matchTags exSpec) exSpec = true := by decide +kernel
example : renderSpec exSpec nA .markup exData 9 = renderRuntime exSpec nA .markup exData 9 ∧
    (match renderSpec exSpec nA .markup exData 9 with | .ok evs => evs.length | _ => 0) = 18 ∧
    renderSpec exSpec nA .markup exData 2 = .fuel := by decide +kernel

/-- the layout pattern: a match template wraps the content of `<x>`, and inside `<x>` a leaf
fragment (no matchable elements, no macro calls) and a text template are included by name — inside
the hypothesis although the includes sit in a zone -/
def exLayout : Files :=
  [[(nA, ⟨.markup, some [.elem ['d'] [
        .matchT ['x'] [.elem ['w'] [.select]],
        .elem ['x'] [.text ['a'], .include (.static nLeaf) .markup false [] nA,
                     .include (.static nT) .text false [] nA,
                     .include (.static nNope) .markup true [.elem ['p'] [.text ['F']]] nA]]]⟩),
    (nLeaf, ⟨.markup, some [.elem ['p'] [.text ['L'], .var ['s', '0']]]⟩),
    (nT, ⟨.text, some [.text ['T']]⟩)]]

/-- non-vacuity of `runtime_eq_spec_zones_partial`: file sets with match templates inside `inHS` — the layout
pattern, and the set that exercises every construct (a match template and a macro crossing a file boundary, an
expression-valued include outside zones); the witness set of `spec_restart_witness` is outside -/
example : inHS (matchTags exLayout) exLayout = true ∧ inHS (matchTags exFiles) exFiles = true ∧
    inHS (matchTags exRestart) exRestart = false ∧ noMtFiles exLayout = false ∧ noMtFiles exFiles = false := by decide +kernel
example : renderSpec exLayout nA .markup exData 4 = renderRuntime exLayout nA .markup exData 4 ∧
    renderSpec exFiles nA .markup exData 9 = renderRuntime exFiles nA .markup exData 9 ∧
    (match renderSpec exFiles nA .markup exData 9 with | .ok evs => evs.length | _ => 0) = 20 := by decide +kernel
example : inH (matchTags exLayout) exLayout = true := by decide +kernel
example : renderInlineReal exLayout nA .markup exData 4 = renderRuntime exLayout nA .markup exData 4 ∧
    renderRuntime exLayout nA .markup exData 4 =
      .ok [.start ['d'], .start ['w'], .text ['a'], .start ['p'], .text ['L'], .text ['v'], .stop ['p'],
           .text ['T'], .start ['p'], .text ['F'], .stop ['p'], .stop ['w'], .stop ['d']] := by decide +kernel
end nonvacuous

end Genshi.Props.C11
