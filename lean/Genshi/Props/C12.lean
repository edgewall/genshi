/-
  C12 — Match templates rewrite exactly the matching elements; hints only optimise.
  Property theorems, with the few lemmas only they use; the model is `Genshi/Model/Match*.lean` (`run`: the eager filter,
  every content buffered whatever the hint; `runL`: the generator pipeline as an automaton, which
  honours `buffer="false"`; `lazy_eq_eager` proves them equal on well-nested streams), helper
  lemmas are in `Genshi/Lemmas/Match*.lean`.

  All theorems are parametric in the matcher of each template: any state type `σ` and any
  `step : σ → Event → Bool → σ × Bool`; `Lawful` (an END undoes its START) is assumed only
  where stated.  `lawful_single`, `lawful_simple` show the law for the concrete matchers of the
  driver, `positional_not_lawful` that a position counter breaks it.

  OBLIGATIONS (checked by the harness):
    hints_table nonmatching_passthrough nonmatching_template_irrelevant
    declaration_order_pipeline pipeline_stages single_template_is_tree_rewrite filter_is_chain_of_rewrites
    select_returns_parts
    first_match_wins
    identity_body_is_identity
    identity_templates_passthrough filter_terminates render_declarations_first
    once_hint_irrelevant buffer_hint_irrelevant lazy_eq_eager window_footprint
    matcher_state_in_sync output_wellnested select_keeps_nesting
    lawful_single lawful_simple lawful_generic positional_not_lawful root_context_not_matched
    matcher_simulation real_matcher_flagfree real_matcher_lawful_abstraction nonpositional_paths_ok
    real_templates_okt real_filter_is_chain_of_rewrites real_template_rewrites_marked_elements
    marked_elements_are_xpath_matches real_positional_not_lawful real_positional_counts_per_closure
    once_on_trees stage_counts_matches late_registration_applies_from_there_on lazy_eq_eager_late
    select_is_path_select real_once_on_trees
    xpath_spec_eq_marks_spec marks_are_xpath_matches_every_strategy real_template_rewrites_xpath_matches
    xpath_criterion_is_nonpositional buffer_hint_irrelevant_late
    once_replaces_first_match real_once_replaces_first_match union_attribute_operand_masks_match
    filter_is_chain_of_rewrites_with_once real_filter_is_chain_of_rewrites_with_once
    real_once_replaces_first_xpath_match
-/
import Genshi.Lemmas.MatchSync
import Genshi.Lemmas.MatchPipe
import Genshi.Lemmas.MatchIns
import Genshi.Lemmas.MatchPath
import Genshi.Lemmas.MatchOnce
import Genshi.Lemmas.MatchEquiv
import Genshi.Lemmas.MatchPipeline2
import Genshi.Lemmas.MatchIdentity
import Genshi.Lemmas.MatchTotal
import Genshi.Lemmas.MatchSpec
import Genshi.Lemmas.MatchChain
import Genshi.Model.MatchPath
import Genshi.Model.MatchLazy
import Genshi.Gen.MatchHints
import Genshi.Lemmas.MatchRealSpec
import Genshi.Lemmas.MatchOnceTree
import Genshi.Lemmas.MatchLate
import Genshi.Lemmas.MatchSelect
import Genshi.Lemmas.MatchSelectTree
import Genshi.Lemmas.MatchRealOnce
import Genshi.Lemmas.MatchXpInst
import Genshi.Lemmas.MatchLateHints
import Genshi.Lemmas.MatchChainOnce
import Genshi.Lemmas.MatchOnceXp
import Genshi.Lemmas.PathNonPos
import Genshi.Model.PathParse
namespace Genshi.Props.C12
open Genshi Genshi.Match

/-- The hint parser of the model agrees with `MatchDirective.attach` of the code under test on
    every probed spelling (table regenerated from the code on every run), and `attach` produces no
    hint the model does not know. -/
theorem hints_table :
    (Genshi.Gen.MatchHints.rows.all fun (b, o, r, nb, mo, nr) =>
      parseHints b o r == { notBuffered := nb, matchOnce := mo, notRecursive := nr }) = true
    ∧ Genshi.Gen.MatchHints.unknownHints = [] := by
  decide +kernel

/-- When no registered template ever answers True (whatever its state), the filter yields the
    flattened template unchanged: for every stream (well nested or not), every window, all hints. -/
theorem nonmatching_passthrough {σ : Type} (f start : Nat) (end_ : Option Nat) (items : List (Item σ))
    (mts : List (MT σ)) (r : List (MT σ) × List Event)
    (hm : ∀ t ∈ mts, NeverFires t) (hi : ∀ t, Item.reg t ∈ items → NeverFires t)
    (h : run f start end_ items mts = some r) : r.2 = evs items :=
  (run_neverFires f start end_ items mts r hm hi h).1

/-- A template whose path matches nothing is irrelevant wherever it is declared: inserting it at
    any position `k` of the template list (the windows shifted accordingly) gives the same output
    and leaves the other templates in the same states, whatever the other templates do. -/
theorem nonmatching_template_irrelevant {σ : Type} (f : Nat) (items : List (Item σ)) (mts : List (MT σ))
    (r : List (MT σ) × List Event) (k : Nat) (tn : MT σ) (hn : NeverFires tn) (hk : k ≤ mts.length)
    (h : run f 0 none items mts = some r) :
    ∃ tn', Shape tn tn' ∧ run f 0 none items (ins tn k mts) = some (ins tn' k r.1, r.2) :=
  run_ins f 0 none items mts r k tn 0 none hn hk
    (by intro p; simp) (Or.inl ⟨rfl, rfl⟩) h

/-- **The firing equation** (the pipeline as the code runs it).  If template `idx` is the one the
    scan of the window selects for the START `e` of an element with closed content `inner`, then
    the filter's result for `e · inner · tail · rest'` is: `inner` matched against the window
    `[start, pre_end)`; the body instantiated with `select()` over `e · innerOut · tail`; *that
    output matched from index `idx+1`* to the end of the window; the END shown (updateonly) to the
    templates `start … idx` that tested the START; then the rest of the stream. -/
theorem declaration_order_pipeline {σ : Type} {f start : Nat} {end_ : Option Nat} {e tail : Event}
    {inner rest' : List (Item σ)} {mts mts1 : List (MT σ)} {idx : Nat} {t : MT σ}
    (hS : isStart e = true) (hsc : scan e start end_ 0 mts = (mts1, some idx)) (ht : mts1[idx]? = some t)
    (hcl : Closed (evs inner)) (htail : isEnd tail = true) :
    run (f + 1) start end_ (.ev e :: (inner ++ .ev tail :: rest')) mts =
      (run f start (some (preEnd t idx)) inner (fired t idx mts1)).bind fun q3 =>
      (run f (idx + 1) end_ (evItems (instantiate t.body (e :: q3.2 ++ [tail]))) q3.1).bind fun q4 =>
      (run f start end_ rest' (updRange tail start (idx + 1) 0 q4.1)).map fun p => (p.1, q4.2 ++ p.2) := by
  rw [run_matched hS hsc, ht, strip_of_closed inner 0 tail rest' hcl (isStart_false_of_isEnd htail) htail]
  rfl

/-- **The templates form a pipeline** (the documented reading: "a match template defined after another
    match template is applied to the output generated by the first").  Over a well-nested stream, for
    every split point `m` of the template list: running the filter with all templates `[s, e)` gives
    the same output and leaves the same template list as running it with the templates `[s, m)` and
    then, on that output, with the templates `[m, e)`.  Iterating `m` gives one stage per template.
    (Matchers that do not look at `updateonly` — none of the path strategies does; bodies well nested.) -/
theorem pipeline_stages {σ : Type} (f s : Nat) (e : Option Nat) (items : List (Item σ)) (M M' : List (MT σ))
    (out : List Event) (m : Nat) (hnr : NoReg items) (hneu : Neutral (evs items)) (hok : ∀ t ∈ M, OKt t)
    (hsm : s ≤ m) (hme : ∀ n, e = some n → m ≤ n) (h : run f s e items M = some (M', out)) :
    ∃ f' out1 L, run f' s (some m) items M = some (L, out1) ∧ run f' m e (evItems out1) L = some (M', out) :=
  pipeline_seq f s e items M M' out m hnr hneu hok hsm hme h

/-- **Exactly the matching elements.**  The stage of the pipeline that owns one template (slot `i`,
    window `[i, i+1)`; no `once`; lawful matcher) is this tree rewrite of the document, for every forest:
    an element is replaced iff the template's matcher fires on its START in the state reached by
    testing the STARTs of its ancestors (`openSt`); it is replaced by the body with every
    `${select(p)}` evaluated on START · rewritten content · END (plain content for `recursive="false"`);
    every other event passes unchanged; and the matcher ends in the state it started in.
    With `pipeline_stages` the whole filter is the composition of these rewrites in declaration order. -/
theorem single_template_is_tree_rewrite {σ : Type} (t : MT σ) (b : σ) (i : Nat) (hl : Lawful t) (ho : t.once = false)
    (f : Nat) (ns : List Node) (anc : List Open) (M : List (MT σ)) (r : List (MT σ) × List Event)
    (hns : okList ns = true) (hslot : SlotAt i t b anc M)
    (h : run f i (some (i + 1)) (evItems (flattenList ns)) M = some r) :
    r.2 = specList t b anc ns ∧ SlotAt i t b anc r.1 :=
  stage_is_spec t b i hl ho f ns anc M r hns hslot h

/-- **The filter is a chain of tree rewrites**, one per template, in declaration order — the property's
    first sentence in one statement.  For every forest and every template list whose templates of the
    window `[s, s+k)` are live, without `once`, lawful and do not read `updateonly`: what the filter
    yields on the flattened forest is obtained by rewriting the whole document with the first template
    (`specList`: every element at which its matcher fires is replaced by its body, `select()` giving the
    element's parts; every other event unchanged), re-reading the result as a forest, rewriting it with
    the second template, and so on (`Chain`). -/
theorem filter_is_chain_of_rewrites {σ : Type} (k s f : Nat) (ns : List Node) (M : List (MT σ))
    (r : List (MT σ) × List Event) (hns : okList ns = true)
    (hst : ∀ j t, s ≤ j → j < s + k → M[j]? = some t → StageOK t) (hlen : s + k ≤ M.length)
    (hok : ∀ t ∈ M, OKt t) (h : run f s (some (s + k)) (evItems (flattenList ns)) M = some r) :
    Chain M s k ns r.2 :=
  run_is_chain k s f ns M r hns hst hlen hok h

/-- **select() returns the matched element's parts.**  On the content `<tg …>kids</tg>` of a matched
    element, `select('.')` is the whole element and each child path (`node()`, `*`, `text()`,
    `*|text()`, `name`) yields the flattening of exactly the children its node test accepts, in
    document order — the XPath reading of these paths on the element as context node. -/
theorem select_returns_parts (s : Sel) (tg : QName) (at_ : AttrList) (kids : List Node) (hk : okList kids = true) :
    select s (Event.start tg at_ :: flattenList kids ++ [Event.end_ tg]) =
      if s.depth = 0 then Event.start tg at_ :: flattenList kids ++ [Event.end_ tg]
      else flattenList (kids.filter s.keeps) :=
  select_on_tree s tg at_ kids hk

/-- The template that fires is the first of the window, in declaration order, whose test accepts
    the START; every earlier one of the window was asked and declined. -/
theorem first_match_wins {σ : Type} (e : Event) (s : Nat) (en : Option Nat) (mts : List (MT σ)) (idx : Nat)
    (h : (scan e s en 0 mts).2 = some idx) :
    inWindow s en idx = true ∧ (∃ t, mts[idx]? = some t ∧ (t.test e false).2 = true) ∧
    ∀ i x, i < idx → mts[i]? = some x → inWindow s en i = true → (x.test e false).2 = false :=
  scan_first e s en mts idx h

/-- Insert at any position `k` of any template list a template whose
    body is `${select('.')}` (it reproduces the element it matched) — whatever its path, matcher state
    and hints.  On every well-nested stream the filter with it terminates and yields the same output as
    without it.  (Matchers ignore `updateonly`, bodies are well nested.)  Proved from the pipeline
    theorem: the identity template is a stage of its own, and that stage is the identity. -/
theorem identity_body_is_identity {σ : Type} (f : Nat) (items : List (Item σ)) (L0 : List (MT σ)) (tid : MT σ)
    (k : Nat) (r : List (MT σ) × List Event) (hnr : NoReg items) (hneu : Neutral (evs items))
    (hok : ∀ t ∈ L0, OKt t) (hid : IdentityBody tid) (hff : FlagFree tid) (hk : k ≤ L0.length)
    (h : run f 0 none items L0 = some r) :
    ∃ f' r', run f' 0 none items (ins tid k L0) = some r' ∧ r'.2 = r.2 := by
  obtain ⟨f', r', h'⟩ := run_terminates 0 none (ins tid k L0) items hnr hneu
    (ins_forall (P := fun t => BodyOK t.body) hid.bodyOK hk (fun t ht => (hok t ht).1))
  exact ⟨f', r', h', run_identity_insert f f' items L0 tid k r r' hnr hneu hok hid hff hk h h'⟩

/-- **Termination.**  On every well-nested, registration-free stream the filter yields a result when
    given enough fuel: the body of a match is matched against strictly later templates only. -/
theorem filter_terminates {σ : Type} (s : Nat) (e : Option Nat) (M : List (MT σ)) (items : List (Item σ))
    (hnr : NoReg items) (hneu : Neutral (evs items)) (hok : ∀ t ∈ M, BodyOK t.body) :
    ∃ f r, run f s e items M = some r :=
  run_terminates s e M items hnr hneu hok

/-- Identity templates among templates that never fire: the filter returns the stream unchanged, for
    *every* stream (well nested or not, registrations anywhere), every window and any matchers. -/
theorem identity_templates_passthrough {σ : Type} (f start : Nat) (end_ : Option Nat)
    (items : List (Item σ)) (mts : List (MT σ)) (r : List (MT σ) × List Event)
    (hm : ∀ t ∈ mts, NeverFires t ∨ IdentityBody t)
    (hi : ∀ t, Item.reg t ∈ items → NeverFires t ∨ IdentityBody t)
    (h : run f start end_ items mts = some r) : r.2 = evs items :=
  run_identity f start end_ items mts r hm hi h

/-- **A whole render.**  For a template whose `py:match` declarations are the first children of its root
    element: the root START passes untested (nothing is registered yet — this is the known finding
    C12-root-context), the declarations register in order, the content is filtered with that list,
    the root END passes.  So the theorems about registration-free streams with an initial template
    list are theorems about `generate()` of such templates. -/
theorem render_declarations_first {σ : Type} (f : Nat) (tg : QName) (at_ : AttrList) (regs : List (MT σ))
    (content : List (Item σ)) (hnr : NoReg content) (hcl : Closed (evs content)) (M' : List (MT σ)) (out : List Event)
    (h : run f 0 none content regs = some (M', out)) :
    render (f + regs.length + 3) (.ev (.start tg at_) :: (regs.map Item.reg ++ (content ++ [.ev (.end_ tg)]))) =
      some (.start tg at_ :: (out ++ [.end_ tg])) :=
  Genshi.Match.render_declarations_first f tg at_ regs content hnr hcl M' out h

/-- Take any template list, any slot `i` whose template does not carry the
    hint, any stream (which may register further templates) and run the filter; if that template
    replaced at most one element (its ghost counter rose by at most one), then the run with
    `once="true"` set on it yields the same output.  (The hinted run retires the template after its
    first match; in the content of that match the windows of the two runs differ at slot `i`.) -/
theorem once_hint_irrelevant {σ : Type} (f : Nat) (items : List (Item σ)) (mts : List (MT σ))
    (r : List (MT σ) × List Event) (i : Nat) (t : MT σ)
    (ht : mts[i]? = some t) (ho : t.once = false) (hr : t.retired = false)
    (h : run f 0 none items mts = some r) (hfew : hitsAt i r.1 ≤ hitsAt i mts + 1) :
    ∃ c', run f 0 none items (mts.set i (onceAt t)) = some (c', r.2) :=
  run_once_set ht ho hr h hfew

/-- **The two models agree.**  On every well-nested, registration-free stream the generator
    pipeline read as an automaton (`runL`, which honours `buffer="false"`) yields what the eager
    filter (`run`, every content buffered) yields and leaves the template list in the same state,
    provided the bodies are well nested and unbuffered bodies call `select()` at most once. -/
theorem lazy_eq_eager {σ : Type} (f : Nat) (items : List (Item σ)) (mts : List (MT σ))
    (r : List (MT σ) × List Event) (hnr : NoReg items) (hn : Neutral (evs items))
    (hok : ∀ t ∈ mts, LazyOK t) (h : run f 0 none items mts = some r) (F : Nat) (hF : f ≤ F) :
    runL F .idle items mts = some (.idle, r.1, r.2) :=
  runL_eq_run hnr hn hok h hF

/-- Take two template lists that differ only in their `buffer` hints
    (`mts'` any assignment of the hint whose unbuffered bodies call `select()` at most once — the
    documented condition).  On every well-nested stream the filter that honours the hints of `mts'`
    yields exactly the output of the filter that buffers everything.  No restriction on the paths:
    positional predicates are covered too (the model is of the repaired code, DESIGN.md §6 #49). -/
theorem buffer_hint_irrelevant {σ : Type} (f : Nat) (items : List (Item σ)) (mts mts' : List (MT σ))
    (r : List (MT σ) × List Event) (hnr : NoReg items) (hn : Neutral (evs items))
    (hsame : mts'.map bufOn = mts.map bufOn) (hok : ∀ t ∈ mts', LazyOK t)
    (h : run f 0 none items mts = some r) (F : Nat) (hF : f ≤ F) :
    ∃ m', runL F .idle items mts' = some (.idle, m', r.2) := by
  obtain ⟨r', h', _, ho⟩ := run_bufOn_pair f 0 none items mts mts' r hnr hsame h
  exact ⟨r'.1, ho ▸ lazy_eq_eager f items mts' r' hnr hn hok h' F hF⟩

/-- **Window footprint** (why the hint is irrelevant): a `_match(start, end)` generator reads and
    writes only the slots of its window; the content of a match is matched against `[start, pre_end)`
    and the body against `[idx+1, end)`, which are disjoint (`pre_end ≤ idx+1`). -/
theorem window_footprint {σ : Type} (F s : Nat) (en : Option Nat) (A : Auto) (ev : Event) (hA : WF s en A)
    (m y : List (MT σ)) (A' : Auto) (m' : List (MT σ)) (o : List Event) (hy : y.length = m.length)
    (h : feed F s en A ev m = some (A', m', o)) :
    m'.length = m.length ∧ feed F s en A ev (splice (win s en) m y) = some (A', splice (win s en) m' y, o) :=
  feed_frames F s en A ev hA m y A' m' o hy h

/-- Over a well-nested stream (no registrations inside), with matchers
    in which the END of an element undoes its START, every template of the window that is not
    retired ends in the state it started in; templates outside the window are not touched.
    (This is the invariant behind the `updateonly` calls: every matcher sees a well-nested
    sequence of STARTs and ENDs.  On the unrepaired code the templates declared before the
    matching one never saw the END — fix a0b8e40.) -/
theorem matcher_state_in_sync {σ : Type} (f start : Nat) (end_ : Option Nat) (items : List (Item σ))
    (mts : List (MT σ)) (r : List (MT σ) × List Event)
    (hnr : NoReg items) (hl : ∀ t ∈ mts, Lawful t) (hb : ∀ t ∈ mts, BodyOK t.body)
    (hn : Neutral (evs items)) (h : run f start end_ items mts = some r) :
    r.1.length = mts.length ∧
    ∀ i t, mts[i]? = some t → ∃ t', r.1[i]? = some t' ∧ Shape t t' ∧
      (t'.retired = true ∨ t'.st = t.st) ∧
      (inWindow start end_ i = false → t'.st = t.st ∧ t'.retired = t.retired) := by
  obtain ⟨hlen, hs⟩ := run_sync f start end_ items mts r hnr hl hb h [] [] (hn [])
  refine ⟨hlen, fun i t ht => ?_⟩
  obtain ⟨t', ht', hs'⟩ := hs i t ht
  exact ⟨t', ht', hs'.1, hs'.sync, hs'.2.1⟩

/-- **The output is well nested** whenever the flattened template is and the bodies of the match
    templates are (they come out of the XML parser), for all template lists, windows and hints. -/
theorem output_wellnested {σ : Type} (f start : Nat) (end_ : Option Nat) (items : List (Item σ))
    (mts : List (MT σ)) (r : List (MT σ) × List Event)
    (hm : ∀ t ∈ mts, BodyOK t.body) (hi : ∀ t, Item.reg t ∈ items → BodyOK t.body)
    (hw : WellNested (evs items)) (h : run f start end_ items mts = some r) : WellNested r.2 := by
  rw [wellNested_iff_track] at hw ⊢
  exact run_track f start end_ items mts r hm hi h [] [] hw

/-- Whatever `select(p)` extracts from well-nested content is well nested (each of the six body paths). -/
theorem select_keeps_nesting (s : Sel) (content : List Event) (h : WellNested content) :
    WellNested (select s content) := by
  rw [wellNested_iff_track]
  exact select_neutral s (neutral_of_wellNested h) []

/-- SingleStepStrategy without a positional predicate keeps no state: it is lawful. -/
theorem lawful_single (name : Option Str) (body : List BItem) (h : Hints) :
    Lawful (mkMT (.single name none) body h) := by
  intro st tg at_ u u'
  simp only [mkMT, MT.ofHints, PathSpec.step]
  split <;> rfl

/-- SimplePathStrategy pushes one stack entry per START and pops one per END: it is lawful. -/
theorem lawful_simple (frags : List (List Str)) (body : List BItem) (h : Hints) :
    Lawful (mkMT (.simple frags) body h) := by
  intro st tg at_ u u'
  simp only [mkMT, MT.ofHints, PathSpec.step, simpleStart_tail]

/-- GenericStrategy (predicate-free) is lawful in every state: with its root entry gone a START pushes nothing and
    the END pops nothing. -/
theorem lawful_generic_mt (steps : List (GAxis × GTest)) (body : List BItem) (h : Hints) :
    Lawful (mkMT (.generic steps) body h) := by
  intro st tg at_ u u'
  simp only [mkMT, MT.ofHints, PathSpec.step, genStart_tail_eq]

/-- GenericStrategy (predicate-free) pushes one position list per START and pops one per END: it is
    lawful as long as its root entry is in place (a non-empty stack, which a well-nested stream keeps). -/
theorem lawful_generic (steps : List (GAxis × GTest)) (st : PSt) (tg : QName) (at_ : AttrList) (u u' : Bool)
    (h : st.gstack ≠ []) :
    ((PathSpec.generic steps).step ((PathSpec.generic steps).step st (.start tg at_) u).1 (.end_ tg) u').1 = st :=
  lawful_generic_mt steps [] ⟨false, false, false⟩ st tg at_ u u'

/-- A positional predicate counts START events: the END does not undo it, the law fails
    (its counter is per test closure, advanced by every call). -/
theorem positional_not_lawful :
    ¬ Lawful (mkMT (.single none (some 2)) [] ⟨false, false, false⟩) := by
  intro h
  have := h {} ⟨[], ['a']⟩ [] false false
  simp [mkMT, MT.ofHints, PathSpec.step, nameTest] at this

/-! ### non-vacuity: the hypotheses are satisfiable on non-trivial inputs -/

section Examples
def S (c : Char) : Event := .start ⟨[], [c]⟩ []
def E (c : Char) : Event := .end_ ⟨[], [c]⟩
def T (c : Char) : Event := .text [c] false
def noHints : Hints := ⟨false, false, false⟩

/-- `a` → `<w>${select('*')}</w>` -/
def tWrap : MT PSt := mkMT (.single (some ['a']) none) [.ev (S 'w'), .sel .elems, .ev (E 'w')] noHints
/-- `a/b` → `<x/>` (SimplePathStrategy) -/
def tAB : MT PSt := mkMT (.simple [[['a'], ['b']]]) [.ev (S 'x'), .ev (E 'x')] noHints
/-- `b` → `${select('.')}` -/
def tId : MT PSt := mkMT (.single (some ['b']) none) [.sel .self] noHints
/-- `zz` never matches a document over a b c -/
def tNever : MT PSt := mkMT (.single (some ['z', 'z']) none) [.ev (T 'k')] noHints

/-- the bodies of `tWrap` and `tAB` are well nested (hypothesis of most theorems above) -/
theorem bodyOK_tWrap : BodyOK tWrap.body := by
  intro st; simp [tWrap, mkMT, MT.ofHints, trackB, track, S, E]
theorem bodyOK_tAB : BodyOK tAB.body := by
  intro st; simp [tAB, mkMT, MT.ofHints, trackB, track, S, E]

def doc1 : List (Item PSt) :=
  [.ev (S 'r'), .reg tAB, .reg tWrap, .ev (S 'a'), .ev (S 'b'), .ev (E 'b'), .ev (T 'u'), .ev (E 'a'),
   .ev (S 'b'), .ev (E 'b'), .ev (E 'r')]

/-- both templates fire: `a/b` inside the content window of `a`, then `a` wraps; the `b` outside `a`
    passes through (on the unrepaired code it was replaced: the `a/b` matcher never saw `</a>`) -/
example : render 30 doc1 = some [S 'r', S 'w', S 'x', E 'x', E 'w', S 'b', E 'b', E 'r'] := by decide +kernel

/-- the automaton model gives the same, also with `a` unbuffered -/
example : renderL 30 doc1 = render 30 doc1 := by decide +kernel
example : renderL 30 (doc1.map fun | .reg t => .reg { t with buffered := false } | x => x) = render 30 doc1 := by
  decide +kernel

/-- an identity template fires and leaves the stream unchanged -/
example : render 30 [.ev (S 'r'), .reg tId, .ev (S 'b'), .ev (T 'u'), .ev (E 'b'), .ev (E 'r')]
    = some [S 'r', S 'b', T 'u', E 'b', E 'r'] := by decide +kernel

/-- inserting a never-matching template in the middle changes nothing -/
example : render 30 [.ev (S 'r'), .reg tAB, .reg tNever, .reg tWrap, .ev (S 'a'), .ev (S 'b'), .ev (E 'b'),
    .ev (T 'u'), .ev (E 'a'), .ev (S 'b'), .ev (E 'b'), .ev (E 'r')] = render 30 doc1 := by decide +kernel

/-- known finding C12-root-context: templates register after the root START has passed, so the
    matcher of `root/a` never sees `<root>` and the `<a>` child of the root is not replaced
    (the XSLT-pattern reading of the path matches it) -/
theorem root_context_not_matched :
    render 30 [.ev (.start ⟨[], ['r', 'o', 'o', 't']⟩ []),
               .reg (mkMT (.simple [[['r', 'o', 'o', 't'], ['a']]]) [.ev (S 'x'), .ev (E 'x')] noHints),
               .ev (S 'a'), .ev (E 'a'), .ev (.end_ ⟨[], ['r', 'o', 'o', 't']⟩)]
      = some [.start ⟨[], ['r', 'o', 'o', 't']⟩ [], S 'a', E 'a', .end_ ⟨[], ['r', 'o', 'o', 't']⟩] := by
  decide +kernel

/-- `b` occurs once under `a`: the hypothesis of `once_hint_irrelevant` holds (one hit) and the
    hinted run gives the same output -/
def docOnce (t : MT PSt) : List (Item PSt) :=
  [.ev (S 'a'), .ev (S 'b'), .ev (E 'b'), .ev (T 'u'), .ev (E 'a'), .ev (S 'c'), .ev (E 'c')]
example : (run 30 0 none (docOnce tAB) [tAB, tWrap]).map (fun r => (hitsAt 0 r.1, r.2))
    = some (1, [S 'w', S 'x', E 'x', E 'w', S 'c', E 'c']) := by decide +kernel
example : (run 30 0 none (docOnce tAB) [onceAt tAB, tWrap]).map (·.2)
    = (run 30 0 none (docOnce tAB) [tAB, tWrap]).map (·.2) := by decide +kernel

/-- the hypotheses of `buffer_hint_irrelevant` on a document with two firing templates, one of them
    positional (`*[2]`): same output with the first template unbuffered -/
def tPos : MT PSt := mkMT (.single none (some 2)) [.ev (S 'z'), .ev (E 'z')] noHints
def docBuf : List (Item PSt) := [.ev (S 'a'), .ev (T 'u'), .ev (S 'b'), .ev (E 'b'), .ev (E 'a'), .ev (S 'c'), .ev (E 'c')]
example : LazyOK ({ tWrap with buffered := false } : MT PSt) := by
  refine ⟨bodyOK_tWrap, fun _ => ?_⟩
  · simp [OneSel, tWrap, mkMT, MT.ofHints, splitBody, NoSel]
example : Neutral (evs docBuf) := by
  intro st; simp [docBuf, evs, track, S, E, T]
example : (runL 30 .idle docBuf [{ tWrap with buffered := false }, tPos]).map (·.2.2)
    = (run 30 0 none docBuf [tWrap, tPos]).map (·.2) := by decide +kernel
example : (run 30 0 none docBuf [tWrap, tPos]).map (·.2) = some [S 'w', S 'z', E 'z', E 'w', S 'c', E 'c'] := by decide +kernel

/-- the hypotheses of `identity_body_is_identity` and `pipeline_stages` on `doc1`'s templates -/
example : OKt tWrap ∧ OKt tAB ∧ FlagFree tId ∧ IdentityBody tId := by
  exact ⟨⟨bodyOK_tWrap, fun _ _ _ _ => rfl⟩, ⟨bodyOK_tAB, fun _ _ _ _ => rfl⟩, fun _ _ _ _ => rfl, rfl⟩
def docId : List (Item PSt) :=
  [.ev (S 'a'), .ev (S 'b'), .ev (E 'b'), .ev (T 'u'), .ev (E 'a'), .ev (S 'b'), .ev (E 'b')]
example : (run 40 0 none docId (ins tId 1 [tAB, tWrap])).map (·.2) = (run 40 0 none docId [tAB, tWrap]).map (·.2) := by
  decide +kernel
example : (run 40 0 none docId [tAB, tWrap]).map (·.2) = some [S 'w', S 'x', E 'x', E 'w', S 'b', E 'b'] := by decide +kernel

/-- the specification on a small forest: `<a><b/>u</a><b/>` under `a/b → <x/>` -/
def forest1 : List Node :=
  [.elem ⟨[], ['a']⟩ [] [.elem ⟨[], ['b']⟩ [] [], .leaf (T 'u')], .elem ⟨[], ['b']⟩ [] []]
example : specList tAB {} [] forest1 = [S 'a', S 'x', E 'x', T 'u', E 'a', S 'b', E 'b'] := by decide +kernel
example : (run 30 0 (some 1) (evItems (flattenList forest1)) [tAB]).map (·.2) = some (specList tAB {} [] forest1) := by
  decide +kernel
example : StageOK tAB ∧ StageOK tWrap := by
  exact ⟨⟨rfl, rfl, lawful_simple _ _ _, fun _ _ _ _ => rfl, bodyOK_tAB⟩, ⟨rfl, rfl, lawful_single _ _ _, fun _ _ _ _ => rfl, bodyOK_tWrap⟩⟩
/-- the two stages of `[a/b → <x/>, a → <w>*</w>]` on `forest1`, spelled out -/
example : specList tWrap {} [] [.elem ⟨[], ['a']⟩ [] [.elem ⟨[], ['x']⟩ [] [], .leaf (T 'u')], .elem ⟨[], ['b']⟩ [] []]
    = [S 'w', S 'x', E 'x', E 'w', S 'b', E 'b'] := by decide +kernel
example : (run 40 0 (some 2) (evItems (flattenList forest1)) [tAB, tWrap]).map (·.2)
    = some [S 'w', S 'x', E 'x', E 'w', S 'b', E 'b'] := by decide +kernel
example : SlotAt 0 tAB ({} : PSt) [] [tAB] := ⟨tAB, rfl, Shape.refl _, rfl, rfl⟩

example : NeverFires (σ := PSt) { step := fun st _ _ => (st, false), st := {}, body := [] } := fun _ _ _ => rfl
example : BodyOK tWrap.body := bodyOK_tWrap
example : WellNested (evs doc1) := by decide +kernel
end Examples

/-! ### the real matcher: `Path(text).test(ignore_context=True)` of the C05/C17 path model

  `mkReal paths ns vs body hints` (Model/MatchReal.lean) is the entry `MatchDirective` registers: the
  closure of the path model (`pathTest … true`: strategy per location path as `Path.__init__` picks it,
  `_multi` for unions), verdict `result is True`.  The theorems above are parametric in the matcher;
  here the parameter is discharged. -/

open Genshi.Path in
/-- **The filter does not look inside a matcher.**  Two item lists and two template lists — over
    *different* matcher state types — that are related slot by slot by a simulation (`TRel`: a relation
    between the matcher states that every step on a START/END keeps, with equal verdicts; equal body
    and hints) are treated alike: both runs fail, or both succeed with the same output and related
    template lists.  For every stream, window and fuel. -/
theorem matcher_simulation {σ τ : Type} (f s : Nat) (en : Option Nat) {X : List (Item σ)} {Y : List (Item τ)}
    {A : List (MT σ)} {B : List (MT τ)} (hX : IRel X Y) (hA : LRel A B) :
    ResRel (run f s en X A) (run f s en Y B) :=
  run_rel f s en hX hA

open Genshi.Path in
/-- The real closure never reads `updateonly` — for every path, positional or not, every strategy.
    So `pipeline_stages`, `identity_body_is_identity`, `lazy_eq_eager` and `buffer_hint_irrelevant`
    (which ask `FlagFree` only) hold for lists of real templates as they stand. -/
theorem real_matcher_flagfree (paths : List LocPath) (ns : NsMap) (vs : Vars) (body : List BItem) (h : Hints)
    (force : Option Strategy) : FlagFree (mkReal paths ns vs body h force) :=
  real_flagFree ns vs paths body h force

open Genshi.Path in
/-- A real template with a well-nested body meets `OKt`, what `pipeline_stages`, `identity_body_is_identity` and the
    chain theorems ask of every template of the list. -/
theorem real_templates_okt (ns : NsMap) (vs : Vars) (d : Decl) (hb : BodyOK d.body) : OKt (d.real ns vs) :=
  ⟨hb, real_flagFree ns vs d.paths d.body d.hints d.force⟩

open Genshi.Path in
/-- **Lawful up to simulation.**  For a union of location paths without position tests (`PathsOk`) the
    real closure is simulated by a machine (`mkAbs`: per path the position machine `aStep` of C05 for
    GenericStrategy, the strategy itself for SingleStep/SimplePath; `_multi` on top) that obeys the law
    "the END of an element undoes its START" in *every* state, ignores `updateonly`, and is not moved
    by events other than START and END. -/
theorem real_matcher_lawful_abstraction (paths : List LocPath) (ns : NsMap) (vs : Vars) (body : List BItem) (h : Hints)
    (force : Option Strategy) (hok : PathsOk ns vs paths force) :
    TRel (mkReal paths ns vs body h force) (mkAbs ns vs paths body h force) ∧
    Lawful (mkAbs ns vs paths body h force) ∧ FlagFree (mkAbs ns vs paths body h force) ∧
    LeafFree (mkAbs ns vs paths body h force) :=
  ⟨real_trel ns vs paths body h force hok, abs_lawful ns vs paths body h force hok,
   abs_flagFree ns vs paths body h force, abs_leafFree ns vs paths body h force hok⟩

open Genshi.Path in
/-- **The lawful subset is static and decidable per path**: GenericStrategy — the hypotheses of C05
    (`StepsOk`: element axes only, well-formed tests, typed predicates, none of them numeric
    `Expr.numTyped`) on the pattern-mode step list; SingleStepStrategy — no numeric predicate on the
    step; SimplePathStrategy — every path it supports. -/
theorem nonpositional_paths_ok (ns : NsMap) (vs : Vars) (paths : List LocPath) (force : Option Strategy)
    (h : ∀ p ∈ paths, PatternOk ns vs force p) : PathsOk ns vs paths force :=
  pathsOk_of_patternOk ns vs paths force h

open Genshi.Path in
/-- **filter_is_chain_of_rewrites for real templates.**  A template list made of `<py:match>`
    declarations without position tests (any union of paths, any strategy), the templates of the window
    `[s, s+k)` without `once`: on every forest the filter is the chain of tree rewrites
    (`specList` of the *real* templates: an element is replaced iff the real closure answers `True` in
    the state reached along the element's ancestors), one rewrite per template, in declaration order. -/
theorem real_filter_is_chain_of_rewrites (ns : NsMap) (vs : Vars) (ds : List Decl) (hok : ∀ d ∈ ds, d.ok ns vs)
    (hb : ∀ d ∈ ds, BodyOK d.body) (k s f : Nat) (forest : List Node) (r : List (MT RSt) × List Event)
    (hns : okList forest = true)
    (hst : ∀ j d, s ≤ j → j < s + k → ds[j]? = some d → d.hints.matchOnce = false) (hlen : s + k ≤ ds.length)
    (h : run f s (some (s + k)) (evItems (flattenList forest)) (ds.map (Decl.real ns vs)) = some r) :
    Chain (ds.map (Decl.real ns vs)) s k forest r.2 :=
  real_run_is_chain ns vs ds hok hb k s f forest r hns hst hlen h

open Genshi.Path in
/-- **Exactly the elements the pattern matcher marks.**  The stage that owns declaration `d` (slot `i`;
    no `once`, no position tests) yields the forest rewritten by marks (`mkKids`): the element whose
    START is the n-th event of a top-level tree is replaced by the body iff the pattern matcher of the
    path model — `Path(text).test(ignore_context=True)` started afresh on that tree and shown every
    event (`patternMarks`, the run C05 `pattern_matches_eq_xp` is about) — reports `True` at that
    event; all other events pass.  Top-level trees are the children of the template's root after the
    declarations: the root itself is not shown to the matcher (known finding C12-root-context). -/
theorem real_template_rewrites_marked_elements (ns : NsMap) (vs : Vars) (ds : List Decl) (hok : ∀ d ∈ ds, d.ok ns vs)
    (i : Nat) (d : Decl) (hd : ds[i]? = some d) (ho : d.hints.matchOnce = false)
    (f : Nat) (forest : List Node) (r : List (MT RSt) × List Event) (hns : okList forest = true)
    (h : run f i (some (i + 1)) (evItems (flattenList forest)) (ds.map (Decl.real ns vs)) = some r) :
    r.2 = specList (d.real ns vs) (d.real ns vs).st [] forest ∧
    r.2 = (mkKids d.body (!d.hints.notRecursive) forest (forest.flatMap (patternMarks d.paths ns vs d.force))).1 :=
  real_stage_is_marks ns vs ds hok i d hd ho f forest r hns h

open Genshi.Path in
/-- **The marked elements are the XPath matches** (C05 `pattern_matches_eq_xp` in the vocabulary of the
    previous theorem).  For a path `s0/rest` without position tests and without a leading `.` under
    GenericStrategy, and a tree `top`: the marks are the truth values of the matcher's results, and the
    event of a node `x` is marked iff `descendant-or-self::s0/rest` reaches `x` from the top of the tree
    in the reference semantics (`Ref.reach`) — the XSLT-pattern reading of the path inside `top`. -/
theorem marked_elements_are_xpath_matches (s0 : Step) (rest : LocPath) (ns : NsMap) (vs : Vars)
    (hp : StepsOk ns vs (s0 :: rest)) (hnd : stripDot (s0 :: rest) = s0 :: rest)
    (tag : QName) (attrs : AttrList) (kids : List Node)
    (hcl : (Node.elem tag attrs kids).clean = true)
    (hnodes : AllNodes (NodeFor (s0 :: rest) ns vs) (.elem tag attrs kids)) (x : Ref.LNode) :
    PatternOk ns vs (some .generic) (s0 :: rest) ∧
    patternMarks [s0 :: rest] ns vs (some .generic) (.elem tag attrs kids) =
      (runTest (pathTest [s0 :: rest] true (some .generic)).1 ns vs (pathTest [s0 :: rest] true (some .generic)).2
        (Node.elem tag attrs kids).flatten).map Val.truthy ∧
    selB (runTest (pathTest [s0 :: rest] true (some .generic)).1 ns vs
            (pathTest [s0 :: rest] true (some .generic)).2 (Node.elem tag attrs kids).flatten)
         (eventLocs (.elem tag attrs kids) []) x.loc
      = Ref.reach ns (toXVars vs) (⟨.descendantOrSelf, s0.test, s0.preds⟩ :: rest)
          ⟨[], .elem tag attrs kids⟩ x := by
  have hok := patternOk_of_patternXp ns vs (some .generic) (s0 :: rest) (And.intro hp hnd)
  exact ⟨hok, patternMarks_truthy ns vs _ hok _,
    (operand_generic_pattern s0 rest ns vs hp hnd tag attrs kids hcl hnodes).sel x⟩

section RealExamples
open Genshi.Path

/-- `*[2]` as the parser delivers it -/
def pStar2 : LocPath := [⟨.child, .principal false, [.num (.dec false 2 0)]⟩]

/-- With a position test the law fails for the real closure too: the counter of SingleStepStrategy is
    one per closure and is advanced by every START the closure is shown; the END does not undo it. -/
theorem real_positional_not_lawful : ¬ Lawful (mkReal [pStar2] [] [] [] ⟨false, false, false⟩) := by
  intro h
  have h1 := h (pathTest [pStar2] true).2 ⟨[], ['a']⟩ [] false false
  have h2 := congrArg (fun st : RSt => match st with | [MState.s s] => some s.counters | _ => none) h1
  revert h2
  decide +kernel

/-- **The per-closure counting semantics, made explicit on a witness.**  `*[2]` as a match path does not
    mean "second element child of its parent" (XPath: in `<x><a/></x>` no element is a second child):
    the closure counts the STARTs it is shown, whatever their parents, so the `<a>` — the second START
    of the document below the root — is replaced.  Position tests in match paths are therefore excluded
    from the tree-rewrite theorems by the decidable hypothesis `PatternOk`. -/
theorem real_positional_counts_per_closure :
    render 30 [.ev (S 'r'), .reg (mkReal [pStar2] [] [] [.ev (T 'k')] noHints),
               .ev (S 'x'), .ev (S 'a'), .ev (E 'a'), .ev (E 'x'), .ev (E 'r')]
      = some [S 'r', S 'x', T 'k', E 'x', E 'r'] := by
  decide +kernel

/-- `a//c[@k]`: child `a`, `descendant-or-self::node()`, child `c` with an attribute predicate
    (GenericStrategy) → `<x/>` -/
def pACk : LocPath := [⟨.child, .localName false ['a'], []⟩, ⟨.descendantOrSelf, .node, []⟩,
  ⟨.child, .localName false ['c'], [.test (.localName true ['k'])]⟩]
def dACk : Decl := { paths := [pACk], body := [.ev (S 'x'), .ev (E 'x')], hints := noHints }
/-- `b` (SingleStepStrategy) → `<w>${select('*')}</w>` -/
def dB : Decl := { paths := [[⟨.child, .localName false ['b'], []⟩]], body := [.ev (S 'w'), .sel .elems, .ev (E 'w')],
                   hints := noHints }
/-- `a/b|c` — a union served by SimplePathStrategy and SingleStepStrategy -/
def dU : Decl := { paths := [[⟨.child, .localName false ['a'], []⟩, ⟨.child, .localName false ['b'], []⟩],
                             [⟨.child, .localName false ['c'], []⟩]], body := [.sel .self], hints := noHints }

theorem stepsOk_pACk : StepsOk [] [] pACk := by
  refine ⟨by decide, ?_, ?_, ?_, ?_⟩ <;> intro s hs <;> simp only [pACk, List.mem_cons, List.not_mem_nil, or_false] at hs <;>
    rcases hs with rfl | rfl | rfl <;> simp [NodeTest.elemWf, Expr.typed, Expr.numTyped, NodeTest.isAttrName, NodeTest.wf, nameOk]

/-- `<a><b><c k="1"/><c/></b></a><c k="2"/>`: only the first `<c>` is below an `<a>` and has `k` -/
def forestR : List Node :=
  [.elem ⟨[], ['a']⟩ [] [.elem ⟨[], ['b']⟩ [] [.elem ⟨[], ['c']⟩ [(⟨[], ['k']⟩, ['1'])] [], .elem ⟨[], ['c']⟩ [] []]],
   .elem ⟨[], ['c']⟩ [(⟨[], ['k']⟩, ['2'])] []]

/-- the real filter on it, templates `[a//c[@k] → <x/>, b → <w>*</w>]` -/
example : (run 60 0 (some 2) (evItems (flattenList forestR)) [dACk.real [] [], dB.real [] []]).map (·.2)
    = some [S 'a', S 'w', S 'x', E 'x', .start ⟨[], ['c']⟩ [], E 'c', E 'w', E 'a',
            .start ⟨[], ['c']⟩ [(⟨[], ['k']⟩, ['2'])], E 'c'] := by decide +kernel

/-- the marks of `a//c[@k]` on the first tree: the third event (the START of the first `<c>`) -/
example : patternMarks dACk.paths [] [] none (forestR.headD (.leaf (T 'u')))
    = [false, false, true, false, false, false, false, false] := by decide +kernel

/-- … and the rewrite by marks is what the filter's first stage yields -/
example : (mkKids dACk.body true forestR (forestR.flatMap (patternMarks dACk.paths [] [] none))).1
    = ((run 60 0 (some 1) (evItems (flattenList forestR)) [dACk.real [] [], dB.real [] []]).map (·.2)).getD [] := by
  decide +kernel

end RealExamples

/-- **`once` in the tree specification** (the property's clause "the once hint does not change the
    output when at most one element matches", stated on trees).  Take a lawful template `t` without
    the hint in slot `i` and a forest in which its matcher fires at most once — counted on the tree by
    `countList`: the elements at which the matcher answers True in the state reached along their
    ancestors, below a replaced element only when the template is recursive.  Then the stage of that
    slot *with `once="true"` set* yields the tree rewrite `specList` of the unhinted template.
    (`stage_is_spec_hits`: the ghost counter of the stage rises by exactly `countList`; then
    `once_hint_irrelevant`'s simulation on the window of the stage.) -/
theorem once_on_trees {σ : Type} (t : MT σ) (i : Nat) (hl : Lawful t) (ho : t.once = false) (hr : t.retired = false)
    (f : Nat) (ns : List Node) (M : List (MT σ)) (r : List (MT σ) × List Event) (hns : okList ns = true)
    (ht : M[i]? = some t) (h : run f i (some (i + 1)) (evItems (flattenList ns)) M = some r)
    (hfew : countList t t.st [] ns ≤ 1) :
    ∃ c', run f i (some (i + 1)) (evItems (flattenList ns)) (M.set i (onceAt t)) = some (c', specList t t.st [] ns) :=
  once_stage_is_spec t i hl ho hr f ns M r hns ht h hfew

/-- the stage replaces exactly the elements the tree specification counts -/
theorem stage_counts_matches {σ : Type} (t : MT σ) (b : σ) (i : Nat) (hl : Lawful t) (ho : t.once = false)
    (f : Nat) (ns : List Node) (anc : List Open) (M : List (MT σ)) (r : List (MT σ) × List Event) (k : Nat)
    (hns : okList ns = true) (hslot : SlotAtH i t b anc k M)
    (h : run f i (some (i + 1)) (evItems (flattenList ns)) M = some r) :
    r.2 = specList t b anc ns ∧ SlotAtH i t b anc (k + countList t b anc ns) r.1 :=
  stage_is_spec_hits t b i hl ho f ns anc M r k hns hslot h

/-- non-vacuity: `a/b` fires once in `forest1`; with `once` the stage gives the same rewrite -/
example : countList tAB {} [] forest1 = 1 := by decide +kernel
example : (run 30 0 (some 1) (evItems (flattenList forest1)) [onceAt tAB]).map (·.2) = some (specList tAB {} [] forest1) := by
  decide +kernel

/-- **A template registered later applies only from that point on.**  For a closed segment `A` of the
    stream (which may itself contain registrations), a registration of `t` and any rest `B`: the filter
    over `A · reg t · B` is the filter over `A` with the list as it stands — output and resulting list
    do not depend on `t` or `B` — followed by the filter over `B` with `t` appended to that list. -/
theorem late_registration_applies_from_there_on {σ : Type} (f s : Nat) (en : Option Nat) (A : List (Item σ)) (t : MT σ)
    (B : List (Item σ)) (M : List (MT σ)) (r : List (MT σ) × List Event) (hcl : Closed (evs A))
    (h : run f s en (A ++ .reg t :: B) M = some r) :
    ∃ r1 r2, run f s en A M = some r1 ∧ run f s en B (r1.1 ++ [t]) = some r2 ∧ r = (r2.1, r1.2 ++ r2.2) :=
  run_reg_split f s en A t B M r hcl h

/-- **lazy_eq_eager with registrations inside the stream** (`Segmented`: the registrations sit between
    closed, well-nested, registration-free segments — `py:match` declarations that are children of the
    root, before or between the content).  The automaton honouring `buffer="false"` yields what the
    eager filter yields, for templates registered before the stream and inside it alike. -/
theorem lazy_eq_eager_late {σ : Type} (items : List (Item σ)) (hseg : Segmented items) (f : Nat) (mts : List (MT σ))
    (r : List (MT σ) × List Event) (hok : ∀ t ∈ mts, LazyOK t) (hreg : ∀ t, Item.reg t ∈ items → LazyOK t)
    (h : run f 0 none items mts = some r) (F : Nat) (hF : f ≤ F) :
    runL F .idle items mts = some (.idle, r.1, r.2) :=
  lazy_eq_eager_segmented items hseg f mts r hok hreg h F hF

/-- non-vacuity: a declaration after some content (`<a/>` passes, the `<a/>` after the declaration is wrapped) -/
def docLate : List (Item PSt) := [.ev (S 'a'), .ev (E 'a'), .reg tWrap, .ev (S 'a'), .ev (S 'b'), .ev (E 'b'), .ev (E 'a')]
example : Segmented docLate := by
  refine Segmented.cons [.ev (S 'a'), .ev (E 'a')] tWrap _ ?_ ?_ ?_ (Segmented.last _ ?_ ?_)
  · intro t ht; simp at ht
  · intro st; simp [evs, track, S, E]
  · simp [Closed, evs, lvl, isStart, isEnd, S, E]
  · intro t ht; simp at ht
  · intro st; simp [evs, track, S, E]
example : (run 30 0 none docLate []).map (·.2) = some [S 'a', E 'a', S 'w', S 'b', E 'b', E 'w'] := by decide +kernel

/-- **buffer_hint_irrelevant with registrations inside the stream** (`Segmented`: `py:match`
    declarations between closed segments of the template).  Take two streams that differ only in the
    `buffer` hints of the templates they register (`items'`: any assignment of the hint) and two initial
    template lists that differ only in their `buffer` hints; unbuffered bodies call `select()` at most
    once.  The automaton that honours the hints of `items'`/`mts'` yields, given enough fuel, exactly the
    output of the eager filter (every content buffered) over `items`/`mts`, and leaves the same template
    list up to the hints.  Paths are unrestricted (positional predicates included). -/
theorem buffer_hint_irrelevant_late {σ : Type} (items items' : List (Item σ)) (hseg : Segmented items)
    (hitems : items'.map Item.bufOn = items.map Item.bufOn) (f : Nat) (mts mts' : List (MT σ))
    (r : List (MT σ) × List Event) (hsame : mts'.map bufOn = mts.map bufOn)
    (hok : ∀ t ∈ mts', LazyOK t) (hreg : ∀ t, Item.reg t ∈ items' → LazyOK t)
    (h : run f 0 none items mts = some r) :
    ∃ F0 m', m'.map bufOn = r.1.map bufOn ∧ ∀ F, F0 ≤ F → runL F .idle items' mts' = some (.idle, m', r.2) :=
  buffer_hint_irrelevant_seg items items' hseg hitems f mts mts' r hsame hok hreg h

/-- non-vacuity: `docLate` with the late declaration unbuffered (`buffer="false"`, one `select`) -/
def docLateU : List (Item PSt) :=
  [.ev (S 'a'), .ev (E 'a'), .reg { tWrap with buffered := false }, .ev (S 'a'), .ev (S 'b'), .ev (E 'b'), .ev (E 'a')]
example : docLateU.map Item.bufOn = docLate.map Item.bufOn := rfl
example : (runL 30 .idle docLateU []).map (·.2.2) = some [S 'a', E 'a', S 'w', S 'b', E 'b', E 'w'] := by decide +kernel

open Genshi.Path in
/-- **select() returns what the path model's `Path.select` returns** for the six body paths, on every
    START/END/TEXT stream that closes no more than it opened — in particular on the content
    `START · … · END` of a matched element.  By C05 `select_eq_xp_step` (single steps) and
    `select_eq_xp_union` that selection is the XPath node set of the path with the matched element as
    context node (`select_returns_parts` spells it out: the element itself / the children the node test accepts). -/
theorem select_is_path_select (s : Sel) (es : List Event) (k : Nat) (hset : ∀ e ∈ es, isSET e = true)
    (hl : lvl 0 es = some k) :
    (select s es).map Path.Item.ev = Path.select s.paths [] [] es :=
  select_eq_path_select s es k hset hl

example : (select .elems [S 'a', S 'b', E 'b', T 'u', E 'a']).map Path.Item.ev
    = Path.select (Sel.paths .elems) [] [] [S 'a', S 'b', E 'b', T 'u', E 'a'] := by decide +kernel

open Genshi.Path in
/-- **`once` on trees for real templates**: declarations without position tests, the declaration of slot
    `i` without the hint; on a forest in which its real matcher fires at most once (`countList` of the
    real template) the stage with `once="true"` set yields the tree rewrite of the unhinted template. -/
theorem real_once_on_trees (ns : NsMap) (vs : Vars) (ds : List Decl) (hok : ∀ d ∈ ds, d.ok ns vs)
    (i : Nat) (d : Decl) (hd : ds[i]? = some d) (ho : d.hints.matchOnce = false)
    (f : Nat) (forest : List Node) (r : List (MT RSt) × List Event) (hns : okList forest = true)
    (h : run f i (some (i + 1)) (evItems (flattenList forest)) (ds.map (Decl.real ns vs)) = some r)
    (hfew : countList (d.real ns vs) (d.real ns vs).st [] forest ≤ 1) :
    ∃ c', run f i (some (i + 1)) (evItems (flattenList forest)) ((ds.map (Decl.real ns vs)).set i (onceAt (d.real ns vs)))
      = some (c', specList (d.real ns vs) (d.real ns vs).st [] forest) :=
  real_once_stage_is_spec ns vs ds hok i d hd ho f forest r hns h hfew

/-- non-vacuity: `a//c[@k]` fires once in `forestR` -/
example : countList (dACk.real [] []) (dACk.real [] []).st [] forestR = 1 := by decide +kernel

open Genshi.Path in
/-- **The two forms of the specification are one function.**  `xpForest ∘ patternSel` — replace the
    element at LOCATION `loc` of a top-level tree iff the XPath reference semantics says that some
    location path `s0/rest` of the match path, read as the pattern `descendant-or-self::s0/rest` from the
    top of that tree, reaches it (`Ref.reach`) — is `mkKids ∘ patternMarks` — replace the element whose
    START is the n-th EVENT iff the real matcher, run over the tree, answers `True` there.  For every
    union of location paths under the strategy `Path.__init__` picks for each (or a forced one) that
    satisfies the static criterion `PatternXp` (no position tests, no attribute axis, no leading `.`),
    every body, both values of `recursive`, and every forest of leaves and clean element trees. -/
theorem xpath_spec_eq_marks_spec (ns : NsMap) (vs : Vars) (force : Option Strategy) (paths : List LocPath)
    (hp : ∀ p ∈ paths, PatternXp ns vs force p) (body : List BItem) (recursive : Bool) (forest : List Node)
    (ht : ∀ top ∈ forest, TreeFor ns vs paths top) :
    xpForest (patternSel paths ns (toXVars vs)) body recursive forest
      = (mkKids body recursive forest (forest.flatMap (patternMarks paths ns vs force))).1 :=
  (xpForest_eq_mkKids ns vs force paths body recursive forest
    (fun top hm => topOk_of_static ns vs force paths hp top (ht top hm))).symm

open Genshi.Path in
/-- **marked_elements_are_xpath_matches for the default strategy of every path** (and unions).  On a clean
    element tree the verdicts of `Path(text).test(ignore_context=True)` — SingleStepStrategy,
    SimplePathStrategy or GenericStrategy per location path as `Path.__init__` chooses, `_multi` on top —
    are exactly the marks of the XPath pattern relation: the event of the node at `loc` is answered `True`
    iff `descendant-or-self::s0/rest` reaches `loc` for one of the location paths; END events are never
    marked.  (C05 `pattern_matches_eq_xp`, `pattern_matches_eq_xp_fragments`; C17 `single_eq_generic` in
    pattern mode; C05 `operands_run` for the union.) -/
theorem marks_are_xpath_matches_every_strategy (ns : NsMap) (vs : Vars) (force : Option Strategy)
    (paths : List LocPath) (hp : ∀ p ∈ paths, PatternXp ns vs force p)
    (tag : QName) (attrs : AttrList) (kids : List Node) (ht : TreeFor ns vs paths (.elem tag attrs kids)) :
    patternMarks paths ns vs force (.elem tag attrs kids)
      = markB (patternSel paths ns (toXVars vs) (.elem tag attrs kids)) (eventLocs (.elem tag attrs kids) []) :=
  patternMarks_eq_markB ns vs force _ paths
    (fun p hpm => patOperand_of_static ns vs force p (hp p hpm) tag attrs kids ht.1 (ht.2 p hpm))

open Genshi.Path in
/-- the XPath criterion lies inside the position-test-free subset: `PatternXp` gives `Decl.ok` -/
theorem xpath_criterion_is_nonpositional (ns : NsMap) (vs : Vars) (d : Decl)
    (hp : ∀ p ∈ d.paths, PatternXp ns vs d.force p) : d.ok ns vs :=
  pathsOk_of_patternOk ns vs d.paths d.force (fun p hpm => patternOk_of_patternXp ns vs d.force p (hp p hpm))

open Genshi.Path in
/-- **A match template replaces exactly the elements its path matches in the XPath sense.**  The stage of
    the filter that owns declaration `d` (slot `i`, no `once`; the other declarations free of position
    tests), on a forest of leaves and clean element trees: its output is the forest in which precisely the
    elements reached by the XSLT-pattern reading of `d`'s path (`patternSel`: `Ref.reach` of
    `descendant-or-self::s0/rest` inside the element's top-level tree, for one of the location paths of
    the union) are replaced by the body — outermost first, inside a replaced element only when the
    template is recursive — and everything else passes unchanged.  For the strategy `Path.__init__` picks
    for every location path (SingleStep, SimplePath, Generic) as well as a forced one. -/
theorem real_template_rewrites_xpath_matches (ns : NsMap) (vs : Vars) (ds : List Decl) (hok : ∀ d ∈ ds, d.ok ns vs)
    (i : Nat) (d : Decl) (hd : ds[i]? = some d) (ho : d.hints.matchOnce = false)
    (hp : ∀ p ∈ d.paths, PatternXp ns vs d.force p)
    (f : Nat) (forest : List Node) (r : List (MT RSt) × List Event) (hns : okList forest = true)
    (ht : ∀ top ∈ forest, TreeFor ns vs d.paths top)
    (h : run f i (some (i + 1)) (evItems (flattenList forest)) (ds.map (Decl.real ns vs)) = some r) :
    r.2 = xpForest (patternSel d.paths ns (toXVars vs)) d.body (!d.hints.notRecursive) forest := by
  rw [(real_stage_is_marks ns vs ds hok i d hd ho f forest r hns h).2]
  exact (xpath_spec_eq_marks_spec ns vs d.force d.paths hp d.body _ forest ht).symm

section XpExamples
open Genshi.Path

/-- `a/b` as SimplePathStrategy sees it: one bound fragment -/
def fragsAB : List Frag := [⟨[.localName false ['a'], .localName false ['b']], [0, 0], none, false⟩]

theorem patternXp_dU : ∀ p ∈ dU.paths, PatternXp [] [] dU.force p := by
  intro p hp
  simp only [dU, List.mem_cons, List.not_mem_nil, or_false] at hp
  rcases hp with rfl | rfl
  · have hch : stratOf none [⟨.child, .localName false ['a'], []⟩, ⟨.child, .localName false ['b'], []⟩] = .simple := by
      decide +kernel
    unfold PatternXp
    rw [show dU.force = none from rfl, hch]
    exact ⟨fragsAB, Frags.fragsOk_of_B _ (by decide), by decide, by decide⟩
  · have hch : stratOf none [⟨.child, .localName false ['c'], []⟩] = .single := by decide +kernel
    unfold PatternXp
    rw [show dU.force = none from rfl, hch]
    refine ⟨_, rfl, by simp, ?_, ?_, ?_, ?_⟩ <;> intro s hs <;> simp only [List.mem_cons, List.not_mem_nil, or_false] at hs <;>
      subst hs <;> simp [NodeTest.elemWf]

theorem patternXp_dACk : ∀ p ∈ dACk.paths, PatternXp [] [] dACk.force p := by
  intro p hp
  simp only [dACk, List.mem_cons, List.not_mem_nil, or_false] at hp
  subst hp
  have hch : stratOf none pACk = .generic := by decide +kernel
  unfold PatternXp
  rw [show dACk.force = none from rfl, hch]
  exact ⟨stepsOk_pACk, by decide⟩

example : dACk.ok [] [] := xpath_criterion_is_nonpositional [] [] dACk patternXp_dACk

example : dB.ok [] [] ∧ dU.ok [] [] := by
  refine ⟨pathsOk_of_patternOk _ _ _ _ fun p hp => ?_, xpath_criterion_is_nonpositional [] [] dU patternXp_dU⟩
  simp only [dB, List.mem_cons, List.not_mem_nil, or_false] at hp
  subst hp
  have hch : stratOf none [⟨.child, .localName false ['b'], []⟩] = .single := by decide +kernel
  show PatternOkS [] [] (stratOf none [⟨.child, .localName false ['b'], []⟩]) _
  rw [hch]
  intro s0 hs q hq
  simp [sSteps] at hs; subst hs; simp at hq

/-- the trees of `forestR` are clean, and `@k` can be evaluated on every node -/
theorem treeFor_forestR : ∀ top ∈ forestR, TreeFor [] [] dACk.paths top := by
  intro top ht
  simp only [forestR, List.mem_cons, List.not_mem_nil, or_false] at ht
  rcases ht with rfl | rfl <;> refine ⟨by decide, ?_⟩ <;> intro p hp <;>
    simp only [dACk, List.mem_cons, List.not_mem_nil, or_false] at hp <;> subst hp <;>
    simp only [AllNodes, AllList, NodeFor, nodeOk, tagsOk, attrsOk, qnOk, pACk, Expr.absentFree, nodeEvent, List.map_nil,
      List.map_cons, List.nodup_nil, List.nodup_cons, List.not_mem_nil, List.mem_cons, forall_eq_or_imp, forall_eq,
      false_implies, implies_true, not_false_eq_true, or_false, and_self, and_true, true_and, and_self_right] <;> decide

/-- the location form on `forestR`: the first `<c>` (inside `<a>`, with `k`) is replaced -/
example : xpForest (patternSel dACk.paths [] (toXVars [])) dACk.body true forestR
    = [S 'a', S 'b', S 'x', E 'x', .start ⟨[], ['c']⟩ [], E 'c', E 'b', E 'a',
       .start ⟨[], ['c']⟩ [(⟨[], ['k']⟩, ['2'])], E 'c'] := by decide +kernel

/-- … which is what `xpath_spec_eq_marks_spec` says the mark form gives -/
example : xpForest (patternSel dACk.paths [] (toXVars [])) dACk.body true forestR
    = (mkKids dACk.body true forestR (forestR.flatMap (patternMarks dACk.paths [] [] none))).1 :=
  xpath_spec_eq_marks_spec [] [] none dACk.paths patternXp_dACk dACk.body true forestR treeFor_forestR

/-- the union `a/b|c` (SimplePathStrategy | SingleStepStrategy) marks `<b>` under `<a>` and both `<c>` -/
example : patternMarks dU.paths [] [] none (forestR.headD (.leaf (T 'u')))
    = [false, true, true, false, true, false, false, false] := by decide +kernel

end XpExamples

/-- **`once="true"` replaces the first match in document order — and only that** (any number of matching
    elements).  The stage of a lawful template with the hint (slot `i`, live, in sync with the open
    ancestors `anc`), on every forest: the output is `onceList` — the first element, in document order, at
    which the matcher fires in the state reached along its ancestors is replaced by the body instantiated
    with START · its content as it stands · END (the template is retired before the content is matched,
    so nothing inside is replaced, whatever `recursive` says); every event before, inside and after it
    passes unchanged.  Afterwards the slot is retired if an element matched, and otherwise back in the
    state it had.  (With at most one match the output is also `specList` of the template without the hint:
    `once_on_trees`.) -/
theorem once_replaces_first_match {σ : Type} (t : MT σ) (b : σ) (i : Nat) (hl : Lawful t) (ho : t.once = true)
    (f : Nat) (ns : List Node) (anc : List Open) (M : List (MT σ)) (r : List (MT σ) × List Event)
    (hns : okList ns = true) (hslot : SlotAt i t b anc M)
    (h : run f i (some (i + 1)) (evItems (flattenList ns)) M = some r) :
    r.2 = (onceList t b anc ns).1 ∧
      (if (onceList t b anc ns).2 then RetAt i r.1 else SlotAt i t b anc r.1) :=
  once_stage_is_onceList t b i hl ho f ns anc M r hns hslot h

section OnceExamples
/-- `b` → `<x/>`, once -/
def tBonce : MT PSt := mkMT (.single (some ['b']) none) [.ev (S 'x'), .ev (E 'x')] ⟨false, true, false⟩
/-- `<a><c/><b><b/></b></a><b/>`: three elements match `b` -/
def forestB : List Node :=
  [.elem ⟨[], ['a']⟩ [] [.elem ⟨[], ['c']⟩ [] [], .elem ⟨[], ['b']⟩ [] [.elem ⟨[], ['b']⟩ [] []]], .elem ⟨[], ['b']⟩ [] []]
example : countList tBonce {} [] forestB = 3 := by decide +kernel
/-- only the first `<b>` (document order) is replaced -/
example : onceList tBonce {} [] forestB = ([S 'a', S 'c', E 'c', S 'x', E 'x', E 'a', S 'b', E 'b'], true) := by decide +kernel
example : (run 30 0 (some 1) (evItems (flattenList forestB)) [tBonce]).map (·.2) = some (onceList tBonce {} [] forestB).1 := by
  decide +kernel
example : SlotAt 0 tBonce ({} : PSt) [] [tBonce] := ⟨tBonce, rfl, Shape.refl _, rfl, rfl⟩
end OnceExamples

open Genshi.Path in
/-- **The same for real templates** (`<py:match path=… once="true">`, paths without position tests, any
    union, any strategy): the stage yields the forest with the first element — document order — at which
    `Path(text).test(ignore_context=True)` answers `True` replaced by the body, nothing else. -/
theorem real_once_replaces_first_match (ns : NsMap) (vs : Vars) (ds : List Decl) (hok : ∀ d ∈ ds, d.ok ns vs)
    (i : Nat) (d : Decl) (hd : ds[i]? = some d) (ho : d.hints.matchOnce = true)
    (f : Nat) (forest : List Node) (r : List (MT RSt) × List Event) (hns : okList forest = true)
    (h : run f i (some (i + 1)) (evItems (flattenList forest)) (ds.map (Decl.real ns vs)) = some r) :
    r.2 = (onceList (d.real ns vs) (d.real ns vs).st [] forest).1 :=
  real_once_stage_is_onceList ns vs ds hok i d hd ho f forest r hns h

/-- non-vacuity: `a//c[@k]` with `once` on `forestR` doubled — two matches, the first one replaced -/
example : (onceList ({ dACk with hints := ⟨false, true, false⟩ : Decl }.real [] [])
      ({ dACk with hints := ⟨false, true, false⟩ : Decl }.real [] []).st [] (forestR ++ forestR)).1
    = ((run 90 0 (some 1) (evItems (flattenList (forestR ++ forestR)))
        [{ dACk with hints := ⟨false, true, false⟩ : Decl }.real [] []]).map (·.2)).getD [] := by decide +kernel

open Genshi.Path in
/-- **`once="true"` replaces the first XPath match in document order.**  The stage that owns a declaration
    `d` with the hint (paths under the static criterion `PatternXp`, the other declarations free of position
    tests), on a forest of leaves and clean element trees: the output is `xpOnceForest (patternSel …)` — the
    first element, in document order, that the XSLT-pattern reading of `d`'s path reaches (`Ref.reach` of
    `descendant-or-self::s0/rest` inside its top-level tree, for one of the location paths) is replaced by
    the body, its content as it stands; everything else passes unchanged. -/
theorem real_once_replaces_first_xpath_match (ns : NsMap) (vs : Vars) (ds : List Decl) (hok : ∀ d ∈ ds, d.ok ns vs)
    (i : Nat) (d : Decl) (hd : ds[i]? = some d) (ho : d.hints.matchOnce = true)
    (hp : ∀ p ∈ d.paths, PatternXp ns vs d.force p)
    (f : Nat) (forest : List Node) (r : List (MT RSt) × List Event) (hns : okList forest = true)
    (ht : ∀ top ∈ forest, TreeFor ns vs d.paths top)
    (h : run f i (some (i + 1)) (evItems (flattenList forest)) (ds.map (Decl.real ns vs)) = some r) :
    r.2 = (xpOnceForest (patternSel d.paths ns (toXVars vs)) d.body forest).1 :=
  real_once_stage_is_xpOnce ns vs ds hok i d hd ho hp f forest r hns ht h

open Genshi.Path in
/-- non-vacuity: `a//c[@k]` with `once` on `forestR ++ forestR` (two XPath matches): the first is replaced -/
example : xpOnceForest (patternSel dACk.paths [] (toXVars [])) dACk.body (forestR ++ forestR)
    = ([S 'a', S 'b', S 'x', E 'x', .start ⟨[], ['c']⟩ [], E 'c', E 'b', E 'a',
        .start ⟨[], ['c']⟩ [(⟨[], ['k']⟩, ['2'])], E 'c'] ++ flattenList forestR, true) := by decide +kernel

/-- **filter_is_chain_of_rewrites, `once` templates included.**  For every forest and every template list
    whose templates of the window `[s, s+k)` are live, lawful, do not read `updateonly` and have
    well-nested bodies — with or without `once` —: the filter's output is obtained by rewriting the whole
    document with the first template, re-reading the result as a forest, rewriting it with the second, and
    so on (`ChainO`), where the rewrite of a template is `stageOut`: `specList` (every match replaced)
    without the hint, `onceList` (the first match in document order replaced) with it. -/
theorem filter_is_chain_of_rewrites_with_once {σ : Type} (k s f : Nat) (ns : List Node) (M : List (MT σ))
    (r : List (MT σ) × List Event) (hns : okList ns = true)
    (hst : ∀ j t, s ≤ j → j < s + k → M[j]? = some t → StageOKO t) (hlen : s + k ≤ M.length)
    (hok : ∀ t ∈ M, OKt t) (h : run f s (some (s + k)) (evItems (flattenList ns)) M = some r) :
    ChainO M s k ns r.2 :=
  run_is_chainO k s f ns M r hns hst hlen hok h

open Genshi.Path in
/-- **The same for real templates**: any list of `<py:match>` declarations without position tests (any
    union, any strategy, any hints): the filter over the window `[s, s+k)` is the chain of the tree
    rewrites of the declarations in declaration order, `once` declarations rewriting their first match. -/
theorem real_filter_is_chain_of_rewrites_with_once (ns : NsMap) (vs : Vars) (ds : List Decl)
    (hok : ∀ d ∈ ds, d.ok ns vs) (hb : ∀ d ∈ ds, BodyOK d.body) (k s f : Nat) (forest : List Node)
    (r : List (MT RSt) × List Event) (hns : okList forest = true) (hlen : s + k ≤ ds.length)
    (h : run f s (some (s + k)) (evItems (flattenList forest)) (ds.map (Decl.real ns vs)) = some r) :
    ChainO (ds.map (Decl.real ns vs)) s k forest r.2 :=
  real_run_is_chainO ns vs ds hok hb k s f forest r hns hlen h

section ChainOnceExamples
/-- `[b → <x/> once, a → <w>*</w>]` on `forestB`: the first `<b>` becomes `<x/>`, then `<a>` is wrapped -/
example : (run 40 0 (some 2) (evItems (flattenList forestB)) [tBonce, tWrap]).map (·.2)
    = some [S 'w', S 'c', E 'c', S 'x', E 'x', E 'w', S 'b', E 'b'] := by decide +kernel
example : stageOut tBonce forestB = [S 'a', S 'c', E 'c', S 'x', E 'x', E 'a', S 'b', E 'b'] := by decide +kernel
example : StageOKO tBonce :=
  ⟨rfl, lawful_single _ _ _, fun _ _ _ _ => rfl, bodyOK_tAB⟩
end ChainOnceExamples

section UnionAttr
open Genshi.Path
/-- `b/@n` and `b` as the parser delivers them -/
def pBn : LocPath := [⟨.child, .localName false ['b'], []⟩, ⟨.attribute, .localName true ['n'], []⟩]
def pBonly : LocPath := [⟨.child, .localName false ['b'], []⟩]
example : parse "b/@n|b".toList = .ok [pBn, pBonly] := by rw [String.toList_ofList]; decide +kernel

/-- **Witness of the known finding C12-union-attribute-operand.**  The union dispatcher `_multi` reports
    one operand per event — the first result that is not `None` —, and `_match` fires on `True` only.  On
    `<b n="1"/>` the operand `b/@n` answers an `Attrs` value, which hides the `True` of the operand `b`:
    with `path="b/@n|b"` the element is NOT replaced although the path matches it (second conjunct: with
    the operands in the other order it is).  So the tree-rewrite-by-XPath theorems exclude the attribute
    axis (`PatternXp`, `StepsOk.na`); the same root as C05-union-attribute-and-owner. -/
theorem union_attribute_operand_masks_match :
    render 30 [.ev (S 'r'), .reg (mkReal [pBn, pBonly] [] [] [.ev (T 'k')] noHints),
               .ev (.start ⟨[], ['b']⟩ [(⟨[], ['n']⟩, ['1'])]), .ev (E 'b'), .ev (E 'r')]
      = some [S 'r', .start ⟨[], ['b']⟩ [(⟨[], ['n']⟩, ['1'])], E 'b', E 'r'] ∧
    render 30 [.ev (S 'r'), .reg (mkReal [pBonly, pBn] [] [] [.ev (T 'k')] noHints),
               .ev (.start ⟨[], ['b']⟩ [(⟨[], ['n']⟩, ['1'])]), .ev (E 'b'), .ev (E 'r')]
      = some [S 'r', T 'k', E 'r'] := by
  constructor <;> decide +kernel
end UnionAttr

end Genshi.Props.C12
