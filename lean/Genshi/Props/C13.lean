/-
  C13 — Embedded Python code is regenerated faithfully or rejected, never silently altered.

  Model: `Genshi.Py.gen` (= `ASTCodeGenerator`, token level; `Model/PyGen.lean`), the
  specification-side reader `Genshi.Py.pyParse` (`Model/PyParse.lean`).  Property theorems only;
  the lemmas are in `Genshi/Lemmas/PyParse*.lean`, `PyGen*.lean`, `PyStmt*.lean`, `PyLeaves*.lean`, `PyLayout*.lean`.
  Hypotheses of the statements: `WF` / `Supported`, `WFS` / `WFSL` (`Lemmas/PySupported.lean`;
  all four decidable, `Lemmas/PyStmtDecide.lean`: the examples are shown supported by evaluation),
  `rejects` / `rejectsB` (`Lemmas/PyGenOk.lean`), `okModule` (`Model/PyScope.lean`), `noLookupB`
  (`Lemmas/PyStmtUnxf.lean`), `leafOK` / `leafOKB` (`Model/PyLeaves.lean`), `lineOKb` (`Lemmas/PyLayout.lean`), `textOKB`
  (`Lemmas/PyLayoutLines.lean`), `charsOKB` (`Lemmas/PyLayoutText.lean`).

  OBLIGATIONS (checked by the harness: every name is a theorem of this file):
    parse_gen gen_injective supported_accepted unsupported_rejected no_field_dropped
    grammar_facts tables_agree operators_parenthesised parse_gen_needs_support
    int_attribute_rejected dict_unpack_rejected type_params_dropped_witness
    parseS_genS genS_injective global_rejected handler_name_rejected
    stmt_rewrites_exactly_globals stmt_rewritten_eq_freeGlobals stmt_rewriting_invertible
    stmt_bound_names_are_pythons class_body_rebinding_witness stmt_scopes_example
    stmt_xform_supported stmt_pipeline_roundtrip stmt_pipeline_faithful
    leaves_in_order leaves_in_order_supported leavesS_in_order leavesS_in_order_supported
    leaves_in_order_after_rewriting leaves_need_domain
    writer_is_lines code_is_rendered_lines indentation_read_back try_blank_line_example
    unsupported_stmt_rejected py312_rejected py312_supported
    char_lines_match_token_lines indentation_matches_token_lines indentation_read_back_supported
    indentation_matches_token_lines_supported
-/
import Genshi.Lemmas.PyParseS5
import Genshi.Lemmas.PyStmtSpec
import Genshi.Lemmas.PyStmtUnxf
import Genshi.Lemmas.PyStmtWF
import Genshi.Lemmas.PyStmtDecide
import Genshi.Lemmas.PyLeavesWF
import Genshi.Lemmas.PyLayout
import Genshi.Lemmas.PyGenOk
import Genshi.Lemmas.PyLayoutLines
import Genshi.Lemmas.PyLayoutText
import Genshi.Lemmas.PyLayoutAgree
namespace Genshi.Props.C13
open Genshi.Py Genshi.Gen

/-- **Faithful regeneration (expressions).**  For every supported expression tree — of any
    size and nesting — reading the regenerated tokens back gives exactly the tree the generator
    was given: no operator grouping, operand, argument, keyword, parameter, clause, slice part or
    literal is lost or changed. -/
theorem parse_gen (e : PyExpr) (h : Supported e) : pyParse (gen e) = some e :=
  pyParse_gen e h

/-- Regeneration is injective on supported trees: two different programs never get the same
    regenerated source. -/
theorem gen_injective (e₁ e₂ : PyExpr) (h₁ : Supported e₁) (h₂ : Supported e₂) (h : gen e₁ = gen e₂) : e₁ = e₂ := by
  have a := parse_gen e₁ h₁
  have b := parse_gen e₂ h₂
  rw [h, b] at a
  exact (Option.some.inj a).symm

/-- **Supported programs are accepted** (the generator does not raise) and regenerate
    faithfully: `genE` is defined and parses back to the tree. -/
theorem supported_accepted (e : PyExpr) (h : Supported e) : ∃ toks, genE e = some toks ∧ pyParse toks = some e :=
  ⟨gen e, genE_supported h.1, parse_gen e h⟩

/-- **Unsupported constructs are rejected, not altered.**  If anywhere in the tree there is a node
    class without a `visit_*` method in the code under test, or an operator that is missing from
    the generator's operator table, the generator raises (`genE = none`): it never produces
    different tokens for such a tree. -/
theorem unsupported_rejected (e : PyExpr) (h : rejects e = true) : genE e = none :=
  genE_rejects h

/-- **No field is dropped.**  Every node of a supported tree (with all its fields: operands,
    parameters with their defaults, keywords, comprehension clauses and conditions, slice parts,
    literals) is present again in what the regenerated source parses to. -/
theorem no_field_dropped (e : PyExpr) (h : Supported e) : (pyParse (gen e)).map subterms = some (subterms e) :=
  congrArg (Option.map subterms) (parse_gen e h)

/-- the grammar facts the parser hard-codes, as probed on the running CPython -/
theorem grammar_facts :
    Astgrammar.powRightAssoc = true ∧ Astgrammar.powTighterThanUnaryLeft = true ∧ Astgrammar.powRightOperandUnary = true
    ∧ Astgrammar.unaryTighterThanBin = true ∧ Astgrammar.powTighterThanBin = true ∧ Astgrammar.binTighterThanCompare = true
    ∧ Astgrammar.compareChains = true ∧ Astgrammar.notLooserThanCompare = true ∧ Astgrammar.notTighterThanAnd = true
    ∧ Astgrammar.andTighterThanOr = true ∧ Astgrammar.boolOpsFlatten = true ∧ Astgrammar.ifExpLoosest = true
    ∧ Astgrammar.ifExpRightNested = true ∧ Astgrammar.lambdaBodyExtends = true := by decide

/-- the operator tables of the generator agree with the grammar of the running CPython: every
    class is written as the text that CPython reads back as that class -/
theorem tables_agree :
    (∀ p ∈ AstGen.binaryOperators,
      symToks p.2 = [Tok.op p.2] ∧ stopsTrailer [Tok.op p.2] = true ∧
      ((p.2 = ['*', '*'] ∧ p.1 = cs!"Pow") ∨
       (p.2 ≠ ['*', '*'] ∧ (binLevel? p.2 Astgrammar.binLevels).map (·.1) = some p.1)))
    ∧ (∀ p ∈ AstGen.unaryOperators,
      (p.1 = cs!"Not" ∧ symToks p.2 = [Tok.name cs!"not"]) ∨
      (p.1 ≠ cs!"Not" ∧ symToks p.2 = [Tok.op p.2] ∧ unarySym? p.2 Astgrammar.unaryOps = some p.1))
    ∧ (opToks AstGen.boolOperators cs!"And" = [kw cs!"and"] ∧ opToks AstGen.boolOperators cs!"Or" = [kw cs!"or"])
    ∧ (∀ p ∈ AstGen.comparisonOperators, cmpFind (splitBlank p.2) Astgrammar.cmpOps = some p.1) :=
  ⟨binTable_ok, unTable_ok, boolTable_ok, cmp_words_ok⟩

/-- every operator-like visitor of the code under test parenthesises what it writes (the
    hypothesis without which `parse_gen` is false: `(-2) ** 2`, `(not a) == b`, `(yield y) + 1`) -/
theorem operators_parenthesised :
    parenthesised cs!"BoolOp" = true ∧ parenthesised cs!"BinOp" = true ∧ parenthesised cs!"UnaryOp" = true
    ∧ parenthesised cs!"Lambda" = true ∧ parenthesised cs!"IfExp" = true ∧ parenthesised cs!"Yield" = true
    ∧ parenthesised cs!"Compare" = true := parens_all

def two : PyExpr := .const ⟨.int, ['2']⟩
/-- `(-2) ** 2` -/
def exUnaryPow : PyExpr := .binOp (.unaryOp cs!"USub" two) cs!"Pow" two
/-- `f(a, *b, k=(not x) == y)[1:]` -/
def exCall : PyExpr :=
  .subscript
    (.call (.name ['f']) [.name ['a'], .starred (.name ['b'])]
      [.keyword (some ['k']) (.compare (.unaryOp cs!"Not" (.name ['x'])) [.cmpRhs cs!"Eq" (.name ['y'])])])
    (.slice (some (.const ⟨.int, ['1']⟩)) none none)
/-- `lambda p, /, q=2, *r, s, **t: [i for i in q if i]` -/
def exLambda : PyExpr :=
  .lambda [.param ['p'] none none] [.param ['q'] none (some two)] (some (.param ['r'] none none))
    [.param ['s'] none none] (some (.param ['t'] none none))
    (.listComp (.name ['i']) [.comp (.name ['i']) (.name ['q']) [.name ['i']] false])

theorem exUnaryPow_supported : Supported exUnaryPow := by decide +kernel

example : Supported exUnaryPow := exUnaryPow_supported
example : pyParse (gen exUnaryPow) = some exUnaryPow := parse_gen _ exUnaryPow_supported
theorem exCall_supported : Supported exCall := by decide +kernel
theorem exLambda_supported : Supported exLambda := by decide +kernel

example : pyParse (gen exCall) = some exCall := parse_gen _ exCall_supported
example : pyParse (gen exLambda) = some exLambda := parse_gen _ exLambda_supported
example : genE (.binOp (.name ['a']) cs!"MatMult" (.name ['b'])) = none :=
  unsupported_rejected _ (by decide +kernel)
example : genE (.list [.unsupported cs!"Set"]) = none := unsupported_rejected _ (by decide +kernel)

/-- Outside the hypothesis (an attribute of an integer literal, `(1).real`): the regenerated
    text `1.real` is not Python — the program is *rejected*, not altered. -/
theorem int_attribute_rejected : pyParse (gen (.attribute (.const ⟨.int, ['1']⟩) cs!"real")) = none := by decide +kernel

/-- Outside the hypothesis (`{**d}`): regenerated as `{: d, }`, which is rejected. -/
theorem dict_unpack_rejected : pyParse (gen (.dict [.dictItem none (.name ['d'])])) = none := by decide +kernel

/-- `parse_gen` needs its hypothesis: for these trees `pyParse (gen e) ≠ some e` (they are rejected). -/
theorem parse_gen_needs_support :
    pyParse (gen (.attribute (.const ⟨.int, ['1']⟩) cs!"real")) ≠ some (.attribute (.const ⟨.int, ['1']⟩) cs!"real")
    ∧ pyParse (gen (.dict [.dictItem none (.name ['d'])])) ≠ some (.dict [.dictItem none (.name ['d'])]) := by
  rw [int_attribute_rejected, dict_unpack_rejected]
  exact ⟨nofun, nofun⟩

/-- **Known finding C13-type-params (witness).**  A PEP 695 type parameter list is silently
    dropped: `def f[T](): pass` and `def f(): pass` are regenerated as the same lines although
    they are different programs, so regeneration is not faithful on trees with `typeParams`. -/
theorem type_params_dropped_witness :
    genStmt 0 (.functionDef ['f'] [] [] none [] none [.pass_] [] none true)
      = genStmt 0 (.functionDef ['f'] [] [] none [] none [.pass_] [] none false)
    ∧ genModule [.functionDef ['f'] [] [] none [] none [.pass_] [] none true]
      = some [⟨0, [kw cs!"def", .name ['f'], tLP, tRP, tColon]⟩, ⟨1, [kw cs!"pass"]⟩] := by
  constructor
  · rfl
  · decide +kernel

/-- The module bodies on which faithful regeneration of *statements* is proved: expression
    statements, (augmented) assignments, `del`, `return`, `pass`, `break`, `continue`, `assert`,
    `raise`, `import`, `from m import`, `if`/`while`/`for` with `else`, `with`,
    `try`/`except`/`else`/`finally`, decorated `def` (all parameter kinds, annotations, defaults,
    `-> ret`) and `class` (bases, keywords), nested to any depth, all embedded expressions
    `Supported`.  Outside — because the regenerated text is not Python and is rejected, which the
    property allows — are `global`, `except E as name`, `from . import x` (see `global_rejected`,
    `handler_name_rejected`); PEP 695 type parameters are the known finding C13-type-params. -/
def SupportedS (ss : List PyStmt) : Prop := WFSL ss ∧ noHandlers ss = true

instance (ss : List PyStmt) : Decidable (SupportedS ss) := inferInstanceAs (Decidable (_ ∧ _))

/-- **Faithful regeneration (statements).**  For every supported module body — any number of
    statements, any nesting depth — the generator does not raise and reading the lines it writes
    (indentation + tokens) with the statement reader `pyParseS` gives back exactly the statements
    it was given: no statement, clause, block boundary, decorator, parameter, annotation, base
    class, target, imported name or embedded expression is lost, moved to another block or changed. -/
theorem parseS_genS (ss : List PyStmt) (h : SupportedS ss) :
    ∃ lines, genModule ss = some lines ∧ pyParseS lines = some ss :=
  ⟨genBody 0 ss, genModule_supported h.1, parseS_genBody ss h.1 h.2⟩

/-- two different supported module bodies are never regenerated as the same lines -/
theorem genS_injective (a b : List PyStmt) (ha : SupportedS a) (hb : SupportedS b)
    (h : genModule a = genModule b) : a = b := by
  obtain ⟨la, ga, pa⟩ := parseS_genS a ha
  obtain ⟨lb, gb, pb⟩ := parseS_genS b hb
  rw [ga, gb] at h
  cases h
  rw [pa] at pb
  exact Option.some.inj pb

/-- Outside the hypothesis: `global x` is regenerated as `global 'x'`, which is rejected. -/
theorem global_rejected : pyParseS (genBody 0 [.global_ [['x']]]) = none := by decide +kernel

/-- Outside the hypothesis: `except E as e:` is regenerated as `except E, 'e':`, which is rejected. -/
theorem handler_name_rejected :
    pyParseS (genBody 0 [.try_ [.pass_] [.handler (some (.name ['E'])) (some ['e']) [.pass_]] [] []]) = none := by decide +kernel

/-- ```
    @d
    def f(p: u, /, q: u = 2, *r: u, s, **t) -> u:
        for i in q:
            if i: continue
            else: break
        try: pass
        except E: raise
        except: raise E from c
        else: return (-2) ** 2
        finally: assert p, q
    class C(B, m=t):
        with a as b, c:
            x = y = 2
            x += 2
            while x: x
    import os.path as p, sys
    from a.b import c as d, e
    del x, y[2]
    ``` -/
def exModule : List PyStmt :=
  [ .functionDef ['f'] [.param ['p'] (some (.name ['u'])) none] [.param ['q'] (some (.name ['u'])) (some two)]
      (some (.param ['r'] (some (.name ['u'])) none))
      [.param ['s'] none none] (some (.param ['t'] none none))
      [ .for_ (.name ['i']) (.name ['q']) [.if_ (.name ['i']) [.continue_] [.break_]] [],
        .try_ [.pass_]
          [.handler (some (.name ['E'])) none [.raise_ none none],
           .handler none none [.raise_ (some (.name ['E'])) (some (.name ['c']))]]
          [.return_ (some exUnaryPow)] [.assert_ (.name ['p']) (some (.name ['q']))] ]
      [.name ['d']] (some (.name ['u'])) false,
    .classDef ['C'] [.name ['B']] [.keyword (some ['m']) (.name ['t'])]
      [ .with_ [(.name ['a'], some (.name ['b'])), (.name ['c'], none)]
          [ .assign [.name ['x'], .name ['y']] two,
            .augAssign (.name ['x']) cs!"Add" two,
            .while_ (.name ['x']) [.expr (.name ['x'])] [] ] ]
      [] false,
    .import_ [(cs!"os.path", some ['p']), (cs!"sys", none)],
    .importFrom (some cs!"a.b") [(['c'], some ['d']), (['e'], none)] 0,
    .delete [.name ['x'], .subscript (.name ['y']) two] ]

theorem exModule_supported : SupportedS exModule := by decide +kernel

example : ∃ lines, genModule exModule = some lines ∧ pyParseS lines = some exModule :=
  parseS_genS exModule exModule_supported

example : pyParseS (genBody 0 exModule) = some exModule :=
  parseS_genBody exModule exModule_supported.1 exModule_supported.2
example : (genBody 0 exModule).length = 26 := by decide +kernel

/-! ### statement mode of `TemplateASTTransformer` (code blocks, `Suite`)

Model `xformS` (`Model/PyStmtX.lean`): the `self.locals` stack threaded through the statements.
Specification `specModule` / `freeGlobals` (`Model/PyScope.lean`): Python's scoping rule, with the
complete set of bound names of every scope fixed up front, no state. -/

/-- **Exactly the loads of global names are rewritten.**  For every module body in the domain
    `okModule` — any nesting of `def` / `class` / lambda / comprehension scopes, every binding
    statement (assignment, augmented assignment, `for`, `with … as`, `del`, `import`, `def`, `class`),
    parameters of every kind with defaults / annotations / decorators / base classes in the
    enclosing scope — the transformer's stateful scope tracking produces exactly the tree in which
    the `Name` loads that Python's rule resolves to a global (not bound in the scope, not bound in an
    enclosing *function* scope) are replaced by `_lookup_name(__data__, 'x')`, and no other.
    Outside the domain: loads of `NotImplemented` / `Ellipsis` (known finding C03-constant-names) and
    `super` / `__class__` (left plain on purpose), a class body reading a name it binds itself
    (known finding C13-class-body-rebinding, see the witness below), `global`, `except … as`
    and `from m import *` (rejected / not compiled). -/
theorem stmt_rewrites_exactly_globals (body : List PyStmt) (h : okModule body = true) :
    xformS body = specModule body :=
  xformS_spec body h

/-- the same, read back per scope: the names each scope of the rewritten program looks up in the
    template data are the names `freeGlobals` (Python's rule; compared with CPython's `symtable` by
    the harness) says it references as globals -/
theorem stmt_rewritten_eq_freeGlobals (body : List PyStmt) (h : okModule body = true) :
    scopeTree (xformS body) = freeGlobals body :=
  congrArg scopeTree (stmt_rewrites_exactly_globals body h)

/-- **Nothing is lost.**  Undoing the rewriting on the transformed program gives back the program:
    every statement, clause, target, parameter, default, annotation, decorator and expression is
    still there, in place, for *every* program that does not itself call the (reserved) lookup
    helpers — no scoping hypothesis is needed. -/
theorem stmt_rewriting_invertible (body : List PyStmt) (h : noLookupB body = true) :
    unxfB (xformS body) = body :=
  unxfB_xsB body _ h

/-- the walk `_bound_names` (function-wide locals) finds exactly the names Python says a function
    body binds, on accepted programs -/
theorem stmt_bound_names_are_pythons (env : SEnv) (body : List PyStmt) (h : okB env body = true) :
    bnB body = bindsB body :=
  bnB_eq body env h

/-- a module with an import of a dotted name, a decorated function (default in the enclosing scope,
    `for` / `with … as` targets, a comprehension reading a function local and the imported name), and a
    class whose method returns a lambda: it is in the domain, it is rewritten non-trivially, and
    the per-scope global references are as Python resolves them -/
def exScopes : List PyStmt := [
  .import_ [(cs!"os.path", none)],
  .functionDef cs!"f" [] [.param cs!"a" none (some (.name cs!"d"))] none [] none
    [ .for_ (.name cs!"i") (.name cs!"xs") [.assign [.name cs!"t"] (.binOp (.name cs!"i") cs!"Add" (.name cs!"g"))] [],
      .with_ [(.call (.name cs!"open") [.name cs!"a"] [], some (.name cs!"w"))] [.expr (.name cs!"w")],
      .import_ [(cs!"os.path", none)],
      .return_ (some (.listComp (.binOp (.name cs!"k") cs!"Add" (.name cs!"t")) [.comp (.name cs!"k") (.name cs!"os") [] false])) ]
    [.name cs!"deco"] none false,
  .classDef cs!"C" [.name cs!"Base"] []
    [ .assign [.name cs!"y"] (.const ⟨.int, cs!"1"⟩),
      .functionDef cs!"m" [] [.param cs!"self" none none] none [] none
        [.return_ (some (.lambda [] [.param cs!"q" none none] none [] none (.binOp (.name cs!"q") cs!"Add" (.name cs!"y"))))]
        [] none false ]
    [] false ]

theorem stmt_scopes_example :
    okModule exScopes = true ∧ noLookupB exScopes = true ∧
    freeGlobals exScopes =
      .node cs!"module" cs!"top" [cs!"d", cs!"deco", cs!"Base"]
        [ .node cs!"function" cs!"f" [cs!"xs", cs!"g", cs!"open"] [.node cs!"function" cs!"listcomp" [] []],
          .node cs!"class" cs!"C" [] [.node cs!"function" cs!"m" [] [.node cs!"function" cs!"lambda" [cs!"y"] []]] ] :=
  ⟨by decide +kernel, by decide +kernel, rfl⟩

example : xformS exScopes = specModule exScopes := stmt_rewrites_exactly_globals _ stmt_scopes_example.1
example : unxfB (xformS exScopes) = exScopes := stmt_rewriting_invertible _ stmt_scopes_example.2.1

/-- **Known finding C13-class-body-rebinding (witness).**  `class C: y = x; x = 1`: when `y = x` is
    visited the class scope does not hold `x` yet, so the transformer rewrites that load into a
    data lookup, while Python classifies `x` as a name of the class body (looked up in the class
    namespace, then in the globals, at run time): the program is outside `okModule`, and there the
    two disagree. -/
def exClassDyn : List PyStmt :=
  [.classDef cs!"C" [] [] [.assign [.name cs!"y"] (.name cs!"x"), .assign [.name cs!"x"] (.const ⟨.int, cs!"1"⟩)] [] false]

theorem class_body_rebinding_witness :
    okModule exClassDyn = false ∧
    scopeTree (xformS exClassDyn) = .node cs!"module" cs!"top" [] [.node cs!"class" cs!"C" [cs!"x"] []] ∧
    freeGlobals exClassDyn = .node cs!"module" cs!"top" [] [.node cs!"class" cs!"C" [] []] :=
  ⟨by decide +kernel, rfl, rfl⟩

/-- **The transformed program is again a supported program**: whatever the scope stack decides,
    a name load is either kept or becomes `_lookup_name(__data__, 'x')` and every other node keeps
    its class, its operator, its names and the shape of its fields — so every hypothesis of
    `parseS_genS` holds for `xformS ss` again (all module bodies, any nesting). -/
theorem stmt_xform_supported (ss : List PyStmt) (h : SupportedS ss) : SupportedS (xformS ss) :=
  ⟨wfsl_xsB ss _ h.1, by rw [xformS, noHandlers_xsB]; exact h.2⟩

/-- **End to end, without side hypotheses**: for every supported module body the generator
    accepts what `TemplateASTTransformer` hands it and the source it writes reads back as exactly the
    transformed statements (the text that is compiled has the abstract syntax of the rewritten tree). -/
theorem stmt_pipeline_roundtrip (ss : List PyStmt) (h : SupportedS ss) :
    ∃ lines, genModule (xformS ss) = some lines ∧ pyParseS lines = some (xformS ss) :=
  parseS_genS (xformS ss) (stmt_xform_supported ss h)

/-- … and undoing the documented name-lookup rewriting on what was read back gives the original
    program: the property text at statement level ("regenerated into source whose abstract syntax
    is identical to the original after the documented name-lookup rewriting"), for every supported
    module body that does not itself call the reserved lookup helpers. -/
theorem stmt_pipeline_faithful (ss : List PyStmt) (h : SupportedS ss) (hn : noLookupB ss = true) :
    ∃ lines, genModule (xformS ss) = some lines ∧ (pyParseS lines).map unxfB = some ss := by
  obtain ⟨lines, hg, hp⟩ := stmt_pipeline_roundtrip ss h
  exact ⟨lines, hg, by rw [hp]; exact congrArg some (stmt_rewriting_invertible ss hn)⟩

example : SupportedS (xformS exModule) := stmt_xform_supported _ exModule_supported
example : pyParseS (genBody 0 (xformS exModule)) = some (xformS exModule) :=
  have h := stmt_xform_supported _ exModule_supported
  parseS_genBody _ h.1 h.2
example : (pyParseS (genBody 0 (xformS exModule))).map unxfB = some exModule := by
  have h := stmt_xform_supported _ exModule_supported
  rw [parseS_genBody _ h.1 h.2]
  exact congrArg some (stmt_rewriting_invertible exModule (by decide +kernel))
example : genBody 0 (xformS exModule) ≠ genBody 0 exModule := by decide +kernel
theorem exScopes_supported : SupportedS exScopes := by decide +kernel

example : ∃ lines, genModule (xformS exScopes) = some lines ∧ (pyParseS lines).map unxfB = some exScopes :=
  stmt_pipeline_faithful exScopes exScopes_supported stmt_scopes_example.2.1

/-! ### no token is dropped (independent of the reader `pyParse`)

`leaves` / `leavesB` (`Model/PyLeaves.lean`) list the leaf tokens of a tree in source order: every
identifier, literal, operator and node / clause keyword, no punctuation.  They are plain
recursions over the tree that do not mention `gen`. -/

/-- **Every leaf token is written, in order** (expressions): the identifiers (names, attribute
    names, keyword-argument names, parameter names), literals, operators and clause keywords of the
    tree form a subsequence of the tokens the generator writes — for every tree whose literals are
    parser-made and that has no attribute access on an integer literal; nothing else is assumed
    (operators outside the tables, unsupported nodes and helper nodes in odd places included). -/
theorem leaves_in_order (e : PyExpr) (h : leafOK e = true) : (leaves e).Sublist (gen e) :=
  leaves_sub e h

/-- in particular for every supported expression -/
theorem leaves_in_order_supported (e : PyExpr) (h : Supported e) : (leaves e).Sublist (gen e) :=
  leaves_sub e (wf_leafOK e h.1)

/-- **Every leaf token is written, in order** (statements): decorators, `def` / `class` names,
    parameters with annotations and defaults, return annotation, bases and class keywords, targets,
    imported names and aliases (component by component), clause keywords (`else`, `except`,
    `finally`, `from`, `as`, `in`) and all leaves of the embedded expressions form a subsequence of
    the tokens of the written lines, at every indentation — for all bodies without `global` and
    `except E as name` (whose names the generator writes as string literals: rejected). -/
theorem leavesS_in_order (ss : List PyStmt) (ind : Nat) (h : leafOKB ss = true) :
    (leavesB ss).Sublist (lineToks (genBody ind ss)) :=
  leavesB_sub ss ind h

/-- in particular for every supported module body, on the lines the generator really returns -/
theorem leavesS_in_order_supported (ss : List PyStmt) (h : SupportedS ss) :
    ∃ lines, genModule ss = some lines ∧ (leavesB ss).Sublist (lineToks lines) :=
  ⟨genBody 0 ss, genModule_supported h.1, leavesB_sub ss 0 (wfsl_leafOKB ss h.1)⟩

/-- … and through the whole pipeline: the leaves of the *transformed* program (every original
    identifier either as a name or as the string argument of its `_lookup_name` call) are in the
    source that is compiled -/
theorem leaves_in_order_after_rewriting (ss : List PyStmt) (h : SupportedS ss) :
    ∃ lines, genModule (xformS ss) = some lines ∧ (leavesB (xformS ss)).Sublist (lineToks lines) :=
  leavesS_in_order_supported _ (stmt_xform_supported ss h)

/-- the boundary of the domain: for `(1).real` (written `1.real`, rejected by the compiler) and
    `global x` (written `global 'x'`, rejected) the leaves are *not* all written -/
theorem leaves_need_domain :
    ¬ (leaves (.attribute (.const ⟨.int, ['1']⟩) cs!"real")).Sublist (gen (.attribute (.const ⟨.int, ['1']⟩) cs!"real"))
    ∧ ¬ (leavesB [.global_ [['x']]]).Sublist (lineToks (genBody 0 [.global_ [['x']]])) := by
  constructor <;> decide +kernel

example : leaves exLambda =
    [kw cs!"lambda", .name ['p'], .name ['q'], .num ['2'], .name ['r'], .name ['s'], .name ['t'],
     .name ['i'], kw cs!"for", .name ['i'], kw cs!"in", .name ['q'], kw cs!"if", .name ['i']] := rfl
example : leaves exCall = [.name ['f'], .name ['a'], .name ['b'], .name ['k'], .name cs!"not", .name ['x'],
    .op cs!"==", .name ['y'], .num ['1']] := rfl
example : leafOK exCall = true ∧ leafOK exLambda = true ∧ leafOKB exModule = true := by decide +kernel
example : (leavesB exModule).length = 79 := by decide +kernel
example : (leavesB exModule).Sublist (lineToks (genBody 0 exModule)) :=
  leavesS_in_order _ 0 (wfsl_leafOKB _ exModule_supported.1)

/-! ### character level: the writer (`_new_line`, `_write`, `_change_indent`) and the indentation

Model `genStmtW` (`Model/PyLayout.lean`): the statement visitors as transformers of the writer state
(`self.code`, `self.line`, `self.indent`), compared with `ASTCodeGenerator(tree).code` by exact
string equality.  Abstraction `genStmtC`: physical lines (depth + text).  Reader `retok`: the
indentation stack of CPython's tokenizer (compared with `tokenize` by the harness). -/

/-- **The writer writes exactly the physical lines** `genBodyC`: from any writer state, visiting a
    body leaves the state in which those lines have been started one after the other — the pending
    line flushed with a newline, every line `4 * depth` blanks + text, the last one still open,
    `self.indent` restored (all statements, any nesting). -/
theorem writer_is_lines (ss : List PyStmt) (w : W) : genBodyW ss w = w.push (genBodyC w.indent ss) :=
  genBodyW_eq ss w

/-- `ASTCodeGenerator(Module(body)).code` is the rendering of those lines (a last line that is
    whitespace only is dropped by `__init__`) -/
theorem code_is_rendered_lines (body : List PyStmt) (hok : genOkBody body = true) (hne : genBodyC 0 body ≠ []) :
    codeS body = some (renderT (trimLast (genBodyC 0 body))) :=
  codeS_lines body hok hne

/-- **INDENT / DEDENT structure.**  Splitting the generated string into physical lines and running
    the tokenizer's indentation stack over it gives back exactly the non-blank lines the visitors
    wrote, each at the depth of the generator's `self.indent` — for every module body and every
    nesting depth; no `IndentationError`, and the whitespace-only line `visit_Try` leaves behind
    opens or closes no block.  Hypothesis on the line texts only: no newline inside, no leading
    whitespace (checked by `lineOKb`, decidable; the text → token step inside a line is tied by
    the harness stream `retok-vs-tokenize`). -/
theorem indentation_read_back (body : List PyStmt) (hok : genOkBody body = true) (hne : genBodyC 0 body ≠ [])
    (hl : (genBodyC 0 body).all lineOKb = true) :
    ∃ code, codeS body = some code ∧
      retok code = some (((genBodyC 0 body).filter (fun l => !l.blank)).map fun l => (l.indent, l.text)) :=
  retok_codeS body hok hne (fun l h => lineOK_of_b (List.all_eq_true.mp hl l h))

/-- ```
    def f():
        try:
            pass
        except E:
            pass
        <- whitespace-only line written by visit_Try
        return x
    ``` -/
def exTry : List PyStmt :=
  [.functionDef ['f'] [] [] none [] none
    [.try_ [.pass_] [.handler (some (.name ['E'])) none [.pass_]] [] [], .return_ (some (.name ['x']))] [] none false]

theorem try_blank_line_example :
    codeS exTry = some cs!"def f():\n    try:\n        pass\n    except E:\n        pass\n    \n    return x\n"
    ∧ (codeS exTry).bind retok = some [(0, cs!"def f():"), (1, cs!"try:"), (2, cs!"pass"), (1, cs!"except E:"),
        (2, cs!"pass"), (1, cs!"return x")] := by
  constructor <;> decide +kernel

theorem exModule_chars : charsOKB exModule = true := by decide +kernel
theorem exModule_lines : genBodyC 0 exModule ≠ [] := by decide +kernel

example : (genBodyC 0 exModule).all lineOKb = true := linesOK_body exModule 0 exModule_supported.1 exModule_chars
example : ((genBodyC 0 exModule).filter (fun l => !l.blank)).map (·.indent) = (genBody 0 exModule).map (·.indent) :=
  indents_body exModule 0 (textOKB_of exModule exModule_supported.1 exModule_chars)
example : ∃ code, codeS exModule = some code ∧
    retok code = some (((genBodyC 0 exModule).filter (fun l => !l.blank)).map fun l => (l.indent, l.text)) :=
  indentation_read_back exModule (wfsl_genOk exModule exModule_supported.1) exModule_lines
    (linesOK_body exModule 0 exModule_supported.1 exModule_chars)

/-- **Unsupported statements are rejected, not altered**: a statement class without a `visit_*`
    method, an augmented assignment with an operator missing from the table, a relative import
    without module name, or a rejected expression *anywhere* in a module body (at any nesting depth)
    makes the generator raise — it never writes different lines for such a body. -/
theorem unsupported_stmt_rejected (ss : List PyStmt) (h : rejectsB ss = true) : genModule ss = none :=
  genModule_rejects h

/-- The audit of the Python 3.12 syntax against the visitor set and the operator tables of the code
    under test (regenerated on every run): assignment expressions, f-strings (`JoinedStr`,
    `FormattedValue`; 3.14 `TemplateStr`), `await`, set displays / set and dict comprehensions,
    `yield from`, `@`; `match`, `type X = …`, `except*`, `async def` / `async for` / `async with`,
    annotated assignment, `nonlocal` have no visitor / no table entry — trees containing them are
    rejected (`unsupported_rejected`, `unsupported_stmt_rejected` apply).  A visitor added to the
    code under test for one of them breaks this theorem: the model then has to model it. -/
theorem py312_rejected :
    (∀ k ∈ [cs!"NamedExpr", cs!"JoinedStr", cs!"FormattedValue", cs!"TemplateStr", cs!"Interpolation", cs!"Await", cs!"Set",
        cs!"SetComp", cs!"DictComp", cs!"YieldFrom"], rejects (.unsupported k) = true)
    ∧ (∀ k ∈ [cs!"Match", cs!"TypeAlias", cs!"TryStar", cs!"AsyncFunctionDef", cs!"AsyncFor", cs!"AsyncWith", cs!"AnnAssign",
        cs!"Nonlocal"], rejectsS (.unsupported k) = true)
    ∧ rejects (.binOp (.name ['a']) cs!"MatMult" (.name ['b'])) = true
    ∧ rejectsS (.augAssign (.name ['a']) cs!"MatMult" (.name ['b'])) = true
    ∧ rejectsS (.importFrom none [(['x'], none)] 2) = true := by decide +kernel

def exStarIndex : PyExpr := .subscript (.name ['a']) (.tuple [.starred (.name ['b']), .name ['c']])
def exStarReturn : List PyStmt :=
  [.functionDef ['f'] [.param ['p'] none (some two)] [] none [.param ['k'] none none] none
    [.return_ (some (.tuple [.starred (.name ['a']), .name ['b']])),
     .expr (.yield_ (some (.tuple [.name ['b'], .starred (.name ['a'])])))] [] none false]
def exAsyncComp : PyExpr := .genExp (.name ['x']) [.comp (.name ['x']) (.name ['y']) [] true]

theorem exStarIndex_supported : Supported exStarIndex := by decide +kernel
theorem exAsyncComp_supported : Supported exAsyncComp := by decide +kernel

/-- `a[*b, c]`, `return *a, b` (star expressions in an index / `return` / `yield`: a `Tuple` with `Starred` elements,
    written `a[(*b, c, )]`), positional-only parameters with defaults, and `async` comprehension clauses
    are inside the supported syntax: regenerated and read back exactly. -/
theorem py312_supported :
    pyParse (gen exStarIndex) = some exStarIndex ∧ pyParse (gen exAsyncComp) = some exAsyncComp
    ∧ pyParseS (genBody 0 exStarReturn) = some exStarReturn
    ∧ codeS exStarReturn = some cs!"def f(p=2, /, *, k):\n    return (*a, b, )\n    (yield (b, *a, ))\n" :=
  ⟨parse_gen _ exStarIndex_supported, parse_gen _ exAsyncComp_supported,
    have h : SupportedS exStarReturn := by decide +kernel
    parseS_genBody _ h.1 h.2, by decide +kernel⟩

/-- `a[*b]` in *original* source (PEP 646): a lone starred item is read as a one-element tuple, as CPython does -/
example : pyParse [.name ['a'], tLB, tStar, .name ['b'], tRB] = some (.subscript (.name ['a']) (.tuple [.starred (.name ['b'])])) := rfl

example : Supported exStarIndex := exStarIndex_supported
example : Supported exAsyncComp := exAsyncComp_supported
example : genModule [.if_ (.name ['c']) [.unsupported cs!"Match"] []] = none := unsupported_stmt_rejected _ (by decide +kernel)

/-- the non-blank physical lines of the character model have the indentation sequence of the token-level
    lines `genBody` (the abstraction `parseS_genS` is stated on) — for every body in which no expression
    statement / assignment writes an empty text (`textOKB`, decidable) -/
theorem char_lines_match_token_lines (ss : List PyStmt) (ind : Nat) (h : textOKB ss = true) :
    (nbLines (genBodyC ind ss)).map (·.indent) = (genBody ind ss).map (·.indent) :=
  indents_body ss ind h

/-- hence: the depths CPython's line structure assigns to the generated string are the indentation
    levels of the token-level lines, one logical line per `Line` -/
theorem indentation_matches_token_lines (body : List PyStmt) (hok : genOkBody body = true) (hne : genBodyC 0 body ≠ [])
    (hl : (genBodyC 0 body).all lineOKb = true) (ht : textOKB body = true) :
    ∃ code ls, codeS body = some code ∧ retok code = some ls ∧ ls.map (·.1) = (genBody 0 body).map (·.indent) := by
  obtain ⟨code, hc, hr⟩ := indentation_read_back body hok hne hl
  refine ⟨code, _, hc, hr, ?_⟩
  rw [← char_lines_match_token_lines body 0 ht]
  simp [nbLines, List.map_map, Function.comp_def]

example : textOKB exModule = true := textOKB_of exModule exModule_supported.1 exModule_chars

/-- **INDENT / DEDENT structure, hypothesis on the tree**: for every supported module body in which the
    identifiers are non-empty and free of whitespace and the literal / operator / module-name texts are free of
    newlines (`charsOKB`, decidable; true of every tree a parser produces), no written line contains a newline or
    starts with whitespace (`linesOK_body`: two inductions over `genC`, one over the statements), so the
    generated string reads back with the generator's nesting at every depth. -/
theorem indentation_read_back_supported (body : List PyStmt) (h : SupportedS body) (hc : charsOKB body = true)
    (hne : genBodyC 0 body ≠ []) :
    ∃ code, codeS body = some code ∧
      retok code = some (((genBodyC 0 body).filter (fun l => !l.blank)).map fun l => (l.indent, l.text)) :=
  indentation_read_back body (wfsl_genOk body h.1) hne (linesOK_body body 0 h.1 hc)

example : charsOKB exModule = true := exModule_chars
example : ∃ code, codeS exModule = some code ∧
    retok code = some (((genBodyC 0 exModule).filter (fun l => !l.blank)).map fun l => (l.indent, l.text)) :=
  indentation_read_back_supported exModule exModule_supported exModule_chars exModule_lines

/-- … and the depths CPython's line structure assigns to the generated string are the indentation levels of the
    token-level lines `genBody 0 body` (the lines `parseS_genS` reads), with hypotheses on the tree only -/
theorem indentation_matches_token_lines_supported (body : List PyStmt) (h : SupportedS body) (hc : charsOKB body = true)
    (hne : genBodyC 0 body ≠ []) :
    ∃ code ls, codeS body = some code ∧ retok code = some ls ∧ ls.map (·.1) = (genBody 0 body).map (·.indent) :=
  indentation_matches_token_lines body (wfsl_genOk body h.1) hne (linesOK_body body 0 h.1 hc) (textOKB_of body h.1 hc)

example : ∃ code ls, codeS exModule = some code ∧ retok code = some ls ∧ ls.map (·.1) = (genBody 0 exModule).map (·.indent) :=
  indentation_matches_token_lines_supported exModule exModule_supported exModule_chars exModule_lines

end Genshi.Props.C13
