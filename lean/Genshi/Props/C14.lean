/-
  C14 — Disabling code execution disables it on every path.
  The property theorems, with the definitions their statements need and their examples.  Models:
  `Genshi/Model/Exec*.lean` (reachability, include graph, bounded cache, memoisation, the two
  parsers, shapes); the tables of `Genshi/Gen/Exec.lean` and `Genshi/Gen/ExecShape.lean` are
  regenerated from the code under test on every run.  Lemmas: `Genshi/Lemmas/Exec*.lean`.

  OBLIGATIONS (checked by the harness: each must exist and depend on allowed axioms only):
    disabled_everywhere disabled_raises loader_off_governs_includes
    held_flag_is_loader_flag enabled_runs mixed_config_includes_run
    off_spelling_any_case parse_deny_iff_documented documented_off_denied
    plugin_tables_agree spellings_probed lower_model_exact
    graph_disabled_no_exec flag_only_affects_code_blocks parse_ignores_flag_without_code
    graph_disabled_completes_only_without_code graph_disabled_reachable_code_fails
    graph_disabled_raises_syntax_error graph_loader_off_only_root_runs
    ctor_forwards_flag loader_forwards_flag include_forwards_flag plugin_forwards_flag
    node_characterised exec_iff_governing_flag_on
    markup_parse_flag_only_at_code markup_parse_off_no_exec markup_parse_off_rejects
    markup_parse_off_error_kind text_parse_flag_only_at_code text_parse_off_no_exec
    text_parse_off_rejects
    lru_history_disabled_no_exec lru_later_load_rejects_code lru_cache_stays_code_free
    disabled_no_exec_object shapes_disabled_no_exec_object shapes_enabled_exec_exists
    skeleton_sees_every_suite shapes_cover_nesting shapes_probed
    plain_shapes_flag_independent pickle_preserves_flags
    memo_history_disabled_no_exec memo_cache_stays_code_free memo_later_load_code_free
    memo_later_load_rejects_code
-/
import Genshi.Lemmas.ExecLru
import Genshi.Lemmas.ExecRaise
import Genshi.Lemmas.ExecParse
import Genshi.Lemmas.ExecShape
import Genshi.Lemmas.ExecMemo
namespace Genshi.Props.C14
open Genshi.Exec Genshi.Gen.Exec


/-- **for every string**: the option parser says "deny" exactly for the documented
    off-spellings — `no`, `false`, `off`, `0` in any letter case, and nothing else -/
theorem parse_deny_iff_documented (s : List Char) :
    parseOpt (.str s) = .deny ↔ s ∈ offSpellings := by
  refine ⟨fun h => ?_, spellings_parse.1 s⟩
  simp only [parseOpt] at h
  split at h
  · cases h
  · split at h
    · exact mem_offSpellings ‹_›
    · cases h

theorem off_spelling_any_case (s : List Char) (h : lower s ∈ wordsOff) : parseOpt (.str s) = .deny :=
  (parse_deny_iff_documented s).mpr (mem_offSpellings h)

theorem documented_off_denied (o : Opt) (h : documented o = some false) : parseOpt o = .deny :=
  documented_off_denied_lem o h

/-- tie to the code: on **every probed option value** (all letter cases of the eight words, the
    booleans, absent, integers, None, junk strings) and for each plugin class the real plugin
    behaved as `parseOpt` says: the spelling matters only through the parsed flag -/
theorem plugin_tables_agree (p : Plugin) :
    (pluginRows p).all (fun e => decide (modelRow p e.1 = some e.2)) = true := by
  cases p <;> decide +kernel

/-- the probe set covers every documented spelling and the booleans -/
theorem spellings_probed (p : Plugin) :
    (offSpellings ++ onSpellings).all (fun s => ((pluginRows p).lookup (.str s)).isSome) = true
    ∧ ((pluginRows p).lookup (.bool false)).isSome = true
    ∧ ((pluginRows p).lookup (.bool true)).isSome = true
    ∧ ((pluginRows p).lookup .absent).isSome = true := by
  -- compare the spellings as strings, not as option values: the derived equality on `Opt` is slow to evaluate
  simp only [lookup_isSome_congr _ _ _ (pluginRows_keys p), lookup_str_isSome]
  decide +kernel

/-- `lowerC` is Python's `str.lower` as far as the option words are concerned: it is `str.lower`
    on ASCII, and no non-ASCII character lower-cases to text containing a letter (or digit) of
    the option words -/
theorem lower_model_exact :
    asciiLower.all (fun e => decide ([lowerC (Char.ofNat e.1)] = e.2)) = true ∧
    lowerToAscii.all (fun e => e.2.all fun ch =>
      (wordsOn ++ wordsOff).all fun w => !(w.contains ch)) = true := by
  constructor <;> decide +kernel

/-- **constructors**: for every class, source kind, requested flag and loader argument the
    instance's `allow_exec` is the requested flag, the loader it holds carries the explicit
    loader's flag or — when it made its own — the template's, and the parser rejects a code
    block exactly when the flag is off -/
theorem ctor_forwards_flag (c : Cls) (s : Src) (q : Req) (ld : Option Req) (h : srcOk c s = true) :
    directFlag c s q ld = some (want q) ∧
    directLoaderFlag c s q ld = some (match ld with | none => want q | some l => want l) ∧
    directVerdict c s q ld = fate c (want q) := by
  obtain ⟨h1, h2, h3⟩ := direct_table c s q ld
  rw [h, if_pos rfl] at h1 h2
  exact ⟨h1, by cases ld <;> exact h2, h3 h⟩

/-- **loader**: `TemplateLoader(allow_exec=q)` has that flag, hands it to every template it
    instantiates (`cls=` or `default_class`), and hands itself on as their loader -/
theorem loader_forwards_flag (c : Cls) (d : Bool) (q : Req) :
    loaderFlag c d q = some (want q) ∧ loadFlag c d q = some (want q) ∧
    loadLoaderFlag c d q = some (want q) ∧ loadVerdict c d q = fate c (want q) :=
  loader_table c d q

/-- **includes**: whatever the including class, parse mode and reload mode, the included template
    is of the class the include asks for, is instantiated with the flag of the includer's loader,
    and holds that same loader -/
theorem include_forwards_flag (c : Cls) (p : Parse) (lf ar : Bool) (h : c = .markup ∨ p = .same) :
    inclStep c p lf ar = some (childCls c p, fate (childCls c p) lf, lf) := by
  rw [incl_table, if_pos h]

/-- **plugins**: with the option read as `b`, file templates and string templates alike get the
    flag `b` and a loader with the flag `b` -/
theorem plugin_forwards_flag (p : Plugin) (b : Bool) :
    ∃ c, pluginCls p = some c ∧
      pluginByFlag p b = some ⟨if b then .allow else .deny, fate c b, some b, some b, fate c b, some b, some b⟩ := by
  obtain ⟨c, hc, hrow⟩ := plugin_table p
  exact ⟨c, hc, hrow b⟩

/-- **complete characterisation of the reachability model**: wherever a template is reached, the
    loader it holds carries the root's held flag, and a code block in it meets the fate of its
    class under the governing flag — the constructor / loader / plugin flag for the root, the held
    loader's flag for everything included, at any depth -/
theorem node_characterised (cfg : Config) (r : Reach) (n : Node) (h : node cfg r = some n) :
    heldFlag cfg r.rootOf = some n.loaderFlag ∧
    ∃ g, governing cfg r = some g ∧ n.verdict = fate n.cls g :=
  node_flags cfg r n h

/-- **code runs exactly when the governing flag is on** (and the class has code blocks at all):
    both directions, for every configuration — mixed ones included — and every reach -/
theorem exec_iff_governing_flag_on (cfg : Config) (r : Reach) :
    execAllowed cfg r = true ↔
      ∃ n, node cfg r = some n ∧ n.cls ≠ .oldtext ∧ governing cfg r = some true := by
  unfold execAllowed
  cases hn : node cfg r with
  | none => exact ⟨nofun, fun ⟨_, h, _⟩ => nomatch h⟩
  | some n =>
      obtain ⟨_, g, hg, hv⟩ := node_characterised cfg r n hn
      rw [beq_iff_eq, hv, fate_exec_iff, hg]
      exact ⟨fun ⟨hc, hb⟩ => ⟨n, rfl, hc, congrArg some hb⟩,
        fun ⟨_, hm, hc, hb⟩ => by cases hm; exact ⟨hc, Option.some.inj hb⟩⟩

theorem not_exec_of_governing_off (cfg : Config) (r : Reach) (h : governing cfg r = some false) :
    execAllowed cfg r = false := by
  cases he : execAllowed cfg r with
  | false => rfl
  | true =>
      obtain ⟨_, _, _, hg⟩ := (exec_iff_governing_flag_on cfg r).mp he
      cases h.symm.trans hg

/-- **Disabling code execution disables it on every path**: when every flag given for the root
    is off (constructor flag; loader flag; plugin option in any documented spelling), no
    template reachable from it — the root, or anything it includes directly or transitively,
    with any parse mode, at any depth — runs a code block. -/
theorem disabled_everywhere (cfg : Config) (r : Reach) (hd : r.rootOf.disabled cfg) :
    execAllowed cfg r = false :=
  not_exec_of_governing_off cfg r (governing_disabled cfg r hd)

/-- … and bringing such a template into existence with a code block in it raises a template
    syntax error (the verdict is `reject`, not merely "did not run") -/
theorem disabled_raises (cfg : Config) (r : Reach) (n : Node) (hd : r.rootOf.disabled cfg)
    (hn : node cfg r = some n) : n.verdict = .reject :=
  (node_safe cfg r n hd hn).1

/-- finer: whatever the root is and however it was configured, once the loader held by a
    reached template has its flag off, nothing below it runs code (templates "loaded through the
    same loader") -/
theorem loader_off_governs_includes (cfg : Config) (parent : Reach) (m : Node) (chain : List Parse)
    (hp : node cfg parent = some m) (hoff : m.loaderFlag = false) (p : Parse) :
    execAllowed cfg (chain.foldl Reach.incl (Reach.incl parent p)) = false := by
  refine not_exec_of_governing_off cfg _ ?_
  rw [governing_below, (node_characterised cfg parent m hp).1, hoff]

/-- which flag the held loader carries: the template's own flag when it made its own loader,
    the explicit loader's flag otherwise (default = on) -/
theorem held_flag_is_loader_flag (cfg : Config) (c : Cls) (s : Src) (own : Bool) (n : Node)
    (hn : rootNode cfg (.direct c s own) = some n) :
    n.loaderFlag = (if own then decide (cfg.tmpl ≠ .off) else decide (cfg.loader ≠ .off)) := by
  have h := (rootNode_flags cfg _ n hn).1
  cases own <;> simp only [heldFlag, Option.some.injEq] at h <;> rw [← h]
  · cases cfg.loader <;> rfl
  · cases cfg.tmpl <;> rfl

/-- non-vacuity of the whole construction: with the defaults, code blocks do run — in the root
    and three includes deep, through `parse="text"` -/
theorem enabled_runs :
    execAllowed ⟨.dflt, .dflt, .absent, false⟩ (.root (.direct .markup .str true)) = true ∧
    execAllowed ⟨.dflt, .dflt, .str ['y', 'e', 's'], true⟩
      (.incl (.incl (.incl (.root (.pluginFile .markup)) .same) .xml) .text) = true := by
  decide +kernel

/-- the hypothesis of `disabled_everywhere` cannot be weakened to "the constructor flag is off":
    a template given an explicit loader that allows execution hands its includes to that loader -/
theorem mixed_config_includes_run :
    execAllowed ⟨.off, .on, .absent, false⟩ (.root (.direct .markup .str false)) = false ∧
    execAllowed ⟨.off, .on, .absent, false⟩ (.incl (.root (.direct .markup .str false)) .same) = true := by
  decide +kernel

/-- **Disabling code execution disables it on every path — over arbitrary include graphs**:
    for every file system of templates (any include graph, cycles and diamonds included), every
    history of earlier loads through the same loader, every fuel and both include modes, a root
    whose flags are all off never moves the sentinel: no code block of the root, of anything it
    includes at run time or at prepare time, or of anything loaded before through the same
    loader, is executed. -/
theorem graph_disabled_no_exec (fuel pf : Nat) (cfg : Config) (root : Root) (fs : FS) (rn : Nat)
    (hist : List Nat) (hd : root.disabled cfg) : (run fuel pf cfg root fs rn hist).sentinel = [] := by
  rcases run_cases fuel pf cfg root fs rn hist with ⟨e, _, hr⟩ | ⟨st, h, hl, rfl, hrun⟩
  · rw [hr]
  · obtain ⟨hc, hs⟩ := mkLoader_disabled cfg root st hd hl
    obtain ⟨hch, hsh⟩ := afterHistory_clean fuel pf fs root st hist hc
    rw [hs] at hsh
    rcases hrun with ⟨e, _, hr⟩ | ⟨st', t, stack, hm, hr⟩
    · rw [hr]; exact hsh
    · obtain ⟨hc', ht, hs'⟩ := mkRoot_disabled cfg fs rn _ st' root t stack hd hch hm
      rw [hr]
      exact (gen_clean fuel pf fs true t.cls stack t st' hc' ht).2.1.trans (hs'.trans hsh)

/-- **contradictory settings are judged per template**: a directly constructed template — whatever
    its own flag — that is given an explicit loader whose flag is off: the only code blocks that
    can ever run are those of the root file itself; nothing it includes (at any depth, in any
    mode, over any graph) and nothing loaded before through that loader runs. -/
theorem graph_loader_off_only_root_runs (fuel pf : Nat) (cfg : Config) (c : Cls) (s : Src) (fs : FS)
    (rn : Nat) (hist : List Nat) (hl : cfg.loader = .off) (hs : srcOk c s = true) :
    ∀ i ∈ (run fuel pf cfg (.direct c s false) fs rn hist).sentinel,
      ∃ f, fs.lookup rn = some f ∧ i ∈ codeIds f.items := by
  intro i hi
  have hml : mkLoader cfg (.direct c s false) = .ok (st0 false cfg.autoReload) := by
    simp only [mkLoader, (direct_table c s cfg.tmpl _).2.1, hs, hl]
    rfl
  rcases run_cases fuel pf cfg (.direct c s false) fs rn hist with ⟨e, he, _⟩ | ⟨st, h, hst, rfl, hrun⟩
  · rw [hml] at he; cases he
  · cases hml.symm.trans hst
    obtain ⟨hch, hsh⟩ := afterHistory_clean fuel pf fs (.direct c s false) _ hist (st0_clean cfg.autoReload)
    have hsh : _ = [] := hsh
    rcases hrun with ⟨e, _, hr⟩ | ⟨st', t, stack, hm, hr⟩
    · rw [hr, hsh] at hi; cases hi
    · rw [hr] at hi
      obtain ⟨rfl, _, f, hf, hp⟩ := mkRoot_direct cfg fs rn _ st' c s false t stack hm
      rcases (gen_own_only fuel pf fs true t.cls stack t _ hch).2 i hi with h0 | h1
      · rw [hsh] at h0; cases h0
      · exact ⟨f, hf, by rw [← (parse_items c _ rn f t hp).1]; exact h1⟩

/-- parse level: for a source without code blocks `_parse` does not read the flag -/
theorem parse_ignores_flag_without_code (c : Cls) (name : Nat) (f : File) (h : noCode f.items = true)
    (b b' : Bool) : parseFile c b name f = parseFile c b' name f :=
  parse_noCode_flag c name f h b b'

/-- **Templates without code blocks render identically whether execution is allowed or not**:
    over a file system without code blocks, two configurations that differ in the flags only
    (constructor flag, loader flag, plugin option — neither being a configuration error) give
    the same outcome of the whole experiment: same error or same output, same history — for
    every include graph, fuel, include mode and history. -/
theorem flag_only_affects_code_blocks (fuel pf : Nat) (cfg cfg' : Config) (root : Root) (fs : FS)
    (rn : Nat) (hist : List Nat) (hfs : FsNoCode fs) (har : cfg.autoReload = cfg'.autoReload)
    (st st' : St) (h1 : mkLoader cfg root = .ok st) (h2 : mkLoader cfg' root = .ok st') :
    run fuel pf cfg root fs rn hist = run fuel pf cfg' root fs rn hist := by
  unfold run
  rw [h1, h2]
  simp only
  have hst : st' = st.setFlag st'.flag := by
    rw [mkLoader_shape cfg' root st' h2, mkLoader_shape cfg root st h1, har]; rfl
  rw [hst, afterHistory_flag fuel pf fs hfs]
  exact (finish_flag fuel pf cfg cfg' root fs hfs rn _ _).symm

/-- **with execution disabled, a run completes only over a code-free tree**: if the experiment
    ends without error then every template reachable from the root through includes (any depth,
    any mode, cycles included — a cyclic tree never completes) is free of code blocks.
    Contrapositive: a code block anywhere in the reachable tree makes the run fail. -/
theorem graph_disabled_completes_only_without_code (fuel pf : Nat) (cfg : Config) (root : Root) (fs : FS)
    (rn : Nat) (hist : List Nat) (hd : root.disabled cfg)
    (hok : (run fuel pf cfg root fs rn hist).err = none) :
    ∀ b, Reaches fs rn b → ∃ f, fs.lookup b = some f ∧ noCode f.items = true := by
  rcases run_cases fuel pf cfg root fs rn hist with ⟨e, _, hr⟩ | ⟨st, h, hl, rfl, hrun⟩
  · rw [hr] at hok; cases hok
  · obtain ⟨hc, _⟩ := mkLoader_disabled cfg root st hd hl
    have hch := (afterHistory_clean fuel pf fs root st hist hc).1
    have hfh := afterHistory_faithful fuel pf fs root st hist (mkLoader_faithful cfg fs root st hl)
    rcases hrun with ⟨e, _, hr⟩ | ⟨st', t, stack, hm, hr⟩
    · rw [hr] at hok; cases hok
    · rw [hr] at hok
      simp only at hok
      obtain ⟨hc', ht, _⟩ := mkRoot_disabled cfg fs rn _ st' root t stack hd hch hm
      obtain ⟨hf', hname, htf⟩ := mkRoot_faithful cfg fs rn _ st' root t stack hfh hm
      rcases hg : gen fuel pf fs true t.cls stack t st' with ⟨s2, e2⟩
      rw [hg] at hok
      cases (hok : e2 = none)
      exact hname ▸ gen_ok_noCode fuel pf fs true t.cls stack t st' s2 hc' ht hf' htf hg

/-- the contrapositive: a code block in a file reachable from the root makes the disabled run end in an error -/
theorem graph_disabled_reachable_code_fails (fuel pf : Nat) (cfg : Config) (root : Root) (fs : FS)
    (rn : Nat) (hist : List Nat) (hd : root.disabled cfg) (b : Nat) (f : File) (hb : Reaches fs rn b)
    (hf : fs.lookup b = some f) (hcode : noCode f.items = false) :
    (run fuel pf cfg root fs rn hist).err ≠ none := by
  intro hok
  obtain ⟨f', hf', hn⟩ := graph_disabled_completes_only_without_code fuel pf cfg root fs rn hist hd hok b hb
  rw [hf] at hf'
  cases hf'
  rw [hcode] at hn
  cases hn

/-- **… constructing or loading such a template raises a template syntax error**: over a
    well-formed include graph (every include names an existing file written in the language the
    include asks for; acyclic — a rank decreases along includes), for a root whose file exists and
    fits its class, with fuel beyond the rank of the root: a disabled run over a tree with a code
    block anywhere in it ends in `TemplateSyntaxError` — not in "not found", not in a recursion
    error, not in a configuration error, and never outside the model (`unmodelled`). -/
theorem graph_disabled_raises_syntax_error (fuel pf : Nat) (cfg : Config) (root : Root) (fs : FS)
    (rn : Nat) (hist : List Nat) (rank : Nat → Nat) (hd : root.disabled cfg) (hwf : WellFormed fs rank)
    (hroot : RootOk root fs rn) (hfuel : rank rn < fuel) (hpf : rank rn < pf)
    (b : Nat) (f : File) (hb : Reaches fs rn b) (hf : fs.lookup b = some f) (hcode : noCode f.items = false) :
    ∃ n, (run fuel pf cfg root fs rn hist).err = some (.syntax n) := by
  have hne := graph_disabled_reachable_code_fails fuel pf cfg root fs rn hist hd b f hb hf hcode
  cases he : (run fuel pf cfg root fs rn hist).err with
  | none => exact absurd he hne
  | some e =>
      obtain ⟨n, rfl⟩ := Err.eq_syntax (run_err_syntax fuel pf cfg root fs rn hist rank hd hwf hroot hfuel hpf e he)
      exact ⟨n, rfl⟩

section ParseLevel
open Genshi.Exec.Parse

/-- `MarkupTemplate._parse` reads the flag at a `<?python ?>` instruction and nowhere else: for
    every parser event sequence without one — whatever `interpolate` and `Suite` do — the
    result (stream or error) is the same under both flags -/
theorem markup_parse_flag_only_at_code (env : Env) (src : List XEv)
    (h : ∀ ev ∈ src, ev.isCode = false) (acc : List TEv) :
    parseMarkup env true src acc = parseMarkup env false src acc :=
  parseMarkup_flag env src h acc

/-- with the flag off, a stream `_parse` returns holds no EXEC event, given that `interpolate` produces none
    (`InterpPure`: it is a parameter of the model) -/
theorem markup_parse_off_no_exec (env : Env) (hp : InterpPure env) (src : List XEv) (out : List TEv)
    (h : parseMarkup env false src [] = .ok out) : hasExecList out = false :=
  parseMarkup_off_no_exec env hp src [] out rfl h

/-- with the flag off, a source with a `<?python ?>` instruction anywhere in it is not parsed: `_parse` raises -/
theorem markup_parse_off_rejects (env : Env) (src : List XEv) (h : ∃ ev ∈ src, ev.isCode = true)
    (out : List TEv) : parseMarkup env false src [] ≠ .ok out :=
  parseMarkup_off_rejects env src h [] out

/-- … and the error is "Python code blocks not allowed" unless `interpolate` failed first: the
    block is not even compiled -/
theorem markup_parse_off_error_kind (env : Env) (src : List XEv) (e : PErr)
    (h : parseMarkup env false src [] = .error e) : e = .notAllowed ∨ ∃ s, env.interp s = .error e :=
  parseMarkup_off_error_kind env src [] e h

/-- the same three facts for `NewTextTemplate._parse` and `{% python %}`, for every segment list,
    directive table and nesting (stray `{% end %}` and unclosed directives included) -/
theorem text_parse_flag_only_at_code (env : Env) (src : List Seg) (h : ∀ sg ∈ src, sg.isCode = false) :
    parseText env true src [] [] 0 = parseText env false src [] [] 0 :=
  parseText_flag env src h [] [] 0

theorem text_parse_off_no_exec (env : Env) (hp : InterpPure env) (src : List Seg) (out : List TEv)
    (h : parseText env false src [] [] 0 = .ok out) : hasExecList out = false :=
  parseText_off_no_exec env hp src [] [] 0 out rfl h

theorem text_parse_off_rejects (env : Env) (src : List Seg) (h : ∃ sg ∈ src, sg.isCode = true)
    (out : List TEv) : parseText env false src [] [] 0 ≠ .ok out :=
  parseText_off_rejects env src h [] [] 0 out

/-- an environment for the examples: `$x`-free text, every block compiles, `if` is a directive -/
def exEnv : Env := ⟨fun s => .ok [.text s], fun _ => true, fun c => c = ['i', 'f']⟩

-- with the flag on the block inside `{% if %}…{% end %}` ends up as an EXEC event inside the SUB …
example : (parseText exEnv true [.dir ['i', 'f'] ['x'], .text ['a'], .dir python ['y'], .dir kwEnd []] [] [] 0).toOption.map hasExecList
    = some true := by decide +kernel
-- … with the flag off the same source is rejected; without the block both flags agree
example : (match parseText exEnv false [.dir ['i', 'f'] ['x'], .text ['a'], .dir python ['y'], .dir kwEnd []] [] [] 0 with
    | .error e => e == .notAllowed
    | .ok _ => false) = true := by decide +kernel
example : (parseMarkup exEnv true [.other 0, .pi python ['y'], .comment [' ', '!', 'x'], .other 1] []).toOption.map List.length
    = some 3 := by decide +kernel
example : InterpPure exEnv := by
  intro s evs h
  simp only [exEnv] at h
  cases h
  rfl

end ParseLevel

example : (Root.direct .newtext .bytes true).disabled ⟨.off, .dflt, .absent, false⟩ := rfl
example : (Root.pluginString .text).disabled ⟨.dflt, .dflt, .str ['N', 'o'], true⟩ := by decide +kernel
example : node ⟨.off, .off, .absent, true⟩ (.incl (.incl (.root (.direct .markup .stream false)) .xml) .text)
    = some ⟨.newtext, .reject, false, true⟩ := by decide +kernel
example : ['F', 'a', 'L', 's', 'E'] ∈ offSpellings := by decide +kernel
example : parseOpt (.str ['n', 'o', ' ']) = .confError := by decide +kernel


/-- a cyclic include graph: the markup root includes a text template that runs a code block twice
    and then includes itself at run time -/
def exFs : FS :=
  [(0, ⟨.markup, [.text 1, .incl 1 .text false, .code 5 1]⟩),
   (1, ⟨.newtext, [.code 7 2, .expr 2, .incl 1 .same true]⟩)]

-- with execution allowed the blocks run (until the recursion is cut) …
example : (run 3 5 ⟨.dflt, .dflt, .absent, true⟩ (.load .markup false) exFs 0 []).sentinel = [7, 7, 7, 7]
    ∧ (run 3 5 ⟨.dflt, .dflt, .absent, true⟩ (.load .markup false) exFs 0 []).err = some .diverge := by decide +kernel
-- … with the loader's flag off the root is rejected …
example : run 3 5 ⟨.dflt, .off, .absent, true⟩ (.load .markup false) exFs 0 []
    = ⟨some (.syntax 0), [], [], []⟩ := by decide +kernel

def exFs2 : FS :=
  [(0, ⟨.markup, [.text 1, .incl 1 .text false, .text 3]⟩),
   (1, ⟨.newtext, [.code 7 2, .expr 2, .incl 1 .same true]⟩)]

-- … a code-free root gets as far as the include, the included file is rejected, nothing runs …
example : run 3 5 ⟨.dflt, .off, .absent, true⟩ (.load .markup false) exFs2 0 []
    = ⟨some (.syntax 1), [], [1], []⟩ := by decide +kernel
-- … also when it was (unsuccessfully) loaded before through the same loader, in inline mode
example : run 3 5 ⟨.dflt, .off, .absent, false⟩ (.load .markup false) exFs2 0 [1]
    = ⟨some (.syntax 1), [], [], [some (.syntax 1)]⟩ := by decide +kernel
-- the hypotheses of `flag_only_affects_code_blocks` are satisfiable on a file system with includes
example : FsNoCode [(0, ⟨.markup, [.text 1, .incl 1 .text false]⟩), (1, ⟨.newtext, [.expr 2]⟩)] :=
  .of_all rfl


-- the hypotheses of `graph_disabled_raises_syntax_error` on a concrete tree (root includes a text
-- template that holds the code block), and what the model computes for it
def exFs3 : FS :=
  [(0, ⟨.markup, [.text 1, .incl 1 .text false, .text 3]⟩), (1, ⟨.newtext, [.code 7 2, .expr 2]⟩)]

theorem exFs3_lookup (a : Nat) (f : File) (h : exFs3.lookup a = some f) :
    (a = 0 ∧ f = ⟨.markup, [.text 1, .incl 1 .text false, .text 3]⟩) ∨ (a = 1 ∧ f = ⟨.newtext, [.code 7 2, .expr 2]⟩) := by
  simpa [exFs3] using lookup_mem h

example : WellFormed exFs3 (fun n => 1 - n) := by
  constructor
  · intro a f n p dyn hl hm
    rcases exFs3_lookup a f hl with ⟨rfl, rfl⟩ | ⟨rfl, rfl⟩
    · simp at hm; obtain ⟨rfl, _, _⟩ := hm; rfl
    · simp at hm
  · intro a b ⟨f, p, dyn, hl, hm⟩
    rcases exFs3_lookup a f hl with ⟨rfl, rfl⟩ | ⟨rfl, rfl⟩
    · simp at hm; obtain ⟨rfl, _, _⟩ := hm; decide
    · simp at hm
  · intro a f n p dyn g hl hm hg
    rcases exFs3_lookup a f hl with ⟨rfl, rfl⟩ | ⟨rfl, rfl⟩
    · simp at hm; obtain ⟨rfl, rfl, _⟩ := hm
      rcases exFs3_lookup 1 g hg with ⟨h, _⟩ | ⟨_, rfl⟩
      · cases h
      · rfl
    · simp at hm

example : RootOk (.pluginFile .markup) exFs3 0 :=
  ⟨⟨_, rfl, rfl⟩, by intro c s own h; cases h⟩

example : (run 2 2 ⟨.dflt, .dflt, .str ['O', 'f', 'F'], false⟩ (.pluginFile .markup) exFs3 0 []).err
    = some (.syntax 1) := by decide +kernel

/-! ### the bounded loader cache: templates evicted and parsed again

  The graph theorems above run on a loader whose cache never evicts (`ExecGraph.load`).  The
  three below are about `ExecLru` — `max_cache_size = cap` with least-recently-used eviction, for
  **every** `cap` (0 and 1 included), without assuming fewer files than the cache bound.
  `_prepared` memoisation only removes loader calls; the model asks the loader on every
  `generate()`, i.e. it re-parses at least as often as the code. -/
section Lru
open Genshi.Exec

/-- **Disabled on every later load, whatever was evicted.**  Through a loader whose flag is off,
    any history of load-and-render calls — any names, asked for in any class, over any include
    graph (cycles, diamonds, both include modes), with any cache bound — never moves the sentinel:
    a template that was loaded before, evicted and is parsed again is parsed under the same flag. -/
theorem lru_history_disabled_no_exec (cap fuel pf : Nat) (fs : FS) (ar : Bool) (hist : List (Nat × Cls)) :
    (runHistoryB cap fuel pf fs (st0 false ar) hist).1.sentinel = [] :=
  (runHistoryB_clean cap fuel pf fs hist _ (st0_mclean fs ar)).2

/-- … and the cache never holds a template with a code block, at any point of any history: every
    cached template is the code-free parse of the file of its name. -/
theorem lru_cache_stays_code_free (cap fuel pf : Nat) (fs : FS) (ar : Bool) (hist : List (Nat × Cls)) :
    ∀ p ∈ (runHistoryB cap fuel pf fs (st0 false ar) hist).1.cache, noCode p.2.items = true ∧
      ∃ f, fs.lookup p.1.1 = some f ∧ p.2.items = f.items :=
  (runHistoryB_clean cap fuel pf fs hist _ (st0_mclean fs ar)).1.2

/-- **Loading such a template raises, also later.**  After any such history, loading a file that
    contains a code block fails — never loaded, or loaded-and-rejected before, or (for its code-free
    neighbours) evicted in between, it makes no difference; asked for in the language it is
    written in, the error is the `TemplateSyntaxError` of that file. -/
theorem lru_later_load_rejects_code (cap fuel pf : Nat) (fs : FS) (ar : Bool) (hist : List (Nat × Cls))
    (name : Nat) (c : Cls) (abs : Bool) (f : File) (hf : fs.lookup name = some f)
    (hcode : noCode f.items = false) :
    ∃ e, loadB cap fs (runHistoryB cap fuel pf fs (st0 false ar) hist).1 name c abs = .error e ∧
      (f.syn = c → e = .syntax name) :=
  loadB_code_fails cap fs _ name c abs f (runHistoryB_clean cap fuel pf fs hist _ (st0_mclean fs ar)).1 hf hcode

-- non-vacuity: bound 1, three files; 0 includes 1, 2 holds a code block.  Loading 0 caches 1 then
-- 0 (1 is evicted); loading 1 again re-parses it; 2 is rejected every time; with the flag on the
-- block of 2 runs.
def lruFs : FS := [(0, ⟨.markup, [.text 1, .incl 1 .same false]⟩), (1, ⟨.markup, [.text 2]⟩),
                   (2, ⟨.markup, [.code 9 1]⟩)]
example : (runHistoryB 1 5 5 lruFs (st0 false false) [(0, .markup), (1, .markup), (2, .markup), (0, .markup), (2, .markup)]).2 =
    [none, none, some (.syntax 2), none, some (.syntax 2)] := by decide +kernel
example : (runHistoryB 1 5 5 lruFs (st0 false false) [(0, .markup), (1, .markup), (2, .markup)]).1.cache.map (·.1.1) = [1] := by
  decide +kernel
example : (runHistoryB 1 5 5 lruFs (st0 true false) [(0, .markup), (2, .markup)]).1.sentinel = [9] := by decide +kernel
end Lru


/-! ### template objects by SHAPE — every placement of a code block × every way a template
    object comes into being (`Genshi/Gen/ExecShape.lean`, regenerated from the code on every run)

  The recursive definition of "the parsed stream contains an EXEC event at any depth" is
  `hasExecL` (`Genshi/Model/ExecShapeBase.lean`: through SUB bodies and include fallbacks). -/
section Shapes
open Genshi.Gen.ExecShape

/-- **with the flag off no template object whose stream holds a code block exists along any reach
    path**: for every configuration, every reach (root of any kind, any number of include steps
    with any parse mode) under a disabled root, and every probed shape of the template reached
    (code block at top level, in prolog / epilog, deep in elements, after long content, inside
    every directive kind, nested to depth 4, inside `xi:fallback`): of all template objects that
    exist afterwards (root, includer, anything in a loader cache) none has an EXEC event at any
    depth, the block did not run, bringing the template into being raised a template syntax error,
    and no compiled suite sits anywhere in the object graph.  A guard that depends on the shape
    (a flat scan, a guard in one directive's parser, a guard that only looks at short streams)
    breaks this at the row of that shape. -/
theorem disabled_no_exec_object (cfg : Config) (r : Reach) (k : Nat) (row : ShapeRow)
    (hd : r.rootOf.disabled cfg) (h : reachRow cfg r k = some row) :
    (∀ s ∈ row.objects, hasExecL s = false) ∧ row.ran = false ∧ row.err = .syntax ∧
      row.deepSuite = false :=
  ShapeRow.offOk_spec (reachRow_disabled_offOk cfg r k row hd h)

/-- the same for **every way probed** — also those that are not reach paths of the model:
    `_instantiate` called directly, dynamic hrefs, includes of includes, includes reached through
    a fallback, the implicit loader, and pickle round trips of the template, of an including
    template before its first render, and of the loader -/
theorem shapes_disabled_no_exec_object (row : ShapeRow) (hm : row ∈ shapeRows) (hf : row.flag = false) :
    (∀ s ∈ row.objects, hasExecL s = false) ∧ row.ran = false ∧ row.err = .syntax ∧
      row.deepSuite = false := by
  have := List.all_eq_true.mp shapeRows_off_check row hm
  rw [hf] at this
  exact ShapeRow.offOk_spec this

/-- the probes are meaningful: with the flag on, every shape in every way does run its block, the
    template object exists and its stream holds the EXEC event (old-style text templates have no
    code blocks: a syntax error under both flag values) -/
theorem shapes_enabled_exec_exists (row : ShapeRow) (hm : row ∈ shapeRows) (hf : row.flag = true) :
    (row.cls ≠ .oldtext → (∃ s ∈ row.objects, hasExecL s = true) ∧ row.ran = true ∧ row.err = .none) ∧
    (row.cls = .oldtext → row.ran = false ∧ row.err = .syntax) := by
  have := (row.sound_of_mem hm).1
  simp only [hf, if_true, ShapeRow.onOk] at this
  constructor
  · intro hc
    rw [if_neg hc] at this
    simp only [ShapeRow.execExists, Bool.and_eq_true, List.any_eq_true, decide_eq_true_eq] at this
    exact ⟨this.1.1.1, this.1.1.2, this.1.2⟩
  · intro hc
    rw [if_pos hc] at this
    exact ⟨(ShapeRow.offOk_spec this).2.1, (ShapeRow.offOk_spec this).2.2.1⟩

/-- the recursive definition agrees with the real object graph: in every probe, some template
    object's skeleton holds an EXEC event at some depth exactly when a generic walk of the object
    graph (dicts, sequences, `__dict__`, `__slots__`) met a compiled `Suite` -/
theorem skeleton_sees_every_suite (row : ShapeRow) (hm : row ∈ shapeRows) :
    row.execExists = row.deepSuite :=
  (row.sound_of_mem hm).2

def someOn (c : Cls) (p : ShapeRow → Bool) : Bool :=
  shapeRows.any fun r => decide (r.cls = c) && r.flag && p r

/-- the shapes are not all flat: for markup and new-style text templates there are probed objects
    whose code block a scan of the top level does not see (it sits in a SUB body), objects with a
    block nested at depth ≥ 4, and — markup — objects whose block sits in an include fallback
    that survives into the prepared stream -/
theorem shapes_cover_nesting :
    someOn .markup (fun r => r.objects.any fun s => hasExecL s && !flatExec s) = true ∧
    someOn .newtext (fun r => r.objects.any fun s => hasExecL s && !flatExec s) = true ∧
    someOn .markup (fun r => decide (4 ≤ r.depth)) = true ∧
    someOn .newtext (fun r => decide (4 ≤ r.depth)) = true ∧
    someOn .markup (fun r => r.objects.any fun s => s.any fun e =>
      match e with | .incl fb => hasExecL fb | _ => false) = true := by
  simp only [someOn, shapeRows, List.any_append]
  decide +kernel

/-- the ways in which every shape is probed, per class -/
def primaryWays : Cls → List Way
  | .markup => [.ctor .str true, .load false, .incl .same false, .incl .same true, .incl .xml false,
      .pluginString, .pickled]
  | .newtext => [.ctor .str true, .load false, .incl .same false, .incl .same true, .incl .text true,
      .pluginString, .pickled]
  | .oldtext => [.ctor .str true, .load false, .incl .same false, .incl .same true, .pluginString, .pickled]

/-- every way of the vocabulary that exists for the class -/
def allWays : Cls → List Way
  | .markup => [.ctor .str true, .ctor .str false, .ctor .bytes true, .ctor .bytes false, .ctor .file true,
      .ctor .file false, .ctor .stream true, .ctor .stream false, .load false, .load true, .instantiate,
      .incl .same false, .incl .same true, .incl .xml false, .incl .xml true, .inclDyn .same, .inclDyn .xml,
      .inclDeep false, .inclDeep true, .inclFallback false, .inclFallback true, .inclOwn, .pluginFile,
      .pluginString, .pickled, .pickledHost, .pickledLoader]
  | .newtext => [.ctor .str true, .ctor .str false, .ctor .bytes true, .ctor .bytes false, .ctor .file true,
      .ctor .file false, .load false, .load true, .instantiate,
      .incl .same false, .incl .same true, .incl .text false, .incl .text true, .inclDyn .same, .inclDyn .text,
      .inclDeep false, .inclDeep true, .inclOwn, .pluginFile, .pluginString, .pickled, .pickledHost,
      .pickledLoader]
  | .oldtext => [.ctor .str true, .ctor .str false, .ctor .bytes true, .ctor .bytes false, .ctor .file true,
      .ctor .file false, .load false, .load true, .instantiate, .incl .same false, .incl .same true,
      .inclDeep false, .inclDeep true, .inclOwn, .pluginFile, .pluginString, .pickled, .pickledHost,
      .pickledLoader]

def shapesOf (c : Cls) (w : Way) (b : Bool) : List Nat :=
  (shapeRows.filter fun r => decide (r.cls = c) && (r.way.code == w.code) && (r.flag == b)).map (·.shape)

def rowsOf (c : Cls) (b : Bool) : List ShapeRow :=
  shapeRows.filter fun r => decide (r.cls = c) && (r.flag == b)

theorem shapesOf_eq (c : Cls) (w : Way) (b : Bool) :
    shapesOf c w b = ((rowsOf c b).filter fun r => r.way.code == w.code).map (·.shape) := by
  rw [rowsOf, List.filter_filter, shapesOf]
  congr 2
  funext r
  rw [Bool.and_right_comm, Bool.and_comm]

theorem shapesOf_true (c : Cls) (w : Way) : shapesOf c w true = shapesOf c w false :=
  filter_paired c w.code shapeRows shapeRows_paired

theorem someOn_eq (c : Cls) (p : ShapeRow → Bool) : someOn c p = (rowsOf c true).any p := by
  rw [rowsOf, List.any_filter, someOn]
  simp only [beq_true]

/-- coverage of the probe set (so that the statements above are not vacuous): every shape of every
    class is probed exactly once, under both flag values, in each primary way; in **every** way at
    least five shapes (three for old-style text) are, the same under both flag values — among
    them, for markup and new-style text, one with the block nested at depth ≥ 3 -/
theorem shapes_probed (c : Cls) :
    ((primaryWays c).all fun w => shapesOf c w false == List.range (shapeCount c) &&
      shapesOf c w true == List.range (shapeCount c)) = true ∧
    ((allWays c).all fun w =>
      decide ((if c = .oldtext then 3 else 5) ≤ (shapesOf c w false).length) &&
      (shapesOf c w false == shapesOf c w true) &&
      (decide (c = .oldtext) || someOn c fun r => (r.way.code == w.code) && decide (3 ≤ r.depth))) = true ∧
    (if c = .oldtext then 3 else 18) ≤ shapeCount c := by
  -- the flag-on shapes are the flag-off shapes (the probes come in pairs); per way only the
  -- flag-off probes of the class are scanned, a sub-table that is the same term for every way
  -- (so it is evaluated once), and the three classes are decided together over one table
  simp only [shapesOf_true]
  simp only [shapesOf_eq, someOn_eq]
  revert c
  open Listed in decide +kernel

/-- **templates without code blocks render identically whether execution is allowed or not**, for
    every shape (the block replaced by a plain expression: all directive kinds, nesting,
    fallbacks) of markup, new-style and old-style text templates, constructed directly, loaded,
    included (inline and run-time mode, `parse="text"` / `"xml"`, dynamic href), through plugins,
    and after pickling: the output is the same, there is no error, and no compiled suite exists
    under either flag value -/
theorem plain_shapes_flag_independent (row : PlainRow) (hm : row ∈ plainRows) :
    row.outOff = row.outOn ∧ row.outOff.isSome = true ∧ row.suiteOff = false ∧ row.suiteOn = false := by
  have key : plainRows.all (fun r => decide (r.outOff = r.outOn) && r.outOff.isSome && !r.suiteOff && !r.suiteOn) = true := by
    decide +kernel
  have := List.all_eq_true.mp key row hm
  simp only [Bool.and_eq_true, decide_eq_true_eq, Bool.not_eq_true'] at this
  exact ⟨this.1.1.1, this.1.1.2, this.1.2, this.2⟩

/-- **pickling keeps the flags**: a template that went through `pickle` has the flag it was
    constructed with and holds a loader with the flag its loader had (so that what it includes
    later is still governed by it); a pickled `TemplateLoader` keeps its flag -/
theorem pickle_preserves_flags (c : Cls) (q : Req) (ld : Option Req) :
    pickleFlags c q ld = (directFlag c .str q ld, directLoaderFlag c .str q ld) ∧
    pickleLoaderFlag q = loaderFlag .markup false q ∧ pickleLoaderFlag q = some (want q) := by
  revert c q ld
  open Listed in decide +kernel

/-- a disabled root three includes deep (`parse="text"` at the end) with the block four directives
    deep: the probe exists, and it is a rejection -/
example : (reachRow ⟨.dflt, .off, .absent, true⟩ (.incl (.incl (.root (.load .markup false)) .same) .text) 15).map
    (fun r => (r.cls, r.err, r.ran)) = some (.newtext, .syntax, false) := by
  simp only [reachRow, findRow, shapeRows, List.find?_append]
  decide +kernel
example : (Reach.incl (.incl (.root (.load .markup false)) .same) .text).rootOf.disabled ⟨.dflt, .off, .absent, true⟩ := rfl
/-- with the loader's flag on the same reach gives an object with an EXEC event -/
example : (reachRow ⟨.dflt, .on, .absent, true⟩ (.incl (.incl (.root (.load .markup false)) .same) .text) 15).map
    (fun r => (r.execExists, r.ran)) = some (true, true) := by
  simp only [reachRow, findRow, shapeRows, List.find?_append]
  decide +kernel
example : hasExecL [.ev, .sub [.ev, .incl [.sub [.exec]]]] = true ∧ flatExec [.ev, .sub [.ev, .incl [.sub [.exec]]]] = false ∧
    execDepthL [.ev, .sub [.ev, .incl [.sub [.exec]]]] = 4 := by decide +kernel
example : ∃ r ∈ shapeRows, r.flag = false ∧ r.way = .pickledHost := by decide +kernel
example : ∃ r ∈ plainRows, r.way = .incl .text true ∧ r.outOff.isSome := by decide +kernel

end Shapes


/-! ### the bounded loader cache with `_prepared` memoisation as state
    (`Genshi/Model/ExecMemo.lean`: template objects have an identity and keep their prepared stream;
    tied to the real loader by the stream `memo-history`, cache CONTENTS included) -/
section Memo

/-- through a loader whose flag is off, any history of load-and-render calls (any names, any class
    asked for, any `max_cache_size` incl. 0 and 1, any graph, both include modes, any fuel) never
    moves the sentinel — also when templates are prepared once and kept, prepared as part of another
    template, evicted while being prepared, or parsed again under the same key -/
theorem memo_history_disabled_no_exec (cap fuel pf : Nat) (fs : FS) (ar : Bool) (hist : List (Nat × Cls)) :
    (runHistoryM cap fuel pf fs (mst0 false ar) hist).sentinel = [] :=
  (runHistoryM_clean cap fuel pf fs hist _ (mst0_clean fs ar)).2

/-- at the end of every such history every cached template object is free of code blocks — its
    parsed items and, when it is prepared, its memoised prepared stream (which holds the spliced
    streams of everything it inlined) — and is the parse of the file of its name -/
theorem memo_cache_stays_code_free (cap fuel pf : Nat) (fs : FS) (ar : Bool) (hist : List (Nat × Cls)) :
    ∀ e ∈ (runHistoryM cap fuel pf fs (mst0 false ar) hist).cache,
      (noCode e.2.t.items = true ∧ ∀ ps, e.2.prep = some ps → pNoCode ps = true) ∧
      ∃ f, fs.lookup e.1.1 = some f ∧ e.2.t.items = f.items :=
  (runHistoryM_clean cap fuel pf fs hist _ (mst0_clean fs ar)).1.2

/-- after every such history, whatever a later load returns — a cached, possibly prepared object or
    a fresh parse — is free of code blocks, and the load does not move the sentinel -/
theorem memo_later_load_code_free (cap fuel pf : Nat) (fs : FS) (ar : Bool) (hist : List (Nat × Cls))
    (name : Nat) (c : Cls) (abs : Bool) (st' : MSt) (o : MT)
    (h : loadM cap fs (runHistoryM cap fuel pf fs (mst0 false ar) hist) name c abs = .ok (st', o)) :
    noCode o.t.items = true ∧ (∀ ps, o.prep = some ps → pNoCode ps = true) ∧ st'.sentinel = [] := by
  obtain ⟨hc, hs⟩ := runHistoryM_clean cap fuel pf fs hist _ (mst0_clean fs ar)
  obtain ⟨_, ho, hs'⟩ := loadM_clean cap fs _ st' name c abs o hc h
  exact ⟨ho.1, ho.2, hs'.trans hs⟩

/-- **a later load rejects code**: after every such history, loading a file that contains a code
    block — never loaded, or loaded, evicted and asked for again, under any bound — fails (never a
    cached or prepared object); asked for in the language it is written in, with the
    `TemplateSyntaxError` of that file -/
theorem memo_later_load_rejects_code (cap fuel pf : Nat) (fs : FS) (ar : Bool) (hist : List (Nat × Cls))
    (name : Nat) (c : Cls) (abs : Bool) (f : File) (hf : fs.lookup name = some f) (hcode : noCode f.items = false) :
    ∃ e, loadM cap fs (runHistoryM cap fuel pf fs (mst0 false ar) hist) name c abs = .error e ∧
      (f.syn = c → e = .syntax name) :=
  loadM_code_fails cap fs _ name c abs f (runHistoryM_clean cap fuel pf fs hist _ (mst0_clean fs ar)).1 hf hcode

-- non-vacuity: memoisation is state.  0 inlines 1 (bound 2): after rendering 0 twice the cache is
-- [0, 1] with 0 prepared; the second render performed no load (1 was not touched again: with 1
-- loaded in between it would sit in front otherwise) — and with the flag on a block runs.
def memoFs : FS := [(0, ⟨.markup, [.text 1, .incl 1 .same false]⟩), (1, ⟨.markup, [.text 2]⟩),
                    (2, ⟨.markup, [.code 9 1]⟩)]
example : (runHistoryM 2 5 5 memoFs (mst0 false false) [(0, .markup), (1, .markup), (0, .markup)]).cache.map
    (fun e => (e.1.1, e.2.prep.isSome)) = [(0, true), (1, true)] := by decide +kernel
example : (runHistoryM 2 5 5 memoFs (mst0 false true) [(0, .markup), (1, .markup), (0, .markup)]).cache.map
    (fun e => (e.1.1, e.2.prep.isSome)) = [(1, true), (0, true)] := by decide +kernel
example : (runHistoryM 1 5 5 memoFs (mst0 true false) [(0, .markup), (2, .markup), (2, .markup)]).sentinel = [9, 9] := by
  decide +kernel
example : (runHistoryM 1 5 5 memoFs (mst0 false false) [(0, .markup), (2, .markup), (2, .markup)]).sentinel = [] := by
  decide +kernel

end Memo

end Genshi.Props.C14
