/-
  C15 — The loader cache always serves the current template and stays within its
  bound; `LRUCache` is a bounded LRU map under every operation sequence.
  Property theorems; the longer proofs live in `Genshi/Lemmas/Lru*.lean` and `Loader*.lean`.

  OBLIGATIONS (checked by the harness):
    lru_wf_preserved lru_wf_run lru_refines lru_refines_run lru_no_crash
    bounded lru_bounded evicts_least_recent set_with_room_keeps_all get_after_set
    iter_is_recency_order hit_moves_to_front set_moves_to_front reads_do_not_change
    wf_means inherited_get_misses
    load_parses_first_on_path served_or_parsed reload_current_partial
    reload_current_full_fails no_reload_first_version_until_evicted
    same_object_while_unchanged callback_once_per_parse callback_once_per_load
    failed_load_is_noop lock_balanced loader_cache_bounded
    model_alphabet_is_overridden_interface default_loader_bounded
    recency_is_last_use_order evicted_is_least_recently_used wf_check_decides_wf
    reload_current_noshadow_partial cache_holds_most_recently_used
    load_after_eviction_parses loader_cache_is_wellformed_lru
    racing_write_is_linearizable racing_history_is_plain_history reload_current_racing_partial
    code_takes_mtime_of_opened_file stat_after_open_serves_stale
    load_outcome_is_first_on_path reload_current_full_iff_noshadow
    reload_current_noshadow_racing_partial mtime_reuse_serves_stale
    pathload_outcome_is_first_on_path pathload_failed_load_is_noop pathload_cache_keys_unique
    pathload_touches_only_its_key pathload_uptodate_none_always_reloads inplace_rewrite_is_noticed
-/
import Genshi.Lemmas.Lru
import Genshi.Lemmas.LruAbs
import Genshi.Lemmas.LruTime
import Genshi.Lemmas.LruCheck
import Genshi.Lemmas.Loader
import Genshi.Lemmas.LoaderInv
import Genshi.Lemmas.LoaderLru
import Genshi.Lemmas.LoaderRace
import Genshi.Gen.Loader
import Genshi.Lemmas.LoaderPath
namespace Genshi.Props.C15
open Genshi.Lru
variable {K V : Type} [DecidableEq K]

/-- Well-formedness (doubly-linked consistency; `_dict` = the nodes reachable from `head` =
    those reachable backwards from `tail`; no key twice — spelled out in `wf_means`) is
    preserved by every operation of the class, and no operation crashes, for every capacity. -/
theorem lru_wf_preserved (c : CLru K V) (op : Op K V) (h : Wf c) :
    ∃ c' o, cstep c op = some (c', o) ∧ Wf c' := by
  obtain ⟨ids, hr⟩ := h
  obtain ⟨c', ids', hs, hr', _⟩ := cstep_refines hr op
  exact ⟨c', _, hs, ids', hr'⟩

/-- … hence after every operation sequence from the empty cache, for every capacity
    (0 and 1 included). -/
theorem lru_wf_run (cap : Nat) (d : Node K V) (ops : List (Op K V)) :
    ∃ c' os, crun (empty cap d) ops = some (c', os) ∧ Wf c' := by
  obtain ⟨c', ids', hs, hr', _⟩ := crun_empty cap d ops
  exact ⟨c', _, hs, ids', hr'⟩

/-- Refinement, one step: the abstraction function commutes with every operation and the
    outputs are equal. -/
theorem lru_refines (c : CLru K V) (op : Op K V) (h : Wf c) :
    ∃ a, abs c = some a ∧
      ∃ c', cstep c op = some (c', (astep a op).2) ∧ abs c' = some (astep a op).1 := by
  obtain ⟨ids, hr⟩ := h
  obtain ⟨c', ids', hs, hr', ha⟩ := cstep_refines hr op
  exact ⟨absOf c ids, hr.abs, c', hs, by rw [hr'.abs, ha]⟩

/-- Refinement, every operation sequence and every capacity: the concrete cache started
    empty yields exactly the outputs of the abstract bounded LRU map and represents its
    final recency list. -/
theorem lru_refines_run (cap : Nat) (d : Node K V) (ops : List (Op K V)) :
    ∃ c', crun (empty cap d) ops = some (c', (arun (aempty cap) ops).2) ∧
      abs c' = some (arun (aempty cap) ops).1 := by
  obtain ⟨c', ids', hs, hr', ha, _⟩ := crun_empty cap d ops
  exact ⟨c', hs, by rw [hr'.abs, ha]⟩

/-- No `AttributeError` on `None`, no `KeyError` from `del`, no endless walk. -/
theorem lru_no_crash (cap : Nat) (d : Node K V) (ops : List (Op K V)) :
    crun (empty cap d) ops ≠ none := by
  obtain ⟨c', hs, _⟩ := lru_refines_run cap d ops
  rw [hs]; simp

/-- The abstract map stays within its bound and never holds a key twice. -/
theorem bounded (cap : Nat) (ops : List (Op K V)) :
    (arun (aempty cap : ALru K V) ops).1.items.length ≤ cap ∧
    (akeys (arun (aempty cap : ALru K V) ops).1.items).Nodup := by
  obtain ⟨h1, h2⟩ := arun_awf (aempty_awf cap) ops
  exact ⟨Nat.le_trans h1 (Nat.le_of_eq (arun_cap (aempty cap) ops)), h2⟩

/-- … and so does the real structure: `len(cache) ≤ capacity` after every sequence. -/
theorem lru_bounded (cap : Nat) (d : Node K V) (ops : List (Op K V)) (c' : CLru K V)
    (os : List (Out K V)) (h : crun (empty cap d) ops = some (c', os)) : len c' ≤ cap := by
  obtain ⟨c'', _, hs, _, _, hlen⟩ := crun_empty cap d ops
  rw [h] at hs
  cases hs
  exact hlen

/-- Least recently used first: storing a new key into a full cache drops exactly the last
    entry of the recency list. -/
theorem evicts_least_recent (a : ALru K V) (k : K) (v : V) (hk : alookup k a.items = none)
    (hfull : a.items.length = a.cap) (hpos : 0 < a.cap) :
    (astep a (.set k v)).1.items = (k, v) :: a.items.dropLast := by
  simp only [astep, aerase_of_not_mem (alookup_eq_none.mp hk)]
  obtain ⟨n, hn⟩ : ∃ n, a.cap = n + 1 := ⟨a.cap - 1, by omega⟩
  rw [hn, List.take_succ_cons, List.dropLast_eq_take, hfull, hn]
  rfl

theorem set_with_room_keeps_all (a : ALru K V) (k : K) (v : V) (hk : alookup k a.items = none)
    (hroom : a.items.length < a.cap) :
    (astep a (.set k v)).1.items = (k, v) :: a.items := by
  simp only [astep, aerase_of_not_mem (alookup_eq_none.mp hk)]
  exact List.take_of_length_le (by simp only [List.length_cons]; omega)

theorem get_after_set (a : ALru K V) (k : K) (v : V) (hpos : 0 < a.cap) :
    (astep (astep a (.set k v)).1 (.get k)).2 = .val v := by
  have := alookup_set_self a k v
  rw [if_neg (Nat.ne_of_gt hpos)] at this
  simp only [astep] at this ⊢
  simp only [this]

/-- "Recently used" in terms of the history: number the operations; a key is *used* by a store
    and by a hit.  After every operation sequence the recency list is strictly ordered by the
    time of last use, most recent first, and `trun` is `arun` with that bookkeeping. -/
theorem recency_is_last_use_order (cap : Nat) (ops : List (Op K V)) :
    (trun (tinit cap : Timed K V) ops).a = (arun (aempty cap) ops).1 ∧
    (trun (tinit cap : Timed K V) ops).a.items.Pairwise
      (fun p q => (trun (tinit cap : Timed K V) ops).last q.1 < (trun (tinit cap : Timed K V) ops).last p.1) :=
  ⟨trun_a _ ops, (trun_spec _ ops (tinit_spec cap)).1.1⟩

/-- … so the entry an eviction drops (`evicts_least_recent`: the last one) is the one whose last
    use is the oldest of all cached entries. -/
theorem evicted_is_least_recently_used (cap : Nat) (ops : List (Op K V)) (pre : List (K × V)) (p : K × V)
    (h : (trun (tinit cap : Timed K V) ops).a.items = pre ++ [p]) :
    ∀ q ∈ pre, (trun (tinit cap : Timed K V) ops).last p.1 < (trun (tinit cap : Timed K V) ops).last q.1 :=
  last_is_least_recent (trun_spec _ ops (tinit_spec cap)).1 pre p h

/-- The full specification of the bounded LRU map in terms of the history: after every
    operation sequence the cache holds the most recently used keys — every key that was ever
    used (stored, or hit) but is not cached was last used before every cached key; keys are only
    missing when the cache is full; and the cache never exceeds its capacity. -/
theorem cache_holds_most_recently_used (cap : Nat) (ops : List (Op K V)) :
    (trun (tinit cap : Timed K V) ops).a = (arun (aempty cap) ops).1 ∧
    (∀ k p, 0 < (trun (tinit cap : Timed K V) ops).last k →
        k ∉ akeys (trun (tinit cap : Timed K V) ops).a.items →
        p ∈ (trun (tinit cap : Timed K V) ops).a.items →
        (trun (tinit cap : Timed K V) ops).last k < (trun (tinit cap : Timed K V) ops).last p.1) ∧
    ((trun (tinit cap : Timed K V) ops).a.items.length = cap ∨
      ∀ k, 0 < (trun (tinit cap : Timed K V) ops).last k → k ∈ akeys (trun (tinit cap : Timed K V) ops).a.items) ∧
    (trun (tinit cap : Timed K V) ops).a.items.length ≤ cap := by
  have hcap : (trun (tinit cap : Timed K V) ops).a.cap = cap := by
    rw [trun_a]; exact arun_cap (aempty cap) ops
  have hc : (trun (tinit cap : Timed K V) ops).a.items.length ≤ cap := by
    rw [trun_a]; exact (bounded cap ops).1
  obtain ⟨h1, h2⟩ := (trun_spec _ ops (tinit_spec (K := K) (V := V) cap)).most_recent (by rw [hcap]; exact hc)
  rw [hcap] at h2
  exact ⟨trun_a _ ops, h1, h2, hc⟩

/-- `__iter__` yields the keys most recently used first … -/
theorem iter_is_recency_order (a : ALru K V) : astep a .iter = (a, .keys (akeys a.items)) := rfl

/-- … where a hit makes its key the most recent and keeps the order of the others, -/
theorem hit_moves_to_front (a : ALru K V) (k : K) (v : V) (h : alookup k a.items = some v) :
    akeys (astep a (.get k)).1.items = k :: (akeys a.items).filter (· ≠ k) := by
  simp only [astep, h]
  show k :: akeys (aerase k a.items) = _
  rw [akeys_aerase]

/-- … and so does a store (cut at the capacity). -/
theorem set_moves_to_front (a : ALru K V) (k : K) (v : V) :
    akeys (astep a (.set k v)).1.items = (k :: (akeys a.items).filter (· ≠ k)).take a.cap := by
  simp only [astep]
  rw [akeys_take]
  show (k :: akeys (aerase k a.items)).take a.cap = _
  rw [akeys_aerase]

/-- `in`, `len`, iteration and a miss leave the map as it was. -/
theorem reads_do_not_change (a : ALru K V) (k : K) :
    (astep a (.contains k)).1 = a ∧ (astep a .len).1 = a ∧ (astep a .iter).1 = a ∧
    (alookup k a.items = none → (astep a (.get k)).1 = a) :=
  ⟨rfl, rfl, rfl, fun h => by simp [astep, h]⟩

/-- What `Wf` means in terms of walks over the real fields. -/
theorem wf_means (c : CLru K V) (h : Wf c) : ∃ ids : List Id,
    walkNxt c.heap (c.size + 1) c.head = some ids ∧
    walkPrv c.heap (c.size + 1) c.tail = some ids.reverse ∧
    ids.Nodup ∧ (ids.map fun i => (c.heap i).key).Nodup ∧ c.size = ids.length ∧
    (∀ i ∈ ids, c.dict (c.heap i).key = some i) ∧
    (∀ k i, c.dict k = some i → i ∈ ids ∧ (c.heap i).key = k) := by
  obtain ⟨ids, hr⟩ := h
  exact ⟨ids, hr.meaning⟩

/-- The executable check (what `gdrv` reports with every dump and what the oracle's
    `structure_ok` tests on the real object: forward walk = reverse of backward walk, no node
    twice, `_dict` = the walked nodes, `len` = their number) is equivalent to `Wf`, on any key
    universe that covers the dictionary. -/
theorem wf_check_decides_wf (c : CLru K V) (keys : List K)
    (hcov : ∀ k i, c.dict k = some i → k ∈ keys) : wfCheck c keys = true ↔ Wf c :=
  ⟨fun h => wfCheck_sound h hcov, fun ⟨_, hr⟩ => hr.wfCheck keys⟩

/-- Known finding C15-inherited-dict: `get/keys/pop/__delitem__/…` are not overridden and act
    on the base `dict`, which `LRUCache` never fills; `cache.get(k)` misses a cached key. -/
theorem inherited_get_misses :
    ∃ (c : CLru Nat Nat) (os : List (Out Nat Nat)),
      crun (empty 3 ⟨none, none, 0, 0⟩) [.set 0 10] = some (c, os) ∧
      contains c 0 = true ∧ inheritedGet c 0 = none := by
  refine ⟨_, _, rfl, by decide, rfl⟩

/-- the methods the model's operations stand for -/
def modelledMethods : List (List Char) := [
  ['_', '_', 'c', 'o', 'n', 't', 'a', 'i', 'n', 's', '_', '_'],
  ['_', '_', 'g', 'e', 't', 'i', 't', 'e', 'm', '_', '_'],
  ['_', '_', 'i', 't', 'e', 'r', '_', '_'],
  ['_', '_', 'l', 'e', 'n', '_', '_'],
  ['_', '_', 's', 'e', 't', 'i', 't', 'e', 'm', '_', '_']]

/-- Every operation of the model is a method the class defines itself (if one of them were
    dropped, the base `dict`'s would take over).  Methods the class defines beyond these are
    listed in the evidence by the harness (`unmodelled own methods`). -/
theorem model_alphabet_is_overridden_interface :
    ∀ m ∈ modelledMethods, m ∈ Genshi.Gen.Loader.lruOwnMethods := by decide +kernel

section Loader
open Genshi.Loader

/-- A load that parses (`hparsed`: it took a fresh object identity, which only instantiating a
    template does) returns a template made from the file found first on the search path
    of that call, with the content the file has now (`firstOnPath` is the specification:
    the first path item under which the name exists). -/
theorem load_parses_first_on_path (cfg : Cfg) (fs : FS) (s s' : LState) (r : Req) (t : Tmpl)
    (h : load cfg fs s r = some (s', .ok t)) (hparsed : s'.nextObj = s.nextObj + 1)
    (hf : r.fault = .none) :
    ∃ key entries isabs f, resolve cfg.path.isEmpty r = some key ∧
      searchPath cfg r key = some (entries, isabs) ∧
      firstOnPath fs key entries = some (t.loc, f) ∧ f.bad = false ∧ t.content = f.content ∧
      t.obj = s.nextObj := by
  obtain ⟨key, hk, ho⟩ := load_outcome h
  cases ho with
  | served =>
    -- served from the cache: that leaves the identity counter alone
    rw [(touched_fields s key).2.1] at hparsed
    omega
  | parsed _ hsp hw _ hb => exact ⟨key, _, _, _, hk, hsp, firstOnPath_of_found (hf ▸ hw), hb, rfl, rfl⟩

/-- The same with the faults of load functions in the specification (`firstOnPathF`: a load
    function raising IOError is passed over, one raising anything else ends the walk), and as a
    complete case analysis: a load that is not answered from the cache — the key is not cached
    (never loaded, evicted) or, with automatic reloading, its file changed — ends exactly as the
    walk over the search path of that call says: no search path configured; `TemplateNotFound`;
    the load function's exception; for the file found first its syntax error, the callback's
    exception, or the template parsed from its current content with a fresh identity. -/
theorem load_outcome_is_first_on_path (cfg : Cfg) (fs : FS) (s s' : LState) (r : Req) (res : Res) (key : Key)
    (hk : resolve cfg.path.isEmpty r = some key)
    (hno : alookup key s.cache.items = none ∨ (cfg.autoReload = true ∧ stillCurrent fs s key = false))
    (h : load cfg fs s r = some (s', res)) :
    (searchPath cfg r key = none ∧ res = .err .noSearchPath) ∨
    ∃ entries isabs, searchPath cfg r key = some (entries, isabs) ∧
      match firstOnPathF fs r.fault key entries with
      | .nothing => res = .err .notFound
      | .raised => res = .err .loadFunc
      | .file loc f =>
        (f.bad = true ∧ res = .err .syntaxError) ∨
        (f.bad = false ∧ cfg.hasCallback = true ∧ r.cbRaise = true ∧ res = .err .callback) ∨
        (f.bad = false ∧ res = .ok ⟨s.nextObj, loc, f.content, r.cls, r.enc, isabs⟩) :=
  load_by_firstF hk hno h

/-- A returned template is either the cached object (nothing parsed, no callback) or a
    template parsed in this call (a fresh object, stored under the key). -/
theorem served_or_parsed (cfg : Cfg) (fs : FS) (s s' : LState) (r : Req) (t : Tmpl)
    (h : load cfg fs s r = some (s', .ok t)) :
    ∃ key, resolve cfg.path.isEmpty r = some key ∧
    ((alookup key s.cache.items = some t ∧ s'.nextObj = s.nextObj ∧ s'.cbLog = s.cbLog) ∨
     (t.obj = s.nextObj ∧ s'.nextObj = s.nextObj + 1 ∧
       alookup key s'.cache.items = if s.cache.cap = 0 then none else some t)) := by
  obtain ⟨key, hk, hcase⟩ := load_ok h
  refine ⟨key, hk, ?_⟩
  rcases hcase with ⟨hl, _, rfl⟩ | ⟨_, _, _, _, _, _, hobj, _, _, hcache, _, hn⟩
  · exact Or.inl ⟨hl, (touched_fields s key).2.1, (touched_fields s key).2.2.1⟩
  · exact Or.inr ⟨hobj, hn, by rw [hcache, alookup_set_self, touched_cap]⟩

/-- Once a template has been evicted (or was never loaded) the next load parses the file found
    first on the search path now — with or without automatic reloading. -/
theorem load_after_eviction_parses (cfg : Cfg) (fs : FS) (s s' : LState) (r : Req) (t : Tmpl) (key : Key)
    (hk : resolve cfg.path.isEmpty r = some key) (hmiss : alookup key s.cache.items = none)
    (hf : r.fault = .none) (h : load cfg fs s r = some (s', .ok t)) :
    ∃ entries isabs f, searchPath cfg r key = some (entries, isabs) ∧
      firstOnPath fs key entries = some (t.loc, f) ∧ f.bad = false ∧ t.content = f.content ∧
      t.obj = s.nextObj := by
  obtain ⟨key', hk', ho⟩ := load_outcome h
  cases hk.symm.trans hk'
  cases ho with
  | served hs => rw [hmiss] at hs; cases hs
  | parsed _ hsp hw _ hb => exact ⟨_, _, _, hsp, firstOnPath_of_found (hf ▸ hw), hb, rfl, rfl⟩

/-- With automatic reloading, after every history of writes, touches, deletions and loads
    (every modification with a new mtime), a load returns a template that has the current
    content of **the file it came from**.

    Full statement (false, known finding C15-shadow; see `reload_current_full_fails`):
    `… ∃ key entries isabs f, searchPath cfg r key = some (entries, isabs) ∧
        firstOnPath w.fs key entries = some (t.loc, f) ∧ f.content = t.content`
    — the file found first on the search path *now*.  Missing: a file created later under an
    earlier path item (or visible only to a different `relative_to`) is not noticed while the
    cached template's own file is unchanged. -/
theorem reload_current_partial (cfg : Cfg) (har : cfg.autoReload = true) (ops : List HOp) (r : Req)
    (ls' : LState) (t : Tmpl)
    (h : load cfg (hrun cfg (World.init cfg.cap) ops).1.fs (hrun cfg (World.init cfg.cap) ops).1.ls r
          = some (ls', .ok t)) :
    ∃ f, (hrun cfg (World.init cfg.cap) ops).1.fs t.loc = some f ∧ f.content = t.content :=
  load_current (inv_hrun (inv_init cfg.cap) ops) har h

/-- The same gap expressed as an excluding hypothesis (this is the form the generator of the
    loader histories enforces, `gen_loader.reveals_shadow`): if whenever the request would be
    served from the cache the cached template's file is the one found first on the search path
    now (`NoShadow`), then — after every history — the returned template has the current content
    of the file found first on the search path. -/
theorem reload_current_noshadow_partial (cfg : Cfg) (har : cfg.autoReload = true) (ops : List HOp)
    (r : Req) (hf : r.fault = .none) (ls' : LState) (t : Tmpl)
    (hns : NoShadow cfg (hrun cfg (World.init cfg.cap) ops).1 r)
    (h : load cfg (hrun cfg (World.init cfg.cap) ops).1.fs (hrun cfg (World.init cfg.cap) ops).1.ls r
          = some (ls', .ok t)) :
    ∃ key entries isabs f, resolve cfg.path.isEmpty r = some key ∧
      searchPath cfg r key = some (entries, isabs) ∧
      firstOnPath (hrun cfg (World.init cfg.cap) ops).1.fs key entries = some (t.loc, f) ∧
      f.content = t.content :=
  load_current_first (inv_hrun (inv_init cfg.cap) ops) har hf hns h

/-- `NoShadow` is not stronger than necessary: for a successful load with automatic reloading
    (no load-function fault in that call) the full statement — the returned template has the
    current content of the file found first on the search path now — holds **exactly** when
    `NoShadow` does.  The class excluded from `reload_current_noshadow_partial` is the class of
    finding C15-shadow and nothing else. -/
theorem reload_current_full_iff_noshadow (cfg : Cfg) (har : cfg.autoReload = true) (ops : List HOp)
    (r : Req) (hf : r.fault = .none) (ls' : LState) (t : Tmpl)
    (h : load cfg (hrun cfg (World.init cfg.cap) ops).1.fs (hrun cfg (World.init cfg.cap) ops).1.ls r
          = some (ls', .ok t)) :
    (∃ key entries isabs f, resolve cfg.path.isEmpty r = some key ∧
      searchPath cfg r key = some (entries, isabs) ∧
      firstOnPath (hrun cfg (World.init cfg.cap) ops).1.fs key entries = some (t.loc, f) ∧
      f.content = t.content) ↔ NoShadow cfg (hrun cfg (World.init cfg.cap) ops).1 r := by
  constructor
  · rintro ⟨key, entries, isabs, f, hk, hsp, hfp, _⟩ key' t0 hk' hl hcur
    rw [hk] at hk'; cases hk'
    have hs := load_served hk hl (Or.inr hcur)
    rw [hs] at h
    simp only [Option.some.injEq, Prod.mk.injEq, Res.ok.injEq] at h
    obtain ⟨_, rfl⟩ := h
    exact ⟨entries, isabs, f, hsp, hfp⟩
  · intro hns
    exact load_current_first (inv_hrun (inv_init cfg.cap) ops) har hf hns h

def shadowCfg : Cfg := { path := [.dir 0 false, .dir 1 false], autoReload := true, cap := 2 }
def shadowOps : List HOp :=
  [.write ⟨1, false, 0⟩ 100 false, .load { base := 0 }, .write ⟨0, false, 0⟩ 101 false]

/-- Witness that the full statement fails of the model (and of the code: the same history is
    the `input` of finding C15-shadow): after `t0` was loaded from directory 1, a `t0` created
    in directory 0 is first on the path, yet the load returns the cached v100. -/
theorem reload_current_full_fails :
    ∃ ls' t, load shadowCfg (hrun shadowCfg (World.init 2) shadowOps).1.fs
        (hrun shadowCfg (World.init 2) shadowOps).1.ls { base := 0 } = some (ls', .ok t) ∧
      t.content = 100 ∧ t.loc = ⟨1, false, 0⟩ ∧
      (firstOnPath (hrun shadowCfg (World.init 2) shadowOps).1.fs ⟨none, false, 0⟩ shadowCfg.path).map
        (fun p => (p.1, p.2.content)) = some (⟨0, false, 0⟩, 101) := by
  refine ⟨_, _, rfl, rfl, rfl, rfl⟩

/-- Without automatic reloading a cached template is returned as it is — the same object,
    nothing parsed, no callback — whatever happened to the files, as long as it is cached. -/
theorem no_reload_first_version_until_evicted (cfg : Cfg) (har : cfg.autoReload = false)
    (s : LState) (r : Req) (key : Key) (t : Tmpl)
    (hk : resolve cfg.path.isEmpty r = some key) (hc : alookup key s.cache.items = some t)
    (fs : FS) :
    ∃ s', load cfg fs s r = some (s', .ok t) ∧ s'.nextObj = s.nextObj ∧ s'.cbLog = s.cbLog ∧
      s'.utd = s.utd ∧ ∀ k, alookup k s'.cache.items = alookup k s.cache.items := by
  refine ⟨touched s key, load_served hk hc (Or.inl har), ?_, ?_, ?_, alookup_touched s key⟩
  · exact (touched_fields s key).2.1
  · exact (touched_fields s key).2.2.1
  · exact (touched_fields s key).1

/-- With automatic reloading the same object is returned, without parsing, while the file it
    came from has the mtime it was parsed at. -/
theorem same_object_while_unchanged (cfg : Cfg) (s : LState) (r : Req) (key : Key) (t : Tmpl)
    (fs : FS) (loc : Loc) (m : Nat) (f : File)
    (hk : resolve cfg.path.isEmpty r = some key) (hc : alookup key s.cache.items = some t)
    (hu : s.utd key = some (.mtime loc m)) (hf : fs loc = some f) (hm : f.mtime = m) :
    ∃ s', load cfg fs s r = some (s', .ok t) ∧ s'.nextObj = s.nextObj ∧ s'.cbLog = s.cbLog ∧
      s'.parsed = s.parsed := by
  have hsc : stillCurrent fs s key = true := stillCurrent_iff.mpr ⟨loc, f, hm ▸ hu, hf⟩
  refine ⟨touched s key, load_served hk hc (Or.inr hsc), ?_, ?_, ?_⟩
  · exact (touched_fields s key).2.1
  · exact (touched_fields s key).2.2.1
  · exact (touched_fields s key).2.2.2.1

/-- The callback has been called exactly once with every template parsed, in order, and no
    template was parsed twice — after every history. -/
theorem callback_once_per_parse (cfg : Cfg) (hcb : cfg.hasCallback = true) (ops : List HOp) :
    (hrun cfg (World.init cfg.cap) ops).1.ls.cbLog = (hrun cfg (World.init cfg.cap) ops).1.ls.parsed ∧
    (hrun cfg (World.init cfg.cap) ops).1.ls.parsed.Nodup := by
  have := cbInv_hrun (cfg := cfg) (w := World.init cfg.cap)
    ⟨fun _ => rfl, List.nodup_nil, by simp [World.init, LState.init]⟩ ops
  exact ⟨this.same hcb, this.nodup⟩

/-- One load parses at most once, and calls the callback exactly when it parsed. -/
theorem callback_once_per_load (cfg : Cfg) (fs : FS) (s s' : LState) (r : Req) (res : Res)
    (h : load cfg fs s r = some (s', res)) :
    (s'.nextObj = s.nextObj ∧ s'.parsed = s.parsed ∧ s'.cbLog = s.cbLog) ∨
    (s'.nextObj = s.nextObj + 1 ∧ s'.parsed = s.nextObj :: s.parsed ∧
      s'.cbLog = if cfg.hasCallback then s.nextObj :: s.cbLog else s.cbLog) := by
  obtain ⟨_, _, he⟩ := load_effect h
  exact he.counters

/-- A failing load (missing file, syntax error, callback or load function raising, no search
    path) leaves the cached templates, `_uptodate` and the lock as they were; the only trace
    is that the lookup of a cached key counted as a use of it. -/
theorem failed_load_is_noop (cfg : Cfg) (fs : FS) (s s' : LState) (r : Req) (e : Err)
    (h : load cfg fs s r = some (s', .err e)) :
    (∀ k, alookup k s'.cache.items = alookup k s.cache.items) ∧ s'.utd = s.utd ∧ s'.lock = s.lock ∧
    ∃ key, resolve cfg.path.isEmpty r = some key ∧ s'.cache = (touched s key).cache := by
  obtain ⟨key, hk, he⟩ := load_effect h
  obtain ⟨hc, hu⟩ := he.failed e rfl
  exact ⟨fun k => by rw [hc]; exact alookup_touched s key k, hu, he.lock, key, hk, hc⟩

/-- The lock is released on every exit. -/
theorem lock_balanced (cfg : Cfg) (fs : FS) (s s' : LState) (r : Req) (res : Res)
    (h : load cfg fs s r = some (s', res)) : s'.lock = s.lock := by
  obtain ⟨_, _, he⟩ := load_effect h
  exact he.lock

/-- After every history the loader holds at most `max_cache_size` templates, under distinct
    keys (and evicts least recently used first: the cache is the bounded LRU map above, on
    which `load` only performs `get` and `set`). -/
theorem loader_cache_bounded (cfg : Cfg) (ops : List HOp) :
    (hrun cfg (World.init cfg.cap) ops).1.ls.cache.items.length ≤ cfg.cap ∧
    (akeys (hrun cfg (World.init cfg.cap) ops).1.ls.cache.items).Nodup := by
  have hi := inv_hrun (cfg := cfg) (inv_init cfg.cap) ops
  have hc := hrun_cap cfg (World.init cfg.cap) ops
  have hc' : (hrun cfg (World.init cfg.cap) ops).1.ls.cache.cap = cfg.cap := hc
  exact ⟨Nat.le_trans hi.awf.1 (Nat.le_of_eq hc'), hi.awf.2⟩

/-- The chain closed: `load` touches its cache only through `__getitem__` and `__setitem__`,
    so after every history the abstract cache the loader theorems speak about is represented by
    a well-formed concrete `LRUCache` structure — the one those container operations build
    from `LRUCache(max_cache_size)`. -/
theorem loader_cache_is_wellformed_lru (cfg : Cfg) (ops : List HOp) (d : Node Key Tmpl) :
    ∃ (cops : List (Op Key Tmpl)) (c : CLru Key Tmpl) (outs : List (Out Key Tmpl)),
      crun (Genshi.Lru.empty cfg.cap d) cops = some (c, outs) ∧ Wf c ∧
      abs c = some (hrun cfg (World.init cfg.cap) ops).1.ls.cache := by
  obtain ⟨cops, c, outs, h1, h2, h3, _⟩ :=
    (hrun_reach cfg (World.init cfg.cap) cfg.cap ⟨[], rfl⟩ ops).concrete d
  exact ⟨cops, c, outs, h1, h2, h3⟩

/-- … in particular with the constructor's default `max_cache_size`. -/
theorem default_loader_bounded (path : List Entry) (ar : Bool) (ops : List HOp) :
    (hrun ⟨path, ar, Genshi.Gen.Loader.defaultMaxCacheSize, true⟩
        (World.init Genshi.Gen.Loader.defaultMaxCacheSize) ops).1.ls.cache.items.length
      ≤ Genshi.Gen.Loader.defaultMaxCacheSize :=
  (loader_cache_bounded ⟨path, ar, Genshi.Gen.Loader.defaultMaxCacheSize, true⟩ ops).1

/-- The code takes the modification time of the file it opened (probed on `directory()` on every
    run: the file is replaced right after `open` returned; the up-to-date check handed out says
    "changed").  The theorems below are about the model with this behaviour; `gdrv` runs the
    model with the generated constant. -/
theorem code_takes_mtime_of_opened_file : Genshi.Gen.Loader.mtimeOfOpenedFile = true := rfl

/-- **One racing load is linearizable.**  After every history (racing loads included), a load
    during which the file it opens is replaced — after the cache check and before `open`, or right
    after `open` — leaves file system, clock and loader state, and returns the result, of the plain
    history `linearise`: the load then the write (after `open`), the write then the load (before
    `open`), or the load alone when no directory file was opened. -/
theorem racing_write_is_linearizable (cfg : Cfg) (ops : List HOpR)
    (hv : ValidR cfg (World.init cfg.cap) ops) (r : Req) (rw : RaceW) :
    let w := (hrunR true cfg (World.init cfg.cap) ops).1
    (hrun cfg w (linearise r rw (firedAt cfg w r rw))).1 = (hstepR true cfg w (.loadRace r rw)).1 ∧
    (hrun cfg w (linearise r rw (firedAt cfg w r rw))).2.filterMap id =
      [(hstepR true cfg w (.loadRace r rw)).2].filterMap id :=
  hstepR_linear (inv_hrunR ops (inv_init cfg.cap) hv) r rw

/-- **Histories with racing replacements are plain histories**: same final world, same results
    of the loads in order.  Every theorem of this file about `hrun` therefore speaks about
    histories in which files are replaced while they are being loaded. -/
theorem racing_history_is_plain_history (cfg : Cfg) (ops : List HOpR)
    (hno : ∀ op ∈ ops, op.isWriteAt = false) :
    ∃ ops' : List HOp,
      (hrun cfg (World.init cfg.cap) ops').1 = (hrunR true cfg (World.init cfg.cap) ops).1 ∧
      (hrun cfg (World.init cfg.cap) ops').2.filterMap id =
        (hrunR true cfg (World.init cfg.cap) ops).2.filterMap id :=
  hrunR_plain cfg ops hno _ (inv_init cfg.cap)

/-- **Modification times need not grow.**  `reload_current_partial` for histories in which
    files are replaced while they are loaded *and* modifications set any modification time —
    older ones included (`HOpR.writeAt`: restore from a backup, checkout of an older revision,
    `rsync -t`) — as long as the time set *differs* from every time the loader remembers for that
    file (`ValidR` / `FreshTime`; `write` and `touch`, stamped by the clock, always do): a load
    with automatic reloading returns a template with the current content of the file it came
    from.  The code compares the remembered time with `==`; a comparison by order (`<=`: "stale
    only if the file is newer") fails this theorem's history class (seeded change C15-4).
    (Partial for the same reason as `reload_current_partial`: finding C15-shadow.  A different
    content under a remembered time is the limit of reloading by modification time:
    `mtime_reuse_serves_stale`.) -/
theorem reload_current_racing_partial (cfg : Cfg) (har : cfg.autoReload = true) (ops : List HOpR)
    (hv : ValidR cfg (World.init cfg.cap) ops) (r : Req) (ls' : LState) (t : Tmpl)
    (h : load cfg (hrunR true cfg (World.init cfg.cap) ops).1.fs
          (hrunR true cfg (World.init cfg.cap) ops).1.ls r = some (ls', .ok t)) :
    ∃ f, (hrunR true cfg (World.init cfg.cap) ops).1.fs t.loc = some f ∧ f.content = t.content :=
  load_current (inv_hrunR ops (inv_init cfg.cap) hv) har h

/-- … and `reload_current_noshadow_partial` for the same histories: under `NoShadow` the
    returned template has the current content of the file found first on the search path. -/
theorem reload_current_noshadow_racing_partial (cfg : Cfg) (har : cfg.autoReload = true) (ops : List HOpR)
    (hv : ValidR cfg (World.init cfg.cap) ops) (r : Req) (hf : r.fault = .none) (ls' : LState) (t : Tmpl)
    (hns : NoShadow cfg (hrunR true cfg (World.init cfg.cap) ops).1 r)
    (h : load cfg (hrunR true cfg (World.init cfg.cap) ops).1.fs
          (hrunR true cfg (World.init cfg.cap) ops).1.ls r = some (ls', .ok t)) :
    ∃ key entries isabs f, resolve cfg.path.isEmpty r = some key ∧
      searchPath cfg r key = some (entries, isabs) ∧
      firstOnPath (hrunR true cfg (World.init cfg.cap) ops).1.fs key entries = some (t.loc, f) ∧
      f.content = t.content :=
  load_current_first (inv_hrunR ops (inv_init cfg.cap) hv) har hf hns h

def raceCfg : Cfg := { path := [.dir 0 false], autoReload := true, cap := 2 }
def reuseOps : List HOpR :=
  [.plain (.write ⟨0, false, 0⟩ 100 false), .plain (.load { base := 0 }), .writeAt ⟨0, false, 0⟩ 101 false 1]

/-- The limit of reloading by modification time, and why `FreshTime` is needed: a different
    content stored under the very time the loader remembers (`writeAt … 1` after the file was
    parsed at time 1) is served stale — by any implementation that only looks at the time. -/
theorem mtime_reuse_serves_stale :
    ¬ ValidR raceCfg (World.init 2) reuseOps ∧
    ∃ ls' t, load raceCfg (hrunR true raceCfg (World.init 2) reuseOps).1.fs
        (hrunR true raceCfg (World.init 2) reuseOps).1.ls { base := 0 } = some (ls', .ok t) ∧
      t.content = 100 ∧
      ((hrunR true raceCfg (World.init 2) reuseOps).1.fs t.loc).map (·.content) = some 101 := by
  refine ⟨?_, _, _, rfl, rfl, rfl⟩
  intro h
  have hf : FreshTime (hrunR true raceCfg (World.init 2)
      [.plain (.write ⟨0, false, 0⟩ 100 false), .plain (.load { base := 0 })]).1 ⟨0, false, 0⟩ 1 := h.2.2.1
  exact hf ⟨none, false, 0⟩ ⟨0, ⟨0, false, 0⟩, 100, 0, 0, false⟩ 1 (by decide) rfl rfl

def raceOps : List HOpR :=
  [.plain (.write ⟨0, false, 0⟩ 100 false), .loadRace { base := 0 } ⟨false, 101, false⟩]

/-- Why the modification time must be the opened file's (the code before `fix: directory() takes
    the modification time from the file it opened` asked the *path* after `open`): in that model
    (`fstat = false`) the history "write v100; load while the file is replaced by v101 right after
    `open`" leaves v100 cached with the time of v101, and the next load serves v100 although the
    file holds v101 — for good.  With the opened file's time the same history reloads. -/
theorem stat_after_open_serves_stale :
    (∃ ls' t, load raceCfg (hrunR false raceCfg (World.init 2) raceOps).1.fs
        (hrunR false raceCfg (World.init 2) raceOps).1.ls { base := 0 } = some (ls', .ok t) ∧
      t.content = 100 ∧
      ((hrunR false raceCfg (World.init 2) raceOps).1.fs t.loc).map (·.content) = some 101) ∧
    (∃ ls' t, load raceCfg (hrunR true raceCfg (World.init 2) raceOps).1.fs
        (hrunR true raceCfg (World.init 2) raceOps).1.ls { base := 0 } = some (ls', .ok t) ∧
      t.content = 101) := by
  refine ⟨⟨_, _, rfl, rfl, rfl⟩, ⟨_, _, rfl, rfl⟩⟩

end Loader

section
open Genshi.Loader
-- a parse, a cached hit, a reload after a touch, a failing reload that keeps the cache
example : (hrun ⟨[.dir 0 false], true, 2, true⟩ (World.init 2)
    [.write ⟨0, false, 0⟩ 100 false, .load { base := 0 }, .load { base := 0 }, .touch ⟨0, false, 0⟩,
     .load { base := 0 }, .write ⟨0, false, 0⟩ 101 true, .load { base := 0 }]).2 =
    [none, some (.ok ⟨0, ⟨0, false, 0⟩, 100, 0, 0, false⟩), some (.ok ⟨0, ⟨0, false, 0⟩, 100, 0, 0, false⟩),
     none, some (.ok ⟨1, ⟨0, false, 0⟩, 100, 0, 0, false⟩), none, some (.err .syntaxError)] := by
  decide +kernel
end

section
open Genshi.Loader
-- the specification with faults: a load function raising IOError is passed over, another
-- exception ends the walk, otherwise the first file decides
example : firstOnPathF (fsSet (fsSet (fun _ => none) ⟨1, false, 0⟩ (some ⟨7, false, 1⟩)) ⟨2, false, 0⟩ (some ⟨8, false, 2⟩))
    .io ⟨none, false, 0⟩ [.dir 0 false, .fn 1 true, .dir 2 false] = .file ⟨2, false, 0⟩ ⟨8, false, 2⟩ := by decide +kernel
example : firstOnPathF (fsSet (fun _ => none) ⟨1, false, 0⟩ (some ⟨7, false, 1⟩))
    .other ⟨none, false, 0⟩ [.dir 0 false, .fn 1 true, .dir 2 false] = .raised := by decide +kernel
example : firstOnPathF (fsSet (fun _ => none) ⟨1, false, 0⟩ (some ⟨7, false, 1⟩))
    .none ⟨none, false, 0⟩ [.dir 0 false, .fn 1 true, .dir 2 false] = .file ⟨1, false, 0⟩ ⟨7, false, 1⟩ := by decide +kernel
-- a modification with an *older* time (3 → 1) is noticed, a valid history
example : (hrunR true ⟨[.dir 0 false], true, 2, true⟩ (World.init 2)
    [.writeAt ⟨0, false, 0⟩ 100 false 3, .plain (.load { base := 0 }), .writeAt ⟨0, false, 0⟩ 101 false 1,
     .plain (.load { base := 0 })]).2.map
      (fun o => o.map fun r => match r with | .ok t => t.content | .err _ => 0) =
    [none, some 100, none, some 101] := by
  decide +kernel
example : ValidR ⟨[.dir 0 false], true, 2, true⟩ (World.init 2)
    [.writeAt ⟨0, false, 0⟩ 100 false 3, .plain (.load { base := 0 }), .writeAt ⟨0, false, 0⟩ 101 false 1] :=
  ⟨freshTime_iff.mpr (by decide +kernel), trivial, freshTime_iff.mpr (by decide +kernel), trivial⟩
-- racing replacements that land: after `open` (the old content is returned, the next load
-- reloads), before `open` (the new content is returned)
example : (hrunR true ⟨[.dir 0 false], true, 2, true⟩ (World.init 2)
    [.plain (.write ⟨0, false, 0⟩ 100 false), .loadRace { base := 0 } ⟨false, 101, false⟩,
     .plain (.load { base := 0 }), .loadRace { base := 0 } ⟨true, 102, false⟩,
     .plain (.touch ⟨0, false, 0⟩), .loadRace { base := 0 } ⟨true, 103, false⟩]).2.map
      (fun o => o.map fun r => match r with | .ok t => t.content | .err _ => 0) =
    [none, some 100, some 101, some 101, none, some 103] := by
  decide +kernel
end

example : (crun (empty 2 ⟨none, none, 0, 0⟩ : CLru Nat Nat)
      [.set 0 10, .set 1 11, .get 0, .set 2 12, .iter, .get 1]).map (·.2) =
    some [.unit, .unit, .val 10, .unit, .keys [2, 0], .keyError] := by decide +kernel
example : (arun (aempty 0 : ALru Nat Nat) [.set 0 10, .len, .get 0]).2 =
    [.unit, .nat 0, .keyError] := by decide +kernel
example : (astep (⟨2, [(1, 11), (0, 10)]⟩ : ALru Nat Nat) (.set 2 12)).1.items = [(2, 12), (1, 11)] := by
  decide +kernel


/-! ## the loader over string-level path names (`Genshi/Model/LoaderPath.lean`)

  `posixpath.normpath` / `join` / `dirname` / `isabs` on character lists (any depth, `.`, `..`,
  repeated slashes), search-path items = directory names, callables returning
  `(filepath, filename, fileobj, uptodate)` (mtime check or `None`, own `filename`), and
  `prefixed(**delegates)`.  The theorems hold for every path name, search path and file system. -/
section LoaderPath
open Genshi.LoaderP

/-- `load_outcome_is_first_on_path` for the deep path algebra, every kind of search-path item
    included: a load that is not answered from the cache ends exactly as the walk over the
    search path of that call says (`firstOnPathF`: an item that does not have the name — IOError,
    `prefixed()`'s TemplateNotFound, no such file — is passed over; any other exception ends the
    walk): no search path; TemplateNotFound; the load function's exception; for the file found
    first its syntax error, the callback's exception, or the template parsed from its current
    content, with a fresh identity, the `filepath` the item returned and the `filename` it
    reported (the `filepath` when the name or `relative_to` is absolute). -/
theorem pathload_outcome_is_first_on_path (cfg : LoaderP.Cfg) (fs : LoaderP.FS) (s : LoaderP.LState)
    (r : LoaderP.Req)
    (hno : alookup (LoaderP.resolve cfg.path.isEmpty r) s.cache.items = none ∨
      (cfg.autoReload = true ∧ LoaderP.stillCurrent fs s (LoaderP.resolve cfg.path.isEmpty r) = false)) :
    let key := LoaderP.resolve cfg.path.isEmpty r
    let res := (LoaderP.load cfg fs s r).2
    (LoaderP.searchPath cfg r key = none ∧ res = .err .noSearchPath) ∨
    ∃ entries isabs, LoaderP.searchPath cfg r key = some (entries, isabs) ∧
      match LoaderP.firstOnPathF fs r.fault key entries with
      | .nothing => res = .err .notFound
      | .raised => res = .err .loadFunc
      | .file fp name f =>
        (f.bad = true ∧ res = .err .syntaxError) ∨
        (f.bad = false ∧ cfg.hasCallback = true ∧ r.cbRaise = true ∧ res = .err .callback) ∨
        (f.bad = false ∧ res = .ok ⟨s.nextObj, fp, if isabs then fp else name, f.content, r.cls, r.enc⟩) :=
  LoaderP.load_by_firstF cfg fs s r hno

/-- A failed load (whatever the path item that failed: directory, callable, `prefixed()`)
    changes neither the mapping of the cache nor `_uptodate` nor the lock; the lookup of a cached
    key still counts as a use. -/
theorem pathload_failed_load_is_noop (cfg : LoaderP.Cfg) (fs : LoaderP.FS) (s : LoaderP.LState)
    (r : LoaderP.Req) (e : Genshi.Loader.Err) (h : (LoaderP.load cfg fs s r).2 = .err e) :
    (LoaderP.load cfg fs s r).1.cache = (LoaderP.touched s (LoaderP.resolve cfg.path.isEmpty r)).cache ∧
    (∀ k, alookup k (LoaderP.load cfg fs s r).1.cache.items = alookup k s.cache.items) ∧
    (LoaderP.load cfg fs s r).1.utd = s.utd ∧ (LoaderP.load cfg fs s r).1.lock = s.lock ∧
    (LoaderP.load cfg fs s r).1.nextObj - s.nextObj ≤ 1 := by
  have he := LoaderP.load_effect cfg fs s r
  obtain ⟨hc, hu⟩ := he.failed e h
  refine ⟨hc, ?_, hu, he.lock, ?_⟩
  · intro k
    rw [hc]
    exact LoaderP.alookup_touched s _ k
  · rcases he.counters with ⟨h1, _, _⟩ | ⟨h1, _, _⟩ <;> omega

/-- Cache-key uniqueness: after every history of writes, touches, deletions and loads — with
    any mixture of directories, callables and `prefixed()` items, relative and absolute names —
    no key is cached twice and the cache is within its bound. -/
theorem pathload_cache_keys_unique (cfg : LoaderP.Cfg) (ops : List LoaderP.HOp) :
    (akeys (LoaderP.hrun cfg (LoaderP.World.init cfg.cap) ops).1.ls.cache.items).Nodup ∧
    (LoaderP.hrun cfg (LoaderP.World.init cfg.cap) ops).1.ls.cache.items.length ≤
      (LoaderP.hrun cfg (LoaderP.World.init cfg.cap) ops).1.ls.cache.cap := by
  have h := LoaderP.hrun_awf cfg (LoaderP.World.init cfg.cap) ops (aempty_awf cfg.cap)
  exact ⟨h.2, h.1⟩

-- non-vacuity: a search path of a `prefixed()` item and a directory; files `/a/t` (content 7),
-- `/b/t` (content 8, served under the prefix `p`) and a file that does not parse
def exFs : LoaderP.FS := fun p =>
  if p = ['/', 'a', '/', 't'] then some ⟨7, false, 1⟩
  else if p = ['/', 'b', '/', 't'] then some ⟨8, false, 2⟩
  else if p = ['/', 'a', '/', 'x'] then some ⟨9, true, 3⟩ else none
def exCfg : LoaderP.Cfg := ⟨[.prefixed [(['p'], .dir ['/', 'b'])], .dir ['/', 'a', '/', '.', '/']], true, 2, true⟩
-- `s/../t` is the key `t`; the prefixed item does not have it, the directory does
example : (LoaderP.load exCfg exFs (LoaderP.LState.init 2) { filename := ['s', '/', '.', '.', '/', 't'] }).2 =
    .ok ⟨0, ['/', 'a', '/', '.', '/', 't'], ['t'], 7, 0, 0⟩ := by decide +kernel
-- `p//t` goes to the delegate of the prefix `p` with the name `t`; `filename` stays `p/t`
example : (LoaderP.load exCfg exFs (LoaderP.LState.init 2) { filename := ['p', '/', '/', 't'] }).2 =
    .ok ⟨0, ['/', 'b', '/', 't'], ['p', '/', 't'], 8, 0, 0⟩ := by decide +kernel
-- an absolute `relative_to` with a search path: the name is not joined (key `../b/t`), the
-- directory `/b` is appended, the first item that has `../b/t` is `/a/./`, names are absolute
example : (LoaderP.load exCfg exFs (LoaderP.LState.init 2)
      { filename := ['.', '.', '/', 'b', '/', 't'], relTo := some ['/', 'b', '/', 'i'] }).2 =
    .ok ⟨0, ['/', 'a', '/', '.', '/', '.', '.', '/', 'b', '/', 't'], ['/', 'a', '/', '.', '/', '.', '.', '/', 'b', '/', 't'], 8, 0, 0⟩ := by decide +kernel
-- failures: nothing found / a file that does not parse; the state is as before
example : (LoaderP.load exCfg exFs (LoaderP.LState.init 2) { filename := ['q'] }).2 = .err .notFound ∧
    (LoaderP.load exCfg exFs (LoaderP.LState.init 2) { filename := ['x'] }).2 = .err .syntaxError ∧
    (LoaderP.load exCfg exFs (LoaderP.LState.init 2) { filename := ['x'] }).1.cache.items = [] := by decide +kernel
-- two spellings of one name share one cache entry; a third name makes two entries
example : ((LoaderP.hrun exCfg ⟨exFs, 5, LoaderP.LState.init 2⟩
      [.load { filename := ['t'] }, .load { filename := ['.', '/', 's', '/', '.', '.', '/', 't'] },
       .load { filename := ['p', '/', 't'] }]).1.ls.cache.items.map (·.1)) = [['p', '/', 't'], ['t']] := by decide +kernel

/-- A load touches the entry of its own key only — the normalised name
    `normpath(join(dirname(relative_to), filename))` — whatever path item delivers the file and
    whatever `filename` that item reports: what is cached under any other key afterwards was
    cached under it before (it can only disappear, as the least recently used entry). -/
theorem pathload_touches_only_its_key (cfg : LoaderP.Cfg) (fs : LoaderP.FS) (s : LoaderP.LState)
    (r : LoaderP.Req) (k : LoaderP.Key) (t : LoaderP.Tmpl)
    (hk : k ≠ LoaderP.resolve cfg.path.isEmpty r)
    (h : alookup k (LoaderP.load cfg fs s r).1.cache.items = some t) :
    alookup k s.cache.items = some t :=
  LoaderP.load_other_key cfg fs s r k t hk h

/-- The `uptodate` half of the callable contract: a template delivered with `uptodate=None`
    (what `package()` returns) is never considered current — with automatic reloading every load
    of its key walks the search path again, so `pathload_outcome_is_first_on_path` applies to it
    (it always reflects the current content; it is parsed on every load). -/
theorem pathload_uptodate_none_always_reloads (cfg : LoaderP.Cfg) (har : cfg.autoReload = true)
    (fs : LoaderP.FS) (s : LoaderP.LState) (r : LoaderP.Req)
    (hu : s.utd (LoaderP.resolve cfg.path.isEmpty r) = some .never) :
    alookup (LoaderP.resolve cfg.path.isEmpty r) s.cache.items = none ∨
      (cfg.autoReload = true ∧ LoaderP.stillCurrent fs s (LoaderP.resolve cfg.path.isEmpty r) = false) := by
  right
  exact ⟨har, by simp [LoaderP.stillCurrent, hu]⟩

-- a callable without an up-to-date check: the second load parses again (identity 1), also when
-- nothing changed
example : ((LoaderP.hrun ⟨[.fn ['/', 'a'] false true], true, 2, true⟩ ⟨exFs, 5, LoaderP.LState.init 2⟩
      [.load { filename := ['t'] }, .load { filename := ['t'] }]).2) =
    [some (.ok ⟨0, ['/', 'a', '/', 't'], ['@', 't'], 7, 0, 0⟩), some (.ok ⟨1, ['/', 'a', '/', 't'], ['@', 't'], 7, 0, 0⟩)] := by decide +kernel

/-- **A file rewritten in place while it is being read** (content new / time old):
    `directory()` — and any callable that takes the time right after `open` — remembers the
    modification time the file had before the rewrite, the template class then reads the new
    content.  The load returns the new content, and with automatic reloading the entry it stores
    is not current afterwards (the file's time has moved on; `f.mtime < w.clock`: every
    modification gets a new time): the next load of the key is decided by the walk over the
    search path again (`pathload_outcome_is_first_on_path` applies), so the mismatch between the
    remembered time and the parsed content can never make the loader serve stale content. -/
theorem inplace_rewrite_is_noticed (cfg : LoaderP.Cfg) (w : LoaderP.World) (r : LoaderP.Req)
    (c : Nat) (b : Bool) (p : LoaderP.Str) (f : Genshi.Loader.File) (t : LoaderP.Tmpl)
    (hopen : LoaderP.wouldOpen cfg w.fs w.ls r = some p) (hf : w.fs p = some f)
    (hfresh : f.mtime < w.clock)
    (hres : (LoaderP.hstepW cfg w (.loadRewrite r c b)).2 = some (.ok t)) :
    t.content = c ∧ (LoaderP.hstepW cfg w (.loadRewrite r c b)).1.fs p = some ⟨c, b, w.clock⟩ ∧
    LoaderP.stillCurrent (LoaderP.hstepW cfg w (.loadRewrite r c b)).1.fs
      (LoaderP.hstepW cfg w (.loadRewrite r c b)).1.ls (LoaderP.resolve cfg.path.isEmpty r) = false :=
  LoaderP.inplace_noticed cfg w r c b p f t hopen hf hfresh hres

-- `/a/t` (content 7, time 1) is rewritten with content 70 while the first load reads it: that
-- load returns 70 and remembers time 1; the file now has time 5, so the second load parses again
example : ((LoaderP.hrunW ⟨[.dir ['/', 'a']], true, 2, true⟩ ⟨exFs, 5, LoaderP.LState.init 2⟩
      [.loadRewrite { filename := ['t'] } 70 false, .plain (.load { filename := ['t'] })]).2) =
    [some (.ok ⟨0, ['/', 'a', '/', 't'], ['t'], 70, 0, 0⟩), some (.ok ⟨1, ['/', 'a', '/', 't'], ['t'], 70, 0, 0⟩)] := by decide +kernel

end LoaderPath

end Genshi.Props.C15
