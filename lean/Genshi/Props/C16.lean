/-
  C16 — Concurrent loads are safe.  Theorems about the interleaving model
  (`Genshi/Model/Conc.lean`: N threads × atomic steps of `load` × re-entrant lock) for every
  number of threads, every program and every schedule; proofs in `Genshi/Lemmas/Conc*.lean`
  and `LockOrder.lean`.

  OBLIGATIONS (checked by the harness):
    mutex lock_discipline linearizable linearizable_when_free atomic_load_is_load
    deadlock_free nonreentrant_nested_load_deadlocks reentrant_nested_load_completes
    unlocked_store_breaks_wf locked_store_is_setitem code_lock_is_reentrant
    deadlock_free_for_code each_load_correct wf_at_quiescence acquisitions_come_from_programs
    acquisitions_in_program_order lru_invariant_under_every_schedule
    loader_invariant_under_every_schedule returned_templates_are_current
    atomic_load_is_nested_load each_load_correct_nested nested_load_without_includes_is_load
    nested_load_result
    lock_order_deadlock_free ranked_lock_order_deadlock_free lock_order_never_stuck
    single_lock_deadlock_free lock_order_cycle_deadlocks lock_order_cycle_has_no_rank
    lock_order_mutex
-/
import Genshi.Lemmas.ConcLoad
import Genshi.Lemmas.ConcSerial
import Genshi.Lemmas.LoaderLru
import Genshi.Lemmas.ConcInv
import Genshi.Lemmas.ConcNested
import Genshi.Lemmas.Lru
import Genshi.Model.ConcLru
import Genshi.Gen.Loader
import Genshi.Lemmas.LockOrder
namespace Genshi.Props.C16
open Genshi.Lru Genshi.Loader Genshi.Conc

/-- At most one thread is between `acquire` and `release` — in every state reachable under
    any schedule, for any number of threads and any programs. -/
theorem mutex (c : CCfg) (ls0 : LState) (h0 : ls0.lock = 0) (progs : List (List CReq))
    (sched : List Tid) (t u : Tid)
    (ht : inCSThread (exec c (G.init ls0 progs) sched) t)
    (hu : inCSThread (exec c (G.init ls0 progs) sched) u) : t = u :=
  (ginv_exec (ginv_init ls0 h0 progs) sched).mutex ht hu

/-- The lock is free exactly when its depth is 0; a thread that does not own it is outside
    every section (idle, about to acquire, or about to return); the owner's stack holds the
    lock once per active load and all its suspended loads wait inside their callback. -/
theorem lock_discipline (c : CCfg) (ls0 : LState) (h0 : ls0.lock = 0) (progs : List (List CReq))
    (sched : List Tid) :
    let g := exec c (G.init ls0 progs) sched
    (g.owner = none → g.ls.lock = 0) ∧ (∀ h, g.owner = some h → 1 ≤ g.ls.lock) ∧
    (∀ t, g.owner ≠ some t → Outside (g.threads t).stack) ∧
    (∀ h, g.owner = some h → Shape (g.threads h).stack g.ls.lock) := by
  intro g
  have hi : GInv g := ginv_exec (ginv_init ls0 h0 progs) sched
  exact ⟨hi.free, fun h hh => (hi.held h hh).1, fun t ht => hi.outside ht, fun h hh => hi.owner_shape hh⟩

/-- Linearizability: whenever the lock is free (in particular when all threads are done) the
    shared loader state and the log of results of the completed loads are those of the serial
    execution of the top-level loads, each run alone from `acquire` to `release` (with its
    nested loads), in the order in which they acquired the lock. -/
theorem linearizable_when_free (c : CCfg) (ls0 : LState) (h0 : ls0.lock = 0) (progs : List (List CReq))
    (sched : List Tid) (hfree : (exec c (G.init ls0 progs) sched).owner = none) :
    ((exec c (G.init ls0 progs) sched).ls, (exec c (G.init ls0 progs) sched).completed) =
      serial c ls0 [] (exec c (G.init ls0 progs) sched).acqLog :=
  (linv_exec (g := G.init ls0 progs) (ginv_init ls0 h0 progs) rfl sched).1.free hfree

/-- … in particular when every thread has finished. -/
theorem linearizable (c : CCfg) (ls0 : LState) (h0 : ls0.lock = 0) (progs : List (List CReq))
    (sched : List Tid)
    (hdone : ∀ t, ((exec c (G.init ls0 progs) sched).threads t).finished = true) :
    ((exec c (G.init ls0 progs) sched).ls, (exec c (G.init ls0 progs) sched).completed) =
      serial c ls0 [] (exec c (G.init ls0 progs) sched).acqLog :=
  linearizable_when_free c ls0 h0 progs sched ((ginv_exec (ginv_init ls0 h0 progs) sched).free_of_finished hdone)

/-- … and each of those serial loads (when its callback loads nothing) is exactly C15's
    `load`, so every theorem of C15 holds of every concurrent load. -/
theorem atomic_load_is_load (c : CCfg) (tid : Tid) (ls ls' : LState) (comp : List (Tid × Req × Res))
    (r : Req) (key : Key) (res : Res) (hk : resolve c.cfg.path.isEmpty r = some key)
    (h : Loader.load c.cfg c.fs ls r = some (ls', res)) :
    atomicLoad c tid ls comp (.mk r key []) = (ls', comp ++ [(tid, r, res)]) :=
  atomicLoad_eq_load c tid ls ls' comp r key res hk h

/-- The loads in the acquisition log are loads of the threads' programs. -/
theorem acquisitions_come_from_programs (c : CCfg) (ls0 : LState) (progs : List (List CReq))
    (sched : List Tid) (t : Tid) (q : CReq)
    (h : (t, q) ∈ (exec c (G.init ls0 progs) sched).acqLog) : q ∈ progs.getD t [] :=
  (minv_exec (minv_init ls0 progs) sched).log (t, q) h

/-- … and each thread's loads appear in the log in the order of its program: what a thread has
    logged, followed by the load it is waiting to acquire the lock for and the loads it has not
    called yet, is its program.  When all threads are done the per-thread projection of the
    acquisition log *is* the program. -/
theorem acquisitions_in_program_order (c : CCfg) (ls0 : LState) (h0 : ls0.lock = 0)
    (progs : List (List CReq)) (sched : List Tid) (t : Tid) :
    logOf t (exec c (G.init ls0 progs) sched).acqLog ++
      headWait ((exec c (G.init ls0 progs) sched).threads t).stack ++
      ((exec c (G.init ls0 progs) sched).threads t).todo = progs.getD t [] :=
  pinv_exec (ginv_init ls0 h0 progs) (pinv_init ls0 progs) sched t

/-- Every call returns what C15's `load` returns at its place in the acquisition order: when the
    lock is free, the shared state and the results are those of C15's `load` applied to the
    requests one after the other in that order (programs without nested loads). -/
theorem each_load_correct (c : CCfg) (ls0 : LState) (h0 : ls0.lock = 0) (progs : List (List CReq))
    (hflat : ∀ t, ∀ q ∈ progs.getD t [], Flat c q)
    (sched : List Tid) (hfree : (exec c (G.init ls0 progs) sched).owner = none) :
    ((exec c (G.init ls0 progs) sched).ls, (exec c (G.init ls0 progs) sched).completed) =
      seqLoads c.cfg c.fs ls0 [] (exec c (G.init ls0 progs) sched).acqLog := by
  rw [linearizable_when_free c ls0 h0 progs sched hfree]
  apply serial_flat
  intro p hp
  exact hflat p.1 p.2 (acquisitions_come_from_programs c ls0 progs sched p.1 p.2 hp)

/-- One whole top-level load of the interleaving model, executed alone — with the loads its
    callback performs, to any depth — is the sequential `loadN` (C15's `load` where the callback
    re-enters `load` for every include while the lock is held). -/
theorem atomic_load_is_nested_load (c : CCfg) (tid : Tid) (ls : LState) (comp : List (Tid × Req × Res))
    (q : CReq) :
    atomicLoad c tid ls comp q = ((loadN c ls q).1, comp ++ [(tid, q.r, (loadN c ls q).2)]) :=
  atomicLoad_eq_loadN c tid ls comp q

/-- `each_load_correct` without the restriction to programs without includes: for every number
    of threads, every program (nested loads to any depth) and every schedule, whenever the lock
    is free the shared state and the results of the completed loads are those of `loadN` applied
    to the top-level requests one after the other in lock-acquisition order. -/
theorem each_load_correct_nested (c : CCfg) (ls0 : LState) (h0 : ls0.lock = 0) (progs : List (List CReq))
    (sched : List Tid) (hfree : (exec c (G.init ls0 progs) sched).owner = none) :
    ((exec c (G.init ls0 progs) sched).ls, (exec c (G.init ls0 progs) sched).completed) =
      seqLoadsN c ls0 [] (exec c (G.init ls0 progs) sched).acqLog := by
  rw [linearizable_when_free c ls0 h0 progs sched hfree, serial_eq_seqLoadsN]

/-- … where `loadN` of a request without includes is C15's `load` (so `each_load_correct` is
    the special case), -/
theorem nested_load_without_includes_is_load (c : CCfg) (ls ls' : LState) (r : Req) (key : Key) (res : Res)
    (hk : resolve c.cfg.path.isEmpty r = some key)
    (h : Loader.load c.cfg c.fs ls r = some (ls', res)) : loadN c ls (.mk r key []) = (ls', res) :=
  loadN_flat c ls ls' r key res hk h

/-- … and the includes do not change what the call returns: the result of a load with nested
    loads is the result the same call gives without them (the template of the file found first
    on the search path, parsed before the callback runs; or the same failure) — unless a nested
    load raised, which propagates out of the callback. -/
theorem nested_load_result (c : CCfg) (ls : LState) (r : Req) (key : Key) (children : List CReq) :
    (loadN c ls (.mk r key children)).2 = (loadN c ls (.mk r key [])).2 ∨
    (loadN c ls (.mk r key children)).2 = .err .callback :=
  loadN_result c ls r key children

/-- By `each_load_correct`, C15's history invariant (bounded LRU cache of distinct keys, cached
    templates coherent with their files, fresh identities, lock free) holds whenever the lock is
    free — in particular after quiescence (programs without nested loads). -/
theorem wf_at_quiescence (c : CCfg) (ls0 : LState) (clock : Nat) (hi : Inv ⟨c.fs, clock, ls0⟩)
    (progs : List (List CReq)) (hflat : ∀ t, ∀ q ∈ progs.getD t [], Flat c q)
    (sched : List Tid) (hfree : (exec c (G.init ls0 progs) sched).owner = none) :
    Inv ⟨c.fs, clock, (exec c (G.init ls0 progs) sched).ls⟩ := by
  have h := each_load_correct c ls0 hi.lock progs hflat sched hfree
  have : (exec c (G.init ls0 progs) sched).ls =
      (seqLoads c.cfg c.fs ls0 [] (exec c (G.init ls0 progs) sched).acqLog).1 := by rw [← h]
  rw [this]
  exact seqLoads_inv c.cfg c.fs clock ls0 [] _ hi

/-- C15's history invariant in every reachable state, under every schedule, for programs with
    nested loads too (this generalises `wf_at_quiescence`): the cache is a bounded LRU map of
    distinct keys, every cached template whose freshness check is an mtime comparison has the
    content its file had at that mtime, identities are fresh; and whenever the lock is free the
    full invariant `Inv` of C15 holds, so C15's `reload_current_partial` etc. apply to the next
    load, whichever thread performs it. -/
theorem loader_invariant_under_every_schedule (c : CCfg) (ls0 : LState) (clock : Nat)
    (hi : Inv ⟨c.fs, clock, ls0⟩) (progs : List (List CReq)) (sched : List Tid) :
    InvL c.fs clock (exec c (G.init ls0 progs) sched).ls ∧
    ((exec c (G.init ls0 progs) sched).owner = none →
      Inv ⟨c.fs, clock, (exec c (G.init ls0 progs) sched).ls⟩) := by
  have h := gcinv_exec (ginv_init ls0 hi.lock progs) (gcinv_init c clock ls0 (InvL.of_inv hi) progs) sched
  refine ⟨h.inv, fun hfree => h.inv.to_inv ?_⟩
  exact (ginv_exec (ginv_init ls0 hi.lock progs) sched).free hfree

/-- Every call returns a correct template: with automatic reloading, under every schedule and
    for nested loads too, every template returned by a completed top-level load has the current
    content of the file it comes from (the files are fixed while the threads run), whether it was
    parsed by that call or served from the cache filled by another thread. -/
theorem returned_templates_are_current (c : CCfg) (har : c.cfg.autoReload = true) (ls0 : LState)
    (clock : Nat) (hi : Inv ⟨c.fs, clock, ls0⟩) (progs : List (List CReq)) (sched : List Tid)
    (tid : Tid) (r : Req) (t : Tmpl)
    (h : (tid, r, Res.ok t) ∈ (exec c (G.init ls0 progs) sched).completed) :
    ∃ f, c.fs t.loc = some f ∧ f.content = t.content :=
  (gcinv_exec (ginv_init ls0 hi.lock progs) (gcinv_init c clock ls0 (InvL.of_inv hi) progs) sched).log
    (tid, r, .ok t) h har

/-- Under every schedule, in every reachable state (not only at quiescence, and also for programs
    with nested loads): the cache is one that a sequence of `__getitem__`/`__setitem__` calls builds
    from `LRUCache(cap)`, so its concrete linked structure is well-formed (every cached key
    reachable exactly once from head to tail, and backwards) and holds at most `cap` entries. -/
theorem lru_invariant_under_every_schedule (c : CCfg) (cap : Nat) (ls0 : LState)
    (h0 : CacheReach cap ls0.cache) (progs : List (List CReq)) (sched : List Tid) (d : Node Key Tmpl) :
    ∃ (cops : List (Op Key Tmpl)) (cc : CLru Key Tmpl) (outs : List (Out Key Tmpl)),
      crun (Genshi.Lru.empty cap d) cops = some (cc, outs) ∧ Wf cc ∧
      Genshi.Lru.abs cc = some (exec c (G.init ls0 progs) sched).ls.cache ∧ len cc ≤ cap :=
  (exec_reach (g := G.init ls0 progs) h0 sched).concrete d

/-- No deadlock: with the re-entrant lock, as long as some thread is not finished some thread
    can take a step (nested loads re-acquire the lock they already hold). -/
theorem deadlock_free (c : CCfg) (hre : c.reentrant = true) (ls0 : LState) (h0 : ls0.lock = 0)
    (progs : List (List CReq)) (sched : List Tid) (t : Tid)
    (ht : t < (exec c (G.init ls0 progs) sched).n)
    (hunf : ((exec c (G.init ls0 progs) sched).threads t).finished = false) :
    ∃ u, u < (exec c (G.init ls0 progs) sched).n ∧
      (step c (exec c (G.init ls0 progs) sched) u).isSome = true :=
  (ginv_exec (ginv_init ls0 h0 progs) sched).progress hre ht hunf

/-- The lock a `TemplateLoader` creates is re-entrant (probed on the code by the translator on
    every run; the generated constant changes if `threading.RLock` is replaced). -/
theorem code_lock_is_reentrant : Genshi.Gen.Loader.lockIsReentrant = true := rfl

/-- deadlock freedom for the kind of lock the code uses (`code_lock_is_reentrant`) -/
theorem deadlock_free_for_code (c : CCfg) (hre : c.reentrant = Genshi.Gen.Loader.lockIsReentrant)
    (ls0 : LState) (h0 : ls0.lock = 0) (progs : List (List CReq)) (sched : List Tid) (t : Tid)
    (ht : t < (exec c (G.init ls0 progs) sched).n)
    (hunf : ((exec c (G.init ls0 progs) sched).threads t).finished = false) :
    ∃ u, u < (exec c (G.init ls0 progs) sched).n ∧
      (step c (exec c (G.init ls0 progs) sched) u).isSome = true :=
  deadlock_free c (by rw [hre]; exact code_lock_is_reentrant) ls0 h0 progs sched t ht hunf

def nestFs : FS := fun l =>
  if l = ⟨0, false, 0⟩ then some ⟨100, false, 1⟩ else if l = ⟨0, false, 1⟩ then some ⟨101, false, 2⟩ else none
def nestCfg (re : Bool) : CCfg := ⟨⟨[.dir 0 false], false, 2, true⟩, nestFs, re⟩
/-- one thread: load t0, whose callback loads t1 -/
def nestProg : List (List CReq) :=
  [[.mk { base := 0 } ⟨none, false, 0⟩ [.mk { base := 1 } ⟨none, false, 1⟩ []]]]

/-- With a lock that is not re-entrant a single thread deadlocks on a nested load: it holds
    the lock, is not finished, and can never step again. -/
theorem nonreentrant_nested_load_deadlocks :
    ((exec (nestCfg false) (G.init (LState.init 2) nestProg) (List.replicate 40 0)).threads 0).finished = false ∧
    (exec (nestCfg false) (G.init (LState.init 2) nestProg) (List.replicate 40 0)).owner = some 0 ∧
    (∀ t, t < (exec (nestCfg false) (G.init (LState.init 2) nestProg) (List.replicate 40 0)).n →
      (step (nestCfg false) (exec (nestCfg false) (G.init (LState.init 2) nestProg) (List.replicate 40 0)) t).isNone = true) := by
  decide +kernel

/-- The same program with the re-entrant lock runs to the end, both templates cached. -/
theorem reentrant_nested_load_completes :
    ((exec (nestCfg true) (G.init (LState.init 2) nestProg) (List.replicate 40 0)).threads 0).finished = true ∧
    (exec (nestCfg true) (G.init (LState.init 2) nestProg) (List.replicate 40 0)).owner = none ∧
    (exec (nestCfg true) (G.init (LState.init 2) nestProg) (List.replicate 40 0)).ls.cache.items.map (·.1) =
      [⟨none, false, 0⟩, ⟨none, false, 1⟩] := by
  decide +kernel

section
open Genshi.ConcLru

def e2 : CLru Nat Nat := empty 2 ⟨none, none, 0, 0⟩

/-- Under the lock (one thread's statements without interruption) the statement-level store
    is `__setitem__`: on the empty container of capacity 2 (`e2`), for `cache[0] = 10` and then `cache[1] = 11`, each
    started at its first statement (`SPC.get k v`: `item = self._dict.get(key)`). -/
theorem locked_store_is_setitem :
    (srun 10 e2 (.get 0 10)).map (fun p => abs p.1) = (setItem e2 0 10).map abs ∧
    ((srun 10 e2 (.get 0 10)).bind fun p => (srun 10 p.1 (.get 1 11)).map fun p' => abs p'.1) =
      ((setItem e2 0 10).bind fun c => (setItem c 1 11).map abs) := by
  decide +kernel

/-- Without the lock (the store released too early, or no lock at all) there is a two-thread
    schedule of two stores after which the structure is not well-formed: thread 0 tests
    `self.head is not None` before thread 1 inserts and completes after it; `_dict` then holds two
    keys but only one node is linked. -/
theorem unlocked_store_breaks_wf :
    ∃ sched c p0 p1, sexec e2 (.get 0 10) (.get 1 11) sched = some (c, p0, p1) ∧
      wfCheck c [0, 1] = false ∧ ¬ Wf c := by
  refine ⟨[false, false, false, false, false, false,
           true, true, true, true, true, true, true, true, true, true,
           false, false, false], _, _, _, rfl, by decide, ?_⟩
  rintro ⟨ids, hr⟩
  have := hr.wfCheck [0, 1]
  revert this
  decide +kernel
end

-- two threads, same template, an interleaved schedule: one parse, the other thread is served the object
example :
    (exec (nestCfg true) (G.init (LState.init 2)
        [[.mk { base := 1 } ⟨none, false, 1⟩ []], [.mk { base := 1 } ⟨none, false, 1⟩ []]])
      [0, 1, 0, 1, 1, 0, 0, 1, 0, 0, 0, 0, 0, 0, 1, 1, 1, 1, 1, 1, 1, 1]).completed.map (fun p => (p.1, p.2.2)) =
    [(0, .ok ⟨0, ⟨0, false, 1⟩, 101, 0, 0, false⟩), (1, .ok ⟨0, ⟨0, false, 1⟩, 101, 0, 0, false⟩)] := by
  decide +kernel

-- a load whose callback loads an include: both cached, the include first (it is stored first)
example : ((loadN (nestCfg true) (LState.init 2)
      (.mk { base := 0 } ⟨none, false, 0⟩ [.mk { base := 1 } ⟨none, false, 1⟩ []])).1.cache.items.map (·.2.content),
    (loadN (nestCfg true) (LState.init 2)
      (.mk { base := 0 } ⟨none, false, 0⟩ [.mk { base := 1 } ⟨none, false, 1⟩ []])).2) =
    ([100, 101], .ok ⟨0, ⟨0, false, 0⟩, 100, 0, 0, false⟩) := by
  decide +kernel
-- a failing include makes the including load fail, nothing of it is cached
example : (loadN (nestCfg true) (LState.init 2)
      (.mk { base := 0 } ⟨none, false, 0⟩ [.mk { base := 7 } ⟨none, false, 7⟩ []])).2 = .err .callback := by
  decide +kernel

/-! ## several re-entrant locks: the lock order (`Genshi/Model/LockOrder.lean`)

  The loader lock is not the only lock a thread may hold: any lock a genshi module creates and
  takes around a call that ends in `load` (or that a loader callback takes inside `load`) adds
  to the nesting.  Threads are programs of `acquire l` / `release l`; the harness records these
  programs on the real threads (every lock the genshi modules create is wrapped) and replays the
  recorded execution on this model (`gdrv C16 locks`). -/
section LockOrder
open Genshi.LockOrder

/-- **Deadlock freedom from an acyclic lock order.**  If there is a strict partial order on the
    locks that every nested acquisition of every thread program respects (a thread acquires a
    lock it does not hold yet only when every lock it holds is below it; it releases only what
    it holds and ends holding nothing), then under every schedule, for every number of threads
    and locks: as long as some thread is not finished, some thread can take a step. -/
theorem lock_order_deadlock_free (lt : Lock → Lock → Bool) (irr : ∀ a, lt a a = false)
    (tr : ∀ a b c, lt a b = true → lt b c = true → lt a c = true)
    (progs : List (List Act)) (hok : ∀ p ∈ progs, ok lt [] p = true) (sched : List LockOrder.Tid)
    (t : LockOrder.Tid) (ht : t < (LockOrder.exec (.init progs) sched).n)
    (hunf : ((LockOrder.exec (.init progs) sched).threads t).finished = false) :
    ∃ u, u < (LockOrder.exec (.init progs) sched).n ∧
      (LockOrder.step (LockOrder.exec (.init progs) sched) u).isSome = true :=
  (linv_exec (linv_init lt progs hok) sched).progress irr tr ht hunf

/-- The form the check uses: a numbering of the locks (a topological numbering of the observed
    held → wanted graph, which exists iff that graph is acyclic) that every thread program
    respects — `ok (byRank rank) [] p` is what `gdrv C16 locks` evaluates on the recorded
    programs — excludes deadlock under every schedule. -/
theorem ranked_lock_order_deadlock_free (rank : Lock → Nat) (progs : List (List Act))
    (hok : ∀ p ∈ progs, ok (byRank rank) [] p = true) (sched : List LockOrder.Tid)
    (t : LockOrder.Tid) (ht : t < (LockOrder.exec (.init progs) sched).n)
    (hunf : ((LockOrder.exec (.init progs) sched).threads t).finished = false) :
    ∃ u, u < (LockOrder.exec (.init progs) sched).n ∧
      (LockOrder.step (LockOrder.exec (.init progs) sched) u).isSome = true :=
  lock_order_deadlock_free (byRank rank) (byRank_irrefl rank) (byRank_trans rank) progs hok sched t ht hunf

/-- the same with the executable deadlock test the driver reports -/
theorem lock_order_never_stuck (rank : Lock → Nat) (progs : List (List Act))
    (hok : ∀ p ∈ progs, ok (byRank rank) [] p = true) (sched : List LockOrder.Tid) :
    stuck (LockOrder.exec (.init progs) sched) = false :=
  stuck_false_of_progress fun t ht hunf =>
    ranked_lock_order_deadlock_free rank progs hok sched t ht hunf

/-- One lock (`TemplateLoader._lock` is the only lock genshi creates):
    balanced programs over a single re-entrant lock never deadlock, whatever the nesting. -/
theorem single_lock_deadlock_free (l0 : Lock) (progs : List (List Act))
    (hone : ∀ p ∈ progs, ∀ a ∈ p, a = .acq l0 ∨ a = .rel l0)
    (hbal : ∀ p ∈ progs, ok (fun _ _ => true) [] p = true) (sched : List LockOrder.Tid) :
    stuck (LockOrder.exec (.init progs) sched) = false :=
  stuck_false_of_progress fun t ht hunf =>
    lock_order_deadlock_free (fun _ _ => false) (fun _ => rfl) (fun _ _ _ h _ => by cases h) progs
      (fun p hp => ok_single l0 _ p [] (by simp) (hone p hp) (hbal p hp)) sched t ht hunf

/-- the locks of the lock-order model exclude: under every schedule no lock is held by two threads at once -/
theorem lock_order_mutex (lt : Lock → Lock → Bool) (progs : List (List Act))
    (hok : ∀ p ∈ progs, ok lt [] p = true) (sched : List LockOrder.Tid) (t u : LockOrder.Tid) (l : Lock)
    (ht : t < (LockOrder.exec (.init progs) sched).n) (hu : u < (LockOrder.exec (.init progs) sched).n)
    (hlt : l ∈ ((LockOrder.exec (.init progs) sched).threads t).held)
    (hlu : l ∈ ((LockOrder.exec (.init progs) sched).threads u).held) : t = u :=
  (linv_exec (linv_init lt progs hok) sched).excl t u l ht hu hlt hlu

/-- lock 0 = the loader lock, lock 1 = a second lock (the shape of seeded change C16-4: a
    module-level lock taken around `_prepare`, whose inlined includes call `load`, and inside
    `add_directives`, which a loader callback calls inside `load`) -/
def cycleProgs : List (List Act) :=
  [[.acq 1, .acq 0, .rel 0, .rel 1],     -- first render of a loaded template: prepare → load
   [.acq 0, .acq 1, .rel 1, .rel 0]]     -- load of an uncached name → callback → add_directives

/-- The converse witness: two locks taken in opposite orders by two threads deadlock — after
    one step of each thread both are unfinished and neither can ever step again. -/
theorem lock_order_cycle_deadlocks :
    stuck (LockOrder.exec (.init cycleProgs) [0, 1]) = true ∧
    ∀ sched, stuck (LockOrder.exec (LockOrder.exec (.init cycleProgs) [0, 1]) sched) = true := by
  have h : stuck (LockOrder.exec (.init cycleProgs) [0, 1]) = true := by decide
  exact ⟨h, fun sched => by rw [exec_stuck h]; exact h⟩

/-- … although each program alone keeps a lock order; no numbering of the locks serves both:
    the hypothesis of `ranked_lock_order_deadlock_free` fails exactly because the observed
    graph 1 → 0 → 1 has a cycle. -/
theorem lock_order_cycle_has_no_rank (rank : Lock → Nat) :
    ¬ (∀ p ∈ cycleProgs, ok (byRank rank) [] p = true) := by
  intro h
  have h0 := h [.acq 1, .acq 0, .rel 0, .rel 1] (by simp [cycleProgs])
  have h1 := h [.acq 0, .acq 1, .rel 1, .rel 0] (by simp [cycleProgs])
  simp [ok, byRank] at h0 h1
  omega

-- non-vacuity: nested acquisitions in one order (with a re-entrant re-acquisition) have a rank
example : ∀ p ∈ [[Act.acq 0, .acq 1, .acq 0, .rel 0, .rel 1, .rel 0], [.acq 1, .rel 1], [.acq 0, .acq 1, .rel 1, .rel 0]],
    ok (byRank id) [] p = true := by decide +kernel
-- … and the run in which thread 1 is blocked by thread 0 goes on: thread 0 can step
example : (LockOrder.step (LockOrder.exec (.init [[.acq 0, .acq 1, .rel 1, .rel 0], [.acq 1, .acq 0, .rel 0, .rel 1]]) [0, 0, 1]) 1).isNone = true ∧
    (LockOrder.step (LockOrder.exec (.init [[.acq 0, .acq 1, .rel 1, .rel 0], [.acq 1, .acq 0, .rel 0, .rel 1]]) [0, 0, 1]) 0).isSome = true := by decide +kernel
-- each program of the cycle alone is in order (for its own numbering), the edges are the cycle
example : ok (byRank fun l => 1 - l) [] [.acq 1, .acq 0, .rel 0, .rel 1] = true ∧
    ok (byRank id) [] [.acq 0, .acq 1, .rel 1, .rel 0] = true ∧
    cycleProgs.flatMap (edges []) = [(1, 0), (0, 1)] := by decide +kernel
-- one lock, nested three deep by one thread while another waits
example : ok (fun _ _ => true) [] [Act.acq 0, .acq 0, .acq 0, .rel 0, .rel 0, .rel 0] = true := by decide +kernel

end LockOrder

end Genshi.Props.C16
