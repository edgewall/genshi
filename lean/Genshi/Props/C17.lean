/-
  C17 — Equivalent path spellings match identically (all matcher strategies agree).
  Property theorems, with the auxiliary definitions and lemmas only they use; helper lemmas live in `Genshi/Lemmas/Path*.lean`.

  OBLIGATIONS (checked by the harness: every name is a theorem of this file, axioms audited):
    strategies_order supports_probe_agrees union_is_first_nonNone single_eq_generic
    forest_positional_differs true_pred_irrelevant self_prefix_irrelevant_partial
    simple_eq_generic_partial equivalent_spellings_agree self_prefix_irrelevant_nonpositional
    dslash_is_descendant simple_eq_generic_kmp simple_eq_generic_fragments_partial
    self_prefix_default_choice simple_eq_generic_fragments_pattern true_pred_default_choice
    simple_eq_generic_spellings_partial simple_eq_generic_spellings_pattern simple_eq_generic_attr
    simple_eq_generic interior_attribute_not_simple true_pred_default_choice_full
    self_prefix_default_choice_pattern supports_probe_systematic self_prefix_irrelevant_pattern
    true_pred_irrelevant_pattern self_prefix_pattern_default self_prefix_irrelevant_attr
    self_prefix_default_choice_full
-/
import Genshi.Model.Path
import Genshi.Model.PathParse
import Genshi.Model.PathStrategy
import Genshi.Gen.Path
import Genshi.Lemmas.PathSingle
import Genshi.Lemmas.PathSpelling
import Genshi.Lemmas.PathSimple
import Genshi.Lemmas.PathChain
import Genshi.Lemmas.PathNonPos
import Genshi.Lemmas.PathKmpRun
import Genshi.Lemmas.PathFrags
import Genshi.Lemmas.PathFragsSelf
import Genshi.Lemmas.PathFragsAttr
import Genshi.Lemmas.PathTokFast
import Genshi.Lemmas.PathUnion
namespace Genshi.Props.C17
open Genshi Genshi.Path

/-- `Path.STRATEGIES`: the specialised matchers are tried first, GenericStrategy last -/
theorem strategies_order : strategyOrder = [.single, .simple, .generic] := by decide

/-- the verdicts of the model's three `supports` (Single, Simple, Generic) on the first location path of `text`;
    `[]` where `parse` fails -/
def modelSupports (text : Str) : List Bool :=
  match parse text with
  | .ok (p :: _) => [singleSupports p, simpleSupports p, true]
  | _ => []

/-- The model's `supports` predicates give, on the basis of path shapes, the verdicts probed
    from the real strategy classes on every run (`Gen.Path.supportsProbe`). -/
theorem supports_probe_agrees : ∀ p ∈ Gen.Path.supportsProbe, modelSupports p.1 = p.2 := by
  simp only [modelSupports, parse_eq_fast]
  decide +kernel

/-- The same on the systematic basis the translator probes on every run
    (`Gen.Path.supportsProbeSys`): every single step (7 axis spellings × 10 node tests, with and
    without a predicate), every pair and every triple of steps over a reduced alphabet — the real
    parser's reading of each text and the real classes' three verdicts against `parse` and the
    model's `supports`. -/
theorem supports_probe_systematic :
    ∀ chunk ∈ Gen.Path.supportsProbeSys, ∀ p ∈ chunk, modelSupports p.1 = p.2 := by
  simp only [modelSupports, parse_eq_fast]
  decide +kernel

/-- first non-`None` of a list of results -/
def firstNonNone : List Val → Val
  | [] => .none
  | v :: vs => if v.isNone then firstNonNone vs else v

theorem foldl_first (vs : List Val) (acc : Val) :
    vs.foldl (fun acc v => if acc.isNone then v else acc) acc
      = if acc.isNone then firstNonNone vs else acc := by
  by_cases h : acc.isNone = true
  · obtain rfl : acc = .none := by cases acc <;> first | rfl | cases h
    rw [if_pos h]
    induction vs with
    | nil => rfl
    | cons v vs ih => rw [foldl_first_cons, ih]; rfl
  · rw [if_neg h, foldl_first_keep Val.isNone vs acc (by simpa using h)]

/-- `_multi`: on every event every operand is stepped (its state advances whatever the others
    report) and the result is the first non-`None` of the operands' results, for any number of
    operands, any states and any event. -/
theorem union_is_first_nonNone (ms : List Matcher) (ns : NsMap) (vs : Vars) (sts : List MState) (e : Event) :
    multiStep ms ns vs sts e =
      (((ms.zip sts).map fun p => (p.1.step ns vs p.2 e).1),
       firstNonNone ((ms.zip sts).map fun p => (p.1.step ns vs p.2 e).2)) := by
  unfold multiStep
  simp only [foldl_first, List.map_map]
  rfl

/-- the caller's view of `Path.test` with a forced strategy: `stratRun` under the caller's mask -/
theorem trace_forced (s : Strategy) (p : LocPath) (ic : Bool) (ns : NsMap) (vs : Vars) (skip : Bool) (es : List Event) :
    traceCaller (pathTest [p] ic (some s)).1 ns vs skip (pathTest [p] ic (some s)).2 es
      = maskSkip skip 0 es (stratRun s p ic ns vs es) :=
  congrArg _ (runTest_forced s p ic ns vs es)

/-- the same without a forced strategy, for the strategy `Path.__init__` chooses -/
theorem trace_chosen (p : LocPath) (ic : Bool) (s : Strategy) (h : chooseStrategy p = some s) (ns : NsMap) (vs : Vars)
    (skip : Bool) (es : List Event) :
    traceCaller (pathTest [p] ic).1 ns vs skip (pathTest [p] ic).2 es = maskSkip skip 0 es (stratRun s p ic ns vs es) := by
  rw [pathTest_chosen h, trace_forced]

/-- **single_eq_generic.**  For every single location step — any of the five axes, any node
    test, any predicates, positional ones included —, both modes (`ignore_context`), both caller
    behaviours (testing every event / skipping matched subtrees with update-only calls) and every
    element tree, SingleStepStrategy reports, event by event, exactly what GenericStrategy
    reports.  Proved by a simulation: the depth counter abstracts the position stack, the single
    counter list is the counter of the one context node (`Lemmas/PathSingle.lean`).

    Hypothesis: the stream is the flattening of ONE element (with several top-level elements
    the two differ on positional predicates: `forest_positional_differs`, finding
    C17-forest-positional).  No hypothesis on the node test: on the attribute axis the parser
    also builds node-type tests (`attribute::text()`), for which SingleStepStrategy reports
    `None` as GenericStrategy does (`… or None`: genshi fix 996160a, finding
    C17-single-attribute-false). -/
theorem single_eq_generic (s : Step) (ic skip : Bool) (ns : NsMap) (vs : Vars)
    (tag : QName) (attrs : AttrList) (kids : List Node) (hok : okList kids = true) :
    traceCaller (pathTest [[s]] ic (some .single)).1 ns vs skip (pathTest [[s]] ic (some .single)).2
        (Node.elem tag attrs kids).flatten
      = traceCaller (pathTest [[s]] ic (some .generic)).1 ns vs skip (pathTest [[s]] ic (some .generic)).2
        (Node.elem tag attrs kids).flatten := by
  rw [trace_forced, trace_forced]
  exact congrArg _ (single_eq_generic_run_full s ic ns vs tag attrs kids hok).symm

-- the hypotheses are satisfiable on a non-trivial input: `b[2]` on <a><b/><b/></a>
example : okList [Node.elem ⟨[], ['b']⟩ [] [], Node.elem ⟨[], ['b']⟩ [] []] = true := by decide
example : runTest (pathTest [[⟨.child, .localName false ['b'], [.num (.dec false 2 0)]⟩]] false (some .single)).1 [] []
    (pathTest [[⟨.child, .localName false ['b'], [.num (.dec false 2 0)]⟩]] false (some .single)).2
    (Node.elem ⟨[], ['a']⟩ [] [Node.elem ⟨[], ['b']⟩ [] [], Node.elem ⟨[], ['b']⟩ [] []]).flatten
    = [.none, .none, .none, .bool true, .none, .none] := by decide +kernel

/-- `b[2]` -/
def pathB2 : LocPath := [⟨.child, .localName false ['b'], [.num (.dec false 2 0)]⟩]

/-- two top-level elements `<a><b/></a><a><b/></a>` -/
def forest2 : List Event :=
  (Node.elem ⟨[], ['a']⟩ [] [Node.elem ⟨[], ['b']⟩ [] []]).flatten ++
  (Node.elem ⟨[], ['a']⟩ [] [Node.elem ⟨[], ['b']⟩ [] []]).flatten

/-- finding C17-forest-positional: on a stream with two top-level elements the single-tree
    hypothesis of `single_eq_generic` cannot be dropped — SingleStepStrategy reports the `b`
    of the second tree as `b[2]`, GenericStrategy does not -/
theorem forest_positional_differs :
    runTest (pathTest [pathB2] false (some .single)).1 [] [] (pathTest [pathB2] false (some .single)).2 forest2
      = [.none, .none, .none, .none, .none, .bool true, .none, .none] ∧
    runTest (pathTest [pathB2] false (some .generic)).1 [] [] (pathTest [pathB2] false (some .generic)).2 forest2
      = [.none, .none, .none, .none, .none, .none, .none, .none] := by decide +kernel

/-- insert the predicate `t` at place `k` of the predicate list of step `i` -/
def insertPred (p : LocPath) (i k : Nat) (t : Expr) : LocPath :=
  p.mapIdx fun j s => if j == i then { s with preds := s.preds.take k ++ t :: s.preds.drop k } else s

theorem all2_insert (ns : NsMap) (vs : Vars) (t : Expr) (ht : AlwaysTrue ns vs t) (k : Nat) (p : LocPath) (i : Nat) :
    All2 (StepEq ns vs) (insertPred p i k t) p :=
  All2.mapIdx_left fun j s => by
    split
    · exact stepEq_insert ns vs t ht s k
    · exact StepEq.refl ns vs s

/-- **true_pred_irrelevant.**  Let `t` be a predicate that is true at every event and is not a
    position test (`true()`, `1=1`, `not(false())`, …).  Inserting `[t]` anywhere among the
    predicates of any step of a location path changes nothing: GenericStrategy and
    SingleStepStrategy, run on the step lists of the two spellings, go through the same states
    and report the same result at every event of every stream (no hypothesis on the stream).
    The counters of positional predicates are unaffected because only position tests consume a
    counter slot.

    Scope: stated on the step lists the strategies run (`gStep` / `sStep`); for the relative
    mode `gSteps p false` only prepends `self::*`, so this is the statement about `p` itself
    (`gStep_insert`; pattern mode: `true_pred_irrelevant_pattern`).  As a pattern a predicate on a leading `.` stops that step from being
    dropped (finding C17-pattern-first-step-position), and a path SimplePathStrategy supports is
    handed to GenericStrategy once it has a predicate: that pair is covered by
    `simple_eq_generic`. -/
theorem true_pred_irrelevant (ns : NsMap) (vs : Vars) (t : Expr) (ht : AlwaysTrue ns vs t)
    (steps : List Step) (i k : Nat) :
    (∀ (st : GState) (e : Event),
        gStep (insertPred steps i k t) ns vs st e = gStep steps ns vs st e) ∧
    (∀ (ic : Bool) (st : SState) (e : Event),
        sStep (insertPred steps i k t) ic ns vs st e = sStep steps ic ns vs st e) :=
  ⟨fun st e => gStep_congr ns vs _ _ (all2_insert ns vs t ht k steps i) st e,
   fun ic st e => sStep_congr ns vs _ _ (all2_insert ns vs t ht k steps i) ic st e⟩

-- `true()` and `1=1` are such predicates
example (ns : NsMap) (vs : Vars) : AlwaysTrue ns vs (.fn0 .true_) := fun e => by cases e <;> rfl
example (ns : NsMap) (vs : Vars) :
    AlwaysTrue ns vs (.cmp .eq (.num (.dec false 1 0)) (.num (.dec false 1 0))) := fun _ => rfl

/-- **self_prefix_irrelevant** (partial).
    Full statement: for every location path `p`, both modes, both caller behaviours and every
    stream, `./p` and `p` report the same matches.
    Proved here: relative mode (`ignore_context = False`), `p` starting on the child, descendant
    or attribute axis (the paths that are spelled with or without `./` in practice), any
    further steps and predicates, every element tree, both caller behaviours, under
    GenericStrategy: `self::node()/p` and `p` go through identical states after the context
    node, because from depth 1 on no candidate position refers to the first step
    (`Lemmas/PathSpelling.lean`: `sim_tail`).
    Not covered by this theorem: `p` starting with `self::` / `descendant-or-self::` (the step
    lists then differ in length): `self_prefix_irrelevant_nonpositional` for paths without
    position tests; the pattern mode, where `./` is dropped before matching:
    `self_prefix_irrelevant_pattern`; the specialised strategies for `p`:
    `self_prefix_default_choice_full` (one-step `p`: `single_eq_generic`). -/
theorem self_prefix_irrelevant_partial (s0 : Step) (rest : LocPath) (ns : NsMap) (vs : Vars)
    (hax : s0.axis = .child ∨ s0.axis = .descendant ∨ s0.axis = .attribute) (skip : Bool)
    (tag : QName) (attrs : AttrList) (kids : List Node) (hok : okList kids = true) :
    traceCaller (pathTest [dot :: s0 :: rest] false (some .generic)).1 ns vs skip
        (pathTest [dot :: s0 :: rest] false (some .generic)).2 (Node.elem tag attrs kids).flatten
      = traceCaller (pathTest [s0 :: rest] false (some .generic)).1 ns vs skip
        (pathTest [s0 :: rest] false (some .generic)).2 (Node.elem tag attrs kids).flatten := by
  have h1 : gSteps (dot :: s0 :: rest) false = dot :: s0 :: rest := by simp [gSteps, dot]
  have h2 : gSteps (s0 :: rest) false = dotSlash :: s0 :: rest := by
    rcases hax with h | h | h <;> simp [gSteps, h]
  rw [trace_forced, trace_forced]
  simp only [stratRun, h1, h2]
  exact congrArg _ (tail_runs ns vs (s0 :: rest) (by simp) tag attrs kids hok)

open Genshi.Path.Ref in
/-- **Equivalent spellings match identically.**  Let `p1`, `p2` be location paths over the
    child / descendant / descendant-or-self / self axes, with any node tests and predicates
    that are not position tests.  If they select the same nodes in XPath 1.0 (`Ref.reach`) on
    an element tree, then GenericStrategy reports the same result for `p1` and for `p2` at
    *every event* of the tree, whatever the caller does with the results (`skip`).
    (Both matchers designate the XPath node set — `operand_nonpositional` —, and the per-event
    results are determined by the set of marked nodes — `vals_eq_of_marks`.) -/
theorem equivalent_spellings_agree (p1 p2 : LocPath) (ns : NsMap) (vs : Vars)
    (hp1 : StepsOk ns vs p1) (hp2 : StepsOk ns vs p2)
    (tag : QName) (attrs : AttrList) (kids : List Node)
    (hcl : (Node.elem tag attrs kids).clean = true)
    (hn1 : AllNodes (NodeFor p1 ns vs) (.elem tag attrs kids))
    (hn2 : AllNodes (NodeFor p2 ns vs) (.elem tag attrs kids))
    (hr : ∀ x : LNode, reach ns (toXVars vs) p1 ⟨[], .elem tag attrs kids⟩ x
                      = reach ns (toXVars vs) p2 ⟨[], .elem tag attrs kids⟩ x) (skip : Bool) :
    traceCaller (pathTest [p1] false (some .generic)).1 ns vs skip
        (pathTest [p1] false (some .generic)).2 (Node.elem tag attrs kids).flatten
      = traceCaller (pathTest [p2] false (some .generic)).1 ns vs skip
        (pathTest [p2] false (some .generic)).2 (Node.elem tag attrs kids).flatten := by
  simp only [traceCaller, pathTest, List.map_cons, List.map_nil, mkMatcher]
  rw [operands_agree ns vs (toXVars vs) _ p1 p2 _ _ _ _
    (operand_nonpositional p1 ns vs hp1 tag attrs kids hcl hn1)
    (operand_nonpositional p2 ns vs hp2 tag attrs kids hcl hn2) hr]

theorem stepsOk_dot (ns : NsMap) (vs : Vars) (p : LocPath) (hp : StepsOk ns vs p) : StepsOk ns vs (dot :: p) :=
  hp.cons ns vs dot (by decide) (by simp [dot, NodeTest.elemWf]) rfl

theorem preds_dot (p : LocPath) : ∀ s ∈ dot :: p, ∀ q ∈ s.preds, ∃ s0 ∈ p, q ∈ s0.preds := by
  intro s hs q hq
  rcases List.mem_cons.mp hs with rfl | h
  · cases hq
  · exact ⟨s, h, hq⟩

theorem reach_dot (ns : NsMap) (xvs : Ref.XVars) (p : LocPath) (c x : Ref.LNode) :
    Ref.reach ns xvs (dot :: p) c x = Ref.reach ns xvs p c x := by
  rw [reach_self ns xvs dot p (by intro q hq; simp [dot] at hq) rfl]
  simp [hitR, dot, Ref.testNode]

/-- **self_prefix_irrelevant** for paths without position tests: `./p` and `p` report the same
    result at every event, for `p` starting on *any* of the four axes (this covers the
    `self::` / `descendant-or-self::` first steps missing in `self_prefix_irrelevant_partial`,
    where the two step lists differ in length), relative mode, GenericStrategy, both caller
    behaviours, every element tree. -/
theorem self_prefix_irrelevant_nonpositional (p : LocPath) (ns : NsMap) (vs : Vars) (hp : StepsOk ns vs p)
    (tag : QName) (attrs : AttrList) (kids : List Node)
    (hcl : (Node.elem tag attrs kids).clean = true)
    (hn : AllNodes (NodeFor p ns vs) (.elem tag attrs kids)) (skip : Bool) :
    traceCaller (pathTest [dot :: p] false (some .generic)).1 ns vs skip
        (pathTest [dot :: p] false (some .generic)).2 (Node.elem tag attrs kids).flatten
      = traceCaller (pathTest [p] false (some .generic)).1 ns vs skip
        (pathTest [p] false (some .generic)).2 (Node.elem tag attrs kids).flatten := by
  apply equivalent_spellings_agree (dot :: p) p ns vs (stepsOk_dot ns vs p hp) hp tag attrs kids hcl
    (nodeFor_weaken ns vs (preds_dot p) _ hn) hn
  exact reach_dot ns _ p _

/-- `descendant-or-self::node()`, what `//` abbreviates -/
def dosNode : Step := ⟨.descendantOrSelf, .node, []⟩

/-- **`//` is `descendant::`.**  Anywhere in a path without position tests,
    `…/descendant-or-self::node()/child::t[…]/…` (the expansion of `…//t[…]/…`) and
    `…/descendant::t[…]/…` report the same result at every event under GenericStrategy
    (e.g. `.//b` and `descendant::b`, `a//b[@k]/c` and `a/descendant::b[@k]/c`). -/
theorem dslash_is_descendant (pre : LocPath) (s : Step) (rest : LocPath) (hax : s.axis = .child)
    (ns : NsMap) (vs : Vars) (hp : StepsOk ns vs (pre ++ dosNode :: s :: rest))
    (tag : QName) (attrs : AttrList) (kids : List Node)
    (hcl : (Node.elem tag attrs kids).clean = true)
    (hn : AllNodes (NodeFor (pre ++ dosNode :: s :: rest) ns vs) (.elem tag attrs kids)) (skip : Bool) :
    traceCaller (pathTest [pre ++ dosNode :: s :: rest] false (some .generic)).1 ns vs skip
        (pathTest [pre ++ dosNode :: s :: rest] false (some .generic)).2 (Node.elem tag attrs kids).flatten
      = traceCaller (pathTest [pre ++ withAxis .descendant s :: rest] false (some .generic)).1 ns vs skip
        (pathTest [pre ++ withAxis .descendant s :: rest] false (some .generic)).2
        (Node.elem tag attrs kids).flatten := by
  have hmem : ∀ s' ∈ pre ++ withAxis .descendant s :: rest,
      s' = withAxis .descendant s ∨ s' ∈ pre ++ dosNode :: s :: rest := by
    intro s' hs'
    rcases List.mem_append.mp hs' with h | h
    · exact Or.inr (List.mem_append_left _ h)
    · rcases List.mem_cons.mp h with h | h
      · exact Or.inl h
      · exact Or.inr (List.mem_append_right _ (List.mem_cons_of_mem _ (List.mem_cons_of_mem _ h)))
  have hs : s ∈ pre ++ dosNode :: s :: rest := List.mem_append_right _ (by simp)
  have hp' : StepsOk ns vs (pre ++ withAxis .descendant s :: rest) :=
    hp.of_like ns vs (by simp) fun s' hs' => by
      rcases hmem s' hs' with rfl | h
      · exact ⟨nofun, s, hs, rfl, rfl⟩
      · exact ⟨hp.na s' h, s', h, rfl, rfl⟩
  have hn' : AllNodes (NodeFor (pre ++ withAxis .descendant s :: rest) ns vs) (.elem tag attrs kids) :=
    nodeFor_weaken ns vs (fun s' hs' q hq => by
      rcases hmem s' hs' with rfl | h
      · exact ⟨s, hs, hq⟩
      · exact ⟨s', h, hq⟩) _ hn
  apply equivalent_spellings_agree _ _ ns vs hp hp' tag attrs kids hcl hn hn'
  intro x
  apply Frags.reach_congr_prefix
  intro c
  exact reach_dslash ns (toXVars vs) s rest
    (nonpositional_of_numTyped ns vs s (hp.typed s hs) (hp.nonpos s hs)) hax c x

-- non-vacuity: `.//c` and `descendant::c` on <r><a><c/></a><c/></r>: True at both <c>
example : runTest (pathTest [[dot, dosNode, ⟨.child, .localName false ['c'], []⟩]] false (some .generic)).1 [] []
    (pathTest [[dot, dosNode, ⟨.child, .localName false ['c'], []⟩]] false (some .generic)).2
    (Node.elem ⟨[], ['r']⟩ [] [Node.elem ⟨[], ['a']⟩ [] [Node.elem ⟨[], ['c']⟩ [] []],
       Node.elem ⟨[], ['c']⟩ [] []]).flatten
    = [.none, .none, .bool true, .none, .none, .bool true, .none, .none] := by decide +kernel

/-- **simple_eq_generic** (partial).
    Full statement: for every location path SimplePathStrategy supports (name / text() /
    comment() tests, no predicates, any mixture of child, descendant, descendant-or-self and
    self steps, an optional final attribute step), both modes, both caller behaviours and every
    element tree, SimplePathStrategy reports event by event what GenericStrategy reports.
    Proved here: paths `t1/t2/…/tn` of child-axis steps (n ≥ 1, any node tests), relative mode,
    both caller behaviours, every element tree — the fragment that is bound to the context
    node, where Simple's pair (fragment, matched prefix length) is an abstraction of Generic's
    single candidate position (`Lemmas/PathSimple.lean`: `sim_chain`).
    See `simple_eq_generic_kmp` below for the fragment matched with KMP (`descendant::t1/…/tn`,
    leading `//t1/…/tn`).
    Not covered by this theorem: several fragments in one path
    (`simple_eq_generic_fragments_partial`), `self::` steps (`simple_eq_generic_spellings_partial`),
    the pattern mode (`simple_eq_generic_spellings_pattern`), the final attribute step
    (`simple_eq_generic_attr`); the full statement is `simple_eq_generic`. -/
theorem simple_eq_generic_partial (tests : List NodeTest) (hne : tests ≠ []) (skip : Bool)
    (ns : NsMap) (vs : Vars) (tag : QName) (attrs : AttrList) (kids : List Node) (hok : okList kids = true) :
    traceCaller (pathTest [childChain tests] false (some .simple)).1 ns vs skip
        (pathTest [childChain tests] false (some .simple)).2 (Node.elem tag attrs kids).flatten
      = traceCaller (pathTest [childChain tests] false (some .generic)).1 ns vs skip
        (pathTest [childChain tests] false (some .generic)).2 (Node.elem tag attrs kids).flatten := by
  have hg := gSteps_childPath (childPath_chain tests) (by simpa [childChain] using hne)
  rw [trace_forced, trace_forced]
  simp only [stratRun, hg, fragments_chain]
  exact congrArg _ (chain_runs ns vs tests hne tag attrs kids hok).symm

/-- **simple_eq_generic** for the fragment that is matched with KMP.
    For every path `descendant::t1/t2/…/tn` and `descendant-or-self::t1/t2/…/tn` (what the
    parser makes of a leading `//t1/…/tn`), n ≥ 1, with name, `text()` or `comment()` tests —
    the paths whose fragment can start anywhere below (or at) the context node —, relative
    mode, both caller behaviours and every element tree, SimplePathStrategy reports at every
    event what GenericStrategy reports.

    Proof: the case `fragPath ax0 tests` of `Frags.simple_eq_generic_run` (`Kmp.kmp_runs`).  What is
    specific to this fragment (`Lemmas/PathKmp*.lean`): `calculate_pi` computes the failure function —
    entry `q-1` is the length of the longest proper border of the first `q` tests (`calculatePi_ok`;
    borders with respect to `nodes_equal`, which for the supported tests is exactly "satisfied
    by the same events": `compat_event`); the back-stepping loop, shared by `calculate_pi` and
    the matcher, finds the longest candidate (`back_spec`); hence the `p` on Simple's stack is
    always the longest prefix of the fragment that matches the end of the chain of ancestors
    (`kmpStep_max`).  `Lemmas/PathKmpRun.lean` shows the agreement once more, against GenericStrategy's
    position machine and without the reference semantics: its candidate positions below the same chain
    are the start of the fragment and one position per matching prefix (`PosOK`, via `aLoop_plain`), and
    both report `True` exactly when the whole fragment matches the end of the chain (`kmp_tree`). -/
theorem simple_eq_generic_kmp (ax0 : Axis) (hax : ax0 = .descendant ∨ ax0 = .descendantOrSelf)
    (tests : List NodeTest) (hne : tests ≠ [])
    (hsimple : ∀ t ∈ tests, Kmp.simpleT t = true)
    (ns : NsMap) (vs : Vars) (skip : Bool)
    (tag : QName) (attrs : AttrList) (kids : List Node) (hcl : cleanList kids = true) :
    traceCaller (pathTest [Kmp.fragPath ax0 tests] false (some .simple)).1 ns vs skip
        (pathTest [Kmp.fragPath ax0 tests] false (some .simple)).2 (Node.elem tag attrs kids).flatten
      = traceCaller (pathTest [Kmp.fragPath ax0 tests] false (some .generic)).1 ns vs skip
        (pathTest [Kmp.fragPath ax0 tests] false (some .generic)).2 (Node.elem tag attrs kids).flatten := by
  rw [trace_forced, trace_forced]
  exact congrArg _ (Kmp.kmp_runs ns vs ax0 hax tests hne (Kmp.simple_of_mem tests hsimple) tag attrs kids hcl)

-- non-vacuity: `//a/a/b` (the fragment overlaps itself) on <a><a><a><b/></a></a></a>
example : runTest (pathTest [Kmp.fragPath .descendantOrSelf
      [.localName false ['a'], .localName false ['a'], .localName false ['b']]] false (some .simple)).1 [] []
    (pathTest [Kmp.fragPath .descendantOrSelf
      [.localName false ['a'], .localName false ['a'], .localName false ['b']]] false (some .simple)).2
    (Node.elem ⟨[], ['a']⟩ [] [Node.elem ⟨[], ['a']⟩ [] [Node.elem ⟨[], ['a']⟩ [] [Node.elem ⟨[], ['b']⟩ [] []]]]).flatten
    = [.none, .none, .none, .bool true, .none, .none, .none, .none] := by decide +kernel

-- non-vacuity: `a/b` on <r><a><b/></a></r>
example : runTest (pathTest [childChain [.localName false ['a'], .localName false ['b']]] false (some .simple)).1 [] []
    (pathTest [childChain [.localName false ['a'], .localName false ['b']]] false (some .simple)).2
    (Node.elem ⟨[], ['r']⟩ [] [Node.elem ⟨[], ['a']⟩ [] [Node.elem ⟨[], ['b']⟩ [] []]]).flatten
    = [.none, .none, .bool true, .none, .none, .none] := by decide +kernel

/-- `a/descendant::b/c`: a bound fragment, then a KMP fragment -/
def fragsABC : List Frag :=
  [⟨[.localName false ['a']], [0], none, false⟩,
   ⟨[.localName false ['b'], .localName false ['c']], [0, 0], none, false⟩]

/-- `descendant::a/a/descendant-or-self::a/b`: two KMP fragments, the first one overlapping
    itself (failure table `[0, 1]`), the second one entered on the node that completes the first -/
def fragsAAB : List Frag :=
  [⟨[], [], none, false⟩,
   ⟨[.localName false ['a'], .localName false ['a']], [0, 1], none, false⟩,
   ⟨[.localName false ['a'], .localName false ['b']], [0, 0], none, true⟩]

-- non-vacuity: the hypotheses hold, the paths are what they should be, and there are matches
example : Frags.FragsOk fragsABC := Frags.fragsOk_of_B _ (by decide)
example : Frags.FragsOk fragsAAB := Frags.fragsOk_of_B _ (by decide)
example : Frags.normPath fragsABC
    = [⟨.child, .localName false ['a'], []⟩, ⟨.descendant, .localName false ['b'], []⟩,
       ⟨.child, .localName false ['c'], []⟩] := by decide
example : Frags.normPath fragsAAB
    = [⟨.descendant, .localName false ['a'], []⟩, ⟨.child, .localName false ['a'], []⟩,
       ⟨.descendantOrSelf, .localName false ['a'], []⟩, ⟨.child, .localName false ['b'], []⟩] := by decide
-- `a/descendant::b/c` on <r><a><x><b><c/></b></x></a><b><c/></b></r>: only the first <c/>
example : runTest (pathTest [Frags.normPath fragsABC] false (some .simple)).1 [] []
    (pathTest [Frags.normPath fragsABC] false (some .simple)).2
    (Node.elem ⟨[], ['r']⟩ [] [
      Node.elem ⟨[], ['a']⟩ [] [Node.elem ⟨[], ['x']⟩ [] [Node.elem ⟨[], ['b']⟩ [] [Node.elem ⟨[], ['c']⟩ [] []]]],
      Node.elem ⟨[], ['b']⟩ [] [Node.elem ⟨[], ['c']⟩ [] []]]).flatten
    = [.none, .none, .none, .none, .bool true, .none, .none, .none, .none, .none, .none, .none, .none, .none] := by
  decide +kernel
-- `descendant::a/a/descendant-or-self::a/b` on <r><a><a><a><b/></a></a></a></r>: KMP falls back
-- inside the first fragment, the second fragment starts on the completing node; the <b/> matches
example : runTest (pathTest [Frags.normPath fragsAAB] false (some .simple)).1 [] []
    (pathTest [Frags.normPath fragsAAB] false (some .simple)).2
    (Node.elem ⟨[], ['r']⟩ [] [Node.elem ⟨[], ['a']⟩ [] [Node.elem ⟨[], ['a']⟩ [] [Node.elem ⟨[], ['a']⟩ []
      [Node.elem ⟨[], ['b']⟩ [] []]]]]).flatten
    = [.none, .none, .none, .none, .bool true, .none, .none, .none, .none, .none] := by decide +kernel

-- non-vacuity: the pattern `a/descendant::b/c` on <r><x><a><b><c/></b></a></x></r> matches the <c/>
example : runTest (pathTest [Frags.normPath fragsABC] true (some .simple)).1 [] []
    (pathTest [Frags.normPath fragsABC] true (some .simple)).2
    (Node.elem ⟨[], ['r']⟩ [] [Node.elem ⟨[], ['x']⟩ [] [Node.elem ⟨[], ['a']⟩ [] [Node.elem ⟨[], ['b']⟩ []
      [Node.elem ⟨[], ['c']⟩ [] []]]]]).flatten
    = [.none, .none, .none, .none, .bool true, .none, .none, .none, .none, .none] := by decide +kernel

theorem insertPred_preds (p : LocPath) (i k : Nat) (t : Expr) (hi : i < p.length) :
    ∃ s ∈ insertPred p i k t, s.preds ≠ [] := by
  refine ⟨(insertPred p i k t)[i]'(by simp [insertPred]; exact hi), List.getElem_mem _, ?_⟩
  simp [insertPred]

/-- **simple_eq_generic for every supported spelling without an attribute step.**
    Full statement: as for `simple_eq_generic_fragments_partial` below.
    Proved here: let `p` be ANY non-empty location path whose steps are on the child,
    descendant, descendant-or-self or self axis — in any order, `self::` steps anywhere — with
    name / `text()` / `comment()` tests and no predicates (`Frags.SStep`: what
    `SimplePathStrategy.supports` accepts, minus a final attribute step).  Then in relative
    mode, for both caller behaviours and every element tree, SimplePathStrategy (with the
    fragments `__init__` computes from `p` itself) reports at every event what GenericStrategy
    reports.  Beyond `simple_eq_generic_fragments_partial` this covers the spellings
    `__init__` rewrites: `t/self::t` (merged: `self_merge`) and `t/self::u` (`fragments = None`,
    the matcher never reports anything — and XPath selects nothing: `self_clash`), by an
    induction along `__init__`'s loop (`Frags.fragLoop_sem`, `Frags.fragments_sem`).  Both matchers
    are operands for `p` (`Frags.operand_simple_spelling`, `Frags.operand_generic_spelling`: they mark its XPath
    node set), hence report the same at every event (`Frags.simple_eq_generic_run`); `hn` is not used.
    Not covered by this theorem: a final attribute step (`simple_eq_generic_attr`), the pattern
    mode (`simple_eq_generic_spellings_pattern`); the full statement is `simple_eq_generic`. -/
theorem simple_eq_generic_spellings_partial (p : LocPath) (hp : ∀ s ∈ p, Frags.SStep s) (hne : p ≠ [])
    (ns : NsMap) (vs : Vars) (skip : Bool)
    (tag : QName) (attrs : AttrList) (kids : List Node)
    (hcl : (Node.elem tag attrs kids).clean = true)
    (hn : AllNodes (NodeFor p ns vs) (.elem tag attrs kids)) :
    traceCaller (pathTest [p] false (some .simple)).1 ns vs skip
        (pathTest [p] false (some .simple)).2 (Node.elem tag attrs kids).flatten
      = traceCaller (pathTest [p] false (some .generic)).1 ns vs skip
        (pathTest [p] false (some .generic)).2 (Node.elem tag attrs kids).flatten := by
  rw [trace_forced, trace_forced]
  exact congrArg _ (Frags.simple_eq_generic_run ns vs false p hp hne tag attrs kids (by simpa [Node.clean] using hcl))

/-- **simple_eq_generic** for every fragment list (partial only in the spelling of the path).
    Full statement: for every location path SimplePathStrategy supports, both modes, both
    caller behaviours and every element tree, SimplePathStrategy reports event by event what
    GenericStrategy reports.
    Proved here: let `frags` be ANY list of fragments as `SimplePathStrategy.__init__` builds
    them (`Frags.FragsOk`: any number of fragments; the first one bound to the context node
    — `child::t1/…` or `self::t1/child::t2/…` — or empty when the path starts with
    `descendant::` / `descendant-or-self::`; every further fragment entered through
    `descendant::` or `descendant-or-self::`; name / `text()` / `comment()` tests; failure
    tables computed by `calculate_pi`), and `Frags.normPath frags` the location path with
    these fragments — so `a/descendant::b/c`, `descendant::a/descendant::b`,
    `a/b/descendant-or-self::c/descendant::d/e`, `self::a/b/descendant::a/a/b`, … with any
    number of `descendant::` hand-overs.  `__init__` maps that path back to `frags`
    (`fragments_normPath`), and for the relative mode, both caller behaviours and every
    element tree the two strategies agree at every event.

    Proof (`Lemmas/PathFrags*.lean`): each entry `(fid, p, ic)` of Simple's stack is read
    through the reference semantics (`ESem`: the rest of the bound fragment; or `SemIc` — the
    fragment may start anywhere below, or one of the matched prefixes, `p` being the longest
    (KMP: `kmpStep_max`), is continued); one matcher step keeps that reading (`visit`,
    `icLoop_spec`).  When a fragment is completed the code moves to the next one and drops every
    other candidate of the completed fragment: the DOMINATION lemma `semIc_dom` shows that
    those candidates select nothing that the rest of the path does not select from the
    completing node already (the rest starts with a descendant-like step, which is monotone
    along the tree: `Mono`).  Hence Simple marks exactly `Ref.reach` (`simple_marks`), as
    GenericStrategy does (`generic_marks_hit`), and equal marks mean equal results at
    every event (`vals_eq_of_marks`): the case `p = normPath frags` of
    `simple_eq_generic_spellings_partial`.

    Not covered by this theorem: spellings with an interior `self::` step (`a/self::a/b`, merged
    or rejected by `__init__`: `simple_eq_generic_spellings_partial`), a final attribute step
    (`simple_eq_generic_attr`), the pattern mode (`simple_eq_generic_fragments_pattern`); the
    full statement is `simple_eq_generic`.  Hypotheses on the tree as in
    `equivalent_spellings_agree`. -/
theorem simple_eq_generic_fragments_partial (frags : List Frag) (hok : Frags.FragsOk frags)
    (ns : NsMap) (vs : Vars) (skip : Bool)
    (tag : QName) (attrs : AttrList) (kids : List Node)
    (hcl : (Node.elem tag attrs kids).clean = true)
    (hn : AllNodes (NodeFor (Frags.normPath frags) ns vs) (.elem tag attrs kids)) :
    traceCaller (pathTest [Frags.normPath frags] false (some .simple)).1 ns vs skip
        (pathTest [Frags.normPath frags] false (some .simple)).2 (Node.elem tag attrs kids).flatten
      = traceCaller (pathTest [Frags.normPath frags] false (some .generic)).1 ns vs skip
        (pathTest [Frags.normPath frags] false (some .generic)).2 (Node.elem tag attrs kids).flatten :=
  simple_eq_generic_spellings_partial _ (Frags.sstep_normPath frags hok)
    (List.length_pos_iff.mp (Frags.normPath_ne frags hok)) ns vs skip tag attrs kids hcl hn

/-- `descendant::a/self::a/b`: merged by `__init__` to `descendant::a/b` -/
def pathSelfMerge : LocPath :=
  [⟨.descendant, .localName false ['a'], []⟩, ⟨.self, .localName false ['a'], []⟩, ⟨.child, .localName false ['b'], []⟩]
/-- `a/self::b/c`: impossible, `fragments = None` -/
def pathSelfClash : LocPath :=
  [⟨.child, .localName false ['a'], []⟩, ⟨.self, .localName false ['b'], []⟩, ⟨.child, .localName false ['c'], []⟩]

example : ∀ s ∈ pathSelfMerge, Frags.SStep s := (Frags.allSStepM_sound _ (by decide)).1
example : fragments pathSelfMerge
    = some [⟨[], [], none, false⟩, ⟨[.localName false ['a'], .localName false ['b']], [0, 0], none, false⟩] := by decide
example : fragments pathSelfClash = none := by decide
example : runTest (pathTest [pathSelfMerge] false (some .simple)).1 [] []
    (pathTest [pathSelfMerge] false (some .simple)).2
    (Node.elem ⟨[], ['r']⟩ [] [Node.elem ⟨[], ['a']⟩ [] [Node.elem ⟨[], ['b']⟩ [] []]]).flatten
    = [.none, .none, .bool true, .none, .none, .none] := by decide +kernel

/-- **simple_eq_generic in pattern mode for every supported spelling without an attribute
    step** (`Path.test(ignore_context=True)`, what match templates use): ANY non-empty path over
    the child / descendant / descendant-or-self / self axes, `self::` steps anywhere, name /
    `text()` / `comment()` tests, no predicates.  SimplePathStrategy (with the fragments
    `__init__` computes from `p`) and GenericStrategy report the same at every event, both
    caller behaviours, every element tree: both mark the nodes
    `descendant-or-self::first/rest` selects from the root — Generic by `gSteps_sstep_pattern` /
    `generic_marks_hit`, Simple by `simple_marks_pattern` for the fragment list, whose pattern
    path selects the same nodes by the induction along `__init__`'s loop with
    `pre = [descendant-or-self::first]` (`Frags.fragments_sem_pattern`); when `__init__` finds the
    path impossible (`fragments = None`) neither reports anything. -/
theorem simple_eq_generic_spellings_pattern (p : LocPath) (hp : ∀ s ∈ p, Frags.SStep s) (hne : p ≠ [])
    (ns : NsMap) (vs : Vars) (skip : Bool)
    (tag : QName) (attrs : AttrList) (kids : List Node)
    (hcl : (Node.elem tag attrs kids).clean = true)
    (hn : AllNodes (NodeFor p ns vs) (.elem tag attrs kids)) :
    traceCaller (pathTest [p] true (some .simple)).1 ns vs skip
        (pathTest [p] true (some .simple)).2 (Node.elem tag attrs kids).flatten
      = traceCaller (pathTest [p] true (some .generic)).1 ns vs skip
        (pathTest [p] true (some .generic)).2 (Node.elem tag attrs kids).flatten := by
  rw [trace_forced, trace_forced]
  exact congrArg _ (Frags.simple_eq_generic_run ns vs true p hp hne tag attrs kids (by simpa [Node.clean] using hcl))

/-- **simple_eq_generic in pattern mode** (`Path.test(ignore_context=True)`, what match
    templates use), for the path of every fragment list: SimplePathStrategy matches the first
    non-empty fragment with KMP from the root on (entry `(fid0, 0, ic = True)`), GenericStrategy
    rewrites the first step to `descendant-or-self::` (`gSteps_pattern`) — both report `True`
    exactly at the nodes `descendant-or-self::first/rest` selects from the root
    (`Frags.simple_marks_pattern`; `generic_marks_hit`, the core of C05
    `pattern_matches_eq_xp`), hence the same at every event, both caller behaviours, every
    element tree: the case `p = normPath frags` of `simple_eq_generic_spellings_pattern`. -/
theorem simple_eq_generic_fragments_pattern (frags : List Frag) (hok : Frags.FragsOk frags)
    (ns : NsMap) (vs : Vars) (skip : Bool)
    (tag : QName) (attrs : AttrList) (kids : List Node)
    (hcl : (Node.elem tag attrs kids).clean = true)
    (hn : AllNodes (NodeFor (Frags.normPath frags) ns vs) (.elem tag attrs kids)) :
    traceCaller (pathTest [Frags.normPath frags] true (some .simple)).1 ns vs skip
        (pathTest [Frags.normPath frags] true (some .simple)).2 (Node.elem tag attrs kids).flatten
      = traceCaller (pathTest [Frags.normPath frags] true (some .generic)).1 ns vs skip
        (pathTest [Frags.normPath frags] true (some .generic)).2 (Node.elem tag attrs kids).flatten :=
  simple_eq_generic_spellings_pattern _ (Frags.sstep_normPath frags hok)
    (List.length_pos_iff.mp (Frags.normPath_ne frags hok)) ns vs skip tag attrs kids hcl hn

-- non-vacuity: the pattern `descendant::a/self::a/b` on <r><x><a><b/></a></x></r> matches the <b/>
example : runTest (pathTest [pathSelfMerge] true (some .simple)).1 [] []
    (pathTest [pathSelfMerge] true (some .simple)).2
    (Node.elem ⟨[], ['r']⟩ [] [Node.elem ⟨[], ['x']⟩ [] [Node.elem ⟨[], ['a']⟩ [] [Node.elem ⟨[], ['b']⟩ [] []]]]).flatten
    = [.none, .none, .none, .bool true, .none, .none, .none, .none] := by decide +kernel

/-- **simple_eq_generic with a final attribute step**: `q/@a` for ANY supported spelling `q`
    (child / descendant / descendant-or-self / self steps in any order — so also after a KMP
    fragment: `descendant::a/b/@x`, `a//b/c/@x` —, name / `text()` / `comment()` tests) and any
    attribute step `a`, BOTH modes, both caller behaviours, every element tree:
    SimplePathStrategy reports at every event what GenericStrategy reports.

    Simple: `__init__` stores the attribute test in the last fragment of the list it builds for
    `q` (`fragments_snoc_attr`); the matcher never looks at it except to form the result
    (`icLoop_setAttr`, `pStep_setAttr`: induction over the run with the invariant "the entries
    on the stack point to non-empty fragments"), so the run is the run on `q` with `True`
    replaced by the non-empty value of the attribute test (`simple_attr_trace`; "or None" is
    genshi fix ef611bc).  Generic: the same (`Frags.generic_attr_gate`, from `attr_run_hit`).  On `q` the
    two agree (`Frags.simple_eq_generic_run`); together `Frags.simple_eq_generic_attr_run`.  `hn` is not used. -/
theorem simple_eq_generic_attr (q : LocPath) (hq : ∀ s ∈ q, Frags.SStep s) (hne : q ≠ []) (a : Step)
    (ha : a.axis = .attribute) (ic : Bool)
    (ns : NsMap) (vs : Vars) (skip : Bool)
    (tag : QName) (attrs : AttrList) (kids : List Node)
    (hcl : (Node.elem tag attrs kids).clean = true)
    (hn : AllNodes (NodeFor q ns vs) (.elem tag attrs kids)) :
    traceCaller (pathTest [q ++ [a]] ic (some .simple)).1 ns vs skip
        (pathTest [q ++ [a]] ic (some .simple)).2 (Node.elem tag attrs kids).flatten
      = traceCaller (pathTest [q ++ [a]] ic (some .generic)).1 ns vs skip
        (pathTest [q ++ [a]] ic (some .generic)).2 (Node.elem tag attrs kids).flatten := by
  rw [trace_forced, trace_forced]
  exact congrArg _ (Frags.simple_eq_generic_attr_run ns vs ic q hq hne a ha tag attrs kids hcl)

/-- `descendant::a/b/@x`: a KMP fragment, then an attribute step -/
def pathKmpAttr : LocPath :=
  [⟨.descendant, .localName false ['a'], []⟩, ⟨.child, .localName false ['b'], []⟩,
   ⟨.attribute, .localName true ['x'], []⟩]

-- non-vacuity: on <r><a><a><b x="1"/></a></a></r> the attribute of the <b> is reported
example : fragments pathKmpAttr
    = some [⟨[], [], none, false⟩,
            ⟨[.localName false ['a'], .localName false ['b']], [0, 0], some (.localName true ['x']), false⟩] := by decide
example : runTest (pathTest [pathKmpAttr] false (some .simple)).1 [] []
    (pathTest [pathKmpAttr] false (some .simple)).2
    (Node.elem ⟨[], ['r']⟩ [] [Node.elem ⟨[], ['a']⟩ [] [Node.elem ⟨[], ['a']⟩ []
      [Node.elem ⟨[], ['b']⟩ [(⟨[], ['x']⟩, ['1'])] []]]]).flatten
    = [.none, .none, .none, .attrs [(⟨[], ['x']⟩, ['1'])], .none, .none, .none, .none] := by decide +kernel

/-- the shapes `SimplePathStrategy.supports` accepts: a supported spelling, optionally followed
    by one attribute step (`hpt`: what the parser guarantees — a name test off the attribute
    axis carries the element principal type) -/
theorem supports_cases (p : LocPath) (hsup : simpleSupports p = true)
    (hpt : ∀ s ∈ p, s.axis ≠ .attribute → s.test.attrFlag = false) :
    ((∀ s ∈ p, Frags.SStep s) ∧ p ≠ []) ∨
    ∃ q a, p = q ++ [a] ∧ (∀ s ∈ q, Frags.SStep s) ∧ q ≠ [] ∧ a.axis = .attribute := by
  cases p with
  | nil => simp [simpleSupports] at hsup
  | cons s0 rest =>
    simp only [simpleSupports, Bool.and_eq_true, List.all_eq_true, bne_iff_ne, ne_eq] at hsup
    obtain ⟨⟨h0, hall⟩, hdl⟩ := hsup
    have hss : ∀ s ∈ s0 :: rest, s.axis ≠ .attribute → Frags.SStep s := by
      intro s hs hax
      have h1 := hall s hs
      have h2 := hpt s hs hax
      simp only [List.isEmpty_iff] at h1
      refine ⟨h1.1, ?_, hax⟩
      have h12 := h1.2
      generalize s.test = t at h12 h2 ⊢
      cases t with
      | localName b n => cases b <;> first | rfl | cases h2
      | comment => rfl
      | text => rfl
      | _ => cases h12
    have hsplit : s0 :: rest = (s0 :: rest).dropLast ++ [(s0 :: rest).getLast (by simp)] :=
      (List.dropLast_concat_getLast (by simp)).symm
    by_cases hlast : ((s0 :: rest).getLast (by simp)).axis = .attribute
    · refine Or.inr ⟨_, _, hsplit, fun s hs => hss s (List.dropLast_subset _ hs) (hdl s hs), ?_, hlast⟩
      cases rest with
      | nil => simp at hlast; exact absurd hlast h0
      | cons r rs => simp
    · refine Or.inl ⟨fun s hs => hss s hs ?_, by simp⟩
      rw [hsplit] at hs
      rcases List.mem_append.mp hs with h | h
      · exact hdl s h
      · simp only [List.mem_singleton] at h
        rw [h]; exact hlast

/-- **every strategy runs like GenericStrategy on the paths it supports**, on an element tree, in both modes:
    SingleStepStrategy on one step, SimplePathStrategy on a supported spelling optionally followed by an attribute
    step (`supports_cases`).  So does whatever `Path.__init__` picks (`chooseStrategy_supports`).  Of the tree only `clean` is used. -/
theorem strat_eq_generic (s : Strategy) (p : LocPath) (hsup : s.supports p = true)
    (hpt : ∀ s ∈ p, s.axis ≠ .attribute → s.test.attrFlag = false) (ic : Bool) (ns : NsMap) (vs : Vars)
    (tag : QName) (attrs : AttrList) (kids : List Node) (hcl : (Node.elem tag attrs kids).clean = true) :
    stratRun s p ic ns vs (Node.elem tag attrs kids).flatten
      = stratRun .generic p ic ns vs (Node.elem tag attrs kids).flatten := by
  cases s with
  | generic => rfl
  | single =>
    obtain ⟨s1, rfl⟩ : ∃ s1, p = [s1] := List.length_eq_one_iff.mp (beq_iff_eq.mp hsup)
    exact (single_eq_generic_run_full s1 ic ns vs tag attrs kids (by simpa [Node.ok] using ok_of_clean _ hcl)).symm
  | simple =>
    rcases supports_cases p hsup hpt with ⟨hp, hne⟩ | ⟨q, a, rfl, hq, hne, ha⟩
    · exact Frags.simple_eq_generic_run ns vs ic p hp hne tag attrs kids hcl
    · exact Frags.simple_eq_generic_attr_run ns vs ic q hq hne a ha tag attrs kids hcl

/-- **simple_eq_generic** — the full statement.  For EVERY location path
    `SimplePathStrategy.supports` accepts (name / `text()` / `comment()` tests, no predicates,
    any mixture of child, descendant, descendant-or-self and self steps, an optional final
    attribute step; an attribute step in front of another step is not accepted: genshi fix
    e131362), BOTH modes (`ignore_context`), both caller behaviours and every element
    tree, SimplePathStrategy reports, event by event, exactly what GenericStrategy reports.
    (`Frags.simple_eq_generic_run`, `Frags.simple_eq_generic_attr_run`, joined by `supports_cases`:
    `strat_eq_generic`.)
    Hypotheses: the parser's typing of name tests (`hpt`); on the tree as in
    `equivalent_spellings_agree` (one element, `clean`, `NodeFor`; the proof uses `clean` only). -/
theorem simple_eq_generic (p : LocPath) (hsup : simpleSupports p = true)
    (hpt : ∀ s ∈ p, s.axis ≠ .attribute → s.test.attrFlag = false) (ic : Bool)
    (ns : NsMap) (vs : Vars) (skip : Bool)
    (tag : QName) (attrs : AttrList) (kids : List Node)
    (hcl : (Node.elem tag attrs kids).clean = true)
    (hn : AllNodes (NodeFor p ns vs) (.elem tag attrs kids)) :
    traceCaller (pathTest [p] ic (some .simple)).1 ns vs skip
        (pathTest [p] ic (some .simple)).2 (Node.elem tag attrs kids).flatten
      = traceCaller (pathTest [p] ic (some .generic)).1 ns vs skip
        (pathTest [p] ic (some .generic)).2 (Node.elem tag attrs kids).flatten := by
  rw [trace_forced, trace_forced]
  exact congrArg _ (strat_eq_generic .simple p hsup hpt ic ns vs tag attrs kids hcl)

-- non-vacuity: the hypotheses hold of `descendant::a/b/@x`
example : simpleSupports pathKmpAttr = true := by decide
example : ∀ s ∈ pathKmpAttr, s.axis ≠ .attribute → s.test.attrFlag = false := by decide

/-- `a/@b/c` — an attribute step in front of another step: `SimplePathStrategy.__init__` stops
    reading at the attribute step and would report the `b` attributes of `a`, GenericStrategy
    (and XPath) nothing; `supports` rejects the path (genshi fix e131362, finding
    C17-simple-interior-attribute) -/
def pathInteriorAttr : LocPath :=
  [⟨.child, .localName false ['a'], []⟩, ⟨.attribute, .localName true ['b'], []⟩, ⟨.child, .localName false ['c'], []⟩]

theorem interior_attribute_not_simple :
    simpleSupports pathInteriorAttr = false ∧ chooseStrategy pathInteriorAttr = some .generic ∧
    runTest (pathTest [pathInteriorAttr] false (some .simple)).1 [] [] (pathTest [pathInteriorAttr] false (some .simple)).2
        (Node.elem ⟨[], ['r']⟩ [] [Node.elem ⟨[], ['a']⟩ [(⟨[], ['b']⟩, ['1'])] []]).flatten
      = [.none, .attrs [(⟨[], ['b']⟩, ['1'])], .none, .none] ∧
    runTest (pathTest [pathInteriorAttr] false (some .generic)).1 [] [] (pathTest [pathInteriorAttr] false (some .generic)).2
        (Node.elem ⟨[], ['r']⟩ [] [Node.elem ⟨[], ['a']⟩ [(⟨[], ['b']⟩, ['1'])] []]).flatten
      = [.none, .none, .none, .none] := by decide +kernel

theorem chooses_generic_dot (p : LocPath) (hne : p ≠ []) : chooseStrategy (dot :: p) = some .generic :=
  chooses_generic _ (by cases p <;> simp_all) (by simp [simpleSupports, dot])

/-- a bare `.` (`self::node()` without predicates) in front of further steps -/
def BareDotFirst (p : LocPath) : Prop :=
  ∃ s0 s1 rest, p = s0 :: s1 :: rest ∧ s0.axis = .self ∧ s0.preds = [] ∧ s0.test = .node

theorem stripDot_of_not_bare (p : LocPath) (h : ¬ BareDotFirst p) : stripDot p = p := by
  cases p with
  | nil => rfl
  | cons s0 r =>
    cases r with
    | nil => rfl
    | cons s1 rest => exact Frags.stripDot_id s0 _ fun hc => h ⟨s0, s1, rest, rfl, hc⟩

theorem insertPred_not_bare (p : LocPath) (i k : Nat) (t : Expr) (h : ¬ BareDotFirst p) :
    ¬ BareDotFirst (insertPred p i k t) := by
  rintro ⟨s0, s1, rest, hq, hax, hpr, hte⟩
  cases p with
  | nil => simp [insertPred] at hq
  | cons a r =>
    cases r with
    | nil => simp [insertPred] at hq
    | cons b r' =>
      simp only [insertPred, List.mapIdx_cons, List.cons.injEq] at hq
      obtain ⟨hq0, _, _⟩ := hq
      by_cases hi : (0 == i) = true
      · simp only [hi, if_true] at hq0
        rw [← hq0] at hpr
        simp at hpr
      · simp only [hi, Bool.false_eq_true, if_false] at hq0
        subst hq0
        exact h ⟨a, b, r', rfl, hax, hpr, hte⟩

theorem not_bare_of_supports (p : LocPath) (hsup : simpleSupports p = true) : ¬ BareDotFirst p := by
  rintro ⟨s0, s1, rest, rfl, _, _, hte⟩
  simp [simpleSupports, hte] at hsup

/-- `[t]` inserted anywhere leaves GenericStrategy's step function as it is: in relative mode always, as a pattern
    for a path that does not start with a bare `.` (with `[t]` on it that step would no longer be dropped) -/
theorem gStep_insert (ns : NsMap) (vs : Vars) (t : Expr) (ht : AlwaysTrue ns vs t) (p : LocPath) (i k : Nat) (ic : Bool)
    (hnb : ic = true → ¬ BareDotFirst p) :
    gStep (gSteps (insertPred p i k t) ic) ns vs = gStep (gSteps p ic) ns vs := by
  funext st e
  refine gStep_congr ns vs _ _ ?_ st e
  cases ic with
  | false => exact all2_gSteps ns vs _ _ (all2_insert ns vs t ht k p i)
  | true =>
    exact all2_gSteps_pattern ns vs _ _ (all2_insert ns vs t ht k p i)
      (stripDot_of_not_bare _ (insertPred_not_bare p i k t (hnb rfl))) (stripDot_of_not_bare _ (hnb rfl))

/-- **true_pred_irrelevant with the strategies `Path.__init__` picks, in full**: for EVERY
    path `p` of two or more steps that SimplePathStrategy supports (a final attribute step
    included), BOTH modes, an always-true non-positional predicate `t` inserted anywhere:
    `Path.__init__` hands `p` to SimplePathStrategy and the decorated path to GenericStrategy,
    and the two report the same at every event (`gStep_insert`: `gStep_congr` through `gSteps` in either
    mode; then `strat_eq_generic`). -/
theorem true_pred_default_choice_full (p : LocPath) (hsup : simpleSupports p = true)
    (hpt : ∀ s ∈ p, s.axis ≠ .attribute → s.test.attrFlag = false) (h2 : 2 ≤ p.length) (ic : Bool)
    (ns : NsMap) (vs : Vars) (t : Expr) (ht : AlwaysTrue ns vs t) (i k : Nat) (hi : i < p.length)
    (skip : Bool) (tag : QName) (attrs : AttrList) (kids : List Node)
    (hcl : (Node.elem tag attrs kids).clean = true)
    (hn : AllNodes (NodeFor p ns vs) (.elem tag attrs kids)) :
    (chooseStrategy (insertPred p i k t) = some .generic ∧ chooseStrategy p = some .simple) ∧
    traceCaller (pathTest [insertPred p i k t] ic).1 ns vs skip
        (pathTest [insertPred p i k t] ic).2 (Node.elem tag attrs kids).flatten
      = traceCaller (pathTest [p] ic).1 ns vs skip
        (pathTest [p] ic).2 (Node.elem tag attrs kids).flatten := by
  have hc1 : chooseStrategy (insertPred p i k t) = some .generic := by
    obtain ⟨s, hs, hp⟩ := insertPred_preds p i k t hi
    exact chooses_generic _ (by simpa [insertPred] using h2) (simpleSupports_false_of_preds _ s hs hp)
  have hc2 := Frags.chooses_simple_of_supports p hsup h2
  refine ⟨⟨hc1, hc2⟩, ?_⟩
  rw [trace_chosen _ ic _ hc1, trace_chosen _ ic _ hc2,
    strat_eq_generic _ p (chooseStrategy_supports hc2) hpt ic ns vs tag attrs kids hcl]
  simp only [stratRun, gStep_insert ns vs t ht p i k ic fun _ => not_bare_of_supports p hsup]

/-- **true_pred_irrelevant with the strategies `Path.__init__` picks.**  Let `p` be the path
    of a fragment list with two or more steps and `t` an always-true, non-positional
    predicate.  `Path.__init__` hands `p` to SimplePathStrategy and `p` with `[t]` inserted
    anywhere (the path now has a predicate) to GenericStrategy — and the two matchers report
    the same at every event: `true_pred_irrelevant` (`gStep_congr`) carried over the strategy
    choice by `simple_eq_generic`; the case `p = normPath frags`, relative mode, of
    `true_pred_default_choice_full`. -/
theorem true_pred_default_choice (frags : List Frag) (hok : Frags.FragsOk frags)
    (h2 : 2 ≤ (Frags.normPath frags).length)
    (ns : NsMap) (vs : Vars) (t : Expr) (ht : AlwaysTrue ns vs t) (i k : Nat) (hi : i < (Frags.normPath frags).length)
    (skip : Bool) (tag : QName) (attrs : AttrList) (kids : List Node)
    (hcl : (Node.elem tag attrs kids).clean = true)
    (hn : AllNodes (NodeFor (Frags.normPath frags) ns vs) (.elem tag attrs kids)) :
    (chooseStrategy (insertPred (Frags.normPath frags) i k t) = some .generic ∧
     chooseStrategy (Frags.normPath frags) = some .simple) ∧
    traceCaller (pathTest [insertPred (Frags.normPath frags) i k t] false).1 ns vs skip
        (pathTest [insertPred (Frags.normPath frags) i k t] false).2 (Node.elem tag attrs kids).flatten
      = traceCaller (pathTest [Frags.normPath frags] false).1 ns vs skip
        (pathTest [Frags.normPath frags] false).2 (Node.elem tag attrs kids).flatten :=
  true_pred_default_choice_full _
    (Frags.simpleSupports_of_sstep _ (Frags.sstep_normPath frags hok) (List.length_pos_iff.mp (Frags.normPath_ne frags hok)))
    (Frags.attrFlag_of_sstep _ (Frags.sstep_normPath frags hok)) h2 false ns vs t ht i k hi skip tag attrs kids hcl hn

-- non-vacuity: `./descendant::a/b/@x` and `descendant::a/b/@x` as patterns
example : 2 ≤ pathKmpAttr.length := by decide
example : runTest (pathTest [dot :: pathKmpAttr] true).1 [] [] (pathTest [dot :: pathKmpAttr] true).2
    (Node.elem ⟨[], ['a']⟩ [] [Node.elem ⟨[], ['b']⟩ [(⟨[], ['x']⟩, ['1'])] []]).flatten
    = [.none, .attrs [(⟨[], ['x']⟩, ['1'])], .none, .none] := by decide +kernel

/-- **`./p` ≡ `p` as patterns, in full** — every non-empty location path `p` (any axes, any
    tests, any predicates, positional ones included), both caller behaviours, EVERY stream (no
    hypothesis on it): in pattern mode GenericStrategy drops the leading `./` before matching
    (`stripDot`, genshi fix b90ae9a), so the two matchers run on the same step list. -/
theorem self_prefix_irrelevant_pattern (p : LocPath) (hne : p ≠ []) (ns : NsMap) (vs : Vars) (skip : Bool)
    (es : List Event) :
    traceCaller (pathTest [dot :: p] true (some .generic)).1 ns vs skip
        (pathTest [dot :: p] true (some .generic)).2 es
      = traceCaller (pathTest [p] true (some .generic)).1 ns vs skip
        (pathTest [p] true (some .generic)).2 es := by
  have hg : gSteps (dot :: p) true = gSteps p true := by
    cases p with
    | nil => exact absurd rfl hne
    | cons s1 rest => simp [gSteps, stripDot, dot]
  rw [trace_forced, trace_forced]
  simp only [stratRun, hg]

/-- **an always-true predicate is irrelevant in pattern mode too** — every location path whose
    first step is not a bare `.` (any predicates, positional ones included; an always-true
    predicate on a leading bare `.` keeps that step from being dropped and moves the counting
    of a position test on the next step: finding C17-pattern-first-step-position), `[t]`
    inserted anywhere, EVERY stream: GenericStrategy as a pattern goes through the same states
    and reports the same at every event. -/
theorem true_pred_irrelevant_pattern (ns : NsMap) (vs : Vars) (t : Expr) (ht : AlwaysTrue ns vs t)
    (p : LocPath) (hnb : ¬ BareDotFirst p) (i k : Nat) (skip : Bool) (es : List Event) :
    (∀ (st : GState) (e : Event),
        gStep (gSteps (insertPred p i k t) true) ns vs st e = gStep (gSteps p true) ns vs st e) ∧
    traceCaller (pathTest [insertPred p i k t] true (some .generic)).1 ns vs skip
        (pathTest [insertPred p i k t] true (some .generic)).2 es
      = traceCaller (pathTest [p] true (some .generic)).1 ns vs skip
        (pathTest [p] true (some .generic)).2 es := by
  have hstep := gStep_insert ns vs t ht p i k true fun _ => hnb
  refine ⟨fun st e => by rw [hstep], ?_⟩
  rw [trace_forced, trace_forced]
  simp only [stratRun, hstep]

-- non-vacuity: `b[2]` is not a bare-dot path; `.[true()]/b` is excluded
example : ¬ BareDotFirst pathB2 := by
  rintro ⟨s0, s1, rest, h, _⟩; simp [pathB2] at h

/-- **`./p` ≡ `p` as patterns with the strategies `Path.__init__` picks, for EVERY path**: `./p`
    goes to GenericStrategy; `p` to SingleStepStrategy (one step: `single_eq_generic`, position
    tests included), SimplePathStrategy (`simple_eq_generic`) or GenericStrategy — same result at
    every event of every element tree, both caller behaviours. -/
theorem self_prefix_pattern_default (p : LocPath) (hne : p ≠ [])
    (hpt : ∀ s ∈ p, s.axis ≠ .attribute → s.test.attrFlag = false)
    (ns : NsMap) (vs : Vars) (skip : Bool)
    (tag : QName) (attrs : AttrList) (kids : List Node)
    (hcl : (Node.elem tag attrs kids).clean = true)
    (hn : AllNodes (NodeFor p ns vs) (.elem tag attrs kids)) :
    traceCaller (pathTest [dot :: p] true).1 ns vs skip
        (pathTest [dot :: p] true).2 (Node.elem tag attrs kids).flatten
      = traceCaller (pathTest [p] true).1 ns vs skip
        (pathTest [p] true).2 (Node.elem tag attrs kids).flatten := by
  rw [trace_chosen _ true _ (chooses_generic_dot p hne), ← trace_forced,
    self_prefix_irrelevant_pattern p hne ns vs skip _, trace_forced, trace_chosen p true _ (chooseStrategy_eq p),
    strat_eq_generic _ p (chooseStrategy_supports (chooseStrategy_eq p)) hpt true ns vs tag attrs kids hcl]

/-- GenericStrategy on `q/@a` in relative mode, `q` without position tests: the attribute
    selection at the nodes `q` reaches from the root -/
theorem generic_attr_trace (q : LocPath) (a : Step) (ha : a.axis = .attribute) (ns : NsMap) (vs : Vars)
    (hq : StepsOk ns vs q) (tag : QName) (attrs : AttrList) (kids : List Node)
    (hcl : (Node.elem tag attrs kids).clean = true)
    (hn : AllNodes (NodeFor q ns vs) (.elem tag attrs kids)) :
    (runOne (gStep (gSteps (q ++ [a]) false) ns vs) gInit (Node.elem tag attrs kids).flatten).1
      = List.zipWith (fun e v => gate (a.test.apply e ns) v) (Node.elem tag attrs kids).flatten
          (markVals (fun x => Ref.reach ns (toXVars vs) q ⟨[], .elem tag attrs kids⟩ ⟨x, .elem tag attrs kids⟩)
            (eventLocs (.elem tag attrs kids) [])) :=
  generic_attr_marks ns vs q a ha (Or.inr hq) tag attrs kids hcl hn

open Genshi.Path.Ref in
/-- **`./q/@a` ≡ `q/@a`** in relative mode under GenericStrategy, `q` any non-empty path
    without position tests (any axes, tests, predicates), `a` any attribute step, both caller
    behaviours, every element tree — the companion of `self_prefix_irrelevant_nonpositional`
    for paths that end in an attribute step. -/
theorem self_prefix_irrelevant_attr (q : LocPath) (a : Step) (ha : a.axis = .attribute) (ns : NsMap) (vs : Vars)
    (hq : StepsOk ns vs q) (tag : QName) (attrs : AttrList) (kids : List Node)
    (hcl : (Node.elem tag attrs kids).clean = true)
    (hn : AllNodes (NodeFor q ns vs) (.elem tag attrs kids)) (skip : Bool) :
    traceCaller (pathTest [dot :: (q ++ [a])] false (some .generic)).1 ns vs skip
        (pathTest [dot :: (q ++ [a])] false (some .generic)).2 (Node.elem tag attrs kids).flatten
      = traceCaller (pathTest [q ++ [a]] false (some .generic)).1 ns vs skip
        (pathTest [q ++ [a]] false (some .generic)).2 (Node.elem tag attrs kids).flatten := by
  have e1 := generic_attr_trace (dot :: q) a ha ns vs (stepsOk_dot ns vs q hq) tag attrs kids hcl
    (nodeFor_weaken ns vs (preds_dot q) _ hn)
  have e2 := generic_attr_trace q a ha ns vs hq tag attrs kids hcl hn
  rw [trace_forced, trace_forced]
  simp only [stratRun]
  rw [show dot :: (q ++ [a]) = (dot :: q) ++ [a] from rfl, e1, e2]
  congr 2
  apply markVals_congr
  intro x
  exact reach_dot ns _ q _ _

/-- **`./p` and `p` with the strategies `Path.__init__` picks — both modes, every supported
    path** (two or more steps; a final attribute step included): `./p` goes to GenericStrategy,
    `p` to SimplePathStrategy, same result at every event. -/
theorem self_prefix_default_choice_full (p : LocPath) (hsup : simpleSupports p = true)
    (hpt : ∀ s ∈ p, s.axis ≠ .attribute → s.test.attrFlag = false) (h2 : 2 ≤ p.length) (ic : Bool)
    (ns : NsMap) (vs : Vars) (skip : Bool)
    (tag : QName) (attrs : AttrList) (kids : List Node)
    (hcl : (Node.elem tag attrs kids).clean = true)
    (hn : AllNodes (NodeFor p ns vs) (.elem tag attrs kids)) :
    (chooseStrategy (dot :: p) = some .generic ∧ chooseStrategy p = some .simple) ∧
    traceCaller (pathTest [dot :: p] ic).1 ns vs skip
        (pathTest [dot :: p] ic).2 (Node.elem tag attrs kids).flatten
      = traceCaller (pathTest [p] ic).1 ns vs skip
        (pathTest [p] ic).2 (Node.elem tag attrs kids).flatten := by
  have hne : p ≠ [] := by intro h; rw [h] at h2; simp at h2
  have hc1 := chooses_generic_dot p hne
  have hc2 := Frags.chooses_simple_of_supports p hsup h2
  refine ⟨⟨hc1, hc2⟩, ?_⟩
  rw [trace_chosen _ ic _ hc1, trace_chosen _ ic _ hc2,
    strat_eq_generic _ p (chooseStrategy_supports hc2) hpt ic ns vs tag attrs kids hcl, ← trace_forced, ← trace_forced]
  cases ic with
  | true => exact self_prefix_irrelevant_pattern p hne ns vs skip _
  | false =>
    rcases supports_cases p hsup hpt with ⟨hp, _⟩ | ⟨q, a, rfl, hq, hqne, ha⟩
    · exact self_prefix_irrelevant_nonpositional p ns vs (Frags.stepsOk_of_sstep ns vs p hp hne) tag attrs kids
        hcl hn skip
    · exact self_prefix_irrelevant_attr q a ha ns vs (Frags.stepsOk_of_sstep ns vs q hq hqne) tag attrs kids hcl
        (nodeFor_weaken ns vs (fun s hs p hp => ⟨s, List.mem_append_left _ hs, hp⟩) _ hn) skip

/-- **`./p` and `p` as patterns, with the strategies `Path.__init__` picks**: for every path `p`
    of two or more steps that SimplePathStrategy supports, `Path.__init__` hands `./p` to
    GenericStrategy, which drops the leading `./` in pattern mode (`stripDot`, genshi fix
    b90ae9a), and `p` to SimplePathStrategy — same result at every event: the pattern-mode case of
    `self_prefix_default_choice_full`. -/
theorem self_prefix_default_choice_pattern (p : LocPath) (hsup : simpleSupports p = true)
    (hpt : ∀ s ∈ p, s.axis ≠ .attribute → s.test.attrFlag = false) (h2 : 2 ≤ p.length)
    (ns : NsMap) (vs : Vars) (skip : Bool)
    (tag : QName) (attrs : AttrList) (kids : List Node)
    (hcl : (Node.elem tag attrs kids).clean = true)
    (hn : AllNodes (NodeFor p ns vs) (.elem tag attrs kids)) :
    (chooseStrategy (dot :: p) = some .generic ∧ chooseStrategy p = some .simple) ∧
    traceCaller (pathTest [dot :: p] true).1 ns vs skip
        (pathTest [dot :: p] true).2 (Node.elem tag attrs kids).flatten
      = traceCaller (pathTest [p] true).1 ns vs skip
        (pathTest [p] true).2 (Node.elem tag attrs kids).flatten :=
  self_prefix_default_choice_full p hsup hpt h2 true ns vs skip tag attrs kids hcl hn

/-- **`./p` and `p` with the strategies `Path.__init__` picks.**  For the path `p` of any
    fragment list with two or more steps, `Path.__init__` hands `p` to SimplePathStrategy and
    `./p` (its first step `self::node()` is not a supported test) to GenericStrategy — and the
    two matchers report the same at every event: `self_prefix_irrelevant_nonpositional`
    carried over the strategy choice by `simple_eq_generic`; the case `p = normPath frags`,
    relative mode, of `self_prefix_default_choice_full`. -/
theorem self_prefix_default_choice (frags : List Frag) (hok : Frags.FragsOk frags)
    (h2 : 2 ≤ (Frags.normPath frags).length)
    (ns : NsMap) (vs : Vars) (skip : Bool)
    (tag : QName) (attrs : AttrList) (kids : List Node)
    (hcl : (Node.elem tag attrs kids).clean = true)
    (hn : AllNodes (NodeFor (Frags.normPath frags) ns vs) (.elem tag attrs kids)) :
    (chooseStrategy (dot :: Frags.normPath frags) = some .generic ∧
     chooseStrategy (Frags.normPath frags) = some .simple) ∧
    traceCaller (pathTest [dot :: Frags.normPath frags] false).1 ns vs skip
        (pathTest [dot :: Frags.normPath frags] false).2 (Node.elem tag attrs kids).flatten
      = traceCaller (pathTest [Frags.normPath frags] false).1 ns vs skip
        (pathTest [Frags.normPath frags] false).2 (Node.elem tag attrs kids).flatten :=
  self_prefix_default_choice_full _
    (Frags.simpleSupports_of_sstep _ (Frags.sstep_normPath frags hok) (List.length_pos_iff.mp (Frags.normPath_ne frags hok)))
    (Frags.attrFlag_of_sstep _ (Frags.sstep_normPath frags hok)) h2 false ns vs skip tag attrs kids hcl hn

-- non-vacuity (self_prefix_irrelevant_attr / self_prefix_default_choice_full): `./descendant::a/b/@x`
-- in relative mode on <r><a><b x="1"/></a></r>; the steps before the attribute step satisfy `StepsOk`
example (ns : NsMap) (vs : Vars) : StepsOk ns vs (pathKmpAttr.take 2) :=
  have h := Frags.allSStepM_sound (pathKmpAttr.take 2) (by decide)
  Frags.stepsOk_of_sstep ns vs _ h.1 h.2
example : runTest (pathTest [dot :: pathKmpAttr] false).1 [] [] (pathTest [dot :: pathKmpAttr] false).2
    (Node.elem ⟨[], ['r']⟩ [] [Node.elem ⟨[], ['a']⟩ [] [Node.elem ⟨[], ['b']⟩ [(⟨[], ['x']⟩, ['1'])] []]]).flatten
    = [.none, .none, .attrs [(⟨[], ['x']⟩, ['1'])], .none, .none, .none] := by decide +kernel

end Genshi.Props.C17
