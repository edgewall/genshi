/-
  C18 — Safe strings and attribute lists obey their algebra in both
  implementations.  The property theorems and the invariant of the `Attrs.__or__` loop (`NewInv`);
  the other helper lemmas live in
  `Genshi/Lemmas/Escape.lean`, `Genshi/Lemmas/MarkupOps.lean`, `Genshi/Lemmas/MarkupFmt.lean`.

  OBLIGATIONS (checked against the axiom audit by the harness):
    escapePy_eq_spec escapeC_eq_spec escapeC_eq_escapePy escapeC_len_exact
    escC_identity_iff escape_safe_id escape_append unescape_escape
    escape_no_raw escape_output_wf add_safe_once radd_safe_once join_safe_once mod_safe_once
    mul_spec attrs_or_keeps_order attrs_or_none_removed attrs_or_nodup
    attrs_or_dup_repaired attrs_sub_spec attrs_or_replaces
    utf8_decode_roundtrip escapeC_chars_eq_spec impl_escape_agree escape_cls_spec escape_cls_idempotent
    add2_safe_once radd2_safe_once mul2_spec join2_safe_once mod2_safe_once ops_impl_agree
    unescape_plain_and_inverts unescapeFn_spec stripentities_escape striptags_escape plaintext_escape
    attrs_has_iff_get attrs_slice_spec attrs_sub_nodup attrs_or_sub_nodup attrs_totuple_append
    qname_pickle_roundtrip qname_parse ns_getitem_in
    stripentities_keepxml_escape striptags_no_tag attrs_get_or escape2_append unescape_no_entity
    mod2_percent_s striptags_keeps_plain_text striptags_removes_simple_tag mod2_percent_key striptags_re_as_modelled
-/
import Genshi.Lemmas.Escape
import Genshi.Lemmas.MarkupOps
import Genshi.Lemmas.MarkupFmt
import Genshi.Gen.MarkupRe
namespace Genshi.Props.C18
open Genshi.Escape Genshi.Str

/-- The pure-Python `replace` chain computes the character-wise escape. -/
theorem escapePy_eq_spec (q : Bool) (s : List Char) : escapePy q s = escapeSpec q s :=
  Genshi.Escape.escapePy_eq_spec q s

/-- The C byte scan on the UTF-8 encoding computes the encoding of the
    character-wise escape, for every string of Unicode scalars. -/
theorem escapeC_eq_spec (q : Bool) (s : List Char) :
    (escapeCBytes q (utf8 s)).1 = utf8 (escapeSpec q s) := by
  rw [escapeCBytes_spec, utf8_escapeSpec]

/-- Both implementations agree on all scalar strings. -/
theorem escapeC_eq_escapePy (q : Bool) (s : List Char) :
    (escapeCBytes q (utf8 s)).1 = utf8 (escapePy q s) := by
  rw [escapeC_eq_spec, escapePy_eq_spec]

/-- The pre-computed buffer length is exactly the number of bytes written. -/
theorem escapeC_len_exact (q : Bool) (bs : List Nat) :
    (escapeCBytes q bs).2 = (escapeCBytes q bs).1.length := by
  rw [escapeCBytes_spec]

/-- Exactly `& < >` (and `"` with quotes) are changed. -/
theorem escC_identity_iff (q : Bool) (c : Char) :
    escC q c = [c] ↔ ¬ (c = '&' ∨ c = '<' ∨ c = '>' ∨ (c = '"' ∧ q = true)) := by
  rcases special_or_plain c with rfl | rfl | rfl | rfl | h
  · cases q <;> decide
  · cases q <;> decide
  · cases q <;> decide
  · cases q <;> decide
  · simp [escC_plain q h, h.1, h.2.1, h.2.2.1, h.2.2.2]

/-- `escape` leaves safe strings (and `__html__` results) untouched. -/
theorem escape_safe_id (esc : Bool → List Char → List Char) (q : Bool) (s : List Char) :
    escOpnd esc q (.safe s) = s ∧ escOpnd esc q (.html s) = s := ⟨rfl, rfl⟩

/-- Escaping distributes over concatenation (Python implementation). -/
theorem escape_append (q : Bool) (a b : List Char) :
    escapePy q (a ++ b) = escapePy q a ++ escapePy q b :=
  escapePy_append q a b

/-- `unescape` inverts `escape` for every string and both `quotes` settings. -/
theorem unescape_escape (q : Bool) (s : List Char) : unescape (escapePy q s) = s := by
  rw [Genshi.Escape.escapePy_eq_spec]; exact unescape_escapeSpec q s

/-- Escaped text contains no raw `<` or `>` (nor `"` when quotes are escaped). -/
theorem escape_no_raw (q : Bool) (s : List Char) :
    '<' ∉ escapePy q s ∧ '>' ∉ escapePy q s ∧ (q = true → '"' ∉ escapePy q s) := by
  rw [Genshi.Escape.escapePy_eq_spec]
  exact escapeSpec_no_raw q s

/-- Escaped text is well formed for a reader: no raw `<`/`>`, and every `&` begins one of
    the four entities written by `escape`. -/
theorem escape_output_wf (q : Bool) (s : List Char) : entWf 0 (escapePy q s) = true := by
  rw [Genshi.Escape.escapePy_eq_spec]
  -- the recogniser passes over what one character became and is back in its start state
  have block (c : Char) (rest : List Char) : entWf 0 (escC q c ++ rest) = entWf 0 rest := by
    rcases special_or_plain c with rfl | rfl | rfl | rfl | h
    · cases q <;> rfl
    · rfl
    · rfl
    · rfl
    · rw [escC_plain q h]
      simp only [List.cons_append, List.nil_append, entWf, h.2.1, h.2.2.1, h.2.2.2, ↓reduceIte, or_self]
  induction s with
  | nil => rfl
  | cons c cs ih => exact (block c _).trans ih

/-- what the algebra says an operand contributes: escaped once iff not safe -/
def once (q : Bool) : Opnd → List Char
  | .plain s => escapeSpec q s
  | .safe s => s
  | .html s => s

theorem escOpnd_py (q : Bool) (o : Opnd) : escOpnd escapePy q o = once q o := by
  cases o <;> simp [escOpnd, once, Genshi.Escape.escapePy_eq_spec]

/-- `Markup + x` : the left operand untouched, the right one escaped exactly once. -/
theorem add_safe_once (self : List Char) (o : Opnd) :
    mAdd escapePy self o = self ++ once true o := by
  simp [mAdd, escOpnd_py]

theorem radd_safe_once (self : List Char) (o : Opnd) :
    mRadd escapePy self o = once true o ++ self := by
  simp [mRadd, escOpnd_py]

theorem join_safe_once (sep : List Char) (q : Bool) (xs : List Opnd) :
    mJoin escapePy sep q xs = Str.join sep (xs.map (once q)) := by
  unfold mJoin; congr 1; apply List.map_congr_left; intro o _; exact escOpnd_py q o

/-- `Markup % args`: formatting sees each operand escaped exactly once
    (the result is the same as formatting with the pre-escaped, safe operands). -/
theorem mod_safe_once (fmt : List Char) (o : Opnd) (os : List Opnd)
    (kvs : List (List Char × Opnd)) :
    mMod escapePy fmt (.one o) = mMod (fun _ s => s) fmt (.one (.safe (once true o))) ∧
    mMod escapePy fmt (.tup os) = mMod (fun _ s => s) fmt (.tup (os.map fun o => .safe (once true o))) ∧
    mMod escapePy fmt (.map kvs) =
      mMod (fun _ s => s) fmt (.map (kvs.map fun p => (p.1, .safe (once true p.2)))) := by
  have hf : escOpnd escapePy true = once true := funext (escOpnd_py true)
  refine ⟨?_, ?_, ?_⟩
  · unfold mMod; split
    · rfl
    · simp only [hf]; rfl
  · unfold mMod; split
    · rfl
    · simp only [hf, List.map_map]; rfl
  · unfold mMod; split
    · rfl
    · simp only [hf, List.map_map]; rfl

theorem mul_spec (self : List Char) (n : Nat) :
    mMul self n = (List.replicate n self).flatten := by
  induction n with
  | zero => rfl
  | succ n ih => simp [mMul, ih, List.replicate_succ]

/-- invariant of the `new` loop: distinct names, none present on the left, none removed,
    all taken from the right operand -/
def NewInv (self : Attrs) (remove : List Name) (src : List Name) (acc : Attrs) : Prop :=
  (acc.map (·.1)).Nodup ∧
  ∀ x ∈ acc, self.has x.1 = false ∧ remove.contains x.1 = false ∧ x.1 ∈ src

theorem orNew_inv (self : Attrs) (attrs : List (Name × Option (List Char))) :
    NewInv self (orRemove attrs) (attrs.map (·.1)) (orNew self attrs) :=
  ⟨MarkupOps.nodup_orNew_fold self _ attrs [] List.nodup_nil, fun _ hx => MarkupOps.mem_orNew hx⟩

/-- names kept from the left operand stay in their order; new names follow, each
    once, all taken from the right operand, none of them already present -/
theorem attrs_or_keeps_order (self : Attrs) (attrs : List (Name × Option (List Char))) :
    (Attrs.or self attrs).map (·.1) = (orKept self attrs).map (·.1) ++ (orNew self attrs).map (·.1) ∧
    ((orKept self attrs).map (·.1)).Sublist (self.map (·.1)) ∧
    ((orNew self attrs).map (·.1)).Nodup ∧
    (∀ x ∈ orNew self attrs, x.1 ∈ attrs.map (·.1) ∧ self.has x.1 = false) :=
  ⟨by simp [Attrs.or], MarkupOps.orKept_names self attrs ▸ (MarkupOps.sub_sublist self _).map _, (orNew_inv self attrs).1,
   fun _ hx => ⟨(MarkupOps.mem_orNew hx).2.2, (MarkupOps.mem_orNew hx).1⟩⟩

/-- a value given on the right replaces the value of a name already present -/
theorem attrs_or_replaces (self : Attrs) (attrs : List (Name × Option (List Char)))
    (n : Name) (v : List Char) (h : (n, v) ∈ orKept self attrs) :
    (∃ sv, (n, sv) ∈ self ∧ v = (lastVal n (orRepl self attrs)).getD sv) := by
  simp only [orKept, List.mem_filterMap] at h
  obtain ⟨p, hp, hq⟩ := h
  split at hq
  · simp at hq
  · simp at hq; obtain ⟨rfl, rfl⟩ := hq; exact ⟨p.2, hp, rfl⟩

/-- the result never holds a name twice (the left operand is an `Attrs` without
    duplicates; nothing is asked of the right operand) -/
theorem attrs_or_nodup (self : Attrs) (attrs : List (Name × Option (List Char)))
    (h1 : (self.map (·.1)).Nodup) : ((Attrs.or self attrs).map (·.1)).Nodup := by
  obtain ⟨he, hk, hn, hd⟩ := attrs_or_keeps_order self attrs
  rw [he, List.nodup_append]
  refine ⟨hk.nodup h1, hn, ?_⟩
  intro a ha b hb hab
  subst hab
  obtain ⟨x, hx, rfl⟩ := List.mem_map.mp hb
  obtain ⟨p, hp, hpe⟩ := List.mem_map.mp (hk.subset ha)
  have := MarkupOps.mem_has hp
  rw [hpe, (hd x hx).2] at this
  cases this

/-- regression witness for genshi fix `3847989` (`Attrs.__or__` kept duplicate names from the
    right operand): `Attrs() | [('a','1'),('a','2')]` is one pair, with the last value -/
theorem attrs_or_dup_repaired :
    Attrs.or [] [(['a'], some ['1']), (['a'], some ['2'])] = [(['a'], ['2'])] := by
  decide

theorem attrs_sub_spec (self : Attrs) (names : List Name) (n : Name) (v : List Char) :
    (n, v) ∈ Attrs.sub self names ↔ (n, v) ∈ self ∧ n ∉ names := by
  simp [Attrs.sub, List.mem_filter]


section BothImpls
open Genshi.MarkupOps

/-- `PyUnicode_FromStringAndSize` reads back what `PyUnicode_AsUTF8AndSize` wrote, for every
    string of Unicode scalars. -/
theorem utf8_decode_roundtrip (s : List Char) : utf8Decode (utf8 s).length (utf8 s) = s :=
  utf8Decode_utf8 s

/-- The C `escape()` end to end — encode, two-pass byte scan, decode — is the character-wise
    escape (on characters, not only on bytes as `escapeC_eq_spec`). -/
theorem escapeC_chars_eq_spec (q : Bool) (s : List Char) : escapeC q s = escapeSpec q s :=
  MarkupOps.escapeC_eq_spec q s

/-- The compiled and the pure-Python escaper give identical results for all strings. -/
theorem impl_escape_agree (q : Bool) (s : List Char) : escOf .c q s = escOf .py q s := by
  rw [escOf_eq_spec, escOf_eq_spec]

/-- `Markup.escape(x, quotes)` on every string operand kind, in both implementations: a safe
    string (never a plain `str`) whose text is the operand escaped once iff it was not safe. -/
theorem escape_cls_spec (i : Impl) (q : Bool) (a : Arg) (h : a.stringy = true) :
    ∃ t, escapeCls i (escOf i) q a = .ok (t, once2 q a) ∧ t ≠ .str :=
  escapeCls_string i q a h

/-- escaping the result of `escape` again changes nothing (idempotent on Markup) -/
theorem escape_cls_idempotent (i : Impl) (q q' : Bool) (a : Arg) :
    escapeCls i (escOf i) q' (.markup (once2 q a)) = .ok (.markup, once2 q a) :=
  escapeCls_markup i _ q' _

/-- `Markup + x` in both implementations -/
theorem add2_safe_once (i : Impl) (self : List Char) (a : Arg) (h : a.stringy = true) :
    add i (escOf i) self a = .ok (.markup, self ++ once2 true a) := by
  simp [add, escapeOp_string i true a h, Except.map]

/-- `x + Markup` in both implementations -/
theorem radd2_safe_once (i : Impl) (self : List Char) (a : Arg) (h : a.stringy = true) :
    radd i (escOf i) self a = .ok (.markup, once2 true a ++ self) := by
  simp [radd, escapeOp_string i true a h, Except.map]

/-- `Markup * n` / `n * Markup`: a Markup, `n` copies (none for a negative count) -/
theorem mul2_spec (self : List Char) (n : Int) :
    mul self (.int n) = .ok (.markup, (List.replicate n.toNat self).flatten) := by
  simp [mul, mul_spec]

/-- `sep.join(seq, escape_quotes)` in both implementations -/
theorem join2_safe_once (i : Impl) (sep : List Char) (q : Bool) (xs : List Arg)
    (h : ∀ x ∈ xs, x.stringy = true) :
    join i (escOf i) sep q xs = .ok (.markup, Str.join sep (xs.map (once2 q))) := by
  unfold MarkupOps.join
  rw [mapM_escapeOp i q xs h]
  rfl

/-- `Markup % args` (single value, tuple, mapping) in both implementations: formatting sees each
    operand escaped exactly once — the result is that of formatting the pre-escaped, safe operands. -/
theorem mod2_safe_once (i : Impl) (fmt : List Char) (a : Arg) (os : List Arg) (kvs : List (List Char × Arg))
    (ha : a.stringy = true) (hos : ∀ x ∈ os, x.stringy = true) (hkv : ∀ p ∈ kvs, p.2.stringy = true) :
    MarkupOps.mod i (escOf i) fmt (.one a) = MarkupOps.mod i (fun _ s => s) fmt (.one (.markup (once2 true a))) ∧
    MarkupOps.mod i (escOf i) fmt (.tup os) =
      MarkupOps.mod i (fun _ s => s) fmt (.tup (os.map fun o => .markup (once2 true o))) ∧
    MarkupOps.mod i (escOf i) fmt (.map kvs) =
      MarkupOps.mod i (fun _ s => s) fmt (.map (kvs.map fun p => (p.1, .markup (once2 true p.2)))) := by
  refine ⟨?_, ?_, ?_⟩
  · unfold MarkupOps.mod; split
    · rfl
    · simp only [escapeOp_string i true a ha, escapeOp_markup]
  · unfold MarkupOps.mod; split
    · rfl
    · dsimp only
      rw [mapM_escapeOp i true os hos, mapM_escapeOp_pre]
  · unfold MarkupOps.mod; split
    · rfl
    · dsimp only
      rw [mapM_escapeKV i kvs hkv, mapM_escapeKV_pre]

/-- The two implementations agree on every operator for all string operands. -/
theorem ops_impl_agree (self sep : List Char) (q : Bool) (a : Arg) (xs : List Arg)
    (ha : a.stringy = true) (hxs : ∀ x ∈ xs, x.stringy = true) :
    add .c (escOf .c) self a = add .py (escOf .py) self a ∧
    radd .c (escOf .c) self a = radd .py (escOf .py) self a ∧
    join .c (escOf .c) sep q xs = join .py (escOf .py) sep q xs ∧
    (escapeCls .c (escOf .c) q a).map (·.2) = (escapeCls .py (escOf .py) q a).map (·.2) := by
  refine ⟨?_, ?_, ?_, ?_⟩
  · rw [add2_safe_once _ _ _ ha, add2_safe_once _ _ _ ha]
  · rw [radd2_safe_once _ _ _ ha, radd2_safe_once _ _ _ ha]
  · rw [join2_safe_once _ _ _ _ hxs, join2_safe_once _ _ _ _ hxs]
  · obtain ⟨t1, h1, _⟩ := escapeCls_string .c q a ha
    obtain ⟨t2, h2, _⟩ := escapeCls_string .py q a ha
    simp [h1, h2, Except.map]

/-- `Markup.unescape()` returns a plain `str` and inverts `escape` of either implementation. -/
theorem unescape_plain_and_inverts (i : Impl) (q : Bool) (s : List Char) :
    unescapeM (escOf i q s) = (.str, s) := by
  simp [unescapeM, escOf_eq_spec, unescape_escapeSpec]

/-- `genshi.core.unescape`: a string that is no Markup comes back unchanged, a Markup (or an
    instance of a subclass) as the plain unescaped `str`. -/
theorem unescapeFn_spec (s : List Char) :
    unescapeFn (.str s) = some (.str, s) ∧ unescapeFn (.markup s) = some (.str, unescape s) ∧
    unescapeFn (.msub s) = some (.str, unescape s) := ⟨rfl, rfl, rfl⟩

/-- `stripentities` of escaped text returns the text (both implementations, both `quotes`). -/
theorem stripentities_escape (i : Impl) (q : Bool) (s : List Char) :
    MarkupOps.stripentities false (escOf i q s) = .ok s := by
  simp [MarkupOps.stripentities, escOf_eq_spec, San.stripentities_escape]

/-- escaped text holds no tag: `striptags` leaves it unchanged. -/
theorem striptags_escape (i : Impl) (q : Bool) (s : List Char) :
    striptags (escOf i q s) = escOf i q s := by
  rw [escOf_eq_spec]; exact striptags_escapeSpec q s

/-- `plaintext` of escaped text is the text. -/
theorem plaintext_escape (i : Impl) (q : Bool) (s : List Char) :
    plaintext true (escOf i q s) = .ok s := by
  rw [escOf_eq_spec]
  simp only [plaintext, striptags_escapeSpec]
  simp [MarkupOps.stripentities, San.stripentities_escape]

/-- `name in attrs` iff `attrs.get(name)` finds a value -/
theorem attrs_has_iff_get (a : Attrs) (n : Name) : Attrs.has a n = (Attrs.get a n).isSome :=
  has_eq_get_isSome a n

/-- a slice of an attribute list is a sub-list in order (so it holds no duplicates when the
    list holds none); the full slice is the list -/
theorem attrs_slice_spec (a : Attrs) (i j : Option Int) :
    (attrsSlice a i j).Sublist a ∧ ((a.map (·.1)).Nodup → ((attrsSlice a i j).map (·.1)).Nodup) ∧
    attrsSlice a none none = a :=
  ⟨attrsSlice_sublist a i j, fun h => ((attrsSlice_sublist a i j).map _).nodup h, attrsSlice_all a⟩

/-- `attrs - names` (also with a single string) holds no duplicates when `attrs` holds none,
    and `attrs - 'name'` does not hold `name` -/
theorem attrs_sub_nodup (a : Attrs) (names : List Name) (n : Name) (h : (a.map (·.1)).Nodup) :
    ((Attrs.sub a names).map (·.1)).Nodup ∧ ((attrsSubStr a n).map (·.1)).Nodup ∧
    Attrs.has (attrsSubStr a n) n = false :=
  ⟨((sub_sublist a names).map _).nodup h, ((sub_sublist a [n]).map _).nodup h, has_sub a (List.mem_singleton_self n)⟩

/-- `(a | b) - names`: duplicate-free for a duplicate-free `a`, and none of `names` is left -/
theorem attrs_or_sub_nodup (a : Attrs) (b : List (Name × Option (List Char))) (names : List Name)
    (h : (a.map (·.1)).Nodup) :
    ((Attrs.sub (Attrs.or a b) names).map (·.1)).Nodup ∧
    ∀ n ∈ names, Attrs.has (Attrs.sub (Attrs.or a b) names) n = false :=
  ⟨((sub_sublist _ names).map _).nodup (attrs_or_nodup a b h), fun _ hn => has_sub _ hn⟩

/-- the text of `totuple()` is the values in order -/
theorem attrs_totuple_append (a b : Attrs) : attrsTotuple (a ++ b) = attrsTotuple a ++ attrsTotuple b := by
  simp [attrsTotuple]

/-- pickling / copying a QName (`__getnewargs__` handed back to `__new__`) gives the same name -/
theorem qname_pickle_roundtrip (s : List Char) : qnameNew (qnameNewArgs (qnameNew s)) = qnameNew s := by
  rw [qnameNewArgs_new, qnameNew_lstrip]

/-- `{ns}local` parses into its parts (the leading brace is optional) -/
theorem qname_parse (ns loc : List Char) (h1 : '}' ∉ ns) (h2 : ns.head? ≠ some '{') :
    qnameNew ('{' :: ns ++ '}' :: loc) = ⟨'{' :: ns ++ '}' :: loc, some ns, loc⟩ ∧
    qnameNew (ns ++ '}' :: loc) = ⟨'{' :: ns ++ '}' :: loc, some ns, loc⟩ := by
  have hh : (ns ++ '}' :: loc).head? ≠ some '{' := by
    cases ns with
    | nil => simp
    | cons c cs => simpa using h2
  have hl : lstripBrace (ns ++ '}' :: loc) = ns ++ '}' :: loc := lstripBrace_of_head _ hh
  exact ⟨qnameNew_split _ ns loc h1 ((lstripBy_cons_of_pos _ (by decide)).trans hl), qnameNew_split _ ns loc h1 hl⟩

/-- `Namespace(uri)[name]` is the QName of that namespace and local name, and belongs to it -/
theorem ns_getitem_in (uri name : List Char) (h1 : '}' ∉ uri) (h2 : uri.head? ≠ some '{') :
    (nsGetItem uri name).ns = some uri ∧ (nsGetItem uri name).loc = name ∧
    nsContains uri (nsGetItem uri name) = true := by
  have := (qname_parse uri name h1 h2).2
  simp [nsGetItem, nsContains, this]

/-- with `keepxmlentities` the entities `escape` writes for `& < >` stay and `&#34;` is read
    back: the result is the text escaped without quotes -/
theorem stripentities_keepxml_escape (i : Impl) (q : Bool) (s : List Char) :
    MarkupOps.stripentities true (escOf i q s) = .ok (escapeSpec false s) := by
  rw [escOf_eq_spec]; exact stripentitiesK_escape q s

/-- `striptags` leaves no tag: in its result no `<` is followed, anywhere later, by a `>` -/
theorem striptags_no_tag (s pre post : List Char) (h : striptags s = pre ++ '<' :: post) : '>' ∉ post :=
  striptags_noTag s pre post h

/-- `get` after `|`: a name given `None` is gone; otherwise the last value given on the right;
    otherwise the value the name had on the left (no hypothesis on either operand) -/
theorem attrs_get_or (a : Attrs) (b : List (Name × Option (List Char))) (n : Name) :
    Attrs.get (Attrs.or a b) n =
      if (orRemove b).contains n then none
      else match lastVal n (somes b) with
        | some v => some v
        | none => Attrs.get a n := by
  unfold Attrs.or orNew
  rw [get_append]
  cases hr : (orRemove b).contains n
  · rw [get_orKept a b n hr]
    cases hh : a.has n
    · rw [get_orNew_fold a _ n hh hr,
        show Attrs.get a n = none from Option.not_isSome_iff_eq_none.mp (by rw [← has_eq_get_isSome, hh]; nofun)]
      cases lastVal n (somes b) <;> rfl
    · obtain ⟨sv, hsv⟩ := Option.isSome_iff_exists.mp ((has_eq_get_isSome a n).symm.trans hh)
      rw [hsv, lastVal_orRepl a b n hh]
      cases lastVal n (somes b) <;> rfl
  · rw [orKept, get_kept_removed a _ _ n hr, get_orNew_fold_blocked a _ n (by rw [hr, Bool.or_true])]; rfl

/-- a name given the value `None` on the right is absent from the result -/
theorem attrs_or_none_removed (self : Attrs) (attrs : List (Name × Option (List Char)))
    (n : Name) (h : (n, none) ∈ attrs) : (Attrs.or self attrs).has n = false := by
  have hrm : (orRemove attrs).contains n = true :=
    List.contains_iff_mem.mpr (List.mem_filterMap.mpr ⟨(n, none), h, rfl⟩)
  rw [has_eq_get_isSome, attrs_get_or, hrm]; rfl

/-- escaping distributes over concatenation in both implementations -/
theorem escape2_append (i : Impl) (q : Bool) (a b : List Char) :
    escOf i q (a ++ b) = escOf i q a ++ escOf i q b := by
  simp only [escOf_eq_spec, escapeSpec_append]

/-- text without `&` holds no entity: `unescape` (method and module function) returns it as it is -/
theorem unescape_no_entity (s : List Char) (h : '&' ∉ s) :
    unescapeM s = (.str, s) ∧ unescapeFn (.markup s) = some (.str, s) := by
  simp [unescapeM, unescapeFn, unescape_no_amp s h]

/-- On the concrete format string `l0 %s l1 %s … ln` (no `%` in the literals), in both
    implementations: `Markup(fmt) % (x1, …, xn)` is the Markup `l0 x1' l1 … xn' ln` where `xi'` is
    `xi` escaped once iff it was not safe; and `Markup('l0 %s l1') % x` likewise for one value. -/
theorem mod2_percent_s (i : Impl) (lits : List (List Char)) (os : List Arg)
    (hl : ∀ l ∈ lits, '%' ∉ l) (hlen : lits.length = os.length + 1) (hos : ∀ x ∈ os, x.stringy = true) :
    MarkupOps.mod i (escOf i) (fmtOf lits) (.tup os) =
      .ok (.markup, interleave lits (os.map (once2 true))) ∧
    (∀ a, os = [a] → MarkupOps.mod i (escOf i) (fmtOf lits) (.one a) =
      .ok (.markup, interleave lits [once2 true a])) := by
  have tup : MarkupOps.mod i (escOf i) (fmtOf lits) (.tup os) =
      .ok (.markup, interleave lits (os.map (once2 true))) := by
    unfold MarkupOps.mod
    -- `mod` parses with fuel `fmt.length + 1`, one more than `parseFmt_fmtOf` asks
    rw [parseFmt_fmtOf lits _ [] hl (Nat.lt_succ_self _)]
    dsimp only
    rw [mapM_escapeOp i true os hos]
    simp only [liftErr, List.reverse_nil]
    have := fmtPos_piecesOf lits [] (os.map (once2 true)) (by simpa using hlen)
    simp only [List.nil_append] at this
    simp [this, bind, Except.bind, pure, Except.pure]
  exact ⟨tup, fun a ha => by subst ha; rw [mod_one]; exact tup⟩

/-- `striptags` keeps the text before the first `<` as it is (hence text without `<` entirely) -/
theorem striptags_keeps_plain_text (a b : List Char) (h : '<' ∉ a) :
    striptags (a ++ b) = a ++ striptags b ∧ striptags a = a :=
  ⟨striptags_plain_prefix a b h, stripTagsGo_no_lt _ a h⟩

/-- `striptags` removes a tag `<t>` whose inside holds no `>` and does not begin with `!` -/
theorem striptags_removes_simple_tag (t rest : List Char) (h1 : '>' ∉ t) (h2 : t.head? ≠ some '!') :
    striptags ('<' :: t ++ '>' :: rest) = striptags rest :=
  striptags_simple_tag t rest h1 h2

/-- On the concrete format string `l0 %(k1)s l1 … %(kn)s ln` (no `%` in the literals, no
    parenthesis in the keys), in both implementations: `Markup(fmt) % mapping` is the Markup
    `l0 v1' l1 … vn' ln` where `vi'` is the value of `ki` escaped once iff it was not safe
    (every key present, every value a string operand). -/
theorem mod2_percent_key (i : Impl) (lits ks : List (List Char)) (kvs : List (List Char × Arg))
    (hl : ∀ l ∈ lits, '%' ∉ l) (hk : ∀ k ∈ ks, '(' ∉ k ∧ ')' ∉ k) (hlen : lits.length = ks.length + 1)
    (hkv : ∀ p ∈ kvs, p.2.stringy = true)
    (hin : ∀ k ∈ ks, (lookupKey k (kvs.map fun p => (p.1, once2 true p.2))).isSome) :
    MarkupOps.mod i (escOf i) (fmtOfK lits ks) (.map kvs) =
      .ok (.markup, interleave lits
        (ks.map fun k => (lookupKey k (kvs.map fun p => (p.1, once2 true p.2))).getD [])) := by
  unfold MarkupOps.mod
  rw [parseFmt_fmtOfK lits ks _ [] hl hk hlen (Nat.lt_succ_self _)]
  dsimp only
  rw [mapM_escapeKV i kvs hkv]
  simp only [liftErr, List.reverse_nil]
  have := fmtMap_piecesOfK (kvs.map fun p => (p.1, once2 true p.2)) lits [] ks hlen hin
  simp only [List.nil_append] at this
  simp [this, bind, Except.bind, pure, Except.pure]

/-- The regular expression of `genshi.util.striptags`, as the translator reads it from the code
    on every run, is the one the scanner `matchTag` was written against: `(<!--.*?-->|<[^>]*>)`
    without DOTALL (`afterCommentEnd` stops at a line feed).  The shape is the parsed pattern as
    `harness/extract_textscan.py` prints it: `G1(…)` group 1, `LITn` the character with code `n` (60 `<`,
    33 `!`, 45 `-`, 62 `>`), `ALT(…|…)`, `MIN{0,INF}(ANY)` for `.*?`, `MAX{0,INF}(NOTLIT62)` for `[^>]*`. -/
theorem striptags_re_as_modelled :
    Genshi.Gen.MarkupRe.striptagsDotall = false ∧
    Genshi.Gen.MarkupRe.striptagsShape = ['G', '1', '(', 'L', 'I', 'T', '6', '0', ' ', 'A', 'L', 'T', '(', 'L', 'I', 'T', '3', '3', ' ', 'L', 'I', 'T', '4', '5', ' ', 'L', 'I', 'T', '4', '5', ' ', 'M', 'I', 'N', '{', '0', ',', 'I', 'N', 'F', '}', '(', 'A', 'N', 'Y', ')', ' ', 'L', 'I', 'T', '4', '5', ' ', 'L', 'I', 'T', '4', '5', ' ', 'L', 'I', 'T', '6', '2', '|', 'M', 'A', 'X', '{', '0', ',', 'I', 'N', 'F', '}', '(', 'N', 'O', 'T', 'L', 'I', 'T', '6', '2', ')', ' ', 'L', 'I', 'T', '6', '2', ')', ')'] := by
  decide +kernel

end BothImpls

example : escapePy true ['a', '<', '"', '&'] =
    ['a', '&', 'l', 't', ';', '&', '#', '3', '4', ';', '&', 'a', 'm', 'p', ';'] := by decide +kernel
example : unescape (escapePy true ['&', 'l', 't', ';', '<']) = ['&', 'l', 't', ';', '<'] := by decide +kernel
example : (escapeCBytes true (utf8 ['é', '<'])).1 = utf8 ['é', '&', 'l', 't', ';'] := by decide +kernel
example : Attrs.or [(['h'], ['#']), (['t'], ['x'])] [(['h'], none), (['n'], some ['1'])]
    = [(['t'], ['x']), (['n'], ['1'])] := by decide +kernel

section BothImplsExamples
open Genshi.MarkupOps
example : escapeC true ['é', '<', '"', '😀'] = ['é', '&', 'l', 't', ';', '&', '#', '3', '4', ';', '😀'] := by decide +kernel
example : utf8Decode 7 (utf8 ['a', 'é', '€', '😀']) = ['a', 'é', '€', '😀'] := by decide +kernel
example : add .py (escOf .py) ['<', 'b', '>'] (.msub ['<']) = .ok (.markup, ['<', 'b', '>', '<']) := by decide +kernel
example : radd .c (escOf .c) ['<', 'b', '>'] (.str ['<']) = .ok (.markup, ['&', 'l', 't', ';', '<', 'b', '>']) := by decide +kernel
example : escapeCls .c (escOf .c) true (.msub ['<']) = .ok (.msub, ['<']) ∧
    escapeCls .py (escOf .py) true (.msub ['<']) = .ok (.markup, ['<']) ∧
    escapeCls .py (escOf .py) true (.int 5) = .error .attributeError ∧
    escapeCls .c (escOf .c) true (.int 5) = .ok (.markup, ['5']) := by decide +kernel
example : MarkupOps.join .py (escOf .py) [','] false [.str ['"', '<'], .markup ['<'], .none] =
    .ok (.markup, ['"', '&', 'l', 't', ';', ',', '<', ',']) := by decide +kernel
example : MarkupOps.mod .py (escOf .py) ['%', 's', '|', '%', 'r', '|', '%', '%'] (.tup [.str ['<'], .markup ['<', '\'']]) =
    .ok (.markup, ['&', 'l', 't', ';', '|', '<', 'M', 'a', 'r', 'k', 'u', 'p', ' ', '"', '<', '\'', '"', '>', '|', '%']) := by decide +kernel
example : MarkupOps.mod .c (escOf .c) ['%', '(', 'k', ')', 's', ' ', '%', '(', 'k', ')', 'd'] (.map [(['k'], .str ['<'])]) =
    .error (.raised .typeError) := by decide +kernel
example : MarkupOps.mul ['a', 'b'] (.int (-1)) = .ok (.markup, []) ∧
    MarkupOps.mul ['a', 'b'] (.int 2) = .ok (.markup, ['a', 'b', 'a', 'b']) := by decide +kernel
example : striptags ['<', 'b', '>', 'a', '<', '/', 'b', '>', '<', '!', '-', '-', ' ', '>', ' ', '-', '-', '>', 'z', '<'] = ['a', 'z', '<'] := by decide +kernel
example : striptags (['<', '!', '-', '-'] ++ ['\n'] ++ ['>', 'x', '-', '-', '>', 'y']) = ['x', '-', '-', '>', 'y'] := by decide +kernel
example : MarkupOps.stripentities true ['&', 'l', 't', ';', '&', 'h', 'e', 'l', 'l', 'i', 'p', ';', '&', 'f', 'o', 'o', ';', '&', '#', '6', '5', ';'] = .ok ['&', 'l', 't', ';', '…', '&', 'a', 'm', 'p', ';', 'f', 'o', 'o', ';', 'A'] := by decide +kernel
example : MarkupOps.stripentities false ['&', 'l', 't', ';', '&', 'h', 'e', 'l', 'l', 'i', 'p', ';', '&', 'f', 'o', 'o', ';', '&', '#', 'x', '4', '1'] = .ok ['<', '…', 'f', 'o', 'o', 'A'] := by decide +kernel
example : plaintext false (['<', 'b', '>', '1'] ++ ['\n'] ++ ['&', 'l', 't', ';', ' ', '2', '<', '/', 'b', '>']) = .ok ['1', ' ', '<', ' ', '2'] := by decide +kernel
example : qnameNew ['{', '{', 'x', '}', 'a'] = ⟨['{', 'x', '}', 'a'], some ['x'], ['a']⟩ ∧ qnameNew ['a', '{', 'b'] = ⟨['a', '{', 'b'], none, ['a', '{', 'b']⟩ := by
  decide +kernel
example : nsContains ['u'] (nsGetItem ['u'] ['a']) = true ∧ nsContains ['a', '}', 'b'] (nsGetItem ['a', '}', 'b'] ['c']) = false := by
  decide +kernel
example : attrsSlice [(['a'], ['1']), (['b'], ['2']), (['c'], ['3'])] (some (-2)) none =
    [(['b'], ['2']), (['c'], ['3'])] ∧
    attrsIndex [(['a'], ['1'])] (-1) = .ok (['a'], ['1']) ∧ attrsIndex [(['a'], ['1'])] 1 = .error .indexError := by
  decide +kernel
example : attrsTotuple [(['a'], ['1']), (['b'], ['2', '3'])] = ['1', '2', '3'] := by decide +kernel
example : Attrs.get (Attrs.or [(['h'], ['#']), (['t'], ['x'])] [(['h'], some ['1']), (['n'], some ['1']), (['h'], some ['2']), (['t'], none)]) ['h'] = some ['2'] := by decide +kernel
example : striptags ['<', '<', 'a', '>', 'b', '<'] = ['b', '<'] := by decide +kernel
example : MarkupOps.mod .c (escOf .c) (fmtOf [['<', 'b', '>'], ['|'], []]) (.tup [.str ['<'], .msub ['<']]) =
    .ok (.markup, ['<', 'b', '>', '&', 'l', 't', ';', '|', '<']) := by decide +kernel
example : MarkupOps.mod .py (escOf .py) (fmtOfK [['a'], ['|'], []] [['k'], ['j']])
    (.map [(['k'], .str ['<']), (['j'], .markup ['<'])]) =
    .ok (.markup, ['a', '&', 'l', 't', ';', '|', '<']) := by decide +kernel
end BothImplsExamples

end Genshi.Props.C18
