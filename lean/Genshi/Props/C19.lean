/-
  C19 — Identity translation is transparent and message extraction is complete.
  Property theorems; the model is
  `Genshi/Model/I18n*.lean`, helper lemmas are in `Genshi/Lemmas/I18n*.lean`.

  OBLIGATIONS (checked by the axiom audit of the harness):
    replace_self translate_identity attr_space_not_transparent translate_forest
    excluded_untouched attrs_outside_include_untouched interpolated_attrs_untouched
    extract_text_false_untouched default_cfg_excludes_script_style reorder_is_permutation
    parse_format translate_tree translate_tree_sub placeholders_once_each translate_format_id
    msg_identity_attr msg_identity_elem
    adjacent_not_transparent backslash_not_transparent placeholder_text_raises percent_raises
    drop_nested_unbalanced fragments_looked_up_not_extracted nested_directives_raise
    default_cfg_include_attrs i18n_directives_sort_first contexted_table
    lookups_subset_extract_partial choose_identity msg_lookup_extracted identity_transparent_msg
    choose_lookup_extracted choose_outer_text_not_looked_up msg_lookup_extracted_elem
    code_calls_extracted identity_transparent_msg_sub choose_extract_succeeds
    sub_attrs_not_extracted wide_of_plain identity_transparent_msg_reorder
    translate_format_id_brackets msg_identity_brackets msg_identity_elem_brackets brackets_of_clean
    placeholder_text_straddles msg_element_first_child_mismatch
    code_call_reported code_literal_call_reported code_reported_is_call code_reported_exactly nested_call_was_missed
    code_call_sites_extracted code_list_is_call_sites
    lookups_subset_extract_args identity_transparent_msg_skip skip_generalises_reorder
    branch_directive_ids_mismatch
-/
import Genshi.Lemmas.I18nTree
import Genshi.Lemmas.I18nStarts
import Genshi.Lemmas.I18nLookups
import Genshi.Lemmas.I18nChooseIdentity
import Genshi.Lemmas.I18nMsgLookup
import Genshi.Lemmas.I18nLookups3
import Genshi.Lemmas.I18nChooseLookup
import Genshi.Lemmas.I18nCode
import Genshi.Lemmas.I18nPyExpr
import Genshi.Lemmas.I18nPassEq
import Genshi.Lemmas.I18nPassReorder
import Genshi.Lemmas.I18nPyStream
import Genshi.Lemmas.I18nPassSkip
import Genshi.Model.I18nExtract
namespace Genshi.Props.C19
open Genshi Genshi.I18n

/-- `data.replace(text, text) = data`: what the identity catalogue does to a text node. -/
theorem replace_self (pat s : Str) : Str.replace pat pat s = s := Genshi.I18n.replace_self pat s

/-- **identity_transparent, translation pass** (`Translator.__call__`).  Under the identity
    catalogue, for every context, flag setting and skip depth, the pass returns its input up
    to the order of the directives of SUB events, provided no included plain attribute value
    has white space at its edges (finding C19-attr-space: `attr_space_not_transparent`).
    The message directives are covered by `msg_identity_attr` / `msg_identity_elem` below. -/
theorem translate_identity (cfg : Cfg) (ctx : Ctx) (tt ta : Bool) (s : TStream)
    (h : cleanList cfg s = true) :
    sameList s (translate cfg Catalog.id ctx tt ta s) = true :=
  trList_id_same cfg ctx _ _ 0 s h

example : cleanList Cfg.default
    [.start ⟨[], ['p']⟩ [(⟨[], ['t','i','t','l','e']⟩, .str ['H','i'])], .text [' ', 'a', ' '],
     .sub [.msg [], .domain ['d']] [.text ['x']], .end_ ⟨[], ['p']⟩] = true := by decide

/-- the hypothesis of `translate_identity` cannot be dropped: `title=" Foo "` comes back
    as `title="Foo"` under the identity catalogue (known finding C19-attr-space). -/
theorem attr_space_not_transparent :
    translate Cfg.default Catalog.id [] true true
      [.start ⟨[], ['p']⟩ [(⟨[], ['t','i','t','l','e']⟩, .str [' ', 'F', 'o', 'o', ' '])]] =
      [.start ⟨[], ['p']⟩ [(⟨[], ['t','i','t','l','e']⟩, .str ['F', 'o', 'o'])]] := by decide

/-- The pass is a tree homomorphism: on the flattening of a forest it works node by node
    (`trNode`), for **any** catalogue; `trNode` returns an excluded element unchanged. -/
theorem translate_forest (cfg : Cfg) (cat : Catalog) (ctx : Ctx) (tt ta : Bool) (ns : List TNode)
    (rest : TStream) (h : okNodes ns = true) :
    trList cfg cat ctx tt ta 0 (flattenNodes ns ++ rest) =
      flattenNodes (trNodes cfg cat ctx tt ta ns) ++ trList cfg cat ctx tt ta 0 rest :=
  trList_nodes cfg cat ctx tt ta ns rest h

/-- **excluded_untouched (tag / xml:lang)**: an element whose tag is in `ignore_tags` or that
    carries a literal `xml:lang` passes with its whole sub-tree unchanged, whatever the
    catalogue, the context and the flags, and translation resumes after it. -/
theorem excluded_untouched (cfg : Cfg) (cat : Catalog) (ctx : Ctx) (tt ta : Bool)
    (t : QName) (a : TAttrs) (ks : List TNode) (rest : TStream)
    (hx : excluded cfg t a = true) (hk : okNodes ks = true) :
    trList cfg cat ctx tt ta 0 ((TNode.elem t a ks).flatten ++ rest) =
      (TNode.elem t a ks).flatten ++ trList cfg cat ctx tt ta 0 rest := by
  rw [trList_node cfg cat ctx tt ta _ rest (by simpa [TNode.ok] using hk)]
  simp [trNode, hx]

example : excluded Cfg.default ⟨[], ['p']⟩ [(xmlLang, .str ['e', 'n'])] = true := by decide
example : excluded Cfg.default ⟨[], ['p']⟩ [(xmlLang, .parts [.expr []])] = false := by decide

/-- **excluded_untouched (include_attrs)**: an attribute whose name is not in `include_attrs`
    keeps its value under any catalogue. -/
theorem attrs_outside_include_untouched (cfg : Cfg) (gt : Str → Str) (ta : Bool) (n : QName) (v : AVal)
    (h : cfg.includeAttrs.contains n.text = false) : trAttr cfg gt ta (n, v) = (n, v) := by
  cases v with
  | parts ps => simp [trAttr]
  | str s =>
    have h' : ¬ (n.text ∈ cfg.includeAttrs) := by simpa using h
    simp [trAttr, h']

/-- interpolated attribute values are never translated. -/
theorem interpolated_attrs_untouched (cfg : Cfg) (gt : Str → Str) (ta : Bool) (n : QName) (ps : List APart) :
    trAttr cfg gt ta (n, .parts ps) = (n, .parts ps) := by simp [trAttr]

/-- **excluded_untouched (configuration)**: with `extract_text=False` the pass changes no
    text and no attribute, for any catalogue. -/
theorem extract_text_false_untouched (cfg : Cfg) (cat : Catalog) (ctx : Ctx) (tt ta : Bool) (s : TStream)
    (h : cfg.extractText = false) : sameList s (translate cfg cat ctx tt ta s) = true := by
  unfold translate; simp only [h, Bool.false_and]
  exact trList_off_same cfg cat ctx h 0 s

/-- the default configuration (generated from `Translator.IGNORE_TAGS`) excludes `script`
    and `style`, with and without the XHTML namespace. -/
theorem default_cfg_excludes_script_style (a : TAttrs) :
    excluded Cfg.default ⟨[], ['s','c','r','i','p','t']⟩ a = true ∧
    excluded Cfg.default ⟨[], ['s','t','y','l','e']⟩ a = true ∧
    excluded Cfg.default ⟨['h','t','t','p',':','/','/','w','w','w','.','w','3','.','o','r','g','/','1','9','9','9','/','x','h','t','m','l'], ['s','c','r','i','p','t']⟩ a = true ∧
    excluded Cfg.default ⟨['h','t','t','p',':','/','/','w','w','w','.','w','3','.','o','r','g','/','1','9','9','9','/','x','h','t','m','l'], ['s','t','y','l','e']⟩ a = true := by
  refine ⟨?_, ?_, ?_, ?_⟩ <;>
    (unfold excluded; simp only [Bool.or_eq_true]; left; decide)

/-- the default `include_attrs` (generated from `Translator.INCLUDE_ATTRS`) are the eight
    documented attribute names. -/
theorem default_cfg_include_attrs :
    Cfg.default.includeAttrs = [['a','b','b','r'], ['a','l','t'], ['l','a','b','e','l'],
      ['p','l','a','c','e','h','o','l','d','e','r'], ['p','r','o','m','p','t'], ['s','t','a','n','d','b','y'],
      ['s','u','m','m','a','r','y'], ['t','i','t','l','e']] := by decide

/-- "directive registration ahead of template directives": the seven i18n directives are
    registered in the order domain, comment, ctxt, msg, choose, singular, plural; msg and
    choose are the extractable ones, singular and plural the branches; and every
    `Translator.get_directive_index` is negative, so on a SUB event they sort in front of
    the template's own directives (whose indices are ≥ 0). -/
theorem i18n_directives_sort_first :
    Gen.I18n.directives.map (fun d => (d.2.1, d.2.2.1, d.2.2.2)) =
      [(['d','o','m','a','i','n'], false, false), (['c','o','m','m','e','n','t'], false, false),
       (['c','t','x','t'], false, false), (['m','s','g'], true, false), (['c','h','o','o','s','e'], true, false),
       (['s','i','n','g','u','l','a','r'], false, true), (['p','l','u','r','a','l'], false, true)] ∧
    (∀ i ∈ Gen.I18n.directiveIndex, i < 0) ∧
    Gen.I18n.directiveIndex.Pairwise (· < ·) := by
  refine ⟨by decide, by decide, by decide⟩

/-- the `contexted` table used by `contextify`: plain messages become `pgettext`, plural
    ones `pngettext` (extraction under `i18n:ctxt` never hits the ValueError branch). -/
theorem contexted_table :
    contextedGet none = some pgettextName ∧
    contextedGet (some ngettextName) = some ['p','n','g','e','t','t','e','x','t'] := by
  refine ⟨by decide, by decide⟩

/-- the directive list of a SUB event is only permuted by the pass (domain first, context next). -/
theorem reorder_is_permutation (ds : List Dir) : (reorder ds).dirs.Perm ds := reorder_perm ds


/-- **lookups_subset_extract** (partial).
    Full statement: every message id containing a letter that rendering passes to the
    catalogue is among the messages `Translator.extract` reports for the same stream.
    Proved, by a simultaneous induction over `Translator.__call__` and `Translator.extract`
    with the skip counter shared, for the template streams `WideList` (see `WideEv`, `GoodMsg`,
    `GoodChoose` in `Lemmas/I18nLookups3.lean`): any nesting of py: directives, i18n:domain /
    ctxt / comment, ignored tags, xml:lang; message directives and plural choices that may share
    their element with other directives and whose buffers can be built.  What is excluded are the
    recorded findings, each with a `decide`-checked witness below: an element form of `i18n:msg`
    starting or ending with an element (C19-msg-element-first-child); text with a letter or an
    included attribute with a letter inside a directive-carrying element of a message or inside a
    branch of a plural choice (C19-fragments, C19-sub-attrs: `fragments_looked_up_not_extracted`,
    `sub_attrs_not_extracted`); text outside the branches of a plural choice
    (C19-choose-outer-text: `choose_outer_text_not_looked_up`).
    For any configuration and context: extraction never raises; every id the translation pass
    looks up (text nodes, included attributes, also inside messages and plural choices) is
    extracted unless it has no letter; every message id an `i18n:msg` directive looks up while
    rendering is extracted (`msgIdsW`: the id of the template's own stream; for content without
    directive-carrying elements the stream the directive sees after the pass gives the same id
    for every catalogue: `msg_lookup_extracted`).  The pair of ids an `i18n:choose` hands to
    `ngettext` is `choose_lookup_extracted`; the gettext calls made by template code are
    `code_calls_extracted`. -/
theorem lookups_subset_extract_partial (cfg : Cfg) (ctx : Ctx) (s : TStream) (h : WideList cfg s) :
    ∃ ms, extract cfg s = .ok ms ∧
      (∀ l ∈ lookups cfg ctx true true s, hasLetter l.msgid = true → l.msgid ∈ idsOf ms) ∧
      (∀ id ∈ msgIdsW s, id ∈ idsOf ms) :=
  lookups_subset_extract_wide cfg ctx s h

/-- **lookups_subset_extract with every argument of the two entry points quantified**.
    `lookups_subset_extract_partial` fixes the arguments at their defaults; here
      * `Translator.__call__(stream, ctxt, translate_text=tt, translate_attrs=ta)` — both flags and
        the template context (`_i18n.domain` / `_i18n.context` frames) arbitrary,
      * `Translator.extract(stream, search_text=st, comment_stack=cs, context_stack=xs)` — any
        comment and context stacks (a non-empty context stack turns every message into its
        `pgettext` / `npgettext` form: `contextify`), `search_text` either `True` or — only when
        the instance has `extract_text=False`, where the pass looks no text up — `False`
        (`extractWith`; correspondence stream `extractw`),
      * the instance: `ignore_tags`, `include_attrs`, `extract_text` arbitrary (`cfg`), literal
        `xml:lang` handled inside (`excluded`).
    `Translator.setup` only registers the filter and the directives (exercised by the oracle). -/
theorem lookups_subset_extract_args (cfg : Cfg) (ctx : Ctx) (s : TStream) (h : WideList cfg s)
    (tt ta st : Bool) (cs xs : List Str) (hst : st = true ∨ cfg.extractText = false) :
    ∃ ms, extractWith cfg st cs xs s = .ok ms ∧
      (∀ l ∈ lookups cfg ctx tt ta s, hasLetter l.msgid = true → l.msgid ∈ idsOf ms) ∧
      (∀ id ∈ msgIdsW s, id ∈ idsOf ms) :=
  Genshi.I18n.lookups_subset_extract_args cfg ctx s h tt ta st cs xs hst

/-- `<p title="Tip">Hi</p>` extracted with `comment_stack=['c']`, `context_stack=['m']`: the text
    comes out as `pgettext('m', 'Hi')` with the comment, the attribute plain; the pass (under a
    domain frame, attributes only) looks `Tip` up -/
example :
    okMsgList [.start ⟨[], ['p']⟩ [(⟨[], ['t','i','t','l','e']⟩, .str ['T','i','p'])], .text ['H','i'], .end_ ⟨[], ['p']⟩] = true ∧
    extractWith Cfg.default true [['c']] [['m']]
      [.start ⟨[], ['p']⟩ [(⟨[], ['t','i','t','l','e']⟩, .str ['T','i','p'])], .text ['H','i'], .end_ ⟨[], ['p']⟩] =
      .ok [⟨none, .one (some ['T','i','p']), []⟩,
           ⟨some ['p','g','e','t','t','e','x','t'], .many [some ['m'], some ['H','i']], [['c']]⟩] ∧
    (lookups Cfg.default [.domain ['d']] false true
      [.start ⟨[], ['p']⟩ [(⟨[], ['t','i','t','l','e']⟩, .str ['T','i','p'])], .text ['H','i'], .end_ ⟨[], ['p']⟩]).map
        Lookup.msgid = [['T','i','p']] := by
  refine ⟨by decide +kernel, by decide +kernel, by decide +kernel⟩

/-- the streams with message directives alone on their
    element, content without directive-carrying elements (`okMsgList`, decidable) are among them -/
theorem wide_of_plain (cfg : Cfg) (s : TStream) (h : okMsgList s = true) : WideList cfg s :=
  wide_of_okMsgList cfg s h

/-- `<p i18n:comment="c" i18n:msg="n" py:if="x">Hi <b py:if="y" title="1">${n} 2</b>!</p>`:
    the message shares its element with two other directives, its content holds a
    directive-carrying element (quiet: `2`, `title="1"`); the id looked up is extracted -/
example :
    WideList Cfg.default
      [.sub [.comment ['c'], .msg [['n']], .other ['i','f']]
        [.start ⟨[], ['p']⟩ [], .text ['H','i',' '],
         .sub [.other ['i','f']] [.start ⟨[], ['b']⟩ [(⟨[], ['t','i','t','l','e']⟩, .str ['1'])], .expr 0 [], .text [' ','2'], .end_ ⟨[], ['b']⟩],
         .text ['!'], .end_ ⟨[], ['p']⟩]] ∧
    msgIdsW
      [.sub [.comment ['c'], .msg [['n']], .other ['i','f']]
        [.start ⟨[], ['p']⟩ [], .text ['H','i',' '],
         .sub [.other ['i','f']] [.start ⟨[], ['b']⟩ [(⟨[], ['t','i','t','l','e']⟩, .str ['1'])], .expr 0 [], .text [' ','2'], .end_ ⟨[], ['b']⟩],
         .text ['!'], .end_ ⟨[], ['p']⟩]] = [['H','i',' ','[','1',':','%','(','n',')','s',' ','2',']','!']] := by
  refine ⟨⟨Or.inl ⟨[['n']], ⟨by decide, by decide⟩, Or.inl ?_⟩, trivial⟩, by decide +kernel⟩
  obtain ⟨B, hB⟩ := ok_of_isOk (x := mbAppendList (MB.new [['n']])
    [.text ['H','i',' '],
     .sub [.other ['i','f']] [.start ⟨[], ['b']⟩ [(⟨[], ['t','i','t','l','e']⟩, .str ['1'])], .expr 0 [], .text [' ','2'], .end_ ⟨[], ['b']⟩],
     .text ['!']]) (by decide +kernel)
  exact ⟨_, _, _, .end_ ⟨[], ['p']⟩, B, rfl, by decide +kernel, rfl, by decide +kernel, hB⟩

/-- `<div i18n:choose="n; n" i18n:domain="d"> <p i18n:singular="" title="One">1 ${n}</p> <!-- c -->
    <p i18n:plural="">${n} <b py:if="c">2</b></p> </div>`: a plural choice inside the induction;
    the pass looks up `One` (attribute), `1` and `2` (fragments without letter) -/
example :
    WideList Cfg.default
      [.sub [.domain ['d'], .choose [['n']]]
        (.start ⟨[], ['d']⟩ [] :: (([.text [' ']] ++
          .sub [.singular] (.start ⟨[], ['p']⟩ [(⟨[], ['t','i','t','l','e']⟩, .str ['O','n','e'])] ::
              ([.text ['1',' '], .expr 0 []] ++ [.end_ ⟨[], ['p']⟩])) ::
          ([.text [' '], .other ['c'], .text [' ']] ++
          .sub [.plural] (.start ⟨[], ['p']⟩ [] :: ([.expr 0 [], .text [' '],
              .sub [.other ['i','f']] [.start ⟨[], ['b']⟩ [], .text ['2'], .end_ ⟨[], ['b']⟩]] ++ [.end_ ⟨[], ['p']⟩])) ::
          [.text [' ']])) ++ [.end_ ⟨[], ['d']⟩]))] ∧
    (lookups Cfg.default [] true true
      [.sub [.domain ['d'], .choose [['n']]]
        (.start ⟨[], ['d']⟩ [] :: (([.text [' ']] ++
          .sub [.singular] (.start ⟨[], ['p']⟩ [(⟨[], ['t','i','t','l','e']⟩, .str ['O','n','e'])] ::
              ([.text ['1',' '], .expr 0 []] ++ [.end_ ⟨[], ['p']⟩])) ::
          ([.text [' '], .other ['c'], .text [' ']] ++
          .sub [.plural] (.start ⟨[], ['p']⟩ [] :: ([.expr 0 [], .text [' '],
              .sub [.other ['i','f']] [.start ⟨[], ['b']⟩ [], .text ['2'], .end_ ⟨[], ['b']⟩]] ++ [.end_ ⟨[], ['p']⟩])) ::
          [.text [' ']])) ++ [.end_ ⟨[], ['d']⟩]))]).map Lookup.msgid = [['O','n','e'], ['1'], ['2']] := by
  refine ⟨⟨Or.inr (Or.inl ⟨[['n']], ⟨by decide, by decide⟩, ?_⟩), trivial⟩, by decide +kernel⟩
  obtain ⟨C, hC, hCs⟩ := ok_stack_of_isOk (x := mbAppendList (MB.new [['n']]) [.text ['1',' '], .expr 0 []]) (by decide +kernel)
  obtain ⟨D, hD, hDs⟩ := ok_stack_of_isOk (x := mbAppendList (MB.new [['n']]) [.expr 0 [], .text [' '],
      .sub [.other ['i','f']] [.start ⟨[], ['b']⟩ [], .text ['2'], .end_ ⟨[], ['b']⟩]]) (by decide +kernel)
  -- the witnesses of `GoodChoose`: t t' ts ts' tp tp', a as ap, pre mid post cS cP (all read off `rfl`), C D
  exact ⟨_, _, _, _, _, _, _, _, _, _, _, _, _, _, C, D, rfl, by decide, by decide, by decide,
    by decide +kernel, by decide +kernel, hC, hD, hCs, hDs⟩

/-- C19-sub-attrs: the `title` of a directive-carrying element inside a message is looked up by
    the pass but not extracted (`MsgDirective.extract` looks at the START events of the top
    level of its sub-stream only): the quietness hypothesis on such elements cannot be dropped. -/
theorem sub_attrs_not_extracted :
    (lookups Cfg.default [] true true [.sub [.msg []] [.start ⟨[], ['p']⟩ [], .text ['a',' '],
      .sub [.other ['i','f']] [.start ⟨[], ['b']⟩ [(⟨[], ['t','i','t','l','e']⟩, .str ['F','o','o'])], .text ['1'], .end_ ⟨[], ['b']⟩],
      .end_ ⟨[], ['p']⟩]]).map Lookup.msgid = [['F','o','o'], ['1']] ∧
    extract Cfg.default [.sub [.msg []] [.start ⟨[], ['p']⟩ [], .text ['a',' '],
      .sub [.other ['i','f']] [.start ⟨[], ['b']⟩ [(⟨[], ['t','i','t','l','e']⟩, .str ['F','o','o'])], .text ['1'], .end_ ⟨[], ['b']⟩],
      .end_ ⟨[], ['p']⟩]] = .ok [⟨none, .one (some ['a',' ','[','1',':','1',']']), []⟩] := by
  refine ⟨by decide +kernel, by decide +kernel⟩

example : okMsgList
    [.start ⟨[], ['d']⟩ [], .text ['H','i'],
     .sub [.msg []] [.start ⟨[], ['p']⟩ [(⟨[], ['t','i','t','l','e']⟩, .str ['T'])], .text ['a',' '],
                     .start ⟨[], ['b']⟩ [(⟨[], ['a','l','t']⟩, .str ['A'])], .text ['x'], .end_ ⟨[], ['b']⟩, .end_ ⟨[], ['p']⟩],
     .end_ ⟨[], ['d']⟩] = true ∧
    msgIdsList
      [.start ⟨[], ['d']⟩ [], .text ['H','i'],
       .sub [.msg []] [.start ⟨[], ['p']⟩ [(⟨[], ['t','i','t','l','e']⟩, .str ['T'])], .text ['a',' '],
                       .start ⟨[], ['b']⟩ [(⟨[], ['a','l','t']⟩, .str ['A'])], .text ['x'], .end_ ⟨[], ['b']⟩, .end_ ⟨[], ['p']⟩],
       .end_ ⟨[], ['d']⟩] = [['a',' ','[','1',':','x',']']] := by
  refine ⟨by decide +kernel, by decide +kernel⟩

example : noMsgList
    [.start ⟨[], ['p']⟩ [(⟨[], ['t','i','t','l','e']⟩, .str ['T','i','p'])], .text [' ', 'H', 'i', ' '],
     .sub [.other ['i','f'], .ctxt ['m']] [.start ⟨[], ['b']⟩ [], .text ['x', '1'], .end_ ⟨[], ['b']⟩],
     .end_ ⟨[], ['p']⟩] = true ∧
    (lookups Cfg.default [] true true
      [.start ⟨[], ['p']⟩ [(⟨[], ['t','i','t','l','e']⟩, .str ['T','i','p'])], .text [' ', 'H', 'i', ' '],
       .sub [.other ['i','f'], .ctxt ['m']] [.start ⟨[], ['b']⟩ [], .text ['x', '1'], .end_ ⟨[], ['b']⟩],
       .end_ ⟨[], ['p']⟩]).map Lookup.msgid = [['T','i','p'], ['H','i'], ['x','1']] := by
  refine ⟨by decide +kernel, by decide +kernel⟩

/-- the element form is among the streams of `lookups_subset_extract_partial`:
    `<i18n:msg params="n">Hi <b title="T">x</b> ${n}</i18n:msg>` -/
example :
    okMsgList
      [.sub [.msg [['n']]] [.text ['H','i',' '], .start ⟨[], ['b']⟩ [(⟨[], ['t','i','t','l','e']⟩, .str ['T'])],
         .text ['x'], .end_ ⟨[], ['b']⟩, .text [' '], .expr 0 []]] = true ∧
    msgIdsList
      [.sub [.msg [['n']]] [.text ['H','i',' '], .start ⟨[], ['b']⟩ [(⟨[], ['t','i','t','l','e']⟩, .str ['T'])],
         .text ['x'], .end_ ⟨[], ['b']⟩, .text [' '], .expr 0 []]] =
      [['H','i',' ','[','1',':','x',']',' ','%','(','n',')','s']] := by
  refine ⟨by decide +kernel, by decide +kernel⟩

/-- C19-msg-element-first-child: `<i18n:msg><b>x</b> y</i18n:msg>` — the element form takes a
    leading element for its own start tag: rendering looks up `x y`, extraction reports `x`; the
    hypothesis of `GoodMsg` on the first event of the element form cannot be dropped. -/
theorem msg_element_first_child_mismatch :
    msgId [] [.start ⟨[], ['b']⟩ [], .text ['x'], .end_ ⟨[], ['b']⟩, .text [' ','y']] = .ok (some ['x',' ','y']) ∧
    msgExtract Cfg.default [] true [] [] [.start ⟨[], ['b']⟩ [], .text ['x'], .end_ ⟨[], ['b']⟩, .text [' ','y']] =
      .ok [⟨none, .one (some ['x']), []⟩] := by
  refine ⟨by decide +kernel, by decide +kernel⟩

/-- **lookups_subset_extract, gettext calls made by template code.**  For every stream as in
    `lookups_subset_extract_partial` (any nesting of py: directives, i18n:domain / ctxt /
    comment, excluded elements; message directives plain): extraction never raises and reports
    every gettext call `extract_from_code` finds (expressions are opaque and carry that result)
      * in every EXPR and EXEC event, at any depth, also inside excluded elements,
      * in the interpolated attribute values of every START event — also of excluded elements
        and inside them (fix 3dc8094),
      * in the expressions and interpolated attributes of the content of a message directive
        (fix 3c6e4de: the directive `extract` methods look at EXPR events, too),
    as `(function, strings)` with an empty comment list (`codeList` collects exactly these). -/
theorem code_calls_extracted (cfg : Cfg) (s : TStream) (h : okMsgList s = true) :
    ∃ ms, extract cfg s = .ok ms ∧ ∀ c ∈ codeList cfg s, codeMessage c ∈ ms :=
  Genshi.I18n.code_calls_extracted cfg s h

/-- `<p i18n:msg="n">Hi ${_('W')}<b title="${_('T')}">x</b></p><script type="${_('A')}">${_('S')}</script>`:
    the four calls are in `codeList` (and the stream is one the theorem speaks about) -/
example :
    okMsgList
      [.sub [.msg [['n']]] [.start ⟨[], ['p']⟩ [], .text ['H','i',' '], .expr 0 [⟨['_'], .one (some ['W'])⟩],
          .start ⟨[], ['b']⟩ [(⟨[], ['t','i','t','l','e']⟩, .parts [.expr [⟨['_'], .one (some ['T'])⟩]])],
          .text ['x'], .end_ ⟨[], ['b']⟩, .end_ ⟨[], ['p']⟩],
       .start ⟨[], ['s','c','r','i','p','t']⟩ [(⟨[], ['t','y','p','e']⟩, .parts [.expr [⟨['_'], .one (some ['A'])⟩]])],
       .expr 1 [⟨['_'], .one (some ['S'])⟩], .end_ ⟨[], ['s','c','r','i','p','t']⟩] = true ∧
    codeList Cfg.default
      [.sub [.msg [['n']]] [.start ⟨[], ['p']⟩ [], .text ['H','i',' '], .expr 0 [⟨['_'], .one (some ['W'])⟩],
          .start ⟨[], ['b']⟩ [(⟨[], ['t','i','t','l','e']⟩, .parts [.expr [⟨['_'], .one (some ['T'])⟩]])],
          .text ['x'], .end_ ⟨[], ['b']⟩, .end_ ⟨[], ['p']⟩],
       .start ⟨[], ['s','c','r','i','p','t']⟩ [(⟨[], ['t','y','p','e']⟩, .parts [.expr [⟨['_'], .one (some ['A'])⟩]])],
       .expr 1 [⟨['_'], .one (some ['S'])⟩], .end_ ⟨[], ['s','c','r','i','p','t']⟩] =
      [⟨['_'], .one (some ['W'])⟩, ⟨['_'], .one (some ['T'])⟩, ⟨['_'], .one (some ['A'])⟩, ⟨['_'], .one (some ['S'])⟩] := by
  refine ⟨by decide +kernel, by decide +kernel⟩


/-! ### `extract_from_code`: what an EXPR / EXEC event carries

`code_calls_extracted` takes the list an expression carries as given; the theorems below are
about the function that computes it (model `extractFromCode` over the syntax tree `PyExpr`,
`Genshi/Model/I18nPyExpr.lean`, compared with the real `extract_from_code` on the trees genshi
builds: correspondence stream `pycode`). -/

/-- **every gettext call of the code is reported** (`extract_from_code`, fix fbd47f1): a call `f(args…, kw=…)` of a plain name `f` among the gettext functions,
    occurring ANYWHERE in the expression or code block — also inside the arguments of another
    gettext call — is reported as `(f, strings)` with one entry per positional argument: the
    text of a string (or utf-8 bytes) literal, `None` for anything else; a single entry bare,
    otherwise a tuple. -/
theorem code_call_reported (gf : List Str) (e : PyExpr) (f : Str) (args kws : List PyExpr)
    (hs : SubExpr (.call (.name f) args kws) e) (hf : f ∈ gf) :
    ⟨f, argVal args⟩ ∈ extractFromCode gf e :=
  Genshi.I18n.code_call_reported gf e f args kws hs hf

/-- `ngettext('a', 'b', len(_('U')))`: the inner call is a sub-expression and `_` a gettext function -/
example : SubExpr (.call (.name ['_']) [.str ['U']] [])
      (.call (.name ['n','g','e','t','t','e','x','t'])
        [.str ['a'], .str ['b'], .call (.name ['l','e','n']) [.call (.name ['_']) [.str ['U']] []] []] []) ∧
    ['_'] ∈ Gen.I18n.gettextFunctions ∧ argVal [.str ['U']] = .one (some ['U']) :=
  ⟨SubExpr.arg _ _ (a := .call (.name ['l','e','n']) [.call (.name ['_']) [.str ['U']] []] []) (by simp)
     (SubExpr.arg _ _ (List.mem_singleton.2 rfl) (SubExpr.refl _)), by decide, by decide⟩

/-- … and when all positional arguments are string literals the reported value holds exactly
    those strings, in order. -/
theorem code_literal_call_reported (gf : List Str) (e : PyExpr) (f : Str) (ss : List Str)
    (kws : List PyExpr) (hs : SubExpr (.call (.name f) (literalArgs ss) kws) e) (hf : f ∈ gf) :
    ⟨f, match ss with | [s] => .one (some s) | _ => .many (ss.map some)⟩ ∈ extractFromCode gf e :=
  Genshi.I18n.code_literal_call_reported gf e f ss kws hs hf

example : extractFromCode Gen.I18n.gettextFunctions
    (.call (.name ['n','g','e','t','t','e','x','t']) (literalArgs [['a'], ['b']]) [.name ['n']]) =
    [⟨['n','g','e','t','t','e','x','t'], .many [some ['a'], some ['b']]⟩] := by decide

/-- **nothing else is reported**: every reported pair is the report of a call of one of the
    gettext functions that occurs in the code. -/
theorem code_reported_is_call (gf : List Str) (e : PyExpr) (m : CodeMsg)
    (h : m ∈ extractFromCode gf e) :
    ∃ args kws, SubExpr (.call (.name m.func) args kws) e ∧ m.func ∈ gf ∧ m.val = argVal args :=
  Genshi.I18n.code_reported_is_call gf e m h

example : (⟨['_'], .many []⟩ : CodeMsg) ∈
    extractFromCode Gen.I18n.gettextFunctions (.node [.call (.name ['_']) [] [], .call (.name ['l','e','n']) [.str ['x']] []]) := by
  decide

/-- the exact answer: the calls of the gettext functions in source order (a call before the
    calls inside it), one report per call. -/
theorem code_reported_exactly (gf : List Str) (e : PyExpr) :
    extractFromCode gf e = (gettextCalls gf e).map callReport :=
  Genshi.I18n.extractFromCode_eq_gettextCalls gf e

example : (gettextCalls Gen.I18n.gettextFunctions nestedExample).map Prod.fst =
    [['n','g','e','t','t','e','x','t'], ['_']] := by decide

/-- fix fbd47f1: with `elif node._fields:` (`extractFromCodeOld`) the walk stops at a gettext call
    and `_('Unknown')` in `ngettext('one', 'many', len(_('Unknown')))` is not reported. -/
theorem nested_call_was_missed :
    (⟨['_'], .one (some ['U','n','k','n','o','w','n'])⟩ : CodeMsg) ∉
        extractFromCodeOld Gen.I18n.gettextFunctions nestedExample ∧
    SubExpr (.call (.name ['_']) [.str ['U','n','k','n','o','w','n']] []) nestedExample ∧
    extractFromCode Gen.I18n.gettextFunctions nestedExample =
      [⟨['n','g','e','t','t','e','x','t'], .many [some ['o','n','e'], some ['m','a','n','y'], none]⟩,
       ⟨['_'], .one (some ['U','n','k','n','o','w','n'])⟩] :=
  Genshi.I18n.nested_call_was_missed

/-! ### composition: the call sites of template code

`PStream` (`Model/I18nPyStream.lean`) is the template stream with the syntax tree (`PyExpr`) in the
place of every piece of code — EXPR / EXEC events, expressions inside interpolated attribute
values; `extractP cfg gf s` is `Translator(cfg…).extract(stream, gettext_functions=gf)`: where
`Translator.extract` meets code it calls `extract_from_code(code, gettext_functions)` (`lowerList`).
Tie: correspondence stream `extractp` (the harness sends the trees genshi built, `code.ast`, and
the `gettext_functions` argument; nothing the real `extract_from_code` computed reaches the model). -/

/-- **every gettext call site of the template code is extracted**, for every configuration and every
    `gettext_functions` argument `gf`: extraction returns, and for every piece of code `e` of the
    template (`codeExprs`: EXPR / EXEC events at any depth of directive nesting, interpolated
    attribute values of all elements — excluded ones included —, expressions and attributes inside
    the content of a plain `i18n:msg`) and every call `f(args…, kw=…)` of a plain name `f ∈ gf`
    occurring ANYWHERE in `e` (nested in the arguments of another gettext call, in a keyword value, in
    any other syntax), the message `(f, strings, [])` is extracted, where `strings` has one entry per
    POSITIONAL argument (the text of a string / utf-8 bytes literal, `None` for a non-literal; a single
    entry bare, otherwise a tuple: `argVal`); keyword arguments contribute no entry. -/
theorem code_call_sites_extracted (cfg : Cfg) (gf : List Str) (s : PStream)
    (h : okMsgList (lowerList gf s) = true) :
    ∃ ms, extractP cfg gf s = .ok ms ∧
      ∀ e ∈ codeExprs s, ∀ (f : Str) (args kws : List PyExpr),
        SubExpr (.call (.name f) args kws) e → f ∈ gf → (⟨some f, argVal args, []⟩ : Message) ∈ ms :=
  Genshi.I18n.code_call_sites_extracted cfg gf s h

/-- what the code contributes to the extracted messages is exactly the report of its call sites, in
    source order: `codeList` of the stream `Translator.extract` works on = the gettext calls
    (`gettextCalls`: calls of a plain name in `gf`, pre-order, at any depth) of every piece of code -/
theorem code_list_is_call_sites (cfg : Cfg) (gf : List Str) (s : PStream) :
    codeList cfg (lowerList gf s) = (codeExprs s).flatMap fun e => (gettextCalls gf e).map callReport :=
  Genshi.I18n.codeList_lower_calls cfg gf s

/-- `<p i18n:msg="n">Hi ${ngettext('a', 'b', len(_('U')))}</p><script type="${tr(x, k=_('A'))}">${_(s1)}</script>`
    with `gettext_functions = ('_', 'ngettext')`: the stream is one the theorem speaks about; the
    pieces of code are the three expressions; the nested `_('U')`, the `_('A')` in a keyword value
    and the non-literal `_(s1)` are call sites, reported as `'U'`, `'A'` and `None` -/
example :
    let gf : List Str := [['_'], ['n','g','e','t','t','e','x','t']]
    let e1 : PyExpr := .call (.name ['n','g','e','t','t','e','x','t'])
        [.str ['a'], .str ['b'], .call (.name ['l','e','n']) [.call (.name ['_']) [.str ['U']] []] []] []
    let e2 : PyExpr := .call (.name ['t','r']) [.name ['x']] [.call (.name ['_']) [.str ['A']] []]
    let e3 : PyExpr := .call (.name ['_']) [.name ['s','1']] []
    let s : PStream :=
      [.sub [.msg [['n']]] [.start ⟨[], ['p']⟩ [], .text ['H','i',' '], .expr 0 e1, .end_ ⟨[], ['p']⟩],
       .start ⟨[], ['s','c','r','i','p','t']⟩ [(⟨[], ['t','y','p','e']⟩, .parts [.expr e2])],
       .expr 1 e3, .end_ ⟨[], ['s','c','r','i','p','t']⟩]
    okMsgList (lowerList gf s) = true ∧ codeExprs s = [e1, e2, e3] ∧
    extractP Cfg.default gf s = .ok
      [⟨some ['n','g','e','t','t','e','x','t'], .many [some ['a'], some ['b'], none], []⟩,
       ⟨some ['_'], .one (some ['U']), []⟩,
       ⟨none, .one (some ['H','i',' ','%','(','n',')','s']), []⟩,
       ⟨some ['_'], .one (some ['A']), []⟩,
       ⟨some ['_'], .one none, []⟩] := by
  refine ⟨by decide +kernel, rfl, by decide +kernel⟩

/-- **lookups_subset_extract, message directives.**  For `<t i18n:msg="ps">content</t>` whose
    content holds no nested directive — any events otherwise, any catalogue, context and skip
    depth: the message id `MsgDirective.__call__` looks up for the stream the translation pass
    hands on is among the ids `MsgDirective.extract` reports for the template's own stream
    (the pass runs with `translate_text=False` there and only touches attributes; both
    directives then fill the same buffer). -/
theorem msg_lookup_extracted (cfg : Cfg) (cat : Catalog) (ctx : Ctx) (ta : Bool) (skip : Nat)
    (ps : List Str) (st : Bool) (cs xs : List Str) (t t' : QName) (a : TAttrs) (mid : List TEvent)
    (hmid : noSubList mid = true) (id : Str)
    (h : msgId ps (trList cfg cat ctx false ta skip (.start t a :: (mid ++ [.end_ t']))) = .ok (some id)) :
    ∃ ms, msgExtract cfg ps st cs xs (.start t a :: (mid ++ [.end_ t'])) = .ok ms ∧ id ∈ idsOf ms :=
  Genshi.I18n.msg_lookup_extracted cfg cat ctx ta skip ps st cs xs t t' a mid hmid id h

example : msgId [] (trList Cfg.default ⟨fun _ _ s => s ++ ['!']⟩ [] false true 0
      [.start ⟨[], ['p']⟩ [(⟨[], ['t','i','t','l','e']⟩, .str ['T'])], .text ['H','i',' '],
       .start ⟨[], ['b']⟩ [], .text ['x'], .end_ ⟨[], ['b']⟩, .end_ ⟨[], ['p']⟩]) =
    .ok (some ['H','i',' ','[','1',':','x',']']) := by decide +kernel

/-- the same for the element form `<i18n:msg params="ps">first … last</i18n:msg>` whose content
    neither starts with a START nor ends with an END event (else: finding
    C19-msg-element-first-child) and holds no nested directive. -/
theorem msg_lookup_extracted_elem (cfg : Cfg) (cat : Catalog) (ctx : Ctx) (ta : Bool) (skip : Nat)
    (ps : List Str) (st : Bool) (cs xs : List Str) (first last : TEvent) (mid : List TEvent)
    (hf : first.isStart = false) (hl : last.isEnd = false)
    (hns : noSubList (first :: (mid ++ [last])) = true) (id : Str)
    (h : msgId ps (trList cfg cat ctx false ta skip (first :: (mid ++ [last]))) = .ok (some id)) :
    ∃ ms, msgExtract cfg ps st cs xs (first :: (mid ++ [last])) = .ok ms ∧ id ∈ idsOf ms :=
  Genshi.I18n.msg_lookup_extracted_elem cfg cat ctx ta skip ps st cs xs first last mid hf hl hns id h

example : msgId [['n']] (trList Cfg.default ⟨fun _ _ s => s ++ ['!']⟩ [] false true 0
      [.text ['H','i',' '], .start ⟨[], ['b']⟩ [(⟨[], ['t','i','t','l','e']⟩, .str ['T'])], .text ['x'], .end_ ⟨[], ['b']⟩,
       .text [' '], .expr 0 []]) =
    .ok (some ['H','i',' ','[','1',':','x',']',' ','%','(','n',')','s']) := by decide +kernel

/-- **lookups_subset_extract, plural choice.**  For
    `<t i18n:choose="n; ps"> pre <ts i18n:singular="">cS</ts> mid <tp i18n:plural="">cP</tp> post </t>`
    whose `pre`, `mid`, `post` are white space, comments or code blocks (other text there:
    finding C19-choose-outer-text, `choose_outer_text_not_looked_up`) and **arbitrary** branch
    contents (nested elements, expressions, directive-carrying elements): whenever
    `ChooseDirective.extract` returns messages `ms`, they hold two ids `idS`, `idP` such that
    `ChooseDirective.__call__` consults the catalogue at `ngettext(idS, idP, numeral)` and
    nowhere else — two catalogues that agree there give the same output (when the singular form
    is selected the plural branch is not even read and the empty string stands for `idP`).
    `extract` files outer events and branch content into one buffer per form, `__call__` gives
    each branch a fresh buffer; the strings differ by white space `format()` strips.  (The
    fragment look-ups the translation pass makes inside the branches are finding C19-fragments.) -/
theorem choose_lookup_extracted (cfg : Cfg) (params : List Str) (st : Bool) (cs xs : List Str) (pl : Bool)
    (t t' ts tp : QName) (a as ap : TAttrs) (pre mid post cS cP : List TEvent)
    (hpre : ∀ e ∈ pre, outerEv e = true) (hmid : ∀ e ∈ mid, outerEv e = true) (hpost : ∀ e ∈ post, outerEv e = true)
    (ms : List Message)
    (hex : chooseExtract cfg params st cs xs
      (.start t a :: ((pre ++ .sub [.singular] (.start ts as :: (cS ++ [.end_ ts])) ::
        (mid ++ .sub [.plural] (.start tp ap :: (cP ++ [.end_ tp])) :: post)) ++ [.end_ t'])) = .ok ms) :
    ∃ idS idP, idS ∈ idsOf ms ∧ idP ∈ idsOf ms ∧
      ∀ (ngt ngt' : Str → Str → Str),
        ngt idS (if pl then idP else []) = ngt' idS (if pl then idP else []) →
        chooseCall params pl ngt
          (.start t a :: ((pre ++ .sub [.singular] (.start ts as :: (cS ++ [.end_ ts])) ::
            (mid ++ .sub [.plural] (.start tp ap :: (cP ++ [.end_ tp])) :: post)) ++ [.end_ t'])) =
        chooseCall params pl ngt'
          (.start t a :: ((pre ++ .sub [.singular] (.start ts as :: (cS ++ [.end_ ts])) ::
            (mid ++ .sub [.plural] (.start tp ap :: (cP ++ [.end_ tp])) :: post)) ++ [.end_ t'])) :=
  chooseCall_lookup_extracted cfg params st cs xs pl t t' ts ts tp tp a as ap pre mid post cS cP hpre hmid hpost ms hex

/-- `ChooseDirective.extract` succeeds on an element as in `choose_lookup_extracted` whenever
    the buffer of each branch content can be built on its own (as many parameters as
    expressions …) and leaves the buffer's stack non-empty, which balanced content does.  With
    `choose_lookup_extracted`: the pair of ids the directive looks up is extracted. -/
theorem choose_extract_succeeds (cfg : Cfg) (params : List Str) (st : Bool) (cs xs : List Str)
    (t t' ts tp : QName) (a as ap : TAttrs) (pre mid post cS cP : List TEvent)
    (hpre : ∀ e ∈ pre, outerEv e = true) (hmid : ∀ e ∈ mid, outerEv e = true) (hpost : ∀ e ∈ post, outerEv e = true)
    (C D : MB) (hC : mbAppendList (MB.new params) cS = .ok C) (hD : mbAppendList (MB.new params) cP = .ok D)
    (hCs : C.stack ≠ []) (hDs : D.stack ≠ []) :
    ∃ ms, chooseExtract cfg params st cs xs
      (.start t a :: ((pre ++ .sub [.singular] (.start ts as :: (cS ++ [.end_ ts])) ::
        (mid ++ .sub [.plural] (.start tp ap :: (cP ++ [.end_ tp])) :: post)) ++ [.end_ t'])) = .ok ms :=
  chooseExtract_ok cfg params st cs xs t t' ts ts tp tp a as ap pre mid post cS cP hpre hmid hpost C D hC hD hCs hDs

example :
    (mbAppendList (MB.new [['n']]) [.text ['O','n','e',' '], .expr 0 [], .text [' '],
        .sub [.other ['i','f']] [.start ⟨[], ['b']⟩ [], .text ['c','o','i','n'], .end_ ⟨[], ['b']⟩]]).map (fun b => b.stack) =
      .ok [0] := by decide +kernel

/-- `<div i18n:choose="n; n"> <p i18n:singular="">One ${n} <b py:if="c">coin</b></p> <!-- c -->
    <p i18n:plural="">${n} coins</p> </div>`: extraction succeeds, with the two ids -/
example :
    chooseExtract Cfg.default [['n']] true [] []
      (.start ⟨[], ['d']⟩ [] :: (([.text [' ']] ++
        .sub [.singular] (.start ⟨[], ['p']⟩ [] :: ([.text ['O','n','e',' '], .expr 0 [], .text [' '],
            .sub [.other ['i','f']] [.start ⟨[], ['b']⟩ [], .text ['c','o','i','n'], .end_ ⟨[], ['b']⟩]] ++ [.end_ ⟨[], ['p']⟩])) ::
        ([.text [' '], .other ['c'], .text [' ']] ++
        .sub [.plural] (.start ⟨[], ['p']⟩ [] :: ([.expr 0 [], .text [' ','c','o','i','n','s']] ++ [.end_ ⟨[], ['p']⟩])) ::
        [.text [' ']])) ++ [.end_ ⟨[], ['d']⟩])) =
    .ok [⟨some ngettextName, .many [some ['O','n','e',' ','%','(','n',')','s',' ','[','1',':','c','o','i','n',']'],
                                     some ['%','(','n',')','s',' ','c','o','i','n','s']], []⟩] := by decide +kernel

/-- C19-choose-outer-text: with text outside the branches (`x` before the singular branch)
    the extracted singular id is `x One` while rendering asks the catalogue for `One`: the
    hypothesis on `pre` / `mid` / `post` of `choose_lookup_extracted` cannot be dropped. -/
theorem choose_outer_text_not_looked_up :
    chooseExtract Cfg.default [] true [] []
      [.start ⟨[], ['d']⟩ [], .text ['x',' '],
       .sub [.singular] [.start ⟨[], ['p']⟩ [], .text ['O','n','e'], .end_ ⟨[], ['p']⟩],
       .sub [.plural] [.start ⟨[], ['p']⟩ [], .text ['M','a','n','y'], .end_ ⟨[], ['p']⟩],
       .end_ ⟨[], ['d']⟩] =
      .ok [⟨some ngettextName, .many [some ['x',' ','O','n','e'], some ['x',' ','M','a','n','y']], []⟩] ∧
    chooseCall [] false (fun s _ => if s = ['O','n','e'] then ['U','n','o'] else s)
      [.start ⟨[], ['d']⟩ [], .text ['x',' '],
       .sub [.singular] [.start ⟨[], ['p']⟩ [], .text ['O','n','e'], .end_ ⟨[], ['p']⟩],
       .sub [.plural] [.start ⟨[], ['p']⟩ [], .text ['M','a','n','y'], .end_ ⟨[], ['p']⟩],
       .end_ ⟨[], ['d']⟩] =
      some (.ok [.start ⟨[], ['d']⟩ [], .text ['x',' '],
                 .start ⟨[], ['p']⟩ [], .text ['U','n','o'], .end_ ⟨[], ['p']⟩, .end_ ⟨[], ['d']⟩]) := by
  refine ⟨by decide +kernel, by decide +kernel⟩

/-- **parse_msg ∘ format**: parsing the linearisation `s0 [n₁:…] seg₁ …` of any translation
    tree whose text segments are plain (`plainSeg`: every bracket is escaped `\[` / `\]`, every
    backslash escapes a bracket, no `\[<digits>:` — in particular segments without bracket and
    backslash, `plainSeg_of_bare`) yields exactly its parts
    `(level, text)`, in order (empty parts are kept inside placeholders and dropped at the
    top level, as `parse_msg` does). -/
theorem parse_format (s0 : Str) (r : XRest) (h0 : plainSeg s0 = true) (h : r.plain = true) :
    parseMsg (s0 ++ r.fmt) = .ok (XRest.parts 0 s0 r) := parseMsg_fmt s0 r h0 h

example : parseMsg ['S','e','e',' ','[','1',':','H','e','l','p',']','.'] =
    .ok [(0, ['S','e','e',' ']), (1, ['H','e','l','p']), (0, ['.'])] := by decide +kernel

/-- **MessageBuffer.translate on any translation tree**, relative to the buffered groups:
    if every placeholder of the tree names an order whose groups are intact and "good"
    (one group per gap between child elements), all placeholder numbers are distinct and
    `yield_parts` accepts the segments, then the output is the tree with every placeholder
    replaced by the START/END events filed under its number.  `htop`: a non-empty top-level
    segment is a part of order 0 and needs a group there, and only a message with text or an
    expression at top level has groups under 0 (`Textual0`; in `placeholders_once_each`:
    `hasTopText`); an empty top-level segment is no part at all. -/
theorem translate_tree (b : MB) (W : World) (Y : Str → List TEvent) (s0 : Str) (r : XRest)
    (hp0 : plainSeg s0 = true) (hp : r.plain = true)
    (hgood : r.good W b.events) (hnd : r.nums.Nodup)
    (hseg : ∀ s ∈ s0 :: r.segs, yieldParts b.values s = .ok (Y s))
    (htop : (∀ s ∈ s0 :: r.topSegs, s = []) ∨ Textual0 b.events) :
    b.translate (s0 ++ r.fmt) = .ok (Y s0 ++ r.render W Y) :=
  Genshi.I18n.translate_tree b W Y s0 r hp0 hp hgood hnd hseg htop

/-- **MessageBuffer.translate on any translation tree, directive-carrying elements included.**
    As `translate_tree`, with elements of two kinds: a plain element comes out as its START
    event, the translated content, its END event; an element that carries directives (a SUB
    event in the template, filed by `append` as SUB_START … SUB_END with its directives under
    its number) comes out as **one SUB event** holding its directives and, as sub-stream, its
    START event, the translated content and its END event.  Such an element must not lie
    inside another one (finding C19-nested-directives). -/
theorem translate_tree_sub (b : MB) (W : WorldK) (Y : Str → List TEvent) (s0 : Str) (r : XRest)
    (hp0 : plainSeg s0 = true) (hp : r.plain = true)
    (hgood : r.goodK W (assocGet b.subdirs) b.events false) (hnd : r.nums.Nodup)
    (hseg : ∀ s ∈ s0 :: r.segs, yieldParts b.values s = .ok (Y s))
    (htop : (∀ s ∈ s0 :: r.topSegs, s = []) ∨ Textual0 b.events) :
    b.translate (s0 ++ r.fmt) = .ok (Y s0 ++ r.renderK W Y) :=
  Genshi.I18n.translate_treeK b W Y s0 r hp0 hp hgood hnd hseg htop

/-- **placeholders_once_each.**  Let `F` be the content of a message (text, expressions
    bound to the directive's parameters, elements — plain ones and elements carrying
    directives, i.e. SUB events; no two child elements adjacent inside an element: finding
    C19-adjacent).  For **every** translation the catalogue may return whose placeholders are
    distinct, name elements of `F`, keep each element's number of child placeholders and do not
    move a directive-carrying element into another one (this covers the identity, every
    permutation of sibling placeholders at any level, every rewording of the text, dropping
    text parts and dropping whole top-level placeholders), `MessageBuffer.translate` returns
    the translation with each placeholder `[n:…]` replaced by the original element `n` (a
    directive-carrying one as a SUB event with its directives): the START events of the output
    — also those inside SUB events — are the original tags and attributes of the placeholders,
    each exactly once, in the order of the translation. -/
theorem placeholders_once_each (F : List MNode) (extra : List Str) (Y : Str → List TEvent) (s0 : Str) (r : XRest)
    (hna : deepNoAdjM F = true) (hc : XRest.compat (infoM 1 F) false r) (hnd : r.nums.Nodup)
    (hp0 : plainSeg s0 = true) (hp : r.plain = true)
    (hseg : ∀ s ∈ s0 :: r.segs, yieldParts (valsM F).reverse s = .ok (Y s))
    (htop : (∀ s ∈ s0 :: r.topSegs, s = []) ∨ hasTopText F = true) :
    ∃ b out, mbAppendList (MB.new (namesM F ++ extra)) (flattenM F) = .ok b ∧
      b.translate (s0 ++ r.fmt) = .ok out ∧
      out = Y s0 ++ r.renderK (worldOf F) Y ∧
      startsOf out = r.nums.filterMap (tagOf (worldOf F)) ∧
      (r.nums.filterMap (tagOf (worldOf F))).length = r.nums.length := by
  obtain ⟨b, hrun, _, htr⟩ := translate_message F extra Y s0 r hna hc hnd hp0 hp hseg htop
  exact ⟨b, _, hrun, htr, rfl, starts_of_compat F Y s0 r hc hseg⟩

/-- `a<b>x</b>c<i>d</i>` translated as `[2:d]a[1:x]c`: the two elements change places. -/
example :
    (do let b ← mbAppendList (MB.new [])
          [.text ['a'], .start ⟨[], ['b']⟩ [], .text ['x'], .end_ ⟨[], ['b']⟩, .text ['c'],
           .start ⟨[], ['i']⟩ [], .text ['d'], .end_ ⟨[], ['i']⟩]
        b.translate ['[','2',':','d',']','a','[','1',':','x',']','c']) =
    .ok [.start ⟨[], ['i']⟩ [], .text ['d'], .end_ ⟨[], ['i']⟩, .text ['a'],
         .start ⟨[], ['b']⟩ [], .text ['x'], .end_ ⟨[], ['b']⟩, .text ['c']] := by decide +kernel

/-- the hypotheses of `placeholders_once_each` are satisfiable by that example -/
example :
    deepNoAdjM [.text ['a'], .elem none ⟨[], ['b']⟩ [] [.text ['x']], .text ['c'], .elem none ⟨[], ['i']⟩ [] [.text ['d']]] = true ∧
    XRest.compat
      (infoM 1 [.text ['a'], .elem none ⟨[], ['b']⟩ [] [.text ['x']], .text ['c'], .elem none ⟨[], ['i']⟩ [] [.text ['d']]]) false
      (XRest.cons (.ph 2 ['d'] .nil) ['a'] (.cons (.ph 1 ['x'] .nil) ['c'] .nil)) ∧
    (XRest.cons (.ph 2 ['d'] .nil) ['a'] (.cons (.ph 1 ['x'] .nil) ['c'] .nil)).nums.Nodup ∧
    (XRest.cons (.ph 2 ['d'] .nil) ['a'] (.cons (.ph 1 ['x'] .nil) ['c'] .nil)).plain = true := by
  refine ⟨by decide +kernel,
    ⟨⟨⟨⟨[], ['i']⟩, [], none, by decide +kernel⟩, by decide +kernel, trivial⟩,
     ⟨⟨⟨[], ['b']⟩, [], none, by decide +kernel⟩, by decide +kernel, trivial⟩, trivial⟩,
    by decide +kernel, by decide +kernel⟩

/-- `a<b py:if="c">x</b>c<i>d</i>` (the `<b>` carries a directive: a SUB event) translated as
    `[2:d]a[1:y]c`: the elements change places, the SUB event keeps its directive and gets the
    translated content. -/
example :
    (do let b ← mbAppendList (MB.new [])
          [.text ['a'], .sub [.other ['i','f']] [.start ⟨[], ['b']⟩ [], .text ['x'], .end_ ⟨[], ['b']⟩], .text ['c'],
           .start ⟨[], ['i']⟩ [], .text ['d'], .end_ ⟨[], ['i']⟩]
        b.translate ['[','2',':','d',']','a','[','1',':','y',']','c']) =
    .ok [.start ⟨[], ['i']⟩ [], .text ['d'], .end_ ⟨[], ['i']⟩, .text ['a'],
         .sub [.other ['i','f']] [.start ⟨[], ['b']⟩ [], .text ['y'], .end_ ⟨[], ['b']⟩], .text ['c']] := by decide +kernel

/-- … and the hypotheses of `placeholders_once_each` hold for it -/
example :
    deepNoAdjM [.text ['a'], .elem (some [.other ['i','f']]) ⟨[], ['b']⟩ [] [.text ['x']], .text ['c'], .elem none ⟨[], ['i']⟩ [] [.text ['d']]] = true ∧
    flattenM [.text ['a'], .elem (some [.other ['i','f']]) ⟨[], ['b']⟩ [] [.text ['x']], .text ['c'], .elem none ⟨[], ['i']⟩ [] [.text ['d']]] =
      [.text ['a'], .sub [.other ['i','f']] [.start ⟨[], ['b']⟩ [], .text ['x'], .end_ ⟨[], ['b']⟩], .text ['c'],
       .start ⟨[], ['i']⟩ [], .text ['d'], .end_ ⟨[], ['i']⟩] ∧
    XRest.compat
      (infoM 1 [.text ['a'], .elem (some [.other ['i','f']]) ⟨[], ['b']⟩ [] [.text ['x']], .text ['c'], .elem none ⟨[], ['i']⟩ [] [.text ['d']]]) false
      (XRest.cons (.ph 2 ['d'] .nil) ['a'] (.cons (.ph 1 ['y'] .nil) ['c'] .nil)) := by
  refine ⟨by decide +kernel, by decide +kernel,
    ⟨⟨⟨[], ['i']⟩, [], none, by decide +kernel⟩, by decide +kernel, trivial⟩,
     ⟨⟨⟨[], ['b']⟩, [], some [.other ['i','f']], by decide +kernel⟩, by decide +kernel, trivial⟩, trivial⟩

/-- **translate_format_id.**  For every message content `F` with clean text (no bracket,
    backslash or percent sign: findings C19-backslash, C19-placeholder-text, C19-percent),
    word-like distinct parameter names, no two adjacent child elements inside an element
    (finding C19-adjacent) and no directive-carrying element inside another one (finding
    C19-nested-directives): the buffer of `F`, asked to translate its own `format()`,
    reproduces the events of `F` without the white space at the two edges of the message,
    adjacent text merged. -/
theorem translate_format_id (F : List MNode) (extra : List Str)
    (hc : cleanM F = true) (hna : deepNoAdjM F = true) (hnd : (namesM F).Nodup) (hso : subsOKM false F = true) :
    ∃ b, mbAppendList (MB.new (namesM F ++ extra)) (flattenM F) = .ok b ∧
      b.translate b.format = .ok (coalesce (flattenM (trimF F))) :=
  translate_format_self F extra hc hna hnd hso

/-- **translate_format_id, brackets in the text.**  `MessageBuffer.append` escapes the brackets
    of the text (`see [here]` is filed as `see \[here\]`), `parse_msg` leaves escaped brackets
    alone and `yield_parts` removes the backslashes again: the identity holds for text with
    brackets as well (`cleanB`: no backslash, no percent sign) **provided the message string
    holds no `\[<digits>:`** (`segsOK`, a condition on the segments of the whole `format()`
    string: `parse_msg` takes `\[12:` for a placeholder in spite of the backslash — finding
    C19-placeholder-text — and the digits and the colon may come from different text events,
    witness `placeholder_text_straddles`). -/
theorem translate_format_id_brackets (F : List MNode) (extra : List Str)
    (hc : cleanB F = true) (hsg : segsOK (trimF F) = true)
    (hna : deepNoAdjM F = true) (hnd : (namesM F).Nodup) (hso : subsOKM false F = true) :
    ∃ b, mbAppendList (MB.new (namesM F ++ extra)) (flattenM F) = .ok b ∧
      b.translate b.format = .ok (coalesce (flattenM (trimF F))) :=
  translate_format_selfB F extra hc hsg hna hnd hso

/-- `MsgDirective.__call__` under the identity catalogue for text with brackets (hypotheses of
    `translate_format_id_brackets`): attribute form here, element form `msg_identity_elem_brackets` -/
theorem msg_identity_brackets (t : QName) (a : TAttrs) (F : List MNode) (extra : List Str)
    (hc : cleanB F = true) (hsg : segsOK (trimF F) = true)
    (hna : deepNoAdjM F = true) (hnd : (namesM F).Nodup) (hso : subsOKM false F = true) :
    msgGenerate (namesM F ++ extra) (fun s => s) (.start t a :: (flattenM F ++ [.end_ t])) =
      .ok (.start t a :: (coalesce (flattenM (trimF F)) ++ [.end_ t])) :=
  msgGenerate_identity_attrB t a F extra hc hsg hna hnd hso

theorem msg_identity_elem_brackets (n : MNode) (mid : List MNode) (l : MNode) (extra : List Str)
    (hn : n.isElem = false) (hl : l.isElem = false)
    (hc : cleanB (n :: (mid ++ [l])) = true) (hsg : segsOK (trimF (n :: (mid ++ [l]))) = true)
    (hna : deepNoAdjM (n :: (mid ++ [l])) = true)
    (hnd : (namesM (n :: (mid ++ [l]))).Nodup) (hso : subsOKM false (n :: (mid ++ [l])) = true) :
    msgGenerate (namesM (n :: (mid ++ [l])) ++ extra) (fun s => s) (flattenM (n :: (mid ++ [l]))) =
      .ok (coalesce (flattenM (trimF (n :: (mid ++ [l]))))) :=
  msgGenerate_identity_elemB (n :: (mid ++ [l])) extra (fun _ h => Option.some.inj h ▸ hn)
    (fun _ h => by rw [List.getLast?_cons_of_ne_nil (by simp), List.getLast?_concat] at h; exact Option.some.inj h ▸ hl)
    hc hsg hna hnd hso

/-- the bracket-free hypothesis of `translate_format_id` is a special case -/
theorem brackets_of_clean (F : List MNode) (h : cleanM F = true) : cleanB F = true ∧ segsOK (trimF F) = true :=
  ⟨cleanB_of_cleanM F h, segsOK_of_cleanM _ (cleanM_trimF F h)⟩

/-- `<p i18n:msg="n"> see [here] and <b>a[${n}]</b> [12 </p>`: the hypotheses hold (the message
    string is `see \[here\] and [1:a\[%(n)s\]] \[12`) and the model returns the content -/
example :
    cleanB [.text [' ','s','e','e',' ','[','h','e','r','e',']',' ','a','n','d',' '],
            .elem none ⟨[], ['b']⟩ [] [.text ['a','['], .expr ['n'] 0 [], .text [']']], .text [' ','[','1','2',' ']] = true ∧
    segsOK (trimF [.text [' ','s','e','e',' ','[','h','e','r','e',']',' ','a','n','d',' '],
            .elem none ⟨[], ['b']⟩ [] [.text ['a','['], .expr ['n'] 0 [], .text [']']], .text [' ','[','1','2',' ']]) = true ∧
    msgGenerate [['n']] (fun s => s)
      [.start ⟨[], ['p']⟩ [], .text [' ','s','e','e',' ','[','h','e','r','e',']',' ','a','n','d',' '],
       .start ⟨[], ['b']⟩ [], .text ['a','['], .expr 0 [], .text [']'], .end_ ⟨[], ['b']⟩, .text [' ','[','1','2',' '],
       .end_ ⟨[], ['p']⟩] =
    .ok [.start ⟨[], ['p']⟩ [], .text ['s','e','e',' ','[','h','e','r','e',']',' ','a','n','d',' '],
       .start ⟨[], ['b']⟩ [], .text ['a','['], .expr 0 [], .text [']'], .end_ ⟨[], ['b']⟩, .text [' ','[','1','2'],
       .end_ ⟨[], ['p']⟩] := by
  refine ⟨by decide +kernel, by decide +kernel, by decide +kernel⟩

/-- C19-placeholder-text, straddling two text events: `a [12` and `:x] b` are harmless on their
    own (`segsOK` holds for each), together the message string holds `\[12:` — `segsOK` fails and
    rendering raises KeyError: the condition has to look at the whole `format()` string. -/
theorem placeholder_text_straddles :
    segsOK (trimF [.text ['a',' ','[','1','2']]) = true ∧ segsOK (trimF [.text [':','x',']',' ','b']]) = true ∧
    segsOK (trimF [.text ['a',' ','[','1','2'], .text [':','x',']',' ','b']]) = false ∧
    msgGenerate [] (fun s => s)
      [.start ⟨[], ['p']⟩ [], .text ['a',' ','[','1','2'], .text [':','x',']',' ','b'], .end_ ⟨[], ['p']⟩] =
    .error .keyError := by
  refine ⟨by decide +kernel, by decide +kernel, by decide +kernel, by decide +kernel⟩

/-- **identity_transparent, message directive in attribute form** (`<p i18n:msg="…">`):
    under the identity catalogue `MsgDirective.__call__` returns its element with the content
    unchanged up to the white space at the edges of the message (and the chunking of text). -/
theorem msg_identity_attr (t : QName) (a : TAttrs) (F : List MNode) (extra : List Str)
    (hc : cleanM F = true) (hna : deepNoAdjM F = true) (hnd : (namesM F).Nodup) (hso : subsOKM false F = true) :
    msgGenerate (namesM F ++ extra) (fun s => s) (.start t a :: (flattenM F ++ [.end_ t])) =
      .ok (.start t a :: (coalesce (flattenM (trimF F)) ++ [.end_ t])) :=
  msgGenerate_identity_attr t a F extra hc hna hnd hso

/-- **identity_transparent, message directive in element form** (`<i18n:msg params="…">`),
    the content neither starting nor ending with an element (finding C19-msg-element-first-child). -/
theorem msg_identity_elem (n : MNode) (mid : List MNode) (l : MNode) (extra : List Str)
    (hn : n.isElem = false) (hl : l.isElem = false)
    (hc : cleanM (n :: (mid ++ [l])) = true) (hna : deepNoAdjM (n :: (mid ++ [l])) = true)
    (hnd : (namesM (n :: (mid ++ [l]))).Nodup) (hso : subsOKM false (n :: (mid ++ [l])) = true) :
    msgGenerate (namesM (n :: (mid ++ [l])) ++ extra) (fun s => s) (flattenM (n :: (mid ++ [l]))) =
      .ok (coalesce (flattenM (trimF (n :: (mid ++ [l]))))) :=
  msg_identity_elem_brackets n mid l extra hn hl (brackets_of_clean _ hc).1 (brackets_of_clean _ hc).2 hna hnd hso

/-- `<p i18n:msg="n"> Hi, <b>${n}</b>! </p>`: the hypotheses hold, the edges are trimmed -/
example :
    cleanM [.text [' ','H','i',',',' '], .elem none ⟨[], ['b']⟩ [] [.expr ['n'] 0 []], .text ['!',' ']] = true ∧
    deepNoAdjM [.text [' ','H','i',',',' '], .elem none ⟨[], ['b']⟩ [] [.expr ['n'] 0 []], .text ['!',' ']] = true ∧
    (namesM [.text [' ','H','i',',',' '], .elem none ⟨[], ['b']⟩ [] [.expr ['n'] 0 []], .text ['!',' ']]).Nodup ∧
    coalesce (flattenM (trimF [.text [' ','H','i',',',' '], .elem none ⟨[], ['b']⟩ [] [.expr ['n'] 0 []], .text ['!',' ']])) =
      [.text ['H','i',',',' '], .start ⟨[], ['b']⟩ [], .expr 0 [], .end_ ⟨[], ['b']⟩, .text ['!']] := by
  refine ⟨by decide +kernel, by decide +kernel, by decide +kernel, by decide +kernel⟩

/-- `<p i18n:msg="n"> Hi, <b py:if="c">${n}</b>! </p>` — the `<b>` carries a directive — the
    hypotheses hold and the directive call, run by the model, returns the SUB event intact -/
example :
    cleanM [.text [' ','H','i',',',' '], .elem (some [.other ['i','f']]) ⟨[], ['b']⟩ [] [.expr ['n'] 0 []], .text ['!',' ']] = true ∧
    deepNoAdjM [.text [' ','H','i',',',' '], .elem (some [.other ['i','f']]) ⟨[], ['b']⟩ [] [.expr ['n'] 0 []], .text ['!',' ']] = true ∧
    subsOKM false [.text [' ','H','i',',',' '], .elem (some [.other ['i','f']]) ⟨[], ['b']⟩ [] [.expr ['n'] 0 []], .text ['!',' ']] = true ∧
    msgGenerate [['n']] (fun s => s)
      [.start ⟨[], ['p']⟩ [], .text [' ','H','i',',',' '],
       .sub [.other ['i','f']] [.start ⟨[], ['b']⟩ [], .expr 0 [], .end_ ⟨[], ['b']⟩], .text ['!',' '], .end_ ⟨[], ['p']⟩] =
      .ok [.start ⟨[], ['p']⟩ [], .text ['H','i',',',' '],
       .sub [.other ['i','f']] [.start ⟨[], ['b']⟩ [], .expr 0 [], .end_ ⟨[], ['b']⟩], .text ['!'], .end_ ⟨[], ['p']⟩] := by
  refine ⟨by decide +kernel, by decide +kernel, by decide +kernel, by decide +kernel⟩

/-- C19-nested-directives: a directive-carrying element inside another one — `subsOKM` fails
    and `MessageBuffer.translate` raises TypeError (`None + list`), so the hypothesis of
    `translate_format_id` / `msg_identity_*` cannot be dropped. -/
theorem nested_directives_raise :
    subsOKM false [.elem (some [.other ['i','f']]) ⟨[], ['b']⟩ []
        [.text ['x'], .elem (some [.other ['i','f']]) ⟨[], ['i']⟩ [] [.text ['y']], .text ['z']]] = false ∧
    msgGenerate [] (fun s => s)
      (.start ⟨[], ['p']⟩ [] :: (flattenM [.elem (some [.other ['i','f']]) ⟨[], ['b']⟩ []
        [.text ['x'], .elem (some [.other ['i','f']]) ⟨[], ['i']⟩ [] [.text ['y']], .text ['z']]] ++ [.end_ ⟨[], ['p']⟩])) =
      .error .typeError := by
  refine ⟨by decide +kernel, by decide +kernel⟩

/-- **identity_transparent, pass and directive together, directive-carrying elements.**  As
    `identity_transparent_msg` (below: its case without such elements), for content `F` that
    may hold elements carrying directives (`<b py:if="…">`: SUB events), none inside another one, none with an `i18n:domain` /
    `i18n:ctxt` directive (`stableList`: the pass then leaves the directive lists in place).
    The fragment look-ups the pass makes inside such elements (finding C19-fragments) are
    answered by the identity catalogue and change nothing. -/
theorem identity_transparent_msg_sub (cfg : Cfg) (ctx : Ctx) (ta : Bool) (t : QName) (a : TAttrs) (F : List MNode)
    (extra : List Str) (hc : cleanM F = true) (hna : deepNoAdjM F = true) (hnd : (namesM F).Nodup)
    (hso : subsOKM false F = true) (hst : stableList (flattenM F) = true)
    (hattr : cleanList cfg (.start t a :: (flattenM F ++ [.end_ t])) = true) :
    msgGenerate (namesM F ++ extra) (fun s => s)
        (trList cfg Catalog.id ctx false ta 0 (.start t a :: (flattenM F ++ [.end_ t]))) =
      .ok (.start t a :: (coalesce (flattenM (trimF F)) ++ [.end_ t])) := by
  have h := pass_then_msg_identity_skip cfg ctx false ta t a F extra hc hna hnd hso hattr
  rwa [reordXM_stable cfg F hst, ite_self] at h

example :
    stableList (flattenM [.text [' ','H','i',',',' '], .elem (some [.other ['i','f']]) ⟨[], ['b']⟩ [] [.expr ['n'] 0 []], .text ['!',' ']]) = true ∧
    cleanList Cfg.default (.start ⟨[], ['p']⟩ [] ::
      (flattenM [.text [' ','H','i',',',' '], .elem (some [.other ['i','f']]) ⟨[], ['b']⟩ [] [.expr ['n'] 0 []], .text ['!',' ']] ++
        [.end_ ⟨[], ['p']⟩])) = true := by
  refine ⟨by decide +kernel, by decide +kernel⟩

/-- **identity_transparent, pass and directive together.**  For `<t i18n:msg="…">F</t>`
    (attribute values of the element and inside the message free of edge white space —
    finding C19-attr-space — `F` as in `translate_format_id` and without directive-carrying
    elements, `plainM`): the translation pass under
    the identity catalogue followed by `MsgDirective.__call__` under the identity catalogue
    returns the element with its content unchanged up to the white space at the edges of the
    message and the chunking of text — for every configuration, context and flag. -/
theorem identity_transparent_msg (cfg : Cfg) (ctx : Ctx) (ta : Bool) (t : QName) (a : TAttrs) (F : List MNode)
    (extra : List Str) (hc : cleanM F = true) (hna : deepNoAdjM F = true) (hnd : (namesM F).Nodup)
    (hpl : plainM F = true)
    (hattr : cleanList cfg (.start t a :: (flattenM F ++ [.end_ t])) = true) :
    msgGenerate (namesM F ++ extra) (fun s => s)
        (trList cfg Catalog.id ctx false ta 0 (.start t a :: (flattenM F ++ [.end_ t]))) =
      .ok (.start t a :: (coalesce (flattenM (trimF F)) ++ [.end_ t])) :=
  identity_transparent_msg_sub cfg ctx ta t a F extra hc hna hnd (subsOKM_of_plain F false hpl)
    (stableList_of_noSub _ (flattenM_noSub F hpl)) hattr

/-- **identity_transparent, pass and directive together, `i18n:domain` / `i18n:ctxt` on
    directive-carrying elements.**  As `identity_transparent_msg_sub` without the restriction
    on the directives: an element inside the message may carry `i18n:domain`, `i18n:ctxt` next to
    its other directives.  The pass moves those to the front of the directive list of the SUB
    event (`reordM` applies `reorder` to every list — a permutation: `reorder_is_permutation`)
    and changes nothing else; every hypothesis of `msg_identity_attr` is blind to that order, so
    the directive returns the content with the re-ordered lists, unchanged up to the white space
    at the edges of the message and the chunking of text.  Stated for messages without excluded
    elements (`noExclList`: inside `ignore_tags` / literal `xml:lang` elements the pass does not
    re-order; that case without domain / context is `identity_transparent_msg_sub`). -/
theorem identity_transparent_msg_reorder (cfg : Cfg) (ctx : Ctx) (ta : Bool) (t : QName) (a : TAttrs) (F : List MNode)
    (extra : List Str) (hc : cleanM F = true) (hna : deepNoAdjM F = true) (hnd : (namesM F).Nodup)
    (hso : subsOKM false F = true)
    (hx : noExclList cfg (.start t a :: (flattenM F ++ [.end_ t])) = true)
    (hattr : cleanList cfg (.start t a :: (flattenM F ++ [.end_ t])) = true) :
    msgGenerate (namesM F ++ extra) (fun s => s)
        (trList cfg Catalog.id ctx false ta 0 (.start t a :: (flattenM F ++ [.end_ t]))) =
      .ok (.start t a :: (coalesce (flattenM (trimF (reordM F))) ++ [.end_ t])) := by
  have hx' : excluded cfg t a = false ∧ noExclList cfg (flattenM F) = true := by
    simpa [noExclList, noExclEv, noExclList_append] using hx
  have h := pass_then_msg_identity_skip cfg ctx false ta t a F extra hc hna hnd hso hattr
  rwa [if_neg (by simp [hx'.1]), reordXM_eq_reordM cfg F hx'.2] at h

/-- `<p i18n:msg="n"> Hi, <b py:if="c" i18n:ctxt="m" i18n:domain="d">${n}</b>! </p>`: the
    hypotheses hold; the pass puts domain and context first, the directive keeps the element -/
example :
    cleanM [.text [' ','H','i',',',' '], .elem (some [.other ['i','f'], .ctxt ['m'], .domain ['d']]) ⟨[], ['b']⟩ [] [.expr ['n'] 0 []], .text ['!',' ']] = true ∧
    subsOKM false [.text [' ','H','i',',',' '], .elem (some [.other ['i','f'], .ctxt ['m'], .domain ['d']]) ⟨[], ['b']⟩ [] [.expr ['n'] 0 []], .text ['!',' ']] = true ∧
    noExclList Cfg.default (.start ⟨[], ['p']⟩ [] ::
      (flattenM [.text [' ','H','i',',',' '], .elem (some [.other ['i','f'], .ctxt ['m'], .domain ['d']]) ⟨[], ['b']⟩ [] [.expr ['n'] 0 []], .text ['!',' ']] ++
        [.end_ ⟨[], ['p']⟩])) = true ∧
    cleanList Cfg.default (.start ⟨[], ['p']⟩ [] ::
      (flattenM [.text [' ','H','i',',',' '], .elem (some [.other ['i','f'], .ctxt ['m'], .domain ['d']]) ⟨[], ['b']⟩ [] [.expr ['n'] 0 []], .text ['!',' ']] ++
        [.end_ ⟨[], ['p']⟩])) = true ∧
    coalesce (flattenM (trimF (reordM
      [.text [' ','H','i',',',' '], .elem (some [.other ['i','f'], .ctxt ['m'], .domain ['d']]) ⟨[], ['b']⟩ [] [.expr ['n'] 0 []], .text ['!',' ']]))) =
      [.text ['H','i',',',' '],
       .sub [.domain ['d'], .ctxt ['m'], .other ['i','f']] [.start ⟨[], ['b']⟩ [], .expr 0 [], .end_ ⟨[], ['b']⟩],
       .text ['!']] := by
  refine ⟨by decide +kernel, by decide +kernel, by decide +kernel, by decide +kernel, by decide +kernel⟩

/-- **identity_transparent, pass and directive together, in one statement** (the skip
    counter read on the tree).  `identity_transparent_msg_sub` allows excluded elements inside
    the message but no `i18n:domain` / `i18n:ctxt` on its directive-carrying elements;
    `identity_transparent_msg_reorder` allows those but no excluded element.  Here both: inside
    an element excluded by `ignore_tags` or a literal `xml:lang` the pass hands every event on
    untouched — SUB events with their directive lists included (`trListM_skip`: a forest passes,
    the counter comes back) —, everywhere else it re-orders the directive lists and changes
    nothing (`trListM_idX`); on the forest of the message that is `reordXM cfg`.  The message
    directive then returns the content unchanged up to the white space at the edges of the
    message and the chunking of text.  (`if excluded cfg t a`: the element carrying `i18n:msg` may
    itself be excluded — finding C19-msg-in-excluded: it is still translated — and then nothing
    inside is re-ordered.) -/
theorem identity_transparent_msg_skip (cfg : Cfg) (ctx : Ctx) (ta : Bool) (t : QName) (a : TAttrs) (F : List MNode)
    (extra : List Str) (hc : cleanM F = true) (hna : deepNoAdjM F = true) (hnd : (namesM F).Nodup)
    (hso : subsOKM false F = true)
    (hattr : cleanList cfg (.start t a :: (flattenM F ++ [.end_ t])) = true) :
    msgGenerate (namesM F ++ extra) (fun s => s)
        (trList cfg Catalog.id ctx false ta 0 (.start t a :: (flattenM F ++ [.end_ t]))) =
      .ok (.start t a :: (coalesce (flattenM (trimF (if excluded cfg t a then F else reordXM cfg F))) ++ [.end_ t])) :=
  pass_then_msg_identity_skip cfg ctx false ta t a F extra hc hna hnd hso hattr

/-- it contains `identity_transparent_msg_reorder`: without excluded elements `reordXM` is `reordM` -/
theorem skip_generalises_reorder (cfg : Cfg) (F : List MNode) (h : noExclList cfg (flattenM F) = true) :
    reordXM cfg F = reordM F :=
  reordXM_eq_reordM cfg F h

/-- `<p i18n:msg="n"> Hi, <b py:if="c" i18n:ctxt="m">${n}</b><script><i py:if="c" i18n:ctxt="m">x</i></script>! </p>`:
    the directive list outside the ignored `script` is re-ordered, the one inside is not -/
example :
    let F : List MNode :=
      [.text [' ','H','i',',',' '], .elem (some [.other ['i','f'], .ctxt ['m']]) ⟨[], ['b']⟩ [] [.expr ['n'] 0 []],
       .elem none ⟨[], ['s','c','r','i','p','t']⟩ [] [.elem (some [.other ['i','f'], .ctxt ['m']]) ⟨[], ['i']⟩ [] [.text ['x']]],
       .text ['!',' ']]
    cleanM F = true ∧ deepNoAdjM F = true ∧ subsOKM false F = true ∧
    cleanList Cfg.default (.start ⟨[], ['p']⟩ [] :: (flattenM F ++ [.end_ ⟨[], ['p']⟩])) = true ∧
    noExclList Cfg.default (flattenM F) = false ∧
    coalesce (flattenM (trimF (reordXM Cfg.default F))) =
      [.text ['H','i',',',' '],
       .sub [.ctxt ['m'], .other ['i','f']] [.start ⟨[], ['b']⟩ [], .expr 0 [], .end_ ⟨[], ['b']⟩],
       .start ⟨[], ['s','c','r','i','p','t']⟩ [],
       .sub [.other ['i','f'], .ctxt ['m']] [.start ⟨[], ['i']⟩ [], .text ['x'], .end_ ⟨[], ['i']⟩],
       .end_ ⟨[], ['s','c','r','i','p','t']⟩,
       .text ['!']] := by
  refine ⟨by decide +kernel, by decide +kernel, by decide +kernel, by decide +kernel, by decide +kernel, by decide +kernel⟩

/-- finding C19-branch-directives: a control-flow directive on a choose BRANCH.
    `<div i18n:choose="n"><p i18n:singular="">one</p><p i18n:plural="" py:if="c">many</p></div>`:
    the loop of `ChooseDirective.extract` over the directives of the branch's SUB event lets the
    `py:if` append the whole branch to BOTH buffers as a nested element, so extraction reports the
    ids `one[1:many]` / `many[1:many]`, while rendering hands `one` / `many` to `ngettext`
    (`ChooseDirective.__call__` applies the directives of a branch in order).  The streams of
    `lookups_subset_extract_partial` keep such branches out (`GoodChoose`: a branch carries
    `i18n:singular` / `i18n:plural`, optionally `py:strip`). -/
theorem branch_directive_ids_mismatch :
    extract Cfg.default
      [.sub [.choose []]
        [.start ⟨[], ['d','i','v']⟩ [],
         .sub [.singular] [.start ⟨[], ['p']⟩ [], .text ['o','n','e'], .end_ ⟨[], ['p']⟩],
         .sub [.plural, .other ['i','f']] [.start ⟨[], ['p']⟩ [], .text ['m','a','n','y'], .end_ ⟨[], ['p']⟩],
         .end_ ⟨[], ['d','i','v']⟩]] =
      .ok [⟨some ['n','g','e','t','t','e','x','t'],
            .many [some ['o','n','e','[','1',':','m','a','n','y',']'], some ['m','a','n','y','[','1',':','m','a','n','y',']']], []⟩] := by
  decide +kernel

/-- **identity_transparent, plural choice** (`ChooseDirective.__call__` with
    `ChooseBranchDirective.__call__`).  For `pre <ts i18n:singular>Fs</ts> mid
    <tp i18n:plural>Fp</tp> post` (no further branch in `pre`, `mid`, `post`; both branches
    clean in the sense of `translate_format_id`) and a catalogue whose `ngettext` answers with
    the selected message id unchanged, the output is `pre`, the selected branch — its content
    unchanged up to the white space at its edges — in the place of the singular branch, `mid`,
    `post`; the other branch is dropped.  (The fragment-wise look-ups of the translation pass
    inside the branches are finding C19-fragments and leave this theorem alone: it is about the
    directive, whatever its input stream is.) -/
theorem choose_identity (pre mid post : List TEvent) (ts tp : QName) (as ap : TAttrs)
    (Fs Fp : List MNode) (es ep : List Str) (params : List Str) (isPlural : Bool)
    (hpre : ∀ e ∈ pre, isBranchSub e = false) (hmid : ∀ e ∈ mid, isBranchSub e = false)
    (hpost : ∀ e ∈ post, isBranchSub e = false)
    (hps : params = namesM Fs ++ es) (hpp : params = namesM Fp ++ ep)
    (hcs : cleanM Fs = true) (hnas : deepNoAdjM Fs = true) (hnds : (namesM Fs).Nodup)
    (hcp : cleanM Fp = true) (hnap : deepNoAdjM Fp = true) (hndp : (namesM Fp).Nodup)
    (hsos : subsOKM false Fs = true) (hsop : subsOKM false Fp = true) :
    chooseCall params isPlural (fun s p => if isPlural then p else s)
        (pre ++ .sub [.singular] (.start ts as :: (flattenM Fs ++ [.end_ ts])) ::
          (mid ++ .sub [.plural] (.start tp ap :: (flattenM Fp ++ [.end_ tp])) :: post)) =
      some (.ok (pre ++ ((if isPlural then .start tp ap :: (coalesce (flattenM (trimF Fp)) ++ [.end_ tp])
                          else .start ts as :: (coalesce (flattenM (trimF Fs)) ++ [.end_ ts])) ++ (mid ++ post)))) :=
  chooseCall_identity pre mid post ts tp as ap Fs Fp es ep params isPlural hpre hmid hpost hps hpp
    hcs hnas hnds hcp hnap hndp hsos hsop

/-- `<div i18n:choose="n; n"> <p i18n:singular="">One ${n} coin</p> <p i18n:plural="">${n} coins </p> </div>`, plural chosen -/
example :
    chooseCall [['n']] true (fun _ p => p)
      [.start ⟨[], ['d']⟩ [], .text [' '],
       .sub [.singular] [.start ⟨[], ['p']⟩ [], .text ['O','n','e',' '], .expr 0 [], .text [' ','c','o','i','n'], .end_ ⟨[], ['p']⟩],
       .text [' '],
       .sub [.plural] [.start ⟨[], ['p']⟩ [], .expr 0 [], .text [' ','c','o','i','n','s',' '], .end_ ⟨[], ['p']⟩],
       .text [' '], .end_ ⟨[], ['d']⟩] =
    some (.ok [.start ⟨[], ['d']⟩ [], .text [' '], .start ⟨[], ['p']⟩ [], .expr 0 [], .text [' ','c','o','i','n','s'],
               .end_ ⟨[], ['p']⟩, .text [' '], .text [' '], .end_ ⟨[], ['d']⟩]) := by decide +kernel

/-- C19-adjacent: two adjacent child elements inside an element — the parent's end tag comes
    out early, so `msg_identity_attr` fails without `deepNoAdjM`. -/
theorem adjacent_not_transparent :
    deepNoAdjM [.text ['a',' '], .elem none ⟨[], ['i']⟩ [] [.elem none ⟨[], ['b']⟩ [] [.text ['x']], .elem none ⟨[], ['e','m']⟩ [] [.text ['y']], .text ['z']]] = false ∧
    msgGenerate [] (fun s => s) (.start ⟨[], ['p']⟩ [] :: (flattenM
      [.text ['a',' '], .elem none ⟨[], ['i']⟩ [] [.elem none ⟨[], ['b']⟩ [] [.text ['x']], .elem none ⟨[], ['e','m']⟩ [] [.text ['y']], .text ['z']]]
        ++ [.end_ ⟨[], ['p']⟩])) =
      .ok [.start ⟨[], ['p']⟩ [], .text ['a',' '], .start ⟨[], ['i']⟩ [], .start ⟨[], ['b']⟩ [], .text ['x'],
           .end_ ⟨[], ['b']⟩, .end_ ⟨[], ['i']⟩, .start ⟨[], ['e','m']⟩ [], .text ['y'], .end_ ⟨[], ['e','m']⟩,
           .text ['z'], .end_ ⟨[], ['p']⟩] := by
  refine ⟨by decide +kernel, by decide +kernel⟩

/-- C19-backslash: `a<b>x\</b>c` comes back as `a<b>x]c</b>`. -/
theorem backslash_not_transparent :
    msgGenerate [] (fun s => s)
      [.start ⟨[], ['p']⟩ [], .text ['a'], .start ⟨[], ['b']⟩ [], .text ['x', '\\'], .end_ ⟨[], ['b']⟩, .text ['c'],
       .end_ ⟨[], ['p']⟩] =
    .ok [.start ⟨[], ['p']⟩ [], .text ['a'], .start ⟨[], ['b']⟩ [], .text ['x', ']', 'c'], .end_ ⟨[], ['b']⟩,
         .end_ ⟨[], ['p']⟩] := by decide +kernel

/-- C19-placeholder-text: literal `[1:` in the text of a message raises KeyError. -/
theorem placeholder_text_raises :
    msgGenerate [] (fun s => s)
      [.start ⟨[], ['p']⟩ [], .text ['s','e','e',' ','[','1',':','x',']',' ','a'], .end_ ⟨[], ['p']⟩] =
    .error .keyError := by decide +kernel

/-- C19-percent: literal `%(n)s` in the text of a message raises KeyError. -/
theorem percent_raises :
    msgGenerate [] (fun s => s)
      [.start ⟨[], ['p']⟩ [], .text ['1','0','0','%','(','n',')','s'], .end_ ⟨[], ['p']⟩] =
    .error .keyError := by decide +kernel

/-- C19-drop-nested: a translation that omits a nested placeholder (`a[1:xz]c` for
    `a[1:x[2:y]z]c`) leaves `<b>` without its end tag — the compatibility hypothesis of
    `placeholders_once_each` (same number of child placeholders) cannot be dropped. -/
theorem drop_nested_unbalanced :
    (do let b ← mbAppendList (MB.new [])
          [.text ['a'], .start ⟨[], ['b']⟩ [], .text ['x'], .start ⟨[], ['i']⟩ [], .text ['y'], .end_ ⟨[], ['i']⟩,
           .text ['z'], .end_ ⟨[], ['b']⟩, .text ['c']]
        b.translate ['a','[','1',':','x','z',']','c']) =
    .ok [.text ['a'], .start ⟨[], ['b']⟩ [], .text ['x','z'], .text ['c']] := by decide +kernel

/-- C19-fragments: the text inside `i18n:singular` / `i18n:plural` is looked up fragment by
    fragment by the translation pass, and extraction reports none of these ids. -/
theorem fragments_looked_up_not_extracted :
    (lookups Cfg.default [] true true [.sub [.choose [['n']]] [.start ⟨[], ['d']⟩ [],
      .sub [.singular] [.start ⟨[], ['p']⟩ [], .text ['O','n','e',' '], .expr 0 [], .text [' ','t','h','i','n','g'], .end_ ⟨[], ['p']⟩],
      .sub [.plural] [.start ⟨[], ['p']⟩ [], .text ['M','a','n','y',' '], .expr 0 [], .text [' ','t','h','i','n','g','s'], .end_ ⟨[], ['p']⟩],
      .end_ ⟨[], ['d']⟩]]).map Lookup.msgid =
      [['O','n','e'], ['t','h','i','n','g'], ['M','a','n','y'], ['t','h','i','n','g','s']] ∧
    extract Cfg.default [.sub [.choose [['n']]] [.start ⟨[], ['d']⟩ [],
      .sub [.singular] [.start ⟨[], ['p']⟩ [], .text ['O','n','e',' '], .expr 0 [], .text [' ','t','h','i','n','g'], .end_ ⟨[], ['p']⟩],
      .sub [.plural] [.start ⟨[], ['p']⟩ [], .text ['M','a','n','y',' '], .expr 0 [], .text [' ','t','h','i','n','g','s'], .end_ ⟨[], ['p']⟩],
      .end_ ⟨[], ['d']⟩]] = .ok [⟨some ngettextName,
      .many [some ['O','n','e',' ','%','(','n',')','s',' ','t','h','i','n','g'],
             some ['M','a','n','y',' ','%','(','n',')','s',' ','t','h','i','n','g','s']], []⟩] := by
  refine ⟨by decide +kernel, by decide +kernel⟩

end Genshi.Props.C19
