/-
  C20 — Stream filters keep streams well-formed and touch only what they
  select.  The models are `Genshi/Model/Tf.lean` (transformer, stage-wise),
  `TfLazy.lean` / `TfTrace.lean` (the chain as the generators run it, and its
  link-by-link reading), `TfFill.lean` / `TfFillSpec.lean` (form filler and its
  specification on forests); the serializers' filters are those of
  `Model/Output*.lean` and `Model/XmlFlatten.lean`.  Helper lemmas live in
  `Genshi/Lemmas/Tf*.lean`.

  Vocabulary.  A marked stream is `List (Option Mark × MEv)`.  `Good s`
  says that the selections of `s` are whole balanced pieces:
  unmarked events, blocks of one mark that are balanced, and ENTER … EXIT
  brackets around a balanced interior.  `SegsOk segs` is the same thing cut
  into explicit segments, used to state what an operation does to a selection
  and that it does nothing else.  `selOk` says that the recorded results of
  `Path.test()` are results that function can return (checked by the driver on
  every run); the XPath semantics itself is C05/C17.

  OBLIGATIONS (checked by the harness):
    select_only_id select_marks_wf select_segments
    remove_exact remove_attr_exact remove_wellnested
    copy_id_and_buffer copy_buffer_segments cut_exact
    run_ops_change_only_selected unwrap_changes_only_selected empty_changes_only_selected
    prepend_changes_only_selected append_changes_only_selected rename_changes_only_selected
    attr_changes_only_selected
    wrap_preserves_wellnested replace_preserves_wellnested before_preserves_wellnested
    after_preserves_wellnested unwrap_preserves_wellnested empty_preserves_wellnested
    prepend_preserves_wellnested append_preserves_wellnested rename_preserves_wellnested
    attr_preserves_wellnested cut_preserves_wellnested map_preserves_wellnested
    filter_preserves_wellnested
    chain_wellnested buffers_balanced before_after_any_stream
    invert_wrap_breaks_nesting attr_wrap_emits_empty_wrapper
    select_only_id_ok selects_only_id filler_unnamed_unchanged filler_unnamed_id
    filler_start_events filler_text_events
    filler_empty_id filler_only_value_attrs_partial filler_no_text_change_partial
    filler_wellnested_partial filler_fills_given filler_checks_given filler_selects_given
    filler_textarea_end_writes_value filler_no_passwords
    filler_option_children_moved filler_textarea_none_erased
    filler_confined_partial filler_confined_stream_partial filler_input_confined filler_option_confined
    filler_fills_textarea filler_nested_form_unfilled
    buffer_feedback_diverges buffer_two_writers_ill_nested
    lazy_agrees_stagewise lazy_chain_wellnested
    trace_changes_nothing map_text_changes_only_selected_text map_text_preserves_wellnested
    sanitizer_wellnested translator_wellnested
    apply_leaves_origin apply_appends_one_link history_keeps_chains
    lazy_trace_semantics trace_chain_wellnested lazy_raw_chain_wellnested
    lazy_reader_injects_current_selection lazy_after_adjacent_selections stagewise_in_lazy_class
    apply_transformer_leaves_origins apply_transformer_concatenates history_mixed_keeps_chains
    apply_transformer_runs_in_sequence attr_callable_changes_only_selected substitute_map_are_map_text
    emptytag_wellnested whitespace_filter_wellnested doctype_inserter_wellnested
    ns_flattener_wellnested ns_flattener_wellnested_partial ns_flattener_wellnested_ns_partial
-/
import Genshi.Lemmas.TfSegs2
import Genshi.Lemmas.TfChains
import Genshi.Lemmas.TfFill
import Genshi.Lemmas.TfFillSpec
import Genshi.Lemmas.TfLazy
import Genshi.Lemmas.TfLazyAgree
import Genshi.Lemmas.TfOther
import Genshi.Lemmas.TfTrace
import Genshi.Lemmas.TfTraceInv
import Genshi.Lemmas.TfDerive
import Genshi.Lemmas.TfSerial
import Genshi.Lemmas.TfSerialNs
import Genshi.Lemmas.SanTree
import Genshi.Lemmas.TfBuf
namespace Genshi.Props.C20
open Genshi Genshi.Tf

/-- A transformer that only selects is the identity: whatever `Path.test()` answers
    (no match, match, attribute list, the event itself), selecting and unmarking
    gives back exactly the events of the input. -/
theorem select_only_id (rs : List Res) (h : ∀ r ∈ rs, r.plain = true) (s : Stream) :
    unmark (selectGo 0 rs (markAll s)) = s := by
  rw [unmark_selectGo 0 rs (markAll s) h, unmark_markAll]

example : unmark (selectGo 0 [.none, .hit, .none]
    (markAll [.start ⟨[], ['r']⟩ [], .start ⟨[], ['a']⟩ [], .text ['t'] false, .end_ ⟨[], ['a']⟩,
      .end_ ⟨[], ['r']⟩])) =
    [.start ⟨[], ['r']⟩ [], .start ⟨[], ['a']⟩ [], .text ['t'] false, .end_ ⟨[], ['a']⟩,
      .end_ ⟨[], ['r']⟩] := by decide +kernel

/-- The same for the results the driver certifies on every run (`selOk`: the results fit the
    events they were given for). -/
theorem select_only_id_ok (rs : List Res) (s : Stream) (h : selOk 0 rs (markAll s) = true) :
    unmark (selectGo 0 rs (markAll s)) = s := by
  rw [unmark_selectGo_ok 0 rs (markAll s) h, unmark_markAll]

/-- A transformer that only selects — any number of nested `select`s — is the identity on
    every well-nested stream (and does not fail). -/
theorem selects_only_id (ops : List Op) (hall : ∀ op ∈ ops, isSelect op = true) (s : Stream)
    (hs : WellNested s) (hsel : chainSelOk ops [] (markAll s) = true) : transform ops s = some s := by
  obtain ⟨out, h1, h2⟩ := runChain_selects ops hall [] (markAll s) (by rw [unmark_markAll]; exact hs) hsel
  simp [transform, transformMarked, h1, h2, unmark_markAll]

/-- On a well-nested stream, for *any* admissible per-event match
    results, the marking a select produces is `Good` (ENTER/INSIDE/EXIT bracket whole
    subtrees, OUTSIDE/ATTR marks sit on events that do not open or close elements) and the
    generator never runs off the end of the stream (no `StopIteration`). -/
theorem select_marks_wf (rs : List Res) (s : MStream) (hwn : WellNested (unmark s))
    (hok : selOk 0 rs s = true) :
    Good (selectGo 0 rs s) ∧ select rs s = some (selectGo 0 rs s) := by
  obtain ⟨g, f⟩ := select_good rs s hwn hok
  exact ⟨g, by simp [select, f]⟩

/-- … and it is a list of maximal contiguous selections, to which the per-operation
    theorems below apply. -/
theorem select_segments (rs : List Res) (s : MStream) (hwn : WellNested (unmark s))
    (hok : selOk 0 rs s = true) : ∃ segs, SegsOk segs ∧ selectGo 0 rs s = flatSegs segs :=
  select_segs rs s hwn hok

/-- Removal deletes exactly the selected events (no attribute selection in the stream):
    the output is the input with every marked item dropped, in order. -/
theorem remove_exact (s : MStream) (h : ∀ p ∈ s, p.1 ≠ some .attr) :
    remove s = s.filter (fun p => p.1.isNone) := remove_filter s h

/-- Removal of an attribute selection: the ATTR pseudo-event disappears and the selected
    attributes are taken off the START event that follows (repaired defect C20-remove-attr). -/
theorem remove_attr_exact (tag t : QName) (a at_ : AttrList) (ha : a ≠ []) (s : MStream) :
    remove ((some .attr, .attr tag a) :: (none, .ev (.start t at_)) :: s) =
      (none, .ev (.start t (attrsSub at_ (a.map (·.1))))) :: remove s :=
  remove_attr_sel tag t a at_ ha s

theorem remove_wellnested {s : MStream} (hg : Good s) (hwn : WellNested (unmark s)) :
    WellNested (unmark (remove s)) :=
  ((remove_goodLike hg []).wn hwn).1

example : remove [(none, .ev (.start ⟨[], ['r']⟩ [])), (some .enter, .ev (.start ⟨[], ['a']⟩ [])),
      (some .exit, .ev (.end_ ⟨[], ['a']⟩)), (none, .ev (.end_ ⟨[], ['r']⟩))] =
    [(none, .ev (.start ⟨[], ['r']⟩ [])), (none, .ev (.end_ ⟨[], ['r']⟩))] := by decide +kernel

/-- Copy leaves the stream unchanged (for every marked stream), and with `accumulate`
    its buffer receives exactly the marked events, in order — what selection returns —
    whenever no unmarked event sits inside an ENTER … EXIT bracket, which holds for the
    output of every select. -/
theorem copy_id_and_buffer (s : MStream) :
    copy s = s ∧
    (tight false s = true → ∀ buf, copyBuf true .idle buf s = buf ++ marked s) ∧
    (∀ rs t, tight false (selectGo 0 rs t) = true) :=
  ⟨copy_id s, fun h buf => (copyBuf_spec s).1 buf h, fun rs t => by simpa using selectGo_tight rs t 0⟩

/-- The buffer of `copy(buffer, accumulate)` after the run, both modes: with `accumulate` it
    grows by every contiguous selection, without it it is the last contiguous selection (or
    what it held before when nothing was selected). -/
theorem copy_buffer_segments (acc : Bool) (segs : List Seg) (h : SegsOk segs) (buf : List MEv) :
    copyBuf acc .idle buf (flatSegs segs) = segs.foldl (bufStep acc) buf := copyBuf_segs acc segs h buf

/-- cut deletes exactly the selections (no attribute selection among them): it succeeds, and
    the events it leaves are exactly those of the unselected segments (the BREAK pseudo-events
    it inserts are dropped by `_unmark`). -/
theorem cut_exact (acc : Bool) (segs : List Seg) (h : SegsOk segs) (hna : NoAttrRun segs) :
    ∃ out, cut acc (flatSegs segs) = some out ∧ unmark out = unmark (flatSegs (keepSegs segs)) :=
  cut_segs_idle acc segs h hna false []

/-- replace / before / after / wrap (one loop shape, `runGo pre post keep`): every contiguous
    selection `seg` becomes `pre ++ seg ++ post` (`seg` dropped for replace); unselected
    events are unchanged and stay where they are.
    replace c = `runGo (inj c) [] false`, before c = `runGo (inj c) [] true`,
    after c = `runGo [] (inj c) true`, wrap = `runGo [START w] [END w] true`. -/
theorem run_ops_change_only_selected (pre post : MStream) (keep : Bool) (segs : List Seg)
    (h : SegsOk segs) :
    runGo pre post keep .idle (flatSegs segs) = segs.flatMap (runSpec pre post keep) :=
  runGo_segs pre post keep segs h

example : wrap [.start ⟨[], ['w']⟩ []] (.end_ ⟨[], ['w']⟩)
    [(none, .ev (.start ⟨[], ['r']⟩ [])), (some .outside, .ev (.text ['t'] false)),
      (none, .ev (.end_ ⟨[], ['r']⟩))] =
    [(none, .ev (.start ⟨[], ['r']⟩ [])), (none, .ev (.start ⟨[], ['w']⟩ [])),
      (some .outside, .ev (.text ['t'] false)), (none, .ev (.end_ ⟨[], ['w']⟩)),
      (none, .ev (.end_ ⟨[], ['r']⟩))] := by decide +kernel

/-- unwrap removes exactly the ENTER and EXIT events of each selected element. -/
theorem unwrap_changes_only_selected (segs : List Seg) (h : SegsOk segs) :
    unwrap (flatSegs segs) = segs.flatMap (elemSpec fun _ mid _ => mid) := unwrap_elemOp.segs () segs h

/-- empty removes exactly the interior of each selected element. -/
theorem empty_changes_only_selected (segs : List Seg) (h : SegsOk segs) :
    empty (flatSegs segs) = segs.flatMap (elemSpec fun e _ x => [(some .enter, e), (some .exit, x)]) :=
  empty_elemOp.segs () segs h

/-- prepend inserts the content right after the ENTER event of each selected element. -/
theorem prepend_changes_only_selected (c : List MEv) (segs : List Seg) (h : SegsOk segs) :
    prepend c (flatSegs segs) =
      segs.flatMap (elemSpec fun e mid x => (some .enter, e) :: ((inj c ++ mid) ++ [(some .exit, x)])) :=
  prepend_elemOp.segs c segs h

/-- append inserts the content right before the EXIT event of each selected element. -/
theorem append_changes_only_selected (c : List MEv) (segs : List Seg) (h : SegsOk segs) :
    append c (flatSegs segs) =
      segs.flatMap (elemSpec fun e mid x => (some .enter, e) :: ((mid ++ inj c) ++ [(some .exit, x)])) :=
  append_elemOp.segs c segs h

/-- rename changes exactly the tag of the ENTER and EXIT events of each selected element. -/
theorem rename_changes_only_selected (n : QName) (segs : List Seg) (h : SegsOk segs) :
    rename n (flatSegs segs) =
      segs.flatMap (elemSpec fun e mid x => renameEv n (some .enter, e) :: (mid ++ [renameEv n (some .exit, x)])) :=
  rename_elemOp.segs n segs h

/-- attr changes exactly the attribute list of the ENTER event of each selected element
    (`attrsSet`: replace in place or append; `attrsSub`: delete). -/
theorem attr_changes_only_selected (n : QName) (v : Option Str) (segs : List Seg) (h : SegsOk segs) :
    setAttr n v (flatSegs segs) =
      segs.flatMap (elemSpec fun e mid x => attrEv n v (some .enter, e) :: (mid ++ [(some .exit, x)])) :=
  (setAttr_elemOp n).segs v segs h

/-! Each operation maps a `Good`, well-nested marked stream to a well-nested one that is `Good` again,
    so that any operation may follow it in a chain. -/

theorem wrap_preserves_wellnested (t : QName) (a : AttrList) (kids : Stream) (hk : Bal kids)
    {s : MStream} (hg : Good s) (hwn : WellNested (unmark s)) :
    WellNested (unmark (wrap (.start t a :: kids) (.end_ t) s)) ∧ Good (wrap (.start t a :: kids) (.end_ t) s) :=
  (wrap_goodLike t a hk hg).wn hwn

theorem replace_preserves_wellnested (c : List MEv) (hc : Bal (evsOf c)) {s : MStream} (hg : Good s)
    (hwn : WellNested (unmark s)) : WellNested (unmark (replace c s)) ∧ Good (replace c s) :=
  (replace_goodLike c hc hg).wn hwn

theorem before_preserves_wellnested (c : List MEv) (hc : Bal (evsOf c)) {s : MStream} (hg : Good s)
    (hwn : WellNested (unmark s)) : WellNested (unmark (before c s)) ∧ Good (before c s) :=
  (before_goodLike c hc hg).wn hwn

theorem after_preserves_wellnested (c : List MEv) (hc : Bal (evsOf c)) {s : MStream} (hg : Good s)
    (hwn : WellNested (unmark s)) : WellNested (unmark (after c s)) ∧ Good (after c s) :=
  (after_goodLike c hc hg).wn hwn

theorem unwrap_preserves_wellnested {s : MStream} (hg : Good s) (hwn : WellNested (unmark s)) :
    WellNested (unmark (unwrap s)) ∧ Good (unwrap s) :=
  (unwrap_goodLike hg).wn hwn

theorem empty_preserves_wellnested {s : MStream} (hg : Good s) (hwn : WellNested (unmark s)) :
    WellNested (unmark (empty s)) ∧ Good (empty s) :=
  (empty_goodLike hg).wn hwn

theorem prepend_preserves_wellnested (c : List MEv) (hc : Bal (evsOf c)) {s : MStream} (hg : Good s)
    (hwn : WellNested (unmark s)) : WellNested (unmark (prepend c s)) ∧ Good (prepend c s) :=
  (prepend_goodLike c hc hg).wn hwn

theorem append_preserves_wellnested (c : List MEv) (hc : Bal (evsOf c)) {s : MStream} (hg : Good s)
    (hwn : WellNested (unmark s)) : WellNested (unmark (append c s)) ∧ Good (append c s) :=
  (append_goodLike c hc hg).wn hwn

theorem rename_preserves_wellnested (n : QName) {s : MStream} (hg : Good s)
    (hwn : WellNested (unmark s)) : WellNested (unmark (rename n s)) ∧ Good (rename n s) :=
  (rename_goodLike n hg).wn hwn

theorem attr_preserves_wellnested (n : QName) (v : Option Str) {s : MStream} (hg : Good s)
    (hwn : WellNested (unmark s)) : WellNested (unmark (setAttr n v s)) ∧ Good (setAttr n v s) :=
  (map_goodLike (attrEv_effPres n v) hg).wn hwn

/-- cut (when its `assert kind is START` holds) drops whole selections, inserts BREAK
    pseudo-events and strips selected attributes: well nested and `Good` again. -/
theorem cut_preserves_wellnested (acc : Bool) {s out : MStream} (hg : Good s)
    (hwn : WellNested (unmark s)) (h : cut acc s = some out) : WellNested (unmark out) ∧ Good out :=
  (cut_goodLike hg h).wn hwn

/-- map / substitute change text only. -/
theorem map_preserves_wellnested (all : Bool) (p r : Str) (n : Nat) (s : MStream)
    (hwn : WellNested (unmark s)) :
    WellNested (unmark (mapBang all s)) ∧ WellNested (unmark (substitute p r n s)) :=
  ⟨map_wn (mapBangEv_effPres all) hwn,
   map_wn (substEv_effPres p r n) hwn⟩

/-- trace() prints the items and passes them on: nothing changes. -/
theorem trace_changes_nothing (b : Bufs) (s : MStream) : applyOp b .trace s = some (s, b) := rfl

/-- map(f, TEXT), for ANY function `f` on text data: the stream keeps its length and its marks; an item
    that is unmarked or not a TEXT event is unchanged; a marked TEXT event gets `f` of its data. -/
theorem map_text_changes_only_selected_text (f : Str → Bool → Str × Bool) (s : MStream) :
    mapText f s = s.map (mapTextEv f) ∧
    (∀ p : MItem, (mapTextEv f p).1 = p.1) ∧
    (∀ x : MEv, mapTextEv f (none, x) = (none, x)) ∧
    (∀ (m : Option Mark) (x : MEv), (∀ t sf, x ≠ .ev (.text t sf)) → mapTextEv f (m, x) = (m, x)) ∧
    (∀ (m : Mark) t sf, mapTextEv f (some m, .ev (.text t sf)) = (some m, .ev (.text (f t sf).1 (f t sf).2))) := by
  refine ⟨rfl, fun p => ?_, fun x => rfl, fun m x => ?_, fun m t sf => rfl⟩
  · fun_cases mapTextEv f p <;> rfl
  · have key : ∀ p : MItem, (∀ t sf, p.2 ≠ .ev (.text t sf)) → mapTextEv f p = p := fun p => by
      fun_cases mapTextEv f p <;> intro h
      · exact absurd rfl (h _ _)
      · rfl
    exact key (m, x)

theorem map_text_preserves_wellnested (f : Str → Bool → Str × Bool) {s : MStream} (hg : Good s)
    (hwn : WellNested (unmark s)) : WellNested (unmark (mapText f s)) ∧ Good (mapText f s) :=
  (map_goodLike (mapTextEv_effPres f) hg).wn hwn

example : mapText (fun t _ => (t.reverse, false))
    [(none, .ev (.text ['a', 'b'] false)), (some .outside, .ev (.text ['a', 'b'] true)),
      (some .outside, .ev (.comment ['a', 'b']))] =
    [(none, .ev (.text ['a', 'b'] false)), (some .outside, .ev (.text ['b', 'a'] false)),
      (some .outside, .ev (.comment ['a', 'b']))] := by decide +kernel

/-- filter(f) for any stream filter `f` that keeps balanced input balanced (`FOk f`): each
    contiguous selection is replaced by `f` of it, marked OUTSIDE — well nested and `Good`. -/
theorem filter_preserves_wellnested (f : List MEv → List MEv) (hf : FOk f) {s : MStream} (hg : Good s)
    (hwn : WellNested (unmark s)) :
    WellNested (unmark (filterGo f .idle [] s)) ∧ Good (filterGo f .idle [] s) :=
  (filter_goodLike hf hg).wn hwn

/--
  For every well-nested stream `s` and every chain `ops` of Transformer
  operations in which, after an `invert()`, a `select()`/`end()` comes before any operation that
  deletes, replaces, wraps, copies or filters contiguous selections (the documented
  precondition, shown necessary by `invert_wrap_breaks_nesting`), whose literal event-stream
  contents are balanced and whose `filter(f)` filters keep balanced input balanced (`FOk f`):
  `transform ops s = some out → WellNested out`.

  By induction over the chain with the invariant "well nested; `Good` — or, after `invert()`, free
  of ENTER/EXIT marks —; every buffer holds balanced content".  The chain may contain any number
  of selects, `end()`, `invert()`, `buffer()`, `copy`, `cut`, wrap, replace, before, after,
  prepend, append, rename, attr, empty, unwrap, remove, map, substitute, filter in any order, and
  may inject strings, event streams and the buffers filled by earlier `copy`/`cut` operations.
  `transform` composes the links of a chain stage-wise; `lazy_agrees_stagewise` below shows that this
  is what the lazily interleaved generators compute for every `stagewise` chain, and
  `lazy_raw_chain_wellnested` is the nesting theorem for the writer-then-reader chains outside it.
-/
theorem chain_wellnested (ops : List Op) (s : Stream) (hs : WellNested s)
    (hadm : Admissible true ops) (hsel : chainSelOk ops [] (markAll s) = true)
    (out : Stream) (h : transform ops s = some out) : WellNested out := by
  simp only [transform, transformMarked, Option.map_eq_some_iff] at h
  obtain ⟨⟨o, b⟩, hr, rfl⟩ := h
  exact runChain_wellnested ops true [] (markAll s) hadm ((MarkInv.markAll hs).chain BufsOk.nil) hsel o b hr

/-- The buffers of `copy` / `cut` on a `Good` stream hold whole selections: balanced content,
    safe to inject later. -/
theorem buffers_balanced (acc : Bool) {s : MStream} (hg : Good s) (buf : List MEv) (hb : BalE buf) :
    BalE (copyBuf acc .idle buf s) ∧ BalE (cutBuf acc .idle buf s) := by
  refine ⟨copyBuf_bal acc hg buf hb, ?_⟩
  rw [cutBuf_eq_copyBuf]; exact copyBuf_bal acc hg buf hb

/-- before / after insert balanced content and nothing else: they keep EVERY marked stream
    balanced the same way (no hypothesis on the marking). -/
theorem before_after_any_stream (c : List MEv) (hc : Bal (evsOf c)) (s : MStream)
    (hwn : WellNested (unmark s)) :
    WellNested (unmark (before c s)) ∧ WellNested (unmark (after c s)) :=
  ⟨wn_of_balance (before_balance_any c hc s) hwn, wn_of_balance (after_balance_any c hc s) hwn⟩

def qn (c : Char) : QName := ⟨[], [c]⟩

/-- non-vacuity: an admissible chain of four operations on a concrete document -/
example : Admissible true [.select [.none, .hit, .none], .prepend (.str ['Z']), .wrap (qn 'w') [] [], .rename (qn 'n')] ∧
    chainSelOk [.select [.none, .hit, .none], .prepend (.str ['Z']), .wrap (qn 'w') [] [], .rename (qn 'n')] []
      (markAll [.start (qn 'r') [], .start (qn 'a') [], .text ['t'] false, .end_ (qn 'a'), .end_ (qn 'r')]) = true ∧
    transform [.select [.none, .hit, .none], .prepend (.str ['Z']), .wrap (qn 'w') [] [], .rename (qn 'n')]
      [.start (qn 'r') [], .start (qn 'a') [], .text ['t'] false, .end_ (qn 'a'), .end_ (qn 'r')] =
    some [.start (qn 'r') [], .start (qn 'w') [], .start (qn 'n') [], .text ['Z'] false, .text ['t'] false,
      .end_ (qn 'n'), .end_ (qn 'w'), .end_ (qn 'r')] := by
  refine ⟨by simp [Admissible, Op.OkGood, Op.next, Content.Ok, Bal.nil], by decide +kernel, by decide +kernel⟩

/-- non-vacuity: a chain that cuts a selection into a buffer and injects it elsewhere,
    `Transformer('b').cut(buf).end().buffer().select('a').append(buf)` on `<r><a/><b/></r>` -/
example :
    Admissible true [.select [.none, .none, .hit, .none], .cut 0 false, .endSel, .buffer,
      .select [.none, .hit, .none, .none], .append (.buf 0)] ∧
    transform [.select [.none, .none, .hit, .none], .cut 0 false, .endSel, .buffer,
      .select [.none, .hit, .none, .none], .append (.buf 0)]
      [.start (qn 'r') [], .start (qn 'a') [], .end_ (qn 'a'), .start (qn 'b') [], .end_ (qn 'b'), .end_ (qn 'r')] =
    some [.start (qn 'r') [], .start (qn 'a') [], .start (qn 'b') [], .end_ (qn 'b'), .end_ (qn 'a'),
      .end_ (qn 'r')] := by
  refine ⟨by simp [Admissible, Op.OkGood, Op.next, Content.Ok], by decide +kernel⟩

/-- The documented precondition is needed: inverting a selection marks the gaps between
    selected elements, which cut through elements; wrapping them is ill nested.
    `<r><a/></r>` | Transformer('a').invert().wrap('w')  =  `<w><r></w><a/><w></r></w>`. -/
theorem invert_wrap_breaks_nesting :
    ∃ out, transform [.select [.none, .hit, .none], .invert, .wrap (qn 'w') [] []]
      [.start (qn 'r') [], .start (qn 'a') [], .end_ (qn 'a'), .end_ (qn 'r')] = some out ∧
      ¬ WellNested out :=
  ⟨[.start (qn 'w') [], .start (qn 'r') [], .end_ (qn 'w'), .start (qn 'a') [], .end_ (qn 'a'),
    .start (qn 'w') [], .end_ (qn 'r'), .end_ (qn 'w')], by decide +kernel, by decide +kernel⟩

/-- Known finding C20-attr-structural: an attribute selection is a zero-width pseudo-event in
    front of its element, so wrap() on it emits an empty wrapper element.
    `<r><a x="1"/></r>` | Transformer('a/@x').wrap('w')  =  `<r><w/><a x="1"/></r>`. -/
theorem attr_wrap_emits_empty_wrapper :
    transform [.select [.none, .attrs [(qn 'x', ['1'])], .none, .none], .wrap (qn 'w') [] []]
      [.start (qn 'r') [], .start (qn 'a') [(qn 'x', ['1'])], .end_ (qn 'a'), .end_ (qn 'r')] =
    some [.start (qn 'r') [], .start (qn 'w') [], .end_ (qn 'w'), .start (qn 'a') [(qn 'x', ['1'])],
      .end_ (qn 'a'), .end_ (qn 'r')] := by decide +kernel

/-- Deriving a transformer leaves every transformer built before — in particular the one it is
    derived from — as it was: a transformer that only selects stays one that only selects. -/
theorem apply_leaves_origin {α : Type} (h : List (List α)) (k : Nat) (x : α) (i : Nat) (hi : i < h.length) :
    (derive h k x)[i]? = h[i]? := by
  simp [derive, List.getElem?_append_left hi]

/-- … and the new transformer is its origin's chain plus the one new link. -/
theorem apply_appends_one_link {α : Type} (h : List (List α)) (k : Nat) (x : α) :
    (derive h k x)[h.length]? = some (h.getD k [] ++ [x]) ∧ (derive h k x).length = h.length + 1 := by
  simp [derive]

/-- Over a whole history of derivations: every snapshot extends the previous one, nothing is ever
    changed (the chains of the first `h.length` objects are `h` in every snapshot). -/
theorem history_keeps_chains {α : Type} : ∀ (ds : List (Nat × α)) (h : List (List α)) (snap : List (List α)),
    snap ∈ history h ds → snap.take h.length = h :=
  fun ds h snap hm => historyD_keeps_chains _ h snap (historyD_one ds h ▸ hm)

example : history [[0]] [(0, 1), (0, 2), (1, 3)] =
    [[[0], [0, 1]], [[0], [0, 1], [0, 2]], [[0], [0, 1], [0, 2], [0, 1, 3]]] := by decide +kernel

/-- Deriving by `t_k.apply(t_j)` leaves every transformer built before — the origin `t_k` and the
    argument `t_j` included — as it was. -/
theorem apply_transformer_leaves_origins {α : Type} (h : List (List α)) (k j i : Nat) (hi : i < h.length) :
    (deriveCat h k j)[i]? = h[i]? := Genshi.Tf.apply_transformer_leaves_origins h k j i hi

/-- … and the new transformer's chain is the origin's chain followed by ALL links of the argument, in
    their order. -/
theorem apply_transformer_concatenates {α : Type} (h : List (List α)) (k j : Nat) :
    (deriveCat h k j)[h.length]? = some (h.getD k [] ++ h.getD j []) ∧
      (deriveCat h k j).length = h.length + 1 := Genshi.Tf.apply_transformer_concatenates h k j

/-- Over a whole history mixing operation methods and `apply(Transformer)`: nothing built before is
    ever changed. -/
theorem history_mixed_keeps_chains {α : Type} (ds : List (DStep α)) (h : List (List α)) (snap : List (List α))
    (hm : snap ∈ historyD h ds) : snap.take h.length = h := historyD_keeps_chains ds h snap hm

/-- The transformer made by `t_k.apply(t_j)` behaves like `t_k` followed by the links of `t_j` applied
    to the MARKED output of `t_k` and the buffers it left. -/
theorem apply_transformer_runs_in_sequence (h : List (List Op)) (k j : Nat) (bufs : Bufs) (s : MStream) :
    ∀ c, (deriveCat h k j)[h.length]? = some c →
      runChain c bufs s = (runChain (h.getD k []) bufs s).bind fun r => runChain (h.getD j []) r.2 r.1 :=
  Genshi.Tf.apply_transformer_runs_in_sequence h k j bufs s

example : historyD [[0]] [.one 0 1, .one 0 2, .cat 1 2] =
    [[[0], [0, 1]], [[0], [0, 1], [0, 2]], [[0], [0, 1], [0, 2], [0, 1, 0, 2]]] := by decide +kernel

/-- attr(name, f) for ANY callable `f(name, event)`: the stream keeps its length and its marks; only an
    ENTER-marked START event changes, and only by the attribute `name` being set to `f`'s value or
    deleted when `f` returns `None`. -/
theorem attr_callable_changes_only_selected (n : QName) (f : QName → AttrList → Option Str) (s : MStream) :
    setAttrFn n f s = s.map (attrFnEv n f) ∧
    (∀ p : MItem, (attrFnEv n f p).1 = p.1) ∧
    (∀ (m : Option Mark) (x : MEv), m ≠ some .enter → attrFnEv n f (m, x) = (m, x)) ∧
    (∀ (m : Option Mark) (x : MEv), (∀ t a, x ≠ .ev (.start t a)) → attrFnEv n f (m, x) = (m, x)) ∧
    (∀ t a, attrFnEv n f (some .enter, .ev (.start t a)) =
        (some .enter, .ev (.start t (match f t a with
          | none => attrsSub a [n]
          | some w => attrsSet a n w)))) := Genshi.Tf.attr_callable_changes_only_selected n f s

example : setAttrFn (qn 'k') (fun t _ => some t.loc)
    [(some .enter, .ev (.start (qn 'a') [])), (some .exit, .ev (.end_ (qn 'a')))] =
    [(some .enter, .ev (.start (qn 'a') [(qn 'k', ['a'])])), (some .exit, .ev (.end_ (qn 'a')))] := by decide +kernel

/-- substitute() and map(f, TEXT) / apply(user function) as driven are instances of `map(f, TEXT)` for a
    function on text data: `map_text_changes_only_selected_text` and `map_text_preserves_wellnested` speak
    about them. -/
theorem substitute_map_are_map_text (p r : Str) (n : Nat) (s : MStream) :
    substitute p r n s = mapText (fun t sf => (subst p r n t, sf)) s ∧
    mapBang false s = mapText (fun t sf => (bang t, sf)) s :=
  ⟨substitute_is_map_text p r n s, map_bang_text_is_map_text s⟩

example : substitute ['a'] ['b'] 0 [(some .outside, .ev (.text ['a', 'x', 'a'] false)), (none, .ev (.text ['a'] false))] =
    [(some .outside, .ev (.text ['b', 'x', 'b'] false)), (none, .ev (.text ['a'] false))] := by decide +kernel

/-- The lazily evaluated chain (`runLazy`: every link a transducer, items pushed through the links
    one at a time, buffers shared and injected from their live content) gives exactly what the
    stage-wise reading `runChain` gives — the same marked stream, the same buffers, failure exactly
    when it fails, for every fuel `F` — for EVERY chain in which, between two `buffer()` barriers,
    no buffer is written twice or read by an injector and written (`stagewise`; the driver decides
    it per chain).  So every theorem about `runChain` / `transform` above is a theorem about the chain
    as the code runs it; the two findings below are exactly the two ways to leave `stagewise`. -/
theorem lazy_agrees_stagewise (F : Nat) (ops : List Op) (b : Bufs) (s : MStream)
    (h : stagewise [] [] ops = true) :
    (runLazy F ops (ofBufs b) s).toOption = (runChain ops b s).map fun r => (r.1, ofBufs r.2) :=
  lazy_agrees F ops b s h

/-- `chain_wellnested` for the chain as the code runs it. -/
theorem lazy_chain_wellnested (F : Nat) (ops : List Op) (s : Stream) (hs : WellNested s)
    (hst : stagewise [] [] ops = true) (hadm : Admissible true ops)
    (hsel : chainSelOk ops [] (markAll s) = true) (out : MStream) (b : BufF)
    (h : runLazy F ops (fun _ => []) (markAll s) = .ok (out, b)) : WellNested (unmark out) := by
  have h0 : ofBufs [] = fun _ => [] := by funext i; simp [ofBufs, Bufs.get]
  have := lazy_agrees F ops [] (markAll s) hst
  rw [h0, h] at this
  obtain ⟨r, hr, he⟩ := Option.map_eq_some_iff.mp this.symm
  cases he
  exact chain_wellnested ops s hs hadm hsel _ (by simp [transform, transformMarked, hr])

/-- non-vacuity: the cut / barrier / append chain of the example above is `stagewise`, and the lazy
    model runs it to the same output -/
example :
    stagewise [] [] [.select [.none, .none, .hit, .none], .cut 0 false, .endSel, .buffer,
      .select [.none, .hit, .none, .none], .append (.buf 0)] = true ∧
    (match runLazy 0 [.select [.none, .none, .hit, .none], .cut 0 false, .endSel, .buffer,
        .select [.none, .hit, .none, .none], .append (.buf 0)] (fun _ => [])
        (markAll [.start (qn 'r') [], .start (qn 'a') [], .end_ (qn 'a'), .start (qn 'b') [], .end_ (qn 'b'),
          .end_ (qn 'r')]) with
      | .ok (o, _) => some (unmark o)
      | _ => none) =
    some [.start (qn 'r') [], .start (qn 'a') [], .start (qn 'b') [], .end_ (qn 'b'), .end_ (qn 'a'),
      .end_ (qn 'r')] := by decide +kernel

/-- Known finding C20-buffer-feedback: `Transformer('a').copy(b).append(b).copy(b, accumulate=True)` on
    `<r><a/></r>` does not terminate — for EVERY fuel the lazy model runs out of it: `append(b)`
    iterates the live event list of `b` while the accumulate-copy after it, in the middle of the
    selection `<a>…</a>`, appends every injected event to `b`. -/
theorem buffer_feedback_diverges (F : Nat) : runLazy F fbOps (fun _ => []) (markAll fbDoc) = .div := by
  -- run the chain up to the END of `<a>`, where `append(b)` injects `b`; there `injLoop_feedback`
  -- (the loop over the live list of `b` runs out of every fuel) decides
  simp only [runLazy, fbOps, segs, runSegs, runSeg, fbDoc, markAll, List.map, initCtl, proBufs, proOf, effs,
    pushList]
  simp [pushItem, stepOp, selStep, copyStep, execActs, seqR, List.headD, MEv.isStart, MEv.isEnd, subDepth,
    startSt, newSel, outs, BufF.set, injLoop_feedback]

def lazyOut (F : Nat) (ops : List Op) (s : Stream) : Option Stream :=
  match runLazy F ops (fun _ => []) (markAll s) with
  | .ok (o, _) => some (unmark o)
  | _ => none

/-- Known finding C20-buffer-two-writers: `Transformer('a').cut(b).end().cut(b, accumulate=True).after(b)`
    on `<r><a/></r>`: the two cuts run interleaved, the first resets `b` under the second, which ends
    up holding `<a></a></r>`; injecting it is ill nested. (The stage-wise reading of the same chain
    is well nested: the interleaving is what breaks it.) -/
theorem buffer_two_writers_ill_nested :
    ∃ out, lazyOut 0 [.select [.none, .hit, .none], .cut 0 false, .endSel, .cut 0 true, .after (.buf 0)]
      [.start (qn 'r') [], .start (qn 'a') [], .end_ (qn 'a'), .end_ (qn 'r')] = some out ∧ ¬ WellNested out :=
  ⟨[.start (qn 'a') [], .end_ (qn 'a'), .end_ (qn 'r')], by decide +kernel, by decide +kernel⟩

/-! ## the lazily evaluated chain, link by link (`Model/TfTrace.lean`)

  Writer-then-reader chains without a barrier (`copy(b) … after(b)`: the documented usage) are not
  `stagewise`: the reader sees the buffer as it is at the moment of the injection, not its final
  content.  Their compositional reading is the trace semantics: what travels from one link to the
  next is the list of items yielded INTERLEAVED with the buffer effects in the order of time. -/

/-- The lazily evaluated chain (`runLazy`, the push pipeline, any fuel) equals its link-by-link
    reading `runTrace` — same marked stream, same buffers, failure exactly when it fails — for EVERY
    chain in which, between two `buffer()` barriers, no link writes a buffer that it or a link before
    it reads (`lazyRaw`: reads come after writes; this contains every `stagewise` chain and every
    writer-then-reader chain, and excludes the feedback finding and a reader in front of its writer). -/
theorem lazy_trace_semantics (F : Nat) (ops : List Op) (b : BufF) (s : MStream) (h : lazyRaw ops = true) :
    (runLazy F ops b s).toOption = runTrace ops b s := lazy_trace F ops b s h

/-- non-vacuity: `Transformer('a').copy(b).after(b)` on `<r><a/></r>` is not `stagewise`, reads come
    after writes, and the trace semantics gives `<r><a/><a/></r>` (the copy of THIS selection). -/
example :
    stagewise [] [] [.select [.none, .hit, .none], .copy 0 false, .after (.buf 0)] = false ∧
    lazyRaw [.select [.none, .hit, .none], .copy 0 false, .after (.buf 0)] = true ∧
    (runTrace [.select [.none, .hit, .none], .copy 0 false, .after (.buf 0)] (fun _ => [])
        (markAll [.start (qn 'r') [], .start (qn 'a') [], .end_ (qn 'a'), .end_ (qn 'r')])).map (fun r => unmark r.1) =
      some [.start (qn 'r') [], .start (qn 'a') [], .end_ (qn 'a'), .start (qn 'a') [], .end_ (qn 'a'),
        .end_ (qn 'r')] := by decide +kernel

/--
  `chain_wellnested` for writer-then-reader chains without a barrier (lazily read buffers).

  Invariant, link by link over the trace semantics (`Lemmas/TfTraceInv.lean`, `link_inv`): "well nested;
  `Good` — or, after `invert()`, free of ENTER/EXIT marks —; every buffer holds balanced content
  whenever an item is yielded" (`BalAt`), hence at every injection point.

  Hypotheses: `Admissible true ops` — exactly the hypothesis of `chain_wellnested` (the documented
  precondition after `invert()`, balanced literal contents, `FOk` filters); `OneWriter [] ops` — between
  two `buffer()` barriers a buffer has at most one writer (the negation is finding
  C20-buffer-two-writers); `lazyRaw ops` — no link writes a buffer it or an earlier link of the segment
  reads (the negation is finding C20-buffer-feedback, or a reader in front of its writer);
  `traceSelOk` — the recorded `Path.test()` results fit (re-checked by the driver on every run, like
  `chainSelOk`).  Every `stagewise` chain satisfies the two buffer hypotheses.
-/
theorem trace_chain_wellnested (ops : List Op) (s : Stream) (hs : WellNested s)
    (hadm : Admissible true ops) (hone : OneWriter [] ops)
    (hsel : traceSelOk (segs ops) (fun _ => []) (markAll s) = true)
    (out : MStream) (b : BufF) (h : runTrace ops (fun _ => []) (markAll s) = some (out, b)) :
    WellNested (unmark out) :=
  Genshi.Tf.trace_chain_wellnested ops s hs (admSegs_admissible ops hadm hone) hsel out b h

/-- … for the chain as the code runs it (the push pipeline, any fuel). -/
theorem lazy_raw_chain_wellnested (F : Nat) (ops : List Op) (s : Stream) (hs : WellNested s)
    (hraw : lazyRaw ops = true) (hadm : Admissible true ops) (hone : OneWriter [] ops)
    (hsel : traceSelOk (segs ops) (fun _ => []) (markAll s) = true)
    (out : MStream) (b : BufF) (h : runLazy F ops (fun _ => []) (markAll s) = .ok (out, b)) :
    WellNested (unmark out) := by
  have ht := lazy_trace F ops (fun _ => []) (markAll s) hraw
  rw [h] at ht
  exact trace_chain_wellnested ops s hs hadm hone hsel out b ht.symm

/-- Every `stagewise` chain satisfies both buffer hypotheses of `lazy_raw_chain_wellnested` (reads after
    writes, one writer between two barriers).  The two nesting theorems still ask for the recorded
    `Path.test()` results in different forms (`traceSelOk` there, `chainSelOk` in `lazy_chain_wellnested`). -/
theorem stagewise_in_lazy_class (ops : List Op) (h : stagewise [] [] ops = true) :
    lazyRaw ops = true ∧ OneWriter [] ops := Genshi.Tf.stagewise_in_lazy_class ops h

/-- non-vacuity: `Transformer('a').copy(b).after(b)`, the documented
    `Transformer('a').copy(b).end().select('c').prepend(b)` (no `buffer()` barrier), and a buffer read
    lazily after `invert()` are inside the hypotheses; the second one on `<r><a/><c/></r>` gives
    `<r><a/><c><a/></c></r>`. -/
example :
    (Admissible true [.select [.none, .hit, .none], .copy 0 false, .after (.buf 0)] ∧
      OneWriter [] [.select [.none, .hit, .none], .copy 0 false, .after (.buf 0)]) ∧
    (Admissible true [.select [.none, .hit, .none], .cut 0 true, .invert, .before (.buf 0)] ∧
      OneWriter [] [.select [.none, .hit, .none], .cut 0 true, .invert, .before (.buf 0)]) ∧
    (Admissible true [.select [.none, .hit, .none, .none], .copy 0 false, .endSel,
        .select [.none, .none, .none, .hit, .none, .none], .prepend (.buf 0)] ∧
      OneWriter [] [.select [.none, .hit, .none, .none], .copy 0 false, .endSel,
        .select [.none, .none, .none, .hit, .none, .none], .prepend (.buf 0)]) ∧
    lazyRaw [.select [.none, .hit, .none, .none], .copy 0 false, .endSel,
      .select [.none, .none, .none, .hit, .none, .none], .prepend (.buf 0)] = true ∧
    traceSelOk (segs [.select [.none, .hit, .none, .none], .copy 0 false, .endSel,
      .select [.none, .none, .none, .hit, .none, .none], .prepend (.buf 0)]) (fun _ => [])
      (markAll [.start (qn 'r') [], .start (qn 'a') [], .end_ (qn 'a'), .start (qn 'c') [], .end_ (qn 'c'),
        .end_ (qn 'r')]) = true ∧
    lazyOut 0 [.select [.none, .hit, .none, .none], .copy 0 false, .endSel,
      .select [.none, .none, .none, .hit, .none, .none], .prepend (.buf 0)]
      [.start (qn 'r') [], .start (qn 'a') [], .end_ (qn 'a'), .start (qn 'c') [], .end_ (qn 'c'), .end_ (qn 'r')] =
    some [.start (qn 'r') [], .start (qn 'a') [], .end_ (qn 'a'), .start (qn 'c') [], .start (qn 'a') [],
      .end_ (qn 'a'), .end_ (qn 'c'), .end_ (qn 'r')] := by
  refine ⟨?_, ?_, ?_, by decide +kernel, by decide +kernel, by decide +kernel⟩
  · simp [Admissible, Op.OkGood, Op.next, Content.Ok, OneWriter, wrOp]
  · simp [Admissible, Op.OkGood, Op.OkDirty, Op.next, Content.Ok, OneWriter, wrOp]
  · simp [Admissible, Op.OkGood, Op.next, Content.Ok, OneWriter, wrOp]

/-- What a lazily read buffer holds at an injection: `Transformer('r/text()|b/text()').copy(b).after(b)` on
    `<r>t<b>u</b></r>` puts a copy of EACH selection behind it (`t t`, `u u`) — the reader runs interleaved
    with the writer — whereas the stage-wise reading of the same chain would inject the final content of
    the buffer (`t u`, `u u`): the chain is not `stagewise`, the trace semantics is its compositional reading. -/
theorem lazy_reader_injects_current_selection :
    lazyOut 0 [.select [.none, .hit, .none, .hit, .none, .none], .copy 0 false, .after (.buf 0)]
      [.start (qn 'r') [], .text ['t'] false, .start (qn 'b') [], .text ['u'] false, .end_ (qn 'b'), .end_ (qn 'r')] =
      some [.start (qn 'r') [], .text ['t'] false, .text ['t'] false, .start (qn 'b') [], .text ['u'] false,
        .text ['u'] false, .end_ (qn 'b'), .end_ (qn 'r')] ∧
    transform [.select [.none, .hit, .none, .hit, .none, .none], .copy 0 false, .after (.buf 0)]
      [.start (qn 'r') [], .text ['t'] false, .start (qn 'b') [], .text ['u'] false, .end_ (qn 'b'), .end_ (qn 'r')] =
      some [.start (qn 'r') [], .text ['t'] false, .text ['u'] false, .start (qn 'b') [], .text ['u'] false,
        .text ['u'] false, .end_ (qn 'b'), .end_ (qn 'r')] := by decide +kernel

/-- … with one quirk (bug-compatible, tied by the stream `chains-lazy`): a selection that is DIRECTLY followed
    by another selection is closed only when the first item of the following one arrives, and the writer hands
    that item on after it has copied the whole following selection — so `after(b)` injects the FOLLOWING
    selection there.  `<r>t<a/></r>`, text and element selected: `t` is followed by `<a/>`, not by `t`. -/
theorem lazy_after_adjacent_selections :
    lazyOut 0 [.select [.none, .hit, .hit, .none], .copy 0 false, .after (.buf 0)]
      [.start (qn 'r') [], .text ['t'] false, .start (qn 'a') [], .end_ (qn 'a'), .end_ (qn 'r')] =
      some [.start (qn 'r') [], .text ['t'] false, .start (qn 'a') [], .end_ (qn 'a'), .start (qn 'a') [],
        .end_ (qn 'a'), .start (qn 'a') [], .end_ (qn 'a'), .end_ (qn 'r')] := by decide +kernel

/-! ## the other built-in stream filters: well-nestedness theorems of their owners, re-used

  One obligation per filter the property names: the Transformer (`chain_wellnested`,
  `lazy_chain_wellnested`), the HTMLFormFiller (`filler_wellnested_partial`, `filler_confined_partial`), the
  sanitizer and the translation filter below, and the serializers' internal filters (EmptyTagFilter,
  WhitespaceFilter, DocTypeInserter: full; NamespaceFlattener: full on C02's model of it, `_partial` on
  C08/C09's) further down. -/

/-- HTMLSanitizer (owner: C06, `Genshi.San.wellNested_sanitize`). -/
theorem sanitizer_wellnested {cfg : Genshi.San.Cfg} {s o : Stream} (hs : WellNested s)
    (h : Genshi.San.sanitize cfg s = .ok o) : WellNested o := Genshi.San.wellNested_sanitize hs h

/-- Translator (owner: C19, `Genshi.I18n.trList_nodes`: the pass is a tree homomorphism): on the
    flattening of any forest, for every catalogue, context and flags, the START/END skeleton of the
    output is well nested. -/
theorem translator_wellnested (cfg : Genshi.I18n.Cfg) (cat : Genshi.I18n.Catalog) (ctx : Genshi.I18n.Ctx)
    (tt ta : Bool) (ns : List Genshi.I18n.TNode) (h : Genshi.I18n.okNodes ns = true) :
    WellNested (Genshi.I18n.tTags (Genshi.I18n.flattenNodes ns)) ∧
    WellNested (Genshi.I18n.tTags (Genshi.I18n.trList cfg cat ctx tt ta 0 (Genshi.I18n.flattenNodes ns))) :=
  Genshi.I18n.translate_wellNested cfg cat ctx tt ta ns h

/-! ### the serializers' internal filters, over the shared `Event` vocabulary

  `Genshi.Output` models them on its own event types (`QEv` before, `FEv` after the namespace
  flattener; `EMPTY` is a kind of its own).  `toStreamQ` / `toStreamF` (`Lemmas/TfSerial.lean`) read
  such a stream back as a `Stream` of the shared vocabulary — an `EMPTY` event is a START followed by
  its END, a flattened name `n` is the `QName` without namespace — so that `WellNested` / `balance`
  speak about them. -/

open Genshi.Output Genshi.Tf.Serial in
/-- EmptyTagFilter: every well-nested stream (not only a flattened forest) comes out well nested;
    more precisely the output has the balance of the input. -/
theorem emptytag_wellnested (s : Stream) (h : WellNested s) :
    WellNested (toStreamQ (emptyTag none s)) ∧ balance [] (toStreamQ (emptyTag none s)) = balance [] s :=
  ⟨Genshi.Tf.Serial.emptytag_wellnested s h, emptytag_balance_eq s h⟩

open Genshi.Output Genshi.Tf.Serial in
/-- WhitespaceFilter, for every normalisation function, configuration, state and input: every event
    that is not a TEXT event is passed on unchanged and in order, so the balance is that of the input. -/
theorem whitespace_filter_wellnested (norm : Bool → Str → Str) (cfg : WsCfg) (st : WsSt) (es : List QEv) :
    (WellNested (toStreamQ (wsFilterG norm cfg st es)) ↔ WellNested (toStreamQ es)) ∧
    (wsFilterG norm cfg st es).filter notText = es.filter notText :=
  ⟨Genshi.Tf.Serial.whitespace_filter_wellnested norm cfg st es, whitespace_filter_skeleton norm cfg es st⟩

open Genshi.Output Genshi.Tf.Serial in
/-- DocTypeInserter inserts one DOCTYPE event and nothing else. -/
theorem doctype_inserter_wellnested (d : Str × Option Str × Option Str) (es : List FEv) :
    WellNested (toStreamF (docTypeInsert d es)) ↔ WellNested (toStreamF es) :=
  wellNested_congr (doctype_inserter_balance d es [])

open Genshi.Tf.Serial in
/-- NamespaceFlattener, full strength, on C02's total model of the filter (`Genshi.Xml.flatten`,
    `Model/XmlFlatten.lean`: genshi/output.py after the repair "NamespaceFlattener keeps track of which
    prefix is bound to which URI"; any prefix table, any number of namespaces, START_NS / END_NS events
    anywhere): the name written for an END is the name written for its START (the filter keeps the open
    elements on a stack), so every well-nested stream comes out well nested — alone, and behind the
    EmptyTagFilter on every well-nested stream of the shared vocabulary. -/
theorem ns_flattener_wellnested (pref : List (Str × Str)) :
    (∀ s : List Genshi.Xml.XEv, WellNested (toStreamX s) → WellNested (toStreamXF (Genshi.Xml.flatten pref s))) ∧
    (∀ s : Stream, WellNested s → WellNested (toStreamXF (Genshi.Xml.flatten pref (Genshi.Xml.emptyTag s)))) :=
  ⟨fun s h => Genshi.Tf.Serial.ns_flattener_wellnested pref s h,
   fun s h => emptytag_ns_flattener_wellnested pref s h⟩

open Genshi.Output Genshi.Tf.Serial in
/--
  The same for C08/C09's model of the filter chain (`Genshi.Output.filtered`, whose flattener
  `Output.flatten` is defined on a "lite" domain only and answers `none` elsewhere).  Full statement:
  `WellNested s → filtered m o s = some out → WellNested (toStreamF out)` for every stream.  Proved
  (`_partial`): on the domains of the owners' theorems (`filtered_forest`: flattenings of namespace-free
  forests; `filtered_forestU`: all elements in one namespace `u`; no cache, no whitespace filter, no
  doctype option) the chain EmptyTagFilter → NamespaceFlattener DELIVERS an output, and it is well nested.
  Missing: the other streams of the lite domain (explicit START_NS('', u) events) and `cache = true`.
-/
theorem ns_flattener_wellnested_ns_partial (m : Method) (dropd : Bool) (u : Str) (hu : u ≠ xmlNs)
    (ns : List Node) (hok : okList ns = true) (hns : forestUniformNs u ns = true) :
    ∃ out, filtered m { strip := false, cache := false, doctype := none, dropXmlDecl := dropd }
        (flattenList ns) = some out ∧ WellNested (toStreamF out) :=
  ns_flattener_wellnested_partialU m dropd u hu ns hok hns

open Genshi.Output Genshi.Tf.Serial in
/-- the namespace-free forests: all elements in the namespace `[]` -/
theorem ns_flattener_wellnested_partial (m : Method) (dropd : Bool) (ns : List Node)
    (hok : okList ns = true) (hns : forestNsFree ns = true) :
    ∃ out, filtered m { strip := false, cache := false, doctype := none, dropXmlDecl := dropd }
        (flattenList ns) = some out ∧ WellNested (toStreamF out) :=
  ns_flattener_wellnested_ns_partial m dropd [] (by decide) ns hok (uniformNs_nil.2 ns hns)

open Genshi.Output Genshi.Tf.Serial in
/-- non-vacuity: `<a>x<b k="v"/><c><b>y</b></c></a>` through the EmptyTagFilter (one EMPTY event) -/
example :
    let s : Stream := [.start (qn 'a') [], .text ['x'] false, .start (qn 'b') [(qn 'k', ['v'])], .end_ (qn 'b'),
      .start (qn 'c') [], .start (qn 'b') [], .text ['y'] false, .end_ (qn 'b'), .end_ (qn 'c'), .end_ (qn 'a')]
    WellNested s ∧ (emptyTag none s).contains (.empty (qn 'b') [(qn 'k', ['v'])]) = true ∧
    WellNested (toStreamQ (emptyTag none s)) := by decide +kernel

open Genshi.Fill

/--
  Full statement: the form filler changes nothing but value/checked/selected attributes and
  textarea content of controls named in its data.
  Proved (`_partial`, hypothesis `optText`: every START of an `option` is followed by TEXT events
  only and then the END of an option — known finding C20-option-children is its negation):
  erase `value`/`checked`/`selected` attributes and TEXT events on both sides and the streams are
  equal — every other event, every other attribute and the order are unchanged.  That the
  attribute changes are confined to controls named in the data is `filler_confined_partial` below.
-/
theorem filler_only_value_attrs_partial (c : Cfg) (s out : Stream) (hopt : optText false s = true)
    (h : fill c s = some out) : norm false out = norm false s := fill_norm c false s out hopt nofun h

/-- … and where no textarea element is named in the data, TEXT events are unchanged too: the
    only text the filler ever changes is the content of textareas named in its data. -/
theorem filler_no_text_change_partial (c : Cfg) (s out : Stream) (hopt : optText false s = true)
    (hta : ∀ tag a, Event.start tag a ∈ s → tag.loc = sTextarea → (aget a sName).bind c.lookup = none)
    (h : fill c s = some out) :
    norm true out = norm true s :=
  fill_norm c true s out hopt (fun _ => hta) h

/-- The form filler maps a well-nested stream to a well-nested stream (same hypothesis). -/
theorem filler_wellnested_partial (c : Cfg) (s out : Stream) (hopt : optText false s = true)
    (hwn : WellNested s) (h : fill c s = some out) : WellNested out :=
  (balance_norm out []).symm.trans ((fill_norm c false s out hopt nofun h ▸ balance_norm s []).trans hwn)

/-- Fills what it is given, text-like inputs: an input of type text / hidden / none (or
    password when asked) whose name has a value in the data comes out with `value` = that value
    (a value `None` — or an empty list — is "nothing given": `firstOf`).  Every `input` START
    inside the selected form is passed through `inputAttrs` (`filler_confined_partial`). -/
theorem filler_fills_given (c : Cfg) (a : AttrList) (name : Str) (value : Val) (v : Scalar)
    (ht : inputType a = [] ∨ inputType a = sHidden ∨ inputType a = sText ∨
      (inputType a = sPassword ∧ c.passwords = true))
    (hn : aget a sName = some name) (hne : name.isEmpty = false) (hl : c.lookup name = some value)
    (hf : firstOf value = some v) :
    aget (inputAttrs c a) sValue = some v.text ∧ normAttrs (inputAttrs c a) = normAttrs a :=
  ⟨inputAttrs_value c a name value v ht hn hne hl hf, normAttrs_inputAttrs c a⟩

/-- Checkboxes and radio buttons named in the data are checked exactly when the data says so
    (declared value among the given values; without a declared value: truthiness, checkboxes only). -/
theorem filler_checks_given (c : Cfg) (a : AttrList) (name : Str) (value : Val)
    (ht : inputType a = sCheckbox ∨ inputType a = sRadio)
    (hn : aget a sName = some name) (hne : name.isEmpty = false) (hl : c.lookup name = some value) :
    ahas (inputAttrs c a) sChecked = isChecked (inputType a = sCheckbox) (aget a sValue) value :=
  inputAttrs_checked c a name value ht hn hne hl

/-- At the END of an option inside a select named in the data, the held-back START is emitted
    with `selected` present exactly when the option's value (attribute or text) is among the
    given values. -/
theorem filler_selects_given (c : Cfg) (st : St) (tag ot : QName) (oa : AttrList)
    (hF : st.inForm = true) (hS : st.inSelect = true) (ht : tag.loc = sOption)
    (hp : st.optionStart = some (ot, oa)) :
    ∃ oa', (step c st (.end_ tag)).map (·.2) = some (.start ot oa' :: (st.optionText ++ [.end_ tag])) ∧
      ahas oa' sSelected = isSelected st.optionValue st.selectValue ∧ normAttrs oa' = normAttrs oa := by
  rw [step_endOption c st tag ot oa hF hS ht hp]
  exact ⟨_, rfl, ahas_flag oa sSelected _, normAttrs_flag oa sSelected _ special_selected⟩

/-- At the END of a textarea named in the data the given value is written as its text
    (state level; the stream-level statement is `filler_confined_partial` + `filler_fills_textarea`). -/
theorem filler_textarea_end_writes_value (c : Cfg) (st : St) (tag : QName) (v : Scalar)
    (hF : st.inForm = true) (hT : st.inTextarea = true) (ht : tag.loc = sTextarea)
    (hS : st.inSelect = false) (hv : st.textareaValue = some v) (hne : v.text.isEmpty = false) :
    (step c st (.end_ tag)).map (·.2) = some [.text v.text false, .end_ tag] := by
  simp only [step, hF, hS, hT, ht, sTextarea_ne_sForm, sTextarea_ne_sSelect, ↓reduceIte, Bool.false_and, Bool.false_eq_true, Bool.true_and,
    decide_true, hv, hne]
  rfl

/-- Passwords are never filled unless asked: with `passwords = False` the START event of a
    password input passes unchanged, in every state of the filter. -/
theorem filler_no_passwords (c : Cfg) (a : AttrList) (hp : c.passwords = false)
    (ht : inputType a = sPassword) : inputAttrs c a = a := inputAttrs_password c a ht hp

/-- Controls that are not named in the data are left alone: an input whose name has no entry
    in the data (or that has no name) passes unchanged. -/
theorem filler_unnamed_unchanged (c : Cfg) (a : AttrList)
    (h : ∀ n, aget a sName = some n → c.lookup n = none) : inputAttrs c a = a :=
  inputAttrs_unnamed c a h

/-- Confinement to the controls named in the data, stream level: when no input, select or
    textarea of the stream has a name with an entry in the data, the filler is the identity
    (`filler_empty_id` is the special case of empty data). -/
theorem filler_unnamed_id (c : Cfg) (s : Stream) (h : Unnamed c s) : fill c s = some s :=
  fillGo_unnamed s h {} rfl rfl

/-- For empty data the form filler is the identity (for every stream, well nested or not,
    whatever `name` / `id` / `passwords`). -/
theorem filler_empty_id (c : Cfg) (h : c.data = []) (s : Stream) : fill c s = some s :=
  filler_unnamed_id c s fun _ _ _ n _ => by simp [Cfg.lookup, h]

/-- What the filler does with a START event, in every state: it holds it back (an option inside
    a select named in the data), passes it unchanged, or — for an `input` element only — passes it
    with `inputAttrs`, which is the identity unless the input is named in the data
    (`filler_unnamed_unchanged`). No other START event is ever altered. -/
theorem filler_start_events (c : Cfg) (st st' : St) (tag : QName) (a : AttrList) (o : Stream)
    (h : step c st (.start tag a) = some (st', o)) :
    (o = [] ∧ st.inSelect = true ∧ tag.loc = sOption) ∨ o = [.start tag a] ∨
    (tag.loc = sInput ∧ o = [.start tag (inputAttrs c a)]) := by
  have hs := step_spec c st (.start tag a)
  rw [h] at hs
  cases hs with
  | input _ _ hi => exact Or.inr (Or.inr ⟨hi, rfl⟩)
  | holdStart _ _ _ hS ht => exact Or.inl ⟨rfl, hS, ht⟩
  | _ => exact Or.inr (Or.inl rfl)

/-- … and with a TEXT event: it passes unchanged, is held back with the option it belongs to
    (and re-emitted at the END of the option, `filler_selects_given`), or is dropped — the latter
    only inside a textarea named in the data (`inTextarea` is set by nothing else). -/
theorem filler_text_events (c : Cfg) (st st' : St) (t : Str) (f : Bool) (o : Stream)
    (h : step c st (.text t f) = some (st', o)) :
    o = [.text t f] ∨
    (o = [] ∧ st.inSelect = true ∧ st.inOption = true ∧ st'.optionText = st.optionText ++ [.text t f]) ∨
    (o = [] ∧ st.inTextarea = true ∧ st' = st) := by
  have hs := step_spec c st (.text t f)
  rw [h] at hs
  cases hs with
  | pass => exact Or.inl rfl
  | holdText _ _ hS hO => exact Or.inr (Or.inl ⟨rfl, hS, hO, rfl⟩)
  | dropText _ _ hT => exact Or.inr (Or.inr ⟨rfl, hT, rfl⟩)

/-- Known finding C20-option-children (negation of `optText`): child elements of an option are
    moved in front of it.  `<form><select name="s"><option><b>x</b>y</option></select></form>`
    with data `{'s': 'xy'}` gives `…<b></b><option selected="selected">xy</option>…`. -/
theorem filler_option_children_moved :
    fill ⟨none, none, [(['s'], .one ⟨['x', 'y'], true, false⟩)], false⟩
      [.start ⟨[], sForm⟩ [], .start ⟨[], sSelect⟩ [(⟨[], sName⟩, ['s'])], .start ⟨[], sOption⟩ [],
       .start ⟨[], ['b']⟩ [], .text ['x'] false, .end_ ⟨[], ['b']⟩, .text ['y'] false,
       .end_ ⟨[], sOption⟩, .end_ ⟨[], sSelect⟩, .end_ ⟨[], sForm⟩] =
    some [.start ⟨[], sForm⟩ [], .start ⟨[], sSelect⟩ [(⟨[], sName⟩, ['s'])],
       .start ⟨[], ['b']⟩ [], .end_ ⟨[], ['b']⟩,
       .start ⟨[], sOption⟩ [(⟨[], sSelected⟩, sSelected)], .text ['x'] false, .text ['y'] false,
       .end_ ⟨[], sOption⟩, .end_ ⟨[], sSelect⟩, .end_ ⟨[], sForm⟩] := by decide +kernel

/-- Known finding C20-textarea-none: `{'t': None}` erases the content of the textarea. -/
theorem filler_textarea_none_erased :
    fill ⟨none, none, [(['t'], .one ⟨['N', 'o', 'n', 'e'], false, true⟩)], false⟩
      [.start ⟨[], sForm⟩ [], .start ⟨[], sTextarea⟩ [(⟨[], sName⟩, ['t'])], .text ['o', 'l', 'd'] false,
       .end_ ⟨[], sTextarea⟩, .end_ ⟨[], sForm⟩] =
    some [.start ⟨[], sForm⟩ [], .start ⟨[], sTextarea⟩ [(⟨[], sName⟩, ['t'])],
       .end_ ⟨[], sTextarea⟩, .end_ ⟨[], sForm⟩] := by decide +kernel

/--
  Full statement: on every well-nested stream the form filler changes nothing but value / checked /
  selected attributes and textarea content of controls named in its data, and fills what it is given.

  `fillSpec` (`Model/TfFillSpec.lean`) is that sentence as a function on forests: it walks the
  tree with the context "inside the selected form / below a select named in the data" and rewrites
  exactly three things — the attributes of an `input` in the form (`inputAttrs`: `filler_input_confined`,
  `filler_fills_given`, `filler_checks_given`, `filler_no_passwords`, `filler_unnamed_unchanged`), the
  attributes of an `option` below a select named in the data (`optionAttrs`: `filler_option_confined`)
  and the children of a `textarea` named in the data (`textareaKids`: `filler_fills_textarea`).
  Proved: the state machine of the code computes `fillSpec` on every forest in `okForest`, i.e. on
  every forest outside the recorded findings:
    * C20-option-children — an option below a select named in the data holds something else than text;
    * C20-nested-controls — a form inside the selected form, a select inside a select named in the
      data, an element inside a textarea named in the data (the code keeps flags, not depths:
      witness `filler_nested_form_unfilled`).
  (C20-textarea-none is inside the domain: `fillSpec` is bug-compatible there, `textareaKids` writes
  nothing for `None`; `filler_fills_textarea` is about values that are given.)
-/
theorem filler_confined_partial (c : Cfg) (ns : List Node) (hok : okForest c ns = true) :
    fill c (flattenList ns) = some (flattenList (fillSpec c ns)) := fill_spec c ns hok

/-- … and every well-nested stream is such a flattening: `parse` reads it back into a forest. -/
theorem filler_confined_stream_partial (c : Cfg) (s : Stream) (hwn : WellNested s) :
    ∃ ns, parse s = some ns ∧ flattenList ns = s ∧
      (okForest c ns = true → fill c s = some (flattenList (fillSpec c ns))) := by
  obtain ⟨ns, hp, hf, _⟩ := parse_wellNested s hwn
  exact ⟨ns, hp, hf, fun hok => by rw [← hf]; exact fill_spec c ns hok⟩

/-- What `inputAttrs` may do to an input: nothing; or — the input is named in the data — change
    `checked` only (checkbox / radio) or `value` only (other types; a password only when asked). -/
theorem filler_input_confined (c : Cfg) (a : AttrList) :
    inputAttrs c a = a ∨
    (∃ name value, aget a sName = some name ∧ c.lookup name = some value ∧
      ((inputType a = sCheckbox ∨ inputType a = sRadio) ∧ adel (inputAttrs c a) sChecked = adel a sChecked ∨
       ¬ (inputType a = sPassword ∧ c.passwords = false) ∧ ¬ (inputType a = sCheckbox ∨ inputType a = sRadio) ∧
         adel (inputAttrs c a) sValue = adel a sValue)) := inputAttrs_confined c a

/-- What `optionAttrs` does to an option below a select named in the data (value `v`, a scalar or
    a list): nothing but `selected` changes, and it is present exactly when the option's value — its
    `value` attribute, else its text — is (among) the given value(s). -/
theorem filler_option_confined (v : Val) (a : AttrList) (ks : List Node) :
    adel (optionAttrs v a ks) sSelected = adel a sSelected ∧
    ahas (optionAttrs v a ks) sSelected = isSelected (optionVal a ks) (some v) :=
  ⟨optionAttrs_confined v a ks, optionAttrs_selected v a ks⟩

/-- What `textareaKids` does to a textarea named in the data with a given value: its text is
    the value, its other children are unchanged. -/
theorem filler_fills_textarea (v : Val) (x : Scalar) (ks : List Node) (hf : firstOf v = some x) :
    textOf (textareaKids v ks) = x.text ∧
    (textareaKids v ks).filter (fun k => !isTextLeaf k) = ks.filter (fun k => !isTextLeaf k) :=
  textareaKids_spec v x ks hf

/-- non-vacuity: a form with a select (two values given), a checkbox and a textarea -/
example :
    let c : Cfg := ⟨none, none, [(['s'], .many [⟨['1'], true, false⟩, ⟨['x'], true, false⟩]),
      (['t'], .one ⟨['v'], true, false⟩), (['k'], .one ⟨['o', 'n'], true, false⟩)], false⟩
    let ns : List Node := [.elem ⟨[], sForm⟩ [] [
      .elem ⟨[], sSelect⟩ [(⟨[], sName⟩, ['s'])] [
        .elem ⟨[], sOption⟩ [(⟨[], sValue⟩, ['1'])] [.leaf (.text ['a'] false)],
        .elem ⟨[], sOption⟩ [(⟨[], sSelected⟩, sSelected)] [.leaf (.text ['y'] false)],
        .elem ⟨[], sOption⟩ [] [.leaf (.text ['x'] false)]],
      .elem ⟨[], sInput⟩ [(⟨[], sType⟩, sCheckbox), (⟨[], sName⟩, ['k'])] [],
      .elem ⟨[], sTextarea⟩ [(⟨[], sName⟩, ['t'])] [.leaf (.text ['o', 'l', 'd'] false)]]]
    okForest c ns = true ∧
    flattenList (fillSpec c ns) = flattenList [.elem ⟨[], sForm⟩ [] [
      .elem ⟨[], sSelect⟩ [(⟨[], sName⟩, ['s'])] [
        .elem ⟨[], sOption⟩ [(⟨[], sValue⟩, ['1']), (⟨[], sSelected⟩, sSelected)] [.leaf (.text ['a'] false)],
        .elem ⟨[], sOption⟩ [] [.leaf (.text ['y'] false)],
        .elem ⟨[], sOption⟩ [(⟨[], sSelected⟩, sSelected)] [.leaf (.text ['x'] false)]],
      .elem ⟨[], sInput⟩ [(⟨[], sType⟩, sCheckbox), (⟨[], sName⟩, ['k']), (⟨[], sChecked⟩, sChecked)] [],
      .elem ⟨[], sTextarea⟩ [(⟨[], sName⟩, ['t'])] [.leaf (.text ['v'] false)]]] := by decide +kernel

/-- Known finding C20-nested-controls (outside `okForest`): the filler keeps flags, not depths.
    `<form><form></form><input name="n"/></form>` with data `{'n': 'v'}`: the END of the inner form
    ends the processing of the outer one, the input named in the data is not filled. -/
theorem filler_nested_form_unfilled :
    let c : Cfg := ⟨none, none, [(['n'], .one ⟨['v'], true, false⟩)], false⟩
    let ns : List Node := [.elem ⟨[], sForm⟩ [] [.elem ⟨[], sForm⟩ [] [],
      .elem ⟨[], sInput⟩ [(⟨[], sName⟩, ['n'])] []]]
    fill c (flattenList ns) = some (flattenList ns) ∧ okForest c ns = false ∧
    flattenList (fillSpec c ns) = [.start ⟨[], sForm⟩ [], .start ⟨[], sForm⟩ [], .end_ ⟨[], sForm⟩,
      .start ⟨[], sInput⟩ [(⟨[], sName⟩, ['n']), (⟨[], sValue⟩, ['v'])], .end_ ⟨[], sInput⟩,
      .end_ ⟨[], sForm⟩] := by decide +kernel

/-- non-vacuity of the filler theorems: a form with a text input, data for it -/
example : optText false [.start ⟨[], sForm⟩ [], .start ⟨[], sInput⟩ [(⟨[], sName⟩, ['n'])],
      .end_ ⟨[], sInput⟩, .end_ ⟨[], sForm⟩] = true ∧
    fill ⟨none, none, [(['n'], .one ⟨['v'], true, false⟩)], false⟩
      [.start ⟨[], sForm⟩ [], .start ⟨[], sInput⟩ [(⟨[], sName⟩, ['n'])], .end_ ⟨[], sInput⟩, .end_ ⟨[], sForm⟩] =
    some [.start ⟨[], sForm⟩ [], .start ⟨[], sInput⟩ [(⟨[], sName⟩, ['n']), (⟨[], sValue⟩, ['v'])],
      .end_ ⟨[], sInput⟩, .end_ ⟨[], sForm⟩] := by decide +kernel

end Genshi.Props.C20
